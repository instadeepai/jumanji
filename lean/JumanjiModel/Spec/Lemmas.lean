/- Lemmas about the model of specs.py: what `validate` accepts, as a proposition (`valid_iff`; `valid_iff_of_WF0` with the
   bounds of a well-formed leaf, `bounds_of_WF0`); `generate_value()` is accepted; `==` compares the attributes
   `Leaf.obs` (`beq_iff`); `replace` (`replace_eq_some`, `replace_only_named`); the pickle round trip; the gym space
   of a leaf (`toGym_member`); the dictionary updates of nested specs. -/
import JumanjiModel.Spec.Spec
import JumanjiModel.Prim.ListLemmas
namespace Sp

theorem broadcastTo_eq_some {src data dst r} : broadcastTo src data dst = some r ↔
    broadcastable src dst = true ∧
      r = (List.range (prod dst)).map fun k => data.getD (ravel src (srcIndex src dst (unravel dst k))) 0 := by
  unfold broadcastTo
  split <;> simp [*, eq_comm]

theorem broadcastTo_length {src data dst r} (h : broadcastTo src data dst = some r) : r.length = prod dst := by
  rw [(broadcastTo_eq_some.1 h).2, List.length_map, List.length_range]

theorem mem_broadcastTo {src data dst r} (h : broadcastTo src data dst = some r) {y : Rat} (hy : y ∈ r) :
    y ∈ data ∨ y = 0 := by
  rw [(broadcastTo_eq_some.1 h).2] at hy
  obtain ⟨k, _, rfl⟩ := List.mem_map.1 hy
  exact Jx.getD_mem_or ..

theorem pred_cast_nonneg {n : Nat} (h : 0 < n) : (0 : Rat) ≤ (((n : Int) - 1 : Int) : Rat) := by
  have : (0 : Int) ≤ (n : Int) - 1 := by omega
  exact_mod_cast this

theorem lt_of_le_pred_cast {x : Rat} {n : Nat} (h : x ≤ (((n : Int) - 1 : Int) : Rat)) : x < (n : Rat) := by
  rw [Rat.intCast_sub, Rat.intCast_natCast] at h
  grind

namespace Leaf

/-- the characterisation of `validate` -/
theorem valid_iff (l : Leaf) (v : Arr) : l.valid v = true ↔
    v.shape = l.shape ∧ v.dtype = l.dtype ∧ v.data.length = prod l.shape ∧
    ((l.lower = none ∧ l.upper = none) ∨
     ∃ lo hi, l.lower = some lo ∧ l.upper = some hi ∧
       ∀ k (h1 : k < v.data.length) (h2 : k < (List.zip lo hi).length),
         (List.zip lo hi)[k].1 ≤ v.data[k] ∧ v.data[k] ≤ (List.zip lo hi)[k].2) := by
  unfold valid
  cases hl : l.lower <;> cases hu : l.upper
  · simp [and_assoc]
  · simp
  · simp
  · simp only [Bool.and_eq_true, decide_eq_true_eq, beq_iff_eq, Jx.zipWith_all_getElem, and_assoc]
    simp

theorem WF0_of_WF {l : Leaf} (h : l.WF = true) : l.WF0 = true := by
  simp only [WF, Bool.and_eq_true] at h; exact h.1
theorem fitsDType_of_WF {l : Leaf} (h : l.WF = true) : l.fitsDType = true := by
  simp only [WF, Bool.and_eq_true] at h; exact h.2

theorem bounds_of_WF0 (l : Leaf) (h : l.WF0 = true) :
    (l.lower = none ∧ l.upper = none) ∨
    ∃ lo hi, l.lower = some lo ∧ l.upper = some hi ∧ lo.length = prod l.shape ∧ hi.length = prod l.shape ∧
      ∀ k (h1 : k < lo.length) (h2 : k < hi.length), lo[k] ≤ hi[k] := by
  cases l with
  | array => exact Or.inl ⟨rfl, rfl⟩
  | bounded s d n ms m xs x =>
    simp only [WF0, Bool.and_eq_true] at h
    cases hl : (bounded s d n ms m xs x).lower <;> cases hu : (bounded s d n ms m xs x).upper <;>
      simp only [hl, hu, Bool.false_eq_true, and_false] at h
    rename_i lo hi
    simp only [Jx.zipWith_all_getElem, decide_eq_true_eq] at h
    exact Or.inr ⟨lo, hi, rfl, rfl, broadcastTo_length hl, broadcastTo_length hu, h.2⟩
  | discrete k d n =>
    simp only [WF0, Bool.and_eq_true, decide_eq_true_eq] at h
    refine Or.inr ⟨_, _, rfl, rfl, rfl, rfl, fun j h1 _ => ?_⟩
    obtain rfl : j = 0 := by simpa using h1
    exact pred_cast_nonneg h.1
  | multiDiscrete s nv d n =>
    simp only [WF0, Bool.and_eq_true, beq_iff_eq, List.all_eq_true, decide_eq_true_eq] at h
    refine Or.inr ⟨_, _, rfl, rfl, by simp [shape, h.1.1], by simp [shape, h.1.1], fun j h1 _ => ?_⟩
    simp only [List.getElem_map]
    exact pred_cast_nonneg (h.1.2 _ (List.getElem_mem _))

theorem lower_length_of_WF (l : Leaf) (h : l.WF = true) (lo : List Rat) (hlo : l.lower = some lo) :
    lo.length = prod l.shape := by
  rcases bounds_of_WF0 l (WF0_of_WF h) with ⟨e, _⟩ | ⟨_, _, e, _, hl, _⟩ <;> rw [e] at hlo <;> cases hlo
  exact hl

/-- `validate` of a spec that passed the structural checks: no element escapes the comparison (`valid_iff` compares along a
`zip`), both broadcast bounds have exactly as many elements as the value -/
theorem valid_iff_of_WF0 (l : Leaf) (hw : l.WF0 = true) (v : Arr) : l.valid v = true ↔
    v.shape = l.shape ∧ v.dtype = l.dtype ∧ v.data.length = prod l.shape ∧
    ((l.lower = none ∧ l.upper = none) ∨
     ∃ lo hi, l.lower = some lo ∧ l.upper = some hi ∧ lo.length = prod l.shape ∧ hi.length = prod l.shape ∧
       ∀ k (hv : k < v.data.length) (h1 : k < lo.length) (h2 : k < hi.length), lo[k] ≤ v.data[k] ∧ v.data[k] ≤ hi[k]) := by
  rw [valid_iff]
  refine and_congr_right fun _ => and_congr_right fun _ => and_congr_right fun _ => or_congr_right ?_
  refine exists_congr fun lo => exists_congr fun hi => and_congr_right fun e1 => and_congr_right fun e2 => ?_
  rcases bounds_of_WF0 l hw with ⟨e, _⟩ | ⟨_, _, e1', e2', l1, l2, _⟩
  · rw [e] at e1; cases e1
  · rw [e1] at e1'; rw [e2] at e2'; cases e1'; cases e2'
    simp only [l1, l2, true_and, List.length_zip, Nat.min_self, List.getElem_zip]
    exact ⟨fun h k hv h1 _ => h k hv h1, fun h k hv hz => h k hv hz hz⟩

/-- the generated value is the lower bound itself (zeros for an `Array`) -/
theorem generate_valid0 (l : Leaf) (h : l.WF0 = true) : l.valid l.generate = true := by
  rw [valid_iff_of_WF0 l h]
  rcases bounds_of_WF0 l h with ⟨e1, e2⟩ | ⟨lo, hi, e1, e2, l1, l2, hk⟩
  · simp [generate, e1, e2]
  · simp only [generate, e1]
    exact ⟨trivial, trivial, l1, Or.inr ⟨lo, hi, rfl, e2, l1, l2, fun k _ h1 h2 => ⟨Rat.le_refl, hk k h1 h2⟩⟩⟩

theorem generate_valid (l : Leaf) (h : l.WF = true) : l.valid l.generate = true := generate_valid0 l (WF0_of_WF h)

/-- what `==` between two specs of one class compares -/
def obs (l : Leaf) := (l.kind, l.shape, l.dtype, l.name, l.lower, l.upper, l.get .numValues)

theorem beq_iff (a b : Leaf) : a.beq b = true ↔ a.obs = b.obs := by
  cases a <;> cases b <;>
    simp only [beq, obs, kind, shape, dtype, name, lower, upper, get, Bool.and_eq_true, beq_iff_eq, Prod.mk.injEq,
      reduceCtorEq, false_and, and_false, true_and, and_true, Bool.false_eq_true, AttrVal.nat.injEq,
      AttrVal.natArr.injEq, and_assoc]
  -- the discrete kinds: the bounds are functions of `num_values`
  · constructor
    · rintro ⟨rfl, rfl, rfl⟩; simp
    · rintro ⟨rfl, rfl, _, rfl⟩; simp
  · constructor
    · rintro ⟨rfl, rfl, rfl, rfl⟩; simp
    · rintro ⟨rfl, rfl, rfl, _, _, _, rfl⟩; simp

theorem beq_refl (l : Leaf) : l.beq l = true := (beq_iff l l).2 rfl

theorem beq_symm (a b : Leaf) : a.beq b = b.beq a := by
  rw [Bool.eq_iff_iff, beq_iff, beq_iff]; exact eq_comm

theorem replace_eq_some {l l' : Leaf} {kws : List Kw} : l.replace kws = some l' ↔
    kws.all (accepts l) = true ∧ (kws.foldl apply1 l).WF = true ∧ kws.foldl apply1 l = l' := by
  unfold replace
  split <;> simp_all

theorem replace_nil (l : Leaf) (h : l.WF = true) : l.replace [] = some l := by
  simp [replace, h]

end Leaf

theorem Nested.generate_valid (s : Nested) (h : ∀ p ∈ s, p.2.WF = true) : s.valid s.generate = true := by
  simp only [Nested.valid, Nested.generate, Bool.and_eq_true, beq_iff_eq, Jx.zipWith_all_getElem]
  refine ⟨by simp, ?_⟩
  intro k h1 h2
  simp only [List.getElem_map]
  exact Leaf.generate_valid _ (h _ (List.getElem_mem _))

theorem toGym_member0 (l : Leaf) (hw : l.WF0 = true) (v : Arr) (h : l.valid v = true) :
    (toGym l).contains v = true := by
  obtain ⟨hs, hd, hlen, hb⟩ := (Leaf.valid_iff_of_WF0 l hw v).1 h
  cases l with
  | array s d n => simpa [toGym, Gym.contains, Leaf.lower, Leaf.upper] using ⟨hs, hd⟩
  | bounded s d n ms m xs x =>
    rcases hb with ⟨e1, _⟩ | ⟨lo, hi, e1, e2, l1, l2, hk⟩
    · simp [Leaf.WF0, e1] at hw
    · simp only [toGym, Gym.contains, e1, e2, Bool.and_eq_true, decide_eq_true_eq, Jx.zipWith_all_getElem]
      exact ⟨⟨⟨hs, hd⟩, fun k a b => (hk k a b (by omega)).1⟩, fun k a b => (hk k a (by omega) b).2⟩
  | discrete k d n =>
    rcases hb with ⟨e1, _⟩ | ⟨lo, hi, e1, e2, _, _, hk⟩
    · cases e1
    · cases e1; cases e2
      simp only [Leaf.WF0, Bool.and_eq_true] at hw
      match hv : v.data, hlen with
      | [x], _ =>
        have := hk 0 (by simp [hv]) (by simp) (by simp)
        simp only [hv, List.getElem_cons_zero] at this
        simpa [toGym, Gym.contains, hv, hs, hd, hw.2, Leaf.shape, Leaf.dtype] using
          ⟨this.1, lt_of_le_pred_cast this.2⟩
  | multiDiscrete s nv d n =>
    rcases hb with ⟨e1, _⟩ | ⟨lo, hi, e1, e2, l1, l2, hk⟩
    · cases e1
    · cases e1; cases e2
      simp only [Leaf.WF0, Bool.and_eq_true] at hw
      simp only [List.length_map] at l1 hk
      simp only [toGym, Gym.contains, Bool.and_eq_true, decide_eq_true_eq, Jx.zipWith_all_getElem, hd, hs, beq_iff_eq]
      refine ⟨⟨⟨hw.2, rfl⟩, by omega⟩, fun j a b => ?_⟩
      have := hk j a b b
      simp only [List.getElem_map] at this
      exact ⟨this.1, lt_of_le_pred_cast this.2⟩

theorem toGym_member (l : Leaf) (hw : l.WF = true) (v : Arr) (h : l.valid v = true) :
    (toGym l).contains v = true := toGym_member0 l (Leaf.WF0_of_WF hw) v h

theorem wrap_range {lo hi x : Int} (h1 : lo ≤ x) (h2 : x ≤ hi) : (x - lo) % (hi - lo + 1) + lo = x := by
  rw [Int.emod_eq_of_lt (by omega) (by omega)]; omega

theorem DType.wrap_of_fits (d : DType) (x : Int) (hd : d.isInt = true) (hf : d.fits (x : Rat) = true) :
    d.wrap x = x := by
  cases d <;> first | cases hd | skip
  all_goals
    simp only [fits, intRange, Int.reduceNeg, Rat.den_intCast, BEq.rfl, Rat.num_intCast, Bool.true_and,
      Bool.and_eq_true] at hf
    exact wrap_range (of_decide_eq_true hf.1) (of_decide_eq_true hf.2)

theorem DType.fits_zero (d : DType) : d.fits 0 = true := by cases d <;> decide

namespace Leaf

theorem arrayEq_symm (a b : Leaf) : arrayEq a b = arrayEq b a := by
  rw [Bool.eq_iff_iff]; simp only [arrayEq, Bool.and_eq_true, beq_iff_eq]; grind
theorem boundedEq_symm (a b : Leaf) : boundedEq a b = boundedEq b a := by
  rw [Bool.eq_iff_iff]; simp only [boundedEq, Bool.and_eq_true, beq_iff_eq]; grind

theorem apply1_kind (l : Leaf) (kw : Kw) : (apply1 l kw).kind = l.kind := by
  cases l <;> cases kw <;> rfl

theorem accepts_of_kind (a b : Leaf) (h : a.kind = b.kind) (kw : Kw) : accepts a kw = accepts b kw := by
  cases a <;> cases b <;> cases h <;> cases kw <;> rfl

theorem apply1_get_other (l : Leaf) (kw : Kw) (attr : Attr) (hne : attr ≠ kw.attr) :
    (apply1 l kw).get attr = l.get attr := by
  cases l <;> cases kw <;> cases attr <;> first | rfl | exact absurd rfl hne

theorem apply1_get_same (l : Leaf) (kw : Kw) (h : accepts l kw = true) : (apply1 l kw).get kw.attr = kw.val := by
  cases l <;> cases kw <;> first | rfl | cases h


theorem foldl_kind (l : Leaf) (kws : List Kw) : (kws.foldl apply1 l).kind = l.kind := by
  induction kws generalizing l with
  | nil => rfl
  | cons kw kws ih => simp only [List.foldl_cons]; rw [ih, apply1_kind]

theorem foldl_get_other (l : Leaf) (kws : List Kw) (attr : Attr) (hn : attr ∉ kws.map Kw.attr) :
    (kws.foldl apply1 l).get attr = l.get attr := by
  induction kws generalizing l with
  | nil => rfl
  | cons kw kws ih =>
    simp only [List.map_cons, List.mem_cons, not_or] at hn
    simp only [List.foldl_cons]
    rw [ih _ hn.2, apply1_get_other l kw attr hn.1]

theorem foldl_get_named (l : Leaf) (kws : List Kw) (hacc : kws.all (accepts l) = true)
    (hnd : (kws.map Kw.attr).Nodup) : ∀ kw ∈ kws, (kws.foldl apply1 l).get kw.attr = kw.val := by
  induction kws generalizing l with
  | nil => simp
  | cons k kws ih =>
    simp only [List.all_cons, Bool.and_eq_true] at hacc
    simp only [List.map_cons, List.nodup_cons] at hnd
    intro kw hkw
    simp only [List.foldl_cons]
    rcases List.mem_cons.1 hkw with rfl | hkw
    · rw [foldl_get_other _ kws _ hnd.1, apply1_get_same l kw hacc.1]
    · refine ih (apply1 l k) ?_ hnd.2 kw hkw
      rw [List.all_eq_true] at hacc ⊢
      intro x hx
      rw [accepts_of_kind _ l (apply1_kind l k)]
      exact hacc.2 x hx

/-- `replace(**kwargs)` changes ONLY the named constructor parameters -/
theorem replace_only_named (l l' : Leaf) (kws : List Kw) (h : l.replace kws = some l') :
    ∀ attr, attr ∉ kws.map Kw.attr → l'.get attr = l.get attr := by
  obtain ⟨_, _, rfl⟩ := replace_eq_some.1 h
  exact foldl_get_other l kws

/-- pickling round-trips: `cls(*args)` applied to what `__reduce__` returns rebuilds the very same spec (the constructor is
re-run and accepts) -/
theorem unreduce_eq (l : Leaf) (h : l.WF = true) : l.unreduce = some l := by
  cases l <;> simp [unreduce, reduce, construct, h]

theorem pickle_roundtrip (l : Leaf) (h : l.WF = true) : ∃ l', l.unreduce = some l' ∧ l'.beq l = true ∧ l'.WF = true :=
  ⟨l, unreduce_eq l h, beq_refl l, h⟩

end Leaf


theorem dictSet_lookup_same {β} (cs : List (String × β)) (k : String) (v : β) : (dictSet cs (k, v)).lookup k = some v := by
  induction cs with
  | nil => simp [dictSet]
  | cons c cs ih =>
    obtain ⟨k', v'⟩ := c
    simp only [dictSet]
    split
    · rename_i h; subst h; simp [List.lookup]
    · rename_i h
      have : (k == k') = false := by simpa using fun e => h e.symm
      simp only [List.lookup, this]; exact ih

theorem dictSet_lookup_other {β} (cs : List (String × β)) (kv : String × β) (k : String) (hne : k ≠ kv.1) :
    (dictSet cs kv).lookup k = cs.lookup k := by
  induction cs with
  | nil =>
    have : (k == kv.1) = false := by simpa using hne
    simp [dictSet, List.lookup, this]
  | cons c cs ih =>
    obtain ⟨k', v'⟩ := c
    simp only [dictSet]
    split
    · rename_i h
      have : (k == k') = false := by rw [h]; simpa using hne
      simp [List.lookup, this]
    · simp only [List.lookup]; rw [ih]

theorem dictSet_keys {β} (cs : List (String × β)) (kv : String × β) :
    (dictSet cs kv).map (·.1) = if kv.1 ∈ cs.map (·.1) then cs.map (·.1) else cs.map (·.1) ++ [kv.1] := by
  induction cs with
  | nil => simp [dictSet]
  | cons c cs ih =>
    obtain ⟨k', v'⟩ := c
    simp only [dictSet]
    split
    · rename_i h; simp [h]
    · rename_i h
      simp only [List.map_cons, ih, List.mem_cons]
      have : ¬ kv.1 = k' := fun e => h e.symm
      simp only [this, false_or]
      split <;> simp

theorem Node.replace_nil (n : Node) : n.replace [] = n := by
  cases n; rfl

theorem foldl_dictSet_lookup_other {β} (cs : List (String × β)) (kws : List (String × β)) (k : String)
    (hn : k ∉ kws.map (·.1)) : (kws.foldl dictSet cs).lookup k = cs.lookup k := by
  induction kws generalizing cs with
  | nil => rfl
  | cons kv kws ih =>
    simp only [List.map_cons, List.mem_cons, not_or] at hn
    simp only [List.foldl_cons]
    rw [ih _ hn.2, dictSet_lookup_other cs kv k hn.1]

/-- nested `replace` changes only the named children (and keeps the spec's own name) -/
theorem Node.replace_only_named (n : Node) (kws : List (String × Nested)) (k : String) (hn : k ∉ kws.map (·.1)) :
    (n.replace kws).child k = n.child k ∧ (n.replace kws).name = n.name :=
  ⟨foldl_dictSet_lookup_other n.children kws k hn, rfl⟩

end Sp
