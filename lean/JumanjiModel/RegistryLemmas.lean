/- Lemmas about the model of registration.py: the id grammar (`parse` succeeds exactly on the well-formed ids; `ClsOK` is
   what is assumed of the character classes), decimal digits and their value (`digitsOf`, `valOf`, `Canonical`), the
   `parse`/`format` round trips, and `register`/`make` on a registry. -/
import JumanjiModel.Registry
namespace Reg
variable {α : Type} [DecidableEq α] (C : Cls α)

/-- the hypotheses on the character classes under which the grammar theorems hold; Python's `re`
satisfies them: '-' is not a digit, '-' ≠ 'v' -/
structure ClsOK : Prop where
  dash_not_digit : C.D C.dash = false
  dash_ne_vee : C.dash ≠ C.vee

variable {C}

omit [DecidableEq α] in
theorem all_D_false_of_dash (h : ClsOK C) (xs ys : List α) : (xs ++ C.dash :: ys).all C.D = false := by
  simp [List.all_append, h.dash_not_digit]

theorem restMatch_mid (h : ClsOK C) (c : α) (m ds : List α) :
    restMatch C (c :: (m ++ C.dash :: C.vee :: ds)) = none := by
  cases m with
  | nil =>
    simp only [List.nil_append, restMatch]
    rw [if_neg]
    intro hh
    exact h.dash_ne_vee hh.2.1
  | cons x m' =>
    simp only [List.cons_append, restMatch]
    rw [if_neg]
    intro hh
    have := all_D_false_of_dash h m' (C.vee :: ds)
    rw [this] at hh
    exact absurd hh.2.2.2 (by simp)

theorem restMatch_suffix (ds : List α) (hd : DigitsOK C ds) :
    restMatch C (C.dash :: C.vee :: ds) = some (some ds) := by
  have h2 : ds.all C.D = true := by rw [List.all_eq_true]; exact hd.2
  simp [restMatch, hd.1, h2]

theorem matchFrom_append (h : ClsOK C) (pre mid ds : List α) (hm : ∀ c ∈ mid, nameChar C c = true)
    (hd : DigitsOK C ds) :
    matchFrom C pre (mid ++ C.dash :: C.vee :: ds) = some (pre ++ mid, some ds) := by
  induction mid generalizing pre with
  | nil =>
    simp only [List.nil_append, matchFrom, restMatch_suffix ds hd, List.append_nil]
  | cons c m ih =>
    simp only [List.cons_append, matchFrom, restMatch_mid h c m ds, hm c (by simp), if_true]
    rw [ih (pre ++ [c]) (fun x hx => hm x (by simp [hx]))]
    simp

/-- L1 = L2 (completeness): a well-formed id is matched with exactly its name and version -/
theorem matchId_wellFormed (h : ClsOK C) (s n ds : List α) (hw : WellFormed C s n ds) :
    matchId C s = some (n, some ds) := by
  obtain ⟨rfl, hn, hd⟩ := hw
  cases n with
  | nil => exact absurd rfl hn.1
  | cons c m =>
    simp only [List.cons_append, matchId, hn.2 c (by simp), if_true]
    rw [matchFrom_append h [c] m ds (fun x hx => hn.2 x (by simp [hx])) hd]
    simp

theorem parse_wellFormed (h : ClsOK C) (s n ds : List α) (hw : WellFormed C s n ds) :
    parse C s = .ok (n, valOf C ds) := by
  simp [parse, matchId_wellFormed h s n ds hw]

theorem restMatch_some_some (r ds : List α) (hr : restMatch C r = some (some ds)) :
    r = C.dash :: C.vee :: ds ∧ DigitsOK C ds := by
  unfold restMatch at hr
  split at hr
  · simp at hr
  · split at hr
    · rename_i c1 c2 ds' hc
      injection hr with hr; injection hr with hr; subst hr
      obtain ⟨rfl, rfl, h3, h4⟩ := hc
      exact ⟨rfl, h3, by rwa [List.all_eq_true] at h4⟩
    · simp at hr
  · simp at hr

theorem restMatch_some_none (r : List α) (hr : restMatch C r = some none) : r = [] := by
  unfold restMatch at hr
  split at hr
  · rfl
  · split at hr <;> simp at hr
  · simp at hr

/-- `whole` decomposes as name `n` plus the (optional) version suffix `v` -/
def Decomp (C : Cls α) (whole n : List α) : Option (List α) → Prop
  | none => whole = n
  | some ds => whole = n ++ C.dash :: C.vee :: ds ∧ DigitsOK C ds

theorem matchFrom_sound (pre rest n : List α) (v : Option (List α))
    (hp : ∀ c ∈ pre, nameChar C c = true)
    (hm : matchFrom C pre rest = some (n, v)) :
    (∀ c ∈ n, nameChar C c = true) ∧ (∃ e, n = pre ++ e) ∧ Decomp C (pre ++ rest) n v := by
  induction rest generalizing pre with
  | nil =>
    simp only [matchFrom] at hm
    injection hm with hm; injection hm with h1 h2; subst h1; subst h2
    exact ⟨hp, ⟨[], by simp⟩, by simp [Decomp]⟩
  | cons c cs ih =>
    simp only [matchFrom] at hm
    split at hm
    · rename_i v' hv
      injection hm with hm; injection hm with h1 h2; subst h1; subst h2
      refine ⟨hp, ⟨[], by simp⟩, ?_⟩
      cases v' with
      | none => have := restMatch_some_none _ hv; simp at this
      | some ds =>
        obtain ⟨e, hd⟩ := restMatch_some_some _ ds hv
        exact ⟨by rw [e], hd⟩
    · split at hm
      · rename_i hc
        have := ih (pre ++ [c]) (fun x hx => by
          simp at hx; rcases hx with hx | rfl
          · exact hp x hx
          · exact hc) hm
        obtain ⟨h1, ⟨e, he⟩, h3⟩ := this
        refine ⟨h1, ⟨c :: e, by simp [he]⟩, ?_⟩
        simpa using h3
      · simp at hm

/-- L1 = L2 (soundness): a successful parse exhibits the documented shape `<name>-v<digits>` -/
theorem parse_ok_wellFormed (s n : List α) (v : Nat) (hp : parse C s = .ok (n, v)) :
    ∃ ds, WellFormed C s n ds ∧ v = valOf C ds := by
  unfold parse at hp
  split at hp
  · simp at hp
  · simp at hp
  · rename_i name ds hm
    injection hp with hp; injection hp with h1 h2; subst h1; subst h2
    refine ⟨ds, ?_, rfl⟩
    cases s with
    | nil => simp [matchId] at hm
    | cons c cs =>
      simp only [matchId] at hm
      split at hm
      · rename_i hc
        have := matchFrom_sound [c] cs name (some ds) (by simpa using hc) hm
        obtain ⟨h1, ⟨e, he⟩, h3, h4⟩ := this
        refine ⟨by simpa using h3, ⟨?_, h1⟩, h4⟩
        intro hn; subst hn; simp at he
      · simp at hm

/-- the whole input as name, with empty remainder, matches at the latest when the input ends -/
theorem matchFrom_ne_none (pre rest : List α) (hr : ∀ c ∈ rest, nameChar C c = true) :
    matchFrom C pre rest ≠ none := by
  induction rest generalizing pre with
  | nil => simp [matchFrom]
  | cons c cs ih =>
    simp only [matchFrom]
    split
    · simp
    · simp only [hr c (by simp), if_true]
      exact ih _ (fun x hx => hr x (by simp [hx]))

theorem digitsAux_fuel (dig : Nat → α) (f1 f2 n : Nat) (acc : List α) (h1 : n < f1) (h2 : n < f2) :
    digitsAux dig f1 n acc = digitsAux dig f2 n acc := by
  induction f1 generalizing f2 n acc with
  | zero => omega
  | succ f1 ih =>
    cases f2 with
    | zero => omega
    | succ f2 =>
      unfold digitsAux
      split
      · rfl
      · exact ih f2 (n / 10) _ (by omega) (by omega)

omit [DecidableEq α] in
theorem digitsAux_acc (dig : Nat → α) (fuel n : Nat) (acc : List α) :
    digitsAux dig fuel n acc = digitsAux dig fuel n [] ++ acc := by
  induction fuel generalizing n acc with
  | zero => simp [digitsAux]
  | succ f ih =>
    unfold digitsAux
    split
    · simp
    · rw [ih (n / 10) (dig (n % 10) :: acc), ih (n / 10) [dig (n % 10)]]
      simp

omit [DecidableEq α] in
theorem digitsOf_lt (dig : Nat → α) (n : Nat) (h : n < 10) : digitsOf dig n = [dig n] := by
  unfold digitsOf digitsAux; simp [h]

theorem digitsOf_ge (dig : Nat → α) (n : Nat) (h : 10 ≤ n) :
    digitsOf dig n = digitsOf dig (n / 10) ++ [dig (n % 10)] := by
  have hn : ¬ n < 10 := by omega
  unfold digitsOf
  rw [digitsAux]
  simp only [hn, if_false]
  rw [digitsAux_acc, digitsAux_fuel dig n (n / 10 + 1) (n / 10) [] (by omega) (by omega)]

theorem digitsOf_induction (dig : Nat → α) {P : Nat → List α → Prop} (base : ∀ n, n < 10 → P n [dig n])
    (step : ∀ n, 10 ≤ n → P (n / 10) (digitsOf dig (n / 10)) → P n (digitsOf dig (n / 10) ++ [dig (n % 10)]))
    (n : Nat) : P n (digitsOf dig n) := by
  induction n using Nat.strongRecOn with
  | _ n ih =>
    by_cases h : n < 10
    · rw [digitsOf_lt dig n h]
      exact base n h
    · rw [digitsOf_ge dig n (by omega)]
      exact step n (by omega) (ih (n / 10) (by omega))

omit [DecidableEq α] in
theorem valOf_snoc (ds : List α) (c : α) : valOf C (ds ++ [c]) = valOf C ds * 10 + C.val c := by
  simp [valOf, List.foldl_append]

theorem valOf_digitsOf (dig : Nat → α) (hval : ∀ k, k < 10 → C.val (dig k) = k) (n : Nat) :
    valOf C (digitsOf dig n) = n := by
  refine digitsOf_induction dig (P := fun n ds => valOf C ds = n) ?_ ?_ n
  · intro n h
    simp [valOf, hval n h]
  · intro n h ih
    rw [valOf_snoc, ih, hval _ (Nat.mod_lt _ (by omega))]
    omega

theorem digitsOf_ok (dig : Nat → α) (hD : ∀ k, k < 10 → C.D (dig k) = true) (n : Nat) :
    DigitsOK C (digitsOf dig n) := by
  refine digitsOf_induction dig (P := fun _ ds => DigitsOK C ds) ?_ ?_ n
  · intro n h
    exact ⟨by simp, fun c hc => List.mem_singleton.1 hc ▸ hD n h⟩
  · intro n h ih
    refine ⟨by simp, fun c hc => ?_⟩
    rcases List.mem_append.1 hc with hc | hc
    · exact ih.2 c hc
    · exact List.mem_singleton.1 hc ▸ hD _ (Nat.mod_lt _ (by omega))

/-- round trip: a well-formed id `<name>-v<N>` parses to (name, N) … -/
theorem parse_format (h : ClsOK C) (dig : Nat → α) (hval : ∀ k, k < 10 → C.val (dig k) = k)
    (hD : ∀ k, k < 10 → C.D (dig k) = true) (name : List α) (hn : NameOK C name) (N : Nat) :
    parse C (format C dig name N) = .ok (name, N) := by
  have := parse_wellFormed h (format C dig name N) name (digitsOf dig N) ⟨rfl, hn, digitsOf_ok dig hD N⟩
  rw [this, valOf_digitsOf dig hval]

/-- … and formats back to itself when the version is written canonically; in general the id is
normalised (leading zeros dropped) and normalisation is idempotent -/
theorem format_parse (s n : List α) (v : Nat) (dig : Nat → α) (hp : parse C s = .ok (n, v))
    (hcanon : ∀ ds, s = n ++ C.dash :: C.vee :: ds → ds = digitsOf dig v) :
    format C dig n v = s := by
  obtain ⟨ds, ⟨hs, _, _⟩, _⟩ := parse_ok_wellFormed s n v hp
  rw [format, ← hcanon ds hs, hs]

theorem normalise_idempotent (h : ClsOK C) (dig : Nat → α) (hval : ∀ k, k < 10 → C.val (dig k) = k)
    (hD : ∀ k, k < 10 → C.D (dig k) = true) (s n : List α) (v : Nat) (hp : parse C s = .ok (n, v)) :
    parse C (format C dig n v) = .ok (n, v) := by
  obtain ⟨ds, ⟨_, hn, _⟩, _⟩ := parse_ok_wellFormed s n v hp
  exact parse_format h dig hval hD n hn v

/-- a version string written with the digits `dig 0 … dig 9` and without leading zeros -/
def Canonical (dig : Nat → α) (ds : List α) : Prop :=
  ds ≠ [] ∧ (∀ c ∈ ds, ∃ k, k < 10 ∧ c = dig k) ∧ (∀ c rest, ds = c :: rest → rest ≠ [] → c ≠ dig 0)

omit [DecidableEq α] in
theorem foldl_val_ge (ds : List α) (a : Nat) : a ≤ ds.foldl (fun acc c => acc * 10 + C.val c) a := by
  induction ds generalizing a with
  | nil => exact Nat.le_refl _
  | cons c ds ih =>
    simp only [List.foldl_cons]
    exact Nat.le_trans (by omega) (ih _)

omit [DecidableEq α] in
theorem valOf_pos (dig : Nat → α) (hval : ∀ k, k < 10 → C.val (dig k) = k) (c : α) (rest : List α)
    (hc : ∃ k, k < 10 ∧ c = dig k) (h0 : c ≠ dig 0) : 0 < valOf C (c :: rest) := by
  obtain ⟨k, hk, rfl⟩ := hc
  have hk0 : k ≠ 0 := fun e => h0 (by rw [e])
  have := foldl_val_ge (C := C) rest (0 * 10 + C.val (dig k))
  simp only [valOf, List.foldl_cons]
  rw [hval k hk] at this ⊢
  omega

omit [DecidableEq α] in
theorem Canonical.init (dig : Nat → α) (ds : List α) (c : α) (hne : ds ≠ []) (h : Canonical dig (ds ++ [c])) :
    Canonical dig ds := by
  obtain ⟨_, h2, h3⟩ := h
  refine ⟨hne, fun x hx => h2 x (by simp [hx]), ?_⟩
  intro x rest e hr
  exact h3 x (rest ++ [c]) (by simp [e]) (by simp)

/-- `digitsOf ∘ valOf = id` on canonical digit strings (proved for every string, by induction from the last digit) -/
theorem digitsOf_valOf_rev (dig : Nat → α) (hval : ∀ k, k < 10 → C.val (dig k) = k) (rs : List α)
    (hc : Canonical dig rs.reverse) : digitsOf dig (valOf C rs.reverse) = rs.reverse := by
  induction rs with
  | nil => exact absurd rfl hc.1
  | cons c rs ih =>
    simp only [List.reverse_cons] at hc ⊢
    obtain ⟨k, hk, rfl⟩ := hc.2.1 c (by simp)
    rw [valOf_snoc, hval k hk]
    cases hrs : rs.reverse with
    | nil =>
      simp [valOf, digitsOf_lt dig k hk]
    | cons d rest =>
      have hne : rs.reverse ≠ [] := by rw [hrs]; simp
      have hci := Canonical.init dig rs.reverse (dig k) hne hc
      have hpos : 0 < valOf C (d :: rest) := by
        rw [hrs] at hc hci
        exact valOf_pos dig hval d rest (hci.2.1 d (by simp)) (hc.2.2 d (rest ++ [dig k]) (by simp) (by simp))
      rw [← hrs] at hpos ⊢
      rw [digitsOf_ge dig _ (by omega)]
      have e1 : (valOf C rs.reverse * 10 + k) / 10 = valOf C rs.reverse := by omega
      have e2 : (valOf C rs.reverse * 10 + k) % 10 = k := by omega
      rw [e1, e2, ih hci]

theorem digitsOf_valOf (dig : Nat → α) (hval : ∀ k, k < 10 → C.val (dig k) = k) (ds : List α)
    (hc : Canonical dig ds) : digitsOf dig (valOf C ds) = ds := by
  have := digitsOf_valOf_rev (C := C) dig hval ds.reverse (by simpa using hc)
  simpa using this

variable {κ ν : Type} [DecidableEq κ]

theorem register_dup_refused_exact (dig : Nat → α) (r : Registry α κ ν) (id n : List α) (v : Nat) (ep : String)
    (kw : List (κ × ν)) (hp : parse C id = .ok (n, v)) (hin : format C dig n v ∈ registered r) :
    register C dig r id ep kw = .error (.alreadyRegistered (format C dig n v)) := by
  have : (List.map (fun x => x.fst) r).contains (format C dig n v) = true := by
    simpa [registered] using hin
  unfold register
  rw [hp]
  exact if_pos this

theorem register_dup_refused (dig : Nat → α) (r : Registry α κ ν) (id n : List α) (v : Nat) (ep : String)
    (kw : List (κ × ν)) (hp : parse C id = .ok (n, v)) (hin : format C dig n v ∈ registered r) :
    ∃ e, register C dig r id ep kw = .error e :=
  ⟨_, register_dup_refused_exact dig r id n v ep kw hp hin⟩

theorem register_ok (dig : Nat → α) (r r' : Registry α κ ν) (id : List α) (ep : String)
    (kw : List (κ × ν)) (h : register C dig r id ep kw = .ok r') :
    ∃ n v, parse C id = .ok (n, v) ∧ format C dig n v ∉ registered r ∧
      r' = r ++ [(format C dig n v, { entryPoint := ep, kwargs := kw })] := by
  unfold register at h
  split at h
  · simp at h
  · rename_i name version hp
    split at h
    · simp at h
    · rename_i hc
      injection h with h
      refine ⟨name, version, hp, ?_, h.symm⟩
      simpa [registered] using hc

theorem register_fresh (dig : Nat → α) (r : Registry α κ ν) (id n : List α) (v : Nat) (ep : String)
    (kw : List (κ × ν)) (hp : parse C id = .ok (n, v)) (hnot : format C dig n v ∉ registered r) :
    register C dig r id ep kw = .ok (r ++ [(format C dig n v, { entryPoint := ep, kwargs := kw })]) := by
  have : ¬ (List.map (fun x => x.fst) r).contains (format C dig n v) = true := by
    simpa [registered] using hnot
  unfold register
  rw [hp]
  exact if_neg this

theorem lookup_append_of_not_mem {β} (r : List (List α × β)) (k : List α) (x : β)
    (h : k ∉ r.map (·.1)) : (r ++ [(k, x)]).lookup k = some x := by
  have hr : r.lookup k = none :=
    List.lookup_eq_none_iff.2 fun p hp => bne_iff_ne.2 fun e => h (e ▸ List.mem_map_of_mem hp)
  rw [List.lookup_append, hr, List.lookup_cons_self]
  rfl

theorem lookup_filter_key (p : κ → Bool) (l : List (κ × ν)) (k : κ) :
    (l.filter (fun q => p q.1)).lookup k = if p k then l.lookup k else none := by
  induction l with
  | nil => simp
  | cons q l ih =>
    obtain ⟨a, b⟩ := q
    by_cases hk : k = a
    · subst hk
      cases hp : p k <;> simp [hp, ih]
    · have hb : (k == a) = false := beq_false_of_ne hk
      cases hq : p a <;> simp [List.lookup_cons, hq, hb, ih]

theorem contains_keys (l : List (κ × ν)) (k : κ) : (l.map (·.1)).contains k = (l.lookup k).isSome := by
  induction l with
  | nil => rfl
  | cons q l ih =>
    obtain ⟨a, b⟩ := q
    rw [List.map_cons, List.contains_cons, List.lookup_cons, ih]
    cases k == a <;> rfl

theorem make_unknown_exact (dig : Nat → α) (r : Registry α κ ν) (id n : List α) (v : Nat) (kw : List (κ × ν))
    (hp : parse C id = .ok (n, v)) (hnot : r.lookup (format C dig n v) = none) :
    make C dig r id kw = .error (.unregistered (format C dig n v) (registered r)) := by
  unfold make; simp only [hp, hnot]; rfl

theorem make_unknown (dig : Nat → α) (r : Registry α κ ν) (id n : List α) (v : Nat) (kw : List (κ × ν))
    (hp : parse C id = .ok (n, v)) (hnot : r.lookup (format C dig n v) = none) :
    ∃ e, make C dig r id kw = .error e :=
  ⟨_, make_unknown_exact dig r id n v kw hp hnot⟩

/-- `make(id, **kw)` on ANY registry in which the (normalised) id is registered -/
theorem make_registered (dig : Nat → α) (r : Registry α κ ν) (id n : List α) (v : Nat) (kw : List (κ × ν))
    (sp : EnvSpec κ ν) (hp : parse C id = .ok (n, v)) (hl : r.lookup (format C dig n v) = some sp) :
    make C dig r id kw = .ok (sp.entryPoint, mergeKwargs sp.kwargs kw) := by
  unfold make; simp only [hp, hl]

theorem register_preserves_lookup (dig : Nat → α) (r r' : Registry α κ ν) (id : List α) (ep : String)
    (kw : List (κ × ν)) (h : register C dig r id ep kw = .ok r') (k : List α) (sp : EnvSpec κ ν)
    (hl : r.lookup k = some sp) : r'.lookup k = some sp := by
  obtain ⟨n, v, _, _, rfl⟩ := register_ok dig r r' id ep kw h
  exact (List.prefix_append r _).lookup_eq_some hl

/-- any sequence of later `register` calls (refused ones leave the registry as it is) -/
def runRegs (dig : Nat → α) (r : Registry α κ ν) : List (List α × String × List (κ × ν)) → Registry α κ ν
  | [] => r
  | (id, ep, kw) :: rest =>
    match register C dig r id ep kw with
    | .ok r' => runRegs dig r' rest
    | .error _ => runRegs dig r rest

theorem runRegs_preserves_lookup (dig : Nat → α) (r : Registry α κ ν) (calls : List (List α × String × List (κ × ν)))
    (k : List α) (sp : EnvSpec κ ν) (hl : r.lookup k = some sp) : (runRegs (C := C) dig r calls).lookup k = some sp := by
  induction calls generalizing r with
  | nil => exact hl
  | cons c calls ih =>
    obtain ⟨id, ep, kw⟩ := c
    simp only [runRegs]
    split
    · rename_i r' hr
      exact ih r' (register_preserves_lookup dig r r' id ep kw hr k sp hl)
    · exact ih r hl

end Reg
