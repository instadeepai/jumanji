/- Lemmas about the wrapper models of `Wrappers.lean`, one namespace per wrapper.  The definitions made here mirror
   nothing in wrappers.py; they are the vocabulary of the statements: the hypothesis `KeyMonotone`, running and counting
   over a list of calls (`Gym.runAll`, `countResets`, `noSeed`), and the native trace an adapter is compared with
   (`DmEnv.relay`, `episodeOps`, `episodeOut`, `nativeTrace`). -/
import JumanjiModel.Wrappers
namespace Wr
variable {S A O R X : Type}

theorem Key.Desc.depth_le {k k' : Key} (h : Key.Desc k k') : k.depth ≤ k'.depth := by
  induction h with
  | refl => exact Nat.le_refl _
  | left _ ih => simp [Key.depth]; omega
  | right _ ih => simp [Key.depth]; omega

/-- an environment derives the key it stores from the key it is given, by splitting only -/
structure KeyMonotone (E : Env S A O R X) : Prop where
  reset : ∀ k, Key.Desc k (E.key (E.reset k).1)
  step : ∀ s a, Key.Desc (E.key s) (E.key (E.step s a).1)

namespace AutoReset

theorem step_not_last (E : Env S A O R X) (flag : Bool) (s : S) (a : A) (h : (E.step s a).2.last = false) :
    step E flag s a = ((E.step s a).1, maybeAddObs flag (E.step s a).2) := by
  unfold step; simp [h]

theorem step_last (E : Env S A O R X) (flag : Bool) (s : S) (a : A) (h : (E.step s a).2.last = true) :
    step E flag s a =
      ((E.reset (.left (E.key (E.step s a).1))).1,
       { maybeAddObs flag (E.step s a).2 with obs := (E.reset (.left (E.key (E.step s a).1))).2.obs }) := by
  unfold step autoReset; simp [h]

theorem next_obs_step (E : Env S A O R X) (s : S) (a : A) :
    (step E true s a).2.nextObs = some (E.step s a).2.obs := by
  unfold step autoReset
  split <;> simp [maybeAddObs]

theorem key_step (E : Env S A O R X) (flag : Bool) (s : S) (a : A) :
    (step E flag s a).1 =
      if (E.step s a).2.last then (E.reset (.left (E.key (E.step s a).1))).1 else (E.step s a).1 := by
  unfold step autoReset; split <;> simp_all

theorem resetKeys_strict (E : Env S A O R X) (hE : KeyMonotone E) (flag : Bool) (as : List A) (s : S) :
    (resetKeys E flag s as).Pairwise (fun a b => a.depth < b.depth) ∧
    ∀ k ∈ resetKeys E flag s as, (E.key s).depth < k.depth := by
  induction as generalizing s with
  | nil => simp [resetKeys]
  | cons a as ih =>
    have hs1 := (hE.step s a).depth_le
    unfold resetKeys
    rw [key_step]
    by_cases hl : (E.step s a).2.last = true
    · simp only [hl, if_true]
      have ih' := ih (E.reset (.left (E.key (E.step s a).1))).1
      have hr := (hE.reset (.left (E.key (E.step s a).1))).depth_le
      simp only [Key.depth] at hr
      refine ⟨List.pairwise_cons.2 ⟨fun k hk => ?_, ih'.1⟩, fun k hk => ?_⟩
      · have := ih'.2 k hk
        simp only [Key.depth]; omega
      · rcases List.mem_cons.1 hk with rfl | hk
        · simp only [Key.depth]; omega
        · have := ih'.2 k hk; omega
    · simp only [hl]
      have ih' := ih (E.step s a).1
      exact ⟨ih'.1, fun k hk => by have := ih'.2 k hk; omega⟩

theorem fresh_keys (E : Env S A O R X) (hE : KeyMonotone E) (flag : Bool) (as : List A) (s : S) :
    (resetKeys E flag s as).Nodup := by
  have := (resetKeys_strict E hE flag as s).1
  exact this.imp (fun h he => by rw [he] at h; exact Nat.lt_irrefl _ h)

end AutoReset

namespace Vmap
theorem step_get (E : Env S A O R X) (ss : List S) (as : List A) (i : Nat) :
    (step E ss as)[i]? = (ss[i]?).bind (fun s => (as[i]?).map (fun a => E.step s a)) := by
  unfold step
  rw [List.getElem?_zipWith]
  cases ss[i]? <;> cases as[i]? <;> rfl

theorem reset_get (E : Env S A O R X) (ks : List Key) (i : Nat) :
    (reset E ks)[i]? = (ks[i]?).map E.reset := by
  unfold reset; rw [List.getElem?_map]
end Vmap

namespace VmapAutoReset
theorem maybeReset_step (E : Env S A O R X) (flag : Bool) (s : S) (a : A) :
    maybeReset E flag (E.step s a) = AutoReset.step E flag s a := by
  unfold maybeReset AutoReset.step; rfl
end VmapAutoReset

namespace Gym
variable (E : Env S A O R X) (isZero : R → Bool)

def runAll (st : St S) : List (Op A) → St S
  | [] => st
  | op :: ops => runAll (run1 E isZero st op).1 ops

def countResets : List (Op A) → Nat
  | [] => 0
  | .reset _ :: ops => countResets ops + 1
  | _ :: ops => countResets ops

/-- no re-seeding in the op list -/
def noSeed : List (Op A) → Bool
  | [] => true
  | .seed _ :: _ => false
  | .reset (some _) :: _ => false
  | _ :: ops => noSeed ops

theorem rightN_succ (i : Nat) (k : Key) : rightN (i+1) k = .right (rightN i k) := by
  induction i generalizing k with
  | zero => rfl
  | succ i ih => simp only [rightN] at ih ⊢; rw [ih]

theorem key_after (st : St S) (ops : List (Op A)) (h : noSeed ops = true) :
    (runAll E isZero st ops).key = rightN (countResets ops) st.key := by
  induction ops generalizing st with
  | nil => rfl
  | cons op ops ih =>
    cases op with
    | seed n => simp [noSeed] at h
    | reset sd =>
      cases sd with
      | some n => simp [noSeed] at h
      | none =>
        simp only [runAll, countResets, run1]
        rw [ih _ (by simpa [noSeed] using h)]
        simp only [rightN]
    | step a =>
      simp only [runAll, countResets]
      rw [ih _ (by simpa [noSeed] using h)]
      simp only [run1]
      cases st.state <;> rfl

theorem reset_uses_schedule (n : Nat) (ops : List (Op A)) (h : noSeed ops = true) :
    (run1 E isZero (runAll E isZero (init n) ops) (.reset none)).2 =
      .obs (E.reset (resetKey n (countResets ops))).2.obs (E.reset (resetKey n (countResets ops))).2.extras := by
  have hk := key_after E isZero (init n) ops h
  simp only [run1, resetKey]
  rw [hk]
  rfl

theorem reseed_reproducible (st : St S) (n : Nat) :
    (run1 E isZero (run1 E isZero st (.seed n)).1 (.reset none)) =
    (run1 E isZero (init n) (.reset none)) := by
  simp [run1, init]

theorem step_relays (st : St S) (s : S) (a : A) (hs : st.state = some s) :
    (run1 E isZero st (.step a)).2 =
      .stepped (E.step s a).2.obs (E.step s a).2.reward (isZero (E.step s a).2.discount) (E.step s a).2.last
        (E.step s a).2.extras ∧
    (run1 E isZero st (.step a)).1.state = some (E.step s a).1 := by
  simp [run1, hs]
end Gym

namespace Gym

/-- `term = ~discount.astype(bool)`, `trunc = timestep.last()` on rational discounts -/
theorem step_relays_rat (E : Env S A O Rat X) (st : St S) (s : S) (a : A) (hs : st.state = some s) :
    ∃ term trunc : Bool,
      (run1 E (fun d => d == 0) st (.step a)).2 =
        .stepped (E.step s a).2.obs (E.step s a).2.reward term trunc (E.step s a).2.extras ∧
      (term = true ↔ (E.step s a).2.discount = 0) ∧
      (trunc = true ↔ (E.step s a).2.stepType = .last) ∧
      (run1 E (fun d => d == 0) st (.step a)).1.state = some (E.step s a).1 ∧
      (run1 E (fun d => d == 0) st (.step a)).1.key = st.key := by
  refine ⟨(E.step s a).2.discount == 0, (E.step s a).2.last, ?_, ?_, ?_, ?_, ?_⟩
  · simp [run1, hs]
  · simp
  · simp [TS.last]
  · simp [run1, hs]
  · simp [run1, hs]

end Gym

/-! ### MultiToSingleWrapper -/
namespace MultiToSingle
variable {R' : Type}

theorem step_eq (E : Env S A O R X) (aggR aggD : R → R') (s : S) (a : A) :
    step E aggR aggD s a = ((E.step s a).1, aggregate aggR aggD (E.step s a).2) := rfl

theorem reset_eq (E : Env S A O R X) (aggR aggD : R → R') (k : Key) :
    reset E aggR aggD k = ((E.reset k).1, aggregate aggR aggD (E.reset k).2) := rfl

private def mx (a b : Rat) : Rat := if a ≤ b then b else a

private theorem foldl_mx_ge_init (l : List Rat) (r : Rat) : r ≤ l.foldl mx r := by
  induction l generalizing r with
  | nil => exact Rat.le_refl
  | cons b l ih =>
    simp only [List.foldl_cons]
    refine Rat.le_trans ?_ (ih (mx r b))
    unfold mx; split
    · assumption
    · exact Rat.le_refl

private theorem foldl_mx_ge_mem (l : List Rat) (r : Rat) : ∀ d ∈ l, d ≤ l.foldl mx r := by
  induction l generalizing r with
  | nil => simp
  | cons b l ih =>
    intro d hd
    simp only [List.foldl_cons]
    rcases List.mem_cons.1 hd with rfl | hd
    · refine Rat.le_trans ?_ (foldl_mx_ge_init l (mx r d))
      unfold mx; split
      · exact Rat.le_refl
      · rename_i h; exact Rat.le_of_lt (Rat.not_le.1 h)
    · exact ih _ d hd

private theorem foldl_mx_mem (l : List Rat) (r : Rat) : l.foldl mx r = r ∨ l.foldl mx r ∈ l := by
  induction l generalizing r with
  | nil => simp
  | cons b l ih =>
    simp only [List.foldl_cons]
    rcases ih (mx r b) with h | h
    · rw [h]; unfold mx; split
      · right; simp
      · left; rfl
    · right; simp [h]

theorem maxAgg_mem (ds : List Rat) (hne : ds ≠ []) : maxAgg ds ∈ ds := by
  cases ds with
  | nil => exact absurd rfl hne
  | cons r rs =>
    show rs.foldl mx r ∈ r :: rs
    rcases foldl_mx_mem rs r with h | h
    · rw [h]; simp
    · simp [h]

theorem maxAgg_ge (ds : List Rat) : ∀ d ∈ ds, d ≤ maxAgg ds := by
  cases ds with
  | nil => simp
  | cons r rs =>
    intro d hd
    show d ≤ rs.foldl mx r
    rcases List.mem_cons.1 hd with rfl | hd
    · exact foldl_mx_ge_init rs d
    · exact foldl_mx_ge_mem rs r d hd

/-- the default discount aggregator (max) over non-negative per-agent discounts: the aggregated discount is zero
exactly when EVERY agent's discount is zero ("if any single agent is alive, the discount value won't be zero") -/
theorem maxAgg_zero_iff (ds : List Rat) (hne : ds ≠ []) (h0 : ∀ d ∈ ds, 0 ≤ d) :
    maxAgg ds = 0 ↔ ∀ d ∈ ds, d = 0 := by
  constructor
  · intro hm d hd
    have h1 := maxAgg_ge ds d hd
    rw [hm] at h1
    exact Rat.le_antisymm h1 (h0 d hd)
  · intro hall
    exact hall _ (maxAgg_mem ds hne)

theorem sumAgg_nil : sumAgg [] = 0 := rfl

private theorem foldl_add (l : List Rat) (r : Rat) : l.foldl (· + ·) r = r + l.foldl (· + ·) 0 := by
  induction l generalizing r with
  | nil => simp [Rat.add_zero]
  | cons b l ih =>
    simp only [List.foldl_cons]
    rw [ih (r + b), ih (0 + b), Rat.zero_add, Rat.add_assoc]

theorem sumAgg_cons (r : Rat) (rs : List Rat) : sumAgg (r :: rs) = r + sumAgg rs := by
  unfold sumAgg
  simp only [List.foldl_cons]
  rw [foldl_add, Rat.zero_add]

end MultiToSingle

/-! ### JumanjiToDMEnvWrapper -/
namespace DmEnv
variable (E : Env S A O R X)

/-- the first timestep: FIRST, no reward, no discount, the observation of `env.reset(split(key)[0])`;
the adapter keeps `split(key)[1]` and the new environment state -/
theorem reset_first (st : St S) :
    (run1 E st .reset).2 =
      .ts { stepType := .first, reward := none, discount := none, obs := (E.reset (.left st.key)).2.obs } ∧
    (run1 E st .reset).1.key = .right st.key ∧
    (run1 E st .reset).1.state = some (E.reset (.left st.key)).1 := by
  simp [run1, restart]

/-- a step relays step type, reward, discount and observation of the native step unchanged (LAST is LAST
whether the episode was terminated or truncated: the native discount tells which) -/
theorem step_relays (st : St S) (s : S) (a : A) (hs : st.state = some s) :
    (run1 E st (.step a)).2 =
      .ts { stepType := (E.step s a).2.stepType, reward := some (E.step s a).2.reward,
            discount := some (E.step s a).2.discount, obs := (E.step s a).2.obs } ∧
    (run1 E st (.step a)).1.state = some (E.step s a).1 ∧
    (run1 E st (.step a)).1.key = st.key := by
  simp [run1, hs]

def countResets : List (Op A) → Nat
  | [] => 0
  | .reset :: ops => countResets ops + 1
  | .step _ :: ops => countResets ops

theorem key_after (st : St S) (ops : List (Op A)) :
    (runAll E st ops).key = Gym.rightN (countResets ops) st.key := by
  induction ops generalizing st with
  | nil => rfl
  | cons op ops ih =>
    cases op with
    | reset =>
      simp only [runAll, countResets]
      rw [ih]
      simp [run1, Gym.rightN]
    | step a =>
      simp only [runAll, countResets]
      rw [ih]
      simp only [run1]
      cases st.state <;> rfl

/-- "re-seeding" a dm_env adapter = constructing it with the key again.  Whatever an adapter did before,
from its next `reset` on its outputs depend only on its key -/
theorem reseed_reproducible (st st' : St S) (hk : st.key = st'.key) (ops : List (Op A)) :
    trace E st (.reset :: ops) = trace E st' (.reset :: ops) := by
  have h : run1 E st .reset = run1 E st' .reset := by simp [run1, hk]
  simp only [trace, h]

theorem trace_append (st : St S) (xs ys : List (Op A)) :
    trace E st (xs ++ ys) = trace E st xs ++ trace E (runAll E st xs) ys := by
  induction xs generalizing st with
  | nil => rfl
  | cons x xs ih => simp only [List.cons_append, trace, runAll, ih]

/-- what the adapter makes of a native transition -/
def relay (p : S × TS O R X) : Out O R :=
  .ts { stepType := p.2.stepType, reward := some p.2.reward, discount := some p.2.discount, obs := p.2.obs }

theorem trace_steps (st : St S) (s : S) (hs : st.state = some s) (as : List A) :
    trace E st (as.map .step) = (rollout E s as).map relay ∧
    (runAll E st (as.map .step)).key = st.key := by
  induction as generalizing st s with
  | nil => exact ⟨rfl, rfl⟩
  | cons a as ih =>
    obtain ⟨h1, h2, h3⟩ := step_relays E st s a hs
    simp only [List.map_cons, trace, runAll, rollout]
    obtain ⟨i1, i2⟩ := ih (run1 E st (.step a)).1 (E.step s a).1 h2
    rw [i1, i2, h3, h1]
    exact ⟨rfl, rfl⟩

/-- the calls of one episode / what the native API gives for it -/
def episodeOps (as : List A) : List (Op A) := .reset :: as.map .step
def episodeOut (key : Key) (as : List A) : List (Out O R) :=
  .ts (restart (E.reset key).2.obs) :: (rollout E (E.reset key).1 as).map relay
def nativeTrace (k : Key) : Nat → List (List A) → List (Out O R)
  | _, [] => []
  | i, as :: eps => episodeOut E (resetKey k i) as ++ nativeTrace k (i+1) eps

theorem trace_eq_native_aux (k : Key) (eps : List (List A)) (i : Nat) (st : St S) (hk : st.key = Gym.rightN i k) :
    trace E st (eps.flatMap episodeOps) = nativeTrace E k i eps := by
  induction eps generalizing i st with
  | nil => rfl
  | cons as eps ih =>
    simp only [List.flatMap_cons, nativeTrace]
    rw [trace_append]
    obtain ⟨r1, r2, r3⟩ := reset_first E st
    have hst := trace_steps E (run1 E st .reset).1 _ r3 as
    congr 1
    · simp only [episodeOps, trace, episodeOut, r1, hst.1, resetKey, hk, restart]
    · apply ih (i+1)
      simp only [episodeOps, runAll]
      rw [hst.2, r2, hk, Gym.rightN_succ]

/-- driving an environment through the adapter for any number of episodes (each a `reset` followed by any
steps) yields exactly the native API's outputs under the key schedule `resetKey k 0, resetKey k 1, …` -/
theorem trace_eq_native (k : Key) (eps : List (List A)) :
    trace E (init k) (eps.flatMap episodeOps) = nativeTrace E k 0 eps :=
  trace_eq_native_aux E k eps 0 (init k) rfl

end DmEnv

end Wr
