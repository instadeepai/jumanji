/- C11: a wiring expression that `honours` its argument hands a positive `time_limit` on unchanged; `arg or b` is `b`
   when the argument is `None` (Python truthiness). -/
import JumanjiModel.Core.TimeLimit
namespace TL

theorem honours_eval (e : PyExpr) (h : e.honours = true) (attrs : String → Nat) (tl : Nat) (htl : 0 < tl) :
    e.eval attrs (.int tl) = some (.int tl) := by
  cases e with
  | arg => rfl
  | or a b =>
    cases a <;> simp [PyExpr.honours] at h
    simp [PyExpr.eval, PyVal.truthy]; omega
  | _ => simp [PyExpr.honours] at h

theorem honours_default (b : PyExpr) (attrs : String → Nat) :
    (PyExpr.or .arg b).eval attrs .none = b.eval attrs .none := by
  simp [PyExpr.eval, PyVal.truthy]

end TL
