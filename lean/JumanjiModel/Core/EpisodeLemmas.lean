/-
The generic episode-level time-limit theorems (C11, C01) over an abstract step system
(`Core/Episode.lean`): its iterations are plays (`Core/Play.lean`), and the theorems are read off those.
Instantiated for the L1 environment models in `Props/EpisodeInstances.lean`.
At the end, `PkS.rollout_inv_idx`: an indexed invariant of the step holds, with its index, in every entry of a rollout
(the `rollout_obs_valid` theorems of the environments are its instances).
-/
import JumanjiModel.Core.Episode
import JumanjiModel.Core.Play
namespace Ep
open Jm
variable {S A O : Type}

theorem rollout_eq_run (stp : S → A → S × TimeStep O) (s : S) (as : List A) : rollout stp s as = EpRun.run stp s as :=
  EpRun.run_unique stp (rollout stp) (fun _ => rfl) (fun _ _ _ => rfl) s as

theorem Sys.run_eq_after (M : Sys S A) (s : S) (as : List A) :
    M.run s as = EpRun.after (fun s a => (M.step s a, M.last s a)) s as :=
  EpRun.after_unique _ M.run (fun _ => rfl) (fun _ _ _ => rfl) s as

theorem stateAt_ofStep (stp : S → A → S × TimeStep O) (cnt : S → Int) (s : S) (as : List A) (j : Nat) :
    (ofStep stp cnt).stateAt s as j = EpRun.after stp s (as.take j) :=
  EpRun.after_unique stp (ofStep stp cnt).run (fun _ => rfl) (fun _ _ _ => rfl) s _

@[simp] theorem stateAt_zero (M : Sys S A) (s : S) (as : List A) : M.stateAt s as 0 = s := by
  simp [Sys.stateAt, Sys.run]

@[simp] theorem stateAt_cons_succ (M : Sys S A) (s : S) (a : A) (as : List A) (j : Nat) :
    M.stateAt s (a :: as) (j + 1) = M.stateAt (M.step s a) as j := by
  simp [Sys.stateAt, Sys.run]

@[simp] theorem lastAt_zero (M : Sys S A) (s : S) (as : List A) : M.lastAt s as 0 = false := rfl

@[simp] theorem lastAt_nil (M : Sys S A) (s : S) (j : Nat) : M.lastAt s [] j = false := by
  cases j <;> simp [Sys.lastAt]

@[simp] theorem lastAt_cons_one (M : Sys S A) (s : S) (a : A) (as : List A) :
    M.lastAt s (a :: as) 1 = M.last s a := by
  simp [Sys.lastAt]

@[simp] theorem lastAt_cons_succ_succ (M : Sys S A) (s : S) (a : A) (as : List A) (j : Nat) :
    M.lastAt s (a :: as) (j + 2) = M.lastAt (M.step s a) as (j + 1) := by
  simp [Sys.lastAt]

theorem stateAt_succ (M : Sys S A) (s : S) (as : List A) (j : Nat) (hj : j < as.length) :
    M.stateAt s as (j + 1) = M.step (M.stateAt s as j) as[j] := by
  unfold Sys.stateAt
  rw [M.run_eq_after, M.run_eq_after, EpRun.after_take_succ _ s as j hj]

theorem lastAt_succ (M : Sys S A) (s : S) (as : List A) (j : Nat) (hj : j < as.length) :
    M.lastAt s as (j + 1) = M.last (M.stateAt s as j) as[j] := by
  simp [Sys.lastAt, List.getElem?_eq_getElem hj]

theorem lastAt_le_length (M : Sys S A) (s : S) (as : List A) (j : Nat) (h : M.lastAt s as j = true) :
    0 < j ∧ j ≤ as.length := by
  cases j with
  | zero => simp at h
  | succ j =>
    simp only [Sys.lastAt] at h
    cases hj : as[j]? with
    | none => simp [hj] at h
    | some a =>
      have := (List.getElem?_eq_some_iff.1 hj).1
      omega

theorem firstLast_sound (M : Sys S A) (s : S) (as : List A) (k : Nat) (h : M.firstLast s as = some k) :
    0 < k ∧ M.lastAt s as k = true ∧ ∀ j, 0 < j → j < k → M.lastAt s as j = false := by
  induction as generalizing s k with
  | nil => simp [Sys.firstLast] at h
  | cons a as ih =>
    unfold Sys.firstLast at h
    split at h
    next hl =>
      obtain rfl : 1 = k := by simpa using h
      exact ⟨by omega, by simpa using hl, fun j h1 h2 => by omega⟩
    next hl =>
      obtain ⟨k', hk', rfl⟩ := Option.map_eq_some_iff.1 h
      obtain ⟨h0, h1, h2⟩ := ih _ _ hk'
      obtain ⟨k'', rfl⟩ : ∃ k'', k' = k'' + 1 := ⟨k' - 1, by omega⟩
      refine ⟨by omega, by simpa using h1, fun j hj0 hjk => ?_⟩
      match j, hj0 with
      | 1, _ => simpa using hl
      | j' + 2, _ =>
        rw [lastAt_cons_succ_succ]
        exact h2 (j' + 1) (by omega) (by omega)

theorem firstLast_of_lastAt (M : Sys S A) (s : S) (as : List A) (n : Nat) (h : M.lastAt s as n = true) :
    ∃ k, M.firstLast s as = some k ∧ 0 < k ∧ k ≤ n := by
  induction as generalizing s n with
  | nil => simp at h
  | cons a as ih =>
    unfold Sys.firstLast
    split
    next hl =>
      have := (lastAt_le_length M s (a :: as) n h).1
      exact ⟨1, rfl, by omega, by omega⟩
    next hl =>
      match n, h with
      | 1, h => exact absurd (by simpa using h) hl
      | n' + 2, h =>
        rw [lastAt_cons_succ_succ] at h
        obtain ⟨k, hk, h0, hle⟩ := ih _ _ h
        exact ⟨k + 1, by simp [hk], by omega, by omega⟩

theorem firstLast_spec (M : Sys S A) (s : S) (as : List A) (k : Nat) :
    M.firstLast s as = some k ↔
      (0 < k ∧ M.lastAt s as k = true ∧ ∀ j, 0 < j → j < k → M.lastAt s as j = false) := by
  refine ⟨firstLast_sound M s as k, fun ⟨_, h1, h2⟩ => ?_⟩
  -- the first LAST step `k'` is not later than `k`, and not earlier since no step before `k` emits LAST
  obtain ⟨k', hk', h0', hle⟩ := firstLast_of_lastAt M s as k h1
  have h1' := (firstLast_sound M s as k' hk').2.1
  have : ¬ k' < k := fun hlt => by
    rw [h2 k' h0' hlt] at h1'
    cases h1'
  rw [hk', show k' = k by omega]

theorem firstLast_none (M : Sys S A) (s : S) (as : List A) :
    M.firstLast s as = none ↔ ∀ j, M.lastAt s as j = false := by
  constructor
  · intro h j
    cases hj : M.lastAt s as j with
    | false => rfl
    | true =>
      obtain ⟨k, hk, _⟩ := firstLast_of_lastAt M s as j hj
      rw [h] at hk; cases hk
  · intro h
    cases hk : M.firstLast s as with
    | none => rfl
    | some k =>
      have := (firstLast_sound M s as k hk).2.1
      rw [h k] at this; cases this

theorem cmpHolds_horizon (cmp : TL.Cmp) (hc : cmp ≠ .other) (T : Int) :
    cmpHolds cmp (cmpHorizon cmp T) T = true := by
  cases cmp <;> simp [cmpHolds, cmpHorizon] at * <;> omega

theorem cmpHolds_before (cmp : TL.Cmp) (T c : Int) (h : c < cmpHorizon cmp T) : cmpHolds cmp c T = false := by
  cases cmp <;> simp [cmpHolds, cmpHorizon] at * <;> omega

theorem le_cmpHorizon (cmp : TL.Cmp) (T : Int) : T ≤ cmpHorizon cmp T := by
  cases cmp <;> simp [cmpHorizon] <;> omega

@[simp] theorem cmpHolds_ge (c T : Int) : (cmpHolds .ge c T = true) ↔ T ≤ c := by simp [cmpHolds]
@[simp] theorem cmpHorizon_ge (T : Int) : cmpHorizon .ge T = T := rfl
@[simp] theorem cmpHorizon_gt (T : Int) : cmpHorizon .gt T = T + 1 := rfl

theorem Exact.toLimited {M : Sys S A} {Inv : S → Prop} {other : S → A → Prop} {cmp : TL.Cmp} {T : Int}
    (h : Exact M Inv other cmp T) : Limited M Inv cmp T :=
  ⟨h.inv_step, h.count_step, fun s a hi hc => (h.last_iff s a hi).2 (Or.inr hc)⟩

theorem count_stateAt {M : Sys S A} {Inv : S → Prop} {cmp : TL.Cmp} {T : Int} (h : Limited M Inv cmp T)
    (s : S) (hi : Inv s) (as : List A) (j : Nat) (hj : j ≤ as.length) :
    Inv (M.stateAt s as j) ∧ M.count (M.stateAt s as j) = M.count s + j := by
  have := (EpRun.along_true (fun s a => (M.step s a, M.last s a)) s (as.take j)).inv_idx (n := 0)
    (fun n t => Inv t ∧ M.count t = M.count s + n) ⟨hi, by simp⟩
    fun n t a ht _ => ⟨h.inv_step t a ht.1, by rw [h.count_step t a ht.1, ht.2]; omega⟩
  rwa [List.length_take, Nat.min_eq_left hj, Nat.zero_add, ← M.run_eq_after] at this

theorem lastAt_of_cmpHolds {M : Sys S A} {Inv : S → Prop} {cmp : TL.Cmp} {T : Int} (h : Limited M Inv cmp T)
    (s : S) (hi : Inv s) (as : List A) (n : Nat) (hn : n < as.length)
    (hc : cmpHolds cmp (M.count s + n + 1) T = true) : M.lastAt s as (n + 1) = true := by
  obtain ⟨hin, hcn⟩ := count_stateAt h s hi as n (by omega)
  rw [lastAt_succ M s as n hn]
  exact h.limit_last _ _ hin (by rw [hcn]; exact hc)

theorem lastAt_iff {M : Sys S A} {Inv : S → Prop} {other : S → A → Prop} {cmp : TL.Cmp} {T : Int}
    (h : Exact M Inv other cmp T) (s : S) (hi : Inv s) (as : List A) (n : Nat) (hn : n < as.length) :
    M.lastAt s as (n + 1) = true ↔
      (other (M.stateAt s as n) as[n] ∨ cmpHolds cmp (M.count s + n + 1) T = true) := by
  obtain ⟨hin, hcn⟩ := count_stateAt h.toLimited s hi as n (by omega)
  rw [lastAt_succ M s as n hn, h.last_iff _ _ hin, hcn]

/-- NEVER LATER: the step that brings the counter to the horizon `H` (`T` for `>=` and `==`, `T + 1` for `>`) emits LAST. -/
theorem lastAt_horizon_from {M : Sys S A} {Inv : S → Prop} {cmp : TL.Cmp} {T : Int} (h : Limited M Inv cmp T)
    (hc : cmp ≠ .other) (s : S) (hi : Inv s) (h0 : M.count s < cmpHorizon cmp T) (as : List A)
    (hlen : cmpHorizon cmp T - M.count s ≤ as.length) :
    M.lastAt s as (cmpHorizon cmp T - M.count s).toNat = true := by
  obtain ⟨n, hn⟩ : ∃ n : Nat, M.count s + n + 1 = cmpHorizon cmp T := ⟨(cmpHorizon cmp T - M.count s - 1).toNat, by omega⟩
  rw [show (cmpHorizon cmp T - M.count s).toNat = n + 1 by omega]
  apply lastAt_of_cmpHolds h s hi as n (by omega)
  rw [hn]
  exact cmpHolds_horizon cmp hc T

theorem ends_by_horizon_from {M : Sys S A} {Inv : S → Prop} {cmp : TL.Cmp} {T : Int} (h : Limited M Inv cmp T)
    (hc : cmp ≠ .other) (s : S) (hi : Inv s) (h0 : M.count s < cmpHorizon cmp T) (as : List A)
    (hlen : cmpHorizon cmp T - M.count s ≤ as.length) :
    ∃ k, M.firstLast s as = some k ∧ 0 < k ∧ M.count s + (k : Int) ≤ cmpHorizon cmp T ∧
      M.lastAt s as k = true ∧ ∀ j, 0 < j → j < k → M.lastAt s as j = false := by
  obtain ⟨k, hk, hk0, hkle⟩ := firstLast_of_lastAt M s as _ (lastAt_horizon_from h hc s hi h0 as hlen)
  obtain ⟨_, h2, h3⟩ := firstLast_sound M s as k hk
  exact ⟨k, hk, hk0, by omega, h2, h3⟩

/-- NEVER EARLIER, unless another cause (`hno`) ends the episode first. -/
theorem ends_exactly_at_horizon_from {M : Sys S A} {Inv : S → Prop} {other : S → A → Prop} {cmp : TL.Cmp} {T : Int}
    (h : Exact M Inv other cmp T) (hc : cmp ≠ .other) (s : S) (hi : Inv s) (h0 : M.count s < cmpHorizon cmp T)
    (as : List A) (hlen : cmpHorizon cmp T - M.count s ≤ as.length)
    (hno : ∀ (j : Nat) (a : A), M.count s + (j : Int) + 1 < cmpHorizon cmp T → as[j]? = some a →
      ¬ other (M.stateAt s as j) a) :
    M.firstLast s as = some (cmpHorizon cmp T - M.count s).toNat := by
  refine (firstLast_spec M s as _).2 ⟨by omega, lastAt_horizon_from h.toLimited hc s hi h0 as hlen, ?_⟩
  intro j hj0 hjH
  obtain ⟨n, rfl⟩ : ∃ n, j = n + 1 := ⟨j - 1, by omega⟩
  have hn : n < as.length := by omega
  cases hl : M.lastAt s as (n + 1) with
  | false => rfl
  | true =>
    rcases (lastAt_iff h s hi as n hn).1 hl with ho | hcm
    · exact absurd ho (hno n _ (by omega) (List.getElem?_eq_getElem hn))
    · rw [cmpHolds_before cmp T _ (by omega)] at hcm
      cases hcm

/-! the same from a start state with counter 0 (every `reset` state) and a positive limit -/

theorem lastAt_horizon {M : Sys S A} {Inv : S → Prop} {cmp : TL.Cmp} {T : Int} (h : Limited M Inv cmp T)
    (hc : cmp ≠ .other) (hT : 0 < T) (s : S) (hi : Inv s) (h0 : M.count s = 0) (as : List A)
    (hlen : cmpHorizon cmp T ≤ as.length) :
    M.lastAt s as (cmpHorizon cmp T).toNat = true := by
  have hH := le_cmpHorizon cmp T
  simpa [h0] using lastAt_horizon_from h hc s hi (by omega) as (by omega)

theorem ends_by_horizon {M : Sys S A} {Inv : S → Prop} {cmp : TL.Cmp} {T : Int} (h : Limited M Inv cmp T)
    (hc : cmp ≠ .other) (hT : 0 < T) (s : S) (hi : Inv s) (h0 : M.count s = 0) (as : List A)
    (hlen : cmpHorizon cmp T ≤ as.length) :
    ∃ k, M.firstLast s as = some k ∧ 0 < k ∧ (k : Int) ≤ cmpHorizon cmp T ∧
      M.lastAt s as k = true ∧ ∀ j, 0 < j → j < k → M.lastAt s as j = false := by
  have hH := le_cmpHorizon cmp T
  simpa [h0] using ends_by_horizon_from h hc s hi (by omega) as (by omega)

theorem ends_exactly_at_horizon {M : Sys S A} {Inv : S → Prop} {other : S → A → Prop} {cmp : TL.Cmp} {T : Int}
    (h : Exact M Inv other cmp T) (hc : cmp ≠ .other) (hT : 0 < T) (s : S) (hi : Inv s) (h0 : M.count s = 0)
    (as : List A) (hlen : cmpHorizon cmp T ≤ as.length)
    (hno : ∀ (j : Nat) (a : A), (j : Int) + 1 < cmpHorizon cmp T → as[j]? = some a → ¬ other (M.stateAt s as j) a) :
    M.firstLast s as = some (cmpHorizon cmp T).toNat := by
  have hH := le_cmpHorizon cmp T
  simpa [h0] using ends_exactly_at_horizon_from h hc s hi (by omega) as (by omega)
    (fun j a hj => hno j a (by omega))

/-- COUNTER WITHIN THE LIMIT, up to and including the state the first LAST step produces. -/
theorem count_within_horizon {M : Sys S A} {Inv : S → Prop} {cmp : TL.Cmp} {T : Int} (h : Limited M Inv cmp T)
    (hc : cmp ≠ .other) (hT : 0 < T) (s : S) (hi : Inv s) (h0 : M.count s = 0) (as : List A)
    (hlen : cmpHorizon cmp T ≤ as.length) :
    ∃ k, M.firstLast s as = some k ∧ ∀ j, j ≤ k →
      M.count (M.stateAt s as j) = j ∧ 0 ≤ M.count (M.stateAt s as j) ∧
        M.count (M.stateAt s as j) ≤ cmpHorizon cmp T := by
  obtain ⟨k, hk, _, hkle, hl, _⟩ := ends_by_horizon h hc hT s hi h0 as hlen
  refine ⟨k, hk, fun j hj => ?_⟩
  have hklen := (lastAt_le_length M s as k hl).2
  have := (count_stateAt h s hi as j (by omega)).2
  omega

/-- the same for action lists of any length, also shorter than the limit -/
theorem count_within_horizon_any {M : Sys S A} {Inv : S → Prop} {cmp : TL.Cmp} {T : Int} (h : Limited M Inv cmp T)
    (hc : cmp ≠ .other) (hT : 0 < T) (s : S) (hi : Inv s) (h0 : M.count s = 0) (as : List A)
    (j : Nat) (hj : j ≤ as.length) (hbefore : ∀ i, 0 < i → i < j → M.lastAt s as i = false) :
    M.count (M.stateAt s as j) = j ∧ (j : Int) ≤ cmpHorizon cmp T := by
  have hcnt := (count_stateAt h s hi as j hj).2
  refine ⟨by omega, Int.not_lt.1 fun hlt => ?_⟩
  -- otherwise step number H < j would have been LAST
  have hH := le_cmpHorizon cmp T
  have hlast := lastAt_horizon h hc hT s hi h0 as (by omega)
  rw [hbefore _ (by omega) (by omega)] at hlast
  cases hlast

/-! ### the `>=` instances (the comparison every shipped class uses, `Props.C11.table_ok`) -/

theorem ends_by_limit {M : Sys S A} {Inv : S → Prop} {T : Int} (h : Limited M Inv .ge T)
    (hT : 0 < T) (s : S) (hi : Inv s) (h0 : M.count s = 0) (as : List A) (hlen : T ≤ as.length) :
    ∃ k, M.firstLast s as = some k ∧ 0 < k ∧ (k : Int) ≤ T ∧
      M.lastAt s as k = true ∧ ∀ j, 0 < j → j < k → M.lastAt s as j = false :=
  ends_by_horizon h (by decide) hT s hi h0 as hlen

theorem ends_exactly_at_limit {M : Sys S A} {Inv : S → Prop} {other : S → A → Prop} {T : Int}
    (h : Exact M Inv other .ge T) (hT : 0 < T) (s : S) (hi : Inv s) (h0 : M.count s = 0)
    (as : List A) (hlen : T ≤ as.length)
    (hno : ∀ (j : Nat) (a : A), (j : Int) + 1 < T → as[j]? = some a → ¬ other (M.stateAt s as j) a) :
    M.firstLast s as = some T.toNat :=
  ends_exactly_at_horizon h (by decide) hT s hi h0 as hlen hno

theorem count_within_limit {M : Sys S A} {Inv : S → Prop} {T : Int} (h : Limited M Inv .ge T)
    (hT : 0 < T) (s : S) (hi : Inv s) (h0 : M.count s = 0) (as : List A) (hlen : T ≤ as.length) :
    ∃ k, M.firstLast s as = some k ∧ ∀ j, j ≤ k →
      M.count (M.stateAt s as j) = j ∧ 0 ≤ M.count (M.stateAt s as j) ∧ M.count (M.stateAt s as j) ≤ T :=
  count_within_horizon h (by decide) hT s hi h0 as hlen

theorem rollout_length (stp : S → A → S × TimeStep O) (s : S) (as : List A) :
    (rollout stp s as).length = as.length := by
  rw [rollout_eq_run, EpRun.run_length]

theorem rollout_getElem? (stp : S → A → S × TimeStep O) (cnt : S → Int) (s : S) (as : List A) (j : Nat) :
    (rollout stp s as)[j]? = as[j]?.map (fun a => stp ((ofStep stp cnt).stateAt s as j) a) := by
  rw [rollout_eq_run, stateAt_ofStep]
  by_cases hj : j < as.length
  · rw [EpRun.run_get stp s as j hj, List.getElem?_eq_getElem hj]; rfl
  · rw [List.getElem?_eq_none (by rw [EpRun.run_length]; omega), List.getElem?_eq_none (by omega)]; rfl

theorem lastAt_ofStep_iff (stp : S → A → S × TimeStep O) (cnt : S → Int) (s : S) (as : List A) (j : Nat) :
    (ofStep stp cnt).lastAt s as (j + 1) = true ↔ ∃ e, (rollout stp s as)[j]? = some e ∧ e.2.stepType = .last := by
  rw [rollout_getElem? stp cnt, Sys.lastAt]
  cases as[j]? <;> simp [ofStep]

theorem firstLast_ofStep (stp : S → A → S × TimeStep O) (cnt : S → Int) (s : S) (as : List A) :
    firstLastTS ((rollout stp s as).map (·.2)) = (ofStep stp cnt).firstLast s as := by
  induction as generalizing s with
  | nil => rfl
  | cons a as ih =>
    simp only [rollout, List.map_cons, firstLastTS, Sys.firstLast, ih]
    rfl


theorem firstLastTS_eq_findIdx (l : List (TimeStep O)) :
    firstLastTS l = (l.findIdx? (fun t => t.stepType == .last)).map (· + 1) := by
  induction l with
  | nil => rfl
  | cons t l ih => simp only [firstLastTS, List.findIdx?_cons, ih]; split <;> rfl

theorem firstLastTS_run_eq_findIdx (l : List (S × TimeStep O)) :
    firstLastTS (l.map (·.2)) = (l.findIdx? (fun r => decide (r.2.stepType = .last))).map (· + 1) := by
  rw [firstLastTS_eq_findIdx, List.findIdx?_map]
  rfl

theorem firstLastTS_spec (l : List (TimeStep O)) (k : Nat) :
    firstLastTS l = some k ↔
      (0 < k ∧ (∃ ts, l[k - 1]? = some ts ∧ ts.stepType = .last) ∧
        ∀ j ts, j + 1 < k → l[j]? = some ts → ts.stepType ≠ .last) := by
  rw [firstLastTS_eq_findIdx]
  cases k with
  | zero => simp
  | succ k =>
    simp only [Option.map_eq_some_iff, Nat.add_right_cancel_iff, exists_eq_right, List.findIdx?_eq_some_iff_getElem,
      beq_iff_eq, Nat.add_sub_cancel, Nat.add_lt_add_iff_right, Nat.zero_lt_succ, true_and]
    constructor
    · rintro ⟨h, hk, hlt⟩
      refine ⟨⟨l[k], List.getElem?_eq_getElem h, hk⟩, fun j ts hj hts => ?_⟩
      obtain ⟨_, rfl⟩ := List.getElem?_eq_some_iff.1 hts
      exact hlt j hj
    · rintro ⟨⟨ts, hts, hl⟩, hb⟩
      obtain ⟨h, rfl⟩ := List.getElem?_eq_some_iff.1 hts
      exact ⟨h, hl, fun j hj => hb j l[j] hj (List.getElem?_eq_getElem (by omega))⟩

theorem Limited.of_step {stp : S → A → S × TimeStep O} {cnt : S → Int} {Inv : S → Prop} {T : Int}
    (hinv : ∀ s a, Inv s → Inv (stp s a).1)
    (hcnt : ∀ s a, Inv s → cnt (stp s a).1 = cnt s + 1)
    (hlast : ∀ s a, Inv s → T ≤ cnt s + 1 → (stp s a).2.stepType = .last) :
    Limited (ofStep stp cnt) Inv .ge T :=
  ⟨hinv, hcnt, fun s a hi hc => by
    have hc' : T ≤ cnt s + 1 := (cmpHolds_ge _ _).1 hc
    have := hlast s a hi hc'
    simp [ofStep, this]⟩

theorem Exact.of_step {stp : S → A → S × TimeStep O} {cnt : S → Int} {Inv : S → Prop} {other : S → A → Prop}
    {T : Int}
    (hinv : ∀ s a, Inv s → Inv (stp s a).1)
    (hcnt : ∀ s a, Inv s → cnt (stp s a).1 = cnt s + 1)
    (hlast : ∀ s a, Inv s → ((stp s a).2.stepType = .last ↔ (other s a ∨ T ≤ cnt s + 1))) :
    Exact (ofStep stp cnt) Inv other .ge T :=
  ⟨hinv, hcnt, fun s a hi => by
    have := hlast s a hi
    simp only [ofStep, beq_iff_eq, cmpHolds_ge]
    exact this⟩

theorem rollout_ends_by_limit {stp : S → A → S × TimeStep O} {cnt : S → Int} {Inv : S → Prop} {T : Int}
    (h : Limited (ofStep stp cnt) Inv .ge T) (hT : 0 < T) (s : S) (hi : Inv s) (h0 : cnt s = 0)
    (as : List A) (hlen : T ≤ as.length) :
    ∃ k, firstLastTS ((rollout stp s as).map (·.2)) = some k ∧ 0 < k ∧ (k : Int) ≤ T := by
  obtain ⟨k, hk, h1, h2, _⟩ := ends_by_limit h hT s hi h0 as hlen
  exact ⟨k, by rw [firstLast_ofStep stp cnt]; exact hk, h1, h2⟩

theorem rollout_ends_exactly_at_limit {stp : S → A → S × TimeStep O} {cnt : S → Int} {Inv : S → Prop}
    {other : S → A → Prop} {T : Int}
    (h : Exact (ofStep stp cnt) Inv other .ge T) (hT : 0 < T) (s : S) (hi : Inv s) (h0 : cnt s = 0)
    (as : List A) (hlen : T ≤ as.length)
    (hno : ∀ (j : Nat) (a : A), (j : Int) + 1 < T → as[j]? = some a → ¬ other ((ofStep stp cnt).stateAt s as j) a) :
    firstLastTS ((rollout stp s as).map (·.2)) = some T.toNat := by
  rw [firstLast_ofStep stp cnt]; exact ends_exactly_at_limit h hT s hi h0 as hlen hno

theorem rollout_entry {stp : S → A → S × TimeStep O} {cnt : S → Int} {Inv : S → Prop} {cmp : TL.Cmp} {T : Int}
    (h : Limited (ofStep stp cnt) Inv cmp T) (s : S) (hi : Inv s) (as : List A) (j : Nat) (e : S × TimeStep O)
    (he : (rollout stp s as)[j]? = some e) :
    ∃ s' a, Inv s' ∧ e = stp s' a ∧ cnt e.1 = cnt s + j + 1 := by
  rw [rollout_getElem? stp cnt] at he
  obtain ⟨a, ha, rfl⟩ := Option.map_eq_some_iff.1 he
  obtain ⟨hj, rfl⟩ := List.getElem?_eq_some_iff.1 ha
  obtain ⟨hin, hcn⟩ := count_stateAt h s hi as j (by omega)
  exact ⟨_, _, hin, rfl, (h.count_step _ as[j] hin).trans (congrArg (· + 1) hcn)⟩

theorem rollout_count_within_limit {stp : S → A → S × TimeStep O} {cnt : S → Int} {Inv : S → Prop} {T : Int}
    (h : Limited (ofStep stp cnt) Inv .ge T) (hT : 0 < T) (s : S) (hi : Inv s) (h0 : cnt s = 0)
    (as : List A) (hlen : T ≤ as.length) :
    ∃ k, firstLastTS ((rollout stp s as).map (·.2)) = some k ∧
      ∀ j e, j < k → (rollout stp s as)[j]? = some e →
        cnt e.1 = (j : Int) + 1 ∧ 0 ≤ cnt e.1 ∧ cnt e.1 ≤ T := by
  obtain ⟨k, hk, _, hkT⟩ := rollout_ends_by_limit h hT s hi h0 as hlen
  refine ⟨k, hk, fun j e hj he => ?_⟩
  obtain ⟨_, _, _, _, hc⟩ := rollout_entry h s hi as j e he
  omega

theorem rollout_obs_count_within_limit {stp : S → A → S × TimeStep O} {cnt : S → Int} {Inv : S → Prop} {T : Int}
    (h : Limited (ofStep stp cnt) Inv .ge T) (ocnt : O → Int)
    (hobs : ∀ s a, Inv s → ocnt (stp s a).2.obs = cnt (stp s a).1)
    (hT : 0 < T) (s : S) (hi : Inv s) (h0 : cnt s = 0) (as : List A) (hlen : T ≤ as.length) :
    ∃ k, firstLastTS ((rollout stp s as).map (·.2)) = some k ∧
      ∀ j e, j < k → (rollout stp s as)[j]? = some e →
        ocnt e.2.obs = (j : Int) + 1 ∧ 0 ≤ ocnt e.2.obs ∧ ocnt e.2.obs ≤ T := by
  obtain ⟨k, hk, _, hkT⟩ := rollout_ends_by_limit h hT s hi h0 as hlen
  refine ⟨k, hk, fun j e hj he => ?_⟩
  obtain ⟨s', a, hi', rfl, hc⟩ := rollout_entry h s hi as j e he
  rw [hobs s' a hi']
  omega

/-! ### non-vacuity: a concrete system satisfying the hypotheses, for `>=` and for `>` -/
namespace Example
/-- states are the counter itself, an action is the flag "another cause ends the episode now" -/
def toy (cmp : TL.Cmp) (T : Int) : Sys Int Bool :=
  { step := fun s _ => s + 1, last := fun s a => a || cmpHolds cmp (s + 1) T, count := id }

theorem toy_exact (cmp : TL.Cmp) (T : Int) : Exact (toy cmp T) (fun _ => True) (fun _ a => a = true) cmp T :=
  ⟨fun _ _ h => h, fun _ _ _ => rfl, fun s a _ => by simp [toy]⟩

-- limit 3, five actions without another cause: the first LAST is step 3 (by the theorem, then by evaluation)
example : (toy .ge 3).firstLast 0 [false, false, false, false, false] = some 3 :=
  ends_exactly_at_limit (toy_exact .ge 3) (by decide) 0 trivial rfl _ (by decide)
    (fun j a _ ha hb => by
      have := List.mem_of_getElem? ha
      simp [hb] at this)
example : (toy .ge 3).firstLast 0 [false, false, false, false, false] = some 3 := by decide
-- another cause at step 2: earlier, still within the limit
example : (toy .ge 3).firstLast 0 [false, true, false, false] = some 2 := by decide
example : ∃ k, (toy .ge 3).firstLast 0 [false, true, false, false] = some k ∧ 0 < k ∧ (k : Int) ≤ 3 := by
  obtain ⟨k, h, h0, h1, _⟩ := ends_by_limit (toy_exact .ge 3).toLimited (by decide) 0 trivial rfl
    [false, true, false, false] (by decide)
  exact ⟨k, h, h0, h1⟩
-- with the strict comparison `>`: one step late
example : (toy .gt 3).firstLast 0 [false, false, false, false, false] = some 4 := by decide
example : (List.range 4).map ((toy .ge 3).stateAt 0 [false, false, false, false, false]) = [0, 1, 2, 3] := by decide
end Example

end Ep

namespace PkS

theorem rollout_inv_idx {S A O : Type} (stp : S → A → S × Jm.TimeStep O) (Inv : Nat → S → Prop) (okA : A → Prop)
    (hstep : ∀ n s a, Inv n s → okA a → Inv (n + 1) (stp s a).1) (n : Nat) (s : S) (hs : Inv n s) (as : List A)
    (has : ∀ a ∈ as, okA a) (j : Nat) (e : S × Jm.TimeStep O) (he : (Ep.rollout stp s as)[j]? = some e) :
    ∃ s' a, Inv (n + j) s' ∧ okA a ∧ e = stp s' a := by
  rw [Ep.rollout_eq_run] at he
  have hal := (EpRun.along_iff_forall stp okA s as).2 has
  obtain ⟨hj, hQ, rfl⟩ := (hal.take j).entry he Inv hs hstep
  exact ⟨_, _, hQ, hal.get hj, rfl⟩

end PkS
