/-
Plays of a step function.  A play of `f : S → A → S × T` (an L1 `step` with its parameters fixed; `T` is the type of what a
step emits) from `s` over the actions `as` has the trace `run f s as`, the list of (successor state, emitted value) pairs, and the
final state `after f s as`; like the implementation it goes on past a LAST step.  `Along f adm s as` says that every action is
admissible (`adm`) in the state in which it is played.  What holds "along a play" is one of three statements, each proved here
by its one induction over the action list: an invariant (`Along.inv_idx`), a return (`after_sum_add`), a simulation
(`Along.congr`; `Along.induction` is the principle behind it, for statements of another form).
An environment's own iteration (`runState`, `run`, `runReturn`, `ValidPlay`, …) can be tied to `after`, `run`, the sum over the
trace or `Along` by the `*_unique` lemmas, whose hypotheses hold by `rfl`; its whole-play lemmas are then instances.  This is
done for Cleaner, Connector, Game2048, LBF, RobotWarehouse, RubiksCube, SlidingTilePuzzle, `Ep.Sys.run` and `Ep.rollout`
(Core/EpisodeLemmas.lean) and Env/EpisodeLimit.lean; the other environments prove their whole-play lemmas by their own inductions.
In every `Along.*` lemma the play hypothesis comes first and the single-step fact last: while `f` and `adm` are unknown the
unifier unfolds the environment's `step` to find them, which is a thousand times slower.
-/
namespace EpRun
variable {S A T : Type}

/-- play the actions `as` from `s`: the list of (successor state, timestep) pairs -/
def run (f : S → A → S × T) : S → List A → List (S × T)
  | _, [] => []
  | s, a :: as => f s a :: run f (f s a).1 as

/-- the state after playing `as` from `s` -/
def after (f : S → A → S × T) : S → List A → S
  | s, [] => s
  | s, a :: as => after f (f s a).1 as

/-- no transition with index `< k` is LAST -/
def NoLastBefore (f : S → A → S × T) (last : T → Prop) (s : S) (as : List A) (k : Nat) : Prop :=
  ∀ j p, j < k → (run f s as)[j]? = some p → ¬ last p.2

theorem run_length (f : S → A → S × T) (s : S) (as : List A) : (run f s as).length = as.length := by
  induction as generalizing s with
  | nil => rfl
  | cons a as ih => simp [run, ih]

theorem run_get (f : S → A → S × T) (s : S) (as : List A) (k : Nat) (hk : k < as.length) :
    (run f s as)[k]? = some (f (after f s (as.take k)) as[k]) := by
  induction as generalizing s k with
  | nil => simp at hk
  | cons a as ih =>
    cases k with
    | zero => simp [run, after]
    | succ k =>
      simp only [run, List.getElem?_cons_succ, List.take_succ_cons, after, List.getElem_cons_succ]
      exact ih _ k (by simpa using hk)

theorem run_get_lt (f : S → A → S × T) (s : S) (as : List A) (k : Nat) (p : S × T)
    (h : (run f s as)[k]? = some p) : k < as.length := by
  have := (List.getElem?_eq_some_iff.1 h).1
  rwa [run_length] at this

theorem run_get_eq (f : S → A → S × T) (s : S) (as : List A) (k : Nat) (p : S × T)
    (h : (run f s as)[k]? = some p) :
    ∃ hk : k < as.length, p = f (after f s (as.take k)) as[k] := by
  have hk := run_get_lt f s as k p h
  refine ⟨hk, ?_⟩
  rw [run_get f s as k hk] at h
  exact (Option.some.inj h).symm

theorem after_take_succ (f : S → A → S × T) (s : S) (as : List A) (k : Nat) (hk : k < as.length) :
    after f s (as.take (k + 1)) = (f (after f s (as.take k)) as[k]).1 := by
  induction as generalizing s k with
  | nil => simp at hk
  | cons a as ih =>
    cases k with
    | zero => simp [after]
    | succ k => simpa [after] using ih _ k (by simpa using hk)

theorem after_unique (f : S → A → S × T) (r : S → List A → S) (hnil : ∀ s, r s [] = s)
    (hcons : ∀ s a as, r s (a :: as) = r (f s a).1 as) (s : S) (as : List A) : r s as = after f s as := by
  induction as generalizing s with
  | nil => exact hnil s
  | cons a as ih => rw [hcons]; exact ih _

theorem run_unique (f : S → A → S × T) (r : S → List A → List (S × T)) (hnil : ∀ s, r s [] = [])
    (hcons : ∀ s a as, r s (a :: as) = f s a :: r (f s a).1 as) (s : S) (as : List A) : r s as = run f s as := by
  induction as generalizing s with
  | nil => exact hnil s
  | cons a as ih => rw [hcons, ih]; rfl

theorem sum_unique (f : S → A → S × T) (w : S × T → Rat) (r : S → List A → Rat) (hnil : ∀ s, r s [] = 0)
    (hcons : ∀ s a as, r s (a :: as) = w (f s a) + r (f s a).1 as) (s : S) (as : List A) :
    r s as = ((run f s as).map w).sum := by
  induction as generalizing s with
  | nil => exact hnil s
  | cons a as ih => rw [hcons, ih]; rfl

theorem after_eq_foldl (f : S → A → S × T) (s : S) (as : List A) :
    after f s as = as.foldl (fun s a => (f s a).1) s :=
  (after_unique f (fun s as => as.foldl (fun s a => (f s a).1) s) (fun _ => rfl) (fun _ _ _ => rfl) s as).symm

theorem run_map {B : Type} (f : S → A → S × T) (g : B → A) (s : S) (bs : List B) :
    run f s (bs.map g) = run (fun s b => f s (g b)) s bs :=
  run_unique _ (fun s bs => run f s (bs.map g)) (fun _ => rfl) (fun _ _ _ => rfl) s bs

theorem after_map {B : Type} (f : S → A → S × T) (g : B → A) (s : S) (bs : List B) :
    after f s (bs.map g) = after (fun s b => f s (g b)) s bs :=
  after_unique _ (fun s bs => after f s (bs.map g)) (fun _ => rfl) (fun _ _ _ => rfl) s bs

theorem states_unique (f : S → A → S × T) (r : S → List A → List S) (hnil : ∀ s, r s [] = [s])
    (hcons : ∀ s a as, r s (a :: as) = s :: r (f s a).1 as) (s : S) (as : List A) :
    r s as = s :: (run f s as).map (·.1) := by
  induction as generalizing s with
  | nil => exact hnil s
  | cons a as ih => rw [hcons, ih]; rfl

theorem states_getElem? (f : S → A → S × T) (s : S) (as : List A) (j : Nat) (hj : j ≤ as.length) :
    (s :: (run f s as).map (·.1))[j]? = some (after f s (as.take j)) := by
  cases j with
  | zero => rfl
  | succ j => rw [List.getElem?_cons_succ, List.getElem?_map, run_get f s as j hj, after_take_succ f s as j hj]; rfl

theorem states_getLast? (f : S → A → S × T) (s : S) (as : List A) :
    (s :: (run f s as).map (·.1)).getLast? = some (after f s as) := by
  rw [List.getLast?_eq_getElem?, List.length_cons, List.length_map, run_length, Nat.add_sub_cancel,
    states_getElem? f s as _ (Nat.le_refl _), List.take_length]

theorem exists_of_mem_run (f : S → A → S × T) (s : S) (as : List A) (p : S × T) (h : p ∈ run f s as) :
    ∃ s' a, p = f s' a := by
  obtain ⟨k, hk⟩ := List.getElem?_of_mem h
  exact ⟨_, _, (run_get_eq f s as k p hk).2⟩

/-- every action of `as` is admissible in the state in which it is played -/
def Along (f : S → A → S × T) (adm : S → A → Prop) : S → List A → Prop
  | _, [] => True
  | s, a :: as => adm s a ∧ Along f adm (f s a).1 as

theorem along_unique (f : S → A → S × T) (adm : S → A → Prop) (R : S → List A → Prop) (hnil : ∀ s, R s [])
    (hcons : ∀ s a as, R s (a :: as) ↔ (adm s a ∧ R (f s a).1 as)) (s : S) (as : List A) : R s as ↔ Along f adm s as := by
  induction as generalizing s with
  | nil => exact iff_of_true (hnil s) trivial
  | cons a as ih => exact (hcons s a as).trans (and_congr_right fun _ => ih _)

theorem along_iff_forall (f : S → A → S × T) (okA : A → Prop) (s : S) (as : List A) :
    Along f (fun _ a => okA a) s as ↔ ∀ a ∈ as, okA a := by
  induction as generalizing s with
  | nil => simp [Along]
  | cons a as ih => simp [Along, ih]

theorem along_true (f : S → A → S × T) (s : S) (as : List A) : Along f (fun _ _ => True) s as :=
  (along_iff_forall f (fun _ => True) s as).2 fun _ _ => trivial

variable {f : S → A → S × T} {adm : S → A → Prop}

theorem Along.take {s : S} {as : List A} (h : Along f adm s as) (k : Nat) : Along f adm s (as.take k) := by
  induction as generalizing s k with
  | nil => rw [List.take_nil]; exact h
  | cons a as ih =>
    cases k with
    | zero => trivial
    | succ k => exact ⟨h.1, ih h.2 k⟩

theorem Along.get {s : S} {as : List A} (h : Along f adm s as) {k : Nat} (hk : k < as.length) :
    adm (after f s (as.take k)) as[k] := by
  induction as generalizing s k with
  | nil => simp at hk
  | cons a as ih =>
    cases k with
    | zero => exact h.1
    | succ k => exact ih h.2 (by simpa using hk)

theorem Along.inv_idx {n : Nat} {s : S} {as : List A} (h : Along f adm s as) (Q : Nat → S → Prop) (hs : Q n s)
    (hQ : ∀ n s a, Q n s → adm s a → Q (n + 1) (f s a).1) : Q (n + as.length) (after f s as) := by
  induction as generalizing s n with
  | nil => exact hs
  | cons a as ih =>
    have := ih h.2 (hQ n s a hs h.1)
    rwa [Nat.add_assoc, Nat.add_comm 1] at this

theorem Along.inv {s : S} {as : List A} (h : Along f adm s as) (P : S → Prop) (hs : P s)
    (hP : ∀ s a, P s → adm s a → P (f s a).1) : P (after f s as) :=
  h.inv_idx (n := 0) (fun _ => P) hs fun _ => hP

/-- only the first `k` steps need be admissible -/
theorem Along.entry {n : Nat} {s : S} {as : List A} {k : Nat} (h : Along f adm s (as.take k)) {p : S × T}
    (hp : (run f s as)[k]? = some p) (Q : Nat → S → Prop) (hs : Q n s)
    (hQ : ∀ n s a, Q n s → adm s a → Q (n + 1) (f s a).1) :
    ∃ hk : k < as.length, Q (n + k) (after f s (as.take k)) ∧ p = f (after f s (as.take k)) as[k] := by
  obtain ⟨hk, rfl⟩ := run_get_eq f s as k p hp
  have := h.inv_idx Q hs hQ
  rw [List.length_take, Nat.min_eq_left (by omega)] at this
  exact ⟨hk, this, rfl⟩

theorem Along.forall_run {s : S} {as : List A} (h : Along f adm s as) (P : S → Prop) (hs : P s)
    (hP : ∀ s a, P s → adm s a → P (f s a).1) : ∀ p ∈ run f s as, ∃ s' a, P s' ∧ adm s' a ∧ p = f s' a := by
  intro p hp
  obtain ⟨k, hk⟩ := List.getElem?_of_mem hp
  obtain ⟨hlt, hQ, rfl⟩ := (h.take k).entry (n := 0) hk (fun _ => P) hs fun _ => hP
  exact ⟨_, _, hQ, h.get hlt, rfl⟩

theorem Along.induction {s : S} {as : List A} (h : Along f adm s as) {P : S → Prop} (hs : P s)
    (hP : ∀ s a, P s → adm s a → P (f s a).1) {motive : S → List A → Prop} (nil : ∀ s, P s → motive s [])
    (cons : ∀ s a as, P s → adm s a → motive (f s a).1 as → motive s (a :: as)) : motive s as := by
  induction as generalizing s with
  | nil => exact nil s hs
  | cons a as ih => exact cons s a as hs h.1 (ih h.2 (hP s a hs h.1))

theorem Along.imp {s : S} {as : List A} (h : Along f adm s as) {adm' : S → A → Prop} {P : S → Prop} (hs : P s)
    (hP : ∀ s a, P s → adm s a → P (f s a).1) (himp : ∀ s a, P s → adm s a → adm' s a) : Along f adm' s as :=
  h.induction hs hP (fun _ _ => trivial) fun s a _ hs ha ih => ⟨himp s a hs ha, ih⟩

theorem after_sum_add (f : S → A → S × T) (w : S × T → Rat) (φ : S → Rat) (hφ : ∀ s a, φ (f s a).1 = φ s + w (f s a))
    (s : S) (as : List A) : φ (after f s as) = φ s + ((run f s as).map w).sum := by
  induction as generalizing s with
  | nil => exact (Rat.add_zero _).symm
  | cons a as ih =>
    show φ (after f (f s a).1 as) = φ s + (w (f s a) + ((run f (f s a).1 as).map w).sum)
    rw [ih, hφ s a, Rat.add_assoc]

theorem Along.congr {s : S} {as : List A} (h : Along f adm s as) (g : S → A → S × T) {P : S → Prop} (hs : P s)
    (hP : ∀ s a, P s → adm s a → P (f s a).1) (hfg : ∀ s a, P s → adm s a → f s a = g s a) :
    run f s as = run g s as ∧ after f s as = after g s as :=
  h.induction (motive := fun s as => run f s as = run g s as ∧ after f s as = after g s as) hs hP
    (fun _ _ => ⟨rfl, rfl⟩)
    fun s a as hs ha ih => by
      have e := hfg s a hs ha
      show f s a :: run f (f s a).1 as = g s a :: run g (g s a).1 as ∧ after f (f s a).1 as = after g (g s a).1 as
      rw [← e]; exact ⟨congrArg _ ih.1, ih.2⟩

theorem after_take_count (f : S → A → S × T) (cnt : S → Int) (hc : ∀ s a, cnt (f s a).1 = cnt s + 1)
    (s : S) (as : List A) {k : Nat} (hk : k ≤ as.length) : cnt (after f s (as.take k)) = cnt s + k := by
  have := (along_true f s (as.take k)).inv_idx (n := 0) (fun n t => cnt t = cnt s + n) (by simp) fun n t a h _ => by rw [hc, h]; omega
  rwa [List.length_take, Nat.min_eq_left hk, Nat.zero_add] at this

theorem after_count (f : S → A → S × T) (cnt : S → Int) (hc : ∀ s a, cnt (f s a).1 = cnt s + 1)
    (s : S) (as : List A) : cnt (after f s as) = cnt s + as.length := by
  simpa using after_take_count f cnt hc s as (Nat.le_refl _)

theorem after_inv (f : S → A → S × T) (P : S → Prop) (hP : ∀ s a, P s → P (f s a).1) (s : S) (as : List A)
    (h : P s) : P (after f s as) :=
  (along_true f s as).inv P h fun s a hs _ => hP s a hs

end EpRun
