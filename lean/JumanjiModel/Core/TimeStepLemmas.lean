/-
The fields of the timesteps that the combinators of `Core/TimeStep.lean` build: `condLast` (`lax.cond(done, termination,
transition)`, the end of `step` in most environments), `condLastDiscount` (Connector) and `switch3` (LevelBasedForaging).
Every environment reads the observation, reward, step type and discount of its `step` off these equations instead of
unfolding the combinator.
-/
import JumanjiModel.Core.TimeStep
namespace Jm
variable {O : Type} (done : Bool) (r : List Rat) (o : O) {sh : RShape}

@[simp] theorem condLast_obs : (condLast done r o sh).obs = o := by
  unfold condLast; split <;> rfl

@[simp] theorem condLast_reward : (condLast done r o sh).reward = r := by
  unfold condLast; split <;> rfl

theorem condLast_stepType : (condLast done r o sh).stepType = if done then .last else .mid := by
  unfold condLast; split <;> rfl

theorem condLast_last_iff : (condLast done r o sh).stepType = .last ↔ done = true := by
  cases done <;> simp [condLast_stepType]

theorem condLast_mid_iff : (condLast done r o sh).stepType = .mid ↔ done = false := by
  cases done <;> simp [condLast_stepType]

theorem condLast_mid_or_last :
    (condLast done r o sh).stepType = .mid ∨ (condLast done r o sh).stepType = .last := by
  rw [condLast_stepType]; cases done <;> simp

theorem condLast_discount : (condLast done r o).discount = [if done then 0 else 1] := by
  cases done <;> rfl

theorem condLast_true : condLast true r o sh = termination r o sh := rfl

theorem condLast_false : condLast false r o sh = transition r o none sh := rfl

theorem condLastDiscount_eq (disc : List Rat) (sh : RShape) :
    condLastDiscount done r o disc sh =
      { stepType := if done then .last else .mid, reward := r, discount := if done then zerosR sh else disc, obs := o } := by
  cases done <;> rfl

section switch3
variable (t u : Bool) (sh : RShape)

theorem switch3_obs : (switch3 t u r o sh).obs = o := by
  cases t <;> cases u <;> rfl

theorem switch3_reward : (switch3 t u r o sh).reward = r := by
  cases t <;> cases u <;> rfl

theorem switch3_stepType : (switch3 t u r o sh).stepType = if t = true ∨ u = true then .last else .mid := by
  cases t <;> cases u <;> rfl

theorem switch3_discount : (switch3 t u r o sh).discount = if t = true then zerosR sh else onesR sh := by
  cases t <;> cases u <;> rfl

end switch3

omit r o in
theorem condLast_stepOK (x : Rat) (o : O) : StepOK none false (condLast done [x] o) = true := by
  cases done <;>
    simp [StepOK, condLast, termination, transition, RShape.size, onesR, zerosR, allIn01, allZero] <;> decide

theorem stepOK_arrays {truncOK : Bool} {ts : TimeStep O} (h : StepOK sh truncOK ts = true) :
    ts.reward.length = sh.size ∧ ts.discount.length = sh.size ∧ ∀ x ∈ ts.discount, 0 ≤ x ∧ x ≤ 1 := by
  simp only [StepOK, Bool.and_eq_true, beq_iff_eq] at h
  obtain ⟨⟨⟨⟨⟨_, hr⟩, hd⟩, h01⟩, _⟩, _⟩ := h
  refine ⟨hr, hd, fun x hx => ?_⟩
  simp only [allIn01, List.all_eq_true, Bool.and_eq_true, decide_eq_true_eq] at h01
  exact h01 x hx

end Jm
