/-
Observation value bounds (property C01): the vocabulary `Jm.OB` of the `Bounds.lean` files of BinPack, CVRP, MultiCVRP,
Knapsack, TSP and JobShop (the combinatorial-optimisation environments: CO).  The other environments use `PzB` or
`Jx.Iv` of Env/PuzzleBounds.lean.

* a *bounds table* lists, per numeric leaf of the observation (key = dotted path of the leaf in the
  real `observation_spec`), an interval `[lo, hi]` of rationals (`none` = unbounded on that side);
* the *leaves* of an observation are its numeric leaves flattened to lists of rationals
  (bool ↦ 0/1, integers cast);
* `InBounds table leaves` : every listed leaf exists in the observation and all its values lie in
  the listed interval.
-/
import JumanjiModel.Core.TimeStepLemmas
namespace Jm.OB

abbrev Table := List (String × Option Rat × Option Rat)
abbrev Leaves := List (String × List Rat)

def b2r (b : Bool) : Rat := if b then 1 else 0

/-- `lo ≤ v ≤ hi` with `none` = no constraint -/
def inIv (lo hi : Option Rat) (v : Rat) : Prop :=
  (match lo with | some l => l ≤ v | none => True) ∧ (match hi with | some h => v ≤ h | none => True)

instance (lo hi : Option Rat) (v : Rat) : Decidable (inIv lo hi v) := by
  unfold inIv; cases lo <;> cases hi <;> infer_instance

/-- value list of the leaf `k` (first entry with that key) -/
def find (k : String) : Leaves → Option (List Rat)
  | [] => none
  | (k', vs) :: rest => if k = k' then some vs else find k rest

/-- every listed leaf exists and all its values are inside its interval -/
def InBounds (t : Table) (ls : Leaves) : Prop :=
  ∀ e ∈ t, ∃ vs, find e.1 ls = some vs ∧ ∀ v ∈ vs, inIv e.2.1 e.2.2 v

theorem inBounds_nil (ls : Leaves) : InBounds [] ls := by intro e he; cases he

theorem inBounds_cons {k : String} {lo hi : Option Rat} {t : Table} {ls : Leaves} {vs : List Rat}
    (hf : find k ls = some vs) (hv : ∀ v ∈ vs, inIv lo hi v) (ht : InBounds t ls) :
    InBounds ((k, lo, hi) :: t) ls := by
  intro e he
  rcases List.mem_cons.mp he with rfl | he
  · exact ⟨vs, hf, hv⟩
  · exact ht e he

theorem b2r_in01 (b : Bool) : inIv (some 0) (some 1) (b2r b) := by
  cases b <;> simp [b2r, inIv] <;> decide

theorem bools_in01 (bs : List Bool) : ∀ v ∈ bs.map b2r, inIv (some 0) (some 1) v := by
  intro v hv
  rcases List.mem_map.mp hv with ⟨b, _, rfl⟩
  exact b2r_in01 b

theorem bools2_in01 (bs : List (List Bool)) : ∀ v ∈ (bs.flatten).map b2r, inIv (some 0) (some 1) v :=
  bools_in01 _

theorem int_iv {lo hi x : Int} (h1 : lo ≤ x) (h2 : x ≤ hi) : inIv (some (lo : Rat)) (some (hi : Rat)) (x : Rat) :=
  ⟨Rat.intCast_le_intCast.mpr h1, Rat.intCast_le_intCast.mpr h2⟩

end Jm.OB
