/- Lemmas about the model of tree_utils.py and testing/pytrees.py: static indices; `getAt`, the lookup that `slice` and
   `sliceT` perform (defined here; `slice_eq`, `sliceT_eq`); slices of a transposed and of an updated tree; `isEqual`. -/
import JumanjiModel.Pytree
import JumanjiModel.Prim.ListLemmas
namespace Pytree
variable {τ β δ : Type} [DecidableEq τ]

theorem mapM_congr_idx {α α' γ} (f : α → Option γ) (g : α' → Option γ) (l : List α) (l' : List α')
    (hlen : l.length = l'.length) (h : ∀ k (h1 : k < l.length) (h2 : k < l'.length), f l[k] = g l'[k]) :
    l.mapM f = l'.mapM g := by
  induction l generalizing l' with
  | nil => cases l' <;> simp_all
  | cons a l ih =>
    cases l' with
    | nil => simp at hlen
    | cons b l' =>
      have h0 := h 0 (by simp) (by simp)
      have hl := ih l' (by simpa using hlen) (fun k h1 h2 => by
        have := h (k+1) (by simp; omega) (by simp; omega)
        simpa using this)
      simp only [List.getElem_cons_zero] at h0
      simp only [List.mapM_cons, h0, hl]

theorem mapM_some {γ} (r : List γ) : r.mapM some = some r := by
  induction r with
  | nil => rfl
  | cons a r ih => simp only [List.mapM_cons, ih]; rfl

theorem staticIdx_eq (n : Nat) (i : Int) :
    staticIdx n i = if -(n : Int) ≤ i ∧ i < n then some (normIdx n i) else none := by
  have hr := Jx.wrapIdx_range n i
  unfold staticIdx normIdx
  simp only []
  split
  · rw [if_neg (by omega)]
  · split
    · rw [if_neg (by omega)]
    · rw [if_pos (by omega)]

theorem normIdx_lt {n : Nat} {i : Int} (h : -(n : Int) ≤ i ∧ i < n) : normIdx n i < n := by
  have := (Jx.wrapIdx_range n i).2 h
  unfold normIdx; omega

theorem normIdx_natCast (n i : Nat) : normIdx n (i : Int) = i := by
  unfold normIdx Jx.wrapIdx; rw [if_neg (by omega)]; rfl

theorem setWD_valid {α} (xs : List α) (v : α) {i : Int} (h : -(xs.length : Int) ≤ i ∧ i < xs.length) :
    Jx.setWD xs i v = xs.set (normIdx xs.length i) v := by
  obtain ⟨h1, h2⟩ := (Jx.wrapIdx_range _ i).2 h
  unfold Jx.setWD normIdx
  simp only []
  rw [if_neg h1, if_neg h2]

/-- `x[i]` as `tree_slice` reads a leaf -/
def getAt {α} (xs : List α) (i : Int) : Option α := (staticIdx xs.length i).bind (fun k => xs[k]?)

theorem getAt_eq {α} (xs : List α) (i : Int) :
    getAt xs i = if -(xs.length : Int) ≤ i ∧ i < xs.length then xs[normIdx xs.length i]? else none := by
  unfold getAt; rw [staticIdx_eq]; split <;> rfl

theorem getAt_natCast {α} (xs : List α) (i : Nat) : getAt xs (i : Int) = xs[i]? := by
  rw [getAt_eq, normIdx_natCast]
  split
  · rfl
  · exact (List.getElem?_eq_none (by omega)).symm

theorem getAt_map {α γ} (f : α → γ) (xs : List α) (i : Int) : getAt (xs.map f) i = (getAt xs i).map f := by
  rw [getAt_eq, getAt_eq, List.length_map]
  split
  · rw [List.getElem?_map]
  · rfl

theorem getAt_setWD_same {α} (xs : List α) (v : α) {i : Int} (h : -(xs.length : Int) ≤ i ∧ i < xs.length) :
    getAt (Jx.setWD xs i v) i = some v := by
  rw [getAt_eq, Jx.setWD_length, if_pos h, setWD_valid _ _ h, List.getElem?_set_self (normIdx_lt h)]

theorem getAt_setWD_other {α} (xs : List α) (v : α) {i j : Int} (h : -(xs.length : Int) ≤ i ∧ i < xs.length)
    (hne : normIdx xs.length j ≠ normIdx xs.length i) : getAt (Jx.setWD xs i v) j = getAt xs j := by
  rw [getAt_eq, getAt_eq, Jx.setWD_length, setWD_valid _ _ h, List.getElem?_set_ne hne.symm]

omit [DecidableEq τ] in
theorem slice_eq (t : PTree τ (List β)) (i : Int) :
    slice t i = (t.leaves.mapM (fun x => getAt x i)).map (fun ls => { td := t.td, leaves := ls }) := rfl

omit [DecidableEq τ] in
theorem sliceT_eq (t : PTree τ (TArr δ β)) (i : Int) :
    sliceT t i = (t.leaves.mapM (fun x => (getAt x.slices i).map (fun v => ({ dtype := x.dtype, val := v } : TVal δ β)))).map
      (fun ls => { td := t.td, leaves := ls }) := rfl

theorem getAt_mem {α} {xs : List α} {i : Int} {x : α} (h : getAt xs i = some x) : x ∈ xs := by
  rw [getAt_eq] at h
  split at h
  · exact List.mem_of_getElem? h
  · cases h

omit [DecidableEq τ] in
theorem column_getElem? (ts : List (PTree τ β)) (j : Nat) (h : ∀ t ∈ ts, j < t.leaves.length) (i : Nat) :
    (column ts j)[i]? = (ts[i]?).bind (fun t => t.leaves[j]?) := by
  induction ts generalizing i with
  | nil => simp [column]
  | cons t ts ih =>
    have ht : j < t.leaves.length := h t (by simp)
    have ih' := ih (fun x hx => h x (by simp [hx]))
    unfold column at ih' ⊢
    simp only [List.filterMap_cons, List.getElem?_eq_getElem ht]
    cases i with
    | zero => simp [List.getElem?_eq_getElem ht]
    | succ i => simpa using ih' i

theorem slice_transpose (td : τ) (n : Nat) (ts : List (PTree τ β)) (hs : SameStructure td n ts)
    (i : Nat) (hi : i < ts.length) : slice (transpose td n ts) (i : Int) = some ts[i] := by
  have hti := hs ts[i] (List.getElem_mem hi)
  have hall : ∀ j, j < n → ∀ t ∈ ts, j < t.leaves.length := fun j hj t ht => by
    have := (hs t ht).2; omega
  rw [slice_eq, mapM_congr_idx _ some _ ts[i].leaves, mapM_some]
  · show some { td := td, leaves := ts[i].leaves } = some ts[i]
    rw [← hti.1]
  · simp [transpose, hti.2]
  · intro k hk hr
    simp only [transpose, List.length_map, List.length_range] at hk
    simp only [transpose, List.getElem_map, List.getElem_range]
    rw [getAt_natCast, column_getElem? ts k (hall k hk) i, List.getElem?_eq_getElem hi]
    exact List.getElem?_eq_getElem hr

theorem addElement_eq (t : PTree τ (List β)) (i : Int) (e : PTree τ β)
    (hst : t.td = e.td ∧ t.leaves.length = e.leaves.length) :
    addElement t i e = some { td := t.td, leaves := List.zipWith (fun a v => Jx.setWD a i v) t.leaves e.leaves } :=
  if_pos hst

theorem addElement_structure (t : PTree τ (List β)) (i : Int) (e : PTree τ β) (t' : PTree τ (List β))
    (h : addElement t i e = some t') :
    t'.td = t.td ∧ t'.leaves.length = t.leaves.length ∧
    ∀ k (hk : k < t'.leaves.length) (hk' : k < t.leaves.length), t'.leaves[k].length = t.leaves[k].length := by
  unfold addElement at h
  split at h
  · rename_i hc
    injection h with h; subst h
    refine ⟨rfl, by simp [hc.2], ?_⟩
    intro k hk hk'
    simp [Jx.setWD_length]
  · simp at h

/-- after `tree_add_element tree i e`, slicing at `i` gives `e` (when `i` is a valid index of every leaf) -/
theorem slice_addElement_same (t : PTree τ (List β)) (i : Nat) (e : PTree τ β)
    (hst : t.td = e.td ∧ t.leaves.length = e.leaves.length)
    (hi : ∀ x ∈ t.leaves, i < x.length) :
    (addElement t i e).bind (fun t' => slice t' i) = some e := by
  rw [addElement_eq t i e hst, Option.bind_some, slice_eq, mapM_congr_idx _ some _ e.leaves, mapM_some]
  · show some { td := t.td, leaves := e.leaves } = some e
    rw [hst.1]
  · simp [hst.2]
  · intro k hk hr
    have hx := hi t.leaves[k] (List.getElem_mem (hst.2 ▸ hr))
    simp only [List.getElem_zipWith]
    exact getAt_setWD_same _ _ (by omega)

theorem addElementT_eq (promote : δ → δ → δ) (cast : δ → δ → β → β) (t : PTree τ (TArr δ β)) (i : Int)
    (e : PTree τ (TVal δ β)) (hst : t.td = e.td ∧ t.leaves.length = e.leaves.length) :
    addElementT promote cast t i e =
      some { td := t.td,
             leaves := List.zipWith (fun (a : TArr δ β) (v : TVal δ β) =>
               ({ dtype := a.dtype,
                  slices := (Jx.setWD (a.slices.map (cast a.dtype (promote a.dtype v.dtype))) i
                               (cast v.dtype (promote a.dtype v.dtype) v.val)).map
                            (cast (promote a.dtype v.dtype) a.dtype) } : TArr δ β)) t.leaves e.leaves } :=
  if_pos hst

/-- after `tree_add_element tree i e`, slicing at `i` gives `e` converted leaf by leaf to the promoted dtype and
then to the dtype of the tree (any valid index, negative ones included) -/
theorem slice_addElementT_same_cast (promote : δ → δ → δ) (cast : δ → δ → β → β) (t : PTree τ (TArr δ β)) (i : Int)
    (e : PTree τ (TVal δ β)) (hst : t.td = e.td ∧ t.leaves.length = e.leaves.length)
    (hi : ∀ x ∈ t.leaves, -(x.slices.length : Int) ≤ i ∧ i < x.slices.length) :
    (addElementT promote cast t i e).bind (fun t' => sliceT t' i) =
      some { td := e.td,
             leaves := List.zipWith (fun (a : TArr δ β) (v : TVal δ β) =>
               ({ dtype := a.dtype,
                  val := cast (promote a.dtype v.dtype) a.dtype (cast v.dtype (promote a.dtype v.dtype) v.val) } : TVal δ β))
               t.leaves e.leaves } := by
  rw [addElementT_eq promote cast t i e hst, Option.bind_some, sliceT_eq, mapM_congr_idx _ some _ _ _ _, mapM_some, ← hst.1]
  · rfl
  · simp
  · intro k hk hr
    have hk' : k < t.leaves.length := by simp at hk; omega
    have hx := hi t.leaves[k] (List.getElem_mem hk')
    simp only [List.getElem_zipWith]
    rw [getAt_map, getAt_setWD_same _ _ (by rwa [List.length_map])]
    rfl

/-- … and slicing at any other index gives what was there before, PROVIDED the round trip of the stored entries through
the promoted dtype is exact (always so when the element has the dtypes of the tree; not so e.g. for int32 entries above
2²⁴ when the element is a float32) — indices compared after normalisation -/
theorem slice_addElementT_other (promote : δ → δ → δ) (cast : δ → δ → β → β) (t : PTree τ (TArr δ β)) (i j : Int)
    (e : PTree τ (TVal δ β)) (hst : t.td = e.td ∧ t.leaves.length = e.leaves.length)
    (hi : ∀ x ∈ t.leaves, -(x.slices.length : Int) ≤ i ∧ i < x.slices.length)
    (hij : ∀ x ∈ t.leaves, normIdx x.slices.length j ≠ normIdx x.slices.length i)
    (hrt : ∀ k (h1 : k < t.leaves.length) (h2 : k < e.leaves.length), ∀ x ∈ t.leaves[k].slices,
      cast (promote t.leaves[k].dtype e.leaves[k].dtype) t.leaves[k].dtype
        (cast t.leaves[k].dtype (promote t.leaves[k].dtype e.leaves[k].dtype) x) = x) :
    (addElementT promote cast t i e).bind (fun t' => sliceT t' j) = sliceT t j := by
  rw [addElementT_eq promote cast t i e hst, Option.bind_some, sliceT_eq, sliceT_eq, mapM_congr_idx _ _ _ t.leaves]
  · simp [hst.2]
  · intro k hk h1
    have h2 : k < e.leaves.length := hst.2 ▸ h1
    have ha : t.leaves[k] ∈ t.leaves := List.getElem_mem h1
    simp only [List.getElem_zipWith]
    rw [getAt_map, getAt_setWD_other _ _ (by rw [List.length_map]; exact hi _ ha)
      (by rw [List.length_map]; exact hij _ ha), getAt_map]
    cases hg : getAt t.leaves[k].slices j with
    | none => rfl
    | some x => simp only [Option.map_some, hrt k h1 h2 x (getAt_mem hg)]

end Pytree

namespace Pytree
variable {τ ε : Type} [DecidableEq τ] [DecidableEq ε]

theorem arrayEqual_iff (a b : Leaf ε) : arrayEqual a b = true ↔ a.shape = b.shape ∧ a.data = b.data := by
  unfold arrayEqual; simp

theorem arrayEqual_symm (a b : Leaf ε) : arrayEqual a b = arrayEqual b a := by
  rw [Bool.eq_iff_iff, arrayEqual_iff, arrayEqual_iff]
  exact ⟨fun h => ⟨h.1.symm, h.2.symm⟩, fun h => ⟨h.1.symm, h.2.symm⟩⟩

theorem isEqual_of_structure (t1 t2 : PTree τ (Leaf ε)) (h : t1.td = t2.td ∧ t1.leaves.length = t2.leaves.length) :
    isEqual t1 t2 = some ((List.zipWith arrayEqual t1.leaves t2.leaves).all id) := if_pos h

theorem isEqual_of_mismatch (t1 t2 : PTree τ (Leaf ε)) (h : ¬ (t1.td = t2.td ∧ t1.leaves.length = t2.leaves.length)) :
    isEqual t1 t2 = none := if_neg h

theorem isEqual_refl (t : PTree τ (Leaf ε)) : isEqual t t = some true := by
  rw [isEqual_of_structure t t ⟨rfl, rfl⟩, (Jx.zipWith_all_getElem ..).2 fun _ _ _ => (arrayEqual_iff _ _).2 ⟨rfl, rfl⟩]

theorem isEqual_iff (t1 t2 : PTree τ (Leaf ε)) (h : t1.td = t2.td ∧ t1.leaves.length = t2.leaves.length) :
    isEqual t1 t2 = some true ↔
      ∀ k (h1 : k < t1.leaves.length) (h2 : k < t2.leaves.length),
        t1.leaves[k].shape = t2.leaves[k].shape ∧ t1.leaves[k].data = t2.leaves[k].data := by
  simp only [isEqual_of_structure t1 t2 h, Option.some.injEq, Jx.zipWith_all_getElem, arrayEqual_iff]

end Pytree
