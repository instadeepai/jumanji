/- GENERATED by harness/translators.py (gen_sudoku_db) from /repo/jumanji/environments/logic/sudoku/data/*.npy — do not edit.
   One `Nat` per board (layout: Env/Sudoku/DBCheck.lean); every chunk is run through the checker by the kernel. -/
import JumanjiModel.Env.Sudoku.DBLemmas
namespace Gen.SudokuDB
open Sudoku.DB

/-- `mixed` (10000_mixed_puzzles.npy), boards 9000..9249 -/
def mixed_36 : List Nat := [
  0x000000070804010000_000701030000050400_040302010900080000_000500000000040200_010600000200000000_000007080500000000_000204000100000007_000000090000000000_060103020000000008,
  0x010000040005000900_000008020609040701_000906000000000503_090403060000000007_020005000100000604_000000070400000000_000004000201090305_050002030004000800_000309050000010402,
  0x010000040000070000_000006010008000400_020400000003000600_000000000301000700_070000050902000003_080300060000090500_000000000004060807_000800000609050000_060007030800000904,
  0x000000060204000900_060004000300000002_000000000907060008_000207000603080000_000800070502090000_030006000000000100_000000020000000600_070600000408000000_050002000000000003,
  0x000100000200040500_000705000809010306_000000000300090200_050000080000000002_000001030007080000_000008000000000700_000500000008070003_080900010700050000_000003090005020001,
  0x040001050000000009_000900010000030708_030700080002010400_080400060209070501_070200000401080906_060000000805040300_000300090106050000_000000000008060007_000000000507090203,
  0x000000000603000002_040702000008000601_030600000000090800_020000000700060903_090100080406050000_060007000009010400_050206070000080100_080300060900040000_000009010805020306,
  0x060007000009030000_030000020005000000_090001040703080200_070000090400050000_000005000800060009_020009050300010000_080900060000000007_050406000200000003_010702000900040005,
  0x000003080905060704_080005070106000000_090706020003010805_040000000200000308_000000060000000100_010807050000020406_000300040600070009_000208000700040503_000000000000000600,
  0x000300070500040000_050700000009010003_060904000200050700_000000050000020307_010500030800000400_000607000004000000_090000080002070000_080206040705030901_000405090300000800,
  0x000604090100000000_070009060000000800_080000070000000006_000000000006040005_000000000007000000_030007000002000008_000000000603000000_000302000400080900_000800000000000300,
  0x030200000000000000_090004000500000000_070006010000020005_080009020000010006_000700000000000500_060000080100000700_000007050000000003_000008000704050001_050901060000070000,
  0x000000000100040700_000100000807000506_020706050300000900_050000010000030000_000902030000000405_000000000205000000_060000000001050208_040500020000070000_000001080000000000,
  0x000900030507000100_000006000400000500_030500060108000009_000700000006090201_000008050000040000_000000000204000007_000000070600000900_020003000005010008_000400020001000000,
  0x000000000000000300_000000010009000700_000704060003000902_000806000500020000_000002040108000609_000000020906000803_000400000001090000_010900050000080406_080000090704000001,
  0x000400030600000002_020600000005030801_050308010002040906_060800000100090000_070000000009000008_000204000000000307_040000000500020100_080001040007050600_000000000000000704,
  0x010007080200000000_000008000109020607_000209060307000000_020000000703090000_000700020000080000_000000000600000003_000002070501000908_080900000402060705_000003090000000102,
  0x010807000005000604_050900000600080200_030002000004050000_000000040002030007_000001070300000500_000003060500010002_080005020400070100_000009000000000008_000406090000020000,
  0x010603090007000008_000008010503000706_070009000000000301_000001060008030402_000304000205000000_000000030104000600_090100000300000204_030006000000000005_020805000001060003,
  0x050007000400080200_040000000807000003_080003000102000007_000500080004010306_010600000000070802_000308020001090004_000009000000020008_000000040900000005_000000070208000000,
  0x000005030900000700_000603000702050409_000900000400020006_000000000007040000_060400090008000002_080501000004030907_000704020800060005_020106000500090804_000000000600000203,
  0x080003010607000000_000000040002060008_000500000000000000_090000000400020806_000206050009000400_040700000200030000_000000000306040700_050000000700000001_000600080100000003,
  0x010008000004000006_000905010200000000_070600000008000100_090000000001000000_000003000000000907_000107000400000300_000009000000070001_030004000000000009_000800090600050000,
  0x060000000000000400_000500020400030706_000400000000050209_040306000700090000_000901040002000800_020805090006000304_000207000904000600_000104000603020908_030000000200000000,
  0x070900000603020100_030000000001000000_010008000007050903_000009000000000000_000701000508000000_000305000000000004_050000000002000000_090000080005000700_000003010009040000,
  0x000003000200000701_000000090703040000_000704000800000000_000607000004000005_000009070105000000_050000000000000003_000000000400090002_000000000002000600_090000030007000008,
  0x010500080709000000_090402030601000000_060007000002010903_000200000004090105_030009000108020000_050104090200070300_020000000400000000_000000020803000701_070001060900080002,
  0x060000030000070005_000000000201000308_000100000009000406_040800070100000002_070000000602050000_020603090000010700_080000000904000607_000007000506000000_090000020000080000,
  0x030008000001000000_050701060204080003_000000000305000007_000000000406090701_000506000007030008_000100000009050006_070600010000000009_000005000600000302_000804000900010605,
  0x000004020301080900_050001070009000400_000803000405000102_020600050000000000_000400000900000000_010900000600050200_080102000000060500_070300040000000800_000006000008090703,
  0x000000000706000801_000001000000060003_060000080000020000_070002090003040608_000000010400000900_040309000800010000_000507040200000006_020008000605000100_090000070000050200,
  0x060000000003010002_000500090600000004_000003050000000009_050000080301000000_000000060009000000_000308040005000106_040001000800000005_080002030006090400_030600000904070208,
  0x000000060004000000_050607000000020300_080401000300060000_020000040609070100_040703010000090008_060009000700000402_000205000901040800_010006020000030009_030900050800000007,
  0x070009030501020000_000000000000000000_000408000000030000_080900010003060000_060001050200000400_000700000904010308_000006020105000709_000005040307000002_040007000000050003,
  0x000000090000040308_040300060802070000_000809000007000000_000008010000020900_000200050600000003_000007040000060000_070000000004000000_000900000005000406_080400020906000507,
  0x000100000904020500_040000030000000000_020009000108000000_000000000000000608_000000000007010302_070200080001000005_060700010009030000_090000060002050800_000300040005000901,
  0x000300060000000100_040000000500000907_010000000000000004_000104070000090805_000008000000040700_090507000108000006_000400080006010209_000900050002070008_000002010009000600,
  0x000008000009000400_060400020007080000_030000000401000000_000000000003000708_000000000000010000_080001070000050003_000703000600000004_000000000108000007_050806040700030000,
  0x000100000009000007_050000080000010206_070008010306000509_000000000105060000_000000000000000100_040000020000070905_080600070001000000_000002060000050700_010007000002000604,
  0x000309010200060008_040000000608010000_060108090300000700_000804000001030006_000003000000080000_010006080903000004_050002000007090601_000607020100000000_000900000500000802,
  0x040600000500080009_000000010600050003_000000000000060700_000700000008000000_000000000000070001_000105000003000602_050000090407000006_000300000205000900_060400000300000007,
  0x070300000500010406_000100000300080700_060804000002000009_090400030000000600_000000070000030500_010503080006000007_030000050001090204_000601000003070000_020000040007060003,
  0x000302070100000006_060000020004080000_000000080306000200_020506000008000104_000800000007000500_000700000005090600_000600050002040009_000005000600000800_000009000000060000,
  0x070008040009030005_040009000005000006_000000000000000800_060805020000090004_000200080600000301_010000000000080002_050301060908020007_000900010700000003_020700050400010008,
  0x090004060000000805_030000050902040006_050007000000090300_060000010004000500_040301070500020000_000700090800060400_000903020600050004_010006000705000200_000502000109030000,
  0x070508060904000301_000600010300070509_090003020000000000_000706000209030100_000200030400000700_030804000001000002_060000040000000200_000005000100000806_080000090600050000,
  0x000000000009000001_070005000003080000_000809010000000302_000000030000010000_000600000001000003_000700000904000800_040200070000000005_000300000002000000_000001050300000000,
  0x060001020000000700_000003000006050400_000408000700060001_000000060504000900_040600000300020000_030105000002000806_000304000800070602_000007040609000005_080006000000090104,
  0x000001050200030604_050009010000080207_040002000700010500_010506040903000008_000708000501000000_000400000008090005_000004000000070900_080905000000060402_060107090402050800,
  0x000204000001000000_000001000000070002_070800050002010400_040008090500020000_020700080406000109_050000000203080000_010302000000060908_090600000108000007_080007000000000501,
  0x080007000000000900_000900000200050000_000100000408000203_000000010800000007_000000040609010302_010000000000000008_000000060500000709_060004020900000005_000300000700020400,
  0x040000070500000000_000706000000000800_020000010400030500_070600090100000205_000105020000000000_090004000000010300_060000000300000000_000002000000060000_000009000801000000,
  0x040305000802000709_070002000400000300_090001000300000000_010200030500000007_060009070201030805_030507000900000006_000000000003000400_050000000000000003_080000040105070000,
  0x000009010608000500_020507000304000100_060801050200000000_000905070806040002_040300020001000006_000000000000050000_080004000709030200_000003000400010600_090006000005000000,
  0x000004000800000000_030000060002080700_020008000100000603_010906030007050004_000700000908000006_000000000006090200_000000000000010000_000000090005060308_000000020300000009,
  0x030000000004000700_000000000200000400_000000010705000902_000608000000000000_090000000100080000_070200000500000000_000100000007040000_000900020000000106_000406090001000000,
  0x000006030705000802_000000000000090000_000800000002000000_000000070000050409_050900020800000000_000004000000030200_000308000107020900_000700000008000000_000509060403080001,
  0x000700000905000600_000000000007080205_080000030001000000_000002050008000100_070800010409000006_000003060000050004_000000070100000903_000407090803010000_000901000006070000,
  0x000305040007000006_000200060000000000_090000000000020400_000001000000030005_000509000301000200_020003080000040100_000000000000000800_000002050100070304_030400090800050600,
  0x010000090002030406_080309000600000500_000000000300000001_000506000700000908_000200000003000000_000100000000060002_060000000000050000_020401050008070000_050007000100000000,
  0x080701060409000500_050000020007000004_040602080500000907_000000030000000806_030000000000050102_010400000000000009_000500000006070001_000000010005090208_000000000300000405,
  0x030100000006090200_000008010400000700_050600000200080401_070000000502000003_040000000708020000_000500030900070800_000900000004010000_060000000009040300_010403020607050008,
  0x080400000009000000_000000040807020600_000002000300010008_040003000000000006_000500000001070003_000007000000050104_000000020705040000_000204000000000507_090005000000060300,
  0x000008000700000900_000000000003010400_040701000000000802_000005090000000000_000800000500040209_090100000207080005_050000000000000000_010000000000060003_000000050100000000,
  0x020700000004000000_000000080000020000_050103000900080004_000001000509040000_000507060000000008_030009000000000000_000006000708000002_080000000000070901_000000000001060000,
  0x000009000000000400_000003000006000008_060008010400050000_000000000900070000_000000000005000600_040700080600000002_020000000700030000_050006000100000007_000907000804010006,
  0x000000010600000003_050000000002010004_000000000008000005_000000000703000000_060100000009000400_000000000400030600_000200000000070000_010907000800000000_030406000200090001,
  0x000000000008050000_090600040005010800_050008000100040007_060000010700000000_040002060809000005_000100050000000706_070000030600000908_000000080000000401_000800000900070000,
  0x000000030402090506_000503070900000000_040000000005030000_000105090800020304_000006000004000109_020904050100000600_080001060207040005_090000010000060003_000000000309000000,
  0x090506000300080000_000000050002090000_000200000000010005_000700000000000000_080000070203060400_030609000000000100_060003000507040000_000007040100030506_000000000009020708,
  0x020009000400060300_000700000002000401_000604050300020007_030900000800070000_000500030209000000_080000000500000209_000000060003000800_060000080904050000_090008020000000006,
  0x040005070000090003_030807000900000600_090200040803070100_000409060308000007_050000000402000001_000002010507040000_080500020100030006_020600000704010009_070001000000000000,
  0x000000060400000000_000000000709060003_070600080103000000_060200090508000004_000905000000070600_000104000000000200_000000070000020400_040006020005030107_000702040000000905,
  0x000008050004000000_000000080000000107_000004000000000003_060407020000000000_000000000409000200_000300060800050400_070503000900060804_040000000005000009_000002000000000000,
  0x000502000004080000_000100000000070006_000009080106000004_030000040900060705_000600030000090401_000004000005000200_000007000008050000_080403070500000002_000006000301000000,
  0x070005080000090200_000001000702000000_000800040000050000_000900060004070102_000000000109060000_010506000000030400_060100020000000005_050000000003000900_080000000005010704,
  0x000708090300000002_000002000000030000_030100020000000008_010300000908020007_020800000500040000_050007060100000903_000000070009000004_000004010803000006_000203000400010809,
  0x000906000003070400_000104000008030005_000000070604000100_000802000409000001_090400000007020006_010007020800040000_080009000000000300_060701000002000000_040000000000060007,
  0x090000000000070000_040006070900000300_000500000106000200_000409000703000602_060300000200000400_000105000000090000_000000000001020000_000700060009030008_050900020300000100,
  0x010700000002000005_000900000405000000_050000000003010000_000503000006080000_000000000208030000_000000050000060104_000005080904070000_000401020000000003_000008000501000009,
  0x040008050000000007_000900010000000004_070001000800000000_060000030004010009_000100090000040703_000003000000020600_010702080003090006_000600020000000800_080500060900000000,
  0x000003010000000000_070000020000000000_000000090704000003_080000000209000001_050104000607000000_000009050100080400_090700030401050006_000500000000010000_000001000502070809,
  0x090000000500000400_000001090407000000_050700000006000000_000006000008010000_010000000300000000_040900000700080000_030400070000000106_000002000603000004_000000000100030007,
  0x000500000001080400_000600070804000500_000700030000090100_000007040000060005_060000020700010803_000300060005000004_000900000003020000_000104080206000009_030000000007040000,
  0x000307000000000000_080200000007040000_000000000803000500_030001000208000400_090500070104000800_070004090306050002_000000000002000000_000900040000000005_000703000009000006,
  0x000000000007040003_090003000000070100_020700030000050809_000600000002000000_000800000905000300_000309070100060005_000000010000000506_010200000009030400_000000000703080900,
  0x030000080000000000_000700000901000000_000000000200000601_050004000008010200_020007000300050000_000106000502000407_010600000003000508_070502040809060003_000003000005000702,
  0x060004000002090107_050207080900030406_000000000700000800_030001000006050000_080605000107040000_070402030500060900_040000000600000009_020000000800000000_090700000403000002,
  0x030200070600040009_040905020000000003_000100000003000200_070400000100030000_080601000000000000_000500060000000004_000306010000000008_000004080200060301_010800050306000007,
  0x010900070005000000_000008000301000000_050400000008000001_000000000003000200_000305020000000006_080009010506000000_000000000000070800_020007000009040005_090000080000000000,
  0x010400060502070809_000702000000000504_050000000300060000_000506000004080000_000000000005090706_000800090000020400_000005000000000900_000600000103000000_000001000700000008,
  0x080300000000000004_000000060003070008_000006000004090300_060003000005000000_050908010000000003_040001030000000209_000000000706030900_000000080200010000_000602000000000000,
  0x000800000000000600_020005000600080000_000906000000070000_060300050802040901_040000000706020000_000208000304050000_000000060508010000_000602070103090000_000000020400000500,
  0x020006090400000105_000001080005000009_090805000100040000_000000000000060002_050902060800000001_010600000000000000_000100000600000000_000000000300000504_030000040201000000,
  0x060700000008000503_020100050000000600_000004000006000000_090600070002000801_000200000600000900_080007000001060200_000005010007000006_000000030000080100_000402000800000305,
  0x000000000000000600_000000050004000001_070500010900000000_000006030700000802_000900000000010400_020001000408060500_000007040500000900_030209000000000000_000805020009000306,
  0x020000010500060907_050900080300000400_040700000600000305_000200000003050600_090007000106000800_000005000900000000_000500000209000100_070000000005000004_000002040700000506,
  0x080200000706000005_050307000000000600_000000000004000802_010000000200000900_020700000001030004_000000060403020000_000900020000000008_000800000000000103_000000040000090200,
  0x000005000200000300_000000010003000000_040003080000000000_000009050006040003_000004000802000506_070000040001000000_050407000108000009_000001060000000408_020608000004010000,
  0x050007000003080900_000001000609000000_020904000000050000_000000070300000000_070405000000000000_000200000006000009_000000000700060003_030008000400000007_000709000000000400,
  0x000403070600010205_020001000509000000_000000000401030906_000300000004000002_000204000006000108_000000080900040703_000107090200000800_040000060800070001_060805000000000309,
  0x030805000609000100_060407050301000209_010002000400000003_090708060003000400_000300090507000806_000500080104090007_070109000805000600_000200000006010705_050004010702000908,
  0x060008020000070009_010007000000000200_090002070005080406_000004090008010300_070009000304050802_030001050702000000_000000030800000601_000100000509000703_000000000000090508,
  0x060007000002000001_000504080001000602_000200000000090000_000002000003080000_000000060805000000_000801000200000006_000000000604010005_000000070300000008_000006050100000007,
  0x000000000009070000_000802000100000009_010309000807000000_000406090000000000_030000000000000400_000700010300000200_000100050602040700_000200080000010605_080000000400030900,
  0x080500000000000009_000001080004000000_060000030000020008_070000000800040005_030000070005010900_020005000000080007_000700090006000000_000200000408060003_040600050002000001,
  0x090300000006020005_010800000000070400_000400000500000903_000000030600000000_000004080007050002_000002000005030000_000201000000000500_070000050000090001_000003000108000200,
  0x000000000200080000_020004010000090000_060908000300000500_040000090003000002_030600020105000008_070000000006000000_000000030000000006_090003060000050200_000200000007000000,
  0x040600000100000009_020000000609000705_000009040003000006_000206000004000908_090504070008010000_000000060900050400_000300020400090800_000002030701000500_070005000806020000,
  0x080000000002070000_020900000007000001_000007000005000009_050109000700000300_000008020000050900_000204000009000800_000001090000000000_040700030206000008_000000000400030005,
  0x000008000104000209_090000060000000007_000100000200000308_000000030000080004_060800000000030100_050000000006000700_000005080000000901_000700000002040000_000300000000000000,
  0x000000000800070305_080300090000010200_020000000003000000_000800000002090507_000700000005000600_050400030000000801_000000000009080000_030900000608050100_000100000000000700,
  0x050400030608000007_070600000000030100_000208010709060405_020700080300050001_040903000005070000_080105020907000600_090000040001000306_060802090503010700_000304070806000009,
  0x000009000007020000_000607090300000000_010503000200090600_060104030800070005_000900000006000004_070200040005060003_000002000003000100_090006010000000002_000401000000030506,
  0x000000000009000000_070004000800000901_000309000004000002_030407000208010009_000208000601000007_000600030400000200_040700080002090000_000002000300070008_080100000006000504,
  0x000000010000020805_000000070005000403_080405000300070000_030108050000000600_000006000401000207_020700090603000008_050900000000010006_040307060009080000_000800000000090004,
  0x000504000000030209_010006000009040000_000002040003070601_040801050600000003_000000090100000006_050000000700020100_000207060900050400_000000080400000002_060408000005010000,
  0x000700010305000002_000000080000000000_000002000600080500_000506020700030800_000000000900060205_020000000006010000_070001060004000900_000000000500020007_000005090000000006,
  0x010800000300000005_000300040002000801_000504060100030702_050109000004080000_000008000201000009_000600000005010304_060000010000020000_000000050403070000_000000000000050100,
  0x000400000705060003_000903000004000507_010000000009020400_040000000106000805_000500000000000109_080000000500040002_090802000003050701_000000000900000204_000100000802000006,
  0x000007000302000006_000009000000070002_000000000800000904_090000020600000500_000200000900000400_060700040501000000_030000050004000100_010008060209040000_070000030000000000,
  0x000301000200070809_020007090801000000_080609000003000102_040200000700000000_000900000002080507_070008010900000004_090105000308000006_000700000000010008_060004020107050000,
  0x060100070000000005_000002090000060000_000009000604000001_040201000007000000_000000040508070000_000800000100040000_010504000009020000_000306000000010709_020907000006000004,
  0x000008090000040000_000400000000020007_020007000103080006_040700000000090100_030100070900060002_000200000300000704_000802010609030000_090300000507010600_050000030008000200,
  0x000107040005000008_000803010007000400_000000000006070100_000600000000000703_000002050000080001_030001000000040000_000000000402050006_050006000000000007_070000060008000000,
  0x000000050000000204_000500000000000001_070104020003090000_080001000402000009_000000000700000002_000902030500010000_010000000305020900_050200040001060800_090000070000040100,
  0x000000030000020000_030004010000080609_070008020900040503_000701040205000800_020000060008000905_000506070000000000_000002000701050008_000007050000000001_000900000000000700,
  0x000005090300000001_070000000000030006_000000050100000408_000009000004080003_030200070900000005_010600000000000902_090000030400000000_040000000000000800_000107060000050004,
  0x010000000402080003_050003060000070001_000200000500000000_000000000603040900_000004020709050006_000007050800000300_000000000006030400_090806000307020105_000000080000060000,
  0x010600030002000008_020809000000000003_000304000709000100_000502000007000400_060903000000000000_000700050900000302_000000070200030805_000200000003090000_000008090006000004,
  0x000402080100060009_090000040203000501_000800070000000403_060000000000090000_050901060702000000_000003010409050206_000008090600000000_000106000000070905_070009000001040000,
  0x060000000800000005_010005030602000000_000700000100000603_000600000900000502_090800000504000006_020501060000000700_000200050400000800_000000080703000009_000400000000000000,
  0x000001030800000004_050000000000060000_000600020005070109_000800000007040905_000005000004080007_000700000002000001_000507000000000000_080100000000000306_000403050000000700,
  0x000200000001050007_000000030000020604_000804000006010900_000000000005000000_000500000000000708_000109000000030506_020000040600000000_000000000000000000_000000000800000109,
  0x000509020103080004_010000080700000002_000008090605030701_000607000008040003_000000000000000800_080401030006000507_090804060002070000_000102000509060400_000005040001000300,
  0x000801000007050000_000600000000030009_000000000106000008_050300000001000706_000700000003090000_000900000005000000_060007000809040000_030000000004020900_040100000000000003,
  0x000000000500000007_000003020000000900_040000000100000306_000000010003000000_000009000205000008_000108000000030002_010907000300060204_080000090601000703_050000040702090800,
  0x060000000007000400_000200050000000009_010009080300000000_050006040000030000_020704030000000100_000300000000000004_000100020400000006_030900000000040701_000600090000080302,
  0x000905060403000001_030008050701000400_000000090208000600_010000000900050008_000803000000000204_040000080306010000_050200000600000100_060407010809020500_000000000507040906,
  0x080403000700000000_000100000600030704_060002000304090000_000800010400050206_020000000900000100_000301000005070000_000200000000000400_030500000007000609_070004000006000300,
  0x000308000000000200_000000000000070904_090006000200000000_000407000900000003_000902010000000700_000100060000000500_000009070100000005_000500020000000100_000001000400000009,
  0x070009000300000006_020300060500010000_010604000000000203_050006090407030001_090001000003000000_000700000106020000_030002040008000105_000100030702000008_000007000005040000,
  0x030002090100070000_010008000000000300_000009020400000008_020801000605000007_000507000200010000_000900000801000500_070000000004000001_080000000900000204_090104000000080700,
  0x050107030802040006_000003000700000001_000809000005000300_000602090000080000_000000080000000603_040508020600010009_090004070208060000_080200000300000400_000700040900000000,
  0x080200000104000900_000009060000000201_050600020000000008_000005030806040000_000806040009030000_040903070501000000_070100080300090000_060008090402010005_090002000007000004,
  0x000003070009000200_000200030000000701_000000000008000306_000005000703060000_000000050800000000_070000000006000500_080500090000030007_000900000000050804_000300000500000000,
  0x000006070009000200_000304010000000607_000002030500010400_000000020000000806_010608000304020705_020400000607000100_000001000703000904_000003060001070500_090507040200060001,
  0x020300050004000000_000800030000040000_070004000802060000_000005080000000000_000702000409000801_000409020005000603_050207040300010908_040103090008000706_000000000000000004,
  0x000300060000050000_000000040500020108_020004000100000000_060000070801000004_000000030005000000_080005090600000007_050800000006000000_000000050008000700_030401000900080000,
  0x000000040306080502_000806070000030401_030004000005090607_000007020000000009_000000080000000300_080000030009000700_000500090208060100_000001060000050000_000600050400070200,
  0x080300040005000102_000704000600000803_000001000000070006_000000000504000000_000002000003040705_000500000000010309_030008090007060000_020400000000080900_000009000008000200,
  0x000100050000080204_000009010000030006_060200080000010007_000800000006040000_020003040105060708_000600030900050100_040002000000090001_010000090000020000_090300000001000605,
  0x000704060900080000_000802040300000009_050906000100000703_000400090506000102_000003000002070506_060005000001090804_040600050000010007_000300000000000900_070500000000020000,
  0x070004010800030000_080200000006000905_090600050000010000_060007000000090000_000000000004000000_000905000701060002_000406000000000700_000000090402000001_000000000600000000,
  0x020000000000030000_060000000308000102_090000000000050000_000006000000000000_080504000007010003_000000000005060000_030708000200000901_000200000704000306_000009000803000700,
  0x040200050000000100_030000000600000000_000601000008000005_050900000007000204_070002090000050000_000304000500000700_060800000905000400_000000080006090003_000000030700000008,
  0x000005000000030900_000300000208000000_080701090305000604_000004000703000000_020003000500000000_000807020904050300_070008000000000000_000109000002000703_030500000806040000,
  0x000400000609000003_030206000001090700_080100000000060004_000800000000010309_020000000000040000_040000000003000608_000300090000000001_010600070504030902_090504000302000000,
  0x000700080003000604_000003000004000100_000906000000030805_000800000000000200_000405020000010300_020601030007000009_000008000709020503_000200060300000000_000304000201080000,
  0x000000000700020105_000001000603000800_000007020000000406_040000070806000009_050800010300070004_070100000402000000_000000060500000001_060000000000000000_000705030000060008,
  0x000000000601040000_080003000009000601_000001000000000700_000004070900000000_000800000000050000_070200080506000104_000908040005000002_000000000300000000_010000000007080009,
  0x000700090000000600_060000070500090100_000005000600030000_000204060009050300_000000030107080400_010300050000000000_000002000700010004_040100020900000003_000900000000000000,
  0x000104000005060900_050600000004000302_030900060702000000_000003090408000005_040800000000070109_000509000001000408_070200040000090801_000000050000040000_000000020009050700,
  0x050001000006070009_040003000000060000_000200000000000004_000002000300000000_000100000400030900_000005000000000701_000006070800000000_000900000003000100_000307090000020806,
  0x000009000400050001_000602050000080009_010003080000060400_000008030000010705_000001000000040800_000000000000000900_000400090008000000_000007000500000000_000806000000000504,
  0x030001090005000007_000000040600010500_000006000103000000_020604050700030801_090700080000000000_010000000002040709_060000000900020105_000107030000090008_000900000000000000,
  0x000100080000050700_000906000200000400_000000070000000000_000400000000000000_090002000008000000_000008020100000003_000001000306000008_060000000000000500_000500000000060307,
  0x070100030000020905_000006000009000000_000908000201000703_090007000000000000_000600010900000000_010000000007000004_000009000108030500_000001090003080006_000803020005000009,
  0x030005000007000901_000000030001000700_000007000600000000_000900000403000508_050603000008040000_080400070005000000_010308050900000000_000004000700030000_060009000300080000,
  0x090003000001000000_000400000500090000_000000000900000000_050900000608000007_000000090307000501_000107000004080900_000508000102000000_020009000005070008_060700000800000205,
  0x000000040005000000_000700030200000000_050100000800000400_020004000008030006_000008000407050900_000600000002080000_060000010700000805_000200000604000000_000000000000000000,
  0x000008010500020309_020000000800000001_000009020700040600_000402000000090000_000006050000070100_000000090602080400_010005000900000000_000004000005060800_000007080200000000,
  0x010800030607090000_000307000400000000_000600000001000003_040000000000000302_000108090002040005_000006040008010000_000900000000000000_000000010000000000_000500000200060900,
  0x000007090000000000_000601070000080009_020900010406050000_000000000705090600_070806020900010000_050300060801040200_060105080007000900_000004050000070000_080003040600000000,
  0x000008090203060500_090206040501000003_050300080607000009_040500000908030000_080907000300000001_000603000400020900_000801000709000605_060005000000000102_020409050100000007,
  0x050200000401000007_010000000000000200_000004000500000309_000007000000000400_000002000304000001_000501000600000903_020000080700000005_000905040206030000_000000050003000002,
  0x020405000000000300_010300000200050006_070800030001000200_000000000007000001_050007000400020008_060104090000030000_030008000005060002_000601020000080000_000000060300070100,
  0x000104000000030900_000000070009060100_000000000305000200_000006020107000504_000005090608000301_010800030000070000_020307000900050800_000008000000000000_000601000003000000,
  0x000001050000020609_030600080904070000_000007000601080000_070006000002000100_020308090105040006_040000000006000800_010000060400050200_050000010209060408_060200070500000003,
  0x000000060000000008_060400070900030501_000000030100060000_000301080609040000_000906000004000100_000500000000090000_000004020007010000_090000000500000300_000703090806000000,
  0x000600000007040002_020104030000000000_080507000104000009_000006050003090200_010308060902000004_000200000401060300_040800010000020906_000902040300010800_060700000208050403,
  0x000005010000000800_000800000300000005_010007090000000003_000000000006000008_000008000000070000_000900030001000000_000000000400000200_000201000003040000_080500070000000009,
  0x080400000006000700_000001050007000006_000600080004050300_070000020009030000_010000060700000000_060009040003000000_000008030002000007_000300070001000802_040002000600000503,
  0x050002080001060000_000000000600000400_090000000400080100_000208000900000000_000500000008070000_010000020000000000_070000010004000000_000006000305010704_000300060000090800,
  0x080709030405020000_000106000708000403_000002000600000000_070000000000010000_000800000302040700_000000050000000000_000600000500030009_000007090003060004_000000000000000008,
  0x000500020903000807_000008050600000300_000000000008000005_000000000307000004_050100000800030006_060000010005000000_020005040000000703_010400000006020509_000609030002000001,
  0x080000000100000600_000000000000030008_060000000000040005_030006000000000000_020900000800000300_000000060500090004_090800000300070002_050000000007000403_000603000000000900,
  0x000700020005060904_000300080900000000_000506000007000300_000000000809000106_010800000003040700_000400070201030800_000600000000000003_040000000500090600_030000000004010000,
  0x000702000008000000_000008050000000400_040001000009000000_010003000000000005_060000090100080000_000000030000020104_000300040902000608_000904000600030000_000000000000040009,
  0x040708000305000200_030600090004050007_000900000001030600_060000030402010500_000500070106080002_020004050809070300_070000000600040000_000306040000000005_000009020503000008,
  0x070000030100060804_000800020000000105_000305000800070000_000400000602050003_000207090500000006_000006000003000208_000509000000080007_000700000300000009_020600000009040500,
  0x060801040903020507_090304020000000600_000207000106090003_030408050000070001_000006000801040300_000000030004050800_040005090308060002_080602010705000904_000903060400000705,
  0x050003010209000806_000001040300000005_080000000500010304_070000080000000000_000100050600090000_000508020000040600_010005000406000207_030802070005060409_040007000002000500,
  0x020706050100040000_010800060403020700_000004020008000000_040100090007000500_000609080200000000_000307000000000004_000000000000050000_090008040002030000_000000000900000408,
  0x000205070000000000_000400020500090701_000900030100040000_090004000205000000_050100090007000008_000002000800000009_070500000004080100_020000050901070000_000300080002000900,
  0x000000000000040000_060005000100070000_000000090002000500_000900000005080600_020100000600000000_000003000000000702_000007060901000804_080000030000000000_000000050000000300,
  0x000000080102050003_000001000503060004_030502000400000108_050600030700000002_080100050009040300_020003040806010500_000206070905000001_090000010304000605_010300000008070409,
  0x010000030800000009_080300010009000205_000002060005080300_020008040000050100_000000000500000000_000500000601090803_000800000204010006_050200000306000908_060004000100000002,
  0x000902080403000005_040701050906030800_080305020000000000_000800010000000406_000000040608000900_000406000500070008_000004000302000501_000500000800060007_000200060005090304,
  0x000000000000000900_040300000800000000_000002000001060403_000008010405090302_000200000008010000_000005030900070806_090100000600000007_000500080007030109_020800090103040605,
  0x000200000004070009_000000000000020306_050000000200000000_030600000500000701_070000000300000400_080400000000050900_010300000800090207_020006030907010004_090800020400000600,
  0x040905000702080006_020003000100000009_000001000009000300_000300000600050902_050009040000070001_000200000900060000_090000020501000608_030000070804000005_080002090006010000,
  0x000006070400080000_090407000108030000_020801000003090407_000209000304070005_000504080007020309_070000090005040800_040005030906010008_060902040801050703_030100050000060900,
  0x010400030807000600_020507000906030000_000608040005070001_090300050608040007_040000000701000503_070800020004000000_050702000100000006_000900070002000308_080103060000000705,
  0x000000010008070003_000108000000000000_070504020300000900_000600000004000201_000200000000030704_040003090000000800_000000000500020007_010300080009000405_000002000001000009,
  0x070004000600000509_000008000000020301_000000050000000006_040001000000070003_000900000305000008_000000000000050900_030000000000090107_080409000107060205_000000020500000000,
  0x000800000000060002_060009000000010000_000000000700000004_020004030008070009_080901050600000400_070603020904000801_000400000805000000_030006090000080005_050108000000000907,
  0x000000020000080100_040005080000000000_020000070409000000_000000010800090000_090000000005000000_000008000003000200_000004060002000007_000000000000000900_000309000704000600,
  0x000205000009000800_000700030500000900_080300060001040000_020008050107000009_000000000000080100_050006080903000204_040600000300050708_090500070800000001_030007000400090000,
  0x000300000100000000_000000060000010002_020100000007000000_000002000000070008_080009030500000004_010000000000000200_000200000700090001_090000000203050000_050800000901000006,
  0x000406030009000000_030000080700060102_080200060000000400_000005000006020000_090300000100000004_000000070000000905_000000040000000803_050004000000090006_020903000000040000,
  0x030000060904000205_020500010000080400_090000000800010000_040209000300000000_000007000600000503_060300040000000802_050401000200000900_070000000400050100_000000070501000600,
  0x000000050600000000_040000090200050000_070002010000060809_030100060005000207_000000000400010000_000900080000030600_000000000000000006_050400070000020001_000700020106000500,
  0x040706020000000108_020000000004000000_000105060307090400_000007040000000300_000604000008010500_050800000000040206_070001080602000900_090308050700000600_000502030409000800,
  0x000000000005090008_060800000402000301_020000000000040000_000008000007010000_000106050004000003_000007000000000000_080009000006000100_040000000109080000_000002070300060009,
  0x070000040306080500_050000000009000004_000000010000000009_000002060007000000_030407050100090600_080000000000010700_000805000601000903_020700000900050800_000000000000000100,
  0x090006000305000002_040508000000000600_000700060108000405_000600050400020008_030000020600050104_000002000000070000_000001000500000009_060900010200030007_080204000009000001,
  0x070300000000080504_000104000000090306_080005000400020700_050200010604030900_000001000005000002_040600000209000005_000000000100000800_000408050000000000_010702000806050400,
  0x040009000003050007_070006050000000008_020000000907000300_060000040000030700_000000000006010005_000800000705000609_050004000601000003_000001020300000000_080603070500020001,
  0x070200000000000004_090008070204000100_030000000008020607_000000000100000009_010902000003060705_080406090007000001_020300060009000008_040001080702090000_000000000300070402,
  0x000400090506000000_090000030002010504_000005000104000000_010000000009060005_000800000700030000_020000000000040000_000009000000080600_000100050900000403_000000060007050001,
  0x070008020500000004_040100070003020900_000000000104000700_080007000000000000_000200010000000800_000004030000070500_050403000002000109_060009000000000003_000000000000000000,
  0x070005000600020300_020003070900050004_000000020500000000_000000080400000503_030000000007000200_060007030200000108_040000090705010002_000200060300080700_050006010000000400,
  0x000304000106070200_010206090007080000_000008020000040601_060003000809000402_000000010204000006_090002000300000007_030009050601020704_040700030902000008_020601000000090305,
  0x000600000008000704_030000000000000500_000900050004000300_060000000507020109_090000020000000000_040000000800000000_000800090400050200_010000080000000007_000000070000060008,
  0x010007040600090000_000008070000000005_000600000000000100_000906000700040000_000002030006000001_000001000009000000_000109000000060308_000305000807010400_060800090300000000,
  0x080107050204000003_020403000007080105_000605000803070402_000009000108000704_040000000300020001_000001040009030508_070000030401050000_010806000500000309_050000080906010207,
  0x000001000000080405_080005060104000009_070904000000010600_030000050001070900_000007090006050300_000500000000000002_000000000300000801_000203070809060000_000000010000000000,
  0x040000020000000905_020000000608000000_010000000405000002_030000000000010004_000006030000000007_000501000900000800_000100080000000009_000804000002070300_000002000309050100,
  0x000001090006030705_080005000400000900_000007020503000401_050108040300070600_070906080100000203_000002070609010000_020004000908060000_010000060000050302_060700050001000804,
  0x030400000600000000_090008000203000600_020600050000080304_000000020807040900_000200060304000507_000000000905020800_000003070002000408_000004000508030700_070000030000000109,
  0x020304070009080605_060001030800020700_000005020006010300_070009000302000000_040003080900050206_050002010000000007_030406000001070800_090208000003000500_000000060208090000,
  0x000002000700050000_070000000309000204_050000000000000700_000400000100000002_000708000502000601_020000000800000000_000604000901000005_000007000005000903_000000000006040000,
  0x000604000003020008_000500000000000704_070200040800000000_080000090000050100_000900010500080006_050100000306000402_000709000008040500_000800000104060200_000000060000070800,
  0x000500060000000000_000000000407010805_010000000500000009_000007000100020000_000000080000000900_020000070000050008_000005000700000003_060000030005090001_000000000000040000,
  0x010902070300040805_080000040000000000_000006020809000000_000600010000050900_040500060008000000_000000000500000600_000008000200000009_090000000001070002_060000000000000003,
  0x000000080500000400_030100040700090008_000700000000030205_020006030000040807_090307050008000100_000408000200000000_040000000809010502_000000000305060900_000900010604000700,
  0x000503000000000007_090001020000080300_070000000003000201_040800000000000000_060002000700050000_010000000500030400_080009000405000000_000000000000000700_030100070000090004,
  0x010609080000070200_000005020007030000_030007000009000100_070906010300040000_040308090002060500_000000000408090007_090000030000020605_060003000200080009_000004050006010000,
  0x040000090200000000_020600010003000005_010500000008090000_090206030000000004_030800020000000106_070000000500000000_060302000700000000_050007000009030000_000900000302000500,
  0x010504060700030208_000200040800070100_000708020003000000_030000000008000002_000800000000050603_040605000207000001_070000080000000400_080000000002090007_000900070300010800,
  0x000500000000000000_080000000304090007_000004000100000006_000008000001000000_060000030702010400_010000080405030000_020000000500000000_050006040000000003_040109070003080500,
  0x000108000705060000_000000000000000401_000600080100000000_000000000008000600_000000070409000108_080400000000000702_000800000501000300_030000040800000500_010000000600090007,
  0x000005000002070004_010000040000000600_040002000000090805_000600000800000003_050900000007000400_030201000006080907_020000000000000500_000000020309040000_000000000000020000,
  0x010008000400020605_000000010500000000_000405030000080009_030004000709000806_000002060004070900_060007000005030402_000709000000060000_080000000000090200_040003050902000700,
  0x000405080000000902_000003000206000001_000602040001050008_000700000503090000_000000000400030200_050004000000000000_080000060100000003_000000000704000500_000000000002000100,
  0x000306020900000500_020000000807060304_040700000003010000_090000000501000003_030600040208000105_000100000000070008_070509060400000800_000200000100000000_080401000709000200,
  0x000005080000070000_040300000009000108_000800050000020406_000003020005090001_000501000406080300_000900000001040500_000700010600030800_000204030908000705_030008000500060000,
  0x060008010000000000_030001000702050006_070400000008090000_050009000003020001_020803060100070009_040107000005060000_000504020007000603_000300050400010907_090000000001040200,
  0x000000020600000004_090104000300000006_000005000401000000_000300050100000009_020000030800060000_050001000200000000_000000000002000008_030700040900010600_000006010703090002]
theorem mixed_36_ok : mixed_36.all fastOK = true := chunkOK_sound _ (by decide +kernel)

/-- `mixed` (10000_mixed_puzzles.npy), boards 9250..9499 -/
def mixed_37 : List Nat := [
  0x000100000500000007_000000000006000000_000000000000090800_000408000000020700_000003000902000005_020005000400010300_030001050000000002_000007010009060003_000000070600040000,
  0x090003000001060000_000700020000030900_000002000700080000_050009070200000800_000000000103050709_070000000900000000_000608000407000001_040500090308070600_000000000002040000,
  0x000800000201000004_000100000500060008_050400070009030201_000201050403000800_000004010007000005_000509000000010400_020603080705040000_000000090000000300_000008000002000006,
  0x020300090005040001_000501000706090802_080000000102000700_000802070009060000_000400050608020907_070600020301000008_030005080904010000_060004010500000009_090008000003000500,
  0x000900030000020604_040603090700000501_000002000001030007_000701060300040208_030200000904000000_060004010200000009_000406000800070000_000000000400060800_070008050106000000,
  0x040100030000000708_000000010008000604_080602000709030105_020006090100000507_000700060405080209_050400070800000006_000900020000000000_000004080601000902_000201000904060800,
  0x000802030009000007_000003000700000006_000005000000000903_010007090500000004_000500070402000600_000400000000000702_000001040000000209_020700010900000408_000004000003070105,
  0x000007000009030000_000000000000000507_000600000000020000_020901060807000004_080005000000070002_000700050002000000_070000000900000205_000009000605010008_000100080000060900,
  0x050002000000010007_060107000005000004_080900000107000000_000500040000060200_000803000902000000_000206000003040900_020600070004080100_000000020000070506_000708050009000400,
  0x030000000000010009_060000010007000300_010907000300000200_040000060002000501_000000000100020000_000000050409080600_000000040806000902_000009000003050100_000000000001070004,
  0x000000000600030700_080000000407000506_010006000003040802_000100020904070600_000000030100000409_060009000000000200_070600040009020000_090500000800060000_000300060005000000,
  0x070201000306000504_000509040207000300_000800090001000007_000000050603000000_000002000000050400_000607000000000003_020900030705000001_030006000009000000_000005060104030200,
  0x030509000700000000_070108090600000002_020600000100070000_000000000309000006_000805000207090000_090000060001020504_000006010903040005_000201000506030009_050903000002010007,
  0x050000060400090800_000200000700000100_000000090005000200_000000000504020003_070000080006000000_030004000200000600_000005020007000000_000003040000080000_040008000900010700,
  0x010500030600090802_090002000000070304_030807000204000501_000700040300020100_050200000009080006_000000000002000000_070901020403050008_080300000701040209_020005080000010703,
  0x050100000206040003_020603080004050001_040709010000060802_000301000500020400_060904000800000105_070500000100030008_010000000000000504_090400020708000306_030006050400090007,
  0x000000000009000002_080509020107000600_000000000306080000_000006010000070000_000100060000000409_000000000008000501_090000000201040003_070800030000000200_000002000005090007,
  0x000000040308090600_000006070200030005_020000000009070001_000000030007040009_030200010804000500_070000060902000308_090000080400050000_040000000106000703_060000020005000900,
  0x090002050000000000_000604000902000008_000305000000000906_060400000500000007_050000000807000002_020708030001090005_000000080004070000_000000000100000200_000100090200000803,
  0x000409000208060105_010200000000080009_080600000700000400_000000000004000800_000000000900010000_030004050106090000_000100060000020003_000006000501070000_000002000003040000,
  0x090305040607020008_000000080300000700_000007020005000009_020500060008000003_000600000004080002_030000010002000507_050203090401000800_080904000206050300_010700000803090004,
  0x000900000000070000_000004000500020300_000005090000060800_000209070301040000_040300020000000907_000700080400030000_000007000800000003_000800000006050002_000500030100080400,
  0x000006070902000300_020004000008000700_000100050406000000_000709030001020004_040000020000000008_000000000009000500_090607000003000400_000408090000000000_000200000000090000,
  0x000000060500030002_050000000400000000_070803000000050006_020005040000000007_060109000700000004_000700090003000000_090607000300080005_000408000001070000_010502000009040003,
  0x000005000008000400_000904000703000200_000002000600000103_050403060800000902_000006030002000000_000000000000060000_000200070406090000_000508000100000000_000000000000000001,
  0x000000000300000000_090200010000000000_000005000706010203_060402080500000700_000109000200080000_050700000103000000_000000000000000002_000307000005090008_000000000000050106,
  0x000100000000000800_020805010000070604_000409000006000301_050000030801090000_090002060500030000_000300020007040000_000506090000080007_040000000008010903_080901070003000005,
  0x040700000008000001_030801000406020900_000609000000000704_010008000200070400_060000000307050800_000000080600000102_020900000000040008_070000000000010200_000000000002000600,
  0x070000000000030200_080004000300050000_020009000000000600_050000000007060804_000108020604070900_040706090008000000_060205000401000007_000000000000000500_090807000000000000,
  0x000500000700080000_000006000308000200_080000010205000600_000000000601000500_000009050003020700_000005090007000806_000904080100000000_000300000004000002_000601000500040000,
  0x090000000005000006_070000090003080504_000000070600000902_020000000000060000_050600010802040000_000801000004050209_000200000900000300_010000000507000000_080007000000000000,
  0x000305010002000800_020008040006030100_000106000009020000_050009000400010008_080702050000060000_030000000908000000_010203080604070500_090004070200000601_060800090005000003,
  0x070001080000050900_030008000500000002_000000000600080301_000005000000000000_010900050000000000_000000070900000000_000403010205070000_050000030000000004_000000040809030605,
  0x000000010300090005_050900000600020301_000001000700000806_000008060501000000_010009020400000008_000500000807000000_090100000000080000_000003000004000609_040005030000000000,
  0x010200080000000005_000005030900000000_040600070000090800_000501040607030902_020007010000050608_000900000800000700_090300050000000000_000000000003000109_060000000704020000,
  0x040508000307010600_070000000600000002_000000040001030008_030005000100040000_000004000000070000_080100000000090500_050000010004000000_020003000000080100_000000000008000000,
  0x000107000003000000_090000000502000000_050008000906000100_060700030000000801_030000060100020000_000502000000040603_000605000800000307_000900050600000004_080201040000090506,
  0x000004020700000906_000000000105000402_000005040600070000_090000010504030008_050300080900040207_000008070000090501_000609000003020700_000207090000060005_000500060207000809,
  0x040000000700030800_000200000809050100_000005040002000007_000300020004000701_020000000103000000_000700000008020003_000002000000040308_070000080000010009_000809000000000200,
  0x070000090005000003_030001000000000900_090208040003060500_000700000806090002_060309000000000001_040800010009000605_050100060007040000_020900080304050106_080004000000070000,
  0x040008030200000109_090503000000000400_000006000709000008_000005000000080004_000900000400030001_030400000001070005_000000000000000000_000609010002000503_050000070600090800,
  0x000100000000040206_000007000006000800_000600020800070900_060300040000090008_050001000900000300_000809050600020000_090704000208000600_000208060000000700_000506000109080402,
  0x040300000000060801_060000000900000007_000207060000090000_000000050002000006_000100030000040002_000700080000000500_010000020508070600_000000000400000900_000000000000000000,
  0x000000090005000601_000001000006080309_090000000000000000_020000000800000000_000000060003000008_000803000000070004_000104000309060705_000009070000010000_050702080601090400,
  0x000600090200000004_000004000803060002_020000050400000900_060308000900000200_040900000001000803_000007080300090000_000000060000020000_050000030000000600_000000040100050309,
  0x000900000800000700_000000090007030002_000000000100000009_020008000000000900_030001080000000005_000409010003000008_000003070000090801_090100000008040000_080605040901000000,
  0x000600000504000900_010902070600000005_000508000009000000_000000000900010800_000004000000000000_000003040800000006_000700000405000600_020000080106040000_050006000000000103,
  0x040000000007000000_010007030900050602_060000010208000000_020906040703010000_000308020100060700_000400000600000000_090000070000000008_030700090001000500_000002000400030907,
  0x000300000006000004_000600020500030000_090008000301020005_030000000000000000_070406000003050008_080005000204000703_040900030602080501_060803000105000002_020000000009000300,
  0x020005000307040008_030000000000000007_000004000105000300_000000010003080005_040500070200000900_000000050000070600_050900030700000804_080007060500000000_060003000004050701,
  0x000000080700000000_010000000004070005_000008000105000300_030002070000060908_000100040908050000_080005000006000701_050006030800000409_020000000000030007_000000050007000000,
  0x000900010000000800_000002000006000500_060000090407000000_050000030708000402_090000000000000700_030800000000000000_070300000004020001_020006000109000000_000000000000000900,
  0x020308000600000000_000704080000010000_000000000000000200_080000070000020004_050000000009000103_070400000000000509_000000000000000000_030802000900000400_060000000403000002,
  0x000200000009000000_000008050700000006_000300060002000005_090000040000000102_000000000000000800_080000090006000000_060400000000030207_020000000900050000_000007020000090000,
  0x000100000004030805_000302000500000609_000807000900020000_080504090302060107_000000000007000500_020701000400090000_030400000700050906_010205040600080703_000900030000010204,
  0x000700030005080001_020100060700000000_000005010002070000_010607000208040903_080402000003060705_050903070000010800_000804000500090006_070001040906000500_090000000000020400,
  0x000700000004000105_000800090000000400_000000050200000900_070004000002010000_000009000000070308_010600000900050000_080005000000040003_040100030800000506_000003000005000000,
  0x030500090200070601_000000000607000000_070006000108000402_000700000800020300_000003020000000700_000100000500080900_090000000302050807_000300000701060000_080007060900040103,
  0x010600020800070900_000000060100040005_000008000000020106_090807030602000001_000000000008000702_000400070001000609_030000040005000200_080200010703000000_000000000206000007,
  0x000100000603040000_050009020700000008_040006080901000002_000908000306000400_020000000809010000_060400010500000800_000604090200030501_030005000100090200_090200000400080006,
  0x000008090701060000_010003000005070902_000009000302000401_000305020006090108_000900080107040300_000104050903000000_090001030200000607_000002000009000004_000400010000000009,
  0x000600000000020000_000000080100000009_000802040000000007_000000060403050200_000300010207060000_000004090008000701_000006000000000100_030000000000000000_080409050000070002,
  0x000000000501000000_020000000706000009_050100030900000002_080600000000000000_000002000003060000_090700000000000001_000400050009000000_000900000000030004_010205040000070000,
  0x020000000009050006_030001000405000000_050008060002000007_080100000000000402_040302000000090008_090500080004000000_000005040000070600_000800000000010200_070400020601000000,
  0x000000090000020800_000900000000050104_050800000200000000_000000000007000000_000507030908000000_000600000000030700_010000000400060300_090002070300000000_000000000001090407,
  0x000105000402000000_000008070500000000_040002080609000500_000007010200000300_000500000000000001_000000000000050800_000800000007060900_020003000906070108_000600000100000400,
  0x000100060508000009_080000000900000000_000900070100080000_000001000006020000_030700040800000100_000600000000090700_090800030000000001_060200000400000905_000007000009030008,
  0x000001060000070005_030600070008020004_070200000009000100_000007020000050309_010003040907000206_020000080305040001_080002030500000007_060004000702000008_000000010006000402,
  0x040009000005000801_000000000000090500_050007000102000406_090000010200050000_000000000003000000_000002000700000600_070000040000080003_020000030000000005_030900000800000000,
  0x070403000006080500_060905000803010002_010208070000000304_000100000300020005_000600010007000800_090000060008000107_030001080009070006_000800000702050900_000700050001000008,
  0x000400050001000000_000108000700000006_090000000000050700_000000000500000000_080901030002000500_000002000004000003_040000000009000102_020009040007000000_010306000005070900,
  0x070102000304000006_050803020607000100_040000000100000700_010008040903050007_030504000800000600_000700010500000300_000307000000000000_000400080000000003_000201000000000400,
  0x000000000200030000_000900000508010000_000000040100080602_040300000000000201_000709020000060000_000106080005000400_070003000000000900_080405070900020000_090200050600070300,
  0x010300020000000709_000700000305010200_000208070900000400_070002000500000301_000003000000000500_000000010203000000_060005000000000100_030000040700000605_020407000106000803,
  0x090000000005020607_000506000007000000_010002000900040000_050009070000000800_030008000100000009_000001080609000000_000000090500030006_020300040000000108_000000000000000502,
  0x080007000002000000_050409070000000600_010302090006000000_070003080100000002_000800020900000501_020900030005000804_090008000200000007_030004000508090006_000005040709000300,
  0x000007000004060209_060000000000000000_000500000002000800_000000000009000007_000006080103040002_000200000000090000_000001070005030904_090003040801020005_000400030006000708,
  0x090000030600000800_000000000000070602_020004050000090103_000805090700000001_000406000203000005_010200000506000300_000002060000010008_000507000001000006_060003000408020000,
  0x000000040003000001_080003070500060402_000204000608050007_070409000305000000_020800010000000000_000300000004070509_090608000007000100_000002000000000004_040000080000000900,
  0x090000060100000802_000200080005060109_000600000900030007_000904000001000000_000803000006000000_020500000000000000_000100000002000903_080000000600050200_000700000000000004,
  0x000000090002080603_070000000000010004_030600000001070205_010408000000000000_090200010008030000_000000000900000008_000000050007060001_000005080000040307_000004030106090002,
  0x000500020703010800_020903040008070005_070801060509000203_000608050000020107_000200000300050008_000007080001090006_080000030400060901_090302010600000004_060100000805030000,
  0x030004000800000600_060500000000000000_010007090000050203_080005060000030000_070401000200060500_000003000507010800_020000070000080000_000309080600020000_000700000109000000,
  0x000000000004000009_000106000800000007_000802000000030100_070400080105090000_020905060000000000_000000000000050700_000000000003060008_000500000900070000_000209000008000405,
  0x060200090000000504_000300000600090108_000900000500000600_020000000009000301_000005020000000000_030000050000000000_010800060200000905_000000080700010400_000500010003000800,
  0x050002080000000706_060708000002090001_000001060900050208_000003000008020000_070200000603010000_000106000000030407_020609070004080000_030504000800070100_010000030200060000,
  0x000000000509000308_030407080601000005_000809000004010000_000004000800070002_000500060000000000_000900000400000000_040008030000000700_060305000708000400_090000000206080503,
  0x010400020009000006_050800000706010000_090000000000080200_000000030200060000_030204000000050700_000105070000020008_000300060000090805_080009050300000000_040007000000000002,
  0x000000000000080705_000600030000000901_000100050000060304_070000060200090000_030000040705010000_020000090301000400_080005000600040100_060903080004050200_010700020500030006,
  0x000900000600000302_040000070902000008_020800000005000000_010000000800090003_000608000100020005_090405000007000001_060000000003080000_000304080000000506_000009000701000004,
  0x030000040500000200_020005060001080009_000800000000000300_080600000005030000_000000000800010006_000000020000090804_000100000002000003_000000000000050108_000300000106020000,
  0x060000000300000000_000900000007000308_020503080009040000_070300000005000800_050208030700000000_000006020900000000_000405000003000100_090000000000050000_000700000600080200,
  0x000602030005000900_000700000100000300_050003000002000701_000506080000020007_000008070000010500_020107050600000809_000200010007040600_070000020300090108_060000000009000205,
  0x010000000000000000_000200000009050000_000000000500030000_020407000103000000_000600050000000000_000000020000070409_030006000000080000_000000000604000000_000908000300000001,
  0x000000000000000507_000000050709000800_070000000600040002_000007000000000205_000100000205000000_000200090000080406_020001070900000004_060704000001030900_030005000006000000,
  0x060000000300070005_080503000700090401_000009000501000000_000005010906000700_000000070004010500_000007000803020000_000706000009050100_040901020000000007_050802000107000006,
  0x000000000000000001_080102000000000600_000609010207000400_090408000501070006_070000000900000000_020501000400030000_040003050009060008_010000000800000000_060005000100000002,
  0x070409080300000000_000601040007000905_000305000906000800_000906020701040008_000000030509010206_050102060408000007_000807090600050000_000500070002060100_000203050004000000,
  0x000300070000000106_000007090000000000_000400050000000002_000109000000000405_030806000905000000_000000010800000903_000900000007020000_040008000509030000_010700000406050809,
  0x000900060001000000_000000070900080003_050100000200060000_000800090400030500_000405000000070001_000007000102000900_000700010506090000_000000000000000005_080009000000010000,
  0x040001000008030706_070800000305000102_000002060007050004_010007000609040308_050608000403000009_000400000000070600_080000020000060903_060003080500020007_000704030906080001,
  0x000200000001000700_000003000409000000_010900000200060300_000000000000000805_040002080100090607_000300000906020000_000000000300000900_090000000000000003_030007000504000001,
  0x070000050000040002_000004000700060905_050902040000000000_080009000003000004_000503010806020000_020001090407030000_060000000108090007_090000060000000001_030100000000000200,
  0x010900040608030507_050000000000060201_060000010205090408_000209070000010805_040600030001020709_000005000002040306_090003060804000102_020000000709080603_000006020103070900,
  0x070009080105000003_000305020704080001_020801000900000000_040703000802000006_090506000307040802_010008000406090307_080107030009000000_000000000601030208_000600040508070000,
  0x000204010005000007_000703090400060000_000006080700000900_000005000907080006_000000020000000400_020007000004000000_000000000000040003_000402000309050100_060008000000090700,
  0x000009020607080000_080001030500000000_070206000800050900_090000000103040207_000002000005060000_000703000204090000_000507090302010000_030000010008000500_000000050000000000,
  0x000409000005000200_050003040102000007_020006030007000000_060205090300010000_040007000501020306_000300000700050009_000002000609040100_000700000000000005_000601000400000902,
  0x010000000309000000_000004000000000000_000006000000000203_080700000005000100_000001000203070900_000003000001000608_090500030004000700_030000090000080000_000007050802000006,
  0x080704060000010900_000600000005000008_000500080400000700_010003050800070604_040800000000000509_000000040006000801_000109020004000306_000305000700090000_000000090603050000,
  0x050007000100030009_000006000703000004_000301000000000700_060008000009000500_000704000002000906_000200000408010307_000000000900000401_010009000600000000_000002000000090600,
  0x000002000003000600_080000000000020700_000000000400000103_090000080007000000_020400000901000000_000000000604050900_000204060000010508_010009000000070000_000008010305000000,
  0x080405010203000600_070200000000000108_090601000807000200_040509060300010702_000102070405080903_030807090100060000_050700000006040001_000300000704020009_020900030501070806,
  0x000000000005000000_000601000908000005_000008000000090006_080500000004000001_070400000006020308_000000000709000000_000900000000000003_010000000002000009_030000000400000500,
  0x000501020308000700_000000050001030800_080000000400010000_000009000804050100_050000010000000900_000000090002080006_010000000003000200_040900000000070300_030008040205090001,
  0x090008000000000000_000407000000000905_010000000000000307_000900080000000000_060004050000000802_000000020004000600_080209040305070006_000005060108000409_040006000000000500,
  0x050908000000000700_060000070003080000_000007090002000006_040002060908000000_000800030100040000_000003000000000008_020600000000030900_000000020300000805_080000050006000002,
  0x050007000106000200_020600040800000700_040800000907000300_090704000300060000_000300090002000005_000000000700000000_080006070000000003_000405060000000809_000009000000040600,
  0x000000070000020508_000000020005030100_000200000403000600_060402030000090005_000307040500010802_050000000200060403_020603010804050907_040000060002000001_070001050009000000,
  0x090600000700000000_010000030000070000_000500040008000106_000000090307000200_050000000004000300_000300000000000409_080204070000000600_030000000001020008_060109000800040000,
  0x000900000000020108_000000040200090700_070002000903000000_050600000000000200_000000060009030000_010000000500000000_000001080600000304_020000070400080000_000508000300000002,
  0x060200000000000000_050004000000000003_090307010008000002_000000060009030001_000100040005090208_020000030001070000_000005020100000006_000002000300040000_080600050000020007,
  0x020000000000050803_030007050800060009_050000030000070100_070500000600000002_000002040000000608_000000020000040000_000700000100090006_000000060000000300_000006000005000001,
  0x000201060300000000_000006000004000900_000000080207000600_050900020000080000_060800000000020500_000107000000000300_000000070000030000_010000030800000007_000008040100090005,
  0x020301080900000005_000005000000000106_060000000100000902_000906000302040807_070200000000000500_000000010009060000_040000000501000008_000100060000020004_030700000000050600,
  0x040000030007020000_000003060900040700_000000020800000000_000300090005000007_000500000600010000_000002010008000309_000000000109000006_030405080000090002_000600040000000000,
  0x050006030100000004_000000000200000506_000001080000000300_080000010005020000_000605000003000000_000004000900000005_000802000300050000_060000000408030009_000003000000000108,
  0x090007000000080000_020800090000000100_030005070008000400_040000030000000000_010000040900000500_000000060000090000_000000000304050200_000000000709060000_000002080006000000,
  0x020703000900000806_000800030602070504_040000010007020003_070902060001000300_030408000500060701_060005070000090400_050300080100040200_090004000200080007_000000090004000005,
  0x000000000100000706_000200000000040008_000007000000090000_030600000001070802_020009000800060503_000800000602000000_000008000206000004_010000070403080005_000300080500000107,
  0x000900020000000004_080500000004000701_000204000500000003_000800040005070300_050000060803000002_000000010009000000_000100000900000007_090700080106030000_000000050007000000,
  0x000000070006000000_040000090300000700_000000080000090000_060900040000000200_000000000105060900_010500000600000008_070809050000030601_050000000008000002_020000000703080000,
  0x020500000100080004_010004050708000000_000009060000000501_000000090300040000_000000080006020705_000700000002000000_070008040601000003_060400000003000008_000103000000000400,
  0x040001000500070902_070800040000030000_000200090007040000_000500000700090006_090008000000020307_020700000000000800_080900000001060703_000004000003000009_000000060000080500,
  0x070400030806020000_000008010002000000_020906050700010003_000005000600080100_040602080100090000_000000000009070002_080209060305040001_030100000008000206_000500000000000000,
  0x080509000200040001_000107000004000003_030400070000000002_090203000608010000_000001020400030005_040005010000020900_000300040000000109_000704030905060000_000900000100000004,
  0x000000060004000000_000400000200000103_000500000703000000_000000020008000005_000000000000090000_000001000500060204_000000000002080000_070200090006030000_080003000405020700,
  0x000000080000000000_080001070009030500_030000040006000700_050006000002000309_010700030000060200_040300000000000000_000000000400000003_000600000008070000_000000020607050004,
  0x090004000000000000_000000000000000003_070200000000040900_000802030609000000_060003000100000208_010000000000000006_030000040000070509_000000000003020000_000107090000000604,
  0x000200000300090504_000004000900020006_000006000405000108_040800030207010009_000000050000080000_000000000004050200_000607000000040900_020000090500030701_000300040700060005,
  0x000600000400000003_000309000000000702_050802000006000000_090005000003000200_000703040800000001_000106070200000005_060000020007080009_000900050304000100_000000000900040500,
  0x060000050000030700_040001090703060002_000000000002050900_090000010005070408_080000000004020500_050200000000000600_020009000000080000_000800020109000005_010405000308000200,
  0x000504000009000000_000603000000010000_000000030008000600_000100000005000800_060009080704000200_000800000200000004_000000020901000003_000900050000070000_000000000807000500,
  0x070000000000090008_000605070008010002_040002060000000000_060001050000080000_000004000609000003_000000000007060004_010000000703000500_030407090000000000_050900000002000706,
  0x010508070906020003_000709020405000008_040602000000050907_070003040800060500_060004000500000002_050901060207080304_080000000103070000_000100000704030009_000300080000040105,
  0x040009060702000300_000008000000060700_060005030000000402_000802000501000000_000900080000000200_000004000300000005_000006000800000907_000000090206000000_000000000400020800,
  0x000008090100020006_000002050004000000_000109000608000500_000804070001050003_010607000503090402_020003040000000108_040200030000080000_070300010009060000_080901000002030705,
  0x000000000900000000_000000010802000007_000002040703000000_080000000000090000_090100080400030200_000305000000080600_030600000000000108_010008000607000009_000000000008000503,
  0x010309050000040008_000600010304000700_000007080006000002_000901000807000006_060800000503000900_000203060000080500_030400090608070200_080106070200090400_090700000401000800,
  0x090000030104000200_000301090600050000_040000070005090000_000000050000080004_070400080901000005_000800000400070000_030005040000010000_080000060000000700_000009010003040000,
  0x000604000300000002_050000010000030600_000200090005000000_070103050400000000_000000070106000000_000400000000070005_040507000000000900_000001060702000004_000002000000010307,
  0x000000060903010000_030100040000050009_080009050000000006_000000000000060000_060000000002070004_010007000000000800_090701000604080003_020800090700000000_000605000300000000,
  0x000200000000040000_000008000000000301_000605020004000700_080000000103000000_060000050900000002_000700000002090000_000807000000000206_000003000200000008_000500030009000000,
  0x000007040000010906_000408070000000203_000600000000080007_000000000000000001_000002010905000608_080900060300000500_090004000206000005_060000000000020809_070000000008060004,
  0x000904070005000001_000300020409000800_000507010300040000_000008000200000004_000000000003000008_000406000001090000_070002030500080000_000000000100000500_000000000000060407,
  0x000004000600000307_000000000000040100_050903000000000000_090600020100000004_000000060304000700_000400090000000000_000008070000060003_020006000001070008_000500000800000402,
  0x010000090002000000_000509000100000204_020000000506000000_070000020000000400_090308000400020000_000200080600000503_030000060000040000_050900000200000008_000002010903000007,
  0x000607000403000000_090000000005030001_050103060009000000_030800040100070006_000200050000000000_000900000708020100_000500000301060407_000300000607000500_060000020004000300,
  0x080200050006010000_040106070900000005_030007000000000604_000001000800000000_000600000005000000_000800000107000906_000903020000000500_050000000700060200_060000080001040309,
  0x000008060003050000_040000010007000009_000600050900030008_000004000100070003_000702080000000904_030006020700010000_060009000500080002_020005070600000301_080100030200040000,
  0x090000030000000600_000600000000000000_000000000400010902_000000000100000509_000700000603040000_000000090507000300_000502000900000000_000000000008000200_000400060005000703,
  0x000000000000000000_000607020009050403_000205060007000109_050700000000010000_000300000000090004_000801050300000700_070908000000000605_000003000200040000_000000000006000800,
  0x000700000000050004_040902000600080000_000000040800000009_090004000306000508_070800050009000000_000600080700010903_080000060000090100_050400010900000002_000209030500000000,
  0x000004060305090801_030000090200000000_080009000704030500_040100030500020008_050807000000000004_090002000401050607_010905000802060003_000403000009000100_000008000000040000,
  0x030002000409010500_040605000003000708_070001000000000004_000300080100060400_000000000304000009_000008000000050100_050104000800070300_000000040000080600_000700000500000900,
  0x090400010008000006_060503090007020801_020000000000000407_000209000000000003_000000050903000600_030005080000000000_000300040009000700_050000020000030100_070806030001040209,
  0x060800000701000004_000007020805000109_010905060304000007_000703040900050000_040000000002070308_080006000003040902_090000080406020005_000208030100000006_070004000209010000,
  0x000006000809000005_090700000200000106_040205060100000000_000400050000060802_070000000900050400_060002000000000001_080100000002000000_000000000000000200_000004000000000608,
  0x060400090000000002_000900000000040600_020307010406080900_090100070000030500_000800020105000006_070000030809000200_000701000002000809_050009000708000300_000000060001000400,
  0x000700000000050006_050000040106070000_090001000307000408_060000000200000800_070802000000060000_010009000000030000_080000000400090001_000007000009040003_030900000000000602,
  0x070004050000060100_050108020700000900_000002000401080000_090800060005020007_010000000204090306_000006030900010000_040000000800050209_000000000000000603_000005000600000000,
  0x060005010002000007_090000000300040106_070004060008000003_040207030000090500_080900000700000300_050000080000070001_020008000600010705_000700020004000000_000509070000000604,
  0x040800090200010000_020006030800040000_000300000400000200_070000000503000801_050000070000000004_000008000000050009_000409010705060000_060000000004000100_010000000600000400,
  0x000000000004090206_060009080001000007_070000000009030001_040000090000000600_000801040600020500_000000010000000904_020907000000060105_000006070905080302_050000020006000009,
  0x000900000604000000_000000020700060005_000600000000000900_020000000006080501_000000000500000200_090800000100000600_040300060907000800_060000040800000000_080009000001000000,
  0x010205000000000000_040007000000080000_030008040007020000_000800030600000509_050000000009000002_090406000500000000_000004010800000003_060009000004050000_000500000000070000,
  0x000704000600080005_030000000100000000_000000000200030107_000000000000000006_000007010500090002_080009000000010000_000900050800000000_000005060900070008_000803040700000000,
  0x000004030006080107_010308040700090600_000002090001050000_030006000900000801_040807020103000000_000501000408000703_000405070309010208_020100080604070009_080709010502030406,
  0x070008000500000201_050903040201000608_060201080009000503_030702060400000800_000800070903000000_000004000108030700_000000000802000300_000305090600080104_080007000004060002,
  0x070000000500000000_010009000003070000_000500070902000106_080000000106000307_000001000800000000_000406050700000000_000100000605000700_000004010000000003_000000000000050400,
  0x000508000000000000_000900060002000105_000600000000000409_050009000004000007_000400000900000200_080107030206000004_000300000000070000_000000000309000000_060704000800000500,
  0x000107050000000308_000008020103000009_000004000907010600_000000000300050004_000005070009060803_040600010500000902_070801000200030006_000000000706080501_050006030801000007,
  0x000900060507040000_000006000302000900_020000000000000000_000002000003060409_040600010709000205_030500000000000000_000003000001090700_000204000000000100_000000000400000500,
  0x000809070005000600_060007000900000000_000000000002070009_070000000000000000_000900000704000302_000403000108000006_000608000009000000_040005030207060000_090700000006000503,
  0x080003040105070602_070000000002030100_060200000000080405_010308000000050904_000704010000000300_000500030400010200_030009050004020001_050007020003000806_040802000000000000,
  0x000001020904030006_000009000000040007_040002060703090501_050004090000000600_080106040007050000_000203000601080704_030000000006000105_000605000008070000_020000010009000000,
  0x000801040307000209_000900000000000608_030002080000000000_020000070000000000_000000000205080100_000003000001000407_080000000000070000_090000020008040003_000304050709060000,
  0x000604090008030501_000002000100060009_000005060000000800_020809010000000306_060500000400000100_010403080602000705_040206000003010907_000900000706000000_000708000000000604,
  0x090000080501000300_000000000000060000_000002060000090800_040001000000000000_000709000400000600_020800010300040500_060000040105000003_000400000000070900_080200000906000001,
  0x030000000802000600_000000000904010203_000102060005080004_000201050000000308_050000020408000107_060008030100000900_000607000003090001_020009040501070800_000805090706000002,
  0x020607050000010400_050000060000030900_000301080400060500_000000000702040801_040109030008000000_070200000600000009_000402000009000605_000005040100000700_060700020800090100,
  0x010906070800020400_080500000304000000_000000000001000500_000200000000000006_000000000400000700_040000080203000000_000003040009000600_000005030000090001_000000000100050300,
  0x000000080500000000_000900000601000800_080003090000000601_010500000000000300_020000050308000400_000008000000000000_000805010004000709_000002000003060105_000007000000080204,
  0x000406030009080000_000900000508060007_000500000206000903_000600020000090000_000300080000070506_040800070600020000_000100000000000602_000000000800030000_000000000002040000,
  0x060000090000000003_050007080206000409_000900000000020006_000000040309000000_030000000608040000_080009070100030605_000600020700090804_000005030900060001_000000060000000307,
  0x000000000002090608_000200000000050104_080006050104070000_010009000000000007_070400060901000000_000800030007010005_000000000000000500_020000000509040700_050000000000030200,
  0x000400000000000500_000603000005000000_000009000002000107_040000000700000000_000901000500030800_080005000003000704_030000050007000000_000000000001070008_000000040209000000,
  0x010005000000000000_000009060000000507_000600000700000000_000002000307000600_000900000504000000_050301000000000002_000008070009030005_090007000005010806_000003000100090704,
  0x030001000500000009_050200040000000806_070600090000000002_000400000000000003_000002000009040001_010900070000000008_000108000907020000_020300080600090007_000000000201080300,
  0x090004080006020300_000500000001000008_000100000004070000_050003000008010007_010007050300000009_060002000000050003_000300020000000000_080000000000030702_070000000100090000,
  0x000500000800000000_080006010300070000_000700040000000500_050300000407000609_000000030600050002_040000000000000000_000001000200000700_000205000004030900_060409000000000001,
  0x030406000107000002_050001000000070008_000208090400000301_000007000904030105_000002000500080000_010000000800000000_000700000000050004_000000000709010000_000000050003000000,
  0x000008000600000007_000607000209000001_000100000700000200_000902070300040100_000701000000000502_040000020500000900_000304000100080609_000500000800020003_000206000003010705,
  0x000400000007000003_010600000000070208_000702010006050904_000000050000000300_000000000700000100_000000000209000005_040900070002080501_000000000104000000_070001000600000009,
  0x000307000000090000_020000000403060005_040000000000020008_000908070306000400_000400050002000007_000200000904000003_080002000001030000_010503090007040200_090604000000000801,
  0x070009030000050102_020001000900000004_000000020000000800_000400010000080006_000200060005040701_060100000000000500_000000000400000300_040000050706010008_080700090003000400,
  0x000403010900000000_070001000400090000_050000000700010403_010802000607000500_000704000502000100_000005080109040000_020100000000070000_000507000001060008_030600070204000000,
  0x040208000700000105_050000000000040000_000003000000070600_060005070001000900_000007040506000000_020400000000000006_000004090005020000_010602030007000000_000509000008060007,
  0x000008050400060307_000006000903010000_050300000601000000_060004000200000000_010000040000000600_000700060009020104_000801000500070900_040000090800000200_020009000107050408,
  0x000208070003000000_040000080005010700_000500000600000300_030407010800000005_000600000007000000_000000040900030600_080004000000000003_050006000000000001_000002050000060804,
  0x020306000800000001_000908000600000200_000705000209000406_050000000700000100_060000000900000300_030200010400000000_090001070000020003_080000000304000000_000000000002000604,
  0x000003010200000509_000400050009070103_010509040300000600_080000000000000000_090105070000000000_060000000000000004_000201000700090806_000600020000000007_030907000604010005,
  0x000003060005020000_040000090002070000_020800000100050904_050408000000060007_070002080006040300_000000020704000805_060904000000000002_000305000000000400_000200000000000000,
  0x070009060302000805_000400090800000100_050000000100030902_060305010000000409_010004000206070000_080700030409050601_090600000507000200_000200080601000504_000000000000080000,
  0x060700080209040105_000800070100000000_000002060503000000_070000000005090000_000509010002080700_000000090300000500_000106000000050907_040900050700010203_050000020001060000,
  0x000504070201060809_060000040500000001_000900000800040000_000300000902080000_000000000007000400_000201060008000903_000106090000000200_020700080000000100_090000020100000006,
  0x020000000004050008_050000070008000203_060000050003000000_000200030500000400_000600040800020001_000408060100090705_000000000000000000_000000000001000009_000500080006040102,
  0x000006000004000009_000008000003040500_000200090000060700_000600010000090000_030809040702050006_050000080000030000_060907030000010200_020400050607080000_080005020109000000,
  0x060900070008050003_080000060300000007_030000000000000001_000006090004000005_000008000600030000_000402000000060000_000803040009020106_040000050100000308_000009030000000004,
  0x000904080000070000_000300000400000001_000208000503000900_090000010002000600_000000000000000000_000102030000090504_000809000005000200_000006020007000000_020001000309050000,
  0x000000040802060000_080503090700010204_020004030500080007_000001000007000002_050007080904000601_000308020000000000_070000000208000305_030000070400000106_090102000000070008,
  0x050000040007000200_000000060105000403_060407000002000000_000600000308040001_000100000000000500_070903000000000000_030702000000000006_000004000600000700_000000050701000304,
  0x000800000604000100_000000000108090205_050300000009080006_080403090206000000_020006010000000809_000509000400000302_000100000005020900_070900000800000600_030000000900070004,
  0x040906050002070003_000705060008000001_000001040900020605_000004080000090706_000009010005030400_000600070000000100_000100090004060300_090008000000000504_000407030501000209,
  0x000003080001040002_000002090000000007_000708000002000600_000009000804020100_000107060203000000_020806010000000304_000005000100060400_000000030609000000_090601050407080200,
  0x030001080000000000_080500060100030700_000900000003050800_000008010709040000_000000000000000600_000309020006080000_000005090008000300_000000000200000000_000402050301000000,
  0x010006050208000000_000000000709000806_000000000000050000_000708000004000603_000501000800000002_000000000001000700_000005070603040008_070003000000000009_000000000005000300,
  0x000005000701000006_080000030600070105_010600000004000309_020009040100030000_050800000002060901_060003090805000400_040006020900000003_070201000503000804_000908000007050602,
  0x000004000600010200_000100050700060900_000000000003000500_000006000100080300_000805030000020400_000000000000000706_000200070401000600_000000000000030007_010600000305040800,
  0x030001060000070400_000405000302000000_090000010000050002_080000050000040009_010900000008030005_050000020009000600_000003090000000000_000809030007000504_000000040000090000,
  0x000000010007080906_060000050003070401_010700000000000500_070306090501040802_000100030000060009_020008000600010005_090001000308050007_030000020005000600_080500060700030004,
  0x000007000108040603_090000070403000105_030001000000000008_000206010005030807_000305040800090201_000000000207050000_000700000009010002_060100000000000500_080902000000060004,
  0x000000000000000107_000801000900040000_040000000000000800_060300090405000001_080004000702000000_000500000000000204_000403000800000000_020000070009060400_000600050004000008,
  0x000000000209000004_000809030004050000_010200000507030900_000000000000000001_000100000000000205_020305000000080000_000002000003010009_080001020005070403_040000000900020000,
  0x000007030100000000_030900070400000200_020104000000000007_000603080007010400_040000000300070000_000701000000030600_000000040003020000_010402090000000000_000305000000040900,
  0x040700020000080005_000500060008070002_020800000000040603_000002000306000800_000308070005000400_060100000002030500_000905010200060000_000003000007000000_000200000000050000,
  0x000000000002000007_060002000001030000_090004000803000600_000208000000000000_000006000007000004_070401000500020300_020000030700010000_010007020005060400_040005000000000000,
  0x000200090006000407_000500040201080006_000304000700000000_040800030107000509_000100020000000003_090600080000000700_000006000000000200_030905000002070604_000701000500000908,
  0x060008020500000003_030005000000000902_010402000000000005_090000050200000000_000000040701030000_070001000009000206_000600090300020000_020003000000000008_000000060000000300,
  0x090002000000000000_000600000001000000_000800020009000700_000009080000000005_000403000005000007_000000030200090100_000300050602000409_000005000700020300_000000010000060008,
  0x010005000700000200_060200030000000005_000007000000000006_050700000003000000_000006000009000107_020000000008060004_080500090407000601_090600000002070000_000000000106030000,
  0x000000000400000200_030000070008050406_000206010000000000_010000040007020000_060000000500070000_000500000600000000_070000020000000008_020300000004000900_000900000000000002,
  0x000806020900000705_000705000000040000_000102070503080000_050201000007000804_080609030405000000_000003000200050600_000007000302060000_000300050706000001_060504080000000003,
  0x050000000001090004_010008000409000500_000904000500000100_000000030007080006_000000000000000009_040709000800000301_070406090305010800_000000040702000900_000500000608000700,
  0x020000010407000000_000000030009050200_060000000000070304_000800000000090602_090607000000010003_000100060008040005_080006050200000009_040005000000020000_000009000004000000,
  0x000006040000000208_000005020607030000_040002000001000000_090004070200060300_000300050406000100_000008010000000000_070400080500000003_080603000004000501_050209060100040000,
  0x000201000000030007_050000000000000000_070003050200010600_060000000500000701_000000000000000000_000008010000060002_000000080000050900_010000020000000000_000905000300000006,
  0x000005020000060003_090006000407000000_000002000100090500_000000040200080007_080007030509000401_030200070800050600_020003080000040000_000509010000070208_000008090602030005,
  0x040600000000000708_000800000002030000_000000050800000009_000008000506000007_060400000200090000_070500040900000000_080009000400070103_000706080109000402_050000000700000000,
  0x000400000000010000_000000040100000809_080001000000000004_000000000800000200_010900000005000007_000000000703000001_030000000006040000_000205030000000900_000104020000000003]
theorem mixed_37_ok : mixed_37.all fastOK = true := chunkOK_sound _ (by decide +kernel)

/-- `mixed` (10000_mixed_puzzles.npy), boards 9500..9749 -/
def mixed_38 : List Nat := [
  0x020500040009010008_000907000002040006_000000010006090000_060708000200030000_030100050000020400_000205000000000800_090004000000000602_000002060903070104_000600020005080000,
  0x000400060000000200_000000000000000907_000002000800000301_010005000000000009_000009010405000706_080600000700000500_090503040006070000_000006000003000100_000008090000030000,
  0x080000000400000005_000500010000060200_010000050000000900_000009000200000001_000108000500030002_000600000000000008_020000000007050009_060001090800020300_090000000002040006,
  0x050008020006000700_010203000807000006_000000000304000200_000500040008010600_030806000001000400_000104070000080000_040002060009070000_000005000000090004_070001080405000002,
  0x000507000000040000_080002010000000007_000309050407000206_030001070509000408_000804000200000905_090200000608010700_000000090005030002_020008060304070001_050100000002000604,
  0x000009020604000700_070600080000030002_010004000000000000_040002050706000103_000000030408020000_000803000102070504_000006000800000005_090700000200000300_000500060300040807,
  0x000100040905080203_000000000200000600_000002080007000904_000003000100090402_000601000000000000_000009000500000100_010807090402060000_000304000000020700_020905000306000001,
  0x000507040908030000_010400000602000805_080000000500000906_000000000200000000_050901000400060000_040300090000000700_000100000004080009_090008060000020003_000004000300000000,
  0x000000050900040302_030406070802000005_000000040000070608_060002010500000400_070003000004050000_000004080009000206_040000020005010709_000701000008060000_000609030107020000,
  0x060400020000000700_090800000503000006_000500060000020008_000000080005090100_040700010006080305_000000000900060004_000600000302000009_030907000000000002_000200090000000000,
  0x000007030500080200_000000000000000300_010000000402000006_000500060000020000_020000000900040000_040000000000000700_090002000307000600_000800000605000000_000003090200000400,
  0x000300090800000007_000509000601040008_010804000002000000_090208070500030000_000000000000050700_050701000000020006_000006080000000000_000100000205090000_000005010907000000,
  0x010600080000090500_030200060000080004_000800000204060001_050006000309020807_020008040000030000_090307020600010405_000002000100000600_000003070000050000_040501000006070203,
  0x060001080700000203_000007000206000004_040302050900000708_080000000000020006_020000090000070405_000405000007080900_000203060000000000_090008040300000600_010004070000030002,
  0x060000000702080100_090002000300000500_070100000009000000_000000000007020900_000207000900000006_030900000604050008_020709060000000805_000000000200090004_080004090005000602,
  0x000001000004020800_000704050800030001_000000000000070900_070100000008000306_040803000600000000_000600030200000000_000407000500000102_000000000007040000_000506020000000708,
  0x000008060000000500_000000070000020008_000002030108000700_000400000000000007_070001000000000300_080005000002000900_040000000900000000_020000010600050009_050006000407000000,
  0x000804020500000000_000000000000000300_000907000308000402_000000050000030000_000205040000000001_010309080000050200_080502000000000700_070000000000020006_090100000200040008,
  0x000004080000010006_000900040001080000_000008030600000200_060009010004020007_020400000900060800_080000000000090000_070600000008040100_090100000407000608_000800000002000009,
  0x060801000000000700_050007000104000906_000200030706000100_020400000600000000_070000000000000005_000000000000080200_090006000005000000_000504060900000801_000700000003060000,
  0x000000060000040100_020000010905000000_000000000003000200_090000040007050003_000000000000010000_000001030500000002_010000070200060500_070000050004000800_060005000000020704,
  0x000107000800020400_020605010009070008_090400070000010000_010009030608000500_000004090000000206_000500040700090801_000800000301050904_000301000000000002_040900020500080103,
  0x000300070906000000_060900000000020003_000407000500000006_090800000005040007_000500010704000902_000200060800000001_000000000600070508_050000000300060109_080009050007030000,
  0x000208010300000000_000000070000000800_000000060009000100_050701000400060300_000600000100000007_000400000000000000_000000000008020400_020806040500000900_030504000001000600,
  0x000000000004070800_000504060700010009_060000090200040000_000006000000000500_080900000002000000_070001000503090000_000000020000050704_050009000406080102_000400000105060000,
  0x000700000001000200_000005090002010008_000000000804090600_050609070000000402_000300080000060700_070000000000000509_020004010605070000_000500030007020000_030107000408000900,
  0x000500000002000006_000000000305020100_090206040000000000_010000000000000704_080700000906030000_000002000004050000_040609080500000300_000007010600000000_050100020400000007,
  0x000000070605000300_000700000000040006_000300000204000007_000000020807050600_000000010306000008_000800000400000000_010000060000000000_000000090003000802_000203040500060009,
  0x010600080200000300_000000000107000000_020007050000000001_000003000002090006_000002070000000000_000400000305000000_000200000000030000_030000000408000000_080904000000070102,
  0x030500040207000008_090000010300000000_010004050000000700_020005090000000400_080003020000050109_000000000001080000_000700080005090000_000300000902000000_050901060003070002,
  0x000209000000000001_000806020005000000_000000000400000000_000500090000060304_010403060508000009_000000000200000105_030000050800000900_080705010000000400_000000000600000002,
  0x000000070304000200_000207000109000403_000000000500010006_050004090000080007_000008050403020009_000000080706000300_040100030807060000_000602010000000800_030005040602070001,
  0x000002000001000000_040000000003050700_050003090400000008_080601000200000300_020500000008000400_000004000006080205_000008000000020009_000000000100030804_090000000000070501,
  0x040800000201000906_000502060309080000_030900080407010500_000100090605000004_000005000704090600_060000030000000000_000001000003040200_020308000500000000_000000000108000300,
  0x050600000200000003_020807000300010405_000900070500000000_000000000103080500_000005000600020300_000000020700000600_000109000002000704_070503060000000800_000402030000000000,
  0x010000000500000000_050602000900000000_090003000000050007_000509000300000400_000406070009000300_030000000600070809_040000000703080002_060000000802040500_000000090005010706,
  0x030000090000010200_000204060000080009_000500000000060000_000800030009040100_090000000402000000_040003080601050002_000300000008020000_020000000503000608_070000010006000500,
  0x000100050207040006_060700000008000000_080504060900070203_000000000805020000_040608070102000009_050000000006000000_070906080503010400_000003000709060500_010800000604030000,
  0x080006000003070400_000000000004000600_010003020000080900_000305000000000208_000800000000000504_000602000400010000_000000040008000002_000004000002050006_000108000306040000,
  0x080600000003000100_020500000000000900_000000010502000706_000002000005040000_000900000406010003_000306000107000508_000000000001000009_050000000800000302_000200030709000801,
  0x000801000003090006_000006020700080105_000000000100070000_000902030800040000_050000090200000007_000008050406000003_000103070000050008_080000000600000700_000007080305000002,
  0x080203060000000407_000000000003080000_010700050008060903_000300010400020009_020400000000000800_000007080000000600_000100030809000000_040905000000000000_000806000500000100,
  0x030806000000010007_000002000000060803_000107000800020504_040600030000050002_080000000407000601_000200000900000008_000008070205040000_000000000004080000_020304080000000000,
  0x000000000001030000_000900070000010000_020100030005000706_010205000000000600_000000000003000000_070300000200040000_000008020000000100_000402000107000300_060700000000000002,
  0x070000000000000600_060400000008000003_000002000000070504_000907000000010802_050206090000000400_080300020000000000_000000000207000000_020000000309000705_000000060400080201,
  0x010008000007000006_000500000100000907_040907000003000000_000800070000030409_090400000005000201_070000090000000500_080009050406020000_000000000000000004_020000000709000100,
  0x000205090600000800_070401020003000906_000900050100000000_000508000000030000_000009080002060507_020704030506000100_000000000000090000_040003010709000005_000107060205000308,
  0x000300090004000006_050200030008000400_000000000700050000_000004050100000900_000003060000070000_090000000007000000_040100000006000002_030000020000090600_000002040000000000,
  0x040502000601080700_090700000005000001_000000000002040006_000001000000000600_000300000000000008_000200050000090300_000800060007050004_000000080004000102_020007000000060003,
  0x030200060000050100_000100050208030700_000500010300000608_090405000600010200_000000090100000405_000700000000090300_000600030001000802_000000070006000003_000000000800060001,
  0x060001000009000004_070000020605030900_020500040000000000_080005010000020300_000702000900040100_000000030500000708_000200090400070006_090000050000010402_040100000207090000,
  0x000200060507080000_080006040300050009_010503080009000400_000104000000000005_000805010000060000_060300050000000000_000000030000000000_000600000000000500_000001000806040002,
  0x030000000901000700_090000040000000000_070604000000000002_010000000802050004_080002090000000601_000000000003000800_040800000009030200_020000000607000005_000700000000000000,
  0x000000000004000901_050400090001000308_090106080200050704_000702060905080400_000900000000000005_060000040100070200_020009010406000007_040300000807000000_000000000300000000,
  0x070300000200090000_000400070005010000_010508030906020400_000007000009000006_000905080700040000_000104000600000908_000000060000000004_000000000308000501_000600000100080709,
  0x000709060805030104_080100020004000500_000600000301080209_030200000700000400_000904030106000800_050806000209000003_000000000002000008_060000080003070901_000500090007000302,
  0x000000000006000000_080206000901000400_090000040005020000_000008000000000000_000000000000080007_060000000508000000_000000070100030200_000400000800000900_020000000600000000,
  0x000003040009020705_050000030700090000_000007050000040600_000501000300000900_000000010900000000_090000080200030004_000000000800000400_080000070003000000_070009000000010000,
  0x000007000002010000_000000040709000800_090002080600000007_040000070008000603_050600000003000009_030709060405020108_000900000504000200_020004090806000005_080500000107090406,
  0x000007050300000006_030206040900050000_000000080600020000_020403010809000000_050600070000000001_000000000006000003_000100030700060400_070900000000030000_000000090004000700,
  0x090005010000000602_000000070000080000_030700000002090001_000103000000000000_000900000000020504_000000000900000100_050001000000000706_070800000000000000_020009000001050000,
  0x010000040008000207_080000050000000000_000400030000080500_000106000000020700_000004000000000000_000007080006000003_040500000003000000_000000070500000804_020000010904000000,
  0x010003020607050408_070002080000060301_080000010000000000_000000000800070004_060007000000010800_000009050000000000_000000060000020000_000108090000000007_000000000500080003,
  0x000000030009000405_080000000000000900_070003000000000106_000002000006010003_000000000500040009_000000000000000508_010207000005000000_000000090000020007_090400070302050000,
  0x000301000500000002_060000010700050003_000005000804000600_050003070000000000_000702000400000006_000000000206070001_090000000600000100_000200090107000800_000000040005000000,
  0x000003000900040001_000008060000030905_020000000000070600_000500000701080300_000002080509000400_000800030006000507_000106000007000800_000400010600000009_000200000800000104,
  0x000807000006000000_020000010000090300_090403000705060008_000209000103000004_080000070402050609_060700090508010000_070600000000000001_000902000000000805_040108050207000906,
  0x060000020100000005_000105000000070000_040000000009000000_050200090700000400_000001080000090000_000400060001030008_000000000504000007_000004000000010000_070002010000000600,
  0x000806030000000000_000300000000050900_020105070004000800_000709080003000400_000200000400000008_050400020000090300_000000000000000507_040900000001080003_000500040708060000,
  0x060001000300000000_000507000108000300_080000020000000001_000100000000020005_000206000000000903_090800040203000106_030900000002050008_050608000900000002_010700000500000000,
  0x030000000000000907_000000030507040000_070200000400000000_000000000900020108_050000000002000004_000803000704000005_040001090305070800_000705000208060300_080002000006000400,
  0x000400070009000000_000002030000000006_000500080200000400_000009000100000704_050008000700000000_000007000608000205_000700000004000800_000804060002000307_000005000007040009,
  0x030400000008000107_000200040001000300_000000030700000002_000708050006010200_000009000000000000_020100000000000000_080000010500020900_000000090000000001_000002000604050800,
  0x000002060507040800_030400010800070000_000005020000010006_040607000000000208_000908070000050004_000000080600000007_060304000000000701_070200000108060305_000001000706000409,
  0x000000000006000004_090804000100000602_070200000000050000_000008090001000200_000000000600040007_000600030500010008_000000010800020000_000001060005000000_000007040300000105,
  0x000800000000070500_000000020000000001_000007040800000600_080003010600000704_000400000508000000_000705000000060000_000500060003020007_070300050900000100_060100080007030900,
  0x000000000800000000_020000000005000000_080000000000020603_010004000003070005_030000000700000104_000705080004030002_050000000006090000_000600010200000400_070100000509000300,
  0x000002060107000003_060000000400020000_030704080000010000_000205070006000000_000000040800090000_000000000005070004_000003010700080000_000409050008000300_050000000009040002,
  0x000503000009000007_000902000800050001_060800000100030009_000100040000090002_000004000900000500_020000000000000000_000706000000020103_050000090000000004_030001000207080000,
  0x000000000806000009_090700020001000005_080100040000000602_000800000900000003_000004010700020000_000009030400000007_000900050000000200_020305080004090000_010600090007050000,
  0x000001000002040300_000005060904000000_040000030007000006_000308090000000004_090500010008000600_000006020403000800_050000040300000001_000600000200000000_010000050800060002,
  0x000400000801030500_000601000000000000_000708000400090600_000000030006000000_040805070000060003_060900040000020005_000000090305010006_000009080000000004_080006000700050002,
  0x060801000200090300_020004000609050000_000000080100060204_000000010903020506_050600000000000000_010203060000070000_000300040000000000_000007000500000600_090000020001040000,
  0x000800050000030006_000000030109080000_000000080607000004_020603090408000000_000900000002000003_000004000000000809_000400000000000005_000105000003040702_000009000005000608,
  0x010500070200000000_060907000403020000_080203090600010000_020000000904000000_000008050000090000_050009000007030408_090100040800000000_000406030000000000_000000000009000501,
  0x050000080401000307_070000090600050000_000304050700010600_000000000507000009_010509030806000200_020000040109080506_000105070200060003_060002010000000700_030007000005000800,
  0x000000000000000500_000400020000000007_000305090004000000_000000000006030000_000601030000000400_000203000009000001_020000000800040709_000007000000080000_000004060000050003,
  0x030000000508000400_060008030904000701_050001000007080003_020000040001090800_090800020300000100_000007000009020300_000000000102000600_000000090806000504_000600000003010009,
  0x030006000005000209_000500070003000000_000000000006000304_000000000100040007_000103000704020800_000000020000000103_000900000000000000_060700000000000502_020001050907080000,
  0x000100000002030004_040000070000000000_000006000000020500_070000000204080003_000008000000070402_000000080007000005_000003000700000609_090000020000010008_000501000000040000,
  0x050000000003080000_000108000000090300_000000060100020500_060709000501030400_000003000607010900_000500040309060002_030807010006000009_000600000700000000_000000000005070600,
  0x040908000000000001_010302040807000500_050706000000000003_080104030000000902_000509080002030006_060003010005070804_090601070308000000_020000000501000000_030000000000010007,
  0x000006050000000003_050002000001040806_000400000306000000_060900000400070108_070100090000030000_080203000100050000_000008020009000001_000600040800000300_040700000603080000,
  0x000000000806000900_030000000000000000_000908030400020000_090000000600000208_000305000000090100_000204000301000005_000003000109000800_040100080703000600_000000020500010000,
  0x000000000200000600_000000040100000007_020005000000000403_000509000600030100_000002070009000005_080603000005000000_000004060701000309_000008000500040700_030007000900000500,
  0x010500000900000006_060000050108070904_000407020000050000_000300070000090108_000006000801000000_000100090205000703_040700080002010009_020801060500030000_030609010000080502,
  0x000406050000000107_090000070600080400_070500000000000003_000807090206050000_060200030000000008_000900000004070200_000109020007000800_000604010905000700_000000000400000500,
  0x000800020100000506_030601000400080200_000005000000000301_080300010000070400_000000000300000005_090500000704000100_000000000000000002_020007050601000000_050000030007010000,
  0x090000030400000702_000300060200000905_000005000809000300_040008000000090507_060900070504020100_050700090108030604_030000080601000200_020000040900070000_010009000700000000,
  0x050001090006000000_030000000400000500_000002000007060000_000908000000030005_020500000003000000_010300020900040800_090000030000070608_060000070208000000_000804050600000000,
  0x010309000400000807_060008000000000200_000200000000050000_000003080007040006_090005000601000000_000806000000090103_000700000206000900_000001090003000000_000902040700080001,
  0x060000070100000205_010207090000000400_000504000002090700_080401050006000000_000000000000000000_000002000000080600_000003000009000106_000000000603000009_020609010500000000,
  0x020000040007000103_030008020005070006_000700080000000500_000603010009050800_000400000000000007_090000030004000002_060000050000040001_000100090002000700_050309070000000208,
  0x000400000000000805_050000000302090701_010007000506000403_060000000000040009_000000050400070002_000701000009030000_020006010005080900_000000000908010000_000100060204000007,
  0x080000000004050600_000007030009000000_000006000001090000_070100000200000504_000000070400010000_000600090105000007_000000000000060800_000805010000000300_000004000500000009,
  0x000007020000000304_000208000000060000_000000010007020800_000300060009000700_000705080004010602_060000070000050900_070000000000080001_020001030600000009_080000000000030200,
  0x000400050700060008_000703000000040002_060500000400070300_000000070208030400_000800000009000106_030900060501000007_000200090000000003_090007000000000005_000306000100090804,
  0x000400080006090300_050200000009000008_000000000500000001_000500000800000200_070000000000080000_000008070600000904_020700040000000500_000000060000000000_000800020000030600,
  0x000005000002000009_020309000007050001_000700000003020600_000900000005000002_000000060000000403_000000030009000500_000000000900040008_000400000000010900_090208010700060005,
  0x020000040000030000_090400020000000000_000600090501040800_080001060400050003_000000080000000406_060000050000080007_040800000200010000_000009000008020504_000500010900070000,
  0x000300000100090007_000100000206050000_090000070000000000_000009000302070006_000000000001040903_000400060809000000_030200000007080004_000000000008000002_080000000600000009,
  0x080000070009000400_000000010800000007_090007000306000500_070002000400000006_000000000000010000_010809000502030000_000903020000000005_020601000900040300_000000030000000602,
  0x000205040009000000_080107000600000000_000000000001030000_050000090000080000_000000000300000400_070806000100000200_000700010400000500_000000080003070104_000008020507000009,
  0x000003000009060007_000001000002040000_090704080000000005_000008050700090000_000309000800000000_010500000200070300_000002000007080000_080000000000000604_040600030000020701,
  0x050400060100090700_000706040209000300_030000000005000600_080005000300060409_040302090000070500_060900000401000803_000503020900040100_000604000500030000_020801000004050007,
  0x000000070501060400_000700000300000008_030000000008000700_000406000203050007_000507000400030100_000000000000000906_040301000900000200_050000000004090001_000609000005080000,
  0x000000050000010000_060001000000030409_000300000904000006_080600030500070000_000100060007000900_000005090400080001_010800000200000007_000400000300000105_000903000100000002,
  0x000004080000090302_000905000300060000_000000000004070001_000100030507000004_000009000006000100_030000000200050006_000000000008000000_000802050000000000_040500000100080000,
  0x000400050000000000_050001000806000003_000006000100000809_010209000000070000_080000000001000200_060503080007000000_000600000308090001_090800000705040006_030100000400080702,
  0x000301060002090705_050708040001000600_000009030007000801_060000010000000408_070000050000010009_090102000000060000_080007090000050300_010005000603000900_030906080705000104,
  0x000008000400060002_050406080900000300_000900000600050004_020000060800000003_090807040003000001_000600020007000500_000704000208030105_000000000000070009_030509000704080206,
  0x000000000603050004_000704000009000800_000008000400020001_000000000000000000_020000010000000400_000003050000090102_000800090000000607_040900060000080200_000000000000010500,
  0x000000000401000809_060000030900000704_090004080705010000_000200000000060405_000000000100000907_000600000000000003_020100000000090500_000500010009000000_000908000007040001,
  0x000600070001000500_080000000000000901_000903000608000002_000300060000020100_050000000000090300_000100000502080000_000000000700040000_000000000400000809_000000000000000007,
  0x050000020000040001_000400000001060809_000100040800050203_020000000504070000_000004000600000000_000703080000000000_030007000000020000_000000090000000106_000000000205000407,
  0x040000020000070005_000000040805000006_000003060000000001_080000000500000000_020305000007000008_000007000400000500_000008050300000204_000400080000000000_000000070000000300,
  0x000007000001000403_000009080605000002_010000070004080000_050801060000000200_090003000802010600_000706000400090000_030900000000040001_000204000100050700_070100040509020300,
  0x000600000004000005_080704000000000000_010005080006000000_090400060002070003_070008050000090004_050300090000000000_060000040008000000_000000010900020806_000000000600000001,
  0x000000000005000002_080400000700000100_090000000000080600_010900020600050000_000006000100000000_000302050000000900_040000030000060001_020000040001000300_000000070806020504,
  0x000000000009000207_000005000000000400_000406050003000801_000803000006000000_000900000200000500_000602000005040000_000000000000000009_030009000600080004_070208000000010600,
  0x000800000300000201_000109000200060300_030400080100050900_040701030000000605_090500020007000403_000203000501000700_000004000000000102_020000010008030500_010305000700000800,
  0x070000090000000006_000005000807000000_000100050400030000_000007080000050001_000000070901040008_040801000503020000_010508000009070003_020000000005090804_000403000700000005,
  0x080205060107000003_030000080509000200_000100030004000708_000509000000000304_010000000400000800_000000010900000600_070800020005030009_020900040000000000_050600000308000400,
  0x000307000000000805_000108050000000607_050600020000010000_040000000600050109_000009040800030000_000200030005080700_010400000507000300_000000000300000000_000005010000070408,
  0x000600080000000000_000908070402050306_000200000501090400_020307000800060005_080506020709000103_090401000605000007_030704050200010809_050100040300000002_060802090107030500,
  0x000904050306070000_070002040800000603_000600000200000800_050400000009030000_000200000105000900_000000000704000000_040806010903050007_020705000408010000_090301070000080400,
  0x000900000003060708_000300000800040001_070800010506000003_040100000009000005_030009050000000006_060508000301070902_000003000705000104_000007000100030800_000000000902000607,
  0x060300000000050900_000500030807000000_010002060005000008_030000000000070004_000800000703000200_000106020004000800_050000000100000006_020000000000080109_000601000209000405,
  0x090000030006000008_000000000000000002_050008070002000906_060000090701000200_000203000000000009_000009000003010504_030900000000060005_000006000000020400_000801060004000300,
  0x070800000000000000_020100080000070400_060005000702000000_000900000100000200_000500090000000000_000000020600090500_000007010005000004_000300000008020700_000000000000000800,
  0x080700000003000109_010300000902050800_000000080104060307_000200000000010000_030008000000000200_000900000000000508_000800040001090000_000000000006030700_090002000000000401,
  0x050000030107000000_000000090000010205_000009020006000708_060004000000020003_000000040308000006_080000000002070401_000500070409060302_070200000000090004_090400050200000100,
  0x080400000005010607_010003090008000504_020700040601000309_090204000100060000_000507080000090102_060108020900050403_000002010504000806_000800070000000000_000300000802000000,
  0x000000000400000509_000000000005060000_000900000003000701_030500020006070000_000208000304000906_000006000800010003_000000000600020000_060000040502090307_050000000907000008,
  0x000000080003060000_050600000000080300_000003060204000509_030905000800040601_000400030906000000_000008010400090000_040506000002000000_000309040608000000_010007000009000006,
  0x050000000006000000_030907000000000006_060000000200000300_000302060800000000_000000000001060900_040106020900000803_000400000100000005_000600000003000409_000500000600000708,
  0x010007060400000000_090000000000000000_020600030008000001_000006000001000503_080201000006000900_000000020004060000_000002080000000600_000008000000000205_060700000000000004,
  0x010002080600090300_030800020104060000_000006030007000200_020004050000030600_000108060309000400_060300000000000000_090600000000000800_080000000000000000_070003040000000900,
  0x030209060500040708_000001000008050003_080400000000000000_010800000604020009_000304000702060500_020000000309000000_050000030006000100_000602000007000005_000100000000000006,
  0x000000060000070305_000405030800090000_000906000000080000_000700020000040608_000000040906000000_010004070508030000_000300050600010800_000000000100000409_000001090000060000,
  0x090000000006080504_010706080400020009_000000090300000000_070000060200090803_000100000504060000_030602070908010400_000300000009050001_060000040107000000_020800050600040000,
  0x090306000000000000_000401000006020905_070005000000000608_000002070000000000_050600020801000700_000700000005000209_060007000008000004_010000000007000000_000903000600080007,
  0x050000040000060800_010806070005000409_000300060800000000_020000080000090500_070001030000080000_080400090700020103_000108020000000006_060007050409010008_000000010000000700,
  0x000200080004000005_000608000000000900_070000000006000000_050001090000000400_030000060000080000_000800070000020500_040009050000000000_020000010700000004_000300000000050106,
  0x020309000004080105_000600030000000409_000007000100000206_000900050201060308_000000000000090001_080106000000000000_000700000900000600_090003010006000007_000502080007010000,
  0x010000000000020900_030700040009000000_000000000000000000_090002050800000700_000400090000080002_000000000602090504_000007010000030200_040000000908000107_000100070500040800,
  0x000000090003000807_000400080200010609_080709010500020003_000000060804000000_000500000700000308_000007030005000004_000304000009000500_000001000008000900_050908000100000006,
  0x080007090006020300_050400000000080900_020009030804010005_000304020000000001_070002060100000000_000001000000060000_010200040300050000_040900070000030008_000005000600000402,
  0x000008000007000000_000006080000000509_010503090000080000_050902000604000108_000004070102000605_070001050000020400_030800000709060001_060007010803050004_040000060205030807,
  0x040002000000000705_000005000000040900_080900050204000306_060000090000070000_050001040008030009_000700030602000000_000100000500090003_000000000901000500_020000000003000001,
  0x000601080409070300_000007000002060400_020900000600080000_060000090001040000_000000070204000005_040000060500000007_000302000705090000_000400000000000700_000500010003000004,
  0x010300000000060200_000800090000000000_070200000100000900_060100000309000802_090008000207030106_000002000800090500_080600000000050409_050900080600020701_020400010005080603,
  0x060005000009000000_000901050000000003_000807000000000500_000002090300060000_010600070400090000_000000000006010002_090000000004050008_000004030005020000_000000000008030904,
  0x070109000600030000_000603000009000400_080000000001060900_060502000000000100_030000000008000000_000000060100000000_000000000200000008_000800010003000604_010000000004070003,
  0x010000040006070300_000704000000000000_020300070000010000_080400000107030200_000600000000000000_000001060403050000_000008000609020700_070003000000000601_000000010000080003,
  0x000006000700080001_090100030000020000_000007040600000900_000009010300050000_030502000000000107_070400000206000308_060705020003000809_040008000500000003_010003060400000502,
  0x000100000507000009_080000000002050000_000506040009070000_000000000803000004_000009010000000506_040000000900000300_090008060001000000_000003000008060107_000400000000000900,
  0x080002000300000600_000600050000000904_000000060704080002_000300000407000500_040705000009060003_000008000600090000_010807040000050006_000506080000000000_090000000500000800,
  0x090004080702010300_070300050900060208_000205030600090407_040900020007050600_060800000000000902_000502000000080703_030000090200070000_000409000308020000_000006000000030800,
  0x050104000300060902_020308000009070001_070000020100030004_000007000004010608_040000000608000000_060800070500020409_010400000000000006_090005000001080203_080702000900000000,
  0x080000000609030000_000302000405060007_000600000300050000_050000020006010004_040200030500000006_000900000008000000_020806050007040300_000107090200080000_090400060800070100,
  0x060500000304000708_000000080009000500_000800000600030000_000900010803000600_000008060500070900_000000000900000003_010003090200060000_000002070100000004_000700000400000009,
  0x000000000002080000_090000060700000000_040002000000000007_010000070000020000_000400000203090000_000009040500070000_000900000406000703_060005000000000802_000704050000060000,
  0x000309000106000008_060000050000000901_010000040008070306_000700000000060000_000001000600000500_050800000300000204_080005000001000700_040607030500010809_020003070009040000,
  0x090407010500000806_050200040008000000_010000000000000405_000500000007080201_000104000305000007_000709080100000304_000905000001000602_000301000902040008_000802050704090100,
  0x060205000000010000_000009000600000300_010008070002000400_050001090000030006_000604000000000008_000000060207000001_000007000000020600_030000000700090100_000000000106080705,
  0x050803000906020000_000007040002030000_040201030800090605_000609050403010702_010005070000060800_000704060008000309_070000080600040000_030000090700000200_000408020300070006,
  0x000006000100020000_070900000400000608_000000090000000100_060708010302000400_090004000008000301_030105000900070800_050807040000010000_000009080001050706_010002000007000900,
  0x010000070000000004_000002000900030000_000000000305000800_000008000001000000_000600000700000002_000300000200000007_000405000009000003_060209000000000400_000007000008050000,
  0x050102060000080409_040000000000060003_000803040005010700_030000000004000200_090400000702000601_070200000500000000_000007000008030005_000000070200000800_000900000003000007,
  0x000000050201000000_080502000000000100_000900000406000205_000004000100000007_000800000300000009_030105000007000600_050009010002040803_000008090500020000_020000000803000501,
  0x080000000002000000_060000000807000204_000000000600080309_000500000400000100_000700090500000403_000002000000090600_000000000309000000_000809000200000000_040001000000000002,
  0x000103000206080009_090000010300020700_020600000005000004_000709030002040000_000000090001000000_000200060000050908_000302040000000005_000900020600070103_010000050003000402,
  0x070000080304000200_000008000900060003_000000000600000800_000100040000020000_000409050700000000_000800030000000600_000600000500000900_000000000408030106_000000000007040000,
  0x000005010009000700_010000000307050904_080007050400000201_090008000601070405_060501070004000000_070304000500060009_000106040700090003_020803000005000600_000709000003010000,
  0x080007060502010403_020000030104090708_040000090000060000_000300020000000000_000702040900050806_000408000000020309_060009080400030500_030001000206070900_070004010000000000,
  0x000902000000000805_000008000403060201_000000020000000900_050003000000000700_000609000007000004_010807000309000006_080000070000000000_030706080004000100_090200030501000000,
  0x000903010800000500_060000050300000907_000107000900030800_070200000100000609_000500090006000400_000000000005020100_030000040609000201_000401030000000706_080609000700000300,
  0x090700030205080000_000000010900070004_000000060400000209_000605000102040700_000400080000060000_000000000000010005_000100000809000000_060000050300000007_040900000006000001,
  0x000000010003000400_010009000004000600_040600000009000002_000000080000090507_000008030000000206_000006050900000000_080200000005060000_000004000008000905_060005000000000000,
  0x000800000005000000_000007040000000000_010000020603080000_000005000809040300_030000000000000805_090000000002000000_000002090104000008_000000080206030109_000001000500000204,
  0x000000000000000108_000105030408000702_000007020006000003_000200000003000506_050000090200030407_000004060005000000_000500000600000800_000000000300000005_000806050904070300,
  0x000004000300000200_000000010700000000_000807000900000100_090100000007000304_000003090801020507_000705000000000000_000300000200040900_060000030000000700_000209060000000805,
  0x040900000000000000_000006000100000900_000700030500000408_000107060800090500_090304050702000600_000608040901030200_000400090000050100_000200080000040000_000000010400000800,
  0x000803050107020000_090002030406070000_060000080000000300_000005040000000002_010308000205040700_000904060701000500_030000010000000000_000009000604030005_000000000003000400,
  0x000108000300060002_000007090206080001_020400050108000703_060500020000070308_000702030009050600_000804070005000200_000003010000000000_000601000003000905_080200000900000100,
  0x030000080000000005_090000020300080401_000000090000070000_000000000908000100_000004000007030009_080000000105000007_070300010000000000_000400050803010000_050008070009000300,
  0x000005030000090008_000108050009070302_030000020000000401_060000000302000500_000501000006030200_000203000900040006_050004090000000003_000002000000060900_000307000408020000,
  0x000100090003040000_090700000205000001_080006040000020000_000000000400030500_000500010000060008_060400000000000000_000000020008050003_000007000000000000_030001000004000806,
  0x040009050200080600_000300000008000001_010200090600000000_000000000000000009_000104000000030006_030000000109070802_000000010000050004_000000080000060900_000900000000020108,
  0x040007000200000800_000000010000000007_000302000800040009_080200040106090000_000001020008050000_000406050907080200_020008060700000000_000003000402000100_060100000503000902,
  0x000000090600000400_000002000000000800_070000080200000000_000300040000000200_000805000009060700_000006020800010000_060009000002040000_030004070900000106_000000060000000902,
  0x090100000005080403_000000000209050100_070500000004000002_000804000000000000_000600070000090204_000700040006000800_000005010000000309_000300000908000005_060900000000000700,
  0x000006090200050801_020008040500090000_090000060008000304_000907010304080500_030000000000010000_000000000906000003_000001070002030900_040009000000000008_050000080009000107,
  0x000000010000030006_050001000000000400_030400000000000000_070004050000000003_000000030000000004_000900000008020000_090000000407050300_000000080203000600_060302000500000007,
  0x000509060000070102_060300000000000508_000104000007060900_000000000000000007_090008000605030400_070001020300090800_040000030500000006_000005010906000004_000006000000000009,
  0x000004030000020007_050800060004000000_000006000900050800_030400080600010705_070908000005000306_010000000703000000_040501090306000000_080003070400000509_060709000802000001,
  0x000000020004070300_020801090003000406_000007000000090000_000005000100020000_000100000000030009_000006000009080000_080004000605000000_060900000201000805_000500040000060700,
  0x000400030700060500_080306090501070002_070000000000000003_000000000005020007_060007010902040005_030000000407000600_040203070009000100_000608000000000700_000001050600030000,
  0x000000060009000100_090005000200060004_060000000003070000_000004000000000000_000000000607040800_070008020000050603_040009050006080001_000503040700000000_000006080000000405,
  0x030000000700000001_000900000402070308_040008050100000206_060009020507000004_070003010000060000_010502000006000000_020007000000040905_080005000904020003_090000000205010800,
  0x000400000107090308_070109050008060402_080300040902000100_010200000000080504_060807030500010200_000504020801070603_000000080205040000_040000000703000905_000705000406030000,
  0x000105080600000007_000002000100000000_000008040300050001_000000020000000504_000000000807090003_000901000004080602_000009050000000400_000000000400020906_010000000000030705,
  0x000000000805060002_000400000000070005_000000070003010000_000900050100020000_050000000902040000_000207000000000000_070004030001000000_000005000700000000_080309000006050107,
  0x000002000403000700_000903010706020000_000007080000000000_000008000000040603_010000000607080009_000000000000000007_000700060000030900_040006000900000005_000801000000000400,
  0x000000080000060100_060108040705030902_020500000100000004_030400020509000607_000006030000000501_000005010007000000_090802000000010706_000600000000000009_010307090206050008,
  0x020800000106000500_000005020408000000_000001000000000008_080009070600000003_030207000805000000_000000000000080000_010000060000040307_000400080301060000_000000040900000000,
  0x050008030600020907_000006000209000300_090002000708000500_000203000100040700_000904070000030000_000001020000060800_000800000502070400_040607000900050200_020100000000090000,
  0x010000000000000207_000400000000000800_000008050009000000_040700000006000500_000000030500070009_000000000200030001_000900060000000003_060000090000040002_000500000000000900,
  0x000200000001000000_010000000800000403_000000000006000802_000708090605000001_060002000700000000_050004030000000007_000500000007000000_040800000900000005_000306000000000008,
  0x000500010003000009_030700000200000100_060109000400030000_070000080500020004_080000000000070600_000206030907000800_010800000000000300_050000000001080000_000403000800000500,
  0x080000070000090302_090100000000070600_000000000900000100_000500060200000000_000200000700000000_000000010000020806_070902040800030000_000000000000060000_010006090305000007,
  0x060004080000010700_090105000700080004_000300010000090000_000500000201070000_000600090807000000_000801000000020900_050706020000040100_030008050000060207_000000000604030008,
  0x000506070000030400_090304010600000008_000200000904050000_000000040203090000_000900000000040005_000008050009000000_000009020500010004_000103000007080000_000405080301070002,
  0x040500080000000000_020007040000080000_000100070206090405_000806050403010007_030705060102040000_010400090807030506_050904000008020001_060200000005070304_000000000004050009,
  0x060003000000000408_000700000804030000_000000020600000901_080000050000000000_000000030900060000_000509000006040000_000004000001000009_010000000209000000_090205000308000704,
  0x000604000008020005_000003000000000000_080200000907030400_020400000709000000_000508020100000007_090007000000000208_050009070000000304_040000090005080700_060000000003050109,
  0x070509040000060003_030800060000040000_060004030000000001_000000000600070104_050007080201000609_000100000004000500_010005020400090708_000700050809010306_000903000706020405,
  0x000701060309000800_040005010807020000_060803000000000009_070009030100050400_000302050000090000_010504090702080306_000408000000000001_000000080003070204_090007000600000000,
  0x090000000401000005_000100070305080400_070000020800060300_060000000500000000_080905000600040100_030701000000050000_010000080700000000_050007000004000003_000800050100070002,
  0x000907000002000603_000000000000020004_020000090000070000_050700000009060201_030109020005000807_040206000801050300_080000000903000000_000001000200000408_070603000104090502,
  0x050107000806000002_000300010000000000_060800030007000509_000608000000050200_030000080005040000_040501000300070008_070003050009000800_000400000603090100_010900000400020000,
  0x010006040000020000_030002000000070105_000000070000000304_050003080000040009_090000000400000600_060000030000000007_000500060208000700_000309000700000800_070608010009000402,
  0x010805030009000207_040006000207010900_000000050400000000_000700020000000000_050000090000000004_080400060100000700_020104000000080500_030000000500000100_060000010300090000,
  0x000800000301070405_020403050807010009_000005000006030200_080904000003000000_000000000000020803_030007000000040000_000000000005060002_050002090604000001_000600000100000004,
  0x020008010900030500_000105040800020006_090600020003000104_000702060001000300_060500000000010408_000900000308060700_000206090004000000_000009000000000200_000801030702000605,
  0x000000000300000000_010800000000000007_050004000000000809_000000090008000203_000008000000010000_090601000000070400_080000040007000100_000007000900080500_060109000005000000,
  0x070004060900020003_020000000300000009_000500000704060001_000801070500090204_040200030009000007_060709040802000300_000000050000000002_000900080003000406_050402090007030008,
  0x000000030800000501_070500060200090004_000004000700000200_000402070000000600_000908000003000000_050007000902080400_000000050409000300_000800000300000000_040000000000000905,
  0x000804000000070000_030600010700020008_000902000405060000_000508000001000000_000700050904080200_000309070800010605_000000000200030804_000400030008000700_000000000000000100,
  0x080007000900000406_000000000004050708_000000060000000301_010000050807030600_070000020001000005_000000000000010207_040500080100000903_000308070502000100_000700000009000502,
  0x060007020003090105_000300070005000000_000000000104070200_090504000208010600_000000090001000002_020701000000030908_070009000600080300_040200080309000001_000006000407020009,
  0x000600000002000000_000802070000090500_050004090001060007_000006000500000709_030407060209050000_090200000107000600_060000000900040305_000508010603070002_000003040000080000,
  0x000000000900080504_030005000007000900_090006010000000000_040000000003000005_000000080701000600_060100000405000003_020000000000000709_000000000009060200_010903000002000408,
  0x000100000405030007_000007000900000600_000906000000000008_000204050800000003_000000070001090000_000700090304000002_070002040009000305_010009000000080206_000503020000000700,
  0x000908030600010000_040007050100060009_020000080900040300_000700060801000500_010006000000090008_000002000500000601_000000020000070100_070000000000000002_000004000008000006,
  0x000001050700000003_000900020600010005_000003010000000000_040708000000000100_010300000004000006_090500070300080004_000000000100000002_000800030006050700_000000000500000008,
  0x060109080005040000_000504000000090300_070002060000010508_000901030700020005_000006000001030000_020803000000070600_010207000003000400_030008090000000100_000405000100000203,
  0x000700090400000000_000000000301000004_000609050000070003_000000000200060701_070900000000000000_000001080003000000_000004000000020800_020006010000030000_090307000000010005,
  0x000000050001000803_000700000000010604_000103080000000900_000400000800060700_000007000000000400_060305090004080000_000000000000020007_000004030006000000_080002000000040006]
theorem mixed_38_ok : mixed_38.all fastOK = true := chunkOK_sound _ (by decide +kernel)

/-- `mixed` (10000_mixed_puzzles.npy), boards 9750..9999 -/
def mixed_39 : List Nat := [
  0x020000060700080001_060700090000030500_000809000503000000_000002070006000005_000000000900000008_000906030002010700_040008010009070000_090207080305000000_000600040207000800,
  0x020005070900030000_000000000004000600_090001020008070000_080003040000050700_000000000800000009_000100030700000200_000500000607040903_000009000403020801_000008090002060007,
  0x000000000000070001_000007000805020600_000100070604090305_000001000300080407_000708000109050203_020500000400000006_000000030006000700_000000000000000500_000300000900060100,
  0x000600090000000400_000305000100060009_040900060702030000_000009000507000000_060100000908050300_000000000200080000_030006000001000508_090800000000000201_000507020009000600,
  0x040005060700000100_000100000900020008_020900010000050400_000000000000000600_090000000001030802_060002030000010000_050600090000080000_000000000006000000_000000000400000901,
  0x050400000100030000_000008030409000205_000600000500000000_080002040000000001_000500010300040002_010004000006000003_000800000603000100_030000000700090000_060900050000000300,
  0x050000000000000900_020103090000040500_000004070200010008_070308000902050000_000905040008000003_000002060500000009_040006080000090000_000500020409000800_000009000000030401,
  0x030900000600050400_000706000100000003_000000070000000000_070400000206000900_060105000908070004_090002010004030605_000009000500040300_040307000000000502_020500000000000709,
  0x000003000400000200_000002000103060500_000700090000000300_000601000908050000_030905000002000800_020007060000030900_070300020605080000_000506000000020403_080200010004000600,
  0x010500000902000408_000806050004000000_000004080100030000_000001000009050002_000005040003080900_080700000500040000_000008010600020004_000100090400000300_000007000005000800,
  0x000009010008000000_050006000400010208_070008050000090003_000005020009080301_000200000000070000_090800000601040000_000000000005030000_060004070100000000_000003040900060007,
  0x000200050300000704_030000090007000000_000807000206000001_040608000503000907_000000020700000008_000000000000040100_080000070905000002_000000060400000003_060004000000010000,
  0x000700020500040901_000005000408030000_000604010000000000_000000000800070304_000800040000090000_040500090000020800_000001000000000000_070000080004000009_090400030105000200,
  0x000601080000070209_070302000005000001_040809070002050306_020005010806090400_080903000407010002_000004000003000007_000200030500060700_000407000608000105_030506000700020908,
  0x040609020807050103_070003000100080006_080100000506090007_010807060203000509_020304000005010608_000905080401000302_000406000900000801_000701050008020904_000000010300060705,
  0x000000000907000300_090006000500000400_070500000000000100_060003000400000000_000004020005060803_080000030000040000_000600080304070209_000400000001030508_030807000000000004,
  0x000000070100090000_000007060904080205_020006080500000000_000803040000000509_000000000800000702_050200090006000100_000500010600000004_040108020300000600_060702000000000903,
  0x050000080003000009_070300000000050008_080100090605030704_060008000007010502_000001000000080900_020003000908000406_030400070809000001_090000000002000300_000006050304090807,
  0x000005020900060000_070800000604090501_000006070000000800_060000040700010005_000901000300000000_000004000809000006_000000000103070004_010000090406080302_040603000000050000,
  0x090000000007040508_080304060000000000_050000080000000000_000005070000030001_000002000506000400_010700000009000200_020000000600070000_000000040800000103_000800000000020005,
  0x030700080604050000_000006020300040000_050408070009020603_070009000000000302_000300000700000509_020000000000000406_090100000000000804_000200000500000007_000007010000000000,
  0x070000040203000806_080500010600040900_000004080900030000_000000030002000000_000305090000060000_000000060008000200_000007020000080005_030406050800020001_050802070100000004,
  0x000700010000020009_020000000000030008_030004000600070100_010300000009050700_060009000000010803_050407000000000000_000102040800090006_040500070906080001_090806030102040507,
  0x060000040000000200_000400050200010706_020000070001000000_000500030006090102_010000000005000803_030906000000000000_050000060100000000_040000000000000009_090000000500080300,
  0x020004000801090006_000800030000010200_030000070006000008_070206000004030005_000003000700060004_000409000500000002_040607000000080001_000008000600000709_000502000000040603,
  0x000900060100000005_000506000802000100_000802050009070400_050000090408000300_000000030507040001_000000000601090000_000403010000000000_000008040206050003_020600000703000904,
  0x000900000106000703_000001000503090002_000700020009010506_000506090307080100_000300010208000905_000000000000030207_000000000001070009_000003000704020600_080000060000000001,
  0x000000000000000608_000004080000000207_000008050204010309_000407090000060000_000000040007000502_000001000802070003_000602010400030005_000900000005080006_080005000609000004,
  0x040000000000000500_000603010005000409_000005000904000000_030000000006000000_000000090007030100_000008000000050004_000200000001040900_010504030000070002_000007080000010600,
  0x000008000000090403_070104000600000500_090203000000000700_000600070000010004_000300040200000008_080400090301000005_000800000003000207_000002080000000000_000701060002050800,
  0x000000070205000100_000000000006000700_090807000000020600_000000060008000000_040006000500000000_080502040100000007_010708030004000002_000604000900000000_020900000700000406,
  0x000109030600000705_060300040900000000_050008000100000900_000602080001050300_090703000004000100_080000000009000000_000000000003060000_030900000000000008_000800010400090000,
  0x020000060000000301_000001020003000604_000005010000070009_050007000806040000_080603050104090002_000009030200060500_000000000005010400_090006000001000000_000508040002030000,
  0x070402000000010809_000106000700030005_030000020008000604_000600050001020000_000000080306000000_000000070009080000_000000040602000703_060003000800050400_040000000005060008,
  0x060400010005000907_000000000200030004_010000090000080000_090200000600000000_080506020001070400_000701050803000000_000004030000010700_030000080000000005_070000040006000302,
  0x000900030000000100_060000000105000009_080005020004030006_000600000201000004_010203000400090005_070500090000000000_000000000700010900_020409010803000000_030701000500040802,
  0x060000000500010908_090000000003000700_000000000008000006_000401000300060000_000000010007020009_000009000800000300_000906080204070000_000000030900080600_080000000605000200,
  0x000301080600070005_060400000501000009_000805000709000006_000000000800090000_000003010000000500_000008090203000007_000000050900000000_000000000000000002_000209000307000004,
  0x000009000100050703_070506090000020800_030001020005000600_000104000902060000_060300010004090005_000000000306000000_040700030609010000_000602040500000908_000000000001070000,
  0x000109000304060702_000307000009050008_050402000008090103_000005000800030000_020000000005000000_000000060001000005_030000010006020900_070000000000000504_040000090000080300,
  0x030208040001070500_000000000200000000_000007030800000000_080700000000050000_000000080000040007_000500070902000006_000000020000000000_070001000503090800_000002000104000000,
  0x000403010000000600_080000000209000000_070200000000000800_000008000000000907_050701030902000000_040002000000000500_000500090700080100_000009000008000700_000807040300090005,
  0x000900000000060103_020600000400000009_000001000709080200_000400090000030006_000000040106000702_050000000307000000_060105000203000408_080000000004000005_000300000000000000,
  0x050000020000000008_080100000004030000_000002000700000000_000000000000000604_070003000000080009_000000090802000000_010304080005000000_000000000200000000_060200000107000503,
  0x050704010200030600_030000000604000100_000001000000000500_000500090000010800_000003070000020006_080009040006050307_070008000903000005_000006080005000201_000000060400000003,
  0x070105000004090200_080300010200070005_020004080705000003_040008000906030700_000600000401000500_000709000003040602_060203000000000900_090000000500000000_000401090000000000,
  0x020900030001000007_000008000007000000_000501060208040003_000000070605000001_000003000004000000_000000000000000000_030705000109060802_000400000003000500_000002050000070000,
  0x080306040509020100_010400080702000306_000000060103000908_030208000400010609_000004030600000800_000001090208030500_000805000900060203_000003020800000701_090002070306000005,
  0x080000000405010002_000003000108070005_000000020703040008_050300000000060000_090004000006000000_060807010009000200_040001000002090000_000008050007020000_000000040000000806,
  0x050006000100000000_020003000009040108_090400030208000700_010300000006000000_000000000000060304_000000000000000205_060902000705000001_000100000002000009_030508000401000002,
  0x000900010800000007_000007020000090800_040800060000030001_080009000700000306_000000000000070500_000000000008000009_090008070100050004_010604030000000000_070002080004010003,
  0x000008070904060000_000506000300000708_010004080006000000_000000030600000900_000109000005020000_000600000102000000_050000060400070100_000900010200050000_060400050700000009,
  0x060500020103080704_030008000000060000_000007000609000005_010003090200040500_000900000801070600_080700040000000901_000804000000050106_000006010908000000_000300060004000000,
  0x000002010007060903_060900000803050007_000305000000000000_000000040200000100_090500000100040700_000200060009000000_040009000000000000_020000000600000000_000108000000030600,
  0x000900000208070004_010800090304050600_040302000006000908_000005080100000400_090103000400000705_000000030509000000_080704000005000103_000501040003020807_000000000000000006,
  0x000906000000000800_080102000007040306_000400000600000200_050708010200060400_040000060000080109_010009000000070500_000304000500010008_060001070003000000_090807020001030605,
  0x050801020609000400_090004000000000806_000600080100000900_000507010200000608_020906000805000003_010308040000020000_080100000000000300_030002000000060500_060405000701080200,
  0x070003000905000002_000900010302000504_010500000000060003_090000050403020600_020300080006040700_000008000007000000_050000020000030400_000004070009000100_000007030800000005,
  0x000000000509060100_010000000407050800_000500030106020004_000800000002040006_090001000005070300_030604090708010000_000000060000000007_050000000800030000_060000000000000402,
  0x000500030900040700_090401050007000800_000000020000050000_010300070800090000_000809000000000307_000000040009000001_070900080100000600_000004000200000900_080003000000010400,
  0x000400000701030500_000200000005000400_030001040006090700_000003000000070100_040000010800050300_000005000009000000_070104000602080900_020300000000000000_000000090403000000,
  0x050700000308040000_000000040900050000_000600000500000209_020800000604090001_090100080000060003_000300000100070800_000000010002030900_010900000003000700_000000000009000000,
  0x050006090200000000_010000030400000500_000900080506000000_000000000905020600_030200060000000000_000005010302000700_000307050004060200_060000000009000307_020500000603000800,
  0x000900040500000300_040005000000090000_010000000006000800_000003050002060000_090200000000000703_000001000000020004_000102000007030000_080004060009010200_000700000100000000,
  0x080500040001000006_000000080000000907_000309070000000004_030000020000000108_010008000700060400_000706050100090003_000000010500000000_050601000200000000_090000000000000500,
  0x080100050600000900_030000090704000100_000005080000000006_060000000007040000_070800000000010003_000403020800000700_050600000002090000_020700010008000000_000000000500080000,
  0x000300000006010800_040208000001000300_090001080003000000_020400000000030700_000700000302000406_030006090400000208_000800070000000603_060004030108000007_000003000000000100,
  0x000905070002000008_000207080400000000_000000050000020001_050106000708000200_080000000000000306_040000060905000000_000001000004090803_090004000600000000_020500000007000004,
  0x000003000605010704_000007000004000002_000000000109000500_000009000008000400_000700000901000800_020008000706050300_000801000000040000_000402060807000000_090600000000000000,
  0x000800000506000209_050906020007040103_000002030000050000_000509080302000000_040003000000080000_080001050704030900_090405070003020806_060008040200000007_020000060000000004,
  0x000609070304050200_000000050908000604_000304000600090000_000000010007080302_000008060203010000_020003080500040706_000900000000000003_030000000702000500_060802030100000409,
  0x060002000000000000_000407000000000608_080005020000000104_000003050600010000_000600000908000405_050000000100000000_000000060000000500_000000000001000003_070006000200090000,
  0x010300070200000400_080000000900000007_040000000106020800_020408010000000000_000003080000000701_070100000005000009_090500060007000100_000007020000060900_060001000400000008,
  0x000600000000000000_030800060700000901_010002080009000300_000001040500000208_000906020008070100_020408010007000005_080109050000040702_060200070800000000_040500090001000803,
  0x050000070000040009_090602010000000800_000403080009000000_000009040200000001_080000000107020000_020000000800000700_060008020900070000_010900060405000200_000000000000000000,
  0x000809000003000200_030107000206000904_000000000809070003_000608000502030009_000500030600020407_000203090400050000_020000080000000705_080004000105090302_010300020900040600,
  0x000001000000080400_030400000000010009_000007090004060500_080004050907000001_000500000300000000_000000000006030900_050200030001090800_000003000205000000_070100000409000300,
  0x020000070008010600_080501000902040307_000007000500000008_000900080706000504_040000030200000106_060005000409080702_050206000100000000_000000000800000000_090000000007050001,
  0x000200050701000406_000000000800050000_000407090300000200_000305010008000002_020806000007000000_010000000000040800_080001000000070600_070000080100020300_030902000600000100,
  0x030706000102000509_000400000907060001_000908030005000200_000003000800000000_090604000001000003_070800060309000100_000000070000050002_000209000000030708_080507090203000006,
  0x000800000200000501_010000000700000000_000005060800070000_000307010000020904_000400030008010007_090601020000000800_020009040000030000_030000000500060000_000700080000000000,
  0x000700000005060900_000000000008070300_000000000700050000_000007000200030800_050102080307090004_000000050000000007_000003000004000006_000008000906000000_070000000002010009,
  0x000002060005070000_060100000000040200_030907000000000805_090304000001000506_000600040003020700_000700000000000300_000809000007010000_070500010400000000_010203090608000407,
  0x000000000008090005_000000000200080406_000408010509000300_000006000802000700_000003050000040900_000700030000000802_030600000000000000_010007000405000000_000500080307010600,
  0x010000050000080200_000000000208000409_000000060900000507_060008000107000904_020104080000060000_000907020004050008_000800040300090600_000200000000000305_090003000005000000,
  0x080509040306000107_030001000800040000_020604050100080000_070403020000010600_060800010003000209_000000070000050304_050008000701000400_000000060204090800_040006080500030700,
  0x060509000300020000_000002000007000000_000100000000030600_000004000000060003_000600040003000009_070003000800000504_090000000000050000_000000000200000100_030401000000080002,
  0x000200030506090108_000000000800040306_000803000000050702_000000040000060001_000000000103020000_010706000205000000_000002000907010604_000601050000070000_000400000601000805,
  0x050708000400020906_020109060805030000_000000020700010000_080000030500000001_010000000906040007_060000000200090800_000001040000070000_000004000002000100_030002000100000000,
  0x000005090000080006_000600030005000000_040000000700010305_030008000400000600_050106000009040003_000900000003070008_090500000000000107_000000060001000000_000001020507000900,
  0x050900000002080001_020008000000040006_030000000000020900_000600030207000400_000000000004050600_000002000005030000_000009000800000203_080200010700060504_000001020500000000,
  0x000000000004070602_020000000000000000_070000090502040100_000000000900000000_000405000100000200_080701040206090005_040809000601000000_060000050700080001_010500020000000906,
  0x030100080700060900_070409000600000300_000200090503010700_010008000400000003_090300000005000601_060504030009020807_000600000900030400_000003000200070100_040001060007000200,
  0x030002000100080006_000000030008040005_080000000406090200_020003010004070600_040600000000020501_000005000902030804_050907020600000008_010204000005060300_060000000701000902,
  0x060007000000090005_020000000809000107_000000000700040002_010500000002070008_000006070000000009_000400080001000000_090008060100020004_000100000900030000_030002000500000000,
  0x050000030106080407_000608050000030201_030107020400060905_000900010000000604_000001090205000008_000000080004000509_000004000000050700_000800000502090100_010502000300000006,
  0x090000000200000800_000205000100000004_000006050408000700_000902000703000008_040001000900000607_060000000800000900_030500000000000100_020000000009040500_000000000001000003,
  0x090507010603000008_060002040900000107_040000000000060903_020903060007040805_000801020004000700_000600090805000201_080400000709010302_010709000006000000_000205080401070009,
  0x050100000009030008_040000070000000006_000000000000000900_060500030201000009_080000060904000102_000201000000000304_030600010000090000_020900000300000000_000400000500000603,
  0x000006050100040003_030000070804060005_000502000306000700_000000060007000800_090000080403000607_000600000009030504_000200040001000000_000004020000000006_000007000005000002,
  0x000301060000080900_070000000400020001_040902010000000000_010004000005030800_000209000000070000_080500070300000100_000000020000040708_000805000000000003_060000000100000000,
  0x000300070200080009_060000000000000000_000004000109000000_010009000008000004_000500020600000907_030207090000010806_090400050000060100_070106040302090500_020000000900040000,
  0x090307000405010600_040000060000030000_000801000302090000_080003050006040709_050706000000080000_020900030708050106_000608010509020304_010409000603070500_000005000800000000,
  0x010000050900000400_040000000600000001_030005000700090000_000800090004000005_070309060008000200_000000020007080009_020000030400060000_000000010000070000_000500000009000103,
  0x040008000000090607_050600020407030000_000107090600050000_090503000200060108_000000000001000203_000000000300070905_000902040000000506_060700000009020300_010304060502080709,
  0x050200000100060008_000800000000000300_040000080900000500_000600000000000001_080001020000040709_090002000400000005_020305090700000006_000408000000000200_000900000000000000,
  0x000005020704030000_080009010003000004_070304000906000501_000000050600000302_000000000000000600_000706000201000805_000800030002000000_000003000000000007_020000070005000000,
  0x060000000700000004_040809010503000000_000007000904010308_000002000000070600_090000000000000401_000405030600000900_030600000000000800_050008000300000107_070001080400060203,
  0x050904000107060300_000207000800000000_000008040509010207_090000070402000600_060003000000000000_070002060005000900_000000050704000006_020705000000030804_000006000200050700,
  0x000008000002000000_050703000100000000_000009000005000401_000000030000070000_040000000700000009_000107000008060000_030004000000050002_070000000500000900_000006020000010003,
  0x020000000007060309_080001000603000400_000006020000010000_000305040200000000_000207060300000000_040600000500000000_060800010702000005_070400000006080103_000100030804020706,
  0x000304000007060109_070000050600080402_020600090401070005_060400080000020500_000900000500000000_080000070204000906_040000060300000200_090200040008000600_030006000002000700,
  0x050700000206030904_000209030000000000_000000000005020006_020006040001070509_090107000508000403_040300000600000001_080502000104000300_000901050700000008_070600000800050102,
  0x000000000000000600_000003090007010002_000000030506000407_000600050009070201_010908060002000305_000700040003000000_070300000000050800_050001000304000006_080000070600020003,
  0x000100000702030006_000300000508070400_090007030000080502_060002070403090005_030000010806020004_040701020005060003_000009000200000000_070500000009000208_010004080007050609,
  0x010205000000000709_000600000000010002_080000000900000500_000000000400090300_000006070800000001_000900010200040608_000503080000020900_000800000500000100_000400000000030000,
  0x000807000200040600_000100060000000007_000405030007020108_000700000100000203_000000000403000000_010003000000070005_000200080300000001_050001000700030000_090008010000000000,
  0x050006000208000900_000100060300000007_030000050000000800_090801070004000300_000007020900000000_020000000500000009_000009010000000204_070200000000030500_000000000000090000,
  0x020007000000040608_000600000200000100_000804000000020000_080005010002030000_000400070900000005_000001080005000402_000000000106000504_000308000500000200_000500000800070309,
  0x000009080000000000_000000030700010000_000000000005090400_020300090804000600_000000050203080000_000004070601020000_050000000908030700_000600000007040000_070008000000060100,
  0x070503000400060800_000002000000000905_000000050701030000_000609000000080000_000000000000050307_000700010800000009_090006070000000008_050400000009020706_000000000000000500,
  0x020000000508000004_000500040000030000_040800000903050700_000700090200000000_010000000000000002_060900010305080007_070600000000000100_080204000000000005_000005070406020800,
  0x000000060700030000_000600000004080007_030000080209000005_040100090008060000_070800000000090000_090000040607000008_060300070000000900_000700020000000800_020000000406000500,
  0x070000040905000200_050002080600090000_010006000002050008_000105030400080906_000709060000000002_000000000000000000_000801000700000004_000003020006000000_000007090004010003,
  0x000009050000060002_000006010802030007_020100090003000008_040008070309020600_000000080005070400_070301040200050809_080604000007000000_010705030400090200_090000000001080704,
  0x000004010500080007_070002040903000605_050003060800000209_030407020609000008_010600000000000904_090208050004060703_080700090000000500_000300000000090000_020509080306000401,
  0x000600000000000002_000000050400000901_000004000200000000_070100000005000200_000003000800050000_000409010002000600_080000030109000000_040000020608000000_000000070000010308,
  0x020000090100080000_000000000000000007_080001000000040005_050100000607020000_000009000000070300_000002000009050800_000007000908000000_040000060000000008_000600000401090000,
  0x000002000000000500_070000000002030609_000006070004000008_000607020000000400_040000000700090201_090003000100050700_000800000607040002_000000050001060000_060700080200010305,
  0x090108020004000000_070000010005040908_000000000600010702_030901000000000000_000702060000000009_000004000000000000_020507000000000804_000000000008050100_000800050000000600,
  0x060008000005000000_050000000600030800_000100000003000005_040509030207000006_000600000500000300_080200060000050000_020805000306000704_030900020004060508_000006000700090003,
  0x020308070000040901_000000030000070200_000701000000030008_030000000008010000_000000040103060002_010405000007080309_080000010504000006_070000090006050004_000004080002000003,
  0x040307000001000002_000900000000080000_000008000305070100_020003090000010000_080009030506000000_000006000100000008_050000010800000200_000000000009050000_090600000000000000,
  0x000000050300080000_000000000000000905_000005000800000600_060004000100000800_000508070009000204_020300080000000106_000000000004000000_000906030702000501_030400000000000000,
  0x050409000200030000_060301000004000007_080002030601000000_030005000106080704_000000000007000302_000807000403000609_040003060005000001_090000040700000003_070006010300000200,
  0x000000000301000000_000800090004000000_070403080506090102_020708000003000401_000900010000080007_000301040000000009_000106000200070004_040000070008000600_030200000009010800,
  0x000000060007000004_000807030000020500_040900010000080700_080400050300000100_000200000000050003_000005000008040002_020000080003000405_000304070500000008_000000000000030007,
  0x070904000206010005_000806000000000200_030000000400090608_040700050000060100_090000060704030802_060008000003000007_000000000009000400_080001000300050006_000300000608020001,
  0x050000000001000300_000903050700000000_080000000904000105_020000000003080000_060008000409010000_000109000000000006_070500000000000600_090000040300000700_000004000000090001,
  0x000000090002000100_010904070805060200_020506030000080700_060209040708000001_000003060000070000_000400010000000002_000600050000000000_000300000006050000_080000000004010900,
  0x030005060902070000_070200000005090306_000006000000040000_050002000603000701_010704000800000000_060800050000000900_000500000000000600_000000070006010000_000000090000000000,
  0x040207030501090800_090000080200000100_000301040000070205_050000090008000000_030908060102000000_060100000300000000_000009010800030507_070000020603000009_010003050000080602,
  0x000800000300000000_090000080200070500_000001050900000008_080300090400000000_010507000002000400_000900010700050800_000100000600000000_030000070000040000_040708020009000306,
  0x020600040001000500_000109020006040003_000004000300010006_000700030002000609_000000090607000400_090200000800000000_060300070400020901_000007010008060004_000002060900070800,
  0x000400000200000000_000806000007000000_020300000601000500_070000000403020000_090000000700060000_000000080100000000_000001090806000002_030000000000000801_000000000300000600,
  0x000004020000000100_000900010400030000_000002050903000604_000005090300000400_030400000001000900_090006070000080300_000709000600000800_000600080000020003_000503000102060000,
  0x080000010000000900_040005020006000100_060700000000000002_000006000000000000_000200000007060509_070409000001000000_000003070905080004_000000080002090003_000807040000000000,
  0x000809000005070206_070500000000030004_020000000804010500_030708040009000600_000000080703000000_090004000000000000_010007000600000003_000306000907000002_050002000401060708,
  0x000008090002000000_010000070803040000_000302000500000700_000500000100070009_000004020000080000_000000030900050200_000005010008060000_030406000009010800_000901000007020305,
  0x010000090700000005_000300040000090108_000400000100060703_000000010500030900_060109030004000000_000004070902000600_020903000001050807_000000000000020006_040806000000000009,
  0x000106000000000403_000204060309050008_090300040000060000_060800000700040900_000007000008000000_000901000600000007_000600030000020809_000000010206070000_000003080000000004,
  0x070300050004020800_020804030000060705_000609000708030401_010003080402000500_040902010506000307_080000090307010200_060108070205000903_090407060803050102_030205040001000600,
  0x000000080205000000_060000090400050000_000100000000000000_080600050709010302_000000000803040000_070001020600080000_000000000000070004_040809070006000000_030500000000000000,
  0x000009040000080200_020306000001000905_000000000509060700_000000000206000009_000000030000020007_030208090005000400_010800050007000002_070902060000050000_000000010002070000,
  0x000000000006000002_040006090000000708_080501000004090300_000408060000030100_010300050008000000_060700000001000205_020005000609000803_000803000000040009_090604080000020000,
  0x000900000007000000_060207000503080400_010503080400060907_000400070300000605_080000040201000309_000702050000010800_050300020109040700_020804000700090106_070109060800030002,
  0x090600040200050007_000001000000000402_000700000501000800_000002000009000300_060407080005090000_000005020004000000_050009070803000600_000306000000000500_070200050006000900,
  0x000100000900000000_060704000205010309_000509040601000000_000600000002080900_000000000100000400_000800030000000507_000006010000050708_000400020509030106_010000060807000204,
  0x030000070500000809_000009020801000000_010800000309070002_090003010000000004_020400000703000100_070100040900000200_040307080000000901_060001000402000300_080900000007040000,
  0x070000000100030008_000008000000090406_020304000000050107_030600000704000000_040700030000020001_000009000500000004_000000080900060002_000500000300000000_000802050400000703,
  0x030901080002060000_000600030100000900_040807060900030000_000500000803000206_000003000500010408_070108020000090503_080000000000000600_000709040006000001_010406090008000007,
  0x050307000800040002_020000050300060809_000000010402000503_060001020704000908_000400000005020007_070200080000050401_000008000600010205_030005000001000704_010700040000090006,
  0x000908020105000000_050004000003000008_030000000008000000_070000000600020005_000800000002000000_000000010907000000_000000070201050000_040500000806070000_000007040500000206,
  0x020000060500000003_000008000407020000_000300000100000400_000000000900000006_000000000700000500_050000000002080000_030000000000000100_000706000200000008_000201000000060005,
  0x050000080700010603_080000040000070000_060700050009040802_000100090405000200_020504000300000000_000908000200000006_000000020901080300_090000000000060105_010000030500000004,
  0x040102000000050000_030008010900040002_000000040000000008_000401000006080703_000300000108000004_060000000004020901_000600050000010807_010007000809000405_080504030001000006,
  0x000700000004010008_000009000003040700_030000000000090000_070200030806050000_000000000007000006_000000020901080000_000300000102000004_000007080300000100_000108000000060000,
  0x000007060402090500_000001090700000000_000002000000060003_010004050007030002_000708020000000100_000500000006080000_000109070008020405_000806010000000009_000000030004010000,
  0x000705040000000000_000900000701040000_060004000302090807_000001000000000000_090000010400070000_040507000003000008_070400030106080205_000800020004030709_000300000900000100,
  0x000902000000000301_070000000100020000_010803000400060000_000605080700040900_020004000605080703_090708020300050100_080000000003000600_050200010006030800_000301000007000000,
  0x060804030502070000_020001000009000304_000500040000020800_050900080004010207_010607000003000400_080400010007030605_000100000305000708_070000000006040003_000300070408060000,
  0x020500010000060009_080007090600030002_000400030200000800_060200000001000003_000908000000000105_050000000009070604_030609050000040700_000000000907000001_010000000000000000,
  0x030205080100060900_010407000600000500_080900000500010700_090004020800000301_000500090400070000_020308050001000000_050002070904000106_040000000005020000_070603010200000005,
  0x000000010000000205_000200000400000000_000901070800040000_000006080200030504_000400030905000000_030000000100020000_020607000500000908_080300000700000406_000504000000070000,
  0x000007000600000204_050800070002060000_020006050009000708_030100020006000000_060000090507000000_000005010000000002_000001080903000506_000603000705000801_000008000200030900,
  0x070008020006000103_090105080000060000_000203040000000807_000600010003000209_000007060800000000_000301000004000006_010006030900000000_000700000401020608_040002000008030901,
  0x000000000008050004_070801000905060300_050300000001000709_020400060000090001_010009000702040000_000000010409070005_000008000100000507_000102000800000000_000000000206000008,
  0x000007000002090806_000200070906010004_000000080000000700_000802050000030600_000105000309000002_000006000000070501_000004000003000008_000000010607040000_000001040000000000,
  0x030200000000000500_000601000009000003_000008060503000700_080000020000000009_090002000300000004_000000090401000000_000800010706040000_060004030000000007_000700050804060300,
  0x000105000208000600_000200000406080507_000400000503090002_000000000800000000_000000000001000800_080001060702050003_000006080009000000_030000000104060008_010800000000040305,
  0x020000000500010604_000805010600070300_060000030000000000_090307000000000108_000002070000000000_000000000300090007_000908000000000000_010004060003000000_030200000809040000,
  0x000300080700000402_000000000000080500_000402010600090003_000108000004030900_030000050800020104_040000090003000800_070503000900000001_000000000006070200_020806000001000300,
  0x000203040000000000_060400000000050003_050009030006040001_040601080307000500_080502000000030000_000000060205080000_000904000008010005_000100090400000807_070806050000090400,
  0x020008000000010000_060000020003000800_010300000005020004_000700000000040000_090003000000000102_000001030006050007_030000000701000000_070400080000000200_000000040302090000,
  0x040006000500000800_070000060801000200_010008000000000000_050007000000000002_000003050000080006_000900000000030501_000405000900060007_030701000600020908_000000000300040000,
  0x000709030004080000_000500060708000000_060000000201050003_000300000100090005_080100000003060007_050906000400030008_000000000600070801_070600000002000000_040801000000020000,
  0x000000000107000800_000105030200000000_000200080500000001_000708090005000300_050401000308060009_000000020401070008_090000000006050000_010600000802040903_000002010900000007,
  0x010900040000000000_000300000000020009_080700000000060400_040200050009030806_090000060803040207_030608000007010005_060500000008090104_020000010500000603_070001030000000002,
  0x060400000000000001_020000000001070003_000005090200080000_000601000004000200_040309080002000006_000500060007010000_030800000500000007_000000010408000305_050100030006000000,
  0x020003000000000000_060000020908000003_000809030601020005_000205060000090000_000000000000030007_000700050109060002_000000070005000000_070300000000000000_050600010400070300,
  0x020100040800090003_030408000900050100_050009000100000402_000307000001000809_000900000006040500_040500090000060307_070000010000030000_090203070504000608_000005080300000900,
  0x000500000807060100_000001000209070408_000000000106000500_000003000600010000_000106000003000700_000009000000000006_030000070000080204_010904080302000600_000007000400030000,
  0x040109000200000800_060200090801000400_070308000000020901_050900000104000000_080600000700000200_000700000008090000_010000000007000000_000000040005000102_030400000600000500,
  0x000006000900000000_090000060000070300_080407000001000009_000000070000000602_070600040000000803_000000080000050704_030008000400000500_000200000000000100_060700010500000000,
  0x010000080000030000_020009060000010004_030006010509000800_000000040000070600_000100050607000400_000000000008000009_000000000000060000_080003000006000005_000500070000000001,
  0x060005080000040000_080200000000090000_040903000100000000_000002000001000000_090600000000010500_010000060000080209_000008000209070406_070500000006020000_000000010800050000,
  0x000000050900000200_060002010007090304_000000000000000001_040003090201080705_070000000000020003_020005070000000000_090000000500070400_080200000104030500_050000000709000000,
  0x050702000001060900_000108060500020007_060300000800040100_000004010200030700_020907000003050601_000601070000000002_000000090000000004_090006050708010200_000005000000000806,
  0x040002090600000005_090300000705060208_060800020103070409_050609000004000007_080000050000000603_000000000806090000_000900060200050304_070000030000080002_000400000009010006,
  0x000600070805090001_000109040602070000_000200030001060405_060708020004030500_010403000009000700_000502000307010604_000000010003020806_000006090000050100_000800050200000900,
  0x000006000000010302_030100050600000000_000009030002000500_090400060301000200_000001000700000406_000000000004050100_020008010000000700_000600000003090805_000300070009020601,
  0x070002000000010809_050100000800000003_000008000003060007_000700060900000200_000000000000070006_000000030000000004_010000000000050000_020007010009040000_000405080600090700,
  0x000000080000010209_000800010609000400_050000000000030806_010002050906000008_000504000800000000_080007000102000003_030608000000070002_090000000001080300_000200000300090605,
  0x080001070000000004_000700090503080001_000000010000090700_060800050700040109_000005060000000002_090000000001000000_050004000007000003_000000080000000400_000008000600000000,
  0x000809010000000006_030000000200040900_000405030000000201_000000000005020408_000700020000030100_000004000000000000_040000000501060703_000500000000010800_000300070002000000,
  0x090000040000010000_020601000008000004_050000000000000900_070506000000080000_000203000400060100_000000080006020005_000000020100090600_000102090000000000_000908050000040000,
  0x040001030002000009_000005040900000000_000600000107000000_000000000000090703_010300050000040200_000000060309000000_000000000600000007_060000070000080100_020000000000030000,
  0x070200030000060409_060000070209000000_000001040006070000_000000090108000000_000600000704090000_010009020003000807_090002000400080700_000000080000000302_000000060302040005,
  0x060000080004010003_020008000003000000_000300000700050800_000203000005000007_000000010000040300_090401030000000500_000009000008000200_030700000000080000_000800090000000001,
  0x010507000300080004_000403070008000501_090008040005000703_000006010007000000_070009050004030106_000100000806070209_000300060000040000_000705000009000002_000901000500060807,
  0x000700040000000200_090002000800000001_000000090000000705_000905000000000308_000003000000000500_000000050308000004_000401000009000607_000000000000050102_000000020003040809,
  0x000000000700000600_030000000000000007_070406080900000003_000000000008000500_020508090004000300_090003020100060800_010005000800000006_000000000003000109_080000010000000005,
  0x060000000508000104_010002000600090000_070800020109000000_000000000000070803_030006000005040001_000400000003050006_000200050006000007_000000000000030602_040607010000080009,
  0x000001000408060509_050800000709010000_000006000102070003_030500000007000600_000600010504090308_080100000000000700_060000000300000904_010000040000050007_090007000800000100,
  0x000005000906040000_000000000400090302_000904030008060000_000106090007000403_080000000000000201_040207080000050609_000801040500000906_090003000002010004_000402000809000007,
  0x050004020000000800_000702000008010004_000008070000020509_000500030400000700_040000000005000000_000206080009000005_000000000000070900_000109040000000000_070803090500000401,
  0x000005000200000306_070000000601000000_000600000000070100_080000000103000207_040000020005060809_050207090806000400_000700000304000502_000001060000000000_020409000507030000,
  0x060504030000000008_000000080400000000_000007020000000005_050009000702080603_010600000000000900_000003000000000100_000700000000000500_090006040500000000_000205000800000401,
  0x080009010000020004_000000000500000300_000005090003000001_000108000009000200_000000020800000000_000500040001070900_000000000400000000_000000060100000009_040000070908000100,
  0x000000030800000600_000901020000080000_060300000000000007_000200080000000006_080000000704000109_000000010006050008_030000000500000000_000000060000070800_050100000000030400,
  0x000809010004030206_000300000800050001_000000000307040800_000004000001020308_050208030406010007_090003070200060504_000005000000070002_000007020100080600_010002000700000403,
  0x000900000008000004_000000000902000803_010500000000090200_000105020003000000_000000000500000100_070209010000000005_000000000200000006_000007000000000000_020000080007040009,
  0x080000070003000000_000700080000000609_040002090006000803_060200040001000008_010009030007060502_070000060005000401_020000010008050004_000000050000080207_000000000709010000,
  0x000001030004070500_030004000000000601_000007080200000000_080002000105060003_000309020807000005_010700000306000009_040100050700090302_020508060900000107_070003010002050006,
  0x020301000700000608_000906000208000000_000005000304000009_000700000001000000_090000030600050000_030000000900020100_000209000506080403_000600000000000001_000003080000000000,
  0x080502010000070304_000009080705060201_060007000000000000_040203090600000807_000706040000030002_000008000207040000_000604000000080003_090800000003000005_070000060000000000,
  0x000000000906040700_000600000004050103_080000070300000000_050006040000030809_040108000003020600_090000060000010405_000004050109070200_060902030000080501_000005080600000004,
  0x000704000009000300_000800000003050000_020003050700000809_000300000000000000_080009000006000000_000407000000000608_000000030000000502_070506010002000000_030902000008000701,
  0x050400000003000807_000000040700010005_000701090205000000_060207000000040308_000005000402000000_000100000007000000_070000000900020106_000008070000000409_010004000506000000,
  0x050708010900000600_010602000000000409_090000060205070108_030509020408010706_000406070109000000_000100000603080904_060005000001090200_040901000300060007_070203000000040001,
  0x070200000000000000_010306000704000000_050000000800060000_020004000008000703_000507000102000406_000600000000020005_060001070000040002_000900040006070000_040000000501030000,
  0x000300000006080901_000600000000040500_000004090003020006_030009000000070802_060000020004000000_020700000809000000_070203000008000604_000805000002000307_000000050000000000,
  0x010000000002000500_000704090005030000_080000000704000009_000007060003000000_090206050408000100_040100000000080000_070000000200010006_000901000000050700_000000000000000000,
  0x040001020605000900_000205040700060001_080000000900040005_070600000000020003_030908010000000006_000100070006000000_010009000807030000_060000000102000004_000807000403010609,
  0x090000000100050700_000107000000000000_000000000902000401_000000000000000100_000000000000000804_000400010003060000_070003050801040000_010000060009000307_040800000307000006,
  0x000000000003080104_010402090000070000_000000000407000000_000700000601000408_080000020004000001_050004000009000600_000208000000000307_000007000308010200_040001000002060000,
  0x000500010800000000_090008000000000000_060007000000080009_000409080107060300_000000060500000904_010000000003020000_000901000008000402_050000000700090000_040306020001000700,
  0x000000090008000502_050000040100000006_000800000200000100_040000000900000000_030200000500000407_060000000007050008_000000010000000603_000300000000000009_000900000304000805,
  0x090506040007000208_010003050000090006_000702000100030504_000000000006000009_040007020903000100_000000080400020000_000000000501000002_020105000004000003_000009030002000400,
  0x050100000600000300_000000070805000106_070006000300000800_000900000103000000_080705000009000000_060001000200080000_000007000006000400_000002010000000607_000600000700000003,
  0x000900020504000700_010205070600000309_000007000103080502_030500040000000100_090000000001020000_000100030900050000_050706000009030001_020001000005000908_000800000300000205,
  0x000400000000000000_000006000009080302_000000050000000009_050008020300000607_000300000001000008_040201080000000003_020005000000000904_000003040008060005_000000000200030001,
  0x000305060000020809_070809050004000601_060201030000040500_000400010607000305_000500020008000000_000603090005000208_030000000900000100_050006000002080700_000008000000060004,
  0x090300080204070501_010407060305020809_050208010700030406_040701090002000308_000502030607010904_000609040801050207_000000050103000602_020800000406000105_060105000908040703,
  0x000005000000000300_020006000003000009_090301020500000807_030700010805000402_050200090007000108_010008030000070905_040500000100090000_060000050709000004_080007040302000600,
  0x000100000005000800_040000020000060000_000009000000000504_000000000600090300_000600000001000008_090700030000000005_000000080000000000_000005000709010000_070003000500000900,
  0x020005000406000701_040800000901000000_000001000005040209_000000000003090000_030604000009000000_000008050600020007_050000000307000000_000003060002070000_000006000000030000,
  0x000000010007090002_000000060400000507_070000050009040000_050000000704020001_000000020500030800_000300000000000005_000800000100060003_000104000006000700_000000000900000004,
  0x000000010800070502_090000000200000004_020000000000090100_000000030002080700_000003080000000200_070802060500030901_000209000603000800_080005000001000600_030601020000050009,
  0x000500000000000000_000000050002080009_080300070006020500_050003060200000700_000008000007000005_010704090805030006_000000040601070803_000806000000040000_000000080009050000]
theorem mixed_39_ok : mixed_39.all fastOK = true := chunkOK_sound _ (by decide +kernel)

end Gen.SudokuDB
