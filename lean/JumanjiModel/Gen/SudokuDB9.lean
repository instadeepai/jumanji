/- GENERATED by harness/translators.py (gen_sudoku_db) from /repo/jumanji/environments/logic/sudoku/data/*.npy — do not edit.
   One `Nat` per board (layout: Env/Sudoku/DBCheck.lean); every chunk is run through the checker by the kernel. -/
import JumanjiModel.Env.Sudoku.DBLemmas
namespace Gen.SudokuDB
open Sudoku.DB

/-- `mixed` (10000_mixed_puzzles.npy), boards 8000..8249 -/
def mixed_32 : List Nat := [
  0x000700000000000208_060002000507040109_040501020908070006_000000010000080000_080400000200000000_050007000009030402_000000050002010807_010208060000000500_000000000800000604,
  0x000009050400000200_000800000701000600_000000020003000000_000000030200000805_070003000000000901_020608000900000004_000900080000070506_000000070009000102_050000000104000008,
  0x000008050003000104_000004010800000000_010005040700000002_000000090008010000_000107000002000403_020000030000000005_000806020000000000_000000000005000000_090702080000000000,
  0x000006010407000500_070000000500000603_000001090603000000_090100030005060400_000700020906030008_000000070100000900_020009050708040001_000007060300050000_010000000000000800,
  0x000507060400090201_000008000302000000_000002090001050003_050309000006000100_040200030100000000_080000020004000600_010003000000000000_020000000905010307_000005000000040002,
  0x060002080009050104_000400000106070200_000801000204000000_010000000400020003_000000000800010000_020708000000000000_000000060000090507_030000000501080402_000200000000030001,
  0x030000090001060408_040009000200030507_050800070403000901_070005020000000306_020608000300010704_000300000007050800_060900010004070205_080507060900000103_010004000000080609,
  0x040209010308000507_080501020706000003_070603040509010200_050800000401000009_000306000805070004_000000060000000005_000400000902080301_000108050600040702_030700000104000900,
  0x030908060007020000_000000000800060703_000006000301000800_000205070900000001_060000080005070000_080709040100050302_090007010500030200_050000030700000908_010302000008000507,
  0x000306000709000000_080700040000000306_020009080003000504_000000070004000000_000007000005080000_060004020900050000_000003000008000000_000600000400010000_070400000000000005,
  0x020004080000090603_000300090006000200_000009000000000005_000900070000000000_060000000000000304_000000030008050902_000000000300000409_010002000000000000_090403020805000006,
  0x000302000000000500_010500000008000906_090000060500030104_000003020600050000_000100040800060000_020008000705040009_040000080006090200_030001050204080000_000006030907000400,
  0x050007000000080900_080000000300010002_000102080005030000_000900000706000105_000001000802040009_020000000000070000_000800000003000000_000000000400090208_090000000008000000,
  0x000904000602010000_000603080000090000_080000000700050000_000400060308070500_030506070009000000_020807000105060903_090008000007030005_000005000000000700_000001050803020400,
  0x000005010700090608_060004030809070205_000700050000000304_070806090300040002_000209000000080500_040003020100000709_050900040006030007_080002070903050401_030407080501020900,
  0x050000040703000900_000902060000050304_000600050209010007_080009000600020000_010700080900000005_000300000507090600_090205000000000100_030007090000040206_060408000300000509,
  0x030800000601020009_000701040002030006_000006000300040001_000003000407080005_000900000100060000_060000030905000200_050000000700090408_040109080500000602_000007000200000100,
  0x000000080000000000_050009000000060008_040807000000000003_000000000002000807_070002040003000000_000000070500040302_030200000005000009_060400020900030005_090700010300000006,
  0x060002000300000000_000700000000010006_080301050007000400_010800030902050000_030004000000000900_000209000400000108_000100060700000500_000008090001000203_000000040003070001,
  0x000900050000040300_030600090204000005_000000060008090000_000700040000020000_050000000000000709_000800000000060500_000307000000000400_000205000006000007_000000000807050000,
  0x090000000000000007_000407000009060100_000000000001040000_070008010000090004_000309000706080501_040001080000000600_000000060005020000_000702090400010000_000000000000000009,
  0x000000020501030000_020007080400060100_000000000700020000_010000090007000000_000004030200050701_000000000000090000_090801000000000500_030600000000000800_000702050000010300,
  0x030800000009000107_000400080005000009_000007000000000004_050000000007060002_080000000300000500_000700050601040300_000906000008020700_070000000900010400_000000000204090806,
  0x070600080000030100_000102000900000000_000009000000000200_000000050000000308_090500000003000000_060300040000050000_050003020100040006_000200060000090700_080006090000000002,
  0x060004030007000002_010000000000040003_000000000005000900_020000060304090000_000409080001000000_000600000500020400_000706000900080001_000102040000030509_090503000802000000,
  0x000800000700040003_000100000003070605_000007000000000008_090000000506000700_010508000009000002_000200030000090000_080700000000050209_050004010007000006_000600000005000000,
  0x040003000809000207_000100000702000000_080200000005000901_000001000200090400_030402000000080706_070000000306000005_000000090104000000_010700020000000809_020009000508000600,
  0x040000050907020600_020000010003000004_000600000200090300_060100000000000000_090700030006000805_080500090700060103_000907020501000000_000400000000010207_000006000008000509,
  0x000700000000050104_040105070002000806_000006000501000209_030500010000000900_000000020703010008_000000090600040000_000903080107020400_000000000000000307_070208050304090001,
  0x070500040000080006_060008030000010900_000002080605040000_020009000000000000_030800000006090000_000100000003000708_000700000509020000_090000000300000000_040300000800000000,
  0x060000000200000000_050000090401060000_010002000603000005_020400000005070600_000600000000050000_070500030806000102_090000000308000004_000000060100020703_000000020504080006,
  0x080401000005000700_070300000200000000_000005000000080309_020004000700000003_010500040000000000_090008000003010000_050807000000020000_040900000800030600_000000000400050900,
  0x050000000900000702_000001030400050008_070600020005090400_010000000006080009_080907000001000300_000500090003020107_000100000000000006_060804000009000005_020000000000000000,
  0x020003050600000400_080500030900000001_000400010000000307_000000000400090706_000000070006000000_000002090300000004_060000000003020000_010005080700000003_000804060001000905,
  0x060900010000000000_040000060003080700_000003090000060001_000000000007000500_090807000000000104_050304020109070608_000600050002000807_000502000000030006_070400000000010000,
  0x010608030000000500_000205000100000800_090700000500040000_030002000600070000_000000020003060900_070000000009000201_000300000001000700_000107000008000000_050804060207010000,
  0x070400060500000300_000600000300000200_000000000000010607_060005000004030000_020007000005000401_000900000000000000_030209000100060000_000704050900020003_000000040000000009,
  0x000400030700000000_000705020000000000_000003040800050002_000002000401000000_000800000600000109_000000000000020806_000000090000070600_000300000000000000_000009000507000200,
  0x000000000000000008_080709000500040302_020500000007090000_000205090401000000_000900060000010000_060000000305000000_000006050000030009_090007000602000400_050002000009060000,
  0x000806000107000402_000504000809000607_000200000006000800_010000000004020008_080905000000000004_040602000000070005_020100060000080703_050400080700000200_060000090203000001,
  0x080706000003010504_010903060005020700_000205000807030906_030004000901070002_090002030704000601_000100000002040309_060501020309080007_070308000106090200_020000070508060103,
  0x080006040300000000_000900010700030802_000300000905000000_020000070603000508_030607000000040201_000500000000000600_000203000407080000_000700000000020100_040800090001060307,
  0x000300070109040002_000000050300000908_000004080006010005_000005010700000006_000900000400050000_060107000900030000_000002000007000003_000809000000000507_000000000800000009,
  0x000000010005000000_000908000306040000_000005000007060000_090004050200010006_000007030609000000_000006040701090003_000001000900000004_000709080002000000_080000000000000109,
  0x030004020509000000_060007000308090500_050000000000030000_010706090800000000_040203000001080700_000500000000000200_000005000200000906_070400000006000000_020600030000000100,
  0x080503000001090704_020000000504000603_060004070000020508_000800090400000205_000005020800030007_000602000100000000_070900000002050000_000006010005080002_050200030008070406,
  0x000000000700090000_090000010803000005_000001060904000000_000009000007080100_010206040508030000_030807000000000200_000408000000010009_000103000400060500_000000070200040008,
  0x000006000400000705_050000060308090001_000003000500000600_000109000000080006_000000090000000500_000005000706000000_020000000900050803_000000000000000900_090000050600040002,
  0x000200010000000500_090000000004010206_010000000500000000_000002000000030708_000009040705020000_070600000000000400_080900070002000305_020103050400000800_060500090300040102,
  0x050000010007030600_000309000002070400_000700040300000009_000001080000000507_000605000000040103_070003050400000000_030500090104060200_000002030000090000_040900020700050300,
  0x000001000000000400_040000090308000000_050000000004070309_060000020009040700_000100000000000000_000009000007000003_000004030905080000_070906000000000200_000000000600090000,
  0x040009030000060500_050803040000000001_020006000000030004_070402000001050006_000001000800040700_000008020004010009_000607000900080000_000204000003090605_090305080000000100,
  0x020300040708090001_080500000003000704_000007000000020003_090700020004010000_060800070300050902_050102080600030000_000000050800070300_000900030000000100_000608000100000205,
  0x070006080900010200_020000060300000008_000803020500070600_040000000203060805_030205000000000701_060700000405020000_000000040006000902_010600000000030000_000900000702080006,
  0x000000050006000000_060301020007050904_020005000009000607_090408000000070000_030502000000090400_010700040005030000_000000080000020000_000204000003060700_050000070200040300,
  0x020908010006040700_000000000805020100_060001000200030000_070000060000000500_030605080900000400_000102070000000000_050207000600010804_000304050000060000_090006000001050000,
  0x090000000004000700_070000020000030005_000500000000000000_000806000401000002_020409000000000001_000700000003040006_080300000000010607_000100000600080009_060000070000020000,
  0x000000040500080007_000204090007000003_050000030001000000_040908050703000006_070000060008040300_030000020100000809_020700000305060008_080600070400000000_010403080009000000,
  0x090000050001030007_000000090600000008_030004000002050900_000407000508000109_080000020107060500_010205060904000800_020700000300000000_050601000709040300_040900000000080705,
  0x000000010006000000_000300070004000800_050000020309000000_000006080007000005_080000050601000904_010500000203000608_070001030008000000_030605090102000400_090004060000030000,
  0x000001000508000002_080000000001040000_050400000007000008_000000050309020000_000000000004090000_090800000000050703_000000000000030000_040000000000080100_000302000100000000,
  0x070504030800020009_020009040000070108_000108000002050403_010603050400090000_000907020103040806_000802060900000000_080406070000000900_000001000200000300_000200010000000704,
  0x000700000001020000_000800000000090705_000205090000000000_000006030000050007_000008000907000006_070900010000000003_000400070000030000_000300050000000409_090601000000070500,
  0x030900000502010004_040208070001000300_000605000000070002_000100020006030009_060000000405000007_000002030709000106_020000000107050900_050700090208000000_090000000304020700,
  0x000005010600070403_090006030000020005_000000000200000001_000600020300080000_000200040900000306_000000000000000700_080000000500000200_000400070802000109_070500000400030000,
  0x090008000400000100_000007000002000608_000604050001070000_000500000000020709_070800020000060005_000900060007000001_000000090003000007_080700000600000000_000209000708000500,
  0x070005000000000000_000000050400000108_000000000107000000_000600090201080307_030001080006000402_080200040000000006_090003000605000000_000008000900030005_020006000000040009,
  0x000400060000000005_000503000001000400_080200000400070003_000005040100080007_000008000900040602_000004080203090501_070801030600050204_000009070502000800_050002000000000700,
  0x000002030007060005_000006000000030908_000400000600010000_020601070300000000_080000060200000007_040700050900000000_000000040000000800_000200000000000604_000004000000000000,
  0x000900060005080000_050301000400070609_060807000009020000_010203000000040900_090005010002000807_070000000004000000_030706000000050400_000009000000000708_080000000006000103,
  0x000002090100000400_090400020000000000_050000000006000007_000700010604050302_020600000300040001_000300070500000000_010000030000070000_000000000001090000_000000050407000200,
  0x050000040200000009_070904060008030205_000000000007060100_000500010300000000_090007000802000601_000008000000000002_000002080006000000_000100030000000700_000805000000000400,
  0x000009000000030000_000000040007000200_000002030005070006_060400000002000000_000007000000000000_030001070600050800_010300000006040000_000000000000000708_000000000004090300,
  0x000700020000010609_010904000300000702_000205070000030800_050400000000090100_070800000000020006_020309060100070405_090508000603040000_030600050200000901_000102090807060503,
  0x050900000008040307_000000020907060805_000806050300020100_020004070803090000_030007000506080204_090608010002000003_000700080205030900_080305000609000702_060209000701050408,
  0x000304050000060700_000700000000090500_010600000000000203_070000010000000000_000000000509010006_060000000304000900_000006000700040100_000203000901070600_000000000000000800,
  0x070001020508090400_000009030004070500_000504070000000308_030900040701080000_010805060300000900_000007000800000000_090000080003000000_050003090600000000_000008000200000000,
  0x050400020100080609_000006000000000100_020801000006040703_060204000005090308_010008000209070400_070000000004050001_000609000002010007_040105090007000802_080702060501030004,
  0x000500040003000201_020003090005060000_000100000800000000_000000000007000000_000302000500070000_000007010900000008_040805060000000703_030001000000050006_070006050000000002,
  0x000301050000000800_080000030000020900_000000080001000000_030000000000000100_000802000003000700_060407000008000005_000006000307000400_040000020006090007_000000000000000306,
  0x000000000902040601_000004000506080200_000608010400050900_040209060000000000_050000000009010802_000100050203000009_000700000800000006_000802000001090000_090000000000000708,
  0x040003090000020000_000006030200080400_000001000000030006_030005000700010004_000008000400070000_000007000003000800_000002080000000903_000700000000050200_000004050000000001,
  0x000600000007000500_000000060000090008_050000000409000600_000000070000010000_000900000100000405_040100090000020703_000400080001000300_070001000000000800_080300000700000004,
  0x000605020300010009_000003000400070002_000104000700000508_000400000803020705_080001040002060903_000502090007080000_040900070000050300_000307080104000206_000000030005040000,
  0x070001000200000005_050900070100000008_000002000605040107_020100000000050000_000000000400070609_000000050000000800_000300040800000006_090204010000000003_000000000500090000,
  0x060903070408020501_000000050003040000_000400000009060003_050804060700000002_000002080005000000_070000000000080600_040108030000090000_000000090200050000_000509000800000000,
  0x000000040900010000_000500000208000700_080000050006020009_000000020500030000_000900000007080200_030700080109000006_020000090000000108_070000000802050304_000800000400090002,
  0x020000000003000006_030000000000000407_000008000900030000_000300040600080200_000200030807010004_000805020109070003_080004000000060000_060002000500000301_000903000001000000,
  0x000000000700000000_030500040008000600_060700050900000800_010900000800070002_000000000002000901_070008090000000306_000803060000000500_000000000004000708_000007000500020100,
  0x080100040700090506_000000000009020700_090000010000000000_030609050400010200_020504000107030008_070801090000000600_010000000000070305_060002080300000100_000005070901000002,
  0x090100000000000704_080000090407050200_000700000301090000_000000040008000302_060800000702040905_040203000500060807_000007000006000109_010508070903000400_000009000000070500,
  0x000005040200080706_000000000000000000_070002080500000100_000008000701000005_020501060000040907_000607000405000800_000106070008090400_090000010004070008_000700050002000600,
  0x000006000103080700_000000000000020006_080700020000000100_000500000006000403_040300000008060000_000000030001070000_000000000000030200_020000010305000007_030600080002000000,
  0x020007060000000003_000000000307000802_030600000001000000_000001000000080004_040003000208000007_080700000009000301_060000000104030700_000009000603050000_000300000002010000,
  0x000000050000090801_080005040002060700_000000000900000405_000407000609000500_060000080005030900_050809020400010007_000300090000050000_020600070501000000_090504030200070100,
  0x000901020800000000_060300090100020004_020000040307000000_000000000000000000_000800000002010600_000005060008000300_000700000004030000_080206030000000407_000400070609000008,
  0x020000090000000400_000000000001090500_000107000000000002_000200010700050006_000000000000000100_000009060500040003_030000000006000800_080600000000070009_000000070000000004,
  0x000400000800000700_000000000600040208_020008090000000100_040000000008000000_000007060500000800_080905010000030607_000300000706050900_000000050000000006_070006000900080301,
  0x050000010700060000_000003090004070000_000006020500040001_030500040201000006_000002050000010300_000408000307020009_080205000000000400_000600000005030000_000300000402050008,
  0x060901040000000700_000005000003040600_040300000000000809_080600000004000105_000403000105000200_050102070000080304_000704000000000502_010006050007000000_090000000302010007,
  0x000003090500060700_060000070308090002_090005020000030801_040600050003000009_000007040002050008_000001060809000000_080300010007040905_000000000000010306_000500030006080200,
  0x000600070200090504_090002030000010800_010005080609000000_020000000000000000_000904000800020003_070806020300000009_000009000700040205_000008000900030700_000007050103060000,
  0x010004060000020000_070006000002090004_000200000800000506_050109000600040000_000400010000030000_030002000408000000_000900000000000000_080005090000000003_000301000504000009,
  0x090602050403000001_030000000200090006_050700010906020304_020300060800000400_000800000700030605_070900030504000200_010007000002040900_080209040300060007_060403090107050800,
  0x000009000001000800_010005000004090000_000806000000000204_090000010500000000_000701090002080000_000003040000060900_000000000007050409_050004000300070008_000107050009000000,
  0x050002010000000400_000804050900000000_030000070008050000_000000000100000002_020005060004000000_090106000005030004_000000000000020000_000000000500070100_080000000001040605,
  0x000809000000010000_000407080000000009_060000000000040800_000706010005000900_080500040300070006_000000060002030000_000108000900050003_040600050108090700_000205070003080600,
  0x000005080003000600_000001000000020403_070300000100050800_010000060004000000_000700000501060302_020609000708000500_080100000600030000_000900000302000104_000000000005090200,
  0x000705000000000104_000304080102000500_000200000000000008_000000000000000807_000000000005000206_000000070600090000_090006000000000000_000000010008060000_000108050006000302,
  0x000700090803000000_000100050700000300_000908020601050407_090001000402000700_000003080005010000_000800010300000009_010000030009070805_000200000100000906_080009070500040102,
  0x010900000000050603_060207050008010900_030400000100000702_050600070903040200_020309000005070000_080700010000090305_040100000706030500_070000090204000800_000800000501020400,
  0x010900060800020000_000503000100000006_080006040309070000_000801030900050000_000600000700000100_030000050001000000_000100000508000703_000309000002080600_000008070600010000,
  0x050000000102000000_000103000007000500_090700000005080001_000200040000000000_000000060500000000_000000000008000900_070000000804060100_060000070000000000_080001000006070402,
  0x000000020501090604_000109000000080005_060000000000010700_050006040000000800_000300000005040000_010000090806050000_000401000708060000_070600000409000000_090500000000000000,
  0x080100000200030006_060007090000000002_030000070000000001_040005080000000309_020001060904000000_000600030007000000_070000010003000008_000806000009000400_000003050008090600,
  0x090805020307010004_070000000100050000_000000050000070302_030000070001090006_050900030600080407_080700090000030201_000000080200060700_000000010503020900_000500000000000100,
  0x000100070803060004_060004020500010807_000000010600030205_000609050400000000_050000000006080401_010007080002050009_090001030000000506_000500000908000000_000000060000090000,
  0x000007060000000300_060000000003070002_000203000005000100_000000090206000005_020000000000060000_000906000500020800_030700000009080200_000000010000000000_080001000000050004,
  0x010008000000050003_030405020000010600_060709000005000400_000004000000000100_000106070003080002_080302090000040507_090800000104000205_040003000702000800_000001000009070000,
  0x000007050100000000_030000000000000002_000900080003000000_000408000000000006_000009000006000704_000000000300090000_080100030005000409_090000000200050000_000503000908010000,
  0x090500000000020800_080607050009000000_000002000807050600_020100070508000000_000806000904000000_000000030001000208_000908000702000400_060400090100000002_000200000005000900,
  0x020009000008000001_030700000200000000_000000090500000000_050200080004010900_000900060100000308_000003000000000200_090000040600070005_000500000800000103_080000000000000000,
  0x000503090700040002_000201000008030000_060000020004010805_000006000000050200_000000030100000706_000002000800090400_000008010205070300_000104000607000000_000005040003000000,
  0x000800000007020001_000000000000050706_000000000500000809_000405000109070008_000008040200000105_060300050008090200_070000000305000000_080200070000000500_010500000802000600,
  0x090001000004000700_040600000000080903_030700000908000401_000400030002050806_020008090700000004_060003040000000000_000000020000090600_050000070409030100_010000000003040000,
  0x050004000002000300_000000050300070900_000003000000000000_000102030508000607_000805070006000102_040607000000000003_080000060004030000_020000000800000001_000309020000000400,
  0x000009000200010000_070000010000000002_030100000605090800_000300000100000209_000704000802030000_090000000000070108_020001030009050604_060000000400000003_000900000506080001,
  0x000907040000000500_040508030000010006_030000000500000800_080305020904070001_020000000307050408_000000000008000300_000201000006030700_000800090005060200_050006000000000100,
  0x000000050000000004_070500000400000009_020000010800000006_000008030705000201_030000000100040007_000900020000030005_000000070001000003_000001080000000002_060002000000000908,
  0x000000000708060004_000006000009000002_040209000300070800_000400030007000000_000005000600000000_090600050000000000_000900000400000001_000000080000000307_070002000006000000,
  0x040800010200060305_070000090400020008_000501080300070400_050000000908010700_000908000603000004_060007050100080003_030100060700000002_000600020800000507_000702000509040000,
  0x000000090005010006_010009040300050702_070000000000000000_000003000008070901_050000000009000200_000007020000080005_000400000800000009_000002000900030500_090005000600040008,
  0x000800030000020600_090207040608000305_050600000200000809_070305080006090200_080901000304070006_000006090705080103_040009060803050702_000500070402060901_000000050901030408,
  0x060800000200050400_000000080000000007_000900000304000200_000700000000060000_000108050000000000_000000020900000000_000000060100090000_010003090000070605_090004000700000800,
  0x000009020004000000_050200090608000300_000406000701020500_000700000109000002_000800070406050900_000500080203000000_000900010307080000_070301000800090005_000008040905000001,
  0x060000000409080300_040501000000000900_090003000001050604_070000020003000000_020900010000000800_030100090000000407_000009000300000108_000006000002000000_080400000005090000,
  0x090000080103000500_000003070600080409_050000000900000000_080700000306000205_060305090800000100_040900000007000006_000800000409000003_000500000001020008_000100000000050000,
  0x030000000005070200_000907020004080000_020500030708000001_000000060500000400_000003080001000009_050800040009000100_070300000902040000_080000010400050000_060005000003000002,
  0x090002050000000306_000000000000000200_000000000002010700_080006000000000100_010000060005000402_040000000901000607_000000040508070000_000809000103000500_050000000006000801,
  0x030008060005020004_000400000001070600_000701020400000005_040003070000050201_090500000102000300_000102000500040906_000000090607010000_050000010000000702_010607000000000400,
  0x000004000005000000_000600000307050400_000000000200000100_000900000602000800_010006000900000000_000200000000010600_000009070003000008_060002000001000300_040000000506090701,
  0x000002000506090000_090000070008020000_060000000903000104_040000000005000001_000003000800000007_000905030000000400_030000000000000002_000004000007010000_000000000002070300,
  0x000500000000000000_080100000203040000_000403050001020000_000000020000000008_040600070308000000_030000000000060200_010000060000000409_000209000004000300_000000000900000100,
  0x000108000900000006_000003080000040000_070900000400000200_000004000506010002_000602030000090700_000307000200000605_000000010802000403_000005000300000007_000200000005000000,
  0x000000010000000800_090005000800000002_080007060004090500_020804050000000006_070600000008040000_000000000900000200_000000000107000004_000001000000000000_040000000000000709,
  0x000001040000090000_030004000500000200_000605070002000304_000000050000070000_000000060208040009_000506000100000000_000408000000020107_000000000700080006_010000000006050000,
  0x030001090208040007_040600000005000009_090700000004020001_080100020003050006_000000010800000200_000403000000000700_060000000000070005_000000000709000000_000304000001090002,
  0x000000050203070906_000000000000000001_000000000900080403_090305000007060800_070000000009050004_000004080500000300_000000000005000008_060507040000030009_080009020000010705,
  0x000004000009070308_000706000103000000_000005000000000000_000000090000000502_010000000506080000_050608070004010003_070503000900000000_040800000000090600_060901040002000000,
  0x080000060200070401_000000010008020006_060100070403000500_000009030006000204_000000040000060005_010400020800090000_040201090307050600_090700080000030100_030608050002040907,
  0x000900000107000200_000000000500010009_000001030009000807_000006000304080000_000200090001000005_050000070000090000_000800000705000900_000000060400000008_070400000900030006,
  0x040200000807090006_080006030205000401_000105040600020008_000000060000000200_060000000000040005_000008000900030607_000000000300060000_030800070000000004_000607020004010803,
  0x000904000306000000_000502000900000706_000000000008090000_000000000701000302_050200000000040000_000001020000060007_000406000102000000_090005060000020003_020008000000010609,
  0x000300000000070201_080000000000000006_020104070000000500_050001030000000009_000008000000000005_000600050107000400_000000000006000807_000805010009000000_000006000708050900,
  0x000600000000000000_090000060100000000_000407000000080200_050700000003020000_000000000009050800_080000000400000107_070208090000000000_000500000001000408_000900000300000000,
  0x000009000004060000_040000000000010809_070800090100000400_020000070506000004_000400020309050100_000003000801000002_090001030407000200_000002000000040507_080704050602090301,
  0x000000000100070500_070005020000080000_080900050000000300_000600000800000407_050700040009010008_000108000007050906_000000060002000700_060307000401020005_020500000300000104,
  0x000600030109040008_010908050400000203_000003020700090106_060309080504010702_000800070200000309_020100000900080400_080501000307020604_030706040802050001_090200000005000800,
  0x000300040600080005_000000000300000206_000800000000030901_090700000003060500_000600090205000400_000005000006090008_070000000000000103_000908050000070000_000000030704000000,
  0x000807000306000004_060000090800000000_050000070204000000_020008040701030500_000506000003000100_070100000500000000_030700050000060000_010004000600000005_080600030000000900,
  0x060400000000070501_000700000000000800_000009050000060200_070803000000090002_000004000600080100_000106020000000305_000000070004000000_000907000300050400_040600090002000000,
  0x000201060000070008_000000000000000904_090000030800010000_070004000200000000_010005000400080000_000002000003000407_060008000300000000_020109000000030500_030000090000000800,
  0x070306010000000200_010400050000080000_020000090306000400_000003060008070000_090008000003000004_060700040000000005_050902080600000003_000607030000020500_030100000000000608,
  0x000300090000000100_000200070403050009_040509080106030207_070000000900020503_030602000800010904_090400020301070608_050703000600090402_010900040700080305_020800030509060701,
  0x000000000000090100_000009040000000302_060300000000000005_000000000900020700_040900000200000001_000005010706000400_000000060000000007_080006000507040000_070002000000000506,
  0x020400080907060300_010000000406000000_060000000300000402_000000090200000000_090000050108070000_040801000000000009_080000070000000100_030100000800000907_000000030600000000,
  0x000000000008000600_000000020000080307_000807040006000001_050100000000040700_000000000000000009_090400060000000102_000000000207000000_000001080609000000_070602010504030008,
  0x000702000500080100_000000020900040507_050104030800000000_060007010008000405_000300000406010002_000201070300090600_070800000000020904_000400080000050000_020000000600000801,
  0x000603000504000100_000007000601000403_000000000003000002_070000000300010006_090300060000000704_000001000005000008_040506000000030907_010009030406000800_030000050900000000,
  0x000800000700010300_090700010000020408_000401020000070600_000200000009000701_010000000205030800_080500000006090000_000000060001040500_000000050000060903_000600000300080000,
  0x050004000600080000_070000000009030000_060000000000000400_000000090207060003_000000000500000000_000000000103000004_000009010700000005_080100000000000007_030000000400010908,
  0x000000070001000200_090702000003080006_010004000800090000_040007000009060800_000900000002000700_020006000004000901_000001090608000300_080003010005000000_050600030200000000,
  0x040000000601090002_000005000402070608_000207000000000000_000000000200030800_050008000000040207_030002000800000106_080300000005000001_020009000003060400_000006000000000703,
  0x000000000004000603_000000070600000509_000000000000020000_000000000009000400_000100000405000207_000000000307010800_000005000003040900_020308040000000000_000007000200000300,
  0x000900000204080703_000708050603020000_040002070000050000_000003000706000000_020007000000000609_000006000009040200_000009000100000302_000601090802000405_050004000300090001,
  0x000100000506070200_000206010000000900_000300000200040001_050003000400010800_080600020000030007_000407000800000500_010000080000000004_000704050002000009_000800000600020000,
  0x000003000800020000_000700000609000000_000804030702000509_030905070400000201_000608000003070000_040007090006000005_000000060001050703_000000000000040006_070006080000090000,
  0x000000020300000700_020307080000000006_040005000007000000_030000000002000400_050001030800000007_000002000500010803_000604000000000000_000500070600040900_000209000008000000,
  0x000001000006000000_000309050100020000_000008000700010009_000000060400090700_040000090801000006_080900070203040500_020700000309000004_000603000004000902_090000020007000100,
  0x000005000701030000_000109000805000706_070200030000000000_000000000600090304_000300000207000001_080601090300070500_000907040502000800_020000080906000007_060008070100000905,
  0x070900000000000000_000508030407010000_000100000802050000_000407080000090102_000800000500030000_000000000209000504_080009050003070001_010700020008000000_060005010000020809,
  0x020601000400000700_000500000200000000_000700000006080201_000103070800060004_090800060000010002_040006090005070008_070000000001000000_010300020009000607_000402030708000009,
  0x000607040002030905_030008070000060000_020000000000000001_000203050000000000_000000000001000007_060501000708000300_050102080307090406_080006020400010500_040000000000020700,
  0x080000000200050000_060000000009000100_090000070006080003_020300090000000000_000000010000000000_050001060003000800_000805000000090300_000000000900010002_000002000000070008,
  0x070002000000000000_000000000900070000_080000000203000500_050000020009000000_010204030007000008_000000000005000100_000600010000000000_000000060000000702_000008000700000305,
  0x080603050900040200_000000000400000003_000000020803000000_000900060005030000_000001070200000409_070000090004050100_000100080000000300_000008030001000005_050009000600010807,
  0x000300010900000408_020809070005030000_010006000000000000_080000040001000009_090200000000000600_050000000000080300_000008000700060000_000007000000000002_060000030000050700,
  0x020506000000030000_000809000000000000_070300000204090005_050903070406000102_080000010000040000_000100000800050700_090400080007010000_010008030905020000_000000040102070000,
  0x000509010006070000_060802000400090100_000003050200080004_000000000000050006_000401020600000000_000605000700010000_000007060002000009_050106000004020800_020004070000060000,
  0x020000060001000305_000105000003060800_060000000004090000_000206080000000704_080000000000000000_090004070106030008_070008000605000403_050600030007000001_010000090000000500,
  0x000807060000050000_000001040000000900_000000000000000007_030008070604010000_000000000008030400_000409000501000702_000002000100070600_000000000000000108_010000000400090305,
  0x000900040001060000_030000000708040000_020000000605000000_040009000007030200_000000050403080000_000001000002000000_000002000006000000_000000020009000400_000500070004000800,
  0x000600000207010408_000100040000000903_000203090800000005_010402080703090006_000300000002000701_050009000000030002_000004020108060300_000006000000000000_030000000004080000,
  0x000000000000090000_030008090002050001_000700030005000600_020800010607000500_010300000009000007_070509000000010000_060005070301000208_000103000200070905_000207000008000100,
  0x080000000000000600_020600080000040003_090000060203050807_000000000000060001_000900020306080000_000206000408090300_000000000800000400_000008030900000006_000702000600030900,
  0x000003000700000001_000000000009030806_000602000800040000_060000000000000300_000007090100060400_050300080400070000_010509000302000600_000000000908000003_000208000000000709,
  0x020003000800000904_040708000900000100_000000000600000000_090006000704000500_000007000500060402_010000060208070309_000500070009000000_000800020000000000_030904000000000700,
  0x000000000005000000_020907000000000600_000500040000000000_000103000800020000_070000030000000500_080400070900000000_000000060709010002_010000000000070005_000000000501030400,
  0x000709060000000003_040103080500000900_050000000902010407_080000000600000000_000300000205000700_000200000008030004_000605000304080209_000002050800040301_000000020109000005,
  0x000008000006030900_010406050009020800_030000080207040100_060700000001050400_040000000905070301_090500070403000000_080100000002090500_000000000004000002_020604090008000700,
  0x070000000803020009_030809050602000400_000200000001000800_000300010005090207_010002080007040600_000005020900000000_000001000504000000_000000030009060104_090000000000050702,
  0x010804070000090300_060502000000040701_000000040106000000_000208090007010005_090005020600000400_000003000401020008_050000060809030000_080900000502060004_000306000704000509,
  0x000701000600000508_080206010500040703_040009000700000000_090304080100000200_010000000000000407_020800000006000000_000000040802070900_060002070000000000_000008000001050302,
  0x000102000400000600_000500000702010903_080000000106000400_000209040008030105_050001070009000006_030000020000000000_000000060200000308_060005000007040209_020807030904000000,
  0x000900080000030000_030000040705080000_070800090200000400_080304050102000700_050000000800000000_000000070009000000_000000020007000004_000103000500000900_000407000900000000,
  0x000102060307000408_090803000000000000_040007000900000000_000000000000030004_030008000209000106_000506000800000000_000001030002000000_070200080100000900_000304000005060000,
  0x000200040106070903_090000080507040602_070406020300010500_020600010000000700_000300060005000104_010507090000000800_030002000000060400_000801000200000009_040000000001000207,
  0x000000000309040106_090100070000000308_000000060200000700_060000020008070403_080000000007000001_070000000100000000_000004050000010200_000000000002000005_020705010003000900,
  0x040302050000060800_000009000301000002_000500000008000003_000900030007000006_030000090000020000_010000020005000300_060008070000000205_000703010502000000_000200080603090100,
  0x000400000609000008_030005000008000000_000001000500070009_050600080900000001_000209040000030605_070000050300000800_000300000000010907_000000090704000203_000702030000060500,
  0x040008070000000905_000700020509040800_050000010008000300_000000000700000000_030002000605090700_070009000102060000_080004000001070000_000007060800000000_090000000000000004,
  0x000000000002000405_000000010906080002_000200000000000001_000002000009010006_090300000000040700_000400070608000000_000000080007000000_040500060100000807_080100000005030604,
  0x000500040000000307_000000000509040000_040003000807050109_000206000000070901_000900070105060802_000700000200030005_000000050004000200_000800000302000704_020409000008010003,
  0x020000000309000500_070600000001000000_000001080602000900_000900000000030107_000003000000050000_050000030100000200_000000000204000300_000000000708000000_080002050003060701,
  0x020009000600010000_000000070004000900_080007090500000200_070003000900000001_000900060008020500_050000000007000000_000000000702000600_000701000406050800_000300000009000000,
  0x000005000000000300_000609000003000000_000002000501070000_000900000004000500_000000080300060000_000400050006020700_050800000600030000_060000030905000000_000000000002050000,
  0x000000000900000102_010004000205000006_000603000701080000_040208000500030007_060007000403000508_030000000000010000_090302050800000700_080000000002050400_000006000000000800,
  0x050000000309020006_020907050006030801_000006000000000900_000603000705080004_080205040000000709_000704020908000603_000001090800060302_030000060500090000_000800030201040500,
  0x020409000000060000_010700020900000000_000000000600000402_070300000001000006_050800060409070000_060900070800000500_090200000006000004_000607090300010000_080000040705000000,
  0x050000000002000608_030600000508000704_080004000706000000_060000070000080400_040903020000060007_070800050000090301_000006000000040803_000008000100000905_000305080400010006,
  0x060002000400030500_080004060900000100_000300000000060400_000600000005000300_020003080600010005_040000020001000900_000000050000070000_050006040007000203_090407000006050000,
  0x080200010405090600_070509000003000100_000400070908020305_060007000000030004_030002040107000906_050000030000000801_000000080306000000_090601020004000703_000300090000060502,
  0x010000000005070009_000000030700000100_040000010006000203_000006000400030500_000400000000000006_070000050000040000_000000070000000602_000700020003080000_020005000004000000,
  0x080604000107000003_010900000000000007_020000000408010506_030009000806000205_070806030205000104_000400000000030000_000300060500000000_060201000000000000_040000080902000300,
  0x000007040001000002_020008000000040000_000900080000000607_040700000008000000_000006090107000800_000501060400000000_070002000004000300_000000000000020708_060800000000010000,
  0x000009070601000800_030000020804000905_040006030509000000_000900000005000000_060200000703080001_000108000200090000_000300000900050200_080000000002070000_090602000000000000,
  0x030800060007000005_000400000809010702_070009000504080600_010708000003000900_020600090700030500_050003040008060000_000200000905040006_040000000000070000_000007000406000001,
  0x070000050001040002_000300060204090700_040200000807060305_060502000000000900_080100000009000006_000700000000000108_020809010000070600_000007080000000500_000405000006000009,
  0x010304000800000906_080500040000000301_090700000000000004_030100000400020709_000205010000030000_000907000200010600_070003000005000800_000409000308000000_000800000004000003,
  0x010500020000080300_000900000003060700_000003000900000000_060700000200000000_000304070109020506_020100000608070900_000201000007090000_000000000000040800_000000060301050200,
  0x000000080700000900_020907040003080006_000000090000070000_080200070400000001_070104000008000000_060000000002040000_000006020000050008_090002000807000100_030801000000000700,
  0x000000000301050800_000009000000000004_030106000000020907_000001020803040000_000000000500070008_000002060004030501_000304000000090100_090708000000000000_010605040002000003,
  0x060900000000000800_070400060008000502_020300010507000409_000800030201000000_010000000700050300_090700000604020100_040100000800070200_000207000006000005_000000070302000001,
  0x080900010604000000_010500000308090200_000003000009000000_000800000200050903_090100080700000002_000306090005080000_000008000100020009_030701000900040000_000200040800000500,
  0x000000000104020003_010803000702000500_020009000600010000_060004000900000000_030201000000070600_070000000000050000_090300000007000001_000000000400060700_000006000208000305,
  0x000605010000070000_070300000200050901_090002000007000608_000904000000030507_000807000000000009_010000070900060000_000500040608000703_030709000500000400_000006090000020100,
  0x070608020000010900_000000080009000506_090500000000030000_000006000807000000_000000030900080000_000809000604050200_000001000200060700_000400000008020005_000203000500040109,
  0x000609000100020400_020805090000070100_000001000003000609_000300060000080000_000000030000040700_050000010702090300_000000080307000904_070104050906030000_080003040000060500,
  0x000608000000000000_000400000000060902_000902010006070000_000007090001020400_060000070800090500_090800000504030607_080000000002010305_000105000000000200_000009080105000706,
  0x050800060400000107_060209000800040503_040000030000020600_000402000706010300_070506000003000000_010000040005070006_000000000608030009_080900010000060204_000000020004000000,
  0x050000000006090000_070600090000000803_000000000800010006_030000000000040005_000005000000000100_090006000500000708_010907040000080002_040500080709000000_000003010205070004,
  0x000000000107000003_000000050300010806_040000000000050702_000003010902000000_000005000800000209_000009000000000001_030002000009000000_090100000006000004_070000030201000508,
  0x010005030800000002_070000000000010800_000009000600000507_000000020000000000_090700000300000000_030200070000080400_040507060201090008_080001000700000206_000000000908040700,
  0x010000000007000002_040000010905070600_000500000000000800_080000000400000300_000000070000000100_020000060108090004_030007040000050908_000800000700000200_000100000003000400,
  0x000609000000020400_010305040000000600_040002060700000900_030008000400060000_000000000508000000_050400000009010300_000003050007090800_080501090304000206_000000000000030005,
  0x000000000009060000_020600000000000907_000905000002000000_000008000304000000_000300020001000009_050006080007000001_000807000200000400_000009000500070003_010500000400000000,
  0x080502000609000000_030004020000000006_000600040500000000_020001080005060709_070908000206000105_000000090107020000_090103000700050204_050006000000000900_000007050902030000,
  0x010903000006040500_070205080403000100_080406010900020703_050007060100080000_020000000009000306_040600000308000000_060000030800000001_000001090004070600_000004020600030805,
  0x000000000000000000_000704000000010902_000000000200080000_070002010905040006_000009080000000000_010400070602090000_040007000000030000_000006000500070800_090000020700000405,
  0x000700000002000001_020000000900000003_000009000008000004_040003000000060000_080000000000000005_000006050400000308_000000000201000000_090200000600010407_000800000500030902]
theorem mixed_32_ok : mixed_32.all fastOK = true := chunkOK_sound _ (by decide +kernel)

/-- `mixed` (10000_mixed_puzzles.npy), boards 8250..8499 -/
def mixed_33 : List Nat := [
  0x040000000500060000_080001000006000000_000600010907050000_050006000003000008_070203000400010000_000408000005000600_000800000209040700_000300050804000002_000004000001000000,
  0x060007030000050000_020000050900000006_000000000000070800_040600080300000000_010005000006080900_000800000104000000_000004060002000100_000206000800040507_080000000009060003,
  0x030000000005000000_000607000200000300_040802000000000000_000000030001000200_000000000900000806_060000080002000500_010000000000090000_080200090000050003_000003070006000002,
  0x090408000007000601_000000050900020708_020000000600000400_000002000000000900_040000000000000500_000006000100000000_000201060008090000_000500090003000100_000600000002000007,
  0x000000080002000100_000000030009000008_000102070406050300_000003020000060000_070005090004000200_000609000000000004_000006000800010000_000700040000000000_000301000000000002,
  0x000409000005000000_000100030000000002_030002060000000400_000301000000000000_000006090000000008_000008000104000703_070905000001000006_000000050006000000_010600000302000509,
  0x000000090406010200_000000080300000000_090500000000030600_000000030800000500_000403050900020800_010005000002090003_000001000008070000_000000040509000000_040600070103000900,
  0x000006030501090008_000800000902000601_000005000000000000_040000000005080103_080502000400070000_000103070000040000_000300000008000007_000604090007000802_070208000004010000,
  0x000306070900000100_070000040203000000_040900050001000003_020704000100000005_090000000704020801_010000000000070000_000405010807030000_000109030002050000_000200090000000400,
  0x050904000803000100_070000040102000500_010300090000000406_030200010004060700_040100000607000200_000005000200000300_000001000000000907_090000020400050803_000503000900040601,
  0x030004090008070200_020608050703000100_070000000602030800_000803070009000502_000405000006000000_000002030800010409_080100000000000603_000006080004020700_040000000300050908,
  0x040200000000000300_000107050200000604_090508030004070002_000800090700000406_000005000400000900_070904000000010000_000000000000020000_000002040003000001_080000010000040009,
  0x000900010000020406_000100020003090700_000005000000010800_000800000000050007_050000060208040001_000604000000000000_010008030007000002_070502040106080309_060309000000070000,
  0x000000070000000000_000705010000020000_030000000005000006_000100000000000000_000000000702050001_000607080004000003_060908000000030400_000302090600010005_000001000800000002,
  0x070906000005030008_080300000000020000_000005000003090407_050100070002000003_000400000000000000_000600030000000000_000001050000000800_060000000307000005_040009080000070302,
  0x000000000902010804_090500000000000000_000000000603000009_000000060004000001_030008090105000000_000104000800090000_000003080000000900_000000000006040000_000700000409000005,
  0x080005000000000700_060700080000090004_010000000400020000_040006090103000000_000801000200000300_090000000000000005_000000010002000000_000908040000010002_000000000000000007,
  0x060003000509000004_080000030400010500_000009080700000000_030005010000020007_040701090000080005_000906000007000001_000000040100000206_000002000005040000_090600070008050103,
  0x080006040001000005_090000000002030000_000700060800040900_060005000100090200_000000020600000103_010203090000060507_000008000000070409_040000080009010000_000000000700050800,
  0x000700090803010000_000004050702000903_050903060400000800_090400000200000000_070001040300000509_020000000900000608_040500000009000006_010009000000050000_000608020004090100,
  0x000000000008000000_000809050000010007_000000010407000806_000200040000000000_090100020500060000_050600000800030000_020000000001000503_000000000604070102_000001000200000000,
  0x060804000100000500_000009080500000000_000700060400010300_000000000201000000_020900030000070104_010400050000000003_080200000005060007_040500000800000000_000306000000000205,
  0x010008000307060000_000700080000050000_000400090100000800_000300000800000200_000605070902080001_090802000601040700_000904060703000000_000006010408000007_000000020000030600,
  0x000300020005080100_060801040309000700_000400000100000003_000200000000000908_040905060002010300_080700000000020500_000007030900060001_030000010508070000_000008070006030405,
  0x000100000208000903_030205070009060001_080904000600000502_020000000301000704_040701080502030000_050603040900020100_070002090006010405_090500000004080307_010000000705000000,
  0x000703000000090000_010205000000000703_000000000000050401_090000000000040005_000008000400000000_000007050801000900_000004000300000200_000002000700000500_000100040502000309,
  0x080400090605020703_030900000000000000_000006010003080009_090007000008000402_040208000006000005_060500040200000100_010002000804090007_000004020001000806_050009000307040201,
  0x000005000409000000_000300010000000904_090804000005010703_040600020100000007_000001050706040802_050000080900000001_000400000600020000_000000090300000408_000003000008070009,
  0x090000000201040600_000000000000000000_060800000003000000_080700000409060005_000009000008000002_030004060105000009_000000010300070006_000105000006030004_070300050000000108,
  0x000501030000000206_000000050206000000_060002000001000000_080106000900050307_020400000000090008_000000010008000604_040700080100060900_010000000300000502_030000070000000000,
  0x000308000700060400_000900000006000107_070000000103090805_000103060000070900_060700000000010500_000009070000000306_090000010008040000_000800040600050000_050400000902080600,
  0x000400000207060000_010006000008020409_030208000009010705_000801050002040306_040600090100000207_020000000800050901_070103020604090508_000002000001030604_000900080000070002,
  0x000009070006040200_050004010002090806_000602040900070000_090003000701050002_000000060000000100_000000000200000004_030000050000000907_000005000000010400_040007020809060005,
  0x020304050000010708_050708020000000009_000600040007000000_000000070000050000_000007000300020800_030000080000090400_000003000000000201_040001000002080000_000006000000070004,
  0x060207080000000009_000000070900060003_090304060200000000_000000000002000401_000000000000090005_040809000000020306_010403000506000000_070000040009000000_000002000800000004,
  0x000008040900000007_000000080100000003_000900020507080604_040300000800000005_010509000000000008_000800050300000400_090200070008000300_080100000209040700_060000000005090802,
  0x040100030907020506_090702000106000308_000005000800000009_070004000001060903_050306040009000801_000800060000000000_080003000000090102_020500000000000007_060007000000000405,
  0x000000000408020006_040006010200070500_000200000603000804_060000000500000308_000500020900000407_000000080306000100_000001000005000209_000007030002000001_000600090104080700,
  0x000907000400000000_010208070006040309_000305000908000607_000000000000090200_000000000000070100_090002000007060005_000600040701050802_020500000000010000_080000020605030900,
  0x000000000004000500_090400000800020000_000000050602090300_010803020906070405_000709000500000102_020004000000060008_040000000200050003_000200000005000809_000000060100000207,
  0x010400080000090600_080200000000000300_000006040000000800_060004000803070001_090007000406000008_000000000107000906_030009000700000000_000601030200000009_000702000004000000,
  0x000000090000050403_030600000008000000_000507000300000000_040006000000030009_000900030005060800_000302000000000000_060700020000000000_000100000500090000_020000000006000300,
  0x080701000000030400_000900000400000000_060000000901000200_000100020004050903_000305000000000600_090000000003040700_000007000305020006_000000040207090005_000209000000000300,
  0x000000060200040807_000700080300090201_000804010000060300_040009000000080006_000000000007050003_070000050008000002_090000000800000500_080300040000020609_050406000900030000,
  0x090000070500000000_020005080000030009_010700000000000600_000500040000000000_040800090000060501_000100000000000904_080000060007090005_000006000403080207_000000050008000106,
  0x000008050007000000_060000000100000004_020100060003000008_000000020000000100_000903000508070200_000700000009000000_000406000200000301_000000000801000007_000000070006000009,
  0x000500020001040607_000400000906000100_010600030000000000_000000070600000204_000000090402000300_040200000103060700_020800060009000403_060900000308000000_050100040000000800,
  0x000000000000050600_000000000000000000_020305000009070000_040006050003000000_070002000000000000_000000000708040006_050000030900060800_000103000007090405_060000040800000007,
  0x000300080000010900_000000000009000703_000201000003000500_020900000000070000_000100000705090402_000607000000000800_000000000000080300_000009020008000100_010006000000000207,
  0x050000010803060700_000007060005030008_030608000000050109_040000000000080000_070503090000000402_080200000501000300_020000070109040603_090301050406020000_060000000302000001,
  0x070800050003060900_000000000006070005_060200040000030001_000400060502000000_020006000000090000_030008000009050600_000700000100040000_000304090600000000_000000030004010500,
  0x000609020800040300_000407060300080009_080003000700000201_000806000200000005_000004000900000002_000002000006000100_000200080009000000_030005000600000000_000000000103000906,
  0x000203090100000000_000008050602030000_090400000000000000_000000000206040008_000000030001090700_000002000908000306_040100060000000003_050800020003000100_000006000000080005,
  0x000100060000000703_040900000700000000_000008000005040100_000002000608000000_000009000007000300_000000030109000208_000000040006000901_060001070003020004_000200000500030600,
  0x080300000709000002_000001080400000500_000006000000070900_000000020000000000_000800010005020609_060100000000000307_010000000903060800_030000050008040701_050008040000090200,
  0x000008000107000004_090702000004030105_000401090300070000_000000020003000000_000500000000000000_000009000001050000_080200000009000500_070000030000090000_000906040200000008,
  0x080006000000040007_090000010006000000_000000000907060001_010009000000000300_070300090200000604_060408000100000002_000002000400070105_000007060500030200_000000030002000006,
  0x050302090004000000_090107080000000000_000608000005000200_030000020801050009_000905040007060108_000401060009030002_070009030102080604_010800000006000000_060000070408000900,
  0x030002000009060401_000008060401030005_040100000302090807_060409000000070002_050801000200040003_020300010900000600_010205090600000700_000003040007000509_000700000805010306,
  0x000407060301000509_000000000000000000_050600080000000304_020805000106030007_000006050000080000_070900020800000100_000500000000000700_000000070000000203_030709000004000600,
  0x040000000308000000_030008050006000200_050000020004070000_000400000000000009_010000000407050602_080006010509000400_000100090705060008_060007030000000000_090803000600000000,
  0x090102080403000000_000603070005000109_000000060900000203_000000000000070904_000807010500000602_000309000700000800_000000000008000007_050700090302000401_010004000607020008,
  0x000008030006000700_000002000804000009_000000000709010000_000301070900000406_040006080500000003_020809060403050107_080205090000000600_000000040000030005_000900010005070002,
  0x000001030000000600_050607010208000000_000000050600080701_070006000003000200_000009060402070000_000804070105000000_000705080006000109_060908000500000300_010302040907000005,
  0x000006030000050900_020009060001000807_000800000905010006_000600050002040000_070401090300000005_080000000100000000_000908070500000301_000000000200080000_000300000000000004,
  0x040000000500020000_000105000002070800_000608070000000000_000000050000000001_000003010000080000_080400000203000607_000007060009030400_060800030700000005_000300000000060008,
  0x000000070409000500_000000000001000000_070409050000010002_090000020000050608_010003080500090004_020000000900000100_000005040802030700_000001090706020800_000200010300060000,
  0x010000090000000005_000609020007080401_000005000104000007_050004060000000000_060903080700040102_000802000409000006_040706050001000900_090508040602010703_020301000900060504,
  0x020000000000000000_040001030805090000_000705000900000006_000803050002060000_050006000000000000_000000000109000008_000900040007000102_060007000000080400_010200080003000000,
  0x000502000000060809_010006020900000700_000300060807000102_000000000004000008_000908000000000005_000400090000000301_000200000300010400_090000010500000000_080100000400090500,
  0x000001000604000008_000004000000070200_060005070000010000_020000090500060004_040700060000000900_090500000008000007_000800050306040700_000000020000080000_030402080001000009,
  0x000000000300070000_070000000004090000_000200070005000804_000007000000000000_000000010800020700_000300050007060400_050600000000000000_030000040901080005_080000020500000900,
  0x000103000009020000_000009030000000000_040500000100000603_000800070000050302_000304050006000807_000705080001000906_030400000705000200_070000000000030500_000000040000070008,
  0x040102000605090308_000700000000000104_050903000004070602_030000020000010006_000001000408020003_000007000001000000_020005000700000009_010000040500060000_000000000002030001,
  0x000409000500070306_000600040903010008_080301000607000900_010000030209060405_090500000006080102_060004000108030009_050900000802040600_040106000305020007_030002060704090500,
  0x000605030801090400_090400000007080006_080003090600000000_000007000000050209_060100000005040003_040509080000060001_000300060008000000_070000050203000600_000200040700030500,
  0x000600010000000000_000000000304020000_000000000008000000_060009000200040008_000108000500000007_050700080000010200_080507000000030000_000400000000000000_030001050407000009,
  0x000004030800000006_030200000500090000_000000000009000003_090005080002060300_000000060000000500_000806050003000702_000000000000000000_000100070000040000_020008000005030000,
  0x060000000002010003_020804090100000007_000301050608000002_010002000400000008_080407010000090006_030509000000000100_090000060301070405_000003000904000001_040006080500030000,
  0x000600080300070002_000500000002000600_000002060000000100_070100050006020300_000200000400000001_030009010008000500_000004000809050000_020800000000000000_000000020600000400,
  0x080007020000040100_000000000000000700_010000040807000205_000500000009010000_000000000306020000_030006000200050000_060200070008000001_000100000002090500_050000090000000002,
  0x000000000200050700_000006000007090000_040000060509000008_000209010008000500_000805000604000900_000004000005000000_000000050006010000_010000090000000800_000000000801000004,
  0x000805070000010409_000007030108050602_010000040000000000_040000020301000008_000201050009000004_070500000004000000_000308000407000206_000104090500080703_000700080603040105,
  0x000207000600000000_040003090802000000_000001030400090000_000000000001000709_010000060008000003_000000000900000000_080906050003040100_000304000006050007_000000040009080000,
  0x000004070905000003_010800060003070200_090000010008000000_080000030500020000_000006000000080000_000000000100040300_000902000001000008_000001020000000000_000500000304000000,
  0x000006000105040003_000100060004000500_000304000002000800_000005000000000400_000800000400020600_040200090700000108_000501000200080300_000600010009000004_000400000000000005,
  0x050009000000040001_060003040001050008_080100000000000700_010000080902000000_000800000504000100_040000070000000802_000500000709080400_000000000600000000_070000000000000600,
  0x050000070300080200_000206050008000000_000800010000030905_040600000700000008_010000080000060000_020900000103070500_000000000001000700_000002030500000600_000001040007000000,
  0x000008070000000300_000005000002000709_000000090300040000_000009030000000007_060300020000080000_000100000008060900_000603000509000400_070201000003090000_090500000200000600,
  0x010907000005020003_080604000200090005_050002000000000708_000100090004000000_000806000001050907_090000000700040000_060008000000000000_000009000107080500_030000060000000200,
  0x000000020000070000_070501000000090800_080402000000030506_000903040600000700_000600050308000109_000800000700000203_000205070001000304_000700030006000905_000000080004020607,
  0x000701000905080600_040000000800000900_000000010000000703_060507000104000300_020000060000000000_010000090002070000_090000000201060407_070106000000090205_000402000600000100,
  0x000701050600040008_000900070204050103_050003000000060702_060000000709020800_010809060500000304_070000000000000009_000100000400000506_040600080905000000_090500000000000000,
  0x000402070006000009_000609040000080107_000007000003020400_060700000000000200_000900060001000003_020000000004090005_000003090000010000_000105030000000900_090006000107000500,
  0x030002000007000000_060000040509000000_000508030206010900_000600000000070309_000804000000060000_000300000700000800_080700090002050401_090001050008030700_000203070104090600,
  0x000300000000000805_000001000000000600_000800070000040900_000108050004020000_020000010009050708_000500000002010400_070203000900000004_010000000000080200_000400020100000000,
  0x040000020000000600_050000040006030000_000100070000000200_000306000705000002_000000000908000307_000509000200000800_000000090600040000_090605000000020000_020004050301000900,
  0x000003000006070000_040009070800060103_070000000000000009_000008000700040006_090700050002000300_000000000608000000_000002000507000000_060000090103050702_000307000200000908,
  0x080309060702040000_000007010904030802_000402050803060000_050900000207000403_000000090000070500_070100000605000209_000000000109050004_000200070500000000_000700000400000600,
  0x010700000000000005_000200010506000304_000000040708090001_000000080205030407_000800070400010000_070403000901000008_060000000804050000_000000050009000703_000308000107040009,
  0x000701000004000906_000005000000000000_030009000200000001_000000020009000608_090000030006020504_000600000000070309_050300090002080100_000007040000060000_080206000507000400,
  0x010000000000000200_000003000006000000_080009050000000407_000002000500070104_070006030100000500_050000000002000000_000700000005090002_000205080900040000_030000020007050800,
  0x000102070006000003_040306000900080002_070800020300010000_000000000407030008_080204090000000007_000700060200000104_010000030000000800_020000000000070400_060908000002000300,
  0x000506010903080402_000009000000000100_010000070602090305_000005080300010006_090000020705000803_000208060400000000_050003090208070600_060900040100000008_080000000506020004,
  0x000403000009070001_000001000003000900_070006080200000004_000000070900000000_060304020000010709_000000000106000802_000100090002080005_040208050000090106_050000010408020300,
  0x070002000000040900_000009000103000600_060005020400000007_000004000000000000_000000040300050000_050700000008060001_000007030000000008_000001000000030000_000008000006090504,
  0x000000090305080000_000100080407000902_000300000006070000_000007010000000006_030000000000000007_020900000000040508_000002060008010000_050803000701060200_010000030200050000,
  0x090503080604010200_020600030701050000_000107000005060403_000002070000000000_010000000200000700_000705040809000006_050300000402070000_070001060508040300_000000000300090008,
  0x020000000000000000_000400080602000703_000100000307020904_000602000900080100_000001060003000000_000000010000000000_040006030801000200_000009000406000005_000800000000040600,
  0x000506000000070000_040000000000000001_000900040706030500_010000000403090000_000400000000010000_060003000200000007_070000000000000306_050004070600000100_090602080000000000,
  0x000002080000090604_030406050009010002_000000000204000500_010600030007000008_080000000500060007_000207000000000005_000009020600040700_020708040001050000_060004000000080209,
  0x060700010000090304_030004000600010008_000008000400000602_070600000100050800_010800090703020406_000400000800000701_040207000000060103_090501000004080200_080000000001040005,
  0x080000000005000109_000000000004000000_040006000002050008_000300000000080004_000009000400000006_000000080600000500_090508010000000007_000000000708020005_070400000006000800,
  0x060300090005000108_080000000001050600_010205000400070000_000600000903000701_030902000000080400_070000040602000503_000508000700030200_000103020000060807_000006000804010905,
  0x010000000003040000_000007040000000006_020409000100000003_050000020000000008_000601080300090205_090208050601000400_000000090000070804_070000000008050001_060800010704020309,
  0x000600080201040507_070800000304090000_000001000907080203_000300000700050100_050700000100020009_000106090005030704_010905000603000408_080200010400000300_000003070000010002,
  0x000000040000000000_000501000009070002_000200000500000603_000000000000060000_060800090005000001_000002030000090000_000000000800030000_020706000100000900_000300070000020506,
  0x000000000000000208_040000030600050900_090105000000000000_070000000204000600_020000050700000000_080006000309070000_030204000100000500_010000000002040703_000700060003020801,
  0x000302080006000701_050000000007060002_000007010300050000_000003000208000000_000000000000000600_000004000905000003_040700000000000100_020008040000000000_000006000000070005,
  0x090008020607030005_000607000005000009_000400000301080000_000209030004000700_000300000002050000_050704000008000200_000500010700060000_060801000009000300_070003080006000001,
  0x040000070600000000_000700000002000005_000000050409000107_010408000000050002_020007040008000003_000009010007000000_000506000000000809_000800090306000500_090000080000000206,
  0x090207000000050000_000300000409060008_040800000500090701_010904050600070000_000005000000080906_020600000300040000_080000000006010500_000009080000000004_000002000900000800,
  0x080000000009000005_050007040002000000_090600000105000000_000900050300040000_000000000006000007_060004000901030500_010000000000000000_000000000507060400_000000000003080002,
  0x000000000000040008_090806010004000000_000000000807010609_000605000008020400_070000030100060005_000000000000090000_000708000000050006_000100080000030900_060300000000080204,
  0x040000010800030007_000002000700060000_060708000209000004_080900060402000300_050200080300000609_000004000100070800_000003000600000501_020105040000080706_090006000501020403,
  0x000200000304000000_030100000002000400_080000050100000000_000003000000000702_010000000409000000_000402000000000109_050609000000000001_040000070000050206_020007000001000004,
  0x030907000800000201_000106030902080000_000000010000000600_000009000200000300_080002050603000004_000500000000020708_090008070006000000_000004000000070803_000300040000000900,
  0x000000000005020000_000206000900070000_010003000000080000_000000000007000008_080000060000000000_000700020308090005_000309000800050700_040000050000000000_000000000000060800,
  0x090301000400020000_020000090300000008_000405000700000000_000002000000090004_010004000600000000_000000010004060005_070000000000000006_000200000000000500_060109080000040700,
  0x000108060409070000_000200080300010604_000600000001000000_080400000003050902_000302050804000107_000000020907030000_000903000508020701_040705030102090806_020801000006040005,
  0x080007000005020000_000304000708000006_000105000302000807_000001000000030604_000000010500070000_000000000000000509_050009030000000001_000008050901060002_000000000007080905,
  0x000002090000040300_050907000603020108_040300020700000000_000105000402000800_000008000000010400_070403050000090206_000500000000060001_030700010906000002_010200080007000004,
  0x000509000006000004_000004050001000000_000007000000060001_000700000000000208_030000090600010405_050000080000000007_000803070004020100_040000060809000700_000900000000000000,
  0x030706050000000000_000001000009050000_080509000003000006_000803000000040000_010900000502000600_000000000000000105_000100030900070500_000600070100080003_070005000408060000,
  0x000005000206000008_000807040900000102_000002000100030500_000000010004070009_000001050800020400_000400000000010005_080000020001000000_000300000600000007_020506000000000001,
  0x000205090006040000_060000000001000900_000100050700000206_000002010008000700_000001060003000000_000000000000060001_000000040000090000_000700000500000000_000800000000070000,
  0x010009000007060300_000608090000000200_000200000001080900_000307020000050401_060005040709030000_000400000503070600_050704000900020100_000000070000000000_000000060400000000,
  0x000503040000000002_040000020301000008_010800000506040903_000200080000000107_070400010600000809_080001000009000004_000300000000080400_000708060204090300_000004050003000006,
  0x000007000400000600_000400000000000300_000300000207000000_000008020004000500_000201000708000406_000604000000000208_000100070000000000_070503040000060900_020806000900050704,
  0x090105000000000608_000000000008000000_080006000000070003_020007010005030904_000000060004050000_000509020000080000_050302000100000000_000000080702090000_070008000500000001,
  0x000803000200000000_000700030000010502_010000060400000003_000000000609000300_000006000000090008_000308020004000701_040109000300000600_000000040806000000_000005000701000200,
  0x010003040002000000_000700000000020006_040002000008030001_020006000500000000_000100020800000000_000807060100000009_030001000200000507_000005000406080100_060008050000000304,
  0x000207000400000000_000105000700000306_000403000500000800_000006010204000008_000002000005000600_070000000000000009_000000000103060000_000600090000000003_000000000000080107,
  0x070000000009040000_080900000005070600_020000060008050901_000109070000080506_000000090000000000_050000000004000100_000000010006020000_000400050003000007_030600000007000000,
  0x060000020005080400_000700000800050002_080200000706090300_090000050000070104_000400090007060000_070308060000000905_020000010000040708_000000000500010009_000107080002000506,
  0x030801050007000600_000704000200000005_060502000108000000_000400070000050000_000600090005000103_000309010400000000_080000030700060409_040100080500000000_070900020604000500,
  0x000000000300000108_050300010002000400_000100070400000000_080004090700000001_020500000600000900_090000050200060800_070000000000000609_000409000006000002_000006000900000003,
  0x000700000006000503_080500070000000200_060400020500090007_000006050009000004_050007000402080309_000204000100000000_000005010608030002_040601000200000900_000308000005000600,
  0x000907030000000000_040006000201000000_000000000906000000_090201000300060007_000000060002050100_060008000100040200_080100000003070004_000400000700010005_070000010004000000,
  0x000000080000000700_040900050600000000_080002030109000000_000000000005000001_000500090001000000_000100020708060305_010800000000000000_060007000900000000_000005010800030007,
  0x000900070008020105_000000000001060700_000700040200080900_060805000004000007_000007060000090508_000300050000000000_050001080006000300_080400010009000600_000009000403050801,
  0x000003000000010006_000100020006000400_060800000300000200_030000000200000107_000000030004020605_020504060107080003_000002080009000301_080300000600090004_090005000400000802,
  0x070200000000060500_050901000306000702_030600070000090800_000000000900000308_000009000003000000_000000020007000000_000002030408000900_000403000700000100_090000050000030200,
  0x000903020400000500_070000030800040209_010400000900030608_050104080002000706_000700000004020301_030206010709000804_020500070108060000_060000000000070905_000307000605080000,
  0x000001000006000000_000000020000050107_000802030000000006_000700000301000000_040200080705000000_010005060400000009_000003000200000400_080500000600000200_000000040500060000,
  0x000009060105000700_020000080307040901_070001000200000603_010000000003060000_060007000409000000_050403020008000007_000006040000010300_000002000006000409_000704000900020000,
  0x030804090000000106_000509040206000007_020000000801000500_000000060409000308_080003050100000900_000607000308010400_000902000600000001_000000070900000003_070308010502040600,
  0x000000000003000000_080903000004000000_040000000502010008_070008000009000600_060009000108000000_050300000006080009_000600080200000105_000000030600070000_000800000900000006,
  0x000800090000000001_040600000000050709_000900040005080602_000000000004000000_080300000500000007_070006080003010405_000009000300000000_010008000006070000_020000010809000500,
  0x030106000000000700_040000010000000908_070009000000010600_000700050000090803_000008020001000407_060904030008000000_090000080502000006_020000000004080009_080600070309050000,
  0x070000030005080000_000300080002000500_050400070006030000_040500090000020600_000000060201050003_020003000500000001_000000000000010000_000109000803070000_000000000009000800,
  0x050009000004070100_000001070900050000_000300000000000000_000000000200080700_080000040500000601_010904000800000000_090007000002060800_020400080000000000_030005090001000207,
  0x000007030805090000_000500000000000003_020000090004000000_000904000508060007_000005000007030104_000102040000050908_080700000400000301_000000000100000805_050001080000000000,
  0x020901000807030605_000000000000010200_050007000100040800_060002000708050000_040500010000000706_070100000600000003_000406000200000500_000000000000000104_090000000001000000,
  0x000006000000000300_070003050000080009_000000000400000501_000809000500000700_010507000600000000_000000080700000000_000005040200000000_080004060300000000_000000090800070006,
  0x000006020000000005_040100000000000003_050200000003000706_090000000308040000_000008060002030000_000300090000070000_000005000000080300_000000080900000000_000402030000050001,
  0x080506000700000100_040000080300000600_000009020001040008_000008000002000701_000600000000000009_020907000000080000_050100090003000800_060000010800050000_000000000500010300,
  0x000000030007020000_010305000000000700_000002060001090300_000000000800000400_000004000609000000_080500020004000109_000009040100080200_000003050000000004_020401000000050903,
  0x000006020000010003_000000070906000002_020008030401000600_000700060100000000_030002000700000106_060004000300090500_040300090008000701_000201040600000009_000007010003000000,
  0x000109040000000000_000000000700020100_020700000600030004_000000000400050002_000002060005000700_030000000208000600_000001090004000000_000604020507010309_000007030006000405,
  0x080000030007000502_000005010400000807_030000000000000000_010000000003000900_000706000000040200_050300000004000608_040809050006020000_020601000708000300_000500090102080006,
  0x000008000000040100_000400020000050306_020100000400080700_000000010009000000_010005000000090604_000000080000070201_000000040007000500_000502000800010400_000004000000020908,
  0x000309000506020000_000006000000010000_010000000000050000_000003040000000109_060000020109000003_090000060308070400_000000090003040005_030004000002000800_000902050000000000,
  0x010500070209030000_000000000600050000_000000000005020700_040102000703000605_090006000502040000_000300000104070002_060900020007000504_000000000000090000_070800000001000200,
  0x060701000008020509_090003000500000000_000008000209070300_000004070002000008_080005040100000000_000300000905040600_000507020000090003_020800000000000000_030109000000000007,
  0x020001000000000007_060009000100000000_000005000207000000_080600000509030000_000503000001000000_000902000600000508_000306000702000109_000104080905000200_000000000000000000,
  0x000000000000000006_000003020000010507_050701000000000002_060004070208050903_000009050000060008_000008000009070100_000000000000040000_000205040607080309_000007090103000000,
  0x010000050403000007_000007010006000200_040600000008000300_020000080500030701_080005030001000006_000001000000050908_000008060007040500_070200000800000100_000500000104000009,
  0x000001000700000906_050602000000000703_080009010300000004_010408090200060300_090207050603040001_030006080400000209_000903060000050400_000104000002000600_060805070904030100,
  0x000806070100030000_000000000000040002_040100050200000006_000203000007000000_000000030900020700_000008040000000000_000000080705000204_000900000300080000_000002010000000000,
  0x080000000006010409_000004000100000200_010000040000000003_000600000003040502_020400000007080000_000800020000000007_000007000500000006_000000000900020000_040000060002070900,
  0x020003080007090104_010800050209000000_060009000104050008_040006070000000005_070000020806000409_030900040001020000_050602000308000701_090401060002000003_000007010405000900,
  0x000406030900070002_080000040002010006_070005000806040000_020000000108000000_000800090304000000_040509020600080300_050100080003060700_030604000509000108_000708060000030400,
  0x080700030009000405_000004080000000000_060005070402000108_090000000200000000_020007000803090001_000400090501000000_050008000900000000_070100000000000800_000000000008050000,
  0x000000000400000000_060009000000000500_010805090007020003_090006000000030005_000008060003000200_000002070000000800_000500020000080901_000600000700050002_000000000100000004,
  0x000003000000000004_070405000000000000_010002050003000908_060000000004020000_030000000100000400_020900000300000000_000106000008040002_080000000000050109_040000000005080000,
  0x000000000400060100_000400000006000000_000506000003040900_050000000800020001_000100040002080507_000004050700000000_030705020000000004_000000030000050009_000008010000030702,
  0x000308000900000605_000200060105080300_000007000008020000_000500000003000400_070000000600000800_000000010007000006_090000020501000700_020104030006050008_060705080400010203,
  0x000000040801020000_000000060300000009_000003000700010006_000001000006030000_000205010007040008_040600000000000001_000700000000000100_050004000000000002_090000020000000700,
  0x030002000400000000_070600000000000900_000900000500000003_000407090600030801_000100040000000607_020000080000000000_000700000904000002_000800000100040306_010204000006000500,
  0x080500020603000000_030600000400020807_040209000007000605_020000000008000500_000000000502010000_000105000000070200_070004000005090000_000002040806000703_050000090000000000,
  0x040000090301020506_000103040200000000_000209000508040001_070004000803000209_030501000902000804_020900010004000605_000402000600000007_090300000007050000_080700000109000003,
  0x090000000000000005_000002000900000300_000500020004000009_000001000000030200_060000040002000500_000000000800070400_000009080000000000_010300000006000007_020000070500060000,
  0x000003000000080000_050000070600000300_020100000000050000_000900080004000000_000008000005000003_040000000700000801_060005020900030400_000004000000000000_090001060000000200,
  0x000500000600000003_020001000000040000_000000000000020009_000408030006000905_030905000001000602_000600000900000400_000000020400090300_000000000300000807_000000000008050204,
  0x060000010000080300_000005060008000000_000003000009000005_000000040100000000_000009070003000208_030000080900050007_090004030001000700_000300090207000000_070002000406030000,
  0x030000000009000400_090408020001000007_000000030704090000_000002080000050004_050000040900080000_070004000000000300_080203000600000000_040000010008000002_000506090002000003,
  0x080500000003070104_090001000407000200_000200010800000000_020000060008040001_060005000100030800_010000040300020000_070000020000000306_030000080000000002_050002000001090000,
  0x050004070608090102_020601050400030800_090807030002000000_080100040007020003_040200060500000008_030700000000000500_010008000705000004_000002010006080905_060000000800000001,
  0x000006020000000500_000300000504010000_040200010700000000_060000000809000000_000709060000000003_050408000007000000_000000000000000007_000900000001080406_000000000000030901,
  0x000905080000060004_000007000006050008_080601000300000002_010004000009080600_090800000103040500_050306000408010200_000000000900030000_000100000607000800_000503000000000700,
  0x030102000009000000_040000080300000900_000800000500000003_000000010000090000_080900030000000705_000004070905080000_000009060700000008_000500090100030006_000306000008000000,
  0x000900000000000000_000100000007040000_050008090100000000_090604070001000200_000007050403090000_000000000609000004_020300000000000400_000400000300010702_000001000002060000,
  0x000000000507090300_000600040009000700_090000000200010000_000000000003020507_000002000005080000_080004000000030000_000200060000000000_060000000308000009_000000000700000100,
  0x070000000000040000_010000080000000000_000302000100080700_000000000007000400_000004000800000005_000708040300000000_040000000005090000_080000000203050600_090000010000000007,
  0x060000040201000509_020009050000000406_000500000000030201_000401030009000008_070000010500000603_030006020708050104_080604070000010905_090200080106040307_000300090000000800,
  0x070903020004000000_000200090708000001_000104000005070900_030401080009000005_020000000001000600_000006000402000300_000000040003080507_050000000000040009_040800050200000003,
  0x000000080502060003_050207030009000800_000300070000050200_010002000306080407_030006020407000100_000405090800000602_000009000205000301_000503000000020900_000600000900000500,
  0x000008000307020004_000500000100070300_060703080400050900_000400000008000206_000007000609030405_000200000500080100_000001030904060702_000002000000040500_040000000000000003,
  0x000000080506000700_090605000703020800_000800090200000000_000904000000000001_000000000400000908_050108060009000000_080006050007000209_000009040602080000_000700000900040500,
  0x000900000000030000_000400090207000100_050007010603000002_000203000000000400_000009030400010006_040001000900000005_000700000001000800_000308020700090001_000000080000060004,
  0x080500000000000600_000701090603050000_060209070805000400_000000000507000001_050600030100000800_090000060402070000_010000020904080700_070906000300000104_000804010706000000,
  0x050702040809060301_000409000301020507_030601050702040008_070305010004080602_040108020603050009_090206080507030104_000803090005070206_020504070100090803_060907030008010005,
  0x000006000208000000_000807040009060302_010000000003080007_070108020600030500_030402080905070000_000905030700020000_000703000400000008_020001000000040003_000004090302000000,
  0x000104000603050807_000900000000000000_000700000000000309_090508020000000000_000203000006000500_000000000000090001_000000060000080900_000000000500030402_000000030208000006,
  0x030009080500070000_000500060100080200_080000000709050000_020804090001000500_060903000000010004_000100040308000902_000000000000000008_010002070800090306_090000010406000705,
  0x020000000400000000_030004070005000000_060000000001000009_000000000608030400_000801050700090602_000003000900080000_080002000100000000_010500000007000300_000009040002060000,
  0x070905080000060204_030002060409000100_000600000005090308_090400000207000600_020703050106040800_000500040908030700_000300010004020507_040000000000080003_050007090803010406,
  0x080409010000050006_000000050609000700_050607000000000003_000000000000000004_040800000003060001_000000040000000800_000304090701000000_000000030400090002_010000000805030000,
  0x050007000000000408_020401000807000605_000900040502030701_010702060408050000_000000000900080200_030009070205000006_000500020100000009_090103000704060502_070200050009010000,
  0x050006000000020000_000000010000090006_080000070206000003_000603000000000000_000005000000060402_000000000008050001_060000000900000100_030500060000000200_090700050001000608,
  0x000408090603050200_030609010205040708_000502080004060300_090007060508000100_040805030901000002_000001070400000905_000103050800090407_000004000007010006_000706040000020503,
  0x000007000300040008_000006010804030500_040300050000020100_000801000203060400_000603000008010700_070200000601080305_080009060105000003_030000080900050604_000705000402090801,
  0x000200000500000000_080400000001000002_000006020000000500_000702010003060908_000001000600020007_040000000802000000_000000000105000706_000007000008000000_000000000200050003,
  0x000007020900060500_000009030001070000_000000000000010900_000000070000000008_060702000804000000_000805090002000000_020500000600000000_000106000000030005_000400000500020706,
  0x000300000000090506_010502030906040008_060900070405010203_020400090700000005_080600000302070904_030709060004080100_050103000609000807_090200050800000601_000806020103000409,
  0x050000020000000003_000008070100040509_010309000504070000_000600030000010907_000001040005020000_020000000600000005_000000010000090700_000002050009060000_090000000000000802,
  0x040007020800000903_090200000500000806_050800000603020407_020709010000000305_000400080009000000_060000000302000000_080002000000000501_070000030000000204_010004000200000008,
  0x050000030900000006_090100050807000402_070002040100000809_000005070600000000_000003000000000000_040200000008000000_000000020000000000_000004000005000201_000000080001090005,
  0x000002000007090000_000003000908000600_090800000500000302_010000090004000007_000000000600000000_070200000105000403_050600000000000900_020000050000000006_030107000000040200,
  0x010003020000040005_000904000500070800_000006000800010000_080300050400000109_000000060700020508_060000000109030004_040000070605000300_030008000201050007_070000000300000006,
  0x000000000800000001_010000090000070600_000002000000030000_030604070000000100_020009000300000000_070000040005000200_000400000000010000_080200010400000907_000301000706050408,
  0x010006030507000002_020000000000000003_050003000000090107_000107040800000200_040600070200010005_030005010009000708_000002080901000504_060501000304000009_000400050706020300,
  0x020809000000000000_030000060000050908_050006000000000004_000000070600080403_000000000004070006_000607000008000502_060300000700000000_000000000400030207_000200000900040000,
  0x060807000203010500_050009060701000300_040100000009060200_000500070000000006_070006090000000000_090008050000000000_020600010800050900_000005000004080700_000001000905000604,
  0x000000020900030706_060008010000000904_070200000000080005_000806000000000500_000701050603000208_000000090801000307_000007060100050000_000104000000000000_080603000500090400,
  0x020000030000000001_000904070000000508_000000090008000300_080000000300010000_000300000009020000_000005060200030000_000600050000000000_000807000000000904_050000000900080000,
  0x020007000300000009_040508000000010600_090600050000000000_000000040007000000_000400010000090007_000000090603000205_080700020004030000_000000030700020800_010300000809000500,
  0x000800050000030000_060000010000000005_000000000000000809_070000030005000900_000000000409000002_090506000000000300_000004000000050008_000600080000040007_000000060704090000,
  0x000901000000050000_030200050904060007_000000080000020900_010300000600080500_090705020000040000_000006090000000300_070100000200090400_000600000700010000_000800000005030706,
  0x030009000100060500_000000000000000208_000002000000030009_000000000600040000_000000000205080603_060005070403000001_000000030706050100_000000000004070806_000004050800090302,
  0x070502000003000000_000004070000030800_090300010206000004_030806020000010007_000000050801040000_000400000000000000_000600000105000003_000201000000000409_000000040002070100,
  0x000605090802070100_000008000603000500_000902010007000004_000000020008030400_080403000700010009_000007030100050800_000004000000020001_000306070000040000_000009000001060005,
  0x060200010507000304_000500020008000900_000008030000020501_000000070300000000_020000000000050003_000000060005040200_050900000000000607_000107000600000402_030602000004010005,
  0x060408090500000000_000100000302000800_000200040008000001_010006020400000700_000802050603090004_090304000007060000_000000000106070408_040703080200010900_000601070004000300,
  0x050100090300000008_060000000000050001_000007010005000000_000000050100000200_040700030800010000_000000060200000304_000609000500000003_070000000903000102_010000040600070500,
  0x080309020604010005_000000000700030004_000007050008020906_020008030009040600_000005070402080100_030000000000090502_090002000107060008_000000080905000200_070000000203050400,
  0x000007050000000300_030009000200010007_050000090703060002_070200030001000400_000301000600090205_000006000005030000_000000000007000100_000003000002000904_010000000000070000,
  0x070604080003000009_050000040602000100_000000000009040806_000900030000020000_020006000007000001_000005010006000000_000203000900000700_060007000005000004_000008070000060000,
  0x000000040600030005_040900010700000600_060300020000010700_080500000000000003_070400050000000800_000206000000000500_000003080102070409_000000000507000006_020007000009000000]
theorem mixed_33_ok : mixed_33.all fastOK = true := chunkOK_sound _ (by decide +kernel)

/-- `mixed` (10000_mixed_puzzles.npy), boards 8500..8749 -/
def mixed_34 : List Nat := [
  0x000708050009000200_000901000204000506_000405060701000809_000200010000080003_000300000000000000_000804000605020001_040500070100000302_000600000400050000_070000000000000000,
  0x050000030000060000_070000080000090001_090200040000000007_020401050308070006_080000000900000100_060000000200050000_000000000006030400_000800000005000000_000009000000000608,
  0x000000000000000000_000100000000080400_000000090108000007_000001080500000903_020403010009000000_000008000002000100_000004000006000809_090300000000010002_080700000901030500,
  0x000400000008000002_070006000002000000_000800000003060004_000000010205040000_050008000000000300_010204080009070000_000600000000090000_000009000504000000_080000030000000005,
  0x040000030000050608_010008000000020300_000000050804000007_000803000000070902_000409000007000805_000002000000030000_000700000008060003_080000090600000000_030000000201000500,
  0x040500000601080700_000000000400000000_030201050000000000_090000070006030104_020300080004000900_000000030500060000_000000040300000001_000402000007090300_080000000900070000,
  0x000200000100070305_040800000503000000_000000020007000004_020905070000000000_080001040200000600_000600010805020903_090000050400000700_000400090700010008_000008030000040009,
  0x070001090600000000_080503010000060700_040609030008000005_000000000500000600_000408000000050100_010005000000000403_030000080009000000_000006000002000000_000000060000080000,
  0x030009050702040108_010000000900070300_020400010308060005_000004080601090207_080206000509010003_000901000203000506_060102030407050800_040703090000020001_090805020100030704,
  0x090800060003040200_060400050002000000_000700000000050003_000004000609000005_000000000800010009_050901040000000000_040000090500020000_000000030006090100_000000000200000004,
  0x000906000408020005_000508070000000000_000007000506090000_090100000007050004_000005000009000608_080600010000030007_050000000804070009_060800000000040500_040709000100080306,
  0x060105020407000000_070000000000000000_000000000000000107_000907000002000000_000400000600030000_000000000009070000_080000050700090304_000600090104000700_000000000003050000,
  0x000300040100050700_050000000300090001_000000090000000400_000504000001020000_000000000800000000_000007000609040800_020005000000070006_000000000500080100_000600000002000504,
  0x000007000005090800_020300000100070405_050009000000000300_000206000000030500_000500030908000206_010003000006040008_000002080407000003_000005000600000907_000701000000000000,
  0x030000000401090006_040708050906000100_000100020007050000_000407000000000902_000000070800030600_080003000000000007_000901000008070305_000302060009010800_050000000703000009,
  0x000900000000000001_000000000000000007_080001000300040200_000003020000070800_000000000007000000_000005030000010006_050006000001090000_000200060004050003_010007050000000600,
  0x000700000800000904_090008000007020000_000402000009000005_000907010000060000_060003000000090200_000200000000000000_070000050000000600_000000070208000503_000005000001070809,
  0x000004000200000001_080501040700020900_000002050000000800_000000000000090100_000000000000000207_060900000100000500_040006020507000000_020300010800000700_050007030000010000,
  0x070400020005030900_000900000004000005_010000070000060004_030000080000040200_000800000000000100_000000000407000508_020600000703000400_090000000000050007_050100000000000002,
  0x000903000800000400_000208060400000000_000105020309000000_020001000704000900_090000000200000000_050004030906010007_080407090002000003_000502070008090100_000609000500080700,
  0x000104000906080500_000000070500090000_000005020801060007_000300000107020905_050701060200000308_000002000308070600_000200010000050000_010007090602000800_000600080000010000,
  0x000903010502060004_060002090000030500_000001000003080200_050000060000040308_000000000900010005_010600000300020907_000400000807000000_000000000000000006_000008000200000000,
  0x010700040300000000_000903000006070002_000000020800000003_000804030200000107_000007060401000000_030000070008000000_000001000003080500_040300000500090706_070000000604020000,
  0x010506000003000704_000700000000000008_080304060000090105_070405000802000000_020008050609000000_030609040001050802_040007090508010006_050000000006040200_000901020000080000,
  0x090001000302080500_000600070008020100_050000000000060307_080000030000000000_060100090000000000_020000080107090000_000008000009000403_040000010700050200_000305020800070906,
  0x000005000104000700_010007000305040009_000000000600030501_000000000009000400_000502000403090000_030000060000050007_000600040000000000_000000000900010200_000700000200060004,
  0x000003090107000000_070609000000000003_080400000605000900_000004000000050800_000800070209040301_000107000800020009_040000060000090005_010000040903080000_060902000501000000,
  0x000408000006050300_000002030000000701_090000000002040000_020500070008030100_070109000203000604_000004060000000500_000000020109000400_080200000000000000_000000080300000000,
  0x030006000007000005_000004060208070009_070000000500000008_000000000900010007_000000000800000004_060705020000090000_020000000309000000_000003080000040000_080409050000000001,
  0x040800030507060902_000000020600010000_000000040000050003_060402000008070000_030700060002000408_000900070403020000_020300000000000000_000600000204000007_050107080306040209,
  0x000000000100000000_030007020004080006_080400000000000100_070001000006000005_050000090300000000_000200000000090008_000005040209060000_020800000000000503_060700050800000009,
  0x090400020000030008_000800090407050000_000000000000000100_010600070000000305_020000080005010007_000907000000060004_000503000800000600_000102000000090000_060009000000000400,
  0x040000020600000005_000000000000000309_000008000009020607_060000000001000204_080004000006000900_000002000400050006_050200010904000008_000001060003000002_030409000000000000,
  0x040005020000070000_000000000000090200_090207000600030004_050601000008040903_000709040503080000_080003060901000007_030000000000000009_000006000000000000_010002030700050008,
  0x000200000009030108_070503080104000000_000900000200050007_000400020600010000_050000000000000004_000801040000060009_020004000006080005_060300050000040000_000005030007020000,
  0x000600000000000000_000008000006040009_070000020004000608_090000070008010005_000007000000030802_000100040500000700_000000000000000000_010803000900000200_040009000102060003,
  0x030000000000000000_000009060000000005_000000080300000706_070003000906000001_000004000000050600_000000000500040309_050002070400000000_090007050600020100_000100020000000500,
  0x090400060001030000_060502070003090400_000300000005060000_010004020600050000_000700010000000008_020600030000010900_070106000004000500_040000000000000300_000005000700000100,
  0x000408020000070000_000100090004000205_070500010006090304_000000050300000009_050300000907000802_080709060000040000_000000070102030008_000807000400000001_000000000000050000,
  0x000009000600040000_000000000500000000_000000020100060009_050000060703000002_060003000900000500_000200050800000000_000006000005090107_000000010400020300_080001090007000006,
  0x070200000100000400_060100020300000007_000008000500060001_030006050000000900_000000000900000603_090700030000000000_010907080600000002_020600070000010000_050804000203090000,
  0x080100000007000509_000000020005000000_000000000008000600_000700090504060001_000000060000050000_000000080701030002_000402070000090005_050900000103000200_030000050000040100,
  0x000000080000000000_000000000405000002_000700000001000503_090000000100000005_050003040200010007_070200050000000006_000400070000000908_000500000000000600_030900000008070004,
  0x040209000000030800_000300040000060000_000005020000070400_000000050403020100_000002080700000305_000000000000000008_000000000004000600_030000070000000004_090000030800000200,
  0x090000040100000500_000003000200000007_000005000700000000_000600000000020900_020000060004080001_000000000009000300_000200080000000000_030000000000070000_070008050000010004,
  0x000201080000030006_030800040105020007_040000000602000000_000008000400010000_090000050700000000_000403000200070000_020000000304000100_000309020006040000_000704000500060300,
  0x000600000107000000_050700000402090008_000200090008070000_060300000800020007_080007000900010503_000105000304060809_000801050003000002_030002000701000000_000000080000000701,
  0x000402000003060001_000005000200000000_000100060000070005_000800000300050000_000000000809000000_010900020700000600_070009000400010008_000000000008000000_000004050107020000,
  0x030000010600070802_060005000007000100_000002000009000000_070001060000000900_080004090000000007_090000050708000401_000600000000010008_020000030000090000_000900070000020506,
  0x070000080106000200_000000000004010708_050001070000000004_040000000000000800_080502000000030007_060007000003000000_020600050400070309_000700030900040602_090304000200080005,
  0x060300040900080100_010008000203040007_000700000805000002_000006080704020500_020107000000060000_040005020600000000_000000070002000400_070400050000000200_000000090406010000,
  0x000800000700000000_000502090008030000_000900020300010807_050001070009000000_080407050200090100_000209000000000405_000704000001000300_000608000500040001_000005000000080700,
  0x000000090000080400_000002080000000000_000800070503020001_000007000900000000_000201000000040508_060000000801090702_000000000000000000_020705000400060300_000604030000050000,
  0x000000000004050208_050000060300000000_070004050002000000_000000000900000007_000701030000020000_020000000400080006_060000000503000102_000007040600030000_000305080001000000,
  0x070002090000060301_000904060301070200_060301000007000008_090006000000000000_000000000908000500_000000000200080904_000000040000030000_040000080702050000_010200050003000000,
  0x050007020309000600_060800000000030002_040203050008000000_090001040802050000_020008030006000700_000600010007080204_070506000001020903_010904060200070805_080302000700060400,
  0x000000000006020008_000004000001070005_010000000000040600_000400000502000900_030906080407050201_020000010300000000_000000000005010700_060007000200080003_050300000108000000,
  0x050400010900070000_000903020607000000_060000030005020100_020005040000000900_000000000000060504_000600080503000002_000200000100040007_070009060000050201_000501000000090603,
  0x000509000700040201_020006000400090000_000001090200000000_000002000500000004_040800000000000000_060007000904030502_050004000000000603_000000000802000005_010708030000020400,
  0x000008000900000100_070000000000060000_030900000005000700_020001060400050007_060000000502000000_000409010708000003_000203080004000900_000005090200000004_090004050000000000,
  0x000001000804000000_030500070206000401_060000000001030700_000000000007000005_020000010900000807_040000000008010000_000000080705000000_010207060000000500_000800040000000309,
  0x060400000009000205_090002000500060001_050000070000000000_010500060002000809_000000000300000000_000000000000020103_000008000600000500_070000040003000906_040000000007000000,
  0x070804050600000109_000000000100000002_000200030004050000_000405000000000003_060008040000020705_030000000005000800_000307060200090000_000000000500000000_090502010400080000,
  0x010009000400000805_020008000305090006_040500060000070002_000106000702040000_000000000600080300_000007000904000201_030004070106000000_060901040000020700_070800000000010600,
  0x080004000900030007_000900020003040501_000100000000090600_060009050307010802_000008000006050903_030205080100070406_000002000700060105_000001000008000000_000607010500080009,
  0x020700050000000306_000000000302090100_060000070904050802_030204000008070509_050000000703080000_000100090405020000_000803000000000005_000600080509000000_000005000000060200,
  0x040005000000000006_000700000003000000_000608000900000207_000000000000000000_000000050402000908_080900000000040005_060001070205000009_000000090006000104_000807010300000502,
  0x000009080000000300_050000000000040108_000204030100000006_000000000301020004_000500000004000700_020000000800000000_000000040006010800_000000000700050000_030002000500060007,
  0x020104000000000700_000007000002040009_080900000604050102_060000000300000407_070000020408030001_040000060000090000_090700000000000804_030000080709000005_000200040500070003,
  0x050700000806010009_000601000000020005_000300010504000800_000000000701000000_000000000003090100_010000000200060000_040007080000000600_000100030607050900_000906040000000702,
  0x010007000500000006_080500000200000701_000602070000000000_000000060705000000_060003000002070009_000200000009010608_050900000000000802_000000000003060000_000000000000050904,
  0x000009020000070004_030007090000000000_000200000005000000_000002060000000500_070000000000020001_060001030000090400_000300000600000008_010006080203050700_000000040500000002,
  0x000008020000050600_000604090807000200_070000050000000000_000000080000000706_080009060004000500_020700030900000000_030001000009020005_000002000000070009_000800000000000304,
  0x090400050308000007_070003010604000009_060508090000040103_040002000000000000_030905070000020000_080000000000070000_000800000705000004_000000000800000001_000000000000080700,
  0x000000000100000000_000900070206000000_000103000800020706_000001000007000005_000402050001000900_070005090308040002_060007080004050301_000309000500000004_000004010700000200,
  0x000001040007000900_060800050000020000_090000010008000305_020700000000080000_010500000802000407_000400070000010000_000105000006000200_080000000004000100_000600000000030000,
  0x050000000600000000_020000070003050000_040000050000060001_060001090307000200_070300020000000906_000009000401070300_000005000700020000_010400030906000507_030000000005000104,
  0x020006090000000508_000409030800000006_010000070002030900_000203060900080400_000100000000050009_000704000508000302_000000000309010000_000001050200000007_040500000001000603,
  0x000000000701000602_000006000905040000_040000000000000000_000700000403050200_030000000009070000_050900000008000100_000403090602010700_070500080000000906_020600050107000400,
  0x000500020800010000_060004000703000002_080002060905000000_050003080200000000_070009030001050608_000801090000000007_090000000102000000_020308000609070001_010006070008000205,
  0x000700000000030600_020008000003070001_040000000007020508_000104030800090002_000207010000000005_090000000002040100_000400050708010000_000000060300000207_000000000000080406,
  0x000204080000000100_000003000000090000_050007090200000000_020705010809060000_060901000400080000_000400000600000901_010000070500000006_000800000004010000_000506020100070809,
  0x000400080000000006_060000010500000008_030008000002070004_020106040700090805_000904020100000000_000700000000010002_000305000001020000_000000070400000300_000001000200040009,
  0x090000000600000001_040506030107000000_000008020009000004_060701050200090400_000000070000000008_000900010400050200_000609000000080005_000000090000030706_000807060001000900,
  0x000007030005000000_000000000407080300_010503060008000200_000000070000000900_090300000102000506_000702000509010003_070004090306050802_000000020000030109_030209050001000004,
  0x030000010905080204_000009040003010000_000102080700030009_000500090301000000_010003000000000006_000000060508000003_090005000107060000_000006000009020401_000001000004070900,
  0x030600090104070000_040800030006050000_000001000500060003_050007080309040006_010903040605020000_000000000001090305_000000050900000600_020300060000000500_060000000403000007,
  0x060700000104080000_020403090608010507_000901000000040002_030000060000000000_070508000302090006_090200000700030400_050307000200000900_040002070900000001_010809050006070003,
  0x040800010000000500_020700040805000000_000000070602090400_000000000700000800_000600000200000300_000307000006020000_070400060000080000_060000000001000003_000008020000000106,
  0x020000000504000008_010000000700050300_080000000003060004_000009000801000000_000000020007040005_000000000009000000_000608040000010000_040702000005080000_000000000608000403,
  0x000004050000000900_000000060102080400_010005000000030006_000100040507020600_040000000009010000_000000080601090704_000000070908040300_020000000400060800_090408000200000100,
  0x000005000600010002_060900070000030504_040100050302000907_090800000701050300_000003000000070000_000001000900000400_000406000007090201_080309000206040705_010007090405000603,
  0x050000000000070000_000000000004000002_000600000208000009_070800030601000000_030006000700020000_000000080002060000_060004000007080005_000500040803010000_080107020000000003,
  0x080006050702000300_000000010804000000_010000090306020000_000007040100060000_060000000205070900_020000060900000008_000000000000000703_000000000508000109_000009000000080002,
  0x050700000004000002_000004000100050800_000000000500000700_000007000806010300_080000010003060007_000300000000080004_000500000600030000_030806000407020500_040100000205000000,
  0x000006040000070000_020005010800030009_000007050000080100_070003020900000000_040000000705010000_000500060000000000_080000090106050302_060300070004090001_000000000003000007,
  0x040000000300000601_000000070106000208_000600000004000009_000700010009000400_080403000002010005_000005030008000006_000007040001090000_000104050000000007_090300000800000000,
  0x040807000600000000_030600000704000201_000002000005040000_000001060307090000_050000000000010702_000000000000000006_020003000106070004_060900070000020108_010700000400060503,
  0x080000050903020407_000300000000000005_050009000100000000_030600080700050002_000501000600000003_090008040000000700_060705010200080004_000900030806000001_000803070504060209,
  0x030007060000000504_000400070800020009_020900000004000008_000609000200000807_000001050000000200_080000000300000100_000000020000000003_070000010003060002_090003000007000401,
  0x070900040500000000_000403000106050800_000000000000090200_000000000000000300_090001000003000000_030506080004020001_000309000000000000_000004030000000000_060200010009080003,
  0x000205000407080600_000600080000030000_010000000306000405_000001000803000000_060300070009050000_000000040000000308_000003060008000100_090100000200040807_080002010004000500,
  0x000001000008000200_080302000601000405_060400000000010900_000008060009000000_070104050200000600_000006000004000002_050009070000000304_010203000000000000_000600000905000000,
  0x000802000300000000_000000080100000305_000003020005000007_000500000000030009_090000000700080000_000007090800000006_060000030009000108_000905000007000003_000000000500000000,
  0x070400090200050100_060001000004020708_080502070000040300_000006020003000504_000708000109030000_030204000500000001_000600010700000203_000805000000010400_000000080000060005,
  0x060009000007010200_070800040000000005_000500000002000007_000703000000080100_000000090003050000_000605010200000900_050900000000030000_000007000901040506_010000000506000800,
  0x000000020908030401_000000000000000005_010000050000070000_000008000701000009_000000080009060004_040000000500000000_070000090000000500_080000000400000100_050009030100000607,
  0x000002000709030004_030000010400000008_090008000005000700_010800000600000209_000900000008010600_020605090100040007_050201040800090300_000300000001070402_040009030206000100,
  0x070000020006000905_000000000000060000_050106000807000000_040007060200000103_080600070503000000_030000000000070806_010703050902000608_000405000701090300_020800000604010007,
  0x010803000706020000_000000010004000809_090000000000060003_000908000005000006_040005000002000001_000700040903000000_070000030000000008_080009000400000000_030000000200000400,
  0x050300090700060401_090000000001070200_000708020600000300_020003070005000806_060005080400000702_000407000003000105_070001000000080003_000809050002010000_000506000007000904,
  0x000001030600000705_000200000008000003_000800010007000200_000009040503070002_000300000109040006_000700080206000000_020400090000000007_000000060704000008_000008000000000004,
  0x000000000700000009_010009040006000700_060007020809010000_020903000601000000_050006000000000300_000000050300000900_030501000000000600_000400060000080000_000000000100040002,
  0x050600000309000000_070800050004000000_030400000700000502_010006000402090800_090700000008020401_000204000000050000_060107040900000005_000000070001000004_040008020600070103,
  0x040300020000090006_000008000005030000_000007040803020500_030802000507060400_000004000902050000_000500000000000000_000200080009000300_000003070000000900_070000000300000600,
  0x060201090000070800_070003000000090104_090004070301020005_010700080200000906_000008010400050002_040902050000080301_000006030007000000_000300040005060209_050100060802000400,
  0x060000070403020008_080700000000000003_040302000000060000_050006000009070001_010003060000000005_070900000001000200_020007000806030504_000000040000000000_030004000100000000,
  0x000001020905000008_020000000800000300_000000000700020000_000000000000070401_000400060102000500_000003050007060802_010500000000080000_060000040000030005_030900000000000200,
  0x090306000100070000_000007030000040800_040100000000000003_000000070004000008_000504000802000100_000000060000000000_020000000400000005_060000000000080309_000009050600000004,
  0x000308050000070000_070900000100000200_020100000400000000_050000010800060000_010407060000000300_000800020004050900_000000000305020000_000004070000000603_000702080001090400,
  0x000800050302090701_070000010006000000_010500000000000802_000400070600000003_000000090508070000_000000020400010500_000200030000000000_000700000109020600_040000000005000007,
  0x000000000000040005_000008000006000900_060300020005070008_000406000500010300_050903040600000700_000002030908050400_070800000000000000_090600000000030201_030200000000060007,
  0x000006020000000804_070400010600000009_020300070804050106_000700000000020600_060004000700000000_000002000300000407_040607050008010003_030801000400000002_000200030006040708,
  0x000500000100000000_000001050408060203_080000000209000100_040000030500070000_000000000001080300_000300080000000605_000000000000030009_060800000005010002_030100000000040500,
  0x020400000503000006_090501020600000007_060003080009000002_000904060300070801_070106050900030004_080302010400000600_010009040200060700_030205000006000000_040000000000000500,
  0x000700000108000000_010000000000000000_050009000700000108_000006000800000702_020000000905000006_070001060000000900_080402000000060009_060105000000000400_000000000600000201,
  0x090005030000000006_000008000901000007_000301000000090000_030200000000080600_000007000400020900_000100000206000700_000500020300070009_070902050108060000_000403090007000100,
  0x000000070600050300_050009030002000708_070800090001000206_020000080004070603_000006050703020004_000307000206000000_060008000005000900_090000060300000000_000001000009060507,
  0x000006000000030000_000000000000000009_010009000000000204_000000060800020300_000000000903000400_080007000004000106_030008070000040001_000900020000000600_070000040000000800,
  0x080103090604020007_000604020000010300_070000000301000600_010009070406000000_000300000000070000_040705010000000000_000000000500000002_050401000902000000_030000040007000000,
  0x050004000000000000_000009000002070008_020000080105000904_000105000000000006_040000060701090005_000700050004000001_060401070300050200_070900000506080403_030008020409000607,
  0x000000080003040006_040807090600020305_000002050700080901_070409030006000200_000206000109000400_030501040800090607_050704020300000100_000008000907000004_090003060005000002,
  0x000900000000000006_000000090307080000_000801000405090300_000300000009000408_020000000804050000_080000000000020000_000100050602000004_000600000700000009_000000040000000507,
  0x000800000105000409_040000080200050300_000000000400080000_000001030000000000_080007000901060200_060905000700000000_090108040006000005_050200090007040000_070000010502000008,
  0x010405070603090208_030008000904000700_060709000205030100_080902000000060305_000003020509080401_040501030806000900_000007060008020500_000006050100000809_050804000002010607,
  0x000500040000000001_090000000000000804_000000090008000706_080200060000000905_000003000109070002_000907000402000000_030000000800000009_070000020900030008_000000000006040000,
  0x000708000000000300_090000000800000500_000003000400000006_000500090002000800_000809000000000100_000200050108070904_080400000906000000_000001000007050408_000307000000090000,
  0x090207000000000004_050601000003080000_000008000100000600_000106000007050900_070000000000040100_000500010906030000_000009050004000800_010000070000000403_020003060000000500,
  0x000000000600090400_000700000901000003_090001020000000007_060007000000000200_000000000200000004_000103000500070600_070004090005010306_050009010002040000_000300000706050002,
  0x020000030100000008_050007090006000401_010003080000000200_000500000000000003_000000070600010500_000000010005000000_090008000003000006_000006020000000805_070005000900000000,
  0x000401070000030902_000000010004070000_080002000003040000_000000000006000300_000107030000000504_000000000001000700_000800000500090000_000000040009000008_040000080100000600,
  0x000000000009000000_000000080700040900_050600030000080007_030004000007060000_000006040503000700_000200000008030000_090000000406000001_040105090302000600_060002000000000400,
  0x010000080906070300_080005020307000004_000007000100080200_000700000000000002_050000010000000407_020009000705000003_070001000403020506_030500070002040901_090200060000030708,
  0x070004000000030905_000000000500000001_000005000009060800_020007000000080506_000000000607000100_050900000100000007_060800000003000000_040001080700000200_090003000000010608,
  0x000000090300070800_000003050007010006_000807040002050900_000709020003080400_040006000900000700_010200070500000009_070000000005000100_000000080000060002_080900060000000000,
  0x030801090005000000_000900030200070000_000700000001050009_010000000007000000_000200000009000000_090507000008040601_000000070803000405_000400000906020800_080003000002000000,
  0x000608010000000200_000000000007000600_030001000002000007_000005020000080000_000106030908000000_000800050601000009_060000000000000001_000400000000000000_000709000500000008,
  0x080000000600000500_090104020000060003_050000030000000004_000900000000000700_000807090200000306_030002000006080000_010409050002030000_020300060009070400_000000040803010200,
  0x020401000305000009_060000020009010408_090000000100000205_000900000807050600_000004000001000000_000008050406090000_000000010000080007_000009070000000306_000700000900020000,
  0x040000030002080000_080506010709000300_000000000000000900_090008000304050007_000104050807000009_050307000900000806_000003090000000500_020600070100000008_070009080205000003,
  0x060000000007010000_030100000006090207_070209040301000000_000000060105000008_000005000000000400_000003000408050700_050002010003000800_080306050904070100_040900070002000000,
  0x000300040000000001_040001000807020009_050807010200060003_090703020100000000_000002050003000100_000000090000080000_000104000902000700_000000000000000204_060205070000000000,
  0x000000090106030500_000100080400020000_000300050000000000_080000010900000000_090000000300080000_000200000004000705_000002000500040009_010600000200000300_050003000600000102,
  0x000000010000000300_000000000906000704_000800000500000100_070000000003000002_000306000209000500_020000000400000607_000000000700000000_010000000600000203_000007080305000406,
  0x020700060008030500_000000090003000000_030500000000000800_000400000000000007_070200080300050000_000005010002000000_000607000001000000_000300000805060100_010000030006090000,
  0x020400090000030607_000700060300000000_090006070005010408_030900000500060001_000000000600040309_000000030000020800_000009000700080100_010500000006000000_000002040103050906,
  0x000000000000000100_060508000901030000_000300000004000000_000006000100070800_000000070009050200_070002080305000000_000709010008060300_020605000000000008_000801090500020007,
  0x050400000906080000_090000050200040600_000100070000000009_000001090300000402_000604000100000900_020009000407030108_000000000008000703_070300020000000500_040000010703020000,
  0x000805000907000000_000900080300000100_000103000000090008_000500040200000006_080002000006000300_000000000805010402_050000000700000000_060008000009000000_090000030000040607,
  0x000000000000000000_070301000900020000_090000000004030001_000009050002000000_000500030700000900_080703000000040000_000406000800000009_000008040300000207_020000000009000000,
  0x010000000000000400_000607000001000000_090000000805000000_080002050906030700_000009010408060002_000006030000000001_000000020004000600_000700000000020005_050008000000000009,
  0x010000080000070200_070004000000000000_080302060000000005_030900010604050700_000006000702000003_000107000000000009_060001000009000307_090200000008060504_000005020300090000,
  0x050702010800060904_060100070002080005_090308000000000701_000500000609040100_040201000508000000_080000040000050000_010800000207000400_000000080006070000_070005000300010800,
  0x010000080600000000_000008030002010000_000500070001000300_090000010000000000_050000000708040900_080300000000050106_000005090007000400_040002050000000009_030700000006000800,
  0x000400000205030006_050200000000000008_000609080307000200_000000000000060300_000800000001090000_000006000400080507_020004030800070009_070300090004000600_060900000502040803,
  0x090004030100000007_000607000502040109_010500000400000000_080005000004060702_000006050008000900_040000000000050000_050000040001090200_000400090605070308_060003020000010005,
  0x000000000006010309_000003070200080006_060400090301070005_000701040000060503_000800000700000901_000609000102000700_010006000507000804_000002000000050000_000507030008090002,
  0x000000020000030501_000002090104060000_010807000000000204_090200080000000103_000705000300000000_060003050200000700_070009060800010300_000000000900000000_030500070402000009,
  0x020400000900000806_000600000008000005_000008020000000300_080007090004050601_000005030607000009_060900080501030000_050106000309040208_040709010000060500_000002060005010900,
  0x000501070006000402_000200040300000000_030400020900060001_050102000000040000_060800010000000905_000900000008020100_000705030102000009_000309000007050204_020000000000000700,
  0x000000050000000003_060503090000040800_070009000003000006_000000080000090005_080001030000000400_000000000007060308_000900060004000700_050000010009000004_010408000300050000,
  0x000400030001080200_020900000007000000_000006040200090005_040005080000070000_000302000405060000_000000020006050304_060003000000000009_080201090504000607_090504000003000801,
  0x000100070500000000_000008040100000000_070005000608000000_040000000005000000_080000000709040602_030002060400090508_000000000900030800_000000000000010209_090000000200000007,
  0x000400000000010000_000000070200050904_020109040000070000_000300000608000500_060005000004030809_080904000703020100_090008010407060003_000000000900000401_000001080000090700,
  0x000000010006000400_040100000300000702_000203000000000108_000700000008000009_000500090703000006_000309000102040800_000408060000020900_050002000000000004_000007000904000305,
  0x000000000005000007_000602070900000000_050009040006000201_020300060008000705_070005000000000006_000800090000020000_000006000000000000_000400000702000000_000000010000030500,
  0x020008000701040005_000601000500000009_000000040000000100_030000060205000000_000005000000000306_000004010900050008_000003050009000200_070900000104000000_000500020000010004,
  0x060000000008000009_040900010006000800_010300020400000600_030006000007000501_000001000000000000_000200040900000306_020000090000050000_080000000002060003_050109070000040000,
  0x000002000900030107_000000000000000504_000100030405090002_020900040601000000_000300000500000000_000001080000040905_090000020104000700_040000000000000000_000500090003000008,
  0x000200090000000708_000000000600000400_000000000108000902_090002040300070000_000004000006090000_030006070900000500_000000000502040009_060000030800010000_020401000700000300,
  0x000500040000030709_070401080300000000_000003000000010800_010008070000000200_000705000000000100_000006010000050000_000000000900000000_030800050002000000_000600030100040905,
  0x000504020900000003_060300000000000000_000100040005000009_050000060400090000_030000000009000002_000906000000050700_000800000604010005_090000080102000007_000400050000000000,
  0x000603020800010005_000204000100060000_050800000600020403_000007000000000000_000006000000030501_000000040006000009_000709010400000300_030000000002000000_040000060700000000,
  0x000000000900000800_070100080200040000_020806000000090000_000000050009060007_000005020007000000_000700000300000000_090508040100070000_030000090000000008_000000000800030900,
  0x080602000007040000_000300020500060000_040007000006020000_020006070000000000_070800060200000000_010000000308000602_000000000602090003_000000050000000200_060200040800000500,
  0x000104080302090006_090203000600000804_000800000009030100_040900030708050201_000307000001060008_080500000200000300_010400050800020600_030608020904000005_000702000003000409,
  0x000005000601040000_000601080902050000_080203040507090100_050006020000080007_030800000006020000_000409000800060301_000008060009000002_090300000000070605_060002050003010800,
  0x050002010607000409_070601080004030502_000908030002070000_030000020809000006_000000070006020803_000000050301000907_000800000703060005_000709000005000000_020500000100000700,
  0x000000030000060900_000000000004050201_010004000600000000_000002000003080500_000006050400090000_000000000000030400_060005000200000803_000800000005000000_070200010000000005,
  0x000005000200070800_000003060500000400_000004000700060000_000000030000080009_030000000807000000_000400050100000000_080200000005030900_000000000301000008_050307000004000200,
  0x070800090304000602_050002070100030900_000000000200070801_000703000001000400_000105000700080006_000000030000000000_010900020000040000_000000000007000008_000007080003020100,
  0x070001000000090000_060004090200070001_000000070001000200_040002010000000709_080109060307020000_030700000400010800_050406030102000900_000007000008000000_000900000000000302,
  0x030007000000000000_000001000900000200_000000010008060304_000300070809040102_000000020300070000_000704050006000800_000400060000010000_010000080207000000_080003000401020000,
  0x000601080400090000_000800060000000700_020500000000080004_030005010900000002_080402030000000100_090100040002070000_050000000804000000_060300050700000908_000900000000040007,
  0x000308000009040200_090000000302070000_050700010004000803_080203060000000009_000000000901000304_040901030007000000_020005000000000001_030000000200060507_070006050003020008,
  0x040002010000000605_000001000007000000_080300050400000000_000004080003000000_000800000000010400_000600040701080900_000003090100040000_060100030004070000_000409070200000001,
  0x040000070008060002_080900000102070503_000007060003000800_050000010000080200_000000000009000000_010804020005000006_070501000006020008_000200000000040000_060000030001000009,
  0x000000050209000001_000000000407000002_000200080300040000_000108030500090200_030502070000000000_000000000000000305_060000000000070000_020000090605000400_000805000700000003,
  0x000900080003000702_020003010007050900_000706000009080100_050304000806090001_000001000300000608_000608090002030500_000002050000000000_000000000201000407_030007000900000800,
  0x010008000000000400_090000080106000000_000500000400000000_000001000002000800_080400010007000500_000209000008000000_040000090000000600_000105000000000907_060003000000040208,
  0x050001030000080407_070004090001000003_000000070000020000_060000000009000800_040500000000090306_030800000006010005_000300080000000000_000000000003070009_090700020500000008,
  0x000000090704000805_000005000106030400_070400080005090600_000508070000000300_040000000003000208_030600000000070109_050800030400000901_000304000900080000_000000000000000000,
  0x090000000508000004_050003000004090000_040807000203000106_000900000002000003_020004000300080000_000000040906000002_000000000000000000_000708000605010009_000509000000000200,
  0x000000000004080209_080002000600000400_000405080000010600_040308000200000007_060200070005040000_000500090008060000_000000010500030900_000006000903050000_000000040006000001,
  0x000000000000000000_030800050900020701_000000000004060503_050003070002000104_060200040003070905_000001000005000006_070400000008050602_010006020000090008_080002000409000307,
  0x000000040000030000_060100080700020509_000000000905010000_000200070000000305_000605030400090100_000008000509000002_020403000000000000_000900000200070400_080701090300000000,
  0x070000030105080906_090803070406050001_000006090800030000_020100000004070608_050007000000010409_000004010907000003_000701040503090802_040000020701060305_030205080609040107,
  0x070000010003000002_000001000008000503_000000000400000107_000200000000000806_060007000500010200_000000000800000000_010000000709050004_050700040301000600_000400000602000000,
  0x020605000300080000_000708020001030406_040103080000050009_010300000802040700_070004000000000000_000500000406000301_030009000008010000_000007010900000603_060401050200000008,
  0x080604000005030000_070009000008000000_000002000700000006_000007020000050000_000000000000000304_010003000800000702_000700000600000008_000000080100000600_000800040503000000,
  0x050004000003090000_000000090000000501_000900000000040008_010000080600070003_000000020007000100_000006000001000409_060000050300000800_070005040000000906_000208000106000000,
  0x000302010400000009_070000060000000000_040800000200000000_010000020004070000_000004050000000008_020000000600040501_080200000006000000_000106030002080004_000000070008000100,
  0x030007020000040000_000408000000020100_000000090008000003_000000000903010000_080200000001000000_000000080500090600_000006010800000500_000300050000000400_020805030000000000,
  0x000507000900000100_000800010604020000_000000000508030006_000100000200060300_080703060409050000_000000000300080407_000000000706000800_000608020000000500_070300090800010000,
  0x060200000900040108_030704060008050002_010009040002000300_000000000400020609_000306070000080501_080000010600030007_070403090000060200_090508000006010000_000601050700090003,
  0x000000030600000400_000000000005010608_000600000009070000_010500000900000007_060008000701040309_030000000402000006_000700000500000004_000000000000000500_050000000000060700,
  0x000003000907000504_080502000401000000_000704050302000006_030005040708000002_000801020009030600_020900010603050400_000000090005000301_050300000000080000_010200000806040700,
  0x040903000200060000_020001000006000000_000005090004080002_000207080900000400_000009020005000000_000000000007000203_000702030409000500_000004060700000009_000000000002000000,
  0x020009000005000000_050300010809040002_000000000300090500_080900050100030006_000501000000070900_000000030904050100_000603000008000407_000000000700000000_000000040000060309,
  0x020000000006000403_060700000004050000_090804000000010007_040301000702000000_050000000300000000_080902060001030005_000006090500000004_000409020003080500_030500040007000001,
  0x040300070000000000_000200000009000805_090005080000000403_000009000000080001_000100040007000000_080000000000020600_000801000000000006_000904000000000307_070500000001000208,
  0x000102030706000504_040005010200030907_030708090000060102_050401020809070600_020307050001090408_060809040300050200_010003070900040806_070200080400000309_080004060103020705,
  0x000705020008090106_000309000400020000_000102000006000003_000400000200000809_000008000009000000_000506040000000001_000900030102000007_000007000900040300_020603080004010000,
  0x000608000000000000_000300000006000002_000000000500000004_000004000001090005_000000040005000701_000905000000000000_000503010007000906_090201080600000000_060400050300000200,
  0x000007000009000302_000902080000000004_040000000000000007_000203070406010000_080400000102000006_000000090800000003_000600010004070008_000008000000000400_000004000908000005,
  0x040700090000020600_000300000706000900_000609020400050100_010800070009060304_050406010008090002_070000000200010000_030107040000080000_060000000000070009_000504000600030000,
  0x030007000502040001_000908000401000700_020001000800000500_000003000609080000_090006000004000107_040800020000030009_070009040000010308_080100000000000004_060300010908000000,
  0x000000000607010900_000000040000020000_000201000000040806_000008000000030005_020000050000070609_000300000900080104_000007000406000002_000903010005060000_000802030700000401,
  0x000800060203090001_060107000008020300_090000070000000804_020000050009030400_070000000104080602_000008000700010509_010000000000000000_080409000000050006_000000090002000000,
  0x000000000009020800_090008000002030007_070002050000090000_000600030007000902_050900000000000006_000000000900080300_060200010300040000_000004090506000000_000009000000060003,
  0x000000000000000800_000005020004070300_010000000000060900_000006000500080007_000000000006050009_040009070200030000_000901040605000003_000300080902000000_060200000700000508,
  0x000206030900040705_000009000000000803_030800020007090600_000100050006000209_000002090000010008_090008000203000000_020405060009000100_000900080002030504_080001070005060902,
  0x070603090400000000_000900070000060500_050000030100090000_080100050709000006_000504000001070900_090007080600020005_010000040007030209_030009060800000401_020005010900000600,
  0x080000000000000703_000306000904000201_010900030000000000_050007000300000609_090003000005000000_000804000100030500_000009080600050000_000008070401020000_000000090502070300,
  0x000000090000040000_020600000700000000_000700030000060802_000003000000000500_000207000001000003_050000000003020007_060502000400030000_000300000800000204_000008010000050900,
  0x000000000005000003_030600000802000000_090200000007080500_060300000400000000_000104000700000608_080509000000010000_040000020000050900_000906000000000000_000002030000000801,
  0x020400000803090106_070800000006020000_030600000200000000_000206000407000900_000000050008030602_000100000002070400_000302000004000000_000000000701060300_010700000009080000,
  0x000000000200060009_090000060104000300_020000050907010004_000100000600050000_000407020500030008_000008000301000006_000009000800000000_080600000000000000_070003000402000600,
  0x040607020800030109_090100070000040502_000503000000080607_070302080001050006_050400030709020801_000000050602070003_060200040507000308_030705010000060204_010004000203000705,
  0x090008040000050102_060500000007000000_000300000000070604_000000000400000009_000900000301000005_030200000900000400_000100030800000900_020803000006000001_000409020000000008,
  0x080000000000000003_000000080002010600_040000000705000000_000500000100000007_000000000600020005_000009000004030006_020000090800000000_090400000206070008_070608000000090500,
  0x000008000205040000_000000080001000302_010006000007090008_000009000000070801_050004000003000906_000000000008000005_000000070000000009_090100020000000003_000000000100000700,
  0x080600000703000900_030000090100070000_000100060800020305_000000070006000002_000006020900000004_020504000300060000_050000040008010203_060308010209050407_000201000007000800,
  0x000600010009040000_000100000400000700_040003000500000000_000000000900070000_000506000104000000_000401030802000000_010000000700080006_020705000000000003_000300000000000900,
  0x070003000600000005_000000010000000003_050609000004000000_000002000006000004_000300070001000600_000000040300000007_000000000003000200_000000000107000009_090804000000030001,
  0x060509010004020008_030000020000010000_000701000600000009_000906070000080005_050400080000000000_000007050100000004_000000000500060701_000005000000000000_090100000800040000,
  0x070000000000060508_020000000600000000_080605070003000000_050204000000010906_000000090501070000_010000060200080005_000100050000040600_000300020400050100_040502010706030000,
  0x050400000600080900_090806070004020003_010300000809060000_070009000005000302_000008010300000600_000004000000050000_000700040500000208_080900000700030006_000200000900070000,
  0x020000010000000000_090008060000020300_000600000009010400_060800000000030000_050000000000080000_010400080603000900_000006000807090201_040000020005000006_000000000106000000,
  0x000103070500000008_080600000400000900_070000000800000605_000800000000090004_000302000001080506_000000080604030001_030000020000050007_000900040005000000_000000000100040000]
theorem mixed_34_ok : mixed_34.all fastOK = true := chunkOK_sound _ (by decide +kernel)

/-- `mixed` (10000_mixed_puzzles.npy), boards 8750..8999 -/
def mixed_35 : List Nat := [
  0x000200000003000000_000000040900060703_000700000000000001_040007010305090006_000002000704000005_000000020000080007_070000060201000009_000600030500000800_000001000008070600,
  0x010000000000000300_000308000000010000_050000000000040000_000903000002000107_000800000000000000_000001030004020006_000205060009000400_000000000207000000_000100000003090800,
  0x050003000000070000_000006000008000402_040900000006050000_000601050200040000_000009000100020000_020000000000000000_000005060000000104_000107000000000009_000000000301000007,
  0x000203010000000007_000800000200050009_060504000009010300_000000030900000000_000109000702040000_020300000000070000_050600000000000204_000000000007080000_000900000600000000,
  0x040100000000030005_080002000000000000_000000000000000807_000007000005000000_000401020800000500_060800000700010009_000200080601050900_000508000002060004_000003000000000000,
  0x070800000300000000_090002000100000800_000000080400070001_000307000000000100_000005000001080000_000600000008000700_030000000200000400_000000050007000000_000000000800020900,
  0x000601000003000409_000004090007030001_000309080001070000_000000060709010500_050006010800000300_000100000000000806_040703020105060008_000000000006050000_060005000300020000,
  0x000000010004000708_000800000000000009_000000000000030500_080900020700010300_000007040003000800_000000080109000400_000006090000000204_000501000400000900_090400000000070001,
  0x000900080507010003_000307020106050900_050106030409080200_000600000200000308_030000010900000006_070200000300040105_000402050001000800_010500000000000000_090703040000000501,
  0x050604010003020700_080007000002000604_000000000400030500_060800000001090302_000000000609000000_070903080205060401_010002000506000003_000506090108000200_090708020304050006,
  0x060002090000080001_010800020000000300_000400070000000600_080009000306050007_000600000009000000_030705010008090000_020000060000010000_050006030900000200_070004000100000000,
  0x000002000800000005_050000090006000400_000000010500000000_000200060000090000_010500030700080000_000700050000010000_020603000000000001_070400000000050002_080000000001070006,
  0x000100000000000905_040007090005010300_090005010706000200_000609000000000004_020804030600090000_070000080000000000_050900000008030100_000702000100000000_010003060200000807,
  0x000901000000000406_000000040006000008_070004000902000003_050000090000000300_060000050307000004_000000000000000907_000000000209000800_000100000700040200_090700010008000005,
  0x070005000000030004_000000000405000000_000000000002000500_000000090507010806_000000020001040000_000509080600070000_000308000906050000_000700000003000408_000600010000090200,
  0x000000000806020100_000104000000000500_030200000500000409_070902080600000005_000605090400000001_000300020700090000_090806050002030000_000000070004000006_010007060308000902,
  0x060005010000030802_000308020009000006_070400030000000905_000200090300080001_000000000206000500_050709000000060000_020600000000050000_000004000701000308_030801000900040607,
  0x000000080009000703_090000000301000504_000008050002000006_070006020500040000_000400000600000000_030000000000000800_020703090000050400_000004000007010009_060100040000000007,
  0x000007030608050000_000006000002080000_080500040000030007_000000000500020706_000604070003000000_050700000100000003_060900000000070004_000003000400060005_040000060207000008,
  0x090608010200000007_070000000600000000_030100000005000206_020407050000000001_000000030406070902_000009000000000004_010703000000000000_000205000901040703_000000000002000100,
  0x000100000600030905_000002000003070801_000500000107020006_000000060000000000_050004070008090000_080300000400000000_010200030009040000_000806000002000000_000900040000000700,
  0x000400000605000208_070300010204000506_000000000308000000_060000050000080104_000000030006050700_040000000001000302_020005060000000800_090004000000070605_030006040007020000,
  0x030008060000050004_000000000000000008_090000000400030000_040900000806000700_080003000002000500_000602000500000003_000000000000080000_000006080100090305_050800000004020000,
  0x000309040000070006_000700000000000000_060800070009050400_010000090700000005_000004000600020000_000600000400030900_000403010907000500_000000000504090702_000000080206010304,
  0x030004050600000009_000006070002000504_050002030900000801_000009000003000006_060000000008020403_020307000405000008_000000000000010900_000000000000000600_000008000206000007,
  0x010900000400070006_020004000706030001_000007000000000904_000000040507080600_000000060801090300_060700000003000000_000109070000060000_000200000000050000_000500000000000100,
  0x090300010006020000_020801000000000003_000000090300000700_050902080000030104_000000000000080506_060408000005000000_000206000701000009_070000020003000000_030000060408000007,
  0x000000000000000400_090006040801020000_000000000005000108_080000010003000007_000000070400000201_010400000206050309_000609000000000004_000200000908070500_000000000000030000,
  0x000400000300090006_060903000000000700_070002000008000000_000100030009060000_000000020704080000_000209050106070300_090801000200000600_000006000500000900_000700000601000000,
  0x000000070302000000_000003000804000002_000100050900040003_000905000000000004_060208030400090500_000700000000060300_020000080003000007_080500090200000000_010300040005080209,
  0x000000000408000007_000107030200050004_050600000109000000_000005000000090400_040000000900000005_000800000503000100_000406020000000500_000502000000060008_000308010005040009,
  0x000004000008090100_000000000500020300_000700000200000500_000905070400060200_070006000000010000_040000050601000700_000100000004050802_050007000006040001_090408000105000003,
  0x050004000000000207_080600000005000009_030900070801040500_000400030900000608_020008010000090700_000006040000010000_000200000000060803_000003000104000002_070809000002050001,
  0x000007000601000200_000200040007010005_010000000002070000_000000080000020409_070004000009000800_000002000003000000_040008060100000302_050300000004080100_000900000008000006,
  0x040203080000000006_090000000506010004_000000000000020000_080002000007030400_030704000000000602_050000000003070008_070008010902000500_060000070400080001_000000000000000000,
  0x000600000208000004_000000000000010700_080407050001000902_000000000009000400_060000000000090003_010309000000070600_030200000700000000_040906000000000800_070000080400000009,
  0x080600010700000000_000400000800060000_000703000002000005_000000050006070003_030500000009000001_000801070300090500_000300020007010000_000004000900050200_090006000500000700,
  0x000105060204090008_040000030007000000_000800000100000600_000509040000000800_060000020900030004_000004080601070005_080000090000000703_000200070408000006_000600010302000409,
  0x000009030000050000_000004070000020006_000200000004000000_040605000903000200_010007020000090500_000008000700060000_000000050007000600_050000000001030907_000002000006040000,
  0x000008030600090007_000600080405020001_020304000001050600_090000000500000800_060007040000000000_000503000000040709_000700020903000000_000000070004060900_000900050000070204,
  0x010906000000040208_000702090100030005_000400000002000007_070008030600050904_000301000905020800_050609040008000003_000004000700000301_060107000500000400_000003010400070000,
  0x000702000000040908_040000070000000100_090001000408000000_000400050000090000_020000000600000000_070000090204000000_000004010300050007_000005060000030002_000600040000010800,
  0x020104000800070000_060503040009020000_090000000100000000_080000000907010004_070000000000000206_000406050302000700_040009080000050000_030000070004090000_000200090600040800,
  0x000000090001000407_000904000000000000_060000020000000803_040701050200000908_050206080300000000_030800000000020005_010408030605070200_000000070400000300_070302010000000506,
  0x070008000000000001_040000000000050000_010900000200000800_050000000009000003_000006000000000905_030100060000080204_060800000000000002_020500080604090307_090700050002010008,
  0x040605000200000008_000000010005000009_010209040800000700_050400000001000800_000000060008030001_060008000402090000_080500000306070000_000300000000000605_000706050004080003,
  0x070104030800000200_020903010000000400_060000020704000000_040000050900000100_030200000106070008_000800070000000900_000700000001090000_080406090503020000_090000000200000805,
  0x000000020106000800_010000000008000000_080000070009050001_070904000600080003_060000080005000009_050300040007020100_000006090000010000_030800050000000204_000500060000090000,
  0x000600000503070209_020900060708000000_000007000000060008_000008090000000000_000100080000090600_060209000000000001_000805040002010907_000706030000020005_010002000007000306,
  0x090100000703020605_030004000602000100_000700000901080403_040009070300050001_000301000800060700_080007000000030000_070000030100090000_020000090004000000_010903000000000508,
  0x030905000100000000_080000050600000900_000006040309000005_000300000000040000_000009000704000000_040000000903050608_000604000205000107_000000000400000200_000200000007000000,
  0x080100000005090602_060000000000070000_000000000200080105_000408000000000006_010006090000000000_000900020000010007_000801070500060009_000700010009040308_000009000000050000,
  0x000000070005030900_000007000600000004_090200000400000600_030409000000000506_070601050000000403_000508060304000107_060900010807040305_000103040200060708_080004000006010209,
  0x060000070000000000_000007060000000300_000003040008000206_010000000700000002_080000020009000000_020700030006010000_090600000207080100_070000000000020005_030500000004060000,
  0x000705000000000604_090000000603050100_030604000700000000_040007010309060800_080006070000010003_020300060004000900_000000080006000009_000000000400000500_060002090007000300,
  0x020005000800000600_000908050402000701_010003070000000500_000506000000010800_000001000508070003_080007010200060005_000809000100050300_000100000605080000_050002080703000109,
  0x000500000701000800_000000060503000000_000001040000060503_010300000007090408_000400010009030006_060900030000000000_000003080105000900_000000000300080000_000000000000040305,
  0x080300090000000200_020000010400030806_000400000000000000_040007060003000905_000203070000060008_060000000200000003_000000050001000700_000704020000050001_000805030000090002,
  0x030006070509020400_040900020100070500_000700000000000301_070002080000050109_080604000900000207_090501030207000600_050407000802000900_060800050300040002_010203090704000000,
  0x080001000700040000_090400000800000305_070500040000000000_000000000400000000_000000000008010204_060000090000000000_000600080300000000_010700000609000000_040300010000090006,
  0x000000090000050000_000409000001000602_000000000007090004_000300000605080009_010600040700000000_070900030008000001_080104000002030000_090700000800000200_000006070103000008,
  0x000002030400070800_040800090005060201_010007000208000005_020001000900080003_000509040300020000_000706080100000900_070305000000000602_000200000600000500_060100020000040307,
  0x000301020000070600_050907060800000103_000008000700000000_000003010500000000_060405000009000700_090002000007000800_010509000000000006_030000000108050000_080004000006000000,
  0x000000050002090007_000905000007000300_000000000000080500_020400030005000000_000006040209000003_000700060008020005_070008000500000000_000009000800050000_040000010000030000,
  0x080003010500040009_020004000300010500_070005000004080003_000006070000050304_010408000605000702_030507090400060800_060000040008070905_040000000000020106_050002060100000400,
  0x030009060000000004_040500000203010006_000000000408000000_080003000900070001_000704080302000009_000906000000030200_000000000507000900_000000000000000107_070005030009000002,
  0x050408010900060302_000209000300000008_060300000500040100_000000020708000004_040000030609010000_090000050001080600_000000090800000001_000900000100000805_000501040203000900,
  0x000708060004050903_010000090500080000_030905070008000000_090100020000040800_060802000907000300_050000010006000007_000009000002000000_000000050000030008_000003080701020609,
  0x030000020106050908_060800070000000302_000000030008000406_000000000000000009_020903000605080007_070600090000000000_050000060001040200_040000080203000705_090000000700000800,
  0x030604000905000700_000000000000000000_010002000006000000_000000000000000000_050307000001090000_020009080500000100_040003000007000009_000700030400010508_000000000000000003,
  0x000207000908040503_010908000000000600_030504060702080901_000003000205000109_080705030100000004_020009040607050308_050006070801090002_070400090006010005_000800000504030006,
  0x060702000400000500_000004000000000006_000508060300000004_000000010004060300_000400000700000205_070903050200000000_000000000009000000_000000070005000002_000600030800050109,
  0x000000000206000008_020005040907030000_090000000000040002_040000000500020007_010903020700000800_070500080000010400_000009070000000204_050400060802000100_060000030009000005,
  0x040503070900000801_000706000800030000_000000010006000504_000005060000090300_000000000009010605_000000000700000208_050004090203000700_000607080500000000_090002000000000103,
  0x070004000005030002_000005020300040700_010300000409000006_020000030706080000_060709000000020300_040800010900070005_030400050107000000_090200080004000500_000008090000060407,
  0x050704060000010002_000000000000000006_000006030702000800_080007000000090005_000009050600000400_040503090200000000_030000020500060008_000005000000000103_000002000103040500,
  0x000000030008000401_000405000600000008_000006070000030000_050000000709020000_060900000800000007_000702050006040000_040000080200000000_090500000100000004_000000090000000006,
  0x040000010003060509_030200080009000007_000100000705030002_000003000000000708_000902050400000003_070601030008050004_060500090300070001_010709060804020305_000304070501080000,
  0x000009000004000007_000000080000000000_000004000706000000_000200090008000703_000000030100020009_000700020000080000_070900000000040005_080000000000000300_060000000002000800,
  0x000000000600070000_050003000000080000_000700000205010000_000800010400030009_090000000306000000_000204000900000001_000000060000020800_070902030000000100_000000000507000300,
  0x050908000300020000_000200090007000300_000000000000080000_000100000900000508_000000020006000100_000400000100000602_010300000005060200_020600030709000801_000507060000040903,
  0x020000000805040601_040000000000080000_080600030402000000_050208000706010000_010903000008060407_000000000309000508_090000080504000106_030000020007000800_000804000003000002,
  0x080000060300000000_090400000700080200_050000000800010004_000108040203050000_000000070506000001_000500000000040307_000005090000060002_000607050408000009_000900000002070008,
  0x050300040700000200_020600000509040000_070008060001030500_040102080600090300_000506000004000800_000800010300000004_000005000000000102_000000000007080000_010204000006000003,
  0x000001080007000200_000008000905070000_050007000006000001_000000020000000307_000000000601000000_090006050003000100_000002090500000706_070000000300000009_030000070000080500,
  0x000806000000050000_090000000200000000_000701090000000000_060500000900000708_000903000000020504_010208050704000000_050100060000000000_000400010805090007_000600000409000105,
  0x000407000000060000_010506000003000000_000000070000000201_000002000000000500_090304050000000000_000000000000090604_080000000309010706_000603000107000900_000900060200040000,
  0x000000020907000001_020005010000000000_070100000006000804_010000000000000306_000804000003000200_000000000708000009_060000090400050103_000000080000000002_000002000000040008,
  0x090104000205000703_000305000607040000_000000000300000500_000008020400070001_000702000801090305_030600000700080004_000007000008010002_000000070102000400_000000040000050000,
  0x000300000000000807_000004000307000602_000000060100000400_030201000500000009_000009000201060000_000000090703000005_020003000600070000_060000070004000000_010000000900040006,
  0x000000080000000900_000708000000010003_000300000002080000_000200040006050000_080006020900000000_000001000300000000_040000000000030600_070102030000090005_060000010008020000,
  0x090007000608000400_000403000700000500_080200000100060007_050700020006040308_020308040500000106_000900000803000700_010804000200050000_030002060001070009_000609080000010000,
  0x040600090702000501_000007050001000000_050100060003000207_060000000000000900_000000000009000800_070000000108000300_090004010005060008_010300000000000405_000700000006000009,
  0x040003000800070500_010007000403000000_000509000602040003_000700000005090001_090405010007030608_020301000000050400_000106020009080000_050002080000000306_070804030106000005,
  0x060000090700000203_000003050002000900_000700040000000800_000900020006000105_000801000904060000_000000000500000009_000000000009020000_070209060805000000_010000000200000508,
  0x000602030700090408_000400000008000700_000000040000000000_050307000000000900_000000050201000003_000008090007000004_000000010002080007_000003080400060000_060001000000000000,
  0x000108000000040000_060700040009000301_040900000107060508_010000070004000005_090007000000000000_000004080600000003_000001090000000004_050300000400000007_000400000506000000,
  0x000007000001000004_000806020005030000_040001000000000602_000609080002000003_000305070000000000_080402090103000706_000904010006070308_060003000908040001_000108040300060000,
  0x030900050006020000_000000040900000008_000700020003010000_000603000000000005_070009030000080200_020800090000060003_060007000008050000_080002000000000006_000005000400000000,
  0x000005090000000204_000802000400000009_000000050200010000_000000030000060002_050603010000000000_020107000000000508_000500000007020000_000000060300000005_000004000000070001,
  0x090603000207000008_000000000405020900_000000000600000007_000005000100070004_000006080000000000_000000000900000000_030708000000090600_060001000300080200_000000000000000703,
  0x000600000004000000_010000000907000500_050200030801040007_080305000100000000_000000000009010306_000000070403000800_020900010005060003_000000090008000001_000001040300050908,
  0x020000000009060008_000100000800000000_040300000000090700_000002080006000400_000006040307000102_050400090001070800_030000000000000500_080000060700010900_070000030000020000,
  0x010000000000030002_000000090600000105_000000030002000000_050800000000000006_000000000705000300_090203060000000700_000002070000040008_070000050400060203_030009000006000500,
  0x000000020009010006_090201070000050300_000008030500070000_000100000200030608_060002000100000907_070804000903000000_000406000302090000_000000000004080000_000005000000000000,
  0x000503000001040006_040900000700000800_070600000003000905_000000000504000300_050009010000000608_000108060007000000_090000000008060000_010800000005090400_000200070109000003,
  0x040501000703000000_060000000802000000_080700050000030409_000000070600050900_000000000009000000_020000000000040601_070000000000000000_000000000005000706_010005060000090300,
  0x090700000003000000_000008040005000000_040500000000000002_020005000000000000_070009000300040206_060100090000000008_000000030600090000_050000020009030800_030000000504000607,
  0x000000000005020007_000003000900000800_020100070608000300_000700030006000009_090000000000000405_030000000004000000_000300000100000000_010002050400000600_040805000200000000,
  0x060708090104050000_000002060800000900_050900000200040006_090100000000030600_000003000009000408_080005000006090700_020807050900060104_010506080402000000_000400070601000502,
  0x040600000308010000_000000000500080000_000801000006000000_050400000007000300_080000030005060200_000300000000000508_000008090702000000_020900010000070000_010703050800000906,
  0x090407000800000000_000600040000080709_020005000000040106_060001000000000008_080902000003000600_000004000900000200_000500090700000400_000100000002090800_000009000004000001,
  0x000000000300000000_050301000000000400_000000070000010000_080002000100000000_010600000400080003_090003080000000000_060000050703000001_000200040901000800_000004020008050007,
  0x020007000003000400_000500070000090301_000009000000000000_060901000004000007_000000000000000000_080002030000010900_000003000001000002_000000000405000000_070100060302080009,
  0x000103000900060400_060900050000000000_020500040003090000_000009000000080300_000000000300000900_030408060200000007_070805000106040200_000001000000000800_000002090000050600,
  0x000400010008000003_060000050300000100_000100000006050700_080004030005000000_010605020000080300_000300080609010000_090200070000040501_000501090002000807_000008000000030000,
  0x070000000300000200_010208000000000005_000000010502090807_000300090805040002_000000000000000300_000400000700080000_000000000200000000_020700000600000908_030906080000000000,
  0x080006000000020000_070900000000000806_000400060100000000_000103090002060000_000600000005000300_000000030006000200_000300020601090708_000000000504000600_000008070000000001,
  0x000804000300010000_000200000000030807_000107000002000000_070300020100000000_080402060007000100_050000030900070008_000703010205000006_000000000000000705_020000090000000301,
  0x000000000200030000_000704080900000000_020001000004000000_000400030008000200_000006000000000904_010205040000000803_000000000006000000_040009010802060000_000002000403090000,
  0x000304000000000209_090206000004070000_000107000009000003_020000040900000000_000001050003020900_000509060100000000_030905000407000000_060000010200090007_000002090300000005,
  0x000006020408010005_040803010605000902_000001030709000008_000000000000030809_030708090004050601_090605000301020004_000407000902080000_050109000003040000_080302000007090506,
  0x050301060800000007_080002090000000005_060000000503020801_000000000000070000_010200050400000000_090006000008050400_030000000000000009_000105030900000000_070000080000000503,
  0x060000020700040000_090000000400000307_070004090006000005_030600000800000002_050800000102090400_000401000903000608_000006030200000500_000903000004020006_080205000009000704,
  0x090003000001060400_000005000402000007_040000060009010000_020004070008000000_010006020000000800_030500090006000004_080000000203000709_000002000000000106_070400010600020008,
  0x090000000800010000_000002040100030000_010400000009000000_040900020000060005_000200000006040801_000600000504020000_000000090005000100_000800010000050000_050000070300090000,
  0x000003020000050407_060008000500010000_020504010907000008_000806000000000104_040009000005070302_000302090001080000_090205080100000003_000407000002060900_030601000000000800,
  0x030000000801000000_000709000000000800_010000030900000007_090000000700000600_000000040600050002_000001000200030700_050000000000070000_080000090305000000_040906000007080000,
  0x000000070209010508_050800060103040900_090200040500060307_000000010000000009_070009000804020003_040006090002070800_000003000407080000_010000000605090204_020005080000030006,
  0x000003070000000100_050709060000000002_000000000300070006_000200000100090600_000000000000000000_000906080000000000_000002000000000900_000005040000060300_000604000700080000,
  0x000000000000000907_000000000607000205_070901000500080600_090006040200000008_030000050006090000_000704010000000000_010309000000060800_000400060000030700_000007030800050004,
  0x010000070800020900_020000030000000500_000009000000000607_000000020704000000_060005080001000000_070400050000090000_000906000007000000_000701060200000000_080300000405000001,
  0x010700000009080000_000500010000000007_000306040700000005_050000000100000000_030001050004000000_040900030200060500_090400020301000806_000003080000000009_000000090400000203,
  0x000002010700000904_010008000000000000_000400000200060000_000000000000020600_040709000600000300_000001000007000000_030004000000000200_090006020005000400_020000040301090006,
  0x000005080002060007_020003000000090500_000008050900000302_000506000800000901_000902060000000800_030000000000000604_000607000000040005_000200070000000000_000000000500000706,
  0x000109060000000003_060000080000000009_000000070100000405_000700040001000000_000000000800000000_000900000200000008_000308090700000206_090000000000070000_020000000600000000,
  0x080506010003000700_090201050700000300_000700020000000506_070000000000000100_030008000001000007_050102000300080904_000000000600000000_000004000508000009_000000000100000005,
  0x030000020904000000_000700000805000203_000500000000080000_070008060209000305_000203050400000809_050900080001000000_080405000100020907_020009000700000601_000000090002000400,
  0x050103000400070000_090804000000000301_000000000005080000_030902010000000500_000500020000000000_000008000609000003_000000000702090000_000609080500030000_080007060000020100,
  0x080201090007030006_000900000000000800_000503000001040709_090300070000000408_000800000903000007_000702080500000900_020000000009000000_000609000000000004_050408000000090000,
  0x000000000700090000_000307000009040000_020000060500000000_090700050000000000_060200040900030708_000401000000050200_000000010406070900_000906000805000003_070000000000010800,
  0x070400000200050000_030200070004060801_000000030005000000_000700000000000000_000000000000000004_040000060107000002_090600000002070000_000000040000020309_010300000009080406,
  0x010706000000000000_000800070000000001_040000000906000800_000000000600070000_090600040700000003_030100080000020400_000004000100060900_000300090005010002_000000000002040300,
  0x000000000703080501_070102000000090304_030500090100070602_000700030600000800_000609080000050700_000203000907040006_060007000205010000_050800010300060007_020901070806000400,
  0x030000070400060500_000500010308000000_000400000506000003_050700000000010009_000003000004000007_020004000100080000_000100090805000004_040307060201090005_000000040000000600,
  0x000900080500000200_080502000000060307_060401000000050000_010208050004000000_030004000609000000_000605020000070104_040000000008010700_000807000000000000_050006040000000803,
  0x030900020000080100_000800000903060000_070000000408000005_000000090600050401_000400000001070600_010609040500000008_020000000000090806_000004070000010500_000000000205040700,
  0x050300000007000809_000004050009000706_070809000000000000_060500000002080907_030000000008060004_000000090006000005_080000000000090003_000100060003000508_090003080000070601,
  0x010200000000000004_000000040000000000_000409000002050603_050000020107030806_000600000000070002_000002000600000001_000005000900060200_000100060000000000_000700080203000005,
  0x000700000009080600_000800000005070000_030000080400090005_000005000902000700_000000000000000000_020000000300040500_070200000500000009_000508090703060402_090004020000050007,
  0x000000000204000000_030002080607090000_040000000900000603_000000010800060900_090200070500000400_000000000009010500_000000090700000000_010007040000050206_000304060102070000,
  0x000000000000000200_000002000300000109_040008000000070500_000900000200000004_050400070000000302_020800060000010700_010500000000030000_080604010000000907_000000000608050001,
  0x000900000000050002_000000000001000000_080100000003000006_010300020005000700_000500000407000008_040000000006000001_070000080600000400_030000000004000000_000400000500060000,
  0x030000060000040705_070200000500000003_040000000000080200_000903000000000500_020700000605000809_000001000000030006_000002040000050000_080400000009000000_090600050003020000,
  0x000306080500000201_090800000301000000_000000000000070000_000200050000000000_060500000200040003_040903000000000105_000705000000010000_080000000000000002_020100090805030000,
  0x050904000607030108_070803040005060209_010206030908050407_030009060801000502_000501070204000903_080402000309010006_020307010400000005_090105000003020604_040608090502070301,
  0x070100000000000005_000906000000070108_050000060700090300_000000000308000506_030608040502000907_000000000100080200_000700000904020600_000309000207050000_010000080605000009,
  0x000800020000060009_050900080004070001_000207090006000403_000000000809020000_000709000000010000_000002030000050004_000003070000090000_090008050000000000_000000060000030005,
  0x000003020104000000_060108030000000000_070000000000090003_010500040209000700_040000000003020000_030700010800000009_000001000000000007_000000000002010004_080300000400000900,
  0x000600000001030500_020000000500010006_050100030900000200_000400080000000001_000800000705020300_030006010002000000_010203000004090005_080700000000000000_000004000208000003,
  0x050000020000000700_000408070106000000_000106000003000000_010200000600000400_040000000902000006_000005010008000200_080301040000090002_000500060200080300_060002000309000000,
  0x000005070900040001_080200040006090005_070009000000030000_010802000604000300_000607000000000000_000000080200010006_000000000001080004_000000090400000000_000006000708000900,
  0x000600000000090000_010002000000000003_000400030001000000_070506080000000000_000008020300050900_020903010000000807_000700000100020300_080304070000010609_000000000003000400,
  0x060107090305040800_000300000004000600_000000000106030005_090500000600020000_000408010003070006_030006000008010000_040609070501000203_000005030000060004_000003000402000007,
  0x000005020100090800_000000000003040201_000100000000000000_000700010002050000_000400000000000009_020500090406000008_050000030200010004_070204060000080300_000800000007060000,
  0x090003060000040702_000000020000000009_070002000800010000_000008000500000304_030709000601000000_000000030000070100_020000000003060000_080007000206030400_040300050700080200,
  0x000408070509000200_030000010000070408_000006040300000000_000800000406020000_000000000005080001_090607000800040003_000900000000050000_080000000003090000_040003050007000000,
  0x070002080000010005_080900000401060300_060301090500000004_040000000908050200_030500000200090001_020100000300000600_000704020000030000_000803000004020509_090006000105000407,
  0x000000000701000906_030001000900000408_000000050800070200_000800000509020600_000000000304000000_000305000102000704_040900010000000000_000602000000000007_000107090608000302,
  0x010009030800040000_030700000002050001_050000000704000003_000405020300070009_060300000007000000_070902040108000506_090107000000080000_020503080000010700_000006070200090005,
  0x010600000000000000_000809070302050001_050000000000080000_080006030009000400_030000000800000006_000904000000030000_000308040000060000_000700020000000508_000400000900000703,
  0x000000000001000000_000008040200070000_050300090000080000_000000000006000008_080007020003000000_000500000100020300_090800000704000200_030704000800090000_000601000009040800,
  0x000806040001000500_040000080007000006_070000020600000000_000007010008050002_050201000000090708_000600070000000300_000702000004000805_000500000702010900_010004050800060007,
  0x000700030000000000_010005000200000804_040903000000060700_000009010000000006_020300000409000100_000104000000000000_000000060003000001_060008020000000009_030001000900020007,
  0x000900010007000300_030005000006040700_000000000300090602_000300000408020509_070000000005010006_000509000601000400_050103080700000000_020608040500070000_000000000000080000,
  0x030007050109080604_000806030700090105_010009040608070203_050400060901020708_000601080307040509_090700000400060301_080104070506000000_000305000000000000_060002000803000400,
  0x070100030000090408_000002000809000000_030008040601000000_000000000400010000_040503090000000006_060001000000070904_000000010000080009_090000060003040000_000300080005000007,
  0x010009070000000005_000004000006010000_000000000002000400_000000000005000000_000006020100000503_090100000307000200_000600000000090304_040007000203050106_000900040600080002,
  0x050000000000020003_000600050000000001_000007020401090000_000905000108000207_060102000900000500_070000030205060000_000006000304050900_090003010500080700_040000000000000306,
  0x000104000508020000_000000000009000000_000000060000010008_090006080000000300_040800090703050602_000302040600080100_000400020000030000_050009030801060200_060203050400090001,
  0x020300080500010609_000000000300000000_000905000000000802_000709050103040200_040000000008000000_010000040000000005_000007010900000300_030000070000020001_000008000006050000,
  0x090000020300070800_050603000000000402_000700010004090300_000007000103060000_000008000000050003_000200000800040901_000000000601000504_060000000207000009_000005040908000600,
  0x010000000000080002_060002000108090000_090003020000040000_050000010400000700_080007000005000004_020000000700000900_070000050000030800_040600070309000001_000005060800070009,
  0x060000000000070002_090001060200000805_020000000003060400_000902040000080007_080000050300000000_000004070900050200_030005020807090604_040809000605020000_070000030400000500,
  0x020803000100070000_000006070000010500_070000090400080602_080009000000000000_000600010500000008_000002060700090301_090004000007050000_000000000901030000_010008000005040009,
  0x000300080002000000_000700000106000008_020006000500000004_000100020000050700_030405000908000200_000200050300000400_070000000400000000_040000060800030000_080601000200000907,
  0x020007000000000300_060001000700000805_000005000108000907_000304000001050000_050600000007090000_010008090300000200_000009070000000400_070500000400000609_000100080903000000,
  0x000006070802030904_000008050000070002_000007010900080000_080009000700050000_000400080201000600_010002000509040007_000001090405020000_000003020107000400_000504030008000000,
  0x090208070001050006_000300000000040800_000400060000000109_000009000000000204_000001020000000600_060800000009000000_000005030900080400_000904010800070000_000000050700000000,
  0x000400000300010500_000800000000020007_090100080700000600_040008030601050200_000300000402000700_020906070008000001_000009010200000000_080201000900000300_000000060000000100,
  0x030009040600000200_080205010709040003_070006020300090108_060801050402030709_040507090103000806_000900000806050401_050000080007010304_000300060201080000_000708000000060002,
  0x000200050006080000_000000000103090204_000009000008000005_050803000200000709_000400030700000500_070000000000060000_000304000007000000_060008000300070000_000000080004000006,
  0x010000070200000600_000004000000010700_080000000000000409_000000000000000300_000000040607050000_040007030005080906_090001080000000003_000802050403090100_070005010000000002,
  0x000507000003000400_010000090605000000_000000010700080000_090200060401000000_000100000000030009_000700020000010000_050008070000000000_020000000000060007_070300000100020000,
  0x070201050400080900_050300070109040002_000904000008000000_090600080700020401_040100020903060508_080502010600030009_030000000501090207_010700060300050804_020005090807000006,
  0x000409080002070501_080502000703000000_010600090004030000_000805000000040703_070900030408000000_040103070005060009_050308000907010004_060204050000000900_000700040800020000,
  0x050002080900000006_000900000000080200_040300000106090007_000800090005000000_000700000200000000_000001070608050003_010600000300000708_030007040000000000_080209060700000405,
  0x000207000008030900_030006070400080500_040000050002070600_060000000700020805_070000090800000300_010000060203090400_000501000000060000_090700030106050200_000003020007000000,
  0x000007010500060309_000500020000000408_000009000400020500_050008030100090700_040001000007000000_000702040600000000_070000000004000906_080100090300040000_090000060001050000,
  0x060500090704010800_000700000001060004_080400000600030009_070609040000050203_030005020900070401_020104000500090600_050900000407020306_040007060309080005_000006000205040900,
  0x000700000006050000_090801070500060203_020500030000040007_070209060001080000_080104000000020006_000000000008090001_000400090003010608_000007010802030504_010000000000070900,
  0x000504010000030900_000003000409000105_000200050306000000_010008020003000009_000000060908010700_000709000500080000_050000090000070002_040007000602090008_030002000000060000,
  0x010200090007000304_000700040200000508_000300050000090200_060903000000040005_020000060400030709_000007000109020806_000409000302000000_050800000000000403_030000070004000000,
  0x010207080000090500_000003000001000000_000000090000010706_000000040008060005_000400000003070000_080000000200000004_000008000700000001_020004030000050607_000709000005020308,
  0x000003070406050008_050000020008070004_070408000500000002_000300050207000006_000006000004000005_000000060801000209_000004000000020000_000000080700040003_000007040000090601,
  0x000007000800000005_000000050209000000_000200000400000000_000509000004060002_020308070600000100_000700000900050008_000405000008020000_000002000006070800_090800000003040001,
  0x000000070600030000_080000000000060005_000700000000090001_010002040000000500_070005000206010900_030809050700000602_000503000400070000_060107000002000004_000908000000020306,
  0x000000030800010907_080304000001020006_070000000000000300_030407000000080001_000006000000000709_000000070000060000_000900010607000000_060008000400000000_050001000002000000,
  0x000509060402000108_000001000000000406_060000030000070005_080905040607010000_040003000201060000_000200000800000000_000002010700000003_030807000900000000_090100000306020007,
  0x020800000003060100_000501080000030004_000700020600090508_000000000508000300_000000030907080602_000908000006010005_000000000802050900_000600000300000000_000000090000000006,
  0x000009080000050000_020005090600000003_000600010005000709_000000000000000405_000500000007000000_000006000000070002_000108050000060300_050000070100000200_060000000003000500,
  0x080600050004000000_090000060800040503_000305020000000600_000000000600090000_000004000003050000_050709040208030100_070500030002060901_030900000506070008_010406080000000000,
  0x000000000006020000_020607000500030000_090003070002060400_000200000003090000_000309000005040701_000000010709000203_000905000301000000_000000000604010000_000002090800000006,
  0x000000060302000004_060000080100000007_030000040009000000_000008000603010705_000000020000000006_000100070000030402_000001030004000000_000000050207000000_000400010000000800,
  0x050309080001020706_000000030709000400_000000000605000908_070001040003000602_000008000006070503_090000070500000100_030005060000010809_060107000308040000_080902000100000007,
  0x000004000903000601_000000070004030509_000000000000000007_000500030708000000_030006000001090000_000000040009050100_020005090000000304_070003010400060805_000800050000000002,
  0x060000030204070500_050000010000000300_030800070006040100_080000040001000907_000500090000000000_000001000702060000_010300020000000000_000008000100000700_000600080300000200,
  0x020000000604000001_050009000000040608_000000000109070002_040302090801060000_010000000506000000_080000000302000000_030008060000000000_070600030200000900_000005000007000800,
  0x070400000500020003_080503000200000407_000209040007080605_000102000005060009_000300000000000002_000000000100000804_000600000700000508_000701050908040000_020005030604070001,
  0x000206000701090008_000008030006010500_050000080409020003_090305020804060700_060000090007000800_000700000105000000_000003000900000100_000000000602000000_070600010003000004,
  0x070005000000080002_000004000600090500_000903000002070000_000502000009000806_090007000008000200_040000020001000000_000001090003060708_000709040000020000_000200010700000009,
  0x010008020903070005_040000060507000000_050007000000000600_030000000002000000_000700000300000001_000100070400000003_000901030700000208_020000000609050000_000000040200000006,
  0x000002070000000005_000400060000000000_000700000500000600_050600000007000002_000008000300090700_010007090002000000_000900050000020007_070100080004050000_000504000009000800,
  0x060900000400000000_000007000000040600_000100030700020900_000405060000000000_000009000000000706_000706020109000800_000002000603000400_070000050000000000_000000090000060200,
  0x000804030009070105_090700000004000000_000302000006080900_000406050008090000_000507000002040306_000109000600000200_000900060000010002_040600020001000509_010203090000060407,
  0x000004090300010207_070001000000090003_000009070102000000_000100050400030600_000800020001050409_020005000000080700_040000000009060308_060903000007020100_000000000006000900,
  0x050300000602000400_020006000000000309_010004050000000800_030000090007000000_060007020000080100_000002030000090507_040208000309000705_070100040208000900_000603000500040000,
  0x000007020008000905_050000000003080002_000000000905000007_000000000000070000_000400080000000000_080009000100060000_000005000000020100_010000060004000008_000008070000030000,
  0x010702000000060800_060008000200000004_040003080000090100_000000070500000001_080105000400000700_000004090000000500_020800000004000900_090000000000010006_000401000700030008,
  0x000002000100000008_010308050009060700_050004070000000000_080000000001000602_000000000006080000_000000000700000000_060000020000040000_040203010005070009_000000090000050206,
  0x000604000000020000_010200090400000008_000800000000030000_000000040000060003_060000000800090500_000309000006000800_000000060504080209_000000070200000006_000006080300040000,
  0x060009000000000001_010800000904030705_030000000000090600_000608000700050400_000100000003000800_000004000000000002_000000030002000000_000503000106000000_070201000005040006,
  0x030200000008000407_070000000200000900_000806000000010003_000000070300000009_090704000500020300_060300000800070100_000000000600030700_020107000903000000_080600020004090500,
  0x000000000000040000_040003010009000207_020009000504080000_080902050006010000_030604070108000500_000500040000000600_000000080700020000_010200000400000803_000000000003000001,
  0x000007060000080900_000302000500000400_000604080100000500_070008050600040003_000400030200000006_000206000701000005_040701000906000000_000800010300070600_000903070800000100,
  0x090000030000060000_000701000000000403_000600000700010908_010005070003090000_000209050608000001_060400090102030800_000000000500020000_000000000000000000_070300000004080500,
  0x000108000000030607_000509020306000400_030600000007050200_060000000000000003_000005070100000004_000007000400000500_090000030000000801_000000000000000700_000000090000020305,
  0x050800090006000001_010900000000000000_040003000000050008_000006020800000005_000008060000000100_030009000705000006_000300080200010009_080005010009070000_000000050000020800,
  0x000000040506020003_000600000200010000_000004010007000600_020400000009000000_000000080400000906_000000060000040200_000309000600080700_000701000000000004_000502000004000009,
  0x000000000807010500_080005000900000206_010902000006040708_000801070009000304_000306080004000001_090004000603050800_030007000000080005_040000030705090102_020009060108070400,
  0x000000030700060002_000300040802000000_070000000009000400_000705020000080001_000408000105000200_090002070600040005_000000000000050000_020004080000010600_000000000006000800,
  0x000903000000000007_050200000300090004_070601020000050000_090000000200000300_080007000503000900_000002090001040508_000006050400030700_000709000000000405_020400030007080600,
  0x010600040007000000_080000090000000604_050007000002090000_000000000409000000_040100000706080905_090300020008040700_060900000200010407_000700000001000509_020000000904060800,
  0x010000090000000700_090200010000060004_000607000000090000_000902080600000301_000300000905000806_070800040003000200_000008000009010000_000009000000000605_030700000501020000,
  0x040009000002000500_070008090605000001_000500000000000700_000000000800000900_000900000000000600_060000050000000408_030800000006000004_000007030001000000_020000000504090000,
  0x000000010000040603_000002090000000105_000401080003000907_050200070000060308_070100000008090500_000903050200070000_000000000000000000_000008000100030000_020309000000000000,
  0x000900000000000001_030800060105000000_070501030009000800_000005070900000200_090000040302080000_020103050608000400_050000090003000600_000000000000020903_010309020700040000,
  0x000000040001000000_000004000509070600_010000030000000500_050001000907000200_090700000302000000_000803050004060700_000508000000000007_000000000005000104_040000070000000006,
  0x020000080903000000_070000050200040800_050000010000020000_090500000600000700_000007040000050000_010000070500000600_000001020400030000_080009060000010000_040300090000000006,
  0x030002010907000500_000900000400000100_000000000000080000_020000000000000000_000005020008000006_060704050003000800_080000070501000609_000006090000000305_000009060000070208]
theorem mixed_35_ok : mixed_35.all fastOK = true := chunkOK_sound _ (by decide +kernel)

end Gen.SudokuDB
