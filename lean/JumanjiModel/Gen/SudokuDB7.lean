/- GENERATED by harness/translators.py (gen_sudoku_db) from /repo/jumanji/environments/logic/sudoku/data/*.npy — do not edit.
   One `Nat` per board (layout: Env/Sudoku/DBCheck.lean); every chunk is run through the checker by the kernel. -/
import JumanjiModel.Env.Sudoku.DBLemmas
namespace Gen.SudokuDB
open Sudoku.DB

/-- `mixed` (10000_mixed_puzzles.npy), boards 6000..6249 -/
def mixed_24 : List Nat := [
  0x010500030000070006_000000000502090801_070900010600000500_090005000000000000_000300000006000000_000000000000080003_000009050301060400_050000060407020009_000400000809000307,
  0x000405000607030000_020007030100050000_030900020000060100_040000070903010600_000100000002000000_090006000001020003_070304010200000800_080009000300070001_000500080700040300,
  0x000104020607000000_020000000000000000_080006000003000000_000801000400070900_090207000300000100_000005070001080000_000508000000060700_000002010000090000_010903060005000208,
  0x080400000000070001_000900080007000000_000507000100000008_000802010609050000_000100020300000906_000609000700000000_090000070000000004_060000090500030007_050700000004010000,
  0x000308000005090206_000006090000030508_000900060000040100_080000010302050409_000009000700000000_000003040908000000_090002080004000005_000804030500000002_030501000609000700,
  0x090008000006000005_070602000000040000_000405010002000008_050004060000020700_060800000007050104_000001000500000800_010300070000080400_000000000001060000_080000020009010000,
  0x000000080009060502_000000070400000900_000509000602040107_050800040701000609_000000000900020708_070000020006010405_060005000300070204_000700000204000300_020304010507090806,
  0x000000000008000000_040208000000000700_000709020400080600_070400000302010000_020003000500060408_000001000609070000_060107000200000000_000300010807050206_000502060900000000,
  0x030000020804060009_020000000700030000_000406010903000000_090000000600000104_060001030400000800_000704090102000600_010000000500000200_000000000300000000_050000040001000008,
  0x000004070602000003_070000090000050000_090008050401000002_030401000200000500_000007000900000001_000209010504000000_010006040009000005_000800000000000006_020000000100000408,
  0x000700000801050009_000000000305000006_030004000000010000_000008010000040000_040000080000000100_000000030200000007_000801000902000500_000000050000000900_000900000000000001,
  0x060009000000050307_000000050800000009_000000060007000000_080000090000070000_050001000700000006_000002080106000005_070600040500000800_000000000002090503_090005010000000004,
  0x020000000800090506_090800000705000000_030500090602000801_040001000900000207_060905070004080100_070208050001000904_050702000008000000_000000000009020700_000600020000000408,
  0x080400020700050600_060000090308000000_000000000400030008_000100000207060905_020006030009080104_040500010806000300_050601000902040703_000800000600000502_000000050000090806,
  0x090305080600040007_020000050400090000_010008000002030006_060007020800050004_000003000507060002_050002040000080001_080209060005070000_030500000208000000_000001030004020805,
  0x040000000000000005_060108000900030700_090005070602000104_000509060000040000_000000090003000000_070000020000050000_000603080009000000_000407000000000509_020901000407060300,
  0x000001030002040605_070006000000000000_040005010000000207_000400020300060000_000500000004000700_020009000006000300_000708000500020006_000602080003070001_000904000207000500,
  0x070001080000000500_000408070600000200_000006000000080007_090600040708030000_000204000006000000_000007000901000006_000000000002000000_000500030104000700_040002060000090000,
  0x000000000309010000_020009010405080007_080301000702040905_030504000001060700_060208030507000100_000900040600000503_000100070000030409_090003050100070006_000406020003000801,
  0x000706000008010000_000000090000060208_080002010306000004_070300000400090602_000000000000030005_010200000000000000_000608000007050009_000000000000000700_000007030005080400,
  0x000002000007000000_070001030800090200_000000020400000008_000600070000010905_000007050006000000_010805000300000607_000000080000060509_030908000502000701_050000000900000000,
  0x080504000301000000_090607050000010800_000100000008000705_000000000006030008_000900010203000000_070301080500090600_040009000005000300_000000000007050000_050000000600080200,
  0x040200030607000000_050000090102000300_010007040805060002_060703080000010200_000500060000000003_080102070400090506_000000020906000001_030008010700020600_020600050300070400,
  0x050804060002090000_090702000500080004_000000000900070205_000107000009000403_000609020007010000_040000000000060900_000900040100000000_010000000203000000_020400000005000100,
  0x090005000000000002_000603000000000000_000008010300000000_040001000207000000_060700000503000100_030502000600000008_000300000400050000_000900030002080007_080004050000060003,
  0x050300080706000200_040700030000000100_090006050104030807_070002060401090300_030109020005000004_080004000007000502_060903010200000405_010007000500020003_020405000600080000,
  0x010600000908030000_000000010005000009_000000000400070100_000500030007010000_000301080000060000_000007000000050308_000104000302000000_030005040806000000_090000000701040000,
  0x030009040007000000_000000000200000009_000008050000010607_090700020000000100_000400090001020006_080100030006090500_020801070304060900_070005080602030000_060304000500070200,
  0x050300060000010009_000908000102000000_060001000000000000_000800000000050603_020100050900000708_000000000804090002_010000080007000000_000000000005080000_000400010209000300,
  0x060507000004090108_000000010000000700_030100050008000000_000301000000050400_000006070900000003_000000040003020000_090400000000080000_000000030800000000_000000000000060000,
  0x090600000000040000_080000020400000609_040703090008010000_070004000801050200_000000000000000400_000000000007000006_010007000500000804_000400000206000900_000000080000000705,
  0x000300000408000000_020000060507000004_000001000900000607_000008000604070003_070403080000000000_010005070000040009_080004030706050000_030100040200000008_000000090801030000,
  0x000006000208050000_000100030407090006_070000000005030102_000900000002000008_010400090703020605_060007000001040003_000500070000000204_000000020500060000_000600000009000001,
  0x000003080006040200_000006030105070000_010809040002000000_000001020007060900_000907010600000400_000004050009020007_070005000000080006_060408070300000502_000000000500010000,
  0x000706000000090000_010304080200000000_080900000100000203_060000000504030902_000009000800000005_000200000000000007_000600050000000009_030500090402000100_090002030008050700,
  0x090203060807000501_060408020105030907_000007090403080206_040805010206070309_030901070504020608_070602080309010405_000104030908060702_020306050701090804_080709040602050103,
  0x000007000800000903_000000050400020706_030600000700000004_000100040000080302_000000030502000001_070300080000090005_000009000000030500_020500000300060100_010803090000000207,
  0x050300000400060800_000401070000050903_000000090000000401_080100040005090000_000205060809000104_000906000001000000_000003000000000700_000000000107030008_000800000000000500,
  0x030002050000070004_000500040307020601_000600000008050000_010006070000000003_050003000004000006_000800020000000005_000708000000010000_000000000000000408_000000000502000000,
  0x010000000000000309_040006000000000000_000009020007000008_000900000300000500_060000050001070400_000100040000090000_000200080000000000_000005000700030000_000600000409080000,
  0x000005070108000000_080600020000050100_070001000900000000_010000030000070900_000000000800000000_000708000000040500_000803000001000000_000100000000000200_000000080500000009,
  0x000600000900020007_010002000000000000_090000040000060005_070000060001080000_000100020000050709_020000000009030000_000005000000070400_000000000300000502_060000000000000800,
  0x000001000006090300_030200000904000000_040009050001060200_000000030000000700_000005010000040602_000608000705030000_000100000407000800_000800000000000406_090407060500020103,
  0x000100040500030802_020408000603000009_030705020800010000_080904050000000300_000002000000040105_010500030006000008_040609000102000703_000200070304000900_000003000905020401,
  0x000000060000090800_060002000000030000_030000000900000002_090305000401020007_080007000000000000_000000000700000000_040006000200000301_000100030805040206_000000000600000500,
  0x050406000000090300_090001000000000008_080203000609040700_020804090100050600_000609030508020104_010305060000070809_060508010900000400_000000070005080006_030007000006000205,
  0x000204080000050001_000000050000000000_090000020000000806_000000000100000205_020600000009000000_010003060000000009_050702000008090000_040100000000000007_000009010702000008,
  0x000000060308020007_000000090700000408_000608000400050003_050000020004090700_010004000000000200_020700000000000804_000007000500000600_000002040000070009_000500080000040001,
  0x070001050000000006_000000000000000000_060002010900000007_090000000000010300_000000000800000609_080000000509000004_000700000108040500_000000020000000000_000009040600000000,
  0x000700010800060500_060100000000000009_000308000700000002_000200030001080000_050401080007030006_000800000000040007_040000070002000000_000000000008000000_000007090600020301,
  0x010003000600050000_080509000100070006_000006000009000000_000005030400000008_030600000000000005_000801000000000700_090107000000000000_050000090800000000_000000000500000102,
  0x000000000000000306_000001060005070008_000600080200000100_080700000100060004_000902040500000700_010400000706000509_000109000803040002_070006000000000001_000300090601050807,
  0x000906020005000003_040000030000000000_000308010000040002_030100000800070000_000009050000000000_000002000004000000_060003080201000900_000000000006000200_000000000309060100,
  0x090700000504060801_000402080000000300_080106090003020400_000004000000010603_070005000306000000_030600000200000000_040308070005090006_060000000000080004_000000000008000000,
  0x020000000008010705_000000000005000300_000000000003040900_000607000402050001_000009080500070003_050008000007060209_070102050000000004_080003000604000000_040000000801030502,
  0x040501000306070900_080000010207000000_000000040500000301_000700030000010006_000000000100020700_000000000702000408_020007050604030109_050903000000000004_000604020003000007,
  0x000005010000090700_040000000700000003_000709000005080000_050203000109000807_070601000308040000_000004000602010005_000400000503000109_000906020407030500_000000000000070004,
  0x070600000501000300_000000000200000106_020500090600040000_010000030000000000_000300080400000000_000805000002000000_000000000004000603_000004000800000001_080000000000090405,
  0x010000090200000003_030005000000000204_020000000308000700_000601020000050900_090300000000040107_000508000400000300_080104000900000600_000007000100000002_050203060000000409,
  0x020305000000000000_000007000506000008_080009070004010000_030008000001070002_000400000005080109_000902040700050006_000800000007000005_000201080400090600_000004000900000000,
  0x000201000005070600_000000070102080900_000009030600000002_000900010003040005_020800040500010709_010400080007020306_000008020000030401_070000000000000008_090004050001060207,
  0x070109000000000000_020503040007060800_080000020001000009_000307090002080000_050001030000000607_000908000000010003_000005080200000906_000000000700030502_030702000609040008,
  0x020000000400060701_010700020000090004_000400000007000500_000200000804000000_000804000001000600_090100030002080007_000600080700000000_050300000006000000_000902000300000000,
  0x000000020000090506_090605000003000000_020100050006000003_040500070000000000_010000000000040000_000300040002000700_070401090600030208_000206000000000000_050908000004060100,
  0x000000000102000006_000000000008000700_060000050000090401_000000000000000200_030900020801000600_000000000000030005_080000010405000300_090500000000040102_000604000203000807,
  0x000000000004090008_040200000100000703_090300070800000100_050000000008000007_020100000600000000_000000000009010302_000000080401070009_000009060002000801_080001000007040200,
  0x000006010000000205_000000000006070000_010004080205000009_060401000003000807_000203040700000000_000000060000000401_000000000300000000_030100000000000508_040000020000090000,
  0x050309070008000000_040001030000080000_000006000400000003_060800000000000905_000400090500070800_020000060007000000_000000010003060004_000004000200090008_000600080904050100,
  0x000700060004000908_040008030502000000_000600000807000000_000200070001050600_070100050000020003_030009040000000800_000000000000000005_060000000003000004_090000020005000301,
  0x000300060000000001_090004000000050000_000002000000090003_050803000000010700_000006010804020305_020401000005080900_040200050600000809_010608020903000507_030000000008060000,
  0x000000020000090104_000000000900070000_000100080407000005_000003050201040906_000000040000010003_060000000309080500_000809000705000200_010500000000030000_000000000000000000,
  0x000105090000070203_020800030005060100_070300010602050900_000601000000020009_000200070500000006_080407060009000300_000906000000000502_040700000000030001_000008000400000600,
  0x020006000000070008_080900000000030004_000004000809000605_000405060200000000_010302090007000006_060009000301000700_000000080002000000_050003000000000007_000008010003060000,
  0x090000050700000608_040306000908000207_000008020603090104_010602090405080703_030000000001000502_000705030200000409_000000080007000000_060803000002070905_000007000300020000,
  0x000309010600070800_000000000300020000_000000000009010300_000000090000000003_090100000200040008_020005060400090001_080400050000030902_030907000008060004_000600000904080107,
  0x090003000000060207_000000020000000008_070800000006040100_050908000200000000_000000090001000800_000106070000030409_000607000000090000_000000060103070004_010005000000000000,
  0x000000000800090605_050600020009070800_000700000000000004_000000000900000000_000900030000000008_000803040000060902_000009000302080001_000000010704050009_010300000000000400,
  0x040000020500000800_060800090400010500_010000000700000304_030500000600000709_000000010000080003_090000000007000001_000000000804030005_000306050002040000_050400000000000000,
  0x000405030200090000_000800090501070300_090000000006000208_000500000000020403_000008000700010006_060900000003000000_000300000004060100_000700000302040809_040000010807000500,
  0x000003050000000000_050000000000090703_010007000009050208_020001000500000304_000500000600000000_000806000007020009_000000070200030601_060302080000000905_000000000003000802,
  0x000108000400000906_000902050600000000_060003000002080007_000700000009000004_000000000500000800_000800000004090600_000200000000000000_000004000006030009_080000090201000705,
  0x090300050107060002_000000040600000000_040706000009000001_000600070800020304_000002060400090005_000007000500000000_000500010006030000_060203000904010007_000001000205000600,
  0x000000000800000902_090204010003000000_070000020000030105_000003040000060200_080009050102070003_000000030600000009_000507000200090804_000000080007050300_000400000000020000,
  0x000005070001000604_000003000004080900_070006080900050201_080300000509070406_000700010006000000_000009040007010000_010900060700000800_000007000400000002_000608030100000000,
  0x010800000004000000_000300000005000600_000000000900000300_000200000003040000_070408000100000205_000500040000000100_000000000509070000_000700010008060900_000006000000010003,
  0x000600000100000000_000005000704080100_080009000000070604_010208070600000903_000006000000000000_040900000302000000_000700040900000008_000001000806000702_000000020000010006,
  0x080007030105000000_000000020000000700_090300000000000501_020004000509070308_060000040700000102_070003010000060400_000602000004000007_000000050002000000_000400000801050206,
  0x030004000007000900_000000000601000000_000000000302000400_080000060003000100_000400000000000008_010000080200040305_050600000004030700_040300070000020000_000900030000010000,
  0x000000000000000004_060000000503000002_090000070001000000_000805000000000000_000000000007000600_010006000005000900_050000040706020100_000000000000030007_070400000300050006,
  0x000000000000000305_080000030605020000_050300000000010008_000001000000050004_020005000308000107_000000000500080003_070403060800000000_000500000103000000_010608000000000700,
  0x030700060009000801_000608000401050700_010409000007060200_000800000500030906_000300000608010400_070906000004080500_080004000900070005_090007000000020600_060203000700090108,
  0x000000030500060002_090000000000050001_080500020100070000_010004060000080700_000003000000010600_000600010300000204_000000050003000100_000205040001000008_030100080702000000,
  0x020003000800000409_000400030109020008_000000070200000001_000000020306050800_050000080900000006_060002050401000000_040508010702090603_030200090600000100_010600040503080702,
  0x000006090003000000_000000020000000000_090700000000040205_030600050000090000_000100000904020300_000200000301050000_000002000000000409_000904070205000000_070300000800060500,
  0x010000000500000200_090000000000000401_040600000000090000_080000070005000000_030207000000050009_060400000308000000_000004050000000600_000109000006030004_000000000100020000,
  0x000000030009080506_060009000500000300_000503080006090001_070902000803000605_010005000000000009_000600000000030007_090108060407000000_030000050002060008_050200000300000004,
  0x000001040907000500_040009050000030102_080600030201000904_000802090403010706_010000000700080000_060007080100000003_000506010300020800_030004070009000001_090108000002040307,
  0x060100000005000400_000000000001080000_020809030600000005_000000040000060100_040008000000000300_090001000000050000_000000000703020508_050700000008000001_080003050000000007,
  0x070000000109040800_000000040700000901_000904030500000200_030000080000090007_040000050900000000_080009010603020004_000803000001000002_090400000800030005_060100070305080409,
  0x020600040000010800_080000020107040000_000004060008000200_030700000800000401_010206000004050300_040508010006090002_000401030005080906_060805070009000003_000300000601000000,
  0x000009080006000003_000508000003000602_000600000902000000_000006010000000304_030901000000000000_000702000500000900_090000000800030000_000000090000000208_000300000601050700,
  0x000800000900000001_090100050000080300_000003040801000900_070200010009000508_000000000000090703_000500080000010200_000002030104050000_010000000000000400_000705060200030000,
  0x040905000201030000_000206090008000004_000008000600020007_000800010706090000_050607030902040100_000109040000070000_080000020403060700_060000000100050403_090003060007000000,
  0x000802010006090000_090600000007010500_030001000805020406_080300020004000000_020500080000000000_000000070503000902_040200000009060301_000100060000040209_060000040100070000,
  0x000400000000000300_000100000308000000_000000000005020000_000000060000040709_000000080200000600_000005040000000003_000001000900070800_000000030106090002_090006000000000005,
  0x000000000001000200_080000060007000001_040100000000070806_070004010000000000_030900070000020000_000805030000000907_090000000000040000_010003000500090600_020400000003080700,
  0x000000000000010300_060300090500000804_000000000006090000_000700030000000900_000002000100000603_050800000000000000_000504060200030000_000009070400060200_000000000903000401,
  0x050701030000040200_000300000000000000_000004050702000300_080900000003070004_020500040001030006_000400080007000002_000209060300000008_040005070200000003_030608000100020500,
  0x000500000806010000_030802010704060500_010400020005000007_060000000000050800_040003000000070900_000008090000000406_000604050203090008_000105040600000000_020300000100000005,
  0x000005000902000300_000002080700010000_090100000000020408_000000030000070200_040000020105000003_050000000009040106_000901040300050002_000500000207090801_000008090501000704,
  0x040902000306000005_060308000705000900_000100000209060304_000603000507000109_000000000001000803_000701030008000006_070000060003010002_000209050000000600_000500070102090408,
  0x060000070504000000_050009000000080000_010000000803060200_020600000700090500_080900040005070106_000000000900040000_000006000000050800_090005080007000600_030200000600000400,
  0x020700000403050001_000309080106020704_000004020000000003_000000000000000002_000103060002080000_000502030800000006_080200010600030000_030000000208010600_060900000304000200,
  0x000004070003000208_090000000000000000_000207000504090300_080000020007000000_000903000108060700_000000000300000801_040006030000000000_030100050402000000_000700010806030009,
  0x030000080900000405_000000000704000009_000900010003020607_020000000800060700_040500000007000000_000700040002000900_090605000000000002_000800090005000006_070000000200000008,
  0x000408000906000205_000500000002060700_000206050407090100_060300000800000000_040000020003000906_000002000001000003_000103070200000609_000604090000000002_020000000605000400,
  0x000002040605000000_010603000700050204_050408010300000007_030000050007000402_000807020000000503_020500030006000809_060000000200000001_000100000008020306_080200000000040700,
  0x000000000006000809_000005000300000401_000100080000070002_000309000002040000_000600000800090003_040001070000020608_030900000604010000_050006000000000000_000402000008030000,
  0x030700000600040001_080000000003000006_000600070800030500_010006000004000007_000002080000000600_000000000000000005_070903000008000100_000004030000000900_000000000400000000,
  0x000601040000080000_080700010000000503_040000000208070001_000005030900000000_000207000506000900_000000020001050000_000004060103090708_000108090005000000_030000000000000000,
  0x010006040000070000_020500030709000400_070904000008000305_000000010807050009_080005090300000200_000109000402000700_000600080904000102_000000000003060800_000000020601000500,
  0x080000090300000004_000400000601070000_090500070200030000_000008000906050701_060000050807040000_070005040000000600_050600010702080009_000000000400010500_010804030000000200,
  0x040700020906010000_000601080000000004_050900000000000800_000006030000040100_010203070000000000_000400060000070003_090000050001000708_060800000000030400_000107040000000009,
  0x000000000000000800_000000060001050000_020000000009000706_070009050000000008_040100080000070000_080005070000040000_000602000000080407_090000000400060005_000000000006000100,
  0x060000000000080305_000005060800000900_020809010500000400_030700040605090008_000008000007000000_000506090100030007_050600000009000002_000907000000000503_000200000006000000,
  0x000007090200050001_000508000300070000_030902000005080004_000200000000060009_040009070002000000_000300040009000705_020000050100090006_090806000407010500_000000000000000000,
  0x020000000005070000_070000000800090000_080900000000060205_090000010002050300_040201050600000000_000000000009000100_000402000501030900_010009060208040000_000800030900010002,
  0x000500000200090407_030800040007000600_090400000000000008_000005000700000000_000700000004000003_060000020009000700_000004000008010000_000008000600000004_020001000400080300,
  0x080400000000090100_000100050009070300_030900020400060000_090004060000050200_050003010200000000_010002000700030406_040300070002010009_060501040900020708_070200000000000003,
  0x080002070901000004_090000000605000007_000700000000000009_000300000004090000_060005010007080403_000004000009000700_000000030102070006_030000000008040500_000009050406000000,
  0x000000080700000003_000907000100000405_000308090004000000_030100020607040009_000802040000000507_070004000800000001_000006070200000000_050003000000010700_000700000005000306,
  0x070904000003020008_000800020000000003_000000000000040905_010005000400000009_000300000600070000_080000050200000304_000100000309000400_000000040102000007_000408060005030100,
  0x000806050004000100_050000000007000000_000000000300060007_080200000400090700_060704090800010200_000103070500000806_000500030900000000_040907000000050301_000600040005020908,
  0x000700090200050306_050001060000000400_030602070005010009_000006000008000700_000000010000000500_000005040000000002_060309080104070200_000000050006080904_000508000700000000,
  0x090600000003080700_080002000009030005_000001000700000000_000000000006050403_040300080005000200_060000030100000009_050100000800040300_000800050400000600_000009060000000500,
  0x000006090001070008_040800000000090500_000009000002000000_000201000308060000_000000000200010805_000000010000000307_000007040500080000_020104080003000900_000000020109000704,
  0x060009000004000300_010000030206000007_070004090000060000_000005010000000004_000007000402000005_020006000307000000_000600000900000703_000002000700000806_080700000105000000,
  0x000001070409000602_060000080100000307_000500000306000000_000008000000020004_010604000000000500_000700040508000000_080200010600000900_040000050703000208_000105000000000403,
  0x000100000609050807_000900070508020001_000800020000000300_080203050000010604_000000060102000508_000000000300070900_060708090200040100_000002000005090000_010000040700000200,
  0x040100050000090200_000009000000000007_080000000903060400_000000070005000608_050001000000000700_000807000306000509_000900080000000000_070300000009000105_000000000400000906,
  0x090307010504080002_010006070902050000_000002030608090000_020908000005000706_000000020003010509_050000060709020804_080000050307000200_030001080406000905_000700000001000008,
  0x080000000000000003_000900060203080000_000300000504000900_040200000805000000_030705000000000806_090001000000000005_000000000000050600_000409000608010000_060008000102090000,
  0x000500000300000906_000604000000000000_000000000400030007_070200000004000001_000006030500000002_080100090007060300_040301050802000009_000002010000000000_000700040900010000,
  0x000009060300040708_040008050007000003_030000000100000900_000700000000080200_000000000004000509_080006020000000000_000800000400010000_000000070203000004_000000000805070600,
  0x000100000000040007_040000050001000000_000000000904000005_010900080006020000_080000000700000501_020503000100000000_050600000000000200_000200000805060004_070300000002050008,
  0x010305000002090008_070000000100000002_000000030709000001_000002000001060000_040803000200010900_000000080900020400_000104000507000200_000607000300080000_000009000006000000,
  0x090000000000000106_000603000008040000_000000040000000309_050001080407030000_080300060102000900_040206000300070800_030000000700060000_000802000004010705_070500000800000000,
  0x000904000700030800_030005020000040700_070602000304000005_060003010400080000_000108000007000403_000400000000020500_080501060002070004_000700040003010008_000306070801000200,
  0x020000090507000301_000000080203070609_030907000106050000_080000000400060700_040000000900000000_060005000708000000_000000000301000000_010004070809030500_090300050600000800,
  0x000005030000060000_000100070006000905_000600000002030100_090007000004000600_000002000700000309_040000000209070000_010000000500020000_050000000000000000_000206000007000000,
  0x000904000708000000_070002040106090800_000006000003020400_000800030007010006_000600080209000004_000300060500080009_060200090004000701_000003000000000602_010000070000030000,
  0x000003000001000000_020000090008000700_080000030004000609_070200060000000103_000800000100070500_000004000000000000_090600040800020005_000702000000010900_030000000000000407,
  0x030000000800000006_040002000706000009_000009020400000001_070300000908000205_000000000002060300_050000000000090000_000003040007080900_000000080509000603_000900000203000004,
  0x020000000900000006_040000000700080209_000509000200000104_000800000400010007_010005090007000002_090407000000030000_050008000006090000_000100040309020800_000000000508060001,
  0x000000060100040007_000501000204000300_070000030000000000_060700040003000105_000100090005000003_000305010000070009_090800020300050601_000203000000080704_000600000000000900,
  0x040008000000000100_020000070403000800_000003010208000000_000207000005000008_000800000009000700_060904080701000503_080005000102000007_000000060007050400_000600000504000000,
  0x050800040000070003_060000000000000800_000000000500000000_030200060000080000_040700080200030000_000000000301000006_000405030007090600_000007000100000300_080000000600000007,
  0x020400000107060000_050000030002080009_000006050000020000_000500040000070000_060300000000040008_000001000009000003_090204060500010000_000003080201090500_000005000000030206,
  0x000500000000030800_090601000300000000_000308020000000000_000806000200040500_000900000504020000_000000010806000700_000000000000000004_060002000000080900_000403090008070206,
  0x000001000000080000_030705010000000000_060000000903000705_040007000205000106_090100000300000500_000300000700000804_000600000009000000_000509030100040608_010004000006050009,
  0x060003000004010900_000400020005060703_000009000003000400_040300000000000006_000000000000000504_010500000700090008_070804000009050001_020105080407000600_030000050100000007,
  0x010000000000060000_000000020001000700_000006040005000102_000300000200090800_060200090100040003_000100080000070000_080005030000000609_000003010000000000_090700060000000008,
  0x070403020500060100_000601090300000000_090000000401070005_060900000800010000_040005030002000907_000800000000000200_020000040700000801_080709010005000000_010300080900000002,
  0x000500000008000000_040006050200000000_000000010000000509_090000020007000000_080002030005000000_000000080004000701_050003000702080006_020104000800000005_000000000001030002,
  0x050100020000080900_000000000005000401_040000000000050000_000205000000000800_090000000000010300_000008050400000000_000509070003020004_000400060002090000_020306000500000000,
  0x010009070200000400_050000030000090702_020000040009000005_000400080000000307_000100020004050600_030000010007000200_040200000100000000_000900000400000001_080000090002040000,
  0x070000000609020103_000100000700000006_000306000400050807_080600090107000000_020000030804000001_000901000000030708_000004020901000600_010005040006080009_000209070508000004,
  0x000000080009000000_000406030001090208_000900020000000307_030000000007000001_000600000800000900_040000090000020600_060804010905000000_000003000608010500_000000000000000806,
  0x000000090006070401_000903000000000602_060000000208030000_050006000100040000_030000000007000005_000000060800000000_090004080000010207_000500010000000000_010000070004000006,
  0x000900020308000006_030006000700020000_020708010000000409_000000050006000001_060409000000070005_080005000907000204_000002000000000000_050600000802040903_000000000004080502,
  0x000007090400060001_060000000005000008_090800000000000004_000000020500040000_040002000809050000_000308000001020900_000000030200000009_070001080904030000_030600000107000002,
  0x000000070004010000_050008000000000200_010700000508000403_070009030000080002_000006000705000300_080000000002050700_000000040000020005_000600020109000000_000000050000060900,
  0x000801090402000003_040700010300000000_000000070805000100_060000000001000008_020300000900000506_000100000503000002_000000050107060009_010006080200000000_070500030000020001,
  0x060000000508000000_000400000000030000_070205000300000000_000002030000050108_000100000900040700_050000080600090003_040007000000010002_000000000100000905_020900000006080300,
  0x040907000000000000_000300040008020009_000000000009030000_050009000600000000_000600000000000803_000100090207060000_020700000904050300_000000000006010000_090000030700000600,
  0x020600000000090300_000407000000000000_000800050000000106_000006000003020001_090103020000000500_070200000800000000_040000000200050800_050900000000030000_060300000000010700,
  0x000502000000000000_010300040000070902_090700000208000500_060003000000000000_000200060000080400_000005070002030009_020000000600000804_030004000000090000_000000020004000700,
  0x000800000000000907_040000000000020008_020109000800030400_060000000008050300_000300000000040000_010007060000080000_030905000007060004_080600040300000002_000002080600090100,
  0x000000030700010004_020001090804060003_000300050100090007_000000010000000000_000600000500070002_030507020008000100_090000080400000700_000205000003080001_080400070001000900,
  0x090602000005000000_000400000702000005_030700010608090000_000100080000000200_000003060201000700_070000040500000006_000807000000000500_000506000003000000_000000000100070800,
  0x080700000401020300_000300000005000100_040900020000080000_000100030000000000_000000060004000001_060004000000030008_050000000009070600_000600070008090500_070000000603000000,
  0x090501070000000003_000000000305000207_070000080100000600_000000000700000002_020600000803050009_010000000009000800_000000030508070000_000007060000020000_000003020900000500,
  0x030409000000000100_070000000200000000_000002040000000000_080003050400000006_050000090600010008_000000020100050004_040300080000000501_000000000004000607_090708010000000203,
  0x060100070500040208_040507030800000906_090002000400070305_000006040307000800_000008060900020704_000000050208030001_000605090003080400_080701020600090500_030009080005060002,
  0x050900060804010200_000100000000080000_060008000700000900_030800000000090504_090700030400020108_020401050908000000_000609040003000002_000504090600000301_000002080507000009,
  0x000400000305000000_050703000102000604_080000000007050000_000608050009030701_000005000801040206_030200070600090508_000000000000070309_000306020700010000_010507000000000802,
  0x030000070000000000_000006020400000507_050000090100040000_000002010807090000_080000000500070300_000000040009000006_000108000200050000_000005000000060003_000603050701000002,
  0x000100000800050600_090500060704000000_000008000005090002_000400000903080000_000000000008000001_020806070500040309_000704000306020900_000300000000000008_000200000000030000,
  0x070600000904020501_000002000006000003_000000000000070006_090701000405000000_040300090007050008_080000060300000400_020003000000000700_060407010503000209_050100000700030000,
  0x000400000009080602_000000040008030001_000600000000070009_000809000507010000_070104000902000008_050200010004000006_000000090000000000_000006000700000003_040907000306000005,
  0x050009000806000002_000000030000090105_000104000900080006_000408020109000503_000900060003000408_030506040000020900_080603000001000207_040000050000030800_000700080000010600,
  0x000003000200080700_090600000800000000_020508040703060901_030702000106050408_010000000507000300_060805020304000109_000000070900030000_000900030002000000_000000050400000802,
  0x000005080007000200_000007090003060000_000108040000000003_000500020000000600_000000010300000002_020003060009010000_080001000000000300_000002000001000906_000409000006050108,
  0x000204030900000100_000000050807000900_090705040000080000_070000000308000000_040006000500070300_030000000600000000_000007000000000500_000100000005000008_050000000003000702,
  0x090000000400010005_050001090203000008_000300050006000000_000000060005040000_040903000002070500_070005040300000000_020000030600000700_000000000500030000_030507000000020604,
  0x000500000000030008_000007000309020000_000000000000010004_060000000803090000_080009000400000000_000000000000080007_000200060000000001_050006000100000800_040000000507000000,
  0x000000000000060001_060000000109000207_070009000005040803_000003020006010705_010407000000030000_000002000703090400_000000080502070000_080000090304020000_000004070000000009,
  0x020800000700000000_030001000000000200_000500060200090008_060408000003020709_010000020906030000_000000000800060500_050000000000000003_000302000009000106_000900000305070400,
  0x000702090000000400_000400070205090100_080109040006070005_070801000002000004_090604000007010502_000305000600000000_040907000000020603_010000020003040800_030208000409000001,
  0x050002000007000300_000603000002000700_000804090100000000_010200000000000000_000300020604070105_040000050001000000_000001000300000900_030400000900000000_000000000000000801,
  0x090100000000060000_030000000806000400_040008050000010700_000002090500000000_060000000003000007_000009000607080002_000500000008040900_000000020009000300_000000000000000006,
  0x000205000107000603_000900000004000700_000000030900000002_020600000308000105_010500040600000000_000000000500060809_050102000706080304_060407050800000901_000003010000070500,
  0x000600070000000000_070000050003060208_090308000100040005_000007030001000000_010500040008000602_080403090000000000_000005080007000006_000000000209000300_000706000405000809,
  0x020000030009060405_040300000005000001_090500070100020000_030001090706050002_060009000300000004_080700000001030006_000603010407000209_000000060000000000_010902080503000600,
  0x070002030908060105_010008050600000700_000500010700030802_000109060307000008_060004020005070300_000005000009000000_040901070503000006_080603000201040007_050000040006000000,
  0x020700000005040900_060908020700000500_040000030000000207_050802000000000004_010000000002050700_070306000000090802_000204000000000100_000100040200000006_000600080003000000,
  0x000407000008000003_080006010903000004_000500000706080000_020004050007010906_000908000300000007_000700090004030002_000103000400000000_040802030600000001_000000070201000300,
  0x030801050000000400_000004070000020000_000900000001050000_050000040209070801_040000000000060509_000700060005000002_000100000506030700_000005080703010200_000600000004080000,
  0x010600000802000000_020507010000000006_030009070400010200_000300000004000000_000402060705000801_060100030209000704_000000000008020300_000003020000000100_080000000000040507,
  0x000000020709000304_000104000000070009_090000040100050008_040900070002030005_070008010403060900_060200080900040700_030000000800020007_080002000500090100_010605090207000003,
  0x000001060000050004_070600050004010800_000400080102000609_000008020601000007_000000040700000005_010307090500000000_000000030006040001_000704010005000008_080006070400030002,
  0x060009000003000700_000000090000030602_000300000007080409_000003080006000900_080006010700000003_000400000500000000_000608070000020000_020701000004000000_000000020008060000,
  0x070100000000080203_000400050003060009_060300000000050104_090703040001020000_080201070006090005_000000080900000300_030802090607040000_010500030800000902_040907010000000008,
  0x000105090600000000_000003000004060009_090000020000000700_000006000802070904_040000000700030000_000709000400080605_060907000200000300_050001000003040200_000400010000000800,
  0x000500000408030006_060804090003050700_000902060000010804_000000000200090000_000105080700000003_090000000000000008_000000000800070009_000700040006080205_080000000905000400,
  0x000904010000030705_000003000007080906_000007030008010002_050002070100060309_000000090300000807_000009060805000001_000400050700090600_030000080609000000_090008020000070503,
  0x000004000103020005_000000000000040003_000005000002070000_000106020009050004_000009010304000000_070403050806000001_040000000200080006_030007000900010402_000002040001000907,
  0x000700000000000602_000001060000080904_000406080200000507_040000030009060200_000609000800050001_010802050006000009_000003000400020100_000200010000090400_050104020000070006,
  0x000003000000070600_000007000100000000_000905070600000301_000001000800000900_090400000507010006_070608000900050000_020704000000000105_010000060200030700_030006010704000200,
  0x080903050104000702_040701000602090500_000205090300000001_050009000000000000_000400000905000008_000306020408050007_090108000000070000_020000000000030100_030500060200000800,
  0x050900000000060000_000002000000070000_080001040603000502_020407080305000009_000000000004000703_030100000007050008_070600010009000200_010005000700000906_000809000506000007,
  0x000705030200000401_000100060700090805_040806090100020000_060508070001000009_030402050906000000_000901000302050604_080200000503070006_000309040607080000_000600000809000503,
  0x090601000500040000_000200000000000001_050008000100030000_000000000000000006_000000000700020304_080004060300000907_010800000005000003_000905000007010400_040006010008000000,
  0x050000060000000007_080000090500010300_060000000000000500_070006010200090003_000900000407000000_000003000609000700_000601000700030902_000702040100000008_030005020000070400,
  0x090407000002000300_030005000901000400_020601000305070900_000308050000090001_070000000003080004_040500000008030007_050000020107000803_080704030509060102_000203080406000009,
  0x000000030005000000_020500070104000300_000000020800000501_040600080002090007_010005060907040003_090700000001000006_000007000008000600_000209050006000000_060408010000020005,
  0x000000040900000001_000001070003000004_060004050801090207_030008000600000502_040000020300000908_090000080005000003_070602010009080005_000000000002070406_000000000000020009,
  0x040000000000000200_000600010002080004_080002070400050006_000008000100000902_000900000800000500_030006000000070801_000200000008000305_000503090601000000_000804000000000600,
  0x060205000100080700_000700000500000000_000000000007000000_000307080906000000_050000000001030607_000002050700000408_000800000004000305_000500000802070004_020001070305000800,
  0x080002000501090000_090001030206040800_060300080700000501_030009060807010000_000006090300070400_000800000400060300_000600020908050004_000000000600080100_000208070000000900,
  0x000000000000080705_000708050406030000_000300070802000004_080603000500000200_070400000100060500_050901000004070000_020800000900000407_040007020000000903_000009000705020000,
  0x030001050000080000_050000030100000000_090600000000000300_060903070005000000_000000000000000600_010700000200000000_000000000000000107_000506010700000003_000000090000000205,
  0x070503040108000600_020906030705000000_040800060200050000_030000010002060009_080009070406010500_060000080003070000_000600090307000400_050007020000030906_000008050004000000,
  0x060801000300000709_000007010000000006_000003080007000001_050600070903080100_010008040506000003_000000000000040005_070000000000000300_000002000008000507_080000030000000004,
  0x030000000400070500_010500000000000000_000607000300000800_070000000900020000_000900030000000705_000004050002000006_000000000000000000_090700000000000003_060200000003000109,
  0x080205010009070004_040001080700000000_000600000002000801_050000000000020008_000800000000030007_000000000800000506_000003060100000000_010000000000040003_070400020000000005,
  0x000004070000060000_000700010005020008_010200040006000003_090603000000010200_000005020003000000_020000000500000000_000800000007030901_000501000002040007_000906000001000002,
  0x050800000306000000_090004080000000305_000200000504080106_040300000000000001_000102030405070809_000907010602000500_000006040000010008_000000000000050000_010708050009030000,
  0x040008000000050000_000706040000000003_030500010600000402_080900070004020300_000000000000000000_050002000000000008_000800000700000204_070000080009030005_000203050406000907,
  0x020701000003040500_000000000004070800_000003070500000001_000507000402000000_090002000000000704_000600000907000000_000000000000080000_050200040600030000_070000000109000000,
  0x000000050100060000_000009000602000300_080600040000070201_060007000000000002_090500020800000700_000301060005000908_070900080000010504_000406090500000000_000008000000000003,
  0x000304010200000700_000106000304080502_000207050906040300_000000000000000005_010000000709020600_000000020500000000_000802000105000400_000000000007050000_000405090600000003,
  0x090600000003000002_020800000900040307_000000000000000000_040008000102000605_050702030000000000_000106000400000009_080400050200060103_000500090001000704_010000000004090000,
  0x000007000900000602_000304000002000500_000602000408000007_020005040800060009_000400090201000700_000100060000000000_040203000000000000_000501080700000200_070900000006000005,
  0x070308040105000906_000509030702010408_010000000008030500_030805000904070002_000001000003040000_090006010000000005_000907000001000804_000100050006090003_000000070400050200,
  0x000007050900000000_000000000600000000_050000000100090402_000600000007000000_000000060000010000_020700030001000600_060008010702050004_040105000006000700_070002040305000800,
  0x010000090603000702_060000000004000500_000908020000000003_020700040000000001_000300050100000000_040001000706000005_000400000007020100_080602000405030907_000100060209050804,
  0x000000000000000407_000001020706000009_000000040000050600_000906050000070001_080000000907030000_030007000800000000_000603000004000000_000008000600000104_090004000500000003,
  0x000901060000070405_040000010200030000_030000050407000009_010603000500000702_090005080100000304_080000070306000000_000200000900000600_050100000608000900_060000020700000000,
  0x000700090300000000_000203040006000001_010409020508070003_040001000900000002_000000000000000000_000000060407000805_000905030004000000_030000000009080000_060800070102050300]
theorem mixed_24_ok : mixed_24.all fastOK = true := chunkOK_sound _ (by decide +kernel)

/-- `mixed` (10000_mixed_puzzles.npy), boards 6250..6499 -/
def mixed_25 : List Nat := [
  0x000000000400000200_080602010000000300_000700000002010006_060800000004020000_000000020008030000_000000050903000700_000005040009070000_070400000000000002_030900060200000105,
  0x040207000100080600_060800000407010002_030109020806000007_050400090001000000_080000000002090006_070000060008050004_090008000203000000_000000000900000001_010000080000070000,
  0x000305000004000000_090204030600000000_010006000705030004_000007000000010600_020008000103000000_040000000906070002_000002000300090405_060009000000080000_030400080509000000,
  0x000405090000000702_000007030500080004_090100020700050306_040000000200070008_080000050407030600_000700000600000009_000509000000000003_000003000005060200_000604000300000005,
  0x000000000100000900_000200000006080000_000507000000010000_000000000608000200_000802000004050000_000409000500000007_020100000400060700_030000000200000009_000004000007000000,
  0x000700030004000600_000000000001000800_000604000800000000_090107000300050200_000000090000060307_000503000400000008_050001000600000400_000000000009000003_020009040003000000,
  0x020005000700000300_090001050006020400_040006000301000800_000600000102040008_010008000000070002_070000080000030501_030009010008000000_060500000000080003_080007000403000209,
  0x030509000000000000_000700030000090805_080004000005000302_000000060100000009_000000070502000104_050000000000080007_070000000409050008_000001050000070003_000905080300000401,
  0x080000000006050204_060400050001080000_000000000007000100_020008060703040001_000307010400060805_040106000000020007_070005080004000000_000604020009000508_030000070600010409,
  0x000604070900020000_070001000000000800_000300080100000000_000000030008000000_030006000700010000_000400000009080000_000008090200030000_040103000000050902_060009000403000008,
  0x000000000400000309_000004020009000000_000100030506000004_000000010700000002_000000000000060000_080000000005030400_000300000200000700_040000000901050003_000602000007000000,
  0x000001070806040209_020407050300080106_060809010002030705_000902000600070004_000504080207090601_010706090504020800_090105040708060302_040008000103050907_070003020905010408,
  0x020300060800000000_000709020400000000_010004050009000802_000007010008020000_000200090700000005_060908000200010000_070000000000040900_040103070900000200_090800000500060100,
  0x000006000000010002_000100080605070409_000000040000000000_000000070900080000_000000000008000007_000300060100000000_000900000702050000_080005000000000200_030002050000040000,
  0x000005020000000300_000200000000010004_000000080004000609_050901000208000406_000006000000000001_000800010000000003_000000000000000902_080100040003000000_060400000700000000,
  0x000104000000000000_000700050000000100_050900000700000400_000600020000050807_000009000008020000_000000010007000000_020007090100040500_000000070800090200_000500000000000008,
  0x000000000003000509_000506010902000800_090008050000000006_030900000001000000_000600000208000004_040000000700000000_000000020000000000_000003070000080000_060200000804050007,
  0x000007080004000106_040800000009000700_000005000200030408_000002000001000803_000000000406000200_000000070002000900_050200090100080600_000001040008000500_090000000705040000,
  0x000000010000000300_010902000000060008_000304000600090100_090601070008000000_000005000000070900_020407090005000800_040103020006080005_000000050004030009_000000030807020001,
  0x000007000600000100_020000000009040600_000100020400070000_000000000006000801_010208000000060305_000006080200090700_080300060002010407_000001040900000208_000700010800050000,
  0x050006000200000003_020709000306010004_000308040009000700_070204000608000300_030000000004000600_060005020003090400_090607000000000000_040100060805000000_080000030900040000,
  0x010004000005080200_000800000000010300_000300020108040607_000000040503020006_070000000000000508_000000080002000000_050600030800000000_040007000001000800_000000070200000001,
  0x000001060000030900_070000010009060002_060002000000000705_000000000400000000_000500080000000409_040009000207000306_000000020805040601_000006000000070500_080400000001000200,
  0x030000000001000800_040000000000070209_060000020000000104_000002030008000700_080900010005000400_000400070902080001_090500000000000000_000304000000000900_000008000000040000,
  0x000800000000000502_000005000000010000_000000080509000706_000900000007000600_080007000000000000_020403050000000001_040308090005000000_000500070803000004_070000040006000300,
  0x000900000000000400_020300010000060800_050000040000070209_060208000000000000_010000060000000002_000000000203000600_000602000000050004_070001000004000300_000000070602000100,
  0x000200080004050007_090000060500000000_000500020300060000_030000000002000005_080000090100000004_000100070603000900_000009050400070000_000400000000000000_050803000009000400,
  0x070001020000000500_000009000800000702_060000050000000308_030000000002000005_000900000000000600_000700030406090000_000000060000080000_000000090000000000_040607080000020000,
  0x090000000000000005_070500000000040209_000603000000000000_030000050102000004_080400030000000000_000001040608000503_000000060001000800_000800090200000100_010000080705000000,
  0x000000080000050000_000000040700000009_090000000100000007_070006010500000900_030000070000020401_080004000309000700_000008060400000300_020000000805010600_000000090201070000,
  0x090000000601000307_070000080005000001_000000000007080000_000100000902000000_000002010806040003_000800030500000009_000001040000000500_000305060100000000_000700050200010406,
  0x090208040003050601_000001000000000000_030007010005000800_000109000002060000_060000090100000002_080002000407010905_050906000304080100_000700000000000200_000003000900040500,
  0x080702050004090601_000100020700080405_000405010800070003_010603000900040502_070904000205010300_050008000401060000_000309080000020104_040507090002030006_020800040000050900,
  0x000600000905000000_000000000004000000_000809000000060000_070002000000040000_060000000001000008_000905040300000600_000008000400000206_010400020800030500_090203070500000400,
  0x030000000100050709_070000000800010200_020000050000000004_010704000000000800_090006080000040005_000003020000000007_000105030200000908_000007010506030000_000002070900000500,
  0x010500090200000000_080000000006070000_000004000501000208_000000000302040000_000000010600080002_000300080700000509_000900000000030006_000008000000050704_000703000005000900,
  0x010000000206000409_060805000004000000_090000000008000105_040601000305000008_000508000000000600_030907060802000000_000002090401050006_000009000000000700_000100020500000003,
  0x000500000006000104_000901000200030006_060204000100050000_050002000300000700_000807000600000002_000300000000010000_000000000500000000_000600000007000401_000700010002000005,
  0x090000050800000000_050107090004000000_000000060701000000_000005010300000006_000608020000000000_030900000008050100_000001070900000302_000700080406000000_060000000000070408,
  0x000201050407000000_030409000006000500_000705030209040106_000807000000010000_000006000800000709_000902060005000800_070000000000000900_000503000908000400_090004010000000200,
  0x000000000000060000_090400000602070001_060000000000040300_050200080300010607_000600070000000200_030800010006050004_040906020801000700_000005000000090100_080701000500000006,
  0x030000000200040000_070000000009000005_040506000000010000_050000000300070000_000400000100000903_090008000700000600_000004000007000108_000005080604020300_000000020900000000,
  0x000000000000000007_090000070406080500_070000080100000300_000002090007000000_060007000001020003_000300000600000000_050000000003000004_000000010000000200_020106000000000805,
  0x060304000100000500_000000000000070000_050000000308000002_000500000201000003_030400090700050801_000600050400000900_010003000005000004_040005000007090000_000000000900030205,
  0x000607020000000300_000900080403000000_030000000000000008_000001000900000007_000009050200010000_000200000004000009_000000000300080900_090000040006000102_050100090000000703,
  0x000009000000020305_030200010000000000_000006020003000800_000003000000000007_000400050602090000_000900040007000200_070000000504030609_000000060009010502_000605000201080004,
  0x000000030000000206_060001000000000000_000700000508000009_000809000002000603_020400000000000000_000007000100090000_000000000009030000_090105020003000700_000603000004000001,
  0x030006000107020004_000700030209000806_020000060000030007_080005000300000000_090001000005060208_000600020800000000_060003000000000400_000008000902070000_070400000600000500,
  0x000600090000070205_070000000000000903_000409000007010600_000100000700050400_050900000003080701_000704080000090006_000201000600000500_090000030000000000_000007050000000004,
  0x000000040000000900_000000000500000000_000206000900030000_090300020004050608_000501000000000700_000000000805000001_030000000602080009_060000050008000003_000400090000000500,
  0x000307000408060900_050004000603070802_060208090500010304_000000000200080709_090103080704020006_000002000900000103_020401000300050008_080009050000030000_030705000806090000,
  0x000005000001000908_040002000006000500_060000030900000000_000400000203000009_020300040509000600_000000060700040000_090000050000080000_000200000100000000_000007000004000205,
  0x000000000002030008_020900030408000507_030000000700040902_000700000009000800_090804060100000703_060000070004090105_000609040007050001_010200000003000406_000500000001000209,
  0x050001070309020600_070908000006010004_060000000004090000_000500000800030906_090607000003000100_000100060002040700_010000000400070803_030709000600000400_040005030001060009,
  0x000000000000000906_020003000506000401_050600000009030208_040007090000000002_080300000702010500_010006000400000000_030400010000020000_000000000208090003_000002000605040807,
  0x000500000004010700_030400000006000009_000801050709020000_000100000802030005_080006000003070104_000300060000000902_050000000008000000_000000010000090000_000900000605000000,
  0x000007000800010000_000308000004090000_010006000002050000_030001000500080400_000005080000030000_060800000003000500_000403020000060008_000102000605000003_000600040300000005,
  0x050006010009020800_010902000308000000_000300000002090000_000000000100060008_000000040000070301_000000000907050000_000008000000000502_020400050600080700_000000020001030000,
  0x000006000000050900_000009040700060008_080105000000040000_000000000007000006_040000000602010500_060000050304000007_010000000000000600_050607000001090300_000800030006000201,
  0x050300000008010206_000600050102030800_010208000706000000_080501000300000009_000002060000000001_000006000005040300_070000000600000003_060800040200000000_020104000000000000,
  0x000005000006000300_000600000204000500_000403090000000600_020500000009040000_000300010800090005_080000040305020006_030800000400050000_000700000003000008_050102000008000000,
  0x000900000007040000_000300000002090000_000200000500000103_070000000006050901_000000020000000000_030508000900020700_020000070604000000_090001050003060408_040605090008000000,
  0x040003000208050000_000709000006000000_010000000004000906_000000020007080600_020000000001070309_000000030005010000_090006050000000100_000300000400000000_000000000009000200,
  0x000900050100060000_000400000800000209_030100090002040007_000000010700020003_000500020308000000_000300000900000001_060200080000030105_040800000000070002_010700030009080604,
  0x000900000006020405_000504000000010600_060000000800000009_000000000407060000_010407000900080503_000003000000000900_000102000700050006_080000010200000000_050700040000000201,
  0x000003000500000800_000100000800000006_080000000009000005_040005000000060700_000601070408000900_000009000100020000_000000000302000507_010508060000000209_000200080900000604,
  0x040009080003000005_080000020004010609_010000000000000800_000000000000000904_000306010400080507_070002000008030006_000507060301000408_000008000000000000_000004000005000002,
  0x000007040000010006_000409000603000007_020500070000040000_000005060200070308_000300010007020004_000002030400000000_000904080006000000_070000000304060005_000000020700000001,
  0x050008000306020007_000000000002080000_000000000908000103_080006000007000000_090000000000000000_030400000500070000_040000000000060000_000300080004090002_000600090001030008,
  0x000307060002000000_020000000000070400_000000080000000000_030708040900020100_000902000805000307_010000020700000809_080009000104030706_040000000000010000_000601030200090504,
  0x000000000800000004_080005090401000000_000004000600090300_000000060200080903_040600000000000001_030809010000000400_000708000500000000_000200000300000000_000000080100000607,
  0x000700000000010006_000900000003000207_000000090607030008_000000000000080600_000001040208070500_070200030000000009_020000010004060000_050007060000000000_000306000005000700,
  0x040006090501000702_050907030206000008_020001080407000009_060003000102090000_080200060700050300_000000050803000406_010000020004000903_090000000000000600_030608000005010000,
  0x000300000500060009_040000090008000001_000000000000000003_000007000003000906_000001070009050004_000200000400000807_090600020800030705_080000060005000102_000005000704000000,
  0x070800000000030000_030006000004050700_050400030907000800_040008090502060103_060305040100090207_000009070306040508_000000000400000005_020000010700080000_090007060803000002,
  0x020008000004000001_000700020605000008_050600080300000004_000003090002080000_000000000000090000_000800040103070600_070502000000000000_080000000000040300_030904010007000006,
  0x070204000901000800_000500020308000004_000800000000010200_000000080000000309_000600000009040000_030900000000020608_060000090004030007_080300000000090006_000409000000080002,
  0x000000020100000600_000000000903000002_080000040000090000_000304090800010000_010007000600040009_000000000000000000_000000050209000700_050000000000000000_020800010004030005,
  0x090007010204050008_040100060005070003_000508030900000001_080600000301000409_000700090002000805_000004050608000000_050401020700000306_070000000103090500_030209080000000700,
  0x000004000000070006_000702060800050109_090000000000000000_060000000107090000_000000040600080001_000907000300000602_000000000001000800_070000000402010903_000003090006020000,
  0x000005070001000600_000000060000050008_020706000009000003_000009000008000002_050400010207030906_070001000003000005_000600000005000000_040002000100090000_000003020000060500,
  0x000000000500000000_000004090602000800_000800000000050200_000009000000010305_050607030000020904_000001000000060000_000000010000000000_000700000200000500_000100080000000403,
  0x000204000000000000_050006080704000001_000900000600040008_090102070000000000_070600000908010000_040003000200000700_000009000107060000_030008060000000000_000700050000000300,
  0x000900000003060004_000300040500000000_040000060001000302_000003000604000807_000701090000000200_000000000700010603_000107050000030400_000004000007000000_000000000009050700,
  0x080004000700000000_070600080405000000_050000000102070004_090000040000020000_000800000001000000_000400000000000608_060100000000000002_000005020803010000_020000000006050003,
  0x000006000709000503_000900030000000604_020308060405070109_000007000503000800_030400000208000906_000000000000000000_000509080000040201_000000000900000005_000200050600090700,
  0x000000050002000803_000503000900070600_080902000607050400_000705000003060009_060000000005080007_000000000001000504_000000000106040005_050006000009000008_090007000504000006,
  0x060000050301000002_050000000000080001_000900020000000500_000400000000000300_000305000600010009_080000000002050704_020100000000000000_030009000006000000_000006000005000003,
  0x000002090000050803_040003010705000200_000900000000040000_000000000400070609_020000000509010300_080000000007000000_090008040001060700_010004050800030900_000305000000080000,
  0x000000000100020000_040500000002000800_000800000007000000_000005000009010008_080000020000000006_000906030000050204_000004000000080600_060200000500000100_050108090406070300,
  0x010000000206000003_040002080503000006_000603000700080402_090001030608000007_000006000000040000_080200000004000001_020009010305000700_000300060009010200_060104070002000005,
  0x000005070001000900_000207040000000000_010009000003040702_070000000008030604_020008000307000000_000006010009020807_080000090002000300_000000000005000008_000003080704090005,
  0x000408000006000005_000502040000000700_070006090501000002_020100000007050300_080600000903000000_050700000000000006_040200010000000000_000007030004000000_000001000000080000,
  0x000000000000000008_000009060004000005_040701030800090002_030000000700010804_000000040600000000_000000000001050006_000207080103000400_010600000400080007_000400070006000000,
  0x090403070001000200_020600000000000800_010000000500000000_040000080006090700_070002000403080000_000000000700020001_000009000607040100_030000000108050000_000104020900070000,
  0x090100000400030000_080200000300010006_030006000500000000_000000040200080607_070600050800000000_020801000000000000_000000030000060800_000000090004000200_060300000008050000,
  0x010000000000000005_020904030008070000_080500010706000904_000008060203000709_070109050000030006_000300000100000408_090207080000060000_030805070000000100_000000020305090000,
  0x000000000005000000_020800000000070000_000300070800000006_000004000001000800_000000040000060902_070900000008000300_000200000000010700_000700000503000008_000001000709000000,
  0x060504030102000008_000000070009000001_010009000000030500_000000020000000005_000002000306010709_000600080900000300_000405000000080000_000000000004000003_000001000205000007,
  0x000600000800070005_000809070001000300_000000020500000004_000000000204000000_070000000000050600_000106000008000400_060001080905030007_000708000000000001_000003000000080900,
  0x000407050902000000_000600000007080200_050002000100000007_000001070000060803_040008000000000000_000500020009000004_090205000003070008_030100000000000002_000804060000090001,
  0x020001060400090700_090706000000040005_080304000500000200_000008030000020004_030000040000000100_000002000008000000_000000000302000001_000800090006000000_000200080004030000,
  0x000504000900000000_000603050000000000_090007000106000000_000209070003000105_040700090501000300_030100020000070600_070001000000000004_050000000000000200_000300000005010900,
  0x000001000000040705_070006050000000800_000500040000000000_050708010000000200_000600020908070500_010902000006000000_000205000001030900_060009000000010000_080000030409000000,
  0x030904020000050007_020600000009040003_080000000007000200_000005000902030600_040000010506020000_060002040003000900_000403060700080502_000106080204070300_000200090300060400,
  0x070008000001000002_010006030709040005_050400080000000307_000000000300000509_000000020500080100_000001000600000004_000000000105000000_000105000000060008_000702040000000001,
  0x000605090000000104_080200000004070000_000000010000000008_070009020000080500_000308070900000006_000506080000000702_050000030708000000_000003000209000801_000000040600000000,
  0x050908000400000203_000000030800070904_030704000902000008_000601070503000009_090000000006020000_000800000209000000_080509000300000701_060300000001080405_000100000000000002,
  0x000907080003000000_080300050600090701_000106090400000000_000009000001020007_070805000204000000_000201070800060500_000002010000080000_000008040005000002_000603020008000005,
  0x050000000007000200_010008000004050003_000200000800060407_000004000006030109_020800000009000604_060000040703000005_090600030402010508_080000000000040006_040305000008090700,
  0x000000000000000200_060800000300000009_020000090000000300_050008000209070000_030902070000010605_000007030005000000_070506000800030004_000409000700020006_010203000904000000,
  0x000301000802000004_000500070001000006_000400050903010708_050000000009060007_000900000700040501_060007040000090200_000800090000070105_000009000100000000_000600000207080409,
  0x080501020600090304_060204000009000700_000307040100080602_000000000500000809_040708090001030500_000900080000020407_050809060702000103_070102050400060908_000400010908070000,
  0x050000000003000007_030008020001000000_070200000000030408_090003050008000000_020005000300080000_000800000002090503_000500090000000300_080602000007000009_040009000000000005,
  0x040006000000020000_010000080209000506_020000000400070003_000400090601000007_000009000800050001_000000070004080009_000000050902000004_090100000008060000_000704030106090800,
  0x060000000100030000_000000040000010000_000700000000000904_000000010405090302_000200000800060000_000005060203000000_000600020008000100_000908000000020003_030000000904000600,
  0x000500000403000900_030906000008070200_000002090007030001_050009060102000407_000600000700000300_020004000309000005_000000000000000702_000000000004000100_000207050901000003,
  0x020100000009070000_000705010000000009_060000070000000300_090003000200000801_000000000104000900_040000060000030000_000000000005020000_000007000001090000_010009040000000607,
  0x080204000607000001_050107000003000002_000006020801040005_040005090208070106_020700060000000000_000609030700020000_000003000502000800_090501000400030007_000802010000000504,
  0x000000010000090004_000003090600080705_000500080002010603_040300070508060000_050601000000000008_080009000401000000_010007000809040006_000900000200000107_060400000107020800,
  0x020501070409000000_040803000506090200_000600080003010500_000006020800070009_000700030004000600_030005060001020000_070308000100040900_060000090007080000_000109000600000700,
  0x000000000002060800_030007050000010902_060802000109070004_040009000500000200_000700020600090105_050200000001000007_020005000908040700_070000010200000000_000600000400000300,
  0x020008000000060709_000000030809020100_010000070000000000_000004000005090200_070000040600050801_030000000908040607_000700080100000500_050802090000010400_040003060002000008,
  0x090000040000000000_040008000100020907_000000020300080004_030104000800000602_080700000000000009_000900000403000801_000009000204000700_000003000900000000_000400000007000208,
  0x000003060000020000_070008000005000100_000000010000000300_060500090401030007_000000030507060002_040007000000090000_020100040003070608_030700050008000900_000400000000000000,
  0x000000000400060003_000608010002000000_000005000000010000_000000030000040500_000407060001000200_020903000000080100_070300000000000000_010500000600070904_060000000000050301,
  0x000800030706000509_060300050900040000_000105040008070000_000702000000000004_000008000400000000_040003000009000005_000500090007000401_030000000600090008_000009000800050003,
  0x000902030000050000_010500060008000900_060700000000040003_090305000002060000_000600000907020301_070001000006000800_020009070000000000_030807020000000509_000000010009030000,
  0x050200060403000900_040000000100000806_000000000009040000_000400030200010500_000700000900020403_020005040800090007_000509010600080000_060004070002050009_030100000500000000,
  0x000002000001050400_000300090500000702_050704030208010900_000200010406000005_060401000009000000_090005070002000000_000000080103040000_040500000007000000_000009000000070000,
  0x000900000400000000_070405000000000801_010306000000000000_060000090001020000_000000040300000006_080104000605000007_030007080004000200_090000070000010403_040001030902050000,
  0x070000020600000000_000005000009000407_080900000000020005_000407000000080003_090800060003000500_050000090000000206_000000040908000000_000000070506040001_040008000002060000,
  0x000000000304000906_000104000006000700_000000000100080500_000003040001000200_000000080600000307_020000070500040109_000806030209000005_000405000000030600_030007060000090000,
  0x000900030001050602_060005000802000300_000000000406080000_000009020000000000_000503000000000104_000600000500030009_020000000903060000_050400000000090000_090000040000010008,
  0x030000000109000000_000600030508000000_080700000200010503_000004000003050600_000000000605000201_000000040701030908_000000050000000000_000002000900000105_090008000300070002,
  0x060000000000070000_020109000007000805_040003000008000001_000602000405030700_000000000700040000_070405080200000006_000300070006050200_080206000500000307_050007000102080600,
  0x000005000400030000_000406080700050000_000000000105000000_010009000600020000_000500040009010608_000000000200000500_000000000500040102_000003010000000000_000600020907080005,
  0x090506000300040000_000001000906000000_000008000000000900_000407000000060002_080009000200050000_030602000500000004_000000020600000500_000000070400010008_000000030108000000,
  0x010000040803000000_000805000000060000_000004020000000100_030000080000090001_090002060004000000_000500010009000700_000600090000000005_000201000000030008_000000030000000000,
  0x000603000000050000_000008070006020000_010702000900000600_000400000001000006_000500000000000200_000201030000090500_000000060700080000_020800040103060900_070300080000000100,
  0x000100080903000700_060807000400000000_000000000000000000_000001000802050000_080006000500090000_030005090007000600_040000000600000009_050008000000000006_000600000205070000,
  0x050002060000000900_000003040109000805_000000080200000003_000000000001070000_030605090800000000_070100020604000500_000300070000000104_000507010408000306_010400030900000207,
  0x040000000903050607_000905000007020308_000000050206010000_090400000001080006_010706000000030002_050800030600000009_000500010000060703_070104000308090005_030609000000040000,
  0x000508060000000400_000400000803010007_070903000000080600_000007090400000001_000100080302090006_000009000000050800_080604000001000500_000000070000040008_000001040000060009,
  0x090001030407000600_000000090006000007_000000050108030000_000100000000000000_050006040002080000_070800000000000004_040600020900000300_000705000800000002_010002070500000006,
  0x000200070008040900_040701000000080205_030908050204070100_000004030702060000_000306000900000804_010000000806000700_000007080001000602_080603000009010407_020000060007050308,
  0x050307010400000802_000201030608070405_040000000700010000_070003060000020008_000000020003040700_000800000901000306_000400000007000200_000700000106030004_030000040200000000,
  0x000900020306040705_000703000009020106_000602000700000903_090405080203000607_060307090401000008_010000000500000300_020809030605070400_000500040102030809_030104070908060502,
  0x000500080200000006_020000070000000000_000904000500000000_000000000002000700_000000040003000000_000106000800030000_000709000005000000_000401090300000800_000000000108070000,
  0x000600070004000200_000500060000000000_080000020900010000_000003000208000400_020006000007000001_050000000003000009_000200040000060700_000105000702000003_000400030006080000,
  0x000200000000060407_000000080006000000_000000000001000805_020704000300000000_030600000900070000_080005010400020006_000000070600080000_090807050100000000_060400000003000000,
  0x000000060503000200_020005000400060003_000000020701090500_060000050900080007_050309070000000401_080200030004000600_070002040309000000_090000010605030000_000600000000000000,
  0x000300000000070200_080400000105090306_000902000300080100_000803060201000509_090004080503060002_020600040009000803_060008000907030401_000001030602000008_030509010800020607,
  0x060509000000010003_000700000000080602_000001060000000005_090400000600050308_080000000400000106_010605030800020407_070900000500000004_000106000000030800_000004000006070501,
  0x050000020700080000_000200000008000003_030008010000000700_000007000200000000_040600000300000008_000300070904010000_090803040000020501_020000000100000000_060000030802000407,
  0x090002010000060008_010005080000000000_000000000600040100_020809030506010000_000000040000000209_000703020000080500_000900000004000802_060200050800000300_080001070003000000,
  0x000403020500000900_070002060409000300_050001000800060402_040000010200000806_000100090300000200_000500000704000000_090005000000000608_000200000608000509_000600050903000000,
  0x050700020104080306_000602000803000000_030004000006000100_070500000009040000_000000010002000600_000000060007050809_000100000205060903_040003000600000000_000005000008010002,
  0x010000000600000400_000009030004000800_000205080009010003_000501020000080004_000000010000000000_060004090800030200_000106040903000000_000000000000000006_000400000008020009,
  0x000905000700000000_000006040108030500_080103000500070600_000500020003000107_030600000801000000_000002000004000006_000001060000040000_000400000205010003_000300010407000905,
  0x000100090000000008_070300040800010000_050809000201060000_000400000907000600_000007000600020003_000003080000000700_060001000000000000_030200050709000000_080700000100000000,
  0x000108040200090006_050007090006040001_000009000300000008_070500000409080002_000406000000000000_080900000600000004_000704000105020803_000000000004060700_060000000003000009,
  0x000706000000000008_000308000006000900_000000000309000706_010007000805090400_000003090407000001_040500000100020800_000000000000000602_000900000008000105_060001000700040309,
  0x000006000008000004_000305020700080009_090801000603050700_000000000100000000_000400000009000500_010602000005000407_070000000502040000_000000090000000300_000009000000070208,
  0x000000080600000000_000600070100080905_050800090004000601_000000000900050003_000006000008000400_000401020000000008_000009050200030000_020300000009000500_000100000007000000,
  0x000000000607000201_000700010000040806_010006000800050709_000602040008000500_000007000200000608_000900000000020000_070204080001060900_000108060400070300_060000070000080004,
  0x080600010204000000_050001000908000006_000000030005080400_000802040309060500_000000080000090100_000009060000000000_060700090001000300_030005000806000700_000900000700010008,
  0x010200000000000900_000304060007000000_000500000003060100_000600000500000000_000000000000000308_000700040002000000_000800020609050700_000000010008000200_020000050000000006,
  0x000000000009000000_000403020007000000_000005000008090302_000200000000000806_050000040206000007_030000080900000004_060000050000000203_000502090603000700_070000010000000509,
  0x060001090504000803_020805060700090104_000300080000000706_040003010900080005_070209050008040000_000000040302000007_030900000105000400_000002000406000500_000007030000000002,
  0x000408000600000000_000203000007000001_060000000800000507_000007000008000400_000006000300080000_040002000000000700_000600030009000100_000000060102000000_000001000400000003,
  0x070000000000060803_050008000900000001_060100070003050409_040700000201000306_020000000705000008_090801000000000002_000000040307000000_000004020000000000_030507010009000200,
  0x000401000007080600_060900000108070403_000008000400000902_000600010705020809_070000000604000301_000105030002000004_090306000000040008_000007000809000000_000800000000090500,
  0x030805000000090100_070402030100080005_060109080400000007_000007040300060500_090000000006000401_000000000000030008_000500000200000900_020900050000010000_000706000903000002,
  0x000702080000000900_080300020600000005_000900000007000003_000800000301040000_070406000002000309_020000090006000008_000509010200080607_000600030700000000_000200000900000000,
  0x000500000008010200_040000000501000000_010908060200050003_000000000000000100_050009000000030604_000006070000020005_000000000000000008_000003010900000000_000000040800000301,
  0x050107060000030800_080406010300090007_000009050007000001_000000020003060008_070603000100000009_000000000506000000_000500070200080906_000001000000020400_000200000904000005,
  0x000300000009020001_000009000001080405_050000080700000000_060007030900050004_080002040100000309_030004060000010007_000800000000030902_020400090003070008_000003000002040500,
  0x000100040009060002_070000000308040000_040000020000050003_000004000000070508_000005000800030000_000807090400020001_060009000003000400_000000000000000000_050000080700090200,
  0x080006000000030000_030000000000050702_070000030002000800_000002000501080007_000401000003000000_050000020006000000_010800060009000003_000003000205070008_020900000300000401,
  0x000700050000030009_090300040807020106_000002000900050008_070001080005040000_020003010604080007_000608020700000005_050000030400090000_060104000208000003_030009070001060800,
  0x000200060307050900_070009000100000806_030004090000010200_020905070003000401_040100080209060000_060800050401020709_000006000008070502_000008010502040000_000402030000090108,
  0x000000080100060402_000400070000010000_060000000504000007_030000000001040008_050600000400000100_000000030005000200_090000000800020000_040000000206000700_020007050309080600,
  0x020000000607000003_000406000300000009_000700090502000004_090000050700030601_000000020100040908_000300060904000000_000009000206070400_060507030409000102_000002070000090306,
  0x000000000902070803_030001070604020509_070200000003000006_000000000801090702_060000000007050000_000708000305000100_000600000700000200_020407030000000000_010000050200000000,
  0x070800000305000000_000000000800020306_000100000000000800_000000000400030100_000000030900000708_000000010607000002_000008040003090000_040700080100050000_000000000006080401,
  0x000000000204000508_000900000805000701_000805070109040000_090507010400000600_000002090000010005_060100000500070900_000000040000050109_000201080000000400_040309050601000007,
  0x000003000800060704_040000030709000100_010700040000000905_000000000003000008_000209000508000607_000001020000000300_060000000005090000_080002000004070000_090400000007020003,
  0x080900020006000007_000007000003040008_040300080000090200_000703060801020004_000000000902030000_090208050000000600_010402030000000009_030009010607000002_070800040009050003,
  0x000009000001000000_000806000400000002_000004070203000009_030007000000020504_000000000004060001_000401000005030900_090208030000040100_000000080100000203_000003000902050807,
  0x020000000907050400_090003000500020007_000000020806000000_000502040000000300_030109060005070000_000004000000060005_070005000601000900_000200000009000501_000900000000000700,
  0x000000080905040006_050009020406080007_000604070000000000_000306000000010005_010005000008070903_000000010500060002_000000000000090000_040500000000030700_090000000007050004,
  0x000004030009070206_000003000000010009_000601000200080000_040000060302090700_000007010000030800_010300000008000600_000002090006000307_070905020000000000_000006070500000008,
  0x020407000000000000_000000000900040308_000003010500000600_000702000001050400_060105040200090000_040000070005000001_000500000400030100_030004000002000005_010200000000000000,
  0x000205090000080600_000901020608000705_080000010000090000_000700000000050000_060400070009000800_050003060100000900_000100000000000008_000000040000000009_000500000907030000,
  0x000002000700050001_000005040300000607_030700000001020009_070600000000000000_000201000000000000_000009000604010205_040000080000000000_000807050200000000_020003000407060500,
  0x000000000100000805_000200000000040009_000108000900030000_020005030008010600_000700000500020308_000300020400000500_070000000304000001_000006000205000703_000500070009000402,
  0x060003080100000000_010207060409030805_040805070002000900_020300040800000000_050001090203000008_000000000507000009_070500020900080003_000000030600000507_000408050701000000,
  0x020700000000000900_000405070906000000_000000000001000000_000000000703090000_000000090508070004_040907000600000805_030200000007050009_000804000100000300_000006030004010700,
  0x000300000908000607_080009000000040300_070206040000080009_060003080700000100_000000090304000002_020007000000000000_000008020000000000_090704000605000008_030002010809000000,
  0x000001000000080700_030009000100000400_060007090000010203_000000040803000900_020300000900000006_000908050600000000_080003010000090000_000400000509000108_000000000208000004,
  0x030000000008090507_000000000501000000_040005060700010000_050600000000040001_090700000000000003_080400000300050000_000900040203000000_000504000800000006_000000090000080000,
  0x060000010000000000_000009000000030005_010205090300000800_000901000002040600_020500040006000700_070000000003000509_000000030400080207_000000000005060301_080003020000050000,
  0x090802010406000300_070005080000000400_030006090000000100_000209050000000000_000000060008010000_080001000709000003_020704030005000801_060903070801000500_000500020004000706,
  0x000700040000050200_060500000008000007_090203050000080000_030000090000000600_010605000002040300_000009000305000000_000006000000000800_000000000603000704_000000000809000002,
  0x040100050000090300_000900060301000504_050203000000070601_000008020400050100_000005080900000007_070600000000080000_000000070000000903_020000000600000000_000704000500000000,
  0x000000090001040008_090000000408060001_080000000000000509_000605040009000700_040700060300000105_000003000007020600_050000030804010900_000000010200000000_000004000000050800,
  0x000901050800000000_000803060200090100_000000000000060000_000000000003000408_080304000600020009_000007040908010306_000600000702030900_000009080300050700_030000000405000000,
  0x000000000600080200_090000000007050001_050000000308000000_000500000001070002_000100000900000008_030800000002090104_060000000203040000_020005040700000006_000900050000020700,
  0x000100000907040500_000704000005060109_000005000100070802_000000080603000201_010003050004000000_080200010000000405_050809060300000000_000001000002000908_070402000000000000,
  0x080100050003000000_000605000004080200_020000010800000000_000000020001030000_000000000309070000_090308000405060102_000003000000010500_000001000500020003_050000030100090007,
  0x070008030006050000_040902010700000000_060300000000000000_000200040000000007_010407050600080003_000000000007000502_000000000501000000_090003070800010005_000000020003000604,
  0x000105000007000900_000902080500000006_070000040000000000_000000000800090502_090001000000000608_000000060209000000_080003000000060000_020000050000000309_000000030706020804,
  0x000908000100060000_000000080000000901_000600000004000800_000309070000000604_000004000000000203_000000000006010000_010405000000000006_000806010703000005_020000060400000100,
  0x090000030007020004_000000000000000000_000607000100030500_000000000608010200_010000000700000000_000000000000080305_000700020000040801_020005080004000000_000000070300050002,
  0x000403010005000000_010700000000020000_000200000000040000_000000050000000600_000000040800000700_070000000602080100_000007060000090003_000904070000000000_000006000900000008,
  0x010209060504000003_000806000700000009_000005020008010000_080000000000000007_030000080002090500_050600000009000802_090100000200030400_060403000007000000_020508000001070906,
  0x000000000004010200_000201090300000005_000700080001000906_030907020008040501_040000070009000603_020005000003000007_090406000807050300_010003000002000000_000802000005000004,
  0x010500000600080002_000403000500000100_020609000800070400_060800070004030009_000904000000000007_000701000205060800_000100050000000700_000005080900040001_040008010700000903,
  0x040000000001000000_070000040500030008_030000080700000402_090402000600070305_010000000005000204_060700000300000900_000907000000000000_000100090800000000_000304000007050009,
  0x000600070000020300_090000000000000700_020007040009000100_070000000908000000_000005060000000007_030009000000010600_000003000500000900_000004000801030200_060002000400000001,
  0x010000000902000308_040005000000000000_000902000806000705_090000010300050602_000500000004000109_000006090700000800_060000000207080501_000008060000090200_000201000509060403,
  0x000100000003090008_000000000000000107_000200000700030000_000000070904050001_000000000005000009_040000060000000700_000000080609010000_060003000501070002_000509030200080400,
  0x020705000300000008_000900020000000003_010300080004050002_000407050008020100_050609030002080004_000000040000060005_000200000000000007_000003000209040000_090800000400030206,
  0x000000060800000009_050008000003000000_060002050000000008_030600040007090800_000000000100000405_040000000000030000_000406000200000900_010000000604000007_000500010300020600,
  0x000100020600090500_000500010007080003_090008040005000100_000804000003000009_050001000700030002_020307060000000000_000400000506020308_000700090002000400_080600000001000000,
  0x000500060200030008_000207000008040500_000300070100060200_000604000500000300_080703020009000605_050109030000080002_030002050806000100_010800000003000006_070406010000050803,
  0x060700050304000201_010508060000000400_000200080100070005_000800000603020000_000001000000050006_040900070205000300_080100000407000002_000602030500000000_050400020806000109,
  0x000000030000070100_060703000000000408_000004000007050000_080002070109000004_000000000000020705_000306040500000901_030007080600000209_000908010004000003_040000020900000807,
  0x000004000100060008_000000000600000003_000608000709000104_050007000001040609_000002000000000007_090800070003000005_000000000504090000_000500000000000000_060200000807000401,
  0x030000000504070006_050600090700040103_020700030000090008_090507040000000001_000403000006000905_060201000908030700_000900010300060800_070800000000010300_000006020800050409,
  0x000106000000020700_040002060507000000_000300020801000900_000000000600030200_030701080902040000_000600050703080000_000400000208070001_060000000100000402_010207000006000003,
  0x000400000900030008_050201060000000000_030908070405000200_010000000000080600_000604010300000900_070509040600010302_090100000704020805_020803000000070400_040005080200090103,
  0x060005070000000009_000000090208060100_080902060001000004_000200010005070906_000000000003040002_050000000907000000_000000000000000001_070004000000020600_090600000802050400,
  0x000604000009070000_000000000003000509_000300000008010200_060900000004000705_020400000700030001_000008000000020604_090007030100000000_040000060002090107_000200000900000008,
  0x000800000000070200_000507010000000000_000009000000000501_090703050800010400_050200070000090600_000006000204000700_000300000700050006_000002030000000000_000605000908020103,
  0x030700000506000008_000200040007090503_000500000000000400_000801000000000005_020000070405080100_000600000800020009_000002080000000601_060000000000070004_090007010004000800,
  0x050100000007000308_060709010300040200_000208040500000900_000602090000050401_000005080000000709_090307000000000002_070006030000000004_000800000000090100_000001000000000503,
  0x050003000006000001_060002040000070000_000008000000060400_070000010402000300_000800000305000000_000000060900000004_000000000000000607_080006000207000000_040000000600010208,
  0x000900020600000305_030004000005010200_060002000000000007_070006090203000400_050200040008060103_000803000500020709_080005000102000904_000301070006080000_020400050809000000,
  0x000700000006000000_000002030007000500_060000080200030004_000000090001000007_000107000002080005_020000040700010000_010005000004090000_090200000000000008_000600000000000403,
  0x000700050006000000_000006000204000700_050000000701080600_000502000000000000_010000060000000008_060803020400050000_040900030608010000_000001000005030000_080305000000070000,
  0x000607000009020405_020900070405060000_030400000000000809_000500010008040200_000800030204050006_000200050000000708_090704060003080002_080300040102090000_050102090807030604,
  0x090600080300000001_030001000907000400_070008010502030009_040000050206010008_000000000000050300_000105090000020004_010300020009060805_000900070108040203_080004000005090000,
  0x070000080002040000_000000090006000508_000200000005060701_000001030600000200_000000000004000000_000000050000030007_090000060008000000_000003020501080000_000000070000000402,
  0x090000000400070108_000000000500040209_000007020000000005_000002000800090000_080400000706000001_000003000000000807_000300000001000000_000900080000000002_000108040600000900,
  0x090702000006000000_050806010700000009_030104080009060000_040005000000080006_000007000800010204_000200060904070500_000608090007040000_010500020008090607_000409050603020800,
  0x060000070100090508_070500060002040301_030001080000000000_000602030000000005_050009040007000802_000807000209000400_080000000004000100_000005000708030006_020100090006000000,
  0x080600000000000000_000500000600000004_010007080902030500_000301090200070408_090806040000000200_040702030100060000_000200070805000001_000900060400050002_000100020009040000,
  0x020004050000000008_070108030200000600_000009010004000200_000000000000020906_040500020000080301_000200000308050007_000003000405060802_080400000600000500_000905000002000004]
theorem mixed_25_ok : mixed_25.all fastOK = true := chunkOK_sound _ (by decide +kernel)

/-- `mixed` (10000_mixed_puzzles.npy), boards 6500..6749 -/
def mixed_26 : List Nat := [
  0x000400000005000008_000002090300000000_000503060004000000_000000000502090800_030901080000000200_000008070000060000_000004020900030000_020105040603080907_090306050800040102,
  0x000802000000000900_090100030800000000_040000020000030006_000901000002000000_000000000000000208_070200060000000001_050400000600000107_000607090401000000_000008050000000009,
  0x030000000004000207_000006000003080400_050200080700000006_000000020000000900_070300000001000508_000900000307020004_020003090408000700_080507000000000000_040000070605000002,
  0x050300000701000000_000000050000000700_000000020000050006_000501090200040000_070600010400000000_030200060508010007_000805030002070100_000000040005030000_000100000009000500,
  0x070200010400050903_000500000700000400_040009030000000008_080601000905000000_090700000308040000_030005070001000809_000900000000080000_020000050807000004_000804090603020000,
  0x000006010300090000_000800040600030000_010200050809070400_080000000006000005_020507000900060000_000300000005000109_000600000000010903_000000060003040807_030400090000000600,
  0x060300000004000805_000200000003010900_080109020000000400_030005000000080000_010008060302000700_090000010500000300_040000000000000002_000000000400070100_000003000200000608,
  0x080205070906000000_000000000500060800_030006040200000005_070000000600000408_060000090701000200_000001000004000007_000600080107000009_000500000300000000_010700050009020300,
  0x040805000000090002_070200000008010500_060001020500080004_000000000000040009_000000000001030800_020000000000000100_000400070000000308_080000050104020900_090502000300070401,
  0x030200090005000708_010005000600000000_080000000400000100_000000050900080607_000506000007000301_000000000300000500_090302000004070000_050001080206040000_000000030000010005,
  0x030400010902050706_000000080600040009_000005000703080102_000200030000000000_000003070500010204_040007020000000000_000009050100020400_010002000000000900_080300090207060001,
  0x090703020000000100_010200000500000000_000005070000000900_020908000400030507_070304050000000000_060500000000090008_000607000005010000_040000000001050000_000000000200080306,
  0x000500090308000104_000900070104060502_010400060502080900_040600030207090801_000709000401050006_000108050900000400_070000000005030609_000000000700040008_000804020603010005,
  0x000000020000010708_000007000008000003_000000030000000405_030005000607020000_060000000001000900_080000040002070300_000000000000000502_050004000000080000_010009000800040000,
  0x000507080000000302_090001000200000708_030000050700000001_000103000500080207_000208070300010006_070009000800000503_000000040007020000_010700020900000000_000900000100070605,
  0x000009080605030000_080003000000020000_070000020000000100_000000000009000000_000000030002000800_000008070106040200_030000000000000000_050900000001080006_000000000000070001,
  0x050000010803040000_000400070000000308_080003040009070000_000304080000050002_070002060000000000_010000000000000003_040009030000000000_000805020000000004_000106000005000000,
  0x090000070000080400_030000020000000006_000708000004010000_000900000001000004_000001000000000500_060002090400000000_010000080002000000_000600010309040000_000009040005060002,
  0x090001040003000002_000706020809000500_000002000000000000_060000010200090700_000904000706000001_010000000304000000_050000000002000907_020600070400000000_070003000000000100,
  0x010000060509000700_000006020308010500_000803000407000200_000105000700090000_030004050601000000_000200080000000000_000009030000000100_000008000104070300_000300070006080900,
  0x000100000302000005_060200090408000703_080000050001000000_000506000800070900_030009020005040800_000002010900030006_050600030204090107_000301000000060204_020000000106050008,
  0x090000060708000000_020104000903080607_070608010002030509_000200030500090806_060500090000000001_080709020000040000_000906000300020704_000800000200060100_000002070100000900,
  0x000400000908070003_080000040300000205_050306070100000800_020504000709060000_060001000200000900_000800010000000002_040009060000000000_030005090007020400_000008000403000001,
  0x090700000608000004_000108040209000000_060005010700090200_070209060804000000_080006000000020409_040500090302060007_020000080407000506_050807000100040902_010004000905000000,
  0x000000040000000007_000408050006000002_060000070208000000_040000000007000305_080000000600070401_010000000000000006_020006090000000103_000100000000000700_000307000100000009,
  0x000000040300090605_090405020806070100_010006000005040800_000000000000000006_050004000000010908_030600000409000000_000002060900000301_040000080000000200_000100050000000000,
  0x060500020100070403_000100000003060005_000700060000000100_050000000006090204_080002050407030000_010004000000000000_000400000000080509_000001000900000306_000805000600000002,
  0x000004090006000200_000205030400090601_000700050200030008_040301070008000000_050000000309000804_090800010504000300_000000040003000706_000403060000080109_000000080000000000,
  0x000600080204070301_000407000003000000_020003060705040900_040006000507090200_030901020400080005_070002000908000406_060004070800030000_000700000302000004_050000000009020007,
  0x000003040000000100_000100000803000402_020604000100000005_070900060000000200_000500000000000904_000300000000000706_000000010700000600_000000080200000500_010000000500070809,
  0x090400080105000702_020001000000000900_030005040902000601_000003000006000200_080000090704000000_010507000000000000_070000060200000500_050000000000000007_000009050000020003,
  0x030007000000050600_000001090406000007_000200050003000108_000000000001060200_080300060009000000_000006000507080903_090002010300070000_010008000900030000_070400020600010809,
  0x030005080100000009_000000000600000504_000900050000000703_050000000008070000_080002000700090400_090700020504030000_040009000000000000_000008010005040007_000103040006050002,
  0x000902030000080600_080100000600090004_060000080400050000_010403000902060700_000000000708000000_000000000004020900_030004090806070102_000001040200030806_020008000103000509,
  0x020003000000000400_000400000000000209_000001020604070000_080000010000000000_000000050700000000_030000000200040900_000900000007000300_060000000100090005_000004000000000806,
  0x090200000500000803_050003080200000100_080700030901040205_020500010403080706_060000020008050901_070108090605020304_010605070009030402_000007050302010008_030802060104000009,
  0x000004000700000000_000107000800000209_000000000000000003_000500000000040308_080300050406090000_000000000300000602_000009040001000000_010000080000000507_060005000000000900,
  0x050000080207000000_040009000600000008_000608000009000000_000000000805020600_080000010006000009_000300000002080001_020001000004000000_000005000001060007_090006030000000000,
  0x000403000705060200_000700080400000103_000000030102000700_080007000301090000_030000060900070002_000609000000000500_070300040008020905_060504010209080300_000008000000010604,
  0x040709000000000000_060502000000000800_030001000409000005_000000040005000300_020000010806000004_000004030900050000_010900000007000006_000206000300010007_000007060201080000,
  0x000805030407000000_000600000000000004_000407020001080905_050104000000000800_070000080506000401_080006040100050003_060000090000000008_000002000804030507_000500010003060000,
  0x050004000900070000_030100000004090000_000200050001000006_060000010205000000_020000070000050100_010705000800060000_040607000000000500_000300090000000007_090000030400020008,
  0x000401090000070608_070000010006030902_090300020800000100_040007030600010200_060009000000000000_000108050002060400_010700000009000006_050900060000020003_080602000005000001,
  0x000000030200000804_000805040001000200_030002080000000000_000000060300000005_050703020000040000_080600000000000307_000007010009000002_020509000600000408_060100000002030000,
  0x000705000001040208_010800090000030000_020306000005010709_050200000106000000_000900000203000006_030601070000050400_060100020007000004_070003060800020900_080000000509060000,
  0x000900050000060004_030005000006000708_040600000007050009_000103090602000007_090400080005020100_070802010000000000_000301070000000500_080704000500000002_060000000003000400,
  0x000007000500000000_050800060000000300_000200000000080000_000002000608000705_000500000400030000_030608050000000009_020000090000070400_000000000205060900_060900000300050002,
  0x000008000006000102_000000000401090700_000100080205000406_000006040107020003_080403000002000507_020700050008040009_000200070000000904_090607020500000301_030004010000000005,
  0x080407000100050206_000203000500000809_090005000000000003_000000040701090008_040508090006020700_070009000805060304_000001000903040005_050000010000000907_030900050607000102,
  0x000400080500000000_000700030006000200_050009000001000000_040007000109080600_090002000308000507_080500000000000300_070000010000000000_030004090002000000_000200070000090800,
  0x070804090102000503_000100050704000009_090205080000070100_000908040206050007_020006030907000001_030000000508000002_000009020000010700_040001000809000000_050000070301000000,
  0x000000000006000005_000900050800000000_050801000000000609_000600000005000000_000102080004000000_090000020100000400_000405060000090007_000000000502000800_030000040009000000,
  0x000000080000030000_000300000001060000_000800030400000700_090000070003000601_010000000005080003_000508060000070402_000900000000040007_080000000000020000_000703020500010809,
  0x020000000000070501_040100000500090000_050903010000000408_000500000300000002_070306000200050104_080004000005000009_060009000400010805_010005070800000300_000000050000000007,
  0x090204060800030000_060300070209000001_000000030000060002_000000000000070100_070001000300090506_000000000007000008_000003090000050000_050000040603000207_040608000000010300,
  0x000109060004000700_000005000007080000_000000080000060900_010407000302000000_050800000000000000_090000000800040200_000900000400010002_000300020109070500_020001000600000800,
  0x000000000000060107_000503000706000900_020000000100030008_080400020000000000_000600000000000005_000100000403000002_000001060008040003_000000010200000800_050008000000000006,
  0x010007030000000009_000000040009000005_000900000600000000_000000000001000003_070008000000020900_000501000802000004_050000000006000008_020009080007050006_080106050000030007,
  0x000008000005000200_000009080200000000_000005030000000000_090003000008020401_080406020001000003_000500000900000000_000004050800000600_060000090000050804_000000010006000907,
  0x000701030000000900_040800010609000005_090503000000000200_070009000803000104_000300060004000007_000400000007000000_000906080001070000_000000040005020009_030000090700080000,
  0x000308040209050007_090007000005040306_050401000006000000_030002050400000701_070504030601000009_080000090702000405_000703000004000608_000609000103070500_000005000907000200,
  0x000704000003000009_000000090000030000_000008000107040000_000400000902060000_000800000000090007_000000030008000000_040005020000000900_060007000304080000_080200000709050000,
  0x000600000000010000_080405030001000007_000003070906000800_000709000305080006_000001000000000005_050006000000020309_000504080100000602_000008000702000000_010302060009070000,
  0x050000080200010403_000001000000050802_040000030500000600_060805000700000100_090103060000000004_020400000005000308_000000020000000000_080502000904030700_000900000000040000,
  0x000706020005000009_020000060300000507_000500000000000600_090000030008010000_050107000209000806_000403000000050902_010904000002000000_000008000703000000_070000090000000000,
  0x000003040105020007_000701000003000500_000000090700000100_010007000508030002_000300070901000006_000605000000000001_000504000806000700_000000000400000000_000000050000000000,
  0x010604000200000500_030000040705020100_000502010600000004_060001050902080307_000000000008060000_020807000406010900_000006000007000003_050003060804000001_040009000000000600,
  0x070206000000000000_000008070000000300_000103040000090007_000502000704000000_000009030008050000_000001020506040000_000300060001070000_000807000200000900_020000000007010500,
  0x000401000602000000_090000000004000800_030700050008040001_000308020000010400_000900000700020008_060000000001030700_000009000200080300_040007000300000205_000000090000060007,
  0x000004000000010708_000008010507020604_060007000804050903_000800090000000205_020406000705090000_000000000002040300_000703050001000400_000000000008000507_000900000000000000,
  0x000900000000040205_000002000400090000_000704000500000000_000100000700000000_000000090000000007_000206000000080300_000000060000030900_090600000200000008_040800010005070002,
  0x000100080009050000_050800000600010204_040300000500000000_030008000200070009_000702090803000005_000504000106000308_000400060000080001_000000000000040500_000000050904030006,
  0x030000060000070800_000600070000090200_000001020000050603_050200080000000000_000000040200000500_000800090005000300_000900000000080000_080000050600020407_020006000000000900,
  0x020006010000080007_080005070206040300_000001000908020000_060003000100000200_070009080000000400_010000040000070605_030000000000000000_050000000700060000_090608020000000004,
  0x000000060400010000_000003000900060408_000000000005000000_060209000704030105_040300000100020000_000000030500090000_070400000000080002_030002040608050000_000100000209040300,
  0x000500000600020003_000803050007000409_000001080000060000_000006040502070300_000107000800000004_030000000009000006_000000060000040102_010300020400050007_000602070005000008,
  0x020000000001040000_000000000400000000_000004000006050007_000000080107000000_000308040000070009_070602030900000001_080206000704000300_000000000800000704_040709020503000806,
  0x000407060000000000_010005000400000002_000800000000000900_070000090000080500_000008070000090204_040000000500000700_080000000600000400_000000040003060007_000004000800000105,
  0x000004000000000003_070008000002040009_000200000900000800_020300000508000600_000100030000080702_000800070200030501_010700050603000000_000000000000010000_000400000007060900,
  0x000000000006030907_000000000509000600_090000000400000105_040003070008090000_060007050000080200_050000060300070001_000600000800000000_000400000603000000_020001090000060800,
  0x060008070500000203_040005080200090000_000000090006000508_000007030000000604_000000010008000000_000000060002070001_070001000803000400_050003000609020007_090604020100030000,
  0x000000000201000700_000900000600000000_000107050008090002_090506000100000004_020000040009050001_000003000006000900_070804000003010000_030001000005070400_000600000004000000,
  0x060304050000000002_000005000100000000_000000060000000009_070002000901000008_050109080200070300_000400000006090200_040206000000030005_000007010300000004_010000000005020800,
  0x000001000007020000_000004010000030605_020000050604010000_010300080005090000_080009040000050000_040605020000000000_030000000008000002_000100000003040907_090000000400000503,
  0x000006080300000104_000300050000070002_090000000704080305_070601000000040003_020004070003010809_000000040000020000_060405000900030000_000003020000050407_080000000005000901,
  0x040000070001000900_030000000502070000_000500060300000400_050000000108090200_000000000700000000_010000000006030804_060005000407010302_000100080005000000_000409000203080000,
  0x040009000205030007_000100000003000000_000200090800010004_070000000000000000_000004070608050900_000500000002000700_000006000100000000_000701000300020009_020000080009000100,
  0x000200000009050400_000004000102070806_000008000007020300_000300080001090500_010000000004000203_000009070000010604_000000090706000000_000600000000000005_000003010000060008,
  0x000900000000000006_000407030602080109_000006070900020305_080204090501030600_060000000708000904_070509000003010208_090300050006000402_020005000300090800_040000010009060500,
  0x010000000000060000_000500000100000807_000008000000000100_080000070400020001_020700050000000000_090601000002000405_000100080600050009_000800000305010206_000006000200080300,
  0x000902000100000005_030500000002090106_000000000003020400_090006000000080004_000000000000000509_050800090000000001_020005070000000008_060708000005000902_010000060000000703,
  0x090000000600070005_000706030004000209_000500000009000300_000000050003020401_040000020000090703_000900000001050600_000300000400000500_050604010008000007_000009060305000800,
  0x000205000000010000_000306000000070800_080007000000090000_000001060409000308_000000030002000000_030000000708040000_000800090501060000_060004000200000000_020000080600030701,
  0x030006090100000000_080004000500030001_050700000002080600_000008050009000100_060100000300000502_000500000000040308_000009040800010705_070400020900060803_000000000600020000,
  0x070206000004090308_000400070908050600_000508000300040100_080007000100000000_000000030400000001_000005060800070903_050000040601000000_000001080705060204_000704000000000805,
  0x030800000405090006_000904000200000503_000605090003000800_060000000004000200_090008000302000700_000500000000080000_000001020008040000_000200000507010900_000000040000050302,
  0x000800090004000503_000000000000000000_000409060503010807_000000000301000005_000701050000000000_000000070008040100_000500000000020000_000100000000050300_000208030105000009,
  0x000600000000000001_010000000600080005_000409010205030706_060905000007000308_000004030508060209_000300000400050100_030006000000070800_000807050300010604_040001000806090503,
  0x000000000203070805_000500090007000400_000000000600000000_000800000502000007_000406000700080000_000302080401000000_020008000900000600_060000040300090002_030904020006000000,
  0x050300080206040107_020008040300060905_070006000901020803_000701090008000206_090205010603070408_000004020705000309_000603070104000502_040007030502080001_000502060809000704,
  0x050600000002000000_000809060700000500_030007010900000800_000000090600040007_000000070400000000_040006050008030009_000000080300050400_000500000100000000_070300000506020000,
  0x080006090500000000_000401020006000009_000200080403000607_010002040009050708_060000030008000900_000900070205060301_020109050304070006_070003000000000000_050604010807090200,
  0x060004020800010000_080005030700000400_090100040500020007_000509000000000000_000001060000070000_040806070903000002_000900000300000006_050007080100000000_000002000007080000,
  0x000600000200030100_000104030000000002_020800000900060004_000002060309070400_040906020708010503_000708000100020006_000400000003000201_080301090502040607_070205000400080300,
  0x020709030401000008_030000060908000002_060008000700030009_080000000003000907_040000090807050003_000903050000010804_090007010204000305_000004070306000001_000300000509070400,
  0x000700000000040000_040001060700080009_000000040001000200_080400070000000102_020305080004090600_000000000600000400_000204000007000000_010000000400000900_000000050208000000,
  0x000500000000000401_010000030504000007_000003000001020000_090000000007050102_080702000105060003_030000000000000700_000300000400090000_060907050000010804_020000000600000305,
  0x020007000805000906_000509040006010007_000000010009000500_000806000003000402_010000000007050008_000005000000090000_000600000002000000_000700000008000000_080000000001000704,
  0x050903020608000100_000700000400030008_080000030001000209_000001000000000400_020007000900010800_000409080002000506_000005000004060001_000108060007020005_000300000000000000,
  0x000000000200000908_000000000000050406_080400000500000100_090300010002000007_000700000008000301_000008000400090205_000803000106020509_050604000809010000_010209030005000604,
  0x020000000000010805_000705030000090002_000000000005070000_000006080500000700_000000040003050608_000003000000000009_000000000400000007_000008050000020000_000500090000080000,
  0x080509010004030000_070000090300000002_010000000005090800_000000020000000300_020600040103000700_000804000500000200_000300050900000008_050008000000070000_000900000007000100,
  0x010400030000000800_060803000009000501_050000080200040003_020000040008000906_000106090000000402_030900000600000000_090601000800000305_070005060900080000_000300050000060200,
  0x000200000000050000_000006000800000007_000907000100080200_090000000500040300_000503080000000900_010000020000000800_000000050006000708_000005000000010000_000800000009000000,
  0x000007000100000000_000108000006000007_030200080700040000_070005000400000003_080000060000000004_000000000800070000_000709000608000002_000800070005090000_000001000000080006,
  0x020004070001050000_000001060409000800_000008050203000100_040600000000000301_030205000608040700_080100040307060005_010406090000030508_050003080000090000_090802030504010600,
  0x000203000506010009_000006010209080300_000000000004000006_020004000000000700_000000000402000003_000600000000000201_060001000008000900_000302050000000100_000700000000000005,
  0x000008070400000609_020304000008010005_000006000502000800_000902080000050000_040100000000000006_000005030004000000_000000000000040507_050000040700000003_070009020300000008,
  0x060500090800000301_000000000000080205_000002000000000000_020709060000000500_000008020401000900_000000000500020803_000005000206000009_000000000904060000_010000000000000400,
  0x000008030000000002_000400000006000000_000100000002060009_050000000200040006_000000050000020007_090200000107000005_060003000001000000_010807000604050203_040002000000000600,
  0x080400000109070000_020000040000000008_090103070800050406_000000020607000800_060008050000090702_070000000308040600_010204080005000300_030709010200080500_050000000700020000,
  0x000003060000000000_000608000001000300_040201030008000700_000800000000000000_050900000800030000_000704000006050000_000000000603090807_060000000509000200_000009070100000006,
  0x080000050100000900_070906000800000500_000002030609000704_000701060300000000_040003000000060000_000005000000040000_000200010405000008_030100020006090400_000407000900010600,
  0x030500000000000008_010907000300000206_000402060901000005_000005010409080307_070003020506010009_000100000803050000_090000000600070500_000300090007060800_000000030005000000,
  0x060407000901080000_090500000008000100_000803020007040009_000200060000010005_030600010705090200_050701000000000300_070306080402000900_080100000300000400_020000000006070803,
  0x000007000000050600_040000060000070108_060501000800000000_080200000706040000_000704030200060005_090603000000080200_020408010000000006_000006020003090800_000300000604000002,
  0x000000000000070002_000002000301000400_050000070800030006_040601030708090205_000000090604000000_000300020100000604_010200000006040700_000403000007060508_060000040000000000,
  0x000300000005040001_060005000400000908_040108000309000205_050000080006000709_000001030000000506_000007000501080300_010706040003000000_000500070008000400_000804000000090000,
  0x000000000004000900_000300000000040200_040605090000030001_000009010400070002_000004000900000000_070006020508090000_060007000300000009_010800000009060500_050000070100080300,
  0x000900000203080000_020006000800000000_080500060100000900_000200040607010500_060000000001000209_010005000000030007_040801000000000000_090007010000000000_000300000406090700,
  0x000300020400000000_000107000900020308_080502070103000000_070004080300050000_000800000507030006_030005000000000007_010209050804060000_000000030000090004_000003090006010802,
  0x090001000000000000_000203000500080000_070800000000020004_000300090005000000_000006000703000809_010009000002050000_000000000800000406_000008030006000007_030607050000010200,
  0x070002000000000800_000001000002000300_000005060008000100_040000070901020000_000700040000000009_000000000003000000_000100000000000000_000004080600000003_000000000005000406,
  0x000405080309000000_090003000000000000_080000060000000005_000000020000010507_000007040001030000_000002000905080000_020000000000070003_070000010008000000_000500000002000009,
  0x000000010000000704_000805070204000100_000400060008000000_000200090000010600_000109030800000000_050700000106020008_070600080401090305_000004000600000201_000501000300000806,
  0x000000080006000004_000207000300000608_000004000009000503_050708040203000000_040009010000000000_000000060900000807_030000070000000902_000000030000000001_000000000400080006,
  0x000906000200000500_000000000005040000_080004000600000009_000000030400000706_000002060108050003_040000050007080000_000001040500060000_000800000700000000_000000020803000000,
  0x020100080400000600_000409000003000000_000807000000050000_000300000906000507_010000000700000006_090000000004010000_050203090000070400_040600070005000900_000000000300060005,
  0x050800030100000000_000004000605000307_000103000209060805_080900070006030000_000600000300000000_000400090802000106_000300000008000004_000708010904000203_000509000000080000,
  0x000805020003000009_000006070100020800_030007060000000501_070003040000080000_000000000600000300_080004030500010002_000008000000050006_000000000806000000_000702050000090000,
  0x000000040002080005_000001000008000907_000803000000000000_000004000506000009_000208090100000300_000009000700000008_000702000000090503_010000070809000002_000900030200070001,
  0x090306080005000400_000105000700080000_070000010903000000_000000090000000503_080003040607010000_010600050300000000_050900020406030007_000004000500000000_060002030009050104,
  0x000504090001000600_000008050400030009_020700000300010000_000103040700050000_000000030805000107_000405000100000000_040000070000000005_000007080500000000_050002000000090703,
  0x000300000100050002_070008000000000601_010000020000000307_000007030008020000_000000000405000000_000001000000000509_000000060000070000_060000050000010003_030700000201000405,
  0x000000000002000001_010000000308050002_020600000000000308_050000000000030700_000004010700000000_000800050003000006_040502000000090007_000000000900040000_060003000807020005,
  0x090000040706000300_060000000000010800_000503000809000004_000000090000000001_070608020500000000_010905000000080000_040009080105000600_000106070300040008_080002000900050100,
  0x000600020400000007_040009000500010000_000105090003000000_010000060004020000_090002000700060300_000000050000000009_000307000000000000_000000000009000006_050000000006040000,
  0x000000000000050400_000408000005060000_090003070406010200_060000090000000000_040801020000090700_050209040007080300_000100000200070804_080602050000000000_000900010300000600,
  0x050000000900060000_000000020503000008_000308070600000000_000400000007000000_020100000406000907_070005080000000300_000500000802000000_000802040000010609_000000000100050002,
  0x030000000002000800_000002000806010300_000000000005070402_020000000403090701_010000020008030000_000000090100000000_040800000200000003_000001060504000000_060000000300000007,
  0x000005010007080000_000207050900000100_010900000608000000_040600000000000001_030008020706040000_000709040001000008_090000000500010000_020001000409030800_070000080102000000,
  0x000000000800000007_000009030700000000_000007000001000805_000300090600000400_000000000403080000_040000080000000000_000003070000050006_000500000004010700_000000000005020004,
  0x070109000600000203_000400000700000001_000003000001000000_020608010900040007_090704000003000000_000305070408000600_000001000507000006_030007000106000002_000002000300070008,
  0x070000090000000001_090006000100070000_000003070600000809_000900020700010304_000700000000080502_080402050000090006_020300060000040000_000107000409000208_040000010005000000,
  0x000007030000010002_040005010802000907_030000090005000008_000300000001000804_000006000007000103_000000020000090000_000000000009040001_090400000000000600_060108000000070000,
  0x010004000009030007_030800000400000000_060700030008010009_000005080004090003_090107020005000600_000000000000070205_000300000900060000_000001000000000004_000906070000000001,
  0x000000040000010007_000500000809030006_090700000003040500_000003010007000609_000800020900000003_000000000000000400_000407000000060805_060000000200000700_080009000706020304,
  0x000009000002000100_000006030000000800_080700010000000000_050800000006010000_000007080000000005_000000050400080302_060000000000030000_000300070600000000_070900000000060408,
  0x020000000904000805_000500000206070000_070000050300010900_000006080000050109_000008000000000000_000307000009020000_060000000000090701_000702000801000500_090001000000000200,
  0x000201000708000900_000007090400000800_000000060201030507_070008000000000000_030005070009000004_000000050003060009_000803000004000600_000704010000020300_000006000000090000,
  0x090000000005000003_040000090000070005_000000080300000000_000400000803060107_000007020004000300_000000000601000402_070208000009030000_010900030000080604_000004000500020000,
  0x020500010009070400_070103080604000000_040006070000000300_050000000100080000_000209050807040000_000601000903000702_090002000408060005_000005000700030004_060000000000000000,
  0x000200080009000000_000001000005000300_070005020000010009_010600000000090000_000004000000070600_000000000004030102_000000040200000001_000000000903000000_000109050600040000,
  0x000901060000070403_000000010000000500_000807000500000009_000008000009000102_090605000000040308_000100000400090005_000004000600000901_000500000008000007_010200090005030804,
  0x050009000801030700_000600050409000000_040108000000000500_030001080000070402_080405070900000301_000002030000000005_000507040200000603_020304010007000809_010806000305000207,
  0x000000070000000500_070100000805020000_000600020400000100_040001000009000800_030002000000010005_080000010300000000_000309080700000000_000800000000000000_000207030501080000,
  0x050306000007010902_010400030902000705_000907000501040803_000803000705020001_060005000309000408_070204010008030009_000000000803000007_000701050200090304_000009070100000200,
  0x000402010007060000_000008040600050700_050607000008010204_020001070004000500_000804050000000000_090500080200040000_040103000705000600_080200060401070305_060705000809020001,
  0x000109000206050400_000406000900080000_000700000000000900_040603000100000800_070000000604000309_000000000500060104_000300000001040600_010900000700000008_060007040002000501,
  0x020000000007060300_000900010800050400_040300000000000000_000705000002000600_000400000000020800_060002030000000001_000000070006000004_090104000308000006_000000000204000005,
  0x000107000000020003_090000030207010600_000000010900000708_000008090001000400_000009070000080301_070000060308090500_000703080005000209_080900020700000000_010200000000000807,
  0x060000000009010304_000200000001070006_000000000407000500_010905000200030600_000000000000000100_030008000105040000_000000040000080200_000004050608090703_090000010000060005,
  0x070000000000000300_000103000700060000_040005010000000007_000400050000000001_050000000000020600_000300070009040800_080000060000090000_060009000000050100_030000000000000200,
  0x080001060000030400_070400050000020001_020000010004000800_000705080001000200_000000070000000500_010900040002000700_000304000600000005_060007030100000900_000002000000000000,
  0x000509000002000400_080701000903000205_000602000008070003_000307010000090804_050904080006010300_000108000000000607_000006000507030000_000203060001040509_000805090304020700,
  0x010005070000000800_000009000000050000_080000000000040000_040007050001020309_030000060004070500_050900000007060001_000001000000030200_000200000005000604_070804030600010000,
  0x080006000107020900_000000050600000700_050400080002060000_000108000000000000_030000000200080004_060004000300000500_070000000005030000_040001000000000002_020003000806000000,
  0x000009030008020006_000602000900010003_000000060001000000_000200010807000900_000300040009070102_010000050300080000_000700000000000000_000008000103060500_000000080006000000,
  0x000200000000070501_000005000300040002_000006000204030000_060400000508000000_000500000100020009_090000000000000400_000000000607000000_000000000005000306_040000030000000007,
  0x010000070902030800_030200000506070000_090706040008050201_020009000700000104_070600050000000300_080000000600000700_000901030007000000_050002000001080007_040800000205010903,
  0x030000000000000005_000000000009040600_050004000100020000_060409000003010000_070005000001060002_080000000007030500_040200070000000100_090500010402070006_000008000000090204,
  0x000000000000000706_000206000108050000_000000000905010204_000805090000000002_000703050004090001_020409080301060000_030500040609070108_090004010807000300_070100000003000600,
  0x070900000600000003_010002000504060000_000006000900080000_060003020000010009_000007030000040805_000000000807030006_020600040308070500_030001000009000608_080005000001090000,
  0x000000000005000204_000900000000000307_030005040709000000_050001000000040008_000803050000060000_000400000608000002_060000000104000809_000000080006070000_080304000000010600,
  0x010500000309000608_040008070006030500_000607000500000400_000106000008020000_000000000003050000_050000000100000006_000400000000080205_000309000000010000_000000000004000003,
  0x070900000000010000_000605070400090000_000008000009070000_000400000500000600_060502000108000000_030001000000020500_000700060900050100_010000000000000809_050209010804000003,
  0x000500000907000001_000007080003000002_010003000000070409_000700000000060100_090406000000000003_000000000004000507_000309060000000000_080001000000000000_050000000200000900,
  0x080306010907000400_000000000500090100_090105000000000000_000000000005000000_000009020000000003_000200000000060705_060503040809000001_010002000600040008_070000000002000000,
  0x000103000507090400_000508090400070300_090400030200050601_000000040009000003_040800000000020706_070300020806000004_000704000900060100_050200000000000809_080901050604030000,
  0x000309000405060701_000004000107000208_000000000006040503_000503000201000000_090008060003050002_000007050800030000_000800000509010300_010706000302000905_000905010000020400,
  0x090602000408000300_000001000307090800_030708000001000002_000300010600070908_000000000000060000_060007000509030204_070003090000000000_000005000000020700_020000000100050400,
  0x000107000005040200_000400070006050300_000006040000000708_010000000600000000_070600050400000900_020000030001000507_000005000908000002_030000000004000005_060009020500000000,
  0x000200040000070300_000300080100000902_010907000003000004_000000090001080000_080602000000090003_090100000002000000_000801000004000700_030000010700000408_000709020008000500,
  0x000000030006050000_030500000000000809_080704000900000003_000600000208040001_000400090003070002_070100000504000300_040307080000000000_010005000709000200_060000050301080004,
  0x000000000008000600_080600010003000900_020007090000030001_000705030400060200_060402070000000500_030000000200000407_000006050000000000_000003040000000709_000200080000000100,
  0x080000090000000704_000300000500000108_000901040000000002_000000080600000400_030806070000000000_000205000903080000_000003000708000206_000400030006050000_000000020000070000,
  0x020107080000000506_000000010000000003_060009000700010004_000000000509040000_070000000000080005_040001000807000000_090003040200000100_050804000000000902_010602000008000407,
  0x050403000009070000_010700000008040506_000206000000000000_000002000304000000_040307050000000800_000000000702030600_000908040000000307_000000010007060000_000001000000080005,
  0x000007000000000304_000004000002060001_000800000000000000_030000020008050400_000000090405000003_000005000000080200_080000050001000900_040906000000030005_020501030900070608,
  0x000903070004010600_070006000005080000_000500000800000400_000200030700000900_060004080900000001_000009000406000700_000000020607090000_000007090000000000_090800000000070100,
  0x000900080701000000_060400000002000800_080702040006090103_070004060005000200_020005000000060008_000609020008000704_000000030207040000_090200000800010007_040307000609000002,
  0x040006000003000000_000007000009000000_000005010600000400_060000050001080009_050900000200000104_010700090000000000_030000000105000807_000501040908000600_080004030706000900,
  0x000006000700010000_000002000400000000_050000000000000009_000100000000000800_000400000007000006_080900030002040500_070008040009060000_030004000006000208_000000000300000004,
  0x000001000300000000_020000000000000608_050800000000000307_010207000000080400_090003070804000100_080006010200050709_000700020500040901_060102030400000005_000005000700000206,
  0x000001000008000200_000006000005000009_050900000203000600_000000090500000800_000000000000030102_000002080001000000_000000050004000307_000600030107090508_000003020000000006,
  0x050000000709000800_000201030006000000_080600040002070301_000806000000000000_040700000003000009_000002000400050008_000000000008000003_090000000000000007_020300000000000905,
  0x000500020000000100_000206030804000000_000703000005000008_030002000508000009_050008000000010000_000000000006030800_000000000007020001_000105080000000000_000007000900000006,
  0x080400090500000307_000900000000000008_000000060000090500_030005020009000704_000002050007030900_000709030608000002_000000080205040600_000508000000070003_000200070306000000,
  0x000601000209030500_030900000800020004_020500000000000607_000000030008010009_080009000007000402_070106090402050003_090000080700040301_000003000901070005_000704020500080900,
  0x000009000205060300_000800010006000000_050100000900000000_000003000407000800_000008020000000005_010600000508000700_090401000000000600_080000060004020000_000200050300000000,
  0x000509000000080000_020000000000000009_000000010300000500_070000000002000800_040908000000060000_050003000007040000_090300000000000200_000002000800000304_080007000201000000,
  0x000000000300000108_000706040000000500_000003080000040000_000600090002000800_000000060703010000_030900000000000406_070000000800090000_050009000604000300_000004000000000201,
  0x000806000100000002_000003000008090604_040900000007050800_000007000801040000_000504000900010000_000000000300000008_000000000003000900_060100000000030000_000000000000080000,
  0x000003000501000609_000706080402000000_020100060009000000_000008000200030500_040000000800000006_050001000000070800_010800040005000000_000000000000000001_030604020008050900,
  0x070000000000010000_050806030700020009_000002000000000300_000000000009000700_000000000600050004_000007000000090000_060000080007000901_080400010006070500_030700000400000206,
  0x090000000004030005_000003020000010906_050701030600000002_070005000006000003_000100000703080600_000300000001090507_030006000408000009_000200000000060000_010000060302000000,
  0x040000000007090506_070609050204000108_080305010000000704_000004000100060000_000000000009010005_020100000005000009_010007000500040602_060400080002050900_000502000401080307,
  0x070002000000090100_090000000702000006_030605000809000000_000003000508020000_040908070000010005_000206000400030000_020307000000000904_000000000000000000_000400000005070300,
  0x080506090000000400_020907000400080005_040000000605070002_000000000100020803_000000000000000000_090208060007050100_010000070008000309_000800030200040000_050703000900000208,
  0x040600000900050700_000803000000000401_000000000804000000_000006000008000000_080400050109060302_090000000607010000_000000000001000000_010500090703000600_000000000000000003,
  0x000003020001050408_050102000008000600_080604050703090201_040205080007060109_000001000902030500_000309010500000004_000000000000000900_020400070809010005_000908000205040006,
  0x000000000005000800_010000000000000009_090000020700040103_070000000004050900_000100000006000700_080004000000030206_000400070009020600_000300000002000007_020007000400090000,
  0x090005010002000807_040708030000010502_000006070000090304_000000040001080900_030604000200070000_080900000600000403_000400000103050000_070000090500030001_050003000708040209,
  0x080000090004000000_090100000008020300_000700000200000000_070000000103000000_000402080700010009_050000000000000003_060000020000000007_000000000600050400_000009000000000600,
  0x040700000900000000_080005000000000706_060300000000040001_000000010000030600_020003000007000000_050000000000020000_000000030000070100_000500000004000003_000408000001000200,
  0x080009010407000603_030600000000040107_000000000306000000_010000070800000500_020700090001030804_090006000000070201_000001000009080406_050000000700000300_000008040100000700,
  0x060000000004080300_030002060007090000_090000080000000002_080406010005000907_020300000609050408_070005000408000106_000700000006000003_000000040000000009_000208030000000705,
  0x000000030800000000_050800000000060000_020000090006000300_000006000000000002_000300000000080609_040907020000050100_000008060100090500_090005000300000000_060200050000000004,
  0x050803000007000400_000000000800030107_000000000003080000_000005010002070608_000207000300000000_000100000600020305_000708000500000006_000902040000000000_000500000200010704,
  0x000000020300050604_050603000000000207_040902070000030108_030009040500000701_060500000000000902_010000090006080000_000407030002010500_000000060807020000_020300000004000009,
  0x000000070806000000_000000030001000504_010002000409030600_000000000700000209_040000020005010806_000005090008040000_000001040500000000_000008060900000401_030400000002060700,
  0x090406080000000207_070001090206030000_050000000700000006_040207000901000000_080600000007000100_010903040805060700_030708000400020000_060504000002090803_020009030008000405,
  0x000004050000070003_000000000700040009_090207000003000508_060400000000000002_000109000000050700_000008030500000900_000900070805030601_000806000300000400_000003000002000807,
  0x000800000000000900_050000010006020000_000002000000000000_000309000000060001_000405000600000300_000000000900050400_040700000100000000_000500020000000708_000200090000040000,
  0x060000000700000800_080100000000070000_040000000009000301_090000000000000506_030500060000010000_010002000000080000_020903000500060004_000000070000000000_000000000400000000,
  0x010803000000020407_000406080000010500_070502010003000609_000901040500070308_030000000809040106_040608000000090005_000100000304050802_050004000608030701_080000050102060900,
  0x000000000000010800_000803050000020004_000000000200050000_010900000500030007_020007010006080005_040000080000090102_000004000800000203_080000000005000900_000002000604000508,
  0x030000000601000900_000608000500040002_050000000007030000_020800060704000000_000000050900070800_090706080003020504_000009010000050308_000004090300060207_060000000208010000,
  0x000900000405060100_080100060009050200_000006030008040007_050300070200000604_000400000000030802_000000080300000000_090002000000000700_000601050007000400_000705010902000006,
  0x070000030508000001_000004000609050700_030005000407060000_000700080002000000_000409000001080007_000100000700020905_000008070000030206_000200000000000009_000000090205000008,
  0x020604080000090000_080003000501000400_000000040200030708_000006000000080004_040000000803000105_050108070002060903_000000020000050009_010209000600040300_000405030709010002,
  0x020000030906010005_000509000008000002_000108000000000000_000400010209000008_010600000400090300_090805000000040201_040901020800060000_000307050000020109_050200090301080004,
  0x080700000309000506_000000080600090000_020600000000000803_060500000003000002_000002000408000000_000000000200000000_000905000800030400_000200000000080000_000003000905000007,
  0x000002030008000905_000000050000040000_000000020104060308_000001000307080609_000704000009030200_080000060200070000_000800000600000400_090000000800050100_020506010400090007,
  0x000800000005060000_000305070004010002_090200010000000300_000000090500000100_000000080003090000_000003040007020608_030000000700080204_000007060008000000_010008030000050000,
  0x000300020009000500_090006070500020003_050002000000000700_060104000000000000_000905000000000207_000003090005000000_000009060408070000_000208000000060905_030000000002000408,
  0x000000050600000001_040501070300000809_000609010008070002_080403000000000907_050900000207000100_010200000004050600_090000040703010000_070002080506090304_000004000000000000,
  0x030000000000000004_000804020905010600_060001000008000000_000308050006000400_000700000004060200_000600080002000000_000100060000040702_000400000200000500_080200040501090000,
  0x000000000807060005_000500000900030100_000607000003000000_070002010309000000_000900000600000203_040000000005000000_010400030008000600_060003000500010804_080000060400070300,
  0x070204000000000000_000006020000040800_080900000006010002_000500000002000300_000000000600000009_000100080900000204_000002000001000003_090000030000000408_000000000000000001]
theorem mixed_26_ok : mixed_26.all fastOK = true := chunkOK_sound _ (by decide +kernel)

/-- `mixed` (10000_mixed_puzzles.npy), boards 6750..6999 -/
def mixed_27 : List Nat := [
  0x000006030508000002_000009010200040608_020000000006000000_080000000105000000_000000000000000100_010004060009020000_060000070000000201_000100000002000400_070000000000090305,
  0x000000010000060300_000500000000080407_000600000500000900_000000020000090503_000005000000000100_010006030700000004_060002000000000000_050009000007000000_000807000900050200,
  0x000000040000070300_000408070900000206_000700000300000000_000002030100000708_000103060000000400_000900080200000001_000309000408000605_000004000005020800_020000010000000900,
  0x010609000305000000_000407000000000000_000000070004060009_000308040006000001_060002000007040000_000004000203090607_020800050400070000_090003060108050402_040000030700000008,
  0x010006030405020700_000800000001030400_000000080200000600_000003000800060500_000004090300000007_080000000000000302_070300020600000005_020005000004080903_000100000000000000,
  0x000700000005000006_000000000000030000_060000000300090501_050207090000000000_000301000700040900_000006030508010007_030600000409000000_000000080207060009_000900000000000402,
  0x060000040907020003_000405010300000009_030900060005000001_000000000001040806_040801000602050000_070006090804010302_000700020400030108_080003050109060004_000600000703090005,
  0x080400000900010300_050300040000000000_020109000700000608_000003000500000104_000501000800000206_040608000200030500_000000010000020000_060000020007000801_000000000005000903,
  0x050300010000040908_000004050009000207_010000000004000600_000008000200070000_000000040000000100_000007000008000506_000200000000090801_000005080000000300_060800000000000000,
  0x000004000007080000_050007030008040000_080001000204060700_000300070000020400_070002060005000009_000009040302000605_040708000500000006_090000000701000000_000000000006000800,
  0x000000030902080000_080000000000050000_000302050008000400_010006070300000000_000004080000000900_000709000500000000_000100000600000000_070000010804000009_040608000003000205,
  0x000800000900010003_000006000100000000_020100000504060700_090000000000000200_010000000600000000_000407080000030000_000702060809000004_000000040000000000_080004010000020300,
  0x080007000100020000_030000000700060000_000106030002000009_000204070003000600_090608000004000007_000000060900000000_000000000608000400_000700000200010000_000000000300050900,
  0x000600000002000100_010000040007000000_020008030901000700_000002010504080609_000400000000070001_000000090700000000_000000000400050008_000907000105030206_050803000209010007,
  0x000000060500000000_000600000308070509_000008040000060003_000000080000000600_000002000605000301_000700000900000000_000800090000000000_000100000000000905_030907050000080004,
  0x030001040905070006_000702000800090105_050906000102080004_020409000007000600_060000090401000800_000108030206000400_000300000000000500_000000000600000908_080005020000000000,
  0x000002090005000400_090000000000010002_000300070200090006_010200050700000904_000700020000050000_050000000301000000_060005000009020000_000009030007040005_030400010500000800,
  0x000607000000090200_000200000000000500_000000020400080006_000000010800070603_000706000000010800_000008090600000400_070509000000060002_000000030000050007_000000070002040900,
  0x000900000005010400_000000020004000703_000004010006050902_020706040000090008_040100080002000000_000000090007000104_030007050200000809_000405000700000000_000000030000070005,
  0x000004000500090008_060008040009050000_000300080100000000_040000000006000000_000901050000030700_000500000803000401_000600000900000000_000000030600000200_050800070400000000,
  0x000000030407060805_000708000005040901_040605010800000300_060401080702000509_000200000900070004_000907000103000602_070000090008010000_090000000200000003_000506000300090000,
  0x060009050000000100_000001000804030000_070300020600000009_050007010900000008_000004000705010003_000903040000000600_000000000000000000_000006030400070800_000700080506000001,
  0x000000060008020100_090000000000000400_080007000300000000_000008000009000003_000000000000050000_030002010700000009_070000020004000500_000000000607000900_060004090800000000,
  0x000000010703060009_000306000005040100_090007040602080305_000509020000070403_040000070309050002_030702060004090000_070603000000010500_000208000407030000_000904030106020000,
  0x000700000001000000_000005000000060200_000406020000070003_050200000000090007_000100000500000002_000309000208000000_000900010700050600_040000000000000108_000000060800000009,
  0x080000000003000000_000003010602000004_020000000004090300_000000000200050000_060009040300000200_000007080905000106_000300000009000001_000001030407000000_070902060008000000,
  0x000001050000020408_000502010800060003_070008000306000100_050900030001000000_000203000700000000_040807000002010000_000109070008040000_020700000003080901_080604000000000200,
  0x000007000000000000_000008000009050000_000400000302000000_000105000600000400_060000000800030000_000003000407000000_090700080000000600_000500000000080007_000800010000090005,
  0x000000000001000009_020001090500000607_060800000207010000_000004000902050301_000002010000070900_000003000000040206_090200000800030100_000500000000000000_030107000000090805,
  0x000600000500080709_000000000600000501_050109000000040000_020005000000010300_010700000000000400_000004000100000608_000002010009060000_000000060705000103_000000030000000000,
  0x000700000801000200_080401020900060000_000000000600000800_000900000000020300_020003010000070006_070600090000000105_050100000000080002_030207080000050609_000009000206030000,
  0x050000020003000900_000000000001000000_000100000908000500_090002000006000408_000006000002000003_080000030000000609_070000080004000100_000805000600040000_000000050000080006,
  0x000900000001000506_080701000506020000_020000000009010000_060100090800000000_000300000007040208_000000000200000000_050009010602000003_000603040900000100_000008000300000009,
  0x000000000508000704_000000090002080000_000005070000090203_060000000007000000_050400010000000000_000003080000060000_000000000000000600_000102030000000000_030800020000000400,
  0x000100060700080200_080009000301070600_000000000809000000_000800000400000500_070006000000000001_050300010007020006_000508000603000902_090000040200000008_060000000000000703,
  0x040003000908000000_000000040001090603_000000060300080704_000008000500000206_050200030106040007_060000080700030509_030806010400020005_000005000000060401_020401050609070308,
  0x000204070001000509_070005000008030000_000900000300010400_090500000007000004_020000030906000000_080000020500000000_040009010800000602_000000000205000708_000000000009040000,
  0x010000000700080600_000000040000000002_070008010500000009_060000000205000908_000903060004000500_000007000000000001_040000000000090200_000700000006050004_050200000000000800,
  0x000005000008000007_040000030005080609_080001000000000000_000008040007000001_000102050000040900_000009080200050000_000000000609070004_000500000800060002_000700010004000000,
  0x000400000109020307_000003020004080601_000000060007000000_000009050708000206_020005000600070003_060000090003040008_000602000005030000_070000030000090802_000000010800000005,
  0x000700030602010409_000000000500060700_010600090000000000_000400000100030608_060001040009000500_050000000806000100_030108070200040006_090006080400070200_070000060901050803,
  0x000006000200000000_090003000000000700_080500070100000000_030008000600010500_040700000300000600_010000090004000300_020400080000030100_000009000003000207_000300000002000800,
  0x000000000000000006_000009000005000100_070004060009080000_000005000400000601_000106080000000007_000407000000050800_000000010700060008_040008000003000002_000001000800000000,
  0x080000000003000500_000200070000000000_000000000000010209_000006000005000004_000000000000090100_040000030901000000_000304000602000000_010905000004030600_000000000000000700,
  0x030500020004000000_000000050000000200_080000000307000401_000000000000040000_090104030000020000_000208000001000703_000300000400080002_040600090000000300_000000070000090000,
  0x000500000002030009_000700000000050400_090306000508010000_050002070003080001_000600000000000200_000000080204060005_000003050001090806_000005000906000100_000109030800000000,
  0x000003000004000000_040607080102000900_000005000907080400_000300010000070500_090000050006000003_070004000803010600_050700000608000000_000000070000000100_000402000300000000,
  0x000000040206030001_000003090000020504_070002000100090806_000000020409080007_000204080703010905_000807000001040002_000006000000050403_000008000600000009_040005070002000108,
  0x000104020705090803_080002000000000701_000000000008000004_000208000903000007_000000070000080002_000007080102000009_000001090206000300_020000000007000006_070006030001040000,
  0x080401060700030002_050007000800040609_000002000000080000_090604020005000700_000800090000050206_010205070008090003_000100030000020805_020009000006070300_000000000000060001,
  0x000000000000000602_070001030000000400_080000000600000000_020406000001000000_000000000009000208_000005000403000706_000700010000060900_060000040005000007_000008090700030000,
  0x000705000200090008_000003090007000000_040900000600070103_000600000000000209_000009060002000700_050007000000080006_020508010009000000_000100020308050904_090004070006020800,
  0x000009000201050004_000007000004010000_000001050600020000_000000020500000000_000104060000000005_000002000007000608_000908040702000503_000006000105000407_070400000900080002,
  0x080405000000000000_000106030000000804_000307080405090106_050604000001000000_030809020000070000_000700090000000305_040008000000000009_000900000800000000_000001040906030208,
  0x000000010000000007_000007000206000300_000008070300090100_000001030700000900_060000000001000000_000000060000030800_030400090600010008_000705000003000400_080006050004000000,
  0x070004000102090608_020006000708010500_010000000005000003_040608050301020009_090000000200000300_030200000000050801_000000020800060907_080700010609000405_000903070000080002,
  0x000009070203010000_000300000008000500_060800090500030000_000000000000090005_010005000902070000_000000000000000100_000000000300000002_000100020409080700_090004060000050001,
  0x000003000100020000_000902000600040100_010806000904030005_080407010000000000_030001090000000800_090600080402000300_000300000700090400_060109040200000007_020700000000000603,
  0x080209000000000604_000000000200000000_000000090001000000_000403080000050007_090000000000000000_050701060304020900_000007020600000000_020900010400060005_000006070000040000,
  0x040000000300020000_030200040000000007_060501020800000000_000000000000000006_000006000005080009_070000080006000001_090600010000000005_050000070603090002_000002000900010000,
  0x000005000004000000_000000000001040007_040100050802060000_000200000400000900_000000000000000008_000806070000000000_080002000000000601_000600040100000000_000001000000090704,
  0x000201000009000006_000003010702090508_090500030006010702_000109000500020000_000005000000070000_060704000000050009_000402000308060900_000906000000080300_080000060905000201,
  0x010904070005060200_000000080600040100_060002000009050700_080001090000000604_050200060004030000_000607000208000005_000008000000000000_000006000800090501_090000020000000000,
  0x020304070001060008_060007050000020000_010509000600000007_040000000102080000_000201000007040003_030000040006000200_000103060009050004_090400080000000100_000605010704000302,
  0x000004070900000201_000000000002060900_020500000000000703_090000000100030000_000000000705000000_080600000200010400_000906020300000004_030008090400020605_000100050800000009,
  0x080006040000030100_070000020100000000_000409000006000000_090100000005000300_040008010000000007_050000000003010004_020900050700060003_060000030901020000_030000060000000901,
  0x030007000008050109_000208060001000000_000900000005020008_000700000006000500_000002080500000006_000400010300000002_000006000003000005_020503070009000800_000800050100060000,
  0x000000000600000308_000006000000020000_080700030000040009_050803000001000000_060002050000080007_000900000000030500_000108040000000002_020504000906000000_030000000207000005,
  0x000000000400070509_040001020905030000_050008070000040002_000805000700090206_070000000809000400_000409060002050807_000004000306020705_020306000007000901_000007080001060300,
  0x000200000000090004_080103000904000002_000006020700000000_000000000408010007_000004000000000309_060000000002040000_000700000000030201_000308000000050006_000601040003000008,
  0x090800000103000706_010006090705030408_070000080406000000_000700000008000004_000000070009060002_000002000001000300_050903060002000107_020100000900000600_000600010007000200,
  0x000500000103020800_010200000800090703_000000020009060001_000401080006000900_090008000502010007_000003000000080200_000900000600000000_000306050007040100_070000000300050608,
  0x000000000000000705_000002000001000000_000001000704000000_000500000000000003_040800030000000000_020700000509040100_080000000400030900_000900000302050007_030107000800000006,
  0x050709080200000000_030102000400000908_080006030900050702_000003000000090106_060501000000000000_000904000008020005_010307090602080000_090600070000030201_040205010803000000,
  0x000200000000000000_040000000000070102_000600000802000004_050000060000000007_000000040003000000_060000000008000001_070003050004060000_090506000000000008_020004000906030000,
  0x000903010700000000_070005000300010902_020401000000000007_000000030009000705_000300000004000000_000500000006090300_040000050607000000_050002000000000004_030700020001000500,
  0x000200050007000000_000007000000090000_060300000000000001_050000000108000007_040100090700000000_000708060500000900_000006010005080004_000800070900050300_000503040806070100,
  0x000000030008040900_000000050700020800_080205090004000703_000001000000030200_000000060002070008_000000000103000504_090504000000000601_070800010400050300_030002000500000007,
  0x000008000000000000_060702000001000009_000004000002000507_000000000400080000_080006000100000403_020000000908000006_000600050800000700_000205000009040300_040800070000000000,
  0x000200000800070000_060005000000010300_000003060100040009_020001080009000000_000700050000090801_000300000400020500_090002000000000007_000000000706000900_000100000000000000,
  0x000900020000030000_000002000800000000_000807000003000500_000004090006070000_000600070000000001_000300040000090006_000000030002000600_040003060700000905_050706080000000200,
  0x040009020100050706_050107060000000003_000806000700090400_010005000000000000_070200080000000005_000000040507030000_000900010000060000_000701000903020000_000000000200000309,
  0x030000080206000000_020008030005040609_000000090407080000_000004020000010508_090200000008030400_000507010000020000_000800040000050300_000100000000000000_040000050000060702,
  0x000000050903080102_000005060400000000_000209070008000004_080002090306040000_000003000000020000_000406000000000309_060007000009000200_000901030005000408_040000020001000003,
  0x060200030000000001_030009080000000002_000800000007000500_040603000100000000_000000040000000000_050002000000000100_000000090002000300_020007050006000000_000006000000080005,
  0x060000000400000809_040800060005030700_070900000100000000_000000000009060107_000600000004000500_030100050607020000_010000020500000300_000000040001000600_080506000700000002,
  0x000006000207000000_000003000000080700_000004000800010006_000009000001060400_070100040005090000_000000000000000100_000000000502000000_000300010000000807_000201000003000009,
  0x040005000003060207_000907010006000000_000003000002010500_070500060800020000_030402050007090006_000800000009000705_010300000605000400_090700020300050000_050200040008000000,
  0x000007000105000306_050106000009000700_020003040700000501_000500000400060000_000700000002080000_090000060000050400_000005020800000004_010000000603070005_080309000000000002,
  0x060200000000090000_010000000000000500_070400060109030800_000109070006000400_040607090500000300_050002030000000009_000704010600080003_000306000000010200_090501080000060004,
  0x000000070001000005_000201000605000009_000500000000000600_080906040000000000_050104000000000003_070002000009060000_000408000007030000_020000000000000100_030709000200040000,
  0x010600000000000809_000000060204000105_040500000001070006_070005000000060000_060100000500000300_000008000609050704_000000050000000603_000000020000000000_020000090000010508,
  0x000000000000080300_000300070000000509_040005000003000007_000400000507000602_000002000901000005_050903000800010000_030008000402000901_000600010009050400_000004000005000000,
  0x000605070000000000_090403000500010000_020000000003000600_070009080406000200_050004000000030900_010200050309000000_000002000001060500_000000090000000000_060701020000000003,
  0x070200000403010806_030000070106050009_000501080000070004_000900010300000007_080007000002000100_000003090000000002_050300000001040908_000000060005000001_010000000900000605,
  0x000003000600050200_010000000000000308_020005080003010906_050000000009000000_000000000100000405_090304020800060000_000402010000030609_060500070304080102_000008000900000004,
  0x060000000003040000_030200000000000600_000401090506030700_000008020000000006_000006040007020000_000302010000070000_000800000401000200_000607050900000000_010504000000060900,
  0x020008000601070300_010000070200080009_050009030800000206_040000020708050601_070205000006000800_000801050003020004_030007000400060008_090004000507030002_080100060300040007,
  0x000500020000080001_020000010809050004_000008000007000000_000205000406000009_080109050002000000_060000090000000000_000602000008000007_030900070205000000_000007000904000200,
  0x000908070000040206_000403000000000800_070002000400000509_010000040600000305_030506080000090700_000000090005000108_000000000706080003_000000000004000002_000307000000000600,
  0x070904060103050208_000105000902000000_030602080005090007_000703050800010602_020001040600000903_090800000001070000_060400000308000000_050000000004000000_010200090006000004,
  0x080500020000000003_060007080000000500_090000000100080200_000000000000000800_010300000504060002_000600010000040000_000000000600000100_050000000809000000_000800040301000005,
  0x000000040003070000_060400090007020800_070308000006040000_080000000005000000_000204000608000007_050900000000000300_000000000000090506_000006070300080001_020809000000000004,
  0x000400000000080003_000103000200000004_080002040000000000_000000050000020000_000508030000000000_030007080400010500_060005000009040000_020800010300000005_000901060004000002,
  0x000000080904070000_000000000000040009_030900070000000002_000001050209000607_000000000000000400_000600000100000000_000800000002000900_060000090403000108_000400060005000000,
  0x090008000001000000_000000050709020000_070001040003060905_080000000005090006_000904080000000001_050106000000000000_010807030500040000_000409070006000500_000300000400010700,
  0x040309010000000500_080700090003000000_000000050704000003_000000060000010305_010007000805020000_030506000100000400_000000000000000802_000000000002050100_090000080501000704,
  0x000100040006090700_070004090001050806_000900000507040201_000000000105000604_040701000800000509_080000000900070002_020000010000060400_010009050008000007_000007020000000008,
  0x000200000004030000_040501000000000809_000003000000000000_050004080000000003_020000000000000500_000708050200060900_030000000007090602_000400060305080107_060000020000000305,
  0x000000090007060000_050600030000000100_000207000106050003_030004000009000600_000000010000030000_000000070005000000_000008000401000300_000105000000090800_060000000008010005,
  0x050007080001000206_010906020504000003_040000030706090100_000500070100000000_000004050300010802_090801000000030000_080000000405070300_030009010207050008_070400000000000000,
  0x000000000000000004_040508000200000607_070200090400000100_000000020000070000_030700000106080002_000009000300060001_000400000903000000_090000010600040500_000600080004000000,
  0x000000040000070005_030008060007000002_000000020009000403_000600030000020008_050701000602000004_000800090000060701_000006000900010307_000000000006000000_070009000204000006,
  0x050901020806000703_000007030905010000_030802070001000006_010004090600070508_070208010503000409_000605040700000301_000500060007090004_040706000100000000_000109000000000600,
  0x080000070000000006_060000020100050004_000005030000000000_000002000700040000_090007060400000002_050000000200000600_000100050000070009_000500010002000403_000000040900020000,
  0x000000070000000300_000304000002060507_000200000003090401_000600000000050003_000009020000000800_020003050008010000_030506000109080000_000802030007040005_000007000000000600,
  0x070400080002090300_000201000003000005_000308000007000204_000000050700000108_000900020804000000_000007030006000000_050702000400010900_040000000000080702_000000000200000506,
  0x070002010804090003_090008050000000000_040106070300080005_050007030000000001_060203000000000700_080900020000000006_000605040903010807_000000080100060009_000800060700000300,
  0x000200000907000000_000000000800000301_080305000100000607_000009000204000003_000601090000000204_000402000003000009_020004000306000000_000000000400000506_060003000509040000,
  0x000000000004000007_000907000006020000_000000090008000000_000402030000000500_000100000000080000_070005000000000000_060200000000090000_000008000207000003_010000080000000600,
  0x000200030908060401_040603000100090000_080001060500030207_000300000209000104_000008010403000000_090104080006000300_060402090300010005_010700000000000600_000005020001040709,
  0x020100030000080700_080507020400000300_060003080000000000_000601000800070000_000002070903000006_030004000002090005_000905060208000407_040306090007000000_000000050300010009,
  0x090304000807020500_000000040000090807_060008000000000000_000000000005000002_080000030904070105_000907000100000000_000000070003000204_000206000009000300_030005000001000000,
  0x060900040005000702_000004000006080005_000000010000000604_080000060000000203_000000000400060907_000009070000000008_000502000000000009_010000020904000800_090006050300000401,
  0x000001000007000000_060000090000000000_000002000800050700_000803000109040000_000700030000080005_040200000705000601_000605000908010302_000000070003090000_000304000501000000,
  0x080006030009020507_030502000000000804_040009080205010603_090408000000060702_050307000000040900_060001070904080305_070900020008030400_020803000006050000_010604090503070208,
  0x000908000600000400_000700000000000000_000403090002070601_000600000005040700_070005040906010800_000800020003050900_060007050300000200_000000000400000500_000500000008030000,
  0x070000000008000000_080502000700000006_010000040205090007_020600000001000700_090000000000060100_000105000000080900_000800000000070201_000700000800000509_040000050000000608,
  0x020403080000000007_000908000004020600_000507000009000800_000604000000000700_000000000000060008_070005060002090300_030000020005070000_000209070001000506_000706000000030000,
  0x070200000000050000_000100000403000008_000500000209000000_010907030000020804_000004000000090000_000000040900000701_000005010300000900_060000080000030100_030000000006040002,
  0x090800000001040005_000006090000010000_010005000400090000_030000040709080000_000004010000000000_000000000006000400_050000000000030000_000309000004000000_040007000603000001,
  0x000008000000000007_000001000700020000_000500090302080006_040000050003070000_000000060009030002_010306000400000805_080100000000040200_000400030000000709_090703010004060008,
  0x080000000004090002_040002000900000000_000309000600000008_010806090203070504_000000060708020103_030000000000060809_000000070000040000_060000000401000905_020004030500000000,
  0x000001050400000000_000800090000000200_000200000001000400_080100020000050700_000000010000000609_030000000700000001_060000000000040100_010008000000000506_090002040100000008,
  0x040207000305000109_000800000006030702_030906000007000804_000000000009000206_050600030000090400_020409060800070500_000001000000000905_060000090008020300_090002000000010600,
  0x010006020005080400_040900060300000007_070500000000030600_030600070100040000_000000000008000006_090000040000010300_060000010200090005_050103000000000200_080009000000060000,
  0x050003040102000000_090000050006020103_000002030700000508_000908000000000001_000001090200060000_000006010500000309_000000000001000000_000400080000000705_000107000000000406,
  0x000104000500000700_090005080000010000_000008000007000003_000003000004000000_000406090000000200_070800000603040000_040500020900000008_000000000000000001_000307000800050000,
  0x000006080003000700_000400000700000000_030000000205000800_000809030000020500_040000000000000008_020500070008000000_050000060802010000_000008000300000005_010300000009080007,
  0x000100020006000000_070000000008040600_040000000000000000_050001000300000809_000004080000000700_000708000900020401_010000030009000200_090000040007000106_000800050000000904,
  0x020500000600080004_000700000000000005_000806000005090000_080000000009000502_050009010000030400_000000000000010000_000007000001000206_000000000006000000_060200070903040100,
  0x000800010006020007_070902030800050106_000600020507030008_000308000201070000_000001070300060000_000706080409000302_000100040008090200_040000050003000000_080007000002040000,
  0x000000060100040000_090601030204050000_020400090805010603_040006020500080007_070008010600000000_000005070400020006_050100040706030802_060004050002000901_000000080001000405,
  0x050608000400000209_000200080300000001_090003000200000700_060009000800000000_000700000002000803_000000000703090400_000506020000080000_070002060000000000_080001030000020007,
  0x000105000000090003_000800050600000001_000004000001000000_000402090000000607_000009080000000200_000000030400000008_020000000500000304_040900000308000500_050000040207000009,
  0x000000000004000001_000004090701080002_000000000002060900_040609000205010803_000007010009000000_020000000000090000_000906040103000000_000002000900030006_070103000006050009,
  0x000809010002000700_000200070603000001_060000080000000003_000900060005000000_050000000700040100_000000030000000506_000000040206090007_000003000007000000_000007090301000600,
  0x050900000008000003_000000000200090100_010300000906050400_080200000007040601_040005090001030702_070103060000080500_030006000700000005_000501000000070304_090700000300010806,
  0x090106000008040000_050400030000000200_070003000500090000_000000000300000607_060000000105000000_000002040007010503_000700010000000002_000605000809030704_020000000003060001,
  0x060400090005000301_030000000701000000_000009000008040000_010600000800020009_000000000600000500_000205010007000000_000000000906000000_050300000000000006_080000000000000100,
  0x000000090000000800_060000050007030900_000000060002040107_090000000700010308_000203000008000000_000408000000000005_000000040603080509_000009000205060400_000000000100070203,
  0x000000000100000200_010300000000080900_080000000200000000_070205010300000009_000000000800030000_060000090400010005_000100080000000000_050000000001090300_000008070000000004,
  0x000000070000000005_000204000000010000_000000000800060000_000100020005000000_000000010900040000_000302080400050100_000600000008000003_030000000000020000_000007000502000800,
  0x000002000009000607_080003000006000100_000004010205000000_000006000000000400_000007050601080000_000000020003000500_040008000000010009_010200070904060003_000000060008000200,
  0x000000040005010300_000000000007000900_010000030200060504_000000050000090001_000000000100000003_000001000403080000_030006080701040000_050004060000070100_020000090504000800,
  0x030500020001040009_020000030700080001_010800050906020703_000108040500000306_000203000000010805_000900010300070000_000406080200000000_080702060000050900_000300000007060008,
  0x000300070500000000_050001000408000906_000004030900000105_000400090005080301_030100040807000600_000200010603090007_040003000700000500_000002050100000000_010508060300000000,
  0x050004000000000007_020000000600090508_000600020800030100_000000070403000001_000000000200070006_000900080006000002_000006030004000700_000000000008000600_000301000002000800,
  0x000500020003010007_000000000000020004_000000090405080603_000106000200000700_000300000701000000_020700050000060000_090807000002040000_000405030006000000_000002040900000001,
  0x080409010000000200_070003000002010000_020000090007000008_000008000006090705_000200070000000100_050007000000060400_030802000901000607_000000000004030801_040001060003020000,
  0x000000000200000007_000000070001000409_000507040000000602_000300000607000800_080000000409070000_000000010000090500_020000000100060000_000008090500000000_090005030000020100,
  0x090000050000040000_040605090000070003_000800000600000105_000100000000000302_020900000005000000_070504020301060800_000702000004000000_000000030000080001_000006080900000004,
  0x010702000000050000_000406080001020907_000000070206000000_090800000007040000_060200000004010009_000100000902000805_000509000300070000_080001000700090004_000304060109080500,
  0x070800090000030000_000004030007000600_000609000400000107_000000000000090703_000000060008010004_000500000000020006_010700020800000905_000400000001060008_060008000000070000,
  0x000001080500090200_090800000207000506_050000000001070000_010502070008040609_070008000900000005_000400000000000700_080000000000050000_000107000800060002_000000000603080000,
  0x000603080100040000_000000000200090000_020509000007080301_000204070003000100_000700040901000803_000008050602070000_080002010006050904_060900000004000008_010007090500000000,
  0x050000000007000601_000800020603090000_060904000500000207_000600000409010003_010409070302060805_080703060000000900_030500090204070000_040100000706020300_090007000000050406,
  0x000500000800070000_000607000309000200_030800020000000000_000300090400050000_000005000100040009_040008000506000002_080000000905000400_000000040700000900_070409000200000501,
  0x050003010209070008_000800030700020609_070000000004000000_000206000400000300_000000000901000700_000000060003040100_080504000000060000_060007000002000904_000309040106050800,
  0x060008000500000000_010000020800050003_000502000000040000_000604000903080200_000701000600000009_000003040708000500_000005000207010306_030200000000070900_090000060305000800,
  0x000005020009000000_000801040000000007_000900000708000600_000007060000000800_050000070000000200_000006030901000504_030102000400000700_000008000007000302_000700050200060000,
  0x000900000506000008_010000000300000000_000600070004030009_060800030200000100_000301080005000906_000200000009000000_000006000700000803_080003060900000002_000002000003000000,
  0x080005030204060001_000100000609030700_000600000700000005_000306080900040207_000001000502000003_070000040306000000_060508020107090004_090400060803000502_000003090005070800,
  0x080400070203060000_020003000000080000_000100040600000000_070006000402010900_030001060005000804_040200010309000006_010000000000000000_060304000107050200_000705020004030000,
  0x010000060507040000_000700000000020108_000009000000000000_000000030609000800_080300010005000602_000506000000000400_050200000000000000_000000000100030004_000900080703000005,
  0x000006000008040200_090500020307010000_000203010004050700_050000000000000000_040107000000000300_000308000000090005_030600000100020004_070400000000000900_020801000000060500,
  0x000005070301000009_000207000600000004_000000000000000000_080000000000000006_000600040002010700_020000000700000405_000000090800040000_000500000200060003_090000030400080507,
  0x020001000305000006_060703090102040005_090405070006020300_080004060000000003_070002010008000004_050006030000010000_040200050600080100_000009000700000002_030008020901050007,
  0x000002060400050908_000900010000040206_040506080902010703_090004050001020800_000600070800030100_000708020309060400_030209040006000500_000400030100000600_000801090000000000,
  0x000409000000000001_010806000000000000_050700090000060000_070200000901000000_030008000200000700_000605000007000203_000901000706000005_000000050004000100_000502000009000400,
  0x030001070200000004_000400010500000900_060907040308020005_070005090602040300_000304000700090000_000000000004000700_040600000907010000_000000000001000800_050100060000070000,
  0x000001000800000006_040009000003000802_080200000000000300_000000020000070005_000700010000060000_060000050300000104_000000060001000708_030100080005000000_000000030009040000,
  0x000000070409050300_010005000600090000_000700020000000000_070804000900000000_090000030004020000_000000060800000904_000907010006000005_060300090508000007_080001000000030600,
  0x000000000004000007_000400000302050900_080000070000000000_090706040000000001_000800090000000005_030501000600000204_000300000906010000_000200030008040506_000605000400030000,
  0x010000000000050008_070409000500060000_000506090000070001_000100000000020009_000000070906010503_000900080001000700_000004060000000100_000301000700000600_000600000100090207,
  0x000000000500000209_000004090000030500_000903000000010800_000506000400000003_000300050006000902_000000080302000600_000000060801000000_000600000005000008_000000020000000000,
  0x000100080002060405_050000000000000000_000008000000020900_000000050600000000_030600040200000701_040802000100000000_000004000805000600_020501000300000800_000306020900000500,
  0x010806000300050009_000002060905010008_090305010804000000_000000000500000000_000903000006000200_050000080009030006_020600000000040801_000004000000070900_000100090400000002,
  0x010000040800000905_000000000600000400_040003000509080601_000004000006000800_030000000008040109_050800090004070300_060300000000090000_020400030900060000_070900000005010200,
  0x000000000600000701_070001080500000402_060304000000000008_000000020000000006_000000000301050800_080100050907000003_090003000005000607_000700000206000300_020008030000000000,
  0x050006000000000407_030009060400000800_080400070305000000_020903000600000000_060804000007000003_070001000802060900_010005000003000209_000008020500070600_090207080000000000,
  0x000600000000040008_000000000000000000_080000010009030006_010000000000000904_000009080000070300_030000090007000000_050003000006080407_000000000508020100_040008000300000609,
  0x000003000500000701_000600000100000000_050104020007060009_000008010005040007_020000030000000008_090401000800050300_000500000000000402_000007000001000000_040200000000070000,
  0x030200010005000700_000700000203000900_000100040607050003_000501090000000002_000800000000090400_000003000800000000_050600070009080000_000008020504070000_010400060000000009,
  0x030000000106000704_000106000402080500_000702080503090006_020800000000000000_060000010208070409_010009000007050200_070001020309040805_050003040801000907_000904060005000302,
  0x000000010000090300_070400000000000000_000103050800000204_000000000500030907_040000030000000600_030907060000040001_000306000000000709_010004000300000000_000800000100050403,
  0x000500000706000000_090600000001000000_000002000500000000_010000050000080600_020006000000050009_000000030004000001_080000060000000507_000005000400000800_060207080905030000,
  0x090400000701080600_000005000002000100_030100060000050200_070006020008000000_000301000004020008_020000000007060005_010009000000070000_000003000005010809_040700000006030000,
  0x000200010300090500_090000080004000100_040100060509020008_000400000006000000_000300000900040800_000000030405070000_000507000000010902_000900000108030600_030601090702000400,
  0x000006000900000407_040000000000020001_020000070000090006_050200000009000000_000409030007080000_000008000005000000_000605080004000000_070300090501000008_010000000003050700,
  0x000305060000000400_000000020900000000_020000000005030709_000800090400000503_000509000002000001_040100050008090207_000900000000000000_000204080000000006_030000010000000005,
  0x000500000300000006_000000040900000000_010000080005000700_000800000000000004_070005020009060300_030400000008020900_050000000204000000_000004000100000502_000200000800000001,
  0x000205000600000000_080004000100000302_000003020005000000_000000000500010000_000108000004000500_050407010903000008_040800050702030000_030006000801000200_000000000300080107,
  0x050400010003000000_080002090600000100_000900000400000008_060100040005000002_000000000000040000_000203000908010506_020500030004000801_030000080000000005_010008000000070400,
  0x060000000000000003_010000060300000004_030400000000000708_000000000807040000_040200030500000000_000000000401090005_070500000002000800_000104000900070000_000300070005000401,
  0x000006020500000007_070000040000000000_030100000000080400_000300050000000004_050007090102060008_020001080400000000_010003070006000809_090700000000000200_000000010000000000,
  0x000406000100050000_000005030600000000_090000000000000001_000001000000070309_000800040901000002_000009000307000000_010900020500000007_050302000008010006_000008000400020005,
  0x000000050009000000_050000000308000007_000800000704090005_010000020000000600_000506040000000009_080007000906050002_060702000000080501_040305000000000000_090000000005020000,
  0x040000000000000900_000200000309000600_000301000200000008_000409000000080000_020000000000000005_030100080500040709_000002050004030800_000000000700000006_060804000900050000,
  0x060700000000000000_000002090000000306_000005000706000004_080600000100000200_070503000904000000_000900080603040500_000000060000090000_050206000009010800_090008000001060002,
  0x090804000000000003_000500000009000000_070106080003000000_000000020005000700_000000000000010008_000008000000020504_010200000400000000_050007090002080400_080000000001000000,
  0x000500020000060400_090000000000030000_080400000005090100_000000040000000506_060005000000000004_000300000600000008_050004000001000000_000006070000040000_000100090400050703,
  0x000600000100000007_000000090302000006_000009060007000502_060000000000000100_070900030001000004_000000000000050009_080301070000040005_050000040003090700_090700010205000308,
  0x000000000500000800_000600040000000900_000200060100040700_090000000003000000_010500090000000400_070000000000000209_000100020700090300_020008000906000100_000000000005020000,
  0x080109070000050204_050300020000000108_000402080501030609_000007030108000406_090801000004020305_030604090000080000_040000010800060900_000008040000010502_010203050000040807,
  0x000000000000000806_000700090008000000_080000040000070100_090006070200000500_020000050901080000_000501030800000000_000000000007010400_030400000105060000_000007080009000002,
  0x000000000607080302_000009050000000700_020000040000000509_000004000003000000_000807000406000200_000006000800000001_000000000009020000_000002030000090807_000900060700050400,
  0x000000000002040100_000000000104000807_000100070000000203_050702040003000001_000401000900000500_080600000000000300_090000000007030400_020000080000010609_010000090300050000,
  0x000000000000000006_060000000000070005_070001060305000904_010005000600000002_000007000204000001_000000000801040000_000702030400050100_050000010702000409_040000000500000207,
  0x010005000000060407_040000000500000003_030002000700000109_000503000006000000_060700090002000008_000201050000000900_000000000605080301_000306040100000700_000000030000000000,
  0x010902070600080004_050000010200090000_000000000900010000_000203050409070106_000400000000020905_060000020700030408_000000000008040301_000000000100060000_000008060000050709,
  0x000405000000090300_070100000302000000_030000000600000807_000006000000070000_000000060008030100_000902030007040000_040000000000020003_020001070903000004_000600000800050000,
  0x000100030209070400_000004050800000001_000002000400090800_000007080003020000_000200000500060300_000000090102040007_020908000000000000_000500010906000700_060701000308050904,
  0x000405080000000000_010007000000080409_080609000400000307_060002090800000003_000003000206000108_050000040000000000_000000000008020004_000300070609000000_090000000100000006,
  0x060700000001040000_040105000000000900_030908000407010000_000000000000000008_000400000008000000_000807060205000000_070204000600000001_000009010000050006_050001030002090700,
  0x070008000000000106_050206040701000300_030901060000000700_000000000007000400_010002000000000008_000009020005030000_080600070000050001_000500000800060203_020100000009000800,
  0x000000030000060907_000400000709030100_000300000006000000_000200060000090000_000509020008000706_000006000104000205_000800050000070400_070002000801050603_000604000903000801,
  0x080500000901000700_000703000000000001_010206000300090004_000400000000000200_060102030805000000_070000040209010300_040600090008030000_000900000600000400_000308070004060100,
  0x050800000201070000_000000000007000004_000700000500000601_070908050002000400_020000000000000008_000000010408020007_060400080000090000_000201000600000005_000507000000060103,
  0x030207000000050401_000000000700000000_040000000000000006_070400030000080002_000605000007000100_080100000002090607_000300000400000709_000700020000010803_000001000309000200,
  0x000600000002000000_070800000004000901_090300010000000005_000907080405000002_000200060007000304_040506020003080709_060000040008090500_020700030500000806_080400000600020003,
  0x000000060201040905_000000050009000800_000400000000000006_000800000000000309_000000000003000000_070000000100000000_000107000800000003_060002000904050708_000000000007000204,
  0x050200000000080900_000000040003000000_070006080002000000_080502000406090003_030900020100060007_000607000305000208_000300050800000706_000008030009000005_040700000000030009,
  0x000800000006030409_000407000800000100_090003000000070500_070005000300080000_060200000000050300_030004000000000601_020000000000010006_080700050001040000_000000000600000800,
  0x000800060000000000_000002000000040609_000000000200000005_080009010004020003_020001000807000000_000000000900000800_000003000000000007_050708000400000200_040900000002000000,
  0x000700000205000103_000000070300090006_000200000000070000_000002040009000007_000000000003010600_000105000700020000_030500060402000000_000900030001060000_010008000007000000,
  0x000000000805090000_000105000003080000_000004000000000200_070009000208000003_000000000004070000_080503000700010400_000007000900000001_040000050001000000_000006080300000509,
  0x000005030000000001_070008000001040600_000900000600070500_000002060100000800_000100000000060000_080000020000000000_000400080005090700_030007000000010000_060009000407000005,
  0x060000020000050003_000000000003000208_000803000700010604_000106030004000502_030400060000090000_000008010500040300_050007080300000401_040302000100000800_000600050002030709,
  0x000000000200060000_000300090000040800_000002000000000001_080000070000000005_070600000002010400_030000000509000000_040000000000000106_000800040000000000_020006030800000900,
  0x060000050002070009_090008060004030000_000500070008000004_000006000805090001_000300000009000600_040901000000000502_000000000000010008_010000000000020903_030802090001050700,
  0x000006010208070000_000100060000050000_000007000403000002_020900000000030007_000300090007020800_000608000000010904_000509000801000200_040000000900000000_080200040000000001,
  0x000300060700000200_000409030002000000_010200000008000000_020003000900080105_000000070800000400_000000010000090307_060500020309000801_000000000007000004_030000050400020900,
  0x050700020008060300_000000000003090007_000004070000000005_000300040507000900_000008030006070504_000507000900030000_000006090805000003_000903010004050200_070000060002080000,
  0x000001000609070800_000400000800000006_000009000500000100_010000000305060000_000000000200080700_000000040000000000_000900000001000008_050000000000000000_080000000002050600,
  0x000002040900000600_000400000005020000_000300000200000000_000500000007090400_000107090604000008_040000020000000106_000600000702050000_000001050000000307_000705010000080004,
  0x020800000304000701_090000060000000002_060701000000000903_000002000900000100_030000000000000205_010508000206000400_000000000709000600_080107000003000000_050600010008020007,
  0x090300050702000008_060000040100000703_070201060800000400_000000090600030805_050406000301000902_000000000507010000_000100030006090207_040900010205080300_020600070908040500,
  0x000004000301000800_030006000000000500_010000060000000004_070105000900080600_000302000705000000_000000000000000200_000600000000050000_000903070008000400_000800000106030902,
  0x000600030204010009_000105000708060400_090004000605080207_030002060000050704_040900080007020301_050000000300090600_000000000800040100_000408000006000902_010009020403000800]
theorem mixed_27_ok : mixed_27.all fastOK = true := chunkOK_sound _ (by decide +kernel)

end Gen.SudokuDB
