/- GENERATED by harness/translators.py (gen_sudoku_db) from /repo/jumanji/environments/logic/sudoku/data/*.npy — do not edit.
   One `Nat` per board (layout: Env/Sudoku/DBCheck.lean); every chunk is run through the checker by the kernel. -/
import JumanjiModel.Env.Sudoku.DBLemmas
namespace Gen.SudokuDB
open Sudoku.DB

/-- `mixed` (10000_mixed_puzzles.npy), boards 3000..3249 -/
def mixed_12 : List Nat := [
  0x020000050300000000_000600000900000003_010309000400020005_000003020500000109_000000030700050006_040005000000030000_000000000000060000_000406080000000007_000000000007000001,
  0x050203000700000008_040100000009000000_000900010000040000_000009000006000000_020600080000030009_030005090000080000_000300070900000004_000004020008000700_000008000403000100,
  0x080000000000050900_090400000003020100_010000000000000608_000506080000000003_030001050409070800_000000000206000005_000900070300000000_000000000000000309_000304090508000000,
  0x000000000000020004_000004020007000009_020806040000000000_040000000300000206_080000000600000301_060300050700090008_010008070000000900_050600000201040000_070003000400000800,
  0x040008000000000900_000900000500010002_010507030009080000_000000000603000000_000009020400000008_000000010005000000_090006000000000300_000800000000000500_050000000106040000,
  0x000204000900000500_000700010000040308_080306000000000000_070803050100020609_000400090008000703_060000000300010000_000602030501080907_030100020800060405_000508000407000201,
  0x000300060200000000_040008090300070201_000000000000060003_090000000802000007_030402000600000008_050000010004000000_000500000100020006_060000000000000509_020000000500000004,
  0x080003050000070000_010000000300060000_050200000000000308_000000000106000900_000009070003000000_000000000004080503_090000000801050600_060500000902030001_030004060005000809,
  0x000000000200000906_050000000806000000_000602010007080004_010806000402000309_040000000300000007_000000060000000100_000003000100070800_080100030005090600_000005000008000401,
  0x040000020100090000_000700090000060100_010005000004030700_000000030701000006_000007040209000000_000201050600000009_020000080500000000_000500010900000000_000003000006020500,
  0x090608000003050400_050702090406010803_010000000005020906_030207040901000605_040009050008000002_000506020307000100_000401000509060008_060005000800030201_000803000102090000,
  0x010600090500070004_000007000804000005_000900000000000003_090300000400080000_000506030908000100_040800000701000609_000000000300000006_000000070000050000_060000000200090001,
  0x090000000705040302_000000060804000000_000100000000050600_000000000200000700_040200000100080003_080701000003020000_000400050001000007_030000000400060000_010809020000000400,
  0x000000000800000009_020000030000040007_000700000004000300_000002000006090005_000000000008070000_050007010000000803_070000000000000001_030801000007000006_060005080001000000,
  0x000500000009020000_010900080402000506_000003000105040700_030000000000000000_000208000007000000_060700000200000100_000000030000050000_090105000000070308_000000000000000002,
  0x070003000400000000_000009000005020000_000000090001050300_000001000200080006_000600000904030702_020307080500000904_000006040309070800_080900000107000200_030705000800000000,
  0x000000000000000000_000000000400080200_000408010000050609_000604070000010500_020800000000000906_050100080604000000_080900040000060000_010500060009000700_000006000000000005,
  0x050900000003060004_000000000000050000_040100000508020000_060700000109080500_000002060005030000_010009000000000406_000201000400000005_000005020000000007_070804050006000000,
  0x000000060504000000_080000090001040305_000000000003090000_060000020000070000_030800000906010004_020400030000060000_070308000009050402_000002000805030001_050009040000000600,
  0x000002080609010305_030600000005070400_000905000000020000_000000000000000007_080300000000000000_000000040007030901_060403070008000000_070009050000000100_050001000003040000,
  0x000002000005000308_050000000000020009_000000090100000605_000005000200000704_000000030006080001_000007000904000206_000000000409000807_000708000501000403_060500000003000002,
  0x030002060104000705_070000000003090401_010000070900000206_020003000009040007_090004020000000500_050708000406010902_000301000000020009_060500040302000108_080007000600050304,
  0x000000070200000004_060002040008000700_040700000000090800_080600010000000903_000209050003070006_050000090004000208_000806000500040000_000105080406000309_000400000007000000,
  0x080900010007000000_000000080004000600_000001000600000200_010700090800000000_000000000700000900_090000060100070004_000003000908040700_000800000500000000_060000070400000003,
  0x000902000500000306_040006080000000000_000307000406050802_090600050000070203_000104000000000508_070000030000000401_060700020300000000_050000000008020009_000001000007000000,
  0x040005000000000000_070800000000020900_020001030006000705_000000060000000401_080100000000000002_000000000400000000_010000040500070009_000002000900030806_030000000008050000,
  0x000103000007000006_060000090001040807_090700040600000001_050004010000060903_020000000500000000_000600000809050402_000000020000070605_000506070403000100_000000050000000304,
  0x040001000806030705_030009020705010800_080500030104060009_090700040001000308_000400000500000000_050000060007000401_000100070008090503_060908050000000100_000005010009080602,
  0x060907050008040300_080300090204000700_020401000006000800_070204030600010908_000008020900000400_030500080001070206_050803000000020004_000700000500080103_040102060003000500,
  0x010500000006000408_000000000000000006_000206000800010700_000009020003000001_000100000900000000_050000000600000000_020001000300060500_000605080009000000_030907000105000204,
  0x000006000100000002_070009050402000000_020000000000000300_000000000809000000_080600000304000009_090407020000030801_000004090500080003_010508000203090407_030902000000060000,
  0x040008020003000000_020601080000050000_030709010006080002_000900030401020805_080302090000040700_000400000802030609_060007050008010004_050804000109070203_000100000207060500,
  0x070000000009020000_000400060000070309_000800000000010000_000100000406050000_000000000005030000_000600000903000000_060000000200090000_000004090007000200_000901040000000507,
  0x090608010400000203_000300070002090800_020107000903000400_000406000709000508_030200040006000907_080700000500020000_000901050208040300_060503000004080002_000800000307000000,
  0x030000000006090702_000000080000040003_000200000003000800_000800000600000001_000007000000000008_050000000008060200_060300010007080009_080000000000000000_020000040809000000,
  0x000006000000000007_070300000406010000_020008000100000000_040000030008060005_000007040600000008_000800000702000100_000700010000000900_090000000007000000_080100000009070503,
  0x030004000005060701_000907000000000500_080105030706000400_000600050800030004_050400000300070600_090703020604000008_040000070003000206_010502000400000007_070306090002040805,
  0x020005010000000800_000600090204000005_000007060000000300_050000070002000000_060001040000030500_080700050003040206_000802000000000900_000004000500000000_000000080009000403,
  0x060805020000030700_000400070800050902_090702000403000008_040008010700020306_000001080002090000_020600000300000800_000000060100000503_050300040000070601_080100030007000209,
  0x000009000000000805_000400000000090203_000800060000000000_000007000001030004_020000050300000006_000103090400070002_000000030004020701_030208010000000609_040001000600000008,
  0x000003090204000006_000600000000030200_050000000300090008_000400000003000000_070000020008000400_060000000007020003_000000000502000009_010800000409000600_000900060000040800,
  0x060307050001000804_040209030008050107_010800020007030900_020600010700090008_000108040300000205_000004000000060001_080901070500040600_000406000803010700_000000060100080000,
  0x000001050000060900_080000000002070400_060000000900020005_000007030000010000_000009000008000004_000100000005090000_000003000006040500_000000000000000009_000008090000000006,
  0x000108000000000003_000900000608000000_000000000003050800_010000060000090500_000002000300000006_000000050804000001_000504000000010200_000300040100000000_000700080500030600,
  0x000008040700000003_060004000203070501_030000000905000000_010000000604000005_040700000009000006_090605000000000304_070300020500000000_080400000000000000_050200000407000108,
  0x050000040301070000_040003080902050006_000201070605030408_000005020006080000_020000000809060504_000008010500020903_080602000004010305_000004060003000800_000300000108000002,
  0x040005080000000009_000600000305010004_080000090002050000_020300060004000500_000800000000000900_070004000000000103_000900000203000000_030008000709020601_000200040006090307,
  0x000009070006000501_010000000000000400_060007000108090000_000700000800020005_000800000000000700_000006020000040008_080005000203070106_000000060501030800_000600080000050900,
  0x000000090001000400_000001000000030800_060300070800010200_000706000000000000_020908060000040700_000103040709080602_000002000000060000_070009000500000304_030600080400000900,
  0x000000060500020008_070005000400000000_000000070109000000_030004000800010600_000802000000090407_010009040000000002_000000000004000503_000100050000040000_000003080000070001,
  0x040209000700010800_000805000601000000_000300000004000507_010004020500000000_000003000000070004_000002000007050100_030500060908000000_000106050000080000_020008070103060005,
  0x000100000000020809_000300000800070506_000000020006010304_010600000509040000_000902060104030000_000400070200000000_000804010002000600_060203080005000000_070000000000000000,
  0x010005060000040000_000700000500090601_060008010704050200_000003070000000000_000006080002000004_080007040905010000_020600000000030000_070504000003000102_030009000001000007,
  0x070000010000050000_000000080500070601_050104000000000800_030009050702000108_000007030601040000_000501000008000207_000900070100000300_000000000000090700_040700000900000000,
  0x000400000100060003_000600070004020809_070003090000040005_000000000900000000_040901020800000300_000200000000000007_000100000203070500_000708000009000004_050004000706000001,
  0x030005070408000000_020008000906040000_060004020100000900_050000010000090804_040007080609030100_010809050300070600_070600090003000400_090500000001020000_080402060007000009,
  0x030100000507000800_000002000806000000_060000010004070009_040500000000000006_000703060400000100_000906050708000002_090000000005010000_050207040001080903_000601000000020405,
  0x000103050800070006_000500000000010400_000000020001080005_090000000300000008_000000080005000000_030805090000000700_080000000000020901_070001000200000004_050200000004030007,
  0x000008000000060000_020000030400000000_000300050000000400_040000000603010008_080700040200000003_010600090000000200_000805060900070104_090000000004000000_060004010000000000,
  0x000006000000010507_000000060301080002_020800000400000006_000609000800000000_000100020007000800_000002000000000000_000007000603000009_000000050009000000_000908000000070300,
  0x090103080607000204_050706090200080301_000002000105070900_000000060003010002_030608010000090000_000200000008000400_020004070001000009_060000000000040000_000907040006020005,
  0x020600000700010800_000403020000000906_000507000609040000_050008000000000004_000000030800050200_090300000000080000_000105070000000400_070000000408000000_030000090506020700,
  0x010605040200000309_000702000305010004_040900000000000802_070006080003040501_090401060502030700_030508000407000906_050100030000000207_000809050704060003_060007020100080405,
  0x020009000008000400_010504000603000009_000000000700050200_000002050000000000_070000000000000000_000000000104020000_000203000000060000_000100080305000700_000900060000040005,
  0x000005020109040000_010400030008000605_000000050004000100_000003060000000400_070000000000060901_000100040000000008_000001000502080700_020000010000030000_000506000800000004,
  0x070000000002000501_000002000100000900_060000000700020004_020000000600090000_000005070300000000_000000050001030000_000000000908010000_080001060407000300_000709000003000000,
  0x000200040000070600_060000000200000800_040005070001090302_000000050006000100_050002010000030000_000100000300050006_000006000005000003_020007000100000400_010003060000080000,
  0x050000000000000000_000200090000000400_000003000002060000_070005080206010000_020004050907030800_000800040300050000_000009020408070601_000400000500000200_080000060000000000,
  0x000000000006090207_020806070004000500_000507020301080406_010400000700000902_000000060002000803_000000000000000005_000004000205070108_000102040607050300_000009000108000604,
  0x000003000209040700_090600000000000800_070401000000000002_030700000005010000_000100000708030005_050900010300070008_000000070802090106_000000000900020500_010009050600000300,
  0x000000000000000004_000000000102050000_000500090000060300_020000000804000000_000800070900000200_000100030005080000_000209000500000700_000400000000010000_030701000400000500,
  0x000000080000070004_000000000000000002_000204000007090005_000000000800000706_020000000703050008_050800040000000000_000300000000000900_000002030000080000_000108020009000000,
  0x000900000800060003_070400000906000800_060008000002000005_010800000000000000_030004000507010008_000006000401030000_000501060009080307_080007000005090100_000000070008050400,
  0x020600000000000000_030809060000000100_000000070002000900_000203000904000006_000005080300000000_010704000000080000_050400020000000000_090306000000020007_000100030000090000,
  0x000005000600000003_060004000008000200_000100000000070406_000009010000000004_000006000007000000_040501000003060007_000000000000040709_090600000004000502_000008000700000601,
  0x070000090000020003_000000060003000700_090200050400000006_000000020000040300_000300000700060900_040007000006000001_000805000600000002_000006000002080000_000000040100030600,
  0x000900010000000007_020600070008000009_000003000000000400_000305000700000900_000004000000050700_060007000000080000_000500020000000001_000000000305000200_000400000100000800,
  0x000000000000070308_000800060000000100_000000030800000206_040603090008010702_020000040600030805_000108000003090004_000300000000000007_070906020004080501_010400080705000003,
  0x000005000001000000_000600070405010800_010008030009040500_030400000000060000_060001040000020905_050902000000030700_090004020006000300_000000090000000006_080200010300000000,
  0x000906000000010007_020007030100080604_030800070600000005_060003050400090200_080700000000000500_090005080302060001_000600040000070109_070009010005030000_000300000700000002,
  0x000306000000000004_000905080100000002_000000000006050800_010504000600000000_060809000200000500_000002090805000000_050100060409030007_090603000000000000_020000000500000006,
  0x000408060000010007_000700000008040000_000501000300000009_020007000900000804_000900000706050002_000800000000090000_000300000400020608_000200090003000000_070000000000000900,
  0x000000000201000000_040900000806000000_010700000000000200_000000000000020000_000003000109040000_050009040600000001_000007000003090006_000500080004030002_000400000000000700,
  0x000800000000010005_010000000005020608_000000000100000009_070300050902060100_000000070601000000_000000000000090200_050007010003080002_040109000000000006_080000000006000001,
  0x000002030000000004_080000090004070200_000003000200080100_060209000000010708_010804060000020000_050000020801000000_000000000302000007_000406000009000002_000708000605000001,
  0x000504020801070000_010607000000040802_000900060000000005_000003010600000000_000005000402030009_000200000309000000_050001000208060000_000000000000020000_020008040106090003,
  0x030907000008000000_000102000405000607_000000000000000000_020700000000000306_000006070002000800_000803040000070005_000600050803000002_090205000000000003_070008000009000004,
  0x000100080000070902_070900010000000000_000203000007010000_000002070000090000_000000000005000208_000000020104000607_000700030509000804_090000000700020301_000400060001000000,
  0x000007000809000003_030500060701040000_090000020000000708_000106000400020300_080005030602000000_000000000007000006_000700090200000000_050000000300000804_000000050104000207,
  0x060000000704030009_000000050003010704_000704000109050600_050002000801040907_000401070302000506_000007040905000000_070903010000000405_000008090506070001_000500030007090200,
  0x000006000200000000_000702090805000000_040008000006090302_020000050000000900_000000040900000107_000300080000000600_070000000400000009_000004000000000006_060000000001030804,
  0x040007000000000500_080900050603000107_030605010004090008_000004020500000300_000008070009000005_000001080400000000_000800040900050602_070000000000000800_020006030805070900,
  0x000000050004080000_000007000200000004_000800090000050006_080000030500040002_050002000800000000_010900070600000000_090008010000000500_060000000005090000_000400000906000000,
  0x000000000000000000_000100000002030000_000000060005090200_000000020108050000_050006000904080100_000200050000000400_070000080406010000_000603010000020000_010800000000000705,
  0x000903000000000000_000100090000080600_000400000005010309_000602070800000000_000000000600050000_000004000002000900_010000080700040506_000000050006020100_030000000000090708,
  0x050700000000040000_060204000000000009_000100000600000302_000006030000010000_000809000700020000_000000040000060007_080607090000030200_000900060200000805_000500080400000001,
  0x000300000906000502_060000000300010000_050000040200000000_000008060003070001_010006000007000900_000000000000000605_020000000000090000_000600010800020400_000000000609050008,
  0x040000000000000502_020006000901040003_000100000004080609_000003000000000206_000000090000000000_000900000002030405_090000010000020300_000000020000000001_010007000500000000,
  0x030007060901040208_090106080004050000_040000070500010000_010003000600000405_080004090000000100_000600010008030900_060708000102090004_000000000809000003_050000000700000801,
  0x050003000200000609_000408050906000000_000009030700000000_000000020104080500_010500060009000300_000002070305000000_000005000000000803_030806000007000902_000900080400000000,
  0x000000040700000600_000300000000000000_000000060000050201_010009000008000000_000703000600000108_080002070301060000_000005000900010000_000004050000070300_030006000000000000,
  0x000706000900030108_000800070006020904_010409000008000605_000103080702000400_000002000000010803_040508030601090702_000004060207080301_000007000803040509_080301090500060207,
  0x020000050900070600_010700030000000400_000000000000030001_000200000000010507_000500000807000900_070901000506000004_060105000208000000_090007060003000005_040300070000090800,
  0x080000000504000000_090003010000050004_000100000300000007_000509000000000008_030000000800000400_000008000003020000_000004000000000009_000002000107000800_070000030200000100,
  0x000005070000090000_090000000206040000_000008010000060000_020904060000080003_060800040500000000_010000000009000000_030000000100070800_050009000400000006_080000090600050000,
  0x000100000004050908_000603070009010400_000405020000070006_000800000600000000_070004000003000005_060300080000000000_000006050400080200_040700030206000001_030002000108040007,
  0x000000000500040007_010000000800000002_000705060000010800_040501000000000308_000603000100090500_080000000300000000_000100080004000009_000002000003000100_000800000200000000,
  0x000000000007060001_010600040002000000_020000080000000900_000000000309000104_000000070800000600_070000000000020000_000700050406090002_060009010003080000_040000090708010500,
  0x040000000001080003_010208030500000000_000300040000020000_090004050206000001_020006000300000004_000805010004000602_000602000005040300_000903060400010700_080400070900000206,
  0x000000000603000702_090300000000080000_050000000000000300_000008000200000001_000003000400070209_000602000009040800_020000000501000000_000000020000000400_000000080000000000,
  0x060401000500000207_000702040600010800_000000020007000006_000000030200070000_040200090801030000_080000050706000009_000609010300080004_070004060002000001_000300070000000902,
  0x000009000502080003_000300000000050400_000001030000000900_000000040003060200_000900000000000000_000200000709030805_090000000000000007_020100000300000500_000004050907020301,
  0x010503000800060000_060900000500000201_000007000009050000_050001020703000000_000008000004000006_000700000005000100_070000000000000000_000000070000090405_090802000006000003,
  0x000506010300040802_010307000804000009_000002090000030000_030700000008000104_000000040100070003_000100000703000000_070200030500060408_050000000000000000_040809070006010005,
  0x000001020705080903_020900000004000000_000000060009000005_090107000006000800_030004070000060000_000000000002070000_040608000003050000_010000000000000608_000709000001030002,
  0x000003050000090702_040109030702050008_000000080600010304_000004070103060200_030507000206000900_000601090805000007_000000000007000800_010000060904000000_000000000000040009,
  0x000004000003000500_030702000000080000_050108020004000003_080007000109000005_090500030408020007_040003050007000108_000809040506000701_000000000002000800_070005080300060200,
  0x000300070100090000_000800000002000000_090702060003000801_010607000209030408_000000010006020000_000200000407000009_000108090700000003_070900000000000002_000506020000000000,
  0x040105070806020000_030008000209000000_090702030001000608_070004080005030006_080300000704090000_000509020000080000_020903000007000805_060800040502010300_050400000008000000,
  0x000809000207000504_070200010008000600_040000090600070008_010600070000080300_050700000903020000_030002000000060705_090100050300040800_000403080009000000_080506020100000007,
  0x090000050000010608_000000000700040200_000000080000000000_000000030001080002_040002090800000106_000803000600050400_000600070500000000_000500040300000801_030400000002000000,
  0x000400000000000900_000000000400080007_080000020000030000_000502000009000300_090006040008000500_070800000000000000_020004060503000800_010600090000050000_050000080100060000,
  0x070409030100080200_000002000400000107_010805000007030009_090306010802040705_050008040006000301_040107050309020008_080901000604000003_000000070900060804_060704080003010902,
  0x000000000108050009_000000060700000400_040000030002000700_000000010000000508_050000000004000000_000000090305000001_070200000800000004_080104000900020005_030605000001000000,
  0x000508020009060000_020000010000000000_040100050807000200_090205080600030001_000001070205040006_000004000000000000_050007000102000309_000000000700000000_000809060500070002,
  0x000109020000060400_000004000000020900_000000090001070000_000000050209000806_010906000004050200_000000000306000000_000208000003000000_000007060900000000_090400000700030000,
  0x050001040009000708_080000010200090400_000000000000000100_000000030000050902_020500000901070604_090000020005000000_030000090000000200_000009070002000001_000100060803000009,
  0x050003090002080407_090402010007050600_000000000400020901_000006000701000009_010804020900000000_070905060000000000_000300000506000100_060500040009030000_000000030008000200,
  0x000000000002040800_000002030000070000_070608000400000209_000000000504000003_090006000301080004_030001090000050600_000000040100000007_000000050200000108_020100080700000000,
  0x090000000000000206_000000000600010300_000102000000000007_050206030004000008_000000000206040001_000000070500000000_000000000800060000_040003000007050000_070600000005000000,
  0x000603000900070000_070005000002080000_000408030005000200_000704080300050002_050002070004000001_080006000001000000_040007000000000008_060000000807020003_030001050206090700,
  0x000008090100000300_000300000000070600_050700000000090004_000000000900080002_000900000600000000_030007010000000000_000100080000030500_000500060001040800_000800000700000200,
  0x000000000208000009_090203000000000000_010007000300060005_060502000000000400_080000000000000006_040300070005000100_000008000003090601_000000020009040500_000005000106080700,
  0x000408050000000100_000200080100000400_010009000000000508_000000000906000000_050000010000000004_040906000005020000_000104090000080007_000700060002010900_000000000000040000,
  0x000000000600000005_000603070501000200_050007000400060000_000004000100030000_000309000000000400_000806040300000107_040708000003000601_030001000708000500_000905010000000000,
  0x000006090804020307_000700030100060805_030802000600090100_000301080005040006_070608000209010003_000905010300000702_060209070508000001_010407000000000008_080500000000070209,
  0x030000090106050008_090000000302040600_000600040805030907_000000000204000800_040500000600010002_070008030001000405_000000000000000000_050300020400080706_020406010008090000,
  0x000503000600070000_000407000000000000_020800030000000005_050200060003080000_000708040000000602_000100080000050900_080000010309000000_040005000006000008_070300050408090006,
  0x070008020305040609_090200060007080500_030605080004070001_040902070506030108_000500000401000906_000301090200050007_000803040602000000_050400010700000802_000706050800000304,
  0x000307000204000000_010000000309000200_080602000701030904_050000000000090300_000100000000000000_060704030002050001_070000000005010008_000000010800040700_040000000000000500,
  0x010500000009060008_000709000000030000_000200000006050400_030602040900000007_090400000100000600_070008060000000200_050900030200070006_000800090600020300_020300050807000900,
  0x060008040009050000_000002000000090601_000501000000000007_030004090000070500_000200000006000800_000600000400000000_050000000801000900_020000000000000300_010800020903000000,
  0x040000060200000000_000000090003020600_090000000400000000_000609020304000100_050000000009040000_000000010000000000_000000040705080000_080705000900000000_000004000002070509,
  0x000900050304000607_010000000600000208_060004020100000500_000300040001000900_020100000003080704_040608070200000000_000006080005070000_090001000702000005_000207000000000003,
  0x040000030000000007_070305000109000608_090800070405020001_000200040900000705_080000000000000100_050903000001000000_020508010300070000_010704000000000003_000000000800010400,
  0x090000070500000008_000800000302000500_070005000001040000_030708010200000409_000900030005000000_000000090000000800_060000040100020900_020409000703080600_000001020609030700,
  0x000402000100000308_050003000008000002_080000020403000509_070804000000000005_010200080000090000_060000000507000001_000701060000000000_030006000001040000_000508000709020006,
  0x000903000400010700_000000070000060400_000704000500000003_000800020000000500_000001000000000600_040306090000080201_090000040100000002_000500000006000000_000002000300000006,
  0x080006030000000000_040000000000070000_000000060007000000_000507090002000000_000000010005060200_000000040700000000_050800000000040000_000004080006030100_020000000001080000,
  0x080700010300000000_090103000405000000_050000020008010900_000300070000050000_000000090102000008_000009000000020100_030607050000000200_040900000200000300_000208000003090007,
  0x030400000000000000_000009000806000000_080700050000000003_000100000000000309_090804010005000200_000307020600010408_040005000200090107_070000090500000600_000008000000000000,
  0x000200060901050700_000601020705000800_000709000400010006_020900000000080407_060803000004000900_000004000208030005_000000000802000100_000000040109070500_010000050607000008,
  0x000005000002000904_000200070009080000_000009000004000000_000008020005000309_010700040906000000_050002030800010406_000104090000030600_000300050000000000_000000000000000108,
  0x000207000003000906_000000000906050007_000406000007000000_000000000301090002_020905000000000700_000001000000000000_060000000000000401_000008010002070300_070100030400060005,
  0x000900080005000006_000000020004080000_000000010903020000_000200000000000304_000001040809050002_040009000006000007_010002000308070009_090800000002000000_050300000001000000,
  0x080003060000020005_000000000000000301_020000050000090000_090002030600040000_000106000009000000_000304080000060200_000509010800000600_000200040906050800_000408000000010900,
  0x000000060500070200_050002040009000000_000000030000000004_070009000003040008_000000000008030701_030001070005020000_000200000000090407_000400000907010800_000007020004000000,
  0x000000040500000208_000008070201000009_000200060008000000_010000050700080002_030002090806040001_000804030100090706_090407000005020803_020003000907050004_000105000400060900,
  0x000708000501030000_000601000000050000_000009000604000702_000200000800000501_080100000900040003_000500010006000000_010000000700000300_070000030200060008_000000000000070009,
  0x000400000000000805_000900000700000100_000000000405070900_080704090006010500_030000010007060008_020006000000000700_000001000502040600_000800040001000009_000005070903080001,
  0x000000000000000000_050000000600000803_030800000001000004_020000000000030108_000000000007000000_000406080900020007_000009000005000001_040503000100070209_070100020000000300,
  0x000800000106000000_070205000900000001_010006000000020000_020000050000000000_000600000004090300_000000000807000400_000500060700040000_000004000300070008_000700080400000100,
  0x080601000509000703_050400000600000000_000000070000060508_000502030007000006_000006010000030805_000000050006070200_000900000705080000_000000090308000600_000003000200000000,
  0x020709060503000108_080604000002000307_010000000708020906_000008000106090005_050900020300000001_070000090005000400_090007080001000002_000103050200070000_000002000007000509,
  0x000000000500060007_030709010002080000_050000090800030200_000000040000000800_060004070900050100_000200050300000000_040900000105020000_000002060703000008_000608020009000005,
  0x000000020500000100_040200090001070008_000009000000020000_000008010000000005_000000000803000001_060700000000040003_070000000000000000_000000030000080002_030004000000050900,
  0x080004020305060700_000102040009080005_030705010000000904_070603000004000502_090400000002030006_020500030006090400_040000000000000209_050800060000000103_010000000400050608,
  0x000000000000060000_000005060000000903_040003000102050700_000500030904000000_000802010500000009_010409000000030007_090108050000000000_050200040000000001_070000020000000000,
  0x000002010000050000_000000080009000003_000000000007060401_000000000108090006_060708020005030000_000900000000000208_090800000703000002_000000060800040007_020600090400000300,
  0x000000000000000708_000300010008000402_000000020705000601_030000070104000006_060400030809070005_010708060002040903_050800040200060000_000600050307020800_040000000006000007,
  0x010700000509000403_080900000200000000_000405000008000200_000301000000070000_050000000003040601_000809010400020300_000500090000000006_000000000706000800_090600000300000702,
  0x000004080006000905_050903010200060000_000008000904010300_090300000000080100_000501020000090003_000406030009020007_000809060000000000_020107000803000000_030000000700000200,
  0x000001060000030000_000200000007050000_060300000500080001_000000040800000500_010004000000000000_020000030700040108_000100090000020000_000605080400000300_000000070103060000,
  0x000009010300060000_010305080607000409_000007000009000003_050000040002000000_020000050000000006_000000090100050000_000000070000030901_000100000400000607_000003000000000502,
  0x080009000400050301_010004090000020600_000206000008000709_090602000700010805_050000080200000006_000108000905000200_000001000603000507_070403000809060102_000805070000000900,
  0x070000000500040300_010900000402000000_020004060803070900_000409000100050700_080005030700090004_060702040000030108_000008000200010403_000000000609020507_050000010000000609,
  0x000408000000020507_000600000000000000_070002040003000106_000500000100030002_000000030805000000_080000000000050601_000000000400010305_050004000001000209_000000000902040700,
  0x070000010305090000_030000090200050000_050409060807000000_000300050008040007_080604000700000509_090005000006000003_020000000509060000_000503000600000002_000900030400070005,
  0x000607000305000400_000904000100030206_030802060900050700_000005010809040000_090106000003020005_040308050602090100_000200030000070508_070003080006010904_000400000007000300,
  0x000003040000070106_090004000007000003_000006000500090004_000000000001080009_000002000800000001_080901050306000702_000009000208010000_000300010000000000_000008000600030000,
  0x000204000600000000_000308050400060702_000906030100000804_000000010000000900_000800000005010600_000700000000040000_060009000000070000_000000000004090500_000000000007020401,
  0x000000030006080502_000005090408010703_000108000700000400_080000000000050900_020000000500000000_050604070000020000_040000060800070000_000306000205040000_000809040307000205,
  0x030009040000070200_010200000900000000_070408000003060500_080604000301000000_000103060205000400_050002080400010003_000905010700040300_020800030504000000_000000000800050100,
  0x000400060009000007_000009000000000005_060500000008000400_020700000006090000_090805020004060000_000001000000040500_050900010400070000_040208070000000900_000006080900050004,
  0x030400060000070500_070005020004080100_090001000000060402_050207090003040600_000904050600020300_080000070402010005_020100040705090006_000000080206000001_000700000000050000,
  0x060000090000000000_000005000001060009_000000060200000500_030600000000000001_070100000000030200_000000030000040007_000906080007010002_000002000000050700_010400020600080903,
  0x000000000005000000_000500000001000708_000001080000060900_000004070803090000_000007000500000000_000608020100000400_000105030004080002_060309000208000004_000000050600000300,
  0x000000000005000200_000500040000000000_000102060800000000_000000000608000003_000800000000060109_020603000000000804_000206080704050000_070300000001080406_000008030000090002,
  0x000600050000000000_000000020407090806_000000030000000004_090806000000070305_000100090000000200_000003000000010000_000209000100060000_000001000000080003_000508000903020000,
  0x000000070300000008_000301000000050200_070800000509060000_000009000100000504_000100000000000006_000508000000010002_030402000908070600_000005000400020809_080000010006040005,
  0x000100000000030000_050304090800000000_080700000004000000_020609000400050000_000405000000020907_000000000000040006_000001000908060005_060900020003010704_000007000000080000,
  0x010307050000080000_000000030400010006_000000090100000705_000008000001090000_000603000000000108_070100000000040003_030001020004000000_000400000000000007_000900080700050001,
  0x000400000000000205_000108000400030900_000006000000000000_000005000900000304_040000000105000000_000901030704000500_000500000600000000_030804010000050007_000609050800000000,
  0x000004050602030800_060700000000050401_080000000007000002_010009060000080005_000308070000020004_000007080000010009_040006020705090100_000001090306000508_030905040800000006,
  0x000400000300000201_010809000007000600_020300010000000709_030004000800020000_000002090000040000_000001000205000003_050100060000000400_000207030000000000_000008000100000007,
  0x000705080003000000_000100050000000008_080904060000030105_070800000002050000_030601090005080402_000502030600000000_000000070000000000_000000000009020500_000406000301070000,
  0x000701050408090600_000604000901050703_050002060000010408_000205030706080109_000003040805000206_070800090102040305_060300080504020901_010509070200060804_000008010009000007,
  0x000007060000090000_000300000904070200_080000010000000000_000000070002080304_050000000000020000_020403000008000700_000006000000010800_000000000800000007_040009030700060502,
  0x000100000706040008_030700010008000006_080600030200000000_050000000002030104_000000000400050000_040200050001070000_090000000007060405_000406020005000000_010500040600000000,
  0x000000050408010709_000408090700020000_000700000300040608_070006000003050000_030000000001000007_000000070804000000_080900040107000302_000607000000000900_000003000009000405,
  0x000000000900000600_090000000007000000_010607000000020005_030700050100000008_000009040008000003_000008070300090104_050000010000080000_000001090406050700_000400080005000300,
  0x010000000005020000_090305040200000600_000000030008000004_050000000000040302_030900000000000100_070000010002080000_000700080006000001_000200070401000809_080500020903000007,
  0x050000070801000003_000300000000000600_000000090000000000_030801000904070006_040005000000000001_090007030100000408_000702010500030900_000509040200000807_080400060000000100,
  0x000300080004000009_080005000201000406_090004000000000802_070003040006000000_000009000308000600_060000020705080000_000500060000090307_040000000003060208_030602070800000005,
  0x000000030000000008_000000040000000705_020600000000000100_000200090600030000_000000000400070001_010000020700080900_000002050000010007_030005000000000000_040006000000050309,
  0x000004000509000708_080007000000000100_000901000007050000_000006000102040807_010402000003060000_090000050000010200_060000040000070502_040005000600000001_070009020305080400,
  0x000800000600070001_010007000005080200_060205080000000003_000000030004000000_000004050908000000_000308000106090000_000002000400000809_040601000009000005_000900000007020004,
  0x080204070309000000_070000000004000009_000906000801040007_000000010000060805_000008000406020103_010602030500000000_040300080700000001_000105060000000400_060000040000000002,
  0x000008000000070300_050703040006020000_060000000000000409_090007030000010800_080002010509000700_000000070800000005_000300000000080000_020000000005030900_070009000000040001,
  0x070008090400000203_000905000000080007_030000070800000004_060009050008000001_000100000009030005_080500010000000009_010807000503040906_000302040106070508_050006000907000302,
  0x000004000500020000_000005010204000900_010009000803000704_000902030100060000_000006000709000008_050007000006010009_090003080000070002_020408000905000006_000601000302090805,
  0x000000000001000305_030200000005060001_050800000000000200_000705000000000004_000908040002000107_000000090007020506_080300000009040700_070000000003050600_000000000000010003,
  0x000600000009000704_000100060000090008_000900080405000102_060000090003000400_010000000708000306_030200000004000800_000706040000000900_000800000900000200_090304070000000000,
  0x000000000008000000_000000000007090402_000000000401030600_010000000003000004_080005040006070900_030006070000050801_000000000000000000_090000000304000000_000001090000080000,
  0x010000000300000402_000400010002050900_000600000004000300_050701040206090803_060804000009020001_090000080000040500_000000000403000000_000300000000080104_000002000108000005,
  0x000609040000000000_010005000000000900_000307080000000000_000503000800000002_000008060000000000_000700050002000800_030006000405080201_000000000900030700_000800020003000400,
  0x000007000000060001_080000010209070000_000400070006000000_050000000001000602_000100000602090300_000208000000000107_040001020000000000_000800060500000000_090500000100000008,
  0x020700080100000000_000000000005010900_010000000002000006_000000060900000000_000005000000060204_000600000001080700_000000040603020001_000000000700000600_050306010000000400,
  0x050203010000070908_000000050300040001_000000000809000500_090000000008020000_010008090200050000_040000030000090006_000409080701030005_000000000900000002_030000060500000000,
  0x070000000004000208_000902010000000000_010400000000060309_000500080000030400_040008030000000005_090300000000080001_060804070305090102_050000000400070800_030100090000050000,
  0x060000050009000000_000100040006050700_000000000200030600_090800000000060407_000004090607000100_010000000804000002_000402060003000000_000900000400000006_000600080100000000,
  0x000300000001040000_000006000005000000_040902030008010006_070000020300050800_020803000100070904_050009080000000002_000008000000060709_090507060804000000_060001070003080405,
  0x070006090804000200_000100000007080000_040300000100000509_000000000900000304_000800000400090000_000000000000050708_030000000001000000_000704050200060003_000605040000020107,
  0x000108050400000007_030504000007080600_070209000000000004_010000090004030805_090406030805070000_080305070001040000_000000010000000203_000003080000060400_020600040003050008,
  0x090403060000000000_000008010000000006_060000030500090704_040009000000080003_020001070000000000_000306000800000100_000205000000000000_030900000200010400_080000090100000200,
  0x000200050008000003_000000000600000000_000400020000000007_000000080000060300_010003000700000500_090000000002000000_000000000809050700_070908000205000006_000005030400090100,
  0x000000070800000005_060800000005000100_030504010209070006_010000000000000004_090408000000050000_000706030904000208_000600000001030000_080000000407000000_040109000000080500,
  0x050300070000090008_020000080001030506_080900000600020000_000009060103000005_000100000408000000_000803050009000002_000004000800000200_010600040002000907_090002000000000800,
  0x080604050000030002_000102040007000000_050300080000000009_040003010000000600_000005070000080900_000000000800000500_000008000000000200_000000060700090000_030500000201070400,
  0x000000090000010308_010000000000050000_000605000004020009_060000040301000500_000001000700030006_000200050600000000_070100000905040000_000000070100090205_000000020000000000,
  0x000200000003000000_000603080400000201_070400020600000003_080000040102030006_000704000309000802_010000070000000509_020000060500090308_000009030000060007_000806090700000000,
  0x040000010600070000_000602000508030001_070001030004000009_000000000900000100_050006000007000003_000009000000000600_000507040100000200_000000020005000308_010003090000050700,
  0x000600000004000000_030005060700090201_070008000900000000_010000040006020000_040000000003060705_080006090200040100_050800070609000302_000003020001080000_020900000800070406,
  0x000502090403070106_060003070801040205_010400050006000900_040700080002000500_030001000507000004_000006000300000002_000104020600050307_000000030005000400_020305010700000609,
  0x000000050109020800_000906000403000705_010000000000040003_000400000000090008_000301070008000500_060809000500030000_040600000702050000_000000080600070000_050200000304080009,
  0x020009070000040301_000600000403050000_080003000100090607_090705080000010006_000006050000080900_000000000900070500_000100000600000700_060000010008030409_050000000200000000,
  0x070400030200080900_000003070009000400_020809010000070000_000007080300000500_000304050701000800_000205000900000700_040908060100000200_050102090407030600_030006020508090100,
  0x020008010900000003_010004000005020006_060503040700010900_030000050001000009_000600000304070200_050402090607000000_040300070000000600_080205000000090107_070000000509000300,
  0x090800000000000004_040300090500080602_050000080406030001_060700050208010400_000400060701000000_080100000004050706_070904020003000105_000600000100000307_010503070609040000,
  0x090501000300000600_020700060000000000_060308090004020700_000605000009010402_040000080205060307_030000040600000900_000906020800000001_050800010000000000_010400000006000000,
  0x020000000305000608_000709000004000003_080003000001070000_000000000900000004_040000050000080000_060007040000000300_000300080000000900_000500000702000800_000000000009030500,
  0x030002000806010009_050809040000020003_070001000000000408_000007010008000305_000000000000070004_000504030607000902_000000000100040000_000100070003090800_090006000004030001,
  0x040000050702000006_000000000008030500_070800000000020000_000000000109000000_000000020000060000_000000000006000401_030700000900050000_000400000005070009_000100080207000603,
  0x000000060000050800_030700080501090000_000000030000010000_080900000006000107_050003000107080200_000000000000040000_000006040000000500_020000000903060408_000800010605000000,
  0x070000090000030000_020000000000000406_000001070200000000_000000030000000000_000006000700090500_050203000000000000_030000080007000600_000709060302000100_060002040900000007,
  0x000304000001000209_000001040000000000_000605070209000100_000700010403000006_050000000702030000_030000000506010002_060000050100000000_040502000000070600_010800000004000300,
  0x000002030000000408_000300000904070005_000409000800000003_040003000000050000_080700000000040000_090205000000000300_030000000607020000_000604000108030009_020007040503010006,
  0x000000020700080600_000000000000090305_000106050300040700_010408070206030009_000000040100020007_030207080905010006_000003010004000008_000004000000070103_020001000807050000,
  0x000008020300090600_000702000000000000_000000070900020004_000007000000040800_080103040000000006_050000000006000000_000800000000000402_000000090003080005_000605000004000003,
  0x000807000002000005_000000010005000007_010509000300040600_000100020700000000_070200000906000108_080300000001070009_040908000103020706_000600000009030500_050703000000000900]
theorem mixed_12_ok : mixed_12.all fastOK = true := chunkOK_sound _ (by decide +kernel)

/-- `mixed` (10000_mixed_puzzles.npy), boards 3250..3499 -/
def mixed_13 : List Nat := [
  0x010700000302040800_050600000009010200_000300010400070900_000000060000000008_000206070800050109_000500000003000002_020405000000000000_000001040008020007_000800000000000000,
  0x000003000200070005_020005000100000900_000007000903000006_000000090007080500_010009000005000000_000700000000000000_040000000002000000_070000080400060302_030000000000090004,
  0x050107000004000000_030904060708000005_080000090500030000_000000000300060002_000000080006050007_000006020100080000_060009000000020500_000701050000040006_040008010002070900,
  0x060500000000000400_000209000000000300_010000000705090600_000100000004000000_000005070100000000_000002000000010000_000600010009030005_050004000800070100_080901000500040006,
  0x030100020005000008_000009000008060000_080000030700000000_000002000000010000_000500000800020006_000007000002000005_000300090400080000_000401000500000309_000600070000040000,
  0x000600040000000802_000000000701060503_000000000200070900_000406050008020000_030000060100080000_000000000000000000_080004000000000201_060000000800030700_020009000305040600,
  0x030004080600090000_080007000000000002_000900070000000301_040302010800000000_000800090000070003_050700060300010800_090008000100000607_000000050708000000_070000020000000508,
  0x000001080400070305_070008000000020409_000400000003000008_010800060500000000_040200030000000900_060003000702010804_000900000008000007_000004000005000000_000100000600000500,
  0x000300010800040600_050100030200090800_070000060900010000_000800020500000109_000000000109080000_010009080400000700_000000090001060008_000000040600070900_000900000708000001,
  0x000005000000000003_040900060300000701_070600020800000000_060001040008070002_080700090000000004_000500000200000000_000007000006000309_050009000002000000_000000000009040208,
  0x070000000406000900_000006000300050702_000500000900000006_060000040001090005_020000000009000000_050409080603000100_000700090000060204_080004000000000500_000205060100000003,
  0x090200000100030008_000005000000000000_000100000300000000_060000010007050204_000007020400000006_010002000000000703_000000030001000805_070000050208000409_050800040009060302,
  0x000006050000000000_050000000000040006_080900030000000005_000500000006000800_000809000103000000_000402000700000600_000000040000010900_090004010000060207_000100000902000003,
  0x030604000000070200_000000000000000000_000000030005060901_040705000003000002_000300000000000807_080002070000090003_010403000908000006_000500040000000000_020800000706000004,
  0x000904030702000000_000700000001040900_000308000000060200_000000000605070000_000000010003000800_000602080000000000_000006000004000001_040100050000000000_000000090106000000,
  0x020000070003000000_000300050009010000_000900000000000306_030206000000070000_050409030107020000_010000020006030000_070001000000000000_000003000700090102_000500010008000704,
  0x000406020005000007_000207040300000000_000305000001000200_000003060204000008_000000030807040605_000800000000000002_000000050000090703_000000090400000000_000009080003000000,
  0x010000080700030000_070306000500090804_080009030000000500_030000010400000008_000000000000000000_090400000000000701_060000090107020405_040905000008000003_020000000300080609,
  0x000000000000010800_000102000500000000_080300010002040705_070000090106080304_000604000000000200_000000020005000001_020007030001060008_060008000000020103_030501060000090407,
  0x020005030708010000_000301090506080000_090000000200000306_030704000009000000_010000000600070003_060500040000090002_000000060000020508_000009070000000600_080106050000000009,
  0x020006040108000907_000009000003020004_000700000500080600_010000000704000208_000807000000040300_050000030006090701_090400060000000002_070605020001000800_000100000905070406,
  0x000002000000040007_000000020300080500_000000040708000000_000001000802030000_030007000004020000_000200000500000006_000000000401000200_010006000000050003_000004080603010709,
  0x070100040000000200_000008010002070900_000004000000000000_000002000000080001_000703000000050002_080006020000000300_000305000108000700_000201060000000000_000007000200000500,
  0x000900000300070000_000205000600000004_000000000008090006_000709000204000100_060000070800020000_000500000900000407_050100000400080600_000800020006000005_040000000509000302,
  0x050002000700040001_000000000409020003_030900080102070000_000200070003090000_000703000000000400_080009000000050000_020400060000000500_000008000007010000_000000000000030000,
  0x070802000400000301_000104020600050800_060905030008040207_050009000301080602_000000000204000000_080000000500000003_000308000706000004_020501040800000706_000006050902030100,
  0x070601000500000000_020000000008000600_090008000100020007_000000030001000200_080000040200000006_000200080009030104_030002010000060000_010006000400080700_000000050800000300,
  0x050700000001000009_000300000706000805_060108090000000400_080000000500000004_090000080000060300_030401000000080502_010900070008000200_070600020104000900_040000000000070003,
  0x090000000001080000_000500000403000009_000103000000000005_000006000000000002_080000000907000000_040700010000090608_050007080200000000_000409000100000007_030001070000000206,
  0x060509020804070301_070100090503060004_040203010007000508_020004060000080103_080301000002050609_090605030008040702_010907000006000805_000802050709010006_050006080001030907,
  0x000700060802000100_010003000000000000_000806000100000000_000500000700000804_090000080000010300_000601000000070000_000008000907060501_070100000600000903_060009000000000002,
  0x010600000405020900_000003010000040507_000009020007000300_000004000100060005_000000040008000002_000006050203090001_000102000000000009_060700000001080004_000900000502000000,
  0x000006080109070304_000801060700000000_000000030500010008_060703000005000800_000100000308050706_000408000006000109_000000020401000003_000000050003060400_080000000000020001,
  0x020400000801000000_070000060000000300_090608000000040000_000000040600000000_000009000005020400_000004000107050000_000000000008000700_000002030000000005_080900000000030006,
  0x000009040000010502_020800000000000003_050000000203000607_010504000307090800_000003000900000000_090008000605030000_080000000000000105_000000070000000308_000102030508070409,
  0x000004060700000000_000805000000000700_010000090008000504_000506020801070000_080100000000050400_070000040006000001_000700050400020600_050408000002000007_000203000000040000,
  0x060500000001000407_000000090007050003_000900000600010000_000006080900000500_080000010000000009_000301000506000200_000003070000020900_070600000408000000_000002060000000004,
  0x060400000000090103_050200070009000006_090001000300050207_000100000005070000_080604020003010500_070500080000000000_010706000002000004_000308010000020000_020905000000030601,
  0x000000080009000002_000002060000050900_070009030000080100_050308000000090400_060000000004000000_020700010903060000_030000000108000009_000000000005030208_090005000000000000,
  0x080100000503060400_000005000009020000_000200000000000007_020806040000070103_000503000800000902_070000010000050608_000002030006080004_000600000700000200_000000050200090006,
  0x090008000500020601_020100000000070405_000007020000030900_010000060002000800_000002000007000000_060904080005010007_030800000000000009_000001030000000502_000209050708000100,
  0x040709000002080000_000800000000020000_020003080006090400_000105060800000009_080900020000050006_000600000500070000_000400000000000308_050000030000000000_000000000001060000,
  0x000000010200000509_000000000300000000_000008060905000003_000004000700030100_000109000500080000_050300000104090000_000700000400000000_040000070003000000_020600090000000000,
  0x020003000609080007_060908000507040001_000004000800090002_030800070200010004_000701000903050008_050000000000000003_000302090100070400_090005080702030000_000000050300020009,
  0x070609000800020004_000000000900000800_000000000701000509_000000000500000007_000407000003080000_030805070000010906_010006000007000008_040908000106000000_000000080400000601,
  0x040800000700010903_000200030000040007_000000090004050802_060000000000030708_000408060000000100_070009020108000004_000000000200000006_020600000000090001_000000010000000005,
  0x000809040001000000_030000070900040008_000700000800000900_010000000004090703_090007080300000000_050403000009000802_070300020400080000_020104090008000000_080900030100000006,
  0x000706000000000004_020400070005080900_050800060104070000_070000010002060409_080604000903020000_090000040700000800_060200000007090000_040005000001000000_010307000009000000,
  0x000000000402000500_030005000907000000_010000000500090008_000003000100000000_000806040309000200_040000060000000905_000502000703000800_000000000600000300_000004050000000002,
  0x000100000208090003_000005030600000204_000000040500060000_000401000700000000_070800000406000109_050006000002040700_000700000000000000_000000060004000300_000009020300000000,
  0x050008090207040000_000307000004090500_000004050006000800_010002030008060700_070400060001000208_000605000002030900_000000020000000000_000500040000000109_040809000000000003,
  0x060102030500070009_090407020108000000_000800090000000400_070300000000000004_000500000000080100_000901000203050000_000600000005040008_000200000400060000_000000060300000500,
  0x030700000905020000_000500030000000001_010400000806050000_020006000008000004_050004060207030108_000000050000000000_000000000000010000_040001000300060200_090200080601040307,
  0x040000000000000801_000009000003000000_000000010800000000_060005000009000207_030200000008000609_090700000602010005_050103020006000700_020000080301060500_000604000007000102,
  0x000307060000040809_000000070000000000_000005000401000007_000000000000080000_000000000000090006_000600030009000204_000509010000000408_000006000000020105_000400000002060000,
  0x050000000007000003_090706050000040802_040003090000010007_030004000802050009_000000070000030008_000800060300000000_000000030000000000_000002000500000106_000400080206000000,
  0x000102000000060800_000006010207090400_040507000008010300_030605080900070000_000400000002030009_000200060403000008_000003050806000901_050004030109000000_000000000004000000,
  0x080905040000070006_000000000200000009_060203050900040001_000006010000020000_010002000600080907_090700020000000100_000000060001000002_000607000000000500_000009000402000008,
  0x020000090008000004_000008000003010000_000700000401000000_000009020106000005_000000080000000003_000000000500070201_080900000000020407_000607010800050309_000003040900000000,
  0x000000000003060008_000700080900010000_030008070106040002_000800000407000100_000004000001080500_060103000000020007_040000000302000001_000302010709050600_000007040805000000,
  0x060000000005010008_000100020008000000_080700000000000000_000000000000040000_000001070000090002_020000000000060007_030800090000050406_010604000007080200_000009080006000001,
  0x000308090002060000_050000000000070004_060001000804000000_000000000006010408_000400000105090200_010900040300000007_000805010000000306_020104000503080009_090000000407020105,
  0x000305090004010602_060100000800050400_000209000000000803_000002000000090001_010704080000000306_000006000301000700_000601000203040908_000903040500000100_070000000609030200,
  0x000209050600000108_050600080007000004_000000000000000500_000400000200050800_000108040005000300_090500030000040001_020006010300000000_010900000000000002_080304020500000006,
  0x020000080609030700_000006070400020500_000107030502060900_000208060704010009_000400010203050006_000000050000040000_000800000105000600_040602000007000005_010000000006090403,
  0x080400000105060000_030005020009080001_090107000800040002_000709000000000408_020304090008050006_000500010000090207_070006030002010900_040003080001070005_050001000007020800,
  0x050900030001070200_000207090400050000_040300050000080000_010009070200060500_020805000000000709_000000080905010000_070500000000000001_000104060009000000_090008000000000300,
  0x060407090001030508_000805070300000002_010003000508040907_000009010400000800_000601050800090003_040508030902000001_000006000703050104_050004080000000000_070100040005000300,
  0x000500040000080107_040300000007000000_000708000000030400_000400000200000809_000000000400070000_000907050001060004_000004000008000600_030802000005040701_000605000000000908,
  0x000904030006070100_000701000005030000_050003070000090600_030406000700000002_000000090000040803_090802040300050706_000300000009000001_040600010800000500_000508020007000309,
  0x000002070000000300_060500000300000900_040103000005000200_000000000208060107_070001000600000000_000200000107000800_000000000003090000_010000040700050000_000000000009000003,
  0x000009000700040300_000004050000000000_050000000000000009_000908020005060004_040006000307010802_070002000806000900_000800070600030001_000007010508000406_060401030000000500,
  0x000006000000000903_000000090508070600_000900060000080001_090000050000000006_020000000906000000_000000040000000108_000309000005010000_070000000601050000_000004020000060000,
  0x080600000900070403_000902000000060005_000000000500020109_020000090008000000_050000000007040000_040009000000010002_000000070000030501_000107050002090004_000004030109000007,
  0x000507000100080003_000004000509070000_010000000006050000_090006050000000000_000008090400060002_050000000607000300_000605000001040800_080009040000020001_000001000908000000,
  0x010007060300040008_000300000700000506_060200040500030907_000405010908070603_080603000007000100_090701020003080400_000104000006000709_070000090200000301_000900000000060804,
  0x010000050007000600_070000060000000304_000200000000000807_000600070009040000_000000000008000000_000901040206000503_090000010600000000_000008020905030100_060002080000090000,
  0x040200080507030000_000700020000000005_090005000600040200_000000030000060504_000004000900020100_050000040001000000_000400000106090302_010000000000000400_000000000300000001,
  0x000600080700020500_080307050000040600_000502060000000007_000700090008010205_060000000100030704_020005000000000000_000000000000090102_030000070204050006_050000010009070003,
  0x000006000504080007_000000000600000000_030805000009000006_000008000200040701_060004090800050000_010000000307000000_080600050003000104_050100000400030008_040200080000000000,
  0x000009060008020000_080702000300090000_010006020400000800_000000000000010600_030901000000080000_060400000000070900_000000000002060509_090005000600030100_020003000000040708,
  0x050103060200090400_060902050800010300_080007000903000200_010806000400030902_090005030000000801_020004000109000705_030600020001000000_040208090506070103_070000040008020609,
  0x000400000000000005_000002000804000907_000609020000080000_000005000000000704_000007000500060000_020100000700000500_000000000000000109_000004000001000300_000903050200000800,
  0x000902000005070608_030100020607000000_000007000000000002_090004050803060000_050001070200000804_080000040100050209_000000000502080703_000000000000040006_000006030900000001,
  0x000100090706000400_060300000001000009_000000030000060000_020001000000070305_000803000000000900_040506070000020100_000000020007050000_080005040103000607_000009000805000200,
  0x040000000801020000_000600020000000503_000800050603010704_000200080300070000_030408000007060005_000000060002000008_000700000000000000_000500040000030000_020900030708000000,
  0x000000090007050608_080000000601000000_000000000800010400_010502000000030000_030400000000020007_060000050002000000_000000060904000100_090100000000060304_000000000000080209,
  0x010305000000080704_000700000004030000_000604000000050001_050400080000000006_060107000403020800_000200010000000400_000806040000000002_000000000902000000_030902000805000107,
  0x040500000003000000_000803000900060002_000200060408000100_000009010000040007_020000070000000300_060708000000000000_000002040009010508_000005030001000000_070001000006000000,
  0x000509080000030200_000402000000000001_060000050900070000_040200070000000008_000005090000000000_000000000000000005_000000000000000000_020608010503000009_000000000400010600,
  0x030002000000070004_090006000001000008_000107040000060309_000003000400080000_000000000508020000_050000010300040000_010000000000090002_000809060102000005_000000070904000000,
  0x020003000001000004_000009040003010208_040005020908000600_030200050006080109_050408010009060300_000906000002040005_070004080005020000_000500060004000807_080300000100050406,
  0x000602000001050000_010500000906000000_040000080005090001_000009050000080700_000004000802000000_020005060100000004_000901000600000005_050003020000000109_080000010000000003,
  0x000000000006000000_080600090003000407_000009070105080000_000000030000000000_000004000002000501_000800000000060700_000408060007000005_070300000004010006_060900010008000304,
  0x060000000000020300_000300000004050700_050700000000000008_000000000701060003_000600040500090007_000000000006010405_000009070600080100_010007000000000000_080000030002070000,
  0x000008000000000500_000701000904030000_000000050600000000_000200040709060100_010005030002000009_070400060000000008_000000090405000600_000000020100040907_000004000000000000,
  0x010405020306000000_020806070009050100_090003000501000200_000900050000000601_080201000004000705_050607010800020409_000108060205000007_000002040908010506_060500000107040002,
  0x000902040000000006_000103070000000200_070000000002090000_030009050000010000_010000000200080609_020600090100050400_000300000509060800_000700000004020001_000206000000030500,
  0x050000000006090008_080000000209000300_000009000000000001_000300080001060500_000007050000000103_010400000603000000_000000090400000000_030900000000080000_040700000300010000,
  0x040000000003000000_020703060901040005_090108020405060003_000004000002000008_070200000300000001_000000000006070402_000600030009000104_010002050600030907_030000080007000006,
  0x000408050001030000_000000080006070000_010000000900040000_000304070800000206_000006030000090000_000000000504080300_000001000007020408_080700040005000001_000002000008000700,
  0x050800040300000107_010204050607090000_000907000000000500_040501070000060209_080009060002030400_020000000005000700_000108000000070000_070000000008000004_090402010706050800,
  0x000002000000010904_030507010000000000_000100060800070000_000000000200000000_060200030000000500_000003000000000006_000400050001000600_000006080900000102_050901000600000807,
  0x000005010000070806_000100050706000004_000900000000050100_000709040000010000_000000000005000009_040302000600080000_080603020000040900_010200060009030000_000500000400060201,
  0x090008000102000000_050006000407000001_070000080005090004_000603010000020000_000100000708000500_000507020600000000_000000050000010007_060005000800000002_010002000000050000,
  0x000301000900000000_050809000000030600_000002000608000001_030100000000000006_000500000007010000_000007080000090400_000900050001020000_000700000000040109_000003000709060008,
  0x000500040706000000_060002010000000007_000000000000050004_010007050402000006_020604000907000100_000005000108070402_000006000200000008_040700000001020000_000000070000060900,
  0x080000000004000107_000000050800040006_000000000200000000_000009000000060004_000700030600050901_000000000000030000_000007090000000605_000600000100000000_030000000700090000,
  0x000300000907060000_000908000103050700_060400080500000900_030005000801090000_000804000000070000_000000020300010000_090102000005000600_080003000000000000_040506000000020309,
  0x020006000400070901_050008000000000300_000400000100000000_000209010008000400_010005000000000809_000600000900020003_000000070002000500_000000000001090000_070800090000010600,
  0x000000000000000100_080500030401090000_030701090000050006_020100040705060009_000307060902040801_000009080103020700_000000020800000000_000003000004070602_000000000306080000,
  0x000804000900070003_000000000400000809_000009000100000004_030007040200000600_080201050000040007_000000070803000500_020608090500030001_000100080706000900_000000010302000000,
  0x010005070000060003_070906000008020400_040203090106080005_000100000902000300_020000000003000806_030000000501090000_000602030009000008_080401020000030009_090000000000000602,
  0x080306000001000000_000002000400030700_000000000000080000_000200000006010007_000000000000000005_000000040000000900_000007090000050000_090000000000070000_040500080702060300,
  0x000001040200080005_000700000605020001_090000000000060403_000103000000040000_000402000700000000_000600080300050102_000004000507090006_000907060403010000_030000000108070000,
  0x060000000003080209_000003060000050704_000508020009030600_010000000906000400_000600030001000000_000807040000000100_030401080000000507_000000010307040006_000706000004010300,
  0x000704010208050309_080000000507000604_010005000009000000_090003000700000000_000001000000070008_000002000000000906_000000060103000000_000000000000090000_000508000900000701,
  0x000004000900060000_000009060002070000_000507000000020003_080300000200000000_000000000800000000_000400000006080500_040006050007000208_050203080004000607_000000000009000304,
  0x020700060900050000_000500000203060000_000000000007020900_030206070409000000_050400010000000000_010000030502000000_060005080104000200_070904020005010608_000002000700000305,
  0x000001030400070000_040900060200000001_060503010900040002_050000070001020609_090006080002010007_070102090604030500_030005020009060000_020000040000000700_010700000806090003,
  0x030005040002000609_080100050000040300_000600000008020000_050000000000000008_000300000500000000_060000000807050000_000007000300000100_000000070000060804_010006090405030000,
  0x080009040200000306_060007010003050900_030200090005080007_070900000500020000_000000030000000005_000000000001000704_000006000002040001_000700000000000200_020004050000070009,
  0x070002000000050300_000009030500080001_000000040701090000_040200000600000000_000300000004060000_000605010000040002_020906000008030000_000000090000020608_050804000003070109,
  0x070802050301000000_050000070009000001_000000080000050200_000000030005000809_090000000000000500_060003090004000002_040001020000090600_080006040903000700_030005000600000400,
  0x090500000007080003_000003060904020500_070200000800000600_000008040300000000_000005000106000200_000300080000070000_050600020400000809_000000090700000005_030109050608000000,
  0x000600000500000000_000100000000000704_000007000003020500_020000000004000308_000000020000000000_080000000605070900_000405000000000207_000208050000030009_000900030800040000,
  0x000000000000000100_060009000500000000_000000000000050008_090007060003000200_030000000002000905_000100070900000006_000400050000010009_050906080100020000_000008020309000000,
  0x000003040000000609_000000000900000307_000100080000000402_010008030400000900_060400090008000100_090002060501040700_050007010603090004_040801000200000000_000006050004000000,
  0x000000000602000000_090201000800000603_070004000000000009_000900030006020001_060008000209070000_010000000000000900_000100000300090004_000009000004010702_000407000900000008,
  0x000302000000000006_000004000007000305_060107000000090402_000000080005060900_090000060702000000_000706000300020508_000603070901000804_000008000000070009_000400000006000001,
  0x000001040603000008_080906070500000003_000000000800060000_090508020006030004_010602000704080500_000003050908000001_000007080000000302_040000060301070800_030005090000040006,
  0x060000020008040000_030708010600020500_020005000900060000_070000060105030904_000300000007050600_040500000009010702_000600080401000203_010203090706000005_080900050000000100,
  0x060405020300010900_070103090405020608_090208070601040503_020700040503080009_010309080207050406_080500010906070302_030602050004000701_040801060709030200_050007030102000004,
  0x010007000904030500_050004000103000000_000000000800000009_000000000605000300_000000070000000006_000000040001000008_000000030406080000_030706000000040901_000400010709000000,
  0x000009080100050003_070000030600000002_000302040007000000_000000000003080200_060000070000040005_090200000005070300_000401000700060500_000005000006000800_080000000300020100,
  0x080602050009000000_000900000700040006_070001000200080905_000700000000000109_050008040901060700_060109030507000008_020000000004090000_000000080005000002_010000090600030804,
  0x030401020007050600_000000000000080302_060800050309000000_050600070900000000_090100000208000000_020708060000090100_080006090405010007_000000080700000405_000000000000030008,
  0x000009000006000100_000500030200080400_000004000000000702_000008060500000209_060900000002010500_050000010900000000_000000000700000000_080000020600000004_000000000000000803,
  0x090000000402000006_040601000005070000_080002000706030100_000007000900000300_000000000508000200_000905000004000607_030006050207000000_000409080003000701_070200000009060000,
  0x070008090003000605_000000000406000800_040000050807000100_000709000608020503_000000070501080000_060005030900000001_000507000304000008_000304080100060709_080001000709000300,
  0x080600000000090000_010000050700030400_040700020009000501_030000000008040602_090802040000050003_060001000200000800_070108000400020900_020906000001080000_050300000000010000,
  0x030805000201000000_010002030607050008_000907080405000002_090001040800000006_000500000706090200_000006000009040001_000000000000080600_050603070108020000_070200000004030000,
  0x000000090406050300_060500000300000900_000000080000000000_000100000000000005_070000000205080000_050003040100000006_000000000000090207_090000000000000000_020007000000010804,
  0x010503090006040002_000902000000050000_000408000005000003_000004000600010905_000006020007000000_080009050401000200_040005070309000001_000007040008000500_030801060002070000,
  0x030008040201000005_070400000900000206_090100000706040008_060209010304080500_000007000805060001_000800000000000002_080000090002000603_010500000407020009_020906000503000004,
  0x080600000900000000_030107080000090500_040000000001020600_050800020009000400_060704000105000200_000200000400000100_000006000000040002_000000090007000301_000309000006000005,
  0x000200000000000005_000601000000000007_000004000700000900_040800060900000003_010002040007000000_000700080500000000_020308000109000006_050409000806000102_070100000004000309,
  0x000008030502000000_030402000000000000_070000010004080200_000000020300000009_020900000600000408_060000040000000000_080000000007020004_010000000003050000_000000060408030000,
  0x000000000501000000_050000000004000800_000003080700010504_020000000300000907_000300070100060002_040000000206080000_000009000007000005_000700000600000208_010000000000090006,
  0x070003000000060004_090108040006050207_000200000007030800_050000000900020000_000600070003040900_000409060000010700_060700090000000001_030005000600000000_000000030002090506,
  0x000009000005000004_000600000100050903_050407000900000000_000500060701030809_000003020000000000_000806090000070402_060901000004020305_070200010309040608_040008000602090100,
  0x000000000800070200_000000050000000004_000008000006000500_080602000000000003_000500000200000000_010003000900020000_000006030000050402_020000000405000000_050704020600030008,
  0x070000000000000600_000001000602030804_000000030004000701_000000000008060002_000109020700000000_050008000300000000_000900000003080105_020006010507000403_000000000000070206,
  0x010807000504020003_000203010006000800_000000020300000001_020000040000010500_060501030000040009_000004050002060308_030405080001070006_080906000405030002_000000000900080400,
  0x080600040900030000_000304000800000000_050107000003040000_000800000002000703_000700050400020009_020006000701000400_060508000300090201_000001000009070806_070209000100000004,
  0x000002000000000807_070000000309000600_090005080000010000_000207040501000003_000500000000020000_000900000200000006_050000000002000108_020100000400000009_030000000000000005,
  0x040700030800020000_080003000002070100_050000000000000800_070009080200000000_000004070905000300_060800000403090207_000000090000040000_010000000004080003_090407060308000000,
  0x000300000001000000_000100000900080200_080402000607000901_000000000700000004_000708010500020009_040901000200000000_030007000008000502_000000050302090600_050009070100030008,
  0x000000000500090401_010005060009020308_030400000802060507_000004000608000003_020003000004080000_000008000000000700_000501040000000900_000200080005070100_040007000201000806,
  0x030000000400080000_050702060000010000_000400000002000000_000300070000060000_000600000800020700_070000090000000001_000200000000050100_000800030100000402_000003000005000608,
  0x060400000900020500_000200000503040006_010000000000090003_030800090402000007_040900060705000200_020005030000000409_000100050009000004_090300020108000000_050608000304010902,
  0x080000060007010000_000002000009000607_000700010000000305_020805000100000700_000306050004020000_070004000000030009_030907000800000406_000208070000000103_040600000900070208,
  0x080000090006000100_000009000007000800_070000000208090400_000205010000070004_010000000904020300_030004000500000900_000000000600040709_000008000009000501_000900000005080200,
  0x070104000000000503_020900040000000800_080006000007040200_050609080000000104_000000000004000005_000800020500070000_090200050406000701_000300070001090400_000000030900000608,
  0x080000000107000005_000006080405090003_000504090600000000_000605000704000000_090201060308050007_040700050902010306_000407030000060002_000009040206070800_060000000001030004,
  0x000100000402090000_000000010900000000_000000050000010200_070208030600000401_010403070008000000_000509000104030007_050906040301000702_000000090805000100_000001060200000509,
  0x000003000800000401_080500030001070009_000009000000080000_060408010002000000_000002000005000006_000700000000030102_000000000103000504_000004000208010907_000000040706000000,
  0x000000080007000000_000000020109000708_000500000300000000_000200000400070000_090003000006000400_010000000000000200_050802000701060000_000000000000030502_000400000000000000,
  0x050902010300000608_000400000502030100_000300040006050900_090200000105060700_040701060903000205_060500070204090001_000100000000070400_000800030001000506_020000050700010803,
  0x040305070600000000_000000000300040502_000009080000000006_080406020000000100_050000040109000803_030900000508000400_000700050004080000_090502010807000600_010000030006050709,
  0x000209060108030705_060800050207000901_000000040309080200_030500080000010400_000100070000000300_020900010400050608_000000000000060002_090400020001070000_000002030005000804,
  0x000001050600000308_060700000903020004_030500000700060000_050200000000000009_090007000006050000_080103090000040200_000609070000030000_000805000002090000_070000000409000000,
  0x040108000005000000_000000000000000000_030500000106040200_000006050300020401_070000000000050003_000305020604000008_000001040002060009_000000000800000000_000004030001070800,
  0x090000000400020000_040000000008070500_000508000007000000_000309000004060002_000004090003000000_000006000000040309_000005000700080200_000000010002030004_000000000300050607,
  0x020504000000060000_060000000008010000_090008000702050400_000003050000000000_000005010200000009_010009080007030500_080000020100070305_030001000605090008_000002000000040001,
  0x030002050004000000_090504060000010307_010000000307040002_000009000006000801_080306000000000009_000000080000030600_060901020000070400_000800040901060000_040200070600090103,
  0x060000050002000007_000402060000030005_000800030000000000_000100000000000006_090000000507000000_000708010400020000_000207040100000009_000000000609000008_040600080003000500,
  0x000100090000000003_070004000002050009_020500000007000001_000200000800000300_000900060204000500_060005000100000000_000400000000000000_000000000700080900_090000020006030000,
  0x000200000406000800_000006000307000004_000509020000000300_060702000001000905_000300000209010400_000401060003000200_020600030705080100_070105000900040003_000003000004000700,
  0x000000000200000005_000200010000040000_000304000008000700_040000000000000609_000500000309020000_030000040000000500_000005000603080000_090000000001000000_010008000705060003,
  0x000100000205000000_040602000100070905_000008000006000000_010506000300000004_080200060004000000_000000000000020706_060304010500080200_000701080600000000_090805070000000601,
  0x000700000200030100_000300070801050004_000000040003000702_070400050009000000_000000000000040007_080600000004000000_010200000306090005_000004010002000603_000506000007000200,
  0x000107000203080900_000008000000000100_000300010800000007_000000030501000000_000904080700000000_010000000604000008_000000000000000002_030000020000000704_080400070900000306,
  0x060004000105000008_070500000000000403_030000000000050000_000007000000000000_000106080000000000_000900060007000300_000005010000000809_000700020008010000_000608000003000500,
  0x000000000200000706_000207030904010005_030000000007000009_000000010000080000_070500000002000001_000000090000040007_020700060009050000_000000070403000000_040000020000000003,
  0x060705000301040000_080400070600010203_020003040000070605_000508000902000007_000007000403000000_040900050008030102_000302000004000706_070801000000000000_050600030007080000,
  0x020803070100000609_090000000600000003_010600000009070200_000500000906000102_030006010400080705_040200080500000906_060407090800020501_050309000000000807_000100060700000004,
  0x000008000600020400_000004000000010006_060701090000000000_070000000000000208_000000000900000305_050002000708000004_010000020000000700_020800040009000601_000905000006000802,
  0x010000040600000002_060003000002000809_000000000000000006_080000000200060300_030506000000000000_000900060007000508_050304000000070000_000100050004000000_090000000001000000,
  0x020008030700000600_000400000608000000_000100020004070000_010607000000000900_050203080009040706_090804060000010000_000000010400090507_000500000903000408_040009000000060300,
  0x030405010002060800_000000040000000100_000201030000000000_010700000204080500_040806070300090001_050000080100070604_070908050400000006_000100090800000705_060500020000010900,
  0x000000000008000000_010002000000000004_000600070000020009_060200010009000000_000500030004010000_030100000600000000_000300090100060408_080406050203090107_000001040806030502,
  0x080700040302050609_050409000601000007_000203070905080004_020006000400090000_000004010803020006_010307000000000005_030100060509070400_070900030004060002_000605020708010903,
  0x020000000901030000_000003060007050800_070500000403020100_040207090000060000_000600040005090207_000309000600000400_000700000006010000_000002010000040003_010000000000000000,
  0x040200000000030005_000500010004090600_000600000703040100_000000000800000400_060004000500000001_000900040002050006_090006000301080007_000005000400000200_000800000000000004,
  0x050000090400000002_000002060001000703_090600000207050004_000108050900070306_030005000600000000_020000000803000400_000000000100030008_010209000305000607_060803000709000500,
  0x060001000003000000_040900000100030005_000503000000000000_000000000001050000_000000000406010907_010006000005000208_000600030709000001_090000000502070003_000307000600000400,
  0x000005060000010802_000407080100000300_080000090000000000_000009020000030400_050000000408000900_000002070000000006_000900050800000200_000000000206070500_000000030000080601,
  0x060004050009000000_090000060000050800_050002040800000001_000206000004000908_080901000600000405_040000010008060203_000503000400080700_000008000705030100_000000080000000000,
  0x000008000200000400_020000000000090500_000709010604000002_010600080000000200_070204000100000809_090803000002000000_080900020001000003_000002000008010600_040000060500000008,
  0x000000000504000206_000800000702000105_000200000001080000_000703000008040000_000000010003000007_000900050400000001_000007040805000000_080002000000060004_000400000000000700,
  0x000004000100000800_060007080000030004_020801000009070000_080000000406000709_070000000800000200_040103000002000500_030406000000000000_000002000704060300_090708020603000001,
  0x070006000903000000_000800070001000005_000001050000000300_000000000407000003_030704000000020000_000009030000070000_000002000508000700_000907000006050100_050100090004000602,
  0x000005000000000001_000000000200000009_000800070100060500_030000000000000408_060000000509030007_000000080000020006_070006000800000000_000000000000000605_050900020300000804,
  0x030005090000040108_000109060000000700_000000030104000500_070001040300080605_000004000006020000_000306070205010000_000000020603070409_060403000000050001_000702000000060800,
  0x050000000004060000_000000090005080300_000400070601090000_090006000702000803_000704000900050602_080203000500040009_000300020000000900_070601050000000008_000809060000030501,
  0x000400010700000900_000805000203000007_010709000008000000_090000080000010000_050100000000070006_080000060000000009_000000000004000003_000903050602000001_070500030001020604,
  0x000100000007050800_050008000109030000_000200000000040000_080002070400090000_070000000500000600_000001000008000000_020400010000000907_000703080004000200_000000000000000300,
  0x070004000803000006_000002050400080000_030800010000070500_050703000900000000_000000000506020000_040006000300000901_000005080700030000_080300000000000000_000900000000060000,
  0x000008000002000600_000006000703090500_000203000000010708_030409010000000200_060700000000000001_010005000000060300_000907040000030006_000601000500020007_000304070800000100,
  0x000008000100000005_030500000007000000_010400030000070000_000701080403050900_000000010002000000_000000000706030100_050000040008020000_080600000000000500_000007000300000400,
  0x050200000001000000_000700020000080900_040000080705000600_030607000000000502_000804050207060000_020000030000090700_080000070500010209_070900040100000006_000002000600030000,
  0x090000000600000407_050007020901000003_000006000700020009_000009000008040302_000002060409000008_000508000302000000_010605000807000000_080700030205000900_020000040000070805,
  0x000700000500000000_000900060008040000_000200000000000300_000401000900060007_000603000000080500_000007000600000000_060100000000020008_000500090400000000_000000000002090000,
  0x000006000000000005_000402000000000300_000509000300040100_000603020005000000_000000000000060009_040800000007000200_000000000000000008_070000050900000000_000000010208000400,
  0x000001000000000800_020000000003050007_050703000008040009_080002000507010300_010009000602000004_030000080000000000_000000000800000501_090300010006000008_070008000305000000,
  0x000009000003050208_050200040000000900_000000000000000103_060908000000030000_010304060005000000_000500000000000000_000000000106090004_090006050000000300_020800030904000005,
  0x000004050802000609_000506000000080700_000902060700040003_000605000000090000_000307020504060000_040008030906050007_000000070000030406_060209000308070000_000403010005020908,
  0x000600030700000902_000305060900040007_000200000400030500_030000000006070200_060002070308000400_050700020000060308_070400000000010803_000003040007020000_020000010003050000,
  0x000005000903060400_070803010604000509_060000000500030107_000100000800050000_080009040100070003_030607090000000000_000400000009080300_050300080001000702_000008000300040601,
  0x040006050008000007_050700000302010400_080001000907030605_060003070201050904_000100000605000300_020000030000000106_090602080503000700_000408000009060500_030000000406000009,
  0x000005000300000004_030000000002080501_000108040500000000_000807000000020609_000300080406000100_050000000000000800_000500020000000900_000709000603010408_000003000000000200,
  0x070100000600000300_000000010300000009_000003090704000001_000000000900000000_010908000405000702_060205000800000400_020807000000000004_090000000007000806_000400080000010900,
  0x000002070006000905_000100030000000200_040000010900000800_000300000000040002_000000080200090500_020005040000000601_000600000700020008_090000000000050007_000004000805060009,
  0x000000080000020601_080000040602000000_020706010009000003_070002000000000300_090403000000010007_000008030407050200_000200000801060500_000800060900000002_000007000005090000,
  0x060003000400000208_000504000007060000_000001000000000300_040000090000000000_000008000000020900_000100030200080407_010600020800000000_000402000900010005_070000000100000000,
  0x040005080109030002_020901070300080504_060308000500000001_000600010008020400_010402060900050000_000807000205000100_080206090407010305_090000050002040807_000504000800090206,
  0x000000000000000001_000804090103000700_000200050000040000_000000000007000200_000001000000000003_020500000008090007_070100000600000500_000008040500000000_050000030009000000,
  0x090600070305080100_000000000100090000_010000090800000000_000000000000000406_040100000000020800_000800000400030001_060000040002010908_000400000903060502_000000000601040307,
  0x010002040600000503_050007080000040100_000000000005070600_070006010900020004_000004060200010005_000201000504000009_000003000002000906_000000000001000007_000700090000000400,
  0x040800050003000000_000900000008000500_000605000904000000_070300000500000000_090500080007000306_000400030000000007_030100000009060000_060209070000000004_000004000006090000,
  0x080002000700060000_040607000009050001_050109040602080700_000000000000000002_020903000000070600_000400020806000509_000000000100020000_090000000203010800_010205000408000006,
  0x000400060008000300_000000000003080007_000008040209060000_000900020005000600_060000030000040005_040007080000030200_050100000004000803_000000000000050000_000004000000010900,
  0x040000060800010000_000006000100000000_000000000004080500_020103000600040705_080005020307000000_000700000001020003_050000000000090008_000000030008050004_090308040502000601,
  0x040900000002000100_000700060000020009_000008090403000000_050800020600000001_000000000308000907_070300000000000802_000604000000000000_000503070004010000_000100030000080500,
  0x000700060000000000_000300080709010006_000000000000000009_030807000600000005_000600090000070301_000009020307000800_040100000003000000_000000000000040000_000000000406000008,
  0x000902030004000106_040508060901000000_000600000500080400_000800000700040002_050407010203000600_090203040000010700_060100000307020804_020300080000000000_000009000000030500,
  0x080900000601020000_020507000004060000_000006070000080000_030004080000050702_050208000006090103_000700020000000806_000805030000010000_000002060008070900_070409000002030600,
  0x000001040009020300_030004000700000000_090607080000000001_000003000500000400_040000000006050800_000800000900070003_000006000300090000_070000000805030000_000008000400060005,
  0x080504090000000600_000009020004000100_000700030806050000_070600080103040200_090000000007000805_000801050200060000_000100070905000006_000907040602000301_000000010308090000,
  0x090500010300020000_060300080007090100_000007090205080300_010000000803050200_000903000600040800_000004000000000000_030000060000010900_000600030000070000_000201050900000000,
  0x000003050000000200_000600090700000400_070104060200000003_000000000900000804_040700030806020105_000300000005070000_000008040000000000_030002000500000001_000000000600040000,
  0x000104000009070006_070602010800000009_090300000700010208_000400080300000507_050000090400030002_000008060500000100_040500030000000001_000000070000000603_000900020004000005,
  0x020000050008000601_000000000001000700_050001000007080000_000209000604070805_070005000300040000_000006080705020003_000504070803010009_000003090002060408_080902040106030507,
  0x000009000002000000_000500080106090700_000800040000000500_090004070000030000_000005000400000000_060007000008000001_040700000200000306_000600000000000007_030001000005000000,
  0x000601000005000403_080400020900000500_000002060100000700_060905040000000301_020308000007060004_070004000009050200_000706090200000005_050800000400090600_010209000300000007,
  0x050000080000040009_000100050904000600_040000000000000500_080001000200000704_000002000400010000_000004010008050002_000200000803000105_030000090107000408_000008000506000003,
  0x040000000507000300_030000090801000607_000107040600050200_000000000000000700_070406000000000000_020009060000000401_000900000206000003_000300000900020000_050702030108060004,
  0x080009000000000000_000002000800000600_040000010005000803_000001000006000305_000400000000000900_070008050300010200_090000000000000402_010003080002060709_060204000007030000,
  0x000300060000000500_040000000008000000_060802050000000009_010000080500090300_030000000002000705_000005040009000206_000003000000000801_000004030005000907_000000070001000003]
theorem mixed_13_ok : mixed_13.all fastOK = true := chunkOK_sound _ (by decide +kernel)

/-- `mixed` (10000_mixed_puzzles.npy), boards 3500..3749 -/
def mixed_14 : List Nat := [
  0x060300000504000001_000000000200080000_000500000609000302_000001000302000000_000200000005030007_000003090000000008_020000010003070805_040007000000020000_030000020000000009,
  0x000003000100000007_060000020000000000_000000030007000104_080500090000000000_000000000506000400_000000000003000006_020008040300050709_090100000800000602_000000000000000001,
  0x020003070500090400_000806000002000300_000500060000010008_080000090004000000_000902000000000001_000000000800020900_040009000006080100_000205080709030000_030600000000000700,
  0x020000000305000706_080900000100050003_030605040709010008_000802000000000905_040500000000000800_090301000208000000_050400090007000002_000700010000080304_000008000000000009,
  0x000704000500010300_060001000003000000_000002000109070800_090003000408060701_000600000001080000_000108000607000500_000006000000050407_000409010700000008_000005060304090000,
  0x070000050200000103_080005000009040006_090302040106050800_030001090500020000_000000000000010000_020000000801030005_050900010003070402_000603000000080501_010207000405060009,
  0x070000000800040000_020400050000070800_000009000004000200_000000000105000009_000000000709010000_000600000200080500_060207000000000005_040308000500000702_000000000300000400,
  0x080000000700040002_030600000402080000_000000000600000300_000307060100090000_000509070204010000_010000090500000400_020000040000070508_090000050300020100_000004020800030900,
  0x060803000000020000_000002000001030004_000000030002050900_000900000007000102_000407090106000003_010000000000000409_000600000000000000_000009060000040005_050000000403090000,
  0x000001070005060008_070306080400000902_040000000902000100_020709030600000004_000603090000080000_000100050200030000_030405010800020000_060907020500000000_010802040706000005,
  0x000400000608000205_050200000000080000_000800050001090604_000600020700000008_000000010000000300_040000030000070000_070002040000010806_000900000500000000_000004080002000907,
  0x000706040000000000_000000010000000003_000009000800000000_010003000008070002_070400000900010306_000502070001000009_000007000000020005_000304000007000100_000001090000000000,
  0x000000000000000000_000706000900000501_080000000500000000_030000080701000000_000000000400010000_090100030000000000_060002000100040700_000001050000080000_000503000007020000,
  0x000104090000000200_000302000008000100_090000070000080000_010006000000000003_000000000701000500_000500060004010900_000800000000000002_000001000000050600_060000040000090000,
  0x010200000000000000_000700000600000000_050000000403000700_000000000700030806_000005080006000001_040600000002090507_000000000001020000_000500000200060903_000000050300000000,
  0x000000000100000400_010400000000000003_070009040003000000_020000030407000600_050900000000040000_000600000500000702_000805000002000900_030700000009000100_090000060004030800,
  0x000102000407000300_040307020000080501_060900000503000204_010405070200030800_000600050308040100_080003000100000600_030204060705010000_090500040802060703_000000030000000405,
  0x000000000006000100_080000050100060204_000009020700000003_000002030000000800_010000000400030600_000700000802000400_000008000001000305_000000060000020900_090503000008000700,
  0x000506000702030004_000700000400020008_000900030006070005_050000000007000200_060000050000040000_070100000004090500_000000000508000400_000200040000000700_040000000003000800,
  0x000000000008030900_050200040903080600_000800000000070400_000500000007000000_000000080000060000_000408000600000309_000704030001090000_060900020004000008_020000000806040700,
  0x000300010000000000_050000080000000301_020008050000000009_000000000201090000_000403000500060802_000000060408000107_000009000003000500_000801090000020700_000200000000080903,
  0x000003080006000702_000108030000000004_000005090004000301_000004000709030800_000207000000000000_000009000000040207_000000040802090000_090002000301000008_080300070000000006,
  0x070000000000000005_000000010000000000_000401050600070900_000207000108030406_000003000500000001_000004060300000000_000700000000010209_030100020005060708_020008000000050004,
  0x010006000008070503_030400000100000900_000000000000060000_000000030900000000_000603020001040009_000002000000000301_020300010000000408_000500000800030000_080000000300000000,
  0x020400050900000307_000103000007020004_000000000000000000_080005090104000000_060900000705000200_040300060002050009_000500000300000800_000000000200070000_070002000000060003,
  0x090100000307000000_080000090001060703_000200080000010009_000005040708000901_000009000005040000_000800000003070200_050003010002080407_000708030000090000_010000070809050000,
  0x000100000600080500_070003000008040006_060508000400030200_000007000000020008_030605000100000704_080000040706050000_000800070000060300_000004000000000005_000706030000010002,
  0x050000000000040002_030002060700000800_010604020508090307_040201080007030006_090300040600020708_060708000000010000_070000090006000000_000009070000000000_020406030005070009,
  0x000000020605040008_000000000000000000_000400080000000002_000105090700000000_000004000006000900_000900000501000807_030000000207010600_070501060004080000_040002000000030000,
  0x070004060000000000_000300000200060004_000000030000000000_060002070005040000_000900000001000600_040000090006030000_000001000003000000_000206000000080000_000000080002070900,
  0x070208090000000000_000005000300000802_030000080102090000_090006040000000500_000107000000000000_000002030000060007_000009020607080001_020000000804050906_060801000003070204,
  0x010805000000000300_060402090500000000_000300060100000000_000903010004070502_050100000007000000_000700050009000603_000000080700090204_090208000001050006_040000020005030001,
  0x020400010306090005_000000070208000000_000000040005010002_000000000103000509_070500000604000000_030000050709000000_000000000002050000_050004030801060000_090000000000000401,
  0x030001000007050009_000009010002000000_000008000605020000_000002000000080000_070000040000000002_080400000701000903_050003000200090100_020804000100030000_000000000008000200,
  0x000900060200070405_000500000004090301_000704000000080000_000000000000060004_090008010002030000_050400030009010002_010800000006000009_070006020005000100_000209070108000600,
  0x000500000109060007_000000000006000509_060007040003000001_010804000700000900_090000020401030000_000200000000010700_000005000000000000_020409000007000100_000600050900070400,
  0x000407010000020600_010308040002000700_000000000508040103_030105080000000000_000000000000000301_060002050001070004_040000000006030200_090700000100000500_080006000700000409,
  0x000000050100000000_030100000000040000_050009080403000102_000001060900000400_090000000000000308_000007000000000001_000003090000080005_080000000001000000_000400000006000003,
  0x080000020300040901_000105000900000002_090000080001000007_020800000000070309_000000000702010800_070004010000050000_040200000109000700_060009050008000103_010000060207000000,
  0x000000000806000400_000700020000010003_020000000000000500_070800000001000000_030900000005000706_060504030907000001_040609070100050308_080005090004060000_010007060008000204,
  0x000000050100070408_000000090000060003_040605000300000201_090200000000000000_050403000700000600_010000000905000704_020500060003080900_060004010009000300_000000020007000000,
  0x000105090000000600_090007000000000000_040008000000000901_050400000000000300_060000020000090400_000003040000000702_000000000806000200_000000000704000503_000500030009080004,
  0x080600090000000504_050100060000000802_000000050000000001_070206000000000008_000305000806000000_090000000003050200_040901000000000000_060008000109000003_030000000600090105,
  0x030008000500000702_000206000700000008_010400030000000600_040800070603000001_000000000005000400_060300000009000800_000509040000080300_000000000900000004_000004000008020000,
  0x020904010300000000_010000080002000003_080305060709040102_000000030504090206_000000020600000004_060400090108000005_030006040800000000_040800050006000700_050001000900060408,
  0x000007060000000809_000000070000030400_080403010900070000_030005090002000104_070000050000000000_010000000803000900_000300020000090600_000700030000020508_050102000609040003,
  0x060302080900000100_000000000601020400_010900000507000600_000800000000010904_000100060005070800_040000000100030506_000000000000060005_000601050709040308_030508040200000000,
  0x000000000000090400_010000000000070208_000902080100060005_060000020005000709_070000010000000003_050000090008000600_020001060003000907_030800070900020500_090005000802030000,
  0x050002000009010008_000603050208070400_090008000403000002_080506040300090100_030007090006080200_000009070000050600_070001000905000806_060804030107020005_000905080604000701,
  0x080400010000050200_000600030200000000_000500080004010700_060000070000030000_000000020000000004_000103000400000800_000001000806000300_020000000000000009_000000040102080000,
  0x040003000001050907_000900000508010000_000000000000000600_000100050000000000_000006000003000000_030009000100070002_010704000000060000_000000010002000700_000000000407080109,
  0x000000000006000002_070002000008060009_090000050700010008_000901060800000000_040000090205030106_000200000301000004_000300000007040000_060004000100000907_010700000000050000,
  0x000009060207000500_030508000900020000_060700050308040001_000803000405000609_050007080609010403_090406070103000200_020304090501060800_000605030000090004_000901040806050300,
  0x020507030000060000_000904060208000007_000001050000000002_000006000003000208_000000010600000300_000000080502000100_010308070906020405_000700000001090603_000609000300000001,
  0x000008020000040901_000000000006020500_000000000908070000_000000000000000000_080400060300000000_000100040000000307_070001090600000005_020004030007000006_030600000200010000,
  0x000702000006000000_090005000700000000_000000000903000700_080000000000000002_040007080000000305_000000000000070000_020309000104080007_000006000800000000_000008030009040006,
  0x050000070001000308_000600000500000004_000004000000050709_000401000700090200_000000040000030800_060000000005000000_040000030007000002_000008050000040007_020900010000080503,
  0x000802030001090005_030005000000070002_000000000000030004_080100000300000507_000500070008000000_000207060105080009_000004080000000200_000008000004010003_000309010000040700,
  0x000700090000000004_080000010000060209_090306000002000507_000900030001000008_000603080709000000_000804020500070000_000000060000030000_000200050004000806_000008070000000001,
  0x000009000005000004_000001030406000700_030000000900010002_000000000600070000_000800000003000600_000100000008000000_050408070000000006_000000060500020000_000003000801000000,
  0x070000000400050600_000004000300000000_000300000005080402_000000030100000700_010000040600000008_080700020000040300_040000050801030000_000600000204000009_000801060003000000,
  0x010800090300000400_000004020600000900_000003000000000005_000200080001070000_000007060000040002_060000070200080000_070008000002000000_000009000800000001_000006000000000008,
  0x000600010400030207_000400080000000900_000005000007000000_010000000004050000_040700000000000003_000503070201060008_000001040002090000_000004050800070000_070900030006040502,
  0x020000000603010504_000000000002000706_000000040005000008_000000030700000000_040102060508000009_090003000000060800_070000000006000000_080600020300090000_030000000800050000,
  0x020003090005000000_090400000700000003_000100040000000000_000000000006010400_040000010500000000_080601000000020009_030500080004090006_000000050200040801_010800070000050000,
  0x000103000004050208_000402010008070900_090800020700000104_080009000006010300_000300070009020806_010000000802040500_020906000300080705_000008000007090401_040000080900030002,
  0x000004000000000000_000003000500000001_000000090002000000_040006000108000900_020009050000000006_050000020000040007_010000060004000005_000402000005060109_060000000009070000,
  0x000208000004050000_000000000800040700_040000000000060200_020003000009000007_050700030001000000_000009070400000005_000000040003070102_010000080000000000_090000050000000004,
  0x000700030000020000_080900070204000501_000400000800030709_010205000706000300_030800000100000000_040007090300000000_000100020005080000_020508000400070006_000304000600010005,
  0x000200090000050000_000500000802000000_000400000000000602_000300060700000000_000100000408070903_000904010300060208_000003050007000006_000002000006080305_010000080903000407,
  0x000700010804050009_080300000700040002_000500020903000807_000900000007020406_070000000000000000_040000050600000900_000608070001000004_020007000408000605_090005000206000701,
  0x000005060901070400_000200000708010000_070106000504080903_000700000000000006_000000070105000800_000008090300040700_010000080200000500_000903000007000000_080000000603090007,
  0x000000030401020706_000207090806000003_060000000000000100_000600070000080305_040309080000070201_070500000000000900_050004060003010002_030002000000050600_000000020000000407,
  0x000000000000070006_000003000000000408_070604050001020003_000000000305090000_090705000600030002_000106080900040000_000001000209060005_000000000100000309_060000030000000200,
  0x000000040000050006_070000000002000900_000503070000000000_000107060005000009_000805020401000007_000400000000000800_050902000000000400_000000000200000000_000001000700000008,
  0x030700000004060108_010800000506000900_000904010003050200_080501060709000000_000006000001000800_070003000005000009_000100000608000004_040000090002000506_000000050000000000,
  0x000000030500000700_010000000900000000_000300000008040000_000104060305000807_000800000100050006_000000000000000100_000009050000010000_000003000806020005_060001090000000008,
  0x000600000002000009_000000040005060708_000000000801000000_000507000000000800_010000000000000000_000809000200000305_000004000009080000_000706050003090200_000100000608000003,
  0x080200030000090400_000005020800000000_010000050904000008_040000060000050001_000601000700030000_020003040000080900_000900070200040003_070002010000060000_030004090008000000,
  0x090000000807000500_050100000009000602_000804000000090700_000300010000000809_000000050008000106_000000000000020000_000700080003000000_000001000504000008_000000000000000007,
  0x000000060109000307_030000000004000000_010000000300040900_070100030600080200_000306000807000500_050400020000030006_000000000700050400_090000000000000803_000003000406000100,
  0x000000030000000700_000301000000000000_000006000005000300_000500070004090100_000400000009080605_010800000306020000_040007000203010000_000105080400030000_030200000501000900,
  0x060200090000000703_090000000300000406_030007060500010900_050900000000000004_010300000009000800_000608000400090201_040503000000000609_080006000000000500_020000030600000000,
  0x000003000000000500_080000000000060001_000109000700000803_000001000900000000_050902060804000007_030004020000000000_000000070500090000_010508030409000000_090300000200000000,
  0x000700000000090000_080900050304010006_040100000702000000_060801020503000907_000403070109060800_090507060408000001_050009080601070002_000200040900000603_070004030005080009,
  0x050700060000020904_040300020000070000_000200050000000008_000600080000010003_000000070500000006_000800040106050709_000500000004000102_060102000000040000_030009010002060800,
  0x000003060004090002_050006000000010807_080209010007030006_000000090008000304_000900000705000000_040800020300050109_090304000201060005_000100050600000003_020005070403080901,
  0x070503000908000604_000604000302070901_020000000007080003_060301000000050200_050802000700000406_000000000506000008_000000000000060705_010000080205040300_000005070009000802,
  0x030200080004000007_040000000900020300_000007010203050804_080000090000000000_000106000800040903_070009040000000502_010805030002060409_060700000100030208_020003060008010005,
  0x000900000104000000_060008030000000004_000104050200030000_090300000708000102_000001000003000000_040600000509000000_030000000000000000_020500040800000603_000400000300070000,
  0x000200060701050300_030607020508000104_010500000000000700_020005000609000400_080709040203000605_040106070805000000_060003080100000500_000000000402000003_000000090006070801,
  0x040702000001000603_030601040705080200_000900060003000000_060803010500020704_090100020607000805_000007000000000901_070008050106000302_020000000008000406_010006000000000008,
  0x070900020000000000_040200080600030000_000003070001040200_000700000002060508_090506000000000301_020100000305000900_010002050008090003_050307000106080400_060009000204050107,
  0x060002040005000700_040000000900000008_000700000002000000_000604000008090105_090200000000060000_000008090003020000_000500010700000904_010406080500000000_000800000004010000,
  0x080200040503000000_070309000000000405_000600000800000102_000807030000040609_000006090700000000_030902060400050007_000003010004000008_000008050000060900_090704080000010003,
  0x050600000100020809_010009000000000000_000304000200000500_000700000000090005_000008020000000001_060400000900000200_000000000709040608_000000000800000007_000003010400000900,
  0x000008000004020300_000400050000060000_000709030001040508_060301080500070004_090007040000030805_040805020703000000_080502000400000003_070900000005080400_030004000800000907,
  0x000906000102040003_000000030800000000_030008000005070000_000105060000000700_000000000000080006_000003040000000509_080009000000050000_010502080409060007_000007000001000908,
  0x000000000204080305_000000050800000000_050000010600070000_060000000000000000_000500030006000809_000304000000010006_070000000001000000_000000040008060000_080600000000050100,
  0x060004050200000000_000503000000080900_080100060000000000_090602040800050003_040000000000010608_000800000000040009_000006000004000805_000000000600000000_000400030000060002,
  0x020003060400000907_090006000000040100_000507000100000206_010000090700000000_000005000000010709_000609010005020300_060901020300000800_050000000900030401_030704080501090600,
  0x000908010000000700_020005000904080301_010300000207000009_060500000000000803_000200050003000607_030804070601000005_050403090000000008_000000000500030906_000600030100000504,
  0x000005000803000900_080003060900000105_000009070005000003_000002000300060000_000100000000000000_000607080002000000_000004000000050609_000900000200000000_070301050609020008,
  0x020608000000000007_000005000007000002_090700000000010003_000203090000040008_070000000800000009_050809070600000301_080500060900000100_000302000000080906_000000040308000205,
  0x000000000301040000_000809000000050100_000100000000000702_050000000000000000_000302000009000000_000406000500000000_000008030002000000_010003080400000005_060004010700000000,
  0x040301000000000200_000000000008010400_080007000001000900_060409010800030000_010005060400000002_000800090700040001_050108000904020000_000600000500000100_070000080100000009,
  0x000809030506000701_000007040000000000_000206000100080300_080700060403090005_060500080901000402_090400000700030006_070608010004000900_020904050308010600_000105000609040008,
  0x020008000000000700_050100000900000000_000009000002000000_090000050000020300_030004060709000000_080000020000000600_000800000200010000_000000010507060000_010305000004070900,
  0x000800030000000104_050001020800000000_030900060107050000_040700080906000005_000506000400090802_080009050001000607_000003040700000006_060200090000070000_000408000605000900,
  0x030001080000000400_070200000000080000_040000000100000600_010002000405000003_000600000300070000_000004000007000902_000400060500000300_000003000000010000_090100000000000000,
  0x000200000301080506_000300000206040907_080600000900000102_000506000400010000_020800000000060009_000109060803070000_030002000008050601_010708020605090304_060405000009020708,
  0x000107000006000003_000006000004000000_080403000000060002_000004080000000600_060000000203000008_000800070000000300_040008000709000006_030900060002080704_070000000008010509,
  0x000002000106000407_000001000004090500_000703000509010008_000000000005000200_070200040001060900_000400060200050001_060000000400020000_020007010008040309_090004000002000100,
  0x000705030600000008_000900000400020305_000301020005090000_000800040000000102_000000050000000009_070009010300000000_000000000504060900_000400000100080000_060000000003000000,
  0x000901000000000400_000200000105090000_000000000009000506_000600000500000200_070000000802040600_000004000900050703_060000000700020000_030008090004060105_000002000008000000,
  0x000100020306070004_070203080904060000_090000000001000003_030006000000080009_020700000009000400_000008000005010000_060400000500000001_050300040000090008_000800000200000007,
  0x090000040308010002_000702000000000000_000800000100050906_080006000400000009_020901000006080000_030407090800000105_000200010704090500_000109080000000004_070304000905000001,
  0x000000080007000600_000007000200000008_000200060109000000_080004000000060000_000701000500000300_000000000608000004_030000010005000900_070400090806010003_000000000004050807,
  0x010700060000000008_000000010000000700_000006080500000900_000008000100000309_000100000203080004_000000000708010200_000002000000000000_070500000800030000_040003000600090000,
  0x090108000000050206_030000010600070908_000000000005000004_040200000008090003_080607000300040000_000900000004000702_010305080000060000_000000030900020000_020009000406010000,
  0x000000080002000400_000000050600000000_000200070304050000_000501000209000700_070904030000000601_020800000000000003_000000000000000900_000302000008000104_000705000406080000,
  0x000000040600010500_000004070100000902_080001050902000000_000009000005000104_000503010809070006_000200030000000000_020000000000000300_030105000000000600_090006000000000700,
  0x000400000805000203_000000000000090100_030001000702000000_000700040000030001_090304000600080002_000102030900050400_000600070000020000_040000020500000307_000007000103040600,
  0x000700060000000508_000200000000090103_000504000000060700_000000000200050001_000000080900000604_000000000700000000_000007050000020000_060000000401030900_020000000000000800,
  0x010000000000070503_000705010900020600_030608000700000001_000200060000000104_080006000000000200_050003040000000000_000304020500010700_000001070604000300_060000000109000402,
  0x010003080406000009_000500010000000300_000700000000040001_070000000000010603_000600000002000007_000008060000050402_020000070105030900_090000000600000000_000000090003000004,
  0x000000000409000000_070000000506000802_030605000201000009_040100050300000007_000003000602000000_020500000004030006_000000020100000300_050409060000000001_010002000000000508,
  0x070000040500080209_000009070800010306_060002000009070000_090008060001000007_010604000700090800_000705020008060104_050000000104020700_000300080005040900_080401000207000003,
  0x080002000000070406_000006080000000009_050409000702010000_000307000600080900_000801000000000000_020900040800000000_000600000900020004_010008000400000000_090504010007000800,
  0x000008000002010000_000000030501070802_000200000600000409_040009010005060008_000000070400000001_080002000000000000_000903000104080000_010000000706040203_020000050000090000,
  0x000800000300000006_090401000005070800_060005070008090000_030004050700010608_080706000000020900_050100000900030400_040609020507080300_010200000604000700_000503010809060004,
  0x060000000100000705_000100080007000000_000300020500040000_020000030000000000_030501000208000400_090406000000000200_000702000000000809_000000000300070000_000000070809000000,
  0x000000000009020008_000001080006090304_000800000100070000_040906050301080207_070300000802040001_020008040907050603_090704010003060005_000603090405010702_000002000008030409,
  0x020000000000000003_030005000004000708_000801000309000000_050302080000000000_070008000000000201_000109030702000006_010203000800040000_000500000603010800_000706000400020009,
  0x090207080100030400_030104060902000507_000500030407010209_010400000600000002_020608000009050301_000900000301040008_060002000000000904_000001000004060803_000309000000020105,
  0x030107040000060500_020000000305000004_000005000000000900_070803090100000000_000509000706020001_060201000000000007_010300080400070605_090604070001000000_000008020000040100,
  0x070008000301050000_000006000809030000_000001000406000000_000000030000070009_030007090600010000_000000000700080002_060903000100000200_000000000503000000_000100040000000000,
  0x000000060800000903_050000000000000000_000806010009050000_000000000003090100_010000020000000500_000300050701020804_030000000507010408_000000000200000000_090408030000070200,
  0x000100030500080000_050904020000000000_000806010700050209_080700060901000400_060300040002070905_040200070305000001_010000000200000703_000000000407020100_070002000100000506,
  0x050807000209000304_000000060000000205_060209040500000000_000500000000000000_000608000400000002_020000070005000003_010005020706000908_000700000100040500_080306050000020100,
  0x070103020000000000_000000070608040003_000800000000020507_080000060004090000_000207030809000604_060900050007000802_020000000300060408_000000000706050201_010008040002070009,
  0x070000000904000000_010900020607040500_000400000001000700_050800070003060002_090000060008010000_000300090005080400_040100000700000209_000600000309000004_030709040800000600,
  0x000001040209060000_000008070000030200_060200050308000900_010805090602040700_000006010703020805_000702080504090001_000007000900000300_000500030001000400_000600020407000100,
  0x040802070500060900_000701000209080000_000009000000020000_020004000000050008_000008000000000007_030000040005010009_000003050600000002_010000030908000000_080000000007000006,
  0x000000050200000001_060008000009000000_070000010806000009_000206080500090000_010705000900000300_040009000000050106_020003070400010900_000007030102000000_080000000600000203,
  0x000508000000000002_090000030508070600_030607040000080900_020406070003000001_070905080201040000_000003050604000207_000700090300010008_000304020807060509_050000000006000700,
  0x000000000006000000_010300000005060008_070000010003050200_000700090008010002_020901000307000400_000608000002030709_000005070809040301_000400020001090000_000000000004020507,
  0x080204090100000007_050901000300000400_000007000500000102_060000000904020005_000000000205070800_000002000800000009_000005000600000001_000003000402080000_000000000700000900,
  0x030007000002090000_000109000007000000_020000000309000000_000000000100000300_000903000600000800_080004070500000900_070000040906080500_060008000200070000_000000080000060402,
  0x000000080000000000_040309060201000500_020006090507000004_000100040700020006_090005000600000000_060004010008000005_030000050100000800_050001000800040209_000900020006050100,
  0x000900030000000001_000300000109000000_010205000700060000_000503000000000700_000709000403010000_020108000006000500_000402000500080600_090807060300000104_050000040800030902,
  0x000000000100070000_030001060000040902_090000000204010800_000000030701000204_000006000009000100_000000000000090305_000002000900030400_000903000507000001_000000040302000000,
  0x030002000706000900_060509040301080702_070100000900040000_040603000800020501_010000000000070800_000000010605000009_000306000104090008_090700060008000000_080000000500060007,
  0x000000050001070309_050301060009020004_000709000002000000_040600000005090007_070103090000000000_020905000608000100_000400000500010700_010506000907030400_030800040000050002,
  0x000507010009080000_040301000000070005_020008000507000003_050800000700010009_000100090800000002_000000060100030508_010002000008000006_000000030600000007_080600070000050000,
  0x000008000000000300_000100070003020000_000009000806000005_090000000000000003_000301080405000600_060700030900000000_000002060000000700_000000090100000500_000900050700040000,
  0x080000070100000300_000001080309000600_000903000600000000_050000000000000001_000802000003060000_060400000000000803_000004000000000000_090608010402030005_070005000000020000,
  0x060009010500070800_000000000407000009_010400020900030600_000000080005090001_000500030100060700_040601090000080503_050004000000020000_000100050200000008_030900040006000000,
  0x000000000009080004_000800000004070301_000003050000000902_000206000003010007_030000000700000005_010000000000030009_000601000005090700_000005060108040003_000000000007050000,
  0x050001060004000900_060004020905000307_000200000007000506_000007050400030002_000600070001090405_000500030609070801_000006000703000009_010300000002060700_070005000000080200,
  0x030000060002000700_090400000800020006_020000090000050000_080100000003040005_070300000200000000_000900040001000000_060000000500080000_000508000300010000_000009080006000003,
  0x000002000000000000_000000060000000508_000500030709010000_000005000000000100_000203050000000900_010400000000020605_070000000000000006_000100040006000709_050009000000000800,
  0x080000000409070100_000304080006020009_000009000500040000_060900000003000000_000001090200000600_000000060800090000_000007040302000005_000500000008000000_030800000000000900,
  0x020000080700000009_000004000509000000_070005020000060800_080007000600000000_030000070000000106_040009050201070308_010000090000080205_050000000800000000_000008000100000000,
  0x000107000000060300_000203090000080100_000004010000020700_000802000000010900_000609000002000500_030000050600040000_020900000500030400_000000020000050800_010300070804000600,
  0x000000010000000000_000700000800030000_080000090006070000_000009080000050003_000000030605000704_000006070409000108_000908040700000500_050002060000000800_000607000000000300,
  0x070500000600000009_090000050001000004_060304070000000800_080003000000000107_000900000000040500_020700010000000000_030000060200070000_000807090100000300_040602000700010900,
  0x070000000003000208_000000070800000400_010800000206000007_040008090000000600_060000000008000500_000109060000000004_020005080009040103_030900000100000805_080601030004020700,
  0x000105070003000002_070906000004050003_000003000000010709_090307080000000600_060500040007030900_000000000009020507_050709020306080104_030600090401000005_040200050000000006,
  0x000000070000080100_000509080000000700_070003000001020900_000005000800090607_000000000000050002_000006000000010300_080000000007040200_050000000000000809_020004090308000500,
  0x000000000005000700_060800000900040501_000007000300000200_010000000402000006_000400000008000300_000000000109050007_040500000800070100_000700050000080000_000608000004020900,
  0x000900060507000000_000800000900000503_050406020000090700_060005080000000100_020004000706000000_000300050200000007_010000040002000000_000600000800000200_000000000000050806,
  0x000402000107000508_060007040000030000_000908060002000100_020700050008010006_010000020000000005_000800030600000900_090000070200000004_000000080000000600_000004000000090703,
  0x000900080002000300_000405000000020000_030008000005090604_080300000007000000_050702000306080009_090000020500070400_000600090700000500_000000060000000702_040000050001030006,
  0x080205000907000600_060004000200080000_000000000000000500_000001000000000700_090700000005040200_020400000600050008_000009000100000002_000000030002000409_040602090000000000,
  0x000000000005080204_000005060002000000_040200010800060000_030800050700000600_000000020000010800_060501000000000300_050003090000070000_070006000008000002_000000040000030900,
  0x000002000800000301_000007060300050204_050103090400080706_060500020000000000_010300050000070802_020004000103000500_000006000000020900_070005040200030008_000001030700000005,
  0x000400000000000800_060008000000010000_010702040008000900_000105000204060000_000007030906000000_000004070000020008_080006010000030205_000503000802090104_000000090005080600,
  0x000002060000000005_000000000005090002_000000090402080706_000006010009000800_050009040008060001_070000000200000900_000307000000000009_090008020600000503_040000000000000200,
  0x060001070309000500_050802040106090307_070903050008010006_020700000800000009_010500090604070003_090304020001000805_030000080400050601_000000060902030704_040007010500020908,
  0x000000000700000006_000008030000000009_000604000205070003_030000080102040005_080501070000090302_040207050309000000_000400060800000001_000103000000080007_060800010500000900,
  0x010008040000000706_060500000100000200_000204060500000008_020000000005080607_000600070908000000_080000010000030009_000000000006070000_000800000704000000_070002000000060504,
  0x060000000001090400_080000000003060700_070304060009000000_000005000000000000_030006000004000502_000908000007030601_000803000700010200_000000000000050300_000000090305040007,
  0x000002000005030800_080007000003000900_090003000000000004_000005000000060000_000008000100000000_010200000000000300_020800050004070009_000604000007000203_000300000006000500,
  0x060000000003000500_020800000000000301_000305020800060409_000500070000030600_030208000600000000_000000010300050204_070403000500020800_050900000700000000_000000000406090700,
  0x030000000501070000_000000090400000000_000500020000000300_080000030200050100_000302000005040008_000000000608000000_000004050000030200_020803060904000000_050000000000080000,
  0x090700000800060000_060000000205000908_080300000600020000_000506000009000800_000903000506010200_020008030704000009_000200000000090006_000009000000070405_030000000000000000,
  0x000006010000080500_000009000000030004_070000000003000000_000903000700010800_010800020300000009_020400000000000300_000000000008000701_050700000000000000_030000060007050208,
  0x010000000600030000_000005000000060700_070000030100000000_040006000300000500_000001000000000300_000509000000000000_020000000000000804_000000000009000102_050000010008000603,
  0x050204000000000708_000007000500010300_090100060807020400_000000000706000100_000602090005040000_030700080104090602_040901000008030006_070000050009080200_020508010600070900,
  0x030507060400000208_000008030000000409_000200050800000003_000000040600030500_000405000900000700_000603000205090804_000000020500000900_000700090000040300_050009000300020100,
  0x000900000007000801_080300000000070000_020000090108000300_030400070000020000_070100000000080403_000608020304000000_090006010003000008_040803060000000900_000700080009030002,
  0x000703000000080104_000806020007050009_000000030800000706_090300080704060001_060107000203000900_040200010900000000_000602000000010400_000001060300090005_030009040008000000,
  0x000000000402050900_000400000105060702_000502000006000000_070600020003000405_090200070500000600_040305060900070008_000006050200040800_000907000300020106_020804010000030507,
  0x000005000700000000_020400000000060503_090803000000070100_030000060000000405_000900000007000000_000206000409000307_070301000804000000_040009070005000000_000000090003040700,
  0x000000080000090205_000000030000080006_050800060002000403_000907000600000004_030005070408010000_000208000301060000_080004010706020009_090700040003050000_000000000000040008,
  0x000800060300000900_060900000000000000_040100000208070306_030006000000000200_070508000003040009_090001000406030007_000700040000000800_000004000800090005_080009000500000402,
  0x060005070300000000_000009000000000300_000000050408090700_090000000000000103_000000030600000904_010300000000060000_000906040100070002_000007000903010005_080000000000000009,
  0x090105060008000200_030204000100080700_070806040300000900_000401000900070803_020008000001000000_000903000007000402_010500090000000000_000009070605020100_000007000003040000,
  0x040000090300000706_000008000701000502_000000000000030109_070000050106090803_010800030009070400_050009000804000200_000004000003000000_090700000005000000_000603000007000000,
  0x040800050007000000_050000000000000400_090002000001080000_000004080006000300_080201090300000005_060309070002010804_020000000600000900_000000000903070000_000006000700000200,
  0x040000000900030700_000900000000020005_070300000600090004_000400000200000309_000000030100060200_000600000009000400_090000000007000506_020004000006000103_000003050000000000,
  0x000000000100000700_060509080000000000_040700090502030000_010000000003000000_000007000900040302_030402050000080109_000005040000000006_070000030800000204_020800000600000903,
  0x000904070300080100_070000000500000003_000000000100050400_000009080004030205_000705000201040000_020408030000010000_060500090000000000_040000010603000009_000200050000060800,
  0x000000070004000600_080704000006010003_000000050308070900_000208000600030100_040107020003000009_030906000807000000_000409000001050300_010000030000090706_000503060900080400,
  0x000007000400060200_060000000003080507_000008060007000009_000802000000010400_000603040705020908_090005000201000006_020501070006000800_080306010900050002_000700000802030601,
  0x020500000000000000_000100090006000003_000400000700010200_040000000900000005_090208000000030000_000000000608020100_010000000400070000_000902000007040800_070304000000000001,
  0x000005000000000006_020000000609030800_000000050301000700_090102060500070008_030000010000090002_000406000000000000_010000000706000000_000000020905000300_000008000104000000,
  0x000002000005090001_000000040600020705_000004010200000803_020003000006000000_040000090000030106_000609000800050004_090500000000000308_000000000900010502_080001070000000600,
  0x000000060000000200_000308000000060700_020006000003040001_000805000000010002_000000000200000800_000000010708000604_000600000801000900_000107090000000008_000000020300000006,
  0x060903070000000804_080205000104090000_070104030809020000_040008090603050201_050609020400000007_020000000705000400_030806050907040102_010500040306000000_000007000008030605,
  0x000600000701050900_000007000900060000_020000060000000300_000403080000010000_000009070000030800_000000000503000000_090000010004000700_000800000207040500_000702000000080009,
  0x020504070000060000_070903000605000008_000001030400050000_000105000000000600_060000050000000100_000000060100080500_000309010502000800_000008040000030205_000000080007040001,
  0x030000000000000501_010006000205000008_000005000009070000_060008020003040009_090000000800000702_070201000600050803_050009000000000004_000100000000080605_000603000008000900,
  0x090000060000030002_000000070100050400_050600000000070000_000000080000000204_080702010900000503_040001000500090008_010405000002000300_070003040800000005_020000050003040900,
  0x010307090000000005_000900010000000004_040006000005020000_000000040103000200_000009000000000007_000604070900050003_000400000000000000_090200060301040700_000001080400030500,
  0x000000010007000805_000000000000000906_030900000000070102_080300040005090200_010000030006000004_000000000000080603_000002080500060000_050007000200000000_000000000001020500,
  0x040700000900000600_000100000000000409_000002000106050007_030000050700010000_000409010603000002_000000000008000300_000600070800090200_000004000000060000_020901000000000003,
  0x000200000000000000_000007010009030002_000109080302070000_090000000005010000_060000000100020408_080000060000000000_020306050000000001_000804000601000500_010000000000000000,
  0x000009020005000000_000700040000010006_000104000000000900_000506080000090000_070900000400080503_010800090000000600_000001000004060000_000600000209000001_050008000006000009,
  0x030908060701020405_070006000002010000_020500000809060703_080000030905000102_000709080204050306_050002070106080000_040103000008090607_000005090007000200_090000000600000008,
  0x000306000800090105_090800000005040002_000000010309000608_080005000103000004_000100070406080000_000600050200010003_010200000900050006_050900080602030001_060000030501020007,
  0x090000000006000000_000704000005020800_000305070000000400_000000050000030000_000000080702000009_080009000004070201_000007060401000000_000000000500000704_000000020000060905,
  0x000805090000060001_000900000601000800_000004070500090200_000000030907050100_000000000000000000_000000060000020900_090000080000030002_010500000009000004_000400000000000009,
  0x050103000900000007_000600000100000009_080900020004000600_060005000201090008_090002000007000000_030700090800000504_010309000002000000_070000010000000002_000208050700060103,
  0x000600000100000007_000004060003000509_070309000504010006_000007000300000000_000006000807090103_090503020000070804_030000010005000000_000708000900000400_060000000000030905,
  0x010209040800030700_000000000203060000_040600000705080200_020000060100000003_080000000002040009_000901050008070602_090100080000000306_060702000000000508_000300000001000007,
  0x020109000704000000_050008000206000709_000006000300080102_060400050100020000_000500040002090000_090200030000000604_000005000000070000_000602070008000900_070900000003000208,
  0x000000060007000005_000002000000000000_000000020300000009_000000050000000708_060507000002000904_000801070003050602_000403000008000000_010609000500000200_000005010200090403,
  0x080000000100070900_050900060204010000_040000090708000000_000004000000060300_030809070400000000_010206050000040000_090008040600000500_000105020003000007_020003080507090100,
  0x020609040000000100_000000020000040000_040005090301000000_030500000000000800_000200080000010005_000001000006020900_070000030008000006_060003050000000000_050000000000000002,
  0x060004000000050309_020907000500010604_000005040609080200_000009010008030706_000006000004000002_080200090000040005_090000000000060500_000400000801000000_000608070900000401,
  0x000700000104080009_010008000000040300_000004000802000100_000000020301000000_020803060705010000_050000040908030002_080002000403000600_000406000507000000_000000000200050000,
  0x000000000006020001_000904010002030500_000201050009000004_050608090000010007_070103060500000000_090002070003050600_000006030407000200_000309080001000000_040000000900000100,
  0x060400050007020000_090008000002050000_000300090400000007_040107030509060200_080002000000000700_000000000000000001_000000010000000800_010803070000000900_070209000000010003,
  0x000000050000020806_000000080000000503_060500020000000000_000003060102000000_000607000800000000_000200000900080000_000000000200000005_080100000000000000_000704000600090000,
  0x000001000000000000_060005040001000000_000307000600000400_000009080500060304_000703010400000009_000800020903070000_000100000200040006_000000060100020000_070600090300000000,
  0x000400060000090000_050000000000030200_000000000008070005_090000000600000000_040006000002050000_080100040000000000_000800000000000900_000900070800010500_000005000004060007,
  0x090800050000000300_000003080200000405_010200000703080000_000900000000040000_000001090002000000_080000000104030009_000009030000060001_040107020900050003_060008000500090204,
  0x050000000600000001_000201000300090600_090700020000000004_000503000400000000_000600010702050803_020000050000040100_000000060000030000_000008040000000502_060000000009000000,
  0x000807000002000106_000001070800090300_020603010900070500_050000000600000700_000108000500000209_000302000107000400_000006000001050007_000005000009000600_030400000000000801,
  0x060100020305080007_000308090601000000_000902000004000003_020801030500000000_040706010200050309_030509070406020801_000403060007010002_010200050803090406_090605040100030708,
  0x000100000007080000_050800060203000000_090300000000040600_000400000006000500_000006010005020004_030000000000070000_000000000002000000_040000000100060708_000709000004030000,
  0x000908050302000006_000002040708000000_000000000000070802_000703010200000004_000000070000060009_080400030506000000_000000000603000408_090000000100050000_000800000400000200,
  0x000400050000020003_060007000803010000_000302010904070000_030805070209040601_090200030400000000_000604000100000209_000003090008000400_000006000701090302_040700060302000108,
  0x050700010009020000_080002000504000009_000000000008010500_000300090000050600_020901000000030400_060504000203000001_090005000107080200_030000000000070100_000007050806000900,
  0x070000060001040800_000504080902000001_000000000004000609_030607000000000200_020900000600000500_000800090200060103_000700050409000008_000008070000000005_050400000000070006,
  0x010000000400000008_000000020500000306_040600070908050001_080000000000090005_000006000204030007_000000000800010602_020000000000000709_030008050002000100_060007000000000500,
  0x000802000900050004_000000000600000000_040903050801060200_090007020003010000_020300000100000000_000400060509000000_030700010005040608_080104090006020003_000000080300000901,
  0x090400070603000000_000000000800000000_030002000500040000_040309000001060000_060000030000000000_020100050900000300_000003000005090400_000000020008000006_000600090300020100]
theorem mixed_14_ok : mixed_14.all fastOK = true := chunkOK_sound _ (by decide +kernel)

/-- `mixed` (10000_mixed_puzzles.npy), boards 3750..3999 -/
def mixed_15 : List Nat := [
  0x000702050800000004_080006020009000701_090003070000080200_070000000008000109_000801000400070003_000609010003020800_000900000500000408_000000000001000300_030100080600000500,
  0x010304000900070805_090708040503020006_000002000000090300_030000090607000208_070009050400030601_040206030801050709_080401070200060900_000607080000010402_020903060104000000,
  0x050003000200070801_040000010009000205_020600000000000009_000004000000020007_010000000000000506_060300020000000000_000008070003000000_070400000000010000_030006090400000002,
  0x000601000804000000_030400000000000800_050900000003020000_000309000602000000_000200090508000003_000000000000090602_000703000400010000_080006020007000000_000500000000080700,
  0x000000000301000000_000000060500000309_000000040000000600_020000030904070000_000008000002000005_000000000000030200_000200000000060403_000004020003090000_070100000006050002,
  0x020708050306000900_000905000401020007_040106090700080500_000007040000010302_000204030600000000_000800010207000006_070009000000060800_050600070009000000_000401000503000009,
  0x060000070500000000_050009060801000007_000700000003080600_030600000008010002_020005010006000809_000000000000060004_070000050600000108_000500000100000400_000100080407050003,
  0x000000000000000000_000300070400010600_000005010600000000_000007000908000500_000000040000000007_000901000000000004_010003060800090205_050008000100000700_000200000000080006,
  0x000802000500000003_060307000908000400_040905070301000206_030000040802060100_000601090703040500_000000000000030000_090406080007000305_000703050406000800_050100030200070604,
  0x020000000705010000_050009000003070200_070403000200090805_000708000100020009_000000080000000500_000900020000040000_030501000002000604_080600010500000902_090200000000000000,
  0x000000000006000003_000700010500060209_020100000003050804_070500000800000000_000604000000080305_010800060000000907_060000040007000008_040001020000000506_080000050000030002,
  0x050008000004070000_000402070005090006_000607080000050400_010700000006080502_000000030000000007_080004020700000309_040005000600000708_000800050000000000_000000040800020600,
  0x070600000508000401_040001000207090500_000908010403020700_000103000004000000_000000000009050002_000500020001040000_000807000300010005_010000000906000004_000009000100000000,
  0x070609010000080004_000008000000000001_010300000904000600_000105000600020408_000006040000000305_080400000300000000_000000000006000009_090003050000000000_000000070200010000,
  0x000000000800030400_070304000100000000_000806090003000000_010400000000000000_000609000501000700_000208000000000000_000000000009000508_000000080007010000_080002000004070903,
  0x040008000600000500_020709050000000000_050000000300090002_000003000000000107_000007010005040000_090401060003050008_000800090006010000_000902000000000003_070005000000000000,
  0x000500000000000009_080406020000030005_000003000000020006_030600000102090007_010802090005060304_070905000604000200_000000000208000601_040000070506000900_000708010009050400,
  0x000400000000000506_090000000006020804_000700000000000103_000800000500000700_000006000103040205_000504000200000300_000000020407000001_000000010000080902_050000090000000400,
  0x020001000900040000_000700000800030000_000000000000090708_000200000700000605_060007080000020000_010500000004070900_070100050400000300_000600030000010800_000002060109000000,
  0x000000070401000800_080700000003000604_000903020000000107_000009000000080006_000002000109070503_000300060002040901_000206000007090008_000500000000010000_070008000000060005,
  0x020805000900000600_070103020000090000_000900000100000307_050007000800040903_080009000200050001_010304090005000000_090000000002000100_030000000009000002_000000010300070800,
  0x000000000300090405_000000000400000002_080409000000000100_000700000000000001_090000020000050000_000002000604030800_030007000000000900_000000000705010004_000000000800000000,
  0x000004000000060700_010003090000050000_050709080006000300_000500040001000900_000100000309000006_000308000600000004_030005060008000000_080906000005040203_000000000900000600,
  0x020609000000000504_000007000000020300_050403020008000009_040201060800030005_030000000507000002_000005000102000008_000500000403060000_060000000005090201_000900010006050400,
  0x000500030007000000_000209080506040100_060704000100000500_000600050000000804_000000000001050006_000005000008030902_000802010000060000_000407000803000201_000000020005000408,
  0x040009000000070500_000001000500000906_000007000600000102_000004030900000200_000003000000000609_000800000000050000_000008000000000000_030000020008090000_000900000000000003,
  0x050301060008040007_000607000100000000_000000000703000500_070500080200000000_000800000000010700_000904000300000800_020700010000050000_080109030006070402_000005020000030100,
  0x000000000000060004_000009050800030702_000400060201090000_000000020005000007_000300080109020600_050208040007000903_000000030500000800_000700010408000200_080500070902000301,
  0x000200040000000609_000006000208000003_000003000001000200_000008020003050000_070609080000020304_030500060009000000_000000000800000100_060007010502090008_000000000000060005,
  0x000700010000000400_000000050300080900_030008040900000001_080000000401030500_000503070800040002_000001030502070800_090405020700000000_000006090005020004_010000080000000700,
  0x000009080307060001_020003000006000000_010608000509070300_070106050000000409_050002000004080006_000004000201050700_080400030605000902_060001090000000000_000905000000000608,
  0x090000070008040605_060807000002000003_000003060000000207_000000080003010504_050408000000000000_000001000409020700_080005090006030000_020304000805070006_000000030704050802,
  0x000004030000070001_000700000109030000_030100050704090000_070905000800000103_040803010000060009_020600000300050400_080207000001040300_000306070008000902_010009020500000607,
  0x000700050204090106_040000060001030700_000006000000000400_060800010000000003_070005000000010800_000004030800070000_000000080509040001_000001040006000502_000400020103060000,
  0x000004000700000900_000700080000030001_000208000100070000_090400050800020300_000503000000090106_000000010009000000_040802070900060503_000006030500000209_000905000604010708,
  0x000000000501000200_000000000308070000_000306000700050000_000001000205090000_000003040000000002_000200000906030708_040000070600000000_000500000100040900_000602000400000000,
  0x090005000706000401_000000050001000000_020000000800050006_000200040905060100_000406080103070900_010903000602000005_000007030200010000_000600000408020507_080100000000000300,
  0x000005020107000009_000000090603000000_090600050000000102_050000000000000000_000400000509020000_020700010004000008_000000000001090300_000000000000000000_000907080000000500,
  0x080700010003000406_000001000400000700_000005000000010209_000000000904000307_090000000000000002_040302000607000000_000008040100000000_000204000809070100_010903070506000000,
  0x010004000307090006_000705000602030401_080003040100000000_000106000000040703_040300070000010008_070809000401000602_000407010005060000_000000020903070000_000901000004080200,
  0x040007050203000000_000000090000070000_080000070000020503_030901080700000600_070402000500030000_050000020300000000_090503000102060708_000208060900040305_000004030805090201,
  0x080906010000000000_040000000002050008_000500000308000900_020300000100060000_000009000007020104_000005020609070800_000000000003080000_050700000200090300_030000000006000005,
  0x070008030000000000_050406010208000000_000901070006000000_010500060300040002_080000000000000301_000300020801000700_000000000107030200_000709080603050004_000000000000000600,
  0x000305000008010000_020000000003000005_000400000009000308_050000000001040600_040000090007000201_030102000604070000_000000000000000000_090600000800030400_000003070002000100,
  0x080009070000000000_000006000003000407_070103000400000009_090000060000000004_000705040200090608_010600080709000305_060002030500040001_040001020008050000_000907000000030802,
  0x000000000700020003_020000090003000800_000005000000000706_010600000400000009_000003000009050400_050009000102030600_060000040800000000_070001000300040008_000004000000000000,
  0x070000000206000004_000604000800000700_010005000000000300_030400000002000600_000009000005000000_000000090408030102_000000000000000900_000000000501000008_000002000609000400,
  0x000003000501080000_000804000600000002_000500000400070003_080000010002000509_000106000800020000_000000060000040001_010908000204000000_070305080000010000_040000000000000000,
  0x030001000005060004_000500030600000807_000608000400050001_000703000100000002_000802040906070000_010000000000000900_000007090004000008_000000060800020709_000200000500030406,
  0x000002010700000800_090700000408000001_000001030002070600_000005000004000000_020007050001090400_080900000200000305_070009080503000000_000006020107000000_000300040009000200,
  0x000802000000050001_060305090801040000_090401020000060308_030000000900000100_040106050302000800_020700000104000605_000000060705000003_050600000000000407_010207030009080506,
  0x040600070009000000_000200000501080003_000300060000000400_000900000000060000_030000000700040000_000800000600070500_060003000000000000_080009000207000000_000000010906000000,
  0x080500000003000700_000000000000050002_070900010400000006_000408070002000509_090603040001000000_020000080000010000_060000000800030000_000000000006090000_050200000104000000,
  0x050300000008070000_090000000000000802_000000090002000000_010605000004000708_000907000000000000_020400070800060005_000009000500080200_000008000007010000_060000080301000007,
  0x060002040309000000_030005060700090002_000900020100000600_040000000900000806_000003000000000907_090206000500010000_080000070201000300_000000000004000000_020000050800000000,
  0x040300000509060100_010005070000080403_000000000001000000_060000000300050009_000009000705040806_000804000900000000_000501090603000700_000400000007030900_000000000004010000,
  0x000009000000060703_000102000806040000_000600000400000000_000008000005000304_010004000000020600_090703000602050000_050401020709000006_080306000004000000_000907000000010405,
  0x000005080200060709_010207000000030000_000008000000000201_060000070109000000_050000030002000006_020900000000070000_030409000508000600_000500010006090004_000106040903020008,
  0x030008000500020600_000700000002000000_060500010300080400_000000000008070204_090000030004000008_000007000000030509_020000000800050006_000603000400010802_050809000200040000,
  0x090704000600020000_060002070403080009_030000000902000000_000803090000000501_000900000000000408_010406030800090007_050300000200040000_080600040307000902_040200000008010703,
  0x000901000205000600_000600000000000000_000500040000000800_000007020001080900_000000060008000300_000005000700040200_000003000900000708_000700000000000001_080100030000020009,
  0x000609000007000100_020004000009000006_000708000003000000_030200070001000008_080900060300010402_000001000908030007_000003050000000001_060405000002000709_000000000000050004,
  0x000700050006030000_000106030902050007_030205080007090000_020403070800000105_000501040603080902_000608010205070000_050802060301040700_060904020708010000_010307090504020008,
  0x020005070000000900_000007050806000302_000003020109080007_080002090001070605_070000080000030100_030000060500000804_000300040700000206_060700010000000003_000200030600010708,
  0x070004000102090306_050000000906000407_000000040007000500_080006000400070005_020105000600000003_030407010500080000_040300000800060701_000701000200000809_090508060701030004,
  0x000003060000080000_040600020800030907_000100000305000002_000700080000010003_000000010009000700_000000000703090000_000000000000040000_010800000000070000_000006000007000208,
  0x000700030000000006_000400000000030000_060503000008000007_070900010004020005_000005000000000904_000004000500060003_000000040000080700_000007050801000300_000308020000000000,
  0x090000000005020401_000500040908000300_000006000700000508_050008000000000600_000100000204000700_070403050000080100_030000000006000004_000002070000000005_080604000500030200,
  0x000300000000000600_000004000302000000_000002060000000000_080001000009060405_050607040100000903_000900000206000800_000100000003040208_000400000007000000_000800000405010706,
  0x060007000500000009_020400070000000800_000308000000000705_000000030100000008_000000080900010506_080001000007000203_000000000003090000_000000000000080004_040803000700050002,
  0x020000000000050008_000500090000000100_070001000300000900_000007000004060000_040000000002000001_010000000009000305_000009000400010000_030002060000000400_080406020100000009,
  0x000000050002000106_000801090006000500_000002010807000903_000905020703010008_040100000508070000_080007040000000000_070000080100060002_020508030604090001_010306070200000804,
  0x030600000800090000_000000040002070600_020000000600000003_040003000907000506_000509080006000007_060000050000080904_080406010209030705_000000060500000000_000002000004000800,
  0x060000000000010700_000501020600000803_000000070000000406_000800000003070000_040000010002000309_000209000708000501_090104050000000008_000008000406000000_000700000800000900,
  0x090500000000060000_070006050000040000_030400070001000005_000000020903080000_040800060500010000_060000000008000007_000004030000000500_080705010002000009_000600090000070000,
  0x010800000906000403_020400070300010509_000000000100060700_000004000000080106_030000000004000002_000209060001070000_000702030000040000_000908000600000007_000100000007090805,
  0x000007090005000802_020900070100000000_000504000200070000_000000080709020000_000300040601090507_000700000503000000_090205010806030004_000006000000000008_000003050400010600,
  0x000401000900000008_060709000800050004_000200000004010906_070000000200000109_000100000709000800_000000030400070000_000000000005090000_090304000000000000_010000000000020000,
  0x000003050000000000_070000000800050000_060002000007000401_000004080100000000_000806000009010005_090001000605020804_000600090003000200_000207060500090000_030900020700040006,
  0x000902040000000001_040000000800000006_000700030601000400_000600050402000109_000209010007000000_010000080900020003_000100000003080007_020000070008000904_070800090204010305,
  0x070002040500030800_000009030007010000_010305080902000400_050904000200000100_060108090300000700_000700000408060005_000806000700050001_000000000000000200_040001000000000000,
  0x000007000006000000_020001000400060309_080006020000040100_070103040600050008_000400000007000003_000000000003070006_000000080002030700_000008000004000001_050700000901080600,
  0x000007000600030100_060000010002050400_000000030004070200_050009060000010300_000206000001040900_040003000000000600_090500000100060004_000600070509020001_070000000006000503,
  0x020500000009000003_000000000008000000_000908030400000200_000400000000000002_070000000200000300_080201000000000706_040000060000050008_000007010500000000_050000000000020007,
  0x050000000302000400_070900050000030200_030006000000000007_000705000000040300_010400000000000005_080000000500070001_000000080400010009_000100000205000800_000000060100020003,
  0x000406000500010200_080903000000050406_000002040000000800_000600000009000100_010005020000000600_020009010600000000_000500000207040901_090001060004000502_000007000001000308,
  0x060100020000000400_000408000106020309_020509030407010000_000000000005000103_000001070602080004_050600080300070000_030000010000000706_040705060200000800_000806090700030205,
  0x000600000004000000_000304000000060705_000800060309000000_030500000207010000_000000090401000200_000002030600000900_000203050000000807_000908040003000000_050007000000030004,
  0x010900000800000702_000200000504090003_000000070200000108_000105000002000906_000006040100030000_000007060000000001_060501090003000007_080402000701000000_030009000608000000,
  0x000801000004000000_000000000000000102_000000000000030600_000002060109000008_010700000000050000_090406000008020000_000500000400010003_000000000803000205_030200000005000800,
  0x000001000804070500_030806000005010400_000507010200090003_000005000003000207_020003060001000000_080600000402000000_000108020000050004_000000050600000301_000002040000000009,
  0x060309020005000100_070000090800000006_010800030006020009_000700000000010300_020008070300000600_000003000000000007_000000080000000001_000005000000060700_040200000900000800,
  0x000000090401020000_000000000002000608_020300000006000400_010402060905080703_060000000000040001_000703080104000002_000200010600000800_000000050209030104_000501040000070000,
  0x020000010900000400_000403000700090005_090007050403000100_000004060000070002_080006000000000900_070002000309000006_040700000805060009_000209070004000000_060008000200050004,
  0x000000010000070002_000100000800000000_000700090004000000_000409000001000000_050200000000010007_000300060000090004_040001000300020000_000007000105040000_080000000009000001,
  0x080002010700000000_010600000408000005_000700000006040000_030000000100000002_000908000003000001_040200080509000007_000800050600000300_050300040800020709_000000030002000000,
  0x000200060000000500_000007040105030000_000805000009000007_000003080004000200_050400030700000901_070900050600000003_040000000000050700_000009070003020000_000706010500090000,
  0x060105000900030702_090800000503040600_040000000700000009_050004010802000903_000900040007050208_000000050309060100_080003090000020000_010206000400000005_070000000205010800,
  0x000100000004060007_030000000100000008_000000090006030001_050700000001000009_010209000400050000_080300000900000704_060003000209070000_000400060000090002_000000000003080106,
  0x000108000700030000_000000000300000104_040000050200070008_080000010007000300_060001080400000000_030500060000080000_000409030000000000_000805000004090600_000600020000010400,
  0x030800000204000000_000002060000000008_000004080700090000_010000000007080000_000500040003020600_060003000000000000_020307000500040000_000000000006030902_080000000402070001,
  0x060500090800000000_090201070600000800_030000000002000607_000000030900010500_000800000000040700_000300000008000000_000000000000000104_000003000405000906_000006000000000002,
  0x000300000906050000_000004000700000009_000900000002010000_020406000001030000_050003000009000102_000108000003040005_000600080000020000_040000000305070006_000000020000090401,
  0x000009050003000204_000700000000000003_020305000601080000_070000080400000902_090400000000070006_000800020000000000_050901070300020008_030008000500000007_040007000000000500,
  0x060100000000000200_040000000702000500_000009000000000607_070000000801000400_010006000307000008_080500090400010003_020601030000000009_000000000008040300_000004070000020000,
  0x060305090100000700_080100000000020006_020700000005010309_090500000300000001_030806000000040005_010000050600030008_000003000006050000_000208000004060100_070601000503090400,
  0x000005000900040000_000102000700000009_000000000602000500_000901000000050003_000700000000000900_050300060209000004_000006000000000400_000000000006000005_000500030007000008,
  0x060008000209070500_000000000607010800_050700000001000306_020409070503000000_000006000008040003_070800000000050200_080205090704000601_000607010302000005_000300000005000407,
  0x000409000600030801_000007080100090400_000100090004000000_020006000700000000_010000000900060000_030000060000000007_000500040000000008_040000050800010000_000000070200000600,
  0x000900000705000804_060100020904000007_000400000100000000_030800000002000506_000500000806070400_000600000500000100_080205000000000600_000000000201000000_000000000600000205,
  0x000500060002030100_000806050301040000_000000000000020000_000000030000000009_000307020008000000_000008000100000000_080000090003000005_000105070000090003_030902000005000800,
  0x000000000100000000_070000060500000300_000000000907040000_060000000000030000_050000000009000607_000000080600010400_030000000000050000_000500010700060008_000200050800000903,
  0x000800000000000009_090000000306070205_030000050000000400_070009000001020000_000008040000090306_000003000900080000_000006000205000000_010007000408050000_050900000003000000,
  0x000003000000000000_020005030007040006_060704020000000001_000000080500000000_000208000000030000_000600070000010800_000400000000000203_030006000002000000_070800060004090005,
  0x000708000000010000_000205000001080003_000003050000000000_000407060500000100_050000070000090000_000002010000050006_020000000300070400_080000000000060300_070000000004020800,
  0x060009070003080204_000302000408000007_000804000600000000_000008030100090706_040000080006010002_010006000209000003_090200000005070000_080000000907000601_000000040001000000,
  0x080000000000000009_000904000600000005_060201040000030800_010009000807000603_000000000000000901_050000060100000002_000500000203070004_020000050401000000_000000000700000000,
  0x020003080000000509_040008060509070000_000500000003000000_000206000001000008_000700000000000900_000004050000020107_010400000005090600_000000090006000000_060900020700030800,
  0x000403000000000900_000000060002000700_070006000400020300_040209030806050000_000800010200000000_000600000905000002_090000050004010203_000000000008070509_000100090000060000,
  0x060000070300020800_050803020900070601_010007060805090304_080000010703040502_020501000609000708_070304000502000109_030108000400050200_040705000200010000_090002050100080003,
  0x000205070103060008_070903040600000002_080001000000070000_020006010705000409_030700080000000000_000509000406080007_090400000307020501_000107050004000800_000002000801000006,
  0x010007050308090004_080906000401000200_000003020000070001_000000030000080100_090002000000000700_030708000000040509_000005000003060907_060000000000000005_000001090605020000,
  0x000000000006040000_000900000700080000_000100050009000007_000003000200000000_010200000507030000_070006030000010000_000000000000000500_000609040302070100_000700000605000000,
  0x000004000503000000_000800000107000504_000005000000010008_000000070605000102_050000000300000709_010000000000000300_000000050406070003_000006000709000005_000500000800000400,
  0x080401060209000003_030600000000000009_090000030000000200_060004070000000002_000200090004000007_000100000002000006_010000020508030000_000000000900070800_040009000000000600,
  0x030000000005000208_000500000002030407_000009000700000605_020104070008000503_050906000300000700_000007000000000000_070002000800050306_090000000607000102_000000050204000000,
  0x040705000601000000_000000000002050007_090602000500000000_080003000000000700_000000090008030004_070900020300000000_000200000800000000_060009000100040008_010000060200000005,
  0x080000060000040000_070000080100000600_060000000000000108_030100070205000409_000600090000000000_000500000306080700_000000040600050000_010006020500000804_050700000800000200,
  0x030004000000000800_000500000008030004_000001000400000002_000800090000000007_020100000000000009_000006030000080005_000307000906000500_000000000001040006_000009000000000003,
  0x000000010803020000_030000060907000008_000109040205000000_060800000000000200_010000000000080609_000002000600070305_040603000100090007_050700090300000002_020901000700030000,
  0x020704000000060508_000600000407000002_080300020600070100_000206000003000000_050800060000000001_000900070504000006_000000000302050000_000400000000080200_090502000708000003,
  0x000000000200000009_040100090000070002_080209000407000000_060801000300000900_000900080006000300_020004000005000106_000000000002000000_090600030001000705_070500000009010003,
  0x020004000000010005_000000000000000402_000000040207030900_000800000005000200_090300080400050006_040005000000000000_000100050000000603_000009000008000000_070000000609040000,
  0x000503020408070609_090000010006000302_000200070000000005_000700090205060804_000900080104020003_080400000000000001_070009050002000406_050000060009030008_020600040301050900,
  0x010600000007090502_070200090000030000_090500040002000701_080300010704060000_000100000008040300_040000030006010008_030000050809020400_050009060001000003_020800000403050109,
  0x000002070000060508_090005000000020000_000800060205030900_020008040609010003_060004050003080200_010000020008040000_000107090000050406_000406000507090802_050209000400000001,
  0x000304000500060000_000500000207080000_090208000000010700_000005000004020000_000000080109050000_000100050700000000_030000020005040809_040802070901030506_050600000800070001,
  0x000001000604000009_000000030000000000_000905020008000003_000006000000080100_000400000000000500_010709000000000300_060507000002000004_000002040506000000_030800000901000605,
  0x020304060008050700_000000000700080203_000500020000010400_060802040901000000_000000000200000000_030900000600000004_080003010006000902_040005000002000300_000000000007000005,
  0x000500020000060000_000800030900010000_060904010000080300_000005080000000600_000206050307000000_000000000401000209_000002090508000004_000000070000000108_000008040102000000,
  0x090300000006000000_070400000208010906_060008000907050200_000700080100040002_040009020605030701_050200070304090008_080004060700020109_010903000002060407_020607000001080305,
  0x030604000105000207_000500040208090003_080200070000010004_000006030904020008_000000000007000000_000700060502000009_000800050001070000_000401080009000006_000900020300000000,
  0x070403080000050000_050900060000000800_000008000500000000_000000000000020008_030100000000060000_000000040001070500_040309010700000000_000001000008000709_080507090003000000,
  0x090000000406000000_030408070500000601_020000030100080700_000005000200070000_000000060000000205_000200050003000809_000000010000050008_000300020005000000_050007090800000306,
  0x000005000809060402_030006000000000900_020008000004000705_000100050906040000_000000000008070206_000604020700000000_000001000500000800_060009080007050004_050807000000020603,
  0x090800060002000000_010300000500000809_070200000001000000_000500000009000700_020400080006030000_060001000700040208_050702040008010600_080003000007090400_040609010200000507,
  0x030800000009020000_000507000100000400_060009020507030000_000000000000010900_090304080200000007_000006050904080203_000003040702090500_000705000600000100_040902000805000306,
  0x010000080000020406_060004000103070800_080200000407010000_000800090004000200_040000070500000000_000000030000050004_050708000006000102_020900000008040600_000000000000000000,
  0x090000080100020503_000100050407060800_000605000000000401_000900000800030206_050200060300000900_000006090004080100_000002000009010608_060700000008090302_010800030600050704,
  0x000208000400060900_000000000600000103_060401000003000805_000000090000050700_050000060207000000_000009030501080002_040900080000000500_080107050300090000_000003000009000600,
  0x000604080000020000_090000050000000000_000000000400090000_040000000001000600_000007000000010000_080105000007030400_000809000000040002_010006000004000900_050002000100080000,
  0x080000010703000400_040700000006050801_060900000000020300_000000050400080902_000000070000000000_090105000000060000_050208000300040000_000009000000000008_070400090100000000,
  0x080400000003000700_060000000500000400_070509000804030102_000000050000020000_050000080000010000_000807000000060005_010003040600000008_000700020000040003_040000000005090200,
  0x070000000103000500_060802000405000003_010000000000070000_080006000500020700_030000090001050000_000104000000060300_020000000900000007_090608000207000005_040005000300090600,
  0x030500010000000600_070408000900000500_000100000500070000_000807000100040000_000301000009000000_000900070002000000_010005090006000804_080200050704000001_000603080000050009,
  0x030608070001090005_000000000802060704_040007060500030100_020106000905080007_000700020103050009_090000080000020001_070002050008010000_000305090207040806_060800010004070502,
  0x040800070000000000_000006090302000400_030000080400000600_000300020600090100_060100000000000700_000908030000060500_000602000004070900_080000010709000000_090007000003000000,
  0x050208000000060003_070100000500000809_000000000803010200_010005000609000402_000006030700050000_000800020400000000_080007010006000504_000501040900000300_040000000000000100,
  0x030000000000000000_000000060009000002_090001020300080005_000000000002000700_020009050403000801_000008000601000004_000000000900070000_080000000000020400_000000040206000500,
  0x000800030502040609_060000010009020000_050009040000000001_000008090005000207_000602000100000000_090005060003000000_080000020000000104_000403000901070006_010500080600030902,
  0x010600080904000003_040009000003020000_000008000500090600_000103000600000800_070004000000060009_000005000800000000_090401000305080000_000207000106000005_000306070408000902,
  0x000000000000000008_000100000209060000_000009060403000000_000000000000050003_000000020000040609_090000070500020000_010000040005000000_080006000002000004_000205090800010006,
  0x030100070608000009_000000090104000000_040000000005000106_090706050002030800_000800000007000600_000000000000070000_070000060000000200_000000000803010000_000005000000000003,
  0x000502000007000100_060004010000000000_000800000000000205_000000000400070501_000000050106000804_000000000900000000_000000020000080000_000001000000000406_050708000600010902,
  0x000102000704000600_070400080902030000_030900000005000400_040000000000010003_000600000001050000_000000070508060000_000000000400090001_090003000607000008_000200000809000306,
  0x000000000000080609_070000000006000200_000000040000000000_010408050600000700_020700010008000005_000609000200010008_000000060009030501_030000000405020900_000900020001040800,
  0x020004060009000103_070301080500000406_000509000104020007_040000020000000005_050000000908000600_000003050000000200_010006070400080300_000407000200060500_000005090006010004,
  0x000003080000050001_000000000100030000_050000060703000002_000009000206000003_030000090001000000_000604000807000500_080006070300090100_090000000608070305_040007010009000206,
  0x000100000007000902_080000020001040000_050200090000030006_030001070806050000_000000000000070603_070500000204090800_090400000002000007_020000040700010500_010708000503020000,
  0x000000000400000000_040307080205000001_010000000000080200_000004000001090300_000000070800000105_080001040503000000_000405060000020000_000009000000010000_000000090004000003,
  0x000000050900000600_030500000601020900_000906070300000004_040000000805010000_000003000204000008_000000010703000000_000205030000090000_000300000009060000_000400080500030702,
  0x040608050009010207_090301000000000500_050200000000000003_010903060008000702_000000000000000608_020806070003050900_000000030705020006_000402090800070105_060705020104080300,
  0x090000000006030800_000300080007050000_050608000000000001_000700050001020908_020900030000000405_000005020000070003_010000000400000507_000409070000010000_000500000003000200,
  0x000709000401000308_030508000902010000_040001000800050900_080002000503000000_000307000600080000_000004010208000607_020000000705090803_000405000000060001_000003000106000005,
  0x030600000000000000_040007000500000002_000900020007000806_000706000000050304_000305000600080000_000000000005000001_000000000200000000_000504000903000200_000008050006090103,
  0x090001000003080002_000203080100000000_000508000400000000_000000050702090000_000100000300060200_000009000000070800_030004000007000100_000000010000030000_000000000004000009,
  0x050300060900000108_000000000004090503_080900030000000600_070609000003050801_000200000000060000_000805090600070400_000002080000000005_000000000200000900_000008000506000000,
  0x000000000005090803_000307020400010605_090000000000040002_070000080106000300_030600040500070900_050104030907080206_040800060703020100_020903050801000400_060001000204030500,
  0x000900040800000200_030207000609010000_000000000702000900_000005000000020000_000400090200050000_000000010007090000_000000070000000000_060708000300000000_000009080006030700,
  0x060307050400090100_040200000000000500_000009000706040200_090500020800070601_000004000105030902_020601000009000800_000700090600000000_010000040207000000_030000010508020009,
  0x000000070100020300_000000050000000700_030700000000060009_000200000000080000_000800020403070000_070000000000030000_050100060800090003_080000030002010600_020300000001000007,
  0x000004030000000900_020807040005000103_000000000208000007_040000080000070305_000000000003000009_090703000000020000_000008000302000704_070005000001000000_030002000406000800,
  0x080000010000020907_010000000002000800_000000080000010006_050000060207000000_000300050804060001_040006090100080000_000103020000090004_000000030000000002_090200000006000100,
  0x000301000004070800_000600000908040001_000400010007000503_090200000003000000_060000000001000302_000803020009000007_000006000000030000_070108000000000006_030502000700000900,
  0x060207000800040000_000008000006070000_010009040000060200_090000000000000001_040000000905020000_030000010000000800_080900060000000000_070000000000000900_000500000000010304,
  0x090200080103000407_040000000902050300_060000040000020900_000007020009030104_030004000607000500_000800000004070000_080000050001000003_070302090400010005_000009070300000000,
  0x000400090807000000_000007030100000000_090003050006000107_040000000003000705_070302080900000000_060005000004000000_020006000008000001_010508060309000004_030000020000050000,
  0x000102000004000900_000400070009060003_090307080002010400_050603010907000802_000000050200090006_000209000408000501_000500090700020104_010904000000070008_020006000801000009,
  0x010008000200000300_000000000704000000_040005000100000702_020000050007060400_070004000600000000_000006040800000200_000007020006000103_000000090000020007_050000000300040006,
  0x000004060000000009_090000030208000005_050200000407000300_000000080706090000_060900000000020800_000807000900000003_000000010004000502_000003050809060401_000000000602000900,
  0x000200070608000100_070000040100000200_000000000000000004_080007000200000906_000600000007030402_000402000001080705_060005000703000000_040000050006020300_020300000000050607,
  0x000804000600000000_010500090302060000_090602080000000300_000003000000000000_000706000804010905_040908050006020003_080000060003000000_060200000708030501_070000010209080006,
  0x000000000500080007_000000000207000003_000004000809020000_000000090000030004_010000050402000800_040805070603000200_000402060000000300_000000000005000400_000103000904050000,
  0x040002060801000500_050800020009070400_090300050704020608_000008010006090003_000607000003000200_030500040200000100_060003070400050900_000000000002010800_000204090000060307,
  0x040008010700050002_000007020905040800_000300080604070009_000406000001080005_030109060008020700_000500000307060000_000003000000090008_000801050409030007_090700000000010500,
  0x000002070100000406_000400030608070500_000000000000030000_000600000900000708_000900000000020005_000000010003040600_000100000000050004_040000090000060000_000203000500080107,
  0x000002000807010500_070000030006000209_010000090000070604_000000050000000307_000000000000050800_000800000003060402_060000000200040700_000000060400030900_000009000300000100,
  0x000005000204030700_060001030000020904_030402070900050001_000000000603040009_000900080000000307_020003000400000000_000207060009080405_080000000705090000_040500000800070003,
  0x000000020000000900_020304000000000705_000809000007000006_000601000903050802_000000000000000003_000003000500000009_000000090100000600_060102040005000300_070000030200040000,
  0x000602000000000007_070000020000050000_010004000007000000_050000010800000000_000000030400000702_000001070609000000_000009000704060000_000003000206070900_000000090003000400,
  0x000400000800000200_000000020000050003_030602050001000000_010000000009000700_000203010704000508_000000000000010900_000700000000080405_080005000007000300_000300000000000601,
  0x000705040900000106_080004060000000000_000200030507000900_090000000000000800_070006010305090000_000100000000000300_050000000806010204_010008000700030009_000009000000000607,
  0x000000000806020500_000002000300060000_070800000000030400_060201090400000700_000500000000000109_040009000100080000_000000000004000200_000000050900000800_080000010007000004,
  0x070000040600050809_000000050008000207_050000000002000004_000900010007000006_000700000000080005_000306000009040001_020008000000000003_090000080000000100_060400030200000508,
  0x050000080002000007_000609000004010005_000000000000000608_000705000308020900_000000000107050806_020800000400000000_000004000800000002_000002000900080100_000100000000000409,
  0x000708020001000403_010004000300090800_020503000409010000_030009000000040500_080200010904030607_060407030500020900_040306000200080100_070001050803060200_050002000006000309,
  0x080300040907010605_070900080001000000_060004020005000700_000809050000070400_010500030004080009_030000090200050100_050708060402030001_000001070500040002_000000010800060007,
  0x030000050000010800_000007000308000900_000608000701000300_040000000006090000_090003020004000008_000002080900000504_070300000405080600_000200000800000400_000000030000000701,
  0x050000020803000700_000007000000000800_080300000000050002_000800050200030009_000503000009000200_070902000008040000_000708000004000000_000001000905000007_030005000000000601,
  0x000100020005090000_000300010906000408_000006000003070001_010807030500000902_000000090100000000_000000080600010305_000008000409030000_040000070301020800_030001000008000009,
  0x000206070100000000_070405000208030106_030109000006080007_010802030007060409_000000060001000000_000307040902000805_050008010600020703_020603000000040900_000700020309050600,
  0x000002030409050708_070309000500010604_040500000001000203_060000050000000002_000000060007000301_020803000104060507_080000010000030000_000001000300070805_030400000705020009,
  0x000000000000050304_040003090000000000_020005000003000709_050600070000040000_000007000002000506_030902000604080000_000500080900000000_000006000400000000_090000000001000000,
  0x000200010600080904_050904080702030000_000800000300000200_030509060104070000_000002000007010009_000700000903060400_090300070008020100_000000000006040700_060000030201000008,
  0x000000090000000400_000806020003070500_000000000000020000_000002070109000800_000109000300060000_070000000200000000_000001000005040607_080400000700000301_000007010900000200,
  0x000009070400000200_020300000000010600_000600000000000000_050200040000000908_000000000000040000_000907000005000300_000000000801050400_090000000000030002_000401050009070800,
  0x000604020305000901_090000000000000600_000000070000000008_040000060800090705_010000000009000002_070000030004000806_000008000500000300_030000000002000009_000500000000080000,
  0x080000040009070503_070004030008000002_010305070602090000_040002090005030701_050009000700000006_000007060204000009_020400000000000605_000000000400080300_060000050300020900,
  0x000806000501020004_040709000200060501_000005000000090803_000508000400000000_000403070000000000_000200030000000008_010002000800070300_080900020000010005_050300000700000000,
  0x020304050709000008_000600020400070000_070900000000040502_000406070905000801_090005010600030007_010807000203050609_080002060104090305_060003090002080704_040500080007010206,
  0x050900030802060100_030000060700000500_020806040501000903_000200000400090800_060401090200000007_000309000007000201_000008000104030602_010700020900000005_000002080305010000,
  0x040002010008090000_000809070500020004_000000020009000000_070405000001060000_000001090000050200_020006000000000001_050000000002000100_000000000105000800_060100030900000500,
  0x030105070006000400_000000050208060100_000608040300070905_010300080700000004_000000090000080207_000702000405000309_000001020000030806_000000000609000700_000004030007000000,
  0x000002000008070609_000000000000050000_030000000100000008_040000000005090807_000900080406000300_000300000002000006_080100000900000002_000000050000080900_020000000800030000,
  0x080000000000000600_000207050900000008_000400000000070005_020000000405000003_040300090800000006_070500020306010000_030700000600000001_090100000002000807_000000070109000300,
  0x090000000000000002_060004090200030000_000000010506040900_000208050000070000_000000080002050000_050900070000000400_000400000300000805_000006000705090000_020000060809000700,
  0x010003000000000809_090000010000000000_050004000003000007_070000060000000502_060500020001080700_020308040500000106_000900000000040300_000007080000000900_040102030905000600,
  0x000306020000000400_020700000005060100_000004000708000003_060800050400010300_010005000000000007_000003070100000000_090000000807000006_030500000600000000_000008010500000900,
  0x060800000200000004_040100090000020500_000200000000000800_010400020007080005_000009060500000002_000002000409000001_000600000800050409_000300000002000100_050900000006000200,
  0x000106080307000000_000809060200000307_030000000400000008_090004030002080001_000000000700060904_000005000004000002_000500040100000000_000400070803000009_010000020006070403,
  0x000701020809030005_030002000607000108_080006030000020407_000300050000080902_020400000000010306_060800000300000000_000204000900070000_070100080204060000_000608000105040203,
  0x070000060100090008_000000050200000607_000009070000000001_000300000506000900_050000000308070000_000800020000060005_010003080602050709_090508030700000006_060702090400000003,
  0x080007050000010400_060001080004050207_030504000700090608_000600000200030009_000309000008000104_000408090000070006_000002010800000000_050003070600040000_090106030400000702,
  0x050907010000000002_000000000000000800_020000050000000000_000600000001030907_000002090600010000_000709030000000000_060205040100000000_070408000302000109_000100080000000200,
  0x000800000407000903_060000080003000400_040000090002000001_000008040009000102_000002070008090006_090300010006080000_000109060005000000_080000030704010009_050700000000000000,
  0x000003000200040000_080406000005020007_070005000000000900_050004000308060000_060001050400080000_030802000706000500_020500000600070000_000308000500000609_010607090003000400,
  0x000400000500000001_000009070603050200_020000000004000000_000600000702000000_000801000300000000_000007080000000300_000500090000030100_010002000006070000_000000030000000008,
  0x050800020007000009_000900000600030802_020103090000050006_080400000702090000_000602000000040100_090700000000020000_000000030800000001_070308000005060900_010204000000000503,
  0x080006000007040200_000702080400010006_050003000600000908_000000060008000700_000507000009080004_000000070000000503_000200000003060409_000800090200050000_060000040001030802,
  0x090207060800010003_060100000005040007_000800000001020000_000500080007060409_000000090000080000_000000000100000305_000406070009000208_000000050008000000_000000010602090000,
  0x090400030000080201_020006000500090000_000000000009000005_060000000400030009_010004000800050000_000500000006000700_050200000008000106_040300000001000008_080600000700040000,
  0x020400000601080000_060800050209000407_000907080304000006_040000000803000005_070305090102000008_080000040000020300_030700010500000902_010200030000050800_000500020406070100,
  0x090002070800000003_040000000003000000_070000040206000009_000000010000060000_000000030508000900_000800000900030004_000000000000070000_050000000000080400_080007050300000602,
  0x040001090608020000_060900010702000405_000002040305000609_000000000801090206_010000060007000000_000006000204070800_000104000509000003_000000070403000002_000005000106000908,
  0x050609000702000100_020400000306080709_000000090004000006_000305000907040008_000800030405010902_090204060001000305_040902010600050000_030508070209000001_060000040000000003,
  0x000000040000070108_030000000001000900_040000060700030002_000100000600000400_000000010900000007_050009000200000601_020007000405000006_010004000800000700_000506000100040000,
  0x090000010207040000_020004000900000100_010008000000000009_000001090300000005_050000000000060000_040300070000000000_000900040003000000_000000060705090000_080407000000000506,
  0x000700000200010400_090002000400060508_040001060005000209_000203090600080001_070900000000000000_000006000008050902_000000000903000004_000500020106090800_000600000007000000,
  0x000600000009000000_050300070000020100_000000030501000700_000000000200080601_020000000105090400_000006090008000000_000700000002000008_060003000900000000_010208000000040000,
  0x030600070000090100_000200000000000000_000900010004000006_000509030000080002_000401000006000703_000003000005010009_040000000001070008_000100000003060500_080005040002000900]
theorem mixed_15_ok : mixed_15.all fastOK = true := chunkOK_sound _ (by decide +kernel)

end Gen.SudokuDB
