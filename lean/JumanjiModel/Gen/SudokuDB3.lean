/- GENERATED by harness/translators.py (gen_sudoku_db) from /repo/jumanji/environments/logic/sudoku/data/*.npy — do not edit.
   One `Nat` per board (layout: Env/Sudoku/DBCheck.lean); every chunk is run through the checker by the kernel. -/
import JumanjiModel.Env.Sudoku.DBLemmas
namespace Gen.SudokuDB
open Sudoku.DB

/-- `mixed` (10000_mixed_puzzles.npy), boards 2000..2249 -/
def mixed_8 : List Nat := [
  0x040005000907000301_000003060205000008_090002000000000006_000300020609000805_000408000003000002_000500070008000003_030106090700080000_000000050000000200_050200030004060000,
  0x070205000100080006_060000080000050002_000800060000000007_000006000800000003_080000000006020000_000004000207000000_000002000000010000_000100000009040000_050600000000030000,
  0x000500000301060004_060000000004090008_010402000000070003_030000040906000705_000000010008000400_000904000005000000_000000050000000000_070000000100040000_000601080400050002,
  0x060302000000000500_000005000001020000_000000030000000006_000200000500060900_000008000003000002_040000000700000000_000000000304090005_000600000007000801_090004000006000007,
  0x030001000000000000_000200000600000403_050006010703000002_080000000100000000_000504030000070000_090003050007000008_000005060308090000_010000070009000006_060008000001050007,
  0x000000050603010700_000609000001000305_000003000800060200_040300080100090600_010800070009020000_000007000006040100_090001000000030400_000008000004050002_030200000900000000,
  0x000000000700000000_000405000806000900_000007000004020000_020603010000080700_000000060005010000_000901080000030400_040300070900000108_080000040000000007_000000050000040002,
  0x000006080002090403_000000000900060000_000402000600050007_000003020001000900_080200050000000006_000000060300000000_000001000200030000_000708030400000000_000000000005000000,
  0x000000070005000000_000100090000000005_000005000806040301_010008000007000406_000003000002000000_050006010300000007_060300000700000208_000001000000000604_040007060000090100,
  0x050100000000030006_000006000302000700_000002000001050000_000008000406090005_090000000508020600_060507090000000000_000300060000040009_000000020800070000_000001000000060000,
  0x000803070006000400_000700040200080309_000000000000000600_000000080900050006_040109000005000000_000506030000090004_000600050400000007_010000000608040000_050004000000060008,
  0x000807000009000004_040000030706050800_000306000000000107_060500000003010000_000702000000030406_000000000000020000_000004060300080509_080200000005000000_000000000800070003,
  0x010004000000000503_030806040200010009_070905000000040208_040700050009020100_050600030000000800_080109060700050304_090307000100080005_060401070000030902_020508090306070001,
  0x000108000509070400_030000000000000502_000200010300000000_090804030702060100_000000000600000900_050001000008000300_020509080000030000_000406070003000000_010000000005000008,
  0x070601000300050000_050300000800020400_040208000900000000_000400000000000000_080005060002000309_000902080003000000_090500070100040002_000000000000000800_000000040205000100,
  0x090000000500070002_000700080900000001_080506020107000000_020008000300000506_070000000000000009_000900000805000200_030004090000000705_000000000002000400_000007000400000000,
  0x000000080907000000_000001050400000207_000700020001000300_050800000300000100_090200040100030005_030004000502090600_000302090804010000_000609000005000804_000000010200000903,
  0x080000090000000500_050100000000060009_000600000000030000_000400010005000600_010000000300000002_000005060002040103_060000040208070000_000709000600080001_000000000009000006,
  0x000000000007000005_000705090000000602_030800000600090107_000009020008040700_080000000000010503_000000000000000009_050001070002060000_000008050406000000_000600080109000000,
  0x020600030007000000_010000020600000000_000900080005000002_050000090000000700_040002060000090003_060000000008020005_090000000000070000_000000070200000000_070000010009000304,
  0x050409000001070308_030607000008000001_020000000703000400_000000090000000005_000000070005040600_010305080400000700_000004000000030007_070800030500000006_000203000800000000,
  0x000008040502000103_000300010000000000_000000000000050000_080002000604070301_070000000100080609_060900030708020000_000000060003000405_000000000209010007_000009070000000000,
  0x090206070003040800_030400000000020000_080705000602000900_000100000700000300_070008060009050400_040500000308090700_020007000000000104_000000030901070000_000000020000000500,
  0x000509000200000406_020600000000050000_000400000000010900_000000090103000200_030102070804060000_000700060002000108_080900000300000607_000005080000090001_060000010000020000,
  0x000000000000000309_000008090700040102_000000000304000000_040002050003000608_000300020100000000_000900040807010003_060000000500020801_000000000000000004_000700000002030906,
  0x040008000100060903_010900000006070204_020006000700050100_000000040000090000_080002000600000401_060409010308000500_000007000001000009_090604000000010005_030801000000040600,
  0x030006010000040000_000000020400000000_000002000600050000_000000060000000000_050000000700000100_000309080002000007_070000090000020500_060100040000000000_000200050007010000,
  0x030900000000070004_060007000008000205_000000000706090300_070609000500000800_010205060000040709_040000020000050100_000700000000080002_080002000009000501_000100080600030900,
  0x070501030000080904_080609000005020001_040203080100000500_000004000801000000_010907050006000800_020800040300000109_030002010504090008_060005000900030407_000400060000010005,
  0x000000000001000009_000000000000000206_000402000806050300_020803000900000000_050006070200030904_090000050100000800_000001000409000600_000300000002000001_040208000607090003,
  0x000100000002000004_020700000800010500_000900000000000002_000405010008000000_000200090000000400_000000020003050001_000001000200030607_080600000300040200_000000070000080000,
  0x030000080402060000_000008000000020903_020000030007000400_040002000000000000_000600000004090301_010809070300000200_000003040008010000_090501000000000708_000004090005030600,
  0x050701000200000900_000002090700040501_090000050000000000_000800060000000000_000607000900000004_000009000000000002_000200000604000300_000008000009050407_040003000500000806,
  0x060004070105090000_080009000402000000_000005000900000002_000900020006070000_040000090000030201_020000000004000000_010600040009080300_050002080000060100_000000050601000700,
  0x000902000800000704_000000000007090008_070006040100000000_030500070200000000_000708000006020500_020000000405000000_090005000704000000_000207010000000409_080400000502000600,
  0x000000060000000309_050006070000000000_010004080000000002_070009050400000600_040100000600090000_080000030009010204_000000000007040000_030001000002070000_000700040300020100,
  0x080502000001090700_000609000800000401_010004000900030000_000901000300000000_000008010000060305_000000000008000907_000806000500070100_000200000007000000_000007090003080200,
  0x000200010005060000_070000090000000008_000900000006050007_060009050000000002_010000060007000003_000500000000010000_020000080001090005_050000000400070006_000000000003000400,
  0x000900000007000506_000406000801000000_000000000605090100_000500000300070000_000002000900000405_000300000104000000_010804000009000000_000000010000000200_000609080000010000,
  0x070400080000020000_000000020401070900_020003070000040508_090600000002080700_000200060000010309_000800090700000004_000000000109050002_000002000000030407_080000040007090100,
  0x000000000000040600_060007020400010500_050800060109000000_000000050000000000_070005000600000000_020000070001000006_000000000902000007_000100000000000900_000700040005060000,
  0x000305070200000900_070000000400030002_080009050003070000_000700000000090600_000804000905000000_000000000000020800_020607000008000000_030008060100000000_050900040302000008,
  0x000800000107030500_000501030802000900_000203000000080100_000600010000090807_000400080000020003_000000000000000000_040008020000000000_000706000300000008_030100040608000700,
  0x000600040905000003_000407030806010005_000803020000090604_000105000704000900_000000050000000000_000004080300050106_040501090608070000_060009070500000001_070200000400060509,
  0x040000010000000000_060100040000070002_080000000200030401_030800000106000000_000000000000000300_070009000002000600_050600070903000008_020004080600000500_000008000000060107,
  0x030500020800040600_020900030400000508_000006090501070000_040005000000060900_000000050900000700_070000000000030405_050000000002000000_000703080605020004_010004000000000000,
  0x040908020006000003_060207000003090000_000100000009000602_010006000307040209_020800000900030000_090703000402010008_000300000000060400_000400030000080900_080001000504020000,
  0x080000000005030000_060000020700090008_030002010908040506_000008050206010900_000200000004080005_050306090801000002_000603000400050000_000005000000000309_010000030502000800,
  0x040006070002000009_000001000900070000_090000000001030000_010704080506000300_080000000000000001_000009000000000408_060000020000000900_000005010000020600_000002060000000803,
  0x000809070000000000_020000000400050806_000000020000040000_070000000900080003_030908000000070605_050604030000000000_000000050109060000_090706000000000000_000005000000000208,
  0x000102000400000000_070008020000010400_000004070008000200_090400080500000300_080200030000000104_000006000000070000_040000000800030700_000003000005080000_000001000703040900,
  0x080607000005000000_050002060400070908_010409080307050206_000000030104000000_070001090006030405_030204000700060009_000000000000000702_000703040609000000_000000070800090000,
  0x080000060000020007_030401070008050000_060700000900000400_010300040000000000_000600020000040000_000000000000060003_000004000500000009_020000000004000005_050000000807010004,
  0x000500000000000009_000800090604050300_090100050300060000_010900000002030704_000603010007080002_070008000500000106_000000020000000008_000009000100000000_000000000006000000,
  0x000006000507020900_000200040009050007_000900000800040301_050004070000000100_000700020000080004_020601000405000000_000000000200000009_000003000000000006_090100000000000405,
  0x020005070009010600_030000000600070500_070000000004000900_000300060005090002_000009000000000300_060500030900000407_080004090003000006_050007000406030009_090003050200040801,
  0x000400000005010006_070005080001000304_000000090000000000_040706000000080000_000000000000070002_000000010007000000_080000050200000001_000107000900000405_000000000003060000,
  0x000408000009030501_000000050403000008_030005070108040206_090003000804060700_080704000006000100_000106030500080400_050809060001020300_000000000900010805_000201080300000000,
  0x000608000001000003_000000000000000602_050000000006000004_000007000002000500_000406050908000207_030500000000000000_080200010000000400_000100000000000000_060005000407080000,
  0x000007020008030000_000400000700000600_050006030004000000_000000050000000004_020004000300000806_000001000009000200_000009000400000507_000308000007040000_000700060000010308,
  0x000200030900040700_070900000000060005_060100000800000902_080000000501000003_030500040000070608_000000000003000100_010007000000000000_000009010302000000_020300090700000000,
  0x000000070506040100_000001040000000000_000300000900000000_080004050209000300_030007000000050009_050000000100000000_000500020600000407_000406000000090000_070003000405000806,
  0x000500000607000104_070004050002000000_060100000009000002_050001000908000000_020000000304060500_000008000700020001_000000000500000007_000006000003040000_040000070000000209,
  0x060000070200000000_000000000000090000_000004030001050002_030000000004070500_000500060000000004_000000090000000003_080000050000040301_040003010000080000_000009040300000700,
  0x000400020901080700_000000000708000604_000200000006000109_010000080000090000_000900000005070002_040500000207000000_000100060004030207_000000070000040000_000000030502010906,
  0x080405020601070000_000000080400060005_000103090000020000_040000010307000006_070000000502030800_030500000009010007_000000030000000000_090007050000040600_010000000004050003,
  0x000900000700050304_010705030804000200_040000000905010000_000001050407000902_070508090201060000_000009060008000001_050006000103000709_090000040000030100_030004000509020608,
  0x010506020400000009_000008060500020107_070200090108060500_000907010002030005_030804000005000001_050100000904070608_000700040306050902_000009050701040806_000005000209000703,
  0x000500000009000604_000000000200050700_000000000405010003_000000000700040006_070003060008000000_000000050000070000_000700000000030000_000905000000060001_010000000003000200,
  0x000000030000090408_000100000407060502_000000000609000000_010000020000050600_040005000000000001_090000000001000004_060002000703000005_050000060900070200_080003000000010906,
  0x000000000000020009_080001000203000400_020407000509000001_030000000004090507_010000000000060000_090700020000000008_050008000000000700_000100000400050000_000609000007000300,
  0x000000020006050000_010000080000000600_000609000000000300_080000030200000000_000000000000000100_070000010400080000_050002070000060800_060007000000000005_000104000000030007,
  0x050100090007080006_000600050008000004_000807030006090002_070309000600020800_000501070002000000_060004010803000000_030400000709000000_000005080300000400_000008000500030209,
  0x000600050907080301_010000080002070409_070000040000050000_090004070000000000_060005010000020000_080000030006000900_000006000100000507_030701000500000208_050809000003040006,
  0x000008070900020000_030000000008090500_000009050000000008_000007090000010004_000000020604000903_000000000807000000_000406000000080700_000005000701000306_000700000200050009,
  0x070005040000020009_000102000006030007_080600020300050104_060000010000000000_000200080000000405_090000070402010006_020004030000060501_050000000000080700_000800050001040002,
  0x030200000108040000_000400000705010200_000100000904000008_010306000000070000_080005010400000003_020900000300000000_000000000800000400_000001090003000702_000002000000090305,
  0x090708000203000000_050002000001070008_000004000007000209_020501070908040600_000903020000000000_000400010005090002_010300000000060900_000000000006000005_060000000009000000,
  0x040300000200000608_000009030006000401_060500000009000000_000000040507000002_000005000803060000_000400010000000009_000000000000040003_030900000100000006_000600000000020905,
  0x000700090000040100_000002000004000800_000000000000070000_040000000005030000_000000020400000600_090003060000000000_000401080206000900_020000000001000000_000000000000000003,
  0x040002000600010008_090001050300020407_000507000201000300_070005000000030600_010200030500000900_000008000902050701_000700000000000000_060004000000000005_000003020006040809,
  0x000200000307080000_080005000000000700_030000000506000002_000000040901000307_000000030005010000_000500060000000000_000300070608020000_000000000000070600_060007010200000500,
  0x070001080000000400_050406030000020000_000903010002070506_000000000000060307_010000040000000908_000007000300010204_040600000100000005_000005000000040000_000100000000030000,
  0x000006030500070401_000700060000050203_030004010000000000_000407020906030000_000000070300000904_000000050400000006_000200000003000509_040005090000080300_000003080005000102,
  0x060009000500000008_000700090000060500_000800010002000000_050000020900000300_000002000007000000_000907060300000004_000401080706000905_000500030200040600_000300050401000000,
  0x000000090407000600_030401000608000200_060700020003000500_070003000004000000_080900000301000704_010204070905080306_000300000506000809_050107030800060002_090800040702050103,
  0x050000000809000002_030902040700080000_080004000205070003_000800000600030000_040000020908000005_000001050003060000_010508000300000000_000400080002000300_020003000000000008,
  0x000000040000080006_000400000000000700_000601070000030400_060000000000050800_000900010200000000_000004050600000000_020000080000000003_000000000005070000_000008090004020000,
  0x080105000004090306_020400000300080107_070006000901050000_010500060007000809_000002000009000401_000900020108030600_000004090600010500_050008010000040902_000200040800000703,
  0x060000000400000708_000000030706000000_070900000000030604_040003090000000107_020100000000000006_050000000100040003_010000000300050400_000008010605000000_030000000000060001,
  0x000300000201080600_000000060005000003_010000080300070400_030008000507000104_040500000100030000_070006030004000500_000000000000000800_000700000403000900_000005070608000001,
  0x000000050601040000_060700090308000500_000300000000000000_000000040100030002_000102000000090400_000000020000000000_030400000000000600_010009000500070304_000006030000000000,
  0x000007080003000009_040800000709010005_090003000400080700_000905040300000000_000000050007000000_000304090000050100_000400000200000001_080000010005030000_000600000900070000,
  0x020905000008070000_010008090007000506_000600050201040008_060009070805000000_000003010000060705_050000000600010800_000206040500000100_090304000000050207_080501000700000600,
  0x070000090304050800_090000000000000602_080000020007000904_000805000400000706_000002050008090100_000900010000000008_000403070901000200_000708060503010409_050109000802060307,
  0x000500090406000000_060802000000090004_040009000002060300_090001060003070008_000000000001000405_080300020700010609_010600000005040003_050903000608020700_070000010309050806,
  0x000009000000000007_000000060300000408_060008070100000902_080704000601000000_000306000000020001_010000030500070000_000000000003080000_090205010807000306_040800050206010709,
  0x030000020907000108_000000000001000200_000104050806090000_000000000000000809_000000060000070402_040800010009000600_050701090002000300_090000000000060001_080300000005000907,
  0x090405000600000000_000000000000000005_000706000508000001_070000010805000200_000000020003060000_080500000900070000_050007090000000006_060100050300000800_000000000000000000,
  0x070006010000000900_000200000008000700_090003070000010406_000000000701060008_080000040503020100_000100090800000307_000008000009070000_000000000600000004_000004080100000605,
  0x000700040901000000_000000000203070000_030901050708000600_000400090105060000_060000070804000902_070100020000050008_000003000002000000_000607030400080201_000204000000090306,
  0x000000070100060300_000600000000090807_030900060800010200_070400010000020608_000002000000000009_000000000007000001_010004050700000900_000508090300000400_060000040008050100,
  0x090005030607040800_000302000900000000_000007000002000500_000708020300000400_000000080500090703_030004060000080205_000000070200000001_000500000100020004_010003000000000008,
  0x070002000906050000_060009000000000008_000004000002060700_000608030000020000_000403080200000106_090007000500030000_000000090705080002_080906020000040000_020005040000090301,
  0x000700060001000000_000600000800040000_020900070000080006_000308050006010200_000000010400000000_000006000008000700_000207000005090400_000000000600000800_000805090102000000,
  0x000405000001000000_010000000806000409_000709000003010000_030006070908040002_000002060004000000_070904030200000000_000501080609000704_040607010002000000_000000040000000600,
  0x080400000600030200_000703000508060000_090000000403050000_000507040000000000_000000000309000007_000000000805020400_000004030001090802_000002000004000600_070300000006040000,
  0x020007000000000605_010000000006000309_000406000000000000_080703020600000000_000602040100000003_000901000803020706_000000030008000402_000000090700030500_000000000000090000,
  0x000400010000090003_000003000000070500_000900030000000000_000305090007000206_000600000001030800_040000000008000007_030800050009060701_000500000100000000_010009000800000000,
  0x050007000000000400_010600000009020008_000209000805000700_000400000507010000_000903000002000804_080001000300070006_020008000400090007_000005000001000300_000000000000000005,
  0x000000020500000000_060900000000000000_010005000008000002_020000000000000800_090000070006020000_050001080203060009_000508040301000200_040100000902000000_000200060000000005,
  0x000400000000000006_060905000700000100_000000000400080700_000009040800070001_040000010000000302_010700030600090000_080003000100000000_020600000503000809_000000000006000504,
  0x020508000400000003_040900000005000708_010307080200000000_000002010003040000_000409020006030100_000000090000080000_070201000308000600_000605040902070001_090804000000050302,
  0x070608000209030504_000000000003000809_090300040805000007_000809030000000200_030000020000050000_000204070000000008_000903000601040705_000107000002000003_000006000000000102,
  0x030106000000000000_000200010906000500_050000000008000000_000004070000060201_000501000000070009_000007040200050000_010000080000020006_060700000000040800_040803000600090005,
  0x080700000205060904_000904000000000005_000600040000000800_030000000708040006_000102000300000007_060007050000000002_000008000000000609_070406000100000200_000005000800000400,
  0x000002010007000403_000900080406070002_070405000302080001_000000070005040000_090506030104020000_040001020908050000_000007050009060804_050000000000030000_080200060703000905,
  0x000000070308000000_010000020000000006_000502000901000708_040600000200000007_000700030400060100_020105000700000009_000401050000020000_000206040003000001_050300000000000604,
  0x090308000001020000_000000080000030100_000000060300000000_000809050007010004_000500000403070009_040207000000000500_000400070209000300_010705030000040002_000000010500080706,
  0x090000000200040006_000000000007000009_030501000006020000_050000060703090100_000009050002080000_000007000000030605_000000020308000900_080900000000050000_070402000900060000,
  0x020004010306080007_000807000000020001_060109070208050004_000308000000060502_010700060000040803_050006030000000700_000203050700000400_040005000003000108_000901000000030005,
  0x050002080300000100_000003000005060008_010700000602000503_000000070000000000_000400000009000000_000207000106080005_000000000000000000_020804030000050007_000000000400000901,
  0x000000000006000000_000100000500080004_000005000100060300_000000080000020900_000300050001000000_080700090000050106_050200000007000009_000801020903000000_040600000805000000,
  0x000900000300000000_010800050000000703_030000000000090006_070000000000060308_000608090000000405_040503000001000002_060000020009000007_000001030604050000_000402000000030001,
  0x030100070000050000_000000030400060000_040000080000070000_000001000008040000_000000000000000800_090300050004000002_050000090700000000_000403060001000007_010007040002080600,
  0x030005060201070804_060002000008000000_000007000503000200_000200030100060400_050703000600090008_000600000007020000_000009010000040003_070000000300080001_000000070400050002,
  0x000605000700020100_000801000302060004_090200060000080700_000008000000010000_020003000000050906_040006050001070008_060400080003000000_010509000000000800_080302010907040005,
  0x000000020000070005_010206070005000803_070503000104020000_050109000008000207_000807030200000500_020300000500000000_000900000400050700_040000000000000000_000602050709010000,
  0x000700030508000900_000008000900000100_000602000400000000_080000000000090001_000000040100000002_000005070009000003_050000000000000208_060009000000010300_020807000300000400,
  0x010006000005080000_050400010700000200_000700000003000005_060008070400000003_000203000500000000_040005000900000002_030604020100090500_000007060804020001_000001050300000407,
  0x000000000709000400_000600080005070902_000007040206010005_060509070100080000_020403050608090107_070801000002060503_050002000800040301_030106020900050008_000700000000020609,
  0x000705010900000308_060000000207000004_020109000403060507_010208000300040605_090007020005030800_030500040100000209_000902030701050400_000000060000000002_000004000802000000,
  0x040008000300020601_010507000902030804_030000040008000700_000003010700000406_000701000600000002_000400000003000900_050006000000040100_000304000500000208_020100000000000503,
  0x020009000600000800_000700000000060005_000604000000000002_070001090500020008_090806010002000500_030205040700000001_040007020003000006_050000060007000000_060108000000070000,
  0x000703090200080004_000800000301070009_040001000000030200_000100050000000800_080500000000020001_070004020008000005_000200010003000708_000008000900000000_000400000802000000,
  0x080100060900000703_050907040000000000_060003010702000800_090700020001000006_000000080000070002_030206000407000008_000300050008020607_000001030009000004_020800000604000300,
  0x070201090500000400_000908000600000000_000003080000010009_090600040700000301_000004000000020000_000807030002000604_080706010000000900_010305070000040000_020400050000030100,
  0x000800000000000200_000102040007000300_000009050200070800_000003000005000004_040000000600050003_050000030000000007_000008000006000702_000700020003060000_020000070508000000,
  0x000409000005070000_030000000000000001_080700000204090000_090000020800000100_000000050000000003_040508000300020000_000900080100000005_000000000000010400_070003000502000000,
  0x000009030001080000_030006050000000002_070008090400000600_050702040009000800_000001070000000403_000004000000000900_000800060500010000_000903020100040000_000005000904000300,
  0x000005000904030006_030000000002090008_000409060300000700_050608090703000100_000903000000080005_040001080500000000_000107000000000002_000500000407000009_060304000000000507,
  0x000600040000000005_000100000800000002_080400000102000600_000001030000040900_090200060405000700_000806010907050000_070000000000060004_000000000000090108_000000090000000000,
  0x000002070108030600_000700040300000802_000400060000000000_000109030004000008_040000000009000001_000000000006040000_020003000000000000_070600080500000400_000900020001000003,
  0x060805000900040002_070400050200090800_000209000804000603_050300000000000907_040901060700000000_000607000300000000_000100000607000009_000706090500030000_000002030408000000,
  0x000900030006020000_020000090408070103_000008000000060509_000702000000000008_050000080900000706_000800070600000005_080103060000040907_000200000009000000_000009000300000000,
  0x000504000908060700_010000030000050009_000309060000010002_000702000005000008_000100080604020000_060805070003000001_070000000000080200_000000000801070000_030008000706000000,
  0x070009040300060502_000100080000000709_020000050907010408_090002070100000000_060000090400000005_010403060000000800_000200000500000000_080904000700000001_050600030000070000,
  0x000004090600000005_030907000005000002_050600000200010004_000000000002080503_000006000801040200_000005070004090100_000000000000000008_070009080006020301_080002010400070009,
  0x000305000001000807_010906070300040200_000000000600030901_070000030000000000_000000000907000000_050601080204000000_080000000009000104_090100040700080006_000000010002000700,
  0x060000000200010007_000000000000000300_000903010000060008_000309070000000500_010400000000080906_050000000904000103_000100050000000009_000800090407000000_000004000000050800,
  0x000000040007050900_050900000000000401_000400090501000800_000008000005000209_020006030900010500_000004000008030600_000009000800000700_000007050406000000_000000070009000100,
  0x000000000500000709_000000020800000300_050000000604010000_000509000002070001_000700000000000908_080000000307020400_060000010700090000_090000000003060000_000007000005000004,
  0x050900000000020800_030200000600040000_010400000208050903_070005040000060200_040002000806070309_080009000000000000_060003020100080504_020004000307000000_090801000504000700,
  0x040001000700000008_070500000908000004_060000030001000000_000107000000000003_000605010300020409_000403080002050007_000000090106000502_000200000003090706_050906000204030801,
  0x070200000000030600_000406070000000800_010003050006020000_050104000000000300_060000000000000002_000300000001070509_040008020009060703_000000000004090005_000600030705010000,
  0x000002000107000403_070000060800000001_000308000000090706_000600000000000300_000000000005010000_000103040002000000_000700050000020600_030400000008000500_050000070400000000,
  0x010000000700000005_060800000000000000_000300000500010000_030102000004070000_000500000000080000_000006000309040000_000008030000000002_070900040005060800_020600070908000000,
  0x070200000409030506_080000020000000901_030900000000040208_000100040000000000_020300000105060407_000400060002000100_000600000508000003_090005030000010804_000003070900020005,
  0x050602040801030007_040001030702060508_000700050600010204_000400090503000001_000200070408000006_090800000100000005_020004060305000709_080009010007040600_000307080900050002,
  0x000600070005000800_000000000000000004_080103040600000000_060008000000000000_030402000800000001_070000090300000000_000000000003000009_000005060900000000_010000000000060408,
  0x000000000009010704_030402080000090000_070009000006080302_000005000608040000_040000000200070009_000900010704000000_050008070902060001_000600050800000000_000007000000030805,
  0x040006000001000709_070900000000010000_000308050007000600_080103070605000004_050000000000060100_000000000102030000_030000000506000000_020604000700000300_090501030000070000,
  0x000800000206000407_050007010809000006_000006070500010800_000102050000000000_070009000603000004_000000040000000700_000003020700040000_000000090000000000_010704000300000000,
  0x000009060007000300_030408020000000000_060000000000000000_000200090000010400_000904000301000600_000600040000080000_000000050708000002_000002000604000107_070000000900000800,
  0x020701080300040609_080905010006030002_040006000209080005_000008090607020001_000200040100060508_010003020500000000_000007000800000400_000804050700000200_060100030900050007,
  0x000600050702000800_000000000800000007_000007010006000009_000100000907020008_000000020000090000_000002000601000004_070008000000000305_060003000000080002_020500070000000900,
  0x000100000007000000_000800040100000000_000300090000060004_010003020609080000_000000000703000001_000900000400020600_020008000301090000_040000080900070000_000600000000010000,
  0x080000060103040709_010000080400030000_000003000002010008_060200000000070000_050000030200000000_030104000700080500_040008000000020000_000300000007050000_000000000000000001,
  0x020306080400000709_050809070302010000_010007000600030000_090700020006000103_080000030100070005_060103000507090208_070501000008020304_030002000704080001_040008000003060007,
  0x060000070400000509_000000080100000000_000102050300080004_050600000000000000_020400000600000005_000009040508060000_030000090800070001_000900000701000203_010005000000000000,
  0x000002030005000601_090001000708000500_060503000001000004_080009000000000200_050000000204010900_010000000309000006_040100000802000305_000600010507000000_000005040603080107,
  0x050006000009000700_070002080003000006_000901000406050008_000700050008060000_000205010004030807_000004000007000000_000300000005000009_020009040000000000_040008000300000600,
  0x020005000000000000_000306080002050907_090100000504000006_070000040900030600_060000020800070509_030000000705040002_000600090000020701_000000000300000005_000000000200000000,
  0x030000010900000205_060000040005080103_000000030000090700_070100080000030502_050200070000000600_040600050201070000_000000000100020407_020007060504010900_000000020007050000,
  0x000008090204000103_040300060805020000_000500000100080000_020003050609000000_000804020000060901_060700080001000502_010000000906000400_000407000508090000_080000000000010005,
  0x060001000000050902_000503020001000008_000000000000000300_000000000000000406_000000040009000001_040102000705030009_010000090500080207_000800000000000100_020007080000000605,
  0x050400000000030009_000002050100040000_000100000000000000_030900020001000000_000000000000000700_000008000003010900_060000010807090300_010800000000000000_070203090400000601,
  0x000000070004080305_040008050200010009_000009000008000200_000600000000000003_000003000007000000_020000000000050001_080400000000030002_060002040000000000_050007000300000400,
  0x000000000407000001_010000000002030006_070003000600000000_000300000006090000_000900070003060802_020006090800070000_000002040001000300_000400020300000007_000000000000020405,
  0x000000020000000500_000005080000070000_020000070501000008_050000090000020000_000000030807000000_000801000000040309_000000000700000200_030000060205090704_000007040000060000,
  0x020000000001000309_030500000000000000_000900000600000200_000000000000000500_000000000400080000_010300000902000400_000102000006030907_090000070004000800_000005000200000001,
  0x090800070006020000_000702000000000804_010500020000000709_080000060401050902_000000090500080307_020905030000040600_030000040109070006_000000000000010008_050400000607000203,
  0x000007000000000500_040600080100000200_050100000207000006_070000000800000100_000000000000030600_030000010004070902_000000000401060009_090500070000000300_000000020000050001,
  0x070609000801000500_080000050209000604_050000030607000800_000000080000090400_000000000903000001_090000000500000700_020807000000000105_000000000400080007_000503000708060000,
  0x000803000005000401_000009000002000000_060000080003000700_010000000000000500_090000000000040002_000305000206070000_000007030000000200_000104000507000906_000008010600000000,
  0x010008050000000000_000005040907000600_000000020801000003_000200000700060304_000000000000000000_030004000000070908_000000000200000009_090002070100000000_000703060409010002,
  0x000700000305080102_000008070100030000_000002090408000700_000506030900000000_000000000800010000_080001000007000004_000000000500070000_000805000603000000_000000010704050300,
  0x070000000001040008_010000000805070000_000004070300000500_050400060003000000_060000050708000004_030708000004000609_000003080507000006_000000000100090807_000800000000010000,
  0x020000090503060400_030809060000070500_050004070100030900_000205030000040000_070400050809000000_090300000401050807_000902010307080005_010708040600090203_000003080000010700,
  0x000300000004020000_040501020000000000_020906070003050400_060700000900000000_090400060201000300_000000000000090000_000000000000010004_050107000006080900_000004000000000000,
  0x000000020109000000_020000030000090501_000109000507020000_000900000801000000_000800000004060009_000006000703040000_000500000900000408_000400000306000000_000000080005010900,
  0x000900000200000000_000000090006000000_050800000000000000_060503020000090000_080001000600000000_070209000800000003_040000070308000901_090000000004000207_000700000000000800,
  0x030102000000000700_070000000009000003_000905030000000200_000000020900080000_040206000003000507_050000000000000000_060008000000000000_090003000502000008_000700080600000005,
  0x060002050800000000_000000020001000000_080701060300000200_040000000007000806_020000030008070000_000005000000000102_050908000600000001_000000090000000008_000600080105000000,
  0x070800040002000500_000002010000060000_050003080006000000_000309000107080004_000008090603000007_000005020000090306_080000000000040902_090000070408030000_000004000000000001,
  0x000304010000020709_090001000000050000_020000000900000000_000003000009000507_070906000500080000_050802000700000901_030100000006070002_040000000008000000_000200090307000004,
  0x000400070003020900_000701060009030005_090800020501000004_000000050000010000_010908030700000406_050006000004000002_000004000000090203_080102090000000507_000000000000060100,
  0x040700000000000806_030000000800010900_020000000100000507_000806020009000004_000002080004090001_090007000600000000_080009000005000400_060000000008000000_070000000003080100,
  0x000809040600050302_000200000000000006_000000080205010000_090002010000000800_000007000000030000_000004000008000501_000006090000000005_000900060504000000_000000030007000608,
  0x040006030701000000_070000000005060203_000300080006040107_000000000002000001_000600050300070002_000500000600030900_010900020503000000_000800000100020300_030002000400010000,
  0x090000000000000004_000502000000000009_000004060000020800_000000010002000400_010000000407000300_080000000003060100_020003000000040008_000000020305000900_000600000700000201,
  0x040700080000020500_020000000500000003_000509020403000700_090000030005070800_070000000804000000_080000090000030000_030807000000090401_050900010307080200_060102000908000300,
  0x000200030000010000_000001000907060305_000507060401080900_050000000204000000_090700080000040500_000108050009000000_020804000000000007_000600010300000009_010000040000050608,
  0x080000000004000700_000006000008040109_000504090000000006_000200010800000604_000001070900050300_050807040000010900_060000030409000800_090408020000060500_020003000500000407,
  0x000009000100000708_000000000000000300_020000000000060100_000900030600000002_000500000009000000_000206000500000003_000008090203000407_000702060804000000_090000000700000006,
  0x000000000800000001_030000050601000002_010500040009030000_050801020000070006_000604090100080200_000003000006000000_000302000000000809_000000000900000300_060905030000000100,
  0x000300090100000607_060000020000000000_000401080600000000_000000000006000001_000607040000090300_000100030000060508_000000000400000800_000006000008030000_000008060209000704,
  0x030900070000050100_000800000600000403_000001000005070000_010009000007000805_000503000004000000_020704000000060300_040000010500000007_000007000000080002_000000000700000000,
  0x000001000204000500_030200010007000600_000407000005000100_000000060000000801_070300000008090200_010004000900000300_040009000506000702_000008040001050906_060003000709010000,
  0x000300090608000700_070804010000090000_000006000300080501_050003000400000806_000000000001050000_000600000000000000_000007000000060005_030500000000000100_060100050204000000,
  0x000007010000000008_000000080300000000_060000090702010400_000000000200070800_090000030001000005_040000000000030100_080300020400000600_000504000008020000_000000000100080000,
  0x000004000005000007_070809010000000000_050006000702080100_000703050000060402_000005000903000001_080001000000090003_000007000000020300_060000030000000000_000108000007000006,
  0x060000000008000004_070800030500020001_000300040207060508_030002080600000407_080006000400050000_000000000305080200_050403000002010800_010907000003000602_000608010900000700,
  0x000100000702060405_000500080006000700_030706000504000801_010205000308090600_000403000609050100_000809010005070002_020900000803000506_050304000200000907_000001000000040003,
  0x010700000009000500_080500070004090000_000009000500000000_020000000603000800_000308000400060000_070000000000040000_000000000000010605_090405030006080702_000800000702000400,
  0x000100000000000905_000009000508000004_000000040000000603_000000010000000008_010905080000000702_080002000407090000_090000020000010407_020700090100000000_000801070005030200,
  0x070900000006000004_060004000001000802_000000000405000006_010400000000000000_050608040000000900_000702010008000600_000000000603000407_040806050000000009_000107000004000008,
  0x000004010209030006_000803050400020000_060001000000050904_000406030105090007_070902000804010503_030100020007000600_000509070008060002_000300090601000405_010607040000080300,
  0x070008090004000002_000402000100070508_050100000002000000_000805020000000400_000900000000030200_020307000900000005_000000070000050806_040500000000000001_000000010205040003,
  0x000000000300000000_000008020904000006_000000000600000005_050000000400090002_000006090800000400_000904000000060000_030001060200070000_000700040000000009_020409050700080000,
  0x000004010002090700_000209000704010605_000107030600000002_040000090000000500_010000020806000907_000008050007020300_070900060000030004_000001000005000806_000006000100000000,
  0x000700000001080500_000000000005030600_040500030000070100_000007000100040300_000000090308000700_000000000000000201_000602000903010005_030800010502000007_000000080607000000,
  0x030001000000070000_020006030000050001_070900010008000406_090504080000000000_060000000007000000_080007090000060100_010008000003090002_040602000900000000_000000060000000704,
  0x070000030208000100_080103060504000900_000000070000000500_000000000009000405_000000050100000700_010006080007000300_020001090005070603_050008010700000009_060009040002000800,
  0x020000060004090801_060100020000070000_000000090000000006_000003000005060000_050600000000000000_070004000000030002_040000000600020009_000700030000000000_000002010809040007,
  0x000304000509000107_070901030000000200_060000010007090400_000005090700000800_090800000000000005_000102060800000009_000200070400030501_050700000100000000_000000000900020700,
  0x000600050300000209_030809000402070000_000500080900000600_070103000000000400_060904010000050702_000005040700090000_000001090000040300_000400000205010807_050308070000020906,
  0x000005060002090400_020007000001000503_000100090305000802_000703040100080006_000800070003050000_000400000800030000_030000000900000700_090000030007000608_000000020608040009,
  0x000000000000000103_030000000000000407_000800000004000600_000700000000060900_000006070008000004_000200000006000001_090304060005010000_070100000409000306_080000020300000009,
  0x000200080507030000_050000000000000400_090000000000020508_000501000309000600_000003000008000000_000000010005000000_030100000000000000_000400000003090805_070000050000000302,
  0x050000030000000800_000007000000000001_000009000008020000_000900020300000600_000000000005000003_040503000000000900_000000000000000000_000002000104090000_030008070002000006,
  0x040000010800030000_030000000500000908_070000000003000500_060000000000000000_000000030100000000_000000070008020100_020004000001090000_000000020300010005_010700000000060200,
  0x090100060703000008_000300000002000601_050002040008000907_000900020001070003_000003000000000402_000001050307000009_000009000000020006_000000010000000005_000000030006090000,
  0x000703000001000805_090104030500020607_060000020007090001_030800000704010002_010006050000000700_000000000100060000_080305040200000000_040001070800000206_070002010005000400,
  0x000004020605000007_010802000003000900_000607000900000004_040008000000000703_060000000807000009_000000000200040000_000503000004080001_000000000000000000_090401060000070300,
  0x000204000300080705_000100070000030000_080000000002040106_000000050703000000_070003000006000000_050008020000000300_000006000200050000_030000000100000809_000800000605010200,
  0x000100000000060000_000904000000000500_000008090000030000_060009040003010000_050000000000000802_000701050209000000_000306000704000900_000800010000070006_000507030000000001,
  0x000000000200030905_030400000005000708_020500090000000000_080000030907000004_000004020000090007_070900000100000002_000600050801000009_000000000300010006_090100060400000800,
  0x090500030000000000_000700000004000506_000100080500070200_030000050400000702_060804000702000100_000207000300040000_000000000800020000_010009040200000007_020300070900050600,
  0x050400000001000000_000600020700000400_000000050003060002_000003000006050001_000205070000000300_060800000002000709_000906040005020000_010004000009000607_020008000007000500,
  0x000300010000000500_000009050000010000_010000000902040000_040000000000090300_000002040000000800_000000080100020000_050200000300000006_030004000000070002_060708020000000000,
  0x000300000702000509_000905000306010207_000001050809040300_010003070605000802_050200030008000001_000809000100000005_070000060500020908_090500000401070603_030000000207000100,
  0x000000060004090500_000300080009000000_000100000000000003_020403000008050006_000000020003010000_010500000006080002_000602000000030007_000901000400000000_000800000000040000,
  0x090003000800000400_000000000000000002_080400000500000003_030800000702060501_000001000004030207_020000000005090004_000300000000040609_000000060900000005_000009000100000000,
  0x000003000007000006_070201060400000008_000000080000020000_060005000803000700_000709050000080000_040000010009000000_000000000002040600_050904000100070800_020007040000010005,
  0x040000010009030708_000108000000000000_060000000208040001_000000040700000600_090000000001000300_000400030906000000_000000000402000000_000800000000090000_050009000100070402,
  0x000800000901060702_000302000005000000_000100060002000000_010207000004000608_000608000007000900_000000000000000000_080900050000020000_000400080700000300_000000040200080109,
  0x000206000004030001_000007000002000804_000804050601000207_000009000000040306_000000000000000902_000003090000000000_070005000000020400_040000080709050600_060000000400070000,
  0x030000050702000801_000405060001000000_020008000009000600_050706090000000002_040300000200060700_000000000607000405_000000000100000900_090807000504010300_010004000900070000,
  0x030204000007000005_070500000000000004_000001000004000000_010300000802000000_020405010009000008_080709030400000602_000000000200090407_000600040703000801_040000050901030200]
theorem mixed_8_ok : mixed_8.all fastOK = true := chunkOK_sound _ (by decide +kernel)

/-- `mixed` (10000_mixed_puzzles.npy), boards 2250..2499 -/
def mixed_9 : List Nat := [
  0x000806030900000007_000000060007000800_090200000508060000_000008000005040602_000900000000070300_000500000002000901_000000020400000000_000700000000000004_020600070100000008,
  0x000009000000000002_050007000601090003_000401020300000000_000000000206050100_010806000000000000_000002000900000000_000700060000030001_030600090104020507_000000030800000906,
  0x000308000509060000_000502070000090800_000000000008020001_030600050100080000_000901080000000307_070800000902000006_080000060000000000_000403000805070000_000206090000030008,
  0x090106070003000400_000205080600000900_000807020000000605_060000010700000009_070300050200060100_020900000400000000_000409060107080002_000602040000000701_000000000802040000,
  0x090000000000000001_000001000000040009_000706000100080200_000304000006000008_000000020007000000_000200000000000104_000003060005000007_000100000704000802_000000080200000503,
  0x010500000009000807_030000000100000904_000900000200030500_000603020700080109_000809000301040000_000104000000000603_090000000000050008_000705040908010302_080300000000000400,
  0x000803010700000000_060000000000000000_070000030400000000_000000000203010800_030900000100050000_080000000000000203_020607080000040901_040000020900070005_010000000604000002,
  0x000706050201000300_000000030000060000_000000000400020507_010003000800070200_050800000300090000_000902000500030000_000008000900000000_040000080007000000_000307000000080006,
  0x000308050000020400_000000020004000000_020500000309000000_040700060000090105_050009000007000600_030001000900080200_080000000000000501_010200030608000904_000400090001030802,
  0x000000000000000800_000900000000000003_000304000200000000_000805000400000000_060400000003000005_000007000500060408_040000010009000300_080000000000050100_000203000804000600,
  0x020005000406000003_070000000002000008_000009000000000400_040006010000000002_000500000604080000_000002000300090004_010000040008030009_000004000903070000_000908000007000000,
  0x020000040600000000_090401000007050300_060007000001020900_080600000002090100_000002090300060008_030000060100000702_050000000006000000_000300010000080007_070200000000000605,
  0x000900000008070004_000004000001000000_080001000907020000_030006000000050009_020705090800030001_040100030200080600_090000000000000002_000500080000040900_010000070009060005,
  0x070000080001000009_000900000400000308_000103000000000000_040000050009080000_050607000008030004_010000040600000500_000008030007000000_000200000000000005_060004020005000100,
  0x000008050400000100_000001000000000408_050000010008030200_080006000209000000_000000000504000600_000009000000080000_000000000001000003_000300000006020900_000900040300000001,
  0x010000030600070000_020000000000010005_000000010000060403_000000000003000804_080000000004020000_000003080200050007_000600000008000500_000807020306000009_000000000500000006,
  0x000608000701040502_020501000600090000_000400020000010000_080003050000000100_000007000000000003_060104000802050000_010700040008030905_040005000000020008_090802060003000400,
  0x080000000000000009_070200080600000004_000603000009070000_000006000200000003_090805000007010002_000702000000050000_020308000000040001_060000000000000500_000100090004000006,
  0x000200000100000300_070000000000000208_060400000007000000_000600000400000009_000000060000020800_080900000000050006_000800000304010705_020100000005080000_000500090001000602,
  0x000009000007000004_000408060103000000_000005040800070600_000000070004000005_000500000000010000_080700000000040302_050000080000000000_010000090000000000_000000000000050001,
  0x010005080402070009_040000070000030100_000600030005080004_000900060704020300_000008000500090001_020403090000000507_000100040307000002_030009000000040000_070004050600010003,
  0x000003000004000000_020000030000090000_000006090000000003_000700010000000009_000000000000050006_000608000700000100_000004000002010008_090000000501000200_000000040006000305,
  0x000502080301040700_040000090000020000_000701000000000000_060207030000050009_010400000700030600_030805010900070000_000104000009060005_000600000200000904_050000060100080207,
  0x000002000700060300_060801000300070905_040003000600080201_020006000507090008_000008090000050100_070900040801020003_000009000103000000_080007000000010500_000600070005030802,
  0x000800030000000006_030000020000010400_070400000801000500_000009060100000000_050000000000090600_060700040900000000_090600000200000005_000002000400060107_000000070000000009,
  0x080109040003060500_000006020000040800_000000000506000900_000500010609030000_000003050002000100_000901070008050400_070302090804010600_000000000100000000_010005060000080309,
  0x000001000900000000_050002000000000000_090800010703000502_080006000300020407_070905000600000300_000003070000000000_000400090200000005_000500000004000003_010007030008000000,
  0x020409030700060800_070600020400010000_000001000900000400_000000000300000204_000204080500030107_000000040200050600_000900000800000700_040702000600000000_050308000000040900,
  0x040100000000000008_000700010900040605_000002080700000009_030000000801060000_000408000006000500_000201090000030007_010000000307080000_090000000608000100_020006050109000000,
  0x000100000000000005_000003060000000902_000004000000030100_000000000009000008_000300080000000000_000900070000000500_080000000400060000_000407000005090001_000601090002050000,
  0x090000000700080400_000006000800010000_050208000000030607_000501070000060900_000900050008020701_000007010000000004_010000000506040308_000309080400000000_000800000100090006,
  0x000500000100000700_090000070600040302_000007040900000800_050000010000000008_080206090007000001_070001080200050006_040005060800020000_000600000004000507_030000050001090600,
  0x020007000800000000_000001060200090000_000600000005020000_030000010700000000_000100050900030200_000704000300000000_000400030508060000_000000000000000000_000006020007000803,
  0x000500030800090600_000600000402010000_000007090601000300_000000060000000004_020700010000000506_000300020005080000_060000070000020009_030802000509060000_070001080200000400,
  0x060904000200000708_000207060000000005_000300070900020400_000003020600040500_000502080409060001_000000000005000000_000008000000000000_020006010000090003_000000000000050000,
  0x000000000100000007_000001000000000600_050700080000000904_000000010000050700_080006020300040009_000900060000030000_000000000400000200_030205000701060408_000009050800000300,
  0x000608070900000500_070509000000060300_010200050000070900_090800030400000705_000104000000000800_030005000109000602_000400000005000003_050301060004000000_080000000002050000,
  0x000502060307090000_060003090001080007_010907000008030005_090805010003020700_030104000002050900_020706080005000003_000201030800000009_000600000009000002_000300000100070804,
  0x000900050000000602_070005000006080000_000000040000000000_000509010700000000_000000060000070508_000200000000000906_000702080604030000_040000000009050000_000300070500000204,
  0x040200000800030700_000000000907000000_000005020000000401_070000080400000002_000004000609000307_060500070003000800_080007030102040005_000009000000000103_010300090004070600,
  0x080200050000000000_000301020000000700_070006000000000000_000800000401000005_000002000000080000_030900080000040007_000708000900030600_000004000002000008_000003040000000501,
  0x000005080601070403_000000050000000000_030007020009000000_000301090008020706_020000030006050100_000000040102090000_000408000900000002_060003000004010000_000002000800040907,
  0x080000040000030000_010204000000000900_030000000002000004_060900000000000501_000001060000080000_000000000008040006_090000070004000000_000706000500000000_000003000000070402,
  0x000700030200090104_000401060007050302_050000000900000806_040005090700000208_000903000000000700_000800000300000009_000006000000000000_070200080403010000_030000000500080007,
  0x000700060800000000_010009040203000006_000000000507020000_000005000900000000_080000000406050000_030900010700000002_000008050100040000_020004070000010003_060000080004000205,
  0x060000000005020703_020004000006000109_000005030009000006_070006090008000000_050400060000090208_080100000000000607_040802050603070000_000500000407060300_000000010900000805,
  0x060203010004070800_080704030200000601_090105080000000300_070806000000010903_020509070001060400_000400060809000200_040007000000080009_000608090500000704_000000040708030100,
  0x070008000600050000_000100000000080609_090000000002000403_020003000009000000_040906000700030508_080701060305000900_000007000900040000_060004010207090305_000000000408000107,
  0x000001000406000000_000000090000000000_000300010700090006_070004050009010000_000006000000050003_020000000600000900_000407080002000000_000002000104000500_000000060000020400,
  0x000001000907050604_040000000001000208_060900000005030007_080602070009040000_000000000006010700_000500020003080000_030109060708020405_050200000304070801_000000000500060300,
  0x020008090000070000_000900080700020003_070600010000080009_000000000001050000_000400000007060301_000002030005000800_000806050300010000_000200040608000000_090000000102000008,
  0x000005000709000608_000007000105020900_020109000608000000_080006000000050309_000000000006000700_000000000300000400_000600050000000000_000900000204000000_000408000900000200,
  0x070000000400020000_000000000005000800_000900000002060300_000006000004000100_000400020500030000_080000030000090004_000603000000000000_000800010006070400_000009040000000005,
  0x010500000309000200_000902000000000000_030004000002090100_090100000000030000_000400000203000000_000000000100000605_020000060005000904_000800000704000001_000700020000060000,
  0x000300000602090405_080004010900030600_000500030004020000_050600000009000000_010807050000060000_000000000007080000_060000000008040200_000408000500010000_030709000000000806,
  0x040803000000000200_000000000003060000_000006000000000903_000000000000000007_000708000005000001_020001000700000000_000300020000040000_010200000004050008_080005000900070302,
  0x000407000802090000_060008090403010007_000900070600040200_070001060000000300_000506000000000000_090004000100000006_000709000501000800_000600080900030100_000000040006070902,
  0x030500000000010806_000200060000050900_010006050903020000_080000000002060100_000407030106000000_020600090508000007_060003000409070500_000702000305090000_050900000607000401,
  0x000500070000000000_030006000000000200_000000080600040000_000000000500080007_000900000000000000_040000000706010002_070009000002060001_000000060105000009_000001030900000800,
  0x000300080007060001_000609000002030007_070200030600000904_000103000000070500_020806010700040300_040705090800000602_060002000009080003_000001070006000400_000407000508090106,
  0x000800000305040206_060501000000090700_000304000900080500_000402000009010600_010905000002000007_030608040000000000_000000000100000005_000000000008000304_000006000003070000,
  0x080006040000020000_000407000000060805_050900020008000100_090000080400000000_060805030902010704_040000070106050900_000008000003090001_010000000704000000_030504090001070002,
  0x060004010000050008_000007000200090401_010209050400000000_000008020501000009_000003080000070000_020600070900000000_070400000000000900_000000000002000800_030000090007000005,
  0x000405000200000600_090207050000030800_080106090304000007_020000000700000406_060700020409000300_040509000000000201_000800070100040000_010604000900050000_070903000508000000,
  0x070003000005080904_080000000700000006_060209040008000001_000800000904010003_000900050000000000_040601000203000709_000000000407000000_090000000800000000_020408090000000307,
  0x020001000004000000_030405000007010000_060700000800000002_000100000000000200_000000090006000000_040900000000050003_050007000002090004_000004060003080100_000000070000000300,
  0x030400000100000005_000000040000030200_000002070009000801_040805000600020900_000701000003080004_060009000204000007_010000000008000002_080000050401000000_070000000902000400,
  0x080000000000000903_000906000000010008_010000000000000000_040600000000000001_000000000002000800_090007010300020006_000100090506080002_000000070100060300_000700000000000004,
  0x000009000000040006_020500000004010000_000004030000050000_000100000007060003_030400080000020000_090000020300000500_000907000000000001_040000060000000805_000000090000000400,
  0x020105060708030009_080700040000050002_040009050001000000_030000000000000607_000007000000090201_090400000607000300_000903080000000000_060000070009000000_070004000000020903,
  0x040005000001080000_090301070000060000_000700000004030000_010008000009040600_060407000000000000_020903010400000800_000200000100000400_000109000000020000_050000060203090700,
  0x000000000805020006_000608000001090503_050000040000000000_090000080500040001_000000000900000708_080000000104000009_060005000002000300_030802060000070100_070001000300000002,
  0x000102070005090000_000009080106030402_000400090000000000_000500000800020000_000000010000040000_000904050000080601_090200040007000000_010000020908060004_000805000601070209,
  0x000000000005000703_010000090700000002_000705020000000004_020009060004000000_000300000100020000_070008000002000000_050400000000030000_000000030006000007_000200000000000009,
  0x000800040302050906_050009000007030002_000300000600070000_000700050100000004_090000030004000607_000402000700000000_000001000400060800_040500070006000300_030200000501000700,
  0x000005000000000301_000601000000000000_040302050700000806_030700000000050004_060009000004010708_000100000005030600_000006040000080500_000400000000000102_000200000008040007,
  0x000300000600020701_000900000701060500_060107030002000000_080600040307050102_070405000200000806_010200060005000004_040500070003000600_090700000000000305_030800050400000207,
  0x000609020001070003_010400090307000200_000703060008000005_030006000102080000_000004080903000602_090000050000000300_060002000800000004_000000070004000800_040807010209000500,
  0x000000000301000000_010006000000000000_090704000000000000_000903000105000002_070405000000090000_000200000900000400_040100000003070800_000602070000050001_000807010600020000,
  0x030600000005080109_000000000000070000_000000000803000506_000003000008000702_020000060100000000_000009000002040600_090000000500000401_000000020000060000_000700010000000205,
  0x050700000600000001_000800000200000000_010004050809000207_000007000506000002_000900000703000000_000400000102070608_070209000400010003_040000000900000006_000001000300040809,
  0x000004020706000900_000000000003050000_000203000000070001_010500000000040003_000000080004090000_000000000900000106_070008050000000002_000300000200080000_000000000008000709,
  0x000000000800000006_080006000502000307_000405000300000000_000503000100060000_090200060000000000_010000040000030000_060000030007000100_040000000001000208_000100000009070000,
  0x060900000007000000_020007080000000000_000800000609050200_000000050700080000_000000060000000105_000300010002000400_080600000503010902_000503000000000000_000002090800030500,
  0x000002040800050901_000000020000040006_090000000006000302_000108050702090604_000005010008000003_060200030000000500_000500090200030400_010309000400000000_000700000005060009,
  0x000000000200060803_000100090000000400_000605040800000700_000300000000000007_010500000704000300_070000030000000100_000002070300000005_050003020008000000_000001050900030200,
  0x050400000600000100_000702000501000406_060000000004000005_000004000106070003_000009040300000500_000100050702060004_000000060209040300_000000000000090000_000906010000000000,
  0x010703000600050900_000002000700000100_000008050001040703_000000000108070604_090400000507000308_080007040000010500_070000000906000000_000106000005090000_000209000803060000,
  0x040506000009000301_000000000100060400_000109030600000000_090004000503010600_010000000000090500_030005020000000704_060000000005000000_080300090400000100_050401060000000000,
  0x040200000000000900_000000080005000000_000700020000040600_000008000000000000_070006050000000004_090000000604080007_020000000506000003_050000000800000201_000801000302000000,
  0x000000090800010703_000800010005020004_070901000000000006_080405000907000100_090006050300080000_000007000100000605_000600040201000009_010704000500060200_030009000000000000,
  0x000605000100040007_020307000604000500_000001050000000609_080000000509000104_000900000806000000_000200000401090800_070408000900000000_060509000008070003_030002040000060000,
  0x070601030800020004_020800040000050000_000000060700000003_040500010003060000_060000000000000000_030008000000090002_000006020400030000_080300000006070000_000005000008040000,
  0x060000020000000904_000100000005000008_040800090100000000_050000080300000209_000000000000070003_000000000409000006_000005000700030401_000400000000000005_010706000000090800,
  0x090800000007000203_040100000000070000_030000000000000000_000009000305000807_020008040706000500_000000090008000006_010000000504090300_050000000001080000_000204000003050600,
  0x030501070608000402_080400030500010706_060900000001080000_000009080704050001_000803000900040600_000104050306020809_090300020807000000_000706000005030008_000200060403070005,
  0x000000010000000000_000100080904000005_000000000500010000_000702060005030400_090006040703000001_000004000200080700_000300050400020108_000001020000000003_050008030000000004,
  0x000000000900080002_010004080000000503_000302000700040000_000200090300000605_040509060801000207_000106020000090000_090800030006050000_000703050409000801_060005070108000309,
  0x060900000700010000_010007000209030000_000000000000000700_000200000000060000_080000050601020007_000100000300000500_000700030000000400_000804060000070003_050000000007000002,
  0x040703010000060000_090806030005010400_050000060000000003_000001000000000007_060500040200080100_000000070601000300_000409000300000800_010008000500070006_000000000100000000,
  0x000000000900000000_050002000008000000_000000010500040008_060400000100080002_000009020300000100_020501000000070000_040000000009050000_030005070006000000_000600000401000800,
  0x000000000000030500_080003000905000000_050709040000060008_000000000309000607_070006050408010003_030500000701080904_000300090504000800_090805030102000706_020004080600090305,
  0x000309020000000000_050008070000000000_000400000301000807_000003000005000008_040001080000000000_080600000000020000_020000000900000004_000800000007000203_030904000000010006,
  0x000005000000000600_000000000800000002_000003070000000000_000006000408000501_080000010500020700_000000030000040000_000002060005070000_030000000700060109_000607000000030005,
  0x030008090000060002_060700040000000001_000009020100000000_020006010003000904_000000000005020000_050000000200010003_000001050900000008_000204000001070605_080305000002000009,
  0x000200000007000009_090001040000000200_000008000000050400_000003020900080001_000100000708090000_000009000000020600_000000000000000000_050400000800030000_000800030006000007,
  0x020000000500000001_000009000000020005_000300000009000000_050400030600000000_000100000400050000_000000000000060003_090600080000000000_000001000300000604_000004000005000708,
  0x000003090000000500_060000030805090007_000500000000030608_040000010500070000_010300080000060402_090708000400000301_080001060009020700_050600070104080903_000000000208040000,
  0x010000080709050400_000507000300090000_000609010205080307_000700000002040603_060105000800000009_000000000007010800_000001000603000700_020003000508060001_000006020401000508,
  0x000000000000070609_000100070000000000_050000000000000002_000000080000090001_010200000500000304_090800000004000000_000000020000000000_070000060900040000_040602000007010005,
  0x020100040003000000_070800000602030400_000900050100000008_090000000000000000_000302080000070000_000000070004000609_000200000400000500_010609020000000300_000400000006000900,
  0x060504000000000900_070300000000000106_090800000700000203_000100000500000700_000000000000030000_040607000301000000_010000000000090000_030000070109000000_000908040000000300,
  0x030000000509080200_000008000000000000_000600000703010900_040000090007000600_000002000800040300_080900000000000000_050007020000030000_000000010000070005_000300070005090002,
  0x000000000003000800_050001000000000000_090800000100040002_020005080704000000_000600010500030000_040009020300080507_000006050007010000_000500000802070600_080000000000020305,
  0x070005030008010600_000006000700000005_000003000504000900_030708000000040000_000000000000000500_000409000006000107_010604000000090800_090007000002050400_000002040900000000,
  0x070009000102040000_050800000004000100_000601000900050200_020406000005080000_030000000000020605_010000020806000403_080007040600010300_000100070008060504_000204000000070008,
  0x070000060002090000_090604080000030000_000008040905070600_020807050000040900_000000000000020000_000309020000000105_000703090604000000_080102070500060409_000006000200050000,
  0x000009070000000006_060702010508000304_000304060200070000_020008000703010609_000001080600000007_000603040901000000_030000020400000008_000100090806020700_000200030107000000,
  0x020500010800000300_000304000006000200_080000020300000504_000102030608000907_060900000400000102_000003000002000000_000200000000050800_000801000009000400_000405080000060701,
  0x000603020401050709_020907000800030001_010504070003060002_000705060208010004_040100030009080506_060308000005000900_000009010500070600_050001000607040003_000006080302090105,
  0x000004000200000307_000206090507040008_080007010304000006_000000020100000004_000001070000000203_050000000406070000_060000000002000009_000000040000030605_010409050000000002,
  0x080906010000000702_050200060000090000_000000000509080004_000000000006010409_060100000905000208_000400080100060000_020609050000000007_040000000000000000_000508000001020006,
  0x000009000708000000_070000010502000000_000005000400000700_000500000000090000_000000000201000006_000400050309000100_090800020000070003_030602070000000001_050700030000020600,
  0x040000000000000500_000007000000000800_000200000809030104_020000000700080005_090001000000040700_000004020005010000_070000060000000008_000600090002000000_000002080007000409,
  0x000501080900040206_030209060400070000_000408070001090005_000100000000050003_050807030100000000_040006050009000002_020003000704080500_000000000008000007_000000000300000401,
  0x040801000000000702_090200080000050000_000700000100000000_000000000000000000_000907020500080003_000004060000070209_080406000009010000_000300010406090807_070009000000000000,
  0x080607000000000004_050002000000000001_040301070000000908_000804000002000106_000106080500000000_000005000006000309_010003050008070602_070209040000010800_060008000107000003,
  0x000001000704080000_020003000006000104_000008030105000009_050000000200040003_080904060500000700_000000010000000005_000002050000090007_060400000302010500_070005000000000602,
  0x000000040600000000_000200000008050000_040609000000000300_000000000000000009_000305000400000000_080004010000000500_000000060009000700_000000020304060900_000008000005000002,
  0x050000010000080406_070006040500000200_040002000603050701_080001000300060000_000007000400030002_020309000000000508_000700000001020609_000600000700010000_000208060000070305,
  0x000006000004000500_000400060705000800_000007080900060000_000001050800040000_000704000200000008_000508090406000000_070000040008030100_020100070609000405_040805030100000609,
  0x000004000000000000_060900000000010000_000302000701080004_020005000000000400_030600000900000000_000000000302000500_000703000005000002_000500000006090300_090200000000040700,
  0x070503010000000000_060009040000020000_080000000000000000_000000000005010002_050602000000000007_000700060000080009_000006000001090000_000800000400030005_000000030000000000,
  0x000003040005000000_000000020001030605_010000000300000004_050001000706090000_090007000000000008_030208000500060000_000000060008010500_000000000000040700_060905000407000300,
  0x090003040001000002_000000000002060509_070200050908000104_000400000100020705_010005020007090400_000700090400010600_020007000000080900_000900080006040307_000804000300050200,
  0x040807000000000009_020006000400000508_000900070000040600_000400000000000805_080003000002060001_070002080005090304_010204030000050906_000708000004000102_000605000000000400,
  0x000100090700020600_090000000003000000_000000000100030008_000200000000000004_030400000000000009_000800000006070100_000001040000090000_000300000000000801_000904070801000200,
  0x080200000405090000_000000000007000300_000007000000040002_000302080001070005_090000050704060203_040705030200000000_000800070602000104_000500040308000009_000400000500000000,
  0x060400090000000000_000000000705090402_000209000000000006_040800000600000000_000900080500000000_070100000200040000_030500070000000200_000004020308000509_000002000406010003,
  0x000006000000000000_000000040701000600_090700000000000000_000607000000090000_020903000007010500_000000020000060400_000300000506000200_070102030804000000_000405070000030000,
  0x000007000800000006_000900020000000003_000000060700000200_010000000008040700_070809000006010000_000504070003060008_040605000000000000_000002000000000000_000003040002000000,
  0x000001030000000000_000007040806090200_000008000000040000_000005000000030700_000000060500000008_040000000008020506_000002000000000003_010000000609050800_050800000301070900,
  0x000001050307000600_000603000801050000_000004000000000100_000900000000000700_080105090702030006_030006000504000000_000009060103000800_000000000009000000_060200070005090000,
  0x000003000000000000_000000080009050000_000000030006040007_000901070008000004_000400000900080703_000000000000000005_000000090100000006_000002000003070000_000004000700010200,
  0x000201000006040007_070000010903000000_090006070000000103_060105000007000209_000300050600000000_000008000100050000_010602000005000300_000709000300020401_080400020001000600,
  0x000000000500000200_000005000004000007_040003000700080605_000004000006030100_020100000000090000_000300000207000400_010000040000000000_030000060100070004_000408000000020901,
  0x060708020000090000_010400000000080602_000009000000010400_000100090700020006_080002000006000000_000600030200000800_040001060507000009_000005040000000108_030206000000050700,
  0x000200000004000000_000009020600070005_000800070503090001_000000090000000300_000000060000050000_000506000002000000_000000000400020007_020000050001000600_000007000200010900,
  0x000704020000010500_000003010405060207_020105000700030804_000200040006090708_000600000107050000_070508030902000601_050307090201080406_000406070308000100_010002050600070903,
  0x040009000000030005_000200090504000000_000800000200000009_070000000000000004_000104050006020000_080302000009050607_020607000903000000_050000070100000403_000003000600090000,
  0x020000000000000009_000100040208000000_000805090107000003_000201060800000504_080000070400010000_000406000001030000_000000000004000900_090000010500000006_040000000000020000,
  0x000500000000000000_000900000603020700_000007020509000000_000004090005080300_010800030204000000_090000060000040002_070402000000030108_000100080002070600_030008070401050209,
  0x000203050009000704_060000000203000501_000500000604000002_030000000000000209_090008030000000100_020701040900050800_000007060300020908_000002000408000000_080906000007030405,
  0x040000080005060100_010806090400000500_000307010006080904_000000000000040000_020008070000000005_000604050000090007_080002030009000000_000005000008000406_000103000500000009,
  0x090002000007030000_000000090004000000_000700000800000000_080907000000000600_000000080700090003_000503060400020007_060400000208000001_000308010006000900_000201000003080000,
  0x030508000107000000_090007050400000301_000200080000060507_050300040700000609_000104020900000800_000006000503000002_060700030205000000_010000070600020900_020403000001000700,
  0x000500000000000000_060000000200040001_040002000706000500_080900000003000002_000004000007000800_000000000008090000_000100000002000000_020007040300000006_090000000000020008,
  0x000600040900000001_030008070500020400_050401000600030000_080009000005040003_010000080004090502_040002030100080007_000003050007010900_000000000000000200_000000090002060008,
  0x020000080000000700_090001000700020006_000000000602010003_080300000400000000_000002000800040300_000104020003070000_000000000004080200_010207000000090005_040008090200030000,
  0x030108090000000000_000002000400030608_000506020308000107_000400000200000701_000001000009020000_080205000000000009_010900000006050000_000000040500000906_050000000000010004,
  0x000000000001000800_070001080400000005_040300090000000007_030600000000090102_020000000000000000_000000030000000400_000700000300080609_000400010009000000_000500000800000700,
  0x000000000205070000_060508000400020000_070203000600000800_000406070000000209_030007020004060105_010000000800000000_000704000300000500_000600090500000700_000305000002000608,
  0x000708000003000501_060902070000000804_000000080000090700_050009040300010608_000801050600040000_070000090801050203_080604000009000000_000107000400080300_000305000008060000,
  0x000007090000010000_000000080000000700_000600070400080000_000000060007000802_000000040502000000_000000000000000009_010500000803000600_000903000000020500_070800000000000001,
  0x050000000003000900_010603000000000705_090000050100000000_030009070000010000_060800040500000203_020400090000050600_000100000007000800_000006000005020000_080300000900000506,
  0x080400010503020000_000103000000000000_050009000700000006_000000060900070000_090000080201050000_010002000000000000_060008050100000002_000000090000060700_000905000006000000,
  0x050002000904000700_070603080105090004_000009070600030001_000305000700000000_090407020006010800_000000090301000407_000500060400070000_020700010800000905_030000050007060000,
  0x080000000000000600_000001000500000200_040002060000000109_060400090108000000_000000000705000000_000500000006000000_050100070600090000_000209000001000507_000800050009010300,
  0x080107000000050002_030000070205000000_040500010809060000_000408060301090207_090003080007040600_070001020004000800_000700090600000500_000000050008070000_000000040002000309,
  0x060001020000000400_000009000501020000_080502060000090301_000000040203010006_000400000000000207_000200070800000900_000103080400060709_000604050000080000_000807010609030004,
  0x050000060008000004_060001000000000000_000902000500010003_000500000800000000_020000000000070908_000007000000030000_000300080000000006_000000000003020000_000204010005080000,
  0x000600090001080302_040008000503010009_090000080600000405_000000060004090001_010405030000000000_020006000100030700_070002000000000000_000000040000020800_030000020009050106,
  0x000608000000000000_000907000108020000_000104000006080907_000502070000000800_010709000800030000_080000060001000700_090800010400000302_040201000000000000_070006000000000009,
  0x000000000800000907_000000050900040008_010000070004000203_030006000400000000_000000090000070000_000500000100000406_000007000500030801_000304010700000009_000900000000020000,
  0x000700000009000203_000809000000000001_000504010000000608_070001000000000000_050908030000010702_040600000100030000_000003000000000009_000000000506020300_060400000000080007,
  0x000000010400000000_010609050000000000_000000000000000006_000906000104000300_050700080600000100_030000090700000802_000000000908030001_060108030000020000_000300040001000608,
  0x000000070000090400_010009040800000006_020004060903000807_000002050004030000_000900010308000005_000000000009000704_000403080001070009_090006030007000100_070001090000020003,
  0x090103080000000002_000005090100000400_080004000006000000_010307060005020900_000009020000060000_000002070009080105_000900050002010000_030500010900000207_000000040000050009,
  0x060709040008000200_040000000906000007_080200010500000406_000000000700000004_030007090000000100_000000000400050709_020000000800000000_050800070000000000_000000050204080000,
  0x050600010000040207_070003000000000000_010900070500000800_030009040000000000_000201000000000400_000000000009020508_060000000300010902_000000020006050004_000000000000000006,
  0x000100040009000200_060005000200000000_000209050000000600_040000020000060000_000800000000000400_000002000300070000_000004000001080000_050000030000040009_000907000000000300,
  0x000003000900040005_000400000000000200_000501040208000009_000304090800000506_020600070004000001_070005060003080402_040106050309000000_000000020000050000_050002000000060903,
  0x010000000000050800_000000000800000006_000503000000020900_000102000000000308_000900020300000705_000807000000090002_000200000005070000_000008000209040501_000000070000000000,
  0x010807020009000000_090205000306040800_000000080007020000_020904030000000000_000000000700000000_060703000000000005_040000000008000200_070000000901080500_000500000000000004,
  0x020000000000010407_000008000104000006_000000090703020008_000802000500060100_060000040200030009_000400010000050002_010300000002080005_000204000008000000_000500070901040000,
  0x000200000005060000_000000000006010000_060305090800000400_080001000600050300_020000000903040008_000904000008000001_000400000100080006_000603000204000000_000000060509000000,
  0x000300000000020007_060400010000000009_000200060007040000_020004090800000000_000905000002080000_070000050003010900_080002030905000004_040000020600090000_000000000704050000,
  0x000000010009000803_000000030002090000_090300000008040000_000600080100000000_000208000905000704_040000000000000008_020000040800050000_050004000000080106_080000000006000000,
  0x000400000000000907_000807000300000005_010009000800030400_050000000008020004_000000000100070506_070000000000000000_000002080400000700_060005090001040000_000004020000060000,
  0x070008030001020900_000000000000050100_050600070902080400_000000090004000002_000705000306000000_090200080000000300_040009050007000000_030000000000000005_000007000000010200,
  0x000002040509000307_000700010006000200_000603000000000901_030001000700040000_000208000000010000_060400030105090000_070000050001020000_000504000003000100_020100000407030600,
  0x010800030000040007_070005000100000208_000000000700090000_000709020000080400_060508000003000100_000201000006000700_000000000002010000_000002010807000005_000003000605000000,
  0x000000000100000209_000900000000000005_040002050000030700_000006010000000804_000004000000070603_030208060007000900_050801090706000000_020003040800090000_000409020503060000,
  0x020105000304070809_000000000009000200_080000000501000400_000507000008040602_000000000007050100_000000000000080007_000004000000000001_050900070400020300_000200000805000000,
  0x070002000000060000_010006080200000400_080000010700000305_000400030008050201_020100000007080603_030600000000090000_000000000000000002_000009000100030800_000700000800000500,
  0x000703040002000000_080605090100000200_000401000605080700_000000070009000308_000300010004000907_000907080000020100_000009000008000502_030800050000070406_070500000000000801,
  0x010009000008000005_000000010009060700_030000020600040009_000400000007000003_000000000001000007_090008000500010000_070000000200080506_020000000804030900_000000000000000400,
  0x060000090500000803_010308060407000900_020005000000040700_050200000000090608_000706000800030000_030000020906000000_000009070000020005_070603000005000400_040502000000000100,
  0x000400080500030006_030000000000080500_050000000001040900_000007000006000005_000005020708000003_060003000009020000_000002000000010609_090504060002000008_000001000000000004,
  0x000503040600010702_000000000001000006_080600070200030904_060008020000000005_010200000800000403_000900000100000208_040000030000050600_050306010900020000_000007000006000300,
  0x030406010502070809_000109040800000502_050802090706040003_010204060000000000_000600020005030008_080003070009020601_040000000901050006_020905000607010300_060301050000080907,
  0x000100000708000605_090600030001000208_000702060009040000_000007000300050900_040500080102000000_010306070000000000_000900000000060000_070000000004000009_060003090000000000,
  0x030100000509070008_000508000000000100_090000000001000000_080600000000020000_000000080000000004_010000000000080900_000400090307000000_060300020100000507_000007060000000300,
  0x080607000402000503_000500000700000004_000000000001060000_000700020300000001_000100070500030002_030002000000000600_070400030100090200_000006000000000100_020000040600000300,
  0x000004020000000500_000006090500080000_000000000000000009_010002040009000000_000000050006000300_090500000000000000_000000010000030807_000809070005000000_040700000200000900,
  0x000000000601040009_040001000500060302_000000020000000000_050003070000000004_070008000004050000_090604010200000007_080007000006000203_000400000800000100_000002000000000400,
  0x050000000600010002_080001020000000900_090302000000000006_000100000000030009_030000000201000500_000007080003000200_010400090000000000_070200010400000308_060809070005000100,
  0x090000010000080003_000000040700010905_000006030809020400_040000000000000006_000002000603000004_010607020904000308_030005090407060000_000400000208000000_070800060001040000,
  0x020906000000040007_000701060204000903_040503000700000206_000000000802070309_050300000009060008_090800000306000002_000005000008000704_070009020405000001_000408030007020605,
  0x000000090400000000_000005000002030100_020704000100090600_000000020006050009_000609000700000300_050000000009000407_000500000001000700_010900030007040506_070000000000000003,
  0x010000000800030005_020800000600040109_090600000104000800_000900050300060008_050000000706020000_000700090008000000_000009080000000000_070000060000080003_080506010403090007,
  0x090208000407010000_050000000900060704_060704000000000809_000105000000030000_020903040000050607_000806000000090400_080600000204070000_030007010000040002_000000000009080306,
  0x000000000008000300_030008040900000002_040000000600080000_060709050100000208_020001000300000000_000000000200090400_010007000805000904_090004000003010806_000002090400070003,
  0x000500000000000700_000000000000050006_000300000007000001_000905000002000607_000100000005000403_000806000001000200_000009000500000002_010700000200000000_050000030000000904,
  0x030009050200080007_010802000000040500_000005010804090200_060508090000000700_000007000000050001_040000080007000902_000306000705000000_000704030000020008_000901040000070000,
  0x000300000604000002_020000000008050407_000007090200000000_000900000801000003_030100060407000009_000400000900010200_090000000706020008_060700080000000000_080200040009000600,
  0x000006080000000005_010000050607000902_000500000004010800_000000000000050000_050008060400020107_070001090502080604_000000000300000001_000005000001090000_030000070905000408,
  0x000000000006080000_000300070201000600_060500040803020100_000000030400000500_030000050100060002_000001000000000000_090002000005040800_000003000600010205_000805000300090700,
  0x000000050700020000_000001060004000705_070200000800000600_080000000005070409_000703000408000506_000504070906000802_060307000000000004_000109040607080203_000000090000060107,
  0x030401000000000800_050600000000030000_070009030000000402_000000050302000000_060705080400020100_000308060700000900_090100000605000000_000506000000000300_040200090000000006,
  0x030000000004000100_090006000000000400_000004000500000000_020608070405030900_000703000001000002_050900000800000000_060005080900010204_010000000200080307_080000000100000500,
  0x000006000100090005_070500000000000400_010000000300000208_000001000700000000_000000040600000001_080004050900020000_000000000500080000_030007000806040509_050008010003000702,
  0x050000000000000000_070000040003050200_010003000805000400_000905020000040003_040000000000000600_020306000000070900_090700000000080004_000001000000000700_000008070400000302,
  0x000100000304000000_000200000501000008_000400000008020001_070900060005000000_000500010000000006_000806000000000000_000009000107000004_020000080000010300_010308000402090000,
  0x060700000103020405_020500040609000307_040308000205060001_050904000000000002_000000020508090000_080002000304050706_070805030406000200_090200010007040503_010003050902070600,
  0x020905000800000006_000004000902000307_000700000000000000_000009000701020600_000000060200090000_000200090000000000_040106080009000000_090007000006040500_000502030007000901,
  0x000000000004000009_000003090008020106_080209060000000003_040100000600030007_000006000000000901_000307010000000804_000002000000090000_010000050906000000_000900020007000605,
  0x000201000007040000_080000000000000000_060009000100000507_000004000300000006_000600080009000400_000700000206050900_040000070000000005_070006000008090304_050900000000010002,
  0x050003000000090000_010409000000000000_000200070005010000_000002030007080509_000100050000060400_000005020000000100_070500080200000006_000806040000020701_020300090706040000,
  0x060204070003010805_000000000001000600_090000040008030000_010700080200000000_000800050704000000_040500030109000000_000407010000020006_000000000002000007_020000090400080000,
  0x000800020001000403_090000060000000000_030000040500000000_000002000000040300_000600090000020000_000000080200000001_020000070000000000_070008000900000005_060100000800070902,
  0x010200070006000003_000600020504000007_000000000000000506_000000000205000009_000901000600000000_060007000000030002_050002000001060008_090000000700000000_000108060302000005,
  0x010009000004000800_000002010000040009_080400090000000100_000100000906020705_000903080502000006_060000070401000903_020804000005000001_050006040009070008_000700020308060500,
  0x050000000300000000_090700060005030000_000600080000000700_000000000000000000_080106000004000009_000300090000040106_000900010000000005_010200000709060400_000000000006000008,
  0x040009000000080006_000000000307010004_010007000406000302_020003000004050009_080000000205070001_000105060000040003_090700000103060408_030000070008000105_050801000600000007,
  0x000702000009000305_000406020705000000_010509080403070200_060800030100090004_020004000006050100_070000090500000000_000003000007000001_090608040301020007_040007000208030000,
  0x070000090200050100_020800050000000900_010000000607000004_000308000400000000_000002000800000500_060700000000000000_000000000002000600_030000000000000000_040009010500080300,
  0x020000050106090700_000007000209000100_000009000700020006_080406000000000902_000000020800070603_070302090600010008_000700000902040500_060000000501000809_090105080403000200,
  0x000005000000080000_000903050802060107_060008000000090305_070800060005030400_020506040001000000_000300080207010000_050009070000000000_000000090503040700_000007020406050908,
  0x000000070006080001_000705000802000306_000800000300000709_090300080605010402_050000020007000000_000206040003090007_070000000000000600_020504000000000000_000600000200000900,
  0x060200000000000800_000907000000000100_000000000608000904_000501000807040602_020800060500000700_070406000009000305_000700000000000500_000009000100070406_000008000000000209,
  0x000000060501070000_000000040002060000_080002000900040005_000008090003000000_060000000105000409_000901080004000000_030509000700000000_010400000000090007_000000050400010306,
  0x080601030000020504_000002040001000000_000009000600080000_060400050002010800_000005010000000002_010000060000050009_030100090006000208_020706000000040905_050008000204000103,
  0x000005000000000104_030001070000060900_000900000601000305_000007000300000508_090503080002000400_000004010000000000_000000000007000009_000009000006000800_000702050800000601,
  0x000000090004000700_000700060205040801_040602070108090503_000007000602010400_080006000000070900_050001000007030000_060004020500000300_000003040006050109_000105000800020600,
  0x050807000100000000_020000000008000400_000900020300000008_030008070900000000_000702040000000006_090004000000000800_000201000409000300_060000000701000902_000000000006040000,
  0x060001070000000000_040800060200010000_000000000800000407_080406050001090302_050902030600070104_070000000000050000_020000040007000600_010000020009040703_000700000300020500,
  0x000007000000010205_080005030001000007_000002050900030400_060104000009000000_070208000000000009_030009020008040000_050000040700060000_000006010005070000_040700000600000001,
  0x000009000500060000_000000040300000900_050000000000000402_070004000903080200_080001020007000600_030600000008000004_090105000704020306_000800030600000100_060003090000070008,
  0x020000040000000507_060000080000040002_040105030002000806_080903010006070000_050706000800010409_000200000507060300_030408060209050701_000002070104080600_070601000300020004]
theorem mixed_9_ok : mixed_9.all fastOK = true := chunkOK_sound _ (by decide +kernel)

/-- `mixed` (10000_mixed_puzzles.npy), boards 2500..2749 -/
def mixed_10 : List Nat := [
  0x000005060000070000_060000000000000501_000009010005060304_030901080000040000_000000000000000100_000208000004050600_080306000409010200_000500030001000006_010002050608000900,
  0x000100000500000807_050009010200000300_040600090008000000_010502060004000000_090400000801050000_000308000000040006_080001050400000000_060000080000000200_000200000600010400,
  0x070009030200010000_000500000000070306_030406050700000800_060703000902000500_040105070003060009_000000060000030107_080000000600000701_000900040000020000_000602080100000000,
  0x050900000100000300_000000000009010006_000000000307090000_000002000005000000_060700000001000000_080100040002060900_000000010208000000_070003000500000801_010809070003050602,
  0x000002040609000801_000000050308020906_080000070000000500_000500080100090004_000200030907050608_090700060004030000_070003090406010200_060100020005000009_020900010003060400,
  0x000005000100000602_000000070006050908_080200000000000000_000602010500000000_030008000900010200_000004000307000000_060009040701000000_020003050000000406_050000000600000100,
  0x040000000000000603_000700000200080004_000308040000000502_000103000504000000_000206000000000100_090000020008000006_010400050600090000_000000000703050000_000800000409000200,
  0x000007000003000004_000600000000000000_010000020705000900_000300080207000009_000008040009060300_040009030600000807_000006050000070000_000002000306000400_030105070002090000,
  0x000008030005000006_000000000000000508_000009000001040000_040001000008070605_000900000000080400_000300070004000900_000007000200000004_060003010000000200_090000000000000000,
  0x000005000000000000_060800000203090704_000407010008030000_030004080509070006_010000040007080002_000708000102000900_070900020406000001_000506000001020407_000102000000060009,
  0x000007060204000108_000000010900000500_000000050000000206_010000000305000002_000003000809010000_000200000100000309_000300000601000005_080005030000000907_020609080500000400,
  0x060000000105080700_020800060004000000_000700000003020600_000007000000000000_000104000008000002_000206040000000500_000609000300040200_000000050000000006_000002000000070800,
  0x000500060000040800_000306000008000900_070400050900060000_030605040200000000_000000000700000006_090000000306000004_060000000507010008_000100000004030600_000204030001070509,
  0x000204060009070108_000009000007040002_050000080000090600_000100070905000006_000507020006010300_020600000401000700_000300000008000900_080000050000060400_000006090102000805,
  0x000000050008060000_080000070000000900_010709000000000000_050806000300000700_000103000002000000_000207000600000308_000000000506000802_000500030000000006_000000000007010503,
  0x040000010007000600_070001000508040309_030508040006020701_080306070401000002_010200000605070804_050407000802030100_090800060204010507_020705080100060003_000100050700000208,
  0x000004050001000300_000000000703000200_050000080200060000_090007060302010000_000000070100000904_080102090004070600_000900000400030000_040000030000000100_000503000906000002,
  0x000005000007030604_010800000000000500_000000050000010008_060200000504000807_080000090700000003_000700000001000000_090000000000070000_000002000100000006_000003000000000001,
  0x000006010408090000_050000000309000106_090007050000080000_070000090004000001_030200000000000000_040600000002000900_060002000705000000_000000000000000700_010005000003060000,
  0x020000000000040905_030501000709080002_000600000002000000_080000000104090000_000009000000000700_000000070006030000_000006000400020008_050000010003000007_040803000200010009,
  0x070400000900000100_000000000008000005_090200050000070603_050800000009000201_000006000000030009_000900000001000500_080509030402010706_000604000500090002_010702000806050000,
  0x000300000702000004_000107000004080006_000005000006010700_000803020400070000_000002000003040500_050704000601000209_000000050000020100_000500000200060000_030000000000000400,
  0x070400020008010009_020000040000000700_000605030000020004_000009000400030100_030002000000040000_000004090000080006_000001000200000300_000006000000090000_090007000800060401,
  0x060000000200070001_020000000409000000_000005000007000000_050000040100080200_000004050703090000_000006000000000005_040000020300000000_030008000500020000_000002060008000000,
  0x000000010405000900_070001000200000600_090000000000030002_080007050006000000_000000040100000300_050000000000000006_060000020000040003_000000000309010500_000000080500060000,
  0x000406000809000200_090802000001000500_050700000003080000_020309040008000700_060104000005020300_000000000302090000_040200000900000805_000000000000060400_000000080000030902,
  0x040000060000000901_000900000007000803_060803020109070400_000500010008000700_000200000904000000_000006000205010300_000002000001000004_000004000000050108_000000040006000000,
  0x030201040005080006_090000010700050002_070605000000010409_010700000403060900_050009060008000207_000000070009040800_000100000207090600_000902000301070004_000500000004020000,
  0x000702000800010000_000809010500000000_000006090000030805_040900080200050000_080300040001000007_000200000309040100_000000000008060003_000000000905080000_000600000000070000,
  0x010700050009060000_000600030102090807_080009000700010500_000000000000000900_020000000905000608_000006000004000700_000500090001020306_030402000507080000_000001020308000005,
  0x020003060100000009_000900000000040000_000800000000010000_060705000008090000_000200090500080007_080009010000020000_040000000002070900_090607040800030002_030002070000000408,
  0x050407010200000003_000300000600020005_000000000308000001_000000000006000000_080600000000000507_000200070900000106_060100090400000200_000802000001000304_000003080002000000,
  0x040000010007060000_010800090500070204_020000000000000300_000100050400030000_050000000802000009_060708000009050002_030600020001000005_080000060700020000_070201000300000006,
  0x070802050000000004_000009020800000000_000501000004000008_000000000900000207_010000040602080905_000005000000000601_050100000400070002_040700080000050000_020008070001000403,
  0x000208010706000000_010009050004000806_060704000008010002_000000080102050003_000000000600040200_020507000400000000_070605000000000400_040000060503000000_000902000007000005,
  0x000500000002040001_000000000700000800_000208000000070005_030005000000020100_080009020500030704_000104000003090000_000306010000080409_070002000004000603_090000000806000000,
  0x000000090700050000_000305000000000008_080600050200010000_030006000009080000_050000070001060902_000700080000040005_000502060900030801_000008000100020004_000003020804090006,
  0x000003060804000000_010008000000060000_060000000103050800_050700000001020900_000000020007040000_000102000000000007_000600000000000001_000801070200000005_030000010000000004,
  0x060000030200000100_040000070600000300_000001080004060500_070402000000030000_050000000406000000_010900000000040002_090000000000080400_080000010000000700_000005000000000000,
  0x090005080000040000_000702060000000003_080000000000000000_060509000008000004_020403010900000608_010807000406000002_000000070000010306_000000000001000400_000000000005000000,
  0x000302000106000000_000604000300000107_000507000000000302_000005000801020006_000100000007000500_000200090405000008_050000000003000001_000700000000000600_030000020009000000,
  0x030000010807040000_000109000604000500_000807020000030601_000000070300090400_000600080000010003_070403000901000002_000904050000000007_000000000008000000_000708040103020905,
  0x000700030001000502_040000000600080003_020000000804000000_060900000200030400_000004080300010206_000003000005090000_090602040000050000_000007020000060309_000000090006000004,
  0x080301040200060009_070500000006010804_090604000701050203_060103020008070405_040907000603080000_000805010407030900_050408060009020007_000709030000040608_000206070000090001,
  0x050008000002000600_040001030600090500_000000000001070002_070000010009050000_090800000004020000_020005000308060900_010007000900080000_080400000705000009_000000000000000000,
  0x020508070001040009_000100000000050002_040600050900000108_050706000400020000_000802030009000004_090000020500060001_070000000000080000_000304000006000000_060005000000090400,
  0x000000000706000200_070000000008060001_080000050203000407_000809000300070005_030007000000000002_000000080107000004_020008030000000109_000503000901000700_090100000005000306,
  0x090007000000010408_040201080000000006_030608050004070209_000000000001000004_080900000006020100_060004000205000307_010005000300060902_070009060400050001_000800000500040700,
  0x000403070008000906_090000030600040008_000000090000030705_000009000803060000_040000020006090000_060702000005000400_000900000001070600_000000000207000000_070801060009050302,
  0x050103000000060000_000700000001000000_090200000400080107_080000000106050000_000000090000000200_060300000500090801_000005020309000600_000000000000000500_000600080005040002,
  0x000309050000060400_080005000000000003_040000070002000000_000000000106030000_070002090503000000_000000000700000102_000900000000080000_000206080409000001_000007010005000000,
  0x000000010002000904_000000050700000001_000000000000020000_060105000008090200_000700000900000000_030000060005000008_050000000604000307_000004000107060000_090000080000010402,
  0x000100090004050007_070400000603000100_090000000107020403_000006000308010900_020904010000000000_000000040906070500_000008030509000000_040300060001000205_060000070002030801,
  0x000204000003000000_000000060400020000_080300070002060009_000000000700090000_000006020301000507_050700000600000000_000509000800010006_000000000100040000_030100040000070000,
  0x080000000500000000_070009030206040008_050000040008020901_090400000602000700_030001000000080002_020007000403000100_000000000000000000_000000000300000807_010003000004000600,
  0x030500000704060102_000200000600080405_000406080000070309_020003040106000007_080700050900000206_050604020807010903_040000000002000001_000100000000030604_060007000400020508,
  0x030000090000070008_000900030008010005_010807050000030900_070500000300000000_000001000007000000_090000000500040002_040100020800050000_050700010600000300_020300000400090801,
  0x080305040001000200_090000050300000100_070000000900000005_000200000005070600_000004000000000300_000000000003010900_000006000000000000_000000010702000000_000100000509000000,
  0x040302000500010706_000008000000030000_060900030001000004_000000010600000005_090501070003040000_000806000000000007_010004090305000800_050600040800070000_000000000007000403,
  0x090000020000000006_000408000000000702_020106000800090004_000201030008000005_000000070000020809_070809040002000100_040002000703050000_000600000204030907_000307000000000201,
  0x000000040000070002_090000000006000300_000405000000000800_000901070600000005_000803000000060001_000000010304080709_010000000005000608_000609030000040000_080004060700020103,
  0x000104000805000206_020000000004000900_000000000006010007_000000080000090100_010009040200000003_000006000109000002_000000060900020001_000005000000000000_000801000000070000,
  0x020103050000000009_000009010200000008_000008070900000000_000701000806020005_000000090002000600_000900000005080007_040000000009010803_000300000000090200_000806000301070004,
  0x070000000600050304_010000000403090600_000300000000000008_090003080004000000_000000000006000000_000000090200060800_000400030905000001_020508000000000000_000009000800000507,
  0x000300080009010205_000006000000000308_000800070103000000_060703020905040801_000205000806090000_000000000407050602_030507060000000009_000608000300020507_020009050708030100,
  0x000005000901000000_000004000000000000_000700000602040501_000102000005000007_000306090700000105_000500010000000800_000000020103000700_070000050000000000_000001000800050900,
  0x000000040805000000_040103000906080502_000005000000090006_000000060200000903_030704000509020008_000009030700000004_000607000103000009_080300090000000000_000402000000030001,
  0x030002000000000000_000700000203000001_000409060700050300_000005080304060000_000900000106000200_080000000900000004_020000000000010500_000001020407000000_000000000800020000,
  0x080000000000000305_000306020008070100_000107090503080000_070600010000050000_020005040806000703_000401000205090006_000503080000020401_090000030100000007_000704050000030000,
  0x000004020805000006_060701090304050000_000002070000040300_010405000700000802_000608040000000000_090003000508060000_000000050001000007_000107000009020600_000006080200030000,
  0x010809050300000600_000607010008030900_000000090004080001_030702000400000006_000900000706000400_000005000000000000_000200000003000000_000308000001060209_000100000900070000,
  0x070103080400000500_020809010503060004_000000020000010803_000301000207000906_000200030904080007_090704060800050302_030607040100090208_000008070600000401_010402090000000005,
  0x000006050400030000_010003020006090007_080402000000060500_090000000600000302_000100080203000700_020300000000010000_000600030908000104_000001000000000000_000000000000050003,
  0x080009040006000203_000003000000060009_000000080000040000_020300000000000006_000905000000020300_070001020305090400_090204000800030601_030500000200000700_010800030000050002,
  0x000600090701020308_020907080304050006_030008050002000000_000000030108000005_070003020405090600_000000060907030800_040206010500080700_000700000803060002_080300000000010000,
  0x030004060000070500_000508070900000204_070206000004080000_000000000600000102_000602090800000000_050009030702000000_000700000000010400_060400000007000900_020801000400000007,
  0x000700010200080500_000000000000000000_000900040800020000_040000090603000800_080300050001040609_000600000408030005_000001030002000704_000207000004060000_090003000007010000,
  0x050100000003090600_000300000006070005_070000010205040000_000700000309000500_090500020000000001_040000000000000000_020405000700080906_000007000000000304_000906000000000207,
  0x030200000004050906_000005000000010000_000104000000020008_000600000400000000_000003080000000100_000809050102000000_000000000000000001_010302000007000009_000008020000000705,
  0x090001000504000600_000006000008040000_020000090001000300_010000080007060502_000003040000000000_060000000102000000_040700010803050000_000102000400000709_000000020000010004,
  0x030800000000040507_050104080300000906_060000040000000100_080201000003000400_000305000004080000_000400050800000300_000903020700000805_020500090000010000_000000000008090200,
  0x070801060004000002_090503010208070004_060004050307000009_000006000000000401_020405070001090306_010000000600050000_050000000003060907_030900000106040805_040600090700000003,
  0x070503090000000200_000000020000000005_000200000001000600_000605040900000007_000700000002060009_000009070005080400_010000050004000002_000000060209000301_040002080003050700,
  0x070500000000000000_020009000408070000_010308050000000900_060805040900000307_000000000006000009_000001070300050006_050000000000080002_080103020600090700_040700000800000003,
  0x000500000002090000_000100060000000500_090300000001000800_050809000000020600_000400000500080903_000003000200040005_080700000000000309_000001000709000400_060904000300000008,
  0x090000030005060700_000800000600000900_010005000900040300_000308000000000100_000000000300050000_000407000200000600_000502000003000800_000906020000030500_000700060008000002,
  0x070900030500000002_000300010000070800_000008000200000305_000006000000000500_010000060004000000_080403000105000600_000001000807090406_000000040000000000_000009020000050703,
  0x000601020700040000_000008000409070605_070904000000000100_040800000000000503_010507000300060902_090306050000080007_000000090000050000_080100060000090000_020700000000030000,
  0x090008000000000300_050007080000090002_000000000006000500_000000000000000400_020400050100030900_000003000602050700_030809000000060000_070000060000040000_000004090200000003,
  0x080601050300000004_000005000600080001_000000090000050006_010400060008070500_020000000100000000_060800000405000102_090000000706000800_000208010000000407_000100080000090003,
  0x000000000001000000_080000040007020009_000003080009050104_010007060000000002_000009000700030000_060400050903000000_000108000004000005_090504000006000700_000200070800000000,
  0x000000000903050807_050000040706020000_030709000500000001_070500000004030000_020004000800000000_000001060302000000_000405000600000700_000900070000000500_000007000005060900,
  0x090006030105020800_080500020006030000_010000000004000506_050000010708040600_060108050403000002_000004000009080000_000003080007000009_020805090000000004_070900040602000300,
  0x090207000301040800_000100000900020703_030804070000060009_060509030200010408_000701000406000002_000300010005070906_070400000609000000_010008020703090004_000905080100030007,
  0x030700000508000900_000004020003010000_000809000004000605_050008040007000000_000000000300000000_000000050000000000_000006000005090000_080007000000000006_000000070100000008,
  0x000000010007000800_000000050000010000_070000000004000900_000800070003090600_000000000001000005_090104000200030000_080000090100000500_000000040000080200_000905030008000000,
  0x000100000307040000_070803000006090000_050604080900000100_000206000000000000_040300090200010000_090500060004000308_000405000000000000_000000020000050900_060000000001000003,
  0x000200030004000700_060007000000000300_000803020700000000_080000000000000200_000709000002060400_020000000403000009_030000090500070600_090000000307040008_000605000000000900,
  0x040607000000000005_000803070005090601_000000060000000300_000900000000000000_000006090508000102_000201000000000906_000008050001000003_030700080600010009_000100000307000008,
  0x000001000500000400_070009000008010000_000405030002060000_000002000000030007_040000000001090502_000307020000080004_000100000700000000_000008010604000003_060004050003000000,
  0x000600000900010700_000000000006000002_020000000000060500_040009000800000000_000000000009080000_000000000005030901_000904000007050803_080700030004000100_060005090000020007,
  0x070403000000000800_080000020004000900_000009030000000000_030800060007090000_000000000000000006_060000040200000508_000700000900000200_020900000006000301_000006050000080009,
  0x060804090507020300_010307060402090508_000502000008000000_040700080200000000_050003070006080000_000008000105000006_030001000804000002_070400020609000800_000009000001000405,
  0x030000000700000406_000000000000030900_000506090203000007_090300050802000004_060800030904010205_020000000007000300_050604020301000800_070100000005020000_000203000009040001,
  0x000100000005080006_090605080201000007_040800000000000002_000009000107000608_010006020800000000_020700090506000300_000901000002070504_030000000000000000_000007000000010003,
  0x040000000007050200_060002030000010008_080005060200070304_050000020008060703_020806070000000005_000000040506020000_000500080004000002_000000090002000000_030000050600090400,
  0x040800020000000607_070002010805030409_000900000006080200_000407080903060000_000000060104070805_000106050200040000_020508030000090004_000309040008000506_000704000502000008,
  0x020000000708000301_000000000000000008_000000000003050006_060801040500000000_090703000002040805_040502000800000107_000900070300010002_000000080005070600_000307020000000000,
  0x000006030000070801_000500080600030000_000000000000000006_000007000003050900_080900050700000000_000002060009000000_000000020008000009_000800000104000000_030000000006000007,
  0x060401080000090700_000900000401030508_000508000002000001_000700040200000903_000304000008070000_080000030700000005_000000010600000004_040000020000050009_000100090300000800,
  0x000007080000090000_060000000200000100_020500030100000006_090400020003080000_000700000600000000_030000000901000407_000000010000000200_000204090000060500_000005000000070009,
  0x060009000800000403_070003050604020000_000004000309050601_000306000000000000_000000000908000000_090405000001000307_000000090000000000_000900080507060004_050000000003090108,
  0x070200030009010000_000000080400000900_000400000000030002_030500000600000000_080704000001090600_000006000004000703_090100000203040008_000005000100000000_040000070000000000,
  0x000309000200040007_000000000800030209_020100030400000600_030001020006050800_000006090500000700_050008040103060900_090605080300070400_070402000601000008_000000070004020500,
  0x070809000003000500_000000090000070000_050006000807030904_000000070300000400_000903080001000607_000708060400050009_080401050006000203_000205000908040000_090600030200010000,
  0x070204030109000500_080903000700010204_060500020004030700_050602090401070803_090000000205060001_040107060300020905_010705080903000002_020006000507000308_000809000602050107,
  0x040000070005000000_000800000009060000_030900060000000204_060008000903000002_000504080607010000_000300000000000800_000400020500080001_000605000001020403_000200030800000600,
  0x000900030001000000_040300000702090105_000600000000070008_060009000000080000_080000040000000007_000000080005060900_070000090004000600_090400000008030701_000005000600040800,
  0x000008000004000002_000300000809000700_000601000007000500_060100080000000007_020003000000010009_080500040901020600_000000060000090105_000805000000070000_070006000100040200,
  0x000006000009010000_080900000000000306_000200000000000800_000600070000000500_010002000000000900_050000000900000002_070805010006020000_000100090200000005_000000050000000100,
  0x020000000004030600_030007000002000401_010005000000000900_000300040000080700_070000000208000005_000000000300090104_000200070800000000_080703010605000009_000000020409000000,
  0x070006010400050002_000004000002010000_050200000600040309_040000060009070208_000008030205060000_060100000700000503_000609020004030700_020400070301000906_030007090006020401,
  0x000400070002030000_070002000000080405_090003040506000100_000300020700040000_000008000400070000_000700000105000800_000207000000000000_000500010004000000_040100080007050200,
  0x030100090000000006_080600070002000001_000000000001040000_000000000506010209_000005000000000403_010003020800000605_040300000900050108_000700040100030900_000001050203060704,
  0x000000000000000003_000000000002080605_060000080007000001_000000090800020000_090000000000050700_080001060000000300_070000000604000000_000004000200000000_000003010000000000,
  0x000001000000000000_000000000003090102_000400050006030800_060005010000070900_000709000005010300_000000000600000004_020600030000000000_000900000400050000_050103000000040200,
  0x070302000106000908_000608000302010704_000104090708030200_080706020405000003_000005000901060802_020001060803070005_060509000200040301_000800010009000507_010007030500000609,
  0x000800050100060203_000305080200000009_020000000903080400_000000030800050704_030509000007010802_070408000000030906_080100040600000300_000004000008000501_000000020701000008,
  0x040002000008030009_050000040300070000_000003000000000801_020500010000080607_010000000407000903_090007080602000100_080000090701000302_060000030804010000_030000000200000400,
  0x020001000004000508_090000080000000004_000000010506000709_040900020000010007_000802000700000006_070605040001000003_060200000000040001_050000000403000000_030000070000000005,
  0x000500000009010000_080006000400000005_000109000208000007_000300040000000700_000000080005060000_090000000702000504_010400020506000800_000000000000000006_060902000000000003,
  0x030204050109060708_000800040302050000_010509000607040302_080400000503000607_090305010006080204_000106020804000905_000700030001020406_000901060405000800_040600000008000500,
  0x050709080300010006_030000090000000405_080100000600000000_000001000000000507_000307000105040908_040005000000000100_000000010900000800_000900040500030601_010000030206090704,
  0x000000000700080000_090007040006030500_000600000903000002_020000000000040903_000000000000010000_070503000400000006_000700000100060000_030000090000000000_000000020000000008,
  0x030008000001070600_000004000600020005_060000000005010800_000706000800090402_000300000200000000_080900050704000001_010005000307080000_090003000102000000_000007040006000100,
  0x040500000000010703_090007000005060200_060000040700000000_000000050607020100_010005080200000000_000900000001000506_030000090008000000_050000070302040000_020000000004070301,
  0x030500080009010000_010000000200000900_000004000000000007_000109070000000602_000207000801030000_000000040002000000_020003000000000700_000401000000060000_070600020400090103,
  0x020500000300010000_030800000000040507_000904000000000200_090002070004000000_000005000602000100_000007000005000002_000000050200000003_000400000009000600_000200000000090701,
  0x050807000000010000_030900000605070400_000000030008090005_000004050200000307_090708000001000502_020003000000000100_000600040503020001_000005000100030900_000301000000000806,
  0x050800000601030200_000400000802070000_000000040000000806_000006050000090400_000504000900020000_030200000000060005_000000000008040000_000008000400000307_000000060500000001,
  0x000001070408000000_030700090502000806_020508000106000007_000006000000050700_080407050000000001_000200010007040000_070100040000080605_090005060000030000_000603020800070009,
  0x000409000000080200_000700080402050009_000200000107000400_070804000000010000_000500000600090000_090300040500020700_080600000003000002_000005020004000900_040000060000000800,
  0x030605000000040007_080900030000000105_000100000506080309_050008070000090603_000700000003010000_010300060800070402_060501080200000004_020007010004050900_000400000007000801,
  0x000501000902000000_000000000000000100_000800000300050902_010000000005040009_000602070800010005_000000090200000000_080000000000090507_000200000703060000_060100000000000000,
  0x070000030806020409_030009050004010807_040002000001030005_010700000302000508_020300000605070001_050904010700000300_000000000503090006_090500060000080203_000200080100000704,
  0x080003000700000002_000000000805070000_040006000109000000_070000000200000600_000600000503000000_000000070608050000_000000000907000000_010009050000080007_050000000300060900,
  0x050208000600070309_060300000907000405_090400030005080001_040000000100090500_000106000009040000_020509040000000006_000600000000050900_000900050300000000_000000000400000000,
  0x080904000000000005_030107050000080000_000600000000000000_000000030704010002_000001080600000900_020300010009000807_000200000000070000_000000060200000500_000400090003000006,
  0x000000050800060300_090002000006010500_000305000100090000_000904000205000700_020503080701000609_000706000304000205_030008040907050100_050000000600070903_070000000003020804,
  0x000400000008050006_000000000000090304_000000090003010000_000300000000000002_090200000005040000_000500000704060900_020005000001000609_060108030900020000_040903000206070800,
  0x000500020400000600_090200030000000705_000600070800020009_070006000004000000_000405000900000800_000901000008000000_000102000600000900_050300040000000000_060700090000030000,
  0x040300000000000508_000000000008000200_000905000206000007_000704010005000900_000000090002000106_000209000400000000_000000000600000003_020008030001000609_000607000000000000,
  0x060805000300000000_000000000000020003_010300000000000000_000900040000000701_020004000803000006_000600050000040008_080106030005000900_000507000002000304_000000070008000000,
  0x000500090000080400_000402050708030006_090000000406020000_000704000000000000_000008000300000709_060200080000050304_020000000000000800_000000020600070103_000300000000000600,
  0x050007000900030806_030901080007000000_060008050400000001_020106070804000300_090500020000080607_080703090506010004_010809060200000700_070302000000060508_040600030000020100,
  0x090004000701030000_000800000203040506_030205000600000907_000002000006000704_060408020000000001_000000030005060800_000903000000000000_040506000300070000_000700000000020403,
  0x000200070000080301_000104000000000709_000703090801020005_030008000209050100_000400000708000006_000907000300000008_000001030000000804_000300000000070500_000002050000000003,
  0x050001000906040302_000002010405080907_000904030008000000_040709000602030100_060108000000000209_020503080009000600_000006020507000803_000200060301000400_010005090004020706,
  0x000400000000020006_030106000200000405_050000060004030000_000003000600050004_000001000003000200_000905010400080307_020600050800000000_000509000007040000_000300040000010000,
  0x000000030600020500_090000020405000608_000005000708090004_050000080000040700_060100000000030005_040008050000060002_010500090307000406_030800040500000907_000004060800000003,
  0x000000060700000001_030100020008000407_000005000900080003_000000000602070100_000700000005030004_000000080400000006_000901070800000002_050000010000000000_080004050200010000,
  0x000000000900050001_000800000600020003_050209030000000000_000704060200000005_060000000000000200_020005000004010008_000102000400000000_030400070009080100_000000010300060700,
  0x000000000302090001_070108000904000000_030000000008070400_000000000005000706_000701000409020308_060402080000050100_080000000500060207_010005040000000900_000307090006000004,
  0x000000000000050006_000508030200000900_000200000001000000_000000040807060501_000000060109000000_000100000005000008_000401090003020000_000000050002000000_000905010008070300,
  0x020500080000000000_000003070100000000_000106000504070000_060000010400000000_000000000000020000_030004020907000006_010300000000090405_000000090000060700_070000000000000001,
  0x010000040000020009_000000050000000308_020008010609000004_070002090100060400_000001000003090000_040000000000070005_050004000901000000_030200000004000001_000000030500040000,
  0x080000030902000000_060003000000070000_020001000008000005_000504060009000003_010600000003050400_000002050007000000_000000010300000006_040000080000030709_000300090700040102,
  0x090700080500060000_040001000300050000_050002000109070803_000004090600000500_070009030400010600_000000020701030000_000900060807040301_000007050903000006_060008010200090705,
  0x000503000000000006_080004050000000701_000000000802000009_010907020000060400_020300000600000007_000605000100000000_000002000009070300_000009000000000004_030001060007080002,
  0x030209000008010000_070000030000050409_000400010907000000_090006000800040203_000000000209000005_010002000500000908_050907020100000300_000000080000000007_000003000000000500,
  0x050004000009000000_000300060008040000_000809050300000100_000500000806000000_000000020000000003_000608000001000700_040000000000000908_020000000900000000_080000040703010200,
  0x000006030802000007_080900070000060100_000000000609000005_000000060008000309_000802000000000600_000301000000000000_000400050201000706_000100000000080503_000609080300000204,
  0x000000000000090102_000203000900000000_000009070000000000_070002000406080300_000008000200010700_030400090008020005_090700030000000208_000004000007000000_000800020600070000,
  0x000200090000030004_080906070000050002_030000060005000007_000300050708000400_000008000600000203_000009000102000000_040000080500000900_000000000907040506_090502000000070300,
  0x020800000003000001_000005010900020000_000009020000050007_000000090600000002_000007030000000005_090001000205000706_010904060002070003_030700000000060000_050008070309010200,
  0x000000000603000704_020107040000080306_030406070000000009_000804090200000007_000702050006040801_060300080000000205_000203060005070108_010608030700000002_070900000802060003,
  0x000907060200000000_000003000005090004_000200000400000000_070509080001000600_000006000009080007_030004000600000009_060302010000050900_000000030806000401_010000000002000000,
  0x010008000000000604_020009000000010308_000306000008070900_090200010604080000_000100000502090406_000600090807000003_060905000203000001_030801000705000009_070402000901030005,
  0x000009030507020000_000701080200000609_020004010006000800_010000090000040000_070003050800000000_000000070000030208_050000020000090104_090002000005060000_040007060300000000,
  0x020700000803060004_000000020000000000_010004000600000008_060200050708000300_000000030000000005_000000060900000007_040000000006030002_090100000307000506_050603080100000000,
  0x070000020000000100_030800070100000204_000000080900070306_090305040000010602_060108000002000700_020704090600000500_000901000000020800_000207000003060001_000003000000050407,
  0x090000000100040006_060705000200030100_000000090506000000_000007000801000300_000600000000080005_080004060900000000_000500010600090200_000106070000000000_000009000400010600,
  0x000300010009040702_070408020006010903_090000040703000605_030000080000000000_000206070405030809_000004090301000007_000509060107020008_020603000908070104_080700030000000506,
  0x080001030009000400_000200000700080003_090400060005010700_000007000001000500_030004000000000006_060100050307000004_040000070003000008_070000000408090300_000008090506040000,
  0x040306000008000105_000208000005090406_050007000600030000_090104060000000200_030002000100000000_070000000000000300_080709000201060503_060001030800020000_000003090006000700,
  0x050006070100030904_000402060900000100_000007080403000506_070008000004050000_000900000807040000_010000000009000000_000009040000000803_080000000200010000_000001000000090207,
  0x070800000300020009_000105000000000308_030002060700000401_050000000000000200_000400000003090705_000309070105000000_040600030000000500_000200010004060907_090007080600000004,
  0x040000010802090507_000901070400000802_000002000009000000_000000060000000000_080009000205000000_000007080903000200_090005000100060408_060108020500070309_000700000608020100,
  0x000009030006050104_000600000500030700_000500010200060000_010300070008020009_000200000601080300_000700000302000000_060000000105000803_030100060000000200_000000020003000001,
  0x080000000207000300_000004000000000000_000001000000060500_010000070500090006_040005060802000000_000200090300000000_000403000900000600_060002040705080903_000007000600010000,
  0x000000090508070603_030700020000050409_090506000407010208_060900000002040107_040801000005000006_070203000001080005_000304010009000700_080000060000090504_000609000704030801,
  0x080000000403000000_000000000802000500_000004060007000000_050000000900080100_030108000006070904_070400000000000602_090000040601030807_000007000000000009_000001080709000205,
  0x000009000002040000_030400000609000102_000000000000080000_020000060008070000_050006020300000000_040001050900060200_000504000200000700_000302000004000000_060007030800000009,
  0x080306000500000001_000702000004000800_000004000008000500_000000080207040900_000000010003050007_070009000000010300_000000090000000700_040003000001000600_000907030006080005,
  0x000003000005040607_070605090800000300_000001000003090800_000100020009050706_000006000000000000_050400000000000003_090300040508060001_000502060900000400_000804000100000500,
  0x090500000000040000_000406080003090000_080007060004030502_010700000000000009_030900000005080600_050000000809070201_000000000006000008_070000050408060903_060809020007000405,
  0x000000000702090008_030000000006010005_000006000008000000_000004000000000000_050109000600000000_000603010209000507_000500000000000306_000700000000050000_040308000500000900,
  0x000001000006050900_060800000300020000_000009000000030000_000000080000000100_000000000007090805_070908000600040200_040000000200000009_000100030000060000_000603090500000700,
  0x060008010900070502_000109050000080004_000702040008010903_010000000305020000_080003060104000000_040500070009000801_000300090006050200_090605000001040007_000000030507060109,
  0x020506040900010308_080703000000000009_040901030608050207_030107000805040000_000405000100080703_000000000403090005_050304060709000801_070002010500000906_010000080302070504,
  0x000002000001000400_000800000200000107_000000000007000902_070500000008000009_040000020000070500_020900070504010806_000200000003000000_000409000002000605_060107000805000304,
  0x000007000000080401_000000000004020306_000600000203000500_090800040001000700_000500090000030200_000703000005000108_080000030500000600_000000010400000002_000000060807040000,
  0x000100000502070000_000000030100000000_000604000008050000_060507080900000002_000403020000000900_010009070304000508_000802000400000003_070306010009000200_000900000003000006,
  0x000004010907000000_050807060400000900_000609080305000204_060100050700090302_000000090803010000_090703020001040500_070906040200050103_080000000500020409_040502030100080007,
  0x000800040000020000_090200000000040705_070403050000000601_050004000000000008_030000000400000009_000900070000050100_000007060900030400_040309020000010806_000600030104090507,
  0x090008070600030204_020104030508000907_000000000009010008_000600020000080000_000901060004020300_000205080903000106_050002010806000400_000000090000000800_000000050000070000,
  0x050004000002010700_000008000001000000_090003000000000000_000000000105090600_020000060800030005_000000040200070008_000400000703000000_000300050000020800_000705000008000000,
  0x030700080000000000_000400030500070901_000000040000000805_000509000100000603_010200050003090000_000003000000000100_020304000800000006_000000000000000000_090806000007040002,
  0x000300010900060200_000800000600000007_090600050000000001_000008070000000106_050007020006040003_010000000803050000_060009000001030405_080000000405000000_040000060007010908,
  0x000003090002080004_020004050100070000_050009030704010206_030005000900020801_000000000001050403_000201000300000607_000000020809060105_000000000000040700_010002000406000900,
  0x090000000006000000_000000090803000002_000500000100000300_000209010005000804_050000000908070003_000000040700000100_040000050000000000_000003080607010000_060000000000020007,
  0x000708020005060000_010500030400080002_000000070801000004_090005060200010300_000100080000040200_000802000100000000_000000040600000801_060000000500000400_080304010000050600,
  0x000100070406090008_040800020003000000_070000000000000604_000509030207040100_000400090805070003_000000060004080500_000005040000060000_000000050000000902_000308010002000000,
  0x070304000008010005_000000040300080000_090006010002030700_010400000200060003_030607000804000100_080200030006050400_040108060003000502_000003020000090600_060000080005040300,
  0x020000000000000100_000800020006070005_000600090703000800_000009000402000708_010200000000050403_000308000507060209_000106050000030900_000002060001080007_000005000004020600,
  0x000500000200090000_000609000001000300_000004000609080000_030900050007000000_000002000900000507_050006000004000908_000800000000070600_000000000100000000_040003000005020009,
  0x000806000400000305_030000000000040001_000000000000060009_000300040800050007_090005070002000603_080007000003000000_000208000700010006_000601020008030000_000900010604000508,
  0x000004000001070002_070000000002080000_060000040709000503_000000000000000000_000001000300000800_000502000000000000_000007020008060901_010000000000040208_000000060000000007,
  0x050603000400000002_000008000509000300_070000080300000000_030405020700000009_010006040000000000_000002050006030700_000000000204000805_000000000001040000_080304000600070000,
  0x000300000000090004_000000010000050200_050409020000010600_000600090000030107_090800000000000002_030007000600000900_000901000300020000_040000000908000000_070503000001000009,
  0x010004090000060008_000800020304070000_090000000108000504_000000000000000006_040000010005020300_000000080200000000_000001000002050000_000003000000000700_060002030709000000,
  0x080900000407030100_000306000008040009_000000000603000000_000000000001000900_030500040009020601_010000080500070004_020800070905060000_090005060300010807_000603010004090005,
  0x060007000008000109_080300090000020000_000009060300000700_000100000000000000_040805010607090003_070000030000000004_000000000005000306_000700080903050000_000008040100070902,
  0x000008000700050002_000009000005000000_000100000000030709_000000000000040005_000401060309000008_000000000000090600_010500040800000900_090002000000000804_080300020900000000,
  0x000000010000020600_000809000206000000_060000050000000009_040000060800000000_000900040000000000_020600000000090000_090500000700000400_000204090600010800_000006000500000903,
  0x000800000605000000_000402080007050006_000000020300080004_080500000402030009_040900000108000002_060200000700040805_000000000004000503_000000000000000700_070305000006000000,
  0x070600000000080500_050004000700020003_010008060000090004_000100000000000809_090000020000040000_000307010809000006_000700000000010402_030500000002070008_020409070100060005,
  0x000200090700030800_000900080000020406_080005000000000007_000003040000000000_060800000001000000_010000060000050200_000104000000000000_000308000504000002_000006030009000004,
  0x010400000900000003_060005000700000000_020000040105000000_000004090500060008_000108020006000309_090006000308010200_000000010807000000_000000030000000100_000001050009000807,
  0x090706000400010500_000002000008000907_000003000000060002_000400010000080000_060809000007000000_000007000806050309_000000000005000800_000300000200070004_070908030004020005,
  0x080009000000000007_000005000700040000_000304000008090002_090800050200010700_010206070400000000_000507000009020000_050401030000000000_000002080000000501_000700020100000000,
  0x040800000009030600_000001060408050200_020906000005080004_000304080500000900_000009020003000100_080002000906070500_000400000600010805_000008090100000007_010000050807090002,
  0x020507040008000301_000301090700000006_090604030100050708_000002010807000603_070406050203000109_030108060000000205_000805020401030900_000000000006000500_000003070009000800,
  0x000604000100090008_090300040000000000_080000050907030000_070400090001050003_000900000502000004_000000000400070109_030006010700000902_000700060000010000_000100080000000000,
  0x000800000602090103_000000000507000600_040603010900050200_000000000709020301_010006050003070009_030900020004000000_080701090200030004_060000070301000902_000002000005000006,
  0x070003060000000108_060000080301090500_000001000207060003_010400070608030000_050000010003080206_030806090500000700_020000040006000809_000607020805010300_040100030709000000,
  0x000700060003000000_040003000008000906_020800040900000300_070405000600000000_000009050807000604_080600000409070000_000208090700000001_060000020105000709_000900080304000005,
  0x020701000406000000_000409010000030000_050300020709000004_000000090207000108_090802000104060000_000000060000000502_040207080001050000_010605000000000800_080000000005000000,
  0x000001000005000608_000002030001000000_090507040000000000_040705060800000001_080306010002070000_010000050000000000_070003000004010000_000604000000000003_020100000000050400,
  0x000000090407010500_030000010000080004_000104000000060200_000405000001000009_080000000609000100_000901040000030806_000700080004000002_000000020000000308_050000000000090000,
  0x080000040900000302_000300000702010800_090700000000000000_020100070000080405_040500000300000700_000000000004000200_060009000000050007_000200090000000608_000007010500000000,
  0x000009030705000604_040607000000000305_000000000004010008_070002000400000800_000406020800070100_010008000000040502_060704090503080200_000000000200050006_000501040000000900,
  0x050000000800090000_090000000006000005_020106050009080000_000002000300000000_000600000000000400_040008000000000700_000000060000050804_060200000008000000_000009000007060000,
  0x010008000003090000_040609080100000007_000000000907000400_000003000600050009_000204030000000006_050006070200000800_060807010304020000_000000020006000700_000000090005000000,
  0x070000000000000400_050403090001000206_080009000604000003_000305040009060107_060001000500000002_040807000100000000_010500030900000608_030708000200050000_090602000408000001,
  0x090005030001000000_000700000002010003_030200080704090506_020000040100060300_000009020806000005_070106000300000000_050600010403000907_080407060900030001_000000000200000604,
  0x050308060002010400_040009000300080600_020000000908050703_000205000409060108_060007000000090000_080000020605070304_000802000506000000_090504000207000800_070603000800000000,
  0x040307000000000000_000000020000000000_010200000407000908_020009030000080007_000400000700000300_070500080009000006_000001040008000009_080000000001070005_050000000000000800,
  0x000307000500080900_000608020000000300_010002000000000504_000000070300090100_000000090005000003_000500060200000000_000809000007050206_000701000000000000_020400000003010000,
  0x010004000000000300_000000000203070900_000300080000000600_000000030000000000_040100020600000007_080000000704060000_050900000002000000_020000010300000000_000406090005000000]
theorem mixed_10_ok : mixed_10.all fastOK = true := chunkOK_sound _ (by decide +kernel)

/-- `mixed` (10000_mixed_puzzles.npy), boards 2750..2999 -/
def mixed_11 : List Nat := [
  0x000006020903040000_070000050008000002_020903010000050800_000109080400000005_000000030006000409_030204070000000600_000600000805000200_090000000007000500_000300000001060000,
  0x000004000200000006_000800040000000000_000002000006000807_010009000005000000_000700000000000300_000403000800000201_000001000508070000_020600000000080005_030508000004000902,
  0x000300000000000006_000900030600080401_070600000400000000_050002000001000009_000000050200000000_090007000304000008_080500020003090600_030000040000020000_000000070905040003,
  0x000009030005000600_020000000006000301_000000000700090400_000600090000000000_090400050103000000_080201070000000900_040502000000070003_030906000000000802_070008000000060009,
  0x000000000600000200_000000000000070000_090402050700000000_000003090000020500_000201000406000008_000907000300000601_010005060000000000_000804000001000709_000000000007010405,
  0x000005010607000000_070000000002010000_000602080005000000_000409000000000005_060000000800090003_030008060009000000_050701090406000800_080000000701050409_000004030500060100,
  0x000000020700000000_000000000005000700_000600030104090002_050006040901000300_040000050000010000_010809070000050200_000900060000000000_030700080000000600_000500000409030000,
  0x000501030600000409_030906000500020800_070000000100000000_040100000708060003_060000000203000900_000703000906050000_010007000800000300_000002090300080704_090300020407000500,
  0x080000040000000706_040000070306050200_000007000800030000_020900010700060800_000000000200070500_000001080003020004_000006050000040007_070203060000000005_000005030907000000,
  0x000109040000000000_020000060009070004_040706030200000109_010504080000060000_000900070503020001_070000010004000008_000000000006000000_080600020401090005_000200050308000607,
  0x000008000003040001_000000040805030002_000004000900070800_060407030000000000_000000090604080107_000809000000000403_000002080306010705_000106070000020300_000700000201000000,
  0x040000050800020300_050000040000000800_000600020003040000_080106070005000000_030504090102070008_020700000006000103_000805000207000000_070300000500080900_000002000908030705,
  0x030209070006080000_000000000008000003_000008040301020907_000000050900000400_080102060403090700_050004000807030206_000005080104000302_000000000700000501_000701000605040809,
  0x000003010000040605_000000040000030000_000400000006090800_000300000104000700_000104080007000000_080600030000020000_000900070000000506_000006090508010304_030805060401070209,
  0x000300000008000900_090006000705000204_020000000009030000_000003080000000000_000200040500070009_000008090000000000_030000010004000005_010709000806000403_000405070002000006,
  0x000800030000000000_000001090500000800_000000000200090000_040002070000050000_030006000005000209_080000000000070406_000009000001000700_000308050700000004_010000000000000500,
  0x090507000300040801_000800000000060003_010000050004020009_000003070002000106_000609030008050204_080002000605030007_000001000000090000_000008060507010400_000200010000070300,
  0x060308000002000001_000000040000000000_070000000000020506_000003080504000009_000100000900050002_000400000000070008_030602000100080700_000800000000000000_000000000007010003,
  0x000000000000000000_070304000100000000_080006040200090000_000500070400000300_000400030009050200_000800000000070000_000200080007000600_000608050000020007_050700000001000904,
  0x000008030000050002_010003000200000009_020004070900080100_000001050700090308_000000040000000000_050007000001040006_070009020003060800_030000010407000000_000000000009000700,
  0x000002090507080006_060000080000000002_070000000206000009_020000000008010500_000000000004000600_090600050100000207_080000000600000004_040700010809020300_030500000402060800,
  0x000500080000040309_080000050000000201_000403000000080500_020800000507010003_000009040106050800_050601000300070900_000000070600020105_000005000802090700_000206010005030000,
  0x000000010007000206_000609000302000000_010000000000040008_000000000005070004_000000000901000805_050700080200060900_000100090000000000_070006020100000009_020003000400080701,
  0x000600000105000200_000001000204080709_070200000008000100_000007050300090001_000500000701020408_000000080400070000_000706000000000902_000105040000000300_000400000607010005,
  0x000209000004000506_000600030009000000_000004000205000000_000005070402010000_070008000106000203_000902050000060000_040803000000070605_090000000000000300_000000000500040900,
  0x030000000000000907_070900030008050001_000800000500030200_060100000007000500_000703060000000004_000000010903000600_000006000700040000_080009050000010702_050000000401000000,
  0x050000080901060000_090006040700000005_000000050206030709_010000020300070000_000600010800000000_000000070600090000_000102000408050006_000905030107040802_000004000500000000,
  0x000000070000000000_050000030000000100_000000000000060803_000900000000000605_070000060100090004_000004020900010000_020000000000050000_010300040600000207_000600050200030401,
  0x050004000007010000_080000000209030604_000002010800090507_070000030000000800_000106040008000000_000800070006000100_030005020701080009_010208000003000000_000400000600000301,
  0x060002000003000509_000000000000000603_030104060000070208_070200050000000804_090308010006020700_040506070000090000_010009030002000007_000800040601030902_020003090000080106,
  0x090206000304000001_000100000900000000_030000000001020905_000607090000050408_000903040005000702_000000000000000000_050000000402000307_060304010000000009_020001030809040006,
  0x080000000104050000_000007080000000000_000003000209000608_000000040905020000_000300020008090000_050900000600000800_000009060000000007_000600000000000000_030800000007000200,
  0x000500020403000006_020100000000000704_040600000000080002_060000000708020001_000000000005040009_000008040201000005_000006000004050000_000204080009000003_050300000000000400,
  0x050300000000000000_070400000000000103_010000000308000006_030002000009010600_000000000400030008_000000060000090007_000805000900000001_090000000100040002_000701000006000900,
  0x000409050800000002_000705040000000100_020000070300000000_000600000507040000_070008030004000905_000300000002000708_000003010000020000_060007020000050809_040502000008030601,
  0x000209030805040107_000305000700000802_000800000601050309_000004000308020601_050000060007080904_000008000000070503_080500040003010006_000706080100090405_090401070506030208,
  0x030907080600010000_000004070300000608_000600000501000309_000000030907000100_070000000400000500_000302060100080007_000200050703000000_060000000804090200_080003090200000001,
  0x020607000500000000_000809060001070500_000005000807090006_000100000309080000_000004000002060103_080200000005040007_050908070000030000_060300050008000700_040702000006000009,
  0x000000000701000004_000002060900080001_010800030004000000_000000000000000007_050003070002040006_000001000000030908_000600050300000400_030004000000000800_000000020408070600,
  0x000007000000060300_060005030704020009_000003060900000700_000300050800000900_000804090100000507_000009000000010008_070000080003000006_000000020000000000_000600070009080205,
  0x000803000700000900_000600030008010004_050001060000030000_000308000000000006_020000000600000100_000006080000040205_000009000400070000_000002000003000400_030000050800020009,
  0x000000000004090000_000002000000010003_030500020001040608_000604070000050100_000300050006000004_000000040002000000_050006000000000001_010003060005070009_040907010000000300,
  0x050604000008030207_000000060200050900_020000000000000801_080001040006090500_000002050801000306_030006020900000408_000205080709040600_040309010002000705_060000030400000100,
  0x000008020607040005_000607030000020100_000300000105080600_070000000000050800_000401000506000702_000006000200000000_060900000008000000_010803000702000900_040005000001000000,
  0x000809060000030000_000300040905000008_000000030000090400_000201090804000006_000000050706010002_090506000002000800_000008000000000700_000000070009000205_000700000000040000,
  0x060502030700000000_010004000908060503_090300000005000002_070200000006030004_000006000200070000_000105070003020609_000401000500000306_000900010600050007_000607080300000201,
  0x000409010000000602_020000040900050001_000600000000040000_060200030400070509_040005000207000300_090300000608000000_080000020100090405_010504000000000207_000902070000010000,
  0x040005010006030000_000300000000050009_000008000007060004_000000020000000003_000000050709000000_010000060000080000_020000070005000800_080006000300070400_050900080100000306,
  0x040205000003070608_030706000004000200_000000070602030405_000003000000000800_060007000000050000_020001050008000907_070008000000040000_090602030005000700_000004060800090300,
  0x000204000000060001_080901000600000205_070600000200090004_000000020401000000_060708000903000000_000002000700000009_000800040109000000_010403070800020000_000000060002000108,
  0x000904010508030000_000000090200070401_060000000003090008_000008000007000306_020000080300010907_000700060001020000_010302050609080000_000800000004000000_040607000000050000,
  0x000004000008000200_060000000003000900_000000040100000000_030700010004000000_000000020000000007_000000080300060005_080005090001030000_000100070002000009_000609030000000000,
  0x000100040006000507_000004000800090300_000609020700010804_010805000400060000_000007080302050109_090200060100040708_070002010600000005_040506030207000901_080301000000000000,
  0x000306020800000104_050000060000020009_000902000005060000_090200050000000000_000000000600090201_000600000208000300_000000000003000006_060000000102000007_030501070906000402,
  0x010006000802000000_080400000500020000_020000000004000008_040000090006000000_050000000400000600_070000000000000104_060004030000000200_000700000605010000_030800000100000000,
  0x000300080904000000_000002050603000708_000809070201050300_050000000400080201_030000000005060407_000406000807000509_020501060008040000_080003000009010602_090004010302070805,
  0x000001040008000709_070003000002060008_050008060009010000_000000000100000000_030000000000000000_060000090004000003_040302000900080107_000007000000040006_000000000001000005,
  0x000002060103050800_000600090804020100_080000070205060309_000000000609000400_060100040000080003_040805000001000906_070200000906000501_030500010708000000_010900000000030708,
  0x060509040000010200_000000050900000004_000700080200000006_050001090000080007_070006000000000301_080400000007050902_000002030000000000_090800000000000000_010307000405000000,
  0x000206000004030100_080007000306000400_000400000002080000_000600090800000000_050000060007000308_000708040003000000_000009020108000000_070005000000000000_040000070005010000,
  0x000000020800000005_060502000007080400_030008060900010002_020609000008000000_050000090000020000_000007040602000000_000000000400000600_040000000203000500_010000000000000207,
  0x040100050300000200_050007080900040106_080900000400000507_000609000004050702_000800000000060009_020704090605010003_000001060003000900_000008000109000005_090503000200000600,
  0x000000040500000000_090003000106000500_010000000700000008_000007090004030201_000102000007000005_000009000200080004_060000000000000000_000205000000000000_070904000300020100,
  0x060007020804000900_000903000607000002_080400050903000007_090000000005000300_000305000000090000_000000090300020501_000009030500000000_000000040700050600_030000080106070009,
  0x030000040900000500_060008020705090003_070000030001000002_000000050000000007_000709060008000305_000001000000040600_090004000600000001_010300090500020000_050800010207000000,
  0x000608000003000009_000900000500000604_050007000009000000_000006000000090401_080000000201000007_030100070000020508_000005000302040706_000001050000080000_040000000007010000,
  0x000409000500010800_000600080400000009_080102060700000000_010706000908040000_000304000605080700_000508070304060000_040903000806020000_060001090007000403_050007040003090000,
  0x090000030500000000_020007000400030500_040500020000000000_000000000002090000_050000070800020000_000000000100080000_000700000004000006_000600000700050200_000205010600000000,
  0x000602030800000400_040003020001050000_000105000004000000_050004010000070902_020301000000000000_000006000200040100_030008000100000504_010009000002000600_060007090500000200,
  0x030201060000070000_070600040000090105_000000000000000000_000000000900050000_000900000000020804_000007020806000300_000000010005030002_000100000307000000_000300000400000001,
  0x040000000000060300_060000040000020009_030009070600010405_000600030400070100_000300010008000900_010000060005000004_000105000306000007_080006020107000003_000203050900080601,
  0x020803040000000700_000900000700000000_000705000002000004_050000000100000000_000000000000000003_060100020000080007_000002000000050008_000009000008030400_000500000009000600,
  0x050907000003000401_000200000401050706_010600000000000000_060409000502030108_000000000009040507_070003080004060902_000006000900070000_080000010000000004_000302040800010600,
  0x000000000000010306_000609050300040200_030207040601000900_000300070409060002_040000000003050701_000708010006090003_090500000702030008_070803000100000604_000002030800000500,
  0x020005000000010008_000000000000070509_010008000000060004_070000060100000005_000302080009000600_000001050003080000_000006000508000000_080000070300000006_000500000200000803,
  0x000000030207000005_080307000005000000_000200010608000400_060501080009040000_000000050000000300_090003000104000500_000900000801000000_040008070002000001_000100000000080004,
  0x040000010900000002_080105020704000000_020907000008010405_000009000803020100_010200070000000000_000004000102000309_000000050201030904_030500090400070000_000002000000000001,
  0x000900000002040000_000400050300080009_000500000004020003_000000080900000300_090000000207010805_080000000000060000_000003000100000400_000000000500000208_040000000003050600,
  0x010708060200030000_000403050900070002_000905030007010600_080001020609040703_030604010708000005_000200040003080106_000000090305000000_090302080006000400_050006000000090001,
  0x060900000000010004_000301050400090600_070800000006050300_030000080000060001_050607000001040000_010200070604000509_080506000000000400_000700040205000100_040100000000000005,
  0x000003080500090704_000204090001000600_000800070600000200_000000000900040000_000000000005080901_000009000400000500_000300000000020800_000507000000030006_000008000200000405,
  0x040900030000010005_020107080000030000_060005010902000008_000000020006000900_000006090000050400_000800070004020306_000700000308000100_000003000701060802_000601000200070503,
  0x070000000300050204_050302090007010806_040100020005070000_060705040203080000_000803000000000000_000904080000060007_090506000100000708_000401000000000605_080207000006030001,
  0x000900000000010807_080000030100090000_000000000709000000_000000000305000001_000000000400000008_000704000000000000_000100000907080600_000400000800000009_090003000200070005,
  0x030406070109020000_000200000804060301_050008060003040709_060002080501090000_070001030406000000_000005000907000000_010004000008070205_000509000702030006_020003010600080004,
  0x000000000000060005_000100090000000702_070200060803000904_020400070600000000_000500000004000000_080603050000000407_000800000006000000_000700040008000009_010300000000040000,
  0x070200040000030908_050003000000000700_000004080703000006_000102000000070000_030000070006080400_000000000801000503_000700010000000002_000600030008000007_090001000000000005,
  0x000903070000050800_050608000904020000_010704050802060309_040005000203080006_000000000507090403_000300080000000005_070000000008000602_060400020009070008_030800000705040900,
  0x000000000006040000_000100030500060007_070009020000010003_000000000400020001_010000060200000300_020007000900080000_000800000000000000_090000000007030002_060000090002050408,
  0x000700080605040003_050608030000020700_030000070209000000_010205090300070800_040306000000090200_080007000001050306_000500000708030602_000102040003000007_000800060002000405,
  0x010000000006000907_000000000105060800_090006080207000000_050900000001070000_000704000009000000_080300000400000000_000000050700000102_070003020908000006_000800010004000000,
  0x090000000800020400_000703060401000008_080100000502000603_030500000704000000_000000000300000000_000007020009000000_050300010008040000_000200040000000000_060008000000000300,
  0x000000000000000800_000900040008060000_000000030000070500_080002000000000400_030400050201000006_000001000009000003_010006000005000000_000800000007000005_000007000900000008,
  0x030800000009000704_000000070800090300_050000030104000006_000000000500030000_040001000300000007_060000000200000001_070103080400000000_080000020000060000_000500000000070000,
  0x000002040000000900_000000080003000506_000300000207040000_000700010008090604_030900000006000700_040006090005000302_000600070002030800_080000060000050407_070001030004060200,
  0x000000000000020501_000000000005000004_000800000304000906_090001070000000200_060000050000010000_000003000006090700_010000020000050007_000000060000000102_000200000500080000,
  0x060907040002000508_050000000806000702_000204000000000601_020405030908070000_090000000000050004_000806070000020000_000009000000080000_000000000509010300_000000010007000000,
  0x040000070108000000_050200040309000000_010008000002000003_000709000001030008_000000000700090005_080000000403000007_000001000000000900_000000010900000500_090000060000000304,
  0x040801000900070205_050206000807090003_000907020400060801_010504000209000006_090603000700000502_020000030000000109_060102070304050008_080405000602010300_000000050108020004,
  0x050000090000000300_080209000001000000_000000000200080000_010003000902040006_040000060803000009_000908010400000000_020000000600030007_030005000107000000_090007020300000000,
  0x070008000400000001_010000000007000000_000402030100070800_050000010008000207_020001040000000600_000004000200010003_060109000000050708_030007000005000104_000000000001030900,
  0x070403000205080000_000800030009050600_050000080100000003_030207000008000006_060509000002030108_000004000006070500_090702050603010804_000600070000000000_040000020800060009,
  0x000008000000030500_020100000003080000_000703040005020006_000300060708090205_000900020400000800_000000000300040600_000400010000000300_000000080500000900_080000000900010402,
  0x000000020000010500_050203080100070906_000904000500020803_070008000603090200_090306000000000000_000001090407000008_030700060000050000_000605000001000000_080009000700060000,
  0x070000050000040000_040900080100070005_050008000700000009_030809000000050000_000107000300060008_000405000001020700_000000010006000204_000006000000090000_000000070000000300,
  0x040000000000000000_000003090600080100_000002000007040006_020804000000010000_000306010200000009_000900000400020800_000000030705000001_000200000900000008_000000000000030500,
  0x000201000008000000_000004000600020009_000000070002000301_040900020003000000_030000000800050900_000000000000000004_000000080000040006_000100060500000003_000408000107000000,
  0x000000000401050000_040002030500000001_080001020600070000_010208000004000500_060300000005080000_000000060803000100_050007040300010902_000004080900000300_090000050000040800,
  0x080200000700000500_000000000000000704_000500000003090006_070805000000010000_000004050300070000_020309000800000400_050700040901000002_090008030005000000_010000000000000903,
  0x010000020900000000_000000060000020001_000700000104090600_050206000000000000_000000080000000407_070004000000060000_000002000809000004_000007000000080100_040000070000000006,
  0x000002000100050008_000000020000000107_000801030005000400_000907040002010006_000004000007000005_020000000008070904_090608000201000703_000005000600020809_070003080009000000,
  0x010500000002000004_030000080100000000_020800030406050000_060005090001030007_070300000500000009_090100000300000008_050907040000000006_000600010700000005_040200050008000000,
  0x000200060000010000_000706050000000000_030804000001050000_060000070105000000_000107040800000605_000000090006070301_090000030504080200_000000000600040500_000000000907000000,
  0x020000010809000000_050004000302000100_080000000605020007_070209000001030800_060005090003000401_000003000008000002_040008030007060205_090000000100040000_000706020500000000,
  0x050006080000040900_030100070004000205_070400050602000100_000907000208050000_000800000300070002_020305060701090800_090503000807000000_000001030400000500_040602010000000703,
  0x070000000005000906_000000060308000000_080500040900000003_000000000100000804_010008050003000200_060400000800000001_090000080604000002_030605000002000008_040000000001090000,
  0x080301070904060000_050600000000000709_000907060005010000_000000000506070400_060800000400000900_000004030000000200_000006000300000007_000100040002000005_020500000000080000,
  0x000700000004080300_010000050000020700_000003000700090400_000400000009030800_000008000402000000_020109030800000004_000000000000040500_040000000000060009_000005000100000008,
  0x000007080001000609_000900000700000000_010008020000040005_000000070305000900_000100000000050000_000009000000070200_000000050000000406_040000010000020803_000000000204000507,
  0x000308010000070200_050100000008000903_020907060503010400_030000040000050806_080706050000040309_040009030806000701_000600000300080500_000405080700000000_000800000005090100,
  0x000000000009080300_000000000208040907_070900000000000100_030000000000060208_090400000000000001_080602000000050009_060000080004000000_040801020007090000_050203000006070800,
  0x000500000600000903_000000000709060102_060900080000000000_000400000805010006_050000060000000000_070600000900050300_080706010304000509_000000000200030007_090000000508000000,
  0x000300000006000702_000007080200000603_000800000003000500_080203040000000000_060009000000000000_050100000000000309_000005030400060200_000000050800030401_000000000102050007,
  0x020507000001080000_080100000600020500_090000000508040107_060701000004000009_000000050900000700_000300000000000000_000005080100070604_000008000005000002_010000000000000805,
  0x000000000500000300_000008020003090000_000007000900000800_070009040000000508_040501000008020000_000000000200000409_000800060000000000_010700050802000006_000002000400080005,
  0x000900080103060004_070604000000000003_000308000704020900_050800090206040300_000102040800090506_090400000301000200_060003070405080009_000500010600030407_000000000008000600,
  0x000100040200060000_000000000000000002_000007080106000000_000000010000020500_000700000000080001_010002000800000000_000904000600000200_000008000003000009_060201000908040300,
  0x060103000508000009_080209040003000700_050000020900010000_010306050807090402_090005060200070000_000702000000000806_000000010602000900_030904080000020001_020600000009080500,
  0x000000000800000100_000900020003000000_000807000004030000_000000060008070009_000200000300060000_000700000501000004_000003000605040000_020008030000010000_000604000000000003,
  0x000204000000000806_010008000003000000_070000080004000205_000000000800000107_000000000002000504_050006010000080300_000400000708050000_000009030500000000_030000000009000601,
  0x050904000003070206_020000000000000800_000001040002000000_000002060001030700_000009000304080000_000600080209000100_000003020400000507_040000090100020300_090200000700000001,
  0x000000000106020000_010700090503080604_000005000008090000_080000050400000009_070500080000000000_000001030700000500_000400000000000803_090100060000000002_000000010000000000,
  0x080006000500000009_050300090000070000_090001060300040005_040000000006020701_000009080002050403_000003000000060000_000405000008000600_000002040003000500_000007000009000304,
  0x080900060200000000_000005000003070000_060000010007080000_090603000004020000_000700000000030000_020008000000060500_000000000002090008_000200030908000600_010000050000000002,
  0x000000010000000000_000200000007090000_000009020800000000_090005000000000600_020006000901000408_080004000002010905_000600000000000001_070900040000000002_000000000103060509,
  0x000006010300020004_080400000500000000_020900000800060300_050000000400000006_030208090600040001_000000030107000000_000009040000080003_000305000006070000_040000000003010009,
  0x000000000208000300_000000090401080700_000004000605010000_000900000306040001_030401000000000600_060008010004000007_000603000000000508_040802000703000000_000507000000020000,
  0x060000000300040207_030005060000090001_000400000700050603_070000000000000008_000609070000000304_000003000200070000_040001000000080000_000007040009060100_000200000000030005,
  0x000004000600000000_000000000003000009_000109020805000300_090000000100000000_030700080904050602_050802060000090100_040508000000000003_060907000008010000_010200040506000907,
  0x000007040800020500_010004000002000003_000806070305040009_040005030200000001_000102000000030008_000000010604000702_000000000403000905_030400000006080200_000000080709000004,
  0x010000000003000000_030000040602000000_000007000000000000_000201000000000603_000004060000010000_000600080001040000_050003090008000002_060900000004050001_000000000006000800,
  0x000004020000050001_000500000100000704_000601000504030002_000300000709040000_010800030000060009_090400010806070000_000109000200000006_060000000900000000_000200040600000900,
  0x000000000003090207_030000020600040005_020000000400000003_000002000908000000_080009010000000600_010000000000000900_000003000100020000_000001050302000000_000200060809000000,
  0x080000000000000100_000200000500090700_060000000004030000_000000000005070000_000102000908000005_000000010000000000_010300040007020000_020000000800000900_050000090001040000,
  0x030806040000000000_000200000001040003_070001030600000005_000100000408050900_060000090300000008_080004010506000300_000500000003080004_000000000000030000_000307000000000201,
  0x000000010206090300_020908000300010600_060100080000070000_000302000107000000_010000020003000700_000007000000030200_000000060500000900_050006040009000003_080000030700060400,
  0x000000000000000005_000100000205080906_000008060000000200_000306010002000708_010804090000060302_000000080000000109_030001050000000800_000400000300090501_050009040001000007,
  0x000000000500030700_000504060000000000_000300000008000504_000600050009080000_000005010003000000_030000080206000901_010700000000090003_000209030007000100_000003000901000000,
  0x000604010302000500_000803000400000009_000507090006000103_000002000003000008_000906000704000301_000700080509060004_070000000901030006_040005030600000800_060309040000010005,
  0x000006000000000005_050004000000020600_000908030005000004_000100000000000007_060409000000000201_000200040501080000_090001000803000000_030000020004000108_040000070000000500,
  0x000009000803000000_080603000000000001_070400000600000300_000100000902030500_050004000100000902_000000050400000008_000800000204000000_040000010007000000_000001000000000006,
  0x000000000107060205_060002030904000001_000800060502090004_050200000000000107_000000050203040006_040900000001020508_020000010800050603_030600000005000000_000000020006000409,
  0x000801000500000602_000000080004000000_000000000009030805_050004020300000701_000206000000000400_000000000407000000_000008000900000204_000009060801050000_060000000000010900,
  0x000200000600010500_000001050009000004_000905000007000008_070000060800000900_000009030700000000_000300000000000000_090000000108060403_000703000900000005_080000020000090100,
  0x000201060007050900_000000000405000000_000503000200060000_000104080503070000_050700040006000800_030000000001040000_060000030000090005_020007000004030600_010305070000000008,
  0x030000060804020105_010008030005090006_020000000701080000_080000050109000000_090200000306070501_060501000400030900_000009020600050800_050306040900010207_000000000503060400,
  0x000608090000030002_000003040000000009_000407000002060000_000306000100020005_000500000004000000_080000030605070000_000700000000000003_000000060007050908_000800000400000600,
  0x010006000200000000_000900060003000008_050803040700000000_040000000006080007_000100000000020600_080007000300000005_000000090000000000_090001000508040000_000305000001000000,
  0x000004000006000900_090006040000080007_000305080009040600_040001030005020009_000900000800000000_000000000000010300_050109020307000000_000400050000000103_000700060000000000,
  0x000406020000030000_020009000700000000_070300040900020600_000100080206070509_090600000007000000_050000030000000004_060201000000050000_000900000600040002_080000000002090106,
  0x030701000000020900_000000090000080003_040009020000000007_000400010006000702_000200000009060504_060000030400000000_000000000008000009_000300000000010600_000000040000070200,
  0x000403000109050700_090005040008000000_000108000700000000_070602030000000900_040001000007000002_000509010002000603_050006000304000809_010004000000020300_030807020001000405,
  0x020407000001000300_000801060003040702_060000000207000900_000002080700050600_050700000000000004_080904000000000100_000208000100000003_000000000000070200_040603000900080000,
  0x010903000000000000_020007000004000608_040806070009000000_080000000000050700_090000000001040002_060704050000000000_030009040100080507_050400000807000003_070000000900010200,
  0x060700080903000104_090803000401000000_000405000700080309_080000000506000400_050007000004090806_040100030009000700_030000090007000000_000604020100030008_000901040000060507,
  0x000703040805000002_010008000300070000_000000000007000000_000000020003000000_000309080006000000_060000010004000003_000007000200060904_000900050400080007_030000070609020000,
  0x030908060700020105_070000030500090000_060000000008070403_000300000009050007_000007020600000000_040806000005010902_000000000806000201_000600010900040008_080004050000000709,
  0x000000080000000600_080004010000000005_000002000407080001_040000000000000002_030800000605000400_010205030900000007_070003000501090200_090000000002000006_020000090800000504,
  0x000007000000000008_000400000100000200_080506070900000003_000008020400050000_020005000008000006_000000000000080700_000900060207000000_000004010300000600_030602000000010000,
  0x000000010000000000_000406000905000000_000000000008060203_000000080107000500_090200000500000806_070800000200030000_040000090002050000_000000000700000001_000000000800000902,
  0x030000070800000900_000000000000040302_000209000306000000_000300020408000000_000000000100020807_000000060500090403_000508090203070106_060001080000000200_020003000604000000,
  0x020001000005000906_070000010600020000_000000000402000100_040700000000000000_000602000504030000_000900000300000700_000106050000090200_000000040200000000_050200000109000000,
  0x030005010000000600_090000060000040000_000004070000000002_040800000006030000_010000000800070000_000000030100000000_000000000000000400_000408000607000200_060009040300000005,
  0x080405010302060000_020006070009000100_090700050800020000_030002080004000507_010000000900040008_040008060007030001_000804000000010906_050209000600000800_000000000708000002,
  0x020005030709000004_040000000000020000_060007040502000103_000000000000000309_000600080400050207_070300000000080000_000200000104030908_000001060308000002_030400090005000000,
  0x000600000000050000_000503000900000204_000800040000000609_000000000004030002_000000090800040000_000900000600000105_050300020006000000_060108000000000000_090402000700060500,
  0x050300000607000102_000701000400080300_000609000300050700_030105000004000200_060400070003000000_000000000800040000_000807020506030000_000500000000000007_090200000000000000,
  0x000000000006020001_030007000402060908_020001000005000300_010000000908000402_050800000000070609_090000070604010805_000003060509080004_000009000100050000_000000000000090006,
  0x000500090002000100_000301060000020005_080207000103040000_070000000009050406_040003000000000200_050000000700030000_030006020900000504_010000000300000702_000405070008000000,
  0x000203050000000001_060905000001040300_080401070000000002_010300000000070009_000700090002030008_090804000000000100_030508060200010004_000100080000060905_000000010005000200,
  0x000500080001000000_020000040609080500_000000050002070601_090400000800050006_070100000500000408_000005000406010007_000004070000000005_000200000100000800_000900060000000700,
  0x090703020000000108_000200000000030000_000000000000000004_040005090300000700_000000000105000000_020900080007000005_080000050000010607_070000060804000503_050306000000000002,
  0x000900000700000806_060700000800020300_040000000006070500_010000070008060000_000003000500000000_020500060000030004_000206000407000000_000004020000000600_080300050000000000,
  0x000400000300050708_000100040208030000_080600070500000000_000001000602080000_030000050000000000_000900000000040200_060007020403000105_090500080007000004_000000000005020000,
  0x000000070405000106_050000010006000009_060104000803070000_070501000308000002_000900050001000708_000000020007050001_000207060004090800_080405000000020007_030600080000010500,
  0x040601000007080000_030000020100000000_000200000006050000_000003070000000009_050000010608070003_000700000000010000_000300000000000107_070006000902000000_000900000001000604,
  0x000000000402090000_000006010005020000_020805000000000100_000000000900000400_000000000008000900_010908000000000206_070000040009000805_050300000000040700_080000050003010000,
  0x000006000000000708_000007000904000002_090002000001000004_000003000002070000_000100000700030009_020708000009000405_030004090207000100_000001000005000007_000200080106000000,
  0x070002080106040000_010600000900000203_000509000004000000_020900000001000000_000400050800090000_000008060009020304_000000020608030901_000201000400000008_090803000000060002,
  0x000000040002000005_050000030700000000_070000000005030100_000009000000060000_040007000508000900_000003000000000500_060800050407000300_000000000000000700_000700090006040002,
  0x000408050300000000_000705000109000006_000000060000050008_010000070805000600_000000020000000800_000000000403000509_000502000000080004_040009030000010005_030000000500000002,
  0x000903040002080000_010008000000000006_050004000700000200_000000060000000000_020100000005070000_090000000000050003_000809000000020000_000500000206090007_040000090500000100,
  0x020908000403000500_000000000502000000_050407080001000000_000001000004000008_040502090008010007_090000000000050402_080000030009040100_000700020000000300_030009040006000705,
  0x040000000007000008_000001000500030900_000800090000020000_000004000000000000_010207000304000000_030905000801000000_000008000605070002_060000000000000009_070402030900000006,
  0x000503000004000000_000000080200000603_000902030100000800_030705010800090006_040001050000000007_090000000007000205_000400000503060000_000000090400000500_050308000600040002,
  0x090704000500060000_060000000902040003_000302070400090501_000000000700000809_050008000003000100_030100000000020605_040603020000000000_010200000300080000_000000090604000002,
  0x000000080007000000_000004020000050806_000901000004000000_000000000000060004_060009070000030000_000800000106020700_090000040005000002_000400000703090005_030005000208010007,
  0x000002010006000009_000003000005070401_000000080407000602_000906000800040700_000000000003000008_000000000000020100_000000000000090507_060700050000080000_000500000704010000,
  0x000305000001080000_000700000009010602_090001080004000300_030000000008020000_000000010002000000_080100050000030009_000800000000040000_000009040800070501_010504060000000003,
  0x000000040600000000_070500030000020100_000400000001000607_020800090700000006_030000000000070009_000000020000000503_000000000304090701_040001070000060302_000003010900040800,
  0x000000040901000800_000908000503000000_000003020006070004_010500090408060000_000307050000000009_080409000000000200_090004000005000100_000601000709000000_000805000300000706,
  0x000000000903000405_000103070500060000_090502000400000000_000005000000040709_000700000004000200_000000000000000601_080900050000000000_000300000201000000_050001040800000006,
  0x000007030008050604_040000000900030201_000000040000090800_090004010500060008_010503080000040000_000706000300000000_000400050800070003_000102060400000005_030000090000020400,
  0x070000000300000100_020000000901000004_000000000000020503_000600050000030700_000207030000000008_000008000204000000_000000000000090000_030000000800040000_000009000000010007,
  0x000703040000020905_020100070008000004_000506000009000008_000800000006000702_000300000000000001_000600000400050800_010907000000000200_060400000002000007_000200000700010000,
  0x080603000900070005_000500060308000000_040009000500080000_070300000006000900_050002040009000600_060900000003050000_090006070400000000_000000000000060709_000700000605020800,
  0x000004090008000603_090000030100000000_000000000000020809_020105000300000000_000407080000000002_000300000005040100_000500000000000001_000006000800000205_010002070009000000,
  0x030600010007020900_000900050403000600_010000000002050307_000409030605070000_050006080000000002_080100070004000009_040301000700000800_000008090000040003_000507040000000000,
  0x000000000800000000_000400050300070100_010000000000000006_030500000900060200_000108020600000004_040602000000000008_000000040000000000_000001090008000007_070004000106050000,
  0x000900010004050200_040005000000060000_010300020000070904_000809000200010007_000003000001000500_000000000800020006_000000080309040005_030000000700000108_000000000100000000,
  0x000409010802030007_000002000000000900_000000040905000001_000207050000000000_000000000103000004_000003000408000500_060004000000000100_020900000304000700_000800000000000400,
  0x090000000000000007_000004010000000000_080507040200030001_000000020005090006_000000000008000100_050100030000000004_020000060301000400_000305090000000200_040006000500010003,
  0x010000070500000306_000000030000070904_090000000400000001_020000040003010705_070000010000000000_000000000007000009_080000060004090002_040200090001080600_000700000200000103,
  0x000700000506000800_000903070000010005_000005010200070304_000000000000040000_030400000700090006_000002080900000700_000000000603050107_050200000000080400_010007000000060000,
  0x050108090002040700_000000000003000002_000007010000000806_000000000801000905_060000000007000008_010004060905000207_040900070008000600_000600050109070300_030700020400080000,
  0x000800030007000609_000000040002050801_090102050000000000_000000020500090006_020001060009070008_000000000000010205_040309000000080002_010000090000060507_060705000000040900,
  0x000006090701000504_070409050302060001_000000000406090703_060804000000000005_000903000000010007_010700000003080409_000207000605000900_000005000008000300_040600030907000002,
  0x000006000001000003_000800040000000000_000100000000080409_000008000000000301_000002000803000600_040000090600000200_010000000000060000_000007000008000500_000004070100000002,
  0x000009080100040003_000700090000010806_080001030006090005_020005010409000607_040006000000000500_010007050603020000_090508000002060100_060003040000000002_070204060901000008,
  0x000401030800000600_000800010000000004_000500000600000803_000600000000000100_050302060701040900_000700000008030500_000005070103060400_070000040906000000_000000080205000300,
  0x010805000704030009_090004010000070806_000007000309010000_080000050001090607_050100000600020300_000006000900000108_030001090400000700_000902000000040501_000500020107000900,
  0x000000070000000004_040000050608010000_090000010000060007_050000030700000108_000008000901000600_020100040005000009_030900000402050000_000000000000000400_000000090107000200,
  0x000001000000000600_000006000900000000_030200000807000900_000005070000000000_000100080503060000_000003010409000700_000000000105070209_050902000000030001_010007000200000000,
  0x000600000007000000_000708000600000109_010000020800050000_000507080000000002_080900000006000305_030206000500000000_000100000002000003_090802010000070006_070300000000010004,
  0x000900040506000803_050000020700090406_040000000901000205_000000000008060000_000001000000000002_000700010200080000_060004000005020000_010800090002000000_090207030004050008,
  0x000200000803000001_000904010002000000_030801090007000600_020403000905000006_000708040200030509_000000000301070200_040007020500000900_090005030704000100_080302000000000700,
  0x000000050203000406_000600010400090500_000004090006080200_000801070002050604_060005000000030902_030400000005070801_050108020007040000_000000040509000000_000009030000060705,
  0x070009060500010200_000105030000090000_000000010907050000_000500090001000302_000003000000040000_020608000005070901_090000070006000000_080200050403060009_000000020100000004,
  0x000000000007080100_000700000000000002_090408010200070005_000604030000090000_000003000806050200_080507020000010300_040300000000020501_070100000500000000_000800040301060000,
  0x000006090002030700_030700040800000009_000200000701000805_000304020900000000_080002010604090007_060000070008040502_020100000000000000_090600080200050001_000400000107000003,
  0x000200000800000006_000400020900080007_000900000005000200_000009000607000800_000000090008060000_080004010002030700_060100050000000400_000800070400000605_040005000106000903,
  0x000800040900050007_070100020005090008_030500080706040001_050000000004010900_000900000003000000_000203060000070000_000000030400080100_000402000600030700_080001090507000002,
  0x000000000002000004_000700040306090000_020000000000010003_000004070000000005_000005000809000001_070008000100000906_000300090200000000_040002000708000300_090800030400020007,
  0x090200060104030007_000300020700040800_050407030908000000_000804090000050100_020001080507090300_030000000201000008_060002000009000003_000703000002000006_040000070306000000,
  0x070900050600020800_000000000704060500_030005080100000900_000700000009050006_000000070806090000_060000000001000300_000506000408000000_000002010007000000_000307060905000004,
  0x080000000301050200_020103000705000900_070005080002030006_090008030007000000_060500040008020000_030400020106000800_000000010800060002_000802000004000300_000006000000010500,
  0x040006000701000005_010700090500000200_000000000006090000_050600080000000001_020307000005000900_090000000000000506_000000000000000000_000000000607010000_000005040300000000,
  0x090000020000030000_000600000000090008_000000010609050000_080000060405000900_000904000002000800_050200000000040003_000009000003000407_030700000000000000_000502070906080301,
  0x000007000200000600_040800050700000900_000502000000000107_060900000002030005_000000000000000009_020305060009010708_000209030000000006_010003090004070002_000700000008000000,
  0x010000000802060000_030000000000000004_000509000000000001_000108090007000400_060004080500000000_090000060100000205_000300020005000000_000005000408010000_000600010709000000,
  0x020100000006000403_040508020001000907_030906000407020801_070200080605030109_010803040209070000_000009070000040208_000400000708000006_080000000502090704_000700000004080302,
  0x050100000802000700_040002000900050106_000009050000000000_000700000100090000_010304070500000802_090008040603070500_020001000000000000_080000010705000400_030000080000010005,
  0x000000000702060000_000200050300000000_000000010906070800_010002090003050006_000300020001000007_090400070605030200_000000080004010703_000003060200000500_050800000000000000,
  0x040600000000000900_000000010200000700_000000090000000000_000200030000000005_000004050006000000_000006020700000004_060002000005040009_000408000000010007_070003000000020608,
  0x060002000000050000_090508000007000103_000700000605000000_000000080500000001_050809070104030600_000400000003080705_070100020006090508_000005010000070006_080206050009000004,
  0x000007010508000006_060000070000080200_000908000002070005_000700050300010602_000000000100000008_000100000000090000_000800000004020000_020006000001000009_000000080000060007,
  0x000300020009050000_010700000300020000_020000000107060000_080000090704010000_070000080205090000_000400010000070208_000000000000040600_000200000500080000_040001000000000000,
  0x010300000005000008_040500080000070300_000006010000050004_000008020000000507_000000060000090800_000005070803000100_000600000008000009_000800000602010005_050103040700000000,
  0x000009080000000000_070000000002000500_000200040005000000_000000090000000804_000900070000000206_060000000000000705_000800000307000100_030001000009050400_000605000400000002,
  0x040100000000000300_000809000406070100_070306000100000004_000400000008010000_000901000205000800_000003000000020000_000600010700000203_000200000603000708_030700080502000000]
theorem mixed_11_ok : mixed_11.all fastOK = true := chunkOK_sound _ (by decide +kernel)

end Gen.SudokuDB
