/- GENERATED by harness/translators.py (gen_sudoku_db) from /repo/jumanji/environments/logic/sudoku/data/*.npy — do not edit.
   One `Nat` per board (layout: Env/Sudoku/DBCheck.lean); every chunk is run through the checker by the kernel. -/
import JumanjiModel.Env.Sudoku.DBLemmas
namespace Gen.SudokuDB
open Sudoku.DB

/-- `mixed` (10000_mixed_puzzles.npy), boards 1000..1249 -/
def mixed_4 : List Nat := [
  0x000805020300000700_010400080009000000_000700000100000008_070009000005000003_000000010600000000_050002030000000100_000001070408000509_060500090003000000_080900060000070002,
  0x060000000000000400_000000030602090005_030005040708000602_000103050007060200_070000010004000908_000802000009000000_080600000403000000_000001000006000000_000400020900080306,
  0x000000010003060009_000100000000000000_020500000000030100_000001020000000803_000004050000020001_000002060401000000_000006000000000300_030200040000090700_090005030007000200,
  0x050600000200030008_000000000801000000_010008000000020900_040806010700090300_030105000009000800_000200000306040000_070500000900000200_000900000007080403_000400000000000000,
  0x020409050601000700_000703020900010000_080106070300020005_000000010700000006_010000000500030000_000900000803070001_000300090000000802_000500000206040109_000004080005060300,
  0x000002010005000300_000700020006000508_000003000000000007_000400000000060700_060001000207050009_070200060500030000_000900050103000004_000007090008000000_030004000000080000,
  0x020004000100000003_000000030004060209_090603050000070400_000902040500010700_080400090301000005_050000070208030900_040300000600000000_000009010405000300_060801020003040000,
  0x000203000001090500_000000000000000200_080900000500000004_090000010700020300_000400000306000000_000002000005000400_020508060007040900_070004090003080000_000109000008000700,
  0x080709000004010600_000000000001080009_060001020009050700_090000010300070000_010500000002040308_000003040005060000_000000080206030104_000000000103000000_000008090400020500,
  0x000102060907000000_000000010300000000_060003050000000000_000000000000000305_000006000800090000_000907000503060801_080600030000050100_000700000106020408_000001000400030006,
  0x000706000004090200_010905060000000000_000004090500000008_000009000601000002_000000000400050700_000000020300000800_090500000006000100_000001000000000006_060200000008000507,
  0x050000060007020900_040200000809050001_030009000001060804_000304050906080000_090802040000070506_060501000200040000_080907000602030005_020403090000000008_000000000300090007,
  0x090008000700000600_070000030508090002_000300090000000007_000800000000050300_060000010000000000_000009000000000000_080600040300000500_010000000800060704_040905060007000003,
  0x060402000100000309_030000000700010000_070109000402060000_000900000300000000_000004000000090100_000306020809000400_000005000900000700_000601000004000908_000000010008000000,
  0x000005000100040000_060001000300080907_000900000804000000_000708030206050009_000503000907060400_090000000405000700_080009020501000004_000304090000020000_050002000703000000,
  0x000100050704020800_000208000109070406_040000080000000900_000900070500040008_070001000008000009_000004000001000702_000000090000000004_030409000007080000_000805000000000200,
  0x000102080003070400_030904010200000000_070500040900020000_050401000708030200_020006030100040907_000703000402000105_000300000600090504_000200000804060003_040005070309010000,
  0x000000050602000801_000000000000000500_060002030108000704_000001000009080200_030900000800050000_000008000007040009_090200070003000008_000000080200000905_000800000000000003,
  0x000802000000000701_070100000400000800_000409070108000000_000000090500000003_000603000004000905_000007080600000104_000000060307000200_000708010005030406_020300040800000500,
  0x000907080000050103_000302000000000006_060008000705000200_070000040300000005_030400050206000708_020506000007010000_000000060108000500_000005070900000000_080700000000000001,
  0x000802000006000103_000000040000000900_000900000000060400_080205000709000000_000000020000090501_000104030005000007_070009000801000004_000003000002080000_000008070300000000,
  0x000000000500000000_090000010000000000_080502000000000001_000001070300060500_070600080005030402_030000000402010007_000700000206000803_060000050001020000_000008030000000000,
  0x000205000000000000_070003000605000000_000000090000000000_020000000009010006_000000070408020005_000009060100070300_000501040200000008_080000000900040000_000004050800030000,
  0x070001050800000000_030502010000000604_000008000000000501_010006040902050000_000709030008040200_000000060507000300_060000090005000800_040207000306090100_080905070201000000,
  0x060004000301000009_000701000009020000_080509020600000004_000000000504060000_040006090003000005_000100060802000000_020007000006080500_000608000100070002_000405000008000006,
  0x010004000502090607_060900080004000502_020000060000080104_090706010403000800_000000020600000300_030205090000000401_050300000800000006_000609050301000208_080001070206000000,
  0x000000010000000700_000900000600000003_010002000500000006_050009000104030000_000004050300010000_000000020009000000_000508070003000601_000203000001090400_000000090000070300,
  0x000400090002010500_000000010405000600_050000030706000902_000000000000060001_010700000000000405_060004050201070300_000207000003050109_000103000504000006_000005020000030704,
  0x010400000003000000_000000000000030804_000008040600000700_070000000300000006_020000060900010000_000000000800090003_000607000409050000_000300000000040009_000004030500000000,
  0x070000000300010005_000300000000000002_000500010000030400_050203080000000704_000901000000000000_080607000205000301_000800030400000009_030700000109000000_090100000600000503,
  0x090405070000000302_000000020300000000_000000000000010008_000000010000000500_000507080000090003_060002030504000000_000600050200000100_000700000000050604_000000000007080000,
  0x000000000500000402_000000030406000900_000905000000000100_000109000003000000_000000040802090000_000000000000000007_080000000000030006_060507020000010009_000000080001050004,
  0x000000000000050000_060300000402000001_020500060000000004_000000020501080007_070100000006000003_000000000000060005_000000090200070000_030000000000010009_000008010307020006,
  0x000804000002000000_000609000801000000_020500060000000000_070000000906000008_090000050100060000_000000000007040500_040702090600000300_050900000008000602_080106000003000000,
  0x000003020706000400_060500000004030701_070804000503060900_000300000207000000_000000060801000300_000601030009020000_090200000300000000_000007040600050000_000408090100000000,
  0x000000000900000007_000008020005000001_060004000000090302_000000000201000903_000000000004000006_070000000503000008_040800000009000005_010000000800000000_000006010400020000,
  0x000200010900000003_000301040802000000_060009000700020000_030800050000070402_000007000600030000_000500000004000800_020008090401050307_000000080000010609_000100000007000200,
  0x020600000904000801_000708000102000309_000309070008040000_000203040805000000_000000000007090402_060000000200080500_050800010700000004_000006020403000100_000100000500020006,
  0x000009050302010800_030000000704000000_000502080001030000_080007060900040003_000906020000000000_020400000007050900_000700000000000002_010000000009060300_090308000000000501,
  0x000000000703000006_000900010605080000_030605000000070900_000002000009040003_060309070200000005_050400030000000009_070500020008000104_090000000400000208_020000000901030000,
  0x010009070802000003_000807030504060000_000400000901000000_040900020000000600_080302000609000000_000701050408030200_030004000006080007_090000000703000106_070200000105090304,
  0x000600020000000000_030100000600050708_070400000000060002_080007000002010005_020306080000090000_010504000003000200_000005010700040000_000000000000070009_040703000506000000,
  0x090000000008000106_000000090300020000_000201040000030900_060900010003040002_000503080000060009_000000000000010000_000600050009070000_020000000407000500_000700030000090000,
  0x000801050006000000_050000020904000000_000000080100000500_030208070400000100_000007000001000408_000000000809070302_000000000000060009_000306090007000200_010002040600030705,
  0x000504000608000000_080000090200000500_000000040500000000_000005000100090000_070000030000000000_040800000000000006_000600000002000104_000008000300000007_000003010007060000,
  0x070100060000000000_000000000102000900_000008000007060301_000000070000020004_090000010003000000_060004000800000000_000007000901000002_050000000208090000_040000050000000000,
  0x000200050007000000_000405020609000001_070900080401060000_000000030000080106_000000010904000003_000102070806000005_010007000000000000_020000000705000608_040008060100000007,
  0x000000000000000003_000000020000000001_000000040300000200_020004000008010306_050100030000000008_000003000106000402_090005000000020000_000001090000030005_000300000405000700,
  0x050700030100080902_010408090206030507_090200000508010600_080009000002000306_000000010600000000_000600000809050001_000000080000000003_020001060900000008_000004000307000005,
  0x000005000001000000_080007000000090104_000400000800060300_020004000007000803_000508010203040600_030600000500070000_000000000106020900_000000000000010406_000900000704030000,
  0x030009050600080700_000000020000000000_050004080009010206_000602070000000001_070400060100000002_080005000902060007_060508090407000000_040300000005000008_000001000006070000,
  0x000007000000080000_090300040000000200_000608030702000501_000004010000000005_080000070005000009_070502060000000000_000005000600000000_020000000304000006_000800000000030000,
  0x070009080401000000_000100000200000705_020006030507000000_000702000003000004_090000010000070006_060000000702000008_000208000600000300_050007000309010800_040003000008060000,
  0x050009060008070001_000007000500000000_010400020000000008_000005000206030000_000802040000090500_030000000007000002_000000080900010700_000000000600000904_000500070001000000,
  0x000000000503000007_000908000102060000_010503060008000402_000200000304070900_000009050000020600_080007020609050003_000004000001080006_060000000205040000_090700000006000201,
  0x070908000205040106_000306000000000802_040102070006000009_000200040000000500_080000060103000000_000007020500080003_000400050000090000_000700080900010205_090000000000030700,
  0x000800000600000104_060000080004070005_040000050207000000_000300070008090000_000000010500000000_000005000000000300_000000040000080009_000504020806000000_070008090001000002,
  0x070902000300060000_040106020509070300_000000010607000009_000001030000000000_090200000400080001_050408070900030000_000600000003040000_000500040200090603_000300090000010000,
  0x020003000400000009_000800070900030100_000900030100080000_010009020000000008_030208000704000900_000506000009020307_000007000000090000_000302000000000600_080400000006070000,
  0x000004060500080702_060005080700030009_000700020403000005_000000000900020006_050106000002070004_090400070000000003_000503090000000000_000601040007000008_000008010000000007,
  0x030800060005040002_000000000300060500_000000000001000003_090400000000000000_000000000408000009_000700000100000000_000200000709000005_000000080600030900_000000040000000006,
  0x060107000000020000_020000060000090307_000000000200060001_000306020005000000_000005000000000002_000200090001050000_000900040007000200_070000010000030004_000600000002000800,
  0x000600070908050001_000500020000000900_000000000000000602_070100050000020400_080406090007030000_000000040600090708_050003000702060804_000004060300000209_060000080400010000,
  0x000000070000000602_030700080600040900_020601090004000000_000006020700010405_000007000108000006_000000060403090000_060904010805020300_070500040200080100_010008030907060004,
  0x030009080005000000_000006030002000004_000000060000000300_080900000500020600_060000020000080000_000203000006070905_000104050600000008_050300000200000006_000600040308000000,
  0x050002000006090100_000004000000050000_060700000000000000_010608020000000000_000005000600000700_000203000501080004_020506000000000801_030000050700000000_000800060100000003,
  0x000805000307000004_070109040002080006_000000000001070000_040008000000020001_000602000000050708_000001000800000003_010900000708040000_000400000000010000_080200090004000000,
  0x010300000009000002_000507040206010000_000008000000000000_020004000105080003_050000000000000000_000800000000070000_000901000000020800_080605000000030401_000400010003060500,
  0x000000050309040206_050004000208000100_030209000100080507_060500090007020300_000700000605010000_040000030801000000_090400010703050002_000007060500000900_010300080002000604,
  0x000007000000090000_000000000900000000_010900050300080704_000000000001000307_000009000000000100_000000040008000500_090001060007000800_030600000209000000_040000030800000900,
  0x030006070000000000_050000060002040000_070800000405000003_060009000204050000_020000050000000106_000000000603090000_000000000706030000_040700030109060502_000003000508000001,
  0x000002000003000809_000501000800000004_000804000700000002_060700050001040900_020000000000000600_000003000600000008_000200000006000000_080000000000000000_000400030008000005,
  0x000800000700000000_000000000006000500_000700080005040301_000000040100000000_000007000008060100_010000060200000005_000203000000000007_000100050802000000_040605000000010800,
  0x000000000003060000_000000000908030005_000000000000000001_020001000007050009_000600000405000000_030009000001000000_000105030200000708_080000070006090103_000007000804000500,
  0x030001020508000900_000000000407010600_040000000000000002_060004050903020708_090000010700050000_020000060000000000_000000070000000009_000005080600030000_010006040309000005,
  0x000004000000000008_000000020500070000_070008060904000301_050000000006080003_000006000205000009_080201090003000000_000000070000000100_010400030000000007_030700050000060002,
  0x000008000000000000_000002000503010000_040100000608000705_000001000700020609_000607010000000000_000000000006070401_010004030807000000_000000000000000107_000509000100030008,
  0x010700030009000200_090004020700010003_060000000104090807_000605000003000001_000907010405000300_000100080906070005_020801000007040009_000406090502000008_000009000801000702,
  0x010200050000030806_000005010000020700_070400000000090500_020500000600070300_000007080000060000_000308070500000900_000706040800010003_000002000706000000_000004020000000607,
  0x000000000003000008_000000050000000100_000005010600030704_000906000000040000_020004000000080300_070103080000000600_000700000309000000_000001020000060900_030000000500070002,
  0x070000000002090304_080005060400070002_000000000701080006_040006000309050000_000000000206000900_000209040007030000_060004000000000005_000800070000060400_000107000600020809,
  0x090000010000000000_000000030000000000_000800000700050906_060109000000040800_000408000009000607_000700000000000500_000000000200000300_020600090400000001_000000080600000004,
  0x020500080100040603_080000040500020007_090003020000080100_030200090006050801_070000030008090006_000009050200000004_040908010305060002_000702060004030509_050306070000010408,
  0x020000010008090003_090008020000060000_000005000000000200_050000000000000700_080000090200000600_000609000000000800_060004000302070900_030500000100000400_070000080000020305,
  0x000201000000040000_060007000004000100_000800000000000700_000005040800010003_080000010000050000_000000020509060408_050000090402070000_000700060005000800_000906070008020005,
  0x060000000003090000_000005040600020000_000300080000000600_000000000500060000_000008000104000205_000000030700040008_090003060800000504_000406010300080700_000001070405030006,
  0x030000060500090004_010009000300000205_050006000400080300_020004090701050800_080003020604000900_000700030000040602_000002000900030008_000000000003020706_060000080007000409,
  0x000300060705000902_000000080004050100_000400090201000807_040000070900000305_080700050000020000_050003000000000000_030000020000090000_000800010509000003_090100030406070000,
  0x090001040800000000_030400070200000908_080000000003000004_000600000000090200_020008000700000400_070009020004030000_060804090000070500_000000000008000000_000000010007000600,
  0x000100000002090805_040200050009000307_060905030000000104_000004020300050009_000607090800000402_000509000006080000_050400000900000000_080002070001040900_000700000204000001,
  0x000009000308000500_040500000109080700_000800000005020004_000602030400000009_080000000201000000_000000000006040001_050000000000060000_060108070500000402_000004080000000000,
  0x000009010000000004_020400000300000000_030107000000060800_000206000000000000_090703000800040000_050004000000030100_000001000000000609_000000070600010003_000000000009000002,
  0x040500080000090700_000001000000000000_000000000904000500_080000090007000100_000200030006000000_000107040802000009_000300020000000800_090005060400010000_000806000001040900,
  0x000007040900000000_020600000507000003_000100080006000000_070200090000030804_060009030005000000_000000000000000000_000000000800000000_000903060100080700_080700050200000900,
  0x070102050000090804_060803000009000107_050400000007020000_020600000300040705_000500000700000600_000007000000000000_000708030904000500_040200000000030001_030900010000000400,
  0x050000040000090006_000003050109000000_000000080000000105_000209010007000008_000500060804010000_010000090300000000_090002000000080000_000306070000020000_070005000001000903,
  0x000100000309080004_040000000006050700_000906040508000000_080000000903040502_000004000001000006_030600000400000007_020307000000000408_000409000000010200_010008020000000900,
  0x030900040001000508_080000000006010000_010406020508000700_000600070000000900_050000060000070000_000000000000040000_070300090604000001_000000000000090403_000104000002050600,
  0x000509000108030704_080706000000020001_000100000205000000_050001000602000007_000300000000090000_060000000007000305_090400020306000008_000005000801000900_000800000709000600,
  0x000000020503000907_000001000804000006_000200010000030408_020400080000000700_070009000002000300_000300040001000500_010003090008000002_060004030007090105_000702060005000803,
  0x000500000702030108_000000000000070006_000603080900050002_090400000007080600_000008000504000703_050007090000010000_080700040609000001_000004030000060000_030006000108000000,
  0x060009000000030000_000000040803060905_050000000000020001_000900000002050000_020000000500080006_000500000100040000_000000010408000003_040000000006000508_030008000000010402,
  0x000209030608050000_070004000102000300_060000050407020100_090706000305000401_000000080700000503_080305000001000206_000000000004010802_050000000003000007_000400070800000000,
  0x000704090508000300_050601000000000007_000300000000000000_040006030700000102_000500000006000000_090207000004000000_000908000300060501_030100060807000004_060402000905030000,
  0x070008000004000009_000900060300000000_000304000809070600_080502000400090001_000407000000000006_060109020708030005_050700040903000200_040200000005000000_090000070600040500,
  0x000000080000000609_000004000006000001_000600000200070005_090007000800000000_000400010709000006_000000000304090800_000800070002010500_010205000000000700_040700000003020908,
  0x000402090000000800_030008020601040500_000005000008000000_000607050804000300_000500060002070000_080200030000000006_020000000500000700_000001040203080600_000004000706030902,
  0x050000000300060000_000100040009000000_040000000501000308_000601000008070509_000000000102000800_000007000000000000_070800000000000003_000400080700050902_000205090004080007,
  0x000000000300000907_060700000100080002_000300070206010400_020600000900000000_000401030600000208_070900080400050100_030005000804000001_000007000003000009_090006020700000004,
  0x010308040005060000_000000030000040100_000000000102030807_060002000301000409_000000080000050003_080503060904020001_050800000403000006_000000000600010000_000406000009000308,
  0x000001000000070804_000204000700030605_000000000604000109_000800000009000000_030100070500040908_040009020003060701_000903060205080407_000706010400090200_020408000007000000,
  0x050000090003000107_000108000700000003_020300000408050000_000005000000000200_000901000800000004_070400000000060500_040000060000010000_000503070009000602_000006080000000300,
  0x000000000600000000_020000050000060308_000000070802000000_000306000500070001_010000020903000004_000204010700000000_070003000208010900_050100000300000006_000800090100030407,
  0x040600000001000800_000700090008060300_000000030004010002_070000000000000900_060000000000070000_080000000405020001_010000050800000400_000006040100000009_000900060000000000,
  0x060000000005030209_000000020000070500_000900000004010000_000001030006040907_000600050000000001_000008000000050000_000000010002000003_030207060000090100_000000090000000700,
  0x010507080602030004_020604000903080100_000309010004060002_040100050306000007_050706090000040301_000900040107000806_060400000809070503_090003060705010008_070000030400020600,
  0x000003000000000500_000006040003080201_020000080000000700_010000030009070406_000907000001000000_060300020407050009_050009010200040300_000004000000020900_000802000300000000,
  0x070402000600000005_090806000002000003_010300000004020600_000000000801070006_080701040006050009_020600000705040001_000507020308000100_000209000107030500_000000000000000000,
  0x000000000802000006_000700000403000500_020000060009000004_000000000004050000_000402000007080603_000809050000000007_040000000705000301_000003000600020000_000000000001000700,
  0x000201060407080005_060408030905000207_000900080001060403_040009070002050001_070003010000000604_010602000000000000_080305000006000702_090700000000040008_020100000708000506,
  0x000806000901000700_000900000000010604_020100000300000900_000000050400020000_080000060007000400_000000000800070000_070000000600090001_000000000708000203_000000020009060807,
  0x050009010807000204_000807000000000000_000006000900000008_000502090001000003_090003060700000000_000000050200070900_020400000000090000_030008000000020100_000000070000040805,
  0x000600000400020000_000007050000000401_000408070209050000_040700000500000208_050100090807000000_060000040002000005_020000000000040000_070004080000010500_000001020700030006,
  0x000600000400000302_000005000003000900_000203090000040005_000508040007030201_060307080002000000_000100000005000006_000800060009020003_000000000500000604_000900000000000007,
  0x000000000200000406_030000040600000700_060000090501000000_000007000009000000_020001050006000300_090500000402060000_000300020800000000_000005030000040008_000008000000030000,
  0x000507000600040100_000000000001050000_000004000000020008_000000050000030706_060000000702000000_000700010306000000_050803000004060000_090000000005070003_070200000809000400,
  0x030700000000000000_080502000407010000_000000000200050800_020106000004030000_070809050000040000_050400000000070000_090208000001000000_000300040608000200_040005000702000001,
  0x000300000000000000_080900000006030501_070001030200000608_060005000100090307_020109060700080005_000400000000000000_090708040301050206_010603090500070000_000204080007000003,
  0x000008000600000709_060004010000000002_000000000009000000_000000040000030500_000100000002000000_030400080000070000_070001000005000003_090302000008060005_040500000000080000,
  0x000800030000000005_030002000600000000_000000000000030000_000700000109000000_000008000700040003_000000000503000000_050300000406090008_070200000300060001_000406000907000000,
  0x000004070003090200_020000000109000000_010009080002000000_000007050001000900_050100000000040007_000008000207030005_070006000304010008_000000010708020000_080000000000000309,
  0x050107000406000203_040306080007090501_080009000500000700_000503000004000000_060802070305010009_010004020809060305_030401000000020907_000908000701000604_070005040902030100,
  0x020408000100000300_010500000600020004_000000020000000000_000000030501060009_000301080006050007_000605000007000100_030807000900000201_000004010003090705_050100040002000000,
  0x060000000000000001_000502030800000000_090800000700000005_050209000000010000_000600020103000000_000004000000080702_000000000007030206_020706000005000908_030000040006050107,
  0x050003000600020001_020001000004000007_000006010702080000_030000000000000000_000507020006090100_000008000307000000_010600000400030009_000009000200000004_070000000003000600,
  0x070000000908030000_080001000005070400_000003000000000100_000100000009000000_060004070102000000_090507060000000208_000008000001000003_000600030000000000_010000000206000907,
  0x000006040000000007_000008000005060000_000507000600020001_070000000006000000_000600020300000900_000000000000070005_040005060100090000_000002070500000100_060100000209050004,
  0x000000040900000003_000504060003090000_000100020005060000_050000090600000400_060401070802030905_000208050004070001_000003080009000102_000800000406000009_040905010207080006,
  0x080000060500070003_000700080000000402_020300090004080000_030000000209000000_010000000005000000_090000070108040000_000800000003000607_000000000007000805_000503000006000000,
  0x020908010507060304_000400090302000008_000700000800010902_040206000900070003_070500000608040109_000000040003000506_090800070000030200_010300000405090600_000607030200000401,
  0x000200000007010000_000100000200050703_000709000400060000_000907050000030000_000300000000040800_000005030000000001_000002000603080104_000601020000000000_070800040001000500,
  0x070200000005010400_000901000403060000_000504060000000800_060002000700000900_000000000000000000_000300050102080000_000000000007000201_000005000309000708_020800010000000000,
  0x080304090500000207_050902010807060403_000000030204000508_040600080703020100_000107050900040006_020809000001030005_070200000400050001_000003070105080602_010000020008070904,
  0x010000000005000000_070500090801000200_000408070306050000_030200060504000009_000004030008000502_060800010000000007_050002000009010403_080001040203090700_040003000107020608,
  0x000100000800000602_050600000000000003_080002060503010409_060008090002040000_010209030000080000_030007050000090201_000801000006000005_000005080200000104_020906000400000000,
  0x010000000000000800_090003000405000100_060800020000040000_000109000800020007_070304000206090008_000600050900000300_000901070000000003_000702000503000001_000500000100000709,
  0x000004030905070006_000002000806030005_060003000000090804_030400090002000008_010000060004000009_070900080000060000_050007020000000003_040600000300020501_000001050409080607,
  0x050307000000000800_000000070500000902_000902000008050000_000508030200000007_000703000806020000_000004090000000000_070000040902000000_000005080001000000_000200000705080100,
  0x040005000009000002_030200040007060008_090806000000070004_060008070000000209_010300050906080407_050000000002000603_080003000100000705_000504090000020000_000109000005000006,
  0x050801000000000904_070000050000000008_000003080006000105_000605000000080000_010002030000000000_000000000000000300_060009010000020500_020000060000000800_080004070200000001,
  0x000500000000000009_000809000200070100_010002090000050603_000000000100000000_000901000502000307_030200080000010000_000300070005040000_000100000906030005_000705010300060908,
  0x000000020008000400_080000040006000700_000000000000030000_000702000400000305_040000000605000000_000009000000070600_000401090000060000_030008060107000200_020900000504000100,
  0x010300020900000805_000006040500020901_000002000800000400_070001000400000302_000500000300000600_000000090000000104_090008000100040703_000100000000060000_000400030009010500,
  0x000009000002000400_000000000000020801_000800040000090000_000703000000000602_060000000204080009_000200000006040100_010007000300060900_080600000009000003_000002000008010000,
  0x000509000400010007_000000000507020000_000702080100050006_000904070005000000_000100040209060508_000005000800040000_000006050704080200_020401060000000300_000007010302090004,
  0x070905000401080200_000000070002000503_000200000000000000_060007000000020000_000008020006000005_000302080004090007_000503010009060700_000000000007000008_000009000203000000,
  0x000500000000000009_000001000600000004_000400000000030600_000000000004080000_000000010000000405_000007050200000001_050000070000000006_020004000306000000_000706000500040100,
  0x040900000001000005_050802090403010607_060007000500000009_020600000007000500_000509000002070000_000708000900020300_000001000800050902_090005070104000803_080306000209000701,
  0x080600000000000005_000200000905000000_000003000200000004_070908050406000000_060000000103000700_030000000009000000_000000000001050400_010000030002070000_050000000000000001,
  0x000000070506010000_010000030802000000_080205000001000300_060009010200030000_000108000300060409_030704080600000501_000001060900040207_000300040008000600_090000000700080003,
  0x000400010006000005_000000090400000600_000600000700010000_000801000000050000_070005000000000004_020904000000070000_040000000000030500_000500000007000206_090000020500040008,
  0x000905000000000408_000000020008000000_000107000504000003_000400000802030000_050200030000000604_070009000005000801_090806000000000000_010502090403080706_030704000006050109,
  0x000007080000050006_060103050000070008_000009070001000003_000802040005060700_000906030702080400_070400000000000002_090304060100020507_050000020000000000_020600000007000800,
  0x070004010000050008_000801090003000700_030000080000010009_020003000100070000_040000070005000200_000700000306040800_080400060000020000_000300050000080100_000000030000000000,
  0x000001000000000900_000609050300000800_070003010000050206_000000060000000005_060000000503000008_000000090007020600_080907000600000000_000200000000000000_030400070901000502,
  0x010905080607000003_080204090500000100_070600010402000000_040507000000000302_020108000300090006_000000050201080700_060009000005000001_030000000800070000_050702030100000809,
  0x000004000005000907_010206030009000000_050009060004000003_000400000008000000_000500070000080009_000000040000030500_000000000603090000_000005000000000306_000000050401020708,
  0x000000070201000600_000002000005040007_000000040008020300_020907080000000503_080000020000090000_000003010000070008_000000050000060800_070000000103050000_000205000004000700,
  0x050000000704000800_020400000000070000_000106090805000400_000000000401080600_010007000006040005_000004030000000100_060002040007000300_000801000302000706_000000060008050004,
  0x030807050209010604_000005010000000703_010004080703000009_060103070802040905_000409000501070302_000502090304060001_090300040600000508_000708000905000106_000006000108000007,
  0x000700000002050001_000000000000000000_050600070300080009_000003010508000604_060000020000000105_000007000004000002_040300000000010207_000001000200000003_020000000000000008,
  0x000904050703060000_080500000609040300_000306000000050900_040007000001030000_010200000500000600_000005040908000200_000103000002000406_060002000005000000_000000000300020005,
  0x000005000000000203_000308000902050000_060002030504000708_050201040000000006_030900000005010000_000800000700030000_000004050006000000_010009070208040005_020500010009080007,
  0x040502030908070601_030900000100000402_000100040005000008_010207000003090000_080005090700000103_000300000001020000_050801000304060200_020700010006000304_060403000009010500,
  0x010407000005080900_000000010700020000_000006040009000000_000001000000000700_000000000900000300_000600070008050009_000000080300000006_070000060500090800_000500000001030000,
  0x000007000900000803_000000020005070004_000400060000090000_070009040200000000_040006070000000502_020001000500000907_050604000100000700_000700000000000009_010900000000030005,
  0x000004080000000702_000807010300000000_000300000000000000_000000090001080000_030000000006000405_000600000504000000_000002000000000003_000706000900000501_010003000002040800,
  0x040001000500020008_000200010000000304_000000000002010000_000002000700000000_000700000003000800_000809000204070006_000500020000000700_000600000409000000_000003070800000001,
  0x010700000000000000_030600000901050700_000904000000000008_000006010203090500_000103080000020400_000000000604030000_000000000005080900_060000000000070000_090800020000000600,
  0x020300080000090506_040000000003000702_010509020706000008_000700010005020000_000902000800030000_050000030200080607_070001000008000009_090205060100000800_000003000900000400,
  0x010000000000060000_000000000800000203_060508020300000000_050309000000080400_080402060503000000_070000080400000005_020907000100000004_040005000000030800_000006040000070109,
  0x000002030001050007_010400000700000000_030000080000060102_000008090000020000_000300000000000000_040900000006000800_070004000509080000_090000040000000000_060801070000040500,
  0x030000000206080004_000000000905020700_000009000004050100_050000060700040000_000204090000000007_000001040802000600_000000020000000500_000002030607000008_010800050009060302,
  0x000000090502040008_050807060104090300_000409000008060000_060000040301000007_000000050000030406_030004000200000109_000000000000020603_090203010605000004_070000020000000905,
  0x000009000300000000_000802000105000600_050603040000000901_020001050009000000_000000060700050200_000006030002000700_090300020004060100_060000000900080403_040007000000090000,
  0x000000000008000007_010800000600000000_000407000100050000_050904000002000008_020603050001000000_000001000000000005_090100080207000003_070000000300060900_000302090000000000,
  0x000607010208090304_040100000003020006_020900000600010008_000005000001070900_000209000000040005_070004000009060201_000700000100050009_090502060304080000_080401090500030602,
  0x070000000009000400_000200000604000307_000004000000000208_050407000001020006_090803060002000700_020000070008000004_060708030200040109_040900000006070503_030500040900000002,
  0x000406020900000007_000000000000060004_000000000007010500_030100000000000000_020000010400000800_080009000705000000_000508000102030400_010002000000050006_000900000000000008,
  0x000005000000000100_000300000000000007_040701000200000000_010002050603070000_090000040000030000_030000000901040002_000100000005000004_020000030109000008_000000000000000000,
  0x000003020800000705_000000060003000802_040002000000000003_020000000005000900_000000000002000100_000301080700000000_030004000908000500_000600040200000009_000008050300000001,
  0x000008050000030000_070100080009000204_000002000000000806_000800000502000001_000000040800000009_000001000700000600_000604000005000000_000703020000010000_000200070008000003,
  0x080009060001000003_000002090304000000_000300050008000006_020800070600000901_000406020000070000_000900040800030602_000008000400060700_000000000007050008_000700000000010004,
  0x010000000000000804_040002050308060701_000000000000090000_000204030501000006_090000000004000302_080003060002040107_050408090107020600_000301080005000009_020700000003000000,
  0x090001000003000800_050200000000030000_000803000000070900_000100000000000009_060000000800000107_000309070501060002_000006090208040000_000900000005000006_030000000100000200,
  0x070001000600000000_000000000200040107_000000090000000005_060003070800000000_000000000300080000_000008020009070306_020000040008000003_000700030000000008_030809060000020700,
  0x000802070309060000_000005080104020309_000000020005080107_080001040200030906_060900010508070204_040007000006000008_020006090003050001_050109060802040003_030408050000000600,
  0x000107000600040000_020500070004000600_000004000000000007_030400000006050002_000206000000000700_000000000003090000_000000000100000209_000601000400080000_070800050000060001,
  0x000500090002080000_000400050708000001_080100000000000007_000200000609010000_090800000003060005_000603000005000700_000000060904000008_000905000800070000_000008000000000109,
  0x000300000000000006_000009000008040000_000000020700000900_000806040200000700_000905080103060000_000204000600010000_000001000000000000_090500000000070800_080002000001000609,
  0x000000000000020007_090807000000000000_000601070400090500_040700000800050302_060002040005070809_050300090000000600_070903010504000200_080004020609030700_010200030708040905,
  0x000306000009000000_010000040700060009_000007060000000000_000005030104070000_030000090007000005_090708000002000000_000003000406000000_000000000200030806_000600000003000500,
  0x000900000008000004_040800060007000003_000702000000000000_010005080004090002_020607000300000001_000000000006030507_000000090800070000_000500070000000009_000000040500020006,
  0x000801050002090700_090702000004060001_040506090700000003_010205070409030006_070004080005010902_080003010206050000_050400020100070600_060107000500000009_000008060907040105,
  0x000000090003000000_000607000400010000_010000000600000502_060005000800000000_000409060002080105_000700000004090000_000801000906030200_000006000200000000_000002070308060900,
  0x080000000000050000_040000080000030002_090000070000040000_000009060000000007_050100020004000603_000400030001020500_000003000407000005_000004050600000001_000005000002060304,
  0x050008020000000000_030906080000000201_000200030000000807_010000000700000605_070509000003080000_060304050002000700_090000000000000000_000000060209000003_020103000008000000,
  0x000500000800000600_070000000006090405_000200010400080300_000004000000000003_000005020000070804_000600000004050001_000106000000000708_090400000007020100_020300000108000509,
  0x040000030208090601_010309050006080204_060008090401050703_050402060009010007_070600020004000905_080903010507020406_090700080603040100_000100040905070308_000004070102060500,
  0x080600000300000000_020007000605000900_000000020004000600_090200000501030000_000100000000000002_000700030208090100_000000050002000300_000500090003000008_030000000107020500,
  0x010503090000070804_060000000807000001_070008000500000300_000605000301040000_000004050009000100_030700000400080509_000007000100000000_040109070205000608_020300040000010000,
  0x010000000503020000_000000000208050007_000500070000000806_000100030700060009_000009000000080000_000000090005000001_030605000000070008_000700000106000400_000001000007000605,
  0x090000080200000504_000502040000000000_010000000300020006_000005070002090108_000001090003060400_000000000000050200_020100000900000700_060400000800010300_000000000704080600,
  0x000006080500000002_000000000000060000_080000000609000100_000900000400020700_000803000005010906_000000090300000005_030605000804070209_000009050706080304_000000020000000000,
  0x010000060703020508_000300040000090007_060708000500000400_000000000605000200_050600080004070001_030000070902000806_070203090000080000_000800000007000000_090500030800000002,
  0x020009080000040706_000804020607000905_060300090504000000_050700000402060009_040000060809010007_090100000005020800_070000050300090002_080002000900000103_030900040001070008,
  0x000702000100000405_010000000007030006_030600000402070000_000004060009000000_000006000004000800_000000000503000000_000001040005090608_040009070001050000_000003020000040000,
  0x000006000902080004_090005000000000000_020400030001070600_010500000308000000_000003040709050200_000200050006040803_000002010000000000_040901080605000000_060000000000000000,
  0x000001000300000800_000800090000000502_000000020806000000_000500010000000000_000000000400000200_000002000605010700_050300000000000006_000000030908070000_000408060001020000,
  0x000106000509080700_000705000002090000_000209080706050301_000007020003060109_020301000905070804_090604070001030005_060003000207040508_070002050608010903_010008090304000007,
  0x080601000000050002_030000010009060000_000004000200000003_000000000000020809_090000070000010004_000100000000000005_000000000708000000_020003060901000000_000700030400000206,
  0x000000060000000700_060400070905000001_000000000100060002_000104000003000608_090307080601040200_020600000004000000_000000000307080506_000700020000000100_000506040009020300,
  0x080602000000090507_000109000705000408_070000000900000603_000000090007000005_090507000800000200_000000000000070001_000003000600000009_010900000000060000_050700030000080002,
  0x000908060002070000_000200090008060401_000700000000000002_070600000904010200_030401000807000009_000000050100030700_060109000000040000_020000040009000100_000004070000020003,
  0x090000000002040001_000000050900000308_000000000400000000_070300040000000605_000001000000030000_050900030100020804_010200000008000000_000407000003000000_030500000204000106,
  0x000000000000000402_040008020007000500_050006040009000000_000000000905060000_020904000603000800_000007000004030900_000802000000000000_000409000108020005_000600000402010008,
  0x000900000100000607_000000070005000109_000702000300080405_070000060503000200_000500000000000004_000100000000000000_090000000607000308_080000020400000006_050004000900000700,
  0x090503000608020701_000807000900040006_040002000005030800_000008050009060103_000100080000070002_070906010203000000_000200060500010304_050304020800000607_060700000304000205,
  0x000108000600050307_020000040000000000_060300000001020000_010800000000070000_090000000000000100_000600010905000204_050000090400000801_000900000306040000_000004000108090500,
  0x000100060703000900_030005000902000800_000907040008000000_000008000004010300_000400090000000700_050000000000000204_040000000800000501_000000000001000000_000000050400020603,
  0x000800000700000006_010400000008020000_060005000900000001_040501030000070009_070000000009000103_000008040000000005_000207080000000000_050300070400010000_000104000000050002,
  0x080100000004090600_000000000108000204_000302000906000100_010006040507000009_000500000009040801_020004000000070006_000000000003050002_050008060000010003_090200000000000408,
  0x000601030500000000_080000000004000305_000305000708000109_000007000400000608_000500000003010000_010000000000070500_050400060002000007_000103080000040206_060000040007000801,
  0x000002000800090004_040000020009000000_000901000007050208_070109000200000000_050000060001070002_000406050708010003_090300080000000000_010205000300040809_080607000005000300,
  0x090608010204070003_050702000006040000_040001090705000602_060903050402010007_000507000901000204_010204030807000000_070409020100060305_000800040000090700_030100070509000408,
  0x070004000005000802_000000000000050600_050300000801000400_000406000002090000_000705090000000300_090003000706020004_060209000000030500_040008000503000000_000000010600000200,
  0x020000010005000000_000806090403020700_000705020000000000_000001070000050004_000509000800060000_070000060000010000_060300000000090001_000000000100040600_000000000900000000,
  0x000406020709030501_000709060003000400_000500000801000709_000000000406000200_060003000907040000_000904000008000000_040005090100080000_090008070600000000_000607080000010900,
  0x040000060503000800_000300000002040900_010800000407000300_070005000908060203_020600000701000009_000008000006070001_080200010304000600_000000000000030700_030900000000000108,
  0x080004050007030000_000700020900000000_000600000100000000_000306000005000002_050000000300000009_090000000701000300_000000000000020008_040000010006050900_000503000009000006,
  0x000300000000060000_000001000000000800_020005000001000400_000104000003020000_060802000509000000_000700010008000009_000000000000080004_010008000700030200_000006000002090705,
  0x040803000000010000_070102000006030000_000000000000080000_000006000009070005_090000060000000800_020007000503000009_010700000300000000_060200040008000000_000908000600000200,
  0x050306000000000000_000000070003000000_010000080000000509_000002000000050701_060000000700000008_040507000100000300_000601030900070005_070008060200040103_030000010807060000,
  0x080702000400000100_000003020805000900_000000000000020800_000309010000000007_070600050000000000_040500000000090601_000100000000000502_060000000200010009_000000060000040000,
  0x080000000604070105_000000070000080200_000700000508000306_000500060000030000_060000090105000007_000200000803000009_000805010000000600_020007000000050903_030006050209010008,
  0x080300000004000205_040009010000080000_000000000000010000_000006020000000004_000008070000000002_020000000500000701_000004000007000109_000000000002000300_030207090600000000,
  0x040200070109000000_090700030608020401_010000000002070003_070600040800000309_050409010003000807_080000090000040000_000908000007000104_060500000301090700_000107080904050206,
  0x010600090704020508_020805010306090700_070004000008010603_040706000003050200_050209000400080307_080301000207040900_030507040109060000_060402070000030109_090108030002070405,
  0x080400000700000002_000005020000000004_010000000500000000_000000060000070900_000009000007020500_000003090208040000_000000050000030000_000308000102000000_000500040900000007,
  0x040900000000060700_070006040900000000_000801000200000003_000509000308000400_000408070009000005_000107000000000008_000600000001000300_000000000702000800_000005030800010004]
theorem mixed_4_ok : mixed_4.all fastOK = true := chunkOK_sound _ (by decide +kernel)

/-- `mixed` (10000_mixed_puzzles.npy), boards 1250..1499 -/
def mixed_5 : List Nat := [
  0x000700000006000005_000906000500040702_050203000000000100_000000000201000003_000000000000090200_030000040000050000_000601030805020007_000000090000030000_020305070004000000,
  0x050000000309000006_000009000000030001_000000020004070900_000803000000090000_000607000902010800_000002000100040600_000104050000000000_030905000401060700_000200000003050000,
  0x030000000007050009_090007040200080000_000201090000060704_020108060000000003_000009070008000602_060000000000040000_050000000700020000_000000000009000007_000006030000000005,
  0x000600000000000800_040002080300070006_080700090600050000_090400070100020508_000300000008060704_000008000206010009_060900000500000100_030200000009000000_000800060700000200,
  0x000401060300000002_000609050000030000_080203000109000700_000000000000000008_000305000906000007_020006070000000000_000100000605020009_060008000000070301_030002010000060400,
  0x000305000902000800_010007030806000400_000002010005000000_000000000300090504_040703000000010000_000508000400060300_050009000007040000_000100050203000006_030806090104000002,
  0x000004060700000508_080100000003000000_000500000008090003_030009000104000802_000000020300040605_040000070806030109_000000030200000007_000701000900000306_000400000007000900,
  0x000000020300000000_000004000000020800_000207000800000000_020301000007000005_070400000502000001_060000030000000200_000000090700000000_010000000400000002_050000060200040009,
  0x070000040600030800_000006080000000000_010400000000060000_000004000005000003_030007010000000004_090600030007080200_060002090100000000_000900000800070006_000803000706020109,
  0x040605020900080007_000200050001060004_010008000000020009_000000000400070203_060702000005000000_000000000102000600_090100030000000700_000007010008030906_080503000700000002,
  0x000000090007050602_000000030400090800_000000000000000003_000200000000080000_070300010009020000_000005000700000000_090006080000070104_080000000100000500_000004000000000008,
  0x000409000000010700_010200090000050800_000500000601090304_090000080000000001_080605000900020400_000700060000000908_000100040000000005_000000000100070000_050002000800040000,
  0x000000030700000805_080005010204000900_030009000008010204_050307040802090000_090008000601000703_010206000307050408_000000070003040002_070003020406000109_040000080100000300,
  0x000005090402000701_000109080607020300_020600050103000400_010502070809030004_000000010000050900_030900020506010007_090700060200040503_000200000705090108_000408030001070206,
  0x030000000000000700_050206040800000109_040701030002050000_000004090700000600_080000020000000007_000000060004020300_000100000006000200_000000000000060000_000002070100000900,
  0x000102050009030000_000000000600000002_050003000700060809_020004060000080100_000000080900020403_000000020400090007_000001040503070200_040000090000050306_030805000206000900,
  0x050000000800060300_000900000006000501_000601000000080002_000000040008000003_020308000507000600_070000000301050000_010000000905000000_040006000103090000_000007000004000100,
  0x000300000000000000_020000000406000000_000000090001000800_000000000503090601_000903000000000200_000200000000000308_000600000300010405_030000010004000000_090401000600020003,
  0x000007020000030005_020900000000000006_080005000007000902_090102000000050000_000000040000000000_000700000105020308_050000000700000000_060300050000080200_070000080003000500,
  0x000007000009000003_000000000000080900_000009020600000100_040700000200000000_000603050004000001_000001000300000600_000000000000000005_000804070906010000_000000000000000406,
  0x040908030206000005_010000000000060900_000000000908030004_000607000003000501_000300080000000000_000804050600000000_030009020800050400_070500040000000800_080002060005090003,
  0x000005000000040100_000000080509020307_090003000701050006_000007050602000001_000100070008060205_050002010000000008_010700060304000002_020308090100070004_000006000007010900,
  0x000700000600000000_000005090002000608_000001000503000200_000509030400020000_030004070800000000_010608050200070004_050906000104080000_080100000000000000_000007080000000001,
  0x060005000002000000_090000050001000602_000700000604050008_010900040000030000_000400000906010007_050003000007080409_000500000000000800_000100020000000000_000008070005000000,
  0x000000060300000001_090300040000080000_060000000200030905_050900020000000000_070006000008090004_030000090600000200_010000070006020400_040600000000000503_000705030000000006,
  0x060000080009030000_000005030000000000_010003000500000000_090000000000000007_000100020000080609_030608090005000000_000500000203070806_070000040000020503_000000000000000904,
  0x050601000900000700_000000000000000800_080000000003010900_000005070100020008_000800090005000000_000007020008000000_040006000700000000_010008030209040600_000200060000000300,
  0x000900000000010800_020000040001000000_000005020009000007_000000000200080003_070000010300000000_000200070000000500_000008000000020300_030400080006000100_010009000400000008,
  0x020008060000040301_000704000203080900_000006080401000002_090401000506030008_060007000000020400_000005000304010600_070000000008000000_000000090002000000_040102030000090800,
  0x000009000308040500_000501000006090700_040002000000010008_000000000004000005_020008050107030000_000900060203080100_000805000602070304_000003000800000006_000400030005020001,
  0x000004000206070000_060000040000080100_000000010907000600_000700000309020400_030002000000090008_000000000800060000_000403000000000200_000008000005000006_000206000000000804,
  0x040305000007010208_000009000000000000_010002000800000600_000006030400000000_030007010009060002_020000080000030500_000500060900000001_000000000103000905_090100040000000806,
  0x010000050000090300_060000010900000005_000500000000060800_000800040000000000_070400060001050008_030000000000000200_000900080000040003_000700020406000500_040601030500080702,
  0x090006020007040500_030007040500020609_050402090600080107_080000000000000001_010700050809060402_020000010706050000_000000060401000805_000000080002000700_040000070905000006,
  0x000000000006000000_030700000000090800_020000070003040005_000004000000070500_070203000005000004_000000040008000000_000900000000050008_050000080002000000_010300000007000200,
  0x050009020006000800_000800090000000205_000200080305090000_000000000009060300_090000000700020000_030008000002000001_040000000001080000_000000000004050609_000907000000000100,
  0x000000000000000000_090004000000030600_050000000700000002_000100040900000008_030900060200000407_040007000800000000_020600070000000503_000000000002000701_000009080501000004,
  0x000300000400020901_090008000000000005_050400010009000000_070000060002000809_000001090000000006_030600080501000002_010003000905000000_000205030000000100_080906040100050200,
  0x030604000900020500_080205040306090000_000109000200060003_090308060704010000_000700020503000009_060502000809070000_020800000000000901_010000000000000702_000907030002000006,
  0x010500080406020700_000000000000000009_000000030009000504_000201060007000000_000600000900000002_030005000008070406_000700000000030000_000000090602000007_020008070005000000,
  0x000006000701080003_030000080409000000_000002000300000000_000004000500060000_000603000002000100_000508090100020304_020409010600000000_000000000004090600_060000030908040002,
  0x080000000200000500_000207010000000009_000000000809020000_040005000000060000_070100050000000304_030806000000000007_000000090504000000_000000080000000200_050608000002000400,
  0x000000080001020000_080000000000040109_010000000200000600_050008030000000000_000700000000050200_020000000000000703_000200000805000007_000001000000000004_070600090000000800,
  0x040009000806030000_030000070000090000_060001090503000004_090304080000060100_000800060009000703_020000050300000000_050000000000000300_070000030905080406_080403000600000000,
  0x030005000200000007_000200000000000305_000000030509000408_000907000000000006_080600010000000009_000300060005080700_000100090802000000_000000050003000900_090503070100060002,
  0x030600040700000908_040809000500070001_000100000000000000_010300090000000507_090006030400000100_020700000605000409_060007050004000800_080001000000050204_050400000000090006,
  0x070006000001000204_050402000000060001_000003000400000000_000700060004000300_000904000800000000_000600090000000005_000000040508090003_000008000000000007_000000030200040000,
  0x000002000006000100_000107000300050800_050804000900000206_020400000000090300_000000090100000000_070600030400010002_000006040200080905_090008010705000603_040005080009000701,
  0x030006000000000007_020000060308040001_000001050007000000_050004000000000100_000007030402050000_060802010500000000_000500000100000200_000000000005030400_000000080000000005,
  0x000002000009050407_000007020400090008_090405070308060000_020000000000000706_070800030602000005_030000050000000800_040709010206000500_000203080900010604_060008040003000200,
  0x070003040005010009_000000060100080703_060001030800050402_000204000006070005_000000020004030900_000607000908020104_040006000501090000_080702090603040001_000500000002000008,
  0x000804000300000106_000006040000000800_010302000506040009_080903000704000500_000200090600080300_000000010000090000_000000000109000600_000009060000030200_000000000207010000,
  0x000000090000000000_000000000407020305_070800000206010000_020007000000030800_000000000000040001_000008000103000700_000000000600000000_060704020305090000_090201000708060500,
  0x000003010000020000_000000070000000400_000102060500000708_000001090402000000_000200030000090000_030904000000010200_070400000601080003_020000040000050007_000800000300000600,
  0x040002000000000307_080300000400020501_000000000603000004_000008000107090000_000507000006040000_000600050000000100_050409010000000206_000703060900010408_000001030000050700,
  0x000000000400020006_000306000000040900_020000090006070000_030605040209080700_040108070300000000_000002000601000500_000201030504000000_000400000002000600_000900000807000002,
  0x000000000000030000_080000070001050902_000900000500060001_010708050600000309_020009080704000605_000406010003000000_000004000005080006_000507040806020100_060801020000090004,
  0x000107030000000008_000008000004000000_000400060801000000_000200000000060800_000801040700090203_000600000000000004_080702000400010000_040000090100080002_010009020008030400,
  0x000002080001040007_000006000700080305_070408000000000002_000000000805060000_080000000600000004_090000000004000801_000001000000050006_000200060000070000_000003000000000200,
  0x020000090000050304_000800050700000106_000006000400080709_000002000106000003_060309080500040200_080000020000000005_070000000004010908_040208000000000500_010003000005000400,
  0x000005020007000904_000000000100030000_010203000400000000_080607000000020000_000009070005000800_050000000604000001_090006030002000108_000501000800070306_000700000000040200,
  0x050000010000000008_000700080600000500_080406000000000107_090005070003000600_030000060000070000_000107000002000000_020008050701030000_070000000400000005_000503020900010706,
  0x000100050700000003_090800030000070400_000000000000010500_000001000400000000_020007000000000008_000506020800000100_000009000000000200_000300090001040000_000602000000030001,
  0x000000060000080300_000006000000000702_000007000000000000_090300000000000001_000400000009030007_000700080203050400_000003090502000108_050000000700090203_000009040000000000,
  0x080706040000000000_010000060509000000_000300000000000402_030000020007080000_000000030400090000_060007000100000004_090602080704050100_040008010600020009_070000090205040800,
  0x000000020009010000_040000050006000002_000000080000090600_020103070000000900_000006000000000000_080000040001000003_000900060000070100_030000000007000500_070008010000000309,
  0x050006000403020800_020004010008050003_010300060200000009_090002050601080007_080600000000010205_070005000000060000_000500000007030000_030001090506070000_000807030004000500,
  0x040105090306020800_090306020700050401_070002000500000600_000401000200060708_060209030807000504_050708060104030000_080503070902040106_020600010403080905_010904080005070302,
  0x000003000600090705_000002000007000804_000407080009000100_000900020403050601_030501070906000200_000204000508000300_040006090001000500_000800030004060900_000009060805010407,
  0x000900050000000103_000008000003000000_000100000400000002_000001000000000400_000000000002000600_060400000705000000_020004090301050800_080003000000090701_000500060007000200,
  0x000009010805000407_010807040900060500_000402000603010809_070104000509080006_080503020706000004_020900080400070000_060701050204030900_000000000307050600_090305000000040000,
  0x000003000000000000_000000060000050200_050600000800000700_000006050301000400_010402000600000500_000700000402010009_000000000200040000_000307000500000000_060904070000020005,
  0x000000000700010600_000006030102050007_020007060508000003_000800020300000504_000600080000000000_030009070000000000_060000040900020000_090205010800030000_000004050200000000,
  0x000008000702000000_020600000308040107_050000000106030000_090000030600050004_000100020405000906_040000080000000000_000000010200070003_030207000804000500_000900070003000402,
  0x080005020004000000_040200000300080000_000001050600070400_060000000002000100_000402000000030809_000100040000060200_000809060000040005_070506000000000001_000004000000000600,
  0x080706050203000000_000000000007000008_000500000601020700_000000000000070000_070001000809000405_030002070500080000_020400030000000006_000008040002050100_090105060700000002,
  0x030508000900010007_000407000100090006_060109040708000502_000703080009040001_010806000002070009_000204000000000008_040000070203000000_000005060804000103_080300090000000700,
  0x000000000000070000_000804050300000600_000500060009000000_000900000000000700_010200000700000500_000005090406000201_050001000000020009_000409030602000007_030702000905000006,
  0x000001000700000600_000300010004000000_000608000200000000_080905020307010406_010006000005020700_000702000001000908_090000000102060300_060204030500000801_050103000806090200,
  0x090800000000000000_000205000007080000_070006000000090002_000000040000000005_080000070001000206_050004090006000800_000002000109000500_010000080000060009_000000050000020700,
  0x000807000000000009_030906000002000400_020005070600010003_090600020000000000_000200040000000000_000000000006000700_000700000104030006_000000090205000000_000002060000090504,
  0x000602030000070000_050000000006000903_000000050008020600_030000010600050008_080000070000090006_000706000005040002_060004020800030009_070003000000080000_020500000001060000,
  0x000603000000080002_000009000700000003_000001030000050900_000002000000000700_000000020007000000_080000000000000001_050004070002010300_000300090000000006_000007010003000400,
  0x090004000600000003_050002030907000000_010603000204090708_000908040306010000_060400080002000000_000200070109000800_000307000801000005_000100020005000900_020509060000080004,
  0x000000000000090203_030806000000000100_000200000103000006_090000050000000000_000000060300000900_080600000000020405_000900000405070600_070300000602040800_060104090800030000,
  0x050204000903080001_080609050000040000_000700000000000500_020807030406050000_090003070002060800_000406000000000307_070308000005010002_000900000000030000_000100080009070600,
  0x010400000000060005_000000000500000200_020600090001080700_040000030008050000_060001000005000000_080000070000090100_000804000003000000_000000060000030002_000006000000000009,
  0x000005000809000006_000000000400000700_000800000600040009_000006000300000000_000000000900000802_000507040006000301_000102000000000000_050000060000010204_070604000000050000,
  0x000005030000000009_070200000400000006_000600000702000004_000000000000090002_090500000000000800_080000020005000407_000004090500070000_000801000004000005_000900000300000001,
  0x070008090000000000_000100000000000000_040000060008070203_010306000902040708_000000080701030602_080207000000050000_000809000000000305_000700000000000000_000401000009000800,
  0x080000000906000002_000500080003040700_000206010000000000_000005090000000200_000000040008060300_090800000002010405_000008060407000500_000000000800000600_000607030000000004,
  0x000002000703000005_000700000905020100_000006000000000703_000805040000010000_060007020000040008_000000000000000609_000003000201070400_000009030604000002_000000070000000301,
  0x000000000000000009_000900000507000000_080006030009000507_000600000005080000_090507000003000206_000008060700050901_000004000000070602_070000050100090804_060809000400030005,
  0x060000000100000409_080001000409000600_040003020607010000_000100000004080300_050009060800020107_070000000000000906_090705000000000001_030000010500090004_000004000706050000,
  0x000008000003000600_000003000700080000_070000040006000003_000806000400000300_020001000000000900_000000010008020700_000007000000000100_080500000100000000_010300070000050804,
  0x000008030000000200_000300000405010000_000705000000090000_000000060000070800_080002000700000003_000903000100000000_030407010006000900_050801040000020600_000009000000030400,
  0x020000000006010008_040108000902070000_000506010300090000_080000000500000000_000700060000030000_000001000003000005_060900030000000702_010805040207000000_000207080600050000,
  0x050600000904000201_020000050001030000_030000000700000400_000501000600000300_060804010300090002_000302090400010800_000000000000000003_000005000100020000_010000040500000000,
  0x080001070000000005_020000000300040708_070900050802000006_000000000004000500_000408000000030000_000102000908000000_040000000000050102_000503080000000007_000000000005000800,
  0x090001060300000000_020000000005000009_000000000002030701_030002070809000006_080000000000040007_000907040001000008_010203090408070000_000004050200000000_070509030000080004,
  0x000000000000050007_050201000004000000_030900010008060000_000000000700000001_080100000902000000_000000000001000600_000009000100080206_020800000000000005_000300000806040000,
  0x000000000100000003_040301060007080009_090000000002000000_060007000000000400_030200000009000800_000100070000000000_000003000706000000_000009000300010600_000806000000030007,
  0x000000000600090500_000000000009000004_000705020300010800_030000000507000602_000004000906050100_000500000000070000_000608090400000705_000000000000000209_050900060003080000,
  0x040200070000080009_000005080600030000_000009040000000000_070400000105060003_000001000004020007_000300020007010005_000104000008000302_030900000000040006_000500000006090108,
  0x000405000800030609_090600000203070800_000000000904020500_060000000400080000_040108030006090002_000309080000010006_000900000105060003_010206040300050000_000003000009040108,
  0x070102000000000004_060009040000000008_040000000001090002_000400000108050209_080005000000000403_000000050004080700_020007000000000000_000300010000000007_000604080000020000,
  0x000002000006000709_000508030709000000_000609000400010000_080407090000020601_060000080007050900_000000000004000803_000000000901030008_030000050602000000_000200000000000006,
  0x060302070800040109_040700000200080005_000500000300000002_000000000107000506_010200050000000004_050000030902010700_000105080000090000_090003000001000007_070800000503060000,
  0x000802000000070104_000000000904000800_000706000000000000_020400010809060503_000008060305000002_000300000002010008_000009030000050001_000004000500000600_030000090006000200,
  0x030000010500020000_040000030607090005_000005020000000003_060104090000000700_090008000100000300_050003000008000900_070009000002000006_000000050706000000_000006000900080007,
  0x000004000708050106_000007090006080004_060000000500000009_000700000605000000_080000000402000601_000002000800030007_000400050000070208_070800000004000000_000201000000060003,
  0x000002080500040003_040700000003000806_080500000600010200_000000020100070300_000007050000000004_000001000308060500_000906030705000400_070800000400000000_000304000800090700,
  0x070102000009000003_000300060000000400_000900000003070000_000000070000080005_020007040005000106_030000010000040009_080506000000010900_040200090800050600_000009000004000000,
  0x090000010502070600_070008030004000500_010000000000000000_050807040200090301_030002090100000006_000001000000080000_000000000001000807_000703080609000000_000000000000000000,
  0x060708000901000304_000009050700000006_000000080006000100_000007000004060002_020406000000000700_000300000600090005_000000000000020900_010000030007000608_070002000009030000,
  0x070004000000060001_000108000705040000_000006000009020007_000800000001000200_010000090000050000_000000000000000900_080007000400000002_000601000903080700_000209000800000400,
  0x020008000607090003_000100080900000004_090000010000000000_000604000300000700_010300070009060400_080009040106050302_000000000000000000_070200000000030001_000000030001000905,
  0x000904000102030007_050003080000000000_010702090300000004_020500000601070409_000306070408020100_070400000900000300_030000060009000500_060200040000000903_040800000000060700,
  0x000900000002080400_000000000003000600_040000070000030900_000800000500000000_010006000308000000_050004060001070008_030000050000090000_060009080004000300_020007000109050000,
  0x060009000408050000_000304000005070908_020005000107000000_000000000009060004_000600000000000007_000007010000000800_030008000500000000_000006020001080703_070201080003000000,
  0x010500080304000000_030000070509020800_000809010200050403_090000050000000008_000006000408000007_080001060900030005_000900040803000702_020100000005060000_000700000600000000,
  0x000000000000000005_070000030009040102_030200000000060008_020405070000000000_000801000005020900_090307000000000600_000003080200070500_000700090000080400_000000000000000201,
  0x070008000000000000_010602050008000300_000300070400060008_000100000009000800_050800040100000906_020003000607050000_030501000800000700_080000000000030400_040700010300080000,
  0x000400000100090805_000000070000000000_000003060000000200_040008000300020000_000000000000000007_000305020600040009_000700000205030400_000001000006000908_000504000000000000,
  0x000003000400000005_040900080000000100_000800070000000304_030006000009000700_000700000000000000_080509060100000000_000300000000000500_050007090000080000_000002000600030000,
  0x020000030001070000_000804050000000000_000000090000000200_000500000900000000_030008000005000004_090600000403050702_000400000108000009_050009000000000600_000000020000000007,
  0x000002000000000007_000800050000060900_000000000801000000_060500000009000000_010000060008000009_080700040005010002_000300010007090000_020000000600000700_000406090003020100,
  0x000502000108070400_030000000204090000_000807090506000000_080205000000040003_000009000000000000_000004000700060000_000000060005020004_020601040800000509_050403000001000000,
  0x010200000003090600_040906070102000503_000007000800000400_070600050900000204_000502010004060009_000400000607010800_060704000201000908_020109080405070306_030805090000040100,
  0x000904000301020008_000807050002000100_010203000009060405_000609030000010500_000000020605030904_030405010000080206_080502070106000000_090706000200050800_040301090000000600,
  0x040009030208000005_030700000105020009_050000000607000300_000000050709000104_000000010403070206_000000060800000003_090300000004000000_000002000906030000_000000000000050007,
  0x000105000002000800_080000000301020004_040000080000050001_000003000006000000_070004000008000509_000501000000000400_000300000900080205_000000030805000000_000400000000000900,
  0x030000000608000000_000000000305000000_070800020009000106_040007000500060800_000203080104050009_000000000700000002_090000060000000400_050006000800000003_010000050003000007,
  0x040900000206070003_000301070904000800_000600030501000009_030500000002090600_010200050607030000_080706000000020001_090107000005080000_000003000700010005_000800090103000700,
  0x000809030705060004_030700090206010805_060000010008070009_000006050900020000_090201080604000500_000000020103090008_000005000809000700_000600000501080902_000908040000000000,
  0x050904000806030700_000200000000000009_060301000700080500_000705000901000008_090000000507000000_000100030004000905_000000000400000200_000800050600000100_000003000000050807,
  0x000900010800000000_000000000000000605_070300000006000000_000000080607000401_000000030000000009_080002040005060007_000000000700000200_000607050000030004_000800020009000500,
  0x000006000800000002_000500000007030609_090000060000080001_060002050000000708_000805020006090003_000100000000050200_080000000500000000_050200000608000304_000601090000000800,
  0x050609000000000402_010204090507000800_000000000000010509_000100020800090300_090500000700000601_040008000006020705_000700000600000900_080000000000030106_000906000108050007,
  0x060000000007000000_000003000000000000_000000000600010000_000206080701000903_070009000500020000_080000000200050000_090400000106030805_030500040002090000_000000000009070004,
  0x080000030007000600_000400010000050000_060003000008000001_040000060000020800_000000040003000000_000000000005000409_010600000000090203_000200090100000705_000700080000060104,
  0x000500000008000000_000609000700000100_000000000009040000_000003000005020900_000000010000080306_000000030600000500_090000020300000000_000005000001000400_070000000000000201,
  0x050003000708040000_020007000004030800_000001090005020000_060300040001000008_000204000000010000_000805000000000000_040000030007000002_090000000000000400_030700000000060901,
  0x070900080002010004_000300000009020800_000200060104000000_000500000006040003_090608030407050201_010403020900080607_030702000608000000_050100090003060708_060809050701000402,
  0x000204000000060007_090600040700030000_070000000600000904_080700050904010006_060000000100000000_010003000800050700_000009000200000600_000106090008070000_020507030406090801,
  0x040500090000020000_000000000400090700_000701000000000000_000003070000000005_000400000108030000_080900000305060400_070000030000000000_000000010602000000_000000000007000806,
  0x090003040500000002_000402030807050000_050000060002030400_030100000200070000_070200010604080000_000000070008000200_080504090103000700_000000000006000008_000006000005000300,
  0x040200000005070001_000700000904000300_000000000206000900_020000050009010800_000805000100060000_000103060408090500_000000080300000000_050000040007000000_000008000500000207,
  0x000000020904000801_070400000600050209_020009080000000000_080905010702060000_000600050000090000_040000090006020100_030807040000000000_000004000100000900_090200000300080400,
  0x000800000007060004_000300080006010509_000000050000000007_000000020600040008_000708000000000003_000000040700000005_010903070004050806_080200000009000001_000006000000030900,
  0x000001070600050000_080005000300060001_060904050100000007_000400000000000000_090300000001000000_050000000000000400_040000000006070100_000006040000000300_070503000000000009,
  0x070409000000000001_000608010009040305_050001000004070900_090004000000050007_060200000007000000_000500040908020600_000102000000030009_030006090500080004_000000020803000706,
  0x040508070000000009_090103000205060000_070006000009000403_060700030000000001_030400060000000902_010000090007000300_050004000700090100_000901000604000700_000000000901020604,
  0x080006000400030000_000004090800000605_000507000002000000_070903000100000000_020800000006000000_040000030200000107_050000080000070000_000400020001000308_010700050900040200,
  0x030000000405090000_000700000203050806_010506070008000200_080107040006020009_040000000001000005_020605030809000000_000000000007000508_000000000002000007_070000000104060000,
  0x050000040000060007_000307010000090400_000900000307010005_010000060009050200_000803050700000009_000002000401000000_030000000004080506_000000000003000900_000600000100000700,
  0x000000080200000000_000000070004030508_080007030000000006_060900040000050307_000800000005090004_000000000003000002_030005000000000000_000008000007040000_000700000308060100,
  0x080000000000000400_000000090002000600_000206000000000701_000000000000060005_000307000900000008_000004060008030900_010000000000070000_020009000407000806_040708050000020300,
  0x000408090106070000_000901000700080003_060000030800010900_010809050007040200_040000020901030708_070200060008090105_000004010200000007_080100070503020009_090002000004000300,
  0x000600040000000005_000007000001090006_080501000002040000_000803000400060100_070904000000030000_000000030500000009_030000000004000001_000000000705000300_020408000600050000,
  0x000300000100040007_000000050004020000_000002060803010009_020607000900000000_000000030006000700_000009040507060000_060700020000000000_000800000000000602_010000080000000003,
  0x090304020100000500_050000000300020009_000208000709000400_020000000003000104_000800000000050902_000000000000080000_000509030000040800_080002000000000700_040003080007000006,
  0x000008060703000000_000600050104030800_000000080200070000_030007090001000002_000206070305010008_010000000000000000_080705010906000004_060009000000080100_020301040800060900,
  0x000007080601050000_000104000700000600_000500040300020007_060009070405010802_020005030106040709_040001000208060300_000602000803070904_070000000504080201_010408020907000006,
  0x000700090501000000_000105060207000000_090200000300050107_000004000900000000_000800000005040700_000000000004010009_000601000400020000_000900020103000504_020000050000000901,
  0x020900050003060801_080000000000070204_000000040002000000_050103060007020400_000000000000000306_000602000008050000_070400030000080100_030209080100000005_010008070000090000,
  0x030009000000010706_060104090000000000_000807010600000000_000000060000000000_000000000004060000_010008030900000004_040000000100050008_000000050000040201_000901040200030000,
  0x000000080709060201_000009000600000000_070601020000000900_000002070308000406_030704000006000005_000900010500020007_080007000000000500_090400050800000100_000100040000070000,
  0x080000000002000401_090000000600080703_000000000001060002_010800020300000000_060000000000000200_000200060000010005_020008040500070000_000400090006000000_030706010008000004,
  0x000008000000000901_000903000100040000_000100000900030007_060000000005000309_020309070601050804_000501040300000002_030807000006000005_010205000000000000_000006050008070000,
  0x050000020108000904_000804000006000005_060200030000080700_000900010004050302_000005090002040007_000400000003000800_040008000000000509_090002000000070000_000000000009010608,
  0x000902060403070008_000008050700010903_050300080109000200_030100070600090802_060700030208050401_020005010904030607_070003040006020100_080201090507040300_000406020301080705,
  0x080400010306000002_090003000000000000_000200000907000005_000008000000000500_000004030000000009_050000090008030000_000009040005000800_000000000000000600_010500000000000407,
  0x090800050406030701_070504000000080600_030106020008000409_000301000504000007_020600010003000504_000009060200000800_060003000000000900_000000070009040005_000005080000070100,
  0x050300080000000106_000800000006000000_000006070503000809_080700000600040000_000504000000000200_000001000800000500_000107050004030608_030208060701000000_040605030000000702,
  0x010509070000000408_000008090400020005_040000000000000900_050200060000000100_000000000300080000_000000040000000002_000400030006010007_060000080000040200_000907000204000500,
  0x000100000900030000_080004050100060000_000000030802010000_000209010503000007_010700060000050003_000003090700000001_090001000405000006_000002000000000000_000407080001000002,
  0x000000000008030004_090400020703060008_000005000400070102_000000000000000001_080006030000000705_010900000000020306_000300000000000600_020000000006000407_000708000104050000,
  0x000302010000080000_000004000000090000_000800070300000106_090406020503000800_000000040000000009_000000000007030000_010700030409060205_020003000005000007_040000000000010008,
  0x040200060100090708_000600000007030000_070803000400000600_000906000000040500_080000040600020900_000000010709000003_000000000004070000_000000000000000100_000000070201080400,
  0x000000020009000804_080200000000000000_000000000600090302_000003060000010000_060000000201070000_020000050803000600_000502040000000001_000000000007020000_070601000000030005,
  0x050000030700010000_070308000106000000_000000000000050307_000907000000000400_040000000805000102_000502000009000800_000000040000080001_000804020000000000_030005000607000209,
  0x080400020605070109_010500080307000206_020600010904000805_060902000401000007_040805090703020000_070001060208050904_090208040006010703_050700030102090400_030104070809060502,
  0x000000000105080900_010004080602000000_000708090000060001_030100000006000000_040007030001000000_020605040800000000_090503000208000000_080400000307020000_000200000904050300,
  0x000706000504000000_050200000000000100_000004000009000500_040000000008030000_000003090400000600_000000050200000000_000000000002000301_090300000001040206_020401000005070000,
  0x000001000700000306_030700050000000009_000000030800020000_000605080103000000_080000060900000100_070100000000090000_020500070000000001_010000000609000800_000009000405070003,
  0x010500000900030700_090000050700040108_070002000000050600_020800040000060500_030100000009080007_050700080600000201_000000000406070005_000000090005000800_040905070001000300,
  0x000900020000000600_000006080700000000_030700060000080902_000200000800040700_000403000000000005_070001000900000200_010304070608020000_090002050000070000_000007000000000406,
  0x050008000009000003_090002060000000005_000000000008000000_030009010604070800_010000030007090000_080000000902060001_000300080700050009_060900000000030108_040000000100000007,
  0x000004000308000000_020001000705000304_000500000004080000_090300000100020000_070402050000000600_000106070900000500_040600000000090102_000008000000000007_000000020401030800,
  0x000200060800070000_090703000200000000_010006030700000502_000502000007060000_080000020006000307_000000000500020801_050601090000000700_070400000608000205_000000070000090000,
  0x000005070000000600_000700030500000108_080000000000050703_000003000700000506_060802010005000007_000000000003080000_000300060201000800_000000000000070209_000000090807000000,
  0x040806010005000002_020000000000050708_090000000300000000_080503000000000600_000004000000020109_000209000000080000_050000040000000203_000400000809060501_000000000000070800,
  0x070005000008000006_000203000600000000_060401020307000000_000006080701000400_000002030504000600_040300060209070501_050100000802060903_000807050900010200_000000000103050000,
  0x000007000304090000_000109050000040000_060005010800000000_000508000000000203_090003000002010000_000700080000000000_000000020000030706_070000030906000402_000000070005080109,
  0x090100050406070803_030000020000060504_060400070300090100_040000010907050600_050801060200040700_070906080500000000_000500090002010306_000609030805020407_020300000600080905,
  0x000100000400000000_040000000003070209_000005020000000000_080003000709000000_070900060200030000_000001000000000000_000806000004000907_000007000000050803_050302090807000401,
  0x020306050000000100_070009000601000304_000008070000000000_040000010000000005_000005040307080601_060000020008040900_050600000702010000_080702000000090006_030000060000000702,
  0x070009020005000104_050000000908030700_000002000400060000_000000000006000301_000004000800090600_060700090004020005_000500000102000903_000600000700000000_000000080000000406,
  0x060005080400000002_010908000200040006_000004000000090508_000009000000060003_000003050608000007_070001000000000000_080002000001030709_090000000300000804_030507090000020001,
  0x000005090000040000_000009000300000005_080700000005000103_000000000006030200_000000070103000004_000603000902010007_040001060000000000_000000000001000300_070800000000050000,
  0x000201000000090000_000003010907080000_090008000203000500_000000000104050903_000004000000060108_010300050809020007_080000000405030000_000405030700010209_000709000600000005,
  0x000207000000060104_000000070000030900_030000020400000000_000009000500010008_020603000100000500_000000000000000000_000000010000000000_060702000003000801_010500080000020000,
  0x000008000400000006_000001060008000300_000000000900080000_000003000001040809_010004080002060500_000005040009020007_070006090100000200_000000030800000704_040000070000030000,
  0x040302050009070600_000100000000000000_000005000000000904_000900000000000003_050000000004010800_060401000900000200_030800020401090700_000709080003040000_000500000607080300,
  0x080003000407010609_000000080000050000_000504010006000800_000000070500000002_000400000000070508_000300000000060401_000009060000000005_000005090003080207_000800040005090006,
  0x000004000200070500_020508000004000000_000700000005040100_000000000708000005_000000000300010700_000000010009020800_000801030500090607_070200090601000403_000600040800050000,
  0x040500000901020000_000100020500080000_000007000000000000_000602000300010004_000800000000000500_050001070008060902_000200000000050700_000000080209000300_080000050706000201,
  0x000004000703010500_050802000400070603_070003000500020004_080709000100000205_020500070904030000_040006050802000107_010400080609050300_060200010307080409_030900040200060701,
  0x000209000000000100_000705000206040900_080000000900020300_050000000600000800_000800070000050200_070000000000030004_000000060800090003_010000020000000400_000600000003000002,
  0x000800030602010700_010906000705000300_000703000801040005_000307020009000000_050000070000000903_090201000004000508_060000050003000400_030002010907000006_000509000000030001,
  0x080000090001000200_070502060400080100_000009020000030607_000605030104070002_010008050002090304_000000080007010506_000000000005000001_000901040000000703_000207000009050000,
  0x000000010004000002_000100030008090000_000400060200010800_000905080000030000_040006090301000507_000800020405000000_080600000000000700_000009000802000106_020501070000000300,
  0x000000000408020000_000000070002090000_040102000000060700_000400020000000306_000000000500040907_000006000704000002_090204000300000000_010008000205000600_000700040000030009,
  0x020000080007060000_000000090000080207_000008000600090000_000500070003000000_000000050000010008_040302000806000000_090005000400030000_030800000009020000_000004030000000000,
  0x080600030905000007_050000000007000000_000007020001000603_010403050008000006_070005000000030004_090200070304080000_030509000602000008_060004000709020300_000000000000060400,
  0x000006030105040800_050008090407000603_040000080002000901_000001000200070009_020905000700060304_000304060509010008_030500000004000006_000400000300000005_000607000001000002,
  0x000005000900000806_000800000005090000_000000040008000000_000904060007050000_060000000500040207_050000020403000000_000402090006080500_080100050000000609_090006000000010704,
  0x070008090500000100_050004000001000007_000001000004050000_000905000208000600_000107000009040000_020006000007090003_010000000800000000_080003070900010206_000709020100080000,
  0x000001070000000008_000608010405070003_000500090000000006_000906000002040100_030000000704060000_000402060001030800_060709000008000304_000000040000000701_010804050307020009,
  0x000300000906070800_050108000200060900_090007000100050204_030900040002000508_000004060501090300_010205000809040607_000801090300020006_020009010608030700_000003000407080109,
  0x030000000000040000_020800000000000001_000900000706030800_000400070000000006_050102080004070000_000600030000010000_090007000302000000_060000000908020000_010000000400000009,
  0x000405000600000700_090003000007060800_000700020000000004_000004000000000209_000000000000070000_050807030000000000_000500000401000900_000009000002000000_000002060900000000,
  0x090400020000000300_030001000504000900_000008000001000004_000000000000000009_000805030000060007_000900000408000000_000600000003000102_000209000000080003_080000040900000700,
  0x000507020000000309_000000030007000005_000004000000080007_000000000002030700_000000040903050600_000301070008020904_020400000309000000_000603000005000802_010008060200000000,
  0x000000000108000007_030000000000000000_060804000000020900_000005080000000009_090002050000080000_080700010009030000_070601040803000205_040508000602000000_000000070001000004,
  0x090000060702080403_060008000409000000_000402000000090000_000000070603000800_000000090000040000_070809010000060000_080603000005070000_000000000006050008_050900000000030002,
  0x000003000007020004_000008000005010300_040009020308060700_000000040200080006_020000000609030107_090300000001000402_060900000800070200_030002010006040508_080401070500000003,
  0x000000060000000007_030500070900000608_000002030108000004_010405000300070009_000800000409000305_000003080000000000_000908000200000000_000300090007080000_020700000803000400,
  0x080700000000050006_000600070002000000_040009000001080000_000003060000040500_060804000200030000_020007000903060008_000400090100070000_070000020000000001_010000000307020000,
  0x010004000500030006_000506040203070801_030000000609000402_050400090000010000_060102080700000000_000900050102040007_000009000800000000_000000000007000305_000300060000000000,
  0x000000090001080000_090000000000000500_080003000506010009_060000000002000001_000800010003000000_030701060800090000_000008050007000003_070000000000000008_000600000300050200,
  0x000000090400070002_000008050100040300_030007060800000109_000200070008000400_060703000000090200_000000000000010000_040300000000000605_000002040000000700_000601030005080900,
  0x010702000006000000_030006000800000000_080000020300040000_000200090103050000_040000000705000800_000503080204000600_090301050400060002_000800000000010000_020007000001080500,
  0x030500040009000700_000200030706050100_090000010002080003_000008000005000001_020003000000090006_050400020900000300_000000090100000000_000000050008030000_040809000003000605,
  0x000000030002060004_040700000000090500_000006050009070008_050009000001040007_010000000508000009_000007000900050801_070503010204080906_090400000800030702_000200090007000000,
  0x000009000000000504_000100060003020800_080000000004000700_000500000009000406_000800000600070300_000002000407000000_000900070801000003_000000000006000907_000301000000000000,
  0x000600000009000700_070002040000000900_090504000600080002_000000000004020609_000403000000070000_000901020007000008_000200000008050304_000700000300010806_000305060400000000,
  0x020000000500000001_050300000000090000_000400000000020503_000000010002080300_030800000000010009_000000000600050000_070000000000000000_010004000208030005_000003040000000702,
  0x090000000800000006_030100000900000000_080607020004000103_020800000009040701_000701000000000800_040003000001020005_060009000108000307_000005030007000908_070000090000010004,
  0x050100000409080003_070008000203040500_000000080700020001_000400000001050002_000301000500070900_000700090002010304_060800020100000005_010007000904060200_040003000000090100,
  0x050000000000000906_060702040000030000_000100000006080007_000004090000000001_000900000000060508_020006000001090300_000400070803000000_080000000109050000_000200060500070000,
  0x000001000009000000_020700050304000901_050900000107020403_010600000003050000_000503080006000100_000000000700030602_000000040001000008_000007030008090204_080000070002010506,
  0x000106020709000500_000002000804070900_080900000003000201_000009000000000000_060000070005010000_050008000000000604_070605030100000000_000000000907060005_090001060500000003,
  0x000000050009000304_000904000106050008_000000030004010900_040002010608000509_000005000000000600_010706000900080203_050200080400060007_080103060200090005_060407090000000002,
  0x000000000008040502_000400000306000001_090108000004030007_080004000000000300_000607000200000805_010000000603000000_000000000805000406_060000090401020008_000000000002000000,
  0x070005000006000002_000200070000000605_000000000900000000_020609000403050107_000000000000000009_000001000700000804_000000000207000508_000000000000030200_060502000009070401,
  0x000300040800000706_070008000300090500_000000050006020008_000409070005000000_010007000200050000_050000000608000007_000002060900000001_000700000000000900_000001020007000000,
  0x000700010003000008_030000060000000709_000000000009030000_000103000008000007_070000040001000006_000006030000050001_020000000104060000_000508070000000400_000000050800000000,
  0x000900000408000006_000700050900000000_000001000000040007_000007000000000604_000100080004020000_040005000100000003_070000000600000000_000002000000000009_030400000002000500]
theorem mixed_5_ok : mixed_5.all fastOK = true := chunkOK_sound _ (by decide +kernel)

/-- `mixed` (10000_mixed_puzzles.npy), boards 1500..1749 -/
def mixed_6 : List Nat := [
  0x000402030100090700_090000000400020801_000000000009040000_000003000000050200_070000000000000000_000006000900000000_000009040607000300_060000000300070900_000708090000000002,
  0x000600070400090100_000709000602080005_000204000908070603_000000000009000000_020005060703000008_090000000104020700_060902000000030007_080000000000040200_040300020800000500,
  0x030700000508090400_090000000300070500_050401090700080200_060000000800040705_000300060900010002_080002000000000000_000000080003000607_070000040000000100_010003000007000004,
  0x090003080600050700_000000030500090400_000702000901000800_060000000300000109_020000090006080005_030509010200070604_010305000409000000_000208000105040900_000006020003000000,
  0x050608000001030000_000000090000060008_090403080002010000_020500000004000609_000300060108000004_000806050009000000_030002000500000001_060904000000000200_000105000900000000,
  0x000000040500000000_000001000309040700_000308000602000000_000109050000070000_030804010200050900_000000090400000201_000602030008010000_080005000100030000_010003000705000000,
  0x000000000705080900_000000010400000003_050000000009010002_020003000001070600_000000000000000009_090100000006040005_000009000000000407_000200040000000000_040500000103000000,
  0x000200000500000100_000000000000020008_000400030000000500_010008040600070000_000000070003060000_000704020805000001_000900000400000603_000005000006000000_000000000007010000,
  0x000000040008060900_000800020603000000_000200000901070003_040000000102000009_000000030000000000_030602000009000004_000405090007000200_010309080000050400_000006000000000008,
  0x000201050003000000_000806000002070003_070003000008000000_020000000000000004_000700000900000006_000000000001000200_000000080305020000_010000000209000600_080900000007040300,
  0x060100000300080705_000900000605000001_030000010408000602_010308000009000506_040200000500070109_090500000000030000_000801000007060200_000000000106050803_020600000800000907,
  0x040000070002000500_080000000600070004_070005080400000201_020500030007000000_090008000000020000_000000090200000605_000704000001000000_000000000009050103_050000020308040706,
  0x000309000000070100_000000000000000000_080000000007020400_000100000000050009_060007050100000800_000000000803060200_000000000901000000_010006040200080000_020005000000000000,
  0x020000070009060003_090708030000000002_030600040002090800_070800000003000601_000000000008020300_050302090000000000_080203000900010005_060500010000000900_000001080300070200,
  0x040100000300060500_000008000009030201_020300000605000708_000200030400000106_000000000108070902_000001000200000000_000802000500000000_000506020000000004_030000000801020005,
  0x060400000905080002_050008040000000709_000200010008000500_020900000000000007_080700020300090405_040605090800000301_070004000000050900_000500070000000608_010000000009070000,
  0x000104000600000009_000800030700010506_030506010809020000_000000040005070300_040000000008000601_000008000106040205_080200000501060700_000400000200000900_000000000400050002,
  0x050000040003000000_040807010009000000_030900000507080401_070005000000000200_000408050302010900_020000000006000000_000700000004050800_000000030200090706_080603070000000002,
  0x090000000805060000_000603000001040000_020405000700010000_060801090302000007_040002070000090600_050009000000000003_000000080100020004_000000050009000000_000504030200000800,
  0x000108000006040700_030000000009060000_060900010007050300_000000050800000900_000000060901070000_090001020003000006_000800000000000000_000009040605000000_040600070000090503,
  0x000100000706020305_000005000900060000_000600000800000700_000000080000050000_000406070500010000_010003060200080007_040000090008000000_000200000300000000_050800000004030000,
  0x030502000000000000_090107080500000203_040000000000010000_050000010902000008_020004050603000000_000000070000000002_010209000000000304_070000040000020009_000405030000000100,
  0x000007000000030008_060100050003090004_000000010809000000_040500030108000009_000000060000000000_000000020407000006_070400090200010000_090800000301000002_020001000500000900,
  0x000003050607020004_000400020900070006_020006040000050000_000100080206000500_000000000100060000_030609000004000002_090800060000000000_060300010800000005_070500030409080000,
  0x000400000208000900_090800000006000001_000200090300040700_000500000100080000_010600000000000400_000008030600000107_000000040005010000_000102000700000500_000005010902000000,
  0x010600020500000700_020000000604000109_040509070001080200_080200000006070005_070405000200060901_000900000000020308_000000000800000003_030000050902010600_050000000400000002,
  0x000108040000070000_030700080009000002_090205030607000401_000903000200010705_070506090400030200_000000050700040006_020300000806000504_050601000004000800_000409000305060107,
  0x000500070008000000_080003000904010000_000407000300000206_000000000601070000_000100020800000600_060800040000030100_020601090000000003_050700030006020900_040000080102000500,
  0x000000090007000003_030900050401060800_000807020000000000_000005070000090000_000000030000000002_070004060002000508_050000080000000001_000006000200000900_090000010005040300,
  0x080409000002060700_000107000806090000_060000000700000408_030000050200000809_090008060000000000_000005000000000300_050801000600000007_040006000307000002_000300000100080004,
  0x070002000904000003_000608030000050000_030405080601020900_000004000507000000_000900000100040002_000701040003090006_000300000000000100_000507000406000009_040006010000070005,
  0x040702030805010000_090005000706030402_030006040200070005_070008060000000000_010004000000000003_000000080003000004_020901070308000006_000503020600090007_060000090501020308,
  0x000300000000000800_000000010300040006_000600000409030005_050003000906000200_080000000000050901_070000000801060003_030902000008010004_000000000004070308_000008000005090000,
  0x050000000000000900_000600050007000008_000000080409000006_090500000000020600_060004000000000000_000300000002000001_000900020001000804_000102000008000700_000006030904000005,
  0x000000010200000000_000200000706080500_000000000900000107_030000090000040000_070900000400000600_000000000103070000_000500070600000200_080700000000000405_000000000005060700,
  0x080600000301000200_050900000206040800_000003000508000601_000000030704000100_000100000009000307_030700000605020004_060400000000010500_090800000107030406_010005000402080000,
  0x000207060408000100_090401020703060008_060008050109000000_030005010602000400_000706080304050900_000000000507020000_070000040205000800_040002070900000000_000500000800070000,
  0x000002000000000009_000000000004050003_000500090700000608_000809000002060004_010000040600000000_000000050807000301_040000070000000800_000900000105000007_000300000400000000,
  0x000008090000050000_060500000400030000_030900080500000000_020400050001080000_050000030000020900_080307000000010000_090600070008040000_000000040005090008_010000000300000005,
  0x090001000000060004_050806020100030000_000400090600000000_080009060300040000_040302070509010608_060705080000000003_000003010000050400_000000040006070001_000604000000000800,
  0x000402000907000506_000006020000010904_000000000000020700_000508000009040000_070009000402000301_020300080701000000_000001000000060800_000005000008070000_000000000005090402,
  0x000000090000000000_000203070001000904_010006000002080003_000000000000000102_050001030006000407_020009010004000805_090000040007010000_000108020005040006_000405060100070200,
  0x000000060100000009_000500000007000003_010602000500000000_020000070300060005_060700000000040000_000903000001080702_090406000005000007_030100090000020004_000008000700090100,
  0x010906050300000700_000000010000090008_080200040609000003_040603000000010500_020005030000060800_090008000705000002_000400000900080000_000002000004070905_070800020506040000,
  0x000100020609030008_030008010000050000_020004000008010700_000406070000000003_090002000300000107_000000000100040000_000005080700000300_040000000200000000_080000050003000000,
  0x000000000305000904_070903000204060005_040506000700000201_000809070002040006_000000090000020100_000001000000000000_000304020801000507_000700000003000000_000000050607080000,
  0x000509030200010000_040800000601000900_020600090405000800_000000040000000300_090008020103000400_030100080006070000_010000000902000000_050000000807090000_080007000004060002,
  0x080002060000010007_050000000000000000_010000080000000506_040000000001030000_000000000003090204_020703040800000600_070200000400000100_000100000306000000_000406000005000009,
  0x080000000000030000_030900000700000405_010705000000000009_000100000604020803_070400000009000001_060300000002070004_020601000000000000_040800010000050600_090000030000040000,
  0x070000000000090003_000000000600000700_000000000705080206_060402080000000305_050000000300000807_030000060500000902_000007050009030600_080000070106020509_000600030800070004,
  0x060005010300090700_000000000605000200_000208000000030005_000007050000000803_050006000000070004_000000000007000900_030001020904060000_000000000800010000_000600000500000000,
  0x000600040001000000_000000000008060000_000004000005000007_000201000900000800_000700000000000000_000005000004000000_020300000009010008_000408010002000900_090006050003040000,
  0x000006050901080003_000003000804000006_000000000000000407_030000000005000609_050000060002000100_000608000109000700_060004010308070000_020000000000000001_080000000207000300,
  0x060700000004090502_080005060002000407_000200070900080000_000009010700040000_000000000000000600_050000040000020000_070006090000000004_000304020806000700_000502000400060100,
  0x070000090003020000_010004000000090003_020000010008000500_040000000500080300_000508000107000000_030100080000050706_000000000800010000_000000000000030007_090702040301000005,
  0x000700000003000000_030600090700000805_000000000000030907_020003080004050006_080000050307010002_000504000600080000_000000000000020608_000207030108000000_000005000406000100,
  0x000700050002000004_040000000008070600_030806090007010002_000000000509000000_000503000000080000_060000070000020005_070001000005000208_080904020701050000_000600000800090007,
  0x000005000400000700_000003000009000605_070100000006000000_000500000200060000_000000040107000000_000300060008000200_050000000300000400_000800000605030100_000000000004000008,
  0x000000000000090004_000300000100000700_000204070500000100_030000010000020000_040006020007000000_000002050000000008_020000090000050006_010000060208040007_070008000400010209,
  0x030001000200070800_000600000300000000_040008070006000000_000700000008050400_000000000002080600_000006000003000700_000300010407090000_000005000600030004_000400030005060000,
  0x050007080406000000_000001000903000000_000008000000000007_060503000007080400_000400000000050200_080002000000070309_000900040000030002_000004010300000805_030006000005000900,
  0x050209060007000000_000607020400090500_040103000900060700_010002000006000407_090000000500010200_000006000004000005_000004000102070300_020000040009000608_000000030000000100,
  0x000003000000000801_000009080100000207_000000070203090000_040000000000000000_090300050701000004_000105000008000000_030600000007000500_080000000000000300_000502090000000006,
  0x000200060000000700_000300010000020005_000000000000000000_020009030107000000_080600050000000002_000100000006000003_010002090500030000_000004020000000907_050900070800010004,
  0x000000000000000000_070009000003060508_000400000009000300_090600080000000203_020803060705090100_010000000300000007_000300020008070005_000000000000000900_000005000000020006,
  0x000103050400000000_000509000200000400_070604000803000000_010805040009020603_000007000002090000_090300000000070100_000000000008000900_050908020104000300_040006030007000500,
  0x000803070904010205_020900030500000806_050100060002030009_010500000300060000_040706050109020308_000309020000040501_070000000403080102_030001000605000704_090400010200000603,
  0x000008000900000000_000400080006010000_000206000004030008_000100060400020000_020600050007080400_000700090208000106_000500040800000300_000803020001090000_060001000005040800,
  0x000000050800000000_060300000000010007_010200030007040908_000001000000000409_030809000000000000_000000000009030000_090103060705000000_080000000900060000_040000080102090000,
  0x000500090102000704_000000000400050003_010400070503080002_020700010000030000_080001000600070509_000600000700020001_000802050901000000_070003000000000005_040900000000000000,
  0x000000080400000300_000204000000080600_070000060003000500_000402000000000000_010003090000000206_000000020000040003_000509000000030007_000000000005020009_000807030000060100,
  0x030400090000000007_000702000008000000_050600000107000004_040500070900010006_060007010803040500_000000050000000002_020005000004090000_080000000000000001_070000020000050400,
  0x030002000700090005_070509000806000001_010000090305080702_060700000502040000_040900070108000506_000208000009070103_000106000407000309_090405060203000000_000000050001060004,
  0x070100080500000400_030400000006000001_000205000009080007_020000050801000700_050004000000010000_010800000004000600_090302000007050000_000700090105000004_000500020300070006,
  0x020000000905000000_090000000003000807_000000000000060209_000000000009080700_070000000208000003_040908030100000500_080700090000010005_000406000502000008_050309010804000602,
  0x000504030801000000_000000000500020004_060000070000030800_090400080000050000_070008020005090001_000000000900000300_000003000000010002_050100090400000000_000009000002000000,
  0x090400030000060007_000800050002000403_030000000607050008_050002010700030804_010000020400090605_000309000805070100_000000090300080000_060100080500020300_000003000000040006,
  0x000901070004000305_040003080002000000_000700030000000004_030800020400070500_020007050306090408_000000000800010003_090000010508000607_000008000200000109_010005000009040802,
  0x000704000906000501_030605020000000007_000809050004000600_000406000200050000_000102000009000000_000003070400000006_040000090102060705_050000040600000802_060207080005040000,
  0x000009000007000100_040200000000060007_000701000000000002_010307050000000009_000005040801070003_000406070900010000_000002080705090000_090000030400020001_000004010000050300,
  0x060800000004000700_070300090000000000_050004060000090300_000002000300000000_030706000501000409_080005040900000000_000003050009000800_000500010400070000_040900000608000100,
  0x000004020900060000_000000000600000000_050600000400080000_080702000003000000_060400000009000100_030000000700000008_000006070502000000_000300000800000005_000000000306010200,
  0x090700010502000300_060002040300010800_000004060009000702_080005020000040000_010000000400030000_040200000603090108_050000080206070403_000803000104020500_020000000700000900,
  0x070600000000000208_000500000002000400_000003040000000000_090000060400000300_050006000100080700_000008000705020000_000001000006000000_000000000000000003_060800090200000501,
  0x040501000306080709_020700010005030406_060000080004010005_000000000208000000_000406050107020903_000205030000060100_000004070000000802_090807000000050300_000002000801040607,
  0x010000070200000000_090307050608040001_020000030901000600_060900020405000703_080500000003060000_000000000800000000_000100040000000900_000200090100030804_030000080000070000,
  0x000000050108090406_000000000706000503_050000090403080200_060000000000070004_040000070000020608_080907060000030105_000000000900000001_010809040600000300_070000010005060009,
  0x000900050008000106_030500040000020907_000100020000080000_000000080000000000_000005000000060001_080001060000000000_000002000000050000_070804030205010609_000309000000000402,
  0x000600070200000001_010000060300000000_070802090100060403_050700020000030004_000008050000090000_060003080000000000_000500030000040609_000000040000010700_090400000000000002,
  0x080500030000000200_060200010704080500_040009080005000603_020000090503000007_000000040007000002_090700000000000805_000400060901050700_000006050002000001_000901000400000300,
  0x000608000109000000_000000020703010006_010000050800000002_090000060000000005_000007000000030904_050000000000070600_000000000900000000_000000030000000001_030100080002000009,
  0x000600000701000002_000003020806000500_000800000509000006_000400000200000908_000507000000060000_000908050000020007_000006080400030005_000304060105000200_080000000300000000,
  0x000800020000050000_000300000905000600_090000000000000307_000000010000000006_000904080607010200_000000040300000009_030205000401000000_010609050700030000_000007000206090005,
  0x000100000700080302_070600000002000509_000900000508000100_050300080901000000_000000000000000805_010000070000000904_030500060009070408_000400000007000003_000709000000000600,
  0x000000000007000800_000701000000050000_080900000000070006_050003070000000000_000008030200040600_060000080005000700_000005060000000407_090002000000060000_000000090000030000,
  0x000200000607000000_050100000904060002_040000000000050000_000502080000000004_090400070500000803_000800040009070005_000000000002080000_000001000000000000_000000010803090506,
  0x030701090000000000_050900010008000700_080000000607000100_000405070100000206_060800000509010307_010307000002000405_040009000301070000_000008020904060003_000500080000000001,
  0x070309040002000000_050000000900070602_080000000705040300_000000090501020000_010002000000090500_000005030000000007_020000000100000904_060504000000000708_090008000000030205,
  0x000300000109000000_000700040005090308_000009000306070000_030200000007010900_000800090601000003_090601000000050000_000107030500000600_000000010008030000_050000060002000100,
  0x050400060000030700_010008090003000200_090006070002000001_080005000600000100_000001050807020000_030007000000000006_020100000006000500_070803000005000002_000000000700010008,
  0x000800000304000607_030002080700000900_000600000000080300_050000040208000709_000000070001050203_000209050003010000_060904000100000800_020500000807000000_000700090000030500,
  0x080305000000090206_000000000203000804_000007000006000300_070000060008000000_000004020005030000_000000090100000000_040001000007000905_090603000002000708_000000000000000003,
  0x010005000400060703_020000030700000000_000907000806000000_000401090000050008_050200040108000000_000300070605020400_090508060007000002_040003010502090806_060002000004070000,
  0x000400030100000000_050006000009030000_030009060008000205_000703050906010000_000000010000000907_000905000000000003_000500090001040000_000200000000090000_000007000002000501,
  0x000000000901000005_000902000804060000_080100000500000304_000000000000040000_090001000000000000_030506040008070902_010009000000050000_060000090000000000_000005000000000800,
  0x000604000003090507_070000000206040000_080003040700020000_060809000004000205_000002000507000009_010705020908000300_030000070401050906_050400000302010708_000100000000030002,
  0x000000000600090008_000000080100040000_000003040200000600_020000060000000904_060000000000000000_000007090004020006_040000050007000802_000602030801000400_050900020400000307,
  0x000600070005080009_000200080100040000_070308000209000005_000007000001000003_000500020008000006_060802030004050000_000009010803060000_000000090507030002_050000060400000900,
  0x040000000000010000_010006050007000000_030905000800000400_080601040000000000_000204000703050100_000007010609020800_020000070000000600_060503000000040000_070000000100080200,
  0x040206000000000005_090705000000000000_010000000609000402_000000000702000100_000507000000040309_000008040000000007_080000000004000706_070902080106000500_050600000003080000,
  0x000000000104080000_040500080002000701_000106000000050004_000204000000000000_000005070006090302_000300020000000000_030600040705000009_000900000200000000_050002030009060107,
  0x000003000006000204_080400070300060000_000906000000000007_000100000807000005_000005060000010000_000008050000000702_040801000000070900_050000000609000008_060000080704020001,
  0x000600080007010000_080003090000000400_010000000600080200_000301000700050000_000000000000060002_020000030008000007_000000000902000000_050009000000000000_030000060100040709,
  0x030500000000090400_080000050000020003_070004000203010000_010300070405060000_000400010002050907_000200060000000004_000000000100040500_000000020000070009_020005040900000301,
  0x000702030006000000_000801000000030004_000000010402080007_090507000304060108_030000000901040702_010204060708090500_000406000109020000_000100040003000000_000903070200000000,
  0x000104000203000609_000003010906020000_000002040007030008_030508000004000006_090400050600000000_020007030809010500_000200090400000000_000300000000040002_000800000300050907,
  0x000000050600000001_050001000708000203_030000000000090500_080003000001020009_000100020007030000_060000000309040005_000000040000070300_000609000102050004_040305000000000002,
  0x000805000906000000_020107030508000906_040900000200000800_010004090800060200_070602050104000300_080000060702010000_060700020300080004_090003080600070102_050008010400000609,
  0x060900040000020807_000000020007090100_000702000001000306_030108070005060900_040500000209000700_000009000300050401_090005000102070000_020003000000010004_010600050000000000,
  0x000301000906000007_090000040800000300_000500000000090001_000006000003000500_080000020005000000_070105000604000200_010007000500030000_000000000008050102_050204000300000608,
  0x020001000000040306_040906080002010500_000307000000090000_000000000000060004_030000000904080005_080400060000020000_090508020603070001_060000090000000208_010200070005030000,
  0x010700060003090405_000005020000070000_000804000009020003_070000000508010000_090400000002050006_020008000000030000_040200000905000001_000109000400080207_000603000200040500,
  0x090501020004000300_080400000006000900_070600030800040005_010008000305000704_040005090108000003_030906000200010008_000109000603000402_060004070902000800_020800050001030609,
  0x000004000002000500_000000070008020304_000200050400000908_000700000000010200_000401090003000006_000002080001000005_000000020300000807_000500000000000109_030900010005000002,
  0x000300000809000100_010005030407080000_090008050100000700_060700010005000008_030001000000040207_000000000000000501_000000080500070603_000406000301000800_070803060900010405,
  0x000207000008030005_000401000307060000_060300090004000001_040000000103080700_000605070802090004_000000060009010502_020000030005000009_030000080000000100_080000000000050003,
  0x000005060200040000_000308010900000005_000000050000000000_000400000000000600_050800000300090007_010000000000050004_000904000706000000_080607090005030002_020501030400060700,
  0x000000000005000000_000008090600000502_000004000300000000_000405060009000300_000000050008000009_060000030200000805_090800010006000004_000002000000050000_050000000702090000,
  0x040601000905000700_050009000004000006_070803000100000000_010000080000000905_000000000000040007_000908000000060000_000706000500000000_000000000001000608_080000000000000200,
  0x000009000500060003_070000080004010000_000401030902080700_000002000700030806_000708010306000500_000600040208000007_010006000007000200_000900020803040000_080004060000000300,
  0x060801070000020000_090000000000000005_000005000001090000_000000000802000009_080100000406000007_020006000003080000_050007030000010904_010000000007000000_000200000009000000,
  0x060000000200000000_000008040706020500_030000000000000608_000300000600000009_000007010804000300_050000000300000700_000400060500000807_080000000000030005_000000000009000006,
  0x070902060008000003_030108000504000000_050604000903070001_090001000005020306_040206030000080900_000300000006000007_060400050300010008_010003040802060000_000000000607000500,
  0x000305000001000400_000007020009030001_000201030005000600_000000000500090000_000900000304000700_000000000000020103_070000000000060005_030100050006000900_050600040008000300,
  0x090000000000000000_010000040000090000_070000090206000000_030800010000040000_000002000000080700_050900080007060201_020000060000070000_000000000000000500_000700000905000004,
  0x060008020000030400_070000000504000008_000400080000000000_050902040006070301_030700090205000804_040806000001050209_020009000000080500_080007000002000103_010500000000000700,
  0x080009000100040005_060301050008090702_050000000600080000_000200040700000000_010000030900020000_000000060000000000_000100070000000300_000000080300000004_040000000006050807,
  0x000200000008000007_000400060000000500_070100000005080900_000000020009010008_000007000100000603_000004000300000000_000302000000000700_080009000602000100_000000000503090802,
  0x070206040000080000_080009060207000000_000104000900060207_000001000006000308_000000090804070006_000008000003040000_000007030000050800_090402080605030700_000000000109000000,
  0x000200050000030900_050000000003020608_000306000000000000_020000060005070809_060008040700010203_070900080300040500_000000000400060100_010709020500000304_000002000801090005,
  0x000904000000000000_000003060200040709_000602000709010003_090708010000050200_000005090602000807_030200000805000001_000800050000000000_000501000906000302_000000020007080005,
  0x000002000708050903_000003090204080600_090006000103020704_000609020001000000_070200000400000009_080405070309000000_000504000002090300_020307000905010006_010908000007040005,
  0x000700080400000502_080005000001000000_000000000000080006_050908020106040003_000600040000000100_030401000907000008_000807030000000201_000006090204000007_020300000000000000,
  0x000000020003000704_000000000000000000_050400060107000009_030008000401000200_060100000000080000_090702000005010403_040600070308000002_020809000000000000_000005000000060008,
  0x000004060008070000_000600050000000009_070000030009000000_000005080000000907_090700000200080000_000006070000030000_050300020600000001_000400090000050200_020000010503000000,
  0x050801000000000007_000009000000060000_000000000005090401_020107080009000600_000000010506070003_000003070000010009_090605040700000102_000000090603080000_070008050001040900,
  0x000005000300000609_040009020000080107_000100000009030000_050002000006070000_070601030200090005_000900070504000000_000004000700020000_080000040000050000_090003050800060000,
  0x070200090008000000_000000030000070801_000000000005000900_000000010000090700_040000000900000100_000009080000040600_050700000001000000_060902000004010000_000001000600000008,
  0x020000090701000603_030400000006000001_000600040308050207_000000000400010006_040100000603000000_000006010000000704_000000030002000100_010300000000060405_080900000104070000,
  0x060001040905000000_000307020608050000_050008000000000900_040700000206080105_000002050804070300_080000030000040209_070104060009000500_030800070502000600_020005000400090700,
  0x000008000700020003_000000080002000001_070001000004090000_060000020007040009_000007060900000502_010000050000000608_090000000000000004_080700000205000300_000006040100000000,
  0x000600000501000408_080009000002030100_000005000800090700_000003010700040200_090000060203000501_000700040005060803_000000000100000907_000201000009000604_050900000400000000,
  0x000003000007000002_000007000400000001_040000000206070500_000008000004000007_000000000009020100_070000000800000000_000000000002000300_000006090705080000_000400060000000009,
  0x000008000500060003_000000000006040905_000000000304080100_080005000200000600_000300000600000800_000007010003090000_000000060000070008_000000000100000009_070009000000010300,
  0x000008000501060903_000200000800000500_000905060004000708_050804010902000006_000609000400010802_020103000000050009_060007050200080104_090001080000030205_080502040103000007,
  0x000301050200090608_070000000800000100_000006040301000500_030607020508000901_000008000604050700_050004000900080000_000002000400000005_010003000002000409_080009060105020000,
  0x010005000604080200_000006000009070001_080907000001050006_000004010000020900_020009000000030000_030100000200000004_090503000000040002_000002000000000000_060801030002000500,
  0x000002000000000807_040000030805010600_050806000000000000_000000050100070000_060708040000090105_000205000609040308_000501000004000700_000309000002060401_020004000000080009,
  0x000000010205000903_000600000009000001_090000000006070500_020000000600000000_000005020000000100_000000050908000704_000102000003000600_000508000000000002_060400080002010007,
  0x020007000900000004_000100000604000000_060800000000000000_000200040107000900_050006000200000107_070001060500030000_000000000300000005_080600090405010703_010500070000060009,
  0x000000070900050801_000000000005060000_010000060002000300_000200000604010500_000306010000000000_040000080007020000_030001000700090405_000400000008070006_060000000000000208,
  0x000600000901080000_010009070000000000_020000080003010907_000400000000000005_000000000004000800_070000020000000400_050006040000030701_040708030005020009_000103000000000508,
  0x000500060000030004_040000000008000000_000602000900000005_090001070405020306_000305000009010007_000400020000000809_050008090200000001_000004010800090503_000100040506070208,
  0x000200000000000709_000008000009010504_000000010500020008_020406080100090300_010800070300060205_070500000002080001_000900000608070003_000005000700000000_030000090401050000,
  0x000200000000060009_060000000000000703_000000000406000502_000007000900050200_000001000504030000_080000060000000000_000006090102000005_030009050600020100_000100000000000608,
  0x090801000004070000_000002000800000604_000007000003000800_080000000002000000_000209000005000000_000306000008000009_000000020000080000_040000000001020506_020000050006000903,
  0x050100000009020007_090704000005000800_080003070400000000_070000000006010000_060900040002080305_000000010500060709_000800060900040100_000609000103070000_010000000000000000,
  0x000800050002000009_040000060007010002_070003010904000000_000005070400020008_080400020000000003_000000000000090700_000900000200040607_020000040705080900_010000000000030205,
  0x050908010000000000_000200030009010508_000000020500090004_090401000000020000_000000070104000600_000706090002050400_070000040203060805_060005080700040000_020004050000000100,
  0x060800000001000300_010400030800050000_030705000900040800_020000000608010400_000100000400000900_000500000102030008_000001000705000204_000200000000070100_000007010200080503,
  0x050001000800000900_020306090500000001_000900020001000000_090000010000000200_000003080900000700_000000000000010600_030600070000000008_000400060200030500_070200050000000006,
  0x000001040500000009_000800090100030605_000905000300000004_000700000800000100_000100000003000000_060000000000070400_000208070009060001_010000030005000900_070009000600000000,
  0x000000000600090000_070003000000000805_000205090007000001_000300020009010004_000000000400050700_000007000000000902_000004000901020000_000802030004000000_000506070200000300,
  0x000308000600070001_000000080001000306_000100000000000900_070900010000020000_000004030002000009_010200090406000000_030401000000000705_000600000903000000_000500000007000003,
  0x090408070000050000_000005040000030100_000000050000070004_000500030008090007_080200060000010400_000007000000060805_050000010309000700_000602000007000000_070003000600000000,
  0x050000060002000403_000004000000000006_070006080400000500_000000000700000008_090001000000050000_060000040005000000_000005000100000000_040000070000000000_000003050604090807,
  0x000004000001000000_000800030000000004_000500080000030000_000005000000000300_080700010300090000_000300000000000200_000903000000000402_000200000500070000_000000060902010803,
  0x090002000008000300_000403000002000809_000800060900020400_000000000004010000_000008090000000003_000000030005080900_080000020000040100_050607000400000000_000000080306090000,
  0x010502000008000700_000700050200060800_090600030400000002_060005000002090307_000307000500000000_080001000000000500_000000000003010000_000800010900000004_000004000006070905,
  0x020004070003000001_090007000100000408_060001090804070302_000000010009030700_050200000307000006_070000000000000009_010902000008000500_030005000902010807_000708000000000903,
  0x010600000200090000_080907050604000000_000000080001060700_060000000102000500_000100000005080000_000002030806040000_040500000008000100_070003010500000004_090200000000050003,
  0x000501070209030004_000700010000000509_080904050006000201_000300060900000107_090007080004020000_000200030100050908_070805090603000002_010409020705000006_030600000000090700,
  0x030709000800000102_010006040200030905_020000000000000000_000000000004060001_000100000600080004_000004000300000000_000901030000050200_000003060000000400_000000070002090003,
  0x000900080007000001_000000010602090005_080005000000070002_070002060800050009_050000000109060007_090601000705000200_060008000300020900_010209000000000503_040503090000000006,
  0x000000000003000004_000000050200060003_000900000000000701_000004020300050000_000600000700000308_000800010000000402_040006000002000100_070508030601000200_000000000005030800,
  0x040803000607020100_010206050000000903_090705000001080406_050300000706000200_020108030000000007_070609080402030501_000001070208050309_000002000003000000_030007040005060000,
  0x010000030506040700_060000010700020003_090307020000060500_000601000407000008_000005080302000406_000000060105000000_000009040001080000_040000070203090105_020100000908000604,
  0x010000000000030009_040000020000000006_000706000009040000_000601030000090400_080000050000000300_020007000004080001_060805000907020103_000004000305070600_000000000200000000,
  0x000809070400000300_000002050800010700_000000020006040000_000005000102030000_010000080000090600_030608000000050201_070903000000000500_020000000000000000_080100090000000003,
  0x090000000800000000_020000010900070000_000008050700000300_070305000200060000_080000000106090000_010900000507000000_060001000300040002_050000080001030006_030004000000000801,
  0x000306000500000100_000200000004000007_090000030100000005_000009070000050000_030000000400020006_050700060800000900_020103040000000008_000900000208000000_070000000603000002,
  0x000100000009020706_070000000800000105_000000070601090003_050307080000000009_000802030000050407_040000090500000208_000009000302000001_080203010705060904_010004060900070000,
  0x000600010200040809_020000060400000507_080000090703020006_000000000006010305_000100020504070008_000700000301090200_000000040002050703_000400000807000002_000000000009000000,
  0x000500090000000208_070000030500090601_010000080604030000_040009000307000500_060300040005080000_020000000008060000_000007020000050400_050000000000000009_090200000000000000,
  0x020701060003080904_000408000000000006_030900010000000207_040005080600000009_000000040000000001_000007000000000005_000502030106090008_010000090007000002_080000050200010700,
  0x040500030000070000_000600000001000009_000801070000030605_010304000700000000_060000040800000000_000208060000000704_030106090007080002_000000000000060000_080700020005000000,
  0x080600050000000000_010000070000000600_000902000106050803_060000090007030400_000007000400060500_000400030608070000_090000010200000000_000006000000000102_000003060904080700,
  0x060304050109080207_000900040700000000_000007080300040905_000000000003000802_070600090200000000_000800010600030000_080700000001000000_000005000000070600_020406030807090501,
  0x060003040500080200_080204060103050907_000105080702030006_030802000607090104_010007020008060005_040006000900020708_070301090805040602_000600070004010509_000009010200070803,
  0x000508000000060003_000600000009000207_000700020000000400_000004000008000306_000200000106000004_000906000300000000_000400000002000008_000002060800000500_010000000005000000,
  0x030500000000090002_080207060409000000_040001020500000806_070000050000000900_060405030000020107_000803000207000600_050300000100000700_010009070005000200_020700090006080000,
  0x030009000800000000_000500040300000600_060100000902050304_000001030005000400_000003000000080200_090004000000060003_070005000100000800_000900000500000000_000002000003000005,
  0x000102050704090008_080000000000050100_000700000008020300_000800000903070005_000500000607000901_000400000500000000_000208090000000500_000900000001000700_060301000000000009,
  0x040000080706090301_000009010004060000_010003000200040008_000000000007000000_000000000503020600_000000060800050900_070900050100030006_000002070608000500_050106000009000000,
  0x040608000200000000_000302070400050600_000005080600000200_060701030000000400_090000000004010806_020800010006070005_000100000007000002_050407000002000103_000200060105000000,
  0x090400000000000500_000500090000000401_080000000500060900_000008000309000007_020709050000080006_030000000000040209_000004080000000600_000002040003010800_000800000002000000,
  0x020000060001000409_010000000405000700_060405070900000000_030107000000020908_000200000300070000_090000000100000000_000000010700000200_000002090000010304_080301040006000000,
  0x000000080001000006_000005000000040700_000000000005020901_000003040500010000_060500010000030409_000100000000060000_000300000004000500_040900050100070600_050006000302000100,
  0x000600000800000002_090008000600070403_000002090301060500_000007050108090004_000009000407020600_030401000900000807_000306080700040200_000000010003000006_000000000206000000,
  0x070109000000000005_000203080006090001_050008000007000400_000304000609050002_010005000000000900_000002000105030800_030000050000000000_090001000208000000_020000090003000000,
  0x060804000003000009_000000040009000006_090000000806020000_020503090408000001_000000000305040208_000000010002000000_000709000001060005_000300000000090007_000001000000030000,
  0x020009000804000600_070003000000000908_060004000000070102_080300040007090000_000900000000000007_000700000005000400_090001000008000004_000007000000060803_000000000706010200,
  0x070000000100000002_000600000702050400_000000000004000600_050000000006080000_000200000007000004_000000090000000500_060100020800030000_020008070301040006_000007040000000000,
  0x050006070300000000_000000000004000000_070004010900000206_030500000400000009_060007000205010000_000009030107060800_010600000000000002_000000020600000100_020008000001000003,
  0x000007000800000106_030806000400000002_000000000000050300_010003000000060000_070000000306080201_000002000005000407_040000000000010000_000300080004000000_020000070003000004,
  0x080600000000030004_000104000607000009_000009000800000007_030700080900010006_010000040000070905_040006000500000300_000001090003000008_000000000700040201_060000010008090003,
  0x000003000005000201_000000000000090400_000000000300050608_030000000000000900_000705000008010302_000008000503000006_010009000002000000_080000010006020009_040200000009000107,
  0x070500000002000300_000402090008000006_000600040000050002_000006070005010200_000004010806000705_050100000200080004_020000000600090800_040803000900000500_060005080300000401,
  0x000400000305000907_090000000001020000_050100000906000000_030008000600090000_040900010807000002_000501090003000006_000005000008000009_000000070209050100_000009030500060708,
  0x000000040800060003_000800000600020007_090604070000000000_000308000005000001_000005020000000000_070002000300040500_000701000000050604_020009000506000000_030500080000000100,
  0x030000090000070400_020007010408000609_000900070300000508_000100000000020807_060200080001000005_000003000900060000_010002000807000003_070308000000040206_050409060000000000,
  0x050009030000020800_000000000001030000_070000020600000105_000007000005060903_000005070006000000_000002080300000700_030004090002000008_080906040007000300_000700000000000500,
  0x080007000002060405_000001030000000900_060009000008000000_000400080900000506_070000000000040800_000800050000000301_000600010503000708_000708000200000000_000903040007000000,
  0x000000000800000000_000400000301000500_000005060407010002_000300000000040000_050708030604000900_010000000009000000_000009080000000403_000003050000000007_000006000100080000,
  0x070000040208000009_010200000503040008_000904070600020500_040500060009010000_090000000005070400_000002010800090000_050607000100000900_020809000407000601_000401000906050207,
  0x000000020006030400_080200000700010000_070000030000020908_000007000000080203_060302070508090000_040809000300070600_020908050600040000_000006040001050009_010400080900060300,
  0x000008030005000209_000007000209000000_020400080000070000_040906070300050108_000200000100000700_000005000004000600_000502000008000400_060004000000000902_000800000000030506,
  0x090000000506040708_080005000007060000_000002090004010500_000000000405000006_030000000100020000_040500000600000107_020000000708000004_000000040001080609_060000050903070000,
  0x000007010000090000_020005000006000100_000809000007030602_080003000001070406_000100040703000009_000000000000000203_040001090000060000_090006080000000000_050308070002040000,
  0x000000000300000700_060003000002000001_050004060107020003_010000000005000006_000300000000050100_040000000903070000_000102040006090800_000008030009010000_000006070001000300,
  0x090807000400000000_000100000603000000_050300090000000000_070605000804000000_080000050000070300_020903000000000005_000000040000080600_000000000009030500_000500000000020000,
  0x070004030200010500_060000000009030704_010309070500060000_020006050000070000_080503000907020006_000107080600000005_030600090700040001_090700020000050600_050000000100000907,
  0x040000030900060000_000002000008040000_010003000004000800_050000090000020000_000000040006010003_000000000000000908_000600080100000004_090300050000000001_080100070000050209,
  0x090000080401030207_040008060003000105_070300020005060000_000107040306080000_000009000002000003_030800090507000400_080605030200000001_020903000004050000_000700050608020000,
  0x060002000008050703_000004000006010809_080103070900020000_000000000800000507_000600040002000901_070000030009040200_040008000607000102_000000080003060400_000000000004000308,
  0x040103090000050800_000200000500000704_000007000200090000_000008000709000000_000000000000000500_000001050308000000_000306070400000001_000005060000030008_090002000000000005,
  0x000007000609030000_060002040103090000_000301070000060400_000106090804020500_000005060000010900_040700020000000000_000003000400070609_070600000900000000_050908030700040001,
  0x000005070000020004_020100050400070600_000700000006000800_040500000600000008_080000000905000700_070901000000060400_010000000000000006_000000000000000003_000000000008000207,
  0x000005000007060901_020701000600050403_090006010500000000_000000030001040006_050200060000000000_000004090000000008_040109000302080000_000002050908070104_070500040106000300,
  0x060000000000020109_090701040002030000_000003000006070004_030400020600010908_000609080001040003_080100000900050206_040002000308000501_070500000000080302_010308060205000400,
  0x090207050300000406_060100080700090005_080503000906010002_000600000503040807_030705020000060901_040008000100020500_000800010600000200_010002000800050009_000000030209070108,
  0x050900020007000006_070800000300020400_000306000408010705_040000000002000000_010200000000060900_000008000000040007_090600000705080003_000007000603000002_030005000200000004,
  0x000000000000040600_000000000206000000_000003080700010502_000800000501060709_020900000608030000_000700000009080200_000407030000000806_000302060405090100_000509010000020304,
  0x000800040000030000_000200060000000800_000006000103000002_080000030600090000_000005000000000000_040600090002010008_020000010000000600_000001000809000000_050007000000080000,
  0x000608000503040001_000001070604000009_000904000800000005_040000000000010000_000000000107000000_000107080905030000_000000060008000500_000003050401000008_000000030700000004,
  0x000500040709000000_010003000000040709_090407030201060508_000902000403050006_040801050602000903_030005090007010402_020308070100090005_000009020000080100_050100060908020007,
  0x000500040900000100_000000000100000208_000300000700000000_080000050004000903_030609000800000405_000005000000070806_060000000300000704_070004060008090000_000000010000080600,
  0x070006050400020908_000405020009000000_000000010000050003_050901000006000204_000208070001000009_000000090004080105_000009000708040501_010007000002000006_000000030000000002,
  0x000502000004000003_000300020007000408_080000030006000000_000000000103000700_000000070205000806_000700000408000100_010900050700080004_070000000009010002_040000000001000000,
  0x070002090006000000_000000000700000003_060001040008000000_020104080900000005_000000000004000200_030600000005000001_000200000000050100_000006000507000804_050000000400000000]
theorem mixed_6_ok : mixed_6.all fastOK = true := chunkOK_sound _ (by decide +kernel)

/-- `mixed` (10000_mixed_puzzles.npy), boards 1750..1999 -/
def mixed_7 : List Nat := [
  0x090006000807000000_000002000106090008_000801000005060000_020509010600000800_000308000000000601_000600080200000000_000000000002080705_000205060000000903_000003070501000000,
  0x000001000000000903_090502040003000000_000004000000060500_000007010304000000_000603080009020001_010400060005000700_080000070506000304_070000000001000005_000005000900000006,
  0x000409000000060005_020805000006000000_000300050007000800_000703010900000600_000506070802090300_000000000005000408_030107000000000206_090604000203010000_000200000701000904,
  0x000002000600050400_010400000008000306_030700010500000000_080000060400000002_020000070800060500_000309050200000807_000000000006000704_000000080700000000_070600000100020908,
  0x000000000809030200_000002000600000800_050007000000090000_000000000100080700_070000020000060100_000000080300040502_060400000002000000_000000000508000600_000900060400000007,
  0x000100070000000908_090000000001000004_000000090803020000_050200040000080001_000000020608000000_000800000000040000_000000030000000000_000400000002060007_000001000500000000,
  0x090005030007000802_020701060000000000_040800000005070000_080900000300000500_030100000006020907_000007090001000000_010300050002000004_000000040000000000_050006010003000009,
  0x000002080307090504_080400000500020107_050000000000060300_000600000705010803_000000020103000000_000300040008050000_000007000006080005_030000000000000701_000508000000000000,
  0x060000000001030002_000307000000040801_000000000003070609_000809000300010000_070106000400000305_040203000005080000_000600000802000000_090700010500000200_010000030600050708,
  0x090007000301080406_080102070600090503_040600000900000000_030200000007060809_010008090500040302_000904000000000105_000309060008050204_020406050703010908_000801040200030007,
  0x010000000409020000_000402000508000000_000006000200040300_000100000000000000_000000000103000209_030000090002060401_060504080300000000_000201000706080000_000007020900000004,
  0x090008000200040001_050700000900000602_000006000800000000_040600080000010900_020000000000000400_000009000601000200_030001000700090006_060005000000000100_070800090006000300,
  0x010607000000000405_000800000007010000_000304000800060907_040000090006030800_060000000308050004_080000050001000009_000000060902000308_000200070104090000_000006080003070000,
  0x000003010200000008_080601040900020003_000004050300090001_000402070000000000_000800000600000704_010709030004060800_090100000000030000_000000000003000007_040000090702080100,
  0x080104000900000302_000006010007000000_000009000200000001_000000050809030000_040600000000000009_000500000000020700_000000070604000203_030400000501060007_060000000008000500,
  0x050602010708000000_090004060500000800_000100000000050000_000005070003080004_060000090800000000_000000000600020007_030009000100040502_000001040000060300_000406020300000009,
  0x070201000003040608_030004000800010502_060000000100030900_010700030902000400_000302000000000701_050000000001000803_000007080305060000_000400010009080305_000000000006000100,
  0x000100000703050209_000003090200000008_000907000800060300_000009070000040005_000200000008090000_000708000009020000_000000000400000001_000400000100080906_050300080000000400,
  0x000704080301000500_000000060002000703_000003000005060108_000408000000000905_070000000408000006_010600000003080407_000300050000000600_040500030100090800_000100000800000004,
  0x020000000000000600_000400000003050901_090501000406070300_070002050004000809_040800010609000700_000100000807000500_050300040008090206_010000030700000000_000200000005030107,
  0x020300090108000007_040500060307000209_070901000002000008_050603000001000700_000000000000090100_000002040000000006_000405000609070000_000200000800060001_060007010003040002,
  0x000000000400030008_070006020001000000_000000000703000200_000002000000000600_060709030100080000_000503000009070000_090004000000000000_030100070002040900_000207040008060000,
  0x000904000201070003_000803000700000002_010007030009000000_020300050000000009_090000070003000006_070600000002000400_080500000007000000_000006000405000000_000709010308000600,
  0x090406000703010008_000300010005000009_050000060000070403_000900080006050002_000000070000040906_070600050900030800_040000090007000000_020009030500060100_000800000002090007,
  0x000300040500070000_000002000003000400_040009000000000000_000000070000010000_000600000000000000_000000000608000300_030105000002000009_000807090005000004_000900000006000800,
  0x070208060400090300_050904010000020706_060001090207040508_030709000102000405_080000000904010207_000402050006000800_000007020301000600_000500070609000102_020106040008000003,
  0x000000000900000000_070005080300000400_000109000506020307_000507000809010000_030000070600040005_010806050003000900_060003090100050704_050000060204030100_000000000000080200,
  0x000000000000030000_080000000000090000_000003020704050000_070006000005000100_000500000000000002_040000030000060008_060000000400020000_050000010306000000_030009000000000000,
  0x030000060005000900_000900010000030608_060000000700050004_000009080007020300_020500040306070800_070003000509000100_010000030008000000_000706000001090000_090300070600000000,
  0x000000080001000009_000409020000050008_000508090000000700_070602000005080000_080100000307060000_000900000008000000_050000000000020006_090003000000010407_000000000102000003,
  0x060009000002000805_000000040008000709_080000050100000000_000001030200050900_050900000804000003_000602090700080401_000200060000070100_070500080000090200_000000000900000500,
  0x000206000100000409_010000000205000008_000000000609000500_000300050000000100_000007060003040005_000005090001020003_060000000907050200_090002000004030000_000000000300000000,
  0x000009000008000200_000300050402000000_000200010009030500_000400070300020009_090500000000000400_000700000900000000_010600080207090304_070000000000080002_000804090000050000,
  0x070002090300000000_080000070000050003_000503000600000000_000008040000030700_000000020807010000_010207030900040008_020800000000000000_000000050000080200_030000000700000000,
  0x060804010000050000_000500080700040000_070200040000090600_000002000903000004_000000000801000902_000609020504000800_020000090400000000_000007030000080406_040000050000020309,
  0x000000070601090200_020400000000000006_000607050002030800_010300000208000500_000005000100000009_040002030000060100_000000020800070005_070000000000000003_030000040006010002,
  0x070004000001060509_000005040800000002_000001000009000704_040008000205090601_000006000000050003_000903080106020407_030400010508070200_000502000903040008_000007060402030905,
  0x030600000904020500_040005060102000803_000209000000000607_000000010509030200_000006020800000004_020901000003080705_000000000201060000_090800000700000002_060000000400000308,
  0x070000080000040002_080600000204050109_000002000009080000_030006000500000007_000000060000000000_050007000803060201_020904000106000008_000308000000010504_010005030408020000,
  0x060000070204080905_070008060900010304_040900080100020000_000000010009070600_010304020000090000_090607000508040000_050700000001000000_030406000802050100_020800000006000409,
  0x000800000000000000_070000000200040300_000000090406000000_000001000002000008_000003040000000100_080500030107020000_000000000000000400_000307000000080900_010400070000000003,
  0x080900020300000407_070501060000080200_000302070008050906_030000040702090108_020409030001060705_000700050000020304_050103080200000609_060207090500000800_000804000007030502,
  0x000004000500000200_020007000304010506_000005000000000008_000302000007000004_000001000800000000_040800050000000000_000208030406000905_000400000000000803_090500020708040000,
  0x000504070203090801_000207000008060503_000001090600000007_000005000900030008_030000020000000900_070006000004000000_040003000002000600_000709010400000300_000000080300050704,
  0x000005090000040300_010902030004080000_030704050008000901_020400000006000000_070108020905030000_050009070000000000_000000040102000000_000501060009070402_040000080500000000,
  0x000006090005020403_000000000006000000_090704020301080005_060208030000050007_030000000000000204_000507060002000000_000003000208000900_080901000003000500_050602000400070008,
  0x010000000000000000_000009000002000600_000006080309010500_000500040000000801_000400000900000000_000700000008000004_000008070000000906_000607000100080000_000900000000070005,
  0x080003000000070104_000007090301000002_020500000007000000_000100000600030000_070300010800090006_090006030004000008_000600040003000801_000802000105000900_010704020908050003,
  0x000400000003000009_000705000400000003_000901070600000000_070609000000000000_000300060000090100_010000090002030000_050004000300070900_090800000507000600_000007040001000008,
  0x000000000700000105_090000030000000708_010000090502000603_070109000003000400_050302000600010009_000400000100000007_030605080000000200_000900000300000500_000704010005000906,
  0x080007000004030009_000000000903070800_030000060807000000_090601020700000300_070400000000000000_000008040000010000_000002090600000403_000809000400000002_040000000000000008,
  0x000201040000000000_000004000500000007_060005000000030400_000000000000040009_000402080000000005_010500000400000800_050307090000000104_040000000300000000_000000060100000500,
  0x060000030000000008_000500000902030000_000900000000000000_050400090008070200_000000000206000409_020009000000000600_000803020001060004_000000070809000000_090000060000050807,
  0x000008030200000405_000000000100030000_000000090508010600_000007000301000904_030100000407000200_000200050600070300_000000000800060003_020000000005000000_000001000000000500,
  0x000800000901070200_000907060008050004_000006070305080901_070000000000000500_000403000000010600_090002000004000807_000000030000090000_060004090500000108_050700080000060403,
  0x060800000300050200_000000010002000000_000000000000000000_070402000103000000_090500000007010002_080100090000070004_000700020000000600_020000000705080901_000000060000000003,
  0x070005010400000002_000102000000040700_000000000207000109_000007060904020001_090001000305060804_050006000001030907_000609050000070000_040700030609010000_010003000002000608,
  0x000009080600000201_060108000007030905_000502030001000604_020400050708000106_050007020100000000_090000000000020500_080000010400000000_030904070000000002_010000090000050400,
  0x000500000000020008_000200000001070906_090801000002050000_000005070008030402_070002030009000800_030608000000090701_080000000400010500_050306010007000200_000000000305080607,
  0x000000070005030100_030001000804070005_000000010000000000_000100020506090000_090702040301000500_000605000900010300_010000000700020800_050000000402000900_000009000008050400,
  0x000400020000090300_090302060004000100_070800000009020500_000000000003070000_000007050400060003_000000080701040900_000105000200030009_060200030900010000_030000040100050000,
  0x000003000007020000_000008060500000007_060100040802000000_000009000200060000_010200000600000000_000000050000000700_090000080000030004_040700000005010006_000800000406000009,
  0x050002090100000000_000703000204000906_000904000703000800_080009000302060000_000000010009000000_040201000008000300_030405000907010008_000108040605030000_000000030801040200,
  0x010008000006000000_000309010007080002_000204090005010000_040703000100000200_000001040002070800_000805000000030000_080900060000000100_050006000004000703_000407020500000000,
  0x000000000001090802_000004000900000003_030000020000040000_060001000000000000_090007010304000000_000002060509000704_000003040000000900_000009000007000308_010706090000020400,
  0x060900000400000000_000007000005020900_000002000000000007_020005080000010000_090000010000060000_000000000006080309_000806000500000000_010200070008090500_030000000000000100,
  0x000002070000000004_040003000605000100_090701040000020006_020005000706040300_030000090201050607_000006000500000200_080000050000000400_000009000000000000_000304010007060000,
  0x040500000809030600_060000000000000200_000007000000000000_020800000001000406_000409060700000301_000006000000000902_000005000000000003_000300000500000809_000100000308000000,
  0x040809000700000000_000000000001060800_010506080200030709_090000000000020000_000601020000000000_030000010405080000_070204050000000600_080003070000050000_000900000000000008,
  0x090006000800030000_000508000407000000_070201050009000806_060800090000070402_020705000000090003_000109070200000008_010000020000000300_000900000706000501_000300040108060000,
  0x000000040708000900_000000000000000007_000900010603020000_000403000007010006_050001000009070000_020607050001090804_000000070000080009_060702090800000005_080509000100000002,
  0x090001050000000002_080000000000060000_030600000900000100_000900030000000700_070500000200000001_010000070006000400_000104060005030000_060000000108000000_050708090000010006,
  0x080007010602050003_030502090004060700_060900000000000200_050309040206000108_000206000001030405_000800050700090600_000000060100000009_090000000400010500_040000000309000800,
  0x070006030100080502_030000000802000900_000200050609000300_010003090006020000_000608040003000100_000405000701000600_050000000000000204_000009020300060805_000002010400090003,
  0x010000000300040500_060804000509000000_000000040007000000_070401090000000600_000000030000000000_050003000000000000_000709000604050001_000300070201000009_080006000903020007,
  0x000000080300000002_000408000007010305_010003000000000907_080000000500020009_000300070002000500_050002010000070003_000000040700000001_000000030000000000_020007000006000800,
  0x070300000000000009_050200000900080107_010000000807030600_080000070209000000_040000000308000902_020709050000000000_000802000004050006_000407080005000201_060100090702040800,
  0x060903020108000007_070001060300000809_080005090000060003_000500000000030908_090308000506000000_020000080900010000_030007000000090200_000802050609070300_000100030700000004,
  0x020000050001080600_050104080000030000_000706000004000000_010900030005070006_060000000000010000_000000060007020000_000200000600000001_000600000500040203_000400000000060008,
  0x050002010700000603_070904000300000500_000300050000020000_000008000000000402_000000000504060000_000700000006050109_000000040000090000_000007020000030005_080000030007000000,
  0x060007000000000208_000000000200000900_000000000500000004_000006000300000701_090305000704000600_000700000809030405_000000000005000006_020003000600000000_000009000000040800,
  0x040903000000070000_020105000008030600_060007000100000005_000002000800000000_090500000000080402_000000000004010900_050000000000000703_000708000900020100_000009040300000508,
  0x080903010200000605_040201050600000008_000600090803000002_000502060009080104_060008000500030009_090100080000060500_020407030906050800_010806000005020900_000009000108040700,
  0x000200070900000400_040709000100000500_050100000304000009_010400000700000003_000008010003000604_000005040009000007_000000000000040000_000800050601090002_090500030000000801,
  0x080000050200000600_060000000701080000_020004000003000907_000809030000060000_030000070000090000_070500090600000100_000000020400000009_040200000006070508_090700000300000406,
  0x000002000009000700_000900050000080003_000700000000020500_000000000500000908_000005000100070400_000207000000000000_000800040001000006_000001000600000807_000006000800090001,
  0x000903010000000000_000700000005010004_010000000008030000_000400000001020000_000000070003000008_000800000900000001_000006000107090802_000004000000000107_000000000200000003,
  0x000500000000000106_000000010000040000_070400060809000000_050000000001000007_000000090200000000_000006000700090800_030907080000000500_080105000907030604_000000050003070908,
  0x050700000406000000_000000000709020800_010009030005060400_000307090000040008_090005000000030000_000000000000090700_020400000908000000_000506040000080000_080001060000000300,
  0x000800000100000000_000100080503060900_090000000200000000_030600000000000800_000000050008000600_010000030006090000_000000040000000302_000400000007000100_000200000801070006,
  0x000000060105000002_060000000703000401_090500080004070000_080004050300010000_030600040000020000_070000000006000003_000008010600000000_020006030509080007_000003000000000005,
  0x030000080006000901_060000070009000500_010000000203000007_090000010807040300_000001020000050709_020400000005000800_000003000708000205_050000000000000000_070600000402090000,
  0x060409050102000000_050200080007000600_070800090604020501_030000000001060705_000000000509010000_000502070800000900_020305000700000400_090006000200000000_080004060903000200,
  0x000200000000000003_070000000806000504_000500070000000006_000600090400050002_000809030000040000_000104080000090000_000700000305000008_000005000100000400_000008000000000000,
  0x000000030502000006_050603000700000004_020009000401070000_040000000806000007_060700000203010000_000000000004060805_000001000008000000_000000000300090700_000004020007050008,
  0x000205000000000900_000000000300000000_000000000106070205_040000000007000300_000003000800010700_070008020600000400_050000000000040000_020007000008090106_080000000001000500,
  0x060000000004080000_000108030005000002_040000000008000009_080700020000030500_000000090306020708_000600050000000004_020000060000090007_050400000109060203_000000000702050001,
  0x000500000000000304_000100000208090605_060000000000000201_030805060400010900_000001090500040000_020004000807000500_050406000009030000_000009050000020006_010003080706000009,
  0x000408010009030000_000000000307000804_030000000500020100_000500030600000001_020003000900000005_000007050800060003_040002090005000000_000800000003000000_070000080406090000,
  0x000000020405000008_080005000001000300_000000090803000400_020008000609040003_060900040100070002_040500070300000000_050000000000000000_000604000007000000_010000000000080904,
  0x070000000906000300_060000070100000500_000000050000000700_030100000007060005_000000090800020000_020000060500030400_000603000005000000_000000030000070600_040807010002000003,
  0x000509000402070600_000001000000020904_020704090608050301_070306000809000402_050400060000090803_010908000204060507_000807000000040105_000203000100080700_040105080907030206,
  0x000000000001060000_000200000005000300_090003000000050000_080000050000000000_000304000000000000_070600040203010900_040000000107000200_000500000000000000_010700090002000600,
  0x010000090002000000_000006000300000502_020000050800000100_070005020000000800_000403080005000206_000802040003070000_030600000009000400_050009000401000300_040000000000090607,
  0x000000000007030002_000802030000000009_030900000500000600_020000040806000100_000009020005040300_040700010000000200_000000000000000000_000000070408000001_080500060000020700,
  0x020600000000000000_010005000000030000_090008010207040000_000000000600000002_000000000708000000_000009000301070500_000207000906050000_000400080000090000_000901000504000800,
  0x000000040000000002_020005000009010003_000603000200000409_090308000100000500_060700050000000308_000004000008090000_010900070500080204_000000010800000007_000800090402060000,
  0x010605090000000200_000009040502000000_000002000700080000_090700050103020400_020100000009060005_050400020000000701_000500010000000002_000907030004050000_000000000600000004,
  0x000805000700000000_070200060501090000_000009000802000007_020008000004060509_000506080200010400_030000000605080702_000000050100070008_080001000000000900_000300020908000100,
  0x000701000500080604_030006070408010005_000000000602090307_000107000805000003_050002000100070000_080000090700000500_070000050301040800_000300080000000000_000508000006030709,
  0x020000000003040006_090000040006010207_060007000000000305_000302000000060709_010000060000000000_000000090000020400_000200000000050604_000705010600090000_030000050408070102,
  0x030708000609000000_040000020000080600_020100000500090300_000900000400000001_010000030706050008_080300000900000000_090800060300070005_000000050004060100_000601090000000000,
  0x000000090000000000_000000000501000800_000800030000050100_000300000000080000_090100000300060002_040605000207030000_010500000000070208_000200000703010000_000006020100040500,
  0x080400000600020107_050600080207030009_070302040109000500_020008090405070000_000900010008050000_000000020000000001_010205030904000008_000000000500000300_040000060802000005,
  0x060004000001000300_000007060300000000_090103000807000400_000005000000000600_000008070006000003_000000010000080900_070009040000000805_050002090708030100_080000000000000700,
  0x060000070000000008_000007090800010600_030000000600000709_000008000300060000_000900000407000000_000002000008000403_000000000000000206_000005080000000001_080006000000000305,
  0x000000070003080200_000008000901030507_000000000802060009_000603020405000700_000401080600050302_000007000100040806_070002090000000000_050900000000000000_000000000004070900,
  0x000700000501000603_000000040000000705_000208060007000109_000609000400000000_080100000006000000_000000000802060907_000002000000010300_030000090100000200_010800020000090000,
  0x010000090004050003_000409020308060007_000703000005000004_030908000500000001_000005070100000000_040100080000030500_000804050907010000_000000030001000009_090300000802070405,
  0x000000010008040007_070000050000000802_000800070400060000_000002000500000004_000609020004070300_000004090000000201_020000080000030400_060008000203000000_000003060000020108,
  0x070003000600080009_000000050209000003_000600000008000105_080405090000000300_010902030000050407_000700000001000002_000007060003010000_000004000100000506_060301080905000004,
  0x070000000006030000_030900040807010000_040001000200060000_000400000003080106_000008090000070002_000107000000040903_010000000008000000_080004060900050001_050609000000000804,
  0x010000000000020307_060900020003050000_030000000000040006_000001000506000002_000000080402000005_000000000100000000_000000000300070009_070600040000000000_050003000000000800,
  0x000802000501000003_000000000609000000_030900000000050004_000008000104000906_090000080000040507_040006000003000800_080004000300000200_000300010800000000_000009000002070308,
  0x000000040200000100_000008000107000000_000005080000000003_000001000400050300_000209070000000006_000004000000080000_050802000000000000_000907000000000000_040000000000000200,
  0x090000000103050006_000000080600090702_080000090000040300_000100000007000200_000500000900030004_000004000000000000_010003040209060507_000900000800020000_000205000000000900,
  0x070604020005000008_080201000609030400_000005000100060200_010809000700000500_000006000004080000_000000000000000600_040508000007000000_030007000000010800_000100080403000000,
  0x000003090006000805_000005000008000006_080609000500010003_020006040000000508_000000000003060104_000000060700030000_000702030000000609_000800050009000000_060900020800050000,
  0x000807090000020000_090503000100000000_020601000807000309_030000060208070900_060200000009010400_070000000004000200_050006000901030702_000702000000000104_000309070402060500,
  0x080000000904000000_040002000000000600_090001070000030008_000000000700080006_000208090306000000_050706040008090002_000000000007000000_000000060409000000_000009000500000200,
  0x000400000000000800_000103000009020500_090206000005040700_000304010600000005_010800090504000002_050600000308000400_060500030900000004_040000000001060000_030001000406050200,
  0x000102000000000003_060907000000000800_000000000000010700_080003090106020000_070400020008000001_000200040500000006_010605070000000000_020004010003000000_000800000005000000,
  0x000000000009080100_020000050000030907_000409000700050000_040000000006000009_070601080903040000_000900000500000800_000005000301090008_000004060002010700_000107000400020000,
  0x000000080000060503_060500090004000100_070003000006000000_040000000000020701_080000050000000006_000000070100000400_050000020700040000_020000000000000000_000600030000070000,
  0x070000010006050000_060000070000000308_000400050000070600_020000030000000005_000500000000090000_000000040805000700_000002000407000803_000000060503040000_000300000002000000,
  0x000000000400000001_000200060007030000_000000000102090706_000600000000000007_080000000300000200_070000050800000100_000700040000010000_050801000000000600_000000000000000308,
  0x060002000007010508_000107080000090000_000000030000000006_000709060800050100_000500000003000004_000004000000030000_020400000500000000_090000000600000005_000600040308000000,
  0x040108000002000609_000300000009000102_020905000008000700_000609000000000200_000500000000000006_000800010006090000_050000080000000901_000001000004060003_000406050000000000,
  0x070300000108050602_020805060309000407_060001000207030800_000000000400070900_080007020001040005_040000000000060000_030004080000000100_000200010000080700_000008000000020503,
  0x050800000000060100_040109000706000000_070603000100000005_000400090000000008_000000000001020000_080300000000000009_010000000000000000_030708000000040000_060005000304000701,
  0x000300020006090005_000209030504000607_000600000900020003_060903050100040700_080000060000000500_000005040008060901_090002000005000300_040000000203050006_000000000000070200,
  0x000704090002080006_000002070000040009_010000040806000500_060200050000070900_000507080300000001_030100000000000000_090406010005000002_000300060908000704_000800000000090600,
  0x000000090800020000_020607010403080905_080900020000030100_070009040000060308_000100060700000000_000006000000000400_000000070000000203_030701000000000009_000000000306000007,
  0x070008000005000000_000500000609000000_000004010000030800_000000030000000000_000400000100070003_000006050007090004_000000000001080000_000601000800040509_080309000504060700,
  0x060300000004020000_000200060301070000_050000000000090000_000700000500030102_000001000400060000_000000000200000004_000000000000000000_010400020700000000_070000000000000906,
  0x000005000800070006_010302040007080000_000007000009000100_000004000308000200_070000000002090000_000000000900010503_000001000006050804_000006010005000009_050709080003020600,
  0x010600020000000005_000807000600010900_000500090008060000_000304000006000000_080005030204000100_000000070800000000_000000040000030000_000000000501020000_090100080302050004,
  0x000208030607040905_030600000005000000_050700020109060008_020807000000090603_040901000300000002_060300090702010804_070100050206080409_090006070000050001_000502010900000700,
  0x060804000700000100_020900000300000500_000705000106090008_000200080000010900_000009000602000804_000100000900070006_000400000000000000_090500000003040601_000000000200000300,
  0x010000000000050800_080300070000000000_000000080400000000_000007000004080100_000400000300020005_050002000807090000_070003040009000000_000601000708030004_000009010003070608,
  0x050200090700040000_000603000200000901_000800000300060005_000000070000080006_060000080002000000_090300000000020000_030900020500010600_080000000604090000_010000030800000002,
  0x050200000000000800_080906000000040007_000000000000000002_000708040000050000_040005000200000908_010302080009000000_000501000008000709_000800090005060003_060409030000000005,
  0x060000000900080500_000004000605000902_050009000400000100_080002060704090305_070600030200040800_000403000800000706_000506000308010007_000308040007000600_010000020506000408,
  0x060100000000000400_040007080000000001_000000020000060005_000005000700000000_030000010008000600_000200040000000008_050600000003010000_000000000400030006_000000090000000000,
  0x010000090000000000_000500010003070000_000908050400000002_000401080000000000_060000000000000000_080000030001000000_000100000700050400_050000060009000107_000709000005000800,
  0x070006010002040000_020003000704000000_040000000609050000_000000000000030000_060009000307000000_000000000105000004_000000070000000208_000208060500000401_010000000208000000,
  0x000000020008000603_050300000000000700_020000010703090800_000700040000000008_040200080001000507_000009000000010000_000604050000000109_000002000009000000_090000030804000206,
  0x090001000002070005_000600070508000901_070508090300040600_060700050100080000_050000000200060100_000000000600020509_000807000000050400_030000010004000006_040906000705010208,
  0x070008000009010205_020003000000000000_010900000007080006_000000000103070800_000000090000050000_000002000005030100_000300060000020708_060000030508000900_080109070000000000,
  0x020000000008040003_000403020000000000_090800000000010000_000007000009000006_060001080000000000_000000000501000000_000002000403080009_000900000000020500_000000070900000000,
  0x000107080005000200_000905070401080003_080004000000050000_060008010509000007_040009060807000000_050700000203000000_090003050008060100_010000030900000500_070500020100000900,
  0x000803000500090000_000001000006050000_000700090000000600_040000060109000207_070106020305080900_000309000004000000_000000010402070009_000000030007000006_010000050000000003,
  0x000000000000000000_000000070304000905_000004000000000200_060009000203000000_000000080000000000_020008050901040003_010200000000000800_000000000700050000_000005000800010006,
  0x000904000001000508_000800000000000002_060000020000000001_030007000008000905_000402000605010800_050100000009000000_080200000000000004_000300010000000607_000001000006000009,
  0x000006000000000300_050001000704000600_000000020000000900_000002000500080007_000000000300000006_000004060008000005_000208050000040000_000100070800060500_000000090400000002,
  0x000006000004080001_010000070000020900_000400000000030006_000000000000090000_090000000501060800_070803000000000005_030001090000070000_000600000000000000_000700000200000100,
  0x060005040000000007_040803090007050006_000100020005000003_050700080300060001_030600000002000000_000400000001030002_070004000000000000_000000010000090300_010000000200070605,
  0x000002060400000907_080000000300000000_070004000001080600_040507000000000308_090000030800000702_020003070005010400_000409000000000501_000205010000000006_000708000000000200,
  0x000000010000050008_010000000008000003_000800000204060001_020000080109070000_000004050603020800_000000020007000300_000205070301000604_000600040900080000_000001060002000500,
  0x000000050008000900_000000030000000000_050100000600080000_000900000000000000_000006070800000004_000001040000000309_000000080702000000_000208010903000607_000703060400000200,
  0x010600000000090000_000000000002000800_000000040000070006_000708000006000000_090500070000000000_000106020009000705_000000010000050904_080300000000010600_050000000007080003,
  0x080500000209000006_000004010700030900_030709000000000501_010000050304090700_000000090007000805_050000020600000300_090800060400050100_000000070900000603_070006000501040000,
  0x000000030000080609_030004000000010700_000002000000000000_050000090000000300_000406000300020900_000300020000040100_000000000809000000_020000000500070000_000507060003000401,
  0x090601000000000705_000002060900000400_040000050100000000_000008070500000006_010000080000000000_000506030200080000_000703000400060009_060000020003000000_000104000006000000,
  0x040900030001070806_050600000700000009_000800000000040003_000501000402060000_000406000000090005_080009060000000000_060700000200000901_030000000904050000_000000010006000004,
  0x040900000600030000_080000050000040000_020001000000060005_070300040009000008_090500000000000000_000400070000000500_000200060300000007_000000000705000006_000000090002000004,
  0x000000060100000300_060201000700040005_090003000500080100_080000020000070000_040000000000030000_020007000005060809_000004000208000000_010600000904050000_000805070601090004,
  0x080000000000000000_000100000809000000_000305070000000001_000200000308000006_010600000400000005_000003020006000000_000002010000000300_060900000003000700_000800000005010900,
  0x020003000900000400_060704000000000000_000000070400010300_000000040001000806_000002000800070500_000008060000000001_070801020004000600_000009010005000000_000500080000000100,
  0x020001050406000000_030000020809040007_080000000300050206_010000030008020504_000803040502000000_040200070600000008_050308060004090702_070004000200000800_060902080703010400,
  0x000000070001050002_020104000500000703_070000020804000001_050706080000030100_030201050009000804_040800010003060205_000403060007000508_000602040000010307_010000030208040000,
  0x080000060300020107_090301050700000604_070206000004030009_020000030601000000_000100000005090000_000803020007010000_010009070400050300_000702010500040000_000508090003060700,
  0x030000000007000605_000009030000000400_020700000005090300_060304080001000209_090100000403000800_000000060000000000_000000010000020000_050900000008010004_010008000004030906,
  0x000007000102060003_010000090600000500_000004000007000009_000802000009030004_070000020400080605_000100000508090002_000600070300000008_000000000000000000_080000010000000006,
  0x090507010000000004_010803090000000500_000602000307080109_060201040000030008_050004000700020006_000009020603010000_020106000005000000_000405000000090203_030908070004000000,
  0x080107000002000900_050002040900000301_000904000705000602_020801000300000004_040700000001000000_000000000004090008_070000080000000009_000005060400000003_000000000009000007,
  0x010604090300020000_000000040500030006_050003000008010000_090205030604070008_000000000102060904_000000080709050300_070009000000000600_040002000906080503_000500010400090207,
  0x050907000203060001_000000000007000300_000000060000000002_080700010000000604_060400070000020905_020300050604000007_000100020806050700_000000000000000000_000002090701000000,
  0x000005090007040603_000006050001090002_020009000000000001_000802000009000004_090000000000000200_050000000002060908_000000000900070000_000007020100080000_000903060000000400,
  0x000200000106000000_000000050000090000_000403080000060200_000800010400000900_000902000000030500_000006000300070000_000004000000000000_000009070504000602_000500000900000003,
  0x000807040000000000_000205030901000007_000006080005040002_000409000308000100_060002050004000000_080001090000030004_020703060509080400_050000010800070003_010900070003020605,
  0x070008000000000000_000006000904000208_000009010800070306_080000060700030002_000001040208000000_000700090000040000_000900020006000000_000800000307020609_000000000109000004,
  0x060107000000000905_000000050006000007_020000000700060301_000800000001000000_000003000005000000_000002000000000703_000009000000000004_000500090008000000_000004000502070100,
  0x000002070000060409_090000000000070301_030704000000000500_000000000703000900_000800000609000000_060000000001080704_040301060500090807_000200000100040000_000600090407000000,
  0x050004010200070903_060000000005080104_070109000800050602_000400000002000500_000500060901020408_090602000500010007_040906080107000005_000000000003060800_020308000000000701,
  0x030000000609000004_040200080700090000_070000000000030602_020900040000000801_080403000506000900_000107090200000403_010000030004000008_000000070805010206_050008060000000300,
  0x000000000005070200_070005000802000000_000008030400000000_000000040008000000_060809000000040002_010000020500000706_080000000000010009_090002080004000607_040106090000000005,
  0x060007010000000000_090000000608000002_010002030907080506_050006000800030000_000008050003000900_000900060000000408_000600000009010803_000100000000040700_000000080000000605,
  0x030000000000040809_000207000009000005_000905000600000201_090308070200000500_000001030504000000_050400080001030006_000009050000000408_000503000400000100_000004000102050600,
  0x000000000000000804_040700000900020600_020806000007000009_010208000000040300_000607000804050001_090000070100060200_000400090000030102_000102000308000705_000300050001000400,
  0x000300000209000500_080002030605000000_000905040008000000_000408000000070002_000200000000000100_000009000502000004_000800050300020000_000500000000060709_020704060900050000,
  0x080000060002000009_020901070403050008_000600090801070400_000400000000080200_000000000109060000_000300040000000900_000500010700000000_000000000000090001_000100000900040005,
  0x050001080000020006_000002000306070001_070800000009050000_020100000903040000_090008020605030100_000003000000090005_010009030407000502_000007090501000004_030004000802010700,
  0x000700000000000006_030004000002000000_060200070000080009_000000090708060200_020009000000000007_000300020000000001_000400000005000002_000003000009050700_000000000600000900,
  0x040700000000030006_000902000103050007_030600040005020900_000100030007090004_000006090400000000_000403000601000000_010200000004060000_000000010000040209_000000070009000500,
  0x050004000903000000_020600050000070000_070300000000050400_000703010000020500_010905000207000800_000000000000040007_080000020000090005_030007000000000001_090102000000080000,
  0x000002010003000000_060007000004000000_000501090607020000_000000000000030700_070100000000040005_000000070000000906_000009040800000300_020000050100070008_010000030702000009,
  0x000000010000000008_030205000000000700_000001050600040300_000000080200000403_000009030100070000_000002000000080900_090003060400000007_050008020301000000_000006000000000105,
  0x000700080302010000_000400000605000702_000502000000090600_000000060001050407_050007000400000100_040000000703000809_070004000009000000_000201000006070000_000605000007000901,
  0x070800030000000002_000105000000000000_040300000000000000_000001000308000009_080400060000050701_020907050400030806_000000090007060300_030006000200000000_000500000003070200,
  0x000000090802010005_030000000006090007_000009030000000400_000001040300080609_090000050600070203_000300000000000004_000000000000000001_010004060000030508_000000000004000906,
  0x000400020900010300_000000040300050709_000007000000000000_000000000003090100_000500080701000002_060001090200030805_080005070000020403_040000000802000001_000100030400000500,
  0x000100090000060005_000000000002040003_020607030400080100_060001000003000000_000000000006050307_070305040000010800_030000000000020500_000500000000000004_000709000500030608,
  0x000000000000040006_000200040608000300_000000000000070002_070000000000020003_020900000301000000_030600020804000005_060002080403000007_000708060000000200_000000000002000604,
  0x020000000000070900_000300060009000005_040000000208000000_000400090000060700_000900040000080000_000807000000000001_000003000900020004_000000000306000800_000000070000050009,
  0x000800000500060400_000002060408010000_000400070302080009_000000000600030008_020700000003000000_000000000007040000_070000030901000800_000300040005020600_000000080000000003,
  0x090408030702010000_000300000005000800_000002040008030700_050109020006040007_000706010900000005_080203050400000900_020607080504090003_030004000001050600_010000060009070002,
  0x090000000008000000_000402000900000305_080000040205000009_000800000607000504_000000000803090006_010206000409030800_040103000000000900_070000090000050400_000000000004000008,
  0x000000000908000706_090000060207050403_000006000000080900_030000050000090004_000000040000030000_000009000300000501_000203000106000809_000000000003060000_060001000005000007,
  0x080602000900050407_030504000800000001_070009020504080603_010000080400090006_090200000005030000_000000090000000100_020300000009040700_050000010702000309_060900000008010500,
  0x000008000709050001_000700000005060002_000400000103000800_080104090306000000_000305000000000004_000200000004000000_000900000000000000_000800000001020000_060003000007000009,
  0x000100000000090006_030500010000000007_090008000007020103_000005000000080002_000001000005000609_040800090000000000_000309000700000000_080006000001000005_000000030000060008,
  0x060708000302000900_000000000000000000_050000080006000200_080004000000030000_090501000203060708_000306000500040000_000007020805000000_000905000000000806_000003000009020005,
  0x070600090003020000_000008000000090003_000500080000000704_000402050000060300_000005060700040001_060701030900000002_000000020605070100_000207010009080000_000900070400030205,
  0x000800000100000605_000000000700030002_070500000008000001_030000070001000900_050000000803000000_000001000900000500_000400000007000008_000002000009000100_000107000605000200,
  0x040602000305000809_050009040600000300_030100000002000005_020401060703050900_070506080400010203_090003000200000607_010904000000030500_080200030106000004_000300090504000102,
  0x010600000905040000_000000000006000000_000000000003000601_000000000607000009_000900020000000800_020306000004070005_000400000008000003_070000050009000000_060009000302000004,
  0x000001020005000000_000902010703000500_040000000000070000_060000090000000000_000003000500000001_000500000200080000_000100030000000008_000400000009000007_000708000000030006,
  0x020803000001000005_000709050003080204_000400080902070000_000608000007000502_090501060004030700_000207000008010006_000002030005040607_070000040806020009_060000020700000803,
  0x030500070008020009_080009020600010007_000007090504060800_050308060400000000_070100000900000605_060902000801000000_090601000200070308_020700000006040001_040003010700050206,
  0x050002070004000600_000103000900000500_060700020500090000_010300040000060700_000206000001000900_070004000609000102_090007050800000000_000000000300000004_030005010400070209,
  0x000100030000040009_070003080509020600_090000000000000000_000607010000000403_000005020803070100_000000000600000205_080206090007000000_010000000000000002_000009000206000008,
  0x030000000500010009_060000000002050000_080500040003060000_000700000008090003_000008090000040007_040309000701080000_000000000800030004_090000000200070600_000405000600020001,
  0x010000030005060800_090000020804000103_030005000100020900_000609050700010408_070401080009030000_080503040000090002_060108070502000309_040902000008070005_050307090406080201,
  0x000000000400000009_000001070209000005_000900000005000406_020000000503000001_010400000007000003_000700000000060000_000007000000090200_000508000000010000_000000010908000000,
  0x000000070000050006_000007010806000309_000300090005000807_000009000007010003_000706080000000400_000005000000070608_000004020008000005_000902060004080000_070803000009000200,
  0x060000000500000107_000400000107060300_000700030000090000_000001050000000609_050607010003000204_090000040608000001_030000060001070900_020000000009000506_070900000405000803,
  0x000000000400000000_000000000000030006_000000050001020700_040009000003000008_000200000000050400_030000000800010600_090408010200000300_020307040000000001_050000090300000800,
  0x020000010007000508_000000000800040900_050001000000070000_000005000000020406_000200000400000000_000008000000000000_000000060003000009_030000080900000100_060002040001000300,
  0x000109000600080004_000004000903050600_000000080400090003_000005000208000000_080600090700020300_000000060001000700_000500020007000409_040900050006000002_060200000309000500,
  0x050001000007000006_000002000600000000_060000000000000000_000009040000000100_000000000009000300_000800000500000904_010000080005000600_000000030002000801_000300000001020709,
  0x000008060004050009_000000010000040700_060400020005000108_070000080002000000_020000030000000001_000100000500000607_000500000000000000_000000000301070502_000702000000000800,
  0x000706000802010000_050002060904080000_000804070003000602_020607040000030100_040003010200000500_080001030700020406_000000000300000005_010405020607000800_000300090005060201,
  0x000002050100000604_000004000206050000_000000070004000109_000000060003000400_060000000000010703_000000010800060200_000400000609000002_030205000401070000_080600000700000001,
  0x010603070000020000_000000020006070000_020000000801060903_070000000000000004_050000000708000100_000200000500080700_000901050000000000_060007080400000205_040002000007000806,
  0x070003080004000000_000805000000000400_000000000900060007_000902060007000500_000400000000020700_030006000000080000_000000020500000600_000500030709000000_080009000000000305,
  0x000006000903010000_000000000501000900_000000080000000002_000903000200040700_060000000007030100_000000000000090000_030000000008000000_020100000000000400_000000070000080600,
  0x010000000005040002_070000000406000000_000603000900000000_000500040200000000_000906070001000000_000000000009000705_090004000007000503_000002050003000100_000000000004000200,
  0x000603050000000100_000700090000040000_000100020006030000_000009010800000000_050000000002080700_000308000500000009_000900080605000403_000000000200000001_000000040003070000,
  0x000400020300060800_000002060800000900_000000000000040000_070103080406020509_000000070000080603_000800030200070004_000207010503090400_090001000602000008_000006000700000005]
theorem mixed_7_ok : mixed_7.all fastOK = true := chunkOK_sound _ (by decide +kernel)

end Gen.SudokuDB
