/- GENERATED by harness/translators.py (gen_sudoku_db) from /repo/jumanji/environments/logic/sudoku/data/*.npy — do not edit.
   One `Nat` per board (layout: Env/Sudoku/DBCheck.lean); every chunk is run through the checker by the kernel. -/
import JumanjiModel.Env.Sudoku.DBLemmas
namespace Gen.SudokuDB
open Sudoku.DB

/-- `mixed` (10000_mixed_puzzles.npy), boards 4000..4249 -/
def mixed_16 : List Nat := [
  0x090200000001000000_060003040005090100_000000060009000008_070608000002000004_030000080400010006_000001000006000700_080006000004000203_000700020500060009_020000070000050000,
  0x010903000006000800_000605000200030700_020007000503000000_060009000004010008_000100060000000504_000400000000090000_000006030109020007_000200080007060000_000300000605000100,
  0x000000040000090000_000400010600000708_020700090300000400_040200050000000900_000007060000000500_080000000000040007_000300000500000104_070502000100060000_000004000209000805,
  0x000007000604010200_000602090007030500_050000000003000000_000301040902070000_090000000000000406_000704000000000100_000500000109080000_070200080006050000_000000000005000709,
  0x040000010002080306_000008090005070001_070100080306000900_080506020000030000_000004030908000000_000009000000000400_050000040200090007_000007000800020000_000601000009040000,
  0x000201080000050000_080500000309000006_000900000501000700_000300000000000000_060008000002040003_050000000003000901_090000030200000008_000000050100000600_000704000000030200,
  0x060007000000000005_080002090504060003_000304000806090000_090400080605000007_000008040907000506_000000030200040009_020003000009000104_040009000100000600_000700050008000002,
  0x000000010203000905_000000040000000700_000200000005030400_030009020507000600_000002030000000000_080500090006000003_060000050002090004_020000080000010006_050408060000020007,
  0x070500000200000000_090003060100000800_080100000000000000_010600000003080004_000005000604030900_030009010800000000_000000080000000709_000000000307000405_050702000000000308,
  0x000000040805000000_080500000000030004_040000010003000000_000000030000020000_000401000009000600_000003000000050000_060007000001040802_010800000204060309_020000000908010000,
  0x000000060000070201_070000090000040805_020100050407090006_000500000003020008_030000040000000000_000001080900000600_000300070800060002_080700000600010900_000900000000080000,
  0x010900030000070002_000800000507000000_000000000002000008_030002080706010005_000507000009000004_090008000003000600_040300070000000200_080000000300000706_070000000000030001,
  0x090205000004000001_070800020003000004_000004000500000000_000009000300040800_080302040009000100_010406050002030709_000007030006010508_000008000000000003_000003080007090200,
  0x000007020304060809_080000000009040705_090004080005020301_000800000400090100_040000000000080000_060902050000030400_030009040106050008_020408090000010003_000506030008000004,
  0x000000000602070005_010002090005080000_000005080000000001_030407000000000000_000000060000000704_000006040807000003_040000000108020007_060000020000000000_000200070500000109,
  0x090004000000010000_060005040108090002_000300000000000000_000603080400000009_000400090601080003_010908030500060004_030100000205000600_000002000804000001_000806010309070005,
  0x080000000000090205_000200090005080006_000506020000010700_050109030002000407_070000010500020900_020600070900050000_000005060203070809_000002000000030501_030807050009000002,
  0x030000010000020000_060801050900000003_040005000000000908_000004000200030000_070100000406000009_000000070109060800_000009000008000000_000006000507000002_080000020000000000,
  0x000003050700000200_090000000400000000_060708010009030400_000500070904060100_040000000000050900_080009060005000702_000000000001000300_020306090000000804_070900040000020506,
  0x090206050800010400_000807000100090502_050000000002000600_080001000000050006_000005000609020801_060000000000000709_000000000000070000_000500060708030004_070408020000060100,
  0x000009000100000002_000000060004070000_050700000003060000_070201000800050903_000008000702010000_030006000000000000_000000000000000000_000000000000080006_020005000008030701,
  0x020000050400000100_060000000800000002_000108000000000006_000000000000000000_030904000200080007_000000000000000901_000000070300000009_050800020000000000_040000000000000003,
  0x080000000000050900_000000050000000007_070005080000000400_010700000800040209_060008020100000000_000000070003000800_020001040007090000_030800000206000004_000604000000070002,
  0x000000000005070000_000900000001050302_000705000604090008_000000000802000000_080601070000000509_070009000006000003_000000000300040005_000406000207000800_000300000100000200,
  0x060302070900000008_000900020003070006_000007040600090002_000000000001000200_000000000000000000_000000050309000804_020700010000000009_010804000500000003_090506030402000000,
  0x000900040000000000_070300060001000002_080501000300000406_050100000200040007_000403000905000001_000706080104020003_010800090600030000_000000000700000008_000600000400050000,
  0x020309000000000000_010008000000000904_000004000000000100_000800030000090000_030001000000000800_000000000705060000_000205000009000407_040000000600030200_000000070000010000,
  0x000700000200000000_000000000807000403_030406000005000002_000007050301000009_000005000002070000_000300000704000100_020004000000030000_000900000408000507_070500000100060800,
  0x060000030000000201_030008060702000905_000002010500000806_000006000900000402_000200000000090300_000004080200010007_020600090005080000_010809040007020000_000403000000000700,
  0x010805000607000302_000700020100050406_000206050900070800_060000000000000500_080307010004000000_000504000006000703_000000000000060005_000900060002000007_070601090000040200,
  0x000300040902010005_000800000106000000_000000000008000700_000000000000070000_000100050007080200_050000080309040001_000604090700050100_000701000600030408_030002010000060000,
  0x060400000000010500_000000000100020900_000900000005040000_030000010500000000_000000000000000203_080000000702000105_000800040000000001_010300050900080400_000005000800030609,
  0x000406000800090200_000809020705000300_050200090006080000_000900070000000003_020700080603000500_060000050900070000_000507010200000008_030000060007000904_000600000308000007,
  0x090200070000000000_000000020406000800_060504030008010702_000000000204000603_000300010000040500_000806050000000000_000002000805030007_080400000700000106_000009000000080000,
  0x080000050400070302_050007090803010406_040100070200000005_000701080604020500_060002000709000801_030800010002090007_010006000000000700_020305040907000008_070400060005030209,
  0x090000000508070100_060000070200000000_040705010603000900_000000080000060402_000007050300010000_000001060902030500_000000000000000000_070000020005080600_000802090406000001,
  0x060000000009080000_000000000002090700_050900000004010200_090000020000040000_020800090005030607_000006010308000000_000400000000000003_010009000000000008_000002040000060009,
  0x050000000009000000_000900010000000000_000204000005000803_060400000900020000_020000030000040908_090100050204070300_000302000000000401_040000070003000500_080501020400000009,
  0x080000000306020704_020600000007090100_070405090001080006_010507000004030008_060209080003050407_000804070605010002_040702010509060003_050100030400070000_090308060702040501,
  0x000000030006000000_000000070800000009_000300050904000708_020004010700000005_080107000400000203_000006080200000100_050001000300020007_090000020000000006_000203000600000500,
  0x000000030006000200_080005020000030900_000203000905080006_000006080004090500_010309050602040800_000408000003010602_000807000500020104_060900040301050000_040501070000000309,
  0x080009040001030700_000200000600050800_000004000008010000_000005000006070103_000100000700000506_000007050100040200_090500000000000407_000006070000080305_000803000400000001,
  0x090600030500000000_000200090007030506_000000000206000900_020006040900070300_000305000701040000_000000000000000000_070000080000000602_000804000002000003_000002070600000004,
  0x010400000000080000_000000030001000004_090700000604000000_050600000000000309_000801000900040700_000000000105000008_070102000009000000_030000040006000900_060004000307050000,
  0x040000000000070301_070306000800020509_010000000009000408_000000090400050000_000003000000010607_000007010306000204_080005000004030100_060000070100080900_000000020508000000,
  0x000700020600030500_050000030000070201_000002050100000906_000503080004000000_000004000700000005_000009000300000108_000000000000000003_040300000802000700_000600070500000002,
  0x000006000100000809_080400030000050701_050009020800000000_000000000400070008_040000000000010903_070900050300000000_010204070000060305_060807010000090402_090003060204080000,
  0x000000000000090000_080000000900000300_090002080400060700_070004000001000000_000000000000010002_010008020600050000_000000010708030506_000807050004000100_000501000000000800,
  0x000200000300000405_060407090508020301_050300060402000809_040900000805000706_000100020000000900_000006010904050203_010009080200040500_080004050000000600_020500040706090008,
  0x030009000006000200_020508000304000007_060400020908050103_000304000000020700_090002000105030806_080600070200040900_040203000801070509_050001000400060002_000000000500010408,
  0x020700050001080009_050801070900000403_090000000002010507_070905080200030006_000008060000070000_000600090005000008_030009010007000002_000102030000050704_060007020400090000,
  0x000206000005030901_050900000000070206_000007060002050408_030000070000020000_000605000401080000_000000020000000603_000704090000010000_090002000800060304_000500010200090807,
  0x000600000900020003_000300000604000809_070509000300000106_050000000006030004_010006030009000705_090403000700010602_060005040002000000_000900060107000200_080102090503000407,
  0x040000080702060900_000002050000010004_000009000406000203_000901000500080307_000507000300040601_030406070008020500_000604090005000708_000200030000090006_000308040600000002,
  0x000000000509080000_020500000400030000_070000000600000400_000000060000010509_090700000000020800_060805000002000000_000607040203000005_000000000000000004_040103070000060000,
  0x050000030806090004_000608000002000700_000004090000000600_010005000200040800_000800050004000000_000400000000000006_060107000000020900_000502000000000000_080903020600000000,
  0x060205000300010809_000000020800060705_000108000005020000_000700010000000908_000906050207040100_010000000000000000_020809040706000501_030000080000090000_000007000109000206,
  0x050001070000000600_000006050800090700_070009060000080200_000602010000000000_080000000000010006_090004030000000800_000908000000020003_000200000100000500_010705090200060400,
  0x060000070000000305_090000010000000008_000300000000010002_000005060400000000_000003000000000806_000008000100020009_030000080600090000_050006000200080107_000000000704000003,
  0x000000000006030009_070905080103020006_020000000400010800_000007010600000008_000800030900000100_090001000008000003_080000070300000604_000009000804000002_000003000200000000,
  0x000005070000000600_080000000006000000_060301080000000000_000007000002010300_000003000000000000_020006000104050008_000008000600020007_070000040200060001_040002000708030905,
  0x000000020008060000_000305000401070000_000000030000000001_000700000002000000_000208050000090000_050600000307000000_010000000000000009_000006000000040008_000500040609020100,
  0x000300000700000000_070906000504000300_040000080003070000_000500020000090000_080702040009000005_010009070300000408_050001030900000007_060207000800040000_090000000007050200,
  0x060209000807000503_000704050903010600_000103020000070009_070001000005000004_030602040009000105_040000060002030907_000800030500000000_020300090408050001_000400070006090308,
  0x000400000003000900_000609000700000200_080003000006050000_090000000005040000_000500000408000102_000002000107060008_020000040009000600_050004000302070009_000006000000000000,
  0x000107050000000200_020400000100000300_050308000000000001_000800030200060400_070904080000030000_030600000000010807_000006000800040003_080700000309000000_040503020706000008,
  0x000000000000030900_080000070903020006_040000080000000701_090000000000000600_000800000000070200_000102000700080009_000400010309000000_000003000000000000_000000060007000503,
  0x000000000009050207_000000050000030401_000405020000000009_000004000603000000_000102000408000000_090300070002000006_000001000005000004_000900000007000000_000600000004000300,
  0x000307000100000002_080602000705040100_010000000004000800_000000000009000300_000005000300000201_030001000002050000_000004020600030008_000100050800020000_020803040900000005,
  0x000005000600090003_000003010009000502_060209000005040701_040000030000000005_000900000500000000_000500000801070309_070300090000000000_000004000000000000_090008050000030207,
  0x000800010000050200_020701040000000900_050609000802040107_090002000000080700_060000000008000401_000100000000090605_000000060203000809_030206080109070000_000908070405000300,
  0x090003000500000100_000000000000090007_070802090103000005_010006020000050903_020300000000070604_000907030000000000_030700060005000200_080500000209030000_000001000007080500,
  0x000000090400000002_010702000000050900_040800000702000300_070000000000000003_000504000007090201_000201000809000000_090000030008040600_000600000000020100_020000010000000700,
  0x070304000000000500_000005070208060304_000608050304000000_000000060900070000_000407000800000001_000000000001000000_050806020400000100_000000000003050002_030201000009040006,
  0x000000050006070308_000000020000000000_000000000407000000_000007000904050000_000000070300080400_080000000000010703_040500010008030000_010002000700040000_070008040009000100,
  0x000009000601020000_000300070009040600_000607040005030109_030708000000000000_060201000500000300_040005000000080002_090503000000070000_070000000000000403_000000050700000001,
  0x000009040800000007_040002000700000609_050000000000000400_090608000100050203_030001020000000000_000005000000000001_000004000506070002_000300090401060000_010000000207090300,
  0x080201060309050407_000507000800000000_000900040700080000_030000080902060700_000600000500040100_050000010406000003_000000000008010004_000800000100000000_010405000207090608,
  0x090100020600040307_080007030501000000_000006000407000108_020700000005060000_010000000006030002_060008000002000500_000800000000000905_000002000709080003_000000000804020001,
  0x040800000005020700_000907000004000000_000305000006000008_070003000908000206_090000000100000000_000000000500090004_030400000001070000_050002000407000000_000700020009000500,
  0x070000000000000002_000201000607050403_030406000502080701_080007000200030004_000502000309060000_060000040708020005_000700050000010308_000008070000000009_010900020000070506,
  0x000004030009000600_000000000000000000_090000070000040300_050000000300000802_040006000705000003_080103020000000004_010900060007000000_000000090800050000_000600040000010900,
  0x000104000200000608_000806050000000000_030200000000010009_070000000400020100_000000000509000000_010500020008000004_080000000005000402_020709000004000000_000605000900080000,
  0x020004000000000900_050107090000040000_080600000002050000_000006000100030000_000000080007090000_000201060500000000_000500000000010800_060000000000000000_010000000300020009,
  0x030000000100000604_000000000000090501_000600000400000002_090703080001060400_000206000503000709_000000070600000008_000900030800050106_000002050006040007_060508010004020000,
  0x000300040500000200_000009000601050004_010004090000060708_050000000004030006_090402010300070805_000000070000000009_020005030008000900_030008000109000502_000000050000080000,
  0x070001000000040005_040300010000000709_000000040000030006_080009020004050000_000000060000000902_060203000009010408_090400000203000501_000006000000090000_010502000700000000,
  0x020700000001050000_000005030000060701_000006000700000800_000000000004000000_070109050000000208_000004000000010000_000500000400000300_000300000008000100_000800000002070600,
  0x070000000600000000_090206000000000000_000504020107000600_000007000209030004_000000030000000800_020003000000060100_000800040701020006_040002000305080001_060001080002050000,
  0x060400000907000800_000000020000090001_010900000306000002_000300000009000000_000004000000000007_000200030408000000_000100000000000700_000700090000000004_040000000600080000,
  0x000000060500000700_070305080109000004_000000070003010500_040000050007000000_090003000006050100_000000090001030007_030607000005000800_000000000600070300_000100000702000906,
  0x000200010307040506_070005080000030000_000304000205010700_080401020000070603_000900000003000000_020603000801000900_010702000900060300_000500000000080002_000006050102090400,
  0x000507020800000006_000003000005000008_060408010300020005_080005000106070900_070000090208000500_030000050007000002_000006080900050000_090802000003000007_050300000702000400,
  0x090000030604020100_080006000901000700_030001080702060905_020009070008000304_010807000003050000_050000000006070809_000000040305090006_040902000807000501_060503010000000407,
  0x020000010000000000_050901030000060402_070306050002090008_040005020803000000_000100060000030000_030600040000080207_090008070100050600_000003080206040709_060007000005000001,
  0x000007000000020009_010000070000060408_000000000000000003_000500060000090207_060700000409000000_030002080000010604_000305000004000002_020000000703000000_000004000802000006,
  0x000302000805000007_000001000400000008_070008000002010300_010703000500060009_000205060000080100_000000000009000500_030100050000040706_000006000901030802_000007000306000901,
  0x090201000006070000_000504000008020906_000007090500000003_070002000009030805_000905000300010004_010003040205060000_000106070000000400_020009000600000000_000000000000000600,
  0x000400020600000908_000000000004010305_000009070003000200_000200050406000100_080600000000000004_000000080709060500_000000000005030000_000008040000000609_030000000908020000,
  0x060400000000080001_000000000300000009_000001000809000400_070004000000030908_080900000006070105_010000090008020604_040700000102090803_000308070000010502_000105080903040006,
  0x000000090000000300_070906000000050800_000302000800010609_050100000000080900_000400000008000000_000207000900000400_090500070300000000_000001020004090508_000604000509000700,
  0x000007000008020900_000001020500060000_000000060009050000_000500070006000009_030000000801040500_060009040300080002_090000000007030801_000806030000090005_010000000002070600,
  0x050307000602010004_010208000407050906_060000000008000302_070000000000000000_020500000904080000_040003000100020000_030600020000000000_000700000000030601_080405000300090000,
  0x040003050802000701_000006000003000002_050000000009000800_090304000600000108_010000080000000009_000800030900070000_000001000000040000_000009040005000000_030400000200000900,
  0x000806010300000900_050000000000000000_000009000008000300_030002000405060701_000000000000030200_070600030200000009_090004000102080007_000000000000040003_000100000700000000,
  0x080100030906040000_000000000000090300_030009000004000601_000000000000000000_070003000500060004_000908070002000105_000500000703000000_090007060401080000_010806090200000400,
  0x000008000000010000_060001070005080000_000000080106000003_010005060704000009_000000000001040000_000000050000000006_040009000000050000_000500000008000204_000100000000000700,
  0x020009060700080103_000708000003000504_050001080004000600_000000000000060000_000804010006000200_000006090300000000_010000000009000000_080000000001000006_040005000608030000,
  0x000000000800030000_000000050001000004_070000000903000000_000304090500070800_020908060100000300_000607000000020109_000000000000000507_000700030009010000_060002000400000000,
  0x000309080007000100_000407000106030900_000600000003000000_000000000000000000_060000000000000004_000700000908000000_000200000000000603_030900050002000400_050006030700020800,
  0x040001000900020005_000803000502040000_000009040001000007_050004000008000200_000300000400080001_000600000200000004_000000000009000408_090000000804030006_000007000100090002,
  0x060501000008040000_000003050100000800_000000000000000000_000406080902000301_030800000407000005_000100000000080000_000009000000000100_080200000000090000_000000000809030002,
  0x000004000001030000_010000080402000005_000000050003040000_030000000006080001_090800000000020600_000205010807090003_040700020008000000_080000070005000004_050000000300060000,
  0x070902060800000000_060000000007000904_000000010300000700_000600030705090000_030200080001000007_010507090002040000_020001000006070005_050800070103000000_090706050008030401,
  0x000000010600050208_000806020000000703_020300000907000104_080003000500010907_000500000009000006_000000070000040000_000007090304080600_030008060000070509_000602050000000401,
  0x060700030000050109_030001000009000000_000000010407030008_000006020100000500_080107040000000003_050002000700000901_000000000600000000_020000000000000806_010003050800090704,
  0x030000080002040000_000007000309000000_080002060700000100_000004000006070500_050003090007010006_070800040000090000_010009070400050302_000000050901000700_000705020003080901,
  0x000300090100080200_020800030000070009_000000000800030100_010000000000000000_050000060000000001_000700010008050302_000000020000060703_030900070000000000_000002080005000000,
  0x070805020900040600_040000000500000000_010002000000030000_000000090001020700_090003060000000004_050100080002090300_000901070000050003_000508030200000000_030704050000000208,
  0x000001000903000000_030000050800000000_000007060001000008_040603000507080200_090802000100060705_010705000000090403_000009000000030007_060300000700000504_000004080000010900,
  0x000000000700030602_000500030208000007_000007000000010000_000000000001070006_070203090006000500_000601000500020000_060400000002000003_000005070003000004_030000000000050109,
  0x090800000300050000_000300050000080907_000600000009040001_000105070002060400_000000000600070100_000900000004020508_000000020001030000_080001000000090706_040003000000010205,
  0x000300080704060000_000800000009070402_000400020605010308_000000060008000900_000903000200040800_040000090007020000_030002040800000105_080000010902000700_000104000003080006,
  0x030001000205000000_000000000300080000_020000000007000304_000804000600000003_050000000000020007_000000000000000800_000709000501000400_040005000803060002_080002000706050900,
  0x050000000000010000_030200050704000609_080907030001000200_020700000006040001_060004000100020003_000800000502090700_000100000809000000_090302070405060100_040600000003070000,
  0x020007000100000900_040000000000060207_050008000000010304_000000010300000409_000000000600000001_000701000004080600_000800060003090005_000003000200000706_010406050900020803,
  0x010005000008090000_000602070000030508_080704030509010602_020108050000000000_000900010800000006_000506000003020800_030400000005000000_060009000300000105_000000000900000304,
  0x000205000400000003_010000000000040006_000000060900000008_000007010806000004_000401030709060805_000008040205010000_070000000008000000_000100070000000009_000504000002070601,
  0x000000000000000800_070900000005000100_040802010300000900_000000000908000000_000700000100000504_020301000004000000_000200000400030600_030407080006010009_010000020703080000,
  0x010000000005090200_050604000000000700_070900060000000000_000007010000000009_020100080000030005_000308000000000102_000000020000000003_090006000800000000_000000090500020807,
  0x090003000000000400_000000030009050002_050002000000070009_030100090000060008_040006000000010000_000805000006000904_010000020000000003_000000010000000000_000309000405020106,
  0x030408000501060009_000000000200000001_060102090004070003_000304000700090000_000005060003000800_000006040900000305_040001020300000700_000003010400020006_080200000607000000,
  0x000300000009060100_040800000000000000_000001000000000007_030400020000000608_070000060900000300_060000000003000209_000900050000000000_000500000200000706_020000010000050900,
  0x020800000500000407_090405000000000000_030000020000050006_000000000005000608_000008000300020501_000201070800000000_000500000900060000_000900080602030700_080002050000000104,
  0x040902000300080000_030105000000000006_070006040100090000_000009020800000000_000200000400000009_010000000007000000_000003080700010605_000508010000070000_000001050600030008,
  0x060400080000020003_000003020001000009_070009000400000600_000006000004000000_000700060500090100_000000070000000300_040008000000060000_000300000000040001_000005040802000900,
  0x060000080402010000_030000000000000200_000200000007000000_000806000003040000_070000060800030009_050000000709080006_010609070200000403_000000030006000000_080703000900000000,
  0x070500000000000900_040901070200000308_000203000800000500_000009020406000103_030102080007000009_050406000103000700_020607000004000805_090004050700000200_010005060300090400,
  0x050000080904030706_040803000000010209_090706000001000004_000007010406050000_000504090802070601_060102000005090008_020300060709000105_010609040003000807_000400020000060903,
  0x000000010206000003_000705090000000000_060001000000000000_050403000701000900_000000000002000305_070800000900060000_090300000004000206_040108020009000507_020000080000090104,
  0x070000020004060100_080001030000000002_020300000000090004_000003070908000000_050000060200000001_000008040005020307_000000000001030200_040100090302070600_030000000000010405,
  0x000600000708020103_000000000002000006_020007000100000409_070002050000000900_000006020000000005_000000010800000000_000905000204000000_000700030000000002_080001070006000004,
  0x000300000500090100_000107000600080004_000600010008000703_000500000700000001_000206000000000509_010000000200000600_020900000804000305_000408000001000000_000000000000000400,
  0x070901020400000600_000800060000000000_020000050709000800_000503090200000000_010009000600030000_000602000503070008_060105070002080304_000000030106000007_000007000005060109,
  0x010004000009000200_000600000000030001_070000060100000805_040005000000000000_090300000500010000_000000070900000002_050406000201000700_000000000000000106_000109030706000000,
  0x000204000806070000_060107020500000900_000003040907020000_000000080009000002_000906070000000803_080401000200060709_000700000008000100_000000000100000200_000600000000000504,
  0x000601000700000000_000000090200070106_000003010000020004_000004000000000903_010907050006080400_000002040000050700_000105000400000608_000009060500010000_000206000001000300,
  0x030004000108000700_080000000000000301_090601050700040200_070308010609020004_040100000000000009_020000000000010803_000009080400030102_000002000000060400_010400060207080000,
  0x090001020300000400_000402000008000109_060800000000000002_020609000000000301_000000000203090600_010300090604000005_000205000000000700_000004000501020000_070100080000000900,
  0x060100000708000305_030008010900060400_000000040006000001_010806000000050000_000007090500080006_090500000000040103_050000000100020900_000009060803000000_080001000009030600,
  0x000000000305000006_000701000002080003_000503090800070200_000009000708000400_000200000409050001_050400010206000000_020000080003000007_000000020004030600_030900060000020800,
  0x070201000000090600_050304000900000000_080009000702040000_000003090000020005_040000080207000906_090800000000010000_000408000009000300_000000040103000000_000000020600050000,
  0x000000050906010004_000500000800000000_090804000001050000_000000000000080502_000103000008000900_080000000509000003_010000000600030400_030000090700020001_020005040003090008,
  0x000000030400000900_080000000507000000_000002000000000100_000109000006020300_000000070000000000_050000000200040601_000600000700000000_010000000308090000_000005000900060700,
  0x000002060509040008_000900000004000200_000400020007000500_070008000103000000_090600000205000000_020000040600070905_030806050700000400_050200000400000000_000107000900000806,
  0x090005030100000408_000000000006050900_000200000400060301_020004070003000006_000000080200000004_010000000004030000_050009000000040100_000002040000090600_000300010509080002,
  0x060905070000080104_000203000000070900_070108060004020005_000009020700040500_000607000405000001_050400030801060709_030701000609050002_000004000200000007_020806010507090403,
  0x020501040003080000_000000020009000301_090000080000050002_070206000004000000_080000090205060000_050009000007010200_000000070400000003_030002060900000105_000004000301000007,
  0x040206000000000003_000900020007010008_000700030000000602_060000070900080000_000007040300000009_020000000108030000_070600000203000901_000508090000000000_090002000700040806,
  0x000900000500000700_000802000007000009_030000000000000000_000200000905030007_000700060000040200_000000070000000000_060000020300070000_020105000704060308_000000050600000000,
  0x000000080000000000_070900040006000801_010002090000000700_000507030000000000_000008010000000000_000300000008070900_000700060400000109_080006000900000000_040000000000050003,
  0x000000040000030000_000003050901000700_000704080003000100_030000000000080000_000907060500000403_020008070000060000_000000010806000004_080100000009000006_000002000000000000,
  0x000004050600000008_050908000000000100_000106020008000000_090000000005000600_000000000002000800_080702040000030000_040201000000070503_030809000504000006_060507000000000400,
  0x000603040000070509_000500020003040600_000701000000080000_070405000000000002_000000000001000407_080006000000000300_010000000000000006_000907000300000000_000000000200050908,
  0x010006000002090408_000800060009070500_000000000800060201_070000000001000800_000900020000000700_050203080000000900_000100000208000007_000000000903020000_020407010600000009,
  0x010600000300050000_050400000207000800_020009010805040000_070506000002080104_000201040706090305_000004050108020000_000002000509000400_000805020603070001_030907080001060500,
  0x000805000601000304_070001000305000008_090000000002000600_080700010500000006_040006070000000500_010500060004030000_060000000007000905_000907000400060103_030000050900000702,
  0x000600000002000000_000009000000050600_070205000906080300_000000000300000700_000000000001090506_040006000508030000_050000000600000009_090704020100000805_000008000005000000,
  0x000501000300040700_060302090007000008_000000000500030009_080100000000000200_000009000601070000_050600020000000000_010006000000080000_000704000108020000_000000000004000300,
  0x080000000000000400_000207000800000000_000000000000080005_000100000000000002_000900000000000004_000400010906030008_000800030001000000_000009050400010000_020601000000000000,
  0x070003000409000000_000400000007000000_060209000001040000_020005060100030000_000006000000000001_010800090305000007_000502080700000300_080000000903070002_030000000000000800,
  0x090300080000040000_050408000000000102_060107040000090803_070506000800000001_000000050000000000_000204000000000007_000700000100000006_000600000400050000_040000000000010209,
  0x050007000300010400_090306000000000000_000801050006000300_020000010005000000_000008020700050003_060700000900000002_080000090400000700_000609000500000800_070004000000030500,
  0x040000000002080007_000008010000020004_020000000004010009_000002000400000001_000009000005000000_070004000301000900_000406020007000000_010900000006000008_000000000000090000,
  0x050400000600000200_010608000200000000_070000000000000300_080000060000010900_000309070008020500_020100040005000000_090005010000000000_000006020700000103_000001000800070009,
  0x040001000809050006_000005000600090004_020600000400000103_010906050703000008_050207040108000309_030804090200070501_070108020900000605_060403080007010902_090500000301040007,
  0x070000040000090000_010600030500000000_040300000801020005_060000000000000700_020005060000000908_000800000000040106_050700000006000203_000200000300010407_000003000200000000,
  0x000004000901000502_050200080400000001_000001000003040000_020000000000000000_030908000000000000_000000040006080903_000000000302070000_060000000004050300_040000070000000009,
  0x060000000000000400_090000000600000005_050000080007000200_000000000000050908_000000010900000007_070000040508010602_040007000002090000_000809000104000006_000000050000080004,
  0x040603010800000002_000005000600030400_000008030700010005_000300000008000000_060000000400000100_000000000103070806_000006000900000301_000500000306000000_030700080500060900,
  0x000004010609000200_020000050300000600_010000020004000000_000000060008020000_060801000000000003_000002040503000800_080100030000040000_000000000400000305_040300090000000100,
  0x000000070000030200_050000000000000708_000300080000090000_060700000005000000_000502010003060000_030001020609000007_070006050300000002_000003000007000400_090200000400070300,
  0x000000000009050700_010204070000000000_000709000000000400_060003020000010007_000000060007000208_020900010800040000_000001000206070000_000306000008000000_000002030701000006,
  0x030006070005010200_000700060308040000_040000000100000003_000004000809050100_000803000200000004_090100040000000002_000002080903070005_000000050700020300_070000020000000001,
  0x000007000006000000_020004000009000007_000000000000080204_000008000004050002_000502070000040800_040700050000090006_000006000300000000_000405010008000903_080000040200000000,
  0x010003060000000200_000005000003090801_070208000009000500_000006000000000000_000100050704000000_000000000106000000_000402030000000700_000000040007000009_060000020000080100,
  0x050000060207000000_000002040000000703_090000000300050200_060400000000000300_000100030700000906_020700000100000800_040006000800000502_000200000009030400_000000070002080000,
  0x030507090106040000_040002000308070001_010800000004000900_080000070005060100_000200000003090700_060009010400050003_000003060509080407_070000040800020309_000000000200010506,
  0x000900020604000001_000000050900020000_000007080300050006_000000000006040000_080000090500000007_060109000400000002_000000000105000000_000501000000090008_000000040000070100,
  0x000000070000000300_010009050000000008_000702000001000500_020800090703000001_060900000500000200_030100000406000800_000000000302070005_080503040107060900_070201060900000003,
  0x060000000002030507_000500090603010000_000103000407000200_040300000200070005_000700000309000001_090000000504080000_000200030705000800_030006000100000709_050800040006020103,
  0x060000000000000000_040002070000050108_050700040801000200_000005010000030007_000300000900080002_000009000003000600_000007050109020006_020801030604000700_090000020008010004,
  0x000000000003090601_000006080400050003_000000000600000007_050400000200000000_030700000100060000_000100000000000500_080005070000000409_000000000806020005_090000000000080000,
  0x090607000403000502_000300020000000000_080200010007000006_030009000000050007_000002000300090001_000000090001000203_010000040002000000_060000000000000000_020908030006000100,
  0x080009030002000406_020000000009000001_000001070000000802_010800000306000005_000000000900060100_000000000001000000_000408000200050000_000006000800020000_000900060004000308,
  0x000200010400000000_000400000007000000_000700030900000408_000604080000000301_000000090000070006_000002000001000000_020009070000000005_040806000109000000_050000040600010809,
  0x080100000203060900_040200000000000000_000603000900000000_000000030009000806_070006000000000109_090800000602000004_000000060005030000_030005090700000000_060000000300000001,
  0x070104000300000006_050800000107000400_030000000400080701_080000090205000300_020009000603010804_060003040800050000_000000000500000002_040207000000000000_090605030000040100,
  0x000001060002000700_030906000100000200_000807000000040100_000000000000030504_000300070009000001_000604080005020007_000000000601000300_000200050000000008_060000000900000002,
  0x030600000000050201_000201000305000000_050809000000000600_000700000509010000_080905020001070000_000300000006000000_000000000600000904_000400080700000000_000506000000000000,
  0x080000000500000006_090000000002000400_050000000906000000_070000040609010302_020600000001080900_010300080007000504_000502000703040001_000900000408000700_000008000105000609,
  0x080900020000060100_000700000806000000_040200010003050000_000408060102000507_000502000309040001_000000000000000003_000605030000000000_000004070200000000_020000000608000000,
  0x090000080004000000_000800000000000300_000504000306000008_000600000005000000_050000000800000109_030201060007000400_000002090600000001_060000050201040900_000000000000030000,
  0x090001000500000402_000003070001060005_050000000400000301_060000000007000000_020100050304000000_070000000000020504_030200000000000000_010900040003050206_000805060702000000,
  0x080000000600090200_020500030007000000_000000000400000003_030000090006020000_000009000000060004_000006000008000100_000000010805070000_000005060709000300_000600000304000000,
  0x000900000000020004_000001000200080000_060000000800000001_000009010008070502_000000030002000406_000500060900000008_000203040100000000_090106080005000200_070008000306000905,
  0x060000000002000900_020901000500040000_070004000000060802_040007000600030100_000600000100020507_000205000009000000_080002000000000006_050100090004070300_030009000800010000,
  0x020803000701000000_060507000000000000_000900000000000600_030002080000000400_050004090002000801_000600040007030005_000000010004000702_070408050003000900_000205070900080004,
  0x000900000000000000_000600020008000104_000000050600080000_000007090000030200_080000000000000700_000200000800000500_000002010503060400_030100000709020005_090504080200010300,
  0x000608090005000100_000009060000000400_000000000200090000_000706080000000201_000900030106040000_000100020000000900_010805070000000000_090000010008000700_000007050000000802,
  0x000000090001000400_000004000000000005_050300040800070000_000000050000000307_030607000000010000_010400070006000009_000500010003000002_000000080000000700_020000000000000803,
  0x000407050000000006_090305070006080201_000000000200070004_000000000800000703_030508040000060000_000100000000020008_000000000000000305_000000000500010000_000604010300000800,
  0x060000000000000000_000005000009000000_000000050000020006_090600000500000304_000402000000000800_000007000000000000_040100000000000009_000200000901000005_050309000002040000,
  0x000205000009080407_060400050807010203_000807020304000506_000000030000070100_080701090405030602_000000000000000005_000008000906020700_000000000000060908_000600000700050001,
  0x040003000500020000_000000000009000500_010009000206000700_080002000000000100_050904080103060200_000100050902080403_000705010408090302_000200090000040800_000008020305070001,
  0x010700020008030904_030004000005080602_000000040009000007_080000000200040000_000000000500090000_020300000004000800_070406000800000103_090003000400020700_000200030701060000,
  0x060200080000000003_040000000100000605_010500060300070200_000000020000050009_090002000006000800_000005090800000106_020608000907000500_030700040000000902_050000000000000307,
  0x050100000004000608_070400010008000000_080000060000000100_030002000000070500_000700040000000000_000000070600000000_010500000000080002_020300000107000000_000004020800010705,
  0x080605000007000200_090000050000040000_000000020000000008_040509010000000800_070000060004000903_030806000000010400_000004080601000000_000000000700020304_000007000000000601,
  0x000006000000000000_000900000002010300_000501030000070004_050000040800000907_000000000000000000_000000090007050001_060807050304000102_090005000008000000_010300000900080700,
  0x000200060100000000_000500000007000000_000000050002080400_000402000800090000_050000000000000008_010003000005000004_080000040209050007_020004000008010309_000000000001000000,
  0x060700000201030008_030200090408060007_000800000300000209_090003000002080504_000507030806000900_080000040500070306_000000080000020000_020008010703040600_070000000600000003,
  0x000700020004000306_060000000703040105_000300000000090702_000800000001070000_000500030207010408_070003060000050000_080000000300000004_000405070002000901_000009000005000007,
  0x060009000000000100_040102090003000607_000000000600000200_070006000000010803_000801070006000000_030000020801000000_000000000705020300_020300000100000508_000008030000060700,
  0x000000010300000008_000000060805070402_000002000000030001_000004090003000205_060700000004000300_000009050600040007_030500000200010800_090401000006000003_070000000401050000,
  0x000000030009020008_030609050802040107_000805000701000900_000907010400000802_000300090200050400_010204080506070300_000002060004080000_000003000905010600_040100070008000200,
  0x050400010607000800_080000000900040005_090003000005020000_000004000100000306_000501000709000000_000000000200000000_000700000504000003_010006070300050400_000305000801070002,
  0x000005000209000400_000900000304000800_040000000005090302_000806040007000000_000000010003080000_050003090800070004_000009000008000105_000500000906000003_000600000400000000,
  0x000002000600000004_000000000000000700_000009040100000000_040200000503070600_070006020801000000_000500000400090201_000000010004030009_030800060000020000_000000080000040500,
  0x050009020801000603_020304000907000800_010608040500000900_090006070100030004_000005000608090100_030000050009060200_000002000000050306_000000090000080400_000401000000020000,
  0x070400000302000600_000000060000000000_020008000405000000_000701030200000400_000002000807030106_000306000000000000_000900020504000007_000007000000000001_000804000000000205,
  0x030100000005080200_000002000800060900_000608070000030001_090506080003020004_010000000000050008_000203000100090000_000001060000000000_000007000508010000_060300010409000800,
  0x050000000000040601_070000000401090200_000400000008000700_000000070003020109_000009000002000007_020700090100000500_000000000705000006_000000000200070300_010900000006000000,
  0x000006080000000300_000200000109060408_080000000000020000_070400050800030200_000000000004050000_000002000903000004_010000000000090000_000000090000080600_020000010600000503,
  0x030000090000080500_090000060800020004_080500000300000000_020003070008050409_000000000003070102_000005020900030000_060002000500000700_000001000000060203_000000040200000005,
  0x060200000400050007_040003000900000006_000900010007040003_000607040500000301_020009070100080004_010004000000000609_030000000708060102_070000000300000400_090006050004000008,
  0x090307080000020605_000500000300000708_000000020005090004_000000000802000006_070000000000000200_020805040001070903_080900050003060007_060203000007050800_050700060908030102,
  0x000605080900070004_010003000600090508_080000000503060201_000007000008020600_040000000009000000_000009000007000803_090002000700000400_070400030802000905_000301000000000700,
  0x000007060008000405_000908000300000700_000006000009000000_000005000800070000_000000000007000008_000000040603050100_000400000000020500_060000080000000000_020701000504060800,
  0x000000000008000206_000508070200000900_000004000900050708_080000020000060501_000600000000020000_000002040000080009_030200000400090800_040000000300000100_050700090802030604,
  0x020807000300060009_050000000007010200_000009000208030005_040208030009050100_000000000004020806_000600000502090304_010506070800040000_000000000106000503_030002090000080000,
  0x020703000000000000_050000080700000100_000000050003000000_000500060000020400_040000010800090000_090600000000000508_080005000001040907_000104020007080000_060000000000000000,
  0x000000080105000006_000107000004000200_000000000200090100_000900020000000000_050700000401000900_030000000000010007_020301040507000800_000000060000020000_000600010900000500,
  0x010600000000030009_000407000000010000_000000070000020000_020006090005080000_000900000001000200_050104000003000007_000000010000070300_000500000800040000_000700020000060000,
  0x050006090002000000_000904000003060000_010000060400090800_040100000307000000_000205040009000000_060009050000040000_070502030000080000_090001000500000000_000603000204000500,
  0x070002000008010003_000001000204000000_090400050001000800_000600000009050002_000000000000000301_020007000400090008_060000040803070109_030000000506000200_010800000002030506,
  0x000005010008060009_000700000000050000_000009050302080000_010000000000000800_070900030005040001_000800090000000700_040003000500000000_000208000103000500_000007000009000204,
  0x000800070104000900_090203000506000004_070104020903060805_010500090002040600_040000060000000701_060308000001000009_030005000208090006_000600030400050207_000000050600010308,
  0x000004000000000302_000500000000000001_000001080604070000_000000090805000003_040805000000000007_090000040700000800_000000000006020100_050702010308000000_010006000509030700,
  0x000306000001020000_000009070400000000_000000000003000008_000005000000070200_000904000300000001_030000060100000000_090000000008000102_010000000004080600_050408010206030007]
theorem mixed_16_ok : mixed_16.all fastOK = true := chunkOK_sound _ (by decide +kernel)

/-- `mixed` (10000_mixed_puzzles.npy), boards 4250..4499 -/
def mixed_17 : List Nat := [
  0x080005000900070003_040009030700000002_000207000004060000_000500040000000300_090000060002000100_000800000000000605_050308090000000006_070000050008000900_000006000000000200,
  0x080900000006070103_000100090003000004_040600010000000000_000000000305090000_030708000901000006_000009060700000400_000800000600010007_000001000004080000_000307080000040002,
  0x020308090504010706_000000010003080000_060500000207000003_000600000800000007_080702030006000004_030005040002000608_000000000300060809_000803060109020000_000006000400070001,
  0x000000000600040300_000004000001000000_010005000000000002_000000000700050000_000500090000070000_000607000500030200_000000040000000009_000000000205000000_050000000300080407,
  0x000000040100020000_000009000305000104_040005000802000000_090000000408000007_000300060507010000_070006010200030408_010900020000000005_060700000000040001_050002000001090306,
  0x000500000809000700_000800000700050006_020400060100030800_090100000603070400_000308000400090601_000006000000020005_000904080500000200_010000070006000004_000003090200000000,
  0x000000020800000007_000301070900060804_040008000306000000_000000000008090402_000004000107000005_030005000400000001_000809040203050000_000000050000070008_000002080001000900,
  0x000000010005060000_000501030904080200_000904000000000000_000000090000010004_000600000003070900_000709040800000006_000006000000000701_070000080006090005_090000070500000000,
  0x000000010009000200_000207060005000301_000000000000060000_000705000600000008_030000000008000400_080409070000000000_050601080000000000_000302000406000809_040908020701030006,
  0x070900000500030000_030000090000000000_020106070008000904_000000020903000001_000000010805090007_000001060000000503_000007030009010000_050003080102070000_010000000004060000,
  0x020000000308050107_050001040200090603_060007000500000000_000203000004000005_070000050906000001_000506030102080704_030000020005000408_040005080000000200_080702090403000500,
  0x000008040009000105_000402000100000009_050000060300040000_000000020500000003_060200080000000000_090500000700000006_000005070600000000_020800000000050700_040700000000030002,
  0x020100000000000300_060008000700010000_000000000000070000_000000000104000000_000704050000000008_080000000002040900_040001030205000007_000800000401020003_030200060800050000,
  0x000005000409000100_000007000302090504_000900080000000200_050003020000000007_070009000500010600_000000090007040000_000000000208000409_020500040001030000_090700050603000800,
  0x000001070400000600_000400000906000007_000300050000020900_090004030000060102_060700000000000000_000500080609040000_000009040008000006_000000000000080000_000000090005000000,
  0x050009000000010003_000300000000080907_000007020003000000_060000000005000300_000003000600000002_000908000000050001_000104000007020000_000002050100000000_030005000402000009,
  0x050103070000060402_060807020004090500_000900060500080701_000001000300050000_000600000000040009_000000040005020100_090000030702010604_010704080906030000_030206050000070000,
  0x050207010000090300_090000020000000507_000006000000000000_030600000008000002_070100030004080000_020400000009000105_060000040000050000_010000080005040700_000000000301000009,
  0x000000000000000007_000004010600000000_000000040000050801_070000000001000900_000001080902000500_020409000506010008_000600020000000105_000105000000000009_080000050009000006,
  0x000008070000000600_000000020001080000_010206080503000000_030900000005000007_020600000007000800_070805000300040900_000102000000050000_000700000004060000_040500000000000200,
  0x000200030700000001_000100040506000300_030600010002040500_050006070001090804_000401050900060700_090000060000000200_000000080004050000_000004090007000100_000900020005070408,
  0x000007050200000608_040900010000030000_000000000000050004_000300060107080002_000009000005060301_000008000900070405_000701000000040800_000506000401000703_080400000006010500,
  0x000500060008000002_000002090104050708_000100050300000000_000705040000000800_060000020005000409_040009000000000001_000903000000040106_080000000009000000_010000000400080905,
  0x000300090102000500_000607050403000000_010000000807030900_050100070004000000_000702000008090400_000000000500000601_000008030005000200_030500000200040009_000000040706050300,
  0x000000020800000405_000400010900080700_090805000000000000_040000000003020508_000000090100000604_080700000000000000_070608040309050200_000504080701000006_030109060000000800,
  0x000400000600010900_010602000400080007_000005000300000602_000000000700060000_060004020000090003_020700000900050000_050300000000000001_000200040106000500_040009000205000800,
  0x000003000904070100_000000060000000800_000900000000000005_000006000000000000_000300080205000004_000000000406000203_000609000000080007_050400000003000000_000000050609040000,
  0x010009060000000507_000000080105030209_020005000000060800_000008020600050000_050400000008010000_000600030500000000_000000000302000700_000907000806020104_080200010407000000,
  0x000008000102000004_070105080006020000_040200030509000000_080401000603090702_020703000900010600_050000020700080403_000900010804000006_060500090207000008_000002060300000007,
  0x090006010000020300_050000060000000000_000402000700090001_000000000000010702_000004020607000000_000800000009000406_000000090000040200_070008040005000000_000109000000080000,
  0x080106000500000400_030400080201000500_000209040607030108_040800000105020006_000001000809050000_000700000406080301_060008050000000200_010504000302090800_070300000000000605,
  0x000704080005000000_000000040100070503_000005070600000000_000201060000000700_000006000400050000_090007000000080206_070500000006040800_000609000800020300_000002000700000900,
  0x020003000609080107_000000070001030004_000007000400050609_040000060105000308_060300080000020401_080009000302000506_030001090200040005_070208010504060903_090504030700010002,
  0x000007000200080000_000004080000030100_010500000904000000_000100070003090800_000800000000010003_040309010805000200_060005000000020000_020400060007000008_000700000502000006,
  0x040005030000000007_060200000800010005_080300000705060402_000800000403000000_000000000500070008_070000000000040003_050001020608000700_000700090000050000_020600000307000901,
  0x000004090000000705_070000010200090000_000000000008010000_060000030700050800_090705060800000000_000103050900000200_000600000309000500_040900000000000000_050000000000000007,
  0x000305060902040708_000704000800000602_000000010700000309_060803000000090204_000102000406070803_040907030208000000_000009000600020000_080400020500030907_070201000309000000,
  0x000005000700000003_000004020309000000_070003040000020000_060000000000090001_000107080900000605_030002060001000700_000000000200000000_050000000108070402_000000050007000000,
  0x060500000300090004_010402000009060000_000307000000080005_070000020008030009_000200000700010608_000005000900000000_000900000001070802_000706000500040001_080000000007050000,
  0x010006050409000000_090000000008000000_000400030706000005_030008000000010000_060105000000020000_000000080003050900_000001090000000800_040009000802030501_000000070000000400,
  0x020400010608070300_000100000705000000_080000000403000001_000904050000000803_050801000304000000_030002000900040605_010300000806020504_000000000000030008_000000000000060900,
  0x030006000000000900_000705000000040600_020900010007000503_040000000500000106_080500000901020304_000000000004000008_000008000100030000_000602000403000807_000000000702060009,
  0x050100040000000000_000000090000040000_080600000000020907_000000000403060509_090000000800070004_000400000000000000_030900020500000401_000000000000000000_040000070000090600,
  0x060001050000070000_000000000800000401_000907000001030600_000602080509000700_000709000300000800_050003000000000000_000000030006000000_070500000100060300_000000000200000000,
  0x000000000200000700_020007000000090000_000306000007080004_090000070500000000_000700000009010006_030102040000050007_000503000000000009_000009010706000003_000001000000040000,
  0x060803000407020100_020509060108000004_010400090300080600_070004000000000000_050008070600010000_090301020000040000_030005000006090400_000900030001000007_000106040009000000,
  0x000200050700000000_080500060003090200_000000000200000008_000000010007000009_000000000900030000_000403000002000000_020005000006000000_000007020500010806_000104000809020005,
  0x040001000000000006_000008000100000900_060000000000030000_000005000600010007_000000000801060000_000000030704000000_000600000009070805_070100000000000003_000009060000020001,
  0x000906010000020000_080700090500000001_050000060803000007_000500000906000002_000008000007000000_000000040000060008_090000000000000004_040007000000000200_020805030000010706,
  0x000200000705030000_000009000000000006_070301090000040000_010500020000090000_000700000300010800_030000050000000607_000005000004000700_000407000501060900_090000070002000001,
  0x030000090008000400_060100000700000800_000500000300010900_000001000500000008_050302000009000000_090708020000030105_010006000007000000_000000080000000500_000000000900070000,
  0x000000050300000700_000300010000040005_070005020600010800_000701000506000000_080009000700050104_000003000901000000_000107000005000406_000800000003090000_000002060000000000,
  0x060809000307000100_050000000004000009_030400000006000000_080000040103000000_000205000009000304_000900020005070801_090300000002000500_000004060008020003_020500030001000400,
  0x000900000700000005_070001000000080000_000200010004060000_030504090200000000_000100000000050300_020000060305000001_080002000100000004_000600080409030200_090003070602010508,
  0x000900000807000000_050607090400000008_040008000000000000_000403000709010005_000506040100070203_000000000502060904_010005000904000600_070004000006000501_000300010005080000,
  0x000800000200050000_000600030500000107_000502000001080006_000000020004000001_040006000705090000_000908010003040005_000000000000010002_000300000002070000_000209050000000004,
  0x060008000403000007_000007090005000100_000200000100000000_000004000002000000_000600030000000800_090000050608000300_070500040000080209_000900000007000004_080000060000050700,
  0x070400000301000000_000000040006000000_020006000700010004_010500060000090000_030700090102000006_000000030800020000_000000000500070009_000000000203000800_080207010009000503,
  0x000407000501000200_090100000700050804_020000000000000900_000705000002000008_040602080000000500_000000000607000003_000000000000000300_000000070000010000_000208010000000009,
  0x000603090000000800_000009000000000002_000000000100000007_000008000400020900_030200000009000400_000006000000080700_090104050700060000_080302040000000509_060007000908000200,
  0x040700020000000803_000009040100000602_080102000000050004_020001060005000307_000900070004080200_000407000800000006_090000000600030000_070608090403000000_010000000000060009,
  0x000008000901020000_090600000800000701_020100060500090003_040000000005080000_000800000603050204_000200010400060307_000500080200070406_060900000007010000_080000050006000900,
  0x000000000005080600_000500000000000009_000006090300000100_010200000509000000_040000080000000200_000003010000000000_000701000000000003_000300000000000006_060900000008010000,
  0x000507000401000906_080603090207000000_040100060500000002_000802000004050100_090000020108060407_000400050306020800_030004010802090605_000008040009000300_000900030705040008,
  0x000300000009010008_080000060000020900_090207050001000600_000006000000030000_010003000604050002_050000080300000009_030600000200080000_040100030000070206_020708000006000005,
  0x000004090007050001_050300060001090000_010900000204070000_000000010008000004_060003000009000005_090001020500000008_000000000900000006_000500030706000209_030609080102000500,
  0x000000000403090002_070308000005000001_000200010600080003_000806000701000200_000705000200000800_000100060300070000_000000000006050309_000000030100060000_080000090500000000,
  0x030900020600000804_080000030100090600_000507040009010000_000000010003070008_070304090008020106_000108060700000000_000603050000000001_040000000000000902_000700080000000400,
  0x000008000006000400_000900000400000200_000003000000000000_040000050000000000_000200000601030907_030001070000000504_070002000309000000_000500000004000000_000000000000000100,
  0x020000000607010008_060501090300000407_040700000001090000_030402010709050806_090000050806030204_080605030002070000_010006070904080000_050800060003000002_000000000205060001,
  0x020000080000000006_030005060702000004_000001000004020008_000000000000000600_040000050006000300_050002000400000009_000403070000000201_000506000000000807_000208010905000400,
  0x030400000208000105_020700000006040809_000005000107000000_070009000403050206_040000020000080007_000000000000030000_060208000500090000_090504000802010003_010300000904020008,
  0x090200010004030508_060800050200000701_040100070003090000_030000000700000002_000708060302050904_050002000400000600_000006020907000005_000001040506020809_020509030108060007,
  0x060700000000000009_000008090000050200_090502000000070104_020000030800060005_000006000001040308_050803000000000000_000000060007000403_000600000000020001_040100020300080007,
  0x030001000200050700_070408060003090102_050209010407000806_090100020000000603_080304000005070000_060702000100040009_010807040000000305_020903000806010000_040000070301000908,
  0x090000000600000005_000000000004090200_000200070509060008_060102000408000500_000708000200010009_040000000000080600_000000000000020901_000600020907000000_000009010800000706,
  0x000400000105090800_050009020700000600_000000000000070000_080602000900030000_010005000000000907_000700000000080002_000906000500000700_000508000300010006_000000000000050000,
  0x000000000000000300_070000020000050106_000600010400020900_000000000200080000_000001090007000600_020006040301090005_080400000102060500_060000050000010000_090000080000000000,
  0x000906000000000200_000007080003000500_030005000000080000_000509000000070300_000304000700010800_000800000006000402_000703060004000008_040100000002000000_090000070008050100,
  0x000209000301050007_000805000000010000_070000000504060000_010702000900000605_000000000400030208_000403060000000000_020900050000000000_050100040803020006_000000000009000004,
  0x000000040900000100_000000000007000008_040800010003000609_000000060004000905_060004080100000003_010705000000000000_000100070800000500_080400030501000007_070000000009030800,
  0x070609040003020500_050002000001080603_010003000000000009_060900030000070100_040201000007050006_000005000206090008_080006070400030205_090300000005000800_020504060000010007,
  0x020704000806000003_060008000500090207_050000020000000004_000306010002000000_000400000009010000_070001040608000000_040605000000070000_010000000000030400_030209000400000500,
  0x000000000402030000_000000000006000508_060300070000000004_000500000604000000_030000000000000206_010000050300000709_000000000200000000_000800040509000300_040000000001090005,
  0x000003060000020500_070000030100000006_040008050009070103_060000070400010300_000401020006000700_000700010908000000_000100080500000400_050000090601030000_000006000700000801,
  0x000000090200030100_060000000807000009_000309000100060008_050000020000090003_000000000709020001_090000000300000000_030000000000000007_010005000902000000_070004080600010002,
  0x020000070504030000_000706000000000500_040000090000070001_000900000000020103_000000000401000000_010000020009000000_060002030000000704_000409050007000206_070001000200000000,
  0x000200000000070109_000700000000000000_000105000700030206_050003000602010000_000000010000000000_040900000003000002_000007000105000004_000000000200000000_010006000400020703,
  0x000007000005000400_040000000100000000_060800040003050000_070000000800000001_000900000001000004_000100050607000800_000002000000000307_000308000000040000_090700000400000000,
  0x090003000007000000_000600000204010503_040000010003000000_000509000008040000_070400020000000800_000000040001000007_050004000009000201_020908000006070400_000000000002030000,
  0x040900000000000803_030000090000010200_000005000300000000_000000000509000300_000000000000090000_000500000000070004_000800000901000607_050006000204080900_000007000006020000,
  0x020008000700000000_000000000000010400_000104000003070008_000200000500080100_010300000900000005_000400000000090007_000007000000000000_090002000308050000_000801000600000000,
  0x000009000000060007_000007040902050008_000001030000040200_010000000400000000_060300000000010000_000000020005000003_090000000000020800_040002010000090700_080000070000030004,
  0x000602080000000103_090408000203000700_000500000609000008_000204090700050000_060100000500000309_080905030106040200_000800040301000002_040701000900000000_000300000000000004,
  0x020900000000010000_000006000001070009_000008000009000000_000000000402000501_090003000000080004_000004070803000600_000502030008000100_000801000600040000_060009000000020005,
  0x050001080300020407_060300000002000105_000008050004030000_000009000007010200_000100000009000500_020506040001000703_090005010700000300_000000090600000004_080000020000000000,
  0x000700000000090506_010400000006030000_060000050307000001_000000010000000004_040600000908050003_090300040005020700_000008000001000009_030100000500080600_070900030800000000,
  0x000400000900030700_090807060004050001_020000050701000008_000003000006090004_040900030107020000_000000090400070000_000000010800060002_000601040209080000_000204070603000509,
  0x000000040009000700_050400000008060301_070000000006090800_000000030005000900_000000080700000000_000000000904000000_000003000607050000_060900000001030400_010000050003000000,
  0x090000000008010005_000000090000000200_050000030201090800_000800060002050400_070509000000000000_020406050109000000_040907020500060000_080203000000040000_000000000007030000,
  0x000908060500000000_000001040703000500_000000010800040600_050700000000000000_000004000300090800_000000000000000001_030405000007000100_000002000100000703_010007000000000904,
  0x080004070300060102_020506090800000703_030000040602000008_000000000500010000_000200000100000000_010007020904080305_060100080000070000_070002010409030500_000400000000000000,
  0x000504060708000000_030000020405000609_000000010900000000_000007090502000004_060002080000000005_080005070004000003_020109000000040000_050600000200010307_040000000100000002,
  0x000001060000000009_000804000000060001_000900040801030700_000000000000000103_000402000300000608_000000010600090200_040000000700050006_020300000008000007_000000000000000000,
  0x000005000000000104_000007000904000006_000600080007000005_020300000706000400_050701090408000000_060009020000080001_080100070509000002_000904060000010500_000502000801090600,
  0x020307000801000005_090804000506000000_000005000400000008_040900050007000800_000206080000010907_000708000600000400_060100000700000000_000403060008020501_080000030000060704,
  0x050000000100000900_000001000009080307_000908000000010006_010700090004000803_090000000608000200_000002000007090400_030506040001000708_080004020005000000_070209000803000104,
  0x000400000000000008_000000040000030006_000000060008000702_000500000800020009_000609010000070000_030200000006010400_000000000601090507_050700090000000001_000001000700060304,
  0x060300070000080000_000400000201090003_090201000305060000_020003000400070009_000000000709030801_000009000003040005_000900000807000000_030604000002010708_050700030000000904,
  0x010000050807090602_050000020300040800_000000000001000000_090000000500080000_020000040000030009_080400000000000100_000900000000000700_000201080600050000_030506000004000000,
  0x030000000005080209_080002060300000000_000000000009030600_020000050004000800_070005090201060000_010604080003000900_000407000502090108_000008010900000703_090103000400000500,
  0x040500010806090200_000000000403060801_010800090000030004_000607000008000100_050109070600000308_020400030005070009_000704000001000903_000300000009000000_000005000007000000,
  0x000500000002040000_010800000407000906_000003000900000000_000304000009070002_050000000000030009_090000070800000000_000405000000060000_070000000000000000_000600000704090100,
  0x000004090705030806_000307020800000009_000000000301000002_030709000400000100_000000080009000000_000002030000000904_040000070500080000_000805040206090300_000003000000000600,
  0x010400000705000003_030002000000000008_000000000000050904_000805000001000000_020001000004000005_000000000000000000_040700000609000500_000003020000060000_000000000800000000,
  0x050400000800010603_000000040600000205_060102000000070800_070908000200040001_020605010409000700_040301000007020906_000706000000000009_000503090700060102_000200050100000307,
  0x080500020000000000_030000000000090700_010700000009050008_050000000902010004_020000000105000906_000600000003020005_060008000000000100_000000000000000009_000000000006040500,
  0x030005000100000007_000600020300050800_000401000000060009_040008070201000900_000300040000000108_000102000600000000_000906000403000002_050700010000090000_080203000009000004,
  0x000000000004080003_000000080900000005_080000000501000200_000000000300000007_000802050006040000_000000000408000300_050001070800030006_060700000000000500_000008040000000901,
  0x000206080009040000_000000060000000800_000800000700000200_000001000006050002_000400010900000600_000602070000080009_080305020607010904_000000000301000000_020000000000030006,
  0x000403000201000500_070001000006090000_060008090700000400_000800000000000000_000000040000070000_010900000003040805_000009060502000700_000700000004050900_000005000800030600,
  0x000005080407090002_040901050206000807_080207000301040506_030604000905000201_000002040000000000_070009030000050604_010000020709060008_090006010000020000_000708060504010903,
  0x030000000600070000_000000080700000300_000700020000000904_000309040002000601_000200010003000000_040800000006090003_000000000000000000_050000060108000702_000400000009010500,
  0x000002050000000800_090000000001000003_000300000004010007_000009000600040002_060000020000000000_000208000409000500_050006040902000001_020001070005060408_040703080106020000,
  0x050001060309000700_030209070000000000_000000020100000308_070004000000000001_060008000000000209_000000010908000000_000005080200040900_000002050000000000_000000090401060500,
  0x000809040306010002_000001070008000004_030004050000070809_020000000803000406_060400000509030107_090003000400050000_010500000002040000_000002000000080701_000000090104000000,
  0x000600000008000703_040500000900000000_000001060300000000_070000050003000900_000000000000000801_020000010800030000_000400070000010008_050006080001000300_000800000000040000,
  0x030000000000000001_080009000405000000_000605000003070009_000408000000000700_050000000704000902_070300090500000100_060001050300080000_020007000000000006_040003060201090500,
  0x040000000007060100_020007040001050803_050001000800070904_000402010708090005_070009030506000208_000000090204000000_090200000000080700_010805000300000400_000700000002030509,
  0x000900000504060700_060503010002000904_020407090008000300_000008000205010600_010600070009000005_000205000001070003_000800050900000006_000100000003090207_030709020006000008,
  0x070500030800000400_090300000700060000_000000090004070000_000008000405000300_000201000006000908_030000000109000000_000705000000000002_000809060007000000_040000000208000700,
  0x090000000400000100_020003000000000400_070005000209000300_040800000006010009_000900040000080503_030000080900040206_000000000005030600_000001090000000807_000704000000000001,
  0x010502000000080600_090407000806010205_000003000000040007_000100000300070800_000000040000000500_000000090007000000_000000000703060008_000000000001020700_000708020000000000,
  0x000008000000000200_000300080600000105_000009010002060804_000000000000000000_070901060000000000_000205000009000700_000807030006020009_000400070008050001_090500020100080600,
  0x080104060007030905_070500010009000802_090302040805010706_020701000000080500_060403090500070201_000000070102060304_030009000604050100_010000050903020008_040205000700000603,
  0x070000010009000006_010004060200000709_000008000000000000_030400000107000008_080006000305020007_020001000008000400_040000050000060003_000100000702000804_000002000000000001,
  0x040902000107000300_000508000302000004_010300000408060000_080700000509020600_020405030006000000_030000000200080405_050000000000030900_090000000600010000_000200000005040006,
  0x090801050003020400_000407010000060800_000006080700010000_000708040300090502_040000000000080003_000203090007000106_080300070400050900_010605000900070204_070904000000000000,
  0x000000000400050009_030006000008000004_000407000000030000_010000040005070308_070805060000000000_040000000700010000_090000000002060407_080004000603090005_060701000004000000,
  0x050006090008000700_030001060004000500_080704000003000900_000002000500000000_060000030009000100_000000080602000405_000803020900000600_020005000000000000_000600000800040200,
  0x040001000600070000_080607000305000204_030205070400060100_000400090100030005_090000040000000002_010000020000040809_000000030000000906_020800060007000400_060009050000080000,
  0x050200040900080706_030807020006050409_040906080000030001_020004090008000105_070105060004000308_090000000705000604_080000000000040902_010409000802060007_060000050409010800,
  0x000800070006090500_090004030008020000_070300020000000408_000708040003010200_000000000705080604_000100090002000000_010402060007030005_000500000300040002_080903000004070106,
  0x050000000000000600_010002000900080004_060003000000070009_000008030000020000_040000020005090000_020000000100060000_030000000000050007_000007000001000800_000400000000000200,
  0x000200040007010005_070000000900000400_040800000601070000_000000000100000500_010900050002000003_060000090000040000_000102000300000600_000000060200000900_030000010504020008,
  0x000000030004010900_000007000000030400_000006000000000702_000201060309080504_090000000002000001_000000000100000300_080000090207000100_000000000000090000_030709040001060000,
  0x000006000005090007_000009000801000205_020500000000000001_040000080600000000_000900000103070004_010300000000000000_000004000500000900_000801030400020000_050000010906000708,
  0x080300060009010205_000102000705080406_000000010208090000_070601090002040500_000800070001000902_020003080004000000_060000040003070000_000709020800050000_000408000107000000,
  0x000705080001000000_060003040700000009_000900030500000400_080500090200000700_000400000007020500_000200010005090000_000300000000000608_050600000300010902_090107000000000005,
  0x010009020400000308_050300000800020000_070008090305060000_090405070203010800_000701040608000500_000803000509070002_000006080100000009_040007030000000205_000000050700030600,
  0x090003000000040000_000000000000000000_000706090300000208_010007030000000006_060000000508030400_000005000000080100_000600000801000300_020000070000000000_040300050002070601,
  0x000000060008030009_020000000003010405_000003010500060800_050300000001000000_000400080907050000_070900000000000608_030000070406080901_000609020000000000_040007000000000000,
  0x000000080002000000_000002040600010005_000906070000000002_000600050004000003_000400010700000600_000208000006000500_020000000000050000_030004000800000006_060800000000090300,
  0x000003050006000400_070000080900030600_000906000100000200_000300000008000000_000804000600050700_000500040309060002_030700000805000000_000009010200080507_000000090000000300,
  0x050000000000080003_060700040200000509_000309070800000004_030000050102000000_000000090000050300_080504000000000200_000003000600040100_000000000009000807_070600080004030900,
  0x080406000005000000_030000060001080009_000900000000050002_000600010203000004_050004070809030100_000000050406000800_060700000102040900_040803000000000005_020000040000000003,
  0x000003000400010200_000807000201060400_000004050000080000_000008040002090103_000009070600050802_030500000809000000_040005000108000006_090301000004020000_000006020000040000,
  0x080000000700060000_000007000109000400_050009000400000300_000002000000000000_000500010300080000_000600000000000700_020800060907030000_000100030800000200_000003000000050006,
  0x050003070000010408_000008000001000702_070000040005030600_000400090700020501_080100030206000000_090702000500060803_000309000007080000_020000000403090000_010004020600000005,
  0x070400000003010508_000002070004090000_060503000009000704_000005030901000007_000701000000000200_000600020700050109_010307000600040002_040206090107030800_000000000000070000,
  0x020100030000070008_000000000000000000_000700040000010603_070000060801040005_000501000004000300_040000050000060701_000000000009050000_050907010000000204_080200070305090000,
  0x040002000700000000_010007000300000004_000800000004030000_060100000200000805_090000000408060000_000005000600000000_000600000001040700_030508040007010602_070401060000000000,
  0x070000000003020106_000001040000000500_030608000000070904_010000070000060000_050004000000080001_000000000800000700_000100000007000402_020300000600000800_040007000108090000,
  0x070100000000000500_000000000007090402_000900030000010708_000600020800000900_020000000000060000_000003010000000000_000000070000000000_060009000500000801_010500080900000300,
  0x000200000005080009_000406000207010305_070500090103040602_040007000000000100_000003010000020000_000100000700050000_020000000508000000_000000000000090000_000000070004000003,
  0x090300070204080600_020004010600000000_060008030900000401_010206050307090004_030807000009050002_050400020800000306_000000040702000000_000000000103060500_070103090000000008,
  0x080702060000040509_030009000004000100_000400050009030000_000607020408000300_020103000000080000_040800000103020007_000001000000000700_070200000005090001_060900000007000200,
  0x000007050300090008_000000000700020604_000400000900000307_010304000809060502_000609040200000003_000802010000070009_040900030107000200_000008000000000006_000005060008030900,
  0x030002000600070900_000400000705000103_080705000300000002_010300000200000604_000800000009020701_020007000006090300_000000060000030007_000000000007000009_000208010903040006,
  0x000300050400000009_060401000900080502_000507000008010400_080105000209000306_030000000000090007_070609080000000200_010700000000000004_000803000102070900_000906040703020108,
  0x050000070000090000_040901020600000000_030006000409000800_020809000706040001_000600090000000000_000000000000000709_090007080003000100_080000000500020900_000000000000030000,
  0x000005000309000000_060302000508000709_080000020107000006_050000070000020100_030600000000000900_000200000003060000_070500090000080000_000009080405030600_040800000000000001,
  0x090002000603000008_080000020005000900_070000090000020005_000300050007000400_040000000300070000_000000040901000006_000009000500060804_000000000400000003_030004080109050200,
  0x040700000305000000_000500090000020300_020100040000000000_010004000203090000_050607000409080003_000302060000010400_030000080006040702_000200000504030000_000406030900000100,
  0x000000060000000800_010000000008060000_000800040000050100_000000000000000005_000000000200000307_000500030000000600_000904050100000000_000005080902070001_020100000604030500,
  0x050704090608030201_090203010500070608_060100000207090405_070000050109040006_030406080702000109_010905040306080702_000000060005010904_080609070000020503_040501020903060800,
  0x000304070005020908_080000020001000006_000002000308000700_000000060000050100_030400000002080600_000000000000000000_000006000100000209_000001000000000005_070900000200000001,
  0x000005000002000900_040102090703060508_030900050000000402_010704080900020305_050008020107000609_000200030004080001_090400000308050206_020000040000030807_080603000200000004,
  0x000304000900000000_000905030207000004_080700060100050000_000000000006030400_040600000803020000_030501000400000008_050000080000000700_090000000700000306_000400020300080500,
  0x000000000000060000_040506000700000103_020800060400000500_010000090300000200_060000080001090000_000300000600010800_000000030008020605_090000000106000700_000005070000000001,
  0x000405060003000700_020701050800060903_000000000702000501_030007000600090204_050100000400000307_000009070308010005_000603000007050402_080004030206000100_070000040001030800,
  0x040500060700000809_000900000004060100_000200000001040307_000600010002000900_050000000607000204_000000030000000000_000000070500030402_000000000000090000_000000020300000008,
  0x060203080000070400_080500060704030001_070001030000000000_010608000000040009_050004000607000003_000000000009000106_000100000008090000_090006000000010002_020000090100000004,
  0x000000000900000602_040002000007010000_070900000000030004_000008000500020007_000509000008000006_010000000004080905_000700090000050000_000001000702000003_000004080003090000,
  0x000005000000000700_090600020008000001_000000060005030200_000900080000000000_060100000304000008_000508070000090004_000006010000000000_000000040903000007_080000000602040103,
  0x000000000001060000_020700060000000004_030000050000000900_050000000004010000_000000010000000007_000000070006080509_000100000009000400_040200000008000000_060000000007020005,
  0x090001000000000000_000700020501000600_000000000900000004_010005000802000700_060900040703000200_000000000005000908_000006000208000405_040000050609000000_000000000407000100,
  0x000005000003020900_000203090704080005_010009000000000000_000000040000060000_000400000200090501_000000000005070400_000004070000000200_070108000000000300_090502000000000006,
  0x000600000009080000_000002040003060709_000009000000000103_090001070208000006_030205090106070400_000806000005000902_050108000007000004_000000060501090007_060900000004000500,
  0x000000000600040900_000001000000070006_060000000000020105_000000070300000400_080000000402000007_000007000901050600_000005020006030700_000000000500060000_010000090703000500,
  0x000100090000020007_030000040002050108_000000000700000000_000600020007000001_000700030905040006_000500080000000309_020000070000010600_000306010000000000_050001060800000000,
  0x080000000003000000_070000000006040208_000000000209000103_000009000305080000_060800090000000000_000000000000090400_090601040007000005_000308050000060000_000700000000000000,
  0x070009000004000100_040000000100020007_000801070002000400_000000000906030700_000003000000050002_000000000003000001_000008000007000000_090002060800000504_000407030005000000,
  0x000500000000020006_090000000000010500_000008000200000700_000000080000000007_000000000500000004_000809040007060000_000200000309000600_070000020005040001_000300060000000800,
  0x000400000700000600_000000080000040001_000003040200080000_090004050602010300_000208000400000906_030000000100000004_000805030900000100_000000020000000000_040002000000030807,
  0x000000000700030005_070005020006000008_000300040009000000_000000070005090806_000900030000070001_050000080900020000_030002060000050109_000800050007000400_060004000103080002,
  0x000000080700090100_030000000002040807_080000090000050006_000802060000070001_000406070200030005_070000040901000008_050103020009060700_000000000007010500_000200010500000000,
  0x070309000502000001_040000010806000000_000600030000000205_060000000100030702_030000000000050000_000005000600010800_000000020000070108_000200000401000003_000000000008000000,
  0x050007030000000800_040009000002000000_000000010600050900_000203040900070008_090004000000000600_000700020003010000_000000000000000000_030400000208000700_000800000300000106,
  0x000000000900000203_030000050800010000_000109020000000405_050000000000090708_000008000005030000_070001080009060000_090004060508020001_010003070400050900_000006000103000007,
  0x000400050900000800_000905060800010204_010700000004000500_070301080000000009_020506000100000007_000000000000000002_000000010002000008_000000000006000005_000009000700000600,
  0x070300080504000609_000000000600010700_000000070301000004_020000030000060400_000008000000090207_060104000207000005_000900000000050300_010200050703000008_050803000902070100,
  0x000000000209000000_040200000000000600_070500000300040002_010905070608020300_030000000100000500_000700000000010000_000007000000000000_050300000800090400_000400000007030008,
  0x000001000308020407_000007000100000500_000200000900000000_050100000800000206_000703000206040005_090602030405080700_020500000003000000_000306020704050800_000400080000060002,
  0x000409050001000008_010005000003000700_060300040900000201_030802090405000000_050600070100000009_090000080306020000_020506000708000900_080003020000000607_040100030000000000,
  0x060300000000070000_080000000309020104_000004080200000600_050100020708000006_000000050104090200_000000000000000008_000600000000000000_000000040003000000_000500070600000301,
  0x060000000300000000_030000070001000000_000005020000030000_000506000209000403_040209000803000507_000000000000000009_000700050600000300_050600000402070800_000000030100000006,
  0x000001040800000003_050900000000000000_030004090006070002_000700080902000400_000400000300020905_020000000000060008_090000030704000800_080500000009040000_040607020500010300,
  0x000107040000050800_000000000708000000_000000010003040000_000003020400000006_000200000106030000_000006080000000100_030000000200000400_000608050000000000_000400000000020600,
  0x000508070003000000_000207000000000908_060000000009000200_050006090300000000_000300050801090600_010000040000070503_000000030900020700_020000060000040000_080700020100060000,
  0x050000090400070800_060007030000050400_090003000005000000_000500010000000204_000008000900000501_000000050200090700_070904020000000300_010300000000020900_080206000300000100,
  0x030004000609020005_000008000002060000_020900000007000804_040001050200000009_000000000701000206_060209000804050007_000600070900010403_000000000003070008_010007000408090502,
  0x070100000003000002_000800000100000000_000600000002000000_040000050700020901_000500000901000000_090001030000060000_060005080004090100_010407000509080603_000000000600040205,
  0x040009000007000302_000000090406000100_010700000000090400_080007000200000005_090200060003000004_060304000501000000_000600020908000003_030002010000080906_000008030000000001,
  0x020000000000000807_000700000000000000_010006080003000000_000000000408020100_000002050300000704_070403020901000006_030000090000000000_060007010000040009_000001030504070008,
  0x080206000000000000_000007080005020304_000400000000000806_040000090300050001_000105000700080000_000709050000040602_000804000006010200_000000000000000509_060001000200030400,
  0x040000000000000000_000908010000050000_050103060004070000_000000070000000502_030200090805040701_080700000000030000_060800030107020900_000000000500060004_020509080006000300,
  0x030104050006070800_090200000000010000_070608040000030200_020407090500060103_050803000000000902_060901000000050700_040000010009080506_000009000004020000_000000000305000000,
  0x000000000607000800_010307080904000002_020000000305000407_080200070009060104_070004000801020905_000001040206000700_000702090408010506_040905060003070008_060108000000040009,
  0x020800000100050000_000006070405090002_000400020809030001_070002000304000100_000008000700000000_000600000002000900_000000000908010400_010000040007060308_080000010600000000,
  0x060804030000000000_000000090000000000_000003060001000000_010000000004060300_000600000000020400_000400000700000008_080002000600000004_000005040000000800_000006000005070100,
  0x060502090407000108_030000020000060504_080100060003000009_010200000605090007_000009000302000600_000000000709080000_000001030000000006_000605000008000003_070003000906020801,
  0x040001020000000600_060000010000070000_000207090000000004_020900000100000000_010004000702030800_000006040900050200_000405080001000300_000602070405000008_000000000600000005,
  0x000000000403050000_000106020700040300_000000000801020700_030400080000000600_020000000000000000_000600000500070800_000003000200000005_000507090000000000_000200000005060007,
  0x050602090000000000_080000040007050000_000409000205000300_060000080002010003_000703050900000800_090008000406000000_000007000500090008_040005070009000000_010900020003000405,
  0x030600000007020100_070000030200090506_090200060000000704_080009020000060001_010306000009000000_000700000006080003_000800000600010000_000000070300000009_060903010000000802,
  0x050207000004080003_060403000108050009_000809050003000406_000005000200070008_000008060305000201_000000080000000300_000306070009000804_000000030402090007_070000010000000000,
  0x030000000207050001_000000000500040200_070200000000080900_000306000400000700_000000000100000408_000804090000000002_060900000005000304_000008020004000006_000103070006020000,
  0x000001000000020600_000004000007050300_020507000600010000_000005000002080106_080000000000040005_010609080504000203_030002050001060800_000700000900030501_050000000403000000,
  0x000000070100020409_090001000000070308_000804000000000105_080502000703000600_040100020009080000_000009060000050204_020400080605010907_000000010000000806_010608090307000000,
  0x000807000301020904_010300000000070008_000006000400050001_000200010008000706_000000000200000000_090000000000030002_080002000004000003_000000000800040200_000000020105060800,
  0x040000030705010009_070000000600040805_000506090804070302_000304000000000207_020000000000060508_060000080200030401_030001060902000004_000002070103080906_090600000000020103,
  0x050108000900000000_000307040000090105_000004050700000000_000603090000000001_080005030102000709_010900070806050000_020006010300000008_000009000600010500_030500080009000602,
  0x010902080400000000_000703000600080509_000806030000000100_030004000509000608_000005040006010000_090607020000000000_060008000201030000_000401000003090005_020000050000000800,
  0x000002000000050000_090600000000070001_000000090000000806_040200080000000000_000801000002000005_050006000900020008_000000000009010000_000400000800000600_000900000003000704,
  0x000007000806010000_000106000900080400_020000000307060500_000005030008000002_040302000605070001_000001000000000000_010603080009050004_070004060000030008_000000070400020006,
  0x050200000300080407_090804000700020000_030700000000000000_070000000209030008_000302000006090701_010600000800000205_060100000000000302_000000000000060009_000900000007010004,
  0x010400000806030500_000003000905000108_000005030000000000_050000000004000003_000000020008000000_000000000500000801_000000080000000604_000100000600000300_000008050407000209,
  0x000201040000000000_060304080005010000_050700010009000304_000000070908000500_030000000001000007_000407000500090100_000602000800070005_000009000000000200_040000060700080000,
  0x090003000200040000_060001000003000002_000200000400000000_040000030005080207_020007010000030600_000300000702010004_080005020300000001_010004000807000009_000000000000050008,
  0x030005000007060002_000008090002000405_020900000005010008_000000000800050207_000102000009000003_060807000203000109_080004070006000001_090601020008000500_000000000900000000,
  0x010003050000040007_080006090000000300_040905000001000200_070109020403080500_060804000005000103_030500010008000704_020007040500030800_050001000300070600_000308000007000400,
  0x000300000005060000_080006000104000005_000507000002080901_000600010500030007_070000000600010000_000000000907000806_000000000000040000_030700050000000000_020401030709000000,
  0x000000000900070003_040700080000090002_000209000000000800_000300070609000201_090000020000060000_000002000800000000_030500000000000006_000900060001000000_000000050007080400,
  0x000601000703000800_000000040802000601_000002000000030000_030000000009040006_000000000506000103_000006000000000009_000700090200010300_000200070608000000_080000000004060000,
  0x000300070100000500_000207040508000903_000005000903000400_000500030400000007_000702060000050000_060000050702030800_070103000000000208_020006000000010705_050000000000090000,
  0x020007080403010006_080306000005000900_040501000906080307_070100000000060003_090004000000000008_000605000008020700_060800050301070200_000000060204090000_010000000000030000,
  0x000000090000020001_040900000302080005_060000010805000309_000609000007050208_000000020500010906_010200000006030407_090106000208000504_000008000409000102_020004000601090003,
  0x050204000003000100_000000000009000000_000903050600000000_090406020700030008_020507000300040900_030000000504000000_070009080000050200_080605000207000400_000300000900080000,
  0x000702030006000004_030600000204090701_040001000907060000_050008070600000000_060300020000070008_000900000408000306_000400000302010805_010000000800030007_080503090700040000]
theorem mixed_17_ok : mixed_17.all fastOK = true := chunkOK_sound _ (by decide +kernel)

/-- `mixed` (10000_mixed_puzzles.npy), boards 4500..4749 -/
def mixed_18 : List Nat := [
  0x060004000507030000_000008000300070500_070003000200000000_000800020405000600_050001000000020000_040009000706080305_000000000600010800_000006050802000003_080002090104050700,
  0x000400020000000003_000007040300000008_000100000500020604_030000070008000005_080000010000000009_000502000000000001_000000060000000002_010200000000030500_070000050100000000,
  0x000403090201050700_000900070008000004_070002000405000903_000600030809000105_020309050007000406_010008020600000007_000005000706000002_000000080902040501_000204010503000600,
  0x030000000000000005_000002040900030100_000006000003020407_000100000000000500_040509020700060000_070203000005040800_000007000000000004_090605000000000200_020804030509000006,
  0x000007000005040003_040000000300000508_000005040000070900_070308000509000000_050200000100080607_000000000802000000_000700050403000000_090000010000000406_080004000000000700,
  0x090000050301020000_000000000900000106_080501000607040000_000002000000060004_000008000700000000_000900000206000800_000703060400080005_020804000500090001_000600080000000007,
  0x000800000900000304_000004000800000700_000900070001000002_040100000705080900_000700000008000003_080600010304000000_000400000209030501_090300040500000008_000000080000070400,
  0x010000000000030906_000800090000000000_090000000006000002_000902060001050000_070000080900010000_000001020307060409_040108030000000000_020007050804000301_000000000102080604,
  0x050900040002070600_000406030509000802_000003070600090000_000001000000000300_030209010700050008_000005090300020701_000002060407080105_010507080203040906_080004000900030200,
  0x000000000300000208_000001050000030000_090700080000000100_070005010803000900_000000000906010000_000609020007040000_000107000002000009_060300000108000400_000004000005000601,
  0x000700000308090100_050000060000080002_000100000000040003_030504010000020809_090601080000000504_020000000900060001_000009030006000000_000200000105000000_000005000800000906,
  0x000300000008090007_000208090504060103_090600070300040008_040000010000000800_080000030000070600_000000000009030400_000109000700000304_030407080000000000_020006040003010000,
  0x010000090803000204_090807010400000305_030004050706090801_020108070005040003_000409000008010702_060700000201080509_080902060004050000_040006020007030908_070001000509020006,
  0x000904010006000503_050000000008010004_000001050000060007_080009000003050002_000700080000000000_060403020007090000_000000090801000000_000608070300020000_000500060002000108,
  0x080600050000020001_000900000600000800_040100030000060000_010004060208000003_000000070900010400_000200040000000008_000700090300080104_000006000000000205_000801000000000900,
  0x090407000002080603_050600070003000009_000000000000000507_060000000000050308_000001000504000902_070005090000000000_000000000005000804_040000030007000100_010809040006000005,
  0x060008000400000701_000400030000000000_000000070800000500_020001050703090004_080300090004000005_040005000000000603_000004000200000300_000706000000010000_000100060007050000,
  0x040805090607000300_000300010002000805_090000000805000000_070500000206080903_080200050301070400_030004000000020500_000403000908000000_010008000004000009_000006070100000008,
  0x000708000500000000_060000000400030000_000002000800000009_000409050008010000_000000000304080000_010000020600050000_000000080106040500_050000000007090008_000000040905020007,
  0x000000040908000301_000000010705020009_090100000000000807_000906080007000500_000000000004000106_030000090200000004_010009070000000600_060000020000070900_000007000009000008,
  0x090301050008040700_080007060300090100_000402000701030000_000000000000050000_000006030105000204_020105040806070903_050000010000000300_000009000507000400_010700080003020509,
  0x000809020500070000_070005000304090601_040001090600020000_020000000105030000_030604070000000000_050008000206000007_010406050703080009_000700000900000400_000502010400000703,
  0x000000020001000709_040200000000000008_000000000800010000_030402000509000007_000100030200040900_000000000006000002_000000000000000800_020306080900000001_000705000002090403,
  0x090008050200000003_000200030600000900_000100000009070502_060803000002000700_000907000100080304_010004000308020609_000702080000000401_000000010700000206_040600000503090000,
  0x000009040100000000_080500020900000700_000600000000000502_000008070000000005_050702000809010004_000001000204000900_000005090003080000_000807000002000603_000000000500000100,
  0x000200070000000000_080004060309000000_000000000102000608_000300000000000500_070802000600000401_040000010007000000_000000020001060007_000000000000000205_000003000400000100,
  0x040809010502000307_070000000008000105_000002000006080900_030001060204050000_050007000000000206_000000000007000000_000008000001040000_000005000300000000_000300000800000009,
  0x040605080902070301_090200000103080506_010308060507040209_070001020004000800_000400000009000600_000900000801000007_050004000206030008_000003010408050902_020009030705000004,
  0x000000000203060708_030000000600000100_000006000001040000_040500060007030001_010007020300000406_000000000009000507_000004000708050009_020000090000000800_000000030500000604,
  0x050907000006000002_020600000004070901_030104020000050608_000805010002060700_010209050600080000_000306000008020005_000502070901030000_090403060805000007_080001000003090506,
  0x000700060400000900_020003000005000401_000906020008000305_000300000007000000_070000050801000600_050400030600000207_000002000000090104_090007000304080502_080000090502000000,
  0x000000000104090800_090000080002000000_080004070005020306_000400000009070000_000000000807000509_020000000006000100_000600000700080205_040200000508060000_000805060203000004,
  0x040007000000000000_000006000000000801_030100000900020004_000700000308000002_000001040602000000_000300090001040000_010503060400080200_000000020800000103_000008000007000405,
  0x000501000902000700_070206010500000000_000000070000020100_000004000600000900_000700000100000004_030002000000000001_000600090200000003_000009000305010807_000000000704000200,
  0x000000000000000003_000100000300090400_030005080000000006_000000000000000001_050900000001000802_000304060000000700_020503000800000000_080700010000000000_000601090000000500,
  0x010200030000000008_000000010006070000_000600000004020100_090001000002080000_000000000900010200_020500070000090300_000000000003050000_080004000500000000_000102000000000900,
  0x000000040700000609_030004000002000000_000000010900000004_000007000004000000_000600070000040305_050403000000000800_060300000007090408_040008050000020006_070000000008010003,
  0x090006000000000700_080002050001090000_070000000009000005_000000080004070002_000805070003000009_040000090002000000_050207010400000000_030900020805060407_060008000000050201,
  0x000000000400000607_000408000007030000_000609000005000400_010907060508000000_050000030009000700_000002000700090000_000100000904070302_000203000100000900_000700000803000000,
  0x000001000009020400_000500060200000001_000000000307050000_010000000000000000_000006000000000003_090403020006080000_020005030000070800_030000000005040002_000008090700000305,
  0x040000000906000000_000508000001000007_000001050700020000_000904020007030000_000800000600040000_000000090000000700_000000000009000102_000006000008000300_000709000500000000,
  0x050000080009000306_000000000005080700_090708000306010205_000000000500030407_000005000207000000_060107030804000002_000003000002000600_000400000000000100_070800010603000500,
  0x090400000001060007_000703040002000001_050006090700040000_020000070100000604_000300000406000700_000604080000000103_000507060004000008_000001000000000009_040809010000000000,
  0x080000000605020000_090007080000000401_000602040100000500_000005000009000200_070004000200010900_010009060000000307_000700000001000000_050900000406000102_020100000508040600,
  0x000000000601000000_000002000000000001_000006040802000009_000000000004000005_030400000900000107_020601000003040908_000200000508000703_000003060007000002_010708000000000006,
  0x080100000003020400_060000080000050003_050003000401070008_090008000705040000_000600030804000205_040005000102080006_000000000009010504_020000010008000000_000709000506000002,
  0x020800040000000100_040000000000090508_050100070809030004_000700080000010900_030002050901080007_000000000007020005_000008090204060300_010000000308000700_090600000705000800,
  0x000300050000000200_010000000000000600_000200070008030000_090004000000000000_000005040300060000_020000080100090004_000000000000080006_000002000800070003_030500000900000000,
  0x000009000700010500_020701000006030000_050600000108020900_000005000000080002_010006050009000000_000207000600000000_060300010000090000_000508000304000700_000002000000000308,
  0x000800050200010406_040300000006070205_020000010000000008_000100000700000000_000708000001000002_000000060508000107_060007000800020000_080004030005000700_010903000002000804,
  0x000004000705090000_000008040200000000_070005000009000400_000200000300000008_000001090804000700_040000000000000003_000006000002000100_000703010000000000_000002030607050009,
  0x020001070306080900_040307000809050106_090608040105030207_030906000201070005_010205000000000300_000704090003020600_000403050002010800_050802010904060003_000009000608040502,
  0x000300080000060000_000000060000070000_040006000507010309_090400010000000702_000000000000080000_000000000005000004_020500000001000000_000600000700000103_070009000400000500,
  0x060200000000000000_010300000602000500_080000000009030006_050002000106000704_090706000504010000_040003070008000602_020000000407060100_000000060200000805_030000050000000900,
  0x080500030104000600_040000000008030100_030000070500080402_060000000800090000_000009000006000008_020804090701050306_070403000605000900_000205010400060803_000608000003040507,
  0x050402000300060709_000603000902000008_000900000400030002_060008040000020001_010704090208050300_020309060105000004_040000000007090100_000106030004080207_030007000009000000,
  0x020005010004060009_060000030809020500_000008060005000000_000900000000000208_000400070300000000_000003000600000000_000009000106070302_000007000400010005_030200000000000006,
  0x000002000100090000_010300000000000200_000006000009040107_050108060900070000_030600010000000000_020900000003010004_000205000001030700_090403000800060500_070001030005020000,
  0x000507030009020408_000000050008000903_000000000004050600_050006000900030000_020309000400000005_080104000000090700_000400010700080009_090800000306000207_000200090000000000,
  0x010008000302000704_020300080000000901_040000000900030200_000200040000080000_090703060000000005_000000020009000000_060400030807000002_030000010600000007_000001090200000300,
  0x000000000000030405_000000070004090008_010000080900000600_090008030002000000_000000000700080300_000500060400000001_040200000000010803_030007040600050009_050000000800040700,
  0x060300010908000005_050800020304000000_000900000507080300_070003000800000006_000600000100000400_000009070603010800_030700000401050208_000000080706040003_000400030205070601,
  0x000000040000050600_030005000800000004_000000030000000000_000001080006090000_000008020700040000_020706010009030500_060903000200000000_000000000900000002_050400060000000001,
  0x000000060000000400_000704080205000001_020005040000000000_070000020604080000_010409000000050000_080000050001000000_000007000000010006_000108090706030200_000300000000000500,
  0x020006050700000000_000804000600000000_030000000002080600_000300000000040700_000007000000000008_040008000007030000_000000000005070009_000200000403000806_080000000200010403,
  0x000100090005000000_000400000003000001_000600070000030409_030700000900000000_000205000304000600_000000050700000302_060000020000000905_070800030509040100_000000000600020000,
  0x000005090000000600_000100050004090000_030409000008070105_000000080406030900_000900000500000800_060008000000000401_000003000102060504_000504030000080702_000000040005010309,
  0x030602010700040000_090704030000020800_000001000402030700_000805000106090200_000006070009000008_000009080500060407_000100060300000500_060407050000000002_050903020007010004,
  0x000908000302010506_000106050000090207_050007000006080004_000001020000000600_000305090600020401_080002000100030005_060804000000050000_000000060200040000_020003000001000000,
  0x030206000005000701_000009060007030002_080007000004000006_070402000006090003_050800000903000007_000003070200080000_020304000000010609_010008030609020005_000905010402000000,
  0x000400000002000600_000703000800000000_000500000000070000_060009000105000000_000000000004000002_000000000709060000_000001040008000200_000000000603000000_000604000207000800,
  0x070208000003000506_000500000007030002_000000000500000700_000100000300000000_000009000001000400_000000040000050000_030700000109000200_000006000400000305_000002030000000000,
  0x020801000703000009_060004050102000807_050007090000020106_000200080904010000_090000000006070204_040103000000000608_030600040500080901_010405030809060700_000709020601040003,
  0x000000000607000200_080700000100060000_040002000009000000_000000060300000002_090003000504000106_010000000000000500_000300080005010600_000007090003000800_050809000000070004,
  0x000409010607080000_000206000805090407_000008040902000000_000000060008020000_020000050100040706_060000000700000000_090002000006000000_080001070000000609_000007090500000802,
  0x000000060500020000_000002000304060000_000500090102000003_080301000700000000_000005010800000709_090400000605010008_010800030206000507_000700000000000006_000000000000030104,
  0x000000050100090700_000900060002000000_050800000004010600_060000040800030000_080100000200050406_000000000500070008_000200000907060000_000001000000020300_070008000000000000,
  0x000000000600000001_030700050004020608_060801090003070405_000602070908030500_000504010000080002_000000020400000107_040000030500010800_050003000800040000_000906000000000200,
  0x040000000000000009_000000030100000000_010003000604000000_000800000300000907_000000050000000006_030000000706000100_000107000200090003_000000070000020600_060000090400070000,
  0x070000020600090000_000000030000000001_060000010900080507_010800090002000000_020000000000000008_000605040801000902_050000000003010009_000003000000000704_040001060200030805,
  0x000004000900010703_010605040000020009_000003010008050600_000008000000000301_000900030001040506_030001000507090208_000300020605000007_000007000000000000_080200000109030400,
  0x000204000301070008_000000090005030002_000300000807000001_010807040000020000_040003010000050806_000600000000000000_060009070204000000_030000000000000007_070008050000060200,
  0x000000010000040000_000704030000000501_080900000004000000_000005020701000000_000600000000050300_000000000300000109_040000000000000600_000800070000000003_030100040000000002,
  0x000000000800000006_070500010000040002_000000000200070100_000002000000000509_090600070000020800_000400020000000001_060000000000000003_000005000401090600_040300000600000000,
  0x090004030000070000_000006000700000003_000300090600000800_080000000009000204_000105020800000700_020000070400000008_030900000206080407_060200080000090100_050400010007020306,
  0x000000000600000100_000000070402080000_000204000500090000_020000000000030000_050000000200040900_000800000907060205_070008020000050400_000006000304000000_030400000700000000,
  0x070002000000000009_000001050802030000_060308070100000400_000105060000000000_000900000007000008_040003000000000601_000204000600090500_050007000000060200_000009000700010800,
  0x000000060400000002_060004000207000900_000708000900000006_000006000000000400_070402000305000800_080000070000000003_050007030109000604_000000000000090000_000000000500000200,
  0x000908000004030000_000301000005060400_040000000301020500_070502010403000900_080609000002040301_000100080000070005_000207040000000003_000800000609050000_060405000100000002,
  0x090006030007050802_040000020109030607_070300000005010900_030807050900020106_000000060200070308_000201000803040509_000004000300060205_080000010000090400_000903040506080001,
  0x030000050800000102_000008060000000000_070902000400000000_000700000500000400_000005000704060301_040000000201000000_000309000105000200_080000000309000000_000401000000030005,
  0x010005070900000006_020000000003000400_000000080000000000_000904000100080307_000107050300000200_080000090000000000_000600000000000000_000500040209070000_000802000607050000,
  0x000500080600000100_000000000700060002_000400020000000509_000008000500000000_090600000201000300_000300000009000600_000900000402070800_000000000907000006_000000060300050000,
  0x050000000207000000_060009080000000000_000701000400080000_000000000000030804_000302010000000907_080900060000000000_020403000600090000_090600000000040500_070005000800020000,
  0x000200000405080107_000900020806050400_000408000701090200_000800050009060000_000000000107040000_060709000204000000_080002000003000001_070603010500000904_090004000602030500,
  0x070600000208030000_000000060003070004_000005010907000800_000107000800060000_030000000100000500_000506000000000207_000703000000000001_000800000609000702_000200000001040300,
  0x000000030005010604_000000000106000905_050000070004030802_000709040302050100_020005000008090307_060001000000020008_010607020400080500_030004090000000201_000502000800000700,
  0x000206040000090000_000009000100000600_040508000000000100_000000010003080000_000000020009000300_000000000000000000_000107000408030006_060300070000040900_000904000005000201,
  0x000001000004080000_000000080000000700_080709000000010400_040006000000000000_030007020008000006_090000070006000001_000800000607030900_000000000200060000_000603000000070004,
  0x030005000000000000_090700040008000002_000002000603000700_060900000704000000_000801020006040903_000000090001060800_040000000009000001_010300000800020000_020600010400000300,
  0x030900060400000000_000800010705000300_000000000000000006_060000040000020000_010000000000080004_000409000600000507_000003090000000005_080000000003040700_000500070100000000,
  0x020006000004080003_000400010000050002_010500000206090004_060009080000020007_040300000000000000_000805000000040900_000000000003070800_080000000502060401_090001000000000000,
  0x010600000702000000_000000000008000007_070908000006000000_000207000309000100_030500070001020000_080100000005030009_020800050004000000_000001000600000508_000305000000040000,
  0x000200060000000107_000406080000000205_000000000200090000_080900000600040700_000000000500060902_000002040000050800_020000090306070000_060000000400010000_070000000000000006,
  0x000000000900000700_000700080001050006_010000000006000000_000500000008000009_000001000300000507_000902000007060000_000800060109000000_040200050000000008_000003000804070005,
  0x010000000000020007_080000070400090300_000000000600080005_030104060009050708_000908010000000000_060200000004000003_000309000000000000_000800020003060009_050600000907000000,
  0x060804000102000900_050902000007000308_000103000009020000_000605090708000100_000400020005000009_090308000600000500_000700000206000805_040209080500000001_000500070901030200,
  0x000200000004060000_000308090000000000_000000030001000000_040900010708000203_030005040002070000_000000050006090008_020700060000000805_080500020003040000_010604000800000902,
  0x000007000600000200_000500070000000100_020009000001000000_040805060000010000_000206010000040305_090301020504060007_080000040200000001_000700080000000003_000000090300020708,
  0x000100020900000005_020000010800060704_080405070603000002_000000000008000603_000000050402000108_000002030006000409_030600000000000507_000209000000000806_040508060307000000,
  0x000900030406080200_000801000900000600_000403010002000000_000007020509000000_000502000100070000_030108000600050902_050200000701060800_080000050304020100_010309000208000500,
  0x050000000700000000_000208050300070009_070003020000080405_090500040003020001_040000000000000800_000800000007060000_000305070006000900_080701000409050000_060400080205030007,
  0x000005020000000000_000000070004000106_070401000009000000_000304060007000009_000000090005000400_080002010400060000_040500080702000000_000208050000040907_000700040001050002,
  0x000800040500070900_000409000106080002_060300000000000000_000708010004000500_000604080000020000_000000060000000000_080000000401000007_000500000800010200_070000000600040000,
  0x000000070405060000_000009010600050207_050007000000040108_030000000501000009_090000030006000000_060805000900010002_000006000003000004_000002000709000500_000003000800090000,
  0x040000000000000000_000602030100000000_000508000009060200_000000050900070400_000704020000010609_020900000004030005_000000010000040003_000807000302000000_000400000000020100,
  0x050709020100030806_040001000308050907_060308070500020401_000402000800000605_010507040603000209_090806000201000300_020000000906000703_080604030705000102_000903000402060508,
  0x060400050108000007_000107090000080002_000800020706050400_020904000000000500_000700000902060304_000000010000020709_000500030007000006_000208000500070000_070600040801000200,
  0x000301070005000000_000500030000000001_060009080001000705_050904020003000100_000000090004000008_000800060000000900_070400000002000003_000003040700000500_020100050006000009,
  0x010900030200000706_050000000001000008_000002000500030401_000605000700000000_000008000100000005_000000000000000204_080301000007040000_070509000300060002_000200010005080007,
  0x040000000002000300_050007060000010008_030908000105000000_000401020300000605_000300000000040201_070602000004000003_000004050000000100_010800040900020506_000009030200080704,
  0x000607000004000300_050903000702060800_080002000503070901_090000040100020000_000004020308000506_020300000905000408_060000030407080105_000000000209040600_040000050600000209,
  0x070000000400060205_000203000000080009_000500000800070000_000002000100030000_000700000000000800_000005060004000900_000009000601000700_020607000900010300_000001000003000006,
  0x000006000000000000_000003060100000809_000200000500010003_030000050701000000_000000080002040005_000000030006000200_000800000005000407_000000010000000506_090705040600000002,
  0x080002030700090100_000000000000000007_030100050400000000_000800060007050204_050004090803000006_000000000504000003_000705000300000009_010008070000030402_020300000900070001,
  0x080500000304000000_000000050100040709_010000070002030800_000000010009000004_090700000006080100_040301020800060900_000000000000070603_000008000000000001_030009000507000008,
  0x000009000408010002_000002000500000400_050003000000090007_000106070800050009_000207010000040000_000508060209030701_080601000700020904_000904080001070005_000000040900080106,
  0x000004070001080002_000108040002000700_090000000803000000_000309000400000000_000000020308000405_040002010009070300_000000000000030500_080400000006000100_020003000100000000,
  0x050601000000030800_070900000600000004_000000000800060700_000007060008040301_010000000504080007_080400000007050900_060800010009070000_090700080000010006_030005070206090000,
  0x090003060400000000_000000010000040903_050008030000000200_000501000300000809_070200080500000006_000300000001050000_000000000007000000_000705000000000600_000902050000000104,
  0x000908030601000007_060300000000090800_000000000009000100_090000080004000600_010000060900080205_080000000002030004_000000000000050709_000000000700000000_050009000006020008,
  0x000309000608020501_060000090502080000_050200000400000000_010003050004060800_000000080006040009_000400000709050002_000600020000070000_000000000000000200_090000040800000005,
  0x060002090008000405_030008000000020609_090500020000080703_000004000000060000_000603010800090204_000800000000070000_010005060003000007_040006080907000102_080200050004030900,
  0x000000000509070100_000102030007040908_090006080000000200_080300000700010000_000000060005030002_000607040003000005_010500070000060300_000200050000000000_000800010300020507,
  0x080006000002070000_020100000009060000_000400000005000001_030009000000000007_060005030008000000_040200000507080003_010604000803000002_000002070000010308_070300090201040000,
  0x070400020000000800_020806000500070000_030900000807000000_000007030200080900_000300000900060000_090000000000000307_000000000102030708_000203080700040006_060008000000090001,
  0x030009070000040000_000200010000000509_050001000902080000_000000090600000400_000006000200010803_000100000800000000_000800000700000004_000002000104050000_060000000309020001,
  0x000001040306080009_080007020901050304_090403000800060001_000102080504090600_000506000109000000_000908070602000000_020005000700000106_000300000000070800_000000060008030000,
  0x020008050007060001_000903080000000500_050000020009080000_090702000503000100_000500000702000300_060001040008070205_000800000000000700_070000000400000000_000000000801030009,
  0x000007050206090001_020600000001050000_050000000003000000_000003060000020000_090000000500000108_000000000800030604_080002000004000000_030701000005000400_000504020000000907,
  0x000002000106040000_090000030005060201_000000000000000309_080201060407050000_060000010500080000_000000020000010000_020003000601000000_070004080003000100_010900070000030806,
  0x050802040006000701_010400050008000300_070603020009000504_080007000005060002_090105080002030400_060200070003050108_000700000000000205_040000030201000609_000001000507040800,
  0x040000000000010002_000007060000000000_000009030001000000_000000000000040006_090400050000000200_080600000103000709_010000000500030604_000000000009000000_070003010600000000,
  0x000400000307000500_000000000100060704_000800060004000000_010005000000000006_000002080700000000_000000000000030000_000106070900040300_080300040005070102_000000000800090605,
  0x090700000002000005_010300060907000400_000402030005060700_000504000000000806_000908070400000500_000107080003020900_040000050700000000_000009000000050200_050000020600040107,
  0x090600000000000007_050000000900000800_000004060000000000_000001070002000003_060000000403070109_000003010509020608_000005000806000004_070000000100030002_000000020000080000,
  0x080500010702000006_000000000900070805_000009050000020300_090800040000050100_030605080007000000_000402000509080600_050300090400000000_000200070301000500_000900000005030008,
  0x000000000000000500_090008000004000000_040105090000000007_000702000809000000_080000000000000002_050300000001000600_070000010002000900_020900000006010004_000000000907000000,
  0x000003060409010800_010400000708060200_000600000501070304_050001080907040603_000000040003080500_030804000000000702_000002090604030008_080000070300000406_040300000802050907,
  0x000106000908000000_000000000000000900_000002000007060000_080000020600000000_000300040800020509_000900000000000000_000608010000090702_010000090500000800_000200080700030000,
  0x000000000000000609_000500080906000002_000600000000000100_000009000203060704_040302070009000008_000000000004000200_020901060000040000_000007000302050900_000400090000000800,
  0x000007000200000008_000000000000070900_040805090100030000_000900060700080000_010700040905000002_000006080001000407_080000000000000700_070002010004000000_060000000000020000,
  0x070009060801000500_080000000000090100_060000040005000207_000006000003000005_000804000507000000_000500090000000000_000007000008000000_000008000009000701_000003020700000900,
  0x000000070003000508_000008000006000000_000003000000070400_000000080000000000_080004000507000309_050900040002010000_040802050000090000_090305020704000106_060000000900040000,
  0x000907060304010000_000408000000000700_050001080009060000_000102000500040603_000609000003080105_040000010000020000_000000000002070301_000200070900050000_010700000608000400,
  0x020000090708000001_050006000001000800_000100050004000000_060004030002000007_000902060800000000_030007040000000102_040000010200000005_000200070406010008_070001080900000400,
  0x020501000000060804_040300000008000000_000008000401000000_030004010000000000_080007090203000401_000005040006070200_010702000004000008_000400000009020700_050000000002040000,
  0x000000080100000009_000005000000040107_020400000900000800_070000030000090008_000203000008000000_090108000607030002_000000010000020004_030002000000080000_000000020003070000,
  0x020305040709060108_000700020000000000_010000000000070000_070908000605040000_060200000400000309_000000010900080000_000500000001020000_000000090007000000_000000050304010007,
  0x000007090006000200_000000070000000103_030000010800000005_050609000002010700_020008000000000000_000100060000050400_000000040100000807_080001000000000000_060700000000000000,
  0x070000000005000000_000800070001000600_000006020008000000_000000000700060500_030400000002080000_060000010000000700_010500080200000000_000002000003000000_040009050106020800,
  0x040000000108000605_080900000700000103_060700050300000904_000000060209050000_000300000004000700_090802000500000000_000109000600040207_000008020401030500_020504030907060000,
  0x080307060100020009_000105080200070300_020004090000050000_070200040000080105_040006000501090203_000001020008040607_000703010800060900_010902000000000000_060400000709010002,
  0x000600000003010000_000004080109070600_000000000000050300_060300000000000100_000809000000000700_000402030001080000_000008000307000500_090000010002040003_050000060800000207,
  0x050003010008040206_000208000000000907_060700000002050000_090000000003000804_030801000400090000_000000090000060001_000000040009000002_020409000000070003_080300000000010009,
  0x080001070902040005_000907000300000108_050000000100000007_000000000005060001_030600000001000000_000500090600080403_090003060008050702_000000020003010904_000000000709000000,
  0x070405030208010006_000109070005080200_000000090601050704_000703060000090001_000000000004030800_020008000009000007_030000020000000000_000800040103020000_000200080907040005,
  0x000100000004000006_090004000600000107_000506020001000300_010000030000000400_000903050000070001_000408070100000200_000600010802000700_040000000000010008_000801000007000902,
  0x000800000500030904_000501030000020600_030000060002000100_000302070000000500_080100000409000703_000004050000000000_000600090000000001_000900000200000406_000000040001000000,
  0x050000060700080000_000306000004090005_040000050900000206_070009000400050103_060000020301070900_000000090000060000_020700030000040009_030608000109020007_090000000600010300,
  0x070006010004090200_000000000009070000_000904030000010506_010005000302040007_060409080701050300_020000040905000000_050701000000000609_000000000100030000_000600090000020701,
  0x000003000006000000_000009070305000800_020000090400000000_080600000000000000_030004060000000005_010000000900080200_000200010604000507_050006080207000400_040700030000020000,
  0x000000040200000501_000105000009070000_060000000000000903_000006000301000704_000201000000000009_030007090000000000_000503000800000002_000004000000000000_070900000402000000,
  0x060300080102000500_000008000009030000_000109000600000000_000001090000000005_000000060504010800_020504000000060003_000002000706050301_030400000900020700_000005000000000004,
  0x090007000500080000_000000010700000000_030200000008000706_000003000000060507_050009000307000200_070106000204000000_000002070005040608_000705040803090102_000908020600000005,
  0x000006000300000700_040000000608000003_000000000407050000_080000030700010005_000400000006030000_020000080000070006_000702000800060000_000900060203000107_060003000100000500,
  0x060000000000030201_000408050100060007_000102030009040800_010604080903000702_000003000705000400_000500060004090103_020306000400000009_000000090000000000_050009000001070004,
  0x050100000000000006_000007000300000102_000006000000000908_010003000005000000_060000080400020501_000000000007000003_000204060900000000_000000000000000009_090005020700000304,
  0x000006000200070001_040000000003000000_000009000100000600_000000000008000007_000800000002060000_000107060500000008_000002050400030800_070000000006020100_000000000000000005,
  0x090100000003020000_000000000200000008_000004050001000607_070000000500080903_000000000000060000_000001020000000004_000200080400070500_000005030000000000_000000000100000006,
  0x000509040002030708_030001000708050004_040000000603020900_000007000005000800_020000000000000300_050803010000000002_000000000000040007_000300060000080000_080104000500060000,
  0x000002000000040100_000600000001000000_030100020004060700_080005090000010300_000000000002000000_000000000000070200_040307050009020001_010500040203000900_000809010600000405,
  0x020000040800050701_010400070000000300_000900000000040608_000701000005000402_080000090407060000_000609000203000800_090000030700000506_060003050004080200_050207000000030004,
  0x070805010304000000_090006070200010300_010000000000050400_000000020003000000_000000060007030800_030000000000020700_060709000501000000_000300080706000000_000108040000070000,
  0x000000090000080700_030000060000000001_000004000000000009_000000000800040005_010300000007000206_050009020000030007_040100050300060008_090200080100000000_000000000000000000,
  0x000300040009000701_000400050002000309_000000060001000004_080900070000000400_050100000003020806_040200000600000005_010000000900040000_030004000000000100_090608020104030000,
  0x000308000000050206_060000000500070300_070000000006010908_000007030004000000_090003060108040702_000000000009060800_000000000003000000_000109000005080007_020700000800030600,
  0x010400000800000000_020008000000090000_000306090001000000_070005080906000001_060001050003020000_030904010207060800_040103000008000000_000600020000000000_000000030000000608,
  0x040100000803070905_080000050006040100_000507010004000000_000003000102000000_090208000005000700_000401090307080200_070000000200010803_010900030008020000_030802070601000500,
  0x090405000006000003_000003000000090006_000000000900020000_000600000209010005_000000000301000907_000901000705000004_020007010000030009_000000070600000008_080100090503000002,
  0x020000080100000300_050008000300000000_030600000400000100_000005000002090600_000000000600070004_000000010900000200_090000000803000407_000002070500000000_070800000000010000,
  0x090002000006000000_000704010003060008_000801000700040003_000200000000000005_010009000000000000_000003000600000409_000605030002090007_000008000007000300_000107080400020006,
  0x000801020506090300_060002080903000501_090503010004020608_000104090207030800_030206050400000109_080907060300050204_020609040100080000_000000030602010905_000305070809060002,
  0x000000000000060000_000901050200000300_000000000304010200_000000020000090003_050703000400000800_000000000003050004_010609030002070005_000507000600000000_020304000100000900,
  0x020900080000000305_000008000503020700_000000000000060000_070009030004050801_010000060905070000_040000070008000603_000006000002000000_000401050000030206_000502000006080100,
  0x050000030104020000_090300020800070500_000208050709000001_000809000000000005_000000080007090003_000000040000000000_000100000008000400_080900000000010206_000003060000000008,
  0x000000080706000204_000004000002000300_020600000300010000_000000050000000000_000000000803000400_000100060009080007_000002000908000000_090400000007000100_000700000500060002,
  0x010007020004090005_050002060000070100_090300070501000004_020004050000010300_000705000102040900_000006090403050700_000000040600080000_000809000200000400_040500030007060000,
  0x050900000204000003_000006000700000500_000000010003070009_010600030000050000_070000000605000401_090005080000000000_040009070300000008_020301000809000700_060708040000030000,
  0x000000040000020601_000600000001030004_030100060200090700_010000050002080907_090000000003000000_000800000007060403_000005000004000800_040003070000000205_000701000009040000,
  0x000207050100060804_030106040000000200_000000090000000300_000600000007000005_040901000600000700_070000030000000600_000000000000090000_000009000000080500_060500000001070000,
  0x040905000000000006_020000040706000800_080000000009000304_090004060000000001_050201030007060900_000300000201040007_000406070900000000_000009020000070005_070002010000090600,
  0x050301000000060200_060000090500040800_090008060201000500_000003050106020000_000800000302000906_020005000008000003_000700020800000104_080500010004000002_000102000000000005,
  0x060000000000000100_070500010000090608_000004000600000500_080005000002040307_000000050007000801_030007040801050906_050008000000060200_000701000500080009_040003080209010705,
  0x000207030800060500_080906050102000400_030400060709000801_070300040500000106_090000000200040305_050604090301070008_040009000600080000_000708000005000000_000000080007050000,
  0x080900070305040600_000002010000000008_070600080002000900_060007000109000204_010800000000000705_000000060800000109_000000020000090806_090000000000000503_000000090003020400,
  0x000400060000000000_000001000007060200_000206000108000900_000504070800020000_020000000000000500_000903010200070008_000000050006090000_000102000309050700_000009000700000000,
  0x020708040000010000_000000080500000300_000003000006070800_080002000000000903_000001090003000004_090005000000000700_030000010400000506_050904000000000007_000200000900000400,
  0x040200000100090600_010306020005080004_000509040008010000_060405080300070000_000003000704050008_000800000502000000_030000050406020000_000000030207060001_000000090800040000,
  0x020800010307090400_000900050000000100_000103020906000005_050309000401000607_000200090703050804_080704060205010309_030501000000070900_090002000008040503_070408030509060200,
  0x000500000700040000_000800000006030507_000200000000010009_020401000007090300_000000090000080000_000700030000000200_080007040000000000_060005000003020400_000000000501000000,
  0x000600000004000900_050007000002080406_090000050600000107_020500070000000000_070004000503010609_000301080400070000_080000060200000700_000000000000090200_000000000007000803,
  0x000105060200040007_000003080100000009_000002040000000806_040501000006090702_000607050000080403_030009000004000000_010704000308000200_050300000000000904_000000000000000100,
  0x020401000000000000_000506090201000400_000000000400000005_010007080602000904_000005010904000703_000900000700060100_070109060800040002_060800000007090001_000200040100000800,
  0x000506070000000002_010000000500000804_000400090001050607_000003050200000000_000000040008000000_000604000007000508_000000080700000309_000308010000060700_090007000005000001,
  0x080709000000020306_000501000706000009_060403000002000000_010000000304090702_000008000007000000_000007060100000000_000100040000000005_000800000601000400_050300000208000000,
  0x020700050600000000_000405080000000600_060300040700000205_000000030000000900_000000060008010000_000004000509000000_040007020000000001_030500090006000700_000802000100030500,
  0x030106090004050007_050200060008000009_090804030000020600_020400080000090700_080005000009000104_000000070400080005_000003050000010008_010500040600070900_040002000800000000,
  0x000006000502000007_070100080000000000_020508000000000400_080002000904010000_000005000700000604_000001000000050000_050200030000000008_010000000200060300_000000090000000200,
  0x000000000002000003_070200000001000000_060500000000020000_000801000207000605_020000000806040107_040700030105000900_000602070008010409_080000020004000006_050400000600000000,
  0x000007000000000003_090000080403000105_000000000000000600_070000050000030000_000005020004000001_020901000000080000_060000000000050000_000000040500000008_000000000301000406,
  0x000100000805090203_050002000300000006_000309000000080004_010000050900000000_000000010003050000_000900000400070000_000000030600000805_000006000004000307_070000080502000900,
  0x040008000100000002_010006030002000000_000002080405010000_000000000000000100_000001000008000004_030004010200080500_000000000501000000_020107000800040005_050800000006030001,
  0x000005000000000600_000000060004030000_000800000007020001_000002040009000105_000400080206000309_000000000000040200_000003070005000800_000000010002050000_000504000000000706,
  0x010800000005000000_040900000000000007_070300080900000102_000000060801030004_030100000000000908_020000000004010005_090007040600000300_000500020100070000_000000000507020000,
  0x060900070201040508_040000000000020007_020705060000010900_070300000602000805_000100080000000004_000000040500000000_000000020106000000_010400050007030200_000006000800050700,
  0x010306080005040009_040200000301000007_000700000000080000_000002060000000703_000007000000000906_060009070200000804_000900020006030400_080603000900000002_020500030107090000,
  0x030000000007050106_090000000000070008_000806050102030900_060001020508000700_050708010000060300_020904000703010000_080603070000090401_010009040300080007_040007090001020003,
  0x000002010009000003_000000000000090004_090001000506020000_000008000900000602_020300000000000009_000900020003000807_080700000000000006_060100040300000000_000000090000080001,
  0x000309050000080000_000005060000000004_000000000208000309_010000070004000000_090600020003010005_000007010000060400_000001080000000500_000400030001000806_000003090506000201,
  0x000000000208050000_040000070000060000_060800000901000000_000706000000000100_000204000005000000_000009020600080500_000007050802000003_090408030706000005_000503000100000600,
  0x000100000900000003_000000010200000004_000002000000000001_060900000305010208_000001060000040307_080007020100060000_020603080701090000_010700000000000000_000500090000070000,
  0x000900060004000100_010007000800000000_030000000700040000_000000040206010007_070500080300060204_000006050007090000_000000000900080000_050000030000020601_020008000605000400,
  0x060004000005010003_050200030001000609_000103040000000008_080006000000000700_070000020308060104_010000000900030800_000001000500000407_000500000407080001_000700000000000006,
  0x000000000007010800_080000000009000007_000307000001000004_000604000005090000_000003000004070605_010500070000000200_000000000000000309_090000080403060000_000700000000080400,
  0x030007000000000009_060400030802070000_000000070509000600_000000050000000006_070006040300000000_080900000000010000_000002000005000300_000000080200000100_000000010603000802,
  0x000006000802040900_030000000504000000_090000000000000000_000000000000090008_050604080700020300_080000020100000000_000800000001050400_000002060305080000_000000000000070006,
  0x000903050608010000_060200000100000805_000500000004000300_000100000006020900_000000000700000100_000000010905000006_030409060000000200_000000000307000004_020700040000000600,
  0x000000000004020600_060003000001000700_000801060000000900_020006070005000003_050000000300000100_030100020600070009_090005000000010206_010007090003000008_080400010000090007,
  0x010000080000070003_000300040000000501_000000000000000604_080000000000000000_060004070001030008_020000050400000706_000102060000000007_000007000003000109_000609010007000300,
  0x090000070006000408_040000010803000005_000008000402000000_000001020000040003_020405030001080600_030800040005000109_010000000000060000_080004000007000001_070203000000000004,
  0x000000000002000006_060000000000000700_020400050607000008_000208040109070000_090006000703080001_070000000008020000_000000070005060004_050002030001000007_000907000206000103,
  0x020609070800040103_070300000601000900_080100090003020000_090001030000060405_000503000100000000_000000040508000009_000000000900070000_000002080300090000_050006000000030802,
  0x000803000000070005_070000000400000001_000905000000000806_020100040000000009_000006000802010000_000300010007000000_000000080003000002_060208000504000003_030701060200000500,
  0x070000050000030001_000008000700090400_000000090804070002_000002000001060000_000106070000040205_000805060000000307_050200040300000000_000000020000000104_060004080000000000,
  0x000000000109000504_000100000400060000_080405000603000109_000000000000000001_010000000000030800_040003000006000007_000000000802000300_060000000300090200_030208090000070400,
  0x000902000000040100_010000090000000708_000800000001020900_090001040006000000_000300020005000000_020704000008050009_000600030002070800_030208000100000000_000100080009000000,
  0x060207090800000000_080503000000000000_000400020603000700_000000070508010000_000006040002070809_000802000000030000_000708000001000504_000605080000090300_090300050406000000,
  0x070000040008000201_000004000005030008_000000000000000607_060207090004080005_040809020501060003_000500000806090400_000601030002000800_090008050100000306_000702080600010500,
  0x000000050703000209_090000000000050400_000003040900010007_000408000000070906_000000010006030800_060002000800000500_000100000000020000_000200000507060000_080000060002000300]
theorem mixed_18_ok : mixed_18.all fastOK = true := chunkOK_sound _ (by decide +kernel)

/-- `mixed` (10000_mixed_puzzles.npy), boards 4750..4999 -/
def mixed_19 : List Nat := [
  0x020905000104000000_000400000300000900_060000000209000504_050100000002090403_000800040905000601_000700000600000002_080200030006040709_000503020400060100_000000000000030005,
  0x030000000006000200_000204000008000107_000700020003040009_000600080204010700_070801050609000300_000000000301080006_000007000000090002_040000010000000000_020000030000060500,
  0x000001060508000002_060007000100000000_000000040709000100_010002000005040006_000700000900000000_050600020400070800_000500000000010000_080203000601050000_000004050207000600,
  0x000000000800020000_000806070000000004_020000000903000700_000500030107000000_000400000009050200_080000050002070100_000200090704000600_000907000501000402_010600020000000000,
  0x000001000000000000_000005030700000001_000900050008000000_050003060000070102_090000010007060000_070100000803040905_030400090600000507_000000000301000200_000700000005090600,
  0x090008050204060300_050703000006000008_000400080300090001_030205060901000700_060804000502010903_000907000000020605_000600020003050800_000000010605000002_070500000000030006,
  0x000100000904050006_040500000002030000_020006050007000804_000001090000070403_060000010000000008_080703000005000900_090000000600000000_010005000200080607_070000000500090000,
  0x000009010400020800_000000020908050306_080300060000090100_030000090500040600_090004000000070502_010000070600000000_020000080307000000_000408000009060200_000000040200000709,
  0x000504030000020600_010007000000090500_000009010600000004_000805000002040107_000003000800000900_070000040500030800_050000090400000000_000008000003000400_000900020708000305,
  0x000006090004000207_000000000702000000_040007000301000605_000800020005000000_090700000003020500_000602000000000400_000000030206000004_020100070000000000_000003000009080002,
  0x060500000800000001_090002000000060000_000304000002070008_020003040007080005_000600000000000009_050008060000000300_030100070006000000_080200010500090700_040005000000000000,
  0x000109060003040000_000006020900000000_000700000500000002_000000000200010000_000005000806000403_070200040000000800_060001090307000000_000000080400000605_080000050000000000,
  0x080000020700030906_070309060800040205_000506000900080100_040603000008010509_000700000004000800_000200010500070403_030800000400000601_050001030602000008_000900000100000000,
  0x020000000000030704_080001000300000000_070304000509000100_010007000000000003_000009030002000000_030000000008010405_000000070905060000_000002080003040000_060000000204090300,
  0x000300080009040000_000900040000020000_000000000500000908_000008030000000000_070400050806090000_030009000200000000_000003000008000602_000200070400030000_000805000000000704,
  0x000000000200000003_000000000100050002_020300050800000609_000400020000000300_000108000700000904_000002000400000800_070204000000000000_000500040000030006_090600080500000000,
  0x020400030600000107_000000000000000003_080003090004000002_050600000000000000_040802000301060905_000007000000000200_010000080000030006_000509060007010800_000000010400000000,
  0x040600070000000000_000100000500000703_050008090300010000_000800000003000100_010000080000000500_000302050601090008_000000000700000000_080201000005060900_000007000809000301,
  0x090000000000000000_000702000000030408_000000000806020007_000000000200060000_050000030000010000_000203000009000000_070309010600000800_000004000300090000_000006000004070000,
  0x080604070905020103_070902010003000400_000003000006080907_020000090600030000_000809050007010602_030700020001000008_060200000004000009_000000000000000205_000007030002060001,
  0x000809000000000100_000300000100000409_000000040003080700_060008000300070002_000501000004060308_000000000002040501_050900000600000000_000000000000000600_000100030400000207,
  0x040103000700000008_070500000209000600_060902040308070105_030000090504000002_020000000003050000_000400080002010000_010004030000080000_080305000001020000_090007000805040301,
  0x000208000100000609_000701000306080002_000000000000000100_070900000200000801_080006000009000007_000000000800090005_000000070900000200_060400000000010000_000802000000000000,
  0x060000080000000400_040902000705000800_050800090403060700_000004070106090008_000005000908040201_090000020000030607_000000000300000900_010200040009000305_030009050807020106,
  0x080001000000000000_090200000008060700_000003000000080900_000907000100050000_050100080009070300_000600000705000000_020009070400010006_010300000502040000_000405060800090000,
  0x030004000800090000_000508000300020000_000700060500030008_000600050408000209_000000090006000300_020409000001060005_000000040005000902_000201000000050000_050900020100080403,
  0x000700000300010200_000000000000030600_030200070105080000_070900010000000500_010403000009000706_000005020000090001_000504000001000800_020308040007060109_090007000006000003,
  0x030002000601040000_000000030400020001_000000050000080003_020003070000000104_010005040000000200_060400000005030008_050700090000010800_090200000804000000_000000010500090400,
  0x000000060008070000_000708040900020000_000602030500040001_000000080002000006_000009000000050002_000106000000000000_000000050409000200_070904000000000000_000001000000060400,
  0x000203050801060000_080109000000000002_000000000903000800_000001000000040208_000000000000000000_020800000006000703_030000010709020400_000000060000080000_000500000208000607,
  0x000500040601000000_000908000007000001_060000000003020005_070000000000000100_000009000008050002_000005000200070009_000400000000000500_000702000009030000_000000050300000000,
  0x010003000000070204_000000010300080000_090005000000060000_060700000000000008_000904000000000000_050000090002000000_000500060000000000_040000080009030006_000300040100000809,
  0x050000000100000700_000601050003000002_000003080000000501_000300010005000000_000000000000000800_090500070400000006_000007060000090005_000406090007000008_080900020000000007,
  0x040009050702080300_000700000003040001_080006000000000200_000608000000090000_090000000806000000_000000000500010008_030001000400000807_060000070008000000_000800020109000003,
  0x090400000300000002_050301070400000008_000007000900000300_070000000804000000_020003000007000005_000000000105000900_040700060000000100_000006010000000500_000900000000020000,
  0x050302060709040008_000006010000050200_000401020500060309_010700080000020903_080203040900070506_000905030207010000_040500070103090000_020107000006000405_000009050400000701,
  0x060905020800000007_030200000004090605_000100000006080200_050700080409000000_080403060200070509_090600030507000100_040307090602000801_010500040008020706_020006010000000900,
  0x000000010800000603_030008090200040001_000105000000080000_080000060009020000_000402050307090008_090500000100030000_010000000602070000_000000000001000004_020006040000010009,
  0x060100040007000005_000009000502060104_000000060000070000_040007000205010009_000800070609000400_090000000408020000_000004000003000600_000200000004000901_080000000700000500,
  0x040006080000050001_030000000602040708_000708030405000200_090502000100000400_080603070204000005_000104000000000602_050309000800020006_020400090006000807_060000000301000504,
  0x020000040600000900_000804010000030700_000605080700020004_060009000408070300_050002000900080001_070300000000040000_040000060005010003_000003090004060007_000006000001000002,
  0x000400000006010002_000601020800040003_000207010405060009_000803000600000004_010004030708050000_000006040001030000_060002000100090007_000000000904020305_040000000000000601,
  0x090300000500000007_000007000601000900_000005090702000004_050000080103040702_000108050000060000_030000000209000000_070003010000000008_080001020305000000_060000000800090100,
  0x000300010200050609_000000000309010008_000000000800030204_090201000000060500_060004090103020007_080703000000000000_020006000901070305_070800030502000106_030005000704080002,
  0x000000000000080400_000905040003020107_060000000000000005_050000000000000609_040000000001000700_030800060000000000_070000020004000000_090006000005000001_000300000800000002,
  0x000508030700000000_000000080500000401_000409000000080007_060104000000000008_000002000000010000_000705000900000006_000000010400000805_000000000007000600_000000000800090003,
  0x000308070001090400_000000000408030206_000000030000000708_030000000700040001_010000020004000000_000600000305000800_000000050203000000_050000000007000004_080000000109000300,
  0x000000000000000500_000000000008000009_000000010005080003_000005000000030900_000008000300060400_090200000000000007_060501040907000300_000800020000000704_000002000803090006,
  0x080001000300000005_040003010000000800_070500080000040001_000704000001000002_000000000006000103_010009070200080000_030406000002000908_000200000000000000_000100000908030006,
  0x010706000905040803_000500080103000000_020000070604000000_070000000000090200_050304000009000100_090100040807000000_030405010706080902_080000000400060300_060200090008050001,
  0x060502040007000900_040009000300060005_030800000006000104_000406090000010008_000900010000000607_000000000000000209_000001000409000806_000003080200000401_000000030000090502,
  0x000804030701090005_050007000902010803_030100000600000200_000700000005030906_000000070300000502_090500020000000007_070006000100000008_040908060003020000_000005000000060009,
  0x000000010200040600_000003060400000000_060405090800000200_000000080000050006_000009050002070003_010004000300000802_000007000008000000_040300020509000700_050006000001000000,
  0x000008000304000002_020000070900000004_000600080000070003_000200000600080000_000005000007000009_000006000500000200_000000090201000000_040000060800020001_010002000000000506,
  0x000004000500000000_000208000009000407_060700000000050000_020903000000000800_000000000300070004_080000060102030900_000000000201000006_000600040003020000_000100000006000003,
  0x070100000803040009_040003000009000500_080009000204060007_000700090506030400_000600000008000705_000000030107020006_090000000600000003_000007040001000900_000302070900080004,
  0x050900000003060000_000000060000000200_000206010000090507_000800000000000000_040000000300000702_000005000700000109_000008000405020300_000004030100070900_000000020000040800,
  0x010900020500070000_050700000900060002_000200010700000000_000602000109000807_000805060000000401_040000080300000200_020006090003000000_080000000002000500_070409050800020000,
  0x000100020004000000_070000000001020000_000002060800000301_000004000709000103_010005000000000208_030000080002000000_000001070200000609_000000090406010007_000007010300080402,
  0x020007000800010605_080004010705020900_000500030206000000_070800000003000102_090000000400000306_000000080002000709_030000000500060201_040001000608030000_050000020000090800,
  0x000600000000000309_000301000500080206_080000000300000100_050203070008040001_060007010204030800_000800030005060000_030509060700020000_070006000809010003_020000050400090607,
  0x000106030507000409_070000010800000600_080005000002000700_000500090700040200_090000040000060000_000607080201000905_060002070000000500_010700000604000000_050403000000070100,
  0x060100070000040500_030807000605090001_000004030001070800_010002080000000900_000006010709000000_090700000000010405_000001000007000002_000000000806050000_040600020100080000,
  0x000008040005020007_050900000000000100_030000000002050008_000300000400060702_090700060200080000_000006000100000409_000801000009070000_020509000700000000_070000000000000800,
  0x060509000002070308_000004030907000106_010300000500090400_000900070300080001_030000040809060005_050700000001040903_000200000600000000_000405090003020607_000603020708000004,
  0x000006070809000105_090800000003070002_000300050002000608_000000040000000903_000000000901000000_000000020008010700_000203000000060500_000700090005000000_050900000006000800,
  0x000005000002000008_090801040600020000_000600050700000000_020500000806000400_080100000405000009_000400000000000000_000000060000000207_050004030000000000_030706080000050004,
  0x060900000000000000_000408010905060700_000702000008000400_000005000006000007_000000000203000008_010800090500000000_000009000301000004_000200050000000600_070100000002090500,
  0x000000080102000400_050804030006010200_000600050007000803_000006000004000500_000205000700000000_000409000000000701_000900070003000006_000000000200000900_010008000000040300,
  0x000300080000050004_040900000603000000_080000000007000001_000100060304000205_000000070000000003_000000000000000006_000001040200000000_090000030800000407_000804000005000300,
  0x000700000002000409_030006000000050107_040000050700000600_010802090500060000_060400010200000005_000500030400010200_000901000300000806_000305020600040001_020604070001090000,
  0x010003000000000504_000800020304000006_090004050000000700_080000000007000000_000400000003000001_020005080000070000_000000000000090000_000000040000000107_000702000108000300,
  0x090000020500000400_060000010000000000_030500000900000102_000900000005000800_000400030108090200_000100040200050000_000007000003000000_050602070001030004_000000000602010700,
  0x060407050000000009_050009000100040300_020001080409000700_080000070004010903_000600010805020000_070100030902000005_010200000000070600_000700040500090201_000900020701030500,
  0x000002090805030400_000500000006020807_000108000307050000_000804000000000100_020007080001060504_010600000002000900_000001000000090300_000000060008000200_050000000200000008,
  0x000000030500010400_000002000001000500_000001020000000000_080000000900040006_010604050307000008_090203000000050000_000007040800000000_000000000000000800_000500060200030007,
  0x000207000000030001_000108040003060200_000000000900000007_000400000007000000_000005080009070602_000000050106090000_000000070501020000_000001000600000000_050904030208010000,
  0x000000000000000000_000403000507000000_000005020000030000_000500000906070100_010007000000020906_000300010000080005_090000040108050000_000008000609000000_000004070000060009,
  0x070500080900040600_000604050002070109_000000040006000005_090000000104050006_000406020008090000_000002090600000000_020007000800000004_060300000400000508_000005060203010900,
  0x030009070204010806_020000000305070904_000007090801000205_070904020100060508_000002000500000007_000605000900020103_050700000600040309_000000050009000600_000006030000050002,
  0x030000000009010002_060008000100090400_000900080002000000_070100000000030600_000000060004080701_000800000000000009_080000000300000000_090600000005040203_000001000200060908,
  0x000005040007090000_070000000003000001_000000000900000000_000004000600000809_000000050002040000_000002000004000007_010407030009000000_050309000006000000_000806010000000004,
  0x000301020608000000_000206000004000008_000000000000000402_010800000000040500_050002000400000000_000007080000000003_000009000000080000_020500060000000001_060008040007090000,
  0x000004000300070000_090001050007030600_000600000209040005_000100090000000300_000700020800000006_000009070105020008_020000010908000000_010006040000080500_070008000500000200,
  0x000500000004070800_070008020900000300_000604080100000005_040702000000060003_090000050406080207_000806070002090100_000403060000000709_000200090000000000_080907000503010002,
  0x000201000000000000_000000000003000000_000000060900000007_000002000706000003_090800000000000000_000007000205040801_000003050007000000_000400000009000300_000006000400090508,
  0x000100000000050000_000000000007000006_000608050004000900_000700000100000502_010009000000000607_080205070600010300_070006080003000005_020901060705000003_000000000000000000,
  0x000703090201050600_000200080004000307_060104030000090802_000009040000060005_000800000000000400_040502000900030108_000000010006000000_050000000300080006_030000050400000700,
  0x000004000009000108_000009040008000007_000002000700040000_070100000002000005_080900000000000000_000200050903080700_000008090006000300_000307020004000006_000001000807090002,
  0x050900020000000004_020003080000070901_070601030004020005_030000000800090000_000800050400010700_000007060309000500_000000040600050008_080004000000000009_000002090100040000,
  0x000308090000060001_040000050300000700_000000070100000000_020500000800090004_000900020000080100_000807000904000200_090006040005000003_080000000000000002_010000080000070600,
  0x000100020000070000_030706050004080200_040208000000000500_070405080206000009_000000000000020705_000000000100040000_090600000500030100_000000000000050807_000502000000000904,
  0x030000000006010907_080604000901020500_010007030002000000_070001080209060000_060000000005080002_000208060703090000_020706090008000004_000005020007030000_090800000000070200,
  0x000001070009000200_000000000800060709_070500000203000100_010008030604000002_090000080507010000_000004000002070000_080000000706050400_000000000900000000_040605010308020907,
  0x000000000000000000_070000050904000000_000400000208010700_000700000501000006_000805000000000000_090002000000040100_040000000002070000_060008000100000504_000100090000080000,
  0x000300000500000000_080501070000040000_000400000306000700_040200060900000100_000000000400090008_050609000800070000_020700000603000000_000900000705000800_030000000004000007,
  0x000002000300060500_010700000500000000_090003020000000700_000300000004080205_000000000000000300_000100000203000007_000000040805070003_050000000100000000_000000090000000004,
  0x000803000900050000_000005020007000809_000000000000010000_000000080500000000_000408000103000005_050200000006000900_000904070008000003_000300000005090400_000006030009000001,
  0x080702000300010000_000100020000030600_000000000000000008_000200040700000000_030000060502000000_000004030000000000_060005080904070102_000000000000050003_000000050003090800,
  0x040903070601000508_050106040002090700_000702090503040000_000600010904050207_010205060300000004_090407080205000306_020501030700000000_070809020406030105_060004050109070802,
  0x000007080001050002_050000070002080000_060000000400000001_000109000007000000_030000090200000700_070208000000030000_000000000804000000_080000020003060007_000003060009040008,
  0x090000000207080000_000700000000000400_000600000003000000_060000000900040300_000000060000000800_020000080000010900_000508030700000000_030006020800050704_070209000000000000,
  0x000800000000030002_000103000006080004_000000000003000100_050300000002000000_090004000008010000_080200000509060000_000002080007050301_030608000001090407_000000030900000006,
  0x000000000400000000_010900070003000000_000000000200000007_020009000005000000_000800040000020000_000307020009000001_030601050002040009_000408000000010000_090002000100000300,
  0x000500000000060000_080000000001000703_030002040009000008_000001000006000000_000200000403000800_000000010200040006_050000080000000002_020403070005080100_000000000002000407,
  0x000002080009000000_000008030607020900_000000050001000700_000000000806000005_000001020003000609_030006070000000002_060000000100090200_080000060002000500_000003000000000800,
  0x010504030007000209_030000000409000006_090706000208040000_000000000800060007_000009000000000800_040805000702090300_000000000000020008_000107020000030904_000000000300070100,
  0x050000000709000608_000608050203070009_000000000000020000_060004030000000900_080000060500000200_020107080904060500_000005000300090800_090000020800030000_000801090406050002,
  0x090000000201070306_020008000400010000_000001070000040800_070005090000000000_000002000307000900_030900000000080407_000000000904000008_010800020005000600_040009030006000001,
  0x000708000605000003_060000000003070005_000005000000040806_000000000804000500_030000050009000700_000502000006000400_080009060000000007_000603010000080200_000000000900000004,
  0x010902030000000700_080000000107000400_000700000900010006_090406000000030002_070001080003000000_000500000209060100_000000060005080004_000300000800070001_060009010704000005,
  0x010302050607000400_000008040001060003_000006080300000100_040003090000010206_000800010000000004_090201060000070500_000507030804090600_000000000105000300_000104000900000007,
  0x000200000300000600_030006000004050000_000400050602000300_060903080001040700_000800000700000100_000007000000000000_000504000200000003_000000040000010000_070300090000020006,
  0x090000030800060000_010000000200050000_000003000100000204_000000070300040605_000904000500000100_000500010002030000_000005000900070006_000608050000000300_070009000000010508,
  0x000400000708000605_030700000506000000_080500000000030900_040000000000000001_000009010000000408_010800000003000206_000003080000060000_020000050307080109_070000000601020503,
  0x000008000000000103_060400020000000700_000000000704000906_000001000008000500_000000000500000400_050006040000010000_030000010000000009_000000030900050004_090004050007000600,
  0x000905000600070400_000300090701000000_070601000204000000_010003000908000702_090800040000050100_000400000100080000_000200010006000500_040706000009000000_000000000802060304,
  0x000403010000000002_010008020900040000_050000000006000000_000001000000020008_000804050102070603_020306070400000000_080600090704030001_000007000200090005_030002000000060704,
  0x070000090000000601_020601000007000000_050000000200000000_000009000600040000_000000000000030000_000200080100050000_000802000705000000_000000000008060200_000000000000080705,
  0x070000050204010000_020000090006000308_090600000000070000_000902000007030000_080406000003090100_050300010008000000_040500030000000000_030000060009050000_000001000005000000,
  0x030700090004080506_010800000506020004_050400000300000900_000008050000000009_090603000007050208_000007020809030001_060005040708000102_000001000200040000_070004030000000005,
  0x000400000000000003_060008000900000100_090200000400000805_000000040500000000_000600000008000000_000305090001020400_000000030000000000_030000000800000600_010000000000090307,
  0x040809000701060200_000102000600050700_060700080300000900_080600000900020400_000300000000000006_050000070806000100_000406000103000000_000008060507040300_000000090408070002,
  0x000700000005040000_080309060007000000_050002010309000600_040806000703000902_010000000000000000_000007090800000000_030008000000000004_070104030008000000_090600020004000703,
  0x010006000803050000_070000000000040003_000000040700090008_000000000007000000_040200010900000000_000003020000000704_000000000000080009_020700000309060000_030008000501070000,
  0x020001000503000000_030005000009000006_000900000700040300_000006090300000204_000009000104060807_000204050607010903_000000080005030002_040003070201090600_090802030406000500,
  0x000600020000000009_030500000000000006_000800090506010000_070300040100000002_000400000000000000_000000000607000000_000005000200000003_060704050309080200_000203060000050007,
  0x060204000300050900_010300080600040000_000000050000030000_080600040003090100_090400060100000500_000103090000070006_000000010004060005_000001000700000809_030006020900010700,
  0x040000010000000003_020900060700000000_030005000908000000_090000050000000206_000201000000000807_000400020007000009_060304080200090700_000802000000000004_010009070004020000,
  0x000002000000040000_000600000009070002_000000000200000000_000300040900000007_000000070600090000_040007050000000200_060000000405030700_080401020007000900_000000000806000100,
  0x050007020408010006_060004090705000200_000209000001000400_000500000000030709_000803050000040601_000900000603020508_000402010006000005_000700030002000100_000608040000090002,
  0x000900020000030100_060001030000000000_030000000000000700_000000090000000507_080000060100000900_090207040500000000_020600000000070001_000300000209060008_010004070600090000,
  0x000001000200050900_040002000700000000_000005000000000002_010400000000000600_060203000900080000_000000020000000100_000100050803000400_000300070100000008_050007000604030001,
  0x000805000300010000_000302040600050009_000000000000000000_050000000100030000_000000000400000908_070000000900040000_090004020001080006_000201000003000000_000006090000000007,
  0x020001000604090005_000000050000060008_000600000007030000_030000040109000500_000806030000010009_000900060805000302_000000000200000901_000102000500000600_000000000000020000,
  0x060304020907000008_000000000400000603_090001060300000200_000009080200000104_000003000005080900_000006000000000000_030008000600000409_000005000000000300_040000090000000800,
  0x090702010000040000_080600030000020900_000003050902000706_000201080300000400_000000070500000802_000800020104050300_000004090201070000_020900060000000000_070100000003090000,
  0x060009040000000105_000100020000040000_000000090001030600_000002010300090000_000500070000000003_000300050900000000_040000080100060300_000000060000010900_010007000000050802,
  0x000000040000070506_010000000500080000_000800020300000409_060000000900000203_000000000000000700_000000030000090001_000300000000000000_080700060403000100_000002070008000000,
  0x000106000009080300_000300010800000000_040802000300000000_030600050001000700_090700000400000002_000000090006000000_000003040000050007_060000080003000400_000204070000060003,
  0x070009020000000000_000000040000060300_000300000700000200_040100080500000609_030900000007000501_000005010902070400_080001070004000005_000003090601000000_090000000000000000,
  0x040000030000060005_070106090504080002_000805010600040009_000007000200000000_000604000000000908_010002000405000600_000008000003050400_000500000806000003_020000050007000006,
  0x080000000000040300_000903000004000800_070400000300000509_000800000000000001_000300080006000000_000001090000030000_000600000800070000_010004070000000200_000000000400050100,
  0x030000020004000509_000000000007000000_080400000600070200_000009070006000300_000600080300010905_020008000001060007_000000060900030800_040800010000000706_060003000700000002,
  0x080406030500020009_050907000400000308_010003080907040005_030000020800060000_060102040700080003_090000010306050207_000301070000000500_000009000204030800_020000090100000000,
  0x030001040908000607_000009000500030100_050006070000020908_000004000001000000_080700090604010000_010602000807000000_040003000705000002_060007000402090000_020508000000070400,
  0x000500000000000009_080000000001000000_070000080000000000_020805000700060000_000001000800000000_060300010005000400_000004060000000500_000002050304000000_000100070000040600,
  0x060305000000000401_000008000904000003_040900000000080200_000704000803020000_050600020007000300_000800000005040006_080006070001000004_020100000009060000_000000000008000000,
  0x030000000802090000_010005040000000007_020600070001080005_050000000708040001_080007000104050002_000006020000070900_060001000000020800_070400000209000503_000300000000010700,
  0x030006000007090000_070000060001000000_020000000903000000_000000050702000400_000001000006070000_000000000400060003_010500000000080000_090004080000000306_080003000000040000,
  0x020900050104000600_000600020800000507_000805000000000100_000000030500070409_000700000409050000_050009010000000308_000000000000000700_000002080001000000_090006000307000802,
  0x000009000001000004_000600000500000900_040007000600010200_000000050000000000_010005000800000000_090200000000000708_000000060708000003_000804090000000000_000003000000080000,
  0x000000070000000803_000700000000000000_020000060300000000_060000000502030400_030508000006000200_000000000701000005_050006020907000300_000900000000020500_000002010000000708,
  0x000002000000040800_000003020009000700_040900050708000000_000000010600070902_000005070000010308_000007000003060000_000000060000000400_070000000002090000_030000000907000605,
  0x040100020007030000_080307090400010000_000900010008040500_000000060700080400_050001000004060702_070004000002000103_000006000009020800_000700000000050000_010000080003070000,
  0x000900030106000000_060301070400090200_080407000900060001_030504000700000000_010000050304070000_090006000201000000_000009000500080400_040805000603000007_020100040007000009,
  0x060000000000080004_090007030800000006_010008050000000000_000003060000010005_000700000003000002_000000070000000408_000106040000000809_030509010608000200_040002000500000000,
  0x000809000200060100_010004000600000002_000000030109000000_040000090800000000_050001070400020308_000000000502000000_000008000300000000_000006050000080000_000103000000000007,
  0x030408050600000000_000901000003060002_000000000000000300_000000060000030200_040306020700010905_020000030009000406_000000080300070600_090803000200000104_000600090500020003,
  0x000004030000000100_050006040107020800_000003000800040000_000600000003000001_000508010200000700_000001060000000000_000400000305000208_000300020600070900_060209070008010000,
  0x000009000106000708_000003000902000001_000700040005090200_000301000000060802_000000060700000104_000004000000000009_030405000000000006_000608090504000007_000000000003000000,
  0x070003050209060104_000000060000000000_000005000004080000_060400010008070905_010900000605040000_030000090402000600_000304000006000000_000006080001090003_050100000703000000,
  0x030908040201000500_000100000700000803_000004060000020000_010007000409000005_080305070600000400_040009050000000700_000803020007060000_000002000004090300_000001000306050007,
  0x040800000000000200_070301000000060500_090602050800000003_030000000008000400_050407030006000901_000109000700000600_010500080000090300_000003010509000000_000900000000000100,
  0x000100000000050800_020000000000000007_000000000700000104_000000000800000000_070009000600000201_000800050009000000_030706000100040000_000000060907010005_000000000008000700,
  0x000903070006000400_000705000000000008_040600080500070109_020806050700000301_090000000000080500_000501000300000200_030000000900000004_050400000207010000_000007000804000902,
  0x000000000001000000_030508000007010006_020700050400090000_090402060708050003_000805030004000709_000007020000000800_000009000000040600_080600010502000907_070100040600080502,
  0x080000000003000000_000000040000090003_050703090100000002_000300020009000001_000800050607030204_000005030400000008_000200000904060000_030400000705000800_090000080000000000,
  0x010000070400000609_000000000200070408_000008000009000000_020600090500000807_000401030007000200_000007000002000000_080000040003000705_030005000000000900_000004000005060001,
  0x000702060000000308_060000080200000701_000300000109020006_000000040000000500_070000000800030900_000405090307060100_000503000000010009_020000000001000000_090601030000070005,
  0x020604000500000907_000000080002040003_080000000009000000_000006050807000000_010700040000000005_000400030000000000_060009000108000002_000001020000060000_070200000000050008,
  0x000000000006020800_020800000004000300_000003080900070000_000907000000000604_000400000600050000_000002000300000000_000005000400000700_000000020709000000_000701050003000902,
  0x080003010400020000_090004060000000005_000700030009000006_050000020604010903_030001000000070600_000400070000050800_070000000900060008_000008000006000007_000006000002030000,
  0x050000010408090200_040209000300080107_080106020900050403_000900080000040600_000504000000020708_060700040005000001_090603000000010004_070800000100000500_000405060809070300,
  0x060007020400000009_040209000100070608_000800090706020004_050000000007090802_000008050000000400_000400000209060100_080000060002000700_000000070500000000_000702010000050906,
  0x000604000000070200_010000070900000800_090007000402050000_000700000200000008_000106000804020000_050008000600040000_020000040000060001_000000020005000407_000000060109000500,
  0x000001000000090000_000607080004020300_090004000000060508_000305000002000009_070009000006040203_060402000000080105_020008040700000006_010906030208000400_040700000509000800,
  0x090508000100020006_000600050008010300_030000020006000805_040300000509070001_070900000300050408_000005070000000600_000000000005040102_050200000607000903_080109040000060507,
  0x090208030006010000_000500080000000300_030006000004000000_010000000008000600_000000010000090003_000800000000020001_000300090000050000_000000070200060000_060009000000000000,
  0x000608040903000105_090502060008000000_010000000500000809_000200000309040700_030000080600000500_000100020000000000_020000010800000300_060703000000000008_040000030000050000,
  0x000300010000000007_000009050803000402_000100040600000000_000007060005040000_040900080700000500_050806000004000300_000600000500030000_070000000109000000_000000000000000108,
  0x000600030000000002_000100000002000004_040000000005070900_000700000209010000_010000000006090000_030509080000060200_020000000500080600_050300020000000009_070400090000000500,
  0x010000000000000500_000600000500040000_000200080009000100_030000000700060000_000702000901050000_060105000400000000_000500000103020900_070000000000000005_020001070800000600,
  0x000500080009000006_000800000000030500_070000000000000000_040601000007080903_000003000008050400_080900000000000002_010000000706000005_000000000402060807_000000030000040000,
  0x030000000109000000_050900080000000103_010002000500000409_000701060204000000_000000030000010000_000003000800040007_000006000000030000_070105040000000900_000300000600050800,
  0x040009000008010000_000006040000000509_050700000009000800_080607000003000901_020005000000000708_090100070805040200_070508090000060300_000002000307000405_060004000500090107,
  0x070900000000000300_000000000000010000_000001000000000008_000000080000070004_050000000709000000_030709000402080005_000007030200000506_020005000006000800_000000000804020007,
  0x090600000203000008_020001000000030000_000800000000050209_070000000000000800_000002080600000003_000906000300070400_010200030504060900_060500000800040000_000309060701000500,
  0x000005070208010300_010400090605000000_000008030000090506_000000000009020000_000800010000000000_030000060002040000_000000000000000400_000300050800060009_060000000000030005,
  0x000000060007030900_000000090000040105_000000080500000600_000002050006010000_000706000004000000_000000030002000806_050103000600000000_000204000100060000_000600000005090001,
  0x000400030000000000_020000000006010004_000603000700090000_000008000001000006_090000040000050000_000000000005000708_030009000000000800_070100060300000000_060000000000000503,
  0x000000000402000007_090004030000000000_000800000005000004_000008060301000000_000509020000000400_020000000000070600_000905000604010003_000000010903050006_000100050000000700,
  0x000401090206030500_000006080705000100_000000000000000800_070000060400000200_000000050007090000_000804020900000600_060700040000080000_000302070001000000_040008030009050000,
  0x070008000900000005_040009000705000803_000503080000000200_000000000000000004_050300070001000900_000000000009030000_030000000600020700_000800000200000006_000700010500080000,
  0x040700000306000508_000000000709010000_000000000800000406_070300000200000100_000804000600000000_020000030007000000_060000000000000005_000400000000000000_010905000002060000,
  0x080000060002000900_000000000000000000_030602000000080401_040006000000000000_010000000700000200_050000020400000003_000700010900000006_000100080000000500_060004070200000800,
  0x020009000103000000_000003000000010004_050100080400030600_000700000800000000_090000000002000708_080500000600090000_010900000000000006_070000000900000100_000006000007080009,
  0x030001050806020904_090006070002000100_000005010000060300_010304000507080002_060200000103000000_050008060004000000_000000000000000800_080009000001030000_000003020608070009,
  0x020004050700000001_000000000400050002_050900060208000000_000200000004000000_040000000802000009_070809000000000400_060508020000040007_090400000500000000_000702040006090800,
  0x050900040000000706_020400000600030500_070000000305000000_030200080506090104_060500000401000308_080100000709000005_000000050900010000_010000060800050900_090005010203000607,
  0x000000050004000102_000200010000000000_040300000000000000_090000000000030408_030804000002000001_010600080400000000_000008020000010307_020700000100050600_000100000000020004,
  0x090000000006030800_000007000000000400_000000040008000900_000302000104000000_000000000000000503_000000070000060000_080006010009000000_000105000007090000_000000080600000307,
  0x010700000409080000_000609000001070400_040508000006090000_000000080005010009_000300000000020600_090800000602000500_000005000103000004_070000000004030002_000000060008050000,
  0x040005000300060200_000308010000050000_060702050400030001_010000000806040005_000000000705010009_000600000104000000_080006040203000000_020001060007000000_070000080000000406,
  0x050900000708000000_070002000600000004_000004050001030900_040700000000050003_020806070003040009_000000000800000206_060005000000010000_000408020300000705_090000010000060308,
  0x060900020007080003_070800000400020900_010203000900040007_000300060000000802_000008040003010700_000000010005000000_080000090002070000_030100000504060200_050700080601030409,
  0x000009050702080004_000000080904000701_080704030601000009_010908020307040605_070005010000000002_040003060800000107_000501000208000906_090406070103020000_020807090506010003,
  0x000008000400000107_020000000901000406_000000000000000000_010004030000000700_080003020000040901_000700040100000000_070000010300000005_000001050800000203_060300000700010800,
  0x000005060400000003_020904000100000605_030600000908000400_000000070300000000_000003080509000004_010000000006000308_000006000805020000_000102000000000506_090500000600040801,
  0x000000000000000003_000000000301060207_040307000000000009_000200000107000000_000008000000030604_050003060000000100_070002000005000000_000800000000040700_030000070008000906,
  0x000905000300070004_040000090107000003_030008000500000900_000107080600000009_000000000000000700_000300000009000001_070600030004080200_090800000700000300_000003000000000100,
  0x000000080200000305_050204090003000001_000301000507000600_000000020700000003_000705000800090206_060100050000000000_000000000400000900_000007000005000004_000500060000000007,
  0x090706000103000000_010400070508000309_000805000906000704_000309000002050608_060000000800090407_040000000009000200_050607080001000000_080004000307000100_000000090000000000,
  0x000006040009000000_090204030100000600_000000000002000400_000100000205000308_000000000004000000_000507000006090000_000400000007080900_050000020000000007_070600000000030000,
  0x000006000003080000_070003090100000000_000102000506000007_000409060007050800_000000030000000400_080005010900000000_000900000308020006_030700020601040905_000601050000000708,
  0x070905020103000406_000100090006000300_060003000007000002_000701000009000600_080609030000020504_000302000605010700_000000010000070000_000400070302000905_030500060908040001,
  0x010000040008070002_000000020500080103_020000090700060500_000002060007000800_060100080000000007_070000050100000200_050601030400020700_040009000000000001_080207010605030409,
  0x000700000005090000_030406000702010805_050209000000000704_020800010000000000_000000020000000500_090000070000040000_010900000000000000_040000030007000001_000000000000020907,
  0x060007040000000509_010004050200000000_000500080700000000_030100070000000002_080406000000070100_070009060100080400_000300010000000000_090701020605040008_050600030408000000,
  0x020300070000000008_080609000401030005_000700030006010000_090000000502000300_050000000000040000_000000000300000007_000004000000020503_070008000203000600_000002050600000800,
  0x000008000200000100_010200050308000000_090403000006000800_000000000000030908_000300000801000207_000000000600010000_000000060400080701_000700000000000500_080602000700000304,
  0x000904000100000000_000000000000080907_000000000000010004_000000000000090000_020008070000040000_000100000400000006_000209010000000403_000000000009070800_000001050803020000,
  0x070000000002080400_060500010004000200_000904070308000500_090001080203050600_000305000701020908_080602000500010307_000206000800000005_050007030106090802_010009000000000006,
  0x030001000000090802_060000000902000000_000200000100000600_000908040007020300_000300000000040900_000504090006080000_000002000000000004_000000000001070500_000000000009000000,
  0x060000000000000002_000009020600000105_000004000700030009_030006040809070201_000000000007060403_010000030006000000_090000070400020800_040002010500090307_000700060000000004,
  0x040102000008000500_080000040500090000_090007000000000002_070009000400000208_010400020800000005_000200000709040000_000005080000020100_000000090007000004_000004000006030007,
  0x000609000004000205_000000030006070901_000100000000000304_060400000900000007_000003060000010002_000001080500090400_040006090300000100_010300040700050600_000508000601040703,
  0x040309000002000000_020001030000070000_070605000109040000_030000000800060000_000000050000010200_000100090004050003_000000000500000400_050403000208000107_000208040907000605,
  0x020307000501060009_050104060908030007_000600000007040000_000000000000080005_000000000000000300_060900050000070002_010400070306000900_090000000005010003_030000000000020406,
  0x010000020400000300_050000000008000006_000000090501040200_030800000605000000_090002000007000504_000705000009060801_060003000700090400_070000000903000100_020000050000000000,
  0x030800000106000500_000200030000060100_000901000200000000_000100000003000400_090403000600080205_000005000002000600_000000060009030000_000308070005020900_070009000300050800,
  0x000309000000000006_000600000008000000_000008060003050200_000002000009000000_000000080204000003_000503070100080002_080000000005000301_030200000000000600_060405000001020000,
  0x020604000307050001_090007000000000408_000300040109070000_000002000003080009_070906020800000000_050800090001000000_000708010904020605_000209030000040107_000500060700090800,
  0x000000050100000309_000305000008040102_000800000302000000_000603000700050004_000401020500000007_080500000400000200_000906000803000501_000000060005000000_050008000200090600,
  0x000201090400080000_000408000005070900_000906000008050400_000600080000000005_020700000900000000_000100060704000000_000300040801000009_000002000000060004_040009000000030100,
  0x000009060000080000_010500000000000300_040000000500000000_000700030000020006_000300000007000405_020000000600000900_000000090806000702_000007000000000609_060002000300000000,
  0x060300040000050201_050000000007000804_010804000005000700_000400010900080603_090000000000070005_000108000000000409_000700000004000502_020506030001040900_040000050008000007,
  0x040008050307000000_000009000200040000_000000040809030005_050301020906000408_000000000000090002_090000000003010006_000800000000000004_060007000000000209_000000000604000100,
  0x000208090700000000_010000000205080000_000005000801070003_000400050107020009_090502040608030000_000800000903000006_000009080402010600_080006000300040500_000104000006000008,
  0x020009060000000000_000004050003000800_000000080902000000_000902000800070605_010000020300040000_080007000006000003_050000010600000002_000008000000050000_000000030000000000,
  0x000000080700030200_000200000301000008_000000020006000907_000000000200040305_020400000600090801_090003050100000700_010000000400000000_000007000000000000_040000070000060000,
  0x040007080000020006_090506000002070800_030000060705010000_020000070008040000_000600000500080702_080700020100000009_000801030000090000_000900000807000201_070402050901060308,
  0x000800000001050009_000304000900000600_000002000004070000_000701000003090000_000900000506000000_040006090007020300_070605000102000904_000000040009000105_010400000005000000,
  0x000000090608050102_000809010400060700_020100000000040800_000500030000000207_030600000007080005_000200050000000406_000704000503090600_000000060009000000_060000080704000000,
  0x090708000000000005_000500000008000006_060304090000000807_000109030604000008_050403080700000002_000007020509010304_030005060400080701_000201050000060009_040806000900000200,
  0x030600000201000000_020800040000010900_040109050708000206_010300000000060009_090402000006050703_000006030409000000_000901000802000300_000700000005090000_050203060900070001,
  0x000400000000000000_080700000000030400_000003050004000200_060800040203000009_040002060000000103_030007010009040000_000000080000090000_000000000406000001_010000090000050004,
  0x090000000001000000_000800000003000604_040000050002080000_060000010500000900_010402000000000500_000009000204010300_030600000008000000_000000000400000203_000904000300060800,
  0x050100000000000000_020004010000000709_000608040905030102_090007020100060500_000002000507000000_010000090400000000_000700000009010400_040003000601070000_000000000300090005,
  0x050000000006090401_040609000301000000_000000050400000600_000000090207000003_020000000803000906_000000060000000102_080200000005060000_090400030602010000_060700000100000200]
theorem mixed_19_ok : mixed_19.all fastOK = true := chunkOK_sound _ (by decide +kernel)

end Gen.SudokuDB
