/- GENERATED by harness/translators.py (gen_sudoku_db) from /repo/jumanji/environments/logic/sudoku/data/*.npy — do not edit.
   One `Nat` per board (layout: Env/Sudoku/DBCheck.lean); every chunk is run through the checker by the kernel. -/
import JumanjiModel.Env.Sudoku.DBLemmas
namespace Gen.SudokuDB
open Sudoku.DB

/-- `mixed` (10000_mixed_puzzles.npy), boards 0..249 -/
def mixed_0 : List Nat := [
  0x000700000000000403_000400000009060100_080000060304090000_000904000502000000_030508040600000200_000000080000050300_000800000700000901_090002010000000005_000007000400080002,
  0x030001000806050004_000406050201000700_050000000000000001_040000080000000002_000800030407090000_000009000500000308_000004000900020000_000008070304000900_000007020008010003,
  0x000408030001050600_030600000008000900_090100060700000003_000200000000090305_050009000100020000_060700000200000100_000004000002010007_000900010000000008_010500080304000209,
  0x000008030107000000_000004020005010009_000000000400000700_030207010600090004_090001040500000000_000405070000080000_000300000001000600_080702060004000000_040106000700000800,
  0x000400080900060300_000000010306080200_080000070400050109_000000040607000502_040500000200070000_020607000100000000_050200000003040000_000100020800090700_000004000500000603,
  0x050601000902070300_000200070800000900_090000000005000406_060000000000040207_000100000700000003_000703000000080109_000305090000060700_070000010003000800_000000000000000500,
  0x030100040500090000_000702090806010403_090006000100050008_060309010708000200_010500000900080006_000004000003070000_000005070301000009_070001080209030500_000000060405000100,
  0x080000010304090002_000401000906000800_000005000700000100_000008060005000000_040006030100000009_000203000400080600_050000070009000000_000100000800000400_000000040001000006,
  0x010605020903000004_000000000001060302_000203000600000900_000009010705000000_050000090000000108_000002000300000409_000908000000000006_000000000000090500_000000040209030801,
  0x000000000003060100_000000000105000007_000000000008000900_000806000000070000_000300080000010000_050000010200030009_000005000600090004_000600090000050300_040003070001000008,
  0x040005000001000608_000703060208050000_000009000003000700_020400070900000300_000006010002000005_090500000000000201_050007000604020103_000800020107000500_060102030000000007,
  0x090600040005010000_000200000600050004_000001070003000006_010000000004000000_040900010300000500_000002000007060001_020009000006000308_000700020108090005_060000000709000000,
  0x090004050200000700_000001080900020400_000002060403000000_000700090600030800_000000010008070000_060000000000000100_000900000800000000_000000070500000300_000000030102050609,
  0x000001040008000006_000903050200070401_000000000100050200_060002000800030000_000007000600000000_000005000309000600_000604000502010009_000200000000060504_050000060007000803,
  0x000007030000000504_020405000800090000_000003000400000700_000700090600000000_000000000200070600_000000080001000002_000008020904000106_060009010008000200_000000000007000003,
  0x000005030406010700_000000000000000500_000000080000000009_050002090300070401_000700000000000003_000000070000000200_000900000500060302_020007060000040000_060000040200000007,
  0x030200000900040000_070005000201080000_000001000600030702_020108000307000009_050000040800070000_000000000005000000_060700000000020800_000000080703090000_080004000000010007,
  0x000000000300000007_040800090600050001_000603050700080200_000009060100020003_030500000907000006_000000000005000904_000000000000000005_080004070006090100_000001000400000700,
  0x000807000002000100_020004000107000003_000006080000070005_050008000001000000_060400000008010000_000002000500060700_040309010800000007_000200090000000300_070000000203000901,
  0x000400000000000008_070600000200030409_000000040700050000_090000000000000300_000000000306070002_030008090407000000_000000000004000100_020000070000060003_060900000001000000,
  0x000007000009000500_000400000000090300_000509070400000800_000000000106070900_000803000000000002_070100000000000000_080300000600000200_000000030905000108_060005000200000700,
  0x060200070400010000_000700010000000502_050008000000030700_000607030000090000_000900000000000600_080000090700000301_000002000000000006_000000080000000000_040500000002000003,
  0x060207010400050003_030405020006090701_000809050003060002_000000070000030604_070903000504000108_040600000008000509_000506000301000907_090701000005080306_080304000607010005,
  0x070200080900050000_030900040600010000_000000020107080900_080009000002000000_020004000008000000_010005000409020807_060100000000000208_000800000200090105_090500070001000400,
  0x080003070000000000_000206000000000004_000907010000020003_070005000000090008_090001000700000400_000308040001050607_010700090500080000_060800020100040305_030502080406000000,
  0x020006000007090005_030405000902000108_000000080500000600_000000050009000000_070008000000040500_000004000803010206_040200000600050800_050701020000000904_080600000000020000,
  0x070000000000000000_040000070008000601_010000020906080407_000000000001040000_080001000000000300_000900060000000705_000800000100000006_000007000502030904_090305040607000100,
  0x090000000000000002_000100000600030900_000803090000010000_080004000905000007_010300060700000409_000600000401000000_030002000100000500_000000050000000000_050401000800000300,
  0x000005000000000600_000000000006030002_000400000801050907_000102000308070504_000000020000080100_000807000104000000_010200000007060800_000000000902000300_090504080600020000,
  0x070009000000010000_040201000000000500_030000070000000008_010000000000030002_090008030200000000_000002000700080009_000700050300040000_000900000000060705_000000060000000903,
  0x000001030000000002_000709000000000000_000200060700090003_000000090607030000_070500000001000409_000800050003010000_000400070002050300_020005080006070000_010007040005000600,
  0x060000000107040000_040001000003000008_000509080000070201_010200000000000500_000000000400080000_000008000200010000_000004050300000007_070000000900000806_020603010700000000,
  0x080000000005000407_000400000008050000_000000000000060300_000000000000040900_050900000400000002_000702000006030005_090800000000020703_000607080004000501_000300000700000000,
  0x040000000000000700_000600080500020400_000000030001000605_000409000708050000_000007000302000008_020800000009040300_010200070003000004_070000000100000000_000006020000000009,
  0x050000000000020600_000204000806000000_080007010502030000_000000060000070003_000003040000000006_070000000908010200_000300080000060000_000702000000040801_000000000700000000,
  0x060004000001000305_000003040500000001_050201090000000000_000609080007010004_020500000104000007_040100000900000006_000000000600000100_000000000309000700_000700010400050003,
  0x040200070906000500_030000020800040907_080709000004060102_060900000005020001_050308040000000009_000100030609000004_090803060407000205_000006010500000000_010000000200030406,
  0x000800000000000900_000900050002000000_000003000001040008_000007000900060300_000000000000000001_060500000200000000_090000030000000800_030100000400090700_000002080709000103,
  0x000005000200000400_000007000900030108_010006080400000700_050100000000060903_030000000000070000_000704020300000001_000500070604010809_000400000001000002_000801090002000300,
  0x000000000000000605_000004000506070001_000700080103090400_000006000005040900_050000060900000000_000009000402000000_000602050004010709_000000000000000300_000000000000060208,
  0x070900000408000600_010205090706030000_000400030005070200_090800060507040103_000007010000080506_000001000000000007_000006000002010305_000009070001000000_000100050000000000,
  0x020900080000030000_000000000000000406_070806050000020000_000200000000010000_010000000009040802_060407000000090003_080705020000000004_030100060405070000_000009000008000000,
  0x010800000203000000_090402050000000008_000600000100000902_020009080400000000_060008030905000400_030000000607080500_080006000000000207_040007000002090000_000001070000000004,
  0x090008020600030501_050000000904080702_000002000100040009_000003000000000804_010504000803000007_000200000000090005_070600010000000400_000009000006000000_000001000005000900,
  0x090500000604000307_000406000801000509_000001050309000800_000304010006000700_080605000000000200_000900000208000000_050000060102000000_060103040700000900_000000080900000005,
  0x000700060200050009_000209040000000000_060800050700000000_030000000000000000_080006070500000903_000000000806000005_000000000000010700_000604000300000000_000005000004000302,
  0x070900040000080001_010000070800000900_000000090100040002_090705080201000406_000000000000070805_000006050004000000_020007000900000304_030000020000090008_000009010000060207,
  0x060000050002000000_040500000903070000_000300060804000900_020003080000050600_000001000000000002_000007000205000100_000005000306040000_030200070500060001_090706040108000503,
  0x080700050000000600_000100000000020007_060400010800050009_000000000001000000_010200000006000705_000008000702000006_000000060005000008_000000000004000000_090004000008060201,
  0x000302010004000700_050000030000000002_000000060205000000_000800000601000200_000007040002060008_020001070800000504_060400000000000300_000908000003070000_070203000506000001,
  0x040800000600000001_010003000008050206_000605070000000800_000508020000000100_000004000800030000_000201060709000005_000006000203090007_050100090406000008_000009080000000000,
  0x000300000704000906_060000030908070000_000008000601030400_000503000007000009_040000000509000700_000906000002000804_000000000203060000_030100000400000000_080602000000040307,
  0x000000000001000000_000003000006000907_000601000307050000_000000070009080000_080300000400000001_000000000200000006_070400000008060100_030000000600000502_000000090000000003,
  0x000001000002000003_000004000000090000_020906000105000408_050600000008010907_000009000000000504_070000090500030000_040000010807060000_000100050000040002_090000000200000005,
  0x000003000600000005_070902000501040000_000006020000000009_020608070109000504_000300000206090708_000000000000060001_000500010003000900_000209000004000000_080000000002000003,
  0x000409000003080205_050000070009010006_030601000205000007_060000050900000804_080000000004030009_010900030700050602_000008000000060901_040105090806020703_090700010300040500,
  0x000206080503070000_000000000000000000_000503000400000906_020400000706080100_030109000005040600_060000010304000200_000604030907010800_070008050002060004_000002000600000709,
  0x040608000500070002_020703010400050009_000009000002040603_000001080600000000_000900000300000001_000300000000060000_090800050001020000_030207060000010004_000106030204090008,
  0x000000000009000308_000000000005000004_030500070000000901_000000040000000000_040007050000000200_000600000200080005_050000090000000006_080400000001000700_000306000400000009,
  0x060004030000000900_020100000709000604_090005000104020700_040500000003090000_000000000001000000_000008000000000000_000302070000000800_080900020006000100_050006000000000000,
  0x050901030000020000_000004000602000301_000000090107050008_000603000005000800_010000040800000003_000507000000000000_000000000900060100_000408020700030905_000000000500080700,
  0x030009000000000500_000007000003000600_000801040007020000_010008090000000200_070000030400090100_090302000608000000_000004000800000900_050006070004000000_000003000200060007,
  0x040006010500000803_070003020000000000_050008000003020000_060300070000050000_010507000009000204_090802050000030007_000409060800070002_000000090000000300_000701030000000009,
  0x010000000000080009_090500000108000000_030000000000000706_050800090006000000_000003050000000000_020004070000050600_000000000000000801_060000000004000003_080300010609000405,
  0x000000000000000000_000804050000090700_020901000000000008_080009010000050000_070503090402000600_000100000000000000_000002070104000000_030700000800040000_010000000305070000,
  0x020403060000090500_000005020001000000_070006090503080002_060507000009000800_080004050007000209_000009000300000600_050001040002070000_000008000106000005_000902070805000004,
  0x000001000900000000_000009000800000504_000800050706090000_000706090205030001_010300000000000007_040905070000000800_060008020500000700_000000000000000006_090403060007000200,
  0x000300080100000700_000000000607010005_070100000003000804_000002000805070900_080007040306000000_060000070902000400_010600030209000000_090200050701080600_050703000408090100,
  0x060900050308000702_000800000000060000_000300090007000805_000400000000090000_000006000209000501_000000070501080000_090004000000000100_000008060100000900_000003000000070400,
  0x010000050000000007_000900080300000004_080000020000010000_040000000100000702_000000000408030501_000001030002000006_020004090000070105_030105000007060900_000000000000000203,
  0x000702080304000609_000405000200000008_000000000705000200_000104000800000000_080607000400000003_020000030000080000_050203040008000000_000000000003000800_040806000007030100,
  0x090007020001000000_000000000000000006_000100000700020500_080205000109000604_070409000302080000_000003050008000900_030002000000050001_060800030000090007_050000000207060308,
  0x000008000502000700_000901000400000006_070005080000040000_050700000803020004_060000000000000107_080100070604000305_010506040000030200_000204000300070000_030807000905060401,
  0x000307060004020500_020000030000010000_000009020500000008_000000070000000900_090002000005000301_070400010300000006_000900000700060004_000001000600000000_050206080000090003,
  0x000006000007020008_030100000802000706_070000000601040300_000009000108050000_010005040700000600_080000020003000004_000000000300060800_060708000905030000_000000080200070500,
  0x000000000000080400_000900020007010000_000107050608090003_070000000000060000_000400060002000000_000003000000000002_000300080500020701_090000000306050000_000001070000000006,
  0x000000000000000408_030000010000070200_080400000000000003_000003000002000006_000107000600020000_060200050800030004_000000000103040002_010000060000080900_000004080507000001,
  0x070600000009000001_000204080100000706_000001070006090002_060000090005000108_000005000300060007_080000000600020905_020000060000070000_040000030507000009_050300000900080000,
  0x020100000809030507_000900000002080000_000004070000090102_030401050006020000_050009000004000001_060000080000040300_000700030205000600_010000000007050809_000605090100000200,
  0x050800000602000401_000600090001000000_000009000000060000_000006010007080309_070200000008000100_000001000000000006_000000070005000000_000705040006000003_060408000309010500,
  0x010400000000020700_000700000504030109_050000020007000408_000000000608000204_000800040000010007_000204070300000000_000007000000080002_080002000003040000_040901080006000000,
  0x000100000000060008_090000000000010000_070006030000000000_050000070403000000_000000000005040000_030400000901000705_000003020000000901_010004000000030000_000609000000000500,
  0x030800050000000901_060907000100000005_000005000800070000_040600020000000003_000703000908010400_080000070403000000_010400000000090007_070300090004000000_090500000700000300,
  0x000900010403080002_060000050900000007_040800060702050903_050407020601000009_030608040509070201_000109080307060504_090006030804020105_010504070006090300_000300090105000006,
  0x000000000500070800_000000060000000100_000900000200060003_010000040000000000_000504020600000900_000007000300000001_050802090100030700_000000000002050000_000003000000010209,
  0x000400030001000000_000000040207000600_020700050600000408_050000000904060000_090004000006080502_070006000005000900_000001090500070800_000900000103000000_030205070000090006,
  0x070500030104060000_080300000006000001_000100000000040007_050007020008000000_040000000000000509_000000090500000804_030000000000000700_000801000000000003_000002000001080000,
  0x000000000003060408_060005070000090203_000003060800000105_010009040008020007_000000000009000500_050000000700000000_080007090005000000_030006080004000700_020500030000010809,
  0x000007030100090002_030800000500000006_000205000000000301_000703000009010004_010400080300000007_060500070001030208_000304000800060000_050000020007000100_070106040903020805,
  0x010008060000000003_000000000800060002_000600000504080109_090000000405020301_000500090600000000_040801070000000900_000000000907000605_000109000000030800_060005040100090000,
  0x000000000700000600_020000040806000100_000800000302000000_040000080000000300_000000000407000002_060000020103070400_080301000504000000_050207000000000000_090600000200050700,
  0x030700000006090005_000400030000000000_090006010002000004_010604000509020000_080000000300000407_070305020408060000_050200000607000100_000100000003080009_000803090000070502,
  0x000000050304000007_000000020907050000_000200000106000004_000000000008000000_000508040009000700_000000000000060000_050000000000000100_090000060401080500_010803070000090406,
  0x070009000000000400_000302060400000509_000800020709010006_000000030200000000_020900000001030008_000103000000000200_000706010000020000_000000080004000003_050000000002000901,
  0x000000090603000000_030001050200040900_000600000001030205_080100020900050704_000906000000010300_000702000004000800_090300000408000600_010008060509070400_060407010300000508,
  0x000500060000000401_000003000405060000_090600080000030000_060000000000010000_000007000008020004_040002000000000003_000209050000000306_000006000204050100_000000000000080002,
  0x070603050401020809_000408000009000500_000009080600000700_040706000003000905_050300000906000002_000002010500070300_000005000000040000_000207000005000600_000800060207050100,
  0x060000000503090004_000000060000000802_000908070102030005_070800030004050200_010009020000070006_050200010706080309_000000040301020508_080400000000060000_000000000608000007,
  0x040007080501000300_000000040700080005_000001000302060400_000108070203040000_060700000809000200_090300060004070008_030409020008000000_000000030000020609_070200000900030804,
  0x000000000900000105_000000010000080400_000500030800020007_000000050300000000_000000060002040301_000102000009050000_000208000003000004_000307000000000002_040000000500000803,
  0x000000000000010405_090003040005070000_000005000000090000_000902000700000000_000301050002000000_060000000008050000_000800000009030507_070000080000060000_000006000007000900,
  0x000902040005000000_000007000000020500_000100080000000000_070406000000030009_000009000600080002_010000000009000607_090001000300000000_060000000800090000_000804050900000001,
  0x000002000805070000_000000060007000000_000000010000000000_040000000001000007_020607050004000000_000001000000000900_050108070000040300_000300000100050006_090000000003000001,
  0x080002060004000500_000000000001000604_000004000005000003_090000010007040300_050008030900060001_030107000406000200_040000000603070008_000800000000000000_000000000000050006,
  0x010000030005000908_000900000000000000_000800010709060002_060204000000000000_080000060007040200_030700000400080000_000608000004090300_000300000008000600_000005000006020004,
  0x060000000803050700_030000070000090000_000000000609000300_000000000001000008_010000060300040000_050003000900000100_080400030002000009_000302000400000805_000000000508000000,
  0x050000060700000804_040007000000060300_000608000000070001_000000000000020009_000500090800040600_060709000402050108_010005080609000407_070906040000080502_000003070200000906,
  0x000000000006090000_000000000200080704_050208000000030600_000305000801000000_000000000703010805_000700000604020009_000002000400000008_000109000008040003_070000000002000006,
  0x030000050004000206_000000000700040103_000000000000090007_010906040002070308_000405000600000900_000000000801000004_000800030007000409_000302000008010705_040000000900030800,
  0x000200000300010008_050000090700000200_080000000002000003_070400060005030000_000005000807060002_000600040100080000_000004000900050600_000009080000020004_010500020600000000,
  0x000009060300000800_000801000000000203_020000050800000704_000000010003080009_000000040008000002_000000020000040600_000500090000000300_000700080004020900_080002000100000406,
  0x000005040000080900_000000000307020504_040100080009000300_020000030700050609_050001090000000000_070900000000000008_000200000004090000_060400070900010003_000500000100000000,
  0x000908010000000603_000600000400000000_070002050000000100_040000000508000300_000105000000000800_030006000100000000_060000000005000400_090207000000030000_000000020006000007,
  0x030000020000000700_000601000008000200_000008040000000000_000000070000030500_000300000100020900_090002000306000000_000003000000000008_050007000009060100_010000000000090000,
  0x050400000000060307_060200070800050400_090307040506020100_070504000300090000_030100000000000500_000002000400000700_020905060000010803_040800010900000002_010700030000000905,
  0x010306000507000000_050200000300000006_000008000602090300_030805000200040009_000700000900000002_040002060805000700_090504030006000000_020003050708010900_000000020009060003,
  0x020706040500010900_000000060708000000_080000020109000007_090402000007080100_050007080000040009_060801000900030002_000000090300070000_000009070000020406_000208010000000003,
  0x000000000002050304_000000000100020800_020000000304000000_000200000000070400_090006000000030000_010400020003000000_070008000000000001_030000000009060000_040600000700080003,
  0x030900000001040807_000107030004000509_080604090007000000_010000080005070600_000008040306000001_000400070100080305_040006000703000908_090000060408030700_070000050009000400,
  0x000300040002000800_000008000600030207_090006080307000401_000000000000090708_000004020708000000_000000000903040002_030705000806000000_000609070204080305_000002000005070000,
  0x000402050000070006_080706020000030000_030001080006000409_000207000408050600_000009000000040000_040603000507090200_000900040003060005_000000000009000000_070300000005010000,
  0x010900040006030000_050203000900070000_000600030000000000_000000010400020507_030000050600000000_000400070000060000_000009000000000000_040001000008090002_000000000007000306,
  0x000903020007000000_000007090400030200_080200030001000000_000800050004000103_030002080100090000_090500070000000000_000600000003050900_000704060000000001_020300000005040706,
  0x070200000000040800_000004000300060000_030506010004000700_000108040700030006_060400080500010200_000000060109080504_000605000000070000_000700090000000301_010803000405090600,
  0x030400060800020005_080000000005040001_000200000000080306_060800050100090407_040903080600010502_050000000204000008_090001070002000003_000000030508070000_070308010000000200,
  0x000005000807000000_000700030400000806_000408000106020705_040507010208090600_090000050004070208_060800000300000401_070000060001000002_080300040700060000_050000080003040007,
  0x040708090602000000_000205040000000008_060900000305070000_090000050004000000_000004000700050009_010507030809020000_080000010000000705_000003000400060002_000409000006000803,
  0x090000000002000500_000002090005000004_000705030400020000_000907000603040005_000500000000010206_000800000000090703_050000060007030900_000000040000050002_030200000001000007,
  0x010509000800000700_020400070900000001_000000000000000004_030000000008000000_000800000700010403_000902000000000005_090000010000040600_050007080400030000_000001000007000500,
  0x000201000005000300_000305010006090204_000600020403000000_010406000000000908_000700000600050400_020508000001000600_050800060109030702_000002050004010006_060103070208040500,
  0x000600010007000004_000100040800060500_020004060509030000_000009000008000000_080300070406000200_000406090000000801_010508030000000709_000702000900000006_060903000000010400,
  0x000306070004010000_000007060302000000_000904050000000000_000000010000000304_000609080007050102_000000000503000000_090200000000000006_000500020008000001_040700030000000500,
  0x030000040000010902_000008020005000407_070200000100000508_040309000006050000_000000090001000006_020601000000000000_000007010802090600_010900000503000000_060800070004020005,
  0x010700050004000609_000009000000000005_050406000901030000_060800000700000200_090300010000060400_070000020009050000_000000000006000004_000000070000000906_040008000002070500,
  0x030600000000020009_080000030009000005_000900000102000706_000000000000000002_000800000900060100_060003000401080000_000206050800000301_010000000000000000_050000000200090008,
  0x000006010002040807_000002000800000000_070000040300000000_000105000000070400_080907000004000002_020300070500000908_000600020705080300_000000000009000100_000208060100050700,
  0x000800000206000005_000000000000060203_000200090400010700_000500000902000801_070008040000000002_000900000000000400_000705060304020000_020600000800000300_090003000007080006,
  0x000709050308020000_000000090200000307_000002000000000008_000805030400000002_000003020800050400_000001000507030009_000000010700080200_000000080002040006_000008040603070000,
  0x020001000006050000_000000050000080000_000807030000090600_000000060003070004_000200000009000000_040000010002030908_000005000600020309_000903020700000801_000002000001000005,
  0x040500000209000300_010309040800000500_080002030000000009_050004000008000900_000008050000000407_000700060104000008_070005000000020000_020000080600090000_000000000700000800,
  0x000000000008060001_040000070006080500_000500000003000400_000005000200000004_010406050800000000_000003000004090005_000601080005040902_000200090000000706_000907060000000100,
  0x000900000600000805_010800000002030609_030600090000000000_000500000400000008_000000000009000004_000704020000000500_000000070306050900_070000000000000000_050009000000000703,
  0x010700050206000903_080900000000060002_020000010908000500_050200000001000800_000000000500000007_090000080000010000_000000090703020008_000609000800050000_030800060100000709,
  0x000000000801000003_000300000504080000_080004000007060105_000506010000030802_010800050000070000_000900080700000001_030105000600000000_060708090105000304_000009000300010006,
  0x070004090300000008_000008060007000000_000309000000040000_000700000000060000_040000050000000302_000000000203070009_080000020000030000_020006030008010705_000103070000020004,
  0x050700020003000001_090003000004000805_000401000000030000_070000000000010900_000000000908000000_020109000007000300_000504080006000700_000002090700000100_000900000200000503,
  0x060000000000070001_000100000709060003_020703080001000000_080000070500000002_000007000108000000_000201000400000008_010800000205030000_000300000004000600_040000030007020000,
  0x050800070000090400_000207000901000300_000100000008070006_000308020000000709_020609080007000005_000501090306000800_080905010703020000_000000050004080000_030402060009010007,
  0x060003000000000002_070009040000030000_000000000000090400_020100000500080900_030008000207060504_000600080000070001_080004000001000000_050000000009040308_000000030000000100,
  0x050003000004000008_000008090000060005_000000050700000401_010300070000000006_000200060000000003_040006010003000000_090500000107000602_000001000205000300_000000080906050004,
  0x000700090400030200_020000060705000009_000500000008040006_080403010502000000_000602040007000801_000000080009000004_000900020000000000_000000000800000600_030005000000010400,
  0x020500040000000000_030000000000000504_010000000000000006_000000080003000009_000300000000000400_000900050700000200_000001000300060900_000003000005000802_000200000609000100,
  0x010000000004080705_090000000701000002_080000050002000409_030000010000040900_050700000409020108_000001000200030506_000405000603000801_060109000007000003_070003020105000604,
  0x030000000007000000_000009000006070100_060000000004030509_070002000100000908_050300040009000007_000001000000000000_010608000000020000_090000000300050800_000500000000090701,
  0x010400020003000000_090806000005000300_000700000009000005_000000000000080000_000609000000010403_000007030006050200_000000080300070000_030208000107000506_070901060000030802,
  0x080000000005000002_040200010003080605_000305000408090700_070402080000010009_030900070500000000_050108040900000300_000007000004000000_090503000100000200_000004050000070100,
  0x010000070800000005_000300000409010200_000009030000040708_080500000000000000_030006090004080002_000000000603000400_090000040200000500_040000000000000000_060200000308000904,
  0x000100000000030400_090200060803000500_000300070104000000_000502000600000001_000000000001000003_000000040000000709_010806050902000000_000409010300000006_000000000406000000,
  0x050000020800000006_090800000503000000_000203060007000008_060108000705000400_040007080000000600_000005000604070800_030501000000060004_070000000000080000_080009000100000705,
  0x080007000206000305_040500000008000700_030006050700000000_090701000005020403_050003070402060001_060000090103000000_000008010009000607_000000000804000100_010009000500000800,
  0x000008060003000109_030005020000000000_000000000007060003_050001000000000000_060004000000000800_080900040000000502_000000070500000001_000000000002000004_040002000006070305,
  0x080000010000050007_000700090006000001_020301040005080906_000008000400070600_070004000102000008_000000070000000105_050007060001000000_090100080000000004_060003000000000000,
  0x020500010400000000_000100090200000600_090300000806000001_010903000508070000_060702000009080305_000800000002000000_030407000900000800_000000000304000000_000009070600040500,
  0x000000000000000904_000401000003000000_090200000600000300_000300000509000006_010000020000070409_020908000004030000_000600030000000002_000002000906010500_000000000402000000,
  0x000006020003050708_080000000000060003_020000070608000004_000000000000080600_060208010000000407_030409000706010002_090600000002000805_000005060007020300_000000000001000900,
  0x030600040000000500_040001060000000700_000000000507000004_000300000204000109_000000000009000006_000100000000000203_000006000008020307_020900000400060001_000000000000000900,
  0x000600000004010008_000801020000000500_070002000000000609_000500000200090000_020406010007000805_090703060800000000_000207000500000000_030000070400000002_000000080000000900,
  0x000500080403000002_080000000001000000_000000090605070803_000000000008090204_000400010006050300_000900020004000108_000204000007000900_000806000000020700_050700060000030000,
  0x000000000003000900_000100020000070000_070000000000000300_000900000208000407_040000010900000206_010200000000050809_000802000000000000_090000000102060504_000001000006020700,
  0x050000000801060007_000000050000090000_000907000600020000_000001000506000000_000000000000080700_000004000000000000_000000030008050002_020000000400070600_070000000002010003,
  0x080004000005010009_000900000600000704_000007010000050600_040000090000080000_000509000800060400_000100000000000302_000000000000000800_000300050000000106_000005000700000903,
  0x070000090008000000_060000050300000000_090000010000000800_020004030000000000_000700000600050003_000300070000000200_000905040002000008_040800000900010502_030002080105000709,
  0x000201030704080000_070400010800000002_000000000206000700_020300000000050000_000508000000000204_090000050400000008_040000000008000103_000906000300000005_030000040500000800,
  0x010000070000000005_040700000208000600_020805000003000900_000002000000000304_000004000600070000_030000020500000106_000000000000000000_000200040000030701_070401090000000000,
  0x060103000400000207_000000000000000000_000904000000000605_020000000000000300_000009060007000504_000000000009060000_070006030000000100_000000050000000006_000802010604050700,
  0x000501000003000207_080900020501000600_000002070608000000_030400000009020006_000000030800050709_000708050006040301_070003040005000002_050009060002070000_000600000107000500,
  0x080000000509000700_000500020304000006_000604000801020305_060008050000000403_000700080000000001_030005000600080002_070900030005040208_040001000006000007_000302040708060000,
  0x000800050000000000_000106070000000005_000000000000070009_010009000703040008_000005080209000700_000708010000000300_000002000005010007_000000000007000800_000001000608050903,
  0x000000000800000306_000002000100000500_040000050009010800_000200080700060000_000000000900000700_000706000005000100_020100070008000000_000405000603070209_000307000000000000,
  0x000000080504090000_000300060709010000_000400000100000600_000000010400060000_000004000608000102_010002000005000008_080000000000000007_000000000207000000_020003000000050001,
  0x000002060008000000_000008090000040200_000004010000000009_070003000100000600_060000000200050000_080200000004010000_000100000500090008_020500040801030700_040800070903020001,
  0x000000000000000400_040301000000080000_080907000004000200_000602040000030000_000400020903000100_050000000007000902_000000000001020000_000000000200000704_000800050700090300,
  0x020608000400070001_000007000001020904_090001020307000608_050106000003000200_000002000604000000_000000000002000500_000200000100030805_000005030209000007_060003000500090002,
  0x000203090001000006_090401000005070302_060805000203000100_000000020000000708_020900000000000001_010004000008000000_000007050800060000_040500000006000003_080000030000000000,
  0x010008000306090007_000000080100030004_000004050009000000_020000070400060800_040000000000000000_000000000508000002_090500010800020000_000007090000080001_000102000004000000,
  0x000000010005000006_010600080000090000_030900070000050001_000001090007080005_000500030800000600_000800000000000003_000700000008060509_000000000000040000_000008050009020007,
  0x000008060004000709_090100020807000400_000007000000000100_040003080600000001_020001030700000000_000509010402060307_070000040008010000_000902070506040803_000004090300000602,
  0x080005000007060200_000900080003000507_060004000005010800_000801040006000900_050407090200000000_030609070000020401_040003060809000700_070008050104000300_090500030002080104,
  0x040008000003000002_020706000104000900_050900060700000001_000004070900010005_010600000200080000_000205010008000604_030809050001020407_070400020009030000_000502030407000000,
  0x080702000000000600_010000070602000800_060300090000000100_000400000003050200_050000000004060001_030100000006000007_040000020007080003_000001000500000000_000500000400000700,
  0x020300000001090800_010007060800040203_080609000000070100_060400030002000000_000700050600020000_050002010407030600_070100020305000400_000005080004000000_000803090100050000,
  0x000005080900060003_000600040003000000_000300000500000100_050000000308010000_000003000009000000_010900050700000000_000000000402000008_080500000100040009_000700090005000200,
  0x060002000705030009_000003000200000800_090400030008000702_070900080601000000_000208070003000006_030100000000080407_000601090000070500_000009010507020004_000000000806090001,
  0x000001000700000400_070000040000000308_000003000000000607_000004000307000200_090008000204000700_030007000800000500_000009000008020000_000006020103000900_010000000506000803,
  0x030006070000040501_000000020001000006_070000000000000002_020900010400000005_080001000000000000_040305000000010009_060700000000000000_000403000000090000_050000000003000600,
  0x000800090600070200_000506040002000901_090702000500000600_000100000006000000_050000020100030006_060308070405090100_000903060207000500_040005080300020700_000200050904000000,
  0x000200000900000004_060401000000000307_000700000000000002_050000000400000201_000300070800050009_000006000003000000_000000000000040100_000000000300000906_040600020000000705,
  0x060700000000000400_030000000000000000_000001000605000000_080007030000000900_040600000000000300_000009040708020001_010000000000000203_070006000800000504_000000090100070000,
  0x030000000006020005_000502030000000000_090804000000060007_080400000001050709_000200000508000403_000000070000000600_050000040003000001_020700000000000000_000009050002000000,
  0x000803060905000200_050702010004080000_090600070802050000_000907040001020000_020504030000090800_000000090208040000_000009080700000000_000000020400000108_000000000000070904,
  0x030000000000000700_000002030006000100_060000080900000003_000000020009050600_000000050700010000_050000060100090304_000004000000000900_000006000800070001_080005000001020006,
  0x000800030500090702_070501020000000003_000302000008050100_000600090004000001_010904080207000005_030000000000000000_020009050803000000_060100040700030809_000000060009020007,
  0x000708000201090603_000209050000000000_010306070900000405_060500010309000807_030907020804050000_080000000700030902_000805000100060204_000003090402000501_020401000506070300,
  0x040708030609010002_000005070801000000_060300020400000008_050403000906080000_000200080003000006_080607000004090000_000100060508000700_070504090002000800_000006000100000005,
  0x060000070300080000_000205040801000006_070001000000000000_040900000507000001_020600000000000000_050100030604000908_010000050400000000_000300000209040007_000500080706000200,
  0x000708010403000000_060405090700080001_090100000000020400_000906000000000105_050000000109000600_080001040005090000_070804050001000000_000600080300000000_000509070000010804,
  0x000700000209030401_060009000000050200_030001050700090608_080004070600020903_010300080900000005_000000000000000106_020607000500010804_040103020000000009_000800010007000300,
  0x050600000000000003_000008060900000000_000902000405000007_000400000002000800_000100040009000200_020700000000040906_040000000000050000_000809050100000002_060507000008000000,
  0x000009000001000700_010403090007020008_070600080204000903_000300000000000001_000907040100030000_060200000008000000_080004000605000009_030006000000000000_000000000800000400,
  0x000000000603040700_060000000400080901_000004000800000003_070200060104000509_040105000300000000_000906020700000004_090400000000000000_000600000000070405_080007000001000000,
  0x010000040000030200_000003050000000900_000409030107060805_080307060001020500_090500000000070400_040100070005000306_000900000000040000_030704000600050002_060208010500090000,
  0x000004000001020000_070900040000010000_000301090005070804_000003060100000005_000602030007000000_000000000002000000_030000000500000400_000200000904000601_000006000300000000,
  0x000007000000020000_030100070005040006_060000000400010000_000000040300050207_020000060007090000_000000080000000100_070000000004000000_010900050000080600_000003000800070400,
  0x000700050806000000_000000070000050300_000000010400000000_080009020507010000_000001000000000200_050600080301000704_000007000000040000_000000040008030509_000800000209000006,
  0x000402060309000005_030000000701060000_000609020008040003_000304000000000000_000001000000030407_000000050000010000_040003000105080609_050906000800000000_000100000602000300,
  0x030000090005000704_000900000008000001_060008000004000500_070604000000000109_000300000009000807_000000010000040300_020407050900000608_000000070800000000_000106000000000005,
  0x000000000000000000_030000070500090600_000000080000050401_000300000700010000_000700040900030805_000405010003060000_010003020405070900_000000090600000103_000209000001000500,
  0x060100000205040300_020408000001090600_000300000000020000_000800060004000009_000001030000060502_000005000100000008_000506010903000004_090000000600000003_010700000800050906,
  0x090603070100000000_000000000400090003_000000000000060700_050002000000000300_000000000500000009_000007030008010504_030700020000000000_020009080001030000_000400000300000908,
  0x080000000000060000_030206000700000000_000401000900000308_040008090600050702_000600070001090400_090700000000010806_000000040000030000_000002000300080600_050004000100000200,
  0x000000030000000000_000302090000070801_000000040100000209_000903080000020000_080500000600000000_000004010709000500_090700050000040002_020801070000050300_030405060200090000,
  0x040000000501000000_050703000602090000_000000000000050007_080000000009010503_010300060000080004_000000000003000000_090206080000040300_000504000900020008_000000000204060009,
  0x000000000309020008_080102000006000004_040009080102070500_020403000500000600_010000000000000000_050000030208040900_070006010800000000_000501070904060800_000804020005010000,
  0x000001000605000709_000003000000000600_060209000300080000_080106000407050003_090300000100000007_020700000000060001_010008030006000500_050600040901070308_030007000208000000,
  0x020400010009030800_060309040000000501_080501030000020900_000900000003050002_030008000000040000_050600090400010300_040100070805090003_090205060300000400_000803020000000100,
  0x010009080005000200_060400010009070500_020805000400060901_080000000000000000_070506000100000004_000000020000000000_000900000801000000_000007030006080000_030000040002000109,
  0x000205000406000000_040600000307090000_000307080100000402_080000010000040603_000006040800050200_000504070003080900_050401000000020700_000003060204000009_060902050700000000,
  0x000000080905010000_030900040100000800_010600000000090500_020500090800000100_040100020603080905_000309000500040000_090002000307000401_060003010009000708_000701060408020309,
  0x060704030001000509_000200000709040308_000309000002010000_090000020000080604_020106000405000000_000400090607050100_040605070908030001_070900010004000800_010803000000000007,
  0x020008000305000009_000500040000060003_000000010709080002_000900000000000000_050006080104000007_070004000903000600_000007000001000006_000000070000000800_040600000000000201,
  0x040700010000000000_060109080000000003_030002090007080106_050201070903000004_080006040200000001_000300060100020900_020407030000050600_000600000009000300_000003000604000007,
  0x000800000000000501_000004000809000300_000200040006090000_010008000002000000_000007080100050203_000000000700000800_070003000201080405_000500000008000002_080102030000060000,
  0x050807060000000900_000102000409080000_000004000007020100_090005040000010002_010000090000000700_020400030700000000_080201000004000006_070003020008000001_000509010600070008,
  0x000008000009000000_050002070000000900_030000000400000000_000000060000000504_020500000007010300_000901080000000000_000200000004000100_080000090002070000_060000000000000409,
  0x000100050009000002_000805000700000000_000302040100000008_020006000307000005_080901000504000600_000700000000000000_030600070005040201_040000000201060703_000207000400000500,
  0x060300050002010000_040000000000070306_090000000700040005_020900080000000004_000001000000020000_050000020000000003_010009000005080700_000000000000000000_000500000209000000,
  0x090805000000000000_040000000008060100_000000000205000409_010000030000040602_000906050000000000_000400000100000007_000208040500000000_000000060900000700_060109080002050304,
  0x000400000107000008_080902060003010007_000001000908030000_010000000009080500_030508000204000600_000009010800000000_090100000000000300_000807050000000109_000300000400000000,
  0x070406000000000009_030008040000000700_010209060000000000_000000000000000002_090302000000060107_000004000100000900_000900000800000004_060007000904020003_040000020000000600,
  0x000100030007080005_030005000009070400_000004000800000300_000407000100000003_000000000003040000_010000000508020006_000009000301000000_000308000000090000_020001080006000500,
  0x000403090207060801_000100000300090200_000000040008000000_070204000900000006_000305000000000007_090000000000000300_040701000000000600_000500060000000109_000600000700030000,
  0x000000070001000503_000400000005000100_000000080000020000_050300010008000000_090602050004000000_000000020009030400_040006000000000009_010003000000050200_020000000000060304,
  0x060000090300000000_000000000005030006_020000000008040901_010000000003090004_080003060000070000_090204000807050600_040007050000000300_030002080900060005_000000000700020008,
  0x020000000006070000_060503070009080100_000908010000000306_000005000008090601_000706000903000000_090802040001000007_000000000002050709_000609000800010000_040207090105060800,
  0x000003000005020604_060009080002000000_000100000000090000_000906000000070300_010800060000000905_000000000500000000_090600000300000000_000005000800000109_000300020009050406,
  0x030005000600000701_080100040007000500_020000010500080400_090608050100030200_000000000806050000_010500000000000000_060900000400000300_040800030005000602_000300000201040008,
  0x000800000201070304_000206040709000500_040000000803020000_000000010407030900_000900020008000107_000100030900050802_000300090100000408_010000070304090200_050000000602000003,
  0x050000000000020001_010700000000060400_090000000100000008_000500000700000804_000400000009000702_000107030408000009_080206000900000100_000905010000000306_040301080500090200,
  0x000200000000010000_000500000000000800_080000040305000006_060000090207040000_000002000000000007_090007000400000201_000000020908000000_020900000601000400_010708000000090002,
  0x000008070001090500_000504060902000807_070000050804030600_000002000007000305_050003000000000006_090000000000000400_040000080000060109_000900000000050203_060200000100040008]
theorem mixed_0_ok : mixed_0.all fastOK = true := chunkOK_sound _ (by decide +kernel)

/-- `mixed` (10000_mixed_puzzles.npy), boards 250..499 -/
def mixed_1 : List Nat := [
  0x040000000306000800_000002000000060300_000007000500090002_000001040000000203_080004030005000609_000206000809040700_000600070903020000_000000050008070006_000908000402030501,
  0x000900000003000704_030104000800000000_070000040001000309_050600070008000000_000009020106030500_000000000500000800_000007000005060401_000406000700000003_090501000304070000,
  0x090400020600030800_000307000001090000_060500080000000001_030600000200000000_010705000000020003_000208000103000000_020000000005000307_070100000806050902_000900000002000000,
  0x020400000609000100_000000000500000000_060907040301080502_000200010000000806_050000090400000007_000000000006050200_030000000104000605_000100000903020700_000500000000000001,
  0x000005000000090200_080000000000050000_000702000500000004_000006000004020805_000000000600000001_000009000108030006_000900000001000508_000008050903000000_060500080002000000,
  0x020100040003070009_000400000006000300_000007090108000000_040001080300000706_000003010600080900_000206000907000400_030000000000090000_050709000400020000_000804000000000500,
  0x070605000802000900_090103000004000800_080400000300010500_020009000000050406_000804030609020000_000006040005000000_000000000400000009_000900000501000204_000001080900070605,
  0x000000030002000000_060000000000050008_040005000000000300_000709000006000004_000002080000060007_080500000107000000_090000070003040800_000000010400090000_020000000609030000,
  0x020903000700050400_040708050900000103_010000000800000209_080200070003040005_070004020000000001_000100000500020900_000802000400000706_000307000005010804_060401080007090002,
  0x000001030200000500_060200000000040300_000008000004000602_010003000900000700_070800040601020903_000402000800000000_000300000700000000_000007020400030000_000000010300000400,
  0x000600000900050004_010000000605020008_000700000802060900_000002000507000400_050000020300000800_000907080006030205_000800000200090000_060000000009000000_000003060700000002,
  0x000008070901020005_050107040203000809_090200050000070401_080405020607090003_000900000105000007_000702000004000008_070800030002010500_000500000000030902_020301060500080004,
  0x050903000002000000_000000030008000000_000000000509000007_090105070300040000_030600080004090001_040200090105000700_020006000007080100_080500020000000600_070009060801000004,
  0x000500000007030009_080000000500070206_000000030000000401_000903000105000600_020006090003040000_050800020006010903_000000010300060705_000001000004000300_000005080600020000,
  0x050307000008000000_060000070009080000_000400030500000006_030706010000000200_000008050200030000_020504060003000900_000000000100000000_010005000700060800_040600080300070000,
  0x000008000600020300_000200000000000009_060407020009010005_040005000200060008_010002000000000704_000600070000000000_000006000002080000_000000000700090001_000300040008070200,
  0x000000090708020000_030000000500040908_020000000403070105_060800030000000000_000003080000060000_000200000007030009_010000070009000506_080000000005010307_070000010000000400,
  0x020806000000000103_000100000000050006_030000000600080000_000300070004000605_000000000000000000_000000050100090000_000001000800040007_000400020506000000_000009040001000302,
  0x090000080401030000_000504060002070000_000008030000090006_000200000608010300_060309000207000008_000800090000000002_000400000006000900_000002070300000000_010900020004050607,
  0x020407000005000906_060000020000000700_000800030607050204_030002000500000000_040700060901080302_080900070302000600_050006090700020800_070000000806090503_000108000200000007,
  0x060803090100050007_000507080000040000_010004070502000306_050701000208000603_080600000009000000_000009000701020508_090006020800000405_000000030005060002_030005000400070009,
  0x050000000302080100_000000000807000000_080700040500090002_090000020405000000_000500000900040703_040008010000020009_000000000600030208_000802000100000905_000000000008000004,
  0x080000010006030000_000300000008020000_000001000000000804_000000030007000400_000100000002080009_070602080004000005_000000000800070103_030800090001040000_010706000000090008,
  0x040000000908000000_020903000005070800_000801000207000000_000502000600000000_000700000801000900_000400070302010605_080200000709000106_060009000500000002_070304000106000000,
  0x000000000000000400_060509000804010200_000000090100000000_000703060200090000_080000000000030506_000000080305020007_020600000408000000_000300000900040608_090004000000050000,
  0x070002000004050908_000000080000000701_000001070900000004_000004000006000500_000000000000080609_000908000003000007_000400000508070002_000000000300000000_000100020000090300,
  0x010008020409000305_000004030800000000_030209060705040100_040800090000000503_000006000307000000_090305000008020006_000703080900050400_050400070600080900_080902000504030007,
  0x010206000000070305_000000010000000000_070000000003010004_000100070300040009_090403000000060702_000005090006000000_030002000000000001_000001080000000007_000007000100020406,
  0x000600080000000900_000809000001000300_010300000000070000_030000060800090701_090000010003060004_000100040900050003_050703000000040602_000906000400000007_000401000006080509,
  0x000000000508000000_000603000000020809_020000000300010007_000007060000040000_080400000102000900_000000000000070000_060002000001090004_090300000000000702_000000000000000105,
  0x090008020000000700_020000000001060905_070601000000080000_000907010000050000_000000000000000100_000000000000040002_060000040105000800_030004000002010500_000002070300000400,
  0x000208000100070003_000006000400000000_000000000008000000_020800050000010004_000000080000020000_060400000002000000_090007000000050001_010000030009000200_000002000701000000,
  0x020409050001000807_000801090003000000_060500000700000000_090300040000020701_010005020007090000_000207000100000000_000104060000000302_050002000300000004_030000000402000105,
  0x000003000004060500_000704000000030201_020005000003070408_000900080301000607_080000000205090003_000001000600020005_030500060000000702_060107030000080000_000000090000000006,
  0x080005070000040009_000000060900000508_040009000200070600_000003000800020700_060000000709000003_000000010002000006_050700090400060300_030900020000000004_000000000508090100,
  0x070603000004000200_040502030900060800_080900000700000504_010000090300050002_050804000106070900_030200070400010600_000005010807020306_060300040209080005_020108000000040000,
  0x000709000005000006_000000000200000400_020603000700010005_000000000000000002_000900000000060308_080305000000000004_000000070002080000_000801040500020003_030007060000000509,
  0x000000010700000608_000000000000000000_000001000003000009_000200080305000100_000500000100020403_000003000200090000_030002000609000004_050000020001000706_000807030004000002,
  0x000904080001070300_000007040500060209_050000090007040008_000005000000000004_010400000000020000_000003010005080900_000200030004000601_030806000000000000_000001000900030000,
  0x050002030006040900_030000080407000205_000000090500080306_000005060300090700_000001000900000402_090700000000000001_040000010000000003_000503020700000104_010200040003070000,
  0x040005030801000002_000107050000080300_080002000700000001_010000000000000708_070800090400000000_000003000000000500_000701080006000009_090000000207000005_050208040009000000,
  0x040006090200030800_020807000300010009_030109000000060000_050601000809000002_000203050407080106_070000060102050000_000900010503040700_000305070004000000_000704020008090000,
  0x090708050403060102_050206000701000003_000000020000000009_060000000109000005_010900060500020004_000000000000000000_030507000904000000_000000000000000300_000004070000000900,
  0x000501060000070000_000609070003080502_080000090005040000_050800000000000207_000000020500030000_030200000000060000_090000000000000000_060000040008020300_070000050006000800,
  0x000000000000060708_040100000600000002_000603000000000000_000001000005020000_000000080100000500_000700020400000100_010807040009000000_090000000001000005_030004060702000009,
  0x030600000002050007_000100000900030000_000200040703010609_000900000000000105_000000000000040000_000302000008000706_090405000006000201_010706020000080000_020803000501000004,
  0x000000000701090800_070900030805010000_010500000209060307_000000090300000000_000709050000080004_000000080007000009_000600010004000500_000000070000000103_000107000000040000,
  0x000800000200030006_000701000006000000_030000000000000000_080004000500000000_000000000004020005_000502010000060407_050009080000070000_060003000000000000_000408030002000900,
  0x090600030008050200_070500000000000000_080003020600070000_000704010000000000_000200000306000000_030005040802010700_050109000400020600_000800000000000000_000000050200000008,
  0x050003070004090200_000700000000000600_000000000600080000_000200000908000700_060008040000000003_000000060203050900_000001000409000300_000006000001070009_000009080700010004,
  0x000204070806000000_000006050002040007_070008000000000009_080705090600010002_000003000004000005_000000010007000000_000000060300090500_050300000700000206_000800020100070300,
  0x000000000000000800_000109000000000002_000205070800030401_090700030508000000_010800000907000003_000500000006000009_030400000700000005_000601000005040208_000000000004060000,
  0x040700010309060800_000008020500040000_000009000400000000_090000000704000001_000300000000090000_000000000901000006_000005070600000400_060004000203010000_000000000000020008,
  0x020000000109050000_000000000803090700_090000070400080100_000702000604000900_000409000205060000_000108000007000400_000000090300040600_000000000001000000_000904000000000500,
  0x060000000000030005_000705090003000001_010200000500090000_080501000004020900_000009030800000000_000007000002040000_070006000400000009_000002010000000600_090300000600000500,
  0x090200000006040000_000100090800000007_000007000200000009_000502010700000003_010000000002070005_070000040503000200_000700000001080000_030000000609050002_050009000407030006,
  0x080600030009000000_000000080200000900_000004000500000803_010508000000000000_000009000000000002_000000070003000005_060200000001090000_090007000005000004_000801000000000000,
  0x060108000007020000_050300060204080000_000409010008060500_080600000005090003_090204030001000000_000000080900000406_000900050000000000_040803070000000600_000000020000000900,
  0x000000020300060000_080509000001000000_030602050004080000_000800000200090406_000000000406000000_000406010800000000_060008040002010005_050200060000000700_000000080503040002,
  0x000000000604050208_060804020005000000_000000080009000000_010000050000000009_080402000000000500_090705030000010000_000900040206080105_050208000000060407_040006000500090302,
  0x040500090008020706_000000000005000000_000000000706000804_000100000500060000_000000000907000300_000009060000000508_000305000009080001_010008030200000000_000604000000030000,
  0x000300000000000600_060000000304000509_000000000200040008_070000040006020100_000000020001000800_000009000700000006_000007010000060004_010800000400000705_090005000000000000,
  0x000001040000090208_020804010000060300_090503000800040007_000709000004000800_000208000003010004_000005070000020000_080000000401070502_000000080602030001_030002000507080006,
  0x000008060000040001_090700020004080503_000000030508070009_060800050000000007_000005080300060402_000001000700050300_000000040600020700_040007010200000806_000602070000090000,
  0x030000000205080001_000000000307060205_000000090801030400_040001050000000003_000600030000000804_080009020704000500_000007080003000600_000000070500000008_000000000006070309,
  0x060509000702010803_000800000001000000_030001080609070004_020306010400090000_090700000200050401_040000000900000200_000003000100060905_050900000006040000_010600000000000002,
  0x000000000100020508_000001000007000300_000402000300010007_050903040702060000_000008000000000003_010006000800000400_000309000000000002_000100050000000000_070005000600030900,
  0x000900000504000307_000500000000060001_010003020009050800_000001000002000700_000000050100000000_000804000700010600_070105060000000009_000000030001000006_030200000900040108,
  0x070608040000030000_010900000302000007_020500000608000009_000100060000000000_090400000205010800_060000090001070005_000201000500000700_000700010003000000_000009020700000000,
  0x010609000000000000_040805060907000003_030207000004000000_020000050800060704_070408000600000500_050306000402010900_000102000508000306_060003000700040800_080704000306050201,
  0x000000000700000204_000000040009000500_000000010000080000_000800000400090102_010000000000000003_000900050000000700_060200000000000005_000700000000000601_030400000800000900,
  0x000200090000000003_060005000000090002_000000000600050004_020000000100000400_000004030000000100_000906040700000205_090007000206040001_000000000903080507_000000070000000906,
  0x010000000700090803_000500000006000704_030002090000000000_050000060307040900_000400050001030002_000300000004000100_070900000002080405_020000040809000000_040800070000000000,
  0x000802000500090000_050700000400010000_000006000100000000_080200010904030000_000000070300000008_000600000005000100_070508030000000900_000000040009000002_000900050000000007,
  0x050003060201000007_000009000500010002_000008000009000406_000905010700000604_000000080002000000_020107000000090000_000000000000060100_070300000000040000_040500000006000000,
  0x090000040700080306_000200000800000009_000008090000000000_040802000000090600_000700010009020008_000006020000000705_000501030000000900_020007000000050003_060000000100070802,
  0x020503000004000009_040800000600000005_090600000200030408_000000030902060504_000302000400000000_050000000001000003_010000000000090000_030005000107000806_000706040000000102,
  0x020006000009080000_040009060800000203_000000030207000604_080900040006000002_060000070503040900_050403020000060001_000004000002000805_000800000005010006_000100080000020309,
  0x070000000000000009_050908030700000201_060001000900070000_000004000005030000_000700040209000000_000800000000000600_000007020000000005_040200070000000100_000000090601020700,
  0x000000000008050209_000000040502010703_020503000709060400_080206000104000905_070400090000000600_000301020005070000_000600000900000002_050000080001090306_000800000200040100,
  0x020003010800000407_000100060000000000_000400000902000000_010008000500070904_000000090000000008_050007080400000302_060500000100080003_000802000003040001_000701000600050209,
  0x000807050000040206_040500000206000807_000000040708030000_000300070600090104_050004000001000300_000000020304050708_020408000000000009_000000060002080000_000100000800000000,
  0x080004000306070501_060000020000030008_000000000008000600_000500070209000000_000003000504000000_000009030000040705_090102000000000000_050000000900010007_030007000805090204,
  0x070900000300000006_000003000006050900_050004090000070103_030001000002090005_000500000109030004_090207050400000008_000100020004000300_000300080900020501_000000000001080009,
  0x050006070000040902_030002000904000806_040109080000000705_070004000000000601_060003000408000500_080501060000000304_000008000005070009_010300040609050208_000405000007000103,
  0x070000020500000000_050408090000000100_000206000407000000_020000060000040003_030800000705000200_040600000102000700_080700000300050904_000504000000000001_000300000000020607,
  0x000600070000050403_020000010000000000_000008030000060100_000700000300000004_000300000005090607_000204080000010300_000000000002040701_040900060100000508_050107000803020906,
  0x050700010400090000_000001000506030007_000000000800040005_000009040005010800_000100080009000000_060000000000020009_000600000000080001_000000060908070000_000804000007060900,
  0x030807000006040100_010605000000000000_000002010000050700_000000000000060201_000104000009080000_000700000000000000_080500000002000000_070000080601000502_000200050007000000,
  0x000100080509060000_060908020300070500_000305000000000208_030006000002040007_000701030400020600_050204000100080300_080400070600000000_010000090005030804_000509040800010000,
  0x000000090000000000_090004000500000008_000001070302000005_000000000000000307_000600000007000000_040500080000000109_020000000700000006_000900040200000703_000700030908040500,
  0x090006000703080000_000100090002000503_020000000006010000_000009030000070806_000000020000050004_000700050000000001_030000000005000100_000005000009030000_010000000004090600,
  0x000601030204000005_000002000009010406_000400000100070000_000000010000080000_000200040600050901_000005000800000203_000704000300000609_000500000400000007_000000070900040000,
  0x090007000406000100_000104090300000706_000000070001090004_040000010600000000_000000020803010000_010008000900000000_030600000009040007_080000030700000600_000401060008030509,
  0x000800020104000600_060200000000000300_090000000000080102_070002000000000903_080503000402060000_040006000700000805_000000000000030000_010009050000000006_050600000003010008,
  0x000006070000000208_000708020003090005_020905000008070006_030000000400050000_000000050000010003_060509000300000800_000000000700000002_000000000500080000_000004000802000507,
  0x000005090003000800_000900000000000005_000102070000000000_050000030100040000_040700080000090000_000008000000000001_000000000700050004_020000040906000000_010004050000000209,
  0x060400080900000003_000801070500000009_000702030004000005_000000010700030006_000000040200010000_080100000000000900_000609020803000000_000000000107060000_010000060000090800,
  0x070900060208030004_000000070300010800_000000050009000700_000500000800000200_000107000005000000_000608090702040000_000809000000000000_000002000000000601_010305000406000000,
  0x020000000400060907_090006050102030800_000000090007020500_000809000500010000_000604000701000309_030001060900000400_040307000800000002_000000000006090000_060908000000000000,
  0x000000000000040000_050700000804000209_000009010005000003_090007000500000800_000000000709050001_000000020100060000_000000070400000600_010000080603070005_070006000002000000,
  0x000800000304000905_090503000700000204_000602050109000708_000006010200040000_030104000807000000_080209000600070003_020000060000050300_010408030002090600_000305070901080400,
  0x000002050600000108_000500090000000407_000700080000000200_070908010000000002_000200070900000000_000100000800070900_090807000504020600_000300000009080700_000601000008000009,
  0x000100000000020700_000000000106050000_050000000200000800_000007020500040608_080605070003000002_020409000601070305_040003000908000000_000701000305080200_000508010000030904,
  0x010000000000000509_000009030002000000_070500060900040300_000000080000000001_000004000005000006_000100000000000402_050200090700010000_000000000104080900_000400050608000000,
  0x000000070000030905_090008050200000706_000500000009000208_000604020700090003_000805000400000000_020700080000060004_070100030008020009_080400000000000000_050000040000080301,
  0x070000040200010000_000001000006000700_000000000001000209_000500070600030004_080002000004000007_000000000809000500_050007060903000002_000600020100000000_000000080005070100,
  0x050001000000000300_000700000000020009_000000050200010600_000000030507080000_000807000100050400_000305080402070006_000100020000030800_040503060801090002_080902000000060005,
  0x030005000009000000_000006000503090100_080901000600000000_000000000802060009_040209000005000003_000108000904020007_000503070400080600_000002000000040000_000800050000030000,
  0x050000000000000100_060907000300080500_040800000905030000_000000070000060401_070100090400000000_000000000002070900_090005030008010004_080000040000000603_000000060000000800,
  0x040900020105000008_030008000000000000_010502000000090000_080200000509010006_060000000000000800_070109000008000000_020700090003000500_000000000400000100_050400000802000000,
  0x060900000002080300_000000090000000000_000500000800020004_000800020901000600_000100080000030007_000000000006010000_000605000200000000_040302070009000000_080000010000000402,
  0x050400000309000002_000103070800060904_070000040200000000_000200000700000608_060000020000030000_040000000500000207_030001000000000009_080004000000000500_000000050400080301,
  0x030102000705000004_000009030802050701_000800040900000603_000000080000000007_010008000007040006_000904010206080000_020703000009060408_000000000608030502_080506000400070109,
  0x050409080300060701_030708040100000509_020106000000030408_080305060709040102_010602000804000905_040907020501080306_070504090608010203_000803000200050604_060201000003000807,
  0x000802000003000000_000007040000000000_000600000002030704_090700010405000203_010000000608070005_000000000000080400_020006000304090800_080305000207000106_070000060001000300,
  0x050600070000000000_000003050400020001_000108000900000000_000001000000050804_000000010000090000_070000030004000102_000200000000000006_080009000000030000_030500000207000400,
  0x000004020500070900_000003000000020100_000000000007000003_000900000208010300_070301050900000600_020008010000050000_040002000701000000_030000060005000001_010000000802040507,
  0x000000000600000004_090000020004080600_000600000300000000_000306080000010500_070000000105000402_050001000203000900_000800000000070205_010500000000090306_000200000000000000,
  0x000601000009050000_090000000000070003_030807050600000900_040200000700000000_010009000000000304_000500000003000000_050900030800000000_000304060500010009_000108000907030000,
  0x050007090400060108_090000000600030000_030806050201000000_080500000100090600_010009000005000400_000000080009000000_000901000002000800_000305040806020900_020408000000050000,
  0x000000000500000006_080004070601000503_000000030000000702_000408000002060107_060300000000040000_000100060008030205_030900000007000604_020600040900070801_000807050006000309,
  0x000000000603050008_030200000000060901_000006050200030004_010000000300020800_060002010908070400_050900040002000603_000500000407090000_020601080009040000_040709030100000502,
  0x050000030608010000_000000040001000600_000000050709080304_080901000400000000_070206000300040900_040503000900070000_000007020500000001_020800000100000700_010305000007090000,
  0x000002000109000000_000003020000000000_080109070003000004_000000030702000508_030704010005020609_000008000006010307_000805090004000702_000300000200080405_040200080007000100,
  0x000304070600050102_050900040102030006_000602080000040900_060003090000080001_020000030801060709_090001000704000503_000000050400010608_000000020006000305_000500000000000000,
  0x000006000300000000_040003000000000206_000500060800030000_000600050009000100_080700000400000000_010000000008060500_050208040600090703_090104070003080000_060000000000010400,
  0x090000000800000000_000000000005000201_000001000703000000_050008070200030006_040700010000090805_000003080500000704_030006090000000000_000000030000040002_020004050000010003,
  0x040000070008020000_090705020000080000_000800000300000405_000000040209000000_030000000600000000_000000030005060907_060009010004000000_000002050800000006_070008060900040001,
  0x000000000100060000_060000030809020407_000000000000000108_000400000905000000_000006020708010000_090000000301000000_010602080003070500_000700000506000802_000504000000000001,
  0x010809020704030500_000000000009000002_040702060003000800_000903070000050008_050000000900000001_070000040805000600_000300050000000004_000000000000080005_080105090400000000,
  0x070403050000080006_000602070100000405_010000000306000902_000005000702010000_080704000000000203_030000000800000507_000000060501000000_000000000400020609_000800020007050000,
  0x000900000807010600_000208090000000007_070006040005000000_060402000000000000_000701000504000002_000003070006090000_000609050002000100_000100060300000904_020804010000000000,
  0x000800070002000600_000000000900010007_030700060001080205_000903000007000500_080006030000000704_000500000209060003_000000020704030000_000008010000000902_070300090000000401,
  0x000300000107000000_010900000500020006_000006000900000000_000000030001060800_000000000208000105_000800000004000002_050000000000000000_070000000800040603_000600010400050708,
  0x050001080000000003_090700010000000002_060000000300050901_000006040500090308_000000000107060405_000009060000000200_010000030000080000_080600020000000709_000000000008000100,
  0x000200000900070000_000907050002030100_000400070100020000_090004060308010007_010000000700090000_070000000200000804_040000020607080001_080006000000040902_000005000004060000,
  0x050000000600090000_020000050000060000_000409030100070500_000208070000000000_000300000000020700_070000000203000804_000000020000040600_080000040000000300_000604000001000205,
  0x000806000105000207_000000080700060300_070102000009040000_010300000008000000_000004000900000003_060708010304000900_000503090001000700_000607020500000400_000001000006000005,
  0x040000090000000003_000000000006000001_000000000702050000_070000060000000000_000309000008010500_010800000900000000_060700010800000900_030901000500000004_000002000009070000,
  0x000007010000000408_090800000705000103_000000080904050007_000000000000000200_000001050003040700_000900000400000305_050009030000000804_000000090800060502_000608040000030001,
  0x000408000900070002_000000000804000609_090306000002000400_040005000009030000_000209000405080006_000601000200000504_000000000100000000_010000000006040800_000500000300020000,
  0x010000060500080002_000300000208050104_050800030104000907_070109000400020000_030406020705000800_080005000003040706_000600070801090405_000000050609000000_090501040002070608,
  0x000000090607020000_060000040502000000_020700000100000000_000000070805090003_050000020000000107_000000060001000000_090401000006000700_000800000704060500_070506000008010400,
  0x000604000803000700_080207000000000006_000000060002000000_020000010000090000_090008040200000000_050100000907000000_000800000600030004_000000000000000200_000900000005000001,
  0x050000000007000602_000007040000030501_000102000805070900_090500000006040800_000004090008060007_080706000001090000_000600000004000300_000908000103000000_070000050000000000,
  0x000005090800030002_000000000001000000_000008040502000900_000007000000040008_080900070204050600_050003000100070209_000000020008090000_040800010003000000_000300000609010000,
  0x000604020900080000_000000000003000200_000001080400000000_050300000000070406_010702050004000900_040006000800020000_000503000000010604_000000010508090300_020000000000050800,
  0x030700010005000608_000405090008020007_080002030007000000_000000050309010000_020300040700000809_050001000002000000_000103080900000502_000000020006000000_040200000003000000,
  0x000000090100080000_000900000008030506_000000000003000000_000100040005020800_000500070002000600_000000010000040305_000005000004090100_000702000906050003_000300050200000000,
  0x080403020706000005_000007010803000006_000106050004070003_000500000007000209_070200090005010304_000309000201050000_010800070509000600_000700000402000001_090000030108040507,
  0x060000000204090700_020401000907030000_000700000500010402_050000070108040900_090004000603000007_000007050400020806_040908060002000501_070503090801060004_010200000700080309,
  0x000400000000050100_030500020000000000_020000050900000308_050901000000070200_000600030507010004_070304000102080506_000000040709000605_000706000005030809_000205000308040700,
  0x040002000006010503_050103000200080009_000006000005000000_000001000300090800_020500000008070000_030000000001050204_000000000000000008_000300000000000002_090800020700000005,
  0x040000050000000603_000908000000000004_030605070904000001_050001060200030708_000206030100050000_090800000000000006_080000010700000002_020000080000040300_060007000400080100,
  0x000000000704050009_010500000806000400_040000000000030000_000004050001060003_030206000400010500_000005000600000000_000401000000090306_050007000300000001_060300000109000005,
  0x000407050000000003_000009030200060004_030008040700090000_010502000000000006_000000000007000902_000000000002040005_080004070000000000_020000000300000000_000001020000050307,
  0x000700000000000500_080305010000000700_000001000600000000_000006020008090007_010000040000000300_090507000301080000_070000050000000004_000000000006000200_050203000000070601,
  0x000003020109070608_020009070000010504_070801000504090200_000005040200000100_010200050907030400_000706000800050002_000007080000000305_000500030000060700_000000000005000801,
  0x020801040306000007_040000020007000301_000307080000000204_000109060000000003_060405000803070102_080000000401000500_000002050700010400_000900000000000700_000704000008000600,
  0x000804000300000207_000009080402000600_000000090007000400_000500000004010309_000703000006000000_000400000000060000_000900070000000100_000000000005040000_080301040200070000,
  0x030700060900040000_040600070500000009_090200000403000000_000006000704030000_000004000000060008_010300050600070000_060000020105080000_050807000000000200_020000000800050400,
  0x080003000000000000_090000050000010002_010602040007000800_000800030100040009_000100060000020000_000000000004000000_000006000205000100_000000000000000000_030000010406070905,
  0x070000030205000400_000002000000050800_000409080000030000_090307000804010600_040005000603080200_000000000700040009_000003040902070100_000000000000020900_000000010307000500,
  0x000008000500000007_010900000000000004_050400000206000001_030500000800000602_020700010600000400_000601020403000700_000106000704020800_000000030102000900_040200060900000100,
  0x030005090704000601_000107000000000005_080004000003070900_000400030200000700_020000070600010000_070800040100050200_050302080400000109_000008000001000000_000701000906000000,
  0x050004000309000600_010003040200000007_000000050006000000_090008060001000700_040100020503090006_000502000907040103_000005000002000409_000000000004080000_080000000605000000,
  0x090000000002060005_070600090005000003_000000000000090100_000500070000020000_040007000000000000_000903000600000800_000000060008000900_000406000000080000_000000010003000602,
  0x000003000000000800_000000000000000302_050000000000000406_080002060400050000_000504000902030600_000006000005000000_060000020300000000_000000000001060908_040000070006000100,
  0x000900000800020000_060800000502040300_030700090604000001_010000000000060502_000200000100080000_080007000000000000_000000000700030000_020000030005070100_070003000400090000,
  0x020309000100000600_000000020300070001_080000060405000902_090104000000050000_030000010504000200_050000090000010406_000405030002000009_000208000001060000_000003050000020004,
  0x000600020000090508_030907000005000106_080205010600070400_090500060700040301_070100050203060000_060308000400050200_010800000500030000_000706000104080000_000000000000000002,
  0x080000000005040700_060005000000090003_000007040601020805_020009050300010000_040300060007050900_000008090004060000_000203010809070604_090006020003000500_010804070506030209,
  0x000007000600050008_050300000000000000_000004050903000000_010908030002040005_000503000001020900_070000040009000803_000205090000000400_000401000005000009_080709000000000000,
  0x000007000003090600_050000070900000308_090403060805000701_070000040500000209_000500090000080407_060004080207010000_030000000608000904_040800000009000100_000709030104050800,
  0x060000000000040009_000000070000000000_000000050009000000_050000090706000008_040006000005000307_070109000004060502_000007060102000905_010000000000080200_090200040500070600,
  0x090000070000000200_020306000500000004_080400060002000005_010802000007040000_030500000000020000_000700040000050800_070000000000000000_000600020901070000_050208030000000400,
  0x000700000800060300_000009070400080002_050300090000010400_030002080900070000_000600000207040005_000000000006030000_040205060008000000_000000000005000800_010806000009050004,
  0x000409000102060507_060105000400000000_000802060500010000_080704000001000603_020300050000000109_090001070306040002_000603000008090005_040908010005000300_000207000009000401,
  0x030802040009000107_000100020003000408_040000000005000300_090003010408070605_070000000000080904_000005000900010003_020000000800000006_060908000207040500_000000060504090802,
  0x000200050000070000_010008000000050300_070000000000000000_000000000500000907_090007080006000004_000800000709000600_000704060105030000_060900070800000005_000103090000000000,
  0x000301000002000600_000000000000000100_000502040700080900_010008050600000009_000000020008050001_030000000100000000_050809000000010007_000700000009030208_020003070004000000,
  0x000200010608030004_000603090200000100_000108050307000006_000906030105040000_080001020409060500_000000000800090201_000400000003000600_060000000502000000_000309000700000402,
  0x000300000000000208_080400030005070901_000005080000030004_000009020003000000_000208000900000300_000000000008000400_000800090004000000_090004000002000100_020000060700040000,
  0x000704000300000900_000003020000000801_000000000000060000_000007010000000600_000500000008030002_040000000003000500_000200000000050006_030005060007000009_000109050000070304,
  0x070104000308000006_000000000001040300_000000000005080700_000003060500000000_010007000000000402_000008000204000500_000000000100000600_090001050006020000_000000040003000005,
  0x000000000400000000_060000050000020001_070802000900000000_000206000000040009_030509080004000006_000000000000000805_000000010005090302_020705090006000400_000003000008060000,
  0x000000000300060501_000000000001020009_000009050702000000_000800000004050007_000000000807000006_030007090006000002_000904000100000000_010205070403090608_000000020908000000,
  0x090705000600000208_000000000501090000_000200080907050000_060402000700080003_050907000000040600_030008060004070905_010006070402000509_070009000106020804_020000030800060700,
  0x040000000006000007_000609040708030501_070500030100000002_000000000000000005_030700000201090604_010000070405000008_060200000800050009_000004000000010200_050000000000000806,
  0x000000020900000500_000100000805000900_000800000000000004_000000000002040100_000904060000000007_000000080000000600_000001000000030000_000003040609000000_000005010000090802,
  0x090007000000060002_000100000009030400_000400080000010000_010904000708020003_020000000601050900_070500020900000100_000600000007000000_000009060405000000_030705000000000000,
  0x030200060000000004_000500000708010200_040000020000000009_000000010006020000_060900000000000001_000100090400000000_000002080009040300_080600000004000007_050009000301060000,
  0x060004090008000000_090508070006000004_000100000005090000_000009010000020800_040800030500000907_000000080000050400_010700000000080000_030000020001040000_000000050700010200,
  0x000000000600020700_060300080007000004_000000010000030605_030001050402000006_000000000003000201_000207060800000300_000008000000060002_020000000500080103_000603000000000500,
  0x060901000000000007_000500010000040906_000004060800000000_000000000000020600_000203000906080501_000000000002000403_070608020500000300_000000000008000000_020005000600000000,
  0x000003090100040006_040000070005000000_000006000003000002_060500020000010709_010000050000000008_080300060001000000_000000010009020007_000400000000090001_090007080006000000,
  0x000000070205090000_080107060000000002_050200000301000000_010908050003070004_040002000700010000_000306040102080905_000700000004020603_000400020907050100_020000000006040009,
  0x060900000002070401_000705040300000900_040201090000080003_020009010007040308_030508060009010000_000100000003000000_010002000005060007_000300000000000200_000007000600000009,
  0x000000050908000004_000009010000020608_080007000000050009_090805070003000002_000000000000000005_030004000005060000_020000000700090000_040001090006000000_000000020001000400,
  0x000700060308010205_030000070004000908_000006000001040703_060007020003000100_000003050000000600_000201000607000304_000000010706000002_010000000900000006_070600000000000501,
  0x000005000907000001_000200030500080000_060000000401000200_000000000802040700_090002000304010800_040807060005030000_020008000600000000_000000000700000000_030000010009000600,
  0x000306000000000000_000004000000020008_020000060005000000_040900000002050300_030708000100000200_000000040703080000_000009000006000002_060000000000070500_000400000900000800,
  0x000004000200070106_000009000000020000_000000060500030000_000000080005060900_000106000703000005_000800000600000703_050007030802000000_000000000406090300_000000000000000002,
  0x000400060000070008_090106000008000403_080003000000050000_000000000500000309_000905080000000600_030000090006040005_020309010000000000_000800000009030501_000000000000090004,
  0x040000070106020000_010702030908040605_080609000405010000_050000040702000006_020407000000050008_000000080509000402_000100050803090200_090805010204000007_000200090607080001,
  0x070005000000010000_090806070004000200_000104000003080009_000900000000050801_000000000601070000_000003000807060900_000001000205090607_030709000406020000_050002080709000000,
  0x080002000000070000_000004000800000000_010000000900000508_000600000400000803_070403080100000009_000000000000040700_040001000008020000_090006050000030000_000005000001000004,
  0x020600010004050008_050000060008000700_000100000000000000_000003000800000006_000507000300000800_010800000007000000_000200080000000900_000001000000000500_000000050900000000,
  0x020805000300040709_000300000000000000_070001080004020600_010004050902000008_000000000701000900_090000060800000500_030000000005000000_000008000009000400_060700000000000100,
  0x000008070105000006_040000060002010308_010200030800000009_050100000008070004_070603000000000902_000009000007000501_000805040000090100_090004010000060000_060001080500040007,
  0x000005000803060200_000802000000040900_070006020009000008_000500000908000100_000000000402090806_060900000000050002_050000000000010309_000009000000020604_040000090306080000,
  0x020000060008000007_000000000300000009_000004020900000008_000000000005080000_000800000009010200_000200040001000603_000608090703000402_000400000500090800_050900000000000701,
  0x000300060000000209_000209070000050306_000605030000040000_000100000000090008_000000040000000600_050006090801000002_060503000009000800_090002000000000501_040001000006000000,
  0x000004030908000502_030005000400010000_080000000500040703_000700040002030900_000000090305070000_090000080007020000_000000060703000004_020609000800050000_040307000000080601,
  0x000801060507020903_090007010802000006_000506000304070801_000009040003000508_050200000600040709_010000070000000300_030000000400080100_080100020009000000_070004000108090200,
  0x010008000300040900_000003010009000208_000000000004070003_020800000105000000_000100000600000000_030600080000000500_050400030000090000_000000000508000000_000002090000000600,
  0x000800000400090503_030000070100000806_000200080000000100_090000000200000008_060008000000000000_000000000008010009_000600010000070005_000407000000030001_010005040607000900,
  0x000803070000000002_000906020100000007_070100050600000300_030409060001000708_020500030407000100_000000000800040203_000200040709030806_090007000000020401_080604010302070905,
  0x090000000008070405_000400000000020800_080700000000090003_000004000102030000_070000000400010008_000008070009050204_000000000500060300_000603040007000500_000000000800000700,
  0x010400000000020908_080007000109030406_000000000000000000_000009000500060000_030500060902040100_000702000300080000_000603000400000005_020000010600000003_050001070203090604,
  0x000000020700000005_000609000300000007_000000000000060802_010900000002000708_030002070500000100_070000090600000004_090001000204000003_000000060007080201_060200000803000000,
  0x040503080100060907_000000000000010005_090001050006080200_000000010309020000_010000000600070300_030002040007000801_060308090005000000_050400000201030708_020000030800000000,
  0x000804020600000000_070900030000000400_000006000400070803_000302000006000009_000400050002000706_000007000000020104_000605070001040300_020108090004050600_000000000800000001,
  0x000000000009000500_060003000107090000_010002000005040703_090000070501000208_020005000800000000_000708090002050001_070209000308000000_050601020900080307_080000000706000005,
  0x090003000001000006_000008090604000203_040500000308000000_000002050000000608_050407000806000100_000809000207030504_000000000000020005_020004080705060301_000005000002080709,
  0x010302000904000807_000000000103000600_000000050700030900_090100000005000400_050000000000000008_060200030001070509_000000040000000000_020005000000000000_030000070000010000,
  0x000700000003050900_020009000000000000_000005000008000702_000002060000000400_000601000804000000_070004010000090806_080900020100000604_000000000400000009_000003000900000507,
  0x000000090002010500_060000000100000800_000102080000000000_080200030509060400_050000070406000000_000004010008050009_040003000000000005_000900000000030104_000007060000000900,
  0x000009000004000700_000200010907000500_070000000306000004_000406090000070105_000708000000090000_000902030001060400_000005000003000807_000003000600000001_020000000000030000,
  0x030007050409020608_000400000000090307_060000070200010004_000003010007000900_000000030805040106_000806000904000700_070004090502030000_090200080300070400_080000040000060000,
  0x000000000006020300_050306000200000009_000000030800040605_000004000600000000_090000080700000002_000000000002060400_000008000503090200_000002060400010800_060709000000000500,
  0x000500000800000009_060001090000000200_070000000002010000_000000020400070003_000000000300000000_000000050000090602_000000000004000007_000000000003000504_000209000700030006,
  0x000804000007060009_000000010000050007_000007040906000000_030100060200070900_070908030100040200_000002080009000003_000409050600000002_060000000400080000_000000000803090004,
  0x090002000608000005_000003000900000800_070000000100020009_060705020809000400_030004000000090000_000100000703000008_000306090400000200_000007060000080900_040900000000000603,
  0x000306020108040500_040008090700030000_070100000600000800_050000080000000000_000901050300000400_000800000001000000_030000000007080000_000000060004090100_010009000802000700,
  0x000000000000000000_000004010200050000_000000080000060302_080001030500020000_050000000100000000_000200060000000501_000100000006080207_000800000000000600_060407000300000100,
  0x090705040001020300_060000020000000700_020004000500010600_040100030000080900_080600000002000503_000903060000000002_030008090407060201_070209000000030000_010400050000090007,
  0x000007050001090804_000800000007000000_040305000200000000_000001000006000000_020003000100000000_000000000000060008_000000000000000700_000000090000050400_000000000705000003,
  0x060009020805000000_020000000000060509_050000060003080100_080200000001000700_090300080007000004_000407000000030600_000000000300000006_040000090000000000_000002000500040907,
  0x000203000001000905_000708000509000200_010905020000030407_080009000405070002_070002000000040106_000401000000000809_000006000000000500_050107000000020008_090000050002000703,
  0x000902070600000003_000504000300060207_060000040000000005_000005030400090008_000000000000010600_070600010802000004_000708060000000000_050400000907000006_030200080000070009,
  0x040701000200000000_060500000001080203_080000060005070000_070006010302090008_000008000500000000_000900000000000300_020000050700010004_000004000006030000_090800000100000605,
  0x000900000400050800_050402000003010907_030801000007020000_000300000000060400_020000000000000009_000507000200000000_000109070002040305_000003080105090706_000000030904080001,
  0x040806000305090002_020300000600070000_050100090002060403_060200000000000709_000008060509020300_000001000000050608_080602000403010907_000700010000080504_000504080007000006,
  0x060000000900010003_050000000008040000_000000020000000900_000000000006000005_000000000000090300_000200000700060008_000500030002000109_000908040000000000_020007000509000004,
  0x020400000700000600_000005000002000008_000700000001050200_060004010008000500_000108000000060000_070203060000000801_000600000800000705_040007050000000000_000000070900080400,
  0x000903000500010000_040000080200000609_000100000700000400_020300000009050000_000001000005000000_000000030602000701_030004000900070008_000000000400000000_000200000008000000,
  0x000200000005060003_070003000102080000_080000000400000200_000800000000000100_000000010000040000_000100000008000005_000001000309000002_000000000501000300_000009000604000500,
  0x000000000300000000_000600000000000201_000803020000000600_000000000002000000_000906000000070300_000000000904010500_050701000209000400_060000040000000000_090400000500060100]
theorem mixed_1_ok : mixed_1.all fastOK = true := chunkOK_sound _ (by decide +kernel)

/-- `mixed` (10000_mixed_puzzles.npy), boards 500..749 -/
def mixed_2 : List Nat := [
  0x000001070004000508_080000000102040703_000405000806000000_000307000608090000_060504000309080007_000802000005030601_020709080401050000_000000060203000904_040603000000010002,
  0x000000000300090800_030009000104060200_040700000800000000_000500030609000000_060000000001000500_000000000500040900_080000000000030000_000103070000080400_090407000000010005,
  0x000300060500000700_020600000009030500_070000020000060001_000000090000050300_030008050007000400_000500030002080107_000006070203000905_000000040600000200_000400000000000603,
  0x000100000500090208_000000010000050006_000905080200000003_010000070000000902_020300000100000800_000009000000030105_090700060000000000_000201000000070004_080400000000020009,
  0x000400000508000902_000003020000000701_000000000000060004_000209000006000008_000001000000000000_050006000100090000_000300000002000805_080000070000000003_070605000801020400,
  0x060005000000040000_000800010000060300_070000000600000001_050400030100000600_010203000900000000_090600000000000003_000000050006000800_030006080001070209_080004000009000000,
  0x000600000008070902_070502090004000800_000009000200050600_060000000000000003_000000010706000009_020908040305000706_040706000809020100_000301020007060400_000200060000090007,
  0x040300000805000000_000000000000000300_050800070300090401_090200000000000004_000500000708020906_000600020409050003_000400000900000000_000000000003000700_000700000501030008,
  0x000100000002000004_000004010306000508_000000050408000100_010007040000000203_020000060000080000_080400000000010607_000000080000040702_000200090000000800_000006020700050900,
  0x020001030900040000_000000050000000700_000000000007090003_000000000000020000_010200000003070004_000007000200000009_000000040600000800_000306000009000407_040002000301050000,
  0x000000040008090002_000800030205000100_000504000009070000_000103000900080000_050709080001060204_000008000007000000_080900000000030601_010000090800050007_000006050100000900,
  0x000200060004030807_040800000203060000_000900000705000004_000604000008000103_000000000001070600_070501030600040900_000003000009080000_000002050006090401_000000000800050302,
  0x000800040007000009_000000030002000700_000400000900000300_020300090001060408_000100020400000007_090600000300050000_030009060204000800_000000000000000005_000208000009000603,
  0x090000000502030001_000100000006000405_070500010300000000_000700000108060004_010000000400000502_000200050000000007_000000000200040000_060900040705080200_020007000900050006,
  0x060805000703040100_040100080000090000_000700000500080300_090002000007000000_070300020000010500_010006000900070003_000604070805000901_000200000109000600_000001060204030800,
  0x000500030000000000_000000000500080004_000006090208050000_000003080400000906_050104000902000007_000608000007000005_000000040800070500_000000000100000308_060002050700000109,
  0x000506020400070900_000100000007020600_000900000603000000_000009010008000000_000000050004010000_000000030200000000_060008070109030000_000000000302080106_020300000000000709,
  0x010206000504080309_000903010000050004_040507090800020100_070005060300040200_060300020407090000_020009000105030007_050700000600010008_090100040708060500_030600000000070002,
  0x000000000000090407_000000040700020100_000000000902080000_020800000300070000_070601000000000000_000900070100040008_010000000000000902_000005020000010000_080200050401000000,
  0x000004080002000703_070600000104090000_020000090006000001_000900000000080000_000300040908020007_040802070001000000_000700060209030000_030400000000000009_000000000003000005,
  0x040203000700000006_000008060000090000_090000000801030002_000000000008070001_000002000004060500_010300000000000008_020000080003050000_050000020406010009_000000090007020804,
  0x000400060008020000_090006000500000004_020805070300000601_050004090001030000_010000040000050900_070002030000000008_000009000003000200_000200050006000400_060007000000000000,
  0x030000000908000500_000004060105020000_080000000000040900_040300000000070600_000000020006050401_000100050000000308_020000000509000004_010907080004000000_050008000200000100,
  0x020001000704080000_000000000000000900_070003080500040001_000107000006000508_000008040000060000_000000000007010004_060000000000000000_000700050003000006_050804070609000000,
  0x000008000300000000_000000000500000000_090000070000080400_000007020003000100_000601000807000500_000904000600000000_060003000000010000_070005000002030809_040200000000000000,
  0x040800000206000900_000700080009010006_000900010703040800_060500040001000000_000000070000090608_080307000000000400_070005020900000000_000102030008000700_030000000007020509,
  0x000000060804020000_000600090000000000_070000000000000008_040500080003000002_080003000000000600_060001000905000000_000000000106030407_030007000409000800_000000000008000200,
  0x010500000907040600_000600000502000000_000208060300000001_060005030800000200_000300000406000900_000800000000060003_030000000700090406_050000000000030007_000907000603000005,
  0x000900000008000500_000000070000000600_000000030200090008_000203000107040000_090700060304020000_040000090800000000_000308000006000200_010006000503000000_020500000000060000,
  0x000006000908040007_000000000203010006_030904060007020000_090300020401060008_000008070006030109_000001000000050004_050003090000080400_070802010600000503_010009000305000002,
  0x000000000000000000_060100000500000800_000308000006020000_000000000700000300_030800040900060002_050400000300090700_020004000000000003_000600000000000001_000700030802040009,
  0x000000010000000700_000008000000030405_090207000003000000_040800000207090006_010600090000080007_000900000008000304_030009000600000502_000000070300010008_080401050002070000,
  0x000400050200090300_090700030000040600_000500000400020807_000300000001050004_000107000000000903_080004000000000000_030009020700010008_000000000000030200_040200000300000000,
  0x000000050000020400_050002000300000700_080406000000030000_000008040700010600_060501000000070204_040709000206080003_090100060500040807_000004070000050006_000605000408000102,
  0x000504000007000809_090000000000000000_010003000905000200_000007010209080604_020006000804000105_040008000000020000_000401000000000008_000009070003000001_070000090000030400,
  0x070206010900000504_000901080700000000_000400000006000900_030009000400060200_000005000000040301_010600030000070009_000100000000050700_000500060002000103_000008050000020400,
  0x060009020000000704_000302070000050009_000700000000000208_020104080000090600_070600000009000001_000000000201000400_010005000800000906_000000040005010003_000007000006040502,
  0x000000000000040100_040000000006080009_080001000700030500_000709030000050400_000000000005000900_050003000900020000_070204000500000800_000100080409000005_000508010207000300,
  0x000102000000000000_000900050700060000_080000020900000000_000007000000050000_060000000000070000_010003040607020009_000600090000080003_000001000000000600_040000000200010007,
  0x000600000307040009_000009000500000008_000000090601000000_080900000002000700_000504000000080000_060701000900000000_000407000003090800_000000070800000304_000000000400060200,
  0x000100000000040800_070006050004000001_000004000007050009_050300000800000000_040901060500000000_080602000009000504_010703000005000000_000000000600090105_060500010200000400,
  0x090000000002040000_000000060000000900_000002000901070306_000000080005000004_000000070003080200_000000040600000000_000500010000000000_000103020806090400_060204090000030001,
  0x000006000109000000_010409000300080607_000000040008000000_000000000000010000_000605010002030809_080000090504000206_000008000401020003_050000000000060000_000203000900050401,
  0x000001000000090007_030007000000000002_000600070300000108_070009000000000000_000000090001000003_080103000400000200_000500080003000700_000004000607080501_020700000500030000,
  0x020005070001040908_010809040500060307_070300080000050000_000007030409010506_000000020005000003_000503000008000000_050002000603000709_000000050200030001_030700000800000600,
  0x000008050000000400_040602030000080000_010300090000000000_000700060009000804_050006070000090102_090204000501000006_060100000908020000_000007010000040008_080400020705010003,
  0x040506000700010300_000200000000070406_080703040106000009_000000000003000001_000000000009030605_030905070600000000_000400000905060100_050002010000000003_090301060000050800,
  0x000700040005000000_000004080603070000_000000000002000400_000400060000000002_050000000304080700_000100050200030004_090800030500040000_000000000000000001_040601020900000000,
  0x090003020405000800_040000000000000000_000000000609050400_000106000800000904_000000090306070500_070309000004060208_000805040103090000_000900000000040105_000000050000080302,
  0x060900050000000003_000100000000080600_040000000900000500_000601090805070300_070800000200060005_030000070000000002_010000020000030708_080000060003000901_090005000000020006,
  0x090600000001000007_040001000502000000_000000000300040500_050008060403010702_000000000908030600_000206000005000000_000000000007000103_060503000100000204_020000000600000008,
  0x080002000900060003_040609000000050007_000503060000090408_020000040600000300_070000020308040601_000000070005000000_090100000000030506_000008000003010000_000004000706000902,
  0x000300000005010000_000005000100080306_010906000000000000_000008000700000600_000000050000000100_000009000002000503_000500020800000004_000800000003000200_000703090400000000,
  0x000907060000040000_000000000008010507_010000000207060009_090500020103070000_070000080000000900_000306070905000000_060200040009030000_000709000006000002_080005000002000000,
  0x090000030000000607_000400000002030901_000000000106000200_000003000600000400_000900000301000000_060004000000070000_050000000203080004_040000010000000006_000000070900000002,
  0x000000000000090400_000001000005000703_000603000000000000_000305000000080009_010402090008000000_000009050000040100_000006000007050900_050008000906000200_090704080500000001,
  0x030000000000000000_050802000100030000_000109030400000008_020608090000000000_070904000000050006_000300070806000200_040000000002080905_090000050700000403_000006040900070100,
  0x000000010500000208_000007020306000501_000000090807060400_000003040205080706_000400000008000902_000002060000050300_030600070902000105_000100080400000600_090200050000000800,
  0x040006080005000107_000700030009050800_000809070000020403_000001090503060702_030207010000000005_060000000000000300_000000000900000508_020003000008010609_090008050300000204,
  0x090000010006040700_000600000000080003_020807000003010600_070000030008000000_000008060702000001_000002000509000000_080000000301000400_000500080900020007_000001070600030000,
  0x060000030105000000_000703000004050001_080001000609000000_070008000000000500_030906040008010000_020100000907000000_040000000701080300_000002090000040700_000000020400060009,
  0x000000000008040601_000600000300000002_000100020006080000_070800090005000000_000000010000000800_060000000807050009_080002060009030704_010300000002000905_090706040503000100,
  0x040008050001020900_000100030000000000_000000000204000000_020007010008040000_080600040000050000_000500060900030008_000000000000080200_060000000003090500_000000020000070001,
  0x000000000000020000_000000040500030001_040209030000050807_000708020003060000_050000000007000300_000302010805040709_030105060209000408_000906080004010003_070004000301000206,
  0x000506090800000007_040000010000050003_000100000000020009_050701000000000008_000000080000090000_000000020000010004_000005000000000401_000207040000060000_000300000006070000,
  0x050709000804000000_000000020300000500_000000000000070004_000007000200040000_000408060705000100_000006000009030000_060001050000000000_040800070601000000_000000080400060000,
  0x020008000501000000_000000000006010000_010006070004000205_000100030900020000_000003050008000000_000400000000070000_000001060200030704_090007000003050002_040000000700060000,
  0x060005000000000300_000700080600050009_040300000005000701_000006090400000000_030100060000000507_090000050300040002_070001030000080000_000209000000030006_000000000500000204,
  0x000900000200000005_060008010305000702_050000000000000800_070000040601000008_080500030702000900_000204050809000307_090703020008000001_000600090000080000_020800060500000000,
  0x080300000001090200_000000000502000000_020000080703010600_000002000809070006_050800000304020900_070000020100030508_090001000005000802_060203000000000100_000000010207000009,
  0x050000040008000903_060103070000040200_080009060002000100_000700080000020400_000004000701000009_010000000004000706_090801020600030500_070006000403000800_040300000000010607,
  0x080000000500040906_050000000601000000_000000070000030500_000000000006000400_060000050000000009_000005010204060000_000000080002000600_000009000705000000_020007000300000000,
  0x000000080000000700_000600000000000403_000004000000000102_000309020005000000_050408070600000001_060002030000000005_040003000907010208_020006000800000504_080000000500030007,
  0x090300050001040200_000000000007000300_010006000003090005_000000090200000000_000702000405010609_000905000106000003_000000060509080000_000009000002030400_000000000300000000,
  0x020107080603090504_090003000004070002_060405000000000803_000000000807030905_080709050000040006_030000090001000708_070604000000050209_010308020900000407_000902000700000301,
  0x060003080000000200_000108090207000305_000009050000000000_000700030006020908_000000000700000500_000306000508000000_000005000002090700_000007060005040802_080400000000000603,
  0x080100090300000002_000400010802000000_000903070400050801_000800000907000204_090700080200000305_000000050103000907_000309040601020000_000004000000000003_010200000509000706,
  0x060000010508000700_000509000000000300_010408090007060502_030706050900000001_000104070803050600_090805040601000200_040000030705080006_080607020000000405_050903080006020007,
  0x090000070501060000_000000020000000000_010000000804030005_000001000000050007_030007040600000008_020008010000090003_040000000002000306_050200000907000004_000106000403000009,
  0x040200080907030000_000500000000070000_000001000300080602_000009010705000003_020405000000000000_000100000009060005_050000000000020706_060900000402000008_000802000006000300,
  0x000400000001000805_000701050400000003_020800060900000400_080000000007050600_000000030009000700_000102080005000309_090500000800030200_000000000002000106_000008000300000500,
  0x050700000000090608_030904000008000000_080600020500030007_000107000200060009_020300060801000705_060805040907010300_000200090006070504_070003000002000900_000406000000020000,
  0x090008000105020006_020005070000000008_000100000802070905_080400000000000107_070901080300000002_000002090701000004_000000010000040203_000206050000000001_000007040008060009,
  0x000000000003000400_090000000000000000_010003000405000206_000700000008050000_000009000700040000_000500040201000907_000000010300000700_000000000000000509_070601000509000000,
  0x000005020007000000_000904000008000003_020100060000080000_010300050002000000_000800000900000006_000500000003000000_000708000000000902_060001090004050000_030009000000060007,
  0x070001000000000800_000506010009030002_000009050007000000_040607000001000000_050000000903060100_010000000200000000_000100090008040006_090200030604070501_060700000005080003,
  0x000201070306090400_000300020905000001_000600000000030200_000006000801000300_030809050000000700_000004000000000900_000008000009000000_010503040600000809_000902000000070104,
  0x080600000005000000_000000000800030000_000007030401000900_000001000000000000_030500080009040100_000002050000000800_000000000002000508_000700000500000401_020100000000070000,
  0x000004070009000000_000500000003000000_000000000000070003_000001030902000005_040207000801090000_030005000004020000_000700000000050000_000008040300000209_000409020605000000,
  0x010403000000020500_000000000200000009_060900000000000104_080200000005030400_000709030400010000_030000020001000005_090000000000050000_020006000003040007_000305060007080001,
  0x030002040609000000_000000030005060002_000000000107090000_020004000000000601_080000000002000709_000500060000000804_000000050004000007_000000070201000000_070409080006010205,
  0x030000010000040600_000608000004000903_000100000000000000_000500020400000000_060900000800030000_020004000000000006_000006000000000500_000005000300070408_000000000002000000,
  0x000005060809000200_080200040000030000_040000000000000000_050000090100000300_000100030706050000_000700080400020100_030000070001000002_020807050000090000_000004020900000000,
  0x000000040000000000_000806090000000500_000000000006070203_050100000000000000_040000030005060000_000000000004050008_000002000001080400_080004060007020900_090001020008000605,
  0x000000020400050100_000008000900000002_000400070000090000_050000000000070400_000004000600000503_060007050000010000_090800000700000005_070003080002000000_000200090000000000,
  0x000509000100030800_000300000708010000_000708040305000209_000006000900020108_050001020800000006_000207030601000900_000603000000080000_000800000206050003_070005080000090002,
  0x030509000006000008_070204010308000600_080601000900040300_020307000000060805_000900000800010704_000008050000000003_000805060201030000_040103080709020506_000000040000080901,
  0x000000000204000800_000008000907020300_000000080500000000_020005010000060000_060100000700000503_030809040005010702_040000000302050608_050607090000030204_080302000000000000,
  0x000504030007080001_030701000008050000_000000050000060307_010000080300090705_050000000900040008_040908070002010603_000100000803070004_000005040000030000_080003000700020100,
  0x000005000000000006_000804000306010000_060002070900040508_020600090000000000_080000000600000000_000000000705000200_050008060000000703_010000030000090004_000000020000000001,
  0x050102000008030400_060907000000000102_000000000000090705_070200080009000500_000000000000020608_030005000200000907_040700000001000009_020508040900070000_000009000003000000,
  0x000000010500000000_090000000000050000_040000060900000803_000200000400080009_000008000100000704_000004000005000000_000000000709060100_000009000000000300_030001000608020000,
  0x000000000000000100_010007040003020000_000806000200040309_000000000900000800_090400000002000000_070002030000000001_030609000000070205_080000060005000900_000705020309010000,
  0x030706020000000000_000204070109060000_000901000600020000_000300000000000002_090000000207000300_000007000300090000_000500030800000004_000400000001000908_010800000402050000,
  0x020000000000000900_030004090001000002_000905000600000003_000600040509000008_000800000006000100_000002080000040000_070001030000000806_000000010702000409_000209060000070000,
  0x000200000300060507_000000000405000200_050100000702000004_000002070501000009_060400030800000702_090000000004010803_020008000100090306_030000000006070000_000007050903020000,
  0x060003010008000007_010000000400000000_000400060700000300_040000070003000000_050007000000030401_000106000000000002_090004000000070000_000500000609000100_000300080007060000,
  0x000500000000080000_000302000000000900_060000080002000500_040800070006010305_000003010904000807_000006000003000409_030005000007000000_020400000100000603_000600020000000701,
  0x000100020904030000_050308000600000402_090000000500000700_020003000100000004_010504060702080009_080907000000010200_000005040000020100_000000000000000000_000201070006000908,
  0x030000090500000000_070200000000000508_040001000800060300_000003000000050000_060104000005080000_000000060003000200_000602000307090400_090300050200070601_050407000600000802,
  0x000401070300000602_090700020000040000_060300080000090007_000006000000000209_010209040006030708_030800000002000000_070000060003000000_000600050000000900_020000090000000803,
  0x000000070300000601_000000000900020000_000000000400050700_000006000003080400_020800000000010500_000504010000070300_000000000504000100_000005000600040200_000008000100060000,
  0x090100000000040500_050800060000030702_000200040000090601_000000020708000900_000500010400000206_030000000600000100_060300090100000800_010000000002000300_020005080000000400,
  0x000400020000000100_060001000008000200_000307000600050008_000105070002060800_000008000001020007_000700000006030500_000000000800000300_010000000000080604_050000060103000700,
  0x000500030107000400_000907000004020001_010000080000050000_090000040300000000_080001000506000900_050304000700010000_000800000405030002_060000000000000000_040000060009070500,
  0x070008030209000006_000000010506070008_000005040000010900_060001000804000500_050000060100030004_000407000305020601_000804050901060002_000700080603000105_010500070402000009,
  0x000000000000000103_000000040000000007_010003060008020500_020800030600000701_030601090207000008_070900080001030206_090500010406080002_000300070800000000_060100020305000000,
  0x030000000705020008_070000040008090500_000000000003060000_000900010306050807_000500070004000000_010000080000000206_020000000000000605_000600000007010402_000105000000000000,
  0x030700000002000006_000609000005000008_040008000000050703_080906070003020104_000000080100090607_070104090206030805_060000010000070000_000400050607000009_000507000000000001,
  0x000801000002000009_030200000006000000_000000080405000003_080705000000000402_020000050000000700_060000070203050008_090000040300000500_010307000008060000_000502060007000300,
  0x000609070008000000_000000000900000000_000208030001050906_000007000800000200_030000000004080001_080000060000000000_000000090000000600_060000000000000702_090701000600030000,
  0x000600080403020100_010007000500000008_080200000900000000_000000090000040200_060001040000000700_020000000006000001_070000000601000000_000006000004070900_000508070009000000,
  0x000800020000000904_040000000009000000_000000060008020705_000500000006000001_060000080000000000_090200070504000800_000100000000070000_000000040000010500_080000010700000600,
  0x080007040306020100_000503000700000804_000401050000000000_000002070105030000_000100000000000900_000306090400000201_050000010003000700_000200000000000009_000700000904010002,
  0x080306000501040007_000700000400000008_000100000007060000_020607000100000400_000000000903050000_000509020600070800_070908000200030105_000000010000080004_000401030009020000,
  0x000907000004010008_000000000700000900_000508000900070206_050700000003020000_090006000002080001_000201090000030407_030009020000000704_070400000609000100_010600040307000000,
  0x000000080700000203_000000000301040700_030002090405000106_000000010900000800_070500030000000009_000401000008000600_050000040100000000_000004000000000000_000003000200000504,
  0x000000030007000800_090000050400020700_000500000000010604_000900010804000300_000406000000090500_070301000600080400_050700000000000008_010200070508030000_060000000900000100,
  0x000700000503000600_000006000000080500_000000090806000002_090000000000050207_040805000200000006_070302050009000000_020400060905070000_000907000402000800_000003000001020900,
  0x040300090105060800_020009000300010507_000001000600000309_000205040009000600_000904000000000200_060000000007090000_090000000400000000_030000000000050000_000708000906000000,
  0x010603070200000000_040000000100020705_070000080000000001_030501020007090006_000400000300000000_000700090004010003_000007040000000002_000900050000070100_000308000702040600,
  0x020000070105000400_000008090000000500_000000000003000000_040003000701000600_000100000002040809_080000000000000000_070002040008030006_000006010007000000_030000000006000008,
  0x000705010300090608_010008050600030000_000609000700040000_000000070003000801_000307060102050900_090201040805000306_000800000506010200_070900000400000003_050000030007080409,
  0x000109000500060708_030800060107000002_060200000000030001_010703090005000000_000400010700000000_050900040003080000_080502000001000300_090301050400070206_000004000000000805,
  0x070900030000000201_000800000900000000_000301050402000807_040000000500010003_000006040009080002_000000000200000600_000605000000000100_090000010700020000_080000000005000000,
  0x000200060000000000_050400000000000608_000907000000030105_090508070000060003_030006000205000004_020700080006000001_000800000000000309_000002000900010706_000600010403080000,
  0x000800000000070000_020300000600080900_000007090800000400_000008040500000602_000000020703050804_050000000006090000_080109000005040307_040000000001060500_000500000400000009,
  0x090700050000000108_000000000906050000_000006080001000000_000001020400070005_040000090000000200_000007000100000000_000000000000000007_000000070000020009_000603000009080004,
  0x000000000100000000_000000050000090800_080500040000000000_000006000000040708_030000000000020006_000704060000030000_000000000005000603_040305000700080209_000201000009070400,
  0x000907060004080000_000406000301020005_000203000005000004_000800000709000600_020100000000000000_000600000000000009_000000050800040300_000500090000070208_040308020107000500,
  0x060008000500000000_030005060000080001_040200000000000506_000009000600000007_000003070008010000_000601000305040809_050006000100090004_090002000003060108_000804000006050700,
  0x040000050200000108_010000080007000000_000008000000060002_000000030800000704_000005020601000003_090000070400000000_000500000000000200_030002060000080509_000907000000030006,
  0x070001040002080000_000500090001000204_090000000008000000_050000080400000600_030008000006000009_000200000007050803_000000030604000008_000004020005000000_060005000000000402,
  0x050007000900000001_000009000800000403_000000000000000009_000503020701090600_090000030000000700_040700000500000002_020000070000000008_000805010409030206_000600080005040000,
  0x010005040300000000_000600000209000800_090000070005000000_000004090800000000_000302000001000700_000009060000030000_000003020000050000_040001030007020600_000700000000000300,
  0x020306090405080100_000005020100040306_080104070006090000_030509080600000401_040007050901000008_060001040203000009_010402060700050000_070600000500000904_050903010000000000,
  0x000100000003040806_000000040600020000_000000000000000500_040308000006070009_000700020000010000_000200000807050000_020007090000000000_000009000204030000_030000060000000000,
  0x000406080502000000_000900070003060002_000008060009000000_040501000800000000_090800050206070401_060702010000030000_030000000000040605_050604090000080000_080000000005010009,
  0x000000070000000000_000508090204010300_010000030605000007_000807020009050104_050904000000020600_000102040000070908_000005060800030001_000700050900060000_000306010000090005,
  0x050008090602010000_060902000104000008_000000000807000000_000201000706090503_090300000200080000_000800010003000000_000500000009000000_080604000500000002_000000020400070005,
  0x010500000000000903_090307010600080405_040806000900010200_070000000809020300_000003040107000009_000005020000000100_030200060001000000_060700000000000500_050009000008030002,
  0x060000000000000000_000905040108060003_000008000305010900_080207030501040009_030500070600000001_010609000204000007_090000050402070006_050300000000090408_040000090003000000,
  0x020407000003000500_030006090200040107_000001000007000206_070205000608000304_040000000002010008_000100000300000705_080000000001000003_000603070904000800_000500030000000001,
  0x000200040000000000_080700090001060000_000400000003020007_000000000000000002_070300000900050000_060900000508030000_040000070609000000_020109000400000800_000000000002000403,
  0x000700000000000000_080003020904000000_000001070000000304_060409000801000000_030200060400010008_000800030007000600_000000000100000207_000100000000050003_070000000306080400,
  0x000603050000040000_000000000104000500_050402000800030100_030105000900000002_090708000005000300_040206080300000709_000007000000090000_020900060000070805_080304070000000200,
  0x030100090000050007_000004070005000306_000000030000000000_000000000004000002_000300000900000000_000000060000000700_070600000300000100_000803000100000000_050000000200070000,
  0x090306070408010500_000400020600080309_020108050903070006_040200010806030905_050000030204060807_060800000507020104_010502060309000008_000709040100050600_000604080005000201,
  0x050003000007000000_000600000000040805_000008040005070003_080304090100000002_000006000400090300_090001000000080004_000905010800030000_030000000704000500_000100000300060200,
  0x060001000900000005_050300020400010600_040800010000000000_000000060500000000_090600070803000004_000000090100060503_000900000006050001_020500040000080300_000000050009040700,
  0x070609000501040200_040100000002000009_050000000609070108_060507000403090002_020004000006000507_000801070000060300_000002060104080005_010405020900030706_000000050007020401,
  0x060500000307090800_000308000200000500_090000000000060000_040006000502000908_050200070803000004_000800090006050200_030600000700000000_020000000000000105_080107050004020300,
  0x000000000000000007_000900000300000008_000000050008000000_020008030007000000_000305000006080000_070009000005040600_000701060204050009_060504080000070000_000000000001000406,
  0x010800000300000000_090300000000000008_070002000906000100_000007040000000009_000000000000070000_080600000207010005_000009060800040000_000000020400000500_060000000503000000,
  0x000000040508000600_060109000307000004_040005000000000000_090700000400020005_000001000709000403_050300010002000000_000900000604000000_010500000003040907_030400000100060008,
  0x000803000400000007_070106050000000200_040009060107000500_020407030900000601_000000080000000004_000001070004090005_090700040006000000_000300090002000406_000504000008000902,
  0x000305000000070100_070000000000000509_010800000000040302_000200040000010000_090406030701000000_030107050200090000_080000070003000000_060000080400020900_000000000900030000,
  0x080002000000000005_090703000200000000_000100080907000000_040000000000000007_000300000000040109_070509060104020008_030006000000000000_000800040000000500_000405070000030000,
  0x080007000902060000_090001070000000508_040003000800000007_060009020500000000_000000040000000000_000702000600040305_000000050006000109_000005000100000600_000006080000050702,
  0x000000000301000002_070008060402000305_020103000905040806_090001030700060500_000006020809000000_000300000500020000_030500040208000601_000002090003050007_040000050000000203,
  0x030800000005000000_070500000204000000_010000000008060004_080705000002090000_000103000800070002_090602040100000000_050300080400000900_000900020003040105_000000090000000003,
  0x040207000000090008_000600000400050000_000103070000000200_000901000502000600_000002000007000905_000005010906000400_020000000701040006_010700090008020003_000500000000000100,
  0x000100000309070502_030600000205000109_000009000700080603_020000000807030900_070301090000000800_090400000002000705_000000000008000301_000003000406090007_000900000100000000,
  0x000000020006000904_040001080009000002_000609000000030800_000006000402080005_000203060000000701_080004000003000000_000000000804020000_000402030600070108_000800000000000003,
  0x010300080002000605_020004030900000108_050007040106020309_040000020801060003_000006070003000002_000208090000010007_000000050300090001_000003010400000206_080001060209000004,
  0x000901000506000800_000002000007000609_000007020000010004_010005000200060000_070006000000000000_090200000600000001_000000000802000005_040508060001000900_000003000900000100,
  0x040208000306010009_000706090105000804_010905000002060000_080100020503000607_060007040009000102_020400010007080905_050602030901000408_090304060008050201_070800050004090000,
  0x000007040000000300_050006020008070000_080300000000000500_020009000000010005_070508060000000000_030000050002000000_000000000000050800_010802000000060007_000000010009040203,
  0x000000000000000900_030000050001000004_050000040000080106_060900000000070200_070005090006000408_000100000000050000_080000000000000000_090001060300040002_000004080100090007,
  0x010000090605040000_040200010703090008_030006000402000105_070000060801000409_000309040207010506_060004050309080007_000600070900020801_090401020508060703_020708030106050904,
  0x060000080000020001_050001090700030000_000400060002050900_000008000603040700_040000050000000300_030700000000060000_090000000006000004_000004000500000208_000000000409000003,
  0x080000000005000300_090000080100000004_060107000900000000_000800050000020000_000700000001000008_050600070000000003_010500000200000900_000000000000000000_000000000400000007,
  0x000200030600070408_090000040000000000_000800000000000602_050000000306020000_070000000004060509_000104020000000700_030006000000000007_000500000007000000_000000000800000000,
  0x000000000903040607_030000000000000009_000000000000080000_000406090208000103_000500010006000000_000800050304060002_000000030600070005_000002000000030400_050000000809010000,
  0x000900000700050400_050002040009080000_000400050006090000_000006010000030000_070500030204000600_000004090000070000_000301000900000000_000800070401000903_060709000500040008,
  0x050900030200000008_000203010000040500_080106000405000300_000500000906080400_090807000100000003_000600000003000900_010000000300000006_000408000500030201_020309000801000000,
  0x000107040906000003_050000020000000900_000309070001000200_000805000000070409_000900050807000102_000000090604030000_000008000009020004_090400030002000708_030002080400000601,
  0x000000060801030000_000400000300090006_000506000700080200_000801000900000403_070000000400000000_000203000000000000_000300000000040100_090700030004000600_060004000200050009,
  0x070905000806000104_080400000901000600_010200070000050908_000500060000010700_020800000007000003_000000010004080000_040600000005090007_000100030702040506_000000000609000000,
  0x070000000000050402_050100000800000003_000903050004010000_000702040900000001_080501060700000004_000009080200000005_090006010508020307_030005090000000006_000807020300000000,
  0x010304000006000702_000000000000030600_060000030407050900_040200000503000800_000106000704090003_000003060000000405_000001040000020300_020000090308060007_000600000000040009,
  0x070102000400080000_000000000700060000_040000000003000000_000000000007050000_060008020005000009_000500080000000607_050000000000030800_020000000006000700_000607000008090001,
  0x020300080000050000_080000000300000402_050407010902030800_060001040000090000_000000090001040000_000004070205010008_040008000700000300_000000000100000007_010003000508020900,
  0x030000040000000000_090100000000000007_000500000700000901_000406000000080000_010000000000020603_000008060000000000_060700000908010000_000000000000000300_040009000302000000,
  0x000500020800030001_000009000000040000_000000000009070500_090005000000000400_000008000600020100_060000000205000309_000006080500090000_000000040703000800_080300060000050704,
  0x030609050007000800_000007000000030000_000000080000000709_050103070900000400_080000000300000600_090006000008070300_000001030400000200_000002060800000904_000908000000000100,
  0x060005000000000004_000004010000000903_000003000408070000_000000000000030009_050000000300000400_000300060001000702_000000030009000200_030007040200000000_090006080100000007,
  0x000000090007080000_000000000200000000_080704000000090003_040000030000010006_000100060900000408_020600010008000000_010007000006030900_000809020503000107_030400070100060005,
  0x000001000300000702_000007000004090000_020000000001000003_080100000706000500_000000000008020900_000700020000000100_000908010002070000_070000030000000406_000003040000000000,
  0x080105030006040000_000007040008010002_000209070000000003_000600000000000005_010800000000060007_050704010602030900_000000000004000001_020008000100000304_000401050000000000,
  0x080000000004000000_020007000000000000_060004050000020709_000000030100090000_030000090000010008_000709000002000000_000000060000000300_000500000001060000_070008000000040000,
  0x030006050000000002_010702080300000004_000000010206000007_060000000001000009_050900000007000800_020400000000000005_000000000000000408_080100070400000500_000003090000020700,
  0x010006030500000200_080000000000030001_000000070000040000_070000000006020000_030000000800000009_000000000907050306_000000000600000000_000804000205090000_000300080004000000,
  0x000309000000000800_060502000300010004_000700000105060003_030400000000000601_000006020000050700_000805000006000009_000600070901080000_070000000008090106_080900030002040500,
  0x070002000000030400_050300000208000001_060000030700000000_080000000400000000_040000000600090000_030700000900020000_000500070100040000_000608000304050002_000000000806000000,
  0x000003080107090200_000007090600050300_000008030500060000_000506000400030102_000004000900080000_000800050006000900_080000010700020600_000302060805010409_060005000209070000,
  0x040501090600020307_000700010403050608_030000050700040109_090306040100070800_010400000006030900_080205000007060401_000804060201090503_060103070509080204_050902080304010706,
  0x070000000609050200_060001030002090804_000004000105030600_080100070500060000_000000000803000000_000000020001000705_030000000000000008_010006090007020000_000209000308070006,
  0x020000060000000509_000009040000010600_080306050900040702_000000000007000000_070005090406000300_000900010500080007_000502030000000000_030000000000050204_040000020605000800,
  0x090000000000000802_060201050000030000_000000060902010000_020109000000000304_080400020703000901_050700010400000608_000002040601000500_010004070005090200_030605000008000100,
  0x030600070004000000_080400050309020000_070900080000000000_020000010006000900_060304000000010800_010000030500000400_000000000800030007_000000060700000204_000000020900000008,
  0x000000050908000000_070203010600000000_000000000207000000_040008000009060005_000000000800020304_020300040006010008_000700000005000100_000004060000000500_080600090100000007,
  0x000400000009000003_000300000001000006_000000000307050000_000906000000030000_000200000000080700_000701000000000402_000000000800000600_000008010000040005_040000090200000000,
  0x000002070000000008_060007010500000209_000000000006000000_000803000000090102_000000080002030500_000204000000070006_000400030807000005_000508020409000700_020000000105080400,
  0x000600020004000905_000900070000000600_000100000300000800_070003060009050000_000800050402000006_060000000000090000_050000040000010200_000200000900000003_010000000205000000,
  0x070003060908040205_000002000500030700_060000070002090100_000000050100070800_040705000209010600_000008040000000902_000900000801020407_000001020407000509_000407000600080300,
  0x000901000002000804_030700040608000905_040500090000000002_070200010000080009_010009000000000400_000000000200000701_000000080001040000_050100020000090000_000000030900050007,
  0x060000000500000000_050000010000030000_040007000000000908_010000000000090000_000308000000000000_000006030001000007_000000000004080309_000000000208000100_000700090006040200,
  0x000000000004000002_080002000100000000_030004000207000900_050006000003000008_000100000006090000_070009040500060000_000007000608000400_000305020700010006_000008050400000000,
  0x000400010600050900_000106040000000007_090500000000000000_040000000005080700_000608000704000000_050000080000000403_000305000001000204_070000000206000100_000200000000000800,
  0x000206000000080704_040000070000000005_000300040900060000_000900000000070800_000700080003040109_060108000400030000_080600020000000000_000409030000050600_000003000000020907,
  0x070400020906010800_000306000701000002_010200000008070006_030100070005090608_050008000000020401_090000080100050300_060001000500000000_040000000807000005_000007000403080100,
  0x000300000000000700_010600070304000500_040009000001000608_070000000200090305_090000050400000000_080003000700000000_030007090005000004_000804000002070000_000901000000000200,
  0x000400000006020000_000300080002090700_000009000400000008_060000000005080400_000100090608000000_080000000700000006_000000000100000000_070500000000060003_040000000007000902,
  0x060000000000000701_000800000307050006_000000000602030804_000000000201040008_000002040000000600_000004000008000502_000406000100000000_090001080006020005_070008000009060000,
  0x000001020005000700_000000000300010004_080900000100050000_060809040200000000_000007010006040008_050100000000000300_000000000000030602_000408000000090100_010003050002080000,
  0x010700020008000000_000604070905000102_020508000003000400_000007060000000000_050200030704010000_080401000209000600_040800090302060001_070100080000020900_060902040107050008,
  0x000000000100000000_000000000000050100_080400000000090003_090007000003010004_000000000400000009_040503010600000700_000708000000000900_000006000000020005_000900060000070800,
  0x060502000307000004_040000000501000000_000701000000000503_070005090000000000_010900000006000708_020000000003050609_000000060100080000_030200000405010000_000006030008000400,
  0x040000090000000006_010800060000050004_030200000005080000_000305000000000000_070002000003000800_000001000200000003_050100000600000307_000708000100040002_000900000000000000,
  0x060407000905000000_000509000000000406_000000000000090000_000908000006000002_000300090100000000_000700000508000900_000000010307000000_000100000400000608_000200060009050003,
  0x050200060900000000_000000000504060003_000600000807020900_020001040600030000_000008090205000001_000500000103000000_080302050709000006_000907000402050000_000005000300000200,
  0x000000050000000008_010500030000040007_000000000006000000_030005060400000800_000002000903000100_000600080501000002_060000000308000705_090008000600020300_000200000004000000,
  0x000000060008000000_030002010904060005_080500070200000109_000207000400030000_000003020600000000_000001050000000004_000100040002090006_000904030000070000_060008000005000002,
  0x070400080002050006_000000040903000008_090802000705010300_040008010007000000_030000000000000100_000007000509000400_080904050206030700_060005070000000800_020700090300000005,
  0x000000000005090004_050107080009060002_090804000302010005_000003010000000508_080400000706030001_010209050803000406_040900030001050007_000600040507000100_070001090000040203,
  0x060200070005030800_000004030906050207_000007000802000900_070900080601000305_030108090504000702_040605020307090108_020003050400000600_080500060700020009_090000000008000000,
  0x090300050004000000_070501000302040800_000602070008050000_030800000001000200_060005000000090004_000709040600080501_080400030200000005_000000000000030400_050203010000070900,
  0x020000050000000708_080607000409000100_000001080702000409_070300000005080904_050008090000020007_000900000000010000_000800060003000000_000700000001000800_010203070000000006,
  0x010008000000000200_000700050000030009_000000000003040107_050000000009070308_070900000601020504_000000000000000001_090100040006080002_030407010008000006_000006070000010000,
  0x000609010702040003_020304000008000007_010700000304000002_000901000507020400_070502040000060001_000806000001070305_060407000100000209_090000000000080700_000200000009050100,
  0x090000020803040500_080002000500000000_000600010709020000_000908060100000400_000000000200000109_000000000300000000_000700050000000000_060003000401090000_050000000900000002,
  0x000900000604000007_060305020009040008_000401000000060002_000000030408000000_080000000000000001_000200000000050800_050000090200000704_000709000001080200_000102000007000000,
  0x000007060000000104_000001000000000008_000800000007020000_000002000009000000_090100070300050400_000000010500060007_020000050701040000_010009020000000000_050000000006010200,
  0x000006010007030000_000700000605010000_000500040900000206_090000000000050003_080203050709000004_000007030406000002_000405000801000307_020301070000090600_000009060000040501,
  0x000809000002000006_020300000005000000_000405080009000001_000003000004090000_070500020901000800_090000000003000400_040700000008020009_000902000000000308_030608090007000100,
  0x080000000700000004_000000000004070100_000004020005000300_000003060501000207_010000030002000000_020000000900000003_060000050009000400_030000010008060009_040100000600000802,
  0x090400000500010800_010000000000000706_000005000100000004_030000050600000002_040008030001000600_070000000000000000_020000000003000000_000903020000060000_000000010806020300,
  0x000900040000050102_080000000000000007_000700050301000000_000000000000060703_000000030800000009_030002070609000508_000200000004000300_000300080000020005_000000000903070800,
  0x030000050000040100_020804030000050006_010700000900080300_000000010400000500_000000000000000000_040002000000090001_050000000007010009_000600090200000704_000007000000060200]
theorem mixed_2_ok : mixed_2.all fastOK = true := chunkOK_sound _ (by decide +kernel)

/-- `mixed` (10000_mixed_puzzles.npy), boards 750..999 -/
def mixed_3 : List Nat := [
  0x020601070000030005_000000000206000001_070500080003060000_000000010000020003_000000000602090000_040007000908000000_000903000007040000_060402000001000300_000008000000050609,
  0x000005020000000400_080002040000000001_000000000901000302_000001070000090003_050200000000070004_070300000002000000_000403000500000008_090608010004030000_000507080000000100,
  0x000000070802050400_000708050003000109_000002010000000000_080005040000000007_000100030000000000_070004000500000000_020000000000000600_000001000300090700_000003000000080002,
  0x070800000000020906_010600000509000304_000003060002000105_000006070200090500_000200090000040800_000704000800030602_000009020406000000_000000000007000400_000400000000000203,
  0x070408000500000001_000001070000000000_060000000008000307_000100000600000000_090600000001000004_080503020400070000_010000000002000000_050000010904030800_020300050807000609,
  0x000007030000000109_020100000000000000_090304000600020005_000001000000000706_000002000000000304_000406000503080001_000000000209070003_000700040300010000_000000000700060000,
  0x000000000000000007_060409000000000308_010000000300000409_080600000005000003_090007000603080500_000004090800000000_020000000904070600_040900000007000005_070500000200000000,
  0x000001000000070406_090700000403000000_040000000500000809_000100050000000000_080000020109000700_020005080700040000_000200040907010000_000000030602090500_060000000000000000,
  0x000907020804000001_000201070900030800_000005000003020000_000002000000000500_000704000600000000_010003000207000406_070009080001060003_000008000006000000_040006090000000000,
  0x060200000000000000_000009000003000000_010000060800000000_050007000009030000_000900000000000200_000100040705000000_000700000204080000_000405070000000900_000000000908000500,
  0x070000000000040002_000109020000030700_000300000000000905_000800030700090004_000002060100000000_090003000008060500_000000000007000009_000900010002050803_000000080900010000,
  0x000407020005090803_000302080000050000_000605000000000000_000108000702000509_030500000001000200_020700050900000100_000200070300000008_060004000000020307_070803090006000000,
  0x010307020806000500_000200000305000801_080509070104060000_090600000007010000_070100030500080000_050003010602090000_020008000700030906_030900000200000407_000705040000020000,
  0x060305010000040208_000001000006050307_000000050403000609_040608000205000003_010500040007000002_020000000300000000_000200060500000000_050006000002000804_030100000008000506,
  0x000000000804030007_000008030000040905_000700020009000600_040003000000000508_060500000308000400_070800000005090006_000005000700000800_000007050403000009_090400080106000000,
  0x000000030406070500_040007000000000601_000000000000090004_000300000900040208_000902060000010005_000400050200060009_000500040708000903_020000000000000400_000000090002050007,
  0x000000010302090006_000309000705080200_000102000900050007_000700000600000803_090008000000000005_000000050008060009_080000000007030000_070000040000000002_020400000000070908,
  0x000806000001040200_050000000002060100_010000050800000900_070108060004020009_020000000005000001_040000000100000000_000200000600000703_000007010003090804_000000000008000000,
  0x030408060700000000_000002000400000000_000506000000020003_020701000806000000_000803020000000700_000000070005010200_000600000001030002_010009040000080600_080205030600000107,
  0x000509000102000000_000000030500000200_000800000900000107_000004000000020008_000005060800030000_000000090003000000_030000000000000000_050008000000070400_040000000005000301,
  0x000000090400050100_010003000005070400_000900000300000802_000100000702000300_000004060903010200_070002040001090600_030400000500020906_020000000009080504_090008000004030000,
  0x000008000000000000_060000000500010700_000200000006000304_020001060000000000_000004000207090006_000500000000000000_000000070005000002_080605020000000900_040000090000000008,
  0x000700000900050000_000000000000000000_000005000000070908_000000000007000209_050000060200010000_000003000109060705_060000000008000500_080504090000000100_070100000005000000,
  0x000400050107000206_000000000002080400_060002000003000005_020601000704000900_030509000800000000_000000090501000300_000000000000000809_000000040009070601_000000010200040003,
  0x000401060008000900_000000020500040600_020000040009080000_070000000900000000_060209050804000700_000100000000000506_010002000705000400_040900000001000208_030800000002000107,
  0x060009020407000800_020500090008000000_080400000003000000_000600000300000000_000002070000000600_000005060004000007_090000000706080501_010000000500000700_050004000000000903,
  0x000801000000070000_000000000700050100_000000060000080903_090408010003000005_010500090207000800_000607050008010009_000000000006000200_070000020300040600_060000040800030000,
  0x030704060000000000_000600040102000007_020005000700000000_000002050006040100_000001020007000003_050003010900070200_000000070601030905_000507000200000600_010000000800000704,
  0x000005060004070003_000006080000020401_040001030000050009_000500000700000300_030000040508000002_010002090306080504_000003000600040208_090407000800000100_060208000000000900,
  0x070603080509000102_000201000006080000_080005000204000006_000302070000050000_050007020400000603_000000000000000807_000000050007000008_000500090603070004_030700040002000900,
  0x090300060007010400_040001050000070600_000000000000030000_000006090800050000_070000030605020104_000004000700090806_080403000001000200_050607020403080901_010002080000040700,
  0x090800030000010000_000000020008000607_000207010004000508_030902000005000706_080000090000040005_040000080007000003_000000000403000009_000003070209060801_020000050001000004,
  0x000700000206040000_000406080900000700_090501040003080000_000009070400000006_000000000605000000_050007010000000000_070004020009000500_010305060000000004_060900000004000801,
  0x000300000809000500_080009050204000103_020405000000090807_050000010000000009_040001000007050000_000900080000000000_000102040000000900_000000060008030001_000000000000070006,
  0x070000000000000109_080200000000000006_040000000705000000_000109040208000600_000007000900030000_000604000003090008_000003080407000900_090000000000060304_000000000009000700,
  0x000100030000000000_000000070500000400_080500010600000002_000000000007050200_000005000001000706_040006050000090001_000007020000000500_000000080406000300_000400090000000000,
  0x000000000002000006_000007000006010500_000403000000000009_000005000008000100_000000000000000000_000000070400060005_040000000001080000_000200090800050007_000008000504000600,
  0x070300040000000500_090000030007010006_050400000000000900_060009000800000004_040705000002090003_000000000704060005_080600000400000002_000002080000000700_030004070000080601,
  0x000904020000000008_010000000000020306_060203000000000000_020000000604000900_000000000803000600_000000010005000800_000000000000000709_090005030008000000_000100000709080000,
  0x040100000008020007_000009010302000000_000000040009010300_000000020000090008_090400000100060000_080201000000000504_000002090005000000_050908000200040600_030004000000000000,
  0x000000050300020009_030805060002000000_000000000400080000_000309000800000000_080000020507000000_000000030109000806_000000000000050200_000708000000060001_000006000000000000,
  0x070600000805090004_000000070000000003_030809020400010507_000308000009000700_000907050000000800_000500000700000109_060000040200000008_090000060000000001_000402090007000306,
  0x060005000000040708_000900000007060501_000700000006000302_000302000700000904_000000000000000800_000001090300000007_070000040003000100_030000000609000200_000809000000030006,
  0x080509010002000406_000204000503070009_060300080400010005_050700020806090000_090608000004020500_000000000005080601_000806000300050000_020900050600000700_070005040208060903,
  0x060000000000020305_000700060002040000_000000080003010000_000200000107090004_080007000005000001_000001000800050000_000000000301000409_000008000604000003_030400000900000002,
  0x000001030900000700_090002050700030400_000807040000060009_020008090000040600_010400000000020008_000000000402000107_000006000000070300_070209060004000000_080000010007000200,
  0x050200000100000000_030009070000050106_010407050600000309_000000080900010007_000902000300000400_070000000200030900_000004060801000500_090008000000000601_060100090004070002,
  0x070902060501080000_050408030702060109_000300040908050207_000107080300090600_060000010200000004_030004000009020000_090000020000000300_040003000005010000_080001090403070506,
  0x000000050009080702_000008000000010400_060000040100000009_090004010005000000_070000000000000000_000000000003000600_080100000400000000_000709080300000205_000000090500000001,
  0x070000090000050000_030000050000020100_080005000000040307_000100000000070900_000003020807000000_000000000000060000_060000010000030002_000000000002000000_020300000500000400,
  0x000500000000020100_000200000009060000_010300050000090700_050003000004010600_060007090001030800_000000030000050009_000000000900000200_020000010006080900_090600000002070501,
  0x000000020406000000_000000050000000000_000200000901030000_000000000107000005_000601090000000000_000700030805010009_090806000000000000_000100000000060400_000005010000090308,
  0x000207030500000601_050000020600070803_000603010700000900_000306050402090108_000409000803060005_000500060000030007_030000090006000704_000002000307000506_060700000205010009,
  0x030000000407020001_000000000008000900_090708010302060504_000003070106000200_050107000200000000_000009000500000700_070005060800000002_080002040700090305_010304020905000607,
  0x090000000005060000_000503000006040000_040200030100080005_060800000002000704_030000000009050000_020005000300000008_070000020908010506_000902040001000000_000008050003020009,
  0x000000000000000004_000709040000050006_000000080003000100_050102000800000009_000000000000000200_000807000400000600_070005010000020403_000001000304060508_080004000602000900,
  0x000703050000060204_060004000703000809_050802090004000307_010000030006040508_080000040200000703_000009000005020601_070605000300080002_030908060402070105_000000080507000006,
  0x010007000008030500_000000000003070009_030400000000020000_050000000000000700_060000090200040800_080004000006000000_000500000902080400_040000070100090300_000000030800000207,
  0x000003070206090005_050000000000030204_020009040005000000_030400060500000700_010006030704000000_000705000102000400_090000000607040500_000500010003020900_000000050000070308,
  0x000108030000000402_000300000800010009_060400010002000308_000200000300080000_080000040009050700_050000000100090004_030007000400000605_020500070000030900_000006020000000807,
  0x000000000007000200_000000060000030709_000003000200000000_040900070508000000_030000010600040000_000800040000070000_000400000006020503_000108020000000007_060002050009000400,
  0x030000050001000000_080102090004070006_000000000007030009_000003060008000001_000008000003060000_010607020400000000_070000030900010004_000301000005090600_000906000702000300,
  0x000300090800050701_090008070000040003_000005000000080209_030006000005000002_000400030000000906_010000000000000000_000903000700000000_000007050300020000_000000080000000000,
  0x080400060900020007_000000040001000000_090301000200000000_070000000000040001_000504030009000000_000003000000000006_000200000006080000_000100000000050000_000908070000000004,
  0x000000050408030000_020506090703000100_030008000000050007_050200000900010800_090100040002070000_080607030001040209_000005010204090700_010702080009060005_040009000605020001,
  0x000000080600000203_000600000000080400_020008040109060700_000001000806000002_000005000400000000_060800000000010000_080700000500030009_000000000000000000_030906000700000500,
  0x050000090000000000_000200000000000600_090000000004080200_000503080100000004_010000020007060005_020000060005000308_070400000008000500_030002000501040000_000600000900070100,
  0x000005080000010206_020806000500090704_040001090200050308_050008030600020000_060000040900080500_030104020805000600_070409050008060100_010602070000030805_080003000000040900,
  0x000000000002050400_000907000306000000_000805070004000000_000002040007000503_000000000605090000_000500030000070000_090706080003000002_030200000409000005_000000020700030000,
  0x020000060005000900_000000000700050000_000600000009080003_000900000500000302_000008000000060004_000507000600000000_060400000300000000_090000000000000008_000003000002000000,
  0x090000000800020004_000002050000090306_060400000700050108_000009070200000001_000304000008000902_020000000000030000_030000020007000000_040000000009000203_000207000000000600,
  0x000000040000060008_000000000006000005_070800000009030000_000600010003000200_000700090008000006_030000000600070000_000000080900000102_090000000000000000_050008000000000007,
  0x000000020509000000_000000000003090005_070005000004000000_050100000006070900_030602050007000104_040709000000000002_000001000002000409_000403000601000700_090807030000000200,
  0x000000040000020603_070302000000000901_090000000000000000_080000000002030104_000205090304070000_000403000008090000_000700000000060005_000001030009000400_000006070205000300,
  0x060100000000000007_030500000000010900_040700010000000006_000607050001000009_000005000600070001_010304080009060000_000003060004000100_000000030900020600_080000020100040700,
  0x000306000000010007_000000000300000000_050108090007000004_000503060000000108_000004000500000000_080700010400000305_000801000905070000_000005000003090000_070002080000000400,
  0x000900010705000003_020000000000080000_000007080002010905_000000070006090500_040000050809030000_000500030001000800_000004020900070000_080001000007000300_070009000100000408,
  0x000600000000090000_000700000200000000_080100000900000300_000000030005000801_030000000000000702_000007080000000000_070001000008030000_000206000009070008_000000070600000000,
  0x080900000100030502_040502000000000900_000600050200000007_000000010902070000_000105060000090000_000000000003000000_090004030000000100_050003000001060000_010200090000050000,
  0x000800060000000000_020400030007000000_000906080400000000_090500000700040006_000300000000000905_000200000609080700_000602000008000009_000003090500000200_000700010006030004,
  0x000400000000000003_000006000200040500_020309000508000107_000100060000000900_080600000903000000_000902010700000000_000003000100080000_090000000000000702_060201000007000000,
  0x000006000300050000_040002090100060300_090003000005000000_070000000003090005_000008000000000600_030009080000040700_080407020900030000_000005030007000400_020000050000070000,
  0x000000080000000201_070000090002000300_000003000000050900_060000000800000005_000800040005000600_000001000700030008_000005010000000003_000407060008010500_000000050200060709,
  0x000004000900010300_000000080000040506_020000000000000000_000003090008000000_000000040600000009_080000000003000000_030006070000000201_070000000201050000_000100060500000003,
  0x000000000700080300_000408000005060100_000603000401000902_000800000100000409_000204070608000500_000000000000000000_000301000800000005_050700000900040803_080002000000010700,
  0x010609020300000000_000003010000000500_070508000900000200_000701030000000800_030002000000000006_080005060200070004_000300000000080600_020007050600030900_000000000800000407,
  0x000100000600000708_000000080201000004_040000050000000102_000000000500040600_000000020006000000_070006030000000800_030900000000070005_000000000003010200_060702000005000009,
  0x060000070003090200_020000010005000400_040800060902030000_070000000004000600_010000000300050002_050908000000000304_080000000106040905_090600000700000100_030500000009000000,
  0x060107000300000008_020000060004010700_000000000000000002_050600080700000204_040201000500080007_000700000206000000_070508000000000006_000306090000020400_000002050003070000,
  0x080000090207030100_000000060004000000_090007030105000000_020100000008000000_060308000900000405_000005010603000002_000800000000070000_010000000009000300_000000080306050001,
  0x000701000000080300_000000070200060409_000600050000070201_040800000703010000_000100000005000000_000002000006000908_000000030009000600_030907000602000000_000006010007000000,
  0x000000070008060200_010800020000090005_000602000000000001_000400080900000003_000001060002000000_030008000401020900_000009040000010000_060203000000080009_070100000806030502,
  0x000400000000080000_000000000600000500_000009080701060004_000004070805000900_000705000009030000_020000040000070000_090800020400050301_070100000306000000_000500000900000700,
  0x070001020500080006_080005000000040003_000002000308050007_010400000003070800_030706050000000401_020500000701000309_050800000002010604_060100000405090700_090000000100000500,
  0x080001000006000000_000605010000070008_000003050800010000_040800000000030001_000000000200090005_000709000600000400_000207060009050000_060008020007040100_090000000103000000,
  0x060100040305000000_050000000000000603_020000000000050704_000002000409000100_090600000008000200_000000000500070000_010000050800000907_040905000007000006_080000090004000001,
  0x000008040309020100_020700080001000900_030000000507000600_050600070000000000_010003050000000800_080007030100060005_000805000000010000_090000000000040702_070201060003000500,
  0x080005030200000000_000000000000000007_020004060008050000_000009000605030000_000000020400000005_000000000009000000_000000090700000800_090800000000000300_040007000003000002,
  0x030000050000070801_000009060700000400_000405080003000609_000700000006050004_000900000000010200_000500000800000000_040300000000080000_000806000000000003_000000030000060007,
  0x020700080000000900_060004000500070800_080905040107000002_050100000800000003_000609000001020008_030802090400000000_010006000208000709_000503000004080200_000208000706010004,
  0x000600010400080002_030104020000000000_020500030700000000_000006000100070208_000200060800000500_000000050200000601_070400000309060005_010905000002000800_000003070001000009,
  0x080000010207040605_000501000000000007_040702050806090003_050107000304000908_000608070000050300_000000060008020001_010006040900070802_070800030000010400_000204080001030000,
  0x020000000806050001_000000000000080400_090800000004020607_070000000603000004_000008040000000002_040001000007000000_000000030001000008_010003070408000000_000400000005000700,
  0x090003080000040100_000100000900080205_020800000407060000_000301000000090806_000900000008020000_000700000600000003_010006070809030004_000009000104000000_070408030506010900,
  0x070100000300060002_090403020506080700_080000000000030400_050802000107090603_010004000005070008_000607000002050004_000309050201000800_000501000000020306_000700000003000000,
  0x070000030200000801_000605040007030200_030802000901040006_000407080309000500_000000000000060900_000001000002080400_050000090008000000_040109020500070608_020308000604000005,
  0x000500090200000403_030009000804000601_040000000003080000_000001080009000000_050004060107000208_000800030000040006_080903000005010704_070005040008060300_020406000301050000,
  0x000004000602080900_000003080400000000_000806030000000000_040705020003010600_080000060500000300_000609010704050000_000301000000000000_050007040000030008_000000000007000001,
  0x000000000500000602_000007030000000508_000105070006030000_000003000600000007_050000080000000004_000000010200000800_000204000100000700_000700060008000000_060000000009040001,
  0x000302000400070000_000705000000000804_060008000700000900_000006000300090005_020000000000000600_000003000804010000_040001000003060000_000007000200050008_000500010600040002,
  0x000206000000090004_080000070006010002_050009010402060000_000000020004030901_070300080009040200_040900000100000600_000007090503080000_000800060000000307_000005000000000009,
  0x000000030000000705_010000000007040002_080507040200000900_000800000002000603_000001000003000000_000006080705020109_070000050000090300_040300000009060001_000000000000000000,
  0x000000060800010300_000000000000000209_010007000204000000_000001000603000000_000608040100090700_040003080000020100_000000050700000900_000005000400030002_080400020000070000,
  0x000000000007000603_000007010300000004_020000080006000107_070003040000060908_040200060000000000_060008030009000400_010900050000000300_050002000000000800_000000000600010509,
  0x000300000500060409_010000000809000305_050009000004000108_000008000000000000_000004000100000900_030000000008000006_070000000602000001_000002000005030600_060900000000000800,
  0x000300070005000002_070109000000000000_000000000906000701_000400010003000005_080600090400070000_000900000600000200_000000000004030600_090804000300000507_030006000509000000,
  0x020001000003000407_000007000800000902_000000070001080006_000000000004090800_000000050000070003_000006000108000000_060005020309040008_080200010506030700_000000000007000205,
  0x090507080003040006_000200060900030000_080300020004070109_000409030000000702_030705000000010000_000008070005090603_000003010009000500_040000000000060301_050001040300080000,
  0x060000000800030000_000000000107040006_070304000600000108_000900060000050007_020000080703000904_080000050000000000_000009020000000001_040208010500000000_000100000400090000,
  0x000000090000020005_000000050000000601_090000000100070300_040900020500080003_000000070809050000_070008000300000209_020301000400000000_000009000000000002_000004000902000000,
  0x000009060000000700_000600070000090308_000004000908000602_000302090700000106_000006000000000500_000000020000030004_000001040000070203_070400000006000800_090008000307000005,
  0x010804000906000003_000200010700000408_070005030804010900_000002050100000607_000001090200030004_090500000400020800_000008000001070000_050000080309000000_000000070002080009,
  0x010007060005020409_080002030000000000_000000070100030000_060803000000090002_000200080006050700_000405000009080006_000000000003060000_050700000601000803_030000000000010207,
  0x000000000005000800_070000000600000009_000900000304000601_000201050008040003_000000010009070000_000700030006000105_080600040007000000_000300000002000508_000000000000060000,
  0x020103090008070000_080500010000000003_000900000304010200_050302040001060900_010709020000080000_040000030000000500_000400000000000006_000001080000040700_000208060400050009,
  0x010000040000000509_000400030000000001_080300000100000007_000600080003070005_040000000002000300_000000090000000000_050800000300000700_000000000000020100_000100000007000008,
  0x030806010500090004_000009060800050003_050100030000000000_000008050903000000_000903070008020506_010000000406000900_070600000000040309_080400000300060201_000000040601000005,
  0x010902070005080006_000400000900010002_000000010002070900_000000000004020800_020809060000030401_050104000008060000_000607050001090003_080200000300050600_000005020706000100,
  0x070600000000030000_000000080000060700_090500060200000804_080000000000000400_040000020100000308_000905040000000106_050004090000000600_020307000600080000_000009070305040201,
  0x090300000206000108_060007010000000000_000400000005000200_000000000900000300_030800000700000000_050000000400000007_020000030000060000_000609000500020000_000500020607080001,
  0x000502010306000700_060000050000030100_080000090702060400_020900000000050307_050000000203040000_030800000000000000_000308000000090004_090000060104070000_000006030000020000,
  0x000000080000020300_030200060000000000_000807000100000604_060702050800000000_000403000609000007_000500000703000008_000300090500000102_040900000200030700_000600070304000905,
  0x000705090000000004_030400000001070902_000600030000000000_080200000000000703_060000000400000800_050007080603020401_070501000802090300_040009070000000000_000000050309000100,
  0x000204090007000106_000007020400030900_000600000008040700_010800030000020000_000500000000000000_000300000000010608_000901080600070204_000408000009000300_020705000003000809,
  0x000002000904050001_040601080503020009_080900000002030000_000006050001000203_000003000708000506_070504000006010908_050108020309060000_020000000607080305_060000000800000002,
  0x050006000804070200_020003010000080506_000807060502040309_000200000300090100_030105000209000807_000700000105030002_000600020003050904_090300050601000008_070502090408010000,
  0x070100040009000600_000300020100000000_080900000000020000_040007000001030200_050009080003000000_010000000000080000_090506000008000300_000000000904000001_030000000705000802,
  0x060000000000020003_000105070000060900_000008000000050704_000800040006000002_000200000700000800_000500090800010300_080902000000000000_000601020000000005_050400000007000001,
  0x000005010000000907_080009020300050000_060307000000080000_000000000001000000_070600000204000000_000900050000000400_000000090000000700_000003080405090000_000000070000000003,
  0x000007030504000000_000200000700000006_000000090000000700_070001060900000508_000000000000090000_000509020100030604_000704050609010800_000002000001000400_000600000000000005,
  0x040006090000000000_000205000804090003_000000010507060000_000100000000000000_000300040001000607_070000030900000100_030800050009040000_000000020003070000_000400000108030900,
  0x090002000000000005_000100020000000000_000700090800000601_020603050000000000_000400000000000009_050008070000000000_000000080300000200_000009010000080003_000001040005000906,
  0x000103020000000705_070005010306000900_000906000800000304_000000000008000603_000000000000050407_000307060400020100_010002040500070000_030700000201000506_090500080000030201,
  0x010208000300000504_060304000007000000_000007040000010000_000000000006000108_030000090000060400_000100030405000000_020003000004000701_000000000003000009_000900080102000003,
  0x000609000700030002_020700030009000601_040003020608050009_000000060007000508_050407080002000103_030806050000000907_060008070000000304_090500000203070806_000304090800010205,
  0x030602090104000500_000801000007000900_000507000006010000_000400000602000800_050900070008000103_000108000500000706_000004020000080000_080200060901030400_060700040803000001,
  0x000007000100000900_000900000008070103_000000070009000406_000500020800030700_000004000000000005_070000060000000800_000000010007020008_020000090006040000_050700080000000001,
  0x060800010302000700_010000000900000800_000703040008000200_040905070200080601_070008000504090302_030602000100050007_090006020705000108_000007000000000006_020301090006000004,
  0x000600000905020300_050309070200060100_000402060308000009_000207000509000806_000901000000040500_080504000601090207_020000050400000001_040005090807030600_090803000100070000,
  0x000000040002090300_000000000600080000_000002000000000000_070003090000010500_020406050000000900_000001000307040000_000100000500000000_040200000800050000_080005070009060100,
  0x000000050000000207_060000020100000304_010000000803000006_000000080701020000_000600000000090008_000300000206040100_000208000005030400_050000000000060800_030900000000000500,
  0x000806000900000300_000300040800000001_040502000103080000_000700010008000500_050104000009000008_080009000700040103_020600080000000009_070005000000000000_030000070000010005,
  0x080002090700010000_070900060001080000_030106000500090004_010603070200040000_040705080603020901_090208000400000607_000009040106070200_000801050000060000_060000000002000000,
  0x020806010004000000_010005090002000008_000004000500000006_060100040000070000_000209050706000000_000407000000000009_000000000009020700_080000060407090000_000003020100000800,
  0x080407000001000006_090000060000010007_000106000708090204_000004000602000908_000009050307000602_000003040000000105_000000000905000001_000005000100000000_020000000000060509,
  0x000701000000000300_000900070600010000_000600000005000900_000800010206070403_030000000700000600_070400000000050201_060009000001040008_000500000803000100_000000090000000500,
  0x000000040000000003_030100000007080006_000000000605000000_050001060400000000_000008000000000902_020003000001000405_000600050009000200_040000000000030000_000300020000000600,
  0x010000000600000000_000008000000070300_000007050008000009_000000030001000204_000800000904000500_000000000000000900_000504010006000702_000100040002000003_000200000007000000,
  0x020007040608000000_080400000509020006_050000070300000100_010000000407000000_090800060103050400_070000000000000201_040201090000000003_060009030704010802_000008000000090604,
  0x000004060000010900_000000040500000006_070000000001030504_000507000000080003_000000030600070000_000008000000000400_040809000006000002_000001020005000000_000005000800040000,
  0x000006050004080309_000005000008020007_040308020907050106_060009070000000000_030000000006040000_000102040009000700_090000000605070000_070000080400000002_000604000002030500,
  0x000100000008000602_000903060000070805_000002070000090000_060000080000030504_000409000000080000_020500040003000907_000004050800000000_090000030100000008_070800020409050300,
  0x000008000302000000_010000070509000600_000000000000000000_000000000000030400_000007000604000001_000400080200000900_000806030000000109_000000010400000007_000005000006000008,
  0x020000000000010005_040800090000020000_000500020003000400_000000080607000009_000000000902040007_000007000000000000_070005000206000000_000004000009070000_090008070500060301,
  0x000400080600070200_070609000000000803_000000090300060500_000800000100000007_000900000800050402_000005000400080001_000100030004000700_090000020000000100_000507010900000308,
  0x000306000004000000_000001000905000000_000000070600010800_040503000207060900_000702000000000308_060000050309000000_000000030000020000_000004060700000105_030005000001000706,
  0x050309080002000007_010407000000020809_000006000007030004_000503000200000008_000601070004000000_070902000800000400_030000040108090200_000000090005080000_000008020000000005,
  0x000000000500000600_000207000000000009_000000000809030002_030000000600000800_000002090300000000_000406000005090001_000000000900000500_000908000000000000_040000050002080906,
  0x030402000908050000_010000050000000000_000000000001000900_000700000002010800_060005000000000009_080104090700000500_050000020309080100_000001000007000000_040300060105000002,
  0x000000090000080005_000000020000040701_040600000500000300_070000000009000208_090003000400060000_000002000706090003_050000000903010006_010000000007000000_060000000000000002,
  0x000000000704020809_080000010000030000_000005030800000400_070000060003000004_030000000000080700_050004000200010900_020503080000040100_010000000300090500_000700020501060008,
  0x000008000007000000_000009000203000000_020600010000050004_050900000300000208_000100040000030000_000200000005040900_000702000000080403_000301020708000506_000005030600000102,
  0x000705000100000000_010900070804030000_000000090005000407_090402080500060700_000008000002000009_000000000007020800_050000010009080006_080009040306000002_030007050208040900,
  0x000904030008000507_060000000000000300_050703000004080002_080300000701000000_000000000000030000_010000060500070804_070001000000000903_030000050007000401_090400000306050700,
  0x010000030000000000_090000010008000006_080000060205000001_000604070800090100_000000050603040007_070008000100000200_060109020000030708_000002080006000009_000000090000000604,
  0x000000020308090000_070000090000040008_000000060700030201_000509000003020000_040700000002080903_000306000907000405_010000000800050004_090005030106070002_000807040200060109,
  0x000007050003000002_000000000004050000_000000080200000301_000500060700000003_000301040000080600_080006010000040200_000000000007020006_000000030000000000_010000000806030000,
  0x060000000305070208_020700000800060309_000000070000040000_000007000004000800_000502000003000604_040100000900030700_070200050400080000_000000000207000006_000000000100020907,
  0x000000040000000007_000000000800000506_000006000000080201_000503000009000000_000600000403000000_080900000507060300_000004090700050003_000000060102070400_000109000004020008,
  0x000000000700080000_000806090000020000_000309040508000000_040502000006000000_000600050000000100_030900020800060005_010008030200000006_000000000004030000_000003070000050208,
  0x000005040006000003_000004000701000000_060800000302000500_020600030007000405_000000000200080007_050000000600000209_000006000000050908_000000060000020701_010000070508000006,
  0x010005000700000000_080709000600000000_000203080001000700_000000000008040000_000008010009070002_050000000000000008_070000090100000400_060500030200080000_090004000005060201,
  0x000006010000000205_030800000200060000_050102030607090800_000300020008000000_020500070409080306_000000000500000000_040700080002050001_000205000306000008_000609000701000003,
  0x000500000302000100_000807040005000309_000903000000000005_000000000504000600_070000000006050000_000400030000000000_030009000708040001_000104020000090000_000002000000030800,
  0x000906000000000500_040000000009030201_070000000000080006_000005010004000000_000000080003070405_000200050900000603_000009070008060000_000800020500000000_020100090006050308,
  0x090001050002000007_050000000006000008_070300000408000200_080002030900070000_040700000500090802_000905080207000000_060000000109000003_000100070003000004_000000000000060901,
  0x000400000003000000_000003080107000000_050100040000000009_000004020000000500_000005000800040206_000200000405070800_000708000900060004_000609000000000705_000000000004000008,
  0x000607050000080000_010409000003000007_030500010000000400_050900070300000000_000000090600030504_000002000001090706_000200040000070600_060004000000000008_000800000900040103,
  0x020900080106000000_000004000007020008_000700030002050000_070008060005090000_000400000000060000_000000090000030000_030000000008000009_000800010603000200_050102040000000300,
  0x070900000500060003_000300000000070009_000000000007020000_090000080001050300_000001070000080000_040200000000000007_080009000700000005_000700000100040000_000402000008090001,
  0x000005030004020000_030001060705000004_000007020901000500_050000000000000100_080000000002040000_000009040000070005_090004080203010600_070008000006030902_000000070000050008,
  0x030000060000040900_000800000003020000_000501020007000800_080900000201000004_000307090600000200_000406000000010009_090208010000050000_000103050000000002_000604000002000108,
  0x070301080600000509_060004000000000008_000500030004000602_000003000000000000_050600000000000007_000900020001030006_040000050208060003_000000090000000001_030805070006090004,
  0x000800000500010400_090000020000030807_000004000007000006_000000000800000000_070300010004000008_000600000000000002_000000000008000005_050400060703090200_010700000209080600,
  0x000007050001090800_000000000009000400_000004030008000006_070409080005000100_030006020000000007_080100000000050000_090703010000000200_010000000000070000_000000090000000501,
  0x080009050607030000_000106000300050807_000503000002090006_000800000900060002_000000000706040008_050000020803070000_030900000208010000_000201000409080700_000000000501000000,
  0x020000080003000701_000001050002000000_030000000007000206_000400060508000309_050302000000000008_000006000004070000_060108000700090000_000509000300010000_040200000000060007,
  0x020000000006010004_060504000801000003_010000040902000508_080900060000000000_070306020408000900_040205010009000006_050000000104080002_030000000005070000_090000030000000005,
  0x000406030502000000_020800000100000604_000005000000000000_000508090000020001_000001020000030709_090000000000000000_000000050601000203_000300000000000106_000104000000000005,
  0x000000090200010000_000100000000060003_070300000001090005_060800050004020300_000400070302000600_000700080600000000_040201030700000908_050900020400000000_000600000905000400,
  0x040206000001000000_050008000600000400_000301040800060500_020804090000000000_030109000700000000_060700010200000000_000007000900030005_000000070108000600_010000030005080700,
  0x010400000000070900_090600000000000003_050000080200000000_000904010300000200_000001000000080004_070005000406000000_000009000000000005_000000090100000700_000300000002060109,
  0x040000000000050000_000500000800000309_070000020504060800_050000000402030000_020000060009000000_000306010705080002_000001000000000003_000209000600010004_030400000100000000,
  0x010907020503060408_020400070900050000_000603010804000000_070306000401000900_090001030600000507_000005000702000006_060102080005090004_000500000200010600_030704000009000000,
  0x030009010500080407_080100070609050302_070500000804000600_000300000906070108_000706000305000900_020908000107030000_090400050003060801_000800000000040005_050201060400090703,
  0x060000000207040000_000300090408010600_000400010006070309_010900000003000200_020800000000000500_030506000001090704_000608070100020400_000001080302050906_050203000004080100,
  0x000506040000030000_000004060000080002_000302000805060000_000000000900000005_040205010300090000_000000000004000007_000600000400000001_070901000000000006_000000050600070900,
  0x040002000801000500_000800030502000009_000000000000060008_000705010900020304_010300070200090806_000209040600050000_000007080109000605_050000020306000907_090600050400080102,
  0x080506000000010400_040009000008020706_010007000400050900_020000050006000800_000108040300000500_000605080900000200_090000020600070004_000403090100000600_060700030000000005,
  0x070001020506000408_020800010304050007_000000000900010206_000500040000070001_000000000600000800_060000090801000000_030007000009080000_000000000700000104_010000000008060703,
  0x090400030500000008_000300000000090400_020008010904030000_000000000005000000_060204090300070000_080009000400000600_000000000000000001_040800000003000907_030007080006050000,
  0x000003000900020806_000002030400090107_000006020700030400_000800010003070600_000200000000010508_010607080009040200_000700090004050000_000001070000000004_000005060000080000,
  0x020000000100050409_000804030000000600_000000000405000008_000001000002000000_090006000708010000_000400050001020000_000708010000060500_010605000000000704_040000000500000000,
  0x030800000600000004_050006010007000300_000000000800090006_010307050204000609_000408070100000203_000500000000040107_080000060000000405_000703000501000002_000000000008000000,
  0x000803070000000001_040706020005000803_010200000309060004_070402090008000306_060000000003080402_030008040602050007_000600000904070000_000307050000040609_000904000200030108,
  0x000900000002000008_040008000001000209_020103000009000600_000600010000020000_000305020004070001_000200000003090006_000802040107000905_000009000200000000_030000090005000002,
  0x000008000200000105_000500000000030709_000304000501080002_050007010000000000_000601000000000403_030000000005000807_000806030002000500_000000080000070000_000000050409060208,
  0x090000000500000203_000000080906000105_050000030402060008_030002000000000000_040709000001000002_000806000000030400_000000000000000001_000000000000020604_000403000000080000,
  0x000005070003000000_000000000806090500_060700000000020000_000804000000000000_000500000209000006_000200040000000001_000602000004000000_050001000602080004_000000010000000302,
  0x040001000000000007_050200010000090806_000006000000000100_000002000007000003_000300000006070009_090600030000050200_020000080003000000_000700000001060905_000100000005020008,
  0x000000080002040103_000006000000090000_000003000500000006_000000020000000000_010300000805060700_070400000301000900_000200000700000000_000507000200000401_030001000000000008,
  0x000003000407000000_000800000102000009_000401030008000000_000206070809040000_030008000200000900_050000010300070800_040000000000000500_000300000601000700_000000020000000003,
  0x000100040000030807_000000010908000205_000005000000010904_000000090600050302_000000020007000008_000009000005000706_060904000102000500_020001050004000009_050803000700020400,
  0x000009010000070600_020000080306040001_000301000000000005_080007000000030102_050004000002090000_000600070000000008_000508020000000304_000403050008010009_000200000903000500,
  0x000000060902080304_090000080100050607_060804000500000002_000000020800070006_000006040709010000_000000050000000009_080900070600000200_000605000208030700_000002000000000008,
  0x000900000208000001_020000030006000000_000000000501000007_060000080004000000_050007020609040008_000000000100000000_000204000000000700_000005010400000600_080600050007000000,
  0x040100080705060309_000307000600040200_090006000003010507_000703000201000904_000004030906020701_010200070004050600_020000090007030800_070600040300090100_030901060508070402,
  0x000700000000060002_030000020600000900_000006070809000000_050308090000010604_070000000000000305_060400010005000000_020000050000030400_000005080000090000_090003000207050006,
  0x000000000408000102_000000010000060300_000200060000070408_070800000304020906_090502000001000700_000306090700000800_000005000000030000_030008000906010000_000000000100000207,
  0x040700010502000000_020506080000000000_000800000009050400_060005070200000109_000002040001080500_000000000000000000_000201030006000704_030008050900000006_090600020004030000,
  0x080400010000030200_000007080902040000_020000040006050708_000500000200010000_000000050400000900_070102000003080500_040203000007000105_010009020500060000_060800000109020407,
  0x000800060400000001_000009000002000308_010600090007000405_080100020000000904_000206000000050800_000300080005000000_000900040001070506_000000070608040000_060004000009080103,
  0x000200000100090400_060000000409000007_000100000000000003_000000030500000009_000500000900020004_020709040600000001_050900000300040002_000001000200000300_000000080005010900,
  0x040009020000000600_020006000009080403_080107040306090005_070408000900000502_090200000400060108_000603080205000000_050702000003040800_030001050004020009_000004000002050301,
  0x070000020100080000_000000000009000000_010900000004070200_040005000800010000_000100060402090508_090000050700000003_050000000906040000_000009010000000000_060800000207000000,
  0x020000040000000906_080000000006000002_000003000005000000_090200080000000001_000307090000020600_010000000703090000_050009000300040000_000400000000000200_000000000000050000,
  0x030004090000010605_020000040000000800_050006080103000004_090403010008060000_070500000004000001_000600070302000409_060305000000090008_000008050009000106_010007030806000500,
  0x090000030000060000_000005000109000000_060800000005000900_000500000806040001_010400050000000000_000206070400050009_000000000600020504_050600010000070003_000300000507090006,
  0x010005000000040002_070204090000010800_000300010000090700_020708000600000100_000000000108000007_030000050207000009_000007000500000008_000602000000000003_000803000700060901,
  0x060000000007050800_090508060000020100_070302050801000006_000009080100030700_000000000300080009_000003090000000405_030907000500060004_020000030600000500_050106000004000008,
  0x000900070000000200_000000090408000003_000000000000000105_000009080306000000_000000000001000509_000200050009000000_010500060007000900_000600020904050000_000008010000020000,
  0x000806000500070300_050200000407060100_000400060100050200_080000000902040600_000903000604000005_040602000005000000_090001040006030000_000008000203010000_000300000000000900,
  0x000706000302000000_000400000100020007_030000070405080000_040007060000000902_000605000709000000_000908000000070500_000003000007060005_060000000000000703_070004000003000008,
  0x000000070100000504_000703050000000602_090000060800030000_080000010007000000_000100000006020000_000304000200050100_000002000600000900_040600000301070000_000001000000000008,
  0x000000090004000702_020009000800000100_000000050102090804_050000070200000000_000900060008000400_000800000900000501_000000010009000207_090001020700000308_030200000000000009,
  0x000000000704000305_060002000003000000_000304080506000000_000006000007090004_000005000600000000_000700000400080106_090403000001000008_000600000305070000_000100000908000402,
  0x050000000003000209_030400000600070500_000009000500000003_090000000401000806_040200090000000000_010007000006000900_060000000002010005_070008060100000400_020005030000000000,
  0x000000080009000006_000000000006000008_000708040002050900_000000000204000007_040006000805090200_000001090600080405_010502060000000300_000600030000000002_030000000900060504,
  0x000401030000000600_000008040000000500_090000080000000407_000207010500000000_000000000002000801_000000060807030000_000002050900000004_000000000000000100_050300000100000708,
  0x050900000000030000_000608030904000000_000300050100070906_090400070500080001_020106080300050700_080007000400090203_000209000800000307_060000010203040009_030804090006000002]
theorem mixed_3_ok : mixed_3.all fastOK = true := chunkOK_sound _ (by decide +kernel)

end Gen.SudokuDB
