/- GENERATED by harness/translators_pacman.py (gen_pacman_maze) from the real `reset` of `PacMan()` in
   /repo/jumanji/environments/routing/pac_man (constants.DEFAULT_MAZE through AsciiGenerator) — do not edit.
   Coordinates: the player is (row, column); ghosts, pellets, power-ups, scatter targets are (column, row). -/
import JumanjiModel.Env.PacMan.MazeLemmas
namespace Gen.PacManMaze
open PacMan

/-- `constants.DEFAULT_MAZE` -/
def ascii : List String := [
  "XXXXXXXXXXXXXXXXXXXXXXXXXXXX",
  "X  S         XX         S  X",
  "X XXXX XXXXX XX XXXXX XXXX X",
  "X XXXXOXXXXX XX XXXXXOXXXX X",
  "X XXXX XXXXX XX XXXXX XXXX X",
  "X                          X",
  "X XXXX XX XXXXXXXX XX XXXX X",
  "X XXXX XX XXXXXXXX XX XXXX X",
  "X      XX   TXXT   XX      X",
  "XXXXXX XXXXX XX XXXXX XXXXXX",
  "XXXXXX XXXXX XX XXXXX XXXXXX",
  "XXXXXX XXT        TXX XXXXXX",
  "XXXXXX XX XXX XXXX XX XXXXXX",
  "XXXXXX XX X  G   X XX XXXXXX",
  "           GXXXXG           ",
  "XXXXXX XX X  G   X XX XXXXXX",
  "XXXXXX XX XXX XXXX XX XXXXXX",
  "XXXXXX XX          XX XXXXXX",
  "XXXXXX XX XXXXXXXX XX XXXXXX",
  "XXXXXX XX XXXXXXXX XX XXXXXX",
  "X            XX            X",
  "X XXXX XXXXX XX XXXXX XXXX X",
  "X XXXX XXXXX XX XXXXX XXXX X",
  "X   XX S     P     S  XX   X",
  "XXX XX XX XXXXXXXX XX XX XXX",
  "XXX XX XX XXXXXXXX XX XX XXX",
  "X      XX    XX    XX      X",
  "X XXXXXXXXXX XX XXXXXXXXXX X",
  "X XXXXXXXXXX XX XXXXXXXXXX X",
  "X       O             O    X",
  "XXXXXXXXXXXXXXXXXXXXXXXXXXXX"
]

/-- `state.grid` (1 = free, 0 = wall) -/
def grid : IGrid := [
  [0, 0, 0, 0, 0, 0, 0, 0, 0, 0, 0, 0, 0, 0, 0, 0, 0, 0, 0, 0, 0, 0, 0, 0, 0, 0, 0, 0],
  [0, 1, 1, 1, 1, 1, 1, 1, 1, 1, 1, 1, 1, 0, 0, 1, 1, 1, 1, 1, 1, 1, 1, 1, 1, 1, 1, 0],
  [0, 1, 0, 0, 0, 0, 1, 0, 0, 0, 0, 0, 1, 0, 0, 1, 0, 0, 0, 0, 0, 1, 0, 0, 0, 0, 1, 0],
  [0, 1, 0, 0, 0, 0, 1, 0, 0, 0, 0, 0, 1, 0, 0, 1, 0, 0, 0, 0, 0, 1, 0, 0, 0, 0, 1, 0],
  [0, 1, 0, 0, 0, 0, 1, 0, 0, 0, 0, 0, 1, 0, 0, 1, 0, 0, 0, 0, 0, 1, 0, 0, 0, 0, 1, 0],
  [0, 1, 1, 1, 1, 1, 1, 1, 1, 1, 1, 1, 1, 1, 1, 1, 1, 1, 1, 1, 1, 1, 1, 1, 1, 1, 1, 0],
  [0, 1, 0, 0, 0, 0, 1, 0, 0, 1, 0, 0, 0, 0, 0, 0, 0, 0, 1, 0, 0, 1, 0, 0, 0, 0, 1, 0],
  [0, 1, 0, 0, 0, 0, 1, 0, 0, 1, 0, 0, 0, 0, 0, 0, 0, 0, 1, 0, 0, 1, 0, 0, 0, 0, 1, 0],
  [0, 1, 1, 1, 1, 1, 1, 0, 0, 1, 1, 1, 1, 0, 0, 1, 1, 1, 1, 0, 0, 1, 1, 1, 1, 1, 1, 0],
  [0, 0, 0, 0, 0, 0, 1, 0, 0, 0, 0, 0, 1, 0, 0, 1, 0, 0, 0, 0, 0, 1, 0, 0, 0, 0, 0, 0],
  [0, 0, 0, 0, 0, 0, 1, 0, 0, 0, 0, 0, 1, 0, 0, 1, 0, 0, 0, 0, 0, 1, 0, 0, 0, 0, 0, 0],
  [0, 0, 0, 0, 0, 0, 1, 0, 0, 1, 1, 1, 1, 1, 1, 1, 1, 1, 1, 0, 0, 1, 0, 0, 0, 0, 0, 0],
  [0, 0, 0, 0, 0, 0, 1, 0, 0, 1, 0, 0, 0, 1, 0, 0, 0, 0, 1, 0, 0, 1, 0, 0, 0, 0, 0, 0],
  [0, 0, 0, 0, 0, 0, 1, 0, 0, 1, 0, 1, 1, 1, 1, 1, 1, 0, 1, 0, 0, 1, 0, 0, 0, 0, 0, 0],
  [1, 1, 1, 1, 1, 1, 1, 1, 1, 1, 1, 1, 0, 0, 0, 0, 1, 1, 1, 1, 1, 1, 1, 1, 1, 1, 1, 1],
  [0, 0, 0, 0, 0, 0, 1, 0, 0, 1, 0, 1, 1, 1, 1, 1, 1, 0, 1, 0, 0, 1, 0, 0, 0, 0, 0, 0],
  [0, 0, 0, 0, 0, 0, 1, 0, 0, 1, 0, 0, 0, 1, 0, 0, 0, 0, 1, 0, 0, 1, 0, 0, 0, 0, 0, 0],
  [0, 0, 0, 0, 0, 0, 1, 0, 0, 1, 1, 1, 1, 1, 1, 1, 1, 1, 1, 0, 0, 1, 0, 0, 0, 0, 0, 0],
  [0, 0, 0, 0, 0, 0, 1, 0, 0, 1, 0, 0, 0, 0, 0, 0, 0, 0, 1, 0, 0, 1, 0, 0, 0, 0, 0, 0],
  [0, 0, 0, 0, 0, 0, 1, 0, 0, 1, 0, 0, 0, 0, 0, 0, 0, 0, 1, 0, 0, 1, 0, 0, 0, 0, 0, 0],
  [0, 1, 1, 1, 1, 1, 1, 1, 1, 1, 1, 1, 1, 0, 0, 1, 1, 1, 1, 1, 1, 1, 1, 1, 1, 1, 1, 0],
  [0, 1, 0, 0, 0, 0, 1, 0, 0, 0, 0, 0, 1, 0, 0, 1, 0, 0, 0, 0, 0, 1, 0, 0, 0, 0, 1, 0],
  [0, 1, 0, 0, 0, 0, 1, 0, 0, 0, 0, 0, 1, 0, 0, 1, 0, 0, 0, 0, 0, 1, 0, 0, 0, 0, 1, 0],
  [0, 1, 1, 1, 0, 0, 1, 1, 1, 1, 1, 1, 1, 1, 1, 1, 1, 1, 1, 1, 1, 1, 0, 0, 1, 1, 1, 0],
  [0, 0, 0, 1, 0, 0, 1, 0, 0, 1, 0, 0, 0, 0, 0, 0, 0, 0, 1, 0, 0, 1, 0, 0, 1, 0, 0, 0],
  [0, 0, 0, 1, 0, 0, 1, 0, 0, 1, 0, 0, 0, 0, 0, 0, 0, 0, 1, 0, 0, 1, 0, 0, 1, 0, 0, 0],
  [0, 1, 1, 1, 1, 1, 1, 0, 0, 1, 1, 1, 1, 0, 0, 1, 1, 1, 1, 0, 0, 1, 1, 1, 1, 1, 1, 0],
  [0, 1, 0, 0, 0, 0, 0, 0, 0, 0, 0, 0, 1, 0, 0, 1, 0, 0, 0, 0, 0, 0, 0, 0, 0, 0, 1, 0],
  [0, 1, 0, 0, 0, 0, 0, 0, 0, 0, 0, 0, 1, 0, 0, 1, 0, 0, 0, 0, 0, 0, 0, 0, 0, 0, 1, 0],
  [0, 1, 1, 1, 1, 1, 1, 1, 1, 1, 1, 1, 1, 1, 1, 1, 1, 1, 1, 1, 1, 1, 1, 1, 1, 1, 1, 0],
  [0, 0, 0, 0, 0, 0, 0, 0, 0, 0, 0, 0, 0, 0, 0, 0, 0, 0, 0, 0, 0, 0, 0, 0, 0, 0, 0, 0]
]

def pellets0 : List PacMan.CR := [(1, 1), (2, 1), (3, 1), (4, 1), (5, 1), (6, 1), (7, 1), (8, 1), (9, 1), (10, 1), (11, 1), (12, 1), (15, 1), (16, 1), (17, 1), (18, 1), (19, 1), (20, 1), (21, 1), (22, 1), (23, 1), (24, 1), (25, 1), (26, 1), (1, 2), (6, 2), (12, 2), (15, 2), (21, 2), (26, 2), (1, 3), (6, 3), (12, 3), (15, 3), (21, 3), (26, 3), (1, 4), (6, 4), (12, 4), (15, 4), (21, 4), (26, 4), (1, 5), (2, 5), (3, 5), (4, 5), (5, 5), (6, 5), (7, 5), (8, 5), (9, 5), (10, 5), (11, 5), (12, 5), (13, 5), (14, 5), (15, 5), (16, 5), (17, 5), (18, 5)]
def pellets1 : List PacMan.CR := [(19, 5), (20, 5), (21, 5), (22, 5), (23, 5), (24, 5), (25, 5), (26, 5), (1, 6), (6, 6), (9, 6), (18, 6), (21, 6), (26, 6), (1, 7), (6, 7), (9, 7), (18, 7), (21, 7), (26, 7), (1, 8), (2, 8), (3, 8), (4, 8), (5, 8), (6, 8), (9, 8), (10, 8), (11, 8), (12, 8), (15, 8), (16, 8), (17, 8), (18, 8), (21, 8), (22, 8), (23, 8), (24, 8), (25, 8), (26, 8), (6, 9), (12, 9), (15, 9), (21, 9), (6, 10), (12, 10), (15, 10), (21, 10), (6, 11), (9, 11), (10, 11), (11, 11), (12, 11), (13, 11), (14, 11), (15, 11), (16, 11), (17, 11), (18, 11), (21, 11)]
def pellets2 : List PacMan.CR := [(6, 12), (9, 12), (13, 12), (18, 12), (21, 12), (6, 13), (9, 13), (11, 13), (12, 13), (13, 13), (14, 13), (15, 13), (16, 13), (18, 13), (21, 13), (0, 14), (1, 14), (2, 14), (3, 14), (4, 14), (5, 14), (6, 14), (7, 14), (8, 14), (9, 14), (10, 14), (11, 14), (16, 14), (17, 14), (18, 14), (19, 14), (20, 14), (21, 14), (22, 14), (23, 14), (24, 14), (25, 14), (26, 14), (27, 14), (6, 15), (9, 15), (11, 15), (12, 15), (13, 15), (14, 15), (15, 15), (16, 15), (18, 15), (21, 15), (6, 16), (9, 16), (13, 16), (18, 16), (21, 16), (6, 17), (9, 17), (10, 17), (11, 17), (12, 17), (13, 17)]
def pellets3 : List PacMan.CR := [(14, 17), (15, 17), (16, 17), (17, 17), (18, 17), (21, 17), (6, 18), (9, 18), (18, 18), (21, 18), (6, 19), (9, 19), (18, 19), (21, 19), (1, 20), (2, 20), (3, 20), (4, 20), (5, 20), (6, 20), (7, 20), (8, 20), (9, 20), (10, 20), (11, 20), (12, 20), (15, 20), (16, 20), (17, 20), (18, 20), (19, 20), (20, 20), (21, 20), (22, 20), (23, 20), (24, 20), (25, 20), (26, 20), (1, 21), (6, 21), (12, 21), (15, 21), (21, 21), (26, 21), (1, 22), (6, 22), (12, 22), (15, 22), (21, 22), (26, 22), (1, 23), (2, 23), (3, 23), (6, 23), (7, 23), (8, 23), (9, 23), (10, 23), (11, 23), (12, 23)]
def pellets4 : List PacMan.CR := [(13, 23), (14, 23), (15, 23), (16, 23), (17, 23), (18, 23), (19, 23), (20, 23), (21, 23), (24, 23), (25, 23), (26, 23), (3, 24), (6, 24), (9, 24), (18, 24), (21, 24), (24, 24), (3, 25), (6, 25), (9, 25), (18, 25), (21, 25), (24, 25), (1, 26), (2, 26), (3, 26), (4, 26), (5, 26), (6, 26), (9, 26), (10, 26), (11, 26), (12, 26), (15, 26), (16, 26), (17, 26), (18, 26), (21, 26), (22, 26), (23, 26), (24, 26), (25, 26), (26, 26), (1, 27), (12, 27), (15, 27), (26, 27), (1, 28), (12, 28), (15, 28), (26, 28), (1, 29), (2, 29), (3, 29), (4, 29), (5, 29), (6, 29), (7, 29), (8, 29)]
def pellets5 : List PacMan.CR := [(9, 29), (10, 29), (11, 29), (12, 29), (13, 29), (14, 29), (15, 29), (16, 29), (17, 29), (18, 29), (19, 29), (20, 29), (21, 29), (22, 29), (23, 29), (24, 29), (25, 29), (26, 29)]
/-- `state.pellet_locations` -/
def pellets : List PacMan.CR := pellets0 ++ pellets1 ++ pellets2 ++ pellets3 ++ pellets4 ++ pellets5

/-- the state the real `reset` returns for the shipped maze: `player_locations` (x, y), `ghost_locations`,
`pellet_locations`, `power_up_locations`, `scatter_targets` -/
def table : MazeTable :=
  { grid := grid, player := (23, 13), ghosts := [(13, 13), (11, 14), (16, 14), (13, 15)],
    pellets := pellets, powerUps := [(6, 3), (21, 3), (8, 29), (22, 29)],
    scatter := [(3, 1), (24, 1), (7, 23), (19, 23)] }

/-- breadth-first distances from the player start (connectivity certificate, validated by `tableCheck`) -/
def dist : DistCert := [
  [0, 0, 0, 0, 0, 0, 0, 0, 0, 0, 0, 0, 0, 0, 0, 0, 0, 0, 0, 0, 0, 0, 0, 0, 0, 0, 0, 0],
  [0, 34, 33, 32, 31, 30, 29, 30, 31, 32, 33, 34, 35, 0, 0, 36, 35, 34, 33, 32, 31, 30, 31, 32, 33, 34, 35, 0],
  [0, 33, 0, 0, 0, 0, 28, 0, 0, 0, 0, 0, 34, 0, 0, 35, 0, 0, 0, 0, 0, 29, 0, 0, 0, 0, 34, 0],
  [0, 32, 0, 0, 0, 0, 27, 0, 0, 0, 0, 0, 33, 0, 0, 34, 0, 0, 0, 0, 0, 28, 0, 0, 0, 0, 33, 0],
  [0, 31, 0, 0, 0, 0, 26, 0, 0, 0, 0, 0, 32, 0, 0, 33, 0, 0, 0, 0, 0, 27, 0, 0, 0, 0, 32, 0],
  [0, 30, 29, 28, 27, 26, 25, 26, 27, 28, 29, 30, 31, 32, 33, 32, 31, 30, 29, 28, 27, 26, 27, 28, 29, 30, 31, 0],
  [0, 29, 0, 0, 0, 0, 24, 0, 0, 27, 0, 0, 0, 0, 0, 0, 0, 0, 28, 0, 0, 25, 0, 0, 0, 0, 30, 0],
  [0, 28, 0, 0, 0, 0, 23, 0, 0, 26, 0, 0, 0, 0, 0, 0, 0, 0, 27, 0, 0, 24, 0, 0, 0, 0, 29, 0],
  [0, 27, 26, 25, 24, 23, 22, 0, 0, 25, 24, 23, 22, 0, 0, 23, 24, 25, 26, 0, 0, 23, 24, 25, 26, 27, 28, 0],
  [0, 0, 0, 0, 0, 0, 21, 0, 0, 0, 0, 0, 21, 0, 0, 22, 0, 0, 0, 0, 0, 22, 0, 0, 0, 0, 0, 0],
  [0, 0, 0, 0, 0, 0, 20, 0, 0, 0, 0, 0, 20, 0, 0, 21, 0, 0, 0, 0, 0, 21, 0, 0, 0, 0, 0, 0],
  [0, 0, 0, 0, 0, 0, 19, 0, 0, 16, 17, 18, 19, 20, 21, 20, 19, 18, 17, 0, 0, 20, 0, 0, 0, 0, 0, 0],
  [0, 0, 0, 0, 0, 0, 18, 0, 0, 15, 0, 0, 0, 19, 0, 0, 0, 0, 16, 0, 0, 19, 0, 0, 0, 0, 0, 0],
  [0, 0, 0, 0, 0, 0, 17, 0, 0, 14, 0, 16, 17, 18, 19, 18, 17, 0, 15, 0, 0, 18, 0, 0, 0, 0, 0, 0],
  [22, 21, 20, 19, 18, 17, 16, 15, 14, 13, 14, 15, 0, 0, 0, 0, 16, 15, 14, 15, 16, 17, 18, 19, 20, 21, 22, 23],
  [0, 0, 0, 0, 0, 0, 15, 0, 0, 12, 0, 16, 17, 16, 17, 18, 17, 0, 13, 0, 0, 16, 0, 0, 0, 0, 0, 0],
  [0, 0, 0, 0, 0, 0, 14, 0, 0, 11, 0, 0, 0, 15, 0, 0, 0, 0, 12, 0, 0, 15, 0, 0, 0, 0, 0, 0],
  [0, 0, 0, 0, 0, 0, 13, 0, 0, 10, 11, 12, 13, 14, 15, 14, 13, 12, 11, 0, 0, 14, 0, 0, 0, 0, 0, 0],
  [0, 0, 0, 0, 0, 0, 12, 0, 0, 9, 0, 0, 0, 0, 0, 0, 0, 0, 10, 0, 0, 13, 0, 0, 0, 0, 0, 0],
  [0, 0, 0, 0, 0, 0, 11, 0, 0, 8, 0, 0, 0, 0, 0, 0, 0, 0, 9, 0, 0, 12, 0, 0, 0, 0, 0, 0],
  [0, 15, 14, 13, 12, 11, 10, 9, 8, 7, 6, 5, 4, 0, 0, 5, 6, 7, 8, 9, 10, 11, 12, 13, 14, 15, 16, 0],
  [0, 16, 0, 0, 0, 0, 9, 0, 0, 0, 0, 0, 3, 0, 0, 4, 0, 0, 0, 0, 0, 10, 0, 0, 0, 0, 17, 0],
  [0, 17, 0, 0, 0, 0, 8, 0, 0, 0, 0, 0, 2, 0, 0, 3, 0, 0, 0, 0, 0, 9, 0, 0, 0, 0, 18, 0],
  [0, 18, 17, 16, 0, 0, 7, 6, 5, 4, 3, 2, 1, 0, 1, 2, 3, 4, 5, 6, 7, 8, 0, 0, 17, 18, 19, 0],
  [0, 0, 0, 15, 0, 0, 8, 0, 0, 5, 0, 0, 0, 0, 0, 0, 0, 0, 6, 0, 0, 9, 0, 0, 16, 0, 0, 0],
  [0, 0, 0, 14, 0, 0, 9, 0, 0, 6, 0, 0, 0, 0, 0, 0, 0, 0, 7, 0, 0, 10, 0, 0, 15, 0, 0, 0],
  [0, 15, 14, 13, 12, 11, 10, 0, 0, 7, 8, 9, 10, 0, 0, 11, 10, 9, 8, 0, 0, 11, 12, 13, 14, 15, 16, 0],
  [0, 16, 0, 0, 0, 0, 0, 0, 0, 0, 0, 0, 11, 0, 0, 12, 0, 0, 0, 0, 0, 0, 0, 0, 0, 0, 17, 0],
  [0, 17, 0, 0, 0, 0, 0, 0, 0, 0, 0, 0, 12, 0, 0, 13, 0, 0, 0, 0, 0, 0, 0, 0, 0, 0, 18, 0],
  [0, 18, 19, 20, 21, 20, 19, 18, 17, 16, 15, 14, 13, 14, 15, 14, 15, 16, 17, 18, 19, 20, 21, 22, 21, 20, 19, 0],
  [0, 0, 0, 0, 0, 0, 0, 0, 0, 0, 0, 0, 0, 0, 0, 0, 0, 0, 0, 0, 0, 0, 0, 0, 0, 0, 0, 0]
]

/-- the model's ASCII parser yields the same table from `DEFAULT_MAZE` -/
theorem ascii_table : MazeTable.ofAscii (ascii.map String.toList) = some table := by decide +kernel

/-- the kernel runs the checker over the generated table -/
theorem table_ok : tableCheck table dist = true := by
  obtain ⟨hp, hu⟩ := ofAscii_nodup ascii_table
  simp only [tableCheck, (nodupB_iff _).2 hp, (nodupB_iff _).2 hu, Bool.and_true]
  decide +kernel

def unrecognised : Nat := 0
end Gen.PacManMaze
