/- GENERATED by harness/translators.py (gen_sudoku_db) from /repo/jumanji/environments/logic/sudoku/data/*.npy — do not edit.
   One `Nat` per board (layout: Env/Sudoku/DBCheck.lean); every chunk is run through the checker by the kernel. -/
import JumanjiModel.Env.Sudoku.DBLemmas
namespace Gen.SudokuDB
open Sudoku.DB

/-- `very-easy` (1000_very_easy_puzzles.npy), boards 0..249 -/
def veryEasy_0 : List Nat := [
  0x040906000305080701_080107090006000502_030205010807000609_070802040600050903_060401030509070208_000009080702060104_020703060108090405_090504070203010806_010008050900020307,
  0x080301020005070604_060704010003050902_090502040607000801_070108090302040506_030200000500010708_050406080701020309_000605070408090103_010903050206080007_040807030100060205,
  0x090208040006000305_000300080000040601_000604070503080009_020409010007050803_060701050308090402_030805090004010700_070506030809020100_040100060705000908_080003020000000500,
  0x040800000107020006_000203050000000900_010009000002080000_050100070000040003_030402080500000009_090007020304010005_000001060700000400_000306040205090000_020504010800000000,
  0x030006000809070201_050009020700000306_000701000000080509_000000000603090400_040905000102060703_070003000905010802_060504090200030107_010307060504000908_090208010307050604,
  0x040903060105070002_080702030904010500_050106020708090403_060507090802040301_030401070506080209_020809010403050607_010305080007000904_090204050301060708_070008040209030105,
  0x050406000002000809_070800050004000200_010000000908000400_000007000506000001_000001000009080005_080605040100020907_000100030207090500_090500060400000002_000700090000060104,
  0x030702000408010009_080604050109020003_090001070200000608_000006090502070004_040307080601050000_020905000704060800_060400000800000007_070209040000000005_050108020907030400,
  0x000903050800070602_050801020706090304_020706040903080105_030509010208040706_010208060407050900_000407030509000801_000002070304010509_090105080602030007_070300090105060208,
  0x000100000009000802_020000010604000903_030009050008000006_040605000901020000_000301020807000500_080007060405030100_000400090106080007_070003000500090600_000906080003040005,
  0x050804070601020309_060701020900080405_090203080504070106_040902050108060703_030607090402050801_010508060307090200_020306040809010500_070105030206040908_080009010705030602,
  0x090407000205080301_080103070409000602_050206030108090700_000801040906030205_030502000807060009_060904020003070108_000700090602010503_010305080704020006_020609050001040807,
  0x050602080103000704_000103070009000006_070009000602030801_040307060905080102_010208040300050600_060905000000070000_090000020001000000_000500030804060907_000004090706010205,
  0x020100030407090005_000004050900080000_050600020801040703_010900070300050006_000405010200000800_000003000500000000_040300090100070208_080200040603010509_090501080700000004,
  0x080503010702090406_070102040906080503_090406050803000102_010609030408050207_050207060109040308_040308020507010609_060804070305020901_020901080604030705_030705090201060804,
  0x000906050104030807_050104030708020009_030708020906050401_060009040301080002_080207060509040103_000301080207060900_090405010803070200_070602090400000308_000803070600000504,
  0x060502070103090408_090804060502070301_070103090804060005_010207080309050604_080309050406010702_050406010207080003_030708040905020106_020601030708040509_040905020601030807,
  0x050807020600030109_090301070005060204_040602010309080705_080105040706020900_060704090203010508_030209050108070406_010908060507040302_070506030402090801_020403080901050607,
  0x020000050900000000_050908010604000207_010000020307000000_090702000805040001_060800000400000002_030400000702080600_070000000209050006_080209040000010703_040500070103020809,
  0x080600020007050304_070209000305080106_050403060108070902_060908030702040501_040105090806020703_020307010504060809_030500080401090607_000804070600030205_090706000203010408,
  0x020700060801000504_030005090702010608_010806050403000907_060208040105090703_050104070300060802_090307080206050401_040601030507080209_080902010604070305_070500020908040106,
  0x000100050908030004_080500000400020007_030000010702000509_000703000201050400_050008070006010902_010902000800060703_070000080009000005_090001030004070206_000300020007090800,
  0x040901050308060702_060207010904080003_080305070206040109_000508000709030401_000104080502090607_090706040103000805_070802090601050304_010609030005070208_050403020807010906,
  0x040506010700030802_070001020803000406_080002060005090700_000800050204070609_020405090607080100_060709030008000205_090108000302000000_030204070506000900_050607080901020000,
  0x070006050800000003_000109000700000208_080205000300000000_000702000000040309_090300020600000000_050800040903020006_000907000206030001_020608000105070000_000500070409080002,
  0x090400020800000607_000000090400050208_020005000000010904_010604000900070302_000900030200040006_000207010004080500_000109070502060400_070002040306000800_000306000109000705,
  0x090001000703040000_040205090106080703_000307000002090106_030109000000000405_060004000001020807_000008000005000001_070000050208000604_050802010604070309_000406070309000008,
  0x090102050804070600_040008000700020100_000607010209080504_060203080901040705_000700020006090801_010009070005000206_000305090602010408_020906040108050307_080401030507060902,
  0x090200080500040307_000805040703020901_000400020109000600_050300090007060108_000902000801030004_010608030405090002_000503000900000206_020106050300000000_040709010602000000,
  0x050201060003040009_080306040000010002_070900010002060003_030008000906050204_020000080001000906_090607050204000301_060800020407030105_040700000100090608_010503090608020407,
  0x020406090107050803_000109080305020604_050008060002070901_080703040506090102_090201030008060405_060504010209080307_040805020601030709_010602070903040508_030907050804010000,
  0x060904080000010700_020308010705000609_000500040609080203_090106020300070508_050807060001020304_030402070508060900_080200090007030406_010709030006050802_040003050802090107,
  0x000103050000020908_020908000301050406_050406020809070103_030200060007080500_060704000905030001_000009030100060704_010000000700000600_000605010008040300_040007000506000802,
  0x070002010600000000_000400000005030000_060300090004000702_040207000501090300_000106000300020007_030908000000000506_020605030100070000_000004050006000103_000000040907060205,
  0x030704090602010508_010508040703020609_000609080501030700_090106050308040207_040207060109080305_080305070204090106_060801030405070902_050403020907060801_070002010806050403,
  0x000903050002070000_080007030901050200_020405070608030009_000702080300000005_090008000504020600_040501020706080003_050109040207000008_030800090105040702_070004000800090501,
  0x080002060301050409_090504080207010306_060103090405070208_030801040506090702_020907030000000504_040605020700080103_050306070904020801_070409010802030605_010000050000040907,
  0x050702060901040308_080403070502060009_090601040803070205_010806000304090702_000504090207000601_020907080106050403_000308020405010907_070100030608020504_040205010709030806,
  0x080003000700050109_090500080403070002_020706090001000008_000805000000000006_000900010000000000_030004060907000501_000109000300060004_000308040600010900_000002070109030805,
  0x010405090206080307_080300010004090002_000602000703000405_000800020401000006_020104070609050803_070006050308020104_040508060002030709_030709040805000201_060201030907040508,
  0x040900060008070003_070103090400050000_000608010703040902_090805000007000004_060307020104090800_000204080900060307_020509070806000000_000401050009000700_080700000301020009,
  0x000008030000070400_000704000900010000_000103040207050000_000002090000030007_000009000700040005_070006020504080000_000205010309000004_040607050002090103_030901070406020500,
  0x000107000906000204_090506040302000700_030402010807000005_040209070103050800_050608020409010307_000703060000040002_070300080001020509_060801090005000403_000905030700060008,
  0x020307060809050000_040105020003080906_060008040500070000_010804030205060009_030502090607040001_090706010400020503_070209080106030405_000601050004090207_050403070902010600,
  0x010200050006000704_040008030001050906_060900080704030200_080107020000090405_000400070100020600_000600090405070108_000506000009010007_000001060002040009_090004000307060500,
  0x000700050400000009_000405000900020000_030008000701000000_050300090100070006_000000000602040500_000607000000090801_040803010209060005_090200060507000408_000506000800010902,
  0x090004080205000307_000603090104020508_000200000600010400_050002030006070100_040700000902000000_000806040000090205_060008010300040900_020409060508030701_010307020409050006,
  0x010500020407080600_040207090806010305_080906050103000702_060802010309070000_070405080602030901_030109040005060000_090308070501020406_000604030908050100_050701060204090003,
  0x080503000006010000_070109080503000200_000400070109050803_030204000001080905_090805000204070601_060701090805020304_010908050000060407_050302040607000108_040607010908030002,
  0x040806090301050702_020705060804000301_010309050702060804_080502040603010900_070901020508000603_030604010907020508_060200030409000105_090403070105080206_050007000206030400,
  0x020906010800040703_080105040000000602_030000000200000500_000700060008050001_000500070402060809_090008050103070004_050004020709080106_000800030504000907_070209080601000405,
  0x080504070009060302_090701000602040508_000006050408010709_000803090500070001_000007080306000904_000905020700030806_030408000905020607_050109060207080403_070602040803000005,
  0x000006010203000007_020001080705040600_070008060004030102_000000070506010904_050607000001080000_040109020308060705_060900040002000008_010204030007090000_080003050609020401,
  0x000000050001070000_000300080000000504_010504030607090800_060708090002040103_040103070800020905_020905010000060000_050200040000000609_080600020005030407_030407000000050200,
  0x080000000000020000_030901070000050804_070000080405000300_000407000801060203_020603000000010908_090108020306040507_010805060903070402_000309040207080105_040702010500030600,
  0x000204030709010806_030907060001020405_000100050402090703_020806090500070301_090405000307080600_010003000608040500_070500080100000004_000602000905030008_080300040206000007,
  0x020009060500070408_000003000704000001_070004010009000306_080907030102060500_010002040600080709_060405090000010003_030000070406090000_040706020008000105_000208050301000607,
  0x050900010003000000_000206000908030000_010403070206000000_090807000305000200_020601090807000003_000305020601070008_060100000702000300_000509060100020000_000000030500040000,
  0x080001000007030904_040903000000020507_070502000304010608_060207030405080109_000304010809070206_000000020706040300_000809000600050402_000000040502090003_020005080900060701,
  0x040309060807050201_080706050201090403_020105090400060807_060803070502010904_090401030608070502_050207010904030608_030604080705020109_010902040300080705_070508020109040306,
  0x010702060409080305_040609050803010200_080503070102040906_060908030001070402_070200090608050103_050301000704060800_030007040206090508_090805010307000004_020400080905030701,
  0x090702010503060408_080406070900030105_050003040806020709_030801090604070502_060004050200010803_020507080301040906_070305060108090204_010608020409050007_040209030705080601,
  0x080709030405060102_030405020106090708_020100080709050403_010908070503020604_070503040602080901_040602010908030507_060801090307040205_090307050204010806_050204060801070309,
  0x050702000809000103_000806010403000205_030001020705000600_000500070006000800_010300040000090000_000907000301050402_080109030204000000_070605090108020304_040003050607010908,
  0x090002060003000100_080603070401090205_040701000902000306_000407090105020600_020800040307010500_000905080206030704_050208030004000901_070109000008000403_060304000000050002,
  0x070304000200090105_010500030704080200_020008050100040703_050907040302010008_000402080001000509_060800090507020304_040200010805030907_090703020000050800_080105070903060402,
  0x040903050208060107_020805010607040309_060701030009020508_080506040701090203_090302060805070400_070104020903000605_030208070506010904_000409080302050700_050600090104030802,
  0x070204030000090508_080509020407010306_060300050908040207_000908040703000105_030407000605080902_050100000802070403_040002070301050600_010703060509020804_090605080200030001,
  0x010306000700020409_050008020409060301_090402000301080705_030200010607050804_070001050800090000_040805090203000607_080107040502030906_060903070000040500_020004030006000008,
  0x040007020001050600_000200080605040709_050006090000010000_000009000000030800_070102050000060000_030000000906000200_090001030500000406_080604070109000000_020005060008090100,
  0x000001000900040300_000800030600000200_040300020107000009_000503000206010000_060402070801090003_010708050000060000_000005090403000007_030004000702080000_000600010008030904,
  0x020507000008000000_010600050700000908_000000060301000002_000200080500090000_040805000900060200_030100020600050804_060701040205080009_090008070106000400_050000030809000706,
  0x060905030801070204_020407090605010803_080001040207050009_040708050902060301_030100000408000905_090502010306080407_050004060109030708_010609080703040002_070803020504090100,
  0x040902010700000006_030006090204000007_080007050000000400_070805000906000201_020001080000000609_060009040102080705_090604020800070500_000003000400020108_000000000305060904,
  0x000900070603000200_000000090500070603_060703000204090500_070105030800040900_080306000002010705_000402010700000806_010009000307060408_000507060408020100_000600000009050000,
  0x060800030107000509_030100090205080400_090205060804010703_050608040001090207_070002050608030104_040301070900000805_080403010709050602_020506080403000001_010709020506040308,
  0x080004000205000603_000600010408050902_050902060307080104_020809050603000700_030006070104020809_040701080902030006_090408020500010307_010307000809060205_060200030701090408,
  0x060005000002010907_010907050600080204_000204000109060005_050103020000070009_040000090708000103_070800000501040602_030701060205000408_020506000004030000_090408010000020506,
  0x090006020507010308_070502010300060409_080300060409020500_050107080603090204_030600090204070105_040209070105080600_020704050801030906_010800030906040702_000900040702050801,
  0x050402070300080609_000806040200070301_010003080609000200_000605000000030907_000309060508020104_040001000900060008_030000050406010702_060500010702090800_000107090800050406,
  0x000200040003050709_030100000900060800_050007000006030000_010005000009000304_000006030400000007_020003050001000008_000501000600000200_080302010004070906_070600020308040105,
  0x000700000805000600_010006070002000000_080005030106000207_030508060001090000_000004000008000006_000600020904000805_000000000000000701_060803010000050904_020007040509000308,
  0x040805020109000600_030600080504090201_090201000703040800_060504010908020703_020700050406080009_080109070302060000_010300000607000908_050908030201070406_000406000005010302,
  0x090104060805030207_070203010904050608_080605020703040109_030701090406020805_040906080500010703_050802070301060904_060408050207090301_000309040008070502_020507030109080006,
  0x080907010504000006_010004060002000008_060302000907040000_030208090701000405_050006030200000000_090701000406080203_000005040600090802_000809070105030004_000603020809050107,
  0x050400000609020807_000109020807000503_080007000503010600_090000050700060004_030000080900000700_070502000004000001_020000000006070000_010700000200000406_040906070100030200,
  0x020708030004050601_050106020708030409_030904050106020807_060507080209040103_080209040301060705_040301060507080902_070602090803010504_010405070602090308_090803010405070206,
  0x060907010002040805_080400000706010203_020003040508090600_090306050001000408_040708000600050102_010500070804030906_000604020003080001_050801060007000309_030200080105060704,
  0x000000000701020004_000701000204000006_000000000800000301_000003020009010000_000609080105000003_000105070403060009_000308040900050602_000900060502030108_060500010000000407,
  0x080102050304060709_090706020108050304_040005000009000108_070604090001000503_030500040607090201_010209080503040607_050801030406000002_060403000902010805_020907010805030006,
  0x010706020004080305_020409080305010607_080503010607020904_070602040809000103_040908050103070206_000300070206040809_030107060402090508_060204090508030701_090805030701060402,
  0x000403070000000809_060005000108020300_010908040203060507_030209060500080000_080007020309050400_000600010807000902_090301050402070600_000500080006000103_070006030001000205,
  0x020000010504080607_040105080706030209_060807000902000405_090001000805060703_070603020109040008_050408060007020001_080506070003000100_030702000401050806_010904050608000002,
  0x000502040006090103_010300080200000406_040600000003020805_000000070504060901_000000020300050000_070000000000030208_060904000000000507_030201000007000009_050708000000010000,
  0x080506020709040103_000702040103060508_030104060508020709_070208090401030605_000400030605080207_000603080007090401_060301050802070004_040907010306050002_020805070904010306,
  0x030000040002000107_010706000000090204_000409000601050308_050208000009070603_090004000000000000_060007020805040901_080902060000030000_000601000307020809_070000090208000406,
  0x000600000502010900_030205090000060004_090107080000000305_000700010904000008_010009060805070203_060000000000040109_000902040008030500_050306070200000401_040001000600090702,
  0x040207060901050803_030805020704090601_010609080503070204_050402010607080309_070106030809020405_090308040005060107_020701090306040508_080504070002030906_060903050408010702,
  0x090001000004000307_080204030607050901_030600090501020800_000902040806000005_000006070300090102_070305010902080406_020008060403000509_050709020000040603_000400050009010208,
  0x090305070608000201_080006000204090500_040100030509080007_020001080300060704_000003040706020009_000407090102000308_000004050900030806_000600020007010905_010000060803070402,
  0x090008060504020300_050604020700010809_070203000908060400_060307080209040501_020809040105030706_010405030607080902_030002050801070604_040706090302050108_080501070406090203,
  0x000200070500060901_060901080204070503_070503060901080204_020108050407090306_050407090006020100_090306020108050407_040805030709010602_010602040800030709_030709010002040805,
  0x020006090408070305_050007000600040809_090804050703060002_080002030904050701_030009010007020000_000700000206090403_000003060105080204_000501000800030907_040008070309010506,
  0x080507030601040902_020009070508060301_010603090402050708_050308010900070204_060901020704030805_040702080305090106_090206040807010503_030105060209080407_070804050103020609,
  0x090206000007080403_040308000902050107_010705080003060900_020009010708040306_000604090200010708_070800040306090205_060903020500000804_080407000609020501_050102070804030609,
  0x010905070804000603_020306090001040007_040700030602010009_000502000107030406_070801060403090205_030604050209070008_060407020305000901_000009040000050302_050203010008060704,
  0x060503000704000009_010000030506070408_040708090001000603_050806040900030201_000904000302000506_020301000800090704_000405070109000302_000107020000000805_030600050408010907,
  0x020409050801000007_030007040209000801_080501060307040209_000000010503070000_060702000008010503_050103070600000408_070000080900000006_090805000100020700_010306020704080905,
  0x010406000703080902_090208060104050703_070005080902060104_050903020001040607_060704000509020001_080102000007030509_040507090000010206_020601070005000008_030000010200070405,
  0x070104030800090502_000603020509010704_050902040701060803_060305070902040108_010408050603020907_090207080100030605_020701060408050309_040806090305070201_030509010207080406,
  0x000005000001000206_000000070509010003_040103020008090000_080502000700060104_000004000200030007_090300000000050802_000708000000000601_000200050807040309_000409060100000508,
  0x000208010403050900_040103000000070208_000906020708040103_090604080205010307_010307060904020805_020800030107090604_060401050809030702_000702040600080509_080509070302060401,
  0x010800030209060700_070605010804000309_030009070605000104_060907080501040203_020003060907050801_080000020403090607_050708040002030900_090306050008010402_040102090300070508,
  0x050804010607090203_020309080405060701_070106030902040008_040503070806010902_060708020109030405_090201050304000607_030402060508070109_080605090700020304_010907040203050806,
  0x010306080004090702_000000030001040008_040005020009010603_050100040207000300_060903010800070200_070402090000050001_000601050402030000_030700060100000405_000500070900080106,
  0x020904080705000300_000300040900050700_000008010006000904_030800020009000400_070405000000090100_000102000407030806_000207030508000009_000503090001000207_010000070204080500,
  0x070008060000000000_060000000009000208_010904070002060305_000002000306080109_080109050007040000_040603080901050000_020001000000090400_090400000000030507_000507090600000000,
  0x000400060102000807_000200030708050409_070803050900000200_000702080309040105_050004020600080903_000908040501020706_020307090800010604_040601070203000508_000509000406070302,
  0x000002000008060507_070006000400000003_030908070500000400_000304060009050102_020100000304000006_060709000100040308_050000040000030600_040801000600070205_090603050200000804,
  0x080000010603000004_010603050904080007_050904000007010600_030000040502070806_070006000009040002_040502070806000100_060701090300000408_090305020408060701_020408000701090305,
  0x000209080406030701_030701000902080604_000604000107050009_070905000804000103_060103070509020408_020408000301070905_000306010705090002_000500090208040006_090802040600010000,
  0x030507080906040201_060908020104030705_040102070503060809_070405090300000106_080309010602070504_020601050407080903_050204030700010608_010806040205090307_090703060800050402,
  0x010005030008090702_000803020000010400_000702050004000800_030900070200000004_000007040006030000_050000080309020000_000300000802070501_000501060403000209_080009010005040006,
  0x080207040501030900_040105060903020708_000309080700010500_000704030600090000_020908010007050603_000500020009070401_050403090206000107_070801000004060009_000002070108040305,
  0x050000000700020400_060204050000010700_090107060402000305_000000000003070902_000700080000030501_000305020007040008_040002030806050100_000008000005090004_000000000209060800,
  0x040103050806020709_060508090207000001_070902010304080605_020705040900010800_030409000108050207_080601070502090304_050206030709040108_000800020600070903_090307080401000502,
  0x010900020000080000_020300000008090007_050806000709030004_000000000000020409_000209060300000708_070108000000000003_030000080507040901_000705000104060002_090400000006000005,
  0x060008030401050207_040103020500060809_050702080609040301_000306040702090000_070204050908010603_090805060000070402_020400070800030006_030609010200080705_080507090306020104,
  0x020905010800030407_030407050902060801_060801070403020905_070204000005010300_000609000301070204_010308040207050609_080003000500090006_090100030708040502_040002060109080703,
  0x000603080209040701_020908010704000003_070401000500090208_000209040807050100_000704000005020009_010506090002070004_040105000600000007_090800050401000600_060300070900000405,
  0x010307090602050408_040805010703060902_090206040508070103_000601080905040307_030704020106090800_080009030407010206_070408060301020509_060103050209080704_050902070804030001,
  0x040700060308000009_000300020109000500_090102050704000008_070008000200050001_000200040000060807_010504080007020903_060903010402080705_000807030906040102_020001070805090006,
  0x060700010009030204_030400080607050109_050901020004060807_070106050902040308_040803060701090502_090205030408070601_020309040806010705_080604070105020903_010507090203000400,
  0x080501030207090604_070203060409080105_090406010508070302_010705020903060408_060800050701030209_030900040806000507_050307090602040801_020609080104050703_040108070300020906,
  0x020405060809010700_010703020405060809_000809010703020405_080506070901040302_040002080506070901_070901040302080506_050208090600030104_030104050208090607_090607030104050208,
  0x000901000600080007_000400020901000603_000603080407000900_070000010000000000_000504000000000200_010206000504070009_000308000702060100_060005040008090702_090002060105000000,
  0x010900020703000805_070203040508090601_050408000006020307_020305080401060709_040801060907030502_090607030005080104_060702050304000908_030504010009000206_080009070602050403,
  0x020406000905080301_010300040206050700_000705000108060402_070502080309010604_030809060401020507_040601050002090803_080900010003040205_050204090807000100_060000020504070908,
  0x080706010903050204_010903050002080600_000402080706000309_060507030809020401_030809020104060705_020004060507030908_070205090008040103_090608040301070502_040301070205000806,
  0x020000010000070605_060507030008000401_000009050600080203_000004000306020109_000902070004060008_000806000100000500_090203000701050800_080000020003000704_000400060800030900,
  0x080006000403050102_030409050102000708_020105000708000403_060804000309070005_000300000205040806_050207040806010309_010902080507030600_070000000604020901_040603020901080500,
  0x020801070309000406_090703060004000208_000605080102030907_070509010406020803_080302050907040601_000104000208000705_030908040705060002_050007020601080300_010206000803070500,
  0x010800090006020304_060905020403080007_030204080001090000_000609030207010500_070302010800060400_000008060904030702_080003050109040200_020406000000050001_000500040602070803,
  0x030708090502010604_040600080307000205_050209010406080703_080300060905070401_010407020803060009_090000000104000308_070103050208040906_020805040609030107_000004030701000802,
  0x040601090807050302_070908050203060401_030502060104090708_050803020406010907_090107080305020604_060204010709080503_020306040901070805_080705030602040109_000409070508030206,
  0x030600000000010805_010508060307090204_090402050108000700_070304090000080601_020905010800070403_080100030700020509_050201080003040907_040709020501000308_060803070009050002,
  0x010005000800070206_030908000607040105_020706010504090308_090800070306050402_070603040205080901_040002090008000703_060309050702010804_050207080401030609_000104060003020007,
  0x000701090504020603_000009020003010008_030602010708090504_020305060800070409_090407050302000001_010006070409000302_070008040205030100_060003000007040200_050200030106000900,
  0x050000000409000008_020008070005010904_090104030000000506_060200050104090803_080900020706050001_040001090008020600_010005040900000002_030409080207000000_000802060500040300,
  0x060107080005030209_030902060107080504_080405000902060701_010508040203090607_040203090706010805_090706010508040302_070801050304020906_020609070801050403_050304020609070108,
  0x010807020509060304_090502040603080100_000604070801050902_070106080902030405_020000050304000706_040305060107090208_000409030706020800_080201090405070603_060703000200040509,
  0x030206000008010905_000500020600000000_080704050109060002_040300000700050000_000800000006000403_000000030004070008_020609040307000500_000403010805000000_050008000002030000,
  0x000004010700050300_070009050306020800_030506020804010009_050403000208000007_000600040503090208_020908060107040503_000300000400070902_090702000600000400_040805070002030601,
  0x000501080407060309_070804060009050102_090603050102080407_050109040208030706_060307010905040208_080400030706010905_030708090601020504_040005070803090601_010006020504070803,
  0x060200010003000405_000003040005020607_040905060207080103_030409050002010708_050000070100040309_070108000409060502_090500020000030804_080304090506070200_020701080304000906,
  0x070800040009000301_000306070208050900_040900010000020000_020703050804090006_050008060001030000_060109020007080005_090004000102070508_000201080700040600_080007090406000203,
  0x060901030804070205_080403000502010906_050207010609030008_090306080007050102_040708050201060309_020105060903080704_030809040705020600_070504020106090800_010002090308040507,
  0x050302070900060401_040106000302080709_070908040106020503_060700020003090005_000403000509010607_080509060000030204_000604000205070100_010000030604050902_000000010007040306,
  0x010204000508030709_080506070903010402_030907040201080605_060105090807040203_040302050106070908_070809020304060501_000401080609020307_000703010405090806_090608030002050104,
  0x020401090306080507_060009070805040201_050807010402030609_090604030507020108_010208040609050703_070503080201060904_030706050108090402_040902060703010005_080105020904070306,
  0x080509010604070003_010406020703000805_020300080905060000_050902040006000307_040608030007020509_030701050209080406_000104090302050608_000203060508040700_060805070401030902,
  0x040107000800000903_080000060903000400_000600000000000802_050004030008000100_010709000504030600_000308000009000500_000000040201080005_000800000700040201_020001080305000700,
  0x030608010207050409_050400060300020007_020107040509000608_000802070405060903_040005000603010802_060903080102040705_000204050006080301_080301020704090506_090506030801070204,
  0x040009050306010000_080200000007050306_030000010800000407_060004030000080701_020003080701000600_070008040009030000_000000000504000103_010000070000000504_000400020000070008,
  0x050000020700000301_000300000504070602_070002010803000409_000000080001000900_000900070002000100_000100050300040000_020800030005000704_010500040907020006_000004060008010003,
  0x030507020609010804_060209040108030705_010000050300060902_070602010904080503_000100030805070206_080300060702090400_040803070506020109_050706000201040308_020901000403050607,
  0x030500060009000200_040000070503080000_000000000104000000_000700090005000408_080200000701000905_050009000008000001_000301050907040800_000400000302090007_000905080406030002,
  0x030401020905070806_020509080706010304_080607030104090205_060703040201080509_040102050809030607_050908060307020401_010205090608040703_070304010502060908_090006070403050102,
  0x060803020001070004_070900000803020501_020501000904000803_040708000605010209_010209040708000605_030605010200040708_090107080400050302_050302090100080406_080406050302000100,
  0x030000070801000902_010800090205030004_050209000403010708_040600050708000309_020000000604000507_080705030900040000_070502040309060801_090304080106070205_060100020507090403,
  0x000002010903000800_030009080400020600_050804060207090003_020306050109080704_000501070804000302_040708030002010509_010405000708030906_080007090006000001_000000040501000208,
  0x050004080003020900_030807000902050406_020109060400030008_070300000800040105_090200050104070600_040500030000090800_000705090300000004_080900000201000507_010402070500000309,
  0x090803050200060407_010500070406000308_060004000300000205_020905010704030800_040107000803020500_030600090502040001_050309020107080604_080006000905000102_070201040008000000,
  0x020009010604080305_000104050803020907_080503000209060401_090607080401030502_030205000907040108_040801020305090706_050902000006010803_010308090502070600_070406030108050209,
  0x040706030001000200_090208040706000500_000501090200040706_000400080305000902_080305000900010407_060902010000080305_000004020003070009_000803070600000100_000009050100020803,
  0x000609050008030001_020000010703000400_070100000409080005_060800030507040000_000904080000000503_000007090104000600_000006070800010000_000401020006050000_080005000301060002,
  0x010409070206050803_050803010409070206_070206050803010409_020901080607040305_040305020901080607_080607040305020901_030708090504060102_090504060102030708_060102000708090504,
  0x010402030005000006_070008000001050000_050900000607010000_000009060702000401_000706040103000900_030004090000020000_090001050806040002_060005070200090103_000200010309060008,
  0x070004020800060105_000605000703090800_080902050106000700_060201070300040908_000507000904000600_000008010600050300_050100090400080206_020806030501070400_040700060208010500,
  0x020000000100000800_010500030806040209_080300000200050107_030602090001070508_050708060300000401_040001070508060302_090100080703020604_000200010000080003_070803000004010905,
  0x000507060000000203_000604020103000507_000203050900080600_000800010400030002_040106090302000805_030002080705040106_000300070209050408_000009000500060300_000400000001020709,
  0x040501020603080907_090700040501030006_020003090708010405_050302060809040701_060809070100020503_070104000302090008_030906000407000102_010205030906070804_080407010205060309,
  0x080602070000030000_070001030900000602_000009000206000001_020006000508090004_090704020000010005_010805000407020300_060903050800040107_040107060309050208_050208000001060003,
  0x050701000302090008_000009000100030204_020003000000010007_000504020803070000_000008060709040105_090600000000000300_000100030608000709_080306090007000401_070005010004000803,
  0x010002090603000805_060900050008010000_000508000100060000_000607040800020501_080409010200030706_000005060007080004_000006020000000103_050000000700090008_070301080906000000,
  0x080905000203070100_020003070600000000_060000090800040302_000604080507020903_000200060104000700_050800020309060400_040102050706030809_090308010402050000_070006030908000000,
  0x000103000704020605_070804000602000000_060502010003040700_020008090305010000_040701060208000309_030005070401080206_010400020000000503_080200030500090004_050006040109070800,
  0x040005060008090002_000200040500070608_000807030000050400_050601070003000904_090400000106080003_070008000004010006_020004010607030809_010000000309040200_080900020405060107,
  0x030105020709060804_040800010305090207_070200080406000103_050408030901020006_060702040508010309_000301070602080005_000607000104030902_010504090203070608_020903060807040501,
  0x030902010805000607_010508040607030200_040006030209010805_020000080704060903_080407060903020500_000000000501080704_000804070306090102_070603090100050408_090201050408070306,
  0x020308000107000900_090600080302000700_070100050609000008_040001060000000803_000703000904000506_000006030008090401_060800070400000109_030407000501000602_000000000006040007,
  0x040107080906000305_000900020503040701_020503040107000609_060209030405070008_030405070801000902_070000060009030504_010600090302050407_090302000704010806_050704010608090203,
  0x020307010506040809_000501040900070203_080904070302000600_030100060405080007_090708020103000500_050406080709020301_010603050800090702_000805090000030106_000209030600050408,
  0x020700000000080105_060000050800000704_080105040200060000_010506000700000302_090302060100070400_070408020903000500_040801000002050609_050609000408030207_030007090506040800,
  0x030907060208040501_010405000900020806_060208010405090703_000609080102000405_080102000304060900_050304000609000008_090806000501070300_020501000703000009_040700090806050002,
  0x070002010003040605_010003060405080702_000000070802000100_080301090506020407_040207080001050906_090006040200030801_050704020108060309_030609050004010208_020008030609070504,
  0x000705030002010406_090302000601050708_000401000800020009_030200000009060500_070506000008090100_040009050006000203_050604080200000901_020007090103000005_010900060500000802,
  0x050601030807020409_040209050601080307_030807040209060501_060103080704090205_080704020905010603_020905060103070804_000402090506030100_010008070402050906_090506010308040702,
  0x080205030700000106_030709040100080205_040106080000030709_010008000503070004_020003070900000608_070904000608000003_090401060800000007_000802000300090401_000007090401060800,
  0x070001050009030406_000005000603080000_060304010700000002_040000080106070000_010608090007020004_050709030402060801_080406070001050203_090107020305040008_030502060804010709,
  0x020504070109030806_060308050204070901_010709030608050402_040605020907010308_090207010803060504_080103060405020709_070402090301080605_000901080506040207_050806040702090103,
  0x060007050103040902_040200080607010305_010503020409060708_080906070500020403_000701030200080609_000304090800050107_090408060705030201_030102000908070506_070605010302000804,
  0x070603080409020105_040809010200070603_020105060703040809_030001040000050008_090400000508030001_050008000301090400_080004030102000907_010002000607080504_060900050004010302,
  0x030709080604020501_040806050102030709_020501070903040806_090205030706010408_010408020509060307_060307040801090205_070902000308050104_080603010405070902_050104090207080603,
  0x040905060307010802_000603080201040005_010802090504070003_060504030708090201_080307020109060504_090201050006080307_050109040603020708_020708010905030406_030406070802050109,
  0x010507020908030004_080009030400050107_060304050001020809_040803000007010902_070600010209080003_090102080300060705_020701090003040506_050400000102090308_030908040600070000,
  0x000100040005090700_050004080009030100_000000000103050604_000507010002000306_040306070500020901_020001060304080000_070400000801000203_060203050407010809_010809030206070405,
  0x080502090104070306_070306020508040109_000109060307080502_010208040903050607_050607080201030904_030904070605010208_060400050702090801_090801030406020705_020705010009060403,
  0x010307000406080209_000002030007050000_040000000002000701_030704060000020100_000200000304060905_000009020001070400_000008010203040007_020100040005090800_000000090008010300,
  0x000203060001000907_010600050900020308_070509000000060401_090800000003070600_030100070600000009_040000080509000200_060900030005040000_020401000706030800_050000040102090006,
  0x010605020308090407_030802090407050106_040709050106020300_090408070501060203_050107060200080904_020306080900070501_060201030809040705_080903040705010602_070500010602000809,
  0x010304060508090207_020709000004080506_050608070209040103_040207010803060905_080103000906070002_090506020007030801_070905040302010608_030402080601050709_060801090705020304,
  0x060300000204070008_040009000000000300_070108050306040209_090401030700050602_080703020605090401_050600010400080703_020504000901000806_010007060000020504_030806040500010907,
  0x010305000209060807_090400000806010500_060008030501090204_020103090408050706_000904000705020301_050607010302080409_070809050603000002_040201080900030605_030500020104070908,
  0x070800040609010502_090006020100030708_000200000307060904_030700090206080100_000008000000020600_060900050801040307_000600000700000403_080100030004050200_000300060502070801,
  0x020700080105040609_010805040000070200_060409070203080005_000302000401090706_040501090000030800_070906000802050400_000208010904060300_090104000307020000_030007020508000004,
  0x020405000603010007_000806010700000205_090107040000080306_000502060304000809_080009050200060403_040000070908050102_060900000107000004_000001030005090600_050004090800000700,
  0x090108020600040503_070602040305080901_000004080109020706_060809000203050104_030200050401090608_010405000806070302_020906000700010805_040703010508060209_080001060002030407,
  0x010509030007020804_000804050901000306_070006080400000009_000601040708050902_050902060103080407_080400090205030600_040703000809060105_090208010500040703_060105070300090208,
  0x000200030000080004_070500080406090000_040000090100030500_090005060300000008_080400000901000700_030006000804000009_000004010200070005_050007040000010002_000801070509040300,
  0x020409060008000003_050003020409000708_000008050100020409_010300040906070800_040906070005000302_000805010302040900_030200090607080501_000001030204000607_000607000500000204,
  0x070406010503000208_050301020900070600_090802060704000103_060908040107020300_010704030205060809_020503080609010407_080205090406030700_030107050002000906_040600070301080002,
  0x080000010300090002_020906000800000400_030104090006070000_070000060000050009_010603050902040007_000502040008060301_000307020601080900_000809030407020100_060201000509030704,
  0x020006040508090701_080405070109020306_090701030602080405_040509010207030608_070002060003040509_030600000904070102_010203080406050907_000804090705000003_050907020301060804,
  0x070302040905010608_060001020703040005_090504010608020703_030107090502060804_080406070301090500_050209060804070301_040908030006050007_010003050007080400_020705080409030106,
  0x070801040509020306_040509020600000108_020603070801040905_080302050107060409_060904080302050701_050107060904080003_030406010008090507_000705030406010802_010208090705030604,
  0x000609000000020805_000400080502070600_000805060907030001_010704030800090006_090200070401050000_050308020609000704_060502090704000103_040000010300060002_080103000206000900,
  0x010807040506000900_040000020000000801_020903000008050004_070109000800060203_030206000901080405_000408030000090100_090702080100000300_060304090207010008_000001060003020709,
  0x080400090000020503_050203080006010000_000007000003000800_000000000000080700_070800030900050004_000504000000090300_000305000608070200_010600020709030405_020700040305060108,
  0x050400060708020003_020900050001000708_060700020900000401_030500010007080209_080209000504010007_010007080000000000_000100070800090300_070802090005040106_000305000106070002,
  0x050107040306080900_080000070000030006_030600090802000701_000405030000010000_000903080000060504_010000050000020309_000501000000070200_090300000008000105_070000010405000603,
  0x090008070203010405_050401080009000203_030207010405080609_040703000106090802_060100090802000004_020809030704000100_080506020900040001_070902040301060508_010004060508000907,
  0x030700000508090106_000200000900040307_010009070403050802_020901040306080705_060403000807000209_070508090102030604_040800000205060903_090300080704020001_050102030609000408,
  0x070001060009080400_000902080403070105_080304070005060209_000705010006000308_000609020008040507_000803040507010906_030407050601000002_090208000004050601_000006090002030700,
  0x060308050102000409_040907000806010200_020501090004080000_000409060301050002_070200040900000006_010000020507090804_050106070000040308_000804000600020907_000702080403060501,
  0x040805070201060000_010702060309080504_090603080504070201_060504020108030907_080201030907050006_070309050406020108_020907040603010805_030406010805090002_050108090702040603,
  0x050307000200080009_000009030705060400_000402000908050307_010006070803040205_030008020500010906_040000090600030000_070801050302090604_020003060409000800_090000000107020003,
  0x050706020903040801_010408050706090302_020000010000070605_000301000805060209_000005090602030104_090600040301080507_060509030200010008_000107060509020000_030200080107050906,
  0x000502060901000000_040300020500060000_010906080304020700_060100050000090200_000005090000030001_020000030006000000_050007010200000000_090200040000070508_030600070805010902,
  0x010000020807040005_070802050403090006_030405060901080702_020109080700030604_050708040300010209_060304090102070500_080001070504060003_040507030609020801_090603010208050407,
  0x060903080107040500_080107020504030906_020500060903070100_040805000209010607_070601040800000203_000000000600000804_000008090402060000_000400010306000005_010006050708020009,
  0x090406080507030201_030102060409070005_070508020103090604_040603090805010702_010207030604050908_050809070201040306_020705010306080409_060301040908020500_080904050702060103,
  0x050000010006030000_000604000000080500_000203050809040006_090000000100070004_060801020704050903_000407000003010608_080506040001090300_000102030907060805_030700080005020401,
  0x050603080204010907_090107030506040208_020408070901060500_080904010705020306_030206040809050701_070501060302090804_040009050103080602_060802090407030105_010305020608070409,
  0x020800000907050601_000601080402070300_000309060105020804_080405090203060100_060100040508000902_000902010706080405_040500020809000703_010703050604090208_090208070300040506,
  0x020607050109040308_000800060702010905_090501000003070206_000103040208090007_060709010305020800_000402070906030501_000905030801060402_040206090000080103_010008020604050709,
  0x060804070109050302_020503060804010900_070109020003080406_040605090008000103_090708030201060504_030201040600070809_050002080906000701_080906000300040205_010307050402090608,
  0x020809030500040706_030105060704080000_060407020900010500_080906010205070304_010502000307090608_040700080609050200_070001090406020800_090604050800030000_000208070103000009,
  0x080700020601030000_000000070000000200_060200090305080004_090000040000000103_070000010203090500_000000000008000400_000602030109050800_050007000402010300_010309080507040600,
  0x080907060405020103_050406020100070908_000100070900060405_000205030000080600_090700000604050201_040600050201030009_000000090006040500_000004010307090806_000000040502010307]
theorem veryEasy_0_ok : veryEasy_0.all fastOK = true := chunkOK_sound _ (by decide +kernel)

/-- `very-easy` (1000_very_easy_puzzles.npy), boards 250..499 -/
def veryEasy_1 : List Nat := [
  0x080904070102050006_000305040900070102_020107050006040900_090006000400000700_000408000000000509_000002000009000000_070001030205090600_040000010800030200_050000000004000807,
  0x080000070001000900_000706000004020300_000905030200000701_070608000109040203_090501000403080607_030204060807010509_000800010705090402_050107040900030806_020009080306070105,
  0x010007020400000509_050903000706040000_020800000300070106_060402000503010900_090701060204050803_080305090107020000_070206040805000301_030109070002080405_040008030901060702,
  0x000509000700030800_020000010803040009_030001090500020006_080903040600070100_050604020100080903_070002000900050600_000300080409000200_060205070301090000_090008050206010000,
  0x000803000002000409_020600090401070308_010900000300020006_060507040209080103_000402030108060705_000301050706090204_040206010903050807_050708020604000901_030109070805000602,
  0x030507060209080104_080100030007000200_060000080100030007_010908000400020000_050003020706010900_000000000908050400_000601040005000302_000805000002090001_070300000001000005,
  0x020605090108040703_010009000307050602_030704050206090800_090208070000060005_040107060503000209_050006080902070100_060403000805010907_000500010709000406_070900030604000508,
  0x000801070302060004_090600050801000702_070002090604080001_060109000205000307_030400060100020805_080200000007010609_020700040000050006_000506020700090400_040000000500000208,
  0x000804030709020501_020105040806090307_090003050100060408_050907010200030806_040201080603050709_030608070905040102_070006090501080204_010509020408070603_000402060307010900,
  0x050708040003060209_000206000507040300_000004060902000700_020001000708050400_000405010206090807_000009000300010002_060103020800070500_000507000600000900_080000070005000000,
  0x070104080503060209_060902010704050308_050803090602070401_000207040800090603_080405030906010702_000306020107080504_030509060201040807_000601070408000905_000708050309020106,
  0x080902040507030601_000301080209070005_040700060103090802_030208090405010706_090004070001020308_070106030802050904_000409000706080103_010803020900060007_050607010308000209,
  0x050603080902010004_000802040107050306_010407060503090208_030504090006070801_020906010708000405_070108050304020609_060205070809040100_080709030401060502_000301020605080907,
  0x070203080001040509_050004000300060801_080006050409000702_040002000000090608_060800000205000307_030701060008020000_010300090506070004_090600000704000103_020007010003000900,
  0x050000040000000200_000206030005040000_080000000209000705_070309000401080002_010005080000090307_020600000000050401_030902070004000000_060000020003000004_040500010806020003,
  0x060502030107000904_000003040008050602_090804020600070103_080006010003040009_070009060800030501_050300090704020806_020105070309060408_040608050201090000_030907080406010005,
  0x060008090000000005_000903040200080000_050000000000030000_020109000008070003_000000060003090102_030007010900040008_000805030609000204_090300020104050007_040001000007060300,
  0x080601090307020504_030907020504060001_050204060801090307_060405010908070003_000703040600010908_090108070203040605_040302050106080709_010506080709030402_070809030400050106,
  0x000900020607000100_010003090504020700_070206080300000405_080601030409050007_090300050700060001_020507000108030904_050400000806010309_060708000900040500_030109000005070608,
  0x080601030205090704_070409060801050203_020305000709010806_060107050308020409_030508000402070601_040902010607080305_090203070104060508_050806020903040100_000704080506030902,
  0x040700080001020500_080301050209070406_050009000700030001_060007010500040900_010503090002000600_090402060800050103_070108030905000004_000905000604010708_000000070008090305,
  0x060000000804000300_070408030901020605_030100000002040008_000907000300080406_000503040608000107_040000000709050003_090700050103000802_080602000407000501_050301080206070904,
  0x000904010008000203_080600030205000004_050003040900080601_020108050309060407_000400000002000300_090005070406020108_040009060001000802_000802000004000706_010700000800040509,
  0x070200000100090000_000504000200000601_000106000509070802_080000050006040209_060005020904080007_000900010008060000_000609000400010000_000800000605020004_020400030801050906,
  0x090802070003060000_060100090802070400_000403060105090802_080309040007010206_000507010200080309_000200080309040507_050000020900000000_000708000600020901_020001000708050604,
  0x020506090108070304_040300020605010809_090801040003000502_060405010002030907_010208070309000406_070903060504080201_000109050407020608_080602030900040705_050704080206090103,
  0x030801000905070000_020407000800060500_050900000000000308_070308000001040602_010509040200000700_000000080000090100_090602030004050001_040703050100020006_080105000009030007,
  0x040702080600010509_060308050109040207_010905020407060803_090200060708030100_000001040002070608_070806010005090002_080103090504000706_020007030801000904_050409070206000300,
  0x000200080605000109_060008010300000700_030900000402000805_020000040500000600_090806030001000000_000704060008020001_000609020000080004_000002050804000006_080400090006070200,
  0x010504060702030008_070602090300010504_030000050104000602_090203080501060407_050801040007090203_060407020903050801_020000030805040106_080305010400020709_040100070209080305,
  0x060104080305000009_090002040106030805_050308020709010406_020507010904000308_040900030608050702_080603070502090004_070805090201040603_030406050807020901_010009060403080507,
  0x030004000000070201_000000000009000005_050806070102040003_070500000401090306_000309000005000100_000102090603000507_080003000007010009_020000010900030008_090401030806050000,
  0x050703080102040609_090604030507080201_010208040906030705_080906070405020103_030102060800070504_040507020301060908_070301090208050406_020809050604010307_060405010703090802,
  0x090801070206050304_020706030504090801_050304000001020706_010903000608040507_040507090103060208_060208050407010003_030105000809070400_080609040002030105_070400010305080609,
  0x090006020800070401_070100050609030000_030208000407090005_050003080000010904_020807040901050006_010409060005020708_040905030206080100_060302070108040509_080701090500060203,
  0x000708000200040000_000104000900050002_000005000601080709_000500060704000800_030809020105060407_070000000000000501_050903010002070600_080600030509000204_000201070006030005,
  0x010502070800030900_060700030900050201_040000050201070806_030001020605080407_000000000103020000_000200000000090103_080403000500000700_000007040008010500_090000060702040308,
  0x010905080204070306_020400030706010509_070603050100020004_000006090507080401_080104060302050907_050009040801030602_040500020000000703_090007010400060208_060800070900040105,
  0x030506090800020107_040908070002030005_020001050003040809_050602080309070400_090803010000050200_070004060005090000_000305000001060002_000007030500010900_000400020006000503,
  0x040207010803060509_000301050906020704_090605070402030108_030109040605070802_060504080207010903_020708090301050406_010906020504080307_070803060109040205_050402030708090601,
  0x060100040009050207_020700000801030400_040903000500080601_010006090400020703_090804070200060005_000000010005040908_080609030700000502_030407050102000806_050201080006000304,
  0x080106000000070004_040207010806090305_050300020007060108_000801050703020406_060402080001030507_000503040000010809_030008070205040600_010604090008050702_020005060104080900,
  0x020307040805000109_060901070203000405_080504010609020003_090006020301050007_050708060004030201_030102080507090604_010603050702040908_070205000400010306_040809030106070502,
  0x090708020100050006_030200060004080907_000605070809010300_020503080406090001_000109050302040008_060804000907030205_050402090008070000_080906030701020000_010307040205000809,
  0x090200060001000800_060000000300090700_040300000000060005_000903010002080500_080005070903000206_010602000405070309_000704020109050608_000800000704020900_000109000806030407,
  0x050106080204090700_070903060105020400_040208030907010506_060502090408070300_030701020506040800_080400000703050602_010305040602080007_000600000809000105_090807050301060204,
  0x030708090104000205_090104060205000708_060205030708090104_040301050902080007_080607040301050902_050002080007040300_020400000506010803_010803020409000506_070500010803020409,
  0x070802060000090504_060100050904080700_050900070000010003_040708020001000300_000009000000000201_020600030500000008_000000090400020806_080200010005040907_000407080000000100,
  0x090008020105060304_010205060403070809_040603070908020500_060809050700030402_020304080609000107_070501030204080906_050400090306010708_080107040502090603_030006000007040205,
  0x020001070405080309_030908060201050407_000705000300010206_000000000702040905_090500080603020701_000100050904000608_010306020507090804_050207040809000103_080409030106070002,
  0x000203080007000400_080705040106020903_040600090302070805_010402030700080506_000806010204000007_030007050608040102_060500020900030008_000000000803050600_070308060405010009,
  0x030002060704000501_070604010008020309_050008090302040706_020706050001090803_080009070206010405_040500030800000207_010803020907050604_090000040605030108_060405080103070902,
  0x000708050609040003_040302010708050906_000609040302010007_030201070805060400_000904000201070508_000005060904030102_080506090403020701_020100000506090000_090403020107000605,
  0x080705030906010402_040201070508000603_060309020104050807_090803060201070504_000407080309020106_010002040705030908_070104050800060209_020906010407080305_030508090602040701,
  0x080005010000060002_000907000306050400_020306000000000901_000000000701020600_000600030508010704_000001090000000000_070200000000040105_060800000100090200_050104070200000806,
  0x080306050002000400_000904000600050102_000200070400000600_000000020506090700_000005090700030800_090107000804000000_000000000008010900_010509040300060200_060800010905040300,
  0x020007000600000004_050000040801000702_040800020900060300_030500000000020607_070206000008000901_010400070206000003_000102060700000008_060000080304000009_080300000002070506,
  0x080201090003040605_070309040506010208_050604010802090307_030107050609080402_020408070301050906_060905000204070103_010803000907020504_090706020405030801_040502030008060709,
  0x070809030501060204_060402080709050103_050300040602070908_040906010807030502_030205090406080701_080107020300040609_010508060203090407_020603070904010805_090704050108020306,
  0x010009030206070504_040507080109060002_020306050407090801_030002000500000708_000701090300040605_050604070801020903_070408010900000006_090100020605080407_060200040708030109,
  0x070206040803090000_000905000200000004_030004050001020706_000708000304010502_000309020105070008_050102080706030409_000000000608040001_090000070502060803_080000010409050007,
  0x000200010406000807_000000080907030502_080009050002040106_020401060000050703_070000020100080609_000008070003000204_030002040608000005_090507030201060408_040806090700000301,
  0x090102000706030400_040308020109070005_000700000000010902_050907000600040201_020001000905060803_080603010402090007_070200060503000004_000506040801020709_000804000007050300,
  0x000307050401080900_040005090608030702_060809070203010504_030706020105000408_080904060307050201_000500000809070603_050200010904060807_000401080706020305_070608030502040109,
  0x090007010803060205_050206040709080103_030108020605070400_020009070000050801_010805000902030704_000703080501000602_000900030007000008_070301050208040906_080502090406010307,
  0x070000030206010905_050109040700030602_020006010509040800_080701020604050309_060004050903070108_090503070800020406_040607090302000001_010805060407090203_030902080105060704,
  0x040000010008000902_000000090206030400_000206040703080105_080405000002070300_000000080405000000_060102000907000804_020801070609040503_000009050304000208_000304020800090006,
  0x060802030104090705_000004000005080602_000905000000000304_080403000500020906_090200080000000000_010007090206040803_040701050609030008_020308040701060509_000009020008000401,
  0x000100050802060903_030006000407000508_080502090306070100_070009080001050306_060305040709010802_000801030605090400_090703020004080605_010004060508030700_050608070900000001,
  0x070208030104050609_060509070002040301_030401000005020708_090600080007030105_080700010500060002_000005090200070804_020907000308000506_050106000700080400_000003050601090207,
  0x040300000700020809_000601080902050304_090000030405010607_060109020804000503_000007010600000200_000204050007000106_000006000000000402_000400070506000001_010908040003060705,
  0x020807050403060109_030504090106020008_000901000702030405_000209030804010506_000308060001070902_010600020007040003_080400010005090607_000103000609080004_090706040200050301,
  0x060002090300000805_000507000206000009_040903000008020601_000300070009000502_090004000800060003_050008030601000907_070809060502010304_000401000900000000_020005040003090700,
  0x080000010002030006_010000000603050807_040006080700020009_070802000301000605_090100060000000002_060405000208000003_020000000409060508_000008000100090300_000900050806070201,
  0x070008010204090503_090503060807040102_040100050009000008_060809020701050004_000207030405060800_000004000906010207_080905000600030401_030001090508020706_020706040103080005,
  0x000000050007090403_000000000600020705_020000000004060108_070006000405010309_000309060708040502_040502000003070006_050607040300080001_000001070506030204_030204000800050007,
  0x060805030704090102_020009050806030704_040703090102050806_010904020508060307_080502060307040001_070306040901020508_030608070409010205_050201080603070409_090407010205080603,
  0x090008030104050206_020506090007000001_030401000600070908_000900060400020805_080205010709030600_060004000502090107_040100050300000702_000603070200010409_000802000901060503,
  0x090100050807000304_060403010900080000_080507040003090201_000904080000030006_000000000004000008_000801060305020409_040006000100050003_050008020406010007_000009030500000602,
  0x070106040008090003_050408020003070106_090203000000050008_080004050300060900_060900000800030502_030502090601080004_040007000205000309_010309000407000800_020000030109000607,
  0x070003000104000200_010408000009050307_000900030705040800_030600000800000402_000104090006070508_080005040201000003_090001060503000704_050306000408020009_040807010902030605,
  0x020408070905030601_000306020004050007_070509010003040002_000204000507000000_060705080301020009_080000090400000006_030600000108090000_000801050209060703_050902000006000000,
  0x000400080000010900_070300090100020604_000509000204070003_050007010400030208_040601000300050709_000802070509000106_090703000601080402_080204000907060000_060005040802090307,
  0x090001050800070604_080205000706090301_070604010903080200_030508000200060100_060109000305000400_020407090601030508_010803020507000900_000006030108000702_050702000009010803,
  0x030006090207040501_040105060308000907_020709000400030608_090001080504060703_050408000603090100_060007010902000004_010904030805070206_070602040009080305_080503000700010409,
  0x020504080903070100_030809000700040005_010607050402090308_070006010004000902_000000020809060703_090208030607000400_000001040208030609_060003070105000804_000402090306010507,
  0x000801070503000206_000305040602090801_040206000000070005_000900000807050400_010008050000060000_000000000209010008_000507030006000109_000100000705030000_000600000901080000,
  0x020105090804070603_070603010205080904_080904060703020105_060502040108090307_090307000602010408_010408000907060502_050801070409030206_030206080501040709_040009020306050801,
  0x000701060405020903_000000020309000007_090302000008000504_000504030901070608_010900070800000205_060807000002030109_030205090107080406_000600000200000701_000009080000050302,
  0x060703020405090801_020000080901070000_080901000700000205_040002000300050006_070006000102030908_090308070506000402_050200010804000309_000804030600020507_000609050207000000,
  0x070806020309050004_090300040005070800_050104060800000302_000207090400010600_030409000601080207_010600070200030409_060700000902000503_020908030504060701_040003000700020008,
  0x000006040305000000_000503070901020600_070009080602050300_060402000000000100_090001000004070503_000705090000000006_000300000000060801_000900010800030002_000008020403000700,
  0x080605020709010403_000001000806000907_070900010000050608_020006090107040005_010700040003000800_050000060200000701_060503000902070104_040000030605080200_090208070401030506,
  0x070205030409080601_040903000801070500_080106050702040309_030401020608050900_060802090507000104_050709010304000208_000504080103020706_020607040905000800_010300070206090405,
  0x000309080005060704_010805040706090203_070406030209000108_030001060807020409_040900050301070800_080600000402010300_060204010903080507_090103070000000600_050708020604030900,
  0x080000000300050907_060003000507020100_070905000208030406_050700080002000603_030601000405090800_000809000103040705_010308000000070209_090000000801000004_040006020700000000,
  0x030009010408050700_050200030906010408_010800000702030006_090006000803070000_000300000200000605_000102000605040800_080000020104000007_000005000309020004_000401060007080000,
  0x040203050608090107_080605090701030402_010009030204050806_030802000105070904_090400000803060501_050006070409020308_020508010906040703_060901040307000205_000000080002010609,
  0x000900000002030605_040802060503070901_050000090100020800_000500000700000002_020409000308060007_070106040200000003_080304000605010209_090201030800000006_060705020900040008,
  0x020500090304060807_060708020105090304_090403060807020105_010207030509080406_080604010702030509_030905080406000702_050302040908070601_000106050203000908_040809070601050203,
  0x000004030602050709_000905040001030002_000003050009000801_040000010300020000_000600020500090000_000000090008010006_000407080103000205_010308000205070004_020506070004000103,
  0x070802040005090601_040503090601070208_090106070208040305_020005030009060807_060708020504000109_030901060807020504_080204050903010700_010607080402050903_050309010006080402,
  0x060503090700000100_070009010200060005_020801030605070904_010200040300090807_090008000102030406_030600000907010502_080900060001040703_050106070403000200_040307000809000601,
  0x080709040201060305_060503090708010402_010204030506000907_030602050809040701_040107020603090508_090805070004030206_050906080407020103_020301060905070804_000408010302050609,
  0x080304070506090102_050000000900080000_090001030800050007_040003000600010200_060007050000040300_000002000403060008_000009000700000500_070400060205030901_000605010000070804,
  0x020608030407050901_090105020608070004_030407090105080206_070904050201060803_050201080306040709_080306070904010502_010802060703090405_060703040509020108_040509010802000607,
  0x000407020905010306_000103080000090500_000905060103000708_000604050809000103_000200070604080905_000809000201060400_090708010500030604_010502040300070809_040006000708000001,
  0x030100000005020800_070605000809010304_080009010000060700_000700080400000006_000300000902080001_000800030000000902_020507090100040603_010908000603050007_000003000200090100,
  0x010908040300000502_040300020507080901_020507010908000300_080205060009030400_060100000403000008_000403080205090106_050704090802000603_000802030601040700_030601050704020809,
  0x000809060304000207_000003020700000009_020507010900040000_000002050100030006_080006040000000501_050000080003070002_000005090006020304_000608000400010705_030204000501000900,
  0x010308060907020504_040002000301060900_070906020504080301_030200010809000605_050607040203010809_090801000605040203_060000000702030400_020705030000090006_080403090106050702,
  0x090104030002070608_080706010409030502_020005070608010409_000000090006020304_000900020004080000_040000080705090106_030500000007000201_070009000201000003_010000050800060007,
  0x080402000107050006_000007000509040208_060509080400010703_090601020805030007_020800070300000100_070300000001080502_000903050000070804_050206040700090301_040700010900020605,
  0x000706090500000200_040300000807000005_050009020403070000_000503070204000006_020400010600050009_060801000005040000_010000040309020807_030904080000060501_070208000106090403,
  0x090408060503000701_060305070102040908_070201090804030605_020507040901080306_040109030608050207_030806020705010409_050002000407090803_080903050206070104_010704080309060502,
  0x070500030804010602_030804060102000709_060102070509080300_020301090600070408_040708020301060900_090605040708030200_010403050206090807_050206080907000103_080907010403020506,
  0x080004030002000700_050701090408000302_020006000105000900_000207000900030804_000803020000090500_010500080004070206_070605000800020403_090008040203000607_000402060007080109,
  0x070108000205060004_090006010700000003_000000000906080001_000900070503040602_060004090801030007_000703020604010809_040002000109070008_010009080307000005_030007050402090106,
  0x040902080603010507_070501040902030608_080603070501020904_030009010706050402_020405030809060701_010706020405090803_060008050207040309_090300060108070205_000207090304080106,
  0x040900080103020506_000506040700080301_080301020605040907_010805060902070403_060209070304010805_070403010508060209_090604000807050102_030708050201090604_050002090406030708,
  0x090703000601080405_040500070009060100_000206050004030007_070804030902010506_050000080407090200_020309060105040008_080100040703020009_060900010508070300_030407000206000801,
  0x030200000801070500_000806050004020003_040705090200080601_060308070105040209_090402080006010705_050107020400030806_020500030900060107_070601040502090308_080900010607050400,
  0x070901030608040500_060003020005070001_040502010709000803_050207060900080004_000106040003050007_080304070000090106_030405090207010608_010008050304020700_020009000006030405,
  0x080703060105020904_090204030807050106_000506040902070803_070601090004030208_050409080203000701_020308010706040509_060905020400010307_040802070301090605_030107050600000402,
  0x080209030406070501_070501090208060400_060400010507080209_000106070902040300_020907080304050106_040300060105020900_030802040601090705_010604050709030802_090705020803010604,
  0x040208000509010607_090305070106000400_000000020804000903_030009050007040001_070506010402090000_020004080903060700_080403000700020106_000602040008070500_000000060200030804,
  0x020107090804050306_040908060305000701_050603010702040809_030501020907080604_080406050103070902_070209040608030105_060805030201090407_090704080506010203_010302070409060508,
  0x000503060201090008_020000090804030500_000009030705060102_000004000308010706_030805010007040009_000700040902050003_010307000006080905_000602000000070300_050900070103000600,
  0x020705000906040108_040108000702000903_060903080104020705_050401070203080600_080600010405030207_030207090608050400_090302060801070504_070004000309010800_010800040507090302,
  0x080001030900070405_000700000806020903_090200050400060800_020000090005010000_000104080200000000_070509040600030208_030806000500040107_000407060300090502_050902070100000000,
  0x040907000806000105_000608010305070409_010000000700080206_000405000902000301_000209030601050704_030006070004090802_000302050107040908_000700090400020603_090800060000000000,
  0x000605070400020803_000002010005000700_070409000002050106_050704090803000200_000100050000000008_090800020000000507_060000000908000302_040908000201000000_000201060500080409,
  0x010704060209030508_080305070104060902_020609030805070401_040100020903080705_090203080507010604_050807010406020309_030908050001040206_070501040602090803_060402090308050107,
  0x020006070508040301_010403020609000500_070805010304000602_030200060007010000_060709050801020403_050108030402000006_040600090705030108_080300040206050709_090507080103000204,
  0x000105040603070802_030604070208050901_080207050109040306_050802010904060703_070306020805010409_040901000307020508_060409030702080105_020003080501090604_010508090406030200,
  0x000509080403020701_040800070100090506_010702050009030804_050206090800000007_000904000001000200_070001000500040908_000100000908070403_030407010000080609_090008040307050102,
  0x010605030409000800_000409020000060501_020708000000040903_060500000000080300_040901000003000206_070003060502090104_000100080304020705_080304000207010609_000207000100030408,
  0x070406050208090103_020508010309060407_030109040706080502_060705020801040309_080201030904050706_090004070605010208_010803090407020605_040907060502030801_050602080103070904,
  0x010705030004090000_030004080906000105_000906010000020000_000503000008000701_090008070601000000_000001020503040000_000009000807010500_000807050102030000_050100000000000607,
  0x010406000507090308_090803040106050702_050207080903010004_030904010602000805_070508090304060201_060102050708030009_080709030401020506_020605070809040103_000301060205080907,
  0x000105000207040003_080200000603000005_040003090005080007_030806050000070902_050000070900000000_000002030006050400_010304020509060000_000008000004000509_020009060008000304,
  0x040009020107060308_080603050009000001_010207060803050904_090402000700080503_030000040900010600_000006080305040209_050000090201070806_020000000608030000_060008030500000100,
  0x060501080309070204_030908040207050001_020704010605090308_090106030708040502_050402060901080703_070803020504010906_080609070403020105_010200090806030407_040307050102060809,
  0x000009000002000104_010300070809050602_060500030104000800_020603010400080900_090000060000000407_040007000900060203_000001000708090506_000400090000020301_050900020001000000,
  0x010307060508090402_050608040900010300_090400030007050608_040205070009060801_030709080001040200_060801020400030009_020000090004000103_080103050206070000_070904010803020506,
  0x020301090807040500_000600030200080709_080000000400000003_010209080006050304_070006040003000902_000003020009070608_060004050002090801_090008070004030005_030502000008060407,
  0x010005000003000406_090308070600000001_060000000102080309_000103000800020600_000004020700000005_070602030501000908_020001090305060004_040800010200000500_030000000008010702,
  0x030502070908010600_070908060401020305_060401030502080709_020705080609040103_080609010304050207_010304020705000806_040203050807060001_090106040203070508_050807090106030402,
  0x090301020708040500_060405090103080702_020807060504030109_030702080605010904_080506040901070203_040109030207050608_050904010302060807_070608050409020301_010203070806090405,
  0x090302000105000708_080400030900060500_010005040807030209_030208050009070004_040000020300050006_000009070000000803_070106080000000305_000903000000080402_000804090000000000,
  0x010703000908000206_000805040206000107_020600030107050908_050208000401070309_000106070309080502_030907080502060401_000301090700020804_070009000000010600_080402010003090705,
  0x000908060401020307_020703080905010604_010406030700050800_090605010304070208_070802050600000003_000301020000090506_030004070508060900_060109040203080700_080507090106000402,
  0x000100040508000907_040005020709030000_020900030601040005_060408000902070300_070300060800000209_000209070103000408_000703010406080502_010604080205090703_000502000307010004,
  0x020709000003010400_000106070209000000_080000010000070209_090200080307040605_000005000001080307_030007000605020001_000904000700060508_070302000008000004_050000000100000000,
  0x040209060107080503_060701080503040902_080305040002060107_090600010708050304_010807050004000006_050400090200010708_000008030400020001_030904000601000805_000100070805030409,
  0x040000030805020706_020007010904050803_050308060702040901_030804070506000209_060000090201030008_010002080403060507_090206040100070005_080401050307090600_070503020609080104,
  0x000000000307080400_000604000201030700_030907000000020105_000008070000060300_000000000603050000_000403010500090207_070205030409010000_000300000100070500_010800020005000903,
  0x050800040703090206_020906050801070003_040700020006080501_080605000104030900_090002080600000704_070104090302000805_010007030400000600_030409060008050107_060008010507040309,
  0x080302000009000700_000009000501020000_050701000002000600_090500000107030400_020403050900070800_010807000200000500_000200090300050100_060005020708000900_000004010605000200,
  0x060702000309050408_040500060700030100_000309000508070000_000005090607010803_000003020005000900_090600080103040205_000200000006000501_000906000801020704_000000000200000000,
  0x020000050308060109_000100020700050308_000008060009000704_090603000001080507_040000080500000003_000507090000040001_070802030000010000_010406000802030905_000905010000070802,
  0x000000000500020901_000001040000050306_050000000201000407_060000080009000504_000504020603010800_000009050700000000_000005000002090708_000100070008040605_090708000400030100,
  0x020408060305090701_060503010709040802_010907020804050306_090800040203070605_050706090108030204_040302050607080109_080209030406010507_030604070501020900_000105080902060403,
  0x090503080601020400_060100020407030905_040700000905080601_020905010306000004_030601000804000000_080407050200010300_000804090002060503_050306040108090702_070209060503040108,
  0x000701050900080203_060005030208040701_000203010700060905_010007090805030402_030002070601050809_050809020400010600_070506080309000004_020104060507090308_090308040102070506,
  0x040601020705030809_070205090308040106_030908060401070502_020504080907060301_090807010603020405_060103000204090708_010309040506080207_080702030109050604_050406070802010903,
  0x080504000901020607_020706080504030109_030901020706080405_010207060805040903_060800040309010702_040309010207060508_050403000102070806_070608050403090201_090102070608050304,
  0x030608010702040905_020701090504030806_040509080603020107_050800030106070209_070902040805060301_060103020907050408_010206070409080503_090407050308010602_080300060201090704,
  0x000000050003000700_040700090802030605_030600010704020809_000008060401000207_010400070209050308_090207080305010406_080502030100070904_060103040907080502_070004020008060103,
  0x000401090006000008_000508010402070000_000000080003000000_000600000308020105_000205040000030807_000007000201000904_000806000105000002_050000020904080000_040902060800000503,
  0x040003020608090105_060000000100070003_000900000000020608_000002000800040007_050007000002010800_080109040507000302_000801050900030000_000004030006080001_000006080200050900,
  0x090702050104060308_010504080306020907_030806070902040005_050201040803090706_080403060709010502_070009020501030804_060307090205080401_020905010408070603_040108030607050209,
  0x050602010800070400_000000040007000600_000403000005000108_020001090408030700_080904070600020000_030706000100080900_060005020901000807_010200080704000305_040807030006010009,
  0x000702060008030401_030400070502000608_090600040001050702_010507000000000304_000304000107020006_020906030804000507_070009080603000100_040100020709060000_000003010000070200,
  0x040700010906000005_000503070402060900_000106050003020007_030405090207000608_060801040000070200_000907000600000300_070609030100040002_050200060709080103_010300020504000706,
  0x090807060302040105_040501070908030602_030206010405090708_080109030207050406_020703040506080901_050604090801020307_060305080104070009_010408020709060503_000902050603010804,
  0x090001020008070406_020000000006010005_040600090105030208_060300050907020801_080002060000090507_050700080001000000_070005010809060302_000908030602050004_000206070004080009,
  0x020600050107080903_030000020600070105_050100030008040600_040000070000000000_080009040506000307_070300080209060500_010803090000050700_060705010003000409_090402060700000001,
  0x070408030200060500_020903060105080407_010500080704030902_050302010406070809_040601070908020305_090000020500010604_030700050602040108_080104090307050206_060205040801000703,
  0x000700010800000900_020009050700000003_030000090602000500_000002040907050008_070900000500010006_080003020106090000_050408060001020709_000207080405030601_010000070209040800,
  0x070209000300010004_010504020907080603_000603050001070209_030106070004090802_000802010603000705_040700080009030106_000401090705020308_050907000802060401_020308000106050900,
  0x030806020701040905_020107040905030608_040509030608020701_090308060102070504_070405090803060102_060201070504090803_080602010407050309_010704050309080206_050900080206010407,
  0x000001000007000605_000005040109070200_070200060000090001_060000000004020007_020507000006040809_040809050000060000_080004000205000906_050002090600080004_000006070408050300,
  0x000000040805010200_050408000200070306_090002070306040005_020601000700090008_000007000000060002_000904060102050003_040209000601000000_010306080007020000_000800020904030600,
  0x000004000800000500_050300020001000907_090708030605000002_020800060007010000_000005040103090008_000001080902050706_000900050008030000_060103000004000005_000007010306020409,
  0x030401000200090005_060800090700040100_050907040103080200_070508030901060402_020604050807030900_000309060400050007_090000020304070608_000700010509000304_040003000608010509,
  0x080107050000030902_060405030209070800_090203070108050600_030904020807010506_070802010600040300_050601040903020708_010500060304090207_040306090702080105_020709080001060403,
  0x060700080309020501_080003010205040706_010502000407030908_000800000701090603_030009020508070104_040107030900050800_090406050803010207_070201090604080305_000008070102060400,
  0x050200000801060704_070604030205080100_010800040607000500_090700060000000300_040506020003000908_030102000000000400_000400050306090201_060005000902000007_020000070400000005,
  0x080901050603020704_060305020407010908_040702010809000306_070504080902060103_090208060301040507_030106040705080209_050607090204030801_010803070506000402_020409030008070605,
  0x060208090304070105_050701060200000009_090300050701020800_020006030809040007_030800000400010600_070005000106080903_010502080603090704_040007010002060308_080603040007050201,
  0x020001040307080605_040307050608010902_050608020901070304_090104030705000806_030705060802000109_000802090004050703_080009010403060507_010403000500090208_000506080209030401,
  0x030805040901060700_040109020706080503_020607000508000904_010902060307050400_080504010209070306_060703080405090201_090206070803040105_070308050104020609_050401090602030800,
  0x000709080204050603_000506070109080402_020804050306000901_050601090702040308_070902040803060105_080003060501090207_040305010607020809_090208030405010706_060107020908030504,
  0x080605040201070009_030709060508040102_010402070903060805_070508020106000403_040903050807020001_060201090304050708_020300080709000506_050106030402080900_090807010605030204,
  0x000000050000000006_080502060104070300_010000090007020005_040000000005060200_070800010006090400_020100030000050700_060403070908000502_000000020501000004_050000040600000907,
  0x040506090801070203_070203000004010809_000009000207040006_060108020009000405_030405080100090702_090702050003060108_050601070908020304_080907040302050601_020304000005080900,
  0x090803050602040107_060502010704030809_070104080903020506_030901060208050704_040705090301080602_000608070405010903_050406030107090208_010300020809060405_080209040506070300,
  0x080601070509040203_020004010006000509_050907040203000006_000100080907050304_030405020601080900_090708050304020601_070806090405030002_010003000708090000_040009030102060708,
  0x070906080003010005_030400050000000906_010200060907030408_000002090308000100_080009040005060702_050004020700080309_020601070009040503_090807030004000601_000503010602090807,
  0x080106040709020305_030205080601090407_040907000502010806_050309060208040701_000802070104030509_070401050903080602_090504020306070008_010708090005060203_020603010807050904,
  0x080301060904020500_050702010803060004_000006020507010803_070605080002090401_040109050006000002_030208090400050706_020500000008070609_060907030200040008_010804000600030205,
  0x050000030104000002_030401080900050706_080209050000030100_060105040000000007_020708060501000309_000903020807060501_000002010603000400_000804070005000603_010300000408000000,
  0x020705030100000600_060908020507000304_000001060809050207_000103070608020405_040002090000060708_070800040205000901_050607000402090803_000300050706000102_010204080903070506,
  0x020503080907040601_040601020000000009_080709040106020500_050908000401060000_060002050009070104_070104060203050908_090407010002030805_030805090700010206_010206030508090407,
  0x050703040602010908_090801070503020604_060402080901000507_040205010806090703_080106030709050402_070309020405060801_010604090308070205_020507060104080309_030908050207040106,
  0x020503010906040807_080704000000090100_010609000400000205_090205040001070008_030007090002060400_040000000708000902_070001000803020609_060900070104080503_050308000009010004,
  0x080007010409030500_090401000003000000_030605000008000004_040008090106020305_060109030000000807_020500080704060900_010004000005070200_070302040001050609_050906020007010400,
  0x000403020500090000_010008070304060502_020605010809000307_060501090708000204_040300060105080000_090000040200000106_050100000007020600_000704030602000005_030206050001000408,
  0x000009040200000000_070000010000040000_000403000008000006_090004020305000108_000001000004020503_030005070801060409_000002030500000600_050307000106000200_000006090400030705,
  0x020604070900000003_080709050301020604_010503060000080700_040800010509030206_030206080704090000_090005020003000807_000008090000050302_000302000806070900_070900000205060408,
  0x000907040200060301_030106090708020504_050400010603070809_000608070009000400_090000000004080106_040203060801050907_070504000102090608_060809050407010203_020300080906040705,
  0x000802030604050709_070905010208060304_030406070509020108_000309050800040201_050708020401090603_020104060903080507_080501040302070906_040203090706010805_090607080105030402,
  0x060400000102050903_010802050903040607_090500040600080102_020104090308060705_030908060705010204_070600010204000308_000206030801070509_080300070509020406_050709020406030800,
  0x080007010905060203_060302070804090100_090501020603080004_030706080401050900_000009060307000801_040108090502030607_070803040100020006_020605030708000409_010904050006070308,
  0x000006050301020709_020709040006000000_050300000700040806_000602000104070905_030104070900000600_070905080002030000_000500000007000008_010408090500060007_060007000408090500,
  0x080401050603070209_070902080401050306_050603070902080104_020506010700030408_030804020506010007_010709030804020605_090205040107060803_040100060308090502_060308090205040701,
  0x040306000100080702_070208030406090105_010509020708060403_050800060207040309_020607000304010508_030904080501000206_060402010003050807_080705040602030901_090103070805020604,
  0x030005090000000002_070000030001090006_000406070200000105_000200040005000607_040509000006010203_000607010002040500_020701000403000908_000900000107050004_050300060009000701,
  0x090000070001080500_010706000508090204_000005040209010607_000000000002060009_020800090006000701_060004000700000308_070009050103040002_000200000907030105_000501020800070906,
  0x050002000000000000_070906080500030001_000401090706050002_020000000008000700_000000070604000000_000704000209010008_090200010800000003_000000020907000100_080105060403090207,
  0x000000000900040700_070401000006090502_050902070400080306_000005040007020800_040000000000010000_080203000105060407_000304020508070109_010000060000000008_020508010000000604,
  0x060900020705010403_050702010403080906_030001080900000705_000509070301040608_000000040008090502_080604090502070001_090206050107030800_040803000209000107_070100030800060009,
  0x000100020408030900_000009000105000004_000402090003050601_060804070300090105_090501040800020700_020300010500060408_040200050907010806_010608030204070009_000900080601040302,
  0x010205030009080407_080704010205030906_030609080704010502_040307050802090601_090106040307050200_000802090106040703_060501070903020804_020408060501070309_070903020408060105,
  0x040009000503000006_070600000804010300_030501020607090000_010008050302060907_090006000401050203_020000060709080104_050104030206000809_080907040105030602_060203070908040501,
  0x040000000000000800_010200070000060900_070500040000020001_050300060708000402_060800020000000105_000904050100080700_090706030000000500_030402000000070609_080000000607040003,
  0x020900060408030507_050307090201060408_040608030507090001_070406050103020809_080209040706050100_010503020809040706_090105080602070304_060802070304010905_030704010905080600,
  0x070300010400090006_050906000702000000_000000090500030700_060400000000070803_020509000800040600_080000040600050209_030200080107060904_000807060900020305_090004000305080100,
  0x050907010806040200_060108040302090507_020403090705010608_030209050107060804_080604020903050701_070501060408020309_010706000204030905_090305070601080402_040802030509070106,
  0x070804020600010903_030109070804060502_020605030109080407_090308040706020105_040706050201030809_050201090308070604_010503080907040206_080907060402050301_060402010503090708,
  0x000704090800050000_050200070403000908_000908020600030004_060300010700080000_000000000908000300_080509030006000000_000400080107000600_090000000300070801_000001060009020403,
  0x070009000506080102_020100090407030006_000503080002000400_030700010608040209_000601000209000703_090204050003010008_000907060301020004_000300020004070905_040802070905060001,
  0x000000090207060104_000604030008000207_000907060100030000_060400080300000900_090705040602000000_030001070000040602_070500000400000800_040209010806000700_080106000700020400,
  0x020005090704060300_090007060103020805_060301020508090407_010904050306070208_070208010400050603_050603000802010904_000506040007030009_040702000901080006_030109080605040702,
  0x000001090504060803_000800000007050409_050009030008000000_010200000900030600_000500000306000208_000600000102000007_080100020709000305_040305060000070000_070900050400080106,
  0x010608040000090507_070509060108020403_030402050709080601_080304070205060109_090106030804050702_020705010906040308_040207090501030806_050901080600070204_060803020407010905,
  0x050103060807090000_000006000002030501_000209000001000007_000007000600010905_060002000900000008_000001070300020604_010008040006050209_000004000209000100_000005000100040006,
  0x060901020407000003_030000060109070002_000004030008090106_080003000004000207_090006070200000308_070502080301000609_040200050700060000_000600040002000705_050307000006020004,
  0x000809050002070000_020000060007000009_070600080901020003_050001030206080407_000302040708050901_080407000005000302_000708010503040006_030105020604000708_000206070800030005,
  0x060902040301080507_070508020609040103_030104080705020906_040705090806010302_020301050407090608_080609010203050704_050800030902070401_010407060508030209_090203070104060805,
  0x010308070604020905_070604000500010803_020509010300070406_050901030807060204_060402000901030708_030807060402050109_080706040005090301_090003080706040502_040205090103080607,
  0x080504030109070206_020706080405090001_030901020007050804_070103050206040908_000602090804010703_090408000301060502_040005010908030607_010809060703020405_060307040002080009,
  0x070509060003040201_000308020001090705_020100070005080603_040603090002050807_090201080507030406_080705000306010902_030807010604020509_000406050209070008_000000030708060000,
  0x090100000000000502_030000010809040006_000607000000090801_000000040605000203_000406030208070100_080000090107050600_060000000400010000_020500080301000907_010803070906020405,
  0x080009070000010304_030004090805060207_020607040301000000_010703080504000002_050008020600070100_060902030107040508_040305000908020701_070001050403080906_090806010702030405,
  0x030502040008010700_000106030502090408_040908070106050302_000401020705030809_080309060401070205_020705080309040601_050607090003080104_090003010804060507_010004050607020900,
  0x030000020007090001_000000040000080006_040000000806050000_070005010309000608_060200070405030100_010000060208040000_090003000000010500_050104000603000802_000702050104060903,
  0x020400010708050900_090600040203080700_070108060905030200_080900020500010300_030701090800040502_050004000301000009_010809050600070403_040307080009020605_060502030400090100,
  0x000304000500000700_050008020006030104_070000030104090508_080700010603000009_040509070802010003_060100000400000802_030400000900060000_000807000000040000_020601040305080007]
theorem veryEasy_1_ok : veryEasy_1.all fastOK = true := chunkOK_sound _ (by decide +kernel)

/-- `very-easy` (1000_very_easy_puzzles.npy), boards 500..749 -/
def veryEasy_2 : List Nat := [
  0x010500080402000003_000802000603050007_060903000100080402_000004070906020000_050201000004000000_090006000501000804_070009040005060308_020005060308010709_000008010709040000,
  0x030700020004090108_000406090108030507_090001030500020604_070602040000080005_040109080005070206_080503070206040901_060904010803000702_000008050000060000_050200060009010803,
  0x060802090503040107_090305070401000800_070104060208050309_040703020106080005_020601000809030704_050908040307010602_010207080605090003_030400010702060508_080506030904070201,
  0x000009050301000704_010005060704090208_040706090200050301_070601040902080003_030500010007040902_000904080503010007_060003070000000800_050802030106000409_090000000805000106,
  0x030605000409020807_010904080207000006_000702030506040109_070401060802030005_000503070104080602_060008000305010700_040309020701060508_020100050608090403_050806040903070201,
  0x090000000700030000_000000030401000908_040000020908060705_020401080000050307_000900000000000200_000705010204080009_080004000006070103_000307040802090506_050009000003040000,
  0x070800030605020900_020409070108030605_030506020904070108_010705060403090802_090208010507060003_060304090802010007_080907050301040206_040602080709050301_000103040206080709,
  0x040600000102080500_070201050003090406_000308000906010702_030900060000070200_060100000008050300_020807030000000601_000000000005030900_090000010007020005_080002000304060100,
  0x070001090000040508_000902050008070001_040508030001060902_030800010907050200_000107020506030804_050206080300000107_000709000800010403_080605040100020700_010400070209000005,
  0x000309000604080507_060100070508090203_050708030009040600_080203000000070405_040007020803000906_090001050407030802_000002000306050104_010005080702060309_030906000005020700,
  0x010408030206000705_060000050000010004_090507000000060203_050206070000000108_000009000100050000_030801020005000900_080004000000070006_020100060507000409_000605090400000300,
  0x050907010300000800_060300000204050709_040008070905060103_000100000800090607_020805000009030401_090706000103020008_010402000500000306_070000020400080005_000509000007010204,
  0x000203060001090408_010006090804030500_040800030205060007_000002070006080901_090100020003070605_060507080109020300_020904050307010806_070300010608040209_080600000902000703,
  0x090605020801030704_030400050609010208_010802070403090506_070308040905020601_050904060102070803_020106080307050409_040503090206080107_080701030504060902_000209010008040305,
  0x020900070506000003_080103040902050007_060007030108090204_010306080409070502_050002060000040908_090408020705030100_000209050600080401_030600010804020709_000001090207060305,
  0x050309040602010807_040206010007050903_010708000903040602_060403080201090705_080102090705060304_090507060304080201_020804070109030506_030605020408070109_070901030506020408,
  0x090001000200000605_070200060000000003_000004090300080702_030100020006000504_050400030107060008_020800050409070301_000002080605000400_080000040000000000_040003010702000800,
  0x000907030008040500_050004090706000800_080301000400070609_000108040003060200_000700010800050304_030000070602000000_010500000004090008_000600080907030005_000009000301020400,
  0x060403000102000005_050009060003020108_080002050709030406_000000040206000001_000908070300060004_040206010008050307_000804090501070600_030007000004010509_090500030607040800,
  0x000007050608000200_020104030709000008_000000020000070300_080405010200000900_000700090306050804_090603080004020107_070301000905080400_000509040802010700_000000070003000600,
  0x030901050800070006_080205070604010900_060407010309050208_050009020706040300_010304090000020607_070602000103090800_020708060400030509_090503080200060104_040106030005000702,
  0x010302000706050408_080504010200060709_090607080405030201_040906020000010307_070003040009080500_000800070301090604_060701050900020803_050409030802070106_000008060100040905,
  0x000000000302000706_070000090500020008_030800060704000509_060203040907000801_000400010800030602_000000020000070904_020500030006090000_000709000200060003_040306070109000200,
  0x070103020800060004_040006000300080000_050000090604030100_030709050008020400_000002000900010500_080501040200090703_090004080701050002_010800060000000000_000000030400000801,
  0x060104020803070905_080302050709060004_070900040601080302_040603090208050001_020800010507040603_050701030406020809_030408070902000506_000506080300090207_000207060105030408,
  0x030208000000040100_090001020308060700_000607000000020803_020800070000000304_060700010403000502_040100080005000906_000904030100050600_080506090704030001_010302050806090400,
  0x020703090105000600_000800030207050109_010509040608070003_030607050902010408_040008070306020905_090005080401060307_050302010809000700_080901060704030502_070006020003090001,
  0x050601090200030708_040000070803050601_030708060005000002_000005020400000003_090003010500060204_060204080000070005_010406030900080500_000000040601020300_000009050000010406,
  0x020008070305040006_090406080102030500_050307060409010200_010800090003060402_030009000600000105_040602050801070009_060201000508090704_070904010206050800_080503040907020601,
  0x050004070600030802_020803050009000007_070000020308040905_000208060905000703_060509030107080204_030700040802090006_010000080703020400_080307090200050601_090002000506070308,
  0x040209080003060701_050803070100090204_010706020409030805_080605090701040002_000900030204050608_020304060805010907_090407050302080106_060108040907000503_030502010608000009,
  0x080107060205040309_090003080701000200_060502090304010008_010308050607020000_040009000803070605_050706040902030801_030901070500060402_070800000406090103_020604030100080507,
  0x000000080601000000_030907040502080106_010000090000040005_090702050104060003_080603070009050400_040000060300000002_060309000407000508_000108000006020704_070204000800000000,
  0x070305010908040602_080901040602050307_020604050300010908_060502070103080409_090408000506070103_030107080409020506_050706030801090204_040209000705030801_010803090204060705,
  0x020800040301070509_030001050907060802_090500080006010400_040709060502030108_050602000803090704_080100000409020605_010004020705080306_060308000104050207_070205030600040901,
  0x050608090000000300_010907030204080600_040302060805070901_000000000106040209_060700020409050803_090200000003000706_080006040907000502_070409000002060008_020503010008090407,
  0x010009050002070003_030700040109050200_080502070006040000_060000000004010002_090304010205080006_020005080600030400_040603000501020807_000000060403090105_050901020708060300,
  0x030600040508020907_080004020709010306_090702010603040805_000000050002070109_010907000004050200_020805070901060403_070208090106030004_060109030405080702_050403080207090601,
  0x000409080201000603_060007050409010802_080201060307090504_030008040906050001_020005030708000409_040006000005080307_000800090603040105_090603010504020708_010504070802030906,
  0x040903000100000002_000706000008030409_000208090403060000_090005060704000008_070604000201050900_000801030005040706_000400010807020305_000502040009000001_080107000302090600,
  0x060702090800010004_000104070602090800_080003000004070602_040001050207060309_030600000401050207_020507000300000401_010000040005020900_070400020000030108_090006030100040005,
  0x090407020506010308_050206010803040700_080103040007020605_000802090701050406_070001050000080203_000504080302090107_040609000205070800_020300070108060904_010708060409030502,
  0x020809050706030401_030104080902060705_060507010003020908_070208060004090103_040605030109070800_090301000807040506_050702040600080300_010400090308050207_080903070205010604,
  0x000305070001040608_040006000305070009_000900040806000500_000107030600090000_090502080107030006_030604090502000701_010209060700050300_050400010209060007_000700050403010000,
  0x060000000400050802_040000020508060100_050800090600040307_000700060102030904_010206040009080005_000004000000000200_000408000000090000_090003080704020001_020501030900000408,
  0x060307000805040900_050208000400070306_010900000706080205_090801040600050000_020705080009000403_000406070002010000_080509010300020007_040103060007090500_070602050900030104,
  0x080301000705060900_020007040009010308_000900080100070502_000104050807020609_000708090006040003_090602030401080705_010409000308050206_060205000904030807_000803000502090400,
  0x040500020309010806_000106070405090302_000902060801050407_070000090200030601_000301050708000009_020009000003000005_000608040000020100_090004030102060508_010203000500070000,
  0x000601090205040003_040700060108050900_050000070300000601_090108020507060304_060304000809070200_070205000000090108_010406000900000500_000007000601000809_020000000703010406,
  0x020900000006000305_050000070209060400_010604000000000000_030000080000000904_070008090400010603_000209000301050807_000300050900000206_090705020604030000_000402010003070000,
  0x020709080300040006_030001050006020700_040506070009030800_000307000608090000_090205030107060408_060408020905010007_070102000003050904_000900010002080603_000600090504000102,
  0x060005030900000100_070201050604080300_000803010000040500_000000000506090203_000900040007060800_050600020009000400_080500070003000600_000100090005030702_000307060000050000,
  0x070600020008090001_020000000001070005_000400000600020308_050203080900010706_000706050200080900_000004010006000203_040107060502030809_060002030809040100_030809000107000000,
  0x000600000500040803_030804090100050002_000705030008010009_040300000709080205_000007050000000304_050208040603070901_000009070200030508_070100080305000406_080500060904020107,
  0x060700080003000500_050109040706020308_000208090105070604_000507020604030001_080301070509000002_040602000308050007_010800060900040200_020403050001000706_070006030402000005,
  0x000006000205000400_070400000601080000_000000070304000106_030701060509020804_000800030100060905_000900000408030001_000200000003000608_050600000700010300_010300050806040207,
  0x090307050108040200_020400030900050108_010508040206030007_060104020703090805_070203090805010004_080905010600020703_050709080401000000_000801060302070509_030602070509080401,
  0x030000050000080204_000008000007050001_000105000204060007_000204070503010000_000901000002000500_000307000809040600_010503090000020706_040009020700000105_070602030100090408,
  0x090502000103070008_000004000005030600_000306040807050200_020103070608000504_060807000409000302_000905030000000706_030608090004000005_050201080300040907_070409010502060000,
  0x070001080406020903_090302000700080006_040608020903010705_080705060204000100_020000000109050807_010903050000060004_000204090001070008_000807040302090501_000109070608040302,
  0x080503000007020904_060107020004080003_000900080003060100_050700010402090308_090308050706000402_010000090008050006_040009000605070200_000001040000030005_030605000201000800,
  0x010405020008070009_030802000009050104_060907000100020300_000703060905010002_040201030807060905_090006010002030807_000100040203080706_000304080006090000_000600090500040003,
  0x000000000306020507_000007000804000300_030600000000040801_040705080000090203_020003050407010600_060108000209070405_000300000005080900_000806020703000000_010504000908030002,
  0x010605080704090003_090302060105000408_070804030000010500_030407020609080105_080501040007060902_060200000801000704_040008070203000609_050900010008020300_020000090506040801,
  0x050601090203070804_080407000001030200_020900040007010506_000204080000090300_000806050300040702_030509020000060108_000005030402080607_000700010000000003_000302070008050001,
  0x000402000607010308_080103020500070000_000009000801000205_020507010906080403_090600040300050700_030004070200000009_040000060702090801_000908050003020607_000006080109030004,
  0x060908010705040203_040203080609070501_070501030402060908_020107040903050806_050806070201090304_090304060508020107_000409050106030702_010605020307080409_030702090804010605,
  0x010306070208090500_070802090400000306_090504010603070802_040103060807020905_060708000509040103_020905040301060000_080209050104030607_030607080902050400_050401030706080209,
  0x030504020709060108_070209010806040503_080106050304090007_020908060103070405_010603040500080002_050407090200000600_000305070002010809_040702000901050306_090801030600020700,
  0x040309050106020800_060100080200000904_070208090000010500_080002000609070105_050701020400060309_090603010705040200_010807040902050603_020904060503080700_030506000801090402,
  0x000700080000000601_020004060500000000_050601000009020804_000300000000090006_010200050000040307_090000030407010208_000102090705000400_070000000003060102_080403010602070005,
  0x040100090000020806_000009000200000405_080206050104000300_000302000800040507_060800070400030002_050407000309000000_010004000000000008_020008040601050700_070503080002060004,
  0x060001000200000305_070503010406080900_000009030007060000_000000020800000000_000705000600000200_030000050000090006_020906000305000701_000007000902050003_050308070104000600,
  0x040207060901080503_000800040007090106_060900030805020004_000503090704000008_090704080006050300_080100020503070400_070302010409060800_000009050608030207_050608070302040001,
  0x090403000008050102_020501030904080706_000807010205040309_030205040009060800_000904080106000500_010600050000090407_040302090807010005_080009060501030200_000106020403070900,
  0x080602010509040007_050901030704060208_070403020806090105_020804060105070903_010506090307080400_030709040208050601_000305070402010806_040207080601030509_060108050903000704,
  0x080204090001030600_000509060307000008_070306040200050901_060103020704080509_040702050809010306_090805030100070200_050408010903060002_030901000602040805_020607080405090103,
  0x040703060201000000_000001000800030407_090805040000010002_010908050407020000_030602010900070004_050400030600080109_000006020109040800_000009000504000703_080504000306090201,
  0x010705030602090408_090004050107060302_060203000908000507_040907020501030806_030600070409050200_050102080306040709_080309010704000605_020506090003000104_070401060205080903,
  0x090105000803070406_040007050901020800_080300070006050901_020806010704030500_070401030500060208_000903060200010704_010709080300040602_060204090107080005_030508040600090107,
  0x000903080001000207_060108000402050003_040000030009060108_090306000108020705_020005060903010804_000004050007090306_080402000700000601_030601020800070509_000509010306080002,
  0x030904050802010607_020800060701030400_000706040903020008_080602010000090305_070401000500080206_090503020608070004_050200080006040703_040300000205000800_060008070004050902,
  0x010806090704030502_040709050300080601_020305000801070904_030602010908050407_070504020603090108_080901040507060203_090408070205010306_060103080409020705_050007000106040809,
  0x070400000000010906_000203000601080407_060901000708030005_030704000100090608_000009000300020501_010502000809000700_000105080006070302_000806030007000009_020007010905060800,
  0x050102000603070000_000407010200000900_030006000700020105_060500030407010000_000001000906000307_070300080102090006_090205060000080701_010000000009030004_040603070801050209,
  0x000701000000090000_030900000102050406_060504090800070100_040607030500000001_010009060700030500_080005020901060700_070002080605010000_000806000000000207_000000000007000605,
  0x070105040608030902_040608020309010507_020309070105060804_080401090006070305_050003080401000609_090206050703040108_060904030502080701_030502010007090406_000807060904050203,
  0x040203010806090700_080006050907040302_000507020403080601_070405080302000109_000802090601070504_060901040005030208_050304060208010907_010709030504020806_020608070109050403,
  0x050407060200080301_060902080103050407_080301050704060002_000206000801090705_090705030602040108_040108090507030206_070804020905010003_010603070408020509_020509010306070800,
  0x050003060200000407_000602040709050103_090407000300080602_000006050003000801_000801000607030504_030504080000070906_000205070806040300_040300020501060708_000008030904010205,
  0x070305080900040102_080600020401000300_020100070003090608_030002060700080001_060007010809020403_010000030204070506_040001050302000700_090700000100030205_050203090007010004,
  0x080304000205060709_000906000003010200_020501060709040803_010800050602090407_060205000007030108_040700030108050602_090002070304080000_030407000501000906_050108020906070300,
  0x020904000507000600_080600090204000305_050307060801000902_090000070300050000_060000000008020000_030000000600080009_070209050000000800_010503080406090000_000806020009000500,
  0x000801050900000204_000003010007050000_000005000402010708_000000000104000800_080500060009020401_040102000500060903_000200040000080006_050608090000000107_000700000605090302,
  0x030108070600020904_090204010803000506_050700020409010308_010809060300040200_070603040502080109_000405000001060000_080900030106000400_040507090208000601_060001000704090002,
  0x010908030507000206_040206000009030705_030705040602010908_080402050901060307_050100060703080402_060300080204050109_070500020306090804_090804070105020603_020603090408000500,
  0x040608010309020507_070002060804030100_090003000000000004_030705000602010900_080000070503060402_020406000108050000_060009030001000205_050204080906070301_010007000000090000,
  0x010700000608000902_000806020903070401_020309010407080605_000600080509040200_030402070106090508_000000030204060107_090200040301050700_040103060005000809_060007090800000304,
  0x040605030008070009_010300020907050604_090007060400080301_080006090000020405_000002010806000907_070900040002000008_000509080600000703_030701000000040006_000000070301090502,
  0x030801060407050902_090205030801000004_060400000200010308_050904010302080006_010302000008040509_070608050904020103_040506020100030800_080703040006090201_020109080703060005,
  0x020604080009070305_090108070305040602_000300040602080009_010802090703000006_060405020800090703_000009050406020001_040500060208000007_080206000007030004_000901000504060200,
  0x020506040700010803_000103000000000904_090004030100000206_000900000003000601_060200050904000307_030807000000090400_000000080601040502_050402000307060108_000008020405000709,
  0x000802070401060503_000401050306000008_000306090802000704_020708010500000009_060000020708040105_010504060903000007_030009080107050406_040005030200070801_080107040605090302,
  0x020008050700090306_030906040002050100_000000090600040208_050703060009080001_040801000305060900_090602000004000003_000105030900000604_000009020406010805_060204010508030709,
  0x010206090807050304_090807030405060102_030005010206070008_000603020701090800_020700080509000006_000509040603010207_000008060104020709_060104070902080503_070902050308040601,
  0x000705000002060308_060308010507040209_040009060003010705_000402050306090000_090100080004000603_050003000001000402_030804070005020901_070000020109030004_000901030400070506,
  0x000608000003010402_090007000402080506_040201080506070903_060009040001050208_030000000208090007_020000000007040301_070400020100060800_000502060800030704_000906030700020100,
  0x040005080207090300_090006010504000800_070802000609000105_050000000302000900_000703000006000408_060000040005000703_080507020903000004_010604050708000209_000209060000080500,
  0x050700090001080304_030804000007010009_000009040308070506_010900020804060003_080002030706090105_000600050009040802_060008070000020400_000201080603050907_090507010402030608,
  0x020507030904010806_060801000705090400_030009060108000002_000605070400080309_070204090803050600_000008000500040200_000102040000000908_040003000609020105_080906000000030704,
  0x050603020004000000_000000080907030506_090700030506000104_030907060205040801_080100070309060005_000500040800000309_040200000708090600_070801090003050402_060009050002010708,
  0x060802050301090407_030501070009020008_040709080602010300_000005030007000004_000307000208050106_020408060100070903_000103000804060502_050006000700000809_080900020000000701,
  0x080000050007000009_030705060400080100_040906000802000000_050800070003010904_060007090004050000_010400020508060700_000004080700000000_070008000900020400_090003040201070805,
  0x020009080405010306_010603070902050408_050804060300020907_060902040507080103_080301090206070504_070405030108060209_090507010804030602_030206050709040801_040108020603090705,
  0x060900010308040700_000308040700060900_040705060000000008_000001030004070506_070506090001030804_000800070000000201_020100000007050609_080000000600000003_050609020003080400,
  0x000304000007060008_000000010806040203_010800000304070009_090005080400020007_030702090605000804_080401000702000906_060009040208030705_070503060109080400_040208000503090600,
  0x000000000204050007_000000060705080309_070005030008000102_050703000000000204_000006070000010900_080001000406030705_000009080102000406_060407000009020001_000000000007090503,
  0x070201090806050000_040503070100000000_000600000300020001_030906010504000802_000700000609040000_010400080200000006_000800050903000204_020004060000030500_050009000401080607,
  0x030800060509000207_090600070204030100_040700080103090506_070103050908000402_080509020406070301_060204010307080900_020307090800050604_050406000700010809_010908040605000700,
  0x050400070308090106_070308090600050200_090000000402070003_060005000207000908_030809060005040702_040207000809000501_020703080000000000_000900010504020300_010504020003000609,
  0x080401060903000005_000000070502000104_070002000001060309_050107040008000600_000008090006050700_090200050007000003_020700000000030006_010805030004020907_030600000700000500,
  0x040000000207000108_090700080103050604_000301040605070209_020903010508040706_060407020309080501_010805060704090002_050104070000020803_030200050001060907_070609000802000405,
  0x050608070204010903_020407010309080605_030901080506070402_040703050901020806_060802030407050109_000105020608030704_010506000802090307_080204090703000501_070309060105040208,
  0x050007090801000203_000304050700080001_090008020403000500_000506070109000802_080000040600010709_000901080302060405_010800030500000607_000405060907020108_060700010208050304,
  0x080603090507020104_000900040201030806_010402060308050009_050009070402060301_030106080905040207_000704000603090508_040507020106000903_060201030809000405_090308050704010602,
  0x020309060104070805_000000030902060104_040001070805030002_070802090403010506_000105080207000403_030900010506080207_080203000609050001_090400050001020308_010507000308040009,
  0x080401070906020503_090607020305010400_030502010804070609_040709030602080005_060203080501090704_050108000407030206_070306050208040901_000004060703050802_020805040109060307,
  0x000106070900040802_000804000605090703_030700080002060000_080600090001030407_000400060008050901_000905040007020608_040207000806010009_060500030109070204_000301020700080506,
  0x070508020309060104_010604070805090203_000903010406050708_090301060704080502_050802090103040607_060407050208030901_040705080902010306_030106040507020809_080209030601070405,
  0x040200060000090807_000003080709050002_080700040205030601_010304070906080205_070906020508040103_020508010304060709_030402090601070508_090601050807020304_050800030002000900,
  0x070300000001000806_000100080000030207_060900020700000504_020401000500000000_000609000800000100_080703010200060905_000007040300050000_030004060100080709_000006000900020403,
  0x090805040702000301_020704010603080905_030001050800000204_040306000900020507_010908070000030406_050200000304000108_000009020508040000_070403090106050800_080002030407010609,
  0x030809010000000205_000700000004030900_040500000000000107_080200060000000401_070006040105000302_000000030008070000_090307050600020004_020008070000010506_010605080402090003,
  0x080907050003040106_060104070809050302_020305040601070908_040809000702010605_070200010500090804_050601090408030207_030500080104020709_090702060300080401_010408020907060503,
  0x090807030000060401_040006080009050203_020300010604070908_000602000408090300_000704050903020106_030509060001040807_070400090805030602_050908020306010004_060203040007080509,
  0x030805040102060907_020104000009050308_090706050803040201_070603020508090104_010409030607020805_080502090401030706_060308010205070409_050200070904080603_040907080306010502,
  0x060304000001000207_080207000300010905_010900070208000300_090508060002030000_020706010403090508_030401080509020006_070603090004000802_040109020800070003_050802030600040009,
  0x020100060703090500_070603050004020100_090504010208070603_030701090406080005_040906020805000700_080205070301040006_060407080009010302_010002040607050809_050800030102060407,
  0x070006040001000503_000203070608010409_040109050302080706_090501030207000600_060008090105070302_000702000804000901_080904000503060207_010300020700090000_020607080000030005,
  0x030507010800090402_020409070305010608_080001000004070503_040703080001020906_050108020609030704_060902000407080105_070005000102040309_090304050708060201_010206040903050807,
  0x060207090300010000_030409000800000600_080501000600090304_040706030509080201_050900080200060407_020008060400000009_000004050103020708_010305020708040006_070802000906050003,
  0x010500030607000902_030706020004050801_000400010005070603_080205060001030409_060007090403020008_000004080502010706_000003050209080000_000001040306090205_000000070108060300,
  0x000009050000060100_070500000100000000_010806000209040000_000600000801020304_000900040302000500_000402000500010000_040003010605080002_000008070403050601_000000000900030407,
  0x010702000000000900_030600000000010200_000509000007030000_060001000309070400_070200060008050309_000900070400060100_020405080700090603_000000020500080000_080107090000020504,
  0x070000090602050308_000305040701090206_060209050803040107_010406080209000503_000908070305060401_030507000104080902_000701020406030809_090803000507020600_040002030908010005,
  0x000600090700000405_000709040005060102_050304000602070000_030008050006010207_070102080903000006_060405020107090000_040003060501020009_090207030800050601_000506070209080304,
  0x090001000000080603_000800000009050400_000000000600000100_040300000800000701_000207030504090806_060000020700030504_050003010900000207_000402000005010900_000109000007060005,
  0x000500000200090401_070302000104060008_090001060800000302_050009000602000107_030206040700050009_000107050908030206_080904000506010700_010703080409020605_020605010007080904,
  0x000204090301060508_080600070400010309_090003080506020407_010307060005040802_060009020004030701_020408010703000906_040806030207090105_000901040608070203_030702050100080604,
  0x090006020000050000_010207000000090400_050008040006010207_000000090803000000_000104050002080000_000903010604070500_000005060309000701_030609070001000005_000701080205000609,
  0x040205000006010800_030108050200070900_060700080003020000_090002070600030005_080607010305000209_050001020400000000_000904000801050002_020000000907080600_000806030500090407,
  0x000309050002000008_050000040000090600_040801060300020507_070906080205040301_030104070906000000_080200030104060709_010508000403070006_090400020607000105_020607010508030004,
  0x050007080601030400_030409020507060801_000000040309050207_020905070006040103_040103090205080706_080706010403020905_090302000008010604_070508060104090302_010604030002070508,
  0x050002030701000804_040809050206070103_030107040908020605_070308090604010502_090406020105080307_020501070803000409_010203000007000006_060905010002040700_080004000500030201,
  0x050004000006000001_090602080301040507_000100050400020000_000900020600000305_020806000105070409_030500000709000208_070200060803000104_060308010504090002_010405070002000003,
  0x020801030609050704_090603050704010802_040705010802030609_070309040508000106_060102090307040508_080504020106090307_050907080401060203_010408060203070900_030206070905080401,
  0x040600050002080009_000009000000000305_000305090700040600_070502080006000004_060900040100000002_030004020507060900_050400000209010006_000200060801050003_010806030005090007,
  0x080501070900060203_070409030600010508_030206080105090407_010004090203050806_060805010400020309_000302060008040701_000608000701030904_000903020800070105_050107040309080002,
  0x010306040908050200_000507010603080409_040809020705030106_000108000504020603_070405060302010000_060003090801000700_030700080106090504_000904030207060801_080601050409070002,
  0x040900000201060800_000000050806030900_000006040003010200_000502030408090000_000700060000080403_000008010709020000_090104000607050300_020007080305000109_000300090100070602,
  0x090801040700050000_020007000000080100_030506080109000002_000109070200060300_040603010900070008_080002060000000900_070304000006020001_060905020800030000_000208030400000500,
  0x000002030501090607_050001070006040200_090706080402000100_000508090103060704_060407050208010309_010903000007020805_070204010805030906_000105060309070402_030609020704080501,
  0x000000000304090500_030004090705010008_070905010806020400_020007060908040300_010403050207060009_090608040100050000_040702080500030106_050809030600070204_060300070402080005,
  0x040803060002000105_090206070105030408_010500030408060902_020701040503090800_050300090806010207_080609010207040503_070405080309020601_060100050704080309_030908020601000704,
  0x000200010006080307_070803000200040001_010406000003020005_060700030502010009_000004000008050203_030502000104070006_080300000901060700_020901040607030508_040007080305090002,
  0x090007000504020803_000002000901060405_050000000000070109_020900040005080000_070504080003010900_060300000000040000_010005000406000008_080200050100030000_040603000800050700,
  0x000405000301020706_060702090005000308_080301060702000409_010000020907040005_000907050804030001_050804010600070900_040100030006090500_030206070509080104_070509040108060003,
  0x050200040908010600_010306050702040008_040009000603050702_060108070305090200_090402060001070305_070500090204060800_020905000406030107_030700020009000006_000604030107020009,
  0x090007060103020804_060301040802050709_040208090700030100_070900010006040008_000600080304090007_000400070209000501_030806020000010905_050009030600070402_020704050901000603,
  0x010206040308050007_070005020601030008_080403090507060200_020607030104000509_090508060702010304_040300050809070602_050804070906020103_030102080405090706_060709010203000800,
  0x040005000002000100_000608000500070009_020907060000050400_050000020007030801_070206000008090500_000000040905060700_030004050209010607_000000080400020905_090502000100000308,
  0x080105000704090002_020906050801040307_070403060209010508_050201040308070906_060709010502080403_030800090607020105_040500070900060001_090307020106050804_010602080405030709,
  0x020103070509000004_060800020301090700_070905060400010203_010406090203050800_000507010604030902_000302080700040106_050209040807000300_000708030006020509_030001050902070408,
  0x060507020104090308_040102080903050607_030908070506010402_000000030801070906_090706000200080103_010803060709020504_020300090008000005_070400010302060809_000609000407030201,
  0x040307090601000500_080002070403090106_060009020800000004_070001000000030002_090605030208000400_020803010700050000_010006080500040000_050000000000000700_000004060000000005,
  0x040805030209060701_000107050800090302_090203070106040508_020706040001080003_010504000008020007_080309060002010400_070401080905030200_050908020603070104_030002010407050809,
  0x080207010300090005_010306090405000007_090405080207010300_060900050804070102_050804070102060900_070102060903050804_040708000601030009_020001000500040008_030009040708020601,
  0x000004070105030200_010500090003060804_020300040806050107_030001020609040500_060902080504070301_050408010307090002_000805030901020406_040206050708010903_090103060402080000,
  0x050109030200060704_040006050100080003_030008000700000000_060300090007000000_090007000500020306_080501000302000000_000805070603040000_070603000904000000_010900000805030007,
  0x070506000203080000_000000080901050706_010809000607040300_060708030502010904_090004000800000205_020305010409070608_000600000705090403_040903000108000507_050207000004060800,
  0x000003010206080700_090000040003060200_010006000708030504_060907080005020003_030102060907050408_080400030000000006_050301020600000800_020609070800010305_070804050301000600,
  0x000108030407090206_040007000009080501_020600010500070400_080001020703000000_070203050000000000_090006040801000002_010704090002050608_000900080005040107_000805000104000309,
  0x000206000003080405_090100050804020607_050004070206010309_000002060900000803_060901030508070000_030508040700090100_020609000300040708_080407020600030501_010305080407000902,
  0x080001050300000009_070305090206080400_060209010408070305_090000000601050000_000804030000010002_010602040805090003_000006080003020900_020907060104030008_030500070000040100,
  0x010609050403080002_050403000802060009_070802010609040503_060907040301020805_080205060907030401_040301080205090607_030106020504070908_090708030100050204_020504000708010306,
  0x030006050001020400_020000030007050109_050109020804030706_040602070300010005_010800040200070900_070903010508040002_000304090705080201_000001060403090507_090507080002060000,
  0x040007000500020001_090201000000000308_030508090201000407_000000070300000805_000900000402030706_000306000000000100_000800050100070200_020704000800000509_050109020004080603,
  0x070504000800090203_000902070405000000_000608030209050407_090200000000080706_000007090100000305_050003060708020100_000705020600030904_040300080007010000_020000000900070008,
  0x020304000705010906_070508010609040302_060901000203080507_090806020301070405_050007060900020103_030102000004060000_040205090807030601_010003050002090708_000709030006050204,
  0x050000060003020401_000706020000080905_010400000005060703_000007040100000502_020009070308040100_060104090502070000_040205030809000000_070001000200030809_090003010600050200,
  0x090304070105080206_080206090304070105_070105080206090304_000003050801060902_060900040703000000_050801060902000703_020409030000010608_010008000409030507_030507010608020400,
  0x060004000800000300_010305070604020908_080902000105040000_050603080407090102_040807010209030605_020100060500070804_070208000900060403_090501040306080207_030406020708010509,
  0x020501060408090307_080406070309020501_000307010502080406_060903050207000804_010804030006070205_070205040801060903_040609020703050108_000108090604030702_030702080105040609,
  0x020700010900050804_090100080000030702_040005070000060100_010600050802000307_080002030709040600_070309000104020008_060008020507010000_000200090300000406_000000040608000200,
  0x050602000004000008_070401000809050602_000908050206070001_000006020007010309_010300000005000700_020704010903080506_040103090500000007_060200040000000805_000000060700040003,
  0x050604020708010903_070802030901060504_090103040506000702_030501060007000208_000706080200050301_020908010305000406_010400070600030809_000207090803000105_080309050104000607,
  0x060705040103080200_030401000809050706_090208070506010403_040506010300090807_020103080907060504_070809050604030102_050907060401020308_000604030200070905_080302090705040601,
  0x040903080001020506_020605090403070108_070000060205040309_060302010904080705_080500030602090401_090104050800060203_050208040300010007_010709020508030604_030406070109050802,
  0x000708000201060409_020501040609030708_060409070308020501_000802000406070903_040106090703050802_070900080502040106_090600030800000204_080305020104090607_000204060007080305,
  0x040706030809050201_080309020005060004_010005070406090300_070601090304000502_030904050200010607_020508060701040900_090407080503020106_060102040900030005_050800010602070409,
  0x000201000800000000_090704000500080603_080603000004000200_000400000008060009_020100030009070000_060009000705000108_030907050002000806_000806090307000002_040502000000030907,
  0x080201030704050000_030704090005010208_090005000000040703_000800010000060904_000006000802000300_010307040006020800_000100070409080506_070000060500030000_060508000003000407,
  0x000702050108040609_060904030007010508_050801060009020307_020009010003080005_040508020906070103_010300040805090006_070200080301050904_080103090504060702_090400070602030801,
  0x080406090502030701_070103040806020509_050902010703060804_030800000604090207_000504070209010308_020709080300040605_010608020405070903_040205030907080106_090307060108050402,
  0x040503090200070601_090802070601000305_070106040005090208_080007010403050000_000304050902080706_050200080006010403_030905020807000004_020708060104030509_060401030000020800,
  0x010906000200070000_020305040800060901_000000090006050302_050003010000090006_000209000003040100_000100020609030000_000001000902080000_030700000400020509_000502070300000604,
  0x030106040507080902_000004020809000306_090802060003050700_060701050904000000_040900080000000601_020308000706000000_000400000000060003_080000070400020509_000209000608040107,
  0x050807090004000602_030600080007000004_010900060302050807_090203070605080401_060705040800090203_080401020903060005_000506000708040309_040000050006070008_000008000409020506,
  0x030501080002090706_070609050301020408_000802060709010305_050104020807030609_060000010004070802_080207090603040501_020706030905080104_090300040108060207_010408070206000903,
  0x080206000309070400_040007020608030901_090103050704060802_060902040103050708_070800000206000304_000401080507020609_050608030902040107_010700060805090203_020309070401080506,
  0x000002000009030604_000004020005080900_000801040306070502_010603070504090008_020008030600050000_000500080002060103_030005090207000006_000000050403020700_070009060108040000,
  0x000605080209040703_080209040703010605_040703010605080209_050407000000030802_000106030802050400_000802000400000106_070308060504020901_060504020901000308_020901070008060504,
  0x090508010403060207_010403020706080905_020706090508030104_030107060205040809_080904030107000602_060205080904070301_040801070302090506_050600040001020703_070302050609010408,
  0x090708050203010004_060104070900050203_020503010604070908_040900020807060300_080207060305090401_030605090401020807_050406080109030702_010809030702000506_070302040506080109,
  0x030509010002070406_010208060407050903_060700030905020800_000001000604090300_070903000108040600_020406070309080105_080602040703010509_040307090501060208_090105080206030704,
  0x090807060300050001_020600000405090008_000104080709020306_000300040900000200_000702030006010900_010000000208000500_040008000600030105_030501000800000602_070206000100000009,
  0x050308010004090700_020900080500040006_060001070200030005_000702050900010600_030106020400080509_090005060301070200_000509030800020001_010204000000000308_080603040102050907,
  0x080002000507000009_000000090006020408_000106080002070500_040203050700080000_050709000600000004_010008040203000700_070901060004050300_060004000000000900_020005070901040806,
  0x040906010008070002_020705060000030100_080301050700090600_030508020007000409_070000040109050803_090104080503060007_060407090001000300_050203070406080901_010800030205040006,
  0x070204090308060501_090803050106020704_050001070400080903_000700040800050306_040908030600070100_030506010207090408_060100020004000805_020409080503000607_000005060000040209,
  0x010409030002060508_030207080506040901_080605010904020703_060708040105090302_040501020309070806_000903060807050104_090102070603080405_070300050408010209_050804090201030607,
  0x030507090106040208_040208050703060901_060001020804030507_050704010009020806_090103080602050704_020806070405090103_010305060908070400_080609040207010300_070002030501080609,
  0x090607040000050800_000003000000090006_050000060700000004_030200050600000000_000000020103080005_080506090407000002_040702030501060008_000300000906000200_060009000200010503,
  0x070602090401030508_050003070602010904_090401050803020706_010908030506040207_000704010908060305_000506020700080109_040209080105070603_080105060307090402_060307040209050801,
  0x090300070000010402_050607040000000803_010004080300050000_000006020900000005_070500060004080200_080902000000000600_020000090000060500_060405000802000907_030700050000020008,
  0x010005090302000807_030209000407010506_000708050106000902_000004010700060309_000903000200070105_000001030609020400_080007060503000204_050300000904080701_090402000801050600,
  0x030506080002070904_020801040709060305_000407050603010208_010308020407000609_070204090500080003_060905030001040702_000603010204090007_040102070005030806_050709060308020401,
  0x060300000907080400_080002030605090107_090107040802060300_040508070006010209_030700020109040500_010000050408030706_050600090703020001_070903080201000004_020001060004000900,
  0x000501060209070804_070804050103000602_090602080400030501_060200000300000109_000009020706080000_080400010905000207_010006070802000005_000300090601020700_000708030504010906,
  0x010508020706040903_070602030409010508_040903080105070602_020406090301080705_080705060200030109_030109050807020406_090801070502060304_050207040603090801_060304010908050207,
  0x020406090100030705_080109000500060204_000000060002090800_060000000009000308_030801050000040000_000204010803050600_010900080000070006_050300070004020109_000007020001000003,
  0x030205070104080900_040107090008030502_080609050203040001_020004000001060300_060903000002010807_000708030906020405_000000000807090203_090000010405000008_070806000009000004,
  0x080204070106050309_030905020408010600_060701090003040802_050307000904020106_010602030705090408_040800060201070503_000108050607030904_070506040309080201_090403010802060705,
  0x020106070003000004_000508010206030709_000003050408060102_010802000009040305_070600030004020801_000304080102090607_060207090305010008_030905000801070206_080401020007050903,
  0x030000000009070800_010807030502060904_000906010708050203_090603080407010502_080000020005030609_020501090306040708_000400050801020306_050108060203090407_060302070004080105,
  0x050200030407060100_090601000805030407_070304060109000805_000809040503010700_030400010006080900_000107080000040503_010703090008050204_040502070301090608_080906050204000301,
  0x090500000604020107_070002000908040006_060300000702000509_010009000500000403_050000040307000200_000407020109060800_020900060803010704_000701090205030608_080603000400000900,
  0x060301000905000700_070804000103050209_020009070008000001_000407050601090802_050006080209000000_000902030700000506_090600040800070000_000008010000000005_010003090506000000,
  0x090002050006000300_060001000703040000_030007000209050001_000009010000000003_000700020908010406_040000070000000000_070000060400030105_010300000807060200_020600030501000708,
  0x040308060709000205_000205000804090000_090600020501000308_080100040607050900_050902010308000400_070406090005080000_000700000000060800_060800070902030500_000501080406000700,
  0x080406020907050300_020709050301080600_050103080604020000_000801090402030005_030507060108090402_090204030705000108_040908070203000506_010605040809070203_070302010506040809,
  0x040302010807060509_060905020304070108_070801050906040203_050409030702010806_010608090405020307_020703080601050904_090204000103080605_030107060508090402_080506040209030701,
  0x070005000000040001_060002040109080700_090001080007000002_050904070802060100_020708060301090504_010603090400070008_080509020700010406_030007000004050000_040106050908020307,
  0x000800020001090004_040509000800010600_000600000000030007_030200000005080009_090708030206050401_010405000708060200_050900080000000106_080300060004070005_000104000900020300,
  0x090700080501000600_020000070409010508_010000030602090407_000601040200000905_070002050008000106_080000060103000200_000203000700060800_060008000304050700_000007010806040302,
  0x000204010905030708_080007060402050901_010509080703020406_020706050104090803_000008020607040105_000401000809070602_070802000006010309_090103070208060500_040605090300080207,
  0x000000090207010304_010003050800070200_000000040000060000_000206030000050108_000307000105090002_050801020609040703_020600000900000000_080104000500000907_000700010408020506,
  0x050209040807010603_080704060301020905_000106090502070008_010608030209040500_070405080106090302_020903050704060801_090301020405000706_060807000903050204_040502070608030109,
  0x000904030700020501_020501040809000603_070603010200080904_060102080504090307_050408070003060102_090307020601050408_010805090407030206_040709060302010805_030206050108040709,
  0x060104030509020708_050903070802010406_080207040601090305_010408060903070502_020705080104030609_090306050207040801_070509020408000103_030601090705080204_040802010306050907]
theorem veryEasy_2_ok : veryEasy_2.all fastOK = true := chunkOK_sound _ (by decide +kernel)

/-- `very-easy` (1000_very_easy_puzzles.npy), boards 750..999 -/
def veryEasy_3 : List Nat := [
  0x000200010504080306_050001030806090702_000603070902050104_020008090407000501_040709050601020803_060100080203040907_070802000109030605_030506020708010409_010904060305000208,
  0x040102060300080509_070306090508040102_080509020104070306_030908040205010607_050204070601030908_010607080000000204_060803050409000701_020701030806000405_090405010702060803,
  0x030109080405020706_070602010309050408_040805060702090301_020306040901080507_050708030206010904_090401070508060203_010504000807030609_080207000603040105_060903050104070802,
  0x050000070104030206_020603080509040107_010704000003090508_060900040001020703_070302090605010004_080400030702000609_000500010908070402_040207050306080901_090008020407060000,
  0x050908030401060000_000401020007090508_020607050908040301_040000060802000905_060002090005070403_090105040703080602_070004080506030109_000506010309000704_010009000204050806,
  0x000402090807000100_080709060003040502_010306020004070000_000100070205080900_000800040001050207_020507030908010600_000901000406020708_070200010300060405_040605000700090001,
  0x000108030502090006_000604000108030205_030502090604070801_010009050207060004_050000000400010908_060003000009050002_000000020000000500_040305000006020007_020701000305080609,
  0x060309010507040800_010507080204090603_080204060309070105_090602070103050408_000103040805020906_040805090602030701_050401020908060307_020908030706010504_030706050401080209,
  0x030409060201000508_050807030904020601_060102050708090304_020501070003040906_070308090406010205_090604000005080703_080903040602050107_040206010507030809_010705080300060402,
  0x040105070300090802_090800010405030706_030706080902040005_050307000600020400_060908040201050307_020401000507000908_070609020804010503_010503060709080204_000204050103070609,
  0x080301070604090200_070604050902030108_050002080301060407_010500040806070902_040806020009050000_000009000503080604_000407030200010000_030005060100040709_060108000007020503,
  0x080901040500060007_040005030700090001_030607080109000400_020503060807010900_090104020305070608_060708090401000203_050306070908040100_010402050603080709_070809010204000506,
  0x000700090008050300_000906000005040207_050103070004080609_010308020500090000_090604030800070002_070205060000010803_060400080903020105_000501040706030900_030009050102000704,
  0x080601020003000907_040200090705010608_000905060001030204_090508010604070002_020307050008040106_060104030207080509_050806040102000703_010402070309060805_030709080506020001,
  0x070205090604030801_060004080103050207_010803020005040906_050108070402090603_030609010508020704_040702060309080105_080306050201070409_020000040907060308_090407030806010502,
  0x070005010000030004_040300000807000002_020001090304080507_090708000205040300_000403000709020005_050200000401070809_000002000006000700_060104070903050000_030907000500010406,
  0x090700080102040506_040506070903010802_010802050406090703_030107040008060005_060905010307020408_020400090605030107_080600030509070201_070201060004050309_050309020701080604,
  0x060203040500000809_080109030602070500_050704000801020603_000002070900060300_030600020405080007_000807010306050400_070905080003040200_000308060204090705_000000050709030008,
  0x010406050000080700_000302080907010406_080700010604050002_000200030809070601_000900000006000205_070600040502030908_090107000405020803_060004020308090000_020000000000060004,
  0x080605010307090204_020409060500030701_070103040902050806_010902050804070603_060307090201080405_040508030706020109_030201080409060507_050706020103040908_090804070605010302,
  0x000501000000000708_000000000501020406_000006000700030001_070002000109040003_050109000603070800_000603000800050109_060305080200000007_080204010007060300_010007000305000200,
  0x000604050300090002_000008000001070305_000503020800010406_080905010004030007_030700090008000001_040002000603080509_000007000900060103_060001080005000004_020400000106050000,
  0x000602000001000805_000309000408020706_080500060007090000_050401000800000000_060008000703010504_030007000100080600_040103000502060900_000000010304050008_020805070000000401,
  0x000000000800030509_000408000903070600_050009060207040108_000900000500080406_000205040608000000_040006030109020000_020003080006010900_000607090401050203_090100000000060807,
  0x050604020301070809_020301090700060405_090000000604030102_010503080207090604_040906010503020708_080007040906050301_030405070102080906_060809030000010207_070102000809040003,
  0x090003070201060805_080006030009070102_010207060508000904_060904020103050708_070805040906020001_030102050807040609_050609010304080000_040301080700000506_020708090600010403,
  0x020108060900000407_030906000705000801_050004080102030609_060307010504000902_080200070006040105_040501000208060703_090803050007010204_010402030809070506_070605020401090300,
  0x080400060209000503_000000000004060902_000006000005010408_000608000000030105_090002030501000604_050000000400000009_010805040000090307_000009000008040200_060204000703000801,
  0x090803040706050002_000704020001080903_010502030800070604_030608070104090205_020905080603010407_000107050902060300_070201090305040806_080406010207030509_050009060408020701,
  0x040000030100070006_080003060007000002_000906020504000000_000801000002000405_020000050400060001_000405010800020700_090000070005000004_010304000600050200_050007040301000600,
  0x090601050002030407_020805030704010900_040703010609050208_070502040306090801_080109000507040603_060304090100020705_030207060401080509_050900070203000100_010006080005070302,
  0x090207080305010406_050308060104020907_040106070209030508_020009050703080104_030705040801060209_010804090602070305_080501020406090003_060402000907050801_070903010508000602,
  0x010507090803040000_000308060204050100_060402010705030908_080905020300010704_020600070401000805_070004080009060200_050801030902070400_040706050008020309_030209040600000001,
  0x090407010506080203_050601000803090704_080302070904050106_030008090400060507_060700080301040902_040209050607030801_010503040208070609_020804060709010305_070906030105020008,
  0x080106090503020700_090305020000080000_000007080601090503_010508030907000206_040602010805030907_030709040206000800_000004050109070302_050001070002000008_070200000000050109,
  0x070601040809030205_020503070106080409_040908020305010706_030206000900050004_010709080504060302_080405030002000107_060300090401020508_090104050208000003_050002060703040001,
  0x050609040702030801_010803090506040207_070204030108090605_060301050209070408_080400010603050902_020905070804010306_090106020405080703_040502080307060109_030708060901020504,
  0x040306020501080009_000002080709060400_000908000403020501_080501090000030004_060709030000000805_000003010800090607_030607000002050908_000800070006040102_000204050908070306,
  0x030609000000000800_080402000006070501_000700020804060000_000008030002090005_000203050709010408_000900000400020603_020800070903050104_010504060000000907_000307040005080006,
  0x010004000005000300_020903000007060800_060008030200010400_000109000000080002_040600000802030901_000205090000000706_070006000500090100_090001060700050203_050002010000000600,
  0x080309010504060207_040501060702090803_020706090300010400_010805070406030902_000407030209000108_090203050801070604_030602000900040701_070104020603080509_050908040107020306,
  0x000006030108090407_040709060200030108_010803090407000205_050600040003020709_070900010506040803_080304000709010006_030400050902000600_060008070300000900_090205080001070300,
  0x080504020901030706_070306040508090102_010902060307050804_090401070203060508_030207080605040901_050608010409020007_040800000102000605_020103050706080409_060705090804010203,
  0x030107050006040208_020408070301060900_090605080204000307_000502030108070609_060709020405080103_010803090607050402_080001060703090504_000900010802030700_070306040509020801,
  0x040300000500000106_060001040903070008_000700060100030004_070006020401000000_030000070000000402_020004000800050600_010400090008060205_090800000000040300_000602010300000700,
  0x090306020000000400_070200000401000000_010500030609000007_000000080002040005_020801000900060003_050400060700080102_060702010500000304_000003070006010508_000105090004000006,
  0x050108020604090307_040206090307010805_000003010005020604_060401070003050908_030702050008040006_080509040106070203_010605030402080709_090807060500030002_000004080709060501,
  0x040305000107060800_000709080602040503_060000050403000907_000007020804050301_080402030001090700_050003000906080200_000800040205030009_020500000009070608_030901000008020400,
  0x010009000006020300_000003090401060708_060807030002010900_090105040607000802_000604000003090500_030208050109000406_000701060000050200_080000020905040107_050902010704080603,
  0x020901060503040807_070408090201060000_050603040700090100_000107030602080504_060000080405010009_040800000907030206_000000050806000400_000506070104020003_010700020300050608,
  0x000306080109020407_070402030500090801_010009040700060305_040901020307050600_000600090401000203_030007060805010904_000508010200030706_020100000603080509_060703050908040102,
  0x000509070002000400_000002000304050008_010000080500000207_060008030407090100_000901060208000700_030407000901020000_090100020005070604_020805040700010009_040000000100080500,
  0x050600070009000100_040103000806020907_000902000301080605_000500020107060403_000000030600090508_030406080905010700_000204000500070800_090000010402050300_060305090700040200,
  0x000500090307060108_000009010806050002_080601040205070903_070000000601040305_060100000500090800_050003080709010006_040300000908020001_000806050102030004_000205070003080000,
  0x080104030207050000_060905040108000207_070203050006040108_000602090804010703_030001020605090804_040809010703020605_010308070502060409_090406080300070502_020507060409080301,
  0x090704060102080003_050308070409000206_020601030805040907_040206050301070809_080907000600030105_010003090708060002_030800040207050001_000402010506090308_060105080903020704,
  0x090500000100000000_020000000000030001_000100070802090405_070008050304060002_000305010006070809_000001080907040000_050603020001080000_000702000408050306_080409000605010207,
  0x080000030100020705_000007060000000001_010400070002000608_090008000400000502_040701000206030800_020605080000070000_070004020600000903_000002090301050400_000009040000000206,
  0x040601020809070005_080902050307060401_030700000400090802_090203000705010600_070004000601000003_060108030900000704_010809070203040500_050406000108030000_000307000504080109,
  0x080601020403090507_050907060108020304_030204090705000801_090008010306040205_060103040502070008_020405070809010603_040009080607030102_010300050904080706_000806030200050409,
  0x070000030509080200_080206010000090305_000005020608070004_030500060900000408_010008050700020609_020000040801030007_050001000006040002_060900080204000001_040802070105000903,
  0x050306080402070901_080204010709060305_010907050603040208_070003060200090004_040100070305020806_000800040901030507_030608020104050709_090705030806010402_000401090500080603,
  0x000409000503070001_060300070800000004_070100020904000003_050600080307090100_000001050406000307_080003090100000406_030000010000040200_040002030608000700_010907000205000608,
  0x000200090805030006_070603020401050800_080905060703010400_030000080102090507_050000040306020108_010802070509060304_020508030907040601_060104050208070903_090307010004080205,
  0x010603070904000502_020508030106070409_090407000205030601_040809020503010706_060701090408020305_050302010607090804_080204050301060907_030105060709040208_000906040802050103,
  0x050900030201040706_040706050908030201_030201040706050908_020803070104090605_090605020803070104_070104090605020803_080502010307060409_060409080502010307_010307060409080502,
  0x000804000103000507_010900000006040208_050700080004030100_070402000801050000_090600040702010000_080001060900020704_000108000309000600_030509000007080401_060207010400000005,
  0x070002000000060900_080500060000070200_060409070002080305_020001000705000408_030000000004020106_090800000600030507_050207040000000000_000906050007040003_040308000906050002,
  0x000007000605080003_000302040700010005_010500000003040700_000000030806000002_000200050007030806_000008000402050000_070005060001020008_000100020908070004_020800070500000300,
  0x070108000004020609_030405090000080107_090602000801050403_050301000409000708_080706050103040900_020904080007010305_040203000908000501_060009010705030004_010507040002090806,
  0x060108000504020007_020000000608000904_000900000007060008_040000050000000200_080003060401070009_070500020003000600_090406000305010002_000000040000000005_030705000102090006,
  0x080604020907050103_050103080406020709_020009050301080604_070305010804060902_060902070503010408_010408060209070305_090507030108040206_040206090705030801_030801040602090507,
  0x050100080002040607_080302060407010500_060407050000000002_070004090601050203_000503070800000901_000001020503080704_030905040208070100_010706030005020408_040208010700090305,
  0x000005000600010007_000608070001040005_000307000204090608_060701040000020009_030004090002060701_000000010000030000_070003020005080100_080000030407050000_050902000008070400,
  0x050803090201060704_070604030008010209_020109040700080503_080302000109040600_060005020803090107_010907050604030802_030201060007000408_040500010302070906_090706080005020301,
  0x090304000807020100_010006030904050807_000507020106030904_000008000000060209_000001060209040308_020609040308070001_040000010700090603_060903080005010702_070102090603080405,
  0x040901000000070500_000003060705000001_070506010409000200_030002050004000800_000405000108000000_010009020000060000_050000080903020607_090308070200050104_020000000500000300,
  0x090700000406030201_040506000201000008_020301000908050406_060407020105090000_010000000003000007_080903040607000100_030000060709000504_000004080300000700_070609010504080300,
  0x060105080204090703_080204090307000501_090307060105080400_000009010406020807_010406020700030905_020008030009000600_040000000902050006_050603040801070200_070002050603000100,
  0x020308050406010709_010007020308000600_050406010907020803_090802030605040007_040701090802030506_030005000701090208_070209080503060401_080003060104070902_060104070000000305,
  0x040801030000090207_030500000200040800_090207040801000006_080000050004000703_020700080100050600_000604000703000100_060408070305010000_010902060400070305_070005010902060400,
  0x050309080702060401_010600050903020700_080207010400030905_020701060504090803_030908020007040506_060405030809070102_090802070601050304_040503090208010007_000006040305080009,
  0x050802090001000300_000900000703080500_030600000005090104_000700020500040001_060200040100070900_080001000009020005_020100000900050006_000300000000010208_000006010002000409,
  0x000002000704000305_000903010200080704_000007090300010206_000700000400000509_090205070000030008_080304020500000600_030508060900040100_000009040107050803_000401000803000902,
  0x070208060409010503_040609050301080200_030501020708090604_050807090204030106_060103080507040902_020904010603070805_080402030906000701_010705040802060309_090306070105020408,
  0x090803020706040100_050401000809070206_060702010405080309_070309060204010508_080105090307020604_040206000100030907_010604080503090702_020907040601050803_030508070902060401,
  0x000000030200050107_020003010705090600_000500060800040300_050607000900010204_040102000006000809_090300020401000705_000000090002000001_010704000608000900_030000040107080006,
  0x050307060204010900_010809030507020006_000004080109050703_000901000805030204_030402090601080507_000705040302060100_040106050900070302_090508020703040601_070203010400090805,
  0x020007040805010300_040805030601000209_030601020900000408_010300070008000504_050406010009080700_070208000406090103_000000060003000901_000503090102040007_000100080704030605,
  0x020800060307090504_090400080201000700_030007040905020108_050306090104070002_010904020708050603_070200030506000409_080009070602000305_040503010800060207_060002050403080901,
  0x000305000001090000_000200000908000500_090608030405070102_000000000803000007_080003070002010609_050702090000080300_060004000000000901_000507000209000008_020100080004000000,
  0x010603070009080005_070002000004030001_050408000306000907_030709020405000108_000106030907040502_020004080601090703_090005040008000306_040801060703050200_060307090502010800,
  0x060100030507040208_000305040802000009_020000000006030700_040807000000050306_030006000004090100_010900050000000407_090000060000000803_080700020400060501_000601070008000904,
  0x060400030508020709_020907060400030805_030500020907060104_000604070005010902_010000080600000503_000305010209000406_090703040102050608_000100050806090307_050800000703040201,
  0x090000010304000605_020506090700000403_000304020506000807_070609000801000204_030801050002000900_000402000609030108_000903040105060702_060207080003040001_040105060207080309,
  0x000905070102040308_080300090500010702_020701000408050906_040009060005030201_000200080900000005_050600020301090000_090000000000080103_030108040609000507_000500010803060009,
  0x030004000000020100_090600050102000403_000201000007060000_000409020008000300_070000060004080002_000805070001000906_000006080009000001_010500040003090208_080000000005000604,
  0x010604050302070008_000502090708010604_070908060104030502_040706010205000309_080009070406000105_000105030809040006_060007040501090200_090203080607050401_050001020003000007,
  0x020304000601070005_070005020000090100_090100070508000304_000409080006030502_030502010004000607_080000030205000000_000703040102060908_060908050007040001_000200060009050700,
  0x030601090704050200_090704000200010603_000005000601040709_040802000000070901_050306010900020800_000000040802060305_020503060109080407_070408000503090006_060109070408030502,
  0x060804000100070200_010305000009060804_070209080004010305_040108070503090602_050700060002040108_090602010008050003_030907040206080501_020406000000030000_000501000000020006,
  0x010007020405080006_040502060908030107_090806070103050402_060108030704000205_070403050009010008_020905080600040703_030204090506070801_080701040302060509_050609000807000304,
  0x050203010600040908_070601080004050203_040908030205070600_080502060703010409_030706090401000502_010409020508030706_060104000000000300_020307040106090805_000005070002060104,
  0x010506040308020907_040308090002060105_090702010506080403_080907020005030604_020105060403070809_060403080900050201_050604030809010702_070201050604090308_030800070201040000,
  0x090007000500000300_040006010308070000_010308000207000504_060003000100050007_080002070900000406_070000060403000108_030001020800040705_050700030601090000_020009050704010000,
  0x070802030609010400_090306040501070802_010405080200090306_020704090806050100_060908010305020704_050103070402060908_030509020104080607_080607050900040201_040201060708030509,
  0x000501000700020406_070308060204000501_020406000905000300_010705030802060900_000904050107080203_000203000609000705_050800020306040000_000109070508030602_030000090001050807,
  0x070402000106050900_010806030005020704_090305000702060108_030609050400000802_080201060309000405_040007020801090000_060100090504080200_020708010603040000_050904070208030601,
  0x000001040703050900_000307000205060000_090002000100030407_070000020500000006_020000000600080703_000900000000040000_000009000801070504_050004000002010008_030008050007020609,
  0x010502000708060009_000009050201030007_080307060904050002_000806040509000003_000100080607040900_000405010302080706_060004090105020308_000901020803070604_030008070400090501,
  0x070002080405060900_040805000000070001_060009000700000500_030900020100000705_010200000807030400_080507090004000002_020003070500090004_090400060203050107_000701000000000006,
  0x000000020300080400_000000070106020503_050300080904070600_080400030600000205_000000090500010804_000500010000030706_030700040209000100_000200060801000000_000006050000040902,
  0x020601030407090805_050908060201030704_040307090508000102_010400050703020908_080209040106050307_070503020809040601_060704080305010209_090102070604080503_030805010902070406,
  0x060805040201090703_020104090300050806_030709050608040102_050601070402080309_090008010506070204_040007000903010605_080906000105030407_010502030704060908_070403060809020501,
  0x030806000001040207_090100000000060308_000704060008050000_050300070000000000_000900080602000500_000208010503070409_000000030106000000_000509020000030100_000603000705020800,
  0x000300060904050208_090604000802000107_080502030701060409_050409020308010706_060107040509020800_030208010607040905_020005080103070604_040006090205080301_010803070406090502,
  0x050204000307010906_000901020504070803_030807090600040205_090105040203060708_000706010905030402_020403070806050109_040308060709020501_070609050102080304_010502030408090607,
  0x000407050600090301_090300070402080005_080605010300020400_050204060801070903_000806030907050004_070903040205000800_040709000506030108_030108090704060002_060502080103040700,
  0x050400000008000007_020801000306000005_000603050900080002_090004000800050003_030000000402070000_010708000600000409_040100000003090506_000300000509010200_060905000201030008,
  0x000004070900000800_030000020405000900_010000000003050402_070800040506020109_060400090000070308_000900080307060504_000307050608040200_000100030709080000_080006010204090000,
  0x000108040302090000_020300000000080001_070500080006040003_090601000008000007_040705000009000800_000200050704000906_000000060900020100_050906020800070304_000002000003000500,
  0x040003090007020006_090705000206030400_010000040008050000_050407000000080300_000000030801000504_000108050704060009_080001070000000605_000304000005010802_060509080102040700,
  0x000000060102070009_000704080305060102_000601070000080305_080009000006010207_070102040008030506_060305000000000908_000207090803050001_030900050601020700_010506020704000803,
  0x020608070509010304_040103060208070905_050709010403060802_060302080705000400_010904030602080507_070805090104030206_030406020800050109_080207050901040603_090501040300020008,
  0x050809070104030600_010007030206000005_020603000508000401_060300000800000704_040702050603010908_080901020407050306_000004060702080503_000206080300040009_030008040901060207,
  0x060008020004010903_090301060005070004_020407000100080005_000809050607000000_040100030908000507_050706040201090308_010900000006000702_000200000409000806_000600070500040109,
  0x090304010000070608_070000090003010002_010205070008090403_020409080000030706_080501030700000904_030607020904080100_040703000200000801_060008040307050200_000002060800040307,
  0x020100090706080004_000706030408050000_030400020000060907_000600010000000705_000502040609030100_010003070502090406_000301000207040800_000007080004010503_080904050301070002,
  0x010503090706020400_090700000802030100_000802010503060907_060908020405070301_020405030107080609_030007060908050200_080604000200090703_050201070309040806_070309000604010502,
  0x040500000706020901_010002000000060307_000300090102000504_000709000800030006_000403070009000108_080100000000090000_050200080304070000_030800000907000005_000607020500040803,
  0x000304000602010905_000509070304000206_080602010509070400_000805040103020607_040103020706090008_020706090805040301_050200030901060704_060407050008030109_030901060407050802,
  0x010402070500080003_090308020400070605_060500080300020104_080000030902040701_020003040007050006_000104000008030209_030806090204010507_050701060803090402_040009010705000008,
  0x040506080201090300_070309000504080001_010208000007060504_060105000708030400_000702030009050000_090400050100020708_030604010800070902_020000040000010005_050801000902000003,
  0x000108040200050600_040200000605080100_000600030008090204_000000020007030806_060800000904070000_000007060803000001_000002000006010000_050306080000000700_000001090700060305,
  0x070501060409030802_080302070005090604_060904080200050701_010609040308070005_020705010906080403_040003020507060109_030207050001040900_090400030702010506_000006090804020307,
  0x020009000503000106_070106080209000403_050403010006000800_080600090402010000_010300060800040900_040902000105080007_000000050601000000_000001000900000200_090708020300000001,
  0x090308000506020000_020407090803010506_010605020704090003_060809040105030207_030702060908040005_040501030207060900_050906070400080302_080203050609070401_070100080302050009,
  0x090301000204060000_000708000109000502_040502000806090301_000006010905070200_070204080603050109_050109020407030806_000603000502080407_080407060001020905_020005040708010603,
  0x060007030508090102_050308020901060704_090201040607050803_020805010409030000_000109000306020500_030706000205040901_000502090704080306_080603050102070409_070904060803010205,
  0x060000000004090205_090205070608000000_010003000900000800_070008000309000602_000004000006070108_000600080700030900_000301090405000706_020000000800000509_040500000207080300,
  0x050301020700080006_040008030501090700_000209000408010503_030905080207040001_060100000305070208_020007010600050309_000700040002060005_080402000006000900_010506070900020804,
  0x010502070900080406_080604010205070003_000309080406010205_050401030702060809_030207060809050100_000908050004030702_020103090600040508_090006040508020301_040800020301090607,
  0x090406080005000107_010307090406020800_080205010307040906_070102060903000504_050800070102090600_060903000800000702_000509020708060301_020008030001050409_030601040509000208,
  0x020006090008010400_040001070206080509_050908000001000207_000602080005040001_030800000704020900_000004060902050308_060407020809030105_010500040607090002_080200050100070000,
  0x090502040701030608_070104030806020509_080603020005040000_050208090004070300_060000080502000401_010409070603080205_040905010307060802_030701060208050904_020006050409010703,
  0x090104000007020603_060302090104070008_000807060302040901_000400080006090302_080700030209050104_030209010005060807_020001040000030700_040508070603010209_070000020901000400,
  0x060004020008050107_000302010500090406_070501040006030000_030406080205000700_050200000109040600_090107000403020805_000003000800070904_010800090004060302_000009030602000001,
  0x040103090802050607_070506030104080902_020809060507010304_050604020301090708_010302070908060000_080007040605030201_090705010406020803_060401080003070500_030208050709040106,
  0x000907030506040108_060503010804020709_040800070902060305_070409050203010806_000005080601070904_010608090407030502_050002060308090400_090104020705080600_080306040000050207,
  0x000100060008000002_000903040107050000_060508020903010700_070201080005060903_080400030000020100_030600070001000500_090806010000070005_010000000704000609_000000090806030201,
  0x000508040300060200_000600080500030104_010300090600050700_030901020800000507_050407000000000600_060800070405000301_090003000008010005_040105000000000800_000700000000020000,
  0x070802060103050409_050904000007030601_000106000905000008_010003000009080700_080607000001090502_090205000600010000_060300010504000907_040500090700060000_020709080306040005,
  0x020103060009080504_070906040805020103_080504000201070900_060800010400030700_040201090307060805_030709050608040001_090000020504010300_010307000906050402_050402070103090608,
  0x050000000008000302_000000070200090105_020000000501000806_000208030905010000_090500010406000200_040000080000000009_030902050100060708_000006000309050401_010000060800000000,
  0x090700080004020100_000502000000060400_040000050201030907_000001060907000002_080004030005090706_070609020400010500_030905040706080201_060007010002050300_020008090003070600,
  0x010204030807060509_000307060500020104_050000020104030807_020008070305000601_000705090601040208_060001000208070005_090102080403050706_040800050700010902_000506010902080403,
  0x050607040308020109_020901050706040308_040803020109050706_080704090203060001_090302060501080407_060105080407090203_030409010602070805_010206070805030904_070008030904010602,
  0x040007000903000000_010006000002090003_000008000105040000_070005000809000301_080002000001000504_060003050000080000_030009000507020408_000000000306050107_000700040208030906,
  0x030908040001050207_070005090308010406_060400020700080900_010704030502000600_050300060809040701_080009070000000305_040507080203060109_090100050407030802_020803010900070500,
  0x020107040506090803_060400030908070201_080309010702050604_000601080409030702_070203060105040908_090004020307000006_030708050201060409_040906070803020105_010502090604080307,
  0x090008030605040002_040100080700050603_050603020004090708_080401000000020506_030907060502080401_020006000008030907_000005000007060009_000800090306000005_000009050201070804,
  0x010709060205040308_080304090100060502_020500040003090001_000800000401050000_000205030008070104_040100000902030800_070902080506000403_030001020009080005_050608000304020907,
  0x000000080000040001_060900020104000000_000000030700000806_090306010408000000_050207060900080100_000000070002030600_030709000806000002_000604050201070900_020105090300000000,
  0x000005000000090000_000801000906020005_000906030205000401_050700010302040008_010300060408070509_000000050000000000_090600020507000003_080103090604050007_000500000103060000,
  0x000200050800000009_030508010409060200_000104020000000000_000403000000070800_020609000005000400_050000040300090602_060901070008050004_040300090000000008_000702000500010900,
  0x080509040706000102_010302050008040000_060407030201050809_090105080407060203_070804060302010005_020603010509080704_030700000105090400_040908070603020501_050201090804070306,
  0x080902070501030406_050701030406090802_040306090802070001_030100060004020708_090604020708000005_000008010305000904_010807050603040200_020409080107050603_060503040209080107,
  0x050406000001000907_080709050604030201_030100000007050000_010903070806040502_000205010309070806_070008040502010309_090801060705020403_020004090108060700_060000020403090108,
  0x000604020700000500_030700050108000409_000100040009000200_000000080207050000_000008090501040006_010509000400020007_050906070300080102_000307010000000005_020001000905030704,
  0x070004000100050002_060103050209040000_090000040007030601_030700000600020409_050601000900000307_040900000703000500_000000070001060200_010307000500000004_020500000408000003,
  0x060705080009000301_040301070605020800_020809030401060705_050403060907010208_010208040003090607_090607020108050403_030102050704080906_080906010302070500_070004000806000102,
  0x010005060003000209_020409050701080300_030806000400070105_050008000200010907_060200070109000008_090107080305020600_080602010904050000_070503020608090401_040000030500000800,
  0x000000000008000900_010800050609040207_000006040702010003_090004000000000600_020301080000090704_080005000000020301_000100030805060409_030008060900070100_000009070200030500,
  0x060702000508090401_000100000200050803_000305000904020607_020803040105070906_050001000709030208_090607080302010504_010906020807040005_000208050400060109_030504000601080702,
  0x090700000006080401_030605040008070200_000804000907060503_000907000203000805_050108000009030602_000306080501090704_000000030702000106_060001090000020300_070200010600040000,
  0x000000000005000702_050600000703090104_000702040109050608_080906070502000001_020500010004000000_040301060008020007_000400050807010203_070805030201060409_010203090400070005,
  0x060502080004010703_080904010307000200_010307060002080409_000706050000090100_090000030706000002_050208090401030007_000800000103070500_070605020809000301_000103070605020908,
  0x000003000100040000_050004090300000600_000000050407030209_010000000000070500_030507010209060000_040806030700020001_000408020500000106_060109070004050300_020300000901000400,
  0x040500090302070106_020903010607040508_070106000804020903_060401020508030709_030709040100080205_000200070903060401_010800030205090607_090607080401050302_050302060709010804,
  0x060405000802000301_010309050604070208_080207090103000406_030500060400080902_000700080209000503_020908010300060704_090002000506040807_050603040708020109_070804020901030605,
  0x080409050207060103_050007030106090408_030106080409070205_060501090304020807_070802060501040309_090304070802010506_020908010705030604_040003000908050001_010005040603080902,
  0x020004010905060703_000700080000050009_050109000306020804_090601020703040508_030007000804000601_000500000109030000_010000000207080000_000005030601000402_070000000508010000,
  0x030002070106040908_060700090804030502_040908050203060701_020405030701080000_080609040502010307_010307060008020405_050804020307090106_000100080405070203_000200000609050804,
  0x080206090100050704_000507060208010003_030109070500020608_060805020000040100_070401000006030209_090302010407080506_020908030701060405_050004000902000301_010703040600090802,
  0x060800070009020403_020304010608050709_000907040200060000_000200000706000305_040503000102000900_070609030400010802_090106050307000204_000005020804000601_080402060900030007,
  0x040109070302060508_070203050608090001_050806040901000002_080604010709050203_010907020503040806_020305080406070109_090702030800010604_060401090207080300_030508060100020907,
  0x020604000309070008_050009010700000200_010708020000030509_070005060001000300_030900000805040601_000001030902000700_040100090206050803_080500000107000906_000206000503000000,
  0x070005000402000006_000906030500010004_020004000008030700_090002000003050100_030008050701040900_000007040000060000_060209000300070401_050000070100000000_040701020906080503,
  0x060907080204000301_080204000005070906_010305060907040208_030701090406080500_020508000701060400_090006020508010703_070603040800020105_040809050102030607_050102070600090804,
  0x060800010205030004_050200030407090600_000403000806010002_040107060308050200_020905070004000800_080306050902070401_090002040501080007_010504080703020900_030708020009000100,
  0x000000030400000007_040300060001000502_070000000008090304_060002000000000903_000907010002000805_050000090007000100_000400070900050201_090706000105030008_000205000803060009,
  0x000008020009010600_010603080007090502_090502000601000408_030004050708020006_080705060900030004_020006000000000005_040307090005000200_000001000304050800_050000000200000300,
  0x010308070506020904_060005090204080300_040002030801050706_030204000107060509_070801000609040003_090506020003010807_050107060902030008_080403010705090602_000609040008070005,
  0x030104020006050807_020609050807030401_050708030401000906_080207040005090003_090300080702000105_040501090603080702_010805060304070209_060403070209010500_070902010508000304,
  0x000000000204060901_000304010906080005_000006000700040200_080203000001050600_060700020800000009_000001070605030002_000009060107020000_050800000300070100_000000080000090300,
  0x010602030705040908_000005000009000200_080009000000070003_090300000806010705_020806000107000409_050007090304080602_060900070201050304_040503060908000107_070201040503090806,
  0x070805030600020409_010306090402070508_020904080500010603_030507060109080204_080402050703090106_090601040208030705_050208070306040001_060703010904050802_040109020805060007,
  0x050809070406030201_030102080509040607_040706010302050908_020407030901060805_060508000207090103_090301050008020704_070605020104080309_080903060705010402_010204090803070506,
  0x030407060902050001_050801030704060209_060209050008030407_010304070206090508_090508010400070602_070602090005010304_040700000509080103_020905000301040706_080103040607020905,
  0x030706040905010208_050409080000060307_020801070603090004_090004030801070605_060507020409080103_010308050706040902_080603090507020401_040102060308050709_070905010204030806,
  0x040108050300090700_000603020907000104_000709000801030600_090407080105060203_030006090704010500_000000030000000409_010300060209040007_070000010003000906_060902070400050001,
  0x060309010502040807_050100080704090306_070800030609020105_040001060908030502_000003070401080609_090608050203010700_080907020306050001_010405090807060203_030206040105070908,
  0x060800070205010309_010903060800070502_070205010903000408_020406090507080103_080301020406090705_090507080301020604_030709040108000200_050602030709040801_040100050600030907,
  0x000000080506070103_060805010003090402_030007000900050800_050604030800010209_090200060005000007_000308020109040600_040502070600030900_080000000301000504_000003000204000708,
  0x060007000508030900_020309040700010508_080105030002000706_000902000603050004_030000050804090000_040508090201070600_000004020000060009_000603080407020105_050201060309080407,
  0x090607040108050302_020305090607080000_040100020305070600_050401070203060908_070203080906010405_080906050401030207_060702010809040503_010809030504020706_030504060002090801,
  0x000800040506020109_010009070008060504_000004090100000307_040100020003050700_090300000700010006_070508060401030902_060001000200040000_080400010009070203_020700050004090001,
  0x010507060809030002_080609000300010507_030400050100080609_040008020503060701_050203070600040908_060701090000050203_020804030705090106_070305010006020804_090106080204070305,
  0x090000000207000306_000406000008000007_000207030006050000_020600000803070009_040803050000000201_000709000001080400_060302080904010705_070005000002090804_080000000100030602,
  0x000000000108000402_080100040207000500_000200050306000901_000700030609040100_090603000004050007_000001020005090306_000408070003000000_010000080002030705_000507060901020000,
  0x010709000802040305_020806030400070900_000403000700000602_090000000206000800_060207080003000409_030508040009000700_000600020008000500_040905000607030200_080300000904060007,
  0x000700000506040102_040201000300090506_090000040102080307_010807030609050204_000402010708030000_000906050204010008_070309060405020801_020100070903060405_060504020801070003,
  0x020305040908060107_080409060701030205_010607030502040809_060502090803070401_030908070104050602_040701050206090308_090104020607080503_070206080305010904_050803010409020006,
  0x090701000408020306_020306010009080005_080405060302090701_070508020604030109_040602090103070508_030009080507000602_060903000801050204_050204030906010807_010800040205060903,
  0x020708050004060103_040905000106020008_060103080002040905_000609010008050407_050007090600080200_080201070005030609_070502040009010806_010806000507000304_090304060001070502,
  0x030607040000000502_080004050009060003_020005070306000008_000300000008000907_050801000700030004_070009060403000100_000000080005070200_000508000600000301_000700030100000809,
  0x080401030902070605_060005040108030209_020309070506040801_010203060709080504_090607080405020103_050804020301060907_070500010204090306_040102090603050708_030006050807010402,
  0x080602070400030000_000503080602090704_070409010503020806_060308040207010509_040207050900080600_050901060308000402_030106020804050907_090705030106040208_020804090705060301,
  0x010000000207000803_000400090501000207_070600000803090500_020000010400070905_000009030000000408_080104070905030602_060803000100000700_090207080300050104_000001000709000306,
  0x020405090003070801_080107040500060300_000000010700050200_050304080006010702_070200000005000000_060009020007040503_010502060300080907_000708050200000400_000600070809020105,
  0x030109080607020405_060708040002010003_000204090301070806_080000020403060109_040302010906050708_090601070800000200_020903060008000007_070405000209080601_010806050704090002,
  0x070102000805030409_000800000904070200_030904070002060500_040608020309050007_020009050701040006_050700040008000003_080500090406010302_010203080007090604_000400000003080705,
  0x000409000700030001_000103090405020807_080002030100090504_090004000000010305_030001000000070206_020607000503040008_070306050901080402_000005080204000703_040200060007000109,
  0x040007090605080302_090506080003040107_080302040701000506_070900060508020403_020403070109060805_060805020304070901_050208030407010609_010609050802030704_030704010906050208,
  0x000003080900060401_060104000203080000_000900060004070300_000508000400090000_000400090300010805_090007000008020000_050000000801030206_000600000709040108_040800000600050900,
  0x060003090204050100_070500030608040902_020400010005080306_030008040900020501_090604000102070803_010205080007000009_040000020500000008_080107060403090200_000902070800030004,
  0x040905020107000008_030600090405000107_010207060308090405_000409010802000006_050306040700010802_080102030506000709_000004000601000003_090003070204000601_000801050903070204,
  0x050000000902010603_000809060300050400_000600040705020800_040002000000060700_060005090200080301_000001070000040902_000008050003070204_000506020407000000_000000000809030506,
  0x000601030805020709_050803070209060104_090207010604080305_080104050302070906_000709040100000502_020300090706010408_000408020507090000_000906080403000207_070502060901040803,
  0x060708010005020903_040105090203060708_020903070608040105_030401020809050607_080209060507030401_050607040301080209_090304080702010506_010506030904070802_070802050106090304,
  0x000703040105090208_050400020800060703_090208070306000401_080904060203010500_000507090400000602_030602050701080904_000106080504020309_040805030902070106_020309010600040000,
  0x040601090003000807_000807000001050000_050903000207040001_060000000904000005_090104030000060702_080000070002000000_000008000106000409_000006000300000500_000400050700010206,
  0x050006080401020900_080401090203000506_090003050706040801_070608000109030005_000300070008000000_040100020300060000_000507060804090102_060804010902000307_000900000500080004,
  0x050706030208010904_090401050607020308_030802090104060507_080605040300090701_040203070901050806_070109080506030402_010304060709080205_060907020805040103_020508010403070600,
  0x030806070109020504_040205000803010709_090107000204000603_060301020907040805_000408000306090007_070902000405030106_080003090001000400_010609000702050308_020704000508060901,
  0x020100080900040300_000708000400020106_040305060201090708_070600090308010504_030009040105070602_010004020006030809_050903010600080207_080200030509060401_000401070802050003,
  0x070009080405010302_080400000003000907_020103070009040000_060002040507030801_040507010308090206_000300060002000704_090201050706080403_050006030800020109_030804090201070605,
  0x000600090801030204_000402060507010800_010908040203070006_080100000600000907_050709000008020603_000300070905000400_040800020000090105_090501080304060002_060200050009040008,
  0x080502000603070401_010007050800000900_060903040107020508_000701020900060304_040306070500080209_090208030406010005_000004010205090803_030809060704050102_020105080009040007,
  0x000000080300070000_070900060501000302_000200070000060001_000008090700000004_090000000004000000_010406000800090703_000701050206030900_030800040007000206_050600030908040000,
  0x040703060809010205_050001070304000609_090608020105030704_000109000502000807_020305000407000106_000804010906050302_000900050601020403_000500040203000900_030402090008060001,
  0x090304050801060207_010805070602030904_020607040309080105_070006030204090508_040203080905010706_050908060107020403_030702090408050601_060501020703040809_080409010506070302,
  0x090208060301070405_050704020809060301_010603070405020809_080900010203050604_040506090708010203_030102050604090708_020309040106080507_070800030902040106_060401080507030902,
  0x030502010904070608_090401080607050302_000708020300040900_050803000402010706_070100030500020409_040200060700080500_020304070109060805_010907050800000204_000005000203090007,
  0x020109040807060305_000708000506000209_030000020901070408_010503070009080604_060804010300090700_070902060408050103_080207050604000901_050406090103020800_090001080702040506,
  0x080907010506040302_050601020304000800_030402070009060500_000304090108000006_010809060205030704_020500000703080100_090703080601020405_060108050402000903_040205030907010608,
  0x040500020108000700_030000000900000800_020801030600000509_000604000209080000_050002080001070000_080100000406050902_010307060500090208_090208010700000405_000005090002010307,
  0x080702030905060401_040601020700000503_050903000604070802_090105040206000708_070300050109000600_060204080307010905_010409060802050307_020806070503040100_030507090401080206,
  0x070605020903040801_010400060705000309_090203040108060507_050906010302070008_030102070804090605_080004000006010203_040507030609000102_000309080201050704_020801050407030900,
  0x000001060000000305_020608000503090401_000700000004000008_000300040000000109_010000000008000500_050407020901030800_060003010407080000_000000000209050600_090802050300010004]
theorem veryEasy_3_ok : veryEasy_3.all fastOK = true := chunkOK_sound _ (by decide +kernel)

end Gen.SudokuDB
