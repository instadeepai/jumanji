/- GENERATED by harness/translators.py (gen_sudoku_db) from /repo/jumanji/environments/logic/sudoku/data/*.npy — do not edit.
   One `Nat` per board (layout: Env/Sudoku/DBCheck.lean); every chunk is run through the checker by the kernel. -/
import JumanjiModel.Env.Sudoku.DBLemmas
namespace Gen.SudokuDB
open Sudoku.DB

/-- `mixed` (10000_mixed_puzzles.npy), boards 5000..5249 -/
def mixed_20 : List Nat := [
  0x050000000701000009_090806000003000700_000000060900000200_030009000000000500_060000070000000400_070500030009000006_020300090008060105_040605000002080007_000000050607040302,
  0x000005070008000000_000300000500000000_020001040003000509_040000000000070001_000003000207090000_070009000004060005_000007000806000403_000004020000000900_050002030400010708,
  0x000009010000000600_070000040000000301_000000000000020800_080400000706000102_000600000000040000_090000030400000006_000008050004000009_000003070000000400_000704080100060203,
  0x080709000400000000_000100000006070004_060204070009000008_000608010702050000_090502030604000001_000301000000040200_020000000500060100_010400060907020000_000006000100090000,
  0x050600000000000800_040100000006020000_000000000408060500_000007000509000000_090500040000070000_080300010700050000_000900060804000002_010800000205090006_000003090107000005,
  0x000000070008000000_000000050201000007_000100000000000506_080002000000050100_060500030002090004_030900000000000000_000006000100070000_000009060500080400_040005020000000001,
  0x010000020007060005_050409060003070002_000000000000000000_000000030009000000_000700080200000000_000500000700000900_000000090300010608_000800040000000703_000901000600000500,
  0x040506000809000000_030000000000060004_020007000600000900_060900010008000000_000301000902000806_000200060307000009_000002000000000500_090003000000020007_000005000400000003,
  0x010004000000000900_090503040208000001_000800070000030405_030600080005000200_000000020004090000_000000000300060500_050000000000000003_020001000000050006_080307000000000109,
  0x000402000003000807_070001050900040206_000009040000000003_020000080704030001_030006020000000000_000800000000000000_040003000809010005_090100070000060300_000000030400020000,
  0x070002000803050000_000600040009080007_000908070501000000_000500000704010000_060804050102000000_020007000300000508_000209000400060005_040000000000090100_000006000905000400,
  0x040705000902000006_020100050006000800_060003070000000502_000600040000050301_090308010205000007_000004060003000900_000000000008000000_000007000000080009_000900000000040003,
  0x000000000300000009_030009000208000600_020007060000000304_000000000800000006_050600020403090700_090001000007000000_080703040009060102_060105030000040000_040000080000000000,
  0x000400010608030500_010008030504020000_030000020900080104_080205040700000009_000301090806040200_060004050003000001_050000080400010702_020000060105000003_040109070002050608,
  0x020100070500080300_000008000000000007_070903000000000200_040000000702000000_080600040305000000_090300000608000004_000800000406070002_030205000100000400_060704000009000108,
  0x000704050302000900_050200000900000807_000601000407050302_000806000000020700_010400000003000008_070002010600030400_040100000806090200_000008090105000600_000005000204080103,
  0x000000060000000900_020006000900070100_080500000000000000_060002000008050001_000001020000090800_000005000000020300_090007040203010008_000200050806000709_000308070000040602,
  0x000200070000060104_000407000006030000_030106090402080705_000604000705000203_070500000304000800_020000000600000407_000700000900040000_040801060007000309_050003000200070001,
  0x000004010800060000_000001040600000308_060008070005090000_000000000708020900_080000000200030000_000000030406010800_050006020004000000_000000000000050000_020800060503000000,
  0x040300000008020709_020007000900000000_050800000700010604_090400050003070006_060008020407000000_070503000800000000_030005070004080102_000000080005060900_000700000000030005,
  0x000200030006000000_090000000508000403_000300000007020005_060000080000030500_000000000904070200_070400010005090800_080000000000060000_000703040000050108_000900050000040000,
  0x000000000004090600_000100000600030002_080009020003040000_000408050100000306_020000060307080000_060703000809010005_000005080001060000_070204000906000000_000806000000020000,
  0x000000020903070000_000000070005000403_030005010400020809_060001000000080000_070800000000060205_000509040600030100_000600090204050301_000103080000000000_050902000000000008,
  0x030008000609000005_060000020100000309_000000030008040006_000406070000050000_000900000000000008_080000000500000000_000607000900000001_050000000007090602_000000000006070500,
  0x030000000200070005_060502090701000803_010407050800090600_000309000100020000_050700000000000000_000000040507060309_080005000400030000_070003020005000904_090604000308000201,
  0x000700000900000004_000003000700090001_020000000000000008_090000050601040803_010000000003000005_050300000209010007_000000000000080009_000009000804070000_070005090100000000,
  0x000300050009070106_060000030004050009_000900080601030200_090000040100060300_000000000307000002_000600000000010008_000008020006000003_020700000003080605_030406070805020000,
  0x070300040600000000_000000000008040007_020904000000000000_080000050009010000_060003000100000805_000509000000000000_000005000700030000_000002000400000006_030801060900020004,
  0x000500090607000400_060104050300000000_090000080400030006_050702010900000304_000300040000080000_040008030005090000_000400020809000600_000800070004000002_020905060103000000,
  0x030100000000000000_000004000003090200_070000050002000003_010600000000040300_040205000000000006_090008060000020000_000403000100000000_050700000006030002_020000070300000600,
  0x010905020600000403_020800000700000500_070406030105020809_060302090800000000_000500000300000602_000001000500030004_030200050406010700_050000000903040000_040000000007090305,
  0x000000050007020400_000300080002000900_070206000000080000_080000040306010200_030002000000000000_000401000000090000_000000070000000801_000000000200050709_040007000508030600,
  0x040000090502000008_050000060000000001_000003010000020007_000300070000000000_000000000100000203_070200000608050009_000000050300000900_030000000001000000_010509080407030002,
  0x020009030000000000_010300090005000700_050600000004090301_090005000000000000_000008010009000500_000703000000010000_030506000008040907_000001050400000002_000000060900000103,
  0x020603000009040000_000509000007020601_010000000000050009_060902010308000400_040107090500030000_000805020004090006_000001080000060903_050006040901080702_000208070603010504,
  0x000004090002070803_020007010400060005_000806050003040102_070400060005010309_000005040800000006_000200030107000000_040001000000000007_000602000001030400_000703000000090600,
  0x000006000007020000_090205030000000400_000703000506090108_020400000300010706_030807000201050904_000001090000000302_070602000000030801_050304010000070009_010008070000040005,
  0x030007000000060002_050200060001030800_000108000003090405_000603050008040001_090802000004000706_000501000000080200_020000000100000300_000300000000000604_000000000000020009,
  0x020001000000060400_030000000002000009_000407000006000002_060000000900000100_070008020600000900_000100000800000603_000200060000040300_000704010500090206_000603000000070501,
  0x040800090100000500_020001000000070906_030000070000010000_010000000007000009_000200000000000601_000608000000040300_050000040002000000_000002000800000000_000004010000020000,
  0x000504000006080000_000000000805000000_020000000700000604_070600000000000300_090002050000070000_080001000200000000_000003000000040708_000100000000090500_000800070500000000,
  0x000600050007010004_080000000200030900_040200000000000608_000108000604000705_020006080100000403_050409000702080106_000000000001000309_000000070000060800_000900020000070001,
  0x050100000208000607_000302070000000804_080000050004000002_000000000600000001_000000040000000900_040009010800030000_030608090402070005_020005000000000000_000400060500000009,
  0x000000000003000001_030500000000000700_060901000000000803_020700010000000409_000000040000070200_000000050000000000_000800090000030004_010000030700080900_000000000400050600,
  0x000002090100000307_060107030500090800_040009000702060000_000000000001000000_000500000000000600_000000050207000000_010000020003000000_000000010000000000_000904000000020108,
  0x000000000000000000_000000000000060500_000901050706000008_000003090005000600_010005000008000403_000000000603020005_080204000000000001_000000020000000900_000000080000040302,
  0x070400000200010500_050600080000000302_020801000705000609_010704020803060905_090508010004020703_000002090000000104_080000000006030401_030000000000050206_040000000002000807,
  0x000300000900080000_000004050803000001_000008000002000003_030001000004000002_000007030000010408_080000000106000300_000009000600000000_000600000000000000_000000090708050000,
  0x000300000107000208_000000000005000300_000000090002050006_000000000208060000_000000010000030000_070209000000010005_080000000000070000_020600000903080400_010400080700020500,
  0x010702000409060503_000005000702000108_040003000001090000_020600000000030004_090300000200050000_070500090000000006_050000070803010002_080200040100000300_030000020900080005,
  0x040000000200070001_020800000701050609_000000000500040000_030406000102000900_000007060308020100_000201050004060000_050000000807000006_000004000005090007_060700000003010002,
  0x010008000000000006_050009000000000403_070406030009000201_000100040006090005_080500090201060304_090604050000020100_040900070502010608_000805000100030000_000001080900040502,
  0x000008060007090200_050000000000070806_090007000000010000_000500000004000009_070004020005000300_000009000800000004_030000080600040000_000000000000000000_080006000401000000,
  0x070005030009060400_000800060000050000_040000070501000309_000003000600000801_000504000100030206_010200040000000700_000400000200070000_050000000700020603_020307080900000000,
  0x020007000900000603_000809000600000500_040600000000000000_000704080000000000_000000070000000004_000008090006070000_000002000807000005_070506000009000002_000003000100000706,
  0x000500080109000000_030001000600020800_000000000500060000_050000000000040600_000800060000030000_000103000700090000_000700050002010000_000002000006050700_090605010007080000,
  0x060300000800000000_050008000003000000_020000000601030900_070806000400000000_030001000207090400_000000060000080000_090004000000060100_000005030000070004_000000040000000200,
  0x030007000208040601_080002030000090000_000004070000000200_020803040001000000_040006080000000000_090000020000070800_070000060003000005_060001050807000409_050000010402000000,
  0x090008000100050004_000000000004090000_000000030009000700_000907000006040001_000000090700000000_020003010005000000_070000000002000000_060305000001000800_000000000003000109,
  0x000105040003070208_000000050001000904_070006000000000005_000601000000040507_030000060000000000_050000000007020306_060000000200000003_000502070000000000_040800000000010700,
  0x000607030200080005_080902070500010403_030105000008020607_060003020000000000_000700000100030800_000504000300000206_000001090700060300_000206000800040700_000000000004000502,
  0x000700000300000006_030200000706000009_040000010000000503_000902040500000300_000000000001000007_000000000900010000_000007000000000001_080506000100090704_020004000600030005,
  0x080900000005000001_050403000107000000_070601000000000000_000705000901040602_000104070000030009_020009000300000000_040000000203000100_000008000409060003_000300000000000000,
  0x080001000000040302_000009030001000805_000403000002000700_030800000005000107_010000000003020608_090000000100000000_000902000000000506_000008050000000200_000000000007080900,
  0x000300000104000007_000008000000040100_000100000009030005_000200060403000008_010003070900000604_000007010002050009_090600000207080000_000004000000000000_000002040000000501,
  0x050803000204000706_090401030706080502_020007000508030900_060902000403050108_070000000602000309_040308000009060200_010009060805070403_080004020307090600_030006040001020005,
  0x090106050000000000_020000090000010000_000007000106000900_000003000009000807_000000040008060301_060000000001000000_040200070600000100_000701000005090604_000000000004020703,
  0x090201050604080703_000503080107000900_070000090302000600_000406000905030201_030000060001050800_050109020803000406_000600000208090007_010000000009060502_020907030006040008,
  0x000009050600020003_050007090002000800_000002000004000900_000003070900080200_080701000000000609_090000060000000001_000000030000000402_020008000400000000_010500020000000300,
  0x090107000000040203_030402090107050800_080600040200090107_010000060008070000_000009050702000401_050704010009000600_020508000900000304_040000030001080000_070301000004000900,
  0x000305040600000102_000100050200040000_040000010900000705_030804020000000900_010006000700000008_050200000009060000_000000070000080000_000000000000000201_020008060001000400,
  0x000600050002090001_000000000009070406_000800060000000002_090000000006010207_000008000000060000_020700030000000008_000903000608000000_000005070103000600_000001040000000700,
  0x000708000503000400_000004000206080503_030500000800000700_000900060000000300_000800000304010009_000001020709050600_000000080402030907_080000000000040000_070400000005020806,
  0x050000000400070600_040008060000020105_010000080005000300_000103000004000900_000004090001050007_070500000000000001_000000070000000000_020600000500000709_000800000602010503,
  0x030105060708000009_000807090402050100_000402010000080706_000700000100090304_000904000003000208_020000080004010000_040209000800030601_000501000009040802_000006040201070000,
  0x000000030200060908_030809070001000000_060204000500000307_000100040907000200_040902060005000700_070000020008000100_000000090006070501_000400050700000000_090007010800030000,
  0x000400060300070009_000000000000040100_070009040502000000_010000050009000004_040200000108050006_000906020400010007_000000030204080600_080500010706090400_030004090005020701,
  0x000000000000000008_000006000900010000_000801060000020000_000100020009040000_000908070004000501_060000000801000200_000000090705080106_000500000006000900_080000030100050400,
  0x030000000200000000_000100000003000900_050002000009030400_000000030006050804_000608000000010003_040000000000090000_070000090000040000_000000050007000008_020001000604070000,
  0x000000090500020407_000000030000010905_000900040102060308_050004020007000100_000800000000040702_000007010904000800_040000060000000500_060500070301000200_010000000400030600,
  0x080400060500090003_020506000908010400_000109000002000600_010004000307000000_000002000400000008_000605010800020000_000900070103000002_000000000000000709_040003000005000000,
  0x000000050200040600_000005090000000000_000000000000000000_040708000005000002_050001030000000008_000006080004050001_080300020000070000_020100040600000300_000509070301000800,
  0x000000080000000000_000900000300060000_000006000004000003_000600020000040008_030007000000000100_000004060500000300_010000000008020607_080700050000000000_060400010007030800,
  0x000602070100090000_090103050008000007_000005000200010600_000004000300000000_000009010000030200_000000040000000000_020900080400000006_010000090000040000_000008060500000100,
  0x040802070300000000_090107000000000204_050600010204080000_020509000001000000_000008020000000001_000400090503070002_000006000002050000_030000000900000400_010900000000020706,
  0x000000030600090800_000600010809070504_000901000005000206_040000050000000700_000008000000040000_010500000304000009_000000000400000000_000109000207000003_070400000001000000,
  0x020603000500000004_000804060700000102_070000020400000006_000000000100020700_000700000902000000_060200070000090000_010000040000000000_080000000000000500_000006030200010000,
  0x000007000509000006_000405000106000007_090100070000050000_060009000000010000_000000000803070609_000000060900030200_000601050700000803_000904000300000701_070000090000000000,
  0x080300000107050209_000701000300000004_000005000002000000_060400000000030001_090000000400080600_000000000000000002_000809000700020000_000602030900000408_000100080006000003,
  0x000000030000040006_010000060004000000_000500010000030809_000005020006090003_000009000308020001_000600000401070500_000700080003060002_000001000900000000_090000040002000000,
  0x000506080003000700_000000000401030600_000100070602000809_090300020000080000_040000000508020900_000000090004060500_010409000000070008_060800010309000005_050203000800000106,
  0x010000070209000000_090705030000010200_040300060005000009_070600000000050001_000403000500000000_000000000407000000_000001040700060000_030900050008000107_000207090001000504,
  0x020003000500000607_060000000002030001_050001000003080000_080006050000040300_000005040000010702_070004000000060800_040900030000000100_030007080104020006_000000000005000403,
  0x030002040000080000_000000090003040000_040506000000000700_000000000200000900_000009000000000001_080000010906000003_000000080004090300_010200000009000004_000003070500000000,
  0x020000010405000008_040700000306000500_030105080900000004_010002060709000800_080306040100050907_070904050800000102_000403000500000201_000200030000080400_050801090000000700,
  0x020307010804050609_010905020300040708_000000070500010203_070000040000090000_030804000905000102_050009030701080406_060100050403000900_000703080102060500_000502000607030801,
  0x080009040000000000_060700000003010500_000503060702080409_000800070000000600_000002000001000003_000000000300070200_020600000408000000_000000000006000000_040901020500000800,
  0x040900000500000000_070108090600000000_050003000100000000_000009060305020100_060701080000000403_000205000700000006_010000030800000702_000300010002060500_020006000900010000,
  0x090105070000080000_020000000005000000_070004080003000000_060200000900070008_030800050000000204_040000020008000000_000002060300010000_000003000800000705_000000000000000000,
  0x020008000000000700_000603040000080205_000100080000060900_000000000508070006_060000000301020804_080001000006000009_090000050000000607_040000000002090008_010007000900050000,
  0x000000000009060300_030600080500000700_000709000300000405_000000090000050007_000903000207000106_000007000600030009_000000070100020604_000800000002000000_000201000000000900,
  0x050008040000000907_000600000000010502_000209000000000000_000005000100040009_020001000004000008_090400050000000100_000700020000090605_000000000908000300_010900030700000000,
  0x040800070005060009_030607020409010005_050901080306070000_010000030007080204_020000000001090700_080006090204030001_000103040700050008_000000010000000607_000405060900020100,
  0x030100020007000500_000506000000030000_040200050300090000_000000000500000300_000300000100060002_000600080000000004_000000000900000005_050908010004000703_000403070205000000,
  0x000005070004000600_000000010506030004_090000020308000105_000901000003040006_040003060102000000_000800000009000003_010000000805060007_050309040007000000_070008030001000009,
  0x000006040300070200_090002010500000806_000000000000040100_000800090105000002_000207000008050000_010500070002080403_000001000800020504_000300000904000000_000000050700000000,
  0x020401090000000006_000008040000000000_030000000007080000_000903080700020005_000000030005000809_000000010000000403_050000070302000000_000006000400000308_000300000000000000,
  0x060700090008000000_010300000402000000_040000030600010008_000407000800000600_050100040000000800_080203000000040100_000509010000000304_000000080900070001_000000000000000009,
  0x000508000000000209_040000050102000806_060200080709000004_000800000904020001_020005070001090400_000000000300060008_000009040003080102_000002090000000000_000000010207030000,
  0x000409070005000000_060807030000010000_050000000800030400_000000060003080000_000000000900070006_000600000008000002_000005000000000703_000300000007040201_020006040300050800,
  0x080600020501000003_020500000004000001_000400090003050602_060300000205010400_000000000000000008_000800000007000506_050006010002000904_030000000000000105_090000050608020000,
  0x080000000000070300_000001000000050000_060200000000040901_020008060500090103_000900030001000000_000000000008000005_050100000400000000_000604010000000000_000000020306010004,
  0x000300000107000005_000700000000010004_050004000009030207_000000010004000000_000005000000000000_010000000508060002_090500000400000000_040801020000000706_000200000901050000,
  0x050700000000000003_080900000400020007_030201000000000000_000300090600080005_000000000300000009_000009000504030601_020503070000000100_040007080005000000_090600000100050002,
  0x000100000006000500_040600050000000800_000500070904000102_080900030507020001_000705000200000904_020306040009080000_000000080700000006_000800090400010200_090007010003000008,
  0x010600000009030002_000000060102040009_040000050003000000_000208000605090300_000100000004000008_000405000900020000_000800000006000000_090000000800060000_020006000000000900,
  0x060004030900080001_000500000401030000_090301050806000002_000702060500040008_000908000000000007_030000000000050000_000000000100000803_000100000003000000_000003090205010004,
  0x000009000200000000_000600000803040900_030008090000060500_000800000400020700_050402000000000001_000001000002000008_000000040000000200_020305000006010000_000004000008090006,
  0x080000000005000001_060500000000090704_000109070000020000_050008000209030406_000601000504000900_000904060800000500_000000000000040609_000300040900050108_090000080601070000,
  0x000109070308000602_070502010006000804_030608000002000007_050003000400010906_000900000000070000_010207090000000508_090001000200000000_000300000009020400_000400000005000009,
  0x080004070000000100_070000000000000200_090001000402000000_020000010003050000_000005000000030701_000007000004080000_000000000001000007_000002090000010008_000000000805000604,
  0x000000000304000806_000008000000030900_030000080500040702_090300050008000207_080407000002050301_000002010703000409_060000090805000100_000005000000090604_010000040007020000,
  0x090000040000080301_070104050800000602_000000010006050000_040001000300000800_000000090008000205_000800000002070100_000005020709010000_000900030000000500_000000000000030000,
  0x020008030007090400_000000000104000200_000006000008000000_030009000002000805_050000080903070000_000800000000020903_080004000009050102_070902010000060300_000005020006040009,
  0x020600000008040009_000001000004000200_000000090000000000_000208000005000000_010705000609080000_000000000700050000_090004000100070006_000100000903000008_000500000000010004,
  0x000000070904020508_050000020000000400_020704050000010600_000800030600000205_010200090705040006_060009000402000107_080305000007060000_090401060503080002_000000000000000001,
  0x010904020000030807_060007000000000000_000500070000040000_090005010000000700_000203060000090000_000000000003060000_080000000002070000_050002080009000000_000700000100000002,
  0x000502000603000408_010800000000020307_040307080201060509_020003040100070900_080005030700040000_070100000506080200_000409000807050106_000701000400000800_060208000005090000,
  0x080900050000000000_060105090000070000_020004010300000000_000000000000000000_000807060001000000_000000080003040009_000000000000050002_000002000400060800_000000020009000700,
  0x030200000000000500_070900000200000004_000605000400000007_040009000000010800_000102090000070400_080006050004000002_020003060800000000_060007000903050108_000800040507000600,
  0x000700090004010600_000000000700000500_040609050002070003_030407000005020006_000100000000000700_000005000607000400_080206070401000005_070503060000000000_010900000000060000,
  0x080001000000000306_000003000400000200_000500000000000000_000300000700000900_040200000008000000_000000000006030401_020000060007000000_050900040003000702_000600000800000009,
  0x080400000001030005_000001050204070008_000700000000040000_000200010500000300_000008020409050706_040009000603000201_020007000005000003_050003060802010007_000000030000000509,
  0x000001000700000006_090507000600010003_000004000103070500_000300020800000001_000000030000040000_080000000000000005_050900000004000007_020008000500000304_000400070000050000,
  0x000000040000020900_010000000900000600_000007000003080000_000009000601030000_080600030400090001_000001050809000000_090000010706040008_000000000005000000_070002000300000006,
  0x000901000800020000_000605000000000000_040203000006000000_050000080604000300_000806050003070001_020304000100000005_030000000701000009_060400020500000107_000002040309000006,
  0x000005080009000700_030002070401090600_000001050200040008_090000000000000001_060208010000000004_000000000904000006_000400000005060007_010009000607080000_080706000002000400,
  0x000903000200050800_000000050309040700_050000060008090001_090500000000000203_000002090506000104_070104020000000000_000005080900000600_080009000600010400_060001040005000000,
  0x060200000307000500_070500000800030100_030801000006070000_000000000409060800_040902060000050000_000607000000020409_020108000000000603_000003000600000200_000400000200000000,
  0x040000000009080100_010809000004070200_030006000102040000_000000040800010000_000000000006000000_060000000000020807_000000090000000002_090000020400030000_070300000501000000,
  0x000003000602070004_000400000807000306_000008000000000005_000900000000060000_000000040000010003_000000000908050002_060004000001080500_000000000500000200_010500080200030009,
  0x040000090200080000_090006080000000001_000803010605000000_060302000900000000_080500000001090006_010907000000000300_050600000102070800_030000000000060000_000000000006030000,
  0x000000000009020500_010500000000090004_030002000400000000_000300000000060000_000000090004000301_060401000000000200_040100000802000000_020005000900040800_000800040506000902,
  0x000508070009000004_070002040001000800_060001020000050907_020000000007000000_000000000002070401_000704000003090600_000100000704000008_040003080005000700_090000000000040005,
  0x000000080603000409_000600010700030805_000900000005000601_000000050100000008_030205090400000107_000009000007040502_000102000506080004_000506020800000900_040008000901000000,
  0x000900000001060007_060403000007000000_010000060004000300_040002000003080000_000800000406010709_000600000000000003_000700000309000104_000204010000030506_050000040602000900,
  0x000804010706020903_060009030800050007_000703050000010806_080000000507040109_090500040108000702_000401090003000500_010600020400000005_040007000300000600_030905000000080004,
  0x010008000300000009_070000010004000200_000400060200000000_000900040005000702_000100070800090006_020800030000000500_040600020501000807_000700090000020605_030000000000000001,
  0x000000050007090000_000006000300080005_000000000000000002_030200070000000000_000400000002070108_070000080506000300_000000000000060201_000601020000000007_000000060100030800,
  0x000600040803000102_070204000000050800_000000000500000000_000507000009000008_000301000008090000_000900050600030000_010006080000000005_030002000000000701_000009000207080006,
  0x000300000006000500_000508030400010602_000600000905000308_080000070300060200_060004090500080003_000000000600000007_070900040203000801_020401000009030000_050803060001020000,
  0x010700080000030600_000500040000000008_000009000007000204_060003000001000800_000100030008040700_070802000000000003_000000070200090301_030007000800000006_000000000006080500,
  0x000300000006090502_010000040002000000_000007080500010400_070601000005040803_000000000608000001_000000070100060000_000002000007000104_000000060009030200_000700020800000009,
  0x000800000600020000_090706000000000000_020301000004000006_060100000008090000_080903000500000000_000000040309060000_010600020003000800_030000060000000200_000400000000000003,
  0x010005060009070403_000800000000050001_040000000000000006_020100000008060000_000400050000010000_050709030001040200_090300000106080500_080500070002090004_070600080900030000,
  0x040900050700020601_060700000000000800_050000060200000704_000006000300000407_080003070000050902_000007000501060300_030000000000040006_070200000106000500_000600000005070003,
  0x000900060204000500_000801070003000002_060002000008000703_010008030600090000_090605080402070301_030207000905000000_050009000701020006_000106000809030407_000700020306050000,
  0x070000020103080900_030000070006000104_000801000405020000_000300040008000701_000007000002000408_090008000701000502_050000080004070200_000200000007040603_000006030009010005,
  0x020600000700000800_010300000000000000_090507030100000002_050003010002060009_000902000000000300_000400090600000007_040009000301000000_070206080000000104_030000060400020000,
  0x000200000003050100_000003040002000000_090000080000000000_000009020000080001_000706000000000500_030801050004090200_000000000200000700_000900010405000000_000000000006040005,
  0x000004080300070605_020508060000000304_000706000001020000_000002030000080701_000400000700000000_070800020000000000_040007090000000800_000005000000060009_000009000204000007,
  0x000005000100000607_030000050200040000_010004000900000302_000600000700000400_090200040000000008_000007000003000109_070409000000000006_060300000009010005_000102060000090000,
  0x000001090605000004_060000030702000105_000503040100060209_010000050000000800_030200000000050000_050400060000030001_000000000000000500_040006020000000008_090705000400010002,
  0x000007010009000300_000000000004000000_040901000002000706_000000040200070000_070000090000010804_060804070000000000_010000060000000408_000409000000000100_000000050400020000,
  0x000000020100040900_040900030000000106_080001000004000000_000500000000000800_000200060000000500_060007010500020009_000004000200000000_090106000003050702_020803050000000400,
  0x000309040500070600_000000010000000000_000000000000000508_000004000903000001_070000050001090000_000003000002060005_030000000100050206_000908000605040007_050001000004000900,
  0x000100000407000006_000602000500000008_000507030200010409_060005000000020103_030401000000000000_020000000001090500_010306000000000900_000000090100000000_070209000605030001,
  0x010004070306080500_000807050009020000_050009040200030000_000006000000090200_020008060907000004_000400020800060700_000005030700040000_000700000001000003_080000090004000600,
  0x070000000902060004_000000000500000000_090100000600000000_010000000003000000_000009000700000305_060005090200000000_030400080100020000_000900000000050000_000807000400030006,
  0x000700000800000900_060803000000000000_000400070200080000_000200000704010000_090100000000050000_080600000305090007_040900080507020100_020000060000000800_070008030000060400,
  0x000807000005000400_000900000200000600_050206010700000000_040000000000000100_070000000000090000_000508060007000000_000005000001040800_000009000000050201_000001050900000000,
  0x000901030802000406_050408000000070003_000000050000000109_080009000500030000_040600000009000508_000000000600000004_000000080200060307_060004000000020900_020307060005000000,
  0x000000080300060209_030000050102080407_020700000406050001_060000000000030008_000800000000070000_010000000800020004_000900030705010802_070100000000040503_080005000001090006,
  0x070000000000000000_040805090000000000_020300040000060708_000900000002070500_050003060008000002_000000000507080300_030007050000040201_090500000001030807_000208070300090600,
  0x000000000000020000_000002010700000405_040000000203070008_070800000002000600_000000000300080009_000409060000050000_090000070800030002_000000000005040900_000001000004060007,
  0x000008000902000007_000000080000000006_000200040005000000_030006090500040000_050401000806090700_020700030000000000_040905000200000000_010000000304050908_080307000109000000,
  0x020500010000000003_070006020803040500_010008060405000700_000705040306000000_060000080000000405_030002000000080600_090200000600050100_000001000000000300_000003090000070204,
  0x010008060000000007_090400000001060008_070000000000050000_020001000009000000_000800000003000709_000000000000020800_000009010000000000_000102000007080000_080006000500030401,
  0x000500000408000006_030802050000000004_000104020900050000_000008040006000000_000000000001000200_000207030000040600_000400070000000500_000001000000000009_020003000000000708,
  0x050007000008000000_000000050000090000_000000070600050301_060003090200000405_000005080006000000_000900000000080607_030600020700000000_000009000001020503_000502040309000100,
  0x000007090000050200_050200000006000000_000903080005070001_040000000000010500_000000070400000600_020700060000080004_080300040000000705_000400050807000102_000100030000040900,
  0x000604030001000000_050200040908000103_000801000602050000_060400000000000308_010900080300070000_000000000000000400_020000000007040006_080500010000000207_040709000206000000,
  0x080207000003000400_000501000000000000_000600000000070100_000100000008000307_000000040000090000_000906000200000001_000000000302000000_090000000400080600_010005090800030000,
  0x090200000005000706_000100080207000503_000000000600000802_010803000004000000_040000000000000008_000007060908000001_000000040700000100_000409000800000300_000000050000080004,
  0x000000060100000205_010603000200000409_070502090008000003_020400000700000300_030000000000050800_000000000000000000_000204000307060001_060000010500000908_000000000009000002,
  0x080005000006020400_040000000800060109_000900010300000705_000000070008040001_000004000000000207_010700000000030000_000409000500070000_070500000000000900_060201000900000008,
  0x000500000800000003_040000000000070100_000009010003000000_000008000900000006_000000080300000009_000000020004000000_000600090400000302_000200050700040000_000004000600090800,
  0x000007000905060000_000400030000070205_000305000204080001_010000050807040000_000700000009000000_000809000000000007_000006090400020000_080003060000090000_000000020008000500,
  0x000000000000030000_080003020900070600_000006050300010008_090700000205000000_050002010603080700_030600080709050004_060000030502040000_000500000000090000_010300090000020506,
  0x000005000100030000_000008060700020105_000000000000000000_000000070003000400_000800000600050000_040700020009000008_080000000000040000_000500080900000200_030007050002060800,
  0x050006080009000000_000000000000050004_000000000003000006_060009000705040201_020004000000070009_030100000904000008_000900050006010700_040001090300000005_000005000002090003,
  0x000700020504000900_000000010000000000_000003070000060002_000001090700000008_070500000008090100_060000040000030007_090800000403050000_000200000900070000_010600000007000000,
  0x000209050000000000_000100000008050407_000700000000020001_070800010900040500_010904020500060000_060300080407000209_000000060000000004_090001070305080600_000000000002000000,
  0x000700000908020005_060204000005000803_000500000003000704_000607080500030000_000008000309000500_000000010000000008_000401000000080307_000800030000050001_000000000000000000,
  0x010600000007050003_070300080001000004_000000000000090000_000500000000000400_000901030706000200_000703000005000006_000007000200000000_090205000300000100_000000010609070502,
  0x000300020800000001_000700030000020000_000900000006000004_000106080004000007_050000070600000100_080207000000000000_000000090000000400_000603040705090002_000000000203000700,
  0x000000050000000608_050200000806000300_000000000000000407_060000010000000200_040705000200080006_000002060005030004_020504080003060001_070000020500090803_080900000001040000,
  0x070300000005000001_060201000704000908_000000060100000304_020000000400000000_040908020001000000_050603090007010000_000006010000000000_030500040609000000_000000000200000000,
  0x000809030006000400_070003090401060200_020400080705000301_080602000009000703_000100070600000800_000005040008000602_000908060003020500_000200000000030900_000307000000000000,
  0x070008000009000600_000000000400000509_040000000008010703_010600070000090208_000007000000000006_000309000600000400_000201000500000000_000000020000000904_000800090700000100,
  0x000006010000000000_050401080009000000_000000000000010800_000004000000020007_000308000400000601_010700090605040008_080107040900000506_000005000700080000_030600000108070000,
  0x000003080900070004_000105000403000000_070004010602030500_000402000008000607_000700040501020000_030000000200000401_060309000000000705_040000050000010300_000001000700040006,
  0x000002000304000900_000700000001000400_000008050207030001_050000000803000209_070309000002060008_020004090605000003_090001000506000004_030005000000090106_000000010009050300,
  0x050403000700000006_000009000000080000_000108000000020000_040900000000010600_000007010900050302_030500000000040007_000200040300000001_080700000006000200_010005000207060009,
  0x030004090000070600_060007040201030500_010500030600040208_070000000500090003_040900000302050000_000103000009000007_090006000004000302_020005080000010000_000000020000060705,
  0x050603000000000802_000900050300000000_000004000000000705_090800060400000100_000000000000060008_000406000007000000_060100000508000000_000002040700000500_040500000900000200,
  0x000000080400030009_030600000102040708_090408060703000205_000200000500000403_040007000000020001_050301000904000007_000700050209080104_000800070301000000_000509040600000002,
  0x050001000000000600_000607050903010200_030402060007050800_040205000000000900_000000020600000105_000006080405030002_060700090500080300_000800030004000500_000503000000090000,
  0x000001000000030000_000500020700010900_020000000901050000_000000000008090002_000000090604000105_090000000000000004_000007000000000001_000200080006070000_000008050100000000,
  0x000002070001000004_000000060200050008_070308000904010006_000400090000020500_020007010000080000_000003000700060100_010700030609040802_030000000000000901_040200000100030000,
  0x000002090007000500_030507000000040009_090000000600000002_020900000000000008_040800000003000000_000005080906000204_000003000200000000_080009000301020405_000204000008090301,
  0x000000000301000005_080000090000000102_000100000402070803_010006030004000900_020000010008030007_000300070006000501_000001000603000009_000900050007010006_000005020000000700,
  0x000300000000000100_010005000309020000_000000000005060000_000000040701090600_030004050006000800_070000080003040001_090201000000000400_040706000000030205_000800000004010007,
  0x000003000004000000_010000060800050000_000000000001020000_000807000000030509_000000000300070400_000302000709000806_030408000007060000_000005000900000003_000000030400080100,
  0x000000000000010000_000100080406000000_000004000300080000_000600020108000007_000001000003000809_000007000905030000_010000000009020300_000306050000090000_090000000000000600,
  0x000400080000020000_000601070400030000_000000000006040700_090200000700000000_060000090200000407_000507000600080000_000800000001000200_040000060800000001_010009000000000308,
  0x020900000708030501_000001050000000604_030400000000070800_060300010002080709_050209000800000103_000700090006000000_040003020607010900_000100030005020006_000602080001050000,
  0x000005000607090000_000700000000010600_000600000400000500_060007050000000109_090802010300050006_050400000000000008_010000090800070004_000208000003060000_030000070006000001,
  0x060200000500010407_010007000008000005_000900070000000000_000800030000000100_040002000000060300_030000000900020000_080009060300000201_000004010000090000_000300050709000000,
  0x020705000006010900_000406090105020007_000108000703000005_000904000300050702_000000010004000006_060003000500040000_000000030000000000_000609000400000200_000300050009000008,
  0x030005080402060009_060408090000000105_090002000006030000_020806040000010000_000907000005000602_000003000208000904_070300020600050001_080201000009000006_050604000800090007,
  0x000400000003000006_000601000204080000_000500000806000304_000000000302000000_000709080500000000_000200000007010800_000304000008090001_000900000105000402_000100020009030608,
  0x080200000000000000_000100000305020800_050000020000010906_010002000000060307_070603000502000000_040008030700050001_000405070100000000_030000050004070000_000701060203040000,
  0x050003000000090600_000700000000040000_090004000000000002_000000000700000000_000906000008050407_010000000305000006_080500000900010003_070400000200000800_000000000807020000,
  0x020100000000060007_000000010003020004_030708060000000100_090001030000050008_000000000000030609_050803000009000201_040206070500010900_010907000000080006_000305090006000002,
  0x020700000403010009_050000070001000000_000000090208000003_030001020004090005_080204000905000007_070005000806020304_090000000000000000_040502060100030000_000003000000070200,
  0x000008000600090300_000004000003000000_000206040500000701_000901000705040203_060000000300050000_000005000004070000_000803000000000600_050009030200010008_000702080000000905,
  0x050000030108000000_000108000000000000_000000000004050108_060004000300080005_000500000609040301_000901000000000006_090000050400010003_000300080201000000_010400090700000002,
  0x090408060503070002_000300000000040008_060200070008050000_000000000800000209_000100000204000005_000003000009080400_000906000002000500_030002000100090007_010804090700000006,
  0x060000080100070304_000001000706050900_030000050904010000_090002070001080400_000708000000000600_050003000608090007_000000000807060500_080500000000030001_000100000005000200,
  0x000000010002060008_040600030907000100_000102050000000900_000206090705000800_010704020800090000_000905040301070602_000500060100080000_060407000500000000_090801070204000306,
  0x040000000000030001_060000050008000000_020000040000000600_000000000003050009_000507060100020000_090002000000000000_000001000000000506_070000000006000000_000609000002080300,
  0x000301020605080400_000508000900030100_060000000108020700_000000000007000200_000607000000090000_090000000003070504_000900040701000002_010700050009040800_040000080306000007,
  0x070000000904000002_050004000006000701_020006000008040500_000600000201000008_000208090400000600_000703080605000209_060400030100000000_030509040002070006_080100060509000000,
  0x000000040103000006_060002000507040301_000100020008070005_000003000401090700_000409000206000000_070200000800000604_090000060005020008_000700010000060009_040006080902030107,
  0x080001000002090003_020503070000000001_070906000300000000_030000020004000005_000009060705040000_000705000900020006_050800000400000609_060100090203050004_000004000006000207,
  0x020000080400000000_050603000900000800_000000000006010000_070500000003020001_000002070600080009_000006090500070403_060000030008000207_080000000000000000_030700060204000000,
  0x090300000002060504_060200090004010700_000700000508090002_020100000009000003_040907020003000000_000803000000020900_030400080005000000_070600000201000005_000502000000040109,
  0x020107000600000000_090000000000000100_000000030901080007_080400050206000700_000500090700040800_070200000000050006_000800070009000000_030000000004000000_040001000500070300,
  0x000604000508000009_020509000000000008_010800000004000503_000006080300040000_000000000000010807_000000000000000000_000700050000000304_000200040600050700_040005070000000002,
  0x090100000000000008_050000070000000100_000408000600000503_000000000000000900_000000040900060000_000009030701000000_060001020304000000_000000000100000000_070903060500000004,
  0x090000030008000700_080103040507090200_000000000201040000_010605020000070400_000900050400080000_030408000700000002_000009000002000004_040000060005020907_000307000004010600,
  0x000400000800090600_080000000506000204_070002000304000001_000000060903000005_040000000005000006_060000000001030002_000000000000040100_000508040000060300_090004000600020507,
  0x010500080000000000_000200000006010900_090603000400080000_000000000800070500_000700000000020009_040000020007030000_070100000003050000_060400000700000300_000000000200000607,
  0x070000050009000008_000000030000000001_000006000004090005_040800000200000000_000207000400000000_000901000305000800_010008000900050700_000300010000020906_090000000503000000,
  0x020000050001070309_070005000403000100_080301070000060000_010200000009000005_040000020705030901_050709030000000000_090802010000050000_000004090007000003_030100000006000002,
  0x000009000000030500_020407030000010600_000000000001020007_000102000800000000_060900000700040002_000700090000060000_000800070009050204_000004080100090000_000506040002000000,
  0x000205060403000807_060307000508000201_040800000107000305_070904000205000608_000502000006000900_080100000004070002_020008040609050100_000003070000020409_090400000300000706,
  0x000806010000070000_000000000800000004_000201000000000809_000908070000020000_030002000901080005_000004000000030000_000007000005000308_020100000000000000_080500040006000702,
  0x000100000005000609_070000010000000500_090006000807040000_000005000000030108_010400000003000000_000807000200050904_080000050700000200_000902030000000007_000000090602000005]
theorem mixed_20_ok : mixed_20.all fastOK = true := chunkOK_sound _ (by decide +kernel)

/-- `mixed` (10000_mixed_puzzles.npy), boards 5250..5499 -/
def mixed_21 : List Nat := [
  0x090300000600000000_000000000004000009_000000000300050608_000000000900070200_060500000000080401_000002000000000000_010700000002030004_020800000400000900_000000080000020000,
  0x030708060000000100_010000000800000407_000000070102000000_050000000200000703_000000050600090002_090002040007060000_080100000400070200_020300000005000000_000500000000000000,
  0x010000000905020000_000002080306000700_050007000402030000_060500030000080209_070009000100040603_080000060000000000_000706040001090008_030000000800000402_090400000003070100,
  0x000406000100030000_000800000600070000_000100040000050009_000307050001000400_060001000002000900_020000000007000000_000000070500000008_040000000306000200_050000000009000700,
  0x000306080000070000_000000000400000005_040009000005060803_060002000900010000_000807050300040000_000400000008050000_000000000000000000_000900030007080600_000700000000090001,
  0x000001000200040800_000004030000010500_020000040001000603_000900020100000000_000200090400050301_000000060003090207_000000080604000100_000008000000020000_000403000002060900,
  0x050000000900020000_040009030000080507_000000050004030100_000003010400000000_000500020000000300_000600070009000004_070000000000040000_000406000503000002_000000040007060800,
  0x000900060000070000_000008000001040000_050007020900080003_090002000005010000_010000090000060007_000003000007090002_000809030000000400_030500000800000000_000001000706000000,
  0x090000000200000700_070006090100040200_000103070004050008_050000060003000107_080901000500000006_060007000409080502_000700050901000600_010009040300070805_000002080700000009,
  0x020001000008000900_000407000000020000_000800070001030400_010000050907000000_070008030000000000_040500080000000709_000002000000000500_000005020004000003_000000000009000008,
  0x000200000600000009_000900050000030006_000000090108020405_080000060904000503_040007010805000002_090600070000040100_020001040006050000_000400000500080001_000000080000060000,
  0x000007040805000000_000900000701000506_050400000000000800_000000000300000708_000306080100050400_070000060504030100_000705010200000600_000003050608000001_080601070409020005,
  0x000407000003000605_000000000109040000_000209000506000000_000000000400030100_040600030002000500_050000000600000000_000700080204000000_000508000000020000_020004000007060908,
  0x000000000200080004_080000070000010900_000300000401070000_090003020006000000_000200090000050700_000001050804000200_000902000000060000_000004030000000001_000000040007000003,
  0x000008000105000000_050000000604000200_000406080300000900_000000050009000600_000000060000000107_000002010408000003_000300000000010800_040000020801000000_080009000000020000,
  0x000405000109000200_090302000000040100_000000000302050000_000208000000000700_000009000207010004_050001090804000000_000000030700000000_010000000400000007_020000000000000001,
  0x000406000700000000_030007000000000001_050902060103080407_000000000802060500_000503000904000002_000000000600070304_090108000200040000_000005000400000000_000604090301050008,
  0x060800050000040709_000704010009000302_020300060000000100_000400000000000008_000000080000000000_000900030400070200_000500040108020007_040000000000000003_080007000006050004,
  0x090003000001080700_000000080000000904_080000000005000001_000300000106000000_050008000000000300_070001000803060005_000906000000020800_000005040000000100_000000000009000000,
  0x000000000000020000_030100090500080607_020600070003000500_000002050000000001_060500000400090000_000901060708000200_010009040207000806_000000010000000300_050007030000010904,
  0x090503000000020000_000000020004030008_080204030005000000_000700000000080300_000100000600050000_050000040700000006_030006050001070800_000005000208010600_000000000007000000,
  0x000000000000000600_000000090006010002_060004000500000000_000001000600000809_000608030201000700_000200040800000006_020000000007060400_000003060904050200_040700000102000300,
  0x000006000000000700_000800000004000000_050000070109060208_080000000600000000_030001000900000005_040605000701000802_000300000007080000_000507090800020001_090000000400000003,
  0x070000080002040000_010000050004060000_000000000900000802_000001000000000209_000609000001070400_080005090007000601_000307000400020100_090004010708000006_060008000003090004,
  0x000500090000010000_000800070501000009_010000000000050000_000000040000000000_000600000000070003_080900000003000005_000408050900000106_000006000800090402_090000060300080500,
  0x090000050006000000_000000090300050100_050001000000000003_070000000009020500_000000000000000301_010002000800070009_000407000901030005_000008070600000000_060900000000010000,
  0x080000000200000000_070000000403000800_010004060000000507_060003000009000000_040702080005090103_000000000100070000_000500010000000900_090000040307000000_030401000002080700,
  0x000800040006030005_060905000000000208_000004000000000000_000709050000060002_000506000000000907_030102000000000000_000000000005000700_000000080000020003_050208000300090006,
  0x050400000800000300_000009000003000506_030800000006090204_020004050700060908_090105000604020703_060708020300000000_080502010407030009_000903000208070000_010007030905000002,
  0x080001000300000604_040009000000050802_000200000800030000_000000000009060007_060100000400000500_000000050706040000_090003060208010005_010400000007000000_000008000004000000,
  0x000800070003060200_000102000608000004_030609020000000007_010500030809040602_000203040500070009_000406010002050300_000901080305020706_060008090200000405_020705060400000803,
  0x000300000607050100_000508020000070006_000000080009000003_000001000008000000_000600010700080402_050000030206000000_000000070802030004_000700000000000800_080002050003090000,
  0x000709000000080600_000000070005090000_000400060009000305_060000000002000703_070804000001020000_000300000900010000_000007000000030000_000106090000000002_090203050000000100,
  0x000300000700020508_000700000900010603_000002010000040900_020000000807030000_000000000000000006_000000040006090700_000907000103000000_000200000000070100_000100000600080300,
  0x000000010006050907_010000000000030608_060000000009020000_000300020004090806_040001000608070300_000900000307000000_030000000502010000_000005070000000003_070002060003000004,
  0x000000000002050700_000000070300000000_000000000000090002_040700000009000005_000900060000000204_080002000000030000_000000000600040000_000000050704000108_050400010908000307,
  0x000700010000000602_050100090602000703_000206030000010800_000804050209060300_000007080004000000_000000060001080000_070005000000000100_080409000100070506_020001070000030008,
  0x050001000203080604_030006000400000009_000000050609020100_000805000006000000_000300020700060900_000000080000030000_090100000307000200_070000000000000800_040002090000000300,
  0x030508000000000400_000400000005000000_010002000006000300_020000000000090007_000000010902030000_000809070000000001_080200050609040100_000004000300020000_000103000000050008,
  0x040809030501000002_010000000007000809_070000020000000001_000300050900010000_000100000000060004_060007010000090508_000700000000080906_000000000008000003_020000000000000105,
  0x010000000900030000_060000040803000000_030009000005000000_040600000200000100_000100060009080000_000800050400020003_050906080300010200_000000000500060907_000201000600000000,
  0x030908060000010002_050106090800070403_040700050000080609_070200040103000006_060304080005000107_000001070006090304_000005000704000908_000407000000060201_010003020009040705,
  0x040000000700000900_000000000000080006_060105000008000400_000900080601030500_030000000000010007_000001070305020600_010007000000000000_050000000002000708_000004090800000000,
  0x030000000900000002_000900020000070300_040000000007080009_050400000703020000_000100090200000007_000000000800040000_010000000608000004_000200000100030008_000800000302000000,
  0x000307000001050008_020001080509070004_000500000000000900_000000000008000003_010200090000000800_000400020703090000_040000030900080206_000006050800000001_070002010000000509,
  0x090401000706000000_060003040200000000_000000010009060004_020900000000000000_080000000904000002_000107000000050009_010006000000000507_000000000000020006_000000090601040003,
  0x000007000309040000_030000060000080007_020501080004000009_090100000000000608_000600090000000000_000700040600000200_000305000000000000_070900010200030000_000008000900050701,
  0x060908050700020103_040005010802000709_070201030906040805_000609040105080307_050007080600090002_080400090000050601_030502000401070908_090006000308010500_010804070009030206,
  0x090407050206010008_000800040900060702_020000010708050009_000000000507020901_000002030809000605_050900000100030807_080500000300000100_060001000405000003_030000080600000504,
  0x060001030800000000_000000010007050000_000000000000010600_070300020500040901_000100090000000000_000000000301000002_000800000002030405_050006000103070000_090000080705000106,
  0x000200000009000000_080509000000060100_070600040100000902_000000000000000009_060000030907000500_030000000000000007_000006090000010000_020300070000090000_000700060504020300,
  0x040007000800000002_000100090300080000_000906040000010305_000000060900050200_000004020000000006_000000000007040000_000003000000020000_010400030600070000_090000000201000000,
  0x080400000005000100_000000080709000400_060900000000080000_000609050007000002_000800040000000900_010000000006000000_090000000000030000_030004000601070009_000700000900000601,
  0x000002010000000700_000000000500060901_000100000000050000_000008000901040000_000000070602010000_000000040800000200_000300000400000000_050000000200070009_080000050109000000,
  0x000004000300000000_000700000900040000_090800000402000005_010006080000000700_000008070100050000_040300090000010802_000100040705000203_070200000600000104_060000000800090000,
  0x070004080009030005_020309000000000800_000600010000090400_000800030507000901_010705000008000002_000003020000070508_080200040703000009_030001000000000004_090000050001020603,
  0x030000050004090000_040507000006000002_010006030008000705_000100090007000800_000300000000000604_080002000003010907_020001000300070008_000700000001000009_000003000005000001,
  0x000300000700050004_000000000600000002_000009000400010000_080006000000030000_000003000108090400_000000000009020000_000008040300000001_010000000007000009_030004000006000508,
  0x000408050206090003_000500000009000000_030009000001000008_080200000000050309_070304000000000200_000000030800010007_090700000004030000_040800000003070002_050000020708000004,
  0x000809040000020000_000000000600000000_070006030000050800_000003010805000002_000105000000000908_040008090306010005_000000000000000204_000004000000060007_080000050000090000,
  0x000005000004000209_000900000100000004_060000000500000108_030401050000090806_090800040300010700_070500000001040000_010208030405000007_040700010002080503_050003070008000401,
  0x000000000004000007_000600010903050402_030004000700010006_010500000400030000_000000000500000109_080409000001020005_000205030007000000_040801000005000000_090300040000000000,
  0x070002050809060003_000300020004000509_080500010003000402_010900080005000704_000700000400030801_000004070200000000_090200030100040600_040007060500090308_000003040900010207,
  0x000001070005030002_060000000900000004_000009000000000607_000002030000070000_010000000000000000_040000020506000000_000000090700000001_000000000000000006_000200000001000000,
  0x090700000100050600_000604000700000100_000108000004000002_000400000901020000_070200000006000800_000009000008000407_030502000800040706_060807020003090501_040901060007080200,
  0x000309000400080702_080007000000040001_040206000800000300_000800000703000106_070100000600000008_000004020000000903_020401000000060009_060900010000000000_000000080000010000,
  0x070000000300000102_000900070802000604_000200000000070003_000007000100040000_000800090007000005_000009050000000708_000100000009000300_050706030200000400_000004000700000001,
  0x000408030001090506_000209040005030700_000503080000000200_000000000900000104_040901050300080000_000006000000020000_030005020007060009_000000090004000005_000000000500070002,
  0x000000000000070000_000800020000000309_050007090000060200_000005000600000907_060000000000080100_090000000001000406_070000000000000500_000009000002000600_040600010008000700,
  0x020403050908010007_090700000003050004_000806000000000000_000000070006000201_030002000509040700_000004000802000006_060209000100070000_000000060200080400_040508090007060102,
  0x000804030000070209_000600040002000000_030001070000080406_000506080000000000_000000000009020008_000008020307000000_000000000000060001_000700050600000800_060005000000000703,
  0x010004070000000506_000700050008000402_050602000000080003_000000000000020309_000000000000000007_090200000407060000_070900000005030008_020400000306000000_000300090000000004,
  0x060008000200000709_010900000705020600_020507000600000408_000003070000060800_000006050002000007_000709000301000502_030800000900070100_070400000100000300_000601030000080200,
  0x000700000306000002_000800070400000600_000503000800090400_000000040000070509_000000000600000300_000402000000060108_070000080004010203_040001000200000000_000200000000040700,
  0x000001000800030200_000000000002000900_090800000001050700_000005000000000400_000000000000090000_000400000309080001_030100000506040800_000206080000070000_000500020000000300,
  0x000000060904050100_000600030500000200_010500000008000406_000000040000000000_080306000009040705_000001070803000600_030700050406020901_000005090302000804_000002000007000503,
  0x060005000000010009_030900000000000500_080000000400000300_090704050000030000_000008010704090006_000000000000050007_000501000809000000_070000000201040900_000609000507000008,
  0x080200060005000100_050000000000080000_000900000801000006_000801000400060200_060007080000050000_090002000006040000_000000010003000408_010005000000000600_000008070000000900,
  0x020809010403070506_060403070205010008_000005000000020304_030607000901040002_010008020304000005_040002000800090103_080704000100050609_090301040500080007_050006080709030401,
  0x000408030005000201_000007000000000600_000100020700040508_000300070001000000_080000090306020400_000209050400000007_040802000100000000_000000000900080700_000000080000060100,
  0x000000000009000003_030007000500000004_010000000004080000_080201030005040009_000600040000000001_070004010802030600_000000070200010400_000006000000000000_040008000000000000,
  0x040701000006050000_000000010004000006_000006090000070401_000000000005010000_010900000200040005_030600040801090002_000109030000000007_000000080600000009_070000000109000300,
  0x000000050601020008_000600020004030000_080000090000000600_010306080002040500_020500010000000700_070009030400000000_040100000000000306_030000060008090100_060905040100000000,
  0x020001000305060000_000600000700090500_040005090006000003_000004000000000000_000000060900080300_010809070400000002_000103040602000905_090206000500000008_050007010800030006,
  0x000008090001030002_000000040203000608_000000050000000000_000000000100000400_000600000900000000_090001070300000005_080107000000000306_060300010000000000_000009000006040100,
  0x020000000005000600_000400000100070902_090000060204010005_070500000006000000_060009040301000000_000000020500000000_000100000809000500_040000000000000807_000607000003090000,
  0x090108000003000405_030607090000080100_000000000801030000_000000000000000503_000004000007010608_010003000000000207_000000000002060301_040000060005000009_000206000009050000,
  0x070509060300020800_000004090000000000_060000070400030001_000400020600090003_080000000500060000_000900000700040008_040002000006000005_010000030004000000_090003000100000000,
  0x000000040300080000_000400000000000601_000306080107040209_030201060009070000_090600000800010000_000000000200060000_000003020000090408_010002030000000700_060004000005000003,
  0x000004000000000000_000000060000000002_000007000300080400_000200000008040000_040000000009000801_000008040003070605_090000030007050104_000400000500000000_070005090000000006,
  0x000702000800000500_000600000907000000_000400000000070003_030000010500090704_000500000300000000_000104080000000000_040800000000000200_020907030000010000_050306070002000800,
  0x090108000002000700_000700080000040509_000504000906000800_080000000704000000_000400000800010200_000007000301000400_040800010600000900_070609030200000000_000302040509000600,
  0x000200000000050000_050603000000000000_000407010000000000_030801050000000900_000000070008020003_040700060003000100_070008020000040500_060000090800010700_020105000007000008,
  0x010800050006000007_030002000000000800_000005080100000406_020000000604090308_000309000000010005_000100000009000000_000000070000000500_000900060200040000_050000000003000009,
  0x090000000800050002_000204070009000000_050108000000000000_000000010205000906_000900030704000508_000305000000070200_080401050300000009_070000060000000300_000000000100000800,
  0x080009060500070001_060200070104080309_040107000308060205_090600020701030508_020003040000010007_070500080603020004_030000010009000002_000000050006040703_050400030800000106,
  0x010000050000000407_000000000300020001_000702000000060008_000100000900080300_020300000000070000_060804070000050109_000600000700000803_080200000004010000_070000000500000200,
  0x000200040901050003_000309070800010400_000107060500020009_000506010400000308_000703000208040605_000000000605070201_000000080000000100_070000000309000504_080000050100000000,
  0x070001080203050000_000003090500060000_000900070400080100_000400050309010006_060009000002000000_030002060800090000_050708030604000901_090000010000040305_000004020905070600,
  0x000000000400000000_040008000007060000_000000000000000007_080002040001000603_070001000209000005_060000000003000001_000800020000000000_010000070900080500_000007080000030204,
  0x000900060708010000_030807000104000609_000006030002040000_000004070309050008_080000040605000002_000000000801070400_060000080207090501_050209000006080703_070108000000060004,
  0x000001080300000005_090003000004000000_000004000100030000_000305000402000807_040900060700050203_020100050000000000_030700000608000000_000800000200000006_050000010900000302,
  0x000005000000070000_080200040000030000_060000000000000100_000000000000000008_010002050003060000_030004060000000501_000900010408000600_000000000500040000_040000000700000200,
  0x000908000005000100_010000000906050000_000002000800000000_000806090000010200_070000030201080600_000001060008000700_000005040009000302_000004000000000008_090600000302040500,
  0x000007080200060000_000000000700080901_080301000400020700_000004010000000800_010603000802040509_000000030004000102_070000000305090000_000205060000000000_000900000007050003,
  0x020007060000000005_010604000005090000_000009070000080004_080006000000000902_000100000007000406_070400020900000800_030001040008000009_000000010502000000_040705000000020100,
  0x000200000300050000_030500060907010000_060004050200080309_010400030502000000_000900000704000003_000000090000000000_070009020003040005_000802000009030000_040000080100090002,
  0x000500040000010007_000406000000000200_000700020600000005_000004080007090300_000001090000000700_000003000000020000_020605000800000109_000007050200060400_040300010000000002,
  0x040700060000000800_080000000700000003_060005000008000009_020500000804010900_000400000200000500_010000000000020000_070001040005090000_000004000002000001_030006070000040205,
  0x000206000000000100_070500060009080000_000008000501070000_050000010603090800_090000000802030600_080003070000010000_000300050006000000_020004000008000500_000005000100000003,
  0x000000000409000008_070009030601050000_040300000008010609_000108000006000003_050004000300090001_030007090105000800_020003000907000106_010900060804000007_000006010000040905,
  0x000107020304090008_050008000000060302_000003060005000000_000904050002070006_000605000009020003_000000040000010905_040000000000030001_020500030001000700_000000090000000004,
  0x090200070300000000_060003050000000201_000800000102000000_030604000705010000_080009030200050000_050002000401000903_000907000003000000_000008000009040006_000000020807000109,
  0x000206000800090000_010000000400000003_080004000700010000_000000000000070006_060003020000000004_000102040000030000_000005080206000000_020601000000000000_030000000509000002,
  0x000608000001000207_020300000500040000_000000000009000800_000200000600080700_000006000905000002_030900010002000005_090800000703010000_000000000000070000_000100000400020908,
  0x070903060000000000_000001000002000006_000200000001000509_000005000706000004_000700040008000000_040000000200060000_000007050009020600_050002010003000900_000600020007000008,
  0x030900080200000000_000000090004080503_050004000000000009_060009040002050001_000503060000020000_040100000500030906_020000000000090408_000000010806070000_000008020400010005,
  0x050000020800000700_000207000000030408_000000070903060000_000501000000070904_000309000002000605_000000000007000000_000000000000000000_060004030200050807_010700080009000003,
  0x000004060008000500_050300000100000000_070906050403080002_000000080006010007_000000030001050600_030001000507020908_000000000300060801_060100000809000000_000402000005090000,
  0x000900030008000400_000801000000060000_000004000009070002_090000000003000106_000008040000030705_000005060000000008_080000050701000304_050200000000010607_010400000000000009,
  0x000000000000020400_050700060000080100_040600020801000705_000004090206000001_070009030000050602_000000010705000000_000900000002000500_000000080609000007_060007040000000908,
  0x000000030001050000_010003000000080607_090005070806040301_000001020004000009_000004000009010200_000900010600000800_000100000700000400_000000090208060000_020000040103000708,
  0x080500000000000003_000000000806040000_000000000000060100_040008000209050001_000200000405000000_000000000003000800_030000020600000409_090700000008000600_000000030001000000,
  0x050300000409070000_040001070300000005_060000010800020400_000100000004030009_000805000901000002_000900050000010700_090002000000000000_000507000100000000_010003040008000900,
  0x000000060700000000_090002050800070000_000107000200040000_030000000002080900_000809000000000500_000600000500000007_070906000000020008_010500000008090000_000003000900000004,
  0x000003000904070500_040000000703000000_090708000002000003_000307000100000008_020000030400000607_080000070206090005_030009000000000000_050002000600030001_070600000300000004,
  0x000000050408010000_000000000600090400_060403000100000200_030500000007000004_020004090000000008_000009000504000100_000005040706020000_080002000903040506_040006000200000301,
  0x000000040900000307_000000050102090004_000000000000000200_000100000004030809_080902000600040701_030400090801000000_020500010400000000_040806000500070000_000009000300000000,
  0x070506000000030000_000000000800060000_080302000000000700_030000000208000506_000805090003000000_060007050100090000_020000080300000900_050600000000080000_090000020000070000,
  0x000007030009000001_000001000000000408_000000010408000000_000000000000000000_090008060000000005_060000000000010700_020504000100090000_000006000704080000_080009020000000004,
  0x000001000000000004_090200050004000300_000700000100000000_080100000009000002_020900000005000000_000004030000090100_030805070000060200_000400000306000008_070009080502010003,
  0x010400070208000000_020708000003000000_060000010000070208_080000040005090000_070301000002050000_000905080300000602_000800000000000500_000000020006000007_000000090500080006,
  0x060204000000010005_070005000200000309_000308050006000007_040002000308050000_030806000005070400_010009000402000600_080003000500000000_050601030809020000_020007000001000003,
  0x060100050000000200_000002090006000000_050400000201070600_070904000000030006_000300000005000000_000500000000000004_000603070000010800_090701000600000000_000000000409060007,
  0x000100020008090000_000000060400000200_020003000700050400_000007010005060900_060000000000000100_000400000000000000_000000000002070000_000609040300000502_050000000600000300,
  0x030206000000000907_000001000000000004_090400070200000000_060007000000040800_000000000007020300_000000040508000600_000500020609030100_000000000100050002_000100000005000400,
  0x020006090004000305_000009050200000006_000305000600010009_000903040002080601_000400060901000000_000001000708000000_030604010809020007_000100000305000000_080502070400000103,
  0x000400000200000600_060305040700090000_010000000006080000_000000050000000000_000200000007050800_050703000409000002_000100070900000506_000600020105000000_020504060000010009,
  0x020009000400000001_010004000600030200_000003000002050408_040700020503000006_050000070800020300_030000000901000500_000407080200090103_000000010000040005_090100060304070800,
  0x010002040003000000_030007020009000000_040000000000030800_060200070901040000_000008060005000100_090104030000000500_080000000500000200_020000000004000000_050009000000080403,
  0x090104050000000800_020000000003060100_000300090200000007_030002000000000500_000007000506030000_050000000900000004_000009060400000002_000000080009040005_000000000100090000,
  0x050001020400080000_030400060809010502_000908070105060403_060009040000030000_040003000602070108_070002050001090604_010700030904000000_090206000507000001_080004010006050007,
  0x090008000000000700_000000000700030400_000000000302000001_000409000005000307_000100000208000004_000005000400010008_000900000000040000_000803000901000000_000700030806000000,
  0x000000010000000209_010700000005060008_000900020800000300_000000040008000600_000004090000000000_000000000100090504_060200080003070000_000000060700020003_080000000000000006,
  0x000003020107090804_010407060809000005_080900000000000706_000000050700000200_000005030900000000_000006000000050007_070800000000000000_000009080000000000_060004070501000003,
  0x000002000500070400_030001000700000200_000504000806010300_010000050009040000_050200000000000700_090000000003000002_000300010000000000_000000000902000104_000109000300020805,
  0x010000000005000203_000400020000010700_030005000900000000_000003000000000007_000900030004000601_000000010009080000_050000090006070002_070800050300000109_000002000107030000,
  0x070000000906000500_000903070000000200_000100040002000006_000000000000040302_000800030504060000_030406000000000800_020500000800030000_000608020000000105_090000050401000600,
  0x050206080700000300_090007000403000000_080304000000000009_030000070006000000_000008090500000200_000001020004090800_000705030000000401_060003000000070900_000809040600000000,
  0x000003020000010007_000004000000060000_000008000006040205_000307000405000601_010005000600030400_080400000300070000_000009060100050700_030702000500000000_000600000207000000,
  0x070900000100050603_000000050003000000_000000000209000008_090200000500040006_080705010006000200_000000000002000000_060000040000000000_000400000300000005_000300000607000001,
  0x000008000307000006_000607020008030001_090002000600080005_000709000104000008_020801060000090403_030004080000010000_000400000000000100_070200010000000304_000000050403000002,
  0x070004020500000103_060000010000000407_020003040000000005_000006000000000300_000407090300000002_000900000002000500_090000070005000800_000005080000090704_000700000000000000,
  0x070000050804000000_000000010602000007_050600000000040000_000107000405080300_000008000000000000_000006000700000409_000805030001070000_060400000007030100_000000000000000008,
  0x030005000709000000_040800010000000000_000600050000020003_060300000000000800_000200090001060000_070908000306000200_000400000002000006_080000000100000900_020003000907000000,
  0x090004060007000000_000507090800020400_010308000200060709_070000000000000005_050609000708040103_040800000005090200_000006080901070500_020901070500030804_000705030402010000,
  0x040805060701020903_070006050000080000_000901000000000605_000100000003060007_080007010605090300_030600000807000000_090004030100050006_010003090000040208_060008070002000000,
  0x000000080307000401_000302010000050006_010004060000090700_000705030000000000_040000000602000009_000009000000010000_050903040000060102_080401000500000000_000600090103080000,
  0x000209060003070104_040605010007000209_010703000402060508_020006000009000803_000504030100000600_070300000000040000_050900000306000000_000402070900080005_000800000000000700,
  0x000006000700090102_070200000000050008_000009000600040000_000005060007000200_000700000000030800_000602080100070504_000307020800060405_000000010000000700_000008000000020000,
  0x030006000500040000_080100070004050000_000000060000020700_000000000600010200_090001000000000006_000000000005080907_020000000003000400_000304050000090008_000500090407060300,
  0x080209060500000301_060000010000020000_000504030002000607_070005040000000200_000600050109000000_090000020703000004_000407000300000006_000001090200000403_000006000400080000,
  0x050206010009070000_010403000807090000_080700000302040600_030500000000060000_060900080000020700_000007000605010000_070605000208000009_000000000501000400_040000000906050000,
  0x000001000004000802_050802070900040000_040600010208000000_010304000006020008_000000000000000603_020506030000000407_000105000302000000_070003080509060200_000208040000000005,
  0x000100060000040007_040009020000000000_000006000000050001_060000030900000504_080003000007000600_090000050000000000_070905000200000800_000000070009020400_000000000100000000,
  0x000000000308010006_060300010000000405_000001040600000000_010800000400060007_020503000806000100_070600000500000300_040000050007030000_000000060100000800_000000000004000009,
  0x020104000709080503_030000000508010700_050008000302060904_040000000000000000_000300090007020000_000600020805040307_070000080000050006_000003000004000209_010002000900000408,
  0x000109000406030800_080200010000050706_000000000005000004_000705000100000009_010000090000080000_000900000700000201_000600030000000000_090800000001070000_000000000904000000,
  0x010000000200060000_000402090300000700_000000000000000800_000009000403000000_020500080000000000_030000000000020908_090000060000000000_050006030000000007_000201070800000000,
  0x000200000603040900_000600080209000300_010003040007000006_060402090005000703_030501000702000000_090708030004000600_000104000006000508_000806050000090204_000300020008000000,
  0x050802030000090700_000901000407080602_000607020009000103_020004000001000000_000100000902000305_090705060300000000_070009000605030200_010008090203070400_000200040708010009,
  0x090001050806000304_000004010000090506_030605090402080007_050102000604070900_080903000001000005_070006000905010203_000200060300050800_060508000109030700_000007000508040009,
  0x000007000100030809_000802040009010006_000901000000000000_000509010200000004_080600000905000100_020100070006090508_000205000700040600_000000000503080200_010000020004070000,
  0x000601090507030800_000007060000000100_000000000001000200_000100070900060400_000208000400000000_070000020005010008_000502030700000600_010000050006000009_090700040000000500,
  0x000000090002000503_090002000700000104_010703050004000809_060300070500090201_000900000006000000_050100030000000000_000000000807050900_000400000900000300_080000020000010000,
  0x000900000006030401_000807030104090005_030104000509000008_090003050001060004_020401090000050003_080605040300010902_000008060702040500_040506080000000100_000200000005080006,
  0x000001040003000900_000008020500000000_000600000100000305_010003000004000000_080002000001070400_040006000008010003_030409010000050206_060000000002000000_020007090000000100,
  0x000502000900070300_030007050100000600_000900000600050800_000704000009030100_010000000700000000_080000000000060000_000000090000080006_070008010300000004_000400000200010000,
  0x000703090100050000_080001000005000403_060000000208070009_000500000002000000_000000000009080000_040000060700000205_000600050000040007_010004000900000000_000807040306000002,
  0x000001000003000000_000006000000010008_000300000201040500_070403080000000900_020805090100000706_060109000700000000_030004020908000100_000000010006000002_010000040000060800,
  0x000800000002000100_020500000107000403_000700000804000000_050902000600000000_000007000401000000_080004090000000000_070200010009050000_090006040000010000_010000000200000908,
  0x090100000800030602_020504000006080100_000300090102000004_000700030008000000_000609010000050007_000800050000090003_000900020003060000_000000060501040008_000006080000000005,
  0x080706000509040302_010503080402060009_090402060007010508_060800070201000403_000105030604080900_040300000805020601_030601050908070200_070900020006000800_050208040003000106,
  0x000000000700000600_050000020100040007_070003090600050201_030002060007000000_000000010500070000_060500000008000000_040006000001000008_090005070000020000_010000000000000005,
  0x000003070204090000_000600000001000000_000100000608030200_000300000005000009_000200000000000000_000004080900000700_000700000000000402_060005000400080300_000000050000010000,
  0x080400000600090000_090006080000000000_000203000005060000_040300000000010900_000001060004050200_000800000009000007_050700040000000600_000004090506080703_030600000807040501,
  0x050006000000030201_000300000000060000_000200070306080004_000009020701000003_010002090000040807_070503040600000000_000000060004000300_030005000000000000_060007000000000908,
  0x060107000400080005_000002000001000907_030908060005000400_010203000007040000_000006080000010000_000000000603050209_040605070308090102_000001040000000000_000309000102000000,
  0x090008000100000004_000603040502070908_040200070908030000_080004000700000200_060007090200000803_020500080403060107_050000000309000006_030000000807000400_070800020600000305,
  0x000000000107000806_000007000800000501_090000000004000702_060000000000000008_050008060000000109_000000080702000400_000200040000010000_000100000200000004_000904000300000000,
  0x000001080302060507_000800000600000003_060307000000000900_000700000009050400_020400000803000700_010000000005020000_080003050401070609_070500000908000004_000004070206030800,
  0x000400070900060103_070001000603000802_000903020008050407_020000010500030006_000607030204080001_030105000800070200_050006090401000708_000000050300010009_000009080000000300,
  0x040001000700050200_000700050000000600_000006000000000003_010000080000060700_000607040109000002_080302000605000400_000100060007000000_000004020003010507_000200000800000906,
  0x000809000301040700_050300060004000000_010700000209000603_000000000800010000_000008000000060009_000907000400000000_070000000000000308_080000000002070006_090603000108000504,
  0x000304000001080607_000000040000000200_070500000006000900_040600070000020000_000000000000070003_090003020008000500_030402000000050700_010007000000090000_050000000700000000,
  0x000000070405000000_040000010300000000_020000000906000004_000100050000020600_000207000800010005_050006040001030700_060002030000000800_070409020008000000_000800000007000500,
  0x080200070504030000_000400000000050200_030509000608070400_020000040000000700_040000000309000100_000003060000040000_010800030007020504_050904000200080300_000302000005010009,
  0x000002060000090000_060009020000080001_000701090008060200_040000050607020100_000000000800050603_000600000102000000_000300070506040900_000000080003010006_000906010200000708,
  0x030009000100000506_010700000006000803_080006030902000000_000600000000000100_020803040600000900_000004080009000002_050001000004030000_000908000007040005_040007000200000608,
  0x000000000700000900_020703000001000000_090500060000000000_060000030200000104_000000090000050200_000002000000000600_000006000000040000_030100000800020000_000807000002030500,
  0x000102000509000000_090700000203080006_000306000000090100_020600080000040900_070000000406000005_010405000902000600_040200000007060009_000007090804020301_030009020001000000,
  0x000800000000070506_070100000600020409_050004020900010000_080000060000040005_040506030002000008_090300050004000200_010400000203000000_030008000406050002_060900000000000100,
  0x060300000000080000_000009060300000007_080000000009010003_000003010807050006_040006000503000008_000000090406000001_000000050002060000_050000000900070300_000807030600020000,
  0x070403000200010805_000501070300020604_000608010405030009_030007050800090400_060000030704080502_040805020901070306_080706090500040103_050904000100060200_010302000600050908,
  0x030807010000000900_000500080009030100_090000000004070805_070209000000010003_000305070102000608_000600090000000200_000000040801000000_000000000907000001_000001060300040702,
  0x090004000002000001_010300060000020508_000000070001060904_040900000708050000_050208000600000000_030006000005010800_000000000000000200_070800000204000100_000003050000000007,
  0x000502000006030100_060700050400000800_000000000800070005_000900000001000000_040006080007000000_070000040600000200_000005000009080400_000400000000000300_000800000504000002,
  0x000300000100000209_000901070200060300_000402030900000000_000000000000090408_050200000700030006_040803000000020507_090600000300050000_000108000400070000_030000060000000901,
  0x050902080103060407_080007000400000500_060401050700090003_070205000901080000_000600020004000105_000004070805000000_020009040507030000_010500030000000708_000000010608050209,
  0x080604010200000705_000000000608040000_000007000400060000_020006000000000000_000003000900010506_070509080106000004_000401000003050802_000702000001090000_000900040502070001,
  0x030400090201000005_050000070000080200_000000000005030001_000004020009000100_010009000004060800_060003010807000002_040805060003020009_090106050000040308_000007000900010506,
  0x090600020305000708_000700000000020000_000000040000060001_000002030008000900_010503000200080007_060908070504000000_080000000000090600_000300000602000104_040200010907030805,
  0x000200040500000001_000800000009050003_050100000008000700_000000020007030008_020000080000040900_000900060005000002_000400090800000307_090000000001000400_000300070004000000,
  0x000001000000040000_020007040100000009_000003060000070801_090000000002000000_030700000006010508_000000010703020000_000300000004000000_000500000601000007_010000080500000006,
  0x000000010300020006_000200040000000003_000400080000000000_010504000706080302_020000000008000000_060809030102050700_000602070004000008_040300000001000209_070000000900000000,
  0x060700050002000000_050008000009010000_020400000800050000_000000040007000100_000000000100080000_090000030600000000_000900000006030000_080600000300070005_000003070000020800,
  0x040000000100080003_000003060200000500_000100070403000200_000300080900000000_000008020000090000_000000050304000001_000004000509000006_000000000000000907_000906010700000400,
  0x000903000706000502_000000000000000000_070000050109040003_080609010005000400_000004070908000000_010005000004080009_000007030800000001_000008000500000004_020306090001000000,
  0x040600000705020003_000300000100000004_000000060000000000_030008010500000900_000000000209000700_000700030006000100_060000080000010007_000900050400000200_000804070601000000,
  0x000000000000000000_080004000600000007_000700000000000006_090500000403000200_010402000000000800_000800000500070904_050100040000090702_070600020000040508_000000000709000000,
  0x070009080002000006_080002070305000001_040000060000000008_010000050006000000_050406010200030709_020700040900010005_000000000600080402_000000000000090103_030000000801060000,
  0x000407000000060902_000500090107000800_080009000002000005_000000000006000000_090602000000000000_000701000003000200_040000030000010000_000103080500000000_060905000200000003,
  0x090105000007000003_000406090500000007_000802000001000500_000708030000000102_010009050006030004_050304070000000000_000000060700000300_040007010003000009_020600000900000401,
  0x000006040000030801_010000000600000000_090804030002000006_000400060000000000_080609070004020003_020500000001060700_000008020405000000_040102000300000600_000000010906040200,
  0x000000000000010000_000800040001060003_030701000000000009_080605000000000000_000200000603090100_000100000200000604_020500000100000900_040906000305000000_000007090800050000,
  0x090000080402060507_000600000305010209_000007090000040308_000800010703020000_000502000906080700_000900000208000600_000000000100070406_000400060807050103_010006030504090800,
  0x060700090002000001_090001000604000007_040000000800000200_000004000001060300_030000050700000809_000609080403010000_080000000105020000_000307000009000000_000005060300000000,
  0x050703000006000800_000200030801000700_090801000500000600_000400070000060001_030502010009070408_010600080200000509_000005090000080106_000008050700000002_020000060008050000,
  0x010403060809050702_080502040703010609_070600000002000300_020006000008030501_040100000307090800_000000010006020000_060204070905080003_030901080004070200_050807000201060900,
  0x000002000500000700_000600070000080000_090708000306010400_080900060200030000_000406030901000002_000000080000070000_000007000000020901_000000000000000008_010200090000000007,
  0x000900040005000008_000100020003040009_040003010000000000_070000000902000600_000008000307000002_000000000000070800_000400000008060107_050300070000080004_000700000006020500,
  0x090305000000010804_000700000800030000_080200040503090000_000000000409000300_030806000100000009_000900080006000000_000000030602080000_020003000000000006_070600000000000500,
  0x020800000400000900_000100000709000000_000000000501000006_080000010000000003_000900000302040000_010000000806000009_070002000008000000_000600030000050001_000400000000090000,
  0x000000000000070003_000000020000000601_000000010004050002_030000040006000100_000800030705000204_020400000001000700_050000000102090407_000209000400010500_000700090008020000,
  0x030002090400000000_050100000007000406_090000050000070302_000009080000010003_080001000503060000_040500010600020708_060307000900000001_010005030702000000_000004060005030007,
  0x080000090703000000_050000060200070000_000006050804010000_000005080100000300_000300000000060901_000102000000080005_000500010008030007_010400030600090008_000000070900040102,
  0x000200030005000007_050007000000000002_080904000007000300_040000000000000100_030802000001090006_070000000800000500_090500070106080200_020708000000000000_010400000203000000,
  0x060805000204000700_090000000600000802_000204000801050609_000309000406080500_070008010309000406_040602000005000003_000000030000010908_050903060000000004_000007000002060000,
  0x000800010700060500_000702000300000001_000005000000000000_000006090100000000_050301000000090700_000900000000000006_000000020000050400_000008000401030000_060000000509010007,
  0x000100080000000905_030005000900000000_000006050000000208_000000060000010800_000002000000000306_070001030002000000_010700090300000600_000200070004000000_000003000000000500,
  0x010906020003070008_000000000000040900_040708000009060302_000400000002090600_000007060004000200_000002000005010800_000204030900050106_000009000001080003_000800070000000409,
  0x080400020100000907_000000000009080006_000005070000000400_020000000000000800_090100000407020300_000000000000060100_000000000000040200_040800000000050000_000007000800090600,
  0x000000000201000006_040506000809000000_000000070000090000_090803000700000004_000100000308000005_000000000600030800_000000000902000000_010000000400080003_050900000003040200,
  0x060401050007000209_070203080400010600_000000060102040307_000000000706030100_040107030508020900_030609010200070000_080004000600050703_000705040900000800_020306000800000000,
  0x060103000000070002_000005000701000006_000700000000030100_000000000900000000_000300040000000205_040208050103060000_030000010005020704_070402090308050000_010500000204090003,
  0x000205030007090000_000008020600000005_000400000105030000_000100000000000004_000007010002060300_000502040300070000_000000000408000000_030704050000000600_020800060003000000,
  0x020604000000000900_000000000009080000_000907060004000200_000000090000050001_000000040500000300_090000000300000004_000400000702000103_000000080000060702_000203010900040000,
  0x090803020001000700_000001060300000000_050600080409020103_060509010208000400_000304050706000800_080002000000010600_000900030100060200_000105070604000300_030400090002000000,
  0x000000040000010007_070504000601080900_000100080007050400_050900010400070608_000000090008040300_000800000506000000_000000000100060000_000200000000000700_000005060203000000,
  0x000700000009030605_000600000000000002_000100000005040700_030400000000000100_000000000003000206_000800090000000004_060200000308090007_000507040000060803_000000060000000401]
theorem mixed_21_ok : mixed_21.all fastOK = true := chunkOK_sound _ (by decide +kernel)

/-- `mixed` (10000_mixed_puzzles.npy), boards 5500..5749 -/
def mixed_22 : List Nat := [
  0x000000070605020400_070002030809000501_060805000000000709_000000000200070104_080704000900050300_020103050007080900_050600000004010200_040200000008000000_030001000000040805,
  0x000104000000050903_090000000104070800_050607000000000400_040500030801060007_000000040605000301_000000090000040000_070805060003020000_030400010500080609_010900000000030000,
  0x000700000000060809_030000070900000200_000000080205000400_010800000000000000_070200090100080605_040005020003000100_020000010708000900_090300060500010008_080007000300000000,
  0x000000000809060002_000600000000000008_050000060001090000_000806000200000000_000504000603010000_000700040000000600_000907000400000805_000005000102030006_000302000508000401,
  0x050001000900020803_030907000800060005_000002000301070904_090700040000000001_000800000109040000_010000070508000200_040008090000050702_060009000005030400_000000000400000600,
  0x080105000300000406_040007060009050002_000006080005000300_030001070900000504_000409010502080600_060000040800000000_000600090000040001_090704050601030008_010000030004000000,
  0x000000000600010009_090000070008000200_030100000000000807_000400080006000905_080500000000000006_000009000000000008_010000020800000600_040007060000000001_000000040700090002,
  0x030000070006020000_060000000803000700_080700010200060403_070100000000000300_050602000000000801_090304000100070602_000800090304000200_020500000701000000_040900080502000006,
  0x000007000000030000_000201000000000906_060000000000000700_000000000800020000_020000060400000000_000000000007040809_030000000208000100_000705030604090000_080000010000060007,
  0x090704000306000001_080006070105040900_050103000000000000_000608000000000000_000009050000000702_070005000002060009_040007030008000206_000800000900000000_000000060701000800,
  0x010002000900080000_040800060005090001_000900000108050004_000100000000030009_060000000300070500_000203050000000000_020000090000000100_000300010002000705_000000030007020900,
  0x000002000000000003_070503000002000800_040608000100000205_050400000003000900_000000050000000108_030800000001050700_010704000905080000_020006000008000507_080305010006020400,
  0x000102060005000000_000000000700000001_000700000000000600_040005030007000100_000000000500090003_000006010000000700_000000000108070005_020500000003000009_010307050009060800,
  0x000800060901000007_000900000000000008_050000040000000609_000002010000080905_000000080700000002_080009030005070100_000100000008000700_040006020007000000_000008000106000503,
  0x000005060000070000_000300000002040000_070400080001000000_000000000000000400_000006020008000300_000803040007020005_000000000403050700_000000090000060000_030000000006000900,
  0x000800040000060209_020003080005000701_000907000002000000_000000000700000400_050702030104000006_000000000208000507_000004000000070005_030000000009000104_070500000001020903,
  0x050402080703000901_030906020000050008_010800060905000300_090200010506030800_070005090200010400_000600000000000005_060503070802040000_000700050104080603_000108000609000500,
  0x040007020600000001_000006000001000007_030500070904000600_090002060000000000_060703000008010209_000005010000030700_050000000403070002_000204000106080000_010308000700060504,
  0x000102060409070000_000407000000020000_000000050700000800_010000000000000705_000300070000090100_000500040600000000_090000010004060200_040608000007030001_000001000000000400,
  0x050000080000010000_090008000002050600_000000050309000000_000700000501090008_000009000708020001_080004000000000000_010900000000000500_000200000100030000_040800000200000106,
  0x090006000002050308_020005000708040600_000300090006010000_080004070609000005_000901000005060807_060500000000000200_000600050907080400_070009000003020006_000000000204000900,
  0x000000030009000105_000000000008000400_020004000001000306_000005000807030200_010003000004000700_000400000203050900_000009040305000000_000000000706000000_030507000002000600,
  0x000607000500030001_000300010700000405_010504090003000800_000400000905010003_000800000007000004_000900060000050208_030200070004080500_000109050000070306_080005000009040102,
  0x000200000400000000_000700000100090004_030804050700060100_000903000000040206_000001000000000008_000500000003010907_000008000200000600_000605000000000709_020000060000000001,
  0x050009020100070804_000008000600000000_040200080009000601_060000000801000009_000000030400000008_070004090006010300_080000000205030006_000906000007080400_000400060008020000,
  0x000300000500000000_010004080300050200_050000000001060003_000500000608040000_070406010200000500_090000050704000006_000607040000080001_000000060007000905_080000000100000000,
  0x080600040700000300_000004080100060702_000007000206080000_070800060000000500_060509000000040200_020003090000070600_000200000604000000_030706000000000004_040008070000000900,
  0x070100000902040508_090000000000060307_000000000005000900_000000000100000000_030500000000020601_010006050200000400_080001090003000006_000900020501000800_050000040600070009,
  0x000107000000080000_040008000000070509_000209000800000000_000002060300000000_070405000000000000_000000000700050102_000504000000020701_090001000002060300_020300080107040900,
  0x090804000300000107_000006040002090308_000000080000000504_060400000805000203_080900000003000600_020000000600000000_050109000400000706_000308000009000400_040602030500010000,
  0x000000050000000000_050100000700080000_030008000006020507_010003000600000900_000000080005060003_000205000100070804_000001000503040009_090000000001000708_000002000000000600,
  0x020500030000000600_000900070000000800_000000000901000203_080000050600000309_000400080007060105_000000090000000000_000200000500070000_000000040006000502_000308000009010006,
  0x000000000700000406_080307000004000000_060504000102000008_050001040007080900_000400000009000005_070908010005060204_000009000000000002_000705000200010309_000600000500000007,
  0x010004060700020000_000500000000000009_070906020800040103_040705030001000006_000800000906000000_020600000500000007_000200000000060000_050003080602000001_060008000000000002,
  0x030000080900040002_000000050706010308_000601030004090705_090000020807000004_000004000609050003_000100040005020007_000003060500000209_070000000400030500_050009000003080006,
  0x050000000000000000_000100000902000300_000007000008000000_000604000700030009_000508000006000001_020009080001000400_040800050200090007_060000000809040103_070903000100080000,
  0x000300070001000004_000009000500060100_000802040906000007_000106000005090003_000500000609010000_020900000300000005_000000090000000201_090207050100000000_080400000003070000,
  0x000107090000060300_000206000300000004_000003060000000108_000005070804030206_000004000006050801_000608050103000907_000000000000020003_030400080700000600_000702030501000009,
  0x000000050608000700_090008000307000100_000300010400000000_050000040203000000_000907000005040600_000102000700080300_000009070004010800_080003000001000407_010700030000000506,
  0x000200030100000000_060000000007050102_090700040502080306_070800000201000004_000000000004070901_040100050703000008_050000020600010407_000008070405000200_020400000009060805,
  0x040508000701000000_000103040608050702_000706090000080000_000400000007000503_060207000005010408_030005010402000000_000000000104000006_000600000009000800_000900080006040000,
  0x000307000009000205_000905000706080400_020000000500090706_000003000000000908_090000000000070600_040002070008000501_030000000005060002_080000030000050000_000106080007000009,
  0x050607040002080301_030004000000000005_000100000305040002_000000050700000103_000000000600000000_070005000003000000_000408000007050009_090503080000000200_000702010500030004,
  0x090000060407010300_000300010500000006_000100000003040008_010903070004050800_050800030001060007_040600020800030000_030406000000020000_000500040002070603_000000000300080000,
  0x000201000600000000_040006020008030100_030000050107020000_000903060402000500_000504080703000000_000000090501040203_060000040205000009_070000010000050300_000000070000080002,
  0x000200000001040000_000004090208010305_000000040500000002_060100000800000000_030500000400020001_000000000900050007_020000000004030500_000403000009000000_000000030000080004,
  0x000000080001000700_070800000000000000_040000050000000003_020904000500000307_000703000000010000_080000030407020009_000000000100000006_000000000600000902_000300040205070000,
  0x000400010000000900_030001040207000608_000500000900020000_000000000000090000_040709080500010000_060203090701000500_020104070009000800_050600020004030100_090000000006000207,
  0x020000000100080000_000007000803040000_000801000004020000_070005040900010000_000308000005000000_040200000000050000_090502000000000800_060000000000000009_000003000009070002,
  0x000000050100020009_000805000000040003_000001000007000000_050004090700010000_090007000004050306_000000000005000407_040009000803000000_030600000501000900_010508070000030000,
  0x070009020800050000_040600000700090008_050001000900000704_000000000209000100_000200070301000005_000403000500070209_030700080002000900_000104000000000500_060008000100030000,
  0x020001050600000900_000004000903000100_000000020000080000_000400000000070600_090005000406000008_000602000000000000_050100090000030400_000008060000000507_000200000700000800,
  0x000004090800000300_000008040703000500_000703000000000004_020805010904060703_060000000000000102_000107000002000000_070902000000000600_080500000100000200_040301060000000008,
  0x000005000000000700_000000080400030000_000009000700000002_010506070908020000_000700000600000500_000000000000000001_040000000000060000_000100040000090208_000300060000040000,
  0x010600020000000900_000008000000060000_000400000000030507_030000060002000000_090000000304070000_000000000800000400_000201000906050300_000000000208000000_000900040105020706,
  0x000504090708060302_030600020400070000_000700000600010000_050300000900000001_000009000000000200_000006000500000903_070005000000000000_040800000206000100_000000050800020704,
  0x000500000100030002_020900060300000000_000000000000000000_000000010906070503_000000000008000200_090700050203010008_000000000009040007_000100070000080600_040000080500000009,
  0x000005000003000206_000307000600050000_000600000900080700_000900040800000600_000006000500000000_050000000006010300_040700000105030002_060500000307000801_010003000000000000,
  0x000003050809000200_040000010300070000_080000000004000000_030001040000000500_000408090003010007_090000000000080403_000000000005000006_000005000000000302_010004060902050008,
  0x000802010904000500_070301000000080000_000000030000000002_000100000000000000_020905000000030000_030400020705000000_000008000609000000_000700040200000809_090000000300000000,
  0x050008090000020000_000700000604000500_000000050000070306_030000000800010007_080000060500030402_020000000309000600_060001070000000003_090000080000000001_000000000901060800,
  0x000000000601000400_080104020005070906_000902000000000301_020400030000090100_000000000009000200_090000010208000607_000000000800000009_010005000904020803_030000000002060504,
  0x020105080000070603_060308050000000000_000709000100080500_000903070000000205_000400020000060809_000000090005030004_090004000000020000_000602040000050108_030001060002000907,
  0x050003020600040700_000207040003000506_060400000000030208_000000070801060302_030600050009080000_010000030006000000_000901000500000000_000000000304070000_070006000000000005,
  0x070006000004020000_000105080000030600_000802000003000104_010209000000040806_000000000806010000_000600000001090000_030507020000060000_020400000109050300_000001030000000402,
  0x000004070802010509_010700030600020400_090200040501070600_000901000204030700_020000050000000000_000306010007040802_070002090005080000_040003080106090000_000009020003000000,
  0x000300090200000000_020108000000000009_000407000000000503_000000000503000400_000500000600000000_000000020700000100_000000070000000000_040800030000000000_060700000102000005,
  0x000002000001000007_000007000003090002_000400020700080603_000100000402000806_000600080007030201_000000000500070004_000000000300000405_000005060209010000_020008050004000300,
  0x000500000008090600_060000030000020000_000000000605000000_000200000307000000_040000000000000301_090800060401070500_020008000500010003_000300010802000009_010400000003060000,
  0x090003000005020000_040502000000000903_000008000002000005_000000000500000201_000005000401000600_060000030000000500_000004080003000700_000700020904050000_030800000706010002,
  0x000005020907060401_060002050104000008_000401000003000205_000107030500040906_050009000000010000_040003010700000000_070500090000020104_000000000600000509_010000000000000000,
  0x000000050008020000_000203000004080605_000000090203000001_060008000000000907_000300000007000508_000007000500000206_000002000800000703_030006000000090000_070001000006000000,
  0x010000000500040208_070402080901000000_080500060400000900_000200070000080003_000700090000010006_060005040008000009_000000000000000004_000001020000090307_000007010600050802,
  0x000005070400000600_000400000000000705_000006000500090200_000000060001000009_080003050002040106_060000030800070000_020600000000000300_000100000006000007_000307080205060001,
  0x030900010008060005_000705000406000008_010806000000090000_000008000001000900_000000000003000000_000600000005010200_070000030004000609_000000080700000000_080400000500020007,
  0x000800070900000005_000903000000000000_050001000208070009_000002000400000900_000604000009000708_010009080006030002_000008060305000107_000305090000020800_000007040000000500,
  0x050000070800000000_060009000300070800_000007060001000000_030906040008010000_040708050000000003_000501000900000400_000200000003000100_000000090000000000_000000010005030209,
  0x090000060000070400_000700000000000100_000600080200000305_000400090700000200_080000040103000000_000107020000000900_010000070600000803_000304050900010700_070000000302040000,
  0x000000000007060201_000000000300040900_020000090001000000_000000030000090000_090005000800000007_060004000009000000_050000010200000004_000007000003000005_040001000005030000,
  0x000000000005070000_000500030402010000_000000000006000000_090004070000000000_000008000209030107_070003000508000400_030409000000060201_020000000000000308_000800000100090004,
  0x000007000000000006_000008070004000302_000604000000000500_000802000905030000_000500000700000809_000401000006020700_000006080407000003_000309000001000007_040005020000000108,
  0x000000030107040000_020304000608010500_000007020500000003_000008040000000100_030900000006000400_070000000000020305_010000000002050004_000002000405000700_000700010000080600,
  0x050004000603080107_060000000700020009_000701020000000006_000403000000050000_010000000300060008_080000010500000304_000007030208000000_000009050000010802_000000060109040000,
  0x040000060005000000_000001000003000409_060002090000000000_000100000300000700_030005000700090008_000000000006000001_000600000009000300_010903000004050000_020804000000000900,
  0x050004030600080102_000006000002070000_000207040000000000_000003000004000000_040000000300010807_000800000009000603_000500080706030200_000400000000000000_030700050400000008,
  0x000200040000050300_000801060705040009_000509000201070008_000905000000000102_010000050900000004_070403000100080005_000306000400000807_020004000600000503_090008000500000000,
  0x000300050000060900_000500000000000001_000006010000030005_070004060005000000_000605080000010007_000008000100000006_000001000800000602_000800000000000000_000009000701080500,
  0x000304020507010000_070501000006000009_020600010900070003_080009070300000000_060000000000000000_050002040000000900_030000080100060000_000005000700000001_000000000003020000,
  0x000700000000080300_000809000003000402_020000050000070000_070502000100000604_060408070000000109_000901060400050000_000007000008000200_090300040000000508_000000090000040003,
  0x080903000500000000_040600070000000000_070001000006080900_000800000002000400_030500000804090007_020100000000030500_000008000007000003_000002000100000609_000000040000000802,
  0x020001000000000400_000007040506000203_030000010208000509_070608000005000000_090000070400000005_000304000002000007_000800000001020000_000005060000000701_000700000000050800,
  0x000200040000030007_000405020700000000_090000000000080400_060000070901000804_000908030000070006_070004000506000903_030001000000040008_000000000200010300_000009010000000005,
  0x000905000002010004_040006000001000000_030000040600020000_010703050008000000_000002000000080000_000400000903000000_000500030009000002_000100000006000005_000000020500000000,
  0x040509030700020001_030006000200000905_010008090000000603_000601040002000000_070000050300090000_080900000100000200_000005000609030400_000804000000060702_060000000000000509,
  0x090308000005000400_050000000000070309_070601090004000205_000006010002030500_000007060403000001_010000050908000600_000005030001060002_030002000000000000_000800000000000003,
  0x000000040300000601_030000000001000902_000201060900070000_010000000000000006_070003020000000009_000800090100030500_080904000203060000_000100080000090003_000000050000000208,
  0x010409070803060205_000006010002000000_020703050006010800_060800020701050000_000907000000020004_050001000009000000_000108000000000600_000302000000070008_070005090000000300,
  0x010000000000000900_000507000800030000_040009000000000500_030601000000000000_000002000600010009_000005070102060000_020300010000000000_070908000300040600_050100000008090000,
  0x040007000300050000_020809040005000000_000005090000000200_000402000000070000_070300000900000500_090500080000030004_060900070500020103_010208000000000000_000000000009000400,
  0x000003000000000906_000000030000010005_090500060100000000_040700000006000502_000806090205040001_050002000004000309_080000020000000107_020000050000000000_000005040900000600,
  0x040900080200050306_000200000000000700_000000000300010000_000000060007000501_000000050000070204_000405020000000000_010700000005000003_000600000700040100_000500000004000000,
  0x000005000708000009_060309020000050000_070800000000000002_000901070502000400_000600000000000007_000400000900000000_000700000000000900_040200050000000100_000508000107000004,
  0x000007090604000100_010000050000000600_000809000000000000_020008030009060401_000906010807030000_000105060402090007_000004080100050703_000003070205000000_000000040900000000,
  0x000900030001000507_050100000000000300_000007050009040001_000000090000070000_090208000000050400_070001040002060900_010600080200000705_000000060903000800_040003010700000000,
  0x050200090000010407_000000020105000603_000600030000000000_000002000900000005_060107050004000000_080900000702060304_020000060000000001_000001070003000206_000006000000090708,
  0x040008000900000003_000109000800000002_020600010000000700_000906000500070100_000004000708000006_070002060000080905_000003000007040000_000201040000000000_000400000000020009,
  0x000003090000000008_080401000000000900_070000000000000001_000009080706000204_000000000400030009_000000000009080005_000504030000000000_030008070901050006_000706040000000803,
  0x090708050304010000_050400070000090000_000301000800050004_000004000703080005_000005080002000000_000803010005070906_000506030007000000_000000000500030108_000000000200060007,
  0x000000000001000800_000000020600090000_050006080309000000_070003040900000008_060008000000000100_090400010500030000_080007000100000900_000000000802000301_010000070005000206,
  0x000300070001060409_090607050004000008_010000000900000500_000900000000050601_000008000103040002_020000000000000007_000000010007030800_080200000005090004_030700000000000106,
  0x080300090005000002_000400000203000000_070000000001000600_000000000700000006_000000000000010900_020807060109000005_000500040007080300_040000020000000509_090000010008000004,
  0x050100000308070200_030800000007000000_090004000002000103_000005000901000008_020000080006090000_000907000004030001_000500040100060000_000609020803000500_040200000600010800,
  0x000000000007020003_090000000006000007_000703000000060500_040100000305000000_050002040009070301_080000000001040000_020400070000050000_000906000000000200_030800090200010706,
  0x010000090003020006_000900000506000008_080003000700000000_000005070009000000_000007040000080203_000000030100000900_000001000900000300_000000050400070800_050208000000040100,
  0x000803000004090007_000700020900000800_090400000000000000_000000000400000600_040000050700000900_000007000109050400_000900000001000005_010605000000000309_070304000008060100,
  0x000604050100000007_000100000309000600_030009060007020800_000700000006080200_000006000700040009_000902000504000706_000000000200070003_000207040603010008_000000000000000000,
  0x000403070200010000_060002090100000408_000001000000000902_000104030000000006_000800010602000700_030607050000000109_000205080700000301_010306020000090800_070908060000000000,
  0x080500020400000900_000200050001080000_090000000006000200_020008000100060000_060005090007020100_000300060002000009_050804000009000000_000609000000000708_000000010000000000,
  0x010800020604000000_000700000301000000_000003070508010609_030005000009060200_060900050000000004_070000030006000905_000002060700090001_000000080002000700_080607000000000300,
  0x000000000003060009_000000000907030005_010000040000070800_080007050004000203_000000000008000004_000000000309080000_020000000005010006_030105000702000000_000009000000020000,
  0x090000000200000000_070800060300000200_060000080400000100_000409000007080300_000200090003000000_000300000000000509_000700000108060904_000000050706030000_030008000000050001,
  0x050300000000000000_000000000001000005_040107000005000002_000005010200000900_000000050009030006_000009040008050000_080003000902000500_000502000000060000_060000000000020803,
  0x010300080000000900_000700000109040000_000800060700000200_020000000000080600_000500000008030000_000100000000000000_000007030400090102_000001070800000003_030200000001000000,
  0x010000040000000905_040502000700000600_060800000205000704_050001060007090208_000008090000010006_000603000801040007_000005070400000000_000100000006070802_000900000000050003,
  0x000000010009050000_000009000804000007_040300000007000000_000006030002000008_000800000000010000_010204000008030005_080001040000020003_000905000001040700_000002050703080000,
  0x000000000100040000_040003000005000200_000006030200050000_000000010903000605_010000000007080400_000005000408000007_000007000300060500_000000000500000700_000600090000030801,
  0x000000000802000000_000006000001000207_000002070000030000_020000000600000903_000300000400000006_000000000500070402_070200030000050804_010008040705000300_000400080009060700,
  0x010000030900070000_000709020000080501_050600000008090003_060000090500040000_040000080207010300_000001000000000000_000000000002030400_090408060000020105_020000050400060008,
  0x020400090701000000_000306050004000800_070105060008040200_000007000003000000_030900000602000400_000600040905010703_000009030006000107_060704010009000005_010800000507090604,
  0x000409050003000008_020600000008000003_050003000602040007_030000000009010400_010006080300000700_000700060501000300_000000010800030000_000104000000050800_080005000200000900,
  0x000801000700000306_050209040000000100_030000000200000000_000000000600090005_000600000800030701_090008070003040602_010002000900080000_060907000402000000_080004000000060209,
  0x000000000600080009_010806070902000500_090405080300000000_020107060009040800_030604010708090205_080509000200060700_060000000407020900_050002090803010006_040900020006000000,
  0x000400000000000700_060000000000040802_070905000004000306_000800020007060000_000507060000000400_020000000001080007_010008000305000200_000004000000000000_030209000008000105,
  0x080000010006020500_020005080703000009_070004020509030800_000007090208060105_000002060000090000_000000000005070002_000201000004000706_000008000601050000_050000000002000004,
  0x000000000905070301_000005000000090804_000001000704050206_000800000600000100_000000000000000003_060400090103080700_040000000000000502_000300020000000000_050207060000000000,
  0x000904070000030001_000000020103040000_000001000000000000_090800000000000700_000000050009020003_020500000307010900_000008090200000000_040000030700090100_000009060501000002,
  0x090000080200040006_040600070300020000_000000000004000708_000800050902000103_000003000607080000_050709030008060204_030900000400000007_000002010005030000_070100000000050002,
  0x080000040000050007_020007000000000000_040305010007000908_060003050409000000_050408030102090000_000201080706030504_000902000000040000_000000070000000605_010000020000070300,
  0x030400090107020600_000900050006040008_000006000408000009_080309000000000000_000005000903000006_000600000000000002_090201030000000500_000500070209000400_040000000001090203,
  0x030401080000000509_070500000904010206_090200000001030408_040000000600000702_020003090007050000_010907040502060000_000002000100040007_060000020405000001_080000070000020005,
  0x070000000000000000_000800020003040000_000003000400080100_000704000002060000_020600000300070409_000500000704010203_000206080107050300_000008030000020700_000300000206000001,
  0x050000000008000107_030002050007000000_000907030000000205_060500000100070000_000008000503010000_020001070800000000_000005000000040300_000306000700080009_000009040005000706,
  0x080100020706050000_000607040003000000_030500080009060700_060305010204000907_090200000305040000_000001090600020300_070402000900000508_000806000407000201_010003000002070604,
  0x000700000004020900_080000000002070000_020000050000010000_060900000000000400_000000000300000005_000004090000000000_040300020005000700_090007000000000008_000506070900040000,
  0x000001070900040005_000007000001080002_000809060000000100_000702000400090000_000408000000030201_000106000009000000_080000000602000500_000005000000000000_010600080007000000,
  0x010002000000040008_000009010004000500_040500070600090000_000706040008020003_000200060007080400_080403020100070000_000900080000010000_000807000001000200_000004000000000000,
  0x040000000000000005_080100020009030000_070000080003040000_000004000800000006_000809030000000500_000701000005080009_010000000000000000_050408070900000000_090002000300000001,
  0x000000000000050000_030800060004020000_000000090508000000_060300080400000500_000000000600090000_000000000001040006_050000000809060400_000900040300000105_040000010005000007,
  0x050007030000000000_000908020601000503_010603050907000002_020006000300040009_000500000209000307_070000000008050206_000402000706030100_000800000103000004_030000040000060000,
  0x060502000004030000_070003000600040001_000001000003080000_000005000401000308_010006080000070400_000304000000050100_050009030700000004_020400000008010003_000008040000000005,
  0x000900000700000002_020000040806090001_080001090200000000_000006070302080000_070000010504030006_000004080000010700_010500000008000007_090000000000000300_000702060003000008,
  0x000500070800000002_070108000002000300_000300040000070000_060002000708000900_000000060900000400_000900000004000000_000209000500030604_050800090400010207_000007000301090500,
  0x020000010000050600_070801000000000002_000005020703080000_000700030000000506_000600070000090000_080900000002070100_040200000500000703_030007040001000000_000006080000000205,
  0x000100080000000003_000004000000000000_000000000309000100_010003000506000000_000008000002040006_000009000008070000_000000020600000905_000500090000010000_000000000100030207,
  0x000000060004000508_000000020001040006_000400050800000200_000205010006000907_000904000000080600_000706000005020100_040600000100000000_000501040003070802_000000090502000000,
  0x010500000002000008_000000060300000500_080306000401000207_070001000600000900_030000000000010000_000000000100000806_000000030000080000_000000020500030009_090000000806070000,
  0x040600090000000700_010705040000090000_000000000000000100_030001070000050609_020406000009000001_090507000006020403_000208000001030900_060004020900000508_070009080500040206,
  0x000800000600040002_090000070002000600_070000050004000300_000300000000060007_000000020000000000_010506000000000200_000000040008000001_030000000001000405_040000000900000006,
  0x070008000000000000_000500090100000007_010002080000000905_090307000408000000_060004020007010009_000100060000000000_000401000802090006_000206000005070400_000009000600030008,
  0x090506070800030400_040000000000000009_000000000000000005_000300000007000500_050000060008070001_000100000900060000_000003050409000000_010009000002000306_070200030006040000,
  0x030001000000040002_040208000007050006_000000020409010803_000005080001030000_090803000200070100_010402000500000608_080306010705000009_050000040002000300_020000090006080001,
  0x050409070301000002_020708060905010000_060100000802070000_000000000203000000_080300000000000009_000000000000000607_090007000100080300_000800000706020500_040002000508000001,
  0x070402000006000000_000008000700050000_000006090008000000_000000000003000500_000304000005000107_000605020400090000_040000080000000000_090800000000030005_000003000009000004,
  0x010008000000000400_030007040800060005_090400050100000208_040905060308000000_000300020000000900_000000000001050803_070103000200000500_020009000000000007_000604000900000302,
  0x030102070000000500_090607010000040208_050004000009000100_000403060005090002_000000000300000007_020008090001000300_040005000900000000_080000040200000605_070300000000020000,
  0x030006000009020005_020500000003000008_080007040002060000_000700000000000602_000009000700000000_050000020000040000_000400000000000800_000600080007000009_000000000201050000,
  0x040900000000070800_000600000700040509_000700040009030006_060000000402000000_000403000805000000_000009060100000000_000000000000000102_020300000001000708_090100070006000403,
  0x050304000700000009_000006050000040000_000900000601000003_000000000402000900_000001000506030008_000009000100000400_000400000000000000_000000000004020000_000005060003080700,
  0x030608070500010002_070000010200000306_050200060300080000_000000000000040100_000700020400000509_000009000705060000_060000000802090401_040005090100020000_000100000600000805,
  0x000100000000000503_000004000005060800_000008000000020407_060003000807000005_020800050000000009_000000000300000000_000000000700000000_000009040000010300_040000020500000600,
  0x030200080701000000_000008000004030009_040000050003020000_000504090208010000_020800000007090500_010000030000070000_000402070500000301_000107040302050906_000305000809000002,
  0x000500020000000600_000004000500020100_090006030004080705_020000050001000800_080009000006050001_050001000200040307_060000000002070000_070100000900060002_000300000605000000,
  0x000000000503000000_090000010000000304_000800070409050102_000000000004020000_040000000000010007_000000020000000400_000009040000000000_000100050002070009_070200000300000006,
  0x050700010609080003_000006000300000005_090000000000000000_000002050907000008_000000080200000100_000000040006020500_000200060000000004_060000090504000300_000009030802000601,
  0x000900000408050700_080005070306090400_000007000900030100_000800060503000209_000000000200080005_020006080009010000_090003000607000001_050001030000020907_000000090002000000,
  0x000800000000000506_000002000000000800_060000030708090200_000006000904020000_000100020000040305_000007010300000000_030700040200060900_000008000009000402_000904000800000007,
  0x000700000500080201_050200040806090000_090308010000000004_010000000600000000_000002000008000007_070004050000000000_000007000005030100_060400000000000905_080100020000000406,
  0x050006000700000201_000903000000000605_000107000000080004_000504080003090000_000200000000010000_000300000900000000_000000070000060000_010000030002000500_030000000604020800,
  0x000000060000020500_070500010000000809_000802000000010706_000104000005000000_050007000000000000_000000070301000204_000900000100070600_060000040700000900_000700000906000000,
  0x080204060000000000_000609040503000000_000005000008000409_000000020600010000_000000030901000000_010000050804000000_000400090006020100_000000080400000307_020800000300000900,
  0x000703000804090000_010800000502000000_060000000300000000_000007000006050000_000600030000010700_080100000900000304_030000040000020000_000000000008000907_070008090203040100,
  0x020800070600040309_060004000209000800_000900040003060001_030200000704000100_000000020300000000_000006000008030402_000000030100000508_070502000006010903_000000000907000604,
  0x040000000501000002_080000000004030005_010503000007060000_000007000008000500_000000000300000600_000200040000090300_000000000103000004_000000000009070000_070300000400000900,
  0x070900000004000200_060004020503070809_050000070809010004_010700050000000300_000600000300090000_000400000600000000_090000030701000402_000000000400000000_040000000000080100,
  0x000403000000000002_000000040006050008_000000030000090000_060000000300040000_030000070000020000_000004000000000007_090605010700080003_000008090600000000_000307080005060001,
  0x000304000200000001_000005000000020000_000900000000070300_000400030000000000_000000080000010500_020001070000030409_090200000001000006_030100000604000000_000006000008090100,
  0x020500000004000000_000800000000000105_000600020508000007_000001080000000603_040006000000000908_000008060001070502_000000040006000000_060009010000050204_070402050000060001,
  0x020807000000060000_000000000000090001_090000060403000007_000009030004070008_000000000200000600_030200000007000100_080100000309000402_000004000105000006_050000040006010703,
  0x000008040509020006_020600000108040000_000405060000010003_050900000800000104_040001090005030000_000300000002000507_000200000300000001_060000050901000002_010503020000080600,
  0x040100090003000008_050009000600000000_000007040800000109_090700000006030800_080003000000000004_000500000000090200_070405000009080302_010008000302000500_000602080000000000,
  0x090208030000000007_000000090001080000_040000080000050000_000003010800000005_080700000002000000_000500000304000000_000800000000040500_000600000705000800_020900040008070600,
  0x090801000400000000_020000000008040000_040000000300000000_000100000000000009_030900000005000806_070200000809000003_000709000500000104_060003080001020705_000502040700090608,
  0x020300080000000700_000000060000000300_000500000200000006_000000000600030000_090000000300000104_000000020007090800_030907000800020001_040000010903000600_060000000500040900,
  0x050203000709080601_040000000000000000_090601050308070004_000008000000050000_070402010500000003_030009000000000106_000900000805000000_010706030904020008_000000070002000400,
  0x040000050300000700_000000000000000006_020005070400000000_000500000700000200_000100030805070000_000007000900010000_050804000000020600_000003040000050000_000000000003000009,
  0x000700040000000803_000005070800000900_000008000506000104_070203000600000000_000801020000030000_060500000003000001_080100060000090700_040600000200000000_000307000000000402,
  0x020000000009000000_000000000000000001_000600000001030000_000504070003090008_000703000000000000_000100050000000007_000400000902000806_000008010000020400_070000000004000000,
  0x050609000002000003_000000000800000000_000208000300000006_000002000000000700_090300000700060508_000000030406090001_000900000003000100_010000070600000000_000003010200000600,
  0x000600000803000900_000200090000000106_090005000100000008_000000000000000704_000007000001050000_050800000400020000_080000000000090003_010300050002000600_000000000300010500,
  0x000600080903000500_080905000002060000_000000000005080400_000009000600030000_000503090008000600_000800050300070002_000007040800000200_000000020006040000_040000000709000100,
  0x000000000600090008_020000070000060004_050000080004070200_000008000000000007_040003000000050600_070900000000000802_030002000401000000_000100000205000000_090405000008000103,
  0x000900080100070504_000004000006020900_000005040002030008_000008000007010300_070003000600000405_060001000409080000_000600000000000007_000000070005060200_000800060204000109,
  0x000400000000000805_000705000403010206_000000000700090000_050000000900020001_040006000000080000_090200080300000600_000900070006000008_000308000005000900_000000000800000000,
  0x000500000806070000_030007040201000500_010806000000000000_090000080007000002_000000010009000708_070608030002040109_000709020000060400_040000000008010000_060301050904020800,
  0x080006070005000200_040709000302000805_020005090800010007_000000000709000100_000007080600000000_000203000100000000_030800060000000002_070900040000000000_050004030200000700,
  0x000009000604000500_030600000000000008_000205010000000704_000400000000000207_000000000400000009_000008000703040000_040003090005000000_010006000000080005_000002000006000400,
  0x060000040000050009_000705060200030000_020004000009000800_000206000001000007_000000000600080103_000008000300000502_000000020003000700_000000000000020000_070400000006000000,
  0x010009000000080004_050000030100070609_030000000900010005_000000040300000006_060800000705000000_000300000000050100_000903000400000000_000506010003040000_000000070600030502,
  0x000300070100000008_000801000009040006_000900000600000001_080000050900000002_000009000006000003_000006020307000809_030502000700060004_010000000000030000_000000000000080000,
  0x000009050700000000_000300090200000000_050706000000000002_030000040807000009_060807000309000000_000002000501030007_000501000003000704_000600070000000305_000003000900080000,
  0x080000000703090500_000002080000030600_000500060000070001_010000000009000003_000000040000010009_040000000008060000_000001000800000300_050000020006040007_000000070001020900,
  0x060309000000070002_080107000000090403_020504000003000801_040800060000000000_010600030207000900_070900040000020000_050400070306010200_000006000401000007_030001000902050000,
  0x040000000100000008_090600030400010700_000001070800030004_000000000001020000_000700060000000000_030002040700050601_000000000004080006_050000080000000300_000000000600070500,
  0x080600040000010502_010000080602030700_020000000501060000_040802060700000000_070903010000000006_000106030008000900_030000090100000005_000200050300080007_060405020000000100,
  0x000500000208000009_000000010300020600_000000040009000107_000000000000030001_040300070000000006_020106000903000000_060207090000000000_050000030006000902_000000000000000704,
  0x040801000705020306_070500030106080900_090000000208070001_020000000300000000_050000020601000700_060003000804090200_010000000007030600_030000060500000800_000000000900050002,
  0x020804000309000007_010009020007000500_050307000008020009_000002000903000000_000000080600090200_000508040200070000_000000010000050700_000000000706010000_000701000000030602,
  0x000000000006040003_000200000800060500_000006000000000201_000600080700000000_000800000000000106_040100090602050700_000900030000000005_000508020400030600_030407060000010002,
  0x000300000509000008_000000010600020900_020000000800000105_000000000708000000_000605040002090000_000009060000000800_000102050000000609_000000080901000000_000007000206000401,
  0x020300000506070801_050001090300020604_040706010208050000_000003000901060007_090605000704000102_010207000605040900_030000060800010700_000500070100030400_070108000403090206,
  0x050100060400020300_040000000100050000_000008000200060400_090000040302010508_000000070000090200_020000000001070603_080001090006000002_060204000703000905_000009020004000006,
  0x000105000706000003_090008000300050000_030000000400070000_000000070102000309_020007000000010008_010003000005060702_000009010500000406_000001030004080900_000300090007000005,
  0x090003000001000000_000000050306040700_000000080900000000_060000020800000001_030009000007000806_080500090000000004_000000000102080007_000006040700090105_000008000500000000,
  0x040306000000000800_000000000306000000_050009010400060700_000000060100070400_020001070004000609_000000030500010000_000002000600000004_060900000000000300_030405000000000006,
  0x000000000004020601_020701030906000504_080006010000070000_000008000002000005_040602000000010800_000900080007040200_060004000000000108_000809060001030002_010000050300000009,
  0x080907000603020500_000000000502060007_000200070408000000_000409080201050000_030002060004000100_010608030000040000_060301020807000005_020700000000010000_000805000100000000,
  0x040000000209000300_090000000800010000_000003000000090000_000506000007040001_010308040006070209_000009020008050600_000100030002060900_000800000001000007_000000080005030104,
  0x000001000009070000_080000050000000003_000006000000000001_000900000000000702_030007060500010000_020000090000030000_070109000304000000_000200010005000009_050000000000040100,
  0x090008000103040000_000405060702090803_000003000008060005_000000030000010607_000700000000030908_000000000600050000_020007000904080300_000000000000070500_000009000005020001,
  0x000000050000000600_000005000004070309_000400030700050000_000100000300000000_030000000000000001_000009000000060003_040900020806000000_080000000000000706_010000000405000200,
  0x000008000000050004_000100000308020600_060000020000000009_000000070000000000_000000040500000806_010005060000070000_000700080004000000_040306000200000700_000001000009060400,
  0x000000000008020903_000600000000080700_080000030900000604_040902000301060800_000006000000050300_030000000009040200_000400000000000500_060300000004000102_000501080200000400,
  0x000800000009020003_000102000403070900_000903000502000008_010609000007050302_030400020000000700_000500030000000804_090201000004080007_060700000208000401_080300010006000000,
  0x000908040700020000_070203090801050600_040500000302000009_000007020000040301_000302000600000700_000004030907000208_020709050100080406_000006000009000500_010005000006000907,
  0x000100060000000000_000000070800000006_000400000005000008_020301090600050007_080000000500000003_090000040100060000_000900000002080004_000700080900030201_000002030001070000,
  0x000000000704080001_030006000800000507_040000000000090206_020709040000000600_000004020600000000_000000070500000400_080000050400060000_060400000203050700_000500010000030004,
  0x000500000300000000_030000090400000100_010006020005000000_000000000000000000_050009080100070000_080100000000000609_000000040500090007_000900000000000006_000700010906000800,
  0x000306000002000001_050009000803070200_010000070406000900_000002030709060504_000705000008010300_000604000100090700_060007080004020000_000000000307040600_000003060001000000,
  0x000209000000050100_000007000000000000_050100000000000007_090000030000070000_000401020709000500_070803000501020906_080000010002060000_010304000800000700_020906070300000000,
  0x050600000708000002_070008020104000500_000100000600080000_000301040200000005_060000080509000200_020000000307000000_010006070400000000_030009000000020000_080204000003050701,
  0x090302010706080504_050800000302060007_000607050408000000_030908040107020605_020701000000030400_000405000209010000_070006080500040002_040000000900070800_080000070604050300,
  0x010006030005070000_000700060000020000_000003000001060900_000004070003090200_030102000009000000_000500000008000000_000007080306010500_000008000100040300_000300050007000000,
  0x040200000500000009_070800020000010006_000103000900040802_000500090004000200_030004000200090000_010902070305060400_000605000001000000_080400000000000700_000307000000050001,
  0x030200070600090005_000006030004020800_000704050009000106_060008000302050704_090407000500000300_020300060407000901_070600000800000500_010009000000040603_040000000006070000,
  0x010700000000090000_090000000000000004_000000000002070000_070905000100030000_000001090800000705_030000000700040009_050100000209000007_060009000507000402_000300000008000000,
  0x020608050300010000_000000000800000003_030507040001060900_000402000900000000_000106020005080309_000803010000040502_040300070000000805_000700030504020006_000005000108000700,
  0x000307000000000209_000008000000000006_010000020006000700_020700000508000601_000000040000000000_050001000000000300_000000000905060100_000009000200080400_030506000000000002,
  0x000000000000000900_060007080904000500_050309000000000000_000600000000000009_000000070600000400_000700000005000000_030206090008040007_070900040100030000_010004000706000800,
  0x090000000500000107_000000000007000006_030007000608020509_060009000000050008_000705000200010900_000000000009000002_040000000705060000_000003000000090000_050001000000000700,
  0x060002000005090008_070900000006000100_000000000000000206_010603080400000000_000200050000000003_040005000000000800_000500060008000002_000406000200080500_000001000500060009]
theorem mixed_22_ok : mixed_22.all fastOK = true := chunkOK_sound _ (by decide +kernel)

/-- `mixed` (10000_mixed_puzzles.npy), boards 5750..5999 -/
def mixed_23 : List Nat := [
  0x000000000409080306_040000000003000005_080001050000000900_000106000900000802_000904080000000501_020007060000000400_090000070100030600_010000000008050000_060008000005000000,
  0x000004070000000805_000503000009000006_090006000200000400_000800000000040000_000007000006020000_000001000000030509_050000030000060000_070400000000000301_000000000000000902,
  0x000000000902050001_060301000400000000_000000000000000006_020000030000000009_030700080000000000_000508000000030000_000000000308020907_070200000009010008_000800020001000000,
  0x060004000000000100_070000040000000005_050000010000000006_000000000700000000_010807060000020003_000002000100060700_000006050300080000_080005000406000200_030400080001000600,
  0x040901080600000200_000003000700000000_000008020000060100_070000000006000002_060402090805030000_000005040000080600_090000060308000000_000000000000020000_030007010000090006,
  0x080304020907000001_010602000500090000_050000000608020400_070501080006000900_000008070002040100_000003050009080000_040000000001000006_030206000005010009_090105000000000204,
  0x060200040001050907_090700000600020000_030005000709040008_000309000204060105_010006000000070209_070500000000000400_000907000000010502_000003010000090700_000600050907000000,
  0x030000080700020000_000700000000080600_060200000301050004_000003070009000000_000000000000060000_000004060000030008_000000000000040001_000000030002070005_020007000100000006,
  0x090700050006030100_050008030102060907_000106090000000208_000000010208070400_070201000900080305_040009000305020601_010004000003090702_020507040009010000_080000020700000506,
  0x000000030100080200_000001000006090004_000504000900000103_000000040009000601_000400010700000002_000307060000040500_040600050800010000_090103000000050000_000705000001020000,
  0x000300050000000000_050002070000090601_000107000902040005_000009000700030008_080405000009010702_000701000500060409_040000000000020003_000200090300050106_010903000200070004,
  0x000002000608000700_090000050001000200_000100000000050008_070000000000000000_060000020005000400_000200070004080000_000500080006070900_080700000200000003_000906000000000000,
  0x000500000008000000_090002000000040300_000800030100070000_000009000004020006_060000080203090000_020400000605080003_010000000009000000_070000050300000200_000000020800000009,
  0x000405010000060002_000006040000010705_010000050200000008_080600000005070100_040900000800020500_000003060102090004_000704000900000000_000000070600030000_000000000500000000,
  0x000000030700040000_030000000600080000_000008020504000309_090000060005000100_040105070802000903_000000010000000000_000301000006000405_000406050900010200_000900040100030006,
  0x090608000001070000_000205000000000001_000400090007000500_050700030000000900_000306040000000000_080109000000000004_000507000908000603_060803020000000100_000902000403080700,
  0x000000060705000002_000600000000070000_050704020000000000_000300040208050001_000200000900080300_000008000006000200_020500070800000900_010800000402060000_000407050000000108,
  0x070000000300060000_050000040000020003_000001000700000900_000000060408010209_090402010003000000_000008020000000004_040100000000070500_020006000005030400_000705000000090100,
  0x040002000107050008_050003060900070100_000109000000000004_000208000000040003_000001000800000006_090400000003000000_010000000000000000_000500090300010407_080000000200060000,
  0x000807090003000004_000009000705000208_000500080100070000_000002000400000503_000000060008010402_000000000000000000_000100000000000800_000400000607000900_000000000804000001,
  0x090000000000080004_050308000900020701_040107080502030906_070405000603000200_030609000408050100_020800000705060400_010502030807040609_060703000009000805_000904050106070302,
  0x000800040500010600_000301000002090000_000000080901030400_000006050004020000_050002030600080000_080900010007000000_000003090106050000_000000000000000306_000200070005000009,
  0x010300000008060005_090000000001000800_020007060004090300_000009000800000406_070000030000000100_000506010907000000_000002040000010008_080401020605030000_060703080009040002,
  0x070105030600020000_060003010000070000_040002000500000601_090006000805000007_050708090300000200_000000020000000509_000000000003040002_000401000200090000_020609080104050000,
  0x030000000100080000_000108000409070200_000000080007000000_000609040001000302_000003000600010704_040000050000000008_000002000000030005_000305000904060800_000804000000020001,
  0x000501000206080704_000600080700000509_000007050900000200_000005000000090000_070806020000000000_000900040503060007_060100090802070305_000209000307000608_030708060405020901,
  0x000001000000080005_050009080000060302_060800000902070001_090000020000010003_080400010007020009_010300090005000700_000100000500030000_000900000200000807_000005000800090004,
  0x000000060002010000_050800000009000200_000003000000050000_000008000900030000_020500030000000100_000100000007000000_000000000403000000_000005090801000006_000002000700040003,
  0x000008000600010000_010000080504000000_070000000000000008_080001000906050300_090000040000060000_000300000208000000_000100000000000009_030000000001040000_000506020009070100,
  0x000708000100000509_010500070408000000_020006090000000001_090000030807010400_000004000006020007_070001000009030005_000000050901070602_060902080003000104_050007000600000008,
  0x050802000600000907_000704000902050003_000000000000080002_010000000400070200_090000010200000008_020507060003000409_000000070106090000_000900020308060700_000003090000020800,
  0x000500000306000200_000000090000000000_000000000400030106_000000000000060304_000006000000000001_000002040603070000_000307000004000008_000000030800000602_000000050001040000,
  0x080001050600000704_000000000307000605_050607000000080000_000000000105040006_010000030900070500_000506000008030001_000000000401090007_000200090500060000_060109070002000000,
  0x080500010900030000_070000040002000008_040000060800000007_000400000006050309_020900050100040000_060000030000080200_030600000001020000_050200000604090103_000001000003070004,
  0x010008070305060000_060509000200000400_000000040900000000_000004020700000006_050600010000030709_000000000603040000_000300000000000604_070000000500000100_040900060002000300,
  0x000600090000000004_030000050008010000_000900000000070000_000008030000050001_000000040002080000_000300010000000000_000106000003040000_090002070001060005_050003080600000107,
  0x050004080007060002_000201000309000500_000000020005000300_000009000000000400_000000070001050000_000702000500000003_000400090000000000_000000000400020000_000007050006000000,
  0x050008000000090603_060302090000000001_070400030106020008_000906000205000107_080500000000000000_000700000000050800_000000000700000900_000007050802010000_030800060000000200,
  0x000209080000070004_000000040902010603_010600000007080902_000000000000090706_080900000600050001_000407010509000300_040001000700060000_020006090800000105_000000000001000807,
  0x000000000000060007_000701000600000304_090004000000080000_000400090706000000_000500030100000009_060900000005000100_000005000309010408_000009000400050006_040000080500020903,
  0x070004060000090105_000001000908030000_020900040501070806_010000000405060009_000709000006050004_040506000000000300_000300000600010500_000005010800000003_090100050003000008,
  0x000400090600000000_090002040507000006_000000080301090200_040003000800020500_050601070000000908_020000000005000307_060000020700000100_000000030006050009_030004000900070002,
  0x060300070904020001_000000000002000000_010002050003070809_000500090700010008_000001040008000305_000009010305000004_000906020007000000_080000030000000600_030000000800000000,
  0x000002050000000600_000800020103000004_000000060708000005_000400080007000000_080000000000000002_020006000000080900_050000000000060000_090608000000000200_000203010006050400,
  0x040301090600000208_070008000004000001_090200010008000000_000007050902010000_060900000003020407_010000000000000005_000003000500000700_020000040000000503_000000060000000000,
  0x050900000006000000_040000000100000600_000300090400070008_000503000700080209_000000000009000300_090008000000050700_000704010500000900_000000000000000000_000100030600040805,
  0x000000000801000002_090005000400080700_020800000900000103_000900000600000500_000502000703040000_070400020005060300_080009000004070600_050700080300000004_040200070006030908,
  0x020001050008030000_060407000200080000_030000040000000902_080005000007060009_040000000106000500_000002090300000400_000004000000090706_010006070904000200_000003060502000000,
  0x050008000000010900_010706000000000000_040300000100000600_000402090800050001_000100040006000000_000800010700030400_000000030000070809_070004000200000005_000003060007000002,
  0x010506020800000700_020300000000010906_040709000000050200_000000030600020809_080205000904000001_000000000008000405_000002000506090107_060107090302080000_050904000700060002,
  0x070006000809000000_080300000205090600_000000000000000100_060000020000000005_020509080706010400_000000000504000706_050700000902040000_010602000008000000_000900000301000000,
  0x000000020000070009_000004000900000000_020000010803000006_090001060300080000_000806000002040000_030205090008060701_040000000009010000_050000000000000200_060107030000090804,
  0x000600000400020009_000001000000070300_020005000009000600_000004000001000003_000300050904060001_000200000007090000_030100040008050007_000500000702000800_060000090500010400,
  0x040000000107080006_000702000800000004_000508040600020307_000604000708030902_000001050003070608_070800000206010005_000900060001000800_080005070304000209_030406080902000000,
  0x000000090803060000_090300000500010400_000600040002000509_040000000000000602_000106000704090800_000900000200000105_060200000305000004_080700020000050006_000400080600020001,
  0x000000070400000906_000006000009050000_040700000001030802_000604020500080001_000003000006040000_070501030804000600_000905000000060000_000300060908000405_060407000300000000,
  0x000400070000000008_000000000005020000_000000040300000100_020000030008000000_030000020109060000_080000060000030001_000000000200000706_040600000000000500_070008000000000304,
  0x090008060001000000_000300000000020901_050000000000000000_000700010000000500_060000040000000800_080400000305070006_000600000108000009_000000000003080007_000803090600000005,
  0x020000000008000000_000904030000000200_060000020905010000_070005000004000900_000301000600000005_080000000109030000_040709000000020800_000608090203040000_000000040007000000,
  0x030001090402000506_000704050000000102_000006000800030409_010007080006020300_040605020309010807_000000070100090005_060009040200050000_070400030905000200_050003060700000908,
  0x000708020104090003_000102090003000608_030900000600000207_000001000000020005_040005080301070006_070300060000000004_020506040000030001_090003010000000000_010800030002060409,
  0x010003090000040600_000204000001030008_060500030800000702_000000010007050003_000001000305060400_090000000006080107_050000000000020801_000006000208090500_000002000000070006,
  0x090004000001000000_020003080409010000_070006030005000400_000000000104090500_000400000703000000_000600000900020700_000000040802070906_040000000306000800_060200090507000301,
  0x000000000800090002_040000070200000500_000902000001070408_000204000005000907_090703000006080005_000800000702040000_000000020007050300_050400000008000006_000000060504000000,
  0x050300000000000000_040600000301090000_000200080000040100_030000000009000000_090000000000020600_060800000007000000_000006000000000000_000500000703060900_010003040506000800,
  0x000300070500000804_000100000008020005_080504000300060009_000000000401000000_000000000700000200_000203000000000000_000007000000000002_020405060009000000_060000000200040508,
  0x000005070000010002_060002040005090000_000004000009060300_000000060001040200_000000000000050006_040000080000000009_070600000000020000_030501000207000604_000400050603000000,
  0x060008010000040203_010000070400080000_020400060000010907_050004000000020108_000007000500030609_030600000000000700_070800000301090402_000500000206070000_040001000709060300,
  0x000000000706000009_060008030000000200_070000040809010006_010000070203080005_090305000008000700_000000000000060100_020000090100000400_000009060402000501_050401080300090602,
  0x060000020400000900_020900030600000104_000000090005020603_000000080301040009_010208050900030000_090000070206010805_040502060700000001_000601040003090502_030809000502000000,
  0x000503010700020900_090100050800040300_070208000009050106_000000000001000009_000001000200000005_060407090500080201_010000000300000802_080305000000090004_020004060908010000,
  0x000100030600070200_000000080000040901_000000000000060500_000005090000020007_000007000800000400_090406070100000300_040000000005000000_080002060703000000_030000010000000000,
  0x000000000000030000_010800000703000602_000000060000080001_000700000900000008_000002000000060300_000004000001000700_000000000604090003_000006080300070100_000008010500020006,
  0x030500060001000000_040200000000050000_000900050002040801_060802090504010703_090403000000020500_010000000208060904_020304010905080607_000007040803090102_080000020607030005,
  0x080000000506040003_030500000104070000_000702000903060100_070000000000000006_000403000700020000_000001060400080000_000005000007000604_000000000600000000_010607040000090008,
  0x000000030004060000_070308000000000200_040206000500000109_000402010608050000_080703040000000002_010600000000000904_000900000000020308_020000060000000000_000500070000000006,
  0x000200000600000107_000500010700080300_000000080000000000_000809070406000000_000000000000060000_050003090000040700_040000060005070003_000900020000000604_000000000800020900,
  0x000000000001000000_000200030405010900_000403000006000502_000005000200060403_020006010004000708_040007000000000000_000902040000070100_030601050000040009_080004000109020300,
  0x000400000000060002_030000040007080000_000601020009070005_000203090800000600_010000000000090003_060900010203000000_000700000000000000_000000050702000800_000309000000000500,
  0x010800050007090402_000009060100000008_000000080000000100_080005000001000007_000000000005080003_000402030908010000_050000000706020300_000704000800060009_000903000502000800,
  0x000900080205000004_040007060900000002_000006000000080000_060309070004000000_080402050009000600_000000000002000908_000600000001070000_070000000000090400_020000090700000800,
  0x030000090004060500_000401000003090002_000000000006070000_010900000000000006_070800010000050200_000005060700010000_090108030007040005_000004000901000300_050700040008020109,
  0x000000080400070602_000002000900050300_050008000300000004_000000070000020500_090605000000080700_020107000000090006_030001000000000000_000000000102040009_000200000700000000,
  0x000502000008040100_080003000209050000_000000030405080000_050000020007000000_060008000000070000_000000060001000004_040006000103090702_020000000000030000_000000000700000400,
  0x000305000401080002_010700050000000000_000406000300000000_000000020005040009_000807090004020000_000200000600000105_030004000507000008_070602000000000500_080000000200000407,
  0x000007000800000203_000002000600000907_000100000400000000_000708000006000002_000006040308000700_030000000102050800_000201000700060009_000800000009000300_070009060000000008,
  0x000003060900000500_060004070000000109_070908000105040603_000000080000000700_040005090701000302_090600030502000804_000000040000000900_000409000800070006_000706010009000008,
  0x000000080307090000_000302000100080000_010908000000070004_000400000500030000_060000000802000709_000800000000020006_000100050208000900_080000010903000400_050000060000000800,
  0x000009000500000403_000702010306000000_000000000000000007_050000030000000009_000301050900000008_000900080601050004_000200000400000900_000400000005030702_070000090008040001,
  0x000000050300060000_090001000407000000_000000010000000000_040503090000000008_000007000002050104_000000080500090003_000000000205010000_000102060000000000_000000000000030206,
  0x010403020800050009_000800050009070300_070009010000080400_000000000504000200_000200000000060008_000000000000000900_000700030000090805_000001000000000703_020005070000040106,
  0x050008010009000000_000000000307080009_000000000000020007_000100020700050900_000905000006000700_020807000001030000_000000000904060000_000006000000070004_000000080600090300,
  0x000600000100000200_000908000000060000_000500060809010400_030800020604050007_020100090008000604_000000000503020000_000006000007000301_050304000201070900_000000000906040002,
  0x050100070200000009_000004010900000205_020903000506040107_060001030809000400_080309020400060700_000205060000090803_030800000701020900_090507000002010008_010400090008070506,
  0x060308010200040009_000700000604000300_000004000008000106_080402000000000007_070609050403000000_010503020007060004_020106080509070000_040000070300010600_000807000006090005,
  0x000000080004060007_000009050000040001_000500000300020009_000306000205000004_000700090803000000_080002000006000000_090600030000000402_020000040009000608_000407020008000000,
  0x060000010000040700_000000060500030800_080000000004000000_040908000000070003_000105080003020400_020006070401000908_050200000708090000_090804000206010300_000007000009080205,
  0x000000090003070002_030000020000000000_090700000805000000_000009000200000001_000300000000000006_020106000000090805_050003000000000100_000000000301020000_000804060900000007,
  0x000009000002000300_030000000800000006_020008000006050004_000200000307080000_010000050400060200_040300000208000007_000403000000000009_000001080000040000_000602090700030000,
  0x000100000000020000_020000000000030706_070006030004000900_000000000400000309_090200000703060408_060400080000070100_040007000009080000_050008000007000001_010000040000090007,
  0x000307010009060000_040501080006070309_000902000700010508_030200070000050900_000005090000020600_000609050002040003_000000000900000105_000700030801090004_090108020400030700,
  0x090601030000080704_000000000704060000_070000000000030000_000003010000020800_060500000000000000_020100080005070000_030004050006000007_000000020000000008_010207000308000900,
  0x000800040001060500_000406000000010000_000000060500000900_060109000704030805_000503010000000709_020008000300000106_000000000002000007_000000000005000600_080605000107000402,
  0x060003000009000008_020000000001040900_000000040000050003_000200090000000800_000000080007000000_000004010000000000_000007000005080000_050800000003010200_040002000000000605,
  0x060900000200070800_040008000900050300_000301000006020400_090803000004010000_000100000602000000_020400000000000500_000000020000000000_000500070300000100_010700000805000003,
  0x050302000007000004_000901000000000800_060008040001090302_030007060800050201_000205000004030900_010009020000000708_070106000408000503_090003000602010407_020504070100080000,
  0x000205090007000000_040706050000090200_000109020300070000_060500080900020000_070900000000000308_000000070600000900_050002060000000700_010000000500080009_090300010000050002,
  0x060805000104000700_010009000600050300_070400050000000000_000502040700030000_000600000000070200_090300010000000806_020004000005080600_050006000003010007_030008060001020000,
  0x000607000100030900_000300070800050106_000005000900070000_040102050600000700_030500000000000400_070000030001020005_000701040000000002_000004000508000000_000800000002040001,
  0x000000000000020000_000005010800000600_080200040300000000_000000000000040300_000008000504090002_040002080000050706_020500000000000007_000006000401080000_000000050003060000,
  0x000001000003000809_060009000800000000_030000020006070001_000007010500000206_020106000407000000_050000080000000700_090300070100000605_070000000200080103_010500060000040000,
  0x000307000005000008_050804010000090207_020600040007000305_000400050000020703_030200000000000100_000900020008040000_090500000000070000_040702030900050001_060100000002000900,
  0x000209050000070008_000300000000010000_010005000000000209_090708010500040000_000000040300090807_030600080000000000_040000030708020001_000002090001030706_070000000605000904,
  0x000000000500020600_000500000602000803_000000070008000509_000006080009050300_000007000100000400_000003060000000000_000000010000090000_000000000200000005_010804050007000006,
  0x000500000001000807_010007000000090200_000200090000000000_000600010007000000_000009000003000106_070100050406000002_000805070009000604_000004000002000700_000700030804000500,
  0x040000060007000301_080000000000000500_030001000504060008_000600020700040005_000007010008000206_000003040005000100_090804050001000603_000000000306000009_000005000009010000,
  0x010009050004070000_080002010000000000_050400000209000806_070806040500090000_040305000900000600_090001000003040008_030000090407000200_060904020008000700_000000030605080400,
  0x000000050008030000_050008000006000209_040609010000070005_000806000507040900_090007000000080003_030400090000020000_070900000200060000_000500000003000000_000000080000050307,
  0x000000040906000000_000002070000000600_000000000000080703_000408090000000500_000601080507000000_020507000003000806_070004030000000900_010300000704000000_000800020000000000,
  0x000700000006040000_010005000702000006_060008040000030702_000600020003050400_030000060408000200_090000000501000800_040009080607000005_050000000309070600_000000000204090308,
  0x000200040009060000_000400000508000100_070100030006000804_000607020400000900_000900060800070400_000800090000020600_000000010000000000_000506000904000700_080000000603000200,
  0x000007060000000500_080003000002070901_010004000800000000_050009020000000000_000002000000090605_000000070000000302_000006080200000109_020000010706030800_040108050300020700,
  0x060300010007000205_070000000400090800_000405020000000703_010007090503060000_040003000000020901_000800040001000000_000000070604000002_000700000000000000_030600000102000009,
  0x050900000007000600_000600000200000900_020401000009000000_060800070000030000_000700000008000000_000003010000000002_000205000706010800_000000050000060007_070000000003000000,
  0x060003000007000805_000008040000000607_000002000800040000_000704010008060003_020600030000070908_080005000600000402_000007090400050006_040100000300000700_050000000000000004,
  0x060201000009070000_070000010000060200_000003020007050400_000900000005010000_020007080000000905_030000090201000700_000008070904000106_000602000100090007_010709060002080004,
  0x070800020400060009_000504030906080000_060002070001000304_090607000102040500_000000050309000006_030000040600000000_000409010000030000_050301060704020000_080706000000010005,
  0x000006000700000400_000005000100060007_080400020003000905_050800000007000009_060003000005040008_000709000008020000_070608000900000002_000500000000090106_000900000000000004,
  0x000708040100090000_090500000000030604_020000050900010000_000000000800000900_010002070305000006_000000010600020000_040803000501060700_000000000000050000_000005060208000000,
  0x050706020800040301_000201000403080600_000000060701090005_040000070002000508_060900000008000100_000005000006000900_000009010000020800_000500090207010006_000602000004050009,
  0x000400000300060000_000503000600000002_080006020000000403_000000000003010204_000000000002070000_000007050401000300_040005000000020000_020908000007000100_070600090000000000,
  0x000000040200000007_070000000006000003_000405010000060000_050307000100000004_090008030000000001_040000000000030009_010000000004000805_060509070008000100_080000000000090000,
  0x030509020007080000_000008000900000500_040007000005060900_000000000700040600_010000000000000007_080005000000020001_070003000500000000_000800000001030700_000000000000050009,
  0x000205000403080901_030907080106050200_000100020005000307_010302060704090805_050800030001040000_040706090508020103_020408000307010609_070601000009030000_000503010602000008,
  0x040007010000060000_000000030500000807_000000070006090001_030400000000000706_000702000600050103_000600000300020904_000508000003000002_000104020008000000_000203060005070008,
  0x060700040009000800_000001000803000900_090005010006000004_050309000004080006_000102080600000009_000600090305040002_010200000008090003_030907060001000200_080504000900000607,
  0x090200060704010800_010007000008000006_000806000000000000_000109040305060008_000703020601000905_000504080900030102_000902070400080601_030601000000000004_070408010006020309,
  0x000000020905000001_000900000004070000_040000000700000005_000100050009080003_000009030607000000_030000040000000000_000700000002000300_010003000006020000_000802000000010500,
  0x020003000006050900_050807000000060001_040000050701080002_090004070000020106_000002010000000003_000708060302090504_070205000009010000_080401000600030709_030900080107000205,
  0x080904050006000200_000000090800040006_000000010403000905_060105000000000007_090000000205000008_000008060100000000_000002000000000100_070000000000050000_050800000000000304,
  0x070003000200000000_090000080607000500_000000000000000000_000402000100000308_010000000008040602_000009000400000700_000000000000000001_000700060000050200_000000020704080000,
  0x070800040000090105_010604000205080307_030905010708000204_060003000900000001_090000000300000002_040108060502000903_000001020000030700_020000000400000000_000009000100000006,
  0x000806000004020500_000500000002060003_000200010006080700_020105000009040000_000008040207090000_000900050008000000_080600000001050309_030000000805000402_000000000900000608,
  0x000900050002000807_000801000904000506_000500000003000009_030000000500060700_000000000200000000_090108040607000005_080309020000050104_040005000301080000_010000000005000900,
  0x070500000002040000_000008000009000602_060902070104080300_040000050800030006_050000000906020000_000000020007000004_020004000000050000_000000000000090207_000000000005000000,
  0x010008040000070000_000605070800000002_090002010000000806_050204060700010300_000901050304080000_000003000000060504_000500080402000700_000009030100050000_080107000000000000,
  0x000407000003000200_000208000609000400_000000020408060500_020700080504030601_040806030701050000_010503060002000000_080005000007020106_070600010800040300_030100090206070005,
  0x020901000004000807_080000000000000000_000007020809000000_000009000100050203_060005030208010000_030002090005000008_000206080003040005_070508040600000002_000004000500080000,
  0x070002090005000603_000001000000020009_040000000201070508_000000000000040900_010000000904000807_000000080007000000_060200050009080000_000000060308050000_000000040702090106,
  0x040002070509000600_000900020000000000_060000000800000002_090006080704010305_050000000000000000_000001000900060408_000005000400030009_000004000305000006_030600000000050700,
  0x040107000000090500_000600000000000008_080902000307000100_060200000804000007_090703010000000604_000008000006010000_070500000100000209_010306000200070005_000000000000030401,
  0x000000000604000200_010000000005000409_040007010200000300_070004020800030905_000000000500000100_000503040000000706_050000090402000601_090000000100040000_000000000708000000,
  0x000509000701020300_000000000000000700_000000030402080009_070006000800000004_000003000200000900_000908000000000000_090000000000000407_000700040009030000_020300060100000805,
  0x000000030000000000_000800000004000009_000302090500000007_080109060000000700_000004080209000000_060203000407000900_000400000600070008_000008000901030500_030700040002000600,
  0x000300040000000000_050008090007020004_000600000105070900_020000050000090006_000800000009040005_090500060003080002_000205010008060400_010400020906000008_080906000504000000,
  0x000603000000040001_000000000001000900_070001000800020600_000000000000000807_020000000107000006_010000000900000002_030005010000000000_090007000604000000_060000000002000000,
  0x050800000004010200_070000010900000004_000000070000000000_000003000006000700_000005040100060309_060008000007020105_090002000000000400_000507000000080902_000104020000070003,
  0x000004020908000600_000000000006000500_020601040507030000_080006000400050203_000000060000040100_000100030800090706_000500090100070302_000000000700060000_000009000600080000,
  0x060003010208000000_000004060009000301_010000000005020608_000000000903000000_000001000000000004_090000040001000007_000608000002000900_000009080000000002_000402000300080100,
  0x000000000800000000_000308000201090005_050700040000000002_000007050006000000_080104020007050000_060905000103000007_090803000000070201_070506000002040900_010400000008060000,
  0x010708000605030004_060000070400010800_000000000301000600_000200030800000009_000900000000000006_080000000700050403_000800040007000000_070605010900040002_020400000000000000,
  0x000000000500000400_000901040200060300_000007090003000001_000004030800090100_000008060100000005_000700000000000000_000000000006000000_000000000309000000_000800000002030900,
  0x000104070906000508_000007010802000009_000008040503000001_000705000009010400_080300060401090700_000400000200030800_000500090008000204_000000020100000903_000000000000000100,
  0x020008010500060300_000007000000050108_000003000000000009_000000000801000000_070109000000080005_000306070000000200_000005020106040900_040000000000000802_090702000304000000,
  0x060401000000050800_000705000000000000_080200070405000006_000000000600010009_010000040702000300_000800000500000604_000600000200040900_040309000108000702_020107060904030000,
  0x000000000000000401_090700050301060000_010006020800000005_030000090000000500_050000060000000907_040000000000000006_070002030009000800_080905000100070603_060000000005000100,
  0x070200050109060003_010000030802000000_000000000007010208_000400000000000900_000306090701040800_050007040600020000_000800000300090100_000705000004080002_000100080006030007,
  0x010309000000020000_070600000209050000_040005000800030907_020700000104000503_050003020007000604_090004000000000000_060502000308040709_030400090006000200_000000070402000305,
  0x060004010000000300_000000000000040608_030508000000070901_000000000000030000_000003020708000006_090107000000050002_000806040003000000_000305000900000000_000000000100080000,
  0x060000000804000000_010005000000000000_000007090000000000_000008030000010000_000502000000000407_070009050408030600_050304080201000006_000701040900050008_090000070305000001,
  0x000605090002000000_000200060400090000_030000010500020604_000009030000000007_000800070609040300_070503000204060901_080004000906030000_000000020708000009_000000040300050806,
  0x020000000007080006_070800060004000100_000000090000020307_030000070900000604_060000050000000000_090005000600000208_080602000000000000_000700000100000803_000309000006000000,
  0x000500000000000600_000006040700000000_000000000001040000_000001000000000000_070000000300000400_090604000007030500_000003000806050000_010000000500000309_060000090103080007,
  0x000402010608000005_000800020300000701_000300070005020608_080000060702050400_000000000000060300_060209000003080000_000900000100000204_010700030000000006_000600090007000500,
  0x000000000208070000_080001040000030002_000700000000040608_040802000100000000_010007050004020000_060009080000010000_090008060400000207_070005010000060400_000004000000000009,
  0x070509020008000001_000600050000080000_080401000009050300_000000000500000000_090100000604020803_000200000903000500_000800000000030905_000304000006000200_000907030005010400,
  0x000900000800000004_000006000000020901_000000010709060300_000200000300000000_080400000000000002_000709000001040000_000100000602030400_050008070003000200_020000000000000706,
  0x090600000503070000_000004000001000506_030000070000090000_070009020000000000_000000000009060002_020000030805000007_000008000007000000_040000000908000005_000007050000000600,
  0x000200030801000000_000100050700000004_000807040002050103_010000000008000009_070000000600000502_090000000407000308_000000000000000000_000006080305000900_050000000100000807,
  0x040500000108070006_000100050406000002_080600000000000500_000000000000000007_060000000001000009_070400000800050000_050800010000090004_030009000700060005_000004000900000008,
  0x000000000403000600_000003080000000100_040000000900000000_000708000300000906_020301060000000504_000000050000000003_090000000000060000_080002000004000301_000006090102050000,
  0x050801070309000000_000200080001090000_030000000000000100_020600000000080903_090000000000000405_000400090003000601_060000050000000002_000500030007000006_000000020608000000,
  0x000000090108000200_010005000002090004_080000000004030100_000800000000000002_000003000400000008_020100000507060000_000600000800000003_040300000200050000_090000030000000400,
  0x040105000003000802_000700000008060100_000006000100000000_010000000400000000_060000000309000708_000002080500000000_000000000000000600_000607030001000009_090008000602000300,
  0x000600000002090000_040000000000070001_000002090703040000_000100060804000000_000406030009050000_000200000000000004_090004050600030000_020000040000060500_060305020000010000,
  0x000608000704000500_050000000800000006_010704050306080000_000105070600000300_000803010000000005_000400000000090100_000000060000010804_080001000000000003_000006080103000002,
  0x000400090003020000_000306040205000700_000005000100040003_000100000006090000_050802030901000007_000900000708000002_000008000300070200_020601070004030009_000009080600050104,
  0x000201000409000807_000800000700000500_000000000803000201_000100000000000309_080609000300000000_030007000000050000_050000000004010000_000300000006020000_040700080500000000,
  0x000900000801030705_070300000006080000_000200030000060000_000400000309050008_000000010008070006_000000000000000900_030000090207000604_040109080003000007_020006040005000800,
  0x000100000007000600_000009060002000007_000708030900000001_000000000000010000_020000010009000008_000901070000000503_000004000001060700_090007040000000105_010000080005000004,
  0x000003000700000205_040000010009080007_060807050200030109_000300000000000000_000001000500000300_000008000003060000_000100000007050000_000004090006000703_000000000000010406,
  0x000000000400000003_000005000000000908_040903060000000000_090700000000050002_000800000000000000_000000080007030006_010008000700000500_070500030604000000_000600050100090000,
  0x070608000005000002_020000000000030900_000000000000000708_080000070000010000_090000000000050000_000400020509080000_010800060904000003_000200000007000806_030000050000000401,
  0x040000020000030609_070002040903000100_090000080601000704_060504010809070300_000700000006010008_080001070304090506_000007060008050000_020403090105060800_000006030000000901,
  0x060000000504000000_000703000008020000_000000030100000009_000307000001000000_000600000000050002_090501000002030400_000006000005000800_000405000000000003_070000000306000000,
  0x000000000500000201_000607000200000400_000005000304090608_000002090600000104_090500030400020007_000000000700000009_050001020800000006_060000000100080500_000003000005000700,
  0x040007050900080000_080000000000050000_000000020008070900_000900040700020000_050700000000000100_000004000000000000_000005080002000000_000006010500000007_030100090607000000,
  0x000400000009050002_060007000400000300_000200000003000806_090702040506000008_030008020700090000_040000030000000500_000000000007000000_080300000604070000_000906000000080403,
  0x000902000600030000_080004000003010600_060500000104070000_000007030801000400_000000000000000000_000000000000080300_050000090006000708_070000000500090000_030000040207000001,
  0x000306000800000005_040009000007060203_000705000302080009_060000000103020500_030102000000070806_000500070000030901_000000050000000300_050008000000040000_000400000000000000,
  0x000000000906070000_050009000802030106_000008030700090405_000000000000000000_000007010605000300_000603080200000000_000300090004080000_000800020000010000_000100000000040902,
  0x000004060000000501_000700000100000003_010200090008000004_000400000006000009_000000000700030200_030000000900000000_040803000005010007_000100000000000000_090507010800000600,
  0x080006050000000003_000000000000020000_000004010300090000_090001000002000600_000000000003040700_070000060000010300_040000000508000001_000500030409000000_000200070001000804,
  0x000008000509000000_030105080000000000_040009000001070805_020000000803010500_000000000000060203_000500000000040900_090806000705000300_000302000008000000_000400020306000009,
  0x000003000200070000_080700090001060000_090000000308010402_060009000007000203_000105030000000600_000004050800090001_040908010600000507_000301020000000806_000607000000000000,
  0x000001000009080006_000504080000000000_000006040000050003_000003000400000000_000000020000030100_000908010003000000_000602090000000705_080009050007000304_040705000002000009,
  0x000900000700060002_060302000001000000_070800000906000500_080000000400000906_000006000000000004_000400000600030005_000000060000020400_030004070000000600_050607000004000009,
  0x000007000003050200_020006000905000008_040805070000000300_050000030000000000_060000000800020007_080000000006000001_070001000000000005_030604000000070000_000008040000000003,
  0x010002080300090600_000000090005000801_000907010600050203_050001000002030409_000800000901020006_000000030506000000_000706000000000005_020000000000000000_000000060708000900,
  0x000000000203000700_020000090000000803_000300000500000000_000000040001000002_010700050600090304_000400000908000000_000007000000030000_000105000000000200_000204000300010608,
  0x000605000900080000_010000000002000903_090000000603000400_040708090006000500_000006000100090000_000100030004000000_000500000000070309_000002060000000000_000900000007000200,
  0x010000000708000000_000000030009000800_020000050600030400_040002080905000700_000600070402090500_050009060000000008_090000000307000100_030001000804000000_000200000500000009,
  0x030005000009000102_060700000000000005_040109080005000703_080304000006000000_000907000400000006_000206030007000900_090001000002000000_000000000004010600_000403000008000509,
  0x040000000000000201_030800010004070005_070105000002040006_090207000503060108_080000000000050003_050300060001090702_000009000100030000_020008030700010509_000500090000020600,
  0x010000040902000005_000900010500000000_000500030000010004_000007000000050200_000205000003090000_030001050009080700_000300000701000000_050000080406000302_000008000300000009,
  0x060000080700000300_000000000500000609_010000060003080500_000304000806050702_000006070405010903_000000000200060000_000600050002090107_070500040108030000_000100090007040800,
  0x060304000000000507_000100050007000000_080700000406000000_020007000100090803_030000000002070000_000000000300000601_000000020500000000_000000010003050200_000009060700030004,
  0x000200080003000400_000700000405000000_000000000109050007_000008040000000605_050403090806000002_000000050007000800_000002000004000103_060007000900020500_000501000602070900,
  0x000001000200080003_020800030705040100_060005000000000007_000000000000030700_050103000807090004_000600040309050200_000000000903000802_000002010000070009_000006070400010300,
  0x030100070000060000_000706000300000502_080900000100040700_070008060905000300_000600020803000407_050200000000000600_000000000004000800_000000090200030105_090000030600000000,
  0x050000000000000000_000000000004030000_000004050700080100_090600000005000004_080000040000000600_000103090602000007_000708000506000900_010000000000000000_000000030209000700,
  0x000800000000010000_000200070100080604_090400000008000000_050300000004000007_040009000000000006_000100090007000302_010008020003000000_000004050000030708_000500080000020900,
  0x060000020000000000_000701080000000000_000008000400070109_000000070000040600_000400000600000005_030600010804000700_070800000001000900_090004000000050800_000000000000060200,
  0x000306020400000900_000107050903020800_000208060001000300_000004090000000000_010003070000060000_000605030002070409_060000010307040000_070401000209000600_030800040005090701,
  0x070300020600000000_050006070400030200_090402000000000500_030000080000000000_000009000500000003_000004000007000602_000201000000060000_000005040300000000_080000090106000405,
  0x000100020007030000_020000050800000704_000800000900000600_000200000506000007_070400090200060500_000001000708000000_000900000000070002_000000000100050000_050000000400090000,
  0x000000000803090602_000000040907010000_090803010206050407_050009000104000806_000601000300000900_000000060009020100_000102030005080009_000008090002060500_070005080601000200,
  0x000002010000000908_040000020000050106_000009000706000004_050900070000080000_080004030000020700_000207050804000601_090000000000000000_000005040008000000_020000000103000500,
  0x050006010002000704_070800050000000209_030000000000010005_000003000000040502_080007020500000306_040502060009080107_020000040001000900_010008070905020003_060709030000050001,
  0x030700000000090100_050004000001000000_080100050607040300_000000000000000000_010502070000000906_000400060508030000_070000000306000009_020000080009000000_000000000005000600,
  0x080000060003000005_000000000004000100_030000080205090004_050002000306040807_040308020709000500_010700000008000000_000203000601000400_000001000807000009_090000030002060000,
  0x040200090000000000_070009010003000000_010000040500070000_000704000000090003_000100000009000004_000008000004000206_000302000900080400_000000000007000305_000007000402000000,
  0x090802000106000000_000004000700020800_000500020000000000_080205000907000003_000400000200090500_000709000000080000_000300000509060102_000007000400050300_050000030602000000,
  0x000000000003040000_000000000002000500_000000000400070006_080200000009060007_060700000800000009_000009000307050008_000000070500000003_000001000000020805_000906000000000000,
  0x000100030000000000_000000000201050803_020500000608010000_000002000000000000_010900000002030500_080300010400000000_000001050007000000_030800000900060001_040000060100080000,
  0x040900010500020806_070002000800000000_060500020000000007_000306000400000700_000009000305000402_000005070008000009_050000000000060200_000007000100050000_000200050000000300,
  0x000300020000010907_010900000007000002_020000090401000800_000201000603000409_070003000905000100_090000000000070600_040800000000000305_050700030004090201_030109000006000000,
  0x020103060900000705_040000010205000006_090000000307000802_000000000000000401_050001020000000007_000400000500000009_080000050002060003_030500000004020108_010209000600000504,
  0x000900000000000806_000008090300000000_070000000002090103_040100000000000008_000009070000010000_080300000100060007_000006020400000500_000700000000000004_030004000007000000,
  0x020000000001040700_000003060000080000_090004000003000005_030000040009000008_000400000002030001_000000000000000504_000100000006000007_080000010005000000_000000020008000409,
  0x000504020003070008_060000000809000100_000001040007030900_050008000306000002_070402090501060000_000106080000000000_040000000708050001_000305010900000700_000800000205040309,
  0x070000040900000000_060000050000000000_040801030000020500_000003090405010000_050906080701030000_080104020000050000_090000000003000106_000600000000000400_010000060800090000,
  0x010700000005000603_000500010403070009_000004000000010000_000005000002080700_000000050000000000_000008040607000000_000600000001000304_000000020500000100_050000000004060207,
  0x030504010000090602_070008020000000000_000002000000000000_000009000200000000_020700090100000300_000800060307020005_080007000000000401_000200000001080003_010400000006000000,
  0x030008010702000400_050209000003000607_000000000500000000_080000000000000000_020907050304060001_000306090008070500_090003040006020100_000000030000000700_000500070901080000,
  0x040000000005000000_060700000003050000_000000000000070104_070604050000030008_090000020308000600_080203000004000005_000000000107000000_010002000506080000_050000000802000000,
  0x080407000100000200_090103040000060000_000605080009000000_070000060400000000_000004020000070600_000008000007000102_000006090300020000_000000000004050000_000700000002030000,
  0x000800060000000005_000604000000090000_000007090000000000_000203040906070508_060000000000030400_000409070003000000_040000050009060200_000006080002000000_000300000607000900,
  0x080000000005010903_000001000809000600_090000030000080000_000700000000060100_010000050003000004_000008020001000300_000306000000000008_000009000000030200_000100000008040000,
  0x000006010003020005_030501080002070000_000204060900030108_040000000800010002_000302000000000000_000109030004080507_020400050000000001_000600000000040003_000008040000050000]
theorem mixed_23_ok : mixed_23.all fastOK = true := chunkOK_sound _ (by decide +kernel)

end Gen.SudokuDB
