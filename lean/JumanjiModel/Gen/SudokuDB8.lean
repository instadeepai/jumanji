/- GENERATED by harness/translators.py (gen_sudoku_db) from /repo/jumanji/environments/logic/sudoku/data/*.npy — do not edit.
   One `Nat` per board (layout: Env/Sudoku/DBCheck.lean); every chunk is run through the checker by the kernel. -/
import JumanjiModel.Env.Sudoku.DBLemmas
namespace Gen.SudokuDB
open Sudoku.DB

/-- `mixed` (10000_mixed_puzzles.npy), boards 7000..7249 -/
def mixed_28 : List Nat := [
  0x000004000002050006_000100070000000004_000000000000090102_040007000005030000_000000030000000405_000300090604070000_000500060000000000_000006040001020000_020003000800000007,
  0x000000020004030500_000000000703020004_000003000509010800_080004070000000000_000000050308040206_000002090000000008_000009030600080005_040305000000000000_060008000005000300,
  0x000300000100000702_000500080000010600_010400000000050003_000200090000000501_000004010006000000_030900050007020006_080702030000000000_000103000009060008_000005000000000400,
  0x000700000402080005_080502000609010304_090000000005060002_060000000207090000_000000000001070008_070201090300040506_000108000006030407_000900000004050601_000007050000000809,
  0x070000010309050000_000006040205070809_040900080706000302_000003000900060005_000500060000000008_000001000800090000_000209000100000503_030000000502040001_050004030000000000,
  0x000000090000000000_000006080005000001_000005000002060809_050002000000040100_030000000000000000_000000050003070000_020100000000090306_000500000000000708_000608030001000000,
  0x000500090002070006_030600000507020109_090000000000000000_000000000009080000_000905060208040003_000000050004000001_080100000000000300_060000020905000000_050200010003090000,
  0x000108030004000002_070602000100000005_030000000007060800_080200000000000000_010000020000000004_040700000003010008_000500040002080100_090000010005000006_020301060908000007,
  0x000008040900000000_000007030006080900_000009010800060300_000206000000000803_080900000004000700_000400070308000002_000000000001000206_000601080000030009_000702000003010000,
  0x000508030007000902_000000000908010006_060900000200070805_000000000300090004_030609010400000000_080000000706030001_000000000804060000_000000070103080409_070004060500020000,
  0x090000070000080300_000608000000000000_030000080509000406_020006000000040000_000009050100000000_000500000207030008_000000000000090704_000004010002000800_070800000005000002,
  0x030700040008050200_000002050107090308_010800020000000406_080200070003010000_000000080006040003_060307010500020800_090008060002030100_020100000705080000_000400000801000502,
  0x010000060403000000_030000000500000804_000009000708000003_040000010802000705_000000040000000008_090000050000040201_000000080109000000_000103000000080000_000000030204000100,
  0x050000000800090000_090100020700050006_000802090500000100_000000000006040200_010900000007000008_000300080005010600_000200000400060900_070600000009020003_040000030000080700,
  0x000600000008000000_000001060205030704_030000010700000608_050006020007000800_010004000600020000_000000000000060000_020103080006070400_040700000000010000_060500000100000203,
  0x000807000209000000_000109080700000003_000002000301080907_000704050000000301_000300090100000006_020601000000090800_000900000007000000_000208000500030000_000400000000070102,
  0x000000000100000007_000000020000000001_030100000006000000_000009050000020004_000500040700000900_040200000000000000_000300000800090402_020000090403010506_090406000005070003,
  0x000008020005000309_050603090100000702_090702060304080105_000000030001000000_080000040000030506_070304050609020800_040806010502070900_020507080003010004_030001000006050208,
  0x030000000208050600_000000010005000700_020000070009000000_090000000007000400_040005000000070100_070002060403080005_000800000704090000_060700000001000204_050004000906000007,
  0x000006000000000409_080000000400000005_040000070000030001_020600010000000000_050000000000090002_000103000000050007_000804050000000906_000009080704000503_000005090002080000,
  0x030002000000060000_090005060002000800_000001000005020309_060308050209070000_050007000006030902_010209030004080500_020900000000000007_080000000900000000_070000010600090200,
  0x000300090000060704_040700080000020109_000000000006000000_090004010008000200_000000060004000000_000000070000000300_000003000809010000_000005000007080400_080002000000090000,
  0x000000000800010000_000600000000040900_010300090000000007_030200000008000000_000006010000000300_000905070403000001_000800050300000100_060000080007030000_040003000900000500,
  0x000902000000000000_000000000201030004_060001000709020000_040100000503090000_070800000100000003_020005000007000106_000004000602070309_000203000904010000_000600010300080002,
  0x090006080000040107_000007020900080000_080500070600000309_010002030400000006_070000000208030504_040300060709010208_060001090802050403_050903000100060002_000008000006000901,
  0x010000000000060005_030000000004000900_000700060102000000_090300000000020000_060007000000000400_040105000800000000_080600070000000500_020901000400000300_000500090600080204,
  0x010800090000000000_000500010703000809_090000000000000700_060002000000000000_080305020106090007_070000000305000008_050000060000030000_000000000409070000_000004000007000000,
  0x000105060000090800_000000010500000600_000300000000070500_070408090106050000_000000000000000900_000503000004000107_030700050008020006_000600000200080009_000009000007010005,
  0x070500000209000801_040000030700000009_000009000004020000_000700020603000008_000000000800000200_000308000401000000_000800040000070103_000100080000090402_000002000007080605,
  0x000500000000000000_000901000208060000_000000010604000000_000003000800070000_040800070105000006_000609000400000001_000405090300010700_010700080500000903_090000000001000005,
  0x000006070000020500_000000000800060000_000000020001000300_060703010908050402_010408000000000000_020509000706030000_090207000400010800_080600090000040200_050004000102000609,
  0x000301050200070008_000000000708020300_080200090003050400_050004000000080102_030000000100090004_000700040009000003_000006000502040800_040803060007000000_000000080400030007,
  0x000500000006000403_000000020007080006_000007000500000001_020100000003050000_050906070201000308_000700000605020100_030000000000000005_070005010308000902_000009000702000804,
  0x040205090000000700_080007020305040001_000901070604050802_050008060402030009_000000050107000006_000100030008020007_000000000700000300_000800000003000200_000500000209010600,
  0x000006000005020701_000400030009080000_000208010607000300_020805060004030007_070000090300000400_040003070502010006_080000050900060203_060000000003070504_000502000700090100,
  0x090000000008000405_000400000901060307_000003000600010809_020008060009000500_030000000500040000_000700030000090106_000805000000000702_010000080000050004_060300000005000900,
  0x060700000800000009_000400060900000003_000009010700000200_070005080001040000_000004000000080000_080000040203000905_090000000008000604_040006000000020000_000000000006090500,
  0x000509060307040001_000104050209000600_000003080000000205_000006040000050700_030205010000080009_090407000800020100_000000000508000000_040001000000000000_000700090401000300,
  0x080704000000000200_060000070002000000_020000000000070003_010000040907050800_090200000003040000_000400080006000000_040007000001000300_030100050000080604_000009000004000007,
  0x050200040008010000_070600000005020400_040001060000000709_060700000500000000_000002030406070005_000405000807000102_000904070000000006_000000000309040000_000000050004080901,
  0x000703000100020006_040008060002090300_000200000000010004_030009000500000600_000002000000070003_000400000906050208_000300000005060409_010004000000080000_080506000209030007,
  0x050600000100020009_000002000300000008_000000050200000400_040309000500060200_080006020000000700_000200060000000800_060500000004080902_000904000002070506_000700090000040000,
  0x000000000500080900_000800000409010500_000005000000030004_080000000000070301_040002010900060800_070100000800000000_000000000300090206_060008090100000000_000000020706000100,
  0x000300000500060700_000700000908000000_060000020000010000_010609000000000007_050207090100040000_040000000005000006_070000030601080900_000100000709050000_030000050802070001,
  0x060504000901080207_020001050000000900_000009040006030100_080900060005070301_000005020703000000_000007000109000602_050008090000010000_040003010500000006_090100000304020508,
  0x070006030902010000_000200000000070003_000003070000000902_060000000803040700_020000090007060800_000009000005030200_000002000700000000_000000080001000000_000600050204000307,
  0x000000060000000005_000000000801040200_010000070005030000_060800000000000000_030000000108060004_000700000306080000_020000000500000906_000000000709050000_070500010003000400,
  0x040007060209000803_000209000000000004_050800010004000209_000000040900020005_020004000100000907_000000020000040301_030700090400000000_090502000601030000_010008050300000000,
  0x000000000700000203_000000080900070000_000007000300060500_000800000400000007_000700000005010806_060900010800040000_000000000000000000_000104020608050000_000609030500080100,
  0x000000000009000502_080701020500000006_000509030000000007_000004090007020608_010002050308000000_070008000200030105_000003000005080000_000800000003000009_000100070002000000,
  0x000902080100000007_030600040000080000_080007030206040000_070800010604000900_000400050000030001_010000090300000000_000106070403050200_000000000500000003_000300020809000006,
  0x000000000005020103_050409000000000600_000003000006000000_040000000007000005_000805030000000700_070601090500000000_000900070200050306_020000000000010400_030000000800070900,
  0x040900080106030205_020300090705000601_000005020300070800_080403070902050100_000709060001080002_000200000803000407_070600040508020900_090800030007010004_000500010209000708,
  0x040000070905080000_020501000003000907_000900010602050003_080309000207010605_000006000000000002_050007000100000004_030002050800040109_090800020701030006_000105090304020700,
  0x050001040007000903_000900080300000400_020400060901050807_080000000000010004_030109000000000206_000000020000000000_000300090000000708_000008000700000000_090702010400030000,
  0x000000050006090004_000905000300000000_070602000009000001_060504000000000000_020300000604080000_000800030000040006_000003020700000800_000000000900050200_000000060003000007,
  0x000600000007090508_000709000400060000_000000000908070000_000000000805000600_090500000700000300_060807000000000004_070000020009000800_020900000604000000_000000000100020000,
  0x000009020106000008_000000000008000000_020001040900060500_030600000001090400_000000000000000602_000008000000010000_000200000600000009_010000080307000000_080000000002000104,
  0x000008060903070500_000000000000000009_000900080000010403_090201030000050708_050004090708000001_000700000002000900_010000040500000800_000800070000000000_070009000800000005,
  0x000300080000000001_000800020009000000_090000000300000805_000902050000000000_000000000006000002_050008000200000703_060200000508070009_000000040902000000_030009060007000008,
  0x020001000408000009_060400000000000200_050000000700060000_090700080004020005_040200000000030801_000000030200000400_000900000000050300_080000000000000006_030000050809010002,
  0x080400000900000600_020007000500000008_000000080407010000_060709000000000100_000000000001080700_000800070600040000_000000050106000800_010008000200000007_000500000000060001,
  0x000007030205000604_010000000006050000_000300000009020008_030000000100000009_000401000502000007_070602000300040501_000706040803090000_020803000000070006_040000020600000800,
  0x000000030009080405_010400000000030000_000009040000000701_000200000601000300_090000070005000206_080000020000050000_000903000000000000_000000060903070102_000006000007000003,
  0x000000000607000908_090000030002010605_000000090508000004_020000080305000006_080000040000000200_050607020901080003_000400000109000002_000002000800040000_030800000004000100,
  0x000201050000040800_000000060104020000_070000090208060105_000009070600000402_000000020301090700_020703080409000600_000107040002000906_000602030000000500_040008010906070000,
  0x070002040800000001_080000070009030000_000305020006000700_010907000004050603_000004060000080002_000800000000000000_000100090007000000_040000000000000000_000009000300000004,
  0x000900020801000600_050106070309000000_030000060000000007_010000030000060009_080409050002030701_000000000000000002_070800000106020305_090000000000000006_000001000003000004,
  0x000509020807000000_000104000000020000_000800040006000509_000206010003000908_030008060004050200_040901050000060300_010402080600000700_000607000000010400_000005070000000602,
  0x000003070206010908_070100000500000403_000000000400070205_030000000000040006_000408090700000000_000200000000000809_000704030900080600_080000000601020507_000600000007090004,
  0x080002050004000000_000400070006000005_010500020900070004_040008010005090007_000100000007000300_070609080300000500_060000000008000000_050804000200010700_030200040501080006,
  0x000701090006020000_000008000704000900_090004020008000006_060000000000090800_050309080000000000_080000040003060500_070000060009000200_040900000800000601_000006000400000300,
  0x050300000002040701_000800000109060000_000006000704050009_080700010400000000_000601000000000000_020500090008000000_030000000801070000_070002000503000108_000108000900030004,
  0x000106000004000305_000705000003010009_080002090000000704_070803000605090400_000000000900070003_000000000000000000_000000000000000007_030007080006020001_000900020000000008,
  0x000003000000000700_060000000900040005_000805040600010300_000600000300000408_030000070800000001_000000010006000003_090000030000000000_010000060009000500_000302000008000100,
  0x000903000200050400_000500010000090000_000400090305080201_080200040000000000_090607000503040002_000000000901070800_030000050000060004_050804000100000309_060702000400010000,
  0x030807000000060900_000009000000000200_000000080903000400_010402000306000709_070908020100000300_060000070800000000_000004090008010003_080200000000000500_000603040000020007,
  0x050700060104030000_000902000807000100_010000000900000600_000000000008000400_000500000409020007_000800000200090003_000000000000000700_080604000702000301_070005000601000902,
  0x010002080605000007_080706000400000005_000005000200060003_000000040006050300_000100050800000002_000009020300080400_000000000504000006_050004030000010008_000201000700000000,
  0x000000030801000600_000000000207030000_080300000006000005_040105060002000900_000200000700010000_030800000905000402_000900040503070000_000700020100000004_020000000000000100,
  0x000000070006080000_000000000301000005_000007000000010400_000000020500060108_000806010000000000_000100000004070200_030000060007000001_000000030005020009_080405090002000007,
  0x000000000000020000_020405080301000000_000600020000000000_070000050002000604_000004000900000000_080200030000000709_000002010000030500_060008090000000000_040000070008000000,
  0x000000060300090208_050200010000060007_000308000907000000_040803000109050002_000007000602000801_020001080000070004_080000030000020000_030400050006080009_070006090000000503,
  0x020000050000000000_010800000006030700_030000070100060000_000302000805070000_050600000702010809_070108000004020003_000003000000050401_060000000003000000_000007090501080006,
  0x050009070600000000_000000000000050602_000600000000070008_060004030000000000_030000060000090100_000005000900060003_000006000300000200_000008000205030000_090000040106080500,
  0x010000000300020609_070003010000040000_000004080600030000_000506070002000300_080000000100070004_000700000400050000_000000000504060802_060900020000000405_000002000801000703,
  0x000600000005000000_000001090300000400_030508010000000009_000300050000000108_000009000800050000_080000000007090603_040903000200000500_000002000004030000_000000030000000800,
  0x010008090402000003_000507000608000204_000302000001080000_000000000005000000_000205000000000307_030106070000020009_000700080500090000_050803000209000601_000900060100030800,
  0x050000000906010700_000906010000000800_070100030400060209_000700090008000000_000600000002090005_090300000100000000_000000000709080500_000500040003000900_000800000000000400,
  0x010008030204000006_000000000705000400_040000000000010700_000006000000070000_000000000006000000_020000000001000009_000600040309000007_030001060000000008_000005000002060000,
  0x040703000006000002_020000000004000700_000008020007000000_000600000002050108_000305000601000209_000200050908000300_000802040003000000_000000060200080403_030000080000000901,
  0x000400070900000206_080203050400000100_000900000000050004_000000010800000509_000608000000040700_090100000000000000_000000030600010002_000000000005000000_000009040001000000,
  0x080005010000090000_000300090708010600_000609000005000800_000206050007000000_000000020000000000_050107080300040900_000500000001060009_000000060402000003_000001030000020000,
  0x000500030000000001_000703000000050600_000001070005080000_000200000807060000_000108000006000907_000406090300020805_000000000000000400_000600010000000000_010800000000030506,
  0x000000040609000000_000006050007040000_000002030008000906_000600000802000000_050004060003000701_070009010405060000_010008000506000200_000005080000030000_060900000004010508,
  0x060000000300050009_050000000000000000_040907000600010003_000006000905000000_080700060000040005_000000040000060900_090000020001000008_000200030000090001_010000000006020700,
  0x020000000005090000_090007060002010005_050003000700080600_000005000900030007_000209000007000000_070300000000000000_080000070000060003_060001050000000008_000000020600000501,
  0x040000090007010200_000800020400000709_090702080100060405_060203040009080501_000001000000040602_000408010006090300_030509000000000006_000007060000050904_020600050000070800,
  0x020000080006050000_000000010400000000_080400020005060103_000805090000000200_030000000002000601_010009060307040000_070001000600020009_040002000509010308_000908000201000400,
  0x000002000000000000_040709000100030000_000300000000000200_050000080003060001_090003000401070002_000601050907000003_000504000009000308_000000000305090007_030900000000000000,
  0x040907000200000003_000000000007060200_000208000300070000_080600000400000000_000109000800020005_000402050000080000_000000080000000509_000800000502000000_050001090004030000,
  0x000405080701000000_000001040900000207_030900060205000000_000204030100000800_000003000008000402_080000000000090703_050302000006080900_010000000002070000_040708000300020006,
  0x000000050103000200_000000080700000100_000000000200000000_000006030500020000_050003000900070004_080002040000030000_000000010400000000_020700000000000009_000005000300080000,
  0x000700000300020900_060008000209070501_040000010500060300_080000000605000007_000004000000000000_020000000900000000_030000090001000002_010002050000030009_090000000700010805,
  0x040100060009000000_060000000701000400_070805030000000600_000700010508020906_050200070406000300_000001000003070000_000008090000060005_000306000105000002_000507040600090800,
  0x000007000009000403_000800000000060009_000000040500000100_050402000700000908_000001000008000605_080700000005010004_030105000000000706_000200000007090000_000900000004000300,
  0x080000000700030600_030901000006000708_000002000000040005_050109020008000000_070200060104000009_000800070900010302_000604080500000003_010000040207000000_000000000000080100,
  0x080901070502060400_060403090008000007_000002040306090100_000000000000070906_000306000905000800_000004060000030500_040007000209000000_000000000600020704_020000000704080000,
  0x060000040000000305_050307090600080000_000200000300000006_000003000000000802_000100000700000009_040005000009010703_030400000900000500_000000060000000000_000906020005030004,
  0x040300090200000005_010200000000090400_000000040000000201_000000000605030002_000108000002040000_000000070004080900_000002000300000004_000807020006010300_000000000000000608,
  0x000008000709020501_050601080003000009_070902010000000000_040105070600090308_000300000400050007_000700030000040006_000003000900000600_060200000008030005_090004000006000700,
  0x060200090004030807_070003000600000004_000401070002050006_000006030001090005_000000060007020301_000107020009060008_000000000006000500_050004000900070100_010000040000000609,
  0x060200070804000001_040300060005070208_080000000003090400_000000000700000000_000900080301000600_000000000009010002_000004000108000700_090006030000020104_000007090000080300,
  0x000000000405020009_010004070003000800_050003080906010704_060000030009040002_020100000700030000_040000000100070005_000000000000000203_070408000000000501_000002000000090000,
  0x050104070602030809_020907000800060104_060803040901050200_070508090100040302_000206080407000001_010409020305080700_080702060500000400_040001030208000000_090305010704020608,
  0x030700080005090000_000100090700080200_000008000401060005_060000070804000002_080402010500070609_000001000902000400_000004000000000000_020800000100030500_000903000000000000,
  0x000000000800020500_000000020000010400_020003050700080000_000500000400000102_010004000000030000_000000000900000004_060000000208000001_090000000004000006_040000000000070008,
  0x000507000001000003_000000000407080001_000000000300070602_000000010506090008_000000080000000107_000900000704000200_000009000108000005_000000070000060009_000300050009010700,
  0x000701000003000500_060009070800000000_000305000209070600_000008000000000000_000500000700060100_000002030000000000_000907000300000200_000000020004000300_000003000600000900,
  0x020400000005000601_000005020000000000_000003000109000002_000100000004030705_000300060501000908_000200070003000000_080502010607040300_000000090408000007_000009050002010000,
  0x020001030004090605_090000000700030104_000600000000000000_010302000005040000_070000080400050300_000400090001000000_000007040203010500_000000000507080406_050104000908000700,
  0x000004000000000905_030000000200000000_000007000904080000_000903000000040000_000400070000090001_000000000500060307_060700000000000100_000800060705000003_040300000800070600,
  0x000002040500090007_000109000307000506_000000020600040000_000407090005000100_010900000708050400_020008010400070903_000000050804030009_000300000002000005_070005000900000200,
  0x000407000006050902_000300040000000801_000005020009000003_060900000008000500_000000000507000000_050700090003000000_000000000000000307_070009000001020000_030208070000000000,
  0x000209000000060000_000503000006020709_010700000009040503_090007000002010000_050608090001070400_020000070400050906_030100000000000000_000900020003000105_000002010000000600,
  0x000000000504000600_090504060000080000_060007000009040100_000100050000070406_050000000000000000_000002090608050000_000006010200030800_000801030007060000_030000000900000700,
  0x000901000400050000_000000060000000002_060500080002070000_000809040000020506_000002010000000000_000300000000040801_000203070000000000_000000000008030000_000100000004000005,
  0x000700030001000900_090200080700000106_000400000000000003_000000000000000400_070009010000000000_000100060007000500_000000070000000809_060000000308000000_050000000900040001,
  0x080000000001020904_040000090000000807_000001040000000306_000000080500060201_090008000006000000_060000020000080000_000407000800000000_020006050000000108_050800010007030400,
  0x060003090400000708_000204000300000501_070000000005040603_000600040200010005_020400000609080007_090000000507000200_010006080903050000_000900000000000000_050300060004070009,
  0x010004030006000500_050000000000060807_000208000907000300_080600000000070900_000005060700000100_070000000500000406_040003000200090600_000100000008050000_020506090300000708,
  0x000005000001000000_000600000000000801_040000080000000000_010507000408030906_030200010000050000_060000030700010002_000108000600020305_050402000000080609_000000000802070000,
  0x000008050300000006_000200000900050000_050000040006080002_000405000203000600_020900000004000005_010000000000000200_000800000000040000_000004000000020009_000002070001000000,
  0x000905020603080007_070000000500000609_060300040000000002_030000080002000700_000000000000000000_000502060000000300_000700030100050204_020403000006070000_000009000200060003,
  0x000809070003000600_020706080109000503_040103000600070908_000400090208000005_000000010004020700_090500000007000000_010007000805000000_080005040706000000_030604020900050007,
  0x070000000000050003_090005070000000400_040000000800000000_010700000000000009_020500080709040100_060900000103000700_050409000200060000_000206090008010007_080100000600090000,
  0x000200080500010000_000004000200050006_000000060301000200_050800000703090000_070309000000000002_010406000908000003_090008030600020400_040503070102000008_000000040809030000,
  0x070201000900080000_050003000600020000_060809000000010000_090600000000040800_000005060000000000_080000000500070000_000900000208030000_000508000100000009_020007000006000000,
  0x030000000000020000_000508010300000609_000604000000010300_000409000102000800_000006000000070102_010003000000050900_000900000700030001_000001000409080000_000700000001000400,
  0x000902070804000003_000300000000000000_000506000200000704_000600010005000002_000000000300000906_070203000009000400_000100000700000600_020005040000000007_000700000000090000,
  0x000205000000000100_000000000200000003_080904000000020500_000007000003000608_060000000007010302_020000000000000000_000000000600030700_000002090000000004_000009000008050000,
  0x000000040000090000_020400000100000007_000700080000000304_080000020006000109_090000000000030000_060003090704000205_000800000600000001_000902000000000503_000600070000000900,
  0x000001060002070000_000507080000060000_000400000700020000_000100040000000000_000000000807000000_000009030500000006_000205070006030004_010000050000090000_000608000003010500,
  0x000000020009000503_020004000003070600_030800070000000902_000000000600000000_000708090300050006_000002040000030000_000409030200000105_000001060500090007_000206010907080300,
  0x000300000800040007_000007000003000008_000005070000000000_000400000008050000_000708090000000304_010000000002080000_070000010000090802_000500080000000400_090000000407030005,
  0x000000000700000609_000001040509000208_040209060000010700_000408000900000103_000000000004050007_090700000601000000_000000070000000000_010000090006000000_000500000000090800,
  0x020008000006010904_000600000009000000_000000000000060002_000000040902050000_000005060800000009_000900000705000800_070402000000000000_000000020104000007_090103000008000000,
  0x000007010500030000_010000000207000000_090000040000020700_060201000003080907_000504080000000002_000000000001000500_030100000000040000_050000000004000003_040800030000070600,
  0x060000000700010000_000700010002090000_020001030006070800_000300050800000000_000000070000080500_010000000009030600_000007020000000103_080000060000050009_030002090104060008,
  0x000204030006010800_080600000000000000_050307080104000000_000509000200000003_020003000009040501_000000000001000209_000905010003000000_000002000700000600_000008000002090100,
  0x000000090000040000_000001000000060908_090400070603000005_060000010900030002_080905040302000600_030100000705080400_000007000006090800_040009000507020006_000600000009000700,
  0x010307090000000500_000005000001000000_000006000000000104_000500000003020900_030009000506000000_070002000904000000_050900000600080401_020401030800090007_000000040009000000,
  0x000901080004030000_000000090700040001_000000020001080007_010500000400000600_000200000006000003_090000000000050000_000100000809000004_080000040000060300_020400070000010000,
  0x050007000003090000_030002050700000100_000000080004030005_000000090507010000_000009000001000002_000000000302000009_000705000008000001_090006070000020800_000004000000000900,
  0x000000010000050206_010704060002000000_060002090008000000_000106000900000000_000800030000000002_000309000201000000_000605000007000300_000000020009070000_070200050003010400,
  0x000000090006000000_090000000500000600_000000000000070400_000006000705090000_000501060000020000_080000010000000005_010009000000000000_000608000003040001_050400000900000000,
  0x020605030004000800_010004000000020500_000009000002000000_080100000000040000_090000080006030007_060007000300050000_000001060003000000_000900000000080005_000700040905000200,
  0x020709080000010400_000508000003000000_010300070004000800_090005010000030600_060007050009080204_030204060007050901_000901000706000000_000002000000070000_000400000500060109,
  0x090000080000070104_000003020000060000_040600000007020803_030900060200050008_010002040000000300_060804030509010000_000309010000000200_000108000300040005_000000070800000001,
  0x000900000008010007_000003050007000208_020007000006090000_040700000800050000_000008000603000004_030002040705000000_000200000000030000_000500080300000000_080000000102070500,
  0x030007000002040500_050000000006090300_000400050007020008_000004000009000001_000200000004000609_000003060000000204_010700000003000000_000000020008000000_020000000905010003,
  0x000201060500080700_000900000700060400_030607000401020900_000000040008050309_000408000300000600_050306000100000000_060800000003000000_020003000800090506_000004070906030208,
  0x000405070600030000_000208000000000700_070000030000000400_000000010004000600_000007050900000301_040003000006050000_000006090000000007_000700000100000903_000000000007010004,
  0x000102000000030000_080000050200000007_040000080000050000_060001020000070009_090305000007000402_000007000900010000_000000060500000700_030000000400060900_000006000000040500,
  0x040300000000020105_090805070000000004_010200040500000000_000403000005000007_000900010007030002_000600000200000000_000009000004000001_000002080009000400_080500000600000903,
  0x000005010009080000_080007000600000001_000001070000000603_000000000900020500_020904030500000006_060008020001040000_010300040000000805_000802000300060104_040006000100030900,
  0x000100080007020000_000800000003000004_000402000109000000_090700050006000301_030000010900000002_010000070004000600_000001030000050000_000005040000000907_040000000000010008,
  0x030000000400000100_060000080700030000_090700000103000000_000400060000000703_080601000307090402_050307000900000800_070506000008000904_000000000500000000_000200000009000500,
  0x000904000803000500_080700060900040201_000105040700090308_030000000001050802_000000050008000409_000008090304070000_090800030507000604_000300080406010005_000000000009000703,
  0x000000090004030700_000800070301000609_000700000000000408_010900000000000000_060005000000070103_030000050006000800_000000040000000001_000000000000020300_080000060200000000,
  0x020008010000060000_000009080705000003_000001000000090007_000100030600040905_070000000100020006_000005020004000108_010006000000000002_090000070500000601_000000060001000000,
  0x020000000000000700_090000000003060000_060000000509000800_000903060002070000_000100080304090000_000800070005030000_000600090000020100_000409000200080006_080000000600000907,
  0x050600000107000200_000004020000050007_000002040000000001_030000090600070000_000009070503000100_000000000204000503_040005000702010300_060103000000020005_000000000301000900,
  0x000001000005000000_000208000400000000_040506030900010708_000100050300070000_050904000008000103_000007000104000000_000009000003000800_020000010809000007_010805040007000302,
  0x020000000003000508_000000070006000400_000009080000030207_060005040700000800_030902000800000705_070004050002000006_000507000000080002_080403020007050600_010200030008000000,
  0x070400000809000300_000200000003000700_000800060207090400_080007000905000003_040003000700000500_000502000000000806_000900000000080200_020300070400010005_000708000502000004,
  0x000000070800030500_000009010200000400_000003000000020801_020004000005010008_090005080000000003_000700000400090000_000300050107080004_080000040600000002_000007000000000006,
  0x030109050400080702_040005070302000600_000200000000030500_020000040000000008_000504000007000009_000000030608000400_000700000200040000_000008060000050200_050002000004000006,
  0x000501000000000009_000608090507040001_000900000200050000_000207040005000006_000000080700020400_000005000100000800_000000070003000002_090002000001060300_000100060400070008,
  0x000002000007000000_000000050001020008_000500020006000000_030000000000040506_080605090000000700_000007060503000009_000000080300060000_000000000609030400_000006000702000000,
  0x000003060000070002_000600000500000009_000000090000000006_000000070900000004_000804050006030900_000700000408000001_000507080009020000_000100020600090400_000006000000000008,
  0x000208000005070300_010009080007000005_050000090000000102_000005000401000007_090603000702010000_000004000000020506_000500020003040000_000702010504090600_000000000000000203,
  0x040000070005000302_050002000300070100_030000020001050008_000000010600000409_000706000800000000_090400050200000000_000009030500000000_070300000108000200_000000000702040000,
  0x000500040103020000_000200000609050007_060900000000010004_000002000004000503_030004000501070900_090705060000040201_000100000000000702_000000000002090000_020300010900080005,
  0x000109000000000000_070005000002090408_040008060009000102_030000000201000000_000000080604020007_000206050300040000_000003070400010009_000000010805000000_010004000900080005,
  0x090200000403080600_000506090000040100_000400050600070009_020804030005000706_070309000206050401_000005000000020308_040908020000060500_050000070000030902_000000000500010800,
  0x000006000000000204_070000000300000108_030008000106000700_080402060903000507_060700010800000300_000309000000000400_020000030600040001_000000080000070000_040001020709050600,
  0x000706000809000000_000203060000000000_000408000000000607_000002000005090700_000000070900000206_000000000000080005_080009000206070300_000304090000010500_000007000100000809,
  0x000600020000000000_040908000105000000_030000060407000009_000009000206000800_000702000000060000_000000050000000900_000800090000000400_060000000800000203_000003040600000000,
  0x050601080407020300_080204010903060507_090703020605010408_070000040102080603_010402030006070905_030806050709040102_040007090308050206_060500070201000804_020308060504090701,
  0x000000040900000800_080003000200000009_010904000608050702_000509000803000407_030001000704000900_000400000509060000_000006080400070500_000005000100080000_020008070005000004,
  0x000903020000000506_070000000605000902_000600080900000300_000800000502000600_000000000000000008_090704060003050001_000207010308000000_040000090700020800_000000050000060100,
  0x000402080506000001_060000000000000009_000001020700080600_000604000001000305_000000000600000000_070000050008060000_010005070002000800_000006000800000507_000008000005040100,
  0x030009000006000705_040000070305060009_070005090102040800_020708000609030000_000301000700090602_000904030200000000_080400000500010900_090506000400080007_010007000900050304,
  0x090004010008020603_070100020000000900_000302090600010705_010000000500070000_000000080209030000_020409000100000006_000705030802000100_030001060400080000_040200050001060000,
  0x030409070608000002_000002030900070408_080700040000000009_050800010406090207_000000000807010006_000107090000040805_000900060704000503_000006080509000701_000500020301000900,
  0x040700000000000500_000300000006040207_000501070000030800_010200060000090005_050009000002060003_000000000500000400_000900000000000000_000006000000050900_000005020300000600,
  0x050200080900000000_000907000003020006_080003010207090004_000006020001000007_040702060000010900_000000040000000008_000309070100000000_060408000500000109_070001000000040002,
  0x000500060001000000_080004030009020000_000003020007000004_040009000000000807_050000000006000000_000000000100000009_000000000200000000_000300000605080000_020000000000000405,
  0x000000000208030000_060009000107000500_030000000004020007_090400000002000301_000000080009000002_020000010305040800_000705040006090200_000900020503000000_000002000001060000,
  0x060007030000000000_080001000900000000_000500070004010000_000000080300000100_000903050002080700_000000000007030509_040000000106070000_070300000000020000_090002000703000006,
  0x050403010000000200_090106020300070005_020800000600000403_060000000001090000_010000000009020300_070209000000080601_030005000100000902_040002000907050108_000901000400000706,
  0x040905000301000700_010302000600040900_000000000400000000_020501080900070300_000604000100020500_090703040000000008_000006090800030401_000109000700050802_050400000200000007,
  0x010006000000040000_000000000100000000_000000000004050009_000809000001000600_000300080007000204_000704050002010003_090000070300000000_030000000500020000_000600000009030500,
  0x060000000000030008_000000070006050009_080009000000000007_050900060003080702_000000000700000004_070804020109060300_090002010300000000_010608040907000000_030007080000090000,
  0x000805000109000000_000000000005000000_000300000806000400_000203000604000005_000408000000000100_090600000500000203_030500000708010000_020007050400030608_080100060903070500,
  0x090007000000010000_000600000801090007_000500090700000000_050700030600080009_000000000000000500_000903080000000702_000100040005000000_000000000300000008_070205000000000001,
  0x000400070602000509_060000050004000000_050000000008060402_000006020405080900_000009030100040005_000305080009000006_000000090200050007_000502040807000600_090708060001000204,
  0x000700050000020800_060100000004000309_080405090003070001_040608000007090205_000901000006080703_030007020908010006_000300000400000000_050004000009030108_000006000300040900,
  0x060008000000090400_000500000007020000_070003000000050100_050306000000080004_000000080500060000_090800070600030001_080001040300000000_000900000000040300_030700000900010000,
  0x050003070900000004_000000000500070906_000007000006000008_090701000304000000_060005000001000302_030004060800000009_020000000007080000_000000080000000007_000100050000000600,
  0x040009060000080100_000108000007000605_000000000000090407_070000000804000006_060804090201000500_000000000003000208_080007010406050009_050400030000020001_000900000502060004,
  0x000409000806050002_000000040002000009_010000050300070400_000000080600000000_030807000000000100_000906000001000008_000700060000040000_000005030000000701_080004090000020600,
  0x000004000008010000_030100070200000000_000900010500000003_000800000305000607_040302090007080000_000607040801020009_060000050100000900_020503080409060701_000001060703000802,
  0x010000000006080300_000000040002000500_000600000300040201_040000030005070000_000000000000030000_080000000701000009_000002000400010000_000001000200050003_000807000000000900,
  0x020100000000090500_030804000000020700_060500010700000008_000302000007000000_070900000803040005_000005000209010300_000000020001060004_000400000605070002_000000000408050103,
  0x050000090700000000_090000060803050204_000000020100090600_000003000006000701_000900040000030000_060000000308020005_070500030001000000_020000070009060503_000400080000000100,
  0x090000000700080001_000702010400000009_000100000203000000_000200040100000000_080000020300070106_000900080000000000_000009000604020500_000000000000010000_000305070000000004,
  0x040901000703020508_000500010400000703_030008000200060401_060200000005000000_050300080104070006_000004070600030905_070000000800000000_080602000307050009_000000000500000000,
  0x010506090807000003_070002000301000000_090308000000010007_000605030200000001_020004000608050009_000000000000060000_000801000003070002_000000000002000000_000003000100090000,
  0x000000000309000005_000305000201060800_010000070800090000_000000000908040001_000400000000050209_030200010000000000_000904050000080000_000000000407000502_000700000000000904,
  0x000804010006070002_020000000307000000_070103040000000006_040000070005000103_000006020003040009_000000000004000000_000407060502030000_090005000001000607_000201000709000008,
  0x090000080000010004_020106000000050008_040508000000000702_060000000301000005_010300050400070809_000000070000060100_000000000008030000_080001030009040007_000009000704080001,
  0x000000000008010500_000600090000000002_000000000602040009_000001000900000008_020500000004060007_060809030007050000_000005000001090600_090006000005000700_000000000400020100,
  0x050007000800090000_040800030900060007_010900060000080000_000004000000000000_000000090200070006_090000000000020001_030008000002010009_070009040008000002_060201000000000805,
  0x000002070000090405_070409000000010308_000001040900000000_060100000002000004_090700050006000102_080200000704000000_000908000000000000_000007060000000000_040300000000020701,
  0x050002000304000000_060001090000020400_000009020801000306_030000080209040501_000000040006000203_000200000100060007_010000000002030800_000008030605070000_020003000000090600,
  0x070401030006080905_090800050704030601_060305000901070004_000603040807090102_010004000609000308_080200010503000700_000907060400010803_040108000300060507_000006000008000409,
  0x070000000003020000_030000020500010000_060000090000000400_000500000906070208_000600000000000000_000002000005000901_000407000000090100_000008030000000000_000000000100000004,
  0x000100050600020307_000000000400090000_080200090000000004_000409000500000200_020008030006040000_000301000204050006_030907040100060000_000802060000070000_010005020800000400,
  0x000008060004010700_000000000003000806_000000000000000005_000400050000000000_090300000001080000_080007040306000100_000100000605000200_000000000000060501_060000090008000000,
  0x000008070000000000_090400000000020000_000003000000010409_050001060200000004_000000090100000000_000000000708090105_000000000604030501_000102000007000600_000500030000000900,
  0x000300000900000000_090000000607030000_000701040000000609_010800000005000000_000003090700010800_000600020100040005_030405070000000206_000000060304000100_000000000009000000,
  0x000700040905030000_060800020107000005_000905080300070002_000400090502010307_090300000001050608_000007000608000000_070000000000000003_030000050809000000_000000010700060400,
  0x070003060508020009_000604030900000501_020500000001000003_040905080200060107_000001090000040800_000208010700030000_050302040009000706_010400000007000000_000807020106050300,
  0x080300050002000000_090002000800000301_000000010000000000_060000090000000803_010000070000040006_000000060200010000_000100000900000000_020600080000030107_000504000600000002,
  0x020300000601090005_060400000200010300_090800050007060000_080000030000000004_000903080400020000_000000000000080603_000000010500070200_000502060000030009_030000000000040500,
  0x080000010000070002_040205080600090300_010703000004080006_000000060009020000_000502030008010607_060800000201040000_070400090000000208_020300000005000000_050600000000030700,
  0x040000000109020600_000008040000030701_000001020308000409_030000060907040002_020800030400000000_000000080201000005_050002090000080000_010406050000000200_080000010002060000,
  0x050801090003000200_000900000700000000_020307000004000800_090008000307040002_000700040000000306_000000000000090700_000000070509010400_000000000001000600_070100060200030005,
  0x000500000708010000_000007090001000500_000809050000020000_030006000107000000_000008000000070000_070900080200030104_050000060300000901_000400070005060200_090000000000050000,
  0x010700000000000005_020500000007080100_040308000001020900_000407000100060209_080001030000070500_000000070900000300_000800000000050402_050100040008000700_070000050200030800,
  0x060200050900010307_000001060003080002_000500000002000604_000105000608030200_020906030400000008_000003020500060001_000600090005000003_000002000807000000_000709040300000800,
  0x050300060801040000_040000050007060000_000006040302000000_070000010008000906_000400070000000000_000801000009000000_000500080706000302_000008000004000001_020009000000080000,
  0x000804050001000702_000301000002000008_000005000600000000_000000000009000800_000102060500000300_030000080100000007_000403070000000000_050900020406000000_070206000003000005,
  0x030002010709000400_000008030600090200_000900020000000003_000000000000040000_000004090000020806_080000000504010000_060001000000000502_020000050006030000_090003000100080600,
  0x090003000004080000_020608000100090504_000400000800010300_050300000000000008_000000040503070000_010000000900050000_000000000001040000_000900000205030801_030000080000020907,
  0x000000020605040000_060500040001000300_000000030908000106_000004000000030800_080900000400020000_020003000006090004_000000000007000205_000006000000010000_010305000004000000,
  0x070006030408000500_080205000000000000_030004050000000800_040800000001000200_010502080900040003_060709020304050108_000000000805060901_000400000006030002_090601000003080405,
  0x020008040600010000_060300000200050904_070504010300020608_000600030000000001_000207000800000000_080400000900000000_000105070003060000_000700000100000300_000002090000040000]
theorem mixed_28_ok : mixed_28.all fastOK = true := chunkOK_sound _ (by decide +kernel)

/-- `mixed` (10000_mixed_puzzles.npy), boards 7250..7499 -/
def mixed_29 : List Nat := [
  0x010200040000000906_000609000500070004_000003090006000102_000300000002000405_060105030900000700_070000050000030609_000900010200040007_000000080009060201_000800000000090000,
  0x000000000000000000_000104060308020005_000300020009010000_020001080600000009_040908010000000006_000000040000070000_010009000704000003_000007030000000502_000000000006040100,
  0x090102000005080000_000000000008020001_000800000002090400_080300060400070002_040000000000030008_020007000003040006_060900000000000003_010000000000060804_070008000306000209,
  0x070600000308020900_080000000901060007_030001000602000405_060800000004030102_000007020500090804_000009010803000706_000000000405070000_050208030000000009_000000000200010508,
  0x040000050000010002_000000000409030506_000000010200000700_090400080006000300_000000040500000009_070000000902060100_000000000305020800_020500000801090003_000009000000050600,
  0x030602080100000009_050907000600000008_000400000009020600_060008000200000000_000000060000080002_090000010008000306_000000000700030001_000800040300060205_020003000000000400,
  0x000008030004000000_040309080001000205_070002000005000804_000003040002050600_010405000900000000_020700000000000400_080200000003000000_030004060000000700_000901000000000000,
  0x000500000800000000_000007060000090004_030600000200080007_060000030704000000_000200000008040600_000803000600070109_000400050000030708_010708000306050400_000302000407010006,
  0x000000000206000009_000200030400000000_080001000000040203_030000000100080000_060000000000000002_010000050700000004_000300000000020701_020000000904000300_000806000301000000,
  0x060700050902000004_000000070608050209_090002000000000700_070906000804020501_010200060000070400_080405000207000003_040309020006010005_020601000005090307_050007090100000002,
  0x000403090206050708_000700000400090102_090000000000030000_000600000708040000_000304000100000809_080005040600000300_040006080301000900_000007060904010000_000901000002000006,
  0x000008050902040300_000605080700000209_090004000601000000_000501000308000000_000000010007060500_000007000005090000_020000070006030008_000700000800000602_000000000100000000,
  0x000000070506000804_050200090000070006_000006000002010900_000005000604090208_000004020000030007_000000000807000000_030007060905000102_010009000200000003_080602000703000000,
  0x000905070601040000_000002000000000300_000800000209060000_090508000700000003_000004080000070009_010000050900000200_000009020405000000_050000000300000908_000703000800000000,
  0x090500060802000300_000800010000000000_000200030400080105_000700090000020001_050000000200030800_000600080500070000_020007000000010000_060100040900000003_000300020108000700,
  0x000000000008070100_030005010000000600_000000090000040300_000000000900050704_000400000805030000_000000000000000801_000201080004060000_080000060000010400_000000030100000900,
  0x080601090000000200_000000080000000000_050900000200000008_000108070400000309_090004000006000701_020703010905080400_000000000700040000_040000050100000802_000809000000000605,
  0x060003000005000704_000005040000010908_040109020007050600_010002050000080300_080300000106090000_000000030000040100_000700080502000400_030000000700060200_000000060304070809,
  0x000009030000000000_000201000000000003_000003000000040509_010002000008000600_030000090002070005_050000060000000900_070000020000080400_000100050804000000_090008000007050206,
  0x070300060000010000_000500000300000000_000800000405000009_080000040000000703_000207090803000105_000109050600000000_000400080500020007_000906030700050804_000700000904030601,
  0x000007000809010402_000001000500000000_000000000001000600_000000090608000000_000100000007040005_000000050000000000_010300070900000000_070400010000080006_050002000003000900,
  0x000500070000040002_040001000200000500_080200000100060900_050000020006000300_090300000000000600_010400000703020805_070000000000010400_020800010000000700_060103040007050009,
  0x000007020000000800_050006000007000003_010000080005000700_020100000400000000_000300000000000907_000000000000040006_090700000000030001_080000000002070409_000000060700000000,
  0x000802000000010009_010400090608020005_050907010004000008_020306000409070801_090005060807000302_000000020103050906_070000000900000003_030609000001000000_080000070006090500,
  0x000000000600010400_010400080000020000_000000040901000507_050000090200000601_020000000107000009_000000000000040200_000503010408000002_000900000002030000_000207000000000000,
  0x000004070900000003_000000000000020800_050103000000000007_000000080700000902_000008060000000001_000500020109000006_000000010600000200_070400050000000100_000005000200000000,
  0x030000000005000000_000009000003000700_000506000004080000_000600020007030409_090700000000010000_000003000400000000_060400000000090501_020005000000070800_010000000600040000,
  0x000100070402030000_020000000100040007_040600030800000105_080409060300000700_030002000700060000_000001000000000300_010200040000080003_000804020503090601_090005080001070204,
  0x080000010000000000_000000000000000002_010000000203000900_000000080000030700_090705040000080000_030804000106000200_000009030400020005_060003000001000000_040200000700000001,
  0x000008030600010900_000200090000000000_030000000000000504_010600000000090000_000007000000000800_080000000000000005_060005070008000300_090802010000050706_000400060000020000,
  0x000000040001090000_000000080607050200_000007020500030000_070000000900000000_050001000000020400_000600000004000500_080009000006000300_000206090000040705_030700000102060008,
  0x000000080600000000_050000000007000001_060007000100020000_000003040708000000_000000090300000007_040000000001090600_000400000200000700_000000000004000906_030000000005040000,
  0x000803070200000000_000001030609000807_000602040800050000_010407060900080500_000900050000030000_000005010708000400_000100000507000908_060200090004000105_000000080100040203,
  0x000000000700030006_050107060003000008_000003000908070000_000608000500090304_040900000001050807_030700090804020601_000506000002000400_070201000009060500_090000000100000700,
  0x090600000000040708_000000070500020600_000000090008000000_060000010900000204_080000040300000507_000200000006090003_000003060000070900_000000000207000000_000000030000000400,
  0x000400070100000000_090300000000000200_050100030006080004_000600050000000408_000001040609030000_000500000708000001_000000060007020800_000000010004060000_000005090000000000,
  0x000000000000000200_000003040000000000_050000060009030400_070006000005020809_000005000004000300_030100000006000000_000000090000080600_000004050008010902_090800030601050704,
  0x000000000007000006_000600050000070301_000300000006000500_020000090000000700_030806000400050000_070005030600000204_000200060003000900_050000080700040600_000709010000000005,
  0x000000050607000000_040000010000060007_070000030400000109_010607020500080400_030002060800090000_000905000000010600_000200080000050000_000003000000070200_050004000000000001,
  0x080000000001000000_000000070003050001_050104000000030709_030000000600020005_090002080004000007_070000000205080400_000900000000000600_000005000706090000_020000000009070500,
  0x020409080300070005_080003000405020600_000500070000080400_040200000000010006_090105000702030800_000800040501090000_010904000000000700_050000000007040000_000008000000000902,
  0x000000000408070905_000005070900040100_000700060501080203_000102080004000009_000000000000020600_080006000005000000_020000000000090300_050000010000060700_010609000700000802,
  0x000000060001020000_000206030700000900_050104000802000003_060000000900000304_000003000508060207_000400000306050800_040007080003090105_090301000604080702_000008070109000006,
  0x050000060300020000_000806000000000000_000200000000000000_000000000501040000_000703000009050108_010005000000000002_060504080002000001_090008030005000000_000300000406000800,
  0x000400030002000100_060005000000080400_000300000600000209_090000000006000000_000800000000000604_040003020900000007_000904000203060008_000000000709000305_000706000005000900,
  0x090008070004060105_000607090005000400_030400000000070009_000109030507020604_000002040609000000_060304000108000500_000000050000000703_050000060002040000_000000000000050006,
  0x080000000000000000_000005060802000309_000002090407080605_000000000000000900_000003000008020001_020500000000000004_000004080900000007_000000010200000003_060901000704000208,
  0x020009050300000700_040700000600000200_050100000000080000_090007000005000000_000001040003020907_000200000000000005_000002010506090800_030608070200040000_010000030400070000,
  0x050302090108070406_000406020000080000_000100050000000002_000000010600000700_070500000209000800_000000000000020001_060005000703010900_000008000900000203_000900000500040007,
  0x080503000000040000_090006080000000003_020001030006080000_070900000008000500_000600090107000000_010800020605000309_000008000400090701_050107060900030408_000009000000060200,
  0x000000020000000500_080100030000000000_050002040008070001_090001050000080000_000005090002010700_070200010800000000_000006080200000405_000508060409030107_000400070100000800,
  0x040000000900070300_000200000005000000_030500080000000402_060000020407030809_000000050000000000_080000000109050206_000000000000020003_000000070000090000_000001060204000007,
  0x040000000005060000_020801030000000000_000000000000000300_000000000600020709_000009000007080000_000604000208030501_000006000000000208_030008000700090000_090000080001000600,
  0x010000000600000802_000004000000000003_000000040000070005_000600030800020000_000000060000080509_000902070004000000_000000050006000400_000506020408010300_000000000003000000,
  0x000106040700000009_000900060000070001_070002000900000000_020504000600000000_010000000304000500_000608000507010400_000400000000050300_000007050106000000_090000000400000108,
  0x000400000100050700_000007000800000001_000000000900000804_020800000005000000_000706010008000003_000300000000010000_050108000000000009_000004000000000105_000003040001000006,
  0x000300000400080907_010405080007060203_080907060003050401_000001000000000804_040503020006070109_020700090000030000_000006010009040000_070000040300010600_000000000602000300,
  0x040700020000050100_000605010409000000_000000050000040600_080500090000000400_000001060200000005_060000030005000207_090400000302060001_050007080000000000_030006040501090708,
  0x050207060000040108_040903010000000500_080106050402070009_010000090206030007_030600000507010000_000809000301060005_020408070105090603_060001030009050402_090305000604080701,
  0x000106080009000002_000000060001050009_000900030200060100_000000020300000000_000400070100080503_010000040908020000_000000000000090601_080001000007040000_090605010003070000,
  0x000708000400000200_000000090507080000_090500000602000000_010000000000000702_000000030006000009_080307020000000006_000005000300000001_000600000100040000_000003000009000500,
  0x060000000000000100_050000060009000008_000008010405000000_040801000700000600_000000000806010703_000000000000000405_000200000504000000_000704020000030000_000000000008000200,
  0x000006040000020003_000004020503060908_000000000000040007_040003000600000000_060107000302000409_000500010009070300_000400000000030200_050300000004080001_020001000005090700,
  0x000502010706040008_000006050400090702_000704000302060000_000003000000000600_000200030601000009_000001080005000400_000000040509030206_060405000000010007_000000000100000004,
  0x070406000000000000_000003000900000106_080000000000000000_000700050003010409_090000000700000000_050300040000000000_000800000004000703_000000070002000801_000207000000090604,
  0x000600050100000000_000809000006000500_000002000409000801_090700000300000102_000200000507040006_000000000000070000_000008000600020703_020000000805000600_000001000203050000,
  0x020100000000050009_000005000000080203_000008000000000006_070009020000010008_000000090000020307_000200000508000004_000002000301070000_000000000000000900_000000050900000402,
  0x060000080000070302_000803060007000005_070109000302060800_080300040000020700_010002000000000009_000700010006080403_000601000800040007_030007020604000008_040208070501000906,
  0x020000060507010004_000001090000030500_000004030201060007_000207050100080009_000008070009000105_010900020408000000_000006000003040000_000102000600090003_000700010900050000,
  0x050204010006000000_030000000000020000_080001000003000500_000008060500070203_000000000008040000_090007000104000600_000800000007010004_070100000400000000_000005030000090700,
  0x000507040003020109_020301000807050000_000000000001030700_000004050200070301_050100070300090002_070203010904080000_010805000009000200_040709030100060805_030000000405000900,
  0x000000000104070008_040700050000000100_080000000000000009_050600090000000000_000009010000000304_000000020000090500_000000000003000607_000004070000000900_020307000000000005,
  0x040700090200050800_000500070000000200_090008000403000100_000009000307000000_000107000009000005_030006000002010009_000005000001000000_080600030705000900_010002080004030000,
  0x000507030800010000_000403020009050708_000000070504000003_000000010300020006_000300000205000001_000000040000000800_020605000900000300_000001000000060002_030009060400000000,
  0x000106000800000200_000208010000000603_070000000000080000_000405090008000300_030000000706000509_060007000300000008_000609030007010800_000000080900000406_080304020000090000,
  0x030800090000020007_040000010705080000_000005000800040006_000000080000070009_050000030007060000_020700040900010305_000007000400000001_090500000201030708_080102070000000604,
  0x000104000200000800_000005000308000900_000007000104060002_070000060000080301_000000030700020009_000402010800000706_040003000500090600_000006080003000100_050000000607000200,
  0x000500010008000000_030400000600000200_000000000004000009_000008000407000100_000600030201000007_000007000000000400_000700090000000000_010200000006090003_040903000702000001,
  0x050000000001030600_000009030002010005_000008000400070902_000006000000080007_070900000608000400_000005000000000206_060000000005040308_000004060003000001_000000040000000000,
  0x000004000807060005_000000050302000009_090000000000030000_000300000900000500_000806000400000000_040000000705020306_060001070500040000_080003010009000000_000507030604010900,
  0x000000070000010200_000001000000060004_000600000109000000_000103090002000007_020004030000090006_000907000600020403_000000080004030600_000400000203000708_000306000000040000,
  0x070003090104000608_000000070506000004_040500080200010907_030007020805000109_010005060709000302_090002040001070006_060901050407000000_050700030002060400_020300010008000005,
  0x000007090004000500_000001060005030809_000000000308000000_070500040906000002_000902000000070400_040100050200000000_000209080501000000_000000000002000001_010006000000000008,
  0x060108070000050000_000000020300000008_000502000100000007_000400000003060205_020000000000070000_070009000000000003_050200030600080901_000000040900000000_000006000500000000,
  0x000200000405000800_040500080100020600_000000030000000004_000004000500060308_010002000000050000_000600090000040000_000006050000000900_020007000900030000_050400070200000000,
  0x000701000600030008_000408000000000100_090003080007060402_010004030500000600_000605000000040200_070009000402050000_000900050800000306_050000000300000700_000100000000000004,
  0x030400050709000000_080700000001000900_050100000300040700_000608010000020400_020301070006050009_000504000803000100_000205000007000004_040907000000000508_000803000500010200,
  0x000900030400080006_000305080000070409_000000000600000005_000006000000000007_000009000802050600_000408000706000900_040800050907000000_000002000008030004_000007000300090508,
  0x070005000300000106_010009070508020000_000304090100000508_000700000004000200_000208050701000000_000400030000000007_040002000800050700_000000000400060009_000000010907030402,
  0x060003000400000102_010000000000000009_000409010002000000_000000000005000900_020900030000010004_000000000004080603_090000020301000400_000600000900070200_050002000000090300,
  0x000100000006000000_000000000000000000_070000000008060309_090500000002010600_060000070005030902_040000000001000008_050003080000000200_000000040000000506_020700010009080003,
  0x080003000500000704_000009000300000000_060200070000000300_000908000005000400_000600000000050009_000504090001000000_000300040007060000_040006000002000003_050802060003000900,
  0x020003090000060400_000608050000000902_000000000000000000_000105000000000000_000006030800000000_090304020000000600_000700000903080000_000000000002000005_000001080000000009,
  0x050800000000000906_090000050600000004_000000020004030000_010000000000000002_020700000300060409_000900070000010000_000000000200040600_000109000000000000_000000000806000000,
  0x030800000100000500_000001000000000000_040000000000000908_050000000004000307_000300070800000400_000400000000020100_070108040902030600_000000000700000002_000500000308000000,
  0x000608090305010004_000005020104090806_000104070608030002_070002000806000300_000000040002080000_040001000000060200_060407080001000903_080000000000000001_010003060700000400,
  0x000002080007000100_000100020009000006_000500030401070009_000800040206010700_040007000100000600_000201000000050000_010603090800000500_090400000002000301_020708000305000000,
  0x060000000900040800_000104000000000907_050000060000000003_000000020400000009_040000000700030500_000907050000080200_020300040007000000_000006000003070400_070001000000000300,
  0x000209000500030804_000003010400070902_000400020003010605_000701000000090208_000000000601050007_040000070000000000_000004000700000009_000000000100000000_020300090805000006,
  0x020800040000060105_060700010908000300_000400060000000700_090304000005000000_080600030200000900_050000090000000803_010006000000000007_000000000000010008_070900000400000500,
  0x000000040007090205_000506000802040700_000004000900030008_000709000001050000_060001050000000900_000000000706020004_050900070100000803_030008000009070400_040600000000010500,
  0x000703010000050000_000408070000020003_000200060800040007_000300000000080000_080001050309000400_000507080600000001_070002030408000009_050006000001000200_000004020500000008,
  0x090605080007010304_080407000603000509_000102050004000708_000301090706000800_000008000105090600_040000000800050100_060004000508000901_010800000000000200_020009000001080406,
  0x000000010000030207_000200000907000500_000103000502000806_060302050009000401_010000000403000905_050900070006080302_000001000300050000_000007000205040109_000005080701020600,
  0x000600000000000900_000004070000050300_090700010008000006_010300000700000609_000006000000000004_000000000001000007_000000000406000000_000007000300010000_000005000100000802,
  0x070300000000000801_000009010000000000_000001000005000400_000906000400020700_000000000000040903_040000050000000006_000008000009000604_000000000001050308_030507040806010200,
  0x000204090008010000_070600000103000504_000901000500000008_000006070205000001_090007010004000006_020100080906070400_080709000402000100_000000000000000000_000302000701000800,
  0x060000000504000100_000005020900000704_000900000600000000_000000090000000001_000000000408000006_000200000006000807_090000040000010200_000408000009000305_000007000001040009,
  0x070205010803000906_040300090007080502_080609050402030107_010800040206000305_000006070005020000_050000080300000001_020504030008000609_060703020901050008_000008060504070203,
  0x000009000000080400_000402010000000000_000000000709000001_000703000001000009_090000000300000100_080000000907020500_000005000000030600_000001090206000005_000000000803000900,
  0x030700080600000400_000208030100090500_010409050207000806_020004060908070305_000903000000000601_050600010002000908_090000000000000000_000002090801000703_000806000003000000,
  0x000400000000000000_080003040001060000_000102090500000003_090000020100040600_000600080300000902_040201000009000805_000006000000000000_030004010000050706_010000050008020000,
  0x010000000706000200_000008000900010007_000000000003040008_000000000007000002_020301000000050706_000800000000030009_000000030600000001_050704000009000003_030100070005020004,
  0x030704000009000000_000800000504010302_050102030806000409_000300000000000900_000900010002000600_000000090005080104_020401050607000803_000600000003000001_070003080000040200,
  0x000000040600000700_000001020008040003_000000050700020000_000000000409000102_000209010005060800_080004000007000900_090500030000080007_020008000506010009_010300090004050006,
  0x080204000609010705_010000000000000004_000507000200000900_000000000002050103_000103000900000000_000005000300000000_060000000400070000_050802000000000309_000400000000000502,
  0x000000050604000809_000004000003000005_000506000000000004_000201030906000400_040007000501090003_000009000400050100_000003000100000008_070608000000000000_000405070002000000,
  0x050300020004000600_000001000709020300_000200050000010000_000800000500070000_010004000900000806_090000000608050200_030400060000080901_000000090405000703_060000030801000502,
  0x070000000000000000_000300000800070400_020000000000030600_000000000000000000_000600000100020907_000700000508000300_060400020905000003_090503070001040000_010007000003090000,
  0x040000080000050002_020008040000090703_000000000002080400_070906050000000000_000000060703000009_050302090800000000_000700020000010905_060000010005000000_000000030900040000,
  0x000000000601000200_000000000900070305_000200030700000000_020309000500000700_000006000000000000_070804010209060500_090600000002000100_000000000803020000_000002060005000900,
  0x000000050701020800_000000090600070000_050100000002000000_070800020500000000_030009000000050000_000600000900000001_010508040000000902_000700060000000000_000900010005030000,
  0x000407090506020000_050903070201080406_060000080304000905_000000030009060200_000001000700030009_000308010002000700_000500020000040000_000800060100090000_000009050007000000,
  0x000000010705060000_000008000009000500_000000080600000203_050006070200000000_000804000003000605_000300050006020000_060002040807000100_000003060000000000_090100000502080406,
  0x080000000100050000_000504000003000000_060300050008000009_000600000700080904_030008000000000000_000407080009020503_020000000000000701_000000000800000605_000106090500000208,
  0x090503070402080600_000007090106000504_000406030805070002_050009000003000100_000000050200090003_000001000008000207_030902010507040806_080605020300000709_070000000609020000,
  0x000002010508000900_080000000000040503_000700000003000001_050200090006010300_060804000005000209_030901080002050604_010403060200000705_020009070804000106_070000050301090002,
  0x040203000006090500_000006040105000000_000001020300040000_010600050000000900_000000000007000206_000800060203050104_000500090000000402_060300070002010009_000000000804000000,
  0x000006070005010000_000900000300000500_000204000001060000_000000000609000405_000608000000000009_010000040000030006_000102080400000007_000000030000000802_000703000000040001,
  0x080007000000040600_000000000000000001_040301000602050900_000409000000010800_000106020700000000_000000000004060000_000004000003000700_070802060400000503_000000000200080004,
  0x000006000500000000_000200000100000500_000001000000090700_050000000801000003_000004000006070902_000000000002010000_000400030600050009_090007000000040000_010300080004000000,
  0x000406000009010000_000002000608000500_050800000002000400_080905020703000001_040000090501020000_000000080400050709_000100030204000905_000000060005080000_000500010800030006,
  0x040008000000010502_020009000003070806_000000000208000309_000007000406000000_080403000100000600_000006000709030000_000800000302000700_060004070801050003_030700050604080001,
  0x060000010009070005_090005080000020000_000100000205000000_000609000508010700_000000000000060504_070500000106030008_080004000601000203_000300000004000000_020701050800090006,
  0x000000080900000007_000700000500090000_000000000600040005_000406020000000301_070009000000080400_030000000006050000_000500000003000000_040300060008010009_000007040200000003,
  0x000000030900040708_080709050604020300_000400000807000006_010000090000000000_000004070000000802_030000020506090000_040005060701000009_000008040000010603_000002000009000405,
  0x000005000701000000_000000000003000007_080000000602040000_000000020308000900_000108070400020006_000003000000000004_000300000800070402_000000000207000609_070002060000030005,
  0x000000050002030007_000000000000000904_040000030800010002_000002010006040009_000901000000000003_000008000900000000_090200000500000008_000006000003000000_000500000004000000,
  0x040007000100000000_000000040900050100_000500060000040900_010006020004070800_090000080000030005_080400090703000006_000003070006000508_000000050009000300_050000010302000704,
  0x060007000100000300_000209000000010006_000803000600000700_000600000900000000_030001000500000004_070000000000000100_000708000006020001_090005070000080000_000000000805000000,
  0x010407000000000200_000000020105080400_000000000400090106_000006080001020705_000100050206040809_050200000000030601_060001000502070008_090800000703000502_000700090008000000,
  0x000900070508030000_000007000000090006_000500000000010708_000600030000000100_000003000800000007_000000000401020300_000108020004000000_000009050006000001_000000000003070002,
  0x000309000004010800_010500000900000402_070000050801000003_000900080302000000_000100040605080709_080600070109000300_090001060500000000_020003000407000506_050400000200030000,
  0x060902000003000007_030801000000040006_000400080900000001_020000000300000100_070000000000020000_000100070400060300_000005000800000703_000000000504000002_010600000207050008,
  0x010005060309080700_030000050200040600_020000000000050900_000200000000000005_000000010605000000_070000020008030100_080000070002090006_060002040003000500_050000000000000408,
  0x000002000700000001_000500000601000009_040000000000000800_000300090002000700_000000030800000000_060209000100080003_020106000000030400_000005000000090608_000007060000000000,
  0x000008050409010007_060904000700000008_000105000000040000_000000060005070000_050302000007000009_000007080003050001_000400070000030100_010503090600080004_000706010000000000,
  0x020500040800000709_090008010507020603_010007000009040508_050904060000000307_070000000308090000_000002090704060000_000000080002000900_000009000005000806_000000070006030002,
  0x000007000009000002_050609000004000000_040008000000000006_000000090401080000_000000000000060300_000802050300000400_080500040600000709_000004000900000600_020000070100000800,
  0x000800000203060500_000000090408010002_020100000007000904_000201070800000000_000007030100000400_000008000900000701_010400000005070803_000306000701090200_000002080300040100,
  0x070005020006000000_000000000008070009_080009000100000605_090200030000010500_010800000200030004_030007060000080902_000008000000000307_020700000009060001_050601000003090008,
  0x000406030900000000_010900000807000406_000308060500000009_000002080000010900_000500090002070008_040809000003000002_000007040000000003_000004050000000000_090003000208040600,
  0x090000070300020500_000503000102070009_000002000000040000_000007050200010006_000201090004000008_030000000700050204_000700020400090305_060009030000000000_000300010009000407,
  0x000009050107000602_010005090602000400_020007080004000100_090408070006010203_000002000800000000_000003020000000800_080504000200060001_070000000400080309_000906000000000000,
  0x010000060400050000_000000020000030409_020007000509000000_000800050300000900_090300010004000005_000000090802000306_000004000000020000_000005000006090004_000000000100080000,
  0x060509080007020004_000002000009070508_000800000002000109_080400020001000905_030001040500080700_000005000008040000_000207060004000803_010004070805000206_090000000003050400,
  0x090800000100000405_030004050902070000_050200070408030000_040002080501000907_000905040007080300_000006020309000504_000408090000050001_020003010800090706_000000000005040000,
  0x040005070902010803_010903060800000700_000200000000000006_060302040105070908_050009080307060000_000108020009000004_020806050701040000_090004000006000100_030701090400020600,
  0x000000000009060001_000706000000000000_090008000001000500_070000010005000006_000005000000040300_000200040007000100_000600050000010003_030000020000000009_050002000103000004,
  0x000302000008090006_050008000900000000_090000030000000000_000900000207000600_020000090003010507_040000000006000002_000205060000000009_000703000000000205_000009020005000801,
  0x050000030000000408_080600000500000103_000100000007050902_040508060000010207_000300000000000605_060200040100030809_000800010706090004_000000000900020706_000900000403000001,
  0x050903010607020008_080001000304000507_070604050802090300_030000000901000204_090007030008010605_020106040000030809_040009000003000706_000000000506000003_060308070009000100,
  0x000104000500000009_090000000000000100_060800000000040500_000500000206000300_000000010000060705_070000000000010008_000300040905000000_050009080000000000_000008000702050006,
  0x000000020000000700_070200080000060105_080501000000000009_050000000406000800_000600000000000002_040108030902050600_020700000800000506_000000090000020000_010400000200000900,
  0x000403000002000000_000000000001000307_000908000003010000_030005060009000100_000009030008000000_060800000004030009_000000000100070000_000500000000020400_000000080405000000,
  0x000600000000010902_050100060900040300_000002030004060007_010400000503000000_070306010009000400_020500000000030009_030005090001070604_000001000005090003_080000070300000001,
  0x000903070000000806_070600000500000004_020000000900000003_000006040100000007_000301090700000200_040000000803000001_000009000000080405_000500080309070002_000107020405000309,
  0x070005060304090208_000304020000010000_080200000500000600_000000040106000305_030400080005070100_050000030007000002_010003000000050006_040602050700030000_000000000000000000,
  0x000000030200000600_000009000800000000_080002000700000009_000608000000090200_010205080900070400_030900040600000800_000003000000000704_000100090007080300_000004000006000000,
  0x000107020000000008_000000090706040005_040500000000070002_050006040203000000_000004050109080200_010902000008050003_000005000007000801_020000000000060307_070001030802090500,
  0x010000000000000900_000000090000000005_020900070601080000_060503000900000100_040208010000090007_090001000000040600_070000000102000800_000100080700000209_000800060009000001,
  0x090005000000060200_000000000006000008_000000050000030700_040900080600010500_080602000007040300_050700090000080000_010508000700000006_000004060000000103_060000020001000000,
  0x070501000403000000_080000010006090000_090000070200000004_000800000004000006_020300000900000001_060004000000070200_000700000000060400_030000000007000508_000000050000020700,
  0x000500020400010000_060104050908000007_000800000000000500_010007000009000608_000905000000000100_000400000005070002_000002090000000700_090001030206000000_000000000501000309,
  0x000708030500000401_000009000000030605_000003000600070000_000607040000000008_000201000007000903_000004000902010000_080000020005000100_000100090700000000_000000000100000000,
  0x000007080000000500_000008090006020703_000000000507080001_000000050709000002_000000020003090800_000000000004070000_040800000600000109_000005000000000007_000600000300000208,
  0x000000000000010000_010000000007090300_080900000204000000_000004000309080007_000601080705000000_090700000000060000_060009070003020804_020800090000000000_000000020800070000,
  0x090004000708030000_000701030006000804_050000000000060000_040100020000080003_000002000803000106_030000040100000002_060207000005000409_000400000002000608_000009000000000000,
  0x060905000000010700_030000090001000002_020000000000090008_070503060402080900_000000050008000203_090000030107040605_000706010004020800_000004070509030000_000300020000050007,
  0x040000000907030201_000001000000000004_000002000000090600_000200000000000100_070000060100000000_000900000702060003_020007000609000300_000005000800010902_080009030000000000,
  0x000700060000000005_060000000001000000_040000070509000008_080300000207090000_050900000008000000_070204000900000800_000002090603000507_000605080002000400_000800000000060000,
  0x000007000000000000_010000070600000904_000000010000070000_080600050000020700_030100060807040000_090005030002000601_000800020100000007_070900000003010208_000001080006090000,
  0x060100000700040000_000000010003000008_080200090000010507_000604080000000000_000001000300000402_030708000000000000_070000000004020009_010000070600000000_000000050200030700,
  0x000600030000040701_000800060500020000_000003070009000008_080000000600000905_070904000300000000_000200000000000400_000000000000000804_000100050000030002_000000020403090100,
  0x000006040700000000_050007000009000000_040200000000000000_000000000604020009_000000020305080700_000000000107000605_000005010000000000_000708000500010400_000400000900060500,
  0x000901000504060000_000600000108040003_000002060700050000_070104050006000302_000000000002000000_080000000001070600_020006080300090401_010008000200030506_090403000000000800,
  0x000308060400090700_000000090302050001_020001000700040600_090000000207000008_010002030000000000_000507010809020300_000105080904060200_000200070600000100_060000000103080900,
  0x050907030000000006_000000000005000000_040108000902030507_000000000003000000_010600090000020000_070309040006000000_000000050008070100_080701020009000000_000500070300090000,
  0x000000010000060300_000005000300000000_090000000006050000_060000020007030000_080900000003000205_000201000000070600_010400030600000008_000806000702040003_070002000801000000,
  0x000208000607000500_000005000100060008_030700000508090000_000009070005000001_000002000009000000_000000000401000906_060003010000000800_000904050006010000_000000000004000607,
  0x010500000702000000_030000010400070000_000702000506000009_000201000803000400_000307060000050800_060809050100000000_000400080901000507_000000000005010000_000105040000080300,
  0x000309000100060000_000704000206000003_000105000000000007_000000080000000304_030508000004000009_010000070003000506_000000000000000002_000600000300070005_040000000000030001,
  0x040000000003000007_020305000600090001_000900020508030000_000000030000070002_010000000000080005_080000000000000000_030100060400050000_000004000902010003_000700000005040600,
  0x090000000000040607_050603000002010809_000001080600020003_000105020900060000_000200010008000700_080400060307000102_000900050003070406_020004070000030901_000007000001000200,
  0x000004060003090500_000003020900000401_050100040000030600_000007000006050004_000008000000020000_000605000000010000_040500000002070100_000000090004060000_000900000000000800,
  0x000000020005000800_050300010007060009_000200080300050100_030509040008010702_070000050201030900_000102090700000000_000900000102040300_010403000509020608_000000030004090001,
  0x010002090000000006_000000000000090000_000907060504010302_090706020000050408_000000000607000901_020501040009000003_000005030006000100_000100080000030007_000300000900000600,
  0x010004000500000008_070000060000030504_000000020004000007_050300040902000806_000409080000000300_060100050007000002_080700000006000000_090000030200000700_000200090005000600,
  0x000300010908000600_000900000004080007_000000000000000100_000004000000070506_000009050006030008_000000030800000400_080000000000000005_000507000301060904_000000000005010000,
  0x090000070000030600_030501060000000700_060000090500010000_000300080000070006_010609000300000400_070002000006000000_000705020009040001_000003010000000007_040006030708000000,
  0x000001070306000508_000003010000000000_090705020000000100_000200030007000001_000006040002000703_000300080600040000_070000060804010000_030600000000070000_040100090703000002,
  0x090100000008000700_000000040500000203_050402070100000000_060000050304000007_040900000007020001_000700000000000005_020009000005000100_010804000700000500_000006030001080400,
  0x000003000000000207_090002000000030000_080000020000090001_070406090008000005_050908040300000000_000300000506000908_000000060007000500_000100030004000000_030000000901000402,
  0x000106000200000007_080700010600000000_000205070800000006_000000000000040103_050000060009020708_000001000007050009_000002000000000904_030008020000000001_060007000400080300,
  0x070000000005000400_090000020007000008_000006000000030705_010200000004090000_000000000000000003_080905000706000201_000409070008000000_050001000000000300_000000000000070000,
  0x020000010000080906_090000000006030000_000008000209010504_070002000408000300_000009020301060007_040000060700000208_080000050002040003_000200080000070000_000500070600000800,
  0x000004020003080000_070002080000000400_000008000504090001_000003090005070000_080900010607020000_000207000300010000_040009000002000005_000000000800000002_020001000400000800,
  0x020900040000030500_070105020006000908_030004000500060000_000700080000050400_000000050903000000_060000070401090802_000008060700010300_000609000005080000_000307000000020009,
  0x000907010003000000_030000070900000502_020000000500030009_040300000801090200_090002050000040801_070100000009050000_000000090000070004_010004030002060900_060000000004000305,
  0x090100040702060508_060204030000070100_000000090006000203_050000000900000602_080000060504090701_010000070200080400_000008010000000000_020006000400000000_000700000000000804,
  0x060708030100040502_030209040507000008_040501020806070900_070002060900080301_080100070403050209_000305000200060704_010903050004020006_050000000602030007_020007000008090005,
  0x000306020004090001_050000060308000004_020004000500000603_000005000006000007_010000000000000406_000000000000010300_000000000400000002_000003000200040900_070002090605000000,
  0x000806030204000500_030004070801000209_000002000609080403_000007000006020005_000005000400000000_000900020005000004_020008000107000006_050601080000040702_070400000502000108,
  0x000304000700060000_060000080000000903_000000010300000008_000400070000090200_000000000103000805_000000000004000007_000005000000000000_090700000001080000_010003000802050000,
  0x000807060004000003_000500010903070208_030009000807040006_000200050600030900_000000000000010000_050000000009060002_070305040008020609_000008000006000300_010002000300000000,
  0x000308000000010000_000906040100000800_070500060003020904_000700000406000000_080600030200000500_050003070908060002_010200080004050000_000005000602040100_060007010300000200,
  0x030500090001000000_090806050007000100_000000060000000000_000000000500010902_050008040002070006_000902000000050000_000009010600000004_060001000300080500_000400080000000000,
  0x000600050004000000_000005080000070000_000801070003050009_000000040000030906_060403000009010000_090008010006040502_000006030400090100_000300090700000205_000000060005000400,
  0x000501000000000309_000000070000050000_020900000305000408_000005000600000000_080209000104000000_010600000207090000_000003000700040900_090007060000000002_000002040000080700,
  0x000700000005000008_000103000800050200_050200000900070300_000402000300000507_000905000000060400_000007000002000103_000000000009000000_000001000400000900_000300010600040000,
  0x000800090700030402_000500030000090100_000300000000000008_000703020000040000_000000010000020000_000009050007080001_080005060304000007_020000080501000000_030100070900050800,
  0x000105080000090704_000002060407050008_070004050000000300_000001000006000000_000500010900040807_000009070300010500_010608000005030000_000007000600000000_040200000801070605,
  0x000009000500000704_010000000003090500_050000000000030100_040005060002000000_000000000800040007_000807000300060005_030608020007050400_000500000008070002_070400050600010800,
  0x000000000000000000_090002000008000107_040800000100090600_000900000501000004_000207000006050001_010000090000000300_000300000900010000_000000010805020003_000400000007060809,
  0x000000000005040801_080000020000000000_040300000000000905_000903050400080006_060700000800000500_000100090306070000_000400000200090000_030200040500010700_000809070000050004,
  0x060000070000000203_070400000006000900_030800090001000506_090600000000050700_000003000702000000_000708000009010000_080006000000020005_000000000100060000_000200000005030400,
  0x030102040000000900_000008090000000200_050000030700010800_000000020000090001_000005000907060000_000409050008070000_040000070003000609_060007000500000003_090800000000020000,
  0x000807000109000600_000009000000070508_000005070000090300_000000040007000906_000000000001030000_010000000000000004_000600000004000100_090702010005000003_050000090300060007,
  0x060007040000020900_000000000600000100_040500090000000300_000106000400050000_090000000300060701_070802000501000400_000009000004000008_010000000005000009_000000000900040507,
  0x000607000000020005_090100000300000607_040000000002000300_000000000003040000_000004000006000900_000908000007000001_000003000700000000_080009000000060700_000200080009000000,
  0x050000000402070901_000902010806030000_040301000700000806_000005060208000300_000200000001060504_010607040300000000_020008000604000703_030504020000080609_060709080503040102,
  0x030600000001000008_000004060000000200_000500000000040001_090001000007060003_040000000000080502_050006040203000000_060400020000000107_070000000600020000_020000010700050000,
  0x000800030605040701_000104070902000000_000000010400090302_040305060109080207_080201000507030906_000906000800050100_000008000001070600_090700050000010000_010600000704020500,
  0x040300000105020700_090100000006000500_000206080400000000_030002050009000601_010600070302080904_000800000004000005_000900040008000007_060004000000090800_080700000900000002,
  0x000000060700020000_020500000409070001_080000030205090406_000000070002000004_030400000000000000_000007000300050009_050000000103000702_000002050900040103_000300000807000000,
  0x060009010408000000_020000000000000809_070000020005030006_000000000000080000_000704000306000501_080203000009040007_000900000000060708_000108000000090004_000000090803000002,
  0x000001020000070409_070402000900000003_000009040700020501_040006000003010000_000000060500000800_050708090004030206_000000080201060704_020100050607090300_000800000409050102,
  0x070000090100000003_000100070000090400_030000000005010007_040205000800070100_000000010900000500_090001050400000000_050004080001060302_010702060000040008_060800000000050701,
  0x010000080003060700_000000040100000000_000700000000000000_000000090300000800_090207050000010003_000600020000000905_020000000400000000_000800000000000407_000000000608030000,
  0x030008060000020004_040609000100000503_000002070400090000_000306000809000400_000000000504030009_090100000006000000_000401000308000002_080000000000040700_000900000200000000,
  0x000600010300080205_000002040000070001_010905070800040006_000700000900050100_050403080700090600_000109020500030708_030500000007000800_000207000000000003_090000000200000400,
  0x060003080000040002_000007040009000306_000400060003000507_000008000001000205_000000020005000000_000000030608000900_000700000000000000_000000000302050009_040002000000030000,
  0x030100060007000200_020000080009030000_000000020300000600_010000070003000900_000500010000060300_000703000000010000_050400000008020000_000209000001080400_070000000206000000,
  0x000000020306080900_080000000000050006_000004000000000700_010000000005000600_000008000000000300_090200030000040000_000400000900060000_070000060000010000_000000070803090402,
  0x070000000000020103_000203090000050604_060000000005000900_000008020900070301_000000010000090400_040001000000060208_010000000800000000_000706000000000009_090800000000010006,
  0x090001000400020600_000000090000030100_020500030000000900_060000010905040000_000100000800090302_080009000304000500_030806040000050000_010902000003000000_000005080009000203,
  0x000800000009000407_000001080000090300_070509030400020108_080604020300070009_090702000805000603_030000060907040800_040007000608050201_010906050203080704_000008070004030000,
  0x010000000607050400_040900080100000000_000000040000000208_000000060000000500_000005000400030600_060000050000090702_000200000000000100_030500010000060000_000006000004000903,
  0x000300000000000001_090800000005070204_000000010000050800_020500000704000000_000109000800000005_080607050200000300_060900000008030000_000004000000000106_010708040003090502,
  0x000800000003000705_090000000000080100_000500070006090300_000200060001070000_000000080000000000_070004000002000600_000000020400000000_020000050000000009_050609000108020000]
theorem mixed_29_ok : mixed_29.all fastOK = true := chunkOK_sound _ (by decide +kernel)

/-- `mixed` (10000_mixed_puzzles.npy), boards 7500..7749 -/
def mixed_30 : List Nat := [
  0x000000060007010200_000000000000000300_040000080005070900_000007000503040000_000000000700080609_020004000600030705_000400000000000000_080000000100020500_030005000000090401,
  0x000200040000010008_040000060000000000_080000000009000003_030000000000000100_000000000900080306_060000000000070204_090004030008000001_070002000600000000_000600000500000800,
  0x090000000000030100_000003090000000400_050602000000000900_010007020009000803_000200080000000700_080306070500000200_060008000200000009_000700000908000000_020900010004080007,
  0x030200000004060000_010500030206090400_000700050109030000_050900020400000006_000000010903020500_020000000005080001_000100040300050009_090305080001040702_040802090000000600,
  0x000000080000060304_030801000006050000_000000000903000001_020908000300010507_000305000008040006_070006000502000900_040007050800090003_080003040600070100_060000030007080000,
  0x000000000000070000_000103000400000005_000009020000010000_000304050002080607_000800030000000500_000600040800000002_000008000000040000_030000000004000006_020006000900000008,
  0x030004010000000800_080100000000000902_090500000800000000_050600030002080000_000000060400090000_000009050008000003_000200090001000600_070000080000000004_000300000000000509,
  0x000005010200030400_070009060000000508_010004090000000700_000800000000000907_030001000400020000_000500020000000000_060107000500000300_000000070900000200_000900000100000600,
  0x000001000000000000_000000000400000000_000804000900020100_000900020100000008_000000050008010000_000208000604050003_080000000000090600_040000060007080500_000705010000040300,
  0x000002070004000005_070100000002000906_000605010008000700_090401000800060300_080500060701000000_000006000000000000_060200040309050008_010800050200000600_000309000100000402,
  0x030000000002010000_020608000000090503_000004000308000700_000702000000050000_050400090200000000_000001000000000004_000005070001000002_000300000009040800_000009000400060100,
  0x000300070000000009_080705060400000002_000000000000000000_050200000100000700_000000000000020005_000004000002000100_000801000005040607_000000000700050001_040507010000030908,
  0x060900000405000003_000003000001070000_000000000003000500_000200000000000900_000000090000000004_090004000007000800_000509040300060007_000602000000000405_000800000506090300,
  0x020000000006000005_000006090000000203_000500000002090400_030000000408000009_000005000000000000_000004050903000800_000001080005000002_050000010709040600_000908020004000701,
  0x050001000000030709_020007010503080406_060403090007050200_080700020300010600_040600000001000300_030000000900000000_000004000000060008_070506000000000000_000208030600000507,
  0x000000000007030506_000608000400000000_000000000309000400_000000000002060007_020000000708050000_000005000100000800_000000000001040905_040009020003010000_080000090004000000,
  0x000209040008000006_040000000305020807_080300000206000000_000107000903040008_050903060800010002_020804050700000900_090400000507080600_000000000000000205_000000010600070009,
  0x000206000700090008_000409080000000000_050700000209000006_000000000503000000_000000060002000000_090005000800010600_040000050600000900_070001000008060003_000502000001040800,
  0x000002030700000009_000700000106000502_010000080000070003_020900010000000708_000008000607030005_070000040800000200_090001060302000800_000000050000000000_000803070001020600,
  0x030005060702010008_070802040001000006_000600050308070400_000000000200000001_000706010500000800_090501080600000703_000107000809040200_000004070105060000_000900020400080007,
  0x080000010500040009_050000020009010008_000100080000000006_000500090000000007_000000050003090000_090002000700000003_000200060000000001_000400030000070005_010000000000000000,
  0x010602090000000000_000300000100060807_000007000000000200_000003000804000600_000000070002010000_000000000500000000_020000080003000009_080000000001070000_030000040007000006,
  0x000005000800040000_000208000107030506_070004050903080201_060009030508010402_000000000200000307_020000000706050900_000002000300000000_000507020000090003_000006000009020100,
  0x010006040308000705_030000000006000000_040508000009000001_090000080005010200_000000090000070400_000100000700080000_000000060000020004_000000010502000908_000602000004000007,
  0x070002090000000600_000900000302070001_000601070400030900_000009020007000003_000203000000060709_000507030009010208_000706040000000105_000008050200000007_090400000008020306,
  0x030400000000000709_080000000300040100_090007080004000006_060003020800010000_000804000009000203_000200000000060008_000000010008000407_070000000000000805_000500000902000001,
  0x000000060803050201_000006090002000300_000201000704000000_000100020000000507_060800000007030100_050900010000000000_020300070005010906_090605000001040703_000000000900020805,
  0x030000080005000006_000000070200090500_070009000100080302_020400000500000007_000000000407000200_050701000800030900_000800000304000009_040300000000000000_000007010008050400,
  0x000801000700060002_070200000900050100_000506000001090000_020005000300000000_000003000000020704_010407080006000000_000100040003070906_000700000102000305_000300000600080000,
  0x040003050102070008_060000000709000000_010000060300040009_020600000401000005_050800000000000403_000004080000060001_000206000003000100_000400000006000000_030000000004020000,
  0x090700030000000001_020000000900000800_050000000800090002_000000060000000908_030007000001000004_060000050400000007_000600020500040009_000200040000070605_000105090000080200,
  0x080100040003000005_000304000501000700_000702080000000003_000007000400090506_020900000800030000_040500000000070000_000001000004000300_030005010008000000_090408000307050201,
  0x000307000200000400_000009000301000006_060501000000000702_020000030000000107_000008000500020600_030000000106000508_000406090702080005_000802050003000001_050900000008070000,
  0x000000040205000009_000102090000000500_090400000106000003_070000050000090001_000000000903000006_000209060001070000_000007000004000000_000600030000000007_000003000009000604,
  0x010004060000000000_030008090501040702_020900030000010600_080305000006000100_000209000307050806_070000080900000000_000803000000070000_000000000800000009_060700000009030408,
  0x060004000002030100_080000000100090500_030000090804070200_000509000008020001_010000040209000600_020800000007040000_000008000401000907_070600000900000003_090000070300050800,
  0x050000000103000200_060002050800040003_000103060002070509_000609010304020000_000001000500000007_030000070900060000_010306000200050004_000007040600000900_090400030705010600,
  0x080400000903010600_030001070400000802_000200000106040500_010000090200080006_000308010004070209_070900060008050004_040109000000030708_000003040000060900_000806030009000401,
  0x020308000501000007_000600000400000508_070500030008000000_000000000002000005_000201000703090006_090003000800010200_080102050300040700_000900000004000602_060000070209000100,
  0x010003070400050806_000500000008000400_000408000105000002_000605080000000000_030000000000000201_000102000007000605_000000010802030004_000000000700060009_000001060900000508,
  0x000906070302040508_020700000408060000_000804000900030207_040309000200000601_080201030007000405_000007000009080302_000100060800000004_090600020500000000_000400090701050800,
  0x090002000700000000_080007040006000209_010000020500080700_030900050000070806_000706000003000900_000400060907010300_060200070304090100_000000000000030000_040000090000060000,
  0x000004080000060700_000003000000000001_020000000006000000_080007040003000000_000000000007000005_040300010600080007_000700000000040508_000200060504070000_000000000300010000,
  0x030005090200000000_090608070000000000_040001000800000000_070306040001020009_000002030006000105_010500000000000007_000800050000030900_000000000600070004_000409000000000506,
  0x000902000706040001_060801000200000309_070304080109020605_080206070401000903_000700000508060100_040105000003000700_000509010807030406_010600040305090200_030400090602010507,
  0x000901030005000602_080700010000000300_050000000004000900_000800000009000000_060504020000000009_010000000008000407_000000090600040500_000000080000020000_000007050000090008,
  0x000000000208060009_000009060000030000_060002000300070100_090306010000000000_040000030900010800_000200000700090603_000108000407000000_000004000009000007_000007050003000401,
  0x000501000000000800_000007080000030000_000000020000000700_000000060200050007_050009000000040602_000602000700000308_020005000607000103_060300000800000500_000000050903000000,
  0x000005000000000601_000006030700090805_070009000000020004_060204000308050700_030000020007010006_090700000405000008_000000000000080902_040000070009000503_000900000002000107,
  0x060708050000000400_000100040802000507_000400000000000000_000000060003010705_000007090105000000_030001000200040000_050000000300000100_000000010000000900_000809000004070300,
  0x000600070300000000_000709060201000800_000108000900000000_080400000000000002_090005000802070106_060201090700000008_000500000400000600_070000080100020300_000800020000000501,
  0x030004010005080900_000605000000000001_000000000800000000_000103050900000207_050206070104090300_000800060002040005_060400080000030702_000500030000010000_000009020600050804,
  0x000002030006000700_000100000800000009_000003000100000000_080006070009040105_000000000500000800_040000010008070003_030500080002000000_010400000000020500_000600000001000007,
  0x000800000702000000_000000000908000001_060000000000000000_000500000001000406_020000000003000900_080003050000000007_000301020500090700_090000000300000500_000002000007000000,
  0x040000000600000500_000700000005000400_050000040000070000_030000000008010006_000009000406080000_000100030000000004_000003050702000000_000005000300000009_000000060001000000,
  0x060900000100000000_010805030204000000_000403000007000805_090000000301000508_040708060500000001_000500020700060900_000009000000000006_000002070400000100_000000000000020003,
  0x000200000000040000_000500000008000307_000006000004000000_060900040005070003_050107000803020000_030402010006090000_000601080309050000_020005060000000400_070000000002000006,
  0x000500010002000000_080200040300000905_030000000009080100_000300070400050009_020007000001030800_040005000000010607_070000000100040306_000000090700000000_050400000603000000,
  0x000000000000060704_020300000000000001_090004000005080003_000000080300000000_000001050000090000_030200000001000008_000000000400000805_050108000007000000_040903010508000002,
  0x050000080000000000_000009000000000800_030200000906000400_070004000005000002_000103000000070000_020000040000000001_060705030201000908_090001000000020000_000800000007030000,
  0x000700030000000000_060000000009000000_050400000007000000_000000000304090200_000002000608070000_080000000701000000_000001000006020500_000000000000000700_020000000400080309,
  0x000302000900000000_000900000000080002_000000000800030000_000500020007010000_000000000001050309_000000000000000004_090000040003000001_040005000200000800_000200000508040000,
  0x000000010608090500_000006040302000001_000000000905030406_060400030000000005_020000080000000900_000305000100040207_000000000000050100_000204060001000000_000900000400000600,
  0x040900000600020003_000500020000000000_070002090305000000_010000050800000006_020800000000000000_000005000209000800_000000040000000300_050200000708000009_000004030506080102,
  0x000003050209000400_090700010608000002_000500000003010609_000100000500000700_040000000300000000_070200060900030004_000000000400070000_020301000000000900_000007090106000800,
  0x010000030900000000_030600000002000900_040700050000000003_060300000000000100_000907010000030004_000400000003060708_090000000007000802_070004000000010006_000100040200070009,
  0x050000000004000309_030201070009000006_040008060000010700_000100000400000600_000705000001000000_000000030700000801_070802040003000005_000004000200030908_000009000500000204,
  0x000003040007010000_010005000009000800_060700000501000000_080200000000000000_000900020000000703_000004050706000000_070008010400000205_000002000900000000_090500070000030400,
  0x000608000402050009_070400000508030600_020503000000040008_000000020806090000_060800070300020500_090302000100060007_000000080005070900_000905040700010000_000000090601000305,
  0x090403080502060107_020005000607000009_000706030000050000_070600010005090403_000004060009000701_010000000300020605_040000020000000308_060800050000040000_000200000408070000,
  0x000000000600000009_070000000002030004_000400000001050000_000007020305000000_010603000008000500_000000060100000000_000700000000040000_030100000900020700_080000000703010900,
  0x000009000006050107_050000000108000002_000701030000060800_070003010000000600_000000000000000900_000005000000080003_000000000004000700_000802000000030000_090007000503020406,
  0x020005040001070900_000007000609000200_000809020000000104_000008000000060002_000000080005000703_070503000000000800_000000000000000000_000600000700000001_080900060400050000,
  0x010302000600000400_090806000705000002_000400000000000609_000001080502060000_080509010006020000_060000000000000000_000007050000000306_040000000007000500_050108000903000200,
  0x020601000507040000_000408000603000705_000700020900000008_000902060105000304_070000000402000106_000004070308000209_000207050000060001_010500000206000007_000800030001000500,
  0x000000000700010000_000000040000030508_050900020800000400_000501000203090000_000400050000000800_000809000600000000_000000060500000701_000005000000060000_000004000302000000,
  0x000406000000000205_050200030600080000_080703020905040000_000000010000000800_010004000006000007_070800050400010306_000000060000000000_000500000001060000_040000000300050000,
  0x070003010005090800_000100000000000006_000806000004020301_000000040007060000_060000000500030000_020000000301040907_000000000003010000_000605020000080000_000907000000050400,
  0x000009080107000206_020700000409030008_000608030000090407_000000000000010802_060100070000000000_080004000900070603_070000000806020504_000000000000080700_050000040000060300,
  0x000000000006000002_010300090008000600_060405030702000100_000106000509080000_040000000003060209_080200040000000003_000003000001000000_000000000904030005_070804000005000001,
  0x000000040000000005_090000000500000000_000200070003000800_020400000800000300_060000050000000002_080005000200000009_030007090102000008_010500080304060900_040008060000030000,
  0x020309040605000801_040000000000000305_010507080302040600_070205000004010000_000003010009060000_060001000000080002_000702030400050008_000008050007000004_000004000000000700,
  0x050700000000040000_040008000500000309_000006020000050000_030400090601080000_000807000003010904_000500000400000003_000000030002000000_020600040007090105_000104000000000000,
  0x000603020900040000_080402060700000001_050900000004000006_030804050200000000_000706000400050200_010205090000030007_000008040109070502_000507080306010004_000109000002000003,
  0x000000080002040700_000704000106000008_000908050004010306_000000010500000003_010006020800000400_030009000607050100_000000000405000900_090405000001000000_070000000208030500,
  0x000008000209000700_030002060400050009_090100000300020000_080000000902070000_000200000800090400_010000000000000000_000800000000000005_070506090100080300_000000020500060907,
  0x070800050200040901_020000070000000008_000900000801020000_000300000008060100_000001020003000400_080005000000030000_060000010002000003_010409000005000002_030000060709010504,
  0x000300000000050600_060507020003040008_010000000604000007_080000000000070000_030205000008060009_000000030002000805_050000000809000000_000700040005000100_040008000000090502,
  0x060201000000090003_030000000002000406_090000000800010200_000600000908000107_070408050000020600_020109040706030508_000302080000050701_000907010000060304_000506030007080002,
  0x000000060004030502_030206000100000000_000005070003000000_000004020600050000_000009030000080000_050003000000000207_070301050002000406_000002000006000800_000000040700000305,
  0x000600020408000003_000300060000000005_000000000005020700_000000000200000500_000506010003000000_000702050904000000_080200000500060400_000900040100000302_000000000600000009,
  0x000600000700030800_000000000508020009_000002000300000000_000000070000000500_000006000000000903_050000030004060200_000200000800090700_080100000900000000_000000000003000006,
  0x050901000000030008_070000000306000900_030800000500000007_060507000000080002_000004070100000506_000100060000000703_090200050000070000_000005000003000809_000003000007010005,
  0x000102000504000607_050300060908000200_040906000207030008_020004000103000709_090603000702010000_010700080000020300_000000000006080002_060409020000000003_070208090300000400,
  0x000009000300000700_030708000004050006_000106000805000900_000001050007020309_070005000203000000_000000080401000005_010002000000060007_060800000002000503_000004000000080200,
  0x000008000700090100_000000050000000000_030007000900000000_070801000200050004_050403000007010900_000000000000070008_000700000600080000_080002010400000000_000009000008030001,
  0x000900080006050000_040000090000000002_000005000007000004_010004050300070900_000300040009000005_050200000000030400_000700020004000500_090500000000040000_060000000005020107,
  0x000000030002000000_000000000004000005_010503000609000007_000007000000080000_060208090007000004_000100000000000600_000000040206030000_030000000901000700_050600000000040900,
  0x070108000000030005_000000000000000000_000009000000080006_020005000000060001_090007050106020304_030601020408000900_000003000504000600_000700060900010000_000000080300040002,
  0x000000000900000204_050009000607000000_000000020000000700_010000090200000005_090602000000000003_040005010308060902_020000080700000609_000000060109020500_070000000002000108,
  0x000704010605000003_010800000000000007_000300000000000001_080900060000000502_000000000007000000_050003080400000006_000600000200000905_020001000900000708_070000030800060004,
  0x080900010005000203_000000000004090000_000400000800010500_030800070001020400_040207000500030100_000009000200000005_000100080900000302_090000030000070001_000000000000000004,
  0x030604020107000508_000809000400000007_070001000900030006_000000010304060005_000000070009080204_040900060800010703_090500000000000300_080000000003000601_010306040005000009,
  0x090108070400000000_000206000003010000_000300020000090008_030600000502070000_000400060000000005_000705000000020000_070503080000000009_000000000300080000_010800000200060000,
  0x080007010003000006_000001000900000000_030000000000050001_000504000006030209_070000040200000100_020000050000000708_000005020407000003_000700090005000000_000000000008000507,
  0x000001000000090000_080600000904000500_000902000305000700_070109020000000000_030005000000080207_000800050407030000_090300000200050000_060000000508000001_010008090000020004,
  0x000109080600000002_080006070004000109_020407090005000000_000902030700010000_000504000900000003_030801000400000900_010200040506090008_090000020000000001_000700000000000000,
  0x000805000000000000_000407000100030000_000209040807000000_000000070000000300_000000000900070506_070006000400000001_000700000600050000_000000050200060004_000604010700020003,
  0x000300000008040005_040001070905080002_050800000003010709_060509080301000204_000208000000060900_000003000006050108_030000000802090006_000005000704000001_080106000500020000,
  0x000300050000000200_000000010007090000_070000000000010004_080000020900060000_000000030400000001_020000000005000908_010002000600000007_030805000002040600_000907040500080002,
  0x000100070000000203_000008090200060100_000205000100070904_050009030607000802_000000000901040506_000600040005000300_000800000700050400_070004080000000600_020000000400000000,
  0x000006080000000409_000000000600000100_000004090201030008_030100000005040200_050402060009070001_080607000002000503_040201000906080000_000005020100060004_000800000004010000,
  0x000300000900000600_000000000401080003_010004000806020509_000002000700000306_030607000108050402_040501000003070908_020000000600090000_090800020000030007_070005080009060000,
  0x000001000000030005_000004080000000001_000000000900000600_000000000709000300_020000000000060000_000300010006090000_070408090100000006_060009000007000003_030500060400000000,
  0x000602000500000000_000000000000040002_030900000600000000_000009020405000006_020000000008050009_080400000000000207_000807050000060900_000000000300070001_090000000007020000,
  0x000000060709000000_080901050000000002_000700000201090000_000503000007000206_000004000002000007_020007040900000000_010009000600000300_000300090100000008_050000000400010700,
  0x010300050000000000_070002010000050308_050600070000010400_090200000000040100_040106000000070003_030000000001090500_000501080700000000_060000020000000001_000704000100030005,
  0x090002000003010007_000407050009000000_000000000007050900_000900000704060301_020106030008040009_070304000906020005_000701000000000000_000000070600080103_050003090400000000,
  0x040000020000000800_000801000704000900_000605000300010400_030400000000000609_010000060900080000_000900000402000107_000100000205000708_090000070000040000_050000010800000203,
  0x050607000004010900_000200050000000000_000000000100070205_000700040001000800_020100030006050704_040005000800090601_030002000407000100_000001090005020000_060900010203080007,
  0x000006000900000000_010900020307000000_000000000000000100_000000090005060700_080009060700000200_000000000004010500_060008000402030001_030000080009000400_000002070003000006,
  0x040000000900010305_030500070001000000_000809040300020700_000406090200050000_000000000408000000_000000060003000000_000308000000000900_090000020106000004_000000000800000502,
  0x000009000600030700_050000080302060001_000306000709040800_000000020405080600_020000000907000103_000000030108000000_000502000000000309_070000090500000400_000900040200000006,
  0x000000080000050007_000006000001000400_000900050700020300_000000090000000000_000801000002000000_090000000000070006_000709000103000000_000300000008010000_000205000007060003,
  0x010000020005000000_080600000703000002_000700000008000400_000803000006000701_060901030000050200_000007010400030000_000000000302070000_000000060904020103_000000070001000009,
  0x000702060109000308_000003020408000607_000106070300000200_000004030706080000_060800000500000000_030007090800020000_000600000001000000_020000050607040001_090401080003000700,
  0x040700000803000000_000206040700000000_080003020009040000_000300080200050000_000002050001000007_050000000400020308_000608000500010000_020000000000000003_030000000900000200,
  0x040500000800090700_080000010000000206_000902070506030400_000000060108040000_000800000300000000_000100040002000605_050000000200000903_000203000009000804_090608030401000507,
  0x030007090206080501_000109000500000007_050008030007000009_090503000401000206_010800050002040003_000700060000000005_080904070005030102_070300020904000008_000605010000090000,
  0x040001000000000002_000000080500000000_020000060001090003_060000050100000300_000408070309000600_030500000000000400_080900040705000100_070306000000000000_050104000600080007,
  0x080600030200050907_000004010000000002_030902050000000106_000000080000000600_000000000001000000_040309070000000500_010800090000020000_000000020000000000_050000060708000009,
  0x000708010009060003_000006000503020000_090200000007000000_000600000001070000_080300090702010000_010007060800040300_060500020008030000_030402070000000100_000001000300090200,
  0x000000090000000008_080900040005060003_000500010002000904_000000060000000000_050709080103040600_000608000200000105_060000020900050007_070200030000000000_090004000007020000,
  0x020304000700090801_000701000904060003_000800000300040005_000005000601020908_000602000809000007_000100020507030000_010500090003080604_080200070400010300_040903060108000002,
  0x000000000002040000_000000000403070009_040000000900000100_050608000000000204_010009080000000000_000400000000000900_000004000000000608_070806000300020000_090200000000000007,
  0x000000090700060003_080000040200090000_040007030106000000_000000010007000309_000009080000040006_000005060004010008_000006000803070004_030400000001000005_070008020409000600,
  0x010900050000060702_000000010000040000_000503000706000000_000201000007000400_000700000403010006_000000060000020500_030802000609000100_050000000000080600_090400000000070200,
  0x030501070000000009_000004010900050307_000006000000000001_000000090003080405_080000000000000006_090000040000000100_000100050000020000_050000080200010000_000000000009070508,
  0x010508000700040000_000003040100000700_000907000306000100_070000000004080000_000000010008050000_000005000002000600_000304000007000902_000800060200070004_050702000401000800,
  0x000003080705000200_000000000000000000_040005010003080600_060900000000000000_000804000600030001_000000000004000800_000006070009000005_000200000000000300_000000000000060008,
  0x070300000204080105_020104000000030006_080006010300040000_010207000003000000_090000000500010007_050603000701000008_030000000007000204_040702000908060001_000905040102000003,
  0x010402000000000000_000907030004000200_000005070900000400_080700040000020000_000000020600000007_020503010007090004_000201050003000700_000608000000000000_000000080000050009,
  0x000000030500020000_050006000409000008_000009000700000003_030600000000000007_000007000008000105_080500000000000004_000100000000040000_070800000600000900_090004010300000806,
  0x090000080003000001_000608090100070005_000007000500090003_060000040005000008_000509010000000000_000100000008000500_050000070001000306_000306000800040002_020000000000000700,
  0x050004000608000000_000000000000000005_070800000503000402_020003000001000004_000000050702000000_000007090000050000_000006080205040007_000002000000030009_010000000000000800,
  0x000002000000090008_000500060809000000_000000000204050600_010000000607020000_000200080905000001_090000000000000007_000000000003070006_000300000008000004_020700050400000000,
  0x000000010500000004_000305000402000106_000000090000050000_000000060200000007_040107030005000000_060000000007000000_000408050001070000_000600000704090000_000509000006040000,
  0x000807040602090100_050000000800000000_000009030000020000_040000000000000700_080300000900010206_020000050006080000_090200000007000501_000000000203000008_070003000000040600,
  0x000007000009000002_060309080204010000_020000010005000306_000102040600000908_000700000802030400_090408000003000200_070000020001000003_000600070008020000_080201030000070000,
  0x070503000000000000_090000000507000300_000204000001000900_000900010800030000_060700000000000100_010000000405000000_000000000103000007_000600000000000803_000007020008000006,
  0x000000000000010000_010004000700000900_050008060000000000_000403000106080500_090000000805000704_000500000004000006_000709000203000005_000800000600000300_040300000508000000,
  0x010700030400090002_000209050000000003_040300010000080005_060400070500020001_050900000004060000_000102000009070000_020003000807010409_000000090300000006_000600040000030807,
  0x050601030407080200_030907060008040100_080000000009030600_020009010004050308_040300080902010006_060108070003090402_070200000300000801_010500020800000904_000006040001020503,
  0x000000020605010007_020800070301000409_050001000000000300_000000050106000000_000000000000000000_000103080200070000_040000000009030000_000507000000000000_010000000507000008,
  0x000306070008000509_000000050001070006_000000000000000002_060700000100030005_000008030004000000_000001000000000000_000000000700090408_040009080006050000_070000020000000000,
  0x000700000400000006_010000000006000005_080609070003000000_000000040000000800_070000000008050100_000006000100030007_000005000000000002_060400010000000008_000000060005000000,
  0x050107060000080009_000002050409000000_000400000000000503_010600000007000305_000005010003000700_000004000805000000_000001000900050600_080000000004000001_000000000100070004,
  0x000908000007050600_000000080605000000_000206000000000008_020003000500000907_000400000003000800_060105000000000003_030000060800000001_000601050002080309_080000030109070000,
  0x010000040306050002_020405010000000000_000006000702000800_030000090005000006_000500060203080000_000204000000030000_000100070600090308_080003000500000000_000600030008010000,
  0x000100000005000000_070002090401000600_050806000300000000_000007000000000903_010600000209000400_000500000000010000_060700020500090001_030001000900000006_000000000600000000,
  0x000405000302000608_010900000000030504_000000000104020709_030004000800050000_080709040000000201_020000060009040803_050207000000090006_000000000005000302_000000070000000400,
  0x090607030008040001_010008090600030000_020003070001090608_000102050007060904_060309000004000700_000705000006010000_030000060700020100_050200080000070409_070901040002000300,
  0x060107000003000902_080405000009060301_020309040601000000_000502030008010600_000000000500000000_000700000000000508_050008010000000003_030900080006050704_000004090000000100,
  0x000003070400020600_000802050000070100_070000000201090000_000000060007000000_000705000100000009_060000020805000000_050008090000000000_000100040000030006_040600010000000807,
  0x040003000009020005_010205000706040900_090007000200030000_070100020000000009_000000000904010807_000409000007060003_000904000000000302_020701080000000000_000300090402070600,
  0x030000000000070000_070002030000000504_000608000000000009_010000000400000000_000203080005090006_000700010006020400_000000000600000800_090001070004000602_000800000100000000,
  0x090007000600000000_030600000008000100_080005000004070000_050900000800010002_070300020000050600_060008030001000000_020703000100060000_010806070000000000_000000080000000000,
  0x000003000000010004_000001000200000506_050000060000000703_060000050300000409_000800000004000002_030000000000000001_000005000000030000_000007000005000000_000206000100040005,
  0x000002040500080000_080007010209000506_030900080607000100_000006000708010400_050200030106070008_010008090000060300_070000050900000803_020503070000090601_040809060301000207,
  0x000004080000000501_000000000200090304_060000010003000000_000600020900000705_000007000000000000_080102000007040600_000000000000000100_030200000004070908_000005090001020400,
  0x010504000008060900_000200040100030005_000000000500000800_000009000000050100_080102050000000000_000000000700080000_020006010007040000_000000030000070608_000007060400020001,
  0x020000070000000804_000000080004070009_070000000000030106_000004020508000003_000200060709000008_000800000103060000_090500030206080000_080001090007020300_000000000805090600,
  0x070000000000030000_060400070500000002_000008030000000009_050700080002010003_010000090006050000_090000000701000004_000005020000040000_080000040900000700_040000000800090300,
  0x000000000600080509_000006040907000103_000300000000000000_050002090000010600_000000060002000800_070000010800090000_010900050208040006_060400000109070200_030008070000050901,
  0x000508000001000209_020400060308000005_030700090005080006_000004010600090302_070300080904050600_000006000500000007_040203050706010908_000607040000020003_090005000803000700,
  0x040000000905060002_070000000000050903_030009000700080000_060000000003000508_000302080000040600_000000000000030009_050400070300090106_010007050008020304_000003040009070805,
  0x030507040902000801_000008070000030402_060204080301090000_000605010000000200_080703000200010600_040102000007000500_050801090700020300_020409060000050000_000306020105040008,
  0x010000030009000000_000705000800000200_000008020000000000_020900000600000501_000000090002000000_000407050003000000_000000000200080105_070000000000000900_060000000001070400,
  0x000100070000000000_000007000000000000_060402000300090100_070001060005000004_040903080000060005_000600000200070901_000800020703000400_010309040500000700_020000000809000500,
  0x000500000000000908_000709000300000100_030001080000020600_000000010402000000_010600070000000000_050800000603000702_000000030009080001_000100060000090003_000003050001000006,
  0x040009000701080205_000500090600070000_010007040500060003_000000000000000000_000000000000020508_000402080000000006_020906000400010000_000005020007000604_000000010900050300,
  0x090007080000000000_000000000100000300_000000060000000900_010000000008000000_060000070300010200_070002050000060008_000400000009000000_000006010800090000_000500000000000002,
  0x030000000000000004_000802000409000300_000000050003070201_080700000000000500_020003000000000600_000400000300000009_000000040002090005_040009000005060000_000500000006000003,
  0x080203010000000700_000100070206000000_060407030800090002_000300040700000806_070504080002010309_010600000900040007_030900020508000600_040800090000000000_000702000004000008,
  0x050409000000000001_000000000000000000_030700020005080409_000000060900030000_090005030000070800_040000000708090000_000500070003010000_070000040001000502_010008000500040700,
  0x050804000000000100_000900020000030400_000006040900050800_000000070400000200_080400030000090000_000000000009070300_010700000204080600_000000010006000000_040003050807010900,
  0x080603050704000000_070000080100000000_000000000000080607_000000000602010400_000100030005020006_000205090400000300_020006000900040800_010700000500060009_000304000208050000,
  0x010000030005000000_030700000000060005_050200000607000001_000001070004080000_000607000000050403_040900000800000102_060400000003000000_000005000008020000_070300000200090006,
  0x040300000100050000_080000070200000300_000900050000080200_050708040001020000_090000030000070000_000003000000000405_000807010005090602_000100000903000000_000000000006030000,
  0x080300000502060007_000605000100000009_090007000000000008_050001000700000906_000809000300000000_000000020905010800_070006010200080000_030000000804050001_010400000000000702,
  0x030002000400080006_000008000207090105_090001000800020004_010900040700000008_060000080000000400_000804000000070009_070000000000040902_020000000009030001_080300000104000507,
  0x000401020703080500_070008000006090001_050006000901070300_000002060400000000_000005070102000803_060807050309000102_000000010807000009_080000030000010700_010703090600020408,
  0x000000020008030700_000009000005020804_000508000000000001_000203000000000000_080600000300040200_000000040000070308_070000090506080003_000006010000050400_000801000000090600,
  0x020007000006040900_000300090002000607_000904010000000008_000005020000000000_010609000503000004_070002060904000300_040500080000000006_000001000607000000_000700050001090000,
  0x090000010000000600_040000080000000007_060800000000000300_080700050003000100_000500000107000803_000603000008070009_000002090800050000_050906040000030208_070000000502090400,
  0x000800050200000000_020001000300000700_000000040000000803_000008000003000106_000106070000090502_090400000002000300_010000030000000000_000007020405010600_060502000900000000,
  0x010006030004080000_000907050200000000_000508000001020400_000600040000000100_000000010900060200_000001000800000004_000000000005070006_000000070300050000_070000060100000000,
  0x000100040200070800_000800070009050000_000400000100000902_000508000700000003_040002000800000709_090001000402080605_080000000004000500_000004000507000008_000207000900060004,
  0x050906080000010004_020004010000000308_080000000600000200_060005020000030907_090200050008040601_040007030906080502_070000060002090400_010600000000070800_000400000005020100,
  0x000300000000000405_060200050008010300_050409060000000000_070800000500020001_010000020700030000_020603000001050000_000500080007090002_090708010200040000_030100040000070008,
  0x020004060309000000_000000020004090300_060003000108040000_000700000000000604_040000000705000903_090008000000050001_070006000401030000_000009030607000200_000005000900000400,
  0x010804000000060007_020509000007040000_070300010000050209_040100050709020000_000008030000000104_000000000000070503_030001000006000902_000205040903010000_060007000800030405,
  0x000004000001000208_000000000000000106_010800000000070003_000006000500000309_080500000000020001_000300000002060000_050000030106000700_000002070000000004_000903040008000005,
  0x000009000008020105_000000000002070406_050402000001000800_000000000700090300_000006050109080004_080000020003050600_060005000800040900_000003000900010700_000000000004000003,
  0x000005080000010006_060008070000000200_000002000906000000_000204000000050600_000007000600040301_000600000008000709_000000050100060402_000401060009000005_000506000000000000,
  0x010400000300000609_070908040600000200_000002000100040700_000000000700000100_000800010000090000_020701000000060003_000200000401000306_000106020503070008_000304060000010902,
  0x000000010802000600_000600000500000208_020400030000010500_000004050003080902_090801060007000405_000005000908000000_080000000005000000_000000000300090000_070000000400050800,
  0x060903000008000400_070104090205000008_080000060000000901_000200040701090003_030807000002000006_000400000800050700_000605000009000000_010708000500060000_000309000607080500,
  0x000004020800000500_000900000501000000_010000060000040800_000000000906080403_000000070000010605_050000000100090000_060100000703000000_030800000005070206_000507000002000108,
  0x040000000100000000_020000050700000300_000701000000000000_050000030000000200_070308000001000004_000400070000000900_090003000504070100_010000000200000600_000000000000000000,
  0x020000040300000009_080607010905040302_030900080002000500_000000000600000000_000000090000000103_000000020108000005_000806000000070004_040200000000050600_000000000000000900,
  0x000000000000040000_030200010000000006_000000070000010902_080600000000030004_010007000006050800_050000030000000000_000000080900000400_000000060100090300_070109000300000608,
  0x070600040001000000_000004000000070005_030005000809060100_060903000007000802_020008000005000007_050007000908030000_000300090702000000_040000080006000709_090000050104000200,
  0x010702050300080600_080500070906010002_090000010208030007_000109060800050304_040005000002000806_070806000003000901_060001000000090008_030900080600040005_000408020700000103,
  0x080500000000040000_020000060300000000_040309050000000002_000000030000000400_000401000006080000_030000010409020006_010004090003070000_000000080701000600_000000040500000801,
  0x000000000006000507_050006000300000100_000703020000040608_010002000604070009_000509000700060301_070608090003050004_060004030000010000_000107000005020903_030900000000000000,
  0x000004000000020000_020500030409010008_060100080205030000_000200040608070009_010000000000080503_070000000503040200_000703020006050400_050000000700060002_000000050301090807,
  0x070300000600050001_040600050901000700_000005000000000800_000000000807020000_050203090406000100_000701000502000000_090507000008010600_030800060105090200_020106040009000003,
  0x000407080000000200_000308020006000009_020005070000060000_050001040000070000_040800000207090500_090006050000000402_070009000000000804_000500000004000906_000604090800050107,
  0x000508060000020900_030600090002050700_000900080305000600_060003020008000400_050000070409000006_040000030601070002_020000000006000105_000405000803000207_080100050207040000,
  0x000000060500000000_020500030007000006_070609000800050302_090400020300000005_000001090605040703_000005000008090000_000802050000000600_010900000700020008_000006000000010904,
  0x000000090004070008_070400020008000000_050008070300000904_000000000800090000_000503000000000706_040006050000000802_090302000005080407_010800030000020000_060000000900000103,
  0x030007000200040001_000400000100000500_000000000400070902_040700000300000800_020609000700050000_080000000002000407_050803000000000700_010004090500000000_000900030804010005,
  0x000007040300000000_010300080607040000_000600000201030807_000506020700090000_000100000000000002_000009010006070400_050900000002060008_000700060008000000_000408000009000100,
  0x000000080000000300_010006030902070500_000003040005060000_070402000000000600_000105000000080000_000008000000000000_000900070000000802_030001020809050000_000200050000000006,
  0x000507060200010900_000000030500020000_090204000100060005_000008000600000000_000709080001000506_000000020000000000_000000000002050601_000000000700030800_000401050000090002,
  0x020401070005000000_000508000200010004_000009000400000000_000000000009080400_000006040000020000_000900080103000506_090703000000040600_080000000004000000_000004000000030805,
  0x000000000800000207_000000020001030004_000700000400000000_020400070600000800_060107040000020300_080900030000070000_090600050000000000_000001080000000000_070000000000080005,
  0x080000010009000500_010009000500000700_000500000008030900_070000000400000008_050000030000000200_020006090007000300_000000000100020603_030800060000010409_040601000003000005,
  0x020604030705080900_000108090200040000_000700010000000300_000000040000060002_060400000500090100_080002000900070000_010000000400000009_000200000609010400_000009000102030007,
  0x070000030000080500_000803000004000000_000002080700000409_000000070403050806_000007000601020000_030006000000000000_000600010300090000_000700060000000103_000300000809070000,
  0x000103020007060504_000009030004020007_000002060500090301_000305010809000002_090004000702000600_020701040300050908_030006080000070200_010200000000030409_000507000203000106,
  0x000800070204000009_060500000000000804_000004000006030107_020005040001000600_040100020000070000_030008000007000200_080000090003000402_050309000400000706_070002000605000008,
  0x000800040000000006_000500000000030708_090000080006000004_070600020000080305_030008000700000902_050900060800070400_060005030000000109_000000000205000003_020000000000000007,
  0x020901060300000704_000300000008010002_080500000400000006_060400000000070105_000100040700000308_070802050103060009_030204000500090001_000700090600000003_010609030200050807,
  0x030004000209070000_080000000500000109_070000000000000008_000807050000060001_000403000006050700_050006000407000003_040500000000000900_000000060104000507_000700020005000000,
  0x040300000700000601_090002000006040007_000000000000080309_000506000901000700_030000000802090100_020901050307000000_070200000600050004_060100090504000203_050400000000000800,
  0x000000000002000100_000000000306020000_080900000104030700_000000000005090000_020800000400010003_000000000600050800_000704010203060500_000000040509000300_030000000008000900,
  0x040300000108000705_000700030600080104_000006000000000000_000001060000000000_090000000200000807_030807000500000002_000003010000000000_000904080302000001_000008000005000900,
  0x000708010200000406_020009000403000000_000600050000000901_080000020600040709_000500000904010000_000402080001060503_030200000108070600_000006070500000000_070000040000080100,
  0x040500000009060701_000201030406000500_090600000100030200_080107040000090600_050904080601000007_060302000007000108_030000000000050806_020706090508010403_010805000004070900,
  0x000500090000000700_000800000002050000_000000000600010004_040008000700000005_000605040203000000_000003000009060007_000300050000040000_000700000400000100_080009000006070502,
  0x000507040002000000_080306010905040700_000200000308010000_000800000709020000_000000080200030600_050000000003080007_030000000007000400_000400030000000008_020008000004000301,
  0x010000030005000000_030805070004060001_040007020800090503_000306090100040000_000700040000080009_080904050700010302_000502000009030100_060000010002000900_090103080007020406,
  0x050006080004000000_000000050000040000_000200000700000501_000604000308000000_010005020000000400_000003060000070000_060300040500020809_000401000600050000_090000070003000604,
  0x060009000004000007_000000030100040009_000100020000000600_090006070200000000_000400060900070002_010702080003050906_000005000008090700_000007000002000400_000800090607020000,
  0x000500080000000706_000700000604000009_000902000000080000_000300040008000001_010800070906000003_000004000102000008_050000000001000300_070006090000000000_000003000000060000,
  0x090000040000000000_000006090500000007_070000000300000500_000305080400020006_000000030000000000_000000000700080000_080000060001000304_000009000004000200_000000000000000008,
  0x000000080007060009_060805040903000701_000009000006080403_010400060000050000_090000000000000000_070008050004000006_030004090605000800_080007000400090005_050900000001000604,
  0x080904000701000605_000006000800090100_000001090000080204_000009000000000003_040003070000000500_000100000300070000_030002000000050400_000008030500060000_090500080006000000]
theorem mixed_30_ok : mixed_30.all fastOK = true := chunkOK_sound _ (by decide +kernel)

/-- `mixed` (10000_mixed_puzzles.npy), boards 7750..7999 -/
def mixed_31 : List Nat := [
  0x040801060200050000_000600070508000004_000000000004020008_000000000007010306_010306080002070405_070405030000080200_000000000800000502_060000000100030000_000002000000060000,
  0x070304000900060001_000008000400050900_050600030800020000_020506040700000000_090003000005000000_000801020009070000_080100090503040600_060402080000090000_000905000204000000,
  0x000200070005000009_000005060100070000_070009040000010500_000907050000000000_040000010906000700_000100000008020904_020000000001050000_010004000600000003_000003000000000008,
  0x040007090800000001_080900000000070600_010302070600090800_000400000001020900_000700000409000006_000000020000000407_000009040008060002_000008000207000000_000004060003000500,
  0x040000000708090500_050007000000000402_000009040000070803_000001090007030205_090405030200010708_020000000801000609_070008000603050104_000204070905080000_000506080000000007,
  0x000008030001000900_000000000700000000_000006090000050000_070900000000040000_050003000000000002_040001080209000500_000207050008000401_030000070002000600_080005040603000700,
  0x020000000001070306_030007000400010205_050600000002000009_000200000600050700_090005000008000002_000000070005090000_000000050000000600_010000000000000004_000800000100000507,
  0x000006000205000000_000000040600020008_090802070000040605_060000020507030000_080305060001000702_000201000900050406_000009000000000000_040108000000000503_000003010000000009,
  0x000200000008000100_000900030005000400_070600000100000000_090000070300000200_000000000201000000_000802050600000300_000000040006000000_080000000900000005_060301000007040008,
  0x060000030200000800_070800050000020000_000000000608000000_000309000000000208_000000080100030000_000600020900070401_000406090005000000_000900060000000004_050108040000000600,
  0x000200060800030700_000600070103000902_070000050002080000_000007000305000100_000901040200000003_000000010700000205_000500000007020009_040702000500060000_000300000408010507,
  0x010000020000000004_000008070104030006_040000000805020009_070002030009080000_000000000007010600_000000000008000000_000700080002060901_000201040006050000_000600000000040000,
  0x010008000000000902_090005040002010006_000000010900000000_000500070309080000_040000080005030200_060000000401050009_050000090807020003_030107000200090008_080000000100060407,
  0x090003000500000000_000200000007000006_060705020000090000_020309000600000001_000007000000000000_050600000004000002_000000000100020900_000901000700000405_070502000400060003,
  0x050308000002060409_000000000400080000_000009050008070201_000700000503000004_080905070000000003_030401020906050800_020000000800000000_000000040000000002_070100000205040000,
  0x000504000903060000_000100000200030000_000807000000000000_000700020405000900_000002000100050300_000000000800020000_000206090304000000_000000010608000200_010908000702040000,
  0x000009000000080000_000508030002000000_010000050000000704_020000000003090008_000003010408000007_070801020905040000_000604090200010000_000007000000000000_000000060300070809,
  0x000100000000040507_070503000600000200_000000070105000300_000706080501030900_000000060007000000_040805030000000601_050902000000000400_000007090208060105_010000050004000000,
  0x000201090000000000_050700000600000900_090300000000080600_030000050000000000_000002000008000700_080105000007000000_020006000301000509_070500000004060800_010400080500070000,
  0x000000000600000005_000006090004000008_040300000800020607_050001000000000302_000007000902060504_020004080300010009_000003000508040000_090200040000000006_000408060009000200,
  0x060002000105040809_070908000000050300_050000080300000000_020705060001000900_000600020000000508_090804030000010206_080009000000000607_000206010700090005_040007000200080003,
  0x000403010600000802_000000070000050001_090005000000060003_030902000000000107_000000000003000905_000500000900000006_000206090701000504_000709030000000000_000001050208000000,
  0x000008060000030000_030100090008070602_000200010300000900_000000000007010400_000002000800000006_040000000100000000_070009000600040200_050400000009060008_020300000401090000,
  0x020000080006040000_000800000004090005_000000020009030000_000002040000000003_000003060000080000_040006050300000002_090507000000060300_000008070403000000_000200000605010000,
  0x000000000000060000_000905000000010007_010003000005000208_000000090500000002_000000060807000003_000307000402000800_000000000008000700_000800040700000000_030700000106080500,
  0x090001000700080602_000600010809000000_070005000600090100_000000000007000900_000004090000010006_010000000000000000_000103060008000000_020008000904000000_000007000300000200,
  0x050706010008040000_020300060000000108_000001030009000600_070400000601000500_010902000804030700_000000090000010000_060100000500000000_000000000006020000_000008070000000000,
  0x000008000604000905_000000030000000000_040106050002000007_000901080405070000_030500090700000008_000007000000050009_000200000000080403_050003040000000000_070000000301000500,
  0x000002030000000008_000600000400000509_070009000500000306_000304000200080000_080000000100000604_090000040608000000_000701060805030000_000800000700060000_000900000001000800,
  0x000002000506080901_080706000000030500_000000000000070006_000104050008000003_000507010309020008_020800000407050109_050300090002000607_000001000003090805_040609080700000300,
  0x000300070004000605_000000000005000008_000000000900000700_090100080000000000_060804000009000300_000007000200060000_000003090100080000_000400000000020900_000900020008050103,
  0x040000000000020000_000000000000000000_050800020007000406_030008060000000004_000406000709080002_000005000401000903_070000010000030009_000000070803010200_000003090002040607,
  0x000700040908060000_090006000207010000_030408000600020900_080002090403000500_040107080506000203_050000000701000400_010309070804050002_060804000002030709_000005060300000000,
  0x000000030600000809_000000000000060500_000004080000000703_000000040300000000_000000000800070000_070000010206030400_060700090003050100_050300000002000604_000000000008000007,
  0x000002000400000001_040600000007000200_000008090000060405_000105020003000604_020000010000000503_000300070009000008_000000060000010007_000007030100000000_010006000700000302,
  0x000002050708000300_000008090603010000_050900000000000607_090205000000000800_010000020506090700_030000000001000000_000300000000000000_080000060200030100_020009000100000008,
  0x070000000405000000_030004000008000100_000000000301050004_010302000000000005_000000080500000000_050400010002000306_000103050904000608_040900030007000500_000005020100000409,
  0x000700000008030000_020603000400000009_040000000903000001_080000000000090005_090300000500000600_000100020609000000_070000040006050300_060402000000000908_000008090000040006,
  0x040003000000000008_000000010208030006_020600090403050701_000306000800070000_000000000007000000_000007000102000003_000509000300010002_000002000500080309_030001000000000007,
  0x020908000700000000_000104080500020700_000507000900060804_000002000300000600_050600090002000300_090800070000010002_000000050008070000_000000000000000405_010005000400080000,
  0x020000000400000706_060000010000000004_000000000000030000_080100040000000000_000500020603080000_030000080901040600_050000030200000400_040309070000000508_000201000800000300,
  0x020506040100070308_040907000800000000_080301060700020900_010209050308000600_000004070902030105_000700000600000000_050003000200000000_090008030000000000_070402090000010800,
  0x000000010900000800_070600000803020500_000000000700000000_030000000400070000_080105000000000003_000000000001000000_000003000007000008_000008030004000001_020007090008030006,
  0x000000000900000502_000302000100000906_070000050000080001_080000000700000009_090200030806050700_060700020009010308_000000000000040003_000807010300000605_030100000000020007,
  0x000204030000080000_000000000000000000_000000000005000006_030600000701000002_000000000000010009_000800000004000000_020903000100000000_000006000000030507_000000040003000000,
  0x060405000000000802_010000000400000300_000000000509000700_000301000806040900_000000070003020000_000809040201000000_090106020704000003_000702000000000401_000003000600070200,
  0x070000040905080306_030604000100000002_090000000003070400_050006080000010000_000900050001060000_000100090006030000_020700060009000000_010009000700000008_000500000000000700,
  0x040000000005000300_070008010000090502_000100020009080004_090306040000000000_000700000500000100_010002030700000800_060000080000000901_000900000301050408_000001050900020607,
  0x060007000003050008_090004000508030000_000008000000000904_070605080104000003_000002060000000005_000903000200060001_000501000906070802_000700040800000509_020009050701000000,
  0x000906000102000304_000000000003020700_030002000007000809_000307040000000002_060100020008090000_080204000700000000_000000030206000900_000500070000030600_040003000901000008,
  0x070200090605080103_030906040001000000_000108030200090000_040500010008030006_090803020406000001_020601000003040809_000000060309010400_060005080100000002_000409050002060008,
  0x070000000003000100_010900050000040000_020000070000050600_060401090000000800_090005040000000200_000007000300090000_050000000000000000_000002000400010900_000000000001000305,
  0x030004000000070008_080700000402050109_000500070800000203_060008020304090705_000300050900000400_040005000107000300_000401000603000000_000803040705000001_050607090201030800,
  0x000800040001020700_000107000002000609_000003080000010000_000006000300000000_050000000000070000_000000000009000102_020504060100090000_000009070800040001_000001000204060000,
  0x000000000600000008_010000000003000400_020000070800050000_000000040006000500_000004020900080003_070200000300040000_000908000007000205_000001080000030904_000000030000000806,
  0x000406080009000000_000907040005000000_000008070001040003_070000000008000004_000004000702010806_080009060400050000_000000020000000507_000200000000030000_000000000006000009,
  0x000900000800040607_000000000000010000_000100070600020000_000400000000000001_070006000000000503_000500030000000006_050000020007030804_080009000305000000_020004060000050709,
  0x000700060100020008_000000080700000000_030800000502000000_000600000000050201_000305000007000000_080000050604000907_000908000400000003_000000000006070000_000400070005010800,
  0x040002000005030609_030100000000050000_000506000003000104_080003000001070400_010000050004000000_000005000702000000_000000000900040008_000000040007020300_000004000500090001,
  0x090405080000000006_030000040700000005_020600000009000403_000300000805060209_000000030001000500_070006090002030001_060009000504010000_000803000907000000_050201000300090704,
  0x000000000800010305_000801000007040002_040000050000000700_000000000000000008_000604000203070000_000300000000020006_000900000006000100_010006000000000003_030007010000060804,
  0x000000000500000800_000003000000060000_090001000000000002_000705000002040000_000009010804000700_000800090705000000_070000000003000200_050100040908030007_000400000000010009,
  0x080002000005000009_000009000003080006_040706080009000503_070900000506040008_000508030704000002_030204090001050000_000803040000060000_000000010307020804_020400050608000001,
  0x090000080200000000_000000090003000400_060000000405000201_010900000000060500_000400050800000000_080205000000040000_070000000000050300_020000000700000800_040000020000070900,
  0x090001040200080300_060208000000000401_070003000800000006_000804000500020000_000000080000000000_030706020900040500_000009000300000800_000007050009000000_050000070008060000,
  0x010003000002050609_080600010009030400_070509030604080100_020906000108070005_000807000905000000_040105000307000000_000004080701090500_090001050403020800_050000000206000001,
  0x020000000800010504_080005000009070600_000000000000000200_030000000902040000_040008000605030700_000201080003060900_000007020004000000_090004060500000800_010000000000000000,
  0x000004000005000907_010700000000000000_050000000009000401_040100090000000300_060903000007080000_000205010803040600_030000000004060200_020000030601000500_000406000200010700,
  0x000307080000000000_010000000603040900_090004000205000807_060400000007090002_000000020900000006_000905000300070008_030500040000080609_040706090800000500_000200030006000000,
  0x000007000000000100_000000070000020000_000000020008040000_050001030000080004_040002000100000703_070008040502000000_000009000703010502_000000000809070006_000705000000000009,
  0x000504000000000300_000300060000000200_060200000700000400_000001030804000600_030002000609000000_000706010005000000_080005000007060100_000007000006000008_000600080100040705,
  0x000001040600000900_000000010000030508_000307000500060000_000000050000000703_000905000300000600_000004090100000000_090003000200010400_000006030000020000_040700060801000309,
  0x000305000400080706_090004070806000000_070806050003000409_000007040000090000_000001000002050007_080000000700060000_060000080000000500_000000000004000008_040008060200070903,
  0x080002000306000009_010700000400000000_000000070100000402_000000040000000208_070000000802030000_000200060500000001_050009030001040007_020107000004000005_000000000005020106,
  0x000000070001000009_000007000400060001_000100060900000400_070000000000090000_000809040306000000_000006020000000508_000001090000000704_000708010004020900_000003000000010000,
  0x000000050000000907_000000000008000600_000009000607000001_090008060000020500_000100000002060000_060200040005000100_040000010003000700_000000000806000203_000006000009000800,
  0x070003010500020009_080000000902000007_040209060300000000_030507000000040206_000400000000000300_020908000000070100_060700000200080900_090004070000000502_050002000100060004,
  0x040102080006070309_000900000004000200_000507010209000000_000005070900060104_000000050100000708_000003040608000900_050001090800040003_060400020301090000_000300060400010002,
  0x000700000100060002_000003070800010004_090201060405000003_000009010000000600_070506000003090008_000000090700040000_060907050300080201_010005020607030400_020004000900000706,
  0x000500030006080000_080000000907000106_000000000008050000_020400000509000000_070000020000000500_000600000000000000_000007000004010900_000000010300000000_040800000002000305,
  0x000009050000020807_000200000708030005_050000000000000000_090002080107000300_030000000000080002_000407000200000009_020003000005000008_000000000800000000_000005000009000106,
  0x000009000500000000_000004090300000000_000000010400080003_020000000000000000_090405070006000000_010003020000040600_030900050000000100_000000080000000406_000008000000000009,
  0x080500020307090000_000400000500000003_000100000904000000_000605000002000700_040200060708050300_070000090400020000_060000000001080000_000004070003010006_000002000609000000,
  0x020901000307040805_040000000805010207_080705000204060903_000603050702080009_070204030900000601_050809040001030700_090100000403000506_000407000500000008_060008000000000300,
  0x000903040007050006_000007060008020000_000800000900000700_020000030500000001_000306000000000504_000100090000000208_000005080000000007_000400050600080000_080200000000060400,
  0x000600000408090000_000905000301000000_030004000007060000_000000010002000000_000100040000000006_000000000800010907_000008070000000200_000002080506000100_070300090204000008,
  0x000700090002000600_050906080701000300_000200060000070009_010000070600000200_000407000900060105_000600000000000000_000809000000050001_000005010209000406_060004000807000902,
  0x000901000700000002_000507000004010000_060000010900050000_000405000300000000_000306000400000700_010000050209000000_080004000607020000_050200000000000600_000600090000000108,
  0x080705000004010306_000000000100050000_000002000803040700_000300000705000900_000009080400070603_000007000609020005_070504000000030801_000600000000000000_000008000500000400,
  0x080900000400010703_000002000001090605_000705000000020000_000100000802000400_020000000309060000_000009010000080000_000300050107040200_000501000200000900_000007000600050100,
  0x000700080005000306_030004000706000900_060501090003000704_050000060300000200_010003050902070400_090207040000000000_040006000000000007_000302070004060100_070000030001040000,
  0x000800000000050001_000500000700030800_010002000006070009_040000010200000705_000207080000090100_030105090007000000_050701000409000000_080003070100000904_000000060308000500,
  0x000800010900030000_000002000607010400_010000000005070000_080000070500000900_000000000009000100_000009030001080007_090000000700000000_000608000000000200_000005000008040000,
  0x010600050300000008_000003010000040706_000400000002000103_040002000508000300_070300040900010205_000900000103000407_000000000001000802_090801000205000004_030006080000090501,
  0x010203000000050400_090000000400030100_050000000000080000_030800000500000700_040000080702000305_000507000000060804_000405000006000000_000002000800000601_000109000203040000,
  0x000000000300020809_000203090001000700_000008000700000006_000607000008000200_000104070500080000_000000060400050100_080300010000000000_010000050600000008_000000000000000400,
  0x000003000007040500_000000010500060000_070500000000010208_000607000300000104_020005000600000000_000900000408070000_000300000705000400_000000040000000700_000000000802000000,
  0x000700020908000001_000005030006000004_080006040501030000_000501070000020000_090000000005000603_000000060200040000_050000090000000400_070609000004050008_000408050000090000,
  0x000000030005090704_040500010900000000_090008000406010005_000000050009080007_070005040008060109_010009070602000400_000900000000030008_080000090004000600_050607080003040000,
  0x070601000208090003_080309070005060400_020005000906000000_000500090000020000_000000000400000005_060000080500000001_000100000004000700_000000000000030209_000800000709000100,
  0x000000000100050600_000000090506000802_020005030800000901_000300000700010008_060400000908000003_000200000305060709_070900080003000000_000100000000080000_000504000000090000,
  0x000207040000090000_060800010009000702_050900080700060000_000009000001000000_030000000007000005_000002090005000106_000005070000000008_000100000000020307_000000000003000000,
  0x080109020003000005_000700050104030009_030005000008000006_090001000805070403_050307010409080600_040608030200050900_010803090002060500_020504080306090100_000906040501000008,
  0x070002090001000600_000801000000000309_090306040500000100_000000000000000000_030007000600080900_000005030009070406_000000000000010800_000003080900000000_050000070000090200,
  0x000000090604000102_000009000001040005_000001050007060903_000900030000070006_000602000500030400_000003010206000000_070000000100000000_000000060705020000_000000040903000607,
  0x000700000000030901_000109040800000000_000005010709040008_050002080901000004_010007050000000000_090006070304010500_020600030008070000_000001000002080300_000003060000000400,
  0x050000000000070001_000001050004000003_000800070000000000_080000010000020306_060300040000000005_000000030605000008_000508090000030600_070002060000010004_040603000500080000,
  0x050102040609000807_000004050000090600_000906030702010000_000000090300000000_060509080207000003_020800010000000509_070000000004050000_090000020001000000_000608070003020001,
  0x000300020006080000_060100000000000004_070208040500090001_080406090701000000_000701050200060000_000502030008010000_000000000000000000_000000000805070300_000807000300000006,
  0x000005020000000003_000000040005020800_000904000700000605_040600090500070300_050801030407000200_000300060100000004_010003050806000702_000000010209000000_090208070304050106,
  0x000301000000000605_040002010500030908_000700090000040000_000000040000000100_020000000100000400_080000000002000000_000009060000010004_000005070901000806_010206000004090507,
  0x070208000501030006_000900020000000001_000003000400000500_080001000200090600_020000040600000800_000000010800000302_000002060000000004_000004000002050100_000507080004060203,
  0x000000000000000003_080006020400000007_000705000000000000_060007000000000002_000000000900040605_000401030002090700_000002000000000000_090000040006070300_000604000801000500,
  0x010307090805040200_000608000001030907_090204000307000005_020706010000090408_000905020006070301_000001080709050600_070109030600000504_060502070904010803_040003050000060709,
  0x060400090007020000_020900010003060000_010000000800090504_050000000900070106_000009020000050800_000003000000000002_030500000209000400_000204000000000009_090000000006000000,
  0x000900000000000400_000200040000060100_010408070000030509_000000060804000003_070000000003050800_000000000009010206_000001000006000307_090000010007080605_000006030500000001,
  0x000007040600000000_090000000007000106_060004080000000000_000000000000000007_000000050006000301_020001030000050809_000000060005010700_000902000008030000_010006000200080000,
  0x060002000500000008_000300060800040700_080007000000060003_000004000000000000_000603090200000000_070000000008050906_020905000000010004_040708020106030509_000000050009070802,
  0x000400000807000003_030000090400000107_010700030000000000_000901040003000200_050207080106000004_060000000209000005_000100000004060500_000602000000000701_070000000001000400,
  0x000003050700000600_000704000000000308_000109000308020407_040000000005000000_070000090000030104_000600000800070000_020800010600040003_030005080402000706_000406000007080900,
  0x000109020003000000_050203000008060004_070000050400010000_030006000100020000_010700090204000806_000000000000050000_060901080507000300_080304060002000105_000507040300000008,
  0x000000040000000009_000007000103040200_090304080000070000_000502070009060001_040000000800050007_060000050000000902_000000010005000000_000400060000090700_000200000004010006,
  0x030005000002070401_010002070000030006_070900000403080000_000300000900000802_020608050000000007_090100000200050000_060000000000020008_000003000000000700_000000020006000000,
  0x000000080000000002_020700000006050000_000000000407000809_000007060009000000_000900000503040000_000003010004000000_010000000900000407_000000040000000305_000000000602000008,
  0x080003010402000706_000000070005020000_000900000306000001_000000050107000204_000107000000000905_040005060000080000_000206000003000000_030700000000000000_090000000001070500,
  0x000003010000000006_000108000000000400_000902000600000003_070600000005000000_000800000004050007_000400000300010000_000007060000000802_000000040700000000_010500020003060000,
  0x030008000002000900_000001030800040000_090205040006000807_000906010308050700_000003020007080609_080507000000000203_000004090200000008_000009000001000000_000800070403090006,
  0x000200000000090800_000307000009050400_060000050007020301_000705080000000003_030100000000060000_000000030500000108_000800090000000000_000006010000000500_000000000000010009,
  0x000000030000080000_000806000700000304_070000060008000009_000000080603000900_000004000501000200_000001020000050000_000100070000060402_020508000306000007_000600010002000000,
  0x000000080005060400_000000070000020809_000400020300000107_000000000401000000_000000030500000902_030000000000010000_060805000903070201_040100050000000000_000009000806040005,
  0x000400000000000200_060100040207000300_020000000506040100_080000050000000000_050300070000000000_010600000904050708_000900000400020003_000008000000010906_030006010800000000,
  0x030900080000040002_000002090004010800_000100070205000000_000800050009000001_010306000802050700_090700000600000200_000600000503020408_000400020900060005_050000060400070903,
  0x040008000900010700_050701080602000004_000900000107050800_020607030801040509_090304070200060100_080105060409000307_010509020004080603_000006000508070001_070000010006000400,
  0x070002000800000005_000109020007060800_040608030000000007_010800070005020006_060907010000050008_020003000006000401_030000090600010000_090700040100000002_080001050000030009,
  0x090000050000080400_000506000000020000_080102000007000500_000000060002050000_000001070900030002_020007000105040000_060000010503000008_000000080600010300_010000020700000000,
  0x000900000008000206_080003000506000900_050600000009000000_000000030000000007_000000080900020504_000000000600090103_090000060402000000_040805090103000702_000100000005000309,
  0x000000000000040700_010400000000030002_030200000804090000_000000000000050000_000702050103000900_040003000209000008_090800000005000000_000000040708000000_000004000901000300,
  0x020104000000000000_000000000003050000_000700000100090006_000209000800000001_000007000501030009_000000000000000000_000000000600000900_080000000000060005_060000000005040008,
  0x000400000005000300_000008000000020701_060201000000000900_000102000604000005_070009020001000406_000000000007010009_000000000009040000_000006000402080503_000700050008000602,
  0x000608000900000500_000500000107030000_000307000000080201_050200030000070004_000000000000020300_000000000200090805_000400000308000000_020000090400000000_000001070002060000,
  0x000007000104080005_080405000006070002_030200050007000900_000009000001040600_010000000702090500_000704090000010200_000002060000000000_040500010200000706_000903000000000801,
  0x090300000605000102_050000020801090300_010602070000040800_000009000006020407_020000000400060900_080406000000030000_000201030000000009_000000000902050600_040000000008010203,
  0x080900000007040003_000000060000000000_000500000408000607_000609000700000002_000000000100000000_030004080000010900_000200000000050009_090300000001000008_060005000009000300,
  0x030000050804020001_000001030007050406_090005000000000000_000600000000040500_040002000605030700_050300000000010009_070009080100060004_020004070306000000_060000040000000200,
  0x010600080000020305_000900000000000100_000000000400000000_020000000800000000_000506040100000003_070008000302000900_000800000004000701_060100070200090504_040009000001060802,
  0x000007000002080000_090000050800000702_000000070300050100_020000090100000400_000700000000090008_000309000700000205_000400000209000506_000901000600000800_000000000000000000,
  0x000000000009000005_000000040106030000_060000000500070109_000200070003080900_040603080000000000_080900050000010004_030002060000000000_090400010000050003_000800000005000400,
  0x030709010000080000_040100000000060009_000200070004030500_000503000000000900_090000000600010807_080607000100050304_000006000300000100_070000090205000000_050300000000000000,
  0x040509070302010806_010008000004090302_020000090108000704_000001050000000208_060003000901040507_050004020607030009_000000030805070400_000007010009080600_000100040700020900,
  0x090400000500000108_010806000700030000_050000000108060900_020700000000000300_000005030000000001_000601050007040000_060004000309080205_000000020000000407_070209080000000600,
  0x010005090207000403_000403000000000007_000002000300010600_000000060000000804_060708030009000000_000004000000000009_050200000003000900_000006000000050000_090000000602000000,
  0x000000000300060908_000003000000020000_000200010907000000_020001000000000509_040000000000000206_070000000200030000_000004000800000002_060802090003000001_000000000002000403,
  0x000102030400090008_000400080000000000_000506000209030704_040700000100080206_000300000002070501_010200000007000309_020901070008000003_000000000004010905_000004000301020807,
  0x030008000000000207_000000000000050000_070000000800000906_000904000200070001_020000080000000009_000000040001000500_000000020000000600_050700030000020108_090002000106000003,
  0x000009000008000000_020000000500080900_030508060409000000_000005000304070600_040007000602030009_080006090705040002_000800000000000000_010704050200090803_060002030800000401,
  0x000906000000030100_000200060900000000_000500000000060009_030400000600050807_000709000000000000_000600000005090203_000300000800010400_000105020003070908_000000000000000305,
  0x000007000400000002_060200010900040000_040109000003000700_000002000000000600_000500000000020400_000600020800000005_000903000000060004_000004000005010000_000000000002080000,
  0x030000000100050000_050000090007030000_000900000003000000_000008010009040300_000400000000010200_000000030008090607_000601080004000500_020300050700000809_000500020300070000,
  0x000009040000060207_000000010005000000_070008000900000400_000500000200070000_030000000007040002_000000000001090000_010800070003000600_000000000000000700_020005000604080003,
  0x030000050000060100_000102000609000400_000006010000000800_000300000006090700_090400070100000605_070600000008000001_060500000000070900_000000000004000006_080903000700010000,
  0x050800000009000700_000600000000000000_000000080500000000_060008050300000102_000305010006000908_070400000000050003_000006020005030009_000004000908010500_000509070103000204,
  0x040300020000070000_050007000803040601_000901050004000203_090003070002000004_000000000006000107_070506010000000300_000600000205030708_000700000000010005_000405080107020900,
  0x000006010000030204_030409000602050000_070001050003090800_000007000000000600_020004000006000009_090008040205000003_080002060304000900_040005020001060300_060703090000020000,
  0x080001020000050000_020000090306070801_060700000008040300_050200000904000000_090000000805030200_040603070201090500_000000040000010706_070504010600080903_010900080703020400,
  0x000501040006000908_000004030901000605_000902080500000100_000105060009030400_080407010300060509_000000000704000800_000009000008000000_000003000405000000_000000000100000700,
  0x090004000003080100_000103000805000000_050806000009020000_000002000000000009_040900000000000700_080307000500000000_000500000600030900_060700000402000000_000008050000070600,
  0x080103000700060000_000002010800000704_000000000603020800_040000000102090500_000000000000000103_000300000400000000_010000000000000008_030000000506000009_000804000201000000,
  0x000000000507000000_020000080003000509_000007000204000301_080000000000040906_000000000000000000_060702000000000000_030000000000010000_070601000400000000_000809000701000400,
  0x000500000000000308_040100000700000209_000000000103000000_010000000800070002_000000040300000000_080405000002000003_090600010000000000_000800030000000900_000000000500000700,
  0x090600000002050000_000004070000000003_000000060300000000_060300040800000000_080002090007000004_000005020000000100_010007000000000006_000008000006040900_000500000000070200,
  0x000800000906030405_090300000004010206_060500030000070900_000000000007000001_070003000800000000_000609000400000000_030000000000020104_080006040200050003_000700050301060800,
  0x020009060304000005_000008070900000003_000000020000000600_000600080402000900_050207090003040001_000904000000000006_040700030209060008_030802000100000400_090500000708030002,
  0x050800090000040006_000004050208010009_090003000604080007_000109000006000008_020306070800050400_000508000400090602_010000080302060005_000000000000020000_000000000005000003,
  0x020900030008000607_000400070000020308_000300050006000000_070003010805040000_090000060000000000_000500000903080000_030000080607000400_000200000001000800_040708000000060103,
  0x020500000001000003_000700020400000500_080000000000000000_000000010300070200_000004000609030001_010008000207000000_000000000000080007_000000000000000109_040000070100020000,
  0x000000000000000907_000400060103000200_080500090400000001_060700000000000800_030100000009000700_000904000701000000_090006000008000102_050201000000090008_000000000002000300,
  0x030000000004000205_000506000009000000_000004000100060700_080000030000010500_010300000000080406_060400010000000000_000000080000070900_000600000700030802_070000000903050004,
  0x070000000000050900_060000050900000003_050009000002000100_080000040100000700_040100000309000006_020000070508000000_000800000201000600_010500000704000200_000702060800040300,
  0x000000000001000005_060000000004010003_080000000000020709_000907040602050308_000406000000000201_000002000100060000_000000030406080902_020600000700030000_000008020005070000,
  0x000000070001000600_010208030500090000_000000040000050001_000100090604000305_000000020105080006_000006080300010000_060005000000000002_000007000000000000_000001060702000009,
  0x000000000002080600_030002000108070000_050807000906010000_010305080007000400_000200000405000801_080000030201000706_090108000000020007_020704000803000000_060503000000040000,
  0x060000070000010403_000000060800000000_000000000000050000_030000000500060000_000009000001000000_000408000000000300_000000000902030604_090206000704000000_040500000000070009,
  0x000006000001000703_070008000003040200_000003000000010008_000007020109060405_000001000800000902_000209030500000000_000002060004000800_060800010000000009_000000000000020600,
  0x070500000001060304_010600000000050208_000000080005010000_080406050000020000_020001040000090800_090000010802030000_040900060500000000_060007030009080500_050803000107040009,
  0x000800000002000000_020000030009060000_000500010004000000_060000040007010005_050200000301040600_000004050000070800_000100000005000700_000600020000090004_000000060100020000,
  0x060000080000090501_000001090006000004_040809000000030607_000600040003070002_000002000007000406_000000000200000900_020000030000060700_000000000002000309_090304070600000005,
  0x040809000100000300_000706040305010900_000001000000000700_000008030004060502_000203050001080009_000604020900030007_000405010802000003_060002000003000804_080300000000000000,
  0x000000070206000100_000900010000000003_000007000000080006_000400000000000000_000701000000020600_030006040001000500_000104090003060802_050000000000000000_000300060004000901,
  0x090008000007040000_000002050003000000_000000080000000702_010907000300020508_050000000900000000_040003000000010000_000005040000080100_020001000008070000_000400000700000000,
  0x000309000001020807_070200000900000001_080000020300050000_020803010409070605_060500070203080904_090407000805000102_040700030006090008_010608000702040000_030900080500010700,
  0x010000060800000905_000006000702010004_020008000004000000_050109080000000300_000702000305090000_040803000600000000_090300000406080000_000000030100000409_000604070509030201,
  0x000000050704020900_090200000301070604_070008020609000500_060800090502000701_050701000003090002_020003040007050000_040009000200000107_080002000006040000_030000000005080209,
  0x000000040001000809_000908060000000000_010700020900000300_000000000806070100_000400050007030008_000007090100000200_000500000300000000_000106080000020500_090302000000080007,
  0x000004000600000003_000000090407000600_000100000008040009_000702000800000100_080000060000000500_000501000009080204_000008010203070900_010000070000060300_000000080906010000,
  0x080000090002000001_070900080000000504_000000000000000300_000007040000060000_000205060001030400_000000000800000700_000000000005000800_000000000007040200_020004000000000903,
  0x080700000009000504_000000000008090000_010009000004030007_050100030000020908_000300000800000700_000007050902000003_030405000006000100_000008010000070000_000601000000000000,
  0x060001040005020000_000207000000040509_000000000002000601_000000000000070408_030000070000000000_000000000001000900_000003010000090000_070106000200000000_000000000000010207,
  0x000000010207050400_020703000004010900_000500000300020800_070204000603000009_090000040708000005_000305020009000704_000009030002070008_000002000800090000_000007060001000302,
  0x000401000000070506_050008090000000003_000000000500000000_020000050000000300_070605000402000008_080000060907000205_000809010600000700_030000000009050004_010000040000080009,
  0x050204090806000107_030807020400050006_000000070000000004_000706000900000800_040005000000000000_000100000500000000_000500000008010000_000400050002070000_060000000709000000,
  0x070600000400050009_020004090000070000_010003000000080406_000000000000040502_090401070002000308_000000000000010007_000007000000090004_060000000000000801_000002010000000700,
  0x000008070900000001_010709040500000000_000200080000000900_000000000300000006_060100000000000008_000002000008040000_090000030006000700_000805000704000609_070000000005000000,
  0x000600080000000002_000000000300070006_090000000000000000_010003070000080009_000700050000000304_040006000009000700_070000000008050000_060000000100000000_000802000000000000,
  0x060003000008000000_000000020501000000_000001000603070908_080007030000020004_000005000007000600_000300000406000701_020008000300050000_000000000000000800_000004070800090006,
  0x010004090008060307_000609000000000000_000005010000000400_000100000903080204_080000070405000106_000000000102090000_000003020709000500_020701000800040900_000000000300070600,
  0x000000000900040600_000900000000030008_000400000800000700_090302040500080006_040600020100000000_000107000306000000_000800060200050000_010000050703000004_000000000400070000,
  0x050000000000000009_000007000400060805_000002000506000000_060800000201000300_020400070000000608_000001000005000204_000000000000000000_000000000003070500_010006000000080900,
  0x000604010009020800_020709000603000001_000108000205000000_060000090807000000_040002030106000008_070000050000000000_000000000001030405_000400020308060000_000300070000000100,
  0x000004000300020906_020108060009000007_000906070402050000_000809050001060000_000000030600080000_000000000907010002_000007020100040008_040001000000000205_080200000000000003,
  0x000800000503090200_000006000207010500_000705000400000800_050104000806070903_070009000005000002_080000000004000601_030000000000000100_010002050308000000_060000000900020300,
  0x000004010000030507_030100000805040209_090205040000060108_070509020008010000_000300000500090802_000000090106050003_000700030601080900_080903000000020600_000600080900000305,
  0x030700000500000000_000600000702000300_090800000000050700_060907000400000000_000200030000070004_000000000007060000_000003020000010009_000100000005040800_000006070109030500,
  0x070000000002000000_000402080000000700_090600000700020100_000000070000090200_000000050908000000_000700000601000003_020008000400000007_050000010006000300_000000000000000500,
  0x000007000000000201_030100020905080000_090002010700030600_020008000507000300_060704000003000900_050300090000060000_010603040802070509_070209050601040003_040800070300020106,
  0x030004000000090100_000200000000030000_000809000407000000_000000000800000001_000000050009000006_050901000700080000_090308010604020007_000100000000000000_040500090200000600,
  0x000509000000000300_000200000000070400_060107030402050908_000608000000090705_000005070000010003_070300000500000006_050000090001000000_030902000007080004_000700080204000000,
  0x080000000005030000_000000000000000000_000902000600000001_000300060002000500_040500000901000302_000100050008000400_000000030100060000_000400000000000008_060000000800000900,
  0x020309000100060005_050000080002000700_010000000000000002_000403000005000900_090700040001000003_060500000000080000_070906020500000000_000000000409000000_000000030000000008,
  0x030005060009020000_000001000207090003_000000000004080000_050008070006000902_000007000900050800_020900080001030400_000000090003070501_090104000005000300_000000000600000200,
  0x020000000105000400_040005080600000007_000003000000010500_000900000006070804_000800010000000000_030204000008000006_000402000309000000_000300050800000000_000000020407090001,
  0x030200000000050900_080000000000000000_060000040000000307_070300050006000000_000000080000000400_000900000100000803_000103000000000006_000000010700000509_000004000500020108,
  0x060008000005040000_000105000002000003_030000090801060000_080900010006050002_020403050000000008_000006020000000700_050001000000080400_040002000000000500_000300080000000006,
  0x010000000600000005_000009080000000200_040000000009000307_030001000400000006_000507000908000000_020400060100030000_090000050000070603_000000000000000900_000006000007000100,
  0x070001090300060208_000802000706010000_000609020008070304_000000030400000007_000705060201090000_000304080000020000_060900050804000002_010208070000040005_040003010902080000,
  0x000001050000000800_080009000106000700_000000080700000000_050000020900000000_000803000000000000_020007040800000001_000900010005060203_040200090008050107_000005000000000904,
  0x000001040000000607_040800000700000200_000000090003000800_000000070600020500_000007000000060000_060209080000000700_020300010000000906_000700020008050100_080000050000070002,
  0x040900000803050001_000006000704000803_000002010500000409_010200060000000708_060704080100030005_030000040207000900_020400000001000007_000000070408060100_000600000902000304,
  0x040801000000020005_030205000000080907_000609020508030100_090300010000040802_010000080003090500_000502040009070000_050000000302060409_020000090106000708_000907050804010000,
  0x050100070000000000_040700010005090206_080206030400000100_010807090000000602_000502000004010700_060004020701080009_000000050002000901_020001000908070005_030005060107020008,
  0x000006070302090100_000005010004000807_010000090805000000_000000000703000000_050200000109070608_070908020506010003_000007050900040001_020509000400000706_000100060207030509,
  0x000000040000050000_080600000007000002_000005000800000600_000000000009020705_090000010206030000_000004000000060100_030009080000000006_000208000005000000_050100090700000000,
  0x090005070801000203_000007060500000109_010400000000050000_000901030007000405_060002010409000000_070304000000010906_000000040703000000_040800020000060000_020709080100000000,
  0x000000080000000500_000904000000070300_080000000604000901_030006000100080000_000400000006010200_000105020700040003_000009000800030402_040807090203000106_000302060400000800,
  0x090008010300040207_010703000008000009_000006000005000000_000800060009000003_050301080400070900_000900070100000804_070609050800030002_080200000900010005_030005020604090000,
  0x030007060105090002_000502000004030000_060109020003050000_000806010700000003_000304050600000900_000201030000000700_000000040306080009_000003000200000605_000008000507000304,
  0x010800050906070304_000705000000000000_000000040207050001_090000060000080000_060408090000010503_000301000500000009_070109030005000600_080000070600030105_050603000001000900,
  0x000400000009060000_050307000406000000_090800020007030100_000609070108040503_040508060003000007_030000000205000000_060203090704050000_000005030601070002_000104000002000000,
  0x030005000200000409_020107000006000000_000000080005070002_080000000004000006_070306000000040901_000400060703050008_000003000000010800_090700000600020000_000000070501000600,
  0x000706000003000004_000008000104000007_090104070005000200_040903010000000508_060500000008000001_000800040500060000_030000000001000000_080405000007000000_000601050002000009,
  0x000009000000000508_000801000509040000_000000000800000003_000100000203080000_000000000900020005_000003000007060001_000004000605070009_000008030100050604_000500000000000002,
  0x060000050203000100_000805000000060000_070300080000040905_000008000700000509_000000000800010600_020501000009030000_000000000608000003_000000040500000006_050000000002070001,
  0x000000040000090308_040000080000000000_000700000100040000_000006000002030009_070000000006000005_000103000009000604_090500030008020000_030000000000050800_000000000504010900,
  0x040000050000000700_000007010003060000_000308000400000000_000000000000040600_030802000000000109_000406070200000000_000605000108000407_000000000004010000_000004060700000503,
  0x000007030000000004_020000070400030008_090003020608000105_000000000904000007_000700000006000901_000900050002040300_000001090003000002_070000040001050803_000302060000000000,
  0x060201000800070400_070305060002090001_080904010000000006_000007000003060004_050400020007000300_000006080000020709_090000040301050002_000502000906080100_010603050008040007,
  0x000000090800020001_020000030605090700_000008000100000406_080500000206000907_000907050308000100_000000000009000000_010800040003000000_000600080000010004_000000000901080000,
  0x090002010000080506_050408090000000007_070001000800040900_080004000205000600_000007030008050000_000200060400000108_040506000000000300_000009000300060800_010803020506000700,
  0x000700080500000201_020801000000090305_000400010009080607_050208070301000009_070000090408050002_000904050600000708_000100030900020800_080502060000000903_040309000000000006,
  0x000500000400020900_000003000002050600_000000000509000000_000007000000000005_020900000000030807_030000090005000000_000201000003040700_070000000200080000_050000000907010002,
  0x000501090003000000_070000040201000500_040309060000000008_000400050008000307_090700000002080000_050000000604000200_000007020400010806_060105000300040702_000200000700050003]
theorem mixed_31_ok : mixed_31.all fastOK = true := chunkOK_sound _ (by decide +kernel)

end Gen.SudokuDB
