/-
The trace `run` of the L1 `step` of LevelBasedForaging along an arbitrary sequence of joint actions, element by element:
step counts and where LAST occurs (C11).
-/
import JumanjiModel.Env.LBF.Lemmas
import JumanjiModel.Core.Play
namespace LBF
open Jm

theorem run_eq (cfg : Cfg) (s : State) (as : List (List Int)) : run cfg s as = EpRun.run (step cfg) s as :=
  EpRun.run_unique (step cfg) (run cfg) (fun _ => rfl) (fun _ _ _ => rfl) s as

theorem run_length (cfg : Cfg) (as : List (List Int)) (s : State) : (run cfg s as).length = as.length := by
  rw [run_eq, EpRun.run_length]

theorem run_getElem (cfg : Cfg) (as : List (List Int)) (s : State) (k : Nat) (h : k < (run cfg s as).length) :
    ∃ s' a, (run cfg s as)[k] = step cfg s' a ∧ s'.stepCount = s.stepCount + (k : Int) := by
  have hk : k < as.length := by rwa [run_length] at h
  refine ⟨EpRun.after (step cfg) s (as.take k), as[k], ?_, ?_⟩
  · exact Option.some.inj ((List.getElem?_eq_getElem h).symm.trans (run_eq cfg s as ▸ EpRun.run_get _ s as k hk))
  · exact EpRun.after_take_count (step cfg) (·.stepCount) (step_count cfg) s as (Nat.le_of_lt hk)

theorem run_stepCount (cfg : Cfg) (as : List (List Int)) (s : State) (k : Nat) (h : k < (run cfg s as).length) :
    ((run cfg s as)[k]).1.stepCount = s.stepCount + (k : Int) + 1 := by
  obtain ⟨s', a, h1, h2⟩ := run_getElem cfg as s k h
  rw [h1, step_count, h2]

theorem run_last_iff (cfg : Cfg) (as : List (List Int)) (s : State) (k : Nat) (h : k < (run cfg s as).length) :
    ((run cfg s as)[k]).2.stepType = .last ↔
      (((run cfg s as)[k]).1.foods.all (fun f => f.eaten) = true ∨ cfg.timeLimit ≤ s.stepCount + (k : Int) + 1) := by
  obtain ⟨s', a, h1, h2⟩ := run_getElem cfg as s k h
  rw [h1, last_iff, step_count, h2]

theorem run_mid_or_last (cfg : Cfg) (as : List (List Int)) (s : State) (k : Nat) (h : k < (run cfg s as).length) :
    ((run cfg s as)[k]).2.stepType = .mid ∨ ((run cfg s as)[k]).2.stepType = .last := by
  obtain ⟨s', a, h1, _⟩ := run_getElem cfg as s k h
  rw [h1, step_stepType]
  split
  · exact Or.inr rfl
  · exact Or.inl rfl

theorem mem_run (cfg : Cfg) (as : List (List Int)) (s : State) (r : State × TimeStep Obs) (h : r ∈ run cfg s as) :
    ∃ s' a, r = step cfg s' a :=
  EpRun.exists_of_mem_run (step cfg) s as r (run_eq cfg s as ▸ h)

end LBF
