/-
Reward of an agent that takes part in collecting nothing, in particular of an illegally acting one (C05), and the per-food
share against the rules (C08) for LevelBasedForaging.
-/
import JumanjiModel.Env.LBF.Lemmas
namespace LBF
open Jm

/-- what EVERY agent is charged for food `f` in a step: `penalty` (divided by the normaliser of that food when
rewards are normalised) if somebody tried to load `f` and the levels did not suffice, else nothing -/
def charge (cfg : Cfg) (A : List Agent) (T : Int) (f : Food) : Rat :=
  if failedAttempt A f then
    (if cfg.normalize then cfg.penalty / (((((loaders A f).map (·.level)).sum * T : Int)) : Rat) else cfg.penalty)
  else 0

theorem share_of_nonpart (cfg : Cfg) (A : List Agent) (T : Int) (f : Food) (a : Agent)
    (h : ¬ (collected A f ∧ takesPart f a = true)) :
    share cfg A T f a = - charge cfg A T f := by
  unfold share charge
  simp only [show (a.loading && decide (dist a.pos f.pos = 1)) = takesPart f a from rfl, if_neg h]
  by_cases hf : failedAttempt A f <;> cases cfg.normalize <;>
    simp [hf, Rat.div_def, Rat.sub_eq_add_neg, Rat.neg_mul, Rat.zero_add]

theorem rewardL2_getD (cfg : Cfg) (A : List Agent) (fs : List Food) (i : Nat) (hi : i < A.length) :
    (rewardL2 cfg A fs).getD i 0 = (fs.map (fun f => share cfg A (totalLevel fs) f A[i])).sum := by
  unfold rewardL2 totalLevel
  rw [Jx.getD_map_getElem _ _ hi]

/-- ANY agent that takes part in no food collected in the step is rewarded exactly minus the charges for the failed load
attempts of this step — whatever integers were played, one per agent: its share of every food is the charge alone
(`share_of_nonpart`) -/
theorem reward_of_nonpart (cfg : Cfg) (s : State) (hl : ∀ a ∈ s.agents, 1 ≤ a.level) (a : List Int)
    (hlen : a.length = s.agents.length) (i : Nat) (h : i < (step cfg s a).1.agents.length)
    (hnp : ∀ f ∈ s.foods, ¬ (collected (step cfg s a).1.agents f ∧ takesPart f (step cfg s a).1.agents[i] = true)) :
    ((step cfg s a).2.reward).getD i 0 =
      - ((s.foods.map (charge cfg (step cfg s a).1.agents (totalLevel s.foods))).sum) := by
  rw [step_reward_eq_rewardL2 cfg s hl _ hlen, rewardL2_getD _ _ _ _ h, ← sum_map_neg]
  exact congrArg List.sum (List.map_congr_left fun f hf => share_of_nonpart _ _ _ _ _ (hnp f hf))

/-- C05, any penalty: an agent whose action is illegal is such an agent (`illegal_takes_no_part`; its own illegal load is no
attempt: there is no food next to it), so its reward is minus the charges — never a gain -/
theorem illegal_reward_eq (cfg : Cfg) (s : State) (hw : WF s) (as : List Nat)
    (hlen : as.length = s.agents.length) (has : ∀ a ∈ as, a < 6) (i : Nat) (hi : i < s.agents.length)
    (hl : ¬ legal cfg.gridSize s i (as[i]'(by omega))) :
    ((step cfg s (as.map Int.ofNat)).2.reward).getD i 0 =
      - ((s.foods.map (charge cfg (step cfg s (as.map Int.ofNat)).1.agents (totalLevel s.foods))).sum) := by
  have hl' : (as.map Int.ofNat).length = s.agents.length := by rw [List.length_map, hlen]
  have h : i < (step cfg s (as.map Int.ofNat)).1.agents.length := by rw [step_agents_length cfg s _ hl']; exact hi
  refine reward_of_nonpart cfg s hw.agLv _ hl' i h fun f hf ⟨hc, hp⟩ => ?_
  rw [illegal_takes_no_part cfg s hw as hlen has i hi hl f hf hc.1 h] at hp
  cases hp

theorem charge_nonneg (cfg : Cfg) (hp : 0 ≤ cfg.penalty) (A : List Agent) (hA : ∀ a ∈ A, 1 ≤ a.level) (T : Int)
    (hT : 0 ≤ T) (f : Food) : 0 ≤ charge cfg A T f := by
  unfold charge
  split
  · split
    · rw [Rat.div_def]
      apply Rat.mul_nonneg hp
      apply rat_inv_nonneg
      have hL : 0 ≤ ((loaders A f).map (·.level)).sum := by
        apply Jx.sum_nonneg
        intro x hx
        obtain ⟨a, ha, rfl⟩ := List.mem_map.1 hx
        have := hA a (List.mem_filter.1 ha).1
        omega
      exact Rat.intCast_nonneg.2 (Int.mul_nonneg hL hT)
    · exact hp
  · exact Rat.le_refl

/-- C08, the per-food share of the rules, normalised, no penalty: a loading neighbour of a food collected in this step gets
`level_i · level_f / (Σ loaders' levels · T)`, everybody else nothing -/
theorem share_formula (cfg : Cfg) (hn : cfg.normalize = true) (hp : cfg.penalty = 0) (A : List Agent) (T : Int)
    (f : Food) (a : Agent) :
    share cfg A T f a =
      if collected A f ∧ a.loading = true ∧ dist a.pos f.pos = 1 then
        ((a.level * f.level : Int) : Rat) / (((((loaders A f).map (·.level)).sum * T : Int)) : Rat)
      else 0 := by
  unfold share
  simp only [hn, hp, if_true, ite_self, Bool.and_eq_true, decide_eq_true_eq]
  split
  · simp [Rat.sub_eq_add_neg, Rat.add_zero]
  · have : (0 : Rat) - 0 = 0 := by decide +kernel
    simp [Rat.div_def, this]

end LBF
