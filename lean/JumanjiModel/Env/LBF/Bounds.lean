/-
C01 for LevelBasedForaging: value bounds of every leaf of the observation (`agents_view`, `action_mask`,
`step_count`) as functions of the configuration, and the proof that the observation of every state satisfying the
invariant `BInv` lies within them.  The environment's `Cfg` does not carry `num_agents` / `max_agent_level`
(the generator's parameters); they are extra arguments `A L`.
-/
import JumanjiModel.Env.LBF.Lemmas
import JumanjiModel.Env.PuzzleBounds
namespace LBF
open Jm

/-- interval membership; `none` = unbounded on that side -/
def inIv (lo hi : Option Rat) (v : Rat) : Prop := (∀ l, lo = some l → l ≤ v) ∧ (∀ h, hi = some h → v ≤ h)

/-- all entries of `agents_view` -/
def viewInts : View → List Int
  | .vec v => v.flatten
  | .grid g => g.flatten.flatten.flatten

/-- the numeric leaves of an observation: dotted path of the leaf in the real observation_spec ↦ all its entries
(bool: 0/1) -/
def obsLeaves (o : Obs) : List (String × List Rat) :=
  [("agents_view", (viewInts o.view).map (fun (i : Int) => (i : Rat))),
   ("action_mask", o.mask.flatten.map (fun b => if b then 1 else 0)),
   ("step_count", [(o.stepCount : Rat)])]

/-- every entry of every leaf listed in `bs` lies within the interval `bs` gives for it -/
def ObsInBounds (bs : List (String × Option Rat × Option Rat)) (o : Obs) : Prop :=
  ∀ p ∈ obsLeaves o, ∀ b ∈ bs, b.1 = p.1 → ∀ v ∈ p.2, inIv b.2.1 b.2.2 v

/-- lower bound of `agents_view`: the vector observer reports invisible entities as `(-1, -1, 0)`, the grid
observer's layers (agent levels, food levels, 0/1 access flag) are non-negative -/
def viewLo (cfg : Cfg) : Int := if cfg.gridObs then 0 else -1

/-- upper bound of `agents_view` (`A` = number of agents, `L` = maximal agent level, so `A * L` = the
`max_food_level` of `observation_spec`).  Grid observer: a cell shows the level of the unique agent on it
(`≤ L`), the level of the unique uneaten food on it (`≤ A * L`) or the access flag (`≤ 1 ≤ L`).  Vector observer:
levels as before; the coordinates of a visible entity are relative to the window clipped to the grid, hence
`≤ min (2 fov) (gridSize - 1)`. -/
def viewHi (cfg : Cfg) (A L : Nat) : Int :=
  if cfg.gridObs then max ((A * L : Nat) : Int) (L : Int)
  else max ((A * L : Nat) : Int) (max (L : Int) (min (2 * (cfg.fov : Int)) ((cfg.gridSize : Int) - 1)))

def obsBounds (cfg : Cfg) (numAgents maxAgentLevel : Nat) : List (String × Option Rat × Option Rat) :=
  [("agents_view", some ((viewLo cfg : Int) : Rat), some ((viewHi cfg numAgents maxAgentLevel : Int) : Rat)),
   ("action_mask", some 0, some 1),
   ("step_count", some 0, some (cfg.timeLimit : Rat))]

def LevelsBounded (A L : Nat) (s : State) : Prop :=
  (∀ a ∈ s.agents, a.level ≤ (L : Int)) ∧ (∀ f ∈ s.foods, f.level ≤ ((A * L : Nat) : Int))
instance (A L : Nat) (s : State) : Decidable (LevelsBounded A L s) := by unfold LevelsBounded; infer_instance

def FoodsDistinct (s : State) : Prop := s.foods.Pairwise (fun a b => a.pos ≠ b.pos)
instance (s : State) : Decidable (FoodsDistinct s) := by unfold FoodsDistinct; infer_instance

/-- the invariant of the bounds theorems (C01): with `A` agents of level at most `L`, agent levels stay `≤ L`, food levels
`≤ A * L`, and no two foods share a cell -/
def BInv (cfg : Cfg) (A L : Nat) (s : State) : Prop :=
  Consistent cfg.gridSize s ∧ WF s ∧ LevelsBounded A L s ∧ FoodsDistinct s
instance (cfg : Cfg) (A L : Nat) (s : State) : Decidable (BInv cfg A L s) := by unfold BInv; infer_instance

/-- levels and food positions never change, so `step` keeps the invariant for every joint action with one integer per agent -/
theorem step_binv_any (cfg : Cfg) (A L : Nat) (s : State) (h : BInv cfg A L s) (a : List Int)
    (hlen : a.length = s.agents.length) : BInv cfg A L (step cfg s a).1 := by
  obtain ⟨hc, hw, ⟨hla, hlf⟩, hd⟩ := h
  obtain ⟨hc', hw'⟩ := step_consistent_any cfg s hc hw a hlen
  refine ⟨hc', hw', ⟨updateAgents_levels _ _ _ _ (· ≤ (L : Int)) hla,
    step_levels cfg s a (· ≤ ((A * L : Nat) : Int)) hlf⟩, ?_⟩
  unfold FoodsDistinct
  rw [step_foods, List.pairwise_map]
  exact hd

/-! The bounds are read off the documented views: under the invariant `observe cfg s = observeL2 cfg s`
(`observe_eq_observeL2`), so the scatters, gathers and windows of the observers need not be looked at again. -/

theorem rel_coord_bounds (fov g : Nat) (x y H : Int) (hx : x < g) (hy0 : 0 ≤ y) (hy : y < g)
    (hd : (x - y).natAbs ≤ fov) (hH : min (2 * (fov : Int)) ((g : Int) - 1) ≤ H) :
    -1 ≤ y - x + min (fov : Int) x ∧ y - x + min (fov : Int) x ≤ H := by
  omega

theorem entityTriple_bounds (fov g : Nat) (me p : Pos) (l H : Int) (vis : Prop) [Decidable vis]
    (hv : vis → inFov fov me p) (hme : inGrid g me) (hp : inGrid g p) (hl0 : 0 ≤ l) (hl : l ≤ H) (h0 : 0 ≤ H)
    (hH : min (2 * (fov : Int)) ((g : Int) - 1) ≤ H) : ∀ v ∈ entityTriple fov me vis p l, -1 ≤ v ∧ v ≤ H := by
  intro v hv'
  -- the documentation subtracts the clipped window origin, `rel_coord_bounds` is stated for the shift by `min fov me`
  have hshift : ∀ x m : Int, x - max 0 (m - (fov : Int)) = x - m + min (fov : Int) m := by intro x m; omega
  unfold entityTriple windowOrigin at hv'
  split at hv' <;> simp only [List.mem_cons, List.not_mem_nil, or_false] at hv'
  · rename_i h
    obtain ⟨c1, c2⟩ := hv h
    rcases hv' with rfl | rfl | rfl
    · rw [hshift]; exact rel_coord_bounds fov g _ _ H hme.2.1 hp.1 hp.2.1 c1 hH
    · rw [hshift]; exact rel_coord_bounds fov g _ _ H hme.2.2.2 hp.2.2.1 hp.2.2.2 c2 hH
    · exact ⟨by omega, hl⟩
  · omega

theorem vectorViewL2_bounds (g fov : Nat) (A L : Nat) (s : State) (hc : Consistent g s) (hw : WF s)
    (hl : LevelsBounded A L s) (i : Nat) (hi : i < s.agents.length) :
    ∀ v ∈ vectorViewL2 fov s i s.agents[i], -1 ≤ v ∧
      v ≤ max ((A * L : Nat) : Int) (max (L : Int) (min (2 * (fov : Int)) ((g : Int) - 1))) := by
  have hme := hc.agIn _ (List.getElem_mem hi)
  have hL : 1 ≤ (L : Int) := Int.le_trans (hw.agLv _ (List.getElem_mem hi)) (hl.1 _ (List.getElem_mem hi))
  generalize hH : max ((A * L : Nat) : Int) (max (L : Int) (min (2 * (fov : Int)) ((g : Int) - 1))) = H
  have hH1 : ((A * L : Nat) : Int) ≤ H ∧ (L : Int) ≤ H ∧ min (2 * (fov : Int)) ((g : Int) - 1) ≤ H :=
    hH ▸ ⟨Int.le_max_left _ _, Int.le_trans (Int.le_max_left _ _) (Int.le_max_right _ _),
      Int.le_trans (Int.le_max_right _ _) (Int.le_max_right _ _)⟩
  clear hH
  have hagent : ∀ o ∈ s.agents, ∀ v ∈ entityTriple fov s.agents[i].pos (inFov fov s.agents[i].pos o.pos) o.pos o.level,
      -1 ≤ v ∧ v ≤ H := fun o ho =>
    entityTriple_bounds fov g _ _ _ _ _ id hme (hc.agIn o ho) (Int.le_trans (by decide) (hw.agLv o ho))
      (Int.le_trans (hl.1 o ho) hH1.2.1) (by omega) hH1.2.2
  intro v hv
  unfold vectorViewL2 at hv
  simp only [List.mem_append, List.mem_flatten, List.mem_map] at hv
  rcases hv with (⟨t, ⟨f, hf, rfl⟩, hv⟩ | hv) | ⟨t, ⟨o, ho, rfl⟩, hv⟩
  · exact entityTriple_bounds fov g _ _ _ _ _ (·.1) hme (hc.foodIn f hf) (Int.le_trans (by decide) (hw.foodLv f hf))
      (Int.le_trans (hl.2 f hf) hH1.1) (by omega) hH1.2.2 v hv
  · exact hagent _ (List.getElem_mem hi) v hv
  · exact hagent o (List.mem_of_mem_eraseIdx ho) v hv

/-- a sum over the members that pass a test no two members pass is 0 or one of its terms -/
theorem sum_one_hot {α} (P : α → Bool) (v : α → Int) (M : Int) (hM : 0 ≤ M) (l : List α)
    (hb : ∀ x ∈ l, 0 ≤ v x ∧ v x ≤ M) (hp : l.Pairwise (fun a b => ¬ (P a = true ∧ P b = true))) :
    0 ≤ ((l.filter P).map v).sum ∧ ((l.filter P).map v).sum ≤ M := by
  rcases Jx.filter_exclusive P l hp with h | ⟨x, hx, h⟩ <;> rw [h]
  · exact ⟨Int.le_refl 0, hM⟩
  · have := hb x hx
    simp only [List.map_cons, List.map_nil, List.sum_cons, List.sum_nil]
    omega

theorem agentLevelAt_bounds (A L : Nat) (s : State) (hd : s.agents.Pairwise (fun a b => a.pos ≠ b.pos))
    (hlv : ∀ a ∈ s.agents, 1 ≤ a.level) (hl : LevelsBounded A L s) (p : Pos) :
    0 ≤ agentLevelAt s p ∧ agentLevelAt s p ≤ (L : Int) := by
  refine sum_one_hot _ _ _ (by omega) _ (fun a ha => ?_) (hd.imp fun hab h => ?_)
  · have h1 := hlv a ha
    have h2 := hl.1 a ha
    omega
  · simp only [decide_eq_true_eq] at h
    exact hab (h.1.trans h.2.symm)

theorem foodLevelAt_bounds (A L : Nat) (s : State) (hlv : ∀ f ∈ s.foods, 1 ≤ f.level)
    (hl : LevelsBounded A L s) (hd : FoodsDistinct s) (p : Pos) :
    0 ≤ foodLevelAt s p ∧ foodLevelAt s p ≤ ((A * L : Nat) : Int) := by
  refine sum_one_hot _ _ _ (by omega) _ (fun f hf => ?_) (List.Pairwise.imp (fun hab h => ?_) hd)
  · have h1 := hlv f hf
    have h2 := hl.2 f hf
    omega
  · simp only [Bool.and_eq_true, decide_eq_true_eq] at h
    exact hab (h.1.1.trans h.2.1.symm)

theorem gridViewL2_bounds (g fov : Nat) (A L : Nat) (s : State) (hc : Consistent g s) (hw : WF s)
    (hl : LevelsBounded A L s) (hd : FoodsDistinct s) (hL : 1 ≤ (L : Int)) (me : Pos) :
    ∀ v ∈ (gridViewL2 g fov s me).flatten.flatten, 0 ≤ v ∧ v ≤ max ((A * L : Nat) : Int) (L : Int) := by
  intro v hv
  have hH1 : ((A * L : Nat) : Int) ≤ max ((A * L : Nat) : Int) (L : Int) := Int.le_max_left _ _
  have hH2 : (L : Int) ≤ max ((A * L : Nat) : Int) (L : Int) := Int.le_max_right _ _
  generalize max ((A * L : Nat) : Int) (L : Int) = H at hH1 hH2 ⊢
  unfold gridViewL2 at hv
  simp only [List.mem_flatten, List.mem_cons, List.not_mem_nil, or_false] at hv
  obtain ⟨row, ⟨layer, hlayer, hrow⟩, hv⟩ := hv
  rcases hlayer with rfl | rfl | rfl <;> obtain ⟨dr, _, rfl⟩ := List.mem_map.1 hrow <;>
    obtain ⟨dc, _, rfl⟩ := List.mem_map.1 hv
  · have := agentLevelAt_bounds A L s hc.distinct hw.agLv hl (me.1 - fov + dr, me.2 - fov + dc)
    split <;> omega
  · have := foodLevelAt_bounds A L s hw.foodLv hl hd (me.1 - fov + dr, me.2 - fov + dc)
    split <;> omega
  · split <;> omega

theorem view_bounds (cfg : Cfg) (A L : Nat) (s : State) (h : BInv cfg A L s) :
    ∀ v ∈ viewInts (observe cfg s).view, viewLo cfg ≤ v ∧ v ≤ viewHi cfg A L := by
  obtain ⟨hc, hw, hl, hd⟩ := h
  rw [observe_eq_observeL2 cfg s hc hw]
  intro v hv
  unfold observeL2 at hv
  unfold viewLo viewHi
  cases hg : cfg.gridObs with
  | true =>
    simp only [hg, if_true, viewInts, List.mem_flatten, List.mem_map] at hv ⊢
    obtain ⟨r, ⟨l2, ⟨l3, ⟨a, ha, rfl⟩, h3⟩, h2⟩, h1⟩ := hv
    exact gridViewL2_bounds cfg.gridSize cfg.fov A L s hc hw hl hd (Int.le_trans (hw.agLv a ha) (hl.1 a ha)) a.pos v
      (List.mem_flatten.2 ⟨r, List.mem_flatten.2 ⟨l2, h3, h2⟩, h1⟩)
  | false =>
    simp only [hg, Bool.false_eq_true, if_false, viewInts, List.mem_flatten, List.mem_map, List.mem_range] at hv ⊢
    obtain ⟨t, ⟨i, hi, rfl⟩, hv⟩ := hv
    rw [Jx.getD_eq_getElem _ hi] at hv
    exact vectorViewL2_bounds cfg.gridSize cfg.fov A L s hc hw hl i hi v hv

theorem observe_in_bounds (cfg : Cfg) (A L : Nat) (s : State) (h : BInv cfg A L s)
    (h0 : 0 ≤ s.stepCount) (h1 : s.stepCount ≤ cfg.timeLimit) :
    ObsInBounds (obsBounds cfg A L) (observe cfg s) :=
  Jx.rel_of_aligned_fst (R := fun (b : Option Rat × Option Rat) vs => ∀ v ∈ vs, inIv b.1 b.2 v) rfl (by simp [obsLeaves]) <|
    Jx.all_cons (Jx.Iv.ints _ (view_bounds cfg A L s h)) <| Jx.all_cons (Jx.Iv.bools _) <|
    Jx.all_cons (Jx.Iv.one (lo := 0) h0 h1) Jx.all_nil

/-- the reset timestep of a state, e.g. of a generated one (`generate gc d`) -/
def resetTs (cfg : Cfg) (s : State) : TimeStep Obs := restart (observe cfg s) (some s.agents.length)

end LBF
