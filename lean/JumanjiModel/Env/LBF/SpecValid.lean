/-
LevelBasedForaging — C01 spec membership: the declared specs of BOTH observers as `Sp` values (`A` = num_agents,
`F` = num_food, `L` = max_agent_level are the generator's arguments, not part of `Cfg`) and the shapes of what the observers
emit.  The invariant `SpecInv` (= the bounds invariant `BInv` of Bounds.lean plus the entity counts and a non-negative counter)
is established by the generator for every valid draw and kept by every step with one integer per agent (in the action spec or
not, legal or not, MID or LAST); it makes the observations of `reset`, of every `step` and of whole episodes members.
-/
import JumanjiModel.Env.LBF.Bounds
import JumanjiModel.Env.LBF.Gen
import JumanjiModel.Env.SpecMembership
import JumanjiModel.Core.EpisodeLemmas
namespace LBF
open Jm Sp PzS PkS MaS

/-- `max_ob` / `max_level` of both observers: `max(max_food_level, max_agent_level, grid_size)` with
`max_food_level = num_agents * max_agent_level` -/
def specMax (cfg : Cfg) (A L : Nat) : Int := max (max ((A * L : Nat) : Int) (L : Int)) (cfg.gridSize : Int)

/-- `observation_spec`: `agents_view` BoundedArray((A, 3·(A + F)), int32, −1, max_ob) for the vector observer and
BoundedArray((A, 3, 2·fov + 1, 2·fov + 1), int32, 0, max_level) for the grid observer; `action_mask`
BoundedArray((A, 6), bool, False, True); `step_count` BoundedArray((), int32, 0, time_limit) -/
def obsSpec (cfg : Cfg) (A F L : Nat) : Sp.Nested :=
  [("agents_view",
      if cfg.gridObs then .bounded [A, 3, 2 * cfg.fov + 1, 2 * cfg.fov + 1] .int32 "agents_view" [] [((0 : Int) : Rat)] []
        [(specMax cfg A L : Rat)]
      else .bounded [A, 3 * (A + F)] .int32 "agents_view" [] [((-1 : Int) : Rat)] [] [(specMax cfg A L : Rat)]),
   ("action_mask", .bounded [A, 6] .bool "action_mask" [] [0] [] [1]),
   ("step_count", .bounded [] .int32 "step_count" [] [0] [] [(cfg.timeLimit : Rat)])]

/-- `action_spec`: MultiDiscreteArray([6] * A, int32) -/
def actionSpec (A : Nat) : Leaf := actionSpecN A 6

/-- `agents_view` as the array the implementation emits; the shape is READ OFF the value -/
def viewArr : View → Arr
  | .vec v => ⟨shape2 v, .int32, ofInts v.flatten⟩
  | .grid g => ⟨shape4 g, .int32, ofInts g.flatten.flatten.flatten⟩

def toNValue (o : Obs) : NValue :=
  [("agents_view", viewArr o.view),
   ("action_mask", ⟨shape2 o.mask, .bool, ofBools o.mask.flatten⟩),
   ("step_count", ⟨[], .int32, [(o.stepCount : Rat)]⟩)]

theorem viewArr_dtype (v : View) : (viewArr v).dtype = .int32 := by cases v <;> rfl
theorem viewArr_data (v : View) : (viewArr v).data = ofInts (viewInts v) := by cases v <;> rfl

theorem obs_valid_iff (cfg : Cfg) (A F L : Nat) (o : Obs) : (obsSpec cfg A F L).valid (toNValue o) = true ↔
    (viewArr o.view).shape = (if cfg.gridObs then [A, 3, 2 * cfg.fov + 1, 2 * cfg.fov + 1] else [A, 3 * (A + F)]) ∧
    (viewInts o.view).length =
      (if cfg.gridObs then A * 3 * (2 * cfg.fov + 1) * (2 * cfg.fov + 1) else A * (3 * (A + F))) ∧
    (∀ x ∈ viewInts o.view, (if cfg.gridObs then 0 else -1) ≤ x ∧ x ≤ specMax cfg A L) ∧
    shape2 o.mask = [A, 6] ∧ o.mask.flatten.length = A * 6 ∧ 0 ≤ o.stepCount ∧ o.stepCount ≤ cfg.timeLimit := by
  cases hg : cfg.gridObs <;>
    simp only [obsSpec, toNValue, hg, Bool.false_eq_true, if_false, if_true, valid_cons, valid_nil, valid_scalar_bounded_iff,
      viewArr_dtype, viewArr_data, forall_ofInts, forall_ofBools, ofInts_length, ofBools_length, prod_nil, prod_two, prod_four,
      List.forall_mem_singleton, List.length_singleton, Rat.intCast_nonneg, Rat.intCast_le_intCast, true_and, and_true,
      and_assoc]

theorem obs_valid_only (cfg : Cfg) (A F L : Nat) (o : Obs) (h : (obsSpec cfg A F L).valid (toNValue o) = true) :
    (viewArr o.view).shape = (if cfg.gridObs then [A, 3, 2 * cfg.fov + 1, 2 * cfg.fov + 1] else [A, 3 * (A + F)]) ∧
    (∀ x ∈ viewInts o.view, (if cfg.gridObs then 0 else -1) ≤ x ∧ x ≤ specMax cfg A L) ∧
    shape2 o.mask = [A, 6] ∧ o.mask.flatten.length = A * 6 ∧ 0 ≤ o.stepCount ∧ o.stepCount ≤ cfg.timeLimit :=
  have ⟨h1, _, h⟩ := (obs_valid_iff cfg A F L o).1 h
  ⟨h1, h⟩

theorem whereSize_length (cond : List Bool) (k : Nat) : (whereSize cond k).length = k := by
  simp [whereSize]

theorem flatten_map_len3 {α : Type} (l : List α) (f : α → List Int) (h : ∀ x ∈ l, (f x).length = 3) :
    (l.map f).flatten.length = l.length * 3 := by
  rw [Jx.Grid.flatten_length (g := l.map f) (nc := 3) (by intro r hr; obtain ⟨x, hx, rfl⟩ := List.mem_map.1 hr; exact h x hx)]
  simp

theorem pick_len3 (T : List (List Int)) (hT : ∀ t ∈ T, t.length = 3) (i : Int) : (Jx.getWC T [-1, -1, 0] i).length = 3 :=
  Jx.getWC_of_all (P := fun (t : List Int) => t.length = 3) i hT rfl

theorem vectorView_length (fov : Nat) (s : State) (ag : Agent) (hA : 0 < s.agents.length) :
    (vectorView fov s ag).length = 3 * (s.agents.length + s.foods.length) := by
  unfold vectorView
  simp only [List.length_append]
  rw [flatten_map_len3 s.foods _ (by intro f _; rfl), flatten_map_len3 _ _ (fun i _ => pick_len3 _ (by
      intro t ht; obtain ⟨o, _, rfl⟩ := List.mem_map.1 ht; rfl) _),
    flatten_map_len3 _ _ (fun i _ => pick_len3 _ (by
      intro t ht; obtain ⟨o, _, rfl⟩ := List.mem_map.1 ht; rfl) _), whereSize_length, whereSize_length]
  omega

theorem vecView_rect (fov : Nat) (s : State) (hA : 0 < s.agents.length) :
    Rect2 (s.agents.map (vectorView fov s)) s.agents.length (3 * (s.agents.length + s.foods.length)) := by
  refine ⟨by simp, ?_⟩
  intro r hr
  obtain ⟨ag, _, rfl⟩ := List.mem_map.1 hr
  exact vectorView_length fov s ag hA

theorem gridView_rect (g fov : Nat) (s : State) :
    Rect4 (gridView g fov s) s.agents.length 3 (2 * fov + 1) (2 * fov + 1) := by
  unfold gridView
  refine ⟨by simp, ?_⟩
  intro x hx
  obtain ⟨a, _, rfl⟩ := List.mem_map.1 hx
  refine ⟨rfl, ?_⟩
  intro y hy
  simp only [List.mem_cons, List.not_mem_nil, or_false] at hy
  rcases hy with rfl | rfl | rfl <;> exact rect2_of_shaped (Jx.Grid.shaped_table ..)

theorem masks_rect (g : Nat) (s : State) : Rect2 (masks g s) s.agents.length 6 := by
  refine ⟨by simp [masks], ?_⟩
  intro r hr
  simp only [masks, List.mem_map] at hr
  obtain ⟨ag, _, rfl⟩ := hr
  exact maskOf_length g s ag

/-- the bounds invariant `BInv` (Bounds.lean) together with the entity counts and a non-negative counter -/
def SpecInv (cfg : Cfg) (A F L : Nat) (s : State) : Prop :=
  BInv cfg A L s ∧ s.agents.length = A ∧ s.foods.length = F ∧ 0 ≤ s.stepCount

instance (cfg : Cfg) (A F L : Nat) (s : State) : Decidable (SpecInv cfg A F L s) := by unfold SpecInv; infer_instance

theorem step_foods_length (cfg : Cfg) (s : State) (a : List Int) : (step cfg s a).1.foods.length = s.foods.length := by
  rw [step_foods]; simp

theorem step_specInv (cfg : Cfg) (A F L : Nat) (s : State) (h : SpecInv cfg A F L s) (a : List Int)
    (hlen : a.length = A) : SpecInv cfg A F L (step cfg s a).1 := by
  obtain ⟨h1, h2, h3, h4⟩ := h
  refine ⟨step_binv_any cfg A L s h1 a (hlen.trans h2.symm), ?_, by rw [step_foods_length, h3], by rw [step_count]; omega⟩
  rw [step_agents_length cfg s a (hlen.trans h2.symm), h2]

theorem gen_specInv (cfg : Cfg) (gc : GenCfg) (L : Nat) (hg : cfg.gridSize = gc.gridSize) (hL : gc.maxAgentLevel = (L : Int))
    (d : GenDraw) (h : validDraw gc d = true) : SpecInv cfg gc.numAgents gc.numFood L (generate gc d) :=
  ⟨gen_binv cfg gc L hg hL d h, gen_agents_length gc d, gen_foods_length gc d, by rw [(gen_fresh_start gc d).1]; omega⟩

theorem viewHi_le_specMax (cfg : Cfg) (A L : Nat) : viewHi cfg A L ≤ specMax cfg A L := by
  unfold viewHi specMax
  split <;> omega

theorem observe_valid (cfg : Cfg) (A F L : Nat) (hA : 0 < A) (s : State) (h : SpecInv cfg A F L s)
    (hT : s.stepCount ≤ cfg.timeLimit) : (obsSpec cfg A F L).valid (toNValue (observe cfg s)) = true := by
  obtain ⟨h1, h2, h3, h4⟩ := h
  have hb := view_bounds cfg A L s h1
  have hhi := viewHi_le_specMax cfg A L
  have hm := shape2_of_rect (h2 ▸ masks_rect cfg.gridSize s) hA
  refine (obs_valid_iff cfg A F L _).2 ?_
  unfold observe viewLo at *
  cases hg : cfg.gridObs
  · have hr := shape2_of_rect (h3 ▸ h2 ▸ vecView_rect cfg.fov s (by omega)) hA
    simp only [hg, Bool.false_eq_true, if_false, viewInts, viewArr] at hb ⊢
    exact ⟨hr.1, hr.2, fun x hx => ⟨(hb x hx).1, Int.le_trans (hb x hx).2 hhi⟩, hm.1, hm.2, h4, hT⟩
  · have hr := shape4_of_rect (h2 ▸ gridView_rect cfg.gridSize cfg.fov s) hA (by omega) (by omega)
    simp only [hg, if_true, viewInts, viewArr] at hb ⊢
    exact ⟨hr.1, hr.2, fun x hx => ⟨(hb x hx).1, Int.le_trans (hb x hx).2 hhi⟩, hm.1, hm.2, h4, hT⟩

/-- C01: the `reset` observation built on ANY state with the invariant and counter 0 -/
theorem reset_obs_valid (cfg : Cfg) (A F L : Nat) (hA : 0 < A) (hT : 0 ≤ cfg.timeLimit) (s : State)
    (h : SpecInv cfg A F L s) (h0 : s.stepCount = 0) :
    (obsSpec cfg A F L).valid (toNValue (resetTs cfg s).obs) = true :=
  observe_valid cfg A F L hA s h (by omega)

/-- C01: the observation of EVERY step with one integer per agent (legal or not, MID or LAST) from a state with the invariant whose
counter has not reached the limit -/
theorem step_obs_valid (cfg : Cfg) (A F L : Nat) (hA : 0 < A) (s : State) (h : SpecInv cfg A F L s)
    (hlim : s.stepCount < cfg.timeLimit) (a : List Int) (hlen : a.length = A) :
    (obsSpec cfg A F L).valid (toNValue (step cfg s a).2.obs) = true := by
  rw [obs_faithful]
  exact observe_valid cfg A F L hA _ (step_specInv cfg A F L s h a hlen) (by rw [step_count]; omega)

/-- whole episodes: along the rollout of ANY joint actions with one entry (a natural number, in the action space or not) per
agent from a state with the invariant and counter 0, every observation emitted by one of the first `time_limit` steps is a
member of the spec (step `time_limit` is LAST: `lbf_episode_last_by_limit`) -/
theorem rollout_obs_valid (cfg : Cfg) (A F L : Nat) (hA : 0 < A) (s0 : State) (h : SpecInv cfg A F L s0)
    (h0 : s0.stepCount = 0) (as : List (List Nat)) (has : ∀ a ∈ as, a.length = A) (j : Nat)
    (hj : (j : Int) < cfg.timeLimit) (e : State × TimeStep Obs)
    (he : (Ep.rollout (fun s (a : List Nat) => step cfg s (a.map Int.ofNat)) s0 as)[j]? = some e) :
    (obsSpec cfg A F L).valid (toNValue e.2.obs) = true := by
  obtain ⟨s', a, hinv, ha, rfl⟩ := rollout_inv_idx (fun s (a : List Nat) => step cfg s (a.map Int.ofNat))
    (fun n s => SpecInv cfg A F L s ∧ s.stepCount = (n : Int)) (fun a => a.length = A)
    (fun n s a hh ha => ⟨step_specInv cfg A F L s hh.1 _ (by rw [List.length_map, ha]), by
      show (step cfg s (a.map Int.ofNat)).1.stepCount = ((n + 1 : Nat) : Int); rw [step_count, hh.2]; omega⟩) 0 s0
    ⟨h, by simpa using h0⟩ as has j e he
  exact step_obs_valid cfg A F L hA s' hinv.1 (by rw [hinv.2]; simpa using hj) _ (by rw [List.length_map, ha])

/-- reward and discount of EVERY step (any state with `A` agents, any list of integers as joint action): `A` rewards, `A`
discounts all 0 or all 1 -/
theorem step_reward_discount_valid (cfg : Cfg) (A : Nat) (s : State) (hl : s.agents.length = A) (a : List Int) :
    (rewardSpecN A).valid (vecArr (step cfg s a).2.reward) = true ∧
    (discountSpecN A).valid (vecArr (step cfg s a).2.discount) = true := by
  have hr : (step cfg s a).2.reward.length = A := by
    rw [step_reward]; simp [getReward, sumCols, hl]
  refine ⟨(reward_valid_iff _ _).2 hr, (discount_valid_iff _ _).2 ?_⟩
  rw [discount_eq, hl]
  split
  · refine ⟨by simp [zerosR, RShape.size], ?_⟩
    intro x hx; simp only [zerosR, List.mem_replicate] at hx; rw [hx.2]; exact ⟨by decide, by decide⟩
  · refine ⟨by simp [onesR, RShape.size], ?_⟩
    intro x hx; simp only [onesR, List.mem_replicate] at hx; rw [hx.2]; exact ⟨by decide, by decide⟩

/-- `action_spec.generate_value()` (the all-no-op joint action) is a member, and `step` answers it from every state with the
invariant with a non-FIRST timestep whose observation, reward and discount are members of their specs -/
theorem accepts_generate_value (cfg : Cfg) (A F L : Nat) (hA : 0 < A) (s : State) (h : SpecInv cfg A F L s)
    (hlim : s.stepCount < cfg.timeLimit) :
    (actionSpec A).WF = true ∧ (actionSpec A).valid (actionSpec A).generate = true ∧
    (actionSpec A).generate = actionArr ((List.replicate A 0).map Int.ofNat) ∧
    (obsSpec cfg A F L).valid (toNValue (step cfg s ((List.replicate A 0).map Int.ofNat)).2.obs) = true ∧
    (rewardSpecN A).valid (vecArr (step cfg s ((List.replicate A 0).map Int.ofNat)).2.reward) = true ∧
    (discountSpecN A).valid (vecArr (step cfg s ((List.replicate A 0).map Int.ofNat)).2.discount) = true ∧
    (step cfg s ((List.replicate A 0).map Int.ofNat)).2.stepType ≠ .first := by
  obtain ⟨w, v, g⟩ := actionSpecN_accepts_generate A 6 (by omega) (by omega)
  have rd := step_reward_discount_valid cfg A s h.2.1 ((List.replicate A 0).map Int.ofNat)
  refine ⟨w, v, by show (actionSpecN A 6).generate = _; rw [g]; simp, step_obs_valid cfg A F L hA s h hlim _ (by simp),
    rd.1, rd.2, ?_⟩
  rw [step_stepType]
  split <;> simp

end LBF
