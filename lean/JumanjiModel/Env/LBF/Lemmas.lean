/-
LevelBasedForaging: the L1 model (Model.lean) against its rules.  The fields of the timestep `step` returns; the mask table is
the table of legality (C04); the move phase agent by agent: for in-spec actions it is `movedL2` (C09), and EVERY joint action
with one integer per agent keeps states consistent (C07), also along whole plays (`play_induction`); an agent whose action is
illegal keeps its cell, id and level and takes part in collecting nothing (C05; its loading flag is still set by an illegal
LOAD); the normalised team reward telescopes (C08); rewards are the rule-level shares (C09); both observers compute the
documented views, for every `fov` (C12).  The property theorems are stated in Props/Env/LBF.lean.
-/
import JumanjiModel.Env.LBF.Model
import JumanjiModel.Prim.ListLemmas
import JumanjiModel.Prim.GridLemmas
import JumanjiModel.Core.TimeStepLemmas

namespace LBF
open Jm

theorem Consistent.agIn {g : Nat} {s : State} (h : Consistent g s) : ∀ a ∈ s.agents, inGrid g a.pos := h.1

theorem Consistent.foodIn {g : Nat} {s : State} (h : Consistent g s) : ∀ f ∈ s.foods, inGrid g f.pos := h.2.1

theorem Consistent.distinct {g : Nat} {s : State} (h : Consistent g s) :
    s.agents.Pairwise (fun a b => a.pos ≠ b.pos) := h.2.2.1

theorem Consistent.offFood {g : Nat} {s : State} (h : Consistent g s) : ∀ a ∈ s.agents, ¬ uneatenFoodAt s a.pos :=
  h.2.2.2

theorem WF.ids {s : State} (h : WF s) : ∀ i, ∀ hi : i < s.agents.length, s.agents[i].id = (i : Int) := h.1

theorem WF.agLv {s : State} (h : WF s) : ∀ a ∈ s.agents, 1 ≤ a.level := h.2.1

theorem WF.foodLv {s : State} (h : WF s) : ∀ f ∈ s.foods, 1 ≤ f.level := h.2.2

/-- a count of hits, as `compute_action_mask` takes it for LOAD, is positive iff there is a hit: the count is the length of
the filtered list -/
theorem sum_ind_pos {α} (p : α → Bool) (l : List α) :
    (l.map (fun x => if p x then (1 : Int) else 0)).sum > 0 ↔ ∃ x ∈ l, p x = true := by
  rw [Jx.sum_map_ite_filter, Jx.sum_map_const, Int.mul_one]
  simp only [gt_iff_lt, Int.natCast_pos, List.length_pos_iff, ne_eq, List.filter_eq_nil_iff, Classical.not_forall,
    Classical.not_not, exists_prop]

/-- the test of `flag_duplicates` (`count ≠ 1`) as "occurs at another index too" -/
theorem count_ne_one_iff {α} [BEq α] [LawfulBEq α] (l : List α) (i : Nat) (hi : i < l.length) :
    (l.count l[i] != 1) = true ↔ ∃ u ∈ l.eraseIdx i, u = l[i] := by
  have hsplit : l = l.take i ++ l[i] :: l.drop (i + 1) := by
    rw [← List.drop_eq_getElem_cons hi, List.take_append_drop]
  generalize hv : l[i] = v at hsplit ⊢
  have hc : l.count v = (l.eraseIdx i).count v + 1 := by
    rw [List.eraseIdx_eq_take_drop_succ]
    conv => lhs; rw [hsplit]
    simp [List.count_append]
    omega
  rw [hc]
  simp only [bne_iff_ne, ne_eq, Nat.add_eq_right]
  rw [List.count_eq_zero]
  constructor
  · intro h; exact ⟨v, Classical.not_not.1 h, rfl⟩
  · rintro ⟨u, hu, rfl⟩; exact fun h => h hu

theorem sum_map_zero {α} (l : List α) : (l.map (fun _ => (0 : Rat))).sum = 0 := by
  induction l with
  | nil => rfl
  | cons x xs ih => simp only [List.map_cons, List.sum_cons, ih]; grind

theorem sum_map_sub_int {α} (f g : α → Int) : ∀ (l : List α),
    (l.map (fun i => f i - g i)).sum = (l.map f).sum - (l.map g).sum := by
  intro l
  induction l with
  | nil => simp
  | cons x xs ih => simp only [List.map_cons, List.sum_cons, ih]; omega

theorem sum_map_div (T : Rat) : ∀ (l : List Int), (l.map (fun (x : Int) => (x : Rat) / T)).sum = ((l.sum : Int) : Rat) / T := by
  intro l
  induction l with
  | nil => simp [Rat.div_def]
  | cons x xs ih =>
    simp only [List.map_cons, List.sum_cons, ih]
    rw [Rat.div_def, Rat.div_def, Rat.div_def, ← Rat.add_mul, ← Rat.intCast_add]

theorem sum_map_scaled (a b : Int) (d : Rat) : ∀ (l : List Int),
    (l.map (fun x => ((x * a * b : Int) : Rat) / d)).sum = ((l.sum * a * b : Int) : Rat) / d := by
  intro l
  induction l with
  | nil => simp [Rat.div_def]
  | cons x xs ih =>
    simp only [List.map_cons, List.sum_cons, ih]
    rw [Rat.div_def, Rat.div_def, Rat.div_def, ← Rat.add_mul, ← Rat.intCast_add]
    congr 2
    grind

theorem sum_le_length_mul (L : Int) (l : List Int) (h : ∀ x ∈ l, x ≤ L) : l.sum ≤ (l.length : Int) * L := by
  have := Jx.sum_map_le l (fun _ => L) id h
  rwa [Jx.sum_map_const, List.map_id] at this

theorem length_le_sum (l : List Int) (h : ∀ x ∈ l, 1 ≤ x) : (l.length : Int) ≤ l.sum := by
  have := Jx.sum_map_le l id (fun _ => 1) h
  rwa [Jx.sum_map_const, List.map_id, Int.mul_one] at this

theorem sum_map_neg {α} (f : α → Rat) : ∀ (l : List α), (l.map (fun x => - f x)).sum = - (l.map f).sum := by
  intro l
  induction l with
  | nil => simp
  | cons x xs ih => simp only [List.map_cons, List.sum_cons, ih, Rat.neg_add]

theorem rat_inv_nonneg (x : Rat) (h : 0 ≤ x) : 0 ≤ x⁻¹ := by
  by_cases h0 : x = 0
  · rw [h0]; simp
  · have : 0 < x := by
      rcases Rat.le_iff_lt_or_eq.1 h with h | h
      · exact h
      · exact absurd h.symm h0
    exact Rat.le_of_lt (Rat.inv_pos.2 this)

theorem sum_nonneg_rat : ∀ (l : List Rat), (∀ x ∈ l, 0 ≤ x) → 0 ≤ l.sum := by
  intro l
  induction l with
  | nil => intro _; simp
  | cons x xs ih =>
    intro h
    simp only [List.sum_cons]
    exact Rat.add_nonneg (h x (by simp)) (ih (fun y hy => h y (by simp [hy])))

theorem map_eraseIdx {α β} (f : α → β) (l : List α) (i : Nat) : (l.eraseIdx i).map f = (l.map f).eraseIdx i := by
  simp only [List.eraseIdx_eq_take_drop_succ, List.map_append, List.map_take, List.map_drop]

theorem filter_eq_single : ∀ (n i : Nat), i < n → (List.range n).filter (fun j => decide (j = i)) = [i] := by
  intro n
  induction n with
  | zero => intro i h; omega
  | succ n ih =>
    intro i h
    rw [List.range_succ, List.filter_append]
    by_cases hin : i = n
    · subst hin
      have : (List.range i).filter (fun j => decide (j = i)) = [] := by
        rw [List.filter_eq_nil_iff]; intro a ha; simp at ha ⊢; omega
      rw [this]; simp
    · rw [ih i (by omega)]
      simp; omega

theorem filter_ne_map_getD {α} (d : α) : ∀ (l : List α) (i : Nat),
    ((List.range l.length).filter (fun j => decide (j ≠ i))).map (fun j => l.getD j d) = l.eraseIdx i := by
  intro l
  induction l with
  | nil => intro i; simp
  | cons x xs ih =>
    intro i
    rw [List.length_cons, List.range_succ_eq_map]
    cases i with
    | zero =>
      simp [List.filter_map, Function.comp_def]
      have := Jx.range_map_getD xs d
      rw [List.filter_eq_self.2 (fun _ _ => rfl)]
      simpa [List.getD_eq_getElem?_getD] using this
    | succ i' =>
      simp [List.filter_map, Function.comp_def]
      have := ih i'
      simpa [List.getD_eq_getElem?_getD] using this

/-- `jnp.where(c, size=1)` as gather index where `c` holds at `i` only: the `i`-th entry -/
theorem gather_where_eq {α} (T : List α) (d : α) (cond : List Bool) (n i : Nat) (hl : cond.length = n)
    (hT : T.length = n) (hi : i < n) (h : ∀ j (hj : j < cond.length), cond[j] = decide (j = i)) :
    (whereSize cond 1).map (fun (j : Nat) => Jx.getWC T d (j : Int)) = [T[i]] := by
  have hc : ∀ j ∈ List.range cond.length, cond.getD j false = decide (j = i) := fun j hj => by
    rw [Jx.getD_eq_getElem _ (List.mem_range.1 hj)]; exact h j _
  subst hT
  unfold whereSize
  rw [List.filter_congr hc, filter_eq_single _ _ (hl ▸ hi)]
  show [Jx.getWC T d (i : Int)] = _
  rw [Jx.getWC_nat T d hi, Jx.getD_eq_getElem]

/-- `jnp.where(c, size=n-1)` as gather indices where `c` holds everywhere but at `i`: all other entries, in order -/
theorem gather_where_ne {α} (T : List α) (d : α) (cond : List Bool) (n i : Nat) (hl : cond.length = n)
    (hT : T.length = n) (hi : i < n) (h : ∀ j (hj : j < cond.length), cond[j] = decide (j ≠ i)) :
    (whereSize cond (n - 1)).map (fun (j : Nat) => Jx.getWC T d (j : Int)) = T.eraseIdx i := by
  have hc : ∀ j ∈ List.range cond.length, cond.getD j false = decide (j ≠ i) := fun j hj => by
    rw [Jx.getD_eq_getElem _ (List.mem_range.1 hj)]; exact h j _
  subst hT
  have hF := filter_ne_map_getD d T i
  have hFlen : ((List.range T.length).filter (fun j => decide (j ≠ i))).length = T.length - 1 := by
    have := congrArg List.length hF
    rw [List.length_map, List.length_eraseIdx, if_pos hi] at this
    exact this
  unfold whereSize
  rw [List.filter_congr hc, hl, List.take_left' hFlen, ← hF]
  apply List.map_congr_left
  intro j hj
  exact Jx.getWC_nat T d (List.mem_range.1 (List.mem_filter.1 hj).1)

/-! ### the timestep `step` returns, field by field (C11, C12) -/

theorem obs_faithful (cfg : Cfg) (s : State) (a : List Int) :
    (step cfg s a).2.obs = observe cfg (step cfg s a).1 := switch3_obs ..

theorem step_count (cfg : Cfg) (s : State) (a : List Int) :
    (step cfg s a).1.stepCount = s.stepCount + 1 := rfl

theorem step_reward (cfg : Cfg) (s : State) (a : List Int) :
    (step cfg s a).2.reward =
      getReward cfg s.agents.length (s.foods.map (eatFood (updateAgents cfg.gridSize s.agents s.foods a))) :=
  switch3_reward ..

theorem step_stepType (cfg : Cfg) (s : State) (a : List Int) :
    (step cfg s a).2.stepType =
      if (step cfg s a).1.foods.all (fun f => f.eaten) = true ∨ cfg.timeLimit ≤ (step cfg s a).1.stepCount
      then .last else .mid := by
  refine (switch3_stepType ..).trans ?_
  simp only [decide_eq_true_eq, ge_iff_le]
  rfl

theorem last_iff (cfg : Cfg) (s : State) (a : List Int) :
    (step cfg s a).2.stepType = .last ↔
      ((step cfg s a).1.foods.all (fun f => f.eaten) = true ∨ cfg.timeLimit ≤ (step cfg s a).1.stepCount) := by
  rw [step_stepType]
  constructor
  · intro h
    split at h
    · assumption
    · cases h
  · intro h; rw [if_pos h]

/-- discount: zero exactly when all food is collected (truncation at the time limit keeps discount one) -/
theorem discount_eq (cfg : Cfg) (s : State) (a : List Int) :
    (step cfg s a).2.discount =
      if (step cfg s a).1.foods.all (fun f => f.eaten) = true then zerosR (some s.agents.length)
      else onesR (some s.agents.length) := switch3_discount ..

theorem step_foods (cfg : Cfg) (s : State) (a : List Int) :
    (step cfg s a).1.foods = s.foods.map (fun f => (eatFood (updateAgents cfg.gridSize s.agents s.foods a) f).1) :=
  List.map_map ..

theorem mem_step_foods (cfg : Cfg) (s : State) (a : List Int) (f' : Food) (h : f' ∈ (step cfg s a).1.foods) :
    ∃ f ∈ s.foods, f'.pos = f.pos ∧ f'.level = f.level ∧ (f'.eaten = false → f.eaten = false) := by
  rw [step_foods] at h
  obtain ⟨f, hf, rfl⟩ := List.mem_map.1 h
  exact ⟨f, hf, rfl, rfl, fun he => (Bool.or_eq_false_iff.1 he).2⟩

theorem step_levels (cfg : Cfg) (s : State) (a : List Int) (P : Int → Prop) (h : ∀ f ∈ s.foods, P f.level) :
    ∀ f ∈ (step cfg s a).1.foods, P f.level := by
  intro f' hf'
  obtain ⟨f, hf, _, hl, _⟩ := mem_step_foods cfg s a f' hf'
  rw [hl]; exact h f hf

/-! ### C04: mask = legal -/

theorem legal_iff (g : Nat) (s : State) (i : Nat) (hi : i < s.agents.length) (a : Nat) :
    legal g s i a ↔ legalFor g s i s.agents[i] a := by
  unfold legal; rw [List.getElem?_eq_getElem hi]

theorem oob_false_iff (g : Nat) (p : Pos) : oob g p = false ↔ inGrid g p := by
  unfold oob inGrid; simp; omega

theorem foodAt_iff (s : State) (p : Pos) : foodAt s.foods p = true ↔ uneatenFoodAt s p := by
  unfold foodAt uneatenFoodAt
  simp only [List.any_eq_true, Bool.and_eq_true, decide_eq_true_eq, Bool.not_eq_true']
  constructor
  · rintro ⟨f, hf, h1, h2⟩; exact ⟨f, hf, h1.symm, h2⟩
  · rintro ⟨f, hf, h1, h2⟩; exact ⟨f, hf, h1.symm, h2⟩

theorem agentAt_iff (s : State) (hids : ∀ i, ∀ h : i < s.agents.length, s.agents[i].id = (i : Int)) (i : Nat)
    (hi : i < s.agents.length) (p : Pos) :
    agentAt s.agents (s.agents[i]).id p = true ↔ otherAgentAt s i p := by
  unfold agentAt otherAgentAt
  simp only [List.any_eq_true, Bool.and_eq_true, decide_eq_true_eq]
  constructor
  · rintro ⟨o, ho, h1, h2⟩
    obtain ⟨j, hj, rfl⟩ := List.getElem_of_mem ho
    refine ⟨s.agents[j], ?_, h1.symm⟩
    rw [List.mem_eraseIdx_iff_getElem]
    refine ⟨j, hj, ?_, rfl⟩
    intro hji; subst hji; exact h2 rfl
  · rintro ⟨o, ho, h1⟩
    rw [List.mem_eraseIdx_iff_getElem] at ho
    obtain ⟨j, hj, hne, rfl⟩ := ho
    refine ⟨s.agents[j], List.getElem_mem hj, h1.symm, ?_⟩
    rw [hids i hi, hids j hj]; omega

theorem adjacent_iff (p q : Pos) : adjacent p q = true ↔ dist p q = 1 := by
  unfold adjacent dist; simp

theorem dist_comm (p q : Pos) : dist p q = dist q p := by
  unfold dist
  rw [← Int.natAbs_neg (p.1 - q.1), ← Int.natAbs_neg (p.2 - q.2), Int.neg_sub, Int.neg_sub]

theorem numAdj_pos_iff (s : State) (ag : Agent) :
    (s.foods.map (fun f => if adjacent f.pos ag.pos && !f.eaten then (1 : Int) else 0)).sum > 0 ↔
      ∃ f ∈ s.foods, f.eaten = false ∧ dist f.pos ag.pos = 1 := by
  rw [sum_ind_pos (fun f : Food => adjacent f.pos ag.pos && !f.eaten)]
  simp only [Bool.and_eq_true, adjacent_iff, Bool.not_eq_true']
  constructor
  · rintro ⟨f, hf, h1, h2⟩; exact ⟨f, hf, h2, h1⟩
  · rintro ⟨f, hf, h1, h2⟩; exact ⟨f, hf, h2, h1⟩

theorem agents_pos_ne (s : State) (hd : s.agents.Pairwise (fun a b => a.pos ≠ b.pos)) (i j : Nat)
    (hi : i < s.agents.length) (hj : j < s.agents.length) (hne : i ≠ j) : s.agents[i].pos ≠ s.agents[j].pos := by
  have h3 := List.pairwise_iff_getElem.1 hd
  rcases Nat.lt_or_gt_of_ne hne with h | h
  · exact h3 i j hi hj h
  · exact fun e => h3 j i hj hi h e.symm

theorem not_other_iff (s : State) (i : Nat) (q : Pos) :
    ¬ otherAgentAt s i q ↔ ∀ j (hj : j < s.agents.length), j ≠ i → s.agents[j].pos ≠ q := by
  unfold otherAgentAt
  constructor
  · intro h j hj hne hq
    exact h ⟨s.agents[j], (List.mem_eraseIdx_iff_getElem).2 ⟨j, hj, hne, rfl⟩, hq⟩
  · rintro h ⟨o, ho, hq⟩
    obtain ⟨j, hj, hne, rfl⟩ := (List.mem_eraseIdx_iff_getElem).1 ho
    exact h j hj hne hq

theorem own_cell_free (g : Nat) (s : State) (hc : Consistent g s) (i : Nat) (hi : i < s.agents.length) :
    freeCell g s i (s.agents[i]).pos :=
  ⟨hc.agIn _ (List.getElem_mem hi), (not_other_iff s i _).2 (fun j hj hne => agents_pos_ne s hc.distinct j i hj hi hne),
    hc.offFood _ (List.getElem_mem hi)⟩

/-- the cell test of `compute_action_mask` -/
theorem cellTest_iff (g : Nat) (s : State) (hw : WF s) (i : Nat) (hi : i < s.agents.length) (p : Pos) :
    (!(foodAt s.foods p || agentAt s.agents (s.agents[i]).id p || oob g p)) = true ↔ freeCell g s i p := by
  unfold freeCell
  rw [← oob_false_iff, ← foodAt_iff, ← agentAt_iff s hw.ids i hi]
  cases foodAt s.foods p <;> cases agentAt s.agents (s.agents[i]).id p <;> cases oob g p <;> simp

/-- the cell test of `simulate_agent_movement` -/
theorem moveTest_iff (g : Nat) (s : State) (hw : WF s) (i : Nat) (hi : i < s.agents.length) (p : Pos) :
    (oob g p || (agentAt s.agents (s.agents[i]).id p || foodAt s.foods p)) = true ↔ ¬ freeCell g s i p := by
  rw [← cellTest_iff g s hw i hi]
  cases foodAt s.foods p <;> cases agentAt s.agents (s.agents[i]).id p <;> cases oob g p <;> simp

theorem addP_zero (p : Pos) : addP p (0, 0) = p := by unfold addP; simp

theorem dir_of_not_move (a : Nat) (h : ¬ (1 ≤ a ∧ a ≤ 4)) : dir a = (0, 0) := by
  match a with
  | 0 => rfl
  | 1 | 2 | 3 | 4 => omega
  | _ + 5 => rfl

/-- entry `a` of the row `compute_action_mask` computes for `ag`: the cell test in the direction of the action, and for
LOAD also an uneaten food next to the agent -/
def maskEntry (g : Nat) (s : State) (ag : Agent) (a : Nat) : Bool :=
  (a != 5 || decide ((s.foods.map (fun f => if adjacent f.pos ag.pos && !f.eaten then (1 : Int) else 0)).sum > 0)) &&
    !(foodAt s.foods (addP ag.pos (dir a)) || agentAt s.agents ag.id (addP ag.pos (dir a)) || oob g (addP ag.pos (dir a)))

theorem maskOf_eq (g : Nat) (s : State) (ag : Agent) : maskOf g s ag = (List.range 6).map (maskEntry g s ag) := by
  unfold maskOf maskEntry
  simp only [MOVES, List.map_cons, List.map_nil]
  generalize (s.foods.map (fun f => if adjacent f.pos ag.pos && !f.eaten then (1 : Int) else 0)).sum = n
  by_cases hn : n > 0
  · rw [if_pos hn, decide_eq_true hn]; rfl
  · rw [if_neg hn, decide_eq_false hn]; rfl

theorem maskOf_length (g : Nat) (s : State) (ag : Agent) : (maskOf g s ag).length = 6 := by
  rw [maskOf_eq, List.length_map, List.length_range]

theorem maskEntry_iff (g : Nat) (s : State) (hc : Consistent g s) (hw : WF s) (i : Nat) (hi : i < s.agents.length)
    (a : Nat) (ha : a < 6) : maskEntry g s s.agents[i] a = true ↔ legal g s i a := by
  rw [legal_iff g s i hi]
  unfold legalFor maskEntry
  rw [Bool.and_eq_true, cellTest_iff g s hw i hi, Bool.or_eq_true, decide_eq_true_eq, numAdj_pos_iff, bne_iff_ne]
  by_cases hm : 1 ≤ a ∧ a ≤ 4
  · exact ⟨fun h => Or.inr (Or.inl ⟨hm.1, hm.2, h.2⟩),
      fun h => h.elim (by omega) fun h => h.elim (fun h => ⟨Or.inl (by omega), h.2.2⟩) (by omega)⟩
  · -- NOOP and LOAD test the agent's own cell, which is free in a consistent state
    have hown := own_cell_free g s hc i hi
    rw [dir_of_not_move a hm, addP_zero]
    rcases (by omega : a = 0 ∨ a = 5) with rfl | rfl
    · exact ⟨fun _ => Or.inl rfl, fun _ => ⟨Or.inl (by omega), hown⟩⟩
    · exact ⟨fun h => Or.inr (Or.inr ⟨rfl, h.1.resolve_left (absurd rfl)⟩),
        fun h => h.elim (by omega) fun h => h.elim (by omega) fun h => ⟨Or.inr h.2, hown⟩⟩

theorem mask_iff_legal (g : Nat) (s : State) (hc : Consistent g s) (hw : WF s) (i : Nat)
    (hi : i < s.agents.length) (a : Nat) :
    (maskOf g s (s.agents[i])).getD a false = true ↔ legal g s i a := by
  rw [maskOf_eq]
  by_cases ha : a < 6
  · rw [Jx.getD_range_map _ _ ha]
    exact maskEntry_iff g s hc hw i hi a ha
  · rw [List.getD_eq_getElem?_getD, List.getElem?_eq_none (by simp; omega), legal_iff g s i hi]
    exact ⟨fun h => (by cases h), fun h => (by unfold legalFor at h; omega)⟩

theorem masks_eq_legalMask (g : Nat) (s : State) (hc : Consistent g s) (hw : WF s) : masks g s = legalMask g s :=
  Jx.Grid.eq_table_decide
    ((Jx.Grid.shaped_iff_mem ..).2 ⟨List.length_map _, fun _ hrow => by
      obtain ⟨ag, _, rfl⟩ := List.mem_map.1 hrow
      exact maskOf_length g s ag⟩)
    fun i hi a _ => by
      rw [Jx.Grid.get_eq, masks, Jx.getD_map_getElem _ [] hi]
      exact mask_iff_legal g s hc hw i hi a

/-! ### movement: L1 pieces against the rules (C09), illegal moves (C05) -/

theorem getWC_moves (a : Nat) (ha : a < 6) : Jx.getWC MOVES (0, 0) (a : Int) = dir a := by
  match a, ha with
  | 0, _ | 1, _ | 2, _ | 3, _ | 4, _ | 5, _ => rfl

theorem movedPositions_length (g : Nat) (agents : List Agent) (foods : List Food) (actions : List Int)
    (hl : actions.length = agents.length) : (movedPositions g agents foods actions).length = agents.length := by
  simp [movedPositions, hl]

theorem updateAgents_length (g : Nat) (agents : List Agent) (foods : List Food) (actions : List Int)
    (hl : actions.length = agents.length) : (updateAgents g agents foods actions).length = agents.length := by
  simp [updateAgents, movedPositions, hl]

theorem movedPositions_getElem (g : Nat) (agents : List Agent) (foods : List Food) (actions : List Int) (i : Nat)
    (h : i < (movedPositions g agents foods actions).length) (hi : i < agents.length) (ha : i < actions.length) :
    (movedPositions g agents foods actions)[i] = simulateMove g agents foods agents[i] actions[i] := by
  simp only [movedPositions, List.getElem_zipWith]

theorem updateAgents_getElem (g : Nat) (agents : List Agent) (foods : List Food) (actions : List Int) (i : Nat)
    (h : i < (updateAgents g agents foods actions).length) (hi : i < agents.length) (ha : i < actions.length)
    (hm : i < (movedPositions g agents foods actions).length) :
    (updateAgents g agents foods actions)[i] =
      { agents[i] with
        pos := if ∃ u ∈ (movedPositions g agents foods actions).eraseIdx i, u = (movedPositions g agents foods actions)[i]
               then agents[i].pos else (movedPositions g agents foods actions)[i],
        loading := decide (actions[i] = 5) } := by
  simp only [updateAgents, List.getElem_zipWith, List.getElem_zip, count_ne_one_iff _ i hm]

theorem step_agents_length (cfg : Cfg) (s : State) (a : List Int) (hlen : a.length = s.agents.length) :
    (step cfg s a).1.agents.length = s.agents.length := updateAgents_length _ _ _ _ hlen

theorem updateAgents_levels (g : Nat) (agents : List Agent) (foods : List Food) (actions : List Int)
    (P : Int → Prop) (h : ∀ a ∈ agents, P a.level) : ∀ a ∈ updateAgents g agents foods actions, P a.level := by
  intro a ha
  obtain ⟨i, hi, rfl⟩ := List.getElem_of_mem ha
  simp only [updateAgents, List.getElem_zipWith]
  exact h _ (List.getElem_mem _)

theorem simulateMove_free (g : Nat) (s : State) (hc : Consistent g s) (hw : WF s) (i : Nat) (hi : i < s.agents.length)
    (a : Int) : freeCell g s i (simulateMove g s.agents s.foods s.agents[i] a) := by
  unfold simulateMove
  simp only []
  split
  · exact own_cell_free g s hc i hi
  · rename_i h
    exact Classical.not_not.1 fun hf => h ((moveTest_iff g s hw i hi _).2 hf)

theorem simulateMove_eq_target (g : Nat) (s : State) (hw : WF s) (i : Nat) (hi : i < s.agents.length)
    (a : Nat) (ha : a < 6) :
    simulateMove g s.agents s.foods s.agents[i] (a : Int) = target g s i s.agents[i] a := by
  unfold simulateMove target
  simp only [getWC_moves a ha]
  by_cases hm : 1 ≤ a ∧ a ≤ 4
  · have hb := moveTest_iff g s hw i hi (addP s.agents[i].pos (dir a))
    by_cases hf : freeCell g s i (addP s.agents[i].pos (dir a))
    · rw [if_neg (fun h => hb.1 h hf), if_pos ⟨hm.1, hm.2, hf⟩]
    · rw [if_pos (hb.2 hf), if_neg (fun h : _ ∧ _ ∧ _ => hf h.2.2)]
  · rw [if_neg (fun h : 1 ≤ a ∧ a ≤ 4 ∧ _ => hm ⟨h.1, h.2.1⟩), dir_of_not_move a hm, addP_zero, ite_self]

theorem target_of_illegal (g : Nat) (s : State) (i : Nat) (hi : i < s.agents.length) (a : Nat)
    (hl : ¬ legal g s i a) : target g s i s.agents[i] a = s.agents[i].pos :=
  if_neg (fun h => hl ((legal_iff g s i hi a).2 (Or.inr (Or.inl h))))

theorem targets_length (g : Nat) (s : State) (as : List Nat) : (targets g s as).length = s.agents.length := by
  simp [targets]

theorem targets_getElem (g : Nat) (s : State) (as : List Nat) (i : Nat) (h : i < (targets g s as).length)
    (hi : i < s.agents.length) (hia : i < as.length) :
    (targets g s as)[i] = target g s i s.agents[i] as[i] := by
  simp only [targets, List.getElem_map, List.getElem_range, Jx.getD_eq_getElem _ hi, Jx.getD_eq_getElem _ hia]

theorem movedPositions_eq_targets (g : Nat) (s : State) (hw : WF s) (as : List Nat)
    (hlen : as.length = s.agents.length) (has : ∀ a ∈ as, a < 6) :
    movedPositions g s.agents s.foods (as.map Int.ofNat) = targets g s as := by
  apply List.ext_getElem
  · rw [movedPositions_length _ _ _ _ (by simp [hlen]), targets_length]
  · intro i h1 h2
    have hi : i < s.agents.length := by rw [targets_length] at h2; exact h2
    rw [targets_getElem g s as i h2 hi (by omega)]
    simp only [movedPositions, List.getElem_zipWith, List.getElem_map]
    exact simulateMove_eq_target g s hw i hi _ (has _ (List.getElem_mem _))

theorem movedL2_length (g : Nat) (s : State) (as : List Nat) : (movedL2 g s as).length = s.agents.length := by
  simp [movedL2]

theorem movedL2_getElem (g : Nat) (s : State) (as : List Nat) (i : Nat) (h : i < (movedL2 g s as).length)
    (hi : i < s.agents.length) (hia : i < as.length) :
    (movedL2 g s as)[i] =
      { s.agents[i] with
        pos := if ∃ u ∈ (targets g s as).eraseIdx i, u = (targets g s as)[i]'(by rw [targets_length]; exact hi)
               then s.agents[i].pos else (targets g s as)[i]'(by rw [targets_length]; exact hi),
        loading := decide (as[i] = 5) } := by
  simp only [movedL2, List.getElem_map, List.getElem_range, Jx.getD_eq_getElem _ hi, Jx.getD_eq_getElem _ hia,
    Jx.getD_eq_getElem _ (show i < (targets g s as).length by rw [targets_length]; exact hi)]

/-- move phase: vmapped movement + `fix_collisions` + loading flag = "enter the target unless somebody else
has the same target" -/
theorem updateAgents_eq_movedL2 (g : Nat) (s : State) (hw : WF s) (as : List Nat)
    (hlen : as.length = s.agents.length) (has : ∀ a ∈ as, a < 6) :
    updateAgents g s.agents s.foods (as.map Int.ofNat) = movedL2 g s as := by
  apply List.ext_getElem
  · rw [updateAgents_length _ _ _ _ (by simp [hlen]), movedL2_length]
  · intro i h1 h2
    have hi : i < s.agents.length := by rw [movedL2_length] at h2; exact h2
    have hit : i < (targets g s as).length := by rw [targets_length]; exact hi
    rw [movedL2_getElem g s as i h2 hi (by omega)]
    simp only [updateAgents, List.getElem_zipWith, List.getElem_zip, List.getElem_map,
      movedPositions_eq_targets g s hw as hlen has, count_ne_one_iff _ i hit]
    congr 1
    exact decide_eq_decide.2 (Int.ofNat_inj (n := 5))

theorem step_agents (cfg : Cfg) (s : State) (hw : WF s) (as : List Nat) (hlen : as.length = s.agents.length)
    (has : ∀ a ∈ as, a < 6) : (step cfg s (as.map Int.ofNat)).1.agents = movedL2 cfg.gridSize s as :=
  updateAgents_eq_movedL2 cfg.gridSize s hw as hlen has

theorem step_agent (cfg : Cfg) (s : State) (hw : WF s) (as : List Nat) (hlen : as.length = s.agents.length)
    (has : ∀ a ∈ as, a < 6) (i : Nat) (hi : i < s.agents.length) :
    ∃ h : i < (step cfg s (as.map Int.ofNat)).1.agents.length,
      (step cfg s (as.map Int.ofNat)).1.agents[i] =
        { s.agents[i] with
          pos := if ∃ u ∈ (targets cfg.gridSize s as).eraseIdx i, u = target cfg.gridSize s i s.agents[i] (as[i]'(by omega))
                 then s.agents[i].pos else target cfg.gridSize s i s.agents[i] (as[i]'(by omega)),
          loading := decide (as[i]'(by omega) = 5) } := by
  have hA := step_agents cfg s hw as hlen has
  have h : i < (step cfg s (as.map Int.ofNat)).1.agents.length := by rw [hA, movedL2_length]; exact hi
  refine ⟨h, ?_⟩
  simp only [hA, movedL2_getElem _ s as i _ hi (by omega), targets_getElem _ s as i _ hi (by omega)]

theorem addP_dir_ne (p : Pos) {a : Nat} (h1 : 1 ≤ a) (h4 : a ≤ 4) : addP p (dir a) ≠ p := by
  have : a = 1 ∨ a = 2 ∨ a = 3 ∨ a = 4 := by omega
  intro h
  have h1 := congrArg Prod.fst h
  have h2 := congrArg Prod.snd h
  rcases this with rfl | rfl | rfl | rfl <;> simp [addP, dir] at h1 h2 <;> omega

theorem step_moves_iff_legal (cfg : Cfg) (s : State) (hw : WF s) (as : List Nat)
    (hlen : as.length = s.agents.length) (has : ∀ a ∈ as, a < 6) (i : Nat) (hi : i < s.agents.length)
    (hm : 1 ≤ as[i]'(by omega) ∧ as[i]'(by omega) ≤ 4) :
    ∃ h : i < (step cfg s (as.map Int.ofNat)).1.agents.length,
      (((step cfg s (as.map Int.ofNat)).1.agents[i]).pos = addP s.agents[i].pos (dir (as[i]'(by omega))) ↔
        (legal cfg.gridSize s i (as[i]'(by omega)) ∧
         ¬ ∃ u ∈ (targets cfg.gridSize s as).eraseIdx i, u = addP s.agents[i].pos (dir (as[i]'(by omega))))) := by
  have hia : i < as.length := by omega
  obtain ⟨h, e⟩ := step_agent cfg s hw as hlen has i hi
  refine ⟨h, ?_⟩
  have hne := addP_dir_ne s.agents[i].pos hm.1 hm.2
  -- for a move action, legal = the neighbouring cell is free = that cell is the target
  have hleg : legal cfg.gridSize s i as[i] ↔ freeCell cfg.gridSize s i (addP s.agents[i].pos (dir as[i])) := by
    rw [legal_iff _ s i hi]
    constructor
    · rintro (h | h | h)
      · omega
      · exact h.2.2
      · omega
    · exact fun h => Or.inr (Or.inl ⟨hm.1, hm.2, h⟩)
  rw [congrArg Agent.pos e, hleg]
  by_cases hf : freeCell cfg.gridSize s i (addP s.agents[i].pos (dir as[i]))
  · rw [show target cfg.gridSize s i s.agents[i] as[i] = addP s.agents[i].pos (dir as[i]) from if_pos ⟨hm.1, hm.2, hf⟩]
    split
    · exact ⟨fun h => absurd h.symm hne, fun h => absurd ‹_› h.2⟩
    · exact ⟨fun _ => ⟨hf, ‹_›⟩, fun _ => rfl⟩
  · rw [show target cfg.gridSize s i s.agents[i] as[i] = s.agents[i].pos from if_neg fun h => hf h.2.2, ite_self]
    exact ⟨fun h => absurd h.symm hne, fun h => absurd h.1 hf⟩

/-- agent `a` loads next to food `f`: the test of `loaders` and `share`, and together with `!f.eaten` that of
`get_adjacent_levels` -/
def takesPart (f : Food) (a : Agent) : Bool := a.loading && decide (dist a.pos f.pos = 1)

theorem adjLevels_eq (A : List Agent) (f : Food) :
    adjLevels A f = A.map (fun a => if takesPart f a && !f.eaten then a.level else 0) := by
  unfold adjLevels takesPart
  apply List.map_congr_left
  intro a _
  rw [show adjacent a.pos f.pos = decide (dist a.pos f.pos = 1) from rfl, Bool.and_comm (decide _)]

/-- an agent whose action is illegal takes part in collecting no uneaten food: it stays where it is, and if its action is
LOAD there is no uneaten food next to it -/
theorem illegal_takes_no_part (cfg : Cfg) (s : State) (hw : WF s) (as : List Nat) (hlen : as.length = s.agents.length)
    (has : ∀ a ∈ as, a < 6) (i : Nat) (hi : i < s.agents.length) (hl : ¬ legal cfg.gridSize s i (as[i]'(by omega)))
    (f : Food) (hf : f ∈ s.foods) (he : f.eaten = false) (h : i < (step cfg s (as.map Int.ofNat)).1.agents.length) :
    takesPart f (step cfg s (as.map Int.ofNat)).1.agents[i] = false := by
  obtain ⟨_, e⟩ := step_agent cfg s hw as hlen has i hi
  rw [e, target_of_illegal _ s i hi _ hl, ite_self]
  refine Bool.eq_false_iff.2 fun hp => ?_
  simp only [takesPart, Bool.and_eq_true, decide_eq_true_eq] at hp
  exact hl ((legal_iff _ s i hi _).2 (Or.inr (Or.inr ⟨hp.1, f, hf, he, by rw [dist_comm]; exact hp.2⟩)))

/-! ### C07: consistency is preserved by every joint action -/

/-- `fix_collisions` on abstract lists: reverting everybody whose moved cell is somebody else's too keeps the cells pairwise
distinct, provided nobody's moved cell is another agent's OLD cell (`hm`) -/
theorem fix_distinct {α β} [DecidableEq α] (f : β → α) (l : List β) (m : List α) (hl : m.length = l.length)
    (hp : ∀ i j (hi : i < l.length) (hj : j < l.length), i ≠ j → f l[i] ≠ f l[j])
    (hm : ∀ i j (hi : i < l.length) (hj : j < l.length), i ≠ j → f l[j] ≠ m[i]'(hl ▸ hi))
    (i j : Nat) (hi : i < l.length) (hj : j < l.length) (hij : i ≠ j) :
    (if ∃ u ∈ m.eraseIdx i, u = m[i]'(hl ▸ hi) then f l[i] else m[i]'(hl ▸ hi)) ≠
      (if ∃ u ∈ m.eraseIdx j, u = m[j]'(hl ▸ hj) then f l[j] else m[j]'(hl ▸ hj)) := by
  split <;> split
  · exact hp i j hi hj hij
  · exact fun h => hm j i hj hi (Ne.symm hij) h
  · exact fun h => hm i j hi hj hij h.symm
  · rename_i hj'
    exact fun h => hj' ⟨_, List.mem_eraseIdx_iff_getElem.2 ⟨i, hl ▸ hi, hij, rfl⟩, h⟩

/-- EVERY joint action with one integer per agent (in the action spec or not) keeps the state consistent and well-formed.
Nothing of the rules is needed: each agent ends on its own cell or on the cell `simulate_agent_movement` gave it, both free
for it, and `fix_distinct` does the rest. -/
theorem step_consistent_any (cfg : Cfg) (s : State) (hc : Consistent cfg.gridSize s) (hw : WF s) (a : List Int)
    (hlen : a.length = s.agents.length) :
    Consistent cfg.gridSize (step cfg s a).1 ∧ WF (step cfg s a).1 := by
  have hM := movedPositions_length cfg.gridSize s.agents s.foods a hlen
  have hn : (step cfg s a).1.agents.length = s.agents.length := step_agents_length cfg s a hlen
  have hfree : ∀ i (hi : i < s.agents.length),
      freeCell cfg.gridSize s i ((movedPositions cfg.gridSize s.agents s.foods a)[i]'(hM ▸ hi)) := by
    intro i hi
    rw [movedPositions_getElem _ _ _ _ i _ hi (hlen ▸ hi)]
    exact simulateMove_free _ s hc hw i hi _
  have hA : ∀ i (h : i < (step cfg s a).1.agents.length), (step cfg s a).1.agents[i] = _ :=
    fun i h => updateAgents_getElem cfg.gridSize s.agents s.foods a i h (hn ▸ h) (by omega) (by omega)
  -- the new cell of agent `i` (its old cell or the simulated one) is free for it in the OLD state
  have hcell : ∀ i (h : i < (step cfg s a).1.agents.length),
      freeCell cfg.gridSize s i (step cfg s a).1.agents[i].pos := by
    intro i h
    rw [hA i h]
    show freeCell _ s i (if _ then _ else _)
    split
    · exact own_cell_free _ s hc i (hn ▸ h)
    · exact hfree i (hn ▸ h)
  refine ⟨⟨?_, ?_, ?_, ?_⟩, ?_, ?_, ?_⟩
  · intro b hb
    obtain ⟨i, hi, rfl⟩ := List.getElem_of_mem hb
    exact (hcell i hi).1
  · intro f' hf'
    obtain ⟨f, hf, hp, _⟩ := mem_step_foods cfg s _ f' hf'
    rw [hp]; exact hc.foodIn f hf
  · rw [List.pairwise_iff_getElem]
    intro i j hi hj hij
    rw [hA i hi, hA j hj]
    exact fix_distinct (·.pos) s.agents _ hM (fun i j hi hj => agents_pos_ne s hc.distinct i j hi hj)
      (fun i j hi hj hne => (not_other_iff s i _).1 (hfree i hi).2.1 j hj (Ne.symm hne)) i j (hn ▸ hi) (hn ▸ hj) (by omega)
  · rintro b hb ⟨f', hf', hp, he⟩
    obtain ⟨i, hi, rfl⟩ := List.getElem_of_mem hb
    obtain ⟨f, hf, hp', _, he'⟩ := mem_step_foods cfg s _ f' hf'
    exact (hcell i hi).2.2 ⟨f, hf, hp' ▸ hp, he' he⟩
  · intro i hi
    rw [hA i hi]
    exact hw.ids i (hn ▸ hi)
  · exact updateAgents_levels _ _ _ _ (1 ≤ ·) hw.agLv
  · exact step_levels cfg s a (1 ≤ ·) hw.foodLv

theorem step_consistent (cfg : Cfg) (s : State) (hc : Consistent cfg.gridSize s) (hw : WF s) (as : List Nat)
    (hlen : as.length = s.agents.length) (has : ∀ a ∈ as, a < 6) :
    Consistent cfg.gridSize (step cfg s (as.map Int.ofNat)).1 ∧ WF (step cfg s (as.map Int.ofNat)).1 :=
  step_consistent_any cfg s hc hw _ (by rw [List.length_map, hlen])

/-! ### C08: the normalised team reward of a step is the collected share of the total food level -/

def eatenLevel (fs : List Food) : Int := (fs.map (fun f => if f.eaten then f.level else 0)).sum
def totalLevel (fs : List Food) : Int := (fs.map (·.level)).sum

/-- `eat_food` changes no level: the normaliser `get_reward` computes from its output is the total level before the step -/
theorem eats_totalLevel (A : List Agent) (fs : List Food) :
    ((fs.map (eatFood A)).map (fun e => e.1.level)).sum = totalLevel fs := by
  rw [List.map_map]; rfl

/-- the newly collected level of one food -/
def gain (agents : List Agent) (f : Food) : Int :=
  (if (eatFood agents f).1.eaten then f.level else 0) - (if f.eaten then f.level else 0)

theorem adjLevels_eaten (agents : List Agent) (f : Food) (h : f.eaten = true) :
    (adjLevels agents f).sum = 0 := by
  rw [adjLevels_eq]
  simp only [h, Bool.not_true, Bool.and_false, Bool.false_eq_true, if_false]
  rw [Jx.sum_map_const, Int.mul_zero]

theorem food_reward_sum (cfg : Cfg) (hn : cfg.normalize = true) (hp : cfg.penalty = 0) (T : Int) (hT : T ≠ 0)
    (agents : List Agent) (f : Food) (hf : 1 ≤ f.level) :
    (rewardPerFood cfg T (eatFood agents f)).sum = ((gain agents f : Int) : Rat) / (T : Rat) := by
  have hS : f.eaten = true → (adjLevels agents f).sum = 0 := adjLevels_eaten agents f
  simp only [rewardPerFood, gain, eatFood, hn, hp, if_true, ite_self, Rat.sub_eq_add_neg, Rat.neg_zero, Rat.add_zero,
    sum_map_scaled]
  have hTR : (T : Rat) ≠ 0 := by exact_mod_cast hT
  by_cases hnow : (adjLevels agents f).sum ≥ f.level
  · -- collected now: the loaders' levels cancel
    have he : f.eaten = false := by
      cases he : f.eaten
      · rfl
      · have := hS he; omega
    have hsR : ((adjLevels agents f).sum : Rat) ≠ 0 := by exact_mod_cast (by omega : (adjLevels agents f).sum ≠ 0)
    simp [hnow, he, Rat.intCast_mul]
    grind
  · simp [hnow, Rat.div_def]

theorem sumCols_sum (n : Nat) : ∀ (rows : List (List Rat)), (∀ r ∈ rows, r.length = n) →
    (sumCols n rows).sum = (rows.map List.sum).sum := by
  intro rows
  induction rows with
  | nil => intro _; simp [sumCols, sum_map_zero]
  | cons r rs ih =>
    intro h
    have hr : r.length = n := h r (List.mem_cons_self)
    have ih' := ih (fun r' hr' => h r' (List.mem_cons_of_mem _ hr'))
    simp only [sumCols, List.map_cons, List.sum_cons] at ih' ⊢
    rw [Jx.sum_map_add _ (fun i => r.getD i 0) (fun i => (rs.map (fun r => r.getD i 0)).sum), ih', ← hr, Jx.range_map_getD r 0]

/-- C08, one step: with normalisation and no penalty, the rewards of all agents add up to the food level
collected in this step divided by the total food level -/
theorem step_team_reward (cfg : Cfg) (hn : cfg.normalize = true) (hp : cfg.penalty = 0) (s : State)
    (hlv : ∀ f ∈ s.foods, 1 ≤ f.level) (hT : totalLevel s.foods ≠ 0) (a : List Int)
    (hlen : a.length = s.agents.length) :
    ((step cfg s a).2.reward).sum =
      ((eatenLevel (step cfg s a).1.foods - eatenLevel s.foods : Int) : Rat) / ((totalLevel s.foods : Int) : Rat) := by
  rw [step_reward, step_foods]
  have hA := updateAgents_length cfg.gridSize s.agents s.foods a hlen
  generalize updateAgents cfg.gridSize s.agents s.foods a = A at hA ⊢
  unfold getReward
  simp only [eats_totalLevel]
  rw [sumCols_sum]
  · simp only [List.map_map, Function.comp_def]
    have : ∀ f ∈ s.foods, (rewardPerFood cfg (totalLevel s.foods) (eatFood A f)).sum =
        ((gain A f : Int) : Rat) / ((totalLevel s.foods : Int) : Rat) :=
      fun f hf => food_reward_sum cfg hn hp _ hT A f (hlv f hf)
    rw [List.map_congr_left this]
    have h2 := sum_map_div ((totalLevel s.foods : Int) : Rat) (s.foods.map (gain A))
    simp only [List.map_map, Function.comp_def] at h2
    rw [h2]
    congr 2
    unfold gain eatenLevel
    rw [sum_map_sub_int]
    simp [List.map_map, Function.comp_def, eatFood]
  · intro r hr
    simp only [List.map_map, List.mem_map, Function.comp] at hr
    obtain ⟨f, _, rfl⟩ := hr
    simp [rewardPerFood, eatFood, adjLevels, hA]

/-! ### C08: whole episodes -/

/-- sum over all agents and all steps of the rewards along a sequence of joint actions -/
def teamReturn (cfg : Cfg) : State → List (List Int) → Rat
  | _, [] => 0
  | s, a :: as => ((step cfg s a).2.reward).sum + teamReturn cfg (step cfg s a).1 as

/-- the state after the whole sequence.  `teamReturn`, `finalState` and `run` (below) are this directory's own plays; only
`run` is tied to `EpRun.run` (Episode.lean) -/
def finalState (cfg : Cfg) : State → List (List Int) → State
  | s, [] => s
  | s, a :: as => finalState cfg (step cfg s a).1 as

theorem step_totalLevel (cfg : Cfg) (s : State) (a : List Int) :
    totalLevel (step cfg s a).1.foods = totalLevel s.foods := by
  show (((s.foods.map (eatFood _)).map (fun e => e.1)).map (·.level)).sum = _
  rw [List.map_map]
  exact eats_totalLevel _ _

theorem team_return (cfg : Cfg) (hn : cfg.normalize = true) (hp : cfg.penalty = 0) :
    ∀ (as : List (List Int)) (s : State), (∀ f ∈ s.foods, 1 ≤ f.level) → totalLevel s.foods ≠ 0 →
      (∀ a ∈ as, a.length = s.agents.length) →
      teamReturn cfg s as =
        ((eatenLevel (finalState cfg s as).foods - eatenLevel s.foods : Int) : Rat) / ((totalLevel s.foods : Int) : Rat) := by
  intro as
  induction as with
  | nil => intro s _ _ _; simp [teamReturn, finalState, Rat.div_def]
  | cons a as ih =>
    intro s hlv hT hlen
    have hla : a.length = s.agents.length := hlen a (List.mem_cons_self)
    have ih' := ih (step cfg s a).1 (step_levels cfg s a (1 ≤ ·) hlv) (by rw [step_totalLevel]; exact hT)
      (fun b hb => by rw [step_agents_length cfg s a hla]; exact hlen b (List.mem_cons_of_mem _ hb))
    simp only [teamReturn, finalState]
    rw [ih', step_team_reward cfg hn hp s hlv hT a hla, step_totalLevel]
    rw [Rat.div_def, Rat.div_def, Rat.div_def, ← Rat.add_mul, ← Rat.intCast_add]
    congr 2
    omega

theorem eatenLevel_all (fs : List Food) (h : fs.all (fun f => f.eaten) = true) : eatenLevel fs = totalLevel fs := by
  unfold eatenLevel totalLevel
  rw [Jx.sum_map_ite_filter, List.filter_eq_self.2 (List.all_eq_true.1 h)]

theorem eatenLevel_none (fs : List Food) (h : ∀ f ∈ fs, f.eaten = false) : eatenLevel fs = 0 := by
  unfold eatenLevel
  rw [Jx.sum_map_ite_filter, List.filter_eq_nil_iff.2 fun f hf => by rw [h f hf]; exact Bool.false_ne_true]
  rfl

theorem finalState_totalLevel (cfg : Cfg) : ∀ (as : List (List Int)) (s : State),
    totalLevel (finalState cfg s as).foods = totalLevel s.foods := by
  intro as
  induction as with
  | nil => intro s; rfl
  | cons a as ih => intro s; simp only [finalState]; rw [ih, step_totalLevel]

/-! ### C09: the transliterated step equals the rule-level step -/

theorem adj_sum_eq (A : List Agent) (f : Food) :
    (adjLevels A f).sum = if f.eaten then 0 else ((loaders A f).map (·.level)).sum := by
  cases he : f.eaten
  · rw [adjLevels_eq]
    simp only [he, Bool.not_false, Bool.and_true, Bool.false_eq_true, if_false]
    exact Jx.sum_map_ite_filter (takesPart f) (·.level) A
  · exact adjLevels_eaten A f he

theorem eatFood_eq (A : List Agent) (f : Food) (hf : 1 ≤ f.level) :
    (eatFood A f).1 = { f with eaten := f.eaten || decide (collected A f) } ∧
    ((eatFood A f).2.1 = true ↔ collected A f) := by
  cases he : f.eaten
  · simp [eatFood, collected, adj_sum_eq, he]
  · simp [eatFood, collected, adj_sum_eq, he]; omega

theorem loaders_sum_pos (A : List Agent) (hA : ∀ a ∈ A, 1 ≤ a.level) (f : Food) :
    ((loaders A f).map (·.level)).sum ≠ 0 ↔ loaders A f ≠ [] := by
  constructor
  · intro h he; rw [he] at h; simp at h
  · intro h
    have h1 := length_le_sum ((loaders A f).map (·.level)) fun x hx => by
      obtain ⟨a, ha, rfl⟩ := List.mem_map.1 hx
      exact hA a (List.mem_filter.1 ha).1
    have h2 := List.length_pos_iff.2 h
    rw [List.length_map] at h1
    omega

theorem adjLevels_getElem (A : List Agent) (f : Food) (i : Nat) (h : i < (adjLevels A f).length) (hi : i < A.length) :
    (adjLevels A f)[i] = if takesPart f A[i] && !f.eaten then A[i].level else 0 := by
  simp only [adjLevels_eq, List.getElem_map]

theorem reward_entry_eq (cfg : Cfg) (T : Int) (A : List Agent) (hA : ∀ a ∈ A, 1 ≤ a.level) (f : Food)
    (i : Nat) (hi : i < A.length) :
    (rewardPerFood cfg T (eatFood A f)).getD i 0 = share cfg A T f A[i] := by
  have hi' : i < (adjLevels A f).length := by simp [adjLevels, hi]
  simp only [rewardPerFood, share]
  rw [Jx.getD_map_getElem _ _ (show i < (eatFood A f).2.2.length from hi')]
  -- both sides in terms of the loaders' level sum, `f.eaten` and "agent `i` is a loader"
  simp only [eatFood, adjLevels_getElem A f i hi' hi, adj_sum_eq, collected, failedAttempt, ← loaders_sum_pos A hA f,
    takesPart]
  rcases Bool.eq_false_or_eq_true f.eaten with he | he
  · simp [he, Rat.div_def]; split <;> grind
  · by_cases hc : ((loaders A f).map (·.level)).sum ≥ f.level <;>
      by_cases hp : (A[i].loading && decide (dist A[i].pos f.pos = 1)) = true <;> simp [he, hc, hp]

theorem getReward_eq_rewardL2 (cfg : Cfg) (A : List Agent) (hA : ∀ a ∈ A, 1 ≤ a.level) (fs : List Food) :
    getReward cfg A.length (fs.map (eatFood A)) = rewardL2 cfg A fs := by
  unfold getReward rewardL2 sumCols
  simp only [eats_totalLevel, totalLevel]
  apply List.ext_getElem
  · simp
  · intro i h1 h2
    have hi : i < A.length := by simpa using h1
    simp only [List.getElem_map, List.getElem_range, List.map_map, Function.comp_def]
    congr 1
    apply List.map_congr_left
    intro f _
    exact reward_entry_eq cfg _ A hA f i hi

/-- the reward clause of the rules needs nothing of the move phase: whatever the integers, the rewards are the rule-level
shares of the agents `update_agent_positions` returned -/
theorem step_reward_eq_rewardL2 (cfg : Cfg) (s : State) (hl : ∀ a ∈ s.agents, 1 ≤ a.level) (a : List Int)
    (hlen : a.length = s.agents.length) :
    (step cfg s a).2.reward = rewardL2 cfg (step cfg s a).1.agents s.foods := by
  rw [step_reward, ← updateAgents_length cfg.gridSize s.agents s.foods a hlen]
  exact getReward_eq_rewardL2 cfg _ (updateAgents_levels _ _ _ _ (1 ≤ ·) hl) s.foods

/-! ### C12: the observers compute the documented views -/

/-- what `VectorObserver` reports for an entity at `p` with level `l` seen from `me`, visible (`v`) or not -/
def viewTriple (fov : Nat) (me : Pos) (v : Bool) (p : Pos) (l : Int) : List Int :=
  [if v then p.1 - me.1 + min (fov : Int) me.1 else -1, if v then p.2 - me.2 + min (fov : Int) me.2 else -1,
    if v then l else 0]

/-- the model's `inFov` as a Boolean (`visible_iff`) -/
def visible (fov : Nat) (me p : Pos) : Bool :=
  decide ((me.1 - p.1).natAbs ≤ fov) && decide ((me.2 - p.2).natAbs ≤ fov)

theorem vectorView_eq_triples (fov : Nat) (s : State) (ag : Agent) :
    vectorView fov s ag =
      (s.foods.map (fun f => viewTriple fov ag.pos (visible fov ag.pos f.pos && !f.eaten) f.pos f.level)).flatten ++
      ((whereSize (s.agents.map (fun o => decide (ag.id = o.id))) 1).map (fun (i : Nat) => Jx.getWC
        (s.agents.map (fun o => viewTriple fov ag.pos (visible fov ag.pos o.pos) o.pos o.level)) [-1, -1, 0] (i : Int))).flatten ++
      ((whereSize (s.agents.map (fun o => decide (ag.id ≠ o.id))) (s.agents.length - 1)).map (fun (i : Nat) => Jx.getWC
        (s.agents.map (fun o => viewTriple fov ag.pos (visible fov ag.pos o.pos) o.pos o.level)) [-1, -1, 0] (i : Int))).flatten :=
  rfl

theorem visible_iff (fov : Nat) (me p : Pos) : visible fov me p = true ↔ inFov fov me p := by
  simp [visible, inFov]

theorem viewTriple_eq (fov : Nat) (me : Pos) (v : Bool) (vis : Prop) [Decidable vis] (hv : v = true ↔ vis)
    (p : Pos) (l : Int) : viewTriple fov me v p l = entityTriple fov me vis p l := by
  unfold entityTriple windowOrigin viewTriple
  by_cases h : vis
  · have hv' : v = true := hv.2 h
    -- the implementation shifts by `min fov me`, the documentation subtracts the clipped window origin
    have hshift : ∀ x m : Int, x - m + min (fov : Int) m = x - max 0 (m - (fov : Int)) := by intro x m; omega
    simp only [hv', if_true, if_pos h, hshift]
  · have hv' : v = false := by cases v <;> simp_all
    simp [hv', h]

/-- C12 (vector observer): agent `i` sees every food, then itself, then the other agents in order; an entity
is reported iff it lies within `fov` in both coordinates (foods: and is not yet collected), at its position
relative to the window clipped to the grid, else as `(-1, -1, 0)` -/
theorem vectorView_eq (fov : Nat) (s : State) (hids : ∀ i, ∀ h : i < s.agents.length, s.agents[i].id = (i : Int)) (i : Nat)
    (hi : i < s.agents.length) :
    vectorView fov s s.agents[i] = vectorViewL2 fov s i s.agents[i] := by
  rw [vectorView_eq_triples]
  unfold vectorViewL2
  have hfood : ∀ f : Food, viewTriple fov s.agents[i].pos (visible fov s.agents[i].pos f.pos && !f.eaten) f.pos f.level =
      entityTriple fov s.agents[i].pos (inFov fov s.agents[i].pos f.pos ∧ f.eaten = false) f.pos f.level :=
    fun f => viewTriple_eq _ _ _ _ (by simp [visible_iff]) _ _
  have hagent : ∀ o : Agent, viewTriple fov s.agents[i].pos (visible fov s.agents[i].pos o.pos) o.pos o.level =
      entityTriple fov s.agents[i].pos (inFov fov s.agents[i].pos o.pos) o.pos o.level :=
    fun o => viewTriple_eq _ _ _ _ (visible_iff _ _ _) _ _
  -- ids are indices, so `jnp.where` finds `i` resp. everybody but `i`
  have hid : ∀ j (hj : j < s.agents.length), s.agents[i].id = s.agents[j].id ↔ j = i := fun j hj => by
    rw [hids i hi, hids j hj]; omega
  simp only [hfood, hagent]
  rw [gather_where_eq _ _ _ _ i (by simp) (by simp) hi (fun j hj => by simp [hid j (by simpa using hj)]),
    gather_where_ne _ _ _ _ i (by simp) (by simp) hi (fun j hj => by simp [hid j (by simpa using hj)])]
  simp [map_eraseIdx]

theorem scatterSum_eq (g fov : Nat) (ents : List (Pos × Int)) (hin : ∀ e ∈ ents, inGrid g e.1)
    (r c : Nat) (hr : r < g + 2 * fov) (hc : c < g + 2 * fov) :
    scatterSum (g + 2 * fov) fov ents r c =
      (ents.map (fun e => if decide (e.1 = ((r : Int) - fov, (c : Int) - fov)) then e.2 else 0)).sum := by
  unfold scatterSum
  congr 1
  apply List.map_congr_left
  intro e he
  obtain ⟨h1, h2, h3, h4⟩ := hin e he
  have : (hits (g + 2 * fov) (e.1.1 + fov) r && hits (g + 2 * fov) (e.1.2 + fov) c) =
      decide (e.1 = ((r : Int) - fov, (c : Int) - fov)) := by
    rw [Bool.eq_iff_iff]
    simp only [hits, Jx.wrapIdx, Bool.and_eq_true, decide_eq_true_eq, Prod.ext_iff]
    have e1 : ¬ (e.1.1 + (fov : Int) < 0) := by omega
    have e2 : ¬ (e.1.2 + (fov : Int) < 0) := by omega
    simp only [e1, e2, if_false, decide_eq_true_eq]
    omega
  rw [this]

theorem agentLevelAt_out (g : Nat) (s : State) (h : ∀ a ∈ s.agents, inGrid g a.pos) (p : Pos) (hp : ¬ inGrid g p) :
    agentLevelAt s p = 0 := by
  unfold agentLevelAt
  have : s.agents.filter (fun a => decide (a.pos = p)) = [] := by
    rw [List.filter_eq_nil_iff]
    intro a ha hpa
    simp at hpa
    exact hp (hpa ▸ h a ha)
  rw [this]; rfl

theorem foodLevelAt_out (g : Nat) (s : State) (h : ∀ f ∈ s.foods, inGrid g f.pos) (p : Pos) (hp : ¬ inGrid g p) :
    foodLevelAt s p = 0 := by
  unfold foodLevelAt
  have : s.foods.filter (fun f => decide (f.pos = p) && !f.eaten) = [] := by
    rw [List.filter_eq_nil_iff]
    intro a ha hpa
    simp at hpa
    exact hp (hpa.1 ▸ h a ha)
  rw [this]; rfl

theorem agentGrid_eq (g fov : Nat) (s : State) (h : ∀ a ∈ s.agents, inGrid g a.pos)
    (r c : Nat) (hr : r < g + 2 * fov) (hc : c < g + 2 * fov) :
    scatterSum (g + 2 * fov) fov (s.agents.map (fun a => (a.pos, a.level))) r c =
      agentLevelAt s ((r : Int) - fov, (c : Int) - fov) := by
  rw [scatterSum_eq g fov _ (by simpa using h) r c hr hc]
  unfold agentLevelAt
  rw [← Jx.sum_map_ite_filter, List.map_map]
  rfl

theorem foodGrid_eq (g fov : Nat) (s : State) (h : ∀ f ∈ s.foods, inGrid g f.pos)
    (r c : Nat) (hr : r < g + 2 * fov) (hc : c < g + 2 * fov) :
    scatterSum (g + 2 * fov) fov (s.foods.map (fun f => (f.pos, f.level * (if f.eaten then 0 else 1)))) r c =
      foodLevelAt s ((r : Int) - fov, (c : Int) - fov) := by
  rw [scatterSum_eq g fov _ (by simpa using h) r c hr hc]
  unfold foodLevelAt
  rw [← Jx.sum_map_ite_filter, List.map_map]
  congr 1
  apply List.map_congr_left
  intro f _
  simp only [Function.comp]
  cases f.eaten <;> simp

theorem sliceStart_in (g fov : Nat) (x : Int) (h0 : 0 ≤ x) (h1 : x < (g : Int)) :
    sliceStart (g + 2 * fov) (2 * fov + 1) x = x.toNat := by
  unfold sliceStart Jx.wrapIdx
  simp only []
  have e : ¬ x < 0 := by omega
  simp only [e, if_false]
  split
  · omega
  · rfl

theorem agentLevelAt_own (s : State) (hl : ∀ a ∈ s.agents, 1 ≤ a.level) (a : Agent) (ha : a ∈ s.agents) :
    1 ≤ agentLevelAt s a.pos := by
  unfold agentLevelAt
  refine Int.le_trans (hl a ha) (Jx.mem_le_sum (fun x hx => ?_) (List.mem_map.2 ⟨a, List.mem_filter.2 ⟨ha, by simp⟩, rfl⟩))
  obtain ⟨b, hb, rfl⟩ := List.mem_map.1 hx
  exact Int.le_trans (by decide) (hl b (List.mem_filter.1 hb).1)

theorem foodLevelAt_nonneg (s : State) (hl : ∀ f ∈ s.foods, 1 ≤ f.level) (p : Pos) : 0 ≤ foodLevelAt s p := by
  unfold foodLevelAt
  refine Jx.sum_nonneg fun x hx => ?_
  obtain ⟨f, hf, rfl⟩ := List.mem_map.1 hx
  exact Int.le_trans (by decide) (hl f (List.mem_filter.1 hf).1)

/-- C12 (grid observer), every `fov`: window cell `(dr, dc)` of the agent at `me` shows world cell `me - fov + (dr, dc)`: the level
of the agent there, the level of the uneaten food there, and 1 iff that cell is inside the grid and empty.  For `fov = 0` the slice
`[-0:]` blanks the whole accessibility layer; the only cell of the window is then the agent's own, which the documented view shows
as occupied as well unless the levels on it cancel (they do not in a well-formed state: `agentLevelAt_own`, `foodLevelAt_nonneg`). -/
theorem gridView_eq (g fov : Nat) (s : State) (hag : ∀ a ∈ s.agents, inGrid g a.pos) (hfd : ∀ f ∈ s.foods, inGrid g f.pos)
    (h0 : fov = 0 → ∀ a ∈ s.agents, agentLevelAt s a.pos + foodLevelAt s a.pos ≠ 0) :
    gridView g fov s = s.agents.map (fun a => gridViewL2 g fov s a.pos) := by
  unfold gridView
  simp only []
  apply List.map_congr_left
  intro a ha
  obtain ⟨x0, x1, y0, y1⟩ := hag a ha
  rw [sliceStart_in g fov _ x0 x1, sliceStart_in g fov _ y0 y1]
  unfold gridViewL2
  simp only []
  have hpos : ∀ dr dc : Nat, (((a.pos.1.toNat + dr : Nat) : Int) - fov, ((a.pos.2.toNat + dc : Nat) : Int) - fov) =
      ((a.pos.1 - fov + dr, a.pos.2 - fov + dc) : Pos) := by
    intro dr dc
    rw [Prod.ext_iff]; simp only []
    constructor <;> omega
  have hA : ∀ dr dc, dr < 2 * fov + 1 → dc < 2 * fov + 1 →
      scatterSum (g + 2 * fov) fov (s.agents.map (fun a => (a.pos, a.level))) (a.pos.1.toNat + dr) (a.pos.2.toNat + dc) =
        agentLevelAt s (a.pos.1 - fov + dr, a.pos.2 - fov + dc) := by
    intro dr dc hdr hdc
    rw [agentGrid_eq g fov s hag _ _ (by omega) (by omega), hpos]
  have hF : ∀ dr dc, dr < 2 * fov + 1 → dc < 2 * fov + 1 →
      scatterSum (g + 2 * fov) fov (s.foods.map (fun f => (f.pos, f.level * (if f.eaten then 0 else 1))))
        (a.pos.1.toNat + dr) (a.pos.2.toNat + dc) =
        foodLevelAt s (a.pos.1 - fov + dr, a.pos.2 - fov + dc) := by
    intro dr dc hdr hdc
    rw [foodGrid_eq g fov s hfd _ _ (by omega) (by omega), hpos]
  congr 1
  · apply Jx.Grid.table_congr
    intro dr hdr dc hdc
    rw [hA dr dc hdr hdc]
    split
    · rfl
    · rename_i h; exact agentLevelAt_out g s hag _ h
  · congr 1
    · apply Jx.Grid.table_congr
      intro dr hdr dc hdc
      rw [hF dr dc hdr hdc]
      split
      · rfl
      · rename_i h; exact foodLevelAt_out g s hfd _ h
    · congr 1
      apply Jx.Grid.table_congr
      intro dr hdr dc hdc
      rw [hA dr dc hdr hdc, hF dr dc hdr hdc]
      by_cases hf : fov = 0
      · have hown : ((a.pos.1 - fov + dr, a.pos.2 - fov + dc) : Pos) = a.pos := by
          rw [Prod.ext_iff]; simp only []; constructor <;> omega
        rw [if_pos (Or.inr (Or.inl (by rw [if_pos hf]; omega)))]
        exact (if_neg fun h => h0 hf a ha (hown ▸ h.2)).symm
      · have hin : inGrid g ((a.pos.1 - fov + dr, a.pos.2 - fov + dc) : Pos) ↔
            ¬ (a.pos.1.toNat + dr < fov ∨ a.pos.1.toNat + dr ≥ g + 2 * fov - fov ∨
               a.pos.2.toNat + dc < fov ∨ a.pos.2.toNat + dc ≥ g + 2 * fov - fov) := by
          unfold inGrid; simp only []; omega
        rw [if_neg hf]
        by_cases hg : inGrid g ((a.pos.1 - fov + dr, a.pos.2 - fov + dc) : Pos)
        · simp only [if_neg (hin.1 hg), hg, true_and]
        · rw [if_pos (Classical.not_not.1 (fun h => hg (hin.2 h))), if_neg (fun h => hg h.1)]

theorem observe_eq_observeL2 (cfg : Cfg) (s : State) (hc : Consistent cfg.gridSize s) (hw : WF s) :
    observe cfg s = observeL2 cfg s := by
  unfold observe observeL2
  have hvec : s.agents.map (vectorView cfg.fov s) =
      (List.range s.agents.length).map (fun i => vectorViewL2 cfg.fov s i (s.agents.getD i default)) := by
    apply List.ext_getElem
    · simp
    · intro i h1 h2
      have hi : i < s.agents.length := by simpa using h1
      simp only [List.getElem_map, List.getElem_range, List.getD_eq_getElem?_getD, List.getElem?_eq_getElem hi,
        Option.getD_some]
      exact vectorView_eq cfg.fov s hw.ids i hi
  rw [masks_eq_legalMask cfg.gridSize s hc hw, hvec, gridView_eq cfg.gridSize cfg.fov s hc.agIn hc.foodIn fun _ a ha => by
    have := agentLevelAt_own s hw.agLv a ha
    have := foodLevelAt_nonneg s hw.foodLv a.pos
    omega]

theorem step_obs_documented (cfg : Cfg) (s : State) (hc : Consistent cfg.gridSize s) (hw : WF s)
    (a : List Int) (hlen : a.length = s.agents.length) :
    (step cfg s a).2.obs = observeL2 cfg (step cfg s a).1 := by
  obtain ⟨hc', hw'⟩ := step_consistent_any cfg s hc hw a hlen
  rw [obs_faithful]
  exact observe_eq_observeL2 cfg _ hc' hw'

/-! ### whole episodes (C07) -/

/-- the trace of `step` along a sequence of joint actions.  It deliberately continues past a LAST step: the
statements about it are about where the FIRST LAST occurs. -/
def run (cfg : Cfg) : State → List (List Int) → List (State × TimeStep Obs)
  | _, [] => []
  | s, a :: as => (step cfg s a) :: run cfg (step cfg s a).1 as

theorem play_induction (cfg : Cfg) (P : State → Prop)
    (hstep : ∀ (s : State), P s → ∀ (a : List Int), a.length = s.agents.length → P (step cfg s a).1) :
    ∀ (as : List (List Nat)) (s : State), P s → (∀ a ∈ as, a.length = s.agents.length) →
      (∀ r ∈ run cfg s (as.map (fun a => a.map Int.ofNat)), P r.1) ∧
        P (finalState cfg s (as.map (fun a => a.map Int.ofNat))) := by
  intro as
  induction as with
  | nil => intro s h _; exact ⟨fun r hr => (by cases hr), h⟩
  | cons a as ih =>
    intro s h hs
    have hl : (a.map Int.ofNat).length = s.agents.length := by rw [List.length_map]; exact hs a List.mem_cons_self
    have h' := hstep s h _ hl
    obtain ⟨h1, h2⟩ := ih _ h' (fun b hb => by
      rw [step_agents_length cfg s _ hl]; exact hs b (List.mem_cons_of_mem _ hb))
    refine ⟨?_, h2⟩
    intro r hr
    simp only [List.map_cons, run, List.mem_cons] at hr
    rcases hr with rfl | hr
    · exact h'
    · exact h1 r hr

theorem consistent_along (cfg : Cfg) : ∀ (as : List (List Nat)) (s : State), Consistent cfg.gridSize s → WF s →
    (∀ a ∈ as, a.length = s.agents.length ∧ ∀ x ∈ a, x < 6) →
    Consistent cfg.gridSize (finalState cfg s (as.map (fun a => a.map Int.ofNat))) ∧
      WF (finalState cfg s (as.map (fun a => a.map Int.ofNat))) :=
  fun as s hc hw h => (play_induction cfg (fun s => Consistent cfg.gridSize s ∧ WF s)
    (fun s hs => step_consistent_any cfg s hs.1 hs.2) as s ⟨hc, hw⟩ fun a ha => (h a ha).1).2

theorem run_invariant (cfg : Cfg) (as : List (List Nat)) (s : State) (hc : Consistent cfg.gridSize s) (hw : WF s)
    (h : ∀ a ∈ as, a.length = s.agents.length) :
    ∀ r ∈ run cfg s (as.map (fun a => a.map Int.ofNat)), Consistent cfg.gridSize r.1 ∧ WF r.1 :=
  (play_induction cfg (fun s => Consistent cfg.gridSize s ∧ WF s)
    (fun s hs => step_consistent_any cfg s hs.1 hs.2) as s ⟨hc, hw⟩ h).1

/-! ### C10: what the generator certificates give -/

theorem food_neighbours_in_grid (g : Nat) (s : State) (h : foodsInterior g s) (f : Food) (hf : f ∈ s.foods)
    (a : Nat) (ha1 : 1 ≤ a) (ha4 : a ≤ 4) : inGrid g (addP f.pos (dir a)) := by
  obtain ⟨h1, h2, h3, h4⟩ := h f hf
  unfold inGrid addP
  match a, ha1, ha4 with
  | 1, _, _ | 2, _, _ | 3, _, _ | 4, _, _ => simp only [dir]; omega

theorem foods_apart (s : State) (h : foodsApart s) :
    s.foods.Pairwise (fun a b => a.pos ≠ b.pos ∧ dist a.pos b.pos ≠ 1) := by
  unfold foodsApart at h
  apply List.Pairwise.imp _ h
  intro a b hd
  constructor
  · intro he; rw [he] at hd; simp [dist] at hd
  · omega

end LBF
