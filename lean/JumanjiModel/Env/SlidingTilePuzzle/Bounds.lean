/-
SlidingTilePuzzle — C01: proved value bounds of the observation leaves.

Real spec (`n` = grid_size): `puzzle` BoundedArray(int32, 0, n²-1), `empty_tile_position` BoundedArray(int32, 0, n-1),
`action_mask` bool, `step_count` BoundedArray(int32, 0, time_limit).
-/
import JumanjiModel.Env.SlidingTilePuzzle.Model
import JumanjiModel.Env.PuzzleBounds
namespace SlidingTilePuzzle
open Jm Jx PzB

/-- interval of every observation leaf, as a function of the configuration -/
def obsBounds (cfg : Cfg) : Table :=
  [("puzzle", iv 0 (((cfg.n * cfg.n : Nat) : Int) - 1)), ("empty_tile_position", iv 0 ((cfg.n : Int) - 1)),
   ("action_mask", iv 0 1), ("step_count", iv 0 cfg.timeLimit)]

/-- the numeric leaves of an observation, flattened -/
def obsLeaves (o : Obs) : Leaves :=
  [("puzzle", ints2 o.puzzle), ("empty_tile_position", [o.empty.1, o.empty.2]), ("action_mask", bools o.mask),
   ("step_count", [o.stepCount])]

/-- every cell holds a tile number `0 … n²-1` and the recorded blank position is on the board -/
def InRange (n : Nat) (b : Board) : Prop :=
  GridAll (fun v => 0 ≤ v ∧ v ≤ ((n * n : Nat) : Int) - 1) b.1 ∧
  (0 ≤ b.2.1 ∧ b.2.1 ≤ (n : Int) - 1) ∧ (0 ≤ b.2.2 ∧ b.2.2 ≤ (n : Int) - 1)

instance (n : Nat) (b : Board) : Decidable (InRange n b) := by unfold InRange GridAll; infer_instance

theorem inRange_of_inv (n : Nat) (b : Board) (hi : Inv n b) (hp : IsPermutation n b.1) : InRange n b := by
  refine ⟨?_, ?_, ?_⟩
  · intro row hrow v hv
    have hm : v ∈ Grid.flatten b.1 := List.mem_flatten.mpr ⟨row, hrow, hv⟩
    have := (List.Perm.mem_iff hp).mp hm
    simp only [List.mem_map, List.mem_range] at this
    obtain ⟨k, hk, rfl⟩ := this
    omega
  · have := hi.2.1; unfold onBoard at this; omega
  · have := hi.2.1; unfold onBoard at this; omega

theorem inGrid_bounds {n : Nat} {p : Pos} (h : inGrid n p = true) :
    (0 ≤ p.1 ∧ p.1 ≤ (n : Int) - 1) ∧ (0 ≤ p.2 ∧ p.2 ≤ (n : Int) - 1) := by
  simp only [inGrid, Bool.and_eq_true, decide_eq_true_eq] at h
  omega

/-- `InRange` is preserved by `_move_empty_tile` for ANY action value (the gather/scatter only move cell contents) -/
theorem move_inRange (n : Nat) (b : Board) (a : Int) (h : InRange n b) : InRange n (moveEmptyTile n b a) := by
  have hn : 1 ≤ n * n := by
    have : 1 ≤ n := by have := h.2.1; omega
    exact Nat.mul_pos this this
  let P : Int → Prop := fun v => 0 ≤ v ∧ v ≤ ((n * n : Nat) : Int) - 1
  have h0 : P 0 := by show (0 : Int) ≤ 0 ∧ (0 : Int) ≤ ((n * n : Nat) : Int) - 1; omega
  have h1 : GridAll P b.1 := h.1
  unfold moveEmptyTile
  simp only
  split
  · rename_i hv
    refine ⟨?_, inGrid_bounds hv⟩
    exact Grid.forall_mem_setWD (P := P) _ _ (Grid.forall_mem_setWD (P := P) _ _ h1 (Grid.getWC_of_all (P := P) _ _ h1 h0)) h0
  · exact h

theorem obs_in_bounds (cfg : Cfg) (o : Obs) (h : InRange cfg.n (o.puzzle, o.empty))
    (hs : 0 ≤ o.stepCount ∧ o.stepCount ≤ cfg.timeLimit) : ObsInBounds (obsBounds cfg) (obsLeaves o) :=
  obsInBounds_of_aligned rfl (by simp [obsLeaves]) <|
    Jx.all_cons (allIn_ints2 _ _ _ h.1) <| Jx.all_cons (allIn_ints _ _ _ (Jx.all_cons h.2.1 (Jx.all_cons h.2.2 Jx.all_nil))) <|
    Jx.all_cons (allIn_bools _) <| Jx.all_cons (allIn_single _ _ _ hs) Jx.all_nil

theorem step_board_inRange (cfg : Cfg) (s : State) (a : Int) (h : InRange cfg.n s.board) :
    InRange cfg.n (step cfg s a).1.board := move_inRange cfg.n s.board a h

end SlidingTilePuzzle
