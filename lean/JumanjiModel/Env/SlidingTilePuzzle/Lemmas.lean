/-
SlidingTilePuzzle: `_move_empty_tile` and the generator's `_make_random_move` are the rules' slide `slideB` on well-formed
boards; a slide keeps `Inv` and the multiset of tiles and is undone by the opposite one; `make_solved_puzzle` is the goal;
reachability and the random walk; the dense reward as change in correct tiles; the fields of `step` (`step_moves`, `step_board`, `step_inv`, `mask_eq`; the
equation with `stepL2` is `Props.C09.sliding_step_eq_rules`); plays and the dense return.
-/
import JumanjiModel.Env.SlidingTilePuzzle.Model
import JumanjiModel.Prim.ListLemmas
import JumanjiModel.Prim.GridLemmas
import JumanjiModel.Core.TimeStepLemmas
namespace SlidingTilePuzzle
open Jm Jx

/-! ### grids -/

theorem tabulate_eq_table (n : Nat) (f : Nat → Nat → Int) : tabulate n f = Grid.table n n f := rfl

theorem tabulate_shaped (n : Nat) (f : Nat → Nat → Int) : Grid.shaped (tabulate n f) n n = true :=
  Grid.shaped_table n n f

theorem get_tabulate {n : Nat} (f : Nat → Nat → Int) {r c : Nat} (hr : r < n) (hc : c < n) :
    Grid.get (tabulate n f) 0 r c = f r c :=
  Grid.get_table n n f 0 hr hc

theorem getWC_cast {g : Grid Int} {n : Nat} (hg : Grid.shaped g n n = true) {r c : Nat} (hr : r < n) (hc : c < n) :
    Grid.getWC g 0 (r : Int) (c : Int) = Grid.get g 0 r c :=
  Grid.getWC_eq_get hg 0 (Int.natCast_nonneg r) (by omega) (Int.natCast_nonneg c) (by omega)

theorem cell_cast (g : Grid Int) (r c : Nat) : cell g ((r : Int), (c : Int)) = Grid.get g 0 r c := by
  simp [cell]

/-! ### positions and legality -/

theorem inv_pos {n : Nat} {b : Board} (h : Inv n b) :
    ∃ r c : Nat, r < n ∧ c < n ∧ b.2 = ((r : Int), (c : Int)) ∧ Grid.get b.1 0 r c = 0 := by
  obtain ⟨_, ⟨h1, h2, h3, h4⟩, hc⟩ := h
  refine ⟨b.2.1.toNat, b.2.2.toNat, by omega, by omega, ?_, ?_⟩
  · apply Prod.ext <;> simp <;> omega
  · have : 0 ≤ b.2.1 ∧ 0 ≤ b.2.2 := ⟨h1, h3⟩
    simpa [cell, this] using hc

theorem onBoard_pos {n : Nat} {p : Pos} (h : onBoard n p) :
    ∃ r c : Nat, r < n ∧ c < n ∧ p = ((r : Int), (c : Int)) := by
  obtain ⟨h1, h2, h3, h4⟩ := h
  refine ⟨p.1.toNat, p.2.toNat, by omega, by omega, ?_⟩
  apply Prod.ext <;> simp <;> omega

theorem inGrid_iff (n : Nat) (p : Pos) : inGrid n p = true ↔ onBoard n p := by
  simp [inGrid, onBoard, and_assoc]

theorem target_moves {a : Nat} (ha : a < 4) (e : Pos) :
    target e a = some (e.1 + (MOVES.getD a (0, 0)).1, e.2 + (MOVES.getD a (0, 0)).2) ∧ MOVES.getD a (0, 0) ≠ (0, 0) := by
  match a, ha with
  | 0, _ | 1, _ | 2, _ | 3, _ => exact ⟨by simp [target, MOVES, Int.sub_eq_add_neg], by decide⟩

theorem moved_ne {e d : Pos} (hd : d ≠ (0, 0)) : (e.1 + d.1, e.2 + d.2) ≠ e := by
  intro hh
  have h1 := congrArg Prod.fst hh
  have h2 := congrArg Prod.snd hh
  simp only at h1 h2
  exact hd (Prod.ext (by simp only; omega) (by simp only; omega))

/-- C04: the L1 mask bit equals L2 legality -/
theorem mask_iff_legal (n : Nat) (b : Board) (a : Nat) :
    (validActions n b.2).getD a false = true ↔ legalB n b a := by
  unfold legalB
  match a with
  | 0 | 1 | 2 | 3 =>
    rw [(target_moves (by omega) b.2).1]
    exact inGrid_iff n _
  | (k+4) => simp [validActions, MOVES, target]

theorem moves_get {a : Nat} (ha : a < 4) : Jx.getWC MOVES (0, 0) (a : Int) = MOVES.getD a (0, 0) :=
  Jx.getWC_nat MOVES (0, 0) (by simpa [MOVES] using ha)

/-- C04: the environment's own validity test agrees with the rules -/
theorem isValidMove_iff_legal (n : Nat) (b : Board) {a : Nat} (ha : a < 4) :
    isValidMove n b.2 (a : Int) = true ↔ legalB n b a := by
  unfold isValidMove legalB
  simp only [moves_get ha, (target_moves ha b.2).1]
  exact inGrid_iff n _

theorem get_swapCells {n : Nat} (g : Grid Int) (p q : Pos) {i j : Nat} (hi : i < n) (hj : j < n) :
    Grid.get (swapCells n g p q) 0 i j =
      if ((i : Int), (j : Int)) = p then cell g q else if ((i : Int), (j : Int)) = q then cell g p
      else Grid.get g 0 i j := by
  unfold swapCells
  rw [get_tabulate _ hi hj]
  simp only [cell_cast]

theorem swapCells_shaped (n : Nat) (g : Grid Int) (p q : Pos) : Grid.shaped (swapCells n g p q) n n = true :=
  tabulate_shaped _ _

theorem swap_sets {g : Grid Int} {n : Nat} (hg : Grid.shaped g n n = true) {r c r' c' : Nat}
    (hr : r < n) (hc : c < n) (hr' : r' < n) (hc' : c' < n) (hne : ¬ (r = r' ∧ c = c')) :
    Grid.set (Grid.set g r c (Grid.get g 0 r' c')) r' c' (Grid.get g 0 r c)
      = swapCells n g ((r : Int), (c : Int)) ((r' : Int), (c' : Int)) := by
  apply Grid.ext_get (Grid.shaped_set (Grid.shaped_set hg _ _ _) _ _ _) (swapCells_shaped _ _ _ _) 0
  intro i j hi hj
  rw [Grid.get_set_of_shaped (Grid.shaped_set hg _ _ _) _ 0 hr' hc', Grid.get_set_of_shaped hg _ 0 hr hc, get_swapCells _ _ _ hi hj]
  simp only [cell_cast, Prod.mk.injEq, Int.natCast_inj]
  by_cases h1 : i = r ∧ j = c
  · obtain ⟨rfl, rfl⟩ := h1
    simp [hne]
  · by_cases h2 : i = r' ∧ j = c'
    · obtain ⟨rfl, rfl⟩ := h2
      simp [h1]
    · simp [h1, h2]

theorem swapTiles_eq {g : Grid Int} {n : Nat} (hg : Grid.shaped g n n = true) {e p : Pos} (he : onBoard n e)
    (hp : onBoard n p) (hne : p ≠ e) : swapTiles g e p = swapCells n g e p := by
  obtain ⟨r, c, hr, hc, rfl⟩ := onBoard_pos he
  obtain ⟨r', c', hr', hc', rfl⟩ := onBoard_pos hp
  unfold swapTiles
  simp only []
  rw [getWC_cast hg hr' hc', getWC_cast hg hr hc, Grid.setWD_natCast, Grid.setWD_natCast]
  exact swap_sets hg hr hc hr' hc' (by rintro ⟨rfl, rfl⟩; exact hne rfl)

/-! ### L1 moves = L2 slide -/

/-- the body of `_move_empty_tile` for a target cell `ne` other than the blank's -/
theorem move_core {n : Nat} {g : Grid Int} {e : Pos} (h : Inv n (g, e)) (ne : Pos) (hne : ne ≠ e) :
    (if inGrid n ne = true
      then (Grid.setWD (Grid.setWD g e.1 e.2 (Grid.getWC g 0 ne.1 ne.2)) ne.1 ne.2 0, ne) else (g, e))
    = (if onBoard n ne then (swapCells n g e ne, ne) else (g, e)) := by
  by_cases hb : onBoard n ne
  · -- the blank holds 0, so the two scatters of `_move_empty_tile` are `_swap_tiles`
    have h0 : Grid.getWC g 0 e.1 e.2 = 0 := by
      obtain ⟨r, c, hr, hc, he, h0⟩ := inv_pos h
      simp only at he h0
      subst he
      rw [getWC_cast h.1 hr hc]; exact h0
    simp only [(inGrid_iff n _).2 hb, hb, if_true]
    rw [← swapTiles_eq h.1 h.2.1 hb hne, swapTiles, h0]
  · have : inGrid n ne = false := by
      cases hh : inGrid n ne
      · rfl
      · exact absurd ((inGrid_iff n ne).1 hh) hb
    simp [this, hb]

/-- C09 core: `_move_empty_tile` is the L2 slide -/
theorem moveEmptyTile_eq_slideB {n : Nat} {b : Board} (h : Inv n b) {a : Nat} (ha : a < 4) :
    moveEmptyTile n b (a : Int) = slideB n b a := by
  obtain ⟨g, e⟩ := b
  obtain ⟨ht, hne⟩ := target_moves ha e
  unfold moveEmptyTile isValidMove slideB
  simp only [moves_get ha, ht]
  exact move_core h _ (moved_ne hne)

theorem legal_target {n : Nat} {b : Board} {a : Nat} (hl : legalB n b a) :
    ∃ p, target b.2 a = some p ∧ onBoard n p ∧ p ≠ b.2 ∧
      (b.2.1 + (MOVES.getD a (0, 0)).1, b.2.2 + (MOVES.getD a (0, 0)).2) = p ∧ a < 4 := by
  have ha : a < 4 := by
    match a, hl with
    | 0, _ | 1, _ | 2, _ | 3, _ => omega
    | k + 4, hl => simp [legalB, target] at hl
  obtain ⟨ht, hne⟩ := target_moves ha b.2
  unfold legalB at hl
  rw [ht] at hl
  exact ⟨_, ht, hl, moved_ne hne, rfl, ha⟩

theorem slideB_legal {n : Nat} {b : Board} {a : Nat} {p : Pos} (ht : target b.2 a = some p) (hp : onBoard n p) :
    slideB n b a = (swapCells n b.1 b.2 p, p) := by
  unfold slideB; simp [ht, hp]

theorem slideB_illegal {n : Nat} {b : Board} {a : Nat} (hl : ¬ legalB n b a) : slideB n b a = b := by
  unfold slideB legalB at *
  split
  · rename_i p hp; rw [hp] at hl; simp at hl; simp [hl]
  · rfl

/-- C10 core: a possible draw of `_make_random_move` is the L2 slide -/
theorem randomMove_eq_slideB {n : Nat} {b : Board} (h : Inv n b) {d : Nat} (hl : legalB n b d) :
    randomMove b d = slideB n b d := by
  obtain ⟨p, ht, hp, hne, hm, _⟩ := legal_target hl
  rw [slideB_legal ht hp]
  unfold randomMove
  simp only [hm]
  rw [swapTiles_eq h.1 h.2.1 hp hne]

theorem slideB_inv {n : Nat} {b : Board} (h : Inv n b) (a : Nat) : Inv n (slideB n b a) := by
  by_cases hl : legalB n b a
  · obtain ⟨p, ht, hp, hne, _, _⟩ := legal_target hl
    rw [slideB_legal ht hp]
    refine ⟨swapCells_shaped _ _ _ _, hp, ?_⟩
    obtain ⟨r', c', hr', hc', hp'⟩ := onBoard_pos hp
    subst hp'
    simp only [cell_cast]
    rw [get_swapCells _ _ _ hr' hc']
    have : ¬ (((r' : Int), (c' : Int)) = b.2) := hne
    simp [this, h.2.2]
  · rw [slideB_illegal hl]; exact h

theorem opposite_target {e p : Pos} {a : Nat} (ht : target e a = some p) : target p (opposite a) = some e := by
  match a with
  | 0 => simp [target] at ht; subst ht; simp [opposite, target]
  | 1 => simp [target] at ht; subst ht; simp [opposite, target]
  | 2 => simp [target] at ht; subst ht; simp [opposite, target]
  | 3 => simp [target] at ht; subst ht; simp [opposite, target]
  | (k+4) => simp [target] at ht

theorem swapCells_swapCells {n : Nat} {g : Grid Int} (hg : Grid.shaped g n n = true) {e p : Pos}
    (he : onBoard n e) (hp : onBoard n p) :
    swapCells n (swapCells n g e p) p e = g := by
  apply Grid.ext_get (swapCells_shaped _ _ _ _) hg 0
  intro i j hi hj
  obtain ⟨r, c, hr, hc, rfl⟩ := onBoard_pos he
  obtain ⟨r', c', hr', hc', rfl⟩ := onBoard_pos hp
  rw [get_swapCells _ _ _ hi hj]
  simp only [cell_cast]
  rw [get_swapCells _ _ _ hr hc, get_swapCells _ _ _ hr' hc', get_swapCells _ _ _ hi hj]
  simp only [cell_cast, Prod.mk.injEq, Int.natCast_inj]
  by_cases h1 : i = r' ∧ j = c'
  · obtain ⟨rfl, rfl⟩ := h1; simp
  · by_cases h2 : i = r ∧ j = c
    · obtain ⟨rfl, rfl⟩ := h2; simp [h1]
      intro h3 h4; subst h3 h4; rfl
    · simp [h1, h2]

/-- C17: opposite moves cancel -/
theorem opposite_cancel {n : Nat} {b : Board} (h : Inv n b) {a : Nat} (hl : legalB n b a) :
    legalB n (slideB n b a) (opposite a) ∧ slideB n (slideB n b a) (opposite a) = b := by
  obtain ⟨p, ht, hp, hne, _, _⟩ := legal_target hl
  rw [slideB_legal ht hp]
  have ht' := opposite_target ht
  have hl' : legalB n (swapCells n b.1 b.2 p, p) (opposite a) := by
    unfold legalB; simp only [ht']; exact h.2.1
  refine ⟨hl', ?_⟩
  rw [slideB_legal (b := (swapCells n b.1 b.2 p, p)) ht' h.2.1]
  simp only
  rw [swapCells_swapCells h.1 h.2.1 hp]


/-! ### conservation of the multiset of tiles -/

def gcount (b : Int) (g : Grid Int) : Nat := (Grid.flatten g).count b

theorem gcount_eq_count (b : Int) (g : Grid Int) : gcount b g = Grid.count (· == b) g := by
  unfold gcount Grid.count Grid.flatten
  rw [List.count, List.countP_eq_length_filter]

theorem gcount_set {g : Grid Int} {n : Nat} (hg : Grid.shaped g n n = true) {r c : Nat} (hr : r < n) (hc : c < n)
    (v b : Int) :
    gcount b (Grid.set g r c v) + (if Grid.get g 0 r c = b then 1 else 0)
      = gcount b g + (if v = b then 1 else 0) := by
  have := Grid.count_set (· == b) g 0 r c v (by rw [Grid.shaped_length hg]; exact hr)
    (by rw [Grid.rowLen, Grid.shaped_row hg hr]; exact hc)
  simpa [gcount_eq_count] using this

theorem gcount_swapCells {g : Grid Int} {n : Nat} (hg : Grid.shaped g n n = true) {e p : Pos}
    (he : onBoard n e) (hp : onBoard n p) (hne : p ≠ e) (b : Int) :
    gcount b (swapCells n g e p) = gcount b g := by
  obtain ⟨r, c, hr, hc, rfl⟩ := onBoard_pos he
  obtain ⟨r', c', hr', hc', rfl⟩ := onBoard_pos hp
  have hne' : ¬ (r = r' ∧ c = c') := by
    rintro ⟨rfl, rfl⟩; exact hne rfl
  rw [← swap_sets hg hr hc hr' hc' hne']
  have h1 := gcount_set hg hr hc (Grid.get g 0 r' c') b
  have h2 := gcount_set (Grid.shaped_set hg (Grid.get g 0 r' c') r c) hr' hc' (Grid.get g 0 r c) b
  rw [Grid.get_set_of_shaped hg _ 0 hr hc] at h2
  have : ¬ (r' = r ∧ c' = c) := by
    rintro ⟨rfl, rfl⟩; exact hne' ⟨rfl, rfl⟩
  simp only [this, if_false] at h2
  omega

/-- C17: a slide (legal or not) conserves the multiset of tiles -/
theorem slideB_perm {n : Nat} {b : Board} (h : Inv n b) (a : Nat) :
    (Grid.flatten (slideB n b a).1).Perm (Grid.flatten b.1) := by
  by_cases hl : legalB n b a
  · obtain ⟨p, ht, hp, hne, _, _⟩ := legal_target hl
    rw [slideB_legal ht hp]
    rw [List.perm_iff_count]
    intro x
    exact gcount_swapCells h.1 h.2.1 hp hne x
  · rw [slideB_illegal hl]

theorem slideB_isPermutation {n : Nat} {b : Board} (h : Inv n b) (a : Nat) (hp : IsPermutation n b.1) :
    IsPermutation n (slideB n b a).1 := (slideB_perm h a).trans hp


/-! ### the solved board of the implementation is the goal -/

theorem mul_bound {n r : Nat} (hr : r < n) : r * n + n ≤ n * n := by
  have : (r + 1) * n ≤ n * n := Nat.mul_le_mul_right n hr
  rw [Nat.succ_mul] at this; exact this

theorem reshape_eq {l : List Int} {n : Nat} (hl : l.length = n * n) :
    reshape n l = Grid.table n n (fun r c => l.getD (r * n + c) 0) :=
  Grid.reshape_eq_table l 0 (Nat.le_of_eq hl.symm)

theorem last_cell {n r c : Nat} (hr : r < n) (hc : c < n) : r * n + c = n * n - 1 ↔ (r + 1 = n ∧ c + 1 = n) := by
  have h1 := mul_bound hr
  constructor
  · intro h
    by_cases h2 : r + 1 = n
    · refine ⟨h2, ?_⟩
      have : (r + 1) * n = n * n := by rw [h2]
      rw [Nat.succ_mul] at this; omega
    · have h3 : r + 1 < n := by omega
      have h4 := mul_bound h3
      rw [Nat.succ_mul] at h4; omega
  · rintro ⟨h2, h3⟩
    have : (r + 1) * n = n * n := by rw [h2]
    rw [Nat.succ_mul] at this; omega

/-- `.at[-1].set(v)` writes the last entry -/
theorem setWD_last {α} (l : List α) (v : α) : Jx.setWD l (-1) v = l.set (l.length - 1) v := by
  cases l with
  | nil => rfl
  | cons x xs =>
    have e : (-1 : Int) + ((x :: xs).length : Int) = (((x :: xs).length - 1 : Nat) : Int) := by
      simp only [List.length_cons]; omega
    have a1 : ¬ ((((x :: xs).length - 1 : Nat) : Int) < 0) := by omega
    have a2 : ¬ ((((x :: xs).length - 1 : Nat) : Int) ≥ ((x :: xs).length : Int)) := by
      simp only [List.length_cons]; omega
    unfold Jx.setWD Jx.wrapIdx
    simp only [show ((-1 : Int) < 0) by omega, if_true, e, a1, a2, if_false, Int.toNat_natCast]

/-- C17: `make_solved_puzzle` builds exactly the goal board, for every grid size -/
theorem solved_eq_goal (n : Nat) : solvedPuzzle n = goal n := by
  by_cases hn : n = 0
  · subst hn; rfl
  have hpos : 0 < n * n := Nat.mul_pos (by omega) (by omega)
  unfold solvedPuzzle
  rw [setWD_last, List.length_map, List.length_range', reshape_eq (by simp), goal, tabulate_eq_table]
  refine Grid.table_congr fun r hr c hc => ?_
  have hk : r * n + c < n * n := by have := mul_bound hr; omega
  have hlc := last_cell hr hc
  by_cases hl : r * n + c = n * n - 1
  · have := hlc.1 hl
    have hlt : n * n - 1 < n * n := by omega
    simp [List.getD_eq_getElem?_getD, hl, hlt, this]
  · have hl' : ¬ (r + 1 = n ∧ c + 1 = n) := fun h => hl (hlc.2 h)
    have hl2 : ¬ (n * n - 1 = r * n + c) := fun h => hl h.symm
    simp only [List.getD_eq_getElem?_getD, List.getElem?_set, hl2, if_false, hl', List.getElem?_map]
    rw [List.getElem?_range' ]
    · -- entry `k` of `range' 1 _` is `1 + k`, the goal's tile at `(r, c)` is `r * n + c + 1`
      simp
      omega
    · exact hk

/-- C17: the solved test accepts exactly the goal configuration -/
theorem isSolved_iff (n : Nat) (p : Grid Int) : isSolved n p = true ↔ p = goal n := by
  simp [isSolved, solved_eq_goal]

theorem startBoard_eq (n : Nat) : startBoard n = goalBoard n := by
  simp [startBoard, goalBoard, solved_eq_goal]

theorem goal_inv {n : Nat} (hn : 0 < n) : Inv n (goalBoard n) := by
  refine ⟨tabulate_shaped _ _, ⟨by simp [goalBoard]; omega, by simp [goalBoard]; omega, by simp [goalBoard]; omega, by simp [goalBoard]; omega⟩, ?_⟩
  have e : (((n : Int) - 1), ((n : Int) - 1)) = ((((n - 1 : Nat)) : Int), (((n - 1 : Nat)) : Int)) := by
    apply Prod.ext <;> simp <;> omega
  simp only [goalBoard, e, cell_cast]
  unfold goal
  rw [get_tabulate _ (by omega) (by omega)]
  simp; omega


/-! ### the goal contains every tile once -/

theorem flatten_chunks (l : List Int) (n k : Nat) :
    (List.map (fun r => (l.drop (r * n)).take n) (List.range k)).flatten = l.take (k * n) := by
  induction k with
  | zero => simp
  | succ k ih =>
    rw [List.range_succ, List.map_append, List.flatten_append, ih, Nat.succ_mul, List.take_add]
    simp

theorem flatten_reshape {l : List Int} {n : Nat} (hl : l.length = n * n) : Grid.flatten (reshape n l) = l := by
  unfold Grid.flatten reshape
  rw [flatten_chunks, ← hl, List.take_length]

theorem goal_isPermutation (n : Nat) : IsPermutation n (goal n) := by
  unfold IsPermutation
  rw [← solved_eq_goal]
  unfold solvedPuzzle
  rw [flatten_reshape (by simp [Jx.setWD_length])]
  cases hm : n * n with
  | zero => simp [Jx.setWD]
  | succ k =>
    rw [setWD_last, List.length_map, List.length_range', Nat.add_sub_cancel, List.range'_concat, List.map_append,
      List.set_append_right _ _ (by simp)]
    simp only [List.length_map, List.length_range', Nat.sub_self, List.map_cons, List.map_nil, List.set_cons_zero]
    rw [List.range_eq_range', List.range'_succ, List.map_cons]
    simp only [Nat.zero_add, Int.natCast_zero]
    exact (List.perm_append_comm (l₁ := List.map (fun (i : Nat) => (i : Int)) (List.range' 1 k)) (l₂ := [0]))


/-! ### reachability -/

theorem Reachable.trans {n : Nat} {a b c : Board} (h1 : Reachable n a b) (h2 : Reachable n b c) :
    Reachable n a c := by
  induction h2 with
  | refl => exact h1
  | step d _ hl ih => exact Reachable.step d ih hl

theorem Reachable.inv {n : Nat} {a b : Board} (ha : Inv n a) (h : Reachable n a b) : Inv n b := by
  induction h with
  | refl => exact ha
  | step d _ _ ih => exact slideB_inv ih d

theorem reach_slide {n : Nat} (b : Board) (a : Nat) : Reachable n b (slideB n b a) := by
  by_cases hl : legalB n b a
  · exact Reachable.step a (Reachable.refl b) hl
  · rw [slideB_illegal hl]; exact Reachable.refl b

/-- C17: every legal slide can be undone, so reachability is symmetric on well-formed boards -/
theorem Reachable.symm {n : Nat} {a b : Board} (ha : Inv n a) (h : Reachable n a b) : Reachable n b a := by
  induction h with
  | refl => exact Reachable.refl _
  | @step c d hc hl ih =>
    have hic : Inv n c := Reachable.inv ha hc
    obtain ⟨hl', he⟩ := opposite_cancel hic hl
    have back : Reachable n (slideB n c d) c := by
      have := Reachable.step (opposite d) (Reachable.refl (slideB n c d)) hl'
      rwa [he] at this
    exact back.trans ih

/-! ### the generator's random walk -/

theorem validDraw_zero (b : Board) (d : Nat) : validDraw 0 b d = false := by
  rw [← Bool.not_eq_true]
  intro h
  obtain ⟨p, _, ⟨h1, h2, _, _⟩, _⟩ := legal_target ((mask_iff_legal 0 b d).1 h)
  omega

/-- along a tape of possible draws the generator's moves are slides: what every slide preserves holds of the outcome -/
theorem fold_randomMove {n : Nat} (P : Board → Prop) (hP : ∀ b a, Inv n b → P b → P (slideB n b a)) (ds : List Nat)
    (b : Board) (hb : Inv n b) (hv : validDraws n b ds = true) (h0 : P b) : P (ds.foldl randomMove b) := by
  induction ds generalizing b with
  | nil => exact h0
  | cons d ds ih =>
    simp only [validDraws, Bool.and_eq_true] at hv
    have he := randomMove_eq_slideB hb ((mask_iff_legal n b d).1 hv.1)
    simp only [List.foldl_cons, he]
    exact ih _ (slideB_inv hb d) (he ▸ hv.2) (hP b d hb h0)

theorem fold_reach {n : Nat} (ds : List Nat) (b : Board) (hb : Inv n b) (hv : validDraws n b ds = true) :
    Reachable n b (ds.foldl randomMove b) :=
  fold_randomMove (Reachable n b) (fun c a _ h => h.trans (reach_slide c a)) ds b hb hv (Reachable.refl b)

/-- C10: the random walk from the solved board (any tape of possible draws, any grid size) yields a
well-formed board that is reachable from the goal and solvable back to it -/
theorem walk_solvable (n : Nat) (ds : List Nat) (hv : validDraws n (startBoard n) ds = true) :
    Reachable n (goalBoard n) (walk n ds) ∧ Solvable n (walk n ds) ∧ (0 < n → Inv n (walk n ds)) := by
  by_cases hn : n = 0
  · subst hn
    cases ds with
    | nil => exact ⟨by rw [walk, List.foldl_nil, startBoard_eq]; exact Reachable.refl _,
                    by rw [Solvable, walk, List.foldl_nil, startBoard_eq]; exact Reachable.refl _, by omega⟩
    | cons d ds => simp [validDraws, validDraw_zero] at hv
  · have hg : Inv n (goalBoard n) := goal_inv (by omega)
    have hr : Reachable n (goalBoard n) (walk n ds) := by
      unfold walk; rw [startBoard_eq] at hv ⊢; exact fold_reach ds _ hg hv
    exact ⟨hr, hr.symm hg, fun _ => hr.inv hg⟩


/-! ### rewards -/

theorem countCells3_table (n : Nat) (f : Int → Int → Int → Bool) (a b g : Nat → Nat → Int) :
    countCells3 f (Grid.table n n a) (Grid.table n n b) (Grid.table n n g) =
      (((Grid.coords n n).filter fun p => f (a p.1 p.2) (b p.1 p.2) (g p.1 p.2)).length : Int) := by
  unfold countCells3 Grid.zipWith
  rw [Grid.zipWith_table, Grid.zipWith_table]
  exact congrArg _ (Grid.count_table id n n _)

theorem agree_table (n : Nat) (a g : Nat → Nat → Int) :
    agree (Grid.table n n a) (Grid.table n n g) =
      ((Grid.coords n n).filter fun p => decide (a p.1 p.2 = g p.1 p.2)).length := by
  unfold agree Grid.zipWith
  rw [Grid.zipWith_table]
  exact Grid.count_table id n n _

/-- C08: `DenseRewardFn` = change in the number of correctly placed tiles -/
theorem dense_eq {n : Nat} {cur next : Grid Int} (hc : Grid.shaped cur n n = true) (hn : Grid.shaped next n n = true) :
    denseReward n cur next = ((correct n next - correct n cur : Int) : Rat) := by
  unfold denseReward correct
  rw [solved_eq_goal, Grid.eq_table hc 0, Grid.eq_table hn 0, goal, tabulate_eq_table]
  simp only [countCells3_table, agree_table]
  -- per cell: newly correct = correct afterwards and not before, newly incorrect = the reverse
  simp only [ne_eq, decide_not]
  exact congrArg _ (Jx.length_filter_gain _ _ _)


/-! ### the step -/

theorem moveEmptyTile_illegal {n : Nat} {b : Board} {a : Nat} (ha : a < 4) (hl : ¬ legalB n b a) :
    moveEmptyTile n b (a : Int) = b := by
  have : isValidMove n b.2 (a : Int) = false := by
    cases hh : isValidMove n b.2 (a : Int)
    · rfl
    · exact absurd ((isValidMove_iff_legal n b ha).1 hh) hl
  unfold moveEmptyTile
  simp [this]

theorem moveEmptyTile_shaped {n : Nat} {b : Board} (h : Grid.shaped b.1 n n = true) (a : Int) :
    Grid.shaped (moveEmptyTile n b a).1 n n = true := by
  unfold moveEmptyTile
  simp only
  split
  · exact Grid.shaped_setWD (Grid.shaped_setWD h ..) ..
  · exact h

theorem mask_eq (n : Nat) (b : Board) :
    validActions n b.2 = (List.range 4).map (fun a => decide (legalB n b a)) :=
  eq_range_map false (by simp [validActions, MOVES]) fun i _ => by
    rw [Bool.eq_iff_iff, mask_iff_legal, decide_eq_true_iff]

theorem step_moves (cfg : Cfg) (s : State) (a : Int) : (step cfg s a).1.board = moveEmptyTile cfg.n s.board a := by
  unfold step
  rfl

theorem step_board (cfg : Cfg) (s : State) {a : Nat} (ha : a < 4) (h : Inv cfg.n s.board) :
    (step cfg s (a : Int)).1.board = slideB cfg.n s.board a := by
  rw [step_moves, moveEmptyTile_eq_slideB h ha]

theorem step_inv (cfg : Cfg) (s : State) {a : Nat} (ha : a < 4) (h : Inv cfg.n s.board) :
    Inv cfg.n (step cfg s (a : Int)).1.board := by
  rw [step_board cfg s ha h]; exact slideB_inv h a

theorem step_count (cfg : Cfg) (s : State) (a : Int) : (step cfg s a).1.stepCount = s.stepCount + 1 := rfl

theorem step_ts (cfg : Cfg) (s : State) (a : Int) :
    (step cfg s a).2 =
      condLast (isSolved cfg.n (step cfg s a).1.puzzle || decide ((step cfg s a).1.stepCount ≥ cfg.timeLimit))
        [if cfg.dense then denseReward cfg.n s.puzzle (step cfg s a).1.puzzle else sparseReward cfg.n (step cfg s a).1.puzzle]
        (observe cfg.n (step cfg s a).1) := by
  unfold step; rfl

/-- C12: the observation of a step is the observation function of the successor state (any action) -/
theorem obs_faithful (cfg : Cfg) (s : State) (a : Int) :
    (step cfg s a).2.obs = observe cfg.n (step cfg s a).1 := by
  rw [step_ts, condLast_obs]

/-- C11: a step is LAST exactly when the new board is the goal or the time limit is reached -/
theorem last_iff (cfg : Cfg) (s : State) (a : Int) :
    (step cfg s a).2.stepType = .last ↔
      ((step cfg s a).1.puzzle = goal cfg.n ∨ cfg.timeLimit ≤ (step cfg s a).1.stepCount) := by
  rw [step_ts, condLast_last_iff]
  simp [isSolved_iff]

/-- C05: an illegal move is ignored: board and blank untouched, the step is counted, and the episode ends
only for another cause (board already the goal, or time limit) -/
theorem illegal_ignored (cfg : Cfg) (s : State) {a : Nat} (ha : a < 4) (hl : ¬ legal cfg.n s a) :
    (step cfg s (a : Int)).1.puzzle = s.puzzle ∧ (step cfg s (a : Int)).1.empty = s.empty ∧
    (step cfg s (a : Int)).1.stepCount = s.stepCount + 1 ∧
    ((step cfg s (a : Int)).2.stepType = .last → s.puzzle = goal cfg.n ∨ cfg.timeLimit ≤ s.stepCount + 1) := by
  have hb : (step cfg s (a : Int)).1.board = s.board := (step_moves cfg s a).trans (moveEmptyTile_illegal ha hl)
  have hp : (step cfg s (a : Int)).1.puzzle = s.puzzle := congrArg Prod.fst hb
  refine ⟨hp, congrArg Prod.snd hb, rfl, ?_⟩
  rw [last_iff, hp, step_count]
  exact id

/-! ### episodes -/

/-- play a list of actions: final state and the sum of rewards -/
def play (cfg : Cfg) : State → List Nat → State × Rat
  | s, [] => (s, 0)
  | s, a :: as =>
    let (s', ts) := step cfg s (a : Int)
    let (sf, r) := play cfg s' as
    (sf, ts.reward.sum + r)

theorem play_reach (cfg : Cfg) (as : List Nat) (s : State) (hs : Inv cfg.n s.board) (ha : ∀ a ∈ as, a < 4) :
    Reachable cfg.n s.board (play cfg s as).1.board ∧ Inv cfg.n (play cfg s as).1.board := by
  induction as generalizing s with
  | nil => exact ⟨Reachable.refl _, hs⟩
  | cons a as ih =>
    have h4 : a < 4 := ha a (by simp)
    have hb := step_board cfg s h4 hs
    have hi := step_inv cfg s h4 hs
    obtain ⟨r, i⟩ := ih (step cfg s (a : Int)).1 hi (fun x hx => ha x (by simp [hx]))
    simp only [play]
    refine ⟨?_, i⟩
    have : Reachable cfg.n s.board (step cfg s (a : Int)).1.board := by rw [hb]; exact reach_slide _ a
    exact this.trans r

/-- C08: the dense return of any sequence of action values from any shaped board is the change in correctly placed tiles:
the blank and the legality of the moves play no part -/
theorem dense_return_any (cfg : Cfg) (hd : cfg.dense = true) (as : List Nat) (s : State)
    (hs : Grid.shaped s.puzzle cfg.n cfg.n = true) :
    (play cfg s as).2 = ((correct cfg.n (play cfg s as).1.puzzle - correct cfg.n s.puzzle : Int) : Rat) := by
  induction as generalizing s with
  | nil => simp [play]
  | cons a as ih =>
    have hi : Grid.shaped (step cfg s (a : Int)).1.puzzle cfg.n cfg.n = true :=
      congrArg (fun b : Board => Grid.shaped b.1 cfg.n cfg.n) (step_moves cfg s a) ▸ moveEmptyTile_shaped hs a
    have hr : (step cfg s (a : Int)).2.reward =
        [((correct cfg.n (step cfg s (a : Int)).1.puzzle - correct cfg.n s.puzzle : Int) : Rat)] := by
      rw [step_ts, condLast_reward, if_pos hd]
      exact congrArg (fun x => [x]) (dense_eq hs hi)
    simp only [play]
    rw [ih _ hi, hr]
    simp only [List.sum_cons, List.sum_nil, Rat.add_zero]
    rw [← Rat.intCast_add]
    congr 1
    omega

end SlidingTilePuzzle
