/-
RobotWarehouse — C05 / C07, the shelf side of a step, read off the `Track` half of the scan invariant (StepLemmas): the facts
here do NOT depend on the absence of a collision; they hold for EVERY step (LAST or not), every joint action and every draw
(valid or not) from a `Consistent` state.  The goal scan after the moves rewrites `is_requested` only.
-/
import JumanjiModel.Env.RobotWarehouse.ConsistentLemmas
namespace RobotWarehouse
open Jm

theorem step_shelves_spos (cfg : Cfg) (s : State) (actions draws : List Int) (k : Nat) :
    ((step cfg s actions draws).1.shelves[k]?).map spos =
      ((afterMoves cfg s actions).shelves[k]?).map spos :=
  scanGoals_spos _ cfg.goals _ draws k

/-- C07 (shelf side, every step): a shelf that no agent carries keeps its cell -/
theorem step_shelf_free {cfg : Cfg} {s : State} (hc : Consistent cfg s) (actions draws : List Int)
    {k : Nat} {sh : Shelf} (hk : s.shelves[k]? = some sh)
    (hfree : ∀ ag ∈ s.agents, ag.carrying = true → apos ag ≠ spos sh) :
    ((step cfg s actions draws).1.shelves[k]?).map spos = some (spos sh) := by
  have h := (consistent_iff_good cfg s).1 hc
  have ht := (scan_from_good h actions).1
  rw [step_shelves_spos]
  refine ht.free k sh hk ?_
  rintro j ⟨a, ha, hca, hp⟩
  exact hfree a (List.mem_of_getElem? ha) hca hp

/-- C07 (shelf side, every step): a carried shelf ends the step on the cell of its carrier -/
theorem step_shelf_carried {cfg : Cfg} {s : State} (hc : Consistent cfg s) (actions draws : List Int)
    {k j : Nat} {sh : Shelf} {ag : Agent} (hk : s.shelves[k]? = some sh) (hj : s.agents[j]? = some ag)
    (hcar : ag.carrying = true) (hp : apos ag = spos sh) :
    ∃ sh' ag', (step cfg s actions draws).1.shelves[k]? = some sh' ∧
      (step cfg s actions draws).1.agents[j]? = some ag' ∧ spos sh' = apos ag' := by
  have h := (consistent_iff_good cfg s).1 hc
  have ht := (scan_from_good h actions).1
  obtain ⟨sh1, a', h1, h2, h3⟩ := ht.carried k j sh hk ⟨ag, hj, hcar, hp⟩
  have h4 := step_shelves_spos cfg s actions draws k
  rw [h1] at h4
  obtain ⟨sh', hs', hp'⟩ := Option.map_eq_some_iff.1 h4
  exact ⟨sh', a', hs', h2, hp'.trans h3⟩

theorem step_shelf_under_agent {cfg : Cfg} {s : State} (hc : Consistent cfg s) (actions draws : List Int)
    {i k : Nat} {ag ag' : Agent} {sh : Shelf} (hi : s.agents[i]? = some ag)
    (hi' : (step cfg s actions draws).1.agents[i]? = some ag') (hpos : apos ag' = apos ag)
    (hk : s.shelves[k]? = some sh) (hsh : spos sh = apos ag) :
    ((step cfg s actions draws).1.shelves[k]?).map spos = some (spos sh) := by
  have h := (consistent_iff_good cfg s).1 hc
  by_cases hcar : ag.carrying = true
  · obtain ⟨sh', a', h1, h2, h3⟩ := step_shelf_carried hc actions draws hk hi hcar hsh.symm
    rw [hi'] at h2; cases h2
    rw [h1]
    simp only [Option.map_some]
    rw [h3, hpos, hsh]
  · apply step_shelf_free hc actions draws hk
    intro a ha hca hp
    obtain ⟨j, hj, rfl⟩ := List.getElem_of_mem ha
    have hj' := List.getElem?_eq_getElem hj
    have := h.agShown.distinct hj' hi (hp.trans hsh)
    subst this
    rw [hj'] at hi; cases hi
    exact hcar hca

theorem shelfIdxAt_some {shelves : List Shelf} {c : Int × Int} {k : Nat} (h : shelfIdxAt shelves c = some k) :
    ∃ sh, shelves[k]? = some sh ∧ spos sh = c := by
  unfold shelfIdxAt at h
  obtain ⟨hlt, hp, _⟩ := List.findIdx?_eq_some_iff_getElem.1 h
  simp only [Bool.and_eq_true, decide_eq_true_eq] at hp
  exact ⟨shelves[k], List.getElem?_eq_getElem hlt, Prod.ext hp.1 hp.2⟩

/-- C05 (the predicate `frozen` evaluated by the driver), from the agent side: the shelf under an agent that ends the
step on its cell is still on that cell -/
theorem step_frozen_of_agent {cfg : Cfg} {s : State} (hc : Consistent cfg s) (actions draws : List Int)
    {i : Nat} {ag ag' : Agent} (hi : s.agents[i]? = some ag)
    (hi' : (step cfg s actions draws).1.agents[i]? = some ag') (hx : ag'.x = ag.x) (hy : ag'.y = ag.y)
    (hd : ag'.dir = ag.dir) :
    frozen s (step cfg s actions draws).1 i = true := by
  unfold frozen
  simp only [Jx.getD_of_getElem? _ hi, Jx.getD_of_getElem? _ hi', hx, hy, hd, decide_true, Bool.true_and]
  split
  · rename_i k hk
    obtain ⟨sh, hsk, hps⟩ := shelfIdxAt_some hk
    have hpos : apos ag' = apos ag := by unfold apos; rw [hx, hy]
    have := step_shelf_under_agent hc actions draws hi hi' hpos hsk hps
    obtain ⟨sh', hs', hp'⟩ := Option.map_eq_some_iff.1 this
    rw [Jx.getD_of_getElem? _ hs']
    have e := spos_eq (hp'.trans hps)
    simp [e.1, e.2]
  · rfl

end RobotWarehouse
