/-
RobotWarehouse — C05: the exact effect of a masked-out action.  It is replaced by the no-op, and the
no-op runs `offload_shelf_if_position_is_open`: the agent keeps cell and direction, nothing else in the
world changes, and `is_carrying` becomes `is_carrying && on_highway(cell)`.  So the holdings are lost
exactly when the agent was carrying and does NOT stand on a highway cell (known finding RW1), and kept
in every other case.  `scan_acted` is the general fact behind it: an agent is touched once by the scan, at its
turn, when it is still as at the start, so it ends the step with the record `acted` gives for its action.
-/
import JumanjiModel.Env.RobotWarehouse.Lemmas
import JumanjiModel.Prim.GridLemmas
namespace RobotWarehouse
open Jm

theorem noop_exact (hw : List (List Bool)) (w : World) {i : Nat} {ag : Agent} (hi : w.agents[i]? = some ag) :
    updateAgent hw w 0 i =
      { w with agents := (w.agents.set i
          ({ ag with carrying := ag.carrying && Jx.Grid.getWC hw false ag.x ag.y } : Agent)) } := by
  rw [updateAgent_eq hw w i (by decide), Jx.getWC_idx w.agents default hi, World.acted, acted_noop]

theorem noop_agent (hw : List (List Bool)) (w : World) {i : Nat} {ag : Agent} (hi : w.agents[i]? = some ag) :
    (updateAgent hw w 0 i).shelfGrid = w.shelfGrid ∧ (updateAgent hw w 0 i).agentGrid = w.agentGrid ∧
    (updateAgent hw w 0 i).shelves = w.shelves ∧
    (∀ (j : Nat), j ≠ i → (updateAgent hw w 0 i).agents[j]? = w.agents[j]?) ∧
    (updateAgent hw w 0 i).agents[i]? =
      some { ag with carrying := ag.carrying && Jx.Grid.getWC hw false ag.x ag.y } := by
  rw [noop_exact hw w hi]
  refine ⟨rfl, rfl, rfl, fun j hj => List.getElem?_set_ne (Ne.symm hj), List.getElem?_set_self (Jx.lt_of_getElem? hi)⟩

theorem grid_setWD_dims (g : IGrid) (r c v : Int) :
    gRows (Jx.Grid.setWD g r c v) = gRows g ∧ gCols (Jx.Grid.setWD g r c v) = gCols g := by
  -- a scatter is a plain `set` at some cell, and `set` keeps the number of rows and every row length
  obtain ⟨r', c', e⟩ := Jx.Grid.setWD_eq_set g r c v
  have hc : ∀ x : IGrid, gCols x = Jx.Grid.rowLen x 0 := fun x => by cases x <;> rfl
  rw [e, hc, hc, Jx.Grid.rowLen_set]
  exact ⟨Jx.Grid.set_length g r' c' v, rfl⟩

theorem updateAgent_dims (hw : List (List Bool)) (w : World) (a : Int) (i : Nat) :
    gRows (updateAgent hw w a i).shelfGrid = gRows w.shelfGrid ∧
    gCols (updateAgent hw w a i).shelfGrid = gCols w.shelfGrid := by
  by_cases ha : a = 1
  · subst ha
    unfold updateAgent forward
    simp only [if_true]
    split
    · exact ⟨(grid_setWD_dims _ _ _ _).1.trans (grid_setWD_dims _ _ _ _).1,
        (grid_setWD_dims _ _ _ _).2.trans (grid_setWD_dims _ _ _ _).2⟩
    · exact ⟨rfl, rfl⟩
  · rw [updateAgent_eq hw w i ha]; exact ⟨rfl, rfl⟩

/-- `b` is what the agent's cell showed when its turn came -/
theorem scan_acted (hw : List (List Bool)) (w0 : World) (as : List Int) {k : Nat} {ag : Agent} {a : Int}
    (hk : w0.agents[k]? = some ag) (ha : as[k]? = some a) :
    ∃ b, (scanAgents hw w0 as 0).agents[k]? =
      some (acted (gRows w0.shelfGrid) (gCols w0.shelfGrid) (Jx.Grid.getWC hw false ag.x ag.y) b ag a) := by
  have := scanAgents_induct hw (fun w i => gRows w.shelfGrid = gRows w0.shelfGrid ∧ gCols w.shelfGrid = gCols w0.shelfGrid ∧
      (i ≤ k → w.agents[k]? = some ag) ∧ (k < i → ∃ b, w.agents[k]? =
        some (acted (gRows w0.shelfGrid) (gCols w0.shelfGrid) (Jx.Grid.getWC hw false ag.x ag.y) b ag a)))
    as w0 0 ⟨rfl, rfl, fun _ => hk, fun h => absurd h (Nat.not_lt_zero k)⟩ fun w m a' ha' ⟨d1, d2, h1, h2⟩ => by
      rw [Nat.zero_add] at h1 h2 ⊢
      have hd := updateAgent_dims hw w a' m
      refine ⟨hd.1.trans d1, hd.2.trans d2, fun hle => ?_, fun hlt => ?_⟩
      · rw [updateAgent_agents_ne hw w a' (by omega)]; exact h1 (by omega)
      · rcases Nat.lt_or_ge k m with hkm | hkm
        · rw [updateAgent_agents_ne hw w a' (by omega)]; exact h2 hkm
        · obtain rfl : m = k := by omega
          rw [ha] at ha'; cases ha'
          exact ⟨_, by rw [updateAgent_self hw w a (h1 (Nat.le_refl m)), World.acted, d1, d2]⟩
  exact this.2.2.2 (by rw [Nat.zero_add]; exact Jx.lt_of_getElem? ha)

theorem step_agents_eq (cfg : Cfg) (s : State) (actions draws : List Int) :
    (step cfg s actions draws).1.agents =
      (scanAgents cfg.highways s.world (validActions s.mask actions) 0).agents := rfl

/-- C04 / C05, every agent (ALL states, joint actions, draws); `a` is the action `get_valid_actions` lets through -/
theorem step_agent (cfg : Cfg) (s : State) (actions draws : List Int) {i : Nat} {ag : Agent} {a : Int}
    (hi : s.agents[i]? = some ag) (ha : (validActions s.mask actions)[i]? = some a) :
    ∃ b, (step cfg s actions draws).1.agents[i]? =
      some (acted (gRows s.shelfGrid) (gCols s.shelfGrid) (Jx.Grid.getWC cfg.highways false ag.x ag.y) b ag a) :=
  scan_acted cfg.highways s.world _ hi ha

end RobotWarehouse
