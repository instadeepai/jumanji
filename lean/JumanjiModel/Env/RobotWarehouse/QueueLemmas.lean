/-
RobotWarehouse — the request queue: every delivery with a draw from the support keeps the queue
duplicate-free, inside the shelf table, and in agreement with the `is_requested` flags; shelf
positions are never touched by the goal scan.
-/
import JumanjiModel.Env.RobotWarehouse.Model
import JumanjiModel.Prim.ListLemmas
namespace RobotWarehouse
open Jm

theorem nodup_set_fresh {l : List Int} (h : l.Nodup) (j : Nat) {b : Int} (hb : b ∉ l) : (l.set j b).Nodup := by
  induction l generalizing j with
  | nil => simp
  | cons c l ih =>
    cases j with
    | zero => simp_all
    | succ j =>
      simp only [List.set_cons_succ, List.nodup_cons] at h ⊢
      refine ⟨?_, ih h.2 j (fun hh => hb (List.mem_cons_of_mem _ hh))⟩
      intro hc
      rcases List.mem_or_eq_of_mem_set hc with h1 | h1
      · exact h.1 h1
      · exact hb (by simp [h1])

theorem mem_set_nodup {l : List Int} (h : l.Nodup) {j : Nat} {a b x : Int} (hj : l[j]? = some a) :
    x ∈ l.set j b ↔ x = b ∨ (x ∈ l ∧ x ≠ a) := by
  induction l generalizing j with
  | nil => simp at hj
  | cons c l ih =>
    cases j with
    | zero =>
      simp at hj; subst hj
      simp only [List.set_cons_zero, List.mem_cons, List.nodup_cons] at h ⊢
      grind
    | succ j =>
      simp only [List.getElem?_cons_succ] at hj
      simp only [List.set_cons_succ, List.mem_cons, List.nodup_cons] at h ⊢
      rw [ih h.2 hj]
      have : a ∈ l := List.mem_of_getElem? hj
      grind

/-- the request-queue part of `Consistent` -/
structure QInv (queue : List Int) (shelves : List Shelf) : Prop where
  nd : queue.Nodup
  range : ∀ q ∈ queue, 0 ≤ q ∧ q < (shelves.length : Int)
  qreq : ∀ k, k < shelves.length →
    ((shelves.getD k default).requested = 1 ↔ queue.contains (k : Int) = true)
  req01 : ∀ sh ∈ shelves, sh.requested = 0 ∨ sh.requested = 1

/-- the delivered request `a` (at queue position `j`) is replaced by a shelf id `b` not in the queue, and the
two flags follow -/
theorem QInv.replace {queue : List Int} {shelves : List Shelf} (h : QInv queue shelves) {a b j : Nat}
    (hjv : queue[j]? = some (a : Int)) (ha : a < shelves.length) (hb : b < shelves.length)
    (hbq : (b : Int) ∉ queue) :
    QInv (queue.set j (b : Int))
      ((shelves.set a { shelves.getD a default with requested := 0 }).set b
        { (shelves.set a { shelves.getD a default with requested := 0 }).getD b default with requested := 1 }) := by
  refine ⟨nodup_set_fresh h.nd _ hbq, ?_, ?_, ?_⟩
  · intro q hq
    simp only [List.length_set]
    rcases List.mem_or_eq_of_mem_set hq with h1 | h1
    · exact h.range q h1
    · subst h1
      omega
  · intro k hk
    simp only [List.length_set] at hk
    have hmem := mem_set_nodup (b := (b : Int)) (x := (k : Int)) h.nd hjv
    have hold := h.qreq k hk
    simp only [List.contains_iff_mem] at hold ⊢
    rw [hmem]
    simp only [Jx.getD_set, List.length_set]
    by_cases hkb : b = k
    · subst hkb
      simp [hb]
    · by_cases hka : a = k
      · subst hka
        simp [hkb, ha]
        omega
      · simp only [hkb, hka, false_and, if_false]
        rw [hold]
        constructor
        · intro hh; exact Or.inr ⟨hh, by omega⟩
        · rintro (hh | hh)
          · omega
          · exact hh.1
  · intro sh hsh
    rcases List.mem_or_eq_of_mem_set hsh with h1 | h1
    · rcases List.mem_or_eq_of_mem_set h1 with h2 | h2
      · exact h.req01 sh h2
      · subst h2; exact Or.inl rfl
    · subst h1; exact Or.inr rfl

theorem set_requested_spos (xs : List Shelf) (i : Nat) (r : Int) (k : Nat) :
    ((xs.set i { xs.getD i default with requested := r })[k]?).map spos = (xs[k]?).map spos := by
  rw [List.getElem?_set]
  by_cases h1 : i = k
  · subst h1
    by_cases h2 : i < xs.length
    · simp [h2, List.getD_eq_getElem?_getD, spos]
    · simp [h2]
  · simp [h1]

theorem setWD_getWC_spos (xs : List Shelf) (i : Int) (r : Int) (k : Nat) :
    ((Jx.setWD xs i { Jx.getWC xs default i with requested := r })[k]?).map spos = (xs[k]?).map spos := by
  unfold Jx.setWD
  simp only []
  split
  · rfl
  · split
    · rfl
    · rename_i h1 h2
      have e : Jx.getWC xs default i = xs.getD (Jx.wrapIdx xs.length i).toNat default := by
        unfold Jx.getWC Jx.clampIdx
        simp only [h1, h2, if_false]
      rw [e]
      exact set_requested_spos xs _ r k

theorem processGoal_spos (sg : IGrid) (dv : Deliv) (g : Int × Int) (d : Int) (k : Nat) :
    ((processGoal sg dv g d).shelves[k]?).map spos = (dv.shelves[k]?).map spos := by
  unfold processGoal
  split
  · simp only []
    exact (setWD_getWC_spos _ d 1 k).trans (setWD_getWC_spos _ _ 0 k)
  · rfl

theorem scanGoals_spos (sg : IGrid) : ∀ (gs : List (Int × Int)) (dv : Deliv) (ds : List Int) (k : Nat),
    ((scanGoals sg dv gs ds).shelves[k]?).map spos = (dv.shelves[k]?).map spos := by
  intro gs
  induction gs with
  | nil => intro dv ds k; rfl
  | cons g gs ih =>
    intro dv ds k
    simp only [scanGoals]
    exact (ih _ _ k).trans (processGoal_spos sg dv g _ k)

theorem validDraws_cons {sg : IGrid} {dv : Deliv} {g : Int × Int} {gs : List (Int × Int)} {ds : List Int}
    (hv : validDraws sg dv (g :: gs) ds = true) :
    (goalFires sg dv.queue g = true → 0 ≤ ds.headD 0 ∧ ds.headD 0 < (dv.shelves.length : Int) ∧
      dv.queue.contains (ds.headD 0) = false) ∧
    validDraws sg (processGoal sg dv g (ds.headD 0)) gs ds.tail = true := by
  simp only [validDraws, Bool.and_eq_true, Bool.or_eq_true, Bool.not_eq_true', decide_eq_true_eq] at hv
  refine ⟨fun hf => ?_, hv.2⟩
  rcases hv.1 with hv1 | hv1
  · rw [hf] at hv1
    cases hv1
  · exact ⟨hv1.1.1, hv1.1.2, hv1.2⟩

theorem processGoal_inv (sg : IGrid) (dv : Deliv) (g : Int × Int) (d : Int)
    (h : QInv dv.queue dv.shelves)
    (hd : goalFires sg dv.queue g = true →
      0 ≤ d ∧ d < (dv.shelves.length : Int) ∧ dv.queue.contains d = false) :
    QInv (processGoal sg dv g d).queue (processGoal sg dv g d).shelves := by
  unfold processGoal
  split
  case isFalse => exact h
  rename_i hf
  obtain ⟨hd0, hd1, hdq⟩ := hd hf
  unfold goalFires at hf
  simp only [Bool.and_eq_true, decide_eq_true_eq, List.contains_iff_mem, List.mem_map] at hf
  obtain ⟨_, v, hv, hvs⟩ := hf
  generalize Jx.Grid.getWC sg 0 g.2 g.1 = sid at hvs ⊢
  have e1 : sid - 1 = v := by omega
  obtain ⟨hv0, hv1⟩ := h.range v hv
  obtain ⟨a, rfl⟩ : ∃ a : Nat, v = (a : Int) := ⟨v.toNat, by omega⟩
  obtain ⟨b, rfl⟩ : ∃ b : Nat, d = (b : Int) := ⟨d.toNat, by omega⟩
  have ha : a < dv.shelves.length := by omega
  have hb : b < dv.shelves.length := by omega
  have hbq : (b : Int) ∉ dv.queue := by
    intro hh
    have : dv.queue.contains (b : Int) = true := by simpa using hh
    rw [this] at hdq; cases hdq
  have hcon : dv.queue.contains (a : Int) = true := by simpa using hv
  have hj : dv.queue.idxOf (a : Int) < dv.queue.length := List.idxOf_lt_length_of_mem hv
  have hjv : dv.queue[dv.queue.idxOf (a : Int)]? = some (a : Int) := by
    rw [List.getElem?_eq_getElem hj, List.getElem_idxOf]
  simp only [e1, firstIdx, hcon, if_true]
  rw [Jx.setWD_natCast dv.queue, Jx.getWC_nat dv.shelves default ha, Jx.setWD_natCast dv.shelves]
  rw [Jx.getWC_nat _ default (by simpa using hb), Jx.setWD_natCast]
  exact h.replace hjv ha hb hbq

theorem scanGoals_inv (sg : IGrid) : ∀ (gs : List (Int × Int)) (dv : Deliv) (ds : List Int),
    QInv dv.queue dv.shelves → validDraws sg dv gs ds = true →
    QInv (scanGoals sg dv gs ds).queue (scanGoals sg dv gs ds).shelves := by
  intro gs
  induction gs with
  | nil => intro dv ds h _; exact h
  | cons g gs ih =>
    intro dv ds h hv
    obtain ⟨hd, hv2⟩ := validDraws_cons hv
    simp only [scanGoals]
    exact ih (processGoal sg dv g (ds.headD 0)) ds.tail (processGoal_inv sg dv g (ds.headD 0) h hd) hv2

end RobotWarehouse
