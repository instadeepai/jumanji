/- RobotWarehouse — what holds of every `step` by construction: what one agent's turn does to the world (`acted`,
`updateAgent_eq`), the induction along the per-agent scan, table lengths, the emitted timestep (`step_ts`: when a step is LAST, the counter and the time limit, the observation). -/
import JumanjiModel.Env.RobotWarehouse.Model
import JumanjiModel.Core.TimeStepLemmas
import JumanjiModel.Prim.ListLemmas
namespace RobotWarehouse
open Jm

theorem validActions_cons (row : List Bool) (rows : List (List Bool)) (a : Int) (as : List Int) :
    validActions (row :: rows) (a :: as) =
      (if Jx.getWC row false a then a else 0) :: validActions rows as := rfl

theorem validActions_getElem? {mask : List (List Bool)} {actions : List Int} {i : Nat} {row : List Bool} {a : Int}
    (hrow : mask[i]? = some row) (ha : actions[i]? = some a) :
    (validActions mask actions)[i]? = some (if Jx.getWC row false a then a else 0) := by
  unfold validActions
  rw [List.getElem?_zipWith, hrow, ha]

theorem validActions_length_le (mask : List (List Bool)) (actions : List Int) :
    (validActions mask actions).length ≤ mask.length := by
  unfold validActions; simp [List.length_zipWith]; omega

theorem getWC_int {α} (xs : List α) (d : α) {i : Nat} {v : Int} {e : α} (h : xs[i]? = some e)
    (hv : v = (i : Int) + 1) : Jx.getWC xs d (v - 1) = e := by
  have : v - 1 = (i : Int) := by omega
  rw [this]; exact Jx.getWC_idx xs d h

/-- the record of agent `ag` after it has played `a` on an `R × C` floor (`utils_agent.py`: `set_new_position_after_forward`,
`rotate_agent`, `set_agent_carrying_if_at_shelf_position`, and `offload_shelf_if_position_is_open` for EVERY other action);
`hwy`: its cell is a highway cell, `onShelf`: its cell shows a shelf (read by TOGGLE_LOAD of an empty-handed agent only) -/
def acted (R C : Nat) (hwy onShelf : Bool) (ag : Agent) (a : Int) : Agent :=
  if a = 1 then { ag with x := (newPos R C ag.x ag.y ag.dir).1, y := (newPos R C ag.x ag.y ag.dir).2 }
  else if a = 2 ∨ a = 3 then { ag with dir := turnDir a ag.dir }
  else if a = 4 ∧ ag.carrying = false then { ag with carrying := onShelf }
  else { ag with carrying := ag.carrying && hwy }

/-- … with the floor size and the two bits as `updateAgent` reads them off the world `w` -/
def World.acted (hw : List (List Bool)) (w : World) (ag : Agent) (a : Int) : Agent :=
  RobotWarehouse.acted (gRows w.shelfGrid) (gCols w.shelfGrid) (Jx.Grid.getWC hw false ag.x ag.y)
    (decide (Jx.Grid.getWC w.shelfGrid 0 ag.x ag.y > 0)) ag a

theorem acted_forward (R C : Nat) (h b : Bool) (ag : Agent) :
    acted R C h b ag 1 = { ag with x := (newPos R C ag.x ag.y ag.dir).1, y := (newPos R C ag.x ag.y ag.dir).2 } :=
  if_pos rfl

theorem acted_noop (R C : Nat) (h b : Bool) (ag : Agent) :
    acted R C h b ag 0 = { ag with carrying := ag.carrying && h } := by
  simp [acted]

theorem acted_apos {R C : Nat} {h b : Bool} {ag : Agent} {a : Int} (ha : a ≠ 1) : apos (acted R C h b ag a) = apos ag := by
  unfold acted
  rw [if_neg ha]
  split
  · rfl
  split <;> rfl

theorem turnDir_range (a d : Int) : 0 ≤ turnDir a d ∧ turnDir a d < 4 := by
  unfold turnDir
  generalize Jx.getWC [0, 0, -1, 1, 0] 0 a = δ
  omega

theorem acted_dir {R C : Nat} {h b : Bool} {ag : Agent} {a : Int} (hd : 0 ≤ ag.dir ∧ ag.dir < 4) :
    0 ≤ (acted R C h b ag a).dir ∧ (acted R C h b ag a).dir < 4 := by
  unfold acted
  split
  · exact hd
  split
  · exact turnDir_range a ag.dir
  split <;> exact hd

theorem acted_carrying {R C : Nat} {h b : Bool} {ag : Agent} {a : Int} (hc : (acted R C h b ag a).carrying = true) :
    ag.carrying = true ∨ (a = 4 ∧ b = true) := by
  unfold acted at hc
  split at hc
  · exact Or.inl hc
  split at hc
  · exact Or.inl hc
  split at hc
  · rename_i h4
    exact Or.inr ⟨h4.1, hc⟩
  · simp only [Bool.and_eq_true] at hc
    exact Or.inl hc.1

/-- no hypothesis on `i`: an index beyond the table reads the clamped row and writes nothing, as `lax` gather / scatter do -/
theorem updateAgent_eq (hw : List (List Bool)) (w : World) {a : Int} (i : Nat) (ha : a ≠ 1) :
    updateAgent hw w a i = { w with agents := w.agents.set i (w.acted hw (Jx.getWC w.agents default (i : Int)) a) } := by
  unfold updateAgent turnOrToggle World.acted acted
  generalize e : Jx.getWC w.agents default (i : Int) = ag
  have key : w = { w with agents := w.agents.set i ag } := by
    rw [← e, Jx.set_getWC_self w.agents default i]
  obtain ⟨x, y, d, c⟩ := ag
  simp only [Jx.setWD_natCast, if_neg ha]
  by_cases h2 : a = 2 ∨ a = 3
  · simp only [h2, if_true]
  · simp only [h2, if_false]
    by_cases h3 : a = 4 ∧ c = false
    · simp only [h3, and_self, if_true]
      obtain ⟨_, rfl⟩ := h3
      by_cases hcell : Jx.Grid.getWC w.shelfGrid 0 x y > 0
      · simp only [hcell, if_true, decide_true]
      · simp only [hcell, if_false, decide_false]
        exact key
    · simp only [h3, if_false]
      cases hh : Jx.Grid.getWC hw false x y
      · simp
      · simp only [Bool.not_true, Bool.false_eq_true, if_false, Bool.and_true]
        exact key

theorem forward_agents (hw : List (List Bool)) (w : World) (i : Nat) :
    (forward w i).agents = w.agents.set i (w.acted hw (Jx.getWC w.agents default (i : Int)) 1) := by
  unfold forward World.acted
  simp only [Jx.setWD_natCast, acted_forward]
  split <;> rfl

theorem updateAgent_agents (hw : List (List Bool)) (w : World) (a : Int) (i : Nat) :
    (updateAgent hw w a i).agents = w.agents.set i (w.acted hw (Jx.getWC w.agents default (i : Int)) a) := by
  by_cases ha : a = 1
  · subst ha; exact forward_agents hw w i
  · rw [updateAgent_eq hw w i ha]

theorem updateAgent_self (hw : List (List Bool)) (w : World) (a : Int) {i : Nat} {ag : Agent}
    (hi : w.agents[i]? = some ag) : (updateAgent hw w a i).agents[i]? = some (w.acted hw ag a) := by
  rw [updateAgent_agents, Jx.getWC_idx w.agents default hi, List.getElem?_set_self (Jx.lt_of_getElem? hi)]

theorem updateAgent_agents_ne (hw : List (List Bool)) (w : World) (a : Int) {i j : Nat} (h : j ≠ i) :
    (updateAgent hw w a i).agents[j]? = w.agents[j]? := by
  rw [updateAgent_agents, List.getElem?_set_ne (Ne.symm h)]

theorem forward_shelves_length (w : World) (i : Nat) : (forward w i).shelves.length = w.shelves.length := by
  unfold forward; simp only []
  split <;> simp [Jx.setWD_length]

theorem updateAgent_lengths (hw : List (List Bool)) (w : World) (a : Int) (i : Nat) :
    (updateAgent hw w a i).agents.length = w.agents.length ∧
    (updateAgent hw w a i).shelves.length = w.shelves.length := by
  refine ⟨by rw [updateAgent_agents, List.length_set], ?_⟩
  by_cases ha : a = 1
  · subst ha; exact forward_shelves_length w i
  · rw [updateAgent_eq hw w i ha]

theorem scanAgents_induct (hw : List (List Bool)) (P : World → Nat → Prop) :
    ∀ (as : List Int) (w : World) (i : Nat), P w i →
      (∀ (w : World) (m : Nat) (a : Int), as[m]? = some a → P w (i + m) → P (updateAgent hw w a (i + m)) (i + m + 1)) →
      P (scanAgents hw w as i) (i + as.length) := by
  intro as
  induction as with
  | nil => intro w i h _; exact h
  | cons a as ih =>
    intro w i h hstep
    simp only [scanAgents, List.length_cons]
    rw [show i + (as.length + 1) = i + 1 + as.length by omega]
    refine ih _ (i + 1) (hstep w 0 a rfl h) (fun w m b hb hP => ?_)
    have := hstep w (m + 1) b (by simpa using hb) (by rw [← Nat.add_assoc, Nat.add_right_comm]; exact hP)
    rw [← Nat.add_assoc, Nat.add_right_comm] at this
    exact this

theorem scanAgents_lengths (hw : List (List Bool)) (w : World) (as : List Int) (i : Nat) :
    (scanAgents hw w as i).agents.length = w.agents.length ∧
    (scanAgents hw w as i).shelves.length = w.shelves.length :=
  scanAgents_induct hw (fun w' _ => w'.agents.length = w.agents.length ∧ w'.shelves.length = w.shelves.length)
    as w i ⟨rfl, rfl⟩ fun w' _ a _ h =>
      ⟨(updateAgent_lengths hw w' a _).1.trans h.1, (updateAgent_lengths hw w' a _).2.trans h.2⟩

theorem processGoal_lengths (sg : IGrid) (dv : Deliv) (g : Int × Int) (d : Int) :
    (processGoal sg dv g d).queue.length = dv.queue.length ∧
    (processGoal sg dv g d).shelves.length = dv.shelves.length := by
  unfold processGoal; simp only []
  split <;> simp [Jx.setWD_length]

theorem scanGoals_lengths (sg : IGrid) (dv : Deliv) (gs : List (Int × Int)) (ds : List Int) :
    (scanGoals sg dv gs ds).queue.length = dv.queue.length ∧
    (scanGoals sg dv gs ds).shelves.length = dv.shelves.length := by
  induction gs generalizing dv ds with
  | nil => exact ⟨rfl, rfl⟩
  | cons g gs ih =>
    have h1 := processGoal_lengths sg dv g (ds.headD 0)
    have h2 := ih (processGoal sg dv g (ds.headD 0)) ds.tail
    simp only [scanGoals]
    exact ⟨h2.1.trans h1.1, h2.2.trans h1.2⟩

/-- C07 (conserved): no shelf, agent or queue slot is ever created or destroyed by `step` -/
theorem step_lengths (cfg : Cfg) (s : State) (a d : List Int) :
    (step cfg s a d).1.shelves.length = s.shelves.length ∧
    (step cfg s a d).1.agents.length = s.agents.length ∧
    (step cfg s a d).1.queue.length = s.queue.length := by
  have h1 := scanAgents_lengths cfg.highways s.world (validActions s.mask a) 0
  have h2 := scanGoals_lengths (scanAgents cfg.highways s.world (validActions s.mask a) 0).shelfGrid
    ⟨s.queue, (scanAgents cfg.highways s.world (validActions s.mask a) 0).shelves, 0⟩ cfg.goals d
  simp only [step]
  exact ⟨h2.2.trans h1.2, h1.1, h2.1⟩

/-- the world after all agents have moved (the per-agent scan of `step`) -/
def afterMoves (cfg : Cfg) (s : State) (a : List Int) : World :=
  scanAgents cfg.highways s.world (validActions s.mask a) 0

/-- `is_collision` reports nothing after the joint action `a` -/
def NoCollision (cfg : Cfg) (s : State) (a : List Int) : Prop :=
  (collisions (afterMoves cfg s a)).any id = false

instance (cfg : Cfg) (s : State) (a : List Int) : Decidable (NoCollision cfg s a) := by
  unfold NoCollision; infer_instance

/-- the timestep `step` emits: `lax.cond(collision | horizon_reached, termination, transition, reward, next_observation)` -/
theorem step_ts (cfg : Cfg) (s : State) (a d : List Int) : (step cfg s a d).2 =
    condLast ((collisions (afterMoves cfg s a)).any id || decide (s.stepCount + 1 ≥ cfg.timeLimit))
      [(scanGoals (afterMoves cfg s a).shelfGrid ⟨s.queue, (afterMoves cfg s a).shelves, 0⟩ cfg.goals d).reward]
      (resetObs cfg (step cfg s a d).1) := rfl

theorem last_iff (cfg : Cfg) (s : State) (a d : List Int) :
    (step cfg s a d).2.stepType = .last ↔ (¬ NoCollision cfg s a ∨ s.stepCount + 1 ≥ cfg.timeLimit) := by
  rw [step_ts, condLast_last_iff, Bool.or_eq_true, decide_eq_true_iff, NoCollision, Bool.not_eq_false]

theorem mid_iff (cfg : Cfg) (s : State) (a d : List Int) :
    (step cfg s a d).2.stepType = .mid ↔ (NoCollision cfg s a ∧ s.stepCount + 1 < cfg.timeLimit) := by
  rw [step_ts, condLast_mid_iff, Bool.or_eq_false_iff, decide_eq_false_iff_not, NoCollision, Int.not_le]

/-- C11: the counter advances by one and the step is LAST once it reaches the limit -/
theorem time_limit (cfg : Cfg) (s : State) (a d : List Int) :
    (step cfg s a d).1.stepCount = s.stepCount + 1 ∧
    (s.stepCount + 1 ≥ cfg.timeLimit → (step cfg s a d).2.stepType = .last) :=
  ⟨rfl, fun h => (last_iff cfg s a d).2 (Or.inr h)⟩

theorem step_obs (cfg : Cfg) (s : State) (a d : List Int) :
    (step cfg s a d).2.obs = resetObs cfg (step cfg s a d).1 := by
  rw [step_ts, condLast_obs]

/-- C12 (copied fields + cached mask) -/
theorem obs_copied (cfg : Cfg) (s : State) (a d : List Int) :
    (step cfg s a d).2.obs.mask = (step cfg s a d).1.mask ∧
    (step cfg s a d).2.obs.stepCount = (step cfg s a d).1.stepCount ∧
    (step cfg s a d).1.mask = computeMask (step cfg s a d).1.shelfGrid (step cfg s a d).1.agents ∧
    (step cfg s a d).2.obs.view = makeObservations cfg (step cfg s a d).1.world := by
  rw [step_obs]; exact ⟨rfl, rfl, rfl, rfl⟩

end RobotWarehouse
