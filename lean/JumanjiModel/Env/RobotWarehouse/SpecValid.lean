/-
RobotWarehouse — C01 spec membership: the declared specs as `Sp` values (the number of agents `A` is the generator's
argument, not part of `Cfg`), the invariant `SpecInv` (`A` agents, a cached `(A, 5)` mask, a non-negative counter) established
by the generator for every draw and preserved by EVERY step (any list of integers as joint action, any list of integers as
draw, MID or LAST — a step ended by a collision included), and from it membership of the observations of `reset`, of every
`step` and along whole plays.
`agents_view` is declared as an UNBOUNDED `specs.Array`: membership is shape and dtype only.
-/
import JumanjiModel.Env.RobotWarehouse.Lemmas
import JumanjiModel.Env.RobotWarehouse.EpisodeLemmas
import JumanjiModel.Env.SpecMembership
namespace RobotWarehouse
open Jm Sp PzS PkS MaS

/-! ### the declared specs (env.py `observation_spec`, `action_spec`; reward / discount: the defaults of `Environment`) -/

/-- `observation_spec`: `agents_view` Array((A, num_obs_features), int32), `action_mask` BoundedArray((A, 5), bool, False, True),
`step_count` BoundedArray((), int32, 0, time_limit) -/
def obsSpec (cfg : Cfg) (A : Nat) : Sp.Nested :=
  [("agents_view", .array [A, numFeatures cfg.sensorRange] .int32 "agents_view"),
   ("action_mask", .bounded [A, 5] .bool "action_mask" [] [0] [] [1]),
   ("step_count", .bounded [] .int32 "step_count" [] [0] [] [(cfg.timeLimit : Rat)])]

/-- `action_spec`: MultiDiscreteArray([5] * A, int32) -/
def actionSpec (A : Nat) : Leaf := actionSpecN A 5

/-- a model observation as the arrays the implementation emits; the shapes are READ OFF the values -/
def toNValue (o : Obs) : NValue :=
  [("agents_view", ⟨shape2 o.view, .int32, ofInts o.view.flatten⟩),
   ("action_mask", ⟨shape2 o.mask, .bool, ofBools o.mask.flatten⟩),
   ("step_count", ⟨[], .int32, [(o.stepCount : Rat)]⟩)]

/-- the timestep `reset` builds on a generated state -/
def resetTs (cfg : Cfg) (s : State) : TimeStep Obs := restart (resetObs cfg s)

/-- rectangular values of the declared shapes and the counter in range: more than membership asks (`obs_valid_iff`) -/
def ObsOK (cfg : Cfg) (A : Nat) (o : Obs) : Prop :=
  Rect2 o.view A (numFeatures cfg.sensorRange) ∧ Rect2 o.mask A 5 ∧ 0 ≤ o.stepCount ∧ o.stepCount ≤ cfg.timeLimit

theorem obs_valid_iff (cfg : Cfg) (A : Nat) (o : Obs) : (obsSpec cfg A).valid (toNValue o) = true ↔
    shape2 o.view = [A, numFeatures cfg.sensorRange] ∧ o.view.flatten.length = A * numFeatures cfg.sensorRange ∧
    shape2 o.mask = [A, 5] ∧ o.mask.flatten.length = A * 5 ∧ 0 ≤ o.stepCount ∧ o.stepCount ≤ cfg.timeLimit := by
  simp only [obsSpec, toNValue, valid_cons, valid_nil, valid_scalar_bounded_iff, valid_array_iff, forall_ofBools,
    ofInts_length, ofBools_length, prod_two, prod_nil, List.forall_mem_singleton, List.length_singleton,
    Rat.intCast_nonneg, Rat.intCast_le_intCast, true_and, and_true, and_assoc]

theorem obs_valid (cfg : Cfg) (A : Nat) (hA : 0 < A) (o : Obs) (h : ObsOK cfg A o) :
    (obsSpec cfg A).valid (toNValue o) = true :=
  have ⟨h1, h2, h3, h4⟩ := h
  (obs_valid_iff cfg A o).2 ⟨(shape2_of_rect h1 hA).1, (shape2_of_rect h1 hA).2, (shape2_of_rect h2 hA).1,
    (shape2_of_rect h2 hA).2, h3, h4⟩

theorem obs_valid_only (cfg : Cfg) (A : Nat) (o : Obs) (h : (obsSpec cfg A).valid (toNValue o) = true) :
    shape2 o.view = [A, numFeatures cfg.sensorRange] ∧ o.view.flatten.length = A * numFeatures cfg.sensorRange ∧
    shape2 o.mask = [A, 5] ∧ o.mask.flatten.length = A * 5 ∧ 0 ≤ o.stepCount ∧ o.stepCount ≤ cfg.timeLimit :=
  (obs_valid_iff cfg A o).1 h

theorem dynUpdate_length (obs : List Int) (idx : Int) (data : List Int) : (dynUpdate obs idx data).length = obs.length := by
  unfold dynUpdate
  split
  · rfl
  · rename_i hle
    simp only []
    generalize hst : (if idx < 0 then (0 : Int) else if idx > (obs.length : Int) - data.length then (obs.length : Int) - data.length
      else idx).toNat = st
    have hb : st + data.length ≤ obs.length := by
      rw [← hst]
      split
      · simp; omega
      · split <;> omega
    simp only [List.length_append, List.length_take, List.length_drop]
    omega

theorem agentSensorScan_length (agents : List Agent) (me : Nat) : ∀ (vs : List Int) (acc : List Int × Int),
    (agentSensorScan agents me acc vs).1.length = acc.1.length := by
  intro vs
  induction vs with
  | nil => intro acc; rfl
  | cons v vs ih =>
    intro acc
    obtain ⟨obs, idx⟩ := acc
    simp only [agentSensorScan]
    split
    · rw [ih]
    · rw [ih]; simp only [dynUpdate_length]

theorem shelfSensorScan_length (shelves : List Shelf) : ∀ (vs : List Int) (acc : List Int × Int),
    (shelfSensorScan shelves acc vs).1.length = acc.1.length := by
  intro vs
  induction vs with
  | nil => intro acc; rfl
  | cons v vs ih =>
    intro acc
    obtain ⟨obs, idx⟩ := acc
    simp only [shelfSensorScan]
    split
    · rw [ih]
    · rw [ih]; simp only [dynUpdate_length]

theorem agentObs_length (cfg : Cfg) (w : World) (i : Nat) : (agentObs cfg w i).length = numFeatures cfg.sensorRange := by
  unfold agentObs
  simp only [shelfSensorScan_length, agentSensorScan_length, dynUpdate_length, List.length_replicate]

theorem makeObservations_rect (cfg : Cfg) (w : World) :
    Rect2 (makeObservations cfg w) w.agents.length (numFeatures cfg.sensorRange) := by
  refine ⟨by simp [makeObservations], ?_⟩
  intro r hr
  simp only [makeObservations, List.mem_map] at hr
  obtain ⟨i, _, rfl⟩ := hr
  exact agentObs_length cfg w i

theorem computeMask_rect (sg : IGrid) (agents : List Agent) : Rect2 (computeMask sg agents) agents.length 5 := by
  refine ⟨by simp [computeMask], ?_⟩
  intro r hr
  simp only [computeMask, List.mem_map] at hr
  obtain ⟨ag, _, rfl⟩ := hr
  simp

/-- `A` agents, a cached mask of shape `(A, 5)`, a non-negative counter — nothing about the floor -/
def SpecInv (A : Nat) (s : State) : Prop := s.agents.length = A ∧ Rect2 s.mask A 5 ∧ 0 ≤ s.stepCount

instance (A : Nat) (s : State) : Decidable (SpecInv A s) := by unfold SpecInv Rect2; infer_instance

theorem step_specInv (cfg : Cfg) (A : Nat) (s : State) (h : SpecInv A s) (a d : List Int) :
    SpecInv A (step cfg s a d).1 := by
  obtain ⟨h1, _, h3⟩ := h
  have hl := (step_lengths cfg s a d).2.1
  refine ⟨by rw [hl, h1], ?_, by rw [(time_limit cfg s a d).1]; omega⟩
  rw [(obs_copied cfg s a d).2.2.1, ← h1, ← hl]
  exact computeMask_rect _ _

theorem generate_specInv (cfg : Cfg) (numAgents queueSize : Nat) (d : SpawnDraw)
    (hd : validSpawn numAgents queueSize cfg.highways d = true) : SpecInv numAgents (generate cfg d) := by
  unfold validSpawn at hd
  simp only [Bool.and_eq_true, decide_eq_true_eq] at hd
  obtain ⟨⟨⟨⟨⟨⟨⟨h1, h2⟩, _⟩, _⟩, _⟩, _⟩, _⟩, _⟩ := hd
  have hl : (generate cfg d).agents.length = numAgents := by simp [generate, genState, h1, h2]
  refine ⟨hl, ?_, by show (0 : Int) ≤ 0; omega⟩
  rw [← hl]
  exact computeMask_rect _ _

theorem resetObs_ok (cfg : Cfg) (A : Nat) (s : State) (h : SpecInv A s) (hT : s.stepCount ≤ cfg.timeLimit) :
    ObsOK cfg A (resetObs cfg s) := by
  obtain ⟨h1, h2, h3⟩ := h
  refine ⟨?_, h2, h3, hT⟩
  have := makeObservations_rect cfg s.world
  rw [show s.world.agents.length = A from h1] at this
  exact this

/-- C01: the `reset` observation built on ANY state with the invariant and counter 0 -/
theorem reset_obs_valid (cfg : Cfg) (A : Nat) (hA : 0 < A) (hT : 0 ≤ cfg.timeLimit) (s : State) (h : SpecInv A s)
    (h0 : s.stepCount = 0) : (obsSpec cfg A).valid (toNValue (resetTs cfg s).obs) = true :=
  obs_valid cfg A hA _ (resetObs_ok cfg A s h (by omega))

theorem step_obs_ok (cfg : Cfg) (A : Nat) (s : State) (h : SpecInv A s) (hlim : s.stepCount < cfg.timeLimit)
    (a d : List Int) : ObsOK cfg A (step cfg s a d).2.obs :=
  step_obs cfg s a d ▸ resetObs_ok cfg A _ (step_specInv cfg A s h a d) (by rw [(time_limit cfg s a d).1]; omega)

/-- C01: the observation of EVERY step (any integers as joint action — in the action space or not, masked or not —, any
integers as draw, MID or LAST, collision or not) -/
theorem step_obs_valid (cfg : Cfg) (A : Nat) (hA : 0 < A) (s : State) (h : SpecInv A s)
    (hlim : s.stepCount < cfg.timeLimit) (a d : List Int) :
    (obsSpec cfg A).valid (toNValue (step cfg s a d).2.obs) = true :=
  obs_valid cfg A hA _ (step_obs_ok cfg A s h hlim a d)

/-- C01, whole plays: the first `time_limit` steps are all an episode has (step `time_limit` is LAST:
`Props.C11.rware_episode_last_by_limit`) -/
theorem run_obs_valid (cfg : Cfg) (A : Nat) (hA : 0 < A) (ps : List (List Int × List Int)) (s : State) (n : Nat)
    (h : SpecInv A s) (hn : s.stepCount = (n : Int)) (j : Nat) (hj : ((n + j : Nat) : Int) < cfg.timeLimit)
    (e : State × TimeStep Obs) (he : (run cfg s ps)[j]? = some e) : (obsSpec cfg A).valid (toNValue e.2.obs) = true := by
  rw [run_eq] at he
  obtain ⟨_, ⟨hi, hc⟩, rfl⟩ := (EpRun.along_true (stepP cfg) s (ps.take j)).entry he
    (fun m t => SpecInv A t ∧ t.stepCount = (m : Int)) ⟨h, hn⟩
    fun m t p ht _ => ⟨step_specInv cfg A t ht.1 _ _, by rw [(time_limit cfg t p.1 p.2).1, ht.2]; omega⟩
  exact step_obs_valid cfg A hA _ hi (by rw [hc]; exact hj) _ _

theorem step_protocol (cfg : Cfg) (s : State) (a d : List Int) : StepOK none false (step cfg s a d).2 = true := by
  unfold step; exact condLast_stepOK _ _ _

theorem step_reward_discount_valid (cfg : Cfg) (s : State) (a d : List Int) :
    PzS.rewardSpec.valid (scalarArr (step cfg s a d).2.reward) = true ∧
    PzS.discountSpec.valid (scalarArr (step cfg s a d).2.discount) = true :=
  stepOK_reward_discount_valid false _ (step_protocol cfg s a d)

theorem reset_reward_discount_valid (cfg : Cfg) (s : State) :
    PzS.rewardSpec.valid (scalarArr (resetTs cfg s).reward) = true ∧
    PzS.discountSpec.valid (scalarArr (resetTs cfg s).discount) = true :=
  PzS3.restart_reward_discount_valid _

/-- `action_spec.generate_value()` is the all-no-op joint action -/
theorem accepts_generate_value (cfg : Cfg) (A : Nat) (hA : 0 < A) (s : State) (h : SpecInv A s)
    (hlim : s.stepCount < cfg.timeLimit) (d : List Int) :
    (actionSpec A).WF = true ∧ (actionSpec A).valid (actionSpec A).generate = true ∧
    (actionSpec A).generate = actionArr (List.replicate A 0) ∧
    StepOK none false (step cfg s (List.replicate A 0) d).2 = true ∧
    (obsSpec cfg A).valid (toNValue (step cfg s (List.replicate A 0) d).2.obs) = true := by
  obtain ⟨w, v, g⟩ := actionSpecN_accepts_generate A 5 (by omega) (by omega)
  exact ⟨w, v, g, step_protocol cfg s _ d, step_obs_valid cfg A hA s h hlim _ d⟩

end RobotWarehouse
