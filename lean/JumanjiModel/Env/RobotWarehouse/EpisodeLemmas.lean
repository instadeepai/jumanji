/-
RobotWarehouse — what the step- and episode-level properties (C05, C11) rest on:
* C05: an action masked out by the cached mask is played exactly as the no-op (`step_masked_eq_noop`: the WHOLE step is
  the same), so with `last_iff` (Lemmas.lean: LAST exactly when a collision is reported or the time limit is reached) an
  illegal action alone never ends the episode;
* C11: `run` iterates `step`; element `k` of a run is the step taken in `stateAt … k`, whose counter is `step_count + k`;
  `sys_exact`: the step system of Core/Episode.lean with the two-sided law, from which the episode-level theorems follow.
-/
import JumanjiModel.Env.RobotWarehouse.RewardLemmas
import JumanjiModel.Core.EpisodeLemmas
namespace RobotWarehouse
open Jm

theorem validActions_set_noop (mask : List (List Bool)) (actions : List Int) {i : Nat} {row : List Bool} {a : Int}
    (hrow : mask[i]? = some row) (ha : actions[i]? = some a) (hm : Jx.getWC row false a = false) :
    validActions mask (actions.set i 0) = validActions mask actions := by
  apply List.ext_getElem?
  intro j
  by_cases hj : j = i
  · subst hj
    rw [validActions_getElem? hrow ha, validActions_getElem? hrow (List.getElem?_set_self (Jx.lt_of_getElem? ha)), hm]
    simp
  · unfold validActions
    rw [List.getElem?_zipWith, List.getElem?_zipWith, List.getElem?_set_ne (Ne.symm hj)]

/-- C05: an action masked out by the cached mask is the no-op for the WHOLE step (successor state and timestep) -/
theorem step_masked_eq_noop (cfg : Cfg) (s : State) (actions draws : List Int) {i : Nat} {row : List Bool} {a : Int}
    (hrow : s.mask[i]? = some row) (ha : actions[i]? = some a) (hm : Jx.getWC row false a = false) :
    step cfg s actions draws = step cfg s (actions.set i 0) draws := by
  unfold step
  rw [validActions_set_noop s.mask actions hrow ha hm]

/-! ### C11, episode level: `run`, `runState`, `stateAt` and `ValidRun` are the trace, the final state, the state after a
prefix and the admissibility of a play (`Core/Play.lean`) of `stepP` -/

abbrev stepP (cfg : Cfg) (s : State) (p : List Int × List Int) : State × TimeStep Obs := step cfg s p.1 p.2

theorem run_eq (cfg : Cfg) (s : State) (ps : Play) : run cfg s ps = EpRun.run (stepP cfg) s ps :=
  EpRun.run_unique (stepP cfg) (run cfg) (fun _ => rfl) (fun _ _ _ => rfl) s ps

theorem runState_eq (cfg : Cfg) (s : State) (ps : Play) : runState cfg s ps = EpRun.after (stepP cfg) s ps :=
  EpRun.after_unique (stepP cfg) (runState cfg) (fun _ => rfl) (fun _ _ _ => rfl) s ps

theorem stateAt_eq (cfg : Cfg) (s : State) (ps : Play) (k : Nat) :
    stateAt cfg s ps k = EpRun.after (stepP cfg) s (ps.take k) := by
  induction ps generalizing s k with
  | nil => cases k <;> rfl
  | cons p ps ih =>
    cases k with
    | zero => rfl
    | succ k => exact ih _ k

theorem validRun_iff (cfg : Cfg) (s : State) (ps : Play) :
    ValidRun cfg s ps ↔ EpRun.Along (stepP cfg) (fun s p => ValidDraw cfg s p.1 p.2 ∧ NoCollision cfg s p.1) s ps :=
  EpRun.along_unique _ _ (ValidRun cfg) (fun _ => trivial) (fun _ _ _ => and_assoc.symm) s ps

theorem run_getElem? (cfg : Cfg) (ps : Play) (s : State) (k : Nat) (p : List Int × List Int) (hp : ps[k]? = some p) :
    (run cfg s ps)[k]? = some (step cfg (stateAt cfg s ps k) p.1 p.2) := by
  obtain ⟨hk, rfl⟩ := List.getElem?_eq_some_iff.1 hp
  rw [run_eq, stateAt_eq, EpRun.run_get _ _ _ _ hk]

theorem stateAt_stepCount (cfg : Cfg) (ps : Play) (s : State) (k : Nat) (hk : k ≤ ps.length) :
    (stateAt cfg s ps k).stepCount = s.stepCount + (k : Int) := by
  rw [stateAt_eq, EpRun.after_take_count (stepP cfg) (·.stepCount) (fun _ _ => rfl) s ps hk]

theorem run_consistent {cfg : Cfg} (ps : Play) (s : State) (hc : Consistent cfg s) (hv : ValidRun cfg s ps) :
    Consistent cfg (runState cfg s ps) :=
  runState_eq cfg s ps ▸ ((validRun_iff cfg s ps).1 hv).inv (Consistent cfg) hc
    fun _ p hc h => step_consistent_nocoll hc p.1 p.2 h.1 h.2

theorem stateAt_consistent {cfg : Cfg} : ∀ (ps : Play) (s : State) (k : Nat), Consistent cfg s → ValidRun cfg s ps →
    Consistent cfg (stateAt cfg s ps k) := fun ps s k hc hv =>
  stateAt_eq cfg s ps k ▸ (((validRun_iff cfg s ps).1 hv).take k).inv (Consistent cfg) hc
    fun _ p hc h => step_consistent_nocoll hc p.1 p.2 h.1 h.2

/-- RobotWarehouse as a step system with the two-sided single-step law: the other cause of LAST is a reported collision -/
theorem sys_exact (cfg : Cfg) :
    Ep.Exact (Ep.ofStep (stepP cfg) (·.stepCount)) (fun _ => True) (fun s p => ¬ NoCollision cfg s p.1) .ge cfg.timeLimit :=
  Ep.Exact.of_step (fun _ _ h => h) (fun _ _ _ => rfl) fun s p _ => last_iff cfg s p.1 p.2

/-- index of the first LAST timestep of a run -/
def firstLast (l : List (State × TimeStep Obs)) : Option Nat :=
  l.findIdx? (fun r => decide (r.2.stepType = .last))

/-- … one less than the 1-based `Ep.firstLastTS` of the rollout -/
theorem firstLastTS_eq (cfg : Cfg) (s : State) (ps : Play) :
    Ep.firstLastTS ((Ep.rollout (stepP cfg) s ps).map (·.2)) = (firstLast (run cfg s ps)).map (· + 1) := by
  rw [Ep.rollout_eq_run, ← run_eq, Ep.firstLastTS_run_eq_findIdx]; rfl

end RobotWarehouse
