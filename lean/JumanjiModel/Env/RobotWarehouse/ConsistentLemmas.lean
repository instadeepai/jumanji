/-
RobotWarehouse — C07 assembled: `step` from a consistent state, with any joint action and any
draw from the support, reaches a consistent state unless `is_collision` reports (a step that is LAST
only because the time limit is reached still ends in a `Consistent` state, which is what lets the run
theorems continue over any play); and the floor picture of a consistent state shows exactly as many
shelves / agents as the tables hold.
-/
import JumanjiModel.Env.RobotWarehouse.StepLemmas
import JumanjiModel.Env.RobotWarehouse.QueueLemmas
namespace RobotWarehouse
open Jm

theorem collisions_false {w : World} (hc : (collisions w).any id = false) {k : Nat} {ag : Agent}
    (hk : w.agents[k]? = some ag) : Jx.Grid.getWC w.agentGrid 0 ag.x ag.y = (k : Int) + 1 := by
  have hlt := Jx.lt_of_getElem? hk
  rw [List.any_eq_false] at hc
  have := hc (decide (Jx.Grid.getWC w.agentGrid 0 ag.x ag.y ≠ (k : Int) + 1)) (by
    unfold collisions
    simp only [List.mem_map, List.mem_range]
    exact ⟨k, hlt, by simp only [Jx.getWC_idx w.agents default hk]⟩)
  simpa using this

theorem clash_collision {w : World} {m : Nat} (h : Clash w m) : (collisions w).any id = true := by
  obtain ⟨j, k, a, b, hjk, _, hj, hk, hab⟩ := h
  obtain ⟨hx, hy⟩ := apos_eq hab
  by_cases hc : (collisions w).any id = true
  · exact hc
  · have hc' : (collisions w).any id = false := by simpa using hc
    have h1 := collisions_false hc' hj
    have h2 := collisions_false hc' hk
    rw [hx, hy] at h1
    omega

theorem shown_of_pos_eq {α} {pos : α → Int × Int} {R C : Nat} {g : IGrid} {es es' : List α}
    (he : ∀ (k : Nat), (es'[k]?).map pos = (es[k]?).map pos) (h : Shown pos R C g es) : Shown pos R C g es' := by
  intro k e' hk
  have h1 := he k
  rw [hk] at h1
  simp only [Option.map_some] at h1
  obtain ⟨e, hek, hp⟩ := Option.map_eq_some_iff.1 h1.symm
  have := h k e hek
  rw [hp] at this
  exact this

theorem backed_of_pos_eq {α} {pos : α → Int × Int} {R C : Nat} {g : IGrid} {es es' : List α}
    (he : ∀ (k : Nat), (es'[k]?).map pos = (es[k]?).map pos) (h : Backed pos R C g es) : Backed pos R C g es' := by
  intro x y hxy hne
  obtain ⟨k, e, hek, hv, hp⟩ := h x y hxy hne
  have h1 := he k
  rw [hek] at h1
  simp only [Option.map_some] at h1
  obtain ⟨e', hek', hp'⟩ := Option.map_eq_some_iff.1 h1
  exact ⟨k, e', hek', hv, hp'.trans hp⟩

/-- the draw lies in the support (same test as the driver's `step` op and `Props.C07.rwareValidDraw`) -/
def ValidDraw (cfg : Cfg) (s : State) (a d : List Int) : Prop :=
  validDraws (afterMoves cfg s a).shelfGrid ⟨s.queue, (afterMoves cfg s a).shelves, 0⟩ cfg.goals d = true

instance (cfg : Cfg) (s : State) (a d : List Int) : Decidable (ValidDraw cfg s a d) := by
  unfold ValidDraw; infer_instance

theorem noCollision_of_not_last {cfg : Cfg} {s : State} {a d : List Int}
    (hn : (step cfg s a d).2.stepType ≠ .last) : NoCollision cfg s a :=
  Decidable.not_not.1 fun h => hn ((last_iff cfg s a d).2 (Or.inl h))

theorem afterMoves_pic {cfg : Cfg} {R C : Nat} {s : State} (h : Good cfg R C s) (a : List Int)
    (hcol : NoCollision cfg s a) :
    Track R C s (afterMoves cfg s a) (validActions s.mask a).length ∧ Pic R C (afterMoves cfg s a) ∧
      QInv s.queue (afterMoves cfg s a).shelves := by
  obtain ⟨htr, hscan⟩ := scan_from_good h a
  unfold NoCollision at hcol
  generalize afterMoves cfg s a = w at htr hscan hcol
  rcases hscan with hcl | hst
  · rw [clash_collision hcl] at hcol; cases hcol
  have hreq : ∀ k, (w.shelves.getD k default).requested = (s.shelves.getD k default).requested := by
    intro k
    have := htr.sreq k
    simp only [List.getD_eq_getElem?_getD]
    cases h1 : w.shelves[k]? <;> cases h2 : s.shelves[k]? <;> simp_all
  refine ⟨htr, hst, h.qnd, ?_, ?_, ?_⟩
  · rw [htr.slen]; exact h.qrange
  · intro k hk
    rw [hreq k]
    exact h.qreq k (htr.slen ▸ hk)
  · intro sh hsh
    obtain ⟨k, hk, rfl⟩ := List.getElem_of_mem hsh
    have hk' : k < s.shelves.length := htr.slen ▸ hk
    rw [← Jx.getD_of_getElem? default (List.getElem?_eq_getElem hk), hreq k,
      Jx.getD_of_getElem? _ (List.getElem?_eq_getElem hk')]
    exact h.req _ (List.getElem_mem hk')

/-- C07: after every step without a collision (the step that reaches the time limit included) the successor
is `Consistent` -/
theorem step_consistent_nocoll {cfg : Cfg} {s : State} (hc : Consistent cfg s) (actions draws : List Int)
    (hv : ValidDraw cfg s actions draws) (hcol : NoCollision cfg s actions) :
    Consistent cfg (step cfg s actions draws).1 := by
  have h := (consistent_iff_good cfg s).1 hc
  generalize hR : gRows s.shelfGrid = R at h
  generalize hC : gCols s.shelfGrid = C at h
  obtain ⟨htr, hst, hq0⟩ := afterMoves_pic h actions hcol
  unfold ValidDraw at hv
  unfold NoCollision at hcol
  unfold afterMoves at htr hst hq0 hv hcol
  generalize hw : scanAgents cfg.highways s.world (validActions s.mask actions) 0 = w at htr hst hq0 hv hcol
  have hq := scanGoals_inv w.shelfGrid cfg.goals ⟨s.queue, w.shelves, 0⟩ draws hq0 hv
  have hpos := scanGoals_spos w.shelfGrid cfg.goals ⟨s.queue, w.shelves, 0⟩ draws
  simp only [] at hpos
  have hShown := shown_of_pos_eq hpos hst.shShown
  have hBacked := backed_of_pos_eq hpos hst.shBacked
  apply consistent_of_good (R := R) (C := C)
  simp only [step, hw]
  refine ⟨htr.shS, hst.shA, h.shH, h.hR, h.hC, ?_, hq.req01, ?_, hst.agBacked, hShown, hBacked, ?_,
    hq.nd, hq.range, hq.qreq, rfl⟩
  · intro ag hag
    obtain ⟨k, hk, rfl⟩ := List.getElem_of_mem hag
    exact (hst.ain k _ (List.getElem?_eq_getElem hk)).2
  · intro k ag hk
    exact ⟨(hst.ain k ag hk).1, collisions_false hcol hk⟩
  · intro ag hag hcar
    obtain ⟨k, hk, rfl⟩ := List.getElem_of_mem hag
    have hk' := List.getElem?_eq_getElem hk
    exact (shelf_cell_ne_zero_iff hShown hBacked (hst.ain k _ hk').1).1 (hst.carry k _ hk' hcar)

/-- `step_consistent_nocoll` with "the step is not LAST" for "no collision" -/
theorem step_consistent {cfg : Cfg} {s : State} (hc : Consistent cfg s) (actions draws : List Int)
    (hv : validDraws (scanAgents cfg.highways s.world (validActions s.mask actions) 0).shelfGrid
      ⟨s.queue, (scanAgents cfg.highways s.world (validActions s.mask actions) 0).shelves, 0⟩
      cfg.goals draws = true)
    (hn : (step cfg s actions draws).2.stepType ≠ .last) :
    Consistent cfg (step cfg s actions draws).1 :=
  step_consistent_nocoll hc actions draws hv (noCollision_of_not_last hn)

theorem flatten_eq_cells {g : IGrid} {R C : Nat} (h : Jx.Grid.shaped g R C = true) :
    List.flatten g = (allCells R C).map (fun c => Jx.Grid.getWC g 0 c.1 c.2) := by
  conv => lhs; rw [Jx.Grid.eq_table h 0]
  unfold allCells
  rw [List.map_flatMap, List.flatMap_def]
  congr 1
  apply List.map_congr_left
  intro r hr
  rw [List.map_map]
  apply List.map_congr_left
  intro c hc
  simp only [Function.comp, List.mem_range] at hr hc ⊢
  exact (cell_get h hr hc 0).symm

/-- C07 (conserved): the floor picture shows as many entities as the table holds -/
theorem picture_count {α} {pos : α → Int × Int} {R C : Nat} {g : IGrid} {es : List α}
    (hs : Jx.Grid.shaped g R C = true) (h1 : Shown pos R C g es) (h2 : Backed pos R C g es) :
    Jx.Grid.count (fun v => decide (v ≠ 0)) g = es.length := by
  unfold Jx.Grid.count
  rw [flatten_eq_cells hs, List.filter_map, List.length_map]
  have hd : (es.map pos).Nodup := by
    have := (picture_of_shown_backed h1 h2).2.1
    unfold distinctPos at this
    exact of_decide_eq_true this
  have hperm : ((allCells R C).filter ((fun v => decide (v ≠ 0)) ∘ fun c => Jx.Grid.getWC g 0 c.1 c.2)).Perm
      (es.map pos) := by
    rw [List.perm_ext_iff_of_nodup ((allCells_nodup R C).filter _) hd]
    intro c
    simp only [List.mem_filter, mem_allCells, Function.comp, decide_eq_true_eq, List.mem_map]
    constructor
    · rintro ⟨hin, hne⟩
      obtain ⟨k, e, he, _, hp⟩ := h2 c.1 c.2 hin hne
      exact ⟨e, List.mem_of_getElem? he, hp⟩
    · rintro ⟨e, he, rfl⟩
      obtain ⟨k, hk, rfl⟩ := List.getElem_of_mem he
      have := h1 k es[k] (List.getElem?_eq_getElem hk)
      exact ⟨this.1, by rw [this.2]; omega⟩
  rw [hperm.length_eq, List.length_map]

end RobotWarehouse
