/-
RobotWarehouse — C04 (`mask_iff_legal`: the L1 mask bit is the L2 legality read from the entity
tables).  The link between the two levels is `newPos_eq_ahead`: on the floor `forward` goes to the L2
cell `ahead`, or stays where it is at the border.
-/
import JumanjiModel.Env.RobotWarehouse.PictureLemmas
namespace RobotWarehouse
open Jm

theorem shelf_cell_ne_zero_iff {R C : Nat} {g : IGrid} {shelves : List Shelf}
    (h1 : Shown spos R C g shelves) (h2 : Backed spos R C g shelves) {x y : Int} (hxy : inGrid R C x y) :
    Jx.Grid.getWC g 0 x y ≠ 0 ↔ (shelfAt shelves (x, y)).isSome = true := by
  rw [shelfAt_isSome]
  constructor
  · intro hne
    obtain ⟨k, e, he, _, hp⟩ := h2 x y hxy hne
    exact ⟨e, List.mem_of_getElem? he, hp⟩
  · rintro ⟨sh, hm, hp⟩
    obtain ⟨k, hk, rfl⟩ := List.getElem_of_mem hm
    have := (h1 k shelves[k] (List.getElem?_eq_getElem hk)).2
    rw [hp] at this
    simp only [] at this
    omega

theorem clamp_pred {x : Int} (h0 : 0 ≤ x) : max 0 (x - 1) = if 0 ≤ x - 1 then x - 1 else x := by
  by_cases hb : 0 ≤ x - 1
  · rw [if_pos hb]; exact Int.max_eq_right hb
  · rw [if_neg hb]; exact (Int.max_eq_left (by omega)).trans (by omega)

theorem clamp_succ {x : Int} {n : Nat} (h : x < n) : min ((n : Int) - 1) (x + 1) = if x + 1 < n then x + 1 else x := by
  by_cases hb : x + 1 < n
  · rw [if_pos hb]; exact Int.min_eq_right (by omega)
  · rw [if_neg hb]; exact (Int.min_eq_left (by omega)).trans (by omega)

theorem newPos_eq_ahead {R C : Nat} {ag : Agent} (hin : inGrid R C ag.x ag.y) (hd : 0 ≤ ag.dir ∧ ag.dir < 4) :
    newPos R C ag.x ag.y ag.dir = (ahead R C ag).getD (ag.x, ag.y) := by
  obtain ⟨x, y, dir, cr⟩ := ag
  obtain ⟨i1, i2, i3, i4⟩ := hin
  simp only [] at hd i1 i2 i3 i4
  have hdir : dir = 0 ∨ dir = 1 ∨ dir = 2 ∨ dir = 3 := by omega
  rcases hdir with rfl | rfl | rfl | rfl
  · show (max 0 (x - 1), y) = (if inGrid R C (x - 1) y then some (x - 1, y) else none).getD (x, y)
    rw [clamp_pred i1]
    by_cases hb : inGrid R C (x - 1) y
    · rw [if_pos hb, if_pos hb.1]; rfl
    · rw [if_neg hb, if_neg (fun h => hb ⟨h, by omega, i3, i4⟩)]; rfl
  · show (x, min ((C : Int) - 1) (y + 1)) = (if inGrid R C x (y + 1) then some (x, y + 1) else none).getD (x, y)
    rw [clamp_succ i4]
    by_cases hb : inGrid R C x (y + 1)
    · rw [if_pos hb, if_pos hb.2.2.2]; rfl
    · rw [if_neg hb, if_neg (fun h => hb ⟨i1, i2, by omega, h⟩)]; rfl
  · show (min ((R : Int) - 1) (x + 1), y) = (if inGrid R C (x + 1) y then some (x + 1, y) else none).getD (x, y)
    rw [clamp_succ i2]
    by_cases hb : inGrid R C (x + 1) y
    · rw [if_pos hb, if_pos hb.2.1]; rfl
    · rw [if_neg hb, if_neg (fun h => hb ⟨by omega, h, i3, i4⟩)]; rfl
  · show (x, max 0 (y - 1)) = (if inGrid R C x (y - 1) then some (x, y - 1) else none).getD (x, y)
    rw [clamp_pred i3]
    by_cases hb : inGrid R C x (y - 1)
    · rw [if_pos hb, if_pos hb.2.2.1]; rfl
    · rw [if_neg hb, if_neg (fun h => hb ⟨i1, i2, h, by omega⟩)]; rfl

theorem ahead_some {R C : Nat} {ag : Agent} {c : Int × Int} (h : ahead R C ag = some c) :
    inGrid R C c.1 c.2 ∧ c ≠ (ag.x, ag.y) := by
  unfold ahead at h
  simp only [] at h
  have hne : (if ag.dir = 0 then (ag.x - 1, ag.y) else if ag.dir = 1 then (ag.x, ag.y + 1)
      else if ag.dir = 2 then (ag.x + 1, ag.y) else (ag.x, ag.y - 1)) ≠ (ag.x, ag.y) := by
    intro heq
    by_cases d0 : ag.dir = 0
    · rw [if_pos d0] at heq; have := congrArg Prod.fst heq; simp only [] at this; omega
    rw [if_neg d0] at heq
    by_cases d1 : ag.dir = 1
    · rw [if_pos d1] at heq; have := congrArg Prod.snd heq; simp only [] at this; omega
    rw [if_neg d1] at heq
    by_cases d2 : ag.dir = 2
    · rw [if_pos d2] at heq; have := congrArg Prod.fst heq; simp only [] at this; omega
    · rw [if_neg d2] at heq; have := congrArg Prod.snd heq; simp only [] at this; omega
  generalize (if ag.dir = 0 then (ag.x - 1, ag.y) else if ag.dir = 1 then (ag.x, ag.y + 1)
    else if ag.dir = 2 then (ag.x + 1, ag.y) else (ag.x, ag.y - 1)) = t at h hne
  by_cases hin : inGrid R C t.1 t.2
  · rw [if_pos hin] at h; cases h; exact ⟨hin, hne⟩
  · rw [if_neg hin] at h; cases h

theorem newPos_inGrid {R C : Nat} {ag : Agent} (hin : inGrid R C ag.x ag.y) (hd : 0 ≤ ag.dir ∧ ag.dir < 4) :
    inGrid R C (newPos R C ag.x ag.y ag.dir).1 (newPos R C ag.x ag.y ag.dir).2 := by
  rw [newPos_eq_ahead hin hd]
  cases h : ahead R C ag with
  | none => exact hin
  | some c => exact (ahead_some h).1

/-- the "would push the carried shelf into a shelf" part of `is_valid_action` is `blockedAhead` -/
theorem blocked_iff {R C : Nat} {g : IGrid} {shelves : List Shelf}
    (h1 : Shown spos R C g shelves) (h2 : Backed spos R C g shelves) (hR : g.length = R)
    (hC : (g.headD []).length = C) {ag : Agent} (hin : inGrid R C ag.x ag.y) (hd : 0 ≤ ag.dir ∧ ag.dir < 4) :
    ((!(decide (ag.x = (newPos (gRows g) (gCols g) ag.x ag.y ag.dir).1) &&
        decide (ag.y = (newPos (gRows g) (gCols g) ag.x ag.y ag.dir).2))) &&
      decide (Jx.Grid.getWC g 0 (newPos (gRows g) (gCols g) ag.x ag.y ag.dir).1
        (newPos (gRows g) (gCols g) ag.x ag.y ag.dir).2 ≠ 0)) =
    (match ahead (gRows g) (gCols g) ag with
      | some c => (shelfAt shelves c).isSome
      | none => false) := by
  have eR : gRows g = R := hR
  have eC : gCols g = C := hC
  rw [eR, eC, newPos_eq_ahead hin hd]
  cases hah : ahead R C ag with
  | none => simp
  | some c =>
    obtain ⟨hc, hne⟩ := ahead_some hah
    have e := shelf_cell_ne_zero_iff h1 h2 hc
    have hn : ¬ (ag.x = c.1 ∧ ag.y = c.2) := fun h => hne (Prod.ext h.1.symm h.2.symm)
    rw [Bool.eq_iff_iff]
    simp only [Option.getD_some, Bool.and_eq_true, Bool.not_eq_true', Bool.and_eq_false_iff,
      decide_eq_false_iff_not, decide_eq_true_eq, e]
    exact ⟨fun h => h.2, fun h => ⟨Classical.not_and_iff_not_or_not.1 hn, h⟩⟩

theorem isValidAction_forward {sg : IGrid} {ag : Agent} (h : isValidAction sg ag 1 = true) (hc : ag.carrying = true) :
    ((newPos (gRows sg) (gCols sg) ag.x ag.y ag.dir).1 = ag.x ∧
      (newPos (gRows sg) (gCols sg) ag.x ag.y ag.dir).2 = ag.y) ∨
    Jx.Grid.getWC sg 0 (newPos (gRows sg) (gCols sg) ag.x ag.y ag.dir).1
      (newPos (gRows sg) (gCols sg) ag.x ag.y ag.dir).2 = 0 := by
  unfold isValidAction at h
  simp only [] at h
  generalize newPos (gRows sg) (gCols sg) ag.x ag.y ag.dir = t at h ⊢
  by_cases h1 : t.1 = ag.x ∧ t.2 = ag.y
  · exact Or.inl h1
  · have h1' : ¬ (ag.x = t.1 ∧ ag.y = t.2) := fun hh => h1 ⟨hh.1.symm, hh.2.symm⟩
    exact Or.inr (by simpa [hc, h1'] using h)

theorem isValidAction_eq_legal {cfg : Cfg} {R C : Nat} {s : State} (h : Good cfg R C s) {i : Nat} {ag : Agent}
    (hi : s.agents[i]? = some ag) (a : Nat) :
    isValidAction s.shelfGrid ag (a : Int) = decide (legal s i a) := by
  have hm := List.mem_of_getElem? hi
  have hd := shaped_dims h.shS h.hR
  have hb := blocked_iff h.shShown h.shBacked hd.1 hd.2 (h.agShown i ag hi).1 (h.dirs ag hm)
  have hb' := hb.trans (show _ = blockedAhead s i by
    unfold blockedAhead; rw [Jx.getD_of_getElem? _ hi]
    cases ahead (gRows s.shelfGrid) (gCols s.shelfGrid) ag <;> rfl)
  unfold isValidAction legal
  simp only [Jx.getD_of_getElem? _ hi]
  rw [← hb']
  simp only [Bool.and_assoc]
  have e : ((a : Int) = 1) ↔ (a = 1) := by omega
  simp only [e]
  by_cases h1 : a = 1 <;> by_cases h2 : ag.carrying = true <;> simp [h1, h2]

/-- C04: under `Consistent` the L1 mask is the L2 legality table -/
theorem mask_eq_legalMask {cfg : Cfg} {s : State} (hc : Consistent cfg s) :
    computeMask s.shelfGrid s.agents = legalMask s := by
  have h := (consistent_iff_good cfg s).1 hc
  unfold computeMask legalMask
  apply List.ext_getElem
  · simp
  · intro i h1 h2
    simp only [List.length_map] at h1
    simp only [List.getElem_map, List.getElem_range]
    apply List.map_congr_left
    intro a _
    exact isValidAction_eq_legal h (List.getElem?_eq_getElem h1) a

theorem mask_legal {cfg : Cfg} {s : State} (hc : Consistent cfg s) : s.mask = legalMask s :=
  ((consistent_iff_good cfg s).1 hc).mask.trans (mask_eq_legalMask hc)

theorem legalMask_row (s : State) {i : Nat} (hi : i < s.agents.length) :
    (legalMask s)[i]? = some ((List.range 5).map fun a => decide (legal s i a)) := by
  unfold legalMask
  rw [List.getElem?_map, List.getElem?_range hi]; rfl

theorem mask_iff_legal {cfg : Cfg} {s : State} (hc : Consistent cfg s) {i a : Nat}
    (hi : i < s.agents.length) (ha : a < 5) :
    ((computeMask s.shelfGrid s.agents).getD i []).getD a false = true ↔ legal s i a := by
  rw [mask_eq_legalMask hc, Jx.getD_of_getElem? [] (legalMask_row s hi), Jx.getD_range_map _ _ ha, decide_eq_true_iff]

end RobotWarehouse
