/-
RobotWarehouse — C07/C10, the parts from which "the state `RandomGenerator.__call__` builds is `Consistent`"
(`Props.C07.rware_reset_consistent`, `Props.C10.rware_generate_spawn_ok`) is assembled, and the floor `_make_warehouse`
lays out (a grid whose two goal cells are highway cells inside it).

The PRNG is not modelled.  What the generator does DETERMINISTICALLY with the sampled values is
(`generator.py`, `utils_spawn.py`): agents `(cell, direction, is_carrying = 0)`; shelves
`(cell, is_requested)` with `is_requested = zeros.at[queue].set(1)`; both channels of a zero grid filled by
`place_entities_on_grid` (`grid.at[channel, x, y].set(id + 1)` in id order); `action_mask =
compute_action_mask(grid, agents)`; `step_count = 0`.  That construction is `genState`.  The generator
certificate (what sampling WITHOUT replacement guarantees, and what the driver's `instance` op evaluates on
every reset state: `agents_distinct_inside`, `shelves_on_shelf_cells`, `queue_distinct_requested`) is the
hypothesis list of `Props.C07.rware_reset_consistent`.
-/
import JumanjiModel.Env.RobotWarehouse.RewardLemmas
namespace RobotWarehouse
open Jm

theorem mk_cell {R C : Nat} {x y : Int} (h : inGrid R C x y) : Jx.Grid.getWC (Jx.Grid.mk R C (0 : Int)) 0 x y = 0 := by
  obtain ⟨a, b, ha, hb, rfl, rfl⟩ := inGrid_nat h
  rw [cell_get (Jx.Grid.shaped_mk R C 0) ha hb]
  unfold Jx.Grid.get Jx.Grid.mk
  simp [List.getD_eq_getElem?_getD, ha, hb]

theorem placeFrom_shaped {α} (pos : α → Int × Int) {R C : Nat} : ∀ (es : List α) (g : IGrid) (k : Nat),
    Jx.Grid.shaped g R C = true → Jx.Grid.shaped (placeFrom pos g es k) R C = true := by
  intro es
  induction es with
  | nil => intro g k h; exact h
  | cons e es ih => intro g k h; exact ih _ _ (Jx.Grid.shaped_setWD h _ _ _)

theorem placeFrom_cell {α} (pos : α → Int × Int) {R C : Nat} : ∀ (es : List α) (g : IGrid) (k : Nat),
    Jx.Grid.shaped g R C = true → (∀ e ∈ es, inGrid R C (pos e).1 (pos e).2) → (es.map pos).Nodup →
    ∀ c : Int × Int, inGrid R C c.1 c.2 →
      Jx.Grid.getWC (placeFrom pos g es k) 0 c.1 c.2 =
        match es.findIdx? (fun e => decide (pos e = c)) with
        | some m => ((k + m : Nat) : Int) + 1
        | none => Jx.Grid.getWC g 0 c.1 c.2 := by
  intro es
  induction es with
  | nil => intro g k _ _ _ c _; rfl
  | cons e es ih =>
    intro g k hs hin hnd c hc
    rw [List.map_cons, List.nodup_cons] at hnd
    have hin0 := hin e (List.mem_cons_self ..)
    simp only [placeFrom]
    rw [ih _ (k + 1) (Jx.Grid.shaped_setWD hs _ _ _) (fun e' he' => hin e' (List.mem_cons_of_mem _ he')) hnd.2 c hc,
      List.findIdx?_cons, cell_setWD hs hin0 hc]
    by_cases h : pos e = c
    · -- the positions are pairwise different: nothing placed later stands on `c`
      subst h
      have : es.findIdx? (fun e' => decide (pos e' = pos e)) = none :=
        List.findIdx?_eq_none_iff.2 fun e' he' => by
          simpa using fun h' => hnd.1 (List.mem_map.2 ⟨e', he', h'⟩)
      simp [this]
    · have hc' : ¬ (c.1 = (pos e).1 ∧ c.2 = (pos e).2) := fun hh => h (Prod.ext hh.1.symm hh.2.symm)
      cases es.findIdx? (fun e => decide (pos e = c)) <;> simp [h, hc'] <;> omega

theorem placeFrom_picture {α} (pos : α → Int × Int) {R C : Nat} (es : List α) {cells : List (Int × Int)}
    (hp : es.map pos = cells) (hin : ∀ c ∈ cells, inGrid R C c.1 c.2) (hnd : cells.Nodup) :
    Shown pos R C (placeFrom pos (Jx.Grid.mk R C 0) es 0) es ∧
      Backed pos R C (placeFrom pos (Jx.Grid.mk R C 0) es 0) es := by
  subst hp
  have hin' : ∀ e ∈ es, inGrid R C (pos e).1 (pos e).2 := fun e he => hin _ (List.mem_map_of_mem he)
  refine picture_iff.1 ⟨hin', decide_eq_true hnd, fun c hc => ?_⟩
  rw [placeFrom_cell pos es _ 0 (Jx.Grid.shaped_mk R C 0) hin' hnd c (mem_allCells.1 hc)]
  unfold tableAt
  cases es.findIdx? (fun e => decide (pos e = c)) <;> simp [mk_cell (mem_allCells.1 hc)]

theorem requestedFlags_length (n : Nat) (queue : List Int) : (requestedFlags n queue).length = n := by
  unfold requestedFlags
  rw [Jx.foldl_setWD_length, List.length_replicate]

theorem requestedFlags_getD {n : Nat} {queue : List Int} (hr : ∀ q ∈ queue, 0 ≤ q ∧ q < (n : Int)) {k : Nat}
    (hk : k < n) : (requestedFlags n queue).getD k 0 = if (k : Int) ∈ queue then 1 else 0 := by
  unfold requestedFlags
  rw [Jx.foldl_setWD_const_getD 1 0 queue _ (fun q hq => (hr q hq).1) (by simpa using hk)]
  simp [List.getD_eq_getElem?_getD, hk]

theorem zipWith_map_fst {α β γ} (f : α → β → γ) (g : γ → α) (hfg : ∀ a b, g (f a b) = a) :
    ∀ (as : List α) (bs : List β), as.length ≤ bs.length → (List.zipWith f as bs).map g = as := by
  intro as
  induction as with
  | nil => intro bs _; simp
  | cons a as ih =>
    intro bs hl
    cases bs with
    | nil => simp at hl
    | cons b bs =>
      simp only [List.length_cons] at hl
      simp [hfg, ih bs (by omega)]

theorem genShelves_requested {cells : List (Int × Int)} {queue : List Int}
    (hqR : ∀ q ∈ queue, 0 ≤ q ∧ q < (cells.length : Int)) {k : Nat} (hk : k < cells.length) :
    ((List.zipWith (fun c r => (⟨c.1, c.2, r⟩ : Shelf)) cells
      (requestedFlags cells.length queue)).getD k default).requested = if (k : Int) ∈ queue then 1 else 0 := by
  have h1 : k < (requestedFlags cells.length queue).length := by
    rw [requestedFlags_length]
    exact hk
  rw [← requestedFlags_getD hqR hk]
  simp [List.getD_eq_getElem?_getD, List.getElem?_zipWith, List.getElem?_eq_getElem hk, List.getElem?_eq_getElem h1]

theorem genState_good (cfg : Cfg) {R C : Nat} (hR : 0 < R) (hC : 0 < C)
    (hH : Jx.Grid.shaped cfg.highways R C = true)
    {agentCells : List (Int × Int)} {dirs : List Int} {shelfCells : List (Int × Int)} {queue : List Int}
    (hlen : agentCells.length ≤ dirs.length)
    (haIn : ∀ c ∈ agentCells, inGrid R C c.1 c.2) (haNd : agentCells.Nodup)
    (hdir : ∀ d ∈ dirs, 0 ≤ d ∧ d < 4)
    (hsIn : ∀ c ∈ shelfCells, inGrid R C c.1 c.2) (hsNd : shelfCells.Nodup)
    (hqNd : queue.Nodup) (hqR : ∀ q ∈ queue, 0 ≤ q ∧ q < (shelfCells.length : Int)) :
    Good cfg R C (genState R C agentCells dirs shelfCells queue) := by
  have hfl := requestedFlags_length shelfCells.length queue
  obtain ⟨ha1, ha2⟩ := placeFrom_picture apos _
    (zipWith_map_fst (fun c d => (⟨c.1, c.2, d, false⟩ : Agent)) apos (fun _ _ => rfl) agentCells dirs hlen) haIn haNd
  obtain ⟨hs1, hs2⟩ := placeFrom_picture spos _
    (zipWith_map_fst (fun c r => (⟨c.1, c.2, r⟩ : Shelf)) spos (fun _ _ => rfl) shelfCells _
      (Nat.le_of_eq hfl.symm)) hsIn hsNd
  simp only [genState]
  refine ⟨placeFrom_shaped spos _ _ _ (Jx.Grid.shaped_mk R C 0), placeFrom_shaped apos _ _ _ (Jx.Grid.shaped_mk R C 0), hH, hR, hC,
    ?_, ?_, ha1, ha2, hs1, hs2, ?_, hqNd, ?_, ?_, rfl⟩
  · intro ag hag
    obtain ⟨m, hm, rfl⟩ := List.getElem_of_mem hag
    simp only [List.getElem_zipWith]
    exact hdir _ (List.getElem_mem _)
  · intro sh hsh
    obtain ⟨k, hk, rfl⟩ := List.getElem_of_mem hsh
    have hk' : k < shelfCells.length := by
      simp only [List.length_zipWith] at hk
      omega
    have := genShelves_requested hqR hk'
    rw [List.getD_eq_getElem?_getD, List.getElem?_eq_getElem hk, Option.getD_some] at this
    rw [this]
    split
    · exact Or.inr rfl
    · exact Or.inl rfl
  · -- the generator sets `is_carrying = 0`
    intro ag hag hcar
    obtain ⟨m, hm, rfl⟩ := List.getElem_of_mem hag
    simp at hcar
  · intro q hq
    simp only [List.length_zipWith, hfl, Nat.min_self]
    exact hqR q hq
  · intro k hk
    simp only [List.length_zipWith, hfl, Nat.min_self] at hk
    rw [genShelves_requested hqR hk, List.contains_iff_mem]
    split
    · rename_i h
      simp [h]
    · rename_i h
      simp [h]

theorem unravel_inGrid {R C : Nat} {k : Int} (h0 : 0 ≤ k) (h1 : k < ((R * C : Nat) : Int)) :
    inGrid R C (unravel C k).1 (unravel C k).2 := Jx.divmod_inGrid h0 h1

theorem unravel_inj {C : Nat} {a b : Int} (h : unravel C a = unravel C b) : a = b :=
  Jx.divmod_inj (congrArg Prod.fst h) (congrArg Prod.snd h)

theorem shelfCells_props {hw : List (List Bool)} {R C : Nat} (hH : Jx.Grid.shaped hw R C = true) (hR : 0 < R) :
    (∀ c ∈ shelfCells hw, inGrid R C c.1 c.2 ∧ Jx.Grid.getWC hw true c.1 c.2 = false) ∧ (shelfCells hw).Nodup := by
  have hd := shaped_dims hH hR
  unfold shelfCells
  rw [hd.1, hd.2]
  have e : cellsOf R C = allCells R C := rfl
  rw [e]
  refine ⟨?_, (allCells_nodup R C).filter _⟩
  intro c hc
  rw [List.mem_filter] at hc
  exact ⟨mem_allCells.1 hc.1, by simpa using hc.2⟩

theorem generate_stepCount (cfg : Cfg) (d : SpawnDraw) : (generate cfg d).stepCount = 0 := rfl

theorem layout_shaped (l : Layout) : Jx.Grid.shaped l.highways l.rows l.cols = true :=
  Jx.Grid.shaped_table l.rows l.cols l.isHighway

theorem layout_pos (l : Layout) : 0 < l.rows ∧ 0 < l.cols := by
  unfold Layout.rows Layout.cols; omega

/-- `h`: implied by the constructor's check that `shelf_columns` is odd (a natural number here); only `≥ 1` is used -/
theorem layout_goals_inside (l : Layout) (h : 1 ≤ l.shelfColumns) (tl : Int) (sr : Nat) :
    GoalsInside ⟨tl, sr, l.highways, l.goals⟩ := by
  have hd := shaped_dims (layout_shaped l) (layout_pos l).1
  unfold GoalsInside
  simp only [hd.1, hd.2]
  have hr := (layout_pos l).1
  have hc : 4 ≤ l.cols := by unfold Layout.cols; omega
  intro g hg
  unfold Layout.goals at hg
  simp only [List.mem_cons, List.not_mem_nil, or_false] at hg
  unfold inGrid
  rcases hg with rfl | rfl <;> simp only [] <;> omega

/-- the goal cells are highway cells (the delivery row), so no shelf is spawned on a goal -/
theorem layout_goals_on_highway (l : Layout) (h : 1 ≤ l.shelfColumns) :
    ∀ g ∈ l.goals, Jx.Grid.getWC l.highways false g.2 g.1 = true := by
  have hr := (layout_pos l).1
  have hc : 4 ≤ l.cols := by unfold Layout.cols; omega
  intro g hg
  unfold Layout.goals at hg
  simp only [List.mem_cons, List.not_mem_nil, or_false] at hg
  have key : ∀ y : Nat, y < l.cols → Jx.Grid.getWC l.highways false ((l.rows : Int) - 1) (y : Int) = true := by
    intro y hy
    have e : (l.rows : Int) - 1 = ((l.rows - 1 : Nat) : Int) := by omega
    rw [e, cell_get (layout_shaped l) (by omega) hy]
    refine (Jx.Grid.get_table l.rows l.cols l.isHighway false (by omega) hy).trans ?_
    unfold Layout.isHighway
    simp [e]
  rcases hg with rfl | rfl
  · have e : ((l.cols / 2 : Nat) : Int) - 1 = ((l.cols / 2 - 1 : Nat) : Int) := by omega
    simp only [e]
    exact key _ (by omega)
  · exact key _ (by omega)

end RobotWarehouse
