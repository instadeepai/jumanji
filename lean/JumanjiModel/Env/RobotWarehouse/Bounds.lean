/-
C01 for RobotWarehouse: value bounds of the observation leaves.  `agents_view` is declared as an unbounded
`specs.Array` (no minimum / maximum), so it is listed with no bound on either side.
-/
import JumanjiModel.Env.RobotWarehouse.Lemmas
import JumanjiModel.Env.PuzzleBounds
namespace RobotWarehouse
open Jm

/-- interval membership; `none` = unbounded on that side -/
def inIv (lo hi : Option Rat) (v : Rat) : Prop := (∀ l, lo = some l → l ≤ v) ∧ (∀ h, hi = some h → v ≤ h)

/-- the numeric leaves of an observation: dotted path of the leaf in the real `observation_spec` ↦ all its
entries (bool: 0 / 1) -/
def obsLeaves (o : Obs) : List (String × List Rat) :=
  [("agents_view", (List.flatten o.view).map (fun (v : Int) => (v : Rat))),
   ("action_mask", (List.flatten o.mask).map (fun b => if b then (1 : Rat) else 0)),
   ("step_count", [(o.stepCount : Rat)])]

def ObsInBounds (bs : List (String × Option Rat × Option Rat)) (o : Obs) : Prop :=
  ∀ p ∈ obsLeaves o, ∀ b ∈ bs, b.1 = p.1 → ∀ v ∈ p.2, inIv b.2.1 b.2.2 v

/-- C01: the intervals in which the model's observation values provably stay -/
def obsBounds (cfg : Cfg) : List (String × Option Rat × Option Rat) :=
  [("agents_view", none, none),
   ("action_mask", some 0, some 1),
   ("step_count", some 0, some (cfg.timeLimit : Rat))]

theorem obsInBounds_of (cfg : Cfg) (o : Obs) (h0 : 0 ≤ o.stepCount) (hT : o.stepCount ≤ cfg.timeLimit) :
    ObsInBounds (obsBounds cfg) o :=
  Jx.rel_of_aligned_fst (R := fun (b : Option Rat × Option Rat) vs => ∀ v ∈ vs, inIv b.1 b.2 v) rfl (by simp [obsLeaves]) <|
    Jx.all_cons (fun _ _ => ⟨fun _ hl => (nomatch hl), fun _ hh => nomatch hh⟩) <| Jx.all_cons (Jx.Iv.bools _) <|
    Jx.all_cons (Jx.Iv.one (lo := 0) h0 hT) Jx.all_nil

theorem reset_obs_in_bounds (cfg : Cfg) (s : State) (hs : s.stepCount = 0) (hT : 0 ≤ cfg.timeLimit) :
    ObsInBounds (obsBounds cfg) (resetObs cfg s) := by
  apply obsInBounds_of
  · show 0 ≤ s.stepCount
    omega
  · show s.stepCount ≤ cfg.timeLimit
    omega

theorem step_obs_in_bounds (cfg : Cfg) (s : State) (a d : List Int) (h0 : 0 ≤ s.stepCount)
    (hT : s.stepCount < cfg.timeLimit) : ObsInBounds (obsBounds cfg) (step cfg s a d).2.obs := by
  have h := (obs_copied cfg s a d).2.1
  have h1 := (time_limit cfg s a d).1
  apply obsInBounds_of
  · rw [h, h1]; omega
  · rw [h, h1]; omega

end RobotWarehouse
