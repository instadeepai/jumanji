/-
RobotWarehouse — basic facts used by all the proof files: gather/scatter on in-range integer
coordinates, and the pointwise reading of `Consistent` ("every entity's own cell shows its id" +
"every non-empty cell is backed by an entity standing there") which is what the step proof threads
through the per-agent scan.
-/
import JumanjiModel.Env.RobotWarehouse.Lemmas
import JumanjiModel.Prim.GridLemmas
namespace RobotWarehouse
open Jm

theorem inGrid_nat {R C : Nat} {x y : Int} (h : inGrid R C x y) :
    ∃ a b : Nat, a < R ∧ b < C ∧ x = (a : Int) ∧ y = (b : Int) := by
  obtain ⟨h1, h2, h3, h4⟩ := h
  exact ⟨x.toNat, y.toNat, by omega, by omega, by omega, by omega⟩

theorem shaped_dims {α} {g : Jx.Grid α} {R C : Nat} (h : Jx.Grid.shaped g R C = true) (hR : 0 < R) :
    g.length = R ∧ (g.headD []).length = C :=
  ⟨Jx.Grid.shaped_length h,
    (show (g.headD []).length = Jx.Grid.cols g by cases g <;> rfl).trans (Jx.Grid.cols_of_shaped g R C h hR)⟩

theorem cell_setWD {α} {g : Jx.Grid α} {R C : Nat} (h : Jx.Grid.shaped g R C = true) {x y x' y' : Int}
    (hp : inGrid R C x y) (hq : inGrid R C x' y') (d v : α) :
    Jx.Grid.getWC (Jx.Grid.setWD g x y v) d x' y' =
      if x' = x ∧ y' = y then v else Jx.Grid.getWC g d x' y' := by
  obtain ⟨a, b, ha, hb, rfl, rfl⟩ := inGrid_nat hp
  obtain ⟨a', b', ha', hb', rfl, rfl⟩ := inGrid_nat hq
  have hs := (Jx.Grid.shaped_iff g R C).1 h
  have hl : a < g.length := by omega
  have hl' : a' < g.length := by omega
  have hc : b < Jx.Grid.rowLen g a := by rw [hs.2 a ha]; exact hb
  have hc' : b' < Jx.Grid.rowLen g a' := by rw [hs.2 a' ha']; exact hb'
  rw [Jx.Grid.setWD_natCast g a b v]
  rw [Jx.Grid.getWC_nat _ d a' b' (by rw [Jx.Grid.set_length]; exact hl')
    (by rw [Jx.Grid.rowLen_set]; exact hc')]
  rw [Jx.Grid.get_set g d a b v a' b' hl hc, Jx.Grid.getWC_nat g d a' b' hl' hc']
  have e : ((a' : Int) = (a : Int) ∧ (b' : Int) = (b : Int)) ↔ (a' = a ∧ b' = b) := by omega
  simp only [e]

theorem cell_move {g : IGrid} {R C : Nat} (h : Jx.Grid.shaped g R C = true) {x y tx ty x' y' : Int}
    (hp : inGrid R C x y) (ht : inGrid R C tx ty) (hq : inGrid R C x' y') (v : Int) :
    Jx.Grid.getWC (Jx.Grid.setWD (Jx.Grid.setWD g x y 0) tx ty v) 0 x' y' =
      if x' = tx ∧ y' = ty then v else if x' = x ∧ y' = y then 0 else Jx.Grid.getWC g 0 x' y' := by
  rw [cell_setWD (Jx.Grid.shaped_setWD h _ _ _) ht hq, cell_setWD h hp hq]

theorem cell_get {α} {g : Jx.Grid α} {R C : Nat} (h : Jx.Grid.shaped g R C = true) {a b : Nat}
    (ha : a < R) (hb : b < C) (d : α) :
    Jx.Grid.getWC g d (a : Int) (b : Int) = Jx.Grid.get g d a b := by
  have hs := (Jx.Grid.shaped_iff g R C).1 h
  exact Jx.Grid.getWC_nat g d a b (by omega) (by rw [hs.2 a ha]; exact hb)

theorem mem_allCells {R C : Nat} {c : Int × Int} : c ∈ allCells R C ↔ inGrid R C c.1 c.2 := by
  unfold allCells inGrid
  simp only [List.mem_flatMap, List.mem_range, List.mem_map]
  constructor
  · rintro ⟨r, hr, k, hk, rfl⟩
    simp only []
    omega
  · rintro ⟨h1, h2, h3, h4⟩
    refine ⟨c.1.toNat, by omega, c.2.toNat, by omega, ?_⟩
    apply Prod.ext <;> simp <;> omega

theorem allCells_nodup (R C : Nat) : (allCells R C).Nodup :=
  Jx.Grid.nodup_flatMap_range R C (fun r c => ((r : Int), (c : Int))) (fun i j i' j' h => by
    have h1 := congrArg Prod.fst h
    have h2 := congrArg Prod.snd h
    simp only [] at h1 h2
    omega)

/-- every entity is inside the floor and its own cell shows its id -/
def Shown {α} (pos : α → Int × Int) (R C : Nat) (g : IGrid) (es : List α) : Prop :=
  ∀ (k : Nat) (e : α), es[k]? = some e →
    inGrid R C (pos e).1 (pos e).2 ∧ Jx.Grid.getWC g 0 (pos e).1 (pos e).2 = (k : Int) + 1

/-- every non-empty cell shows the id of an entity that stands on it -/
def Backed {α} (pos : α → Int × Int) (R C : Nat) (g : IGrid) (es : List α) : Prop :=
  ∀ x y, inGrid R C x y → Jx.Grid.getWC g 0 x y ≠ 0 →
    ∃ (k : Nat) (e : α), es[k]? = some e ∧ Jx.Grid.getWC g 0 x y = (k : Int) + 1 ∧ pos e = (x, y)

/-- the table form of the picture, as in `Consistent` -/
def Picture {α} (pos : α → Int × Int) (R C : Nat) (g : IGrid) (es : List α) : Prop :=
  (∀ e ∈ es, inGrid R C (pos e).1 (pos e).2) ∧ distinctPos pos es = true ∧
  ∀ c ∈ allCells R C, Jx.Grid.getWC g 0 c.1 c.2 = tableAt pos es c

theorem Shown.distinct {α} {pos : α → Int × Int} {R C : Nat} {g : IGrid} {es : List α}
    (h : Shown pos R C g es) {i j : Nat} {a b : α} (hi : es[i]? = some a) (hj : es[j]? = some b)
    (hab : pos a = pos b) : i = j := by
  have h1 := (h i a hi).2
  have h2 := (h j b hj).2
  rw [hab] at h1
  omega

theorem picture_of_shown_backed {α} {pos : α → Int × Int} {R C : Nat} {g : IGrid} {es : List α}
    (h1 : Shown pos R C g es) (h2 : Backed pos R C g es) : Picture pos R C g es := by
  refine ⟨?_, ?_, ?_⟩
  · intro e he
    obtain ⟨k, hk, rfl⟩ := List.getElem_of_mem he
    exact (h1 k es[k] (List.getElem?_eq_getElem hk)).1
  · unfold distinctPos
    rw [decide_eq_true_iff]
    unfold List.Nodup
    rw [List.pairwise_iff_getElem]
    intro i j hi hj hij heq
    simp only [List.length_map] at hi hj
    simp only [List.getElem_map] at heq
    have := h1.distinct (List.getElem?_eq_getElem hi) (List.getElem?_eq_getElem hj) heq
    omega
  · intro c hc
    have hin := mem_allCells.1 hc
    unfold tableAt
    split
    · rename_i k hk
      obtain ⟨hlt, hp, _⟩ := List.findIdx?_eq_some_iff_getElem.1 hk
      have hp' : pos es[k] = c := by simpa using hp
      have := (h1 k es[k] (List.getElem?_eq_getElem hlt)).2
      rw [hp'] at this
      exact this
    · rename_i hk
      rw [List.findIdx?_eq_none_iff] at hk
      by_cases h0 : Jx.Grid.getWC g 0 c.1 c.2 = 0
      · exact h0
      · obtain ⟨k, e, he, _, hpe⟩ := h2 c.1 c.2 hin h0
        have := hk e (List.mem_of_getElem? he)
        simp [hpe] at this

theorem shown_backed_of_picture {α} {pos : α → Int × Int} {R C : Nat} {g : IGrid} {es : List α}
    (h : Picture pos R C g es) : Shown pos R C g es ∧ Backed pos R C g es := by
  obtain ⟨hin, hd, hp⟩ := h
  unfold distinctPos at hd
  rw [decide_eq_true_iff] at hd
  constructor
  · intro k e he
    have hmem := List.mem_of_getElem? he
    have hi := hin e hmem
    refine ⟨hi, ?_⟩
    have := hp (pos e) (mem_allCells.2 hi)
    rw [this]
    unfold tableAt
    have hk : k < es.length := Jx.lt_of_getElem? he
    have hek : es[k] = e := by
      rw [List.getElem?_eq_getElem hk] at he; exact Option.some.inj he
    split
    · rename_i k' hk'
      obtain ⟨hlt, hp', _⟩ := List.findIdx?_eq_some_iff_getElem.1 hk'
      have hp'' : pos es[k'] = pos e := by simpa using hp'
      have h1 : k' < (es.map pos).length := by simpa using hlt
      have h2 : k < (es.map pos).length := by simpa using hk
      have : (es.map pos)[k'] = (es.map pos)[k] := by simp [hp'', hek]
      have := (List.getElem_inj (h₀ := h1) (h₁ := h2) hd).1 this
      omega
    · rename_i hk'
      rw [List.findIdx?_eq_none_iff] at hk'
      have := hk' e hmem
      simp at this
  · intro x y hxy hne
    have := hp (x, y) (mem_allCells.2 hxy)
    simp only [] at this
    rw [this] at hne ⊢
    unfold tableAt at hne ⊢
    split
    · rename_i k hk
      obtain ⟨hlt, hp', _⟩ := List.findIdx?_eq_some_iff_getElem.1 hk
      exact ⟨k, es[k], List.getElem?_eq_getElem hlt, rfl, by simpa using hp'⟩
    · rename_i hk
      rw [hk] at hne
      exact absurd rfl hne

theorem picture_iff {α} {pos : α → Int × Int} {R C : Nat} {g : IGrid} {es : List α} :
    Picture pos R C g es ↔ Shown pos R C g es ∧ Backed pos R C g es :=
  ⟨shown_backed_of_picture, fun h => picture_of_shown_backed h.1 h.2⟩

theorem shelfAt_isSome {shelves : List Shelf} {c : Int × Int} :
    (shelfAt shelves c).isSome = true ↔ ∃ sh ∈ shelves, spos sh = c := by
  unfold shelfAt spos
  rw [List.find?_isSome]
  constructor
  · rintro ⟨sh, hm, hp⟩
    simp only [Bool.and_eq_true, decide_eq_true_eq] at hp
    exact ⟨sh, hm, Prod.ext hp.1 hp.2⟩
  · rintro ⟨sh, hm, rfl⟩
    exact ⟨sh, hm, by simp⟩

theorem spos_eq {a : Shelf} {x y : Int} (h : spos a = (x, y)) : a.x = x ∧ a.y = y := by
  unfold spos at h
  exact ⟨congrArg Prod.fst h, congrArg Prod.snd h⟩

/-! ### `Consistent`, unpacked -/

structure Good (cfg : Cfg) (R C : Nat) (s : State) : Prop where
  shS : Jx.Grid.shaped s.shelfGrid R C = true
  shA : Jx.Grid.shaped s.agentGrid R C = true
  shH : Jx.Grid.shaped cfg.highways R C = true
  hR : 0 < R
  hC : 0 < C
  dirs : ∀ ag ∈ s.agents, 0 ≤ ag.dir ∧ ag.dir < 4
  req : ∀ sh ∈ s.shelves, sh.requested = 0 ∨ sh.requested = 1
  agShown : Shown apos R C s.agentGrid s.agents
  agBacked : Backed apos R C s.agentGrid s.agents
  shShown : Shown spos R C s.shelfGrid s.shelves
  shBacked : Backed spos R C s.shelfGrid s.shelves
  carry : ∀ ag ∈ s.agents, ag.carrying = true → (shelfAt s.shelves (ag.x, ag.y)).isSome = true
  qnd : s.queue.Nodup
  qrange : ∀ q ∈ s.queue, 0 ≤ q ∧ q < (s.shelves.length : Int)
  qreq : ∀ k, k < s.shelves.length →
    ((s.shelves.getD k default).requested = 1 ↔ s.queue.contains (k : Int) = true)
  mask : s.mask = computeMask s.shelfGrid s.agents

theorem Good.rows {cfg : Cfg} {R C : Nat} {s : State} (h : Good cfg R C s) :
    gRows s.shelfGrid = R ∧ gCols s.shelfGrid = C := shaped_dims h.shS h.hR

theorem consistent_iff_good (cfg : Cfg) (s : State) :
    Consistent cfg s ↔ Good cfg (gRows s.shelfGrid) (gCols s.shelfGrid) s := by
  unfold Consistent
  simp only []
  constructor
  · rintro ⟨h1, h2, h3, h4, h5, h6, h7, h8, h9, h10, h11, h12, h13, h14, h15⟩
    have pa : Picture apos (gRows s.shelfGrid) (gCols s.shelfGrid) s.agentGrid s.agents :=
      ⟨fun e he => (h6 e he).1, h8, fun c hc => (h10 c hc).1⟩
    have ps : Picture spos (gRows s.shelfGrid) (gCols s.shelfGrid) s.shelfGrid s.shelves :=
      ⟨fun e he => (h7 e he).1, h9, fun c hc => (h10 c hc).2⟩
    have pa' := shown_backed_of_picture pa
    have ps' := shown_backed_of_picture ps
    exact ⟨h1, h2, h3, h4, h5, fun a ha => (h6 a ha).2, fun a ha => (h7 a ha).2, pa'.1, pa'.2,
      ps'.1, ps'.2, h11, h12, h13, h14, h15⟩
  · intro h
    have pa := picture_of_shown_backed h.agShown h.agBacked
    have ps := picture_of_shown_backed h.shShown h.shBacked
    exact ⟨h.shS, h.shA, h.shH, h.hR, h.hC, fun a ha => ⟨pa.1 a ha, h.dirs a ha⟩,
      fun a ha => ⟨ps.1 a ha, h.req a ha⟩, pa.2.1, ps.2.1,
      fun c hc => ⟨pa.2.2 c hc, ps.2.2 c hc⟩, h.carry, h.qnd, h.qrange, h.qreq, h.mask⟩

theorem consistent_of_good {cfg : Cfg} {R C : Nat} {s : State} (h : Good cfg R C s) : Consistent cfg s := by
  rw [consistent_iff_good]
  obtain ⟨h1, h2⟩ := h.rows
  rw [h1, h2]; exact h

end RobotWarehouse
