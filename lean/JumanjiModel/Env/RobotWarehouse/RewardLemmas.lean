/-
RobotWarehouse — C08: the reward of a step is the number of deliveries, read from the entity tables, and
the return of a whole run (draws in the support, no collision) is the total number of deliveries.

L2 (`deliveries`): go through the goal cells in order; if the shelf standing on the goal cell (by the shelf
TABLE) is in the request queue, it is delivered and its queue slot is refilled with the drawn id.
L1 (`scanGoals`) reads the shelf id off the floor CHANNEL, looks it up in `queue + 1`, and replaces the slot
found by `argwhere`.  `firedCount` is a second, L1-only account of the reward (the number of goals that fire), for
`Props.C08.rware_step_reward_l1_count`.
-/
import JumanjiModel.Env.RobotWarehouse.ShelfLemmas
import JumanjiModel.Core.TimeStepLemmas
namespace RobotWarehouse
open Jm

/-- every goal `(y, x)` is a cell of the floor (the floor has the shape of `highways`) -/
def GoalsInside (cfg : Cfg) : Prop :=
  ∀ g ∈ cfg.goals, inGrid cfg.highways.length (cfg.highways.headD []).length g.2 g.1

instance (cfg : Cfg) : Decidable (GoalsInside cfg) := by unfold GoalsInside; infer_instance

/-- L2: (ids of the shelves delivered, in order of delivery; the request queue afterwards); `ds`: the drawn replacement
ids, one per goal -/
def deliveries (shelves : List Shelf) : List Int → List (Int × Int) → List Int → List Nat × List Int
  | q, [], _ => ([], q)
  | q, g :: gs, ds =>
    match shelfIdxAt shelves (g.2, g.1) with
    | some k =>
      if (k : Int) ∈ q then
        let r := deliveries shelves (q.map (fun v => if v = (k : Int) then ds.headD 0 else v)) gs ds.tail
        (k :: r.1, r.2)
      else deliveries shelves q gs ds.tail
    | none => deliveries shelves q gs ds.tail

theorem cell_eq_shelfIdx {R C : Nat} {sg : IGrid} {P : List Shelf} (h1 : Shown spos R C sg P)
    (h2 : Backed spos R C sg P) {x y : Int} (hxy : inGrid R C x y) :
    Jx.Grid.getWC sg 0 x y = match shelfIdxAt P (x, y) with | some k => (k : Int) + 1 | none => 0 := by
  split
  · rename_i k hk
    obtain ⟨sh, hsk, hps⟩ := shelfIdxAt_some hk
    have := (h1 k sh hsk).2
    rw [hps] at this; exact this
  · rename_i hk
    unfold shelfIdxAt at hk
    rw [List.findIdx?_eq_none_iff] at hk
    by_cases h0 : Jx.Grid.getWC sg 0 x y = 0
    · exact h0
    · obtain ⟨k, e, he, _, hpe⟩ := h2 x y hxy h0
      have := hk e (List.mem_of_getElem? he)
      obtain ⟨q1, q2⟩ := spos_eq hpe
      simp [q1, q2] at this

theorem goalFires_eq {R C : Nat} {sg : IGrid} {P : List Shelf} (h1 : Shown spos R C sg P)
    (h2 : Backed spos R C sg P) {g : Int × Int} (hg : inGrid R C g.2 g.1) (q : List Int) :
    goalFires sg q g = match shelfIdxAt P (g.2, g.1) with | some k => decide ((k : Int) ∈ q) | none => false := by
  unfold goalFires
  simp only []
  rw [cell_eq_shelfIdx h1 h2 hg]
  split
  · rename_i k hk
    have hne : ((k : Int) + 1 ≠ 0) := by omega
    simp only [hne, ne_eq, not_false_eq_true, decide_true, Bool.true_and]
    by_cases hkq : (k : Int) ∈ q
    · simp only [hkq, decide_true, List.contains_iff_mem, List.mem_map]
      exact ⟨k, hkq, rfl⟩
    · simp only [hkq, decide_false]
      rw [Bool.eq_false_iff]
      intro hh
      simp only [List.contains_iff_mem, List.mem_map] at hh
      obtain ⟨v, hv, hvk⟩ := hh
      have hvk' : v + 1 = (k : Int) + 1 := hvk
      have : v = (k : Int) := by omega
      exact hkq (this ▸ hv)
  · simp

theorem set_idxOf_eq_map {q : List Int} (hnd : q.Nodup) {k : Int} (hk : k ∈ q) (d : Int) :
    q.set (q.idxOf k) d = q.map (fun v => if v = k then d else v) := by
  induction q with
  | nil => simp at hk
  | cons c l ih =>
    simp only [List.nodup_cons] at hnd
    by_cases hck : c = k
    · subst hck
      have : l.map (fun v => if v = c then d else v) = l := by
        conv => rhs; rw [← List.map_id l]
        apply List.map_congr_left
        intro v hv
        have : v ≠ c := fun e => hnd.1 (e ▸ hv)
        simp [this]
      simp [this]
    · have hk' : k ∈ l := by
        rcases List.mem_cons.1 hk with h | h
        · exact absurd h.symm hck
        · exact h
      have hb : (c == k) = false := by simp [hck]
      rw [List.idxOf_cons, hb]
      simp [ih hnd.2 hk', hck]

theorem processGoal_of_fires {sg : IGrid} {dv : Deliv} {g : Int × Int} {d : Int}
    (hf : goalFires sg dv.queue g = true) :
    (processGoal sg dv g d).queue =
      Jx.setWD dv.queue (firstIdx dv.queue (Jx.Grid.getWC sg 0 g.2 g.1 - 1) : Nat) d ∧
    (processGoal sg dv g d).reward = dv.reward + 1 := by
  unfold processGoal; simp [hf]

theorem processGoal_of_not {sg : IGrid} {dv : Deliv} {g : Int × Int} {d : Int}
    (hf : goalFires sg dv.queue g = false) : processGoal sg dv g d = dv := by
  unfold processGoal; simp [hf]

theorem natCast_succ_rat (r : Rat) (n : Nat) : r + 1 + ((n : Nat) : Rat) = r + ((n + 1 : Nat) : Rat) := by
  rw [Rat.natCast_add, Rat.add_assoc, Rat.add_comm 1]
  rfl

theorem scanGoals_deliveries {R C : Nat} {sg : IGrid} {P : List Shelf} (h1 : Shown spos R C sg P)
    (h2 : Backed spos R C sg P) :
    ∀ (gs : List (Int × Int)) (dv : Deliv) (ds : List Int), QInv dv.queue dv.shelves →
      validDraws sg dv gs ds = true → (∀ g ∈ gs, inGrid R C g.2 g.1) →
      (scanGoals sg dv gs ds).reward = dv.reward + (((deliveries P dv.queue gs ds).1.length : Nat) : Rat) ∧
      (scanGoals sg dv gs ds).queue = (deliveries P dv.queue gs ds).2 := by
  intro gs
  induction gs with
  | nil =>
    intro dv ds _ _ _
    simp only [scanGoals, deliveries, List.length_nil]
    exact ⟨(Rat.add_zero _).symm, trivial⟩
  | cons g gs ih =>
    intro dv ds hq hv hin
    obtain ⟨hd, hv2⟩ := validDraws_cons hv
    have hgin := hin g (List.mem_cons_self ..)
    have hq' := processGoal_inv sg dv g (ds.headD 0) hq hd
    have ih' := ih (processGoal sg dv g (ds.headD 0)) ds.tail hq' hv2
      (fun g' hg' => hin g' (List.mem_cons_of_mem _ hg'))
    have hfe := goalFires_eq h1 h2 hgin dv.queue
    have hce := cell_eq_shelfIdx h1 h2 hgin
    simp only [scanGoals, deliveries]
    cases hidx : shelfIdxAt P (g.2, g.1) with
    | none =>
      rw [hidx] at hfe
      simp only [] at hfe
      rw [processGoal_of_not hfe] at ih' ⊢
      exact ih'
    | some k =>
      rw [hidx] at hfe hce
      simp only [] at hfe hce
      by_cases hkq : (k : Int) ∈ dv.queue
      · have hf : goalFires sg dv.queue g = true := by rw [hfe]; simpa using hkq
        obtain ⟨e1, e2⟩ := processGoal_of_fires (d := ds.headD 0) hf
        have e3 : (processGoal sg dv g (ds.headD 0)).queue =
            dv.queue.map (fun v => if v = (k : Int) then ds.headD 0 else v) := by
          rw [e1, hce]
          have : (k : Int) + 1 - 1 = k := by omega
          rw [this]
          have hcon : dv.queue.contains (k : Int) = true := by simpa using hkq
          simp only [firstIdx, hcon, if_true]
          rw [Jx.setWD_natCast]
          exact set_idxOf_eq_map hq.nd hkq _
        rw [e2, e3] at ih'
        simp only [hkq, if_true, List.length_cons]
        exact ⟨ih'.1.trans (natCast_succ_rat _ _), ih'.2⟩
      · have hf : goalFires sg dv.queue g = false := by rw [hfe]; simpa using hkq
        rw [processGoal_of_not hf] at ih' ⊢
        simp only [hkq, if_false]
        exact ih'

theorem step_reward_eq (cfg : Cfg) (s : State) (a d : List Int) : (step cfg s a d).2.reward =
    [(scanGoals (afterMoves cfg s a).shelfGrid ⟨s.queue, (afterMoves cfg s a).shelves, 0⟩ cfg.goals d).reward] := by
  rw [step_ts, condLast_reward]

/-- the deliveries of one step: shelf ids, from the successor's shelf table and the predecessor's queue -/
def stepDeliveries (cfg : Cfg) (s : State) (a d : List Int) : List Nat :=
  (deliveries (step cfg s a d).1.shelves s.queue cfg.goals d).1

/-- C08, one step: the reward is the number of deliveries and the new request queue is the L2 queue -/
theorem step_reward_deliveries {cfg : Cfg} {s : State} (hc : Consistent cfg s) (hg : GoalsInside cfg)
    (a d : List Int) (hv : ValidDraw cfg s a d) (hcol : NoCollision cfg s a) :
    (step cfg s a d).2.reward = [(((stepDeliveries cfg s a d).length : Nat) : Rat)] ∧
    (step cfg s a d).1.queue = (deliveries (step cfg s a d).1.shelves s.queue cfg.goals d).2 := by
  have h := (consistent_iff_good cfg s).1 hc
  generalize hR : gRows s.shelfGrid = R at h
  generalize hC : gCols s.shelfGrid = C at h
  obtain ⟨_, hst, hq0⟩ := afterMoves_pic h a hcol
  have hdims := shaped_dims h.shH h.hR
  have hgin : ∀ g ∈ cfg.goals, inGrid R C g.2 g.1 := by
    intro g hgm
    have := hg g hgm
    rw [hdims.1, hdims.2] at this
    exact this
  unfold stepDeliveries
  unfold ValidDraw at hv
  have hpos : ∀ (k : Nat), ((step cfg s a d).1.shelves[k]?).map spos =
      ((afterMoves cfg s a).shelves[k]?).map spos := step_shelves_spos cfg s a d
  have hShown := shown_of_pos_eq hpos hst.shShown
  have hBacked := backed_of_pos_eq hpos hst.shBacked
  have key := scanGoals_deliveries hShown hBacked cfg.goals ⟨s.queue, (afterMoves cfg s a).shelves, 0⟩ d
    hq0 hv hgin
  simp only [Rat.zero_add] at key
  have e2 : (step cfg s a d).1.queue =
      (scanGoals (afterMoves cfg s a).shelfGrid ⟨s.queue, (afterMoves cfg s a).shelves, 0⟩ cfg.goals d).queue := rfl
  rw [step_reward_eq, e2, key.1, key.2]
  exact ⟨rfl, rfl⟩

/-- L1: how many goals fire along the goal scan (floor channel + queue, as the code reads them) -/
def firedCount (sg : IGrid) : Deliv → List (Int × Int) → List Int → Nat
  | _, [], _ => 0
  | dv, g :: gs, ds => (if goalFires sg dv.queue g then 1 else 0) +
      firedCount sg (processGoal sg dv g (ds.headD 0)) gs ds.tail

theorem firedCount_le (sg : IGrid) : ∀ (gs : List (Int × Int)) (dv : Deliv) (ds : List Int),
    firedCount sg dv gs ds ≤ gs.length := by
  intro gs
  induction gs with
  | nil => intro dv ds; simp [firedCount]
  | cons g gs ih =>
    intro dv ds
    simp only [firedCount, List.length_cons]
    have := ih (processGoal sg dv g (ds.headD 0)) ds.tail
    split <;> omega

theorem scanGoals_reward (sg : IGrid) : ∀ (gs : List (Int × Int)) (dv : Deliv) (ds : List Int),
    (scanGoals sg dv gs ds).reward = dv.reward + ((firedCount sg dv gs ds : Nat) : Rat) := by
  intro gs
  induction gs with
  | nil => intro dv ds; simp only [scanGoals, firedCount]; exact (Rat.add_zero _).symm
  | cons g gs ih =>
    intro dv ds
    simp only [scanGoals, firedCount]
    rw [ih]
    by_cases hf : goalFires sg dv.queue g = true
    · rw [(processGoal_of_fires hf).2]
      simp only [hf, if_true]
      rw [Nat.add_comm 1]
      exact natCast_succ_rat _ _
    · have hf' : goalFires sg dv.queue g = false := by simpa using hf
      rw [processGoal_of_not hf']
      simp [hf']

/-- a play: one (joint action, draw) pair per step -/
abbrev Play := List (List Int × List Int)

/-- the state after playing `ps` from `s` (the model's `run` is the trace, its `stateAt` the state after a prefix) -/
def runState (cfg : Cfg) (s : State) : Play → State
  | [] => s
  | p :: ps => runState cfg (step cfg s p.1 p.2).1 ps

/-- sum of the rewards of playing `ps` from `s` -/
def runReturn (cfg : Cfg) (s : State) : Play → Rat
  | [] => 0
  | p :: ps => (step cfg s p.1 p.2).2.reward.sum + runReturn cfg (step cfg s p.1 p.2).1 ps

/-- L2: all deliveries of the play, in order: (step index, shelf id) -/
def runDeliveries (cfg : Cfg) (s : State) : Play → Nat → List (Nat × Nat)
  | [], _ => []
  | p :: ps, t => (stepDeliveries cfg s p.1 p.2).map (fun k => (t, k)) ++
      runDeliveries cfg (step cfg s p.1 p.2).1 ps (t + 1)

/-- every draw in the support and no step with a collision (the play may run past the time limit) -/
def ValidRun (cfg : Cfg) (s : State) : Play → Prop
  | [] => True
  | p :: ps => ValidDraw cfg s p.1 p.2 ∧ NoCollision cfg s p.1 ∧ ValidRun cfg (step cfg s p.1 p.2).1 ps

instance (cfg : Cfg) : ∀ (s : State) (ps : Play), Decidable (ValidRun cfg s ps)
  | _, [] => by unfold ValidRun; infer_instance
  | s, p :: ps => by
    unfold ValidRun
    have := instDecidableValidRun cfg (step cfg s p.1 p.2).1 ps
    infer_instance

/-- C08, whole run (telescoping): the return is the number of deliveries -/
theorem run_return {cfg : Cfg} (hg : GoalsInside cfg) : ∀ (ps : Play) (s : State) (t : Nat),
    Consistent cfg s → ValidRun cfg s ps →
    runReturn cfg s ps = (((runDeliveries cfg s ps t).length : Nat) : Rat) := by
  intro ps
  induction ps with
  | nil => intro s t _ _; rfl
  | cons p ps ih =>
    intro s t hc hv
    obtain ⟨h1, h2, h3⟩ := hv
    have hs := step_reward_deliveries hc hg p.1 p.2 h1 h2
    have hc' := step_consistent_nocoll hc p.1 p.2 h1 h2
    simp only [runReturn, runDeliveries, List.length_append, List.length_map]
    rw [hs.1, ih _ (t + 1) hc' h3, Rat.natCast_add]
    simp [Rat.add_zero]

end RobotWarehouse
