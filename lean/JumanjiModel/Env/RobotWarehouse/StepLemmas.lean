/-
RobotWarehouse — C05 / C07: the per-agent scan of `step`, from a `Consistent` start state `s0`.

The scan passes through intermediate worlds that are NOT consistent (two agents may stand on one cell until the later one
moves away, and a collision overwrites the agents channel).  ONE induction (`scan_from_good`) threads an invariant in two layers:
* `Track R C s0 w i` holds after EVERY prefix of the scan, for every joint action (collision or not): it follows every shelf of `s0` —
  a cell that showed a shelf in `s0` still shows the same id unless the agent that carried that shelf has been processed; a
  shelf that agent `j` carried in `s0` is on the cell of agent `j`; a shelf that nobody carried is on its `s0` cell;
* on top of it, either `Clash w i` — two already processed agents (ids `< i`) share a cell; processed agents never move again,
  so this persists to the end of the scan, where `is_collision` reports it (the step is LAST) — or `Pic R C w`, a property of the
  world alone: the shelf channel is still the exact picture of the shelf table, every non-empty cell of the agents channel is
  backed by an agent standing there, carrying agents stand on a shelf and no two of them share a cell.
At the end `no collision` upgrades `Backed` to the full picture of the agents channel (ConsistentLemmas).
-/
import JumanjiModel.Env.RobotWarehouse.MaskLemmas
namespace RobotWarehouse
open Jm

theorem set_getElem?_cases {α} {xs : List α} {i j : Nat} {a b : α} (h : (xs.set i a)[j]? = some b) :
    (j = i ∧ b = a) ∨ (j ≠ i ∧ xs[j]? = some b) := by
  rw [List.getElem?_set] at h
  by_cases hij : i = j
  · subst hij
    simp only [if_true] at h
    split at h
    · exact Or.inl ⟨rfl, (Option.some.inj h).symm⟩
    · cases h
  · simp only [hij, if_false] at h
    exact Or.inr ⟨fun e => hij e.symm, h⟩

theorem backed_move {α} {pos : α → Int × Int} {R C : Nat} {g : IGrid} {es : List α} {k : Nat} {e e' : α}
    {x y : Int} {t : Int × Int} (hs : Jx.Grid.shaped g R C = true) (h : Backed pos R C g es)
    (hk : es[k]? = some e) (hpe : pos e = (x, y)) (hpe' : pos e' = t) (hp : inGrid R C x y)
    (ht : inGrid R C t.1 t.2) :
    Backed pos R C (Jx.Grid.setWD (Jx.Grid.setWD g x y 0) t.1 t.2 ((k : Int) + 1)) (es.set k e') := by
  intro x' y' hxy hne
  rw [cell_move hs hp ht hxy] at hne ⊢
  by_cases h1 : x' = t.1 ∧ y' = t.2
  · rw [if_pos h1]
    exact ⟨k, e', List.getElem?_set_self (Jx.lt_of_getElem? hk), rfl, hpe'.trans (Prod.ext h1.1.symm h1.2.symm)⟩
  · rw [if_neg h1] at hne ⊢
    by_cases h2 : x' = x ∧ y' = y
    · rw [if_pos h2] at hne; exact absurd rfl hne
    · rw [if_neg h2] at hne ⊢
      obtain ⟨m, b, hm, hv, hpb⟩ := h x' y' hxy hne
      have hmk : m ≠ k := by
        rintro rfl
        rw [hk] at hm; cases hm
        have := hpe.symm.trans hpb
        exact h2 ⟨(congrArg Prod.fst this).symm, (congrArg Prod.snd this).symm⟩
      exact ⟨m, b, by rw [List.getElem?_set_ne (Ne.symm hmk)]; exact hm, hv, hpb⟩

theorem shown_move {α} {pos : α → Int × Int} {R C : Nat} {g : IGrid} {es : List α} {k : Nat} {e e' : α}
    {x y : Int} {t : Int × Int} (hs : Jx.Grid.shaped g R C = true) (h : Shown pos R C g es)
    (hk : es[k]? = some e) (hpe : pos e = (x, y)) (hpe' : pos e' = t) (hp : inGrid R C x y)
    (ht : inGrid R C t.1 t.2) (hfree : (t.1 = x ∧ t.2 = y) ∨ Jx.Grid.getWC g 0 t.1 t.2 = 0) :
    Shown pos R C (Jx.Grid.setWD (Jx.Grid.setWD g x y 0) t.1 t.2 ((k : Int) + 1)) (es.set k e') := by
  intro m b hm
  rcases set_getElem?_cases hm with ⟨rfl, rfl⟩ | ⟨hne, hm'⟩
  · rw [hpe']
    exact ⟨ht, by rw [cell_move hs hp ht ht, if_pos ⟨rfl, rfl⟩]⟩
  · obtain ⟨hin, hval⟩ := h m b hm'
    refine ⟨hin, ?_⟩
    rw [cell_move hs hp ht hin]
    have hnp : ¬ ((pos b).1 = x ∧ (pos b).2 = y) := fun hh =>
      hne (h.distinct hm' hk ((Prod.ext hh.1 hh.2 : pos b = (x, y)).trans hpe.symm))
    have hnt : ¬ ((pos b).1 = t.1 ∧ (pos b).2 = t.2) := by
      intro hh
      rw [hh.1, hh.2] at hval
      rcases hfree with h1 | h1
      · exact hnp ⟨hh.1.trans h1.1, hh.2.trans h1.2⟩
      · omega
    rw [if_neg hnt, if_neg hnp]
    exact hval

theorem apos_eq {a b : Agent} (h : apos a = apos b) : a.x = b.x ∧ a.y = b.y := by
  unfold apos at h
  exact ⟨congrArg Prod.fst h, congrArg Prod.snd h⟩

theorem forward_free {R C : Nat} {w : World} {i : Nat} {ag : Agent} {t : Int × Int} (hi : w.agents[i]? = some ag)
    (hS : Jx.Grid.shaped w.shelfGrid R C = true) (hR : 0 < R) (ht : newPos R C ag.x ag.y ag.dir = t)
    (hc : ¬ ag.carrying = true) :
    forward w i =
      ⟨w.shelfGrid, Jx.Grid.setWD (Jx.Grid.setWD w.agentGrid ag.x ag.y 0) t.1 t.2 ((i : Int) + 1),
        w.agents.set i { ag with x := t.1, y := t.2 }, w.shelves⟩ := by
  obtain ⟨eR, eC⟩ : gRows w.shelfGrid = R ∧ gCols w.shelfGrid = C := shaped_dims hS hR
  subst ht
  unfold forward
  simp only [Jx.getWC_idx w.agents default hi, Jx.setWD_natCast w.agents i _, eR, eC]
  rw [if_neg hc]

theorem forward_carry {R C : Nat} {w : World} {i k : Nat} {ag : Agent} {e : Shelf} {t : Int × Int}
    (hi : w.agents[i]? = some ag) (hS : Jx.Grid.shaped w.shelfGrid R C = true) (hR : 0 < R)
    (ht : newPos R C ag.x ag.y ag.dir = t) (hc : ag.carrying = true)
    (hv : Jx.Grid.getWC w.shelfGrid 0 ag.x ag.y = (k : Int) + 1) (he : w.shelves[k]? = some e) :
    forward w i =
      ⟨Jx.Grid.setWD (Jx.Grid.setWD w.shelfGrid ag.x ag.y 0) t.1 t.2 ((k : Int) + 1),
        Jx.Grid.setWD (Jx.Grid.setWD w.agentGrid ag.x ag.y 0) t.1 t.2 ((i : Int) + 1),
        w.agents.set i { ag with x := t.1, y := t.2 }, w.shelves.set k { e with x := t.1, y := t.2 }⟩ := by
  obtain ⟨eR, eC⟩ : gRows w.shelfGrid = R ∧ gCols w.shelfGrid = C := shaped_dims hS hR
  subst ht
  unfold forward
  simp only [Jx.getWC_idx w.agents default hi, Jx.setWD_natCast w.agents i _, eR, eC]
  rw [if_pos hc, hv, Int.add_sub_cancel, Jx.getWC_idx w.shelves default he, Jx.setWD_natCast w.shelves k _]

theorem validActions_allowed (sg : IGrid) (agents : List Agent) (actions : List Int) {m : Nat} {ag : Agent}
    (hm : (validActions (computeMask sg agents) actions)[m]? = some 1) (hag : agents[m]? = some ag) :
    isValidAction sg ag 1 = true := by
  have hrow : (computeMask sg agents)[m]? = some ((List.range 5).map fun (a : Nat) => isValidAction sg ag (a : Int)) := by
    unfold computeMask
    rw [List.getElem?_map, hag]; rfl
  obtain ⟨a, ha⟩ : ∃ a, actions[m]? = some a := by
    have := Jx.lt_of_getElem? hm
    unfold validActions at this
    rw [List.length_zipWith] at this
    exact ⟨_, List.getElem?_eq_getElem (by omega)⟩
  rw [validActions_getElem? hrow ha, Option.some.injEq] at hm
  split at hm
  · rename_i hb
    subst hm
    rw [← hb]
    exact (Jx.getWC_range_map (fun (a : Nat) => isValidAction sg ag (a : Int)) false (by omega : 1 < 5)).symm
  · omega

/-- `scanAgents_induct` for the scan of `step`: FORWARD only has to be considered for an agent for which it was valid in
the START state, since `get_valid_actions` filters by the cached mask -/
theorem scan_induct {s : State} (hmask : s.mask = computeMask s.shelfGrid s.agents) (hw : List (List Bool))
    (P : World → Nat → Prop) (h0 : P s.world 0)
    (hstep : ∀ (w : World) (i : Nat) (ag : Agent) (a : Int), P w i → s.agents[i]? = some ag →
      (a = 1 → isValidAction s.shelfGrid ag 1 = true) → P (updateAgent hw w a i) (i + 1))
    (actions : List Int) :
    P (scanAgents hw s.world (validActions s.mask actions) 0) (validActions s.mask actions).length := by
  have hl : (validActions s.mask actions).length ≤ s.agents.length := by
    have h1 := validActions_length_le s.mask actions
    have h2 : s.mask.length = s.agents.length := by rw [hmask]; simp [computeMask]
    omega
  have := scanAgents_induct hw P (validActions s.mask actions) s.world 0 h0 fun w m a ha hP => by
    rw [Nat.zero_add] at hP ⊢
    have hm : m < s.agents.length := Nat.lt_of_lt_of_le (Jx.lt_of_getElem? ha) hl
    exact hstep w m _ a hP (List.getElem?_eq_getElem hm) fun h1 =>
      validActions_allowed _ _ actions (by rw [← hmask, ha, h1]) (List.getElem?_eq_getElem hm)
  rwa [Nat.zero_add] at this

/-- in the start state agent `j` carries a shelf and stands on cell `c` -/
def CarrierAt (s0 : State) (j : Nat) (c : Int × Int) : Prop :=
  ∃ a, s0.agents[j]? = some a ∧ a.carrying = true ∧ apos a = c

/-- the scan has processed the agents below `i`: those from `i` on are as in `s0` (`rest`), and no shelf's `is_requested` has
changed (`sreq`); `keep`, `carried`, `free` as in the head of the file -/
structure Track (R C : Nat) (s0 : State) (w : World) (i : Nat) : Prop where
  shS : Jx.Grid.shaped w.shelfGrid R C = true
  alen : w.agents.length = s0.agents.length
  slen : w.shelves.length = s0.shelves.length
  rest : ∀ k, i ≤ k → w.agents[k]? = s0.agents[k]?
  keep : ∀ x y, inGrid R C x y → Jx.Grid.getWC s0.shelfGrid 0 x y ≠ 0 →
    Jx.Grid.getWC w.shelfGrid 0 x y = Jx.Grid.getWC s0.shelfGrid 0 x y ∨ ∃ j, j < i ∧ CarrierAt s0 j (x, y)
  carried : ∀ (k j : Nat) (sh0 : Shelf), s0.shelves[k]? = some sh0 → CarrierAt s0 j (spos sh0) →
    ∃ sh a', w.shelves[k]? = some sh ∧ w.agents[j]? = some a' ∧ spos sh = apos a'
  free : ∀ (k : Nat) (sh0 : Shelf), s0.shelves[k]? = some sh0 → (∀ j, ¬ CarrierAt s0 j (spos sh0)) →
    (w.shelves[k]?).map spos = some (spos sh0)
  sreq : ∀ (k : Nat), (w.shelves[k]?).map (·.requested) = (s0.shelves[k]?).map (·.requested)

theorem track_init {cfg : Cfg} {R C : Nat} {s : State} (h : Good cfg R C s) : Track R C s s.world 0 := by
  refine ⟨h.shS, rfl, rfl, fun _ _ => rfl, fun x y _ _ => Or.inl rfl, ?_, ?_, fun _ => rfl⟩
  · rintro k j sh0 hk ⟨a, ha, _, hp⟩
    exact ⟨sh0, a, hk, ha, hp.symm⟩
  · intro k sh0 hk _
    show (s.shelves[k]?).map spos = _
    rw [hk]; rfl

theorem track_mono {R C : Nat} {s0 : State} {w : World} {i : Nat} (h : Track R C s0 w i) :
    Track R C s0 w (i + 1) := by
  refine ⟨h.shS, h.alen, h.slen, fun k hk => h.rest k (by omega), ?_, h.carried, h.free, h.sreq⟩
  intro x y hxy hne
  rcases h.keep x y hxy hne with h1 | ⟨j, hj, hc⟩
  · exact Or.inl h1
  · exact Or.inr ⟨j, by omega, hc⟩

/-- agent `i` is replaced by an agent that stands on the same cell if it carried (turn, load, offload, a move
without a shelf); the agent channel is not looked at -/
theorem track_set_same {R C : Nat} {s0 : State} {w : World} {i : Nat} {ag ag' : Agent}
    (h : Track R C s0 w i) (hi : w.agents[i]? = some ag) (hp : ag.carrying = true → apos ag' = apos ag)
    (ga : IGrid) : Track R C s0 ⟨w.shelfGrid, ga, w.agents.set i ag', w.shelves⟩ (i + 1) := by
  have hlt := Jx.lt_of_getElem? hi
  refine ⟨h.shS, by simp [h.alen], h.slen, ?_, (track_mono h).keep, ?_, h.free, h.sreq⟩
  · intro k hk
    simp only []
    rw [List.getElem?_set_ne (by omega)]
    exact h.rest k (by omega)
  · intro k j sh0 hk hc
    obtain ⟨sh, a', h1, h2, h3⟩ := h.carried k j sh0 hk hc
    by_cases hji : j = i
    · subst hji
      rw [hi] at h2
      cases h2
      obtain ⟨a, ha, hca, _⟩ := hc
      rw [← h.rest j (Nat.le_refl j), hi] at ha
      cases ha
      exact ⟨sh, ag', h1, List.getElem?_set_self hlt, h3.trans (hp hca).symm⟩
    · exact ⟨sh, a', h1, by simp only []; rw [List.getElem?_set_ne (Ne.symm hji)]; exact h2, h3⟩

theorem still_track {R C : Nat} {s0 : State} {w : World} {i : Nat} {ag : Agent}
    (h : Track R C s0 w i) (hi : w.agents[i]? = some ag) {a : Int} (ha : a ≠ 1) (hw : List (List Bool)) :
    Track R C s0 (updateAgent hw w a i) (i + 1) := by
  rw [updateAgent_eq hw w i ha, Jx.getWC_idx w.agents default hi]
  exact track_set_same h hi (fun _ => acted_apos ha) _

theorem forward_track {cfg : Cfg} {R C : Nat} {s0 : State} {w : World} {i : Nat} {ag : Agent}
    (h0 : Good cfg R C s0) (h : Track R C s0 w i) (hi0 : s0.agents[i]? = some ag)
    (hallow : isValidAction s0.shelfGrid ag 1 = true) : Track R C s0 (forward w i) (i + 1) := by
  have hi : w.agents[i]? = some ag := by rw [h.rest i (Nat.le_refl i)]; exact hi0
  have hlt := Jx.lt_of_getElem? hi
  have hpin : inGrid R C ag.x ag.y := (h0.agShown i ag hi0).1
  have ht := newPos_inGrid hpin (h0.dirs ag (List.mem_of_getElem? hi0))
  have hrest : ∀ (a' : Agent) (k : Nat), i + 1 ≤ k → (w.agents.set i a')[k]? = s0.agents[k]? := by
    intro a' k hk
    rw [List.getElem?_set_ne (by omega)]
    exact h.rest k (by omega)
  generalize htdef : newPos R C ag.x ag.y ag.dir = t at ht
  by_cases hc : ag.carrying = true
  · -- the shelf under the agent in the start state
    have hne0 : Jx.Grid.getWC s0.shelfGrid 0 ag.x ag.y ≠ 0 :=
      (shelf_cell_ne_zero_iff h0.shShown h0.shBacked hpin).2 (h0.carry ag (List.mem_of_getElem? hi0) hc)
    obtain ⟨k, e, he, hv, hpe⟩ := h0.shBacked ag.x ag.y hpin hne0
    have hcar_i : CarrierAt s0 i (spos e) := ⟨ag, hi0, hc, by rw [hpe]; rfl⟩
    have uniq : ∀ (j : Nat), CarrierAt s0 j (ag.x, ag.y) → j = i := by
      rintro j ⟨a, ha, _, hp⟩
      exact h0.agShown.distinct ha hi0 hp
    have hcell : Jx.Grid.getWC w.shelfGrid 0 ag.x ag.y = (k : Int) + 1 := by
      rcases h.keep ag.x ag.y hpin hne0 with h1 | ⟨j, hj, hcj⟩
      · rw [h1]; exact hv
      · have := uniq j hcj; omega
    have hklt0 : k < s0.shelves.length := Jx.lt_of_getElem? he
    have hklt : k < w.shelves.length := by rw [h.slen]; exact hklt0
    rw [forward_carry hi h.shS h0.hR htdef hc hcell (List.getElem?_eq_getElem hklt)]
    have tfree : (t.1 = ag.x ∧ t.2 = ag.y) ∨ Jx.Grid.getWC s0.shelfGrid 0 t.1 t.2 = 0 := by
      have hv := isValidAction_forward hallow hc
      rw [h0.rows.1, h0.rows.2, htdef] at hv
      exact hv
    refine ⟨Jx.Grid.shaped_setWD (Jx.Grid.shaped_setWD h.shS _ _ _) _ _ _, by simp [h.alen], by simp [h.slen], hrest _, ?_, ?_, ?_, ?_⟩
    · intro x y hxy hne
      by_cases h2 : x = ag.x ∧ y = ag.y
      · exact Or.inr ⟨i, by omega, by rw [h2.1, h2.2]; exact ⟨ag, hi0, hc, rfl⟩⟩
      · have h1 : ¬ (x = t.1 ∧ y = t.2) := by
          intro hh
          rcases tfree with h3 | h3
          · exact h2 ⟨hh.1.trans h3.1, hh.2.trans h3.2⟩
          · rw [hh.1, hh.2] at hne; exact hne h3
        simp only []
        rw [cell_move h.shS hpin ht hxy]
        simp only [h1, h2, if_false]
        exact (track_mono h).keep x y hxy hne
    · intro k' j sh0 hk' hcj
      simp only []
      by_cases hkk : k' = k
      · subst hkk
        rw [he] at hk'; cases hk'
        have hji : j = i := uniq j (by rw [← hpe]; exact hcj)
        subst hji
        exact ⟨_, _, List.getElem?_set_self hklt, List.getElem?_set_self hlt, rfl⟩
      · have hji : j ≠ i := by
          intro hji; subst hji
          obtain ⟨a, ha, _, hp⟩ := hcj
          rw [hi0] at ha; cases ha
          exact hkk (h0.shShown.distinct hk' he (hp.symm.trans hpe.symm))
        obtain ⟨sh, a', h1, h2, h3⟩ := h.carried k' j sh0 hk' hcj
        exact ⟨sh, a', by rw [List.getElem?_set_ne (Ne.symm hkk)]; exact h1, by rw [List.getElem?_set_ne (Ne.symm hji)]; exact h2, h3⟩
    · intro k' sh0 hk' hfree
      have hkk : k' ≠ k := by
        rintro rfl
        rw [he] at hk'; cases hk'
        exact hfree i hcar_i
      simp only []
      rw [List.getElem?_set_ne (Ne.symm hkk)]; exact h.free k' sh0 hk' hfree
    · intro m
      simp only []
      by_cases hmk : m = k
      · subst hmk
        rw [List.getElem?_set_self hklt, ← h.sreq m, List.getElem?_eq_getElem hklt]
        rfl
      · rw [List.getElem?_set_ne (Ne.symm hmk)]; exact h.sreq m
  · rw [forward_free hi h.shS h0.hR htdef hc]
    exact track_set_same h hi (fun hh => absurd hh hc) _

theorem updateAgent_track {cfg : Cfg} {R C : Nat} {s0 : State} {w : World} {i : Nat} {ag : Agent}
    (h0 : Good cfg R C s0) (h : Track R C s0 w i) (hi : s0.agents[i]? = some ag) (a : Int)
    (hallow : a = 1 → isValidAction s0.shelfGrid ag 1 = true) (hw : List (List Bool)) :
    Track R C s0 (updateAgent hw w a i) (i + 1) := by
  have hi' : w.agents[i]? = some ag := by rw [h.rest i (Nat.le_refl i)]; exact hi
  by_cases h1 : a = 1
  · subst h1
    exact forward_track h0 h hi (hallow rfl)
  · exact still_track h hi' h1 hw

theorem Track.fresh {cfg : Cfg} {R C : Nat} {s0 : State} {w : World} {i : Nat} (h0 : Good cfg R C s0)
    (h : Track R C s0 w i) (hb : Backed spos R C w.shelfGrid w.shelves) {x y : Int} (hxy : inGrid R C x y)
    (hne : Jx.Grid.getWC w.shelfGrid 0 x y ≠ 0) :
    Jx.Grid.getWC s0.shelfGrid 0 x y ≠ 0 ∨ ∃ (j : Nat) (a : Agent), j < i ∧ w.agents[j]? = some a ∧ apos a = (x, y) := by
  obtain ⟨k, e, he, _, hpe⟩ := hb x y hxy hne
  obtain ⟨sh0, hk0⟩ : ∃ sh0, s0.shelves[k]? = some sh0 := ⟨_, List.getElem?_eq_getElem (h.slen ▸ Jx.lt_of_getElem? he)⟩
  have hstart : spos sh0 = (x, y) → Jx.Grid.getWC s0.shelfGrid 0 x y ≠ 0 := fun hp => by
    have := (h0.shShown k _ hk0).2
    rw [hp] at this
    simp only [] at this
    omega
  by_cases hcar : ∃ j, CarrierAt s0 j (spos sh0)
  · obtain ⟨j, hcj⟩ := hcar
    obtain ⟨sh, a', h1, h2, h3⟩ := h.carried k j _ hk0 hcj
    rw [he] at h1; cases h1
    rcases Nat.lt_or_ge j i with hji | hji
    · exact Or.inr ⟨j, a', hji, h2, h3.symm.trans hpe⟩
    · -- its carrier has not moved yet: the shelf is where it was
      obtain ⟨a, ha, _, hp⟩ := hcj
      rw [h.rest j hji, ha] at h2; cases h2
      exact Or.inl (hstart (hp.symm.trans (h3.symm.trans hpe)))
  · have := h.free k _ hk0 (fun j hj => hcar ⟨j, hj⟩)
    rw [he] at this
    exact Or.inl (hstart ((Option.some.inj this).symm.trans hpe))

/-- two processed agents share a cell -/
def Clash (w : World) (i : Nat) : Prop :=
  ∃ (j k : Nat) (a b : Agent), j < k ∧ k < i ∧ w.agents[j]? = some a ∧ w.agents[k]? = some b ∧ apos a = apos b

theorem clash_step (hw : List (List Bool)) {w : World} (a : Int) {i : Nat} (h : Clash w i) :
    Clash (updateAgent hw w a i) (i + 1) := by
  obtain ⟨j, k, x, y, hjk, hki, hj, hk, hxy⟩ := h
  refine ⟨j, k, x, y, hjk, by omega, ?_, ?_, hxy⟩
  · rw [updateAgent_agents_ne hw w a (by omega)]; exact hj
  · rw [updateAgent_agents_ne hw w a (by omega)]; exact hk

/-- what is left of `Good` inside the scan: "every agent's cell shows its id" weakened to "every non-empty cell of the
agents channel is backed" (an agent may stand on the cell another one is about to leave) -/
structure Pic (R C : Nat) (w : World) : Prop where
  shA : Jx.Grid.shaped w.agentGrid R C = true
  ain : ∀ (k : Nat) (ag : Agent), w.agents[k]? = some ag → inGrid R C ag.x ag.y ∧ 0 ≤ ag.dir ∧ ag.dir < 4
  agBacked : Backed apos R C w.agentGrid w.agents
  shShown : Shown spos R C w.shelfGrid w.shelves
  shBacked : Backed spos R C w.shelfGrid w.shelves
  carry : ∀ (k : Nat) (ag : Agent), w.agents[k]? = some ag → ag.carrying = true →
    Jx.Grid.getWC w.shelfGrid 0 ag.x ag.y ≠ 0
  carry2 : ∀ (j k : Nat) (a b : Agent), w.agents[j]? = some a → w.agents[k]? = some b →
    a.carrying = true → b.carrying = true → apos a = apos b → j = k

theorem pic_init {cfg : Cfg} {R C : Nat} {s : State} (h : Good cfg R C s) : Pic R C s.world := by
  refine ⟨h.shA, ?_, h.agBacked, h.shShown, h.shBacked, ?_, ?_⟩
  · intro k ag hk
    exact ⟨(h.agShown k ag hk).1, h.dirs ag (List.mem_of_getElem? hk)⟩
  · intro k ag hk hc
    exact (shelf_cell_ne_zero_iff h.shShown h.shBacked (h.agShown k ag hk).1).2 (h.carry ag (List.mem_of_getElem? hk) hc)
  · intro j k a b hj hk _ _ hab
    exact h.agShown.distinct hj hk hab

/-- agent `i` is replaced by `ag'`; the agent channel `ga'` and the shelf side (`sg'`, `shelves'`) of the new
world are given abstractly -/
theorem pic_replace {R C : Nat} {w : World} {i : Nat} (h : Pic R C w) (ag' : Agent)
    (hin : inGrid R C ag'.x ag'.y) (hd : 0 ≤ ag'.dir ∧ ag'.dir < 4)
    (ga' : IGrid) (hA' : Jx.Grid.shaped ga' R C = true) (agBacked' : Backed apos R C ga' (w.agents.set i ag'))
    (sg' : IGrid) (shelves' : List Shelf) (shShown' : Shown spos R C sg' shelves')
    (shBacked' : Backed spos R C sg' shelves')
    (carry' : ∀ (k : Nat) (b : Agent), k ≠ i → w.agents[k]? = some b → b.carrying = true →
      Jx.Grid.getWC sg' 0 b.x b.y ≠ 0)
    (carryi : ag'.carrying = true → Jx.Grid.getWC sg' 0 ag'.x ag'.y ≠ 0 ∧
      ∀ (k : Nat) (b : Agent), k ≠ i → w.agents[k]? = some b → b.carrying = true → apos b ≠ apos ag') :
    Pic R C ⟨sg', ga', w.agents.set i ag', shelves'⟩ := by
  refine ⟨hA', ?_, agBacked', shShown', shBacked', ?_, ?_⟩
  · intro k a hk
    rcases set_getElem?_cases hk with ⟨rfl, rfl⟩ | ⟨hne, hk'⟩
    · exact ⟨hin, hd⟩
    · exact h.ain k a hk'
  · intro k a hk hca
    rcases set_getElem?_cases hk with ⟨rfl, rfl⟩ | ⟨hne, hk'⟩
    · exact (carryi hca).1
    · exact carry' k a hne hk' hca
  · intro j k a b hj hk hca hcb hab
    rcases set_getElem?_cases hj with ⟨rfl, rfl⟩ | ⟨hnej, hj'⟩
    · rcases set_getElem?_cases hk with ⟨rfl, rfl⟩ | ⟨hnek, hk'⟩
      · rfl
      · exact absurd hab.symm ((carryi hca).2 k b hnek hk' hcb)
    · rcases set_getElem?_cases hk with ⟨rfl, rfl⟩ | ⟨hnek, hk'⟩
      · exact absurd hab ((carryi hcb).2 j a hnej hj' hca)
      · exact h.carry2 j k a b hj' hk' hca hcb hab

theorem pic_set_same {R C : Nat} {w : World} {i : Nat} {ag ag' : Agent}
    (h : Pic R C w) (hi : w.agents[i]? = some ag)
    (hp : apos ag' = apos ag) (hd : 0 ≤ ag'.dir ∧ ag'.dir < 4)
    (hc : ag'.carrying = true → Jx.Grid.getWC w.shelfGrid 0 ag.x ag.y ≠ 0 ∧
       ∀ (k : Nat) (b : Agent), k ≠ i → w.agents[k]? = some b → b.carrying = true → apos b ≠ apos ag) :
    Pic R C { w with agents := w.agents.set i ag' } := by
  obtain ⟨hx, hy⟩ := apos_eq hp
  have hin : inGrid R C ag'.x ag'.y := by
    rw [hx, hy]
    exact (h.ain i ag hi).1
  refine pic_replace h ag' hin hd _ h.shA ?_ _ _ h.shShown h.shBacked (fun k b _ hb hcb => h.carry k b hb hcb) ?_
  · intro x y hxy hne
    obtain ⟨k, e, he, hv, hpe⟩ := h.agBacked x y hxy hne
    by_cases hki : k = i
    · subst hki
      rw [hi] at he
      cases he
      exact ⟨k, ag', List.getElem?_set_self (Jx.lt_of_getElem? hi), hv, hp.trans hpe⟩
    · exact ⟨k, e, by rw [List.getElem?_set_ne (Ne.symm hki)]; exact he, hv, hpe⟩
  · intro hca
    rw [hx, hy, hp]
    exact hc hca

theorem still_pic {cfg : Cfg} {R C : Nat} {s0 : State} {w : World} {i : Nat} {ag : Agent}
    (h0 : Good cfg R C s0) (ht : Track R C s0 w i) (h : Pic R C w) (hi : w.agents[i]? = some ag) {a : Int} (ha : a ≠ 1)
    (hw : List (List Bool)) :
    Clash (updateAgent hw w a i) (i + 1) ∨ Pic R C (updateAgent hw w a i) := by
  have hlt := Jx.lt_of_getElem? hi
  rw [updateAgent_eq hw w i ha, Jx.getWC_idx w.agents default hi]
  by_cases hcl : Clash { w with agents := w.agents.set i (w.acted hw ag a) } (i + 1)
  · exact Or.inl hcl
  refine Or.inr (pic_set_same h hi (acted_apos ha) (acted_dir (h.ain i ag hi).2) fun hca => ?_)
  rcases acted_carrying hca with hc | ⟨_, hb⟩
  · exact ⟨h.carry i ag hi hc, fun k b hk hb hcb hab => hk (h.carry2 k i b ag hb hi hcb hc hab)⟩
  · -- it has just loaded: a carrying agent on the same cell is a processed one (clash) or an untouched one (start state)
    refine ⟨by have := of_decide_eq_true hb; omega, fun k b hk hb' hcb hab => ?_⟩
    rcases Nat.lt_or_ge k i with hki | hki
    · exact hcl ⟨k, i, b, _, hki, by omega, by simp only []; rw [List.getElem?_set_ne (Ne.symm hk)]; exact hb',
        List.getElem?_set_self hlt, hab.trans (acted_apos ha).symm⟩
    · have e1 := ht.rest k hki
      have e2 := ht.rest i (Nat.le_refl i)
      rw [hb'] at e1; rw [hi] at e2
      exact hk (h0.agShown.distinct e1.symm e2.symm hab)

theorem forward_pic {cfg : Cfg} {R C : Nat} {s0 : State} {w : World} {i : Nat} {ag : Agent}
    (h0 : Good cfg R C s0) (ht' : Track R C s0 w i) (h : Pic R C w) (hi : w.agents[i]? = some ag)
    (hallow : isValidAction s0.shelfGrid ag 1 = true) :
    Clash (forward w i) (i + 1) ∨ Pic R C (forward w i) := by
  have hlt := Jx.lt_of_getElem? hi
  have hpin := (h.ain i ag hi).1
  have ht := newPos_inGrid hpin (h.ain i ag hi).2
  by_cases hcl : Clash (forward w i) (i + 1)
  · exact Or.inl hcl
  refine Or.inr ?_
  generalize htdef : newPos R C ag.x ag.y ag.dir = t at ht
  have hA' := Jx.Grid.shaped_setWD (Jx.Grid.shaped_setWD h.shA 0 ag.x ag.y) ((i : Int) + 1) t.1 t.2
  have agBacked' := backed_move (t := t) (e' := ({ ag with x := t.1, y := t.2 } : Agent)) h.shA h.agBacked hi rfl rfl hpin ht
  by_cases hc : ag.carrying = true
  · -- the carried shelf
    obtain ⟨k, e, he, hv, hpe⟩ := h.shBacked ag.x ag.y hpin (h.carry i ag hi hc)
    rw [forward_carry hi ht'.shS h0.hR htdef hc hv he] at hcl ⊢
    have tfree : (t.1 = ag.x ∧ t.2 = ag.y) ∨ Jx.Grid.getWC w.shelfGrid 0 t.1 t.2 = 0 := by
      have hv := isValidAction_forward hallow hc
      rw [h0.rows.1, h0.rows.2, htdef] at hv
      refine hv.imp id (fun h3 => ?_)
      by_cases h2 : Jx.Grid.getWC w.shelfGrid 0 t.1 t.2 = 0
      · exact h2
      exfalso
      rcases ht'.fresh h0 h.shBacked ht h2 with h3' | ⟨j, a, hj, ha, hpa⟩
      · exact h3' h3
      · apply hcl
        refine ⟨j, i, a, _, hj, by omega, ?_, List.getElem?_set_self hlt, ?_⟩
        · simp only []
          rw [List.getElem?_set_ne (by omega)]; exact ha
        · rw [hpa]; simp [apos]
    apply pic_replace h { ag with x := t.1, y := t.2 } ht (h.ain i ag hi).2 _ hA' agBacked' _ _
      (shown_move (t := t) (e' := ({ e with x := t.1, y := t.2 } : Shelf)) ht'.shS h.shShown he hpe rfl hpin ht tfree)
      (backed_move (t := t) (e' := ({ e with x := t.1, y := t.2 } : Shelf)) ht'.shS h.shBacked he hpe rfl hpin ht)
    · -- other carrying agents still stand on a shelf
      intro k' b hk' hb hcb
      have hbin := (h.ain k' b hb).1
      have hold := h.carry k' b hb hcb
      rw [cell_move ht'.shS hpin ht hbin]
      by_cases h1 : b.x = t.1 ∧ b.y = t.2
      · simp only [h1, and_self, if_true]; omega
      · simp only [h1, if_false]
        by_cases h2 : b.x = ag.x ∧ b.y = ag.y
        · exfalso
          apply hk'
          exact h.carry2 k' i b ag hb hi hcb hc (by simp [apos, h2])
        · simp only [h2, if_false]; exact hold
    · intro _
      refine ⟨?_, fun k' b hk' hb hcb hab => ?_⟩
      · simp only []
        rw [cell_move ht'.shS hpin ht ht]
        simp only [and_self, if_true]
        omega
      have hbx := apos_eq hab
      simp only [] at hbx
      rcases tfree with h1 | h1
      · apply hk'
        exact h.carry2 k' i b ag hb hi hcb hc (by simp [apos, hbx.1, hbx.2, h1])
      · have := h.carry k' b hb hcb
        rw [hbx.1, hbx.2] at this
        exact this h1
  · rw [forward_free hi ht'.shS h0.hR htdef hc]
    exact pic_replace h { ag with x := t.1, y := t.2 } ht (h.ain i ag hi).2 _ hA' agBacked' _ _ h.shShown h.shBacked
      (fun k b _ hb hcb => h.carry k b hb hcb) (fun hh => absurd hh hc)

theorem updateAgent_inv {cfg : Cfg} {R C : Nat} {s0 : State} {w : World} {i : Nat} {ag : Agent}
    (h0 : Good cfg R C s0) (h : Track R C s0 w i ∧ (Clash w i ∨ Pic R C w)) (hi : s0.agents[i]? = some ag) (a : Int)
    (hallow : a = 1 → isValidAction s0.shelfGrid ag 1 = true) (hw : List (List Bool)) :
    Track R C s0 (updateAgent hw w a i) (i + 1) ∧
      (Clash (updateAgent hw w a i) (i + 1) ∨ Pic R C (updateAgent hw w a i)) := by
  refine ⟨updateAgent_track h0 h.1 hi a hallow hw, ?_⟩
  rcases h.2 with hc | hp
  · exact Or.inl (clash_step hw a hc)
  · have hi' : w.agents[i]? = some ag := by rw [h.1.rest i (Nat.le_refl i)]; exact hi
    by_cases h1 : a = 1
    · subst h1
      exact forward_pic h0 h.1 hp hi' (hallow rfl)
    · exact still_pic h0 h.1 hp hi' h1 hw

/-- C05 / C07: the invariant of the head of this file, after the whole scan -/
theorem scan_from_good {cfg : Cfg} {R C : Nat} {s : State} (h : Good cfg R C s) (actions : List Int) :
    Track R C s (afterMoves cfg s actions) (validActions s.mask actions).length ∧
      (Clash (afterMoves cfg s actions) (validActions s.mask actions).length ∨ Pic R C (afterMoves cfg s actions)) :=
  scan_induct h.mask cfg.highways (fun w i => Track R C s w i ∧ (Clash w i ∨ Pic R C w)) ⟨track_init h, Or.inr (pic_init h)⟩
    (fun _ _ _ a hP hi hal => updateAgent_inv h hP hi a hal cfg.highways) actions

end RobotWarehouse
