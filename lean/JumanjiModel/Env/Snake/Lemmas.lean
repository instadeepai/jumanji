/-
Snake, the single step and reset.  Definitions: `headAfter`, `eatenB`, `bsAfter` (head, `fruit_eaten` and `body_state` after a
move, as `step` computes them).  The mask is the set of legal moves (C04); the fields of `step` (`step_fst`, the three causes
of LAST: `step_last_iff`); the observation planes (C12, `obs_eq`); chains: `chain_grow` says what happens to a chain when cells
leave at the tail and a head cell is numbered, `step_chain` is its instance for a legal move (C07/C09); `step` keeps
`Consistent`; `step` agrees with the growth rule (`chain_encode`, `stepSpec_eq`, C09); the executable check `consistentB` is
sound (`consistentB_sound`); with `chain_unique` it is exact (`Props.C07.snake_consistentB_iff`); the driver's relation
`growsFrom` across a legal move (`growsFrom_of_chain`); `reset` (`reset_chain`, `reset_consistent`).
-/
import JumanjiModel.Env.Snake.Model
import JumanjiModel.Core.TimeStepLemmas
import JumanjiModel.Prim.GridLemmas
namespace Snake
open Jm Jx

/-! ### the conjuncts of `Chain` and `Derived` by name -/

theorem Chain.length_eq {cfg : Cfg} {s : State} {cs : List (Nat × Nat)} (h : Chain cfg s cs) : (cs.length : Int) = s.length := h.2.1
theorem Chain.pos {cfg : Cfg} {s : State} {cs : List (Nat × Nat)} (h : Chain cfg s cs) : 0 < cs.length := h.2.2.1
theorem Chain.inGrid {cfg : Cfg} {s : State} {cs : List (Nat × Nat)} (h : Chain cfg s cs) :
    ∀ p ∈ cs, p.1 < cfg.rows ∧ p.2 < cfg.cols := h.2.2.2.1
theorem Chain.numbered {cfg : Cfg} {s : State} {cs : List (Nat × Nat)} (h : Chain cfg s cs) :
    ∀ i, i < cs.length → Grid.get s.bodyState 0 (cs.getD i (0, 0)).1 (cs.getD i (0, 0)).2 = (i : Int) + 1 := h.2.2.2.2.1
theorem Chain.off_zero {cfg : Cfg} {s : State} {cs : List (Nat × Nat)} (h : Chain cfg s cs) :
    ∀ p ∈ Grid.coords cfg.rows cfg.cols, p ∉ cs → Grid.get s.bodyState 0 p.1 p.2 = 0 := h.2.2.2.2.2.1
theorem Chain.head_row_nonneg {cfg : Cfg} {s : State} {cs : List (Nat × Nat)} (h : Chain cfg s cs) : 0 ≤ s.head.row :=
  h.2.2.2.2.2.2.2.1
theorem Chain.head_col_nonneg {cfg : Cfg} {s : State} {cs : List (Nat × Nat)} (h : Chain cfg s cs) : 0 ≤ s.head.col :=
  h.2.2.2.2.2.2.2.2.1
theorem Derived.fruit_inGrid {cfg : Cfg} {s : State} (h : Derived cfg s) : inGrid cfg s.fruit.row s.fruit.col := h.2.2.1
theorem Derived.fruit_free {cfg : Cfg} {s : State} (h : Derived cfg s) :
    Grid.all id s.body = false → cell s.bodyState s.fruit.row s.fruit.col = 0 := h.2.2.2.1
theorem Derived.mask {cfg : Cfg} {s : State} (h : Derived cfg s) : s.actionMask = legalMask cfg s := h.2.2.2.2.1
theorem Derived.count_nonneg {cfg : Cfg} {s : State} (h : Derived cfg s) : 0 ≤ s.stepCount := h.2.2.2.2.2

/-! ### the mask is the set of legal moves (C04) -/

theorem clip0_zero : clip0 0 = 0 := by decide

theorem clip0_le_zero (x : Int) : clip0 x ≤ 0 ↔ x ≤ 1 := by
  unfold clip0; split <;> omega

theorem get_clip0 (bs : Grid Int) (r c : Nat) :
    Grid.get (Grid.map clip0 bs) 0 r c = clip0 (Grid.get bs 0 r c) := by
  have := Grid.get_map_default clip0 bs 0 r c
  rwa [clip0_zero] at this

theorem isValidMove_iff (cfg : Cfg) (head : Pos) (bs : Grid Int) (m : Int × Int)
    (hs : Grid.shaped bs cfg.rows cfg.cols = true) :
    isValidMove cfg head bs m = true ↔
      inGrid cfg (head.row + m.1) (head.col + m.2) ∧ cell bs (head.row + m.1) (head.col + m.2) ≤ 1 := by
  unfold isValidMove inGrid
  simp only [Bool.and_eq_true, Bool.not_eq_true', Bool.or_eq_false_iff, decide_eq_false_iff_not, Int.not_lt,
    ge_iff_le, Int.not_le, and_assoc]
  refine and_congr_right fun h1 => and_congr_right fun h2 => and_congr_right fun h3 => and_congr_right fun h4 => ?_
  rw [Grid.getWC_eq_get (Grid.shaped_map_of clip0 hs) 0 h1 h2 h3 h4, get_clip0, clip0_le_zero]
  rfl

theorem target_eq (s : State) {a : Nat} (ha : a < 4) :
    target s a = (s.head.row + (moveOf a).1, s.head.col + (moveOf a).2) := by
  have : a = 0 ∨ a = 1 ∨ a = 2 ∨ a = 3 := by omega
  rcases this with rfl | rfl | rfl | rfl <;>
    simp [target, moveOf, moves, getWC, clampIdx, wrapIdx] <;> omega

theorem mask_getD (cfg : Cfg) (head : Pos) (bs : Grid Int) {a : Nat} (ha : a < 4) :
    (getActionMask cfg head bs).getD a false = isValidMove cfg head bs (moveOf a) := by
  have hl : a < moves.length := ha
  rw [getActionMask, moveOf, Jx.getWC_nat moves _ hl, List.getD_eq_getElem?_getD, List.getD_eq_getElem?_getD,
    List.getElem?_map, List.getElem?_eq_getElem hl]
  rfl

/-- C04: the mask computed by `_get_action_mask` is exactly the set of legal moves -/
theorem mask_iff_legal (cfg : Cfg) (s : State) (a : Nat) (ha : a < 4)
    (hs : Grid.shaped s.bodyState cfg.rows cfg.cols = true) :
    (getActionMask cfg s.head s.bodyState).getD a false = true ↔ legal cfg s a := by
  rw [mask_getD cfg s.head s.bodyState ha, isValidMove_iff cfg s.head s.bodyState _ hs]
  unfold legal
  rw [target_eq s ha]
  simp [ha]

theorem mask_eq_legalMask (cfg : Cfg) (s : State)
    (hs : Grid.shaped s.bodyState cfg.rows cfg.cols = true) :
    getActionMask cfg s.head s.bodyState = legalMask cfg s :=
  Jx.eq_range_map_decide (by simp [getActionMask, moves]) fun a ha => mask_iff_legal cfg s a ha hs

theorem legalMask_getD (cfg : Cfg) (s : State) {a : Nat} (ha : a < 4) :
    (legalMask cfg s).getD a false = decide (legal cfg s a) := getD_range_map _ false ha

/-! ### the fields of `step` -/

/-- head position after the move -/
def headAfter (s : State) (a : Int) : Pos := ⟨s.head.row + (moveOf a).1, s.head.col + (moveOf a).2⟩
/-- `fruit_eaten` -/
def eatenB (s : State) (a : Int) : Bool :=
  decide ((headAfter s a).row = s.fruit.row) && decide ((headAfter s a).col = s.fruit.col)
/-- `body_state` after the move -/
def bsAfter (s : State) (a : Int) : Grid Int :=
  Grid.setWD (if eatenB s a then s.bodyState else Grid.map clip0 s.bodyState)
    (headAfter s a).row (headAfter s a).col (s.length + (if eatenB s a then 1 else 0))

theorem step_fst (rnd : Rat → Rat) (cfg : Cfg) (s : State) (a : Int) (d : Nat) :
    (step rnd cfg s a d).1 =
      { body := Grid.map (fun x => decide (x > 0)) (bsAfter s a), bodyState := bsAfter s a,
        head := headAfter s a, tail := Grid.map (fun x => decide (x = 1)) (bsAfter s a),
        fruit := if eatenB s a then fruitOfDraw cfg d else s.fruit,
        length := s.length + (if eatenB s a then 1 else 0), stepCount := s.stepCount + 1,
        actionMask := getActionMask cfg (headAfter s a) (bsAfter s a) } := rfl

theorem step_reward (rnd : Rat → Rat) (cfg : Cfg) (s : State) (a : Int) (d : Nat) :
    (step rnd cfg s a d).2.reward = [if eatenB s a then 1 else 0] := by
  show (condLast _ _ _).reward = _
  rw [condLast_reward]; rfl

theorem step_obs (rnd : Rat → Rat) (cfg : Cfg) (s : State) (a : Int) (d : Nat) :
    (step rnd cfg s a d).2.obs = stateToObs rnd (step rnd cfg s a d).1 := by
  show (condLast _ _ _).obs = _
  rw [condLast_obs]; rfl

theorem step_type (rnd : Rat → Rat) (cfg : Cfg) (s : State) (a : Int) (d : Nat) :
    (step rnd cfg s a d).2.stepType =
      if (!(getWC s.actionMask false a) || Grid.all id (step rnd cfg s a d).1.body ||
          decide (s.stepCount + 1 ≥ cfg.timeLimit)) then .last else .mid := by
  show (condLast _ _ _).stepType = _
  rw [condLast_stepType]; rfl

/-- C04 (cached mask): the mask stored in the successor is `_get_action_mask` of the successor -/
theorem cached_mask (rnd : Rat → Rat) (cfg : Cfg) (s : State) (a : Int) (d : Nat) :
    (step rnd cfg s a d).1.actionMask =
      getActionMask cfg (step rnd cfg s a d).1.head (step rnd cfg s a d).1.bodyState := by
  rw [step_fst]

/-- C04 (step agrees): with a correct cached mask, `step` treats an action as valid iff it is legal -/
theorem step_agrees (cfg : Cfg) (s : State) (a : Nat) (ha : a < 4) (hm : s.actionMask = legalMask cfg s) :
    getWC s.actionMask false (a : Int) = true ↔ legal cfg s a := by
  rw [hm, Jx.getWC_nat _ _ (by simp [legalMask]; exact ha), legalMask_getD cfg s ha]
  simp

theorem step_last_iff (rnd : Rat → Rat) (cfg : Cfg) (s : State) (a : Int) (d : Nat) :
    (step rnd cfg s a d).2.stepType = .last ↔
      (getWC s.actionMask false a = false ∨ Grid.all id (step rnd cfg s a d).1.body = true ∨
        s.stepCount + 1 ≥ cfg.timeLimit) := by
  rw [step_type]
  cases getWC s.actionMask false a <;> cases Grid.all id (step rnd cfg s a d).1.body <;> simp

theorem step_last_iff_legal (rnd : Rat → Rat) (cfg : Cfg) (s : State) (a : Nat) (d : Nat) (ha : a < 4)
    (hm : s.actionMask = legalMask cfg s) :
    (step rnd cfg s a d).2.stepType = .last ↔
      (¬ legal cfg s a ∨ Grid.all id (step rnd cfg s a d).1.body = true ∨ s.stepCount + 1 ≥ cfg.timeLimit) := by
  rw [step_last_iff, ← step_agrees cfg s a ha hm, Bool.not_eq_true]

theorem eatenB_eq (s : State) {a : Nat} (ha : a < 4) : eatenB s a = eats s a := by
  unfold eatenB eats headAfter
  rw [target_eq s ha]

theorem headAfter_eq (s : State) {a : Nat} (ha : a < 4) :
    headAfter s a = ⟨(target s a).1, (target s a).2⟩ := by
  unfold headAfter; rw [target_eq s ha]

theorem eats_iff (s : State) (a : Nat) :
    eats s a = true ↔ (target s a).1 = s.fruit.row ∧ (target s a).2 = s.fruit.col := by
  simp [eats]

/-- C05: an illegal move ends the episode; with the fruit on a free cell of the board its reward is 0 -/
theorem illegal_terminates (rnd : Rat → Rat) (cfg : Cfg) (s : State) (a : Nat) (d : Nat) (ha : a < 4)
    (hm : s.actionMask = legalMask cfg s) (h : ¬ legal cfg s a) :
    (step rnd cfg s a d).2.stepType = .last ∧ (step rnd cfg s a d).2.discount = [0] ∧
    (inGrid cfg s.fruit.row s.fruit.col → cell s.bodyState s.fruit.row s.fruit.col = 0 →
      (step rnd cfg s a d).2.reward = [0]) := by
  have hv : getWC s.actionMask false (a : Int) = false :=
    Bool.eq_false_iff.2 (fun hh => h ((step_agrees cfg s a ha hm).1 hh))
  refine ⟨(step_last_iff rnd cfg s a d).2 (Or.inl hv), ?_, ?_⟩
  · show (condLast _ _ _).discount = _
    simp only [hv, Bool.not_false, Bool.true_or]
    exact condLast_discount true _ _
  · intro hin hfree
    have he : eats s a = false := Bool.eq_false_iff.2 fun he => by
      rw [eats_iff] at he
      exact h ⟨ha, he.1 ▸ he.2 ▸ hin, by rw [he.1, he.2, hfree]; decide⟩
    rw [step_reward, eatenB_eq s ha, he]
    rfl

/-- C08: the length grows by exactly the reward -/
theorem length_telescopes (rnd : Rat → Rat) (cfg : Cfg) (s : State) (a : Int) (d : Nat) :
    (((step rnd cfg s a d).1.length : Int) : Rat) = (s.length : Rat) + (step rnd cfg s a d).2.reward.sum := by
  rw [step_reward, step_fst]
  simp only []
  cases eatenB s a <;> simp [Rat.intCast_add, Rat.add_zero]

/-- C11: the step counter advances by one; reaching the time limit ends the episode -/
theorem step_count (rnd : Rat → Rat) (cfg : Cfg) (s : State) (a : Int) (d : Nat) :
    (step rnd cfg s a d).1.stepCount = s.stepCount + 1 ∧
    (s.stepCount + 1 ≥ cfg.timeLimit → (step rnd cfg s a d).2.stepType = .last) := by
  exact ⟨rfl, fun h => (step_last_iff rnd cfg s a d).2 (Or.inr (Or.inr h))⟩

/-! ### the observation planes (C12) -/

theorem nat_eq_toNat {n : Nat} {x : Int} (h : 0 ≤ x) : n = x.toNat ↔ (n : Int) = x := by omega

/-- the marker plane `zeros_like(body).at[pos].set(True)` for a position inside the board -/
theorem marker_plane (cfg : Cfg) (body : Grid Bool) (p : Pos) (hb : Grid.shaped body cfg.rows cfg.cols = true)
    (hp : inGrid cfg p.row p.col) :
    Grid.map b2r (Grid.setWD (Grid.map (fun _ => false) body) p.row p.col true) =
      (List.range cfg.rows).map (fun (r : Nat) => (List.range cfg.cols).map (fun (c : Nat) =>
        b2r (decide ((r : Int) = p.row ∧ (c : Int) = p.col)))) := by
  obtain ⟨h1, h2, h3, h4⟩ := hp
  have hz : Grid.shaped (Grid.map (fun _ => false) body) cfg.rows cfg.cols = true := Grid.shaped_map_of _ hb
  rw [Grid.map_eq_table b2r _ false (Grid.shaped_setWD hz true _ _)]
  refine Grid.table_congr fun r _ c _ => ?_
  rw [Grid.get_setWD_of_shaped hz true false h1 h2 h3 h4, Grid.get_map_default (fun _ => false) body true]
  have hiff := and_congr (nat_eq_toNat (n := r) h1) (nat_eq_toNat (n := c) h3)
  by_cases h : r = p.row.toNat ∧ c = p.col.toNat
  · rw [if_pos h, decide_eq_true (hiff.1 h)]
  · rw [if_neg h, decide_eq_false (fun e => h (hiff.2 e))]

/-- C12: for a state whose derived fields agree with `body_state` and whose head and fruit are inside
the board, `_state_to_observation` shows exactly the five documented planes, the step count and the
set of legal moves -/
theorem obs_eq (rnd : Rat → Rat) (cfg : Cfg) (t : State)
    (hs : Grid.shaped t.bodyState cfg.rows cfg.cols = true)
    (hbody : t.body = Grid.map (fun x => decide (x > 0)) t.bodyState)
    (htail : t.tail = Grid.map (fun x => decide (x = 1)) t.bodyState)
    (hh : inGrid cfg t.head.row t.head.col) (hfr : inGrid cfg t.fruit.row t.fruit.col)
    (hm : t.actionMask = legalMask cfg t) :
    stateToObs rnd t = observe rnd cfg t := by
  have hsb : Grid.shaped t.body cfg.rows cfg.cols = true := hbody ▸ Grid.shaped_map_of _ hs
  unfold stateToObs observe
  simp only []
  rw [Obs.mk.injEq]
  refine ⟨?_, marker_plane cfg t.body t.head hsb hh, ?_, marker_plane cfg t.body t.fruit hsb hfr, ?_, rfl, hm⟩
  · rw [hbody, Grid.map_map, Grid.map_eq_table _ _ 0 hs]; rfl
  · rw [htail, Grid.map_map, Grid.map_eq_table _ _ 0 hs]; rfl
  · rw [Grid.map_eq_table _ _ 0 hs]; rfl

theorem bsAfter_shaped (cfg : Cfg) (s : State) (a : Int)
    (hs : Grid.shaped s.bodyState cfg.rows cfg.cols = true) :
    Grid.shaped (bsAfter s a) cfg.rows cfg.cols = true := by
  unfold bsAfter
  apply Grid.shaped_setWD
  split
  · exact hs
  · exact Grid.shaped_map_of _ hs

theorem step_shaped (rnd : Rat → Rat) (cfg : Cfg) (s : State) (a : Int) (d : Nat)
    (hs : Grid.shaped s.bodyState cfg.rows cfg.cols = true) :
    Grid.shaped (step rnd cfg s a d).1.bodyState cfg.rows cfg.cols = true ∧
    Grid.shaped (step rnd cfg s a d).1.body cfg.rows cfg.cols = true ∧
    Grid.shaped (step rnd cfg s a d).1.tail cfg.rows cfg.cols = true := by
  rw [step_fst]
  exact ⟨bsAfter_shaped cfg s a hs, Grid.shaped_map_of _ (bsAfter_shaped cfg s a hs),
    Grid.shaped_map_of _ (bsAfter_shaped cfg s a hs)⟩

theorem draw_lt (cfg : Cfg) (d : Nat) (hd : d < cfg.rows * cfg.cols) :
    d / cfg.cols < cfg.rows ∧ d % cfg.cols < cfg.cols := by
  have hc : 0 < cfg.cols := Nat.pos_of_ne_zero (fun h => by rw [h] at hd; exact Nat.not_lt_zero _ hd)
  exact ⟨(Nat.div_lt_iff_lt_mul hc).2 hd, Nat.mod_lt _ hc⟩

theorem fruitOfDraw_inGrid (cfg : Cfg) (d : Nat) (hd : d < cfg.rows * cfg.cols) :
    inGrid cfg (fruitOfDraw cfg d).row (fruitOfDraw cfg d).col :=
  ⟨Int.natCast_nonneg _, Int.ofNat_lt.2 (draw_lt cfg d hd).1, Int.natCast_nonneg _, Int.ofNat_lt.2 (draw_lt cfg d hd).2⟩

theorem step_mask_legal (rnd : Rat → Rat) (cfg : Cfg) (s : State) (a : Int) (d : Nat)
    (hs : Grid.shaped s.bodyState cfg.rows cfg.cols = true) :
    (step rnd cfg s a d).1.actionMask = legalMask cfg (step rnd cfg s a d).1 := by
  rw [cached_mask]
  exact mask_eq_legalMask cfg _ (step_shaped rnd cfg s a d hs).1

/-- C12: the observation returned by `step` is the documented function of the successor state, whenever
the new head is on the board (every non-terminal step), for a shaped `body_state`, a fruit on the board and a draw below the
number of cells (`hd` is asked for on every step, also when nothing is eaten and the draw is not read) -/
theorem obs_faithful (rnd : Rat → Rat) (cfg : Cfg) (s : State) (a : Int) (d : Nat)
    (hs : Grid.shaped s.bodyState cfg.rows cfg.cols = true)
    (hh : inGrid cfg (headAfter s a).row (headAfter s a).col)
    (hfr : inGrid cfg s.fruit.row s.fruit.col) (hd : d < cfg.rows * cfg.cols) :
    (step rnd cfg s a d).2.obs = observe rnd cfg (step rnd cfg s a d).1 := by
  rw [step_obs]
  apply obs_eq rnd cfg _ (step_shaped rnd cfg s a d hs).1 rfl rfl
  · exact hh
  · rw [step_fst]; simp only []
    split
    · exact fruitOfDraw_inGrid cfg d hd
    · exact hfr
  · exact step_mask_legal rnd cfg s a d hs

/-! ### chains: what a move does to the chain encoded by `body_state` (C07/C09) -/

theorem grow_eq (cs : List (Nat × Nat)) (e : Bool) (h : Nat × Nat) :
    grow cs e h = cs.drop (if e then 0 else 1) ++ [h] := by
  unfold grow; cases e <;> simp

theorem bsAfter_get (cfg : Cfg) (s : State) (a : Nat) (ha : a < 4)
    (hs : Grid.shaped s.bodyState cfg.rows cfg.cols = true)
    (ht : inGrid cfg (target s a).1 (target s a).2) (r c : Nat) :
    Grid.get (bsAfter s a) 0 r c =
      if r = (target s a).1.toNat ∧ c = (target s a).2.toNat then s.length + (if eats s a then 1 else 0)
      else (if eats s a then Grid.get s.bodyState 0 r c else clip0 (Grid.get s.bodyState 0 r c)) := by
  obtain ⟨h1, h2, h3, h4⟩ := ht
  unfold bsAfter
  rw [eatenB_eq s ha, headAfter_eq s ha]
  cases eats s a
  · exact (Grid.get_setWD_of_shaped (Grid.shaped_map_of clip0 hs) _ 0 h1 h2 h3 h4 r c).trans (by rw [get_clip0]; rfl)
  · exact Grid.get_setWD_of_shaped hs _ 0 h1 h2 h3 h4 r c

theorem toNat_pred {x : Int} (h : 0 ≤ x - 1) : (x - 1).toNat + 1 = x.toNat := by omega

theorem adjacent_target (s : State) (a : Nat) (ha : a < 4) (h1 : 0 ≤ s.head.row) (h2 : 0 ≤ s.head.col)
    (h3 : 0 ≤ (target s a).1) (h4 : 0 ≤ (target s a).2) :
    adjacent (s.head.row.toNat, s.head.col.toNat) ((target s a).1.toNat, (target s a).2.toNat) :=
  match a, ha with
  | 0, _ => Or.inr ⟨rfl, Or.inr (toNat_pred h3)⟩
  | 1, _ => Or.inl ⟨rfl, Or.inl (Int.toNat_add_nat h2 1).symm⟩
  | 2, _ => Or.inr ⟨rfl, Or.inl (Int.toNat_add_nat h1 1).symm⟩
  | 3, _ => Or.inl ⟨rfl, Or.inr (toNat_pred h4)⟩

theorem chain_get {cfg : Cfg} {t : State} {cs : List (Nat × Nat)} (hc : Chain cfg t cs) {j : Nat}
    (hj : j < cs.length) : Grid.get t.bodyState 0 cs[j].1 cs[j].2 = (j : Int) + 1 := by
  have := hc.numbered j hj
  rwa [← List.getElem_eq_getD (h := hj)] at this

theorem chain_cell_nonneg (cfg : Cfg) (t : State) (cs : List (Nat × Nat)) (hc : Chain cfg t cs)
    {r c : Nat} (hr : r < cfg.rows) (hcc : c < cfg.cols) : 0 ≤ Grid.get t.bodyState 0 r c := by
  by_cases hm : (r, c) ∈ cs
  · obtain ⟨j, hj, hjp⟩ := List.getElem_of_mem hm
    have := chain_get hc hj
    simp only [hjp] at this
    omega
  · rw [hc.off_zero (r, c) (Grid.mem_coords.2 ⟨hr, hcc⟩) hm]; decide

/-- a number above `k` sinks by `k` -/
theorem sink_eq (i k : Nat) :
    (if ((i + k : Nat) : Int) + 1 ≤ k then 0 else ((i + k : Nat) : Int) + 1 - k) = (i : Int) + 1 := by
  split <;> omega

/-- how a chain changes, in terms of the two grids alone: `k` cells leave at the tail end (the numbers `≤ k` become 0,
the others sink by `k`) and the cell `t`, which carried a number `≤ k`, is numbered as the new head -/
theorem chain_grow (cfg : Cfg) (s s' : State) (cs : List (Nat × Nat)) (k : Nat) (t : Nat × Nat)
    (hc : Chain cfg s cs) (hk : k ≤ cs.length)
    (hs' : Grid.shaped s'.bodyState cfg.rows cfg.cols = true)
    (ht : t.1 < cfg.rows ∧ t.2 < cfg.cols)
    (hval : Grid.get s.bodyState 0 t.1 t.2 ≤ k)
    (hlen' : s'.length = s.length - k + 1)
    (hget : ∀ r c, r < cfg.rows → c < cfg.cols → Grid.get s'.bodyState 0 r c =
      if r = t.1 ∧ c = t.2 then s.length - k + 1
      else if Grid.get s.bodyState 0 r c ≤ k then 0 else Grid.get s.bodyState 0 r c - k)
    (hadj' : adjacent (s.head.row.toNat, s.head.col.toNat) t)
    (hhead : 0 ≤ s'.head.row ∧ 0 ≤ s'.head.col ∧ t = (s'.head.row.toNat, s'.head.col.toNat)) :
    Chain cfg s' (cs.drop k ++ [t]) := by
  have ⟨_, hlen, _, hin, _, hzero, hadj, _, _, hlast⟩ := hc
  obtain ⟨n, hn⟩ : ∃ n, cs.length = n + k := ⟨cs.length - k, (Nat.sub_add_cancel hk).symm⟩
  have hlen2 : (cs.drop k ++ [t]).length = n + 1 := by simp [hn]
  have hgetD := getD_drop_append cs hn t (0, 0)
  -- the index arithmetic below is spelt out: `omega` is slow to check with these hypotheses in context
  have hnew : s.length - k + 1 = ((n + 1 : Nat) : Int) := by
    rw [← hlen, hn, Int.natCast_add, Int.add_sub_cancel]; rfl
  -- the cells that stay carry numbers `> k`, so none of them is `t`
  have hne : ∀ i (hi : i + k < cs.length), ¬ (cs[i + k].1 = t.1 ∧ cs[i + k].2 = t.2) := by
    intro i hi e
    have := chain_get hc hi
    rw [e.1, e.2] at this
    omega
  refine ⟨hs', by rw [hlen2, hlen', hnew], by rw [hlen2]; exact Nat.succ_pos n, ?_, ?_, ?_, ?_, ?_⟩
  · intro p hp
    rcases List.mem_append.1 hp with hp | hp
    · exact hin p (List.mem_of_mem_drop hp)
    · rw [List.mem_singleton.1 hp]; exact ht
  · intro i hi
    rw [hgetD i]
    by_cases h1 : i < n
    · have hik : i + k < cs.length := hn ▸ Nat.add_lt_add_right h1 k
      have hb := hin _ (List.getElem_mem hik)
      rw [if_pos h1, ← List.getElem_eq_getD (h := hik), hget _ _ hb.1 hb.2, if_neg (hne i hik), chain_get hc hik]
      exact sink_eq i k
    · rw [hlen2] at hi
      rw [if_neg h1, if_pos (Nat.le_antisymm (Nat.le_of_lt_succ hi) (Nat.le_of_not_lt h1)), hget _ _ ht.1 ht.2,
        if_pos ⟨rfl, rfl⟩, hnew, Nat.le_antisymm (Nat.le_of_lt_succ hi) (Nat.le_of_not_lt h1)]
      rfl
  · intro p hp hnp
    have hb := Grid.mem_coords.1 hp
    have hpt : ¬ (p.1 = t.1 ∧ p.2 = t.2) := fun e => hnp (List.mem_append.2 (Or.inr (by simp [Prod.ext_iff, e])))
    rw [hget _ _ hb.1 hb.2, if_neg hpt]
    by_cases hm : p ∈ cs
    · -- `p` is one of the cells that left
      obtain ⟨j, hj, rfl⟩ := List.getElem_of_mem hm
      have hjk : j < k := by
        apply Nat.lt_of_not_le
        intro hkj
        obtain ⟨m, rfl⟩ := Nat.exists_eq_add_of_le hkj
        exact hnp (List.mem_append.2 (Or.inl (List.mem_drop_iff_getElem.2 ⟨m, Nat.add_comm k m ▸ hj, rfl⟩)))
      rw [chain_get hc hj, if_pos (Int.add_one_le_of_lt (Int.ofNat_lt.2 hjk))]
    · rw [hzero p hp hm, if_pos (Int.natCast_nonneg k)]
  · intro i hi
    rw [hlen2, Nat.add_sub_cancel] at hi
    rw [hgetD i, hgetD (i + 1), if_pos hi]
    by_cases h2 : i + 1 < n
    · rw [if_pos h2, Nat.add_right_comm i 1 k]
      apply hadj (i + k)
      rw [hn]
      exact Nat.lt_sub_of_add_lt (Nat.add_right_comm i 1 k ▸ Nat.add_lt_add_right h2 k)
    · have he : i + 1 = n := Nat.le_antisymm hi (Nat.le_of_not_lt h2)
      rw [if_neg h2, if_pos he, show i + k = cs.length - 1 by rw [hn, ← he, Nat.add_right_comm]; rfl, hlast]
      exact hadj'
  · refine ⟨hhead.1, hhead.2.1, ?_⟩
    rw [hlen2, Nat.add_sub_cancel, hgetD, if_neg (Nat.lt_irrefl n), if_pos rfl]
    exact hhead.2.2

/-- what `step` does to a number of a chain-encoded grid (other than on the new head cell); `if e then 0 else 1` is the number
of cells that leave at the tail end (none when the fruit is eaten) -/
theorem clip0_drop (e : Bool) (x : Int) (h0 : 0 ≤ x) :
    (if e then x else clip0 x) =
      if x ≤ ((if e then 0 else 1 : Nat) : Int) then 0 else x - ((if e then 0 else 1 : Nat) : Int) := by
  cases e
  · simp only [Bool.false_eq_true, if_false, clip0]
    split <;> split <;> omega
  · simp only [if_true]
    split <;> omega

/-- C07/C09 core: a legal move maps the chain `cs` encoded by `body_state` to the grown chain -/
theorem step_chain (rnd : Rat → Rat) (cfg : Cfg) (s : State) (a : Nat) (d : Nat) (cs : List (Nat × Nat))
    (hc : Chain cfg s cs) (hl : legal cfg s a)
    (hfree : eats s a = true → cell s.bodyState s.fruit.row s.fruit.col = 0) :
    Chain cfg (step rnd cfg s a d).1 (grow cs (eats s a) ((target s a).1.toNat, (target s a).2.toNat)) := by
  obtain ⟨ha, ht, hv⟩ := hl
  have ⟨t1, t2, t3, t4⟩ := ht
  have hhead : (step rnd cfg s a d).1.head = ⟨(target s a).1, (target s a).2⟩ := headAfter_eq s ha
  have hk : (if eats s a then 0 else 1 : Nat) ≤ 1 := by split <;> omega
  have hlen : s.length + (if eats s a then 1 else 0) = s.length - ((if eats s a then 0 else 1 : Nat) : Int) + 1 := by
    split <;> simp
  rw [grow_eq]
  refine chain_grow cfg s _ cs _ _ hc (by have := hc.pos; omega) (bsAfter_shaped cfg s a hc.1)
    ⟨by omega, by omega⟩ ?_ ?_ ?_ (adjacent_target s a ha hc.head_row_nonneg hc.head_col_nonneg t1 t3) ?_
  · cases he : eats s a
    · exact hv
    · have h0 := hfree he
      rw [eats_iff] at he
      rw [← he.1, ← he.2] at h0
      exact Int.le_of_eq h0
  · show s.length + (if eatenB s a then 1 else 0) = _
    rw [eatenB_eq s ha, hlen]
  · intro r c hr hcc
    show Grid.get (bsAfter s a) 0 r c = _
    rw [bsAfter_get cfg s a ha hc.1 ht r c, clip0_drop _ _ (chain_cell_nonneg cfg s cs hc hr hcc), hlen]
  · rw [hhead]
    exact ⟨t1, t3, rfl⟩

/-! ### `step` keeps `Consistent` (C07) -/

theorem body_get (cfg : Cfg) (s : State) (hsh : Grid.shaped s.bodyState cfg.rows cfg.cols = true)
    (hb : s.body = Grid.map (fun x => decide (x > 0)) s.bodyState) {r c : Nat}
    (hr : r < cfg.rows) (hc : c < cfg.cols) :
    Grid.get s.body true r c = decide (Grid.get s.bodyState 0 r c > 0) := by
  have hsb : Grid.shaped s.body cfg.rows cfg.cols = true := hb ▸ Grid.shaped_map_of _ hsh
  rw [Grid.get_irrel hsb true (decide ((0 : Int) > 0)) hr hc, hb,
    Grid.get_map_default (fun (x : Int) => decide (x > 0)) s.bodyState 0]

theorem drawn_fruit_free (cfg : Cfg) (t : State) (cs : List (Nat × Nat)) (hch : Chain cfg t cs)
    (hb : t.body = Grid.map (fun x => decide (x > 0)) t.bodyState) (d : Nat) (hd : validDraw cfg t.body d)
    (hnf : Grid.all id t.body = false) :
    cell t.bodyState (fruitOfDraw cfg d).row (fruitOfDraw cfg d).col = 0 := by
  obtain ⟨hr, hcc⟩ := draw_lt cfg d hd.1
  have hfree := hd.2 hnf
  rw [body_get cfg t hch.1 hb hr hcc, decide_eq_false_iff_not] at hfree
  have hnn := chain_cell_nonneg cfg t cs hch hr hcc
  show Grid.get t.bodyState 0 (d / cfg.cols) (d % cfg.cols) = 0
  omega

/-- C07: a legal move from a consistent state whose board is not full leads to a consistent state (the fruit clause of
which is void when the snake now fills the board); the fruit draw has to be admissible only when the fruit is eaten, the one
case in which `step` reads it -/
theorem step_consistent_of_eats (rnd : Rat → Rat) (cfg : Cfg) (s : State) (a : Nat) (d : Nat)
    (hc : Consistent cfg s) (hl : legal cfg s a) (hnf : Grid.all id s.body = false)
    (hd : eats s a = true → validDraw cfg (step rnd cfg s a d).1.body d) :
    Consistent cfg (step rnd cfg s a d).1 := by
  obtain ⟨⟨cs, hch⟩, hbody, htail, hfin, hffree, hmask, hsc⟩ := hc
  have hfree0 : cell s.bodyState s.fruit.row s.fruit.col = 0 := hffree hnf
  have hch' := step_chain rnd cfg s a d cs hch hl (fun _ => hfree0)
  have hfruit : (step rnd cfg s a d).1.fruit = if eatenB s a then fruitOfDraw cfg d else s.fruit := rfl
  refine ⟨⟨_, hch'⟩, rfl, rfl, ?_, ?_, step_mask_legal rnd cfg s a d hch.1, Int.add_nonneg hsc (by decide)⟩
  · rw [hfruit]
    cases he : eatenB s a
    · exact hfin
    · exact fruitOfDraw_inGrid cfg d (hd (eatenB_eq s hl.1 ▸ he)).1
  · intro hnc
    rw [hfruit]
    cases he : eatenB s a
    · -- the fruit stays: it is not the target cell, and it carried 0
      have hne : ¬ (s.fruit.row.toNat = (target s a).1.toNat ∧ s.fruit.col.toNat = (target s a).2.toNat) := by
        intro e
        rw [eatenB_eq s hl.1, ← Bool.not_eq_true, eats_iff] at he
        exact he ⟨((Int.toNat_of_nonneg hfin.1).symm.trans ((nat_eq_toNat hl.2.1.1).1 e.1)).symm,
          ((Int.toNat_of_nonneg hfin.2.2.1).symm.trans ((nat_eq_toNat hl.2.1.2.2.1).1 e.2)).symm⟩
      show Grid.get (bsAfter s a) 0 s.fruit.row.toNat s.fruit.col.toNat = 0
      rw [bsAfter_get cfg s a hl.1 hch.1 hl.2.1, if_neg hne, ← eatenB_eq s hl.1, he]
      exact (congrArg clip0 hfree0).trans clip0_zero
    · exact drawn_fruit_free cfg _ _ hch' rfl d (hd (eatenB_eq s hl.1 ▸ he)) hnc

theorem step_consistent (rnd : Rat → Rat) (cfg : Cfg) (s : State) (a : Nat) (d : Nat)
    (hc : Consistent cfg s) (hl : legal cfg s a) (hnf : Grid.all id s.body = false)
    (hd : validDraw cfg (step rnd cfg s a d).1.body d) :
    Consistent cfg (step rnd cfg s a d).1 := step_consistent_of_eats rnd cfg s a d hc hl hnf fun _ => hd

/-- a step that is not LAST was legal, leaves the board not full and the counter below the limit -/
theorem mid_step (rnd : Rat → Rat) (cfg : Cfg) (s : State) (a : Nat) (d : Nat) (ha : a < 4)
    (hm : s.actionMask = legalMask cfg s) (hmid : (step rnd cfg s a d).2.stepType ≠ .last) :
    legal cfg s a ∧ Grid.all id (step rnd cfg s a d).1.body = false ∧ s.stepCount + 1 < cfg.timeLimit := by
  rw [Ne, step_last_iff_legal rnd cfg s a d ha hm, not_or, not_or, Bool.not_eq_true, Int.not_le] at hmid
  exact ⟨Classical.not_not.1 hmid.1, hmid.2⟩

/-! ### `step` is the growth rule `stepSpec` (C09); the chain is unique, so `consistentB` is exact -/

theorem chain_encode (cfg : Cfg) (t : State) (cs : List (Nat × Nat)) (hc : Chain cfg t cs) :
    t.bodyState = encode cfg cs := by
  rw [Grid.eq_table hc.1 0]
  refine Grid.table_congr fun r hr c hcc => ?_
  cases h : cs.idxOf? (r, c) with
  | none => exact hc.off_zero (r, c) (Grid.mem_coords.2 ⟨hr, hcc⟩) (List.idxOf?_eq_none_iff.1 h)
  | some i =>
    unfold List.idxOf? at h
    obtain ⟨hi, hp, _⟩ := List.findIdx?_eq_some_iff_getElem.1 h
    have e : cs[i] = (r, c) := by simpa using hp
    have := chain_get hc hi
    rwa [e] at this

theorem legalMask_congr (cfg : Cfg) (s1 s2 : State) (h1 : s1.head = s2.head) (h2 : s1.bodyState = s2.bodyState) :
    legalMask cfg s1 = legalMask cfg s2 := by
  have hl : ∀ a, legal cfg s1 a ↔ legal cfg s2 a := by
    intro a; unfold legal target; rw [h1, h2]
  unfold legalMask
  apply List.map_congr_left; intro a _
  exact decide_eq_decide.2 (hl a)

/-- C09 (L1 = L2): on a state whose `body_state` encodes a chain, for a legal move, the transliterated
`step` produces exactly the successor prescribed by the growth rule (`stepSpec`: append the new head
cell, drop the tail cell unless the fruit is eaten, renumber) -/
theorem stepSpec_eq (rnd : Rat → Rat) (cfg : Cfg) (s : State) (a : Nat) (d : Nat)
    (hc : Chain cfg s (chainOf cfg s)) (hl : legal cfg s a)
    (hfree : eats s a = true → cell s.bodyState s.fruit.row s.fruit.col = 0) :
    stepSpec cfg s a d = some (step rnd cfg s a d).1 := by
  have hch' := step_chain rnd cfg s a d _ hc hl hfree
  have henc := chain_encode cfg _ _ hch'
  have hlen := hch'.length_eq
  have ha := hl.1
  have hhead := headAfter_eq s ha
  have hm := step_mask_legal rnd cfg s a d hc.1
  unfold stepSpec
  simp only [hc, hl, decide_true, Bool.and_self, if_true]
  rw [step_fst] at henc hlen hm ⊢
  simp only [] at henc hlen hm
  congr 1
  rw [State.mk.injEq]
  refine ⟨by rw [← henc], henc.symm, hhead.symm, by rw [← henc], by rw [eatenB_eq s ha], hlen, rfl, ?_⟩
  rw [hm]
  apply legalMask_congr
  · exact hhead.symm
  · exact henc.symm

theorem chain_findCell (cfg : Cfg) (t : State) (cs : List (Nat × Nat)) (hc : Chain cfg t cs)
    (k : Nat) (hk : k < cs.length) : findCell cfg t.bodyState ((k : Int) + 1) = some (cs.getD k (0, 0)) := by
  have ⟨_, _, _, hin, henc, hzero, _⟩ := hc
  have hmem : cs.getD k (0, 0) ∈ cs := List.getElem_eq_getD (h := hk) (0, 0) ▸ List.getElem_mem hk
  unfold findCell
  cases h : (Grid.coords cfg.rows cfg.cols).find? (fun p => Grid.get t.bodyState 0 p.1 p.2 == (k : Int) + 1) with
  | none => exact absurd (beq_iff_eq.2 (henc k hk)) (List.find?_eq_none.1 h _ (Grid.mem_coords.2 (hin _ hmem)))
  | some p =>
    have hp := List.find?_some h
    rw [beq_iff_eq] at hp
    congr 1
    by_cases hm : p ∈ cs
    · obtain ⟨j, hj, rfl⟩ := List.getElem_of_mem hm
      have := chain_get hc hj
      obtain rfl : j = k := by omega
      exact List.getElem_eq_getD (0, 0)
    · have := hzero p (List.mem_of_find?_eq_some h) hm
      omega

theorem chain_unique (cfg : Cfg) (t : State) (cs : List (Nat × Nat)) (hc : Chain cfg t cs) :
    chainOf cfg t = cs := by
  have hlen := hc.length_eq
  unfold chainOf
  have hn : t.length.toNat = cs.length := by omega
  rw [hn, filterMap_eq_map_of _ (fun k => cs.getD k (0, 0)) _
    (fun k hk => chain_findCell cfg t cs hc k (List.mem_range.1 hk))]
  exact range_map_getD cs (0, 0)

/-- the chain read off the successor of a legal move is the grown chain read off the state: both chains are unique, and
`step_chain` relates them -/
theorem growsFrom_of_chain (rnd : Rat → Rat) (cfg : Cfg) (s : State) (a : Nat) (d : Nat) (cs : List (Nat × Nat))
    (hch : Chain cfg s cs) (hl : legal cfg s a)
    (hfree : eats s a = true → cell s.bodyState s.fruit.row s.fruit.col = 0) :
    growsFrom cfg s (step rnd cfg s a d).1 = true := by
  have ha := hl.1
  have hch' := step_chain rnd cfg s a d cs hch hl hfree
  have hu := chain_unique cfg s cs hch
  have hu' := chain_unique cfg _ _ hch'
  have hhead : (step rnd cfg s a d).1.head = ⟨(target s a).1, (target s a).2⟩ := headAfter_eq s ha
  have he : decide ((step rnd cfg s a d).1.head = s.fruit) = eats s a := by
    rw [hhead]; unfold eats
    cases hf : s.fruit
    simp [Pos.mk.injEq]
  unfold growsFrom
  simp only [he, Bool.and_eq_true, decide_eq_true_eq]
  refine ⟨⟨?_, ?_⟩, ?_⟩
  · show s.length + (if eatenB s a then 1 else 0) = _
    rw [eatenB_eq s ha]
  · rw [hhead]; exact ⟨hl.2.1.1, hl.2.1.2.2.1⟩
  · rw [hu', hu, hhead]

theorem consistentB_sound (cfg : Cfg) (s : State) (h : consistentB cfg s = true) : Consistent cfg s := by
  unfold consistentB at h
  simp only [Bool.and_eq_true, decide_eq_true_eq] at h
  exact ⟨⟨_, h.1⟩, h.2⟩

/-! ### `reset` (C07/C10) -/

/-- mapping `f` over the 0/1 image of a Boolean grid gives the grid back when `f 1 = true`, `f 0 = false` -/
theorem map_of_bool (f : Int → Bool) (h1 : f 1 = true) (h0 : f 0 = false) (g : Grid Bool) :
    Grid.map f (Grid.map (fun b => if b then (1 : Int) else 0) g) = g := by
  have : (f ∘ fun (b : Bool) => if b then (1 : Int) else 0) = fun b => b := by
    funext b; cases b
    · exact h0
    · exact h1
  rw [Grid.map_map, this, Grid.map_id]

theorem reset_shaped (rnd : Rat → Rat) (cfg : Cfg) (hr hc d : Nat) :
    Grid.shaped (reset rnd cfg hr hc d).1.body cfg.rows cfg.cols = true ∧
    Grid.shaped (reset rnd cfg hr hc d).1.bodyState cfg.rows cfg.cols = true := by
  have hb : Grid.shaped (Grid.setWD (Grid.mk cfg.rows cfg.cols false) (hr : Int) (hc : Int) true) cfg.rows cfg.cols = true :=
    Grid.shaped_setWD (Grid.shaped_mk cfg.rows cfg.cols false) _ _ _
  exact ⟨hb, (Grid.shaped_map _ _ _ _).trans hb⟩

/-- C10: after reset the snake is the single head cell -/
theorem reset_chain (rnd : Rat → Rat) (cfg : Cfg) (hr hc : Nat) (d : Nat) (h1 : hr < cfg.rows) (h2 : hc < cfg.cols) :
    Chain cfg (reset rnd cfg hr hc d).1 [(hr, hc)] := by
  have hget : ∀ r c, Grid.get (reset rnd cfg hr hc d).1.bodyState 0 r c = if r = hr ∧ c = hc then 1 else 0 := by
    intro r c
    show Grid.get (Grid.map (fun b => if b then (1 : Int) else 0)
      (Grid.setWD (Grid.mk cfg.rows cfg.cols false) (hr : Int) (hc : Int) true)) (if false then (1 : Int) else 0) r c = _
    rw [Grid.get_map_default, Grid.get_setWD_of_shaped (Grid.shaped_mk cfg.rows cfg.cols false) true false (Int.natCast_nonneg hr)
      (Int.ofNat_lt.2 h1) (Int.natCast_nonneg hc) (Int.ofNat_lt.2 h2), Int.toNat_natCast, Int.toNat_natCast, Grid.get_mk_same]
    split <;> rfl
  refine ⟨(reset_shaped rnd cfg hr hc d).2, rfl, Nat.one_pos, ?_, ?_, ?_, ?_, Int.natCast_nonneg hr,
    Int.natCast_nonneg hc, rfl⟩
  · intro p hp
    rw [List.mem_singleton.1 hp]; exact ⟨h1, h2⟩
  · intro i hi
    rw [Nat.lt_one_iff.1 hi, hget]
    exact if_pos ⟨rfl, rfl⟩
  · intro p _ hnp
    rw [hget, if_neg (fun e => hnp (List.mem_singleton.2 (Prod.ext e.1 e.2)))]
  · intro i hi
    exact absurd hi (Nat.not_lt_zero i)

/-- C07/C10: the reset state is consistent for every head cell on the board and every admissible fruit draw -/
theorem reset_consistent (rnd : Rat → Rat) (cfg : Cfg) (hr hc : Nat) (d : Nat)
    (h1 : hr < cfg.rows) (h2 : hc < cfg.cols)
    (hd : validDraw cfg (reset rnd cfg hr hc d).1.body d) :
    Consistent cfg (reset rnd cfg hr hc d).1 ∧ (reset rnd cfg hr hc d).1.length = 1 ∧
      (reset rnd cfg hr hc d).1.stepCount = 0 := by
  have hch := reset_chain rnd cfg hr hc d h1 h2
  have hbs : (reset rnd cfg hr hc d).1.bodyState =
      Grid.map (fun b => if b then (1 : Int) else 0) (reset rnd cfg hr hc d).1.body := rfl
  have hbody : (reset rnd cfg hr hc d).1.body =
      Grid.map (fun x => decide (x > 0)) (reset rnd cfg hr hc d).1.bodyState := by
    rw [hbs, map_of_bool (fun x => decide (x > 0)) (by decide) (by decide)]
  have htail : (reset rnd cfg hr hc d).1.tail =
      Grid.map (fun x => decide (x = 1)) (reset rnd cfg hr hc d).1.bodyState := by
    rw [hbs, map_of_bool (fun x => decide (x = 1)) (by decide) (by decide)]
    rfl
  exact ⟨⟨⟨_, hch⟩, hbody, htail, fruitOfDraw_inGrid cfg d hd.1,
    drawn_fruit_free cfg _ _ hch hbody d hd, mask_eq_legalMask cfg (reset rnd cfg hr hc d).1 hch.1, Int.le_refl 0⟩,
    rfl, rfl⟩

end Snake
