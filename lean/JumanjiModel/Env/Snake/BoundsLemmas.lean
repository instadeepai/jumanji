/- Snake, C01 value bounds: every observation built from a state with non-negative board numbers and a counter in
   `[0, time_limit]` is within `obsBounds` (`stateToObs_in_bounds`); `NonNeg` holds after reset, in consistent states, and is
   kept by every step. -/
import JumanjiModel.Env.Snake.Bounds
import JumanjiModel.Env.Snake.Lemmas
import JumanjiModel.Env.PuzzleBounds
import JumanjiModel.Prim.FloatLemmas
namespace Snake
open Jm Jx

theorem inIv_ivInt_iff {lo hi : Int} {v : Rat} : inIv (ivInt lo hi) v ↔ (lo : Rat) ≤ v ∧ v ≤ (hi : Rat) := by
  simp [inIv, ivInt]

theorem inIv_01_iff {v : Rat} : inIv (ivInt 0 1) v ↔ 0 ≤ v ∧ v ≤ 1 := by
  simpa using inIv_ivInt_iff (lo := 0) (hi := 1) (v := v)

theorem inIv_plane (g : Grid Bool) : ∀ v ∈ List.flatten (Grid.map b2r g), inIv (ivInt 0 1) v := by
  rw [Grid.map, ← List.map_flatten]
  exact Jx.Iv.bools _

theorem gridMax1_ge (g : Grid Int) : 1 ≤ gridMax1 g ∧ ∀ x ∈ List.flatten g, x ≤ gridMax1 g := by
  unfold gridMax1 Grid.flatten
  exact foldl_max_ge _ 1

theorem stateToObs_in_bounds (rnd : Rat → Rat) (hr : RndKeeps01 rnd) (cfg : Cfg) (s : State)
    (hn : ∀ x ∈ List.flatten s.bodyState, (0 : Int) ≤ x) (h0 : 0 ≤ s.stepCount)
    (h1 : s.stepCount ≤ cfg.timeLimit) : ObsInBounds cfg (stateToObs rnd s) := by
  have hnorm : ∀ v ∈ List.flatten (stateToObs rnd s).norm, inIv (ivInt 0 1) v :=
    Jx.forall_mem_flatten <| (Grid.forall_mem_map _ _).2 fun row hrow x hx =>
      have hg := gridMax1_ge s.bodyState
      have hm := List.mem_flatten.2 ⟨row, hrow, hx⟩
      have hd := div_mem_unit (hn x hm) (hg.2 x hm)
      inIv_01_iff.2 (hr _ hd.1 hd.2)
  have hgrid : ∀ v ∈ List.flatten (stateToObs rnd s).body ++ List.flatten (stateToObs rnd s).head ++
      List.flatten (stateToObs rnd s).tail ++ List.flatten (stateToObs rnd s).fruit ++
      List.flatten (stateToObs rnd s).norm, inIv (ivInt 0 1) v := by
    simp only [List.forall_mem_append]
    exact ⟨⟨⟨⟨inIv_plane _, inIv_plane _⟩, inIv_plane _⟩, inIv_plane _⟩, hnorm⟩
  exact Jx.rel_of_aligned (R := fun iv vs => ∀ v ∈ vs, inIv iv v) rfl (by simp [obsLeaves]) <|
    Jx.all_cons hgrid <| Jx.all_cons (Jx.Iv.one h0 h1) <| Jx.all_cons (Jx.Iv.bools s.actionMask) Jx.all_nil

theorem nonneg_of_chain {cfg : Cfg} {s : State} {cs : List (Nat × Nat)} (hc : Chain cfg s cs) :
    ∀ x ∈ List.flatten s.bodyState, (0 : Int) ≤ x :=
  Jx.forall_mem_flatten <| (Grid.forall_mem_iff_get hc.1 0 _).2 fun _ hr _ hc' => chain_cell_nonneg cfg s cs hc hr hc'

theorem nonNeg_of_consistent {cfg : Cfg} {s : State} (hC : Consistent cfg s) : NonNeg s := by
  obtain ⟨⟨cs, hc⟩, hd⟩ := hC
  refine ⟨nonneg_of_chain hc, ?_, hd.count_nonneg⟩
  have := hc.length_eq
  omega

theorem clip0_nonneg (x : Int) : 0 ≤ clip0 x := by unfold clip0; split <;> omega

theorem step_nonNeg (rnd : Rat → Rat) (cfg : Cfg) (s : State) (a : Int) (d : Nat) (hn : NonNeg s) :
    NonNeg (step rnd cfg s a d).1 := by
  obtain ⟨hb, hl, hs⟩ := hn
  refine ⟨?_, ?_, ?_⟩
  · show ∀ x ∈ List.flatten (bsAfter s a), (0 : Int) ≤ x
    unfold bsAfter
    refine Jx.forall_mem_flatten (Grid.forall_mem_setWD _ _ ?_ (by split <;> omega))
    split
    · exact fun row hrow x hx => hb x (List.mem_flatten.2 ⟨row, hrow, hx⟩)
    · exact (Grid.forall_mem_map _ _).2 fun _ _ y _ => clip0_nonneg y
  · show 0 ≤ s.length + (if _ then 1 else 0)
    split <;> omega
  · show 0 ≤ s.stepCount + 1
    omega

theorem step_obs_in_bounds_nonNeg (rnd : Rat → Rat) (hr : RndKeeps01 rnd) (cfg : Cfg) (s : State) (a : Int)
    (d : Nat) (hn : NonNeg s) (h1 : s.stepCount < cfg.timeLimit) :
    ObsInBounds cfg (step rnd cfg s a d).2.obs := by
  rw [step_obs]
  have hn' := step_nonNeg rnd cfg s a d hn
  have hc : (step rnd cfg s a d).1.stepCount = s.stepCount + 1 := rfl
  apply stateToObs_in_bounds rnd hr cfg _ hn'.1
  · rw [hc]; have := hn.2.2; omega
  · rw [hc]; omega

theorem reset_nonNeg (rnd : Rat → Rat) (cfg : Cfg) (hr hc : Nat) (d : Nat) :
    NonNeg (reset rnd cfg hr hc d).1 :=
  ⟨Jx.forall_mem_flatten ((Grid.forall_mem_map (P := fun x => (0 : Int) ≤ x) _ _).2 fun _ _ b _ => by split <;> omega),
    by show (0 : Int) ≤ 1; omega, by show (0 : Int) ≤ 0; omega⟩

theorem reset_obs_in_bounds (rnd : Rat → Rat) (hrnd : RndKeeps01 rnd) (cfg : Cfg) (hr hc : Nat) (d : Nat)
    (htl : 0 ≤ cfg.timeLimit) : ObsInBounds cfg (reset rnd cfg hr hc d).2.obs := by
  show ObsInBounds cfg (stateToObs rnd (reset rnd cfg hr hc d).1)
  apply stateToObs_in_bounds rnd hrnd cfg _ (reset_nonNeg rnd cfg hr hc d).1
  · show (0 : Int) ≤ 0
    omega
  · exact htl

end Snake
