/-
Snake — C01 spec membership: the declared specs as `Sp` values (`obsSpec cfg`, `actionSpec`; equal to the generated
literals of the catalogue configuration: Props/SpecTable.lean), the model observation as the spec-level arrays the
implementation emits (`toNValue`: `grid` = the five planes stacked on the LAST axis, i.e. cell `(r, c)` contributes
`[body, head, tail, fruit, norm]`, row-major; the board shape is READ OFF the `body` plane), membership of the observation of
`reset` (ANY head / fruit draws) and of EVERY `step` (ANY integer as action — legal, illegal, outside the action space —, ANY
fruit draw, terminal step included) from a state satisfying the invariant `SpecInv` (`body_state` has the configured shape,
board numbers / length / counter non-negative) whose counter has not reached the limit; the invariant is established by reset
and preserved by EVERY step; whole rollouts up to the time limit; the converse (`obs_valid_only`); reward / discount / action.

Floats: as in the bounds theorems of Env/Snake/BoundsLemmas.lean, the float32 division of the `norm_body_state` plane is the
parameter `rnd` with the hypothesis `RndKeeps01 rnd` (discharged for `Jx.roundF32` in Props/Env/Snake.lean).
-/
import JumanjiModel.Env.Snake.BoundsLemmas
import JumanjiModel.Core.TimeStepLemmas
import JumanjiModel.Env.Snake.RunLemmas
import JumanjiModel.Env.SpecMembership
import JumanjiModel.Core.EpisodeLemmas
namespace Snake
open Jm Jx Sp PzS PkS

/-- `observation_spec`: `grid` BoundedArray((R, C, 5), float, 0, 1), `step_count` DiscreteArray(time_limit + 1, int32),
`action_mask` BoundedArray((4,), bool, False, True) -/
def obsSpec (cfg : Cfg) : Sp.Nested :=
  [("grid", .bounded [cfg.rows, cfg.cols, 5] .float32 "grid" [] [0] [] [1]),
   ("step_count", .discrete (cfg.timeLimit + 1).toNat .int32 "step_count"),
   ("action_mask", .bounded [4] .bool "action_mask" [] [0] [] [1])]

/-- `action_spec`: DiscreteArray(4, int32) -/
def actionSpec : Leaf := .discrete 4 .int32 "action"

/-- `jnp.concatenate([body, head, tail, fruit, norm_body_state][..., None], axis=-1)`: cell `(r, c)` of the `grid` leaf holds
the five plane values; the board shape is read off the `body` plane -/
def stacked (o : Obs) : List (List (List Rat)) :=
  (List.range o.body.length).map (fun r => (List.range (o.body.headD []).length).map (fun c =>
    [Grid.get o.body 0 r c, Grid.get o.head 0 r c, Grid.get o.tail 0 r c, Grid.get o.fruit 0 r c,
     Grid.get o.norm 0 r c]))

/-- a model observation as the arrays the implementation emits -/
def toNValue (o : Obs) : NValue :=
  [("grid", ⟨[o.body.length, (o.body.headD []).length, 5], .float32, (stacked o).flatten.flatten⟩),
   ("step_count", ⟨[], .int32, [(o.stepCount : Rat)]⟩),
   ("action_mask", ⟨shape1 o.actionMask, .bool, ofBools o.actionMask⟩)]

def actionArr (a : Int) : Arr := ⟨[], .int32, [(a : Rat)]⟩

theorem stacked_rect (o : Obs) : Rect3 (stacked o) o.body.length (o.body.headD []).length 5 := by
  refine ⟨by simp [stacked], ?_⟩
  intro x hx
  obtain ⟨r, _, rfl⟩ := List.mem_map.1 hx
  refine ⟨by simp, ?_⟩
  intro y hy
  obtain ⟨c, _, rfl⟩ := List.mem_map.1 hy
  simp

theorem stacked_length (o : Obs) :
    (stacked o).flatten.flatten.length = o.body.length * (o.body.headD []).length * 5 := by
  obtain ⟨h1, h2⟩ := stacked_rect o
  have hrows : ∀ row ∈ (stacked o).flatten, row.length = 5 := by
    intro row hrow
    obtain ⟨x, hx, hr'⟩ := List.mem_flatten.mp hrow
    exact (h2 x hx).2 row hr'
  rw [Jx.Grid.flatten_length (nc := 5) hrows, Jx.Grid.flatten_length (fun x hx => (h2 x hx).1), h1]

theorem forall_mem_stacked {P : Rat → Prop} (o : Obs) :
    (∀ x ∈ (stacked o).flatten.flatten, P x) ↔ ∀ r, r < o.body.length → ∀ c, c < (o.body.headD []).length →
      ∀ x ∈ [Grid.get o.body 0 r c, Grid.get o.head 0 r c, Grid.get o.tail 0 r c, Grid.get o.fruit 0 r c,
             Grid.get o.norm 0 r c], P x := by
  simp only [stacked, List.forall_mem_flatten, List.forall_mem_map, List.mem_range]

/-- the values of the five planes, concatenated (the `grid` entry of `obsLeaves`) -/
def planeValues (o : Obs) : List Rat :=
  List.flatten o.body ++ List.flatten o.head ++ List.flatten o.tail ++ List.flatten o.fruit ++ List.flatten o.norm

/-- a cell outside a plane reads as the default 0, which lies in `[0, 1]` as well -/
theorem cell_bounds (o : Obs) (h : ∀ v ∈ planeValues o, (0 : Rat) ≤ v ∧ v ≤ 1) (r c : Nat) :
    ∀ x ∈ [Grid.get o.body 0 r c, Grid.get o.head 0 r c, Grid.get o.tail 0 r c, Grid.get o.fruit 0 r c,
           Grid.get o.norm 0 r c], (0 : Rat) ≤ x ∧ x ≤ 1 := by
  have key : ∀ g : Grid Rat, (∀ v ∈ List.flatten g, v ∈ planeValues o) → (0 : Rat) ≤ Grid.get g 0 r c ∧ Grid.get g 0 r c ≤ 1 :=
    fun g hg => Grid.get_of_all (P := fun x => (0 : Rat) ≤ x ∧ x ≤ 1) r c
      (fun row hrow v hv => h _ (hg _ (List.mem_flatten.2 ⟨row, hrow, hv⟩))) ⟨by decide, by decide⟩
  intro x hx
  simp only [List.mem_cons, List.not_mem_nil, or_false] at hx
  rcases hx with rfl | rfl | rfl | rfl | rfl <;> exact key _ (fun v hv => by simp [planeValues, hv])

theorem obs_valid_iff (cfg : Cfg) (o : Obs) : (obsSpec cfg).valid (toNValue o) = true ↔
    o.body.length = cfg.rows ∧ (o.body.headD []).length = cfg.cols ∧
    o.body.length * (o.body.headD []).length * 5 = cfg.rows * cfg.cols * 5 ∧
    (∀ r, r < o.body.length → ∀ c, c < (o.body.headD []).length →
      ∀ x ∈ [Grid.get o.body 0 r c, Grid.get o.head 0 r c, Grid.get o.tail 0 r c, Grid.get o.fruit 0 r c,
             Grid.get o.norm 0 r c], (0 : Rat) ≤ x ∧ x ≤ 1) ∧
    0 ≤ o.stepCount ∧ o.stepCount < ((cfg.timeLimit + 1).toNat : Int) ∧ o.actionMask.length = 4 := by
  simp only [obsSpec, toNValue, valid_cons, valid_nil, valid_scalar_bounded_iff, valid_discrete_int_iff,
    forall_mem_stacked, stacked_length, forall_ofBools, ofBools_length, shape1_eq, prod_one, prod_three,
    List.cons.injEq, true_and, and_true, and_assoc, and_self]

theorem obs_valid_only (cfg : Cfg) (o : Obs) (h : (obsSpec cfg).valid (toNValue o) = true) :
    o.body.length = cfg.rows ∧ (o.body.headD []).length = cfg.cols ∧
    (∀ r c, r < cfg.rows → c < cfg.cols →
      ∀ x ∈ [Grid.get o.body 0 r c, Grid.get o.head 0 r c, Grid.get o.tail 0 r c, Grid.get o.fruit 0 r c,
             Grid.get o.norm 0 r c], (0 : Rat) ≤ x ∧ x ≤ 1) ∧
    0 ≤ o.stepCount ∧ o.stepCount ≤ cfg.timeLimit ∧ o.actionMask.length = 4 :=
  have ⟨h1, h2, _, h3, h4, h5, h6⟩ := (obs_valid_iff cfg o).1 h
  ⟨h1, h2, fun r c hr hc => h3 r (h1 ▸ hr) c (h2 ▸ hc), h4, by omega, h6⟩

/-- from the interval theorem (`ObsInBounds`) and the shape theorem (`ObsShaped`) to membership (sufficient, not necessary:
`validate` sees of the five planes only the cells of the board read off `body`) -/
theorem obs_valid_of_inBounds (cfg : Cfg) (hR : 0 < cfg.rows) (o : Obs) (hs : ObsShaped cfg o) (hb : ObsInBounds cfg o) :
    (obsSpec cfg).valid (toNValue o) = true := by
  have hbody := (Grid.shaped_iff_mem _ _ _).1 hs.1
  have hgrid := hb "grid" (ivInt 0 1) (by simp [obsBounds]) (planeValues o) (by simp [obsLeaves, planeValues])
  have hcnt := hb "step_count" (ivInt 0 cfg.timeLimit) (by simp [obsBounds]) [(o.stepCount : Rat)] (by simp [obsLeaves])
    (o.stepCount : Rat) (by simp)
  obtain ⟨c0, c1⟩ := inIv_ivInt_iff.1 hcnt
  have c0 := Rat.intCast_le_intCast.mp c0
  have c1 := Rat.intCast_le_intCast.mp c1
  have h1 := hbody.1
  have h2 : (o.body.headD []).length = cfg.cols := by
    match hb' : o.body, hbody with
    | [], hbody => simp at hbody; omega
    | row :: rest, hbody => simpa using hbody.2 row (by simp)
  exact (obs_valid_iff cfg o).2 ⟨h1, h2, by rw [h1, h2],
    fun r _ c _ => cell_bounds o (fun v hv => inIv_01_iff.1 (hgrid v hv)) r c, c0, by omega, hs.2.2.2.2.2⟩

/-- the invariant behind the membership theorems: `body_state` has the configured shape, and the numbers on the board, the
length and the counter are non-negative (`NonNeg`, Bounds.lean) -/
def SpecInv (cfg : Cfg) (s : State) : Prop := Grid.shaped s.bodyState cfg.rows cfg.cols = true ∧ NonNeg s

instance (s : State) : Decidable (NonNeg s) := by unfold NonNeg; infer_instance
instance (cfg : Cfg) (s : State) : Decidable (SpecInv cfg s) := by unfold SpecInv; infer_instance

theorem reset_specInv (rnd : Rat → Rat) (cfg : Cfg) (hr hc d : Nat) : SpecInv cfg (reset rnd cfg hr hc d).1 :=
  ⟨(reset_obs_shaped rnd cfg hr hc d).2, reset_nonNeg rnd cfg hr hc d⟩

theorem step_specInv (rnd : Rat → Rat) (cfg : Cfg) (s : State) (h : SpecInv cfg s) (a : Int) (d : Nat) :
    SpecInv cfg (step rnd cfg s a d).1 :=
  ⟨(step_obs_shaped rnd cfg s a d h.1).2, step_nonNeg rnd cfg s a d h.2⟩

/-! ### C01: reset / step / rollouts emit members of `obsSpec` -/

/-- the `reset` observation: ALL board sizes with at least one row, ANY draws (head cell, fruit cell — admissible or not) -/
theorem reset_obs_valid (rnd : Rat → Rat) (hrnd : RndKeeps01 rnd) (cfg : Cfg) (hR : 0 < cfg.rows)
    (htl : 0 ≤ cfg.timeLimit) (hr hc d : Nat) :
    (obsSpec cfg).valid (toNValue (reset rnd cfg hr hc d).2.obs) = true :=
  obs_valid_of_inBounds cfg hR _ (reset_obs_shaped rnd cfg hr hc d).1 (reset_obs_in_bounds rnd hrnd cfg hr hc d htl)

/-- the observation of EVERY step (any integer as action, any draw, MID or LAST) from a state satisfying the invariant whose
counter has not reached the limit -/
theorem step_obs_valid (rnd : Rat → Rat) (hrnd : RndKeeps01 rnd) (cfg : Cfg) (hR : 0 < cfg.rows) (s : State)
    (h : SpecInv cfg s) (hlim : s.stepCount < cfg.timeLimit) (a : Int) (d : Nat) :
    (obsSpec cfg).valid (toNValue (step rnd cfg s a d).2.obs) = true :=
  obs_valid_of_inBounds cfg hR _ (step_obs_shaped rnd cfg s a d h.1).1
    (step_obs_in_bounds_nonNeg rnd hrnd cfg s a d h.2 hlim)

/-- whole episodes: along the rollout (`Ep.rollout` = the L1 step iterated) of ANY integers as actions and ANY draws from
`reset` (any draws), every observation emitted by one of the first `time_limit` steps is a member of the spec (the first LAST
comes at a step `k ≤ time_limit`, so this covers every observation of every episode up to and including the terminal one) -/
theorem rollout_obs_valid (rnd : Rat → Rat) (hrnd : RndKeeps01 rnd) (cfg : Cfg) (hR : 0 < cfg.rows) (hr hc d0 : Nat)
    (as : List (Int × Nat)) (j : Nat) (hj : (j : Int) < cfg.timeLimit) (e : State × TimeStep Obs)
    (he : (Ep.rollout (fun s (a : Int × Nat) => step rnd cfg s a.1 a.2) (reset rnd cfg hr hc d0).1 as)[j]? = some e) :
    (obsSpec cfg).valid (toNValue e.2.obs) = true ∧ SpecInv cfg e.1 := by
  -- indexed invariant: after `n` steps the counter is `n`; no condition on the actions
  obtain ⟨s', a, hinv, _, rfl⟩ := rollout_inv_idx (fun s (a : Int × Nat) => step rnd cfg s a.1 a.2)
    (fun n s => SpecInv cfg s ∧ s.stepCount = (n : Int)) (fun _ => True)
    (fun n s a h _ => ⟨step_specInv rnd cfg s h.1 a.1 a.2, by rw [(step_count rnd cfg s a.1 a.2).1, h.2]; push_cast; rfl⟩) 0 _
    ⟨reset_specInv rnd cfg hr hc d0, rfl⟩ as (fun _ _ => trivial) j e he
  refine ⟨step_obs_valid rnd hrnd cfg hR s' hinv.1 ?_ a.1 a.2, step_specInv rnd cfg s' hinv.1 a.1 a.2⟩
  rw [hinv.2]; push_cast; omega

theorem step_protocol (rnd : Rat → Rat) (cfg : Cfg) (s : State) (a : Int) (d : Nat) :
    StepOK none false (step rnd cfg s a d).2 = true := by
  unfold step; exact condLast_stepOK _ _ _

/-- `action_spec.generate_value()` = 0 (Up): the action spec is well-formed, the generated value is a member, `step` answers it
in EVERY state with a protocol-conform timestep and — from a state satisfying the invariant whose counter has not reached the
limit — with an observation in the spec -/
theorem accepts_generate_value (rnd : Rat → Rat) (hrnd : RndKeeps01 rnd) (cfg : Cfg) (hR : 0 < cfg.rows) (s : State)
    (d : Nat) :
    actionSpec.WF = true ∧ actionSpec.valid actionSpec.generate = true ∧ actionSpec.generate = actionArr 0 ∧
    StepOK none false (step rnd cfg s 0 d).2 = true ∧
    (SpecInv cfg s → s.stepCount < cfg.timeLimit → (obsSpec cfg).valid (toNValue (step rnd cfg s 0 d).2.obs) = true) :=
  ⟨by decide, by decide, by decide, step_protocol rnd cfg s 0 d,
   fun h hl => step_obs_valid rnd hrnd cfg hR s h hl 0 d⟩

theorem step_obs_stepCount (rnd : Rat → Rat) (cfg : Cfg) (s : State) (a : Int) (d : Nat) :
    (step rnd cfg s a d).2.obs.stepCount = s.stepCount + 1 := by
  rw [step_obs]; rfl

end Snake
