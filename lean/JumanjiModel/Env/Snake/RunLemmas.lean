/-
Snake: step type and reward in terms of the rules (C09/C11), `step` versus legality (C04), observations of consistent / reset
states (C12), all non-terminal states of any play from a consistent state are consistent (C07), the single-step facts behind
the time limit along whole plays (C11; `otherCause` names the causes of LAST other than the limit), shapes of the
observation (C01).
-/
import JumanjiModel.Env.Snake.Run
import JumanjiModel.Env.Snake.Lemmas
import JumanjiModel.Env.Snake.EpisodeLemmas
namespace Snake
open Jm Jx

/-! ### C09 / C11: step type and reward in terms of the rules -/

/-- from a consistent state shorter than the board, for every in-spec action and every draw: the step is LAST iff the
move is illegal, or the snake now fills the board (`length' = rows * cols`), or the time limit is reached; and the
reward is 1 iff the move eats the fruit -/
theorem step_ts_rules (rnd : Rat → Rat) (cfg : Cfg) (s : State) (a : Nat) (d : Nat) (ha : a < 4)
    (hc : Consistent cfg s) (hlen : s.length < ((cfg.rows * cfg.cols : Nat) : Int)) :
    ((step rnd cfg s a d).2.stepType = .last ↔
      (¬ legal cfg s a ∨ (step rnd cfg s a d).1.length = ((cfg.rows * cfg.cols : Nat) : Int) ∨
        s.stepCount + 1 ≥ cfg.timeLimit)) ∧
    (step rnd cfg s a d).2.reward = [if eats s a then 1 else 0] := by
  refine ⟨?_, by rw [step_reward, eatenB_eq s ha]⟩
  have hnf := (not_full_iff_length cfg s hc).2 hlen
  obtain ⟨⟨cs, hch⟩, _, _, _, hffree, hmask, _⟩ := hc
  rw [step_last_iff_legal rnd cfg s a d ha hmask]
  by_cases hl : legal cfg s a
  · rw [chain_full_iff cfg _ _ (step_chain rnd cfg s a d cs hch hl (fun _ => hffree hnf)) rfl]
  · exact iff_of_true (Or.inl hl) (Or.inl hl)

/-- C04 about `step`: with a correct cached mask, on a step that neither fills the board nor reaches the time limit,
`step` ends the episode exactly when the rules forbid the move -/
theorem step_agrees_step (rnd : Rat → Rat) (cfg : Cfg) (s : State) (a : Nat) (d : Nat) (ha : a < 4)
    (hm : s.actionMask = legalMask cfg s) (hnc : Grid.all id (step rnd cfg s a d).1.body = false)
    (hbl : s.stepCount + 1 < cfg.timeLimit) :
    (step rnd cfg s a d).2.stepType = .last ↔ ¬ legal cfg s a := by
  rw [step_last_iff_legal rnd cfg s a d ha hm, hnc]
  constructor
  · rintro (h | h | h)
    · exact h
    · exact absurd h (by decide)
    · exact absurd hbl (Int.not_lt.2 h)
  · exact Or.inl

/-! ### C12: observations of consistent states, reset -/

theorem head_inGrid_of_chain (cfg : Cfg) (t : State) (cs : List (Nat × Nat)) (hch : Chain cfg t cs) :
    inGrid cfg t.head.row t.head.col := by
  obtain ⟨_, _, hpos, hin, _, _, _, h0r, h0c, hlast⟩ := hch
  have hmem : cs.getD (cs.length - 1) (0, 0) ∈ cs := by
    rw [List.getD_eq_getElem?_getD, List.getElem?_eq_getElem (by omega)]
    exact List.getElem_mem _
  have := hin _ hmem
  rw [hlast] at this
  simp only [] at this
  unfold inGrid
  omega

theorem obs_of_consistent (rnd : Rat → Rat) (cfg : Cfg) (t : State) (hc : Consistent cfg t) :
    stateToObs rnd t = observe rnd cfg t := by
  obtain ⟨⟨cs, hch⟩, hbody, htail, hfin, _, hmask, _⟩ := hc
  exact obs_eq rnd cfg t hch.1 hbody htail (head_inGrid_of_chain cfg t cs hch) hfin hmask

theorem reset_obs_faithful (rnd : Rat → Rat) (cfg : Cfg) (hr hc : Nat) (d : Nat)
    (h1 : hr < cfg.rows) (h2 : hc < cfg.cols) (hd : validDraw cfg (reset rnd cfg hr hc d).1.body d) :
    (reset rnd cfg hr hc d).2.obs = observe rnd cfg (reset rnd cfg hr hc d).1 ∧
    (reset rnd cfg hr hc d).2.stepType = .first :=
  ⟨obs_of_consistent rnd cfg _ (reset_consistent rnd cfg hr hc d h1 h2 hd).1, rfl⟩

/-! ### C07: all non-terminal states of any play from a consistent state (e.g. reset) are consistent -/

theorem stepA_inv (rnd : Rat → Rat) (cfg : Cfg) (s : State) (ad : ActDraw) (h : RunInv cfg s)
    (hok : okStep rnd cfg s ad) (hn : ¬ (stepA rnd cfg s ad).2.stepType = .last) :
    RunInv cfg (stepA rnd cfg s ad).1 := step_runInv rnd cfg s ad.1 ad.2 hok.1 h hok.2 hn

theorem run_consistent (rnd : Rat → Rat) (cfg : Cfg) (s : State) (hc : Consistent cfg s)
    (hlen : s.length < ((cfg.rows * cfg.cols : Nat) : Int)) (ads : List ActDraw) (k : Nat) (hk : k ≤ ads.length)
    (hok : ∀ j (hj : j < ads.length), j < k → okStep rnd cfg (EpRun.after (stepA rnd cfg) s (ads.take j)) ads[j])
    (hno : EpRun.NoLastBefore (stepA rnd cfg) (·.stepType = .last) s ads k) :
    Consistent cfg (EpRun.after (stepA rnd cfg) s (ads.take k)) ∧
    (EpRun.after (stepA rnd cfg) s (ads.take k)).length < ((cfg.rows * cfg.cols : Nat) : Int) :=
  EpRun.after_inv_mid (stepA rnd cfg) (·.stepType = .last) (RunInv cfg) (okStep rnd cfg)
    (stepA_inv rnd cfg) s ads k hk ⟨hc, hlen⟩ hok hno

theorem run_states_consistent (rnd : Rat → Rat) (cfg : Cfg) (s : State) (hc : Consistent cfg s)
    (hlen : s.length < ((cfg.rows * cfg.cols : Nat) : Int)) (ads : List ActDraw) (k : Nat)
    (p : State × TimeStep Obs) (h : (run rnd cfg s ads)[k]? = some p)
    (hok : ∀ j (hj : j < ads.length), j ≤ k → okStep rnd cfg (EpRun.after (stepA rnd cfg) s (ads.take j)) ads[j])
    (hno : EpRun.NoLastBefore (stepA rnd cfg) (·.stepType = .last) s ads (k + 1)) :
    Consistent cfg p.1 := by
  obtain ⟨hlt, rfl⟩ := EpRun.run_get_eq (stepA rnd cfg) s ads k p h
  have := run_consistent rnd cfg s hc hlen ads (k + 1) (by omega) (fun j hj hjk => hok j hj (by omega)) hno
  rw [EpRun.after_take_succ (stepA rnd cfg) s ads k hlt] at this
  exact this.1

/-! ### C11: the counter, the time limit and the causes of LAST for one step of `stepA` -/

theorem stepA_count (rnd : Rat → Rat) (cfg : Cfg) (s : State) (ad : ActDraw) :
    (stepA rnd cfg s ad).1.stepCount = s.stepCount + 1 := (step_count rnd cfg s _ _).1

theorem stepA_limit (rnd : Rat → Rat) (cfg : Cfg) (s : State) (ad : ActDraw)
    (h : s.stepCount + 1 ≥ cfg.timeLimit) : (stepA rnd cfg s ad).2.stepType = .last :=
  (step_count rnd cfg s _ _).2 h

/-- the other causes of termination of a step, in terms of the rules -/
def otherCause (rnd : Rat → Rat) (cfg : Cfg) (s : State) (ad : ActDraw) : Prop :=
  ¬ legal cfg s ad.1 ∨ (stepA rnd cfg s ad).1.length = ((cfg.rows * cfg.cols : Nat) : Int)

theorem stepA_last_iff (rnd : Rat → Rat) (cfg : Cfg) (s : State) (ad : ActDraw) (h : RunInv cfg s)
    (hok : okStep rnd cfg s ad) :
    (stepA rnd cfg s ad).2.stepType = .last ↔ (otherCause rnd cfg s ad ∨ s.stepCount + 1 ≥ cfg.timeLimit) := by
  have := (step_ts_rules rnd cfg s ad.1 ad.2 hok.1 h.1 h.2).1
  unfold stepA otherCause
  rw [this]
  constructor
  · rintro (h1 | h1 | h1)
    · exact Or.inl (Or.inl h1)
    · exact Or.inl (Or.inr h1)
    · exact Or.inr h1
  · rintro ((h1 | h1) | h1)
    · exact Or.inl h1
    · exact Or.inr (Or.inl h1)
    · exact Or.inr (Or.inr h1)

/-! ### C01: shapes -/

theorem getActionMask_length (cfg : Cfg) (h : Pos) (bs : Grid Int) : (getActionMask cfg h bs).length = 4 := by
  unfold getActionMask moves; simp

theorem stateToObs_shaped (rnd : Rat → Rat) (cfg : Cfg) (s : State)
    (hb : Grid.shaped s.body cfg.rows cfg.cols = true) (ht : Grid.shaped s.tail cfg.rows cfg.cols = true)
    (hbs : Grid.shaped s.bodyState cfg.rows cfg.cols = true) (hm : s.actionMask.length = 4) :
    ObsShaped cfg (stateToObs rnd s) := by
  have hz : Grid.shaped (Grid.map (fun _ => false) s.body) cfg.rows cfg.cols = true := Grid.shaped_map_of _ hb
  exact ⟨Grid.shaped_map_of _ hb, Grid.shaped_map_of _ (Grid.shaped_setWD hz _ _ _), Grid.shaped_map_of _ ht,
    Grid.shaped_map_of _ (Grid.shaped_setWD hz _ _ _), Grid.shaped_map_of _ hbs, hm⟩

theorem step_obs_shaped (rnd : Rat → Rat) (cfg : Cfg) (s : State) (a : Int) (d : Nat)
    (hs : Grid.shaped s.bodyState cfg.rows cfg.cols = true) :
    ObsShaped cfg (step rnd cfg s a d).2.obs ∧
    Grid.shaped (step rnd cfg s a d).1.bodyState cfg.rows cfg.cols = true := by
  obtain ⟨hbs, hb, ht⟩ := step_shaped rnd cfg s a d hs
  exact ⟨step_obs rnd cfg s a d ▸ stateToObs_shaped rnd cfg _ hb ht hbs (getActionMask_length cfg _ _), hbs⟩

theorem reset_obs_shaped (rnd : Rat → Rat) (cfg : Cfg) (hr hc : Nat) (d : Nat) :
    ObsShaped cfg (reset rnd cfg hr hc d).2.obs ∧
    Grid.shaped (reset rnd cfg hr hc d).1.bodyState cfg.rows cfg.cols = true := by
  obtain ⟨hb, hbs⟩ := reset_shaped rnd cfg hr hc d
  exact ⟨stateToObs_shaped rnd cfg _ hb hb hbs (getActionMask_length cfg _ _), hbs⟩

end Snake
