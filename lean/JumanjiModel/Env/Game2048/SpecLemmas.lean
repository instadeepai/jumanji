/-
Game2048, C01 and what is stated about `step` itself.

* `observation_spec` / `action_spec` written as `Sp` values (`obsSpec n`, `actionSpec`; they are the generated declaration at the
  catalogue configurations: `game2048_obsSpec_generated`, Props/SpecTable.lean), the model observation as spec-level arrays
  (`toNValue`) and membership of every observation `step` emits (C01); the protocol of `step` (`step_protocol`, C03);
* the environment's own reaction to an action, stated about `step` (C04): a tile appears / the board changes iff the move is
  legal;
* `Consistent` and the tile-sum book-keeping along EVERY admissible play from `reset` (C07).
-/
import JumanjiModel.Env.Game2048.EpisodeLemmas
import JumanjiModel.Env.SpecMembership
namespace Game2048
open Jm Sp PzS PzS3

/-- env.py `observation_spec`: `board` Array((n, n), int32) — NO bounds declared —, `action_mask` BoundedArray((4,), bool, False, True) -/
def obsSpec (n : Nat) : Sp.Nested :=
  [("board", .array [n, n] .int32 "board"),
   ("action_mask", .bounded [4] .bool "action_mask" [] [0] [] [1])]

/-- `action_spec`: DiscreteArray(4) -/
def actionSpec : Leaf := .discrete 4 .int32 "action"

def ofNats (l : List Nat) : List Rat := l.map (fun (e : Nat) => ((e : Int) : Rat))

/-- a model observation as the arrays the implementation emits (board int32, action_mask bool) -/
def toNValue (o : Obs) : NValue :=
  [("board", ⟨gridShape o.board, .int32, ofNats o.board.flatten⟩),
   ("action_mask", ⟨[o.actionMask.length], .bool, ofBools o.actionMask⟩)]

def actionArr (a : Int) : Arr := ⟨[], .int32, [(a : Rat)]⟩

theorem obs_valid_iff (n : Nat) (o : Obs) : (obsSpec n).valid (toNValue o) = true ↔
    gridShape o.board = [n, n] ∧ o.board.flatten.length = n * n ∧ o.actionMask.length = 4 := by
  simp only [obsSpec, toNValue, ofNats, valid_cons, valid_nil, valid_array_iff, valid_scalar_bounded_iff, forall_ofBools,
    PkS.ofBools_length, List.length_map, prod_one, prod_two, List.cons.injEq, true_and, and_true, and_self, and_assoc]

/-- C01: an observation with an `n × n` board and a 4-entry mask is a member of `observation_spec` -/
theorem obs_valid (n : Nat) (o : Obs) (hs : Shaped o.board n) (hm : o.actionMask.length = 4) :
    (obsSpec n).valid (toNValue o) = true :=
  have ⟨h1, h2⟩ := gridShape_of_rows o.board n n hs.1 hs.2 id
  (obs_valid_iff n o).2 ⟨h1, h2, hm⟩

/-- … and `validate` accepts nothing else -/
theorem obs_valid_only (n : Nat) (o : Obs) (h : (obsSpec n).valid (toNValue o) = true) :
    gridShape o.board = [n, n] ∧ o.board.flatten.length = n * n ∧ o.actionMask.length = 4 :=
  (obs_valid_iff n o).1 h

theorem actionMask_length (b : Board) : (actionMask b).length = 4 := by simp [actionMask]

/-- C01: every `step` observation from an `n × n` board: EVERY action value, EVERY draw, terminal step included -/
theorem step_obs_valid (n : Nat) (s : State) (a : Int) (d : Draw) (hs : Shaped s.board n) :
    (obsSpec n).valid (toNValue (step s a d).2.obs) = true := by
  rw [step_obs_eq]
  exact obs_valid n _ (step_shaped n s a d hs) (actionMask_length _)

theorem step_protocol (s : State) (a : Int) (d : Draw) : StepOK none false (step s a d).2 = true := condLast_stepOK _ _ _

/-- `action_spec.generate_value()` = 0 = Up, and `step` accepts it -/
theorem accepts_generate_value (n : Nat) (s : State) (d : Draw) (hs : Shaped s.board n) :
    actionSpec.WF = true ∧ actionSpec.valid actionSpec.generate = true ∧ actionSpec.generate = actionArr 0 ∧
    StepOK none false (step s 0 d).2 = true ∧ (obsSpec n).valid (toNValue (step s 0 d).2.obs) = true :=
  ⟨by decide, by decide, by decide, step_protocol s 0 d, step_obs_valid n s 0 d hs⟩

/-- C04, about `step` itself: from a consistent state, for each of the four moves (valid spawn draw when the move is
legal), the rules allow the move iff `step` changed the board iff the tile sum changed (a tile was spawned) — "the
environment treated the move as valid" as the harness reads it off a transition -/
theorem step_reaction (n : Nat) (s : State) (a : Nat) (d : Draw) (ha : a < 4) (hc : Consistent n s)
    (hd : legal s.board a → validDraw (slideBoard s.board (Dir.ofAction a)) d) :
    (legal s.board a ↔ boardSum (step s a d).1.board ≠ boardSum s.board) ∧
    (legal s.board a ↔ (step s a d).1.board ≠ s.board) := by
  have hs := consistent_square hc
  have hsum := step_boardSum s a d ha hs hc.mask hd
  have hpos : 0 < 2 ^ d.val := Nat.pow_pos (by omega)
  have h := (Jx.reacted (L := legal s.board a) (d := boardSum s.board + 2 ^ d.val) (fun hl => hsum.trans (by rw [if_pos hl]))
    (fun hl => hsum.trans (by rw [if_neg hl])) (by omega)).2.2
  have hb := step_board s a d ha hs hc.mask
  exact ⟨h, fun hl e => h.1 hl (congrArg boardSum e), fun hne => Decidable.byContradiction fun hl =>
    hne (hb.trans (if_neg hl))⟩

theorem validPlay_take (s : State) (ads : List (Nat × Draw)) (k : Nat) (hv : ValidPlay s ads) :
    ValidPlay s (ads.take k) := by
  induction ads generalizing s k with
  | nil => simpa using hv
  | cons p ads ih =>
    cases k with
    | zero => trivial
    | succ k => exact ⟨hv.1, hv.2.1, ih _ k hv.2.2⟩

/-- C07: EVERY state of EVERY admissible play from `reset` (any size, any valid first tile; the play may run on after LAST):
it is `Consistent`, and the tile sum of its board is the sum of all tiles spawned so far, the first included -/
theorem consistent_along (n : Nat) (d0 : Draw) (ads : List (Nat × Draw)) (hd0 : validDraw (tab n (fun _ _ => 0)) d0)
    (hv : ValidPlay (reset n d0).1 ads) (k : Nat) :
    Consistent n (runState (reset n d0).1 (ads.take k)) ∧
    boardSum (runState (reset n d0).1 (ads.take k)).board = 2 ^ d0.val + spawnSum (reset n d0).1 (ads.take k) := by
  have hv' := validPlay_take _ ads k hv
  exact ⟨run_consistent n _ _ (reset_consistent n d0 hd0) hv', (episode_return n d0 _ hd0 hv').2.2.2⟩

end Game2048
