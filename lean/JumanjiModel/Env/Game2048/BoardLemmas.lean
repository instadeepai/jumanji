/-
Game2048, board level (C07/C08/C05): weighted sums over the board are sums over the lines read in ANY of the four
directions, hence `slideBoard` changes a weight that obeys a row law by the law's multiple of the reward (`boardW_slide`: the
tile sum is conserved, the score potential grows by the reward); `step` keeps the board square; what a spawn adds to a
weighted sum; a legal move leaves an empty cell; `Consistent` is established by `reset` and preserved by `step` (its
conjuncts by name: `Consistent.shaped`, `sum_pos`, `mask`, `score_nonneg`, `fresh`).
-/
import JumanjiModel.Env.Game2048.Lemmas
namespace Game2048
open Jm

/-- `Σ_{i<n} f i`; the board-level sums are brought to this form to reindex them -/
def gsum (n : Nat) (f : Nat → Nat) : Nat := ((List.range n).map f).sum

theorem gsum_zero (f : Nat → Nat) : gsum 0 f = 0 := rfl

theorem gsum_succ (n : Nat) (f : Nat → Nat) : gsum (n + 1) f = gsum n f + f n := by
  unfold gsum; rw [List.range_succ]; simp

theorem gsum_congr (n : Nat) (f g : Nat → Nat) (h : ∀ i, i < n → f i = g i) : gsum n f = gsum n g := by
  unfold gsum; congr 1; apply List.map_congr_left; intro i hi; exact h i (List.mem_range.1 hi)

theorem gsum_add (n : Nat) (f g : Nat → Nat) : gsum n (fun i => f i + g i) = gsum n f + gsum n g := by
  induction n with
  | zero => rfl
  | succ n ih => rw [gsum_succ, gsum_succ, gsum_succ, ih]; omega

theorem gsum_mul (n κ : Nat) (f : Nat → Nat) : gsum n (fun i => κ * f i) = κ * gsum n f := by
  induction n with
  | zero => rfl
  | succ n ih => rw [gsum_succ, gsum_succ, ih, Nat.mul_add]

theorem gsum_const_zero (n : Nat) : gsum n (fun _ => 0) = 0 := by
  induction n with
  | zero => rfl
  | succ n ih => rw [gsum_succ, ih]

theorem gsum_rev (n : Nat) (f : Nat → Nat) : gsum n (fun i => f (n - 1 - i)) = gsum n f :=
  sum_range_reverse n f

theorem gsum_swap (n m : Nat) (F : Nat → Nat → Nat) :
    gsum n (fun i => gsum m (fun j => F i j)) = gsum m (fun j => gsum n (fun i => F i j)) := by
  induction n with
  | zero => simp only [gsum_zero]; exact (gsum_const_zero m).symm
  | succ n ih => simp only [gsum_succ]; rw [ih, ← gsum_add]

theorem gsum_pos (n : Nat) (f : Nat → Nat) (k : Nat) (hk : k < n) (h : 0 < f k) : 0 < gsum n f := by
  induction n with
  | zero => omega
  | succ n ih =>
    rw [gsum_succ]
    by_cases e : k = n
    · subst e; omega
    · have := ih (by omega); omega

theorem gsum_eq_zero (n : Nat) (f : Nat → Nat) (h : gsum n f = 0) : ∀ i, i < n → f i = 0 := by
  induction n with
  | zero => intro i hi; omega
  | succ n ih =>
    rw [gsum_succ] at h
    intro i hi
    by_cases e : i = n
    · subst e; omega
    · exact ih (by omega) i (by omega)

theorem gsum_eq_one (n : Nat) (f : Nat → Nat) (h : gsum n f = 1) :
    ∃ k, k < n ∧ f k = 1 ∧ ∀ i, i < n → i ≠ k → f i = 0 := by
  induction n with
  | zero => rw [gsum_zero] at h; omega
  | succ n ih =>
    rw [gsum_succ] at h
    by_cases e : f n = 0
    · obtain ⟨k, hk, h1, h2⟩ := ih (by omega)
      exact ⟨k, by omega, h1, fun i hi hne => if e' : i = n then e' ▸ e else h2 i (by omega) hne⟩
    · exact ⟨n, by omega, by omega, fun i hi hne => gsum_eq_zero n f (by omega) i (by omega)⟩

theorem wsum_eq_gsum (v : Nat → Nat) (r : List Nat) (n : Nat) (h : r.length = n) :
    wsum v r = gsum n (fun p => v (r.getD p 0)) := by
  subst h
  conv => lhs; rw [← Jx.range_map_getD r 0]
  unfold wsum gsum
  rw [List.map_map]; rfl

theorem wsum_rangeMap (v : Nat → Nat) (n : Nat) (g : Nat → Nat) :
    wsum v ((List.range n).map g) = gsum n (fun p => v (g p)) := by
  unfold wsum gsum; rw [List.map_map]; rfl

theorem boardW_tab (v : Nat → Nat) (n : Nat) (F : Nat → Nat → Nat) :
    boardW v (tab n F) = gsum n (fun i => gsum n (fun j => v (F i j))) := by
  unfold boardW tab
  rw [List.map_map]
  show gsum n _ = _
  apply gsum_congr; intro i _
  exact wsum_rangeMap v n (F i)

theorem boardW_square (v : Nat → Nat) (b : Board) (hs : Square b) :
    boardW v b = gsum b.length (fun i => gsum b.length (fun j => v (get b i j))) := by
  conv => lhs; rw [← tab_get_self b hs]
  exact boardW_tab v b.length (get b)

theorem gsum_reindex (n : Nat) (dir : Dir) (G : Nat → Nat → Nat) :
    gsum n (fun i => gsum n (fun j => G (lineIx dir i j) (posIx n dir i j))) =
      gsum n (fun k => gsum n (fun p => G k p)) := by
  cases dir with
  | up => simp only [lineIx, posIx]; exact gsum_swap n n (fun i j => G j i)
  | right =>
    simp only [lineIx, posIx]
    apply gsum_congr; intro i _
    exact gsum_rev n (fun p => G i p)
  | down =>
    simp only [lineIx, posIx]
    rw [gsum_swap n n (fun i j => G j (n - 1 - i))]
    apply gsum_congr; intro k _
    exact gsum_rev n (fun p => G k p)
  | left => rfl

theorem boardW_lines (v : Nat → Nat) (b : Board) (dir : Dir) (hs : Square b) :
    boardW v b = gsum b.length (fun k => wsum v (line b.length b dir k)) := by
  rw [boardW_square v b hs]
  have e : ∀ k, wsum v (line b.length b dir k) =
      gsum b.length (fun p => v (get b (cellR b.length dir k p) (cellC b.length dir k p))) := by
    intro k; rw [line_eq, wsum_rangeMap]
  simp only [e]
  rw [← gsum_reindex b.length dir (fun k p => v (get b (cellR b.length dir k p) (cellC b.length dir k p)))]
  apply gsum_congr; intro i hi
  apply gsum_congr; intro j hj
  simp only [cellR_ix _ _ _ _ hi, cellC_ix _ _ _ _ hj]

theorem boardW_slideBoard (v : Nat → Nat) (b : Board) (dir : Dir) :
    boardW v (slideBoard b dir) = gsum b.length (fun k => wsum v (slideSpec (line b.length b dir k))) := by
  rw [slideBoard_eq_tab, boardW_tab]
  have e : ∀ k, wsum v (slideSpec (line b.length b dir k)) =
      gsum b.length (fun p => v ((slideSpec (line b.length b dir k)).getD p 0)) := by
    intro k; exact wsum_eq_gsum v _ _ (by rw [slideSpec_length, line_length])
  simp only [e]
  exact gsum_reindex b.length dir (fun k p => v ((slideSpec (line b.length b dir k)).getD p 0))

theorem boardReward_eq_gsum (b : Board) (dir : Dir) :
    boardReward b dir = gsum b.length (fun k => rowReward (line b.length b dir k)) := rfl

theorem boardW_slide {v : Nat → Nat} {κ : Nat} (h : MergeLaw v κ) (b : Board) (dir : Dir) (hs : Square b) :
    boardW v (slideBoard b dir) = boardW v b + κ * boardReward b dir := by
  rw [boardW_slideBoard, boardW_lines v b dir hs, boardReward_eq_gsum, ← gsum_mul, ← gsum_add]
  apply gsum_congr; intro k _
  exact wsum_slideSpec h _

/-- C07 (board): sliding the tiles in any direction conserves the sum of the tile values -/
theorem boardSum_slideBoard (b : Board) (dir : Dir) (hs : Square b) :
    boardSum (slideBoard b dir) = boardSum b := by
  rw [boardSum_eq_boardW, boardSum_eq_boardW, boardW_slide tile_law b dir hs, Nat.zero_mul, Nat.add_zero]

theorem step_board_length (s : State) (a : Int) (d : Draw) : (step s a d).1.board.length = s.board.length := by
  unfold step
  simp only []
  split
  · rw [addRandomCell_length, move_length]
  · rw [move_length]

/-- C07/C12: every step (any action value, any draw) keeps the board square -/
theorem step_square (s : State) (a : Int) (d : Draw) (hs : Square s.board) : Square (step s a d).1.board := by
  unfold step
  simp only []
  split
  · exact addRandomCell_square _ _ (move_square _ _ hs)
  · exact move_square _ _ hs

theorem step_shaped (n : Nat) (s : State) (a : Int) (d : Draw) (hs : Shaped s.board n) :
    Shaped (step s a d).1.board n := by
  rw [shaped_iff] at hs ⊢
  exact ⟨by rw [step_board_length]; exact hs.1, step_square s a d hs.2⟩

theorem reset_shaped (n : Nat) (d : Draw) : Shaped (reset n d).1.board n := by
  have h := shaped_of_square (addRandomCell_square _ d (tab_square n (fun _ _ => 0)))
  rwa [addRandomCell_length, tab_length] at h

theorem reset_obs_faithful (n : Nat) (d : Draw) : (reset n d).2.obs = observe (reset n d).1 := by
  have h := actionMask_eq_legalMask _ (square_of_shaped (reset_shaped n d))
  show ({ board := (reset n d).1.board, actionMask := actionMask (reset n d).1.board } : Obs) = _
  rw [h]; rfl

theorem sum_map_set {α : Type} (f : α → Nat) (l : List α) (i : Nat) (x dflt : α) (hi : i < l.length) :
    ((l.set i x).map f).sum + f (l.getD i dflt) = (l.map f).sum + f x := by
  rw [List.map_set, ← Jx.getD_map f 0 dflt hi]
  exact Jx.Grid.sum_set _ i _ (by rw [List.length_map]; exact hi)

theorem divmod_lt {n k : Nat} (h : k < n * n) : k / n < n ∧ k % n < n := by
  have hn : 0 < n := Nat.pos_of_ne_zero (by rintro rfl; simp at h)
  exact ⟨Nat.div_lt_of_lt_mul h, Nat.mod_lt _ hn⟩

theorem flat_lt {n i j : Nat} (hi : i < n) (hj : j < n) : n * i + j < n * n := by
  have : n * (i + 1) ≤ n * n := Nat.mul_le_mul_left _ hi
  rw [Nat.mul_succ] at this
  omega

theorem flat_divmod {n j : Nat} (i : Nat) (hj : j < n) : (n * i + j) / n = i ∧ (n * i + j) % n = j := by
  rw [Nat.mul_add_div (by omega), Nat.div_eq_of_lt hj, Nat.mul_add_mod, Nat.mod_eq_of_lt hj]
  exact ⟨rfl, rfl⟩

theorem square_row_length (b : Board) (hs : Square b) (i : Nat) (hi : i < b.length) :
    (b.getD i []).length = b.length := Jx.Grid.shaped_row ((square_iff_shaped b).1 hs) hi

theorem addRandomCell_eq (b : Board) (d : Draw) :
    addRandomCell b d = Jx.Grid.set b (d.idx / b.length) (d.idx % b.length) d.val :=
  Jx.Grid.setWD_natCast b _ _ d.val

theorem boardW_addRandomCell (v : Nat → Nat) (h0 : v 0 = 0) (b : Board) (d : Draw) (hs : Square b)
    (hd : d.idx < b.length * b.length) (hz : get b (d.idx / b.length) (d.idx % b.length) = 0) :
    boardW v (addRandomCell b d) = boardW v b + v d.val := by
  obtain ⟨hi, hj⟩ := divmod_lt hd
  have e1 := sum_map_set (wsum v) b _ ((b.getD (d.idx / b.length) []).set (d.idx % b.length) d.val) [] hi
  have e2 := sum_map_set v (b.getD (d.idx / b.length) []) (d.idx % b.length) d.val 0
    (by rw [square_row_length b hs _ hi]; exact hj)
  unfold get at hz
  rw [hz, h0] at e2
  rw [addRandomCell_eq b d, Jx.Grid.set_eq b _ _ _ hi]
  unfold boardW
  unfold wsum at e1 ⊢
  omega

theorem boardW_tab_zero (v : Nat → Nat) (h0 : v 0 = 0) (n : Nat) : boardW v (tab n (fun _ _ => 0)) = 0 := by
  rw [boardW_tab]
  simp only [h0, gsum_const_zero]

theorem validDraw_empty (n : Nat) (d : Draw) :
    validDraw (tab n (fun _ _ => 0)) d ↔ d.idx < n * n ∧ (d.val = 1 ∨ d.val = 2) := by
  unfold validDraw
  rw [tab_length]
  constructor
  · exact fun h => ⟨h.1, h.2.2⟩
  · exact fun h => ⟨h.1, get_tab n _ _ _ (divmod_lt h.1).1 (divmod_lt h.1).2, h.2⟩

theorem boardW_reset (v : Nat → Nat) (h0 : v 0 = 0) (n : Nat) (d : Draw) (hd : d.idx < n * n) :
    boardW v (reset n d).1.board = v d.val := by
  have hv := (validDraw_empty n ⟨d.idx, 1⟩).2 ⟨hd, Or.inl rfl⟩
  show boardW v (addRandomCell _ d) = _
  rw [boardW_addRandomCell v h0 _ d (tab_square n _) hv.1 hv.2.1, boardW_tab_zero v h0, Nat.zero_add]

theorem validDraw_val_ne_zero {b : Board} {d : Draw} (hd : validDraw b d) : d.val ≠ 0 := by
  rcases hd.2.2 with h | h <;> omega

/-- C07: a valid spawn adds exactly the value of the new tile (2 or 4) to the tile sum -/
theorem boardSum_addRandomCell (b : Board) (d : Draw) (hs : Square b) (hd : validDraw b d) :
    boardSum (addRandomCell b d) = boardSum b + 2 ^ d.val := by
  have h := boardW_addRandomCell vTile rfl b d hs hd.1 hd.2.1
  rwa [vTile, if_neg (validDraw_val_ne_zero hd)] at h

theorem boardSum_addRandomCell' (b : Board) (d : Draw) (hs : Square b) (hd : validDraw b d) :
    boardSum (addRandomCell b d) = boardSum b + 2 ∨ boardSum (addRandomCell b d) = boardSum b + 4 := by
  rw [boardSum_addRandomCell b d hs hd]
  rcases hd.2.2 with h | h <;> rw [h] <;> simp

/-- C08: a valid spawn adds the potential of the new tile (0 for a 2, 4 for a 4) -/
theorem boardPot_addRandomCell (b : Board) (d : Draw) (hs : Square b) (hd : validDraw b d) :
    boardPot (addRandomCell b d) = boardPot b + (d.val - 1) * 2 ^ d.val :=
  boardW_addRandomCell vPot rfl b d hs hd.1 hd.2.1

/-! ### a move that changes the board leaves an empty cell (C04/C05: a valid spawn draw always exists) -/

theorem compress_eq_self_of_length (r : List Nat) (h : (compress r).length = r.length) : compress r = r := by
  unfold compress at h ⊢
  exact List.filter_eq_self.2 (List.length_filter_eq_length_iff.1 h)

theorem mergePairs_eq_self_of_length (l : List Nat) (h : (mergePairs l).length = l.length) : mergePairs l = l := by
  fun_induction mergePairs l with
  | case1 a rest ih =>
    have := mergePairs_length_le rest
    simp only [List.length_cons] at h; omega
  | case2 a b rest hne ih =>
    simp only [List.length_cons] at h
    rw [ih (by simp only [List.length_cons]; omega)]
  | case3 l _ => rfl

theorem slideSpec_last_zero (r : List Nat) (h : slideSpec r ≠ r) : (slideSpec r).getD (r.length - 1) 0 = 0 := by
  have h1 := mergePairs_length_le (compress r)
  have h2 := compress_length_le r
  by_cases e : (mergePairs (compress r)).length = r.length
  · exfalso; apply h
    have ec : compress r = r := compress_eq_self_of_length r (by omega)
    have em : mergePairs r = r := mergePairs_eq_self_of_length r (by rw [ec] at e; exact e)
    unfold slideSpec padTo
    rw [ec, em]; simp
  · unfold slideSpec padTo
    rw [List.getD_eq_getElem?_getD, List.getElem?_append_right (by omega), ← List.getD_eq_getElem?_getD,
      Jx.getD_replicate_self]

theorem exists_changed_line (b : Board) (a : Nat) (hs : Square b) (hl : legal b a) :
    ∃ k, k < b.length ∧
      slideSpec (line b.length b (Dir.ofAction a) k) ≠ line b.length b (Dir.ofAction a) k := by
  simpa using mt (slideBoard_fixed_iff b _ hs).2 hl.2

theorem exists_empty_of_legal (b : Board) (a : Nat) (hs : Square b) (hl : legal b a) :
    ∃ i j, i < b.length ∧ j < b.length ∧ get (slideBoard b (Dir.ofAction a)) i j = 0 := by
  obtain ⟨k, hk, hne⟩ := exists_changed_line b a hs hl
  have hp : b.length - 1 < b.length := by omega
  refine ⟨cellR b.length (Dir.ofAction a) k (b.length - 1), cellC b.length (Dir.ofAction a) k (b.length - 1),
    cellR_lt _ _ _ _ hk hp, cellC_lt _ _ _ _ hk hp, ?_⟩
  rw [get_slideBoard b _ _ _ (cellR_lt _ _ _ _ hk hp) (cellC_lt _ _ _ _ hk hp),
    lineIx_cell, posIx_cell _ _ _ _ hp]
  have := slideSpec_last_zero _ hne
  rw [line_length] at this
  exact this

/-! ### `Consistent` (C07): established by `reset`, preserved by every step -/

theorem reset_boardSum (n : Nat) (d : Draw) (hd : validDraw (tab n (fun _ _ => 0)) d) :
    boardSum (reset n d).1.board = 2 ^ d.val := by
  have h := boardW_reset vTile rfl n d ((validDraw_empty n d).1 hd).1
  rwa [vTile, if_neg (validDraw_val_ne_zero hd)] at h

theorem reset_consistent (n : Nat) (d : Draw) (hd : validDraw (tab n (fun _ _ => 0)) d) :
    Consistent n (reset n d).1 := by
  have hsh := reset_shaped n d
  have hsum : boardSum (reset n d).1.board = 2 ∨ boardSum (reset n d).1.board = 4 := by
    rw [reset_boardSum n d hd]
    rcases hd.2.2 with h | h <;> rw [h] <;> simp
  refine ⟨hsh, ?_, ?_, ?_, ?_⟩
  · rcases hsum with h | h <;> rw [h] <;> omega
  · exact actionMask_eq_legalMask _ (square_of_shaped hsh)
  · show (0 : Rat) ≤ 0; exact Rat.le_refl
  · intro _; exact ⟨hsum, rfl⟩

theorem Consistent.shaped {n : Nat} {s : State} (h : Consistent n s) : Shaped s.board n := h.1
theorem Consistent.sum_pos {n : Nat} {s : State} (h : Consistent n s) : 0 < boardSum s.board := h.2.1
theorem Consistent.mask {n : Nat} {s : State} (h : Consistent n s) : s.actionMask = legalMask s.board := h.2.2.1
theorem Consistent.score_nonneg {n : Nat} {s : State} (h : Consistent n s) : 0 ≤ s.score := h.2.2.2.1
theorem Consistent.fresh {n : Nat} {s : State} (h : Consistent n s) (h0 : s.stepCount = 0) :
    (boardSum s.board = 2 ∨ boardSum s.board = 4) ∧ s.score = 0 := h.2.2.2.2 h0

theorem consistent_square {n : Nat} {s : State} (h : Consistent n s) : Square s.board := square_of_shaped h.shaped

theorem step_boardW {v : Nat → Nat} {κ : Nat} (h : MergeLaw v κ) (s : State) (a : Nat) (d : Draw)
    (ha : a < 4) (hs : Square s.board) (hm : s.actionMask = legalMask s.board)
    (hd : legal s.board a → validDraw (slideBoard s.board (Dir.ofAction a)) d) :
    boardW v (step s a d).1.board =
      boardW v s.board + κ * boardReward s.board (Dir.ofAction a) + (if legal s.board a then v d.val else 0) := by
  rw [step_board s a d ha hs hm]
  split
  · next hl =>
    rw [boardW_addRandomCell v h.1 _ d (slideBoard_square _ _) (hd hl).1 (hd hl).2.1, boardW_slide h _ _ hs]
  · next hl => rw [boardReward_of_fixed _ _ hs ((not_legal_iff _ a ha).1 hl), Nat.mul_zero]; rfl

theorem step_boardSum (s : State) (a : Nat) (d : Draw) (ha : a < 4) (hs : Square s.board)
    (hm : s.actionMask = legalMask s.board)
    (hd : legal s.board a → validDraw (slideBoard s.board (Dir.ofAction a)) d) :
    boardSum (step s a d).1.board = boardSum s.board + (if legal s.board a then 2 ^ d.val else 0) := by
  rw [boardSum_eq_boardW, boardSum_eq_boardW, step_boardW tile_law s a d ha hs hm hd, Nat.zero_mul, Nat.add_zero]
  split
  · next hl => rw [vTile, if_neg (validDraw_val_ne_zero (hd hl))]
  · rfl

/-- the relation `conservedStep` on every square board with a fresh mask: a legal move adds the spawned tile to the
tile sum, an illegal one leaves the board alone -/
theorem step_conserved (s : State) (a : Nat) (d : Draw) (ha : a < 4) (hs : Square s.board)
    (hm : s.actionMask = legalMask s.board)
    (hd : legal s.board a → validDraw (slideBoard s.board (Dir.ofAction a)) d) :
    conservedStep s.board a (step s a d).1.board = true := by
  unfold conservedStep
  rw [step_board s a d ha hs hm]
  by_cases hl : legal s.board a
  · simp only [hl, decide_true, if_true]
    rcases boardSum_addRandomCell' _ d (slideBoard_square _ _) (hd hl) with h | h <;>
      rw [h, boardSum_slideBoard _ _ hs] <;> simp
  · simp [hl]

theorem score_nonneg_step (s : State) (a : Int) (d : Draw) (h : 0 ≤ s.score) : 0 ≤ (step s a d).1.score := by
  show 0 ≤ s.score + ((move s.board a).2 : Rat)
  exact Rat.add_nonneg h Rat.natCast_nonneg

/-- C07: every step with an action 0..3 from a consistent state leads to a consistent state (terminal steps
included); the draw only has to be valid when the rules allow the move (otherwise nothing is spawned) -/
theorem step_consistent (n : Nat) (s : State) (a : Nat) (d : Draw) (ha : a < 4) (hc : Consistent n s)
    (hd : legal s.board a → validDraw (slideBoard s.board (Dir.ofAction a)) d) :
    Consistent n (step s a d).1 := by
  have hsh := step_shaped n s a d hc.shaped
  refine ⟨hsh, ?_, actionMask_eq_legalMask _ (square_of_shaped hsh), score_nonneg_step s a d hc.score_nonneg,
    fun h0 => absurd h0 (Nat.succ_ne_zero _)⟩
  rw [step_boardSum s a d ha (consistent_square hc) hc.mask hd]
  have := hc.sum_pos
  omega

end Game2048
