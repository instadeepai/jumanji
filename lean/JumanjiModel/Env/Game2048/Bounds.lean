/-
Game2048 — C01: proved value bounds of the observation leaves.

Real spec: `board` = `Array(int32)` (no bounds declared), `action_mask` = `BoundedArray(bool, False, True)`.
Model: tiles are exponents (`Nat`), so `board ≥ 0`; the mask is boolean.
-/
import JumanjiModel.Env.Game2048.Model
import JumanjiModel.Env.PuzzleBounds
namespace Game2048
open Jm PzB

/-- interval of every observation leaf (the same for every board size `n`; the parameter keeps the signature of the other
environments) -/
def obsBounds (_n : Nat) : Table :=
  [("board", ivLo 0), ("action_mask", iv 0 1)]

/-- the numeric leaves of an observation, flattened -/
def obsLeaves (o : Obs) : Leaves :=
  [("board", nats2 o.board), ("action_mask", bools o.actionMask)]

theorem obs_in_bounds (n : Nat) (o : Obs) : ObsInBounds (obsBounds n) (obsLeaves o) :=
  obsInBounds_of_aligned rfl (by simp [obsLeaves]) <|
    Jx.all_cons (allIn_nats_lo _) <| Jx.all_cons (allIn_bools _) Jx.all_nil

end Game2048
