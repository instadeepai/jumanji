/-
Game2048, C10: the transliterated `reset` (`_generate_board` = zeros + `_add_random_cell`, the draw being the
(cell, exponent) pair) yields, for EVERY board size and EVERY valid draw, a board with exactly one tile — at the
drawn cell, holding the drawn exponent 1 or 2 — score 0, step count 0 and a mask equal to the L2 legality; conversely
every state passing the certificate `InstanceOK` is the `reset` of the draw read off its board.
Also the cell-wise effect of a spawn.
-/
import JumanjiModel.Env.Game2048.BoardLemmas
namespace Game2048
open Jm

def vOne (e : Nat) : Nat := if e = 0 then 0 else 1

theorem tileCount_eq_boardW (b : Board) : tileCount b = boardW vOne b := rfl

theorem addRandomCell_get (b : Board) (d : Draw) (hs : Square b) (hd : d.idx < b.length * b.length) (i j : Nat) :
    get (addRandomCell b d) i j =
      if i = d.idx / b.length ∧ j = d.idx % b.length then d.val else get b i j := by
  obtain ⟨hi, hj⟩ := divmod_lt hd
  rw [addRandomCell_eq b d]
  exact Jx.Grid.get_set b 0 _ _ d.val i j hi (by rw [Jx.Grid.rowLen, square_row_length b hs _ hi]; exact hj)

/-- C10: the reset state for every size and every valid first draw -/
theorem reset_instanceOK (n : Nat) (d : Draw) (hd : validDraw (tab n (fun _ _ => 0)) d) :
    InstanceOK n (reset n d).1 := by
  have hc := reset_consistent n d hd
  refine ⟨hc.shaped, ?_, (hc.fresh rfl).1, rfl, rfl, hc.mask⟩
  have h : tileCount (reset n d).1.board = vOne d.val := boardW_reset vOne rfl n d ((validDraw_empty n d).1 hd).1
  rwa [vOne, if_neg (validDraw_val_ne_zero hd)] at h

theorem reset_cells (n : Nat) (d : Draw) (hd : validDraw (tab n (fun _ _ => 0)) d) (i j : Nat) (hi : i < n)
    (hj : j < n) :
    get (reset n d).1.board i j = if i = d.idx / n ∧ j = d.idx % n then d.val else 0 := by
  show get (addRandomCell _ d) i j = _
  rw [addRandomCell_get _ d (tab_square n _) hd.1 i j, tab_length, get_tab n _ i j hi hj]

theorem one_tile_cell (b : Board) (hs : Square b) (h1 : tileCount b = 1) :
    ∃ i0 j0, i0 < b.length ∧ j0 < b.length ∧ get b i0 j0 ≠ 0 ∧
      ∀ i j, i < b.length → j < b.length → ¬ (i = i0 ∧ j = j0) → get b i j = 0 := by
  rw [tileCount_eq_boardW, boardW_square vOne b hs] at h1
  obtain ⟨i0, hi0, hrow, hrest⟩ := gsum_eq_one _ _ h1
  obtain ⟨j0, hj0, hcell, hrest'⟩ := gsum_eq_one _ _ hrow
  have hv : ∀ e, vOne e = 0 → e = 0 := by
    intro e he; unfold vOne at he; split at he <;> simp_all
  refine ⟨i0, j0, hi0, hj0, ?_, ?_⟩
  · intro e; rw [e] at hcell; simp [vOne] at hcell
  · intro i j hi hj hne
    apply hv
    by_cases e : i = i0
    · subst e
      exact hrest' j hj (fun e' => hne ⟨rfl, e'⟩)
    · exact gsum_eq_zero _ _ (hrest i hi e) j hj

theorem one_tile_board (b : Board) (hs : Square b) (h1 : tileCount b = 1) :
    (drawOf b).idx < b.length * b.length ∧ (drawOf b).val ≠ 0 ∧
      addRandomCell (tab b.length (fun _ _ => 0)) (drawOf b) = b := by
  obtain ⟨i0, j0, hi0, hj0, hne, hrest⟩ := one_tile_cell b hs h1
  -- the search finds the tile
  obtain ⟨k, hf⟩ := Option.isSome_iff_exists.1 (List.find?_isSome.2
    ⟨b.length * i0 + j0, List.mem_range.2 (flat_lt hi0 hj0), by simpa [flat_divmod i0 hj0] using hne⟩ :
    ((List.range (b.length * b.length)).find? (fun k => get b (k / b.length) (k % b.length) != 0)).isSome)
  have hk : k < b.length * b.length := List.mem_range.1 (List.mem_of_find?_eq_some hf)
  obtain ⟨hi, hj⟩ := divmod_lt hk
  obtain ⟨hki, hkj⟩ : k / b.length = i0 ∧ k % b.length = j0 := Decidable.by_contra fun hc => by
    have hp := List.find?_some hf
    rw [hrest _ _ hi hj hc] at hp
    exact absurd hp (by decide)
  have hd : drawOf b = ⟨k, get b i0 j0⟩ := by
    unfold drawOf
    simp only [hf, hki, hkj]
  rw [hd]
  refine ⟨hk, hne, ?_⟩
  have htl : (tab b.length (fun _ _ => 0)).length = b.length := tab_length _ _
  apply square_ext _ _ hs (addRandomCell_square _ _ (tab_square _ _))
  · rw [addRandomCell_length, htl]
  · intro i j hi hj
    rw [addRandomCell_get _ _ (tab_square _ _) (by rw [htl]; exact hk), htl, get_tab _ _ i j hi hj]
    simp only [hki, hkj]
    by_cases hc : i = i0 ∧ j = j0
    · rw [if_pos hc, hc.1, hc.2]
    · rw [if_neg hc, hrest i j hi hj hc]

/-- C10: every state passing the certificate is the transliterated `reset` of a valid draw, namely of the draw read off
its board -/
theorem instance_is_reset (n : Nat) (s : State) (h : InstanceOK n s) :
    validDraw (tab n (fun _ _ => 0)) (drawOf s.board) ∧ (reset n (drawOf s.board)).1 = s := by
  obtain ⟨hsh, h1, hsum, hsc, hst, hm⟩ := h
  have hs := square_of_shaped hsh
  obtain rfl : s.board.length = n := hsh.1
  obtain ⟨hk, hne, hboard⟩ := one_tile_board s.board hs h1
  -- the tile sum of the board is the value of that tile, so its exponent is 1 or 2
  have e : boardSum s.board = vTile (drawOf s.board).val :=
    (congrArg boardSum hboard).symm.trans (boardW_reset vTile rfl _ _ hk)
  rw [e, vTile, if_neg hne] at hsum
  refine ⟨(validDraw_empty _ _).2 ⟨hk, hsum.imp (Nat.pow_right_inj (Nat.lt_succ_self 1)).1
    (Nat.pow_right_inj (Nat.lt_succ_self 1)).1⟩, ?_⟩
  have hmask : actionMask s.board = s.actionMask := by
    rw [hm]; exact actionMask_eq_legalMask _ hs
  cases s with
  | mk board sc am score =>
    simp only at hboard hmask hsc hst
    simp only [reset, hboard, hmask, hsc, hst]

end Game2048
