/-
Game2048, whole episodes (C08): along ANY sequence of actions and spawn draws
  final score − initial score = Σ step rewards = Σ values of the tiles created by merges,
  Φ(final board) = Φ(initial board) + Σ step rewards + Σ Φ(spawned tiles)       (Φ = Σ (e−1)·2^e),
  Σ tiles(final board) = Σ tiles(initial board) + Σ values of spawned tiles,
and `Consistent` holds all along.
-/
import JumanjiModel.Env.Game2048.BoardLemmas
import JumanjiModel.Core.Play
namespace Game2048
open Jm

/-- state after playing the (action, spawn draw) pairs `ads` from `s` -/
def runState (s : State) : List (Nat × Draw) → State
  | [] => s
  | p :: ads => runState (step s (p.1 : Int) p.2).1 ads

/-- sum of the rewards of playing `ads` from `s` -/
def runReturn (s : State) : List (Nat × Draw) → Rat
  | [] => 0
  | p :: ads => (step s (p.1 : Int) p.2).2.reward.sum + runReturn (step s (p.1 : Int) p.2).1 ads

/-- L2: sum over all merges of the play of the value of the tile created -/
def mergedValues (s : State) : List (Nat × Draw) → Nat
  | [] => 0
  | p :: ads => boardReward s.board (Dir.ofAction p.1) + mergedValues (step s (p.1 : Int) p.2).1 ads

/-- potential `(e−1)·2^e` of a spawned tile: 0 for a 2-tile, 4 for a 4-tile -/
def drawPot (d : Draw) : Nat := (d.val - 1) * 2 ^ d.val

/-- L2: potentials of the tiles spawned along the play (a tile is spawned exactly after the legal moves) -/
def spawnPot (s : State) : List (Nat × Draw) → Nat
  | [] => 0
  | p :: ads => (if legal s.board p.1 then drawPot p.2 else 0) + spawnPot (step s (p.1 : Int) p.2).1 ads

/-- L2: values of the tiles spawned along the play -/
def spawnSum (s : State) : List (Nat × Draw) → Nat
  | [] => 0
  | p :: ads => (if legal s.board p.1 then 2 ^ p.2.val else 0) + spawnSum (step s (p.1 : Int) p.2).1 ads

/-- an admissible play: actions 0..3, and the draw is in the support of `_add_random_cell` (an empty cell of the
slid board, exponent 1 or 2) whenever the move is legal, i.e. whenever a tile is spawned -/
def ValidPlay (s : State) : List (Nat × Draw) → Prop
  | [] => True
  | p :: ads => p.1 < 4 ∧ (legal s.board p.1 → validDraw (slideBoard s.board (Dir.ofAction p.1)) p.2) ∧
      ValidPlay (step s (p.1 : Int) p.2).1 ads

instance validPlayDec : (s : State) → (ads : List (Nat × Draw)) → Decidable (ValidPlay s ads)
  | _, [] => isTrue trivial
  | s, p :: ads =>
    have := validPlayDec (step s (p.1 : Int) p.2).1 ads
    by unfold ValidPlay; infer_instance

theorem step_reward_sum (s : State) (a : Int) (d : Draw) :
    (step s a d).2.reward.sum = ((move s.board a).2 : Rat) := by
  show (condLast _ _ _).reward.sum = _
  rw [condLast_reward]; simp [Rat.add_zero]

theorem step_score (s : State) (a : Int) (d : Draw) :
    (step s a d).1.score = s.score + (step s a d).2.reward.sum := by
  rw [step_reward_sum]; rfl

/-! `runState`, `runReturn` and `ValidPlay` are the final state, the sum of the rewards over the trace and the admissibility of
a play (`Core/Play.lean`) of `stepP` -/

/-- the L1 `step` on an (action, spawn draw) pair -/
abbrev stepP (s : State) (p : Nat × Draw) : State × TimeStep Obs := step s (p.1 : Int) p.2

/-- what `ValidPlay` asks of one step -/
abbrev okP (s : State) (p : Nat × Draw) : Prop :=
  p.1 < 4 ∧ (legal s.board p.1 → validDraw (slideBoard s.board (Dir.ofAction p.1)) p.2)

theorem runState_eq (s : State) (ads : List (Nat × Draw)) : runState s ads = EpRun.after stepP s ads :=
  EpRun.after_unique stepP runState (fun _ => rfl) (fun _ _ _ => rfl) s ads

theorem runReturn_eq (s : State) (ads : List (Nat × Draw)) :
    runReturn s ads = ((EpRun.run stepP s ads).map (·.2.reward.sum)).sum :=
  EpRun.sum_unique stepP (·.2.reward.sum) runReturn (fun _ => rfl) (fun _ _ _ => rfl) s ads

theorem validPlay_iff (s : State) (ads : List (Nat × Draw)) : ValidPlay s ads ↔ EpRun.Along stepP okP s ads :=
  EpRun.along_unique stepP okP ValidPlay (fun _ => trivial) (fun _ _ _ => and_assoc.symm) s ads

theorem run_score (s : State) (ads : List (Nat × Draw)) :
    (runState s ads).score = s.score + runReturn s ads := by
  rw [runState_eq, runReturn_eq]
  exact EpRun.after_sum_add stepP (·.2.reward.sum) (·.score) (fun s p => step_score s p.1 p.2) s ads

theorem run_shaped (n : Nat) (s : State) (ads : List (Nat × Draw)) (hs : Shaped s.board n) :
    Shaped (runState s ads).board n :=
  runState_eq s ads ▸ EpRun.after_inv stepP (fun s => Shaped s.board n) (fun s _ h => step_shaped n s _ _ h) s ads hs

theorem validPlay_inRange (s : State) (ads : List (Nat × Draw)) (hv : ValidPlay s ads) : ∀ p ∈ ads, p.1 < 4 :=
  (EpRun.along_iff_forall stepP (fun p => p.1 < 4) s ads).1
    (((validPlay_iff s ads).1 hv).imp (P := fun _ => True) trivial (fun _ _ _ _ => trivial) fun _ _ _ h => h.1)

theorem run_return_merged (s : State) (ads : List (Nat × Draw)) (hs : Square s.board)
    (ha : ∀ p ∈ ads, p.1 < 4) : runReturn s ads = ((mergedValues s ads : Nat) : Rat) := by
  induction ads generalizing s with
  | nil => simp [runReturn, mergedValues]
  | cons p ads ih =>
    simp only [runReturn, mergedValues]
    rw [ih _ (step_square s _ _ hs) (fun q hq => ha q (List.mem_cons_of_mem _ hq)), step_reward_sum,
      move_eq_spec s.board p.1 (ha p (List.mem_cons_self ..)) hs, Rat.natCast_add]

theorem run_consistent (n : Nat) (s : State) (ads : List (Nat × Draw)) (hc : Consistent n s)
    (hv : ValidPlay s ads) : Consistent n (runState s ads) :=
  runState_eq s ads ▸ ((validPlay_iff s ads).1 hv).inv (Consistent n) hc
    fun s p hc h => step_consistent n s p.1 p.2 h.1 hc h.2

theorem step_boardPot (s : State) (a : Nat) (d : Draw) (ha : a < 4) (hs : Square s.board)
    (hm : s.actionMask = legalMask s.board)
    (hd : legal s.board a → validDraw (slideBoard s.board (Dir.ofAction a)) d) :
    boardPot (step s a d).1.board =
      boardPot s.board + boardReward s.board (Dir.ofAction a) + (if legal s.board a then drawPot d else 0) := by
  rw [boardPot_eq_boardW, boardPot_eq_boardW, step_boardW pot_law s a d ha hs hm hd, Nat.one_mul]
  rfl

theorem run_board (s : State) (ads : List (Nat × Draw)) (hs : Square s.board) (hm : s.actionMask = legalMask s.board)
    (hv : ValidPlay s ads) :
    boardPot (runState s ads).board = boardPot s.board + mergedValues s ads + spawnPot s ads ∧
    boardSum (runState s ads).board = boardSum s.board + spawnSum s ads := by
  induction ads generalizing s with
  | nil => simp [runState, mergedValues, spawnPot, spawnSum]
  | cons p ads ih =>
    have hs' := step_square s p.1 p.2 hs
    obtain ⟨h1, h2⟩ := ih _ hs' (actionMask_eq_legalMask _ hs') hv.2.2
    simp only [runState, mergedValues, spawnPot, spawnSum]
    rw [h1, h2, step_boardPot s p.1 p.2 hv.1 hs hm hv.2.1, step_boardSum s p.1 p.2 hv.1 hs hm hv.2.1]
    constructor <;> omega

/-- C08, whole play from any square board with a fresh mask: score gain = return = merged values = ΔΦ − Σ Φ(spawned) -/
theorem run_return (s : State) (ads : List (Nat × Draw)) (hs : Square s.board) (hm : s.actionMask = legalMask s.board)
    (hv : ValidPlay s ads) :
    (runState s ads).score = s.score + runReturn s ads ∧
    runReturn s ads = ((mergedValues s ads : Nat) : Rat) ∧
    ((boardPot (runState s ads).board : Nat) : Rat) - ((boardPot s.board : Nat) : Rat) -
      ((spawnPot s ads : Nat) : Rat) = runReturn s ads := by
  have h2 := run_return_merged s ads hs (validPlay_inRange s ads hv)
  refine ⟨run_score s ads, h2, ?_⟩
  rw [h2, (run_board s ads hs hm hv).1, Rat.natCast_add, Rat.natCast_add]
  generalize ((boardPot s.board : Nat) : Rat) = x
  generalize ((mergedValues s ads : Nat) : Rat) = y
  generalize ((spawnPot s ads : Nat) : Rat) = z
  -- linear in x, y, z
  grind

theorem reset_boardPot (n : Nat) (d : Draw) (hd : validDraw (tab n (fun _ _ => 0)) d) :
    boardPot (reset n d).1.board = drawPot d :=
  boardW_reset vPot rfl n d ((validDraw_empty n d).1 hd).1

/-- C08, whole episode from `reset`: the final score is the return, which is the sum over all merges of the
tile created, and equals the potential of the final board minus the potentials of all spawned tiles (the
first one included) -/
theorem episode_return (n : Nat) (d0 : Draw) (ads : List (Nat × Draw))
    (hd0 : validDraw (tab n (fun _ _ => 0)) d0) (hv : ValidPlay (reset n d0).1 ads) :
    (runState (reset n d0).1 ads).score = runReturn (reset n d0).1 ads ∧
    runReturn (reset n d0).1 ads = ((mergedValues (reset n d0).1 ads : Nat) : Rat) ∧
    runReturn (reset n d0).1 ads = ((boardPot (runState (reset n d0).1 ads).board : Nat) : Rat) -
      ((drawPot d0 + spawnPot (reset n d0).1 ads : Nat) : Rat) ∧
    boardSum (runState (reset n d0).1 ads).board = 2 ^ d0.val + spawnSum (reset n d0).1 ads := by
  have hc := reset_consistent n d0 hd0
  obtain ⟨h1, h2, h3⟩ := run_return _ ads (consistent_square hc) hc.mask hv
  refine ⟨?_, h2, ?_, ?_⟩
  · rw [h1]
    show (0 : Rat) + _ = _
    exact Rat.zero_add _
  · rw [← h3, reset_boardPot n d0 hd0, Rat.natCast_add]
    generalize ((boardPot (runState (reset n d0).1 ads).board : Nat) : Rat) = x
    generalize ((drawPot d0 : Nat) : Rat) = y
    generalize ((spawnPot (reset n d0).1 ads : Nat) : Rat) = z
    -- linear in x, y, z
    grind
  · rw [(run_board _ ads (consistent_square hc) hc.mask hv).2, reset_boardSum n d0 hd0]

end Game2048
