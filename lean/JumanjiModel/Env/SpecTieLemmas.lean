/-
`SpecTieSSM.tie` without evaluating path strings: once the generated table is known to declare the observation leaves of a
model spec (`PzS.Declares.observation`), the leaves `tie` runs over are that spec's own.
-/
import JumanjiModel.Env.SpecMembership
import JumanjiModel.Env.SpecDeclared
import JumanjiModel.Env.SpecTieSSM
namespace SpecTieSSM
open Sp PzS

theorem drop_prefixed (pre n : String) : ((pre ++ n).drop pre.length).toString = n := by
  apply String.toList_injective
  simp [String.toList_copy_drop, ← String.length_toList]

theorem obsLeavesOf_eq_map_declared (cid : String) :
    obsLeavesOf cid = (declared cid "observation_spec.").map
      fun r => ((r.1.drop "observation_spec.".length).toString, r.2) := by
  simp only [obsLeavesOf, declared, List.map_map, Function.comp_def]
  congr 2
  funext e
  congr 1
  rw [Bool.eq_iff_iff]
  simp [String.startsWith_string_iff]

/-- `startsWith` and `drop` on the paths are what makes evaluating `tie` itself slow; with this no string is evaluated -/
theorem obsLeavesOf_eq {cid : String} {obs : Nested}
    (h : prefixed "observation_spec." obs = declared cid "observation_spec.") : obsLeavesOf cid = obs := by
  rw [obsLeavesOf_eq_map_declared, ← h, prefixed, List.map_map]
  simp only [Function.comp_def, drop_prefixed, List.map_id']

theorem ivWithin_bounded {a b lo hi : Rat} (s : List Nat) (dt : DType) (nm : String) (hlo : lo ≤ a) (hhi : b ≤ hi) :
    ivWithin (some a, some b) (.bounded s dt nm [] [lo] [] [hi]) = true := by
  simp [ivWithin, Leaf.lower, Leaf.upper, broadcast_scalar, hlo, hhi]

theorem ivWithin_array (iv : Option Rat × Option Rat) (s : List Nat) (dt : DType) (nm : String) :
    ivWithin iv (.array s dt nm) = true := rfl

end SpecTieSSM
