/-
C11 at the level of whole episodes, as ONE generic theorem over an abstract step function, instantiated with the L1 `step`
of RubiksCube and SlidingTilePuzzle: the other cause of LAST (`other`: solved) is read in the SUCCESSOR state.

`run step s as` iterates `step` over the action list `as` from `s` and lists every (successor state, timestep); like the
implementation (no auto-reset) it simply continues after LAST.
-/
import JumanjiModel.Core.EpisodeLemmas
namespace EpL
open Jm

variable {S A O : Type}

def run (step : S → A → S × TimeStep O) : S → List A → List (S × TimeStep O)
  | _, [] => []
  | s, a :: as => step s a :: run step (step s a).1 as

theorem run_eq_run (step : S → A → S × TimeStep O) (s : S) (as : List A) : run step s as = EpRun.run step s as :=
  EpRun.run_unique step (run step) (fun _ => rfl) (fun _ _ _ => rfl) s as

theorem run_eq_rollout (step : S → A → S × TimeStep O) (s : S) (as : List A) : run step s as = Ep.rollout step s as :=
  (run_eq_run step s as).trans (Ep.rollout_eq_run step s as).symm

theorem run_length (step : S → A → S × TimeStep O) (s : S) (as : List A) : (run step s as).length = as.length :=
  run_eq_rollout step s as ▸ Ep.rollout_length step s as

/-- what the theorem concludes about the first `k` steps of an episode -/
def EndsAt (run : List (S × TimeStep O)) (count : S → Int) (other : S → Bool) (T : Int) (k : Nat) : Prop :=
  (∃ r, run[k - 1]? = some r ∧ r.2.stepType = .last) ∧
  (∀ j, j < k - 1 → ∃ r, run[j]? = some r ∧ r.2.stepType = .mid ∧ other r.1 = false) ∧
  (∀ j, j < k → ∃ r, run[j]? = some r ∧ 0 ≤ count r.1 ∧ count r.1 ≤ T)

/-- the episode-level statement of C11 (and the step-counter part of C01) -/
theorem ends_by_limit (step : S → A → S × TimeStep O) (count : S → Int) (other : S → Bool) (T : Nat) (hT : 0 < T)
    (hc : ∀ s a, count (step s a).1 = count s + 1)
    (hl : ∀ s a, (step s a).2.stepType = .last ↔ ((T : Int) ≤ count (step s a).1 ∨ other (step s a).1 = true))
    (hm : ∀ s a, (step s a).2.stepType = .last ∨ (step s a).2.stepType = .mid)
    (s0 : S) (h0 : count s0 = 0) (as : List A) (hlen : T ≤ as.length) :
    ∃ k, 0 < k ∧ k ≤ T ∧ EndsAt (run step s0 as) count other T k ∧
      ((∀ j r, j < T - 1 → (run step s0 as)[j]? = some r → other r.1 = false) → k = T) := by
  have hL : Ep.Limited (Ep.ofStep step count) (fun _ => True) .ge T :=
    Ep.Limited.of_step (fun _ _ h => h) (fun s a _ => hc s a)
      (fun s a _ h => (hl s a).2 (Or.inl (by rw [hc]; exact h)))
  obtain ⟨k, _, hk0, hkT, hlast, hbefore⟩ := Ep.ends_by_limit hL (by omega) s0 trivial h0 as (by omega)
  have hklen := (Ep.lastAt_le_length _ s0 as k hlast).2
  obtain ⟨k', rfl⟩ : ∃ k', k = k' + 1 := ⟨k - 1, by omega⟩
  -- transition `j ≤ k'` is a step whose successor state has counter `j + 1`, and it is LAST exactly for `j = k'`
  have ent : ∀ j, j ≤ k' → ∃ s a, (run step s0 as)[j]? = some (step s a) ∧ count (step s a).1 = j + 1 ∧
      ((step s a).2.stepType = .last ↔ j = k') := by
    intro j hj
    obtain ⟨e, he⟩ : ∃ e, (Ep.rollout step s0 as)[j]? = some e :=
      ⟨_, List.getElem?_eq_getElem (by rw [Ep.rollout_length]; omega)⟩
    obtain ⟨s, a, _, rfl, hcn⟩ := Ep.rollout_entry hL s0 trivial as j e he
    refine ⟨s, a, by rw [run_eq_rollout]; exact he, by omega, fun hlst => ?_, ?_⟩
    · apply Classical.byContradiction
      intro hne
      have := hbefore (j + 1) (by omega) (by omega)
      rw [(Ep.lastAt_ofStep_iff step count s0 as j).2 ⟨_, he, hlst⟩] at this
      cases this
    · rintro rfl
      obtain ⟨e, he', hlst⟩ := (Ep.lastAt_ofStep_iff step count s0 as j).1 hlast
      rw [he] at he'
      cases he'
      exact hlst
  refine ⟨k' + 1, by omega, by omega, ⟨?_, fun j hj => ?_, fun j hj => ?_⟩, fun hno => ?_⟩
  · obtain ⟨s, a, hr, _, hlst⟩ := ent k' (by omega)
    exact ⟨_, hr, hlst.2 rfl⟩
  · obtain ⟨s, a, hr, _, hlst⟩ := ent j (by omega)
    have hnl : ¬ (step s a).2.stepType = .last := fun h => by have := hlst.1 h; omega
    refine ⟨_, hr, (hm s a).resolve_left hnl, ?_⟩
    cases ho : other (step s a).1 with
    | false => rfl
    | true => exact absurd ((hl s a).2 (Or.inr ho)) hnl
  · obtain ⟨s, a, hr, hcn, _⟩ := ent j (by omega)
    exact ⟨_, hr, by omega, by omega⟩
  · obtain ⟨s, a, hr, hcn, hlst⟩ := ent k' (by omega)
    rcases (hl s a).1 (hlst.2 rfl) with h | h
    · omega
    · apply Classical.byContradiction
      intro hne
      rw [hno k' _ (by omega) hr] at h
      cases h

end EpL
