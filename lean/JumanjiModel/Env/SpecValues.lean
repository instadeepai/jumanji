/-
C01: how the environments write a model observation, action, reward and discount as the arrays the implementation emits
(`Sp.Arr`: shape, dtype, flat data over ℚ) — the casts of integer, natural and Boolean data, the shape of a nested list READ
OFF the value, rectangular nested lists — and the reward / discount / joint-action leaves several environments share.
Definitions only; what `validate` says about such arrays is Env/SpecMembership.lean.
The namespaces only group: `PzS` the casts and the scalar leaves, `PkS` shapes and rectangularity, `MaS` the per-agent
leaves; `PzS3.gridShape` is `PkS.shape2` under a second name, and the statements of the environments use both.
-/
import JumanjiModel.Spec.Spec

namespace PzS
open Sp

def ofInts (l : List Int) : List Rat := l.map (fun (v : Int) => (v : Rat))
def ofBools (l : List Bool) : List Rat := l.map (fun b => if b then (1 : Rat) else 0)

/-- `reward_spec`: `Array(shape=(), dtype=float)` -/
def rewardSpec : Leaf := .array [] .float32 "reward"
/-- `discount_spec`: `BoundedArray(shape=(), dtype=float, minimum=0, maximum=1)` -/
def discountSpec : Leaf := .bounded [] .float32 "discount" [] [0] [] [1]

/-- a scalar reward / discount of the model as an array value -/
def scalarArr (r : List Rat) : Arr := ⟨[], .float32, r⟩

end PzS

namespace PkS

def shape1 {α : Type} (l : List α) : List Nat := [l.length]
def shape2 {α : Type} (g : List (List α)) : List Nat := [g.length, (g.headD []).length]
def shape3 {α : Type} (g : List (List (List α))) : List Nat := g.length :: shape2 (g.headD [])
def shape4 {α : Type} (g : List (List (List (List α)))) : List Nat := g.length :: shape3 (g.headD [])

def Rect2 {α : Type} (g : List (List α)) (r c : Nat) : Prop := g.length = r ∧ ∀ row ∈ g, row.length = c
def Rect3 {α : Type} (g : List (List (List α))) (a r c : Nat) : Prop := g.length = a ∧ ∀ x ∈ g, Rect2 x r c
def Rect4 {α : Type} (g : List (List (List (List α)))) (a b r c : Nat) : Prop := g.length = a ∧ ∀ x ∈ g, Rect3 x b r c

def ofNats (l : List Nat) : List Rat := l.map (fun (v : Nat) => (v : Rat))

end PkS

namespace PzS3

/-- the shape of a nested-list 2-D value, read off the value -/
def gridShape {α : Type} (g : List (List α)) : List Nat := [g.length, (g.headD []).length]

end PzS3

namespace MaS
open Sp PzS

def rewardSpecN (k : Nat) : Leaf := .array [k] .float32 "reward"
def discountSpecN (k : Nat) : Leaf := .bounded [k] .float32 "discount" [] [0] [] [1]
/-- a per-agent reward / discount of the model as an array value; the shape is read off the value -/
def vecArr (r : List Rat) : Arr := ⟨[r.length], .float32, r⟩

def actionSpecN (k m : Nat) : Leaf := .multiDiscrete [k] (List.replicate k m) .int32 "action"
/-- a joint action as the array handed to `step`; the shape is read off the value -/
def actionArr (as : List Int) : Arr := ⟨[as.length], .int32, ofInts as⟩

end MaS
