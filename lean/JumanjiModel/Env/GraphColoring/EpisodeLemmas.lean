/-
Whole-episode statements for GraphColoring.  C06: along a sequence of colours each legal (or masked-in) at its turn the
invariant and properness are carried (`invariants_play`, `feasible_along`).  C08: the return of a legal episode played to
completion is minus the number of distinct colours of the final colouring (that this colouring is complete and proper is put
together in `Props.C08.graph_coloring_episode_solution_from`).
-/
import JumanjiModel.Env.GraphColoring.Lemmas
namespace GraphColoring
open Jm

/-- the state after playing the colours `as` from `s` (steps on past a LAST timestep; the C11 horizon is stated on
`Ep.rollout` instead, SpecLemmas.lean) -/
def runState (n : Nat) (s : State) : List Nat → State
  | [] => s
  | a :: as => runState n (step n s (a : Int)).1 as

/-- the sum of the rewards along that play -/
def runReturn (n : Nat) (s : State) : List Nat → Rat
  | [] => 0
  | a :: as => (step n s (a : Int)).2.reward.sum + runReturn n (step n s (a : Int)).1 as

/-- a legal episode run to completion: every colour is legal when it is played, the last step is LAST and no earlier
one is -/
def legalEpisode (n : Nat) (s : State) : List Nat → Prop
  | [] => False
  | [a] => legal n s a ∧ (step n s (a : Int)).2.stepType = .last
  | a :: b :: as =>
      legal n s a ∧ (step n s (a : Int)).2.stepType ≠ .last ∧ legalEpisode n (step n s (a : Int)).1 (b :: as)

instance legalEpisodeDec (n : Nat) : (s : State) → (as : List Nat) → Decidable (legalEpisode n s as)
  | _, [] => isFalse (fun h => h)
  | s, [a] => by unfold legalEpisode; infer_instance
  | s, a :: b :: as => by
      unfold legalEpisode
      have := legalEpisodeDec n (step n s (a : Int)).1 (b :: as)
      infer_instance

theorem legal_mid_reward (n : Nat) (s : State) (a : Nat) (h : Inv n s) (hl : legal n s a)
    (hnl : (step n s (a : Int)).2.stepType ≠ .last) : (step n s (a : Int)).2.reward.sum = 0 := by
  have hr := reward_valid n s a h.1 (legal_mask n s a h hl)
  simp only [] at hr
  cases hall : (step n s (a : Int)).1.colors.all (fun c => decide (0 ≤ c)) with
  | true => exact absurd (hr.2.2 hall) hnl
  | false => rw [hr.1, hall]; simp [Rat.add_zero]

theorem legal_last_reward (n : Nat) (s : State) (a : Nat) (h : Inv n s) (hl : legal n s a)
    (hlast : (step n s (a : Int)).2.stepType = .last) :
    (step n s (a : Int)).2.reward.sum = objective (step n s (a : Int)).1 ∧
    ∀ c ∈ (step n s (a : Int)).1.colors, 0 ≤ c := by
  have hr := reward_valid n s a h.1 (legal_mask n s a h hl)
  simp only [] at hr
  have hall := hr.2.1 hlast
  refine ⟨by rw [hr.1, hall]; simp [Rat.add_zero], ?_⟩
  simpa using hall

/-- C08 from any state satisfying the invariant -/
theorem episode_return_from (n : Nat) (s : State) (as : List Nat) (h : Inv n s) (he : legalEpisode n s as) :
    runReturn n s as = objective (runState n s as) ∧ ∀ c ∈ (runState n s as).colors, 0 ≤ c := by
  fun_induction legalEpisode n s as with
  | case1 => exact he.elim
  | case2 s a =>
    simp only [runReturn, runState]
    have := legal_last_reward n s a h he.1 he.2
    exact ⟨by rw [this.1]; simp [Rat.add_zero], this.2⟩
  | case3 s a b as ih =>
    have h0 := legal_mid_reward n s a h he.1 he.2.1
    have := ih (step_Inv n s a h.1 (by omega)) he.2.2
    simp only [runReturn, runState] at this ⊢
    rw [h0, this.1]
    exact ⟨by simp [Rat.zero_add], this.2⟩

theorem legalEpisode_pos (n : Nat) (s : State) (as : List Nat) (he : legalEpisode n s as) : 0 < n := by
  cases as with
  | nil => exact absurd he (fun h => h)
  | cons a as =>
    have : a < n := by cases as <;> exact he.1.1
    omega

theorem legalEpisode_ne_nil (n : Nat) (s : State) (as : List Nat) (he : legalEpisode n s as) : as ≠ [] := by
  intro e; subst e; exact he

/-- every colour of the list is legal (L2) when its turn comes -/
def AllLegal (n : Nat) : State → List Nat → Prop
  | _, [] => True
  | s, a :: as => legal n s a ∧ AllLegal n (step n s (a : Int)).1 as

/-- mask-respecting: every colour has its bit set in the action mask of the observation current at its turn -/
def AllMasked (n : Nat) : State → List Nat → Prop
  | _, [] => True
  | s, a :: as => (obsOf s).mask.getD a false = true ∧ AllMasked n (step n s (a : Int)).1 as

theorem allLegal_take (n : Nat) (as : List Nat) : ∀ s k, AllLegal n s as → AllLegal n s (as.take k) := by
  induction as with
  | nil => intro s k h; simpa using h
  | cons a as ih =>
    intro s k h
    cases k with
    | zero => simp [AllLegal]
    | succ k => simp only [List.take_succ_cons, AllLegal] at h ⊢; exact ⟨h.1, ih _ k h.2⟩

theorem invariants_play (n : Nat) (as : List Nat) :
    ∀ s, Inv n s → GraphOK n s.adj → Feasible n s → AllLegal n s as →
      Inv n (runState n s as) ∧ (runState n s as).adj = s.adj ∧ Feasible n (runState n s as) := by
  induction as with
  | nil => intro s hi _ hf _; exact ⟨hi, rfl, hf⟩
  | cons a as ih =>
    intro s hi hg hf hal
    simp only [AllLegal] at hal
    simp only [runState]
    have hi' := step_Inv n s (a : Int) hi.1 (by omega)
    have hadj : (step n s (a : Int)).1.adj = s.adj := rfl
    have := ih _ hi' (by rw [hadj]; exact hg) (step_feasible n s a hi.1 hg hf hal.1) hal.2
    exact ⟨this.1, by rw [this.2.1, hadj], this.2.2⟩

theorem allMasked_allLegal (n : Nat) (as : List Nat) :
    ∀ s, Inv n s → AllMasked n s as → AllLegal n s as := by
  induction as with
  | nil => intro s _ _; simp [AllLegal]
  | cons a as ih =>
    intro s hi h
    simp only [AllMasked] at h
    have hm : (obsOf s).mask = validActions n s.cur s.adj s.colors := hi.2
    have hl : legal n s a := (mask_iff_legal n s a hi.1).1 (by rw [← hm]; exact h.1)
    exact ⟨hl, ih _ (step_Inv n s (a : Int) hi.1 (by omega)) h.2⟩

theorem feasible_along (n : Nat) (s : State) (as : List Nat) (hi : Inv n s) (hg : GraphOK n s.adj)
    (hf : Feasible n s) (hal : AllLegal n s as) (k : Nat) : Feasible n (runState n s (as.take k)) :=
  (invariants_play n _ s hi hg hf (allLegal_take n as s k hal)).2.2

theorem legalEpisode_allLegal (n : Nat) (s : State) (as : List Nat) (he : legalEpisode n s as) : AllLegal n s as := by
  fun_induction legalEpisode n s as with
  | case1 => trivial
  | case2 s a => exact ⟨he.1, trivial⟩
  | case3 s a b as ih => exact ⟨he.1, ih he.2.2⟩

end GraphColoring
