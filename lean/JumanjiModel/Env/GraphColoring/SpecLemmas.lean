/-
GraphColoring: the declared specs as `Sp` values (`obsSpec n`, `actionSpec n`; equal to the generated literals of the
catalogue configurations, Props/SpecTable.lean) and membership of what `reset` / `step` emit (C01), under the invariant
`SpecInv` established by `reset` and preserved by every in-spec step; the step protocol (`step_protocol`, C03); the reaction
of `step` itself to legal / illegal colours (C04, C06); the episode horizon (C11): `n − cur` steps are left whatever
non-negative actions are played, and under legal play the first LAST step is exactly that one.
-/
import JumanjiModel.Env.GraphColoring.Lemmas
import JumanjiModel.Env.GraphColoring.Bounds
import JumanjiModel.Env.GraphColoring.EpisodeLemmas
import JumanjiModel.Env.SpecMembership
import JumanjiModel.Env.HorizonEpisode
namespace GraphColoring
open Jm Sp PzS PzS3 PzB

/-- env.py `observation_spec` (in the order of the declaration): `adj_matrix` BoundedArray((n, n), bool), `action_mask`
BoundedArray((n,), bool), `colors` BoundedArray((n,), int32, −1, n − 1), `current_node_index` BoundedArray((), int32, 0, n − 1) -/
def obsSpec (n : Nat) : Sp.Nested :=
  [("adj_matrix", .bounded [n, n] .bool "adj_matrix" [] [0] [] [1]),
   ("action_mask", .bounded [n] .bool "action_mask" [] [0] [] [1]),
   ("colors", .bounded [n] .int32 "colors" [] [((-1 : Int) : Rat)] [] [((((n : Nat) : Int) - 1 : Int) : Rat)]),
   ("current_node_index", .bounded [] .int32 "current_node_index" [] [((0 : Int) : Rat)] []
      [((((n : Nat) : Int) - 1 : Int) : Rat)])]

/-- `action_spec`: DiscreteArray(num_nodes) -/
def actionSpec (n : Nat) : Leaf := .discrete n .int32 "action"

/-- a model observation as the arrays the implementation emits -/
def toNValue (o : Obs) : NValue :=
  [("adj_matrix", ⟨gridShape o.adj, .bool, ofBools (List.flatten o.adj)⟩),
   ("action_mask", ⟨[o.mask.length], .bool, ofBools o.mask⟩),
   ("colors", ⟨[o.colors.length], .int32, ofInts o.colors⟩),
   ("current_node_index", ⟨[], .int32, [(o.cur : Rat)]⟩)]

def actionArr (a : Int) : Arr := ⟨[], .int32, [(a : Rat)]⟩

/-- what `reset` establishes and every in-spec `step` preserves: shapes (`WF`), colours in [−1, n − 1] and current node in
[0, n − 1] (`InRange`), and a mask of `n` entries -/
def SpecInv (n : Nat) (s : State) : Prop := WF n s ∧ InRange n s ∧ s.mask.length = n

instance (n : Nat) (s : State) : Decidable (SpecInv n s) := by unfold SpecInv; infer_instance

theorem obs_valid_iff (n : Nat) (o : Obs) : (obsSpec n).valid (toNValue o) = true ↔
    gridShape o.adj = [n, n] ∧ o.adj.flatten.length = n * n ∧ o.mask.length = n ∧ o.colors.length = n ∧
    (∀ c ∈ o.colors, -1 ≤ c ∧ c ≤ ((n : Nat) : Int) - 1) ∧ 0 ≤ o.cur ∧ o.cur ≤ ((n : Nat) : Int) - 1 := by
  simp only [obsSpec, toNValue, valid_cons, valid_nil, valid_scalar_bounded_iff, forall_ofInts, forall_ofBools,
    PkS.ofInts_length, PkS.ofBools_length, prod_nil, prod_one, prod_two, List.forall_mem_singleton, List.length_singleton,
    List.cons.injEq, Rat.intCast_le_intCast, true_and, and_true, and_self, and_self_left, and_assoc]

theorem obs_valid (n : Nat) (s : State) (h : SpecInv n s) : (obsSpec n).valid (toNValue (obsOf s)) = true :=
  have ⟨⟨hcl, hadj, hrows, _, h0, _⟩, ⟨hcr, _, hcu⟩, hm⟩ := h
  -- `id`: the side condition `R = 0 → C = 0` of `gridShape_of_rows`, here `n = 0 → n = 0`
  have ⟨hsh, hlen⟩ := gridShape_of_rows s.adj n n hadj hrows id
  (obs_valid_iff n _).2 ⟨hsh, hlen, hm, hcl, hcr, h0, hcu⟩

/-- `validate` accepts nothing else -/
theorem obs_valid_only (n : Nat) (o : Obs) (h : (obsSpec n).valid (toNValue o) = true) :
    gridShape o.adj = [n, n] ∧ o.mask.length = n ∧ o.colors.length = n ∧
    (∀ c ∈ o.colors, -1 ≤ c ∧ c ≤ ((n : Nat) : Int) - 1) ∧ 0 ≤ o.cur ∧ o.cur ≤ ((n : Nat) : Int) - 1 :=
  have ⟨h1, _, h2⟩ := (obs_valid_iff n o).1 h
  ⟨h1, h2⟩

theorem reset_specInv (n : Nat) (adj : List (List Bool)) (hn : 0 < n) (hadj : adj.length = n)
    (hrows : ∀ row ∈ adj, row.length = n) : SpecInv n (reset n adj).1 :=
  ⟨(reset_Inv n adj hn hadj hrows).1, reset_inRange n adj hn, by simp [reset]⟩

theorem step_specInv (n : Nat) (s : State) (a : Int) (h : SpecInv n s) (ha : -1 ≤ a ∧ a < n) :
    SpecInv n (step n s a).1 :=
  ⟨step_WF n s a h.1 ha.1, step_inRange n s a h.2.1 ha, by rw [step_fst]; exact validActions_length _ _ _ _⟩

theorem runState_specInv (n : Nat) (s : State) (as : List Nat) (h : SpecInv n s) (ha : ∀ a ∈ as, a < n) :
    SpecInv n (runState n s as) := by
  induction as generalizing s with
  | nil => exact h
  | cons a as ih =>
    exact ih _ (step_specInv n s a h ⟨by omega, by have := ha a (by simp); omega⟩) (fun b hb => ha b (by simp [hb]))

theorem step_obs_valid (n : Nat) (s : State) (a : Int) (h : SpecInv n s) (ha : -1 ≤ a ∧ a < n) :
    (obsSpec n).valid (toNValue (step n s a).2.obs) = true := by
  rw [step_obs]; exact obs_valid n _ (step_specInv n s a h ha)

theorem step_protocol (n : Nat) (s : State) (a : Int) : StepOK none false (step n s a).2 = true := condLast_stepOK _ _ _

/-- `hbig`: the largest value `num_values − 1` of the action spec fits `int32` (part of `Leaf.WF`) -/
theorem accepts_generate_value (n : Nat) (hn : 0 < n) (hbig : n ≤ 2147483648) (s : State) (h : SpecInv n s) :
    (actionSpec n).WF = true ∧ (actionSpec n).valid (actionSpec n).generate = true ∧
    (actionSpec n).generate = actionArr 0 ∧ StepOK none false (step n s 0).2 = true ∧
    (obsSpec n).valid (toNValue (step n s 0).2.obs) = true :=
  have hw : (actionSpec n).WF = true := WF_discrete n .int32 "action" hn rfl (fits_int32_pred hbig)
  ⟨hw, Leaf.generate_valid _ hw, rfl, step_protocol n s 0, step_obs_valid n s 0 h ⟨by omega, by omega⟩⟩

/-- C04, the reaction of `step` itself; last conjunct: unless the step completes the colouring, it is LAST iff the colour
was illegal -/
theorem step_reaction (n : Nat) (s : State) (a : Nat) (h : Inv n s) (ha : a < n) :
    (¬ legal n s a → (step n s a).2.stepType = .last ∧ (step n s a).2.reward = [-((n : Nat) : Rat)]) ∧
    (legal n s a →
      ((step n s a).2.stepType = .last ↔ ∀ c ∈ (step n s a).1.colors, 0 ≤ c) ∧
      (step n s a).2.reward = [if ∀ c ∈ (step n s a).1.colors, 0 ≤ c then objective (step n s a).1 else 0]) ∧
    ((∃ c ∈ (step n s a).1.colors, c < 0) → ((step n s a).2.stepType = .last ↔ ¬ legal n s a)) := by
  have hill := fun hl => illegal_terminates n s a h ha hl
  have hleg := fun hl => reward_valid n s a h.1 (legal_mask n s a h hl)
  have hall : ((step n s a).1.colors.all (fun c => decide (0 ≤ c)) = true) ↔ ∀ c ∈ (step n s a).1.colors, 0 ≤ c := by
    simp
  refine ⟨fun hl => ⟨(hill hl).1, (hill hl).2.1⟩, fun hl => ⟨(hleg hl).2.trans hall, ?_⟩,
    fun ⟨c, hc, hneg⟩ => ⟨fun hlast hl => absurd (hall.1 ((hleg hl).2.1 hlast) c hc) (by omega), fun hl => (hill hl).1⟩⟩
  rw [(hleg hl).1]
  simp only [hall]

/-- C06 through `step` (`complete_is_solution` ASSUMES the successor proper) -/
theorem step_complete_is_solution (n : Nat) (s : State) (a : Nat) (h : Inv n s) (hg : GraphOK n s.adj)
    (hf : Feasible n s) (hl : legal n s a) (hlast : (step n s a).2.stepType = .last) :
    IsSolution n (step n s a).1 :=
  complete_is_solution n s a h.1 (step_feasible n s a h.1 hg hf hl) (legal_mask n s a h hl) hlast

/-- C11, the structural horizon: while the nodes before the current one are coloured, `n − cur` steps are left, whatever
non-negative actions are played -/
theorem bounded (n : Nat) :
    Ep.Bounded (Ep.ofStep (step n) State.cur) (fun s => WF n s ∧ PrefixColoured s) (fun a => 0 ≤ a)
      (fun s => ((n : Int) - s.cur).toNat - 1) :=
  Ep.Bounded.of_step
    (fun s a hi ha => ⟨step_WF n s a hi.1 (by omega), step_prefixColoured n s a hi.1 hi.2 ha⟩)
    (fun s a hi ha hnl => by
      obtain ⟨p1, p2, -⟩ := progress n s a hi.1 hi.2 ha hnl
      simp only [p1]; omega)

/-- the nodes after the current one are not yet coloured (true at `reset`, preserved while the episode runs) -/
def Fresh (n : Nat) (s : State) : Prop := ∀ j, s.cur.toNat < j → j < n → colour s j = -1

theorem reset_fresh (n : Nat) (adj : List (List Bool)) : Fresh n (reset n adj).1 := by
  intro j _ hj
  simp [reset, colour, List.getD_eq_getElem?_getD, hj]

theorem legal_not_last (n : Nat) (s : State) (a : Nat) (h : Inv n s) (hfr : Fresh n s) (hl : legal n s a)
    (hlt : s.cur + 1 < n) :
    (step n s a).2.stepType ≠ .last ∧ Fresh n (step n s a).1 := by
  have hw := h.1
  have h0 := hw.2.2.2.2.1
  have hcur : (step n s a).1.cur = s.cur + 1 := by
    rw [step_cur n s a h0 hw.2.2.2.2.2, if_neg (by omega)]
  have hfr' : Fresh n (step n s a).1 := fun j hj1 hj2 => by
    rw [hcur] at hj1
    rw [colour_step n s a hw, if_neg (by omega)]
    exact hfr j (by omega) hj2
  -- the next node is still uncoloured, so the colouring is not complete
  refine ⟨fun hlast => ?_, hfr'⟩
  have hall := (reward_valid n s a hw (legal_mask n s a h hl)).2.1 hlast
  have := (all_nonneg_iff n _ (step_WF n s a hw (by omega)).1).1 (by simpa using hall) (s.cur.toNat + 1) (by omega)
  rw [colour_step n s a hw, if_neg (by omega), hfr _ (by omega) (by omega)] at this
  omega

/-- never earlier: under LEGAL play with `m = n − cur` nodes left the first LAST step is number `m` exactly -/
theorem legal_ends_exactly (n : Nat) (m : Nat) : ∀ (s : State) (as : List Nat), Inv n s → PrefixColoured s → Fresh n s →
    s.cur + (m : Int) = n → 0 < m → AllLegal n s as → m ≤ as.length →
    (Ep.ofStep (step n) State.cur).firstLast s (as.map (fun (a : Nat) => (a : Int))) = some m := by
  induction m with
  | zero => intro s as _ _ _ _ hm; omega
  | succ m ih =>
    intro s as hi hp hfr hcur _ hal hlen
    cases as with
    | nil => simp at hlen
    | cons a t =>
      simp only [AllLegal] at hal
      have hlast : (Ep.ofStep (step n) State.cur).last s a = true ↔ (step n s a).2.stepType = .last := beq_iff_eq
      simp only [List.map_cons, Ep.Sys.firstLast, hlast]
      by_cases hm : m = 0
      · -- the last node: a step that does not end the episode would have a successor node
        subst hm
        rw [if_pos]
        refine Classical.not_not.1 fun hnl => ?_
        have := (progress n s a hi.1 hp (by omega) hnl).2.1
        omega
      · obtain ⟨hnl, hfr'⟩ := legal_not_last n s a hi hfr hal.1 (by omega)
        obtain ⟨p1, -, p3⟩ := progress n s a hi.1 hp (by omega) hnl
        rw [if_neg hnl]
        exact congrArg (Option.map (· + 1)) (ih _ t (step_Inv n s a hi.1 (by omega)) p3 hfr' (by rw [p1]; omega)
          (by omega) hal.2 (by simp at hlen; omega))

end GraphColoring
