/-
GraphColoring — C01: proved value bounds of the observation leaves.

Real spec (`n` = num_nodes): `adj_matrix` bool, `action_mask` bool, `colors` BoundedArray(int32, -1, n-1),
`current_node_index` BoundedArray(int32, 0, n-1).
-/
import JumanjiModel.Env.GraphColoring.Model
import JumanjiModel.Env.PuzzleBounds
namespace GraphColoring
open Jm PzB

/-- interval of every observation leaf, as a function of the configuration (`n` = num_nodes) -/
def obsBounds (n : Nat) : Table :=
  [("adj_matrix", iv 0 1), ("action_mask", iv 0 1), ("colors", iv (-1) ((n : Int) - 1)),
   ("current_node_index", iv 0 ((n : Int) - 1))]

/-- the numeric leaves of an observation, flattened -/
def obsLeaves (o : Obs) : Leaves :=
  [("adj_matrix", bools2 o.adj), ("action_mask", bools o.mask), ("colors", o.colors),
   ("current_node_index", [o.cur])]

/-- every node is uncoloured (−1) or carries one of the `n` colours; the current node is one of the `n` nodes.
(`WF` has the lower bound of the colours and the range of `cur`; the upper bound of the colours is added here.) -/
def InRange (n : Nat) (s : State) : Prop :=
  (∀ c ∈ s.colors, -1 ≤ c ∧ c ≤ (n : Int) - 1) ∧ 0 ≤ s.cur ∧ s.cur ≤ (n : Int) - 1

instance (n : Nat) (s : State) : Decidable (InRange n s) := by unfold InRange; infer_instance

theorem obs_in_bounds (n : Nat) (s : State) (h : InRange n s) : ObsInBounds (obsBounds n) (obsLeaves (obsOf s)) :=
  obsInBounds_of_aligned rfl (by simp [obsLeaves]) <|
    Jx.all_cons (allIn_bools2 _) <| Jx.all_cons (allIn_bools _) <| Jx.all_cons (allIn_ints _ _ _ h.1) <|
    Jx.all_cons (allIn_single _ _ _ h.2) Jx.all_nil

theorem step_inRange (n : Nat) (s : State) (a : Int) (h : InRange n s) (ha : -1 ≤ a ∧ a < n) :
    InRange n (step n s a).1 := by
  have hn : (0 : Int) < n := by have := h.2; omega
  refine ⟨?_, ?_, ?_⟩
  · show ∀ c ∈ Jx.setWD s.colors s.cur a, _
    exact Jx.forall_mem_setWD _ h.1 (by omega)
  · show 0 ≤ (s.cur + 1) % (n : Int)
    exact Int.emod_nonneg _ (by omega)
  · show (s.cur + 1) % (n : Int) ≤ (n : Int) - 1
    have := Int.emod_lt_of_pos (s.cur + 1) hn
    omega

theorem reset_inRange (n : Nat) (adj : List (List Bool)) (hn : 0 < n) : InRange n (reset n adj).1 := by
  refine ⟨?_, ?_, ?_⟩
  · intro c hc
    simp only [reset, List.mem_replicate] at hc
    omega
  · simp [reset]
  · simp only [reset]; omega

end GraphColoring
