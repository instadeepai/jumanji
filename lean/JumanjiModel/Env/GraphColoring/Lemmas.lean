/-
GraphColoring: the single-step lemmas (with the reset state's `Inv`, mask and reward facts).  What `_get_valid_actions` computes (the mask of a node is the set of colours no
neighbour has, C04), the invariant `Inv` (well-formed, cached mask fresh), `jnp.unique`'s count = number of colours in use,
the timestep of an accepted / rejected move, and from these C05, C06, C08, C09 (`step = stepSpec`), C11 and C12 for one step.
-/
import JumanjiModel.Env.GraphColoring.Model
import JumanjiModel.Prim.ListLemmas
import JumanjiModel.Core.TimeStepLemmas
namespace GraphColoring
open Jm

/-- a neighbour's colour clears its bit; the sentinel `-1` of a non-neighbour wraps to the last entry, which `b` is not -/
theorem foldl_getD (am : List Int) (v : List Bool) (b : Nat) (ham : ∀ i ∈ am, -1 ≤ i)
    (hb : b + 1 < v.length) :
    (am.foldl (fun v i => Jx.setWD v i false) v).getD b false
      = (v.getD b false && !decide ((b:Int) ∈ am)) := by
  have e : (∃ i ∈ am, Jx.wrapIdx v.length i = (b : Int)) ↔ (b : Int) ∈ am :=
    ⟨fun ⟨i, hi, h⟩ => (Jx.wrapIdx_eq_iff (ham i hi) (.inr hb)).1 h ▸ hi,
     fun h => ⟨_, h, Jx.wrapIdx_nonneg _ _ (Int.natCast_nonneg b)⟩⟩
  rw [Jx.foldl_setWD_const_getD_wrap false false am v (by omega)]
  simp only [e]
  split <;> simp [*]

theorem getD_dropLast {α} (l : List α) (b : Nat) (d : α) (hb : b + 1 < l.length) :
    l.dropLast.getD b d = l.getD b d := by
  have : b < l.length - 1 := by omega
  rw [List.getD_eq_getElem?_getD, List.getD_eq_getElem?_getD, List.getElem?_dropLast, if_pos this]

theorem mem_am (row : List Bool) (colors : List Int) (n b : Nat) (hr : row.length = n)
    (hc : colors.length = n) :
    (b:Int) ∈ List.zipWith (fun (r:Bool) (c:Int) => if r then c else -1) row colors ↔
      ∃ j, j < n ∧ row.getD j false = true ∧ colors.getD j (-1) = (b:Int) := by
  simp only [List.mem_iff_getElem, List.length_zipWith, List.getElem_zipWith]
  constructor
  · rintro ⟨j, hj, e⟩
    refine ⟨j, by omega, ?_⟩
    rw [Jx.getD_eq_getElem _ (by omega : j < row.length), Jx.getD_eq_getElem _ (by omega : j < colors.length)]
    split at e
    · exact ⟨by assumption, e⟩
    · omega
  · rintro ⟨j, hj, h1, h2⟩
    rw [Jx.getD_eq_getElem _ (by omega)] at h1 h2
    exact ⟨j, by omega, by rw [h1, if_pos rfl, h2]⟩

theorem validActions_getD (n : Nat) (node : Int) (adj : List (List Bool)) (colors : List Int) (b : Nat)
    (hb : b < n) (hadj : adj.length = n) (hrows : ∀ row ∈ adj, row.length = n)
    (hcl : colors.length = n) (hc : ∀ c ∈ colors, -1 ≤ c) (h0 : 0 ≤ node) (h1 : node < n) :
    (validActions n node adj colors).getD b false = true ↔
      ∀ j, j < n → edge adj node.toNat j = true → colors.getD j (-1) ≠ (b : Int) := by
  unfold validActions
  -- `simp only []` (here and below): only reduces the `let`s that `unfold` exposed
  simp only []
  have hnode' : node.toNat < adj.length := by omega
  rw [Jx.getWC_nonneg adj [] h0 (by omega)]
  have hrow : (adj.getD node.toNat []).length = n := hrows _ (Jx.getD_mem [] hnode')
  have ham : ∀ i ∈ List.zipWith (fun (r : Bool) (c : Int) => if r then c else -1) (adj.getD node.toNat []) colors,
      -1 ≤ i := by
    intro i hi
    obtain ⟨j, hj, e⟩ := List.mem_iff_getElem.1 hi
    simp only [List.getElem_zipWith] at e
    split at e
    · rw [← e]; exact hc _ (List.getElem_mem _)
    · omega
  rw [getD_dropLast _ _ _ (by rw [Jx.foldl_setWD_length]; simp; omega)]
  rw [foldl_getD _ _ _ ham (by simp; omega), Jx.getD_replicate true false (by omega)]
  simp only [Bool.true_and, Bool.not_eq_true', decide_eq_false_iff_not, edge]
  rw [mem_am _ _ n b hrow hcl]
  constructor
  · intro h j hj he hcj
    exact h ⟨j, hj, he, hcj⟩
  · rintro h ⟨j, hj, he, hcj⟩
    exact h j hj he hcj

theorem validActions_length (n : Nat) (node : Int) (adj : List (List Bool)) (colors : List Int) :
    (validActions n node adj colors).length = n := by
  unfold validActions
  simp only [List.length_dropLast, Jx.foldl_setWD_length, List.length_replicate]
  omega

/-- C04: the (recomputed) mask of the current node is exactly the set of legal colours -/
theorem mask_iff_legal (n : Nat) (s : State) (a : Nat) (h : WF n s) :
    (validActions n s.cur s.adj s.colors).getD a false = true ↔ legal n s a := by
  obtain ⟨hcl, hadj, hrows, hc, h0, h1⟩ := h
  by_cases ha : a < n
  · rw [validActions_getD n s.cur s.adj s.colors a ha hadj hrows hcl hc h0 h1]
    unfold legal colour
    simp [ha]
  · have : (validActions n s.cur s.adj s.colors).length ≤ a := by rw [validActions_length]; omega
    unfold legal
    simp [List.getD_eq_getElem?_getD, List.getElem?_eq_none this, ha]

theorem validActions_eq_legal (n : Nat) (s : State) (h : WF n s) :
    validActions n s.cur s.adj s.colors = (List.range n).map (fun a => decide (legal n s a)) :=
  Jx.eq_range_map_decide (validActions_length ..) fun a _ => mask_iff_legal n s a h

theorem step_fst (n : Nat) (s : State) (a : Int) :
    (step n s a).1 = { adj := s.adj, colors := Jx.setWD s.colors s.cur a, cur := (s.cur + 1) % (n : Int),
                       mask := validActions n ((s.cur + 1) % (n : Int)) s.adj (Jx.setWD s.colors s.cur a) } := rfl

theorem step_cur (n : Nat) (s : State) (a : Int) (h0 : 0 ≤ s.cur) (h1 : s.cur < n) :
    (step n s a).1.cur = if s.cur + 1 = (n : Int) then 0 else s.cur + 1 := by
  rw [step_fst]
  split
  · rename_i e; simp only [e]; exact Int.emod_self
  · exact Int.emod_eq_of_lt (by omega) (by omega)

theorem step_WF (n : Nat) (s : State) (a : Int) (h : WF n s) (ha : -1 ≤ a) : WF n (step n s a).1 := by
  obtain ⟨hcl, hadj, hrows, hc, h0, h1⟩ := h
  rw [step_fst]
  exact ⟨by simp [Jx.setWD_length, hcl], hadj, hrows, Jx.forall_mem_setWD _ hc ha,
    Int.emod_nonneg _ (by omega), Int.emod_lt_of_pos _ (by omega)⟩

theorem step_Inv (n : Nat) (s : State) (a : Int) (h : WF n s) (ha : -1 ≤ a) : Inv n (step n s a).1 :=
  ⟨step_WF n s a h ha, by rw [step_fst]⟩

theorem reset_Inv (n : Nat) (adj : List (List Bool)) (hn : 0 < n) (hadj : adj.length = n)
    (hrows : ∀ row ∈ adj, row.length = n) : Inv n (reset n adj).1 := by
  have hwf : WF n (reset n adj).1 := by
    refine ⟨by simp [reset], hadj, hrows, ?_, by simp [reset], by simp [reset]; omega⟩
    intro c hcm
    simp [reset] at hcm
    omega
  refine ⟨hwf, ?_⟩
  -- no node is coloured yet, so every colour is legal
  rw [validActions_eq_legal n _ hwf]
  refine (List.eq_replicate_iff.2 ⟨by simp, fun b hb => ?_⟩).symm
  obtain ⟨c, hc, rfl⟩ := List.mem_map.1 hb
  exact decide_eq_true ⟨List.mem_range.1 hc, fun j hj _ => by simp [colour, reset, List.getD_eq_getElem?_getD, hj]⟩

/-- the environment's own validity test (on the cached mask) agrees with the rules -/
theorem invalid_iff_not_legal (n : Nat) (s : State) (a : Nat) (h : Inv n s) (ha : a < n) :
    (!(Jx.getWC s.mask false (a : Int))) = true ↔ ¬ legal n s a := by
  have hl : a < s.mask.length := by rw [h.2, validActions_length]; exact ha
  rw [Jx.getWC_nat _ _ hl, h.2, ← mask_iff_legal n s a h.1]
  simp


theorem legal_mask (n : Nat) (s : State) (a : Nat) (h : Inv n s) (hl : legal n s a) :
    Jx.getWC s.mask false (a : Int) = true := by
  have := invalid_iff_not_legal n s a h hl.1
  cases hm : Jx.getWC s.mask false (a : Int) with
  | true => rfl
  | false => rw [hm] at this; exact absurd hl (this.1 rfl)

theorem mem_ins (x y : Int) (l : List Int) : y ∈ ins x l ↔ y = x ∨ y ∈ l := by
  induction l with
  | nil => simp [ins]
  | cons z zs ih =>
    unfold ins
    split
    · simp
    · split
      · subst_vars; simp
      · simp [ih]; grind

theorem sorted_ins (x : Int) (l : List Int) (h : l.Pairwise (· < ·)) : (ins x l).Pairwise (· < ·) := by
  induction l with
  | nil => simp [ins]
  | cons z zs ih =>
    unfold ins
    split
    · rename_i hxz
      rw [List.pairwise_cons] at h ⊢
      refine ⟨?_, List.pairwise_cons.2 h⟩
      intro w hw
      rcases List.mem_cons.1 hw with e | e
      · omega
      · have := h.1 w e; omega
    · split
      · exact h
      · rw [List.pairwise_cons] at h ⊢
        refine ⟨?_, ih h.2⟩
        intro w hw
        rcases (mem_ins x w zs).1 hw with e | e
        · omega
        · exact h.1 w e

theorem length_ins (x : Int) (l : List Int) : (ins x l).length ≤ l.length + 1 := by
  induction l with
  | nil => simp [ins]
  | cons z zs ih => unfold ins; split <;> (try split) <;> simp <;> omega

theorem mem_uniqSorted (y : Int) (xs : List Int) : y ∈ uniqSorted xs ↔ y ∈ xs := by
  induction xs with
  | nil => simp [uniqSorted]
  | cons x xs ih =>
    have : uniqSorted (x :: xs) = ins x (uniqSorted xs) := rfl
    rw [this, mem_ins, ih]; simp

theorem sorted_uniqSorted (xs : List Int) : (uniqSorted xs).Pairwise (· < ·) := by
  induction xs with
  | nil => simp [uniqSorted]
  | cons x xs ih => exact sorted_ins x _ ih

theorem length_uniqSorted (xs : List Int) : (uniqSorted xs).length ≤ xs.length := by
  induction xs with
  | nil => simp [uniqSorted]
  | cons x xs ih =>
    have : uniqSorted (x :: xs) = ins x (uniqSorted xs) := rfl
    rw [this]; have := length_ins x (uniqSorted xs); simp; omega

theorem mem_distinct (y : Int) (l : List Int) : y ∈ distinct l ↔ y ∈ l := by
  induction l with
  | nil => simp [distinct]
  | cons x xs ih =>
    unfold distinct
    split
    · rw [ih]; simp; intro e; subst e; assumption
    · simp [ih]

theorem nodup_distinct (l : List Int) : (distinct l).Nodup := by
  induction l with
  | nil => simp [distinct]
  | cons x xs ih =>
    unfold distinct
    split
    · exact ih
    · rw [List.nodup_cons]; exact ⟨by rw [mem_distinct]; assumption, ih⟩

/-- `h`: `jnp.unique(…, size=n, fill_value=-1)` truncates to `n` entries -/
theorem numUnique_eq (n : Nat) (colors : List Int) (h : colors.length ≤ n) :
    numUnique n colors = usedColours colors := by
  unfold numUnique uniqueSized usedColours
  simp only []
  have hl := length_uniqSorted colors
  rw [List.take_of_length_le (by simp; omega)]
  rw [List.filter_append]
  have : (List.replicate (n - (uniqSorted colors).length) (-1 : Int)).filter (fun c => decide (c ≥ 0)) = [] := by
    simp
  rw [this, List.append_nil]
  -- both lists are duplicate-free and have the same members (the non-negative colours), so they have the same length
  have hnd : ((uniqSorted colors).filter (fun c => decide (c ≥ 0))).Nodup :=
    ((sorted_uniqSorted colors).imp (fun h => by omega)).filter _
  have hmem : ∀ a, a ∈ (uniqSorted colors).filter (fun c => decide (c ≥ 0)) ↔
      a ∈ distinct (colors.filter (fun c => decide (0 ≤ c))) := by
    intro a
    rw [mem_distinct]
    simp [mem_uniqSorted]
  exact ((List.perm_ext_iff_of_nodup hnd (nodup_distinct _)).2 hmem).length_eq

theorem step_snd (n : Nat) (s : State) (a : Int) :
    (step n s a).2 =
      condLast ((Jx.setWD s.colors s.cur a).all (fun c => decide (c ≥ 0)) || !(Jx.getWC s.mask false a))
        [if (!(Jx.getWC s.mask false a)) = true then -((n : Nat) : Rat)
         else if (Jx.setWD s.colors s.cur a).all (fun c => decide (c ≥ 0)) = true
              then -((numUnique n (Jx.setWD s.colors s.cur a) : Nat) : Rat) else 0]
        (obsOf (step n s a).1) := by unfold step; rfl

theorem step_obs (n : Nat) (s : State) (a : Int) : (step n s a).2.obs = obsOf (step n s a).1 := by
  rw [step_snd]; exact condLast_obs ..

theorem step_snd_rejected (n : Nat) (s : State) (a : Int) (hv : (!(Jx.getWC s.mask false a)) = true) :
    (step n s a).2 = termination [-((n : Nat) : Rat)] (obsOf (step n s a).1) := by
  rw [step_snd]
  simp only [hv, Bool.or_true, condLast_true, if_true]

theorem step_snd_accepted (n : Nat) (s : State) (a : Int) (hw : WF n s)
    (hv : Jx.getWC s.mask false a = true) :
    (step n s a).2 = condLast ((step n s a).1.colors.all (fun c => decide (0 ≤ c)))
      [if (step n s a).1.colors.all (fun c => decide (0 ≤ c)) = true then objective (step n s a).1 else 0]
      (obsOf (step n s a).1) := by
  rw [step_snd, numUnique_eq n _ (by rw [Jx.setWD_length, hw.1]; exact Nat.le_refl _)]
  simp only [hv, Bool.not_true, Bool.or_false, Bool.false_eq_true, if_false, objective, ge_iff_le]
  rfl

theorem colour_step (n : Nat) (s : State) (a : Int) (h : WF n s) (j : Nat) :
    colour (step n s a).1 j = if j = s.cur.toNat then a else colour s j := by
  obtain ⟨hcl, -, -, -, h0, h1⟩ := h
  rw [step_fst]
  unfold colour
  simp only []
  rw [Jx.setWD_nonneg _ h0, Jx.getD_set]
  by_cases e : j = s.cur.toNat
  · rw [if_pos ⟨e.symm, by omega⟩, if_pos e]
  · rw [if_neg (fun h => e h.1.symm), if_neg e]

/-- C05: the graph and the colours of the other nodes are untouched (the rejected colour IS written to the current node
of the terminal state) -/
theorem illegal_terminates (n : Nat) (s : State) (a : Nat) (h : Inv n s) (ha : a < n)
    (hl : ¬ legal n s a) :
    (step n s a).2.stepType = .last ∧ (step n s a).2.reward = [-((n : Nat) : Rat)] ∧
    (step n s a).2.discount = [0] ∧ (step n s a).1.adj = s.adj ∧
    ∀ j, j ≠ s.cur.toNat → colour (step n s a).1 j = colour s j := by
  rw [step_snd_rejected n s a ((invalid_iff_not_legal n s a h ha).2 hl)]
  refine ⟨rfl, rfl, rfl, rfl, ?_⟩
  intro j hj
  rw [colour_step n s a h.1 j]
  simp [hj]

/-- C06: colouring the current node with a legal colour keeps the colouring proper -/
theorem step_feasible (n : Nat) (s : State) (a : Nat) (hw : WF n s) (hg : GraphOK n s.adj)
    (hf : Feasible n s) (hl : legal n s a) : Feasible n (step n s a).1 := by
  intro i hi j hj he hci
  have hadj : (step n s a).1.adj = s.adj := rfl
  rw [hadj] at he
  rw [colour_step n s a hw i] at hci ⊢
  rw [colour_step n s a hw j]
  obtain ⟨_, _, hsym, hloop⟩ := hg
  by_cases ei : i = s.cur.toNat
  · by_cases ej : j = s.cur.toNat
    · subst ei; subst ej
      rw [hloop _ hi] at he; cases he
    · simp only [ei, ej, if_true, if_false]
      rw [ei] at he
      exact fun e => hl.2 j hj he e.symm
  · by_cases ej : j = s.cur.toNat
    · simp only [ei, ej, if_true, if_false]
      rw [ej, hsym i hi _ (by omega)] at he
      exact hl.2 i hi he
    · simp only [ei, ej, if_false] at hci ⊢
      exact hf i hi j hj he hci

/-- conversely, whatever the graph and the colouring so far: if the successor is proper, no neighbour of the current node
had the colour written -/
theorem legal_of_step_feasible (n : Nat) (s : State) (a : Nat) (hw : WF n s) (ha : a < n)
    (hf' : Feasible n (step n s a).1) : legal n s a := by
  refine ⟨ha, fun j hj he hcj => ?_⟩
  have hcur : s.cur.toNat < n := by have := hw.2.2.2.2; omega
  have hadj : (step n s a).1.adj = s.adj := rfl
  have h1 := hf' s.cur.toNat hcur j hj (by rw [hadj]; exact he)
  rw [colour_step n s a hw, colour_step n s a hw] at h1
  simp only [if_true] at h1
  have h2 := h1 (by omega)
  by_cases e : j = s.cur.toNat
  · simp [e] at h2
  · simp only [e, if_false] at h2
    exact h2 hcj.symm

theorem reset_feasible (n : Nat) (adj : List (List Bool)) : Feasible n (reset n adj).1 := by
  intro i hi j hj _ hci
  simp [colour, reset, List.getD_eq_getElem?_getD, hi] at hci

/-- C06: an episode that ends with an accepted move ends with every node coloured -/
theorem complete_is_solution (n : Nat) (s : State) (a : Int) (hw : WF n s)
    (hf : Feasible n (step n s a).1) (hv : Jx.getWC s.mask false a = true)
    (hlast : (step n s a).2.stepType = .last) : IsSolution n (step n s a).1 := by
  refine ⟨hf, by rw [step_fst]; simp [Jx.setWD_length, hw.1], ?_⟩
  rw [step_snd_accepted n s a hw hv, condLast_last_iff] at hlast
  simpa using hlast

/-- C08: every accepted move earns 0 until the colouring is complete, and then minus the number of
colours in use in the final state; the episode ends exactly then -/
theorem reward_valid (n : Nat) (s : State) (a : Int) (hw : WF n s)
    (hv : Jx.getWC s.mask false a = true) :
    let all := (step n s a).1.colors.all (fun c => decide (0 ≤ c))
    (step n s a).2.reward = [if all then objective (step n s a).1 else 0] ∧
    ((step n s a).2.stepType = .last ↔ all = true) := by
  simp only []
  rw [step_snd_accepted n s a hw hv]
  exact ⟨condLast_reward .., condLast_last_iff ..⟩


theorem mask_eq_legal (n : Nat) (s : State) (h : Inv n s) :
    s.mask = (List.range n).map (fun a => decide (legal n s a)) :=
  h.2.trans (validActions_eq_legal n s h.1)

/-- C12: the observation returned by `step` is the documented view of the new state -/
theorem obs_faithful (n : Nat) (s : State) (a : Int) (h : WF n s) (ha : -1 ≤ a) :
    (step n s a).2.obs = observe n (step n s a).1 := by
  have hi := step_Inv n s a h ha
  rw [step_obs]
  unfold obsOf observe
  rw [← mask_eq_legal n _ hi]

theorem reset_obs_faithful (n : Nat) (adj : List (List Bool)) (hn : 0 < n) (hadj : adj.length = n)
    (hrows : ∀ row ∈ adj, row.length = n) : (reset n adj).2.obs = observe n (reset n adj).1 := by
  have hi := reset_Inv n adj hn hadj hrows
  show obsOf (reset n adj).1 = _
  unfold obsOf observe
  rw [← mask_eq_legal n _ hi]

theorem all_nonneg_iff (n : Nat) (s : State) (hl : s.colors.length = n) :
    (∀ c ∈ s.colors, 0 ≤ c) ↔ ∀ j, j < n → 0 ≤ colour s j := by
  constructor
  · intro h j hj
    unfold colour
    have : j < s.colors.length := by omega
    rw [List.getD_eq_getElem?_getD, List.getElem?_eq_getElem this]
    exact h _ (List.getElem_mem _)
  · intro h c hc
    obtain ⟨j, hj, e⟩ := List.mem_iff_getElem.1 hc
    have := h j (by omega)
    unfold colour at this
    rw [List.getD_eq_getElem?_getD, List.getElem?_eq_getElem hj] at this
    simpa [e] using this

theorem step_prefixColoured (n : Nat) (s : State) (a : Int) (hw : WF n s) (hp : PrefixColoured s) (ha : 0 ≤ a) :
    PrefixColoured (step n s a).1 := by
  intro j hj
  have h0 := hw.2.2.2.2.1
  have h1 := hw.2.2.2.2.2
  rw [colour_step n s a hw j]
  split
  · exact ha
  · refine hp j ?_
    rw [step_cur n s a h0 h1] at hj
    split at hj <;> omega

/-- C11: a step that does not end the episode moves on to the next node, which still exists, and all
nodes before it are coloured.  Hence `cur` counts the steps and an episode has at most `n` steps. -/
theorem progress (n : Nat) (s : State) (a : Int) (hw : WF n s) (hp : PrefixColoured s) (ha : 0 ≤ a)
    (hnl : (step n s a).2.stepType ≠ .last) :
    (step n s a).1.cur = s.cur + 1 ∧ s.cur + 1 < n ∧ PrefixColoured (step n s a).1 := by
  have h0 := hw.2.2.2.2.1
  have h1 := hw.2.2.2.2.2
  -- colouring the last node completes the colouring, which ends the episode
  have hlt : s.cur + 1 < n := by
    refine Int.not_le.1 fun hge => hnl ?_
    have hall : ∀ c ∈ (step n s a).1.colors, 0 ≤ c := by
      rw [all_nonneg_iff n _ (step_WF n s a hw (by omega)).1]
      intro j hj
      rw [colour_step n s a hw j]
      split
      · exact ha
      · exact hp j (by omega)
    rw [step_snd, condLast_last_iff]
    exact Bool.or_eq_true_iff.2 (Or.inl (List.all_eq_true.2 fun c hc => decide_eq_true (hall c hc)))
  refine ⟨?_, hlt, step_prefixColoured n s a hw hp ha⟩
  rw [step_cur n s a h0 h1, if_neg (by omega)]

theorem reset_prefixColoured (n : Nat) (adj : List (List Bool)) : PrefixColoured (reset n adj).1 := by
  intro j hj; simp [reset] at hj


theorem legal_congr (n : Nat) (s t : State) (b : Nat) (h1 : s.adj = t.adj) (h2 : s.colors = t.colors)
    (h3 : s.cur = t.cur) : legal n s b ↔ legal n t b := by
  unfold legal colour; rw [h1, h2, h3]

theorem state_ext (s t : State) (h1 : s.adj = t.adj) (h2 : s.colors = t.colors) (h3 : s.cur = t.cur)
    (h4 : s.mask = t.mask) : s = t := by
  cases s; cases t; simp_all

theorem step_snd_valid (n : Nat) (s : State) (a : Int) (hw : WF n s) (ha : -1 ≤ a)
    (hv : Jx.getWC s.mask false a = true) :
    (step n s a).2 = condLast ((step n s a).1.colors.all (fun c => decide (0 ≤ c)))
      [if (step n s a).1.colors.all (fun c => decide (0 ≤ c)) = true then objective (step n s a).1 else 0]
      (observe n (step n s a).1) := by
  rw [← obs_faithful n s a hw ha, step_obs]
  exact step_snd_accepted n s a hw hv

/-- the successor state of the rule book `stepSpec` -/
def specSucc (n : Nat) (s : State) (a : Nat) : State :=
  let s1 : State := { adj := s.adj, colors := List.set s.colors s.cur.toNat (a : Int),
                      cur := if s.cur + 1 = (n : Int) then 0 else s.cur + 1, mask := [] }
  { s1 with mask := (List.range n).map (fun b => decide (legal n s1 b)) }

theorem stepSpec_eq (n : Nat) (s : State) (a : Nat) :
    stepSpec n s a =
      if legal n s a then
        if ∀ c ∈ (specSucc n s a).colors, 0 ≤ c
        then (specSucc n s a, termination [objective (specSucc n s a)] (observe n (specSucc n s a)))
        else (specSucc n s a, transition [0] (observe n (specSucc n s a)))
      else (specSucc n s a, termination [-((n : Nat) : Rat)] (observe n (specSucc n s a))) := by
  unfold stepSpec specSucc; rfl

end GraphColoring
