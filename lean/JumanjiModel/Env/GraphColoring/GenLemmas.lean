/-
GraphColoring: the generator (C10) — the generated matrix is `n × n`, symmetric and loop-free whatever the draw;
with the uniform draw as parameter, what it guarantees about the number of edges.
-/
import JumanjiModel.Env.GraphColoring.Model
import JumanjiModel.Prim.GridLemmas
namespace GraphColoring
open Jm

/-- `edge` is `Jx.Grid.get · false` and `generate n B` a `Jx.Grid.table n n` -/
theorem edge_generate (n : Nat) (B : List (List Bool)) (i j : Nat) (hi : i < n) (hj : j < n) :
    edge (generate n B) i j =
      ((decide (j < i) && (B.getD i []).getD j false) || (decide (i < j) && (B.getD j []).getD i false)) :=
  Jx.Grid.get_table n n _ false hi hj

/-- C10: whatever the thresholded random matrix `B` is, `tril(B,-1) + tril(B,-1).T` is an `n × n`
symmetric matrix without self-loops -/
theorem generate_ok (n : Nat) (B : List (List Bool)) : GraphOK n (generate n B) := by
  obtain ⟨h1, h2⟩ := (Jx.Grid.shaped_iff_mem (generate n B) n n).1 (Jx.Grid.shaped_table n n _)
  refine ⟨h1, h2, ?_, ?_⟩
  · intro i hi j hj
    rw [edge_generate n B i j hi hj, edge_generate n B j i hj hi]
    exact Bool.or_comm _ _
  · intro i hi
    rw [edge_generate n B i i hi hi]
    simp

theorem numEdges_generate (n : Nat) (B : List (List Bool)) :
    ∀ m, m ≤ n → numEdges (generate n B) m = lowerTrue B m := by
  intro m
  induction m with
  | zero => intro _; rfl
  | succ i ih =>
    intro hi
    simp only [numEdges, lowerTrue]
    rw [ih (by omega)]
    congr 2
    apply List.filter_congr
    intro j hj
    have hj' : j < i := List.mem_range.1 hj
    rw [edge_generate n B i j (by omega) (by omega)]
    have h1 : decide (j < i) = true := by simp [hj']
    have h2 : decide (i < j) = false := by simp; omega
    simp [h1, h2]

/-- at most the `m(m−1)/2` node pairs, stated without division -/
theorem numEdges_le (adj : List (List Bool)) : ∀ m, numEdges adj m * 2 + m ≤ m * m := by
  intro m
  induction m with
  | zero => simp [numEdges]
  | succ i ih =>
    simp only [numEdges]
    have : ((List.range i).filter (fun j => edge adj i j)).length ≤ i := by
      have := List.length_filter_le (fun j => edge adj i j) (List.range i)
      simpa using this
    have e : (i + 1) * (i + 1) = i * i + 2 * i + 1 := by
      rw [Nat.add_mul, Nat.mul_add]; omega
    omega

theorem threshold_const (n : Nat) (p c : Rat) (i j : Nat) (hi : i < n) (hj : j < n) :
    ((threshold p (List.replicate n (List.replicate n c))).getD i []).getD j false = decide (c < p) := by
  simp [threshold, List.getD_eq_getElem?_getD, hi, hj]

/-- the number of edges is NOT fixed by `edge_probability`: the all-zero draw gives the complete graph … -/
theorem generateU_complete (n : Nat) (p : Rat) (hp : 0 < p) (i j : Nat) (hi : i < n) (hj : j < n) :
    edge (generateU n p (List.replicate n (List.replicate n 0))) i j = decide (i ≠ j) := by
  unfold generateU
  rw [edge_generate n _ i j hi hj, threshold_const n p 0 i j hi hj, threshold_const n p 0 j i hj hi]
  simp [hp]
  by_cases h : i = j
  · subst h; simp
  · simp [h]; omega

/-- … and the constant draw `p` (valid when `p < 1`) gives the empty graph -/
theorem generateU_empty (n : Nat) (p : Rat) (i j : Nat) (hi : i < n) (hj : j < n) :
    edge (generateU n p (List.replicate n (List.replicate n p))) i j = false := by
  unfold generateU
  rw [edge_generate n _ i j hi hj, threshold_const n p p i j hi hj, threshold_const n p p j i hj hi]
  simp [Rat.lt_irrefl]

theorem validUniform_const (n : Nat) (c : Rat) (h0 : 0 ≤ c) (h1 : c < 1) :
    validUniform n (List.replicate n (List.replicate n c)) := by
  refine ⟨by simp, ?_⟩
  intro row hrow
  have := List.eq_of_mem_replicate hrow
  subst this
  refine ⟨by simp, ?_⟩
  intro u hu
  have := List.eq_of_mem_replicate hu
  subst this
  exact ⟨h0, h1⟩

end GraphColoring
