/- Connector, basic facts: inside a shaped grid the clamping gather and the dropping scatter are the plain lookup and
`setCell`; the action mask and `_step_agent` against the rules (`legal`, `canEnter`) (C04, C09); an illegal move is a
no-op (C05); what `_step_agents` returns (grid, agent number `i`, number of agents) and what a step does to one agent;
the summed correction masks as a map of the old grid (`corrGrid_eq`) and sums over `agentIds` with at most one non-zero
term (`sum_ids_zero`, `sum_ids_single`), for Bounds.lean and RefineLemmas.lean; the timestep of `step` in terms of the
successor state (C11, C12); reward, and the telescoped return of an episode (C08); the route test read back (C06). -/
import JumanjiModel.Env.Connector.Model
import JumanjiModel.Prim.GridLemmas
import JumanjiModel.Core.TimeStepLemmas
namespace Connector
open Jm Jx

theorem getWC_eq_cell {g : Grid Int} {n : Nat} (h : Grid.shaped g n n = true) {p : Pos} (hp : inGrid n p) :
    Grid.getWC g 0 p.1 p.2 = cell g p :=
  Grid.getWC_eq_get h 0 hp.1 hp.2.1 hp.2.2.1 hp.2.2.2

theorem setWD_eq_setCell (g : Grid Int) {p : Pos} (h1 : 0 ≤ p.1) (h2 : 0 ≤ p.2) (v : Int) :
    Grid.setWD g p.1 p.2 v = setCell g p v :=
  Grid.setWD_nonneg g v h1 h2

theorem setWD_cases (g : Grid Int) (r c v : Int) :
    Grid.setWD g r c v = g ∨
      ∃ (i j : Nat) (row : List Int), g[i]? = some row ∧ Grid.setWD g r c v = List.set g i (row.set j v) := by
  unfold Grid.setWD
  dsimp only
  by_cases h1 : wrapIdx g.length r < 0
  · rw [if_pos h1]; exact Or.inl rfl
  rw [if_neg h1]
  by_cases h2 : wrapIdx g.length r ≥ (g.length : Int)
  · rw [if_pos h2]; exact Or.inl rfl
  rw [if_neg h2]
  cases hrow : g[(wrapIdx g.length r).toNat]? with
  | none => exact Or.inl rfl
  | some row =>
    dsimp only
    by_cases h3 : wrapIdx row.length c < 0
    · rw [if_pos h3]; exact Or.inl rfl
    rw [if_neg h3]
    by_cases h4 : wrapIdx row.length c ≥ (row.length : Int)
    · rw [if_pos h4]; exact Or.inl rfl
    rw [if_neg h4]
    exact Or.inr ⟨_, _, row, hrow, rfl⟩

theorem shaped_setCell {g : Grid Int} {n m : Nat} (h : Grid.shaped g n m = true) (p : Pos) (v : Int) :
    Grid.shaped (setCell g p v) n m = true := Grid.shaped_set h v _ _

theorem isValidPosition_eq {g : Grid Int} {n : Nat} (h : Grid.shaped g n n = true) (ag : Agent) (p : Pos) :
    isValidPosition g ag p = decide (canEnter n g ag p) := by
  have hl := Grid.shaped_length h
  by_cases hp : inGrid n p
  · have hc := getWC_eq_cell h hp
    obtain ⟨h1, h2, h3, h4⟩ := hp
    unfold isValidPosition canEnter inGrid isConnected Agent.connected
    simp only [hc, hl]
    have : (ag.position = ag.target) ↔ (ag.position.1 = ag.target.1 ∧ ag.position.2 = ag.target.2) := by
      constructor
      · intro e; rw [e]; exact ⟨rfl, rfl⟩
      · intro ⟨a, b⟩; exact Prod.ext a b
    simp [h1, h2, h3, h4, this, Bool.beq_eq_decide_eq]
  · unfold isValidPosition canEnter
    have : (decide (0 ≤ p.1) && decide (p.1 < (g.length : Int)) && decide (0 ≤ p.2) && decide (p.2 < (g.length : Int))) = false := by
      unfold inGrid at hp; rw [hl]
      simp only [Bool.and_eq_false_iff, decide_eq_false_iff_not]
      omega
    simp [this, hp]

theorem agentCell_cases (id v : Int) :
    agentCell id v = if v = pathVal id ∨ v = posVal id ∨ v = tgtVal id then v else 0 := by
  unfold agentCell pathVal posVal tgtVal
  by_cases h1 : v = 1 + 3 * id
  · rw [if_neg (by omega), if_neg (by omega), if_pos h1, if_pos (Or.inl h1)]; omega
  by_cases h2 : v = 2 + 3 * id
  · rw [if_pos h2, if_neg (by omega), if_neg h1, if_pos (Or.inr (Or.inl h2))]; omega
  by_cases h3 : v = 3 + 3 * id
  · rw [if_neg h2, if_pos h3, if_neg h1, if_pos (Or.inr (Or.inr h3))]; omega
  · rw [if_neg h2, if_neg h3, if_neg h1, if_neg (by omega)]; rfl

theorem dir_some {a : Nat} {d : Pos} (h : dir a = some d) : 1 ≤ a ∧ a ≤ 4 := by
  rcases a with _ | _ | _ | _ | _ | a <;> simp [dir] at h ⊢

theorem movePosition_dir {a : Nat} {d : Pos} (h : dir a = some d) (p : Pos) :
    movePosition p (a : Int) = (p.1 + d.1, p.2 + d.2) := by
  rcases a with _ | _ | _ | _ | _ | a <;> simp [dir] at h
  all_goals subst h
  all_goals simp [movePosition, Int.sub_eq_add_neg]

theorem adjacent_iff_move (p q : Pos) :
    adjacent p q = true ↔ ∃ a : Int, 1 ≤ a ∧ a ≤ 4 ∧ movePosition p a = q := by
  obtain ⟨p1, p2⟩ := p
  obtain ⟨q1, q2⟩ := q
  constructor
  · intro h
    unfold adjacent at h
    simp only [Bool.or_eq_true, Bool.and_eq_true, beq_iff_eq] at h
    rcases h with ⟨e, h | h⟩ | ⟨e, h | h⟩
    · exact ⟨2, by decide, by decide, by simp [movePosition]; omega⟩
    · exact ⟨4, by decide, by decide, by simp [movePosition]; omega⟩
    · exact ⟨3, by decide, by decide, by simp [movePosition]; omega⟩
    · exact ⟨1, by decide, by decide, by simp [movePosition]; omega⟩
  · rintro ⟨a, h1, h4, e⟩
    have : a = 1 ∨ a = 2 ∨ a = 3 ∨ a = 4 := by omega
    rcases this with rfl | rfl | rfl | rfl <;> simp [movePosition] at e <;> simp [adjacent] <;> omega

theorem validMove_eq {g : Grid Int} {n : Nat} (h : Grid.shaped g n n = true) (ag : Agent) {a : Nat} {d : Pos}
    (hd : dir a = some d) :
    isValidPosition g ag (movePosition ag.position (a : Int)) =
      decide (canEnter n g ag (ag.position.1 + d.1, ag.position.2 + d.2)) := by
  rw [movePosition_dir hd, isValidPosition_eq h]

theorem legal_iff {n : Nat} {s : State} {i : Nat} {ag : Agent} (hag : s.agents[i]? = some ag) (a : Nat) :
    legal n s i a ↔
      (a = 0 ∨ ∃ d, dir a = some d ∧ canEnter n s.grid ag (ag.position.1 + d.1, ag.position.2 + d.2)) := by
  unfold legal; simp [hag]

theorem agentMask_eq {g : Grid Int} {n : Nat} (h : Grid.shaped g n n = true) (ag : Agent) :
    agentMask g ag = (List.range 5).map (fun a =>
      decide (a = 0 ∨ ∃ d, dir a = some d ∧ canEnter n g ag (ag.position.1 + d.1, ag.position.2 + d.2))) := by
  have r5 : List.range 5 = [0, 1, 2, 3, 4] := by decide
  rw [r5]
  show true :: [isValidPosition g ag (movePosition ag.position ((1 : Nat) : Int)),
    isValidPosition g ag (movePosition ag.position ((2 : Nat) : Int)),
    isValidPosition g ag (movePosition ag.position ((3 : Nat) : Int)),
    isValidPosition g ag (movePosition ag.position ((4 : Nat) : Int))] = _
  rw [validMove_eq h ag (a := 1) rfl, validMove_eq h ag (a := 2) rfl, validMove_eq h ag (a := 3) rfl,
    validMove_eq h ag (a := 4) rfl]
  simp [dir]

theorem mask_iff_legal {n : Nat} (s : State) (h : Grid.shaped s.grid n n = true) (i a : Nat)
    (hi : i < s.agents.length) (ha : a < 5) :
    ((actionMask s.grid s.agents).getD i []).getD a false = true ↔ legal n s i a := by
  have e : (actionMask s.grid s.agents).getD i [] = agentMask s.grid s.agents[i] := by
    simp [actionMask, List.getD, hi]
  rw [e, agentMask_eq h, legal_iff (List.getElem?_eq_getElem hi)]
  simp [List.getD_eq_getElem?_getD, ha]

theorem stepAgent_eq {g : Grid Int} {n : Nat} (h : Grid.shaped g n n = true) (ag : Agent) (a : Nat) (ha : a < 5) :
    stepAgent g ag (a : Int) =
      if a ≠ 0 ∧ ∃ d, dir a = some d ∧ canEnter n g ag (ag.position.1 + d.1, ag.position.2 + d.2)
      then moveAgent ag g (movePosition ag.position (a : Int)) else (ag, g) := by
  rcases a with _ | _ | _ | _ | _ | a
  · simp [stepAgent]
  all_goals first
    | omega
    | simp [stepAgent, dir, movePosition, isValidPosition_eq h, Int.sub_eq_add_neg]

theorem stepAgent_eq_rules {g : Grid Int} {n : Nat} (h : Grid.shaped g n n = true) (ag : Agent) (a : Nat)
    (ha : a < 5) (hp : inGrid n ag.position) :
    stepAgent g ag (a : Int) =
      match proposal n g ag (a : Int) with
      | none => (ag, g)
      | some p => (moved ag (some p), setCell (setCell g p (posVal ag.id)) ag.position (pathVal ag.id)) := by
  rw [stepAgent_eq h ag a ha]
  unfold proposal
  simp only [Int.toNat_natCast]
  cases hd : dir a with
  | none => simp
  | some d =>
    have ha0 : a ≠ 0 := by have := dir_some hd; omega
    have ha0' : (0 : Int) < (a : Int) := by omega
    simp only [ha0, ne_eq, not_false_eq_true, true_and, Option.some.injEq, exists_eq_left', ha0']
    by_cases hc : canEnter n g ag (ag.position.1 + d.1, ag.position.2 + d.2)
    · simp only [hc, if_true]
      unfold moveAgent moved
      rw [movePosition_dir hd]
      obtain ⟨⟨q1, -, q3, -⟩, _, _⟩ := hc
      obtain ⟨r1, -, r3, -⟩ := hp
      rw [setWD_eq_setCell g q1 q3]
      simp only []
      rw [setWD_eq_setCell _ r1 r3]
    · simp only [hc, if_false]

theorem stepAgent_noop (g : Grid Int) (ag : Agent) : stepAgent g ag 0 = (ag, g) := by simp [stepAgent]

theorem stepAgent_of_illegal {s : State} {n : Nat} (h : Grid.shaped s.grid n n = true) {i : Nat} {ag : Agent}
    (hag : s.agents[i]? = some ag) (a : Int) (h0 : 0 ≤ a) (h4 : a ≤ 4) (hl : legalInt n s i a = false) :
    stepAgent s.grid ag a = (ag, s.grid) := by
  have e : a = ((a.toNat : Nat) : Int) := by omega
  have hl' : ¬ legal n s i a.toNat := by
    unfold legalInt at hl; simp [h0] at hl; exact hl
  rw [e, stepAgent_eq h ag a.toNat (by omega)]
  have : ¬ (a.toNat ≠ 0 ∧ ∃ d, dir a.toNat = some d ∧ canEnter n s.grid ag (ag.position.1 + d.1, ag.position.2 + d.2)) := by
    intro ⟨_, d, hd, hc⟩
    exact hl' (Or.inr ⟨d, hd, ag, hag, hc⟩)
  simp only [this, if_false]

theorem stepEach_sanitize {s : State} {n : Nat} (h : Grid.shaped s.grid n n = true) (acts : List Int)
    (hspec : ∀ a ∈ acts, 0 ≤ a ∧ a ≤ 4) : stepEach s (sanitize n s acts) = stepEach s acts := by
  apply List.ext_getElem?
  intro i
  unfold stepEach sanitize
  simp only [List.getElem?_zipWith, List.getElem?_map, List.getElem?_zipIdx]
  cases hag : s.agents[i]? with
  | none => simp
  | some ag =>
    cases ha : acts[i]? with
    | none => simp
    | some a =>
      have hm : a ∈ acts := List.mem_of_getElem? ha
      obtain ⟨h0, h4⟩ := hspec a hm
      simp only [Option.map_some, Nat.zero_add]
      cases hl : legalInt n s i a with
      | true => simp
      | false =>
        simp only [Bool.false_eq_true, if_false]
        rw [stepAgent_noop, stepAgent_of_illegal h hag a h0 h4 hl]

/-- the per-agent grids that `_step_agents` joins (`jax.vmap(get_agent_grid)(agent_ids, grids)`) -/
def agentGrids (k : Nat) (s : State) (acts : List Int) : List (Grid Int) :=
  List.zipWith (fun id (x : Agent × Grid Int) => getAgentGrid id x.2) (agentIds k) (stepEach s acts)

theorem stepAgents_grid (k : Nat) (s : State) (acts : List Int) :
    (stepAgents k s acts).2 =
      Grid.zipWith (· + ·) (joinGrids (agentGrids k s acts))
        (sumGrids (Grid.map (fun _ => (0 : Int)) s.grid)
          ((agentIds k).map (correctionMask s.grid (joinGrids (agentGrids k s acts))))) := rfl

theorem stepEach_length (s : State) (acts : List Int) (h : acts.length = s.agents.length) :
    (stepEach s acts).length = s.agents.length := by
  unfold stepEach; simp [h]

theorem stepAgents_length (k : Nat) (s : State) (acts : List Int) (hl : s.agents.length = k) (ha : acts.length = k) :
    (stepAgents k s acts).1.length = k := by
  unfold stepAgents resolve
  simp [agentIds, stepEach_length s acts (by omega), hl]

theorem stepAgent_shaped {g : Grid Int} {n : Nat} (h : Grid.shaped g n n = true) (ag : Agent) (a : Int) :
    Grid.shaped (stepAgent g ag a).2 n n = true := by
  unfold stepAgent
  simp only []
  split
  · unfold moveAgent; exact Grid.shaped_setWD (Grid.shaped_setWD h _ _ _) _ _ _
  · exact h

theorem agentGrids_shaped {n : Nat} {s : State} (hs : Grid.shaped s.grid n n = true) (k : Nat) (acts : List Int) :
    ∀ G ∈ agentGrids k s acts, Grid.shaped G n n = true := by
  intro G hG
  obtain ⟨i, hi, rfl⟩ := List.getElem_of_mem hG
  simp only [agentGrids, stepEach, List.getElem_zipWith]
  exact Grid.shaped_map_of _ (stepAgent_shaped hs _ _)

theorem zipWith_add_map (h f : Int → Int) (g : Grid Int) :
    Grid.zipWith (· + ·) (Grid.map h g) (Grid.map f g) = Grid.map (fun v => h v + f v) g := by
  unfold Grid.zipWith Grid.map
  induction g with
  | nil => rfl
  | cons r g ih =>
    simp only [List.map_cons, List.zipWith_cons_cons, ih]
    congr 1
    induction r with
    | nil => rfl
    | cons v r ihr => simp only [List.map_cons, List.zipWith_cons_cons, ihr]

/-- a fold of pointwise sums of maps of one grid is one map of that grid -/
theorem sum_maps (f : Int → Int → Int) (g : Grid Int) :
    ∀ (ids : List Int) (h : Int → Int),
      (ids.map (fun id => Grid.map (f id) g)).foldl (Grid.zipWith (· + ·)) (Grid.map h g) =
        Grid.map (fun v => h v + (ids.map (fun id => f id v)).sum) g := by
  intro ids
  induction ids with
  | nil => intro h; simp
  | cons id ids ih =>
    intro h
    simp only [List.map_cons, List.foldl_cons, zipWith_add_map, ih, List.sum_cons]
    congr 1
    funext v
    omega

/-- the summed correction masks are a function of the old cell value, for any grid (no shape needed) -/
theorem corrGrid_eq (k : Nat) (old joined : Grid Int) :
    sumGrids (Grid.map (fun _ => (0 : Int)) old) ((agentIds k).map (correctionMask old joined)) =
      Grid.map (fun v => 0 + ((agentIds k).map (fun id =>
        (if v = posVal id then (2 - 1 : Int) else 0) * (if hasCollision joined id then 1 else 0))).sum) old :=
  sum_maps (fun id v => (if v = posVal id then (2 - 1 : Int) else 0) * (if hasCollision joined id then 1 else 0)) old
    (agentIds k) (fun _ => 0)

theorem agentIds_succ (k : Nat) : agentIds (k + 1) = agentIds k ++ [(k : Int)] := by
  unfold agentIds; rw [List.range_succ]; simp

theorem sum_ids_zero (f : Int → Int) (k : Nat) (h : ∀ i : Nat, i < k → f i = 0) : ((agentIds k).map f).sum = 0 := by
  induction k with
  | zero => rfl
  | succ k ih =>
    rw [agentIds_succ, List.map_append, List.sum_append, ih fun i hi => h i (by omega)]
    simp [h k (by omega)]

theorem sum_ids_single (f : Int → Int) (k j : Nat) (hj : j < k) (h : ∀ i : Nat, i < k → i ≠ j → f i = 0) :
    ((agentIds k).map f).sum = f j := by
  induction k with
  | zero => omega
  | succ k ih =>
    rw [agentIds_succ, List.map_append, List.sum_append]
    by_cases e : j = k
    · subst e
      rw [sum_ids_zero f j fun i hi => h i (by omega) (by omega)]
      simp
    · rw [ih (by omega) fun i hi hne => h i (by omega) hne]
      simp [h k (by omega) fun e' => e e'.symm]

theorem stepAgents_get (k : Nat) (s : State) (acts : List Int) {i : Nat} {ag : Agent} {a : Int} (hi : i < k)
    (hag : s.agents[i]? = some ag) (ha : acts[i]? = some a) :
    (stepAgents k s acts).1[i]? =
      some (if hasCollision (joinGrids (agentGrids k s acts)) (i : Int) = true then ag else (stepAgent s.grid ag a).1) := by
  show (resolve k s (stepEach s acts)).1[i]? = _
  simp only [resolve, stepEach, List.getElem?_zipWith, List.getElem?_map, agentIds, List.getElem?_range hi, hag, ha,
    Option.map_some]
  rfl

theorem step_count (cfg : Cfg) (s : State) (acts : List Int) :
    (step cfg s acts).1.stepCount = s.stepCount + 1 := by
  unfold step finish; rfl

theorem step_grid (cfg : Cfg) (s : State) (acts : List Int) :
    (step cfg s acts).1.grid = (stepAgents cfg.k s acts).2 := rfl

theorem step_agents (cfg : Cfg) (s : State) (acts : List Int) :
    (step cfg s acts).1.agents = (stepAgents cfg.k s acts).1 := rfl

theorem step_agent_cases (cfg : Cfg) (s : State) (acts : List Int) {i : Nat} {ag : Agent} {a : Int}
    (hi : i < cfg.k) (hag : s.agents[i]? = some ag) (ha : acts[i]? = some a) :
    (step cfg s acts).1.agents[i]? = some ag ∨ (step cfg s acts).1.agents[i]? = some (stepAgent s.grid ag a).1 := by
  rw [step_agents, stepAgents_get cfg.k s acts hi hag ha]
  split
  · exact Or.inl rfl
  · exact Or.inr rfl

theorem stay_or_move (cfg : Cfg) (s : State) (acts : List Int) {i : Nat} {ag : Agent} {a : Int}
    (hi : i < cfg.k) (hag : s.agents[i]? = some ag) (ha : acts[i]? = some a) :
    (step cfg s acts).1.agents[i]? = some ag ∨
    ((step cfg s acts).1.agents[i]? = some { ag with position := movePosition ag.position a } ∧
      isValidPosition s.grid ag (movePosition ag.position a) = true ∧ a ≠ 0) := by
  rcases step_agent_cases cfg s acts hi hag ha with h | h
  · exact Or.inl h
  · by_cases hv : (isValidPosition s.grid ag (movePosition ag.position a) && a != 0) = true
    · simp only [stepAgent, moveAgent, hv, if_true] at h
      simp only [Bool.and_eq_true, bne_iff_ne] at hv
      exact Or.inr ⟨h, hv.1, hv.2⟩
    · simp only [stepAgent, hv] at h
      exact Or.inl h

theorem step_ts (cfg : Cfg) (s : State) (acts : List Int) :
    (step cfg s acts).2 =
      condLastDiscount
        ((List.zipWith connectedOrBlocked (step cfg s acts).1.agents
            (actionMask (step cfg s acts).1.grid (step cfg s acts).1.agents)).all id ||
          decide ((step cfg s acts).1.stepCount ≥ cfg.timeLimit))
        (denseReward cfg s.agents (step cfg s acts).1.agents) (observeL1 (step cfg s acts).1)
        ((List.zipWith connectedOrBlocked (step cfg s acts).1.agents
            (actionMask (step cfg s acts).1.grid (step cfg s acts).1.agents)).map (fun d => 1 - b2r d))
        (some cfg.k) := rfl

/-- `step` emits the L1 observer of its own successor; that this observer is the documented `observe` is
`observeL1_eq_observe`. -/
theorem obs_faithful (cfg : Cfg) (s : State) (acts : List Int) :
    (step cfg s acts).2.obs = observeL1 (step cfg s acts).1 := by
  rw [step_ts, condLastDiscount_eq]

theorem observeL1_eq_observe {n : Nat} (s : State) (h : Grid.shaped s.grid n n = true) :
    observeL1 s = observe n s := by
  unfold observeL1 observe actionMask
  congr 1
  apply List.ext_getElem (by simp)
  intro i h1 h2
  have hi : i < s.agents.length := by simpa using h1
  rw [List.getElem_map, List.getElem_map, List.getElem_range, agentMask_eq h]
  apply List.map_congr_left
  intro a _
  exact decide_eq_decide.2 (legal_iff (List.getElem?_eq_getElem hi) a).symm

theorem last_iff (cfg : Cfg) (s : State) (acts : List Int) :
    (step cfg s acts).2.stepType = .last ↔
      ((List.zipWith connectedOrBlocked (step cfg s acts).1.agents
          (actionMask (step cfg s acts).1.grid (step cfg s acts).1.agents)).all id = true ∨
       cfg.timeLimit ≤ (step cfg s acts).1.stepCount) := by
  have last : ∀ b : Bool, (if b then StepType.last else .mid) = .last ↔ b = true := by decide
  rw [step_ts, condLastDiscount_eq, last, Bool.or_eq_true, decide_eq_true_eq]

theorem discount_eq (cfg : Cfg) (s : State) (acts : List Int) :
    (step cfg s acts).2.discount =
      if (step cfg s acts).2.stepType = .last then List.replicate cfg.k 0
      else (List.zipWith connectedOrBlocked (step cfg s acts).1.agents
          (actionMask (step cfg s acts).1.grid (step cfg s acts).1.agents)).map (fun d => 1 - b2r d) := by
  rw [step_ts, condLastDiscount_eq]
  split <;> simp [zerosR, RShape.size]

theorem connected_iff (ag : Agent) : ag.connected = true ↔ isConnected ag := by
  unfold Agent.connected isConnected
  constructor
  · intro h; simp at h; exact Prod.ext h.1 h.2
  · intro h; rw [h]; simp

theorem denseReward_eq (cfg : Cfg) (old new : List Agent) :
    denseReward cfg old new = List.zipWith (rewardL2 cfg) old new := by
  unfold denseReward
  congr 1
  funext o n
  unfold rewardL2 b2r
  by_cases ho : isConnected o <;> by_cases hn : isConnected n <;>
    simp [ho, hn, (connected_iff o).2, (connected_iff n).2] <;>
    simp_all [← connected_iff]

theorem step_reward (cfg : Cfg) (s : State) (acts : List Int) :
    (step cfg s acts).2.reward = List.zipWith (rewardL2 cfg) s.agents (step cfg s acts).1.agents := by
  rw [← denseReward_eq, step_ts, condLastDiscount_eq]

theorem stepAgent_connected (g : Grid Int) (ag : Agent) (a : Int) (h : ag.connected = true) :
    stepAgent g ag a = (ag, g) := by simp [stepAgent, isValidPosition, h]

theorem connected_frozen (cfg : Cfg) (s : State) (acts : List Int) {i : Nat} {ag : Agent} {a : Int}
    (hi : i < cfg.k) (hag : s.agents[i]? = some ag) (ha : acts[i]? = some a) (hc : isConnected ag) :
    (step cfg s acts).1.agents[i]? = some ag := by
  have := step_agent_cases cfg s acts hi hag ha
  rwa [stepAgent_connected _ ag a ((connected_iff ag).2 hc), or_self] at this

/-- the return of one agent along an episode, from its connected flags `[c₀, c₁, …, c_T]` -/
def episodeReturn (cR tR : Rat) : List Bool → Rat
  | c0 :: c1 :: rest => (if !c0 && c1 then cR else 0) + (if !c0 then tR else 0) + episodeReturn cR tR (c1 :: rest)
  | _ => 0

/-- once connected, connected at every later state -/
def monotone : List Bool → Prop
  | c0 :: c1 :: rest => (c0 = true → c1 = true) ∧ monotone (c1 :: rest)
  | _ => True

/-- the connected bonus if unconnected at the first and connected at the last flag, plus the step reward for every
unconnected flag but the last -/
def closedForm (cR tR : Rat) (cs : List Bool) : Rat :=
  (if !(cs.head?.getD false) && cs.getLast?.getD false then cR else 0) +
  tR * (((cs.dropLast).filter (fun c => !c)).length : Nat)

theorem monotone_last {c : Bool} {rest : List Bool} (h : monotone (c :: rest)) (hc : c = true) :
    (c :: rest).getLast?.getD false = true := by
  induction rest generalizing c with
  | nil => simp [hc]
  | cons d rest ih =>
    rw [List.getLast?_cons_cons]
    exact ih h.2 (h.1 hc)

theorem episodeReturn_closed (cR tR : Rat) (cs : List Bool) (h : monotone cs) :
    episodeReturn cR tR cs = closedForm cR tR cs := by
  induction cs with
  | nil => simp [episodeReturn, closedForm]; grind
  | cons c0 rest ih =>
    cases rest with
    | nil => simp [episodeReturn, closedForm]; grind
    | cons c1 rest =>
      have ih' := ih h.2
      have hl : (c0 :: c1 :: rest).getLast?.getD false = (c1 :: rest).getLast?.getD false := by
        rw [List.getLast?_cons_cons]
      unfold episodeReturn
      rw [ih']
      unfold closedForm
      rw [hl, List.dropLast_cons_cons]
      cases c0 <;> cases c1
      · simp; grind
      · have := monotone_last h.2 rfl
        simp [this]; grind
      · exact absurd (h.1 rfl) (by simp)
      · have := monotone_last h.2 rfl
        simp [this]; grind

theorem objectiveOf_eq (cfg : Cfg) (tr : List State) (i : Nat) :
    objectiveOf cfg tr i = closedForm cfg.connectedReward cfg.timestepReward (tr.map (fun s => connectedAt s i)) := by
  unfold objectiveOf closedForm
  cases tr with
  | nil => simp; grind
  | cons s rest =>
    have hl : ((s :: rest).map (fun s => connectedAt s i)).getLast? = ((s :: rest).getLast?).map (fun s => connectedAt s i) := by
      rw [List.getLast?_map]
    have hd : ((s :: rest).map (fun s => connectedAt s i)).dropLast = ((s :: rest).dropLast).map (fun s => connectedAt s i) := by
      rw [List.map_dropLast]
    rw [hl, hd]
    cases hL : (s :: rest).getLast? with
    | none => simp at hL
    | some sT =>
      simp only [List.head?_map, List.head?_cons, Option.map_some, Option.getD_some, List.filter_map, List.length_map, Function.comp_def]

theorem agentRoute_sound (n : Nat) (g : Grid Int) (ag : Agent) (h : agentRouteB n g ag = true) :
    (ag.start = ag.position ∧ countVal g (pathVal ag.id) = 0) ∨
    ∃ r, isRoute n g (pathVal ag.id) ag.start ag.position (countVal g (pathVal ag.id) - 1) r = true := by
  unfold agentRouteB at h
  split at h
  · rename_i e; left; exact ⟨e, by simpa using h⟩
  · right
    simp only [] at h
    split at h
    · rename_i r _; exact ⟨r, h⟩
    · simp at h

end Connector
