/- C10: the board the generators emit is fresh (for every possible draw of `UniformRandomGenerator`).  `Written`: what
the two scatters of heads and targets do to any grid (`scatter_written`; also used for the solved board of the walk);
`unflat` on naturals. -/
import JumanjiModel.Env.Connector.ConsLemmas
namespace Connector
open Jm Jx

theorem scatter_eq_assign (g : Grid Int) (ps : List Pos) (vals : List Int) :
    scatter g ps vals = assign g (List.zip ps vals) := rfl

theorem shaped_zeroGrid (n : Nat) : Grid.shaped (zeroGrid n) n n = true := by
  simp [zeroGrid, Grid.mk, Grid.shaped]

theorem cell_zeroGrid (n : Nat) (q : Pos) : cell (zeroGrid n) q = 0 := by
  unfold cell zeroGrid Grid.mk Grid.get
  simp only [List.getD, List.getElem?_replicate]
  split <;> simp [List.getElem?_replicate] <;> split <;> simp

theorem nonZero_zeroGrid (n : Nat) : nonZero (zeroGrid n) = 0 := by
  unfold nonZero
  rw [count_zero_iff _ (shaped_zeroGrid n)]
  intro q _; simp [cell_zeroGrid]

theorem mkAgents_getElem? {k : Nat} {s t p : List Pos} {i : Nat} {ag : Agent}
    (h : (mkAgents k s t p)[i]? = some ag) :
    i < k ∧ ag = ⟨(i : Int), s.getD i (0, 0), t.getD i (0, 0), p.getD i (0, 0)⟩ := by
  unfold mkAgents at h
  rw [List.getElem?_map] at h
  by_cases hi : i < k
  · rw [List.getElem?_range hi] at h
    simp only [Option.map_some, Option.some.injEq] at h
    exact ⟨hi, h.symm⟩
  · rw [List.getElem?_eq_none (by simp; omega)] at h; simp at h

theorem mem_zip_ids {k : Nat} (ps : List Pos) (f : Int → Int) (hl : ps.length = k) (x : Pos × Int) :
    x ∈ List.zip ps ((agentIds k).map f) ↔ ∃ i, i < k ∧ x = (ps.getD i (0, 0), f (i : Int)) := by
  rw [List.mem_iff_getElem?]
  constructor
  · rintro ⟨i, hi⟩
    rw [List.getElem?_zip_eq_some] at hi
    obtain ⟨h1, h2⟩ := hi
    have hik : i < k := by
      rcases Nat.lt_or_ge i k with h | h
      · exact h
      · rw [List.getElem?_eq_none (by omega)] at h1; simp at h1
    refine ⟨i, hik, ?_⟩
    simp only [agentIds, List.map_map, List.getElem?_map, List.getElem?_range hik, Option.map_some,
      Option.some.injEq, Function.comp] at h2
    apply Prod.ext
    · simp [List.getD, h1]
    · exact h2.symm
  · rintro ⟨i, hik, rfl⟩
    refine ⟨i, ?_⟩
    rw [List.getElem?_zip_eq_some]
    constructor
    · simp [List.getD, List.getElem?_eq_getElem (show i < ps.length by omega)]
    · simp [agentIds, List.getElem?_range hik]

/-- `G` is `g` with the head values written at `heads` and the target values at `targets`: on the empty grid the board
both generators hand out, on the walk's grid the solution `RandomWalkGenerator` records -/
structure Written (n k : Nat) (heads targets : List Pos) (g G : Grid Int) : Prop where
  shaped : Grid.shaped G n n = true
  headAt : ∀ i, i < k → cell G (heads.getD i (0, 0)) = posVal (i : Int)
  tgtAt : ∀ i, i < k → cell G (targets.getD i (0, 0)) = tgtVal (i : Int)
  cases : ∀ q, inGrid n q →
    (cell G q = cell g q ∧ ∀ i, i < k → q ≠ heads.getD i (0, 0) ∧ q ≠ targets.getD i (0, 0)) ∨
    (∃ i, i < k ∧ q = heads.getD i (0, 0) ∧ cell G q = posVal (i : Int)) ∨
    (∃ i, i < k ∧ q = targets.getD i (0, 0) ∧ cell G q = tgtVal (i : Int))

theorem written_of_assign {n k : Nat} {heads targets : List Pos} {asg : List (Pos × Int)} {g : Grid Int}
    (hg : Grid.shaped g n n = true)
    (hmem : ∀ x, x ∈ asg ↔ (∃ i, i < k ∧ x = (heads.getD i (0, 0), posVal (i : Int))) ∨
      (∃ i, i < k ∧ x = (targets.getD i (0, 0), tgtVal (i : Int))))
    (hnd : (asg.map Prod.fst).Nodup) (hin : ∀ x ∈ asg, inGrid n x.1) :
    Written n k heads targets g (assign g asg) := by
  obtain ⟨r1, r2, r3⟩ := assign_spec asg g hg hin hnd
  have mA : ∀ i, i < k → (heads.getD i (0, 0), posVal (i : Int)) ∈ asg := fun i hi => (hmem _).2 (Or.inl ⟨i, hi, rfl⟩)
  have mB : ∀ i, i < k → (targets.getD i (0, 0), tgtVal (i : Int)) ∈ asg := fun i hi => (hmem _).2 (Or.inr ⟨i, hi, rfl⟩)
  have hA : ∀ i, i < k → cell (assign g asg) (heads.getD i (0, 0)) = posVal (i : Int) :=
    fun i hi => r2 (heads.getD i (0, 0), posVal (i : Int)) (mA i hi)
  have hB : ∀ i, i < k → cell (assign g asg) (targets.getD i (0, 0)) = tgtVal (i : Int) :=
    fun i hi => r2 (targets.getD i (0, 0), tgtVal (i : Int)) (mB i hi)
  refine ⟨r1, hA, hB, ?_⟩
  intro q hq
  by_cases hm : q ∈ asg.map Prod.fst
  · obtain ⟨x, hx, rfl⟩ := List.mem_map.1 hm
    rcases (hmem x).1 hx with ⟨i, hi, rfl⟩ | ⟨i, hi, rfl⟩
    · exact Or.inr (Or.inl ⟨i, hi, rfl, hA i hi⟩)
    · exact Or.inr (Or.inr ⟨i, hi, rfl, hB i hi⟩)
  · refine Or.inl ⟨r3 q hq hm, fun i hi => ⟨fun e => hm ?_, fun e => hm ?_⟩⟩
    · rw [e]; exact List.mem_map_of_mem (f := Prod.fst) (mA i hi)
    · rw [e]; exact List.mem_map_of_mem (f := Prod.fst) (mB i hi)

theorem scatter_scatter (k : Nat) (g : Grid Int) (heads targets : List Pos) (hs : heads.length = k) (ht : targets.length = k) :
    ∃ asg, scatter (scatter g heads ((agentIds k).map posVal)) targets ((agentIds k).map tgtVal) = assign g asg ∧
      asg.map Prod.fst = heads ++ targets ∧ asg.length = 2 * k ∧
      ∀ x, x ∈ asg ↔ (∃ i, i < k ∧ x = (heads.getD i (0, 0), posVal (i : Int))) ∨
        (∃ i, i < k ∧ x = (targets.getD i (0, 0), tgtVal (i : Int))) := by
  have hil : (agentIds k).length = k := by simp [agentIds]
  refine ⟨List.zip heads ((agentIds k).map posVal) ++ List.zip targets ((agentIds k).map tgtVal), ?_, ?_, ?_, fun x => ?_⟩
  · rw [scatter_eq_assign, scatter_eq_assign, ← assign_append]
  · rw [List.map_append, List.map_fst_zip (by simp [hil, hs]), List.map_fst_zip (by simp [hil, ht])]
  · simp [hil, hs, ht]; omega
  · rw [List.mem_append, mem_zip_ids heads posVal hs, mem_zip_ids targets tgtVal ht]

theorem scatter_written (n k : Nat) (heads targets : List Pos) (hs : heads.length = k) (ht : targets.length = k)
    (hnd : (heads ++ targets).Nodup) (hin : ∀ p ∈ heads ++ targets, inGrid n p) (g : Grid Int)
    (hg : Grid.shaped g n n = true) :
    Written n k heads targets g
      (scatter (scatter g heads ((agentIds k).map posVal)) targets ((agentIds k).map tgtVal)) := by
  obtain ⟨asg, e, hfst, _, hmem⟩ := scatter_scatter k g heads targets hs ht
  rw [e]
  exact written_of_assign hg hmem (hfst ▸ hnd) fun x hx => hin _ (hfst ▸ List.mem_map_of_mem hx)

theorem emit_cells (n k : Nat) (starts targets : List Pos) (hs : starts.length = k) (ht : targets.length = k)
    (hnd : (starts ++ targets).Nodup) (hin : ∀ p ∈ starts ++ targets, inGrid n p) :
    Written n k starts targets (zeroGrid n) (emitBoard n k starts targets).grid ∧
      nonZero (emitBoard n k starts targets).grid = 2 * k := by
  refine ⟨scatter_written n k starts targets hs ht hnd hin _ (shaped_zeroGrid n), ?_⟩
  obtain ⟨asg, e, hfst, hlen, hmem⟩ := scatter_scatter k (zeroGrid n) starts targets hs ht
  show nonZero (scatter (scatter (zeroGrid n) starts _) targets _) = _
  have hv : ∀ x ∈ asg, x.2 ≠ 0 := by
    intro x hx
    rcases (hmem x).1 hx with ⟨i, _, rfl⟩ | ⟨i, _, rfl⟩
    · simp only [posVal]; omega
    · simp only [tgtVal]; omega
  rw [e, assign_nonZero asg (zeroGrid n) (shaped_zeroGrid n) (fun x hx => hin _ (hfst ▸ List.mem_map_of_mem hx))
    (hfst ▸ hnd) hv, List.filter_eq_self.2 fun x _ => by simp [cell_zeroGrid], nonZero_zeroGrid, hlen]
  omega

/-- no disjointness hypothesis: a head cell is no target cell because the two hold different values -/
theorem cons_of_written {n k : Nat} {heads targets : List Pos} {G : Grid Int}
    (c : Written n k heads targets (zeroGrid n) G) (hSin : ∀ i, i < k → inGrid n (heads.getD i (0, 0)))
    (hTin : ∀ i, i < k → inGrid n (targets.getD i (0, 0))) : Cons n k ⟨G, 0, mkAgents k heads targets heads⟩ := by
  have hST : ∀ i j, i < k → j < k → heads.getD i (0, 0) ≠ targets.getD j (0, 0) := by
    intro i j hi hj e
    have := c.headAt i hi
    rw [e, c.tgtAt j hj] at this
    unfold posVal tgtVal at this; omega
  have cs : ∀ q, inGrid n q → cell G q = 0 ∨
      (∃ i, i < k ∧ q = heads.getD i (0, 0) ∧ cell G q = posVal (i : Int)) ∨
      (∃ i, i < k ∧ q = targets.getD i (0, 0) ∧ cell G q = tgtVal (i : Int)) := fun q hq =>
    (c.cases q hq).imp_left fun h => h.1.trans (cell_zeroGrid n q)
  refine ⟨c.shaped, by simp [mkAgents], ?_, ?_, Int.le_refl 0⟩
  · intro i ag hag
    obtain ⟨hi, rfl⟩ := mkAgents_getElem? hag
    refine ⟨rfl, hSin i hi, hTin i hi, hSin i hi, c.headAt i hi, ?_, ?_, fun _ => c.tgtAt i hi, ?_, ?_, ?_⟩
    · intro q hq hv
      rcases cs q hq with h0 | ⟨j, hj, e, hc⟩ | ⟨j, hj, e, hc⟩
      · rw [h0] at hv; simp only [posVal] at hv; omega
      · rw [hc] at hv; simp only [posVal] at hv
        have : j = i := by omega
        subst this; exact e
      · rw [hc] at hv; simp only [posVal, tgtVal] at hv; omega
    · intro e; exact absurd e (hST i i hi hi)
    · intro _ q hq hv
      rcases cs q hq with h0 | ⟨j, hj, e, hc⟩ | ⟨j, hj, e, hc⟩
      · rw [h0] at hv; simp only [tgtVal] at hv; omega
      · rw [hc] at hv; simp only [posVal, tgtVal] at hv; omega
      · rw [hc] at hv; simp only [tgtVal] at hv
        have : j = i := by omega
        subst this; exact e
    · intro _ q hq hv
      rcases cs q hq with h0 | ⟨j, hj, e, hc⟩ | ⟨j, hj, e, hc⟩
      · rw [h0] at hv; simp only [pathVal] at hv; omega
      · rw [hc] at hv; simp only [posVal, pathVal] at hv; omega
      · rw [hc] at hv; simp only [tgtVal, pathVal] at hv; omega
    · intro e; exact absurd rfl e
  · intro q hq
    rcases cs q hq with h0 | ⟨j, hj, e, hc⟩ | ⟨j, hj, e, hc⟩
    · rw [h0]; omega
    · rw [hc]; simp only [posVal]; omega
    · rw [hc]; simp only [tgtVal]; omega

theorem emit_cons (n k : Nat) (starts targets : List Pos) (hs : starts.length = k) (ht : targets.length = k)
    (hnd : (starts ++ targets).Nodup) (hin : ∀ p ∈ starts ++ targets, inGrid n p) :
    Cons n k (emitBoard n k starts targets) :=
  cons_of_written (emit_cells n k starts targets hs ht hnd hin).1
    (fun i hi => hin _ (List.mem_append_left _ (getD_mem _ (by omega))))
    (fun i hi => hin _ (List.mem_append_right _ (getD_mem _ (by omega))))

theorem emit_fresh (n k : Nat) (starts targets : List Pos) (hs : starts.length = k) (ht : targets.length = k)
    (hnd : (starts ++ targets).Nodup) (hin : ∀ p ∈ starts ++ targets, inGrid n p) :
    freshB n k (emitBoard n k starts targets) = true := by
  have hS : (emitBoard n k starts targets).agents.map (·.start) = starts := by
    simp only [emitBoard, mkAgents, List.map_map]
    exact hs ▸ range_map_getD starts _
  have hT : (emitBoard n k starts targets).agents.map (·.target) = targets := by
    simp only [emitBoard, mkAgents, List.map_map]
    exact ht ▸ range_map_getD targets _
  refine (fresh_iff n k _).2 ⟨(consistent_iff n k _).2 (emit_cons n k starts targets hs ht hnd hin), rfl, ?_,
    by rw [hS, hT]; exact hnd, (emit_cells n k starts targets hs ht hnd hin).2⟩
  intro ag hag
  simp only [emitBoard, mkAgents, List.mem_map] at hag
  obtain ⟨i, _, rfl⟩ := hag
  rfl

theorem unflat_nat (n c : Nat) : unflat n (c : Int) = (((c / n : Nat) : Int), ((c % n : Nat) : Int)) := by
  simp [unflat, Int.natCast_ediv, Int.natCast_emod]

theorem unflat_inGrid {n c : Nat} (h : c < n * n) : inGrid n (unflat n (c : Int)) :=
  Jx.divmod_inGrid (Int.natCast_nonneg c) (Int.ofNat_lt.2 h)

theorem unflat_inj {n c c' : Nat} (e : unflat n (c : Int) = unflat n (c' : Int)) : c = c' :=
  Int.ofNat_inj.1 (Jx.divmod_inj (congrArg Prod.fst e) (congrArg Prod.snd e))

/-- C10: for EVERY possible draw of `choice(replace=False)` the board of `UniformRandomGenerator` is fresh -/
theorem uniform_reset_fresh (n k : Nat) (cells : List Nat) (h : validUniformDraw n k cells = true) :
    freshB n k (uniformGenerate n k cells) = true := by
  unfold validUniformDraw at h
  simp only [Bool.and_eq_true, beq_iff_eq, decide_eq_true_eq, List.all_eq_true] at h
  obtain ⟨⟨hl, hnd⟩, hlt⟩ := h
  have hcat : (cells.take k).map (fun (c : Nat) => unflat n (c : Int)) ++ (cells.drop k).map (fun (c : Nat) => unflat n (c : Int)) =
      cells.map (fun (c : Nat) => unflat n (c : Int)) := by
    rw [← List.map_append, List.take_append_drop]
  unfold uniformGenerate
  apply emit_fresh
  · simp; omega
  · simp; omega
  · rw [hcat]
    exact List.Pairwise.map _ (fun a b hab e => hab (unflat_inj e)) hnd
  · rw [hcat]
    intro p hp
    obtain ⟨c, hc, rfl⟩ := List.mem_map.1 hp
    exact unflat_inGrid (hlt c hc)

end Connector
