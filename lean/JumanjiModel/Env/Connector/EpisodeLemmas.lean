/- Connector: whole episodes.  (1) the solving episode of `SolveLemmas` read step by step (index `t` of the trace),
with the implementation model `step` (L1) in place of the rules `stepL2`; (2) the return of ANY episode of joint
actions of the right length from a state with `k` agents equals the documented objective, per agent; (3) for the
solving episode, the number of steps each agent starts unconnected, as the length of the plan of agents `0 … i`
(`plan_count`; as a sum of route lengths by `planFrom_length`). -/
import JumanjiModel.Env.Connector.SolveLemmas
import JumanjiModel.Core.Play
namespace Connector
open Jm Jx

theorem traceL2_eq (cfg : Cfg) (s : State) (acts : List (List Int)) :
    traceL2 cfg s acts = s :: (EpRun.run (stepL2 cfg) s acts).map (·.1) :=
  EpRun.states_unique (stepL2 cfg) (traceL2 cfg) (fun _ => rfl) (fun _ _ _ => rfl) s acts

theorem traceL1_eq (cfg : Cfg) (s : State) (acts : List (List Int)) :
    traceL1 cfg s acts = s :: (EpRun.run (step cfg) s acts).map (·.1) :=
  EpRun.states_unique (step cfg) (traceL1 cfg) (fun _ => rfl) (fun _ _ _ => rfl) s acts

theorem trace_succ (cfg : Cfg) {s0 : State} {actss : List (List Int)} {t : Nat} {s : State} {a : List Int}
    (hs : (traceL2 cfg s0 actss)[t]? = some s) (ha : actss[t]? = some a) :
    (traceL2 cfg s0 actss)[t + 1]? = some (stepL2 cfg s a).1 := by
  obtain ⟨ht, rfl⟩ := List.getElem?_eq_some_iff.1 ha
  rw [traceL2_eq] at hs ⊢
  rw [EpRun.states_getElem? _ _ _ _ (Nat.le_of_lt ht)] at hs
  rw [EpRun.states_getElem? _ _ _ _ ht, EpRun.after_take_succ _ _ _ _ ht, Option.some.inj hs]

theorem runOK_iff (cfg : Cfg) (Good : State → List Int → Prop) (s0 : State) (actss : List (List Int)) :
    RunOK cfg Good s0 actss ↔ EpRun.Along (stepL2 cfg) Good s0 actss :=
  EpRun.along_unique _ _ (RunOK cfg Good) (fun _ => trivial) (fun _ _ _ => Iff.rfl) s0 actss

theorem runOK_index {cfg : Cfg} {Good : State → List Int → Prop} {s0 : State} {actss : List (List Int)}
    (h : RunOK cfg Good s0 actss) {t : Nat} {s : State} {a : List Int}
    (hs : (traceL2 cfg s0 actss)[t]? = some s) (ha : actss[t]? = some a) : Good s a := by
  obtain ⟨ht, rfl⟩ := List.getElem?_eq_some_iff.1 ha
  rw [traceL2_eq, EpRun.states_getElem? _ _ _ _ (Nat.le_of_lt ht)] at hs
  exact Option.some.inj hs ▸ ((runOK_iff cfg Good s0 actss).1 h).get ht

theorem finalL2_mem_trace (cfg : Cfg) (s : State) (actss : List (List Int)) :
    finalL2 cfg s actss ∈ traceL2 cfg s actss := List.mem_of_getLast? (traceL2_getLast cfg s actss)

theorem StepGood.kpos {cfg : Cfg} {s : State} {a : List Int} (G : StepGood cfg s a) : 0 < cfg.k := by
  obtain ⟨ag, hag, _⟩ := G.open_
  have c := (consistent_iff _ _ _).1 G.cons
  rw [← c.len]
  exact List.length_pos_of_mem hag

theorem StepGood.refines {cfg : Cfg} {s : State} {a : List Int} (G : StepGood cfg s a) :
    step cfg s a = stepL2 cfg s a := step_eq_stepL2 cfg s a G.cons G.kpos G.len G.spec

theorem StepGood.masked {cfg : Cfg} {s : State} {a : List Int} (G : StepGood cfg s a) {j : Nat} (hj : j < cfg.k) :
    ((actionMask s.grid s.agents).getD j []).getD (a.getD j 0).toNat false = true ∧
      Connector.legal cfg.n s j (a.getD j 0).toNat := by
  have c := (consistent_iff _ _ _).1 G.cons
  have hl := G.legal j hj
  unfold legalInt at hl
  simp only [Bool.and_eq_true, decide_eq_true_eq] at hl
  have hsp := G.spec _ (getD_mem (l := a) (i := j) 0 (by rw [G.len]; exact hj))
  exact ⟨(mask_iff_legal s c.shaped j _ (by rw [c.len]; exact hj) (by omega)).2 hl.2, hl.2⟩

/-- step `t` of the solving episode `planActs` (state `s` before it, joint action `a`); the equation for the agents says
that nobody collides and nobody is refused -/
theorem plan_episode (cfg : Cfg) (s0 : State) (routes : List (List Pos)) (P : Plan cfg.n cfg.k s0 routes)
    (t : Nat) (s : State) (a : List Int) (hs : (traceL2 cfg s0 (planActs cfg.k routes))[t]? = some s)
    (ha : (planActs cfg.k routes)[t]? = some a) :
    (a.length = cfg.k ∧ ∀ x ∈ a, 0 ≤ x ∧ x ≤ 4) ∧
    (∀ j, j < cfg.k → ((actionMask s.grid s.agents).getD j []).getD (a.getD j 0).toNat false = true ∧
        legal cfg.n s j (a.getD j 0).toNat) ∧
    step cfg s a = stepL2 cfg s a ∧
    (step cfg s a).1.agents =
      List.zipWith (fun (ag : Agent) (x : Int) => { ag with position := movePosition ag.position x }) s.agents a ∧
    (traceL2 cfg s0 (planActs cfg.k routes))[t + 1]? = some (step cfg s a).1 ∧
    ((step cfg s a).2.stepType = .last ↔
      (t + 1 = (planActs cfg.k routes).length ∨ cfg.timeLimit ≤ s.stepCount + 1)) := by
  obtain ⟨ok, hfin⟩ := plan_solves cfg s0 routes P
  have G := runOK_index ok hs ha
  have hsucc := trace_succ cfg hs ha
  have htl := Jx.lt_of_getElem? ha
  refine ⟨⟨G.len, G.spec⟩, fun j hj => G.masked hj, G.refines, by rw [G.refines]; exact G.moves,
    by rw [G.refines]; exact hsucc, ?_⟩
  rw [G.refines, G.last]
  constructor
  · rintro (hall | hT)
    · left
      rcases Nat.lt_or_ge (t + 1) (planActs cfg.k routes).length with hlt | hge
      · exfalso
        have G' := runOK_index ok hsucc (List.getElem?_eq_getElem hlt)
        obtain ⟨ag, hag, hnc⟩ := G'.open_
        exact hnc (hall ag hag)
      · omega
    · exact Or.inr hT
  · rintro (hT | hT)
    · left
      have hlast := traceL2_getLast cfg s0 (planActs cfg.k routes)
      rw [List.getLast?_eq_getElem?, traceL2_length, ← hT, show t + 1 + 1 - 1 = t + 1 by omega, hsucc] at hlast
      rw [Option.some.inj hlast]
      exact hfin
    · exact Or.inr hT

theorem plan_spec (cfg : Cfg) (s0 : State) (routes : List (List Pos)) (P : Plan cfg.n cfg.k s0 routes) :
    ∀ acts ∈ planActs cfg.k routes, acts.length = cfg.k ∧ ∀ a ∈ acts, 0 ≤ a ∧ a ≤ 4 := by
  intro acts hacts
  obtain ⟨t, ht, rfl⟩ := List.getElem_of_mem hacts
  have G := ((runOK_iff cfg _ s0 _).1 (plan_solves cfg s0 routes P).1).get ht
  exact ⟨G.len, G.spec⟩

theorem plan_final_solution (cfg : Cfg) (s0 : State) (routes : List (List Pos)) (P : Plan cfg.n cfg.k s0 routes)
    (hf : Feasible cfg.n cfg.k s0) :
    solutionB cfg.n cfg.k (finalL2 cfg s0 (planActs cfg.k routes)) = true := by
  have hall := (plan_solves cfg s0 routes P).2
  have hfeas : Feasible cfg.n cfg.k (finalL2 cfg s0 (planActs cfg.k routes)) := by
    rcases Nat.eq_zero_or_pos cfg.k with h0 | hk
    · have : planActs cfg.k routes = [] := by unfold planActs; rw [h0]; rfl
      rw [this]; exact hf
    · exact feasible_along cfg hk _ (plan_spec cfg s0 routes P) s0 hf _ (finalL2_mem_trace cfg s0 _)
  exact (complete_is_solution hfeas hall).1

theorem consistent_along (cfg : Cfg) (hk : 0 < cfg.k) (actss : List (List Int))
    (hspec : ∀ acts ∈ actss, acts.length = cfg.k ∧ ∀ a ∈ acts, 0 ≤ a ∧ a ≤ 4) (s0 : State)
    (hc : Consistent cfg.n cfg.k s0) : ∀ s ∈ traceL2 cfg s0 actss, Consistent cfg.n cfg.k s :=
  traceL2_inv cfg hk _ (fun _ h => h)
    (fun s acts h hl hs => step_consistent cfg s acts h hk hl hs) actss hspec s0 hc

/-- the return of agent `i`: the rewards the implementation model `step` emits along the episode, summed -/
def returnL1 (cfg : Cfg) : State → List (List Int) → Nat → Rat
  | _, [], _ => 0
  | s, a :: rest, i => (step cfg s a).2.reward.getD i 0 + returnL1 cfg (step cfg s a).1 rest i

theorem connectedAt_of {s : State} {i : Nat} {ag : Agent} (h : s.agents[i]? = some ag) :
    connectedAt s i = decide (isConnected ag) := by
  unfold connectedAt; rw [h]

theorem reward_term (cfg : Cfg) (s : State) (a : List Int) (hl : s.agents.length = cfg.k)
    (hlen : a.length = cfg.k) {i : Nat} (hi : i < cfg.k) :
    (step cfg s a).2.reward.getD i 0 =
      (if !connectedAt s i && connectedAt (step cfg s a).1 i then cfg.connectedReward else 0) +
        (if !connectedAt s i then cfg.timestepReward else 0) ∧
    (connectedAt s i = true → connectedAt (step cfg s a).1 i = true) := by
  have h1 : i < s.agents.length := by rw [hl]; exact hi
  have h2 : i < (step cfg s a).1.agents.length := by
    rw [step_agents, stepAgents_length cfg.k s a hl hlen]; exact hi
  have hag := List.getElem?_eq_getElem h1
  have hag' := List.getElem?_eq_getElem h2
  have hai : a[i]? = some a[i] := List.getElem?_eq_getElem (by rw [hlen]; exact hi)
  constructor
  · rw [step_reward, connectedAt_of hag, connectedAt_of hag']
    simp only [List.getD, List.getElem?_zipWith, hag, hag', Option.getD_some]
    unfold rewardL2
    by_cases e1 : isConnected s.agents[i] <;> by_cases e2 : isConnected (step cfg s a).1.agents[i] <;>
      simp [e1, e2]
  · intro h
    rw [connectedAt_of hag] at h
    have hfro := connected_frozen cfg s a hi hag hai (of_decide_eq_true h)
    rw [connectedAt_of hfro]; exact h

theorem returnL1_flags (cfg : Cfg) {i : Nat} (hi : i < cfg.k) (actss : List (List Int)) :
    ∀ (s0 : State), (∀ acts ∈ actss, acts.length = cfg.k) → s0.agents.length = cfg.k →
      returnL1 cfg s0 actss i = episodeReturn cfg.connectedReward cfg.timestepReward
          ((traceL1 cfg s0 actss).map (fun s => connectedAt s i)) ∧
        monotone ((traceL1 cfg s0 actss).map (fun s => connectedAt s i)) := by
  induction actss with
  | nil => intro s0 _ _; simp [returnL1, traceL1, episodeReturn, monotone]
  | cons a rest ih =>
    intro s0 hspec hl
    have sp := hspec a (by simp)
    obtain ⟨hrew, hmono⟩ := reward_term cfg s0 a hl sp hi
    obtain ⟨ih1, ih2⟩ := ih (step cfg s0 a).1 (fun x hx => hspec x (by simp [hx])) (stepAgents_length cfg.k s0 a hl sp)
    simp only [traceL1, returnL1]
    rw [traceL1_eq] at ih1 ih2 ⊢
    simp only [List.map_cons] at ih1 ih2 ⊢
    exact ⟨by rw [ih1, hrew]; rfl, hmono, ih2⟩

/-- C08: for ANY state with `k` agents and ANY episode of joint actions with one entry per agent (in the action space or
not), the rewards agent `i` receives from the implementation model add up to the documented objective of the trace of
that model: `connected_reward` if it got connected during the episode plus `timestep_reward` for every step it started
unconnected.  Neither `Consistent` nor the refinement is needed. -/
theorem episode_return_L1 (cfg : Cfg) (actss : List (List Int)) (hspec : ∀ acts ∈ actss, acts.length = cfg.k)
    (s0 : State) (hl : s0.agents.length = cfg.k) {i : Nat} (hi : i < cfg.k) :
    returnL1 cfg s0 actss i = objectiveOf cfg (traceL1 cfg s0 actss) i := by
  obtain ⟨h1, h2⟩ := returnL1_flags cfg hi actss s0 hspec hl
  rw [h1, objectiveOf_eq, episodeReturn_closed _ _ _ h2]

theorem objective_connected (cfg : Cfg) (s0 : State) (actss : List (List Int)) (i : Nat)
    (h : connectedAt (finalL2 cfg s0 actss) i = true) :
    objectiveOf cfg (traceL2 cfg s0 actss) i =
      (if connectedAt s0 i then 0 else cfg.connectedReward) +
        cfg.timestepReward *
          ((((traceL2 cfg s0 actss).dropLast).filter (fun s => !connectedAt s i)).length : Nat) := by
  unfold objectiveOf
  obtain ⟨tl, e⟩ := traceL2_head cfg s0 actss
  have hl := traceL2_getLast cfg s0 actss
  rw [hl]
  rw [e]
  simp only [List.head?_cons, h]
  cases connectedAt s0 i <;> simp

/-- the objective of the solving episode: `connected_reward` (unless the agent was connected from the start) plus
`timestep_reward` for every step it started unconnected (over the rule-level trace; `plan_trace_eq` identifies it with
`traceL1`) -/
theorem plan_return (cfg : Cfg) (s0 : State) (routes : List (List Pos)) (P : Plan cfg.n cfg.k s0 routes)
    {i : Nat} (hi : i < cfg.k) :
    objectiveOf cfg (traceL2 cfg s0 (planActs cfg.k routes)) i =
      (if connectedAt s0 i then 0 else cfg.connectedReward) +
        cfg.timestepReward *
          ((((traceL2 cfg s0 (planActs cfg.k routes)).dropLast).filter (fun s => !connectedAt s i)).length : Nat) := by
  have hk : 0 < cfg.k := by omega
  refine objective_connected cfg s0 _ i ?_
  -- the final state is consistent: it has `k` agents, all connected
  have hcT : Consistent cfg.n cfg.k (finalL2 cfg s0 (planActs cfg.k routes)) :=
    consistent_along cfg hk _ (plan_spec cfg s0 routes P) s0 ((consistent_iff _ _ _).2 P.cons) _
      (finalL2_mem_trace cfg s0 _)
  have cT := (consistent_iff _ _ _).1 hcT
  have h1 : i < (finalL2 cfg s0 (planActs cfg.k routes)).agents.length := by rw [cT.len]; exact hi
  have hag := List.getElem?_eq_getElem h1
  rw [connectedAt_of hag]
  exact decide_eq_true ((plan_solves cfg s0 routes P).2 _ (List.mem_of_getElem? hag))

/-- the number of steps of the episode that agent `i` starts unconnected -/
def openCount (cfg : Cfg) : State → List (List Int) → Nat → Nat
  | _, [], _ => 0
  | s, a :: rest, i => (if connectedAt s i then 0 else 1) + openCount cfg (stepL2 cfg s a).1 rest i

theorem openCount_eq (cfg : Cfg) (s : State) (actss : List (List Int)) (i : Nat) :
    (((traceL2 cfg s actss).dropLast).filter (fun s => !connectedAt s i)).length = openCount cfg s actss i := by
  induction actss generalizing s with
  | nil => simp [traceL2, openCount]
  | cons a rest ih =>
    obtain ⟨tl, e⟩ := traceL2_head cfg (stepL2 cfg s a).1 rest
    have := ih (stepL2 cfg s a).1
    simp only [traceL2, openCount]
    rw [e] at this ⊢
    rw [List.dropLast_cons_cons, List.filter_cons]
    cases connectedAt s i <;> simp [this] <;> omega

/-- agent `i` starts a step unconnected exactly during the walks of agents `0 … i` -/
theorem plan_count (cfg : Cfg) {i : Nat} (hi : i < cfg.k) :
    ∀ (s : State) (routes : List (List Pos)), Plan cfg.n cfg.k s routes →
      openCount cfg s (planActs cfg.k routes) i =
        if connectedAt s i then 0 else (planFrom cfg.k routes (i + 1) 0).length := by
  refine plan_induction _ ?_ ?_
  · intro s routes P hall
    rw [planActs, planFrom_done cfg.k routes cfg.k 0 fun j _ h => hall j (by omega),
      planFrom_done cfg.k routes (i + 1) 0 fun j _ h => hall j (by omega)]
    simp [openCount]
  · intro s routes i0 ag p q rest S hpre ih
    have P' := S.plan_next
    obtain ⟨agi, _, hagi, _, _⟩ := S.plan.lookup hi
    rw [S.planActs hpre, openCount, ih]
    rcases Nat.lt_or_ge i i0 with hlt | hge
    · -- an agent that has walked already is connected and stays where it is
      obtain ⟨x, hx⟩ := hpre i hlt
      have hc := decide_eq_true (S.plan.single hagi hx)
      rw [stepL2_state, connectedAt_of (S.agent_ne hagi (Nat.ne_of_lt hlt)), connectedAt_of hagi, hc]
      rfl
    · rw [planFrom_head cfg.k routes S.hr (i + 1) 0 (Nat.zero_le _) (by omega) fun j _ h => hpre j h, List.length_cons]
      rcases Nat.eq_or_lt_of_le hge with rfl | hgt
      · -- the walking agent: unconnected before the step; connected after it iff it has arrived
        obtain rfl : agi = ag := Option.some.inj (hagi.symm.trans S.hag)
        rw [connectedAt_of S.hag, decide_eq_false S.next.2.2.1, stepL2_state, connectedAt_of S.agent_i]
        by_cases hc : isConnected { agi with position := q }
        · have e := (P'.route i0 _ _ S.agent_i (List.getElem?_set_self (Jx.lt_of_getElem? S.hr))).connected_iff.1 hc
          rw [planFrom_done cfg.k _ (i0 + 1) 0 fun j _ h => ?_]
          · simp [hc]
          · rcases Nat.eq_or_lt_of_le (show j ≤ i0 by omega) with rfl | h'
            · exact ⟨q, by rw [List.getElem?_set_self (Jx.lt_of_getElem? S.hr), e]⟩
            · rw [List.getElem?_set_ne (Nat.ne_of_gt h')]; exact hpre j h'
        · simp [hc]; omega
      · rw [stepL2_state, connectedAt_of (S.agent_ne hagi (Nat.ne_of_gt hgt)), connectedAt_of hagi]
        by_cases hc : isConnected agi <;> simp [hc]; omega

end Connector
