/- `traceL1` in terms of the step system `Ep.ofStep (step cfg) stepCount` of Core/Episode.lean (for
`connector_plan_first_last` of Props/EpisodeInstances.lean); whole episodes of the implementation model (`traceL1`) are
the episodes of the rules (`traceL2`), the solving episode of a route plan among them; completion: a LAST step before
the time limit with no blocked agent ends in a complete solution; C04: the reaction of a joint step, agent by agent. -/
import JumanjiModel.Env.Connector.EpisodeLemmas
import JumanjiModel.Core.EpisodeLemmas
namespace Connector
open Jm Jx

theorem traceL1_getElem? (cfg : Cfg) (acts : List (List Int)) (s : State) (j : Nat) (hj : j ≤ acts.length) :
    (traceL1 cfg s acts)[j]? = some ((Ep.ofStep (step cfg) (·.stepCount)).stateAt s acts j) := by
  rw [traceL1_eq, Ep.stateAt_ofStep, EpRun.states_getElem? _ _ _ _ hj]

theorem stateAt_stepCount (cfg : Cfg) (acts : List (List Int)) (s : State) (j : Nat) (hj : j ≤ acts.length) :
    ((Ep.ofStep (step cfg) (·.stepCount)).stateAt s acts j).stepCount = s.stepCount + (j : Int) := by
  rw [Ep.stateAt_ofStep, EpRun.after_take_count (step cfg) (·.stepCount) (step_count cfg) s acts hj]

theorem trace_eq (cfg : Cfg) (hk : 0 < cfg.k) (actss : List (List Int))
    (hspec : ∀ acts ∈ actss, acts.length = cfg.k ∧ ∀ a ∈ acts, 0 ≤ a ∧ a ≤ 4) (s0 : State)
    (hc : Consistent cfg.n cfg.k s0) : traceL1 cfg s0 actss = traceL2 cfg s0 actss := by
  rw [traceL1_eq, traceL2_eq, (((EpRun.along_iff_forall (step cfg) _ s0 actss).2 hspec).congr (stepL2 cfg) hc
    (fun s a hc ha => step_consistent cfg s a hc hk ha.1 ha.2)
    fun s a hc ha => step_eq_stepL2 cfg s a hc hk ha.1 ha.2).1]

theorem traceL1_getLast (cfg : Cfg) (s : State) (actss : List (List Int)) :
    (traceL1 cfg s actss).getLast? = some (finalL1 cfg s actss) := by
  rw [traceL1_eq, EpRun.states_getLast?,
    EpRun.after_unique (step cfg) (finalL1 cfg) (fun _ => rfl) (fun _ _ _ => rfl) s actss]

theorem final_eq (cfg : Cfg) (hk : 0 < cfg.k) (actss : List (List Int))
    (hspec : ∀ acts ∈ actss, acts.length = cfg.k ∧ ∀ a ∈ acts, 0 ≤ a ∧ a ≤ 4) (s0 : State)
    (hc : Consistent cfg.n cfg.k s0) : finalL1 cfg s0 actss = finalL2 cfg s0 actss := by
  have h := traceL1_getLast cfg s0 actss
  rw [trace_eq cfg hk actss hspec s0 hc, traceL2_getLast] at h
  exact (Option.some.inj h).symm

theorem consistent_along_L1 (cfg : Cfg) (hk : 0 < cfg.k) (actss : List (List Int))
    (hspec : ∀ acts ∈ actss, acts.length = cfg.k ∧ ∀ a ∈ acts, 0 ≤ a ∧ a ≤ 4) (s0 : State)
    (hc : Consistent cfg.n cfg.k s0) : ∀ s ∈ traceL1 cfg s0 actss, Consistent cfg.n cfg.k s := by
  rw [trace_eq cfg hk actss hspec s0 hc]
  exact consistent_along cfg hk actss hspec s0 hc

/-- completion: a step from a feasible state that is LAST before the time limit ends in a complete solution, provided no
unconnected agent of the successor is blocked (`hnb`; then LAST can only mean that all are connected) -/
theorem step_complete_is_solution (cfg : Cfg) (s : State) (acts : List Int) (hf : Feasible cfg.n cfg.k s)
    (hk : 0 < cfg.k) (hlen : acts.length = cfg.k) (hspec : ∀ a ∈ acts, 0 ≤ a ∧ a ≤ 4)
    (hlast : (step cfg s acts).2.stepType = .last)
    (hlim : (step cfg s acts).1.stepCount < cfg.timeLimit)
    (hnb : ∀ (i : Nat) ag, (step cfg s acts).1.agents[i]? = some ag → ¬ isConnected ag →
      ∃ a, 1 ≤ a ∧ a ≤ 4 ∧ legal cfg.n (step cfg s acts).1 i a) :
    solutionB cfg.n cfg.k (step cfg s acts).1 = true ∧
      ∀ (i : Nat) ag, (step cfg s acts).1.agents[i]? = some ag →
        ∃ r, GoodRoute cfg.n (step cfg s acts).1.grid i ag.start ag.target r := by
  apply complete_is_solution (step_feasible cfg s acts hf hk hlen hspec)
  rw [step_eq_stepL2 cfg s acts (feasible_consistent hf) hk hlen hspec] at hlast hlim hnb ⊢
  intro ag hag
  obtain ⟨i, hi⟩ := List.getElem?_of_mem hag
  rcases (stepL2_last_iff cfg s acts).1 hlast with hall | hl
  · -- agent `i` is finished: connected, or without a legal move
    have hfin := List.all_eq_true.1 hall _ (List.mem_map.2 ⟨i, List.mem_range.2 (Jx.lt_of_getElem? hi), rfl⟩)
    simp only [id, finished, hi, Bool.or_eq_true, decide_eq_true_eq, Bool.not_eq_true', List.any_eq_false] at hfin
    rcases hfin with hcon | hno
    · exact hcon
    · apply Classical.byContradiction
      intro hcon
      obtain ⟨a, h1, h4, hleg⟩ := hnb i ag hi hcon
      exact absurd hleg (by simpa using hno a (by simp; omega))
  · have : (stepL2 cfg s acts).1.stepCount = s.stepCount + 1 := rfl
    omega

/-- a higher-ranked agent asks for the cell `p` with a legal move -/
def outranked (n : Nat) (s : State) (acts : List Int) (i : Nat) (p : Pos) : Prop :=
  ∃ (j : Nat) (agj : Agent) (aj : Int), i < j ∧ s.agents[j]? = some agj ∧ acts[j]? = some aj ∧ aj ≠ 0 ∧
    legalInt n s j aj = true ∧ movePosition agj.position aj = p

theorem proposal_iff {n : Nat} {s : State} {i : Nat} {ag : Agent} (hag : s.agents[i]? = some ag) {a : Int}
    (h0 : 0 ≤ a) (h4 : a ≤ 4) (p : Pos) :
    proposal n s.grid ag a = some p ↔ (a ≠ 0 ∧ legalInt n s i a = true ∧ movePosition ag.position a = p) := by
  have : a = 0 ∨ a = 1 ∨ a = 2 ∨ a = 3 ∨ a = 4 := by omega
  rcases this with rfl | rfl | rfl | rfl | rfl <;>
    simp [proposal, dir, legalInt, legal, hag, movePosition, Int.sub_eq_add_neg]

/-- C04: agent `i` moves to the cell it asks for when its action is a legal move and no higher-ranked agent asks for
that cell with a legal move (`outranked`), and stays otherwise -/
theorem step_reaction (cfg : Cfg) (s : State) (acts : List Int) (hc : Consistent cfg.n cfg.k s) (hk : 0 < cfg.k)
    (hlen : acts.length = cfg.k) (hspec : ∀ a ∈ acts, 0 ≤ a ∧ a ≤ 4) {i : Nat} {ag : Agent} {a : Int}
    (hag : s.agents[i]? = some ag) (ha : acts[i]? = some a) :
    ((a ≠ 0 ∧ legalInt cfg.n s i a = true ∧ ¬ outranked cfg.n s acts i (movePosition ag.position a)) →
      (step cfg s acts).1.agents[i]? = some { ag with position := movePosition ag.position a }) ∧
    (¬ (a ≠ 0 ∧ legalInt cfg.n s i a = true ∧ ¬ outranked cfg.n s acts i (movePosition ag.position a)) →
      (step cfg s acts).1.agents[i]? = some ag) := by
  have x := ctx_of hc hk hlen hspec
  have hstep : (step cfg s acts).1.agents[i]? = some (moved ag (wins (propsOf cfg.n s acts) i)) := by
    rw [step_eq_stepL2 cfg s acts hc hk hlen hspec]
    exact (l2_agent x i).trans (by rw [hag]; rfl)
  have hsp := x.aspec ha
  have hwin : ∀ p, wins (propsOf cfg.n s acts) i = some p ↔
      (a ≠ 0 ∧ legalInt cfg.n s i a = true ∧ movePosition ag.position a = p ∧ ¬ outranked cfg.n s acts i p) := by
    intro p
    rw [wins_some_iff, props_get hag ha]
    constructor
    · rintro ⟨h1, h2⟩
      have h1' := (proposal_iff hag hsp.1 hsp.2 p).1 (Option.some.inj h1)
      refine ⟨h1'.1, h1'.2.1, h1'.2.2, ?_⟩
      rintro ⟨j, agj, aj, hij, hagj, haj, hne, hleg, hmv⟩
      apply h2 j hij
      rw [props_get hagj haj]
      have spj := x.aspec haj
      rw [(proposal_iff hagj spj.1 spj.2 p).2 ⟨hne, hleg, hmv⟩]
    · rintro ⟨h1, h2, h3, h4⟩
      refine ⟨by rw [(proposal_iff hag hsp.1 hsp.2 p).2 ⟨h1, h2, h3⟩], ?_⟩
      intro j hij hj
      obtain ⟨agj, aj, hagj, haj, hP⟩ := props_inv hj
      have spj := x.aspec haj
      have := (proposal_iff hagj spj.1 spj.2 p).1 hP
      exact h4 ⟨j, agj, aj, hij, hagj, haj, this.1, this.2.1, this.2.2⟩
  constructor
  · rintro ⟨h1, h2, h3⟩
    rw [hstep, (hwin _).2 ⟨h1, h2, rfl, h3⟩]
    rfl
  · intro hn
    rw [hstep]
    cases hw : wins (propsOf cfg.n s acts) i with
    | none => rfl
    | some p =>
      exfalso
      obtain ⟨h1, h2, h3, h4⟩ := (hwin p).1 hw
      subst h3
      exact hn ⟨h1, h2, h4⟩

theorem plan_trace_eq (cfg : Cfg) (s0 : State) (routes : List (List Pos)) (P : Plan cfg.n cfg.k s0 routes) :
    traceL1 cfg s0 (planActs cfg.k routes) = traceL2 cfg s0 (planActs cfg.k routes) ∧
    finalL1 cfg s0 (planActs cfg.k routes) = finalL2 cfg s0 (planActs cfg.k routes) := by
  rcases Nat.eq_zero_or_pos cfg.k with h0 | hk
  · have : planActs cfg.k routes = [] := by unfold planActs; rw [h0]; rfl
    rw [this]; exact ⟨rfl, rfl⟩
  · have hc := (consistent_iff _ _ _).2 P.cons
    exact ⟨trace_eq cfg hk _ (plan_spec cfg s0 routes P) s0 hc, final_eq cfg hk _ (plan_spec cfg s0 routes P) s0 hc⟩

end Connector
