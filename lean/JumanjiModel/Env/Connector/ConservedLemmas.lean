/- Connector, C07 occupancy conservation: the two grid conjuncts of the bookkeeping judge `conservedB` — its row-by-row
comparison of two shaped grids obtained from a statement about cells, and the number of occupied cells after the
rule-level step. -/
import JumanjiModel.Env.Connector.RefineLemmas
namespace Connector
open Jm Jx

theorem rows_all_of_cell (f : Int → Int → Bool) {g g' : Grid Int} {n : Nat} (h : Grid.shaped g n n = true)
    (h' : Grid.shaped g' n n = true) (e : ∀ q, inGrid n q → f (cell g q) (cell g' q) = true) :
    (List.zipWith (fun (r r' : List Int) => r.length == r'.length && (List.zipWith f r r').all id) g g').all id = true := by
  apply (Jx.zipWith_all_get? _ _ _).2
  intro r row row' h1 h2
  have hr : r < n := by have := Jx.lt_of_getElem? h1; rw [Grid.shaped_length h] at this; exact this
  obtain ⟨row0, e1, l1⟩ := Grid.shaped_getElem? h hr
  obtain ⟨row0', e2, l2⟩ := Grid.shaped_getElem? h' hr
  rw [h1] at e1; rw [h2] at e2
  cases e1; cases e2
  simp only [Bool.and_eq_true, beq_iff_eq]
  refine ⟨by omega, ?_⟩
  apply (Jx.zipWith_all_get? _ _ _).2
  intro c v v' hc hc'
  have hcn : c < n := by have := Jx.lt_of_getElem? hc; omega
  have := e _ (inGrid_of_nat hr hcn)
  rw [cell_of_nat, cell_of_nat, get_of_row h1, get_of_row h2, hc, hc'] at this
  simpa using this

section
variable {n k : Nat} {s : State} {acts : List Int}

theorem aw_map_fst (x : Ctx n k s acts) : (awOf n s acts).map Prod.fst = s.agents := by
  unfold awOf
  apply List.map_fst_zip
  simp [x.props_length, x.cons.len]

theorem l2_occupied (x : Ctx n k s acts) :
    nonZero (applyMoves s.grid (awOf n s acts)) = nonZero s.grid +
      ((List.zipWith (fun (o n : Agent) => o.position != n.position && n.position != n.target) s.agents
        ((awOf n s acts).map (fun y => moved y.1 y.2))).filter id).length := by
  have hnz : ∀ a ∈ (awOf n s acts).flatMap writesOf, a.2 ≠ 0 := by
    intro a ha
    obtain ⟨i, ag, p, _, _, h⟩ := (mem_l2_writes x).1 ha
    rcases h with rfl | rfl
    · show posVal (i : Int) ≠ 0; unfold posVal; omega
    · show pathVal (i : Int) ≠ 0; unfold pathVal; omega
  rw [applyMoves_eq_assign x.cons.shaped _ (l2_writes_in x), assign_nonZero _ _ x.cons.shaped (l2_writes_in x) (l2_writes_nodup x) hnz]
  congr 1
  conv => rhs; rw [← aw_map_fst x]
  rw [List.zipWith_map, List.zipWith_self, List.filter_map, List.length_map]
  apply Jx.length_filter_flatMap
  -- of the two writes of a winner the second finds its old head; the first finds an empty cell unless it is the target
  rintro ⟨ag, o⟩ hy
  cases o with
  | none => simp [writesOf, moved]
  | some p =>
    obtain ⟨i, hi⟩ := List.getElem?_of_mem hy
    obtain ⟨hag, hw⟩ := aw_inv x hi
    have hag : s.agents[i]? = some ag := hag
    obtain ⟨hpin, hv, hne, hnc, _⟩ := x.won hag hw.symm
    have ok := x.cons.agent i ag hag
    have hhead : cell s.grid ag.position ≠ 0 := by rw [ok.headAt]; unfold posVal; omega
    have hne' : ¬ ag.position = p := fun e => hne e.symm
    by_cases ht : p = ag.target
    · have hc : cell s.grid ag.target ≠ 0 := by rw [ok.tgtAt hnc]; unfold tgtVal; omega
      simp [writesOf, moved, ht, hc, hhead]
    · have hc : cell s.grid p = 0 := hv.resolve_right fun hv' => ht (ok.tgtUniq hnc p hpin hv')
      simp [writesOf, moved, ht, hc, hhead, hne']

end

end Connector
