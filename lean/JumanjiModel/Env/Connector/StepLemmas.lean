/- Connector: the whole step (state, reward, discount, step type, observation) equals the rule-level step,
and the step preserves `Consistent`. -/
import JumanjiModel.Env.Connector.RefineLemmas
namespace Connector
open Jm Jx

theorem connected_eq_decide (ag : Agent) : ag.connected = decide (isConnected ag) := by
  cases h : ag.connected with
  | true => exact (decide_eq_true ((connected_iff ag).1 h)).symm
  | false =>
    have : ¬ isConnected ag := fun hc => by rw [(connected_iff ag).2 hc] at h; exact Bool.noConfusion h
    exact (decide_eq_false this).symm

theorem done_eq {n : Nat} (s : State) (h : Grid.shaped s.grid n n = true) :
    List.zipWith connectedOrBlocked s.agents (actionMask s.grid s.agents) =
      (List.range s.agents.length).map (finished n s) := by
  apply List.ext_getElem
  · simp [actionMask]
  · intro i h1 h2
    have hi : i < s.agents.length := by simpa [actionMask] using h1
    have hag := List.getElem?_eq_getElem hi
    rw [List.getElem_zipWith, List.getElem_map, List.getElem_range]
    unfold connectedOrBlocked finished actionMask
    rw [List.getElem_map, hag, agentMask_eq h, connected_eq_decide]
    simp only [legal_iff hag]
    rfl

theorem finish_eq (cfg : Cfg) (s : State) (agents : List Agent) (grid : Grid Int)
    (h : Grid.shaped grid cfg.n cfg.n = true) :
    finish cfg s (agents, grid) =
      (let s' : State := { grid := grid, stepCount := s.stepCount + 1, agents := agents }
       let reward := List.zipWith (rewardL2 cfg) s.agents agents
       let fin := (List.range agents.length).map (finished cfg.n s')
       let last := fin.all id || decide (cfg.timeLimit ≤ s'.stepCount)
       (s', { stepType := if last then .last else .mid, reward := reward,
              discount := if last then List.replicate cfg.k 0 else fin.map (fun f => if f then 0 else 1),
              obs := observe cfg.n s' })) := by
  have hd := done_eq (n := cfg.n) { grid := grid, stepCount := s.stepCount + 1, agents := agents } h
  have ho := observeL1_eq_observe (n := cfg.n) { grid := grid, stepCount := s.stepCount + 1, agents := agents } h
  simp only [] at hd
  unfold finish
  simp only [denseReward_eq, hd]
  unfold observeL1 at ho
  simp only [] at ho
  rw [ho]
  unfold condLastDiscount termination transition
  simp only [ge_iff_le]
  split
  · simp [zerosR, RShape.size]
  · rename_i hl
    simp only [Option.getD_some, List.map_map]
    congr 2
    apply List.map_congr_left
    intro i _
    simp only [Function.comp, b2r]
    split
    · exact Rat.sub_self
    · decide +kernel

theorem stepL2_eq (cfg : Cfg) (s : State) (acts : List Int) :
    stepL2 cfg s acts =
      (let s' : State := { grid := (stepAgentsL2 cfg.n s acts).2, stepCount := s.stepCount + 1,
                           agents := (stepAgentsL2 cfg.n s acts).1 }
       let reward := List.zipWith (rewardL2 cfg) s.agents (stepAgentsL2 cfg.n s acts).1
       let fin := (List.range (stepAgentsL2 cfg.n s acts).1.length).map (finished cfg.n s')
       let last := fin.all id || decide (cfg.timeLimit ≤ s'.stepCount)
       (s', { stepType := if last then .last else .mid, reward := reward,
              discount := if last then List.replicate cfg.k 0 else fin.map (fun f => if f then 0 else 1),
              obs := observe cfg.n s' })) := rfl

theorem ctx_of {cfg : Cfg} {s : State} {acts : List Int} (hc : Consistent cfg.n cfg.k s) (hk : 0 < cfg.k)
    (hlen : acts.length = cfg.k) (hspec : ∀ a ∈ acts, 0 ≤ a ∧ a ≤ 4) : Ctx cfg.n cfg.k s acts :=
  ⟨(consistent_iff _ _ _).1 hc, hk, hlen, hspec⟩

/-- C09, full refinement: state, reward, discount, step type and observation -/
theorem step_eq_stepL2 (cfg : Cfg) (s : State) (acts : List Int) (hc : Consistent cfg.n cfg.k s) (hk : 0 < cfg.k)
    (hlen : acts.length = cfg.k) (hspec : ∀ a ∈ acts, 0 ≤ a ∧ a ≤ 4) :
    step cfg s acts = stepL2 cfg s acts := by
  have x := ctx_of hc hk hlen hspec
  unfold step
  rw [stepAgents_eq_L2 x, stepL2_eq]
  have hs : Grid.shaped (stepAgentsL2 cfg.n s acts).2 cfg.n cfg.n = true := by
    rw [stepAgentsL2_eq]; exact shaped_applyMoves x.cons.shaped _
  exact finish_eq cfg s _ _ hs

/-- the successor state of the rule-level step (without the timestep) -/
def nextL2 (n : Nat) (s : State) (acts : List Int) : State :=
  { grid := (stepAgentsL2 n s acts).2, stepCount := s.stepCount + 1, agents := (stepAgentsL2 n s acts).1 }

theorem stepL2_state (cfg : Cfg) (s : State) (acts : List Int) : (stepL2 cfg s acts).1 = nextL2 cfg.n s acts := rfl

theorem step_next (cfg : Cfg) {s : State} {acts : List Int} (x : Ctx cfg.n cfg.k s acts) :
    (step cfg s acts).1 = nextL2 cfg.n s acts := by
  unfold step; rw [stepAgents_eq_L2 x]; rfl

section
variable {n k : Nat} {s : State} {acts : List Int}

/-- a cell after the moves of the rules: entered by a winner, left by a mover, or untouched -/
theorem l2_cases (x : Ctx n k s acts) {q : Pos} (hq : inGrid n q) :
    (∃ i0 : Nat, i0 < k ∧ wins (propsOf n s acts) i0 = some q ∧
        cell (applyMoves s.grid (awOf n s acts)) q = posVal (i0 : Int) ∧
        (cell s.grid q = 0 ∨ cell s.grid q = tgtVal (i0 : Int))) ∨
    (∃ (j : Nat) (ag : Agent) (p : Pos), j < k ∧ s.agents[j]? = some ag ∧ wins (propsOf n s acts) j = some p ∧
        q = ag.position ∧ cell (applyMoves s.grid (awOf n s acts)) q = pathVal (j : Int) ∧
        cell s.grid q = posVal (j : Int)) ∨
    ((∀ i, wins (propsOf n s acts) i ≠ some q) ∧
      (∀ (j : Nat) ag p, s.agents[j]? = some ag → wins (propsOf n s acts) j = some p → q ≠ ag.position) ∧
      cell (applyMoves s.grid (awOf n s acts)) q = cell s.grid q) := by
  by_cases h1 : ∃ i0, wins (propsOf n s acts) i0 = some q
  · obtain ⟨i0, hw⟩ := h1
    obtain ⟨ag, a, hag, ha, hP, hin, hv, hne⟩ := x.win_facts hw
    exact Or.inl ⟨i0, x.lt hag, hw, l2_winner x hw, hv⟩
  · have hnw : ∀ i0, wins (propsOf n s acts) i0 ≠ some q := fun i0 h => h1 ⟨i0, h⟩
    by_cases h2 : ∃ (j : Nat) (ag : Agent) (p : Pos), s.agents[j]? = some ag ∧ wins (propsOf n s acts) j = some p ∧
        q = ag.position
    · obtain ⟨j, ag, p, hag, hw, rfl⟩ := h2
      exact Or.inr (Or.inl ⟨j, ag, p, x.lt hag, hag, hw, rfl, l2_head x hag hw, (x.cons.agent j ag hag).headAt⟩)
    · have hnh : ∀ (j : Nat) ag p, s.agents[j]? = some ag → wins (propsOf n s acts) j = some p → q ≠ ag.position :=
        fun j ag p hag hw e => h2 ⟨j, ag, p, hag, hw, e⟩
      exact Or.inr (Or.inr ⟨hnw, hnh, l2_other x hq hnw hnh⟩)

theorem l2_agents_length (x : Ctx n k s acts) : (stepAgentsL2 n s acts).1.length = k := by
  rw [stepAgentsL2_eq]
  simp [awOf, x.props_length, x.cons.len]

/-- the agents after the rule-level step -/
theorem l2_agent (x : Ctx n k s acts) (i : Nat) :
    (stepAgentsL2 n s acts).1[i]? = s.agents[i]?.map fun ag => moved ag (wins (propsOf n s acts) i) := by
  cases hag : s.agents[i]? with
  | some ag =>
    rw [stepAgentsL2_eq, List.getElem?_map, aw_get x hag]
    rfl
  | none =>
    have hi := List.getElem?_eq_none_iff.1 hag
    rw [List.getElem?_eq_none (by rw [l2_agents_length x, ← x.cons.len]; exact hi)]
    rfl

theorem l2_agent_get (x : Ctx n k s acts) {i : Nat} {ag' : Agent} (h : (stepAgentsL2 n s acts).1[i]? = some ag') :
    ∃ ag, s.agents[i]? = some ag ∧ ag' = moved ag (wins (propsOf n s acts) i) := by
  rw [l2_agent x] at h
  obtain ⟨ag, hag, e⟩ := Option.map_eq_some_iff.1 h
  exact ⟨ag, hag, e.symm⟩

theorem l2_frame (x : Ctx n k s acts) {i : Nat} (hw : wins (propsOf n s acts) i = none) {q : Pos} (hq : inGrid n q)
    (v : Int) (hv : v = pathVal (i : Int) ∨ v = posVal (i : Int) ∨ v = tgtVal (i : Int)) :
    cell (applyMoves s.grid (awOf n s acts)) q = v ↔ cell s.grid q = v := by
  have hself : ∀ j, (∃ p, wins (propsOf n s acts) j = some p) → j ≠ i := by
    rintro j ⟨p, hp⟩ rfl; rw [hw] at hp; cases hp
  rcases l2_cases x hq with ⟨i0, _, hw0, e, h⟩ | ⟨j, ag', p', _, _, hwj, _, e, h⟩ | ⟨_, _, e⟩
  · have := hself i0 ⟨q, hw0⟩
    rw [e]; unfold pathVal posVal tgtVal at *
    constructor <;> intro h' <;> omega
  · have := hself j ⟨p', hwj⟩
    rw [e, h]; unfold pathVal posVal tgtVal at *
    constructor <;> intro h' <;> omega
  · rw [e]

theorem l2_agentOK (x : Ctx n k s acts) {i : Nat} {ag : Agent} (hag : s.agents[i]? = some ag) :
    AgentOK n (applyMoves s.grid (awOf n s acts)) i (moved ag (wins (propsOf n s acts) i)) := by
  have ok := x.cons.agent i ag hag
  cases hw : wins (propsOf n s acts) i with
  | none => exact ok.congr fun _ hq v hv => l2_frame x hw hq v hv
  | some p =>
    -- every field is read off `l2_cases` at the cell in question: a cell somebody wins holds the winner's head value, the
    -- old head of a mover its path value, any other cell its old value; a branch whose value is of another kind (head, path
    -- and target values differ mod 3) or belongs to another agent is refuted by `omega` on the unfolded values
    simp only [moved]
    obtain ⟨hin, hvp, hne, hnc, _⟩ := x.won hag hw
    have hwin : ∀ q, wins (propsOf n s acts) i = some q → q = p := by
      intro q hq; rw [hw] at hq; exact (Option.some.inj hq).symm
    refine ⟨ok.id, hin, ok.tgtIn, ok.startIn, ?_, ?_, ?_, ?_, ?_, ?_, ?_⟩
    · exact l2_winner x hw
    · intro q hq hv
      show q = p
      rcases l2_cases x hq with ⟨i0, _, hw0, e, _⟩ | ⟨j, ag', p', _, _, _, _, e, _⟩ | ⟨_, hnh, e⟩
      · rw [e] at hv
        have : i0 = i := by unfold posVal at hv; omega
        subst this; exact hwin q hw0
      · rw [e] at hv; unfold pathVal posVal at hv; omega
      · rw [e] at hv
        exact absurd (ok.headUniq q hq hv) (hnh i ag p hag hw)
    · intro he q hq hv
      have he : p = ag.target := he
      rcases l2_cases x hq with ⟨i0, _, hw0, e, _⟩ | ⟨j, ag', p', _, _, _, _, e, _⟩ | ⟨hnw, _, e⟩
      · rw [e] at hv; unfold posVal tgtVal at hv; omega
      · rw [e] at hv; unfold pathVal tgtVal at hv; omega
      · rw [e] at hv
        have := ok.tgtUniq hnc q hq hv
        rw [this, ← he] at hnw
        exact hnw i hw
    · intro he
      have he : p ≠ ag.target := he
      show cell _ ag.target = _
      have hv0 := ok.tgtAt hnc
      rcases l2_cases x ok.tgtIn with ⟨i0, _, hw0, _, hv⟩ | ⟨j, ag', p', _, _, _, _, _, hv⟩ | ⟨_, _, e⟩
      · rw [hv0] at hv
        have : i0 = i := by unfold tgtVal at hv; omega
        subst this; exact absurd (hwin _ hw0).symm he
      · rw [hv0] at hv; unfold posVal tgtVal at hv; omega
      · rw [e, hv0]
    · intro he q hq hv
      show q = ag.target
      rcases l2_cases x hq with ⟨i0, _, hw0, e, _⟩ | ⟨j, ag', p', _, _, _, _, e, _⟩ | ⟨_, _, e⟩
      · rw [e] at hv; unfold posVal tgtVal at hv; omega
      · rw [e] at hv; unfold pathVal tgtVal at hv; omega
      · rw [e] at hv; exact ok.tgtUniq hnc q hq hv
    · intro he
      have he : ag.start = p := he
      exfalso
      by_cases hs : ag.start = ag.position
      · exact hne (by rw [← he, hs])
      · have := ok.startAt hs
        rw [he] at this
        rw [this] at hvp; unfold pathVal tgtVal at hvp; omega
    · intro he
      have he : ag.start ≠ p := he
      show cell _ ag.start = _
      by_cases hs : ag.start = ag.position
      · rw [hs]; exact l2_head x hag hw
      · have hv0 := ok.startAt hs
        rcases l2_cases x ok.startIn with ⟨i0, _, hw0, _, hv⟩ | ⟨j, ag', p', _, _, _, _, _, hv⟩ | ⟨_, _, e⟩
        · rw [hv0] at hv; unfold pathVal tgtVal at hv; omega
        · rw [hv0] at hv; unfold posVal pathVal at hv; omega
        · rw [e, hv0]

theorem l2_cons (x : Ctx n k s acts) : Cons n k (nextL2 n s acts) := by
  refine ⟨?_, l2_agents_length x, ?_, ?_, ?_⟩
  · exact shaped_applyMoves x.cons.shaped _
  · intro i ag' h
    obtain ⟨ag, hag, rfl⟩ := l2_agent_get x h
    exact l2_agentOK x hag
  · intro q hq
    show 0 ≤ cell (applyMoves s.grid (awOf n s acts)) q ∧ cell (applyMoves s.grid (awOf n s acts)) q ≤ 3 * (k : Int)
    have hr := x.cons.range q hq
    rcases l2_cases x hq with ⟨i0, hi0, _, e, _⟩ | ⟨j, ag', p', hj, _, _, _, e, _⟩ | ⟨_, _, e⟩
    · rw [e]; unfold posVal; omega
    · rw [e]; unfold pathVal; omega
    · rw [e]; exact hr
  · have := x.cons.count
    show 0 ≤ s.stepCount + 1
    omega

end

/-- C07: ANY in-spec joint action leads from a consistent state to a consistent state (whether or not the
step is LAST) -/
theorem step_consistent (cfg : Cfg) (s : State) (acts : List Int) (hc : Consistent cfg.n cfg.k s) (hk : 0 < cfg.k)
    (hlen : acts.length = cfg.k) (hspec : ∀ a ∈ acts, 0 ≤ a ∧ a ≤ 4) :
    Consistent cfg.n cfg.k (step cfg s acts).1 := by
  have x := ctx_of hc hk hlen hspec
  rw [consistent_iff, step_next cfg x]
  exact l2_cons x

end Connector
