/- `RandomWalkGenerator._initialize_agents`: with valid draws and no boxed-in start the scan is a sequence of writes to `2k`
pairwise different empty cells; so, seen through the mirror, the state after the scan is a board as the generators emit it
(heads on the first-move cells, targets on the walk starts), and the walk invariant holds. -/
import JumanjiModel.Env.Connector.WalkDefs
import JumanjiModel.Env.Connector.GenLemmas
namespace Connector
open Jm Jx

theorem setFlat_nat (n : Nat) (g : Grid Int) {m : Nat} (h : m < n * n) (v : Int) :
    setFlat n g (m : Int) v = setCell g (unflat n (m : Int)) v := by
  rw [unflat_nat]
  unfold setFlat wrapIdx setCell
  have a1 : ¬ ((m : Int) < 0) := by omega
  have a2 : ¬ ((m : Int) ≥ ((n * n : Nat) : Int)) := by omega
  simp only [a1, a2, if_false, Int.toNat_natCast]

theorem getUnflat_nat {n : Nat} {g : Grid Int} (hs : Grid.shaped g n n = true) {m : Nat} (h : m < n * n) :
    getUnflat n g (m : Int) = cell g (unflat n (m : Int)) := by
  unfold getUnflat
  exact getWC_eq_cell hs (unflat_inGrid h)

theorem flat_cell {n : Nat} {g : Grid Int} (hs : Grid.shaped g n n = true) {m : Nat} (h : m < n * n) :
    (List.flatten g)[m]? = some (cell g (unflat n (m : Int))) := by
  have hn : 0 < n := by
    rcases Nat.eq_zero_or_pos n with e | e
    · subst e; simp at h
    · exact e
  have rows : ∀ r ∈ g, r.length = n := by unfold Grid.shaped at hs; simp at hs; exact hs.2
  have hl : m < (List.flatten g).length := by rw [Grid.flatten_length rows, Grid.shaped_length hs]; exact h
  have := Grid.flatten_getD 0 rows (m / n) (Nat.mod_lt m hn)
  rw [Nat.div_add_mod'] at this
  rw [unflat_nat, cell_of_nat, ← this, List.getD_eq_getElem?_getD, List.getElem?_eq_getElem hl]
  rfl

theorem validChoice_cases {a : List Int} {mask : List Bool} {d : Int} (h : validChoice a mask d = true) :
    (∃ i : Nat, a[i]? = some d ∧ mask[i]? = some true) ∨ (¬ mask.any id = true ∧ d = a.headD 0) := by
  unfold validChoice at h
  split at h
  · left
    rw [List.any_eq_true] at h
    obtain ⟨x, hx, hx2⟩ := h
    simp only [Bool.and_eq_true, beq_iff_eq] at hx2
    obtain ⟨i, hi⟩ := List.mem_iff_getElem?.1 hx
    rw [List.getElem?_zip_eq_some] at hi
    exact ⟨i, by rw [hi.1, hx2.2], by rw [hi.2, hx2.1]⟩
  · rename_i hany
    exact Or.inr ⟨hany, beq_iff_eq.1 h⟩

theorem validChoice_mem {a : List Int} {mask : List Bool} {d : Int} (h : validChoice a mask d = true)
    (ha : a ≠ []) : d ∈ a := by
  rcases validChoice_cases h with ⟨i, hi, _⟩ | ⟨_, e⟩
  · exact List.mem_of_getElem? hi
  · cases a with
    | nil => exact absurd rfl ha
    | cons x xs => rw [e]; simp

theorem mem_adjacentCells (n : Nat) (c0 c : Int) (hc : c ∈ adjacentCells n c0) (hne : c ≠ -1) :
    (c = c0 + -(n : Int) ∨ c = c0 + (n : Int) ∨ c = c0 + -1 ∨ c = c0 + 1) ∧ 0 ≤ c ∧ c < ((n * n : Nat) : Int) ∧
    ((unflat n c).1 = (unflat n c0).1 ∨ (unflat n c).2 = (unflat n c0).2) := by
  unfold adjacentCells at hc
  simp only [List.map_cons, List.map_nil, List.mem_cons, List.not_mem_nil, or_false] at hc
  rcases hc with h | h | h | h <;>
  · split at h
    · rename_i hcond
      simp only [Bool.and_eq_true, Bool.or_eq_true, decide_eq_true_eq] at hcond
      subst h
      exact ⟨by simp, hcond.1.1, hcond.1.2, hcond.2⟩
    · exact absurd h hne

theorem mem_available (n : Nat) (g : Grid Int) (c0 c : Int) (hm : c ∈ availableCells n g c0) (hne : c ≠ -1) :
    c ∈ adjacentCells n c0 ∧ getUnflat n g c = 0 := by
  unfold availableCells at hm
  simp only [List.mem_map] at hm
  obtain ⟨x, hx, e⟩ := hm
  split at e
  · rename_i hcond
    subst e
    simp only [Bool.and_eq_true, isCellFree, beq_iff_eq] at hcond
    exact ⟨hx, hcond.1.2⟩
  · exact absurd e.symm hne

theorem available_ne_nil (n : Nat) (g : Grid Int) (c0 : Int) : availableCells n g c0 ≠ [] := by
  simp [availableCells, adjacentCells]

theorem firstMove_free {n : Nat} {g : Grid Int} (hs : Grid.shaped g n n = true) {c d : Int}
    (h : validChoice (availableCells n g c) ((availableCells n g c).map (fun x => x != -1)) d = true)
    (hd : d ≠ -1) : ∃ m : Nat, d = (m : Int) ∧ m < n * n ∧ cell g (unflat n (m : Int)) = 0 := by
  obtain ⟨hadj, hfree⟩ := mem_available n g c d (validChoice_mem h (available_ne_nil n g c)) hd
  obtain ⟨_, h0, h1, _⟩ := mem_adjacentCells n c d hadj hd
  obtain ⟨m, rfl⟩ := Int.eq_ofNat_of_zero_le h0
  have hlt : m < n * n := by exact_mod_cast h1
  exact ⟨m, rfl, hlt, by rw [← getUnflat_nat hs hlt]; exact hfree⟩

theorem start_free {n : Nat} {g : Grid Int} (hs : Grid.shaped g n n = true) {d : Int}
    (h : validChoice ((List.range (n * n)).map (fun (c : Nat) => (c : Int)))
      ((List.flatten g).map (fun v => v == 0)) d = true) :
    (∃ m : Nat, d = (m : Int) ∧ m < n * n ∧ cell g (unflat n (m : Int)) = 0) ∨
    (d = 0 ∧ ∀ m : Nat, m < n * n → cell g (unflat n (m : Int)) ≠ 0) := by
  rcases validChoice_cases h with ⟨i, h1, h2⟩ | ⟨hany, e⟩
  · left
    simp only [List.getElem?_map, Option.map_eq_some_iff] at h1 h2
    obtain ⟨m, hm, hmx⟩ := h1
    obtain ⟨v, hv, hv0⟩ := h2
    obtain ⟨hlt, e⟩ := List.getElem?_eq_some_iff.1 hm
    simp only [List.length_range] at hlt
    rw [List.getElem_range] at e
    subst e
    refine ⟨i, hmx.symm, hlt, ?_⟩
    rw [flat_cell hs hlt] at hv
    simp only [beq_iff_eq] at hv0
    rw [Option.some.inj hv]; exact hv0
  · right
    constructor
    · rw [e]
      rcases Nat.eq_zero_or_pos (n * n) with e | e
      · rw [e]; rfl
      · obtain ⟨s, hs'⟩ : ∃ s, n * n = s + 1 := ⟨n * n - 1, by omega⟩
        rw [hs', List.range_succ_eq_map]; rfl
    · intro m hlt hc
      apply hany
      rw [List.any_eq_true]
      refine ⟨true, ?_, rfl⟩
      rw [List.mem_map]
      refine ⟨cell g (unflat n (m : Int)), ?_, by simp [hc]⟩
      exact List.mem_of_getElem? (flat_cell hs hlt)

theorem tgtVal_ne_zero (i : Nat) : tgtVal (i : Int) ≠ 0 := by unfold tgtVal; omega

/-- `hd`: the start is not boxed in (`-1` is what `choice` returns when no neighbour is available) -/
theorem initDraw_cells {n : Nat} {g : Grid Int} (hs : Grid.shaped g n n = true) (i : Nat) {d : Int × Int}
    (h : validInitDraw n g (i : Int) d = true) (hd : d.2 ≠ -1) :
    inGrid n (unflat n d.1) ∧ inGrid n (unflat n d.2) ∧ cell g (unflat n d.1) = 0 ∧
    cell (setCell g (unflat n d.1) (tgtVal (i : Int))) (unflat n d.2) = 0 ∧
    walkInitStep n g (i : Int) d =
      setCell (setCell g (unflat n d.1) (tgtVal (i : Int))) (unflat n d.2) (posVal (i : Int)) := by
  unfold validInitDraw at h
  simp only [Bool.and_eq_true] at h
  obtain ⟨h1, h2⟩ := h
  -- whatever the start is, once it is in range the first move is a free cell of the updated grid
  have key : ∀ m1 : Nat, d.1 = (m1 : Int) → m1 < n * n →
      ∃ m2 : Nat, d.2 = (m2 : Int) ∧ m2 < n * n ∧
        cell (setCell g (unflat n d.1) (tgtVal (i : Int))) (unflat n d.2) = 0 := by
    intro m1 e1 hlt1
    have hs1 : Grid.shaped (setCell g (unflat n d.1) (tgtVal (i : Int))) n n = true := shaped_setCell hs _ _
    rw [e1, setFlat_nat n g hlt1, ← e1] at h2
    obtain ⟨m2, e2, hlt2, hc2⟩ := firstMove_free hs1 h2 hd
    exact ⟨m2, e2, hlt2, by rw [e2]; exact hc2⟩
  -- the start is a free cell: were no cell free, the first move would be drawn from a full grid
  have hstart : ∃ m1 : Nat, d.1 = (m1 : Int) ∧ m1 < n * n ∧ cell g (unflat n d.1) = 0 := by
    rcases start_free hs h1 with ⟨m1, e1, hlt1, hc1⟩ | ⟨e0, hall⟩
    · exact ⟨m1, e1, hlt1, by rw [e1]; exact hc1⟩
    · exfalso
      rcases Nat.eq_zero_or_pos (n * n) with e | hpos
      · -- empty grid: no available cell at all
        have hsf : setFlat n g d.1 (tgtVal (i : Int)) = g := by
          rw [e0]; unfold setFlat wrapIdx; simp [e]
        rw [hsf] at h2
        obtain ⟨m2, _, hlt2, _⟩ := firstMove_free hs h2 hd
        omega
      · have e1 : d.1 = ((0 : Nat) : Int) := by simpa using e0
        obtain ⟨m2, e2, hlt2, hc2⟩ := key 0 e1 hpos
        rw [cell_setCell hs (by rw [e1]; exact unflat_inGrid hpos) (by rw [e2]; exact unflat_inGrid hlt2)] at hc2
        split at hc2
        · exact tgtVal_ne_zero i hc2
        · rw [e2] at hc2; exact hall m2 hlt2 hc2
  obtain ⟨m1, e1, hlt1, hc1⟩ := hstart
  obtain ⟨m2, e2, hlt2, hc2⟩ := key m1 e1 hlt1
  refine ⟨by rw [e1]; exact unflat_inGrid hlt1, by rw [e2]; exact unflat_inGrid hlt2, hc1, hc2, ?_⟩
  unfold walkInitStep
  rw [e1, setFlat_nat n g hlt1, e2, setFlat_nat n _ hlt2]

theorem posVal_ne_zero (i : Nat) : posVal (i : Int) ≠ 0 := by unfold posVal; omega

/-- what the scan writes for agents `i, i + 1, …`: the target value on the start cell, the head value on the first-move cell -/
def initAsg (n : Nat) : Nat → List (Int × Int) → List (Pos × Int)
  | _, [] => []
  | i, d :: rest => (unflat n d.1, tgtVal (i : Int)) :: (unflat n d.2, posVal (i : Int)) :: initAsg n (i + 1) rest

theorem mem_initAsg (n : Nat) (x : Pos × Int) : ∀ (rest : List (Int × Int)) (i : Nat),
    x ∈ initAsg n i rest ↔ ∃ (j : Nat) (d : Int × Int), rest[j]? = some d ∧
      (x = (unflat n d.1, tgtVal ((i + j : Nat) : Int)) ∨ x = (unflat n d.2, posVal ((i + j : Nat) : Int)))
  | [], i => by simp [initAsg]
  | d :: rest, i => by
    simp only [initAsg, List.mem_cons, mem_initAsg n x rest (i + 1)]
    constructor
    · rintro (h | h | ⟨j, d', hj, h⟩)
      · exact ⟨0, d, rfl, Or.inl h⟩
      · exact ⟨0, d, rfl, Or.inr h⟩
      · exact ⟨j + 1, d', by simpa using hj, by rwa [show i + (j + 1) = i + 1 + j by omega]⟩
    · rintro ⟨j, d', hj, h⟩
      cases j with
      | zero =>
        obtain rfl : d = d' := by simpa using hj
        rcases h with h | h
        · exact Or.inl h
        · exact Or.inr (Or.inl h)
      | succ j => exact Or.inr (Or.inr ⟨j, d', by simpa using hj, by rwa [show i + 1 + j = i + (j + 1) by omega]⟩)

theorem walkInit_assign (n : Nat) : ∀ (rest : List (Int × Int)) (g : Grid Int) (i : Nat), Grid.shaped g n n = true →
    (walkInit n g i rest).2 = true → (∀ d ∈ rest, d.2 ≠ -1) →
    (walkInit n g i rest).1 = assign g (initAsg n i rest) ∧ ((initAsg n i rest).map Prod.fst).Nodup ∧
      ∀ x ∈ initAsg n i rest, inGrid n x.1 ∧ cell g x.1 = 0
  | [], g, i, _, _, _ => ⟨rfl, by simp [initAsg], by simp [initAsg]⟩
  | d :: rest, g, i, hs, hv, hnb => by
    simp only [walkInit, Bool.and_eq_true] at hv
    obtain ⟨a1, a2, a3, a4, a5⟩ := initDraw_cells hs i hv.1 (hnb d (by simp))
    have hs1 : Grid.shaped (setCell g (unflat n d.1) (tgtVal (i : Int))) n n = true := shaped_setCell hs _ _
    have hs2 : Grid.shaped (walkInitStep n g (i : Int) d) n n = true := by rw [a5]; exact shaped_setCell hs1 _ _
    obtain ⟨e, hnd, hfree⟩ := walkInit_assign n rest _ (i + 1) hs2 hv.2 (fun d' h' => hnb d' (by simp [h']))
    have hcell : ∀ q, inGrid n q → cell (walkInitStep n g (i : Int) d) q =
        if q = unflat n d.2 then posVal (i : Int) else if q = unflat n d.1 then tgtVal (i : Int) else cell g q := by
      intro q hq; rw [a5, cell_setCell hs1 a2 hq, cell_setCell hs a1 hq]
    rw [cell_setCell hs a1 a2] at a4
    have hne : unflat n d.2 ≠ unflat n d.1 := fun e' => by rw [if_pos e'] at a4; exact tgtVal_ne_zero i a4
    rw [if_neg hne] at a4
    -- the two cells written now are occupied afterwards, so no later write goes there
    have hlater : ∀ x ∈ initAsg n (i + 1) rest, x.1 ≠ unflat n d.2 ∧ x.1 ≠ unflat n d.1 ∧ cell g x.1 = 0 := by
      intro x hx
      obtain ⟨hin, h0⟩ := hfree x hx
      rw [hcell _ hin] at h0
      by_cases e2 : x.1 = unflat n d.2
      · rw [if_pos e2] at h0; exact absurd h0 (posVal_ne_zero i)
      · rw [if_neg e2] at h0
        by_cases e1 : x.1 = unflat n d.1
        · rw [if_pos e1] at h0; exact absurd h0 (tgtVal_ne_zero i)
        · rw [if_neg e1] at h0; exact ⟨e2, e1, h0⟩
    refine ⟨?_, ?_, ?_⟩
    · show (walkInit n (walkInitStep n g (i : Int) d) (i + 1) rest).1 = _
      rw [e, a5]
      simp only [initAsg]
      rw [assign_cons _ a1, assign_cons _ a2]
    · simp only [initAsg, List.map_cons, List.nodup_cons, List.mem_cons, List.mem_map, not_or, not_exists, not_and]
      exact ⟨⟨fun e' => hne e'.symm, fun x hx e' => (hlater x hx).2.1 e'⟩, fun x hx e' => (hlater x hx).1 e', hnd⟩
    · intro x hx
      simp only [initAsg, List.mem_cons] at hx
      rcases hx with rfl | rfl | hx
      · exact ⟨a1, a3⟩
      · exact ⟨a2, a4⟩
      · exact ⟨(hfree x hx).1, (hlater x hx).2.2⟩

theorem walkAgents0_getElem? {n k : Nat} {init : List (Int × Int)} (hlen : init.length = k) {i : Nat} {y : Agent}
    (h : (walkAgents0 n k init)[i]? = some y) :
    ∃ d, init[i]? = some d ∧ y = ⟨(i : Int), unflat n d.1, (-1, -1), unflat n d.2⟩ := by
  have hi : i < k := by simpa [walkAgents0, mkAgents] using Jx.lt_of_getElem? h
  unfold walkAgents0 mkAgents at h
  rw [List.getElem?_map] at h
  have hi' : i < init.length := by omega
  refine ⟨init[i], List.getElem?_eq_getElem hi', ?_⟩
  rw [List.getElem?_range hi] at h
  simp only [Option.map_some, Option.some.injEq] at h
  rw [← h]
  simp [List.getD_eq_getElem?_getD, hi, hi']

theorem mirror_walkAgents0 {n k : Nat} {init : List (Int × Int)} (hlen : init.length = k) :
    mirrorAgents (init.map (fun d => unflat n d.2)) (walkAgents0 n k init) =
      mkAgents k (init.map (fun d => unflat n d.2)) (init.map (fun d => unflat n d.1)) (init.map (fun d => unflat n d.2)) := by
  apply List.ext_getElem?
  intro i
  by_cases hi : i < k
  · have hi' : i < init.length := by omega
    simp [mirrorAgents, walkAgents0, mkAgents, mirrorAgent, List.getElem?_zipWith, hi, hi', List.getD_eq_getElem?_getD]
  · simp [mirrorAgents, walkAgents0, mkAgents, hi, hlen]

theorem walkInit_inv (n k : Nat) (init : List (Int × Int)) (hlen : init.length = k)
    (hv : (walkInit n (zeroGrid n) 0 init).2 = true) (hnb : ∀ d ∈ init, d.2 ≠ -1) :
    WalkInv n k (init.map (fun d => unflat n d.2)) (walkInit n (zeroGrid n) 0 init).1 (walkAgents0 n k init) := by
  obtain ⟨e, hnd, hfree⟩ := walkInit_assign n init (zeroGrid n) 0 (shaped_zeroGrid n) hv hnb
  have hget : ∀ i, i < k → ∃ d, init[i]? = some d ∧ (init.map (fun d => unflat n d.2)).getD i (0, 0) = unflat n d.2 ∧
      (init.map (fun d => unflat n d.1)).getD i (0, 0) = unflat n d.1 := by
    intro i hi
    have hi' : i < init.length := by omega
    exact ⟨init[i], List.getElem?_eq_getElem hi', by simp [List.getD_eq_getElem?_getD, hi'],
      by simp [List.getD_eq_getElem?_getD, hi']⟩
  have c : Written n k (init.map (fun d => unflat n d.2)) (init.map (fun d => unflat n d.1)) (zeroGrid n)
      (walkInit n (zeroGrid n) 0 init).1 := by
    rw [e]
    refine written_of_assign (shaped_zeroGrid n) (fun x => ?_) hnd (fun x hx => (hfree x hx).1)
    rw [mem_initAsg]
    simp only [Nat.zero_add]
    constructor
    · rintro ⟨j, d, hj, h⟩
      have hjk : j < k := by have := Jx.lt_of_getElem? hj; omega
      obtain ⟨d', hd', e2, e1⟩ := hget j hjk
      obtain rfl : d = d' := Option.some.inj (hj.symm.trans hd')
      rcases h with h | h
      · exact Or.inr ⟨j, hjk, by rw [e1]; exact h⟩
      · exact Or.inl ⟨j, hjk, by rw [e2]; exact h⟩
    · rintro (⟨j, hjk, h⟩ | ⟨j, hjk, h⟩)
      · obtain ⟨d, hd, e2, _⟩ := hget j hjk
        exact ⟨j, d, hd, Or.inr (by rw [← e2]; exact h)⟩
      · obtain ⟨d, hd, _, e1⟩ := hget j hjk
        exact ⟨j, d, hd, Or.inl (by rw [← e1]; exact h)⟩
  have hin : ∀ i, i < k → inGrid n ((init.map (fun d => unflat n d.2)).getD i (0, 0)) ∧
      inGrid n ((init.map (fun d => unflat n d.1)).getD i (0, 0)) := by
    intro i hi
    obtain ⟨d, hd, e2, e1⟩ := hget i hi
    rw [e2, e1]
    exact ⟨(hfree (unflat n d.2, posVal (i : Int)) ((mem_initAsg n _ init 0).2 ⟨i, d, hd, Or.inr (by simp)⟩)).1,
      (hfree (unflat n d.1, tgtVal (i : Int)) ((mem_initAsg n _ init 0).2 ⟨i, d, hd, Or.inl (by simp)⟩)).1⟩
  refine ⟨by simp [hlen], by simp [walkAgents0, mkAgents], ?_, ?_⟩
  · rw [mirror_walkAgents0 hlen]
    exact cons_of_written c (fun i hi => (hin i hi).1) (fun i hi => (hin i hi).2)
  · intro ag hag
    obtain ⟨i, hi⟩ := List.mem_iff_getElem?.1 hag
    obtain ⟨d, hd, rfl⟩ := walkAgents0_getElem? hlen hi
    refine ⟨rfl, ?_⟩
    show unflat n d.2 ≠ unflat n d.1
    have hik : i < k := by have := Jx.lt_of_getElem? hd; omega
    obtain ⟨d', hd', e2, e1⟩ := hget i hik
    obtain rfl : d = d' := Option.some.inj (hd.symm.trans hd')
    intro e'
    have h1 := c.headAt i hik
    have h2 := c.tgtAt i hik
    rw [e2, e'] at h1
    rw [e1, h1] at h2
    unfold posVal tgtVal at h2; omega

end Connector
