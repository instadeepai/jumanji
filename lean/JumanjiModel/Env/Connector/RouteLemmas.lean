/- Routes: the depth-first search `searchRoute` behind `agentRouteB` is sound and complete (`agentRouteB_iff`); a
valid search output stays one in a grid that keeps the path cells (`validR_mono`) and is prolonged by the cell the head
moves to (`validR_extend`). The notions of route in this directory: `isRoute` (Model.lean) is the Boolean judge;
`validR` the relation "is an output of `searchRoute`"; `RouteOK` what such an output looks like, from which `isRoute`
follows; `GoodRoute` (SolvableLemmas.lean) a chain whose cells all carry values of its owner; `LegOK` (SolveLemmas.lean)
what is left of such a chain for an agent on its way. -/
import JumanjiModel.Env.Connector.Lemmas
namespace Connector
open Jm Jx

theorem firstM_some {α β} (f : α → Option β) (l : List α) {r : β} (h : l.firstM f = some r) :
    ∃ y ∈ l, f y = some r := by
  induction l with
  | nil => simp [List.firstM] at h
  | cons a l ih =>
    simp only [List.firstM] at h
    cases hfa : f a with
    | some r' =>
      rw [hfa] at h
      have : r' = r := by simpa using h
      exact ⟨a, by simp, by rw [hfa, this]⟩
    | none =>
      rw [hfa] at h
      have : l.firstM f = some r := by simpa using h
      obtain ⟨y, hy, e⟩ := ih this
      exact ⟨y, by simp [hy], e⟩

theorem firstM_isSome {α β} (f : α → Option β) (l : List α) {y : α} (hy : y ∈ l) (h : (f y).isSome = true) :
    (l.firstM f).isSome = true := by
  induction l with
  | nil => simp at hy
  | cons a l ih =>
    simp only [List.firstM]
    cases hfa : f a with
    | some r' => simp
    | none =>
      simp at hy
      rcases hy with rfl | hy
      · rw [hfa] at h; simp at h
      · simpa using ih hy

theorem mem_neighbours (p q : Pos) : q ∈ neighbours p ↔ adjacent p q = true := by
  have e : neighbours p = [movePosition p 1, movePosition p 2, movePosition p 3, movePosition p 4] := by
    simp [neighbours, movePosition]
  rw [adjacent_iff_move, e]
  simp only [List.mem_cons, List.not_mem_nil, or_false]
  constructor
  · rintro (h | h | h | h) <;> exact ⟨_, by decide, by decide, h.symm⟩
  · rintro ⟨a, h1, h4, rfl⟩
    have : a = 1 ∨ a = 2 ∨ a = 3 ∨ a = 4 := by omega
    rcases this with rfl | rfl | rfl | rfl <;> simp

/-- the valid outputs of `searchRoute … m cur seen` -/
def validR (n : Nat) (g : Grid Int) (pv : Int) (b : Pos) : Nat → Pos → List Pos → List Pos → Prop
  | 0, cur, _, r => r = [cur, b] ∧ adjacent cur b = true
  | m + 1, cur, seen, r => ∃ q r', r = cur :: r' ∧ adjacent cur q = true ∧ inGrid n q ∧ cell g q = pv ∧
      q ∉ seen ∧ q ≠ b ∧ validR n g pv b m q (q :: seen) r'

theorem search_sound (n : Nat) (g : Grid Int) (pv : Int) (b : Pos) (m : Nat) (cur : Pos) (seen r : List Pos)
    (h : searchRoute n g pv b m cur seen = some r) : validR n g pv b m cur seen r := by
  induction m generalizing cur seen r with
  | zero =>
    simp only [searchRoute] at h
    split at h
    · rename_i ha; simp at h; exact ⟨h.symm, ha⟩
    · simp at h
  | succ m ih =>
    simp only [searchRoute] at h
    obtain ⟨q, hq, hf⟩ := firstM_some _ _ h
    split at hf
    · rename_i hc
      simp only [Bool.and_eq_true, decide_eq_true_eq, beq_iff_eq, Bool.not_eq_true', bne_iff_ne] at hc
      obtain ⟨⟨⟨hin, hv⟩, hs⟩, hb⟩ := hc
      rw [Option.map_eq_some_iff] at hf
      obtain ⟨r', hr', e⟩ := hf
      refine ⟨q, r', e.symm, (mem_neighbours _ _).1 hq, hin, hv, ?_, hb, ih _ _ _ hr'⟩
      intro hmem
      have : seen.contains q = true := by simpa using hmem
      rw [this] at hs; exact Bool.noConfusion hs
    · simp at hf

theorem search_complete (n : Nat) (g : Grid Int) (pv : Int) (b : Pos) (m : Nat) (cur : Pos) (seen r : List Pos)
    (h : validR n g pv b m cur seen r) : (searchRoute n g pv b m cur seen).isSome = true := by
  induction m generalizing cur seen r with
  | zero =>
    obtain ⟨_, ha⟩ := h
    simp [searchRoute, ha]
  | succ m ih =>
    obtain ⟨q, r', _, hadj, hin, hv, hs, hb, hr'⟩ := h
    simp only [searchRoute]
    apply firstM_isSome _ _ ((mem_neighbours _ _).2 hadj)
    have hc : (decide (inGrid n q) && cell g q == pv && !(seen.contains q) && q != b) = true := by
      simp [hin, hv, hs, hb]
    simp only [hc, if_true]
    have := ih _ _ _ hr'
    cases hsr : searchRoute n g pv b m q (q :: seen) with
    | none => rw [hsr] at this; simp at this
    | some r'' => simp

/-- what a valid search output looks like -/
structure RouteOK (n : Nat) (g : Grid Int) (pv : Int) (cur b : Pos) (seen : List Pos) (m : Nat) (r : List Pos) : Prop where
  head : r.head? = some cur
  last : r.getLast? = some b
  chain : isChain r = true
  len : r.length = m + 2
  fresh : ∀ c ∈ r.tail, c ∉ seen ∨ c = b
  nodupTail : r.tail.Nodup
  inG : ∀ c ∈ r.tail, inGrid n c ∨ c = b
  inner : ((r.drop 1).take m).all (fun p => cell g p == pv) = true

section
variable {n : Nat} {g : Grid Int} {pv : Int} {cur b : Pos} {seen : List Pos} {m : Nat} {r : List Pos}

theorem RouteOK.eq_cons (ok : RouteOK n g pv cur b seen m r) : ∃ t, r = cur :: t := by
  cases r with
  | nil => have := ok.len; simp at this
  | cons a t => have := ok.head; simp at this; exact ⟨t, by rw [this]⟩

/-- the tail avoids `seen`: a route that starts on a seen cell other than `b` does not come back to it -/
theorem RouteOK.nodup (ok : RouteOK n g pv cur b seen m r) (hcs : cur ∈ seen) (hne : cur ≠ b) : r.Nodup := by
  obtain ⟨t, rfl⟩ := ok.eq_cons
  rw [List.nodup_cons]
  refine ⟨?_, by simpa using ok.nodupTail⟩
  intro hmem
  rcases ok.fresh cur (by simpa using hmem) with h1 | h1
  · exact h1 hcs
  · exact hne h1

end

theorem routeOK_of_valid (n : Nat) (g : Grid Int) (pv : Int) (b : Pos) (m : Nat) (cur : Pos) (seen r : List Pos)
    (h : validR n g pv b m cur seen r) : RouteOK n g pv cur b seen m r := by
  induction m generalizing cur seen r with
  | zero =>
    obtain ⟨rfl, ha⟩ := h
    refine ⟨rfl, rfl, by simp [isChain, ha], rfl, ?_, by simp, ?_, by simp⟩
    · intro c hc; simp at hc; exact Or.inr hc
    · intro c hc; simp at hc; exact Or.inr hc
  | succ m ih =>
    obtain ⟨q, r', rfl, hadj, hin, hv, hs, hb, hr'⟩ := h
    have ok := ih _ _ _ hr'
    have hnd := ok.nodup (List.mem_cons_self ..) hb
    obtain ⟨t, rfl⟩ := ok.eq_cons
    refine ⟨rfl, ?_, ?_, ?_, ?_, ?_, ?_, ?_⟩
    · have := ok.last; rw [List.getLast?_cons_cons]; exact this
    · simp only [isChain, hadj, Bool.true_and]; exact ok.chain
    · have := ok.len; simp at this ⊢; omega
    · intro c hc
      simp at hc
      rcases hc with rfl | hc
      · exact Or.inl hs
      · rcases ok.fresh c (by simpa using hc) with h1 | h1
        · left; intro hmem; exact h1 (by simp [hmem])
        · exact Or.inr h1
    · exact hnd
    · intro c hc
      simp at hc
      rcases hc with rfl | hc
      · exact Or.inl hin
      · exact ok.inG c (by simpa using hc)
    · have := ok.inner
      simp only [List.drop_succ_cons, List.drop_zero, List.take_succ_cons, List.all_cons, hv, beq_self_eq_true,
        Bool.true_and] at this ⊢
      exact this

theorem isRoute_of_routeOK {n : Nat} {g : Grid Int} {pv : Int} {cur b : Pos} {seen : List Pos} {m : Nat}
    {r : List Pos} (ok : RouteOK n g pv cur b seen m r) (hcs : cur ∈ seen) (hne : cur ≠ b)
    (hic : inGrid n cur) (hib : inGrid n b) : isRoute n g pv cur b m r = true := by
  have hnd := ok.nodup hcs hne
  obtain ⟨t, rfl⟩ := ok.eq_cons
  unfold isRoute
  simp only [Bool.and_eq_true, beq_iff_eq, decide_eq_true_eq]
  refine ⟨⟨⟨⟨⟨⟨ok.head, ok.last⟩, ok.chain⟩, ?_⟩, ok.len⟩, ?_⟩, ok.inner⟩
  · exact hnd
  · rw [List.all_eq_true]
    intro c hc
    simp at hc
    rcases hc with rfl | hc
    · simpa using hic
    · rcases ok.inG c (by simpa using hc) with h1 | h1
      · simpa using h1
      · rw [h1]; simpa using hib

theorem search_isRoute_of_valid {n : Nat} {S : Grid Int} {pv : Int} {a b : Pos} {m : Nat} {r : List Pos}
    (h : validR n S pv b m a [a] r) (hne : a ≠ b) (ha : inGrid n a) (hb : inGrid n b) :
    ∃ r', searchRoute n S pv b m a [a] = some r' ∧ isRoute n S pv a b m r' = true := by
  have := search_complete _ _ _ _ _ _ _ _ h
  cases hsr : searchRoute n S pv b m a [a] with
  | none => rw [hsr] at this; simp at this
  | some r' =>
    exact ⟨r', rfl, isRoute_of_routeOK (routeOK_of_valid _ _ _ _ _ _ _ _ (search_sound _ _ _ _ _ _ _ _ hsr))
      (by simp) hne ha hb⟩

theorem agentRouteB_iff (n : Nat) (g : Grid Int) (ag : Agent) (hs : inGrid n ag.start) (hp : inGrid n ag.position) :
    agentRouteB n g ag = true ↔
      (ag.start = ag.position ∧ countVal g (pathVal ag.id) = 0) ∨
      (ag.start ≠ ag.position ∧
        ∃ r, validR n g (pathVal ag.id) ag.position (countVal g (pathVal ag.id) - 1) ag.start [ag.start] r) := by
  unfold agentRouteB
  by_cases e : ag.start = ag.position
  · simp [e]
  · simp only [e, if_false, false_and, false_or]
    have e' : ag.start ≠ ag.position := e
    constructor
    · intro h
      split at h
      · rename_i r hr
        exact ⟨e', r, search_sound _ _ _ _ _ _ _ _ hr⟩
      · simp at h
    · rintro ⟨_, r, hr⟩
      obtain ⟨r', hsr, hir⟩ := search_isRoute_of_valid hr e hs hp
      rw [hsr]
      exact hir

theorem validR_mono {n : Nat} {g g' : Grid Int} {pv : Int} {b : Pos} (hg : ∀ c, inGrid n c → cell g c = pv → cell g' c = pv)
    (m : Nat) (cur : Pos) (seen r : List Pos) (h : validR n g pv b m cur seen r) : validR n g' pv b m cur seen r := by
  induction m generalizing cur seen r with
  | zero => exact h
  | succ m ih =>
    obtain ⟨q, r', e, hadj, hin, hv, hs, hb, hr'⟩ := h
    exact ⟨q, r', e, hadj, hin, hg q hin hv, hs, hb, ih _ _ _ hr'⟩

theorem validR_extend {n : Nat} {g g' : Grid Int} {pv : Int} {b p : Pos}
    (hg : ∀ c, inGrid n c → cell g c = pv → cell g' c = pv) (hb' : cell g' b = pv) (hib : inGrid n b)
    (hadj : adjacent b p = true) (hbp : b ≠ p) (hp : cell g p ≠ pv)
    (m : Nat) (cur : Pos) (seen r : List Pos) (hbs : b ∉ seen) (h : validR n g pv b m cur seen r) :
    validR n g' pv p (m + 1) cur seen (r.dropLast ++ [b, p]) := by
  induction m generalizing cur seen r with
  | zero =>
    obtain ⟨rfl, ha⟩ := h
    exact ⟨b, [b, p], by simp, ha, hib, hb', hbs, hbp, rfl, hadj⟩
  | succ m ih =>
    obtain ⟨q, r', rfl, hadj', hin, hv, hs, hb, hr'⟩ := h
    have hne : r' ≠ [] := by
      intro e; subst e
      cases m <;> simp [validR] at hr'
    refine ⟨q, r'.dropLast ++ [b, p], ?_, hadj', hin, hg q hin hv, hs, ?_, ?_⟩
    · rw [List.dropLast_cons_of_ne_nil hne]; rfl
    · intro e; rw [e] at hv; exact hp hv
    · apply ih
      · intro hmem
        simp at hmem
        rcases hmem with e | hmem
        · exact hb e.symm
        · exact hbs hmem
      · exact hr'

end Connector
