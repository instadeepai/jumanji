/- `RandomWalkGenerator`: the invariant the walk keeps (`WalkInv`, feasibility of the mirror state, the walk start is
4-adjacent to the first-move cell), from `_initialize_agents` through every iteration, and the solution the walk records. -/
import JumanjiModel.Env.Connector.FeasLemmas
import JumanjiModel.Env.Connector.ConservedLemmas
import JumanjiModel.Env.Connector.WalkLoopLemmas
import JumanjiModel.Env.Connector.WalkInitLemmas
namespace Connector
open Jm Jx

/-- `WalkInv`, the routes of the mirror state, and every walk start 4-adjacent to its first-move cell (so that the mirror's
route extends backwards to the walk start) -/
def WalkInvF (n k : Nat) (firsts : List Pos) (g : Grid Int) (ags : List Agent) : Prop :=
  WalkInv n k firsts g ags ∧ (mirrorAgents firsts ags).all (agentRouteB n g) = true ∧
  ∀ (i : Nat) (f : Pos) (ag : Agent), firsts[i]? = some f → ags[i]? = some ag → adjacent ag.start f = true

theorem flatPos_unflat (n : Nat) (c : Int) : flatPos n (unflat n c) = c := by
  unfold flatPos unflat
  simp only
  rw [Int.mul_comm]
  exact Int.mul_ediv_add_emod c n

theorem initDraw_adjacent {n : Nat} {g : Grid Int} (hs : Grid.shaped g n n = true) (i : Nat) {d : Int × Int}
    (h : validInitDraw n g (i : Int) d = true) (hd : d.2 ≠ -1) :
    adjacent (unflat n d.1) (unflat n d.2) = true := by
  obtain ⟨a1, _, _, _, _⟩ := initDraw_cells hs i h hd
  unfold validInitDraw at h
  simp only [Bool.and_eq_true] at h
  have h2 := h.2
  have hm := validChoice_mem h2 (available_ne_nil n _ _)
  obtain ⟨hadj, _⟩ := mem_available n _ _ d.2 hm hd
  rw [← flatPos_unflat n d.1] at hadj
  obtain ⟨_, _, hnz, hmove⟩ := adj_move n (unflat n d.1) a1 d.2 hadj hd
  rw [← hmove]
  have sp := action_spec n (flatPos n (unflat n d.1)) d.2
  exact (adjacent_iff_move _ _).2 ⟨_, by omega, sp.2, rfl⟩

theorem walkInit_adjacent (n : Nat) : ∀ (rest : List (Int × Int)) (g : Grid Int) (i : Nat),
    Grid.shaped g n n = true → (walkInit n g i rest).2 = true → (∀ d ∈ rest, d.2 ≠ -1) →
    ∀ d ∈ rest, adjacent (unflat n d.1) (unflat n d.2) = true
  | [], _, _, _, _, _ => by intro d hd; simp at hd
  | d :: rest, g, i, hs, hv, hnb => by
    simp only [walkInit, Bool.and_eq_true] at hv
    obtain ⟨hd, hr⟩ := hv
    obtain ⟨_, _, _, _, a5⟩ := initDraw_cells hs i hd (hnb d (by simp))
    have hs' : Grid.shaped (walkInitStep n g (i : Int) d) n n = true := by
      rw [a5]; exact shaped_setCell (shaped_setCell hs _ _) _ _
    intro d' hd'
    simp only [List.mem_cons] at hd'
    rcases hd' with rfl | hd'
    · exact initDraw_adjacent hs i hd (hnb _ (by simp))
    · exact walkInit_adjacent n rest _ (i + 1) hs' hr (fun d'' h'' => hnb d'' (by simp [h''])) d' hd'

theorem walkInit_invF (n k : Nat) (init : List (Int × Int)) (hlen : init.length = k)
    (hv : (walkInit n (zeroGrid n) 0 init).2 = true) (hnb : ∀ d ∈ init, d.2 ≠ -1) :
    WalkInvF n k (init.map (fun d => unflat n d.2)) (walkInit n (zeroGrid n) 0 init).1 (walkAgents0 n k init) := by
  have inv := walkInit_inv n k init hlen hv hnb
  refine ⟨inv, ?_, ?_⟩
  · rw [List.all_eq_true]
    intro m hm
    obtain ⟨i, hi⟩ := List.getElem?_of_mem hm
    refine route_of_unmoved inv.cons.shaped (inv.cons.agent i m hi) ?_
    rw [mirror_walkAgents0 hlen] at hi
    obtain ⟨_, rfl⟩ := mkAgents_getElem? hi
    rfl
  · intro i f ag hf hag
    obtain ⟨d, hd, rfl⟩ := walkAgents0_getElem? hlen hag
    have hf' : f = unflat n d.2 := by simp [hd] at hf; exact hf.symm
    subst hf'
    exact walkInit_adjacent n init _ 0 (shaped_zeroGrid n) hv hnb d (List.mem_of_getElem? hd)

theorem walk_step_invF (n k : Nat) (hk : 0 < k) (firsts : List Pos) (g : Grid Int) (ags : List Agent) (d : List Int)
    (hinvF : WalkInvF n k firsts g ags) (hlen : d.length = k) (hvc : ValidDraws n g ags d) :
    WalkInvF n k firsts (stepAgents k ⟨g, 0, ags⟩ (walkActions n ags d)).2
      (stepAgents k ⟨g, 0, ags⟩ (walkActions n ags d)).1 := by
  obtain ⟨hinv, hroute, hadj⟩ := hinvF
  have ⟨hf, ha, hc, _⟩ := hinv
  -- through the mirror the iteration is a step of the environment from a feasible state
  have hfeas : Feasible n k ⟨g, 0, mirrorAgents firsts ags⟩ :=
    (feasible_iff _ _ _).2 ⟨(consistent_iff _ _ _).2 hc, hroute⟩
  have h1 := step_feasible ⟨n, k, 0, 0, 0⟩ ⟨g, 0, mirrorAgents firsts ags⟩ (walkActions n ags d) hfeas hk
    (walkActions_length ha hlen) (walkActions_spec n ags d)
  rw [walk_step_mirror hinv (walkActions_length ha hlen)] at h1
  rw [feasible_iff] at h1
  refine ⟨⟨hf, stepAgents_length k ⟨g, 0, ags⟩ _ ha (walkActions_length (n := n) ha hlen),
    cons_count ((consistent_iff _ _ _).1 h1.1) 0 (Int.le_refl 0), ?_⟩, h1.2, ?_⟩
  · intro ag' hmem
    obtain ⟨i, hi⟩ := List.getElem?_of_mem hmem
    obtain ⟨ag, c, hag, hdc, h⟩ := walk_step_agent n k g ags d ha hlen hi
    obtain ⟨_, _, hpin, hst, _, ht, hne, _⟩ := walkInv_agent hinv hag
    rcases h with rfl | ⟨rfl, hvalid, hnz⟩
    · exact ⟨ht, hne⟩
    · refine ⟨ht, ?_⟩
      show movePosition ag.position (actionFromCells n (flatPos n ag.position) c) ≠ ag.start
      -- the head moves onto a free cell, and the walk start holds the target value
      intro heq
      rw [isValidPosition_eq hc.shaped] at hvalid
      have hz := walk_move_free hc.shaped hpin (hvc i ag c hag hdc) hnz (of_decide_eq_true hvalid).1
      rw [heq, hst] at hz
      exact tgtVal_ne_zero i hz
  · -- no agent's start changes
    intro i f ag' hfi hi
    obtain ⟨ag, c, hag, _, h⟩ := walk_step_agent n k g ags d ha hlen hi
    have hold := hadj i f ag hfi hag
    rcases h with rfl | ⟨rfl, _, _⟩ <;> exact hold

theorem walk_final (n k : Nat) (hk : 0 < k) (init : List (Int × Int)) (tape : List (List Int))
    (hv : validWalkDraw n k init tape = true) (hnb : ∀ d ∈ init, d.2 ≠ -1) :
    WalkInvF n k (init.map fun d => unflat n d.2)
      (walkLoop n k (walkInit n (zeroGrid n) 0 init).1 (walkAgents0 n k init) tape).1
      (walkLoop n k (walkInit n (zeroGrid n) 0 init).1 (walkAgents0 n k init) tape).2 := by
  unfold validWalkDraw at hv
  simp only [Bool.and_eq_true, beq_iff_eq] at hv
  exact walkLoop_induct n k (WalkInvF n k _) (fun g ags d => walk_step_invF n k hk _ g ags d) tape _ _
    (walkInit_invF n k init hv.1.1 hv.1.2 hnb) hv.2

theorem getD_map_of_getElem? {α β} (f : α → β) (l : List α) (d : β) {i : Nat} {a : α}
    (h : l[i]? = some a) : (l.map f).getD i d = f a := by
  simp [List.getD, h]

theorem Written.agent {n k : Nat} {g S : Grid Int} {ags : List Agent}
    (sc : Written n k (ags.map (fun ag => ag.start)) (ags.map (fun ag => ag.position)) g S)
    {i : Nat} {ag : Agent} (hag : ags[i]? = some ag) (hik : i < k) :
    cell S ag.start = posVal (i : Int) ∧ cell S ag.position = tgtVal (i : Int) := by
  have h1 := sc.headAt i hik
  have h2 := sc.tgtAt i hik
  rw [getD_map_of_getElem? _ _ _ hag] at h1 h2
  exact ⟨h1, h2⟩

/-- every cell of the solved grid: a walk start, a final head, or unchanged -/
theorem solved_cases {n k : Nat} {firsts : List Pos} {g S : Grid Int} {ags : List Agent}
    (inv : WalkInv n k firsts g ags)
    (sc : Written n k (ags.map (fun ag => ag.start)) (ags.map (fun ag => ag.position)) g S)
    (q : Pos) (hq : inGrid n q) :
    (∃ (j : Nat) (a : Agent), ags[j]? = some a ∧ q = a.start ∧ cell S q = posVal (j : Int) ∧ cell g q = tgtVal (j : Int)) ∨
    (∃ (j : Nat) (a : Agent), ags[j]? = some a ∧ q = a.position ∧ cell S q = tgtVal (j : Int) ∧ cell g q = posVal (j : Int)) ∨
    (cell S q = cell g q ∧ ∀ a ∈ ags, q ≠ a.start ∧ q ≠ a.position) := by
  have hlen : ags.length = k := inv.alen
  have at_ : ∀ j, j < k → ∃ a, ags[j]? = some a ∧ (ags.map (fun ag => ag.start)).getD j (0, 0) = a.start ∧
      (ags.map (fun ag => ag.position)).getD j (0, 0) = a.position := fun j hj =>
    have h := List.getElem?_eq_getElem (l := ags) (i := j) (by omega)
    ⟨_, h, getD_map_of_getElem? _ _ _ h, getD_map_of_getElem? _ _ _ h⟩
  rcases sc.cases q hq with ⟨h1, hno⟩ | ⟨j, hjk, e, h1⟩ | ⟨j, hjk, e, h1⟩
  · right; right
    refine ⟨h1, fun a ha => ?_⟩
    obtain ⟨j, hj⟩ := List.getElem?_of_mem ha
    have hjk : j < k := by have := Jx.lt_of_getElem? hj; omega
    obtain ⟨a', ha', e1, e2⟩ := at_ j hjk
    obtain rfl : a = a' := Option.some.inj (hj.symm.trans ha')
    rw [← e1, ← e2]
    exact hno j hjk
  · left
    obtain ⟨a, hj, e1, _⟩ := at_ j hjk
    exact ⟨j, a, hj, e.trans e1, h1, by rw [e, e1]; exact (walkInv_agent inv hj).startVal⟩
  · right; left
    obtain ⟨a, hj, _, e2⟩ := at_ j hjk
    exact ⟨j, a, hj, e.trans e2, h1, by rw [e, e2]; exact (walkInv_agent inv hj).headVal⟩

theorem solved_vals {n k : Nat} {firsts : List Pos} {g S : Grid Int} {ags : List Agent}
    (inv : WalkInv n k firsts g ags)
    (sc : Written n k (ags.map (fun ag => ag.start)) (ags.map (fun ag => ag.position)) g S)
    {i : Nat} {ag : Agent} (hag : ags[i]? = some ag) (q : Pos) (hq : inGrid n q) :
    (cell S q = posVal (i : Int) → q = ag.start) ∧ (cell S q = tgtVal (i : Int) → q = ag.position) ∧
    (cell g q = pathVal (i : Int) ↔ cell S q = pathVal (i : Int)) := by
  obtain ⟨f, _, ok⟩ := walkInv_ok inv hag
  obtain ⟨_, _, _, _, _, _, hne, _⟩ := walkInv_agent inv hag
  have hmem := List.mem_of_getElem? hag
  rcases solved_cases inv sc q hq with ⟨j, a, hj, e, h1, h2⟩ | ⟨j, a, hj, e, h1, h2⟩ | ⟨h1, hno⟩
  · rw [h1, h2]
    refine ⟨fun hv => ?_, fun hv => ?_, ?_⟩
    · have : j = i := by unfold posVal at hv; omega
      subst this
      rw [hag] at hj; cases hj; exact e
    · unfold posVal tgtVal at hv; omega
    · unfold posVal tgtVal pathVal; omega
  · rw [h1, h2]
    refine ⟨fun hv => ?_, fun hv => ?_, ?_⟩
    · unfold posVal tgtVal at hv; omega
    · have : j = i := by unfold tgtVal at hv; omega
      subst this
      rw [hag] at hj; cases hj; exact e
    · unfold posVal tgtVal pathVal; omega
  · rw [h1]
    exact ⟨fun hv => absurd (ok.headUniq q hq hv) (hno ag hmem).2,
      fun hv => absurd (ok.tgtUniq hne q hq hv) (hno ag hmem).1, Iff.rfl⟩

theorem validR_seen {n : Nat} {g : Grid Int} {pv : Int} {b s : Pos} (hs : cell g s ≠ pv)
    (m : Nat) (cur : Pos) (seen seen' r : List Pos) (hsub : ∀ q ∈ seen', q ∈ seen ∨ q = s)
    (h : validR n g pv b m cur seen r) : validR n g pv b m cur seen' r := by
  induction m generalizing cur seen seen' r with
  | zero => exact h
  | succ m ih =>
    obtain ⟨q, r', e, hadj, hin, hv, hns, hb, hr'⟩ := h
    refine ⟨q, r', e, hadj, hin, hv, ?_, hb, ?_⟩
    · intro hmem
      rcases hsub q hmem with h1 | h1
      · exact hns h1
      · rw [h1] at hv; exact hs hv
    · apply ih q (q :: seen) (q :: seen') r' _ hr'
      intro x hx
      simp only [List.mem_cons] at hx ⊢
      rcases hx with rfl | hx
      · exact Or.inl (Or.inl rfl)
      · rcases hsub x hx with h1 | h1
        · exact Or.inl (Or.inr h1)
        · exact Or.inr h1

theorem validR_cons {n : Nat} {g : Grid Int} {pv : Int} {b s f : Pos} {m : Nat} {r : List Pos}
    (hadj : adjacent s f = true) (hfin : inGrid n f) (hf : cell g f = pv) (hs : cell g s ≠ pv) (hfb : f ≠ b)
    (h : validR n g pv b m f [f] r) : validR n g pv b (m + 1) s [s] (s :: r) := by
  refine ⟨f, r, rfl, hadj, hfin, hf, ?_, hfb, validR_seen hs _ _ [f] _ _ ?_ h⟩
  · intro hmem
    rw [List.mem_singleton] at hmem
    rw [hmem] at hf
    exact hs hf
  · intro q hq
    simp only [List.mem_cons, List.not_mem_nil, or_false] at hq ⊢
    exact hq

theorem agent_solved {n k : Nat} {firsts : List Pos} {g S : Grid Int} {ags : List Agent}
    (invF : WalkInvF n k firsts g ags)
    (sc : Written n k (ags.map (fun ag => ag.start)) (ags.map (fun ag => ag.position)) g S)
    {i : Nat} {ag : Agent} (hag : ags[i]? = some ag) :
    agentSolvedB n S ⟨(i : Int), ag.start, ag.position, ag.start⟩ = true := by
  obtain ⟨inv, hroute, hadj⟩ := invF
  have hg : Grid.shaped g n n = true := inv.cons.shaped
  obtain ⟨hik, hsin, hpin, hst, _, _, hne, hid⟩ := walkInv_agent inv hag
  obtain ⟨f, hfi, ok⟩ := walkInv_ok inv hag
  have hfin : inGrid n f := ok.startIn
  have vals := solved_vals inv sc hag
  obtain ⟨hSs, hSp⟩ := sc.agent hag hik
  have c1 := (countVal_one_at sc.shaped (posVal (i : Int)) hsin).2 ⟨hSs, fun q hq hv => (vals q hq).1 hv⟩
  have c2 := (countVal_one_at sc.shaped (tgtVal (i : Int)) hpin).2 ⟨hSp, fun q hq hv => (vals q hq).2.1 hv⟩
  have hcnt : countVal g (pathVal (i : Int)) = countVal S (pathVal (i : Int)) :=
    countVal_congr hg sc.shaped _ (fun q hq => (vals q hq).2.2)
  -- the mirror's route from the first-move cell to the head, continued backwards to the walk start
  have hr : agentRouteB n g (mirrorAgent f ag) = true := by
    rw [List.all_eq_true] at hroute
    exact hroute _ (List.mem_of_getElem? (mirrorAgents_getElem? hfi hag))
  have hold : (f = ag.position ∧ countVal g (pathVal ag.id) = 0) ∨
      (f ≠ ag.position ∧ ∃ r, validR n g (pathVal ag.id) ag.position (countVal g (pathVal ag.id) - 1) f [f] r) :=
    (agentRouteB_iff n g (mirrorAgent f ag) hfin hpin).1 hr
  rw [hid, hcnt] at hold
  have hvalid : ∃ r, validR n S (pathVal (i : Int)) ag.position (countVal S (pathVal (i : Int))) ag.start [ag.start] r := by
    rcases hold with ⟨e, h0⟩ | ⟨e, r, hr'⟩
    · rw [h0]
      exact ⟨[ag.start, ag.position], rfl, by rw [← e]; exact hadj i f ag hfi hag⟩
    · have hSf : cell S f = pathVal (i : Int) := (vals f hfin).2.2.1 (ok.startAt e)
      have hpos : 0 < countVal S (pathVal (i : Int)) := by
        unfold countVal
        exact count_pos_of_cell _ sc.shaped hfin (by simp [hSf])
      obtain ⟨c, hc⟩ : ∃ c, countVal S (pathVal (i : Int)) = c + 1 := ⟨_, (Nat.sub_add_cancel hpos).symm⟩
      rw [hc] at hr' ⊢
      have hSsne : cell S ag.start ≠ pathVal (i : Int) := by
        rw [hSs]; unfold posVal pathVal; omega
      exact ⟨ag.start :: r, validR_cons (hadj i f ag hfi hag) hfin hSf hSsne e
        (validR_mono (fun q hq hv => (vals q hq).2.2.1 hv) _ _ _ _ hr')⟩
  obtain ⟨r, hr⟩ := hvalid
  obtain ⟨r', hsr, hir⟩ := search_isRoute_of_valid hr (fun e => hne e.symm) hsin hpin
  unfold agentSolvedB
  simp only [Bool.and_eq_true, beq_iff_eq, decide_eq_true_eq]
  refine ⟨⟨⟨⟨⟨⟨hsin, hpin⟩, hSs⟩, hSp⟩, c1.2⟩, c2.2⟩, ?_⟩
  rw [hsr]
  exact hir

theorem solved_of_invF {n k : Nat} {firsts : List Pos} {g : Grid Int} {ags : List Agent}
    (invF : WalkInvF n k firsts g ags) :
    solvedBoardB n k (emitBoard n k (ags.map (fun ag => ag.start)) (ags.map (fun ag => ag.position)))
      (scatter (scatter g (ags.map (fun ag => ag.start)) ((agentIds k).map posVal))
        (ags.map (fun ag => ag.position)) ((agentIds k).map tgtVal)) = true := by
  have inv := invF.1
  obtain ⟨h1, h2, h3, h4⟩ := walkInv_distinct n k _ _ _ inv
  have hg : Grid.shaped g n n = true := inv.cons.shaped
  have sc := scatter_written n k _ _ h1 h2 h3 h4 g hg
  have ec := (emit_cells n k _ _ h1 h2 h3 h4).1
  revert sc
  generalize scatter (scatter g (ags.map (fun ag => ag.start)) ((agentIds k).map posVal))
        (ags.map (fun ag => ag.position)) ((agentIds k).map tgtVal) = S
  intro sc
  have hlen : ags.length = k := inv.alen
  unfold solvedBoardB
  simp only [Bool.and_eq_true]
  refine ⟨⟨⟨sc.shaped, ?_⟩, ?_⟩, ?_⟩
  · rw [List.all_eq_true]
    intro a ha
    obtain ⟨i, hi⟩ := List.getElem?_of_mem ha
    have hi' : (mkAgents k (ags.map (fun ag => ag.start)) (ags.map (fun ag => ag.position))
        (ags.map (fun ag => ag.start)))[i]? = some a := hi
    obtain ⟨hik, rfl⟩ := mkAgents_getElem? hi'
    have hag : ags[i]? = some (ags[i]'(by omega)) := List.getElem?_eq_getElem (by omega)
    rw [getD_map_of_getElem? _ _ _ hag, getD_map_of_getElem? _ _ _ hag]
    exact agent_solved invF sc hag
  · rw [all_iff_cell _ sc.shaped]
    intro q hq
    simp only [Bool.and_eq_true, decide_eq_true_eq]
    rcases solved_cases inv sc q hq with ⟨j, a, hj, e, h1, _⟩ | ⟨j, a, hj, e, h1, _⟩ | ⟨h1, hno⟩
    · have hjk := (walkInv_agent inv hj).lt
      rw [h1]; unfold posVal; omega
    · have hjk := (walkInv_agent inv hj).lt
      rw [h1]; unfold tgtVal; omega
    · rw [h1]; exact inv.cons.range q hq
  · have hrows := rows_all_of_cell (fun (v v' : Int) => v == 0 || v == v') ec.shaped sc.shaped (by
      intro q hq
      simp only [Bool.or_eq_true, beq_iff_eq]
      rcases ec.cases q hq with h0 | ⟨i, hik, e, hv⟩ | ⟨i, hik, e, hv⟩
      · exact Or.inl (h0.1.trans (cell_zeroGrid n q))
      · right; rw [hv, e]; exact (sc.headAt i hik).symm
      · right; rw [hv, e]; exact (sc.tgtAt i hik).symm)
    exact (Jx.zipWith_all_getElem ..).2 fun k h1 h2 =>
      (Bool.and_eq_true _ _ ▸ (Jx.zipWith_all_getElem ..).1 hrows k h1 h2 : _ ∧ _).2

end Connector
