/- The random walk of `RandomWalkGenerator`: its `_step_agents` through the mirror, flat cells and the actions derived from
the draws, induction along the loop, and what `WalkInv` gives at the end.  The conjuncts of `WalkInv` (WalkDefs.lean) by name:
`WalkInv.flen … dummy`; `WalkAgentOK`: what `WalkInv` says of walk agent `i` itself (`walkInv_agent`). -/
import JumanjiModel.Env.Connector.WalkInitLemmas
namespace Connector
open Jm Jx

section
variable {n k : Nat} {firsts : List Pos} {g : Grid Int} {ags : List Agent}

theorem WalkInv.flen (h : WalkInv n k firsts g ags) : firsts.length = k := h.1

theorem WalkInv.alen (h : WalkInv n k firsts g ags) : ags.length = k := h.2.1

theorem WalkInv.cons (h : WalkInv n k firsts g ags) : Cons n k ⟨g, 0, mirrorAgents firsts ags⟩ := h.2.2.1

theorem WalkInv.dummy (h : WalkInv n k firsts g ags) : ∀ ag ∈ ags, ag.target = (-1, -1) ∧ ag.position ≠ ag.start :=
  h.2.2.2

end

theorem cons_count {n k : Nat} {g : Grid Int} {c : Int} {ags : List Agent} (h : Cons n k ⟨g, c, ags⟩) (c' : Int)
    (hc : 0 ≤ c') : Cons n k ⟨g, c', ags⟩ :=
  ⟨h.shaped, h.len, h.agent, h.range, hc⟩

theorem mirrorAgents_getElem? {firsts : List Pos} {ags : List Agent} {i : Nat} {f : Pos} {ag : Agent}
    (hf : firsts[i]? = some f) (hag : ags[i]? = some ag) :
    (mirrorAgents firsts ags)[i]? = some (mirrorAgent f ag) := by
  unfold mirrorAgents
  rw [List.getElem?_zipWith, hag, hf]

theorem walkInv_ok {n k : Nat} {firsts : List Pos} {g : Grid Int} {ags : List Agent}
    (hinv : WalkInv n k firsts g ags) {i : Nat} {ag : Agent} (hag : ags[i]? = some ag) :
    ∃ f, firsts[i]? = some f ∧ AgentOK n g i (mirrorAgent f ag) := by
  have hi : i < firsts.length := by have := Jx.lt_of_getElem? hag; have := hinv.flen; have := hinv.alen; omega
  have hf : firsts[i]? = some firsts[i] := List.getElem?_eq_getElem hi
  exact ⟨firsts[i], hf, hinv.cons.agent i _ (mirrorAgents_getElem? hf hag)⟩

/-- what `WalkInv` says of walk agent number `i` itself (not of its mirror image) -/
structure WalkAgentOK (n k : Nat) (g : Grid Int) (i : Nat) (ag : Agent) : Prop where
  lt : i < k
  startIn : inGrid n ag.start
  posIn : inGrid n ag.position
  startVal : cell g ag.start = tgtVal (i : Int)
  headVal : cell g ag.position = posVal (i : Int)
  dummy : ag.target = (-1, -1)
  moved : ag.position ≠ ag.start
  id : ag.id = (i : Int)

theorem walkInv_agent {n k : Nat} {firsts : List Pos} {g : Grid Int} {ags : List Agent}
    (hinv : WalkInv n k firsts g ags) {i : Nat} {ag : Agent} (hag : ags[i]? = some ag) : WalkAgentOK n k g i ag := by
  obtain ⟨f, _, ok⟩ := walkInv_ok hinv hag
  have hi : i < k := by have := Jx.lt_of_getElem? hag; have := hinv.alen; omega
  obtain ⟨ht, hne⟩ := hinv.dummy ag (List.mem_of_getElem? hag)
  exact ⟨hi, ok.tgtIn, ok.posIn, ok.tgtAt hne, ok.headAt, ht, hne, ok.id⟩

theorem isValidPosition_mirror (g : Grid Int) (f : Pos) (ag : Agent) (p : Pos) (h1 : ag.connected = false)
    (h2 : (mirrorAgent f ag).connected = false) :
    isValidPosition g (mirrorAgent f ag) p = isValidPosition g ag p := by
  simp only [isValidPosition, h1, h2]
  rfl

theorem stepAgent_mirror (g : Grid Int) (f : Pos) (ag : Agent) (a : Int) (h1 : ag.connected = false)
    (h2 : (mirrorAgent f ag).connected = false) :
    stepAgent g (mirrorAgent f ag) a = (mirrorAgent f (stepAgent g ag a).1, (stepAgent g ag a).2) := by
  have e := isValidPosition_mirror g f ag (movePosition ag.position a) h1 h2
  have e' : isValidPosition g (mirrorAgent f ag) (movePosition (mirrorAgent f ag).position a) =
      isValidPosition g ag (movePosition ag.position a) := e
  unfold stepAgent
  simp only [e']
  by_cases hc : (isValidPosition g ag (movePosition ag.position a) && a != 0) = true
  · simp only [hc, if_true]; rfl
  · simp only [hc]; rfl

theorem agentGrids_mirror (k : Nat) (g : Grid Int) (c : Int) (firsts : List Pos) (ags : List Agent) (acts : List Int)
    (hl : firsts.length = ags.length)
    (hun : ∀ (i : Nat) f ag, firsts[i]? = some f → ags[i]? = some ag →
      ag.connected = false ∧ (mirrorAgent f ag).connected = false) :
    agentGrids k ⟨g, c, mirrorAgents firsts ags⟩ acts = agentGrids k ⟨g, c, ags⟩ acts := by
  apply List.ext_getElem?
  intro i
  simp only [agentGrids, stepEach, mirrorAgents, List.getElem?_zipWith]
  cases hf : firsts[i]? with
  | none =>
    have : ags[i]? = none := by rw [List.getElem?_eq_none_iff] at hf ⊢; omega
    simp [this]
  | some f =>
    cases ha : ags[i]? with
    | none => simp
    | some ag =>
      cases hc : acts[i]? with
      | none => simp
      | some a =>
        obtain ⟨u1, u2⟩ := hun i f ag hf ha
        simp only [stepAgent_mirror g f ag a u1 u2]
        cases (agentIds k)[i]? <;> rfl

theorem stepAgents_mirror (k : Nat) (g : Grid Int) (c : Int) (firsts : List Pos) (ags : List Agent) (acts : List Int)
    (hf : firsts.length = k) (hl : ags.length = k) (ha : acts.length = k)
    (hun : ∀ (i : Nat) f ag, firsts[i]? = some f → ags[i]? = some ag →
      ag.connected = false ∧ (mirrorAgent f ag).connected = false) :
    stepAgents k ⟨g, c, mirrorAgents firsts ags⟩ acts =
      (mirrorAgents firsts (stepAgents k ⟨g, c, ags⟩ acts).1, (stepAgents k ⟨g, c, ags⟩ acts).2) := by
  have hG := agentGrids_mirror k g c firsts ags acts (by omega) hun
  have hlen := stepAgents_length k ⟨g, c, ags⟩ acts hl ha
  refine Prod.ext ?_ (by rw [stepAgents_grid, stepAgents_grid, hG])
  apply List.ext_getElem?
  intro i
  rcases Nat.lt_or_ge i k with hi | hi
  · have lk : ∀ {α : Type} (l : List α), l.length = k → ∃ x, l[i]? = some x := fun l h =>
      ⟨l[i]'(by omega), List.getElem?_eq_getElem (by omega)⟩
    obtain ⟨f, hfi⟩ := lk firsts hf
    obtain ⟨ag, hai⟩ := lk ags hl
    obtain ⟨a, hci⟩ := lk acts ha
    obtain ⟨u1, u2⟩ := hun i f ag hfi hai
    rw [stepAgents_get k ⟨g, c, mirrorAgents firsts ags⟩ acts hi (mirrorAgents_getElem? hfi hai) hci, hG,
      mirrorAgents_getElem? hfi (stepAgents_get k ⟨g, c, ags⟩ acts hi hai hci), stepAgent_mirror g f ag a u1 u2,
      apply_ite (mirrorAgent f)]
  · rw [List.getElem?_eq_none, List.getElem?_eq_none]
    · rw [mirrorAgents, List.length_zipWith, hlen, hf]; omega
    · rw [stepAgents_length k ⟨g, c, mirrorAgents firsts ags⟩ acts (by rw [mirrorAgents, List.length_zipWith, hf, hl]; omega) ha]
      exact hi

theorem unflat_mul_add (n : Nat) (a b : Int) (h0 : 0 ≤ b) (h1 : b < (n : Int)) :
    unflat n (a * (n : Int) + b) = (a, b) :=
  Prod.ext (Jx.divmod_mul_add a b h0 h1).1 (Jx.divmod_mul_add a b h0 h1).2

/-- the sum of `_action_from_tuple` -/
def actSum (d : Pos) : Int :=
  (if d = (-1, 0) then 1 else 0) + (if d = (1, 0) then 3 else 0) + (if d = (0, -1) then 4 else 0) +
  (if d = (0, 1) then 2 else 0)

theorem action_eq (n : Nat) (c1 c2 : Int) :
    actionFromCells n c1 c2 = actSum ((unflat n c2).1 - (unflat n c1).1, (unflat n c2).2 - (unflat n c1).2) := rfl

theorem actSum_cases (d : Pos) :
    (d = (-1, 0) ∧ actSum d = 1) ∨ (d = (1, 0) ∧ actSum d = 3) ∨ (d = (0, -1) ∧ actSum d = 4) ∨
    (d = (0, 1) ∧ actSum d = 2) ∨ actSum d = 0 := by
  by_cases h1 : d = (-1, 0)
  · subst h1; left; exact ⟨rfl, by decide⟩
  by_cases h2 : d = (1, 0)
  · subst h2; right; left; exact ⟨rfl, by decide⟩
  by_cases h3 : d = (0, -1)
  · subst h3; right; right; left; exact ⟨rfl, by decide⟩
  by_cases h4 : d = (0, 1)
  · subst h4; right; right; right; left; exact ⟨rfl, by decide⟩
  right; right; right; right
  simp [actSum, h1, h2, h3, h4]

theorem action_spec (n : Nat) (c1 c2 : Int) : 0 ≤ actionFromCells n c1 c2 ∧ actionFromCells n c1 c2 ≤ 4 := by
  rw [action_eq]
  rcases actSum_cases ((unflat n c2).1 - (unflat n c1).1, (unflat n c2).2 - (unflat n c1).2) with
    ⟨_, e⟩ | ⟨_, e⟩ | ⟨_, e⟩ | ⟨_, e⟩ | e <;> rw [e] <;> omega

theorem move_actSum (p d : Pos) (hd : d = (-1, 0) ∨ d = (1, 0) ∨ d = (0, -1) ∨ d = (0, 1)) :
    actSum d ≠ 0 ∧ movePosition p (actSum d) = (p.1 + d.1, p.2 + d.2) := by
  rcases hd with rfl | rfl | rfl | rfl
  · refine ⟨by decide, ?_⟩
    rw [show actSum (-1, 0) = 1 by decide]; simp [movePosition]; omega
  · refine ⟨by decide, ?_⟩
    rw [show actSum (1, 0) = 3 by decide]; simp [movePosition]
  · refine ⟨by decide, ?_⟩
    rw [show actSum (0, -1) = 4 by decide]; simp [movePosition]; omega
  · refine ⟨by decide, ?_⟩
    rw [show actSum (0, 1) = 2 by decide]; simp [movePosition]

theorem action_of_unflat (n : Nat) (c0 c : Int) (r col r' col' : Int) (h0 : unflat n c0 = (r, col))
    (h : unflat n c = (r', col')) : actionFromCells n c0 c = actSum (r' - r, col' - col) := by
  rw [action_eq, h0, h]

theorem adj_move (n : Nat) (p : Pos) (hp : inGrid n p) (c : Int) (hc : c ∈ adjacentCells n (flatPos n p))
    (hne : c ≠ -1) :
    0 ≤ c ∧ c < ((n * n : Nat) : Int) ∧ actionFromCells n (flatPos n p) c ≠ 0 ∧
      movePosition p (actionFromCells n (flatPos n p) c) = unflat n c := by
  obtain ⟨r, col⟩ := p
  obtain ⟨hr0, hr1, hc0, hc1⟩ := hp
  simp only at hr0 hr1 hc0 hc1
  obtain ⟨hdir, h0, h1, hline⟩ := mem_adjacentCells n _ c hc hne
  have hu0 : unflat n (flatPos n (r, col)) = (r, col) := unflat_mul_add n r col hc0 hc1
  refine ⟨h0, h1, ?_⟩
  rw [hu0] at hline
  simp only at hline
  have key : ∃ d : Pos, (d = (-1, 0) ∨ d = (1, 0) ∨ d = (0, -1) ∨ d = (0, 1)) ∧
      unflat n c = (r + d.1, col + d.2) := by
    unfold flatPos at hdir
    simp only at hdir
    rcases hdir with e | e | e | e
    · refine ⟨(-1, 0), Or.inl rfl, ?_⟩
      rw [e, show r * (n : Int) + col + -(n : Int) = (r + -1) * (n : Int) + (col + 0) by rw [Int.add_mul]; omega]
      exact unflat_mul_add n _ _ (by omega) (by omega)
    · refine ⟨(1, 0), Or.inr (Or.inl rfl), ?_⟩
      rw [e, show r * (n : Int) + col + (n : Int) = (r + 1) * (n : Int) + (col + 0) by rw [Int.add_mul]; omega]
      exact unflat_mul_add n _ _ (by omega) (by omega)
    · by_cases hz : col = 0
      · exfalso
        have hu : unflat n c = (r + -1, (n : Int) - 1) := by
          rw [e, show r * (n : Int) + col + -1 = (r + -1) * (n : Int) + ((n : Int) - 1) by rw [Int.add_mul]; omega]
          exact unflat_mul_add n _ _ (by omega) (by omega)
        rw [hu] at hline
        simp only at hline
        have hr : r = 0 := by omega
        subst hr
        omega
      · refine ⟨(0, -1), Or.inr (Or.inr (Or.inl rfl)), ?_⟩
        rw [e, show r * (n : Int) + col + -1 = (r + 0) * (n : Int) + (col + -1) by rw [Int.add_mul]; omega]
        exact unflat_mul_add n _ _ (by omega) (by omega)
    · by_cases hz : col + 1 = (n : Int)
      · exfalso
        have hu : unflat n c = (r + 1, 0) := by
          rw [e, show r * (n : Int) + col + 1 = (r + 1) * (n : Int) + 0 by rw [Int.add_mul]; omega]
          exact unflat_mul_add n _ _ (by omega) (by omega)
        rw [hu] at hline
        simp only at hline
        have hn1 : n = 1 := by omega
        subst hn1
        simp at e h1
        omega
      · refine ⟨(0, 1), Or.inr (Or.inr (Or.inr rfl)), ?_⟩
        rw [e, show r * (n : Int) + col + 1 = (r + 0) * (n : Int) + (col + 1) by rw [Int.add_mul]; omega]
        exact unflat_mul_add n _ _ (by omega) (by omega)
  obtain ⟨d, hd, hu⟩ := key
  have ha : actionFromCells n (flatPos n (r, col)) c = actSum d := by
    rw [action_of_unflat n _ c r col _ _ hu0 hu]
    congr 1
    exact Prod.ext (by show r + d.1 - r = d.1; omega) (by show col + d.2 - col = d.2; omega)
  rw [ha, hu]
  exact move_actSum (r, col) d hd

/-- the drawn cell `-1` (nothing available): the derived action is the no-op or points off the grid -/
theorem adj_none (n : Nat) (p : Pos) (hp : inGrid n p) :
    actionFromCells n (flatPos n p) (-1) = 0 ∨
      ¬ inGrid n (movePosition p (actionFromCells n (flatPos n p) (-1))) := by
  obtain ⟨r, col⟩ := p
  obtain ⟨hr0, hr1, hc0, hc1⟩ := hp
  simp only at hr0 hr1 hc0 hc1
  have hu0 : unflat n (flatPos n (r, col)) = (r, col) := unflat_mul_add n r col hc0 hc1
  have hu1 : unflat n (-1) = (-1, (n : Int) - 1) := by
    have := unflat_mul_add n (-1) ((n : Int) - 1) (by omega) (by omega)
    rw [show (-1 : Int) * (n : Int) + ((n : Int) - 1) = -1 by omega] at this
    exact this
  rw [action_of_unflat n _ _ r col (-1) ((n : Int) - 1) hu0 hu1]
  rcases actSum_cases (-1 - r, (n : Int) - 1 - col) with ⟨hd, ha⟩ | ⟨hd, ha⟩ | ⟨hd, ha⟩ | ⟨hd, ha⟩ | ha
  · right
    rw [ha]
    intro hin
    have hm : movePosition (r, col) 1 = (r - 1, col) := by simp [movePosition]
    rw [hm] at hin
    have := hin.1
    simp only [Prod.mk.injEq] at hd
    simp only at this
    omega
  · simp only [Prod.mk.injEq] at hd; omega
  · simp only [Prod.mk.injEq] at hd; omega
  · simp only [Prod.mk.injEq] at hd; omega
  · left; exact ha

/-- the cells `d` drawn in one iteration are possible results of `jax.random.choice`, agent by agent -/
def ValidDraws (n : Nat) (g : Grid Int) (ags : List Agent) (d : List Int) : Prop :=
  ∀ (i : Nat) ag c, ags[i]? = some ag → d[i]? = some c →
    validChoice (availableCells n g (flatPos n ag.position))
      ((availableCells n g (flatPos n ag.position)).map (fun x => x != -1)) c = true

theorem validTape_cons {n k : Nat} {g : Grid Int} {ags : List Agent} {d : List Int} {rest : List (List Int)}
    (hv : validTape n k g ags (d :: rest) = true) :
    continueStepping n g ags = true ∧ d.length = k ∧ ValidDraws n g ags d ∧
      validTape n k (stepAgents k ⟨g, 0, ags⟩ (walkActions n ags d)).2
        (stepAgents k ⟨g, 0, ags⟩ (walkActions n ags d)).1 rest = true := by
  simp only [validTape, Bool.and_eq_true, beq_iff_eq] at hv
  obtain ⟨⟨⟨hcs, hlen⟩, hall⟩, hrest⟩ := hv
  refine ⟨hcs, hlen, ?_, hrest⟩
  intro i ag c hag hdc
  rw [List.all_eq_true] at hall
  have hm : validChoice (availableCells n g (flatPos n ag.position))
      ((availableCells n g (flatPos n ag.position)).map (fun x => x != -1)) c ∈
      List.zipWith (fun (ag : Agent) (c : Int) =>
        validChoice (availableCells n g (flatPos n ag.position))
          ((availableCells n g (flatPos n ag.position)).map (fun x => x != -1)) c) ags d := by
    apply List.mem_of_getElem? (i := i)
    rw [List.getElem?_zipWith, hag, hdc]
  have := hall _ hm
  simpa using this

theorem walkActions_spec (n : Nat) (ags : List Agent) (d : List Int) : ∀ a ∈ walkActions n ags d, 0 ≤ a ∧ a ≤ 4 := by
  intro a hmem
  obtain ⟨i, hi⟩ := List.getElem?_of_mem hmem
  unfold walkActions at hi
  rw [List.getElem?_zipWith_eq_some] at hi
  obtain ⟨ag, c, _, _, rfl⟩ := hi
  exact action_spec n _ _

/-- during the walk nobody is connected: the dummy target lies off the grid, and the mirror's target is the walk
start, where no head stands -/
theorem walkInv_unconnected {n k : Nat} {firsts : List Pos} {g : Grid Int} {ags : List Agent}
    (hinv : WalkInv n k firsts g ags) {i : Nat} {ag : Agent} (hag : ags[i]? = some ag) (f : Pos) :
    ag.connected = false ∧ (mirrorAgent f ag).connected = false := by
  obtain ⟨_, _, hpos, _, _, ht, hne, _⟩ := walkInv_agent hinv hag
  constructor
  · cases hcn : ag.connected with
    | false => rfl
    | true =>
      have e : ag.position = ag.target := (connected_iff _).1 hcn
      rw [ht] at e
      have := hpos.1
      rw [e] at this
      simp at this
  · cases hcn : (mirrorAgent f ag).connected with
    | false => rfl
    | true => exact absurd ((connected_iff _).1 hcn) hne

/-- the walk loop only calls `stepAgents`; the configuration with time limit and rewards 0 lets `step_feasible`, stated
for `step cfg`, be used for it -/
theorem walk_step_mirror {n k : Nat} {firsts : List Pos} {g : Grid Int} {ags : List Agent}
    (hinv : WalkInv n k firsts g ags) {acts : List Int} (hacts : acts.length = k) :
    (step ⟨n, k, 0, 0, 0⟩ ⟨g, 0, mirrorAgents firsts ags⟩ acts).1 =
      ⟨(stepAgents k ⟨g, 0, ags⟩ acts).2, 1, mirrorAgents firsts (stepAgents k ⟨g, 0, ags⟩ acts).1⟩ := by
  have hmir := stepAgents_mirror k g 0 firsts ags acts hinv.flen hinv.alen hacts
    (fun i f ag _ hag => walkInv_unconnected hinv hag f)
  have e : (step ⟨n, k, 0, 0, 0⟩ ⟨g, 0, mirrorAgents firsts ags⟩ acts).1 =
      ⟨(stepAgents k ⟨g, 0, mirrorAgents firsts ags⟩ acts).2, 0 + 1,
       (stepAgents k ⟨g, 0, mirrorAgents firsts ags⟩ acts).1⟩ := rfl
  rw [e, hmir]
  rfl

theorem walkActions_length {n k : Nat} {ags : List Agent} {d : List Int} (ha : ags.length = k) (hlen : d.length = k) :
    (walkActions n ags d).length = k := by
  simp [walkActions, ha, hlen]

theorem walk_step_agent (n k : Nat) (g : Grid Int) (ags : List Agent) (d : List Int) (ha : ags.length = k)
    (hlen : d.length = k) {i : Nat} {ag' : Agent}
    (hi : (stepAgents k ⟨g, 0, ags⟩ (walkActions n ags d)).1[i]? = some ag') :
    ∃ ag c, ags[i]? = some ag ∧ d[i]? = some c ∧
      (ag' = ag ∨
       (ag' = { ag with position := movePosition ag.position (actionFromCells n (flatPos n ag.position) c) } ∧
        isValidPosition g ag (movePosition ag.position (actionFromCells n (flatPos n ag.position) c)) = true ∧
        actionFromCells n (flatPos n ag.position) c ≠ 0)) := by
  have hlen' := stepAgents_length k ⟨g, 0, ags⟩ _ ha (walkActions_length (n := n) ha hlen)
  have hik : i < k := by have := Jx.lt_of_getElem? hi; omega
  obtain ⟨ag, hag⟩ : ∃ ag, ags[i]? = some ag := ⟨ags[i]'(by omega), List.getElem?_eq_getElem (by omega)⟩
  obtain ⟨c, hdc⟩ : ∃ c, d[i]? = some c := ⟨d[i]'(by omega), List.getElem?_eq_getElem (by omega)⟩
  have hact : (walkActions n ags d)[i]? = some (actionFromCells n (flatPos n ag.position) c) := by
    unfold walkActions; rw [List.getElem?_zipWith, hag, hdc]
  refine ⟨ag, c, hag, hdc, ?_⟩
  rcases stay_or_move ⟨n, k, 0, 0, 0⟩ ⟨g, 0, ags⟩ (walkActions n ags d) hik hag hact with h | ⟨h, hvalid, hnz⟩
  · -- `h` speaks of `step`; read through `stepAgents` first, since matching it against `hi` directly is slow to check
    rw [step_agents] at h
    rw [h] at hi
    exact Or.inl (Option.some.inj hi).symm
  · rw [step_agents] at h
    rw [h] at hi
    exact Or.inr ⟨(Option.some.inj hi).symm, hvalid, hnz⟩

theorem walk_move_free {n : Nat} {g : Grid Int} (hs : Grid.shaped g n n = true) {p : Pos} (hp : inGrid n p) {c : Int}
    (hvc : validChoice (availableCells n g (flatPos n p))
      ((availableCells n g (flatPos n p)).map (fun x => x != -1)) c = true)
    (hnz : actionFromCells n (flatPos n p) c ≠ 0)
    (hin : inGrid n (movePosition p (actionFromCells n (flatPos n p) c))) :
    cell g (movePosition p (actionFromCells n (flatPos n p) c)) = 0 := by
  by_cases hc1 : c = -1
  · subst hc1
    rcases adj_none n p hp with h0 | hout
    · exact absurd h0 hnz
    · exact absurd hin hout
  · have hm := validChoice_mem hvc (available_ne_nil n g _)
    obtain ⟨hadj, hfree⟩ := mem_available n g _ c hm hc1
    obtain ⟨h0, h1, _, hmove⟩ := adj_move n p hp c hadj hc1
    rw [hmove, ← getWC_eq_cell hs (p := unflat n c) (Jx.divmod_inGrid h0 h1)]
    exact hfree

theorem walkLoop_induct (n k : Nat) (P : Grid Int → List Agent → Prop)
    (hstep : ∀ (g : Grid Int) (ags : List Agent) (d : List Int), P g ags → d.length = k → ValidDraws n g ags d →
      P (stepAgents k ⟨g, 0, ags⟩ (walkActions n ags d)).2 (stepAgents k ⟨g, 0, ags⟩ (walkActions n ags d)).1)
    (tape : List (List Int)) (g : Grid Int) (ags : List Agent) (h : P g ags)
    (hv : validTape n k g ags tape = true) : P (walkLoop n k g ags tape).1 (walkLoop n k g ags tape).2 := by
  induction tape generalizing g ags with
  | nil => simp only [walkLoop]; exact h
  | cons d rest ih =>
    obtain ⟨hcs, hlen, hvc, hrest⟩ := validTape_cons hv
    simp only [walkLoop, hcs, if_true]
    exact ih _ _ (hstep g ags d h hlen hvc) hrest

theorem walkInv_distinct (n k : Nat) (firsts : List Pos) (g : Grid Int) (ags : List Agent) (hinv : WalkInv n k firsts g ags) :
    (ags.map (fun ag => ag.start)).length = k ∧ (ags.map (fun ag => ag.position)).length = k ∧
    (ags.map (fun ag => ag.start) ++ ags.map (fun ag => ag.position)).Nodup ∧
    ∀ p ∈ ags.map (fun ag => ag.start) ++ ags.map (fun ag => ag.position), inGrid n p := by
  have hlen : ags.length = k := hinv.alen
  refine ⟨by simp [hlen], by simp [hlen], ?_, ?_⟩
  · rw [List.nodup_append]
    refine ⟨?_, ?_, ?_⟩
    · unfold List.Nodup
      rw [List.pairwise_map, List.pairwise_iff_getElem]
      intro i j hi hj hij e
      have fi := walkInv_agent hinv (List.getElem?_eq_getElem hi)
      have fj := walkInv_agent hinv (List.getElem?_eq_getElem hj)
      have h1 := fi.startVal
      have h2 := fj.startVal
      rw [e, h2] at h1
      unfold tgtVal at h1; omega
    · unfold List.Nodup
      rw [List.pairwise_map, List.pairwise_iff_getElem]
      intro i j hi hj hij e
      have fi := walkInv_agent hinv (List.getElem?_eq_getElem hi)
      have fj := walkInv_agent hinv (List.getElem?_eq_getElem hj)
      have h1 := fi.headVal
      have h2 := fj.headVal
      rw [e, h2] at h1
      unfold posVal at h1; omega
    · intro a ha b hb e
      rw [List.mem_map] at ha hb
      obtain ⟨ag1, hm1, rfl⟩ := ha
      obtain ⟨ag2, hm2, rfl⟩ := hb
      obtain ⟨i, hi⟩ := List.getElem?_of_mem hm1
      obtain ⟨j, hj⟩ := List.getElem?_of_mem hm2
      have fi := walkInv_agent hinv hi
      have fj := walkInv_agent hinv hj
      have h1 := fi.startVal
      have h2 := fj.headVal
      rw [e, h2] at h1
      unfold posVal tgtVal at h1; omega
  · intro p hp
    rw [List.mem_append, List.mem_map, List.mem_map] at hp
    rcases hp with ⟨ag, hm, rfl⟩ | ⟨ag, hm, rfl⟩
    · obtain ⟨i, hi⟩ := List.getElem?_of_mem hm
      exact (walkInv_agent hinv hi).startIn
    · obtain ⟨i, hi⟩ := List.getElem?_of_mem hm
      exact (walkInv_agent hinv hi).posIn

end Connector
