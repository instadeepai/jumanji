/-
Connector — C01 spec membership: the declared specs as `Sp` values (equal to the generated literals of the catalogue
configurations, Props/SpecTable.lean), the invariant `SpecInv` (the grid is `n × n` with cells in `0 … 3k`, there are `k`
agents, the counter is non-negative) established by BOTH generators for every draw (also a boxed-in random walk, known
finding CN1: the board is then not fresh but still in the spec) and preserved by EVERY step (any joint action of length `k`,
in the action space or not, legal or not), membership of the observations of `reset` and of every `step` (terminal step
included), whole episodes, the converse (`obs_valid_only`), reward / discount / action spec.
-/
import JumanjiModel.Env.Connector.Bounds
import JumanjiModel.Env.Connector.RefineLemmas
import JumanjiModel.Env.Connector.GenLemmas
import JumanjiModel.Env.SpecMembership
import JumanjiModel.Core.EpisodeLemmas
namespace Connector
open Jm Jx Sp PzS PkS MaS

/-- env.py `observation_spec`: `grid` BoundedArray((n, n), int32, 0, 3·k + 1) (`num_agents * 3 + AGENT_INITIAL_VALUE`),
`action_mask` BoundedArray((k, 5), bool, False, True), `step_count` BoundedArray((), int32, 0, time_limit) -/
def obsSpec (cfg : Cfg) : Sp.Nested :=
  [("grid", .bounded [cfg.n, cfg.n] .int32 "grid" [] [0] [] [(((3 * cfg.k + 1 : Nat) : Int) : Rat)]),
   ("action_mask", .bounded [cfg.k, 5] .bool "action_mask" [] [0] [] [1]),
   ("step_count", .bounded [] .int32 "step_count" [] [0] [] [(cfg.timeLimit : Rat)])]

/-- `action_spec`: MultiDiscreteArray([5] * k, int32) -/
def actionSpec (cfg : Cfg) : Leaf := actionSpecN cfg.k 5
/-- `reward_spec`: Array((k,), float); `discount_spec`: BoundedArray((k,), float, 0, 1) -/
def rewardSpec (cfg : Cfg) : Leaf := rewardSpecN cfg.k
def discountSpec (cfg : Cfg) : Leaf := discountSpecN cfg.k

/-- a model observation as the arrays the implementation emits; the shapes are READ OFF the values -/
def toNValue (o : Obs) : NValue :=
  [("grid", ⟨shape2 o.grid, .int32, ofInts (List.flatten o.grid)⟩),
   ("action_mask", ⟨shape2 o.actionMask, .bool, ofBools o.actionMask.flatten⟩),
   ("step_count", ⟨[], .int32, [(o.stepCount : Rat)]⟩)]

/-- what membership amounts to -/
def ObsOK (cfg : Cfg) (o : Obs) : Prop :=
  Rect2 o.grid cfg.n cfg.n ∧ (∀ r ∈ o.grid, ∀ v ∈ r, 0 ≤ v ∧ v ≤ 3 * (cfg.k : Int) + 1) ∧
  Rect2 o.actionMask cfg.k 5 ∧ 0 ≤ o.stepCount ∧ o.stepCount ≤ cfg.timeLimit

/-- what `validate` accepts, exactly (`shape2` reads the width off the first row: the cell count is a conjunct of its own) -/
theorem obs_valid_iff (cfg : Cfg) (o : Obs) : (obsSpec cfg).valid (toNValue o) = true ↔
    shape2 o.grid = [cfg.n, cfg.n] ∧ (List.flatten o.grid).length = cfg.n * cfg.n ∧
    (∀ v ∈ List.flatten o.grid, 0 ≤ v ∧ v ≤ 3 * (cfg.k : Int) + 1) ∧
    shape2 o.actionMask = [cfg.k, 5] ∧ o.actionMask.flatten.length = cfg.k * 5 ∧
    0 ≤ o.stepCount ∧ o.stepCount ≤ cfg.timeLimit := by
  simp only [obsSpec, toNValue, valid_cons, valid_nil, valid_scalar_bounded_iff, forall_ofInts, forall_ofBools,
    ofInts_length, ofBools_length, prod_two, prod_nil, List.forall_mem_singleton, List.length_singleton,
    Rat.intCast_nonneg, Rat.intCast_le_intCast, true_and, and_true, and_assoc]
  push_cast
  exact Iff.rfl

theorem obs_valid (cfg : Cfg) (hn : 0 < cfg.n) (hk : 0 < cfg.k) (o : Obs) (h : ObsOK cfg o) :
    (obsSpec cfg).valid (toNValue o) = true :=
  have ⟨h1, h2, h3, h4, h5⟩ := h
  (obs_valid_iff cfg o).2 ⟨(shape2_of_rect h1 hn).1, (shape2_of_rect h1 hn).2, Jx.forall_mem_flatten h2,
    (shape2_of_rect h3 hk).1, (shape2_of_rect h3 hk).2, h4, h5⟩

theorem obs_valid_only (cfg : Cfg) (o : Obs) (h : (obsSpec cfg).valid (toNValue o) = true) :
    shape2 o.grid = [cfg.n, cfg.n] ∧ (List.flatten o.grid).length = cfg.n * cfg.n ∧
    (∀ v ∈ List.flatten o.grid, 0 ≤ v ∧ v ≤ 3 * (cfg.k : Int) + 1) ∧
    shape2 o.actionMask = [cfg.k, 5] ∧ o.actionMask.flatten.length = cfg.k * 5 ∧
    0 ≤ o.stepCount ∧ o.stepCount ≤ cfg.timeLimit := (obs_valid_iff cfg o).1 h

/-- weaker than `Consistent` (nothing about where the agents are): it also holds on the boards a boxed-in random walk
produces, and EVERY step keeps it -/
def SpecInv (cfg : Cfg) (s : State) : Prop :=
  Grid.shaped s.grid cfg.n cfg.n = true ∧ AllP (fun v => 0 ≤ v ∧ v ≤ 3 * (cfg.k : Int)) s.grid ∧
  s.agents.length = cfg.k ∧ 0 ≤ s.stepCount

instance (cfg : Cfg) (s : State) : Decidable (SpecInv cfg s) := by
  unfold SpecInv AllP; infer_instance

theorem specInv_of_consistent (cfg : Cfg) (s : State) (h : Consistent cfg.n cfg.k s) : SpecInv cfg s := by
  have ⟨hg, h0⟩ := consistent_grid_range h
  have c := (consistent_iff cfg.n cfg.k s).1 h
  exact ⟨c.shaped, hg, c.len, h0⟩

theorem stepAgents_shaped (k n : Nat) (s : State) (acts : List Int) (hs : Grid.shaped s.grid n n = true)
    (hk : 0 < k) (hl : s.agents.length = k) (ha : acts.length = k) :
    Grid.shaped (stepAgents k s acts).2 n n = true := by
  rw [stepAgents_grid]
  have hne : agentGrids k s acts ≠ [] := by
    intro e
    have : (agentGrids k s acts).length = k := by
      unfold agentGrids; simp [agentIds, stepEach_length s acts (by omega), hl]
    rw [e] at this; simp at this; omega
  exact shaped_zipWith _ (shaped_joinGrids _ (agentGrids_shaped hs k acts) hne) (corr_shaped hs k _)

theorem step_specInv (cfg : Cfg) (hk : 0 < cfg.k) (s : State) (h : SpecInv cfg s) (acts : List Int)
    (ha : acts.length = cfg.k) : SpecInv cfg (step cfg s acts).1 := by
  obtain ⟨h1, _, h3, h4⟩ := h
  refine ⟨?_, ?_, ?_, ?_⟩
  · rw [step_grid]; exact stepAgents_shaped cfg.k cfg.n s acts h1 hk h3 ha
  · rw [step_grid]; exact stepAgents_grid_tight cfg.k s acts
  · show (stepAgents cfg.k s acts).1.length = cfg.k
    exact stepAgents_length cfg.k s acts h3 ha
  · rw [step_count]; omega

theorem scatter_shaped {n : Nat} (ps : List Pos) (vals : List Int) :
    ∀ (g : Grid Int), Grid.shaped g n n = true → Grid.shaped (scatter g ps vals) n n = true := by
  unfold scatter
  generalize List.zip ps vals = l
  induction l with
  | nil => intro g h; exact h
  | cons x l ih => intro g h; simp only [List.foldl_cons]; exact ih _ (Grid.shaped_setWD h _ _ _)

theorem scatter_allP {P : Int → Prop} (ps : List Pos) (vals : List Int) (hv : ∀ v ∈ vals, P v) :
    ∀ (g : Grid Int), AllP P g → AllP P (scatter g ps vals) := by
  unfold scatter
  have hl : ∀ x ∈ List.zip ps vals, P x.2 := fun x hx => hv x.2 (List.of_mem_zip hx).2
  generalize List.zip ps vals = l at hl
  induction l with
  | nil => intro g h; exact h
  | cons x l ih =>
    intro g h
    simp only [List.foldl_cons]
    exact ih (fun y hy => hl y (by simp [hy])) _ (Grid.forall_mem_setWD _ _ h (hl x (by simp)))

theorem zeroGrid_allP (n k : Nat) : AllP (fun v => 0 ≤ v ∧ v ≤ 3 * (k : Int)) (zeroGrid n) := by
  intro r hr v hv
  simp only [zeroGrid, Grid.mk, List.mem_replicate] at hr
  rw [hr.2] at hv
  simp only [List.mem_replicate] at hv
  rw [hv.2]; omega

theorem idVals_range (k : Nat) (f : Int → Int) (hf : ∀ id, 0 ≤ id → id < (k : Int) → 0 ≤ f id ∧ f id ≤ 3 * (k : Int)) :
    ∀ v ∈ (agentIds k).map f, 0 ≤ v ∧ v ≤ 3 * (k : Int) := by
  intro v hv
  obtain ⟨id, hid, rfl⟩ := List.mem_map.1 hv
  have := mem_agentIds hid
  exact hf id this.1 this.2

theorem emitBoard_specInv (cfg : Cfg) (starts targets : List Pos) : SpecInv cfg (emitBoard cfg.n cfg.k starts targets) := by
  have hp := idVals_range cfg.k posVal (fun id h0 h1 => by unfold posVal; omega)
  have ht := idVals_range cfg.k tgtVal (fun id h0 h1 => by unfold tgtVal; omega)
  refine ⟨?_, ?_, ?_, ?_⟩
  · exact scatter_shaped _ _ _ (scatter_shaped _ _ _ (shaped_zeroGrid cfg.n))
  · exact scatter_allP _ _ ht _ (scatter_allP _ _ hp _ (zeroGrid_allP cfg.n cfg.k))
  · simp [emitBoard, mkAgents]
  · show (0 : Int) ≤ 0; omega

theorem uniform_specInv (cfg : Cfg) (cells : List Nat) : SpecInv cfg (uniformGenerate cfg.n cfg.k cells) := by
  unfold uniformGenerate; exact emitBoard_specInv cfg _ _

theorem walk_specInv (cfg : Cfg) (init : List (Int × Int)) (tape : List (List Int)) :
    SpecInv cfg (walkGenerate cfg.n cfg.k init tape).2 := by
  unfold walkGenerate; exact emitBoard_specInv cfg _ _

theorem agentMask_length (g : Grid Int) (ag : Agent) : (agentMask g ag).length = 5 := by simp [agentMask]

theorem observeL1_ok (cfg : Cfg) (s : State) (h : SpecInv cfg s) (hT : s.stepCount ≤ cfg.timeLimit) :
    ObsOK cfg (observeL1 s) := by
  obtain ⟨h1, h2, h3, h4⟩ := h
  refine ⟨rect2_of_shaped h1, ?_, ⟨?_, ?_⟩, h4, hT⟩
  · intro r hr v hv
    have := h2 r hr v hv
    omega
  · simp [observeL1, actionMask, h3]
  · intro r hr
    simp only [observeL1, actionMask, List.mem_map] at hr
    obtain ⟨ag, _, rfl⟩ := hr
    exact agentMask_length _ _

/-- C01: the `reset` observation built on ANY state satisfying the invariant with counter 0 -/
theorem reset_obs_valid (cfg : Cfg) (hn : 0 < cfg.n) (hk : 0 < cfg.k) (hT : 0 ≤ cfg.timeLimit) (s : State)
    (h : SpecInv cfg s) (h0 : s.stepCount = 0) : (obsSpec cfg).valid (toNValue (resetTs cfg s).obs) = true :=
  obs_valid cfg hn hk _ (observeL1_ok cfg s h (by omega))

/-- C01: the observation of EVERY step (any joint action of length `k`, legal or not, in the action space or not; MID or
LAST) from a state satisfying the invariant whose counter has not reached the limit -/
theorem step_obs_valid (cfg : Cfg) (hn : 0 < cfg.n) (hk : 0 < cfg.k) (s : State) (h : SpecInv cfg s)
    (hlim : s.stepCount < cfg.timeLimit) (acts : List Int) (ha : acts.length = cfg.k) :
    (obsSpec cfg).valid (toNValue (step cfg s acts).2.obs) = true := by
  rw [obs_faithful]
  exact obs_valid cfg hn hk _ (observeL1_ok cfg _ (step_specInv cfg hk s h acts ha) (by rw [step_count]; omega))

/-- C01 along whole episodes from any state with the invariant and counter 0 (every generated state); only the first
`time_limit` steps are covered: the episode is over by then (`Props.C11.connector_rollout_ends_by_limit`) -/
theorem rollout_obs_valid (cfg : Cfg) (hn : 0 < cfg.n) (hk : 0 < cfg.k) (s0 : State) (h : SpecInv cfg s0)
    (h0 : s0.stepCount = 0) (as : List (List Int)) (has : ∀ a ∈ as, a.length = cfg.k) (j : Nat)
    (hj : (j : Int) < cfg.timeLimit) (e : State × TimeStep Obs) (he : (Ep.rollout (step cfg) s0 as)[j]? = some e) :
    (obsSpec cfg).valid (toNValue e.2.obs) = true := by
  obtain ⟨s', a, hinv, ha, rfl⟩ := rollout_inv_idx (step cfg)
    (fun n s => SpecInv cfg s ∧ s.stepCount = (n : Int)) (fun a => a.length = cfg.k)
    (fun n s a hh ha => ⟨step_specInv cfg hk s hh.1 a ha, by rw [step_count, hh.2]; omega⟩) 0 s0
    ⟨h, by simpa using h0⟩ as has j e he
  exact step_obs_valid cfg hn hk s' hinv.1 (by rw [hinv.2]; simpa using hj) a ha

theorem discount_entries (agents : List Agent) (mask : List (List Bool)) :
    ∀ x ∈ (List.zipWith connectedOrBlocked agents mask).map (fun d => (1 : Rat) - b2r d), 0 ≤ x ∧ x ≤ 1 := by
  intro x hx
  obtain ⟨d, _, rfl⟩ := List.mem_map.1 hx
  cases d <;> decide +kernel

theorem step_reward_discount_valid (cfg : Cfg) (s : State) (hl : s.agents.length = cfg.k) (acts : List Int)
    (ha : acts.length = cfg.k) :
    (rewardSpec cfg).valid (vecArr (step cfg s acts).2.reward) = true ∧
    (discountSpec cfg).valid (vecArr (step cfg s acts).2.discount) = true := by
  have hlen : (step cfg s acts).1.agents.length = cfg.k := stepAgents_length cfg.k s acts hl ha
  refine ⟨(reward_valid_iff _ _).2 (by simp [step_reward, hl, hlen]), (discount_valid_iff _ _).2 ?_⟩
  rw [discount_eq]
  split
  · refine ⟨by simp, fun x hx => ?_⟩
    rw [(List.mem_replicate.1 hx).2]; exact ⟨by decide, by decide⟩
  · exact ⟨by simp [actionMask, hlen], discount_entries _ _⟩

theorem reset_reward_discount_valid (cfg : Cfg) (s : State) :
    (rewardSpec cfg).valid (vecArr (resetTs cfg s).reward) = true ∧
    (discountSpec cfg).valid (vecArr (resetTs cfg s).discount) = true :=
  restart_reward_discount_valid cfg.k _

/-- `action_spec.generate_value()` is the all-no-op joint action, and `step` accepts it -/
theorem accepts_generate_value (cfg : Cfg) (hn : 0 < cfg.n) (hk : 0 < cfg.k) (s : State) (h : SpecInv cfg s)
    (hlim : s.stepCount < cfg.timeLimit) :
    (actionSpec cfg).WF = true ∧ (actionSpec cfg).valid (actionSpec cfg).generate = true ∧
    (actionSpec cfg).generate = actionArr (List.replicate cfg.k 0) ∧
    (obsSpec cfg).valid (toNValue (step cfg s (List.replicate cfg.k 0)).2.obs) = true ∧
    (rewardSpec cfg).valid (vecArr (step cfg s (List.replicate cfg.k 0)).2.reward) = true ∧
    (discountSpec cfg).valid (vecArr (step cfg s (List.replicate cfg.k 0)).2.discount) = true ∧
    (step cfg s (List.replicate cfg.k 0)).2.stepType ≠ .first := by
  obtain ⟨w, v, g⟩ := actionSpecN_accepts_generate cfg.k 5 (by omega) (by omega)
  have rd := step_reward_discount_valid cfg s h.2.2.1 (List.replicate cfg.k 0) (by simp)
  refine ⟨w, v, g, step_obs_valid cfg hn hk s h hlim _ (by simp), rd.1, rd.2, ?_⟩
  rw [step_ts, condLastDiscount_eq]
  split <;> simp

theorem step_obs_stepCount (cfg : Cfg) (s : State) (acts : List Int) :
    (step cfg s acts).2.obs.stepCount = s.stepCount + 1 := by
  rw [obs_faithful, ← step_count cfg s acts]; rfl

end Connector
