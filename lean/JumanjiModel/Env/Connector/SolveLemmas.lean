/- Connector: operational solvability.  From a route plan (one 4-connected chain per agent from its head to its
target through free cells, chains of different agents disjoint) an explicit joint-action sequence is built
(agent by agent, all others play the no-op, each agent walks along its chain) and played through the rule-level
step `stepL2`: every step is legal, nobody collides, and at the end every agent is connected.  The routes read off a
solved board that the certificate `solvedBoardB` accepts are such a plan.  The proofs go step by step (`plan_induction`:
the first agent whose route is not yet a single cell takes the next step, `planFrom_head`); `planFrom_length` counts the
steps. -/
import JumanjiModel.Env.Connector.SolvableLemmas
namespace Connector
open Jm Jx

/-- the action that moves from `p` to its 4-neighbour `q`: 1 up, 2 right, 3 down, 4 left -/
def dirAct (p q : Pos) : Int :=
  if q = (p.1 - 1, p.2) then 1 else if q = (p.1, p.2 + 1) then 2 else if q = (p.1 + 1, p.2) then 3 else 4

/-- the joint action in which agent `i` plays `a` and every other agent the no-op -/
def soloAct (k i : Nat) (a : Int) : List Int := (List.range k).map (fun j => if j = i then a else 0)

/-- agent `i` walks along the chain `r`, one cell per step, all others wait -/
def walkActs (k i : Nat) : List Pos → List (List Int)
  | p :: q :: rest => soloAct k i (dirAct p q) :: walkActs k i (q :: rest)
  | _ => []

/-- agents `i, i+1, …, i+m-1` walk one after the other -/
def planFrom (k : Nat) (routes : List (List Pos)) : Nat → Nat → List (List Int)
  | 0, _ => []
  | m + 1, i => walkActs k i (routes.getD i []) ++ planFrom k routes m (i + 1)

/-- the whole solving episode: agent 0 walks its chain, then agent 1, … -/
def planActs (k : Nat) (routes : List (List Pos)) : List (List Int) := planFrom k routes k 0

theorem dirAct_move (p : Pos) (a : Int) (h1 : 1 ≤ a) (h4 : a ≤ 4) : dirAct p (movePosition p a) = a := by
  have : a = 1 ∨ a = 2 ∨ a = 3 ∨ a = 4 := by omega
  rcases this with rfl | rfl | rfl | rfl <;> simp [dirAct, movePosition] <;> omega

theorem dirAct_spec {p q : Pos} (h : adjacent p q = true) :
    1 ≤ dirAct p q ∧ dirAct p q ≤ 4 ∧ ∃ d, dir (dirAct p q).toNat = some d ∧ q = (p.1 + d.1, p.2 + d.2) := by
  obtain ⟨a, h1, h4, rfl⟩ := (adjacent_iff_move p q).1 h
  rw [dirAct_move p a h1 h4]
  refine ⟨h1, h4, ?_⟩
  have e : a = ((a.toNat : Nat) : Int) := by omega
  have : a.toNat = 1 ∨ a.toNat = 2 ∨ a.toNat = 3 ∨ a.toNat = 4 := by omega
  rcases this with h | h | h | h <;> rw [h] <;> exact ⟨_, rfl, by rw [e, h, movePosition_dir (a := _) rfl]⟩

theorem soloAct_length (k i : Nat) (a : Int) : (soloAct k i a).length = k := by simp [soloAct]

theorem soloAct_get (k i : Nat) (a : Int) {j : Nat} (hj : j < k) :
    (soloAct k i a)[j]? = some (if j = i then a else 0) := by
  simp [soloAct, hj]

theorem soloAct_spec (k i : Nat) (a : Int) (h1 : 0 ≤ a) (h4 : a ≤ 4) : ∀ x ∈ soloAct k i a, 0 ≤ x ∧ x ≤ 4 := by
  intro x hx
  unfold soloAct at hx
  rw [List.mem_map] at hx
  obtain ⟨j, _, rfl⟩ := hx
  split <;> omega

/-- every step of the run `actss` from `s` satisfies `Good (state before the step) (joint action)` -/
def RunOK (cfg : Cfg) (Good : State → List Int → Prop) : State → List (List Int) → Prop
  | _, [] => True
  | s, a :: rest => Good s a ∧ RunOK cfg Good (stepL2 cfg s a).1 rest

/-- the state the run ends in -/
def finalL2 (cfg : Cfg) : State → List (List Int) → State
  | s, [] => s
  | s, a :: rest => finalL2 cfg (stepL2 cfg s a).1 rest

theorem traceL2_head (cfg : Cfg) (s : State) (actss : List (List Int)) :
    ∃ tl, traceL2 cfg s actss = s :: tl := by
  cases actss with
  | nil => exact ⟨[], rfl⟩
  | cons a rest => exact ⟨_, rfl⟩

theorem traceL2_length (cfg : Cfg) (s : State) (actss : List (List Int)) :
    (traceL2 cfg s actss).length = actss.length + 1 := by
  induction actss generalizing s with
  | nil => rfl
  | cons a rest ih => simp [traceL2, ih]

theorem traceL2_getLast (cfg : Cfg) (s : State) (actss : List (List Int)) :
    (traceL2 cfg s actss).getLast? = some (finalL2 cfg s actss) := by
  induction actss generalizing s with
  | nil => rfl
  | cons a rest ih =>
    obtain ⟨tl, e⟩ := traceL2_head cfg (stepL2 cfg s a).1 rest
    have := ih (stepL2 cfg s a).1
    simp only [traceL2, finalL2]
    rw [e] at this ⊢
    rw [List.getLast?_cons_cons]
    exact this

/-- the remaining route of agent number `i`: from its head to its target, every cell after the head free for it -/
structure LegOK (n : Nat) (g : Grid Int) (i : Nat) (ag : Agent) (r : List Pos) : Prop where
  head : r.head? = some ag.position
  last : r.getLast? = some ag.target
  chain : isChain r = true
  nodup : r.Nodup
  inG : ∀ c ∈ r, inGrid n c
  free : ∀ c ∈ r.tail, cell g c = 0 ∨ cell g c = tgtVal (i : Int)

/-- a route plan for the state `s`: one remaining route per agent, routes of different agents disjoint -/
structure Plan (n k : Nat) (s : State) (routes : List (List Pos)) : Prop where
  cons : Cons n k s
  len : routes.length = k
  route : ∀ (i : Nat) (ag : Agent) (r : List Pos), s.agents[i]? = some ag → routes[i]? = some r →
    LegOK n s.grid i ag r
  disj : ∀ (i j : Nat) (r r' : List Pos), i ≠ j → routes[i]? = some r → routes[j]? = some r' → ∀ c ∈ r, c ∉ r'

theorem proposal_zero (n : Nat) (g : Grid Int) (ag : Agent) : proposal n g ag 0 = none := by
  simp [proposal, dir]

theorem LegOK.eq_cons {n : Nat} {g : Grid Int} {i : Nat} {ag : Agent} {r : List Pos} (R : LegOK n g i ag r) :
    ∃ t, r = ag.position :: t := by
  cases r with
  | nil => have := R.head; simp at this
  | cons x t => have := R.head; simp at this; exact ⟨t, by rw [this]⟩

/-- an agent is connected exactly when nothing is left of its route -/
theorem LegOK.connected_iff {n : Nat} {g : Grid Int} {i : Nat} {ag : Agent} {r : List Pos} (R : LegOK n g i ag r) :
    isConnected ag ↔ r = [ag.position] := by
  obtain ⟨t, rfl⟩ := R.eq_cons
  constructor
  · intro hc
    cases t with
    | nil => rfl
    | cons q rest =>
      -- the target is the last cell, which is not the first
      have hl := R.last
      rw [List.getLast?_cons_cons] at hl
      exact absurd (hc ▸ List.mem_of_getLast? hl) (List.nodup_cons.1 R.nodup).1
  · intro e
    have hl := R.last
    rw [e] at hl
    exact Option.some.inj hl

section
variable {n k : Nat} {s : State} {routes : List (List Pos)}

theorem Plan.lookup (P : Plan n k s routes) {i : Nat} (hi : i < k) :
    ∃ ag r, s.agents[i]? = some ag ∧ routes[i]? = some r ∧ LegOK n s.grid i ag r := by
  have h1 : i < s.agents.length := by rw [P.cons.len]; exact hi
  have h2 : i < routes.length := by rw [P.len]; exact hi
  exact ⟨s.agents[i], routes[i], List.getElem?_eq_getElem h1, List.getElem?_eq_getElem h2,
    P.route i _ _ (List.getElem?_eq_getElem h1) (List.getElem?_eq_getElem h2)⟩

theorem Plan.single (P : Plan n k s routes) {j : Nat} {ag : Agent} {x : Pos} (hag : s.agents[j]? = some ag)
    (hx : routes[j]? = some [x]) : isConnected ag := by
  have R := P.route j ag [x] hag hx
  exact R.connected_iff.2 (by have := R.head; simp at this; rw [this])

theorem route_next {g : Grid Int} {i : Nat} {ag : Agent} {p q : Pos} {rest : List Pos}
    (ok : AgentOK n g i ag) (R : LegOK n g i ag (p :: q :: rest)) :
    p = ag.position ∧ adjacent p q = true ∧ ¬ isConnected ag ∧ canEnter n g ag q ∧
      proposal n g ag (dirAct p q) = some q ∧ 1 ≤ dirAct p q ∧ dirAct p q ≤ 4 ∧
      movePosition ag.position (dirAct p q) = q := by
  have hp : p = ag.position := by have := R.head; simpa using this
  have hadj : adjacent p q = true := by
    have := R.chain; unfold isChain at this; rw [Bool.and_eq_true] at this; exact this.1
  have hnc : ¬ isConnected ag := fun hc => by cases R.connected_iff.1 hc
  have hq : inGrid n q := R.inG q (by simp)
  have hfree := R.free q (by simp)
  have hce : canEnter n g ag q := ⟨hq, by rw [ok.id]; exact hfree, hnc⟩
  obtain ⟨h1, h4, d, hd, hqd⟩ := dirAct_spec hadj
  refine ⟨hp, hadj, hnc, hce, ?_, h1, h4, ?_⟩
  · unfold proposal
    simp only [hd]
    rw [← hp, ← hqd]
    have : 0 < dirAct p q := by omega
    simp [this, hce]
  · have e : dirAct p q = ((dirAct p q).toNat : Int) := by omega
    rw [e, movePosition_dir hd, ← hp, ← hqd]

/-- "blocked" does not occur: an unconnected agent can always take the next cell of its route -/
theorem Plan.finished_iff (P : Plan n k s routes) {i : Nat} {ag : Agent} (hag : s.agents[i]? = some ag) :
    finished n s i = true ↔ isConnected ag := by
  have hi : i < k := by have := Jx.lt_of_getElem? hag; rw [P.cons.len] at this; exact this
  obtain ⟨ag', r, hag', hr, R⟩ := P.lookup hi
  rw [hag] at hag'; cases hag'
  have ok := P.cons.agent i ag hag
  unfold finished
  simp only [hag, Bool.or_eq_true, decide_eq_true_eq]
  constructor
  · rintro (h | h)
    · exact h
    · match r, R with
      | [], R => have := R.head; simp at this
      | [x], _ => exact P.single hag hr
      | p :: q :: rest, R =>
        exfalso
        obtain ⟨hp, hadj, hnc, hce, _, h1, h4, _⟩ := route_next ok R
        obtain ⟨_, _, d, hd, hqd⟩ := dirAct_spec hadj
        have hl : legal n s i (dirAct p q).toNat := Or.inr ⟨d, hd, ag, hag, by rw [← hp, ← hqd]; exact hce⟩
        have hmem : (dirAct p q).toNat ∈ ([1, 2, 3, 4] : List Nat) := by
          simp only [List.mem_cons, List.not_mem_nil, or_false]; omega
        have : ([1, 2, 3, 4] : List Nat).any (fun a => decide (legal n s i a)) = true :=
          List.any_eq_true.2 ⟨_, hmem, by simpa using hl⟩
        rw [this] at h; simp at h
  · intro h; exact Or.inl h

end

theorem stepL2_last_iff (cfg : Cfg) (s : State) (a : List Int) :
    (stepL2 cfg s a).2.stepType = .last ↔
      (((List.range (stepL2 cfg s a).1.agents.length).map (finished cfg.n (stepL2 cfg s a).1)).all id = true ∨
        cfg.timeLimit ≤ s.stepCount + 1) := by
  rw [stepL2_eq]
  simp only []
  split <;> simp_all

/-- the situation of one step of the walk: agent `i` stands on `p`, the next cell of its route is `q` -/
structure Solo (n k : Nat) (s : State) (routes : List (List Pos)) (i : Nat) (ag : Agent) (p q : Pos)
    (rest : List Pos) : Prop where
  plan : Plan n k s routes
  hag : s.agents[i]? = some ag
  hr : routes[i]? = some (p :: q :: rest)

section
variable {n k : Nat} {s : State} {routes : List (List Pos)} {i : Nat} {ag : Agent} {p q : Pos} {rest : List Pos}

theorem Solo.lt (S : Solo n k s routes i ag p q rest) : i < k := by
  have := Jx.lt_of_getElem? S.hag; rw [S.plan.cons.len] at this; exact this

theorem Solo.leg (S : Solo n k s routes i ag p q rest) : LegOK n s.grid i ag (p :: q :: rest) :=
  S.plan.route i ag _ S.hag S.hr

theorem Solo.next (S : Solo n k s routes i ag p q rest) :
    p = ag.position ∧ adjacent p q = true ∧ ¬ isConnected ag ∧ canEnter n s.grid ag q ∧
      proposal n s.grid ag (dirAct p q) = some q ∧ 1 ≤ dirAct p q ∧ dirAct p q ≤ 4 ∧
      movePosition ag.position (dirAct p q) = q :=
  route_next (S.plan.cons.agent i ag S.hag) S.leg

theorem Solo.ctx (S : Solo n k s routes i ag p q rest) : Ctx n k s (soloAct k i (dirAct p q)) := by
  obtain ⟨_, _, _, _, _, h1, h4, _⟩ := S.next
  exact ⟨S.plan.cons, by have := S.lt; omega, soloAct_length _ _ _, soloAct_spec _ _ _ (by omega) h4⟩

theorem Solo.props_i (S : Solo n k s routes i ag p q rest) :
    (propsOf n s (soloAct k i (dirAct p q)))[i]? = some (some q) := by
  rw [props_get S.hag (soloAct_get k i _ S.lt)]
  simp only [if_true]
  rw [S.next.2.2.2.2.1]

theorem Solo.props_ne (S : Solo n k s routes i ag p q rest) {j : Nat} (hj : j < k) (hne : j ≠ i) :
    (propsOf n s (soloAct k i (dirAct p q)))[j]? = some none := by
  obtain ⟨agj, _, hagj, _, _⟩ := S.plan.lookup hj
  rw [props_get hagj (soloAct_get k i _ hj)]
  simp only [hne, if_false, proposal_zero]

theorem Solo.props_none (S : Solo n k s routes i ag p q rest) {j : Nat} (hne : j ≠ i) :
    (propsOf n s (soloAct k i (dirAct p q)))[j]? ≠ some (some q) := by
  rcases Nat.lt_or_ge j k with hj | hj
  · rw [S.props_ne hj hne]; simp
  · rw [List.getElem?_eq_none (by rw [S.ctx.props_length]; exact hj)]; simp

theorem Solo.wins_i (S : Solo n k s routes i ag p q rest) :
    wins (propsOf n s (soloAct k i (dirAct p q))) i = some q :=
  wins_highest _ S.props_i (fun j hij => S.props_none (by omega))

theorem Solo.wins_ne (S : Solo n k s routes i ag p q rest) {j : Nat} (hne : j ≠ i) :
    wins (propsOf n s (soloAct k i (dirAct p q))) j = none := by
  rcases Nat.lt_or_ge j k with hj | hj
  · exact wins_of_none _ _ (S.props_ne hj hne)
  · unfold wins
    rw [List.getElem?_eq_none (by rw [S.ctx.props_length]; exact hj)]

theorem Solo.cell_other (S : Solo n k s routes i ag p q rest) {c : Pos} (hc : inGrid n c) (h1 : c ≠ p)
    (h2 : c ≠ q) : cell (nextL2 n s (soloAct k i (dirAct p q))).grid c = cell s.grid c := by
  show cell (applyMoves s.grid (awOf n s _)) c = _
  rcases l2_cases S.ctx hc with ⟨i0, _, hw, _, _⟩ | ⟨j, agj, p', _, hagj, hw, e, _, _⟩ | ⟨_, _, e⟩
  · by_cases e : i0 = i
    · subst e; rw [S.wins_i] at hw; exact absurd (Option.some.inj hw).symm h2
    · rw [S.wins_ne e] at hw; simp at hw
  · by_cases e' : j = i
    · subst e'
      have := S.hag; rw [hagj] at this; cases this
      exact absurd (e.trans S.next.1.symm) h1
    · rw [S.wins_ne e'] at hw; simp at hw
  · exact e

theorem Solo.agent_i (S : Solo n k s routes i ag p q rest) :
    (nextL2 n s (soloAct k i (dirAct p q))).agents[i]? = some { ag with position := q } := by
  show (stepAgentsL2 n s _).1[i]? = _
  rw [l2_agent S.ctx, S.hag, S.wins_i]; rfl

theorem Solo.agent_ne (S : Solo n k s routes i ag p q rest) {j : Nat} {agj : Agent}
    (hagj : s.agents[j]? = some agj) (hne : j ≠ i) :
    (nextL2 n s (soloAct k i (dirAct p q))).agents[j]? = some agj := by
  show (stepAgentsL2 n s _).1[j]? = _
  rw [l2_agent S.ctx, hagj, S.wins_ne hne]; rfl

theorem Solo.agent_inv (S : Solo n k s routes i ag p q rest) {j : Nat} {ag' : Agent}
    (h : (nextL2 n s (soloAct k i (dirAct p q))).agents[j]? = some ag') :
    (j = i ∧ ag' = { ag with position := q }) ∨ (j ≠ i ∧ s.agents[j]? = some ag') := by
  have h' : (stepAgentsL2 n s (soloAct k i (dirAct p q))).1[j]? = some ag' := h
  obtain ⟨ag0, h0, e⟩ := l2_agent_get S.ctx h'
  by_cases hj : j = i
  · subst hj
    left
    rw [S.hag] at h0; cases h0
    rw [S.wins_i] at e
    exact ⟨rfl, e⟩
  · right
    rw [S.wins_ne hj] at e
    exact ⟨hj, by rw [e]; exact h0⟩

theorem Solo.routes_inv (S : Solo n k s routes i ag p q rest) {j : Nat} {r' : List Pos}
    (h : (routes.set i (q :: rest))[j]? = some r') :
    (j = i ∧ r' = q :: rest) ∨ (j ≠ i ∧ routes[j]? = some r') := by
  by_cases hj : j = i
  · subst hj
    left
    have hl : j < routes.length := Jx.lt_of_getElem? S.hr
    rw [List.getElem?_set_self hl] at h
    exact ⟨rfl, (Option.some.inj h).symm⟩
  · right
    rw [List.getElem?_set_ne (fun e => hj e.symm)] at h
    exact ⟨hj, h⟩

theorem Solo.plan_next (S : Solo n k s routes i ag p q rest) :
    Plan n k (nextL2 n s (soloAct k i (dirAct p q))) (routes.set i (q :: rest)) := by
  have L := S.leg
  have hnd := List.nodup_cons.1 L.nodup
  have hnd2 := List.nodup_cons.1 hnd.2
  refine ⟨l2_cons S.ctx, by simp [S.plan.len], ?_, ?_⟩
  · intro j ag' r' hag' hr'
    rcases S.agent_inv hag' with ⟨rfl, rfl⟩ | ⟨hj, hagj⟩
    · rcases S.routes_inv hr' with ⟨_, rfl⟩ | ⟨hj, _⟩
      · refine ⟨rfl, ?_, ?_, hnd.2, fun c hc => L.inG c (List.mem_cons_of_mem _ hc), ?_⟩
        · have := L.last; rw [List.getLast?_cons_cons] at this; exact this
        · have := L.chain; unfold isChain at this; rw [Bool.and_eq_true] at this; exact this.2
        · intro c hc
          have hc' : c ∈ rest := hc
          have hcq : c ∈ q :: rest := List.mem_cons_of_mem _ hc'
          rw [S.cell_other (L.inG c (List.mem_cons_of_mem _ hcq)) (fun e => hnd.1 (e ▸ hcq)) (fun e => hnd2.1 (e ▸ hc'))]
          exact L.free c hcq
      · exact absurd rfl hj
    · rcases S.routes_inv hr' with ⟨e, _⟩ | ⟨_, hrj⟩
      · exact absurd e hj
      · have R := S.plan.route j ag' r' hagj hrj
        refine ⟨R.head, R.last, R.chain, R.nodup, R.inG, ?_⟩
        intro c hc
        have hcr : c ∈ r' := List.mem_of_mem_tail hc
        have hnot := S.plan.disj j i r' _ hj hrj S.hr c hcr
        rw [S.cell_other (R.inG c hcr) (fun e => hnot (by rw [e]; simp)) (fun e => hnot (by rw [e]; simp))]
        exact R.free c hc
  · intro i1 i2 r1 r2 hne h1 h2 c hc1 hc2
    have sub : ∀ {j : Nat} {r' : List Pos}, (routes.set i (q :: rest))[j]? = some r' →
        ∃ r0, routes[j]? = some r0 ∧ ∀ c ∈ r', c ∈ r0 := by
      intro j r' h
      rcases S.routes_inv h with ⟨rfl, rfl⟩ | ⟨_, h0⟩
      · exact ⟨_, S.hr, fun c hc => List.mem_cons_of_mem _ hc⟩
      · exact ⟨r', h0, fun c hc => hc⟩
    obtain ⟨r1', e1, s1⟩ := sub h1
    obtain ⟨r2', e2, s2⟩ := sub h2
    exact S.plan.disj i1 i2 r1' r2' hne e1 e2 c (s1 c hc1) (s2 c hc2)

end

/-- what is shown for every step of the solving episode (state `s` before the step, joint action `a`) -/
structure StepGood (cfg : Cfg) (s : State) (a : List Int) : Prop where
  cons : Consistent cfg.n cfg.k s
  len : a.length = cfg.k
  spec : ∀ x ∈ a, 0 ≤ x ∧ x ≤ 4
  legal : ∀ j, j < cfg.k → legalInt cfg.n s j (a.getD j 0) = true
  /-- nobody collides or is refused: every agent ends exactly where its action sends it -/
  moves : (stepL2 cfg s a).1.agents =
    List.zipWith (fun (ag : Agent) (x : Int) => { ag with position := movePosition ag.position x }) s.agents a
  open_ : ∃ ag ∈ s.agents, ¬ isConnected ag
  last : (stepL2 cfg s a).2.stepType = .last ↔
    ((∀ ag ∈ (stepL2 cfg s a).1.agents, isConnected ag) ∨ cfg.timeLimit ≤ s.stepCount + 1)

theorem Plan.all_finished_iff {n k : Nat} {s : State} {routes : List (List Pos)} (P : Plan n k s routes) :
    ((List.range s.agents.length).map (finished n s)).all id = true ↔ ∀ ag ∈ s.agents, isConnected ag := by
  rw [List.all_eq_true]
  constructor
  · intro h ag hag
    obtain ⟨j, hj⟩ := List.getElem?_of_mem hag
    have hjl := Jx.lt_of_getElem? hj
    have := h (finished n s j) (List.mem_map.2 ⟨j, List.mem_range.2 hjl, rfl⟩)
    exact (P.finished_iff hj).1 this
  · intro h x hx
    obtain ⟨j, hj, rfl⟩ := List.mem_map.1 hx
    have hjl := List.mem_range.1 hj
    have hag : s.agents[j]? = some s.agents[j] := List.getElem?_eq_getElem hjl
    exact (P.finished_iff hag).2 (h _ (List.mem_of_getElem? hag))

theorem Solo.good {cfg : Cfg} {s : State} {routes : List (List Pos)} {i : Nat} {ag : Agent} {p q : Pos}
    {rest : List Pos} (S : Solo cfg.n cfg.k s routes i ag p q rest) :
    StepGood cfg s (soloAct cfg.k i (dirAct p q)) := by
  obtain ⟨hp, hadj, hnc, hce, hprop, h1, h4, hmv⟩ := S.next
  have x := S.ctx
  refine ⟨(consistent_iff _ _ _).2 S.plan.cons, soloAct_length _ _ _, soloAct_spec _ _ _ (by omega) h4, ?_, ?_,
    ⟨ag, List.mem_of_getElem? S.hag, hnc⟩, ?_⟩
  · intro j hj
    have e : (soloAct cfg.k i (dirAct p q)).getD j 0 = if j = i then dirAct p q else 0 := by
      simp [List.getD, soloAct_get _ _ _ hj]
    rw [e]
    by_cases hji : j = i
    · subst hji
      simp only [if_true]
      obtain ⟨_, _, d, hd, hqd⟩ := dirAct_spec hadj
      have hl : legal cfg.n s j (dirAct p q).toNat :=
        Or.inr ⟨d, hd, ag, S.hag, by rw [← hp, ← hqd]; exact hce⟩
      unfold legalInt
      simp only [Bool.and_eq_true, decide_eq_true_eq]
      exact ⟨by omega, hl⟩
    · simp only [hji, if_false]
      unfold legalInt legal
      simp
  · apply List.ext_getElem?
    intro j
    rw [List.getElem?_zipWith]
    rcases Nat.lt_or_ge j cfg.k with hj | hj
    · obtain ⟨agj, _, hagj, _, _⟩ := S.plan.lookup hj
      rw [hagj, soloAct_get _ _ _ hj]
      by_cases hji : j = i
      · subst hji
        rw [S.hag] at hagj; cases hagj
        have := S.agent_i
        rw [stepL2_state, this]
        simp only [if_true, hmv]
      · have := S.agent_ne hagj hji
        rw [stepL2_state, this]
        simp [hji, movePosition]
    · have h1 : (stepL2 cfg s (soloAct cfg.k i (dirAct p q))).1.agents[j]? = none := by
        apply List.getElem?_eq_none
        show (stepAgentsL2 cfg.n s _).1.length ≤ j
        rw [l2_agents_length x]; exact hj
      have h2 : s.agents[j]? = none := List.getElem?_eq_none (by rw [S.plan.cons.len]; exact hj)
      rw [h1, h2]
  · rw [stepL2_last_iff, stepL2_state, S.plan_next.all_finished_iff]

/-- an agent outside the segment `i0 … i0 + m - 1` does not walk in it -/
theorem planFrom_set_lt (k : Nat) (routes : List (List Pos)) {i : Nat} (r : List Pos) :
    ∀ (m i0 : Nat), i < i0 → planFrom k (routes.set i r) m i0 = planFrom k routes m i0
  | 0, _, _ => rfl
  | m + 1, i0, h => by
    simp only [planFrom, List.getD_eq_getElem?_getD, List.getElem?_set_ne (Nat.ne_of_lt h)]
    rw [planFrom_set_lt k routes r m (i0 + 1) (by omega)]

theorem planFrom_done (k : Nat) (routes : List (List Pos)) :
    ∀ (m i0 : Nat), (∀ j, i0 ≤ j → j < i0 + m → ∃ x, routes[j]? = some [x]) → planFrom k routes m i0 = []
  | 0, _, _ => rfl
  | m + 1, i0, h => by
    obtain ⟨x, hx⟩ := h i0 (Nat.le_refl _) (by omega)
    simp only [planFrom, List.getD_eq_getElem?_getD, hx, Option.getD_some, walkActs, List.nil_append]
    exact planFrom_done k routes m (i0 + 1) fun j h1 h2 => h j (by omega) (by omega)

/-- the first agent of the segment whose route has two or more cells takes the first step -/
theorem planFrom_head (k : Nat) (routes : List (List Pos)) {i : Nat} {p q : Pos} {rest : List Pos}
    (hr : routes[i]? = some (p :: q :: rest)) :
    ∀ (m i0 : Nat), i0 ≤ i → i < i0 + m → (∀ j, i0 ≤ j → j < i → ∃ x, routes[j]? = some [x]) →
      planFrom k routes m i0 = soloAct k i (dirAct p q) :: planFrom k (routes.set i (q :: rest)) m i0
  | 0, _, _, h, _ => by omega
  | m + 1, i0, h1, h2, hpre => by
    have hl := Jx.lt_of_getElem? hr
    rcases Nat.eq_or_lt_of_le h1 with rfl | hlt
    · simp only [planFrom, List.getD_eq_getElem?_getD, hr, List.getElem?_set_self hl, Option.getD_some, walkActs,
        List.cons_append]
      rw [planFrom_set_lt k routes _ m (i0 + 1) (by omega)]
    · obtain ⟨x, hx⟩ := hpre i0 (Nat.le_refl _) hlt
      simp only [planFrom, List.getD_eq_getElem?_getD, hx, List.getElem?_set_ne (Nat.ne_of_gt hlt), Option.getD_some,
        walkActs, List.nil_append]
      exact planFrom_head k routes hr m (i0 + 1) hlt (by omega) fun j h3 h4 => hpre j (by omega) h4

theorem walkActs_length (k i : Nat) : ∀ r : List Pos, (walkActs k i r).length = r.length - 1
  | [] => rfl
  | [_] => rfl
  | _ :: q :: rest => by simp [walkActs, walkActs_length k i (q :: rest)]

theorem planFrom_length (k : Nat) (routes : List (List Pos)) : ∀ (m i0 : Nat),
    (planFrom k routes m i0).length = ((List.range m).map (fun d => (routes.getD (i0 + d) []).length - 1)).sum
  | 0, _ => rfl
  | m + 1, i0 => by
    rw [planFrom, List.length_append, walkActs_length, planFrom_length k routes m (i0 + 1), List.range_succ_eq_map]
    simp only [List.map_cons, List.sum_cons, List.map_map, Nat.add_zero]
    congr 3
    funext d
    simp only [Function.comp, Nat.add_assoc, Nat.add_comm 1 d]

/-- either every route is a single cell, or there is a first agent with a next cell -/
theorem Plan.first_open {n k : Nat} {s : State} {routes : List (List Pos)} (P : Plan n k s routes) :
    ∀ m, m ≤ k → (∀ j, j < m → ∃ x, routes[j]? = some [x]) ∨
      ∃ i ag p q rest, i < m ∧ (∀ j, j < i → ∃ x, routes[j]? = some [x]) ∧ Solo n k s routes i ag p q rest
  | 0, _ => Or.inl fun j h => by omega
  | m + 1, hm => by
    rcases P.first_open m (by omega) with hall | ⟨i, ag, p, q, rest, hi, hpre, S⟩
    · obtain ⟨ag, r, hag, hr, R⟩ := P.lookup (show m < k by omega)
      obtain ⟨t, rfl⟩ := R.eq_cons
      cases t with
      | nil =>
        refine Or.inl fun j hj => ?_
        rcases Nat.eq_or_lt_of_le (Nat.le_of_lt_succ hj) with rfl | h
        · exact ⟨_, hr⟩
        · exact hall j h
      | cons q rest => exact Or.inr ⟨m, ag, _, q, rest, by omega, hall, P, hag, hr⟩
    · exact Or.inr ⟨i, ag, p, q, rest, by omega, hpre, S⟩

theorem Solo.planActs {n k : Nat} {s : State} {routes : List (List Pos)} {i : Nat} {ag : Agent} {p q : Pos}
    {rest : List Pos} (S : Solo n k s routes i ag p q rest) (hpre : ∀ j, j < i → ∃ x, routes[j]? = some [x]) :
    planActs k routes = soloAct k i (dirAct p q) :: planActs k (routes.set i (q :: rest)) :=
  planFrom_head k routes S.hr k 0 (Nat.zero_le _) (by have := S.lt; omega) fun j _ h => hpre j h

/-- induction along the solving episode: one step of the plan is one step of the first agent that is not there yet -/
theorem plan_induction {cfg : Cfg} (C : State → List (List Pos) → Prop)
    (done : ∀ s routes, Plan cfg.n cfg.k s routes → (∀ j, j < cfg.k → ∃ x, routes[j]? = some [x]) → C s routes)
    (step : ∀ s routes i ag p q rest, Solo cfg.n cfg.k s routes i ag p q rest →
      (∀ j, j < i → ∃ x, routes[j]? = some [x]) →
      C (stepL2 cfg s (soloAct cfg.k i (dirAct p q))).1 (routes.set i (q :: rest)) → C s routes) :
    ∀ (s : State) (routes : List (List Pos)), Plan cfg.n cfg.k s routes → C s routes := by
  intro s routes P
  -- induction on a bound for the number of steps left
  suffices h : ∀ (N : Nat) s routes, Plan cfg.n cfg.k s routes → (planActs cfg.k routes).length < N → C s routes from
    h _ s routes P (Nat.lt_succ_self _)
  intro N
  induction N with
  | zero => intro _ _ _ h; omega
  | succ N ih =>
    intro s routes P hN
    rcases P.first_open cfg.k (Nat.le_refl _) with hall | ⟨i, ag, p, q, rest, hi, hpre, S⟩
    · exact done s routes P hall
    · rw [S.planActs hpre, List.length_cons] at hN
      exact step s routes i ag p q rest S hpre (ih _ _ S.plan_next (by omega))

theorem plan_solves (cfg : Cfg) (s0 : State) (routes : List (List Pos)) (P : Plan cfg.n cfg.k s0 routes) :
    RunOK cfg (StepGood cfg) s0 (planActs cfg.k routes) ∧
      ∀ ag ∈ (finalL2 cfg s0 (planActs cfg.k routes)).agents, isConnected ag := by
  refine plan_induction (fun s routes => RunOK cfg (StepGood cfg) s (planActs cfg.k routes) ∧
    ∀ ag ∈ (finalL2 cfg s (planActs cfg.k routes)).agents, isConnected ag) ?_ ?_ s0 routes P
  · intro s routes P hall
    rw [planActs, planFrom_done cfg.k routes cfg.k 0 fun j _ h => hall j (by omega)]
    refine ⟨trivial, fun ag (hag : ag ∈ s.agents) => ?_⟩
    obtain ⟨j, hj⟩ := List.getElem?_of_mem hag
    obtain ⟨x, hx⟩ := hall j (by have := Jx.lt_of_getElem? hj; rw [P.cons.len] at this; exact this)
    exact P.single hj hx
  · intro s routes i ag p q rest S hpre ih
    rw [S.planActs hpre]
    exact ⟨⟨S.good, ih.1⟩, ih.2⟩

/-- the route of one agent read off the solved board recorded by the generator (the same search the certificate
`agentSolvedB` runs) -/
def routeOf (n : Nat) (solved : Grid Int) (ag : Agent) : List Pos :=
  (searchRoute n solved (pathVal ag.id) ag.target (countVal solved (pathVal ag.id)) ag.start [ag.start]).getD []

def routesOf (n : Nat) (solved : Grid Int) (agents : List Agent) : List (List Pos) := agents.map (routeOf n solved)

/-- the explicit solving episode of a generated board -/
def solveActs (n k : Nat) (s : State) (solved : Grid Int) : List (List Int) := planActs k (routesOf n solved s.agents)

theorem cert_route {n k : Nat} {s : State} {solved : Grid Int} (c : Cons n k s)
    (h : solvedBoardB n k s solved = true) {i : Nat} {ag : Agent} (hag : s.agents[i]? = some ag) :
    GoodRoute n solved i ag.start ag.target (routeOf n solved ag) ∧
      ∀ q ∈ routeOf n solved ag, cell s.grid q = 0 ∨ cell s.grid q = cell solved q := by
  obtain ⟨r, hsr, G, F⟩ := solved_route c.shaped h hag (c.agent _ _ hag).id
  have er : routeOf n solved ag = r := by unfold routeOf; rw [hsr]; rfl
  rw [er]
  exact ⟨G, F⟩

/-- C10: a generated board on which nobody has moved yet and whose recorded solution the certificate accepts has
a route plan: the routes read off the recorded solution -/
theorem cert_plan {n k : Nat} {s : State} {solved : Grid Int} (hc : Consistent n k s)
    (hst : ∀ ag ∈ s.agents, ag.start = ag.position) (h : solvedBoardB n k s solved = true) :
    Plan n k s (routesOf n solved s.agents) := by
  have c := (consistent_iff n k s).1 hc
  have inv : ∀ {i : Nat} {r : List Pos}, (routesOf n solved s.agents)[i]? = some r →
      ∃ ag, s.agents[i]? = some ag ∧ r = routeOf n solved ag := by
    intro i r hr
    unfold routesOf at hr
    rw [List.getElem?_map] at hr
    cases hag : s.agents[i]? with
    | none => rw [hag] at hr; simp at hr
    | some ag => rw [hag] at hr; exact ⟨ag, rfl, by simpa using hr.symm⟩
  refine ⟨c, by simp [routesOf, c.len], ?_, ?_⟩
  · intro i ag r hag hr
    obtain ⟨ag', hag', rfl⟩ := inv hr
    rw [hag] at hag'; cases hag'
    obtain ⟨⟨h1, h2, h3, h4, h5, h6⟩, hfree⟩ := cert_route c h hag
    have ok := c.agent i ag hag
    have e := hst ag (List.mem_of_getElem? hag)
    refine ⟨by rw [← e]; exact h1, h2, h3, h4, h5, ?_⟩
    intro q hq
    have hqr := List.mem_of_mem_tail hq
    have hne : q ≠ ag.position := by rw [← e]; exact not_head_of_mem_tail h1 h4 hq
    rcases hfree q hqr with h0 | hs
    · exact Or.inl h0
    · rcases h6 q hqr with hv | hv | hv
      · exact absurd (hs.trans hv) (ok.pathNone e q (h5 q hqr))
      · exact absurd (ok.headUniq q (h5 q hqr) (hs.trans hv)) hne
      · exact Or.inr (hs.trans hv)
  · intro i j r r' hij hr hr'
    obtain ⟨ag, hag, rfl⟩ := inv hr
    obtain ⟨ag', hag', rfl⟩ := inv hr'
    exact goodRoute_disjoint hij (cert_route c h hag).1 (cert_route c h hag').1

theorem fresh_start {n k : Nat} {s : State} (h : freshB n k s = true) : ∀ ag ∈ s.agents, ag.start = ag.position :=
  ((fresh_iff n k s).1 h).2.2.1

end Connector
