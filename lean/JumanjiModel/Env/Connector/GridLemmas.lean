/- Pointwise reasoning about grids (lists of rows) for Connector: extensionality, lookup through
`map` / `zipWith` / folds / `set`, `any` / `all` / `count` as statements about cells; a sequence of writes to
pairwise different cells (`assign`). `get_map` here (shaped grid, default 0) is not `Jx.Grid.get_map` of
Prim/GridLemmas.lean, from which it is proved: inside `namespace Connector` the plain name is this one. -/
import JumanjiModel.Env.Connector.Lemmas
namespace Connector
open Jm Jx

theorem get_of_row {g : Grid Int} {r : Nat} {row : List Int} (h : g[r]? = some row) (c : Nat) :
    Grid.get g 0 r c = row[c]?.getD 0 := by
  rw [Grid.get_eq_of_row h, List.getD_eq_getElem?_getD]

theorem shaped_of_rows {g : Grid Int} {n m : Nat} (hl : g.length = n)
    (hr : ∀ (r : Nat) (row : List Int), g[r]? = some row → row.length = m) : Grid.shaped g n m = true := by
  unfold Grid.shaped; simp
  refine ⟨hl, ?_⟩
  intro row hrow
  obtain ⟨r, h⟩ := List.getElem?_of_mem hrow
  exact hr r row h

theorem get_map (f : Int → Int) {g : Grid Int} {n m : Nat} (h : Grid.shaped g n m = true) {r c : Nat}
    (hr : r < n) (hc : c < m) : Grid.get (Grid.map f g) 0 r c = f (Grid.get g 0 r c) := by
  rw [Grid.get_map f g 0 0, if_pos ⟨by rw [Grid.shaped_length h]; exact hr, by rw [Grid.rowLen, Grid.shaped_row h hr]; exact hc⟩]

theorem shaped_zipWith (f : Int → Int → Int) {a b : Grid Int} {n m : Nat} (ha : Grid.shaped a n m = true)
    (hb : Grid.shaped b n m = true) : Grid.shaped (Grid.zipWith f a b) n m = true := by
  have la := Grid.shaped_length ha
  have lb := Grid.shaped_length hb
  apply shaped_of_rows
  · simp [Grid.zipWith, la, lb]
  · intro r row hrow
    simp only [Grid.zipWith, List.getElem?_zipWith] at hrow
    by_cases hr : r < n
    · obtain ⟨ra, e1, l1⟩ := Grid.shaped_getElem? ha hr
      obtain ⟨rb, e2, l2⟩ := Grid.shaped_getElem? hb hr
      simp [e1, e2] at hrow
      rw [← hrow]; simp [l1, l2]
    · rw [List.getElem?_eq_none (by omega)] at hrow
      simp at hrow

theorem get_zipWith (f : Int → Int → Int) {a b : Grid Int} {n m : Nat} (ha : Grid.shaped a n m = true)
    (hb : Grid.shaped b n m = true) {r c : Nat} (hr : r < n) (hc : c < m) :
    Grid.get (Grid.zipWith f a b) 0 r c = f (Grid.get a 0 r c) (Grid.get b 0 r c) := by
  obtain ⟨ra, e1, l1⟩ := Grid.shaped_getElem? ha hr
  obtain ⟨rb, e2, l2⟩ := Grid.shaped_getElem? hb hr
  have e3 : (Grid.zipWith f a b)[r]? = some (List.zipWith f ra rb) := by
    simp [Grid.zipWith, List.getElem?_zipWith, e1, e2]
  rw [get_of_row e1, get_of_row e2, get_of_row e3]
  have h1 : c < ra.length := by omega
  have h2 : c < rb.length := by omega
  simp [List.getElem?_zipWith, h1, h2]

theorem shaped_foldl_zipWith (f : Int → Int → Int) {n m : Nat} (gs : List (Grid Int)) (g0 : Grid Int)
    (h0 : Grid.shaped g0 n m = true) (hs : ∀ g ∈ gs, Grid.shaped g n m = true) :
    Grid.shaped (gs.foldl (Grid.zipWith f) g0) n m = true := by
  induction gs generalizing g0 with
  | nil => exact h0
  | cons g gs ih =>
    simp only [List.foldl_cons]
    exact ih _ (shaped_zipWith f h0 (hs g (by simp))) (fun x hx => hs x (by simp [hx]))

theorem get_foldl_zipWith (f : Int → Int → Int) {n m : Nat} (gs : List (Grid Int)) (g0 : Grid Int)
    (h0 : Grid.shaped g0 n m = true) (hs : ∀ g ∈ gs, Grid.shaped g n m = true) {r c : Nat}
    (hr : r < n) (hc : c < m) :
    Grid.get (gs.foldl (Grid.zipWith f) g0) 0 r c =
      (gs.map (fun g => Grid.get g 0 r c)).foldl f (Grid.get g0 0 r c) := by
  induction gs generalizing g0 with
  | nil => rfl
  | cons g gs ih =>
    simp only [List.foldl_cons, List.map_cons]
    rw [ih _ (shaped_zipWith f h0 (hs g (by simp))) (fun x hx => hs x (by simp [hx])),
      get_zipWith f h0 (hs g (by simp)) hr hc]

theorem any_iff (P : Int → Bool) {g : Grid Int} {n m : Nat} (h : Grid.shaped g n m = true) :
    Grid.any P g = true ↔ ∃ r c, r < n ∧ c < m ∧ P (Grid.get g 0 r c) = true := by
  have hl := Grid.shaped_length h
  unfold Grid.any
  rw [List.any_eq_true]
  constructor
  · rintro ⟨row, hrow, hany⟩
    rw [List.any_eq_true] at hany
    obtain ⟨x, hx, hP⟩ := hany
    obtain ⟨r, hr⟩ := List.getElem?_of_mem hrow
    obtain ⟨c, hc⟩ := List.getElem?_of_mem hx
    have hr' : r < g.length := Jx.lt_of_getElem? hr
    obtain ⟨row', e1, l1⟩ := Grid.shaped_getElem? h (r := r) (by omega)
    have : row' = row := by rw [e1] at hr; exact Option.some.inj hr
    subst this
    have hc' : c < row'.length := Jx.lt_of_getElem? hc
    refine ⟨r, c, by omega, by omega, ?_⟩
    rw [get_of_row e1, hc]; simpa using hP
  · rintro ⟨r, c, hr, hc, hP⟩
    obtain ⟨row, e1, l1⟩ := Grid.shaped_getElem? h hr
    refine ⟨row, List.mem_of_getElem? e1, ?_⟩
    rw [List.any_eq_true]
    rw [get_of_row e1] at hP
    have hc' : c < row.length := by omega
    refine ⟨row[c], List.getElem_mem hc', ?_⟩
    simpa [hc'] using hP

theorem all_iff (P : Int → Bool) {g : Grid Int} {n m : Nat} (h : Grid.shaped g n m = true) :
    Grid.all P g = true ↔ ∀ r c, r < n → c < m → P (Grid.get g 0 r c) = true := by
  have key : Grid.all P g = !(Grid.any (fun v => !(P v)) g) := by
    unfold Grid.all Grid.any
    simp [List.all_eq_not_any_not]
  rw [key, Bool.not_eq_true', ← Bool.not_eq_true, any_iff (fun v => !(P v)) h]
  simp only [Bool.not_eq_true', not_exists, not_and, Bool.not_eq_false]

theorem inGrid_toNat {n : Nat} {p : Pos} (hp : inGrid n p) : p.1.toNat < n ∧ p.2.toNat < n := by
  obtain ⟨h1, h2, h3, h4⟩ := hp; omega

theorem inGrid_of_nat {n r c : Nat} (hr : r < n) (hc : c < n) : inGrid n ((r : Int), (c : Int)) := by
  unfold inGrid; simp; omega

theorem cell_of_nat (g : Grid Int) (r c : Nat) : cell g ((r : Int), (c : Int)) = Grid.get g 0 r c := by
  simp [cell]

theorem pos_eq_of_toNat {n : Nat} {p q : Pos} (hp : inGrid n p) (hq : inGrid n q)
    (h1 : q.1.toNat = p.1.toNat) (h2 : q.2.toNat = p.2.toNat) : q = p := by
  obtain ⟨a1, a2, a3, a4⟩ := hp
  obtain ⟨b1, b2, b3, b4⟩ := hq
  apply Prod.ext <;> omega

theorem grid_ext_cell {g g' : Grid Int} {n : Nat} (h : Grid.shaped g n n = true) (h' : Grid.shaped g' n n = true)
    (e : ∀ q, inGrid n q → cell g q = cell g' q) : g = g' := by
  apply Grid.ext_get h h' 0
  intro r c hr hc
  have := e _ (inGrid_of_nat hr hc)
  simpa [cell_of_nat] using this

theorem cell_setCell {g : Grid Int} {n : Nat} (h : Grid.shaped g n n = true) {p q : Pos}
    (hp : inGrid n p) (hq : inGrid n q) (v : Int) :
    cell (setCell g p v) q = if q = p then v else cell g q := by
  obtain ⟨p1, p2⟩ := inGrid_toNat hp
  obtain ⟨q1, q2⟩ := inGrid_toNat hq
  unfold cell setCell
  rw [Grid.get_set_of_shaped h v 0 p1 p2]
  by_cases e : q = p
  · subst e; simp
  · have : ¬ (q.1.toNat = p.1.toNat ∧ q.2.toNat = p.2.toNat) := fun ⟨a, b⟩ => e (pos_eq_of_toNat hp hq a b)
    simp [this, e]

theorem cell_map (f : Int → Int) {g : Grid Int} {n : Nat} (h : Grid.shaped g n n = true) {q : Pos}
    (hq : inGrid n q) : cell (Grid.map f g) q = f (cell g q) := by
  obtain ⟨q1, q2⟩ := inGrid_toNat hq
  exact get_map f h q1 q2

theorem cell_zipWith (f : Int → Int → Int) {a b : Grid Int} {n : Nat} (ha : Grid.shaped a n n = true)
    (hb : Grid.shaped b n n = true) {q : Pos} (hq : inGrid n q) :
    cell (Grid.zipWith f a b) q = f (cell a q) (cell b q) := by
  obtain ⟨q1, q2⟩ := inGrid_toNat hq
  exact get_zipWith f ha hb q1 q2

theorem cell_foldl_zipWith (f : Int → Int → Int) {n : Nat} (gs : List (Grid Int)) (g0 : Grid Int)
    (h0 : Grid.shaped g0 n n = true) (hs : ∀ g ∈ gs, Grid.shaped g n n = true) {q : Pos} (hq : inGrid n q) :
    cell (gs.foldl (Grid.zipWith f) g0) q = (gs.map (fun g => cell g q)).foldl f (cell g0 q) := by
  obtain ⟨q1, q2⟩ := inGrid_toNat hq
  exact get_foldl_zipWith f gs g0 h0 hs q1 q2

theorem any_iff_cell (P : Int → Bool) {g : Grid Int} {n : Nat} (h : Grid.shaped g n n = true) :
    Grid.any P g = true ↔ ∃ q, inGrid n q ∧ P (cell g q) = true := by
  rw [any_iff P h]
  constructor
  · rintro ⟨r, c, hr, hc, hP⟩
    exact ⟨((r : Int), (c : Int)), inGrid_of_nat hr hc, by rw [cell_of_nat]; exact hP⟩
  · rintro ⟨q, hq, hP⟩
    obtain ⟨q1, q2⟩ := inGrid_toNat hq
    exact ⟨q.1.toNat, q.2.toNat, q1, q2, hP⟩

theorem all_iff_cell (P : Int → Bool) {g : Grid Int} {n : Nat} (h : Grid.shaped g n n = true) :
    Grid.all P g = true ↔ ∀ q, inGrid n q → P (cell g q) = true := by
  rw [all_iff P h]
  constructor
  · intro ha q hq
    obtain ⟨q1, q2⟩ := inGrid_toNat hq
    exact ha _ _ q1 q2
  · intro ha r c hr hc
    have := ha _ (inGrid_of_nat hr hc)
    rwa [cell_of_nat] at this

theorem count_zero_iff (P : Int → Bool) {g : Grid Int} {n : Nat} (h : Grid.shaped g n n = true) :
    Grid.count P g = 0 ↔ ∀ q, inGrid n q → P (cell g q) = false := by
  have e : Grid.count P g = 0 ↔ Grid.any P g = false := by
    rw [Grid.count, List.length_eq_zero_iff, List.filter_eq_nil_iff]
    simp only [Grid.any, List.mem_flatten, List.any_eq_false, Bool.not_eq_true, forall_exists_index, and_imp]
    exact ⟨fun h x hx a ha => h a x hx ha, fun h a x hx ha => h x hx a ha⟩
  rw [e, ← Bool.not_eq_true, any_iff_cell P h]
  simp

theorem count_map (Q : Int → Bool) (f : Int → Int) (g : Grid Int) :
    Grid.count Q (Grid.map f g) = Grid.count (Q ∘ f) g := by
  unfold Grid.count Grid.map
  rw [← List.map_flatten, List.filter_map, List.length_map]

theorem count_indicator (P : Int → Bool) (g : Grid Int) :
    Grid.count P g =
      Grid.count (fun v : Int => v == 1) (Grid.map (fun v : Int => if P v then (1 : Int) else 0) g) := by
  rw [count_map]
  congr 1
  funext v
  simp only [Function.comp]
  cases P v <;> simp

theorem count_congr (P : Int → Bool) {g g' : Grid Int} {n : Nat} (h : Grid.shaped g n n = true)
    (h' : Grid.shaped g' n n = true) (e : ∀ q, inGrid n q → P (cell g q) = P (cell g' q)) :
    Grid.count P g = Grid.count P g' := by
  rw [count_indicator P g, count_indicator P g']
  congr 1
  apply grid_ext_cell (Grid.shaped_map_of _ h) (Grid.shaped_map_of _ h')
  intro q hq
  rw [cell_map _ h hq, cell_map _ h' hq, e q hq]

theorem count_setCell (P : Int → Bool) {g : Grid Int} {n : Nat} (h : Grid.shaped g n n = true) {p : Pos}
    (hp : inGrid n p) (w : Int) :
    Grid.count P (setCell g p w) + (if P (cell g p) then 1 else 0) = Grid.count P g + (if P w then 1 else 0) := by
  obtain ⟨p1, p2⟩ := inGrid_toNat hp
  exact Grid.count_set P g 0 p.1.toNat p.2.toNat w (by rw [Grid.shaped_length h]; exact p1)
    (by rw [Grid.rowLen, Grid.shaped_row h p1]; exact p2)

theorem count_setCell_succ (P : Int → Bool) {g : Grid Int} {n : Nat} (h : Grid.shaped g n n = true) {p : Pos}
    (hp : inGrid n p) (w : Int) (h1 : P (cell g p) = false) (h2 : P w = true) :
    Grid.count P (setCell g p w) = Grid.count P g + 1 := by
  have := count_setCell P h hp w
  rw [h1, h2] at this
  simpa using this

theorem count_succ_of_cells (P : Int → Bool) {g g' : Grid Int} {n : Nat} (h : Grid.shaped g n n = true)
    (h' : Grid.shaped g' n n = true) {p : Pos} (hp : inGrid n p) (h1 : P (cell g p) = false)
    (h2 : P (cell g' p) = true) (e : ∀ q, inGrid n q → q ≠ p → P (cell g q) = P (cell g' q)) :
    Grid.count P g' = Grid.count P g + 1 := by
  rw [← count_setCell_succ P h hp (cell g' p) h1 h2]
  apply count_congr P h' (shaped_setCell h _ _)
  intro q hq
  rw [cell_setCell h hp hq]
  by_cases e1 : q = p
  · simp [e1]
  · simp [e1, e q hq e1]

theorem count_pos_of_cell (P : Int → Bool) {g : Grid Int} {n : Nat} (h : Grid.shaped g n n = true) {p : Pos}
    (hp : inGrid n p) (h1 : P (cell g p) = true) : 0 < Grid.count P g := by
  rcases Nat.eq_zero_or_pos (Grid.count P g) with h0 | h0
  · have := (count_zero_iff P h).1 h0 p hp
    rw [this] at h1; exact Bool.noConfusion h1
  · exact h0

theorem count_one_iff (P : Int → Bool) {g : Grid Int} {n : Nat} (h : Grid.shaped g n n = true) :
    Grid.count P g = 1 ↔ ∃ p, inGrid n p ∧ P (cell g p) = true ∧ ∀ q, inGrid n q → P (cell g q) = true → q = p := by
  -- blanking one `P`-cell of the indicator grid lowers the count by one; "exactly one" is "none left"
  have h1 : Grid.shaped (Grid.map (fun v : Int => if P v then (1 : Int) else 0) g) n n = true :=
    Grid.shaped_map_of _ h
  have hc : ∀ q, inGrid n q →
      (cell (Grid.map (fun v : Int => if P v then (1 : Int) else 0) g) q == 1) = P (cell g q) := by
    intro q hq
    rw [cell_map _ h hq]
    cases P (cell g q) <;> simp
  rw [count_indicator]
  generalize Grid.map (fun v : Int => if P v then (1 : Int) else 0) g = g1 at h1 hc
  have at_ : ∀ p, inGrid n p → P (cell g p) = true →
      (Grid.count (fun v : Int => v == 1) g1 = 1 ↔ ∀ q, inGrid n q → P (cell g q) = true → q = p) := by
    intro p hp hP
    have hdrop := count_setCell (fun v : Int => v == 1) h1 hp 0
    simp only [hc p hp, hP, if_true] at hdrop
    have : Grid.count (fun v : Int => v == 1) g1 = 1 ↔ Grid.count (fun v : Int => v == 1) (setCell g1 p 0) = 0 := by
      simp at hdrop
      omega
    rw [this, count_zero_iff _ (shaped_setCell h1 _ _)]
    apply forall_congr'
    intro q
    apply imp_congr_right
    intro hq
    show (cell (setCell g1 p 0) q == 1) = false ↔ _
    rw [cell_setCell h1 hp hq]
    by_cases e : q = p
    · simp [e]
    · simp [e, ← hc q hq]
  constructor
  · intro hcount
    obtain ⟨p, hp, hP⟩ : ∃ p, inGrid n p ∧ P (cell g p) = true := by
      apply Classical.byContradiction
      intro hno
      have := (count_zero_iff (fun v : Int => v == 1) h1).2 fun q hq => by
        show (cell g1 q == 1) = false
        rw [hc q hq]
        exact Bool.eq_false_iff.2 fun hq' => hno ⟨q, hq, hq'⟩
      omega
    exact ⟨p, hp, hP, (at_ p hp hP).1 hcount⟩
  · rintro ⟨p, hp, hP, hu⟩
    exact (at_ p hp hP).2 hu

/-- a sequence of `.at[p].set(v)`; the model's `scatter g ps vals` is `assign g (zip ps vals)` (`scatter_eq_assign`) -/
def assign (g : Grid Int) (asg : List (Pos × Int)) : Grid Int :=
  asg.foldl (fun g x => Grid.setWD g x.1.1 x.1.2 x.2) g

theorem assign_append (g : Grid Int) (a b : List (Pos × Int)) :
    assign g (a ++ b) = assign (assign g a) b := by
  unfold assign; rw [List.foldl_append]

/-- of `hp` only the two lower bounds are read -/
theorem assign_cons {n : Nat} (g : Grid Int) {p : Pos} (hp : inGrid n p) (v : Int)
    (rest : List (Pos × Int)) : assign g ((p, v) :: rest) = assign (setCell g p v) rest := by
  unfold assign
  rw [List.foldl_cons]
  congr 1
  exact setWD_eq_setCell g hp.1 hp.2.2.1 v

theorem assign_spec {n : Nat} (asg : List (Pos × Int)) : ∀ (g : Grid Int), Grid.shaped g n n = true →
    (∀ x ∈ asg, inGrid n x.1) → (asg.map Prod.fst).Nodup →
    Grid.shaped (assign g asg) n n = true ∧
    (∀ x ∈ asg, cell (assign g asg) x.1 = x.2) ∧
    (∀ q, inGrid n q → q ∉ asg.map Prod.fst → cell (assign g asg) q = cell g q) := by
  induction asg with
  | nil => intro g h _ _; exact ⟨h, by simp, by intro q _ _; rfl⟩
  | cons a rest ih =>
    intro g h hin hnd
    obtain ⟨p, v⟩ := a
    have hp : inGrid n p := hin (p, v) (by simp)
    rw [assign_cons g hp]
    have h' := shaped_setCell h p v
    simp only [List.map_cons, List.nodup_cons] at hnd
    obtain ⟨r1, r2, r3⟩ := ih (setCell g p v) h' (fun x hx => hin x (List.mem_cons_of_mem _ hx)) hnd.2
    refine ⟨r1, ?_, ?_⟩
    · intro x hx
      rcases List.mem_cons.1 hx with hx | hx
      · subst hx
        show cell (assign (setCell g p v) rest) p = v
        rw [r3 p hp hnd.1, cell_setCell h hp hp]; simp
      · exact r2 x hx
    · intro q hq hnq
      simp only [List.map_cons, List.mem_cons, not_or] at hnq
      rw [r3 q hq hnq.2, cell_setCell h hp hq]; simp [hnq.1]

theorem assign_nonZero {n : Nat} (asg : List (Pos × Int)) : ∀ (g : Grid Int), Grid.shaped g n n = true →
    (∀ x ∈ asg, inGrid n x.1) → (asg.map Prod.fst).Nodup → (∀ x ∈ asg, x.2 ≠ 0) →
    nonZero (assign g asg) = nonZero g + (asg.filter (fun x => cell g x.1 == 0)).length := by
  induction asg with
  | nil => intro g _ _ _ _; rfl
  | cons a rest ih =>
    intro g h hin hnd hv
    obtain ⟨p, v⟩ := a
    have hp : inGrid n p := hin (p, v) (by simp)
    have hin' : ∀ x ∈ rest, inGrid n x.1 := fun x hx => hin x (List.mem_cons_of_mem _ hx)
    simp only [List.map_cons, List.nodup_cons] at hnd
    rw [assign_cons g hp, ih _ (shaped_setCell h p v) hin' hnd.2 (fun x hx => hv x (List.mem_cons_of_mem _ hx))]
    -- the later writes go to other cells: whether they find an empty cell can be read in `g`
    have hfil : rest.filter (fun x => cell (setCell g p v) x.1 == 0) = rest.filter (fun x => cell g x.1 == 0) := by
      apply List.filter_congr
      intro x hx
      have hne : x.1 ≠ p := fun e => hnd.1 (e ▸ List.mem_map_of_mem hx)
      rw [cell_setCell h hp (hin' x hx), if_neg hne]
    have hone := count_setCell (fun v : Int => v != 0) h hp v
    simp only [bne_iff_ne.2 (hv (p, v) (by simp)), if_true] at hone
    rw [hfil, List.filter_cons]
    unfold nonZero
    by_cases hz : cell g p = 0
    · simp [hz] at hone ⊢; omega
    · simp [hz] at hone ⊢; omega

end Connector
