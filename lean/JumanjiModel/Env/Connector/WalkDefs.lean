/- The invariant of the random walk of `RandomWalkGenerator` (proof device): during the walk the start cell of
agent `i` holds its TARGET value and its head walks away from the first-move cell; seen through `mirrorAgent`
(start := first-move cell, target := walk start) a walk state is a consistent environment state, and the walk's
`_step_agents` is the environment's. -/
import JumanjiModel.Env.Connector.ConsLemmas
namespace Connector
open Jm Jx

/-- the walk agent seen as an environment agent: it started on its first-move cell `f` and its "target" is the
cell the walk started from (which holds the agent's target value during the walk) -/
def mirrorAgent (f : Pos) (ag : Agent) : Agent := ⟨ag.id, f, ag.start, ag.position⟩

def mirrorAgents (firsts : List Pos) (ags : List Agent) : List Agent := List.zipWith mirrorAgent firsts ags

/-- invariant of the walk: seen through the mirror the walk state is consistent, the walk agents have the dummy
target `(-1, -1)`, and no head stands on its own walk start -/
def WalkInv (n k : Nat) (firsts : List Pos) (g : Grid Int) (ags : List Agent) : Prop :=
  firsts.length = k ∧ ags.length = k ∧ Cons n k ⟨g, 0, mirrorAgents firsts ags⟩ ∧
  ∀ ag ∈ ags, ag.target = (-1, -1) ∧ ag.position ≠ ag.start

end Connector
