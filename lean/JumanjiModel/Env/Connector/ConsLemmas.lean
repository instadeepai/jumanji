/- `Consistent` (a Boolean recomputed from the raw arrays, with cell counts) as a statement about cells; what the judges
`Feasible` and `freshB` are made of. -/
import JumanjiModel.Env.Connector.GridLemmas
namespace Connector
open Jm Jx

theorem countVal_zero_iff {g : Grid Int} {n : Nat} (h : Grid.shaped g n n = true) (v : Int) :
    countVal g v = 0 ↔ ∀ q, inGrid n q → cell g q ≠ v := by
  unfold countVal
  rw [count_zero_iff _ h]
  constructor
  · intro h0 q hq; have := h0 q hq; simpa using this
  · intro h0 q hq; have := h0 q hq; simpa using this

theorem countVal_one_at {g : Grid Int} {n : Nat} (h : Grid.shaped g n n = true) (v : Int) {p : Pos}
    (hp : inGrid n p) :
    (cell g p = v ∧ countVal g v = 1) ↔ (cell g p = v ∧ ∀ q, inGrid n q → cell g q = v → q = p) := by
  unfold countVal
  rw [count_one_iff _ h]
  constructor
  · rintro ⟨e, p', hp', hP, hu⟩
    refine ⟨e, ?_⟩
    have : p = p' := hu p hp (by simpa using e)
    subst this
    intro q hq hv
    exact hu q hq (by simpa using hv)
  · rintro ⟨e, hu⟩
    exact ⟨e, p, hp, by simpa using e, fun q hq hv => hu q hq (by simpa using hv)⟩

theorem countVal_congr {n : Nat} {g g' : Grid Int} (hg : Grid.shaped g n n = true) (hg' : Grid.shaped g' n n = true)
    (v : Int) (h : ∀ q, inGrid n q → (cell g q = v ↔ cell g' q = v)) : countVal g v = countVal g' v := by
  unfold countVal
  apply count_congr _ hg hg'
  intro q hq
  show (cell g q == v) = (cell g' q == v)
  by_cases e : cell g q = v
  · rw [beq_iff_eq.2 e, beq_iff_eq.2 ((h q hq).1 e)]
  · rw [beq_false_of_ne e, beq_false_of_ne (fun e' => e ((h q hq).2 e'))]

/-- what `agentConsistent` says, cell by cell -/
structure AgentOK (n : Nat) (g : Grid Int) (i : Nat) (ag : Agent) : Prop where
  id : ag.id = (i : Int)
  posIn : inGrid n ag.position
  tgtIn : inGrid n ag.target
  startIn : inGrid n ag.start
  headAt : cell g ag.position = posVal (i : Int)
  headUniq : ∀ q, inGrid n q → cell g q = posVal (i : Int) → q = ag.position
  tgtNone : ag.position = ag.target → ∀ q, inGrid n q → cell g q ≠ tgtVal (i : Int)
  tgtAt : ag.position ≠ ag.target → cell g ag.target = tgtVal (i : Int)
  tgtUniq : ag.position ≠ ag.target → ∀ q, inGrid n q → cell g q = tgtVal (i : Int) → q = ag.target
  pathNone : ag.start = ag.position → ∀ q, inGrid n q → cell g q ≠ pathVal (i : Int)
  startAt : ag.start ≠ ag.position → cell g ag.start = pathVal (i : Int)

theorem agentConsistent_iff {g : Grid Int} {n : Nat} (h : Grid.shaped g n n = true) (i : Nat) (ag : Agent) :
    agentConsistent n g i ag = true ↔ AgentOK n g i ag := by
  unfold agentConsistent
  simp only [Bool.and_eq_true, beq_iff_eq, decide_eq_true_eq]
  constructor
  · rintro ⟨⟨⟨⟨⟨⟨⟨hid, hp⟩, ht⟩, hs⟩, hh⟩, hc⟩, htg⟩, hst⟩
    rw [hid] at hh hc htg hst
    have a := (countVal_one_at h _ hp).1 ⟨hh, hc⟩
    refine ⟨hid, hp, ht, hs, hh, a.2, ?_, ?_, ?_, ?_, ?_⟩
    · intro e; simp only [e, if_true, beq_iff_eq] at htg
      exact (countVal_zero_iff h _).1 htg
    · intro e; simp only [e, if_false, Bool.and_eq_true, beq_iff_eq] at htg; exact htg.1
    · intro e; simp only [e, if_false, Bool.and_eq_true, beq_iff_eq] at htg
      exact ((countVal_one_at h _ ht).1 htg).2
    · intro e; simp only [e, if_true, beq_iff_eq] at hst
      exact (countVal_zero_iff h _).1 hst
    · intro e; simp only [e, if_false, beq_iff_eq] at hst; exact hst
  · intro ok
    have a := (countVal_one_at h _ ok.posIn).2 ⟨ok.headAt, ok.headUniq⟩
    rw [ok.id]
    refine ⟨⟨⟨⟨⟨⟨⟨rfl, ok.posIn⟩, ok.tgtIn⟩, ok.startIn⟩, a.1⟩, a.2⟩, ?_⟩, ?_⟩
    · by_cases e : ag.position = ag.target
      · simp only [e, if_true, beq_iff_eq]
        exact (countVal_zero_iff h _).2 (ok.tgtNone e)
      · simp only [e, if_false, Bool.and_eq_true, beq_iff_eq]
        exact (countVal_one_at h _ ok.tgtIn).2 ⟨ok.tgtAt e, ok.tgtUniq e⟩
    · by_cases e : ag.start = ag.position
      · simp only [e, if_true, beq_iff_eq]
        exact (countVal_zero_iff h _).2 (ok.pathNone e)
      · simp only [e, if_false, beq_iff_eq]
        exact ok.startAt e

theorem AgentOK.congr {n : Nat} {g g' : Grid Int} {j : Nat} {ag : Agent} (h : AgentOK n g j ag)
    (e : ∀ q, inGrid n q → ∀ v, v = pathVal (j : Int) ∨ v = posVal (j : Int) ∨ v = tgtVal (j : Int) →
      (cell g' q = v ↔ cell g q = v)) : AgentOK n g' j ag :=
  ⟨h.id, h.posIn, h.tgtIn, h.startIn, (e _ h.posIn _ (.inr (.inl rfl))).2 h.headAt,
   fun q hq hv => h.headUniq q hq ((e q hq _ (.inr (.inl rfl))).1 hv),
   fun he q hq hv => h.tgtNone he q hq ((e q hq _ (.inr (.inr rfl))).1 hv),
   fun he => (e _ h.tgtIn _ (.inr (.inr rfl))).2 (h.tgtAt he),
   fun he q hq hv => h.tgtUniq he q hq ((e q hq _ (.inr (.inr rfl))).1 hv),
   fun he q hq hv => h.pathNone he q hq ((e q hq _ (.inl rfl)).1 hv),
   fun he => (e _ h.startIn _ (.inl rfl)).2 (h.startAt he)⟩

/-- what `Consistent` says, cell by cell -/
structure Cons (n k : Nat) (s : State) : Prop where
  shaped : Grid.shaped s.grid n n = true
  len : s.agents.length = k
  agent : ∀ (i : Nat) (ag : Agent), s.agents[i]? = some ag → AgentOK n s.grid i ag
  range : ∀ q, inGrid n q → 0 ≤ cell s.grid q ∧ cell s.grid q ≤ 3 * (k : Int)
  count : 0 ≤ s.stepCount

theorem consistent_iff (n k : Nat) (s : State) : Consistent n k s ↔ Cons n k s := by
  unfold Consistent consistentB
  simp only [Bool.and_eq_true, beq_iff_eq, decide_eq_true_eq]
  constructor
  · rintro ⟨⟨⟨⟨hs, hl⟩, ha⟩, hr⟩, hc⟩
    refine ⟨hs, hl, ?_, ?_, hc⟩
    · intro i ag hi
      rw [List.all_eq_true] at ha
      have := ha (ag, i) (List.mem_zipIdx_iff_getElem?.2 hi)
      exact (agentConsistent_iff hs i ag).1 this
    · intro q hq
      have := (all_iff_cell _ hs).1 hr q hq
      simpa using this
  · intro c
    refine ⟨⟨⟨⟨c.shaped, c.len⟩, ?_⟩, ?_⟩, c.count⟩
    · rw [List.all_eq_true]
      rintro ⟨ag, i⟩ hx
      exact (agentConsistent_iff c.shaped i ag).2 (c.agent i ag (List.mem_zipIdx_iff_getElem?.1 hx))
    · rw [all_iff_cell _ c.shaped]
      intro q hq
      have := c.range q hq
      simpa using this

theorem feasible_iff (n k : Nat) (s : State) :
    Feasible n k s ↔ Consistent n k s ∧ s.agents.all (agentRouteB n s.grid) = true := by
  unfold Feasible feasibleB Consistent; rw [Bool.and_eq_true]

theorem fresh_iff (n k : Nat) (s : State) :
    freshB n k s = true ↔ Consistent n k s ∧ s.stepCount = 0 ∧ (∀ ag ∈ s.agents, ag.start = ag.position) ∧
      (s.agents.map (·.start) ++ s.agents.map (·.target)).Nodup ∧ nonZero s.grid = 2 * k := by
  unfold freshB Consistent
  simp only [Bool.and_eq_true, beq_iff_eq, decide_eq_true_eq, List.all_eq_true, and_assoc]

end Connector
