/- Connector: the step preserves `Feasible` (every agent's path cells are a route from its start to its head). -/
import JumanjiModel.Env.Connector.RouteLemmas
import JumanjiModel.Env.Connector.StepLemmas
namespace Connector
open Jm Jx

section
variable {n k : Nat} {s : State} {acts : List Int}

theorem l2_path_kept (x : Ctx n k s acts) (i : Nat) {c : Pos} (hc : inGrid n c)
    (hv : cell s.grid c = pathVal (i : Int)) :
    cell (applyMoves s.grid (awOf n s acts)) c = pathVal (i : Int) := by
  rcases l2_cases x hc with ⟨i0, _, _, _, h⟩ | ⟨j, ag', p', _, _, _, _, _, h⟩ | ⟨_, _, e⟩
  · rw [hv] at h; unfold pathVal tgtVal at h; omega
  · rw [hv] at h; unfold pathVal posVal at h; omega
  · rw [e, hv]

theorem l2_path_same (x : Ctx n k s acts) (i : Nat) {q : Pos} (hq : inGrid n q)
    (hni : ∀ ag p, s.agents[i]? = some ag → wins (propsOf n s acts) i = some p → q ≠ ag.position) :
    (cell (applyMoves s.grid (awOf n s acts)) q == pathVal (i : Int)) = (cell s.grid q == pathVal (i : Int)) := by
  rcases l2_cases x hq with ⟨i0, _, _, e, h⟩ | ⟨j, ag', p', _, hagj, hwj, hqj, e, h⟩ | ⟨_, _, e⟩
  · rw [e]
    have h1 : ¬ (posVal (i0 : Int) = pathVal (i : Int)) := by unfold posVal pathVal; omega
    have h2 : ¬ (cell s.grid q = pathVal (i : Int)) := by unfold pathVal tgtVal at *; omega
    rw [beq_eq_false_iff_ne.2 h1, beq_eq_false_iff_ne.2 h2]
  · rw [e, h]
    have hji : j ≠ i := by
      rintro rfl
      exact hni ag' p' hagj hwj hqj
    have h1 : ¬ (pathVal (j : Int) = pathVal (i : Int)) := by unfold pathVal; omega
    have h2 : ¬ (posVal (j : Int) = pathVal (i : Int)) := by unfold posVal pathVal; omega
    rw [beq_eq_false_iff_ne.2 h1, beq_eq_false_iff_ne.2 h2]
  · rw [e]

theorem l2_count_stay (x : Ctx n k s acts) {i : Nat} (hw : wins (propsOf n s acts) i = none) :
    countVal (applyMoves s.grid (awOf n s acts)) (pathVal (i : Int)) = countVal s.grid (pathVal (i : Int)) :=
  countVal_congr (shaped_applyMoves x.cons.shaped _) x.cons.shaped _ fun _ hq => l2_frame x hw hq _ (.inl rfl)

theorem l2_count_move (x : Ctx n k s acts) {i : Nat} {ag : Agent} {p : Pos} (hag : s.agents[i]? = some ag)
    (hw : wins (propsOf n s acts) i = some p) :
    countVal (applyMoves s.grid (awOf n s acts)) (pathVal (i : Int)) = countVal s.grid (pathVal (i : Int)) + 1 := by
  have ok := x.cons.agent i ag hag
  unfold countVal
  apply count_succ_of_cells _ x.cons.shaped (shaped_applyMoves x.cons.shaped _) ok.posIn
  · rw [ok.headAt]
    have : ¬ (posVal (i : Int) = pathVal (i : Int)) := by unfold posVal pathVal; omega
    simp [this]
  · rw [l2_head x hag hw]; simp
  · intro q hq hne
    refine (l2_path_same x i hq ?_).symm
    intro ag' _ hag' _
    rw [hag] at hag'
    cases hag'
    exact hne

theorem l2_route (x : Ctx n k s acts) {i : Nat} {ag : Agent} (hag : s.agents[i]? = some ag)
    (hr : agentRouteB n s.grid ag = true) :
    agentRouteB n (applyMoves s.grid (awOf n s acts)) (moved ag (wins (propsOf n s acts) i)) = true := by
  have ok := x.cons.agent i ag hag
  have hold := (agentRouteB_iff n s.grid ag ok.startIn ok.posIn).1 hr
  rw [ok.id] at hold
  have hg : ∀ c, inGrid n c → cell s.grid c = pathVal (i : Int) →
      cell (applyMoves s.grid (awOf n s acts)) c = pathVal (i : Int) := fun c hc hv => l2_path_kept x i hc hv
  cases hw : wins (propsOf n s acts) i with
  | none =>
    simp only [moved]
    rw [agentRouteB_iff n _ ag ok.startIn ok.posIn, ok.id, l2_count_stay x hw]
    rcases hold with ⟨e, hc⟩ | ⟨e, r, hv⟩
    · exact Or.inl ⟨e, hc⟩
    · exact Or.inr ⟨e, r, validR_mono hg _ _ _ _ hv⟩
  | some p =>
    simp only [moved]
    obtain ⟨hin, hvp, hne, _, hadj⟩ := x.won hag hw
    have hpv : cell s.grid p ≠ pathVal (i : Int) := by unfold pathVal tgtVal at *; omega
    rw [agentRouteB_iff n _ { ag with position := p } ok.startIn hin]
    show (ag.start = p ∧ _) ∨ (ag.start ≠ p ∧ _)
    simp only [ok.id]
    rw [l2_count_move x hag hw]
    right
    rcases hold with ⟨e, hc⟩ | ⟨e, r, hv⟩
    · refine ⟨by rw [e]; exact fun h => hne h.symm, [ag.start, p], ?_⟩
      rw [hc]
      exact ⟨rfl, by rw [e]; exact hadj⟩
    · have hcpos : 0 < countVal s.grid (pathVal (i : Int)) :=
        count_pos_of_cell _ x.cons.shaped ok.startIn (by rw [ok.startAt e]; simp)
      refine ⟨?_, r.dropLast ++ [ag.position, p], ?_⟩
      · intro h
        rw [← h, ok.startAt e] at hpv
        exact hpv rfl
      · have := validR_extend hg (l2_head x hag hw) ok.posIn hadj (fun h => hne h.symm) hpv _ _ _ _
          (by simp; exact fun h => e h.symm) hv
        rw [show countVal s.grid (pathVal (i : Int)) - 1 + 1 = countVal s.grid (pathVal (i : Int)) by omega] at this
        exact this

theorem l2_feasible_agents (x : Ctx n k s acts) (hf : s.agents.all (agentRouteB n s.grid) = true) :
    (stepAgentsL2 n s acts).1.all (agentRouteB n (stepAgentsL2 n s acts).2) = true := by
  rw [List.all_eq_true] at hf ⊢
  intro ag' hmem
  obtain ⟨i, hi⟩ := List.getElem?_of_mem hmem
  obtain ⟨ag, hag, rfl⟩ := l2_agent_get x hi
  exact l2_route x hag (hf ag (List.mem_of_getElem? hag))

end

/-- C06: ANY in-spec joint action (mask-respecting or not: illegal moves are no-ops) leads from a feasible
state to a feasible state -/
theorem step_feasible (cfg : Cfg) (s : State) (acts : List Int) (hf : Feasible cfg.n cfg.k s) (hk : 0 < cfg.k)
    (hlen : acts.length = cfg.k) (hspec : ∀ a ∈ acts, 0 ≤ a ∧ a ≤ 4) :
    Feasible cfg.n cfg.k (step cfg s acts).1 := by
  obtain ⟨hc, hr⟩ := (feasible_iff _ _ _).1 hf
  have x := ctx_of hc hk hlen hspec
  refine (feasible_iff _ _ _).2 ⟨step_consistent cfg s acts hc hk hlen hspec, ?_⟩
  rw [step_next cfg x]
  exact l2_feasible_agents x hr

theorem route_of_unmoved {n : Nat} {g : Grid Int} {i : Nat} {ag : Agent} (hs : Grid.shaped g n n = true)
    (ok : AgentOK n g i ag) (e : ag.start = ag.position) : agentRouteB n g ag = true := by
  rw [agentRouteB_iff n g ag ok.startIn ok.posIn, ok.id]
  exact Or.inl ⟨e, (countVal_zero_iff hs _).2 (ok.pathNone e)⟩

theorem fresh_consistent (n k : Nat) (s : State) (h : freshB n k s = true) : Consistent n k s :=
  ((fresh_iff n k s).1 h).1

theorem fresh_feasible (n k : Nat) (s : State) (h : freshB n k s = true) : Feasible n k s := by
  obtain ⟨hc, _, hst, _⟩ := (fresh_iff n k s).1 h
  have c := (consistent_iff n k s).1 hc
  refine (feasible_iff n k s).2 ⟨hc, List.all_eq_true.2 fun ag hmem => ?_⟩
  obtain ⟨i, hi⟩ := List.getElem?_of_mem hmem
  exact route_of_unmoved c.shaped (c.agent i ag hi) (hst ag hmem)

end Connector
