/- The refinement L1 (`stepAgents`: tentative grids, max-join, correction mask) = L2 (`stepAgentsL2`:
proposals, lower id yields, `applyMoves`) for Connector, cell by cell: both grids are read through the same split of the
cells (a cell somebody wins, the head of an agent that asks for a move, any other cell), the rule-level grid being a
sequence of writes to pairwise different cells. -/
import JumanjiModel.Env.Connector.ConsLemmas
namespace Connector
open Jm Jx

theorem wins_highest (props : List (Option Pos)) {i : Nat} {p : Pos} (hi : props[i]? = some (some p))
    (hno : ∀ j, i < j → props[j]? ≠ some (some p)) : wins props i = some p := by
  unfold wins
  simp only [hi]
  have : (props.drop (i + 1)).any (fun q => q == some p) = false := by
    rw [List.any_eq_false]
    intro q hq
    obtain ⟨m, hm⟩ := List.getElem?_of_mem hq
    rw [List.getElem?_drop] at hm
    have := hno (i + 1 + m) (by omega)
    intro hqp
    simp at hqp
    exact this (by rw [hm, hqp])
  simp [this]

theorem wins_some_iff (props : List (Option Pos)) (i : Nat) (p : Pos) :
    wins props i = some p ↔ props[i]? = some (some p) ∧ ∀ j, i < j → props[j]? ≠ some (some p) := by
  constructor
  · intro h
    unfold wins at h
    split at h
    · rename_i p' hp'
      split at h
      · simp at h
      · rename_i hany
        simp at h; subst h
        refine ⟨hp', ?_⟩
        intro j hij hj
        apply hany
        rw [List.any_eq_true]
        refine ⟨some p', ?_, by simp⟩
        have : (props.drop (i + 1))[j - (i + 1)]? = some (some p') := by
          rw [List.getElem?_drop, show i + 1 + (j - (i + 1)) = j by omega]; exact hj
        exact List.mem_of_getElem? this
    · simp at h
  · rintro ⟨h1, h2⟩; exact wins_highest props h1 h2

theorem wins_of_none (props : List (Option Pos)) (i : Nat) (h : props[i]? = some none) : wins props i = none := by
  unfold wins; simp [h]

theorem exists_winner (props : List (Option Pos)) (q : Pos) :
    ∀ (m i : Nat), props.length - i ≤ m → props[i]? = some (some q) → ∃ i0, wins props i0 = some q := by
  intro m
  induction m with
  | zero =>
    intro i hm hi
    have : i < props.length := by
      rcases Nat.lt_or_ge i props.length with h | h
      · exact h
      · rw [List.getElem?_eq_none h] at hi; simp at hi
    omega
  | succ m ih =>
    intro i hm hi
    have hlt : i < props.length := by
      rcases Nat.lt_or_ge i props.length with h | h
      · exact h
      · rw [List.getElem?_eq_none h] at hi; simp at hi
    by_cases h : ∃ j, i < j ∧ props[j]? = some (some q)
    · obtain ⟨j, hij, hj⟩ := h
      exact ih j (by omega) hj
    · exact ⟨i, wins_highest props hi (fun j hij hj => h ⟨j, hij, hj⟩)⟩

theorem proposal_some {n : Nat} {g : Grid Int} {ag : Agent} {a : Int} {p : Pos}
    (h : proposal n g ag a = some p) : canEnter n g ag p ∧ adjacent ag.position p = true := by
  unfold proposal at h
  split at h
  · simp at h
  · rename_i d hd
    simp only [] at h
    split at h
    · rename_i hc
      simp at h; subst h
      have := dir_some hd
      exact ⟨hc.2, (adjacent_iff_move _ _).2 ⟨(a.toNat : Int), by omega, by omega, movePosition_dir hd _⟩⟩
    · simp at h

/-- the grid `_step_agent` returns for one agent, in terms of its proposal (`stepAgent_eq_tent`) -/
def tentGrid (g : Grid Int) (ag : Agent) : Option Pos → Grid Int
  | none => g
  | some p => setCell (setCell g p (posVal ag.id)) ag.position (pathVal ag.id)

/-- the value of `tentGrid` at an in-grid cell `q` (`cell_tentGrid`) -/
def tentVal (g : Grid Int) (ag : Agent) (P : Option Pos) (q : Pos) : Int :=
  match P with
  | none => cell g q
  | some p => if q = ag.position then pathVal ag.id else if q = p then posVal ag.id else cell g q

theorem tent_cases (g : Grid Int) (ag : Agent) (P : Option Pos) (q : Pos) :
    (∃ p, P = some p ∧ q = ag.position ∧ tentVal g ag P q = pathVal ag.id) ∨
    (P = some q ∧ q ≠ ag.position ∧ tentVal g ag P q = posVal ag.id) ∨
    (P ≠ some q ∧ (q = ag.position → P = none) ∧ tentVal g ag P q = cell g q) := by
  cases P with
  | none => exact Or.inr (Or.inr ⟨fun h => (nomatch h), fun _ => rfl, rfl⟩)
  | some p =>
    simp only [tentVal]
    by_cases e1 : q = ag.position
    · exact Or.inl ⟨p, rfl, e1, if_pos e1⟩
    · by_cases e2 : q = p
      · subst e2
        exact Or.inr (Or.inl ⟨rfl, e1, by rw [if_neg e1, if_pos rfl]⟩)
      · exact Or.inr (Or.inr ⟨fun h => e2 (Option.some.inj h).symm, fun h => absurd h e1,
          by rw [if_neg e1, if_neg e2]⟩)

theorem stepAgent_eq_tent {g : Grid Int} {n : Nat} (h : Grid.shaped g n n = true) (ag : Agent) (a : Int)
    (h0 : 0 ≤ a) (h4 : a ≤ 4) (hp : inGrid n ag.position) :
    stepAgent g ag a = (moved ag (proposal n g ag a), tentGrid g ag (proposal n g ag a)) := by
  have e : a = ((a.toNat : Nat) : Int) := by omega
  have := stepAgent_eq_rules h ag a.toNat (by omega) hp
  rw [← e] at this
  rw [this]
  cases proposal n g ag a <;> rfl

theorem shaped_tentGrid {g : Grid Int} {n : Nat} (h : Grid.shaped g n n = true) (ag : Agent) (P : Option Pos) :
    Grid.shaped (tentGrid g ag P) n n = true := by
  cases P with
  | none => exact h
  | some p => exact shaped_setCell (shaped_setCell h _ _) _ _

theorem cell_tentGrid {g : Grid Int} {n : Nat} (h : Grid.shaped g n n = true) (ag : Agent)
    (hp : inGrid n ag.position) (P : Option Pos) (hP : ∀ p, P = some p → inGrid n p) {q : Pos} (hq : inGrid n q) :
    cell (tentGrid g ag P) q = tentVal g ag P q := by
  cases P with
  | none => rfl
  | some p =>
    simp only [tentGrid, tentVal]
    rw [cell_setCell (shaped_setCell h _ _) hp hq, cell_setCell h (hP p rfl) hq]

theorem cell_joinGrids {n : Nat} (gs : List (Grid Int)) (hs : ∀ g ∈ gs, Grid.shaped g n n = true) {q : Pos}
    (hq : inGrid n q) (m : Int) (hub : ∀ g ∈ gs, cell g q ≤ m) (hex : ∃ g ∈ gs, cell g q = m) :
    cell (joinGrids gs) q = m := by
  cases gs with
  | nil => obtain ⟨g, hg, _⟩ := hex; simp at hg
  | cons g0 gs =>
    unfold joinGrids
    rw [cell_foldl_zipWith max gs g0 (hs g0 (by simp)) (fun g hg => hs g (by simp [hg])) hq]
    apply foldl_max_eq
    · exact hub g0 (by simp)
    · intro x hx
      simp at hx
      obtain ⟨g, hg, rfl⟩ := hx
      exact hub g (by simp [hg])
    · obtain ⟨g, hg, e⟩ := hex
      simp at hg
      rcases hg with rfl | hg
      · left; exact e
      · right; simp; exact ⟨g, hg, e⟩

theorem shaped_joinGrids {n : Nat} (gs : List (Grid Int)) (hs : ∀ g ∈ gs, Grid.shaped g n n = true)
    (hne : gs ≠ []) : Grid.shaped (joinGrids gs) n n = true := by
  cases gs with
  | nil => exact absurd rfl hne
  | cons g0 gs =>
    unfold joinGrids
    exact shaped_foldl_zipWith max gs g0 (hs g0 (by simp)) (fun g hg => hs g (by simp [hg]))

/-- the standing hypothesis of the step lemmas: a consistent state, at least one agent (`joinGrids []` is the empty
grid), a joint action of length `k` with entries in 0..4 -/
structure Ctx (n k : Nat) (s : State) (acts : List Int) : Prop where
  cons : Cons n k s
  kpos : 0 < k
  alen : acts.length = k
  spec : ∀ a ∈ acts, 0 ≤ a ∧ a ≤ 4

/-- the `props` of `stepAgentsL2` -/
def propsOf (n : Nat) (s : State) (acts : List Int) : List (Option Pos) :=
  List.zipWith (proposal n s.grid) s.agents acts

section
variable {n k : Nat} {s : State} {acts : List Int}

theorem Ctx.lookup (x : Ctx n k s acts) {i : Nat} (hi : i < k) :
    ∃ ag a, s.agents[i]? = some ag ∧ acts[i]? = some a := by
  have h1 : i < s.agents.length := by rw [x.cons.len]; exact hi
  have h2 : i < acts.length := by rw [x.alen]; exact hi
  exact ⟨s.agents[i], acts[i], List.getElem?_eq_getElem h1, List.getElem?_eq_getElem h2⟩

theorem Ctx.lt (x : Ctx n k s acts) {i : Nat} {ag : Agent} (h : s.agents[i]? = some ag) : i < k := by
  have := Jx.lt_of_getElem? h; rw [x.cons.len] at this; exact this

theorem Ctx.aspec (x : Ctx n k s acts) {i : Nat} {a : Int} (h : acts[i]? = some a) : 0 ≤ a ∧ a ≤ 4 :=
  x.spec a (List.mem_of_getElem? h)

theorem props_get {i : Nat} {ag : Agent} {a : Int} (hag : s.agents[i]? = some ag) (ha : acts[i]? = some a) :
    (propsOf n s acts)[i]? = some (proposal n s.grid ag a) := by
  simp [propsOf, List.getElem?_zipWith, hag, ha]

theorem props_inv {i : Nat} {P : Option Pos} (h : (propsOf n s acts)[i]? = some P) :
    ∃ ag a, s.agents[i]? = some ag ∧ acts[i]? = some a ∧ proposal n s.grid ag a = P := by
  simp only [propsOf, List.getElem?_zipWith] at h
  cases hag : s.agents[i]? with
  | none => simp [hag] at h
  | some ag =>
    cases ha : acts[i]? with
    | none => simp [hag, ha] at h
    | some a =>
      simp [hag, ha] at h
      exact ⟨ag, a, rfl, rfl, h⟩

theorem Ctx.props_length (x : Ctx n k s acts) : (propsOf n s acts).length = k := by
  simp [propsOf, x.cons.len, x.alen]

theorem Ctx.prop_facts (x : Ctx n k s acts) {i : Nat} {ag : Agent} {a : Int} {p : Pos}
    (hag : s.agents[i]? = some ag) (hP : proposal n s.grid ag a = some p) :
    inGrid n p ∧ (cell s.grid p = 0 ∨ cell s.grid p = tgtVal (i : Int)) ∧ p ≠ ag.position ∧
      ag.position ≠ ag.target ∧ adjacent ag.position p = true := by
  obtain ⟨⟨hin, hv, hnc⟩, hadj⟩ := proposal_some hP
  have ok := x.cons.agent i ag hag
  rw [ok.id] at hv
  refine ⟨hin, hv, ?_, hnc, hadj⟩
  intro e
  rw [e, ok.headAt] at hv
  unfold posVal tgtVal at hv
  omega

theorem Ctx.win_facts (x : Ctx n k s acts) {i : Nat} {p : Pos} (hw : wins (propsOf n s acts) i = some p) :
    ∃ ag a, s.agents[i]? = some ag ∧ acts[i]? = some a ∧ proposal n s.grid ag a = some p ∧ inGrid n p ∧
      (cell s.grid p = 0 ∨ cell s.grid p = tgtVal (i : Int)) ∧ p ≠ ag.position := by
  obtain ⟨hp0, _⟩ := (wins_some_iff _ _ _).1 hw
  obtain ⟨ag0, a0, hag0, ha0, hP0⟩ := props_inv hp0
  obtain ⟨h1, h2, h3, _, _⟩ := x.prop_facts hag0 hP0
  exact ⟨ag0, a0, hag0, ha0, hP0, h1, h2, h3⟩

theorem Ctx.won (x : Ctx n k s acts) {i : Nat} {ag : Agent} {p : Pos} (hag : s.agents[i]? = some ag)
    (hw : wins (propsOf n s acts) i = some p) :
    inGrid n p ∧ (cell s.grid p = 0 ∨ cell s.grid p = tgtVal (i : Int)) ∧ p ≠ ag.position ∧
      ag.position ≠ ag.target ∧ adjacent ag.position p = true := by
  obtain ⟨ag0, _, hag0, _, hP, _⟩ := x.win_facts hw
  obtain rfl : ag0 = ag := Option.some.inj (hag0.symm.trans hag)
  exact x.prop_facts hag hP

theorem Ctx.head_inj (x : Ctx n k s acts) {i j : Nat} {ag ag' : Agent} (hag : s.agents[i]? = some ag)
    (hag' : s.agents[j]? = some ag') (e : ag.position = ag'.position) : j = i ∧ ag' = ag := by
  have hh := (x.cons.agent j ag' hag').headAt
  rw [← e, (x.cons.agent i ag hag).headAt] at hh
  have : j = i := by unfold posVal at hh; omega
  subst this
  exact ⟨rfl, Option.some.inj (hag'.symm.trans hag)⟩

theorem agentGrids_get (x : Ctx n k s acts) {i : Nat} {ag : Agent} {a : Int}
    (hag : s.agents[i]? = some ag) (ha : acts[i]? = some a) :
    (agentGrids k s acts)[i]? =
      some (getAgentGrid (i : Int) (tentGrid s.grid ag (proposal n s.grid ag a))) := by
  have hi := x.lt hag
  have ok := x.cons.agent i ag hag
  have sp := x.aspec ha
  simp [agentGrids, agentIds, stepEach, List.getElem?_zipWith, hag, ha, List.getElem?_range hi,
    stepAgent_eq_tent x.cons.shaped ag a sp.1 sp.2 ok.posIn]

theorem agentGrids_inv (x : Ctx n k s acts) {i : Nat} {G : Grid Int} (h : (agentGrids k s acts)[i]? = some G) :
    ∃ ag a, s.agents[i]? = some ag ∧ acts[i]? = some a ∧
      G = getAgentGrid (i : Int) (tentGrid s.grid ag (proposal n s.grid ag a)) := by
  have hi : i < k := by
    have := Jx.lt_of_getElem? h
    simp [agentGrids, agentIds] at this
    omega
  obtain ⟨ag, a, hag, ha⟩ := x.lookup hi
  rw [agentGrids_get x hag ha] at h
  exact ⟨ag, a, hag, ha, (Option.some.inj h).symm⟩

theorem Ctx.tent_in (x : Ctx n k s acts) {i : Nat} {ag : Agent} (hag : s.agents[i]? = some ag) (a : Int) :
    ∀ p, proposal n s.grid ag a = some p → inGrid n p := fun _ hP => (x.prop_facts hag hP).1

theorem agentGrid_cell (x : Ctx n k s acts) {i : Nat} {ag : Agent} (hag : s.agents[i]? = some ag) (a : Int)
    {q : Pos} (hq : inGrid n q) :
    cell (getAgentGrid (i : Int) (tentGrid s.grid ag (proposal n s.grid ag a))) q =
      agentCell (i : Int) (tentVal s.grid ag (proposal n s.grid ag a) q) := by
  have ok := x.cons.agent i ag hag
  unfold getAgentGrid
  rw [cell_map _ (shaped_tentGrid x.cons.shaped _ _) hq,
    cell_tentGrid x.cons.shaped ag ok.posIn _ (x.tent_in hag a) hq]

theorem agentGrids_ne (x : Ctx n k s acts) : agentGrids k s acts ≠ [] := by
  obtain ⟨ag, a, hag, ha⟩ := x.lookup x.kpos
  intro e
  have := agentGrids_get x hag ha
  rw [e] at this
  simp at this

theorem joined_eq (x : Ctx n k s acts) {q : Pos} (hq : inGrid n q) (m : Int)
    (hub : ∀ (i : Nat) ag a, s.agents[i]? = some ag → acts[i]? = some a →
      agentCell (i : Int) (tentVal s.grid ag (proposal n s.grid ag a) q) ≤ m)
    (hex : ∃ (i : Nat) (ag : Agent) (a : Int), s.agents[i]? = some ag ∧ acts[i]? = some a ∧
      agentCell (i : Int) (tentVal s.grid ag (proposal n s.grid ag a) q) = m) :
    cell (joinGrids (agentGrids k s acts)) q = m := by
  apply cell_joinGrids _ (agentGrids_shaped x.cons.shaped k acts) hq
  · intro G hG
    obtain ⟨i, hi⟩ := List.getElem?_of_mem hG
    obtain ⟨ag, a, hag, ha, rfl⟩ := agentGrids_inv x hi
    rw [agentGrid_cell x hag a hq]
    exact hub i ag a hag ha
  · obtain ⟨i, ag, a, hag, ha, e⟩ := hex
    refine ⟨_, List.mem_of_getElem? (agentGrids_get x hag ha), ?_⟩
    rw [agentGrid_cell x hag a hq]
    exact e

theorem joined_winner (x : Ctx n k s acts) {q : Pos} {i0 : Nat} (hw : wins (propsOf n s acts) i0 = some q) :
    cell (joinGrids (agentGrids k s acts)) q = posVal (i0 : Int) := by
  obtain ⟨hp0, hmax⟩ := (wins_some_iff _ _ _).1 hw
  obtain ⟨ag0, a0, hag0, ha0, hP0, hq, hv, hne0⟩ := x.win_facts hw
  have ok0 := x.cons.agent i0 ag0 hag0
  refine joined_eq x hq _ ?_ ?_
  · intro i ag a hag ha
    have ok := x.cons.agent i ag hag
    have hpi := props_get (n := n) hag ha
    rcases tent_cases s.grid ag (proposal n s.grid ag a) q with ⟨p, _, e1, _⟩ | ⟨hP, _, e⟩ | ⟨hP, _, e⟩
    · exfalso
      rw [e1, ok.headAt] at hv
      unfold posVal tgtVal at hv; omega
    · have hle : i ≤ i0 := by
        rcases Nat.lt_or_ge i0 i with h | h
        · exact absurd (by rw [hpi, hP]) (hmax i h)
        · exact h
      rw [e, ok.id, agentCell_cases]
      unfold pathVal posVal tgtVal
      split <;> omega
    · have hne : i ≠ i0 := by
        rintro rfl
        rw [hp0] at hpi
        exact hP (Option.some.inj hpi).symm
      rw [e, agentCell_cases]
      unfold pathVal posVal tgtVal at *
      split <;> omega
  · refine ⟨i0, ag0, a0, hag0, ha0, ?_⟩
    rw [hP0]
    simp only [tentVal, hne0, if_false, if_true, ok0.id]
    rw [agentCell_cases]
    unfold pathVal posVal tgtVal
    split <;> omega

theorem joined_head (x : Ctx n k s acts) {j : Nat} {ag : Agent} {a : Int} {p : Pos}
    (hag : s.agents[j]? = some ag) (ha : acts[j]? = some a) (hP : proposal n s.grid ag a = some p) :
    cell (joinGrids (agentGrids k s acts)) ag.position = pathVal (j : Int) := by
  have okj := x.cons.agent j ag hag
  have hv := okj.headAt
  refine joined_eq x okj.posIn _ ?_ ?_
  · intro i ag' a' hag' ha'
    have ok := x.cons.agent i ag' hag'
    rcases tent_cases s.grid ag' (proposal n s.grid ag' a') ag.position with
      ⟨p', _, e1, e⟩ | ⟨hP', _, _⟩ | ⟨_, hnone, e⟩
    · obtain ⟨e2, _⟩ := x.head_inj hag hag' e1
      rw [e, ok.id, e2, agentCell_cases]
      unfold pathVal posVal tgtVal
      split <;> omega
    · exfalso
      obtain ⟨_, hv', _⟩ := x.prop_facts hag' hP'
      rw [hv] at hv'
      unfold posVal tgtVal at hv'; omega
    · have hne : i ≠ j := by
        rintro rfl
        have e0 := Option.some.inj (hag'.symm.trans hag)
        have e3 := Option.some.inj (ha'.symm.trans ha)
        subst e0; subst e3
        have hn := hnone rfl
        rw [hP] at hn
        exact nomatch hn
      rw [e, hv, agentCell_cases]
      unfold pathVal posVal tgtVal
      split <;> omega
  · refine ⟨j, ag, a, hag, ha, ?_⟩
    rw [hP]
    simp only [tentVal, if_true, okj.id]
    rw [agentCell_cases]
    unfold pathVal posVal tgtVal
    split <;> omega

theorem no_proposer {q : Pos} (hnw : ∀ i, wins (propsOf n s acts) i ≠ some q) (i : Nat) :
    (propsOf n s acts)[i]? ≠ some (some q) := by
  intro h
  obtain ⟨i0, h0⟩ := exists_winner (propsOf n s acts) q _ i (Nat.le_refl _) h
  exact hnw i0 h0

theorem joined_other (x : Ctx n k s acts) {q : Pos} (hq : inGrid n q)
    (hnw : ∀ i, wins (propsOf n s acts) i ≠ some q)
    (hnh : ∀ (j : Nat) ag a p, s.agents[j]? = some ag → acts[j]? = some a →
      proposal n s.grid ag a = some p → q ≠ ag.position) :
    cell (joinGrids (agentGrids k s acts)) q = cell s.grid q := by
  have key : ∀ (i : Nat) ag a, s.agents[i]? = some ag → acts[i]? = some a →
      tentVal s.grid ag (proposal n s.grid ag a) q = cell s.grid q := by
    intro i ag a hag ha
    rcases tent_cases s.grid ag (proposal n s.grid ag a) q with ⟨p, hP, e1, _⟩ | ⟨hP, _, _⟩ | ⟨_, _, e⟩
    · exact absurd e1 (hnh i ag a p hag ha hP)
    · exact absurd (by rw [props_get hag ha, hP]) (no_proposer hnw i)
    · exact e
  have hr := x.cons.range q hq
  refine joined_eq x hq _ ?_ ?_
  · intro i ag a hag ha
    rw [key i ag a hag ha, agentCell_cases]
    split <;> omega
  · by_cases hv : cell s.grid q = 0
    · obtain ⟨ag, a, hag, ha⟩ := x.lookup x.kpos
      refine ⟨0, ag, a, hag, ha, ?_⟩
      rw [key 0 ag a hag ha, agentCell_cases, hv]
      simp
    · have hj : ((cell s.grid q - 1) / 3).toNat < k := by omega
      obtain ⟨ag, a, hag, ha⟩ := x.lookup hj
      refine ⟨_, ag, a, hag, ha, ?_⟩
      rw [key _ ag a hag ha, agentCell_cases]
      unfold pathVal posVal tgtVal
      split
      · rfl
      · omega

/-- the three kinds of cells of the joined grid: a cell somebody wins, the head of an agent that asks for a legal
move, any other cell -/
theorem joined_cases (x : Ctx n k s acts) {q : Pos} (hq : inGrid n q) :
    (∃ i0 : Nat, wins (propsOf n s acts) i0 = some q ∧
        cell (joinGrids (agentGrids k s acts)) q = posVal (i0 : Int)) ∨
    (∃ (j : Nat) (ag : Agent) (a : Int) (p : Pos), s.agents[j]? = some ag ∧ acts[j]? = some a ∧
        proposal n s.grid ag a = some p ∧ q = ag.position ∧ (∀ i, wins (propsOf n s acts) i ≠ some q) ∧
        cell (joinGrids (agentGrids k s acts)) q = pathVal (j : Int)) ∨
    ((∀ i, wins (propsOf n s acts) i ≠ some q) ∧
      (∀ (j : Nat) ag a p, s.agents[j]? = some ag → acts[j]? = some a → proposal n s.grid ag a = some p →
        q ≠ ag.position) ∧
      cell (joinGrids (agentGrids k s acts)) q = cell s.grid q) := by
  by_cases h1 : ∃ i0, wins (propsOf n s acts) i0 = some q
  · obtain ⟨i0, hw⟩ := h1
    exact Or.inl ⟨i0, hw, joined_winner x hw⟩
  · have hnw : ∀ i0, wins (propsOf n s acts) i0 ≠ some q := fun i0 h => h1 ⟨i0, h⟩
    by_cases h2 : ∃ (j : Nat) (ag : Agent) (a : Int) (p : Pos), s.agents[j]? = some ag ∧ acts[j]? = some a ∧
        proposal n s.grid ag a = some p ∧ q = ag.position
    · obtain ⟨j, ag, a, p, hag, ha, hP, rfl⟩ := h2
      exact Or.inr (Or.inl ⟨j, ag, a, p, hag, ha, hP, rfl, hnw, joined_head x hag ha hP⟩)
    · exact Or.inr (Or.inr ⟨hnw, fun j ag a p hag ha hP e => h2 ⟨j, ag, a, p, hag, ha, hP, e⟩,
        joined_other x hq hnw (fun j ag a p hag ha hP e => h2 ⟨j, ag, a, p, hag, ha, hP, e⟩)⟩)

theorem joined_shaped (x : Ctx n k s acts) : Grid.shaped (joinGrids (agentGrids k s acts)) n n = true :=
  shaped_joinGrids _ (agentGrids_shaped x.cons.shaped k acts) (agentGrids_ne x)

theorem hasCollision_iff (x : Ctx n k s acts) (i : Nat) :
    hasCollision (joinGrids (agentGrids k s acts)) (i : Int) = true ↔
      ∀ q, inGrid n q → cell (joinGrids (agentGrids k s acts)) q ≠ posVal (i : Int) := by
  unfold hasCollision
  rw [Bool.not_eq_true', ← Bool.not_eq_true, any_iff_cell _ (joined_shaped x)]
  simp

theorem collided_iff (x : Ctx n k s acts) {i : Nat} {ag : Agent} {a : Int}
    (hag : s.agents[i]? = some ag) (ha : acts[i]? = some a) :
    hasCollision (joinGrids (agentGrids k s acts)) (i : Int) = true ↔
      (proposal n s.grid ag a).isSome = true ∧ wins (propsOf n s acts) i = none := by
  have ok := x.cons.agent i ag hag
  rw [hasCollision_iff x i]
  constructor
  · intro h
    cases hP : proposal n s.grid ag a with
    | none =>
      exfalso
      rcases joined_cases x ok.posIn with ⟨i0, hw0, _⟩ | ⟨j, ag', a', p, hag', ha', hP', e, _, _⟩ | ⟨_, _, e⟩
      · obtain ⟨_, _, _, _, _, _, hv, _⟩ := x.win_facts hw0
        rw [ok.headAt] at hv
        unfold posVal tgtVal at hv; omega
      · obtain ⟨e1, e2⟩ := x.head_inj hag hag' e
        subst e1; subst e2
        rw [Option.some.inj (ha'.symm.trans ha), hP] at hP'
        simp at hP'
      · exact h ag.position ok.posIn (by rw [e, ok.headAt])
    | some p =>
      refine ⟨rfl, ?_⟩
      cases hw : wins (propsOf n s acts) i with
      | none => rfl
      | some p' =>
        obtain ⟨_, _, _, _, _, hin, _⟩ := x.win_facts hw
        exact absurd (joined_winner x hw) (h p' hin)
  · rintro ⟨hsome, hw⟩ q hq e
    rcases joined_cases x hq with ⟨i0, hw0, e'⟩ | ⟨j, ag', a', p, _, _, _, _, _, e'⟩ | ⟨_, hnh, e'⟩
    · rw [e'] at e
      have : i0 = i := by unfold posVal at e; omega
      subst this
      rw [hw] at hw0; simp at hw0
    · rw [e'] at e
      unfold pathVal posVal at e; omega
    · rw [e'] at e
      cases hP : proposal n s.grid ag a with
      | none => rw [hP] at hsome; simp at hsome
      | some p => exact hnh i ag a p hag ha hP (ok.headUniq q hq e)

theorem cell_corr {g : Grid Int} (h : Grid.shaped g n n = true) (joined : Grid Int) (k : Nat) {q : Pos}
    (hq : inGrid n q) :
    cell (sumGrids (Grid.map (fun _ => (0 : Int)) g) ((agentIds k).map (correctionMask g joined))) q =
      ((agentIds k).map (fun id => (if cell g q = posVal id then (2 - 1 : Int) else 0) *
        (if hasCollision joined id then 1 else 0))).sum := by
  rw [corrGrid_eq, cell_map _ h hq, Int.zero_add]

theorem shaped_applyMoves {g : Grid Int} (h : Grid.shaped g n n = true) (L : List (Agent × Option Pos)) :
    Grid.shaped (applyMoves g L) n n = true := by
  induction L generalizing g with
  | nil => exact h
  | cons y L ih =>
    obtain ⟨ag, o⟩ := y
    cases o with
    | none => exact ih h
    | some p => exact ih (shaped_setCell (shaped_setCell h _ _) _ _)

/-- what one entry of the move list writes: the head value on the cell entered, then the path value on the old head cell -/
def writesOf (y : Agent × Option Pos) : List (Pos × Int) :=
  match y.2 with
  | none => []
  | some p => [(p, posVal y.1.id), (y.1.position, pathVal y.1.id)]

theorem mem_writesOf {y : Agent × Option Pos} {a : Pos × Int} :
    a ∈ writesOf y ↔ ∃ p, y.2 = some p ∧ (a = (p, posVal y.1.id) ∨ a = (y.1.position, pathVal y.1.id)) := by
  obtain ⟨ag, o⟩ := y
  cases o <;> simp [writesOf]

theorem applyMoves_eq_assign {g : Grid Int} (h : Grid.shaped g n n = true) (L : List (Agent × Option Pos))
    (hin : ∀ a ∈ L.flatMap writesOf, inGrid n a.1) : applyMoves g L = assign g (L.flatMap writesOf) := by
  induction L generalizing g with
  | nil => rfl
  | cons y L ih =>
    obtain ⟨ag, o⟩ := y
    rw [List.flatMap_cons] at hin
    have hin' : ∀ a ∈ L.flatMap writesOf, inGrid n a.1 := fun a ha => hin a (List.mem_append_right _ ha)
    cases o with
    | none => exact ih h hin'
    | some p =>
      have hp : inGrid n p := hin (p, posVal ag.id) (List.mem_append_left _ (List.Mem.head _))
      have hpos : inGrid n ag.position :=
        hin (ag.position, pathVal ag.id) (List.mem_append_left _ (List.Mem.tail _ (List.Mem.head _)))
      show applyMoves (setCell (setCell g p (posVal ag.id)) ag.position (pathVal ag.id)) L =
        assign g ((p, posVal ag.id) :: (ag.position, pathVal ag.id) :: L.flatMap writesOf)
      rw [assign_cons _ hp, assign_cons _ hpos]
      exact ih (shaped_setCell (shaped_setCell h _ _) _ _) hin'

/-- the `aw` of `stepAgentsL2`: every agent with the cell it wins, if any -/
def awOf (n : Nat) (s : State) (acts : List Int) : List (Agent × Option Pos) :=
  List.zip s.agents ((List.range (propsOf n s acts).length).map (wins (propsOf n s acts)))

theorem stepAgentsL2_eq (n : Nat) (s : State) (acts : List Int) :
    stepAgentsL2 n s acts = ((awOf n s acts).map (fun y => moved y.1 y.2), applyMoves s.grid (awOf n s acts)) := rfl

theorem aw_get (x : Ctx n k s acts) {i : Nat} {ag : Agent} (hag : s.agents[i]? = some ag) :
    (awOf n s acts)[i]? = some (ag, wins (propsOf n s acts) i) := by
  have hi := x.lt hag
  unfold awOf
  rw [List.getElem?_zip_eq_some]
  refine ⟨hag, ?_⟩
  simp [List.getElem?_map, x.props_length, List.getElem?_range hi]

theorem aw_inv (x : Ctx n k s acts) {i : Nat} {y : Agent × Option Pos} (h : (awOf n s acts)[i]? = some y) :
    s.agents[i]? = some y.1 ∧ y.2 = wins (propsOf n s acts) i := by
  have h' := h
  unfold awOf at h'
  rw [List.getElem?_zip_eq_some] at h'
  have := aw_get x h'.1
  rw [this] at h
  have e := Option.some.inj h
  exact ⟨h'.1, by rw [← e]⟩

/-- two winners never touch the same cell -/
theorem touch_unique (x : Ctx n k s acts) {i j : Nat} {agi agj : Agent} {p p' : Pos}
    (hagi : s.agents[i]? = some agi) (hagj : s.agents[j]? = some agj)
    (hwi : wins (propsOf n s acts) i = some p) (hwj : wins (propsOf n s acts) j = some p')
    {q : Pos} (hi : q = p ∨ q = agi.position) (hj : q = p' ∨ q = agj.position) : i = j := by
  obtain ⟨_, hv, _⟩ := x.won hagi hwi
  obtain ⟨_, hv', _⟩ := x.won hagj hwj
  have hi0 := (x.cons.agent i agi hagi).headAt
  have hj0 := (x.cons.agent j agj hagj).headAt
  obtain ⟨hpi, hmi⟩ := (wins_some_iff _ _ _).1 hwi
  obtain ⟨hpj, hmj⟩ := (wins_some_iff _ _ _).1 hwj
  unfold posVal tgtVal at *
  rcases hi with rfl | rfl <;> rcases hj with hj | hj
  · subst hj
    rcases Nat.lt_trichotomy i j with h | h | h
    · exact absurd hpj (hmi j h)
    · exact h
    · exact absurd hpi (hmj i h)
  · rw [hj, hj0] at hv; omega
  · rw [← hj, hi0] at hv'; omega
  · rw [hj, hj0] at hi0; omega

theorem mem_l2_writes (x : Ctx n k s acts) {a : Pos × Int} :
    a ∈ (awOf n s acts).flatMap writesOf ↔ ∃ (i : Nat) (ag : Agent) (p : Pos), s.agents[i]? = some ag ∧
      wins (propsOf n s acts) i = some p ∧ (a = (p, posVal (i : Int)) ∨ a = (ag.position, pathVal (i : Int))) := by
  rw [List.mem_flatMap]
  constructor
  · rintro ⟨y, hy, ha⟩
    obtain ⟨i, hi⟩ := List.getElem?_of_mem hy
    obtain ⟨hag, hw⟩ := aw_inv x hi
    obtain ⟨p, hp, h⟩ := mem_writesOf.1 ha
    rw [(x.cons.agent i _ hag).id] at h
    exact ⟨i, y.1, p, hag, by rw [← hw, hp], h⟩
  · rintro ⟨i, ag, p, hag, hw, h⟩
    refine ⟨(ag, some p), List.mem_of_getElem? (hw ▸ aw_get x hag), mem_writesOf.2 ⟨p, rfl, ?_⟩⟩
    rw [(x.cons.agent i ag hag).id]; exact h

theorem l2_writes_nodup (x : Ctx n k s acts) : (((awOf n s acts).flatMap writesOf).map Prod.fst).Nodup := by
  unfold List.Nodup
  rw [List.pairwise_map, List.pairwise_flatMap]
  have one : ∀ {i : Nat} {y : Agent × Option Pos} {a : Pos × Int}, (awOf n s acts)[i]? = some y → a ∈ writesOf y →
      ∃ p, s.agents[i]? = some y.1 ∧ wins (propsOf n s acts) i = some p ∧ (a.1 = p ∨ a.1 = y.1.position) := by
    intro i y a hi ha
    obtain ⟨hag, hw⟩ := aw_inv x hi
    obtain ⟨p, hp, h⟩ := mem_writesOf.1 ha
    exact ⟨p, hag, by rw [← hw, hp], h.imp (fun e => by rw [e]) (fun e => by rw [e])⟩
  constructor
  · intro y hy
    obtain ⟨ag, o⟩ := y
    cases o with
    | none => exact List.Pairwise.nil
    | some p =>
      obtain ⟨i, hi⟩ := List.getElem?_of_mem hy
      obtain ⟨hag, hw⟩ := aw_inv x hi
      simpa [writesOf] using (x.won hag hw.symm).2.2.1
  · rw [List.pairwise_iff_getElem]
    intro i j hi hj hij a ha b hb e
    obtain ⟨p, hagi, hwi, hti⟩ := one (List.getElem?_eq_getElem hi) ha
    obtain ⟨p', hagj, hwj, htj⟩ := one (List.getElem?_eq_getElem hj) hb
    have := touch_unique x hagi hagj hwi hwj hti (e ▸ htj)
    omega

theorem l2_writes_in (x : Ctx n k s acts) : ∀ a ∈ (awOf n s acts).flatMap writesOf, inGrid n a.1 := by
  intro a ha
  obtain ⟨i, ag, p, hag, hw, h⟩ := (mem_l2_writes x).1 ha
  rcases h with rfl | rfl
  · exact (x.won hag hw).1
  · exact (x.cons.agent i ag hag).posIn

theorem l2_assign (x : Ctx n k s acts) :
    (∀ a ∈ (awOf n s acts).flatMap writesOf, cell (applyMoves s.grid (awOf n s acts)) a.1 = a.2) ∧
    (∀ q, inGrid n q → q ∉ ((awOf n s acts).flatMap writesOf).map Prod.fst →
      cell (applyMoves s.grid (awOf n s acts)) q = cell s.grid q) := by
  rw [applyMoves_eq_assign x.cons.shaped _ (l2_writes_in x)]
  exact (assign_spec _ _ x.cons.shaped (l2_writes_in x) (l2_writes_nodup x)).2

theorem l2_winner (x : Ctx n k s acts) {q : Pos} {i0 : Nat} (hw : wins (propsOf n s acts) i0 = some q) :
    cell (applyMoves s.grid (awOf n s acts)) q = posVal (i0 : Int) := by
  obtain ⟨ag, _, hag, _⟩ := x.win_facts hw
  exact (l2_assign x).1 (q, posVal (i0 : Int)) ((mem_l2_writes x).2 ⟨i0, ag, q, hag, hw, Or.inl rfl⟩)

theorem l2_head (x : Ctx n k s acts) {j : Nat} {ag : Agent} {p : Pos} (hag : s.agents[j]? = some ag)
    (hw : wins (propsOf n s acts) j = some p) :
    cell (applyMoves s.grid (awOf n s acts)) ag.position = pathVal (j : Int) :=
  (l2_assign x).1 (ag.position, pathVal (j : Int)) ((mem_l2_writes x).2 ⟨j, ag, p, hag, hw, Or.inr rfl⟩)

theorem l2_other (x : Ctx n k s acts) {q : Pos} (hq : inGrid n q)
    (hnw : ∀ i, wins (propsOf n s acts) i ≠ some q)
    (hnh : ∀ (j : Nat) ag p, s.agents[j]? = some ag → wins (propsOf n s acts) j = some p → q ≠ ag.position) :
    cell (applyMoves s.grid (awOf n s acts)) q = cell s.grid q := by
  refine (l2_assign x).2 q hq fun hm => ?_
  obtain ⟨a, ha, rfl⟩ := List.mem_map.1 hm
  obtain ⟨i, ag, p, hag, hw, h⟩ := (mem_l2_writes x).1 ha
  rcases h with rfl | rfl
  · exact hnw i hw
  · exact hnh i ag p hag hw rfl

theorem corr_shaped {g : Grid Int} (hs : Grid.shaped g n n = true) (k : Nat) (joined : Grid Int) :
    Grid.shaped (sumGrids (Grid.map (fun _ => (0 : Int)) g) ((agentIds k).map (correctionMask g joined))) n n = true := by
  rw [corrGrid_eq]
  exact Grid.shaped_map_of _ hs

theorem not_collided (x : Ctx n k s acts) {i : Nat} {ag : Agent} {a : Int}
    (hag : s.agents[i]? = some ag) (ha : acts[i]? = some a)
    (h : ¬ ((proposal n s.grid ag a).isSome = true ∧ wins (propsOf n s acts) i = none)) :
    hasCollision (joinGrids (agentGrids k s acts)) (i : Int) = false := by
  cases hc : hasCollision (joinGrids (agentGrids k s acts)) (i : Int) with
  | false => rfl
  | true => exact absurd ((collided_iff x hag ha).1 hc) h

theorem stepAgents_grid_eq (x : Ctx n k s acts) : (stepAgents k s acts).2 = (stepAgentsL2 n s acts).2 := by
  rw [stepAgents_grid, stepAgentsL2_eq]
  apply grid_ext_cell (shaped_zipWith _ (joined_shaped x) (corr_shaped x.cons.shaped k _)) (shaped_applyMoves x.cons.shaped _)
  intro q hq
  rw [cell_zipWith _ (joined_shaped x) (corr_shaped x.cons.shaped k _) hq, cell_corr x.cons.shaped _ k hq]
  rcases joined_cases x hq with ⟨i0, hw, e⟩ | ⟨j, ag, a, p, hag, ha, hP, rfl, hnw, e⟩ | ⟨hnw, hnh, e⟩
  · obtain ⟨ag, a, hag, ha, hP, hin, hv, hne⟩ := x.win_facts hw
    rw [e, l2_winner x hw, sum_ids_zero]
    · simp
    · intro i _
      have : cell s.grid q ≠ posVal (i : Int) := by unfold posVal tgtVal at *; omega
      simp [this]
  · have ok := x.cons.agent j ag hag
    have hj := x.lt hag
    rw [e, sum_ids_single _ k j hj]
    · cases hw : wins (propsOf n s acts) j with
      | none =>
        have hc := (collided_iff x hag ha).2 ⟨by rw [hP]; rfl, hw⟩
        rw [l2_other x ok.posIn hnw]
        · simp only [hc, ok.headAt, if_true]
          unfold pathVal posVal; omega
        · intro j' ag' p' hag' hw' e'
          obtain ⟨e1, _⟩ := x.head_inj hag hag' e'
          subst e1
          rw [hw] at hw'; simp at hw'
      | some p' =>
        have hc := not_collided x hag ha (by rw [hw]; simp)
        rw [l2_head x hag hw]
        simp [hc]
    · intro i _ hne
      have : cell s.grid ag.position ≠ posVal (i : Int) := by rw [ok.headAt]; unfold posVal; omega
      simp [this]
  · rw [e, l2_other x hq hnw]
    · by_cases h3 : ∃ j : Nat, j < k ∧ cell s.grid q = posVal (j : Int)
      · obtain ⟨j, hj, hv⟩ := h3
        obtain ⟨ag, a, hag, ha⟩ := x.lookup hj
        have ok := x.cons.agent j ag hag
        have hqp := ok.headUniq q hq hv
        have hc := not_collided x hag ha (by
          rintro ⟨hs, _⟩
          cases hP : proposal n s.grid ag a with
          | none => rw [hP] at hs; simp at hs
          | some p => exact hnh j ag a p hag ha hP hqp)
        rw [sum_ids_single _ k j hj]
        · simp [hc]
        · intro i _ hne
          have : cell s.grid q ≠ posVal (i : Int) := by rw [hv]; unfold posVal; omega
          simp [this]
      · rw [sum_ids_zero]
        · simp
        · intro i hi
          have : cell s.grid q ≠ posVal (i : Int) := fun e => h3 ⟨i, hi, e⟩
          simp [this]
    · intro j ag' p hag' hw e'
      obtain ⟨ag0, a0, hag0, ha0, hP0, _⟩ := x.win_facts hw
      have e1 : ag0 = ag' := Option.some.inj (hag0.symm.trans hag')
      subst e1
      exact hnh j ag0 a0 p hag0 ha0 hP0 e'

theorem stepAgents_agents_eq (x : Ctx n k s acts) : (stepAgents k s acts).1 = (stepAgentsL2 n s acts).1 := by
  rw [stepAgentsL2_eq]
  apply List.ext_getElem?
  intro i
  by_cases hi : i < k
  · obtain ⟨ag, a, hag, ha⟩ := x.lookup hi
    have ok := x.cons.agent i ag hag
    have sp := x.aspec ha
    have hl : (stepAgents k s acts).1[i]? =
        some (if hasCollision (joinGrids (agentGrids k s acts)) (i : Int) = true then ag
          else moved ag (proposal n s.grid ag a)) := by
      rw [stepAgents_get k s acts hi hag ha, stepAgent_eq_tent x.cons.shaped ag a sp.1 sp.2 ok.posIn]
    have hr : ((awOf n s acts).map (fun y => moved y.1 y.2))[i]? = some (moved ag (wins (propsOf n s acts) i)) := by
      rw [List.getElem?_map, aw_get x hag]; rfl
    show (stepAgents k s acts).1[i]? = ((awOf n s acts).map (fun y => moved y.1 y.2))[i]?
    rw [hl, hr]
    congr 1
    have hpi := props_get (n := n) hag ha
    cases hP : proposal n s.grid ag a with
    | none =>
      have hc := not_collided x hag ha (by rw [hP]; simp)
      rw [hP] at hpi
      simp [hc, wins_of_none _ _ hpi, moved]
    | some p =>
      cases hw : wins (propsOf n s acts) i with
      | none =>
        have hc := (collided_iff x hag ha).2 ⟨by rw [hP]; rfl, hw⟩
        simp [hc, moved]
      | some p' =>
        have hc := not_collided x hag ha (by rw [hw]; simp)
        obtain ⟨hp0, _⟩ := (wins_some_iff _ _ _).1 hw
        rw [hpi, hP] at hp0
        simp at hp0
        subst hp0
        simp [hc]
  · have h1 : (stepAgents k s acts).1.length ≤ i := by
      rw [stepAgents_length k s acts x.cons.len x.alen]; omega
    have h2 : ((awOf n s acts).map (fun y => moved y.1 y.2)).length ≤ i := by
      simp [awOf, x.props_length, x.cons.len]
      omega
    show (stepAgents k s acts).1[i]? = ((awOf n s acts).map (fun y => moved y.1 y.2))[i]?
    rw [List.getElem?_eq_none h1, List.getElem?_eq_none h2]

/-- C09, the core: on a consistent state and an in-spec joint action the simultaneous step of the
implementation (tentative grids, max-join, correction mask) is the rule-level step (proposals, lower id
yields, moves applied one after the other) -/
theorem stepAgents_eq_L2 (x : Ctx n k s acts) : stepAgents k s acts = stepAgentsL2 n s acts :=
  Prod.ext (stepAgents_agents_eq x) (stepAgents_grid_eq x)

end
end Connector
