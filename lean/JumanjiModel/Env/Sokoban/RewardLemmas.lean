/-
Sokoban C09 (reward): the reward of one step as the documented function of the change in boxes-on-target, and the
telescoped return of a whole action sequence.
-/
import JumanjiModel.Env.Sokoban.Generator
import JumanjiModel.Env.Sokoban.Lemmas
namespace Sokoban
open Jm Jx

theorem reward_dense (rnd : Rat → Rat) (s s' : State) :
    reward rnd true s s' = rnd ((((countTargets s' : Int) - (countTargets s : Int) +
      10 * (if levelComplete s' then 1 else 0) : Int) : Rat) + rnd (-1 / 10)) := rfl

theorem reward_sparse (rnd : Rat → Rat) (s s' : State) :
    reward rnd false s s' = ((10 * (if levelComplete s' then 1 else 0) : Int) : Rat) := rfl

theorem runRewards_dense (rnd : Rat → Rat) (cfg : Cfg) (hd : cfg.dense = true) (s : State) (as : List Int) :
    runRewards rnd cfg s as = (runGains rnd cfg s as).map (fun k => rnd (((k : Int) : Rat) + rnd (-1 / 10))) := by
  induction as generalizing s <;> simp [runRewards, runGains, step_reward, reward_dense, Rat.add_zero, *]

theorem runGains_sum (rnd : Rat → Rat) (cfg : Cfg) (s : State) (as : List Int) :
    (runGains rnd cfg s as).sum =
      (countTargets (runState rnd cfg s as) : Int) - (countTargets s : Int) + 10 * (solvedSteps rnd cfg s as : Int) := by
  induction as generalizing s with
  | nil => simp [runGains, runState, solvedSteps]
  | cons a as ih =>
    simp only [runGains, runState, solvedSteps, List.sum_cons]
    rw [ih]
    split <;> omega

/-- C09: the telescoped dense return in exact arithmetic (`rnd = id`), for EVERY state and EVERY action sequence:
return = −0.1·steps + (boxes on target at the end − at the start) + 10·(number of steps whose successor is solved) -/
theorem run_return_dense (cfg : Cfg) (hd : cfg.dense = true) (s : State) (as : List Int) :
    runReturn id cfg s as =
      (-1 / 10 : Rat) * (as.length : Rat) +
      (((countTargets (runState id cfg s as) : Int) - (countTargets s : Int) : Int) : Rat) +
      10 * ((solvedSteps id cfg s as : Nat) : Rat) := by
  unfold runReturn
  rw [runRewards_dense id cfg hd]
  simp only [id]
  rw [sum_map_add_const, runGains_sum]
  have hl : ∀ s, (runGains id cfg s as).length = as.length := by
    induction as <;> simp [runGains, *]
  rw [hl, Rat.intCast_add, Rat.intCast_mul]
  simp only [Rat.intCast_natCast]
  grind

theorem not_last_not_solved (rnd : Rat → Rat) (cfg : Cfg) (s : State) (a : Int)
    (h : (step rnd cfg s a).2.stepType ≠ .last) : levelComplete (step rnd cfg s a).1 = false :=
  Bool.eq_false_iff.2 fun hl => h ((step_last_iff rnd cfg s a).2 (Or.inl hl))

/-- in a proper episode (no step after a LAST timestep) the solved bonus is paid at most once, on the last step -/
theorem solvedSteps_proper (rnd : Rat → Rat) (cfg : Cfg) (s : State) (as : List Int)
    (hp : ProperEpisode rnd cfg s as) :
    solvedSteps rnd cfg s as = if as ≠ [] ∧ levelComplete (runState rnd cfg s as) = true then 1 else 0 := by
  fun_induction ProperEpisode rnd cfg s as with
  | case1 => rfl
  | case2 s a => simp [solvedSteps, runState]
  | case3 s a b bs ih =>
    rw [solvedSteps, runState, ih hp.2, not_last_not_solved rnd cfg s a hp.1]
    simp

theorem sub_of_add_ite {x y : Nat} {c d : Prop} [Decidable c] [Decidable d]
    (h : x + (if c then 1 else 0) = y + (if d then 1 else 0)) :
    (x : Int) - (y : Int) = (if d then 1 else 0) - (if c then 1 else 0) := by
  split at h <;> split at h <;> rename_i hc hd <;> simp only [hc, hd, if_true, if_false] <;> omega

/-- "+1 for a box pushed onto a target, −1 for a box pushed off a target": the number of boxes on targets changes
only by a push, by the target status of the cell the box leaves (the agent's destination) and of the cell it
reaches (one further); this is the documented box term `pushGain` ∈ {−1, 0, 1} -/
theorem spec_boxes_change (n : Nat) (s : State) (a : Nat) (hc : Consistent n s) :
    (boxesOnTarget n (stepSpec n s a) : Int) - (boxesOnTarget n s : Int) = pushGain n s a := by
  have h := countWhere_stepSpec (a := a) hc.vshaped hc.agent_inside (at_agent hc)
    (fun x w => w == BOX && Grid.get s.fgrid 0 x.1 x.2 == TARGET) (fun _ _ h => by simp [h])
  simp only [BEq.rfl, Bool.true_and, beq_iff_eq] at h
  unfold boxesOnTarget
  rw [(spec_shaped n s a hc.vshaped).2]
  exact sub_of_add_ite h

theorem pushGain_range (n : Nat) (s : State) (a : Nat) : -1 ≤ pushGain n s a ∧ pushGain n s a ≤ 1 := by
  unfold pushGain
  split <;> split <;> simp

end Sokoban
