/-
Sokoban: the declared `observation_spec` as an `Sp` value and membership of everything `reset` / `step` emit
(C01); the reset observation (C12); the reaction of `step` (moves iff legal; C05); `levelComplete` is the documented
notion of a solved level, and completion through `step` is a solution (C06).
-/
import JumanjiModel.Env.Sokoban.BoundsLemmas
import JumanjiModel.Env.Sokoban.RewardLemmas
import JumanjiModel.Env.SpecMembership
namespace Sokoban
open Jm Jx Sp PzS

/-- env.py `observation_spec`: `grid` BoundedArray((num_rows, num_cols, 2), uint8, 0, 4) with
`num_rows = num_cols = GRID_SIZE`; `step_count` Array((), int32) — unbounded -/
def obsSpec (cfg : Cfg) : Sp.Nested :=
  [("grid", .bounded [cfg.n, cfg.n, 2] .uint8 "grid" [] [0] [] [4]),
   ("step_count", .array [] .int32 "step_count")]

/-- `action_spec`: DiscreteArray(4, int32) -/
def actionSpec : Leaf := .discrete 4 .int32 "action"

/-- one row of `jnp.stack([variable, fixed], axis=-1)`, row-major: `v₀ f₀ v₁ f₁ …` -/
def interleave (rv rf : List Int) : List Int := (List.zipWith (fun a b => [a, b]) rv rf).flatten

/-- the flat row-major data of `jnp.stack([variable_grid, fixed_grid], axis=-1)` -/
def stackLast (v f : Grid Int) : List Int := (List.zipWith interleave v f).flatten

def innerDim {α : Type} (d : Nat) : List (List α) → Nat
  | [] => d
  | r :: _ => r.length

/-- a model observation as the arrays the implementation emits (`grid` uint8 of shape `(n, n, 2)`, `step_count` int32);
the first two dimensions are read off the variable plane -/
def toNValue (cfg : Cfg) (o : Obs) : NValue :=
  [("grid", ⟨[List.length o.vgrid, innerDim cfg.n o.vgrid, 2], .uint8, ofInts (stackLast o.vgrid o.fgrid)⟩),
   ("step_count", ⟨[], .int32, [(o.stepCount : Rat)]⟩)]

theorem stackLast_length (v f : Grid Int) (k m : Nat) (hv : v.length = k) (hf : f.length = k)
    (hvr : ∀ r ∈ v, r.length = m) (hfr : ∀ r ∈ f, r.length = m) : (stackLast v f).length = k * (m * 2) := by
  unfold stackLast
  rw [Jx.Grid.flatten_length (nc := m * 2), List.length_zipWith, hv, hf, Nat.min_self]
  intro r hr
  obtain ⟨a, ha, b, hb, rfl⟩ := mem_zipWith hr
  unfold interleave
  rw [Jx.Grid.flatten_length (nc := 2), List.length_zipWith, hvr a ha, hfr b hb, Nat.min_self]
  intro r hr
  obtain ⟨_, _, _, _, rfl⟩ := mem_zipWith hr
  rfl

theorem mem_stackLast (v f : Grid Int) (x : Int) (h : x ∈ stackLast v f) :
    x ∈ List.flatten v ∨ x ∈ List.flatten f := by
  obtain ⟨_, hrow, hx⟩ := List.mem_flatten.1 h
  obtain ⟨rv, hrv, rf, hrf, rfl⟩ := mem_zipWith hrow
  obtain ⟨_, hpair, hx⟩ := List.mem_flatten.1 hx
  obtain ⟨a, ha, b, hb, rfl⟩ := mem_zipWith hpair
  simp only [List.mem_cons, List.not_mem_nil, or_false] at hx
  rcases hx with rfl | rfl
  · exact Or.inl (List.mem_flatten.2 ⟨rv, hrv, ha⟩)
  · exact Or.inr (List.mem_flatten.2 ⟨rf, hrf, hb⟩)

theorem innerDim_of_rows {α : Type} (m : Nat) (g : List (List α)) (h : ∀ r ∈ g, r.length = m) :
    innerDim m g = m := by
  cases g with
  | nil => rfl
  | cons r t => exact h r (by simp)

theorem obs_valid_iff (cfg : Cfg) (o : Obs) : (obsSpec cfg).valid (toNValue cfg o) = true ↔
    List.length o.vgrid = cfg.n ∧ innerDim cfg.n o.vgrid = cfg.n ∧
    (stackLast o.vgrid o.fgrid).length = cfg.n * cfg.n * 2 ∧ ∀ v ∈ stackLast o.vgrid o.fgrid, 0 ≤ v ∧ v ≤ 4 := by
  simp only [obsSpec, toNValue, valid_cons, valid_nil, valid_scalar_bounded_iff, valid_array_iff, forall_ofInts,
    PkS.ofInts_length, prod_three, prod_nil, List.length_singleton, List.cons.injEq, Rat.intCast_nonneg, intCast_le_ofNat,
    true_and, and_true, and_assoc]

/-- C01: the observation of a consistent board is a member of `observation_spec`; the counter is unconstrained -/
theorem obs_valid (cfg : Cfg) (s : State) (hc : Consistent cfg.n s) :
    (obsSpec cfg).valid (toNValue cfg (stateToObs s)) = true :=
  have ⟨hvl, hvr⟩ := (Grid.shaped_iff_mem _ _ _).1 hc.vshaped
  have ⟨hfl, hfr⟩ := (Grid.shaped_iff_mem _ _ _).1 hc.fshaped
  (obs_valid_iff cfg _).2 ⟨hvl, innerDim_of_rows _ _ hvr,
    (stackLast_length _ _ _ _ hvl hfl hvr hfr).trans (Nat.mul_assoc _ _ _).symm,
    fun x hx => cells_range hc x (List.mem_append.mpr (mem_stackLast _ _ x hx))⟩

theorem obs_valid_only (cfg : Cfg) (o : Obs) (h : (obsSpec cfg).valid (toNValue cfg o) = true) :
    List.length o.vgrid = cfg.n ∧ (stackLast o.vgrid o.fgrid).length = cfg.n * cfg.n * 2 ∧
    ∀ v ∈ stackLast o.vgrid o.fgrid, 0 ≤ v ∧ v ≤ 4 :=
  have ⟨h1, _, h2, h3⟩ := (obs_valid_iff cfg o).1 h
  ⟨h1, h2, h3⟩

theorem step_obs_valid (rnd : Rat → Rat) (cfg : Cfg) (s : State) (a : Nat) (ha : a < 4) (hc : Consistent cfg.n s) :
    (obsSpec cfg).valid (toNValue cfg (step rnd cfg s a).2.obs) = true := by
  rw [obs_faithful]
  exact obs_valid cfg _ (step_consistent rnd cfg s a ha hc)

theorem reset_obs_faithful (g : State) :
    (reset g).2.obs = observe (reset g).1 ∧ (reset g).2.stepType = .first ∧ (reset g).1 = g := ⟨rfl, rfl, rfl⟩

/-- C05 (`hag` is not used: `step_agent` does not read the cell the agent leaves) -/
theorem step_moves_iff_legal (rnd : Rat → Rat) (cfg : Cfg) (s : State) (a : Nat) (ha : a < 4)
    (hf : Grid.shaped s.fgrid cfg.n cfg.n = true) (hv : Grid.shaped s.vgrid cfg.n cfg.n = true)
    (hag : inside cfg.n s.agent) :
    ((step rnd cfg s a).1.agent = add s.agent (dirOf a) ↔ legal cfg.n s a) ∧
    ((step rnd cfg s a).1.agent = s.agent ↔ ¬ legal cfg.n s a) := by
  rw [step_agent rnd cfg s a ha hf hv]
  exact Jx.moved_iff (add_ne_self (dirOf_ne ha)).1

/-- `action_spec.generate_value()` = 0 ("up") is a member of `DiscreteArray(4)`, and `step` answers it in EVERY state with a
protocol-conform timestep -/
theorem accepts_generate_value (rnd : Rat → Rat) (cfg : Cfg) (s : State) :
    actionSpec.WF = true ∧ actionSpec.valid actionSpec.generate = true ∧
    actionSpec.generate = ⟨[], .int32, [0]⟩ ∧ StepOK none false (step rnd cfg s 0).2 = true := by
  refine ⟨by decide, by decide, by decide, ?_⟩
  rw [step_snd]
  exact condLast_stepOK _ _ _

theorem count_iff_all {n : Nat} {s : State} (hc : Consistent n s) :
    boxesOnTarget n s = nBoxes ↔
      ∀ p ∈ Grid.coords n n, Grid.get s.vgrid 0 p.1 p.2 = BOX → Grid.get s.fgrid 0 p.1 p.2 = TARGET := by
  rw [← hc.boxes]
  unfold boxesOnTarget countCells
  rw [filter_and_length_iff]
  simp only [beq_iff_eq]

/-- the documented notion of a solved level, recomputed from the raw grids -/
def IsSolution (n : Nat) (s : State) : Prop :=
  Consistent n s ∧ ∀ p ∈ Grid.coords n n, Grid.get s.vgrid 0 p.1 p.2 = BOX → Grid.get s.fgrid 0 p.1 p.2 = TARGET

theorem levelComplete_iff_solution {n : Nat} {s : State} (hc : Consistent n s) :
    levelComplete s = true ↔ IsSolution n s := by
  rw [levelComplete_iff hc.fshaped hc.vshaped, count_iff_all hc]
  exact ⟨fun h => ⟨hc, h⟩, fun h => h.2⟩

/-- C06: a LAST timestep emitted by `step` before the time limit, from a consistent board with an action 0..3, certifies a
solved level; with the sparse reward function the reward of that step is 10 (nothing is stated about the dense one) -/
theorem step_complete_is_solution (rnd : Rat → Rat) (cfg : Cfg) (s : State) (a : Nat) (ha : a < 4)
    (hc : Consistent cfg.n s) (hl : (step rnd cfg s a).2.stepType = .last) (ht : s.stepCount + 1 < cfg.timeLimit) :
    IsSolution cfg.n (step rnd cfg s a).1 ∧ levelComplete (step rnd cfg s a).1 = true ∧
    (cfg.dense = false → (step rnd cfg s a).2.reward = [10]) := by
  have hlc := ((step_last_iff rnd cfg s a).1 hl).resolve_right (by omega)
  refine ⟨(levelComplete_iff_solution (step_consistent rnd cfg s a ha hc)).1 hlc, hlc, fun hd => ?_⟩
  rw [step_reward, hd, reward_sparse, hlc]
  rfl

end Sokoban
