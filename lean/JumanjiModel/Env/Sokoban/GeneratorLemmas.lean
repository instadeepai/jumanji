/-
Sokoban C10 / C07: the level certificate implies the consistency invariant; the levels of `ToyGenerator` and
`SimpleSolveGenerator` are the rows of the table generated from the repository (`level_table_eq`), every row satisfies
the certificate (`level_table_cert`); consistency is kept over whole episodes.
-/
import JumanjiModel.Env.Sokoban.Generator
import JumanjiModel.Env.Sokoban.Lemmas
import JumanjiModel.Gen.SokobanLevels
namespace Sokoban
open Jm Jx

theorem cert_agent_iff {n : Nat} {s : State} (h : LevelCert n s) :
    ∀ p ∈ Grid.coords n n, Grid.get s.vgrid 0 p.1 p.2 = AGENT ↔ ((p.1 : Int), (p.2 : Int)) = s.agent := by
  obtain ⟨_, _, hA, _, _, hin, hat, _, _⟩ := h
  intro p hp
  constructor
  · intro hg
    unfold countCells at hA
    have := filter_one_unique (p := fun (q : Nat × Nat) => Grid.get s.vgrid 0 q.1 q.2 == AGENT) hA hp (by simpa using hg)
      (cell_mem hin) (by simpa [at'] using hat)
    rw [this]; exact cast_cell hin
  · intro e
    rw [cell_of_cast e]; exact hat

/-- C10: certificate ⇒ the advertised invariants of a fresh level -/
theorem cert_consistent {n : Nat} {s : State} (h : LevelCert n s) : Consistent n s := by
  have hag := cert_agent_iff h
  obtain ⟨hf, hv, _, hB, _, hin, _, hval, h0⟩ := h
  refine ⟨hf, hv, hin, hag, hB, ?_, by omega⟩
  intro p hp
  obtain ⟨h1, h2, h3⟩ := hval p hp
  refine ⟨h1, h2, fun hw => h3 ?_⟩
  rw [hw]; decide

theorem cert_boxesOnTarget {n : Nat} {s : State} (h : LevelCert n s) : boxesOnTarget n s = 0 := by
  obtain ⟨_, _, _, _, _, _, _, hval, _⟩ := h
  unfold boxesOnTarget
  rw [List.length_eq_zero_iff, List.filter_eq_nil_iff]
  intro p hp
  obtain ⟨_, _, h3⟩ := hval p hp
  intro hc
  simp only [Bool.and_eq_true, beq_iff_eq] at hc
  have := h3 (by rw [hc.2]; decide)
  rw [hc.1] at this
  exact absurd this (by decide)

theorem consistent_agent_count {n : Nat} {s : State} (h : Consistent n s) : countCells n s.vgrid AGENT = 1 := by
  obtain ⟨_, _, hin, hag, _⟩ := h
  unfold countCells
  apply Grid.filter_eq_length_one (Grid.nodup_coords n n) (cell_mem hin)
  intro x hx
  rw [beq_iff_eq, hag x hx]
  constructor
  · intro e; exact cell_of_cast e
  · intro e; rw [e]; exact cast_cell hin

/-- the level table GENERATED from the repository (Gen/SokobanLevels.lean: the ASCII rows of generator.py and the states
the real `convert_level_to_array` / `get_agent_coordinates` build from them) coincides with the hand transliteration -/
theorem level_table_eq :
    Gen.toyAscii = toyLevels ∧ Gen.toyStates.map some = [toyGenerate 0, toyGenerate 1] ∧
    Gen.simpleAscii = [simpleLevel] ∧ Gen.simpleStates.map some = [simpleGenerate] := by decide +kernel

theorem level_table_cert : ∀ s ∈ Gen.toyStates ++ Gen.simpleStates, LevelCert 10 s := by decide +kernel

/-- the generators are evaluated once, in `level_table_eq`; their outputs are then rows of the table -/
theorem cert_of_mem_table {o : Option State} (h : o ∈ (Gen.toyStates ++ Gen.simpleStates).map some) :
    ∃ s, o = some s ∧ LevelCert 10 s := by
  obtain ⟨t, ht, e⟩ := List.mem_map.1 h
  exact ⟨t, e.symm, level_table_cert t ht⟩

/-- C10: for every valid draw, `ToyGenerator` produces a level and it satisfies the certificate (GRID_SIZE = 10) -/
theorem toy_cert (idx : Nat) (h : toyValidDraw idx) : ∃ s, toyGenerate idx = some s ∧ LevelCert 10 s := by
  have : idx = 0 ∨ idx = 1 := by
    unfold toyValidDraw toyLevels at h; simp at h; omega
  apply cert_of_mem_table
  rw [List.map_append, level_table_eq.2.1]
  rcases this with rfl | rfl <;> simp

/-- C10: `SimpleSolveGenerator` produces a level and it satisfies the certificate -/
theorem simple_cert : ∃ s, simpleGenerate = some s ∧ LevelCert 10 s := by
  apply cert_of_mem_table
  rw [List.map_append, level_table_eq.2.2.2]
  simp

theorem toy_cert_of_eq {idx : Nat} {s : State} (h : toyGenerate idx = some s) : LevelCert 10 s := by
  have hv : toyValidDraw idx := by
    refine Decidable.byContradiction fun hn => ?_
    simp [toyGenerate, List.getElem?_eq_none (Nat.le_of_not_lt hn)] at h
  obtain ⟨s', e, hc⟩ := toy_cert idx hv
  cases h.symm.trans e
  exact hc

theorem simple_cert_of_eq {s : State} (h : simpleGenerate = some s) : LevelCert 10 s := by
  obtain ⟨s', e, hc⟩ := simple_cert
  cases h.symm.trans e
  exact hc

def ValidActions (as : List Int) : Prop := ∀ a ∈ as, 0 ≤ a ∧ a < 4

instance (as : List Int) : Decidable (ValidActions as) := by unfold ValidActions; infer_instance

theorem step_fgrid (rnd : Rat → Rat) (cfg : Cfg) (s : State) (a : Int) : (step rnd cfg s a).1.fgrid = s.fgrid := by
  unfold step; simp

theorem runState_fgrid (rnd : Rat → Rat) (cfg : Cfg) (s : State) (as : List Int) :
    (runState rnd cfg s as).fgrid = s.fgrid := by
  induction as generalizing s <;> simp [runState, step_fgrid, *]

/-- C07, whole episode: every state reached from a consistent board by any sequence of actions 0..3 is consistent -/
theorem run_consistent (rnd : Rat → Rat) (cfg : Cfg) (s : State) (as : List Int) (ha : ValidActions as)
    (hc : Consistent cfg.n s) : Consistent cfg.n (runState rnd cfg s as) := by
  induction as generalizing s with
  | nil => exact hc
  | cons a as ih =>
    simp only [runState]
    have h := ha a (List.mem_cons_self ..)
    have e : a = ((a.toNat : Nat) : Int) := by omega
    refine ih _ (fun b hb => ha b (List.mem_cons_of_mem _ hb)) ?_
    rw [e]
    exact step_consistent rnd cfg s a.toNat (by omega) hc

/-- the conserved quantities over a whole episode: walls and targets never change, there are always exactly
`nBoxes` boxes and exactly one agent cell, and it is `agent_location` -/
theorem run_conserved (rnd : Rat → Rat) (cfg : Cfg) (s : State) (as : List Int) (ha : ValidActions as)
    (hc : Consistent cfg.n s) :
    (runState rnd cfg s as).fgrid = s.fgrid ∧
    countCells cfg.n (runState rnd cfg s as).vgrid BOX = nBoxes ∧
    countCells cfg.n (runState rnd cfg s as).vgrid AGENT = 1 ∧
    at' (runState rnd cfg s as).vgrid (runState rnd cfg s as).agent = AGENT ∧
    countCells cfg.n (runState rnd cfg s as).fgrid TARGET = countCells cfg.n s.fgrid TARGET := by
  have h := run_consistent rnd cfg s as ha hc
  exact ⟨runState_fgrid rnd cfg s as, h.boxes, consistent_agent_count h, at_agent h, by rw [runState_fgrid]⟩

end Sokoban
