/- Proofs of the C01 value bounds of Sokoban. -/
import JumanjiModel.Env.Sokoban.Bounds
import JumanjiModel.Env.Sokoban.Lemmas
import JumanjiModel.Env.PuzzleBounds
namespace Sokoban
open Jm Jx

/-- the cells of a consistent board carry encodings between EMPTY = 0 and BOX = 4 -/
theorem cells_range {n : Nat} {s : State} (hc : Consistent n s) :
    ∀ x ∈ List.flatten s.vgrid ++ List.flatten s.fgrid, (0 : Int) ≤ x ∧ x ≤ 4 := by
  obtain ⟨hf, hv, _, _, _, hcells, _⟩ := hc
  have cellOf : ∀ i < n, ∀ j < n, _ := fun i hi j hj => hcells (i, j) (Grid.mem_coords.2 ⟨hi, hj⟩)
  refine List.forall_mem_append.2 ⟨Jx.forall_mem_flatten ((Grid.forall_mem_iff_get hv 0 _).2 fun i hi j hj => ?_),
    Jx.forall_mem_flatten ((Grid.forall_mem_iff_get hf 0 _).2 fun i hi j hj => ?_)⟩
  · have := (cellOf i hi j hj).1
    simp only [EMPTY, AGENT, BOX] at this
    omega
  · have := (cellOf i hi j hj).2.1
    simp only [EMPTY, WALL, TARGET] at this
    omega

theorem stateToObs_in_bounds (cfg : Cfg) (s : State) (hc : Consistent cfg.n s)
    (h1 : s.stepCount ≤ cfg.timeLimit) : ObsInBounds cfg (stateToObs s) :=
  Jx.rel_of_aligned (R := fun iv vs => ∀ v ∈ vs, inIv iv v) rfl (by simp [obsLeaves]) <|
    Jx.all_cons (Jx.Iv.ints _ (cells_range hc)) <| Jx.all_cons (Jx.Iv.one hc.stepCount_nonneg h1) Jx.all_nil

end Sokoban
