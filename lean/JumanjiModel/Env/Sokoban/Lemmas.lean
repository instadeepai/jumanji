/-
Sokoban, the single step: locations inside the grid as cells (`get_put`, `at_put`), the effect of one `put` on a count
of cells (`countWhere_put`), `detect_noop_action` = legality (`detectNoop_eq`), `step` = the successor of the rules
(`step_eq`, C09), the timestep of `step` (`step_snd`, LAST iff, C11 / C12 / C05), consistency of the successor
(`spec_consistent`, C07; box counts through `countWhere_stepSpec`), and `step = stepL2` (`step_refines`).
-/
import JumanjiModel.Env.Sokoban.Model
import JumanjiModel.Core.TimeStepLemmas
import JumanjiModel.Prim.GridLemmas
namespace Sokoban
open Jm Jx

theorem moveOf_nat : ∀ {a : Nat}, a < 4 → moveOf (a : Int) = dirOf a
  | 0, _ | 1, _ | 2, _ | 3, _ => by decide

theorem dirOf_ne : ∀ {a : Nat}, a < 4 → dirOf a ≠ (0, 0)
  | 0, _ | 1, _ | 2, _ | 3, _ => by decide

theorem add_ne_self {P d : Loc} (h : d ≠ (0, 0)) : add P d ≠ P ∧ add (add P d) d ≠ P := by
  simp only [add, ne_eq, Prod.ext_iff] at h ⊢
  omega

theorem inGrid_eq (n : Nat) (p : Loc) : inGrid n p = decide (inside n p) := by
  rw [Bool.eq_iff_iff, decide_eq_true_iff]
  simp only [inGrid, inside, Bool.and_eq_true, decide_eq_true_eq, and_assoc]

/-! ### cells and locations: a location inside the grid is the cell `(P.1.toNat, P.2.toNat)` -/

theorem cast_cell {n : Nat} {P : Loc} (hP : inside n P) :
    (((P.1.toNat : Nat) : Int), ((P.2.toNat : Nat) : Int)) = P :=
  Prod.ext (Int.toNat_of_nonneg hP.1) (Int.toNat_of_nonneg hP.2.2.1)

theorem cell_mem {n : Nat} {P : Loc} (hP : inside n P) : (P.1.toNat, P.2.toNat) ∈ Grid.coords n n :=
  Grid.mem_coords.2 ⟨(Int.toNat_lt hP.1).2 hP.2.1, (Int.toNat_lt hP.2.2.1).2 hP.2.2.2⟩

theorem cell_of_cast {x : Nat × Nat} {P : Loc} (h : ((x.1 : Int), (x.2 : Int)) = P) :
    x = (P.1.toNat, P.2.toNat) := by
  subst h; simp

theorem checkSpace_inside {g : Grid Int} {n : Nat} (hs : Grid.shaped g n n = true) {p : Loc}
    (hp : inside n p) (v : Int) : checkSpace g p v = (at' g p == v) := by
  unfold checkSpace at'
  rw [Grid.getWC_eq_get hs 0 hp.1 hp.2.1 hp.2.2.1 hp.2.2.2]

theorem setWD_put (g : Grid Int) {n : Nat} {p : Loc}
    (hp : inside n p) (v : Int) : Grid.setWD g p.1 p.2 v = put g p v := by
  unfold put
  exact Grid.setWD_nonneg g v hp.1 hp.2.2.1

theorem shaped_put {g : Grid Int} {n : Nat} (hs : Grid.shaped g n n = true) (p : Loc) (v : Int) :
    Grid.shaped (put g p v) n n = true := Grid.shaped_set hs v _ _

theorem get_put {g : Grid Int} {n : Nat} (hs : Grid.shaped g n n = true) {P : Loc} (hP : inside n P)
    (v : Int) (r c : Nat) :
    Grid.get (put g P v) 0 r c = if ((r : Int), (c : Int)) = P then v else Grid.get g 0 r c := by
  unfold put
  rw [Grid.get_set_of_shaped hs v 0 ((Int.toNat_lt hP.1).2 hP.2.1) ((Int.toNat_lt hP.2.2.1).2 hP.2.2.2)]
  have : (r = P.1.toNat ∧ c = P.2.toNat) ↔ ((r : Int), (c : Int)) = P :=
    ⟨fun h => by rw [h.1, h.2]; exact cast_cell hP, fun h => Prod.ext_iff.1 (cell_of_cast (x := (r, c)) h)⟩
  simp only [this]

theorem at_put {g : Grid Int} {n : Nat} (hs : Grid.shaped g n n = true) {P Q : Loc} (hP : inside n P)
    (hQ : inside n Q) (v : Int) : at' (put g P v) Q = if Q = P then v else at' g Q := by
  unfold at'
  rw [get_put hs hP, cast_cell hQ]

/-- number of cells `x` of the `n × n` board whose content `v` satisfies `φ x v`; `countCells` and
`boxesOnTarget` are such counts -/
def countWhere (n : Nat) (φ : Nat × Nat → Int → Bool) (g : Grid Int) : Nat :=
  ((Grid.coords n n).filter (fun x => φ x (Grid.get g 0 x.1 x.2))).length

theorem countWhere_put {g : Grid Int} {n : Nat} (hs : Grid.shaped g n n = true) {P : Loc} (hP : inside n P)
    (v : Int) (φ : Nat × Nat → Int → Bool) :
    countWhere n φ (put g P v) + (if φ (P.1.toNat, P.2.toNat) (at' g P) then 1 else 0) =
      countWhere n φ g + (if φ (P.1.toNat, P.2.toNat) v then 1 else 0) := by
  have h := Grid.filter_length_update (Grid.coords n n) (Grid.nodup_coords n n) (P.1.toNat, P.2.toNat)
    (cell_mem hP) (fun x => φ x (Grid.get g 0 x.1 x.2)) (fun x => φ x (Grid.get (put g P v) 0 x.1 x.2))
    (fun y _ hne => by rw [get_put hs hP, if_neg (fun e => hne (cell_of_cast e))])
  rw [get_put hs hP, if_pos (cast_cell hP)] at h
  exact h

/-! ### `detect_noop_action` and the successor state -/

theorem nat_ne_noop (a : Nat) : ((a : Int) == NOOP) = false := by
  simp [NOOP]

/-- `update_box_push_action` keeps the action exactly when the box can be moved on: the cell behind it is `free` -/
theorem updateBoxPush_eq (n : Nat) (s : State) (p : Loc) (a : Nat) (ha : a < 4)
    (hf : Grid.shaped s.fgrid n n = true) (hv : Grid.shaped s.vgrid n n = true) :
    updateBoxPush n s.fgrid s.vgrid p a = if free n s (add p (dirOf a)) then (a : Int) else NOOP := by
  unfold updateBoxPush free
  simp only [moveOf_nat ha, inGrid_eq]
  -- `checkSpace` reads a cell of the grid only where the location is inside, hence the split before comparing contents
  by_cases hq : inside n (add p (dirOf a))
  · simp only [checkSpace_inside hf hq, checkSpace_inside hv hq]
    by_cases h1 : at' s.vgrid (add p (dirOf a)) = BOX <;> by_cases h2 : at' s.fgrid (add p (dirOf a)) = WALL <;>
      simp [hq, h1, h2]
  · simp [hq]

/-- each test of `detect_noop_action` in the source is one conjunct of `legal` -/
theorem detectNoop_eq (n : Nat) (s : State) (a : Nat) (ha : a < 4)
    (hf : Grid.shaped s.fgrid n n = true) (hv : Grid.shaped s.vgrid n n = true) :
    detectNoop n s.vgrid s.fgrid a s.agent = if legal n s a then (a : Int) else NOOP := by
  unfold detectNoop legal
  simp only [moveOf_nat ha, inGrid_eq, updateBoxPush_eq n s _ a ha hf hv]
  by_cases hp : inside n (add s.agent (dirOf a))
  · simp only [checkSpace_inside hf hp, checkSpace_inside hv hp]
    by_cases hw : at' s.fgrid (add s.agent (dirOf a)) = WALL <;>
      by_cases hb : at' s.vgrid (add s.agent (dirOf a)) = BOX <;> simp [hp, hw, hb, ha]
  · simp [hp, ha]

/-- where the agent goes is decided by `detect_noop_action` alone: unlike the grids of the successor (`step_eq`), it
does not read the cell the agent leaves, so `agent_location` need not be inside the grid -/
theorem step_agent (rnd : Rat → Rat) (cfg : Cfg) (s : State) (a : Nat) (ha : a < 4)
    (hf : Grid.shaped s.fgrid cfg.n cfg.n = true) (hv : Grid.shaped s.vgrid cfg.n cfg.n = true) :
    (step rnd cfg s a).1.agent = if legal cfg.n s a then add s.agent (dirOf a) else s.agent := by
  unfold step
  simp only [detectNoop_eq cfg.n s a ha hf hv]
  by_cases hl : legal cfg.n s a <;> simp [hl, nat_ne_noop, moveAgent, moveOf_nat ha]

/-- C09: the transliterated `step` produces exactly the successor prescribed by the rules
(stay / walk / push), for every state with well-shaped grids and every action 0..3 -/
theorem step_eq (rnd : Rat → Rat) (cfg : Cfg) (s : State) (a : Nat) (ha : a < 4)
    (hf : Grid.shaped s.fgrid cfg.n cfg.n = true) (hv : Grid.shaped s.vgrid cfg.n cfg.n = true)
    (hag : inside cfg.n s.agent) :
    (step rnd cfg s a).1 = stepSpec cfg.n s a := by
  unfold step stepSpec
  simp only [detectNoop_eq cfg.n s a ha hf hv]
  by_cases hl : legal cfg.n s a
  · have ⟨_, hp, _, hpush⟩ := hl
    simp only [hl, if_true, nat_ne_noop]
    unfold moveAgent
    simp only [moveOf_nat ha, checkSpace_inside hv hp]
    generalize add s.agent (dirOf a) = p at *
    generalize add p (dirOf a) = q at *
    have e1 := setWD_put s.vgrid hag EMPTY
    have e2 := setWD_put (put s.vgrid s.agent EMPTY) hp AGENT
    by_cases hb : at' s.vgrid p = BOX
    · have e3 := setWD_put (put (put s.vgrid s.agent EMPTY) p AGENT) (hpush hb).1 BOX
      simp [hb, e1, e2, e3]
    · simp [hb, e1, e2]
  · simp [hl]

/-! ### the timestep -/

theorem step_snd (rnd : Rat → Rat) (cfg : Cfg) (s : State) (a : Int) :
    (step rnd cfg s a).2 = condLast (levelComplete (step rnd cfg s a).1 ||
        decide ((step rnd cfg s a).1.stepCount ≥ cfg.timeLimit))
      [reward rnd cfg.dense s (step rnd cfg s a).1] (stateToObs (step rnd cfg s a).1) := by
  unfold step
  simp only []

theorem step_reward (rnd : Rat → Rat) (cfg : Cfg) (s : State) (a : Int) :
    (step rnd cfg s a).2.reward = [reward rnd cfg.dense s (step rnd cfg s a).1] := by
  rw [step_snd, condLast_reward]

/-- C12: the observation is the documented view (both grids and the step count) of the successor -/
theorem obs_faithful (rnd : Rat → Rat) (cfg : Cfg) (s : State) (a : Int) :
    (step rnd cfg s a).2.obs = observe (step rnd cfg s a).1 := by
  rw [step_snd, condLast_obs]
  rfl

theorem step_stepCount (rnd : Rat → Rat) (cfg : Cfg) (s : State) (a : Int) :
    (step rnd cfg s a).1.stepCount = s.stepCount + 1 := by
  unfold step; simp

/-- C11: `step` answers LAST exactly when the successor is solved or the limit is reached -/
theorem step_last_iff (rnd : Rat → Rat) (cfg : Cfg) (s : State) (a : Int) :
    (step rnd cfg s a).2.stepType = .last ↔
      (levelComplete (step rnd cfg s a).1 = true ∨ cfg.timeLimit ≤ s.stepCount + 1) := by
  rw [step_snd, condLast_last_iff, Bool.or_eq_true, decide_eq_true_iff, step_stepCount]

/-- C11: the step counter advances by one on every step and a step that reaches the limit is LAST -/
theorem step_count (rnd : Rat → Rat) (cfg : Cfg) (s : State) (a : Int) :
    (step rnd cfg s a).1.stepCount = s.stepCount + 1 ∧
    (s.stepCount + 1 ≥ cfg.timeLimit → (step rnd cfg s a).2.stepType = .last) :=
  ⟨step_stepCount rnd cfg s a, fun h => (step_last_iff rnd cfg s a).2 (Or.inr h)⟩

/-- C05: an illegal move is ignored — nothing moves, only the step counter advances, and the episode
ends only for a documented cause (time limit; or the level was already complete) -/
theorem illegal_ignored (rnd : Rat → Rat) (cfg : Cfg) (s : State) (a : Nat) (ha : a < 4)
    (hf : Grid.shaped s.fgrid cfg.n cfg.n = true) (hv : Grid.shaped s.vgrid cfg.n cfg.n = true)
    (h : ¬ legal cfg.n s a) :
    (step rnd cfg s a).1 = { s with stepCount := s.stepCount + 1 } ∧
    ((step rnd cfg s a).2.stepType = .last → levelComplete s = true ∨ s.stepCount + 1 ≥ cfg.timeLimit) := by
  have he : (step rnd cfg s a).1 = { s with stepCount := s.stepCount + 1 } := by
    unfold step
    simp [detectNoop_eq cfg.n s a ha hf hv, h]
  refine ⟨he, fun hl => ?_⟩
  -- the grids are those of `s`, so `level_complete` of the successor is that of `s`
  have := (step_last_iff rnd cfg s a).1 hl
  rwa [he] at this

/-! ### C07: the successor prescribed by the rules is consistent -/

/-- the clause of `Consistent` about one cell with fixed content `fv` and variable content `gv` -/
def cellOK (fv gv : Int) : Prop :=
  (gv = EMPTY ∨ gv = AGENT ∨ gv = BOX) ∧ (fv = EMPTY ∨ fv = WALL ∨ fv = TARGET) ∧ (fv = WALL → gv = EMPTY)

theorem cells_put {f g : Grid Int} {n : Nat} (hs : Grid.shaped g n n = true) {P : Loc} (hP : inside n P) {v : Int}
    (hv : v = EMPTY ∨ v = AGENT ∨ v = BOX) (hw : at' f P = WALL → v = EMPTY)
    (h : ∀ p ∈ Grid.coords n n, cellOK (Grid.get f 0 p.1 p.2) (Grid.get g 0 p.1 p.2)) :
    ∀ p ∈ Grid.coords n n, cellOK (Grid.get f 0 p.1 p.2) (Grid.get (put g P v) 0 p.1 p.2) := by
  intro x hx
  rw [get_put hs hP]
  by_cases e : ((x.1 : Int), (x.2 : Int)) = P
  · rw [if_pos e]
    refine ⟨hv, (h x hx).2.1, fun hwall => hw ?_⟩
    rw [← e]
    exact hwall
  · rw [if_neg e]
    exact h x hx

/-- what a step does to a count `φ` that counts boxes only: the pushed box leaves the agent's destination and
arrives one cell further (`countCells … BOX`: `φ` ignores the cell; `boxesOnTarget`: `φ` asks for a target) -/
theorem countWhere_stepSpec {n : Nat} {s : State} {a : Nat} (hv : Grid.shaped s.vgrid n n = true)
    (hA : inside n s.agent) (hat : at' s.vgrid s.agent = AGENT) (φ : Nat × Nat → Int → Bool)
    (hφ : ∀ x v, v ≠ BOX → φ x v = false) :
    countWhere n φ (stepSpec n s a).vgrid +
        (if pushes n s a ∧ φ ((add s.agent (dirOf a)).1.toNat, (add s.agent (dirOf a)).2.toNat) BOX = true
          then 1 else 0) =
      countWhere n φ s.vgrid +
        (if pushes n s a ∧ φ ((add (add s.agent (dirOf a)) (dirOf a)).1.toNat,
            (add (add s.agent (dirOf a)) (dirOf a)).2.toNat) BOX = true then 1 else 0) := by
  unfold stepSpec pushes
  by_cases hl : legal n s a
  · have ⟨ha, hp, _, hpush⟩ := hl
    obtain ⟨hneA, hneq⟩ := add_ne_self (P := s.agent) (dirOf_ne ha)
    have hnepq := (add_ne_self (P := add s.agent (dirOf a)) (dirOf_ne ha)).1
    simp only [hl, if_true, true_and]
    generalize add s.agent (dirOf a) = p at *
    generalize add p (dirOf a) = q at *
    have s1 := shaped_put hv s.agent EMPTY
    have s2 := shaped_put s1 p AGENT
    have h1 := countWhere_put hv hA EMPTY φ
    have h2 := countWhere_put s1 hp AGENT φ
    rw [hat, hφ _ AGENT (by decide), hφ _ EMPTY (by decide)] at h1
    rw [at_put hv hA hp, if_neg hneA, hφ _ AGENT (by decide)] at h2
    by_cases hb : at' s.vgrid p = BOX
    · obtain ⟨hq, -, hqb⟩ := hpush hb
      have h3 := countWhere_put s2 hq BOX φ
      rw [at_put s1 hp hq, if_neg hnepq, at_put hv hA hq, if_neg hneq, hφ _ _ hqb] at h3
      simp only [hb, if_true, true_and] at h2 ⊢
      omega
    · rw [hφ _ _ hb] at h2
      simp only [hb, if_false, false_and]
      omega
  · simp only [hl, if_false, false_and]

theorem Consistent.fshaped {n : Nat} {s : State} (hc : Consistent n s) : Grid.shaped s.fgrid n n = true := hc.1

theorem Consistent.vshaped {n : Nat} {s : State} (hc : Consistent n s) : Grid.shaped s.vgrid n n = true := hc.2.1

theorem Consistent.agent_inside {n : Nat} {s : State} (hc : Consistent n s) : inside n s.agent := hc.2.2.1

theorem Consistent.boxes {n : Nat} {s : State} (hc : Consistent n s) : countCells n s.vgrid BOX = nBoxes :=
  hc.2.2.2.2.1

theorem Consistent.stepCount_nonneg {n : Nat} {s : State} (hc : Consistent n s) : 0 ≤ s.stepCount := hc.2.2.2.2.2.2

theorem at_agent {n : Nat} {s : State} (hc : Consistent n s) : at' s.vgrid s.agent = AGENT := by
  obtain ⟨_, _, hA, hag, _⟩ := hc
  exact (hag _ (cell_mem hA)).2 (cast_cell hA)

/-- C07: the successor prescribed by the rules is again a physically consistent board -/
theorem spec_consistent (n : Nat) (s : State) (a : Nat) (hc : Consistent n s) :
    Consistent n (stepSpec n s a) := by
  have hat := at_agent hc
  obtain ⟨hf, hv, hA, hag, hbox, hval, hsc⟩ := hc
  have hcount := countWhere_stepSpec (a := a) hv hA hat (fun _ w => w == BOX) (fun _ _ h => beq_false_of_ne h)
  unfold stepSpec at hcount ⊢
  by_cases hl : legal n s a
  · have ⟨ha, hp, hpw, hpush⟩ := hl
    have hneA := (add_ne_self (P := s.agent) (dirOf_ne ha)).1
    have hnepq := (add_ne_self (P := add s.agent (dirOf a)) (dirOf_ne ha)).1
    simp only [hl, if_true] at hcount ⊢
    generalize add s.agent (dirOf a) = p at *
    generalize add p (dirOf a) = q at *
    have s1 := shaped_put hv s.agent EMPTY
    have s2 := shaped_put s1 p AGENT
    -- after the agent has moved: the AGENT cell is `p`, and the cell clause holds
    have hag2 : ∀ x ∈ Grid.coords n n, Grid.get (put (put s.vgrid s.agent EMPTY) p AGENT) 0 x.1 x.2 = AGENT ↔
        ((x.1 : Int), (x.2 : Int)) = p := by
      intro x hx
      rw [get_put s1 hp, get_put hv hA]
      by_cases e1 : ((x.1 : Int), (x.2 : Int)) = p
      · rw [if_pos e1]; exact iff_of_true rfl e1
      · rw [if_neg e1]
        by_cases e2 : ((x.1 : Int), (x.2 : Int)) = s.agent
        · rw [if_pos e2]; exact iff_of_false (by decide) e1
        · rw [if_neg e2]; exact iff_of_false (fun h => e2 ((hag x hx).1 h)) e1
    have hval2 := cells_put s1 hp (Or.inr (Or.inl rfl)) (fun h => absurd h hpw)
      (cells_put hv hA (Or.inl rfl) (fun _ => rfl) hval)
    by_cases hb : at' s.vgrid p = BOX
    · obtain ⟨hq, hqw, -⟩ := hpush hb
      simp only [hb, if_true] at hcount ⊢
      refine ⟨hf, shaped_put s2 q BOX, hp, ?_, (Nat.add_right_cancel hcount).trans hbox,
        cells_put s2 hq (Or.inr (Or.inr rfl)) (fun h => absurd h hqw) hval2, by simp only []; omega⟩
      intro x hx
      rw [get_put s2 hq]
      by_cases e0 : ((x.1 : Int), (x.2 : Int)) = q
      · rw [if_pos e0]; exact iff_of_false (by decide) (fun h => hnepq (e0.symm.trans h))
      · rw [if_neg e0]; exact hag2 x hx
    · simp only [hb, if_false] at hcount ⊢
      exact ⟨hf, s2, hp, hag2, (Nat.add_right_cancel hcount).trans hbox, hval2, by simp only []; omega⟩
  · simp only [hl, if_false]
    exact ⟨hf, hv, hA, hag, hbox, hval, by simp only []; omega⟩

/-- C07: `step` keeps the board physically consistent, whatever action 0..3 is played -/
theorem step_consistent (rnd : Rat → Rat) (cfg : Cfg) (s : State) (a : Nat) (ha : a < 4)
    (hc : Consistent cfg.n s) : Consistent cfg.n (step rnd cfg s a).1 := by
  rw [step_eq rnd cfg s a ha hc.fshaped hc.vshaped hc.agent_inside]
  exact spec_consistent cfg.n s a hc

/-! ### the L1 count and reward are the documented ones -/

theorem countTargets_eq (n : Nat) (s : State) (hf : Grid.shaped s.fgrid n n = true)
    (hv : Grid.shaped s.vgrid n n = true) : countTargets s = boxesOnTarget n s := by
  unfold countTargets boxesOnTarget Grid.zipWith
  conv => lhs; rw [Grid.eq_table hv 0, Grid.eq_table hf 0, Grid.zipWith_table, Grid.count_table]
  rfl

theorem spec_shaped (n : Nat) (s : State) (a : Nat) (hv : Grid.shaped s.vgrid n n = true) :
    Grid.shaped (stepSpec n s a).vgrid n n = true ∧ (stepSpec n s a).fgrid = s.fgrid := by
  unfold stepSpec
  simp only []
  split
  · split
    · exact ⟨shaped_put (shaped_put (shaped_put hv _ _) _ _) _ _, rfl⟩
    · exact ⟨shaped_put (shaped_put hv _ _) _ _, rfl⟩
  · exact ⟨hv, rfl⟩

theorem reward_eq_spec (rnd : Rat → Rat) (cfg : Cfg) (s s' : State)
    (hf : Grid.shaped s.fgrid cfg.n cfg.n = true) (hv : Grid.shaped s.vgrid cfg.n cfg.n = true)
    (hf' : Grid.shaped s'.fgrid cfg.n cfg.n = true) (hv' : Grid.shaped s'.vgrid cfg.n cfg.n = true) :
    reward rnd cfg.dense s s' = rewardSpec rnd cfg s s' := by
  unfold reward rewardSpec
  simp only [countTargets_eq cfg.n s hf hv, countTargets_eq cfg.n s' hf' hv', beq_iff_eq]
  by_cases h : boxesOnTarget cfg.n s' = nBoxes <;> simp [h]

theorem levelComplete_iff {n : Nat} {s : State} (hf : Grid.shaped s.fgrid n n = true)
    (hv : Grid.shaped s.vgrid n n = true) : levelComplete s = true ↔ boxesOnTarget n s = nBoxes := by
  rw [← countTargets_eq n s hf hv]
  exact beq_iff_eq

/-- the step prescribed by the rules as one function: the L2 successor `stepSpec` and the documented timestep
(`doneSpec`, `rewardSpec`, observation of the successor) -/
def stepL2 (rnd : Rat → Rat) (cfg : Cfg) (s : State) (a : Nat) : State × TimeStep Obs :=
  let t := stepSpec cfg.n s a
  (t, condLast (doneSpec cfg t) [rewardSpec rnd cfg s t] (observe t))

/-- C09: `step = stepL2` (state AND timestep: step type, reward, discount, observation) -/
theorem step_refines (rnd : Rat → Rat) (cfg : Cfg) (s : State) (a : Nat) (ha : a < 4)
    (hf : Grid.shaped s.fgrid cfg.n cfg.n = true) (hv : Grid.shaped s.vgrid cfg.n cfg.n = true)
    (hag : inside cfg.n s.agent) : step rnd cfg s a = stepL2 rnd cfg s a := by
  have he := step_eq rnd cfg s a ha hf hv hag
  obtain ⟨hv', hf'e⟩ := spec_shaped cfg.n s a hv
  have hf' : Grid.shaped (stepSpec cfg.n s a).fgrid cfg.n cfg.n = true := by rw [hf'e]; exact hf
  apply Prod.ext he
  rw [step_snd, he, reward_eq_spec rnd cfg s _ hf hv hf' hv']
  unfold stepL2 doneSpec levelComplete
  rw [countTargets_eq cfg.n _ hf' hv']
  rfl

end Sokoban
