/-
FlatPack — C01 spec membership: the declared specs as `Sp` values, what membership of an observation amounts to, and that
`observe s` of every state satisfying `Inv` is a member (`observe_valid`; the instances for `reset` and `step` are in
Props/Env/FlatPack.lean); the step protocol and the action spec.  Also `runAll` (the state after a list of actions, stepping on
past LAST; `Inv` along it, for the C06 whole-play theorem), completion through `step` (C06) and the documented observation (C12).
-/
import JumanjiModel.Env.FlatPack.Lemmas
import JumanjiModel.Env.FlatPack.InvLemmas
import JumanjiModel.Env.FlatPack.FeasLemmas
import JumanjiModel.Env.FlatPack.BoundsLemmas
import JumanjiModel.Env.FlatPack.Episode
import JumanjiModel.Env.SpecMembership
namespace FlatPack
open Jm Sp PzS PkS

/-- `observation_spec`: `grid` BoundedArray((R, C), int32, 0, num_blocks), `blocks` BoundedArray((num_blocks, 3, 3), int32, 0,
num_blocks), `action_mask` BoundedArray((num_blocks, 4, R − 2, C − 2), bool, False, True) -/
def obsSpec (cfg : Cfg) : Sp.Nested :=
  [("grid", .bounded [cfg.numRows, cfg.numCols] .int32 "grid" [] [0] [] [(cfg.numBlocks : Rat)]),
   ("blocks", .bounded [cfg.numBlocks, 3, 3] .int32 "blocks" [] [0] [] [(cfg.numBlocks : Rat)]),
   ("action_mask", .bounded [cfg.numBlocks, 4, cfg.numRows - 2, cfg.numCols - 2] .bool "action_mask" [] [0] [] [1])]

/-- `action_spec`: MultiDiscreteArray([num_blocks, 4, R − 2, C − 2], int32) -/
def actionSpec (cfg : Cfg) : Leaf :=
  .multiDiscrete [4] [cfg.numBlocks, 4, cfg.numRows - 2, cfg.numCols - 2] .int32 "action"

/-- a model observation as the arrays the implementation emits; the shapes are READ OFF the values -/
def toNValue (o : Obs) : NValue :=
  [("grid", ⟨shape2 o.grid, .int32, ofNats o.grid.flatten⟩),
   ("blocks", ⟨shape3 o.blocks, .int32, ofNats o.blocks.flatten.flatten⟩),
   ("action_mask", ⟨shape4 o.actionMask, .bool, ofBools o.actionMask.flatten.flatten.flatten⟩)]

def actionArr (a : Action) : Arr := ⟨[4], .int32, [(a.block : Rat), (a.rot : Rat), (a.row : Rat), (a.col : Rat)]⟩

theorem obs_valid_iff (cfg : Cfg) (o : Obs) : (obsSpec cfg).valid (toNValue o) = true ↔
    shape2 o.grid = [cfg.numRows, cfg.numCols] ∧ o.grid.flatten.length = cfg.numRows * cfg.numCols ∧
    (∀ v ∈ o.grid.flatten, v ≤ cfg.numBlocks) ∧
    shape3 o.blocks = [cfg.numBlocks, 3, 3] ∧ o.blocks.flatten.flatten.length = cfg.numBlocks * 3 * 3 ∧
    (∀ v ∈ o.blocks.flatten.flatten, v ≤ cfg.numBlocks) ∧
    shape4 o.actionMask = [cfg.numBlocks, 4, cfg.numRows - 2, cfg.numCols - 2] ∧
    o.actionMask.flatten.flatten.flatten.length = cfg.numBlocks * 4 * (cfg.numRows - 2) * (cfg.numCols - 2) := by
  simp only [obsSpec, toNValue, valid_cons, valid_nil, valid_scalar_bounded_iff, forall_ofNats, forall_ofBools,
    ofNats_length, ofBools_length, prod_two, prod_three, prod_four, Rat.natCast_nonneg, Rat.natCast_le_natCast,
    true_and, and_true, and_assoc]

theorem obs_valid_only (cfg : Cfg) (o : Obs) (h : (obsSpec cfg).valid (toNValue o) = true) :
    shape2 o.grid = [cfg.numRows, cfg.numCols] ∧ (∀ v ∈ o.grid.flatten, v ≤ cfg.numBlocks) ∧
    shape3 o.blocks = [cfg.numBlocks, 3, 3] ∧ (∀ v ∈ o.blocks.flatten.flatten, v ≤ cfg.numBlocks) ∧
    shape4 o.actionMask = [cfg.numBlocks, 4, cfg.numRows - 2, cfg.numCols - 2] :=
  have ⟨h1, _, h2, h3, _, h4, h5, _⟩ := (obs_valid_iff cfg o).1 h
  ⟨h1, h2, h3, h4, h5⟩

theorem legalMask_rect (cfg : Cfg) (s : State) :
    Rect4 (legalMask cfg s) cfg.numBlocks 4 (cfg.numRows - 2) (cfg.numCols - 2) := by
  simp only [legalMask, Rect4, Rect3, Rect2, List.length_map, List.length_range, List.mem_map, forall_exists_index, and_imp,
    forall_apply_eq_imp_iff₂, true_and, implies_true]

/-- the proof goes through rectangularity of the three fields (`Rect2` / `Rect3` / `Rect4`), which is sufficient and not
necessary: `toNValue` reads the widths off the first rows only, so that is all `validate` sees (`obs_valid_iff`) -/
theorem observe_valid (cfg : Cfg) (hR : 3 ≤ cfg.numRows) (hB : 0 < cfg.numBlocks) (s : State) (hi : Inv cfg s)
    (hb : BlocksBounded cfg s.blocks) : (obsSpec cfg).valid (toNValue (observe s)) = true := by
  have h := (feasible_iff cfg s).1 hi.1
  have s1 := shape2_of_rect (rect2_of_shaped h.grid) (by omega)
  have h2 : Rect3 s.blocks cfg.numBlocks 3 3 := ⟨h.blocksLen, fun blk hblk => rect2_of_shaped (h.blockOK blk hblk).1⟩
  have s2 := shape3_of_rect h2 hB (by omega)
  have s3 := shape4_of_rect (legalMask_rect cfg s) hB (by omega) (by omega)
  rw [← hi.2] at s3
  exact (obs_valid_iff cfg (observe s)).2 ⟨s1.1, s1.2, Jx.forall_mem_flatten (grid_le_of_feasible cfg s hi.1 hb), s2.1, s2.2,
    Jx.forall_mem_flatten (Jx.forall_mem_flatten hb), s3.1, s3.2⟩

/-- the state after playing ALL the actions (no stop at LAST; the library allows stepping on) -/
def runAll (rnd : Rat → Rat) (cfg : Cfg) : State → List Act4 → State
  | s, [] => s
  | s, a :: as => runAll rnd cfg (stepA rnd cfg s a).1 as

theorem runAll_inv (rnd : Rat → Rat) (cfg : Cfg) : ∀ (s : State) (as : List Act4), Inv cfg s → InSpecAll cfg as →
    Inv cfg (runAll rnd cfg s as) ∧ (runAll rnd cfg s as).blocks = s.blocks
  | s, [], hi, _ => ⟨hi, rfl⟩
  | s, a :: as, hi, hin => by
    have ha : inSpec cfg a.1 a.2.1 a.2.2.1 a.2.2.2 = true := hin a (by simp)
    have hi' := step_inv rnd cfg s a.1 a.2.1 a.2.2.1 a.2.2.2 hi ha
    have := runAll_inv rnd cfg (stepA rnd cfg s a).1 as hi' (fun b hb => hin b (by simp [hb]))
    refine ⟨this.1, ?_⟩
    exact this.2.trans (step_numBlocks rnd cfg s _).2

theorem step_protocol (rnd : Rat → Rat) (cfg : Cfg) (s : State) (a : Action) :
    StepOK none false (step rnd cfg s a).2 = true := by
  unfold step; exact condLast_stepOK _ _ _

theorem actionSpec_generate (cfg : Cfg) : (actionSpec cfg).generate = actionArr (act 0 0 0 0) := rfl

theorem actionSpec_WF (cfg : Cfg) (hR : 3 ≤ cfg.numRows) (hC : 3 ≤ cfg.numCols) (hB : 0 < cfg.numBlocks)
    (hbig : cfg.numBlocks ≤ 2147483648 ∧ cfg.numRows ≤ 2147483648 ∧ cfg.numCols ≤ 2147483648) :
    (actionSpec cfg).WF = true :=
  WF_multiDiscrete _ _ _ _ rfl rfl (List.forall_mem_cons.2 ⟨⟨hB, fits_int32_pred hbig.1⟩,
    List.forall_mem_cons.2 ⟨⟨by decide, fits_int32_pred (by decide)⟩,
    List.forall_mem_cons.2 ⟨⟨by omega, fits_int32_pred (by omega)⟩,
    List.forall_mem_cons.2 ⟨⟨by omega, fits_int32_pred (by omega)⟩, fun _ h => nomatch h⟩⟩⟩⟩)

/-- C06: when a step (any action of the action space) from a state of play of a generated instance (`Inv`; the blocks
have as many cells as the grid) leaves every block placed, the result is a complete solution -/
theorem step_complete_is_solution (rnd : Rat → Rat) (cfg : Cfg) (s : State) (hi : Inv cfg s) (b k r c : Nat)
    (hin : inSpec cfg b k r c = true)
    (hsum : (s.blocks.map countNonzero).foldl (· + ·) 0 = cfg.numRows * cfg.numCols)
    (hall : (step rnd cfg s (act b k r c)).1.placed.all id = true) :
    IsSolution cfg (step rnd cfg s (act b k r c)).1 := by
  have hi' := step_inv rnd cfg s b k r c hi hin
  apply complete_is_solution cfg _ hi'.1 hall
  rw [(step_numBlocks rnd cfg s _).2]
  exact hsum

/-- C12: on every state of play the mask shown is the table of legal moves of the rules, not merely a cached copy -/
theorem observe_documented (cfg : Cfg) (s : State) (hi : Inv cfg s) :
    observe s = { grid := s.grid, blocks := s.blocks, actionMask := legalMask cfg s } := by
  unfold observe; rw [hi.2]

end FlatPack
