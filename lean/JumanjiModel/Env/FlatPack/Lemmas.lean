/- FlatPack: actions of the action space (`act`, `inSpec_iff`, lookup in the mask) and the fields of `step`. -/
import JumanjiModel.Env.FlatPack.Model
import JumanjiModel.Prim.ListLemmas
import JumanjiModel.Core.TimeStepLemmas
namespace FlatPack
open Jm

/-- an action of the action space, as `step` receives it -/
def act (b k r c : Nat) : Action := ⟨(b : Int), (k : Int), (r : Int), (c : Int)⟩

theorem inSpec_iff {cfg : Cfg} {b k r c : Nat} :
    inSpec cfg b k r c = true ↔ b < cfg.numBlocks ∧ k < 4 ∧ r + 3 ≤ cfg.numRows ∧ c + 3 ≤ cfg.numCols := by
  simp only [inSpec, Bool.and_eq_true, decide_eq_true_eq, and_assoc]

theorem inSpec_bounds {cfg : Cfg} {b k r c : Nat} (h : inSpec cfg b k r c = true) :
    b < cfg.numBlocks ∧ k < 4 ∧ r < cfg.numRows - 2 ∧ c < cfg.numCols - 2 := by
  have := inSpec_iff.1 h
  omega

theorem maskAt_legalMask (cfg : Cfg) (s : State) {b k r c : Nat} (h : inSpec cfg b k r c = true) :
    maskAt (legalMask cfg s) (act b k r c) = legalB cfg s b k r c := by
  obtain ⟨hb, hk, hr, hc⟩ := inSpec_bounds h
  unfold maskAt legalMask act
  simp only []
  rw [Jx.getWC_range_map _ _ hb, Jx.getWC_range_map _ _ hk, Jx.getWC_range_map _ _ hr, Jx.getWC_range_map _ _ hc]

theorem step_snd (rnd : Rat → Rat) (cfg : Cfg) (s : State) (a : Action) :
    (step rnd cfg s a).2 =
      condLast (decide ((step rnd cfg s a).1.stepCount ≥ (step rnd cfg s a).1.numBlocks))
        [reward rnd cfg s (expandBlock cfg (rotateBlock (Jx.getWC s.blocks [] a.block) a.rot) a.row a.col)
          (maskAt s.actionMask a)]
        (observeL1 (step rnd cfg s a).1) := rfl

theorem step_count (rnd : Rat → Rat) (cfg : Cfg) (s : State) (a : Action) :
    (step rnd cfg s a).1.stepCount = s.stepCount + 1 := rfl

theorem step_numBlocks (rnd : Rat → Rat) (cfg : Cfg) (s : State) (a : Action) :
    (step rnd cfg s a).1.numBlocks = s.numBlocks ∧ (step rnd cfg s a).1.blocks = s.blocks := ⟨rfl, rfl⟩

theorem last_iff (rnd : Rat → Rat) (cfg : Cfg) (s : State) (a : Action) :
    (step rnd cfg s a).2.stepType = .last ↔ s.numBlocks ≤ s.stepCount + 1 := by
  rw [step_snd, condLast_last_iff, decide_eq_true_eq]
  exact Iff.rfl

theorem step_reward (rnd : Rat → Rat) (cfg : Cfg) (s : State) (a : Action) :
    (step rnd cfg s a).2.reward =
      [reward rnd cfg s (expandBlock cfg (rotateBlock (Jx.getWC s.blocks [] a.block) a.rot) a.row a.col)
        (maskAt s.actionMask a)] := by
  rw [step_snd, condLast_reward]

theorem obs_faithful (rnd : Rat → Rat) (cfg : Cfg) (s : State) (a : Action) :
    (step rnd cfg s a).2.obs = observe (step rnd cfg s a).1 := by
  rw [step_snd, condLast_obs]
  rfl

theorem cached_mask (rnd : Rat → Rat) (cfg : Cfg) (s : State) (a : Action) :
    (step rnd cfg s a).1.actionMask =
      makeActionMask cfg (step rnd cfg s a).1.grid (step rnd cfg s a).1.blocks (step rnd cfg s a).1.placed := rfl

theorem invalid_step (rnd : Rat → Rat) (cfg : Cfg) (s : State) (a : Action) (h : maskAt s.actionMask a = false) :
    (step rnd cfg s a).1.grid = s.grid ∧ (step rnd cfg s a).1.placed = s.placed ∧
    (step rnd cfg s a).1.blocks = s.blocks ∧ (step rnd cfg s a).1.stepCount = s.stepCount + 1 ∧
    (step rnd cfg s a).2.reward = [0] ∧
    ((step rnd cfg s a).2.stepType = .last → s.numBlocks ≤ s.stepCount + 1) := by
  refine ⟨by simp [step, h], by simp [step, h], rfl, rfl, ?_, (last_iff rnd cfg s a).1⟩
  rw [step_reward, h]
  simp [reward]

theorem illegal_mask {cfg : Cfg} {s : State} (hm : s.actionMask = legalMask cfg s)
    {b k r c : Nat} (hin : inSpec cfg b k r c = true) (h : ¬ legal cfg s b k r c) :
    maskAt s.actionMask (act b k r c) = false := by
  rw [hm, maskAt_legalMask cfg s hin]
  unfold legal at h; simpa using h

end FlatPack
