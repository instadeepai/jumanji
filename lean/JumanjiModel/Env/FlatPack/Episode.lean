/-
FlatPack: the return of any action sequence (C08) on `Pre` alone; the returns of complete episodes, which also need
feasibility.

Episodes are lists of actions `(block, rotation, row, column)` played from a state until the first LAST
timestep (`returnOf`, `endState`).  `InSpecAll` = every action belongs to the action space (legal or not: an
illegal one is ignored by the environment); `LegalEpisode` = every action legal where it is played and LAST
exactly at the last one.
-/
import JumanjiModel.Env.FlatPack.InvLemmas
namespace FlatPack
open Jm

abbrev Act4 := Nat × Nat × Nat × Nat

def stepA (rnd : Rat → Rat) (cfg : Cfg) (s : State) (a : Act4) : State × TimeStep Obs :=
  step rnd cfg s (act a.1 a.2.1 a.2.2.1 a.2.2.2)

def inSpecA (cfg : Cfg) (a : Act4) : Bool := inSpec cfg a.1 a.2.1 a.2.2.1 a.2.2.2
def legalA (cfg : Cfg) (s : State) (a : Act4) : Prop := legal cfg s a.1 a.2.1 a.2.2.1 a.2.2.2
instance (cfg : Cfg) (s : State) (a : Act4) : Decidable (legalA cfg s a) := by unfold legalA; infer_instance

/-- sum of the rewards of the episode `as` played from `s` (up to and including the first LAST) -/
def returnOf (rnd : Rat → Rat) (cfg : Cfg) : State → List Act4 → Rat
  | _, [] => 0
  | s, a :: as =>
    (stepA rnd cfg s a).2.reward.sum +
      (if (stepA rnd cfg s a).2.stepType = .last then 0 else returnOf rnd cfg (stepA rnd cfg s a).1 as)

def endState (rnd : Rat → Rat) (cfg : Cfg) : State → List Act4 → State
  | s, [] => s
  | s, a :: as =>
    if (stepA rnd cfg s a).2.stepType = .last then (stepA rnd cfg s a).1
    else endState rnd cfg (stepA rnd cfg s a).1 as

def InSpecAll (cfg : Cfg) (as : List Act4) : Prop := ∀ a ∈ as, inSpecA cfg a = true
instance (cfg : Cfg) (as : List Act4) : Decidable (InSpecAll cfg as) := by unfold InSpecAll; infer_instance

/-- a complete episode of legal actions: LAST exactly at the last action -/
def LegalEpisode (rnd : Rat → Rat) (cfg : Cfg) : State → List Act4 → Prop
  | _, [] => False
  | s, a :: as =>
    legalA cfg s a ∧
      (if (stepA rnd cfg s a).2.stepType = .last then as = []
       else LegalEpisode rnd cfg (stepA rnd cfg s a).1 as)

instance decLegalEpisode (rnd : Rat → Rat) (cfg : Cfg) :
    (s : State) → (as : List Act4) → Decidable (LegalEpisode rnd cfg s as)
  | _, [] => isFalse (fun h => h)
  | s, a :: as =>
    have := decLegalEpisode rnd cfg (stepA rnd cfg s a).1 as
    inferInstanceAs (Decidable (legalA cfg s a ∧
      (if (stepA rnd cfg s a).2.stepType = .last then as = []
       else LegalEpisode rnd cfg (stepA rnd cfg s a).1 as)))

/-- C08: ANY sequence of actions of the action space (legal ones are executed, the others ignored), finished or
not: the rewards add up to the gain of the objective (covered fraction / placed fraction) recomputed from the
grid / the placed flags of the state in which the sequence ends (exact arithmetic) -/
theorem return_any (cfg : Cfg) :
    ∀ (s : State) (as : List Act4), Pre cfg s → InSpecAll cfg as →
      returnOf id cfg s as = objective cfg (endState id cfg s as) - objective cfg s
  | s, [], _, _ => by simp only [returnOf, endState]; grind
  | s, a :: as, hi, hin => by
    have ha : inSpec cfg a.1 a.2.1 a.2.2.1 a.2.2.2 = true := hin a (by simp)
    have ht : objective cfg (stepA id cfg s a).1 = objective cfg s + (stepA id cfg s a).2.reward.sum :=
      objective_step cfg s a.1 a.2.1 a.2.2.1 a.2.2.2 hi ha
    have hi' : Pre cfg (stepA id cfg s a).1 := step_pre id cfg s a.1 a.2.1 a.2.2.1 a.2.2.2 hi ha
    by_cases hlast : (stepA id cfg s a).2.stepType = .last
    · simp only [returnOf, endState, if_pos hlast]
      rw [ht]; grind
    · simp only [returnOf, endState, if_neg hlast]
      rw [return_any cfg _ as hi' (fun x hx => hin x (by simp [hx])), ht]; grind

theorem countNonzero_mk (R C : Nat) : countNonzero (Jx.Grid.mk R C 0) = 0 := by
  rw [Jx.Grid.mk_eq_table, countNonzero_table, List.filter_eq_nil_iff.2 fun _ _ => by simp]
  rfl

theorem freshOK_iff (cfg : Cfg) (s : State) : freshOK cfg s = true ↔
    s.grid = Jx.Grid.mk cfg.numRows cfg.numCols 0 ∧ s.placed = List.replicate cfg.numBlocks false ∧
    s.stepCount = 0 ∧ s.actionMask = legalMask cfg s ∧
    (s.blocks.map countNonzero).foldl (· + ·) 0 = cfg.numRows * cfg.numCols := by
  simp only [freshOK, Bool.and_eq_true, beq_iff_eq, decide_eq_true_eq, and_assoc]

theorem fresh_objective (cfg : Cfg) (s : State) (h : freshOK cfg s = true) : objective cfg s = 0 := by
  obtain ⟨h1, h2, _⟩ := (freshOK_iff cfg s).1 h
  unfold objective coveredFraction placedFraction
  rw [h1, h2, countNonzero_mk, Jx.countTrue_replicate_false]
  split <;> simp [Rat.div_def, Rat.zero_mul]

theorem fresh_inv' (cfg : Cfg) (s : State) (hb : blocksOK cfg s = true) (h : freshOK cfg s = true) :
    Inv cfg s := by
  obtain ⟨h1, h2, _, h4, _⟩ := (freshOK_iff cfg s).1 h
  exact ⟨fresh_feasible cfg s hb h1 h2, h4⟩

/-- C08 from a generated instance: return = objective of the final state -/
theorem return_fresh (cfg : Cfg) (s : State) (as : List Act4) (hb : blocksOK cfg s = true)
    (h : freshOK cfg s = true) (hin : InSpecAll cfg as) :
    returnOf id cfg s as = objective cfg (endState id cfg s as) := by
  rw [return_any cfg s as (fresh_inv' cfg s hb h).pre hin, fresh_objective cfg s h]; grind

theorem step_state_reward_irrel (rnd : Rat → Rat) (cfg : Cfg) (d : Bool) (s : State) (a : Action) :
    (step rnd { cfg with cellDense := d } s a).1 = (step rnd cfg s a).1 := by
  simp only [step, expandBlock, makeActionMask]

theorem step_type_reward_irrel (rnd : Rat → Rat) (cfg : Cfg) (d : Bool) (s : State) (a : Action) :
    (step rnd { cfg with cellDense := d } s a).2.stepType = (step rnd cfg s a).2.stepType := by
  rw [step_snd, step_snd, condLast_stepType, condLast_stepType, step_state_reward_irrel]

theorem endState_reward_irrel (rnd : Rat → Rat) (cfg : Cfg) (d : Bool) :
    ∀ (s : State) (as : List Act4), endState rnd { cfg with cellDense := d } s as = endState rnd cfg s as
  | _, [] => rfl
  | s, a :: as => by
    have e1 : (stepA rnd { cfg with cellDense := d } s a).1 = (stepA rnd cfg s a).1 :=
      step_state_reward_irrel rnd cfg d s _
    have e2 : (stepA rnd { cfg with cellDense := d } s a).2.stepType = (stepA rnd cfg s a).2.stepType :=
      step_type_reward_irrel rnd cfg d s _
    simp only [endState, e1, e2]
    split
    · rfl
    · exact endState_reward_irrel rnd cfg d _ as

theorem rat_div_self_nat (n : Nat) (h : 0 < n) : ((n : Nat) : Rat) / ((n : Nat) : Rat) = 1 := by
  have : ((n : Nat) : Rat) ≠ 0 := by
    intro h0
    have := Rat.natCast_eq_zero_iff.1 h0
    omega
  rw [Rat.div_def]; exact Rat.mul_inv_cancel _ this

theorem complete_objectives (cfg : Cfg) (s : State) (hf : Feasible cfg s) (hall : s.placed.all id = true)
    (hsum : (s.blocks.map countNonzero).foldl (· + ·) 0 = cfg.numRows * cfg.numCols)
    (hpos : 0 < cfg.numRows * cfg.numCols) (hnb : 0 < cfg.numBlocks) :
    coveredFraction cfg s = 1 ∧ placedFraction s = 1 := by
  obtain ⟨_, hpl, hn, _⟩ := (feasible_iff cfg s).1 hf
  have hcnt := feasible_count cfg s hf hall
  rw [List.sum_eq_foldl_nat, hsum] at hcnt
  constructor
  · unfold coveredFraction; rw [hcnt]; exact rat_div_self_nat _ hpos
  · unfold placedFraction; rw [Jx.countTrue_eq_length.2 hall, hpl, hn]; exact rat_div_self_nat _ hnb

/-- each legal step places one more block, and LAST comes after `num_blocks` steps -/
theorem legalEpisode_all_placed (rnd : Rat → Rat) (cfg : Cfg) :
    ∀ (s : State) (as : List Act4), Inv cfg s → Jx.countTrue s.placed = s.stepCount →
      LegalEpisode rnd cfg s as → (endState rnd cfg s as).placed.all id = true
  | _, [], _, _, h => h.elim
  | s, a :: as, hi, hc, h => by
    have hl : legal cfg s a.1 a.2.1 a.2.2.1 a.2.2.2 := h.1
    have hin := (legal_unfold hl).1
    have hi' := step_inv rnd cfg s a.1 a.2.1 a.2.2.1 a.2.2.2 hi hin
    have hc' : Jx.countTrue (stepA rnd cfg s a).1.placed = (stepA rnd cfg s a).1.stepCount := by
      unfold stepA
      rw [step_countTrue_legal rnd cfg s _ _ _ _ hi.2 hl, step_count, hc]
    have h2 := h.2
    simp only [endState]
    split
    · next hlast =>
      have hle := (last_iff rnd cfg s _).1 hlast
      obtain ⟨_, _, hpl, hn, _⟩ := hi'.pre
      apply Jx.countTrue_eq_length.1
      have hub := Jx.countTrue_le (stepA rnd cfg s a).1.placed
      have hsc : (stepA rnd cfg s a).1.stepCount = s.stepCount + 1 := step_count rnd cfg s _
      have hnn : (stepA rnd cfg s a).1.numBlocks = s.numBlocks := (step_numBlocks rnd cfg s _).1
      unfold stepA at hc' hub hsc hnn ⊢
      omega
    · next hne =>
      rw [if_neg hne] at h2
      exact legalEpisode_all_placed rnd cfg _ as hi' hc' h2

theorem legalEpisode_inSpec (rnd : Rat → Rat) (cfg : Cfg) :
    ∀ (s : State) (as : List Act4), LegalEpisode rnd cfg s as → InSpecAll cfg as
  | _, [], h => h.elim
  | s, a :: as, h => by
    intro x hx
    rcases List.mem_cons.1 hx with rfl | hx
    · exact (legal_unfold h.1).1
    · have h2 := h.2
      by_cases hl : (stepA rnd cfg s a).2.stepType = .last
      · rw [if_pos hl] at h2; subst h2; simp at hx
      · rw [if_neg hl] at h2
        exact legalEpisode_inSpec rnd cfg _ as h2 x hx

theorem endState_inv (rnd : Rat → Rat) (cfg : Cfg) :
    ∀ (s : State) (as : List Act4), Inv cfg s → InSpecAll cfg as → Inv cfg (endState rnd cfg s as)
  | s, [], hi, _ => hi
  | s, a :: as, hi, hin => by
    have ha : inSpec cfg a.1 a.2.1 a.2.2.1 a.2.2.2 = true := hin a (by simp)
    have hi' := step_inv rnd cfg s a.1 a.2.1 a.2.2.1 a.2.2.2 hi ha
    simp only [endState]
    split
    · exact hi'
    · exact endState_inv rnd cfg _ as hi' (fun x hx => hin x (by simp [hx]))

theorem endState_blocks (rnd : Rat → Rat) (cfg : Cfg) :
    ∀ (s : State) (as : List Act4), (endState rnd cfg s as).blocks = s.blocks
  | _, [] => rfl
  | s, a :: as => by
    simp only [endState]
    split
    · exact (step_numBlocks rnd cfg s _).2
    · rw [endState_blocks rnd cfg _ as]; exact (step_numBlocks rnd cfg s _).2

theorem cell_return (cfg : Cfg) (s : State) (as : List Act4) (hcd : cfg.cellDense = true)
    (hb : blocksOK cfg s = true) (h : freshOK cfg s = true) (hin : InSpecAll cfg as) :
    returnOf id cfg s as = coveredFraction cfg (endState id cfg s as) := by
  rw [return_fresh cfg s as hb h hin]; unfold objective; rw [if_pos hcd]

theorem block_return (cfg : Cfg) (s : State) (as : List Act4) (hcd : cfg.cellDense = false)
    (hb : blocksOK cfg s = true) (h : freshOK cfg s = true) (hin : InSpecAll cfg as) :
    returnOf id cfg s as = placedFraction (endState id cfg s as) := by
  rw [return_fresh cfg s as hb h hin]; unfold objective; rw [hcd]; rfl

theorem complete_return_one (cfg : Cfg) (s : State) (as : List Act4) (hb : blocksOK cfg s = true)
    (h : freshOK cfg s = true) (hin : InSpecAll cfg as) (hall : (endState id cfg s as).placed.all id = true)
    (hpos : 0 < cfg.numRows * cfg.numCols) (hnb : 0 < cfg.numBlocks) :
    returnOf id cfg s as = 1 := by
  rw [return_fresh cfg s as hb h hin]
  have hi := endState_inv id cfg s as (fresh_inv' cfg s hb h) hin
  obtain ⟨_, _, _, _, hsum⟩ := (freshOK_iff cfg s).1 h
  rw [← endState_blocks id cfg s as] at hsum
  obtain ⟨h1, h2⟩ := complete_objectives cfg _ hi.1 hall hsum hpos hnb
  unfold objective; split
  · exact h1
  · exact h2

theorem complete_both_one (cfg : Cfg) (s : State) (as : List Act4) (hb : blocksOK cfg s = true)
    (h : freshOK cfg s = true) (hin : InSpecAll cfg as) (hall : (endState id cfg s as).placed.all id = true)
    (hpos : 0 < cfg.numRows * cfg.numCols) (hnb : 0 < cfg.numBlocks) :
    returnOf id { cfg with cellDense := true } s as = 1 ∧ returnOf id { cfg with cellDense := false } s as = 1 := by
  -- `blocksOK`, `freshOK`, `InSpecAll` do not read `cellDense`: `hb`, `h`, `hin` serve at either configuration
  constructor
  · exact complete_return_one { cfg with cellDense := true } s as hb h hin
      (by rw [endState_reward_irrel]; exact hall) hpos hnb
  · exact complete_return_one { cfg with cellDense := false } s as hb h hin
      (by rw [endState_reward_irrel]; exact hall) hpos hnb

theorem legalEpisode_complete (rnd : Rat → Rat) (cfg : Cfg) (s : State) (as : List Act4)
    (hb : blocksOK cfg s = true) (h : freshOK cfg s = true) (hep : LegalEpisode rnd cfg s as) :
    (endState rnd cfg s as).placed.all id = true := by
  obtain ⟨_, h2, h3, _⟩ := (freshOK_iff cfg s).1 h
  exact legalEpisode_all_placed rnd cfg s as (fresh_inv' cfg s hb h)
    (by rw [h2, h3, Jx.countTrue_replicate_false]) hep

end FlatPack
