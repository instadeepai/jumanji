/- FlatPack: what a step does to a state that has the sizes of the configuration and whose cached mask is the table of legal
moves (`Pre`, kept by every in-spec step): the fields of a legal step, the dense rewards telescope (C08), the successor
state, the reward and the step type are those of the rules (`step_eq_stepL2`, C09).  Nothing here reads the contents of the
grid or of the blocks: feasibility (FeasLemmas.lean) is not imported. -/
import JumanjiModel.Env.FlatPack.Lemmas
import JumanjiModel.Env.FlatPack.MaskLemmas
namespace FlatPack
open Jm
open Jx.Grid (table)

theorem legal_unfold {cfg : Cfg} {s : State} {b k r c : Nat} (hl : legal cfg s b k r c) :
    inSpec cfg b k r c = true ∧ b < s.placed.length ∧ s.placed.getD b false = false ∧
      ∀ p ∈ poseCells (s.blocks.getD b []) k r c, Jx.Grid.get s.grid 1 p.1 p.2 = 0 := by
  unfold legal legalB at hl
  simp only [Bool.and_eq_true, Bool.not_eq_true', List.all_eq_true, cellFree, beq_iff_eq] at hl
  obtain ⟨⟨h1, h2⟩, h3⟩ := hl
  have hb : b < s.placed.length := by
    by_cases h : b < s.placed.length
    · exact h
    · simp [List.getD, h] at h2
  refine ⟨h1, hb, ?_, h3⟩
  simp [List.getD, hb] at h2 ⊢
  exact h2

theorem legal_mask {cfg : Cfg} {s : State} {b k r c : Nat} (hm : s.actionMask = legalMask cfg s)
    (hl : legal cfg s b k r c) : maskAt s.actionMask (act b k r c) = true := by
  rw [hm, maskAt_legalMask cfg s (legal_unfold hl).1]; exact hl

theorem step_legal_placed (rnd : Rat → Rat) {cfg : Cfg} {s : State} {b k r c : Nat}
    (hm : s.actionMask = legalMask cfg s) (hl : legal cfg s b k r c) :
    (step rnd cfg s (act b k r c)).1.placed = s.placed.set b true := by
  simp only [step, legal_mask hm hl, if_true]
  exact Jx.setWD_natCast _ _ _

theorem step_legal_fields (rnd : Rat → Rat) (cfg : Cfg) (s : State) (b k r c : Nat)
    (hg : Jx.Grid.shaped s.grid cfg.numRows cfg.numCols = true)
    (hbl : s.blocks.length = cfg.numBlocks)
    (hm : s.actionMask = legalMask cfg s) (hl : legal cfg s b k r c) :
    (step rnd cfg s (act b k r c)).1.grid = table cfg.numRows cfg.numCols (fun i j =>
        Jx.Grid.get s.grid 0 i j + addAt (s.blocks.getD b []) k r c i j) ∧
    (step rnd cfg s (act b k r c)).1.placed = s.placed.set b true ∧
    (step rnd cfg s (act b k r c)).1.blocks = s.blocks ∧
    (step rnd cfg s (act b k r c)).1.numBlocks = s.numBlocks := by
  obtain ⟨hb1, hk, hr, hc⟩ := inSpec_iff.1 (legal_unfold hl).1
  refine ⟨?_, step_legal_placed rnd hm hl, (step_numBlocks rnd cfg s _).2, (step_numBlocks rnd cfg s _).1⟩
  simp only [step, legal_mask hm hl, if_true]
  simp only [act]
  rw [expandBlock_pose cfg (by omega : b < s.blocks.length) k hr hc]
  conv => lhs; rw [Jx.Grid.eq_table hg 0]
  rw [Jx.Grid.zipWith_table]

/-- the sizes are those of the configuration and the cached mask is the table of legal moves: all that `step`, the mask,
both rewards and the objective read of a state (`Inv` adds feasibility, which only the counting of cells needs) -/
def Pre (cfg : Cfg) (s : State) : Prop :=
  Jx.Grid.shaped s.grid cfg.numRows cfg.numCols = true ∧ s.blocks.length = cfg.numBlocks ∧
  s.placed.length = cfg.numBlocks ∧ s.numBlocks = cfg.numBlocks ∧ s.actionMask = legalMask cfg s

theorem Pre.mask {cfg : Cfg} {s : State} (h : Pre cfg s) : s.actionMask = legalMask cfg s := h.2.2.2.2

theorem step_pre (rnd : Rat → Rat) (cfg : Cfg) (s : State) (b k r c : Nat) (hp : Pre cfg s)
    (hin : inSpec cfg b k r c = true) : Pre cfg (step rnd cfg s (act b k r c)).1 := by
  obtain ⟨hg, hbl, hpl, hn, hm⟩ := hp
  have h : Jx.Grid.shaped (step rnd cfg s (act b k r c)).1.grid cfg.numRows cfg.numCols = true ∧
      (step rnd cfg s (act b k r c)).1.placed.length = cfg.numBlocks := by
    by_cases hl : legal cfg s b k r c
    · obtain ⟨e1, e2, _⟩ := step_legal_fields rnd cfg s b k r c hg hbl hm hl
      rw [e1, e2, List.length_set]
      exact ⟨Jx.Grid.shaped_table .., hpl⟩
    · obtain ⟨h1, h2, _⟩ := invalid_step rnd cfg s _ (illegal_mask hm hin hl)
      rw [h1, h2]
      exact ⟨hg, hpl⟩
  exact ⟨h.1, hbl, h.2, hn, (cached_mask ..).trans (makeActionMask_eq_legalMask cfg _ h.1 hbl h.2)⟩

theorem add_addAt {R C : Nat} {g blk : G} {k r c : Nat} (hg : Jx.Grid.shaped g R C = true)
    (hfree : ∀ p ∈ poseCells blk k r c, Jx.Grid.get g 1 p.1 p.2 = 0) {i j : Nat} (hi : i < R) (hj : j < C) :
    Jx.Grid.get g 0 i j + addAt blk k r c i j =
      if addAt blk k r c i j ≠ 0 then addAt blk k r c i j else Jx.Grid.get g 0 i j := by
  by_cases h : addAt blk k r c i j = 0
  · rw [if_neg (fun hne => hne h), h]
    rfl
  · have h0 := hfree _ (addAt_ne_zero_iff.1 h)
    rw [Jx.Grid.get_irrel hg 1 0 hi hj] at h0
    rw [if_pos h, h0, Nat.zero_add]

theorem countNonzero_table (R C : Nat) (f : Nat → Nat → Nat) :
    countNonzero (table R C f) = ((Jx.Grid.coords R C).filter (fun p => f p.1 p.2 != 0)).length :=
  Jx.Grid.count_table _ R C f

theorem addAt_mark (blk : G) (k r c i j : Nat) : (addAt blk k r c i j != 0) = true ↔ (i, j) ∈ poseCells blk k r c := by
  rw [bne_iff_ne, addAt_ne_zero_iff]

theorem poseCells_inside {R C : Nat} {blk : G} {k r c : Nat} (hr : r + 3 ≤ R) (hc : c + 3 ≤ C) :
    ∀ p ∈ poseCells blk k r c, p.1 < R ∧ p.2 < C := fun p hp => by
  have := ((mem_poseCells _ _ _ _ _).1 hp).1
  omega

theorem countNonzero_picture (R C : Nat) (blk : G) (k : Nat) {r c : Nat} (hr : r + 3 ≤ R) (hc : c + 3 ≤ C) :
    countNonzero (table R C (addAt blk k r c)) = (poseCells blk k r c).length :=
  (countNonzero_table R C _).trans
    (Jx.Grid.length_filter_coords_mem (addAt_mark blk k r c) (nodup_poseCells ..) (poseCells_inside hr hc))

theorem countNonzero_add {R C : Nat} {g blk : G} {k r c : Nat} (hg : Jx.Grid.shaped g R C = true)
    (hr : r + 3 ≤ R) (hc : c + 3 ≤ C) (hfree : ∀ p ∈ poseCells blk k r c, Jx.Grid.get g 1 p.1 p.2 = 0) :
    countNonzero (table R C (fun i j => Jx.Grid.get g 0 i j + addAt blk k r c i j)) =
      countNonzero g + (poseCells blk k r c).length := by
  conv => rhs; rw [Jx.Grid.eq_table hg 0]
  refine (congrArg countNonzero (Jx.Grid.table_congr fun i hi j hj => ?_)).trans
    (Jx.Grid.count_table_write (v := addAt blk k r c) (addAt_mark blk k r c) (nodup_poseCells ..)
      (poseCells_inside hr hc) (fun p hp => ?_) (fun p hp => (addAt_mark ..).2 hp))
  · rw [add_addAt hg hfree hi hj]
    simp only [bne_iff_ne]
  · have hin := poseCells_inside hr hc p hp
    rw [← Jx.Grid.get_irrel hg 1 0 hin.1 hin.2, hfree p hp]
    rfl

theorem rat_add_div (a b n : Nat) : ((a + b : Nat) : Rat) / (n : Rat) = (a : Rat) / n + (b : Rat) / n := by
  rw [Rat.div_def, Rat.div_def, Rat.div_def, ← Rat.add_mul]; simp

/-- C08, cell-dense, exact arithmetic.  `hbl` (as many blocks as the configuration says) makes the block index `b` a plain
lookup. -/
theorem cellDense_telescopes (cfg : Cfg) (s : State) (b k r c : Nat)
    (hg : Jx.Grid.shaped s.grid cfg.numRows cfg.numCols = true)
    (hbl : s.blocks.length = cfg.numBlocks)
    (hm : s.actionMask = legalMask cfg s) (hl : legal cfg s b k r c) (hcd : cfg.cellDense = true) :
    coveredFraction cfg (step id cfg s (act b k r c)).1 =
      coveredFraction cfg s + ((step id cfg s (act b k r c)).2.reward).sum := by
  obtain ⟨hin, _, _, hfree⟩ := legal_unfold hl
  obtain ⟨hb1, hk, hr, hc⟩ := inSpec_iff.1 hin
  rw [step_reward, legal_mask hm hl, coveredFraction, (step_legal_fields id cfg s b k r c hg hbl hm hl).1,
    countNonzero_add hg hr hc hfree]
  simp only [act, reward, hcd, if_true, expandBlock_pose cfg (by omega : b < s.blocks.length) k hr hc, id, List.sum_cons,
    List.sum_nil, Rat.add_zero, countNonzero_picture _ _ _ k hr hc, coveredFraction]
  exact rat_add_div _ _ _

/-- C08, block-dense, exact arithmetic -/
theorem blockDense_telescopes (cfg : Cfg) (s : State) (b k r c : Nat)
    (hm : s.actionMask = legalMask cfg s) (hl : legal cfg s b k r c) (hcd : cfg.cellDense = false) :
    placedFraction (step id cfg s (act b k r c)).1 =
      placedFraction s + ((step id cfg s (act b k r c)).2.reward).sum := by
  obtain ⟨_, hbp, hunp, _⟩ := legal_unfold hl
  rw [step_reward]
  simp only [placedFraction, step_legal_placed id hm hl, (step_numBlocks id cfg s _).1, Jx.countTrue_set_true hbp hunp, reward, hcd,
    legal_mask hm hl, if_true, id, List.sum_cons,
    List.sum_nil, Rat.add_zero, Bool.false_eq_true, if_false]
  have := rat_add_div (Jx.countTrue s.placed) 1 s.numBlocks
  simpa using this

/-- C08, either reward function -/
theorem objective_telescopes (cfg : Cfg) (s : State) (b k r c : Nat)
    (hg : Jx.Grid.shaped s.grid cfg.numRows cfg.numCols = true)
    (hbl : s.blocks.length = cfg.numBlocks)
    (hm : s.actionMask = legalMask cfg s) (hl : legal cfg s b k r c) :
    objective cfg (step id cfg s (act b k r c)).1 =
      objective cfg s + ((step id cfg s (act b k r c)).2.reward).sum := by
  unfold objective
  cases hcd : cfg.cellDense
  · simp only [Bool.false_eq_true, if_false]
    exact blockDense_telescopes cfg s b k r c hm hl hcd
  · simp only [if_true]
    exact cellDense_telescopes cfg s b k r c hg hbl hm hl hcd

theorem legalMask_congr (cfg : Cfg) {s s' : State} (hg : s'.grid = s.grid) (hb : s'.blocks = s.blocks)
    (hp : s'.placed = s.placed) : legalMask cfg s' = legalMask cfg s := by
  simp only [legalMask, legalB, hg, hb, hp]

theorem objective_congr (cfg : Cfg) {s s' : State} (hg : s'.grid = s.grid) (hp : s'.placed = s.placed)
    (hn : s'.numBlocks = s.numBlocks) : objective cfg s' = objective cfg s := by
  simp only [objective, coveredFraction, placedFraction, hg, hp, hn]

/-- C08: for ANY in-spec action the objective grows by exactly the reward of the step -/
theorem objective_step (cfg : Cfg) (s : State) (b k r c : Nat) (hp : Pre cfg s) (hin : inSpec cfg b k r c = true) :
    objective cfg (step id cfg s (act b k r c)).1 =
      objective cfg s + ((step id cfg s (act b k r c)).2.reward).sum := by
  obtain ⟨hg, hbl, _, _, hm⟩ := hp
  by_cases hl : legal cfg s b k r c
  · exact objective_telescopes cfg s b k r c hg hbl hm hl
  · obtain ⟨h1, h2, _, _, h5, _⟩ := invalid_step id cfg s _ (illegal_mask hm hin hl)
    rw [objective_congr cfg h1 h2 rfl, h5]
    simp only [List.sum_cons, List.sum_nil, Rat.add_zero]

theorem shaped33 {blk : G} (h : Jx.Grid.shaped blk 3 3 = true) :
    ∃ a b c d e f g h i : Nat, blk = [[a, b, c], [d, e, f], [g, h, i]] := by
  rw [Jx.Grid.shaped_iff_mem] at h
  obtain ⟨hl, hr⟩ := h
  obtain ⟨r1, r2, r3, rfl⟩ := Jx.len3 hl
  obtain ⟨a, b, c, rfl⟩ := Jx.len3 (hr r1 (by simp))
  obtain ⟨d, e, f, rfl⟩ := Jx.len3 (hr r2 (by simp))
  obtain ⟨g, h, i, rfl⟩ := Jx.len3 (hr r3 (by simp))
  exact ⟨a, b, c, d, e, f, g, h, i, rfl⟩

theorem coords33 : Jx.Grid.coords 3 3 = [(0,0),(0,1),(0,2),(1,0),(1,1),(1,2),(2,0),(2,1),(2,2)] := by decide

theorem rotateBlock33 (a b c d e f g h i : Nat) (k : Int) :
    rotateBlock [[a, b, c], [d, e, f], [g, h, i]] k =
      if k ≤ 0 then [[a, b, c], [d, e, f], [g, h, i]]
      else if k = 1 then [[g, d, a], [h, e, b], [i, f, c]]
      else if k = 2 then [[i, h, g], [f, e, d], [c, b, a]]
      else [[c, f, i], [b, e, h], [a, d, g]] := rfl

/-- in every pose a 3 × 3 block covers as many cells as it has non-zero entries: rotation only moves the nine entries around,
hence `ac_rfl` -/
theorem poseCells_length {blk : G} (hs : Jx.Grid.shaped blk 3 3 = true) (k r c : Nat) :
    (poseCells blk k r c).length = countNonzero blk := by
  obtain ⟨a, b, c', d, e, f, g, h, i, rfl⟩ := shaped33 hs
  unfold poseCells countNonzero Jx.Grid.count
  rw [List.length_map, coords33, rotateBlock33, ← List.countP_eq_length_filter, ← List.countP_eq_length_filter]
  repeat' split
  all_goals
    simp only [List.countP_cons, List.countP_nil, Jx.Grid.get, List.flatten_cons, List.flatten_nil, List.cons_append,
      List.nil_append, List.getD_cons_zero, List.getD_cons_succ]
    try ac_rfl

theorem state_ext {s t : State} (h1 : s.grid = t.grid) (h2 : s.numBlocks = t.numBlocks)
    (h3 : s.blocks = t.blocks) (h4 : s.actionMask = t.actionMask) (h5 : s.placed = t.placed)
    (h6 : s.stepCount = t.stepCount) : s = t := by
  cases s; cases t; simp_all

/-- the code adds the expanded block to the grid, the rule writes the block's cells: the same as long as the cells of
the pose are empty -/
theorem add_eq_writeBlock (cfg : Cfg) (g blk : G) (k r c : Nat)
    (hg : Jx.Grid.shaped g cfg.numRows cfg.numCols = true)
    (hfree : ∀ p ∈ poseCells blk k r c, Jx.Grid.get g 1 p.1 p.2 = 0) :
    Jx.Grid.table cfg.numRows cfg.numCols (fun i j => Jx.Grid.get g 0 i j + addAt blk k r c i j) =
      writeBlock cfg g blk k r c := by
  refine Jx.Grid.table_congr fun i hi j hj => (add_addAt hg hfree hi hj).trans ?_
  unfold addAt
  by_cases hbox : r ≤ i ∧ i < r + 3 ∧ c ≤ j ∧ j < c + 3 <;> simp [hbox]

theorem step_countTrue_legal (rnd : Rat → Rat) (cfg : Cfg) (s : State) (b k r c : Nat)
    (hm : s.actionMask = legalMask cfg s) (hl : legal cfg s b k r c) :
    Jx.countTrue (step rnd cfg s (act b k r c)).1.placed = Jx.countTrue s.placed + 1 := by
  obtain ⟨_, hbp, hunp, _⟩ := legal_unfold hl
  rw [step_legal_placed rnd hm hl, Jx.countTrue_set_true hbp hunp]

theorem step_countTrue_le (rnd : Rat → Rat) (cfg : Cfg) (s : State) (b k r c : Nat)
    (hm : s.actionMask = legalMask cfg s) (hin : inSpec cfg b k r c = true) :
    Jx.countTrue (step rnd cfg s (act b k r c)).1.placed ≤ Jx.countTrue s.placed + 1 := by
  by_cases hl : legal cfg s b k r c
  · rw [step_countTrue_legal rnd cfg s b k r c hm hl]; omega
  · rw [(invalid_step rnd cfg s _ (illegal_mask hm hin hl)).2.1]; omega

/-- "all blocks placed or `num_blocks` steps taken" (the documented end) is the code's `step_count >= num_blocks`
in every state in which no more blocks are placed than steps were taken -/
theorem done_eq_doc (s' : State) (hpl : s'.placed.length = s'.numBlocks)
    (hc : Jx.countTrue s'.placed ≤ s'.stepCount) :
    (s'.placed.all id || decide (s'.numBlocks ≤ s'.stepCount)) = decide (s'.stepCount ≥ s'.numBlocks) := by
  cases hall : s'.placed.all id
  · simp
  · have := Jx.countTrue_eq_length.2 hall
    have h : s'.numBlocks ≤ s'.stepCount := by omega
    simp [h]

theorem stepL2_snd (rnd : Rat → Rat) (cfg : Cfg) (s : State) (b k r c : Nat) :
    (stepL2 rnd cfg s b k r c).2 =
      (if ((stepL2 rnd cfg s b k r c).1.placed.all id ||
            decide ((stepL2 rnd cfg s b k r c).1.numBlocks ≤ (stepL2 rnd cfg s b k r c).1.stepCount)) = true
       then termination [if legalB cfg s b k r c = true then rewardL2 rnd cfg s b else 0]
              (observe (stepL2 rnd cfg s b k r c).1)
       else transition [if legalB cfg s b k r c = true then rewardL2 rnd cfg s b else 0]
              (observe (stepL2 rnd cfg s b k r c).1)) := by
  unfold stepL2
  rfl

theorem stepL2_fst (rnd : Rat → Rat) (cfg : Cfg) (s : State) (b k r c : Nat) :
    (stepL2 rnd cfg s b k r c).1.grid =
      (if legalB cfg s b k r c = true then writeBlock cfg s.grid (s.blocks.getD b []) k r c else s.grid) ∧
    (stepL2 rnd cfg s b k r c).1.numBlocks = s.numBlocks ∧
    (stepL2 rnd cfg s b k r c).1.blocks = s.blocks ∧
    (stepL2 rnd cfg s b k r c).1.placed = (if legalB cfg s b k r c = true then s.placed.set b true else s.placed) ∧
    (stepL2 rnd cfg s b k r c).1.stepCount = s.stepCount + 1 :=
  ⟨rfl, rfl, rfl, rfl, rfl⟩

theorem stepL2_mask (rnd : Rat → Rat) (cfg : Cfg) (s : State) (b k r c : Nat) :
    (stepL2 rnd cfg s b k r c).1.actionMask = legalMask cfg (stepL2 rnd cfg s b k r c).1 := by
  simp only [stepL2]
  exact (legalMask_congr cfg rfl rfl rfl).symm

theorem step_state_eq (rnd : Rat → Rat) (cfg : Cfg) (s : State) (b k r c : Nat) (hp : Pre cfg s)
    (hin : inSpec cfg b k r c = true) :
    (step rnd cfg s (act b k r c)).1 = (stepL2 rnd cfg s b k r c).1 := by
  have hm' := (step_pre rnd cfg s b k r c hp hin).mask
  obtain ⟨hg, hbl, _, _, hm⟩ := hp
  obtain ⟨g2, n2, b2, p2, c2⟩ := stepL2_fst rnd cfg s b k r c
  have hgp : (step rnd cfg s (act b k r c)).1.grid = (stepL2 rnd cfg s b k r c).1.grid ∧
      (step rnd cfg s (act b k r c)).1.placed = (stepL2 rnd cfg s b k r c).1.placed := by
    rw [g2, p2]
    by_cases hl : legal cfg s b k r c
    · obtain ⟨eg, ep, _⟩ := step_legal_fields rnd cfg s b k r c hg hbl hm hl
      rw [if_pos (show legalB cfg s b k r c = true from hl), if_pos (show legalB cfg s b k r c = true from hl), eg, ep]
      exact ⟨add_eq_writeBlock cfg s.grid _ k r c hg (legal_unfold hl).2.2.2, rfl⟩
    · obtain ⟨eg, ep, _⟩ := invalid_step rnd cfg s _ (illegal_mask hm hin hl)
      rw [if_neg (show ¬ legalB cfg s b k r c = true from hl), if_neg (show ¬ legalB cfg s b k r c = true from hl)]
      exact ⟨eg, ep⟩
  have hbk : (step rnd cfg s (act b k r c)).1.blocks = (stepL2 rnd cfg s b k r c).1.blocks := by
    rw [(step_numBlocks rnd cfg s _).2, b2]
  refine state_ext hgp.1 (by rw [(step_numBlocks rnd cfg s _).1, n2]) hbk ?_ hgp.2 (by rw [step_count, c2])
  rw [hm', stepL2_mask]
  exact (legalMask_congr cfg hgp.1.symm hbk.symm hgp.2.symm).symm

theorem step_reward_eq (rnd : Rat → Rat) (cfg : Cfg) (s : State) (b k r c : Nat) (hp : Pre cfg s)
    (h3 : Jx.Grid.shaped (s.blocks.getD b []) 3 3 = true) (hin : inSpec cfg b k r c = true) :
    reward rnd cfg s (expandBlock cfg (rotateBlock (Jx.getWC s.blocks [] (act b k r c).block) (act b k r c).rot)
        (act b k r c).row (act b k r c).col) (maskAt s.actionMask (act b k r c)) =
      (if legalB cfg s b k r c = true then rewardL2 rnd cfg s b else 0) := by
  obtain ⟨_, hbl, _, _, hm⟩ := hp
  obtain ⟨hb1, hk, hr, hc⟩ := inSpec_iff.1 hin
  have hb : b < s.blocks.length := by omega
  rw [hm, maskAt_legalMask cfg s hin]
  cases hl : legalB cfg s b k r c
  · simp [reward]
  · simp only [act, reward, rewardL2, if_true, expandBlock_pose cfg hb k hr hc,
      countNonzero_picture _ _ _ k hr hc, poseCells_length h3]

/-- C09, L1 = L2: sizes, cached mask, block `b` a 3 × 3 array and no more blocks placed than steps taken; nothing about the
contents of the grid or of the blocks -/
theorem step_eq_stepL2 (rnd : Rat → Rat) (cfg : Cfg) (s : State) (b k r c : Nat) (hp : Pre cfg s)
    (h3 : Jx.Grid.shaped (s.blocks.getD b []) 3 3 = true) (hc : Jx.countTrue s.placed ≤ s.stepCount)
    (hin : inSpec cfg b k r c = true) : step rnd cfg s (act b k r c) = stepL2 rnd cfg s b k r c := by
  have h1 := step_state_eq rnd cfg s b k r c hp hin
  obtain ⟨_, _, hpl', hn', _⟩ := step_pre rnd cfg s b k r c hp hin
  have hc' : Jx.countTrue (step rnd cfg s (act b k r c)).1.placed ≤ (step rnd cfg s (act b k r c)).1.stepCount := by
    have := step_countTrue_le rnd cfg s b k r c hp.mask hin
    rw [step_count]; omega
  apply Prod.ext h1
  rw [step_snd, stepL2_snd, ← h1, step_reward_eq rnd cfg s b k r c hp h3 hin, done_eq_doc _ (hpl'.trans hn'.symm) hc']
  unfold condLast
  rfl

end FlatPack
