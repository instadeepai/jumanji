/-
FlatPack — C01: value bounds of the observation leaves; also the model of `reset` (`resetTimeStep`: the observation of a
generated state) and `BlocksBounded`, the generator fact every C01 theorem assumes.
`observation_spec`: `grid` BoundedArray(int32, 0, num_blocks), `blocks` BoundedArray(int32, 0, num_blocks), `action_mask` bool.
-/
import JumanjiModel.Env.FlatPack.Model
import JumanjiModel.Env.PuzzleBounds
namespace FlatPack
open Jm PzB

def obsBounds (cfg : Cfg) : Table :=
  [("grid", iv 0 (cfg.numBlocks : Int)), ("blocks", iv 0 (cfg.numBlocks : Int)), ("action_mask", iv 0 1)]

def obsLeaves (o : Obs) : Leaves :=
  [("grid", nats2 o.grid), ("blocks", nats3 o.blocks), ("action_mask", bools4 o.actionMask)]

/-- `reset`: the observation of the generated state -/
def resetTimeStep (s : State) : TimeStep Obs := restart (observeL1 s)

/-- generator fact (the blocks are numbered 1 … num_blocks), assumed for the bound of `blocks` and, with
`Feasible`, of `grid` -/
def BlocksBounded (cfg : Cfg) (blocks : List G) : Prop := ∀ blk ∈ blocks, ∀ row ∈ blk, ∀ v ∈ row, v ≤ cfg.numBlocks

instance (cfg : Cfg) (blocks : List G) : Decidable (BlocksBounded cfg blocks) := by unfold BlocksBounded; infer_instance

theorem obs_in_bounds (cfg : Cfg) (o : Obs) (hg : ∀ row ∈ o.grid, ∀ v ∈ row, v ≤ cfg.numBlocks)
    (hb : BlocksBounded cfg o.blocks) : ObsInBounds (obsBounds cfg) (obsLeaves o) :=
  obsInBounds_of_aligned rfl (by simp [obsLeaves]) <|
    Jx.all_cons (allIn_nats2 _ _ hg) <|
    Jx.all_cons (allIn_nats2 _ _ fun row hrow v hv =>
      have ⟨blk, hblk, hrow'⟩ := List.mem_flatten.mp hrow
      hb blk hblk row hrow' v hv) <|
    Jx.all_cons (allIn_bools4 _) Jx.all_nil

end FlatPack
