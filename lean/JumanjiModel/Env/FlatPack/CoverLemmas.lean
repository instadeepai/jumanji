/- FlatPack (C10): soundness of the exact-cover search `coverSearch`: an answer `true` yields a tiling (`IsTiling`). -/
import JumanjiModel.Env.FlatPack.Model
import JumanjiModel.Prim.GridLemmas
namespace FlatPack

/-- a tiling: one candidate cell set per block, inside the grid, pairwise disjoint, together covering it -/
def IsTiling (nr nc : Nat) (cands : List (List (List (Nat × Nat)))) (choice : List (List (Nat × Nat))) : Prop :=
  choice.length = cands.length ∧
  (∀ b, b < cands.length → choice.getD b [] ∈ cands.getD b []) ∧
  (∀ b, b < cands.length → ∀ p ∈ choice.getD b [], p.1 < nr ∧ p.2 < nc) ∧
  (∀ b b', b < b' → b' < cands.length → ∀ p ∈ choice.getD b [], p ∉ choice.getD b' []) ∧
  (∀ i j, i < nr → j < nc → ∃ b, b < cands.length ∧ (i, j) ∈ choice.getD b [])

/-- the search invariant: a successful search from `(covered, used)` tiles the complement of `covered` with the
not-yet-used blocks -/
theorem coverSearch_inv (nr nc : Nat) (cands : List (List (List (Nat × Nat)))) :
    ∀ (fuel : Nat) (covered : List (Nat × Nat)) (used : List Bool),
    coverSearch nr nc cands fuel covered used = true →
    ∃ choice : List (List (Nat × Nat)),
      choice.length = cands.length ∧
      (∀ b, b < cands.length → used.getD b true = false →
        choice.getD b [] ∈ cands.getD b [] ∧
        ∀ p ∈ choice.getD b [], p.1 < nr ∧ p.2 < nc ∧ p ∉ covered) ∧
      (∀ b b', b < b' → b' < cands.length → used.getD b true = false → used.getD b' true = false →
        ∀ p ∈ choice.getD b [], p ∉ choice.getD b' []) ∧
      (∀ i j, i < nr → j < nc →
        (i, j) ∈ covered ∨ ∃ b, b < cands.length ∧ used.getD b true = false ∧ (i, j) ∈ choice.getD b []) := by
  intro fuel
  induction fuel with
  | zero => intro covered used h; simp [coverSearch] at h
  | succ fuel ih =>
    intro covered used h
    unfold coverSearch at h
    split at h
    · -- no uncovered cell
      rename_i hnone
      rw [List.find?_eq_none] at hnone
      refine ⟨List.replicate cands.length [], by simp, ?_, ?_, ?_⟩
      · -- every block is used: `used.getD b true` is an entry of `used` or the default, `true` either way
        intro b hb hu
        rw [List.all_eq_true] at h
        rcases Jx.getD_mem_or used true b with hm | he
        · exact Bool.noConfusion ((h _ hm).symm.trans hu)
        · exact Bool.noConfusion (he.symm.trans hu)
      · intro b b' _ _ _ _ p hp
        rw [Jx.getD_replicate_self] at hp
        cases hp
      · intro i j hi hj
        left
        have := hnone (i, j) (Jx.Grid.mem_coords.2 ⟨hi, hj⟩)
        simpa using this
    · -- fill `cell`
      rename_i cell hcell
      rw [List.any_eq_true] at h
      obtain ⟨b, hbr, hb⟩ := h
      rw [List.mem_range] at hbr
      rw [Bool.and_eq_true, List.any_eq_true] at hb
      obtain ⟨hub, cs, hcs, hrest⟩ := hb
      simp only [Bool.and_eq_true] at hrest
      obtain ⟨⟨_, hall⟩, hrec⟩ := hrest
      rw [List.all_eq_true] at hall
      have hub' : used.getD b true = false := by simpa using hub
      obtain ⟨ch, hlen, hmem, hdisj, hcov⟩ := ih _ _ hrec
      have hcsin : ∀ p ∈ cs, p.1 < nr ∧ p.2 < nc ∧ p ∉ covered := by
        intro p hp
        have := hall p hp
        simpa [and_assoc] using this
      have hbl : b < ch.length := by omega
      have hkeep : ∀ {b'}, b ≠ b' → used.getD b' true = false → (used.set b true).getD b' true = false :=
        fun hne h => (Jx.getD_set_ne used true true hne).trans h
      refine ⟨ch.set b cs, by simp [hlen], ?_, ?_, ?_⟩
      · intro b' hb' hu'
        by_cases hbb : b = b'
        · subst hbb
          rw [Jx.getD_set_self _ _ hbl]
          exact ⟨hcs, hcsin⟩
        · rw [Jx.getD_set_ne _ _ _ hbb]
          obtain ⟨h1, h2⟩ := hmem b' hb' (hkeep hbb hu')
          refine ⟨h1, ?_⟩
          intro p hp
          obtain ⟨ha, hb2, hc⟩ := h2 p hp
          exact ⟨ha, hb2, fun hpc => hc (List.mem_append_right _ hpc)⟩
      · intro b1 b2 hlt hb2 hu1 hu2 p hp
        by_cases h1 : b = b1
        · subst h1
          have h2 : b ≠ b2 := by omega
          rw [Jx.getD_set_self _ _ hbl] at hp
          rw [Jx.getD_set_ne _ _ _ h2]
          intro hq
          exact ((hmem b2 hb2 (hkeep h2 hu2)).2 p hq).2.2 (List.mem_append_left _ hp)
        · rw [Jx.getD_set_ne _ _ _ h1] at hp
          by_cases h2 : b = b2
          · subst h2
            rw [Jx.getD_set_self _ _ hbl]
            intro hq
            exact ((hmem b1 (by omega) (hkeep h1 hu1)).2 p hp).2.2 (List.mem_append_left _ hq)
          · rw [Jx.getD_set_ne _ _ _ h2]
            exact hdisj b1 b2 hlt hb2 (hkeep h1 hu1) (hkeep h2 hu2) p hp
      · intro i j hi hj
        rcases hcov i j hi hj with hc | ⟨b', hb', hu', hp'⟩
        · rcases List.mem_append.1 hc with hc | hc
          · right
            refine ⟨b, hbr, hub', ?_⟩
            rw [Jx.getD_set_self _ _ hbl]
            exact hc
          · exact Or.inl hc
        · right
          rw [Jx.getD_set_default] at hu'
          have hne : b ≠ b' := by intro h; simp [h] at hu'
          simp only [hne, if_false] at hu'
          refine ⟨b', hb', hu', ?_⟩
          rw [Jx.getD_set_ne _ _ _ hne]
          exact hp'

theorem coverSearch_sound (nr nc : Nat) (cands : List (List (List (Nat × Nat)))) (fuel : Nat)
    (h : coverSearch nr nc cands fuel [] (List.replicate cands.length false) = true) :
    ∃ choice, IsTiling nr nc cands choice := by
  obtain ⟨ch, hlen, hmem, hdisj, hcov⟩ := coverSearch_inv nr nc cands fuel _ _ h
  have hu : ∀ b, b < cands.length → (List.replicate cands.length false).getD b true = false := by
    intro b hb
    simp [List.getD_eq_getElem?_getD, hb]
  refine ⟨ch, hlen, ?_, ?_, ?_, ?_⟩
  · intro b hb; exact (hmem b hb (hu b hb)).1
  · intro b hb p hp
    obtain ⟨h1, h2, _⟩ := (hmem b hb (hu b hb)).2 p hp
    exact ⟨h1, h2⟩
  · intro b b' hlt hb' p hp
    exact hdisj b b' hlt hb' (hu b (by omega)) (hu b' hb') p hp
  · intro i j hi hj
    rcases hcov i j hi hj with hc | ⟨b, hb, _, hp⟩
    · simp at hc
    · exact ⟨b, hb, hp⟩

/-- the certificates are not vacuous: one full 3 × 3 block tiles the 3 × 3 grid -/
example : tilesByActions ⟨3,3,1,true⟩ ⟨Jx.Grid.mk 3 3 0, 1, [[[1,1,1],[1,1,1],[1,1,1]]], [], [false], 0⟩ = true := by
  decide

example : tilesFree ⟨3,3,1,true⟩ ⟨Jx.Grid.mk 3 3 0, 1, [[[1,1,1],[1,1,1],[1,1,1]]], [], [false], 0⟩ = true := by
  decide

/-- the blocks of `ToyFlatPackGeneratorNoRotation` (5 × 5) -/
example : tilesByActions ⟨5,5,4,true⟩ ⟨Jx.Grid.mk 5 5 0, 4,
    [[[1,1,1],[1,1,0],[0,1,0]], [[0,2,2],[2,2,2],[0,0,2]], [[3,0,0],[3,3,0],[3,3,3]], [[4,4,0],[4,4,4],[0,4,4]]],
    [], [false,false,false,false], 0⟩ = true := by
  decide +kernel

example : tilesFree ⟨5,5,4,true⟩ ⟨Jx.Grid.mk 5 5 0, 4,
    [[[1,1,1],[1,1,0],[0,1,0]], [[0,2,2],[2,2,2],[0,0,2]], [[3,0,0],[3,3,0],[3,3,3]], [[4,4,0],[4,4,4],[0,4,4]]],
    [], [false,false,false,false], 0⟩ = true := by
  decide +kernel

end FlatPack
