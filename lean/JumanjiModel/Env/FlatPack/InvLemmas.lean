/- FlatPack: the episode invariant `Inv` (feasible, cached mask = legal moves; `Pre` and feasibility on top of it) is kept by
every in-spec step; counting cells: a feasible state with every block placed is a complete solution. -/
import JumanjiModel.Env.FlatPack.FeasLemmas
namespace FlatPack
open Jm

def Inv (cfg : Cfg) (s : State) : Prop := Feasible cfg s ∧ s.actionMask = legalMask cfg s

theorem feasibleB_congr (cfg : Cfg) {s s' : State} (hg : s'.grid = s.grid) (hb : s'.blocks = s.blocks)
    (hp : s'.placed = s.placed) (hn : s'.numBlocks = s.numBlocks) : feasibleB cfg s' = feasibleB cfg s := by
  simp only [feasibleB, blocksOK, blockSitsInGrid, hg, hb, hp, hn]

theorem Inv.pre {cfg : Cfg} {s : State} (h : Inv cfg s) : Pre cfg s :=
  have f := (feasible_iff cfg s).1 h.1
  ⟨f.grid, f.blocksLen, f.placedLen, f.nb_eq, h.2⟩

theorem step_inv (rnd : Rat → Rat) (cfg : Cfg) (s : State) (b k r c : Nat) (hi : Inv cfg s)
    (hin : inSpec cfg b k r c = true) : Inv cfg (step rnd cfg s (act b k r c)).1 := by
  refine ⟨?_, (step_pre rnd cfg s b k r c hi.pre hin).mask⟩
  by_cases hl : legal cfg s b k r c
  · exact step_feasible rnd cfg s b k r c hi.1 hi.2 hl
  · obtain ⟨h1, h2, _⟩ := invalid_step rnd cfg s _ (illegal_mask hi.2 hin hl)
    exact (feasibleB_congr cfg h1 rfl h2 rfl).trans hi.1

theorem nodup_cellsWith (cfg : Cfg) (g : G) (v : Nat) : (cellsWith cfg g v).Nodup :=
  List.Pairwise.filter _ (Jx.Grid.nodup_coords _ _)

theorem feasible_count (cfg : Cfg) (s : State) (hf : Feasible cfg s) (hall : s.placed.all id = true) :
    countNonzero s.grid = (s.blocks.map countNonzero).sum := by
  obtain ⟨hbl, hpl, _, hblk, hnd, hg, h1, _, h4⟩ := (feasible_iff cfg s).1 hf
  have hplaced : ∀ b < cfg.numBlocks, s.placed.getD b false = true := by
    intro b hb
    have hb' : b < s.placed.length := by omega
    simp only [List.all_eq_true, id] at hall
    exact hall _ (Jx.getD_mem false hb')
  have hcells : ∀ blk ∈ s.blocks, (cellsWith cfg s.grid (blockValue blk)).length = countNonzero blk := by
    intro blk hmem
    obtain ⟨b, hb, rfl⟩ := List.getElem_of_mem hmem
    have e : s.blocks.getD b [] = s.blocks[b] := by
      simp [List.getD_eq_getElem?_getD, hb]
    obtain ⟨k, r, c, _, hsame⟩ := h1 b (by omega) (hplaced b (by omega))
    rw [e] at hsame
    rw [((List.perm_ext_iff_of_nodup (nodup_cellsWith _ _ _) (nodup_poseCells _ _ _ _)).2 hsame).length_eq]
    exact poseCells_length (hblk _ hmem).1 k r c
  have h4' := h4
  rw [Jx.Grid.forall_mem_iff_get hg 0] at h4'
  have hstep1 : countNonzero s.grid =
      ((Jx.Grid.coords cfg.numRows cfg.numCols).filter
        (fun p => (s.blocks.map blockValue).contains (Jx.Grid.get s.grid 0 p.1 p.2))).length := by
    conv => lhs; rw [Jx.Grid.eq_table hg 0]
    rw [countNonzero_table]
    congr 1
    apply List.filter_congr
    intro p hp
    rw [Jx.Grid.mem_coords] at hp
    rw [Bool.eq_iff_iff]
    simp only [bne_iff_ne, ne_eq, List.contains_iff_mem, List.mem_map]
    constructor
    · intro hne
      rcases h4' p.1 hp.1 p.2 hp.2 with h | ⟨b, hb, _, hv⟩
      · exact absurd h hne
      · exact ⟨_, Jx.getD_mem [] (by omega : b < s.blocks.length), hv⟩
    · rintro ⟨blk, hmem, hv⟩ h0
      have := blockValue_pos (hblk blk hmem).2
      omega
  rw [hstep1, Jx.count_by_value _ _ _ hnd, List.map_map]
  exact congrArg List.sum (List.map_congr_left hcells)

/-- C06 (completion): feasible + every block placed + the blocks have as many cells as the grid
⟹ complete solution (no empty cell) -/
theorem complete_is_solution (cfg : Cfg) (s : State) (hf : Feasible cfg s) (hall : s.placed.all id = true)
    (hsum : (s.blocks.map countNonzero).foldl (· + ·) 0 = cfg.numRows * cfg.numCols) : IsSolution cfg s := by
  refine ⟨hf, hall, ?_⟩
  have hg := ((feasible_iff cfg s).1 hf).grid
  have hcnt := feasible_count cfg s hf hall
  rw [List.sum_eq_foldl_nat, hsum, ← Jx.Grid.shaped_flatten_length hg] at hcnt
  unfold countNonzero Jx.Grid.count at hcnt
  rw [List.length_filter_eq_length_iff] at hcnt
  simp only [List.all_eq_true]
  intro row hrow v hv
  exact hcnt v (List.mem_flatten.mpr ⟨row, hrow, hv⟩)

end FlatPack
