/- FlatPack — C01: the observation bounds, obtained from the hard-constraint invariant `Feasible` of C06. -/
import JumanjiModel.Env.FlatPack.Bounds
import JumanjiModel.Env.FlatPack.Lemmas
import JumanjiModel.Env.FlatPack.MaskLemmas
import JumanjiModel.Env.FlatPack.InvLemmas
namespace FlatPack
open Jm PzB

theorem blockValue_le (cfg : Cfg) (blocks : List G) (hb : BlocksBounded cfg blocks) (b : Nat) :
    blockValue (blocks.getD b []) ≤ cfg.numBlocks := by
  unfold blockValue gridMax
  rw [Jx.foldl_max_le]
  refine ⟨Nat.zero_le _, ?_⟩
  intro v hv
  obtain ⟨row, hrow, hv'⟩ := List.mem_flatten.mp hv
  rw [List.getD_eq_getElem?_getD] at hrow
  cases hx : blocks[b]? with
  | none => rw [hx] at hrow; cases hrow
  | some blk =>
    rw [hx] at hrow
    exact hb blk (List.mem_of_getElem? hx) row hrow v hv'

/-- in a feasible state every grid cell is empty or carries the number of a placed block, hence at most `num_blocks` -/
theorem grid_le_of_feasible (cfg : Cfg) (s : State) (hf : Feasible cfg s) (hb : BlocksBounded cfg s.blocks) :
    ∀ row ∈ s.grid, ∀ v ∈ row, v ≤ cfg.numBlocks := by
  intro row hrow v hv
  rcases ((feasible_iff cfg s).1 hf).cells row hrow v hv with h | ⟨b, _, _, h⟩
  · omega
  · rw [← h]; exact blockValue_le cfg s.blocks hb b

theorem observe_in_bounds (cfg : Cfg) (s : State) (hf : Feasible cfg s) (hb : BlocksBounded cfg s.blocks) :
    ObsInBounds (obsBounds cfg) (obsLeaves (observe s)) :=
  obs_in_bounds cfg _ (grid_le_of_feasible cfg s hf hb) hb

end FlatPack
