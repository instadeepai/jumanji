/- FlatPack (C06): `Feasible` spelled out as `FeasP`; a legal step and the fresh instance are feasible (cell-wise
description of the new grid).  Also `legalMask_fresh` (C10). -/
import JumanjiModel.Env.FlatPack.StepLemmas
namespace FlatPack
open Jm
open Jx.Grid (table)

theorem mem_rotateBlock (blk : G) (k : Int) (v : Nat) (h : v ∈ List.flatten (rotateBlock blk k)) : v ∈ List.flatten blk := by
  unfold rotateBlock at h
  split at h
  · exact h
  · split at h
    · rw [Jx.Grid.mem_map_reverse_flatten] at h; exact Jx.Grid.mem_transpose_flatten _ _ h
    · split at h
      · rw [Jx.Grid.mem_map_reverse_flatten, Jx.Grid.mem_reverse_flatten] at h; exact h
      · rw [Jx.Grid.mem_reverse_flatten] at h; exact Jx.Grid.mem_transpose_flatten _ _ h

theorem gridMax_ge (g : G) (v : Nat) (h : v ∈ List.flatten g) : v ≤ gridMax g := by
  have := (Jx.foldl_max_le (List.flatten g) 0 (gridMax g)).1 (Nat.le_refl _)
  exact this.2 v h

theorem rot_uniform {blk : G} (hu : blockUniform blk = true) (k : Int) (x y : Nat) :
    Jx.Grid.get (rotateBlock blk k) 0 x y = 0 ∨ Jx.Grid.get (rotateBlock blk k) 0 x y = blockValue blk := by
  rcases Jx.Grid.get_mem_or_default (rotateBlock blk k) 0 x y with h | h
  · exact Or.inl h
  · have hv := mem_rotateBlock _ _ _ h
    simp only [blockUniform, Bool.and_eq_true, decide_eq_true_eq, List.all_eq_true, Bool.or_eq_true,
      beq_iff_eq] at hu
    obtain ⟨row, hrow, hin⟩ := List.mem_flatten.mp hv
    exact hu.2 row hrow _ hin

theorem blockValue_pos {blk : G} (hu : blockUniform blk = true) : 0 < blockValue blk := by
  simp only [blockUniform, Bool.and_eq_true, decide_eq_true_eq] at hu
  exact hu.1

theorem mem_poses (cfg : Cfg) (k r c : Nat) :
    (k, r, c) ∈ poses cfg ↔ k < 4 ∧ r < cfg.numRows - 2 ∧ c < cfg.numCols - 2 := by
  unfold poses
  simp only [List.mem_flatMap, List.mem_map, List.mem_range, Prod.mk.injEq]
  constructor
  · rintro ⟨k', hk, r', hr, c', hc, rfl, rfl, rfl⟩
    exact ⟨hk, hr, hc⟩
  · rintro ⟨hk, hr, hc⟩
    exact ⟨k, hk, r, hr, c, hc, rfl, rfl, rfl⟩

theorem mem_cellsWith (cfg : Cfg) (g : G) (v : Nat) (p : Nat × Nat) :
    p ∈ cellsWith cfg g v ↔ (p.1 < cfg.numRows ∧ p.2 < cfg.numCols) ∧ Jx.Grid.get g 0 p.1 p.2 = v := by
  unfold cellsWith
  simp only [List.mem_filter, Jx.Grid.mem_coords, beq_iff_eq]

theorem sameCells_iff (xs ys : List (Nat × Nat)) :
    sameCells xs ys = true ↔ ∀ p, p ∈ xs ↔ p ∈ ys := by
  unfold sameCells
  simp only [Bool.and_eq_true, List.all_eq_true, List.contains_iff_mem]
  constructor
  · rintro ⟨h1, h2⟩ p
    exact ⟨h1 p, h2 p⟩
  · intro H
    exact ⟨fun p hp => (H p).1 hp, fun p hp => (H p).2 hp⟩

/-- what `feasibleB` tests, spelled out -/
structure FeasP (cfg : Cfg) (g : G) (blocks : List G) (placed : List Bool) (nb : Nat) : Prop where
  blocksLen : blocks.length = cfg.numBlocks
  placedLen : placed.length = cfg.numBlocks
  nb_eq : nb = cfg.numBlocks
  blockOK : ∀ blk ∈ blocks, Jx.Grid.shaped blk 3 3 = true ∧ blockUniform blk = true
  nodup : (blocks.map blockValue).Nodup
  grid : Jx.Grid.shaped g cfg.numRows cfg.numCols = true
  sits : ∀ b < cfg.numBlocks, placed.getD b false = true →
    ∃ k r c, (k < 4 ∧ r < cfg.numRows - 2 ∧ c < cfg.numCols - 2) ∧
      ∀ p, p ∈ cellsWith cfg g (blockValue (blocks.getD b [])) ↔ p ∈ poseCells (blocks.getD b []) k r c
  absent : ∀ b < cfg.numBlocks, placed.getD b false = false →
    ∀ p, p ∉ cellsWith cfg g (blockValue (blocks.getD b []))
  cells : ∀ row ∈ g, ∀ v ∈ row, v = 0 ∨
    ∃ b < cfg.numBlocks, placed.getD b false = true ∧ blockValue (blocks.getD b []) = v

theorem blocksOK_iff (cfg : Cfg) (s : State) : blocksOK cfg s = true ↔
    (s.blocks.length = cfg.numBlocks ∧ s.placed.length = cfg.numBlocks ∧ s.numBlocks = cfg.numBlocks ∧
    (∀ blk ∈ s.blocks, Jx.Grid.shaped blk 3 3 = true ∧ blockUniform blk = true) ∧
    (s.blocks.map blockValue).Nodup) := by
  simp only [blocksOK, Bool.and_eq_true, beq_iff_eq, List.all_eq_true, decide_eq_true_eq, and_assoc]

theorem blockSitsInGrid_iff (cfg : Cfg) (s : State) (b : Nat) : blockSitsInGrid cfg s b = true ↔
    ∃ k r c, (k < 4 ∧ r < cfg.numRows - 2 ∧ c < cfg.numCols - 2) ∧
      ∀ p, p ∈ cellsWith cfg s.grid (blockValue (s.blocks.getD b [])) ↔ p ∈ poseCells (s.blocks.getD b []) k r c := by
  simp only [blockSitsInGrid, List.any_eq_true, sameCells_iff]
  constructor
  · rintro ⟨⟨k, r, c⟩, hmem, h⟩
    exact ⟨k, r, c, (mem_poses cfg k r c).1 hmem, h⟩
  · rintro ⟨k, r, c, hb, h⟩
    exact ⟨(k, r, c), (mem_poses cfg k r c).2 hb, h⟩

theorem feasible_iff (cfg : Cfg) (s : State) :
    Feasible cfg s ↔ FeasP cfg s.grid s.blocks s.placed s.numBlocks := by
  unfold Feasible feasibleB
  simp only [Bool.and_eq_true, blocksOK_iff, List.all_eq_true, List.mem_range, Bool.or_eq_true, beq_iff_eq,
    List.any_eq_true]
  constructor
  · rintro ⟨⟨⟨⟨h1, h2, h3, h4, h5⟩, hg⟩, hC⟩, hD⟩
    refine ⟨h1, h2, h3, h4, h5, hg, fun b hb hp => ?_, fun b hb hp => ?_, hD⟩
    · have := hC b hb
      rwa [if_pos hp, blockSitsInGrid_iff] at this
    · have := hC b hb
      rw [hp] at this
      simp only [Bool.false_eq_true, if_false, List.isEmpty_iff] at this
      rw [this]
      exact fun p => List.not_mem_nil
  · rintro ⟨h1, h2, h3, h4, h5, hg, hC1, hC2, hD⟩
    refine ⟨⟨⟨⟨h1, h2, h3, h4, h5⟩, hg⟩, fun b hb => ?_⟩, hD⟩
    cases hp : s.placed.getD b false
    · simp only [Bool.false_eq_true, if_false, List.isEmpty_iff]
      exact List.eq_nil_iff_forall_not_mem.2 (hC2 b hb hp)
    · simp only [if_true]
      rw [blockSitsInGrid_iff]
      exact hC1 b hb hp

theorem new_cell {cfg : Cfg} {g blk : G} {k r c : Nat}
    (hg : Jx.Grid.shaped g cfg.numRows cfg.numCols = true) (hu : blockUniform blk = true)
    (hfree : ∀ p ∈ poseCells blk k r c, Jx.Grid.get g 1 p.1 p.2 = 0)
    (p : Nat × Nat) (hi : p.1 < cfg.numRows) (hj : p.2 < cfg.numCols) :
    Jx.Grid.get g 0 p.1 p.2 + addAt blk k r c p.1 p.2 =
      if p ∈ poseCells blk k r c then blockValue blk else Jx.Grid.get g 0 p.1 p.2 := by
  rw [add_addAt hg hfree hi hj]
  by_cases hp : p ∈ poseCells blk k r c
  · obtain ⟨hbox, hne⟩ := (mem_poseCells _ _ _ _ _).1 hp
    rw [if_pos hp, if_pos (addAt_ne_zero_iff.2 hp), addAt, if_pos hbox]
    exact (rot_uniform hu _ _ _).resolve_left hne
  · rw [if_neg hp, if_neg (mt addAt_ne_zero_iff.1 hp)]

theorem getD_set_mono {l : List Bool} {b b' : Nat} (hb : b < l.length) (h : l.getD b' false = true) :
    (l.set b true).getD b' false = true := by
  by_cases e : b' = b
  · subst e; exact Jx.getD_set_self true false hb
  · rw [Jx.getD_set_ne _ true false (Ne.symm e)]; exact h

theorem blockValue_ne {blocks : List G} (hnd : (blocks.map blockValue).Nodup) {b b' : Nat}
    (hb : b < blocks.length) (hb' : b' < blocks.length) (hne : b' ≠ b) :
    blockValue (blocks.getD b' []) ≠ blockValue (blocks.getD b []) := by
  have key := (List.pairwise_iff_getElem.1 hnd)
  have e1 : blockValue (blocks.getD b []) = (blocks.map blockValue)[b]'(by simpa using hb) := by
    simp [List.getD_eq_getElem?_getD, hb]
  have e2 : blockValue (blocks.getD b' []) = (blocks.map blockValue)[b']'(by simpa using hb') := by
    simp [List.getD_eq_getElem?_getD, hb']
  rw [e1, e2]
  rcases Nat.lt_or_gt_of_ne hne with h | h
  · exact key b' b _ _ h
  · exact fun e => key b b' _ _ h e.symm

theorem mem_cellsWith_add {cfg : Cfg} {g blk : G} {k r c : Nat}
    (hg : Jx.Grid.shaped g cfg.numRows cfg.numCols = true) (hu : blockUniform blk = true)
    (hr : r + 3 ≤ cfg.numRows) (hc : c + 3 ≤ cfg.numCols)
    (hfree : ∀ p ∈ poseCells blk k r c, Jx.Grid.get g 1 p.1 p.2 = 0) {v : Nat} (hv : 0 < v) (p : Nat × Nat) :
    p ∈ cellsWith cfg (table cfg.numRows cfg.numCols (fun i j => Jx.Grid.get g 0 i j + addAt blk k r c i j)) v ↔
      (p ∈ poseCells blk k r c ∧ blockValue blk = v) ∨ p ∈ cellsWith cfg g v := by
  have hnew : ∀ hb : p.1 < cfg.numRows ∧ p.2 < cfg.numCols,
      Jx.Grid.get (table cfg.numRows cfg.numCols (fun i j => Jx.Grid.get g 0 i j + addAt blk k r c i j)) 0 p.1 p.2 =
        if p ∈ poseCells blk k r c then blockValue blk else Jx.Grid.get g 0 p.1 p.2 :=
    fun hb => (Jx.Grid.get_table _ _ _ _ hb.1 hb.2).trans (new_cell hg hu hfree p hb.1 hb.2)
  rw [mem_cellsWith, mem_cellsWith]
  by_cases hp : p ∈ poseCells blk k r c
  · have hbox := ((mem_poseCells _ _ _ _ _).1 hp).1
    have hb : p.1 < cfg.numRows ∧ p.2 < cfg.numCols := by omega
    have h0 := hfree p hp
    rw [Jx.Grid.get_irrel hg 1 0 hb.1 hb.2] at h0
    rw [hnew hb, if_pos hp, h0]
    exact ⟨fun h => Or.inl ⟨hp, h.2⟩, fun h => h.elim (fun h => ⟨hb, h.2⟩) (fun h => by omega)⟩
  · constructor
    · rintro ⟨hb, e⟩
      rw [hnew hb, if_neg hp] at e
      exact Or.inr ⟨hb, e⟩
    · rintro (h | ⟨hb, e⟩)
      · exact absurd h.1 hp
      · rw [hnew hb, if_neg hp]
        exact ⟨hb, e⟩

theorem feasP_step {cfg : Cfg} {grid : G} {blocks : List G} {placed : List Bool} {nb : Nat} {b k r c : Nat}
    (hf : FeasP cfg grid blocks placed nb)
    (hin : inSpec cfg b k r c = true) (hunp : placed.getD b false = false)
    (hfree : ∀ p ∈ poseCells (blocks.getD b []) k r c, Jx.Grid.get grid 1 p.1 p.2 = 0) :
    FeasP cfg (table cfg.numRows cfg.numCols (fun i j => Jx.Grid.get grid 0 i j + addAt (blocks.getD b []) k r c i j))
      blocks (placed.set b true) nb := by
  obtain ⟨hb1, hk, hr, hc⟩ := inSpec_iff.1 hin
  have hbb : b < blocks.length := by have := hf.blocksLen; omega
  have hbp : b < placed.length := by have := hf.placedLen; omega
  have hu := (hf.blockOK _ (Jx.getD_mem [] hbb)).2
  have hlt : ∀ {b'}, b' < cfg.numBlocks → b' < blocks.length := fun h => hf.blocksLen ▸ h
  have hcells := fun b' (hb' : b' < cfg.numBlocks) =>
    mem_cellsWith_add hf.grid hu hr hc hfree (blockValue_pos (hf.blockOK _ (Jx.getD_mem [] (hlt hb'))).2)
  have hne : ∀ {b'}, b' < cfg.numBlocks → b' ≠ b →
      blockValue (blocks.getD b []) ≠ blockValue (blocks.getD b' []) :=
    fun hb' e h => blockValue_ne hf.nodup hbb (hlt hb') e h.symm
  refine ⟨hf.blocksLen, by simpa using hf.placedLen, hf.nb_eq, hf.blockOK, hf.nodup, Jx.Grid.shaped_table _ _ _, ?_, ?_, ?_⟩
  · intro b' hb' hp'
    by_cases e : b' = b
    · subst e
      refine ⟨k, r, c, ⟨hk, by omega, by omega⟩, fun p => ?_⟩
      rw [hcells b' hb' p]
      exact ⟨fun h => h.elim (·.1) (fun h => absurd h (hf.absent b' hb1 hunp p)), fun h => Or.inl ⟨h, rfl⟩⟩
    · rw [Jx.getD_set_ne _ true false (Ne.symm e)] at hp'
      obtain ⟨k', r', c', hb, h⟩ := hf.sits b' hb' hp'
      refine ⟨k', r', c', hb, fun p => ?_⟩
      rw [hcells b' hb' p, ← h p]
      exact ⟨fun h => h.elim (fun h => absurd h.2 (hne hb' e)) id, Or.inr⟩
  · intro b' hb' hp' p
    have e : b' ≠ b := by
      rintro rfl
      rw [Jx.getD_set_self true false hbp] at hp'
      exact absurd hp' (by decide)
    rw [Jx.getD_set_ne _ true false (Ne.symm e)] at hp'
    rw [hcells b' hb' p]
    rintro (h | h)
    · exact hne hb' e h.2
    · exact hf.absent b' hb' hp' p h
  · rw [Jx.Grid.forall_mem_table]
    intro i hi j hj
    rw [new_cell hf.grid hu hfree (i, j) hi hj]
    by_cases hp : (i, j) ∈ poseCells (blocks.getD b []) k r c
    · rw [if_pos hp]
      exact Or.inr ⟨b, hb1, Jx.getD_set_self true false hbp, rfl⟩
    · rw [if_neg hp]
      have h4 := hf.cells
      rw [Jx.Grid.forall_mem_iff_get hf.grid 0] at h4
      rcases h4 i hi j hj with h | ⟨b', hb', hpl', hv⟩
      · exact Or.inl h
      · exact Or.inr ⟨b', hb', getD_set_mono hbp hpl', hv⟩

/-- C06: legal play keeps the state feasible -/
theorem step_feasible (rnd : Rat → Rat) (cfg : Cfg) (s : State) (b k r c : Nat)
    (hf : Feasible cfg s) (hm : s.actionMask = legalMask cfg s)
    (hl : legal cfg s b k r c) : Feasible cfg (step rnd cfg s (act b k r c)).1 := by
  rw [feasible_iff] at hf ⊢
  obtain ⟨hin, hbp, hunp, hfree⟩ := legal_unfold hl
  obtain ⟨eg, ep, eb, en⟩ := step_legal_fields rnd cfg s b k r c hf.grid hf.blocksLen hm hl
  rw [eg, ep, eb, en]
  exact feasP_step hf hin hunp hfree

/-- C06: the fresh instance is feasible -/
theorem fresh_feasible (cfg : Cfg) (s : State) (hb : blocksOK cfg s = true)
    (hg : s.grid = Jx.Grid.mk cfg.numRows cfg.numCols 0) (hp : s.placed = List.replicate cfg.numBlocks false) :
    Feasible cfg s := by
  rw [feasible_iff]
  obtain ⟨hbl, hpl, hnb, hblk, hnd⟩ := (blocksOK_iff cfg s).1 hb
  rw [hg, hp]
  refine ⟨hbl, by simp, hnb, hblk, hnd, Jx.Grid.shaped_mk _ _ _, ?_, ?_, ?_⟩
  · intro b hb1 h
    simp [List.getD_eq_getElem?_getD, hb1] at h
  · intro b hb1 _ p hmem
    obtain ⟨hin, hv⟩ := (mem_cellsWith _ _ _ _).1 hmem
    rw [Jx.Grid.get_mk _ _ _ _ hin.1 hin.2] at hv
    have := blockValue_pos (hblk _ (Jx.getD_mem [] (by omega : b < s.blocks.length))).2
    omega
  · intro row hrow v hv
    simp only [Jx.Grid.mk, List.mem_replicate] at hrow
    rw [hrow.2, List.mem_replicate] at hv
    exact Or.inl hv.2

theorem legalMask_fresh (cfg : Cfg) (s : State) (hg : s.grid = Jx.Grid.mk cfg.numRows cfg.numCols 0)
    (hp : s.placed = List.replicate cfg.numBlocks false) :
    legalMask cfg s = List.replicate cfg.numBlocks (List.replicate 4
      (List.replicate (cfg.numRows - 2) (List.replicate (cfg.numCols - 2) true))) := by
  simp only [legalMask, List.eq_replicate_iff, List.length_map, List.length_range, List.mem_map, List.mem_range,
    true_and, forall_exists_index, and_imp, forall_apply_eq_imp_iff₂]
  intro b hb k hk r hr c hc
  have hin : inSpec cfg b k r c = true := by
    simp only [inSpec, Bool.and_eq_true, decide_eq_true_eq]
    omega
  simp only [legalB, hin, hp, hg, Jx.getD_replicate false true hb, Bool.true_and, Bool.not_false, List.all_eq_true, cellFree, beq_iff_eq]
  intro p hp
  rw [mem_poseCells] at hp
  exact Jx.Grid.get_mk _ _ _ _ (by omega) (by omega)

end FlatPack
