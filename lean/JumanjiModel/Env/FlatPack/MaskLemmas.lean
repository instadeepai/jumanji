/- FlatPack (C04): the mask the implementation computes is the table of legal moves.  Grids are compared as tables of a
function (`Jx.Grid.table`); the picture a pose adds to the grid is `table … (addAt …)`, non-zero exactly on `poseCells`. -/
import JumanjiModel.Env.FlatPack.Lemmas
import JumanjiModel.Prim.Stamp
namespace FlatPack
open Jx.Grid

theorem dsStart_nat {n r : Nat} (h : r + 3 ≤ n) : dsStart n 3 (r : Int) = r := by
  unfold dsStart Jx.wrapIdx
  simp only []
  repeat' split
  all_goals omega

theorem gridMax_le_iff (x : G) (k : Nat) :
    gridMax x ≤ k ↔ ∀ row ∈ x, ∀ v ∈ row, v ≤ k := by
  unfold gridMax
  rw [Jx.foldl_max_le]
  simp only [Nat.zero_le, true_and, List.mem_flatten]
  constructor
  · intro H row hrow v hv
    exact H v ⟨row, hrow, hv⟩
  · rintro H v ⟨row, hrow, hv⟩
    exact H row hrow v hv

/-- the entry the chosen pose adds at `(i, j)` -/
def addAt (blk : G) (k r c i j : Nat) : Nat :=
  if r ≤ i ∧ i < r + 3 ∧ c ≤ j ∧ j < c + 3 then Jx.Grid.get (rotateBlock blk (k : Int)) 0 (i - r) (j - c) else 0

theorem expandBlock_pose (cfg : Cfg) {blocks : List G} {b : Nat} (hb : b < blocks.length) (k : Nat) {r c : Nat}
    (hr : r + 3 ≤ cfg.numRows) (hc : c + 3 ≤ cfg.numCols) :
    expandBlock cfg (rotateBlock (Jx.getWC blocks [] (b : Int)) (k : Int)) (r : Int) (c : Int) =
      table cfg.numRows cfg.numCols (addAt (blocks.getD b []) k r c) := by
  simp only [expandBlock, dsStart_nat hr, dsStart_nat hc, Jx.getWC_nat _ _ hb]
  rfl

-- `poseCells` (Model.lean, written inline) unfolds to `stampCells r c (boxCells 3 …)` of Prim/Stamp.lean
theorem mem_poseCells (blk : G) (k r c : Nat) (p : Nat × Nat) :
    p ∈ poseCells blk k r c ↔
      (r ≤ p.1 ∧ p.1 < r + 3 ∧ c ≤ p.2 ∧ p.2 < c + 3) ∧
        Jx.Grid.get (rotateBlock blk (k : Int)) 0 (p.1 - r) (p.2 - c) ≠ 0 :=
  mem_stamp_box (n := 3)

theorem nodup_poseCells (blk : G) (k r c : Nat) : (poseCells blk k r c).Nodup :=
  nodup_stampCells (nodup_boxCells 3 _) r c

theorem addAt_ne_zero_iff {blk : G} {k r c i j : Nat} :
    addAt blk k r c i j ≠ 0 ↔ (i, j) ∈ poseCells blk k r c := by
  rw [mem_poseCells]
  unfold addAt
  split
  · next hbox => exact ⟨fun h => ⟨hbox, h⟩, fun h => h.2⟩
  · next hbox => exact ⟨fun h => absurd rfl h, fun h => absurd h.1 hbox⟩

theorem forall_addAt_iff {R C : Nat} {blk : G} {k r c : Nat} (hr : r + 3 ≤ R) (hc : c + 3 ≤ C) (P : Nat → Nat → Prop) :
    (∀ i < R, ∀ j < C, addAt blk k r c i j ≠ 0 → P i j) ↔ ∀ p ∈ poseCells blk k r c, P p.1 p.2 := by
  constructor
  · intro H p hp
    have hbox := ((mem_poseCells _ _ _ _ _).1 hp).1
    exact H p.1 (by omega) p.2 (by omega) (addAt_ne_zero_iff.2 hp)
  · intro H i _ j _ h
    exact H (i, j) (addAt_ne_zero_iff.1 h)

/-- the overlap test of `_is_legal_action`, `max((grid > 0) + piece) <= 1`: no occupied cell is covered -/
theorem overlap_le_one {g : G} {R C : Nat} (hg : Jx.Grid.shaped g R C = true) (p : Nat → Nat → Nat) :
    gridMax (List.zipWith (List.zipWith (fun g m => (if g > 0 then 1 else 0) + m)) g (onesLike (table R C p))) ≤ 1
      ↔ ∀ i < R, ∀ j < C, p i j ≠ 0 → Jx.Grid.get g 1 i j = 0 := by
  have hones : onesLike (table R C p) = table R C (fun i j => if p i j != 0 then 1 else 0) := by
    simp only [onesLike, table, List.map_map, Function.comp_def]
  conv => lhs; rw [eq_table hg 1]
  rw [hones, zipWith_table, gridMax_le_iff, forall_mem_table]
  refine forall_congr' fun i => forall_congr' fun _ => forall_congr' fun j => forall_congr' fun _ => ?_
  by_cases hp : p i j = 0 <;> by_cases ha : Jx.Grid.get g 1 i j = 0 <;> simp [hp, ha, Nat.pos_iff_ne_zero]

/-- the body of `makeActionMask` at an in-spec index -/
theorem body_eq_legal (cfg : Cfg) (s : State)
    (hg : Jx.Grid.shaped s.grid cfg.numRows cfg.numCols = true)
    (hb : s.blocks.length = cfg.numBlocks) (hp : s.placed.length = cfg.numBlocks)
    (b k r c : Nat) (hin : inSpec cfg b k r c = true) :
    (if s.placed.getD b false then false else
      isLegalAction (b : Int) s.grid s.placed
        (onesLike (expandBlock cfg (rotateBlock (Jx.getWC s.blocks [] (b : Int)) (k : Int)) (r : Int) (c : Int))))
      = legalB cfg s b k r c := by
  obtain ⟨hb1, hk, hr, hc⟩ := inSpec_iff.1 hin
  have hbp : b < s.placed.length := by omega
  have hd : s.placed.getD b true = s.placed.getD b false := by simp [List.getD, hbp]
  unfold legalB isLegalAction
  rw [hin, Jx.getWC_nat _ _ hbp, expandBlock_pose cfg (by omega : b < s.blocks.length) k hr hc, hd]
  cases hpl : s.placed.getD b false
  · simp only [Bool.false_eq_true, if_false, Bool.not_false, Bool.true_and]
    rw [Bool.eq_iff_iff, decide_eq_true_eq, overlap_le_one hg, forall_addAt_iff hr hc]
    simp only [List.all_eq_true, cellFree, beq_iff_eq]
  · simp

/-- the blocks need not be 3 × 3: a rotated block is read as an opaque grid with default 0 -/
theorem makeActionMask_eq_legalMask (cfg : Cfg) (s : State)
    (hg : Jx.Grid.shaped s.grid cfg.numRows cfg.numCols = true)
    (hb : s.blocks.length = cfg.numBlocks) (hp : s.placed.length = cfg.numBlocks) :
    makeActionMask cfg s.grid s.blocks s.placed = legalMask cfg s := by
  unfold makeActionMask legalMask
  apply List.map_congr_left; intro b hb1
  apply List.map_congr_left; intro k hk
  apply List.map_congr_left; intro r hr
  apply List.map_congr_left; intro c hc
  rw [List.mem_range] at hb1 hk hr hc
  exact body_eq_legal cfg s hg hb hp b k r c (inSpec_iff.2 ⟨hb1, hk, by omega, by omega⟩)

end FlatPack
