/- Proofs of the C01 value bounds of Maze; the reset state of a well-formed generated state is `Consistent`. -/
import JumanjiModel.Env.Maze.Bounds
import JumanjiModel.Env.Maze.Lemmas
import JumanjiModel.Env.PuzzleBounds
namespace Maze
open Jm

theorem obsOf_in_bounds (cfg : Cfg) (s : State) (ha : inGrid cfg s.agent) (ht : inGrid cfg s.target)
    (h0 : 0 ≤ s.stepCount) (h1 : s.stepCount ≤ cfg.timeLimit) : ObsInBounds cfg (obsOf s) :=
  have ⟨a1, a2, a3, a4⟩ := ha
  have ⟨t1, t2, t3, t4⟩ := ht
  Jx.rel_of_aligned (R := fun iv vs => ∀ v ∈ vs, inIv iv v) rfl (by simp [obsLeaves]) <|
    Jx.all_cons (Jx.Iv.one a1 (Int.le_sub_one_of_lt a2)) <| Jx.all_cons (Jx.Iv.one a3 (Int.le_sub_one_of_lt a4)) <|
    Jx.all_cons (Jx.Iv.one t1 (Int.le_sub_one_of_lt t2)) <| Jx.all_cons (Jx.Iv.one t3 (Int.le_sub_one_of_lt t4)) <|
    Jx.all_cons (Jx.Iv.bools _) <| Jx.all_cons (Jx.Iv.one h0 h1) <| Jx.all_cons (Jx.Iv.bools _) Jx.all_nil

theorem step_obs_in_bounds (cfg : Cfg) (s : State) (hc : Consistent cfg s) (h0 : 0 ≤ s.stepCount)
    (h1 : s.stepCount < cfg.timeLimit) (a : Nat) (ha : a < 4) :
    ObsInBounds cfg (step cfg s (a : Int)).2.obs := by
  have hc' := step_consistent cfg s hc a ha
  rw [step_obs_eq]
  apply obsOf_in_bounds cfg _ hc'.2.1.1 hc'.2.2.1
  · rw [step_count]; omega
  · rw [step_count]; omega

theorem reset_consistent (cfg : Cfg) (g : State)
    (hs : Jx.Grid.shaped g.walls cfg.numRows cfg.numCols = true) (ha : free cfg g.walls g.agent)
    (ht : free cfg g.walls g.target) : Consistent cfg (reset cfg g).1 := by
  refine ⟨⟨hs, ?_⟩, ha, ht⟩
  show computeMask cfg g.walls g.agent = legalMask cfg _
  rw [computeMask_eq cfg g hs]
  exact (legalMask_congr cfg g _ rfl rfl).symm

end Maze
