/-
Maze — C01 spec membership: the declared specs as `Sp` values (`obsSpec cfg`, `actionSpec`), the model observation as the
spec-level arrays the implementation emits (`toNValue`: shapes READ OFF the values), membership of the observation of
EVERY state satisfying `SpecInv` (= `Consistent`), which reset establishes and every in-spec action (legal or not,
terminal or not) preserves.  That the generated table (Gen/Specs.lean) declares these specs for the catalogue
configurations is `Maze.declares_*` in Props/SpecTable.lean; `tie_of_declares` carries the proved intervals and shapes
over to them.

`step_count` is declared as an UNBOUNDED `Array((), int32)`: no hypothesis on the counter is needed, and the membership
holds along rollouts of any length (also past the first LAST).
-/
import JumanjiModel.Env.Maze.BoundsLemmas
import JumanjiModel.Env.Maze.RunLemmas
import JumanjiModel.Env.SpecMembership
import JumanjiModel.Env.SpecDeclared
import JumanjiModel.Core.EpisodeLemmas
import JumanjiModel.Env.SpecTieLemmas
namespace Maze
open Jm Sp PzS PkS

/-- `BoundedArray((), int32, 0, n − 1, name)`: one coordinate of a `Position` -/
def coordSpec (n : Nat) (nm : String) : Leaf :=
  .bounded [] .int32 nm [] [((0 : Int) : Rat)] [] [((((n : Nat) : Int) - 1 : Int) : Rat)]

/-- env.py `observation_spec` (flattened, in the order of the `Spec(...)` call): the two `PositionSpec`s (`row` in
`[0, num_rows − 1]`, `col` in `[0, num_cols − 1]`), `walls` BoundedArray((R, C), bool), `step_count` Array((), int32) —
unbounded —, `action_mask` BoundedArray((4,), bool) -/
def obsSpec (cfg : Cfg) : Sp.Nested :=
  [("agent_position.row", coordSpec cfg.numRows "row_coordinate"),
   ("agent_position.col", coordSpec cfg.numCols "col_coordinate"),
   ("target_position.row", coordSpec cfg.numRows "row_coordinate"),
   ("target_position.col", coordSpec cfg.numCols "col_coordinate"),
   ("walls", .bounded [cfg.numRows, cfg.numCols] .bool "walls" [] [0] [] [1]),
   ("step_count", .array [] .int32 "step_count"),
   ("action_mask", .bounded [4] .bool "action_mask" [] [0] [] [1])]

/-- `action_spec`: DiscreteArray(4, int32) -/
def actionSpec : Leaf := .discrete 4 .int32 "action"

/-- a model observation as the arrays the implementation emits (leaves in the order of the spec) -/
def toNValue (o : Obs) : NValue :=
  [("agent_position.row", ⟨[], .int32, [(o.agent.1 : Rat)]⟩),
   ("agent_position.col", ⟨[], .int32, [(o.agent.2 : Rat)]⟩),
   ("target_position.row", ⟨[], .int32, [(o.target.1 : Rat)]⟩),
   ("target_position.col", ⟨[], .int32, [(o.target.2 : Rat)]⟩),
   ("walls", ⟨shape2 o.walls, .bool, ofBools (List.flatten o.walls)⟩),
   ("step_count", ⟨[], .int32, [(o.stepCount : Rat)]⟩),
   ("action_mask", ⟨shape1 o.actionMask, .bool, ofBools o.actionMask⟩)]

def actionArr (a : Int) : Arr := ⟨[], .int32, [(a : Rat)]⟩

theorem obs_valid_iff (cfg : Cfg) (o : Obs) : (obsSpec cfg).valid (toNValue o) = true ↔
    inGrid cfg o.agent ∧ inGrid cfg o.target ∧ shape2 o.walls = [cfg.numRows, cfg.numCols] ∧
    (List.flatten o.walls).length = cfg.numRows * cfg.numCols ∧ o.actionMask.length = 4 := by
  simp only [obsSpec, toNValue, coordSpec, inGrid, valid_cons, valid_nil, valid_scalar_bounded_iff, valid_array_iff,
    forall_ofBools, ofBools_length, shape1_eq, prod_nil, prod_one, prod_two, List.forall_mem_singleton,
    List.length_singleton, Rat.intCast_le_intCast, Int.le_sub_one_iff, true_and, and_true, and_assoc, and_self]

theorem obs_valid_only (cfg : Cfg) (o : Obs) (h : (obsSpec cfg).valid (toNValue o) = true) :
    inGrid cfg o.agent ∧ inGrid cfg o.target ∧ shape2 o.walls = [cfg.numRows, cfg.numCols] ∧ o.actionMask.length = 4 :=
  have ⟨ha, ht, hw, _, hm⟩ := (obs_valid_iff cfg o).1 h
  ⟨ha, ht, hw, hm⟩

/-- the invariant behind the membership theorems: the physically possible configurations (C07's `Consistent`) -/
def SpecInv (cfg : Cfg) (s : State) : Prop := Consistent cfg s
instance (cfg : Cfg) (s : State) : Decidable (SpecInv cfg s) := by unfold SpecInv; infer_instance

theorem obsOf_valid (cfg : Cfg) (s : State) (h : SpecInv cfg s) : (obsSpec cfg).valid (toNValue (obsOf s)) = true := by
  obtain ⟨⟨hs, hm⟩, ha, ht⟩ := h
  -- the agent stands in some row, so there is one to read the width off
  have hw := shape2_of_rect (rect2_of_shaped hs) (Int.natCast_pos.1 (Int.lt_of_le_of_lt ha.1.1 ha.1.2.1))
  refine (obs_valid_iff cfg _).2 ⟨ha.1, ht.1, hw.1, hw.2, ?_⟩
  show s.actionMask.length = 4
  rw [hm]; exact legalMask_length cfg s

theorem reset_specInv (cfg : Cfg) (g : State) (hs : Jx.Grid.shaped g.walls cfg.numRows cfg.numCols = true)
    (ha : free cfg g.walls g.agent) (ht : free cfg g.walls g.target) : SpecInv cfg (reset cfg g).1 :=
  reset_consistent cfg g hs ha ht

theorem step_specInv (cfg : Cfg) (s : State) (h : SpecInv cfg s) (a : Nat) (ha : a < 4) :
    SpecInv cfg (step cfg s (a : Int)).1 := step_consistent cfg s h a ha

/-- `RandomGenerator`: for EVERY admissible draw (a recursive-division maze, two different free cells) -/
theorem generate_obs_valid (cfg : Cfg) (d : GenDraw) (hv : validGenDraw cfg d) :
    (obsSpec cfg).valid (toNValue (reset cfg (generate cfg d)).2.obs) = true ∧
    SpecInv cfg (reset cfg (generate cfg d)).1 :=
  ⟨obsOf_valid cfg _ (generated_wellformed cfg d hv).1, (generated_wellformed cfg d hv).1⟩

theorem step_obs_valid (cfg : Cfg) (s : State) (h : SpecInv cfg s) (a : Nat) (ha : a < 4) :
    (obsSpec cfg).valid (toNValue (step cfg s (a : Int)).2.obs) = true := by
  rw [step_obs_eq]
  exact obsOf_valid cfg _ (step_specInv cfg s h a ha)

/-- whole episodes and beyond: `Ep.rollout` iterates the L1 step and does not stop at LAST -/
theorem rollout_obs_valid (cfg : Cfg) (s : State) (h : SpecInv cfg s) (as : List Nat) (has : ∀ a ∈ as, a < 4)
    (j : Nat) (e : State × TimeStep Obs)
    (he : (Ep.rollout (fun s (a : Nat) => step cfg s (a : Int)) s as)[j]? = some e) :
    (obsSpec cfg).valid (toNValue e.2.obs) = true ∧ SpecInv cfg e.1 := by
  obtain ⟨s', a, hinv, ha, rfl⟩ := rollout_inv_idx (fun s (a : Nat) => step cfg s (a : Int))
    (fun _ s => SpecInv cfg s) (fun a => a < 4) (fun _ s a h ha => step_specInv cfg s h a ha) 0 s h as has j e he
  exact ⟨step_obs_valid cfg s' hinv a ha, step_specInv cfg s' hinv a ha⟩

theorem step_protocol (cfg : Cfg) (s : State) (a : Int) : StepOK none false (step cfg s a).2 = true := by
  unfold step; exact condLast_stepOK _ _ _

/-- C01, last sentence: `action_spec.generate_value()` = 0 (Up) is a member of the action spec and `step` accepts it (a
protocol-conform timestep in EVERY state; an observation in the spec from a state satisfying the invariant) -/
theorem accepts_generate_value (cfg : Cfg) (s : State) :
    actionSpec.WF = true ∧ actionSpec.valid actionSpec.generate = true ∧ actionSpec.generate = actionArr 0 ∧
    StepOK none false (step cfg s 0).2 = true ∧
    (SpecInv cfg s → (obsSpec cfg).valid (toNValue (step cfg s 0).2.obs) = true) :=
  ⟨by decide, by decide, by decide, step_protocol cfg s 0, fun h => step_obs_valid cfg s h 0 (by omega)⟩

/-- for EVERY configuration the proved intervals and shapes fit the model's own spec leaves … -/
theorem obsSpec_tied (cfg : Cfg) :
    (obsSpec cfg).all (SpecTieSSM.leafTied (obsBounds cfg) (obsShapes cfg)) = true := by
  simp [obsSpec, obsBounds, obsShapes, SpecTieSSM.leafTied, List.lookup, coordSpec, ivInt, SpecTieSSM.ivWithin_bounded,
    SpecTieSSM.ivWithin_array, Leaf.shape]

/-- … so they fit the declared spec of every catalogue configuration whose table rows are these leaves -/
theorem tie_of_declares {cid : String} {cfg : Cfg} {act rew disc : Leaf} (h : Declares cid (obsSpec cfg) act rew disc) :
    SpecTieSSM.tie cid (obsBounds cfg) (obsShapes cfg) = true := by
  rw [SpecTieSSM.tie, SpecTieSSM.obsLeavesOf_eq h.observation]
  exact obsSpec_tied cfg

end Maze
