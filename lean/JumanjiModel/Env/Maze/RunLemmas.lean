/-
Maze: every direction changes the position (`dest_ne`, for C04), what the transliterated generator of Generator.lean delivers
(C10), the reset observation (C12), the walls along a play (`after_walls`; the C11 run theorems are in Props/Env), shapes (C01).
-/
import JumanjiModel.Env.Maze.Generator
import JumanjiModel.Env.Maze.Lemmas
import JumanjiModel.Env.Maze.BoundsLemmas
import JumanjiModel.Env.Maze.MazeGenLemmas
namespace Maze
open Jm

theorem dest_ne (p : Pos) (a : Nat) (ha : a < 4) : dest p a ≠ p := by
  intro h
  have h1 := congrArg Prod.fst h
  have h2 := congrArg Prod.snd h
  unfold dest at h1 h2
  match a, ha with
  | 0, _ => simp [dir] at h1; omega
  | 1, _ => simp [dir] at h2; omega
  | 2, _ => simp [dir] at h1; omega
  | 3, _ => simp [dir] at h2; omega

theorem div_mod_lt {n nr nc : Nat} (h : n < nr * nc) : n / nc < nr ∧ n % nc < nc := by
  have hc : 0 < nc := by
    rcases Nat.eq_zero_or_pos nc with h0 | h0
    · subst h0; simp at h
    · exact h0
  exact ⟨(Nat.div_lt_iff_lt_mul hc).2 h, Nat.mod_lt _ hc⟩

theorem flatWall_eq {walls : Jx.Grid Bool} {nr nc : Nat} (hs : Jx.Grid.shaped walls nr nc = true) {k : Nat}
    (hk : k < nr * nc) : flatWall walls k = Jx.Grid.get walls true (k / nc) (k % nc) := by
  obtain ⟨h1, h2⟩ := div_mod_lt hk
  rw [← Jx.Grid.flatten_getD true ((Jx.Grid.shaped_iff_mem walls nr nc).1 hs).2 _ h2, Nat.div_add_mod']
  rfl

/-- `generator.py` draws start and target with `p=~walls.flatten()`: an index of non-zero probability is a free cell -/
theorem free_of_flat (cfg : Cfg) (walls : Jx.Grid Bool)
    (hs : Jx.Grid.shaped walls cfg.numRows cfg.numCols = true) (k : Nat)
    (hk : k < cfg.numRows * cfg.numCols) (hw : flatWall walls k = false) : free cfg walls (posOf cfg k) := by
  obtain ⟨h1, h2⟩ := div_mod_lt hk
  refine ⟨⟨Int.natCast_nonneg _, by simp only [posOf]; exact_mod_cast h1, Int.natCast_nonneg _,
    by simp only [posOf]; exact_mod_cast h2⟩, ?_⟩
  unfold isWall posOf
  simp only [Int.toNat_natCast]
  exact (flatWall_eq hs hk).symm.trans hw

theorem posOf_inj (cfg : Cfg) (i j : Nat) (h : posOf cfg i = posOf cfg j) : i = j := by
  unfold posOf at h
  have h1 := congrArg Prod.fst h
  have h2 := congrArg Prod.snd h
  simp only [Int.natCast_inj] at h1 h2
  rw [← Nat.div_add_mod i cfg.numCols, ← Nat.div_add_mod j cfg.numCols, h1, h2]

/-- the cell `(column, row)` of `MazeGenLemmas` for a flat index -/
def cellOf (cfg : Cfg) (k : Nat) : MazeGen.Cell := (k % cfg.numCols, k / cfg.numCols)

/-- C10: for ALL admissible draws, `reset` of the generated state is consistent (agent and target on free cells
of the grid, walls of the configured shape, fresh mask), agent and target are on DIFFERENT cells, the counter is 0,
and the target can be reached from the agent by 4-neighbour steps through free cells -/
theorem generated_wellformed (cfg : Cfg) (d : GenDraw) (hv : validGenDraw cfg d) :
    Consistent cfg (reset cfg (generate cfg d)).1 ∧
    (reset cfg (generate cfg d)).1.agent ≠ (reset cfg (generate cfg d)).1.target ∧
    (reset cfg (generate cfg d)).1.stepCount = 0 ∧
    MazeGen.Reach (MazeGen.Ok d.walls 0 0 cfg.numCols cfg.numRows) (cellOf cfg d.i) (cellOf cfg d.j) := by
  obtain ⟨hm, hi, hj, hij, hwi, hwj⟩ := hv
  have hs := (MazeGen.cert_parts hm).1
  have hfi := free_of_flat cfg d.walls hs d.i hi hwi
  have hfj := free_of_flat cfg d.walls hs d.j hj hwj
  refine ⟨reset_consistent cfg (generate cfg d) hs hfi hfj, ?_, rfl, ?_⟩
  · show posOf cfg d.i ≠ posOf cfg d.j
    exact fun h => hij (posOf_inj cfg _ _ h)
  · have hok : ∀ k, k < cfg.numRows * cfg.numCols → flatWall d.walls k = false →
        MazeGen.Ok d.walls 0 0 cfg.numCols cfg.numRows (cellOf cfg k) := by
      intro k hk hw
      obtain ⟨h1, h2⟩ := div_mod_lt hk
      exact ⟨⟨Nat.zero_le _, (Nat.zero_add _).symm ▸ h2, Nat.zero_le _, (Nat.zero_add _).symm ▸ h1⟩,
        (flatWall_eq hs hk).symm.trans hw⟩
    exact (MazeGen.connected_of_cert d.walls cfg.numRows cfg.numCols hm).1 _ _ (hok _ hi hwi) (hok _ hj hwj)

theorem reset_obs_faithful (cfg : Cfg) (g : State)
    (hs : Jx.Grid.shaped g.walls cfg.numRows cfg.numCols = true) :
    (reset cfg g).2.obs = observe cfg (reset cfg g).1 ∧ (reset cfg g).2.stepType = .first := by
  refine ⟨?_, rfl⟩
  show obsOf (reset cfg g).1 = observe cfg (reset cfg g).1
  unfold obsOf observe
  rw [show (reset cfg g).1.actionMask = _ from computeMask_eq cfg (reset cfg g).1 hs]

theorem after_walls (cfg : Cfg) (s : State) (as : List Int) : (EpRun.after (step cfg) s as).walls = s.walls :=
  EpRun.after_inv (step cfg) (·.walls = s.walls) (fun _ _ h => h) s as rfl

theorem computeMask_length (cfg : Cfg) (w : Jx.Grid Bool) (p : Pos) : (computeMask cfg w p).length = 4 := by
  unfold computeMask moves; simp

theorem step_obs_shaped (cfg : Cfg) (s : State) (hs : Jx.Grid.shaped s.walls cfg.numRows cfg.numCols = true)
    (a : Int) : ObsShaped cfg (step cfg s a).2.obs := by
  rw [step_obs_eq]
  exact ⟨hs, computeMask_length cfg _ _⟩

end Maze
