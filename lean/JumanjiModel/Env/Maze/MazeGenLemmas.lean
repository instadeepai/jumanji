/-
C10 (DESIGN Appendix A.5): the certificate `MazeGen.valid` (IsRecursiveDivisionMaze) implies that the
(even, even) cells of the chamber are free and that the free cells of the chamber are 4-connected.
-/
import JumanjiModel.Env.Maze.MazeGen
namespace MazeGen

/-- a cell `(x, y)` = (column, row) -/
abbrev Cell := Nat × Nat

/-- 4-neighbourhood -/
def Adj (p q : Cell) : Prop :=
  (p.1 = q.1 ∧ (p.2 + 1 = q.2 ∨ q.2 + 1 = p.2)) ∨ (p.2 = q.2 ∧ (p.1 + 1 = q.1 ∨ q.1 + 1 = p.1))

/-- `p` lies in the chamber with corner `(x, y)`, width `w`, height `h` -/
def InCh (x y w h : Nat) (p : Cell) : Prop := x ≤ p.1 ∧ p.1 < x + w ∧ y ≤ p.2 ∧ p.2 < y + h

/-- `p` is a free cell of the chamber -/
def Ok (m : Jx.Grid Bool) (x y w h : Nat) (p : Cell) : Prop := InCh x y w h p ∧ wall m p.1 p.2 = false

/-- `q` can be reached from `p` by 4-neighbour steps through cells satisfying `ok` -/
inductive Reach (ok : Cell → Prop) : Cell → Cell → Prop
  | refl (p : Cell) : Reach ok p p
  | tail {p q r : Cell} : Reach ok p q → Adj q r → ok r → Reach ok p r

/-- all free cells of the chamber are mutually reachable inside the chamber -/
def Conn (m : Jx.Grid Bool) (x y w h : Nat) : Prop :=
  ∀ p q, Ok m x y w h p → Ok m x y w h q → Reach (Ok m x y w h) p q

theorem Adj.symm {p q : Cell} (h : Adj p q) : Adj q p :=
  h.imp (fun h => ⟨h.1.symm, h.2.symm⟩) (fun h => ⟨h.1.symm, h.2.symm⟩)

theorem Reach.trans {ok : Cell → Prop} {p q r : Cell} (h1 : Reach ok p q) (h2 : Reach ok q r) : Reach ok p r := by
  induction h2 with
  | refl => exact h1
  | tail _ ha ho ih => exact Reach.tail ih ha ho

theorem Reach.mono {ok ok' : Cell → Prop} (hm : ∀ p, ok p → ok' p) {p q : Cell} (h : Reach ok p q) :
    Reach ok' p q := by
  induction h with
  | refl => exact Reach.refl _
  | tail _ ha ho ih => exact Reach.tail ih ha (hm _ ho)

theorem Reach.head {ok : Cell → Prop} {p q r : Cell} (ha : Adj p q) (hq : ok q) (h : Reach ok q r) :
    Reach ok p r := Reach.trans (Reach.tail (Reach.refl p) ha hq) h

theorem Reach.ok_end {ok : Cell → Prop} {p q : Cell} (hp : ok p) (h : Reach ok p q) : ok q := by
  cases h with
  | refl => exact hp
  | tail _ _ ho => exact ho

theorem Reach.symm {ok : Cell → Prop} {p q : Cell} (hp : ok p) (h : Reach ok p q) : Reach ok q p := by
  induction h with
  | refl => exact Reach.refl _
  | tail h1 ha _ ih => exact Reach.head ha.symm (Reach.ok_end hp h1) ih

/-- a step along a row: the FIRST component (the column; a `Cell` is (column, row)) changes -/
theorem adj_row {a a' b : Nat} (h : a + 1 = a') : Adj (a, b) (a', b) := Or.inr ⟨rfl, Or.inl h⟩

theorem adj_col {a b b' : Nat} (h : b + 1 = b') : Adj (a, b) (a, b') := Or.inl ⟨rfl, Or.inl h⟩

theorem conn_of_star {ok : Cell → Prop} {c : Cell} (hc : ok c) (hub : ∀ p, ok p → Reach ok c p) {p q : Cell}
    (hp : ok p) (hq : ok q) : Reach ok p q :=
  ((hub p hp).symm hc).trans (hub q hq)

/-- a wall with one gap `g` between the sides `okA` and `okB`: `a`, `b` are the neighbours of `g` in the two sides, each side is
connected, so everything reaches everything through `g` -/
theorem conn_of_hub {ok okA okB : Cell → Prop} {g a b : Cell} (hg : ok g)
    (hA : ∀ p, okA p → ok p) (hB : ∀ p, okB p → ok p) (cover : ∀ p, ok p → p = g ∨ okA p ∨ okB p)
    (cA : ∀ p q, okA p → okA q → Reach okA p q) (cB : ∀ p q, okB p → okB q → Reach okB p q)
    (ha : ∀ p, okA p → okA a) (hb : ∀ p, okB p → okB b) (ga : Adj g a) (gb : Adj g b) {p q : Cell}
    (hp : ok p) (hq : ok q) : Reach ok p q := by
  refine conn_of_star hg (fun p hp => ?_) hp hq
  rcases cover p hp with rfl | h | h
  · exact .refl _
  · exact .head ga (hA _ (ha p h)) ((cA _ _ (ha p h) h).mono hA)
  · exact .head gb (hB _ (hb p h)) ((cB _ _ (hb p h) h).mono hB)

theorem inCh_pair {x y w h a b : Nat} : InCh x y w h (a, b) ↔ x ≤ a ∧ a < x + w ∧ y ≤ b ∧ b < y + h := Iff.rfl

theorem InCh.left {x y w h dx : Nat} {p : Cell} (hdx : dx < w) (hin : InCh x y dx h p) : InCh x y w h p := by
  unfold InCh at *; omega

theorem InCh.right {x y w h dx : Nat} {p : Cell} (hdx : dx < w) (hin : InCh (x + dx + 1) y (w - dx - 1) h p) :
    InCh x y w h p := by
  unfold InCh at *; omega

theorem InCh.vcut {x y w h dx : Nat} {p : Cell} (hin : InCh x y w h p) :
    InCh x y dx h p ∨ p.1 = x + dx ∨ InCh (x + dx + 1) y (w - dx - 1) h p := by
  unfold InCh at *; omega

theorem InCh.top {x y w h dy : Nat} {p : Cell} (hdy : dy < h) (hin : InCh x y w dy p) : InCh x y w h p := by
  unfold InCh at *; omega

theorem InCh.bottom {x y w h dy : Nat} {p : Cell} (hdy : dy < h) (hin : InCh x (y + dy + 1) w (h - dy - 1) p) :
    InCh x y w h p := by
  unfold InCh at *; omega

theorem InCh.hcut {x y w h dy : Nat} {p : Cell} (hin : InCh x y w h p) :
    InCh x y w dy p ∨ p.2 = y + dy ∨ InCh x (y + dy + 1) w (h - dy - 1) p := by
  unfold InCh at *; omega

/-- every cell is reached from the corner along the first row, then down its column -/
theorem conn_of_empty (m : Jx.Grid Bool) (x y w h : Nat)
    (he : ∀ p, InCh x y w h p → wall m p.1 p.2 = false) : Conn m x y w h := by
  have ok : ∀ i j, i < w → j < h → Ok m x y w h (x + i, y + j) := fun i j hi hj =>
    have hin : InCh x y w h (x + i, y + j) := inCh_pair.2 (by omega)
    ⟨hin, he _ hin⟩
  have walk : ∀ i j, i < w → j < h → Reach (Ok m x y w h) (x, y) (x + i, y + j) := by
    intro i j hi hj
    induction j with
    | zero =>
      induction i with
      | zero => exact .refl _
      | succ i ih => exact .tail (ih (by omega)) (adj_row rfl) (ok (i + 1) 0 hi hj)
    | succ j ih => exact .tail (ih (by omega)) (adj_col rfl) (ok i (j + 1) hi hj)
  have hub : ∀ p, Ok m x y w h p → Reach (Ok m x y w h) (x, y) p := by
    rintro ⟨px, py⟩ ⟨hin, _⟩
    obtain ⟨h1, h2, h3, h4⟩ := inCh_pair.1 hin
    have := walk (px - x) (py - y) (by omega) (by omega)
    rwa [Nat.add_sub_cancel' h1, Nat.add_sub_cancel' h3] at this
  intro p q hp hq
  obtain ⟨h1, h2, h3, h4⟩ := hp.1
  exact conn_of_star (ok 0 0 (by omega) (by omega)) hub hp hq

theorem allEmpty_spec {m : Jx.Grid Bool} {x y w h : Nat} (he : allEmpty m x y w h = true) (p : Cell)
    (hin : InCh x y w h p) : wall m p.1 p.2 = false := by
  unfold allEmpty at he
  simp only [List.all_eq_true, List.mem_range, Bool.not_eq_true'] at he
  obtain ⟨h1, h2, h3, h4⟩ := hin
  have := he (p.2 - y) (by omega) (p.1 - x) (by omega)
  rwa [Nat.add_sub_cancel' h1, Nat.add_sub_cancel' h3] at this

theorem oneEvenGap_spec {n : Nat} {f : Nat → Bool} (h : oneEvenGap n f = true) :
    ∃ g, g < n ∧ g % 2 = 0 ∧ f g = false ∧ ∀ d, d < n → f d = false → d = g := by
  unfold oneEvenGap at h
  split at h
  · rename_i g heq
    have hmem : ∀ d, d ∈ gaps n f ↔ (d < n ∧ f d = false) := by
      intro d; unfold gaps; simp [List.mem_filter]
    have hg : g ∈ gaps n f := by rw [heq]; simp
    have hg' := (hmem g).1 hg
    refine ⟨g, hg'.1, by simpa using h, hg'.2, ?_⟩
    intro d hd hf
    have : d ∈ gaps n f := (hmem d).2 ⟨hd, hf⟩
    rw [heq] at this; simpa using this
  · exact absurd h (by simp)

/-- the gap is the hub; `fR` is conditional because the right side may be empty (`w = dx + 1`) -/
theorem conn_vsplit (m : Jx.Grid Bool) (x y w h dx g : Nat) (hdx : 0 < dx ∧ dx < w) (hg : g < h)
    (hgap : wall m (x + dx) (y + g) = false)
    (hwall : ∀ d, d < h → wall m (x + dx) (y + d) = false → d = g)
    (cL : Conn m x y dx h) (cR : Conn m (x + dx + 1) y (w - dx - 1) h)
    (fL : InCh x y dx h (x + dx - 1, y + g) → wall m (x + dx - 1) (y + g) = false)
    (fR : InCh (x + dx + 1) y (w - dx - 1) h (x + dx + 1, y + g) → wall m (x + dx + 1) (y + g) = false) :
    Conn m x y w h := by
  intro p q
  refine conn_of_hub (g := (x + dx, y + g)) (a := (x + dx - 1, y + g)) (b := (x + dx + 1, y + g))
    ⟨inCh_pair.2 (by omega), hgap⟩ (fun p hp => ⟨hp.1.left hdx.2, hp.2⟩) (fun p hp => ⟨hp.1.right hdx.2, hp.2⟩)
    ?_ cL cR ?_ ?_ (adj_row (by omega)).symm (adj_row rfl)
  · rintro ⟨px, py⟩ ⟨hin, hfree⟩
    rcases hin.vcut (dx := dx) with hl | hm | hr
    · exact .inr (.inl ⟨hl, hfree⟩)
    · obtain rfl : px = x + dx := hm
      obtain ⟨_, _, h3, h4⟩ := inCh_pair.1 hin
      have := hwall (py - y) (by omega) (by rwa [Nat.add_sub_cancel' h3])
      exact .inl (by rw [← this, Nat.add_sub_cancel' h3])
    · exact .inr (.inr ⟨hr, hfree⟩)
  · have hin : InCh x y dx h (x + dx - 1, y + g) := inCh_pair.2 (by omega)
    exact fun _ _ => ⟨hin, fL hin⟩
  · rintro ⟨px, py⟩ ⟨hp, _⟩
    have hin : InCh (x + dx + 1) y (w - dx - 1) h (x + dx + 1, y + g) :=
      inCh_pair.2 (by have := inCh_pair.1 hp; omega)
    exact ⟨hin, fR hin⟩

theorem conn_hsplit (m : Jx.Grid Bool) (x y w h dy g : Nat) (hdy : 0 < dy ∧ dy < h) (hg : g < w)
    (hgap : wall m (x + g) (y + dy) = false)
    (hwall : ∀ d, d < w → wall m (x + d) (y + dy) = false → d = g)
    (cT : Conn m x y w dy) (cB : Conn m x (y + dy + 1) w (h - dy - 1))
    (fT : InCh x y w dy (x + g, y + dy - 1) → wall m (x + g) (y + dy - 1) = false)
    (fB : InCh x (y + dy + 1) w (h - dy - 1) (x + g, y + dy + 1) → wall m (x + g) (y + dy + 1) = false) :
    Conn m x y w h := by
  intro p q
  refine conn_of_hub (g := (x + g, y + dy)) (a := (x + g, y + dy - 1)) (b := (x + g, y + dy + 1))
    ⟨inCh_pair.2 (by omega), hgap⟩ (fun p hp => ⟨hp.1.top hdy.2, hp.2⟩) (fun p hp => ⟨hp.1.bottom hdy.2, hp.2⟩)
    ?_ cT cB ?_ ?_ (adj_col (by omega)).symm (adj_col rfl)
  · rintro ⟨px, py⟩ ⟨hin, hfree⟩
    rcases hin.hcut (dy := dy) with hl | hm | hr
    · exact .inr (.inl ⟨hl, hfree⟩)
    · obtain rfl : py = y + dy := hm
      obtain ⟨h1, h2, _, _⟩ := inCh_pair.1 hin
      have := hwall (px - x) (by omega) (by rwa [Nat.add_sub_cancel' h1])
      exact .inl (by rw [← this, Nat.add_sub_cancel' h1])
    · exact .inr (.inr ⟨hr, hfree⟩)
  · have hin : InCh x y w dy (x + g, y + dy - 1) := inCh_pair.2 (by omega)
    exact fun _ _ => ⟨hin, fT hin⟩
  · rintro ⟨px, py⟩ ⟨hp, _⟩
    have hin : InCh x (y + dy + 1) w (h - dy - 1) (x + g, y + dy + 1) :=
      inCh_pair.2 (by have := inCh_pair.1 hp; omega)
    exact ⟨hin, fB hin⟩

theorem valid_cases {fuel : Nat} {m : Jx.Grid Bool} {x y w h : Nat} (hv : valid (fuel + 1) m x y w h = true) :
    ((w ≤ 1 ∨ h ≤ 1) ∧ allEmpty m x y w h = true) ∨
    (∃ dx, dx < w ∧ dx % 2 = 1 ∧ oneEvenGap h (fun dy => wall m (x + dx) (y + dy)) = true ∧
        valid fuel m x y dx h = true ∧ valid fuel m (x + dx + 1) y (w - dx - 1) h = true) ∨
    (∃ dy, dy < h ∧ dy % 2 = 1 ∧ oneEvenGap w (fun dx => wall m (x + dx) (y + dy)) = true ∧
        valid fuel m x y w dy = true ∧ valid fuel m x (y + dy + 1) w (h - dy - 1) = true) := by
  unfold valid at hv
  split at hv
  · rename_i hc
    exact Or.inl ⟨by simpa using hc, hv⟩
  · split at hv
    · simp only [List.any_eq_true, List.mem_range, Bool.and_eq_true, beq_iff_eq] at hv
      obtain ⟨dx, hdx, ⟨⟨hodd, hgap⟩, hl⟩, hr⟩ := hv
      exact Or.inr (Or.inl ⟨dx, hdx, hodd, hgap, hl, hr⟩)
    · simp only [List.any_eq_true, List.mem_range, Bool.and_eq_true, beq_iff_eq] at hv
      obtain ⟨dy, hdy, ⟨⟨hodd, hgap⟩, hl⟩, hr⟩ := hv
      exact Or.inr (Or.inr ⟨dy, hdy, hodd, hgap, hl, hr⟩)

/-- the (even, even) cells of the chamber are free -/
def EvenFree (m : Jx.Grid Bool) (x y w h : Nat) : Prop :=
  ∀ a b, InCh x y w h (a, b) → a % 2 = 0 → b % 2 = 0 → wall m a b = false

theorem parity_cut {x d : Nat} (hx : x % 2 = 0) (hd : d % 2 = 1) :
    0 < d ∧ (x + d - 1) % 2 = 0 ∧ (x + d) % 2 = 1 ∧ (x + d + 1) % 2 = 0 := by omega

theorem even_add {y g : Nat} (hy : y % 2 = 0) (hg : g % 2 = 0) : (y + g) % 2 = 0 := by omega

/-- Lemmas 1 and 2 of DESIGN A.5 in one induction: the cells beside the gap are (even, even) cells of the sub-chambers,
and the corner of the second sub-chamber is even again because the wall offset is odd. -/
theorem valid_spec : ∀ (fuel : Nat) (m : Jx.Grid Bool) (x y w h : Nat),
    valid fuel m x y w h = true → x % 2 = 0 → y % 2 = 0 → EvenFree m x y w h ∧ Conn m x y w h
  | 0, _, _, _, _, _, hv, _, _ => by simp [valid] at hv
  | fuel + 1, m, x, y, w, h, hv, hx, hy => by
    rcases valid_cases hv with ⟨_, he⟩ | ⟨dx, hdx, hodd, hgap, hl, hr⟩ | ⟨dy, hdy, hodd, hgap, hl, hr⟩
    · exact ⟨fun a b hin _ _ => allEmpty_spec he _ hin, conn_of_empty m x y w h (allEmpty_spec he)⟩
    · obtain ⟨g, hg, hge, hfree, huniq⟩ := oneEvenGap_spec hgap
      obtain ⟨hpos, p1, p2, p3⟩ := parity_cut hx hodd
      obtain ⟨eL, cL⟩ := valid_spec fuel m x y dx h hl hx hy
      obtain ⟨eR, cR⟩ := valid_spec fuel m (x + dx + 1) y (w - dx - 1) h hr p3 hy
      refine ⟨fun a b hin ha hb => ?_, conn_vsplit m x y w h dx g ⟨hpos, hdx⟩ hg hfree huniq cL cR
        (fun hin => eL _ _ hin p1 (even_add hy hge)) (fun hin => eR _ _ hin p3 (even_add hy hge))⟩
      rcases hin.vcut (dx := dx) with hl | hm | hr
      · exact eL a b hl ha hb
      · rw [show a = x + dx from hm, p2] at ha
        cases ha
      · exact eR a b hr ha hb
    · obtain ⟨g, hg, hge, hfree, huniq⟩ := oneEvenGap_spec hgap
      obtain ⟨hpos, p1, p2, p3⟩ := parity_cut hy hodd
      obtain ⟨eT, cT⟩ := valid_spec fuel m x y w dy hl hx hy
      obtain ⟨eB, cB⟩ := valid_spec fuel m x (y + dy + 1) w (h - dy - 1) hr hx p3
      refine ⟨fun a b hin ha hb => ?_, conn_hsplit m x y w h dy g ⟨hpos, hdy⟩ hg hfree huniq cT cB
        (fun hin => eT _ _ hin (even_add hx hge) p1) (fun hin => eB _ _ hin (even_add hx hge) p3)⟩
      rcases hin.hcut (dy := dy) with hl | hm | hr
      · exact eT a b hl ha hb
      · rw [show b = y + dy from hm, p2] at hb
        cases hb
      · exact eB a b hr ha hb

theorem cert_parts {m : Jx.Grid Bool} {nr nc : Nat} (hc : isRecursiveDivisionMaze m nr nc = true) :
    Jx.Grid.shaped m nr nc = true ∧ valid (nr + nc + 1) m 0 0 nc nr = true := by
  unfold isRecursiveDivisionMaze at hc
  exact Bool.and_eq_true_iff.1 hc

/-- C10: a maze that passes the recursive-division certificate has all its free cells 4-connected and
all its (even, even) cells — in particular the origin — free -/
theorem connected_of_cert (m : Jx.Grid Bool) (nr nc : Nat) (hc : isRecursiveDivisionMaze m nr nc = true) :
    Conn m 0 0 nc nr ∧
    (∀ x y, x < nc → y < nr → x % 2 = 0 → y % 2 = 0 → wall m x y = false) := by
  obtain ⟨he, hconn⟩ := valid_spec _ m 0 0 nc nr (cert_parts hc).2 rfl rfl
  exact ⟨hconn, fun x y hx hy => he x y (inCh_pair.2 (by omega))⟩

end MazeGen
