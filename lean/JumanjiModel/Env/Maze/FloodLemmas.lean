/-
Soundness of the executable flood-fill check `MazeGen.connected` (the `connected` flag of the `instance`
ops): if it answers `true`, the free cells of the grid are 4-connected (`MazeGen.Conn`).
-/
import JumanjiModel.Env.Maze.MazeGenLemmas
import JumanjiModel.Prim.GridLemmas
namespace MazeGen

theorem vget_table (nr nc : Nat) (f : Nat → Nat → Bool) (r c : Nat) :
    vget ((List.range nr).map fun r => (List.range nc).map fun c => f r c) r c =
      (decide (r < nr) && decide (c < nc) && f r c) := by
  unfold vget Jx.Grid.get
  rw [← Jx.Grid.table, Jx.Grid.getD_table]
  by_cases hr : r < nr <;> by_cases hc : c < nc <;> simp [hr, hc]

/-- every visited cell is a free cell of the grid reachable from the seed -/
def Good (m : Jx.Grid Bool) (nr nc : Nat) (seed : Cell) (v : Jx.Grid Bool) : Prop :=
  ∀ r c, vget v r c = true → Ok m 0 0 nc nr (c, r) ∧ Reach (Ok m 0 0 nc nr) seed (c, r)

theorem good_floodStep (m : Jx.Grid Bool) (nr nc : Nat) (seed : Cell) (v : Jx.Grid Bool)
    (hg : Good m nr nc seed v) : Good m nr nc seed (floodStep m nr nc v) := by
  intro r c hv
  unfold floodStep at hv
  rw [vget_table] at hv
  simp only [Bool.and_eq_true, Bool.or_eq_true, decide_eq_true_eq, Bool.not_eq_true'] at hv
  obtain ⟨⟨hr, hc⟩, hfree, hn⟩ := hv
  have hok : Ok m 0 0 nc nr (c, r) := ⟨inCh_pair.2 (by omega), hfree⟩
  refine ⟨hok, ?_⟩
  rcases hn with (((h | ⟨h0, h⟩) | h) | ⟨h0, h⟩) | h
  · exact (hg r c h).2
  · exact Reach.tail (hg (r - 1) c h).2 (adj_col (by omega)) hok
  · exact Reach.tail (hg (r + 1) c h).2 (adj_col rfl).symm hok
  · exact Reach.tail (hg r (c - 1) h).2 (adj_row (by omega)) hok
  · exact Reach.tail (hg r (c + 1) h).2 (adj_row rfl).symm hok

theorem good_flood (m : Jx.Grid Bool) (nr nc : Nat) (seed : Cell) :
    ∀ fuel v, Good m nr nc seed v → Good m nr nc seed (flood fuel m nr nc v)
  | 0, _, hg => hg
  | fuel + 1, v, hg => by
    unfold flood
    simp only []
    split
    · exact hg
    · exact good_flood m nr nc seed fuel _ (good_floodStep m nr nc seed v hg)

theorem conn_of_connected (m : Jx.Grid Bool) (nr nc : Nat) (h : connected m nr nc = true) :
    Conn m 0 0 nc nr := by
  unfold connected at h
  split at h
  · -- no free cell at all
    rename_i hnone
    intro p q hp _
    have hin := hp.1; unfold InCh at hin
    have := List.find?_eq_none.1 hnone (p.2, p.1) (Jx.Grid.mem_coords.2 ⟨by omega, by omega⟩)
    simp only [Bool.not_eq_true, Bool.not_eq_false'] at this
    exact absurd hp.2 (by simp [this])
  · rename_i r0 c0 hsome
    have hmem := List.mem_of_find?_eq_some hsome
    have hb := Jx.Grid.mem_coords.1 hmem
    have hfree := List.find?_some hsome
    simp only [Bool.not_eq_true'] at hfree
    have hseed : Ok m 0 0 nc nr (c0, r0) := ⟨inCh_pair.2 (by omega), hfree⟩
    have g0 : Good m nr nc (c0, r0)
        ((List.range nr).map fun r => (List.range nc).map fun c => decide (r = r0 ∧ c = c0)) := by
      intro r c hv
      rw [vget_table] at hv
      simp only [Bool.and_eq_true, decide_eq_true_eq] at hv
      obtain ⟨_, h1, h2⟩ := hv
      subst h1; subst h2
      exact ⟨hseed, Reach.refl _⟩
    have gf := good_flood m nr nc (c0, r0) (nr * nc) _ g0
    simp only [List.all_eq_true, List.mem_range, Bool.or_eq_true] at h
    have hub : ∀ p, Ok m 0 0 nc nr p → Reach (Ok m 0 0 nc nr) (c0, r0) p := by
      intro p hp
      have hin := hp.1; unfold InCh at hin
      rcases h p.2 (by omega) p.1 (by omega) with hw | hv
      · exact absurd hp.2 (by simp [hw])
      · exact (gf p.2 p.1 hv).2
    exact fun p q => conn_of_star hseed hub

end MazeGen
