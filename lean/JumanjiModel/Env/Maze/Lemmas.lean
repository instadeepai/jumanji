/-
Maze: the transliterated `step` against the rules.  The mask the code computes is the rules' `legalMask` on well-shaped
walls (`computeMask_eq`); the timestep of any step is `condLast` of the successor state (`step_ts`); under the invariant the
successor is `nextSpec` (`step_next`); the consequences for reward, LAST, ignored moves and consistency.  At the end the episode
functions of C08 (`runState`, `runReturn`, `isEpisode`: recursions of their own, not tied to `EpRun.run` of the C11 / C01 theorems).
-/
import JumanjiModel.Env.Maze.Model
import JumanjiModel.Core.TimeStepLemmas
import JumanjiModel.Prim.ListLemmas
import JumanjiModel.Prim.GridLemmas
namespace Maze
open Jm

theorem isMoveValid_iff (cfg : Cfg) (walls : Jx.Grid Bool) (p mv : Pos)
    (hs : Jx.Grid.shaped walls cfg.numRows cfg.numCols = true) :
    isMoveValid cfg walls p mv = true ↔ free cfg walls (p.1 + mv.1, p.2 + mv.2) := by
  unfold isMoveValid free inGrid isWall
  simp only [Bool.and_eq_true, decide_eq_true_eq, Bool.not_eq_true']
  constructor
  · rintro ⟨⟨⟨⟨h1, h2⟩, h3⟩, h4⟩, h5⟩
    rw [Jx.Grid.getWC_eq_get hs false h1 h2 h3 h4] at h5
    refine ⟨⟨h1, h2, h3, h4⟩, ?_⟩
    rw [← Jx.Grid.get_irrel hs false true (by omega) (by omega)]; exact h5
  · rintro ⟨⟨h1, h2, h3, h4⟩, h5⟩
    refine ⟨⟨⟨⟨h1, h2⟩, h3⟩, h4⟩, ?_⟩
    rw [Jx.Grid.getWC_eq_get hs false h1 h2 h3 h4, Jx.Grid.get_irrel hs false true (by omega) (by omega)]; exact h5

theorem isMoveValid_eq (cfg : Cfg) (walls : Jx.Grid Bool) (p mv : Pos)
    (hs : Jx.Grid.shaped walls cfg.numRows cfg.numCols = true) :
    isMoveValid cfg walls p mv = decide (free cfg walls (p.1 + mv.1, p.2 + mv.2)) := by
  rw [Bool.eq_iff_iff, isMoveValid_iff cfg walls p mv hs]; simp

theorem computeMask_eq (cfg : Cfg) (s : State) (hs : Jx.Grid.shaped s.walls cfg.numRows cfg.numCols = true) :
    computeMask cfg s.walls s.agent = legalMask cfg s := by
  unfold computeMask legalMask moves legal dest
  simp only [List.map, List.range, List.range.loop, isMoveValid_eq cfg s.walls s.agent _ hs, dir]
  simp

theorem legalMask_getD (cfg : Cfg) (s : State) (a : Nat) :
    (legalMask cfg s).getD a false = true ↔ legal cfg s a := by
  unfold legalMask
  by_cases h : a < 4
  · simp [List.getD_eq_getElem?_getD, List.getElem?_map, List.getElem?_range h]
  · have : ¬ legal cfg s a := fun hl => h hl.1
    rw [List.getD_eq_getElem?_getD, List.getElem?_eq_none (by simp; omega)]
    simp [this]

theorem mask_iff_legal (cfg : Cfg) (s : State) (hs : Jx.Grid.shaped s.walls cfg.numRows cfg.numCols = true)
    (a : Nat) : (computeMask cfg s.walls s.agent).getD a false = true ↔ legal cfg s a := by
  rw [computeMask_eq cfg s hs]; exact legalMask_getD cfg s a

theorem legalMask_length (cfg : Cfg) (s : State) : (legalMask cfg s).length = 4 := by
  unfold legalMask; simp

/-- the validity test `step` applies (a lookup in the cached mask) agrees with the rules -/
theorem step_agrees (cfg : Cfg) (s : State) (hi : Inv cfg s) (a : Nat) (ha : a < 4) :
    Jx.getWC s.actionMask false (a : Int) = true ↔ legal cfg s a := by
  rw [hi.2, Jx.getWC_nat _ _ (by rw [legalMask_length]; exact ha)]
  exact legalMask_getD cfg s a

theorem switchMove_dir (a : Nat) (ha : a < 4) (p : Pos) : switchMove (a : Int) p = dest p a := by
  unfold switchMove dest
  match a, ha with
  | 0, _ => simp [dir]; omega
  | 1, _ => simp [dir]
  | 2, _ => simp [dir]
  | 3, _ => simp [dir]; omega

theorem switchMove_noop (p : Pos) : switchMove 4 p = p := by
  unfold switchMove; simp

theorem legalMask_congr (cfg : Cfg) (s t : State) (hw : t.walls = s.walls) (ha : t.agent = s.agent) :
    legalMask cfg t = legalMask cfg s := by
  unfold legalMask
  apply List.map_congr_left
  intro a _
  exact decide_eq_decide.2 (by unfold legal; rw [hw, ha])

theorem stuck_iff (cfg : Cfg) (s : State) : (legalMask cfg s).any id = false ↔ stuck cfg s := by
  unfold stuck legalMask
  simp [List.any_eq_false]

theorem step_mask_fresh (cfg : Cfg) (s : State) (a : Int)
    (hs : Jx.Grid.shaped s.walls cfg.numRows cfg.numCols = true) :
    (step cfg s a).1.actionMask = legalMask cfg (step cfg s a).1 := by
  have h : (step cfg s a).1.actionMask = computeMask cfg (step cfg s a).1.walls (step cfg s a).1.agent := rfl
  rw [h]; exact computeMask_eq cfg _ hs

theorem step_walls (cfg : Cfg) (s : State) (a : Int) : (step cfg s a).1.walls = s.walls := rfl
theorem step_target (cfg : Cfg) (s : State) (a : Int) : (step cfg s a).1.target = s.target := rfl
theorem step_count (cfg : Cfg) (s : State) (a : Int) : (step cfg s a).1.stepCount = s.stepCount + 1 := rfl

theorem step_ts (cfg : Cfg) (s : State) (a : Int)
    (hs : Jx.Grid.shaped s.walls cfg.numRows cfg.numCols = true) :
    (step cfg s a).2 = condLast (decide (endsSpec cfg (step cfg s a).1)) [rewardSpec (step cfg s a).1]
      (observe cfg (step cfg s a).1) := by
  have hm := step_mask_fresh cfg s a hs
  show condLast _ [if decide (atTarget (step cfg s a).1) then 1 else 0] (obsOf (step cfg s a).1) = _
  congr 1
  · rw [Bool.eq_iff_iff, decide_eq_true_iff]
    show (!((step cfg s a).1.actionMask.any id) || decide (atTarget (step cfg s a).1) ||
      decide ((step cfg s a).1.stepCount ≥ cfg.timeLimit)) = true ↔ _
    rw [hm]
    simp only [Bool.or_eq_true, Bool.not_eq_true', decide_eq_true_eq, stuck_iff, endsSpec]
    rw [or_assoc, or_rotate]
  · simp [rewardSpec]
  · unfold obsOf observe
    rw [hm]

theorem step_agent (cfg : Cfg) (s : State) (hi : Inv cfg s) (a : Nat) (ha : a < 4) :
    (step cfg s (a : Int)).1.agent = if legal cfg s a then dest s.agent a else s.agent := by
  have hag := step_agrees cfg s hi a ha
  show switchMove (if Jx.getWC s.actionMask false (a : Int) = true then (a : Int) else 4) s.agent = _
  by_cases hl : legal cfg s a
  · rw [if_pos (hag.2 hl), if_pos hl, switchMove_dir a ha]
  · have : ¬ Jx.getWC s.actionMask false (a : Int) = true := fun h => hl (hag.1 h)
    rw [if_neg this, if_neg hl, switchMove_noop]

theorem step_next (cfg : Cfg) (s : State) (hi : Inv cfg s) (a : Nat) (ha : a < 4) :
    (step cfg s (a : Int)).1 = nextSpec cfg s a := by
  have hp := step_agent cfg s hi a ha
  have hlm := legalMask_congr cfg
    { s with agent := if legal cfg s a then dest s.agent a else s.agent, stepCount := s.stepCount + 1 }
    (step cfg s (a : Int)).1 rfl hp
  show State.mk (step cfg s (a : Int)).1.agent s.target s.walls (step cfg s (a : Int)).1.actionMask (s.stepCount + 1) = _
  rw [step_mask_fresh cfg s (a : Int) hi.1, hlm, hp]
  rfl

theorem condLast_discount {O} (d : Bool) (r : List Rat) (o : O) :
    (condLast d r o).discount = if d then [0] else [1] := by
  cases d <;> rfl

theorem step_obs_eq (cfg : Cfg) (s : State) (a : Int) : (step cfg s a).2.obs = obsOf (step cfg s a).1 :=
  condLast_obs _ _ _

/-- C12 -/
theorem obs_faithful (cfg : Cfg) (s : State) (a : Int)
    (hs : Jx.Grid.shaped s.walls cfg.numRows cfg.numCols = true) :
    (step cfg s a).2.obs = observe cfg (step cfg s a).1 := by
  rw [step_ts cfg s a hs, condLast_obs]

theorem reward_eq (cfg : Cfg) (s : State) (a : Int)
    (hs : Jx.Grid.shaped s.walls cfg.numRows cfg.numCols = true) :
    (step cfg s a).2.reward = [objective (step cfg s a).1] := by
  rw [step_ts cfg s a hs, condLast_reward]; rfl

theorem last_iff (cfg : Cfg) (s : State) (a : Int)
    (hs : Jx.Grid.shaped s.walls cfg.numRows cfg.numCols = true) :
    (step cfg s a).2.stepType = .last ↔ endsSpec cfg (step cfg s a).1 := by
  rw [step_ts cfg s a hs, condLast_last_iff]; simp

theorem mid_reward_zero (cfg : Cfg) (s : State) (a : Int)
    (hs : Jx.Grid.shaped s.walls cfg.numRows cfg.numCols = true)
    (hm : (step cfg s a).2.stepType ≠ .last) : (step cfg s a).2.reward = [0] := by
  rw [reward_eq cfg s a hs]
  have : ¬ atTarget (step cfg s a).1 := fun h => hm ((last_iff cfg s a hs).2 (Or.inl h))
  unfold objective; rw [if_neg this]

theorem time_limit_last (cfg : Cfg) (s : State) (a : Int) (ht : s.stepCount + 1 ≥ cfg.timeLimit) :
    (step cfg s a).2.stepType = .last := by
  show (condLast (_ || _ || decide (s.stepCount + 1 ≥ cfg.timeLimit)) _ _).stepType = .last
  rw [condLast_last_iff]
  simp [ht]

/-- C05: an illegal in-spec action is ignored -/
theorem illegal_ignored (cfg : Cfg) (s : State) (hi : Inv cfg s) (a : Nat) (ha : a < 4) (hl : ¬ legal cfg s a) :
    (step cfg s (a : Int)).1.agent = s.agent ∧ (step cfg s (a : Int)).1.walls = s.walls ∧
    (step cfg s (a : Int)).1.target = s.target ∧ (step cfg s (a : Int)).1.stepCount = s.stepCount + 1 ∧
    illegalIgnored cfg s (step cfg s (a : Int)).1 (step cfg s (a : Int)).2 = true := by
  have hag : (step cfg s (a : Int)).1.agent = s.agent := by
    rw [step_next cfg s hi a ha]; unfold nextSpec; simp [hl]
  refine ⟨hag, rfl, rfl, rfl, ?_⟩
  have hts := step_ts cfg s (a : Int) hi.1
  have hm := step_mask_fresh cfg s (a : Int) hi.1
  have h1 : (step cfg s (a : Int)).2.reward = [rewardSpec (step cfg s (a : Int)).1] := by
    rw [hts, condLast_reward]
  have h2 := last_iff cfg s (a : Int) hi.1
  have h3 : (step cfg s (a : Int)).2.stepType ≠ .first := by
    rw [hts, condLast_stepType]; split <;> simp
  unfold illegalIgnored
  simp only [Bool.and_eq_true, decide_eq_true_eq, bne_iff_ne, ne_eq]
  exact ⟨⟨⟨⟨⟨⟨⟨hag, rfl⟩, rfl⟩, rfl⟩, hm⟩, h1⟩, h2⟩, h3⟩

/-- C07: any in-spec action keeps the configuration physically possible -/
theorem step_consistent (cfg : Cfg) (s : State) (hc : Consistent cfg s) (a : Nat) (ha : a < 4) :
    Consistent cfg (step cfg s (a : Int)).1 := by
  obtain ⟨hi, hfa, hft⟩ := hc
  refine ⟨⟨hi.1, step_mask_fresh cfg s (a : Int) hi.1⟩, ?_, hft⟩
  rw [step_walls, step_next cfg s hi a ha]
  unfold nextSpec; simp only []
  by_cases hl : legal cfg s a
  · rw [if_pos hl]; exact hl.2
  · rw [if_neg hl]; exact hfa

/-! ### whole episodes (C08) -/

/-- state after playing the actions `as` from `s` -/
def runState (cfg : Cfg) (s : State) : List Int → State
  | [] => s
  | a :: as => runState cfg (step cfg s a).1 as

/-- sum of the rewards of playing `as` from `s` -/
def runReturn (cfg : Cfg) (s : State) : List Int → Rat
  | [] => 0
  | a :: as => (step cfg s a).2.reward.sum + runReturn cfg (step cfg s a).1 as

/-- `as` is one episode: every step except possibly the final one is not LAST -/
def isEpisode (cfg : Cfg) (s : State) : List Int → Prop
  | [] => True
  | [_] => True
  | a :: b :: as => (step cfg s a).2.stepType ≠ .last ∧ isEpisode cfg (step cfg s a).1 (b :: as)

end Maze
