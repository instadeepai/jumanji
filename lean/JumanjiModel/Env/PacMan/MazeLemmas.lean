/- Proofs for Env/PacMan/Maze.lean: the table checker is sound, `reset` of a checked table is `Consistent`,
consistency along whole episodes; reachability (`Reach`) is realised by the L1 step function (`reach_walk`). -/
import JumanjiModel.Env.PacMan.Maze
import JumanjiModel.Env.PacMan.ConsistentLemmas
namespace PacMan
open Jm

theorem allFree_sound {g : IGrid} {l : List CR} (h : allFree g l = true) : ∀ c ∈ l, freeCR g c := by
  simpa [allFree] using h

theorem nodupB_iff : ∀ l : List CR, nodupB l = true ↔ l.Nodup
  | [] => by simp [nodupB]
  | a :: l => by
    rw [nodupB, Bool.and_eq_true, nodupB_iff l, List.nodup_cons, List.all_eq_true]
    refine and_congr_left fun _ => ⟨fun h hm => by simpa using h a hm, fun h b hb => ?_⟩
    have : a ≠ b := fun e => h (e ▸ hb)
    rw [Bool.not_eq_true', Bool.and_eq_false_iff, beq_eq_false_iff_ne, beq_eq_false_iff_ne]
    exact Classical.not_and_iff_not_or_not.1 fun e => this (Prod.ext e.1 e.2)

/-- the parser lists no cell twice, whatever the diagram: a parsed table needs no duplicate check -/
theorem ofAscii_nodup {maze : List (List Char)} {t : MazeTable} (h : MazeTable.ofAscii maze = some t) :
    t.pellets.Nodup ∧ t.powerUps.Nodup := by
  simp only [MazeTable.ofAscii, Option.map_eq_some_iff] at h
  obtain ⟨_, _, rfl⟩ := h
  exact ⟨cellsWith_nodup maze (· ≠ 'X'), cellsWith_nodup maze (· = 'O')⟩

theorem binaryB_sound {g : IGrid} (h : binaryB g = true) : BinaryCells g := by
  intro x hx
  obtain ⟨row, hr, hxr⟩ := List.mem_flatten.mp hx
  simpa using List.all_eq_true.mp (List.all_eq_true.mp h row hr) x hxr

theorem cellOK_of_connCheck {g : IGrid} {p : Int × Int} {dist : DistCert} (h : connCheck g p dist = true)
    (q : Int × Int) (hq : free g q.1 q.2) : cellOK g p dist q = true := by
  unfold connCheck at h
  obtain ⟨h0, h1, h2, h3, _⟩ := hq
  have hc := List.all_eq_true.mp (List.all_eq_true.mp h q.1.toNat (List.mem_range.mpr (by omega))) q.2.toNat
    (List.mem_range.mpr (by omega))
  rwa [Int.toNat_of_nonneg h0, Int.toNat_of_nonneg h2] at hc

theorem reach_of_connCheck {g : IGrid} {p : Int × Int} {dist : DistCert} (h : connCheck g p dist = true) :
    ∀ (d : Nat) (q : Int × Int), free g q.1 q.2 → distAt dist q = d → Reach g p q := by
  intro d
  induction d using Nat.strongRecOn with
  | _ d ih =>
    intro q hq hd
    have hc := cellOK_of_connCheck h q hq
    unfold cellOK at hc
    simp only [Bool.or_eq_true, Bool.not_eq_true', decide_eq_false_iff_not, decide_eq_true_eq,
      List.any_eq_true, Bool.and_eq_true, List.mem_range] at hc
    rcases hc with (hc | hc) | ⟨a, _, ⟨hf, hdist⟩, hback⟩
    · exact absurd hq hc
    · rw [hc]; exact Reach.refl
    · have hr := ih (distAt dist (target g q a)) (by omega) (target g q a) hf rfl
      exact hback ▸ Reach.move ((a + 2) % 4) hr (by omega) (hback.symm ▸ hq)

theorem tableCheck_sound (t : MazeTable) (dist : DistCert) (h : tableCheck t dist = true) : MazeTableOK t := by
  unfold tableCheck at h
  simp only [Bool.and_eq_true, decide_eq_true_eq] at h
  obtain ⟨⟨⟨⟨⟨⟨⟨⟨⟨⟨⟨⟨⟨⟨hs, hx⟩, hy⟩, hb⟩, hp⟩, hg4⟩, hgf⟩, hpg⟩, hpf⟩, hpn⟩, huf⟩, hun⟩, hs4⟩, hsf⟩, hc⟩ := h
  exact ⟨hs, hx, hy, binaryB_sound hb, hp, hg4, allFree_sound hgf,
    fun hm => by simpa [crOfPlayer] using List.all_eq_true.mp hpg _ hm, allFree_sound hpf, (nodupB_iff _).1 hpn,
    allFree_sound huf, (nodupB_iff _).1 hun, hs4, allFree_sound hsf,
    fun x y hf => reach_of_connCheck hc _ (x, y) hf rfl⟩

theorem nonzero_subset {l : List CR} {c : CR} (h : c ∈ nonzero l) : c ∈ l := (List.mem_filter.mp h).1

/-- C10 ⇒ C07: for ANY maze table satisfying the specification, the state `reset` returns is consistent and
lists no pellet twice -/
theorem reset_consistent (t : MazeTable) (h : MazeTableOK t) :
    Consistent (reset t.toState).1 ∧ (nonzero (reset t.toState).1.pelletLocs).Nodup := by
  refine ⟨⟨h.shaped, h.rows_pos, h.cols_pos, h.player_free, h.four_ghosts, h.four_ghosts, h.four_ghosts,
    rfl, rfl, rfl, rfl, h.ghosts_free, h.ghosts_free, fun c hc => h.pellets_free c (nonzero_subset hc),
    fun c hc => h.powerUps_free c (nonzero_subset hc), ?_⟩, nodup_nonzero h.pellets_nodup⟩
  intro h00
  have hnz : nonzero t.pellets = t.pellets :=
    List.filter_eq_self.mpr fun c hc => decide_eq_true (freeCR_ne_zero h00 (h.pellets_free c hc))
  show ((t.pellets.length : Nat) : Int) = ((nonzero t.pellets).length : Int)
  rw [hnz]

theorem resetState_eq_ofAscii (maze : List (List Char)) :
    resetState maze = (MazeTable.ofAscii maze).map MazeTable.toState := by
  unfold resetState MazeTable.ofAscii
  simp only [Option.map_map]
  rfl

theorem trace_invariant (tl : Int) (P : State → Prop)
    (hstep : ∀ s a d, P s → validGhostDraw s d = true → P (step tl s a d).1) :
    ∀ (ads : List (Int × Draw)) (s : State), P s → validRun tl s ads = true → ∀ s' ∈ trace tl s ads, P s'
  | [], s, hP, _ => by
    intro s' hs'
    rw [List.mem_singleton.mp hs']
    exact hP
  | (a, d) :: rest, s, hP, hv => by
    intro s' hs'
    simp only [validRun, Bool.and_eq_true] at hv
    rcases List.mem_cons.mp hs' with rfl | hs'
    · exact hP
    · exact trace_invariant tl P hstep rest _ (hstep s a d hP hv.1) hv.2 s' hs'

/-- the same induction for a property that every step keeps, whatever is drawn: no `validRun` -/
theorem trace_forall (tl : Int) (P : State → Prop) (hstep : ∀ s a d, P s → P (step tl s a d).1) :
    ∀ (ads : List (Int × Draw)) (s : State), P s → ∀ s' ∈ trace tl s ads, P s'
  | [], s, hP, s', hs' => List.mem_singleton.mp hs' ▸ hP
  | (a, d) :: rest, s, hP, s', hs' => by
    rcases List.mem_cons.mp hs' with rfl | hs'
    · exact hP
    · exact trace_forall tl P hstep rest _ (hstep s a d hP) s' hs'

theorem trace_consistent (tl : Int) (ads : List (Int × Draw)) (s : State) (hC : Consistent s)
    (hN : (nonzero s.pelletLocs).Nodup) (hv : validRun tl s ads = true) :
    ∀ s' ∈ trace tl s ads, Consistent s' ∧ (nonzero s'.pelletLocs).Nodup ∧ s'.grid = s.grid :=
  trace_invariant tl (fun s' => Consistent s' ∧ (nonzero s'.pelletLocs).Nodup ∧ s'.grid = s.grid)
    (fun s₁ a d h hd => ⟨(step_consistent tl s₁ a d h.1 h.2.1 hd).1, (step_consistent tl s₁ a d h.1 h.2.1 hd).2, h.2.2⟩)
    ads s ⟨hC, hN, rfl⟩ hv

theorem walk_congr : ∀ (as : List Int) (s1 s2 : State), s1.grid = s2.grid → s1.player = s2.player →
    walk s1 as = walk s2 as
  | [], _, _, _, hp => hp
  | a :: as, s1, s2, hg, hp => by
    have hn : nextPlayer s1 a = nextPlayer s2 a := by unfold nextPlayer; rw [hg, hp]
    exact walk_congr as _ _ hg hn

theorem trace_last_player (tl : Int) : ∀ (ads : List (Int × Draw)) (s : State),
    ∃ s', (trace tl s ads).getLast? = some s' ∧ s'.player = walk s (ads.map (·.1)) ∧ s'.grid = s.grid
  | [], s => ⟨s, rfl, rfl, rfl⟩
  | (a, d) :: rest, s => by
    obtain ⟨s', h1, h2, h3⟩ := trace_last_player tl rest (step tl s a d).1
    exact ⟨s', by simp only [trace, List.getLast?_cons, h1, Option.getD_some], h2.trans (walk_congr _ _ _ rfl rfl), h3⟩

theorem walk_append (s : State) (as : List Int) (a : Int) :
    walk s (as ++ [a]) = nextPlayer { s with player := walk s as } a := by
  induction as generalizing s with
  | nil => rfl
  | cons b bs ih => simp only [List.cons_append, walk]; rw [ih]

theorem nextPlayer_of_free (s : State) (a : Nat) (ha : a < 4)
    (hs : Jx.Grid.shaped s.grid (xSize s.grid) (ySize s.grid) = true) (hp : Inside s)
    (hf : free s.grid (target s.grid s.player a).1 (target s.grid s.player a).2) :
    nextPlayer s (a : Int) = target s.grid s.player a :=
  (nextPlayer_legal s a (by omega) hs hp).trans (if_pos ⟨ha, hf⟩)

theorem reach_free {g : IGrid} {p q : Int × Int} (hp : free g p.1 p.2) (h : Reach g p q) : free g q.1 q.2 := by
  cases h with
  | refl => exact hp
  | move a _ _ hf => exact hf

theorem reach_walk (s : State) (hs : Jx.Grid.shaped s.grid (xSize s.grid) (ySize s.grid) = true)
    (hp : free s.grid s.player.1 s.player.2) (q : Int × Int) (h : Reach s.grid s.player q) :
    ∃ as : List Int, (∀ a ∈ as, 0 ≤ a ∧ a < 4) ∧ walk s as = q := by
  induction h with
  | refl => exact ⟨[], by simp, rfl⟩
  | @move q' a hr ha hf ih =>
    obtain ⟨as, hall, hw⟩ := ih
    have hq' := reach_free hp hr
    refine ⟨as ++ [(a : Int)], List.forall_mem_append.mpr ⟨hall, ?_⟩, ?_⟩
    · simp only [List.mem_singleton, forall_eq]
      omega
    · rw [walk_append, hw]
      exact nextPlayer_of_free { s with player := q' } a ha hs (inside_of_free hq') hf

end PacMan
