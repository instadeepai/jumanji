/- PacMan, C07: every step with an admissible ghost draw preserves `Consistent` (eating a pellet removes one entry of a
duplicate-free list, so the counter stays the number of entries); the ASCII parser lists no cell twice. -/
import JumanjiModel.Env.PacMan.Lemmas
namespace PacMan
open Jm

theorem get00_indep (g : IGrid) (d d' : Int) (hx : 0 < xSize g) (hy : 0 < ySize g) :
    Jx.Grid.get g d 0 0 = Jx.Grid.get g d' 0 0 := by
  cases g with
  | nil => simp [xSize] at hx
  | cons row rest =>
    cases row with
    | nil => simp [ySize] at hy
    | cons v vs => simp [Jx.Grid.get]

/-- when cell (0,0) is a wall, no free cell is the entry `(0, 0)` that stands for an eaten pellet -/
theorem freeCR_ne_zero {g : IGrid} (h00 : Jx.Grid.get g 1 0 0 = 0) {c : CR} (hf : freeCR g c) : c ≠ (0, 0) := by
  rintro rfl
  obtain ⟨_, (hx : (0 : Int) < _), _, (hy : (0 : Int) < _), (hv : Jx.Grid.get g 0 0 0 = 1)⟩ := hf
  have := get00_indep g 0 1 (by omega) (by omega)
  omega

/-- C07: EVERY step (any action value, any time limit, any admissible ghost draw) preserves the
consistency predicate, provided no pellet cell is listed twice — which is preserved as well -/
theorem step_consistent (tl : Int) (s : State) (a : Int) (d : Draw) (hC : Consistent s)
    (hN : (nonzero s.pelletLocs).Nodup) (hd : validGhostDraw s d = true) :
    Consistent (step tl s a d).1 ∧ (nonzero (step tl s a d).1.pelletLocs).Nodup := by
  obtain ⟨hs, hx0, hy0, hpl, hg4, hig4, hog4, hst4, hge4, hga4, hgi4, hg, hig, hpel, hpow, hcnt⟩ := hC
  obtain ⟨hdp, hda⟩ := draw_lengths hd
  have hnp := nextPlayer_free s a hs hx0 hy0 hpl
  have hlen : (ghostCollisions s (nextPlayer s a) d.paths s.initGhosts s.oldGhosts s.ghostEaten).length = 4 := by
    rw [ghostCollisions_length]; omega
  have hsub : ∀ locs : List CR, (∀ c ∈ nonzero locs, freeCR s.grid c) →
      ∀ c ∈ nonzero (eatAt locs (crOfPlayer (nextPlayer s a))), freeCR s.grid c :=
    fun locs h c hc => h c ((nonzero_eatAt_sublist locs _).subset hc)
  refine ⟨⟨hs, hx0, hy0, hnp, (List.length_map ..).trans hlen, hig4, hg4, (List.length_map ..).trans hst4,
    (List.length_map ..).trans hlen, hda.trans hg4, (List.length_map ..).trans hgi4,
    fun c hc => (step_ghosts_cases tl s a d hd c hc).elim (hg c) fun h => h.elim (hig c) id,
    hig, hsub _ hpel, hsub _ hpow, ?_⟩, List.Nodup.sublist (nonzero_eatAt_sublist s.pelletLocs _) hN⟩
  intro h00
  have hpc : crOfPlayer (nextPlayer s a) ≠ (0, 0) := freeCR_ne_zero h00 hnp
  show s.pellets - (if s.pelletLocs.contains (crOfPlayer (nextPlayer s a)) = true then 1 else 0) =
    ((nonzero (eatAt s.pelletLocs (crOfPlayer (nextPlayer s a)))).length : Int)
  rw [nonzero_eatAt _ _ hpc, nodup_filter_ne_length _ _ hN, hcnt h00]
  simp only [contains_iff_mem_nonzero _ _ hpc]

theorem zipIdx_pairwise_snd {α} (l : List α) (k : Nat) :
    List.Pairwise (fun (a b : α × Nat) => a.2 ≠ b.2) (l.zipIdx k) := by
  rw [List.pairwise_iff_getElem]
  intro i j hi hj hij
  rw [List.getElem_zipIdx, List.getElem_zipIdx]
  simp only [ne_eq]
  omega

/-- cells of one row differ in the column, cells of different rows in the row -/
theorem cellsWith_nodup (maze : List (List Char)) (p : Char → Bool) : (cellsWith maze p).Nodup := by
  unfold cellsWith List.Nodup
  rw [List.pairwise_flatMap]
  constructor
  · rintro ⟨row, x⟩ _
    rw [List.pairwise_filterMap]
    refine List.Pairwise.imp ?_ (zipIdx_pairwise_snd row 0)
    rintro ⟨c1, y1⟩ ⟨c2, y2⟩ hne b hb b' hb'
    simp only [Option.ite_none_right_eq_some, Option.some.injEq] at hb hb'
    rw [← hb.2, ← hb'.2]
    exact fun h => hne (Int.ofNat.inj (congrArg Prod.fst h))
  · refine List.Pairwise.imp ?_ (zipIdx_pairwise_snd maze 0)
    rintro ⟨r1, x1⟩ ⟨r2, x2⟩ hne c1 hc1 c2 hc2
    obtain ⟨⟨ch1, y1⟩, _, h1⟩ := List.mem_filterMap.mp hc1
    obtain ⟨⟨ch2, y2⟩, _, h2⟩ := List.mem_filterMap.mp hc2
    simp only [Option.ite_none_right_eq_some, Option.some.injEq] at h1 h2
    rw [← h1.2, ← h2.2]
    exact fun h => hne (Int.ofNat.inj (congrArg Prod.snd h))

theorem nodup_nonzero {l : List CR} (h : l.Nodup) : (nonzero l).Nodup :=
  List.Nodup.sublist List.filter_sublist h

end PacMan
