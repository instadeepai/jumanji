/- PacMan, C01 value bounds: the observation of a state satisfying `BoundsInv` lies within `obsBounds`; every step with an
admissible ghost draw preserves `BoundsInv`, and consistent states satisfy it. -/
import JumanjiModel.Env.PacMan.Bounds
import JumanjiModel.Env.PacMan.Lemmas
import JumanjiModel.Env.PuzzleBounds
namespace PacMan
open Jm

theorem pairs_range {cfg : BCfg} {ps : List CR} (h : ∀ p ∈ ps, inMaze cfg p) :
    ∀ x ∈ ps.flatMap (fun p => [p.1, p.2]),
      (0 : Int) ≤ x ∧ x ≤ max (cfg.xSize : Int) (cfg.ySize : Int) - 1 :=
  Jx.forall_mem_pairs fun p hp => by
    obtain ⟨a1, a2, a3, a4⟩ := h p hp
    omega

theorem cells_range {g : IGrid} (h : BinaryCells g) : ∀ x ∈ List.flatten g, (0 : Int) ≤ x ∧ x ≤ 1 := by
  intro x hx
  rcases h x hx with rfl | rfl <;> omega

theorem observe_in_bounds (cfg : BCfg) (s : State) (hi : BoundsInv cfg s) (h1 : s.stepCount ≤ cfg.timeLimit) :
    ObsInBounds cfg (observe s) :=
  have ⟨_, _, _, _, hbin, ⟨p1, p2, p3, p4⟩, hg, _, hpel, hpow, ⟨f1, f2⟩, hsc, _⟩ := hi
  Jx.rel_of_aligned (R := fun iv vs => ∀ v ∈ vs, inIv iv v) rfl (by simp [obsLeaves]) <|
    Jx.all_cons (Jx.Iv.ints _ (cells_range hbin)) <|
    Jx.all_cons (Jx.Iv.one p1 (Int.le_sub_one_of_lt p2)) <| Jx.all_cons (Jx.Iv.one p3 (Int.le_sub_one_of_lt p4)) <|
    Jx.all_cons (Jx.Iv.ints _ (pairs_range hg)) <| Jx.all_cons (Jx.Iv.ints _ (pairs_range hpow)) <|
    Jx.all_cons (Jx.Iv.one (x := s.frightened) (by omega) f2) <| Jx.all_cons (Jx.Iv.ints _ (pairs_range hpel)) <|
    Jx.all_cons (Jx.Iv.bools _) <|
    Jx.all_cons (List.forall_mem_singleton.2 (Jx.Iv.atLeast (lo := 0) hsc)) Jx.all_nil

theorem inMaze_zero {cfg : BCfg} (h0 : 0 < cfg.xSize) (h1 : 0 < cfg.ySize) : inMaze cfg (0, 0) :=
  ⟨by simp, by simp; omega, by simp, by simp; omega⟩

theorem freeCR_inMaze {cfg : BCfg} {g : IGrid} (hx : xSize g = cfg.xSize) (hy : ySize g = cfg.ySize) {c : CR}
    (h : freeCR g c) : inMaze cfg c :=
  ⟨h.2.2.1, hy ▸ h.2.2.2.1, h.1, hx ▸ h.2.1⟩

theorem foldl_add_nonneg (xs : List Rat) (h : ∀ x ∈ xs, 0 ≤ x) :
    ∀ acc : Rat, 0 ≤ acc → 0 ≤ xs.foldl (· + ·) acc := by
  induction xs with
  | nil => intro acc ha; simpa using ha
  | cons x xs ih =>
    intro acc ha
    simp only [List.foldl_cons]
    exact ih (fun y hy => h y (List.mem_cons_of_mem _ hy)) _
      (Rat.add_nonneg ha (h x List.mem_cons_self))

theorem step_boundsInv (cfg : BCfg) (tl : Int) (s : State) (a : Int) (d : Draw) (hi : BoundsInv cfg s)
    (hd : validGhostDraw s d = true) : BoundsInv cfg (step tl s a d).1 := by
  obtain ⟨hx, hy, hx0, hy0, hbin, hpl, hg, hig, hpel, hpow, ⟨f1, f2⟩, hsc, hst⟩ := hi
  have hnp : 0 ≤ (nextPlayer s a).1 ∧ (nextPlayer s a).1 < (cfg.xSize : Int) ∧
      0 ≤ (nextPlayer s a).2 ∧ (nextPlayer s a).2 < (cfg.ySize : Int) := by
    unfold nextPlayer
    simp only []
    split
    · exact hx ▸ hy ▸ playerStep_range s.grid s.player a (by omega) (by omega)
    · exact hpl
  refine ⟨hx, hy, hx0, hy0, hbin, hnp,
    fun c hc => (step_ghosts_cases tl s a d hd c hc).elim (hg c) fun h => h.elim (hig c) (freeCR_inMaze hx hy),
    hig, eatAt_forall (inMaze_zero hx0 hy0) _ hpel, eatAt_forall (inMaze_zero hx0 hy0) _ hpow, ?_, ?_, ?_⟩
  · have hf : (step tl s a d).1.frightened =
        if s.powerUps.contains (crOfPlayer (nextPlayer s a)) = true then 30 else s.frightened - 1 := rfl
    have hc : (step tl s a d).1.stepCount = s.stepCount + 1 := rfl
    rw [hf, hc]
    split <;> omega
  · show 0 ≤ s.score + Rat.floor _
    refine Int.add_nonneg hsc (Rat.le_floor_iff.mpr (Rat.add_nonneg (Rat.add_nonneg ?_ ?_) ?_))
    · split <;> decide
    · split <;> decide
    · unfold sumRat
      apply foldl_add_nonneg _ _ 0 (by decide)
      intro x hxm
      obtain ⟨o, ho, rfl⟩ := List.mem_map.mp hxm
      obtain ⟨p, _, og, _, q, e, rfl⟩ := ghostCollisions_mem ho
      exact ghostCollision_reward_nonneg s _ p og q e
  · show 0 ≤ s.stepCount + 1
    omega

theorem boundsInv_of_consistent (cfg : BCfg) (s : State) (hC : Consistent s) (hbin : BinaryCells s.grid)
    (hx : xSize s.grid = cfg.xSize) (hy : ySize s.grid = cfg.ySize)
    (hf : -s.stepCount ≤ s.frightened ∧ s.frightened ≤ 30) (hsc : 0 ≤ s.score) (hst : 0 ≤ s.stepCount) :
    BoundsInv cfg s := by
  obtain ⟨_, hx0, hy0, hpl, _, _, _, _, _, _, _, hg, hig, hpel, hpow, _⟩ := hC
  have hz : inMaze cfg (0, 0) := inMaze_zero (by omega) (by omega)
  have hnz : ∀ (locs : List CR), (∀ c ∈ nonzero locs, freeCR s.grid c) → ∀ c ∈ locs, inMaze cfg c := by
    intro locs h c hc
    by_cases h0 : c = (0, 0)
    · rw [h0]; exact hz
    · exact freeCR_inMaze hx hy (h c (List.mem_filter.mpr ⟨hc, by simpa using h0⟩))
  exact ⟨hx, hy, by omega, by omega, hbin, hx ▸ hy ▸ ⟨hpl.1, hpl.2.1, hpl.2.2.1, hpl.2.2.2.1⟩,
    fun c hc => freeCR_inMaze hx hy (hg c hc), fun c hc => freeCR_inMaze hx hy (hig c hc), hnz _ hpel, hnz _ hpow,
    hf, hsc, hst⟩

end PacMan
