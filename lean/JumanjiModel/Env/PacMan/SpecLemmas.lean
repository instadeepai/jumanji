/-
PacMan, C01 membership: the declared `observation_spec` as an `Sp` value (`obsSpec`), the arrays an observation is emitted as
(`toNValue`), the invariant `SpecInv` (established by `reset` for every admissible maze table, preserved by every step with an
admissible ghost draw) under which the observation is a member, and what membership implies; the reset observation (C12);
mask = legal moves along whole episodes (C04); `generate_value()` is answered (C01).
-/
import JumanjiModel.Env.PacMan.BoundsLemmas
import JumanjiModel.Core.TimeStepLemmas
import JumanjiModel.Env.PacMan.ConsistentLemmas
import JumanjiModel.Env.PacMan.MazeLemmas
import JumanjiModel.Env.SpecMembership
namespace PacMan
open Jm Sp PzS

/-- env.py `observation_spec` in the order of its children (`nPellets` = number of rows of `generator.pellet_spaces`):
`grid` BoundedArray((x_size, y_size), int32, 0, 1); `player_locations` = Position spec with `y` in [0, y_size − 1] and
`x` in [0, x_size − 1]; `ghost_locations`, `power_up_locations` Array((4, 2), int32); `frightened_state_time`
Array((), int32); `pellet_locations` Array((nPellets, 2), int32); `action_mask` BoundedArray((5,), bool, 0, 1);
`score` Array((), int32) (whose NAME is "frightened_state_time" in the source — copied line) -/
def obsSpec (cfg : BCfg) (nPellets : Nat) : Sp.Nested :=
  [("grid", .bounded [cfg.xSize, cfg.ySize] .int32 "grid" [] [0] [] [1]),
   ("player_locations.y", .bounded [] .int32 "y_coordinate" [] [0] [] [(((cfg.ySize : Int) - 1 : Int) : Rat)]),
   ("player_locations.x", .bounded [] .int32 "x_coordinate" [] [0] [] [(((cfg.xSize : Int) - 1 : Int) : Rat)]),
   ("ghost_locations", .array [4, 2] .int32 "ghost_locations"),
   ("power_up_locations", .array [4, 2] .int32 "power_up_locations"),
   ("frightened_state_time", .array [] .int32 "frightened_state_time"),
   ("pellet_locations", .array [nPellets, 2] .int32 "pellet_locations"),
   ("action_mask", .bounded [5] .bool "action_mask" [] [0] [] [1]),
   ("score", .array [] .int32 "frightened_state_time")]

/-- `action_spec`: DiscreteArray(5) (int32) -/
def actionSpec : Leaf := .discrete 5 .int32 "action"

def innerDim {α : Type} (d : Nat) : List (List α) → Nat
  | [] => d
  | r :: _ => r.length

def flatPairs (ps : List CR) : List Int := ps.flatMap (fun p => [p.1, p.2])

/-- a model observation as the arrays the implementation emits (all int32 except the boolean mask); shapes are read
off the value -/
def toNValue (cfg : BCfg) (o : Obs) : NValue :=
  [("grid", ⟨[List.length o.grid, innerDim cfg.ySize o.grid], .int32, ofInts (List.flatten o.grid)⟩),
   ("player_locations.y", ⟨[], .int32, [(o.player.2 : Rat)]⟩),
   ("player_locations.x", ⟨[], .int32, [(o.player.1 : Rat)]⟩),
   ("ghost_locations", ⟨[o.ghosts.length, 2], .int32, ofInts (flatPairs o.ghosts)⟩),
   ("power_up_locations", ⟨[o.powerUps.length, 2], .int32, ofInts (flatPairs o.powerUps)⟩),
   ("frightened_state_time", ⟨[], .int32, [(o.frightened : Rat)]⟩),
   ("pellet_locations", ⟨[o.pelletLocs.length, 2], .int32, ofInts (flatPairs o.pelletLocs)⟩),
   ("action_mask", ⟨[o.mask.length], .bool, ofBools o.mask⟩),
   ("score", ⟨[], .int32, [(o.score : Rat)]⟩)]

theorem flatPairs_length (ps : List CR) : (flatPairs ps).length = ps.length * 2 :=
  Jx.length_flatMap_uniform ps _ 2 fun _ _ => rfl

theorem innerDim_of_rows {α : Type} (d m : Nat) (g : List (List α)) (h : ∀ r ∈ g, r.length = m) (h0 : g = [] → d = m) :
    innerDim d g = m := by
  cases g with
  | nil => exact h0 rfl
  | cons r t => exact h r (by simp)

/-- the invariant under which the observation is a member of the spec -/
def SpecInv (cfg : BCfg) (nPellets : Nat) (s : State) : Prop :=
  Consistent s ∧ (nonzero s.pelletLocs).Nodup ∧ BoundsInv cfg s ∧ s.powerUps.length = 4 ∧
  s.pelletLocs.length = nPellets

instance (cfg : BCfg) (nP : Nat) (s : State) : Decidable (SpecInv cfg nP s) := by unfold SpecInv; infer_instance

/-- what `validate` accepts, exactly (four leaves are unbounded `Array`s; the grid's width is read off its first row) -/
theorem obs_valid_iff (cfg : BCfg) (nP : Nat) (o : Obs) : (obsSpec cfg nP).valid (toNValue cfg o) = true ↔
    List.length o.grid = cfg.xSize ∧ innerDim cfg.ySize o.grid = cfg.ySize ∧
    (List.flatten o.grid).length = cfg.xSize * cfg.ySize ∧ (∀ v ∈ List.flatten o.grid, 0 ≤ v ∧ v ≤ 1) ∧
    (0 ≤ o.player.2 ∧ o.player.2 ≤ (cfg.ySize : Int) - 1) ∧ (0 ≤ o.player.1 ∧ o.player.1 ≤ (cfg.xSize : Int) - 1) ∧
    o.ghosts.length = 4 ∧ o.powerUps.length = 4 ∧ o.pelletLocs.length = nP ∧ o.mask.length = 5 := by
  simp only [obsSpec, toNValue, valid_cons, valid_nil, valid_scalar_bounded_iff, valid_array_iff, forall_ofInts,
    forall_ofBools, PkS.ofInts_length, PkS.ofBools_length, flatPairs_length, prod_one, prod_two, prod_nil,
    List.forall_mem_singleton, List.length_singleton, List.cons.injEq, Rat.intCast_nonneg, Rat.intCast_le_intCast,
    intCast_le_ofNat, true_and, and_true, and_assoc, and_self, Nat.mul_left_inj (Nat.succ_ne_zero 1)]

/-- C01: the observation of a state satisfying the invariant is a member of `observation_spec` -/
theorem obs_valid (cfg : BCfg) (nP : Nat) (s : State) (hI : SpecInv cfg nP s) :
    (obsSpec cfg nP).valid (toNValue cfg (observe s)) = true := by
  obtain ⟨hC, _, ⟨hx, hy, hx0, hy0, hbin, hpl, _⟩, hp4, hpn⟩ := hI
  obtain ⟨hgl, hgr⟩ := (Jx.Grid.shaped_iff_mem s.grid cfg.xSize cfg.ySize).1 (by rw [← hx, ← hy]; exact hC.1)
  exact (obs_valid_iff cfg nP _).2 ⟨hgl, innerDim_of_rows _ _ _ hgr fun _ => rfl,
    (Jx.Grid.flatten_length hgr).trans (by rw [hgl]), cells_range hbin, ⟨hpl.2.2.1, Int.le_sub_one_of_lt hpl.2.2.2⟩,
    ⟨hpl.1, Int.le_sub_one_of_lt hpl.2.1⟩, hC.2.2.2.2.1, hp4, hpn, rfl⟩

theorem obs_valid_only (cfg : BCfg) (nP : Nat) (o : Obs) (h : (obsSpec cfg nP).valid (toNValue cfg o) = true) :
    List.length o.grid = cfg.xSize ∧ (List.flatten o.grid).length = cfg.xSize * cfg.ySize ∧
    (∀ v ∈ List.flatten o.grid, v = 0 ∨ v = 1) ∧
    (0 ≤ o.player.1 ∧ o.player.1 ≤ (cfg.xSize : Int) - 1) ∧ (0 ≤ o.player.2 ∧ o.player.2 ≤ (cfg.ySize : Int) - 1) ∧
    o.ghosts.length = 4 ∧ o.powerUps.length = 4 ∧ o.pelletLocs.length = nP ∧ o.mask.length = 5 :=
  have ⟨h1, _, h2, h3, h4, h5, h⟩ := (obs_valid_iff cfg nP o).1 h
  ⟨h1, h2, fun v hv => by have := h3 v hv; omega, h5, h4, h⟩

theorem step_specInv (cfg : BCfg) (nP : Nat) (tl : Int) (s : State) (a : Int) (d : Draw) (hI : SpecInv cfg nP s)
    (hd : validGhostDraw s d = true) : SpecInv cfg nP (step tl s a d).1 := by
  obtain ⟨hC, hN, hB, hp4, hpn⟩ := hI
  obtain ⟨c1, c2⟩ := step_consistent tl s a d hC hN hd
  exact ⟨c1, c2, step_boundsInv cfg tl s a d hB hd, (eatAt_length ..).trans hp4, (eatAt_length ..).trans hpn⟩

theorem reset_specInv (t : MazeTable) (h : MazeTableOK t) (h4 : t.powerUps.length = 4) (tl : Int) :
    SpecInv ⟨xSize t.grid, ySize t.grid, tl⟩ t.pellets.length (reset t.toState).1 := by
  obtain ⟨c1, c2⟩ := reset_consistent t h
  -- the generated state has timer, score and step counter 0
  exact ⟨c1, c2, boundsInv_of_consistent _ _ c1 h.binary rfl rfl ⟨Int.le_refl 0, (by decide : (0 : Int) ≤ 30)⟩ (Int.le_refl 0) (Int.le_refl 0),
    h4, rfl⟩

theorem reset_obs_faithful (g : State) :
    (reset g).2.obs = observe (reset g).1 ∧ (reset g).2.stepType = .first ∧ (reset g).1 = g := ⟨rfl, rfl, rfl⟩

theorem step_player (tl : Int) (s : State) (a : Int) (d : Draw) : (step tl s a d).1.player = nextPlayer s a := rfl

theorem binary_of_cells {g : IGrid} (h : BinaryCells g) : Binary g := fun r c =>
  Jx.Grid.get_of_all r c (fun row hrow x hx => h x (List.mem_flatten.mpr ⟨row, hrow, hx⟩)) (Or.inl rfl)

/-- C04 along whole episodes: in every state of EVERY episode (any ghost draws, admissible or not) that starts with the player
on a free cell of a rectangular 0/1 maze whose borders mirror each other, every mask bit is set exactly when the rules allow the
action.  Only the player's side of `step` matters (`PlayerOK`), so nothing is asked of ghosts or pellets. -/
theorem mask_iff_legal_along (tl : Int) (ads : List (Int × Draw)) (s : State)
    (hs : Jx.Grid.shaped s.grid (xSize s.grid) (ySize s.grid) = true) (hf : free s.grid s.player.1 s.player.2)
    (hbin : BinaryCells s.grid) (hb : BorderSymmetric s.grid) :
    ∀ s' ∈ trace tl s ads, ∀ a : Nat, a ≤ 4 → ((maskOf s').getD a false = true ↔ legal s' a) :=
  fun s' hs' => mask_iff_legal_of_playerOK
    (trace_forall tl (PlayerOK s.grid) (step_playerOK hs tl) ads s ⟨rfl, hf⟩ s' hs') hs (binary_of_cells hbin) hb

/-- C12, the mask clause: the mask `step` emits is the rules' mask of the SUCCESSOR state, for any action value and any ghost draw -/
theorem obs_mask_documented (tl : Int) (s : State) (a : Int) (d : Draw)
    (hs : Jx.Grid.shaped s.grid (xSize s.grid) (ySize s.grid) = true) (hf : free s.grid s.player.1 s.player.2)
    (hbin : BinaryCells s.grid) (hb : BorderSymmetric s.grid) (b : Nat) (hb4 : b ≤ 4) :
    ((step tl s a d).2.obs.mask.getD b false = true ↔ legal (step tl s a d).1 b) := by
  rw [obs_faithful]
  exact mask_iff_legal_of_playerOK (step_playerOK hs tl s a d ⟨rfl, hf⟩) hs (binary_of_cells hbin) hb b hb4

/-- C01 along whole episodes, for every maze table satisfying the C10 specification that carries four power-ups (extents and
number of pellets read off the table): the reset observation and the observation emitted by any step (admissible ghost draw)
from any state of the episode are members of the spec -/
theorem obs_valid_along_of_table (t : MazeTable) (h : MazeTableOK t) (h4 : t.powerUps.length = 4) (tl : Int)
    (ads : List (Int × Draw)) (hv : validRun tl (reset t.toState).1 ads = true) :
    (obsSpec ⟨xSize t.grid, ySize t.grid, tl⟩ t.pellets.length).valid
      (toNValue ⟨xSize t.grid, ySize t.grid, tl⟩ (reset t.toState).2.obs) = true ∧
    ∀ s' ∈ trace tl (reset t.toState).1 ads, ∀ (a : Int) (d : Draw), validGhostDraw s' d = true →
      (obsSpec ⟨xSize t.grid, ySize t.grid, tl⟩ t.pellets.length).valid
        (toNValue ⟨xSize t.grid, ySize t.grid, tl⟩ (step tl s' a d).2.obs) = true := by
  have hI := reset_specInv t h h4 tl
  refine ⟨obs_valid _ _ _ hI, fun s' hs' a d hd => ?_⟩
  rw [obs_faithful]
  exact obs_valid _ _ _ (step_specInv _ _ tl s' a d
    (trace_invariant tl _ (fun s a d h hd => step_specInv _ _ tl s a d h hd) ads _ hI hv s' hs') hd)

theorem condLast_ok {O : Type} (b : Bool) (x : Rat) (o : O) : StepOK none false (condLast b [x] o) = true :=
  condLast_stepOK b x o

/-- `generate_value()` = 0 is a member of `DiscreteArray(5)`, and `step` answers it in EVERY state, for every time limit
and ghost draw, with a protocol-conform timestep -/
theorem accepts_generate_value (tl : Int) (s : State) (d : Draw) :
    actionSpec.WF = true ∧ actionSpec.valid actionSpec.generate = true ∧
    actionSpec.generate = ⟨[], .int32, [0]⟩ ∧ StepOK none false (step tl s 0 d).2 = true := by
  refine ⟨by decide, by decide, by decide, ?_⟩
  unfold step
  exact condLast_stepOK _ _ _

end PacMan
