/- PacMan, what the model's definitions compute.  The player's side of `step`: the JAX gather on a rectangular maze is the lookup
at the clamped index, `player_step` / `check_wall_collisions` against the rules' `target` / `free`, mask bit = legal move (C04),
illegal actions are ignored (C05), observation of `step` (C12), time limit and LAST iff limit, death or no pellet left (C11),
what the player's side keeps and needs whatever the ghosts do (`PlayerOK`).
The ghosts' side: `ghostCollisions` is a `zipWith`; when a collision kills the player (C11), where a ghost can be after a step
with an admissible draw.  Eating: `eatAt` / `nonzero`. -/
import JumanjiModel.Env.PacMan.Model
import JumanjiModel.Core.TimeStepLemmas
import JumanjiModel.Prim.GridLemmas
namespace PacMan
open Jm

theorem shift_mod_ne {x X k : Int} (hX : 2 ≤ X) (hk : k = 1 ∨ k = -1) : (x + k) % X ≠ x := by
  intro h
  have hd : X ∣ k := by
    have := Int.dvd_self_sub_of_emod_eq h
    rwa [show x + k - x = k by omega] at this
  have hd : X ∣ 1 := by
    rcases hk with rfl | rfl
    · exact hd
    · exact Int.dvd_neg.mp hd
  have := Int.eq_one_of_dvd_one (by omega) hd
  omega

/-- the player is inside the maze -/
def Inside (s : State) : Prop :=
  0 ≤ s.player.1 ∧ s.player.1 < (xSize s.grid : Int) ∧ 0 ≤ s.player.2 ∧ s.player.2 < (ySize s.grid : Int)

theorem inside_of_free {s : State} (h : free s.grid s.player.1 s.player.2) : Inside s :=
  ⟨h.1, h.2.1, h.2.2.1, h.2.2.2.1⟩

theorem Inside.pos {s : State} (h : Inside s) : 0 < xSize s.grid ∧ 0 < ySize s.grid := by
  obtain ⟨h1, h2, h3, h4⟩ := h
  omega

theorem playerStep_eq_target (s : State) (a : Nat) (ha : a ≤ 4) (hp : Inside s) :
    playerStep s.grid s.player (a : Int) = target s.grid s.player a := by
  obtain ⟨h1, h2, h3, h4⟩ := hp
  have hx := Int.emod_eq_of_lt h1 h2
  have hy := Int.emod_eq_of_lt h3 h4
  have : a = 0 ∨ a = 1 ∨ a = 2 ∨ a = 3 ∨ a = 4 := by omega
  rcases this with rfl | rfl | rfl | rfl | rfl <;> simp [playerStep, target, hx, hy]

theorem playerStep_range (g : IGrid) (p : Int × Int) (a : Int) (hx : 0 < xSize g) (hy : 0 < ySize g) :
    0 ≤ (playerStep g p a).1 ∧ (playerStep g p a).1 < (xSize g : Int) ∧
    0 ≤ (playerStep g p a).2 ∧ (playerStep g p a).2 < (ySize g : Int) := by
  -- every branch of `player_step` reduces both coordinates modulo the extents; what holds of both branches of a
  -- conditional holds of the conditional (splitting the goal itself also splits the clamping of `a`, which is slow)
  let P (q : Int × Int) : Prop := ∃ u v, q = (u % (xSize g : Int), v % (ySize g : Int))
  have hite : ∀ (c : Prop) [Decidable c] (x y : Int × Int), P x → P y → P (if c then x else y) := by
    intro c _ x y hx hy
    split
    · exact hx
    · exact hy
  obtain ⟨u, v, h⟩ : P (playerStep g p a) :=
    hite _ _ _ ⟨_, _, rfl⟩ (hite _ _ _ ⟨_, _, rfl⟩ (hite _ _ _ ⟨_, _, rfl⟩ (hite _ _ _ ⟨_, _, rfl⟩ ⟨_, _, rfl⟩)))
  rw [h]
  exact ⟨Int.emod_nonneg _ (by omega), Int.emod_lt_of_pos _ (by omega), Int.emod_nonneg _ (by omega),
    Int.emod_lt_of_pos _ (by omega)⟩

theorem target_inside (s : State) (a : Nat) (ha : a ≤ 4) (hp : Inside s) :
    0 ≤ (target s.grid s.player a).1 ∧ (target s.grid s.player a).1 < (xSize s.grid : Int) ∧
    0 ≤ (target s.grid s.player a).2 ∧ (target s.grid s.player a).2 < (ySize s.grid : Int) := by
  rw [← playerStep_eq_target s a ha hp]
  exact playerStep_range s.grid s.player a hp.pos.1 hp.pos.2

theorem target_ne (s : State) (a : Nat) (ha : a < 4) (hX : 2 ≤ xSize s.grid) (hY : 2 ≤ ySize s.grid) :
    target s.grid s.player a ≠ s.player := by
  have hX' : (2 : Int) ≤ xSize s.grid := by omega
  have hY' : (2 : Int) ≤ ySize s.grid := by omega
  have : a = 0 ∨ a = 1 ∨ a = 2 ∨ a = 3 := by omega
  intro h
  rcases this with rfl | rfl | rfl | rfl
  · exact shift_mod_ne hX' (Or.inr rfl) (congrArg Prod.fst h)
  · exact shift_mod_ne hY' (Or.inr rfl) (congrArg Prod.snd h)
  · exact shift_mod_ne hX' (Or.inl rfl) (congrArg Prod.fst h)
  · exact shift_mod_ne hY' (Or.inl rfl) (congrArg Prod.snd h)

theorem gridGetWC_clamp (g : IGrid) (hs : Jx.Grid.shaped g (xSize g) (ySize g) = true)
    (hX : 0 < xSize g) (i j : Int) :
    Jx.Grid.getWC g 0 i j = Jx.Grid.get g 0 (Jx.clampIdx (xSize g) i) (Jx.clampIdx (ySize g) j) := by
  have hrow := Jx.Grid.shaped_row hs (Jx.clampIdx_lt hX i)
  simp only [Jx.Grid.getWC, Jx.Grid.get, Jx.getWC, xSize] at hrow ⊢
  rw [hrow]

/-- `check_wall_collisions` on a rectangular maze: the player moves iff the cell `player_step` names is free -/
theorem nextPlayer_eq (s : State) (a : Int) (hs : Jx.Grid.shaped s.grid (xSize s.grid) (ySize s.grid) = true)
    (hx : 0 < xSize s.grid) (hy : 0 < ySize s.grid) :
    nextPlayer s a = if free s.grid (playerStep s.grid s.player a).1 (playerStep s.grid s.player a).2
      then playerStep s.grid s.player a else s.player := by
  have hr := playerStep_range s.grid s.player a hx hy
  unfold nextPlayer
  simp only []
  rw [Jx.Grid.getWC_eq_get hs 0 hr.1 hr.2.1 hr.2.2.1 hr.2.2.2]
  simp only [free, hr, true_and]

theorem nextPlayer_free (s : State) (a : Int)
    (hs : Jx.Grid.shaped s.grid (xSize s.grid) (ySize s.grid) = true)
    (hx : 0 < xSize s.grid) (hy : 0 < ySize s.grid)
    (hf : free s.grid s.player.1 s.player.2) :
    free s.grid (nextPlayer s a).1 (nextPlayer s a).2 := by
  rw [nextPlayer_eq s a hs hx hy]
  split
  · assumption
  · exact hf

theorem nextPlayer_legal (s : State) (a : Nat) (ha : a ≤ 4)
    (hs : Jx.Grid.shaped s.grid (xSize s.grid) (ySize s.grid) = true) (hp : Inside s) :
    nextPlayer s (a : Int) = if legal s a then target s.grid s.player a else s.player := by
  rw [nextPlayer_eq s a hs hp.pos.1 hp.pos.2, playerStep_eq_target s a ha hp]
  by_cases h4 : a < 4
  · simp only [legal, h4, true_and]
  · obtain rfl : a = 4 := by omega
    rw [if_neg (fun h : legal s 4 => absurd h.1 (by decide))]
    exact ite_self _

/-- C04 (reaction): an action is legal iff `nextPlayer` (the player of `step`'s successor state, `step_player`) moves the player -/
theorem legal_iff_moves (s : State) (a : Nat) (ha : a ≤ 4)
    (hs : Jx.Grid.shaped s.grid (xSize s.grid) (ySize s.grid) = true) (hp : Inside s)
    (hX : 2 ≤ xSize s.grid) (hY : 2 ≤ ySize s.grid) :
    legal s a ↔ nextPlayer s (a : Int) ≠ s.player := by
  rw [nextPlayer_legal s a ha hs hp]
  by_cases hl : legal s a
  · rw [if_pos hl]; exact iff_of_true hl (target_ne s a hl.1 hX hY)
  · rw [if_neg hl]; exact iff_of_false hl fun h => h rfl

/-- C05 for a maze of any extents: an illegal action leaves the player in place -/
theorem illegal_ignored_any (tl : Int) (s : State) (a : Nat) (d : Draw) (ha : a ≤ 4)
    (hs : Jx.Grid.shaped s.grid (xSize s.grid) (ySize s.grid) = true) (hp : Inside s) (hill : ¬ legal s a) :
    IllegalIgnored s (step tl s (a : Int) d).1 := by
  have h : nextPlayer s (a : Int) = s.player := (nextPlayer_legal s a ha hs hp).trans (if_neg hill)
  simp [IllegalIgnored, step, h]

/-- C05: an illegal action leaves the player in place and only what lies on its own cell is
eaten; maze untouched (`hX`, `hY` are not used: this is `illegal_ignored_any`) -/
theorem illegal_ignored (tl : Int) (s : State) (a : Nat) (d : Draw) (ha : a ≤ 4)
    (hs : Jx.Grid.shaped s.grid (xSize s.grid) (ySize s.grid) = true) (hp : Inside s)
    (hX : 2 ≤ xSize s.grid) (hY : 2 ≤ ySize s.grid) (hill : ¬ legal s a) :
    IllegalIgnored s (step tl s (a : Int) d).1 := illegal_ignored_any tl s a d ha hs hp hill

/-- C12: the observation is `observe` of the successor state -/
theorem obs_faithful (tl : Int) (s : State) (a : Int) (d : Draw) :
    (step tl s a d).2.obs = observe (step tl s a d).1 := by
  unfold step; exact condLast_obs _ _ _

/-- C11: the counter advances by one and the step is LAST once it reaches the limit -/
theorem time_limit (tl : Int) (s : State) (a : Int) (d : Draw) :
    (step tl s a d).1.stepCount = s.stepCount + 1 ∧
    (s.stepCount + 1 ≥ tl → (step tl s a d).2.stepType = .last) := by
  refine ⟨rfl, fun h => ?_⟩
  unfold step
  rw [condLast_last_iff]
  simp [h]

/-- C11, both directions: LAST iff the player is dead in the successor, no pellet is left, or the limit is reached -/
theorem step_last_iff (tl : Int) (s : State) (a : Int) (d : Draw) :
    (step tl s a d).2.stepType = .last ↔
      (((step tl s a d).1.dead = true ∨ (step tl s a d).1.pellets = 0) ∨ tl ≤ s.stepCount + 1) := by
  have h : (step tl s a d).2.stepType = .last ↔ (decide (s.stepCount + 1 ≥ tl) || (step tl s a d).1.dead ||
      decide ((step tl s a d).1.pellets = 0)) = true := condLast_last_iff _ _ _
  rw [h, Bool.or_eq_true, Bool.or_eq_true, decide_eq_true_eq, decide_eq_true_eq, or_assoc, or_comm]

/-- every cell of the maze is 0 (wall) or 1 (free) -/
def Binary (g : IGrid) : Prop := ∀ r c, Jx.Grid.get g 0 r c = 0 ∨ Jx.Grid.get g 0 r c = 1

theorem maskOf_eq (s : State) : maskOf s =
    [decide (Jx.Grid.getWC s.grid 0 (s.player.1 - 1) s.player.2 ≠ 0),
     decide (Jx.Grid.getWC s.grid 0 s.player.1 (s.player.2 - 1) ≠ 0),
     decide (Jx.Grid.getWC s.grid 0 (s.player.1 + 1) s.player.2 ≠ 0),
     decide (Jx.Grid.getWC s.grid 0 s.player.1 (s.player.2 + 1) ≠ 0), false] := rfl

/-- C04: the mask bit of `a` is set exactly when the rules allow the move, provided the player
is inside the maze and every tunnel has two open ends -/
theorem mask_iff_legal (s : State) (a : Nat) (ha : a ≤ 4)
    (hs : Jx.Grid.shaped s.grid (xSize s.grid) (ySize s.grid) = true) (hp : Inside s)
    (hbin : Binary s.grid) (hb : BorderSymmetric s.grid) :
    (maskOf s).getD a false = true ↔ legal s a := by
  have ht := target_inside s a ha hp
  obtain ⟨h1, h2, h3, h4⟩ := hp
  have hX : 0 < xSize s.grid := by omega
  have e1 := Jx.clampIdx_self (xSize s.grid) s.player.1 ⟨h1, h2⟩
  have e2 := Jx.clampIdx_self (ySize s.grid) s.player.2 ⟨h3, h4⟩
  -- bit `a` tests the value of the cell the rules name: the gather wraps −1 like the rules, and clamps
  -- "one past the border" to the last row / column, which mirrors the first
  have hv : a < 4 → (maskOf s).getD a false =
      decide (Jx.Grid.get s.grid 0 (target s.grid s.player a).1.toNat (target s.grid s.player a).2.toNat ≠ 0) := by
    intro ha4
    have : a = 0 ∨ a = 1 ∨ a = 2 ∨ a = 3 := by omega
    rw [maskOf_eq]
    rcases this with rfl | rfl | rfl | rfl <;>
      simp only [target, List.getD_cons_succ, List.getD_cons_zero, gridGetWC_clamp s.grid hs hX, e1, e2]
    · rw [Jx.clampIdx_eq_mod (by omega) (by omega)]
    · rw [Jx.clampIdx_eq_mod (by omega) (by omega)]
    · rw [Jx.wrap_succ (fun r => Jx.Grid.get s.grid 0 r s.player.2.toNat) _ _ ⟨h1, h2⟩ (hb.2 _ (by omega))]
    · rw [Jx.wrap_succ (fun c => Jx.Grid.get s.grid 0 s.player.1.toNat c) _ _ ⟨h3, h4⟩ (hb.1 _ (by omega))]
  by_cases ha4 : a < 4
  · rw [hv ha4]
    unfold legal free
    rcases hbin (target s.grid s.player a).1.toNat (target s.grid s.player a).2.toNat with h | h <;>
      simp [h, ha4, ht]
  · have : a = 4 := by omega
    subst this
    simp [maskOf_eq, legal]

/-- the maze is `g` and the player stands on a free cell of it: all that the player's side of `step` needs, and what it
keeps whatever the ghosts do and whatever is drawn for them (`step_playerOK`) -/
def PlayerOK (g : IGrid) (s : State) : Prop := s.grid = g ∧ free g s.player.1 s.player.2

theorem step_playerOK {g : IGrid} (hs : Jx.Grid.shaped g (xSize g) (ySize g) = true) (tl : Int) (s : State) (a : Int)
    (d : Draw) (h : PlayerOK g s) : PlayerOK g (step tl s a d).1 := by
  obtain ⟨rfl, hf⟩ := h
  have hp := (inside_of_free hf).pos
  exact ⟨rfl, nextPlayer_free s a hs hp.1 hp.2 hf⟩

theorem mask_iff_legal_of_playerOK {g : IGrid} {s : State} (h : PlayerOK g s)
    (hs : Jx.Grid.shaped g (xSize g) (ySize g) = true) (hbin : Binary g) (hb : BorderSymmetric g) (a : Nat) (ha : a ≤ 4) :
    (maskOf s).getD a false = true ↔ legal s a := by
  obtain ⟨rfl, hf⟩ := h
  exact mask_iff_legal s a ha hs (inside_of_free hf) hbin hb

/-! ### the ghosts' side of `step` -/

theorem ghostCollisions_eq (s : State) (np : Int × Int) (ps os qs : List CR) (es : List Bool) :
    ghostCollisions s np ps os qs es =
      List.zipWith (fun (po : CR × CR) (qe : CR × Bool) => ghostCollision s np po.1 po.2 qe.1 qe.2)
        (ps.zip os) (qs.zip es) := by
  fun_induction ghostCollisions s np ps os qs es with
  | case1 p ps o os q qs e es ih => simp only [List.zip_cons_cons, List.zipWith_cons_cons, ih]
  | case2 ps os qs es h =>
    -- one of the four lists is empty
    match ps, os, qs, es, h with
    | [], _, _, _, _ | _ :: _, [], _, _, _ | _ :: _, _ :: _, [], _, _ | _ :: _, _ :: _, _ :: _, [], _ => simp
    | p :: ps, o :: os, q :: qs, e :: es, h => exact (h p ps o os q qs e es rfl rfl rfl rfl).elim

theorem ghostCollisions_length (s : State) (np : Int × Int) (ps os qs : List CR) (es : List Bool) :
    (ghostCollisions s np ps os qs es).length = min (min ps.length os.length) (min qs.length es.length) := by
  rw [ghostCollisions_eq, List.length_zipWith, List.length_zip, List.length_zip]

theorem ghostCollisions_mem {s : State} {np : Int × Int} {ps os qs : List CR} {es : List Bool} {o : GhostOut}
    (h : o ∈ ghostCollisions s np ps os qs es) : ∃ p ∈ ps, ∃ og ∈ os, ∃ q e, o = ghostCollision s np p og q e := by
  rw [ghostCollisions_eq] at h
  obtain ⟨⟨p, og⟩, hpo, ⟨q, e⟩, _, rfl⟩ := Jx.mem_zipWith h
  exact ⟨p, (List.of_mem_zip hpo).1, og, (List.of_mem_zip hpo).2, q, e, rfl⟩

theorem ghostCollision_done (s : State) (np : Int × Int) (path og old : CR) (e : Bool) :
    (ghostCollision s np path og old e).done = true ↔ (s.frightened ≤ 0 ∧ touches s np path old) := by
  have hf : s.frightened ≤ 0 ↔ ¬ s.frightened > 0 := by omega
  unfold ghostCollision touches
  simp only [hf]
  split
  · split <;> simp_all [or_assoc]
  · simp_all [or_assoc]

/-- the "other cause" `dead` at the level of the rules: some ghost touches the player while the ghosts are not frightened -/
theorem ghostCollisions_any_done (s : State) (np : Int × Int) (ps os qs : List CR) (es : List Bool) :
    (ghostCollisions s np ps os qs es).any (·.done) = true ↔
      (s.frightened ≤ 0 ∧ ∃ (i : Nat) (p o q : CR) (e : Bool), ps[i]? = some p ∧ os[i]? = some o ∧ qs[i]? = some q ∧
        es[i]? = some e ∧ touches s np p q) := by
  rw [ghostCollisions_eq, List.any_eq_true]
  constructor
  · rintro ⟨x, hx, hd⟩
    obtain ⟨i, hi⟩ := List.getElem?_of_mem hx
    obtain ⟨⟨p, o⟩, ⟨q, e⟩, h1, h2, rfl⟩ := List.getElem?_zipWith_eq_some.1 hi
    obtain ⟨a, b⟩ := List.getElem?_zip_eq_some.1 h1
    obtain ⟨c, d⟩ := List.getElem?_zip_eq_some.1 h2
    obtain ⟨hf, ht⟩ := (ghostCollision_done s np p o q e).1 hd
    exact ⟨hf, i, p, o, q, e, a, b, c, d, ht⟩
  · rintro ⟨hf, i, p, o, q, e, a, b, c, d, ht⟩
    exact ⟨_, List.mem_of_getElem? (List.getElem?_zipWith_eq_some.2 ⟨(p, o), (q, e), List.getElem?_zip_eq_some.2 ⟨a, b⟩,
      List.getElem?_zip_eq_some.2 ⟨c, d⟩, rfl⟩), (ghostCollision_done s np p o q e).2 ⟨hf, ht⟩⟩

theorem ghostCollision_pos (s : State) (np : Int × Int) (path og old : CR) (e : Bool) :
    (ghostCollision s np path og old e).pos = path ∨ (ghostCollision s np path og old e).pos = og := by
  unfold ghostCollision
  simp only []
  split
  · split <;> simp
  · simp

theorem ghostCollision_reward_nonneg (s : State) (np : Int × Int) (path og old : CR) (e : Bool) :
    0 ≤ (ghostCollision s np path og old e).reward := by
  unfold ghostCollision
  simp only []
  have h01 : (0 : Rat) ≤ (if e = true then (1 : Rat) else 0) := by split <;> decide
  apply Rat.mul_nonneg _ h01
  split
  · split
    · exact (by decide : (0 : Rat) ≤ 200)
    · exact Rat.le_refl
  · exact Rat.le_refl

theorem draw_lengths {s : State} {d : Draw} (hd : validGhostDraw s d = true) :
    d.paths.length = s.ghosts.length ∧ d.actions.length = s.ghosts.length := by
  unfold validGhostDraw at hd
  simp only [Bool.and_eq_true, beq_iff_eq] at hd
  exact ⟨hd.1.1.1, hd.1.1.2⟩

theorem draw_path_cases {s : State} {d : Draw} (hd : validGhostDraw s d = true) :
    ∀ p ∈ d.paths, p ∈ s.ghosts ∨ freeCR s.grid p := by
  unfold validGhostDraw at hd
  simp only [Bool.and_eq_true, beq_iff_eq, List.all_eq_true, id] at hd
  obtain ⟨⟨⟨hl1, _⟩, hall⟩, hl3⟩ := hd
  intro p hp
  obtain ⟨i, hi, rfl⟩ := List.getElem_of_mem hp
  have hiz : i < (List.zipWith (fun (cp : CR × CR) st => ghostMoveOK s.grid cp.1 cp.2 st) (s.ghosts.zip d.paths)
      s.ghostStarts).length := by
    simp only [List.length_zipWith, List.length_zip]
    omega
  have hok := hall _ (List.getElem_mem hiz)
  simp only [List.getElem_zipWith, List.getElem_zip, ghostMoveOK, Bool.or_eq_true, Bool.and_eq_true,
    decide_eq_true_eq] at hok
  rcases hok with h | ⟨_, h⟩
  · exact Or.inl (h ▸ List.getElem_mem _)
  · exact Or.inr h

theorem step_ghosts_cases (tl : Int) (s : State) (a : Int) (d : Draw) (hd : validGhostDraw s d = true) :
    ∀ c ∈ (step tl s a d).1.ghosts, c ∈ s.ghosts ∨ c ∈ s.initGhosts ∨ freeCR s.grid c := by
  intro c hc
  obtain ⟨o, ho, rfl⟩ := List.mem_map.mp hc
  obtain ⟨p, hp, og, hog, q, e, rfl⟩ := ghostCollisions_mem ho
  rcases ghostCollision_pos s (nextPlayer s a) p og q e with h | h <;> rw [h]
  · exact (draw_path_cases hd p hp).imp_right Or.inr
  · exact Or.inr (Or.inl hog)

/-! ### eating: `eatAt` zeroes the entries on the player's cell, `nonzero` lists what is left -/

theorem eatAt_length (locs : List CR) (pc : CR) : (eatAt locs pc).length = locs.length := by simp [eatAt]

theorem eatAt_zero (locs : List CR) : eatAt locs (0, 0) = locs := by
  induction locs <;> simp_all [eatAt]

theorem eatAt_forall {P : CR → Prop} (h0 : P (0, 0)) {locs : List CR} (pc : CR) (h : ∀ c ∈ locs, P c) :
    ∀ c ∈ eatAt locs pc, P c := by
  intro c hc
  obtain ⟨l, hl, rfl⟩ := List.mem_map.mp hc
  split
  · exact h0
  · exact h l hl

theorem nonzero_eatAt (locs : List CR) (pc : CR) (hpc : pc ≠ (0, 0)) :
    nonzero (eatAt locs pc) = (nonzero locs).filter (· ≠ pc) := by
  unfold nonzero eatAt
  induction locs with
  | nil => rfl
  | cons l ls ih =>
    simp only [List.map_cons, List.filter_cons, ih]
    by_cases h1 : l = pc
    · subst h1
      simp [hpc]
    · by_cases h2 : l = (0, 0)
      · simp [h2]
      · simp [h1, h2]

theorem nonzero_eatAt_sublist (locs : List CR) (pc : CR) :
    (nonzero (eatAt locs pc)).Sublist (nonzero locs) := by
  by_cases hpc : pc = (0, 0)
  · subst hpc; rw [eatAt_zero]; exact List.Sublist.refl _
  · rw [nonzero_eatAt locs pc hpc]; exact List.filter_sublist

theorem contains_iff_mem_nonzero (locs : List CR) (pc : CR) (hpc : pc ≠ (0, 0)) :
    locs.contains pc = true ↔ pc ∈ nonzero locs := by
  unfold nonzero
  simp [List.mem_filter, hpc]

theorem nodup_filter_ne_length (l : List CR) (pc : CR) (hN : l.Nodup) :
    ((l.filter (· ≠ pc)).length : Int) = (l.length : Int) - (if pc ∈ l then 1 else 0) := by
  have he : l.filter (· ≠ pc) = l.erase pc := by
    rw [hN.erase_eq_filter]
    exact List.filter_congr (fun x _ => by simp only [ne_eq, decide_not, bne, Bool.beq_eq_decide_eq])
  rw [he, List.length_erase]
  split
  · have := List.length_pos_of_mem ‹pc ∈ l›
    omega
  · omega

end PacMan
