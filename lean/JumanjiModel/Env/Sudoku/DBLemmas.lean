/-
Soundness of the packed-board checker of Env/Sudoku/DBCheck.lean:
`fastOK n = true → boardOK (decodeBoard n) = true` for EVERY code `n` (proved, not evaluated), and the lifting of the
per-chunk kernel runs of Gen/SudokuDB*.lean to all boards.  Core Lean only.
-/
import JumanjiModel.Env.Sudoku.DBCheck
namespace Sudoku
open Jx
namespace DB

theorem byteAt_testBit (n i k : Nat) :
    (byteAt n i).testBit k = (decide (k < 8) && n.testBit (pos i + k)) := by
  unfold byteAt
  rw [show (255 : Nat) = 2 ^ 8 - 1 from rfl, Nat.and_two_pow_sub_one_eq_mod, Nat.testBit_mod_two_pow,
    Nat.testBit_shiftRight]

theorem byteAt_lt (n i : Nat) : byteAt n i < 256 := by
  unfold byteAt
  rw [show (255 : Nat) = 2 ^ 8 - 1 from rfl, Nat.and_two_pow_sub_one_eq_mod]
  exact Nat.mod_lt _ (by decide)

/-- bit `k` of `n`, counted from the start of cell `i`, is bit `k` of that cell's byte -/
theorem bit0 (n i : Nat) : n.testBit (pos i) = (byteAt n i).testBit 0 := by
  rw [byteAt_testBit]; simp
theorem bitk (n i k : Nat) (hk : k < 8) : n.testBit (pos i + k) = (byteAt n i).testBit k := by
  rw [byteAt_testBit]; simp [hk]

/-- a byte whose bits 4..7 are clear and which is not 1010, 1011, 11xx is at most 9 -/
theorem byte_le9 : ∀ v, v < 256 → (v.testBit 4 || v.testBit 5 || v.testBit 6 || v.testBit 7 ||
    (v.testBit 3 && (v.testBit 2 || v.testBit 1))) = false → v ≤ 9 := by decide +kernel

theorem byte_nz : ∀ v, v < 10 →
    (((v.testBit 0 || v.testBit 2) || (v.testBit 1 || v.testBit 3)) = true ↔ v ≠ 0) := by decide +kernel

theorem nzFlags_testBit (x p : Nat) : (nzFlags x).testBit p =
    ((x.testBit p || x.testBit (p + 2)) || (x.testBit (p + 1) || x.testBit (p + 3))) := by
  unfold nzFlags
  simp only [Nat.testBit_or, Nat.testBit_shiftRight]
  rw [show 2 + p = p + 2 by omega, show 1 + p = p + 1 by omega, show 2 + (p + 1) = p + 3 by omega]

theorem ONES_pos : ∀ i, i < 81 → ONES.testBit (pos i) = true := by decide +kernel

theorem HI_pos : ∀ i, i < 81 → (HI.testBit (pos i + 4) && HI.testBit (pos i + 5) && HI.testBit (pos i + 6)
    && HI.testBit (pos i + 7)) = true := by decide +kernel

theorem ONES_only_low : (List.range 648).all (fun p => !ONES.testBit p || p % 8 == 0) = true := by decide +kernel

theorem ONES_lt : ONES < 2 ^ 648 := by decide +kernel

theorem ONES_only (p : Nat) (h : ONES.testBit p = true) : ∃ i, i < 81 ∧ p = pos i := by
  have hp : p < 648 := by
    apply Decidable.byContradiction
    intro hge
    have hlt : ONES < 2 ^ p :=
      Nat.lt_of_lt_of_le ONES_lt (Nat.pow_le_pow_right (n := 2) (i := 648) (by decide) (Nat.le_of_not_lt hge))
    rw [Nat.testBit_lt_two_pow hlt] at h
    exact Bool.noConfusion h
  have h8 : p % 8 = 0 := by simpa [h] using List.all_eq_true.1 ONES_only_low p (List.mem_range.2 hp)
  refine ⟨80 - p / 8, by omega, ?_⟩
  unfold pos; omega

/-- two cells given by their numbers share a row, a column or a box -/
def peerIdx (i j : Nat) : Bool := sameUnit (i / 9) (i % 9) (j / 9) (j % 9)

theorem peerIdx_symm (i j : Nat) : peerIdx i j = peerIdx j i := by
  unfold peerIdx sameUnit
  rw [Bool.beq_comm (a := i / 9), Bool.beq_comm (a := i % 9), Bool.beq_comm (a := i / 9 / 3),
    Bool.beq_comm (a := i % 9 / 3)]

/-- as one Boolean: the kernel runs `List.all` faster than bounded `∀` -/
theorem offsets_cover_all : (List.range 81).all (fun j => (List.range j).all (fun i =>
    !peerIdx i j || offsets.any (fun e => e.1 == 8 * (j - i) && e.2.testBit (pos j)))) = true := by
  decide +kernel

theorem offsets_cover (i j : Nat) (hij : i < j) (hj : j < 81) (hp : peerIdx i j = true) :
    offsets.any (fun e => e.1 == 8 * (j - i) && e.2.testBit (pos j)) = true := by
  simpa [hp] using
    List.all_eq_true.1 (List.all_eq_true.1 offsets_cover_all j (List.mem_range.2 hj)) i (List.mem_range.2 hij)

theorem range_sound (n : Nat) (h : rangeOK n = true) (i : Nat) (hi : i < 81) : byteAt n i ≤ 9 := by
  unfold rangeOK at h
  simp only [Bool.and_eq_true, beq_iff_eq] at h
  obtain ⟨h1, h2⟩ := h
  have hb : ∀ k, k < 8 → HI.testBit (pos i + k) = true → (byteAt n i).testBit k = false := by
    intro k hk hH
    have : (n.testBit (pos i + k) && HI.testBit (pos i + k)) = false := by
      rw [← Nat.testBit_and, h1]; exact Nat.zero_testBit _
    rwa [hH, Bool.and_true, bitk n i k hk] at this
  have hH := HI_pos i hi
  simp only [Bool.and_eq_true] at hH
  obtain ⟨⟨⟨H4, H5⟩, H6⟩, H7⟩ := hH
  have c : ((n >>> 3 &&& (n >>> 2 ||| n >>> 1)) &&& ONES).testBit (pos i) = false := by
    rw [h2]; exact Nat.zero_testBit _
  simp only [Nat.testBit_and, Nat.testBit_or, Nat.testBit_shiftRight, ONES_pos i hi, Bool.and_true] at c
  rw [show 3 + pos i = pos i + 3 by omega, show 2 + pos i = pos i + 2 by omega,
    show 1 + pos i = pos i + 1 by omega, bitk n i 3 (by decide), bitk n i 2 (by decide), bitk n i 1 (by decide)] at c
  exact byte_le9 _ (byteAt_lt n i) (by
    rw [hb 4 (by decide) H4, hb 5 (by decide) H5, hb 6 (by decide) H6, hb 7 (by decide) H7, c]; rfl)

theorem nz_flag (n i : Nat) (h9 : byteAt n i ≤ 9) : (nzFlags n).testBit (pos i) = true ↔ byteAt n i ≠ 0 := by
  rw [nzFlags_testBit, bit0, bitk n i 2 (by decide), bitk n i 1 (by decide), bitk n i 3 (by decide)]
  exact byte_nz _ (by omega)

theorem empty_sound (n : Nat) (hr : ∀ i, i < 81 → byteAt n i ≤ 9) (h : emptyOK n = true) :
    ∃ i, i < 81 ∧ byteAt n i = 0 := by
  apply Decidable.byContradiction
  intro hne
  have hall : ∀ i, i < 81 → byteAt n i ≠ 0 := fun i hi h0 => hne ⟨i, hi, h0⟩
  have heq : nzFlags n &&& ONES = ONES := by
    apply Nat.eq_of_testBit_eq
    intro p
    rw [Nat.testBit_and]
    cases hO : ONES.testBit p with
    | false => simp
    | true =>
      obtain ⟨i, hi, rfl⟩ := ONES_only p hO
      rw [(nz_flag n i (hr i hi)).2 (hall i hi)]; rfl
  unfold emptyOK at h
  rw [heq] at h
  simp at h

theorem xor_bit (n i j k : Nat) (hij : i < j) (hj : j < 81) (hk : k < 8) :
    (n ^^^ (n >>> (8 * (j - i)))).testBit (pos j + k) = ((byteAt n j).testBit k ^^ (byteAt n i).testBit k) := by
  rw [Nat.testBit_xor, Nat.testBit_shiftRight, show 8 * (j - i) + (pos j + k) = pos i + k by unfold pos; omega,
    bitk n j k hk, bitk n i k hk]

theorem pair_sound (n m i j : Nat) (hij : i < j) (hj : j < 81) (hm : m.testBit (pos j) = true)
    (hp : pairOK n (nzFlags n) (8 * (j - i)) m = true) (hj9 : byteAt n j ≤ 9) (hnz : byteAt n j ≠ 0) :
    byteAt n i ≠ byteAt n j := by
  intro heq
  unfold pairOK at hp
  have h0 := beq_iff_eq.1 hp
  have w : (nzFlags n &&& (nzFlags (n ^^^ n >>> (8 * (j - i))) ^^^ ONES) &&& m).testBit (pos j) = false := by
    rw [h0]; exact Nat.zero_testBit _
  rw [Nat.testBit_and, Nat.testBit_and, Nat.testBit_xor, hm, ONES_pos j hj, (nz_flag n j hj9).2 hnz,
    nzFlags_testBit] at w
  have x0 := xor_bit n i j 0 hij hj (by decide)
  rw [Nat.add_zero] at x0
  rw [x0, xor_bit n i j 2 hij hj (by decide), xor_bit n i j 1 hij hj (by decide),
    xor_bit n i j 3 hij hj (by decide), heq] at w
  simp at w

theorem cell_decode (n : Nat) (hr : ∀ i, i < 81 → byteAt n i ≤ 9) (r c : Nat) (hr9 : r < 9) (hc9 : c < 9) :
    cell (decodeBoard n) r c = (byteAt n (9 * r + c) : Int) - 1 := by
  have h9 := hr (9 * r + c) (by omega)
  simp [cell, Grid.get, decodeBoard, List.getD_eq_getElem?_getD, hr9, hc9, toCell, show ¬ 128 ≤ byteAt n (9 * r + c) by omega]

theorem shaped_decode (n : Nat) : Grid.shaped (decodeBoard n) 9 9 = true := by
  simp [Grid.shaped, decodeBoard]

theorem inRange_decode (n : Nat) (hr : ∀ i, i < 81 → byteAt n i ≤ 9) : InRange (decodeBoard n) := by
  intro r hr9 c hc9
  rw [cell_decode n hr r c hr9 hc9]
  have := hr (9 * r + c) (by omega)
  omega

theorem emptyCells_decode (n : Nat) (i : Nat) (hi : i < 81) (h0 : byteAt n i = 0) :
    emptyCells (decodeBoard n) > 0 := by
  unfold emptyCells Grid.count
  apply List.length_filter_pos_iff.2
  refine ⟨-1, ?_, by decide⟩
  rw [List.mem_flatten]
  refine ⟨(List.range 9).map (fun c => toCell (byteAt n (9 * (i / 9) + c))), ?_, ?_⟩
  · unfold decodeBoard
    exact List.mem_map.2 ⟨i / 9, List.mem_range.2 (by omega), rfl⟩
  · refine List.mem_map.2 ⟨i % 9, List.mem_range.2 (by omega), ?_⟩
    rw [show 9 * (i / 9) + i % 9 = i by omega, h0]; rfl

theorem cellIdx (r c : Nat) (hc : c < 9) : (9 * r + c) / 9 = r ∧ (9 * r + c) % 9 = c := by omega

theorem conflictFree_decode (n : Nat) (hr : ∀ i, i < 81 → byteAt n i ≤ 9) (h : conflictOK n = true) :
    ConflictFree (decodeBoard n) := by
  have hall : ∀ e, e ∈ offsets → pairOK n (nzFlags n) e.1 e.2 = true := by
    unfold conflictOK at h
    exact List.all_eq_true.1 h
  -- the statement on cell numbers, for an ordered pair
  have key : ∀ i j, i < j → j < 81 → peerIdx i j = true → byteAt n j ≠ 0 → byteAt n i ≠ byteAt n j := by
    intro i j hij hj hpeer hnz
    obtain ⟨e, he, hprop⟩ := List.any_eq_true.1 (offsets_cover i j hij hj hpeer)
    simp only [Bool.and_eq_true, beq_iff_eq] at hprop
    have hp := hall e he
    rw [hprop.1] at hp
    exact pair_sound n e.2 i j hij hj hprop.2 hp (hr j hj) hnz
  intro r hr9 c hc9 r' hr9' c' hc9' ⟨hsame, hne, hnonempty⟩
  rw [cell_decode n hr r c hr9 hc9] at hnonempty ⊢
  rw [cell_decode n hr r' c' hr9' hc9']
  have hnz : byteAt n (9 * r + c) ≠ 0 := by omega
  have hp1 : peerIdx (9 * r + c) (9 * r' + c') = true := by
    unfold peerIdx
    rw [(cellIdx r c hc9).1, (cellIdx r c hc9).2, (cellIdx r' c' hc9').1, (cellIdx r' c' hc9').2]
    exact hsame
  intro heq
  have hbytes : byteAt n (9 * r + c) = byteAt n (9 * r' + c') := by omega
  rcases Nat.lt_trichotomy (9 * r + c) (9 * r' + c') with hlt | heq' | hgt
  · exact key _ _ hlt (by omega) hp1 (by omega) hbytes
  · exact hne ⟨by omega, by omega⟩
  · exact key _ _ hgt (by omega) (peerIdx_symm _ _ ▸ hp1) hnz hbytes.symm

theorem fastOK_sound (n : Nat) (h : fastOK n = true) : boardOK (decodeBoard n) = true := by
  unfold fastOK at h
  simp only [Bool.and_eq_true] at h
  obtain ⟨⟨hrange, hempty⟩, hconf⟩ := h
  have hr := range_sound n hrange
  obtain ⟨i, hi, h0⟩ := empty_sound n hr hempty
  unfold boardOK
  simp only [Bool.and_eq_true, decide_eq_true_eq]
  exact ⟨⟨⟨shaped_decode n, inRange_decode n hr⟩, conflictFree_decode n hr hconf⟩, emptyCells_decode n i hi h0⟩

/-! ### a whole chunk at once -/

theorem testBit_of_lt {m t p : Nat} (hm : m < 2 ^ t) (hp : t ≤ p) : m.testBit p = false :=
  Nat.testBit_lt_two_pow (Nat.lt_of_lt_of_le hm (Nat.pow_le_pow_right (by decide) hp))

theorem HI_lt : HI < 2 ^ 648 := by decide +kernel

/-- a set bit `p` of the mask for the shift `s` leaves room for the partner cell: `p + s + 7 < 648` -/
theorem offsets_room : ∀ e ∈ offsets, e.2 < 2 ^ (641 - e.1) := by decide +kernel

/-- window `j` of `N` holds `n` -/
def Win (N n j : Nat) : Prop := ∀ p, p < 648 → N.testBit (648 * j + p) = n.testBit p

theorem win_pack (c : List Nat) (hc : ∀ n ∈ c, n < 2 ^ 648) (j : Nat) (hj : j < c.length) : Win (pack c) c[j] j := by
  induction c generalizing j with
  | nil => exact absurd hj (Nat.not_lt_zero _)
  | cons n ns ih =>
    intro p hp
    have key := Nat.testBit_two_pow_mul_add (i := 648) (pack ns) (hc n List.mem_cons_self) (648 * j + p)
    rw [pack, Nat.shiftLeft_eq, Nat.mul_comm, key]
    cases j with
    | zero => rw [if_pos (by omega), Nat.mul_zero, Nat.zero_add]; rfl
    | succ j =>
      rw [if_neg (by omega), show 648 * (j + 1) + p - 648 = 648 * j + p by omega]
      exact ih (fun m hm => hc m (List.mem_cons_of_mem _ hm)) j (Nat.lt_of_succ_lt_succ hj) p hp

/-- the constant `m * pack (replicate k 1)` shows `m` in every window -/
theorem win_rep (m : Nat) (hm : m < 2 ^ 648) (k j : Nat) (hj : j < k) : Win (m * pack (List.replicate k 1)) m j := by
  have e : ∀ k, m * pack (List.replicate k 1) = pack (List.replicate k m) := by
    intro k
    induction k with
    | zero => rfl
    | succ k ih =>
      rw [List.replicate_succ, List.replicate_succ, pack, pack, Nat.mul_add, Nat.mul_one, ← ih, Nat.shiftLeft_eq,
        Nat.shiftLeft_eq, Nat.mul_assoc]
  rw [e]
  have h := win_pack (List.replicate k m) (fun n hn => (List.eq_of_mem_replicate hn) ▸ hm) j (by simpa using hj)
  rwa [List.getElem_replicate] at h

theorem win_nz {X x q p : Nat} (h : ∀ t, t < 4 → X.testBit (q + t) = x.testBit (p + t)) :
    (nzFlags X).testBit q = (nzFlags x).testBit p := by
  rw [nzFlags_testBit, nzFlags_testBit, ← Nat.add_zero q, ← Nat.add_zero p, h 0 (by decide), h 1 (by decide),
    h 2 (by decide), h 3 (by decide)]

theorem win_shift {N n j : Nat} (W : Win N n j) (s r : Nat) (hr : s + r < 648) :
    (N >>> s).testBit (648 * j + r) = (n >>> s).testBit r := by
  rw [Nat.testBit_shiftRight, Nat.testBit_shiftRight, show s + (648 * j + r) = 648 * j + (s + r) by omega, W _ hr]

theorem rangeOKp_sound {N n hi ones j : Nat} (W : Win N n j) (WH : Win hi HI j) (WO : Win ones ONES j)
    (h : rangeOKp N hi ones = true) : rangeOK n = true := by
  unfold rangeOKp at h
  unfold rangeOK
  rw [Bool.and_eq_true, beq_iff_eq, beq_iff_eq] at h ⊢
  constructor <;> apply Nat.eq_of_testBit_eq <;> intro p <;> rw [Nat.zero_testBit, Nat.testBit_and]
  · by_cases hp : p < 648
    · rw [← W p hp, ← WH p hp, ← Nat.testBit_and, h.1, Nat.zero_testBit]
    · rw [testBit_of_lt HI_lt (by omega), Bool.and_false]
  · cases hO : ONES.testBit p with
    | false => rw [Bool.and_false]
    | true =>
      -- `p` is bit 0 of a cell byte, so the bits `p + 1 .. p + 3` read here are in the window
      obtain ⟨i, _, rfl⟩ := ONES_only p hO
      have hp : pos i + 3 < 648 := by unfold pos; omega
      have key := congrArg (fun x => x.testBit (648 * j + pos i)) h.2
      simp only [Nat.testBit_and, Nat.testBit_or, Nat.zero_testBit] at key
      rw [win_shift W 3 _ (by omega), win_shift W 2 _ (by omega), win_shift W 1 _ (by omega), WO _ (by omega), hO] at key
      rw [Nat.testBit_and, Nat.testBit_or]
      exact key

theorem pairOKp_sound {N n ones M m s j : Nat} (W : Win N n j) (WO : Win ones ONES j) (WM : Win M m j)
    (hm : m < 2 ^ (641 - s)) (h : pairOKp N (nzFlags N) ones s M = true) : pairOK n (nzFlags n) s m = true := by
  unfold pairOKp at h
  unfold pairOK
  rw [beq_iff_eq] at h ⊢
  apply Nat.eq_of_testBit_eq
  intro p
  rw [Nat.zero_testBit, Nat.testBit_and]
  cases hmp : m.testBit p with
  | false => rw [Bool.and_false]
  | true =>
    -- a set mask bit has `p + s + 7 < 648` (`offsets_room`): the bits `.. + 3` of cell and partner that `nzFlags` reads lie in the window
    have hp : p < 641 - s := Nat.lt_of_not_le fun hge => by rw [testBit_of_lt hm hge] at hmp; cases hmp
    have key := congrArg (fun x => x.testBit (648 * j + p)) h
    simp only [Nat.testBit_and, Nat.testBit_xor, Nat.zero_testBit] at key
    rw [win_nz (X := N) (x := n) (p := p) fun t ht => by rw [Nat.add_assoc, W _ (by omega)],
      win_nz (X := N ^^^ N >>> s) (x := n ^^^ n >>> s) (p := p) fun t ht => by
        rw [Nat.add_assoc, Nat.testBit_xor, Nat.testBit_xor, W _ (by omega), win_shift W s _ (by omega)],
      WO p (by omega), WM p (by omega), hmp] at key
    rw [Nat.testBit_and, Nat.testBit_xor]
    exact key

theorem chunkOK_sound (c : List Nat) (h : chunkOK c = true) : c.all fastOK = true := by
  unfold chunkOK at h
  simp only [Bool.and_eq_true, List.all_eq_true, decide_eq_true_eq] at h
  obtain ⟨⟨hper, hrange⟩, hpairs⟩ := h
  rw [List.all_eq_true]
  intro n hn
  obtain ⟨j, hj, rfl⟩ := List.getElem_of_mem hn
  have W := win_pack c (fun n hn => (hper n hn).1) j hj
  have WO := win_rep ONES ONES_lt c.length j hj
  unfold fastOK conflictOK
  rw [Bool.and_eq_true, Bool.and_eq_true, List.all_eq_true]
  refine ⟨⟨rangeOKp_sound W (win_rep HI HI_lt c.length j hj) WO hrange, (hper _ hn).2⟩, fun e he => ?_⟩
  have hm := offsets_room e he
  exact pairOKp_sound W WO (win_rep e.2 (Nat.lt_of_lt_of_le hm (Nat.pow_le_pow_right (n := 2) (j := 648) (by decide) (by omega)))
    c.length j hj) hm (hpairs e he)

theorem boardOK_iff (b : Grid Int) : boardOK b = true ↔ (Feasible b ∧ emptyCells b > 0) := by
  unfold boardOK Feasible
  simp only [Bool.and_eq_true, decide_eq_true_eq, and_assoc]

theorem all_ok_of_chunks (chunks : List (List Nat)) (h : chunks.all (fun c => c.all fastOK) = true) :
    ∀ b, b ∈ (chunks.flatten).map decodeBoard → boardOK b = true := by
  intro b hb
  obtain ⟨n, hn, rfl⟩ := List.mem_map.1 hb
  obtain ⟨c, hc, hnc⟩ := List.mem_flatten.1 hn
  exact fastOK_sound n (List.all_eq_true.1 (List.all_eq_true.1 h c hc) n hnc)

end DB
end Sudoku
