/-
Sudoku — the transliterated `reset`, and C01: proved value bounds of the observation leaves (`obs_in_bounds` under `CellsInRange`,
which follows from `Feasible` and is kept by every in-spec step).

Real spec: `board` BoundedArray(int32, -1, 9) (the declared maximum is BOARD_WIDTH = 9; digits are 0..8, so the
model proves the tighter [-1, 8]), `action_mask` bool.
-/
import JumanjiModel.Env.Sudoku.Model
import JumanjiModel.Env.PuzzleBounds
namespace Sudoku
open Jm Jx PzB

/-- interval of every observation leaf (the environment has no size parameter) -/
def obsBounds : Table := [("board", iv (-1) 8), ("action_mask", iv 0 1)]

/-- the numeric leaves of an observation, flattened -/
def obsLeaves (o : Obs) : Leaves := [("board", ints2 o.board), ("action_mask", bools3 o.mask)]

/-- `reset`: the generator's board with `get_action_mask(board)` (both generators build the state this way) -/
def reset (b : Grid Int) : State × TimeStep Obs :=
  ({ board := b, mask := maskOf b }, restart { board := b, mask := maskOf b })

/-- every cell is empty (−1) or a digit 0..8, stated element-wise over the nested list, no shape assumed (`InRange` speaks of
`cell b r c` for `r, c < 9`; it gives this on a 9×9 board: `cellsInRange_of_feasible`) -/
def CellsInRange (b : Grid Int) : Prop := GridAll (fun v => -1 ≤ v ∧ v ≤ 8) b

instance (b : Grid Int) : Decidable (CellsInRange b) := by unfold CellsInRange GridAll; infer_instance

theorem cellsInRange_of_feasible (b : Grid Int) (h : Feasible b) : CellsInRange b :=
  (Grid.forall_mem_iff_get h.1 (-1) _).2 h.2.1

theorem obs_in_bounds (o : Obs) (h : CellsInRange o.board) : ObsInBounds obsBounds (obsLeaves o) :=
  obsInBounds_of_aligned rfl (by simp [obsLeaves]) <|
    Jx.all_cons (allIn_ints2 _ _ _ h) <| Jx.all_cons (allIn_bools3 _) Jx.all_nil

theorem step_cellsInRange (s : State) (r c d : Int) (h : CellsInRange s.board) (hd : -1 ≤ d ∧ d ≤ 8) :
    CellsInRange (step s r c d).1.board := by
  show CellsInRange (Grid.setWD s.board r c d)
  exact Grid.forall_mem_setWD r c h hd

end Sudoku
