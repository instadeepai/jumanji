/-
Sudoku — C01 spec membership: the declared specs as `Sp` values, the model observation as the arrays the implementation
emits (`toNValue`: shapes READ OFF the values, the 9×9×9 mask flattened row-major), and membership of the observation of
EVERY `step` with an in-spec action (any cell — empty or filled —, any digit 0..8, legal or not, terminal or not) from a
state satisfying the invariant `SpecInv` (the board is 9×9 and every cell is −1 or a digit 0..8), which every such step
preserves; whole rollouts; the converse (`obs_valid_only`); the step protocol and `generate_value()` of the action spec.
The observation of `reset` is in Props/Env/Sudoku.lean.

The declared maximum of `board` is `BOARD_WIDTH = 9`; the model proves the tighter `[-1, 8]` (`CellsInRange`, Bounds.lean), so
the declared interval is not attained at its upper end (`obs_valid_only` states what `validate` forces: `[-1, 9]`).
-/
import JumanjiModel.Env.Sudoku.Bounds
import JumanjiModel.Env.Sudoku.RunLemmas
import JumanjiModel.Env.SpecMembership
import JumanjiModel.Core.EpisodeLemmas
namespace Sudoku
open Jm Jx Sp PzS PkS PzB

/-- env.py `observation_spec`: `board` BoundedArray((9, 9), int32, −1, 9), `action_mask` BoundedArray((9, 9, 9), bool, False, True) -/
def obsSpec : Sp.Nested :=
  [("board", .bounded [9, 9] .int32 "board" [] [((-1 : Int) : Rat)] [] [((9 : Int) : Rat)]),
   ("action_mask", .bounded [9, 9, 9] .bool "action_mask" [] [0] [] [1])]

/-- `action_spec`: MultiDiscreteArray([9, 9, 9], int32) -/
def actionSpec : Leaf := .multiDiscrete [3] [9, 9, 9] .int32 "action"

/-- a model observation as the arrays the implementation emits -/
def toNValue (o : Obs) : NValue :=
  [("board", ⟨shape2 o.board, .int32, ofInts (List.flatten o.board)⟩),
   ("action_mask", ⟨shape3 o.mask, .bool, ofBools (List.flatten (List.flatten o.mask))⟩)]

def actionArr (r c d : Int) : Arr := ⟨[3], .int32, [(r : Rat), (c : Rat), (d : Rat)]⟩

/-- rectangular values within the declared bounds (sufficient for membership; `validate` itself does not see rectangularity:
`obs_valid_iff`) -/
def ObsOK (o : Obs) : Prop :=
  Rect2 o.board 9 9 ∧ (∀ v ∈ List.flatten o.board, -1 ≤ v ∧ v ≤ 9) ∧ Rect3 o.mask 9 9 9

theorem obs_valid_iff (o : Obs) : obsSpec.valid (toNValue o) = true ↔
    shape2 o.board = [9, 9] ∧ (List.flatten o.board).length = 81 ∧ (∀ v ∈ List.flatten o.board, -1 ≤ v ∧ v ≤ 9) ∧
    shape3 o.mask = [9, 9, 9] ∧ (List.flatten (List.flatten o.mask)).length = 729 := by
  simp only [obsSpec, toNValue, valid_cons, valid_nil, valid_scalar_bounded_iff, forall_ofInts, forall_ofBools,
    ofInts_length, ofBools_length, prod_two, prod_three, Rat.intCast_le_intCast, true_and, and_true, and_assoc]

theorem obs_valid (o : Obs) (h : ObsOK o) : obsSpec.valid (toNValue o) = true :=
  have ⟨h1, h2, h3⟩ := h
  have ⟨s1, l1⟩ := shape2_of_rect h1 (by omega)
  have ⟨s2, l2⟩ := shape3_of_rect h3 (by omega) (by omega)
  (obs_valid_iff o).2 ⟨s1, l1, h2, s2, l2⟩

/-- … and conversely `validate` accepts nothing else: `board` is 9×9 with cells in `[-1, 9]`, the mask is 9×9×9 -/
theorem obs_valid_only (o : Obs) (h : obsSpec.valid (toNValue o) = true) :
    shape2 o.board = [9, 9] ∧ (List.flatten o.board).length = 81 ∧ (∀ v ∈ List.flatten o.board, -1 ≤ v ∧ v ≤ 9) ∧
    shape3 o.mask = [9, 9, 9] ∧ (List.flatten (List.flatten o.mask)).length = 729 :=
  (obs_valid_iff o).1 h

/-- the invariant behind the membership theorems: a 9×9 board whose cells are −1 (empty) or digits 0..8 -/
def SpecInv (s : State) : Prop := Grid.shaped s.board 9 9 = true ∧ CellsInRange s.board
instance (s : State) : Decidable (SpecInv s) := by unfold SpecInv; infer_instance

theorem mask_rect (b : Grid Int) (hs : Grid.shaped b 9 9 = true) : Rect3 (maskOf b) 9 9 9 := by
  obtain ⟨h1, h2⟩ := maskOf_shaped b hs
  exact ⟨h1, fun m hm => rect2_of_shaped (h2 m hm)⟩

theorem cells_le9 (b : Grid Int) (h : CellsInRange b) : ∀ v ∈ List.flatten b, -1 ≤ v ∧ v ≤ 9 := by
  intro v hv
  obtain ⟨row, hrow, hv'⟩ := List.mem_flatten.mp hv
  have := h row hrow v hv'
  omega

theorem obsOK_of_inv (b : Grid Int) (hs : Grid.shaped b 9 9 = true) (hc : CellsInRange b) :
    ObsOK { board := b, mask := maskOf b } :=
  ⟨rect2_of_shaped hs, cells_le9 b hc, mask_rect b hs⟩

/-- EVERY step whose digit is one of the action space (row and column: ANY integers) keeps the invariant — the cell may be
filled already, the move may be illegal, the step may be terminal -/
theorem step_specInv (s : State) (h : SpecInv s) (r c d : Int) (hd : 0 ≤ d ∧ d ≤ 8) : SpecInv (step s r c d).1 :=
  ⟨Grid.shaped_setWD h.1 d r c, step_cellsInRange s r c d h.2 ⟨by omega, hd.2⟩⟩

/-! ### C01: step and rollouts emit members of the declared spec -/

theorem step_obs_valid (s : State) (h : SpecInv s) (r c d : Int) (hd : 0 ≤ d ∧ d ≤ 8) :
    obsSpec.valid (toNValue (step s r c d).2.obs) = true := by
  have h' := step_specInv s h r c d hd
  rw [obs_copied]
  exact obs_valid _ (obsOK_of_inv _ h'.1 h'.2)

/-- whole episodes and beyond: along the rollout (`Ep.rollout` = the L1 step iterated, no stop at LAST) of ANY in-spec actions
from a state satisfying the invariant, EVERY emitted observation is a member of the spec -/
theorem rollout_obs_valid (s : State) (h : SpecInv s) (as : List Action) (has : ∀ a ∈ as, InSpec a)
    (j : Nat) (e : State × TimeStep Obs) (he : (Ep.rollout stepA s as)[j]? = some e) :
    obsSpec.valid (toNValue e.2.obs) = true ∧ SpecInv e.1 := by
  obtain ⟨s', a, hinv, ha, rfl⟩ := rollout_inv_idx stepA (fun _ s => SpecInv s) InSpec
    (fun _ s a h ha => step_specInv s h _ _ _ ⟨by omega, by have := ha.2.2; omega⟩) 0 s h as has j e he
  have hd : (0 : Int) ≤ (a.2.2 : Int) ∧ (a.2.2 : Int) ≤ 8 := ⟨by omega, by have := ha.2.2; omega⟩
  exact ⟨step_obs_valid s' hinv _ _ _ hd, step_specInv s' hinv _ _ _ hd⟩

theorem step_protocol (s : State) (r c d : Int) : StepOK none false (step s r c d).2 = true :=
  condLast_stepOK _ _ _

/-- `action_spec.generate_value()` = (0, 0, 0), and `step` accepts it in EVERY state (the observation is in the spec from a
state satisfying the invariant) -/
theorem accepts_generate_value (s : State) :
    actionSpec.WF = true ∧ actionSpec.valid actionSpec.generate = true ∧ actionSpec.generate = actionArr 0 0 0 ∧
    StepOK none false (step s 0 0 0).2 = true ∧ (SpecInv s → obsSpec.valid (toNValue (step s 0 0 0).2.obs) = true) :=
  ⟨by decide, by decide, by decide, step_protocol s 0 0 0, fun h => step_obs_valid s h 0 0 0 (by omega)⟩

end Sudoku
