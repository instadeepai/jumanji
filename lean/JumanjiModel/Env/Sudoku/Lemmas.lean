/-
Sudoku: `get_action_mask` = the table of legal moves (C04), `step` against the rules (C05, C06, C09, C11, C12) and
`is_puzzle_solved` = complete feasible solution (C09).  A 9x9 board is the table of its cells (`Grid.eq_table`), so rows,
columns, the boxes of `BOX_IDX`, the mask and `legalTable` are all `(List.range 9).map …` tables and are compared entry by entry
(with list lemmas of the file's own on such tables: `zipWith_tab`, `any_tab`, `nodup_tab`, …, `tab3`).
-/
import JumanjiModel.Env.Sudoku.Model
import JumanjiModel.Core.TimeStepLemmas
import JumanjiModel.Prim.ListLemmas
import JumanjiModel.Prim.GridLemmas
namespace Sudoku
open Jm Jx

theorem zipWith_tab {α β γ} (f : α → β → γ) (n : Nat) (g : Nat → α) (h : Nat → β) :
    List.zipWith f ((List.range n).map g) ((List.range n).map h) = (List.range n).map (fun i => f (g i) (h i)) := by
  rw [List.zipWith_map, List.zipWith_self]

theorem reshape_tab {α : Type} (g : Nat → α) : reshape ((List.range 81).map g) 9 9 =
    (List.range 9).map (fun r => (List.range 9).map (fun c => g (r * 9 + c))) :=
  (Grid.reshape_eq_table _ (g 0) (by simp)).trans
    (Grid.table_congr fun r hr c hc => getD_range_map g _ (by omega))

theorem any_tab {α} (n : Nat) (g : Nat → α) (p : α → Bool) :
    ((List.range n).map g).any p = true ↔ ∃ i, i < n ∧ p (g i) = true := by
  simp [List.any_eq_true]

theorem nodup_tab {α} (n : Nat) (f : Nat → α) :
    ((List.range n).map f).Nodup ↔ ∀ p, p < n → ∀ q, q < n → p ≠ q → f p ≠ f q := by
  unfold List.Nodup
  rw [List.pairwise_iff_getElem]
  simp only [List.length_map, List.length_range, List.getElem_map, List.getElem_range]
  constructor
  · intro h p hp q hq hpq
    rcases Nat.lt_or_gt_of_ne hpq with hlt | hlt
    · exact h p q hp hq hlt
    · exact fun e => h q p hq hp hlt e.symm
  · intro h i j hi hj hij
    exact h i hi j hj (by omega)

/-- a 3-level table in the layout of `action_mask` -/
def tab3 (n : Nat) (f : Nat → Nat → Nat → Bool) : Mask :=
  (List.range n).map (fun r => (List.range n).map (fun c => (List.range n).map (fun d => f r c d)))

theorem tab3_congr (n : Nat) (f g : Nat → Nat → Nat → Bool)
    (h : ∀ r, r < n → ∀ c, c < n → ∀ d, d < n → f r c d = g r c d) : tab3 n f = tab3 n g :=
  List.map_congr_left fun r hr => List.map_congr_left fun c hc => List.map_congr_left fun d hd =>
    h r (List.mem_range.1 hr) c (List.mem_range.1 hc) d (List.mem_range.1 hd)

theorem scatter_length {α} (xs : List α) (idx : List Nat) (vals : List α) :
    (scatter xs idx vals).length = xs.length :=
  Jx.foldl_setWD_length (fun iv : Nat × α => (iv.1 : Int)) (fun iv => iv.2) _ xs

theorem scatter_map_getD {α} (xs : List α) (idx : List Nat) (G : Nat → α) (d : α) (i : Nat)
    (hi : i < xs.length) :
    (scatter xs idx (idx.map G)).getD i d = if i ∈ idx then G i else xs.getD i d := by
  induction idx generalizing xs with
  | nil => simp [scatter]
  | cons a idx ih =>
    have e : scatter xs (a :: idx) ((a :: idx).map G) = scatter (Jx.setWD xs (a : Int) (G a)) idx (idx.map G) := by
      simp [scatter]
    rw [e, ih _ (by rw [Jx.setWD_length]; exact hi), Jx.setWD_natCast, Jx.getD_set]
    by_cases h1 : i ∈ idx
    · simp [h1]
    · by_cases h2 : a = i
      · subst h2; simp [hi]
      · simp [h1, h2, Ne.symm h2]

theorem flat_getD (b : Grid Int) (hs : Grid.shaped b 9 9 = true) (r c : Nat) (hr : r < 9) (hc : c < 9) :
    (List.flatten b).getD (r * 9 + c) 0 = cell b r c :=
  (Grid.flatten_getD 0 ((Grid.shaped_iff_mem b 9 9).1 hs).2 r hc).trans (Grid.get_irrel hs 0 (-1) hr hc)

theorem flat_getD_cell (b : Grid Int) (hs : Grid.shaped b 9 9 = true) (r c : Nat) (hr : r < 9) (hc : c < 9) :
    Jx.getWC (List.flatten b) 0 ((r * 9 + c : Nat) : Int) = cell b r c := by
  rw [Jx.getWC_nat _ _ (by rw [Grid.shaped_flatten_length hs]; omega), flat_getD b hs r c hr hc]

theorem transpose_eq (b : Grid Int) (hs : Grid.shaped b 9 9 = true) :
    Grid.transpose b = (List.range 9).map (fun c => (List.range 9).map (fun r => cell b r c)) := by
  rw [Grid.eq_table hs (-1)]
  exact (Grid.transpose_table (by decide) 9 _).trans
    (Grid.table_congr fun c _ r _ => by rw [← Grid.eq_table hs (-1)]; rfl)

/-- row and column of the cell at position `p` of box `k` (`BOX_IDX` numbers the boxes down the columns of boxes) -/
def boxRow (k p : Nat) : Nat := k % 3 * 3 + p / 3
def boxCol (k p : Nat) : Nat := k / 3 * 3 + p % 3
/-- the box of cell `(r, c)` and the position of the cell in it -/
def boxOf (r c : Nat) : Nat := c / 3 * 3 + r / 3
def posOf (r c : Nat) : Nat := r % 3 * 3 + c % 3

theorem BOX_IDX_eq : BOX_IDX =
    (List.range 9).map (fun k => (List.range 9).map (fun p => boxRow k p * 9 + boxCol k p)) := by decide

theorem box_of_cell : ∀ r, r < 9 → ∀ c, c < 9 → boxOf r c < 9 ∧ posOf r c < 9 ∧
    boxOf r c % 3 = r / 3 ∧ boxOf r c / 3 = c / 3 ∧
    boxRow (boxOf r c) (posOf r c) = r ∧ boxCol (boxOf r c) (posOf r c) = c := by decide

theorem cell_of_box : ∀ k, k < 9 → ∀ p, p < 9 → boxRow k p < 9 ∧ boxCol k p < 9 ∧
    boxRow k p / 3 = k % 3 ∧ boxCol k p / 3 = k / 3 ∧ posOf (boxRow k p) (boxCol k p) = p := by decide

/-- `board.reshape(81).take(idxs)` -/
def boxValsOf (b : Grid Int) (idxs : List Nat) : List Int :=
  idxs.map (fun (i : Nat) => Jx.getWC (List.flatten b) 0 (i : Int))

theorem boxVals_tab (b : Grid Int) (hs : Grid.shaped b 9 9 = true) (k : Nat) (hk : k < 9) :
    boxValsOf b ((List.range 9).map (fun p => boxRow k p * 9 + boxCol k p)) =
      (List.range 9).map (fun p => cell b (boxRow k p) (boxCol k p)) := by
  rw [boxValsOf, List.map_map]
  apply List.map_congr_left
  intro p hp
  obtain ⟨h1, h2, _⟩ := cell_of_box k hk p (List.mem_range.1 hp)
  exact flat_getD_cell b hs _ _ h1 h2

theorem box_eq (b : Grid Int) (hs : Grid.shaped b 9 9 = true) (k : Nat) (hk : k < 9) :
    boxValsOf b (BOX_IDX.getD k []) = (List.range 9).map (fun p => cell b (boxRow k p) (boxCol k p)) := by
  rw [BOX_IDX_eq, getD_range_map _ _ hk, boxVals_tab b hs k hk]

/-! ### the pieces of `get_action_mask` -/

def am0 (b : Grid Int) : List (List Bool) := (List.flatten b).map (fun v => List.replicate W (v == -1))
def rowMaskOf (b : Grid Int) : List (List Bool) := List.map absentMask b
def colMaskOf (b : Grid Int) : List (List Bool) := List.map absentMask (Grid.transpose b)
def bamOf (b : Grid Int) : List (List (List Bool)) :=
  List.zipWith (fun idxs bm => idxs.map (fun (i : Nat) => List.zipWith (· && ·) (Jx.getWC (am0 b) [] (i : Int)) bm))
    BOX_IDX ((BOX_IDX.map (boxValsOf b)).map absentMask)
def am1 (b : Grid Int) : List (List Bool) := scatter (am0 b) (List.flatten BOX_IDX) (List.flatten (bamOf b))

theorem maskOf_eq (b : Grid Int) : maskOf b =
    List.zipWith (fun rowCells rm =>
      List.zipWith (fun cellMask cm => List.zipWith (· && ·) (List.zipWith (· && ·) cellMask rm) cm)
        rowCells (colMaskOf b)) (reshape (am1 b) W W) (rowMaskOf b) := rfl

def boxOfIdx (i : Nat) : Nat := (i % 9 / 3) * 3 + i / 9 / 3

/-- value scattered to flat cell `i` -/
def G (b : Grid Int) (i : Nat) : List Bool :=
  List.zipWith (· && ·) (Jx.getWC (am0 b) [] (i : Int)) (absentMask (boxValsOf b (BOX_IDX.getD (boxOfIdx i) [])))

theorem boxOfIdx_cell (r c : Nat) (hc : c < 9) : boxOfIdx (r * 9 + c) = boxOf r c := by
  unfold boxOfIdx boxOf
  have e1 : (r * 9 + c) % 9 = c := by omega
  have e2 : (r * 9 + c) / 9 = r := by omega
  rw [e1, e2]

theorem boxfact1 : ∀ idxs ∈ BOX_IDX, ∀ i ∈ idxs, BOX_IDX.getD (boxOfIdx i) [] = idxs := by decide +kernel

/-- every flat index occurs in `BOX_IDX`, so the scatter overwrites every cell -/
theorem boxfact_all (i : Nat) (hi : i < 81) : i ∈ List.flatten BOX_IDX := by
  obtain ⟨hk, hp, _, _, e1, e2⟩ := box_of_cell (i / 9) (by omega) (i % 9) (by omega)
  rw [BOX_IDX_eq, List.mem_flatten]
  exact ⟨_, List.mem_map.2 ⟨_, List.mem_range.2 hk, rfl⟩,
    List.mem_map.2 ⟨_, List.mem_range.2 hp, by rw [e1, e2]; omega⟩⟩

theorem bam_flatten (b : Grid Int) : List.flatten (bamOf b) = (List.flatten BOX_IDX).map (G b) := by
  unfold bamOf
  rw [List.map_map, List.zipWith_map_right, List.zipWith_self, List.map_flatten]
  apply congrArg List.flatten
  apply List.map_congr_left
  intro idxs hidxs
  apply List.map_congr_left
  intro i hi
  unfold G
  rw [boxfact1 idxs hidxs i hi]
  rfl

theorem am0_length (b : Grid Int) (hs : Grid.shaped b 9 9 = true) : (am0 b).length = 81 := by
  unfold am0; rw [List.length_map, Grid.shaped_flatten_length hs]

theorem am0_getD (b : Grid Int) (hs : Grid.shaped b 9 9 = true) (r c : Nat) (hr : r < 9) (hc : c < 9) :
    (am0 b).getD (r * 9 + c) [] = List.replicate 9 (cell b r c == -1) := by
  unfold am0
  rw [getD_map _ _ (0 : Int) (by rw [Grid.shaped_flatten_length hs]; omega), flat_getD b hs r c hr hc]
  rfl

theorem am1_tab (b : Grid Int) (hs : Grid.shaped b 9 9 = true) : am1 b = (List.range 81).map (G b) := by
  have hl := am0_length b hs
  refine eq_range_map [] (by rw [am1, scatter_length, hl]) fun i hi => ?_
  rw [am1, bam_flatten, scatter_map_getD _ _ _ _ _ (by rw [hl]; exact hi)]
  simp [boxfact_all i hi]

/-- entry `d` of `absentMask` of the cells `f 0, …, f 8` -/
def absent (f : Nat → Int) (d : Nat) : Bool := !(((List.range 9).map f).any (fun v => v == (d : Int)))

theorem absent_iff (f : Nat → Int) (d : Nat) : absent f d = true ↔ ∀ p, p < 9 → f p ≠ (d : Int) := by
  simp [absent]

theorem G_tab (b : Grid Int) (hs : Grid.shaped b 9 9 = true) (r c : Nat) (hr : r < 9) (hc : c < 9) :
    G b (r * 9 + c) = (List.range 9).map (fun d => (cell b r c == -1) &&
      absent (fun p => cell b (boxRow (boxOf r c) p) (boxCol (boxOf r c) p)) d) := by
  unfold G
  rw [Jx.getWC_nat _ _ (by rw [am0_length b hs]; omega), am0_getD b hs r c hr hc, boxOfIdx_cell r c hc,
    box_eq b hs _ (box_of_cell r hr c hc).1]
  exact zipWith_tab _ 9 (fun _ => cell b r c == -1) _

theorem legalTable_tab (b : Grid Int) : legalTable b = tab3 9 (fun r c d => decide (legal b r c d)) := rfl

theorem maskOf_tab (b : Grid Int) (hs : Grid.shaped b 9 9 = true) :
    maskOf b = tab3 9 (fun r c d => ((cell b r c == -1) &&
      absent (fun p => cell b (boxRow (boxOf r c) p) (boxCol (boxOf r c) p)) d &&
      absent (fun c' => cell b r c') d) && absent (fun r' => cell b r' c) d) := by
  have hrow : rowMaskOf b = (List.range 9).map (fun r => absentMask ((List.range 9).map (fun c => cell b r c))) := by
    unfold rowMaskOf
    conv => lhs; rw [Grid.eq_table hs (-1), Grid.table]
    rw [List.map_map]
    rfl
  have hcol : colMaskOf b = (List.range 9).map (fun c => absentMask ((List.range 9).map (fun r => cell b r c))) := by
    rw [colMaskOf, transpose_eq b hs, List.map_map]
    rfl
  rw [maskOf_eq, am1_tab b hs, hrow, hcol]
  show List.zipWith _ (reshape _ 9 9) _ = _
  rw [reshape_tab, zipWith_tab]
  apply List.map_congr_left
  intro r hr
  rw [zipWith_tab]
  apply List.map_congr_left
  intro c hc
  rw [G_tab b hs r c (List.mem_range.1 hr) (List.mem_range.1 hc)]
  -- `absentMask ((List.range 9).map f)` is the table of `absent f` by definition
  exact (congrArg (fun l => List.zipWith (· && ·) l _) (zipWith_tab _ 9 _ (absent _))).trans (zipWith_tab _ 9 _ (absent _))

theorem maskOf_eq_legalTable (b : Grid Int) (hs : Grid.shaped b 9 9 = true) : maskOf b = legalTable b := by
  rw [maskOf_tab b hs, legalTable_tab]
  apply tab3_congr
  intro r hr c hc d hd
  obtain ⟨hk, _, e3, e4, _⟩ := box_of_cell r hr c hc
  rw [Bool.eq_iff_iff]
  simp only [Bool.and_eq_true, beq_iff_eq, absent_iff, decide_eq_true_eq]
  unfold legal
  constructor
  · rintro ⟨⟨⟨h0, hbox⟩, hrow⟩, hcol⟩
    refine ⟨hr, hc, hd, h0, fun r' hr' c' hc' hu => ?_⟩
    simp only [sameUnit, Bool.or_eq_true, Bool.and_eq_true, beq_iff_eq] at hu
    rcases hu with (rfl | rfl) | hu
    · exact hrow c' hc'
    · exact hcol r' hr'
    · -- `(r', c')` is a cell of the box of `(r, c)`
      obtain ⟨_, hp', _, _, e1, e2⟩ := box_of_cell r' hr' c' hc'
      rw [boxOf, ← hu.1, ← hu.2, ← boxOf] at e1 e2
      have := hbox _ hp'
      rwa [e1, e2] at this
  · rintro ⟨_, _, _, h0, h⟩
    refine ⟨⟨⟨h0, fun p hp => ?_⟩, fun c' hc' => h r hr c' hc' (by simp [sameUnit])⟩,
      fun r' hr' => h r' hr' c hc (by simp [sameUnit])⟩
    obtain ⟨h1, h2, h3, h4, _⟩ := cell_of_box _ hk p hp
    exact h _ h1 _ h2 (by simp [sameUnit, h3, h4, e3, e4])

theorem shaped_place (b : Grid Int) (hs : Grid.shaped b 9 9 = true) (r c d : Nat) :
    Grid.shaped (place b r c d) 9 9 = true := Grid.shaped_set hs _ _ _

theorem applyAction_eq (b : Grid Int) (r c d : Nat) : applyAction b r c d = place b r c d := by
  unfold applyAction place
  exact Grid.setWD_natCast b r c _

/-- C09: the successor is the rules' successor: digit written, mask = table of legal moves -/
theorem step_state (s : State) (hs : Grid.shaped s.board 9 9 = true) (r c d : Nat) :
    (step s r c d).1 = { board := place s.board r c d, mask := legalTable (place s.board r c d) } := by
  unfold step
  simp only []
  rw [applyAction_eq s.board r c d, maskOf_eq_legalTable _ (shaped_place s.board hs r c d)]

theorem step_cached (s : State) (hs : Grid.shaped s.board 9 9 = true) (r c d : Nat) :
    CachedOK (step s r c d).1 := by
  rw [step_state s hs r c d]; rfl

theorem maskAt_tab3 (n : Nat) (f : Nat → Nat → Nat → Bool) (r c d : Nat) (hr : r < n) (hc : c < n) (hd : d < n) :
    maskAt (tab3 n f) r c d = f r c d := by
  rw [maskAt, tab3, getWC_range_map _ _ hr, getWC_range_map _ _ hc, getWC_range_map _ _ hd]

theorem anyMask_tab3 (n : Nat) (f : Nat → Nat → Nat → Bool) :
    anyMask (tab3 n f) = true ↔ ∃ r c d, r < n ∧ c < n ∧ d < n ∧ f r c d = true := by
  simp only [anyMask, tab3, any_tab]
  exact ⟨fun ⟨r, hr, c, hc, d, hd, h⟩ => ⟨r, c, d, hr, hc, hd, h⟩, fun ⟨r, c, d, hr, hc, hd, h⟩ => ⟨r, hr, c, hc, d, hd, h⟩⟩

theorem maskAt_legalTable (b : Grid Int) (r c d : Nat) (hr : r < 9) (hc : c < 9) (hd : d < 9) :
    maskAt (legalTable b) r c d = decide (legal b r c d) := by
  rw [legalTable_tab, maskAt_tab3 9 _ r c d hr hc hd]

theorem anyMask_legalTable (b : Grid Int) :
    anyMask (legalTable b) = true ↔ ∃ r c d, legal b r c d := by
  rw [legalTable_tab, anyMask_tab3]
  constructor
  · rintro ⟨r, c, d, _, _, _, h⟩
    exact ⟨r, c, d, by simpa using h⟩
  · rintro ⟨r, c, d, h⟩
    exact ⟨r, c, d, h.1, h.2.1, h.2.2.1, by simpa using h⟩

/-- C04: with a correctly cached mask, `step` treats an action as invalid iff the rules forbid it -/
theorem invalid_iff (s : State) (hcache : CachedOK s) (r c d : Nat) (hr : r < 9) (hc : c < 9) (hd : d < 9) :
    (!(maskAt s.mask r c d)) = true ↔ ¬ legal s.board r c d := by
  unfold CachedOK at hcache
  rw [hcache, maskAt_legalTable _ r c d hr hc hd]
  simp

theorem step_stepType (s : State) (r c d : Int) :
    (step s r c d).2.stepType =
      if (!(maskAt s.mask r c d) || !(anyMask (step s r c d).1.mask)) then .last else .mid :=
  condLast_stepType _ _ _

theorem step_reward (s : State) (r c d : Int) :
    (step s r c d).2.reward = [if isSolved (step s r c d).1.board then 1 else 0] :=
  condLast_reward _ _ _

theorem step_last_key (s : State) (r c d : Int) :
    (step s r c d).2.stepType = .last ↔
      ((!(maskAt s.mask r c d)) || !(anyMask (step s r c d).1.mask)) = true := by
  rw [step_stepType]
  split <;> simp_all

theorem step_last_iff (s : State) (hs : Grid.shaped s.board 9 9 = true) (hcache : CachedOK s) (r c d : Nat)
    (hr : r < 9) (hc : c < 9) (hd : d < 9) :
    (step s r c d).2.stepType = .last ↔
      (¬ legal s.board r c d ∨ ¬ ∃ r' c' d', legal (place s.board r c d) r' c' d') := by
  rw [step_last_key, Bool.or_eq_true, invalid_iff s hcache r c d hr hc hd, step_state s hs r c d]
  simp only [Bool.not_eq_true', ← Bool.not_eq_true, anyMask_legalTable]

theorem step_not_last_iff (s : State) (r c d : Int) :
    ¬ (step s r c d).2.stepType = .last ↔ (step s r c d).2.stepType = .mid := by
  rw [step_stepType]; split <;> simp

theorem step_mid_iff (s : State) (hs : Grid.shaped s.board 9 9 = true) (hcache : CachedOK s) (r c d : Nat)
    (hr : r < 9) (hc : c < 9) (hd : d < 9) :
    (step s r c d).2.stepType = .mid ↔
      (legal s.board r c d ∧ ∃ r' c' d', legal (place s.board r c d) r' c' d') := by
  rw [← step_not_last_iff, step_last_iff s hs hcache r c d hr hc hd, not_or, Classical.not_not, Classical.not_not]

/-- C05: an illegal move ends the episode -/
theorem illegal_last (s : State) (hs : Grid.shaped s.board 9 9 = true) (hcache : CachedOK s) (r c d : Nat)
    (hr : r < 9) (hc : c < 9) (hd : d < 9) (h : ¬ legal s.board r c d) :
    (step s r c d).2.stepType = .last :=
  (step_last_iff s hs hcache r c d hr hc hd).2 (Or.inl h)

theorem obs_copied (s : State) (r c d : Int) :
    (step s r c d).2.obs = { board := (step s r c d).1.board, mask := (step s r c d).1.mask } :=
  condLast_obs _ _ _

/-- C12 (`hr`, `hc` are not used) -/
theorem obs_faithful (s : State) (hs : Grid.shaped s.board 9 9 = true) (r c d : Nat) (hr : r < 9) (hc : c < 9) :
    (step s r c d).2.obs = observe (step s r c d).1 := by
  rw [obs_copied, step_state s hs r c d]
  rfl

/-! ### C06 -/

theorem sameUnit_symm (r c r' c' : Nat) : sameUnit r c r' c' = sameUnit r' c' r c := by
  unfold sameUnit
  rw [Bool.beq_comm (a := r), Bool.beq_comm (a := c), Bool.beq_comm (a := r / 3), Bool.beq_comm (a := c / 3)]

theorem cell_place (b : Grid Int) (hs : Grid.shaped b 9 9 = true) (r c d : Nat) (hr : r < 9) (hc : c < 9)
    (r' c' : Nat) : cell (place b r c d) r' c' = if r' = r ∧ c' = c then (d : Int) else cell b r' c' :=
  Grid.get_set_of_shaped hs _ (-1) hr hc r' c'

theorem step_feasible (b : Grid Int) (hf : Feasible b) (r c d : Nat) (hl : legal b r c d) :
    Feasible (place b r c d) := by
  obtain ⟨hs, hin, hcf⟩ := hf
  obtain ⟨hr, hc, hd, hempty, hpeers⟩ := hl
  refine ⟨shaped_place b hs r c d, ?_, ?_⟩
  · intro r' hr' c' hc'
    rw [cell_place b hs r c d hr hc]
    by_cases h : r' = r ∧ c' = c
    · rw [if_pos h]; omega
    · rw [if_neg h]; exact hin r' hr' c' hc'
  · intro r1 hr1 c1 hc1 r2 hr2 c2 hc2 ⟨hu, hne, hfill⟩
    rw [cell_place b hs r c d hr hc] at hfill ⊢
    rw [cell_place b hs r c d hr hc]
    by_cases h1 : r1 = r ∧ c1 = c
    · rw [if_pos h1]
      have h2 : ¬ (r2 = r ∧ c2 = c) := fun h2 => hne ⟨h1.1.trans h2.1.symm, h1.2.trans h2.2.symm⟩
      rw [if_neg h2]
      rw [h1.1, h1.2] at hu
      exact fun e => hpeers r2 hr2 c2 hc2 hu e.symm
    · rw [if_neg h1] at hfill ⊢
      by_cases h2 : r2 = r ∧ c2 = c
      · rw [if_pos h2]
        rw [h2.1, h2.2, sameUnit_symm] at hu
        exact hpeers r1 hr1 c1 hc1 hu
      · rw [if_neg h2]
        exact hcf r1 hr1 c1 hc1 r2 hr2 c2 hc2 ⟨hu, hne, hfill⟩

theorem legal_of_place_conflictFree (b : Grid Int) (hs : Grid.shaped b 9 9 = true) (r c d : Nat) (hr : r < 9)
    (hc : c < 9) (hd : d < 9) (he : cell b r c = -1) (hcf : ConflictFree (place b r c d)) : legal b r c d := by
  refine ⟨hr, hc, hd, he, fun r' hr' c' hc' hu hcl => ?_⟩
  -- a peer holding `d` is another cell, and clashes with the digit just written
  have hne : ¬ (r' = r ∧ c' = c) := by
    rintro ⟨rfl, rfl⟩
    rw [he] at hcl; omega
  have := hcf r hr c hc r' hr' c' hc'
    ⟨hu, fun e => hne ⟨e.1.symm, e.2.symm⟩, by rw [cell_place b hs r c d hr hc, if_pos ⟨rfl, rfl⟩]; omega⟩
  rw [cell_place b hs r c d hr hc, cell_place b hs r c d hr hc, if_pos ⟨rfl, rfl⟩, if_neg hne] at this
  exact this hcl.symm

/-! ### C11 -/

theorem emptyCells_place (b : Grid Int) (hs : Grid.shaped b 9 9 = true) (r c d : Nat) (hl : legal b r c d) :
    emptyCells (place b r c d) + 1 = emptyCells b := by
  obtain ⟨hr, hc, hd, hempty, _⟩ := hl
  have hb := (Grid.shaped_iff b 9 9).1 hs
  unfold emptyCells place
  have := Grid.count_set (fun v => v == -1) b (-1) r c (d : Int) (by omega) (by rw [hb.2 r hr]; exact hc)
  unfold cell at hempty
  rw [hempty] at this
  have hd' : ((d : Int) == -1) = false := by
    have : (d : Int) ≠ -1 := by omega
    simp [this]
  simp [hd'] at this
  omega

theorem progress (s : State) (hs : Grid.shaped s.board 9 9 = true) (hcache : CachedOK s) (r c d : Nat)
    (hr : r < 9) (hc : c < 9) (hd : d < 9) (hn : (step s r c d).2.stepType ≠ .last) :
    emptyCells (step s r c d).1.board + 1 = emptyCells s.board := by
  have hl := ((step_mid_iff s hs hcache r c d hr hc hd).1 ((step_not_last_iff s r c d).1 hn)).1
  rw [step_state s hs r c d]
  exact emptyCells_place s.board hs r c d hl

/-! ### `is_puzzle_solved` -/

def digits : List Int := (List.range W).map (fun (d : Nat) => (d : Int))

/-- `sort xs == arange 9` says that `xs` is a rearrangement of the nine digits: two sorted rearrangements of one list are
equal -/
theorem rowSolved_iff_perm (xs : List Int) : rowSolved xs = true ↔ List.Perm xs digits := by
  have hp := List.mergeSort_perm xs (fun a b => decide (a ≤ b))
  unfold rowSolved sortInts
  rw [beq_iff_eq]
  refine ⟨fun h => (h ▸ hp).symm, fun h => ?_⟩
  refine List.Perm.eq_of_pairwise (le := fun a b : Int => a ≤ b) (fun a b _ _ h1 h2 => Int.le_antisymm h1 h2) ?_
    (by decide) (hp.trans h)
  exact (List.pairwise_mergeSort (le := fun (a b : Int) => decide (a ≤ b))
    (fun a b c h1 h2 => by simp only [decide_eq_true_eq] at *; omega)
    (fun a b => by simp only [Bool.or_eq_true, decide_eq_true_eq]; omega) xs).imp (fun h => by simpa using h)

theorem perm_digits_of (xs : List Int) (hn : xs.Nodup) (hl : xs.length = 9) (hr : ∀ v ∈ xs, v ∈ digits) :
    List.Perm xs digits :=
  (List.perm_ext_iff_of_nodup hn (by decide)).2 fun v =>
    ⟨hr v, (nodup_covers_iff_length hn (by decide) hr).2 hl v⟩

theorem mem_digits (v : Int) : v ∈ digits ↔ 0 ≤ v ∧ v ≤ 8 := by
  unfold digits W
  simp only [List.mem_map, List.mem_range]
  exact ⟨fun ⟨d, hd, e⟩ => by omega, fun h => ⟨v.toNat, by omega, by omega⟩⟩

/-- `f 0, …, f 8` are the nine digits, each once -/
def Digits (f : Nat → Int) : Prop :=
  (∀ p, p < 9 → 0 ≤ f p ∧ f p ≤ 8) ∧ ∀ p, p < 9 → ∀ q, q < 9 → p ≠ q → f p ≠ f q

theorem rowSolved_tab (f : Nat → Int) : rowSolved ((List.range 9).map f) = true ↔ Digits f := by
  rw [rowSolved_iff_perm]
  constructor
  · intro hp
    exact ⟨fun p hp' => (mem_digits _).1 (hp.mem_iff.1 (List.mem_map.2 ⟨p, List.mem_range.2 hp', rfl⟩)),
      (nodup_tab 9 f).1 (hp.nodup_iff.2 (by decide))⟩
  · rintro ⟨hv, hn⟩
    refine perm_digits_of _ ((nodup_tab 9 f).2 hn) (by simp) fun v hv' => ?_
    obtain ⟨p, hp, rfl⟩ := List.mem_map.1 hv'
    exact (mem_digits _).2 (hv p (List.mem_range.1 hp))

theorem isSolved_iff_units (b : Grid Int) (hs : Grid.shaped b 9 9 = true) :
    isSolved b = true ↔
      (∀ r, r < 9 → Digits (fun c => cell b r c)) ∧ (∀ c, c < 9 → Digits (fun r => cell b r c)) ∧
      (∀ k, k < 9 → Digits (fun p => cell b (boxRow k p) (boxCol k p))) := by
  have hrows : List.all b rowSolved = true ↔ ∀ r, r < 9 → Digits (fun c => cell b r c) := by
    conv => lhs; rw [Grid.eq_table hs (-1), Grid.table]
    simp only [List.all_map, List.all_eq_true, List.mem_range, Function.comp, rowSolved_tab]
    rfl
  have hcols : List.all (Grid.transpose b) rowSolved = true ↔ ∀ c, c < 9 → Digits (fun r => cell b r c) := by
    rw [transpose_eq b hs]
    simp only [List.all_map, List.all_eq_true, List.mem_range, Function.comp, rowSolved_tab]
  have hboxes : List.all (BOX_IDX.map (boxValsOf b)) rowSolved = true ↔
      ∀ k, k < 9 → Digits (fun p => cell b (boxRow k p) (boxCol k p)) := by
    rw [BOX_IDX_eq]
    simp only [List.all_map, List.all_eq_true, List.mem_range, Function.comp]
    exact forall₂_congr fun k hk => by rw [boxVals_tab b hs k hk, rowSolved_tab]
  rw [← hrows, ← hcols, ← hboxes, isSolved, Bool.and_eq_true, Bool.and_eq_true, and_assoc]
  rfl

/-- the reward test `is_puzzle_solved` accepts exactly the complete feasible solutions -/
theorem isSolved_iff_solution (b : Grid Int) (hs : Grid.shaped b 9 9 = true) :
    isSolved b = true ↔ IsSolution b := by
  rw [isSolved_iff_units b hs]
  constructor
  · rintro ⟨hrows, hcols, hboxes⟩
    have hrange : ∀ r, r < 9 → ∀ c, c < 9 → 0 ≤ cell b r c ∧ cell b r c ≤ 8 := fun r hr => (hrows r hr).1
    refine ⟨⟨hs, fun r hr c hc => ?_, ?_⟩, fun r hr c hc => ?_⟩
    · have := hrange r hr c hc
      omega
    · intro r hr c hc r' hr' c' hc' ⟨hu, hne, _⟩
      simp only [sameUnit, Bool.or_eq_true, Bool.and_eq_true, beq_iff_eq] at hu
      rcases hu with (rfl | rfl) | hu
      · exact (hrows r hr).2 c hc c' hc' fun e => hne ⟨rfl, e⟩
      · exact (hcols c hc).2 r hr r' hr' fun e => hne ⟨e, rfl⟩
      · -- both cells lie in box `boxOf r c`, at different positions
        obtain ⟨hk, hp, _, _, e1, e2⟩ := box_of_cell r hr c hc
        obtain ⟨_, hp', _, _, e1', e2'⟩ := box_of_cell r' hr' c' hc'
        rw [boxOf, ← hu.1, ← hu.2, ← boxOf] at e1' e2'
        have := (hboxes _ hk).2 _ hp _ hp' fun e => hne ⟨by rw [← e1, ← e1', e], by rw [← e2, ← e2', e]⟩
        simpa only [e1, e2, e1', e2'] using this
    · have := hrange r hr c hc
      omega
  · rintro ⟨⟨_, hin, hcf⟩, hfull⟩
    have hrange : ∀ r, r < 9 → ∀ c, c < 9 → 0 ≤ cell b r c ∧ cell b r c ≤ 8 := by
      intro r hr c hc
      have := hin r hr c hc
      have := hfull r hr c hc
      omega
    refine ⟨fun r hr => ⟨hrange r hr, fun c hc c' hc' hcc' => ?_⟩, fun c hc => ⟨fun r hr => hrange r hr c hc,
      fun r hr r' hr' hrr' => ?_⟩, fun k hk => ?_⟩
    · exact hcf r hr c hc r hr c' hc' ⟨by simp [sameUnit], fun e => hcc' e.2, hfull r hr c hc⟩
    · exact hcf r hr c hc r' hr' c hc ⟨by simp [sameUnit], fun e => hrr' e.1, hfull r hr c hc⟩
    · refine ⟨fun p hp => hrange _ (cell_of_box k hk p hp).1 _ (cell_of_box k hk p hp).2.1, fun p hp q hq hpq => ?_⟩
      obtain ⟨h1, h2, h3, h4, h5⟩ := cell_of_box k hk p hp
      obtain ⟨h1', h2', h3', h4', h5'⟩ := cell_of_box k hk q hq
      refine hcf _ h1 _ h2 _ h1' _ h2' ⟨?_, fun e => hpq (by rw [← h5, ← h5', e.1, e.2]), hfull _ h1 _ h2⟩
      simp [sameUnit, h3, h4, h3', h4']

end Sudoku
