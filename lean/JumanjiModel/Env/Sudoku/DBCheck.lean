/-
Sudoku: the packed form of the shipped puzzle databases (jumanji/environments/logic/sudoku/data/*.npy, emitted by
`harness/translators.py: gen_sudoku_db` into Gen/SudokuDB*.lean) and a checker that the kernel can run on all of them.

A board of the database (an `int8` array of shape (9, 9): 0 = empty cell, 1..9 = digit) is ONE `Nat`: its 81 bytes in
row-major order, most significant first, written as a hexadecimal literal with `_` between the rows (two hex digits per
cell, so the literal reads as the board: `0x040906000305080701_08…` = 4 9 6 0 3 5 8 7 1 / 8 …).  Negative `int8` values
are their two's-complement byte, so every `int8` array has a code and `digits_in_range` is a fact checked here, not an
assumption of the encoding.

`decodeBoard` rebuilds the `Grid Int` that `DatabaseGenerator.__call__` puts into the state
(`jnp.asarray(board, dtype=jnp.int32) - 1`).  `fastOK` is the kernel-friendly checker: a per-cell loop costs the kernel
about 150 ms per board, so it works on all 81 cells at once with a fixed number (about 220) of GMP-accelerated `Nat`
bit operations on the literal (shift, and, or, xor; no addition, so no carries to reason about).
`Env/Sudoku/DBLemmas.lean` proves `fastOK n = true → boardOK (decodeBoard n) = true` for EVERY `n`.  Core Lean only.
After `namespace DB` the file ends with `boardOK` / `instanceOK`, the certificates the checker is sound for.
-/
import JumanjiModel.Env.Sudoku.Model
namespace Sudoku
open Jx

namespace DB

/-- bit position of the byte of cell number `i` (row-major, `i = 9 * r + c`) -/
def pos (i : Nat) : Nat := 8 * (80 - i)

/-- the byte of cell number `i` of the code `n` -/
def byteAt (n i : Nat) : Nat := (n >>> pos i) &&& 255

/-- `int8` value of a byte, minus one (`jnp.asarray(board, dtype=jnp.int32) - 1`) -/
def toCell (v : Nat) : Int := (if 128 ≤ v then (v : Int) - 256 else (v : Int)) - 1

/-- the board `DatabaseGenerator` builds from the database entry with code `n` -/
def decodeBoard (n : Nat) : Grid Int :=
  (List.range 9).map (fun r => (List.range 9).map (fun c => toCell (byteAt n (9 * r + c))))

/-! constants: `ONES` has bit 0 of every cell byte, `HI` the high nibble of every cell byte; `offsets` lists, for every
distance `δ = j - i` between two cells `i < j` that share a row, a column or a box, the shift `8 * δ` and the mask of
the (bit 0 of the) cells `j` whose partner `j - δ` is such a peer (`offsets_cover` in DBLemmas.lean, by evaluation). -/
def ONES : Nat :=
  0x010101010101010101_010101010101010101_010101010101010101_010101010101010101_010101010101010101_010101010101010101_010101010101010101_010101010101010101_010101010101010101
def HI : Nat :=
  0xf0f0f0f0f0f0f0f0f0_f0f0f0f0f0f0f0f0f0_f0f0f0f0f0f0f0f0f0_f0f0f0f0f0f0f0f0f0_f0f0f0f0f0f0f0f0f0_f0f0f0f0f0f0f0f0f0_f0f0f0f0f0f0f0f0f0_f0f0f0f0f0f0f0f0f0_f0f0f0f0f0f0f0f0f0
def offsets : List (Nat × Nat) := [
  (8, 0x000101010101010101_000101010101010101_000101010101010101_000101010101010101_000101010101010101_000101010101010101_000101010101010101_000101010101010101_000101010101010101),
  (16, 0x000001010101010101_000001010101010101_000001010101010101_000001010101010101_000001010101010101_000001010101010101_000001010101010101_000001010101010101_000001010101010101),
  (24, 0x000000010101010101_000000010101010101_000000010101010101_000000010101010101_000000010101010101_000000010101010101_000000010101010101_000000010101010101_000000010101010101),
  (32, 0x000000000101010101_000000000101010101_000000000101010101_000000000101010101_000000000101010101_000000000101010101_000000000101010101_000000000101010101_000000000101010101),
  (40, 0x000000000001010101_000000000001010101_000000000001010101_000000000001010101_000000000001010101_000000000001010101_000000000001010101_000000000001010101_000000000001010101),
  (48, 0x000000000000010101_000000000000010101_000000000000010101_000000000000010101_000000000000010101_000000000000010101_000000000000010101_000000000000010101_000000000000010101),
  (56, 0x000000000000000101_010000010000010101_010000010000010101_000000000000000101_010000010000010101_010000010000010101_000000000000000101_010000010000010101_010000010000010101),
  (64, 0x000000000000000001_010100010100010101_010100010100010101_000000000000000001_010100010100010101_010100010100010101_000000000000000001_010100010100010101_010100010100010101),
  (72, 0x000000000000000000_010101010101010101_010101010101010101_010101010101010101_010101010101010101_010101010101010101_010101010101010101_010101010101010101_010101010101010101),
  (80, 0x000000000000000000_000101000101000101_000101000101000101_000000000000000000_000101000101000101_000101000101000101_000000000000000000_000101000101000101_000101000101000101),
  (88, 0x000000000000000000_000001000001000001_000001000001000001_000000000000000000_000001000001000001_000001000001000001_000000000000000000_000001000001000001_000001000001000001),
  (128, 0x000000000000000000_000000000000000000_010000010000010000_000000000000000000_000000000000000000_010000010000010000_000000000000000000_000000000000000000_010000010000010000),
  (136, 0x000000000000000000_000000000000000000_010100010100010100_000000000000000000_000000000000000000_010100010100010100_000000000000000000_000000000000000000_010100010100010100),
  (144, 0x000000000000000000_000000000000000000_010101010101010101_010101010101010101_010101010101010101_010101010101010101_010101010101010101_010101010101010101_010101010101010101),
  (152, 0x000000000000000000_000000000000000000_000101000101000101_000000000000000000_000000000000000000_000101000101000101_000000000000000000_000000000000000000_000101000101000101),
  (160, 0x000000000000000000_000000000000000000_000001000001000001_000000000000000000_000000000000000000_000001000001000001_000000000000000000_000000000000000000_000001000001000001),
  (216, 0x000000000000000000_000000000000000000_000000000000000000_010101010101010101_010101010101010101_010101010101010101_010101010101010101_010101010101010101_010101010101010101),
  (288, 0x000000000000000000_000000000000000000_000000000000000000_000000000000000000_010101010101010101_010101010101010101_010101010101010101_010101010101010101_010101010101010101),
  (360, 0x000000000000000000_000000000000000000_000000000000000000_000000000000000000_000000000000000000_010101010101010101_010101010101010101_010101010101010101_010101010101010101),
  (432, 0x000000000000000000_000000000000000000_000000000000000000_000000000000000000_000000000000000000_000000000000000000_010101010101010101_010101010101010101_010101010101010101),
  (504, 0x000000000000000000_000000000000000000_000000000000000000_000000000000000000_000000000000000000_000000000000000000_000000000000000000_010101010101010101_010101010101010101),
  (576, 0x000000000000000000_000000000000000000_000000000000000000_000000000000000000_000000000000000000_000000000000000000_000000000000000000_000000000000000000_010101010101010101)]

/-- bit 0 of every byte: is the low nibble of the byte non-zero -/
def nzFlags (x : Nat) : Nat :=
  let y := x ||| (x >>> 2)
  y ||| (y >>> 1)

/-- every cell byte is at most 9: high nibble 0 and not (bit 3 and (bit 2 or bit 1)) -/
def rangeOK (n : Nat) : Bool :=
  (n &&& HI == 0) && ((n >>> 3) &&& ((n >>> 2) ||| (n >>> 1)) &&& ONES == 0)

/-- some cell byte has low nibble 0 -/
def emptyOK (n : Nat) : Bool := (nzFlags n &&& ONES) != ONES

/-- no cell `j` in the mask `m` is non-zero (flags `nz`) and has the same low nibble as the cell `s / 8` places before it -/
def pairOK (n nz s m : Nat) : Bool := (nz &&& (nzFlags (n ^^^ (n >>> s)) ^^^ ONES) &&& m) == 0

def conflictOK (n : Nat) : Bool :=
  let nz := nzFlags n
  offsets.all (fun e => pairOK n nz e.1 e.2)

/-- the kernel-friendly checker of one database entry -/
def fastOK (n : Nat) : Bool := rangeOK n && emptyOK n && conflictOK n

/-! glue used by the generated aggregate `Gen.SudokuDB.chunks_ok` (one kernel run per chunk, no re-evaluation here) -/
theorem all_nil_ok : ([] : List (List Nat)).all (fun c => c.all fastOK) = true := rfl
theorem all_cons_ok (c : List Nat) (cs : List (List Nat)) (h : c.all fastOK = true)
    (hs : cs.all (fun c => c.all fastOK) = true) : (c :: cs).all (fun c => c.all fastOK) = true := by
  rw [List.all_cons, h, hs]; rfl

/-! A whole chunk at once.  The kernel's cost is per `Nat` operation, not per bit, so the boards of a chunk are laid side by
side in ONE number (board `j` in the window of bits `648 * j .. 648 * j + 647`) and the range and conflict tests of `fastOK` run
once on it, with the constants repeated for every window (`m * pack (replicate k 1)`).  A shift `N >>> s` drags the low cells of
board `j + 1` into the top of window `j`; every use is ANDed with a mask whose set bits `p` satisfy `p + s + 7 < 648`
(`offsets_room` in DBLemmas.lean), and `nzFlags` reads the bits `p .. p + 3` only, so no bit of a neighbouring window is ever looked at.
`chunkOK_sound` (DBLemmas.lean): `chunkOK c = true → c.all fastOK = true` for EVERY list `c`. -/

/-- the codes of a chunk side by side: code number `j` in the bits `648 * j ..` (codes below `2 ^ 648`) -/
def pack : List Nat → Nat
  | [] => 0
  | n :: ns => pack ns <<< 648 + n

/-- `rangeOK` on every window of `N` at once (`hi`, `ones`: `HI`, `ONES` repeated) -/
def rangeOKp (N hi ones : Nat) : Bool :=
  (N &&& hi == 0) && ((N >>> 3) &&& ((N >>> 2) ||| (N >>> 1)) &&& ones == 0)

/-- `pairOK` on every window of `N` at once -/
def pairOKp (N nz ones s m : Nat) : Bool := (nz &&& (nzFlags (N ^^^ (N >>> s)) ^^^ ones) &&& m) == 0

/-- the checker of a chunk: every code fits its window and has an empty cell (per board: "some cell" is not a bitwise
test), range and conflicts on the packed number -/
def chunkOK (c : List Nat) : Bool :=
  let N := pack c
  let R := pack (List.replicate c.length 1)
  let ones := ONES * R
  let nz := nzFlags N
  c.all (fun n => decide (n < 2 ^ 648) && emptyOK n) && rangeOKp N (HI * R) ones &&
    offsets.all (fun e => pairOKp N nz ones e.1 (e.2 * R))

end DB

/-- the certificates of the `sudoku.instance` op that speak about the board (Bridge/Sudoku.lean `opInstance`:
`shape_9x9`, `digits_in_range`, `conflict_free`, `has_empty_cell` — the same expressions) -/
def boardOK (b : Grid Int) : Bool :=
  Grid.shaped b 9 9 && decide (InRange b) && decide (ConflictFree b) && decide (emptyCells b > 0)

/-- the five board / mask certificates among the eight keys of the `sudoku.instance` op (the four above and
`mask_is_legal_table`) -/
def instanceOK (s : State) : Bool := boardOK s.board && decide (CachedOK s)

end Sudoku
