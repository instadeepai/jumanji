/-
Sudoku: completion through `step` (C06), `step` versus legality (C04), the single-step facts (`RunInv`, `stepA_*`) from
which `EpRun` gives the structural horizon of whole plays (C11), the reset observation (C12), shapes of the step
observation (C01).
-/
import JumanjiModel.Env.Sudoku.Run
import JumanjiModel.Env.Sudoku.Lemmas
namespace Sudoku
open Jm Jx

theorem legal_empty (b : Grid Int) (hs : Grid.shaped b 9 9 = true) (r c d : Nat) (hl : legal b r c d) :
    1 ≤ emptyCells b := by
  have := emptyCells_place b hs r c d hl
  omega

theorem full_no_legal (b : Grid Int) (hfull : Full b) : ¬ ∃ r c d, legal b r c d := by
  rintro ⟨r, c, d, hr, hc, _, he, _⟩
  exact hfull r hr c hc he

/-- C06 through `step`: a legal move from a feasible board that fills the last empty cell yields a complete
feasible solution, is rewarded 1 and ends the episode -/
theorem complete_is_solution (s : State) (hf : Feasible s.board) (r c d : Nat) (hl : legal s.board r c d)
    (hfull : Full (step s r c d).1.board) :
    IsSolution (step s r c d).1.board ∧ (step s r c d).2.reward = [1] ∧ (step s r c d).2.stepType = .last := by
  have hst := step_state s hf.1 r c d
  have hfe : Feasible (step s r c d).1.board := by rw [hst]; exact step_feasible s.board hf r c d hl
  have hsol : IsSolution (step s r c d).1.board := ⟨hfe, hfull⟩
  refine ⟨hsol, ?_, ?_⟩
  · rw [step_reward, (isSolved_iff_solution _ hsol.1.1).2 hsol]; rfl
  · rw [step_last_key]
    have hno : anyMask (step s r c d).1.mask = false := by
      cases h : anyMask (step s r c d).1.mask
      · rfl
      · rw [hst] at h
        have := (anyMask_legalTable _).1 h
        rw [hst] at hfull
        exact absurd this (full_no_legal _ hfull)
    simp [hno]

/-- C04 about `step`: an illegal in-spec action ends the episode; a legal one ends it iff the new board has no
legal move left -/
theorem step_agrees_step (s : State) (hs : Grid.shaped s.board 9 9 = true) (hcache : CachedOK s) (r c d : Nat)
    (hr : r < 9) (hc : c < 9) (hd : d < 9) :
    (¬ legal s.board r c d → (step s r c d).2.stepType = .last) ∧
    (legal s.board r c d →
      ((step s r c d).2.stepType = .last ↔ ¬ ∃ r' c' d', legal (step s r c d).1.board r' c' d')) := by
  have h := step_last_iff s hs hcache r c d hr hc hd
  have hb : (step s r c d).1.board = place s.board r c d := by rw [step_state s hs r c d]
  refine ⟨fun hl => h.2 (Or.inl hl), fun hl => ?_⟩
  rw [h, hb]
  exact ⟨fun h' => h'.resolve_left (fun hn => hn hl), Or.inr⟩

/-! ### whole plays (C11) -/

/-- invariant of a running episode -/
def RunInv (s : State) : Prop := Grid.shaped s.board 9 9 = true ∧ CachedOK s

theorem stepA_inv (s : State) (a : Action) (h : RunInv s) : RunInv (stepA s a).1 := by
  obtain ⟨hs, _⟩ := h
  refine ⟨?_, step_cached s hs _ _ _⟩
  show Grid.shaped (step s _ _ _).1.board 9 9 = true
  rw [step_state s hs _ _ _]
  exact shaped_place s.board hs _ _ _

theorem stepA_progress (s : State) (a : Action) (h : RunInv s) (ha : InSpec a)
    (hn : ¬ (stepA s a).2.stepType = .last) : emptyCells (stepA s a).1.board + 1 = emptyCells s.board :=
  progress s h.1 h.2 _ _ _ ha.1 ha.2.1 ha.2.2 hn

theorem stepA_pos (s : State) (a : Action) (h : RunInv s) (ha : InSpec a)
    (hn : ¬ (stepA s a).2.stepType = .last) : 1 ≤ emptyCells (stepA s a).1.board := by
  obtain ⟨_, r', c', d', hl'⟩ :=
    (step_mid_iff s h.1 h.2 _ _ _ ha.1 ha.2.1 ha.2.2).1 ((step_not_last_iff s _ _ _).1 hn)
  show 1 ≤ emptyCells (step s _ _ _).1.board
  rw [step_state s h.1 _ _ _]
  exact legal_empty _ (shaped_place s.board h.1 _ _ _) r' c' d' hl'

/-! ### reset (C12) and shapes (C01) -/

theorem reset_obs_faithful (b : Grid Int) (hs : Grid.shaped b 9 9 = true) :
    (reset b).2.obs = observe (reset b).1 ∧ (reset b).2.stepType = .first ∧ CachedOK (reset b).1 := by
  refine ⟨?_, rfl, maskOf_eq_legalTable b hs⟩
  show ({ board := b, mask := maskOf b } : Obs) = { board := b, mask := legalTable b }
  rw [maskOf_eq_legalTable b hs]

theorem legalTable_shaped (b : Grid Int) :
    (legalTable b).length = 9 ∧ ∀ m ∈ legalTable b, Grid.shaped m 9 9 = true := by
  unfold legalTable
  refine ⟨by simp, ?_⟩
  intro m hm
  obtain ⟨r, _, rfl⟩ := List.mem_map.1 hm
  rw [Grid.shaped_iff_mem]
  refine ⟨by simp, ?_⟩
  intro row hrow
  obtain ⟨c, _, rfl⟩ := List.mem_map.1 hrow
  simp

theorem maskOf_shaped (b : Grid Int) (hs : Grid.shaped b 9 9 = true) :
    (maskOf b).length = 9 ∧ ∀ m ∈ maskOf b, Grid.shaped m 9 9 = true := by
  rw [maskOf_eq_legalTable b hs]
  exact legalTable_shaped b

/-- every step from a 9×9 board (ANY integer action) emits an observation of the declared shapes -/
theorem step_obs_shaped (s : State) (hs : Grid.shaped s.board 9 9 = true) (r c d : Int) :
    ObsShaped (step s r c d).2.obs := by
  rw [obs_copied]
  have hb : Grid.shaped (step s r c d).1.board 9 9 = true := Grid.shaped_setWD hs d r c
  exact ⟨hb, maskOf_shaped _ hb⟩

end Sudoku
