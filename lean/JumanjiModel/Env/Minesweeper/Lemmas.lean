/-
Minesweeper, one step.  The transliterated scatter / reshape / pad / dynamic-slice pipeline is read entry by entry
(`minedFlat_getD`, `minedGrid_eq`, `pad_get`, `dynSlice3`) until `countAdjacentMines` is a sum of `mz` over `offsets`
(`count_eq`).  From there `step` on an in-range action is the rules' successor (`step_state`, `step_reward`,
`step_last_iff`), and the lemmas of section `InRange` say what that successor looks like; `Consistent` is kept by
every legal move on a safe square (`step_consistent_of_safe`).
-/
import JumanjiModel.Env.Minesweeper.Model
import JumanjiModel.Prim.ListLemmas
import JumanjiModel.Prim.GridLemmas
import JumanjiModel.Core.TimeStepLemmas
namespace Minesweeper
open Jm Jx

theorem nodup_map_of_inj_on {α β} (f : α → β) (l : List α) (h : l.Nodup)
    (hf : ∀ x ∈ l, ∀ y ∈ l, f x = f y → x = y) : (l.map f).Nodup := by
  unfold List.Nodup at *
  rw [List.pairwise_map]
  exact List.Pairwise.imp_of_mem (fun hx hy hne e => hne (hf _ hx _ hy e)) h

theorem minedFlat_length (s : State) : (minedFlat s).length = ncols s * nrows s := by
  unfold minedFlat; rw [foldl_setWD_length]; simp

/-- `hms`: the scatter would wrap a negative location onto another square; `MinesOK` excludes it (`mines_nonneg`) -/
theorem minedFlat_getD (s : State) (hms : ∀ m ∈ s.mines, 0 ≤ m) (i : Nat) (hi : i < ncols s * nrows s) :
    (minedFlat s).getD i 0 = if (i : Int) ∈ s.mines then 1 else 0 := by
  unfold minedFlat
  rw [foldl_setWD_const_getD 1 0 _ _ hms (by simpa using hi)]
  simp [List.getD_eq_getElem?_getD, hi]

theorem flat_index_lt {nr nc i j : Nat} (hi : i < nr) (hj : j < nc) : i * nc + j < nc * nr := by
  have h1 : (i + 1) * nc ≤ nr * nc := Nat.mul_le_mul_right nc hi
  rw [Nat.succ_mul, Nat.mul_comm nr nc] at h1
  omega

theorem reshape_eq {α : Type} (xs : List α) (d : α) {nr nc : Nat} (h : nr * nc ≤ xs.length) :
    reshape xs nr nc = Grid.table nr nc (fun i j => xs.getD (i * nc + j) d) := Grid.reshape_eq_table xs d h

theorem padRow_getD (row : List Int) (w j : Nat) :
    (List.replicate w (0 : Int) ++ row ++ List.replicate w 0).getD j 0 =
      if w ≤ j then row.getD (j - w) 0 else 0 := by
  simp only [List.getD_eq_getElem?_getD, List.getElem?_append, List.length_append, List.length_replicate,
    List.getElem?_replicate]
  by_cases h1 : w ≤ j
  · by_cases h2 : j - w < row.length
    · simp [h1, h2, Nat.not_lt.2 h1, show j < w + row.length by omega]
    · have : row[j - w]? = none := by simp; omega
      simp [h1, show ¬ j < w + row.length by omega, this]
      split <;> rfl
  · simp [h1, show j < w by omega, show j < w + row.length by omega]

theorem get_eq_col (g : Grid Int) (i j : Nat) :
    Grid.get g 0 i j = (List.map (fun row => row.getD j 0) g).getD i 0 := by
  rw [Grid.get_eq]
  simp only [List.getD_eq_getElem?_getD, List.getElem?_map]
  cases g[i]? <;> rfl

theorem pad_get (g : Grid Int) (w i j : Nat) :
    Grid.get (pad g w) 0 i j = if w ≤ i ∧ w ≤ j then Grid.get g 0 (i - w) (j - w) else 0 := by
  have hz : (List.replicate (Grid.cols g + 2 * w) (0 : Int)).getD j 0 = 0 := by
    simp [List.getD_eq_getElem?_getD, List.getElem?_replicate]; split <;> rfl
  -- column `j` of the padded grid is column `j` of the padded rows, padded in turn: `padRow_getD` twice
  rw [get_eq_col, pad]
  simp only [List.map_append, List.map_replicate, List.map_map, Function.comp_def, hz, padRow_getD]
  by_cases hj : w ≤ j
  · simp only [hj, if_true, and_true, ← get_eq_col]
  · simp only [hj, if_false, and_false]
    split
    · simp only [List.getD_eq_getElem?_getD, List.getElem?_map]
      cases g[i - w]? <;> rfl
    · rfl

theorem pad_shaped (g : Grid Int) (w nr nc : Nat) (hs : Grid.shaped g nr nc = true) (hpos : 0 < nr) :
    Grid.shaped (pad g w) (nr + 2 * w) (nc + 2 * w) = true := by
  unfold pad
  rw [Grid.cols_of_shaped g nr nc hs hpos]
  simp only [Grid.shaped, Bool.and_eq_true, beq_iff_eq, List.all_eq_true] at hs ⊢
  refine ⟨by simp [hs.1]; omega, fun row hrow => ?_⟩
  simp only [List.mem_append, List.mem_replicate, List.mem_map] at hrow
  rcases hrow with (⟨_, rfl⟩ | ⟨x, hx, rfl⟩) | ⟨_, rfl⟩
  · simp
  · simp [hs.2 x hx]; omega
  · simp

theorem drop_take3 {α} (xs : List α) (d : α) (k : Nat) (h : k + 3 ≤ xs.length) :
    (xs.drop k).take 3 = [xs.getD k d, xs.getD (k + 1) d, xs.getD (k + 2) d] := by
  have h0 : k < xs.length := by omega
  have h1 : k + 1 < xs.length := by omega
  have h2 : k + 2 < xs.length := by omega
  rw [getD_eq_getElem d h0, getD_eq_getElem d h1, getD_eq_getElem d h2, List.drop_eq_getElem_cons h0,
    List.drop_eq_getElem_cons h1, List.drop_eq_getElem_cons h2]
  rfl

/-- the slice that `count_adjacent_mines` takes: start index `k + 1`, well inside the list, so nothing wraps or clamps -/
theorem dynSlice3 {α} (xs : List α) (d : α) (k : Nat) (h : k + 4 ≤ xs.length) :
    dynSlice xs ((k : Int) + 1) 3 = [xs.getD (k + 1) d, xs.getD (k + 2) d, xs.getD (k + 3) d] := by
  unfold dynSlice dynStart wrapIdx
  have h1 : ¬ ((k : Int) + 1 < 0) := by omega
  have h2 : min ((k : Int) + 1).toNat (xs.length - 3) = k + 1 := by omega
  simp only [h1, if_false, h2]
  exact drop_take3 xs d (k + 1) (by omega)

/-- 1 if the (possibly off-board) square is a mine, else 0 -/
def mz (s : State) (i j : Int) : Int := if isMineZ s i j then 1 else 0

theorem mz_oob (s : State) {i j : Int} (h : ¬ (0 ≤ i ∧ i < nrows s ∧ 0 ≤ j ∧ j < ncols s)) : mz s i j = 0 := by
  unfold mz isMineZ
  rw [if_neg]
  simp only [Bool.and_eq_true, decide_eq_true_eq]
  omega

theorem minedGrid_eq (s : State) :
    minedGrid s = Grid.table (nrows s) (ncols s) (fun i j => (minedFlat s).getD (i * ncols s + j) 0) :=
  reshape_eq _ 0 (by rw [minedFlat_length, Nat.mul_comm]; exact Nat.le_refl _)

theorem minedGrid_get (s : State) (hms : ∀ m ∈ s.mines, 0 ≤ m) (i j : Nat) :
    Grid.get (minedGrid s) 0 i j = mz s i j := by
  rw [minedGrid_eq, Grid.get_eq, Grid.getD_table]
  split
  · rename_i h
    rw [minedFlat_getD s hms _ (flat_index_lt h.1 h.2)]
    unfold mz isMineZ isMine
    simp [h.1, h.2]
  · exact (mz_oob s (by omega)).symm

/-- the padded board, read one row and one column in: entry `(i + 1, j + 1)` is square `(i − 1, j − 1)` -/
theorem padded_get (s : State) (hms : ∀ m ∈ s.mines, 0 ≤ m) (i j : Nat) :
    Grid.get (pad (minedGrid s) 2) 0 (i + 1) (j + 1) = mz s ((i : Int) + -1) ((j : Int) + -1) := by
  rw [pad_get]
  split
  · have e1 : ((i + 1 - 2 : Nat) : Int) = (i : Int) + -1 := by omega
    have e2 : ((j + 1 - 2 : Nat) : Int) = (j : Int) + -1 := by omega
    rw [minedGrid_get s hms, e1, e2]
  · exact (mz_oob s (by omega)).symm

theorem minedGrid_shaped (s : State) : Grid.shaped (minedGrid s) (nrows s) (ncols s) = true :=
  minedGrid_eq s ▸ Grid.shaped_table ..

theorem length_filter_eq_sum {α} (p : α → Bool) (l : List α) :
    ((l.filter p).length : Int) = (l.map (fun x => if p x then (1 : Int) else 0)).sum := by
  rw [sum_map_ite_filter, sum_map_const, Int.mul_one]

theorem adjMines_eq_sum (s : State) (r c : Nat) :
    ((adjMines s r c : Nat) : Int) = (offsets.map (fun d => mz s ((r : Int) + d.1) ((c : Int) + d.2))).sum :=
  length_filter_eq_sum _ _

/-- sum of the 3x3 patch of the padded mined board around `(r, c)`: the 8 neighbours and the centre -/
theorem patch_sum (s : State) (hms : ∀ m ∈ s.mines, 0 ≤ m) (r c : Nat) (hr : r < nrows s) (hc : c < ncols s) :
    (((dynSlice (pad (minedGrid s) 2) ((r : Int) + 1) 3).map (fun row => dynSlice row ((c : Int) + 1) 3)).flatten).sum =
      (offsets.map (fun d => mz s ((r : Int) + d.1) ((c : Int) + d.2))).sum + mz s r c := by
  obtain ⟨hlen, hrow⟩ := (Grid.shaped_iff _ _ _).1 (pad_shaped _ 2 _ _ (minedGrid_shaped s) (by omega))
  have hrow : ∀ k, k < nrows s + 2 * 2 → ((pad (minedGrid s) 2).getD k []).length = ncols s + 2 * 2 := hrow
  rw [dynSlice3 (pad (minedGrid s) 2) [] r (by omega)]
  simp only [List.map_cons, List.map_nil]
  rw [dynSlice3 _ 0 c (by rw [hrow (r + 1) (by omega)]; omega), dynSlice3 _ 0 c (by rw [hrow (r + 2) (by omega)]; omega),
    dynSlice3 _ 0 c (by rw [hrow (r + 3) (by omega)]; omega)]
  -- rows r+1, r+2, r+3 of the padded board are rows r−1, r, r+1 of the board
  have e3 : ∀ x : Int, x + ((2 : Nat) : Int) + -1 = x + 1 := fun x => by omega
  simp only [← Grid.get_eq, padded_get s hms, Int.natCast_add, Int.natCast_one,
    Int.add_neg_cancel_right, e3, offsets,
    List.flatten_cons, List.flatten_nil, List.cons_append, List.nil_append, List.map_cons, List.map_nil,
    List.sum_cons, List.sum_nil, Int.add_zero]
  omega

/-- C09: the transliterated pad / dynamic-slice count is the number of mined 8-neighbours -/
theorem count_eq (s : State) (hms : ∀ m ∈ s.mines, 0 ≤ m) (r c : Nat) (hr : r < nrows s) (hc : c < ncols s) :
    countAdjacentMines s r c = (adjMines s r c : Int) := by
  unfold countAdjacentMines
  simp only []
  rw [patch_sum s hms r c hr hc, adjMines_eq_sum]
  have hsh := minedGrid_shaped s
  rw [Grid.shaped_iff] at hsh
  rw [Grid.getWC_nat (minedGrid s) 0 r c (by omega) (by rw [hsh.2 r hr]; exact hc), minedGrid_get s hms]
  omega

theorem exploredMine_eq (s : State) (hms : ∀ m ∈ s.mines, 0 ≤ m) (r c : Nat) (hr : r < nrows s) (hc : c < ncols s) :
    exploredMine s r c = isMine s r c := by
  unfold exploredMine isMine
  have hi := flat_index_lt hr hc
  have e : (c : Int) + (r : Int) * (ncols s : Int) = ((r * ncols s + c : Nat) : Int) := by
    simp [Int.natCast_add, Int.natCast_mul, Int.add_comm]
  rw [e, Jx.getWC_nat _ _ (by rw [minedFlat_length]; exact hi), minedFlat_getD s hms _ hi]
  generalize ((r * ncols s + c : Nat) : Int) = x
  by_cases h : x ∈ s.mines <;> simp [h]

theorem nrows_eq (s : State) (nr nc : Nat) (hs : Grid.shaped s.board nr nc = true) : nrows s = nr :=
  ((Grid.shaped_iff _ _ _).1 hs).1

theorem ncols_eq (s : State) (nr nc : Nat) (hs : Grid.shaped s.board nr nc = true) (hpos : 0 < nr) :
    ncols s = nc := Grid.cols_of_shaped _ _ _ hs hpos

theorem in_board (s : State) (nr nc : Nat) (hs : Grid.shaped s.board nr nc = true) {r c : Nat} (hr : r < nr)
    (hc : c < nc) : r < s.board.length ∧ c < Grid.rowLen s.board r := by
  rw [Grid.shaped_iff] at hs
  exact ⟨by rw [hs.1]; exact hr, by rw [hs.2 r hr]; exact hc⟩

theorem cells_eq (s : State) (nr nc : Nat) (hs : Grid.shaped s.board nr nc = true) : nrows s * ncols s = nr * nc := by
  rw [nrows_eq s nr nc hs]
  rcases Nat.eq_zero_or_pos nr with h | h
  · rw [h, Nat.zero_mul, Nat.zero_mul]
  · rw [ncols_eq s nr nc hs h]

/-- a `legal` square is on the board -/
theorem legal_lt {s : State} {nr nc : Nat} (hs : Grid.shaped s.board nr nc = true) {r c : Nat} (hl : legal s r c) :
    r < nr ∧ c < nc := by
  have hr : r < nr := nrows_eq s nr nc hs ▸ hl.1
  exact ⟨hr, ncols_eq s nr nc hs (by omega) ▸ hl.2.1⟩

/-! ### the mask and the validity test (C04); the fields of `step`; the rules' `doneSpec` / `rewardSpec` -/

theorem mask_iff_legal (cfg : Cfg) (s : State) (nr nc : Nat) (hs : Grid.shaped s.board nr nc = true)
    (r c : Nat) : Grid.get (observeL1 cfg s).mask false r c = true ↔ legal s r c := by
  unfold observeL1 legal cell
  simp only []
  rw [Grid.get_map (fun v => v == -1) s.board 0 false r c]
  have h1 := nrows_eq s nr nc hs
  have h1' : s.board.length = nr := h1
  by_cases hr : r < nr
  · have h2 := ncols_eq s nr nc hs (by omega)
    have h3 := ((Grid.shaped_iff _ _ _).1 hs).2 r hr
    simp [h1, h1', h2, h3, hr]
  · simp [h1, h1', hr]

theorem isValid_iff_legal (s : State) (nr nc : Nat) (hs : Grid.shaped s.board nr nc = true)
    (r c : Nat) (hr : r < nr) (hc : c < nc) : isValid s r c = true ↔ legal s r c := by
  obtain ⟨hr', hc'⟩ := in_board s nr nc hs hr hc
  unfold isValid legal cell
  rw [Grid.getWC_nat s.board 0 r c hr' hc']
  simp [nrows_eq s nr nc hs, ncols_eq s nr nc hs (by omega), hr, hc]

/-- stated once: `rfl` alone unfolds `step` the slow way round -/
theorem step_mines (cfg : Cfg) (s : State) (r c : Int) : (step cfg s r c).1.mines = s.mines := by
  unfold step; rfl

theorem step_stepCount (cfg : Cfg) (s : State) (r c : Int) : (step cfg s r c).1.stepCount = s.stepCount + 1 := by
  unfold step; rfl

theorem step_board (cfg : Cfg) (s : State) (r c : Int) :
    (step cfg s r c).1.board = Grid.setWD s.board r c (countAdjacentMines s r c) := by
  unfold step; rfl

theorem step_obs (cfg : Cfg) (s : State) (r c : Int) :
    (step cfg s r c).2.obs = observeL1 cfg (step cfg s r c).1 := by
  unfold step; exact condLast_obs ..

theorem step_last_iff_L1 (cfg : Cfg) (s : State) (r c : Int) :
    (step cfg s r c).2.stepType = .last ↔
      (!(isValid s r c) || exploredMine s r c || isSolved (step cfg s r c).1) = true := by
  unfold step; exact condLast_last_iff ..

theorem isSolved_iff (s : State) :
    isSolved s = true ↔ ((explored s.board : Nat) : Int) = ((nrows s * ncols s : Nat) : Int) - (s.mines.length : Int) := by
  unfold isSolved
  exact beq_iff_eq

theorem explored_reveal_add (s : State) (nr nc : Nat) (hs : Grid.shaped s.board nr nc = true)
    (r c : Nat) (hr : r < nr) (hc : c < nc) :
    explored (reveal s r c) + (if decide (0 ≤ cell s r c) then 1 else 0) = explored s.board + 1 := by
  obtain ⟨hr', hc'⟩ := in_board s nr nc hs hr hc
  have := Grid.count_set (fun v => decide (0 ≤ v)) s.board 0 r c ((adjMines s r c : Nat) : Int) hr' hc'
  rw [if_pos (decide_eq_true (Int.natCast_nonneg _))] at this
  exact this

theorem explored_reveal (s : State) (nr nc : Nat) (hs : Grid.shaped s.board nr nc = true)
    (r c : Nat) (hr : r < nr) (hc : c < nc) (hl : cell s r c = -1) :
    explored (reveal s r c) = explored s.board + 1 := by
  have := explored_reveal_add s nr nc hs r c hr hc
  rw [hl] at this
  exact this

theorem explored_reveal_same (s : State) (nr nc : Nat) (hs : Grid.shaped s.board nr nc = true)
    (r c : Nat) (hr : r < nr) (hc : c < nc) (hl : 0 ≤ cell s r c) :
    explored (reveal s r c) = explored s.board := by
  have := explored_reveal_add s nr nc hs r c hr hc
  rw [if_pos (decide_eq_true hl)] at this
  omega

theorem set_get_self {α} (g : Grid α) (d : α) (r c : Nat) (hr : r < g.length) (hc : c < Grid.rowLen g r) :
    Grid.set g r c (Grid.get g d r c) = g := by
  unfold Grid.rowLen at hc
  rw [Grid.set_eq _ _ _ _ hr, Grid.get_eq]
  have e : List.getD g r [] = g[r] := by simp [List.getD_eq_getElem?_getD, hr]
  rw [e] at hc ⊢
  simp [List.getD_eq_getElem?_getD, hc]

/-- the rules' termination test: illegal move, mine, or all safe squares revealed -/
def doneSpec (s : State) (r c : Nat) : Prop :=
  ¬ legal s r c ∨ isMine s r c = true ∨
    ((explored (reveal s r c) : Nat) : Int) = ((nrows s * ncols s : Nat) : Int) - (s.mines.length : Int)

def rewardSpec (cfg : Cfg) (s : State) (r c : Nat) : Rat :=
  if legal s r c then (if isMine s r c then cfg.rMine else cfg.rEmpty) else cfg.rInvalid

section InRange
variable (cfg : Cfg) (s : State) (nr nc : Nat) (hs : Grid.shaped s.board nr nc = true)
  (hms : ∀ m ∈ s.mines, 0 ≤ m) (r c : Nat) (hr : r < nr) (hc : c < nc)
include hs hms hr hc

/-- C09: on an in-range action the successor is the one the rules prescribe: the chosen square shows
its number of adjacent mines, one more step is counted, the mines stay -/
theorem step_state :
    (step cfg s r c).1 = { board := reveal s r c, stepCount := s.stepCount + 1, mines := s.mines } := by
  unfold step reveal
  simp only []
  rw [count_eq s hms r c (by rw [nrows_eq s nr nc hs]; exact hr) (by rw [ncols_eq s nr nc hs (by omega)]; exact hc),
      Grid.setWD_natCast s.board r c]

theorem step_shaped :
    Grid.shaped (step cfg s r c).1.board nr nc = true := by
  rw [step_state cfg s nr nc hs hms r c hr hc]
  exact Grid.shaped_set hs _ _ _

theorem step_dims :
    nrows (step cfg s r c).1 = nrows s ∧ ncols (step cfg s r c).1 = ncols s := by
  have hs' := step_shaped cfg s nr nc hs hms r c hr hc
  have hpos : 0 < nr := by omega
  exact ⟨by rw [nrows_eq _ nr nc hs', nrows_eq s nr nc hs], by rw [ncols_eq _ nr nc hs' hpos, ncols_eq s nr nc hs hpos]⟩

theorem step_cell (r' c' : Nat) :
    cell (step cfg s r c).1 r' c' = if r' = r ∧ c' = c then (adjMines s r c : Int) else cell s r' c' := by
  obtain ⟨hr', hc'⟩ := in_board s nr nc hs hr hc
  rw [step_state cfg s nr nc hs hms r c hr hc]
  exact Grid.get_set s.board 0 r c _ r' c' hr' hc'

theorem step_isMine :
    isMine (step cfg s r c).1 = isMine s := by
  funext r' c'
  unfold isMine
  rw [(step_dims cfg s nr nc hs hms r c hr hc).2, step_mines]

theorem step_adjMines :
    adjMines (step cfg s r c).1 = adjMines s := by
  obtain ⟨e1, e2⟩ := step_dims cfg s nr nc hs hms r c hr hc
  funext r' c'
  unfold adjMines isMineZ
  rw [step_isMine cfg s nr nc hs hms r c hr hc, e1, e2]

theorem step_explored (hl : cell s r c = -1) :
    explored (step cfg s r c).1.board = explored s.board + 1 := by
  rw [step_state cfg s nr nc hs hms r c hr hc]
  exact explored_reveal s nr nc hs r c hr hc hl

theorem step_reward :
    (step cfg s r c).2.reward = [rewardSpec cfg s r c] := by
  have hv := isValid_iff_legal s nr nc hs r c hr hc
  have e : (step cfg s r c).2.reward = [reward cfg s r c] := by unfold step; exact condLast_reward ..
  rw [e]
  unfold reward rewardSpec
  rw [exploredMine_eq s hms r c (by rw [nrows_eq s nr nc hs]; exact hr) (by rw [ncols_eq s nr nc hs (by omega)]; exact hc)]
  by_cases hl : legal s r c
  · rw [if_pos hl, if_pos (hv.2 hl)]
  · rw [if_neg hl, if_neg (fun h => hl (hv.1 h))]

theorem step_last_iff :
    (step cfg s r c).2.stepType = .last ↔ doneSpec s r c := by
  obtain ⟨e1, e2⟩ := step_dims cfg s nr nc hs hms r c hr hc
  have hval : isValid s r c = false ↔ ¬ legal s r c := by
    rw [← isValid_iff_legal s nr nc hs r c hr hc, Bool.not_eq_true]
  have hsol : isSolved (step cfg s r c).1 = true ↔
      ((explored (reveal s r c) : Nat) : Int) = ((nrows s * ncols s : Nat) : Int) - (s.mines.length : Int) := by
    rw [isSolved_iff, e1, e2, step_state cfg s nr nc hs hms r c hr hc]
  rw [step_last_iff_L1,
    exploredMine_eq s hms r c (by rw [nrows_eq s nr nc hs]; exact hr) (by rw [ncols_eq s nr nc hs (by omega)]; exact hc)]
  simp only [Bool.or_eq_true, Bool.not_eq_true', or_assoc]
  rw [hval, hsol]
  rfl

theorem step_last_of_safe (hl : legal s r c) (hm : isMine s r c = false) :
    (step cfg s r c).2.stepType = .last ↔ isSolved (step cfg s r c).1 = true := by
  rw [step_last_iff_L1, (isValid_iff_legal s nr nc hs r c hr hc).2 hl, exploredMine_eq s hms r c hl.1 hl.2.1, hm]
  rfl

theorem of_not_last (hn : (step cfg s r c).2.stepType ≠ .last) :
    legal s r c ∧ isMine s r c = false ∧
    ((explored (reveal s r c) : Nat) : Int) ≠ ((nrows s * ncols s : Nat) : Int) - (s.mines.length : Int) := by
  have hn : ¬ doneSpec s r c := fun h => hn ((step_last_iff cfg s nr nc hs hms r c hr hc).2 h)
  unfold doneSpec at hn
  exact ⟨Decidable.not_not.1 fun h => hn (Or.inl h), Bool.eq_false_iff.2 fun h => hn (Or.inr (Or.inl h)),
    fun h => hn (Or.inr (Or.inr h))⟩

/-- C05: selecting an explored square ends the episode with the invalid-action reward and no mine moves; nothing is
revealed either, on a board whose explored squares show their counts (`illegal_board`) -/
theorem illegal_step (h : ¬ legal s r c) :
    (step cfg s r c).2.stepType = .last ∧ (step cfg s r c).2.reward = [cfg.rInvalid] ∧
    (step cfg s r c).1.mines = s.mines := by
  refine ⟨(step_last_iff cfg s nr nc hs hms r c hr hc).2 (Or.inl h), ?_, step_mines cfg s r c⟩
  rw [step_reward cfg s nr nc hs hms r c hr hc, rewardSpec, if_neg h]

theorem illegal_board (hb : BoardOK s) (h : ¬ legal s r c) : (step cfg s r c).1.board = s.board := by
  obtain ⟨hr', hc'⟩ := in_board s nr nc hs hr hc
  have hrn : r < nrows s := by rw [nrows_eq s nr nc hs]; exact hr
  have hcn : c < ncols s := by rw [ncols_eq s nr nc hs (by omega)]; exact hc
  -- the square is explored, so it already shows the count that `step` writes
  have hcell : (adjMines s r c : Int) = cell s r c := by
    rcases hb r hrn c hcn with h' | h'
    · exact absurd ⟨hrn, hcn, h'⟩ h
    · exact h'.symm
  rw [step_state cfg s nr nc hs hms r c hr hc]
  show Grid.set s.board r c (adjMines s r c : Int) = s.board
  rw [hcell]
  exact set_get_self s.board 0 r c hr' hc'

omit hr hc in
/-- `m` is the part of the test that looks at the mines -/
theorem revealed_count_step (hl : legal s r c) (m : Nat → Nat → Bool) :
    ((Grid.coords (nrows s) (ncols s)).filter (fun p => decide (0 ≤ cell (step cfg s r c).1 p.1 p.2) && m p.1 p.2)).length =
    ((Grid.coords (nrows s) (ncols s)).filter (fun p => decide (0 ≤ cell s p.1 p.2) && m p.1 p.2)).length +
      (if m r c then 1 else 0) := by
  obtain ⟨hr, hc⟩ := legal_lt hs hl
  have hcell := step_cell cfg s nr nc hs hms r c hr hc
  have := Grid.filter_length_update _ (Grid.nodup_coords _ _) (r, c) (Grid.mem_coords.2 ⟨hl.1, hl.2.1⟩)
    (fun p => decide (0 ≤ cell s p.1 p.2) && m p.1 p.2)
    (fun p => decide (0 ≤ cell (step cfg s r c).1 p.1 p.2) && m p.1 p.2) (by
      rintro ⟨r', c'⟩ _ hne
      have : ¬ (r' = r ∧ c' = c) := fun h => hne (by rw [h.1, h.2])
      simp only [hcell, if_neg this])
  simpa [hcell, hl.2.2] using this

omit hr hc in
/-- C08: a legal move adds one safe revealed square (safe square) or one revealed mine (mined square);
the counters from which `objective` is computed change exactly as the reward says -/
theorem counters_step (hl : legal s r c) :
    safeRevealed (step cfg s r c).1 = safeRevealed s + (if isMine s r c then 0 else 1) ∧
    minesRevealed (step cfg s r c).1 = minesRevealed s + (if isMine s r c then 1 else 0) := by
  obtain ⟨hr, hc⟩ := legal_lt hs hl
  obtain ⟨e1, e2⟩ := step_dims cfg s nr nc hs hms r c hr hc
  unfold safeRevealed minesRevealed
  rw [e1, e2, step_isMine cfg s nr nc hs hms r c hr hc,
    revealed_count_step cfg s nr nc hs hms r c hl (fun a b => !isMine s a b),
    revealed_count_step cfg s nr nc hs hms r c hl (isMine s)]
  cases isMine s r c <;> exact ⟨rfl, rfl⟩

end InRange

/-! ### the observation (C12); progress (C11) -/

theorem observeL1_eq_observe (cfg : Cfg) (s : State) (hm : s.mines.length = cfg.numMines) :
    observeL1 cfg s = observe s := by
  unfold observeL1 observe
  rw [hm]
  congr 1

theorem obs_faithful (cfg : Cfg) (s : State) (r c : Int) (hm : s.mines.length = cfg.numMines) :
    (step cfg s r c).2.obs = observe (step cfg s r c).1 := by
  rw [step_obs]
  exact observeL1_eq_observe cfg _ hm

/-- C11: every step that does not end the episode reveals exactly one new square, and the number of
explored squares does not reach `cells − mines` -/
theorem progress (cfg : Cfg) (s : State) (nr nc : Nat) (hs : Grid.shaped s.board nr nc = true)
    (hms : ∀ m ∈ s.mines, 0 ≤ m) (r c : Nat) (hr : r < nr) (hc : c < nc)
    (hn : (step cfg s r c).2.stepType ≠ .last) :
    explored (step cfg s r c).1.board = explored s.board + 1 ∧
    ((explored (step cfg s r c).1.board : Nat) : Int) ≠ ((nr * nc : Nat) : Int) - (s.mines.length : Int) := by
  obtain ⟨hl, _, hx⟩ := of_not_last cfg s nr nc hs hms r c hr hc hn
  refine ⟨step_explored cfg s nr nc hs hms r c hr hc hl.2.2, ?_⟩
  rw [nrows_eq s nr nc hs, ncols_eq s nr nc hs (by omega)] at hx
  rw [step_state cfg s nr nc hs hms r c hr hc]
  exact hx

/-! ### the invariant `Consistent` (C07) -/

theorem Consistent.minesOK {cfg : Cfg} {s : State} (h : Consistent cfg s) : MinesOK cfg s := h.2.1
theorem Consistent.noMine {cfg : Cfg} {s : State} (h : Consistent cfg s) : NoMineExplored s := h.2.2.2.1
theorem Consistent.count {cfg : Cfg} {s : State} (h : Consistent cfg s) : s.stepCount = (explored s.board : Int) := h.2.2.2.2

theorem mines_nonneg (cfg : Cfg) (s : State) (h : MinesOK cfg s) : ∀ m ∈ s.mines, 0 ≤ m :=
  fun m hm => (h.2.2 m hm).1

theorem solved_iff (cfg : Cfg) (s : State) (hcs : Consistent cfg s) :
    isSolved s = true ↔
      ((explored s.board : Nat) : Int) = ((cfg.numRows * cfg.numCols : Nat) : Int) - (cfg.numMines : Int) := by
  rw [isSolved_iff, cells_eq s _ _ hcs.1, hcs.minesOK.1]

theorem step_consistent_of_safe (cfg : Cfg) (s : State) (hcs : Consistent cfg s) (r c : Nat)
    (hl : legal s r c) (hm : isMine s r c = false) : Consistent cfg (step cfg s r c).1 := by
  obtain ⟨hs, hmo, hb, hnm, hsc⟩ := hcs
  obtain ⟨hr, hc⟩ := legal_lt hs hl
  have hms := mines_nonneg cfg s hmo
  obtain ⟨e1, e2⟩ := step_dims cfg s _ _ hs hms r c hr hc
  have hcell := step_cell cfg s _ _ hs hms r c hr hc
  refine ⟨step_shaped cfg s _ _ hs hms r c hr hc, by unfold MinesOK; rw [step_mines]; exact hmo, ?_, ?_, ?_⟩
  · intro r' hr' c' hc'
    rw [hcell, step_adjMines cfg s _ _ hs hms r c hr hc]
    by_cases h : r' = r ∧ c' = c
    · rw [if_pos h, h.1, h.2]; exact Or.inr rfl
    · rw [if_neg h]; exact hb r' (e1 ▸ hr') c' (e2 ▸ hc')
  · intro r' hr' c' hc'
    rw [hcell, step_isMine cfg s _ _ hs hms r c hr hc]
    by_cases h : r' = r ∧ c' = c
    · rw [h.1, h.2]; exact Or.inr hm
    · rw [if_neg h]; exact hnm r' (e1 ▸ hr') c' (e2 ▸ hc')
  · rw [step_stepCount, step_explored cfg s _ _ hs hms r c hr hc hl.2.2, hsc]
    omega

/-- C07: whatever in-spec action is played, if the episode continues the successor is again a
physically possible configuration -/
theorem step_consistent (cfg : Cfg) (s : State) (hcs : Consistent cfg s) (r c : Nat)
    (hr : r < cfg.numRows) (hc : c < cfg.numCols)
    (hn : (step cfg s r c).2.stepType ≠ .last) : Consistent cfg (step cfg s r c).1 := by
  obtain ⟨hl, hm, _⟩ := of_not_last cfg s _ _ hcs.1 (mines_nonneg cfg s hcs.minesOK) r c hr hc hn
  exact step_consistent_of_safe cfg s hcs r c hl hm

/-- C07 (conserved quantity): a step never changes the mine table -/
theorem conserved (cfg : Cfg) (s : State) (r c : Int) : Conserved s (step cfg s r c).1 := step_mines cfg s r c

theorem instance_cells (cfg : Cfg) (s : State) (h : InstanceOK cfg s) :
    ∀ r, r < nrows s → ∀ c, c < ncols s → cell s r c = -1 := by
  obtain ⟨hs, hall, _, _⟩ := h
  intro r hr c hc
  rw [nrows_eq s _ _ hs] at hr
  rw [ncols_eq s _ _ hs (by omega)] at hc
  simpa [cell] using Grid.all_get hs hall 0 hr hc

/-- C07/C10: a fresh instance is consistent -/
theorem reset_consistent (cfg : Cfg) (s : State) (h : InstanceOK cfg s) : Consistent cfg s := by
  have hcell := instance_cells cfg s h
  obtain ⟨hs, hall, h0, hm⟩ := h
  refine ⟨hs, hm, fun r hr c hc => Or.inl (hcell r hr c hc), fun r hr c hc => Or.inl (hcell r hr c hc), ?_⟩
  rw [h0]
  have : explored s.board = 0 := by
    unfold explored Grid.count
    rw [← List.countP_eq_length_filter, List.countP_eq_zero]
    intro a ha
    obtain ⟨row, hrow, harow⟩ := List.mem_flatten.1 ha
    rw [beq_iff_eq.1 (Grid.all_eq_true.1 hall row hrow a harow)]
    decide
  rw [this]; rfl

end Minesweeper
