/-
Minesweeper — C01 spec membership, and the statements about `step` itself.

* `observation_spec` / `action_spec` written as `Sp` values (`obsSpec cfg`, `actionSpec cfg`; they are the generated declaration at
  the catalogue configurations: `minesweeper_obsSpec_generated`, Props/SpecTable.lean), the model observation as spec-level arrays (`toNValue`)
  and membership of what `step` emits (C01; the `reset` case is proved at `Props.C01.minesweeper_reset_obs_valid` from `obs_valid`);
* the environment's own reaction to an action, stated about `step` (C04);
* the reset observation (C12);
* the action spec and its generated value.
-/
import JumanjiModel.Env.Minesweeper.BoundsLemmas
import JumanjiModel.Env.SpecMembership
namespace Minesweeper
open Jm Jx Sp PzS PzS3 PzB

def cells (cfg : Cfg) : Nat := cfg.numRows * cfg.numCols

/-- env.py `observation_spec`: `board` BoundedArray((R, C), int32, −1, 8), `action_mask` BoundedArray((R, C), bool),
`num_mines` BoundedArray((), int32, 0, R·C − 1), `step_count` BoundedArray((), int32, 0, R·C − num_mines) -/
def obsSpec (cfg : Cfg) : Sp.Nested :=
  [("board", .bounded [cfg.numRows, cfg.numCols] .int32 "board" [] [((-1 : Int) : Rat)] [] [((8 : Int) : Rat)]),
   ("action_mask", .bounded [cfg.numRows, cfg.numCols] .bool "action_mask" [] [0] [] [1]),
   ("num_mines", .bounded [] .int32 "num_mines" [] [((0 : Int) : Rat)] [] [((((cells cfg : Nat) : Int) - 1 : Int) : Rat)]),
   ("step_count", .bounded [] .int32 "step_count" [] [((0 : Int) : Rat)] []
      [((((cells cfg : Nat) : Int) - (cfg.numMines : Int) : Int) : Rat)])]

/-- `action_spec`: MultiDiscreteArray([R, C], int32) -/
def actionSpec (cfg : Cfg) : Leaf := .multiDiscrete [2] [cfg.numRows, cfg.numCols] .int32 "action"

/-- a model observation as the arrays the implementation emits -/
def toNValue (o : Obs) : NValue :=
  [("board", ⟨gridShape o.board, .int32, ofInts (List.flatten o.board)⟩),
   ("action_mask", ⟨gridShape o.mask, .bool, ofBools (List.flatten o.mask)⟩),
   ("num_mines", ⟨[], .int32, [(o.numMines : Rat)]⟩),
   ("step_count", ⟨[], .int32, [(o.stepCount : Rat)]⟩)]

def actionArr (r c : Int) : Arr := ⟨[2], .int32, [(r : Rat), (c : Rat)]⟩

theorem obs_valid_iff (cfg : Cfg) (o : Obs) : (obsSpec cfg).valid (toNValue o) = true ↔
    (gridShape o.board = [cfg.numRows, cfg.numCols] ∧ (List.flatten o.board).length = cfg.numRows * cfg.numCols ∧
      ∀ v ∈ List.flatten o.board, -1 ≤ v ∧ v ≤ 8) ∧
    (gridShape o.mask = [cfg.numRows, cfg.numCols] ∧ (List.flatten o.mask).length = cfg.numRows * cfg.numCols) ∧
    (0 ≤ o.numMines ∧ o.numMines ≤ ((cells cfg : Nat) : Int) - 1) ∧
    (0 ≤ o.stepCount ∧ o.stepCount ≤ ((cells cfg : Nat) : Int) - (cfg.numMines : Int)) := by
  simp only [obsSpec, toNValue, valid_cons, valid_nil, valid_scalar_bounded_iff, forall_ofInts, forall_ofBools,
    PkS.ofInts_length, PkS.ofBools_length, prod_nil, prod_two, List.forall_mem_singleton, List.length_singleton,
    Rat.intCast_le_intCast, true_and, and_true]

/-- C01: shapes `(R, C)` and what `obs_in_bounds` asks for — cells in [−1, 8], `num_mines` the configured constant (in
[0, R·C − 1] as the constructor refuses more), `step_count` in [0, R·C − num_mines] — ⇒ member -/
theorem obs_valid (cfg : Cfg) (o : Obs) (hM : cfg.numMines < cells cfg)
    (hb : Grid.shaped o.board cfg.numRows cfg.numCols = true) (hmk : Grid.shaped o.mask cfg.numRows cfg.numCols = true)
    (hv : GridAll (fun v => -1 ≤ v ∧ v ≤ 8) o.board) (hn : o.numMines = (cfg.numMines : Int))
    (hs : 0 ≤ o.stepCount ∧ o.stepCount ≤ ((cfg.numRows * cfg.numCols : Nat) : Int) - (cfg.numMines : Int)) :
    (obsSpec cfg).valid (toNValue o) = true := by
  have hR : 0 < cfg.numRows := Nat.pos_of_ne_zero fun h0 => by rw [cells, h0, Nat.zero_mul] at hM; omega
  have ⟨hl, hrows⟩ := PkS.rect2_of_shaped hb
  have ⟨hl', hrows'⟩ := PkS.rect2_of_shaped hmk
  have ⟨hsh, hlen⟩ := gridShape_of_rows o.board _ _ hl hrows (by omega)
  refine (obs_valid_iff cfg o).2 ⟨⟨hsh, hlen, forall_mem_flatten hv⟩, gridShape_of_rows o.mask _ _ hl' hrows' (by omega), ?_, hs⟩
  rw [hn]
  omega

/-- … and `validate` accepts nothing else -/
theorem obs_valid_only (cfg : Cfg) (o : Obs) (h : (obsSpec cfg).valid (toNValue o) = true) :
    gridShape o.board = [cfg.numRows, cfg.numCols] ∧ gridShape o.mask = [cfg.numRows, cfg.numCols] ∧
    (∀ v ∈ (List.flatten o.board), -1 ≤ v ∧ v ≤ 8) ∧
    (0 ≤ o.numMines ∧ o.numMines ≤ ((cells cfg : Nat) : Int) - 1) ∧
    (0 ≤ o.stepCount ∧ o.stepCount ≤ ((cells cfg : Nat) : Int) - (cfg.numMines : Int)) :=
  have ⟨h1, h2, h3⟩ := (obs_valid_iff cfg o).1 h
  ⟨h1.1, h2.1, h1.2.2, h3⟩

/-! ### C01: step emits members of the declared specs -/

theorem step_obs_valid (cfg : Cfg) (s : State) (hcs : Consistent cfg s) (r c : Nat)
    (hr : r < cfg.numRows) (hc : c < cfg.numCols) (hns : isSolved s = false) (hM : cfg.numMines < cells cfg) :
    (obsSpec cfg).valid (toNValue (step cfg s r c).2.obs) = true := by
  have hb := step_shaped cfg s _ _ hcs.1 (mines_nonneg cfg s hcs.minesOK) r c hr hc
  have f := step_facts cfg s hcs r c hr hc hns
  rw [step_obs]
  exact obs_valid cfg _ hM hb (Grid.shaped_map_of _ hb) f.1 rfl f.2

theorem step_protocol (cfg : Cfg) (s : State) (r c : Int) : StepOK none false (step cfg s r c).2 = true :=
  condLast_stepOK _ _ _

theorem step_reward_discount_valid (cfg : Cfg) (s : State) (r c : Int) :
    PzS.rewardSpec.valid (scalarArr (step cfg s r c).2.reward) = true ∧
    discountSpec.valid (scalarArr (step cfg s r c).2.discount) = true :=
  stepOK_reward_discount_valid false _ (step_protocol cfg s r c)

/-- C04, about `step` itself: from a consistent state, for every square of the board, the rules allow exploring it iff
`step` revealed one more square; and `step` treated the action as invalid (LAST with nothing new revealed — how the harness
reads the reaction off a transition) iff the rules forbid it -/
theorem step_reaction (cfg : Cfg) (s : State) (hcs : Consistent cfg s) (r c : Nat) (hr : r < cfg.numRows)
    (hc : c < cfg.numCols) :
    (legal s r c ↔ explored (step cfg s r c).1.board = explored s.board + 1) ∧
    (¬ legal s r c ↔ ((step cfg s r c).2.stepType = .last ∧ explored (step cfg s r c).1.board = explored s.board)) := by
  obtain ⟨hs, hmo, hb, hnm, hsc⟩ := hcs
  have hms := mines_nonneg cfg s hmo
  have h := Jx.reacted (fun hl : legal s r c => step_explored cfg s _ _ hs hms r c hr hc hl.2.2)
    (fun hl => congrArg explored (illegal_board cfg s _ _ hs hms r c hr hc hb hl)) (by omega)
  exact ⟨h.1.symm, fun hl => ⟨(illegal_step cfg s _ _ hs hms r c hr hc hl).1, h.2.1.2 hl⟩, fun hh => h.2.1.1 hh.2⟩

/-! ### C12: the reset observation -/

theorem reset_obs_faithful (cfg : Cfg) (s : State) (hm : s.mines.length = cfg.numMines) :
    (resetTimeStep cfg s).obs = observe s := observeL1_eq_observe cfg s hm

/-! ### C01: the action spec and `generate_value` -/

/-- `hbig`: the largest row / column index fits the int32 dtype, which the well-formedness of the spec asks for -/
theorem accepts_generate_value (cfg : Cfg) (hR : 0 < cfg.numRows) (hC : 0 < cfg.numCols)
    (hbig : cfg.numRows ≤ 2147483648 ∧ cfg.numCols ≤ 2147483648) (s : State) :
    (actionSpec cfg).WF = true ∧ (actionSpec cfg).valid (actionSpec cfg).generate = true ∧
    (actionSpec cfg).generate = actionArr 0 0 ∧ StepOK none false (step cfg s 0 0).2 = true :=
  have hw : (actionSpec cfg).WF = true := WF_multiDiscrete _ _ _ _ rfl rfl (List.forall_mem_cons.2
    ⟨⟨hR, fits_int32_pred hbig.1⟩, List.forall_mem_cons.2 ⟨⟨hC, fits_int32_pred hbig.2⟩, fun _ h => nomatch h⟩⟩)
  ⟨hw, Leaf.generate_valid _ hw, rfl, step_protocol cfg s 0 0⟩

theorem take_mem {α : Type} (as : List α) (k : Nat) : ∀ a ∈ as.take k, a ∈ as := fun _ h => List.mem_of_mem_take h

end Minesweeper
