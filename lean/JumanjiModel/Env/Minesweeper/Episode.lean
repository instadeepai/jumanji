/-
Minesweeper, whole episodes (C08) and the transliterated generator (C10).

`play cfg s as` runs the L1 `step` along the action list `as` and stops at the first LAST time step, as an
episode of the real environment does.  Along ANY sequence of in-spec actions (squares of the board) from ANY consistent state
  return + rEmpty · safeRevealed(start) = rEmpty · safeRevealed(final) + terminal term,
where the terminal term is `rMine` when the episode ended by revealing a mine, `rInvalid` when it ended by an
invalid action (an already revealed square) and 0 otherwise (board cleared, or the action list ran out).
-/
import JumanjiModel.Env.Minesweeper.Lemmas
namespace Minesweeper
open Jm Jx

theorem safeRevealed_congr (s s' : State) (hb : s'.board = s.board) (hm : s'.mines = s.mines) :
    safeRevealed s' = safeRevealed s := by
  unfold safeRevealed nrows ncols cell isMine ncols; rw [hb, hm]

theorem minesRevealed_congr (s s' : State) (hb : s'.board = s.board) (hm : s'.mines = s.mines) :
    minesRevealed s' = minesRevealed s := by
  unfold minesRevealed nrows ncols cell isMine ncols; rw [hb, hm]

theorem minesRevealed_zero (cfg : Cfg) (s : State) (hcs : Consistent cfg s) : minesRevealed s = 0 := by
  unfold minesRevealed
  rw [List.length_eq_zero_iff, List.filter_eq_nil_iff]
  rintro ⟨r, c⟩ hp
  obtain ⟨hr, hc⟩ := Grid.mem_coords.1 hp
  rcases hcs.noMine r hr c hc with h | h <;> simp [h]

/-- the first action of a play from a consistent state.  Three cases — the play ends without a safe square revealed
(an explored square or a mine, told apart by the ending `e`), the last safe square, any other safe square — each with
what `play` returns and what the step did to the state -/
theorem play_cons (cfg : Cfg) (s : State) (hcs : Consistent cfg s) (a : Nat × Nat) (hr : a.1 < cfg.numRows)
    (hc : a.2 < cfg.numCols) (as : List (Nat × Nat)) :
    let s' := (step cfg s a.1 a.2).1
    (∃ e, (e = .invalid ∨ e = .mine) ∧ play cfg s (a :: as) = ⟨s', terminalTerm cfg e, e⟩ ∧
      safeRevealed s' = safeRevealed s ∧ minesRevealed s' = if e = .mine then 1 else 0) ∨
    (Consistent cfg s' ∧ safeRevealed s' = safeRevealed s + 1 ∧ explored s'.board = explored s.board + 1 ∧
      ((isSolved s' = true ∧ play cfg s (a :: as) = ⟨s', cfg.rEmpty, .cleared⟩) ∨
       (isSolved s' = false ∧ play cfg s (a :: as) =
          ⟨(play cfg s' as).final, cfg.rEmpty + (play cfg s' as).ret, (play cfg s' as).ending⟩))) := by
  obtain ⟨hs, hmo, hb, hnm, hsc⟩ := id hcs
  have hms := mines_nonneg cfg s hmo
  have hrew : (step cfg s a.1 a.2).2.reward.sum = rewardSpec cfg s a.1 a.2 := by
    rw [step_reward cfg s _ _ hs hms a.1 a.2 hr hc, List.sum_singleton]
  have hlast := step_last_iff cfg s _ _ hs hms a.1 a.2 hr hc
  have h0 := minesRevealed_zero cfg s hcs
  unfold rewardSpec at hrew
  by_cases hl : legal s a.1 a.2
  · obtain ⟨e5, e6⟩ := counters_step cfg s _ _ hs hms a.1 a.2 hl
    rw [if_pos hl] at hrew
    cases hm : isMine s a.1 a.2
    · rw [hm] at e5 hrew
      have hiff := step_last_of_safe cfg s _ _ hs hms a.1 a.2 hr hc hl hm
      refine Or.inr ⟨step_consistent_of_safe cfg s hcs a.1 a.2 hl hm, e5,
        step_explored cfg s _ _ hs hms a.1 a.2 hr hc hl.2.2, ?_⟩
      by_cases hlst : (step cfg s a.1 a.2).2.stepType = .last
      · exact Or.inl ⟨hiff.1 hlst, by simp only [play, if_pos hlst, hrew, if_pos hl, hm]; rfl⟩
      · exact Or.inr ⟨Bool.eq_false_iff.2 fun h => hlst (hiff.2 h), by simp only [play, if_neg hlst, hrew]; rfl⟩
    · rw [hm] at e5 e6 hrew
      have hlst := hlast.2 (Or.inr (Or.inl hm))
      exact Or.inl ⟨.mine, Or.inr rfl, by simp only [play, if_pos hlst, hrew, if_pos hl, hm]; rfl, e5, by rw [e6, h0]; rfl⟩
  · rw [if_neg hl] at hrew
    have hlst := hlast.2 (Or.inl hl)
    have e4 := illegal_board cfg s _ _ hs hms a.1 a.2 hr hc hb hl
    exact Or.inl ⟨.invalid, Or.inl rfl, by simp only [play, if_pos hlst, hrew, if_neg hl]; rfl,
      safeRevealed_congr _ _ e4 (step_mines ..), by rw [minesRevealed_congr _ _ e4 (step_mines ..), h0]; rfl⟩

/-- C08, whole play from ANY consistent state along ANY in-spec action list (the play stops at the first LAST
step): return + rEmpty · (safe squares revealed at the start) = rEmpty · (safe squares revealed at the end) +
terminal term -/
theorem play_return (cfg : Cfg) (s : State) (hcs : Consistent cfg s) (as : List (Nat × Nat))
    (hin : ∀ a ∈ as, a.1 < cfg.numRows ∧ a.2 < cfg.numCols) :
    (play cfg s as).ret + cfg.rEmpty * (safeRevealed s : Rat) =
      cfg.rEmpty * (safeRevealed (play cfg s as).final : Rat) + terminalTerm cfg (play cfg s as).ending := by
  induction as generalizing s with
  | nil => simp [play, terminalTerm, Rat.add_zero, Rat.zero_add]
  | cons a as ih =>
    obtain ⟨⟨hr, hc⟩, hin⟩ := List.forall_mem_cons.1 hin
    rcases play_cons cfg s hcs a hr hc as with ⟨_, _, hp, e, _⟩ | ⟨hcs', e, _, ⟨_, hp⟩ | ⟨_, hp⟩⟩
    · rw [hp]
      simp only []
      rw [e]
      exact Rat.add_comm _ _
    · rw [hp]
      simp only [terminalTerm]
      rw [e, Rat.natCast_add]
      generalize ((safeRevealed s : Nat) : Rat) = x
      -- linear in `x` after distributing
      grind
    · have := ih _ hcs' hin
      rw [e, Rat.natCast_add] at this
      rw [hp]
      simp only []
      generalize ((safeRevealed s : Nat) : Rat) = x at *
      generalize (play cfg (step cfg s a.1 a.2).1 as).ret = y at *
      generalize ((safeRevealed (play cfg (step cfg s a.1 a.2).1 as).final : Nat) : Rat) = z at *
      generalize terminalTerm cfg (play cfg (step cfg s a.1 a.2).1 as).ending = w at *
      -- `this` and the goal are linear in `x`, `y`, `z`, `w` after distributing
      grind

theorem play_ending (cfg : Cfg) (s : State) (hcs : Consistent cfg s) (as : List (Nat × Nat))
    (hin : ∀ a ∈ as, a.1 < cfg.numRows ∧ a.2 < cfg.numCols) :
    ((play cfg s as).ending = .cleared →
      isSolved (play cfg s as).final = true ∧ Consistent cfg (play cfg s as).final) ∧
    minesRevealed (play cfg s as).final = (if (play cfg s as).ending = .mine then 1 else 0) := by
  induction as generalizing s with
  | nil =>
    simp only [play]
    exact ⟨fun h => (by cases h), minesRevealed_zero cfg s hcs⟩
  | cons a as ih =>
    obtain ⟨⟨hr, hc⟩, hin⟩ := List.forall_mem_cons.1 hin
    rcases play_cons cfg s hcs a hr hc as with ⟨_, he, hp, _, e⟩ | ⟨hcs', _, _, ⟨hsol, hp⟩ | ⟨_, hp⟩⟩
    · rw [hp]; exact ⟨fun h => (by rcases he with rfl | rfl <;> cases h), e⟩
    · rw [hp]; exact ⟨fun _ => ⟨hsol, hcs'⟩, minesRevealed_zero cfg _ hcs'⟩
    · rw [hp]
      simp only []
      exact ih _ hcs' hin

/-- the last conjunct is guarded by `as ≠ []` because the start state may already be solved -/
theorem play_running (cfg : Cfg) (s : State) (hcs : Consistent cfg s) (as : List (Nat × Nat))
    (hin : ∀ a ∈ as, a.1 < cfg.numRows ∧ a.2 < cfg.numCols) (hrun : (play cfg s as).ending = .running) :
    Consistent cfg (play cfg s as).final ∧ explored (play cfg s as).final.board = explored s.board + as.length ∧
    safeRevealed (play cfg s as).final = safeRevealed s + as.length ∧
    (as ≠ [] → isSolved (play cfg s as).final = false) := by
  induction as generalizing s with
  | nil =>
    simp only [play]
    exact ⟨hcs, rfl, rfl, fun h => absurd rfl h⟩
  | cons a as ih =>
    obtain ⟨⟨hr, hc⟩, hin⟩ := List.forall_mem_cons.1 hin
    rcases play_cons cfg s hcs a hr hc as with ⟨_, he, hp, _⟩ | ⟨hcs', e1, e2, ⟨_, hp⟩ | ⟨hns, hp⟩⟩
    · rw [hp] at hrun; rcases he with rfl | rfl <;> cases hrun
    · rw [hp] at hrun; cases hrun
    · rw [hp] at hrun ⊢
      simp only [] at hrun ⊢
      obtain ⟨i1, i2, i3, i4⟩ := ih _ hcs' hin hrun
      refine ⟨i1, by rw [i2, e2, List.length_cons]; omega, by rw [i3, e1, List.length_cons]; omega, fun _ => ?_⟩
      cases as with
      | nil => simp only [play]; exact hns
      | cons b bs => exact i4 (List.cons_ne_nil _ _)

theorem safeRevealed_zero (cfg : Cfg) (s : State) (h : InstanceOK cfg s) : safeRevealed s = 0 := by
  unfold safeRevealed
  rw [List.length_eq_zero_iff, List.filter_eq_nil_iff]
  rintro ⟨r, c⟩ hp
  obtain ⟨hr, hc⟩ := Grid.mem_coords.1 hp
  simp [instance_cells cfg s h r hr c hc]

/-- C08, whole episode from a generated instance: return = rEmpty · (safe squares revealed) + terminal term
= the documented objective recomputed from the final state (+ the invalid-action reward if it ended so) -/
theorem episode_return (cfg : Cfg) (s : State) (h : InstanceOK cfg s) (as : List (Nat × Nat))
    (hin : ∀ a ∈ as, a.1 < cfg.numRows ∧ a.2 < cfg.numCols) :
    (play cfg s as).ret =
      cfg.rEmpty * (safeRevealed (play cfg s as).final : Rat) + terminalTerm cfg (play cfg s as).ending ∧
    (play cfg s as).ret = objective cfg (play cfg s as).final +
      (if (play cfg s as).ending = .invalid then cfg.rInvalid else 0) := by
  have hcs := reset_consistent cfg s h
  have h1 := play_return cfg s hcs as hin
  rw [safeRevealed_zero cfg s h] at h1
  have h1' : (play cfg s as).ret =
      cfg.rEmpty * (safeRevealed (play cfg s as).final : Rat) + terminalTerm cfg (play cfg s as).ending := by
    rw [← h1]; simp [Rat.mul_zero, Rat.add_zero]
  refine ⟨h1', ?_⟩
  rw [h1']
  unfold objective
  rw [(play_ending cfg s hcs as hin).2]
  cases (play cfg s as).ending <;>
    simp [terminalTerm, Rat.mul_zero, Rat.add_zero, Rat.mul_one]

theorem mk_all (nr nc : Nat) (v : Int) : Grid.all (fun x => x == v) (Grid.mk nr nc v) = true := by
  unfold Grid.all Grid.mk
  simp only [List.all_eq_true]
  intro r hr x hx
  rw [(List.mem_replicate.1 hr).2] at hx
  rw [(List.mem_replicate.1 hx).2]; simp

/-- C10: for EVERY valid draw (`num_mines` distinct flat indices on the board) the generated state is a fresh
instance: board `rows × cols` entirely unexplored, step count 0, mines exactly as drawn -/
theorem generate_instanceOK (cfg : Cfg) (d : List Nat) (hd : validDraw cfg d) : InstanceOK cfg (generate cfg d) := by
  obtain ⟨h1, h2, h3⟩ := hd
  refine ⟨Grid.shaped_mk _ _ _, mk_all _ _ _, rfl, ?_, ?_, ?_⟩
  · show (d.map Int.ofNat).length = _
    rw [List.length_map]; exact h1
  · show (d.map Int.ofNat).Nodup
    exact nodup_map_of_inj_on _ _ h2 (fun x _ y _ e => Int.ofNat.inj e)
  · intro m hm
    obtain ⟨k, hk, rfl⟩ := List.mem_map.1 hm
    have := h3 k hk
    constructor
    · exact Int.natCast_nonneg k
    · show (k : Int) < _
      omega

theorem explored_generate (cfg : Cfg) (d : List Nat) (hd : validDraw cfg d) : explored (generate cfg d).board = 0 := by
  have h := (reset_consistent cfg _ (generate_instanceOK cfg d hd)).count
  have : (generate cfg d).stepCount = 0 := rfl
  omega

/-- C10, the converse: every fresh instance is the generator's output for a valid draw, namely the one read off its mine
table, so `InstanceOK` characterises the range of `generate` exactly -/
theorem instanceOK_is_generated (cfg : Cfg) (s : State) (h : InstanceOK cfg s) :
    validDraw cfg (drawOf s) ∧ generate cfg (drawOf s) = s := by
  obtain ⟨hs, hall, h0, hl, hnd, hb⟩ := h
  have hmap : (s.mines.map Int.toNat).map Int.ofNat = s.mines := by
    rw [List.map_map]
    exact (List.map_congr_left fun m hm => Int.toNat_of_nonneg (hb m hm).1).trans (List.map_id _)
  have hboard : s.board = Grid.mk cfg.numRows cfg.numCols (-1) := by
    simp only [Grid.shaped, Grid.all, Bool.and_eq_true, beq_iff_eq, List.all_eq_true] at hs hall
    exact List.eq_replicate_iff.2 ⟨hs.1, fun row hrow =>
      List.eq_replicate_iff.2 ⟨hs.2 row hrow, fun x hx => hall row hrow x hx⟩⟩
  refine ⟨⟨by rw [drawOf, List.length_map]; exact hl, ?_, fun m hm => ?_⟩, ?_⟩
  · refine nodup_map_of_inj_on _ _ hnd fun x hx y hy e => ?_
    have := (hb x hx).1; have := (hb y hy).1
    omega
  · obtain ⟨k, hk, rfl⟩ := List.mem_map.1 hm
    have := hb k hk
    omega
  · cases s
    simp only at hboard h0 hmap
    simp only [generate, drawOf, hboard, h0, hmap]

end Minesweeper
