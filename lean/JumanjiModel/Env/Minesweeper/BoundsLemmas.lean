/- Minesweeper — C01: what the observation bounds ask of the states `reset` and `step` produce (`observe_facts`, `step_facts`;
   the bounds themselves are `Props.C01.minesweeper_reset_obs_in_bounds` / `…_step_obs_in_bounds`).  The bound of `step_count`
   is a counting argument: explored squares are not mines (while the episode runs), the mines are `num_mines` distinct squares
   of the board, hence explored + num_mines ≤ rows * cols. -/
import JumanjiModel.Env.Minesweeper.Bounds
import JumanjiModel.Env.Minesweeper.Lemmas
namespace Minesweeper
open Jm Jx PzB

theorem flatten_eq_coords_map {α : Type} (g : Grid α) (d : α) (R C : Nat) (h : Grid.shaped g R C = true) :
    List.flatten g = (Grid.coords R C).map (fun q => Grid.get g d q.1 q.2) :=
  (congrArg List.flatten (Grid.eq_table h d)).trans (Grid.flatten_table R C (Grid.get g d))

/-- the square of a mine location -/
def mineSquare (C : Nat) (m : Int) : Nat × Nat := (m.toNat / C, m.toNat % C)

theorem mineSquare_flat (C : Nat) (m : Int) (hm : 0 ≤ m) :
    (((mineSquare C m).1 * C + (mineSquare C m).2 : Nat) : Int) = m := by
  unfold mineSquare
  rw [Nat.mul_comm, Nat.div_add_mod, Int.toNat_of_nonneg hm]

theorem explored_add_mines_le (cfg : Cfg) (s : State)
    (hs : Grid.shaped s.board cfg.numRows cfg.numCols = true) (hmo : MinesOK cfg s) (hnm : NoMineExplored s) :
    explored s.board + cfg.numMines ≤ cfg.numRows * cfg.numCols := by
  obtain ⟨hlen, hnd, hrange⟩ := hmo
  let expl : Nat × Nat → Bool := fun q => decide (0 ≤ cell s q.1 q.2)
  have hexp : explored s.board = (Grid.coords cfg.numRows cfg.numCols).countP expl := by
    unfold explored Grid.count
    rw [flatten_eq_coords_map s.board 0 _ _ hs, ← List.countP_eq_length_filter, List.countP_map]
    rfl
  -- every mine lies on an unexplored square of the board …
  have hsub : ∀ q ∈ s.mines.map (mineSquare cfg.numCols), q ∈ (Grid.coords cfg.numRows cfg.numCols).filter (fun q => !expl q) := by
    intro q hq
    obtain ⟨m, hm, rfl⟩ := List.mem_map.1 hq
    obtain ⟨hm0, hm1⟩ := hrange m hm
    have hlt : m.toNat < cfg.numRows * cfg.numCols := by omega
    have hC : 0 < cfg.numCols := Nat.pos_of_ne_zero fun h => by rw [h] at hlt; omega
    have hR : 0 < cfg.numRows := Nat.pos_of_ne_zero fun h => by rw [h, Nat.zero_mul] at hlt; omega
    have hr : m.toNat / cfg.numCols < cfg.numRows := (Nat.div_lt_iff_lt_mul hC).mpr hlt
    have hc : m.toNat % cfg.numCols < cfg.numCols := Nat.mod_lt _ hC
    have h1 := nrows_eq s _ _ hs
    have h2 := ncols_eq s _ _ hs hR
    have hmine : isMine s (mineSquare cfg.numCols m).1 (mineSquare cfg.numCols m).2 = true := by
      unfold isMine
      rw [h2, mineSquare_flat _ m hm0]
      simpa using hm
    refine List.mem_filter.2 ⟨Grid.mem_coords.2 ⟨hr, hc⟩, ?_⟩
    rcases hnm (mineSquare cfg.numCols m).1 (by rw [h1]; exact hr) (mineSquare cfg.numCols m).2 (by rw [h2]; exact hc)
      with h | h
    · simp [expl, h]
    · rw [hmine] at h; cases h
  -- … and different mines on different squares
  have hnd' : (s.mines.map (mineSquare cfg.numCols)).Nodup :=
    nodup_map_of_inj_on _ _ hnd fun a ha b hb e => by
      rw [← mineSquare_flat cfg.numCols a (hrange a ha).1, e, mineSquare_flat cfg.numCols b (hrange b hb).1]
  have hle := List.Nodup.length_le_of_subset hnd' hsub
  have hsplit := List.length_eq_countP_add_countP expl (l := Grid.coords cfg.numRows cfg.numCols)
  rw [List.length_map, hlen, ← List.countP_eq_length_filter] at hle
  rw [Grid.length_coords] at hsplit
  have : (Grid.coords cfg.numRows cfg.numCols).countP (fun a => ¬ expl a = true) =
      (Grid.coords cfg.numRows cfg.numCols).countP (fun q => !expl q) := by
    congr 1; funext q; simp
  omega

theorem adjMines_le (s : State) (r c : Nat) : adjMines s r c ≤ 8 := by
  unfold adjMines
  exact Nat.le_trans (List.length_filter_le _ _) (by decide)

theorem board_in_range (s : State) (R C : Nat) (hs : Grid.shaped s.board R C = true) (hb : BoardOK s) :
    GridAll (fun v => -1 ≤ v ∧ v ≤ 8) s.board :=
  (Grid.forall_mem_iff_get hs 0 _).2 fun r hr c hc => by
    have := hb r (by rw [nrows_eq s R C hs]; exact hr) c (by rw [ncols_eq s R C hs (by omega)]; exact hc)
    have hle := adjMines_le s r c
    show -1 ≤ cell s r c ∧ cell s r c ≤ 8
    omega

/-- what `obs_in_bounds` asks of a consistent state; in particular the declared interval of `step_count` is not empty -/
theorem observe_facts (cfg : Cfg) (s : State) (hcs : Consistent cfg s) :
    GridAll (fun v => -1 ≤ v ∧ v ≤ 8) s.board ∧
    (0 ≤ s.stepCount ∧ s.stepCount ≤ ((cfg.numRows * cfg.numCols : Nat) : Int) - (cfg.numMines : Int)) := by
  obtain ⟨hs, hmo, hb, hnm, hsc⟩ := hcs
  have hcount := explored_add_mines_le cfg s hs hmo hnm
  exact ⟨board_in_range s _ _ hs hb, by rw [hsc]; omega⟩

/-- the same after every step from a consistent, not yet solved state — legal or not, hitting a mine or not, terminal or not -/
theorem step_facts (cfg : Cfg) (s : State) (hcs : Consistent cfg s) (r c : Nat)
    (hr : r < cfg.numRows) (hc : c < cfg.numCols) (hns : isSolved s = false) :
    GridAll (fun v => -1 ≤ v ∧ v ≤ 8) (step cfg s r c).1.board ∧
    (0 ≤ (step cfg s r c).1.stepCount ∧
      (step cfg s r c).1.stepCount ≤ ((cfg.numRows * cfg.numCols : Nat) : Int) - (cfg.numMines : Int)) := by
  have hne := mt (solved_iff cfg s hcs).2 (by rw [hns]; exact Bool.false_ne_true)
  obtain ⟨hs, hmo, hb, hnm, hsc⟩ := hcs
  have hcount := explored_add_mines_le cfg s hs hmo hnm
  refine ⟨?_, by rw [step_stepCount, hsc]; omega⟩
  rw [step_board]
  apply Grid.forall_mem_setWD _ _ (board_in_range s _ _ hs hb)
  rw [count_eq s (mines_nonneg cfg s hmo) r c (by rw [nrows_eq s _ _ hs]; exact hr)
    (by rw [ncols_eq s _ _ hs (by omega)]; exact hc)]
  have := adjMines_le s r c
  omega

end Minesweeper
