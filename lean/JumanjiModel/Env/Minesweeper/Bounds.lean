/-
Minesweeper — C01: value bounds of the observation leaves: the table, the leaves of an observation, and the
criterion `obs_in_bounds` through which BoundsLemmas.lean proves membership; also the timestep of `reset`, `resetTimeStep`.

Real spec: `board` BoundedArray(int32, -1, 8), `action_mask` bool, `num_mines` BoundedArray(int32, 0, rows*cols-1),
`step_count` BoundedArray(int32, 0, rows*cols - num_mines).  The table below gives `num_mines` the tighter interval of the
constructor's constant; membership in the declared interval is `obs_valid` (SpecLemmas.lean), under `numMines < cells`.
-/
import JumanjiModel.Env.Minesweeper.Model
import JumanjiModel.Env.PuzzleBounds
namespace Minesweeper
open Jm Jx PzB

/-- interval of every observation leaf, as a function of the configuration; `num_mines` is the constructor's constant -/
def obsBounds (cfg : Cfg) : Table :=
  [("board", iv (-1) 8), ("action_mask", iv 0 1), ("num_mines", iv (cfg.numMines : Int) (cfg.numMines : Int)),
   ("step_count", iv 0 (((cfg.numRows * cfg.numCols : Nat) : Int) - (cfg.numMines : Int)))]

/-- the numeric leaves of an observation, flattened -/
def obsLeaves (o : Obs) : Leaves :=
  [("board", ints2 o.board), ("action_mask", bools2 o.mask), ("num_mines", [o.numMines]), ("step_count", [o.stepCount])]

/-- the timestep of `reset` for a generated state: `restart` of its observation -/
def resetTimeStep (cfg : Cfg) (s : State) : TimeStep Obs := restart (observeL1 cfg s)

theorem obs_in_bounds (cfg : Cfg) (o : Obs) (hb : GridAll (fun v => -1 ≤ v ∧ v ≤ 8) o.board)
    (hm : o.numMines = (cfg.numMines : Int))
    (hs : 0 ≤ o.stepCount ∧ o.stepCount ≤ ((cfg.numRows * cfg.numCols : Nat) : Int) - (cfg.numMines : Int)) :
    ObsInBounds (obsBounds cfg) (obsLeaves o) :=
  obsInBounds_of_aligned rfl (by simp [obsLeaves]) <|
    Jx.all_cons (allIn_ints2 _ _ _ hb) <| Jx.all_cons (allIn_bools2 _) <|
    Jx.all_cons (allIn_single _ _ _ (by omega)) <| Jx.all_cons (allIn_single _ _ _ hs) Jx.all_nil

end Minesweeper
