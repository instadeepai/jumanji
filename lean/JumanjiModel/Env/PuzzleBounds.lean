/-
C01 (value bounds of observations) — the vocabulary `PzB` of the `Bounds.lean` files of FlatPack, Game2048, GraphColoring,
Minesweeper, RubiksCube, SlidingTilePuzzle, Sudoku and Tetris; `Jm.OB` (Core/ObsBoundsCO.lean) is its
counterpart with rational leaf values.

* a *bounds table* `List (String × Option Rat × Option Rat)`: leaf path of the real `observation_spec` ↦
  interval `[lo, hi]` (`none` = unbounded on that side);
* the *leaves* of a model observation: leaf path ↦ the flattened integer values of that leaf
  (booleans as 0/1; the leaves spoken of here are integer or boolean arrays);
* `ObsInBounds tbl leaves`: every leaf named by the table exists in the observation and every one of its
  values lies in the table's interval;
* `GridAll P g`, `P` of every cell; that it survives the JAX scatter and gather is in Prim/GridLemmas.lean (`Jx.Grid.forall_mem_*`, `*_of_all`);
* `Jx.Iv`: the interval with optional rational ends which the other `Bounds.lean` files spell out under their own `inIv`.
-/
import JumanjiModel.Core.TimeStepLemmas
import JumanjiModel.Prim.GridLemmas
/-! Cleaner, Maze, PacMan, Snake and Sokoban (`inIv iv v`) and Connector, LBF, MMST and RobotWarehouse (`inIv lo hi v`) each
define the same interval membership; all nine unfold to `Jx.Iv.In`, so these lemmas prove their instances as they stand. -/
namespace Jx.Iv

abbrev In (iv : Option Rat × Option Rat) (v : Rat) : Prop := (∀ l, iv.1 = some l → l ≤ v) ∧ (∀ h, iv.2 = some h → v ≤ h)

theorem int {lo hi x : Int} (h1 : lo ≤ x) (h2 : x ≤ hi) : In (some (lo : Rat), some (hi : Rat)) (x : Rat) :=
  ⟨fun _ hl => Option.some.inj hl ▸ Rat.intCast_le_intCast.mpr h1,
   fun _ hh => Option.some.inj hh ▸ Rat.intCast_le_intCast.mpr h2⟩

theorem one {lo hi x : Int} (h1 : lo ≤ x) (h2 : x ≤ hi) : ∀ v ∈ [(x : Rat)], In (some (lo : Rat), some (hi : Rat)) v :=
  List.forall_mem_singleton.2 (int h1 h2)

theorem atLeast {lo x : Int} (h : lo ≤ x) : In (some (lo : Rat), none) (x : Rat) :=
  ⟨fun _ hl => Option.some.inj hl ▸ Rat.intCast_le_intCast.mpr h, fun _ hh => nomatch hh⟩

theorem ints {lo hi : Int} (xs : List Int) (h : ∀ x ∈ xs, lo ≤ x ∧ x ≤ hi) :
    ∀ v ∈ xs.map (fun (v : Int) => (v : Rat)), In (some (lo : Rat), some (hi : Rat)) v :=
  List.forall_mem_map.2 fun x hx => int (h x hx).1 (h x hx).2

theorem bools (bs : List Bool) :
    ∀ v ∈ bs.map (fun b => if b then (1 : Rat) else 0), In (some ((0 : Int) : Rat), some ((1 : Int) : Rat)) v :=
  List.forall_mem_map.2 fun b _ => by cases b <;> exact int (x := _) (by decide) (by decide)

end Jx.Iv

namespace PzB

abbrev Interval := Option Rat × Option Rat
abbrev Table := List (String × Option Rat × Option Rat)
abbrev Leaves := List (String × List Int)

/-- `v ∈ [lo, hi]` -/
def Interval.has (b : Interval) (v : Int) : Prop :=
  (∀ l, b.1 = some l → l ≤ (v : Rat)) ∧ (∀ h, b.2 = some h → (v : Rat) ≤ h)

/-- the closed integer interval `[lo, hi]` -/
def iv (lo hi : Int) : Interval := (some (lo : Rat), some (hi : Rat))
/-- `[lo, ∞)` -/
def ivLo (lo : Int) : Interval := (some (lo : Rat), none)

theorem has_iv {lo hi v : Int} : (iv lo hi).has v ↔ lo ≤ v ∧ v ≤ hi := by
  simp [Interval.has, iv, Rat.intCast_le_intCast]

theorem has_ivLo {lo v : Int} : (ivLo lo).has v ↔ lo ≤ v := by
  simp [Interval.has, ivLo, Rat.intCast_le_intCast]

/-- all values of a leaf lie in the interval -/
def AllIn (b : Interval) (vs : List Int) : Prop := ∀ v ∈ vs, b.has v

/-- every leaf the table names exists, and all its values lie in the table's interval -/
def ObsInBounds (tbl : Table) (leaves : Leaves) : Prop :=
  (∀ k ∈ tbl.map (·.1), k ∈ leaves.map (·.1)) ∧
  ∀ k b, (k, b) ∈ tbl → ∀ vs, (k, vs) ∈ leaves → AllIn b vs

theorem obsInBounds_of_aligned {tbl : Table} {leaves : Leaves} (hk : tbl.map (·.1) = leaves.map (·.1))
    (hn : (leaves.map (·.1)).Nodup) (h : ∀ p ∈ tbl.zip leaves, AllIn p.1.2 p.2.2) : ObsInBounds tbl leaves :=
  ⟨fun _ hk' => hk ▸ hk', Jx.rel_of_aligned hk hn h⟩

def ofBool (b : Bool) : Int := if b then 1 else 0
def bools (l : List Bool) : List Int := l.map ofBool
def bools2 (g : List (List Bool)) : List Int := bools g.flatten
def bools3 (g : List (List (List Bool))) : List Int := bools2 g.flatten
def bools4 (g : List (List (List (List Bool)))) : List Int := bools3 g.flatten
def nats (l : List Nat) : List Int := l.map (fun (n : Nat) => (n : Int))
def nats2 (g : List (List Nat)) : List Int := nats g.flatten
def nats3 (g : List (List (List Nat))) : List Int := nats2 g.flatten
def ints2 (g : List (List Int)) : List Int := g.flatten
def ints3 (g : List (List (List Int))) : List Int := g.flatten.flatten

theorem allIn_bools (l : List Bool) : AllIn (iv 0 1) (bools l) := by
  intro v hv
  simp only [bools, List.mem_map] at hv
  obtain ⟨b, _, rfl⟩ := hv
  rw [has_iv]; cases b <;> simp [ofBool]

theorem allIn_bools2 (g : List (List Bool)) : AllIn (iv 0 1) (bools2 g) := allIn_bools _
theorem allIn_bools3 (g : List (List (List Bool))) : AllIn (iv 0 1) (bools3 g) := allIn_bools _
theorem allIn_bools4 (g : List (List (List (List Bool)))) : AllIn (iv 0 1) (bools4 g) := allIn_bools _

theorem allIn_nats_lo (l : List Nat) : AllIn (ivLo 0) (nats l) := by
  intro v hv
  simp only [nats, List.mem_map] at hv
  obtain ⟨n, _, rfl⟩ := hv
  rw [has_ivLo]; omega

theorem allIn_nats (l : List Nat) (hi : Nat) (h : ∀ n ∈ l, n ≤ hi) : AllIn (iv 0 (hi : Int)) (nats l) := by
  intro v hv
  simp only [nats, List.mem_map] at hv
  obtain ⟨n, hn, rfl⟩ := hv
  rw [has_iv]; have := h n hn; omega

theorem allIn_nats2 (g : List (List Nat)) (hi : Nat) (h : ∀ r ∈ g, ∀ n ∈ r, n ≤ hi) :
    AllIn (iv 0 (hi : Int)) (nats2 g) := allIn_nats _ _ (Jx.forall_mem_flatten h)

theorem allIn_ints (l : List Int) (lo hi : Int) (h : ∀ v ∈ l, lo ≤ v ∧ v ≤ hi) : AllIn (iv lo hi) l := by
  intro v hv; rw [has_iv]; exact h v hv

theorem allIn_ints2 (g : List (List Int)) (lo hi : Int) (h : ∀ r ∈ g, ∀ v ∈ r, lo ≤ v ∧ v ≤ hi) :
    AllIn (iv lo hi) (ints2 g) := allIn_ints _ _ _ (Jx.forall_mem_flatten h)

theorem allIn_single (v lo hi : Int) (h : lo ≤ v ∧ v ≤ hi) : AllIn (iv lo hi) [v] := by
  intro w hw; simp at hw; subst hw; rw [has_iv]; exact h

/-- `P` holds for every cell -/
def GridAll {α : Type} (P : α → Prop) (g : List (List α)) : Prop := ∀ r ∈ g, ∀ v ∈ r, P v

theorem gridAll_gridSet {α : Type} {P : α → Prop} {g : List (List α)} (r c : Nat) {v : α}
    (h : GridAll P g) (hv : P v) : GridAll P (Jx.Grid.set g r c v) := Jx.Grid.forall_mem_set r c h hv

@[simp] theorem restart_obs {O : Type} (o : O) (sh : Jm.RShape) : (Jm.restart o sh).obs = o := rfl

end PzB
