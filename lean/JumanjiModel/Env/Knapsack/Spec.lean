/-
Knapsack: the declared `observation_spec` / `action_spec` as `Sp` values and MEMBERSHIP (structure, shapes, dtypes, bounds)
of the observation of every state of the invariant `SpecInv n`, with the converse (C01); the statement of C04 about `step`
itself (legal ↔ `step` packed the item); the horizon (C11): every in-spec step that does not end the episode packs one
more item.
-/
import JumanjiModel.Env.Knapsack.Lemmas
import JumanjiModel.Env.Knapsack.Bounds
import JumanjiModel.Env.Knapsack.Episode
import JumanjiModel.Env.SpecMembership
import JumanjiModel.Env.HorizonEpisode
namespace Knapsack
open Jm Sp PzS

/-- env.py `observation_spec` (`n` = `num_items`), four `BoundedArray((num_items,), …, 0, 1)`: `weights`, `values` float; `packed_items`, `action_mask` bool -/
def obsSpec (n : Nat) : Sp.Nested :=
  [("weights", .bounded [n] .float32 "weights" [] [0] [] [1]),
   ("values", .bounded [n] .float32 "values" [] [0] [] [1]),
   ("packed_items", .bounded [n] .bool "packed_items" [] [0] [] [1]),
   ("action_mask", .bounded [n] .bool "action_mask" [] [0] [] [1])]

/-- env.py `action_spec`: `DiscreteArray(num_items)` -/
def actionSpec (n : Nat) : Leaf := .discrete n .int32 "action"

/-- a model observation as the arrays the implementation emits; every shape is READ OFF the value -/
def toNValue (o : Obs) : NValue :=
  [("weights", ⟨[o.weights.length], .float32, o.weights⟩),
   ("values", ⟨[o.values.length], .float32, o.values⟩),
   ("packed_items", ⟨[o.packed.length], .bool, ofBools o.packed⟩),
   ("action_mask", ⟨[o.mask.length], .bool, ofBools o.mask⟩)]

theorem obs_valid_iff (n : Nat) (o : Obs) : (obsSpec n).valid (toNValue o) = true ↔
    o.weights.length = n ∧ o.values.length = n ∧ o.packed.length = n ∧ o.mask.length = n ∧
    (∀ x ∈ o.weights, 0 ≤ x ∧ x ≤ 1) ∧ (∀ x ∈ o.values, 0 ≤ x ∧ x ≤ 1) := by
  simp only [obsSpec, toNValue, valid_cons, valid_nil, valid_scalar_bounded_iff, forall_ofBools, PkS.ofBools_length, prod_one,
    List.cons.injEq, true_and, and_true, and_self, and_self_left]
  exact ⟨fun ⟨⟨a, b⟩, ⟨c, d⟩, e, f⟩ => ⟨a, c, e, f, b, d⟩, fun ⟨a, c, e, f, b, d⟩ => ⟨⟨a, b⟩, ⟨c, d⟩, e, f⟩⟩

/-- … and `validate` accepts nothing else (so membership is not hollow) -/
theorem obs_valid_only (n : Nat) (o : Obs) (h : (obsSpec n).valid (toNValue o) = true) :
    o.weights.length = n ∧ o.values.length = n ∧ o.packed.length = n ∧ o.mask.length = n ∧
    (∀ x ∈ o.weights, 0 ≤ x ∧ x ≤ 1) ∧ (∀ x ∈ o.values, 0 ≤ x ∧ x ≤ 1) := (obs_valid_iff n o).1 h

/-- the invariant behind membership: `n` weights, values and flags; problem data in the unit interval -/
def SpecInv (n : Nat) (s : State) : Prop := s.weights.length = n ∧ WellShaped s ∧ UnitItems s

instance (n : Nat) (s : State) : Decidable (SpecInv n s) := by unfold SpecInv; infer_instance

theorem maskOf_length (s : State) (h : s.packed.length = s.weights.length) : (maskOf s).length = s.weights.length := by
  unfold maskOf; simp [h]

theorem observe_valid (n : Nat) (s : State) (h : SpecInv n s) : (obsSpec n).valid (toNValue (observe s)) = true := by
  obtain ⟨hn, ⟨hp, hv⟩, hu⟩ := h
  exact (obs_valid_iff n _).2 ⟨hn, by simpa [observe, hn] using hv, by simpa [observe, hn] using hp,
    by simp only [observe]; rw [maskOf_length s hp, hn], hu.1, hu.2⟩

theorem reset_specInv (n : Nat) (budget : Rat) (w v : List Rat) (h : validDraw n w v) :
    SpecInv n (reset budget w v).1 := by
  refine ⟨h.1, ⟨by simp [reset], by simp [reset, h.1, h.2.1]⟩, reset_unitItems n budget w v h⟩

theorem step_specInv (n : Nat) (rnd : Rat → Rat) (dense : Bool) (s : State) (a : Int) (h : SpecInv n s) :
    SpecInv n (step rnd dense s a).1 := by
  obtain ⟨hn, hs, hu⟩ := h
  exact ⟨by rw [(step_weights rnd dense s a).1]; exact hn, step_wellShaped rnd dense s a hs,
    step_unitItems rnd dense s a hu⟩

theorem step_mid_or_last (rnd : Rat → Rat) (dense : Bool) (s : State) (a : Int) :
    (step rnd dense s a).2.stepType = .mid ∨ (step rnd dense s a).2.stepType = .last := by
  unfold step; exact condLast_mid_or_last ..

/-- ANY action values, stepping on after LAST included -/
theorem specInv_along (n : Nat) (rnd : Rat → Rat) (dense : Bool) (s : State) (as : List Int) (h : SpecInv n s) :
    SpecInv n ((Ep.ofStep (step rnd dense) (fun _ => 0)).run s as) :=
  Ep.Sys.run_inv (ok := fun _ => True) _ (fun s a hi _ => step_specInv n rnd dense s a hi) s h as (fun _ _ => trivial)

theorem set_true_ne (l : List Bool) (a : Nat) (ha : a < l.length) (h : l.getD a true = false) : l.set a true ≠ l := by
  intro he
  have : (l.set a true).getD a true = true := Jx.getD_set_self true true ha
  rw [he, h] at this; cases this

/-- C04 about `step` itself: the packed set changes iff the action was legal -/
theorem step_agrees_step (rnd : Rat → Rat) (dense : Bool) (s : State) (a : Nat) (hs : WellShaped s)
    (ha : a < s.weights.length) :
    (legal s a → (step rnd dense s a).1 = packL2 rnd s a) ∧
    (¬ legal s a → (step rnd dense s a).1 = s ∧ (step rnd dense s a).2.stepType = .last ∧
       (step rnd dense s a).2.reward = [0]) ∧
    (legal s a ↔ (step rnd dense s a).1.packed ≠ s.packed) := by
  have hp : a < s.packed.length := by have := hs.1; omega
  have h1 := step_legal_fst rnd dense s a hs
  have h2 := illegal_step rnd dense s a hs.1 ha
  refine ⟨h1, h2, ?_⟩
  constructor
  · intro hl
    rw [h1 hl]
    exact set_true_ne s.packed a hp hl.2.2.1
  · intro hne
    by_cases hl : legal s a
    · exact hl
    · exact absurd (by rw [(h2 hl).1]) hne

/-- the values `DiscreteArray(num_items)` admits -/
def inSpec (n : Nat) (a : Int) : Prop := 0 ≤ a ∧ a < n

/-- shape invariant of the horizon argument -/
def ShapeInv (n : Nat) (s : State) : Prop := s.packed.length = n ∧ s.weights.length = n

theorem step_nonlast_progress (n : Nat) (rnd : Rat → Rat) (dense : Bool) (s : State) (a : Int) (hs : ShapeInv n s)
    (ha : inSpec n a) (hnl : (step rnd dense s a).2.stepType ≠ .last) :
    Jx.countTrue (step rnd dense s a).1.packed = Jx.countTrue s.packed + 1 ∧
    Jx.countTrue (step rnd dense s a).1.packed < n := by
  obtain ⟨hp, hw⟩ := hs
  obtain ⟨a', rfl⟩ : ∃ a' : Nat, a = (a' : Int) := ⟨a.toNat, by have := ha.1; omega⟩
  have ha' : a' < s.weights.length := by have := ha.2; omega
  have hl : s.packed.length = s.weights.length := by omega
  refine ⟨progress rnd dense s a' hl ha' hnl, ?_⟩
  -- not LAST: some item is still legal in the successor, which is therefore not packed
  obtain ⟨i, hleg⟩ : ∃ i, legal (step rnd dense s a').1 i :=
    Classical.not_forall_not.1 fun hno => hnl ((last_iff_of_length rnd dense s a' hl ha').2 (Or.inr hno))
  have := Jx.countTrue_lt hleg.1 hleg.2.2.1
  rw [step_packed_length] at this
  omega

theorem step_shapeInv (n : Nat) (rnd : Rat → Rat) (dense : Bool) (s : State) (a : Int) (hs : ShapeInv n s) :
    ShapeInv n (step rnd dense s a).1 :=
  ⟨by rw [step_packed_length]; exact hs.1, by rw [(step_weights rnd dense s a).1]; exact hs.2⟩

/-- the horizon potential; `Ep.Bounded.rollout_ends` bounds an episode by `pot + 1` steps, hence the `- 1` -/
def pot (n : Nat) (s : State) : Nat := n - 1 - Jx.countTrue s.packed

/-- C11: every in-spec step that is not LAST packs one more item, so an episode lasts at most `pot + 1` steps: `num_items`
from an empty bag when `0 < num_items` (`Props.C11`), one step when `num_items = 0` -/
theorem bounded (n : Nat) (rnd : Rat → Rat) (dense : Bool) :
    Ep.Bounded (Ep.ofStep (step rnd dense) (fun s => (Jx.countTrue s.packed : Int))) (ShapeInv n) (inSpec n) (pot n) :=
  Ep.Bounded.of_step (fun s a hi _ => step_shapeInv n rnd dense s a hi) (fun s a hi ha hnl => by
    have := step_nonlast_progress n rnd dense s a hi ha hnl
    unfold pot; omega)

end Knapsack
