/-
Knapsack: shape preservation, when an episode ends (`last_iff`, C09), whole-episode return theorems (C08), feasibility along
mask-respecting play and maximality at completion (C06), generator certificate (C10).

Episodes are lists of actions played from a state until the first LAST timestep (`returnOf`, `endState`,
`statesAlong`).
-/
import JumanjiModel.Env.Knapsack.Lemmas
import JumanjiModel.Env.Knapsack.Bounds
namespace Knapsack
open Jm

theorem step_packed_length (rnd : Rat → Rat) (dense : Bool) (s : State) (a : Int) :
    (step rnd dense s a).1.packed.length = s.packed.length := by
  simp only [step, update]; split <;> simp [Jx.setWD_length]

theorem step_wellShaped (rnd : Rat → Rat) (dense : Bool) (s : State) (a : Int) (h : WellShaped s) :
    WellShaped (step rnd dense s a).1 := by
  unfold WellShaped
  rw [step_packed_length, (step_weights rnd dense s a).1, (step_weights rnd dense s a).2]
  exact h

theorem step_state_dense_irrel (rnd : Rat → Rat) (d1 d2 : Bool) (s : State) (a : Int) :
    (step rnd d1 s a).1 = (step rnd d2 s a).1 := by
  simp only [step]

theorem step_type_dense_irrel (rnd : Rat → Rat) (d1 d2 : Bool) (s : State) (a : Int) :
    (step rnd d1 s a).2.stepType = (step rnd d2 s a).2.stepType := by
  simp only [step, condLast_stepType]

/-- when the episode ends depends on one flag per item only; `values` play no part -/
theorem last_iff_of_length (rnd : Rat → Rat) (dense : Bool) (s : State) (a : Nat)
    (hl : s.packed.length = s.weights.length) (ha : a < s.weights.length) :
    (step rnd dense s a).2.stepType = .last ↔
      (¬ legal s a ∨ ∀ i, ¬ legal (step rnd dense s a).1 i) := by
  have hl' : (step rnd dense s a).1.packed.length = (step rnd dense s a).1.weights.length := by
    rw [step_packed_length, (step_weights rnd dense s a).1]; exact hl
  rw [step_last_iff, mask_any_eq_anyLegal _ hl', ← Bool.not_eq_true, ← Bool.not_eq_true, anyLegal_iff,
    isValid_iff_legal s a hl ha, not_exists, Or.comm]

theorem last_iff (rnd : Rat → Rat) (dense : Bool) (s : State) (a : Nat) (hs : WellShaped s)
    (ha : a < s.weights.length) :
    (step rnd dense s a).2.stepType = .last ↔
      (¬ legal s a ∨ ∀ i, ¬ legal (step rnd dense s a).1 i) := last_iff_of_length rnd dense s a hs.1 ha

/-- sum of the rewards of the episode `as` played from `s` (up to and including the first LAST) -/
def returnOf (rnd : Rat → Rat) (dense : Bool) : State → List Nat → Rat
  | _, [] => 0
  | s, a :: as =>
    (step rnd dense s a).2.reward.sum +
      (if (step rnd dense s a).2.stepType = .last then 0
       else returnOf rnd dense (step rnd dense s a).1 as)

/-- the state in which that episode ends -/
def endState (rnd : Rat → Rat) (dense : Bool) : State → List Nat → State
  | s, [] => s
  | s, a :: as =>
    if (step rnd dense s a).2.stepType = .last then (step rnd dense s a).1
    else endState rnd dense (step rnd dense s a).1 as

/-- every state the episode visits (the start state first) -/
def statesAlong (rnd : Rat → Rat) (dense : Bool) : State → List Nat → List State
  | s, [] => [s]
  | s, a :: as =>
    s :: (if (step rnd dense s a).2.stepType = .last then [(step rnd dense s a).1]
          else statesAlong rnd dense (step rnd dense s a).1 as)

/-- every action is legal (mask-allowed) where it is played; the episode need not be finished -/
def LegalPlay (rnd : Rat → Rat) (dense : Bool) : State → List Nat → Prop
  | _, [] => True
  | s, a :: as =>
    legal s a ∧
      (if (step rnd dense s a).2.stepType = .last then True
       else LegalPlay rnd dense (step rnd dense s a).1 as)

/-- a complete episode of legal actions: LAST exactly at the last action -/
def LegalEpisode (rnd : Rat → Rat) (dense : Bool) : State → List Nat → Prop
  | _, [] => False
  | s, a :: as =>
    legal s a ∧
      (if (step rnd dense s a).2.stepType = .last then as = []
       else LegalEpisode rnd dense (step rnd dense s a).1 as)

/-- legal actions, none of which ends the episode, followed by one in-range ILLEGAL action -/
def InvalidEnded (rnd : Rat → Rat) (dense : Bool) : State → List Nat → Prop
  | _, [] => False
  | s, a :: as =>
    a < s.weights.length ∧
      (if legal s a then (step rnd dense s a).2.stepType ≠ .last ∧
          InvalidEnded rnd dense (step rnd dense s a).1 as
       else as = [])

instance decLegalPlay (rnd : Rat → Rat) (dense : Bool) :
    (s : State) → (as : List Nat) → Decidable (LegalPlay rnd dense s as)
  | _, [] => isTrue trivial
  | s, a :: as =>
    have := decLegalPlay rnd dense (step rnd dense s a).1 as
    inferInstanceAs (Decidable (legal s a ∧
      (if (step rnd dense s a).2.stepType = .last then True
       else LegalPlay rnd dense (step rnd dense s a).1 as)))

instance decLegalEpisode (rnd : Rat → Rat) (dense : Bool) :
    (s : State) → (as : List Nat) → Decidable (LegalEpisode rnd dense s as)
  | _, [] => isFalse (fun h => h)
  | s, a :: as =>
    have := decLegalEpisode rnd dense (step rnd dense s a).1 as
    inferInstanceAs (Decidable (legal s a ∧
      (if (step rnd dense s a).2.stepType = .last then as = []
       else LegalEpisode rnd dense (step rnd dense s a).1 as)))

instance decInvalidEnded (rnd : Rat → Rat) (dense : Bool) :
    (s : State) → (as : List Nat) → Decidable (InvalidEnded rnd dense s as)
  | _, [] => isFalse (fun h => h)
  | s, a :: as =>
    have := decInvalidEnded rnd dense (step rnd dense s a).1 as
    inferInstanceAs (Decidable (a < s.weights.length ∧
      (if legal s a then (step rnd dense s a).2.stepType ≠ .last ∧
          InvalidEnded rnd dense (step rnd dense s a).1 as
       else as = [])))

theorem LegalEpisode.legalPlay {rnd : Rat → Rat} {dense : Bool} {s : State} {as : List Nat}
    (h : LegalEpisode rnd dense s as) : LegalPlay rnd dense s as := by
  fun_induction LegalEpisode rnd dense s as with
  | case1 => exact h.elim
  | case2 s a as ih =>
    refine ⟨h.1, ?_⟩
    split
    · trivial
    · next hne => exact ih ((if_neg hne).mp h.2)

theorem episode_dense_irrel (rnd : Rat → Rat) (d1 d2 : Bool) (s : State) (as : List Nat) :
    endState rnd d1 s as = endState rnd d2 s as ∧ (LegalEpisode rnd d1 s as ↔ LegalEpisode rnd d2 s as) ∧
    (InvalidEnded rnd d1 s as ↔ InvalidEnded rnd d2 s as) := by
  induction as generalizing s with
  | nil => exact ⟨rfl, Iff.rfl, Iff.rfl⟩
  | cons a as ih =>
    simp only [endState, LegalEpisode, InvalidEnded, step_type_dense_irrel rnd d1 d2 s a,
      step_state_dense_irrel rnd d1 d2 s a, ih, and_self]

theorem endState_dense_irrel (rnd : Rat → Rat) (d1 d2 : Bool) (s : State) (as : List Nat) :
    endState rnd d1 s as = endState rnd d2 s as := (episode_dense_irrel rnd d1 d2 s as).1

theorem invalidEnded_dense_irrel (rnd : Rat → Rat) (d1 d2 : Bool) :
    ∀ (s : State) (as : List Nat), InvalidEnded rnd d1 s as → InvalidEnded rnd d2 s as :=
  fun s as => (episode_dense_irrel rnd d1 d2 s as).2.2.1

/-- C08, dense reward: ANY sequence of in-range actions (legal or not, complete or not) -/
theorem dense_return_add (rnd : Rat → Rat) (s : State) (as : List Nat) (hs : WellShaped s)
    (hr : ∀ a ∈ as, a < s.weights.length) :
    packedValue (endState rnd true s as) = packedValue s + returnOf rnd true s as := by
  induction as generalizing s with
  | nil => exact (Rat.add_zero _).symm
  | cons a as ih =>
    have ht := dense_telescopes rnd s a hs (hr a (by simp))
    simp only [returnOf, endState]
    split
    · rw [ht, Rat.add_zero]
    · rw [ih _ (step_wellShaped rnd true s a hs) (fun b hb => by
        rw [(step_weights rnd true s a).1]; exact hr b (by simp [hb])), ht, Rat.add_assoc]

theorem legalEpisode_inrange (rnd : Rat → Rat) (dense : Bool) :
    ∀ (s : State) (as : List Nat), LegalEpisode rnd dense s as → ∀ a ∈ as, a < s.weights.length
  | _, [], h => h.elim
  | s, a :: as, ⟨hl, h2⟩ => by
    intro b hb
    rcases List.mem_cons.1 hb with rfl | hb
    · exact hl.2.1
    · split at h2
      · subst h2; cases hb
      · rw [← (step_weights rnd dense s a).1]; exact legalEpisode_inrange rnd dense _ as h2 b hb

theorem invalidEnded_inrange (rnd : Rat → Rat) (dense : Bool) :
    ∀ (s : State) (as : List Nat), InvalidEnded rnd dense s as → ∀ a ∈ as, a < s.weights.length
  | _, [], h => h.elim
  | s, a :: as, ⟨ha, h2⟩ => by
    intro b hb
    rcases List.mem_cons.1 hb with rfl | hb
    · exact ha
    · split at h2
      · rw [← (step_weights rnd dense s a).1]; exact invalidEnded_inrange rnd dense _ as h2.2 b hb
      · subst h2; cases hb

theorem sparse_reward_mid (rnd : Rat → Rat) (s : State) (a : Nat)
    (h : (step rnd false s a).2.stepType ≠ .last) : (step rnd false s a).2.reward.sum = 0 := by
  rw [sparse_reward]; simp [h, Rat.add_zero]

theorem sparse_reward_last_legal (rnd : Rat → Rat) (s : State) (a : Nat) (hp : s.packed.length = s.weights.length)
    (hl : legal s a) (h : (step rnd false s a).2.stepType = .last) :
    (step rnd false s a).2.reward.sum = packedValue (step rnd false s a).1 := by
  have hv := (isValid_iff_legal s a hp hl.2.1).2 hl
  rw [sparse_reward]; simp [h, hv, Rat.add_zero]

/-- C08, sparse reward: the return of a complete episode of legal actions from a shaped state is the value packed at its end -/
theorem sparse_return (rnd : Rat → Rat) :
    ∀ (s : State) (as : List Nat), WellShaped s → LegalEpisode rnd false s as →
      returnOf rnd false s as = packedValue (endState rnd false s as)
  | _, [], _, h => h.elim
  | s, a :: as, hs, ⟨hl, h2⟩ => by
    simp only [returnOf, endState]
    split at h2
    · next hlast => rw [if_pos hlast, if_pos hlast, sparse_reward_last_legal rnd s a hs.1 hl hlast, Rat.add_zero]
    · next hne =>
      rw [if_neg hne, if_neg hne, sparse_reward_mid rnd s a hne,
        sparse_return rnd _ as (step_wellShaped rnd false s a hs) h2, Rat.zero_add]

theorem endState_invalid_packed (rnd : Rat → Rat) (dense : Bool) (s : State) (a : Nat)
    (hs : WellShaped s) (ha : a < s.weights.length) (hl : ¬ legal s a) :
    endState rnd dense s [a] = s := by
  simp only [endState]
  have h := illegal_step rnd dense s a hs.1 ha hl
  rw [if_pos h.2.1, h.1]

theorem dot_replicate_false (n : Nat) : ∀ (vs : List Rat), dot (List.replicate n false) vs = 0 := by
  induction n with
  | zero => intro vs; simp [dot]
  | succ n ih =>
    intro vs
    cases vs with
    | nil => simp [dot]
    | cons v vs =>
      have := ih vs
      simp only [dot, List.replicate_succ, List.zipWith_cons_cons, List.sum_cons] at this ⊢
      rw [this]; simp [Rat.add_zero]

theorem feasible_withinBudget (b : Rat) (s : State) (h : Feasible b s) : WithinBudget b s := by
  obtain ⟨_, _, h3, h4⟩ := h
  rw [h4] at h3
  exact (Rat.le_iff_sub_nonneg _ _).2 h3

theorem invariant_along (rnd : Rat → Rat) (dense : Bool) {P : State → Prop}
    (hstep : ∀ s a, P s → legal s a → P (step rnd dense s a).1) :
    ∀ (s : State) (as : List Nat), P s → LegalPlay rnd dense s as → ∀ s' ∈ statesAlong rnd dense s as, P s'
  | s, [], hP, _ => by simp only [statesAlong, List.mem_singleton]; rintro _ rfl; exact hP
  | s, a :: as, hP, ⟨hl, h2⟩ => by
    have hP' := hstep s a hP hl
    simp only [statesAlong, List.mem_cons]
    rintro s' (rfl | hs')
    · exact hP
    · split at h2
      · next hlast => rw [if_pos hlast, List.mem_singleton] at hs'; exact hs' ▸ hP'
      · next hne => rw [if_neg hne] at hs'; exact invariant_along rnd dense hstep _ as hP' h2 s' hs'

/-- C06, in exact arithmetic (`rnd = id`) -/
theorem feasible_along (b : Rat) (dense : Bool) :
    ∀ (s : State) (as : List Nat), Feasible b s → LegalPlay id dense s as →
      ∀ s' ∈ statesAlong id dense s as, Feasible b s' :=
  invariant_along id dense (step_feasible b dense)

theorem endState_mem_statesAlong (rnd : Rat → Rat) (dense : Bool) :
    ∀ (s : State) (as : List Nat), endState rnd dense s as ∈ statesAlong rnd dense s as
  | s, [] => by simp [endState, statesAlong]
  | s, a :: as => by
    simp only [endState, statesAlong]
    split
    · simp
    · exact List.mem_cons_of_mem _ (endState_mem_statesAlong rnd dense _ as)

theorem complete_no_legal (rnd : Rat → Rat) (dense : Bool) :
    ∀ (s : State) (as : List Nat), WellShaped s → LegalEpisode rnd dense s as →
      ∀ i, ¬ legal (endState rnd dense s as) i
  | _, [], _, h => h.elim
  | s, a :: as, hs, ⟨hl, h2⟩ => by
    simp only [endState]
    split at h2
    · next hlast =>
      rw [if_pos hlast]
      exact ((last_iff rnd dense s a hs hl.2.1).1 hlast).resolve_left (not_not_intro hl)
    · next hne => rw [if_neg hne]; exact complete_no_legal rnd dense _ as (step_wellShaped rnd dense s a hs) h2

theorem maximal_of_no_legal (b : Rat) (s : State) (hf : Feasible b s) (hn : ∀ i, ¬ legal s i) :
    Maximal b s := by
  intro i hi hp
  obtain ⟨h1, _, _, h4⟩ := hf
  have := hn i
  unfold legal at this
  have hnle : ¬ s.weights.getD i 0 ≤ s.remaining := fun hle => this ⟨by omega, hi, hp, hle⟩
  rw [← h4]
  exact Rat.not_le.1 hnle

theorem inUnit_iff (xs : List Rat) : inUnit xs = true ↔ ∀ x ∈ xs, 0 ≤ x ∧ x ≤ 1 := by
  unfold inUnit; simp [List.all_eq_true]

theorem generate_instanceOK (n : Nat) (b : Rat) (w v : List Rat) (h : validDraw n w v) :
    instanceOK n b (generate n b w v) = true := by
  obtain ⟨h1, h2, h3, h4⟩ := h
  unfold instanceOK generate
  simp [h1, h2, (inUnit_iff w).2 h3, (inUnit_iff v).2 h4]

theorem instanceOK_spec (n : Nat) (b : Rat) (s : State) (h : instanceOK n b s = true) :
    s.weights.length = n ∧ s.values.length = n ∧ s.packed = List.replicate n false ∧
    s.remaining = b ∧ UnitItems s := by
  unfold instanceOK at h
  simp only [Bool.and_eq_true, decide_eq_true_eq] at h
  obtain ⟨⟨⟨⟨⟨h1, h2⟩, h3⟩, h4⟩, h5⟩, h6⟩ := h
  exact ⟨h1, h2, h3, h4, (inUnit_iff _).1 h5, (inUnit_iff _).1 h6⟩

theorem instanceOK_feasible (n : Nat) (b : Rat) (s : State) (hb : 0 ≤ b) (h : instanceOK n b s = true) :
    Feasible b s ∧ packedValue s = 0 ∧ packedWeight s = 0 := by
  obtain ⟨h1, h2, h3, h4, _⟩ := instanceOK_spec n b s h
  unfold Feasible packedValue packedWeight
  rw [h3, dot_replicate_false, dot_replicate_false, h4]
  refine ⟨⟨by simp [h1], by rw [h1, h2], hb, by rw [Rat.sub_eq_add_neg, Rat.neg_zero, Rat.add_zero]⟩, rfl, rfl⟩

theorem instanceOK_wellShaped (n : Nat) (b : Rat) (s : State) (h : instanceOK n b s = true) :
    WellShaped s := by
  obtain ⟨h1, h2, h3, _⟩ := instanceOK_spec n b s h
  exact ⟨by rw [h3]; simp [h1], by rw [h1, h2]⟩

theorem instanceOK_value0 (n : Nat) (b : Rat) (s : State) (h : instanceOK n b s = true) :
    packedValue s = 0 := by
  obtain ⟨_, _, h3, _⟩ := instanceOK_spec n b s h
  unfold packedValue; rw [h3, dot_replicate_false]

theorem dense_return (rnd : Rat → Rat) (s : State) (as : List Nat) (hs : WellShaped s) (h0 : packedValue s = 0)
    (hep : LegalEpisode rnd true s as) :
    returnOf rnd true s as = packedValue (endState rnd true s as) := by
  rw [dense_return_add rnd s as hs (legalEpisode_inrange rnd true s as hep), h0, Rat.zero_add]

theorem dense_eq_sparse (rnd : Rat → Rat) (s : State) (as : List Nat) (dense : Bool) (hs : WellShaped s)
    (h0 : packedValue s = 0) (hep : LegalEpisode rnd dense s as) :
    returnOf rnd true s as = packedValue (endState rnd dense s as) ∧
    returnOf rnd false s as = packedValue (endState rnd dense s as) := by
  constructor
  · rw [dense_return rnd s as hs h0 ((episode_dense_irrel rnd dense true s as).2.1.1 hep),
      endState_dense_irrel rnd true dense]
  · rw [sparse_return rnd s as hs
      ((episode_dense_irrel rnd dense false s as).2.1.1 hep), endState_dense_irrel rnd false dense]

theorem complete_is_solution (b : Rat) (dense : Bool) (s : State) (as : List Nat) (hf : Feasible b s)
    (hep : LegalEpisode id dense s as) :
    Feasible b (endState id dense s as) ∧ WithinBudget b (endState id dense s as) ∧
    Maximal b (endState id dense s as) ∧ ∀ i, ¬ legal (endState id dense s as) i := by
  have hfe := feasible_along b dense s as hf hep.legalPlay _ (endState_mem_statesAlong id dense s as)
  have hn := complete_no_legal id dense s as ⟨hf.1, hf.2.1⟩ hep
  exact ⟨hfe, feasible_withinBudget b _ hfe, maximal_of_no_legal b _ hfe hn, hn⟩

end Knapsack
