/-
Knapsack, single steps: the mask is the list of legal items (C04); what `step` returns, as one equation for an action that
fails the validity test (`step_invalid`, C05) and one for a legal item (`step_of_legal`, from which `step = stepL2` is read
off); feasibility and the bookkeeping budget after a legal step (C06), the dense and the sparse reward (C08), progress
(C11), the observation (C12: `observe_eq_observeL2`, `obs_faithful`).  In the names, "invalid" = fails the L1 test `isValid`,
"illegal" = not `legal` (L2); `isValid_iff_legal` identifies them on a shaped state.
-/
import JumanjiModel.Env.Knapsack.Model
import JumanjiModel.Core.TimeStepLemmas
import JumanjiModel.Prim.ListLemmas
namespace Knapsack
open Jm

theorem maskOf_eq_legal (s : State) (h : s.packed.length = s.weights.length) :
    maskOf s = (List.range s.weights.length).map (fun i => decide (legal s i)) := by
  apply List.ext_getElem
  · simp [maskOf, h]
  · intro i _ h2
    have hi : i < s.weights.length := by simpa using h2
    simp [maskOf, legal, hi, h ▸ hi, List.getD_eq_getElem?_getD]

theorem mask_iff_legal (s : State) (a : Nat) (hl : s.packed.length = s.weights.length) :
    (maskOf s).getD a false = true ↔ legal s a := by
  rw [maskOf_eq_legal s hl]
  by_cases ha : a < s.weights.length <;> simp [List.getD_eq_getElem?_getD, ha, legal]
theorem observe_eq_observeL2 (s : State) (h : s.packed.length = s.weights.length) :
    observe s = observeL2 s := by
  unfold observe observeL2; rw [maskOf_eq_legal s h]

theorem mask_any_eq_anyLegal (s : State) (h : s.packed.length = s.weights.length) :
    (maskOf s).any id = anyLegal s := by
  rw [maskOf_eq_legal s h]; unfold anyLegal; simp [List.any_map, Function.comp_def]

theorem anyLegal_iff (s : State) : anyLegal s = true ↔ ∃ i, legal s i := by
  unfold anyLegal
  simp only [List.any_eq_true, List.mem_range, decide_eq_true_eq]
  constructor
  · rintro ⟨i, _, h⟩; exact ⟨i, h⟩
  · rintro ⟨i, h⟩; exact ⟨i, h.2.1, h⟩

theorem isValid_iff_legal (s : State) (a : Nat) (hl : s.packed.length = s.weights.length)
    (ha : a < s.weights.length) : isValid s a = true ↔ legal s a := by
  have hp : a < s.packed.length := by omega
  unfold isValid legal
  rw [Jx.getWC_nat _ _ ha, Jx.getWC_nat _ _ hp]
  simp [ha, hp, List.getD_eq_getElem?_getD]
  exact And.comm

theorem isValid_of_not_legal {s : State} {a : Nat} (hl : s.packed.length = s.weights.length)
    (ha : a < s.weights.length) (h : ¬ legal s a) : isValid s a = false := by
  rw [← Bool.not_eq_true, isValid_iff_legal s a hl ha]; exact h

theorem step_invalid (rnd : Rat → Rat) (dense : Bool) (s : State) (a : Int) (hv : isValid s a = false) :
    step rnd dense s a = (s, termination [0] (observe s)) := by
  unfold step
  cases dense <;> simp [hv, condLast_true, reward]

theorem illegal_step (rnd : Rat → Rat) (dense : Bool) (s : State) (a : Nat)
    (hl : s.packed.length = s.weights.length) (ha : a < s.weights.length) (h : ¬ legal s a) :
    (step rnd dense s a).1 = s ∧ (step rnd dense s a).2.stepType = .last ∧
    (step rnd dense s a).2.reward = [0] := by
  rw [step_invalid rnd dense s a (isValid_of_not_legal hl ha h)]
  exact ⟨rfl, rfl, rfl⟩

theorem step_valid (rnd : Rat → Rat) (dense : Bool) (s : State) (a : Nat) (hv : isValid s a = true) :
    (step rnd dense s a).1 = update rnd s a := by
  unfold step; simp [hv]

theorem update_eq_packL2 (rnd : Rat → Rat) (s : State) (a : Nat) (ha : a < s.weights.length) :
    update rnd s a = packL2 rnd s a := by
  unfold update packL2; rw [Jx.setWD_natCast, Jx.getWC_nat _ _ ha]

theorem step_of_legal (rnd : Rat → Rat) (dense : Bool) (s : State) (a : Nat) (hs : WellShaped s) (hl : legal s a) :
    step rnd dense s a =
      (packL2 rnd s a, condLast (!anyLegal (packL2 rnd s a))
        [if dense then s.values.getD a 0 else if anyLegal (packL2 rnd s a) then 0 else packedValue (packL2 rnd s a)]
        (observeL2 (packL2 rnd s a))) := by
  have hvl : a < s.values.length := by have := hs.2; have := hl.2.1; omega
  have hsh : (packL2 rnd s a).packed.length = (packL2 rnd s a).weights.length := by simp [packL2, hs.1]
  have ho := observe_eq_observeL2 _ hsh
  have hm : (observeL2 (packL2 rnd s a)).mask.any id = anyLegal (packL2 rnd s a) := ho ▸ mask_any_eq_anyLegal _ hsh
  unfold step
  simp only [(isValid_iff_legal s a hs.1 hl.2.1).2 hl, if_true, update_eq_packL2 rnd s a hl.2.1, ho, hm,
    Bool.not_true, Bool.or_false, reward, Jx.getWC_nat _ _ hvl]
  cases anyLegal (packL2 rnd s a) <;> cases dense <;> rfl

theorem step_legal_fst (rnd : Rat → Rat) (dense : Bool) (s : State) (a : Nat) (hs : WellShaped s)
    (hl : legal s a) : (step rnd dense s a).1 = packL2 rnd s a := by
  rw [step_of_legal rnd dense s a hs hl]

theorem step_last_iff (rnd : Rat → Rat) (dense : Bool) (s : State) (a : Int) :
    (step rnd dense s a).2.stepType = .last ↔
      ((maskOf (step rnd dense s a).1).any id = false ∨ isValid s a = false) := by
  simp [step, condLast_last_iff, observe]

theorem obs_faithful (rnd : Rat → Rat) (dense : Bool) (s : State) (a : Int) :
    (step rnd dense s a).2.obs = observe (step rnd dense s a).1 := by
  simp only [step, condLast_obs]

theorem dot_set_true (ps : List Bool) (vs : List Rat) (a : Nat) (ha : a < ps.length) (hv : a < vs.length)
    (hp : ps.getD a true = false) : dot (ps.set a true) vs = dot ps vs + vs.getD a 0 := by
  induction ps generalizing a vs with
  | nil => simp at ha
  | cons p ps ih =>
    cases vs with
    | nil => simp at hv
    | cons v vs =>
      cases a with
      | zero =>
        simp [List.getD_eq_getElem?_getD] at hp
        subst hp
        simp [dot, List.getD_eq_getElem?_getD, Rat.add_comm, Rat.zero_add]
      | succ a =>
        simp at ha hv
        have hp' : ps.getD a true = false := by simpa [List.getD_eq_getElem?_getD] using hp
        have := ih vs a ha hv hp'
        simp [dot, List.getD_eq_getElem?_getD] at this ⊢
        rw [this, Rat.add_assoc]

theorem step_feasible (b : Rat) (dense : Bool) (s : State) (a : Nat)
    (hf : Feasible b s) (hl : legal s a) : Feasible b (step id dense s a).1 := by
  obtain ⟨h1, h2, h3, h4⟩ := hf
  obtain ⟨l1, l2, l3, l4⟩ := hl
  have hv : isValid s a = true := (isValid_iff_legal s a h1 l2).2 ⟨l1, l2, l3, l4⟩
  rw [step_valid id dense s a hv]
  unfold update Feasible packedWeight
  simp only [id]
  rw [Jx.setWD_natCast, Jx.getWC_nat _ _ l2]
  refine ⟨by simpa using h1, h2, ?_, ?_⟩
  · have : s.weights.getD a 0 ≤ s.remaining := l4
    exact (Rat.le_iff_sub_nonneg _ _).1 this
  · rw [dot_set_true s.packed s.weights a l1 l2 l3, h4]
    unfold packedWeight
    rw [Rat.sub_eq_add_neg, Rat.sub_eq_add_neg, Rat.sub_eq_add_neg, Rat.neg_add, Rat.add_assoc]

theorem dense_telescopes (rnd : Rat → Rat) (s : State) (a : Nat)
    (hf : s.packed.length = s.weights.length ∧ s.values.length = s.weights.length)
    (ha : a < s.weights.length) :
    packedValue (step rnd true s a).1 = packedValue s + (step rnd true s a).2.reward.sum := by
  by_cases hl : legal s a
  · rw [step_of_legal rnd true s a hf hl, condLast_reward]
    exact (dot_set_true s.packed s.values a hl.1 (by have := hf.2; omega) hl.2.2.1).trans (by simp [packedValue, Rat.add_zero])
  · rw [step_invalid rnd true s a (isValid_of_not_legal hf.1 ha hl)]
    exact (Rat.add_zero _).symm.trans (congrArg _ (Rat.add_zero 0).symm)

theorem sparse_reward (rnd : Rat → Rat) (s : State) (a : Nat) :
    (step rnd false s a).2.reward =
      [if (step rnd false s a).2.stepType = .last ∧ isValid s a = true
       then packedValue (step rnd false s a).1 else 0] := by
  by_cases hv : isValid s a = true <;> simp [step, reward, packedValue, condLast_last_iff, hv]

theorem progress (rnd : Rat → Rat) (dense : Bool) (s : State) (a : Nat)
    (hl : s.packed.length = s.weights.length) (ha : a < s.weights.length)
    (h : (step rnd dense s a).2.stepType ≠ .last) :
    Jx.countTrue (step rnd dense s a).1.packed = Jx.countTrue s.packed + 1 := by
  by_cases hv : isValid s a = true
  · have hleg := (isValid_iff_legal s a hl ha).1 hv
    rw [step_valid rnd dense s a hv, update_eq_packL2 rnd s a ha]
    exact Jx.countTrue_set_true hleg.1 hleg.2.2.1
  · rw [step_invalid rnd dense s a (by simpa using hv)] at h
    exact absurd rfl h

end Knapsack
