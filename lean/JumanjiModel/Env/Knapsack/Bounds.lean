/-
Knapsack: proved value bounds of the observation (property C01).

`obsBounds` = the interval in which every leaf of the model's observation provably stays (keys = the
leaf paths of `Knapsack.observation_spec`); `obsLeaves` = the observation flattened to those leaves.
`UnitItems` (weights and values in the unit interval) is the invariant: established by `reset`,
preserved by `step` (which never touches the problem data).
-/
import JumanjiModel.Env.Knapsack.Model
import JumanjiModel.Core.ObsBoundsCO
namespace Knapsack
open Jm Jm.OB

/-- proved intervals; no configuration value enters (all four declared intervals are `[0, 1]`) -/
def obsBounds : Table :=
  [("weights", some 0, some 1), ("values", some 0, some 1),
   ("packed_items", some 0, some 1), ("action_mask", some 0, some 1)]

def obsLeaves (o : Obs) : Leaves :=
  [("weights", o.weights), ("values", o.values),
   ("packed_items", o.packed.map b2r), ("action_mask", o.mask.map b2r)]

/-- `Knapsack.reset` with `RandomGenerator`: the sampled `weights`, `values` are draw parameters -/
def reset (budget : Rat) (weights values : List Rat) : State × TimeStep Obs :=
  let s : State := { weights := weights, values := values,
                     packed := List.replicate weights.length false, remaining := budget }
  (s, restart (observe s))

/-- a superset (closed at 1) of what `jax.random.uniform(sample_key, (2, num_items), minval=0, maxval=1)` can produce -/
def validDraw (n : Nat) (weights values : List Rat) : Prop :=
  weights.length = n ∧ values.length = n ∧
  (∀ w ∈ weights, 0 ≤ w ∧ w ≤ 1) ∧ (∀ v ∈ values, 0 ≤ v ∧ v ≤ 1)

instance (n : Nat) (w v : List Rat) : Decidable (validDraw n w v) := by unfold validDraw; infer_instance

/-- the invariant: problem data in the unit interval -/
def UnitItems (s : State) : Prop :=
  (∀ w ∈ s.weights, 0 ≤ w ∧ w ≤ 1) ∧ (∀ v ∈ s.values, 0 ≤ v ∧ v ≤ 1)

instance (s : State) : Decidable (UnitItems s) := by unfold UnitItems; infer_instance

theorem reset_unitItems (n : Nat) (budget : Rat) (w v : List Rat) (h : validDraw n w v) :
    UnitItems (reset budget w v).1 := ⟨h.2.2.1, h.2.2.2⟩

theorem step_weights (rnd : Rat → Rat) (dense : Bool) (s : State) (a : Int) :
    (step rnd dense s a).1.weights = s.weights ∧ (step rnd dense s a).1.values = s.values := by
  simp only [step, update]; split <;> simp

theorem step_unitItems (rnd : Rat → Rat) (dense : Bool) (s : State) (a : Int) (h : UnitItems s) :
    UnitItems (step rnd dense s a).1 := by
  unfold UnitItems; rw [(step_weights rnd dense s a).1, (step_weights rnd dense s a).2]; exact h

theorem observe_in_bounds (s : State) (h : UnitItems s) : InBounds obsBounds (obsLeaves (observe s)) := by
  refine inBounds_cons rfl ?_ <| inBounds_cons rfl ?_ <|
    inBounds_cons rfl (bools_in01 _) <| inBounds_cons rfl (bools_in01 _) <|
    inBounds_nil _
  · exact fun v hv => h.1 v hv
  · exact fun v hv => h.2 v hv

end Knapsack
