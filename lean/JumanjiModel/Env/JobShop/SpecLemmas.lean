/-
JobShop: the transliterated step (L1, `step`) equals the rule-level step (L2, `stepSpec`, Spec.lean)
on every state of legal play (`Inv`, fresh cached mask) under every legal joint action:
`Props.C09.jobshop_step_eq_spec` (proved in Props/Env/JobShop.lean from `specState_eq`).  For an in-spec action that
is not legal, both agree on the step type (LAST), the reward (the penalty) and the discount (0):
`Props.C09.jobshop_step_illegal_spec`.
-/
import JumanjiModel.Env.JobShop.Spec
import JumanjiModel.Env.JobShop.Lemmas
namespace JobShop
open Jm

theorem mem_remTimes (cfg : Cfg) (s : State) (m : Nat) (x : Int) :
    x ∈ remTimes cfg s m ↔ ∃ j, j < cfg.J ∧ ∃ k, k < cfg.O ∧ isSched s j k ∧ s.midAt j k = (m : Int) ∧
      x = endTime s j k - s.stepCount := by
  simp only [remTimes, Jx.mem_flatMap_filterMap_range, and_assoc]

theorem remSpec_eq (cfg : Cfg) (s : State) (hB : Bookkeeping cfg s) {m : Nat} (hm : m < cfg.M) :
    remSpec cfg s m = s.remAt m := by
  obtain ⟨h0, hU, hA⟩ := hB.2 m hm
  unfold remSpec
  apply Jx.foldl_max_eq _ _ _ h0
  · intro x hx
    obtain ⟨j, hj, k, hk, hs, hmid, rfl⟩ := (mem_remTimes cfg s m x).1 hx
    have := hU j hj k hk hs hmid
    omega
  · by_cases hp : 0 < s.remAt m
    · right
      obtain ⟨j, hj, k, hk, hs, hmid, _, he⟩ := hA hp
      exact (mem_remTimes cfg s m _).2 ⟨j, hj, k, hk, hs, hmid, by omega⟩
    · left; omega

theorem maskOf_eq_legalTable (cfg : Cfg) (s : State) (hI : Inv cfg s) :
    maskOf cfg s = legalTable cfg s := by
  unfold maskOf createActionMask legalTable
  simp only []
  apply List.map_congr_left; intro m hm
  have hm := List.mem_range.1 hm
  rw [List.range_succ, List.map_append]
  congr 1
  · apply List.map_congr_left; intro j hj
    have hj := List.mem_range.1 hj
    have e := createActionMask_at cfg s.mjob s.mrem s.mid s.opsMask hm (Nat.le_of_lt hj)
    rw [if_pos hj] at e
    refine e.symm.trans (Bool.eq_iff_iff.2 ?_)
    rw [decide_eq_true_iff]
    exact mask_iff_legal cfg s hI hm (Nat.le_of_lt hj)
  · simp [legal, hm]

theorem completeSpec_iff (cfg : Cfg) (s' : State) (hI : Inv cfg s') :
    completeSpec cfg s' ↔ finished cfg s' = true := (finished_iff_done cfg s' hI.shaped hI.machinesOK hI.book).symm

theorem occupies_iff_of_durations (cfg : Cfg) (s : State) (hD : DurationsOK cfg s) {m j k : Nat}
    (hj : j < cfg.J) (hk : k < cfg.O) (t : Int) :
    occupies s m j k t ↔
      (isSched s j k ∧ s.midAt j k = (m : Int) ∧ s.schedAt j k ≤ t ∧ t < endTime s j k) := by
  unfold occupies
  constructor
  · rintro ⟨h1, h2, h3, h4⟩
    refine ⟨h1, h2, h3, ?_⟩
    rcases h4 with h4 | h4
    · exact h4
    · have := (hD j hj k hk h1.1).1
      unfold endTime; omega
  · rintro ⟨h1, h2, h3, h4⟩
    exact ⟨h1, h2, h3, Or.inl h4⟩

theorem jobSpec_none (cfg : Cfg) (s : State) (m : Nat) (t : Int)
    (h : ∀ j, j < cfg.J → ¬ ∃ k, k < cfg.O ∧ occupies s m j k t) : jobSpec cfg s m t = (cfg.J : Int) := by
  unfold jobSpec
  have : (List.range cfg.J).find? (fun j => decide (∃ k, k < cfg.O ∧ occupies s m j k t)) = none := by
    rw [List.find?_eq_none]
    intro j hj hd
    exact h j (List.mem_range.1 hj) (of_decide_eq_true hd)
  rw [this]

theorem jobSpec_some (cfg : Cfg) (s : State) (m : Nat) (t : Int) {j0 : Nat} (hj0 : j0 < cfg.J)
    (h0 : ∃ k, k < cfg.O ∧ occupies s m j0 k t)
    (huniq : ∀ j, j < cfg.J → (∃ k, k < cfg.O ∧ occupies s m j k t) → j = j0) :
    jobSpec cfg s m t = (j0 : Int) := by
  unfold jobSpec
  cases hf : (List.range cfg.J).find? (fun j => decide (∃ k, k < cfg.O ∧ occupies s m j k t)) with
  | none =>
    rw [List.find?_eq_none] at hf
    exact absurd (decide_eq_true h0) (hf j0 (List.mem_range.2 hj0))
  | some j =>
    have h1 := List.find?_some hf
    have h2 := List.mem_of_find?_eq_some hf
    have := huniq j (List.mem_range.1 h2) (of_decide_eq_true h1)
    simp [this]

section spec
variable (cfg : Cfg) (s : State) (a : List Int) (hI : Inv cfg s) (hL : legalAction cfg s a)
include hI hL

theorem schedAfter_eq : schedAfter cfg s a = (next cfg s a).sched :=
  Jx.Grid.table_congr fun j hj k _ => by simp only [hit_iff cfg s a hI.shaped hI.mask hL hj]

/-- the new schedule of the rules and the successor state differ in the derived fields only; the quantities
of the rules read the instance, the start times and the clock, so they agree on the two by `rfl` -/
theorem advance_eq : advance cfg s a =
    { next cfg s a with opsMask := s.opsMask, mjob := s.mjob, mrem := s.mrem, amask := s.amask } := by
  unfold advance
  rw [schedAfter_eq cfg s a hI hL]
  rfl

theorem opsMask_spec :
    ((List.range cfg.J).map fun j => (List.range cfg.O).map fun k =>
      decide (isOp (advance cfg s a) j k ∧ ¬ isSched (advance cfg s a) j k)) = (next cfg s a).opsMask :=
  Jx.Grid.table_congr fun j hj k hk => by
    rw [← next_maskAt cfg s a hj hk]
    apply Bool.eq_iff_iff.2
    rw [decide_eq_true_iff, mask_next cfg s a hI hL j hj k hk, advance_eq cfg s a hI hL]
    exact Iff.rfl

theorem mrem_spec :
    ((List.range cfg.M).map fun m => remSpec cfg (advance cfg s a) m) = (next cfg s a).mrem := by
  have hI' := inv_next cfg s a hI hL
  rw [Jx.eq_range_map 0 hI'.shaped.mrem_len fun _ _ => rfl]
  apply List.map_congr_left; intro m hm
  rw [advance_eq cfg s a hI hL]
  exact remSpec_eq cfg _ hI'.book (List.mem_range.1 hm)

theorem occupies_next {m j k : Nat} (hj : j < cfg.J) (hk : k < cfg.O) :
    occupies (next cfg s a) m j k s.stepCount ↔
      ((Hit cfg s a j k ∧ s.midAt j k = (m : Int)) ∨
       (isSched s j k ∧ s.midAt j k = (m : Int) ∧ s.stepCount < endTime s j k)) := by
  unfold occupies
  rw [isSched_next cfg s a hI hL hj hk, endTime_next cfg s a hI hL hj hk,
    schedAt_next cfg s a hI.shaped hI.mask hL hj hk, next_midAt]
  by_cases hH : Hit cfg s a j k
  · have hns := hit_not_sched cfg s a hH
    simp only [if_pos hH]
    constructor
    · rintro ⟨_, h2, _⟩; exact Or.inl ⟨hH, h2⟩
    · rintro (⟨_, h2⟩ | ⟨h1, _⟩)
      · exact ⟨Or.inl hH, h2, by omega, Or.inr trivial⟩
      · exact absurd h1 hns
  · simp only [if_neg hH]
    constructor
    · rintro ⟨h1 | h1, h2, h3, h4⟩
      · exact absurd h1 hH
      · have := hI.past j hj k hk h1
        refine Or.inr ⟨h1, h2, ?_⟩
        rcases h4 with h4 | h4 <;> omega
    · rintro (⟨h1, _⟩ | ⟨h1, h2, h3⟩)
      · exact absurd h1 hH
      · have := hI.past j hj k hk h1
        exact ⟨Or.inr h1, h2, by omega, Or.inl h3⟩

theorem jobSpec_next {m : Nat} (hm : m < cfg.M) :
    jobSpec cfg (next cfg s a) m s.stepCount = (next cfg s a).jobAt m := by
  rcases machine_cases cfg s a hI hL hm with ⟨hnone, _, hjob⟩ | ⟨j0, hj0, k0, hk0, hH, hmid, nb, _, hjob⟩
  · rw [hjob]
    by_cases hr : s.remAt m = 0
    · rw [if_pos hr]
      apply jobSpec_none
      rintro j hj ⟨k, hk, hocc⟩
      rcases (occupies_next cfg s a hI hL hj hk).1 hocc with ⟨h, hmid⟩ | ⟨h1, h2, h3⟩
      · exact hnone j hj k h hmid
      · have := (busy_iff cfg s hI.book hm).1 ⟨j, hj, k, hk, ⟨h1, h3⟩, h2⟩
        omega
    · rw [if_neg hr]
      obtain ⟨j0, hj0, k0, hk0, hr0, hmid0, hjob0⟩ := running_on cfg s hI.book hm (by have := (hI.fields hm).1; omega)
      rw [hjob0]
      apply jobSpec_some cfg _ m _ hj0
        ⟨k0, hk0, (occupies_next cfg s a hI hL hj0 hk0).2 (Or.inr ⟨hr0.1, hmid0, hr0.2⟩)⟩
      rintro j hj ⟨k, hk, hocc⟩
      rcases (occupies_next cfg s a hI hL hj hk).1 hocc with ⟨h, hmid⟩ | ⟨h1, h2, h3⟩
      · exact absurd hmid (hnone j hj k h)
      · exact (running_unique cfg s hI.past hI.machine hj hk hj0 hk0 ⟨h1, h3⟩ hr0 (h2.trans hmid0.symm)).1
  · rw [hjob]
    apply jobSpec_some cfg _ m _ hj0
      ⟨k0, hk0, (occupies_next cfg s a hI hL hj0 hk0).2 (Or.inl ⟨hH, hmid⟩)⟩
    rintro j hj ⟨k, hk, hocc⟩
    rcases (occupies_next cfg s a hI hL hj hk).1 hocc with ⟨hH', hmid1⟩ | ⟨h1, h2, h3⟩
    · exact (hit_unique cfg s a hL hj hj0 hH' hH (hmid1.trans hmid.symm)).1
    · exact absurd ⟨j, hj, k, hk, ⟨h1, h3⟩, h2⟩ nb

theorem mjob_spec :
    ((List.range cfg.M).map fun m => jobSpec cfg (advance cfg s a) m s.stepCount) =
      (next cfg s a).mjob := by
  rw [Jx.eq_range_map 0 (shaped_next cfg s a hI.shaped).mjob_len fun _ _ => rfl]
  apply List.map_congr_left; intro m hm
  rw [advance_eq cfg s a hI hL]
  exact jobSpec_next cfg s a hI hL (List.mem_range.1 hm)

theorem amask_spec : legalTable cfg (advance cfg s a) = (next cfg s a).amask := by
  rw [advance_eq cfg s a hI hL, next_amask, maskOf_eq_legalTable cfg _ (inv_next cfg s a hI hL)]
  rfl

theorem specState_eq : specState cfg s a = next cfg s a := by
  unfold specState
  simp only []
  rw [opsMask_spec cfg s a hI hL, mjob_spec cfg s a hI hL, mrem_spec cfg s a hI hL,
    amask_spec cfg s a hI hL, schedAfter_eq cfg s a hI hL]
  rfl

end spec

end JobShop
