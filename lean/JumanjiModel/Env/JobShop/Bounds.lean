/-
JobShop: proved value bounds of the observation (property C01).

`obsBounds cfg` = the interval in which every leaf of the model's observation provably stays (keys =
the leaf paths of `JobShop.observation_spec`); `obsLeaves` = the observation flattened to those
leaves.  `reset` = `JobShop.reset` with either shipped generator, the instance arrays
`ops_machine_ids`, `ops_durations` being draw parameters; `validDraw` = what the generators can
produce (shape `J × O`, machine ids in `[-1, M-1]`, durations in `[-1, D]`).

`BInv` (a small self-contained bounds invariant: the instance arrays and the two machine vectors lie
in their intervals) is established by `reset` and preserved by `step` for every action whose entries
are job ids or the no-op (`0 ≤ a[m] ≤ J` for `m < M`, i.e. every action of the action spec) — valid
or not, terminal step included.

`machines_remaining_times` is proved to stay in `[0, D-1]` (`[0, 0]` for `D = 0`): `_update_machines`
decrements a freshly started op's duration in the same step, so the declared maximum `D` is never
attained.
-/
import JumanjiModel.Env.JobShop.Model
import JumanjiModel.Core.ObsBoundsCO
import JumanjiModel.Prim.GridLemmas
namespace JobShop
open Jm Jm.OB

def ints (xs : List Int) : List Rat := xs.map fun (x : Int) => ((x : Int) : Rat)

def obsBounds (cfg : Cfg) : Table :=
  [("ops_machine_ids", some (((-1 : Int) : Int) : Rat), some (((cfg.M : Int) - 1 : Int) : Rat)),
   ("ops_durations", some (((-1 : Int) : Int) : Rat), some (((cfg.D : Int) : Int) : Rat)),
   ("ops_mask", some 0, some 1),
   ("machines_job_ids", some (((0 : Int) : Int) : Rat), some (((cfg.J : Int) : Int) : Rat)),
   ("machines_remaining_times", some (((0 : Int) : Int) : Rat), some ((((cfg.D - 1 : Nat) : Int) : Int) : Rat)),
   ("action_mask", some 0, some 1)]

def obsLeaves (o : Obs) : Leaves :=
  [("ops_machine_ids", ints o.mid.flatten), ("ops_durations", ints o.dur.flatten),
   ("ops_mask", o.opsMask.flatten.map b2r),
   ("machines_job_ids", ints o.mjob), ("machines_remaining_times", ints o.mrem),
   ("action_mask", o.amask.flatten.map b2r)]

/-- `JobShop.reset`: the generator's instance arrays are draw parameters -/
def reset (cfg : Cfg) (mid dur : List (List Int)) : State × TimeStep Obs :=
  (initState cfg mid dur, restart (obsOf (initState cfg mid dur)))

def GridIn (g : List (List Int)) (lo hi : Int) : Prop := ∀ row ∈ g, ∀ x ∈ row, lo ≤ x ∧ x ≤ hi
def VecIn (v : List Int) (lo hi : Int) : Prop := ∀ x ∈ v, lo ≤ x ∧ x ≤ hi

instance (g : List (List Int)) (lo hi : Int) : Decidable (GridIn g lo hi) := by unfold GridIn; infer_instance
instance (v : List Int) (lo hi : Int) : Decidable (VecIn v lo hi) := by unfold VecIn; infer_instance

/-- what `RandomGenerator` (`randint(0, M)`, `randint(1, D+1)`, padding −1) and `ToyGenerator` can
produce: shape `J × O`, machine ids in `[-1, M-1]`, durations in `[-1, D]` -/
def validDraw (cfg : Cfg) (mid dur : List (List Int)) : Prop :=
  mid.length = cfg.J ∧ dur.length = cfg.J ∧ (∀ row ∈ mid, row.length = cfg.O) ∧
  (∀ row ∈ dur, row.length = cfg.O) ∧
  GridIn mid (-1) ((cfg.M : Int) - 1) ∧ GridIn dur (-1) (cfg.D : Int)

instance (cfg : Cfg) (mid dur : List (List Int)) : Decidable (validDraw cfg mid dur) := by
  unfold validDraw; infer_instance

def BInv (cfg : Cfg) (s : State) : Prop :=
  GridIn s.mid (-1) ((cfg.M : Int) - 1) ∧ GridIn s.dur (-1) (cfg.D : Int) ∧
  VecIn s.mjob 0 (cfg.J : Int) ∧ VecIn s.mrem 0 ((cfg.D - 1 : Nat) : Int)

instance (cfg : Cfg) (s : State) : Decidable (BInv cfg s) := by unfold BInv; infer_instance

/-- the action entries read by `step` are job ids or the no-op (implied by `InSpec`) -/
def ActIn (cfg : Cfg) (a : List Int) : Prop :=
  ∀ m, m < cfg.M → 0 ≤ actAt a m ∧ actAt a m ≤ (cfg.J : Int)

instance (cfg : Cfg) (a : List Int) : Decidable (ActIn cfg a) := by unfold ActIn; infer_instance

theorem ints_in (xs : List Int) (lo hi : Int) (h : VecIn xs lo hi) :
    ∀ v ∈ ints xs, inIv (some ((lo : Int) : Rat)) (some ((hi : Int) : Rat)) v := by
  intro v hv
  rcases List.mem_map.mp hv with ⟨x, hx, rfl⟩
  exact ⟨Rat.intCast_le_intCast.mpr (h x hx).1, Rat.intCast_le_intCast.mpr (h x hx).2⟩

theorem ints2_in (g : List (List Int)) (lo hi : Int) (h : GridIn g lo hi) :
    ∀ v ∈ ints g.flatten, inIv (some ((lo : Int) : Rat)) (some ((hi : Int) : Rat)) v :=
  ints_in _ _ _ (Jx.forall_mem_flatten h)

theorem obsOf_in_bounds (cfg : Cfg) (s : State) (h : BInv cfg s) :
    InBounds (obsBounds cfg) (obsLeaves (obsOf s)) := by
  refine inBounds_cons rfl (ints2_in _ _ _ h.1) <|
    inBounds_cons rfl (ints2_in _ _ _ h.2.1) <|
    inBounds_cons rfl (bools_in01 _) <|
    inBounds_cons rfl (ints_in _ _ _ h.2.2.1) <|
    inBounds_cons rfl (ints_in _ _ _ h.2.2.2) <|
    inBounds_cons rfl (bools_in01 _) <| inBounds_nil _

theorem reset_binv (cfg : Cfg) (mid dur : List (List Int)) (h : validDraw cfg mid dur) :
    BInv cfg (reset cfg mid dur).1 := by
  refine ⟨h.2.2.2.2.1, h.2.2.2.2.2, ?_, ?_⟩
  · intro x hx
    have : x = (cfg.J : Int) := by
      simp only [reset, initState] at hx; exact (List.mem_replicate.mp hx).2
    subst this; omega
  · intro x hx
    have : x = 0 := by
      simp only [reset, initState] at hx; exact (List.mem_replicate.mp hx).2
    subst this; omega

theorem jobAt_in (cfg : Cfg) (s : State) (h : BInv cfg s) (m : Nat) :
    0 ≤ s.jobAt m ∧ s.jobAt m ≤ (cfg.J : Int) :=
  Jx.getD_of_all m h.2.2.1 (by omega)

theorem remAt_in (cfg : Cfg) (s : State) (h : BInv cfg s) (m : Nat) :
    0 ≤ s.remAt m ∧ s.remAt m ≤ ((cfg.D - 1 : Nat) : Int) :=
  Jx.getD_of_all m h.2.2.2 (by omega)

/-- the gathered duration `ops_durations[a, op_ids[a]]` is an entry of `ops_durations` (or 0 for an
empty array) -/
theorem selDur_in (cfg : Cfg) (s : State) (h : BInv cfg s) (ids : List Nat) (am : Int) :
    -1 ≤ selDur s ids am ∧ selDur s ids am ≤ (cfg.D : Int) :=
  Jx.Grid.getWC_of_all (P := fun x => -1 ≤ x ∧ x ≤ (cfg.D : Int)) am _ h.2.1 (by omega)

theorem updJob_in (cfg : Cfg) (s : State) (a : List Int) (h : BInv cfg s) (ha : ActIn cfg a) :
    VecIn (updJob cfg s a) 0 (cfg.J : Int) := by
  intro x hx
  simp only [updJob, List.mem_map, List.mem_range] at hx
  rcases hx with ⟨m, hm, rfl⟩
  have h1 := ha m hm
  have h2 := jobAt_in cfg s h m
  repeat' split
  all_goals omega

theorem updRem_in (cfg : Cfg) (s : State) (a : List Int) (h : BInv cfg s) :
    VecIn (updRem cfg s a) 0 ((cfg.D - 1 : Nat) : Int) := by
  intro x hx
  simp only [updRem, List.mem_map, List.mem_range] at hx
  rcases hx with ⟨m, _, rfl⟩
  have h1 := remAt_in cfg s h m
  have h2 := selDur_in cfg s h (opIds s.opsMask) (actAt a m)
  repeat' split
  all_goals omega

theorem step_binv (cfg : Cfg) (s : State) (a : List Int) (h : BInv cfg s) (ha : ActIn cfg a) :
    BInv cfg (step cfg s a).1 :=
  ⟨h.1, h.2.1, updJob_in cfg s a h ha, updRem_in cfg s a h⟩

theorem step_obs (cfg : Cfg) (s : State) (a : List Int) :
    (step cfg s a).2.obs = obsOf (step cfg s a).1 := by
  simp only [step]; exact condLast_obs _ _ _

end JobShop
