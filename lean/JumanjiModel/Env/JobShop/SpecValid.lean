/-
JobShop — C01 spec membership: the declared specs as `Sp` values (`obsSpec`, `actionSpec`), what membership of an
observation amounts to (`obs_valid_iff`, `obs_valid_only`), the spec invariant `SInv` (the bounds invariant `BInv` of
Bounds.lean plus the shapes of the two instance arrays) with the membership of the observation of the reset and of every
successor state (`init_valid`, `next_valid`), the generator's padding (`genPad_rect`, `genPad_gridIn`); the step protocol
and the action spec.  Also the reset observation (C12).
-/
import JumanjiModel.Env.JobShop.Bounds
import JumanjiModel.Env.SpecMembership
namespace JobShop
open Jm Sp PzS PkS

/-! ### the declared specs (env.py `observation_spec`, `action_spec`) -/

def obsSpec (cfg : Cfg) : Sp.Nested :=
  [("ops_machine_ids", .bounded [cfg.J, cfg.O] .int32 "ops_machine_ids" [] [((-1 : Int) : Rat)] []
      [(((cfg.M : Int) - 1 : Int) : Rat)]),
   ("ops_durations", .bounded [cfg.J, cfg.O] .int32 "ops_durations" [] [((-1 : Int) : Rat)] [] [((cfg.D : Int) : Rat)]),
   ("ops_mask", .bounded [cfg.J, cfg.O] .bool "ops_mask" [] [0] [] [1]),
   ("machines_job_ids", .bounded [cfg.M] .int32 "machines_job_ids" [] [((0 : Int) : Rat)] [] [((cfg.J : Int) : Rat)]),
   ("machines_remaining_times", .bounded [cfg.M] .int32 "machines_remaining_times" [] [((0 : Int) : Rat)] []
      [((cfg.D : Int) : Rat)]),
   ("action_mask", .bounded [cfg.M, cfg.J + 1] .bool "action_mask" [] [0] [] [1])]

/-- `action_spec`: MultiDiscreteArray(full(num_machines, num_jobs + 1), int32) -/
def actionSpec (cfg : Cfg) : Leaf := .multiDiscrete [cfg.M] (List.replicate cfg.M (cfg.J + 1)) .int32 "action"

/-- a model observation as the arrays the implementation emits; the shapes are READ OFF the values -/
def toNValue (o : Obs) : NValue :=
  [("ops_machine_ids", ⟨shape2 o.mid, .int32, ofInts o.mid.flatten⟩),
   ("ops_durations", ⟨shape2 o.dur, .int32, ofInts o.dur.flatten⟩),
   ("ops_mask", ⟨shape2 o.opsMask, .bool, ofBools o.opsMask.flatten⟩),
   ("machines_job_ids", ⟨shape1 o.mjob, .int32, ofInts o.mjob⟩),
   ("machines_remaining_times", ⟨shape1 o.mrem, .int32, ofInts o.mrem⟩),
   ("action_mask", ⟨shape2 o.amask, .bool, ofBools o.amask.flatten⟩)]

def actionArr (cfg : Cfg) (a : List Int) : Arr := ⟨[cfg.M], .int32, ofInts a⟩

theorem obs_valid_iff (cfg : Cfg) (o : Obs) : (obsSpec cfg).valid (toNValue o) = true ↔
    (shape2 o.mid = [cfg.J, cfg.O] ∧ o.mid.flatten.length = cfg.J * cfg.O ∧
      ∀ v ∈ o.mid.flatten, -1 ≤ v ∧ v ≤ (cfg.M : Int) - 1) ∧
    (shape2 o.dur = [cfg.J, cfg.O] ∧ o.dur.flatten.length = cfg.J * cfg.O ∧ ∀ v ∈ o.dur.flatten, -1 ≤ v ∧ v ≤ (cfg.D : Int)) ∧
    (shape2 o.opsMask = [cfg.J, cfg.O] ∧ o.opsMask.flatten.length = cfg.J * cfg.O) ∧
    (o.mjob.length = cfg.M ∧ ∀ v ∈ o.mjob, 0 ≤ v ∧ v ≤ (cfg.J : Int)) ∧
    (o.mrem.length = cfg.M ∧ ∀ v ∈ o.mrem, 0 ≤ v ∧ v ≤ (cfg.D : Int)) ∧
    shape2 o.amask = [cfg.M, cfg.J + 1] ∧ o.amask.flatten.length = cfg.M * (cfg.J + 1) := by
  simp only [obsSpec, toNValue, valid_cons, valid_nil, valid_scalar_bounded_iff, forall_ofInts, forall_ofBools, ofInts_length,
    ofBools_length, prod_one, prod_two, shape1_eq, Rat.intCast_le_intCast, true_and, and_true, and_self_left]

theorem obs_valid_only (cfg : Cfg) (o : Obs) (h : (obsSpec cfg).valid (toNValue o) = true) :
    shape2 o.mid = [cfg.J, cfg.O] ∧ (∀ v ∈ o.mid.flatten, -1 ≤ v ∧ v ≤ (cfg.M : Int) - 1) ∧
    shape2 o.dur = [cfg.J, cfg.O] ∧ (∀ v ∈ o.dur.flatten, -1 ≤ v ∧ v ≤ (cfg.D : Int)) ∧
    shape2 o.opsMask = [cfg.J, cfg.O] ∧
    o.mjob.length = cfg.M ∧ (∀ v ∈ o.mjob, 0 ≤ v ∧ v ≤ (cfg.J : Int)) ∧
    o.mrem.length = cfg.M ∧ (∀ v ∈ o.mrem, 0 ≤ v ∧ v ≤ (cfg.D : Int)) ∧
    shape2 o.amask = [cfg.M, cfg.J + 1] :=
  have ⟨h1, h2, h3, h4, h5, h6⟩ := (obs_valid_iff cfg o).1 h
  ⟨h1.1, h1.2.2, h2.1, h2.2.2, h3.1, h4.1, h4.2, h5.1, h5.2, h6.1⟩

def SInv (cfg : Cfg) (s : State) : Prop := BInv cfg s ∧ Rect2 s.mid cfg.J cfg.O ∧ Rect2 s.dur cfg.J cfg.O

theorem reset_sinv (cfg : Cfg) (mid dur : List (List Int)) (h : validDraw cfg mid dur) :
    SInv cfg (reset cfg mid dur).1 :=
  ⟨reset_binv cfg mid dur h, ⟨h.1, h.2.2.1⟩, ⟨h.2.1, h.2.2.2.1⟩⟩

theorem step_sinv (cfg : Cfg) (s : State) (a : List Int) (h : SInv cfg s) (ha : ActIn cfg a) :
    SInv cfg (step cfg s a).1 := ⟨step_binv cfg s a h.1 ha, h.2.1, h.2.2⟩

theorem createActionMask_rect (cfg : Cfg) (mjob mrem : List Int) (mid : List (List Int)) (om : List (List Bool)) :
    Rect2 (createActionMask cfg mjob mrem mid om) cfg.M (cfg.J + 1) := by
  unfold createActionMask
  refine ⟨by simp, ?_⟩
  intro row hrow
  simp only [List.mem_map, List.mem_range] at hrow
  obtain ⟨m, _, rfl⟩ := hrow
  simp

/-- membership of the observation of a state with the spec invariant whose four derived arrays have the configured shapes -/
theorem obsOf_valid (cfg : Cfg) (hJ : 0 < cfg.J) (hM : 0 < cfg.M) (s : State) (h : SInv cfg s)
    (hom : Rect2 s.opsMask cfg.J cfg.O) (hj : s.mjob.length = cfg.M) (hr : s.mrem.length = cfg.M)
    (ha : Rect2 s.amask cfg.M (cfg.J + 1)) : (obsSpec cfg).valid (toNValue (obsOf s)) = true :=
  (obs_valid_iff cfg _).2 ⟨⟨(shape2_of_rect h.2.1 hJ).1, (shape2_of_rect h.2.1 hJ).2, Jx.forall_mem_flatten h.1.1⟩,
    ⟨(shape2_of_rect h.2.2 hJ).1, (shape2_of_rect h.2.2 hJ).2, Jx.forall_mem_flatten h.1.2.1⟩, shape2_of_rect hom hJ,
    ⟨hj, h.1.2.2.1⟩,
    -- the proved bound on `machines_remaining_times` is `D - 1`, the declared one `D`
    ⟨hr, fun x hx => ⟨(h.1.2.2.2 x hx).1, Int.le_trans (h.1.2.2.2 x hx).2 (by omega)⟩⟩, shape2_of_rect ha hM⟩

theorem next_valid (cfg : Cfg) (hJ : 0 < cfg.J) (hM : 0 < cfg.M) (s : State) (a : List Int) (h : SInv cfg s)
    (ha : ActIn cfg a) : (obsSpec cfg).valid (toNValue (obsOf (next cfg s a))) = true :=
  obsOf_valid cfg hJ hM _ (step_sinv cfg s a h ha) (rect2_of_shaped (Jx.Grid.shaped_table ..)) (by simp [next, updJob])
    (by simp [next, updRem]) (createActionMask_rect cfg _ _ _ _)

theorem init_valid (cfg : Cfg) (hJ : 0 < cfg.J) (hM : 0 < cfg.M) (mid dur : List (List Int))
    (h : validDraw cfg mid dur) : (obsSpec cfg).valid (toNValue (obsOf (initState cfg mid dur))) = true :=
  obsOf_valid cfg hJ hM _ (reset_sinv cfg mid dur h)
    (rect2_of_shaped (Jx.Grid.shaped_map_of _ (shaped_of_rect2 ⟨h.1, h.2.2.1⟩))) (by simp [initState])
    (by simp [initState]) (createActionMask_rect cfg _ _ _ _)

theorem genPad_rect (cfg : Cfg) (draw : List (List Int)) (numOps : List Int) :
    Rect2 (genPad cfg draw numOps) cfg.J cfg.O := rect2_of_shaped (Jx.Grid.shaped_table ..)

theorem genPad_gridIn (cfg : Cfg) (draw : List (List Int)) (numOps : List Int) (lo hi : Int) (hlo : lo ≤ -1)
    (hhi : -1 ≤ hi) (h : ∀ j, j < cfg.J → ∀ k, k < cfg.O → lo ≤ at2 draw (-1) j k ∧ at2 draw (-1) j k ≤ hi) :
    GridIn (genPad cfg draw numOps) lo hi :=
  (Jx.Grid.forall_mem_table ..).2 fun j hj k hk => by
    have := h j hj k hk
    split <;> omega

theorem step_protocol (cfg : Cfg) (s : State) (a : List Int) : StepOK none false (step cfg s a).2 = true := by
  unfold step; exact condLast_stepOK _ _ _

/-- `action_spec.generate_value()` is the all-zero vector (job 0 on every machine) -/
theorem actionSpec_generate (cfg : Cfg) : (actionSpec cfg).generate = actionArr cfg (List.replicate cfg.M 0) := by
  simp [actionSpec, generate_multiDiscrete, actionArr, ofInts]

theorem actionSpec_WF (cfg : Cfg) (hbig : cfg.J < 2147483648) : (actionSpec cfg).WF = true :=
  MaS.actionSpecN_WF cfg.M (cfg.J + 1) (by omega) (by omega)

/-! ### C12: the reset observation -/

theorem reset_obs_faithful (cfg : Cfg) (mid dur : List (List Int)) :
    (reset cfg mid dur).2.obs = observe cfg (reset cfg mid dur).1 := rfl

end JobShop
