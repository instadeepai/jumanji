/-
JobShop: the generators (C10) — `RandomGenerator` transliterated with its draws as parameters satisfies the
certificate for all valid draws, the certificate implies the advertised invariants, the toy instance — and
whole episodes: feasibility after every prefix of legal play (C06) and the structural horizon of in-spec play (C11).
-/
import JumanjiModel.Env.JobShop.SpecLemmas
import JumanjiModel.Env.JobShop.CompletionLemmas
import JumanjiModel.Core.Episode
namespace JobShop
open Jm

theorem genPad_length (cfg : Cfg) (draw : List (List Int)) (numOps : List Int) :
    (genPad cfg draw numOps).length = cfg.J ∧
    ∀ j, j < cfg.J → ((genPad cfg draw numOps).getD j []).length = cfg.O :=
  (Jx.Grid.shaped_iff ..).1 (Jx.Grid.shaped_table ..)

theorem genPad_at (cfg : Cfg) (draw : List (List Int)) (numOps : List Int) {j k : Nat} (hj : j < cfg.J)
    (hk : k < cfg.O) :
    at2 (genPad cfg draw numOps) (-1) j k = if genMask numOps j k then at2 draw (-1) j k else -1 :=
  Jx.Grid.get_table cfg.J cfg.O _ (-1) hj hk

/-- the reset state of the transliterated `RandomGenerator` satisfies the invariant of legal play (its cached mask is
fresh by `rfl`) -/
theorem generate_inv (cfg : Cfg) (midDraw durDraw : List (List Int)) (numOps : List Int)
    (h : validGenDraw cfg midDraw durDraw numOps) : Inv cfg (generate cfg midDraw durDraw numOps) := by
  refine init_inv cfg _ _ (genPad_length cfg midDraw numOps) (genPad_length cfg durDraw numOps) ?_
  intro j hj k hk hop
  unfold isOp at hop
  have e : (initState cfg (genPad cfg midDraw numOps) (genPad cfg durDraw numOps)).midAt j k = _ :=
    genPad_at cfg midDraw numOps hj hk
  rw [e] at hop ⊢
  by_cases hg : genMask numOps j k = true
  · simp only [hg, if_true]; exact h.1 j hj k hk
  · simp [hg] at hop

/-- C10: for every configuration and every valid draw the transliterated `RandomGenerator` + `reset` mask gives a
state satisfying the certificate -/
theorem generate_cert (cfg : Cfg) (midDraw durDraw : List (List Int)) (numOps : List Int)
    (h : validGenDraw cfg midDraw durDraw numOps) : GenCert cfg (generate cfg midDraw durDraw numOps) := by
  have hI := generate_inv cfg midDraw durDraw numOps h
  obtain ⟨hmid, hdur, hops⟩ := h
  have hmidAt : ∀ j, j < cfg.J → ∀ k, k < cfg.O → (generate cfg midDraw durDraw numOps).midAt j k =
      if genMask numOps j k then at2 midDraw (-1) j k else -1 := fun j hj k hk => genPad_at cfg midDraw numOps hj hk
  have hdurAt : ∀ j, j < cfg.J → ∀ k, k < cfg.O → (generate cfg midDraw durDraw numOps).durAt j k =
      if genMask numOps j k then at2 durDraw (-1) j k else -1 := fun j hj k hk => genPad_at cfg durDraw numOps hj hk
  refine ⟨hI.shaped, ?_, rfl, rfl, rfl, rfl, ?_⟩
  · intro j hj
    obtain ⟨h1, h2⟩ := hops j hj
    refine ⟨(numOps.getD j 0).toNat, by omega, by omega, ?_⟩
    intro k hk
    have hmk : (generate cfg midDraw durDraw numOps).maskAt j k =
        ((generate cfg midDraw durDraw numOps).midAt j k != -1) := init_maskAt cfg _ _ j k
    rw [hmk, hmidAt j hj k hk, hdurAt j hj k hk]
    constructor
    · intro hlt
      have hg : genMask numOps j k = true := by unfold genMask; exact decide_eq_true (by omega)
      simp only [hg, if_true]
      have := hmid j hj k hk
      have := hdur j hj k hk
      refine ⟨by omega, by omega, by omega, by omega, ?_⟩
      simp; omega
    · intro hge
      have hg : genMask numOps j k = false := by unfold genMask; exact decide_eq_false (by omega)
      simp [hg]
  · show (generate cfg midDraw durDraw numOps).amask = _
    rw [← maskOf_eq_legalTable cfg _ hI]; rfl

theorem cert_instance (cfg : Cfg) (s : State) (h : GenCert cfg s) :
    MachinesOK cfg s ∧ DurationsOK cfg s ∧ PaddingOK cfg s ∧ (∀ j, j < cfg.J → isOp s j 0 ∧ 0 < cfg.O) := by
  obtain ⟨_, hrows, _⟩ := h
  have real : ∀ j, j < cfg.J → ∀ k, k < cfg.O → isOp s j k →
      0 ≤ s.midAt j k ∧ s.midAt j k < (cfg.M : Int) ∧ 1 ≤ s.durAt j k ∧ s.durAt j k ≤ (cfg.D : Int) := by
    intro j hj k hk hop
    obtain ⟨p, _, _, hrow⟩ := hrows j hj
    by_cases hkp : k < p
    · have := (hrow k hk).1 hkp
      exact ⟨this.1, this.2.1, this.2.2.1, this.2.2.2.1⟩
    · exact absurd ((hrow k hk).2 (by omega)).1 hop
  refine ⟨fun j hj k hk hop => ⟨(real j hj k hk hop).1, (real j hj k hk hop).2.1⟩,
    fun j hj k hk hop => (real j hj k hk hop).2.2, ?_, ?_⟩
  · intro j hj k hk
    obtain ⟨p, _, _, hrow⟩ := hrows j hj
    obtain ⟨hreal, hpad⟩ := hrow k hk
    constructor
    · by_cases hkp : k < p
      · have := hreal hkp; omega
      · have := hpad (by omega); omega
    · intro hop k' hk'
      unfold isOp at hop ⊢
      have hkp : k < p := by
        by_cases hkp : k < p
        · exact hkp
        · have := hpad (by omega); omega
      have := ((hrow k' (by omega)).1 (by omega)); omega
  · intro j hj
    obtain ⟨p, hp, hp1, hrow⟩ := hrows j hj
    have hO : 0 < cfg.O := by omega
    refine ⟨?_, hO⟩
    unfold isOp
    have := (hrow 0 hO).1 (by omega); omega

theorem cert_schedAt (cfg : Cfg) (s : State) (h : GenCert cfg s) {j k : Nat} (hj : j < cfg.J) (hk : k < cfg.O) :
    s.schedAt j k = -1 := by
  rw [State.schedAt, h.2.2.2.2.1]; exact Jx.Grid.get_mk _ _ _ _ hj hk

theorem cert_state (cfg : Cfg) (s : State) (h : GenCert cfg s) :
    s = initState cfg s.mid s.dur ∧ Inv cfg s ∧ s.amask = maskOf cfg s := by
  have hM := (cert_instance cfg s h).1
  have hsch := fun j hj k hk => cert_schedAt cfg s h (j := j) (k := k) hj hk
  obtain ⟨hS, hrows, hjob, hrem, hsched, hclock, hamask⟩ := h
  -- a row of the certificate says `ops_mask = (ops_machine_ids != -1)` cell by cell
  have hmask : ∀ j, j < cfg.J → ∀ k, k < cfg.O → s.maskAt j k = (s.midAt j k != -1) := by
    intro j hj k hk
    obtain ⟨p, _, _, hrow⟩ := hrows j hj
    by_cases hkp : k < p
    · have := (hrow k hk).1 hkp
      rw [this.2.2.2.2, eq_comm, bne_iff_ne]; omega
    · have := (hrow k hk).2 (by omega)
      rw [this.2.2, this.1]; rfl
  have hI : Inv cfg s := inv_of_fresh cfg s hS hM hclock hsch
    (fun m hm => by rw [State.remAt, hrem]; exact Jx.getD_replicate _ _ hm) hmask
  have hC : s.amask = maskOf cfg s := hamask.trans (maskOf_eq_legalTable cfg s hI).symm
  refine ⟨?_, hI, hC⟩
  -- both sides of the `ops_mask` equation have the configured shape, so they are compared cell by cell
  have hom : s.opsMask = s.mid.map (fun row => row.map (fun x => x != -1)) :=
    Jx.Grid.ext_get hS.opsMask (Jx.Grid.shaped_map_of _ hS.mid) false fun j k hj hk =>
      (hmask j hj k hk).trans (Jx.Grid.get_map_default (fun x : Int => x != -1) s.mid (-1) j k).symm
  obtain ⟨mid, dur, om, mjob, mrem, amask, clock, sched⟩ := s
  simp only [maskOf] at hC hom hjob hrem hsched hclock
  subst hom hjob hrem hsched hclock hC
  rfl

theorem generated_unfinished (cfg : Cfg) (hJ : 0 < cfg.J) (s : State) (hg : GenCert cfg s) : finished cfg s = false := by
  obtain ⟨hS, hrows, _⟩ := hg
  obtain ⟨p, hp, hp1, hrow⟩ := hrows 0 hJ
  have hO : 0 < cfg.O := by omega
  have hm : s.maskAt 0 0 = true := ((hrow 0 hO).1 (by omega)).2.2.2.2
  cases hf : finished cfg s
  · rfl
  · have := ((finished_iff_all cfg s hS).1 hf).1 0 hJ 0 hO
    rw [hm] at this; exact Bool.noConfusion this

/-- every joint action of the list is legal (L2) when its turn comes -/
def AllLegal (cfg : Cfg) : State → List (List Int) → Prop
  | _, [] => True
  | s, a :: as => legalAction cfg s a ∧ AllLegal cfg (next cfg s a) as

/-- mask-respecting: an in-spec joint action each of whose choices has its bit set in the action mask of the
observation current at its turn -/
def Masked (cfg : Cfg) (s : State) (a : List Int) : Prop :=
  InSpec cfg a ∧ ∀ m, m < cfg.M → at2 (obsOf s).amask false m (actAt a m).toNat = true

def AllMasked (cfg : Cfg) : State → List (List Int) → Prop
  | _, [] => True
  | s, a :: as => Masked cfg s a ∧ AllMasked cfg (next cfg s a) as

theorem masked_legal (cfg : Cfg) (s : State) (a : List Int) (hI : Inv cfg s) (hC : s.amask = maskOf cfg s)
    (h : Masked cfg s a) : legalAction cfg s a := by
  obtain ⟨hA, hm⟩ := h
  refine ⟨hA.1, fun m hmM => ⟨(hA.2 m hmM).1, ?_⟩⟩
  have := hm m hmM
  have hc : (actAt a m).toNat ≤ cfg.J := by have := hA.2 m hmM; omega
  show legal cfg s m (actAt a m).toNat
  rw [← mask_iff_legal cfg s hI hmM hc, ← hC]
  exact this

theorem allLegal_take (cfg : Cfg) (as : List (List Int)) :
    ∀ s k, AllLegal cfg s as → AllLegal cfg s (as.take k) := by
  induction as with
  | nil => intro s k h; simpa using h
  | cons a as ih =>
    intro s k h
    cases k with
    | zero => simp [AllLegal]
    | succ k => simp only [List.take_succ_cons, AllLegal] at h ⊢; exact ⟨h.1, ih _ k h.2⟩

theorem inv_play (cfg : Cfg) (as : List (List Int)) :
    ∀ s, Inv cfg s → AllLegal cfg s as → Inv cfg (play cfg s as).1 := by
  induction as with
  | nil => intro s hI _; simpa [play] using hI
  | cons a as ih =>
    intro s hI hal
    simp only [AllLegal] at hal
    simp only [play]
    exact ih _ (inv_next cfg s a hI hal.1) hal.2

theorem allMasked_allLegal (cfg : Cfg) (as : List (List Int)) :
    ∀ s, Inv cfg s → s.amask = maskOf cfg s → AllMasked cfg s as → AllLegal cfg s as := by
  induction as with
  | nil => intro s _ _ _; simp [AllLegal]
  | cons a as ih =>
    intro s hI hC h
    simp only [AllMasked] at h
    have hl := masked_legal cfg s a hI hC h.1
    exact ⟨hl, ih _ (inv_next cfg s a hI hl) (next_amask cfg s a) h.2⟩

theorem feasible_along (cfg : Cfg) (s : State) (as : List (List Int)) (hI : Inv cfg s)
    (hal : AllLegal cfg s as) (k : Nat) : Inv cfg (play cfg s (as.take k)).1 :=
  inv_play cfg _ s hI (allLegal_take cfg as s k hal)

theorem survives_of_no_last (cfg : Cfg) (as : List (List Int)) : ∀ (s : State), Inv cfg s → s.amask = maskOf cfg s →
    (∀ a ∈ as, InSpec cfg a) → (∀ e ∈ Ep.rollout (step cfg) s as, e.2.stepType ≠ .last) → Survives cfg s as := by
  induction as with
  | nil => intro _ _ _ _ _; trivial
  | cons a as ih =>
    intro s hI hC hin hnl
    have hA := hin a (by simp)
    have h0 : (step cfg s a).2.stepType ≠ .last := hnl _ (by simp [Ep.rollout])
    have hL : legalAction cfg s a :=
      Decidable.byContradiction fun hL => h0 ((step_last_iff_rules cfg s a hI hC hA).2 (Or.inl hL))
    have hidle := (mid_step_facts cfg s a h0).1
    refine ⟨hL, hidle, ih (next cfg s a) (inv_next cfg s a hI hL) (next_amask cfg s a)
      (fun b hb => hin b (by simp [hb])) (fun e he => hnl e ?_)⟩
    simp only [Ep.rollout, List.mem_cons]
    exact Or.inr he

theorem toy_cert : GenCert toyCfg toyState := by decide +kernel

end JobShop
