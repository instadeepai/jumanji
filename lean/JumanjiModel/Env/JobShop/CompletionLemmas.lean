/-
JobShop, C08: how "schedule finished" and "all machines idle" interact at the end of an episode.

`step` ends an episode with the PENALTY when all machines are idle after the step
(`all_machines_idle`: every machine holds the no-op job id `J` and has remaining time 0) and with
the ordinary reward −1 when the schedule is finished (`schedule_finished`: no op left in `ops_mask`
and every remaining time 0).  `CompletesBy` (Model.lean) requires of every step, the completing one
included, that the machines are not all idle.  `finished_not_idle` shows that the completing step meets this
by itself: under legal play the step that finishes the schedule leaves some machine with a real job id (the
machine that ran the last op keeps its job id, because `_update_machines` only writes the no-op id into
machines whose remaining time WAS already 0), so `all_machines_idle` is false, the completing step is
rewarded −1, and the return theorem can be stated over the episode as the environment sees it
(`EndsByCompletion`: legal actions, every timestep but the last is not LAST, the schedule is finished at the end).
-/
import JumanjiModel.Env.JobShop.Lemmas
namespace JobShop
open Jm

/-- the finishing step processed an op, whose machine still carries a real job id.  (No assumption on the
durations.) -/
theorem finished_not_idle (cfg : Cfg) (s : State) (a : List Int) (hI : Inv cfg s)
    (hL : legalAction cfg s a) (hnf : finished cfg s = false) (hf : finished cfg (next cfg s a) = true) :
    allIdle cfg (next cfg s a) = false :=
  (not_idle_iff cfg s a hI hL).2 (processed_of_finishing cfg s a hI hL hnf hf)

/-- not both (no exclusive or is claimed): a legal action from an unfinished state does not leave all machines idle and
finish the schedule at once -/
theorem idle_xor_finished (cfg : Cfg) (s : State) (a : List Int) (hI : Inv cfg s)
    (hL : legalAction cfg s a) (hnf : finished cfg s = false) :
    ¬ (allIdle cfg (next cfg s a) = true ∧ finished cfg (next cfg s a) = true) := by
  rintro ⟨h1, h2⟩
  rw [finished_not_idle cfg s a hI hL hnf h2] at h1
  exact Bool.noConfusion h1

theorem mid_step_facts (cfg : Cfg) (s : State) (a : List Int)
    (h : (step cfg s a).2.stepType ≠ .last) :
    allIdle cfg (next cfg s a) = false ∧ finished cfg (next cfg s a) = false := by
  rw [Ne, step_last_iff] at h
  exact ⟨Bool.eq_false_iff.2 fun hi => h (Or.inr (Or.inl hi)),
    Bool.eq_false_iff.2 fun hf => h (Or.inr (Or.inr hf))⟩

/-- an episode as the environment sees it: every action legal, every timestep before the last one is
not LAST, and the schedule is finished after the last action -/
def EndsByCompletion (cfg : Cfg) : State → List (List Int) → Prop
  | _, [] => False
  | s, [a] => legalAction cfg s a ∧ finished cfg (next cfg s a) = true
  | s, a :: b :: as => legalAction cfg s a ∧ (step cfg s a).2.stepType ≠ .last ∧
      EndsByCompletion cfg (next cfg s a) (b :: as)

theorem completesBy_of_ends (cfg : Cfg) (as : List (List Int)) : ∀ (s : State), Inv cfg s →
    finished cfg s = false → EndsByCompletion cfg s as → CompletesBy cfg s as := by
  intro s hI hnf h
  fun_induction EndsByCompletion cfg s as with
  | case1 => exact h.elim
  | case2 s a => exact ⟨h.1, hnf, finished_not_idle cfg s a hI h.1 hnf h.2, h.2⟩
  | case3 s a b bs ih =>
    obtain ⟨hL, hmid, hrest⟩ := h
    obtain ⟨hidle, hnf'⟩ := mid_step_facts cfg s a hmid
    exact ⟨hL, hnf, hidle, ih (inv_next cfg s a hI hL) hnf' hrest⟩

end JobShop
