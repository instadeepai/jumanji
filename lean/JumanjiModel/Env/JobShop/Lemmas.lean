/-
JobShop: the L1 mask is the legality table of the rules on every state satisfying `Inv` (C04), an illegal
action ends the episode with the penalty (C05), the state of `reset` (`initState`; `reset` itself is in Bounds.lean)
satisfies `Inv` and legal actions preserve it (C06), completion is detected at the makespan and the return of a completed
episode is −makespan (C08; with the machine loads `opsOn` / `load`, used for the toy instance's lower bound), every
non-penalised legal step consumes operation time (C11), the observation is `observe` of the successor (C12).
-/
import JumanjiModel.Env.JobShop.Model
import JumanjiModel.Env.JobShop.Spec
import JumanjiModel.Prim.ListLemmas
import JumanjiModel.Prim.GridLemmas
import JumanjiModel.Core.TimeStepLemmas
namespace JobShop
open Jm

/-! ### the arrays

`at2` is the shared grid lookup `Jx.Grid.get`, and the `J × O` arrays that `step`, `reset` and the generator build are the shared
`table`, `map` and `mk`; the configured shape `Shaped` is `Jx.Grid.shaped` of the four arrays.  Shapes and lookups are therefore
the lemmas of Prim/GridLemmas.lean. -/

theorem at2_eq_get {α} (g : List (List α)) (d : α) (j k : Nat) : at2 g d j k = Jx.Grid.get g d j k := rfl

theorem Shaped_iff (cfg : Cfg) (s : State) : Shaped cfg s ↔
    Jx.Grid.shaped s.mid cfg.J cfg.O = true ∧ Jx.Grid.shaped s.dur cfg.J cfg.O = true ∧
      Jx.Grid.shaped s.opsMask cfg.J cfg.O = true ∧ Jx.Grid.shaped s.sched cfg.J cfg.O = true ∧
      s.mjob.length = cfg.M ∧ s.mrem.length = cfg.M := by
  simp only [Shaped, Jx.Grid.shaped_iff, Jx.Grid.rowLen]
  exact ⟨fun ⟨a, b, c, d, r, m1, m2⟩ => ⟨⟨a, fun j hj => (r j hj).1⟩, ⟨b, fun j hj => (r j hj).2.1⟩,
      ⟨c, fun j hj => (r j hj).2.2.1⟩, ⟨d, fun j hj => (r j hj).2.2.2⟩, m1, m2⟩,
    fun ⟨a, b, c, d, m1, m2⟩ => ⟨a.1, b.1, c.1, d.1, fun j hj => ⟨a.2 j hj, b.2 j hj, c.2 j hj, d.2 j hj⟩, m1, m2⟩⟩

theorem Shaped.mid {cfg : Cfg} {s : State} (h : Shaped cfg s) : Jx.Grid.shaped s.mid cfg.J cfg.O = true :=
  ((Shaped_iff cfg s).1 h).1
theorem Shaped.opsMask {cfg : Cfg} {s : State} (h : Shaped cfg s) : Jx.Grid.shaped s.opsMask cfg.J cfg.O = true :=
  ((Shaped_iff cfg s).1 h).2.2.1
theorem Shaped.mjob_len {cfg : Cfg} {s : State} (h : Shaped cfg s) : s.mjob.length = cfg.M := h.2.2.2.2.2.1
theorem Shaped.mrem_len {cfg : Cfg} {s : State} (h : Shaped cfg s) : s.mrem.length = cfg.M := h.2.2.2.2.2.2

/-! ### the components of `Inv` -/

theorem Inv.shaped {cfg : Cfg} {s : State} (h : Inv cfg s) : Shaped cfg s := h.1
theorem Inv.machinesOK {cfg : Cfg} {s : State} (h : Inv cfg s) : MachinesOK cfg s := h.2.1
theorem Inv.feasible {cfg : Cfg} {s : State} (h : Inv cfg s) : Feasible cfg s := h.2.2.1
theorem Inv.clock {cfg : Cfg} {s : State} (h : Inv cfg s) : 0 ≤ s.stepCount := h.2.2.1.1
theorem Inv.past {cfg : Cfg} {s : State} (h : Inv cfg s) : PastOK cfg s := h.2.2.1.2.1
theorem Inv.jobOrder {cfg : Cfg} {s : State} (h : Inv cfg s) : JobOrderOK cfg s := h.2.2.1.2.2.1
theorem Inv.machine {cfg : Cfg} {s : State} (h : Inv cfg s) : MachineOK cfg s := h.2.2.1.2.2.2
theorem Inv.book {cfg : Cfg} {s : State} (h : Inv cfg s) : Bookkeeping cfg s := h.2.2.2
theorem Inv.mask {cfg : Cfg} {s : State} (h : Inv cfg s) : MaskOK cfg s := h.2.2.2.1
theorem Inv.fields {cfg : Cfg} {s : State} (h : Inv cfg s) {m : Nat} (hm : m < cfg.M) :
    0 ≤ s.remAt m ∧ RemUpper cfg s m ∧ RemAttained cfg s m := h.2.2.2.2 m hm

/-! ### the next op of a job -/

def nextOf (s : State) (j : Nat) : Nat := (opIds s.opsMask).getD j 0

theorem nextOf_eq (s : State) (j : Nat) : nextOf s j = Jx.argmaxBool (s.opsMask.getD j []) := by
  unfold nextOf opIds
  simp only [List.getD_eq_getElem?_getD, List.getElem?_map]
  cases s.opsMask[j]? <;> simp [Jx.argmaxBool, Jx.argmax]

theorem maskAt_eq (s : State) (j k : Nat) : s.maskAt j k = (s.opsMask.getD j []).getD k false := rfl

theorem nextOf_spec (cfg : Cfg) (s : State) (hS : Shaped cfg s) {j : Nat} (hj : j < cfg.J)
    (h : ∃ k, k < cfg.O ∧ s.maskAt j k = true) :
    nextOf s j < cfg.O ∧ s.maskAt j (nextOf s j) = true ∧ ∀ k', k' < nextOf s j → s.maskAt j k' = false := by
  have hlen : (s.opsMask.getD j []).length = cfg.O := Jx.Grid.shaped_row hS.opsMask hj
  have hany : (s.opsMask.getD j []).any id = true := by
    rw [Jx.any_iff_getD _ id false]; obtain ⟨k, hk, hm⟩ := h; exact ⟨k, by omega, hm⟩
  have := Jx.idxOf_true_spec _ hany
  rw [nextOf_eq, Jx.argmaxBool_eq, if_pos hany]
  simp only [maskAt_eq]
  exact ⟨by omega, this.2.1, this.2.2⟩

theorem isNextOp_unique (cfg : Cfg) (s : State) {j k k' : Nat} (h : isNextOp cfg s j k)
    (h' : isNextOp cfg s j k') : k = k' := by
  obtain ⟨h1, h2, h3, h4⟩ := h
  obtain ⟨h1', h2', h3', h4'⟩ := h'
  by_cases hlt : k < k'
  · exact absurd ⟨h2, h3⟩ (h4' k hlt)
  · by_cases hgt : k' < k
    · exact absurd ⟨h2', h3'⟩ (h4 k' hgt)
    · omega

theorem nextOf_isNextOp (cfg : Cfg) (s : State) (hS : Shaped cfg s) (hM : MaskOK cfg s) {j : Nat}
    (hj : j < cfg.J) (h : ∃ k, k < cfg.O ∧ s.maskAt j k = true) : isNextOp cfg s j (nextOf s j) := by
  obtain ⟨h1, h2, h3⟩ := nextOf_spec cfg s hS hj h
  have := (hM j hj _ h1).1 h2
  refine ⟨h1, this.1, this.2, ?_⟩
  intro k' hk' hc
  have := (hM j hj k' (by omega)).2 hc
  rw [h3 k' hk'] at this
  exact Bool.noConfusion this

theorem isNextOp_mask (cfg : Cfg) (s : State) (hM : MaskOK cfg s) {j k : Nat} (hj : j < cfg.J)
    (h : isNextOp cfg s j k) : k < cfg.O ∧ s.maskAt j k = true :=
  ⟨h.1, (hM j hj k h.1).2 ⟨h.2.1, h.2.2.1⟩⟩

theorem nextOf_eq_of_isNextOp (cfg : Cfg) (s : State) (hS : Shaped cfg s) (hM : MaskOK cfg s) {j k : Nat}
    (hj : j < cfg.J) (h : isNextOp cfg s j k) : nextOf s j = k :=
  isNextOp_unique cfg s (nextOf_isNextOp cfg s hS hM hj ⟨k, isNextOp_mask cfg s hM hj h⟩) h

/-! ### the machine fields versus the schedule -/

theorem busy_iff (cfg : Cfg) (s : State) (hB : Bookkeeping cfg s) {m : Nat} (hm : m < cfg.M) :
    machineBusy cfg s m ↔ 0 < s.remAt m := by
  obtain ⟨h0, hU, hA⟩ := hB.2 m hm
  constructor
  · rintro ⟨j, hj, k, hk, ⟨hs, hrun⟩, hmid⟩
    have := hU j hj k hk hs hmid
    omega
  · intro h
    obtain ⟨j, hj, k, hk, hs, hmid, _, he⟩ := hA h
    exact ⟨j, hj, k, hk, ⟨hs, by omega⟩, hmid⟩

theorem running_unique (cfg : Cfg) (s : State) (hP : PastOK cfg s) (hM : MachineOK cfg s) {j k j' k' : Nat}
    (hj : j < cfg.J) (hk : k < cfg.O) (hj' : j' < cfg.J) (hk' : k' < cfg.O) (h : running s j k) (h' : running s j' k')
    (hmid : s.midAt j k = s.midAt j' k') : j = j' ∧ k = k' := by
  refine Decidable.byContradiction fun hne => ?_
  -- both started before the clock and end after it, so their intervals meet
  have := hM j hj k hk j' hj' k' hk' h.1 h'.1 hmid (by omega)
  have := hP j hj k hk h.1
  have := hP j' hj' k' hk' h'.1
  have := h.2
  have := h'.2
  omega

theorem running_on (cfg : Cfg) (s : State) (hB : Bookkeeping cfg s) {m : Nat} (hm : m < cfg.M) (hpos : 0 < s.remAt m) :
    ∃ j, j < cfg.J ∧ ∃ k, k < cfg.O ∧ running s j k ∧ s.midAt j k = (m : Int) ∧ s.jobAt m = (j : Int) := by
  obtain ⟨j, hj, k, hk, hs, hmid, hjob, he⟩ := (hB.2 m hm).2.2 hpos
  exact ⟨j, hj, k, hk, ⟨hs, by omega⟩, hmid, hjob⟩

theorem jobRunning_iff (cfg : Cfg) (s : State) (hI : Inv cfg s) {j : Nat} (hj : j < cfg.J) :
    jobRunning cfg s j ↔ ∃ m, m < cfg.M ∧ s.jobAt m = (j : Int) ∧ 0 < s.remAt m := by
  constructor
  · rintro ⟨k, hk, hr⟩
    obtain ⟨hm0, hm1⟩ := hI.machinesOK j hj k hk hr.1.1
    have hmM : (s.midAt j k).toNat < cfg.M := by omega
    have hmid : s.midAt j k = (((s.midAt j k).toNat : Nat) : Int) := by omega
    have hpos := (busy_iff cfg s hI.book hmM).1 ⟨j, hj, k, hk, hr, hmid⟩
    obtain ⟨j', hj', k', hk', hr', hmid', hjob'⟩ := running_on cfg s hI.book hmM hpos
    obtain ⟨rfl, _⟩ := running_unique cfg s hI.past hI.machine hj hk hj' hk' hr hr' (hmid.trans hmid'.symm)
    exact ⟨_, hmM, hjob', hpos⟩
  · rintro ⟨m, hm, hjob, hpos⟩
    obtain ⟨j', hj', k, hk, hr, _, hjob'⟩ := running_on cfg s hI.book hm hpos
    obtain rfl : j' = j := by omega
    exact ⟨k, hk, hr⟩

/-! ### C04: mask = rules -/

theorem createActionMask_at (cfg : Cfg) (mjob mrem : List Int) (mid : List (List Int))
    (opsMask : List (List Bool)) {m c : Nat} (hm : m < cfg.M) (hc : c ≤ cfg.J) :
    at2 (createActionMask cfg mjob mrem mid opsMask) false m c =
      if c < cfg.J then isActionValid cfg mjob mrem mid opsMask c ((opIds opsMask).getD c 0) m else true := by
  unfold createActionMask at2
  -- `simp only []` (here and below): only reduces the `let`s that `unfold` exposed
  simp only []
  rw [Jx.getD_range_map _ _ hm]
  by_cases h : c < cfg.J
  · simp [h, List.getD_eq_getElem?_getD, List.getElem?_append_left]
  · have : c = cfg.J := by omega
    subst this
    simp [List.getD_eq_getElem?_getD]

theorem ready_iff (cfg : Cfg) (s : State) (j : Nat) :
    ((List.range cfg.M).any fun m' => s.mjob.getD m' 0 == (j : Int) && decide (s.mrem.getD m' 0 > 0)) = true
      ↔ ∃ m, m < cfg.M ∧ s.jobAt m = (j : Int) ∧ 0 < s.remAt m := by
  simp [List.any_eq_true, State.jobAt, State.remAt]

theorem finished_iff (cfg : Cfg) (s : State) (hS : Shaped cfg s) {j : Nat} (hj : j < cfg.J) :
    ((s.opsMask.getD j []).all (fun b => !b)) = false ↔ ∃ k, k < cfg.O ∧ s.maskAt j k = true := by
  have hlen : (s.opsMask.getD j []).length = cfg.O := Jx.Grid.shaped_row hS.opsMask hj
  have : ∀ l : List Bool, (l.all (fun b => !b)) = !(l.any id) := by
    intro l; induction l <;> simp_all
  rw [this]
  simp only [Bool.not_eq_false', Jx.any_iff_getD _ id false, hlen, maskAt_eq, id]

theorem mask_iff_legal (cfg : Cfg) (s : State) (hI : Inv cfg s) {m c : Nat} (hm : m < cfg.M)
    (hc : c ≤ cfg.J) : at2 (maskOf cfg s) false m c = true ↔ legal cfg s m c := by
  unfold maskOf
  rw [createActionMask_at cfg _ _ _ _ hm hc]
  by_cases h : c < cfg.J
  · rw [if_pos h]
    have hS := hI.shaped
    have hMask := hI.mask
    have hbusy := busy_iff cfg s hI.book hm
    have hrun := jobRunning_iff cfg s hI h
    have h0 := (hI.fields hm).1
    unfold isActionValid legal
    simp only [Bool.and_eq_true, Bool.not_eq_true', beq_iff_eq]
    rw [← Bool.not_eq_true, ready_iff cfg s c, finished_iff cfg s hS h, ← hrun, hbusy]
    change ((s.remAt m = 0 ∧ s.midAt c (nextOf s c) = (m : Int)) ∧ ¬ jobRunning cfg s c) ∧ _ ↔ _
    constructor
    · rintro ⟨⟨⟨a1, a2⟩, a3⟩, a4⟩
      exact ⟨hm, Or.inr ⟨h, by omega, a3, nextOf s c, (nextOf_spec cfg s hS h a4).1,
        nextOf_isNextOp cfg s hS hMask h a4, a2⟩⟩
    · rintro ⟨_, hh⟩
      rcases hh with hh | ⟨_, b1, b2, k, hk, b3, b4⟩
      · omega
      · obtain rfl := nextOf_eq_of_isNextOp cfg s hS hMask h b3
        exact ⟨⟨⟨by omega, b4⟩, b2⟩, _, isNextOp_mask cfg s hMask h b3⟩
  · have : c = cfg.J := by omega
    subst this
    simp [legal, hm]

/-! ### the successor state, field by field -/

theorem next_stepCount (cfg : Cfg) (s : State) (a : List Int) : (next cfg s a).stepCount = s.stepCount + 1 := rfl
theorem next_mid (cfg : Cfg) (s : State) (a : List Int) : (next cfg s a).mid = s.mid := rfl
theorem next_dur (cfg : Cfg) (s : State) (a : List Int) : (next cfg s a).dur = s.dur := rfl
theorem next_midAt (cfg : Cfg) (s : State) (a : List Int) (j k : Nat) : (next cfg s a).midAt j k = s.midAt j k := rfl
theorem next_durAt (cfg : Cfg) (s : State) (a : List Int) (j k : Nat) : (next cfg s a).durAt j k = s.durAt j k := rfl
theorem next_amask (cfg : Cfg) (s : State) (a : List Int) : (next cfg s a).amask = maskOf cfg (next cfg s a) := rfl

theorem next_schedAt (cfg : Cfg) (s : State) (a : List Int) {j k : Nat} (hj : j < cfg.J) (hk : k < cfg.O) :
    (next cfg s a).schedAt j k = if hit s a j k then s.stepCount else s.schedAt j k :=
  Jx.Grid.get_table cfg.J cfg.O _ (-1) hj hk

theorem next_maskAt (cfg : Cfg) (s : State) (a : List Int) {j k : Nat} (hj : j < cfg.J) (hk : k < cfg.O) :
    (next cfg s a).maskAt j k = (s.maskAt j k && !(hit s a j k)) :=
  Jx.Grid.get_table cfg.J cfg.O _ false hj hk

theorem next_jobAt (cfg : Cfg) (s : State) (a : List Int) {m : Nat} (hm : m < cfg.M) :
    (next cfg s a).jobAt m =
      if actAt a m = (cfg.J : Int) then (if s.remAt m = 0 then (cfg.J : Int) else s.jobAt m) else actAt a m := by
  show (updJob cfg s a).getD m 0 = _
  unfold updJob
  rw [Jx.getD_range_map _ _ hm]
  by_cases h1 : actAt a m = (cfg.J : Int) <;> by_cases h2 : s.remAt m = 0 <;> simp [h1, h2]

theorem next_remAt (cfg : Cfg) (s : State) (a : List Int) {m : Nat} (hm : m < cfg.M) :
    (next cfg s a).remAt m =
      (let rt := if actAt a m = (cfg.J : Int) then s.remAt m else selDur s (opIds s.opsMask) (actAt a m)
       if rt > 0 then rt - 1 else 0) := by
  show (updRem cfg s a).getD m 0 = _
  unfold updRem
  simp only []
  rw [Jx.getD_range_map _ _ hm]
  by_cases h1 : actAt a m = (cfg.J : Int) <;> simp [h1]

theorem next_noop (cfg : Cfg) (s : State) (a : List Int) {m : Nat} (hm : m < cfg.M)
    (hno : actAt a m = (cfg.J : Int)) :
    (next cfg s a).remAt m = (if s.remAt m > 0 then s.remAt m - 1 else 0) ∧
    (next cfg s a).jobAt m = if s.remAt m = 0 then (cfg.J : Int) else s.jobAt m := by
  rw [next_remAt cfg s a hm, next_jobAt cfg s a hm]
  simp [hno]

theorem selDur_eq (cfg : Cfg) (s : State) (hS : Shaped cfg s) {j : Nat} (hj : j < cfg.J)
    (hn : nextOf s j < cfg.O) : selDur s (opIds s.opsMask) (j : Int) = s.durAt j (nextOf s j) := by
  obtain ⟨h1, h2, h3, h4, h5, h6, h7⟩ := hS
  unfold selDur Jx.Grid.getWC
  have hl : j < (opIds s.opsMask).length := by unfold opIds; simp; omega
  rw [Jx.getWC_nat _ _ hl, Jx.getWC_nat _ _ (by omega : j < s.dur.length)]
  have hr : (s.dur.getD j []).length = cfg.O := (h5 j hj).2.1
  change Jx.getWC (s.dur.getD j []) 0 ((nextOf s j : Nat) : Int) = _
  rw [Jx.getWC_nat _ _ (by omega : nextOf s j < (s.dur.getD j []).length)]
  exact Jx.getD_irrel _ _ (by omega)

theorem isNewJob_iff (a : List Int) (j : Nat) :
    isNewJob a j = true ↔ ∃ m, m < a.length ∧ actAt a m = (j : Int) := by
  unfold isNewJob actAt
  rw [Jx.any_iff_getD _ _ 0]
  simp only [beq_iff_eq]

theorem legal_facts (cfg : Cfg) (s : State) (a : List Int) (hL : legalAction cfg s a) {m j : Nat}
    (hm : m < cfg.M) (hj : j < cfg.J) (ha : actAt a m = (j : Int)) :
    ¬ machineBusy cfg s m ∧ ¬ jobRunning cfg s j ∧ ∃ k, k < cfg.O ∧ isNextOp cfg s j k ∧ s.midAt j k = (m : Int) := by
  obtain ⟨_, hleg⟩ := (hL.2 m hm)
  rw [ha] at hleg
  simp only [Int.toNat_natCast] at hleg
  obtain ⟨_, h | ⟨_, h1, h2, h3⟩⟩ := hleg
  · omega
  · exact ⟨h1, h2, h3⟩

theorem hit_iff (cfg : Cfg) (s : State) (a : List Int) (hS : Shaped cfg s) (hM : MaskOK cfg s) (hL : legalAction cfg s a)
    {j k : Nat} (hj : j < cfg.J) : hit s a j k = true ↔ Hit cfg s a j k := by
  unfold hit Hit
  rw [Bool.and_eq_true, isNewJob_iff, hL.1]
  change (_ ∧ (k == nextOf s j) = true) ↔ _
  constructor
  · rintro ⟨⟨m, hm, ha⟩, hk'⟩
    obtain ⟨_, _, k', _, hn, _⟩ := legal_facts cfg s a hL hm hj ha
    have hk2 : k = nextOf s j := by simpa using hk'
    rw [hk2, nextOf_eq_of_isNextOp cfg s hS hM hj hn]
    exact ⟨m, hm, ha, hn⟩
  · rintro ⟨m, hm, ha, hn⟩
    exact ⟨⟨m, hm, ha⟩, by simp [nextOf_eq_of_isNextOp cfg s hS hM hj hn]⟩

theorem schedAt_next (cfg : Cfg) (s : State) (a : List Int) (hS : Shaped cfg s) (hM : MaskOK cfg s) (hL : legalAction cfg s a)
    {j k : Nat} (hj : j < cfg.J) (hk : k < cfg.O) :
    (next cfg s a).schedAt j k = if Hit cfg s a j k then s.stepCount else s.schedAt j k := by
  simp only [next_schedAt cfg s a hj hk, hit_iff cfg s a hS hM hL hj]

/-! ### C06: legal play preserves the invariant -/

section preserve
variable (cfg : Cfg) (s : State) (a : List Int) (hI : Inv cfg s) (hL : legalAction cfg s a)
include hI hL

omit hI in
theorem hit_full {j k : Nat} (hj : j < cfg.J) (h : Hit cfg s a j k) :
    ∃ m, m < cfg.M ∧ actAt a m = (j : Int) ∧ isNextOp cfg s j k ∧ s.midAt j k = (m : Int) ∧
      ¬ machineBusy cfg s m ∧ ¬ jobRunning cfg s j := by
  obtain ⟨m, hm, ha, hn⟩ := h
  obtain ⟨nb, nr, k', _, hn', hmid⟩ := legal_facts cfg s a hL hm hj ha
  have := isNextOp_unique cfg s hn hn'
  subst this
  exact ⟨m, hm, ha, hn, hmid, nb, nr⟩

omit hI hL in
theorem hit_not_sched {j k : Nat} (h : Hit cfg s a j k) : ¬ isSched s j k := by
  obtain ⟨m, hm, ha, hn⟩ := h
  exact hn.2.2.1

theorem endTime_next {j k : Nat} (hj : j < cfg.J) (hk : k < cfg.O) :
    endTime (next cfg s a) j k = if Hit cfg s a j k then s.stepCount + s.durAt j k else endTime s j k := by
  unfold endTime
  rw [next_durAt, schedAt_next cfg s a hI.shaped hI.mask hL hj hk]
  split <;> rfl

theorem isSched_next {j k : Nat} (hj : j < cfg.J) (hk : k < cfg.O) :
    isSched (next cfg s a) j k ↔ (Hit cfg s a j k ∨ isSched s j k) := by
  have hc : 0 ≤ s.stepCount := hI.clock
  unfold isSched isOp
  rw [next_midAt, schedAt_next cfg s a hI.shaped hI.mask hL hj hk]
  by_cases hH : Hit cfg s a j k
  · have hop : s.midAt j k ≠ -1 := by obtain ⟨m, hm, ha, hn⟩ := hH; exact hn.2.1
    simp only [hH, if_true, true_or, iff_true]
    exact ⟨hop, by omega⟩
  · simp only [hH, if_false, false_or]

omit hI in
theorem hit_on {j k m : Nat} (hj : j < cfg.J) (h : Hit cfg s a j k) (hmid : s.midAt j k = (m : Int)) :
    actAt a m = (j : Int) := by
  obtain ⟨m1, hm1, ha1, _, hmid1, _, _⟩ := hit_full cfg s a hL hj h
  have : m1 = m := by omega
  exact this ▸ ha1

omit hI in
theorem hit_unique {j k j' k' : Nat} (hj : j < cfg.J) (hj' : j' < cfg.J) (h : Hit cfg s a j k)
    (h' : Hit cfg s a j' k') (hmid : s.midAt j k = s.midAt j' k') : j = j' ∧ k = k' := by
  obtain ⟨m, hm, ha, hn, hm1, _, _⟩ := hit_full cfg s a hL hj h
  have ha' := hit_on cfg s a hL hj' h' (hmid ▸ hm1)
  obtain rfl : j = j' := by omega
  obtain ⟨_, _, _, hn'⟩ := h'
  exact ⟨rfl, isNextOp_unique cfg s hn hn'⟩

theorem next_hit {j k : Nat} (hj : j < cfg.J) (hk : k < cfg.O) (h : Hit cfg s a j k) :
    isSched (next cfg s a) j k ∧ (next cfg s a).schedAt j k = s.stepCount ∧
      endTime (next cfg s a) j k = s.stepCount + s.durAt j k :=
  ⟨(isSched_next cfg s a hI hL hj hk).2 (Or.inl h),
    (schedAt_next cfg s a hI.shaped hI.mask hL hj hk).trans (if_pos h), (endTime_next cfg s a hI hL hj hk).trans (if_pos h)⟩

theorem next_old {j k : Nat} (hj : j < cfg.J) (hk : k < cfg.O) (h : isSched s j k) :
    isSched (next cfg s a) j k ∧ (next cfg s a).schedAt j k = s.schedAt j k ∧
      endTime (next cfg s a) j k = endTime s j k :=
  have hnh : ¬ Hit cfg s a j k := fun hh => hit_not_sched cfg s a hh h
  ⟨(isSched_next cfg s a hI hL hj hk).2 (Or.inr h),
    (schedAt_next cfg s a hI.shaped hI.mask hL hj hk).trans (if_neg hnh), (endTime_next cfg s a hI hL hj hk).trans (if_neg hnh)⟩

theorem sched_next_cases {j k : Nat} (hj : j < cfg.J) (hk : k < cfg.O) (hs : isSched (next cfg s a) j k) :
    (Hit cfg s a j k ∧ (next cfg s a).schedAt j k = s.stepCount ∧
      endTime (next cfg s a) j k = s.stepCount + s.durAt j k) ∨
    (isSched s j k ∧ (next cfg s a).schedAt j k = s.schedAt j k ∧
      endTime (next cfg s a) j k = endTime s j k) :=
  ((isSched_next cfg s a hI hL hj hk).1 hs).imp (fun h => ⟨h, (next_hit cfg s a hI hL hj hk h).2⟩)
    (fun h => ⟨h, (next_old cfg s a hI hL hj hk h).2⟩)

omit hI hL in
theorem not_jobRunning_end {j k : Nat} (hk : k < cfg.O) (h : ¬ jobRunning cfg s j) (hs : isSched s j k) :
    endTime s j k ≤ s.stepCount := by
  by_cases hlt : s.stepCount < endTime s j k
  · exact absurd ⟨k, hk, hs, hlt⟩ h
  · omega

omit hI hL in
theorem not_busy_end {m j k : Nat} (hj : j < cfg.J) (hk : k < cfg.O) (h : ¬ machineBusy cfg s m)
    (hs : isSched s j k) (hmid : s.midAt j k = (m : Int)) : endTime s j k ≤ s.stepCount := by
  by_cases hlt : s.stepCount < endTime s j k
  · exact absurd ⟨j, hj, k, hk, ⟨hs, hlt⟩, hmid⟩ h
  · omega

theorem past_next : PastOK cfg (next cfg s a) := by
  intro j hj k hk hs
  have hc : 0 ≤ s.stepCount := hI.clock
  rw [next_stepCount]
  rcases sched_next_cases cfg s a hI hL hj hk hs with ⟨_, e, _⟩ | ⟨h, e, _⟩
  · omega
  · have := hI.past j hj k hk h
    omega

theorem jobOrder_next : JobOrderOK cfg (next cfg s a) := by
  intro j hj k' hk' k hkk hop hs'
  have hk : k < cfg.O := by omega
  rcases sched_next_cases cfg s a hI hL hj hk' hs' with ⟨h, e', _⟩ | ⟨h, e', _⟩
  · -- the op started now is the next op of its job: every earlier op is scheduled, and none is running
    obtain ⟨m, hm, ha, hn, hmid, nb, nr⟩ := hit_full cfg s a hL hj h
    have hsk : isSched s j k := Decidable.byContradiction fun hsk => hn.2.2.2 k hkk ⟨hop, hsk⟩
    obtain ⟨hs, _, e⟩ := next_old cfg s a hI hL hj hk hsk
    have := not_jobRunning_end cfg s hk nr hsk
    exact ⟨hs, by omega⟩
  · obtain ⟨h1, h2⟩ := hI.jobOrder j hj k' hk' k hkk hop h
    obtain ⟨hs, _, e⟩ := next_old cfg s a hI hL hj hk h1
    exact ⟨hs, by omega⟩

theorem machine_next : MachineOK cfg (next cfg s a) := by
  intro j hj k hk j' hj' k' hk' hs hs' hmid hne
  have hmid0 : s.midAt j k = s.midAt j' k' := hmid
  rcases sched_next_cases cfg s a hI hL hj hk hs with ⟨h, e1, e2⟩ | ⟨h, e1, e2⟩ <;>
  rcases sched_next_cases cfg s a hI hL hj' hk' hs' with ⟨h', e1', e2'⟩ | ⟨h', e1', e2'⟩
  · have := hit_unique cfg s a hL hj hj' h h' hmid0
    omega
  · obtain ⟨m, hm, ha, hn, hm1, nb, _⟩ := hit_full cfg s a hL hj h
    have := not_busy_end cfg s hj' hk' nb h' (by omega)
    exact Or.inr (by omega)
  · obtain ⟨m, hm, ha, hn, hm1, nb, _⟩ := hit_full cfg s a hL hj' h'
    have := not_busy_end cfg s hj hk nb h (by omega)
    exact Or.inl (by omega)
  · rw [e1, e2, e1', e2']
    exact hI.machine j hj k hk j' hj' k' hk' h h' hmid0 hne

theorem feasible_next : Feasible cfg (next cfg s a) := by
  refine ⟨?_, past_next cfg s a hI hL, jobOrder_next cfg s a hI hL, machine_next cfg s a hI hL⟩
  have hc : 0 ≤ s.stepCount := hI.clock
  rw [next_stepCount]; omega

theorem mask_next : MaskOK cfg (next cfg s a) := by
  intro j hj k hk
  rw [next_maskAt cfg s a hj hk, isSched_next cfg s a hI hL hj hk, Bool.and_eq_true, Bool.not_eq_true',
    ← Bool.not_eq_true, hI.mask j hj k hk, hit_iff cfg s a hI.shaped hI.mask hL hj, not_or]
  exact ⟨fun ⟨⟨h1, h2⟩, h3⟩ => ⟨h1, h3, h2⟩, fun ⟨h1, h3, h2⟩ => ⟨⟨h1, h2⟩, h3⟩⟩

omit hI in
theorem act_cases {m : Nat} (hm : m < cfg.M) :
    actAt a m = (cfg.J : Int) ∨ ∃ j, j < cfg.J ∧ actAt a m = (j : Int) := by
  obtain ⟨h0, hleg⟩ := hL.2 m hm
  obtain ⟨_, h | ⟨h, _⟩⟩ := hleg
  · left; omega
  · right; exact ⟨(actAt a m).toNat, h, by omega⟩

/-- what machine `m` does in a legal step: it waits, or, being free, it starts the next op of a job -/
theorem machine_cases {m : Nat} (hm : m < cfg.M) :
    ((∀ j, j < cfg.J → ∀ k, Hit cfg s a j k → s.midAt j k ≠ (m : Int)) ∧
      (next cfg s a).remAt m = (if s.remAt m > 0 then s.remAt m - 1 else 0) ∧
      (next cfg s a).jobAt m = if s.remAt m = 0 then (cfg.J : Int) else s.jobAt m) ∨
    (∃ j, j < cfg.J ∧ ∃ k, k < cfg.O ∧ Hit cfg s a j k ∧ s.midAt j k = (m : Int) ∧ ¬ machineBusy cfg s m ∧
      (next cfg s a).remAt m = (if s.durAt j k > 0 then s.durAt j k - 1 else 0) ∧
      (next cfg s a).jobAt m = (j : Int)) := by
  rcases act_cases cfg s a hL hm with hno | ⟨j, hj, haj⟩
  · refine Or.inl ⟨fun j hj k hH hmid => ?_, next_noop cfg s a hm hno⟩
    have := hit_on cfg s a hL hj hH hmid
    omega
  · obtain ⟨nb, _, k, hk, hn, hmid⟩ := legal_facts cfg s a hL hm hj haj
    have hnk := nextOf_eq_of_isNextOp cfg s hI.shaped hI.mask hj hn
    have hne : actAt a m ≠ (cfg.J : Int) := by omega
    refine Or.inr ⟨j, hj, k, hk, ⟨m, hm, haj, hn⟩, hmid, nb, ?_, ?_⟩
    · rw [next_remAt cfg s a hm]
      simp only [hne, if_false]
      rw [haj, selDur_eq cfg s hI.shaped hj (by omega), hnk]
    · rw [next_jobAt cfg s a hm, if_neg hne]; exact haj

theorem machine_fields_next {m : Nat} (hm : m < cfg.M) :
    0 ≤ (next cfg s a).remAt m ∧ RemUpper cfg (next cfg s a) m ∧ RemAttained cfg (next cfg s a) m := by
  obtain ⟨h0, hU, hA⟩ := hI.fields hm
  rcases machine_cases cfg s a hI hL hm with ⟨hnone, hrem, hjob⟩ | ⟨j, hj, k, hk, hH, hmid, nb, hrem, hjob⟩
  · -- the ops on `m` are the old ones, one step closer to completion
    refine ⟨by rw [hrem]; split <;> omega, ?_, ?_⟩
    · intro j hj k hk hs hmid
      rw [next_stepCount, hrem]
      rcases sched_next_cases cfg s a hI hL hj hk hs with ⟨h, _, _⟩ | ⟨h, _, e⟩
      · exact absurd hmid (hnone j hj k h)
      · have := hU j hj k hk h hmid
        split <;> omega
    · intro hpos
      rw [hrem] at hpos
      have hp : 0 < s.remAt m := by split at hpos <;> omega
      obtain ⟨j, hj, k, hk, hs, hmid, hjb, he⟩ := hA hp
      obtain ⟨hs', _, e⟩ := next_old cfg s a hI hL hj hk hs
      refine ⟨j, hj, k, hk, hs', hmid, ?_, ?_⟩
      · rw [hjob, if_neg (by omega)]; exact hjb
      · rw [e, next_stepCount, hrem, if_pos hp]; omega
  · -- the old ops on `m` have completed (it was free); `(j,k)` is the only new one
    obtain ⟨hs', _, e⟩ := next_hit cfg s a hI hL hj hk hH
    refine ⟨by rw [hrem]; split <;> omega, ?_, ?_⟩
    · intro j2 hj2 k2 hk2 hs hmid2
      rw [next_stepCount, hrem]
      rcases sched_next_cases cfg s a hI hL hj2 hk2 hs with ⟨h, _, e2⟩ | ⟨h, _, e2⟩
      · obtain ⟨rfl, rfl⟩ := hit_unique cfg s a hL hj2 hj h hH (hmid2.trans hmid.symm)
        split <;> omega
      · have := not_busy_end cfg s hj2 hk2 nb h hmid2
        split <;> omega
    · intro hpos
      rw [hrem] at hpos
      have hp : 1 < s.durAt j k := by split at hpos <;> omega
      exact ⟨j, hj, k, hk, hs', hmid, hjob, by rw [e, next_stepCount, hrem, if_pos (by omega)]; omega⟩

omit hI hL in
theorem shaped_next (hS : Shaped cfg s) : Shaped cfg (next cfg s a) :=
  (Shaped_iff cfg _).2 ⟨hS.mid, ((Shaped_iff cfg s).1 hS).2.1, Jx.Grid.shaped_table .., Jx.Grid.shaped_table ..,
    by simp [next, updJob], by simp [next, updRem]⟩

/-- C06: a legal action keeps the schedule feasible and the bookkeeping consistent -/
theorem inv_next : Inv cfg (next cfg s a) :=
  -- `MachinesOK` reads the instance arrays only, and `next` leaves them as they are
  ⟨shaped_next cfg s a hI.shaped, hI.machinesOK, feasible_next cfg s a hI hL,
   mask_next cfg s a hI hL, fun _ hm => machine_fields_next cfg s a hI hL hm⟩

end preserve

/-! ### C04/C05: the environment's own validity test -/

theorem legalAction_inSpec (cfg : Cfg) (s : State) (a : List Int) (h : legalAction cfg s a) : InSpec cfg a := by
  refine ⟨h.1, fun m hm => ?_⟩
  obtain ⟨h0, _, hl | ⟨hl, _⟩⟩ := h.2 m hm <;> omega

theorem maskOf_length (cfg : Cfg) (s : State) : (maskOf cfg s).length = cfg.M := by
  simp [maskOf, createActionMask]

theorem maskOf_row_length (cfg : Cfg) (s : State) {m : Nat} (hm : m < cfg.M) :
    ((maskOf cfg s).getD m []).length = cfg.J + 1 := by
  unfold maskOf createActionMask
  simp only []
  rw [Jx.getD_range_map _ _ hm]; simp

theorem gather_mask (cfg : Cfg) (s : State) {m c : Nat} (hm : m < cfg.M) (hc : c ≤ cfg.J) :
    Jx.Grid.getWC (maskOf cfg s) false (m : Int) (c : Int) = at2 (maskOf cfg s) false m c := by
  unfold Jx.Grid.getWC at2
  have h1 : m < (maskOf cfg s).length := by rw [maskOf_length]; exact hm
  rw [Jx.getWC_nat _ _ h1]
  have h2 : c < ((maskOf cfg s).getD m []).length := by rw [maskOf_row_length cfg s hm]; omega
  rw [Jx.getWC_nat _ _ h2]

/-- C04: on a state satisfying `Inv` whose cached mask is fresh, the environment's validity test (against the cached
mask) accepts exactly the legal actions -/
theorem invalid_iff (cfg : Cfg) (s : State) (a : List Int) (hI : Inv cfg s) (hC : s.amask = maskOf cfg s)
    (hA : InSpec cfg a) : invalid cfg s a = false ↔ legalAction cfg s a := by
  unfold invalid legalAction
  rw [Bool.not_eq_false', List.all_eq_true, hC]
  constructor
  · intro h
    refine ⟨hA.1, fun m hm => ?_⟩
    obtain ⟨h0, h1⟩ := hA.2 m hm
    refine ⟨h0, ?_⟩
    have := h m (List.mem_range.2 hm)
    have e : actAt a m = (((actAt a m).toNat : Nat) : Int) := by omega
    rw [e, gather_mask cfg s hm (by omega)] at this
    exact (mask_iff_legal cfg s hI hm (by omega)).1 this
  · rintro ⟨_, h⟩ m hm
    have hm := List.mem_range.1 hm
    obtain ⟨h0, h1⟩ := hA.2 m hm
    have e : actAt a m = (((actAt a m).toNat : Nat) : Int) := by omega
    rw [e, gather_mask cfg s hm (by omega)]
    exact (mask_iff_legal cfg s hI hm (by omega)).2 (h m hm).2

theorem step_fst (cfg : Cfg) (s : State) (a : List Int) : (step cfg s a).1 = next cfg s a := rfl

theorem step_reward (cfg : Cfg) (s : State) (a : List Int) : (step cfg s a).2.reward =
    [if invalid cfg s a || allIdle cfg (next cfg s a) then penalty cfg else -1] := condLast_reward _ _ _

theorem step_last_iff (cfg : Cfg) (s : State) (a : List Int) :
    (step cfg s a).2.stepType = .last ↔
      (invalid cfg s a = true ∨ allIdle cfg (next cfg s a) = true ∨ finished cfg (next cfg s a) = true) := by
  unfold step
  simp only [condLast_last_iff, Bool.or_eq_true, or_assoc]

theorem step_last_iff_rules (cfg : Cfg) (s : State) (a : List Int) (hI : Inv cfg s) (hC : s.amask = maskOf cfg s)
    (hA : InSpec cfg a) :
    (step cfg s a).2.stepType = .last ↔
      (¬ legalAction cfg s a ∨ allIdle cfg (next cfg s a) = true ∨ finished cfg (next cfg s a) = true) := by
  rw [step_last_iff]
  have := invalid_iff cfg s a hI hC hA
  constructor
  · rintro (h | h | h)
    · left; intro hl; rw [this.2 hl] at h; cases h
    · exact Or.inr (Or.inl h)
    · exact Or.inr (Or.inr h)
  · rintro (h | h | h)
    · left
      cases hv : invalid cfg s a with
      | true => rfl
      | false => exact absurd (this.1 hv) h
    · exact Or.inr (Or.inl h)
    · exact Or.inr (Or.inr h)

/-- C05: an action the rules forbid ends the episode with the penalty −J·O·D -/
theorem illegal_terminates (cfg : Cfg) (s : State) (a : List Int) (hI : Inv cfg s)
    (hC : s.amask = maskOf cfg s) (hA : InSpec cfg a) (h : ¬ legalAction cfg s a) :
    (step cfg s a).2.stepType = .last ∧ (step cfg s a).2.reward = [penalty cfg] ∧
    (step cfg s a).2.discount = [0] := by
  have hinv : invalid cfg s a = true := by
    cases hh : invalid cfg s a
    · exact absurd ((invalid_iff cfg s a hI hC hA).1 hh) h
    · rfl
  unfold step condLast termination zerosR RShape.size
  simp [hinv]

theorem valid_step_reward (cfg : Cfg) (s : State) (a : List Int) (hv : invalid cfg s a = false)
    (hidle : allIdle cfg (next cfg s a) = false) :
    (step cfg s a).2.reward = [-1] ∧ (step cfg s a).1.stepCount = s.stepCount + 1 ∧
    ((step cfg s a).2.stepType = .last ↔ finished cfg (next cfg s a) = true) := by
  refine ⟨by rw [step_reward, hv, hidle]; rfl, rfl, ?_⟩
  rw [step_last_iff, hv, hidle]
  simp

/-! ### C12: the observation is `observe` of the successor -/

theorem obs_faithful (cfg : Cfg) (s : State) (a : List Int) :
    (step cfg s a).2.obs = observe cfg (step cfg s a).1 := by
  have h : obsOf (next cfg s a) = observe cfg (next cfg s a) := by
    unfold obsOf observe; rw [next_amask]
  exact (condLast_obs _ _ _).trans h

/-! ### reset -/

theorem init_maskAt (cfg : Cfg) (mid dur : List (List Int)) (j k : Nat) :
    (initState cfg mid dur).maskAt j k = ((initState cfg mid dur).midAt j k != -1) := by
  show Jx.Grid.get (Jx.Grid.map (fun x => x != -1) mid) false j k = (Jx.Grid.get mid (-1) j k != -1)
  exact Jx.Grid.get_map_default (fun x : Int => x != -1) mid (-1) j k

theorem inv_of_fresh (cfg : Cfg) (s : State) (hS : Shaped cfg s) (hM : MachinesOK cfg s) (h0 : s.stepCount = 0)
    (hsch : ∀ j, j < cfg.J → ∀ k, k < cfg.O → s.schedAt j k = -1) (hrem : ∀ m, m < cfg.M → s.remAt m = 0)
    (hmask : ∀ j, j < cfg.J → ∀ k, k < cfg.O → s.maskAt j k = (s.midAt j k != -1)) : Inv cfg s := by
  have hns : ∀ j, j < cfg.J → ∀ k, k < cfg.O → ¬ isSched s j k := fun j hj k hk h => h.2 (hsch j hj k hk)
  refine ⟨hS, hM, ⟨by omega, ?_, ?_, ?_⟩, ?_, ?_⟩
  · intro j hj k hk h; exact absurd h (hns j hj k hk)
  · intro j hj k' hk' k hkk _ h; exact absurd h (hns j hj k' hk')
  · intro j hj k hk j' hj' k' hk' h; exact absurd h (hns j hj k hk)
  · intro j hj k hk
    rw [hmask j hj k hk, bne_iff_ne]
    exact ⟨fun h => ⟨h, hns j hj k hk⟩, fun h => h.1⟩
  · intro m hm
    refine ⟨by rw [hrem m hm]; omega, fun j hj k hk h => absurd h (hns j hj k hk), fun h => ?_⟩
    rw [hrem m hm] at h; omega

/-- C06 (reset): the state the generators build satisfies the invariant, for every instance of
the right shape whose ops name machines of the shop -/
theorem init_inv (cfg : Cfg) (mid dur : List (List Int))
    (hmid : mid.length = cfg.J ∧ ∀ j, j < cfg.J → (mid.getD j []).length = cfg.O)
    (hdur : dur.length = cfg.J ∧ ∀ j, j < cfg.J → (dur.getD j []).length = cfg.O)
    (hM : MachinesOK cfg (initState cfg mid dur)) : Inv cfg (initState cfg mid dur) :=
  have hm : Jx.Grid.shaped mid cfg.J cfg.O = true := (Jx.Grid.shaped_iff ..).2 hmid
  inv_of_fresh cfg _ ((Shaped_iff cfg _).2 ⟨hm, (Jx.Grid.shaped_iff ..).2 hdur, Jx.Grid.shaped_map_of _ hm,
    Jx.Grid.shaped_mk .., by simp [initState], by simp [initState]⟩) hM rfl
    (fun _ hj _ hk => Jx.Grid.get_mk _ _ _ _ hj hk) (fun m hm => Jx.getD_replicate _ _ hm)
    fun j _ k _ => init_maskAt cfg mid dur j k

/-! ### C08: completion is detected exactly at the makespan -/

theorem mem_endTimes (cfg : Cfg) (s : State) (x : Int) :
    x ∈ endTimes cfg s ↔ ∃ j, j < cfg.J ∧ ∃ k, k < cfg.O ∧ isSched s j k ∧ x = endTime s j k :=
  Jx.mem_flatMap_filterMap_range cfg.J cfg.O (isSched s) (endTime s) x

theorem makespan_eq (cfg : Cfg) (s : State) (v : Int) (h0 : 0 ≤ v)
    (hle : ∀ j, j < cfg.J → ∀ k, k < cfg.O → isSched s j k → endTime s j k ≤ v)
    (hex : ∃ j, j < cfg.J ∧ ∃ k, k < cfg.O ∧ isSched s j k ∧ endTime s j k = v) : makespan cfg s = v := by
  unfold makespan
  apply Jx.foldl_max_eq _ _ _ h0
  · intro x hx
    obtain ⟨j, hj, k, hk, hs, rfl⟩ := (mem_endTimes cfg s x).1 hx
    exact hle j hj k hk hs
  · right
    obtain ⟨j, hj, k, hk, hs, he⟩ := hex
    exact (mem_endTimes cfg s v).2 ⟨j, hj, k, hk, hs, he.symm⟩

/-- the scheduled ops of machine `m` -/
def opsOn (cfg : Cfg) (s : State) (m : Nat) : List (Nat × Nat) :=
  (Jx.Grid.coords cfg.J cfg.O).filter fun p => decide (isSched s p.1 p.2 ∧ s.midAt p.1 p.2 = (m : Int))

/-- operation time scheduled on machine `m` -/
def load (cfg : Cfg) (s : State) (m : Nat) : Int := ((opsOn cfg s m).map fun p => s.durAt p.1 p.2).sum

theorem mem_opsOn {cfg : Cfg} {s : State} {m : Nat} {p : Nat × Nat} : p ∈ opsOn cfg s m ↔
    (p.1 < cfg.J ∧ p.2 < cfg.O) ∧ isSched s p.1 p.2 ∧ s.midAt p.1 p.2 = (m : Int) := by
  unfold opsOn
  rw [List.mem_filter, Jx.Grid.mem_coords, decide_eq_true_iff]

/-- In a feasible schedule the ops of one machine run one at a time, none before time 0: every common bound on
their completion times is at least their total duration. -/
theorem load_le (cfg : Cfg) (s : State) (hF : Feasible cfg s) (m : Nat)
    (hD : ∀ j, j < cfg.J → ∀ k, k < cfg.O → isSched s j k → 0 ≤ s.durAt j k) (T : Int) (hT0 : 0 ≤ T)
    (hT : ∀ j, j < cfg.J → ∀ k, k < cfg.O → isSched s j k → s.midAt j k = (m : Int) → endTime s j k ≤ T) :
    load cfg s m ≤ T := by
  obtain ⟨_, hP, _, hMch⟩ := hF
  have := Jx.sum_disjoint_le (fun p : Nat × Nat => s.schedAt p.1 p.2) (fun p => s.durAt p.1 p.2) _
    (opsOn cfg s m) (Nat.le_refl _) 0 T hT0
    (fun p hp => by
      obtain ⟨⟨hj, hk⟩, hs, hmid⟩ := mem_opsOn.1 hp
      exact ⟨(hP _ hj _ hk hs).1, hD _ hj _ hk hs, hT _ hj _ hk hs hmid⟩)
    (((Jx.Grid.nodup_coords cfg.J cfg.O).filter _).imp_of_mem fun {p q} hp hq hne => by
      obtain ⟨⟨hj, hk⟩, hs, hmid⟩ := mem_opsOn.1 hp
      obtain ⟨⟨hj', hk'⟩, hs', hmid'⟩ := mem_opsOn.1 hq
      refine hMch _ hj _ hk _ hj' _ hk' hs hs' (hmid.trans hmid'.symm) ?_
      refine Decidable.byContradiction fun h => hne (Prod.ext ?_ ?_) <;> omega)
  unfold load
  omega

theorem opsLeft_iff (cfg : Cfg) (s : State) (hS : Shaped cfg s) :
    (s.opsMask.any fun row => row.any id) = true ↔ ∃ j, j < cfg.J ∧ ∃ k, k < cfg.O ∧ s.maskAt j k = true := by
  rw [Jx.any_iff_getD _ _ [], Jx.Grid.shaped_length hS.opsMask]
  refine exists_congr fun j => and_congr_right fun hj => ?_
  rw [Jx.any_iff_getD _ id false, Jx.Grid.shaped_row hS.opsMask hj]
  rfl

theorem finished_iff_all (cfg : Cfg) (s : State) (hS : Shaped cfg s) :
    finished cfg s = true ↔ (∀ j, j < cfg.J → ∀ k, k < cfg.O → s.maskAt j k = false) ∧
      ∀ m, m < cfg.M → s.remAt m = 0 := by
  unfold finished
  rw [Bool.and_eq_true, Bool.not_eq_true', ← Bool.not_eq_true, opsLeft_iff cfg s hS, List.all_eq_true]
  simp only [List.mem_range, beq_iff_eq, not_exists, not_and, Bool.not_eq_true]

theorem not_finished_cases (cfg : Cfg) (s : State) (hS : Shaped cfg s) (hnf : finished cfg s = false) :
    (∃ j, j < cfg.J ∧ ∃ k, k < cfg.O ∧ s.maskAt j k = true) ∨ (∃ m, m < cfg.M ∧ s.remAt m ≠ 0) := by
  unfold finished at hnf
  rw [Bool.and_eq_false_iff, Bool.not_eq_false', opsLeft_iff cfg s hS, List.all_eq_false] at hnf
  simpa only [List.mem_range, beq_iff_eq] using hnf

theorem finished_iff_done (cfg : Cfg) (s : State) (hS : Shaped cfg s) (hMO : MachinesOK cfg s) (hBk : Bookkeeping cfg s) :
    finished cfg s = true ↔
      ∀ j, j < cfg.J → ∀ k, k < cfg.O → isOp s j k → isSched s j k ∧ endTime s j k ≤ s.stepCount := by
  obtain ⟨hMask, hB⟩ := hBk
  rw [finished_iff_all cfg s hS]
  constructor
  · rintro ⟨hall, hrem⟩ j hj k hk hop
    have hs : isSched s j k := by
      by_cases hs : isSched s j k
      · exact hs
      · have := (hMask j hj k hk).2 ⟨hop, hs⟩
        rw [hall j hj k hk] at this; exact Bool.noConfusion this
    refine ⟨hs, ?_⟩
    obtain ⟨hm0, hm1⟩ := hMO j hj k hk hop
    have hmM : (s.midAt j k).toNat < cfg.M := by omega
    have := (hB _ hmM).2.1 j hj k hk hs (by omega)
    rw [hrem _ hmM] at this
    omega
  · intro h
    refine ⟨fun j hj k hk => ?_, fun m hm => ?_⟩
    · cases hm : s.maskAt j k
      · rfl
      · obtain ⟨hop, hns⟩ := (hMask j hj k hk).1 hm
        exact absurd (h j hj k hk hop).1 hns
    · obtain ⟨h0, hU, hA⟩ := hB m hm
      by_cases hp : 0 < s.remAt m
      · obtain ⟨j, hj, k, hk, hs, _, _, he⟩ := hA hp
        have := (h j hj k hk hs.1).2
        omega
      · omega

theorem idleSpec_iff (cfg : Cfg) (s' : State) : idleSpec cfg s' ↔ allIdle cfg s' = true := by
  unfold idleSpec allIdle
  rw [List.all_eq_true]
  constructor
  · intro h m hm
    have := h m (List.mem_range.1 hm)
    simp [this.1, this.2]
  · intro h m hm
    have := h m (List.mem_range.2 hm)
    simpa using this

theorem allIdle_false_of_job (cfg : Cfg) (s' : State) {m : Nat} (hm : m < cfg.M)
    (h : s'.jobAt m ≠ (cfg.J : Int)) : allIdle cfg s' = false :=
  Bool.eq_false_iff.2 fun hi => h ((idleSpec_iff cfg s').2 hi m hm).1

section processed
variable (cfg : Cfg) (s : State) (a : List Int) (hI : Inv cfg s) (hL : legalAction cfg s a)
include hI hL

theorem not_idle_iff : allIdle cfg (next cfg s a) = false ↔
    ∃ j, j < cfg.J ∧ ∃ k, k < cfg.O ∧ (Hit cfg s a j k ∨ running s j k) := by
  constructor
  · intro hidle
    unfold allIdle at hidle
    rw [List.all_eq_false] at hidle
    obtain ⟨m, hm, hne⟩ := hidle
    have hm := List.mem_range.1 hm
    rcases machine_cases cfg s a hI hL hm with ⟨_, hrem, hjob⟩ | ⟨j, hj, k, hk, hH, _⟩
    · have hpos : 0 < s.remAt m := by
        have := (hI.fields hm).1
        refine Decidable.byContradiction fun h => hne ?_
        rw [hrem, hjob, if_neg h, if_pos (by omega)]; simp
      obtain ⟨j, hj, k, hk, hr, _⟩ := running_on cfg s hI.book hm hpos
      exact ⟨j, hj, k, hk, Or.inr hr⟩
    · exact ⟨j, hj, k, hk, Or.inl hH⟩
  · rintro ⟨j, hj, k, hk, h⟩
    -- the machine of a processed op shows a job afterwards
    have hop : isOp s j k := h.elim (fun ⟨_, _, _, hn⟩ => hn.2.1) (fun hr => hr.1.1)
    obtain ⟨hm0, hm1⟩ := hI.machinesOK j hj k hk hop
    have hmM : (s.midAt j k).toNat < cfg.M := by omega
    have hmid : s.midAt j k = (((s.midAt j k).toNat : Nat) : Int) := by omega
    apply allIdle_false_of_job cfg _ hmM
    rcases machine_cases cfg s a hI hL hmM with ⟨hnone, _, hjob⟩ | ⟨j0, hj0, _, _, _, _, _, _, hjob⟩
    · rcases h with hH | hr
      · exact absurd hmid (hnone j hj k hH)
      · have hpos := (busy_iff cfg s hI.book hmM).1 ⟨j, hj, k, hk, hr, hmid⟩
        obtain ⟨j', hj', _, _, _, _, hjob'⟩ := running_on cfg s hI.book hmM hpos
        rw [hjob, if_neg (by omega), hjob']; omega
    · rw [hjob]; omega

theorem processed_of_finishing (hnf : finished cfg s = false) (hf : finished cfg (next cfg s a) = true) :
    ∃ j, j < cfg.J ∧ ∃ k, k < cfg.O ∧ (Hit cfg s a j k ∨ running s j k) := by
  rcases not_finished_cases cfg s hI.shaped hnf with ⟨j, hj, k, hk, hm⟩ | ⟨m, hm, hne⟩
  · -- an op still to be scheduled is scheduled afterwards: it was started now
    obtain ⟨hop, hns⟩ := (hI.mask j hj k hk).1 hm
    have hI' := inv_next cfg s a hI hL
    have hs' := ((finished_iff_done cfg _ hI'.shaped hI'.machinesOK hI'.book).1 hf j hj k hk hop).1
    exact ⟨j, hj, k, hk, ((isSched_next cfg s a hI hL hj hk).1 hs').imp_right fun h => absurd h hns⟩
  · obtain ⟨j, hj, k, hk, hr, _⟩ := running_on cfg s hI.book hm (by have := (hI.fields hm).1; omega)
    exact ⟨j, hj, k, hk, Or.inr hr⟩

/-- C08: under legal play from a state that is not finished, when the successor is finished its
clock equals the makespan of the schedule (durations ≥ 1) -/
theorem completion_at_makespan (hD : DurationsOK cfg s) (hnf : finished cfg s = false)
    (hf : finished cfg (next cfg s a) = true) :
    makespan cfg (next cfg s a) = (next cfg s a).stepCount ∧ IsSolution cfg (next cfg s a) := by
  have hI' := inv_next cfg s a hI hL
  have hdone := (finished_iff_done cfg _ hI'.shaped hI'.machinesOK hI'.book).1 hf
  have hc : 0 ≤ s.stepCount := hI.clock
  refine ⟨?_, hI'.feasible, hI'.machinesOK, hdone⟩
  apply makespan_eq cfg _ _ (by rw [next_stepCount]; omega) fun j hj k hk hs => (hdone j hj k hk hs.1).2
  -- the op processed in this step ends after the old clock, hence exactly now
  obtain ⟨j, hj, k, hk, h⟩ := processed_of_finishing cfg s a hI hL hnf hf
  rcases h with hH | hr
  · obtain ⟨hs', _, e⟩ := next_hit cfg s a hI hL hj hk hH
    have := (hD j hj k hk hs'.1).1
    have := (hdone j hj k hk hs'.1).2
    exact ⟨j, hj, k, hk, hs', by rw [next_stepCount] at *; omega⟩
  · obtain ⟨hs', _, e⟩ := next_old cfg s a hI hL hj hk hr.1
    have := (hdone j hj k hk hr.1.1).2
    have := hr.2
    exact ⟨j, hj, k, hk, hs', by rw [next_stepCount] at *; omega⟩

end processed

-- `DurationsOK` reads the instance arrays only, and `next` leaves them as they are
theorem durationsOK_next (cfg : Cfg) (s : State) (a : List Int) (h : DurationsOK cfg s) :
    DurationsOK cfg (next cfg s a) := h

theorem play_nil (cfg : Cfg) (s : State) : play cfg s [] = (s, 0) := rfl

theorem play_cons (cfg : Cfg) (s : State) (a : List Int) (as : List (List Int)) :
    play cfg s (a :: as) =
      ((play cfg (next cfg s a) as).1, (step cfg s a).2.reward.sum + (play cfg (next cfg s a) as).2) := rfl

theorem play_stepCount (cfg : Cfg) (as : List (List Int)) : ∀ s : State,
    (play cfg s as).1.stepCount = s.stepCount + (as.length : Int) := by
  induction as with
  | nil => intro s; simp [play]
  | cons a as ih => intro s; rw [play_cons, ih, next_stepCount, List.length_cons]; omega

/-- the reward of a legal step that does not leave all machines idle cancels the advance of the clock -/
theorem step_reward_clock (cfg : Cfg) (s : State) (a : List Int) (hI : Inv cfg s) (hC : s.amask = maskOf cfg s)
    (hL : legalAction cfg s a) (hidle : allIdle cfg (next cfg s a) = false) :
    (step cfg s a).2.reward.sum + (((next cfg s a).stepCount : Int) : Rat) = ((s.stepCount : Int) : Rat) := by
  have hv := (invalid_iff cfg s a hI hC (legalAction_inSpec cfg s a hL)).2 hL
  rw [(valid_step_reward cfg s a hv hidle).1, next_stepCount, Rat.intCast_add, Rat.intCast_one]
  show -1 + 0 + (((s.stepCount : Int) : Rat) + 1) = s.stepCount
  grind

theorem completes_return (cfg : Cfg) (as : List (List Int)) : ∀ (s : State), Inv cfg s →
    s.amask = maskOf cfg s → DurationsOK cfg s → CompletesBy cfg s as →
    (play cfg s as).2 + (((play cfg s as).1.stepCount : Int) : Rat) = ((s.stepCount : Int) : Rat) ∧
    makespan cfg (play cfg s as).1 = (play cfg s as).1.stepCount ∧ IsSolution cfg (play cfg s as).1 := by
  intro s hI hC hD hcb
  fun_induction CompletesBy cfg s as with
  | case1 => exact hcb.elim
  | case2 s a =>
    obtain ⟨hL, hnf, hidle, hf⟩ := hcb
    refine ⟨?_, completion_at_makespan cfg s a hI hL hD hnf hf⟩
    -- `play_cons` by rewriting: unifying the two sides as terms would unfold the addition of `Rat`
    rw [play_cons, play_nil, Rat.add_zero]
    exact step_reward_clock cfg s a hI hC hL hidle
  | case3 s a b bs ih =>
    obtain ⟨hL, hnf, hidle, hrest⟩ := hcb
    obtain ⟨h1, h2⟩ := ih (inv_next cfg s a hI hL) (next_amask cfg s a) (durationsOK_next cfg s a hD) hrest
    refine ⟨?_, h2⟩
    rw [play_cons, Rat.add_assoc, h1]
    exact step_reward_clock cfg s a hI hC hL hidle

/-- C08: an episode from a fresh instance (clock 0) that ends by completion under legal play has
return = −makespan of the final schedule -/
theorem return_eq_objective (cfg : Cfg) (s : State) (as : List (List Int)) (hI : Inv cfg s)
    (hC : s.amask = maskOf cfg s) (hD : DurationsOK cfg s) (h0 : s.stepCount = 0)
    (hcb : CompletesBy cfg s as) : (play cfg s as).2 = objective cfg (play cfg s as).1 := by
  obtain ⟨h1, h2, _⟩ := completes_return cfg as s hI hC hD hcb
  unfold objective
  rw [h2]
  rw [h0] at h1
  grind


/-! ### C11: progress -/

section progress
variable (cfg : Cfg) (s : State) (a : List Int) (hI : Inv cfg s) (hL : legalAction cfg s a)
  (hD : DurationsOK cfg s)
include hI hL hD

theorem opLeft_le {j k : Nat} (hj : j < cfg.J) (hk : k < cfg.O) :
    opLeft (next cfg s a) j k ≤ opLeft s j k ∧
    ((Hit cfg s a j k ∨ running s j k) →
      opLeft (next cfg s a) j k + 1 ≤ opLeft s j k) := by
  unfold opLeft
  by_cases hH : Hit cfg s a j k
  · obtain ⟨hs', _, e⟩ := next_hit cfg s a hI hL hj hk hH
    have hisop : isOp s j k := by obtain ⟨m, _, _, hn⟩ := hH; exact hn.2.1
    have hd := (hD j hj k hk hisop).1
    rw [if_pos hs', if_neg (hit_not_sched cfg s a hH), if_pos hisop, e, next_stepCount]
    exact ⟨by omega, fun _ => by omega⟩
  · by_cases hs : isSched s j k
    · obtain ⟨hs', _, e⟩ := next_old cfg s a hI hL hj hk hs
      rw [if_pos hs', if_pos hs, e, next_stepCount]
      refine ⟨by omega, ?_⟩
      rintro (h | ⟨_, h⟩)
      · exact absurd h hH
      · omega
    · have hns' : ¬ isSched (next cfg s a) j k :=
        fun h => ((isSched_next cfg s a hI hL hj hk).1 h).elim hH hs
      rw [if_neg hns', if_neg hs]
      refine ⟨Int.le_refl _, ?_⟩
      rintro (h | ⟨h, _⟩)
      · exact absurd h hH
      · exact absurd h hs

/-- C11: every legal step that does not leave all machines idle consumes at least one unit of the
remaining operation time -/
theorem timeLeft_decreases (hidle : allIdle cfg (next cfg s a) = false) :
    timeLeft cfg (next cfg s a) + 1 ≤ timeLeft cfg s := by
  obtain ⟨j, hj, k, hk, h⟩ := (not_idle_iff cfg s a hI hL).1 hidle
  unfold timeLeft
  refine Jx.sum_map_lt _ _ _ (fun p hp => ?_) ⟨(j, k), Jx.Grid.mem_coords.2 ⟨hj, hk⟩,
    (opLeft_le cfg s a hI hL hD hj hk).2 h⟩
  obtain ⟨h1, h2⟩ := Jx.Grid.mem_coords.1 hp
  exact (opLeft_le cfg s a hI hL hD h1 h2).1

omit hI hL in
theorem timeLeft_nonneg : 0 ≤ timeLeft cfg s := by
  apply Jx.sum_nonneg
  intro x hx
  obtain ⟨p, hp, rfl⟩ := List.mem_map.1 hx
  obtain ⟨h1, h2⟩ := Jx.Grid.mem_coords.1 hp
  unfold opLeft
  split
  · omega
  · split
    · rename_i hop; have := (hD p.1 h1 p.2 h2 hop).1; omega
    · omega

end progress

/-- C11: legal play that never leaves all machines idle (`Survives`) cannot last longer than the operation time still
to be spent -/
theorem horizon (cfg : Cfg) (as : List (List Int)) : ∀ (s : State), Inv cfg s → DurationsOK cfg s →
    Survives cfg s as → (as.length : Int) ≤ timeLeft cfg s := by
  induction as with
  | nil => intro s _ hD _; simpa using timeLeft_nonneg cfg s hD
  | cons a as ih =>
    intro s hI hD ⟨hL, hidle, hrest⟩
    have h1 := timeLeft_decreases cfg s a hI hL hD hidle
    have h2 := ih (next cfg s a) (inv_next cfg s a hI hL) (durationsOK_next cfg s a hD) hrest
    simp only [List.length_cons]
    omega

/-- at the start of an episode the time to be spent is at most J·O·D -/
theorem timeLeft_init_le (cfg : Cfg) (s : State) (hD : DurationsOK cfg s)
    (hns : ∀ j, j < cfg.J → ∀ k, k < cfg.O → ¬ isSched s j k) :
    timeLeft cfg s ≤ ((cfg.J * cfg.O * cfg.D : Nat) : Int) := by
  unfold timeLeft
  have := Jx.sum_map_le (Jx.Grid.coords cfg.J cfg.O)
    (fun _ => (cfg.D : Int)) (fun p => opLeft s p.1 p.2) (by
      intro p hp
      obtain ⟨h1, h2⟩ := Jx.Grid.mem_coords.1 hp
      show opLeft s p.1 p.2 ≤ _
      unfold opLeft
      rw [if_neg (hns p.1 h1 p.2 h2)]
      split
      · rename_i hop; exact (hD p.1 h1 p.2 h2 hop).2
      · omega)
  rw [Jx.sum_map_const, Jx.Grid.length_coords] at this
  rw [Int.natCast_mul]
  exact this

end JobShop
