/-
Tetris: the reset state as a generated instance (C10) and whole-episode accounting (C09):
  return = Σ over the placed pieces of `lineReward (lines cleared by that piece)`, score = running sum of rewards,
  filled cells at the end + numCols · (lines cleared) = filled cells at the start + 4 · (pieces placed);
consistency of every live state of a play (C07).
-/
import JumanjiModel.Env.Tetris.StepLemmas
namespace Tetris
open Jm

theorem legal_on_empty (cfg : Cfg) (hR : 4 ≤ cfg.numRows) (hC : 4 ≤ cfg.numCols) (d : Nat) :
    legalB cfg (Jx.Grid.mk (cfg.numRows + 3) (cfg.numCols + 3) 0) d 0 0 = true := by
  rw [legalB_iff cfg _ d 0 0 hR (by omega) (by omega)]
  intro r _ c hc _
  exact ⟨by omega, fun r' _ => Jx.Grid.get_mk_same _ _ _ _ _⟩

theorem legalMask_any_false_iff (cfg : Cfg) (s : State) :
    (legalMask cfg s).any (fun r => r.any id) = false ↔
      ∀ rot' x', rot' < 4 → x' < cfg.numCols → ¬ legal cfg s rot' x' := by
  unfold legalMask legal
  simp only [List.any_eq_false, List.mem_map, List.mem_range, forall_exists_index, and_imp, forall_apply_eq_imp_iff₂,
    id, Bool.not_eq_true]
  constructor
  · intro h rot' x' hr hx
    have := h rot' hr
    simpa using this x' hx
  · intro h rot' hr
    intro x' hx
    simpa using h rot' x' hr hx

theorem legalMask_any (cfg : Cfg) (s : State) (hC : 4 ≤ cfg.numCols)
    (h : legalB cfg s.gridPadded s.tetrominoIndex 0 0 = true) :
    (legalMask cfg s).any (fun r => r.any id) = true :=
  Bool.of_not_eq_false fun hf => (legalMask_any_false_iff cfg s).1 hf 0 0 (by omega) (by omega) h

/-- C10: the reset state for EVERY size ≥ 4 × 4 and EVERY drawn piece index -/
theorem reset_instanceOK (cfg : Cfg) (hR : 4 ≤ cfg.numRows) (hC : 4 ≤ cfg.numCols) (d : Nat) (hd : validDraw d) :
    InstanceOK cfg (reset cfg d).1 := by
  have hc := reset_consistent cfg hR hC d hd
  obtain ⟨_, _, _, hi, hnew, hm, _⟩ := hc
  have hgrid : (reset cfg d).1.gridPadded = Jx.Grid.mk (cfg.numRows + 3) (cfg.numCols + 3) 0 := rfl
  have hidx : (reset cfg d).1.tetrominoIndex = d := rfl
  refine ⟨hgrid, rfl, hi, hnew, rfl, hm, ?_, rfl, rfl, rfl, rfl, rfl, rfl, rfl⟩
  rw [hm]
  apply legalMask_any cfg _ hC
  rw [hgrid, hidx]
  exact legal_on_empty cfg hR hC d

/-- a state that passes the certificate is the model's reset state for its own piece index (the converse, hence the
characterisation of the range of `reset`, is `Props.C10.tetris_instance_cert`) -/
theorem instance_is_reset (cfg : Cfg) (hR : 4 ≤ cfg.numRows) (hC : 4 ≤ cfg.numCols) (s : State)
    (h : InstanceOK cfg s) : (reset cfg s.tetrominoIndex).1 = s := by
  obtain ⟨hg, hgo, hi, hnew, hold, hm, _, hx, hy, hfl, hsc, hrw, hir, hst⟩ := h
  have hc := reset_consistent cfg hR hC s.tetrominoIndex hi
  obtain ⟨_, _, _, _, rnew, rm, _⟩ := hc
  have hmask : (reset cfg s.tetrominoIndex).1.actionMask = s.actionMask := by
    rw [rm, hm]
    unfold legalMask
    have e1 : (reset cfg s.tetrominoIndex).1.gridPadded = s.gridPadded := by rw [hg]; rfl
    have e2 : (reset cfg s.tetrominoIndex).1.tetrominoIndex = s.tetrominoIndex := rfl
    rw [e1, e2]
  have hnew' : (reset cfg s.tetrominoIndex).1.newTetromino = s.newTetromino := by
    rw [rnew, hnew]; rfl
  have hold' : (reset cfg s.tetrominoIndex).1.oldTetrominoRotated = s.oldTetrominoRotated := by
    rw [hold, ← hnew']; rfl
  cases s with
  | mk gp gpo idx ot nt xp yp am fl sc rw ir st =>
    simp only at hg hgo hx hy hfl hsc hrw hir hst hmask hnew' hold'
    subst hgo hx hy hfl hsc hrw hir hst
    simp only [reset] at hmask hnew' hold' ⊢
    simp only [State.mk.injEq]
    exact ⟨hg.symm, hg.symm, trivial, hold', hnew', trivial, trivial, hmask, trivial, trivial, trivial, trivial,
      trivial⟩

theorem step_reward_eq_lines (cfg : Cfg) (s : State) (hc : Consistent cfg s) (hR : 4 ≤ cfg.numRows)
    (hC : 4 ≤ cfg.numCols) (rot x d : Nat) (hr : rot < 4) (hx : x < cfg.numCols)
    (hl : legal cfg s rot x) :
    (step cfg s (rot : Int) (x : Int) d).2.reward =
      [lineReward (dropSpec cfg s.gridPadded s.tetrominoIndex rot x).2] ∧
    (dropSpec cfg s.gridPadded s.tetrominoIndex rot x).2 ≤ 4 ∧
    Jx.countTrue (step cfg s (rot : Int) (x : Int) d).1.fullLines =
      (dropSpec cfg s.gridPadded s.tetrominoIndex rot x).2 :=
  ⟨(step_eq_spec cfg s hc hR hC rot x d hr hx hl).2.2, step_cleared_le cfg s hc.noFullRow rot x,
    (step_eq_spec cfg s hc hR hC rot x d hr hx hl).2.1⟩

/-- whole play from ANY consistent state, ANY in-spec actions and draws; an illegal terminal action pays nothing and is
not counted as a piece -/
theorem play_accounting (cfg : Cfg) (hR : 4 ≤ cfg.numRows) (hC : 4 ≤ cfg.numCols) (s : State)
    (hc : Consistent cfg s) (as : List (Nat × Nat × Nat)) (hin : InSpec cfg as) :
    (play cfg s as).ret = ((play cfg s as).lines.map lineReward).sum ∧
    (∀ k ∈ (play cfg s as).lines, k ≤ 4) ∧
    (play cfg s as).final.score = s.score + (play cfg s as).ret ∧
    cells cfg (play cfg s as).final.gridPadded + cfg.numCols * (play cfg s as).lines.sum =
      cells cfg s.gridPadded + 4 * (play cfg s as).lines.length := by
  induction as generalizing s with
  | nil => simp [play, Rat.add_zero]
  | cons a as ih =>
    obtain ⟨hr, hx, hd⟩ := hin a (List.mem_cons_self ..)
    by_cases hl : legal cfg s a.1 a.2.1
    · obtain ⟨e1, e2, e3⟩ := step_reward_eq_lines cfg s hc hR hC a.1 a.2.1 a.2.2 hr hx hl
      have e4 := step_conserved cfg s ⟨hc.shaped, hc.padding⟩ hc.index hR hC a.1 a.2.1 a.2.2 hr hl
      rw [e3] at e4
      by_cases hlast : (step cfg s (a.1 : Int) (a.2.1 : Int) a.2.2).2.stepType = .last
      · simp only [play, hlast, hl, if_true]
        refine ⟨?_, ?_, step_score cfg s _ _ _, ?_⟩
        · rw [e1]; simp [Rat.add_zero]
        · intro k hk; rw [List.mem_singleton.1 hk]; exact e2
        · simp only [List.sum_cons, List.sum_nil, List.length_cons, List.length_nil]
          omega
      · have hc' := step_consistent cfg s hc hR hC a.1 a.2.1 a.2.2 hr hx hd hlast
        obtain ⟨i1, i2, i3, i4⟩ := ih _ hc' (fun b hb => hin b (List.mem_cons_of_mem _ hb))
        simp only [play, hlast, if_false]
        refine ⟨?_, ?_, ?_, ?_⟩
        · rw [i1, e1, List.sum_singleton]; simp [List.sum_cons]
        · intro k hk
          rcases List.mem_cons.1 hk with h | h
          · rw [h]; exact e2
          · exact i2 k h
        · rw [i3, step_score, Rat.add_assoc]
        · simp only [List.sum_cons, List.length_cons]
          rw [Nat.mul_add, Nat.mul_add]
          omega
    · obtain ⟨hlast, e1⟩ := illegal_step cfg s hc.mask hr hx a.2.2 hl
      simp only [play, hlast, hl, if_true, if_false]
      refine ⟨?_, ?_, ?_, ?_⟩
      · rw [e1]; simp [Rat.add_zero]
      · intro k hk; cases hk
      · rw [e1]; simp [Rat.add_zero]
      · simp

theorem cells_empty (cfg : Cfg) : cells cfg (Jx.Grid.mk (cfg.numRows + 3) (cfg.numCols + 3) 0) = 0 := by
  unfold cells
  rw [Jx.Grid.mk_eq_table, field_table, Jx.Grid.count_table,
    List.filter_eq_nil_iff.2 fun _ _ => by simp]
  rfl

/-- the states of a play: the state after each step whose timestep was not LAST -/
def liveStates (cfg : Cfg) (s : State) : List (Nat × Nat × Nat) → List State
  | [] => []
  | a :: as =>
    if (step cfg s (a.1 : Int) (a.2.1 : Int) a.2.2).2.stepType = .last then []
    else (step cfg s (a.1 : Int) (a.2.1 : Int) a.2.2).1 :: liveStates cfg (step cfg s (a.1 : Int) (a.2.1 : Int) a.2.2).1 as

theorem consistent_along (cfg : Cfg) (hR : 4 ≤ cfg.numRows) (hC : 4 ≤ cfg.numCols) (s : State) (hc : Consistent cfg s)
    (as : List (Nat × Nat × Nat)) (hin : InSpec cfg as) : ∀ s' ∈ liveStates cfg s as, Consistent cfg s' := by
  induction as generalizing s with
  | nil => intro s' h; simp [liveStates] at h
  | cons a as ih =>
    intro s' h
    unfold liveStates at h
    split at h
    · simp at h
    · rename_i hn
      have ha := hin a (by simp)
      have hc' := step_consistent cfg s hc hR hC a.1 a.2.1 a.2.2 ha.1 ha.2.1 ha.2.2 hn
      rcases List.mem_cons.1 h with rfl | h
      · exact hc'
      · exact ih _ hc' (fun b hb => hin b (by simp [hb])) s' h

end Tetris
