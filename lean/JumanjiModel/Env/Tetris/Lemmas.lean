/- What `step` and `reset` put into the state and the timestep (counter, cached mask, LAST, reward, observation), and the
validity test of `step` read as legality when the cached mask is the legality table. -/
import JumanjiModel.Env.Tetris.GridLemmas
import JumanjiModel.Core.TimeStepLemmas
namespace Tetris
open Jm

theorem table_lookup {d rot : Nat} (hd : d < 7) (hr : rot < 4) :
    Jx.getWC (Jx.getWC tetrominoes [] (d : Int)) [] (rot : Int) = pieceAt d rot := by
  rw [tetrominoes_table, Jx.getWC_range_map _ _ hd, Jx.getWC_range_map _ _ hr]

theorem table_lookup0 {d : Nat} (hd : validDraw d) :
    Jx.getWC (Jx.getWC tetrominoes [] (d : Int)) [] 0 = pieceAt d 0 := by
  simpa using table_lookup hd (show 0 < 4 by omega)

theorem step_count (cfg : Cfg) (s : State) (rot x : Int) (d : Nat) :
    (step cfg s rot x d).1.stepCount = s.stepCount + 1 := by
  simp [step]

theorem step_index (cfg : Cfg) (s : State) (rot x : Int) (d : Nat) :
    (step cfg s rot x d).1.tetrominoIndex = d := by
  simp [step]

theorem cached_mask (cfg : Cfg) (s : State) (rot x : Int) (d : Nat) :
    (step cfg s rot x d).1.actionMask =
      calcActionMask (clip1 (step cfg s rot x d).1.gridPadded) ((step cfg s rot x d).1.tetrominoIndex : Int) := by
  simp [step]

theorem step_grid (cfg : Cfg) (s : State) (rot x : Int) (d : Nat) :
    (step cfg s rot x d).1.gridPadded =
      cleanLines (placeTetromino s.gridPadded (Jx.getWC (Jx.getWC tetrominoes [] (s.tetrominoIndex : Int)) [] rot) x).1
        (fullLinesOf cfg.numCols (placeTetromino s.gridPadded (Jx.getWC (Jx.getWC tetrominoes [] (s.tetrominoIndex : Int)) [] rot) x).1) := by
  simp [step]

theorem step_full (cfg : Cfg) (s : State) (rot x : Int) (d : Nat) :
    (step cfg s rot x d).1.fullLines =
        (fullLinesOf cfg.numCols (placeTetromino s.gridPadded (Jx.getWC (Jx.getWC tetrominoes [] (s.tetrominoIndex : Int)) [] rot) x).1) := by
  simp [step]

theorem step_newT (cfg : Cfg) (s : State) (rot x : Int) (d : Nat) :
    (step cfg s rot x d).1.newTetromino = Jx.getWC (Jx.getWC tetrominoes [] (d : Int)) [] 0 := by
  simp [step]

theorem last_iff (cfg : Cfg) (s : State) (rot x : Int) (d : Nat) :
    (step cfg s rot x d).2.stepType = .last ↔
      (isValid s rot x = false ∨ (step cfg s rot x d).1.actionMask.any (fun r => r.any id) = false ∨
        cfg.timeLimit ≤ (step cfg s rot x d).1.stepCount) := by
  simp only [step, condLast_last_iff, Bool.or_eq_true, Bool.not_eq_true', decide_eq_true_eq]
  rw [or_assoc, or_left_comm]

theorem step_reward (cfg : Cfg) (s : State) (rot x : Int) (d : Nat) :
    (step cfg s rot x d).2.reward =
      [Jx.getWC rewardList 0 ((Jx.countTrue (step cfg s rot x d).1.fullLines : Nat) : Int) *
        (if isValid s rot x then 1 else 0)] := by
  simp only [step, condLast_reward]

theorem step_score (cfg : Cfg) (s : State) (rot x : Int) (d : Nat) :
    (step cfg s rot x d).1.score = s.score + (step cfg s rot x d).2.reward.sum := by
  have h1 : (step cfg s rot x d).1.score = s.score +
      Jx.getWC rewardList 0 ((Jx.countTrue (step cfg s rot x d).1.fullLines : Nat) : Int) *
        (if isValid s rot x then 1 else 0) := by simp [step]
  rw [h1, step_reward]
  simp [Rat.add_zero]

theorem invalid_step (cfg : Cfg) (s : State) (rot x : Int) (d : Nat) (h : isValid s rot x = false) :
    (step cfg s rot x d).2.stepType = .last ∧ (step cfg s rot x d).2.reward = [0] := by
  refine ⟨(last_iff cfg s rot x d).2 (Or.inl h), ?_⟩
  rw [step_reward]; simp [h, Rat.mul_zero]

theorem isValid_eq_legal (cfg : Cfg) (s : State) (hm : s.actionMask = legalMask cfg s) {rot x : Nat}
    (hr : rot < 4) (hx : x < cfg.numCols) :
    isValid s (rot : Int) (x : Int) = legalB cfg s.gridPadded s.tetrominoIndex rot x := by
  unfold isValid Jx.Grid.getWC
  rw [hm]; unfold legalMask
  rw [Jx.getWC_range_map _ [] hr, Jx.getWC_range_map _ false hx]

theorem illegal_step (cfg : Cfg) (s : State) (hm : s.actionMask = legalMask cfg s) {rot x : Nat}
    (hr : rot < 4) (hx : x < cfg.numCols) (d : Nat) (h : ¬ legal cfg s rot x) :
    (step cfg s (rot : Int) (x : Int) d).2.stepType = .last ∧ (step cfg s (rot : Int) (x : Int) d).2.reward = [0] := by
  apply invalid_step
  rw [isValid_eq_legal cfg s hm hr hx]
  unfold legal at h
  simpa using h

theorem clip_field (cfg : Cfg) (g : G) :
    ((clip1 g).take cfg.numRows).map (fun r => r.take cfg.numCols) =
      (field cfg g).map (fun r => r.map (fun v => if v != 0 then 1 else 0)) := by
  unfold clip1 field
  rw [← List.map_take]
  simp only [List.map_map]
  apply List.map_congr_left
  intro r _
  simp only [Function.comp]
  rw [← List.map_take]
  apply List.map_congr_left
  intro v _
  by_cases hv : v = 0
  · simp [hv]
  · have : min v 1 = 1 := by omega
    simp [hv, this]

theorem obs_faithful (cfg : Cfg) (s : State) (rot x : Int) (d : Nat) (hd : validDraw d) :
    (step cfg s rot x d).2.obs = observe cfg (step cfg s rot x d).1 := by
  simp only [step, condLast_obs, observe, Obs.mk.injEq]
  exact ⟨clip_field cfg _, table_lookup0 hd, trivial, trivial⟩

theorem reset_obs_faithful (cfg : Cfg) (d : Nat) (hd : validDraw d) :
    (reset cfg d).2.obs = observe cfg (reset cfg d).1 := by
  have hc := clip_field cfg (Jx.Grid.mk (cfg.numRows + 3) (cfg.numCols + 3) 0)
  rw [clip1_zero] at hc
  simp only [reset, restart, observe, Obs.mk.injEq]
  exact ⟨hc, table_lookup0 hd, trivial, trivial⟩

end Tetris
