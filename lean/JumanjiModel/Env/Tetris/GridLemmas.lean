/- Index-level facts shared by the mask (C04) and the drop (C09) proofs: grids as tables of their entries (`Jx.Grid.table`), `Good`
padded grids, the 4 × 4 window of `slice4` / `checkValid`, `andLast3`, the cells of a piece, and the piece table: what the proofs
use of a piece is `PieceOK`, checked on the 28 entries by one evaluation (`pieces_ok`). -/
import JumanjiModel.Env.Tetris.Model
import JumanjiModel.Prim.Stamp
namespace Tetris

/-- `Jx.Grid.table R C F`, on `G` -/
def rm (R C : Nat) (F : Nat → Nat → Nat) : G :=
  (List.range R).map (fun i => (List.range C).map (fun j => F i j))

theorem get_rm {R C : Nat} (F : Nat → Nat → Nat) {i j : Nat} (hi : i < R) (hj : j < C) :
    Jx.Grid.get (rm R C F) 0 i j = F i j :=
  Jx.Grid.get_table R C F 0 hi hj

theorem numColsOf_shaped {g : G} {R C : Nat} (h : Jx.Grid.shaped g (R + 1) C = true) :
    numColsOf g = C := by
  have := Jx.Grid.cols_of_shaped g (R + 1) C h (by omega)
  cases g <;> simpa [numColsOf, Jx.Grid.cols] using this

theorem get_clip1 (g : G) (i j : Nat) :
    Jx.Grid.get (clip1 g) 0 i j = min (Jx.Grid.get g 0 i j) 1 :=
  Jx.Grid.get_map_default (fun v => min v 1) g 0 i j

theorem shaped_clip1 {g : G} {R C : Nat} (h : Jx.Grid.shaped g R C = true) :
    Jx.Grid.shaped (clip1 g) R C = true :=
  Jx.Grid.shaped_map_of (fun v => min v 1) h

theorem clip1_zero (n m : Nat) : clip1 (Jx.Grid.mk n m 0) = Jx.Grid.mk n m 0 := by
  unfold clip1 Jx.Grid.mk; simp

/-- the padded grid as every legal step leaves it: `(num_rows + 3) × (num_cols + 3)` with nothing in the padding -/
def Good (cfg : Cfg) (g : G) : Prop :=
  Jx.Grid.shaped g (cfg.numRows + 3) (cfg.numCols + 3) = true ∧ paddingEmpty cfg g = true

theorem field_table (cfg : Cfg) (a b : Nat) (F : Nat → Nat → Nat) :
    field cfg (Jx.Grid.table (cfg.numRows + a) (cfg.numCols + b) F) = Jx.Grid.table cfg.numRows cfg.numCols F :=
  Jx.Grid.map_take_table ..

theorem field_eq_table (cfg : Cfg) {g : G} (hs : Jx.Grid.shaped g (cfg.numRows + 3) (cfg.numCols + 3) = true) :
    field cfg g = Jx.Grid.table cfg.numRows cfg.numCols (Jx.Grid.get g 0) := by
  conv => lhs; rw [Jx.Grid.eq_table hs 0]
  exact field_table cfg 3 3 _

theorem dsStart4_nat {n y : Nat} (h : y + 4 ≤ n) : dsStart n 4 (y : Int) = y := by
  have h0 : ¬ ((y : Int) < 0) := by omega
  have h1 : ¬ (y > n - 4) := by omega
  simp only [dsStart, Jx.wrapIdx, h0, if_false, Int.toNat_natCast, h1]

theorem slice4_eq {g : G} {n m y x : Nat} (h : Jx.Grid.shaped g n m = true)
    (hy : y + 4 ≤ n) (hx : x + 4 ≤ m) :
    slice4 g (y : Int) (x : Int) = Jx.Grid.table 4 4 (fun r c => Jx.Grid.get g 0 (y + r) (x + c)) := by
  obtain ⟨hl, hr⟩ := (Jx.Grid.shaped_iff_mem _ _ _).1 h
  unfold slice4 Jx.Grid.table
  rw [hl, dsStart4_nat hy]
  apply List.ext_getElem
  · simp [hl]; omega
  · intro i h1 h2
    simp at h2
    have hi : y + i < g.length := by omega
    have hrow : g[y + i].length = m := hr _ (List.getElem_mem hi)
    simp only [List.getElem_map, List.getElem_take, List.getElem_drop, List.getElem_range, hrow,
      dsStart4_nat hx]
    apply List.ext_getElem
    · simp [hrow]; omega
    · intro j h3 h4
      simp at h4
      have hj : x + j < g[y + i].length := by omega
      simp [Jx.Grid.get, List.getD, hi, hj]

theorem any_zip_table (A B : Nat → Nat → Nat) :
    (List.zipWith (List.zipWith (· + ·)) (Jx.Grid.table 4 4 A) (Jx.Grid.table 4 4 B)).any
        (fun r => r.any (fun v => decide (v ≥ 2))) = true
      ↔ ∃ r, r < 4 ∧ ∃ c, c < 4 ∧ A r c + B r c ≥ 2 := by
  rw [Jx.Grid.zipWith_table]
  simp only [Jx.Grid.table, List.any_map, List.any_eq_true, List.mem_range, Function.comp, decide_eq_true_eq]

theorem checkValid_iff {g t : G} {n m y x : Nat} (hg : Jx.Grid.shaped g n m = true)
    (ht : Jx.Grid.shaped t 4 4 = true) (hy : y + 4 ≤ n) (hx : x + 4 ≤ m) :
    checkValid g t (y : Int) (x : Int) = true ↔
      ∀ r, r < 4 → ∀ c, c < 4 → Jx.Grid.get g 0 (y + r) (x + c) + Jx.Grid.get t 0 r c < 2 := by
  unfold checkValid
  rw [slice4_eq hg hy hx]
  have e := Jx.Grid.eq_table ht 0
  generalize Jx.Grid.get t 0 = T at e ⊢
  subst e
  rw [Bool.not_eq_true', ← Bool.not_eq_true, any_zip_table]
  constructor
  · intro H r hr c hc
    apply Nat.lt_of_not_le
    intro hh
    exact H ⟨r, hr, c, hc, hh⟩
  · rintro H ⟨r, hr, c, hc, hh⟩
    have := H r hr c hc
    omega

theorem checkValid_clip_iff {g t : G} {n m y x : Nat} (hg : Jx.Grid.shaped g n m = true)
    (ht : Jx.Grid.shaped t 4 4 = true) (h01 : ∀ r, r < 4 → ∀ c, c < 4 → Jx.Grid.get t 0 r c ≤ 1)
    (hy : y + 4 ≤ n) (hx : x + 4 ≤ m) :
    checkValid (clip1 g) t (y : Int) (x : Int) = true ↔
      ∀ r, r < 4 → ∀ c, c < 4 → Jx.Grid.get t 0 r c ≠ 0 → Jx.Grid.get g 0 (y + r) (x + c) = 0 := by
  rw [checkValid_iff (shaped_clip1 hg) ht hy hx]
  simp only [get_clip1]
  constructor
  · intro H r hr c hc hne
    have := H r hr c hc
    omega
  · intro H r hr c hc
    have := h01 r hr c hc
    by_cases hne : Jx.Grid.get t 0 r c = 0
    · omega
    · have := H r hr c hc hne
      omega

/-- a start index of `-1` wraps to the last row and is clamped so that the window fits -/
theorem dsStart4_neg_one {n : Nat} (h : 4 ≤ n) : dsStart n 4 (-1) = n - 4 := by
  have h0 : (-1 : Int) < 0 := by omega
  have h1 : ¬ ((-1 : Int) + (n : Int) < 0) := by omega
  have h2 : ((-1 : Int) + (n : Int)).toNat > n - 4 := by omega
  simp only [dsStart, Jx.wrapIdx, h0, if_true, h1, if_false, h2]

theorem andLast3_length (l p : List Bool) (hl : 3 ≤ l.length) (hp : p.length = 3) :
    (andLast3 l p).length = l.length := by
  simp [andLast3, hp]; omega

theorem andLast3_getD (l p : List Bool) (n y : Nat) (hl : l.length = n + 3) (hp : p.length = 3)
    (hy : y < n + 3) :
    (andLast3 l p).getD y false =
      (l.getD y false && (if y < n then true else p.getD (y - n) false)) := by
  unfold andLast3
  have e : l.length - 3 = n := by omega
  have h1 : (List.take n l).length = n := by simp [hl]
  rw [e]
  simp only [List.getD_eq_getElem?_getD, List.getElem?_append, h1]
  by_cases hlt : y < n
  · simp [hlt]
  · have hy' : y < l.length := by omega
    have hj : y - n < p.length := by omega
    have e' : n + (y - n) = y := by omega
    simp [hlt, List.getElem?_zipWith, List.getElem?_drop, e', hy', hj]

theorem mem_pieceCells (t : G) (p : Nat × Nat) :
    p ∈ pieceCells t ↔ p.1 < 4 ∧ p.2 < 4 ∧ Jx.Grid.get t 0 p.1 p.2 ≠ 0 := by
  unfold pieceCells
  simp [List.mem_filter, Jx.Grid.mem_coords, and_assoc]

theorem fits_int_iff (cfg : Cfg) (g t : G) (y : Int) (x : Nat) :
    fits cfg g t y x = true ↔
      ∀ r, r < 4 → ∀ c, c < 4 → Jx.Grid.get t 0 r c ≠ 0 →
        x + c < cfg.numCols ∧ (y + (r : Int) < 0 ∨
          ((y + (r : Int)).toNat < cfg.numRows ∧ Jx.Grid.get g 0 (y + (r : Int)).toNat (x + c) = 0)) := by
  unfold fits filled
  simp only [List.all_eq_true, mem_pieceCells, Bool.and_eq_true, Bool.or_eq_true, decide_eq_true_eq,
    Bool.not_eq_true', bne_eq_false_iff_eq]
  exact ⟨fun H r hr c hc hne => H (r, c) ⟨hr, hc, hne⟩, fun H p hp => H p.1 hp.1 p.2 hp.2.1 hp.2.2⟩

/-- entry `k` of the flags that `tetromino_action_mask` (columns, `ax = Prod.snd`) and `place_tetromino` (rows, `ax = Prod.fst`)
put beside the overlap test along an axis of length `n + 3`: flags are consulted for the last three entries only, and flag `j` says
that the piece placed at entry `n + j` stays inside -/
theorem flag_fits {t : G} {fl : List Bool} {ax : Nat × Nat → Nat} (hax : ∀ p ∈ pieceCells t, ax p < 4)
    (hfl : ∀ {j}, j < 3 → (fl.getD j false = true ↔ ∀ p ∈ pieceCells t, j + ax p < 3)) {n k : Nat} (hk : k < n + 3) :
    (if k < n then true else fl.getD (k - n) false) = true ↔ ∀ p ∈ pieceCells t, k + ax p < n + 3 := by
  by_cases hlt : k < n
  · rw [if_pos hlt]
    refine iff_of_true rfl fun p hp => ?_
    have := hax p hp
    omega
  · rw [if_neg hlt, hfl (by omega)]
    refine forall_congr' fun p => forall_congr' fun _ => ?_
    omega

theorem tetrominoes_length : tetrominoes.length = 7 := by decide

theorem tetrominoes_table : tetrominoes = (List.range 7).map (fun i => (List.range 4).map (pieceAt i)) := by
  decide +kernel

/-- what the proofs use of a piece: a 4 × 4 box of 0/1 with four cells; its mask (`tetrominoMask`) is a 4 × 4 box and the
upward closure of the piece (`tetromino_action_mask` never adds row 3 to the rows above it: no table piece has a cell in row 3
with an empty cell above); flag `j` of the last three columns / rows says that the piece stays left of / above them (the table
pieces are pushed to the top-left of their box) -/
def PieceOK (t : G) : Prop :=
  Jx.Grid.shaped t 4 4 = true ∧ (∀ r, r < 4 → ∀ c, c < 4 → Jx.Grid.get t 0 r c ≤ 1) ∧ (pieceCells t).length = 4 ∧
  Jx.Grid.shaped (tetrominoMask t) 4 4 = true ∧
  (∀ r', r' < 4 → ∀ c, c < 4 → (Jx.Grid.get (tetrominoMask t) 0 r' c != 0) =
    (List.range 4).any (fun r => decide (r' ≤ r) && Jx.Grid.get t 0 r c != 0)) ∧
  (∀ j, j < 3 → (padFlags (colAny t)).getD j false = (pieceCells t).all (fun p => decide (j + p.2 < 3))) ∧
  (∀ j, j < 3 → (padFlags (rowAny t)).getD j false = (pieceCells t).all (fun p => decide (j + p.1 < 3)))

instance (t : G) : Decidable (PieceOK t) := by unfold PieceOK; infer_instance

theorem pieces_ok : ∀ idx, idx < 7 → ∀ rot, rot < 4 → PieceOK (pieceAt idx rot) := by decide +kernel

namespace PieceOK
variable {t : G} (ht : PieceOK t)
include ht

theorem shaped : Jx.Grid.shaped t 4 4 = true := ht.1
theorem le_one : ∀ r, r < 4 → ∀ c, c < 4 → Jx.Grid.get t 0 r c ≤ 1 := ht.2.1
theorem four : (pieceCells t).length = 4 := ht.2.2.1
theorem maskShaped : Jx.Grid.shaped (tetrominoMask t) 4 4 = true := ht.2.2.2.1

theorem nonempty : ∃ r, r < 4 ∧ ∃ c, c < 4 ∧ Jx.Grid.get t 0 r c ≠ 0 := by
  obtain ⟨p, hp⟩ := List.exists_mem_of_length_pos (show 0 < (pieceCells t).length by rw [ht.four]; omega)
  obtain ⟨h1, h2, h3⟩ := (mem_pieceCells t p).1 hp
  exact ⟨p.1, h1, p.2, h2, h3⟩

theorem closure_iff {r' c : Nat} (hr' : r' < 4) (hc : c < 4) :
    Jx.Grid.get (tetrominoMask t) 0 r' c ≠ 0 ↔ ∃ r, r < 4 ∧ r' ≤ r ∧ Jx.Grid.get t 0 r c ≠ 0 := by
  rw [← bne_iff_ne, ht.2.2.2.2.1 r' hr' c hc]
  simp only [List.any_eq_true, List.mem_range, Bool.and_eq_true, decide_eq_true_eq, bne_iff_ne]

theorem colFlag_iff {j : Nat} (hj : j < 3) :
    (padFlags (colAny t)).getD j false = true ↔ ∀ p ∈ pieceCells t, j + p.2 < 3 := by
  rw [ht.2.2.2.2.2.1 j hj]
  simp only [List.all_eq_true, decide_eq_true_eq]

theorem rowFlag_iff {j : Nat} (hj : j < 3) :
    (padFlags (rowAny t)).getD j false = true ↔ ∀ p ∈ pieceCells t, j + p.1 < 3 := by
  rw [ht.2.2.2.2.2.2 j hj]
  simp only [List.all_eq_true, decide_eq_true_eq]

end PieceOK

end Tetris
