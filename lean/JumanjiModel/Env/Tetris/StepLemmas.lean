/- What a legal step does to a good grid, in terms of the rules (`legal_step`); the three step theorems follow from it and from
facts about `dropSpec` alone: it follows the rules (C09), conserves cells (C07) and leads from a consistent state to a consistent
state; the grid shape is kept by every step; the reset state is consistent. -/
import JumanjiModel.Env.Tetris.Lemmas
import JumanjiModel.Env.Tetris.MaskLemmas
import JumanjiModel.Env.Tetris.DropLemmas
import JumanjiModel.Env.Tetris.ClearLemmas
namespace Tetris
open Jm

theorem filter_window {α} (p : α → Bool) (l : List α) (y : Nat)
    (h : ∀ i (hi : i < l.length), p l[i] = true → y ≤ i ∧ i < y + 4) : (l.filter p).length ≤ 4 := by
  have e : l = l.take y ++ ((l.drop y).take 4 ++ (l.drop y).drop 4) := by
    rw [List.take_append_drop 4, List.take_append_drop]
  rw [e, List.filter_append, List.filter_append]
  have h1 : (l.take y).filter p = [] := by
    rw [List.filter_eq_nil_iff]
    intro a ha
    obtain ⟨i, hi, rfl⟩ := List.mem_iff_getElem.1 ha
    rw [List.getElem_take]
    intro hp
    have hi' : i < min y l.length := by simpa using hi
    have := h i (by omega) hp
    omega
  have h3 : ((l.drop y).drop 4).filter p = [] := by
    rw [List.filter_eq_nil_iff]
    intro a ha
    obtain ⟨i, hi, rfl⟩ := List.mem_iff_getElem.1 ha
    rw [List.getElem_drop, List.getElem_drop]
    intro hp
    have hi' : i < l.length - (y + 4) := by simpa using hi
    have := h (y + (4 + i)) (by omega) hp
    omega
  rw [h1, h3]
  have := List.length_filter_le p ((l.drop y).take 4)
  simp at this ⊢
  omega

theorem landed_length (f t : G) (color y x : Nat) : (landed f t color y x).length = f.length := by
  simp [landed]

theorem landed_row_outside (f t : G) (color y x i : Nat) (hi : i < f.length)
    (ho : ¬ (y ≤ i ∧ i < y + 4)) :
    (landed f t color y x)[i]'(by rw [landed_length]; exact hi) = f[i] := by
  simp only [landed, List.getElem_mapIdx]
  have : ∀ c, (pieceCells t).any (fun p => y + p.1 == i && x + p.2 == c) = false := by
    intro c
    rw [List.any_eq_false]
    intro p hp
    have := (mem_pieceCells t p).1 hp
    simp
    omega
  simp only [this]
  apply List.ext_getElem <;> simp

theorem landed_cleared_le (f t : G) (color y x : Nat) (hf : f.all (fun r => !rowFull r) = true) :
    clearedCount (landed f t color y x) ≤ 4 := by
  unfold clearedCount
  apply filter_window _ _ y
  intro i hi hp
  by_cases ho : y ≤ i ∧ i < y + 4
  · exact ho
  · have hi' : i < f.length := by rw [landed_length] at hi; exact hi
    rw [landed_row_outside f t color y x i hi' ho] at hp
    rw [List.all_eq_true] at hf
    have := hf _ (List.getElem_mem hi')
    simp [hp] at this

theorem dropSpec_cells {cfg : Cfg} {g : G} {idx rot x : Nat}
    (hs : Jx.Grid.shaped g (cfg.numRows + 3) (cfg.numCols + 3) = true) (hi : idx < 7) (hr : rot < 4)
    (hl : legalB cfg g idx rot x = true) :
    Jx.Grid.count (fun v => v != 0) (dropSpec cfg g idx rot x).1 + cfg.numCols * (dropSpec cfg g idx rot x).2 =
      cells cfg g + 4 := by
  unfold dropSpec cells
  simp only []
  rw [field_eq_table cfg hs, ← (pieces_ok idx hi rot hr).four,
    ← landed_count (color := gridMax g + 1) (by omega)
      ((fits_cells ..).1 (dropY_fits (pieces_ok idx hi rot hr) (legal_fits0 hl)))]
  refine count_clearLines _ cfg.numCols fun r hr' => ?_
  rw [landed_table] at hr'
  exact ((Jx.Grid.shaped_iff_mem _ _ _).1 (Jx.Grid.shaped_table ..)).2 r hr'

theorem landed_numCols (f t : G) (color y x : Nat) : numColsOf (landed f t color y x) = numColsOf f := by
  cases f <;> simp [landed, numColsOf]

theorem clearLines_no_full (g : G) (hn : 0 < numColsOf g) :
    (clearLines g).all (fun r => !rowFull r) = true := by
  unfold clearLines
  rw [List.all_eq_true]
  intro r hr
  rw [List.mem_append] at hr
  rcases hr with hr | hr
  · have := (List.mem_replicate.1 hr).2
    rw [this]
    cases h : numColsOf g with
    | zero => omega
    | succ n => simp [rowFull, List.replicate_succ]
  · exact (List.mem_filter.1 hr).2

theorem legal_step {cfg : Cfg} {s : State} (hg : Good cfg s.gridPadded) (hi : s.tetrominoIndex < 7)
    (hR : 4 ≤ cfg.numRows) (hC : 4 ≤ cfg.numCols) {rot x : Nat} (hr : rot < 4) (hl : legal cfg s rot x) (d : Nat) :
    Good cfg (step cfg s (rot : Int) (x : Int) d).1.gridPadded ∧
    field cfg (step cfg s (rot : Int) (x : Int) d).1.gridPadded = (dropSpec cfg s.gridPadded s.tetrominoIndex rot x).1 ∧
    Jx.countTrue (step cfg s (rot : Int) (x : Int) d).1.fullLines = (dropSpec cfg s.gridPadded s.tetrominoIndex rot x).2 := by
  obtain ⟨hg1, hf1⟩ := place_good hg hR (pieces_ok _ hi _ hr) (legal_fits0 hl)
  obtain ⟨hg2, hf2, hn2⟩ := clean_good hg1 (by omega)
  rw [step_grid, step_full, table_lookup hi hr]
  exact ⟨hg2, hf2.trans (congrArg clearLines hf1), hn2.trans (congrArg clearedCount hf1)⟩

theorem Consistent.shaped {cfg : Cfg} {s : State} (h : Consistent cfg s) :
    Jx.Grid.shaped s.gridPadded (cfg.numRows + 3) (cfg.numCols + 3) = true := h.1
theorem Consistent.padding {cfg : Cfg} {s : State} (h : Consistent cfg s) : paddingEmpty cfg s.gridPadded = true := h.2.1
theorem Consistent.noFullRow {cfg : Cfg} {s : State} (h : Consistent cfg s) :
    (field cfg s.gridPadded).all (fun r => !rowFull r) = true := h.2.2.1
theorem Consistent.index {cfg : Cfg} {s : State} (h : Consistent cfg s) : s.tetrominoIndex < 7 := h.2.2.2.1
theorem Consistent.mask {cfg : Cfg} {s : State} (h : Consistent cfg s) : s.actionMask = legalMask cfg s := h.2.2.2.2.2.1

theorem legal_isValid (cfg : Cfg) (s : State) (hm : s.actionMask = legalMask cfg s) (rot x : Nat) (hr : rot < 4)
    (hx : x < cfg.numCols) (hl : legal cfg s rot x) : isValid s (rot : Int) (x : Int) = true := by
  rw [isValid_eq_legal cfg s hm hr hx]
  exact hl

theorem step_cleared_le (cfg : Cfg) (s : State) (hf : (field cfg s.gridPadded).all (fun r => !rowFull r) = true)
    (rot x : Nat) : (dropSpec cfg s.gridPadded s.tetrominoIndex rot x).2 ≤ 4 :=
  landed_cleared_le _ _ _ _ _ hf

/-- C09: a legal step follows the rules -/
theorem step_eq_spec (cfg : Cfg) (s : State) (hc : Consistent cfg s) (hR : 4 ≤ cfg.numRows)
    (hC : 4 ≤ cfg.numCols) (rot x d : Nat) (hr : rot < 4) (hx : x < cfg.numCols)
    (hl : legal cfg s rot x) :
    field cfg (step cfg s (rot : Int) (x : Int) d).1.gridPadded =
      (dropSpec cfg s.gridPadded s.tetrominoIndex rot x).1 ∧
    Jx.countTrue (step cfg s (rot : Int) (x : Int) d).1.fullLines =
      (dropSpec cfg s.gridPadded s.tetrominoIndex rot x).2 ∧
    (step cfg s (rot : Int) (x : Int) d).2.reward =
      [rewardList.getD (dropSpec cfg s.gridPadded s.tetrominoIndex rot x).2 0] := by
  obtain ⟨_, hf, hn⟩ := legal_step ⟨hc.shaped, hc.padding⟩ hc.index hR hC hr hl d
  refine ⟨hf, hn, ?_⟩
  have hk := step_cleared_le cfg s hc.noFullRow rot x
  rw [step_reward, hn, legal_isValid cfg s hc.mask rot x hr hx hl, Jx.getWC_nat rewardList 0 (by simp [rewardList]; omega)]
  simp [Rat.mul_one]

/-- C07: four cells are added and `numCols` cells removed per cleared line -/
theorem step_conserved (cfg : Cfg) (s : State) (hg : Good cfg s.gridPadded) (hi : s.tetrominoIndex < 7)
    (hR : 4 ≤ cfg.numRows) (hC : 4 ≤ cfg.numCols) (rot x d : Nat) (hr : rot < 4) (hl : legal cfg s rot x) :
    cells cfg (step cfg s (rot : Int) (x : Int) d).1.gridPadded +
        cfg.numCols * Jx.countTrue (step cfg s (rot : Int) (x : Int) d).1.fullLines =
      cells cfg s.gridPadded + 4 := by
  obtain ⟨_, hf, hn⟩ := legal_step hg hi hR hC hr hl d
  unfold cells at ⊢
  rw [hf, hn]
  exact dropSpec_cells hg.1 hi hr hl

theorem field_row_length (cfg : Cfg) (g : G)
    (hs : Jx.Grid.shaped g (cfg.numRows + 3) (cfg.numCols + 3) = true) :
    ∀ r ∈ field cfg g, r.length = cfg.numCols := by
  have hrow : ∀ r ∈ g, r.length = cfg.numCols + 3 := ((Jx.Grid.shaped_iff_mem _ _ _).1 hs).2
  intro r hr
  unfold field at hr
  obtain ⟨r', hr', rfl⟩ := List.mem_map.1 hr
  have := hrow r' (List.mem_of_mem_take hr')
  simp; omega

def GridShaped (cfg : Cfg) (s : State) : Prop :=
  Jx.Grid.shaped s.gridPadded (cfg.numRows + 3) (cfg.numCols + 3) = true

theorem paint_shaped {g : G} {R C : Nat} (h : Jx.Grid.shaped g R C = true) (t : G) (color ys xs : Nat) :
    Jx.Grid.shaped (paint g t color ys xs) R C = true := by
  rw [Jx.Grid.shaped_iff_mem] at h ⊢
  obtain ⟨hl, hr⟩ := h
  unfold paint
  refine ⟨by simpa using hl, ?_⟩
  intro r hr'
  rw [List.mem_mapIdx] at hr'
  obtain ⟨i, hi, rfl⟩ := hr'
  simp only [List.length_mapIdx]
  exact hr _ (List.getElem_mem hi)

theorem placeTetromino_shaped {g : G} {R C : Nat} (h : Jx.Grid.shaped g R C = true) (t : G) (x : Int) :
    Jx.Grid.shaped (placeTetromino g t x).1 R C = true := by
  unfold placeTetromino
  exact paint_shaped h _ _ _ _

theorem step_gridShaped (cfg : Cfg) (s : State) (h : GridShaped cfg s) (rot x : Int) (d : Nat) :
    GridShaped cfg (step cfg s rot x d).1 := by
  unfold GridShaped
  rw [step_grid]
  exact cleanLines_shaped (placeTetromino_shaped h _ _) _

theorem reset_gridShaped (cfg : Cfg) (d : Nat) : GridShaped cfg (reset cfg d).1 := by
  unfold GridShaped reset
  simp [Jx.Grid.shaped, Jx.Grid.mk]

/-- the mask cached by EVERY step (any integers as action, legal or not) from a state with a shaped grid is the legality
table of the successor: neither side looks at the padding -/
theorem step_mask_legalMask (cfg : Cfg) (s : State) (hs : GridShaped cfg s) (hR : 4 ≤ cfg.numRows)
    (hC : 4 ≤ cfg.numCols) (rot x : Int) (d : Nat) (hd : validDraw d) :
    (step cfg s rot x d).1.actionMask = legalMask cfg (step cfg s rot x d).1 :=
  (cached_mask cfg s rot x d).trans
    (calcActionMask_eq_legalMask cfg _ (step_gridShaped cfg s hs rot x d) hR hC (by rw [step_index]; exact hd))

/-- C07: every step from which the episode continues leads to a consistent state -/
theorem step_consistent (cfg : Cfg) (s : State) (hc : Consistent cfg s) (hR : 4 ≤ cfg.numRows)
    (hC : 4 ≤ cfg.numCols) (rot x d : Nat) (hr : rot < 4) (hx : x < cfg.numCols) (hd : validDraw d)
    (hn : (step cfg s (rot : Int) (x : Int) d).2.stepType ≠ .last) :
    Consistent cfg (step cfg s (rot : Int) (x : Int) d).1 := by
  have hlast := last_iff cfg s (rot : Int) (x : Int) d
  -- a step that is not LAST was not masked out, so the action is legal
  have hl : legal cfg s rot x := by
    show legalB _ _ _ _ _ = true
    rw [← isValid_eq_legal cfg s hc.mask hr hx]
    exact Bool.of_not_eq_false fun h => hn (hlast.2 (Or.inl h))
  obtain ⟨hg, hf, _⟩ := legal_step ⟨hc.shaped, hc.padding⟩ hc.index hR hC hr hl d
  refine ⟨hg.1, hg.2, ?_, hd, ?_, step_mask_legalMask cfg s hc.shaped hR hC _ _ d hd,
    Nat.le_of_not_le fun h => hn (hlast.2 (Or.inr (Or.inr h)))⟩
  · rw [hf]
    apply clearLines_no_full
    rw [landed_numCols, numColsOf_field_shaped cfg _ hc.shaped (by omega)]
    omega
  · rw [step_newT, step_index]
    exact table_lookup0 hd

/-- C07: the reset state is consistent -/
theorem reset_consistent (cfg : Cfg) (hR : 4 ≤ cfg.numRows) (hC : 4 ≤ cfg.numCols) (d : Nat)
    (hd : validDraw d) : Consistent cfg (reset cfg d).1 := by
  have hs : Jx.Grid.shaped (Jx.Grid.mk (cfg.numRows + 3) (cfg.numCols + 3) 0 : G)
      (cfg.numRows + 3) (cfg.numCols + 3) = true := Jx.Grid.shaped_mk ..
  have hp : paddingEmpty cfg (Jx.Grid.mk (cfg.numRows + 3) (cfg.numCols + 3) 0 : G) = true := by
    rw [Jx.Grid.mk_eq_table, paddingEmpty_table]; exact fun _ _ _ _ _ => rfl
  have hmask := calcActionMask_eq_legalMask cfg (reset cfg d).1 hs hR hC hd
  rw [show (reset cfg d).1.gridPadded = Jx.Grid.mk (cfg.numRows + 3) (cfg.numCols + 3) 0 from rfl, clip1_zero] at hmask
  refine ⟨hs, hp, ?_, hd, ?_, hmask, Nat.zero_le _⟩
  · show (field cfg (Jx.Grid.mk (cfg.numRows + 3) (cfg.numCols + 3) 0)).all (fun r => !rowFull r) = true
    rw [Jx.Grid.mk_eq_table, field_table, List.all_eq_true]
    intro r hr
    obtain ⟨i, _, rfl⟩ := List.mem_map.1 hr
    cases h : cfg.numCols with
    | zero => omega
    | succ n => simp [rowFull, List.range_succ_eq_map]
  · simp only [reset]
    exact table_lookup0 hd

end Tetris
