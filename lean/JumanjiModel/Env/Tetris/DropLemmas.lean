/- C09, the drop: `place_tetromino` paints the piece in the row where free fall stops (`argmin` over the `fits` flags, with
the wrap of `y = -1`); on a good grid the visible field afterwards is the landed field and the grid stays good (`place_good`).
`paint` (the code) and `landed` (the rules) both write the colour on `cellsAt`, the cells the piece covers. -/
import JumanjiModel.Env.Tetris.GridLemmas
namespace Tetris
open Jx.Grid

theorem rowFlags_length {t : G} (ht : Jx.Grid.shaped t 4 4 = true) : (padFlags (rowAny t)).length = 3 := by
  simp [padFlags, rowAny, Jx.Grid.shaped_length ht]

theorem fits_iff (cfg : Cfg) (g t : G) (y x : Nat) :
    fits cfg g t (y : Int) x = true ↔
      ∀ r, r < 4 → ∀ c, c < 4 → Jx.Grid.get t 0 r c ≠ 0 →
        x + c < cfg.numCols ∧ y + r < cfg.numRows ∧ Jx.Grid.get g 0 (y + r) (x + c) = 0 := by
  rw [fits_int_iff]
  have e1 : ∀ r : Nat, ((y : Int) + (r : Int)).toNat = y + r := fun r => by omega
  have e2 : ∀ r : Nat, ¬ ((y : Int) + (r : Int) < 0) := fun r => by omega
  simp only [e1, e2, false_or]

theorem legal_fits0 {cfg : Cfg} {g : G} {idx rot x : Nat} (hl : legalB cfg g idx rot x = true) :
    fits cfg g (pieceAt idx rot) ((0 : Nat) : Int) x = true := by
  unfold legalB at hl
  simp only [Bool.and_eq_true, List.all_eq_true, List.mem_range] at hl
  simpa using hl.2 0 (by omega)

theorem fallFrom_spec (cfg : Cfg) (g t : G) (x : Nat) (fuel y : Nat) :
    y ≤ fallFrom cfg g t x fuel y ∧ fallFrom cfg g t x fuel y ≤ y + fuel ∧
    (∀ z, y < z → z ≤ fallFrom cfg g t x fuel y → fits cfg g t (z : Int) x = true) ∧
    (fallFrom cfg g t x fuel y < y + fuel →
      fits cfg g t ((fallFrom cfg g t x fuel y + 1 : Nat) : Int) x = false) := by
  induction fuel generalizing y with
  | zero => simp [fallFrom]; intro z h1 h2; omega
  | succ fuel ih =>
    have ec : ((y + 1 : Nat) : Int) = (y : Int) + 1 := by omega
    unfold fallFrom
    cases hf : fits cfg g t ((y : Int) + 1) x
    · simp only [Bool.false_eq_true, if_false]
      refine ⟨Nat.le_refl _, by omega, fun z h1 h2 => by omega, fun _ => ?_⟩
      rw [ec]; exact hf
    · simp only [if_true]
      obtain ⟨h1, h2, h3, h4⟩ := ih (y + 1)
      refine ⟨by omega, by omega, ?_, fun hh => h4 (by omega)⟩
      intro z hz1 hz2
      by_cases hz : z = y + 1
      · subst hz; rw [ec]; exact hf
      · exact h3 z (by omega) hz2

/-! ### the drop of a piece `t` with `PieceOK t` that fits at the top of column `x` (a legal action: `legal_fits0`) -/

theorem dropY_spec (cfg : Cfg) (gp : G) {t : G} (x : Nat) (ht : PieceOK t)
    (h0 : fits cfg gp t ((0 : Nat) : Int) x = true) :
    (∀ z, z ≤ dropY cfg gp t x → fits cfg gp t (z : Int) x = true) ∧ dropY cfg gp t x < cfg.numRows ∧
    (dropY cfg gp t x + 1 < cfg.numRows → fits cfg gp t ((dropY cfg gp t x + 1 : Nat) : Int) x = false) := by
  obtain ⟨h1, h2, h3, h4⟩ := fallFrom_spec cfg gp t x cfg.numRows 0
  have hall : ∀ z, z ≤ dropY cfg gp t x → fits cfg gp t (z : Int) x = true := by
    intro z hz
    by_cases hz0 : z = 0
    · subst hz0; exact h0
    · exact h3 z (by omega) hz
  refine ⟨hall, ?_, fun hh => h4 (by unfold dropY at hh; omega)⟩
  have hY := (fits_iff _ _ _ _ _).1 (hall _ (Nat.le_refl _))
  obtain ⟨r, hr', c, hc, hne⟩ := ht.nonempty
  have := hY r hr' c hc hne
  omega

theorem dropY_fits {cfg : Cfg} {gp t : G} {x : Nat} (ht : PieceOK t) (h0 : fits cfg gp t ((0 : Nat) : Int) x = true) :
    fits cfg gp t (dropY cfg gp t x : Nat) x = true :=
  (dropY_spec cfg gp x ht h0).1 _ (Nat.le_refl _)

theorem fits_col {cfg : Cfg} {gp t : G} {y x : Nat} (ht : PieceOK t) (h : fits cfg gp t (y : Int) x = true) :
    x < cfg.numCols := by
  obtain ⟨r, hr, c, hc, hne⟩ := ht.nonempty
  have := ((fits_iff ..).1 h r hr c hc hne).1
  omega

/-- `possible_positions` of `place_tetromino` are the `fits` flags -/
theorem poss_eq (cfg : Cfg) (gp : G) {t : G} (x : Nat)
    (hs : Jx.Grid.shaped gp (cfg.numRows + 3) (cfg.numCols + 3) = true) (hR : 4 ≤ cfg.numRows)
    (ht : PieceOK t) (h0 : fits cfg gp t ((0 : Nat) : Int) x = true) :
    andLast3 ((List.range (gp.length - 3)).map (fun (y : Nat) => checkValid (clip1 gp) t (y : Int) (x : Int)))
      (padFlags (rowAny t)) =
    (List.range cfg.numRows).map (fun (y : Nat) => fits cfg gp t (y : Int) x) := by
  obtain ⟨n, hn⟩ : ∃ n, cfg.numRows = n + 3 := ⟨cfg.numRows - 3, by omega⟩
  have e : gp.length - 3 = cfg.numRows := by have := Jx.Grid.shaped_length hs; omega
  have hpl := rowFlags_length ht.shaped
  -- the column condition of `fits` comes from the fit at the top; `checkValid` does not test it
  have hcol := (fits_iff cfg gp t 0 x).1 h0
  have hx := fits_col ht h0
  rw [e]
  apply Jx.ext_getD false
  · rw [andLast3_length _ _ (by simp [hn]) hpl]; simp
  · intro y hy
    rw [andLast3_length _ _ (by simp [hn]) hpl, List.length_map, List.length_range] at hy
    rw [andLast3_getD _ _ n y (by simp [hn]) hpl (by omega), Jx.getD_range_map _ _ hy, Jx.getD_range_map _ _ hy,
      Bool.eq_iff_iff, Bool.and_eq_true, fits_iff, checkValid_clip_iff hs ht.shaped ht.le_one (by omega) (by omega),
      flag_fits (ax := Prod.fst) (fun p hp => ((mem_pieceCells t p).1 hp).1) ht.rowFlag_iff (hn ▸ hy), ← hn]
    constructor
    · rintro ⟨H1, H2⟩ r hr' c hc hne
      exact ⟨(hcol r hr' c hc hne).1, H2 (r, c) ((mem_pieceCells t _).2 ⟨hr', hc, hne⟩), H1 r hr' c hc hne⟩
    · intro H
      refine ⟨fun r hr' c hc hne => (H r hr' c hc hne).2.2, fun p hp => ?_⟩
      obtain ⟨h1, h2, h3⟩ := (mem_pieceCells t p).1 hp
      exact (H p.1 h1 p.2 h2 h3).2.1

theorem place_row (cfg : Cfg) (gp : G) {t : G} (x : Nat)
    (hs : Jx.Grid.shaped gp (cfg.numRows + 3) (cfg.numCols + 3) = true) (hR : 4 ≤ cfg.numRows)
    (ht : PieceOK t) (h0 : fits cfg gp t ((0 : Nat) : Int) x = true) :
    dsStart (cfg.numRows + 3) 4 (placeTetromino gp t (x : Int)).2 = dropY cfg gp t x := by
  show dsStart (cfg.numRows + 3) 4 ((Jx.argminBool (andLast3 ((List.range (gp.length - 3)).map
        (fun (y : Nat) => checkValid (clip1 gp) t (y : Int) (x : Int))) (padFlags (rowAny t))) : Int) - 1) = _
  rw [poss_eq cfg gp x hs hR ht h0]
  obtain ⟨hall, hlt, hfalse⟩ := dropY_spec cfg gp x ht h0
  rw [Jx.argminBool_range _ _ (dropY cfg gp t x + 1) (fun j hj => hall j (by omega)) hfalse (by omega)]
  split
  · rw [show ((dropY cfg gp t x + 1 : Nat) : Int) - 1 = ((dropY cfg gp t x : Nat) : Int) by omega, dsStart4_nat (by omega)]
  · -- all flags true (a flat piece reaching the floor): `argmin = 0`, and the start index `-1` wraps and is clamped
    show dsStart (cfg.numRows + 3) 4 (-1) = _
    rw [dsStart4_neg_one (by omega)]
    omega

/-- the cells of the grid that the piece `t` covers with the top-left corner of its box at `(y, x)` -/
abbrev cellsAt (t : G) (y x : Nat) : List (Nat × Nat) := stampCells y x (pieceCells t)

theorem pieceCells_eq (t : G) : pieceCells t = boxCells 4 t := rfl

theorem mem_cellsAt {t : G} {y x i j : Nat} :
    (i, j) ∈ cellsAt t y x ↔ (y ≤ i ∧ i < y + 4 ∧ x ≤ j ∧ j < x + 4) ∧ Jx.Grid.get t 0 (i - y) (j - x) ≠ 0 :=
  mem_stamp_box (n := 4)

theorem fits_cells (cfg : Cfg) (g t : G) (y x : Nat) :
    fits cfg g t (y : Int) x = true ↔
      ∀ p ∈ cellsAt t y x, (p.1 < cfg.numRows ∧ p.2 < cfg.numCols) ∧ Jx.Grid.get g 0 p.1 p.2 = 0 := by
  rw [fits_iff, cellsAt, pieceCells_eq,
    forall_stamp_box (P := fun i j => (i < cfg.numRows ∧ j < cfg.numCols) ∧ Jx.Grid.get g 0 i j = 0)]
  exact forall_congr' fun r => forall_congr' fun _ => forall_congr' fun c => forall_congr' fun _ =>
    forall_congr' fun _ => ⟨fun h => ⟨⟨h.2.1, h.1⟩, h.2.2⟩, fun h => ⟨h.1.2, h.1.1, h.2⟩⟩

/-- the table `F` with `v` written on the cells `cs` -/
def put (F : Nat → Nat → Nat) (cs : List (Nat × Nat)) (v : Nat) (i j : Nat) : Nat := if (i, j) ∈ cs then v else F i j

theorem landed_mark (t : G) (y x i j : Nat) :
    (pieceCells t).any (fun p => y + p.1 == i && x + p.2 == j) = true ↔ (i, j) ∈ cellsAt t y x := by
  simp only [cellsAt, stampCells, List.any_eq_true, List.mem_map, Bool.and_eq_true, beq_iff_eq, Prod.mk.injEq]

theorem landed_table (R C : Nat) (F : Nat → Nat → Nat) (t : G) (color y x : Nat) :
    landed (table R C F) t color y x = table R C (put F (cellsAt t y x) color) :=
  (mapIdx_table R C F _).trans (table_congr fun i _ j _ => by simp only [put, landed_mark])

/-- `max(g, piece * colour)` on free cells, for a 0/1 piece -/
theorem paint_table (n m : Nat) {F : Nat → Nat → Nat} {t : G} (color : Nat) {Y x : Nat}
    (h01 : ∀ r, r < 4 → ∀ c, c < 4 → Jx.Grid.get t 0 r c ≤ 1) (hfree : ∀ p ∈ cellsAt t Y x, F p.1 p.2 = 0) :
    paint (table n m F) t color Y x = table n m (put F (cellsAt t Y x) color) := by
  refine (mapIdx_table n m F _).trans (table_congr fun i _ j _ => ?_)
  unfold put
  by_cases hw : Y ≤ i ∧ i < Y + 4 ∧ x ≤ j ∧ j < x + 4
  · rw [if_pos hw]
    by_cases hne : Jx.Grid.get t 0 (i - Y) (j - x) = 0
    · rw [if_neg (fun hm => (mem_cellsAt.1 hm).2 hne), hne, Nat.zero_mul, Nat.max_zero]
    · have hm : (i, j) ∈ cellsAt t Y x := mem_cellsAt.2 ⟨hw, hne⟩
      have := h01 (i - Y) (by omega) (j - x) (by omega)
      rw [if_pos hm, hfree _ hm, show Jx.Grid.get t 0 (i - Y) (j - x) = 1 by omega, Nat.one_mul, Nat.zero_max]
  · rw [if_neg hw, if_neg (fun hm => hw (mem_cellsAt.1 hm).1)]

theorem landed_count {R C : Nat} {F : Nat → Nat → Nat} {t : G} {color y x : Nat} (hcolor : color ≠ 0)
    (hfit : ∀ p ∈ cellsAt t y x, (p.1 < R ∧ p.2 < C) ∧ F p.1 p.2 = 0) :
    count (fun v => v != 0) (landed (table R C F) t color y x) =
      count (fun v => v != 0) (table R C F) + (pieceCells t).length := by
  rw [← length_stampCells y x]
  exact (congrArg _ (mapIdx_table R C F _)).trans
    (count_table_write (v := fun _ _ => color) (landed_mark t y x)
      (nodup_stampCells (nodup_boxCells 4 t) y x) (fun p hp => (hfit p hp).1)
      (fun p hp => by simp [(hfit p hp).2]) (fun _ _ => by simpa using hcolor))

theorem all_drop_iff {α} (l : List α) (k : Nat) (p : α → Bool) :
    (l.drop k).all p = true ↔ ∀ i (h : i < l.length), k ≤ i → p l[i] = true := by
  rw [List.all_eq_true]
  constructor
  · intro H i h hk
    apply H
    rw [List.mem_iff_getElem]
    refine ⟨i - k, by simp; omega, ?_⟩
    rw [List.getElem_drop]
    congr 1; omega
  · intro H a ha
    obtain ⟨i, hi, rfl⟩ := List.mem_iff_getElem.1 ha
    rw [List.getElem_drop]
    simp at hi
    exact H _ (by omega) (by omega)

theorem paddingEmpty_table (cfg : Cfg) (n m : Nat) (F : Nat → Nat → Nat) :
    paddingEmpty cfg (table n m F) = true ↔
      ∀ i, i < n → ∀ j, j < m → (cfg.numRows ≤ i ∨ cfg.numCols ≤ j) → F i j = 0 := by
  unfold paddingEmpty table
  rw [Bool.and_eq_true, all_drop_iff, List.all_eq_true]
  simp only [all_drop_iff]
  simp only [List.getElem_map, List.getElem_range, List.length_map, List.length_range,
    List.mem_map, List.mem_range, beq_iff_eq, List.all_eq_true]
  constructor
  · rintro ⟨H1, H2⟩ i hi j hj hor
    rcases hor with h | h
    · exact H1 i hi h _ ⟨j, hj, rfl⟩
    · have := H2 _ ⟨i, hi, rfl⟩ j (by simpa using hj) h
      simpa using this
  · intro H
    constructor
    · rintro i hi h v ⟨j, hj, rfl⟩
      exact H i hi j hj (Or.inl h)
    · rintro r ⟨i, hi, rfl⟩ j hj h
      simp only [List.length_map, List.length_range] at hj
      simp only [List.getElem_map, List.getElem_range]
      exact H i hi j hj (Or.inr h)

theorem paint_good {cfg : Cfg} {g t : G} (color : Nat) {Y x : Nat} (hg : Good cfg g)
    (h01 : ∀ r, r < 4 → ∀ c, c < 4 → Jx.Grid.get t 0 r c ≤ 1) (hfit : fits cfg g t (Y : Int) x = true) :
    Good cfg (paint g t color Y x) ∧ field cfg (paint g t color Y x) = landed (field cfg g) t color Y x := by
  have hc := (fits_cells ..).1 hfit
  obtain ⟨hs, hp⟩ := hg
  obtain ⟨F, rfl⟩ : ∃ F, g = table _ _ F := ⟨_, eq_table hs 0⟩
  have hfree : ∀ p ∈ cellsAt t Y x, F p.1 p.2 = 0 := fun p hp =>
    get_table (cfg.numRows + 3) (cfg.numCols + 3) F 0 (i := p.1) (j := p.2) (by have := (hc p hp).1; omega)
      (by have := (hc p hp).1; omega) ▸ (hc p hp).2
  rw [paint_table _ _ color h01 hfree, field_table, field_table, landed_table]
  refine ⟨⟨shaped_table .., ?_⟩, rfl⟩
  rw [paddingEmpty_table] at hp ⊢
  intro i hi j hj hor
  unfold put
  -- the covered cells lie inside the field
  rw [if_neg (fun hm => by have := (hc _ hm).1; omega)]
  exact hp i hi j hj hor

theorem place_grid (cfg : Cfg) (gp : G) {t : G} (x : Nat)
    (hs : Jx.Grid.shaped gp (cfg.numRows + 3) (cfg.numCols + 3) = true) (hR : 4 ≤ cfg.numRows)
    (ht : PieceOK t) (h0 : fits cfg gp t ((0 : Nat) : Int) x = true) :
    (placeTetromino gp t (x : Int)).1 = paint gp t (gridMax gp + 1) (dropY cfg gp t x) x := by
  have hx := fits_col ht h0
  show paint gp t (gridMax gp + 1) (dsStart gp.length 4 (placeTetromino gp t (x : Int)).2)
      (dsStart (numColsOf gp) 4 (x : Int)) = _
  rw [Jx.Grid.shaped_length hs, place_row cfg gp x hs hR ht h0, numColsOf_shaped (R := cfg.numRows + 2) hs,
    dsStart4_nat (by omega)]

theorem place_good {cfg : Cfg} {gp t : G} {x : Nat} (hg : Good cfg gp) (hR : 4 ≤ cfg.numRows) (ht : PieceOK t)
    (h0 : fits cfg gp t ((0 : Nat) : Int) x = true) :
    Good cfg (placeTetromino gp t (x : Int)).1 ∧
      field cfg (placeTetromino gp t (x : Int)).1 = landed (field cfg gp) t (gridMax gp + 1) (dropY cfg gp t x) x := by
  rw [place_grid cfg gp x hg.1 hR ht h0]
  exact paint_good _ hg ht.le_one (dropY_fits ht h0)

end Tetris
