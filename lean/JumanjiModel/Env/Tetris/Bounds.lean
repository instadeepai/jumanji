/-
Tetris — C01: value bounds of the observation leaves.
`observation_spec`: `grid` BoundedArray(int32, 0, 1), `tetromino` BoundedArray(int32, 0, 1), `action_mask` bool,
`step_count` DiscreteArray(time_limit + 1) = [0, time_limit].
-/
import JumanjiModel.Env.Tetris.GridLemmas
import JumanjiModel.Env.PuzzleBounds
namespace Tetris
open Jm PzB

def obsBounds (cfg : Cfg) : Table :=
  [("grid", iv 0 1), ("tetromino", iv 0 1), ("action_mask", iv 0 1), ("step_count", iv 0 (cfg.timeLimit : Int))]

def obsLeaves (o : Obs) : Leaves :=
  [("grid", nats2 o.grid), ("tetromino", nats2 o.tetromino), ("action_mask", bools2 o.actionMask),
   ("step_count", [(o.stepCount : Int)])]

theorem tetrominoes_le_one : ∀ p ∈ tetrominoes, ∀ t ∈ p, ∀ r ∈ t, ∀ v ∈ r, v ≤ 1 := by decide

/-- `TETROMINOES_LIST[d, i]` with gather semantics: for any `d` and `i`, in range or not -/
theorem piece_le_one (d i : Int) : ∀ r ∈ Jx.getWC (Jx.getWC tetrominoes [] d) [] i, ∀ v ∈ r, v ≤ 1 := by
  apply Jx.getWC_of_all (P := fun t => ∀ r ∈ t, ∀ v ∈ r, v ≤ 1) i
  · apply Jx.getWC_of_all (P := fun p => ∀ t ∈ p, ∀ r ∈ t, ∀ v ∈ r, v ≤ 1) d tetrominoes_le_one
    intro t ht; cases ht
  · intro r hr; cases hr

theorem clipField_le_one (g : G) (nr nc : Nat) : ∀ r ∈ ((clip1 g).take nr).map (fun r => r.take nc), ∀ v ∈ r, v ≤ 1 := by
  intro r hr v hv
  simp only [List.mem_map] at hr
  obtain ⟨r0, hr0, rfl⟩ := hr
  have hr1 := List.mem_of_mem_take hr0
  have hv1 := List.mem_of_mem_take hv
  simp only [clip1, List.mem_map] at hr1
  obtain ⟨r2, _, rfl⟩ := hr1
  simp only [List.mem_map] at hv1
  obtain ⟨w, _, rfl⟩ := hv1
  omega

theorem emptyField_le_one (n m nr nc : Nat) :
    ∀ r ∈ ((Jx.Grid.mk n m 0 : G).take nr).map (fun r => r.take nc), ∀ v ∈ r, v ≤ 1 := by
  have h := clipField_le_one (Jx.Grid.mk n m 0) nr nc
  rwa [clip1_zero] at h

theorem obs_in_bounds (cfg : Cfg) (g t : G) (m : List (List Bool)) (n : Nat) (hg : ∀ r ∈ g, ∀ v ∈ r, v ≤ 1)
    (ht : ∀ r ∈ t, ∀ v ∈ r, v ≤ 1) (hs : n ≤ cfg.timeLimit) :
    ObsInBounds (obsBounds cfg) (obsLeaves ⟨g, t, m, n⟩) :=
  obsInBounds_of_aligned rfl (by simp [obsLeaves]) <|
    Jx.all_cons (allIn_nats2 _ 1 hg) <| Jx.all_cons (allIn_nats2 _ 1 ht) <| Jx.all_cons (allIn_bools2 _) <|
    Jx.all_cons (allIn_single _ _ _ ⟨Int.natCast_nonneg n, Int.ofNat_le.2 hs⟩) Jx.all_nil

theorem step_obs_eq (cfg : Cfg) (s : State) (rot x : Int) (d : Nat) :
    (step cfg s rot x d).2.obs =
      { grid := ((clip1 (step cfg s rot x d).1.gridPadded).take cfg.numRows).map (fun r => r.take cfg.numCols),
        tetromino := Jx.getWC (Jx.getWC tetrominoes [] (d : Int)) [] 0,
        actionMask := calcActionMask (clip1 (step cfg s rot x d).1.gridPadded) (d : Int),
        stepCount := s.stepCount + 1 } := by
  simp only [step, condLast_obs]

end Tetris
