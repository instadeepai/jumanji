/- C04: the mask bit `tetromino_action_mask` computes on the clipped grid is legality under the rules; both are brought to
the window form `ruleQ` (every cell of the piece within the columns, everything above it empty), for any piece with `PieceOK`. -/
import JumanjiModel.Env.Tetris.GridLemmas
namespace Tetris

theorem mask_le_one (t : G) (r c : Nat) : Jx.Grid.get (tetrominoMask t) 0 r c ≤ 1 := by
  unfold tetrominoMask
  -- `simp only []` (here and below): only reduces the `let`s that `unfold` exposed
  simp only []
  rw [get_clip1]
  omega

theorem padFlags_length (t : G) : (padFlags (colAny t)).length = 3 := by
  simp [padFlags, colAny]

/-- the rule in window form: every cell of the piece is within the columns and everything above it is empty -/
def ruleQ (cfg : Cfg) (gp t : G) (x : Nat) : Prop :=
  ∀ r, r < 4 → ∀ c, c < 4 → Jx.Grid.get t 0 r c ≠ 0 →
    x + c < cfg.numCols ∧ ∀ r', r' ≤ r → Jx.Grid.get gp 0 r' (x + c) = 0

theorem L1_entry (cfg : Cfg) (gp : G) {t : G} (x : Nat)
    (hs : Jx.Grid.shaped gp (cfg.numRows + 3) (cfg.numCols + 3) = true)
    (hR : 1 ≤ cfg.numRows) (hC : 4 ≤ cfg.numCols) (ht : PieceOK t) (hx : x < cfg.numCols) :
    (tetrominoActionMask (clip1 gp) t).getD x false = true ↔ ruleQ cfg gp t x := by
  obtain ⟨n, hn⟩ : ∃ n, cfg.numCols = n + 3 := ⟨cfg.numCols - 3, by omega⟩
  have hnc : numColsOf (clip1 gp) - 3 = cfg.numCols := by
    rw [numColsOf_shaped (R := cfg.numRows + 2) (shaped_clip1 hs)]; omega
  have hcv := checkValid_clip_iff (y := 0) (x := x) hs ht.maskShaped
    (fun r _ c _ => mask_le_one _ r c) (by omega) (by omega)
  rw [Int.natCast_zero] at hcv
  unfold tetrominoActionMask
  simp only []
  rw [hnc, andLast3_getD _ _ n x (by simp [hn]) (padFlags_length _) (by omega),
    Jx.getD_range_map _ _ hx, Bool.and_eq_true, hcv,
    flag_fits (ax := Prod.snd) (fun p hp => ((mem_pieceCells t p).1 hp).2.1) ht.colFlag_iff (hn ▸ hx), ← hn]
  simp only [Nat.zero_add]
  unfold ruleQ
  constructor
  · rintro ⟨H1, H2⟩ r hr4 c hc4 hne
    refine ⟨H2 (r, c) ((mem_pieceCells t _).2 ⟨hr4, hc4, hne⟩), fun r' hr' => ?_⟩
    exact H1 r' (by omega) c hc4 ((ht.closure_iff (by omega) hc4).2 ⟨r, hr4, hr', hne⟩)
  · intro Q
    refine ⟨fun r' hr' c hc4 hm => ?_, fun p hp => ?_⟩
    · obtain ⟨r, hr4, hle, hne⟩ := (ht.closure_iff hr' hc4).1 hm
      exact (Q r hr4 c hc4 hne).2 r' hle
    · obtain ⟨h1, h2, h3⟩ := (mem_pieceCells t p).1 hp
      exact (Q p.1 h1 p.2 h2 h3).1

theorem fits_neg_iff (cfg : Cfg) (g t : G) (k x : Nat) :
    fits cfg g t (-(k : Int)) x = true ↔
      ∀ r, r < 4 → ∀ c, c < 4 → Jx.Grid.get t 0 r c ≠ 0 →
        x + c < cfg.numCols ∧ (r < k ∨ (r - k < cfg.numRows ∧ Jx.Grid.get g 0 (r - k) (x + c) = 0)) := by
  rw [fits_int_iff]
  have e1 : ∀ r : Nat, (-(k : Int) + (r : Int)).toNat = r - k := fun r => by omega
  have e2 : ∀ r : Nat, (-(k : Int) + (r : Int) < 0) ↔ r < k := fun r => by omega
  simp only [e1, e2]

theorem legalB_iff (cfg : Cfg) (gp : G) (idx rot x : Nat) (hR : 4 ≤ cfg.numRows)
    (hr : rot < 4) (hx : x < cfg.numCols) :
    legalB cfg gp idx rot x = true ↔ ruleQ cfg gp (pieceAt idx rot) x := by
  unfold legalB ruleQ
  simp only [Bool.and_eq_true, decide_eq_true_eq, hr, hx, true_and, List.all_eq_true, List.mem_range,
    fits_neg_iff]
  constructor
  · intro H r hr4 c hc4 hne
    refine ⟨(H 0 (by omega) r hr4 c hc4 hne).1, ?_⟩
    intro r' hr'
    have h := (H (r - r') (by omega) r hr4 c hc4 hne).2
    have e : r - (r - r') = r' := by omega
    rw [e] at h
    rcases h with h | h
    · omega
    · exact h.2
  · intro Q k hk r hr4 c hc4 hne
    have h := Q r hr4 c hc4 hne
    refine ⟨h.1, ?_⟩
    by_cases hlt : r < k
    · exact Or.inl hlt
    · exact Or.inr ⟨by omega, h.2 (r - k) (by omega)⟩

/-- C04.  The padding need not be empty: a cell of the piece beyond the last column is rejected by both sides whatever
the padding holds -/
theorem tam_entry_eq_legal (cfg : Cfg) (gp : G) (idx rot x : Nat)
    (hs : Jx.Grid.shaped gp (cfg.numRows + 3) (cfg.numCols + 3) = true) (hR : 4 ≤ cfg.numRows) (hC : 4 ≤ cfg.numCols)
    (hi : idx < 7) (hr : rot < 4) (hx : x < cfg.numCols) :
    (tetrominoActionMask (clip1 gp) (pieceAt idx rot)).getD x false = legalB cfg gp idx rot x := by
  rw [Bool.eq_iff_iff, L1_entry cfg gp x hs (by omega) hC (pieces_ok idx hi rot hr) hx, legalB_iff cfg gp idx rot x hR hr hx]

theorem tam_length (cfg : Cfg) (gp : G) (t : G)
    (hs : Jx.Grid.shaped gp (cfg.numRows + 3) (cfg.numCols + 3) = true) (hC : 3 ≤ cfg.numCols) :
    (tetrominoActionMask (clip1 gp) t).length = cfg.numCols := by
  have hnc : numColsOf (clip1 gp) - 3 = cfg.numCols := by
    rw [numColsOf_shaped (R := cfg.numRows + 2) (shaped_clip1 hs)]; omega
  unfold tetrominoActionMask
  simp only []
  rw [hnc, andLast3_length _ _ (by simpa using hC) (padFlags_length _)]
  simp

theorem calcActionMask_eq (gp : G) {idx : Nat} (hi : idx < 7) :
    calcActionMask gp (idx : Int) = (List.range 4).map (fun rot => tetrominoActionMask gp (pieceAt idx rot)) := by
  unfold calcActionMask
  rw [tetrominoes_table, Jx.getWC_range_map _ _ hi, List.map_map]
  rfl

theorem calcActionMask_eq_legalMask (cfg : Cfg) (s : State)
    (hs : Jx.Grid.shaped s.gridPadded (cfg.numRows + 3) (cfg.numCols + 3) = true)
    (hR : 4 ≤ cfg.numRows) (hC : 4 ≤ cfg.numCols) (hi : s.tetrominoIndex < 7) :
    calcActionMask (clip1 s.gridPadded) (s.tetrominoIndex : Int) = legalMask cfg s := by
  rw [calcActionMask_eq _ hi]
  apply List.map_congr_left
  intro rot hrot
  have hr := List.mem_range.1 hrot
  have hl := tam_length cfg s.gridPadded (pieceAt s.tetrominoIndex rot) hs (by omega)
  apply Jx.ext_getD false
  · rw [hl]; simp
  · intro x hx
    rw [hl] at hx
    rw [tam_entry_eq_legal cfg _ _ rot x hs hR hC hi hr hx, Jx.getD_range_map _ _ hx]

end Tetris
