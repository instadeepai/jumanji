/-
Tetris — C01 spec membership: the declared specs as `Sp` values (equal to the generated literals of the catalogue
configuration: `tetris_obsSpec_generated`, Props/SpecTable.lean), membership of the observations of `reset` and of EVERY
`step` (any integers as action, legal or not, terminal step included; `3 ≤ numCols`, a valid piece draw) from a state whose
padded grid has its shape (`GridShaped`) and whose counter is below the time limit, the step protocol and the action spec.
-/
import JumanjiModel.Env.Tetris.StepLemmas
import JumanjiModel.Env.Tetris.Bounds
import JumanjiModel.Env.SpecMembership
namespace Tetris
open Jm Sp PzS PkS PzB

/-- `observation_spec`: `grid` BoundedArray((num_rows, num_cols), int32, 0, 1), `tetromino` BoundedArray((4, 4), int32, 0, 1),
`action_mask` BoundedArray((4, num_cols), bool, False, True), `step_count` DiscreteArray(time_limit + 1, int32) -/
def obsSpec (cfg : Cfg) : Sp.Nested :=
  [("grid", .bounded [cfg.numRows, cfg.numCols] .int32 "grid" [] [0] [] [1]),
   ("tetromino", .bounded [4, 4] .int32 "tetromino" [] [0] [] [1]),
   ("action_mask", .bounded [4, cfg.numCols] .bool "action_mask" [] [0] [] [1]),
   ("step_count", .discrete (cfg.timeLimit + 1) .int32 "step_count")]

/-- `action_spec`: MultiDiscreteArray([4, num_cols], int32) -/
def actionSpec (cfg : Cfg) : Leaf := .multiDiscrete [2] [4, cfg.numCols] .int32 "action"

/-- a model observation as the arrays the implementation emits; the shapes are READ OFF the values -/
def toNValue (o : Obs) : NValue :=
  [("grid", ⟨shape2 o.grid, .int32, ofNats o.grid.flatten⟩),
   ("tetromino", ⟨shape2 o.tetromino, .int32, ofNats o.tetromino.flatten⟩),
   ("action_mask", ⟨shape2 o.actionMask, .bool, ofBools o.actionMask.flatten⟩),
   ("step_count", ⟨[], .int32, [(o.stepCount : Rat)]⟩)]

def actionArr (rot x : Int) : Arr := ⟨[2], .int32, [(rot : Rat), (x : Rat)]⟩

/-- sufficient for membership (`obs_valid`), and what every emitted observation satisfies; not necessary: `validate` sees the
widths of the first rows only (`obs_valid_iff`) -/
def ObsOK (cfg : Cfg) (o : Obs) : Prop :=
  Rect2 o.grid cfg.numRows cfg.numCols ∧ (∀ r ∈ o.grid, ∀ v ∈ r, v ≤ 1) ∧
  Rect2 o.tetromino 4 4 ∧ (∀ r ∈ o.tetromino, ∀ v ∈ r, v ≤ 1) ∧
  Rect2 o.actionMask 4 cfg.numCols ∧ o.stepCount ≤ cfg.timeLimit

theorem obs_valid_iff (cfg : Cfg) (o : Obs) : (obsSpec cfg).valid (toNValue o) = true ↔
    (shape2 o.grid = [cfg.numRows, cfg.numCols] ∧ o.grid.flatten.length = cfg.numRows * cfg.numCols ∧
      ∀ v ∈ o.grid.flatten, v ≤ 1) ∧
    (shape2 o.tetromino = [4, 4] ∧ o.tetromino.flatten.length = 4 * 4 ∧ ∀ v ∈ o.tetromino.flatten, v ≤ 1) ∧
    (shape2 o.actionMask = [4, cfg.numCols] ∧ o.actionMask.flatten.length = 4 * cfg.numCols) ∧
    o.stepCount ≤ cfg.timeLimit := by
  simp only [obsSpec, toNValue, valid_cons, valid_nil, valid_scalar_bounded_iff, valid_discrete_nat_iff, forall_ofNats,
    forall_ofBools, ofNats_length, ofBools_length, prod_two, Rat.natCast_nonneg, natCast_le_ofNat, Nat.lt_add_one_iff,
    true_and, and_true]

theorem obs_valid (cfg : Cfg) (hR : 0 < cfg.numRows) (o : Obs) (h : ObsOK cfg o) :
    (obsSpec cfg).valid (toNValue o) = true :=
  have ⟨h1, h2, h3, h4, h5, h6⟩ := h
  (obs_valid_iff cfg o).2 ⟨⟨(shape2_of_rect h1 hR).1, (shape2_of_rect h1 hR).2, Jx.forall_mem_flatten h2⟩,
    ⟨(shape2_of_rect h3 (by omega)).1, (shape2_of_rect h3 (by omega)).2, Jx.forall_mem_flatten h4⟩,
    shape2_of_rect h5 (by omega), h6⟩

theorem obs_valid_only (cfg : Cfg) (o : Obs) (h : (obsSpec cfg).valid (toNValue o) = true) :
    shape2 o.grid = [cfg.numRows, cfg.numCols] ∧ (∀ v ∈ o.grid.flatten, v ≤ 1) ∧
    shape2 o.tetromino = [4, 4] ∧ (∀ v ∈ o.tetromino.flatten, v ≤ 1) ∧
    shape2 o.actionMask = [4, cfg.numCols] ∧ o.stepCount ≤ cfg.timeLimit :=
  have ⟨h1, h2, h3, h4⟩ := (obs_valid_iff cfg o).1 h
  ⟨h1.1, h1.2.2, h2.1, h2.2.2, h3.1, h4⟩

theorem piece0_rect (d : Nat) (hd : validDraw d) :
    Rect2 (Jx.getWC (Jx.getWC tetrominoes [] (d : Int)) [] 0) 4 4 := by
  rw [table_lookup0 hd]
  exact rect2_of_shaped (pieces_ok d hd 0 (by omega)).shaped

theorem mask_rect (cfg : Cfg) (gp : G) (hs : Jx.Grid.shaped gp (cfg.numRows + 3) (cfg.numCols + 3) = true)
    (hC : 3 ≤ cfg.numCols) (d : Nat) (hd : validDraw d) :
    Rect2 (calcActionMask (clip1 gp) (d : Int)) 4 cfg.numCols := by
  rw [calcActionMask_eq _ hd]
  refine ⟨by simp, ?_⟩
  intro row hrow
  obtain ⟨rot, _, rfl⟩ := List.mem_map.1 hrow
  exact tam_length cfg gp _ hs hC

theorem field_rect (cfg : Cfg) (g : G) (hs : Jx.Grid.shaped g (cfg.numRows + 3) (cfg.numCols + 3) = true) :
    Rect2 ((g.take cfg.numRows).map (fun r => r.take cfg.numCols)) cfg.numRows cfg.numCols := by
  exact ⟨by simp [Jx.Grid.shaped_length hs], field_row_length cfg g hs⟩

theorem step_obsOK (cfg : Cfg) (hC : 3 ≤ cfg.numCols) (s : State) (hs : GridShaped cfg s)
    (hlim : s.stepCount < cfg.timeLimit) (rot x : Int) (d : Nat) (hd : validDraw d) :
    ObsOK cfg (step cfg s rot x d).2.obs := by
  have hs' := step_gridShaped cfg s hs rot x d
  rw [step_obs_eq]
  -- reduce the projections of the record first: the unifier would otherwise evaluate the lookups in the piece table
  dsimp only [ObsOK]
  exact ⟨field_rect cfg _ (shaped_clip1 hs'), clipField_le_one _ _ _, piece0_rect d hd, piece_le_one _ _,
    mask_rect cfg _ hs' hC d hd, hlim⟩

theorem reset_obsOK (cfg : Cfg) (hC : 3 ≤ cfg.numCols) (d : Nat) (hd : validDraw d) :
    ObsOK cfg (reset cfg d).2.obs := by
  have hs : Jx.Grid.shaped (Jx.Grid.mk (cfg.numRows + 3) (cfg.numCols + 3) 0 : G) (cfg.numRows + 3) (cfg.numCols + 3)
      = true := reset_gridShaped cfg d
  have hm := mask_rect cfg _ hs hC d hd
  rw [clip1_zero] at hm
  unfold reset
  simp only [restart_obs]
  dsimp only [ObsOK]
  exact ⟨field_rect cfg _ hs, emptyField_le_one _ _ _ _, piece0_rect d hd, piece_le_one _ _, hm, Nat.zero_le _⟩

theorem step_protocol (cfg : Cfg) (s : State) (rot x : Int) (d : Nat) : StepOK none false (step cfg s rot x d).2 = true := by
  simp only [step]; exact condLast_stepOK _ _ _

theorem actionSpec_generate (cfg : Cfg) : (actionSpec cfg).generate = actionArr 0 0 := by
  simp [actionSpec, generate_multiDiscrete, actionArr]

theorem accepts_generate_value (cfg : Cfg) (hC : 0 < cfg.numCols) (hbig : cfg.numCols ≤ 2147483648) (s : State) (d : Nat) :
    (actionSpec cfg).WF = true ∧ (actionSpec cfg).valid (actionSpec cfg).generate = true ∧
    (actionSpec cfg).generate = actionArr 0 0 ∧ StepOK none false (step cfg s 0 0 d).2 = true := by
  have hw : (actionSpec cfg).WF = true :=
    WF_multiDiscrete _ _ _ _ rfl rfl (List.forall_mem_cons.2 ⟨⟨by omega, fits_int32_pred (by omega)⟩,
      List.forall_mem_cons.2 ⟨⟨hC, fits_int32_pred hbig⟩, fun _ h => nomatch h⟩⟩)
  exact ⟨hw, Leaf.generate_valid _ hw, actionSpec_generate cfg, step_protocol cfg s 0 0 d⟩

end Tetris
