/- C09, line clearing: `clean_lines` (stable sort + zeroing) in closed form, the cell count of `clearLines`, and `clean_good`:
on a good grid it is `clearLines` of the visible field. -/
import JumanjiModel.Env.Tetris.GridLemmas
namespace Tetris

theorem zip_filter_true {α} (g : List α) (f : α → Bool) :
    List.map (·.1) ((List.zip g (List.map f g)).filter (fun p => p.2)) = g.filter f := by
  induction g with
  | nil => rfl
  | cons a t ih =>
    simp only [List.map_cons, List.zip_cons_cons, List.filter_cons]
    cases h : f a <;> simp [ih]

theorem zip_filter_false {α} (g : List α) (f : α → Bool) :
    List.map (·.1) ((List.zip g (List.map f g)).filter (fun p => !p.2)) = g.filter (fun r => !f r) := by
  induction g with
  | nil => rfl
  | cons a t ih =>
    simp only [List.map_cons, List.zip_cons_cons, List.filter_cons]
    cases h : f a <;> simp [ih]

theorem countTrue_map {α} (g : List α) (f : α → Bool) :
    Jx.countTrue (List.map f g) = (g.filter f).length := by
  unfold Jx.countTrue
  rw [List.filter_map, List.length_map]
  rfl

theorem mapIdx_lt {α} (xs : List α) (n : Nat) (z : α → α) (h : xs.length ≤ n) :
    xs.mapIdx (fun i r => if i < n then z r else r) = xs.map z := by
  apply List.ext_getElem
  · simp
  · intro i h1 h2
    simp at h1
    have : i < n := by omega
    simp [this]

theorem mapIdx_ge {α} (xs : List α) (n m : Nat) (z : α → α) (h : n ≤ m) :
    xs.mapIdx (fun i r => if i + m < n then z r else r) = xs := by
  apply List.ext_getElem
  · simp
  · intro i h1 h2
    have : ¬ (i + m < n) := by omega
    simp [this]

theorem cleanLines_map (g : G) (f : List Nat → Bool) :
    cleanLines g (List.map f g) =
      List.map (fun r => List.map (fun _ => 0) r) (g.filter f) ++ g.filter (fun r => !f r) := by
  unfold cleanLines
  simp only [zip_filter_true, zip_filter_false, countTrue_map, List.mapIdx_append]
  rw [mapIdx_lt _ _ _ (Nat.le_refl _), mapIdx_ge _ _ _ _ (Nat.le_refl _)]

theorem cleanLines_fullLines (numCols : Nat) (g : G) :
    cleanLines g (fullLinesOf numCols g) =
      List.map (fun r => List.map (fun _ => 0) r)
        (g.filter (fun r => (r.take numCols).all (fun v => v != 0))) ++
      g.filter (fun r => !((r.take numCols).all (fun v => v != 0))) := by
  unfold fullLinesOf
  exact cleanLines_map g _

theorem count_cons (p : Nat → Bool) (r : List Nat) (g : G) :
    Jx.Grid.count p (r :: g) = (r.filter p).length + Jx.Grid.count p g := by
  simp [Jx.Grid.count]

theorem count_append (p : Nat → Bool) (a b : G) :
    Jx.Grid.count p (a ++ b) = Jx.Grid.count p a + Jx.Grid.count p b := by
  simp [Jx.Grid.count]

theorem count_replicate_zero (k n : Nat) :
    Jx.Grid.count (fun v => v != 0) (List.replicate k (List.replicate n 0)) = 0 := by
  induction k with
  | zero => simp [Jx.Grid.count]
  | succ k ih =>
    rw [List.replicate_succ, count_cons, ih]
    simp

theorem filter_length_of_rowFull (r : List Nat) (h : rowFull r = true) :
    (r.filter (fun v => v != 0)).length = r.length := by
  unfold rowFull at h
  rw [List.filter_eq_self.mpr]
  simpa using h

theorem count_clearLines (g : G) (w : Nat) (hw : ∀ r ∈ g, r.length = w) :
    Jx.Grid.count (fun v => v != 0) (clearLines g) + w * clearedCount g =
      Jx.Grid.count (fun v => v != 0) g := by
  unfold clearLines clearedCount
  simp only [count_append, count_replicate_zero, Nat.zero_add]
  induction g with
  | nil => simp [Jx.Grid.count]
  | cons a t ih =>
    have ih' := ih (fun r hr => hw r (List.mem_cons_of_mem _ hr))
    have ha : a.length = w := hw a List.mem_cons_self
    simp only [List.filter_cons]
    cases h : rowFull a
    · simp only [Bool.not_false, if_true, Bool.false_eq_true, if_false, count_cons]
      omega
    · simp only [Bool.not_true, Bool.false_eq_true, if_false, if_true, count_cons, List.length_cons,
        filter_length_of_rowFull a h, Nat.mul_succ]
      omega

theorem filter_length_add {α} (l : List α) (p : α → Bool) :
    (l.filter p).length + (l.filter (fun r => !p r)).length = l.length := by
  induction l with
  | nil => rfl
  | cons a t ih =>
    simp only [List.filter_cons]
    cases h : p a <;> simp <;> omega

theorem not_full_of_zero (nc : Nat) (r : List Nat) (hc : 0 < nc) (hl : 0 < r.length)
    (hz : r.all (fun v => v == 0) = true) : (r.take nc).all (fun v => v != 0) = false := by
  cases r with
  | nil => simp at hl
  | cons a t =>
    cases nc with
    | zero => omega
    | succ m =>
      simp at hz
      simp [hz.1]

theorem filter_eq_nil_of_false {α} (l : List α) (p : α → Bool) (h : ∀ r ∈ l, p r = false) :
    l.filter p = [] := by
  rw [List.filter_eq_nil_iff]
  intro r hr; simp [h r hr]

theorem filter_eq_self_of_false {α} (l : List α) (p : α → Bool) (h : ∀ r ∈ l, p r = false) :
    l.filter (fun r => !p r) = l := by
  rw [List.filter_eq_self]
  intro r hr; simp [h r hr]

theorem map_take_zero (nc : Nat) (l : G) (h : ∀ r ∈ l, nc ≤ r.length) :
    List.map (fun r => r.take nc) (List.map (fun r => List.map (fun _ => 0) r) l) =
      List.replicate l.length (List.replicate nc 0) := by
  induction l with
  | nil => rfl
  | cons a t ih =>
    have ha : nc ≤ a.length := h a List.mem_cons_self
    simp only [List.map_cons, List.length_cons, List.replicate_succ]
    rw [ih (fun r hr => h r (List.mem_cons_of_mem _ hr))]
    congr 1
    apply List.ext_getElem
    · simp; omega
    · intro i h1 h2; simp

theorem map_take_cleanLines (nc : Nat) (top : G) (hlen : ∀ r ∈ top, nc ≤ r.length) :
    List.map (fun (r : List Nat) => r.take nc) (cleanLines top (fullLinesOf nc top)) =
      List.replicate ((List.map (fun (r : List Nat) => r.take nc) top).filter rowFull).length (List.replicate nc 0) ++
        (List.map (fun (r : List Nat) => r.take nc) top).filter (fun r => !rowFull r) := by
  rw [cleanLines_fullLines, List.map_append, map_take_zero _ _ (fun r hr => hlen r (List.mem_filter.mp hr).1)]
  simp only [List.filter_map, List.length_map]
  rfl

theorem cleanLines_length (nc : Nat) (g : G) : (cleanLines g (fullLinesOf nc g)).length = g.length := by
  rw [cleanLines_fullLines, List.length_append, List.length_map]
  exact filter_length_add g _

theorem clearLines_eq (f : G) :
    clearLines f = List.replicate (f.filter rowFull).length (List.replicate (numColsOf f) 0) ++
      f.filter (fun r => !rowFull r) := by
  unfold clearLines
  have := filter_length_add f rowFull
  simp only []
  rw [show f.length - (f.filter (fun r => !rowFull r)).length = (f.filter rowFull).length by omega]

theorem numColsOf_field_shaped (cfg : Cfg) (g : G)
    (hs : Jx.Grid.shaped g (cfg.numRows + 3) (cfg.numCols + 3) = true) (hR : 0 < cfg.numRows) :
    numColsOf (field cfg g) = cfg.numCols := by
  obtain ⟨hlen, hrow⟩ := (Jx.Grid.shaped_iff_mem _ _ _).1 hs
  cases g with
  | nil => simp at hlen
  | cons a t =>
    obtain ⟨n, hn⟩ : ∃ n, cfg.numRows = n + 1 := ⟨cfg.numRows - 1, by omega⟩
    have := hrow a List.mem_cons_self
    simp [field, numColsOf, hn]
    omega

theorem padding_rows_not_full (cfg : Cfg) (g : G)
    (hs : Jx.Grid.shaped g (cfg.numRows + 3) (cfg.numCols + 3) = true)
    (hp : paddingEmpty cfg g = true) (hc : 0 < cfg.numCols) :
    ∀ r ∈ g.drop cfg.numRows, (r.take cfg.numCols).all (fun v => v != 0) = false := by
  have hrow : ∀ r ∈ g, r.length = cfg.numCols + 3 := ((Jx.Grid.shaped_iff_mem _ _ _).1 hs).2
  intro r hr
  have hl := hrow r (List.mem_of_mem_drop hr)
  apply not_full_of_zero _ _ hc (by omega)
  simp only [paddingEmpty, Bool.and_eq_true, List.all_eq_true] at hp
  have := hp.1 r hr
  simpa using this

/-- only the rows of the field take part in line clearing: the padding rows below are never full -/
theorem cleanLines_top (cfg : Cfg) (g : G)
    (hs : Jx.Grid.shaped g (cfg.numRows + 3) (cfg.numCols + 3) = true)
    (hp : paddingEmpty cfg g = true) (hc : 0 < cfg.numCols) :
    cleanLines g (fullLinesOf cfg.numCols g) =
      cleanLines (g.take cfg.numRows) (fullLinesOf cfg.numCols (g.take cfg.numRows)) ++ g.drop cfg.numRows := by
  have hbot := padding_rows_not_full cfg g hs hp hc
  rw [cleanLines_fullLines, cleanLines_fullLines]
  conv => lhs; rw [← List.take_append_drop cfg.numRows g]
  rw [List.filter_append, List.filter_append, filter_eq_nil_of_false _ _ hbot,
    filter_eq_self_of_false _ _ hbot, List.append_nil, List.append_assoc]

theorem cleanLines_shaped {g : G} {R C : Nat} (h : Jx.Grid.shaped g R C = true) (nc : Nat) :
    Jx.Grid.shaped (cleanLines g (fullLinesOf nc g)) R C = true := by
  rw [Jx.Grid.shaped_iff_mem] at h ⊢
  refine ⟨by rw [cleanLines_length, h.1], ?_⟩
  intro r hr
  rw [cleanLines_fullLines, List.mem_append] at hr
  rcases hr with hr | hr
  · obtain ⟨r', hr', rfl⟩ := List.mem_map.1 hr
    simpa using h.2 r' (List.mem_filter.1 hr').1
  · exact h.2 r (List.mem_filter.1 hr).1

theorem clean_good {cfg : Cfg} {g : G} (hg : Good cfg g) (hC : 0 < cfg.numCols) :
    Good cfg (cleanLines g (fullLinesOf cfg.numCols g)) ∧
    field cfg (cleanLines g (fullLinesOf cfg.numCols g)) = clearLines (field cfg g) ∧
    Jx.countTrue (fullLinesOf cfg.numCols g) = clearedCount (field cfg g) := by
  obtain ⟨hs, hp⟩ := hg
  obtain ⟨hglen, hrow⟩ := (Jx.Grid.shaped_iff_mem _ _ _).1 hs
  have hbot := padding_rows_not_full cfg g hs hp hC
  have htop := cleanLines_top cfg g hs hp hC
  have hlen : (cleanLines (g.take cfg.numRows) (fullLinesOf cfg.numCols (g.take cfg.numRows))).length =
      cfg.numRows := by
    rw [cleanLines_length, List.length_take]; omega
  refine ⟨⟨cleanLines_shaped hs _, ?_⟩, ?_, ?_⟩
  · -- the rows below the field are those of `g`; every row is a row of `g` or a row of zeros
    simp only [paddingEmpty, Bool.and_eq_true, List.all_eq_true] at hp ⊢
    refine ⟨by rw [htop, List.drop_left' hlen]; exact hp.1, fun r hr => ?_⟩
    rw [cleanLines_fullLines, List.mem_append] at hr
    rcases hr with hr | hr
    · obtain ⟨r', _, rfl⟩ := List.mem_map.1 hr
      intro v hv
      have := List.mem_of_mem_drop hv
      simp at this
      simp [this.2]
    · exact hp.2 r (List.mem_filter.1 hr).1
  · have hcols := numColsOf_field_shaped cfg g hs
    unfold field at hcols ⊢
    rw [htop, List.take_left' hlen,
      map_take_cleanLines _ _ (fun r hr => by have := hrow r (List.mem_of_mem_take hr); omega), clearLines_eq]
    by_cases hR : cfg.numRows = 0
    · simp [hR]
    · rw [hcols (by omega)]
  · unfold fullLinesOf clearedCount field
    rw [countTrue_map, List.filter_map, List.length_map]
    conv => lhs; rw [← List.take_append_drop cfg.numRows g]
    rw [List.filter_append, filter_eq_nil_of_false _ _ hbot, List.append_nil]
    rfl

end Tetris
