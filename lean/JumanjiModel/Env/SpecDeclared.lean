/-
C01: the GENERATED table of declared specs (Gen/Specs.lean, written by harness/translators.py from the real spec objects), and
what it is for that table to declare exactly a model's specs (`Declares`).  Props/SpecTable.lean compares the whole table once;
`rows_of_grouped` and `declares_of_rows` bring that to each catalogue configuration.
-/
import JumanjiModel.Spec.Spec
import JumanjiModel.Gen.Specs
namespace PzS
open Sp

/-- the leaves which the catalogue configuration `cid` declares under the paths starting with `pre`, with their full paths -/
def declared (cid pre : String) : List (String × Leaf) :=
  (Gen.Specs.parts.flatten.filter (fun e => e.1 == cid && pre.toList.isPrefixOf e.2.1.toList)).map (fun e => (e.2.1, e.2.2))

/-- a model spec with its field names prefixed like the paths of the generated table -/
def prefixed (pre : String) (s : Nested) : List (String × Leaf) := s.map (fun e => (pre ++ e.1, e.2))

/-- the rows of the generated table that belong to the catalogue configuration `cid`, in table order -/
def rowsOf (cid : String) : List (String × Leaf) := (Gen.Specs.parts.flatten.filter (·.1 == cid)).map (·.2)

theorem declared_eq_filter_rowsOf (cid pre : String) :
    declared cid pre = (rowsOf cid).filter (fun r => pre.toList.isPrefixOf r.1.toList) := by
  simp only [declared, rowsOf, List.filter_map, List.filter_filter, Function.comp_def, Bool.and_comm]

theorem isPrefixOf_prefixed (pre : String) (s : Nested) (c : Char) (cs : List Char) (hpre : pre.toList = c :: cs) :
    (∀ r ∈ prefixed pre s, pre.toList.isPrefixOf r.1.toList = true) ∧
    (∀ (p : String) (d : Char) (ds : List Char), p.toList = d :: ds → d ≠ c →
      ∀ r ∈ prefixed pre s, p.toList.isPrefixOf r.1.toList = false) := by
  constructor
  · intro r hr
    obtain ⟨e, -, rfl⟩ := List.mem_map.1 hr
    simp [String.toList_append]
  · intro p d ds hp hd r hr
    obtain ⟨e, -, rfl⟩ := List.mem_map.1 hr
    simp [String.toList_append, hp, hpre, List.isPrefixOf, hd]

/-- the generated table declares for the configuration `cid` exactly the observation leaves of `obs` and the action,
reward and discount specs `act`, `rew`, `disc` -/
structure Declares (cid : String) (obs : Nested) (act rew disc : Leaf) : Prop where
  observation : prefixed "observation_spec." obs = declared cid "observation_spec."
  action : [("action_spec", act)] = declared cid "action_spec"
  reward : [("reward_spec", rew)] = declared cid "reward_spec"
  discount : [("discount_spec", disc)] = declared cid "discount_spec"

/-- the rows the translator writes for one configuration: observation leaves, action, reward, discount, in this order -/
def specRows (obs : Nested) (act rew disc : Leaf) : List (String × Leaf) :=
  prefixed "observation_spec." obs ++ [("action_spec", act), ("reward_spec", rew), ("discount_spec", disc)]

/-- `String.toList`, which `declared` calls on every path, is quadratic in the kernel; with the rows of a configuration known
as one list no path of the table is evaluated. -/
theorem declares_of_rows {cid : String} {obs : Nested} {act rew disc : Leaf}
    (h : rowsOf cid = specRows obs act rew disc) : Declares cid obs act rew disc := by
  obtain ⟨ho, hn⟩ := isPrefixOf_prefixed "observation_spec." obs 'o' "bservation_spec.".toList (by decide)
  have ha := hn "action_spec" 'a' "ction_spec".toList (by decide) (by decide)
  have hr := hn "reward_spec" 'r' "eward_spec".toList (by decide) (by decide)
  have hd := hn "discount_spec" 'd' "iscount_spec".toList (by decide) (by decide)
  constructor <;>
  · simp only [declared_eq_filter_rowsOf, h, specRows, List.filter_append, List.filter_eq_self.2 ho,
      List.filter_eq_nil_iff.2 fun r hm => Bool.not_eq_true _ ▸ ha r hm,
      List.filter_eq_nil_iff.2 fun r hm => Bool.not_eq_true _ ▸ hr r hm,
      List.filter_eq_nil_iff.2 fun r hm => Bool.not_eq_true _ ▸ hd r hm]
    simp +decide

theorem rows_of_grouped {ι κ α : Type} [BEq κ] [LawfulBEq κ] (key : ι → κ) (rows : ι → List α) {gs : List ι}
    (hk : (gs.map key).Nodup) {g : ι} (hm : g ∈ gs) :
    ((gs.flatMap fun g => (rows g).map (key g, ·)).filter (·.1 == key g)).map (·.2) = rows g := by
  have other : ∀ g', key g' ≠ key g → ((rows g').map (key g', ·)).filter (·.1 == key g) = [] := fun g' hne => by
    simp [List.filter_map, Function.comp_def, hne]
  induction gs with
  | nil => cases hm
  | cons g₀ gs ih =>
    obtain ⟨h₀, hk⟩ := List.nodup_cons.1 hk
    have hne : ∀ g' ∈ gs, key g' ≠ key g₀ := fun g' hg' h => h₀ (List.mem_map.2 ⟨g', hg', h⟩)
    rw [List.flatMap_cons, List.filter_append, List.map_append]
    rcases List.mem_cons.1 hm with rfl | hm
    · -- no later group has the key of `g`
      have : (gs.flatMap fun g' => (rows g').map (key g', ·)).filter (·.1 == key g) = [] := by
        rw [List.filter_flatMap]
        exact List.flatMap_eq_nil_iff.2 fun g' hg' => other g' (hne g' hg')
      simp [this, List.filter_map, Function.comp_def]
    · rw [other g₀ (hne g hm).symm, List.map_nil, List.nil_append, ih hk hm]

end PzS
