/-
MultiCVRP — C01 spec membership: the declared specs as `Sp` values (`obsSpec c nV L maxLocal`, `actionSpec c nV`; tied to
the generated literals of the catalogue configurations in Props/SpecTable.lean), the model observation as spec-level arrays
(`toNValue`, shapes READ OFF the values), and the invariant `SpecInv = BInv ∧ ShapeInv` (the value-range invariant of
Env/MultiCVRP/Bounds.lean + the array shapes): established by `reset` for every draw of the generator, preserved by every
step with one action per vehicle (any naturals: in range or not, legal or not), and sufficient for membership of the
observation of a state (`observe_valid`) and of every `step`, terminal step included (`reset` and whole episodes follow in
Props/Env/MultiCVRP.lean).

Float leaves follow Env/MultiCVRP/Bounds.lean and BoundsF32Lemmas.lean: every float operation of `step` is rounded by the
parameter `rnd`; the `vehicles.local_times` leaf needs `RndOK rnd dmax (2·N)` (monotone, fixes 0 and the multiples of the
distance bound — `id` and, for a `dmax` with a short significand, `Jx.roundF32`) and a distance matrix with entries in
`[0, dmax]`.  The declared maxima are those the constructor computes from the generator's parameters (`Lim`):
`max_capacity`, `map_max`, `max_end_window = max_start_window + time_window_length`, `late_coef_rand[-1]` (for BOTH
coefficient leaves), and `max_local_time` (a float32 product with `sqrt 2`: the parameter `maxLocal`); `DeclOK` states what
the membership needs from them (`customer_demand_max ≤ max_capacity`, `early_coef_rand[1] ≤ late_coef_rand[1]`,
`2·N·dmax ≤ max_local_time`, `0 ≤ time_window_length`).
-/
import JumanjiModel.Env.MultiCVRP.Bounds
import JumanjiModel.Env.MultiCVRP.BoundsF32Lemmas
import JumanjiModel.Env.SpecMembership
namespace MultiCVRP
open Jm Sp PzS PkS

def fLeaf (sh : List Nat) (nm : String) (hi : Rat) : Leaf := .bounded sh .float32 nm [] [0] [] [hi]
def iLeaf (sh : List Nat) (nm : String) (hi : Int) : Leaf := .bounded sh .int16 nm [] [((0 : Int) : Rat)] [] [(hi : Rat)]

/-- `observation_spec`, paths as `speclib.flatten_spec` lists them (`action_mask` is declared with
`maximum=num_customers + 1, dtype=bool`: the bool cast of the bound is 1) -/
def obsSpec (c : Cfg) (nV : Nat) (L : Lim) (maxLocal : Rat) : Sp.Nested :=
  [("nodes.coordinates", fLeaf [c.numCustomers + 1, 2] "node_coordinates" L.mapMax),
   ("nodes.demands", iLeaf [c.numCustomers + 1] "node_demands" c.maxCap),
   ("windows.start", fLeaf [c.numCustomers + 1] "node_time_windows_start" (L.maxStart + L.windowLen)),
   ("windows.end", fLeaf [c.numCustomers + 1] "node_time_windows_end" (L.maxStart + L.windowLen)),
   ("coeffs.early", fLeaf [c.numCustomers + 1] "node_penalty_coeffs_start" L.coefLateMax),
   ("coeffs.late", fLeaf [c.numCustomers + 1] "node_penalty_coeffs_end" L.coefLateMax),
   ("vehicles.coordinates", fLeaf [nV, 2] "vehicle_coordinates" L.mapMax),
   ("vehicles.local_times", fLeaf [nV] "vehicle_local_time" maxLocal),
   ("vehicles.capacities", iLeaf [nV] "vehicle_capacity" c.maxCap),
   ("action_mask", .bounded [nV, c.numCustomers + 1] .bool "action_mask" [] [0] [] [1])]

/-- `action_spec`: BoundedArray((num_vehicles,), int16, 0, num_customers + 1) — the declared maximum is one more than the
largest node index -/
def actionSpec (c : Cfg) (nV : Nat) : Leaf := iLeaf [nV] "actions" ((c.numCustomers + 1 : Nat) : Int)

/-- a model observation as the arrays the implementation emits; the shapes are READ OFF the values -/
def toNValue (o : Obs) : NValue :=
  [("nodes.coordinates", ⟨shape2 o.coords, .float32, o.coords.flatten⟩),
   ("nodes.demands", ⟨shape1 o.demands, .int16, ofInts o.demands⟩),
   ("windows.start", ⟨shape1 o.winStart, .float32, o.winStart⟩),
   ("windows.end", ⟨shape1 o.winEnd, .float32, o.winEnd⟩),
   ("coeffs.early", ⟨shape1 o.coefEarly, .float32, o.coefEarly⟩),
   ("coeffs.late", ⟨shape1 o.coefLate, .float32, o.coefLate⟩),
   ("vehicles.coordinates", ⟨shape2 o.vehCoords, .float32, o.vehCoords.flatten⟩),
   ("vehicles.local_times", ⟨shape1 o.localTimes, .float32, o.localTimes⟩),
   ("vehicles.capacities", ⟨shape1 o.capacities, .int16, ofInts o.capacities⟩),
   ("action_mask", ⟨shape2 o.mask, .bool, ofBools o.mask.flatten⟩)]

def actionArr (nV : Nat) (a : List Nat) : Arr := ⟨[nV], .int16, ofInts (a.map (fun (x : Nat) => (x : Int)))⟩

def VecIn (l : List Rat) (m : Nat) (hi : Rat) : Prop := l.length = m ∧ ∀ x ∈ l, 0 ≤ x ∧ x ≤ hi
def IVecIn (l : List Int) (m : Nat) (hi : Int) : Prop := l.length = m ∧ ∀ x ∈ l, 0 ≤ x ∧ x ≤ hi

theorem obs_valid_iff (c : Cfg) (nV : Nat) (L : Lim) (maxLocal : Rat) (o : Obs) :
    (obsSpec c nV L maxLocal).valid (toNValue o) = true ↔
    (shape2 o.coords = [c.numCustomers + 1, 2] ∧ o.coords.flatten.length = (c.numCustomers + 1) * 2 ∧
      ∀ x ∈ o.coords.flatten, 0 ≤ x ∧ x ≤ L.mapMax) ∧
    IVecIn o.demands (c.numCustomers + 1) c.maxCap ∧
    VecIn o.winStart (c.numCustomers + 1) (L.maxStart + L.windowLen) ∧
    VecIn o.winEnd (c.numCustomers + 1) (L.maxStart + L.windowLen) ∧
    VecIn o.coefEarly (c.numCustomers + 1) L.coefLateMax ∧ VecIn o.coefLate (c.numCustomers + 1) L.coefLateMax ∧
    (shape2 o.vehCoords = [nV, 2] ∧ o.vehCoords.flatten.length = nV * 2 ∧ ∀ x ∈ o.vehCoords.flatten, 0 ≤ x ∧ x ≤ L.mapMax) ∧
    VecIn o.localTimes nV maxLocal ∧ IVecIn o.capacities nV c.maxCap ∧
    shape2 o.mask = [nV, c.numCustomers + 1] ∧ o.mask.flatten.length = nV * (c.numCustomers + 1) := by
  simp only [obsSpec, toNValue, fLeaf, iLeaf, VecIn, IVecIn, valid_cons, valid_nil, valid_scalar_bounded_iff, forall_ofInts,
    forall_ofBools, ofInts_length, ofBools_length, prod_one, prod_two, shape1_eq, Rat.intCast_le_intCast,
    true_and, and_true, and_self_left]

theorem obs_valid_only (c : Cfg) (nV : Nat) (L : Lim) (maxLocal : Rat) (o : Obs)
    (h : (obsSpec c nV L maxLocal).valid (toNValue o) = true) :
    shape2 o.coords = [c.numCustomers + 1, 2] ∧ (∀ x ∈ o.coords.flatten, 0 ≤ x ∧ x ≤ L.mapMax) ∧
    IVecIn o.demands (c.numCustomers + 1) c.maxCap ∧
    VecIn o.winStart (c.numCustomers + 1) (L.maxStart + L.windowLen) ∧
    VecIn o.winEnd (c.numCustomers + 1) (L.maxStart + L.windowLen) ∧
    VecIn o.coefEarly (c.numCustomers + 1) L.coefLateMax ∧ VecIn o.coefLate (c.numCustomers + 1) L.coefLateMax ∧
    shape2 o.vehCoords = [nV, 2] ∧ (∀ x ∈ o.vehCoords.flatten, 0 ≤ x ∧ x ≤ L.mapMax) ∧
    VecIn o.localTimes nV maxLocal ∧ IVecIn o.capacities nV c.maxCap ∧ shape2 o.mask = [nV, c.numCustomers + 1] :=
  have ⟨h1, h2, h3, h4, h5, h6, h7, h8, h9, h10⟩ := (obs_valid_iff c nV L maxLocal o).1 h
  ⟨h1.1, h1.2.2, h2, h3, h4, h5, h6, h7.1, h7.2.2, h8, h9, h10.1⟩

/-- the array shapes of a state of an instance with `N` customers and `nV` vehicles -/
def ShapeInv (c : Cfg) (nV : Nat) (s : State) : Prop :=
  s.coords.length = c.numCustomers + 1 ∧ (∀ p ∈ s.coords, p.length = 2) ∧ s.demands.length = c.numCustomers + 1 ∧
  s.winStart.length = c.numCustomers + 1 ∧ s.winEnd.length = c.numCustomers + 1 ∧
  s.coefEarly.length = c.numCustomers + 1 ∧ s.coefLate.length = c.numCustomers + 1 ∧
  s.localTimes.length = nV ∧ s.positions.length = nV ∧ s.capacities.length = nV ∧
  Rect2 s.mask nV (c.numCustomers + 1)
instance (c : Cfg) (nV : Nat) (s : State) : Decidable (ShapeInv c nV s) := by unfold ShapeInv Rect2; infer_instance

/-- value ranges (`BInv`, Env/MultiCVRP/Bounds.lean) and array shapes -/
def SpecInv (c : Cfg) (nV : Nat) (L : Lim) (s : State) : Prop := BInv c L s ∧ ShapeInv c nV s
instance (c : Cfg) (nV : Nat) (L : Lim) (s : State) : Decidable (SpecInv c nV L s) := by unfold SpecInv; infer_instance

/-- what membership needs from the constructor's derived maxima -/
def DeclOK (c : Cfg) (L : Lim) (maxLocal : Rat) : Prop :=
  L.demandMax ≤ c.maxCap ∧ 0 ≤ L.windowLen ∧ L.coefEarlyMax ≤ L.coefLateMax ∧
  2 * (c.numCustomers : Rat) * L.dmax ≤ maxLocal
instance (c : Cfg) (L : Lim) (m : Rat) : Decidable (DeclOK c L m) := by unfold DeclOK; infer_instance

theorem createActionMask_rect (demands caps : List Int) (nV m : Nat) (hd : demands.length = m) (hc : caps.length = nV) :
    Rect2 (createActionMask demands caps) nV m := by
  unfold createActionMask
  refine ⟨by simp [hc], ?_⟩
  intro row hrow
  obtain ⟨cap, _, rfl⟩ := List.mem_map.mp hrow
  simp [Jx.setWD_length, hd]

theorem update_shapeInv (rnd : Rat → Rat) (c : Cfg) (D : Dist) (nV : Nat) (s : State) (a : List Nat)
    (h : ShapeInv c nV s) (ha : a.length = nV) : ShapeInv c nV (update rnd c D s a) := by
  obtain ⟨h1, h2, h3, h4, h5, h6, h7, h8, h9, h10, _⟩ := h
  have hn : (nextNodes s a).length = nV := by rw [nextNodes_length s a (by rw [ha, h10]), ha]
  have hd : (update rnd c D s a).demands.length = c.numCustomers + 1 := by rw [update_demands_length, h3]
  have hc : (update rnd c D s a).capacities.length = nV := by
    rw [update_capacities_length rnd c D s a (by rw [ha, h10]), h10]
  refine ⟨h1, h2, hd, h4, h5, h6, h7, ?_, by rw [update_positions]; exact hn, hc, ?_⟩
  · exact Jx.length_zipWith_of h8 (Jx.length_zipWith_of h9 hn)
  · rw [update_mask]
    exact createActionMask_rect _ _ nV _ hd hc

theorem step_specInv (rnd : Rat → Rat) (c : Cfg) (nV : Nat) (L : Lim) (D : Dist) (s : State) (a : List Nat) (K : Nat)
    (hr : RndOK rnd L.dmax K) (hk : s.stepCount ≤ K) (hD : DistOK L D) (h : SpecInv c nV L s) (ha : a.length = nV) :
    SpecInv c nV L (step rnd c D s a).1 :=
  ⟨step_bInv_rnd rnd c L D s a K hr hk hD h.1, by rw [step_state]; exact update_shapeInv rnd c D nV s a h.2 ha⟩

/-- a draw of the generator with all five random arrays of the right length -/
def validDrawS (c : Cfg) (L : Lim) (d : Draw) : Prop :=
  validDrawB c L d ∧ d.winStart.length = c.numCustomers + 1 ∧ d.coefEarly.length = c.numCustomers + 1 ∧
  d.coefLate.length = c.numCustomers + 1
instance (c : Cfg) (L : Lim) (d : Draw) : Decidable (validDrawS c L d) := by unfold validDrawS; infer_instance

theorem reset_specInv (c : Cfg) (nV : Nat) (L : Lim) (d : Draw) (h : validDrawS c L d) :
    SpecInv c nV L (reset c nV L.demandMax L.windowLen d).1 := by
  obtain ⟨hB, w1, w2, w3⟩ := h
  refine ⟨reset_bInv c L nV d hB, ?_⟩
  obtain ⟨⟨c1, c2, c3, _, _⟩, _⟩ := hB
  show ShapeInv c nV (generate c nV L.demandMax L.windowLen d)
  unfold generate
  refine ⟨c1, fun p hp => (c3 p hp).1, by simp [c2], w1, by simp [w1], by simp [Jx.setWD_length, w2],
    by simp [Jx.setWD_length, w3], by simp, by simp, by simp, ?_⟩
  exact createActionMask_rect _ _ nV _ (by simp [c2]) (by simp)

/-- all leaves but `vehicles.local_times` need only `SInv` (which every rounding function preserves) and the shapes; the
local times enter through the explicit hypothesis `hl` -/
theorem observe_valid_S (c : Cfg) (nV : Nat) (hV : 0 < nV) (L : Lim) (maxLocal : Rat)
    (hdecl : L.demandMax ≤ c.maxCap ∧ 0 ≤ L.windowLen ∧ L.coefEarlyMax ≤ L.coefLateMax) (s : State)
    (hS : SInv c L s) (hsh : ShapeInv c nV s) (hl : ∀ l ∈ s.localTimes, 0 ≤ l ∧ l ≤ maxLocal) :
    (obsSpec c nV L maxLocal).valid (toNValue (stateToObs s)) = true := by
  obtain ⟨_, s1, s2, s3, s4, s5, s6, s7⟩ := hS
  obtain ⟨g1, g2, g3, g4, g5, g6, g7, g8, g9, g10, g11⟩ := hsh
  obtain ⟨d1, d2, d3⟩ := hdecl
  have grid {g : List (List Rat)} {r : Nat} (hr : 0 < r) (hg : Rect2 g r 2) (hx : ∀ p ∈ g, ∀ x ∈ p, 0 ≤ x ∧ x ≤ L.mapMax) :
      shape2 g = [r, 2] ∧ g.flatten.length = r * 2 ∧ ∀ x ∈ g.flatten, 0 ≤ x ∧ x ≤ L.mapMax :=
    ⟨(shape2_of_rect hg hr).1, (shape2_of_rect hg hr).2, Jx.forall_mem_flatten hx⟩
  -- a vehicle's coordinates are a row of `coords` (the gather clamps)
  have hrow : ∀ row ∈ (stateToObs s).vehCoords, row ∈ s.coords := fun row hrow =>
    have ⟨p, _, e⟩ := List.mem_map.mp hrow
    e ▸ Jx.getWC_mem _ _ (List.ne_nil_of_length_pos (by rw [g1]; exact Nat.succ_pos _))
  exact (obs_valid_iff c nV L maxLocal _).2 ⟨grid (Nat.succ_pos _) ⟨g1, g2⟩ s1,
    ⟨g3, fun x hx => ⟨(s2 x hx).1, Int.le_trans (s2 x hx).2 d1⟩⟩,
    ⟨g4, fun x hx => ⟨(s3 x hx).1, le_add_of_nonneg _ _ _ (s3 x hx).2 d2⟩⟩,
    ⟨g5, fun x hx => ⟨Rat.le_trans d2 (s4 x hx).1, (s4 x hx).2⟩⟩,
    ⟨g6, fun x hx => ⟨(s5 x hx).1, Rat.le_trans (s5 x hx).2 d3⟩⟩, ⟨g7, s6⟩,
    grid hV ⟨(List.length_map _).trans g9, fun row h => g2 _ (hrow row h)⟩ fun row h => s1 _ (hrow row h),
    ⟨g8, hl⟩, ⟨g10, s7⟩, shape2_of_rect g11 hV⟩

theorem observe_valid (c : Cfg) (nV : Nat) (hV : 0 < nV) (L : Lim) (maxLocal : Rat) (hdecl : DeclOK c L maxLocal)
    (s : State) (h : SpecInv c nV L s) (hk : s.stepCount ≤ 2 * c.numCustomers + 1) :
    (obsSpec c nV L maxLocal).valid (toNValue (stateToObs s)) = true :=
  observe_valid_S c nV hV L maxLocal ⟨hdecl.1, hdecl.2.1, hdecl.2.2.1⟩ s h.1.1 h.2 fun l hl =>
    have hl' := tInv_le c L s h.1.1.1.2.2.2.2 h.1.2 hk l hl
    ⟨hl'.1, Rat.le_trans hl'.2 hdecl.2.2.2⟩

theorem step_obs_valid (rnd : Rat → Rat) (c : Cfg) (nV : Nat) (hV : 0 < nV) (L : Lim) (maxLocal : Rat)
    (hdecl : DeclOK c L maxLocal) (D : Dist) (s : State) (a : List Nat)
    (hr : RndOK rnd L.dmax (2 * c.numCustomers)) (hD : DistOK L D) (h : SpecInv c nV L s)
    (hk : s.stepCount ≤ 2 * c.numCustomers) (ha : a.length = nV) :
    (obsSpec c nV L maxLocal).valid (toNValue (step rnd c D s a).2.obs) = true := by
  rw [step_obs, ← step_state]
  exact observe_valid c nV hV L maxLocal hdecl _ (step_specInv rnd c nV L D s a _ hr hk hD h ha)
    (by rw [step_state, update_stepCount]; omega)

theorem step_protocol (rnd : Rat → Rat) (c : Cfg) (D : Dist) (s : State) (a : List Nat) :
    StepOK none false (step rnd c D s a).2 = true := by
  unfold step; exact condLast_stepOK _ _ _

theorem actionSpec_generate (c : Cfg) (nV : Nat) : (actionSpec c nV).generate = actionArr nV (List.replicate nV 0) := by
  simp only [actionSpec, iLeaf, Leaf.generate, Leaf.lower, Leaf.shape, Leaf.dtype, actionArr, broadcast_scalar, prod_one,
    ofInts, List.map_replicate]
  rfl

theorem actionSpec_WF (c : Cfg) (nV : Nat) (hbig : c.numCustomers + 1 ≤ 32767) : (actionSpec c nV).WF = true :=
  have fits {z : Int} (h1 : -32768 ≤ z) (h2 : z ≤ 32767) : DType.int16.fits (z : Rat) = true := fits_intCast rfl h1 h2
  WF_scalar_bounded _ _ _ _ _ (Rat.intCast_le_intCast.mpr (by omega)) (fits (by omega) (by omega)) (fits (by omega) (by omega))

/-- `action_spec.generate_value()` = all zeros: every vehicle to the depot -/
theorem accepts_generate_value (rnd : Rat → Rat) (c : Cfg) (nV : Nat) (hV : 0 < nV) (hbig : c.numCustomers + 1 ≤ 32767)
    (L : Lim) (maxLocal : Rat) (hdecl : DeclOK c L maxLocal) (D : Dist) (s : State)
    (hr : RndOK rnd L.dmax (2 * c.numCustomers)) (hD : DistOK L D) (h : SpecInv c nV L s)
    (hk : s.stepCount ≤ 2 * c.numCustomers) :
    (actionSpec c nV).WF = true ∧ (actionSpec c nV).valid (actionSpec c nV).generate = true ∧
    (actionSpec c nV).generate = actionArr nV (List.replicate nV 0) ∧
    StepOK none false (step rnd c D s (List.replicate nV 0)).2 = true ∧
    (obsSpec c nV L maxLocal).valid (toNValue (step rnd c D s (List.replicate nV 0)).2.obs) = true :=
  ⟨actionSpec_WF c nV hbig, Leaf.generate_valid _ (actionSpec_WF c nV hbig), actionSpec_generate c nV,
   step_protocol rnd c D s _,
   step_obs_valid rnd c nV hV L maxLocal hdecl D s _ hr hD h hk (by simp)⟩

end MultiCVRP
