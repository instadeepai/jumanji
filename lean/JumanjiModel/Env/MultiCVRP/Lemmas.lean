/-
MultiCVRP, single steps.  The mask is `legal` (C04); the two zeroing stages of `_update_state` — the capacity / demand test
`zeroInvalid`, then `jnp.unique` + scatter `resolve` — compute the destinations `dests` of the rules for in-range choices
(C04, C05); the observation (C12), the horizon (C11), both rewards in exact arithmetic (C08); the history-free part of
`Feasible` under any joint action, the generator and `reset` (C06, C10).
-/
import JumanjiModel.Env.MultiCVRP.Model
import JumanjiModel.Prim.GridLemmas
import JumanjiModel.Core.TimeStepLemmas
namespace MultiCVRP
open Jm

/-! ### mask = legal -/

theorem mask_row (demands : List Int) (cap : Int) (a : Nat) :
    (Jx.setWD (demands.map (fun d => decide (cap ≥ d) && decide (d > 0))) (DEPOT : Int) true).getD a false
      = (decide (a < demands.length) &&
          (decide (a = DEPOT) || (decide (0 < demands.getD a 0) && decide (demands.getD a 0 ≤ cap)))) := by
  unfold DEPOT
  rw [Jx.setWD_natCast _ 0, Jx.getD_set, List.length_map]
  by_cases ha : a < demands.length
  · rw [Jx.getD_map _ false 0 ha]
    by_cases h0 : 0 = a
    · subst h0; simp [ha]
    · simp [h0, Ne.symm h0, ha, Bool.and_comm]
  · simp [ha, List.getD_eq_getElem?_getD]
    intro h; subst h
    exact List.eq_nil_of_length_eq_zero (by omega)

theorem mask_iff_legal (s : State) (v a : Nat) :
    ((createActionMask s.demands s.capacities).getD v []).getD a false = true ↔ legal s v a := by
  unfold createActionMask legal
  by_cases hv : v < s.capacities.length
  · simp only [List.getD_eq_getElem?_getD, List.getElem?_map, List.getElem?_eq_getElem hv, Option.map_some,
      Option.getD_some]
    have := mask_row s.demands s.capacities[v] a
    simp only [List.getD_eq_getElem?_getD] at this
    rw [this]
    simp [hv]
  · simp [List.getD_eq_getElem?_getD, hv]

/-! ### destination resolution -/

theorem mem_insertU (x y : Nat) (l : List Nat) : y ∈ insertU x l ↔ y = x ∨ y ∈ l := by
  induction l with
  | nil => simp [insertU]
  | cons z zs ih =>
    unfold insertU
    split
    · simp
    · split
      · rename_i h; subst h; simp
      · simp [ih]; constructor <;> (intro h; rcases h with h | h | h <;> simp [h])

theorem mem_sortedUnique (xs : List Nat) (y : Nat) : y ∈ sortedUnique xs ↔ y ∈ xs := by
  unfold sortedUnique
  induction xs with
  | nil => simp
  | cons x xs ih => simp [List.foldr, mem_insertU, ih]

/-- scatter of (value, index) pairs in which the value is a function of the index -/
theorem scatter_getD (f : Nat → Nat) (ps : List (Nat × Nat)) (acc : List Nat)
    (h : ∀ p ∈ ps, p.1 = f p.2) (i : Nat) :
    (ps.foldl (fun acc p => Jx.setWD acc (p.2 : Int) p.1) acc).getD i 0 =
      if i < acc.length ∧ i ∈ ps.map (·.2) then f i else acc.getD i 0 := by
  induction ps generalizing acc with
  | nil => simp
  | cons p ps ih =>
    simp only [List.foldl_cons]
    rw [ih _ (fun q hq => h q (List.mem_cons_of_mem _ hq)), Jx.setWD_natCast, Jx.getD_set]
    have hp := h p List.mem_cons_self
    simp only [List.length_set, List.map_cons, List.mem_cons]
    by_cases hi : i < acc.length
    · by_cases h1 : i ∈ ps.map (·.2)
      · simp [hi, h1]
      · by_cases h2 : p.2 = i
        · subst h2; simp [hi, h1, hp]
        · simp [hi, h1, h2, Ne.symm h2]
    · simp [hi, List.getD_eq_getElem?_getD]
      intro e hl; omega

theorem resolve_length (xs : List Nat) : (resolve xs).length = xs.length := by
  unfold resolve; rw [Jx.foldl_setWD_length]; simp

theorem uniqueFirst_mem (xs : List Nat) (p : Nat × Nat) (hp : p ∈ uniqueFirst xs) :
    p.1 ∈ xs ∧ p.2 = xs.idxOf p.1 := by
  unfold uniqueFirst at hp
  simp only [] at hp
  split at hp
  · simp at hp
  · rename_i q qs heq
    have hall : ∀ r ∈ (sortedUnique xs).map (fun u => (u, xs.idxOf u)), r.1 ∈ xs ∧ r.2 = xs.idxOf r.1 := by
      intro r hr
      simp only [List.mem_map] at hr
      obtain ⟨u, hu, rfl⟩ := hr
      exact ⟨(mem_sortedUnique xs u).1 hu, rfl⟩
    rw [List.mem_append] at hp
    rcases hp with hp | hp
    · exact hall p hp
    · have := List.eq_of_mem_replicate hp
      subst this
      exact hall p (by rw [heq]; exact List.mem_cons_self)

theorem uniqueFirst_idx (xs : List Nat) (u : Nat) (hu : u ∈ xs) :
    xs.idxOf u ∈ (uniqueFirst xs).map (·.2) := by
  unfold uniqueFirst
  simp only []
  have hm : (u, xs.idxOf u) ∈ (sortedUnique xs).map (fun u => (u, xs.idxOf u)) :=
    List.mem_map.2 ⟨u, (mem_sortedUnique xs u).2 hu, rfl⟩
  split
  · rename_i heq; rw [heq] at hm; simp at hm
  · exact List.mem_map.2 ⟨(u, xs.idxOf u), List.mem_append_left _ hm, rfl⟩

theorem idxOf_eq_iff (xs : List Nat) (x i : Nat) (hi : i < xs.length) :
    xs.idxOf x = i ↔ xs.getD i 0 = x ∧ ∀ j, j < i → xs.getD j 0 ≠ x := by
  have := List.findIdx_eq (p := fun y => y == x) (xs := xs) hi
  show xs.findIdx (· == x) = i ↔ _
  rw [this]
  simp only [List.getD_eq_getElem?_getD, List.getElem?_eq_getElem hi, Option.getD_some, beq_iff_eq,
    beq_eq_false_iff_ne, ne_eq]
  constructor
  · intro ⟨h1, h2⟩
    refine ⟨h1, fun j hj => ?_⟩
    rw [List.getElem?_eq_getElem (by omega)]
    exact h2 j hj
  · intro ⟨h1, h2⟩
    refine ⟨h1, fun j hj => ?_⟩
    have := h2 j hj
    rwa [List.getElem?_eq_getElem (by omega)] at this

/-- what `jnp.unique(..., return_index=True, size=n)` + scatter into zeros computes: every entry
survives at its first occurrence and is replaced by 0 elsewhere -/
theorem resolve_getD (xs : List Nat) (i : Nat) (hi : i < xs.length) :
    (resolve xs).getD i 0 =
      if (∀ j, j < i → xs.getD j 0 ≠ xs.getD i 0) then xs.getD i 0 else 0 := by
  unfold resolve
  rw [scatter_getD (fun j => xs.getD j 0)]
  · have hx : xs.getD i 0 ∈ xs := by
      rw [List.getD_eq_getElem?_getD, List.getElem?_eq_getElem hi]; simp
    by_cases hfirst : ∀ j, j < i → xs.getD j 0 ≠ xs.getD i 0
    · have : xs.idxOf (xs.getD i 0) = i := (idxOf_eq_iff xs _ i hi).2 ⟨rfl, hfirst⟩
      have hm := uniqueFirst_idx xs _ hx
      rw [this] at hm
      rw [if_pos ⟨by simpa using hi, hm⟩, if_pos hfirst]
    · have hn : i ∉ (uniqueFirst xs).map (·.2) := by
        intro hm
        obtain ⟨p, hp, hpi⟩ := List.mem_map.1 hm
        obtain ⟨h1, h2⟩ := uniqueFirst_mem xs p hp
        have h3 : xs.idxOf p.1 = i := by rw [← h2]; exact hpi
        have := (idxOf_eq_iff xs p.1 i hi).1 h3
        apply hfirst
        intro j hj
        rw [this.1]
        exact this.2 j hj
      rw [if_neg (fun h => hn h.2), if_neg hfirst]
      simp [List.getD_eq_getElem?_getD, hi]
  · intro p hp
    obtain ⟨h1, h2⟩ := uniqueFirst_mem xs p hp
    have hlt : xs.idxOf p.1 < xs.length := List.idxOf_lt_length_iff.2 h1
    simp only [h2, List.getD_eq_getElem?_getD, List.getElem?_eq_getElem hlt, Option.getD_some]
    exact (List.getElem_idxOf hlt).symm

/-- … so whatever the vehicles chose, no two of them are sent to one customer -/
theorem resolve_apart (xs : List Nat) (u : Nat) (hu : u < xs.length) (v : Nat) (hvu : v < u)
    (he : (resolve xs).getD u 0 = (resolve xs).getD v 0) : (resolve xs).getD u 0 = 0 := by
  rw [resolve_getD xs v (by omega)] at he
  rw [resolve_getD xs u hu] at he ⊢
  by_cases hfu : ∀ j, j < u → xs.getD j 0 ≠ xs.getD u 0
  · rw [if_pos hfu] at he ⊢
    split at he
    · exact absurd he.symm (hfu v hvu)
    · exact he
  · exact if_neg hfu

/-! ### L1 destinations = destinations by the rules -/

theorem zeroInvalid_length (s : State) (a : List Nat) (hl : a.length = s.capacities.length) :
    (zeroInvalid s a).length = a.length := by
  unfold zeroInvalid; simp [hl]

theorem mul_flags (x : Nat) (cap d : Int) :
    x * (if cap ≥ d then 1 else 0) * (if d > 0 then 1 else 0) =
      if (x = 0 ∨ (0 < d ∧ d ≤ cap)) then x else 0 := by
  by_cases h1 : cap ≥ d <;> by_cases h2 : d > 0 <;> by_cases h0 : x = 0 <;> simp [h1, h2, h0] <;> omega

/-- ANY choice, node index or not: the demand tested is the one the clamping gather reads -/
theorem zeroInvalid_getD_any (s : State) (a : List Nat) (v : Nat) (hv : v < a.length) (hc : v < s.capacities.length) :
    (zeroInvalid s a).getD v 0 =
      if a.getD v 0 = 0 ∨ (0 < Jx.getWC s.demands 0 ((a.getD v 0 : Nat) : Int) ∧
          Jx.getWC s.demands 0 ((a.getD v 0 : Nat) : Int) ≤ s.capacities.getD v 0)
      then a.getD v 0 else 0 := by
  unfold zeroInvalid
  rw [Jx.getD_zipWith _ 0 0 0 hv hc]
  exact mul_flags ..

theorem zeroInvalid_getD (s : State) (a : List Nat) (hl : a.length = s.capacities.length) (v : Nat)
    (hv : v < a.length) (hr : a.getD v 0 < s.demands.length) :
    (zeroInvalid s a).getD v 0 = if legal s v (a.getD v 0) then a.getD v 0 else 0 := by
  have hv' : v < s.capacities.length := by omega
  rw [zeroInvalid_getD_any s a v hv hv', Jx.getWC_nat _ _ hr]
  have hiff : legal s v (a.getD v 0) ↔ (a.getD v 0 = 0 ∨
      (0 < s.demands.getD (a.getD v 0) 0 ∧ s.demands.getD (a.getD v 0) 0 ≤ s.capacities.getD v 0)) := by
    unfold legal DEPOT
    exact ⟨fun h => h.2.2, fun h => ⟨hv', hr, h⟩⟩
  by_cases hc : legal s v (a.getD v 0)
  · rw [if_pos hc, if_pos (hiff.1 hc)]
  · rw [if_neg hc, if_neg (fun h => hc (hiff.2 h))]

theorem nextNodes_length (s : State) (a : List Nat) (hl : a.length = s.capacities.length) :
    (nextNodes s a).length = a.length := by
  unfold nextNodes; rw [resolve_length, zeroInvalid_length s a hl]

theorem nextNodes_cases (s : State) (a : List Nat) (v : Nat) (hv : v < a.length) (hc : v < s.capacities.length) :
    (nextNodes s a).getD v 0 = 0 ∨
      ((nextNodes s a).getD v 0 = a.getD v 0 ∧ 0 < Jx.getWC s.demands 0 ((a.getD v 0 : Nat) : Int) ∧
       Jx.getWC s.demands 0 ((a.getD v 0 : Nat) : Int) ≤ s.capacities.getD v 0) := by
  have hz : v < (zeroInvalid s a).length := by
    unfold zeroInvalid; rw [List.length_zipWith]; omega
  unfold nextNodes
  rw [resolve_getD _ v hz]
  split
  · rw [zeroInvalid_getD_any s a v hv hc]
    split
    · rename_i h
      exact h.imp id fun h => ⟨rfl, h⟩
    · exact Or.inl rfl
  · exact Or.inl rfl

theorem dests_length (s : State) (a : List Nat) : (dests s a).length = a.length := by
  unfold dests; simp

theorem dests_getD (s : State) (a : List Nat) (v : Nat) (hv : v < a.length) :
    (dests s a).getD v 0 = if honoured s a v then a.getD v 0 else DEPOT :=
  Jx.getD_range_map _ 0 hv

theorem honoured_iff (s : State) (a : List Nat) (v : Nat) :
    honoured s a v = true ↔ legal s v (a.getD v 0) ∧
      (a.getD v 0 = DEPOT ∨ ∀ u, u < v → ¬ legal s u (a.getD u 0) ∨ a.getD u 0 ≠ a.getD v 0) := by
  simp only [honoured, Bool.and_eq_true, decide_eq_true_eq, Bool.or_eq_true, beq_iff_eq, List.all_eq_true,
    List.mem_range, Bool.not_eq_true', Bool.and_eq_false_iff, decide_eq_false_iff_not, beq_eq_false_iff_ne]

/-- C04: for in-range choices the two zeroing stages of `_update_state` (capacity / demand test, then `jnp.unique` +
scatter) compute the destinations prescribed by the rules -/
theorem nextNodes_eq_dests (s : State) (a : List Nat) (hl : a.length = s.capacities.length)
    (hr : ∀ x ∈ a, x < s.demands.length) : nextNodes s a = dests s a := by
  have hrv : ∀ v, v < a.length → a.getD v 0 < s.demands.length := fun v hv => hr _ (Jx.getD_mem 0 hv)
  apply Jx.ext_getD 0 (by rw [dests_length, nextNodes_length s a hl])
  intro v hv
  rw [nextNodes_length s a hl] at hv
  have hz : v < (zeroInvalid s a).length := by rw [zeroInvalid_length s a hl]; exact hv
  unfold nextNodes
  rw [resolve_getD _ v hz, zeroInvalid_getD s a hl v hv (hrv v hv), dests_getD s a v hv]
  by_cases hleg : legal s v (a.getD v 0)
  · rw [if_pos hleg]
    by_cases h0 : a.getD v 0 = 0
    · rw [h0]; simp [DEPOT]
    · -- an earlier entry survives the first stage with the value `a[v]` iff it is the same legal choice
      have hfirst : (∀ j, j < v → (zeroInvalid s a).getD j 0 ≠ a.getD v 0) ↔ honoured s a v = true := by
        rw [honoured_iff]
        simp only [hleg, h0, DEPOT, true_and, false_or]
        refine forall_congr' fun u => forall_congr' fun hu => ?_
        rw [zeroInvalid_getD s a hl u (by omega) (hrv u (by omega))]
        by_cases hlu : legal s u (a.getD u 0)
        · rw [if_pos hlu]; exact ⟨Or.inr, fun h => h.resolve_left (fun n => n hlu)⟩
        · rw [if_neg hlu]; exact ⟨fun _ => Or.inl hlu, fun _ e => h0 e.symm⟩
      simp only [hfirst]; rfl
  · rw [if_neg hleg, Bool.eq_false_iff.2 fun h => hleg ((honoured_iff s a v).1 h).1]
    simp [DEPOT]

theorem dests_customer (s : State) (a : List Nat) (v : Nat) (hv : v < a.length)
    (hq : (dests s a).getD v 0 ≠ DEPOT) :
    honoured s a v = true ∧ (dests s a).getD v 0 = a.getD v 0 ∧ legal s v (a.getD v 0) := by
  rw [dests_getD s a v hv] at hq ⊢
  by_cases hh : honoured s a v = true
  · rw [if_pos hh] at hq ⊢; exact ⟨hh, rfl, ((honoured_iff s a v).1 hh).1⟩
  · rw [if_neg hh] at hq; exact absurd rfl hq

theorem dests_customer_demand (s : State) (a : List Nat) (v : Nat) (hv : v < a.length)
    (hq : (dests s a).getD v 0 ≠ DEPOT) :
    0 < s.demands.getD ((dests s a).getD v 0) 0 ∧
    s.demands.getD ((dests s a).getD v 0) 0 ≤ s.capacities.getD v 0 ∧ (dests s a).getD v 0 < s.demands.length := by
  obtain ⟨_, he, hleg⟩ := dests_customer s a v hv hq
  rw [he] at hq ⊢
  exact ⟨(hleg.2.2.resolve_left hq).1, (hleg.2.2.resolve_left hq).2, hleg.2.1⟩

/-- what the rules guarantee of the destinations `q` of one step: one node of the instance per vehicle, and a customer among
them has a positive demand that fits its vehicle (that no customer is the destination of two vehicles needs no rule:
`resolve_apart`) -/
structure DestsOK (s : State) (q : List Nat) : Prop where
  length : q.length = s.capacities.length
  lt : ∀ x ∈ q, x < s.demands.length
  fits : ∀ v, v < q.length → q.getD v 0 ≠ DEPOT →
    0 < s.demands.getD (q.getD v 0) 0 ∧ s.demands.getD (q.getD v 0) 0 ≤ s.capacities.getD v 0

theorem dests_ok (s : State) (a : List Nat) (hl : a.length = s.capacities.length)
    (hr : ∀ x ∈ a, x < s.demands.length) : DestsOK s (dests s a) where
  length := (dests_length s a).trans hl
  lt p hp := by
    unfold dests at hp
    simp only [List.mem_map, List.mem_range] at hp
    obtain ⟨v, hv, rfl⟩ := hp
    have := hr _ (Jx.getD_mem 0 hv)
    split
    · exact this
    · unfold DEPOT; omega
  fits v hv hq :=
    have h := dests_customer_demand s a v (dests_length s a ▸ hv) hq
    ⟨h.1, h.2.1⟩

theorem nextNodes_ok (s : State) (a : List Nat) (hl : a.length = s.capacities.length)
    (hr : ∀ x ∈ a, x < s.demands.length) : DestsOK s (nextNodes s a) :=
  nextNodes_eq_dests s a hl hr ▸ dests_ok s a hl hr

/-! ### the step: observation, cached mask, horizon, rewards -/

theorem step_state (rnd : Rat → Rat) (c : Cfg) (D : Dist) (s : State) (a : List Nat) :
    (step rnd c D s a).1 = update rnd c D s a := rfl

theorem step_obs (rnd : Rat → Rat) (c : Cfg) (D : Dist) (s : State) (a : List Nat) :
    (step rnd c D s a).2.obs = stateToObs (update rnd c D s a) := condLast_obs ..

theorem step_stepType (rnd : Rat → Rat) (c : Cfg) (D : Dist) (s : State) (a : List Nat) :
    (step rnd c D s a).2.stepType = if isDone c (update rnd c D s a) then .last else .mid := condLast_stepType ..

theorem step_last_iff (rnd : Rat → Rat) (c : Cfg) (D : Dist) (s : State) (a : List Nat) :
    (step rnd c D s a).2.stepType = .last ↔ isDone c (update rnd c D s a) = true := condLast_last_iff ..

theorem step_reward (rnd : Rat → Rat) (c : Cfg) (D : Dist) (s : State) (a : List Nat) :
    (step rnd c D s a).2.reward =
      [reward rnd c D s (update rnd c D s a) (isDone c (update rnd c D s a))] := condLast_reward ..

theorem timedOut_step (rnd : Rat → Rat) (c : Cfg) (D : Dist) (s : State) (a : List Nat) :
    timedOut c (step rnd c D s a).1 = decide (2 * c.numCustomers ≤ s.stepCount) :=
  decide_eq_decide.2 (show s.stepCount + 1 > c.numCustomers * 2 ↔ _ by omega)

/-- `step` reads the joint action only through the first zeroing stage -/
theorem step_congr_zeroInvalid (rnd : Rat → Rat) (c : Cfg) (D : Dist) (s : State) (a b : List Nat)
    (h : zeroInvalid s a = zeroInvalid s b) : step rnd c D s a = step rnd c D s b := by
  have hn : nextNodes s a = nextNodes s b := by unfold nextNodes; rw [h]
  unfold step update
  simp only [hn]

theorem zeroInvalid_idem (s : State) (a : List Nat) : zeroInvalid s (zeroInvalid s a) = zeroInvalid s a := by
  unfold zeroInvalid
  apply Jx.zipWith_idem
  intro x cap
  simp only [mul_flags]
  by_cases h : x = 0 ∨ 0 < Jx.getWC s.demands 0 (x : Int) ∧ Jx.getWC s.demands 0 (x : Int) ≤ cap
  · simp only [if_pos h]
  · simp [if_neg h]

/-- C05, every joint action: a choice the first stage zeroes is treated exactly like the choice "depot" -/
theorem step_zeroInvalid (rnd : Rat → Rat) (c : Cfg) (D : Dist) (s : State) (a : List Nat) :
    step rnd c D s a = step rnd c D s (zeroInvalid s a) :=
  step_congr_zeroInvalid rnd c D s _ _ (zeroInvalid_idem s a).symm

theorem update_positions (rnd : Rat → Rat) (c : Cfg) (D : Dist) (s : State) (a : List Nat) :
    (update rnd c D s a).positions = nextNodes s a := rfl

theorem update_stepCount (rnd : Rat → Rat) (c : Cfg) (D : Dist) (s : State) (a : List Nat) :
    (update rnd c D s a).stepCount = s.stepCount + 1 := rfl

theorem update_mask (rnd : Rat → Rat) (c : Cfg) (D : Dist) (s : State) (a : List Nat) :
    (update rnd c D s a).mask =
      createActionMask (update rnd c D s a).demands (update rnd c D s a).capacities := rfl

theorem update_demands_length (rnd : Rat → Rat) (c : Cfg) (D : Dist) (s : State) (a : List Nat) :
    (update rnd c D s a).demands.length = s.demands.length := Jx.foldl_setWD_length _ _ _ _

theorem update_capacities_length (rnd : Rat → Rat) (c : Cfg) (D : Dist) (s : State) (a : List Nat)
    (hl : a.length = s.capacities.length) : (update rnd c D s a).capacities.length = s.capacities.length := by
  exact Jx.length_zipWith_of (by rw [nextNodes_length s a hl, hl]) rfl

theorem update_capacities_range (rnd : Rat → Rat) (c : Cfg) (D : Dist) (s : State) (a : List Nat)
    (h : ∀ x ∈ s.capacities, 0 ≤ x ∧ x ≤ c.maxCap) : ∀ x ∈ (update rnd c D s a).capacities, 0 ≤ x ∧ x ≤ c.maxCap := by
  show ∀ x ∈ List.zipWith _ (nextNodes s a) s.capacities, _
  apply Jx.zipWith_forall_idx
  intro i i1 i2
  have ha : i < a.length := by
    unfold nextNodes zeroInvalid at i1
    rw [resolve_length, List.length_zipWith] at i1
    omega
  rw [← Jx.getD_eq_getElem 0 i1, ← Jx.getD_eq_getElem 0 i2]
  have hc := h _ (Jx.getD_mem 0 i2)
  rcases nextNodes_cases s a i ha i2 with h0 | ⟨e, hd, hle⟩
  · rw [h0]
    simp only [DEPOT, beq_self_eq_true, if_true]
    omega
  · rw [e]
    split <;> omega

theorem update_order_rows (rnd : Rat → Rat) (c : Cfg) (D : Dist) (s : State) (a : List Nat) (n : Nat)
    (h : ∀ row ∈ s.order, row.length = n) : ∀ row ∈ (update rnd c D s a).order, row.length = n := by
  intro row hrow
  have : row ∈ List.zipWith (fun row (q : Nat) => Jx.setWD row (s.stepCount : Int) q) s.order (nextNodes s a) := hrow
  obtain ⟨i, hi, rfl⟩ := List.getElem_of_mem this
  rw [List.getElem_zipWith, Jx.setWD_length]
  exact h _ (List.getElem_mem _)

theorem createActionMask_shaped (demands caps : List Int) :
    Jx.Grid.shaped (createActionMask demands caps) caps.length demands.length = true := by
  rw [Jx.Grid.shaped_iff_mem]
  refine ⟨List.length_map _, fun row hrow => ?_⟩
  obtain ⟨cap, _, rfl⟩ := List.mem_map.mp hrow
  rw [Jx.setWD_length, List.length_map]

theorem createActionMask_eq_table (s : State) :
    createActionMask s.demands s.capacities =
      (List.range s.capacities.length).map (fun v =>
        (List.range s.demands.length).map (fun a => decide (legal s v a))) :=
  Jx.Grid.eq_table_decide (createActionMask_shaped ..) fun v _ a _ => mask_iff_legal s v a

theorem getWC_zero_eq_getD {α} (xs : List α) (d : α) : Jx.getWC xs d ((0 : Nat) : Int) = xs.getD 0 d := by
  cases xs with
  | nil => simp [Jx.getWC]
  | cons x xs => exact Jx.getWC_nat (x :: xs) d (by simp)

/-- the disjunct `p = DEPOT` serves `reset`, whose coordinate table is any draw: at index 0 the clamping gather and `getD`
agree even on an empty table -/
theorem stateToObs_eq_observe (s : State) (hm : s.mask = createActionMask s.demands s.capacities)
    (hp : ∀ p ∈ s.positions, p < s.coords.length ∨ p = DEPOT) : stateToObs s = observe s := by
  unfold stateToObs observe
  rw [hm, createActionMask_eq_table]
  congr 1
  apply List.map_congr_left
  intro p hpm
  rcases hp p hpm with h | rfl
  · exact Jx.getWC_nat _ _ h
  · exact getWC_zero_eq_getD _ _

theorem obs_faithful (rnd : Rat → Rat) (c : Cfg) (D : Dist) (s : State) (a : List Nat)
    (hl : a.length = s.capacities.length) (hr : ∀ x ∈ a, x < s.demands.length)
    (hc : s.coords.length = s.demands.length) :
    (step rnd c D s a).2.obs = observe (step rnd c D s a).1 := by
  rw [step_obs, step_state]
  refine stateToObs_eq_observe _ (update_mask rnd c D s a) fun p hp => Or.inl ?_
  have := (nextNodes_ok s a hl hr).lt p hp
  show p < s.coords.length
  omega

theorem reset_obs_faithful (c : Cfg) (nV : Nat) (demandMax : Int) (windowLen : Rat) (d : Draw) :
    (reset c nV demandMax windowLen d).2.obs = observe (reset c nV demandMax windowLen d).1 :=
  stateToObs_eq_observe (generate c nV demandMax windowLen d) rfl fun _ hp =>
    Or.inr (List.eq_of_mem_replicate (show _ ∈ List.replicate nV DEPOT from hp))

theorem progress (rnd : Rat → Rat) (c : Cfg) (D : Dist) (s : State) (a : List Nat)
    (h : (step rnd c D s a).2.stepType ≠ .last) :
    (step rnd c D s a).1.stepCount = s.stepCount + 1 ∧
    (step rnd c D s a).1.stepCount ≤ 2 * c.numCustomers := by
  refine ⟨rfl, ?_⟩
  have hnd : ¬ (isDone c (step rnd c D s a).1 = true) := fun hd => h ((step_last_iff rnd c D s a).2 hd)
  unfold isDone at hnd
  rw [timedOut_step] at hnd
  simp only [Bool.or_eq_true, decide_eq_true_eq, not_or] at hnd
  rw [step_state, update_stepCount]
  omega

theorem sumF_id (xs : List Rat) : sumF id xs = xs.sum := by
  show xs.foldl (fun acc x => acc + x) 0 = xs.sum
  have : ∀ (acc : Rat), xs.foldl (fun acc x => acc + x) acc = acc + xs.sum := by
    induction xs with
    | nil => intro acc; simp [Rat.add_zero]
    | cons x xs ih => intro acc; simp only [List.foldl_cons, List.sum_cons]; rw [ih]; rw [Rat.add_assoc]
  rw [this 0, Rat.zero_add]

theorem dense_telescopes (c : Cfg) (D : Dist) (s : State) (a : List Nat) (hd : c.dense = true)
    (ht : timedOut c (step id c D s a).1 = false) :
    (step id c D s a).2.reward = [accumulated (step id c D s a).1 - accumulated s] := by
  rw [step_reward]
  rw [step_state] at ht ⊢
  unfold reward denseReward accumulated
  rw [hd, ht]
  simp only [if_true, sumF_id, id, Bool.false_eq_true, if_false]
  congr 1
  generalize s.distances.sum = x1
  generalize s.timePenalties.sum = x2
  generalize (update id c D s a).distances.sum = y1
  generalize (update id c D s a).timePenalties.sum = y2
  grind

theorem sparse_reward (c : Cfg) (D : Dist) (s : State) (a : List Nat) (hd : c.dense = false) :
    (step id c D s a).2.reward =
      [if (step id c D s a).2.stepType = .last then
         (if timedOut c (step id c D s a).1 then worstCase D (step id c D s a).1
          else accumulated (step id c D s a).1)
       else 0] := by
  rw [step_reward, step_state]
  unfold reward sparseReward accumulated
  rw [hd]
  simp only [Bool.false_eq_true, if_false, sumF_id, id]
  by_cases hdone : isDone c (update id c D s a) = true
  · rw [if_pos ((step_last_iff id c D s a).2 hdone), if_pos hdone]
    congr 1
    split
    · rfl
    · grind
  · rw [if_neg (fun h => hdone ((step_last_iff id c D s a).1 h)), if_neg hdone]

/-! ### feasibility (history-free part) -/

theorem served_getD (qs : List Nat) (d : List Int) (j : Nat) :
    (qs.foldl (fun d (q : Nat) => Jx.setWD d (q : Int) 0) d).getD j 0 =
      if j ∈ qs then 0 else d.getD j 0 := by
  induction qs generalizing d with
  | nil => simp
  | cons q qs ih =>
    simp only [List.foldl_cons]
    rw [ih, Jx.setWD_natCast, Jx.getD_set]
    simp only [List.mem_cons]
    by_cases h1 : j ∈ qs
    · simp [h1]
    · by_cases h2 : q = j
      · subst h2
        by_cases hl : q < d.length
        · simp [h1, hl]
        · simp [h1, hl, List.getD_eq_getElem?_getD]
      · simp [h1, h2, Ne.symm h2]

theorem update_demands (rnd : Rat → Rat) (c : Cfg) (D : Dist) (s : State) (a : List Nat) (j : Nat) :
    (update rnd c D s a).demands.getD j 0 = if j ∈ nextNodes s a then 0 else s.demands.getD j 0 :=
  served_getD _ _ j

theorem update_capacities {s : State} {a : List Nat} (hq : DestsOK s (nextNodes s a)) (rnd : Rat → Rat) (c : Cfg)
    (D : Dist) (v : Nat) (hv : v < s.capacities.length) :
    (update rnd c D s a).capacities.getD v 0 =
      if (nextNodes s a).getD v 0 = DEPOT then c.maxCap
      else s.capacities.getD v 0 - s.demands.getD ((nextNodes s a).getD v 0) 0 := by
  have hv1 : v < (nextNodes s a).length := hq.length ▸ hv
  show (List.zipWith _ (nextNodes s a) s.capacities).getD v 0 = _
  rw [Jx.getD_zipWith _ 0 0 0 hv1 hv, Jx.getWC_nat _ _ (hq.lt _ (Jx.getD_mem 0 hv1))]
  simp only [beq_iff_eq]

/-- C06: nothing is asked of the joint action but one entry per vehicle (`hn`, by `nextNodes_length`), node indices or not -/
theorem step_basicFeasible_any (rnd : Rat → Rat) (c : Cfg) (D : Dist) (d0 : List Int) (s : State) (a : List Nat)
    (hn : (nextNodes s a).length = s.capacities.length) (hf : BasicFeasible c d0 s) :
    BasicFeasible c d0 (update rnd c D s a) := by
  obtain ⟨f1, f2, f3, f4, f5, f6, f7, f8, f9, f10, f11, f12⟩ := hf
  have hcl : (update rnd c D s a).capacities.length = s.capacities.length := Jx.length_zipWith_of hn rfl
  refine ⟨(update_demands_length ..).trans f1, f2.trans (update_demands_length ..).symm, hn.trans hcl.symm,
    (Jx.length_zipWith_of f4 hn).trans hcl.symm, update_order_rows rnd c D s a _ f5, Nat.le_succ_of_le f6, f7, f8,
    ?_, update_capacities_range rnd c D s a f10,
    fun u hu => resolve_apart _ u (by rwa [update_positions, nextNodes, resolve_length] at hu), rfl⟩
  intro j hj
  rw [update_demands_length] at hj
  rw [update_demands]
  split
  · exact Or.inr rfl
  · exact f9 j hj

/-! ### the generated state, which is the state of `reset` (C10; its feasibility: C06) -/

theorem generate_demands_length (c : Cfg) (nV : Nat) (demandMax : Int) (windowLen : Rat) (d : Draw) :
    (generate c nV demandMax windowLen d).demands.length = d.scaled.length := List.length_map _

theorem generate_demands_range (c : Cfg) (nV : Nat) (demandMax : Int) (windowLen : Rat) (d : Draw) (hpos : 0 ≤ demandMax)
    (h : ∀ x ∈ d.scaled, 0 ≤ x) : ∀ x ∈ (generate c nV demandMax windowLen d).demands, 0 ≤ x ∧ x ≤ demandMax := by
  intro x hx
  obtain ⟨y, hy, rfl⟩ := List.mem_map.1 (show x ∈ d.scaled.map (fun x => min x demandMax) from hx)
  have := h y hy
  omega

theorem generate_depot (c : Cfg) (nV : Nat) (demandMax : Int) (windowLen : Rat) (d : Draw) (hpos : 0 ≤ demandMax)
    (hl : 0 < d.scaled.length) (h0 : d.scaled.getD DEPOT 1 = 0) :
    (generate c nV demandMax windowLen d).demands.getD DEPOT 1 = 0 := by
  show (d.scaled.map (fun x => min x demandMax)).getD 0 1 = 0
  rw [DEPOT, Jx.getD_eq_getElem _ hl] at h0
  rw [Jx.getD_eq_getElem _ (by rw [List.length_map]; exact hl), List.getElem_map, h0]
  omega

theorem routes_length (s : State) : (routes s).length = s.order.length := List.length_map _

theorem mem_routes {s : State} {r : List Nat} : r ∈ routes s ↔ ∃ row ∈ s.order, row.take s.stepCount = r := List.mem_map

theorem generate_routes (c : Cfg) (nV : Nat) (demandMax : Int) (windowLen : Rat) (d : Draw)
    (h2n : 1 ≤ 2 * c.numCustomers) :
    routes (generate c nV demandMax windowLen d) = List.replicate nV [0] := by
  unfold routes
  show (List.replicate nV (List.replicate (2 * c.numCustomers) 0)).map (fun row => row.take 1) = _
  rw [List.map_replicate]
  congr 1
  obtain ⟨k, hk⟩ : ∃ k, 2 * c.numCustomers = k + 1 := ⟨2 * c.numCustomers - 1, by omega⟩
  rw [hk, List.replicate_succ]; simp

theorem generate_feasible (c : Cfg) (nV : Nat) (demandMax : Int) (mapMax windowLen : Rat) (d : Draw)
    (hm : 0 ≤ c.maxCap) (hpos : 0 ≤ demandMax) (hd : validDraw c mapMax d) :
    Feasible c (generate c nV demandMax windowLen d).demands (generate c nV demandMax windowLen d) := by
  obtain ⟨h1, h2, h3, h4, h5⟩ := hd
  have hlen := (generate_demands_length c nV demandMax windowLen d).trans h2
  constructor
  · refine ⟨hlen, rfl, by simp [generate], by simp [generate], by simp [generate], Nat.le_refl 1,
      fun x hx => (generate_demands_range c nV demandMax windowLen d hpos h4 x hx).1,
      generate_depot c nV demandMax windowLen d hpos (by omega) h5, fun j _ => Or.inl rfl, ?_, ?_, rfl⟩
    · intro cap hc
      rw [List.eq_of_mem_replicate (show cap ∈ List.replicate nV c.maxCap from hc)]; omega
    · intro u hu v _ _
      exact Jx.getD_replicate DEPOT 0 (by simpa [generate] using hu)
  · intro hrec
    have hroutes := generate_routes c nV demandMax windowLen d hrec
    constructor
    · intro v hv
      have hv : v < nV := by simpa [generate] using hv
      rw [hroutes, Jx.getD_replicate [0] [] hv]
      refine ⟨rfl, rfl, ?_, Jx.getD_replicate DEPOT 0 hv, by simp [loadsOK, DEPOT]; exact hm,
        (Jx.getD_replicate c.maxCap 0 hv).trans (by simp [finalLoad, DEPOT])⟩
      intro x hx
      rw [List.mem_singleton.1 hx, hlen]; omega
    · intro j _ hj0
      refine Or.inl ⟨?_, rfl⟩
      unfold visitCount
      rw [hroutes, List.map_replicate, List.count_eq_zero.2 (by simp; omega)]
      simp

end MultiCVRP
