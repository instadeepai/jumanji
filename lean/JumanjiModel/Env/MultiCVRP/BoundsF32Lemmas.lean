/-
MultiCVRP, property C01: the `vehicles.local_times` bound for ROUNDED accumulation
(`local_times' = rnd (local_times + travel)`), in particular for the float32 model `rnd = Jx.roundF32`.

* `RndOK rnd dmax K`: what the bound needs from the rounding — monotone, fixes 0, and fixes the multiples
  `k · dmax` for `k ≤ K`.  Then `BInv` is preserved by `step rnd` from states with `stepCount ≤ K`
  (`step_bInv_rnd`, from `step_tInv`) and the observation stays inside `obsBounds` (`step_obs_in_bounds_rnd`).
* `Props.C01.multicvrp_roundF32_rndOK`: `Jx.roundF32` satisfies `RndOK` whenever `dmax = j · 2^sh` with
  `K · j < 2^24`, `sh ≥ −149` (all multiples up to `K` are binary32 values), by monotonicity and `roundF32_fix`
  (Prim/FloatLemmas.lean).
* The representability hypothesis cannot be dropped: `f32Witness*` below (decided in the kernel) is a
  3-customer instance whose six distances all equal `dmax = 1 + 3·2^-23` (a binary32 value) on which the float32
  accumulation reaches `6 + 5·2^-21 > 6 · dmax = 2 · numCustomers · dmax`.
-/
import JumanjiModel.Env.MultiCVRP.Bounds
import JumanjiModel.Prim.FloatLemmas
namespace MultiCVRP
open Jm Jm.OB

/-- what the local-times bound needs from the rounding function -/
def RndOK (rnd : Rat → Rat) (dmax : Rat) (K : Nat) : Prop :=
  (∀ x y, x ≤ y → rnd x ≤ rnd y) ∧ rnd 0 = 0 ∧ ∀ k : Nat, k ≤ K → rnd ((k : Rat) * dmax) = (k : Rat) * dmax

theorem rndOK_id (dmax : Rat) (K : Nat) : RndOK id dmax K := ⟨fun _ _ h => h, rfl, fun _ _ => rfl⟩

theorem step_bInv_rnd (rnd : Rat → Rat) (c : Cfg) (L : Lim) (D : Dist) (s : State) (a : List Nat) (K : Nat)
    (hr : RndOK rnd L.dmax K) (hk : s.stepCount ≤ K) (hD : DistOK L D) (h : BInv c L s) :
    BInv c L (step rnd c D s a).1 :=
  ⟨step_sInv rnd c L D s a h.1, step_tInv rnd c L D s a hr.1 hr.2.1 (hr.2.2 _ hk) h.1.1.2.2.2.2 hD h.2⟩

theorem step_obs_in_bounds_rnd (rnd : Rat → Rat) (c : Cfg) (L : Lim) (D : Dist) (s : State) (a : List Nat)
    (hr : RndOK rnd L.dmax (2 * c.numCustomers)) (hD : DistOK L D) (h : BInv c L s)
    (hk : s.stepCount ≤ 2 * c.numCustomers) :
    InBounds (obsBounds c L) (obsLeaves (step rnd c D s a).2.obs) := by
  rw [step_obs, ← step_state]
  exact observe_in_bounds c L _ (step_bInv_rnd rnd c L D s a _ hr hk hD h)
    (by rw [step_state, update_stepCount]; omega)

/-- `1 + 3·2^-23`, a binary32 value -/
def f32WitnessD : Rat := 8388611 / 8388608

def f32WitnessLim : Lim :=
  { mapMax := 1, demandMax := 4, maxStart := 0, windowLen := 9, coefEarlyMax := 1, coefLateMax := 1,
    dmax := f32WitnessD }

def f32WitnessCfg : Cfg := { numCustomers := 3, maxCap := 5, dense := true }

/-- depot ↔ customer distances all `dmax`; the customers coincide (hand-made: only `DistOK` is asked of it, it is not the
Euclidean matrix of the coordinates of `f32WitnessState`) -/
def f32WitnessDist : Dist :=
  [[0, f32WitnessD, f32WitnessD, f32WitnessD], [f32WitnessD, 0, 0, 0], [f32WitnessD, 0, 0, 0],
   [f32WitnessD, 0, 0, 0]]

/-- one vehicle at the depot at the start of the episode (`stepCount = 1`), three customers of demand 1 -/
def f32WitnessState : State :=
  { coords := [[0, 0], [1, 1], [1, 1], [1, 1]], demands := [0, 1, 1, 1],
    winStart := [0, 0, 0, 0], winEnd := [9, 9, 9, 9], coefEarly := [0, 1, 1, 1], coefLate := [0, 1, 1, 1],
    localTimes := [0], positions := [0], capacities := [5], distances := [0],
    timePenalties := [0], order := [[0, 0, 0, 0, 0, 0]], stepCount := 1,
    mask := [[true, true, true, true]] }

/-- the state after the joint actions `as`, float32 model -/
def f32Run (s : State) (as : List (List Nat)) : State :=
  as.foldl (fun s a => (step Jx.roundF32 f32WitnessCfg f32WitnessDist s a).1) s

/-- the out-and-back route 1, depot, 2, depot, 3 (five steps) -/
def f32WitnessS5 : State := f32Run f32WitnessState [[1], [0], [2], [0], [3]]
/-- … and its first four steps -/
def f32WitnessS4 : State := f32Run f32WitnessState [[1], [0], [2], [0]]

/-- `BInv` at the start, `DistOK` and the step limit at `S5` (from these the exact-arithmetic `step_bInv_rnd id` keeps
`BInv`, hence the bounds, along the route); `BInv` still holds at `S4`, which serves
`Props.C01.multicvrp_step_bInv_roundF32_false` -/
theorem f32Witness_hyps :
    BInv f32WitnessCfg f32WitnessLim f32WitnessState ∧ DistOK f32WitnessLim f32WitnessDist ∧
    BInv f32WitnessCfg f32WitnessLim f32WitnessS4 ∧
    f32WitnessS5.stepCount ≤ 2 * f32WitnessCfg.numCustomers := by decide +kernel

/-- the float32 accumulation: after the sixth leg the local time is `6 + 5·2^-21`, above
`6 · dmax = 6 + 4.5·2^-21` -/
theorem f32Witness_localTimes :
    (step Jx.roundF32 f32WitnessCfg f32WitnessDist f32WitnessS5 [0]).2.obs.localTimes = [12582917 / 2097152] ∧
    2 * (f32WitnessCfg.numCustomers : Rat) * f32WitnessLim.dmax < 12582917 / 2097152 := by decide +kernel

theorem f32Witness_out_of_bounds :
    ¬ InBounds (obsBounds f32WitnessCfg f32WitnessLim)
        (obsLeaves (step Jx.roundF32 f32WitnessCfg f32WitnessDist f32WitnessS5 [0]).2.obs) := by
  intro h
  obtain ⟨vs, hf, hv⟩ := h ("vehicles.local_times", some 0,
    some (2 * (f32WitnessCfg.numCustomers : Rat) * f32WitnessLim.dmax)) (List.mem_cons_self ..)
  have hf' : find "vehicles.local_times"
      (obsLeaves (step Jx.roundF32 f32WitnessCfg f32WitnessDist f32WitnessS5 [0]).2.obs) =
      some (step Jx.roundF32 f32WitnessCfg f32WitnessDist f32WitnessS5 [0]).2.obs.localTimes := rfl
  rw [hf', f32Witness_localTimes.1] at hf
  have := hv (12582917 / 2097152) (by rw [← Option.some.inj hf]; exact List.mem_singleton.mpr rfl)
  exact absurd this.2 (Rat.not_le.mpr f32Witness_localTimes.2)

end MultiCVRP
