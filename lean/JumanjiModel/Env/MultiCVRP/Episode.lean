/-
MultiCVRP: whole episodes, and the distance matrix `D` tied to the coordinates.

* `runState rnd c D s as`: the state after playing a list of joint actions (any rounding function);
  `InRange n nV as`: every joint action has one entry per vehicle, each a node index `< n`.
* `feasible_along` (C06, whole episode): `Feasible` holds after every prefix of every in-range play from a feasible
  state (legal or not, also past the end of the episode), for every rounding function.
* `Euclid coords D`: `D` is the matrix of Euclidean distances of `coords` (`D[i][j] ≥ 0`, `D[i][j]² = ‖pᵢ − pⱼ‖²`);
  two such matrices agree on all node pairs (`euclid_unique`), hence route lengths, route penalties and the objective
  are functions of the coordinates (`objective_congrD`; put together in `Props.C08.multicvrp_objective_euclid_unique`,
  and `distMatches 0 coords D = true → Euclid coords D` is `Props.C08.multicvrp_distMatches_euclid`).
-/
import JumanjiModel.Env.MultiCVRP.ReturnLemmas
namespace MultiCVRP
open Jm

/-- the state after playing the joint actions `as` from `s` (rounding function `rnd`) -/
def runState (rnd : Rat → Rat) (c : Cfg) (D : Dist) : State → List (List Nat) → State
  | s, [] => s
  | s, a :: as => runState rnd c D (step rnd c D s a).1 as

theorem finalState_eq_runState (c : Cfg) (D : Dist) (s : State) (as : List (List Nat)) :
    finalState c D s as = runState id c D s as := by
  induction as generalizing s with
  | nil => rfl
  | cons a as ih => simp only [finalState, runState]; exact ih _

/-- every joint action of the play has one entry per vehicle, each a node index `< nNodes`
(`nNodes = num_customers + 1`: the documented action range `[0, num_customers]`) -/
def InRange (nNodes nV : Nat) (as : List (List Nat)) : Prop :=
  ∀ a ∈ as, a.length = nV ∧ ∀ x ∈ a, x < nNodes

instance (n nV : Nat) (as : List (List Nat)) : Decidable (InRange n nV as) := by unfold InRange; infer_instance

theorem feasible_along (rnd : Rat → Rat) (c : Cfg) (D : Dist) (d0 : List Int) (s : State) (as : List (List Nat))
    (hm : 0 ≤ c.maxCap) (hf : Feasible c d0 s) (hr : InRange s.demands.length s.capacities.length as) (k : Nat) :
    Feasible c d0 (runState rnd c D s (as.take k)) := by
  induction as generalizing s k with
  | nil => simpa [runState] using hf
  | cons a as ih =>
    cases k with
    | zero => simpa [runState] using hf
    | succ k =>
      simp only [List.take_succ_cons, runState]
      have ha := hr a List.mem_cons_self
      apply ih
      · exact step_feasible rnd c D d0 s a hm ha.1 ha.2 hf
      · intro b hb
        rw [step_state, update_demands_length, update_capacities_length rnd c D s a ha.1]
        exact hr b (List.mem_cons_of_mem _ hb)

theorem feasible_run (rnd : Rat → Rat) (c : Cfg) (D : Dist) (d0 : List Int) (s : State) (as : List (List Nat))
    (hm : 0 ≤ c.maxCap) (hf : Feasible c d0 s) (hr : InRange s.demands.length s.capacities.length as) :
    Feasible c d0 (runState rnd c D s as) := by
  have := feasible_along rnd c D d0 s as hm hf hr as.length
  rwa [List.take_length] at this

/-- squared Euclidean distance between nodes `i` and `j` -/
def sqDist (coords : List (List Rat)) (i j : Nat) : Rat :=
  ((coords.getD i []).getD 0 0 - (coords.getD j []).getD 0 0) * ((coords.getD i []).getD 0 0 - (coords.getD j []).getD 0 0) +
  ((coords.getD i []).getD 1 0 - (coords.getD j []).getD 1 0) * ((coords.getD i []).getD 1 0 - (coords.getD j []).getD 1 0)

/-- `D` is the matrix of Euclidean distances between the nodes (`compute_distance = jnp.linalg.norm(a − b)` in exact
arithmetic), said without a square root -/
def Euclid (coords : List (List Rat)) (D : Dist) : Prop :=
  ∀ i j, i < coords.length → j < coords.length →
    0 ≤ dist D i j ∧ dist D i j * dist D i j = sqDist coords i j

theorem sq_lt (a b : Rat) (ha : 0 ≤ a) (hlt : a < b) : a * a < b * b := by
  have h1 : a * a ≤ a * b := Rat.mul_le_mul_of_nonneg_left (Rat.le_of_lt hlt) ha
  have hbp : 0 < b := by grind
  have h2 : a * b < b * b := Rat.mul_lt_mul_of_pos_right hlt hbp
  grind

theorem sq_inj (a b : Rat) (ha : 0 ≤ a) (hb : 0 ≤ b) (h : a * a = b * b) : a = b := by
  by_cases h1 : a < b
  · have := sq_lt a b ha h1; grind
  · by_cases h2 : b < a
    · have := sq_lt b a hb h2; grind
    · grind

theorem dist_eq_getD (D : Dist) (i j : Nat) (hi : i < D.length) (hj : j < (D.getD i []).length) :
    dist D i j = (D.getD i []).getD j 0 := by
  unfold dist
  rw [Jx.getWC_nat D [] hi, Jx.getWC_nat _ 0 hj]

theorem euclid_unique (coords : List (List Rat)) (D D' : Dist) (h : Euclid coords D) (h' : Euclid coords D')
    (i j : Nat) (hi : i < coords.length) (hj : j < coords.length) : dist D i j = dist D' i j := by
  obtain ⟨a0, a1⟩ := h i j hi hj
  obtain ⟨b0, b1⟩ := h' i j hi hj
  exact sq_inj _ _ a0 b0 (by rw [a1, b1])

theorem sqDist_symm (coords : List (List Rat)) (i j : Nat) : sqDist coords i j = sqDist coords j i := by
  unfold sqDist; grind

theorem euclid_symm (coords : List (List Rat)) (D : Dist) (h : Euclid coords D) (i j : Nat)
    (hi : i < coords.length) (hj : j < coords.length) : dist D i j = dist D j i := by
  obtain ⟨a0, a1⟩ := h i j hi hj
  obtain ⟨b0, b1⟩ := h j i hj hi
  exact sq_inj _ _ a0 b0 (by rw [a1, b1, sqDist_symm])

theorem euclid_self (coords : List (List Rat)) (D : Dist) (h : Euclid coords D) (i : Nat)
    (hi : i < coords.length) : dist D i i = 0 := by
  obtain ⟨a0, a1⟩ := h i i hi hi
  apply sq_inj _ _ a0 Rat.le_refl
  rw [a1]; unfold sqDist; grind

theorem pathLen_congr (D D' : Dist) (n : Nat) (hd : ∀ i j, i < n → j < n → dist D i j = dist D' i j)
    (r : List Nat) (hr : ∀ x ∈ r, x < n) : pathLen D r = pathLen D' r := by
  induction r with
  | nil => rfl
  | cons u vs ih =>
    cases vs with
    | nil => rfl
    | cons v vs =>
      simp only [pathLen]
      rw [hd u v (hr u List.mem_cons_self) (hr v (List.mem_cons_of_mem _ List.mem_cons_self)),
        ih (fun x hx => hr x (List.mem_cons_of_mem _ hx))]

theorem routePenalty_congrD (D D' : Dist) (s : State) (n : Nat)
    (hd : ∀ i j, i < n → j < n → dist D i j = dist D' i j) (t : Rat) (r : List Nat) (hr : ∀ x ∈ r, x < n) :
    routePenalty D s t r = routePenalty D' s t r := by
  induction r generalizing t with
  | nil => rfl
  | cons u vs ih =>
    cases vs with
    | nil => rfl
    | cons v vs =>
      simp only [routePenalty]
      rw [hd u v (hr u List.mem_cons_self) (hr v (List.mem_cons_of_mem _ List.mem_cons_self)),
        ih _ (fun x hx => hr x (List.mem_cons_of_mem _ hx))]

/-- every recorded node index is a node of the instance -/
def OrderInRange (s : State) : Prop := ∀ row ∈ s.order, ∀ x ∈ row, x < s.demands.length

instance (s : State) : Decidable (OrderInRange s) := by unfold OrderInRange; infer_instance

theorem update_orderInRange (rnd : Rat → Rat) (c : Cfg) (D : Dist) (s : State) (a : List Nat)
    (hl : a.length = s.capacities.length) (hr : ∀ x ∈ a, x < s.demands.length) (h : OrderInRange s) :
    OrderInRange (update rnd c D s a) := by
  intro row hrow x hx
  rw [update_demands_length]
  have hrow' : row ∈ List.zipWith (fun row (q : Nat) => Jx.setWD row (s.stepCount : Int) q) s.order (nextNodes s a) :=
    hrow
  obtain ⟨i, hi, rfl⟩ := List.getElem_of_mem hrow'
  rw [List.getElem_zipWith] at hx
  apply Jx.forall_mem_setWD (P := fun x => x < s.demands.length) _ (h _ (List.getElem_mem _)) _ x hx
  exact (nextNodes_ok s a hl hr).lt _ (List.getElem_mem _)

theorem generate_orderInRange (c : Cfg) (nV : Nat) (demandMax : Int) (windowLen : Rat) (d : Draw)
    (h : 0 < d.scaled.length) : OrderInRange (generate c nV demandMax windowLen d) := by
  intro row hrow x hx
  have hrow' : row ∈ List.replicate nV (List.replicate (2 * c.numCustomers) 0) := hrow
  rw [List.eq_of_mem_replicate hrow'] at hx
  rw [List.eq_of_mem_replicate hx]
  rw [generate_demands_length]; exact h

theorem finalState_orderInRange (c : Cfg) (D : Dist) (s : State) (as : List (List Nat)) (h : OrderInRange s)
    (he : Episode c D s as) : OrderInRange (finalState c D s as) := by
  induction as generalizing s with
  | nil => exact h
  | cons a as ih =>
    simp only [Episode] at he
    simp only [finalState]
    have h' : OrderInRange (step id c D s a).1 := by
      rw [step_state]; exact update_orderInRange id c D s a he.1.1 he.1.2 h
    rcases he.2 with ⟨rfl, _⟩ | ⟨_, _, he'⟩
    · exact h'
    · exact ih _ h' he'

theorem objective_congrD (D D' : Dist) (s : State) (h : OrderInRange s)
    (hd : ∀ i j, i < s.demands.length → j < s.demands.length → dist D i j = dist D' i j) :
    objective D s = objective D' s := by
  unfold objective
  congr 2
  apply List.map_congr_left
  intro r hr
  have hin : ∀ x ∈ r, x < s.demands.length := by
    obtain ⟨row, hrow, rfl⟩ := mem_routes.1 hr
    intro x hx
    exact h row hrow x (List.mem_of_mem_take hx)
  rw [pathLen_congr D D' _ hd r hin, routePenalty_congrD D D' s _ hd 0 r hin]

end MultiCVRP
