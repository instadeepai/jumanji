/- MultiCVRP: the history part of feasibility is preserved by `step`; complete states are solutions. -/
import JumanjiModel.Env.MultiCVRP.Lemmas
namespace MultiCVRP
open Jm

theorem count_zipWith_snoc (j : Nat) (rs : List (List Nat)) (qs : List Nat)
    (h : rs.length = qs.length) :
    ((List.zipWith (fun r q => r ++ [q]) rs qs).map (fun r => r.count j)).sum =
      (rs.map (fun r => r.count j)).sum + qs.count j := by
  induction rs generalizing qs with
  | nil => cases qs <;> simp_all
  | cons r rs ih =>
    cases qs with
    | nil => simp at h
    | cons q qs =>
      simp only [List.length_cons, Nat.add_right_cancel_iff] at h
      simp only [List.zipWith_cons_cons, List.map_cons, List.sum_cons, List.count_append,
        List.count_cons, List.count_nil]
      rw [ih qs h]
      omega

theorem count_le_one (l : List Nat) (j : Nat)
    (h : ∀ u, u < l.length → ∀ v, v < u → l.getD u 0 = j → l.getD v 0 ≠ j) : l.count j ≤ 1 := by
  induction l with
  | nil => simp
  | cons x xs ih =>
    have ih' := ih (fun u hu v hv e => by
      have := h (u + 1) (by simp only [List.length_cons]; omega) (v + 1) (by omega)
        (by simpa using e)
      simpa using this)
    by_cases hx : x = j
    · have h0 : xs.count j = 0 := by
        rw [List.count_eq_zero]
        intro hm
        obtain ⟨i, hi, e⟩ := List.getElem_of_mem hm
        have := h (i + 1) (by simp only [List.length_cons]; omega) 0 (by omega)
          (by simp [List.getD_eq_getElem?_getD, hi, e])
        simp [hx] at this
      simp [hx, h0]
    · simp only [List.count_cons, beq_iff_eq, hx, if_false]
      omega

theorem snoc_getD_last (r : List Nat) (q d : Nat) : (r ++ [q]).getD r.length d = q := by
  simp [List.getD_eq_getElem?_getD]

theorem snoc_getD_first (r : List Nat) (q d : Nat) (h : 0 < r.length) :
    (r ++ [q]).getD 0 d = r.getD 0 d := by
  simp only [List.getD_eq_getElem?_getD]
  rw [List.getElem?_append_left h]

theorem finalLoad_append (d0 : List Int) (l : Int) (r : List Nat) (q : Nat) :
    finalLoad d0 l (r ++ [q]) = if q = DEPOT then 0 else finalLoad d0 l r + d0.getD q 0 := by
  induction r generalizing l with
  | nil =>
    simp only [List.nil_append, finalLoad]
  | cons v vs ih => simp only [List.cons_append, finalLoad]; rw [ih]

theorem loadsOK_append (d0 : List Int) (cap l : Int) (r : List Nat) (q : Nat) :
    loadsOK d0 cap l (r ++ [q]) =
      (loadsOK d0 cap l r && decide (finalLoad d0 l (r ++ [q]) ≤ cap)) := by
  induction r generalizing l with
  | nil => simp only [List.nil_append, loadsOK, finalLoad, Bool.and_true, Bool.true_and]
  | cons v vs ih => simp only [List.cons_append, loadsOK, finalLoad]; rw [ih, Bool.and_assoc]

theorem routes_snoc (order : List (List Nat)) (qs : List Nat) (k : Nat)
    (h : ∀ row ∈ order, k < row.length) :
    (List.zipWith (fun row (q : Nat) => Jx.setWD row (k : Int) q) order qs).map
        (fun row => row.take (k + 1)) =
      List.zipWith (fun r q => r ++ [q]) (order.map (fun row => row.take k)) qs := by
  induction order generalizing qs with
  | nil => simp
  | cons row rows ih =>
    cases qs with
    | nil => simp
    | cons q qs =>
      simp only [List.zipWith_cons_cons, List.map_cons]
      rw [ih qs (fun r hr => h r (List.mem_cons_of_mem _ hr)), Jx.setWD_natCast,
        Jx.take_set_succ _ _ (h row List.mem_cons_self)]

theorem routes_update (rnd : Rat → Rat) (c : Cfg) (D : Dist) (s : State) (a : List Nat)
    (hrow : ∀ row ∈ s.order, s.stepCount < row.length) :
    routes (update rnd c D s a) = List.zipWith (fun r q => r ++ [q]) (routes s) (nextNodes s a) :=
  routes_snoc s.order (nextNodes s a) s.stepCount hrow

theorem load_step (M cap fl dq : Int) (h : cap = M - fl) (hle : dq ≤ cap) :
    fl + dq ≤ M ∧ cap - dq = M - (fl + dq) := by omega

theorem nextNodes_count_le_one (s : State) (a : List Nat) (j : Nat) (hj : j ≠ DEPOT) : (nextNodes s a).count j ≤ 1 :=
  count_le_one _ j fun u hu v hv e e2 =>
    hj (e ▸ resolve_apart _ u (by rwa [nextNodes, resolve_length] at hu) v hv (e.trans e2.symm))

section
variable {s : State} {a : List Nat} (hq : DestsOK s (nextNodes s a))
include hq


theorem step_historyFeasible (rnd : Rat → Rat) (c : Cfg) (D : Dist) (d0 : List Int) (hb : BasicFeasible c d0 s)
    (hh : HistoryFeasible c d0 s) (hrec : s.stepCount < 2 * c.numCustomers) :
    HistoryFeasible c d0 (update rnd c D s a) := by
  obtain ⟨f1, f2, f3, f4, f5, f6, f7, f8, f9, f10, f11, f12⟩ := hb
  obtain ⟨hroute, hvisit⟩ := hh
  have hrl : (routes s).length = (nextNodes s a).length := by
    rw [routes_length, f4, hq.length]
  have hroutes := routes_update rnd c D s a fun row hrow => by rw [f5 row hrow]; exact hrec
  -- a customer destination still has its instance demand
  have hcust : ∀ v, v < (nextNodes s a).length → (nextNodes s a).getD v 0 ≠ DEPOT →
      s.demands.getD ((nextNodes s a).getD v 0) 0 = d0.getD ((nextNodes s a).getD v 0) 0 ∧
      s.demands.getD ((nextNodes s a).getD v 0) 0 ≤ s.capacities.getD v 0 ∧
      0 < s.demands.getD ((nextNodes s a).getD v 0) 0 := by
    intro v hv hne
    obtain ⟨h2, h3⟩ := hq.fits v hv hne
    rcases f9 _ (hq.lt _ (Jx.getD_mem 0 hv)) with h9 | h9
    · exact ⟨h9, h3, h2⟩
    · rw [h9] at h2; exact absurd h2 (Int.lt_irrefl 0)
  refine ⟨?_, ?_⟩
  · intro v hv
    have hv : v < s.capacities.length := (Jx.length_zipWith_of hq.length rfl : _ = s.capacities.length) ▸ hv
    have hvq : v < (nextNodes s a).length := hq.length ▸ hv
    rw [hroutes, Jx.getD_zipWith _ [] [] 0 (hrl ▸ hvq) hvq]
    obtain ⟨r1, r2, r3, r4, r5, r6⟩ := hroute v hv
    have hcap := update_capacities hq rnd c D v hv
    have hqlt := hq.lt _ (Jx.getD_mem 0 hvq)
    have hc := hcust v hvq
    have hm : 0 ≤ c.maxCap := (f10 _ (Jx.getD_mem 0 hv)).elim Int.le_trans
    generalize (routes s).getD v [] = r at r1 r2 r3 r4 r5 r6 ⊢
    generalize hqdef : (nextNodes s a).getD v 0 = q at hcap hqlt hc ⊢
    have hfl : finalLoad d0 0 (r ++ [q]) ≤ c.maxCap ∧
        (update rnd c D s a).capacities.getD v 0 = c.maxCap - finalLoad d0 0 (r ++ [q]) := by
      rw [finalLoad_append, hcap]
      by_cases hq0 : q = DEPOT
      · rw [if_pos hq0, if_pos hq0]; exact ⟨hm, (Int.sub_zero _).symm⟩
      · rw [if_neg hq0, if_neg hq0, ← (hc hq0).1]
        exact load_step _ _ _ _ r6 (hc hq0).2.1
    refine ⟨?_, ?_, ?_, ?_, ?_, hfl.2⟩
    · rw [update_stepCount, List.length_append, r1]; rfl
    · rw [snoc_getD_first _ _ _ (by rw [r1]; exact f6)]; exact r2
    · intro x hx
      rw [update_demands_length]
      rcases List.mem_append.1 hx with hx | hx
      · exact r3 x hx
      · rw [List.mem_singleton.1 hx]; exact hqlt
    · rw [update_positions, update_stepCount, hqdef, Nat.add_sub_cancel, ← r1, snoc_getD_last]
    · rw [loadsOK_append, r5, Bool.true_and]
      exact decide_eq_true hfl.1
  · intro j hj hj0
    rw [update_demands_length] at hj
    have hvc : visitCount (update rnd c D s a) j = visitCount s j + (nextNodes s a).count j := by
      unfold visitCount
      rw [hroutes]
      exact count_zipWith_snoc j _ _ hrl
    rw [hvc, update_demands]
    by_cases hmem : j ∈ nextNodes s a
    · rw [if_pos hmem]
      right
      obtain ⟨v, hv, e⟩ := Jx.mem_exists_getD 0 hmem
      have hjne : j ≠ DEPOT := Nat.ne_of_gt hj0
      have h2 := (hcust v hv (by rw [e]; exact hjne)).2.2
      rw [e] at h2
      have hc1 : (nextNodes s a).count j = 1 :=
        Nat.le_antisymm (nextNodes_count_le_one s a j hjne) (List.count_pos_iff.2 hmem)
      rcases hvisit j hj hj0 with h | h
      · exact ⟨by rw [h.1, hc1], rfl, h.2 ▸ h2⟩
      · rw [h.2.1] at h2; exact absurd h2 (Int.lt_irrefl 0)
    · rw [if_neg hmem, List.count_eq_zero_of_not_mem hmem, Nat.add_zero]
      exact hvisit j hj hj0

/-- C06: nothing is asked of the joint action itself, only (`hq`) of the destinations `_update_state` computes from it -/
theorem step_feasible_of (rnd : Rat → Rat) (c : Cfg) (D : Dist) (d0 : List Int) (hf : Feasible c d0 s) :
    Feasible c d0 (step rnd c D s a).1 :=
  ⟨step_basicFeasible_any rnd c D d0 s a hq.length hf.1, fun hrec =>
    have hrec : s.stepCount + 1 ≤ 2 * c.numCustomers := hrec
    step_historyFeasible hq rnd c D d0 hf.1 (hf.2 (Nat.le_of_succ_le hrec)) hrec⟩

end

theorem step_feasible (rnd : Rat → Rat) (c : Cfg) (D : Dist) (d0 : List Int) (s : State) (a : List Nat)
    (hm : 0 ≤ c.maxCap) (hl : a.length = s.capacities.length) (hr : ∀ x ∈ a, x < s.demands.length)
    (hf : Feasible c d0 s) : Feasible c d0 (step rnd c D s a).1 :=
  step_feasible_of (nextNodes_ok s a hl hr) rnd c D d0 hf

theorem all_zero_of_sum_zero (l : List Int) (h : ∀ x ∈ l, 0 ≤ x) (hs : l.sum = 0) :
    ∀ x ∈ l, x = 0 := by
  intro x hx
  have := Jx.mem_le_sum h hx
  have := h x hx
  omega

/-- C06; `allServedAtDepot` is one of the two termination tests of `step` (`isDone`; the other is the step limit) -/
theorem complete_is_solution (c : Cfg) (d0 : List Int) (s : State) (hf : Feasible c d0 s)
    (h : allServedAtDepot s = true) : IsSolution c d0 s := by
  obtain ⟨f1, f2, f3, f4, f5, f6, f7, f8, f9, f10, f11, f12⟩ := hf.1
  unfold allServedAtDepot at h
  simp only [Bool.and_eq_true, decide_eq_true_eq, List.all_eq_true, beq_iff_eq] at h
  have hnn : ∀ x ∈ s.demands, 0 ≤ x := by
    intro x hx
    obtain ⟨j, hj, e⟩ := List.getElem_of_mem hx
    have := f7 _ (Jx.getD_mem (l := d0) (i := j) 0 (by rw [f2]; exact hj))
    rcases f9 j hj with h9 | h9 <;> rw [Jx.getD_eq_getElem 0 hj, e] at h9 <;> rw [h9]
    · exact this
    · exact Int.le_refl 0
  have hz := all_zero_of_sum_zero s.demands hnn h.1
  refine ⟨hf, hz, h.2, ?_⟩
  intro hrec j hj hj0 hd
  have hj' : j < s.demands.length := by rw [← f2]; exact hj
  have hzj : s.demands.getD j 0 = 0 := hz _ (Jx.getD_mem 0 hj')
  rcases (hf.2 hrec).2 j hj' hj0 with hv | hv
  · rw [← hv.2, hzj] at hd; exact absurd hd (Int.lt_irrefl 0)
  · exact hv.1

end MultiCVRP
