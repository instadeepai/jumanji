/-
MultiCVRP, C08: the accumulators of the state against the recorded routes, and the return of whole episodes.

* `AccInv`: in exact arithmetic the accumulators of the state are the quantities recomputed from the recorded
  routes — `distances[v] = local_times[v] = pathLen (route v)`, `time_penalties[v] = routePenalty (route v)`,
  `positions[v]` = last node of `route v` — established by `reset`, preserved by every in-spec step taken while the
  history is recorded (`stepCount < 2·num_customers`), and implying `accumulated s = objective D s`.
* whole episodes: `finalState` / `retOf` (state after, and sum of the rewards along, a list of joint actions; `finalState`
  is `runState id` of Episode.lean, `finalState_eq_runState`), `Episode` (joint actions in the documented range `InSpec`,
  the last step and only the last step is LAST); the dense return (`dense_return`: change of the accumulated
  objective) and the sparse return (`sparse_return`: accumulated objective of the final state) of an episode that ends
  before the step limit.
-/
import JumanjiModel.Env.MultiCVRP.History
namespace MultiCVRP
open Jm

theorem pathLen_snoc (D : Dist) (r : List Nat) (q : Nat) (h : r ≠ []) :
    pathLen D (r ++ [q]) = pathLen D r + dist D (r.getD (r.length - 1) 0) q := by
  induction r with
  | nil => exact absurd rfl h
  | cons u vs ih =>
    cases vs with
    | nil => simp [pathLen, Rat.add_zero, Rat.zero_add]
    | cons v vs =>
      have := ih (by simp)
      simp only [List.cons_append, pathLen] at this ⊢
      rw [this, Rat.add_assoc]
      congr 2

theorem routePenalty_snoc (D : Dist) (s : State) (t : Rat) (r : List Nat) (q : Nat) (h : r ≠ []) :
    routePenalty D s t (r ++ [q]) =
      routePenalty D s t r +
        timePenalty id (t + pathLen D (r ++ [q])) (s.winStart.getD q 0) (s.winEnd.getD q 0)
          (s.coefEarly.getD q 0) (s.coefLate.getD q 0) := by
  induction r generalizing t with
  | nil => exact absurd rfl h
  | cons u vs ih =>
    cases vs with
    | nil => simp [pathLen, routePenalty, Rat.add_zero, Rat.zero_add]
    | cons v vs =>
      have := ih (t + dist D u v) (by simp)
      simp only [List.cons_append, pathLen, routePenalty] at this ⊢
      rw [this, Rat.add_assoc, Rat.add_assoc]

theorem routePenalty_congr (D : Dist) (s s' : State) (h1 : s'.winStart = s.winStart) (h2 : s'.winEnd = s.winEnd)
    (h3 : s'.coefEarly = s.coefEarly) (h4 : s'.coefLate = s.coefLate) (t : Rat) (r : List Nat) :
    routePenalty D s' t r = routePenalty D s t r := by
  induction r generalizing t with
  | nil => rfl
  | cons u vs ih =>
    cases vs with
    | nil => rfl
    | cons v vs =>
      simp only [routePenalty]
      rw [ih, h1, h2, h3, h4]

/-- exact arithmetic: the accumulators of the state are the quantities recomputed from the recorded routes -/
structure AccInv (c : Cfg) (D : Dist) (s : State) : Prop where
  nOrder : s.order.length = s.capacities.length
  nPos : s.positions.length = s.capacities.length
  nDist : s.distances.length = s.capacities.length
  nTimes : s.localTimes.length = s.capacities.length
  nPens : s.timePenalties.length = s.capacities.length
  rows : ∀ row ∈ s.order, row.length = 2 * c.numCustomers
  started : 1 ≤ s.stepCount
  recd : s.stepCount ≤ 2 * c.numCustomers
  wStart : s.winStart.length = s.demands.length
  wEnd : s.winEnd.length = s.demands.length
  cEarly : s.coefEarly.length = s.demands.length
  cLate : s.coefLate.length = s.demands.length
  pos : ∀ v, v < s.capacities.length →
    s.positions.getD v 0 = ((routes s).getD v []).getD (s.stepCount - 1) 0
  dist : ∀ v, v < s.capacities.length → s.distances.getD v 0 = pathLen D ((routes s).getD v [])
  times : ∀ v, v < s.capacities.length → s.localTimes.getD v 0 = pathLen D ((routes s).getD v [])
  pens : ∀ v, v < s.capacities.length →
    s.timePenalties.getD v 0 = routePenalty D s 0 ((routes s).getD v [])

theorem route_length {c : Cfg} {D : Dist} {s : State} (h : AccInv c D s) {v : Nat} (hv : v < s.capacities.length) :
    ((routes s).getD v []).length = s.stepCount := by
  unfold routes
  rw [Jx.getD_map _ _ [] (by rw [h.nOrder]; exact hv), List.length_take]
  have := h.rows _ (Jx.getD_mem (l := s.order) (i := v) [] (by rw [h.nOrder]; exact hv))
  have := h.recd
  omega

theorem accInv_distances {c : Cfg} {D : Dist} {s : State} (h : AccInv c D s) :
    s.distances = (routes s).map (pathLen D) := by
  apply Jx.ext_getD 0 (by rw [List.length_map, routes_length, h.nOrder, h.nDist])
  intro v hv
  rw [h.nDist] at hv
  rw [h.dist v hv, Jx.getD_map _ _ [] (by rw [routes_length, h.nOrder]; exact hv)]

theorem accInv_penalties {c : Cfg} {D : Dist} {s : State} (h : AccInv c D s) :
    s.timePenalties = (routes s).map (routePenalty D s 0) := by
  apply Jx.ext_getD 0 (by rw [List.length_map, routes_length, h.nOrder, h.nPens])
  intro v hv
  rw [h.nPens] at hv
  rw [h.pens v hv, Jx.getD_map _ _ [] (by rw [routes_length, h.nOrder]; exact hv)]

theorem accInv_times {c : Cfg} {D : Dist} {s : State} (h : AccInv c D s) :
    s.localTimes = (routes s).map (pathLen D) := by
  rw [← accInv_distances h]
  apply Jx.ext_getD 0 (by rw [h.nTimes, h.nDist])
  intro v hv
  rw [h.nTimes] at hv
  rw [h.times v hv, h.dist v hv]

theorem accInv_objective {c : Cfg} {D : Dist} {s : State} (h : AccInv c D s) :
    accumulated s = objective D s := by
  unfold accumulated objective
  rw [Jx.sum_map_add, ← accInv_distances h, ← accInv_penalties h]

theorem generate_accInv (c : Cfg) (D : Dist) (nV : Nat) (demandMax : Int) (windowLen : Rat) (d : Draw)
    (hn : 1 ≤ c.numCustomers) (hw : d.winStart.length = d.scaled.length)
    (he : d.coefEarly.length = d.scaled.length) (hl : d.coefLate.length = d.scaled.length) :
    AccInv c D (generate c nV demandMax windowLen d) := by
  have hr := generate_routes c nV demandMax windowLen d (by omega)
  have hcap : (generate c nV demandMax windowLen d).capacities = List.replicate nV c.maxCap := rfl
  have hdl := generate_demands_length c nV demandMax windowLen d
  refine
    { nOrder := by simp [generate], nPos := by simp [generate], nDist := by simp [generate],
      nTimes := by simp [generate], nPens := by simp [generate],
      rows := ?_, started := by show 1 ≤ 1; omega, recd := by show 1 ≤ _; omega,
      wStart := by rw [hdl]; exact hw,
      wEnd := by rw [hdl]; show (d.winStart.map _).length = _; simp [hw],
      cEarly := by rw [hdl]; show (Jx.setWD d.coefEarly (DEPOT : Int) 0).length = _; rw [Jx.setWD_length]; exact he,
      cLate := by rw [hdl]; show (Jx.setWD d.coefLate (DEPOT : Int) 0).length = _; rw [Jx.setWD_length]; exact hl,
      pos := ?_, dist := ?_, times := ?_, pens := ?_ }
  · intro row hrow
    have hrow' : row ∈ List.replicate nV (List.replicate (2 * c.numCustomers) 0) := hrow
    rw [List.eq_of_mem_replicate hrow']; simp
  -- every accumulator is `replicate nV 0`, and length and penalty of the route `[0]` are 0
  all_goals
    intro v hv
    rw [hcap, List.length_replicate] at hv
    rw [hr, Jx.getD_replicate [0] [] hv]
    exact Jx.getD_replicate _ _ hv

theorem generate_accumulated (c : Cfg) (nV : Nat) (demandMax : Int) (windowLen : Rat) (d : Draw) :
    accumulated (generate c nV demandMax windowLen d) = 0 := by
  show -((List.replicate nV (0 : Rat)).sum + (List.replicate nV (0 : Rat)).sum) = 0
  have : (List.replicate nV (0 : Rat)).sum = 0 := by
    induction nV with
    | zero => rfl
    | succ n ih => simp [List.replicate_succ, ih, Rat.add_zero]
  rw [this]; grind

theorem update_accInv (c : Cfg) (D : Dist) (s : State) (a : List Nat) (h : AccInv c D s)
    (hl : a.length = s.capacities.length) (hr : ∀ x ∈ a, x < s.demands.length)
    (hrec : s.stepCount < 2 * c.numCustomers) : AccInv c D (update id c D s a) := by
  have hq := nextNodes_ok s a hl hr
  have hnl := hq.length
  have hcl := update_capacities_length id c D s a hl
  have htl : (List.zipWith (fun p q => MultiCVRP.dist D p q) s.positions (nextNodes s a)).length =
      s.capacities.length := Jx.length_zipWith_of h.nPos hnl
  have hltl : (update id c D s a).localTimes.length = s.capacities.length := Jx.length_zipWith_of h.nTimes htl
  have hne : ∀ v, v < s.capacities.length → (routes s).getD v [] ≠ [] := fun v hv he => by
    have := route_length h hv
    rw [he] at this
    exact absurd this.symm (Nat.ne_of_gt h.started)
  -- per vehicle: the destination is appended to the route, and the leg driven is the last edge of the new route
  have key : ∀ v, v < s.capacities.length →
      (routes (update id c D s a)).getD v [] = (routes s).getD v [] ++ [(nextNodes s a).getD v 0] ∧
      (nextNodes s a).getD v 0 < s.demands.length ∧
      pathLen D ((routes s).getD v [] ++ [(nextNodes s a).getD v 0]) = pathLen D ((routes s).getD v []) +
        (List.zipWith (fun p q => MultiCVRP.dist D p q) s.positions (nextNodes s a)).getD v 0 := by
    intro v hv
    refine ⟨?_, ?_, ?_⟩
    · rw [routes_update id c D s a fun row hrow => by rw [h.rows row hrow]; exact hrec]
      exact Jx.getD_zipWith _ [] [] 0 (by rw [routes_length, h.nOrder]; exact hv) (by rw [hnl]; exact hv)
    · exact hq.lt _ (Jx.getD_mem 0 (by rw [hnl]; exact hv))
    · rw [pathLen_snoc D _ _ (hne v hv), route_length h hv, ← h.pos v hv,
        Jx.getD_zipWith _ 0 0 0 (by rw [h.nPos]; exact hv) (by rw [hnl]; exact hv)]
  have htimes : ∀ v, v < s.capacities.length → (update id c D s a).localTimes.getD v 0 =
      pathLen D ((routes s).getD v [] ++ [(nextNodes s a).getD v 0]) := by
    intro v hv
    rw [(key v hv).2.2, ← h.times v hv]
    exact Jx.getD_zipWith _ 0 0 0 (by rw [h.nTimes]; exact hv) (by rw [htl]; exact hv)
  refine
    { nOrder := by rw [hcl]; exact Jx.length_zipWith_of h.nOrder hnl, nPos := by rw [hcl]; exact hnl,
      nDist := by rw [hcl]; exact Jx.length_zipWith_of h.nDist htl, nTimes := by rw [hcl]; exact hltl,
      nPens := by rw [hcl]; exact Jx.length_zipWith_of h.nPens (Jx.length_zipWith_of hltl hnl),
      rows := update_order_rows id c D s a _ h.rows,
      started := by rw [update_stepCount]; omega, recd := by rw [update_stepCount]; omega,
      wStart := by rw [update_demands_length]; exact h.wStart,
      wEnd := by rw [update_demands_length]; exact h.wEnd,
      cEarly := by rw [update_demands_length]; exact h.cEarly,
      cLate := by rw [update_demands_length]; exact h.cLate,
      pos := ?_, dist := ?_, times := ?_, pens := ?_ }
  all_goals
    intro v hv
    rw [hcl] at hv
    obtain ⟨e, hq, hp⟩ := key v hv
    rw [e]
  · rw [update_positions, update_stepCount, Nat.add_sub_cancel, ← route_length h hv, snoc_getD_last]
  · rw [hp, ← h.dist v hv]
    exact Jx.getD_zipWith _ 0 0 0 (by rw [h.nDist]; exact hv) (by rw [htl]; exact hv)
  · exact htimes v hv
  · rw [routePenalty_congr D s (update id c D s a) rfl rfl rfl rfl, routePenalty_snoc D s 0 _ _ (hne v hv),
      Rat.zero_add, ← htimes v hv, ← h.pens v hv, ← Jx.getWC_nat s.winStart 0 (by rw [h.wStart]; exact hq),
      ← Jx.getWC_nat s.winEnd 0 (by rw [h.wEnd]; exact hq), ← Jx.getWC_nat s.coefEarly 0 (by rw [h.cEarly]; exact hq),
      ← Jx.getWC_nat s.coefLate 0 (by rw [h.cLate]; exact hq)]
    show (List.zipWith (fun p x => id (p + x)) s.timePenalties
      (List.zipWith _ (update id c D s a).localTimes (nextNodes s a))).getD v 0 = _
    rw [Jx.getD_zipWith _ 0 0 0 (by rw [h.nPens]; exact hv) (by rw [Jx.length_zipWith_of hltl hnl]; exact hv),
      Jx.getD_zipWith _ 0 0 0 (by rw [hltl]; exact hv) (by rw [hnl]; exact hv)]
    rfl

/-- the joint action has one entry per vehicle, each a node index (the documented action range) -/
def InSpec (s : State) (a : List Nat) : Prop := a.length = s.capacities.length ∧ ∀ x ∈ a, x < s.demands.length

instance (s : State) (a : List Nat) : Decidable (InSpec s a) := by unfold InSpec; infer_instance

/-- the state after playing the joint actions `as` from `s` (exact arithmetic) -/
def finalState (c : Cfg) (D : Dist) : State → List (List Nat) → State
  | s, [] => s
  | s, a :: as => finalState c D (step id c D s a).1 as

/-- the return: sum of all rewards along `as` (exact arithmetic) -/
def retOf (c : Cfg) (D : Dist) : State → List (List Nat) → Rat
  | _, [] => 0
  | s, a :: as => (step id c D s a).2.reward.sum + retOf c D (step id c D s a).1 as

/-- `as` is a complete episode from `s`: at least one step, every joint action is in-spec, the last step is
LAST and no earlier one is -/
def Episode (c : Cfg) (D : Dist) : State → List (List Nat) → Prop
  | _, [] => False
  | s, a :: as =>
    InSpec s a ∧
    ((as = [] ∧ (step id c D s a).2.stepType = .last) ∨
     (as ≠ [] ∧ (step id c D s a).2.stepType ≠ .last ∧ Episode c D (step id c D s a).1 as))

instance decEpisode (c : Cfg) (D : Dist) : (s : State) → (as : List (List Nat)) → Decidable (Episode c D s as)
  | _, [] => isFalse (fun h => h)
  | s, a :: as =>
    have := decEpisode c D (step id c D s a).1 as
    by unfold Episode; infer_instance

theorem step_state_dense (c : Cfg) (b : Bool) (D : Dist) (s : State) (a : List Nat) :
    (step id { c with dense := b } D s a).1 = (step id c D s a).1 := rfl

theorem step_type_dense (c : Cfg) (b : Bool) (D : Dist) (s : State) (a : List Nat) :
    (step id { c with dense := b } D s a).2.stepType = (step id c D s a).2.stepType := by
  rw [step_stepType, step_stepType]; rfl

theorem finalState_dense (c : Cfg) (b : Bool) (D : Dist) (s : State) (as : List (List Nat)) :
    finalState { c with dense := b } D s as = finalState c D s as := by
  induction as generalizing s with
  | nil => rfl
  | cons a as ih => simp only [finalState]; rw [step_state_dense, ih]

theorem episode_dense (c : Cfg) (b : Bool) (D : Dist) (s : State) (as : List (List Nat)) :
    Episode { c with dense := b } D s as ↔ Episode c D s as := by
  induction as generalizing s with
  | nil => simp [Episode]
  | cons a as ih => simp only [Episode]; rw [step_type_dense, step_state_dense, ih]

theorem finalState_stepCount (c : Cfg) (D : Dist) (s : State) (as : List (List Nat)) :
    (finalState c D s as).stepCount = s.stepCount + as.length := by
  induction as generalizing s with
  | nil => rfl
  | cons a as ih =>
    simp only [finalState, List.length_cons]
    rw [ih, step_state, update_stepCount]; omega

theorem finalState_coords (c : Cfg) (D : Dist) (s : State) (as : List (List Nat)) :
    (finalState c D s as).coords = s.coords ∧ (finalState c D s as).demands.length = s.demands.length := by
  induction as generalizing s with
  | nil => exact ⟨rfl, rfl⟩
  | cons a as ih =>
    simp only [finalState]
    obtain ⟨h1, h2⟩ := ih (step id c D s a).1
    exact ⟨h1, by rw [h2, step_state, update_demands_length]⟩

theorem dense_return (c : Cfg) (D : Dist) (s : State) (as : List (List Nat)) (hd : c.dense = true)
    (hlim : s.stepCount + as.length ≤ 2 * c.numCustomers) :
    retOf c D s as = accumulated (finalState c D s as) - accumulated s := by
  induction as generalizing s with
  | nil => simp only [retOf, finalState]; grind
  | cons a as ih =>
    simp only [List.length_cons] at hlim
    simp only [retOf, finalState]
    have ht : timedOut c (step id c D s a).1 = false := (timedOut_step ..).trans (decide_eq_false (by omega))
    rw [dense_telescopes c D s a hd ht, ih _ (by rw [step_state, update_stepCount]; omega)]
    simp only [List.sum_cons, List.sum_nil]
    grind

theorem sparse_return (c : Cfg) (D : Dist) (s : State) (as : List (List Nat)) (hd : c.dense = false)
    (he : Episode c D s as) (hlim : s.stepCount + as.length ≤ 2 * c.numCustomers) :
    retOf c D s as = accumulated (finalState c D s as) := by
  induction as generalizing s with
  | nil => exact absurd he (by simp [Episode])
  | cons a as ih =>
    simp only [Episode] at he
    simp only [List.length_cons] at hlim
    simp only [retOf, finalState]
    rw [sparse_reward c D s a hd]
    rcases he.2 with ⟨rfl, hlast⟩ | ⟨_, hnl, he'⟩
    · have ht : timedOut c (step id c D s a).1 = false := (timedOut_step ..).trans (decide_eq_false (by omega))
      rw [if_pos hlast, ht]
      simp [retOf, finalState, Rat.add_zero]
    · rw [if_neg hnl, ih _ he' (by rw [step_state, update_stepCount]; omega)]
      simp [Rat.zero_add]

end MultiCVRP
