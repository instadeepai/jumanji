/-
MultiCVRP: the generator from the RAW random numbers (`RawDraw`, `uniformMap`, `scaleDemands`,
`drawOfRaw`, `generateRaw` of Model.lean).  The ranges that `validDraw` / `validDrawB` ASSUME of the random arrays
are proved here from `validRaw` (unit uniforms `0 ≤ u < 1`, `randint` values `0 ≤ x < customer_demand_max`), in exact
arithmetic (`drawOfRaw_validDrawB`); for a uniform draw with `minval = 0` or `minval = maxval` also under a monotone
rounding that fixes 0 and `maxval` (`RndMono`).  In
exact arithmetic every scaled demand lies in `[0, total_capacity]`, so the int16 conversion never wraps when
`total_capacity ≤ 32767`, and Σ scaled demands ≤ `total_capacity = max_capacity · num_vehicles` (`scaleDemands_id_sum`).
-/
import JumanjiModel.Env.MultiCVRP.Bounds
import JumanjiModel.Prim.FloatLemmas
namespace MultiCVRP
open Jm

/-- by the final `lax.max(minval, ·)` -/
theorem uniformMap_ge (rnd : Rat → Rat) (lo hi u : Rat) : lo ≤ uniformMap rnd lo hi u := by
  unfold uniformMap
  simp only []
  split
  · assumption
  · exact Rat.le_refl

theorem uniformMap_id_eq (lo hi u : Rat) (h : lo ≤ hi) (h0 : 0 ≤ u) :
    uniformMap id lo hi u = u * (hi - lo) + lo := by
  unfold uniformMap
  simp only [id]
  have : 0 ≤ u * (hi - lo) := Rat.mul_nonneg h0 (by grind)
  rw [if_pos (by grind)]

theorem uniformMap_id_range (lo hi u : Rat) (h : lo ≤ hi) (h0 : 0 ≤ u) (h1 : u < 1) :
    lo ≤ uniformMap id lo hi u ∧ uniformMap id lo hi u ≤ hi ∧ (lo < hi → uniformMap id lo hi u < hi) := by
  refine ⟨uniformMap_ge id lo hi u, ?_, ?_⟩
  · rw [uniformMap_id_eq lo hi u h h0]
    have : u * (hi - lo) ≤ 1 * (hi - lo) := Rat.mul_le_mul_of_nonneg_right (Rat.le_of_lt h1) (by grind)
    grind
  · intro hlt
    rw [uniformMap_id_eq lo hi u h h0]
    have : u * (hi - lo) < 1 * (hi - lo) := Rat.mul_lt_mul_of_pos_right h1 (by grind)
    grind

/-- a rounding function that is monotone and fixes 0 (true of `Jx.roundF32`) -/
structure RndMono (rnd : Rat → Rat) : Prop where
  mono : ∀ x y, x ≤ y → rnd x ≤ rnd y
  zero : rnd 0 = 0

theorem rndMono_id : RndMono id := ⟨fun _ _ h => h, rfl⟩

theorem rndMono_roundF32 : RndMono Jx.roundF32 := ⟨fun _ _ h => Jx.roundF32_mono h, Jx.roundF32_zero⟩

/-- `minval = 0`: coordinates, window starts, the coefficients of every shipped scenario but one -/
theorem uniformMap_rnd_le (rnd : Rat → Rat) (hr : RndMono rnd) (hi u : Rat) (hhi : rnd hi = hi) (h0 : 0 ≤ hi)
    (hu1 : u < 1) : 0 ≤ uniformMap rnd 0 hi u ∧ uniformMap rnd 0 hi u ≤ hi := by
  refine ⟨uniformMap_ge rnd 0 hi u, ?_⟩
  unfold uniformMap
  have e0 : hi - 0 = hi := by grind
  simp only [e0, Rat.add_zero, hhi]
  have h1 : u * hi ≤ hi := by
    have : u * hi ≤ 1 * hi := Rat.mul_le_mul_of_nonneg_right (Rat.le_of_lt hu1) h0
    grind
  have h2 : rnd (u * hi) ≤ hi := by have := hr.mono _ _ h1; rwa [hhi] at this
  have h3 : rnd (rnd (u * hi)) ≤ hi := by have := hr.mono _ _ h2; rwa [hhi] at this
  split
  · exact h3
  · exact h0

/-- `minval = maxval`: the 150-customer scenario's coefficients -/
theorem uniformMap_const (rnd : Rat → Rat) (lo u : Rat) (h0 : rnd 0 = 0) (hl : rnd lo = lo) :
    uniformMap rnd lo lo u = lo := by
  unfold uniformMap
  simp only [Rat.sub_self, h0, Rat.mul_zero, Rat.zero_add, hl]
  rw [if_pos Rat.le_refl]

theorem toInt16_range (q : Rat) (t : Int) (h0 : 0 ≤ q) (h1 : q ≤ (t : Rat)) (ht : t ≤ 32767) :
    0 ≤ wrap16 (truncInt q) ∧ wrap16 (truncInt q) ≤ t ∧ ((wrap16 (truncInt q) : Int) : Rat) ≤ q := by
  have hf := Rat.floor_le q
  have hlo : 0 ≤ q.floor := by rw [Rat.le_floor_iff]; simpa using h0
  have hhi : q.floor ≤ t := Rat.intCast_le_intCast.1 (Rat.le_trans hf h1)
  have e : wrap16 (truncInt q) = q.floor := by
    unfold truncInt wrap16; rw [if_pos h0]; omega
  rw [e]
  exact ⟨hlo, hhi, hf⟩

theorem scaled_q_range (total S x : Int) (ht : 0 ≤ total) (hx0 : 0 ≤ x) (hxS : x ≤ S) :
    0 ≤ (x : Rat) * ((total : Rat) / (S : Rat)) ∧ (x : Rat) * ((total : Rat) / (S : Rat)) ≤ (total : Rat) := by
  have hx0' : (0 : Rat) ≤ (x : Rat) := by exact_mod_cast Rat.intCast_le_intCast.2 hx0
  have ht' : (0 : Rat) ≤ (total : Rat) := by exact_mod_cast Rat.intCast_le_intCast.2 ht
  have hxS' : (x : Rat) ≤ (S : Rat) := Rat.intCast_le_intCast.2 hxS
  by_cases hS : S = 0
  · subst hS
    have ez : (total : Rat) / ((0 : Int) : Rat) = 0 := by
      rw [Rat.div_def]; simp
    rw [ez, Rat.mul_zero]
    exact ⟨Rat.le_refl, ht'⟩
  · have hSpos : (0 : Rat) < (S : Rat) := by
      have : 0 < S := by omega
      exact_mod_cast Rat.intCast_lt_intCast.2 this
    have e : (x : Rat) * ((total : Rat) / (S : Rat)) = ((x : Rat) * (total : Rat)) / (S : Rat) := by
      rw [Rat.div_def, Rat.div_def, Rat.mul_assoc]
    rw [e]
    constructor
    · rw [Jx.rat_le_div_iff hSpos, Rat.zero_mul]
      exact Rat.mul_nonneg hx0' ht'
    · rw [Jx.rat_div_le_iff hSpos]
      have := Rat.mul_le_mul_of_nonneg_left hxS' ht'
      rw [Rat.mul_comm]; exact this

theorem setWD_depot_nonneg (raw : List Int) (h : ∀ x ∈ raw, 0 ≤ x) :
    ∀ x ∈ Jx.setWD raw (DEPOT : Int) 0, 0 ≤ x :=
  Jx.forall_mem_setWD _ h (Int.le_refl 0)

theorem scaleDemands_length (rnd : Rat → Rat) (total : Int) (raw : List Int) :
    (scaleDemands rnd total raw).length = raw.length := by
  unfold scaleDemands; simp only [List.length_map, Jx.setWD_length]

theorem scaleDemands_id_range (total : Int) (raw : List Int) (ht0 : 0 ≤ total) (ht : total ≤ 32767)
    (hraw : ∀ x ∈ raw, 0 ≤ x) : ∀ y ∈ scaleDemands id total raw, 0 ≤ y ∧ y ≤ total := by
  intro y hy
  unfold scaleDemands at hy
  simp only [id] at hy
  obtain ⟨x, hx, rfl⟩ := List.mem_map.1 hy
  have hds := setWD_depot_nonneg raw hraw
  have hq := scaled_q_range total _ x ht0 (hds x hx) (Jx.mem_le_sum hds hx)
  have := toInt16_range _ total hq.1 hq.2 ht
  exact ⟨this.1, this.2.1⟩

theorem truncInt_zero : truncInt 0 = 0 := by decide +kernel

theorem setWD_depot_getD (raw : List Int) (hl : 0 < raw.length) :
    (Jx.setWD raw (DEPOT : Int) 0).getD DEPOT 1 = 0 := by
  unfold DEPOT
  rw [Jx.setWD_natCast _ 0]
  simp [List.getD_eq_getElem?_getD, hl]

theorem scaleDemands_depot (rnd : Rat → Rat) (h0 : rnd 0 = 0) (total : Int) (raw : List Int)
    (hl : 0 < raw.length) : (scaleDemands rnd total raw).getD DEPOT 1 = 0 := by
  have hl' : DEPOT < (Jx.setWD raw (DEPOT : Int) 0).length := by rw [Jx.setWD_length]; exact hl
  have h := setWD_depot_getD raw hl
  rw [Jx.getD_eq_getElem _ hl'] at h
  unfold scaleDemands
  rw [Jx.getD_eq_getElem _ (by rw [List.length_map]; exact hl'), List.getElem_map, h]
  simp only [Rat.intCast_zero, Rat.zero_mul, h0, truncInt_zero]
  decide

/-- the limits `Lim` of Bounds.lean read off the generator's parameters -/
def genLim (g : GenCfg) (dmax : Rat) : Lim :=
  { mapMax := g.mapMax, demandMax := g.demandMax, maxStart := g.maxStart, windowLen := g.windowLen,
    coefEarlyMax := g.earlyHi, coefLateMax := g.lateHi, dmax := dmax }

/-- sanity of the generator's parameters: non-negative ranges and a fleet capacity that fits int16 -/
def GenOK (c : Cfg) (nV : Nat) (g : GenCfg) : Prop :=
  0 ≤ c.maxCap ∧ c.maxCap * (nV : Int) ≤ 32767 ∧ 0 ≤ g.demandMax ∧ 0 ≤ g.mapMax ∧ 0 ≤ g.maxStart ∧
  0 ≤ g.earlyLo ∧ g.earlyLo ≤ g.earlyHi ∧ 0 ≤ g.lateLo ∧ g.lateLo ≤ g.lateHi

instance (c : Cfg) (nV : Nat) (g : GenCfg) : Decidable (GenOK c nV g) := by unfold GenOK; infer_instance

theorem map_uniform_range (lo hi : Rat) (h : lo ≤ hi) (us : List Rat) (hu : ∀ u ∈ us, 0 ≤ u ∧ u < 1) :
    ∀ x ∈ us.map (uniformMap id lo hi), lo ≤ x ∧ x ≤ hi := by
  intro x hx
  obtain ⟨u, hum, rfl⟩ := List.mem_map.1 hx
  have := uniformMap_id_range lo hi u h (hu u hum).1 (hu u hum).2
  exact ⟨this.1, this.2.1⟩

theorem drawOfRaw_validDrawB (c : Cfg) (nV : Nat) (g : GenCfg) (r : RawDraw) (dmax : Rat) (hg : GenOK c nV g)
    (hdm : 0 ≤ dmax) (hr : validRaw c g r) : validDrawB c (genLim g dmax) (drawOfRaw id c nV g r) := by
  obtain ⟨g1, g2, g3, g4, g5, g6, g7, g8, g9⟩ := hg
  obtain ⟨r1, r2, r3, r4, r5, r6, r7, r8, r9, r10⟩ := hr
  have htot : 0 ≤ c.maxCap * (nV : Int) := Int.mul_nonneg g1 (by omega)
  refine ⟨⟨?_, ?_, ?_, ?_, ?_⟩, ⟨g1, g3, Rat.le_trans g6 g7, Rat.le_trans g8 g9, hdm⟩, ?_, ?_, ?_⟩
  · show (r.uCoords.map _).length = _
    rw [List.length_map]; exact r1
  · show (scaleDemands id _ r.rawDemands).length = _
    rw [scaleDemands_length]; exact r2
  · intro p hp
    have hp' : p ∈ r.uCoords.map (fun p => p.map (uniformMap id 0 g.mapMax)) := hp
    obtain ⟨q, hq, rfl⟩ := List.mem_map.1 hp'
    refine ⟨by rw [List.length_map]; exact (r6 q hq).1, ?_⟩
    exact map_uniform_range 0 g.mapMax g4 q (r6 q hq).2
  · intro x hx
    exact (scaleDemands_id_range _ r.rawDemands htot g2 (fun y hy => (r7 y hy).1) x hx).1
  · exact scaleDemands_depot id rfl _ r.rawDemands (by omega)
  · exact map_uniform_range 0 g.maxStart g5 r.uWin r8
  · intro x hx
    have := map_uniform_range g.earlyLo g.earlyHi g7 r.uEarly r9 x hx
    exact ⟨Rat.le_trans g6 this.1, this.2⟩
  · intro x hx
    have := map_uniform_range g.lateLo g.lateHi g9 r.uLate r10 x hx
    exact ⟨Rat.le_trans g8 this.1, this.2⟩

theorem generateRaw_id (c : Cfg) (nV : Nat) (g : GenCfg) (r : RawDraw) :
    generateRaw id c nV g r = generate c nV g.demandMax g.windowLen (drawOfRaw id c nV g r) := rfl

theorem generateRaw_coords_lt (c : Cfg) (nV : Nat) (g : GenCfg) (r : RawDraw) (hm : 0 < g.mapMax)
    (hr : validRaw c g r) : ∀ p ∈ (generateRaw id c nV g r).coords, ∀ x ∈ p, 0 ≤ x ∧ x < g.mapMax := by
  intro p hp x hx
  have hp' : p ∈ r.uCoords.map (fun p => p.map (uniformMap id 0 g.mapMax)) := hp
  obtain ⟨q, hq, rfl⟩ := List.mem_map.1 hp'
  obtain ⟨u, hu, rfl⟩ := List.mem_map.1 hx
  have hur := (hr.2.2.2.2.2.1 q hq).2 u hu
  have := uniformMap_id_range 0 g.mapMax u (Rat.le_of_lt hm) hur.1 hur.2
  exact ⟨this.1, this.2.2 hm⟩

theorem generateRaw_coordsInBox_rnd (rnd : Rat → Rat) (hrn : RndMono rnd) (c : Cfg) (nV : Nat) (g : GenCfg)
    (r : RawDraw) (hm : 0 ≤ g.mapMax) (hfix : rnd g.mapMax = g.mapMax) (hr : validRaw c g r) :
    coordsInBox g.mapMax (generateRaw rnd c nV g r) := by
  intro p hp
  have hp' : p ∈ r.uCoords.map (fun p => p.map (uniformMap rnd 0 g.mapMax)) := hp
  obtain ⟨q, hq, rfl⟩ := List.mem_map.1 hp'
  refine ⟨by rw [List.length_map]; exact (hr.2.2.2.2.2.1 q hq).1, ?_⟩
  intro x hx
  obtain ⟨u, hu, rfl⟩ := List.mem_map.1 hx
  have hur := (hr.2.2.2.2.2.1 q hq).2 u hu
  exact uniformMap_rnd_le rnd hrn g.mapMax u hfix hm hur.2

theorem cast_sum_le (l : List Int) (g : Int → Int) (h : Int → Rat) (hle : ∀ x ∈ l, ((g x : Int) : Rat) ≤ h x) :
    (((l.map g).sum : Int) : Rat) ≤ (l.map h).sum := by
  induction l with
  | nil => simp
  | cons x xs ih =>
    simp only [List.map_cons, List.sum_cons, Rat.intCast_add]
    have h1 := hle x List.mem_cons_self
    have h2 := ih (fun y hy => hle y (List.mem_cons_of_mem _ hy))
    grind

theorem sum_map_mul_const (l : List Int) (f : Rat) :
    (l.map (fun (x : Int) => (x : Rat) * f)).sum = ((l.sum : Int) : Rat) * f := by
  induction l with
  | nil => simp [Rat.zero_mul]
  | cons x xs ih => simp only [List.map_cons, List.sum_cons, Rat.intCast_add, ih]; grind

/-- the purpose the source gives for the scaling: "to ensure a feasible solution" (utils.py) -/
theorem scaleDemands_id_sum (total : Int) (raw : List Int) (ht0 : 0 ≤ total) (ht : total ≤ 32767)
    (hraw : ∀ x ∈ raw, 0 ≤ x) : (scaleDemands id total raw).sum ≤ total := by
  have hds := setWD_depot_nonneg raw hraw
  apply Rat.intCast_le_intCast.1
  unfold scaleDemands
  simp only [id]
  refine Rat.le_trans (cast_sum_le _ _ (fun (x : Int) => (x : Rat) * ((total : Rat) / (((Jx.setWD raw (DEPOT : Int) 0).sum : Int) : Rat))) ?_) ?_
  · intro x hx
    have hq := scaled_q_range total _ x ht0 (hds x hx) (Jx.mem_le_sum hds hx)
    exact (toInt16_range _ total hq.1 hq.2 ht).2.2
  · rw [sum_map_mul_const]
    exact (scaled_q_range total _ _ ht0 (Jx.sum_nonneg hds) (Int.le_refl _)).2

end MultiCVRP
