/-
MultiCVRP: proved value bounds of the observation (property C01).

`obsBounds c L` = the interval in which every numeric leaf of the model's observation provably stays
(keys = the leaf paths of `MultiCVRP.observation_spec`), as a function of the configuration only:
`c : Cfg` (number of customers, vehicle capacity) and `L : Lim` (the generator's ranges and `dmax`, an
upper bound on one travel distance).  `obsLeaves` = the observation flattened to those leaves.

`validDrawB` strengthens `validDraw` by the ranges of the remaining random arrays of
`generate_uniform_random_problem` (window starts, penalty coefficients) and by the sanity of the
configuration (`LimOK`).

The invariant is `BInv = SInv ∧ TInv`:
* `SInv` (problem data in their ranges, every capacity in `[0, maxCap]`) is established by `reset` and
  preserved by `step` for EVERY rounding function, every joint action (any list of naturals of any
  length, in range or not) — it gives all leaves but `vehicles.local_times`;
* `TInv` (every local time `l` satisfies `0 ≤ l` and `l + dmax ≤ stepCount · dmax`, i.e.
  `l ≤ (stepCount − 1) · dmax`) is preserved by `step` when every entry of the distance matrix lies in
  `[0, dmax]` and the rounding is monotone and fixes 0 and `stepCount · dmax` (`step_tInv`; `RndOK`,
  its exact-arithmetic instance `rndOK_id` and the float32 one are in BoundsF32Lemmas.lean); with
  `stepCount ≤ 2 · numCustomers + 1` (the step was taken from a state that had not timed out) it gives
  `local_times ≤ 2 · numCustomers · dmax`.
-/
import JumanjiModel.Env.MultiCVRP.Lemmas
import JumanjiModel.Core.ObsBoundsCO
namespace MultiCVRP
open Jm Jm.OB

/-- the generator's ranges (`_map_max`, `_customer_demand_max`, `_max_start_window`,
`_time_window_length`, `_early_coef_rand[1]`, `_late_coef_rand[1]`) and `dmax`, an upper bound on the
distance between two nodes -/
structure Lim where
  mapMax : Rat
  demandMax : Int
  maxStart : Rat
  windowLen : Rat
  coefEarlyMax : Rat
  coefLateMax : Rat
  dmax : Rat
  deriving Repr

/-- all leaves but `vehicles.local_times` (these hold for every rounding function) -/
def obsBoundsS (c : Cfg) (L : Lim) : Table :=
  [("nodes.coordinates", some 0, some L.mapMax),
   ("nodes.demands", some 0, some (L.demandMax : Rat)),
   ("windows.start", some 0, some L.maxStart),
   ("windows.end", some L.windowLen, some (L.maxStart + L.windowLen)),
   ("coeffs.early", some 0, some L.coefEarlyMax),
   ("coeffs.late", some 0, some L.coefLateMax),
   ("vehicles.coordinates", some 0, some L.mapMax),
   ("vehicles.capacities", some 0, some (c.maxCap : Rat)),
   ("action_mask", some 0, some 1)]

/-- proved intervals of all ten leaves -/
def obsBounds (c : Cfg) (L : Lim) : Table :=
  ("vehicles.local_times", some 0, some (2 * (c.numCustomers : Rat) * L.dmax)) :: obsBoundsS c L

def obsLeaves (o : Obs) : Leaves :=
  [("nodes.coordinates", o.coords.flatten),
   ("nodes.demands", o.demands.map (fun (x : Int) => (x : Rat))),
   ("windows.start", o.winStart),
   ("windows.end", o.winEnd),
   ("coeffs.early", o.coefEarly),
   ("coeffs.late", o.coefLate),
   ("vehicles.coordinates", o.vehCoords.flatten),
   ("vehicles.local_times", o.localTimes),
   ("vehicles.capacities", o.capacities.map (fun (x : Int) => (x : Rat))),
   ("action_mask", o.mask.flatten.map b2r)]

/-- sanity of the configuration -/
def LimOK (c : Cfg) (L : Lim) : Prop :=
  0 ≤ c.maxCap ∧ 0 ≤ L.demandMax ∧ 0 ≤ L.coefEarlyMax ∧ 0 ≤ L.coefLateMax ∧ 0 ≤ L.dmax

instance (c : Cfg) (L : Lim) : Decidable (LimOK c L) := by unfold LimOK; infer_instance

/-- what `generate_uniform_random_problem` can draw: `validDraw` (coordinates in the box, scaled
demands non-negative) and window starts in `[0, maxStart]`
(`uniform(minval=0, maxval=max_start_window)`), early / late coefficients in `[0, coefEarlyMax]` /
`[0, coefLateMax]` (`uniform(minval=coef_rand[0], maxval=coef_rand[1])` with `0 ≤ coef_rand[0]`) -/
def validDrawB (c : Cfg) (L : Lim) (d : Draw) : Prop :=
  validDraw c L.mapMax d ∧ LimOK c L ∧
  (∀ x ∈ d.winStart, 0 ≤ x ∧ x ≤ L.maxStart) ∧
  (∀ x ∈ d.coefEarly, 0 ≤ x ∧ x ≤ L.coefEarlyMax) ∧
  (∀ x ∈ d.coefLate, 0 ≤ x ∧ x ≤ L.coefLateMax)

instance (c : Cfg) (L : Lim) (d : Draw) : Decidable (validDrawB c L d) := by
  unfold validDrawB; infer_instance

/-- problem data in their ranges, capacities in `[0, maxCap]` -/
def SInv (c : Cfg) (L : Lim) (s : State) : Prop :=
  LimOK c L ∧
  (∀ p ∈ s.coords, ∀ x ∈ p, 0 ≤ x ∧ x ≤ L.mapMax) ∧
  (∀ x ∈ s.demands, 0 ≤ x ∧ x ≤ L.demandMax) ∧
  (∀ x ∈ s.winStart, 0 ≤ x ∧ x ≤ L.maxStart) ∧
  (∀ x ∈ s.winEnd, L.windowLen ≤ x ∧ x ≤ L.maxStart + L.windowLen) ∧
  (∀ x ∈ s.coefEarly, 0 ≤ x ∧ x ≤ L.coefEarlyMax) ∧
  (∀ x ∈ s.coefLate, 0 ≤ x ∧ x ≤ L.coefLateMax) ∧
  (∀ x ∈ s.capacities, 0 ≤ x ∧ x ≤ c.maxCap)

instance (c : Cfg) (L : Lim) (s : State) : Decidable (SInv c L s) := by unfold SInv; infer_instance

/-- every local time is at most `(stepCount − 1) · dmax` -/
def TInv (L : Lim) (s : State) : Prop :=
  ∀ l ∈ s.localTimes, 0 ≤ l ∧ l + L.dmax ≤ (s.stepCount : Rat) * L.dmax

instance (L : Lim) (s : State) : Decidable (TInv L s) := by unfold TInv; infer_instance

def BInv (c : Cfg) (L : Lim) (s : State) : Prop := SInv c L s ∧ TInv L s

instance (c : Cfg) (L : Lim) (s : State) : Decidable (BInv c L s) := by unfold BInv; infer_instance

def DistOK (L : Lim) (D : Dist) : Prop := ∀ row ∈ D, ∀ x ∈ row, 0 ≤ x ∧ x ≤ L.dmax

instance (L : Lim) (D : Dist) : Decidable (DistOK L D) := by unfold DistOK; infer_instance

theorem foldl_setWD_forall (P : Int → Prop) (qs : List Nat) (d : List Int) (h : ∀ x ∈ d, P x) (h0 : P 0) :
    ∀ x ∈ qs.foldl (fun d (q : Nat) => Jx.setWD d (q : Int) 0) d, P x := by
  induction qs generalizing d with
  | nil => exact h
  | cons q qs ih => simp only [List.foldl_cons]; exact ih _ (Jx.forall_mem_setWD _ h h0)

theorem shift_range (y m w : Rat) (h0 : 0 ≤ y) (h1 : y ≤ m) : w ≤ y + w ∧ y + w ≤ m + w := by
  constructor <;> grind

theorem le_add_of_nonneg (x a b : Rat) (h : x ≤ a) (hb : 0 ≤ b) : x ≤ a + b := by grind

theorem leg_bounds (l t n d : Rat) (hl0 : 0 ≤ l) (hl : l + d ≤ n * d) (ht0 : 0 ≤ t) (ht : t ≤ d) :
    0 ≤ l + t ∧ l + t ≤ n * d := by
  constructor <;> grind

theorem succ_mul_bound (x n d : Rat) (h : x ≤ n * d) : x + d ≤ (n + 1) * d := by grind

theorem reset_sInv (c : Cfg) (L : Lim) (nV : Nat) (d : Draw) (h : validDrawB c L d) :
    SInv c L (reset c nV L.demandMax L.windowLen d).1 := by
  obtain ⟨⟨_, _, hc, hs, _⟩, hok, hw, he, hl⟩ := h
  have hok' := hok
  obtain ⟨k1, k2, k3, k4, _⟩ := hok
  refine ⟨hok', ?_, ?_, hw, ?_, ?_, ?_, ?_⟩
  · exact fun p hp x hx => (hc p hp).2 x hx
  · exact generate_demands_range c nV _ _ d k2 hs
  · intro x hx
    simp only [reset, generate] at hx
    obtain ⟨y, hy, rfl⟩ := List.mem_map.mp hx
    exact shift_range y _ _ (hw y hy).1 (hw y hy).2
  · exact Jx.forall_mem_setWD ((DEPOT : Nat) : Int) he ⟨Rat.le_refl, k3⟩
  · exact Jx.forall_mem_setWD ((DEPOT : Nat) : Int) hl ⟨Rat.le_refl, k4⟩
  · intro x hx
    simp only [reset, generate] at hx
    rw [List.eq_of_mem_replicate hx]
    omega

theorem reset_tInv (c : Cfg) (L : Lim) (nV : Nat) (d : Draw) :
    TInv L (reset c nV L.demandMax L.windowLen d).1 := by
  intro l hl
  simp only [reset, generate] at hl
  rw [List.eq_of_mem_replicate hl]
  simp only [reset, generate]
  constructor <;> grind

theorem reset_bInv (c : Cfg) (L : Lim) (nV : Nat) (d : Draw) (h : validDrawB c L d) :
    BInv c L (reset c nV L.demandMax L.windowLen d).1 :=
  ⟨reset_sInv c L nV d h, reset_tInv c L nV d⟩

theorem step_sInv (rnd : Rat → Rat) (c : Cfg) (L : Lim) (D : Dist) (s : State) (a : List Nat)
    (h : SInv c L s) : SInv c L (step rnd c D s a).1 := by
  rw [step_state]
  obtain ⟨hok, h1, h2, h3, h4, h5, h6, h7⟩ := h
  exact ⟨hok, h1, foldl_setWD_forall _ _ _ h2 ⟨Int.le_refl 0, hok.2.1⟩, h3, h4, h5, h6,
    update_capacities_range rnd c D s a h7⟩

theorem dist_bounds (L : Lim) (D : Dist) (p q : Nat) (h0 : 0 ≤ L.dmax) (hD : DistOK L D) :
    0 ≤ dist D p q ∧ dist D p q ≤ L.dmax :=
  Jx.Grid.getWC_of_all (P := fun x => 0 ≤ x ∧ x ≤ L.dmax) (g := D) (p : Int) (q : Int) hD ⟨Rat.le_refl, h0⟩

/-- the local-times invariant needs three things of the rounding: monotone, fixes 0, fixes `stepCount · dmax`
(the bound the new local time is compared with) -/
theorem step_tInv (rnd : Rat → Rat) (c : Cfg) (L : Lim) (D : Dist) (s : State) (a : List Nat)
    (hm : ∀ x y, x ≤ y → rnd x ≤ rnd y) (hz : rnd 0 = 0)
    (hf : rnd ((s.stepCount : Rat) * L.dmax) = (s.stepCount : Rat) * L.dmax) (h0 : 0 ≤ L.dmax)
    (hD : DistOK L D) (h : TInv L s) : TInv L (step rnd c D s a).1 := by
  rw [step_state]
  unfold TInv
  rw [update_stepCount]
  show ∀ l ∈ List.zipWith (fun l t => rnd (l + t)) s.localTimes
      (List.zipWith (fun p q => dist D p q) s.positions (nextNodes s a)), _
  intro x hx
  obtain ⟨l, hl, t, ht, rfl⟩ := Jx.mem_zipWith hx
  have ht' : 0 ≤ t ∧ t ≤ L.dmax := by
    obtain ⟨p, _, q, _, rfl⟩ := Jx.mem_zipWith ht
    exact dist_bounds L D p q h0 hD
  have hl' := h l hl
  have e : ((s.stepCount + 1 : Nat) : Rat) = (s.stepCount : Rat) + 1 := by simp
  rw [e]
  have hb := leg_bounds l t _ _ hl'.1 hl'.2 ht'.1 ht'.2
  have a1 : rnd 0 ≤ rnd (l + t) := hm _ _ hb.1
  have a2 : rnd (l + t) ≤ rnd ((s.stepCount : Rat) * L.dmax) := hm _ _ hb.2
  rw [hz] at a1
  rw [hf] at a2
  exact ⟨a1, succ_mul_bound _ _ _ a2⟩

theorem observe_in_boundsS (c : Cfg) (L : Lim) (s : State) (h : SInv c L s) :
    InBounds (obsBoundsS c L) (obsLeaves (stateToObs s)) := by
  obtain ⟨_, h1, h2, h3, h4, h5, h6, h7⟩ := h
  refine inBounds_cons rfl ?_ <| inBounds_cons rfl ?_ <|
    inBounds_cons rfl ?_ <| inBounds_cons rfl ?_ <|
    inBounds_cons rfl ?_ <| inBounds_cons rfl ?_ <|
    inBounds_cons rfl ?_ <| inBounds_cons rfl ?_ <|
    inBounds_cons rfl (bools_in01 _) <| inBounds_nil _
  · exact Jx.forall_mem_flatten (fun p hp x hx => h1 p hp x hx)
  · intro v hv
    obtain ⟨x, hx, rfl⟩ := List.mem_map.mp hv
    exact int_iv (lo := 0) (h2 x hx).1 (h2 x hx).2
  · exact fun v hv => h3 v hv
  · exact fun v hv => h4 v hv
  · exact fun v hv => h5 v hv
  · exact fun v hv => h6 v hv
  · apply Jx.forall_mem_flatten
    intro row hrow
    simp only [stateToObs] at hrow
    obtain ⟨p, _, rfl⟩ := List.mem_map.mp hrow
    exact Jx.getWC_of_all (P := fun row => ∀ x ∈ row, inIv (some 0) (some L.mapMax) x) _
      (fun q hq x hx => h1 q hq x hx) (by intro x hx; cases hx)
  · intro v hv
    obtain ⟨x, hx, rfl⟩ := List.mem_map.mp hv
    exact int_iv (lo := 0) (h7 x hx).1 (h7 x hx).2

theorem tInv_le (c : Cfg) (L : Lim) (s : State) (h0 : 0 ≤ L.dmax) (h : TInv L s)
    (hk : s.stepCount ≤ 2 * c.numCustomers + 1) :
    ∀ l ∈ s.localTimes, 0 ≤ l ∧ l ≤ 2 * (c.numCustomers : Rat) * L.dmax := by
  intro l hl
  have hl' := h l hl
  have k1 : (s.stepCount : Rat) ≤ 2 * (c.numCustomers : Rat) + 1 := by exact_mod_cast hk
  have k2 : (s.stepCount : Rat) * L.dmax ≤ (2 * (c.numCustomers : Rat) + 1) * L.dmax :=
    Rat.mul_le_mul_of_nonneg_right k1 h0
  refine ⟨hl'.1, ?_⟩
  grind

theorem observe_in_bounds (c : Cfg) (L : Lim) (s : State) (h : BInv c L s)
    (hk : s.stepCount ≤ 2 * c.numCustomers + 1) :
    InBounds (obsBounds c L) (obsLeaves (stateToObs s)) :=
  inBounds_cons rfl (tInv_le c L s h.1.1.2.2.2.2 h.2 hk) (observe_in_boundsS c L s h.1)

theorem reset_obs (c : Cfg) (nV : Nat) (dm : Int) (wl : Rat) (d : Draw) :
    (reset c nV dm wl d).2.obs = stateToObs (reset c nV dm wl d).1 := rfl

end MultiCVRP
