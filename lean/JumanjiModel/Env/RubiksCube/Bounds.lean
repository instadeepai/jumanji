/-
RubiksCube — C01: value bounds of the observation leaves (definitions and `obs_in_bounds`; that `reset` and `step`
meet its hypotheses is in BoundsLemmas.lean).

Real spec: `cube` BoundedArray(int8, 0, 5) of shape (6, n, n), `step_count` BoundedArray(int32, 0, time_limit).
-/
import JumanjiModel.Env.RubiksCube.Model
import JumanjiModel.Env.PuzzleBounds
namespace RubiksCube
open Jm PzB

/-- interval of every observation leaf, as a function of the configuration -/
def obsBounds (cfg : Cfg) : Table := [("cube", iv 0 5), ("step_count", iv 0 cfg.timeLimit)]

/-- the numeric leaves of an observation, flattened -/
def obsLeaves (o : Obs) : Leaves := [("cube", ints3 o.cube), ("step_count", [o.stepCount])]

/-- every sticker carries one of the six face colours 0..5 -/
def ColoursInRange (c : Cube Int) : Prop := ∀ v ∈ c.flatten.flatten, 0 ≤ v ∧ v ≤ 5

instance (c : Cube Int) : Decidable (ColoursInRange c) := by unfold ColoursInRange; infer_instance

theorem obs_in_bounds (cfg : Cfg) (o : Obs) (h : ColoursInRange o.cube)
    (hs : 0 ≤ o.stepCount ∧ o.stepCount ≤ cfg.timeLimit) : ObsInBounds (obsBounds cfg) (obsLeaves o) :=
  obsInBounds_of_aligned rfl (by simp [obsLeaves]) <|
    Jx.all_cons (allIn_ints _ _ _ h) <| Jx.all_cons (allIn_single _ _ _ hs) Jx.all_nil

end RubiksCube
