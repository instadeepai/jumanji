/-
RubiksCube, all cube sizes: the surface of the cube (`emb` / `unemb` mutually inverse on sticker centres), the quarter turn, and
the turns of one layer by ANY number `k` of clockwise quarter turns, on points (`turnK`) and on array positions (`posK`): they add
(`_add`), count modulo 4 (`_mod`) and a whole number of full turns is the identity (`posK_full`).  The model's three directions are
the counts `quarterTurns amt` (`dstPos_eq`, `srcPos_eq`, by `rfl`), so what holds of `srcPos` / `dstPos` is
arithmetic on counts.
-/
import JumanjiModel.Env.RubiksCube.Signed
namespace RubiksCube
open Jm Jx

theorem lt_six {f : Nat} (h : f < 6) : f = 0 ∨ f = 1 ∨ f = 2 ∨ f = 3 ∨ f = 4 ∨ f = 5 := by omega

/-- a centred coordinate of an index `0 … n-1` -/
def Ctr (n : Nat) (t : Int) : Prop := -((n : Int) - 1) ≤ t ∧ t ≤ (n : Int) - 1 ∧ (t + ((n : Int) - 1)) % 2 = 0

/-- centre of a sticker: on one of the six face planes, the other two coordinates centred indices -/
def Good (n : Nat) (v : V3) : Prop :=
  (v.y = n ∧ Ctr n v.x ∧ Ctr n v.z) ∨ (v.z = n ∧ Ctr n v.x ∧ Ctr n v.y) ∨ (v.x = n ∧ Ctr n v.y ∧ Ctr n v.z) ∨
  (v.z = -n ∧ Ctr n v.x ∧ Ctr n v.y) ∨ (v.x = -n ∧ Ctr n v.y ∧ Ctr n v.z) ∨ (v.y = -n ∧ Ctr n v.x ∧ Ctr n v.z)

theorem ctr_Ctr {n i : Nat} (h : i < n) : Ctr n (ctr n i) := by
  unfold Ctr ctr; omega

theorem neg_Ctr {n : Nat} {t : Int} (h : Ctr n t) : Ctr n (-t) := by
  unfold Ctr at *; omega

theorem unctr_ctr (n i : Nat) : unctr n (ctr n i) = i := by
  unfold unctr ctr; omega

theorem ctr_unctr {n : Nat} {t : Int} (h : Ctr n t) : ctr n (unctr n t) = t ∧ unctr n t < n := by
  unfold Ctr at h; unfold unctr ctr; omega

theorem good_emb {n : Nat} {p : Pos} (h : p.Valid n) : Good n (emb n p) := by
  obtain ⟨f, r, c⟩ := p
  obtain ⟨hf, hr, hc⟩ := h
  simp only at hf hr hc
  have h1 := ctr_Ctr hr
  have h2 := ctr_Ctr hc
  have h3 := neg_Ctr h1
  have h4 := neg_Ctr h2
  unfold Good emb
  match f, hf with
  | 0, _ => simp [*]
  | 1, _ => simp [*]
  | 2, _ => simp [*]
  | 3, _ => simp [*]
  | 4, _ => simp [*]
  | 5, _ => simp [*]

theorem unemb_emb {n : Nat} {p : Pos} (h : p.Valid n) : unemb n (emb n p) = p := by
  obtain ⟨f, r, c⟩ := p
  obtain ⟨hf, hr, hc⟩ := h
  simp only at hf hr hc
  have b1 : ctr n r ≠ n ∧ ctr n r ≠ -n ∧ -ctr n r ≠ n ∧ -ctr n r ≠ -n := by unfold ctr; omega
  have b2 : ctr n c ≠ n ∧ ctr n c ≠ -n ∧ -ctr n c ≠ n ∧ -ctr n c ≠ -n := by unfold ctr; omega
  have b3 : (n : Int) ≠ -n ∧ -(n : Int) ≠ n := by omega
  unfold unemb emb
  match f, hf with
  | 0, _ => simp [*, unctr_ctr]
  | 1, _ => simp [*, unctr_ctr]
  | 2, _ => simp [*, unctr_ctr]
  | 3, _ => simp [*, unctr_ctr]
  | 4, _ => simp [*, unctr_ctr]
  | 5, _ => simp [*, unctr_ctr]


theorem Ctr.ne {n : Nat} {t : Int} (h : Ctr n t) : t ≠ n ∧ t ≠ -n ∧ -(n : Int) ≠ n := by
  unfold Ctr at h; omega

/-- on each of the six planes `unemb` takes the branch of that plane (the earlier tests fail by `Ctr.ne`) and `ctr`
undoes `unctr` on the two centred coordinates -/
theorem emb_unemb {n : Nat} {v : V3} (h : Good n v) : (unemb n v).Valid n ∧ emb n (unemb n v) = v := by
  obtain ⟨x, y, z⟩ := v
  unfold Good at h
  simp only at h
  rcases h with ⟨h0, h1, h2⟩ | ⟨h0, h1, h2⟩ | ⟨h0, h1, h2⟩ | ⟨h0, h1, h2⟩ | ⟨h0, h1, h2⟩ | ⟨h0, h1, h2⟩ <;>
    simp [unemb, emb, Pos.Valid, h0, h1.ne, h2.ne, ctr_unctr h1, ctr_unctr h2, ctr_unctr (neg_Ctr h1), ctr_unctr (neg_Ctr h2)]

/-- a quarter turn swaps two coordinates and negates one of them, and `Ctr` is closed under negation: the turned point
lies on the face plane the turn maps the old one to (6 turns × 6 planes) -/
theorem good_cwTurn {n : Nat} (f : Nat) {v : V3} (h : Good n v) : Good n (cwTurn f v) := by
  obtain ⟨x, y, z⟩ := v
  unfold Good at *
  simp only at h
  have hneg : ∀ t, Ctr n t → Ctr n (-t) := fun t => neg_Ctr
  unfold cwTurn
  split <;> simp only [Int.neg_inj] <;>
    rcases h with ⟨h0, h1, h2⟩ | ⟨h0, h1, h2⟩ | ⟨h0, h1, h2⟩ | ⟨h0, h1, h2⟩ | ⟨h0, h1, h2⟩ | ⟨h0, h1, h2⟩ <;>
    (have g1 := hneg _ h1; have g2 := hneg _ h2; simp [*] <;> omega)

theorem height_cwTurn (f : Nat) (v : V3) : height f (cwTurn f v) = height f v := by
  match f with
  | 0 => rfl
  | 1 => rfl
  | 2 => rfl
  | 3 => rfl
  | 4 => rfl
  | (k + 5) => rfl

theorem inLayer_cwTurn (n f d : Nat) (v : V3) : inLayer n f d (cwTurn f v) ↔ inLayer n f d v := by
  unfold inLayer; rw [height_cwTurn]

theorem cwTurn_four (f : Nat) (v : V3) : cwTurn f (cwTurn f (cwTurn f (cwTurn f v))) = v := by
  obtain ⟨x, y, z⟩ := v
  unfold cwTurn; split <;> simp

theorem iter_add {β : Type} (g : β → β) (a b : Nat) (x : β) : iter g a (iter g b x) = iter g (a + b) x := by
  induction a with
  | zero => simp [iter]
  | succ k ih => rw [Nat.succ_add]; simp [iter, ih]

theorem iter_cw_four (f : Nat) (v : V3) : iter (cwTurn f) 4 v = v := by
  simp [iter, cwTurn_four]

theorem good_iter {n : Nat} (f k : Nat) {v : V3} (h : Good n v) : Good n (iter (cwTurn f) k v) := by
  induction k with
  | zero => exact h
  | succ k ih => exact good_cwTurn f ih

theorem inLayer_iter (n f d k : Nat) (v : V3) : inLayer n f d (iter (cwTurn f) k v) ↔ inLayer n f d v := by
  induction k with
  | zero => exact Iff.rfl
  | succ k ih => simp only [iter]; rw [inLayer_cwTurn]; exact ih

theorem iter_cw_mod (f k t : Nat) (v : V3) : iter (cwTurn f) (k + 4 * t) v = iter (cwTurn f) k v := by
  induction t with
  | zero => rfl
  | succ t ih => rw [show k + 4 * (t + 1) = 4 + (k + 4 * t) by omega, ← iter_add, iter_cw_four, ih]

theorem quarterTurns_inv (amt : Nat) : quarterTurns amt + quarterTurns (invAmt amt) = 4 := by
  unfold quarterTurns invAmt
  match amt with
  | 0 => rfl
  | 1 => rfl
  | (k + 2) => rfl

theorem invAmt_invAmt {amt : Nat} (h : amt < 3) : invAmt (invAmt amt) = amt := by
  match amt, h with
  | 0, _ => rfl
  | 1, _ => rfl
  | 2, _ => rfl

/-- layer `d` of face `f` turned by `k` clockwise quarter turns (`physTurn` for any count instead of the three directions) -/
def turnK (n f d k : Nat) (v : V3) : V3 := if inLayer n f d v then iter (cwTurn f) k v else v

theorem turnK_add (n f d a b : Nat) (v : V3) : turnK n f d a (turnK n f d b v) = turnK n f d (a + b) v := by
  unfold turnK
  by_cases h : inLayer n f d v
  · simp only [h, (inLayer_iter n f d b v).2 h, if_true]
    exact iter_add _ _ _ _
  · simp [h]

theorem turnK_mod (n f d k t : Nat) (v : V3) : turnK n f d (k + 4 * t) v = turnK n f d k v := by
  unfold turnK
  rw [iter_cw_mod]

theorem good_turnK {n : Nat} (f d k : Nat) {v : V3} (h : Good n v) : Good n (turnK n f d k v) := by
  unfold turnK
  split
  · exact good_iter f k h
  · exact h

/-- where the sticker at `p` is after `k` clockwise quarter turns of the layer (`dstPos` / `srcPos` for any count) -/
def posK (n f d k : Nat) (p : Pos) : Pos := unemb n (turnK n f d k (emb n p))

theorem dstPos_eq (n f d amt : Nat) (p : Pos) : dstPos n f d amt p = posK n f d (quarterTurns amt) p := rfl

theorem srcPos_eq (n f d amt : Nat) (p : Pos) : srcPos n f d amt p = posK n f d (quarterTurns (invAmt amt)) p := rfl

theorem posK_spec {n : Nat} (f d k : Nat) {p : Pos} (h : p.Valid n) :
    (posK n f d k p).Valid n ∧ emb n (posK n f d k p) = turnK n f d k (emb n p) :=
  emb_unemb (good_turnK f d k (good_emb h))

theorem posK_add {n : Nat} (f d a b : Nat) {p : Pos} (h : p.Valid n) :
    posK n f d a (posK n f d b p) = posK n f d (a + b) p := by
  show unemb n (turnK n f d a (emb n (posK n f d b p))) = _
  rw [(posK_spec f d b h).2, turnK_add]
  rfl

theorem posK_mod (n f d k t : Nat) (p : Pos) : posK n f d (k + 4 * t) p = posK n f d k p := by
  unfold posK
  rw [turnK_mod]

theorem posK_full {n : Nat} (f d t : Nat) {p : Pos} (h : p.Valid n) : posK n f d (4 * t) p = p := by
  rw [← Nat.zero_add (4 * t), posK_mod]
  unfold posK turnK
  simp only [iter, ite_self]
  exact unemb_emb h

theorem posK_outside {n : Nat} (f d k : Nat) {p : Pos} (h : p.Valid n) (ho : ¬ inLayer n f d (emb n p)) :
    posK n f d k p = p := by
  unfold posK turnK
  rw [if_neg ho, unemb_emb h]

theorem dst_src {n : Nat} (f d amt : Nat) {p : Pos} (h : p.Valid n) :
    dstPos n f d amt (srcPos n f d amt p) = p := by
  rw [dstPos_eq, srcPos_eq, posK_add f d _ _ h, quarterTurns_inv]
  exact posK_full f d 1 h

theorem src_dst {n : Nat} (f d amt : Nat) {p : Pos} (h : p.Valid n) :
    srcPos n f d amt (dstPos n f d amt p) = p := by
  rw [dstPos_eq, srcPos_eq, posK_add f d _ _ h, Nat.add_comm, quarterTurns_inv]
  exact posK_full f d 1 h

theorem src_cw_four {n : Nat} (f d : Nat) {p : Pos} (h : p.Valid n) :
    srcPos n f d 0 (srcPos n f d 0 (srcPos n f d 0 (srcPos n f d 0 p))) = p := by
  simp only [srcPos_eq, posK_add f d _ _ h]
  exact posK_full f d 3 h

theorem srcPos_outside {n : Nat} (f d amt : Nat) {p : Pos} (h : p.Valid n) (ho : ¬ inLayer n f d (emb n p)) :
    srcPos n f d amt p = p :=
  posK_outside f d _ h ho

end RubiksCube
