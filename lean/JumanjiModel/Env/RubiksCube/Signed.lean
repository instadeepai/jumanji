/-
RubiksCube: coordinates of sticker centres in symbolic form (`SC`: plus or minus one of three quantities; for a whole face: centred
row, centred column, `n`; on a strip: centred offset, height of the layer, `n`).  `emb`, `cwTurn` and `height` only select and negate
coordinates, so on such coordinates they are finite functions (`embS`, `cwS`, `heightS`, tied to the model once by `emb_eval`,
`cwTurn_eval`, `height_eval`), and what the 24 entries of the index tables and the six faces have to satisfy becomes an equation
between symbolic vectors.  Those are finite facts about hand-written tables with no shorter reason than the check itself: they
are decided by evaluation (`face_ok`, `other_ok` here; `spec_ok`, `side_ok`, `off_ok` in General.lean).
-/
import JumanjiModel.Env.RubiksCube.Model
namespace RubiksCube
open Jm Jx

/-- a symbolic coordinate: quantity number `i`, negated if `neg` -/
structure SC where
  neg : Bool
  i : Fin 3
  deriving DecidableEq

structure SV where
  x : SC
  y : SC
  z : SC
  deriving DecidableEq

def SC.eval (a : Int × Int × Int) (s : SC) : Int :=
  let v := match s.i with
    | 0 => a.1
    | 1 => a.2.1
    | 2 => a.2.2
  if s.neg then -v else v

def SC.flip (s : SC) : SC := ⟨!s.neg, s.i⟩

def SV.eval (a : Int × Int × Int) (v : SV) : V3 := ⟨v.x.eval a, v.y.eval a, v.z.eval a⟩

theorem SC.eval_flip (a : Int × Int × Int) (s : SC) : s.flip.eval a = -(s.eval a) := by
  obtain ⟨b, i⟩ := s
  cases b <;> simp [SC.eval, SC.flip]

/-- `cwTurn` on symbolic vectors -/
def cwS (f : Nat) (v : SV) : SV :=
  match f with
  | 0 => ⟨v.z.flip, v.y, v.x⟩
  | 1 => ⟨v.y, v.x.flip, v.z⟩
  | 2 => ⟨v.x, v.z, v.y.flip⟩
  | 3 => ⟨v.y.flip, v.x, v.z⟩
  | 4 => ⟨v.x, v.z.flip, v.y⟩
  | _ => ⟨v.z, v.y, v.x.flip⟩

/-- `height` on symbolic vectors -/
def heightS (f : Nat) (v : SV) : SC :=
  match f with
  | 0 => v.y
  | 1 => v.z
  | 2 => v.x
  | 3 => v.z.flip
  | 4 => v.x.flip
  | _ => v.y.flip

/-- the third quantity is `n` -/
def sN : SC := ⟨false, 2⟩

/-- `emb` on a face, row and column given symbolically -/
def embS (f : Nat) (r c : SC) : SV :=
  match f with
  | 0 => ⟨c, sN, r⟩
  | 1 => ⟨c, r.flip, sN⟩
  | 2 => ⟨sN, r.flip, c.flip⟩
  | 3 => ⟨c.flip, r.flip, sN.flip⟩
  | 4 => ⟨sN.flip, r.flip, c⟩
  | _ => ⟨c, sN.flip, r.flip⟩

theorem cwTurn_eval (f : Nat) (v : SV) (a : Int × Int × Int) : cwTurn f (v.eval a) = (cwS f v).eval a := by
  unfold cwTurn cwS
  split <;> simp only [SV.eval, SC.eval_flip]

theorem height_eval (f : Nat) (v : SV) (a : Int × Int × Int) : height f (v.eval a) = (heightS f v).eval a := by
  unfold height heightS
  split <;> simp only [SV.eval, SC.eval_flip]

theorem emb_eval {n : Nat} {p : Pos} {r c : SC} {a : Int × Int × Int} (hr : r.eval a = ctr n p.r)
    (hc : c.eval a = ctr n p.c) (hN : a.2.2 = n) : emb n p = (embS p.f r c).eval a := by
  have hN' : sN.eval a = n := hN
  obtain ⟨f, _, _⟩ := p
  simp only at hr hc
  match f with
  | 0 | 1 | 2 | 3 | 4 | _ + 5 => simp only [emb, embS, SV.eval, SC.eval_flip, hr, hc, hN']

/-! ### whole faces: the quantities are `ctr n r`, `ctr n c`, `n` -/

def sR : SC := ⟨false, 0⟩
def sC : SC := ⟨false, 1⟩

theorem emb_face (n : Nat) (p : Pos) : emb n p = (embS p.f sR sC).eval (ctr n p.r, ctr n p.c, (n : Int)) :=
  emb_eval rfl rfl rfl

/-- a clockwise turn takes `(r, c)` of the turned face to `(c, n - 1 - r)`; the face is at height `n` -/
theorem face_ok : ∀ f, f < 6 → cwS f (embS f sR sC) = embS f sC sR.flip ∧ heightS f (embS f sR sC) = sN := by decide

/-- seen from another face, a face is not at height `+ n` (as symbolic coordinates; turned into numbers at the centre of a face of
odd size by `SC.eval_centre`) -/
theorem other_ok : ∀ f, f < 6 → ∀ pf, pf < 6 → pf ≠ f → heightS f (embS pf sR sC) ≠ sN := by decide

/-- with both centred coordinates zero (the centre of a face of odd size), every coordinate other than `+ n` is `0` or `- n` -/
theorem SC.eval_centre {n : Nat} : ∀ s : SC, s ≠ sN → s.eval (0, 0, (n : Int)) ≤ 0
  | ⟨true, 0⟩, _ | ⟨true, 1⟩, _ | ⟨false, 0⟩, _ | ⟨false, 1⟩, _ => by simp [SC.eval]
  | ⟨true, 2⟩, _ => by simp [SC.eval]
  | ⟨false, 2⟩, h => absurd rfl h

end RubiksCube
