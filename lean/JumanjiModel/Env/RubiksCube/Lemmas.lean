/-
RubiksCube, all cube sizes: arrays (`tabulate`, `cube_ext`; `turnC`, the colouring after a number of quarter turns of a layer, of
which `applyMove` is the case of the three directions), conservation of the stickers, solvability by the inverse sequence, the
action encodings, the solved test (`isSolved_iff`), the fields of `step`, the table `tableOK` of all L1 moves on the
position-labelled cube, the goal, and the centres for odd `n`.
-/
import JumanjiModel.Env.RubiksCube.Turns
import JumanjiModel.Core.TimeStepLemmas
import JumanjiModel.Prim.GridLemmas
namespace RubiksCube
open Jm Jx

section arrays
variable {α : Type}

theorem getP_eq_get (dflt : α) (c : Cube α) (p : Pos) : getP dflt c p = Grid.get (c.getD p.f []) dflt p.r p.c := rfl

theorem tabulate_eq_table (n : Nat) (g : Pos → α) :
    tabulate n g = (List.range 6).map (fun f => Grid.table n n (fun r k => g ⟨f, r, k⟩)) := rfl

theorem Shaped_iff (n : Nat) (c : Cube α) : Shaped n c ↔ c.length = 6 ∧ ∀ g ∈ c, Grid.shaped g n n = true := by
  simp only [Shaped, Grid.shaped_iff_mem]

theorem getD_tabulate {n face : Nat} (hf : face < 6) (g : Pos → α) :
    (tabulate n g).getD face [] = Grid.table n n (fun r k => g ⟨face, r, k⟩) := by
  rw [tabulate_eq_table]; simp [List.getD_eq_getElem?_getD, hf]

theorem getP_tabulate (dflt : α) (n : Nat) (g : Pos → α) {p : Pos} (h : p.Valid n) :
    getP dflt (tabulate n g) p = g p := by
  rw [getP_eq_get, getD_tabulate h.1, Grid.get_table _ _ _ _ h.2.1 h.2.2]

theorem shaped_tabulate (n : Nat) (g : Pos → α) : Shaped n (tabulate n g) :=
  (Shaped_iff n _).2 ⟨by simp [tabulate], List.forall_mem_map.2 fun _ _ => Grid.shaped_table ..⟩

theorem list_ext_getD {β : Type} (d : β) {l l' : List β} (hl : l.length = l'.length)
    (h : ∀ i, i < l.length → l.getD i d = l'.getD i d) : l = l' := Jx.ext_getD d hl h

theorem cube_ext (dflt : α) {n : Nat} {c c' : Cube α} (hc : Shaped n c) (hc' : Shaped n c')
    (h : ∀ p : Pos, p.Valid n → getP dflt c p = getP dflt c' p) : c = c' := by
  rw [Shaped_iff] at hc hc'
  refine ext_getD [] (hc.1.trans hc'.1.symm) fun f hf => ?_
  have hf' : f < c'.length := hc'.1 ▸ hc.1 ▸ hf
  exact Grid.ext_get (hc.2 _ (getD_mem [] hf)) (hc'.2 _ (getD_mem [] hf')) dflt
    fun r k hr hk => h ⟨f, r, k⟩ ⟨hc.1 ▸ hf, hr, hk⟩

theorem tabulate_getP (dflt : α) {n : Nat} {c : Cube α} (hc : Shaped n c) : tabulate n (getP dflt c) = c :=
  cube_ext dflt (shaped_tabulate n _) hc (fun _ hp => getP_tabulate dflt n _ hp)

theorem tabulate_congr {n : Nat} {g g' : Pos → α} (h : ∀ p : Pos, p.Valid n → g p = g' p) :
    tabulate n g = tabulate n g' := by
  refine cube_ext (g ⟨0, 0, 0⟩) (shaped_tabulate n g) (shaped_tabulate n g') ?_
  intro p hp
  rw [getP_tabulate _ n g hp, getP_tabulate _ n g' hp, h p hp]

variable [Inhabited α]

theorem shaped_applyMove (n f d amt : Nat) (c : Cube α) : Shaped n (applyMove n f d amt c) := shaped_tabulate n _

theorem getP_applyMove (n f d amt : Nat) (c : Cube α) {p : Pos} (h : p.Valid n) :
    getP default (applyMove n f d amt c) p = getP default c (srcPos n f d amt p) := getP_tabulate _ n _ h

/-- the colouring after `k` ANTIclockwise quarter turns of the layer: `p` shows the sticker that was at `posK … k p`
(`applyMove` for any count) -/
def turnC (n f d k : Nat) (c : Cube α) : Cube α := tabulate n (fun p => getP default c (posK n f d k p))

theorem applyMove_eq (n f d amt : Nat) (c : Cube α) :
    applyMove n f d amt c = turnC n f d (quarterTurns (invAmt amt)) c := rfl

/-- the outer count comes second in the sum (`turnK_add`, `posK_add`: first), since `turnC` reads the cube at `posK` -/
theorem turnC_add (n f d a b : Nat) (c : Cube α) : turnC n f d b (turnC n f d a c) = turnC n f d (a + b) c := by
  unfold turnC
  exact tabulate_congr fun p hp => by rw [getP_tabulate _ n _ (posK_spec f d b hp).1, posK_add f d a b hp]

theorem turnC_mod (n f d k t : Nat) (c : Cube α) : turnC n f d (k + 4 * t) c = turnC n f d k c := by
  unfold turnC
  simp only [posK_mod]

theorem turnC_full {n : Nat} (f d t : Nat) {c : Cube α} (hc : Shaped n c) : turnC n f d (4 * t) c = c := by
  unfold turnC
  rw [tabulate_congr (g' := getP default c) fun p hp => by rw [posK_full f d t hp]]
  exact tabulate_getP default hc

theorem applyMove_inv {n : Nat} (f d : Nat) {amt : Nat} {c : Cube α} (hc : Shaped n c) :
    applyMove n f d (invAmt amt) (applyMove n f d amt c) = c := by
  rw [applyMove_eq, applyMove_eq, turnC_add, quarterTurns_inv]
  exact turnC_full f d 1 hc

end arrays

/-! ### conservation of the stickers -/

theorem mem_allPos {n : Nat} {p : Pos} : p ∈ allPos n ↔ p.Valid n := by
  obtain ⟨f, r, c⟩ := p
  simp only [allPos, List.mem_flatMap, List.mem_map, List.mem_range, Pos.Valid, Pos.mk.injEq]
  constructor
  · rintro ⟨f', hf, r', hr, c', hc, rfl, rfl, rfl⟩; exact ⟨hf, hr, hc⟩
  · rintro ⟨hf, hr, hc⟩; exact ⟨f, hf, r, hr, c, hc, rfl, rfl, rfl⟩

theorem nodup_allPos (n : Nat) : (allPos n).Nodup := by
  unfold allPos List.Nodup
  rw [List.pairwise_flatMap]
  refine ⟨fun f _ => ?_, ?_⟩
  · rw [List.pairwise_flatMap]
    refine ⟨fun r _ => ?_, ?_⟩
    · rw [List.pairwise_map]
      exact List.Pairwise.imp (fun h => by simpa using h) (List.nodup_range (n := n))
    · exact List.Pairwise.imp (fun {a b} h => by
        intro x hx y hy
        simp only [List.mem_map] at hx hy
        obtain ⟨_, _, rfl⟩ := hx
        obtain ⟨_, _, rfl⟩ := hy
        simp only [ne_eq, Pos.mk.injEq, not_and]
        intro _ e; exact absurd e h) (List.nodup_range (n := n))
  · exact List.Pairwise.imp (fun {a b} h => by
      intro x hx y hy
      simp only [List.mem_flatMap, List.mem_map] at hx hy
      obtain ⟨_, _, _, _, rfl⟩ := hx
      obtain ⟨_, _, _, _, rfl⟩ := hy
      simp only [ne_eq, Pos.mk.injEq, not_and]
      intro e; exact absurd e h) (List.nodup_range (n := 6))

/-- every count has an inverse count (`3 k`), so `posK k` permutes the positions -/
theorem perm_map_posK (n f d k : Nat) : ((allPos n).map (posK n f d k)).Perm (allPos n) := by
  have inv : ∀ a b, a + b = 4 * k → ∀ p : Pos, p.Valid n → posK n f d a (posK n f d b p) = p := fun a b e p hp => by
    rw [posK_add f d a b hp, e]
    exact posK_full f d k hp
  rw [List.perm_ext_iff_of_nodup ?_ (nodup_allPos n)]
  · intro q
    simp only [List.mem_map, mem_allPos]
    exact ⟨fun ⟨p, hp, e⟩ => e ▸ (posK_spec f d k hp).1,
      fun hq => ⟨posK n f d (3 * k) q, (posK_spec f d _ hq).1, inv k (3 * k) (by omega) q hq⟩⟩
  · unfold List.Nodup
    rw [List.pairwise_map]
    refine List.Pairwise.imp_of_mem ?_ (nodup_allPos n)
    intro a b ha hb hab e
    apply hab
    have := congrArg (posK n f d (3 * k)) e
    rwa [inv (3 * k) k (by omega) a (mem_allPos.1 ha), inv (3 * k) k (by omega) b (mem_allPos.1 hb)] at this

section conserve
variable {α : Type}

theorem flatten_tabulate (n : Nat) (g : Pos → α) : (tabulate n g).flatten.flatten = (allPos n).map g := by
  simp [tabulate, allPos, List.flatMap_def, List.map_flatten, List.map_map, Function.comp_def, List.flatten_flatten]

theorem applyMove_perm [Inhabited α] {n : Nat} (f d amt : Nat) {c : Cube α} (hc : Shaped n c) :
    (applyMove n f d amt c).flatten.flatten.Perm c.flatten.flatten := by
  have h1 : (applyMove n f d amt c).flatten.flatten = ((allPos n).map (srcPos n f d amt)).map (getP default c) := by
    unfold applyMove; rw [flatten_tabulate, List.map_map]; rfl
  have h2 : c.flatten.flatten = (allPos n).map (getP default c) := by
    rw [← flatten_tabulate, tabulate_getP default hc]
  rw [h1, h2]
  exact (perm_map_posK n f d _).map _

end conserve

section solv
variable {α : Type} [Inhabited α]

theorem shaped_move (n : Nat) (c : Cube α) (m : Move) : Shaped n (move n c m) := shaped_applyMove _ _ _ _ _

theorem shaped_playMoves {n : Nat} {c : Cube α} (hc : Shaped n c) (ms : List Move) : Shaped n (playMoves n c ms) := by
  induction ms generalizing c with
  | nil => exact hc
  | cons m ms ih => exact ih (shaped_move n c m)

theorem move_inv {n : Nat} {c : Cube α} (hc : Shaped n c) (m : Move) : move n (move n c m) m.inv = c :=
  applyMove_inv m.face m.depth hc

theorem playMoves_append (n : Nat) (c : Cube α) (a b : List Move) :
    playMoves n c (a ++ b) = playMoves n (playMoves n c a) b := by
  simp [playMoves, List.foldl_append]

theorem playMoves_inv {n : Nat} {c : Cube α} (hc : Shaped n c) (ms : List Move) :
    playMoves n (playMoves n c ms) (invMoves ms) = c := by
  induction ms generalizing c with
  | nil => rfl
  | cons m ms ih =>
    have e : invMoves (m :: ms) = invMoves ms ++ [m.inv] := by simp [invMoves]
    rw [e, playMoves_append]
    show playMoves n (playMoves n (playMoves n (move n c m) ms) (invMoves ms)) [m.inv] = c
    rw [ih (shaped_move n c m)]
    exact move_inv hc m

theorem playMoves_perm {n : Nat} {c : Cube α} (hc : Shaped n c) (ms : List Move) :
    (playMoves n c ms).flatten.flatten.Perm c.flatten.flatten := by
  induction ms generalizing c with
  | nil => exact List.Perm.refl _
  | cons m ms ih => exact (ih (shaped_move n c m)).trans (applyMove_perm _ _ _ hc)

end solv

theorem legal_inv {n : Nat} {m : Move} (h : legal n m) : legal n m.inv := by
  obtain ⟨h1, h2, h3⟩ := h
  refine ⟨h1, h2, ?_⟩
  show invAmt m.amt < 3
  unfold invAmt; split <;> omega

theorem legal_invMoves {n : Nat} {ms : List Move} (h : ∀ m ∈ ms, legal n m) : ∀ m ∈ invMoves ms, legal n m := by
  intro m hm
  simp only [invMoves, List.mem_reverse, List.mem_map] at hm
  obtain ⟨m', hm', rfl⟩ := hm
  exact legal_inv (h m' hm')

theorem shaped_goal (n : Nat) : Shaped n (goal n) := shaped_tabulate n _

theorem reachable_solvable {n : Nat} {c : Cube Int} (h : Reachable n c) : Solvable n c := by
  obtain ⟨ms, hl, rfl⟩ := h
  exact ⟨invMoves ms, legal_invMoves hl, playMoves_inv (shaped_goal n) ms⟩

theorem reachable_play {n : Nat} {c : Cube Int} (h : Reachable n c) {ms : List Move} (hl : ∀ m ∈ ms, legal n m) :
    Reachable n (playMoves n c ms) := by
  obtain ⟨ms0, hl0, rfl⟩ := h
  refine ⟨ms0 ++ ms, ?_, playMoves_append n _ ms0 ms⟩
  intro m hm
  rcases List.mem_append.1 hm with h | h
  · exact hl0 m h
  · exact hl m h

theorem shaped_of_reachable {n : Nat} {c : Cube Int} (h : Reachable n c) : Shaped n c := by
  obtain ⟨ms, _, rfl⟩ := h
  exact shaped_playMoves (shaped_goal n) ms

/-! ### action encodings -/

/-- the integer action of a move -/
def Move.act (m : Move) : Int × Int × Int := ((m.face : Int), (m.depth : Int), (m.amt : Int))

theorem ofFlat_flat {n : Nat} {m : Move} (h : legal n m) : Move.ofFlat n (Move.flat n m) = m := by
  obtain ⟨f, d, a⟩ := m
  obtain ⟨_, hd, ha⟩ := h
  simp only at hd ha
  have hpos : 0 < n / 2 := by omega
  unfold Move.ofFlat Move.flat
  simp only
  have e : f * 3 * (n / 2) = (f * (n / 2)) * 3 := Nat.mul_right_comm f 3 (n / 2)
  rw [e]
  generalize hk : f * (n / 2) = k
  have e1 : (k * 3 + d * 3 + a) / 3 = d + k := by omega
  have e2 : (k * 3 + d * 3 + a) % 3 = a := by omega
  rw [e1, e2, ← hk, Nat.add_mul_div_right _ _ hpos, Nat.add_mul_mod_self_right, Nat.div_eq_of_lt hd, Nat.mod_eq_of_lt hd]
  simp

theorem flat_ofFlat {n : Nat} (i : Nat) : Move.flat n (Move.ofFlat n i) = i := by
  unfold Move.ofFlat Move.flat
  simp only
  have e : i / 3 / (n / 2) * 3 * (n / 2) = (i / 3 / (n / 2) * (n / 2)) * 3 := Nat.mul_right_comm _ 3 (n / 2)
  rw [e]
  have := Nat.div_add_mod' (i / 3) (n / 2)
  generalize i / 3 / (n / 2) * (n / 2) = x at *
  generalize i / 3 % (n / 2) = y at *
  omega

theorem legal_ofFlat {n i : Nat} (h : i < 18 * (n / 2)) : legal n (Move.ofFlat n i) := by
  have hpos : 0 < n / 2 := by omega
  refine ⟨?_, Nat.mod_lt _ hpos, Nat.mod_lt _ (by decide)⟩
  show i / 3 / (n / 2) < 6
  rw [Nat.div_lt_iff_lt_mul hpos]
  omega

theorem flat_lt {n : Nat} {m : Move} (h : legal n m) : Move.flat n m < 18 * (n / 2) := by
  obtain ⟨f, d, a⟩ := m
  obtain ⟨hf, hd, ha⟩ := h
  simp only at hf hd ha
  unfold Move.flat
  simp only
  have e : f * 3 * (n / 2) = (f * (n / 2)) * 3 := Nat.mul_right_comm f 3 (n / 2)
  have : f * (n / 2) ≤ 5 * (n / 2) := Nat.mul_le_mul_right _ (by omega)
  omega

theorem flattenAction_cast (n : Nat) (m : Move) :
    flattenAction n ((m.face : Int), (m.depth : Int), (m.amt : Int)) = ((Move.flat n m : Nat) : Int) := by
  unfold flattenAction Move.flat
  simp [Int.natCast_add, Int.natCast_mul]

theorem unflattenAction_cast (n : Nat) (i : Nat) :
    unflattenAction n (i : Int) =
      (((Move.ofFlat n i).face : Int), ((Move.ofFlat n i).depth : Int), ((Move.ofFlat n i).amt : Int)) := by
  unfold unflattenAction Move.ofFlat
  simp [Int.natCast_ediv, Int.natCast_emod]

/-! ### the solved test -/

theorem foldl_min_le (xs : List Int) (a : Int) : xs.foldl min a ≤ a ∧ ∀ x ∈ xs, xs.foldl min a ≤ x := by
  induction xs generalizing a with
  | nil => simp
  | cons y t ih =>
    simp only [List.foldl_cons, List.mem_cons]
    obtain ⟨h1, h2⟩ := ih (min a y)
    refine ⟨by omega, ?_⟩
    rintro x (rfl | hx)
    · omega
    · exact h2 x hx

theorem foldl_min_const (xs : List Int) (a : Int) (h : ∀ x ∈ xs, x = a) : xs.foldl min a = a := by
  induction xs with
  | nil => rfl
  | cons y t ih =>
    have := h y (by simp)
    subst this
    simp only [List.foldl_cons, Int.min_self]
    exact ih (fun x hx => h x (by simp [hx]))

theorem maxL_eq_minL_iff (xs : List Int) : maxL xs = minL xs ↔ ∀ x ∈ xs, x = xs.headD 0 := by
  unfold maxL minL
  constructor
  · intro h x hx
    have a := foldl_max_ge xs (xs.headD 0)
    have b := foldl_min_le xs (xs.headD 0)
    have := a.2 x hx
    have := b.2 x hx
    omega
  · intro h
    rw [foldl_max_eq xs _ _ (Int.le_refl _) (fun x hx => Int.le_of_eq (h x hx)) (.inl rfl), foldl_min_const xs _ h]

theorem isSolved_iff_faces (c : Cube Int) :
    isSolved c = true ↔ ∀ g ∈ c, ∀ x ∈ g.flatten, x = g.flatten.headD 0 := by
  unfold isSolved
  rw [beq_iff_eq, List.map_inj_left]
  exact forall_congr' (fun g => forall_congr' (fun _ => maxL_eq_minL_iff _))

theorem isSolved_tabulate (n : Nat) (G : Pos → Int) :
    isSolved (tabulate n G) = true ↔ ∀ p : Pos, p.Valid n → G p = G ⟨p.f, 0, 0⟩ := by
  rw [isSolved_iff_faces]
  have hhead : ∀ f, 0 < n →
      (Grid.flatten ((List.range n).map fun r => (List.range n).map fun k => G ⟨f, r, k⟩)).headD 0 = G ⟨f, 0, 0⟩ := by
    intro f hn
    obtain ⟨m, rfl⟩ : ∃ m, n = m + 1 := ⟨n - 1, by omega⟩
    simp [Grid.flatten, List.range_succ_eq_map]
  constructor
  · intro h p hp
    obtain ⟨f, r, k⟩ := p
    obtain ⟨hf, hr, hk⟩ := hp
    simp only at hf hr hk
    have := h _ (List.mem_map.2 ⟨f, List.mem_range.2 hf, rfl⟩) (G ⟨f, r, k⟩)
      (List.mem_flatten.2 ⟨_, List.mem_map.2 ⟨r, List.mem_range.2 hr, rfl⟩, List.mem_map.2 ⟨k, List.mem_range.2 hk, rfl⟩⟩)
    rwa [hhead f (by omega)] at this
  · intro h g hg x hx
    simp only [tabulate, List.mem_map, List.mem_range] at hg
    obtain ⟨f, hf, rfl⟩ := hg
    obtain ⟨_, hrow, hx⟩ := List.mem_flatten.1 hx
    obtain ⟨r, hr, rfl⟩ := List.mem_map.1 hrow
    obtain ⟨k, hk, rfl⟩ := List.mem_map.1 hx
    have hr := List.mem_range.1 hr
    rw [hhead f (by omega)]
    exact h ⟨f, r, k⟩ ⟨hf, hr, List.mem_range.1 hk⟩

/-- `is_solved` accepts exactly the cubes whose six faces are each of one colour -/
theorem isSolved_iff {n : Nat} {c : Cube Int} (hc : Shaped n c) : isSolved c = true ↔ Monochrome n c := by
  rw [show isSolved c = isSolved (tabulate n (getP 0 c)) by rw [tabulate_getP 0 hc], isSolved_tabulate]
  exact ⟨fun h p hp => h p (mem_allPos.1 hp), fun h p hp => h p (mem_allPos.2 hp)⟩

/-! ### the step function -/

theorem step_obs (cfg : Cfg) (s : State) (a : Int × Int × Int) : (step cfg s a).2.obs = observe (step cfg s a).1 :=
  condLast_obs ..

theorem step_count (cfg : Cfg) (s : State) (a : Int × Int × Int) : (step cfg s a).1.stepCount = s.stepCount + 1 := rfl

theorem step_cube (cfg : Cfg) (s : State) (a : Int × Int × Int) :
    (step cfg s a).1.cube = rotateCube s.cube (flattenAction cfg.n a) := rfl

theorem step_last_iff (cfg : Cfg) (s : State) (a : Int × Int × Int) :
    (step cfg s a).2.stepType = .last ↔
      (cfg.timeLimit ≤ (step cfg s a).1.stepCount ∨ isSolved (step cfg s a).1.cube = true) := by
  refine (condLast_last_iff ..).trans ?_
  simp [step]

theorem step_eq_stepL2_of (cfg : Cfg) (s : State) (m : Move)
    (H : rotateCube s.cube (flattenAction cfg.n ((m.face : Int), (m.depth : Int), (m.amt : Int))) = move cfg.n s.cube m) :
    step cfg s ((m.face : Int), (m.depth : Int), (m.amt : Int)) = stepL2 cfg s m := by
  have hs : isSolved (move cfg.n s.cube m) = decide (Monochrome cfg.n (move cfg.n s.cube m)) := by
    rw [Bool.eq_iff_iff]; simp [isSolved_iff (shaped_move cfg.n s.cube m)]
  unfold step stepL2 condLast sparseReward observe
  simp only [H, hs]
  by_cases h1 : Monochrome cfg.n (move cfg.n s.cube m) <;> by_cases h2 : cfg.timeLimit ≤ s.stepCount + 1 <;>
    simp [h1, h2]

/-! ### the table of all L1 moves on the position-labelled cube; the goal -/

/-- the test that all L1 moves of size `n` act on the position-labelled cube as the physical source map; true for every `n`
(`tableOK_all`, General.lean) -/
def tableOK (n : Nat) : Bool :=
  (List.range (18 * (n / 2))).all fun i =>
    let m := Move.ofFlat n i
    rotateCube (labelCube n) (i : Int) == tabulate n (srcPos n m.face m.depth m.amt)

theorem solvedCube_eq_goal (n : Nat) : solvedCube n = goal n := by
  unfold solvedCube goal tabulate
  exact List.map_congr_left fun f _ => Grid.mk_eq_table n n _

/-- a cube of uniform faces: face `f` entirely of colour `k f` -/
def uniformCube (n : Nat) (k : Nat → Int) : Cube Int := tabulate n (fun p => k p.f)

theorem monochrome_uniform (n : Nat) (k : Nat → Int) : Monochrome n (uniformCube n k) := by
  intro p hp
  have hv := mem_allPos.1 hp
  have hn : 0 < n := by have := hv.2.1; omega
  unfold uniformCube
  rw [getP_tabulate 0 n _ hv, getP_tabulate 0 n _ (⟨hv.1, hn, hn⟩ : (⟨p.f, 0, 0⟩ : Pos).Valid n)]

theorem goal_eq_uniform (n : Nat) : goal n = uniformCube n (fun f => (f : Int)) := rfl

theorem monochrome_goal (n : Nat) : Monochrome n (goal n) := monochrome_uniform n _

theorem isSolved_solvedCube (n : Nat) : isSolved (solvedCube n) = true := by
  rw [solvedCube_eq_goal, isSolved_iff (shaped_goal n)]; exact monochrome_goal n

/-! ### odd sizes: the centre stickers never move, so a reachable solved cube is the goal -/

def centre (n f : Nat) : Pos := ⟨f, n / 2, n / 2⟩

theorem ctr_centre {n : Nat} (hodd : n % 2 = 1) : ctr n (n / 2) = 0 := by
  unfold ctr; omega

/-- the centre of another face is at height `0` or `- n` over face `f` (`other_ok`), below every layer of the action space -/
theorem centre_outside {n : Nat} (hodd : n % 2 = 1) {f d : Nat} (hd : d < n / 2) (hf : f < 6) {pf : Nat} (hpf : pf < 6)
    (hne : pf ≠ f) : ¬ inLayer n f d (emb n (centre n pf)) := by
  have e : emb n (centre n pf) = (embS pf sR sC).eval (0, 0, (n : Int)) :=
    emb_eval (ctr_centre hodd).symm (ctr_centre hodd).symm rfl
  have := SC.eval_centre (n := n) _ (other_ok f hf pf hpf hne)
  unfold inLayer
  rw [e, height_eval]
  omega

theorem centre_on_axis {n : Nat} (hodd : n % 2 = 1) {f : Nat} (hf : f < 6) :
    cwTurn f (emb n (centre n f)) = emb n (centre n f) := by
  rcases lt_six hf with rfl | rfl | rfl | rfl | rfl | rfl <;>
    simp only [cwTurn, emb, centre, ctr_centre hodd, Int.neg_zero]

theorem srcPos_centre {n : Nat} (hodd : n % 2 = 1) {m : Move} (hm : legal n m) {pf : Nat} (hpf : pf < 6) :
    srcPos n m.face m.depth m.amt (centre n pf) = centre n pf := by
  have hv : (centre n pf).Valid n := ⟨hpf, Nat.div_lt_self (by omega) (by omega), Nat.div_lt_self (by omega) (by omega)⟩
  obtain ⟨f, d, a⟩ := m
  simp only
  by_cases hne : pf = f
  · subst hne
    unfold srcPos physTurn
    have hiter : ∀ k, iter (cwTurn pf) k (emb n (centre n pf)) = emb n (centre n pf) := by
      intro k; induction k with
      | zero => rfl
      | succ k ih => simp only [iter, ih]; exact centre_on_axis hodd hpf
    split
    · rw [hiter, unemb_emb hv]
    · exact unemb_emb hv
  · exact srcPos_outside _ _ _ hv (centre_outside hodd hm.2.1 hm.1 hpf hne)

theorem centre_colour_move {n : Nat} (hodd : n % 2 = 1) {m : Move} (hm : legal n m) (c : Cube Int) {pf : Nat} (hpf : pf < 6) :
    getP 0 (move n c m) (centre n pf) = getP 0 c (centre n pf) := by
  have hv : (centre n pf).Valid n := ⟨hpf, Nat.div_lt_self (by omega) (by omega), Nat.div_lt_self (by omega) (by omega)⟩
  unfold move
  have := getP_applyMove n m.face m.depth m.amt c hv
  rw [show (default : Int) = 0 from rfl] at this
  rw [this, srcPos_centre hodd hm hpf]

theorem centre_colour_play {n : Nat} (hodd : n % 2 = 1) (ms : List Move) (hl : ∀ m ∈ ms, legal n m) (c : Cube Int)
    {pf : Nat} (hpf : pf < 6) : getP 0 (playMoves n c ms) (centre n pf) = getP 0 c (centre n pf) := by
  induction ms generalizing c with
  | nil => rfl
  | cons m t ih =>
    show getP 0 (playMoves n (move n c m) t) (centre n pf) = _
    rw [ih (fun m' hm' => hl m' (by simp [hm'])), centre_colour_move hodd (hl m (by simp)) c hpf]

theorem reachable_monochrome_eq_goal {n : Nat} (hodd : n % 2 = 1) {c : Cube Int} (hr : Reachable n c)
    (hm : Monochrome n c) : c = goal n := by
  obtain ⟨ms, hl, rfl⟩ := hr
  refine cube_ext 0 (shaped_playMoves (shaped_goal n) ms) (shaped_goal n) ?_
  intro p hp
  have hn : 0 < n := by have := hp.2.1; omega
  have hc : (centre n p.f).Valid n := ⟨hp.1, Nat.div_lt_self hn (by omega), Nat.div_lt_self hn (by omega)⟩
  have h0 : (⟨p.f, 0, 0⟩ : Pos).Valid n := ⟨hp.1, hn, hn⟩
  have e1 := hm p (mem_allPos.2 hp)
  have e2 := hm (centre n p.f) (mem_allPos.2 hc)
  have e3 := centre_colour_play hodd ms hl (goal n) hp.1
  simp only [centre] at e2 e3
  rw [e1, ← e2]
  simp only [centre] at hc
  rw [e3]
  unfold goal
  rw [getP_tabulate 0 n _ hc, getP_tabulate 0 n _ hp]

end RubiksCube
