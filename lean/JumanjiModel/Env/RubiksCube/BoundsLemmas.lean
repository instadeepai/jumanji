/- RubiksCube: a legal step permutes the stickers (`step_perm`, C07) and keeps the shape and the colour range; the scramble of
`reset` yields a shaped cube of colours 0..5 (`scramble_ok`).  The observation bounds (C01, Props/Env) rest on these. -/
import JumanjiModel.Env.RubiksCube.Bounds
import JumanjiModel.Env.RubiksCube.General
namespace RubiksCube
open Jm Jx PzB

theorem step_perm (cfg : Cfg) (s : State) (hc : Shaped cfg.n s.cube) (m : Move) (hm : legal cfg.n m) :
    (step cfg s m.act).1.cube.flatten.flatten.Perm s.cube.flatten.flatten := by
  rw [step_cube, rotateCube_eq_move hc hm]
  exact applyMove_perm _ _ _ hc

theorem step_coloursInRange (cfg : Cfg) (s : State) (hc : Shaped cfg.n s.cube) (m : Move) (hm : legal cfg.n m)
    (h : ColoursInRange s.cube) : ColoursInRange (step cfg s m.act).1.cube := by
  intro v hv
  exact h v ((List.Perm.mem_iff (step_perm cfg s hc m hm)).mp hv)

theorem step_shaped (cfg : Cfg) (s : State) (hc : Shaped cfg.n s.cube) (m : Move) (hm : legal cfg.n m) :
    Shaped cfg.n (step cfg s m.act).1.cube := by
  rw [step_eq_stepL2 cfg hc hm]
  exact shaped_move cfg.n s.cube m

theorem solved_coloursInRange (n : Nat) : ColoursInRange (solvedCube n) := by
  rw [solvedCube_eq_goal, goal]
  intro v hv
  rw [flatten_tabulate] at hv
  obtain ⟨p, hp, rfl⟩ := List.mem_map.1 hv
  have := (mem_allPos.1 hp).1
  omega

theorem scramble_ok (n : Nat) (scr : List Move) (hs : ∀ m ∈ scr, legal n m) :
    ColoursInRange (scramble n (scr.map (fun m => flattenAction n m.act))) ∧
    Shaped n (scramble n (scr.map (fun m => flattenAction n m.act))) := by
  have e : scramble n (scr.map (fun m => flattenAction n m.act)) = playMoves n (goal n) scr :=
    scramble_eq_playMoves hs
  rw [e]
  refine ⟨?_, ?_⟩
  · intro v hv
    have hp := playMoves_perm (shaped_goal n) scr
    have := (List.Perm.mem_iff hp).mp hv
    rw [← solvedCube_eq_goal] at this
    exact solved_coloursInRange n v this
  · exact shaped_playMoves (shaped_goal n) scr

end RubiksCube
