/-
RubiksCube, ALL cube sizes: the L1 transliteration of utils.py (`rotateCube`: index tables, `rot90`, gather, `roll`,
scatter, `lax.switch` over `generate_all_moves`) is the physical move of the L2 model.

The L1 primitives are evaluated on tabulated arrays (a cube given as a function on positions), so that `do_rotation` becomes a
statement about a strip of four blocks `τ k j` (`doRotation_tabulate`).  The six index tables are held as data (`spec`; the moves
are `specMove f` by `rfl`).  Geometry of the strips: block `k+1` is block `k` turned clockwise, the face itself turns as
`(r,c) ↦ (c,n-1-r)`, a sticker in the layer is on the face or on the strip; what depends on the entries of the tables is read off
equations between symbolic vectors (Signed.lean) that the kernel decides (`spec_ok`, `side_ok`, `off_ok`).  A shaped cube
tabulates its own colouring, so the result holds for every colouring and every flat index, clamped as by `lax.switch`
(`rotateCube_eq_move_any`), hence for plays, the scramble and `step`.
-/
import JumanjiModel.Env.RubiksCube.Lemmas
namespace RubiksCube
open Jm Jx

/-! ## the L1 primitives on tabulated arrays -/
section tab
variable {α : Type}

theorem set_map_range {β : Type} (F : Nat → β) {m i : Nat} (v : β) :
    List.set ((List.range m).map F) i v = (List.range m).map (fun j => if j = i then v else F j) := by
  apply List.ext_getElem
  · simp
  · intro j h1 h2
    simp only [List.getElem_set, List.getElem_map, List.getElem_range]
    split
    · rename_i h; simp [h]
    · rename_i h; have : ¬ j = i := fun e => h e.symm
      simp [this]

/-- where the sticker at `p` comes from under `rot90` of its face (one anticlockwise quarter turn of the array); equally,
where a clockwise quarter turn of the outer layer takes the sticker at `p` (`face_turn`) -/
def Pos.turn (n : Nat) (p : Pos) : Pos := ⟨p.f, p.c, n - 1 - p.r⟩

theorem rot90k_table {n : Nat} (hn : 0 < n) (face : Nat) (h : Pos → α) (k : Nat) :
    Grid.rot90k (Grid.table n n (fun r c => h ⟨face, r, c⟩)) k = Grid.table n n (fun r c => h (iter (Pos.turn n) k ⟨face, r, c⟩)) := by
  induction k with
  | zero => rfl
  | succ k ih =>
    rw [Grid.rot90k, ih, Grid.rot90_table hn]
    exact Grid.table_congr (fun r _ c _ => congrArg h (iter_add (Pos.turn n) k 1 ⟨face, r, c⟩))

theorem cubeSize_tabulate {n : Nat} (hn : 0 < n) (g : Pos → α) : cubeSize (tabulate n g) = n := by
  obtain ⟨m, rfl⟩ : ∃ m, n = m + 1 := ⟨n - 1, by omega⟩
  unfold cubeSize tabulate
  rw [List.range_succ_eq_map (n := 5), List.range_succ_eq_map (n := m)]
  simp

def toPos (q : Nat × Nat × Nat) : Pos := ⟨q.1, q.2.1, q.2.2⟩
def ofPos (p : Pos) : Nat × Nat × Nat := (p.f, p.r, p.c)

theorem get3?_tabulate {n : Nat} (g : Pos → α) {p : Pos} (h : p.Valid n) :
    get3? (tabulate n g) (ofPos p) = some (g p) := by
  obtain ⟨f, r, c⟩ := p
  obtain ⟨hf, hr, hc⟩ := h
  simp only at hf hr hc
  simp [get3?, ofPos, tabulate, hf, hr, hc]

theorem setFace_tabulate {n face : Nat} (g : Pos → α) (h : Nat → Nat → α) :
    List.set (tabulate n g) face (Grid.table n n h) = tabulate n (fun p => if p.f = face then h p.r p.c else g p) := by
  rw [tabulate_eq_table, set_map_range, tabulate_eq_table]
  refine List.map_congr_left fun f _ => ?_
  split <;> simp

theorem set3_tabulate {n : Nat} (g : Pos → α) {q : Pos} (h : q.Valid n) (v : α) :
    set3 (tabulate n g) (ofPos q) v = tabulate n (fun p => if p = q then v else g p) := by
  obtain ⟨f, r, c⟩ := q
  have hget : (tabulate n g)[f]? = some (Grid.table n n fun r k => g ⟨f, r, k⟩) := by
    rw [tabulate_eq_table, List.getElem?_map, List.getElem?_range h.1]; rfl
  unfold set3
  simp only [ofPos, hget]
  rw [Grid.set_table, setFace_tabulate]
  refine congrArg (tabulate n) (funext fun p => ?_)
  obtain ⟨f', r', c'⟩ := p
  by_cases e : f' = f <;> simp [e]

end tab

section scatter
variable {α : Type}

/-- the effect of a scatter (`.at[idx].set(vals)`, later writes win) as a function on positions -/
def scatterFn : List Pos → List α → (Pos → α) → Pos → α
  | q :: idx, v :: vals, h => scatterFn idx vals (fun p => if p = q then v else h p)
  | [], _, h => h
  | _ :: _, [], h => h

theorem foldl_set3_tabulate {n : Nat} (idx : List Pos) (hv : ∀ q ∈ idx, q.Valid n) (vals : List α) (h : Pos → α) :
    (List.zip (idx.map ofPos) vals).foldl (fun cb pv => set3 cb pv.1 pv.2) (tabulate n h) =
      tabulate n (scatterFn idx vals h) := by
  induction idx generalizing vals h with
  | nil => simp [scatterFn]
  | cons q t ih =>
    cases vals with
    | nil => simp [scatterFn]
    | cons v vs =>
      simp only [List.map_cons, List.zip_cons_cons, List.foldl_cons, scatterFn]
      rw [set3_tabulate h (hv q (by simp))]
      exact ih (fun q' hq' => hv q' (by simp [hq'])) vs _

theorem scatterFn_not_mem (idx : List Pos) (vals : List α) (h : Pos → α) {p : Pos} (hp : p ∉ idx) :
    scatterFn idx vals h p = h p := by
  induction idx generalizing vals h with
  | nil => simp [scatterFn]
  | cons q t ih =>
    cases vals with
    | nil => simp [scatterFn]
    | cons v vs =>
      simp only [scatterFn]
      rw [ih vs _ (fun hm => hp (by simp [hm]))]
      have : p ≠ q := fun e => hp (by simp [e])
      simp [this]

theorem scatterFn_map {ι : Type} (σ : ι → Pos) (β : ι → α) : ∀ (l : List ι) (h : Pos → α), l.Nodup →
    (∀ x ∈ l, ∀ y ∈ l, σ x = σ y → x = y) → ∀ y ∈ l, scatterFn (l.map σ) (l.map β) h (σ y) = β y
  | x :: t, h, hn, inj, y, hy => by
    simp only [List.map_cons, scatterFn]
    rcases List.mem_cons.1 hy with rfl | hy
    · -- the later writes go elsewhere
      rw [scatterFn_not_mem, if_pos rfl]
      intro hm
      obtain ⟨z, hz, e⟩ := List.mem_map.1 hm
      obtain rfl := inj z (List.mem_cons_of_mem _ hz) y List.mem_cons_self e
      exact (List.nodup_cons.1 hn).1 hz
    · exact scatterFn_map σ β t _ (List.nodup_cons.1 hn).2
        (fun a ha b hb => inj a (List.mem_cons_of_mem _ ha) b (List.mem_cons_of_mem _ hb)) y hy

theorem gather_tabulate {n : Nat} (idx : List Pos) (hv : ∀ q ∈ idx, q.Valid n) (h : Pos → α) :
    (idx.map ofPos).filterMap (get3? (tabulate n h)) = idx.map h := by
  induction idx with
  | nil => rfl
  | cons q t ih =>
    simp only [List.map_cons, List.filterMap_cons, get3?_tabulate h (hv q (by simp))]
    rw [ih (fun q' hq' => hv q' (by simp [hq']))]

def blocks4 {β : Type} (B : Nat → List β) : List β := B 0 ++ B 1 ++ B 2 ++ B 3

theorem map_blocks4 {β γ : Type} (f : β → γ) (B : Nat → List β) :
    (blocks4 B).map f = blocks4 (fun k => (B k).map f) := by
  simp [blocks4]

theorem blocks4_eq_coords {γ : Type} (n : Nat) (F : Nat → Nat → γ) :
    blocks4 (fun k => (List.range n).map (F k)) = (Grid.coords 4 n).map fun p => F p.1 p.2 := by
  rw [← Grid.flatten_table]
  simp [blocks4, Grid.table, List.range_succ]

theorem roll_four {n : Nat} (hn : 0 < n) (B : Nat → List α) (hB : ∀ k, (B k).length = n) {b : Nat} (hb : 0 < b ∧ b < 4) :
    Jx.roll (blocks4 B) (b * n) = blocks4 (fun k => B ((k + 4 - b) % 4)) := by
  have hl : (B 0 ++ B 1 ++ B 2 ++ B 3).length = 4 * n := by simp [hB]; omega
  have hne : ¬ 4 * n = 0 := by omega
  have : b = 1 ∨ b = 2 ∨ b = 3 := by omega
  unfold Jx.roll blocks4
  rcases this with rfl | rfl | rfl
  · simp only [hl, hne, if_false, Nat.mod_eq_of_lt (show 1 * n < 4 * n by omega)]
    have e : 4 * n - 1 * n = (B 0 ++ B 1 ++ B 2).length := by simp [hB]; omega
    rw [e, List.drop_left, List.take_left]
    simp
  · simp only [hl, hne, if_false, Nat.mod_eq_of_lt (show 2 * n < 4 * n by omega)]
    have e : 4 * n - 2 * n = (B 0 ++ B 1).length := by simp [hB]; omega
    rw [e, List.append_assoc (B 0 ++ B 1), List.drop_left, List.take_left]
    simp
  · simp only [hl, hne, if_false, Nat.mod_eq_of_lt (show 3 * n < 4 * n by omega)]
    have e : 4 * n - 3 * n = (B 0).length := by simp [hB]; omega
    rw [e, List.append_assoc (B 0), List.append_assoc (B 0), List.drop_left, List.take_left]

end scatter

section four
variable {α : Type}

def seg (n : Nat) (σ : Nat → Pos) : List Pos := (List.range n).map σ
def segV (n : Nat) (β : Nat → α) : List α := (List.range n).map β

theorem scatter4 {n : Nat} (σ : Nat → Nat → Pos) (β : Nat → Nat → α) (h : Pos → α)
    (inj : ∀ k k' j j', k < 4 → k' < 4 → j < n → j' < n → σ k j = σ k' j' → k = k' ∧ j = j') :
    (∀ k j, k < 4 → j < n →
      scatterFn (blocks4 (fun k => seg n (σ k))) (blocks4 (fun k => segV n (β k))) h (σ k j) = β k j) ∧
    (∀ p, (∀ k j, k < 4 → j < n → σ k j ≠ p) →
      scatterFn (blocks4 (fun k => seg n (σ k))) (blocks4 (fun k => segV n (β k))) h p = h p) := by
  rw [show blocks4 (fun k => seg n (σ k)) = _ from blocks4_eq_coords n σ,
    show blocks4 (fun k => segV n (β k)) = _ from blocks4_eq_coords n β]
  refine ⟨fun k j hk hj => scatterFn_map (fun p => σ p.1 p.2) (fun p => β p.1 p.2) _ h (Grid.nodup_coords 4 n)
    (fun x hx y hy e => ?_) (k, j) (Grid.mem_coords.2 ⟨hk, hj⟩), fun p hp => scatterFn_not_mem _ _ _ fun hm => ?_⟩
  · obtain ⟨h1, h2⟩ := Grid.mem_coords.1 hx
    obtain ⟨h3, h4⟩ := Grid.mem_coords.1 hy
    obtain ⟨e1, e2⟩ := inj _ _ _ _ h1 h3 h2 h4 e
    exact Prod.ext e1 e2
  · obtain ⟨x, hx, e⟩ := List.mem_map.1 hm
    obtain ⟨h1, h2⟩ := Grid.mem_coords.1 hx
    exact hp _ _ h1 h2 e

/-- the colouring after `do_rotation`'s `rot90` of the face itself (only when `depth = 0`) -/
def faceRot (n face depth : Nat) (a : Nat) (g : Pos → α) : Pos → α := fun p =>
  if depth = 0 ∧ p.f = face then g (iter (Pos.turn n) (quarterTurns (invAmt a)) ⟨face, p.r, p.c⟩) else g p

/-- `k = -amount mod 4` of `jnp.rot90` is the number of quarter turns of the opposite direction -/
theorem rot90_count {a : Nat} (ha : a < 3) : ((-(amountValues.getD a 0)) % 4).toNat = quarterTurns (invAmt a) := by
  have : a = 0 ∨ a = 1 ∨ a = 2 := by omega
  rcases this with rfl | rfl | rfl <;> rfl

/-- `n * amount mod 4 n` of `jnp.roll` is the number of quarter turns, counted in blocks -/
theorem roll_count {n a : Nat} (hn : 0 < n) (ha : a < 3) :
    (((n : Int) * amountValues.getD a 0) % (4 * (n : Int))).toNat = quarterTurns a * n := by
  have : a = 0 ∨ a = 1 ∨ a = 2 := by omega
  rcases this with rfl | rfl | rfl <;> simp only [amountValues, List.getD_cons_succ, List.getD_cons_zero, quarterTurns]
  · rw [Int.mul_one, Int.emod_eq_of_lt (by omega) (by omega)]; omega
  · have : (n : Int) * -1 = 3 * (n : Int) + (-1) * (4 * (n : Int)) := by omega
    rw [this, Int.add_mul_emod_self_right, Int.emod_eq_of_lt (by omega) (by omega)]; omega
  · rw [Int.emod_eq_of_lt (by omega) (by omega)]; omega

/-- `do_rotation` on a tabulated cube, for a strip given by `τ k j` (block `k < 4`, offset `j < n`) -/
theorem doRotation_tabulate {n : Nat} (hn : 0 < n) (g : Pos → α) {face : Nat} (hf : face < 6) {a : Nat} (ha : a < 3)
    (depth : Nat) (adj cols rows : List Nat) (τ : Nat → Nat → Pos)
    (hidx : zip3 (adj.flatMap (fun f => List.replicate n f)) rows cols =
      (blocks4 (fun k => seg n (τ k))).map ofPos)
    (hv : ∀ k j, k < 4 → j < n → (τ k j).Valid n)
    (inj : ∀ k k' j j', k < 4 → k' < 4 → j < n → j' < n → τ k j = τ k' j' → k = k' ∧ j = j') :
    ∃ R : Pos → α, doRotation (tabulate n g) face (amountValues.getD a 0) depth adj cols rows = tabulate n R ∧
      (∀ k j, k < 4 → j < n → R (τ k j) = faceRot n face depth a g (τ ((k + 4 - quarterTurns a) % 4) j)) ∧
      (∀ p, (∀ k j, k < 4 → j < n → τ k j ≠ p) → R p = faceRot n face depth a g p) := by
  have h1 : (if depth = 0 then
        List.set (tabulate n g) face (Grid.rot90k ((tabulate n g).getD face []) ((-(amountValues.getD a 0)) % 4).toNat)
      else tabulate n g) = tabulate n (faceRot n face depth a g) := by
    by_cases hd : depth = 0
    · simp only [hd, if_true]
      rw [getD_tabulate hf, rot90_count ha, rot90k_table hn, setFace_tabulate]
      apply tabulate_congr; intro p _; simp [faceRot]
    · simp only [hd, if_false]
      apply tabulate_congr; intro p _; simp [faceRot, hd]
  have hvl : ∀ q ∈ blocks4 (fun k => seg n (τ k)), q.Valid n := by
    intro q hq
    rw [show blocks4 (fun k => seg n (τ k)) = _ from blocks4_eq_coords n τ] at hq
    obtain ⟨x, hx, rfl⟩ := List.mem_map.1 hq
    exact hv _ _ (Grid.mem_coords.1 hx).1 (Grid.mem_coords.1 hx).2
  let g1 := faceRot n face depth a g
  have hq : 0 < quarterTurns a ∧ quarterTurns a < 4 := by unfold quarterTurns; split <;> omega
  have hroll : Jx.roll ((blocks4 (fun k => seg n (τ k))).map g1)
        (((n : Int) * amountValues.getD a 0) % (4 * (n : Int))).toNat =
      blocks4 (fun k => segV n (fun j => g1 (τ ((k + 4 - quarterTurns a) % 4) j))) := by
    rw [roll_count hn ha, map_blocks4, roll_four hn _ (fun k => by simp [seg]) hq]
    simp [seg, segV, Function.comp_def]
  refine ⟨scatterFn (blocks4 (fun k => seg n (τ k)))
      (blocks4 (fun k => segV n (fun j => g1 (τ ((k + 4 - quarterTurns a) % 4) j)))) g1, ?_, scatter4 τ _ g1 inj⟩
  unfold doRotation
  simp only [cubeSize_tabulate hn]
  rw [h1, hidx, gather_tabulate _ hvl, hroll, foldl_set3_tabulate _ hvl]

end four

/-! ## the six index tables -/

/-- how one index array of a block is generated: `arange(n)`, `flip(arange(n))`, `repeat(depth, n)`,
`repeat(n - 1 - depth, n)` -/
inductive Ix | ar | fl | lo | hi
  deriving DecidableEq, Repr

def Ix.eval (n d : Nat) : Ix → Nat → Nat
  | .ar, j => j
  | .fl, j => n - 1 - j
  | .lo, _ => d
  | .hi, _ => n - 1 - d

/-- `ar` and `fl` run through the block, each its own inverse on `0 … n-1`; `lo` and `hi` are constant on it -/
def Ix.runs : Ix → Bool
  | .ar | .fl => true
  | .lo | .hi => false

/-- the height (over the face whose layer `d` a constant generator selects) of the stickers with coordinate `x` -/
def Ix.level (n x : Nat) : Ix → Int
  | .lo => -ctr n x
  | .hi => ctr n x
  | _ => 0

def Ix.list (n d : Nat) : Ix → List Nat
  | .ar => arange n
  | .fl => flipRange n
  | .lo => rep d n
  | .hi => rep (n - 1 - d) n

theorem Ix.list_eq (n d : Nat) (ix : Ix) : ix.list n d = (List.range n).map (ix.eval n d) := by
  cases ix
  · have : Ix.eval n d .ar = fun j => j := by funext j; rfl
    rw [this]; simp [Ix.list, arange]
  · have : Ix.eval n d .fl = fun j => n - 1 - j := by funext j; rfl
    rw [this]; simp only [Ix.list, flipRange]
    have := reverse_map_range (fun j => j) n
    simpa using this
  · have : Ix.eval n d .lo = fun _ => d := by funext j; rfl
    rw [this]; simp [Ix.list, rep, List.map_const']
  · have : Ix.eval n d .hi = fun _ => n - 1 - d := by funext j; rfl
    rw [this]; simp [Ix.list, rep, List.map_const']

/-- block `k` of the strip of face `f`: (adjacent face, row generator, column generator), read off the six
`generate_*_move` functions -/
def spec (f k : Nat) : Nat × Ix × Ix :=
  match f, k with
  | 0, 0 => (1, .lo, .ar) | 0, 1 => (4, .lo, .ar) | 0, 2 => (3, .lo, .ar) | 0, _ => (2, .lo, .ar)
  | 1, 0 => (0, .hi, .ar) | 1, 1 => (2, .ar, .lo) | 1, 2 => (5, .lo, .fl) | 1, _ => (4, .fl, .hi)
  | 2, 0 => (0, .fl, .hi) | 2, 1 => (3, .ar, .lo) | 2, 2 => (5, .fl, .hi) | 2, _ => (1, .fl, .hi)
  | 3, 0 => (0, .lo, .fl) | 3, 1 => (4, .ar, .lo) | 3, 2 => (5, .hi, .ar) | 3, _ => (2, .fl, .hi)
  | 4, 0 => (0, .ar, .lo) | 4, 1 => (1, .ar, .lo) | 4, 2 => (5, .ar, .lo) | 4, _ => (3, .fl, .hi)
  | _, 0 => (1, .hi, .ar) | _, 1 => (2, .hi, .ar) | _, 2 => (3, .hi, .ar) | _, _ => (4, .hi, .ar)

/-- position number `j` of block `k` of the strip of (face `f`, depth `d`) -/
def strip (n d f k j : Nat) : Pos :=
  ⟨(spec f k).1, (spec f k).2.1.eval n d j, (spec f k).2.2.eval n d j⟩

theorem zip3_seg (n a : Nat) (R C : Nat → Nat) :
    zip3 (List.replicate n a) ((List.range n).map R) ((List.range n).map C) =
      (seg n (fun j => ⟨a, R j, C j⟩)).map ofPos := by
  have : List.replicate n a = (List.range n).map (fun _ => a) := by simp [List.map_const']
  rw [this]; unfold zip3; rw [List.zip_map', List.zip_map']; simp [seg, ofPos, Function.comp_def]

theorem zip3_append {a a' b b' c c' : List Nat} (h1 : a.length = b.length) (h2 : b.length = c.length) :
    zip3 (a ++ a') (b ++ b') (c ++ c') = zip3 a b c ++ zip3 a' b' c' := by
  unfold zip3
  rw [List.zip_append h2, List.zip_append (by simp [h1, h2])]

/-- the index arrays of the move of face `f` are the four blocks of `strip` -/
theorem idx_eq (n d f : Nat) :
    zip3 ([(spec f 0).1, (spec f 1).1, (spec f 2).1, (spec f 3).1].flatMap (fun x => List.replicate n x))
      ((spec f 0).2.1.list n d ++ (spec f 1).2.1.list n d ++ (spec f 2).2.1.list n d ++ (spec f 3).2.1.list n d)
      ((spec f 0).2.2.list n d ++ (spec f 1).2.2.list n d ++ (spec f 2).2.2.list n d ++ (spec f 3).2.2.list n d) =
    (blocks4 (fun k => seg n (strip n d f k))).map ofPos := by
  simp only [List.flatMap_cons, List.flatMap_nil, List.append_nil, Ix.list_eq]
  rw [← List.append_assoc, ← List.append_assoc]
  rw [zip3_append (by simp) (by simp), zip3_append (by simp) (by simp), zip3_append (by simp) (by simp)]
  simp only [zip3_seg, blocks4, List.map_append]
  rfl

section moves
variable {α : Type}

/-- the move of face `f` written with the table `spec` -/
def specMove (f : Nat) (amount : Int) (d : Nat) (c : Cube α) : Cube α :=
  doRotation c f amount d [(spec f 0).1, (spec f 1).1, (spec f 2).1, (spec f 3).1]
    ((spec f 0).2.2.list (cubeSize c) d ++ (spec f 1).2.2.list (cubeSize c) d ++ (spec f 2).2.2.list (cubeSize c) d ++ (spec f 3).2.2.list (cubeSize c) d)
    ((spec f 0).2.1.list (cubeSize c) d ++ (spec f 1).2.1.list (cubeSize c) d ++ (spec f 2).2.1.list (cubeSize c) d ++ (spec f 3).2.1.list (cubeSize c) d)

theorem upMove_eq (amount : Int) (d : Nat) (c : Cube α) : upMove amount d c =
    doRotation c 0 amount d [(spec 0 0).1, (spec 0 1).1, (spec 0 2).1, (spec 0 3).1]
      ((spec 0 0).2.2.list (cubeSize c) d ++ (spec 0 1).2.2.list (cubeSize c) d ++ (spec 0 2).2.2.list (cubeSize c) d ++ (spec 0 3).2.2.list (cubeSize c) d)
      ((spec 0 0).2.1.list (cubeSize c) d ++ (spec 0 1).2.1.list (cubeSize c) d ++ (spec 0 2).2.1.list (cubeSize c) d ++ (spec 0 3).2.1.list (cubeSize c) d) := rfl
theorem frontMove_eq (amount : Int) (d : Nat) (c : Cube α) : frontMove amount d c =
    doRotation c 1 amount d [(spec 1 0).1, (spec 1 1).1, (spec 1 2).1, (spec 1 3).1]
      ((spec 1 0).2.2.list (cubeSize c) d ++ (spec 1 1).2.2.list (cubeSize c) d ++ (spec 1 2).2.2.list (cubeSize c) d ++ (spec 1 3).2.2.list (cubeSize c) d)
      ((spec 1 0).2.1.list (cubeSize c) d ++ (spec 1 1).2.1.list (cubeSize c) d ++ (spec 1 2).2.1.list (cubeSize c) d ++ (spec 1 3).2.1.list (cubeSize c) d) := rfl
theorem rightMove_eq (amount : Int) (d : Nat) (c : Cube α) : rightMove amount d c =
    doRotation c 2 amount d [(spec 2 0).1, (spec 2 1).1, (spec 2 2).1, (spec 2 3).1]
      ((spec 2 0).2.2.list (cubeSize c) d ++ (spec 2 1).2.2.list (cubeSize c) d ++ (spec 2 2).2.2.list (cubeSize c) d ++ (spec 2 3).2.2.list (cubeSize c) d)
      ((spec 2 0).2.1.list (cubeSize c) d ++ (spec 2 1).2.1.list (cubeSize c) d ++ (spec 2 2).2.1.list (cubeSize c) d ++ (spec 2 3).2.1.list (cubeSize c) d) := rfl
theorem backMove_eq (amount : Int) (d : Nat) (c : Cube α) : backMove amount d c =
    doRotation c 3 amount d [(spec 3 0).1, (spec 3 1).1, (spec 3 2).1, (spec 3 3).1]
      ((spec 3 0).2.2.list (cubeSize c) d ++ (spec 3 1).2.2.list (cubeSize c) d ++ (spec 3 2).2.2.list (cubeSize c) d ++ (spec 3 3).2.2.list (cubeSize c) d)
      ((spec 3 0).2.1.list (cubeSize c) d ++ (spec 3 1).2.1.list (cubeSize c) d ++ (spec 3 2).2.1.list (cubeSize c) d ++ (spec 3 3).2.1.list (cubeSize c) d) := rfl
theorem leftMove_eq (amount : Int) (d : Nat) (c : Cube α) : leftMove amount d c =
    doRotation c 4 amount d [(spec 4 0).1, (spec 4 1).1, (spec 4 2).1, (spec 4 3).1]
      ((spec 4 0).2.2.list (cubeSize c) d ++ (spec 4 1).2.2.list (cubeSize c) d ++ (spec 4 2).2.2.list (cubeSize c) d ++ (spec 4 3).2.2.list (cubeSize c) d)
      ((spec 4 0).2.1.list (cubeSize c) d ++ (spec 4 1).2.1.list (cubeSize c) d ++ (spec 4 2).2.1.list (cubeSize c) d ++ (spec 4 3).2.1.list (cubeSize c) d) := rfl
theorem downMove_eq (amount : Int) (d : Nat) (c : Cube α) : downMove amount d c =
    doRotation c 5 amount d [(spec 5 0).1, (spec 5 1).1, (spec 5 2).1, (spec 5 3).1]
      ((spec 5 0).2.2.list (cubeSize c) d ++ (spec 5 1).2.2.list (cubeSize c) d ++ (spec 5 2).2.2.list (cubeSize c) d ++ (spec 5 3).2.2.list (cubeSize c) d)
      ((spec 5 0).2.1.list (cubeSize c) d ++ (spec 5 1).2.1.list (cubeSize c) d ++ (spec 5 2).2.1.list (cubeSize c) d ++ (spec 5 3).2.1.list (cubeSize c) d) := rfl

theorem gens_getElem (f : Nat) (hf : f < 6) :
    ([upMove, frontMove, rightMove, backMove, leftMove, downMove] : List (Int → Nat → Cube α → Cube α))[f]'(by simpa using hf)
      = specMove f := by
  rcases lt_six hf with rfl | rfl | rfl | rfl | rfl | rfl <;> rfl

end moves

/-! ## geometry of the strips -/

/-- block `k` of the strip of face `f` lies on a face (`.1`) other than `f`; exactly one of its two generators (`.2.1` rows,
`.2.2` columns) runs through the block; the four blocks lie on four different faces -/
theorem spec_facts : ∀ f, f < 6 → ∀ k, k < 4 →
    (spec f k).1 < 6 ∧ (spec f k).1 ≠ f ∧
    (spec f k).2.2.runs = !(spec f k).2.1.runs ∧
    (∀ k', k' < 4 → (spec f k).1 = (spec f k').1 → k = k') := by decide

theorem eval_lt {n d : Nat} (hd : d < n) (ix : Ix) {j : Nat} (hj : j < n) : ix.eval n d j < n := by
  cases ix <;> simp only [Ix.eval] <;> omega

theorem Ix.eval_eval {n : Nat} (d : Nat) {ix : Ix} (h : ix.runs = true) {x : Nat} (hx : x < n) :
    ix.eval n d (ix.eval n d x) = x := by
  match ix, h with
  | .ar, _ => rfl
  | .fl, _ => simp only [Ix.eval]; omega

theorem Ix.eval_inj {n : Nat} (d : Nat) {ix : Ix} (h : ix.runs = true) {j j' : Nat} (hj : j < n) (hj' : j' < n)
    (e : ix.eval n d j = ix.eval n d j') : j = j' := by
  rw [← Ix.eval_eval d h hj, e, Ix.eval_eval d h hj']

/-- a constant generator yields `x` exactly when `x` has the height of layer `d`; no side sticker has height `n` -/
theorem Ix.level_eq {n d : Nat} (hd : 2 * d + 2 ≤ n) {ix : Ix} (h : ix.runs = false) (x j : Nat) :
    (ix.level n x = (n : Int) - 1 - 2 * d ↔ ix.eval n d j = x) ∧ ix.level n x ≠ n := by
  match ix, h with
  | .lo, _ => simp only [Ix.level, Ix.eval, ctr]; omega
  | .hi, _ => simp only [Ix.level, Ix.eval, ctr]; omega

theorem strip_valid {n d f k j : Nat} (hd : d < n) (hf : f < 6) (hk : k < 4) (hj : j < n) :
    (strip n d f k j).Valid n :=
  ⟨(spec_facts f hf k hk).1, eval_lt hd _ hj, eval_lt hd _ hj⟩

theorem strip_inj {n d f : Nat} (hf : f < 6) : ∀ k k' j j', k < 4 → k' < 4 → j < n → j' < n →
    strip n d f k j = strip n d f k' j' → k = k' ∧ j = j' := by
  intro k k' j j' hk hk' hj hj' e
  unfold strip at e
  simp only [Pos.mk.injEq] at e
  obtain ⟨e1, e2, e3⟩ := e
  have hkk : k = k' := (spec_facts f hf k hk).2.2.2 k' hk' e1
  subst hkk
  refine ⟨rfl, ?_⟩
  cases h : (spec f k).2.1.runs
  · exact Ix.eval_inj d (by rw [(spec_facts f hf k hk).2.2.1, h]; rfl) hj hj' e3
  · exact Ix.eval_inj d h hj hj' e2


theorem ctr_flip {n x : Nat} (h : x < n) : ctr n (n - 1 - x) = -ctr n x := by
  unfold ctr; omega

/-- the centred coordinate a generator yields at offset `j` of the layer at depth `d`, over the quantities `ctr n j`,
`n - 1 - 2 d`, `n` -/
def Ix.s : Ix → SC
  | .ar => ⟨false, 0⟩
  | .fl => ⟨true, 0⟩
  | .lo => ⟨true, 1⟩
  | .hi => ⟨false, 1⟩

theorem Ix.eval_s {n d j : Nat} (hd : d < n) (hj : j < n) (ix : Ix) :
    ix.s.eval (ctr n j, (n : Int) - 1 - 2 * d, (n : Int)) = ctr n (ix.eval n d j) := by
  cases ix <;> simp only [Ix.s, SC.eval, Ix.eval, ctr, Bool.false_eq_true, if_false, if_true] <;> omega

/-- block `k` of the strip of face `f`, symbolically -/
def stripS (f k : Nat) : SV := embS (spec f k).1 (spec f k).2.1.s (spec f k).2.2.s

theorem emb_strip {n d j : Nat} (hd : d < n) (hj : j < n) (f k : Nat) :
    emb n (strip n d f k j) = (stripS f k).eval (ctr n j, (n : Int) - 1 - 2 * d, (n : Int)) :=
  emb_eval (Ix.eval_s hd hj _) (Ix.eval_s hd hj _) rfl

/-- the 24 entries of `spec`: block `k + 1` is block `k` turned clockwise, and each block lies at the height of the layer -/
theorem spec_ok : ∀ f, f < 6 → ∀ k, k < 4 →
    cwS f (stripS f k) = stripS f ((k + 1) % 4) ∧ heightS f (stripS f k) = ⟨false, 1⟩ := by decide

theorem strip_turn {n d : Nat} (hd : d < n) : ∀ f, f < 6 → ∀ k, k < 4 → ∀ j, j < n →
    emb n (strip n d f ((k + 1) % 4) j) = cwTurn f (emb n (strip n d f k j)) := fun f hf k hk j hj => by
  rw [emb_strip hd hj, emb_strip hd hj, cwTurn_eval, (spec_ok f hf k hk).1]

theorem strip_iter {n d : Nat} (hd : d < n) {f : Nat} (hf : f < 6) {k : Nat} (hk : k < 4) {j : Nat} (hj : j < n) (q : Nat) :
    emb n (strip n d f ((k + q) % 4) j) = iter (cwTurn f) q (emb n (strip n d f k j)) := by
  induction q with
  | zero => simp [iter, Nat.mod_eq_of_lt hk]
  | succ q ih =>
    simp only [iter]
    rw [← ih, ← strip_turn hd f hf ((k + q) % 4) (Nat.mod_lt _ (by omega)) j hj]
    congr 2; omega

theorem face_turn {n : Nat} : ∀ f, f < 6 → ∀ r c, r < n →
    cwTurn f (emb n ⟨f, r, c⟩) = emb n ⟨f, c, n - 1 - r⟩ ∧ height f (emb n ⟨f, r, c⟩) = n := fun f hf r c hr => by
  have e : emb n ⟨f, c, n - 1 - r⟩ = (embS f sC sR.flip).eval (ctr n r, ctr n c, (n : Int)) :=
    emb_eval rfl ((SC.eval_flip _ _).trans (ctr_flip hr).symm) rfl
  rw [emb_face, cwTurn_eval, height_eval, e, (face_ok f hf).1, (face_ok f hf).2]
  exact ⟨rfl, rfl⟩

/-- the sign with which the coordinate of a constant generator gives the height -/
def Ix.lv (x : SC) : Ix → SC
  | .lo => x.flip
  | .hi => x
  | _ => sN

theorem Ix.lv_eval {n : Nat} (x : Nat) (X : SC) (a : Int × Int × Int) (hX : X.eval a = ctr n x) {ix : Ix}
    (h : ix.runs = false) : (ix.lv X).eval a = ix.level n x := by
  match ix, h with
  | .lo, _ => exact (SC.eval_flip a X).trans (congrArg _ hX)
  | .hi, _ => exact hX

/-- the four side faces of each face: which of row and column is the height, and with which sign -/
theorem side_ok : ∀ f, f < 6 → ∀ k, k < 4 → heightS f (embS (spec f k).1 sR sC) =
    if (spec f k).2.1.runs then (spec f k).2.2.lv sC else (spec f k).2.1.lv sR := by decide

/-- the turned face and the opposite one are at height `± n` -/
theorem off_ok : ∀ f, f < 6 → ∀ pf, pf < 6 → (∀ k, k < 4 → (spec f k).1 ≠ pf) →
    heightS f (embS pf sR sC) = if pf = f then sN else sN.flip := by decide

theorem height_side {n : Nat} : ∀ f, f < 6 → ∀ k, k < 4 → ∀ r c,
    height f (emb n ⟨(spec f k).1, r, c⟩) =
      if (spec f k).2.1.runs then (spec f k).2.2.level n c else (spec f k).2.1.level n r := fun f hf k hk r c => by
  rw [emb_face, height_eval, side_ok f hf k hk]
  cases h : (spec f k).2.1.runs
  · exact Ix.lv_eval r sR _ rfl h
  · exact Ix.lv_eval c sC _ rfl (by rw [(spec_facts f hf k hk).2.2.1, h]; rfl)

theorem strip_height {n d f k j : Nat} (hd : d < n) (hj : j < n) (hf : f < 6) (hk : k < 4) :
    height f (emb n (strip n d f k j)) = (n : Int) - 1 - 2 * d := by
  rw [emb_strip hd hj, height_eval, (spec_ok f hf k hk).2]
  rfl

/-- a block with one running and one constant generator passes through `(r, c)` as soon as `(r, c)` has the height of the
layer: the constant generator then yields its coordinate, and the running one reaches the other at the offset it names -/
theorem block_through {n d : Nat} (hd : 2 * d + 2 ≤ n) {ixr ixc : Ix} (hone : ixc.runs = !ixr.runs) {r c : Nat}
    (hr : r < n) (hc : c < n) {l : Int} (hl : l = if ixr.runs then ixc.level n c else ixr.level n r)
    (hin : l = (n : Int) - 1 - 2 * d ∨ (d = 0 ∧ l = n)) : ∃ j, j < n ∧ ixr.eval n d j = r ∧ ixc.eval n d j = c := by
  cases h : ixr.runs
  · have h' : ixc.runs = true := by rw [hone, h]; rfl
    simp only [h, Bool.false_eq_true, if_false] at hl
    obtain ⟨e, hne⟩ := Ix.level_eq hd h r (ixc.eval n d c)
    rw [← hl] at e hne
    exact ⟨ixc.eval n d c, eval_lt (by omega) ixc hc, e.1 (hin.resolve_right (fun h => hne h.2)), Ix.eval_eval d h' hc⟩
  · have h' : ixc.runs = false := by rw [hone, h]; rfl
    simp only [h, if_true] at hl
    obtain ⟨e, hne⟩ := Ix.level_eq hd h' c (ixr.eval n d r)
    rw [← hl] at e hne
    exact ⟨ixr.eval n d r, eval_lt (by omega) ixr hr, Ix.eval_eval d h hr, e.1 (hin.resolve_right (fun h => hne h.2))⟩

theorem height_off_strip {n : Nat} : ∀ f, f < 6 → ∀ pf, pf < 6 → (∀ k, k < 4 → (spec f k).1 ≠ pf) → ∀ r c,
    height f (emb n ⟨pf, r, c⟩) = if pf = f then (n : Int) else -n := fun f hf pf hpf hs r c => by
  rw [emb_face, height_eval, off_ok f hf pf hpf hs]
  split <;> rfl

theorem layer_cases {n d f : Nat} (hd : 2 * d + 2 ≤ n) (hf : f < 6) {p : Pos} (hp : p.Valid n)
    (hin : inLayer n f d (emb n p)) : (d = 0 ∧ p.f = f) ∨ ∃ k j, k < 4 ∧ j < n ∧ strip n d f k j = p := by
  obtain ⟨pf, r, c⟩ := p
  obtain ⟨hpf, hr, hc⟩ := hp
  simp only at hpf hr hc
  by_cases hside : ∃ k, k < 4 ∧ (spec f k).1 = pf
  · obtain ⟨k, hk, rfl⟩ := hside
    obtain ⟨j, hj, e1, e2⟩ := block_through hd (spec_facts f hf k hk).2.2.1 hr hc (height_side f hf k hk r c) hin
    exact Or.inr ⟨k, j, hk, hj, by rw [strip, e1, e2]⟩
  · have hh := height_off_strip (n := n) f hf pf hpf (fun k hk e => hside ⟨k, hk, e⟩) r c
    unfold inLayer at hin
    rw [hh] at hin
    split at hin
    · rename_i e
      rcases hin with h | ⟨h0, _⟩
      · omega
      · exact Or.inl ⟨h0, e⟩
    · omega

section final
variable {α : Type}

theorem face_iter {n f : Nat} (hf : f < 6) {r c : Nat} (hr : r < n) (hc : c < n) (k : Nat) :
    (iter (Pos.turn n) k ⟨f, r, c⟩).Valid n ∧ (iter (Pos.turn n) k ⟨f, r, c⟩).f = f ∧
    iter (cwTurn f) k (emb n ⟨f, r, c⟩) = emb n (iter (Pos.turn n) k ⟨f, r, c⟩) := by
  induction k with
  | zero => exact ⟨⟨hf, hr, hc⟩, rfl, rfl⟩
  | succ k ih =>
    obtain ⟨⟨_, hr', hc'⟩, e, ih⟩ := ih
    refine ⟨⟨by rw [← e] at hf; exact hf, hc', by show n - 1 - _ < n; omega⟩, e, ?_⟩
    simp only [iter]
    rw [ih]
    generalize iter (Pos.turn n) k ⟨f, r, c⟩ = q at e hr' hc'
    obtain ⟨qf, qr, qc⟩ := q
    subst e
    exact (face_turn qf hf qr qc hr').1

/-- ALL cube sizes: the L1 move of face `f`, depth `d`, direction `a` on a tabulated cube is the physical move -/
theorem specMove_tabulate {n d f a : Nat} (hd : 2 * d + 2 ≤ n) (hf : f < 6) (ha : a < 3) (g : Pos → α) :
    specMove f (amountValues.getD a 0) d (tabulate n g) = tabulate n (fun p => g (srcPos n f d a p)) := by
  have hn : 0 < n := by omega
  have hdn : d < n := by omega
  unfold specMove
  rw [cubeSize_tabulate hn]
  obtain ⟨R, hR, h1, h2⟩ := doRotation_tabulate hn g hf ha d _ _ _ (strip n d f) (idx_eq n d f)
    (fun k j hk hj => strip_valid hdn hf hk hj) (strip_inj hf)
  rw [hR]
  apply tabulate_congr
  intro p hp
  by_cases hex : ∃ k j, k < 4 ∧ j < n ∧ strip n d f k j = p
  · obtain ⟨k, j, hk, hj, rfl⟩ := hex
    rw [h1 k j hk hj]
    have hk' : (k + 4 - quarterTurns a) % 4 < 4 := Nat.mod_lt _ (by omega)
    have hne : (strip n d f ((k + 4 - quarterTurns a) % 4) j).f ≠ f := (spec_facts f hf _ hk').2.1
    have e1 : faceRot n f d a g (strip n d f ((k + 4 - quarterTurns a) % 4) j) =
        g (strip n d f ((k + 4 - quarterTurns a) % 4) j) := by simp [faceRot, hne]
    rw [e1]
    congr 1
    have hin : inLayer n f d (emb n (strip n d f k j)) := Or.inl (strip_height hdn hj hf hk)
    unfold srcPos physTurn
    rw [if_pos hin, ← strip_iter hdn hf hk hj, unemb_emb (strip_valid hdn hf (Nat.mod_lt _ (by omega)) hj)]
    congr 1
    have := quarterTurns_inv a
    omega
  · have hs : ∀ k j, k < 4 → j < n → strip n d f k j ≠ p := fun k j hk hj e => hex ⟨k, j, hk, hj, e⟩
    rw [h2 p hs]
    by_cases hfd : d = 0 ∧ p.f = f
    · obtain ⟨pf, r, c⟩ := p
      obtain ⟨hd0, hpf⟩ := hfd
      simp only at hpf
      subst hpf hd0
      obtain ⟨_, hr, hc⟩ := hp
      simp only at hr hc
      have hin : inLayer n pf 0 (emb n ⟨pf, r, c⟩) := Or.inr ⟨rfl, (face_turn pf hf r c hr).2⟩
      obtain ⟨hv, _, e⟩ := face_iter (n := n) hf hr hc (quarterTurns (invAmt a))
      unfold srcPos physTurn
      rw [if_pos hin, e, unemb_emb hv]; simp [faceRot]
    · have : ¬ inLayer n f d (emb n p) := fun hin =>
        (layer_cases hd hf hp hin).elim hfd (fun ⟨k, j, hk, hj, e⟩ => hs k j hk hj e)
      rw [srcPos_outside f d a hp this]
      simp [faceRot, hfd]

end final

section idx
variable {α : Type}

theorem allMoves_length (n : Nat) : (allMoves (α := α) n).length = 18 * (n / 2) := by
  unfold allMoves
  rw [length_flatMap_uniform _ _ ((n / 2) * 3)]
  · simp; omega
  · intro F _
    rw [length_flatMap_uniform _ _ 3]
    · simp
    · intro d _; simp [amountValues]

theorem allMoves_getD (n : Nat) (m : Move) (hm : legal n m) :
    (allMoves (α := α) n).getD (Move.flat n m) id = specMove m.face (amountValues.getD m.amt 0) m.depth := by
  obtain ⟨f, d, a⟩ := m
  obtain ⟨hf, hd, ha⟩ := hm
  simp only at hf hd ha
  unfold allMoves Move.flat
  simp only
  have e : f * 3 * (n / 2) + d * 3 + a = f * ((n / 2) * 3) + (d * 3 + a) := by
    rw [Nat.mul_assoc, Nat.mul_comm 3 (n / 2)]; omega
  rw [e]
  have hlt : d * 3 + a < (n / 2) * 3 := by omega
  rw [Grid.getD_flatMap_uniform _ _ ((n / 2) * 3) ?_ f (d * 3 + a) (by simpa using hf) hlt]
  · rw [gens_getElem f hf]
    rw [Grid.getD_flatMap_uniform _ _ 3 ?_ d a (by simpa using hd) ha]
    · simp only [List.getElem_range]
      have : a = 0 ∨ a = 1 ∨ a = 2 := by omega
      rcases this with rfl | rfl | rfl <;> simp [amountValues]
    · intro d' _; simp [amountValues]
  · intro F _
    rw [length_flatMap_uniform _ _ 3]
    · simp
    · intro d' _; simp [amountValues]

/-- the index `lax.switch` uses: `flat` clamped into `[0, len - 1]` -/
def clampFlat (len : Nat) (flat : Int) : Nat :=
  if flat < 0 then 0 else if flat ≥ (len : Int) then len - 1 else flat.toNat

theorem rotateCube_eq (c : Cube α) (flat : Int) :
    rotateCube c flat = (allMoves (cubeSize c)).getD (clampFlat (allMoves (α := α) (cubeSize c)).length flat) id c := rfl

theorem clampFlat_lt {len : Nat} (h : 0 < len) (flat : Int) : clampFlat len flat < len := by
  unfold clampFlat; split
  · exact h
  · split <;> omega

theorem clampFlat_natCast {len i : Nat} (h : i < len) : clampFlat len (i : Int) = i := by
  unfold clampFlat; rw [if_neg (by omega), if_neg (by omega)]; rfl

theorem rotateCube_tabulate {n : Nat} (g : Pos → α) (flat : Int) {m : Move} (hm : legal n m)
    (hf : clampFlat (18 * (n / 2)) flat = Move.flat n m) :
    rotateCube (tabulate n g) flat = tabulate n (fun p => g (srcPos n m.face m.depth m.amt p)) := by
  have hd : 2 * m.depth + 2 ≤ n := by have := hm.2.1; omega
  rw [rotateCube_eq, cubeSize_tabulate (by omega), allMoves_length, hf, allMoves_getD n m hm]
  exact specMove_tabulate hd hm.1 hm.2.2 g

end idx

/-- ALL cube sizes: every L1 move acts on the position-labelled cube as the physical source map -/
theorem tableOK_all (n : Nat) : tableOK n = true := by
  unfold tableOK
  rw [List.all_eq_true]
  intro i hi
  have hi' := List.mem_range.1 hi
  simp only [beq_iff_eq]
  exact rotateCube_tabulate id _ (legal_ofFlat hi') ((clampFlat_natCast hi').trans (flat_ofFlat i).symm)

/-! ### every colouring, every play, the step -/

/-- ALL cube sizes, every colouring, ANY flat index, in the action space or not: `rotate_cube` is the physical move whose flat
index is the clamped one (a shaped cube is the tabulation of its own colouring) -/
theorem rotateCube_eq_move_any {α : Type} [Inhabited α] {n : Nat} (hn : 2 ≤ n) {c : Cube α} (hc : Shaped n c) (flat : Int) :
    rotateCube c flat = move n c (Move.ofFlat n (clampFlat (18 * (n / 2)) flat)) := by
  have := rotateCube_tabulate (getP default c) flat (legal_ofFlat (clampFlat_lt (len := 18 * (n / 2)) (by omega) flat))
    (flat_ofFlat _).symm
  rwa [tabulate_getP default hc] at this

/-- on the action space the clamp does nothing -/
theorem rotateCube_eq_move {α : Type} [Inhabited α] {n : Nat} {c : Cube α} (hc : Shaped n c) {m : Move} (hm : legal n m) :
    rotateCube c (flattenAction n m.act) = move n c m := by
  rw [rotateCube_eq_move_any (by have := hm.2.1; omega) hc, Move.act, flattenAction_cast, clampFlat_natCast (flat_lt hm),
    ofFlat_flat hm]

theorem foldl_rotateCube_eq_playMoves {α : Type} [Inhabited α] {n : Nat} {c : Cube α} (hc : Shaped n c) {ms : List Move}
    (hl : ∀ m ∈ ms, legal n m) : (ms.map (fun m => flattenAction n m.act)).foldl rotateCube c = playMoves n c ms := by
  induction ms generalizing c with
  | nil => rfl
  | cons m t ih =>
    simp only [List.map_cons, List.foldl_cons]
    rw [rotateCube_eq_move hc (hl m (by simp))]
    exact ih (shaped_move n c m) (fun m' hm' => hl m' (by simp [hm']))

theorem scramble_eq_playMoves {n : Nat} {ms : List Move} (hl : ∀ m ∈ ms, legal n m) :
    scramble n (ms.map (fun m => flattenAction n m.act)) = playMoves n (goal n) ms := by
  unfold scramble; rw [solvedCube_eq_goal]; exact foldl_rotateCube_eq_playMoves (shaped_goal n) hl

theorem scramble_reachable {n : Nat} {ms : List Move} (hl : ∀ m ∈ ms, legal n m) :
    Reachable n (scramble n (ms.map (fun m => flattenAction n m.act))) :=
  ⟨ms, hl, (scramble_eq_playMoves hl).symm⟩

theorem step_reachable (cfg : Cfg) {s : State} (hr : Reachable cfg.n s.cube) {m : Move} (hm : legal cfg.n m) :
    Reachable cfg.n (step cfg s m.act).1.cube := by
  rw [step_cube, rotateCube_eq_move (shaped_of_reachable hr) hm]
  exact reachable_play hr (ms := [m]) (by simpa using hm)

theorem step_eq_stepL2 (cfg : Cfg) {s : State} (hc : Shaped cfg.n s.cube) {m : Move} (hm : legal cfg.n m) :
    step cfg s m.act = stepL2 cfg s m :=
  step_eq_stepL2_of cfg s m (rotateCube_eq_move hc hm)

end RubiksCube
