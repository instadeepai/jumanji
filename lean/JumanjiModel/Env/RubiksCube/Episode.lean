/-
RubiksCube: `observation_spec` / `action_spec` written as `Sp` values (`obsSpec`, `actionSpec`; they are the generated
declaration at the catalogue configurations: `rubik_obsSpec_generated`, Props/SpecTable.lean) and membership of an observation
with a shaped cube of colours 0..5 and a step count within the limit (`obs_valid`, C01; its instances for `reset` and `step` are in
Props/Env), the MID / LAST protocol of `step` for ALL states and actions (C03), whole episodes (`run`, C11) and reachability along
whole plays (C17).
-/
import JumanjiModel.Env.RubiksCube.Bounds
import JumanjiModel.Env.RubiksCube.General
import JumanjiModel.Env.SpecMembership
import JumanjiModel.Env.EpisodeLimit
namespace RubiksCube
open Jm Jx Sp PzS PzB

/-- `observation_spec`: `cube` BoundedArray((6, n, n), int8, 0, 5), `step_count` BoundedArray((), int32, 0, time_limit) -/
def obsSpec (cfg : Cfg) : Sp.Nested :=
  [("cube", .bounded [6, cfg.n, cfg.n] .int8 "cube" [] [0] [] [5]),
   ("step_count", .bounded [] .int32 "step_count" [] [0] [] [(cfg.timeLimit : Rat)])]

/-- `action_spec`: MultiDiscreteArray([6, n // 2, 3], int32) -/
def actionSpec (cfg : Cfg) : Leaf := .multiDiscrete [3] [6, cfg.n / 2, 3] .int32 "action"

/-- the shape of a nested-list cube, read off its first face and first row -/
def cubeShape (c : Cube Int) : List Nat := [c.length, (c.headD []).length, cubeSize c]

/-- a model observation as the arrays the implementation emits (cube int8, step_count int32) -/
def toNValue (o : Obs) : NValue :=
  [("cube", ⟨cubeShape o.cube, .int8, ofInts o.cube.flatten.flatten⟩),
   ("step_count", ⟨[], .int32, [(o.stepCount : Rat)]⟩)]

/-- an action of the model as the array the implementation receives -/
def actionArr (a : Int × Int × Int) : Arr := ⟨[3], .int32, [(a.1 : Rat), (a.2.1 : Rat), (a.2.2 : Rat)]⟩

theorem shaped_lengths {n : Nat} {c : Cube Int} (hc : Shaped n c) :
    cubeShape c = [6, n, n] ∧ c.flatten.flatten.length = 6 * n * n := by
  by_cases hn : 0 < n
  · exact PkS.shape3_of_rect hc (by omega) hn
  · -- `n = 0`: six empty faces
    obtain rfl : n = 0 := by omega
    have he : ∀ g ∈ c, g = [] := fun g hg => List.eq_nil_of_length_eq_zero (hc.2 g hg).1
    have hfl : c.flatten = [] := List.flatten_eq_nil_iff.2 he
    refine ⟨?_, by simp [hfl]⟩
    match c, hc.1, he with
    | g :: _, h6, he => simpa [cubeShape, cubeSize, he g (by simp)] using h6

theorem obs_valid_iff (cfg : Cfg) (o : Obs) : (obsSpec cfg).valid (toNValue o) = true ↔
    cubeShape o.cube = [6, cfg.n, cfg.n] ∧ o.cube.flatten.flatten.length = 6 * cfg.n * cfg.n ∧ ColoursInRange o.cube ∧
    0 ≤ o.stepCount ∧ o.stepCount ≤ cfg.timeLimit := by
  simp only [obsSpec, toNValue, ColoursInRange, valid_cons, valid_nil, valid_scalar_bounded_iff, forall_ofInts,
    PkS.ofInts_length, prod_nil, prod_three, List.forall_mem_singleton, List.length_singleton, Rat.intCast_nonneg,
    Rat.intCast_le_intCast, intCast_le_ofNat, true_and, and_true, and_assoc]

/-- C01: an observation whose cube is `(6, n, n)` with colours 0..5 and whose step count is in `[0, time_limit]` is a member
of `observation_spec` -/
theorem obs_valid (cfg : Cfg) (o : Obs) (hc : Shaped cfg.n o.cube) (hr : ColoursInRange o.cube)
    (hs : 0 ≤ o.stepCount ∧ o.stepCount ≤ cfg.timeLimit) : (obsSpec cfg).valid (toNValue o) = true :=
  (obs_valid_iff cfg o).2 ⟨(shaped_lengths hc).1, (shaped_lengths hc).2, hr, hs⟩

/-- conversely, `validate` accepts nothing else -/
theorem obs_valid_only (cfg : Cfg) (o : Obs) (h : (obsSpec cfg).valid (toNValue o) = true) :
    cubeShape o.cube = [6, cfg.n, cfg.n] ∧ ColoursInRange o.cube ∧ 0 ≤ o.stepCount ∧ o.stepCount ≤ cfg.timeLimit :=
  have ⟨h1, _, h2⟩ := (obs_valid_iff cfg o).1 h
  ⟨h1, h2⟩

/-! ### C03: the protocol, for ALL states and actions (also after LAST, also outside the action space) -/

theorem step_protocol (cfg : Cfg) (s : State) (a : Int × Int × Int) : StepOK none false (step cfg s a).2 = true :=
  condLast_stepOK ..

theorem step_mid_or_last (cfg : Cfg) (s : State) (a : Int × Int × Int) :
    (step cfg s a).2.stepType = .last ∨ (step cfg s a).2.stepType = .mid := by
  exact (condLast_mid_or_last ..).symm

/-! ### C01: the action `generate_value()` -/

/-- C01: for every constructible cube size (`n ≥ 2`, otherwise `action_spec` itself is rejected by its constructor) the action
`generate_value()` is an action of the action space, and `step` answers it with a protocol-conform timestep (`hbig`: the
largest depth `n / 2 - 1` fits the int32 dtype, which the well-formedness of the spec asks for) -/
theorem accepts_generate_value (cfg : Cfg) (hn : 2 ≤ cfg.n) (hbig : cfg.n / 2 ≤ 2147483648) (s : State) :
    (actionSpec cfg).WF = true ∧ (actionSpec cfg).valid (actionSpec cfg).generate = true ∧
    (actionSpec cfg).generate = actionArr (Move.act ⟨0, 0, 0⟩) ∧ legal cfg.n ⟨0, 0, 0⟩ ∧
    StepOK none false (step cfg s (Move.act ⟨0, 0, 0⟩)).2 = true :=
  have hh : 0 < cfg.n / 2 := Nat.div_pos hn (by omega)
  have hw : (actionSpec cfg).WF = true := WF_multiDiscrete _ _ _ _ rfl rfl (List.forall_mem_cons.2
    ⟨⟨by omega, fits_int32_pred (by omega)⟩, List.forall_mem_cons.2 ⟨⟨hh, fits_int32_pred hbig⟩,
      List.forall_mem_cons.2 ⟨⟨by omega, fits_int32_pred (by omega)⟩, fun _ h => nomatch h⟩⟩⟩)
  ⟨hw, Leaf.generate_valid _ hw, rfl, ⟨Nat.zero_lt_succ _, hh, Nat.zero_lt_succ _⟩, step_protocol cfg s _⟩

/-! ### C11: whole episodes -/

theorem run_eq_run (cfg : Cfg) (s : State) (as : List (Int × Int × Int)) : run cfg s as = EpRun.run (step cfg) s as :=
  EpRun.run_unique (step cfg) (run cfg) (fun _ => rfl) (fun _ _ _ => rfl) s as

theorem run_eq (cfg : Cfg) (s : State) (as : List (Int × Int × Int)) : run cfg s as = EpL.run (step cfg) s as :=
  (run_eq_run cfg s as).trans (EpL.run_eq_run (step cfg) s as).symm

theorem run_length (cfg : Cfg) (s : State) (as : List (Int × Int × Int)) : (run cfg s as).length = as.length := by
  rw [run_eq, EpL.run_length]

/-- an episode from a state with step count 0 under ANY actions (at least `time_limit` of them): the first LAST comes at some
step `k` with `0 < k ≤ time_limit`, every earlier step is MID on an unsolved cube, the step count of every state up to the
terminal one is within `[0, time_limit]`, and `k = time_limit` exactly when no cube before was solved -/
theorem episode_ends_by_limit (cfg : Cfg) (T : Nat) (hT : cfg.timeLimit = (T : Int)) (hpos : 0 < T) (s0 : State)
    (h0 : s0.stepCount = 0) (as : List (Int × Int × Int)) (hlen : T ≤ as.length) :
    ∃ k, 0 < k ∧ k ≤ T ∧
      EpL.EndsAt (run cfg s0 as) (fun s => s.stepCount) (fun s => isSolved s.cube) (T : Int) k ∧
      ((∀ j r, j < T - 1 → (run cfg s0 as)[j]? = some r → isSolved r.1.cube = false) → k = T) := by
  rw [run_eq]
  exact EpL.ends_by_limit (step cfg) (fun s => s.stepCount) (fun s => isSolved s.cube) T hpos
    (fun s a => step_count cfg s a)
    (fun s a => by rw [step_last_iff, hT])
    (fun s a => step_mid_or_last cfg s a) s0 h0 as hlen

theorem run_obs_count (cfg : Cfg) (s : State) (as : List (Int × Int × Int)) :
    ∀ r ∈ run cfg s as, r.2.obs.stepCount = r.1.stepCount := by
  intro r hr
  obtain ⟨s', a, rfl⟩ := EpRun.exists_of_mem_run (step cfg) s as r (run_eq_run cfg s as ▸ hr)
  rw [step_obs]; rfl

/-! ### C17: reachability along whole plays -/

theorem run_reachable (cfg : Cfg) (s : State) (hr : Reachable cfg.n s.cube) (ms : List Move)
    (hl : ∀ m ∈ ms, legal cfg.n m) :
    ∀ r ∈ run cfg s (ms.map Move.act), Reachable cfg.n r.1.cube ∧ Solvable cfg.n r.1.cube := by
  intro r hr'
  rw [run_eq_run, EpRun.run_map] at hr'
  obtain ⟨s', m, hs', hm, rfl⟩ := ((EpRun.along_iff_forall _ _ s ms).2 hl).forall_run (fun s => Reachable cfg.n s.cube) hr
    (fun _ _ h hm => step_reachable cfg h hm) r hr'
  exact ⟨step_reachable cfg hs' hm, reachable_solvable (step_reachable cfg hs' hm)⟩

theorem foldl_step_reachable (cfg : Cfg) (s : State) (hr : Reachable cfg.n s.cube) (ms : List Move)
    (hl : ∀ m ∈ ms, legal cfg.n m) :
    Reachable cfg.n (ms.foldl (fun s m => (step cfg s m.act).1) s).cube :=
  EpRun.after_eq_foldl (fun s (m : Move) => step cfg s m.act) s ms ▸
    ((EpRun.along_iff_forall _ _ s ms).2 hl).inv (fun s => Reachable cfg.n s.cube) hr fun _ _ h hm => step_reachable cfg h hm

end RubiksCube
