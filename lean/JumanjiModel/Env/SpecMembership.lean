/-
C01, spec membership: what `validate` (`Sp.Leaf.valid`, `Sp.Nested.valid`) says about the arrays of Env/SpecValues.lean.

Every leaf an environment emits is `⟨shape read off the value, dtype, cast data⟩` and every declared leaf is of one of four
kinds, so membership of an observation in its `observation_spec` factors into independent questions, each answered once, as
an equivalence:

* the nested spec: keys equal and leaves accepted pairwise;
* the KIND of the declared leaf, for any array value (`BoundedArray` with scalar bounds, unbounded `Array`, `DiscreteArray`,
  `MultiDiscreteArray`: the `valid_…_iff`) — shape, dtype, number of elements, every element within its bounds;
* the DATA: integers, naturals and Booleans cast to the rationals the spec algebra compares, and the casts that reflect the
  order (core's `Rat.intCast_le_intCast`, `Rat.intCast_nonneg`; `intCast_le_ofNat`, `natCast_le_ofNat` for numeral bounds);
* the SHAPE read off a nested list (`shape1_eq`, `shape2_of_rect` … `shape4_of_rect`, `gridShape_of_rows`).

Rewriting `(obsSpec cfg).valid (toNValue o) = true` with these (`simp only`) gives the statement about the model's observation
it amounts to; an environment states that once (`obs_valid_iff`) and reads both directions off it.

Also here: well-formedness and `generate_value()` of the discrete kinds (for the action specs), reward / discount of a
protocol-conform timestep (`stepOK_valid` and its scalar and per-agent instances), the joint action spec `MaS.actionSpecN`.
-/
import JumanjiModel.Env.SpecValues
import JumanjiModel.Spec.Lemmas
import JumanjiModel.Core.TimeStepLemmas
import JumanjiModel.Prim.GridLemmas
namespace PzS
open Sp

theorem valid_nil : Nested.valid [] [] = true := rfl

theorem valid_cons (k k' : String) (l : Leaf) (a : Arr) (s : Nested) (v : NValue) :
    Nested.valid ((k, l) :: s) ((k', a) :: v) = true ↔ k = k' ∧ l.valid a = true ∧ Nested.valid s v = true := by
  simp only [Nested.valid, List.map_cons, List.zipWith_cons_cons, List.all_cons, id, Bool.and_eq_true, beq_iff_eq,
    List.cons.injEq]
  exact ⟨fun ⟨⟨a, b⟩, c, d⟩ => ⟨a, c, b, d⟩, fun ⟨a, c, b, d⟩ => ⟨⟨a, b⟩, c, d⟩⟩

theorem broadcast_scalar (x : Rat) (s : List Nat) :
    broadcastTo [] [x] s = some (List.replicate (prod s) x) := by
  refine broadcastTo_eq_some.2 ⟨by simp [broadcastable], List.ext_getElem (by simp) fun i h1 h2 => ?_⟩
  simp [ravel]

/-- the scalar bounds are broadcast over the whole leaf: computed (`broadcast_scalar`), not assumed -/
theorem valid_scalar_bounded_iff (s : List Nat) (d : DType) (n : String) (lo hi : Rat) (v : Arr) :
    (Leaf.bounded s d n [] [lo] [] [hi]).valid v = true ↔
      v.shape = s ∧ v.dtype = d ∧ v.data.length = prod s ∧ ∀ x ∈ v.data, lo ≤ x ∧ x ≤ hi := by
  rw [Leaf.valid_iff]
  simp only [Leaf.shape, Leaf.dtype, Leaf.lower, Leaf.upper, broadcast_scalar, reduceCtorEq, false_and, false_or,
    Option.some.injEq]
  refine and_congr_right fun _ => and_congr_right fun _ => and_congr_right fun hl => ?_
  constructor
  · rintro ⟨_, _, rfl, rfl, h⟩ x hx
    obtain ⟨k, hk, rfl⟩ := List.getElem_of_mem hx
    simpa using h k hk (by simp; omega)
  · intro h
    exact ⟨_, _, rfl, rfl, fun k h1 _ => by simpa using h _ (List.getElem_mem h1)⟩

theorem WF_scalar_bounded (s : List Nat) (d : DType) (n : String) (lo hi : Rat) (h : lo ≤ hi)
    (hlo : d.fits lo = true) (hhi : d.fits hi = true) : (Leaf.bounded s d n [] [lo] [] [hi]).WF = true := by
  simp [Leaf.WF, Leaf.WF0, Leaf.fitsDType, Leaf.lower, Leaf.upper, broadcast_scalar, broadcastable, prod, hlo, hhi, h]

theorem valid_array_iff (s : List Nat) (d : DType) (n : String) (v : Arr) :
    (Leaf.array s d n).valid v = true ↔ v.shape = s ∧ v.dtype = d ∧ v.data.length = prod s := by
  rw [Leaf.valid_iff]
  simp [Leaf.shape, Leaf.dtype, Leaf.lower, Leaf.upper]

theorem prod_nil : prod [] = 1 := rfl
theorem prod_one (a : Nat) : prod [a] = a := by simp [prod]
theorem prod_two (a b : Nat) : prod [a, b] = a * b := by simp [prod]
theorem prod_three (a b c : Nat) : prod [a, b, c] = a * b * c := by simp [prod]

theorem forall_ofInts {P : Rat → Prop} (l : List Int) : (∀ x ∈ ofInts l, P x) ↔ ∀ v ∈ l, P (v : Rat) :=
  List.forall_mem_map

theorem forall_ofNats {P : Rat → Prop} (l : List Nat) : (∀ x ∈ PkS.ofNats l, P x) ↔ ∀ v ∈ l, P (v : Rat) :=
  List.forall_mem_map

theorem ofBools_bounds (l : List Bool) : ∀ x ∈ ofBools l, (0 : Rat) ≤ x ∧ x ≤ 1 := by
  intro x hx
  simp only [ofBools, List.mem_map] at hx
  obtain ⟨b, _, rfl⟩ := hx
  cases b <;> simp <;> decide

/-- in this form a rewrite rule: it removes the bounds clause of a Boolean leaf -/
theorem forall_ofBools (l : List Bool) : (∀ x ∈ ofBools l, (0 : Rat) ≤ x ∧ x ≤ 1) ↔ True :=
  iff_true_intro (ofBools_bounds l)

theorem intCast_le_ofNat {v : Int} {n : Nat} : (v : Rat) ≤ (no_index (OfNat.ofNat n)) ↔ v ≤ (no_index (OfNat.ofNat n)) :=
  Rat.intCast_le_intCast (b := OfNat.ofNat n)

theorem natCast_le_ofNat {v n : Nat} : (v : Rat) ≤ (no_index (OfNat.ofNat n)) ↔ v ≤ (no_index (OfNat.ofNat n)) :=
  Rat.natCast_le_natCast (b := OfNat.ofNat n)

theorem neg_ofNat_le_intCast {v : Int} {n : Nat} :
    -(no_index (OfNat.ofNat n) : Rat) ≤ (v : Rat) ↔ -(no_index (OfNat.ofNat n) : Int) ≤ v :=
  Rat.intCast_le_intCast (a := -(OfNat.ofNat n))

theorem singleton_eq {m n : Nat} : [m] = [n] ↔ m = n := by simp

end PzS

namespace PkS
open Sp PzS

theorem ofNats_length (l : List Nat) : (ofNats l).length = l.length := by simp [ofNats]
theorem ofBools_length (l : List Bool) : (ofBools l).length = l.length := by simp [ofBools]
theorem ofInts_length (l : List Int) : (ofInts l).length = l.length := by simp [ofInts]

theorem shape1_eq {α : Type} (l : List α) (m : Nat) : shape1 l = [m] ↔ l.length = m := by
  simp [shape1]

theorem rect2_of_shaped {α : Type} {g : List (List α)} {r c : Nat} (h : Jx.Grid.shaped g r c = true) : Rect2 g r c :=
  (Jx.Grid.shaped_iff_mem g r c).1 h

theorem shaped_of_rect2 {α : Type} {g : List (List α)} {r c : Nat} (h : Rect2 g r c) : Jx.Grid.shaped g r c = true :=
  (Jx.Grid.shaped_iff_mem g r c).2 h

theorem shape2_of_rect {α : Type} {g : List (List α)} {r c : Nat} (h : Rect2 g r c) (hr : 0 < r) :
    shape2 g = [r, c] ∧ g.flatten.length = r * c := by
  obtain ⟨h1, h2⟩ := h
  refine ⟨?_, by rw [Jx.Grid.flatten_length h2, h1]⟩
  match g, h1, h2 with
  | [], h1, _ => simp at h1; omega
  | row :: rest, h1, h2 =>
    simp only [shape2, List.headD_cons]
    rw [h1, h2 row (by simp)]

theorem shape3_of_rect {α : Type} {g : List (List (List α))} {a r c : Nat} (h : Rect3 g a r c) (ha : 0 < a)
    (hr : 0 < r) : shape3 g = [a, r, c] ∧ g.flatten.flatten.length = a * r * c := by
  obtain ⟨h1, h2⟩ := h
  have hrows : ∀ row ∈ g.flatten, row.length = c := by
    intro row hrow
    obtain ⟨x, hx, hr'⟩ := List.mem_flatten.mp hrow
    exact (h2 x hx).2 row hr'
  have hfl : g.flatten.length = a * r := by
    rw [Jx.Grid.flatten_length (fun x hx => (h2 x hx).1), h1]
  refine ⟨?_, by rw [Jx.Grid.flatten_length hrows, hfl]⟩
  match g, h1, h2 with
  | [], h1, _ => simp at h1; omega
  | x :: rest, h1, h2 =>
    simp only [shape3, List.headD_cons]
    rw [h1, (shape2_of_rect (h2 x (by simp)) hr).1]

theorem shape4_of_rect {α : Type} {g : List (List (List (List α)))} {a b r c : Nat} (h : Rect4 g a b r c) (ha : 0 < a)
    (hb : 0 < b) (hr : 0 < r) : shape4 g = [a, b, r, c] ∧ g.flatten.flatten.flatten.length = a * b * r * c := by
  obtain ⟨h1, h2⟩ := h
  have h3 : Rect3 g.flatten (a * b) r c := by
    refine ⟨by rw [Jx.Grid.flatten_length (fun x hx => (h2 x hx).1), h1], ?_⟩
    intro y hy
    obtain ⟨x, hx, hy'⟩ := List.mem_flatten.mp hy
    exact (h2 x hx).2 y hy'
  refine ⟨?_, (shape3_of_rect h3 (Nat.mul_pos ha hb) hr).2⟩
  match g, h1, h2 with
  | [], h1, _ => simp at h1; omega
  | x :: rest, h1, h2 =>
    simp only [shape4, List.headD_cons]
    rw [h1, (shape3_of_rect (h2 x (by simp)) hb hr).1]

theorem prod_four (a b c d : Nat) : prod [a, b, c, d] = a * b * c * d := by simp [prod]

/-- `DiscreteArray(n)`: a scalar in `0 … n − 1` -/
theorem valid_discrete_iff (n : Nat) (d : DType) (nm : String) (v : Arr) :
    (Leaf.discrete n d nm).valid v = true ↔
      v.shape = [] ∧ v.dtype = d ∧ ∃ x, v.data = [x] ∧ (0 : Rat) ≤ x ∧ x ≤ (((n : Int) - 1 : Int) : Rat) := by
  obtain ⟨sh, dt, data⟩ := v
  rw [Leaf.valid_iff]
  simp only [Leaf.shape, Leaf.dtype, Leaf.lower, Leaf.upper, prod, List.foldl_nil, reduceCtorEq, false_and, false_or,
    Option.some.injEq]
  constructor
  · rintro ⟨h1, h2, h3, lo, hi, rfl, rfl, h4⟩
    match data, h3, h4 with
    | [x], _, h4 =>
      have := h4 0 (by simp) (by simp)
      exact ⟨h1, h2, x, rfl, by simpa using this.1, by simpa using this.2⟩
  · rintro ⟨h1, h2, x, rfl, h3, h4⟩
    refine ⟨h1, h2, rfl, _, _, rfl, rfl, ?_⟩
    intro k hk1 hk2
    have : k = 0 := by simp at hk1; omega
    subst this
    exact ⟨by simpa using h3, by simpa using h4⟩

end PkS

namespace PzS3
open Sp PzS

/-- `R` rows all of length `C` (for `R = 0` the value carries no column count: then `C = 0` is required) -/
theorem gridShape_of_rows {α : Type} (g : List (List α)) (R C : Nat) (hl : g.length = R)
    (hrows : ∀ row ∈ g, row.length = C) (h0 : R = 0 → C = 0) :
    gridShape g = [R, C] ∧ g.flatten.length = R * C := by
  rcases Nat.eq_zero_or_pos R with rfl | hR
  · simp [gridShape, List.length_eq_zero_iff.1 hl, h0 rfl]
  · exact PkS.shape2_of_rect ⟨hl, hrows⟩ hR

theorem gridShape_length {α : Type} (g : List (List α)) (R C : Nat) (h : gridShape g = [R, C]) : g.length = R := by
  simp only [gridShape, List.cons.injEq, and_true] at h
  exact h.1

end PzS3

namespace PzS
open Sp PkS

theorem valid_discrete_int_iff (n : Nat) (d : DType) (nm : String) (sh : List Nat) (d' : DType) (p : Int) :
    (Leaf.discrete n d nm).valid ⟨sh, d', [(p : Rat)]⟩ = true ↔ sh = [] ∧ d' = d ∧ 0 ≤ p ∧ p < (n : Int) := by
  rw [PkS.valid_discrete_iff]
  simp only [List.cons.injEq, and_true, exists_eq_left', Rat.intCast_nonneg, Rat.intCast_le_intCast]
  refine and_congr_right fun _ => and_congr_right fun _ => and_congr_right fun _ => ?_
  omega

theorem valid_discrete_nat_iff (n : Nat) (d : DType) (nm : String) (sh : List Nat) (d' : DType) (x : Nat) :
    (Leaf.discrete n d nm).valid ⟨sh, d', [(x : Rat)]⟩ = true ↔ sh = [] ∧ d' = d ∧ x < n := by
  rw [← Rat.intCast_natCast, valid_discrete_int_iff]
  simp only [Int.natCast_nonneg, Int.ofNat_lt, true_and]

theorem all_zipWith_multi (data : List Rat) : ∀ nv : List Nat,
    (List.zipWith (fun x (b : Rat × Rat) => decide (b.1 ≤ x) && decide (x ≤ b.2)) data
      (List.zip (nv.map fun _ => (0 : Rat)) (nv.map fun (n : Nat) => (((n : Int) - 1 : Int) : Rat)))).all id = true ↔
    ∀ p ∈ List.zip data nv, 0 ≤ p.1 ∧ p.1 ≤ (((p.2 : Int) - 1 : Int) : Rat) := by
  induction data with
  | nil => intro nv; simp
  | cons x xs ih =>
    intro nv
    cases nv with
    | nil => simp
    | cons n ns =>
      simp only [List.map_cons, List.zip_cons_cons, List.zipWith_cons_cons, List.all_cons, id, Bool.and_eq_true,
        decide_eq_true_eq, ih ns, List.forall_mem_cons, and_assoc]

/-- `MultiDiscreteArray(nv)`: shape, dtype, one entry per count, entry `k` in `0 … nv[k] − 1` (`≤ nv[k] − 1` and not `< nv[k]`:
`validate` compares rationals and does not ask for integers) -/
theorem valid_multiDiscrete_iff (s nv : List Nat) (d : DType) (nm : String) (v : Arr) :
    (Leaf.multiDiscrete s nv d nm).valid v = true ↔ v.shape = s ∧ v.dtype = d ∧ v.data.length = prod s ∧
      ∀ p ∈ List.zip v.data nv, 0 ≤ p.1 ∧ p.1 ≤ (((p.2 : Int) - 1 : Int) : Rat) := by
  simp only [Leaf.valid, Leaf.lower, Leaf.upper, Bool.and_eq_true, beq_iff_eq, all_zipWith_multi, and_assoc]
  -- `decide_eq_true_eq` does not fire here under `simp only`: the instance still mentions `Leaf.shape (multiDiscrete …)`
  exact and_congr decide_eq_true_iff (and_congr decide_eq_true_iff Iff.rfl)

theorem forall_zip_ofInts (as : List Int) (nv : List Nat) :
    (∀ p ∈ List.zip (ofInts as) nv, 0 ≤ p.1 ∧ p.1 ≤ (((p.2 : Int) - 1 : Int) : Rat)) ↔
      ∀ p ∈ List.zip as nv, 0 ≤ p.1 ∧ p.1 < (p.2 : Int) := by
  rw [ofInts, List.zip_map_left, List.forall_mem_map]
  refine forall_congr' fun p => imp_congr_right fun _ => ?_
  simp only [Prod.map_fst, Prod.map_snd, id, Rat.intCast_nonneg, Rat.intCast_le_intCast]
  omega

theorem forall_zip_replicate {P : Int → Nat → Prop} (m : Nat) :
    ∀ as : List Int, (∀ p ∈ List.zip as (List.replicate as.length m), P p.1 p.2) ↔ ∀ a ∈ as, P a m
  | [] => by simp
  | a :: as => by
    simp only [List.length_cons, List.replicate_succ, List.zip_cons_cons, List.forall_mem_cons, forall_zip_replicate m as]

/-- all counts equal: `MultiDiscreteArray([m] * k)`, the joint action of `k` agents -/
theorem valid_multiDiscrete_replicate_iff (k m : Nat) (d : DType) (nm : String) (sh : List Nat) (d' : DType)
    (as : List Int) :
    (Leaf.multiDiscrete [k] (List.replicate k m) d nm).valid ⟨sh, d', ofInts as⟩ = true ↔
      sh = [k] ∧ d' = d ∧ as.length = k ∧ ∀ a ∈ as, 0 ≤ a ∧ a < (m : Int) := by
  rw [valid_multiDiscrete_iff, forall_zip_ofInts, ofInts_length, prod_one]
  refine and_congr_right fun _ => and_congr_right fun _ => and_congr_right fun h => ?_
  subst h
  exact forall_zip_replicate (P := fun a n => 0 ≤ a ∧ a < (n : Int)) m as

theorem fits_intCast {d : DType} {lo hi : Int} (hr : d.intRange = some (lo, hi)) {z : Int} (h1 : lo ≤ z) (h2 : z ≤ hi) :
    d.fits (z : Rat) = true := by
  simp [DType.fits, hr, Rat.den_intCast, Rat.num_intCast, h1, h2]

/-- the largest of `n` action numbers is an `int32` as long as `n ≤ 2³¹` -/
theorem fits_int32_pred {n : Nat} (h : n ≤ 2147483648) : DType.int32.fits ((((n : Int) - 1 : Int)) : Rat) = true :=
  fits_intCast (lo := -2147483648) (hi := 2147483647) rfl (by omega) (by omega)

theorem WF_multiDiscrete (s nv : List Nat) (d : DType) (nm : String) (hl : nv.length = prod s) (hd : d.isInt = true)
    (h : ∀ n ∈ nv, 0 < n ∧ d.fits ((((n : Int) - 1 : Int)) : Rat) = true) : (Leaf.multiDiscrete s nv d nm).WF = true := by
  simp only [Leaf.WF, Leaf.WF0, Leaf.fitsDType, Bool.and_eq_true, beq_iff_eq, List.all_eq_true, decide_eq_true_eq]
  exact ⟨⟨⟨hl, fun n hn => (h n hn).1⟩, hd⟩, fun n hn => (h n hn).2⟩

theorem WF_discrete (n : Nat) (d : DType) (nm : String) (hn : 0 < n) (hd : d.isInt = true)
    (h : d.fits ((((n : Int) - 1 : Int)) : Rat) = true) : (Leaf.discrete n d nm).WF = true := by
  simp only [Leaf.WF, Leaf.WF0, Leaf.fitsDType, Bool.and_eq_true, decide_eq_true_eq]
  exact ⟨⟨hn, hd⟩, h⟩

theorem generate_multiDiscrete (s nv : List Nat) (d : DType) (nm : String) :
    (Leaf.multiDiscrete s nv d nm).generate = ⟨s, d, nv.map fun _ => 0⟩ := rfl

theorem generate_discrete (n : Nat) (d : DType) (nm : String) : (Leaf.discrete n d nm).generate = ⟨[], d, [0]⟩ := rfl

/-- `generate_value()` of a `DiscreteArray` is a member of it: no bound on `n` is needed (C16's `Leaf.generate_valid0`) -/
theorem valid_generate_discrete (n : Nat) (d : DType) (nm : String) (hn : 0 < n) (hd : d.isInt = true) :
    (Leaf.discrete n d nm).valid (Leaf.discrete n d nm).generate = true :=
  Leaf.generate_valid0 _ (by simp [Leaf.WF0, hn, hd])

open Jm in
/-- `reward_spec = Array(shape, float)` and `discount_spec = BoundedArray(shape, float, 0, 1)`, for any declared shape with as
many elements as the protocol's reward shape -/
theorem stepOK_valid {O : Type} {sh : RShape} {truncOK : Bool} {ts : TimeStep O} (h : StepOK sh truncOK ts = true)
    (s : List Nat) (hs : prod s = sh.size) :
    (Leaf.array s .float32 "reward").valid ⟨s, .float32, ts.reward⟩ = true ∧
    (Leaf.bounded s .float32 "discount" [] [0] [] [1]).valid ⟨s, .float32, ts.discount⟩ = true :=
  have ⟨hr, hd, h01⟩ := stepOK_arrays h
  ⟨(valid_array_iff ..).2 ⟨rfl, rfl, hr.trans hs.symm⟩, (valid_scalar_bounded_iff ..).2 ⟨rfl, rfl, hd.trans hs.symm, h01⟩⟩

open Jm in
theorem stepOK_reward_discount_valid {O : Type} (truncOK : Bool) (ts : TimeStep O) (h : StepOK none truncOK ts = true) :
    rewardSpec.valid (scalarArr ts.reward) = true ∧ discountSpec.valid (scalarArr ts.discount) = true :=
  stepOK_valid h [] rfl

end PzS

namespace PzS3
open Sp PzS Jm

theorem condLast_reward_discount_valid {O : Type} (done : Bool) (x : Rat) (o : O) :
    rewardSpec.valid (scalarArr (condLast done [x] o).reward) = true ∧
    discountSpec.valid (scalarArr (condLast done [x] o).discount) = true :=
  stepOK_reward_discount_valid false _ (condLast_stepOK done x o)

theorem restart_reward_discount_valid {O : Type} (o : O) :
    rewardSpec.valid (scalarArr (restart o).reward) = true ∧
    discountSpec.valid (scalarArr (restart o).discount) = true :=
  ⟨by show rewardSpec.valid (scalarArr (zerosR none)) = true; decide,
   by show discountSpec.valid (scalarArr (onesR none)) = true; decide⟩

end PzS3

/-! ## the multi-agent leaves: reward / discount of shape `(k,)`, the joint action `MultiDiscreteArray([m] * k, int32)` -/
namespace MaS
open Sp PzS PkS Jm

theorem reward_valid_iff (k : Nat) (r : List Rat) : (rewardSpecN k).valid (vecArr r) = true ↔ r.length = k := by
  simp only [rewardSpecN, vecArr, valid_array_iff, prod_one, singleton_eq, true_and, and_self]

theorem discount_valid_iff (k : Nat) (d : List Rat) :
    (discountSpecN k).valid (vecArr d) = true ↔ d.length = k ∧ ∀ x ∈ d, 0 ≤ x ∧ x ≤ 1 := by
  simp only [discountSpecN, vecArr, valid_scalar_bounded_iff, prod_one, singleton_eq, true_and, and_self_left]

theorem stepOK_reward_discount_valid {O : Type} (k : Nat) (truncOK : Bool) (ts : TimeStep O)
    (h : StepOK (some k) truncOK ts = true) :
    (rewardSpecN k).valid (vecArr ts.reward) = true ∧ (discountSpecN k).valid (vecArr ts.discount) = true := by
  -- `vecArr` reads the shape off the value: it is the declared `(k,)` because both arrays have `k` entries
  obtain ⟨hr, hd, _⟩ := stepOK_arrays h
  have := stepOK_valid h [k] (prod_one k)
  rwa [vecArr, vecArr, hr, hd]

theorem restart_reward_discount_valid {O : Type} (k : Nat) (o : O) :
    (rewardSpecN k).valid (vecArr (restart o (some k)).reward) = true ∧
    (discountSpecN k).valid (vecArr (restart o (some k)).discount) = true := by
  refine ⟨(reward_valid_iff k _).2 (by simp [restart, zerosR, RShape.size]),
    (discount_valid_iff k _).2 ⟨by simp [restart, onesR, RShape.size], ?_⟩⟩
  intro x hx
  simp only [restart, onesR, List.mem_replicate] at hx
  rw [hx.2]; exact ⟨by decide, by decide⟩

theorem actionSpecN_generate (k m : Nat) : (actionSpecN k m).generate = actionArr (List.replicate k 0) := by
  simp [actionSpecN, generate_multiDiscrete, actionArr, ofInts]

theorem actionSpecN_WF (k m : Nat) (hm : 0 < m) (hbig : m ≤ 2147483648) : (actionSpecN k m).WF = true :=
  WF_multiDiscrete _ _ _ _ (by simp [prod]) rfl fun _ hn => (List.mem_replicate.1 hn).2 ▸ ⟨hm, fits_int32_pred hbig⟩

theorem actionSpecN_valid_iff (k m : Nat) (as : List Int) :
    (actionSpecN k m).valid (actionArr as) = true ↔ as.length = k ∧ ∀ a ∈ as, 0 ≤ a ∧ a < (m : Int) := by
  rw [actionSpecN, actionArr, valid_multiDiscrete_replicate_iff, singleton_eq]
  exact ⟨fun h => h.2.2, fun h => ⟨h.1, rfl, h⟩⟩

theorem actionSpecN_accepts_generate (k m : Nat) (hm : 0 < m) (hbig : m ≤ 2147483648) :
    (actionSpecN k m).WF = true ∧ (actionSpecN k m).valid (actionSpecN k m).generate = true ∧
    (actionSpecN k m).generate = actionArr (List.replicate k 0) :=
  ⟨actionSpecN_WF k m hm hbig, Leaf.generate_valid _ (actionSpecN_WF k m hm hbig), actionSpecN_generate k m⟩

end MaS
