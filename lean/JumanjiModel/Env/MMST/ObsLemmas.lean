/-
MMST, C12: the L2 observation carries the mask the RULES prescribe (`legalMask`); it equals
the L1 observation (`_state_to_observation`, cached mask) on every state whose cached mask is the mask function of
its own arrays and flags — all successors of `step` in the repaired configuration and all reset states.
-/
import JumanjiModel.Env.MMST.Walk
import JumanjiModel.Prim.GridLemmas
namespace MMST
open Jm

theorem makeMask_shaped {cfg : Cfg} {s : State} (hS : Shaped cfg s) (fin : List Bool) :
    Jx.Grid.shaped (makeMask cfg.numAgents s.nodeEdges s.positions fin) cfg.numAgents cfg.numNodes = true :=
  (Jx.Grid.shaped_iff ..).2 ⟨by simp [makeMask], fun _ hi => makeMask_row_length hS fin hi⟩

theorem makeMask_eq_legalMask {cfg : Cfg} {s : State} (hS : Shaped cfg s) (hE : EdgesOK cfg s)
    (hF : FlagsFresh cfg s) : makeMask cfg.numAgents s.nodeEdges s.positions s.finished = legalMask cfg s :=
  Jx.Grid.eq_table_decide (makeMask_shaped hS _) fun _ hi _ ha => mask_iff_legal hS hE hF hi ha

theorem obs_eq {cfg : Cfg} {s : State} (hS : Shaped cfg s) (hE : EdgesOK cfg s) (hF : FlagsFresh cfg s)
    (hT : ∀ t ∈ s.nodeTypes, -1 ≤ t ∧ t < (cfg.numAgents : Int))
    (hM : s.actionMask = makeMask cfg.numAgents s.nodeEdges s.positions s.finished) :
    observeL1 cfg s = observe cfg s := by
  have h1 : obsNodeTypes cfg.numAgents s.nodeTypes s.connectedIndex = (List.range cfg.numNodes).map (nodeLabel cfg s) :=
    Jx.eq_range_map 0 (obsNodeTypes_length hS) fun _ hv => relabel_eq_spec hS hT hv
  unfold observeL1 observe
  rw [h1, hM, makeMask_eq_legalMask hS hE hF]

theorem types_range_of_cert {cfg : Cfg} {s : State} (hS : Shaped cfg s) (h2 : certTypes cfg s = true) :
    ∀ t ∈ s.nodeTypes, -1 ≤ t ∧ t < (cfg.numAgents : Int) := by
  simp only [certTypes, List.all_eq_true, List.mem_range, Bool.and_eq_true, beq_iff_eq, Bool.or_eq_true,
    decide_eq_true_eq] at h2
  intro t ht
  obtain ⟨v, hv, rfl⟩ := Jx.mem_exists_getD 0 ht
  rw [hS.nodeTypes_length] at hv
  rcases (h2 v hv).2 with h | h <;> omega

theorem reset_obs {cfg : Cfg} {s : State} (hS : Shaped cfg s) (h1 : certStart cfg s = true)
    (h2 : certTypes cfg s = true) (h3 : certEdgesAdj cfg s = true) (h4 : certAgentsDisjoint cfg s = true)
    (hK : 2 ≤ cfg.numNodesPerAgent) :
    (reset cfg s).1 = s ∧ (reset cfg s).2.stepType = .first ∧ (reset cfg s).2.reward = [0] ∧
    (reset cfg s).2.discount = [1] ∧ (reset cfg s).2.obs = observe cfg s := by
  refine ⟨rfl, rfl, rfl, rfl, ?_⟩
  have hF := reset_feasible hS h1 h2 h3
  exact obs_eq hS hF.edgesOK (reset_flagsFresh hS h1 h4 hK) (types_range_of_cert hS h2) (certStart_global h1).2

/-- the observation returned by a step is the documented observation of the successor (repaired configuration `freshMask`);
the utility constraint is not needed -/
theorem step_obs_eq {cfg : Cfg} {s : State} (hc : cfg.freshMask = true) (hS : Shaped cfg s) (hE : EdgesOK cfg s)
    (hR : RouteOK cfg s)
    (hK : ∀ i, i < cfg.numAgents → (s.nodesToConnect.getD i []).length = cfg.numNodesPerAgent)
    (hT : ∀ t ∈ s.nodeTypes, -1 ≤ t ∧ t < (cfg.numAgents : Int)) (action : List Int) (perm : List Nat) :
    (step cfg s action perm).2.obs = observe cfg (step cfg s action perm).1 := by
  rw [obs_faithful]
  exact obs_eq (step_shaped hS hE action perm) (step_edgesOK hS hE hR action perm)
    (step_flagsFresh cfg s action perm hK) hT (cached_mask_fresh cfg s action perm (Or.inl hc))

end MMST
