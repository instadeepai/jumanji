/- MMST: the tie-break loop of `_trim_duplicated_invalid_actions` as a theory of its own (lists only, no state).
EVERY draw, permutation or not, keeps `TBInv`: whoever holds a real action holds its node in `added`, and these nodes are
pairwise different.  The entry of an agent is decided at its last turn (`tieBreak_turn`); a valid draw gives every agent
exactly one turn. -/
import JumanjiModel.Env.MMST.Model
import JumanjiModel.Prim.ListLemmas
namespace MMST
open Jm

theorem tbStep_eq (action nodes : List Int) (st : TB) (k : Nat) :
    tbStep action nodes st k =
      if nodes.getD k (-1) = -1 then st
      else if nodes.getD k (-1) ∈ st.added then ⟨st.added.set k (-2), st.newActions.set k (-2)⟩
      else ⟨st.added.set k (nodes.getD k (-1)), st.newActions.set k (action.getD k (-1))⟩ := by
  unfold tbStep
  simp only []
  generalize nodes.getD k (-1) = node
  split <;> simp_all

theorem tbStep_newActions (action nodes : List Int) (st : TB) (k i : Nat) :
    (tbStep action nodes st k).newActions.getD i (-1) =
      if k = i ∧ k < st.newActions.length ∧ nodes.getD k (-1) ≠ -1 then
        (if nodes.getD k (-1) ∈ st.added then -2 else action.getD k (-1))
      else st.newActions.getD i (-1) := by
  rw [tbStep_eq]
  generalize nodes.getD k (-1) = node
  by_cases h1 : node = -1
  · simp [h1]
  · by_cases h2 : node ∈ st.added <;> simp [-List.getD_eq_getElem?_getD, h1, h2, Jx.getD_set]

theorem tb_foldl_keep (action nodes : List Int) {i : Nat} (ks : List Nat) (st : TB)
    (h : i ∈ ks → nodes.getD i (-1) = -1) :
    (ks.foldl (tbStep action nodes) st).newActions.getD i (-1) = st.newActions.getD i (-1) := by
  refine List.foldlRecOn (motive := fun st' : TB => st'.newActions.getD i (-1) = st.newActions.getD i (-1)) ks _ rfl
    fun st' h' k hk => ?_
  rw [tbStep_newActions, if_neg, h']
  rintro ⟨rfl, _, hn⟩
  exact hn (h hk)

/-- `x ≠ -2`: a lost tie-break writes -2 (INVALID_TIE_BREAK) into `added` as well -/
theorem tb_foldl_not_added (action nodes : List Int) {x : Int} (hx : x ≠ -2) (ks : List Nat) (st : TB)
    (hk : ∀ k ∈ ks, nodes.getD k (-1) ≠ x) (h : x ∉ st.added) : x ∉ (ks.foldl (tbStep action nodes) st).added := by
  refine List.foldlRecOn (motive := fun st : TB => x ∉ st.added) ks _ h fun st h k hkm => ?_
  rw [tbStep_eq]
  split
  · exact h
  · split <;> intro hm <;> rcases List.mem_or_eq_of_mem_set hm with hm | hm
    · exact h hm
    · exact hx hm
    · exact h hm
    · exact hk k hkm hm.symm

/-- agent `k` currently holds a real action in the tie-break table -/
def mover (st : TB) (k : Nat) : Prop := st.newActions.getD k (-1) ≠ -1 ∧ st.newActions.getD k (-1) ≠ -2

theorem mover_set (st : TB) (a' : List Int) (k x : Nat) (w : Int) :
    mover ⟨a', st.newActions.set k w⟩ x ↔
      if k = x ∧ k < st.newActions.length then (w ≠ -1 ∧ w ≠ -2) else mover st x := by
  unfold mover
  simp only [Jx.getD_set]
  split <;> rfl

structure TBInv (A : Nat) (nodes : List Int) (st : TB) : Prop where
  la : st.added.length = A
  ln : st.newActions.length = A
  own : ∀ k, k < A → mover st k → st.added.getD k (-10) = nodes.getD k (-1) ∧ nodes.getD k (-1) ≠ -1
  distinct : ∀ j k, j < A → k < A → j ≠ k → mover st j → mover st k → nodes.getD j (-1) ≠ nodes.getD k (-1)

theorem tbInit_inv (A : Nat) (nodes : List Int) : TBInv A nodes (tbInit A) := by
  have hm : ∀ k, ¬ mover (tbInit A) k := by
    intro k h
    apply h.1
    simp only [tbInit, List.getD_eq_getElem?_getD, List.getElem?_replicate]
    split <;> rfl
  exact ⟨by simp [tbInit], by simp [tbInit], fun k _ h => absurd h (hm k), fun j _ _ _ _ h => absurd h (hm j)⟩

theorem tbStep_inv {A : Nat} {nodes : List Int} (action : List Int) {st : TB} (h : TBInv A nodes st) (k : Nat) :
    TBInv A nodes (tbStep action nodes st k) := by
  rw [tbStep_eq]
  split
  · exact h
  split
  · -- the node is already selected: agent `k` gets -2 and is no mover, the other entries are untouched
    have old : ∀ x, mover ⟨st.added.set k (-2), st.newActions.set k (-2)⟩ x → ¬ (k = x ∧ k < A) ∧ mover st x := by
      intro x hm
      rw [mover_set, h.ln] at hm
      split at hm
      · exact absurd rfl hm.2
      · exact ⟨‹_›, hm⟩
    refine ⟨by simp [h.la], by simp [h.ln], fun x hx hm => ?_,
      fun j l hj hl hjl hmj hml => h.distinct j l hj hl hjl (old j hmj).2 (old l hml).2⟩
    obtain ⟨hk, hm'⟩ := old x hm
    show (st.added.set k (-2)).getD x (-10) = _ ∧ _
    rw [Jx.getD_set, h.la, if_neg hk]
    exact h.own x hx hm'
  · -- the node is fresh: agent `k` takes it; every old mover holds a selected node, hence another one
    rename_i hn hsel
    have old : ∀ x, ¬ (k = x ∧ k < A) →
        mover ⟨st.added.set k (nodes.getD k (-1)), st.newActions.set k (action.getD k (-1))⟩ x → mover st x := by
      intro x hk hm
      rwa [mover_set, h.ln, if_neg hk] at hm
    have key : ∀ x, x < A → mover st x → nodes.getD x (-1) ≠ nodes.getD k (-1) := fun x hx hmx heq =>
      hsel (by rw [← heq, ← (h.own x hx hmx).1]; exact Jx.getD_mem _ (by rw [h.la]; exact hx))
    refine ⟨by simp [h.la], by simp [h.ln], ?_, ?_⟩
    · intro x hx hm
      show (st.added.set k (nodes.getD k (-1))).getD x (-10) = _ ∧ _
      rw [Jx.getD_set, h.la]
      split
      · rename_i hk; rw [← hk.1]; exact ⟨rfl, hn⟩
      · rename_i hk; exact h.own x hx (old x hk hm)
    · intro j l hj hl hjl hmj hml
      by_cases hjk : k = j
      · subst hjk
        exact fun heq => key l hl (old l (fun hc => hjl hc.1) hml) heq.symm
      · by_cases hlk : k = l
        · subst hlk
          exact key j hj (old j (fun hc => hjk hc.1) hmj)
        · exact h.distinct j l hj hl hjl (old j (fun hc => hjk hc.1) hmj) (old l (fun hc => hlk hc.1) hml)

theorem tieBreak_inv (A : Nat) (action nodes : List Int) (perm : List Nat) :
    TBInv A nodes (tieBreak A action nodes perm) :=
  List.foldlRecOn perm _ (tbInit_inv A nodes) fun _ h k _ => tbStep_inv action h k

theorem tbInit_newActions (A i : Nat) : (tbInit A).newActions.getD i (-1) = -1 := by
  simp only [tbInit, List.getD_eq_getElem?_getD, List.getElem?_replicate]
  split <;> rfl

theorem tieBreak_invalid (A : Nat) (action nodes : List Int) (perm : List Nat) {i : Nat}
    (hn : nodes.getD i (-1) = -1) : (tieBreak A action nodes perm).newActions.getD i (-1) = -1 := by
  unfold tieBreak
  rw [tb_foldl_keep action nodes perm _ (fun _ => hn), tbInit_newActions]

theorem tieBreak_turn (A : Nat) (action nodes : List Int) (l1 l2 : List Nat) {i : Nat} (hi : i < A)
    (hn : nodes.getD i (-1) ≠ -1) (h2 : i ∉ l2) :
    (tieBreak A action nodes (l1 ++ i :: l2)).newActions.getD i (-1) =
      if nodes.getD i (-1) ∈ (tieBreak A action nodes l1).added then -2 else action.getD i (-1) := by
  have hlen := (tieBreak_inv A action nodes l1).ln
  unfold tieBreak at hlen ⊢
  rw [List.foldl_append, List.foldl_cons, tb_foldl_keep action nodes l2 _ (fun h => absurd h h2), tbStep_newActions,
    if_pos ⟨rfl, by rw [hlen]; exact hi, hn⟩]

theorem tieBreak_wins (A : Nat) (action nodes : List Int) (l1 l2 : List Nat) {i : Nat} (hi : i < A)
    (hv : 0 ≤ nodes.getD i (-1)) (h1 : ∀ k ∈ l1, nodes.getD k (-1) ≠ nodes.getD i (-1)) (h2 : i ∉ l2) :
    (tieBreak A action nodes (l1 ++ i :: l2)).newActions.getD i (-1) = action.getD i (-1) := by
  rw [tieBreak_turn A action nodes l1 l2 hi (by omega) h2, if_neg]
  exact tb_foldl_not_added action nodes (by omega) l1 (tbInit A) h1
    (fun hm => by have := List.eq_of_mem_replicate hm; omega)

theorem mem_of_validDraw {A : Nat} {perm : List Nat} (hd : validDraw A perm) {i : Nat} (hi : i < A) : i ∈ perm :=
  Jx.mem_of_nodup_length perm (List.range A) hd.2.1 (fun k hk => List.mem_range.2 (hd.2.2 k hk))
    (by rw [List.length_range, hd.1]; exact Nat.le_refl _) i (List.mem_range.2 hi)

theorem validDraw_split {A : Nat} {perm : List Nat} (hd : validDraw A perm) {i : Nat} (hi : i < A) :
    ∃ l1 l2, perm = l1 ++ i :: l2 ∧ i ∉ l1 ∧ i ∉ l2 := by
  obtain ⟨l1, l2, rfl⟩ := List.append_of_mem (mem_of_validDraw hd hi)
  have hnd := List.nodup_append.1 hd.2.1
  exact ⟨l1, l2, rfl, fun h => hnd.2.2 i h i List.mem_cons_self rfl, (List.nodup_cons.1 hnd.2.1).1⟩

theorem tieBreak_valid (A : Nat) (action nodes : List Int) (perm : List Nat) (hd : validDraw A perm) {i : Nat}
    (hi : i < A) (hn : nodes.getD i (-1) ≠ -1) :
    (tieBreak A action nodes perm).newActions.getD i (-1) = action.getD i (-1) ∨
    (tieBreak A action nodes perm).newActions.getD i (-1) = -2 := by
  obtain ⟨l1, l2, rfl, _, hi2⟩ := validDraw_split hd hi
  rw [tieBreak_turn A action nodes l1 l2 hi hn hi2]
  split
  · exact Or.inr rfl
  · exact Or.inl rfl

end MMST
