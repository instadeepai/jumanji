/-
MMST, the reward of one agent (`agent_outcome`): on the repaired configuration (`guardVisited = true`), from a state in shape
with fresh flags, for an in-range action and a valid draw, the reward `DenseRewardFn` gives one agent is the documented
one (`ruleReward`).  On the pinned tree an agent that asks for no node reads the visited flag of the last node and may get -3
instead of -1, which escapes the penalty.  `step_illegalIgnored`: the whole C05 judge on the model's own step.
-/
import JumanjiModel.Env.MMST.Lemmas
namespace MMST
open Jm

theorem step_reward (cfg : Cfg) (s : State) (a : List Int) (p : List Nat) :
    (step cfg s a p).2.reward =
      [reward cfg s.nodesToConnect (trim cfg s a p) (step cfg s a p).1.positions s.finished] := condLast_reward _ _ _

theorem ite_succ_bne (b : Bool) (x : Int) : ((if b = true then x + 1 else x) != x) = b := by
  cases b
  · simp
  · simp; omega

theorem actOf_valid {cfg : Cfg} {s : State} (hS : Shaped cfg s) (action : List Int) (perm : List Nat)
    {i a : Nat} (hi : i < cfg.numAgents) (ha : a < cfg.numNodes) (hfin : s.finished.getD i false = false)
    (hn : nodeOf cfg s action i = (a : Int)) :
    actOf cfg s action perm i =
      if (s.connectedIndex.getD i []).getD a (-1) ≠ -1 then -3
      else (tieBreak cfg.numAgents action (targets cfg s action) perm).newActions.getD i (-1) := by
  have hn' : (targets cfg s action).getD i (-1) = (a : Int) := hn
  have hne : ((a : Int) == -1) = false := by
    have : (a : Int) ≠ -1 := by omega
    simp [this]
  rw [actOf_eq cfg s action perm hi]
  unfold finalAction
  simp only [hn', hfin, hne, Bool.and_false]
  rw [Jx.getWC_nat _ _ (by rw [ci_length hS hi]; exact ha)]
  simp

theorem actOf_invalid {cfg : Cfg} {s : State} (hg : cfg.guardVisited = true) (action : List Int) (perm : List Nat)
    {i : Nat} (hi : i < cfg.numAgents) (hfin : s.finished.getD i false = false)
    (hn : nodeOf cfg s action i = -1) : actOf cfg s action perm i = -1 := by
  have hn' : (targets cfg s action).getD i (-1) = -1 := hn
  rw [actOf_eq cfg s action perm hi]
  unfold finalAction
  simp only [hn', hg, hfin, tieBreak_invalid cfg.numAgents action _ perm hn']
  simp

theorem moves_of_nonneg {act node : Int} (ha : act = -3 ∨ 0 ≤ act) (hn : 0 ≤ node) : moves act node = true :=
  moves_iff.2 ⟨by omega, by omega, by omega⟩

theorem agentReward_invalid (cfg : Cfg) (nodes : List Int) (node : Int) :
    agentReward cfg nodes (-1) node = cfg.rStep + cfg.rNoop := by
  simp [agentReward]; grind

theorem agentReward_tie (cfg : Cfg) (nodes : List Int) (node : Int) : agentReward cfg nodes (-2) node = 0 := by
  simp [agentReward]; grind

theorem agentReward_visited (cfg : Cfg) (nodes : List Int) (node : Int) : agentReward cfg nodes (-3) node = cfg.rStep := by
  simp [agentReward]; grind

theorem agentReward_act (cfg : Cfg) (nodes : List Int) {a : Int} (node : Int) (h : 0 ≤ a) :
    agentReward cfg nodes a node = if nodes.contains node then cfg.rConn else cfg.rStep := by
  have h1 : ¬ a = -1 := by omega
  have h2 : ¬ a = -2 := by omega
  have h3 : a > -1 := by omega
  simp [agentReward, h1, h2, h3]; grind

theorem agent_outcome {cfg : Cfg} {s : State} (hg : cfg.guardVisited = true)
    (hS : Shaped cfg s) (hE : EdgesOK cfg s) (hFr : FlagsFresh cfg s)
    (action perm : List Nat) (hd : validDraw cfg.numAgents perm)
    (hl : action.length = cfg.numAgents) {i : Nat} (hi : i < cfg.numAgents)
    (ha : action.getD i 0 < cfg.numNodes) :
    (if s.finished.getD i false = true then (0 : Rat)
     else agentReward cfg (s.nodesToConnect.getD i []) (actOf cfg s (action.map Int.ofNat) perm i)
            ((step cfg s (action.map Int.ofNat) perm).1.positions.getD i 0)) =
    ruleReward cfg s i (action.getD i 0) (decide (legal cfg s i (action.getD i 0)))
      ((step cfg s (action.map Int.ofNat) perm).1.positionIndex.getD i 0 != s.positionIndex.getD i 0) := by
  rw [step_positions cfg s _ _ hi, step_positionIndex cfg s _ _ hi, ite_succ_bne]
  by_cases hdone : agentDone s i
  · have hfin : s.finished.getD i false = true := by rw [hFr i hi]; simp [hdone]
    rw [if_pos hfin]; unfold ruleReward; simp [hdone]
  · have hfin : s.finished.getD i false = false := by rw [hFr i hi]; simp [hdone]
    rw [hfin, if_neg Bool.false_ne_true]
    unfold ruleReward
    rw [decide_eq_false hdone, if_neg Bool.false_ne_true]
    by_cases hleg : legal cfg s i (action.getD i 0)
    · have hnode := nodeOf_legal hS hE action hi ha hleg
      have hact := actOf_valid hS (action.map Int.ofNat) perm hi ha hfin hnode
      have htb := tieBreak_valid cfg.numAgents (action.map Int.ofNat) (targets cfg s (action.map Int.ofNat)) perm
        hd hi (by rw [show (targets cfg s (action.map Int.ofNat)).getD i (-1) = _ from hnode]; omega)
      rw [map_ofNat_getD action (hl ▸ hi)] at htb
      have h0 : (0 : Int) ≤ ((action.getD i 0 : Nat) : Int) := by omega
      rw [decide_eq_true hleg, Bool.not_true, if_neg Bool.false_ne_true]
      unfold movedAt
      rw [hnode]
      by_cases hvis : connectedBy s i (action.getD i 0)
      · have hvis' : (s.connectedIndex.getD i []).getD (action.getD i 0) (-1) ≠ -1 := hvis
        rw [if_pos hvis'] at hact
        rw [hact, moves_of_nonneg (Or.inl rfl) h0, agentReward_visited, decide_eq_true hvis]
        simp
      · have hvis' : ¬ (s.connectedIndex.getD i []).getD (action.getD i 0) (-1) ≠ -1 := hvis
        rw [if_neg hvis'] at hact
        rcases htb with htb | htb
        · rw [htb] at hact
          rw [hact, moves_of_nonneg (Or.inr h0) h0, agentReward_act _ _ _ h0, decide_eq_false hvis]
          simp
        · rw [htb] at hact
          rw [hact, agentReward_tie]
          rfl
    · have hnode := nodeOf_illegal hS hE action hi ha hdone hleg
      rw [decide_eq_false hleg, actOf_invalid hg (action.map Int.ofNat) perm hi hfin hnode, agentReward_invalid]
      rfl

/-- C05, the judge of the driver on the model's own step.  Of `Feasible` only the shapes and the edge tables are needed:
the utility constraint and the route bookkeeping play no part in what an illegal action does -/
theorem step_illegalIgnored {cfg : Cfg} {s : State} (hg : cfg.guardVisited = true)
    (hS : Shaped cfg s) (hE : EdgesOK cfg s) (hFr : FlagsFresh cfg s)
    (hK : ∀ i, i < cfg.numAgents → (s.nodesToConnect.getD i []).length = cfg.numNodesPerAgent)
    (action perm : List Nat) (hd : validDraw cfg.numAgents perm)
    (hl : action.length = cfg.numAgents) (ha : ∀ i, i < cfg.numAgents → action.getD i 0 < cfg.numNodes) :
    illegalIgnored cfg s action (step cfg s (action.map Int.ofNat) perm).1
      (step cfg s (action.map Int.ofNat) perm).2 = true := by
  unfold illegalIgnored
  simp only [Bool.and_eq_true]
  refine ⟨⟨?_, ?_⟩, ?_⟩
  · rw [List.all_eq_true]
    intro i hi
    have hi' : i < cfg.numAgents := List.mem_range.1 hi
    by_cases hleg : legal cfg s i (action.getD i 0)
    · rw [decide_eq_true hleg]; rfl
    · obtain ⟨h1, h2, h3, h4⟩ := illegal_ignored hS hE hFr action perm hi' (ha i hi') hleg
      rw [h1, h2, h3, h4]
      simp
  · rw [step_reward, beq_iff_eq]
    congr 1
    unfold reward
    congr 1
    apply List.map_congr_left
    intro i hi
    have hi' : i < cfg.numAgents := List.mem_range.1 hi
    exact agent_outcome hg hS hE hFr action perm hd hl hi' (ha i hi')
  · by_cases hlast : (step cfg s (action.map Int.ofNat) perm).2.stepType = .last
    · rcases (step_last_iff cfg s _ perm).1 hlast with h | h
      · -- the flags of the successor are fresh whatever the state was: all set means all done
        have hall : (List.range cfg.numAgents).all
            (fun i => decide (agentDone (step cfg s (action.map Int.ofNat) perm).1 i)) = true :=
          List.all_eq_true.2 fun i hi => decide_eq_true
            (agentDone_of_finished (step_lengths cfg s _ perm).2.2.2.2.2 (step_flagsFresh cfg s _ perm hK) h
              (List.mem_range.1 hi))
        simp [hall]
      · simp [h]
    · simp [hlast]

end MMST
