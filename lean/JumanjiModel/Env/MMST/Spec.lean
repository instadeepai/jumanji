/-
MMST — C01 spec membership: the declared specs as `Sp` values (`obsSpec cfg`, `actionSpec cfg`; equal to the
generated literals of the catalogue configurations, Props/SpecTable.lean) and the model observation as spec-level arrays
(`toNValue`, shapes READ OFF the values).  The invariant `SpecInv` holds of every generated state and is kept by EVERY step
(any list of integers as joint action, any draw, valid permutation or not); it makes the observation of `reset` and of every
`step`, the terminal one included, a member.
-/
import JumanjiModel.Env.MMST.Bounds
import JumanjiModel.Env.MMST.FeasibleLemmas
import JumanjiModel.Env.MMST.GenLemmas
import JumanjiModel.Env.SpecMembership
namespace MMST
open Jm Sp PzS PkS

/-- `observation_spec`: `node_types` BoundedArray((N,), int32, -1, 2A-1), `adj_matrix` BoundedArray((N, N), int32, 0, 1),
`positions` BoundedArray((A,), int32, -1, N-1), `step_count` BoundedArray((), int32, 0, time_limit),
`action_mask` BoundedArray((A, N), bool, False, True) -/
def obsSpec (cfg : Cfg) : Sp.Nested :=
  [("node_types", .bounded [cfg.numNodes] .int32 "node_types" [] [((-1 : Int) : Rat)] []
      [((2 * (cfg.numAgents : Int) - 1 : Int) : Rat)]),
   ("adj_matrix", .bounded [cfg.numNodes, cfg.numNodes] .int32 "adj_matrix" [] [((0 : Int) : Rat)] [] [((1 : Int) : Rat)]),
   ("positions", .bounded [cfg.numAgents] .int32 "positions" [] [((-1 : Int) : Rat)] []
      [(((cfg.numNodes : Int) - 1 : Int) : Rat)]),
   ("step_count", .bounded [] .int32 "step_count" [] [((0 : Int) : Rat)] [] [((cfg.timeLimit : Int) : Rat)]),
   ("action_mask", .bounded [cfg.numAgents, cfg.numNodes] .bool "action_mask" [] [0] [] [1])]

/-- `action_spec`: MultiDiscreteArray(full((A,), N), int32) -/
def actionSpec (cfg : Cfg) : Leaf :=
  .multiDiscrete [cfg.numAgents] (List.replicate cfg.numAgents cfg.numNodes) .int32 "action"

/-- a model observation as the arrays the implementation emits; the shapes are READ OFF the values -/
def toNValue (o : Obs) : NValue :=
  [("node_types", ⟨shape1 o.nodeTypes, .int32, ofInts o.nodeTypes⟩),
   ("adj_matrix", ⟨shape2 o.adj, .int32, ofInts o.adj.flatten⟩),
   ("positions", ⟨shape1 o.positions, .int32, ofInts o.positions⟩),
   ("step_count", ⟨[], .int32, ofInts [o.stepCount]⟩),
   ("action_mask", ⟨shape2 o.actionMask, .bool, ofBools o.actionMask.flatten⟩)]

def actionArr (cfg : Cfg) (a : List Int) : Arr := ⟨[cfg.numAgents], .int32, ofInts a⟩

theorem obs_valid_iff (cfg : Cfg) (o : Obs) : (obsSpec cfg).valid (toNValue o) = true ↔
    (o.nodeTypes.length = cfg.numNodes ∧ ∀ v ∈ o.nodeTypes, -1 ≤ v ∧ v ≤ 2 * (cfg.numAgents : Int) - 1) ∧
    (shape2 o.adj = [cfg.numNodes, cfg.numNodes] ∧ o.adj.flatten.length = cfg.numNodes * cfg.numNodes ∧
      ∀ v ∈ o.adj.flatten, 0 ≤ v ∧ v ≤ 1) ∧
    (o.positions.length = cfg.numAgents ∧ ∀ v ∈ o.positions, -1 ≤ v ∧ v ≤ (cfg.numNodes : Int) - 1) ∧
    (0 ≤ o.stepCount ∧ o.stepCount ≤ (cfg.timeLimit : Int)) ∧
    shape2 o.actionMask = [cfg.numAgents, cfg.numNodes] ∧ o.actionMask.flatten.length = cfg.numAgents * cfg.numNodes := by
  simp only [obsSpec, toNValue, valid_cons, valid_nil, valid_scalar_bounded_iff, forall_ofInts, forall_ofBools, ofInts_length,
    ofBools_length, prod_nil, prod_one, prod_two, shape1_eq, List.forall_mem_singleton, List.length_singleton,
    Rat.intCast_le_intCast, true_and, and_true, and_self_left]

theorem obs_valid_only (cfg : Cfg) (o : Obs) (h : (obsSpec cfg).valid (toNValue o) = true) :
    o.nodeTypes.length = cfg.numNodes ∧ (∀ v ∈ o.nodeTypes, -1 ≤ v ∧ v ≤ 2 * (cfg.numAgents : Int) - 1) ∧
    shape2 o.adj = [cfg.numNodes, cfg.numNodes] ∧ (∀ v ∈ o.adj.flatten, 0 ≤ v ∧ v ≤ 1) ∧
    o.positions.length = cfg.numAgents ∧ (∀ v ∈ o.positions, -1 ≤ v ∧ v ≤ (cfg.numNodes : Int) - 1) ∧
    0 ≤ o.stepCount ∧ o.stepCount ≤ (cfg.timeLimit : Int) ∧
    shape2 o.actionMask = [cfg.numAgents, cfg.numNodes] :=
  have ⟨h1, h2, h3, h4, h5⟩ := (obs_valid_iff cfg o).1 h
  ⟨h1.1, h1.2, h2.1, h2.2.2, h3.1, h3.2, h4.1, h4.2, h5.1⟩

/-- `Shaped` and `BInv` (Bounds.lean) together with a rectangular cached mask and a non-negative counter -/
def SpecInv (cfg : Cfg) (s : State) : Prop :=
  Shaped cfg s ∧ BInv cfg s ∧ Rect2 s.actionMask cfg.numAgents cfg.numNodes ∧ 0 ≤ s.stepCount
instance (cfg : Cfg) (s : State) : Decidable (SpecInv cfg s) := by unfold SpecInv Rect2; infer_instance

theorem makeMask_rect {cfg : Cfg} {s : State} (hS : Shaped cfg s) (fin : List Bool) :
    Rect2 (makeMask cfg.numAgents s.nodeEdges s.positions fin) cfg.numAgents cfg.numNodes := by
  refine ⟨by simp [makeMask], fun row hrow => ?_⟩
  obtain ⟨i, hi, rfl⟩ := Jx.mem_exists_getD [] hrow
  exact makeMask_row_length hS fin (by simpa [makeMask] using hi)

theorem step_specInv {cfg : Cfg} {s : State} (h : SpecInv cfg s) (a : List Int) (p : List Nat) :
    SpecInv cfg (step cfg s a p).1 := by
  obtain ⟨hS, hB, _, h0⟩ := h
  have hS' := step_shaped_of_pos hS a p (step_positions_range hB a p)
  refine ⟨hS', step_binv hB a p, ?_, by rw [step_count]; omega⟩
  rw [cached_mask]
  exact makeMask_rect hS' _

theorem specInv_of_feasible {cfg : Cfg} {s : State} (hF : Feasible cfg s) (hb : certBinary s = true)
    (hm : Rect2 s.actionMask cfg.numAgents cfg.numNodes) (h0 : 0 ≤ s.stepCount) : SpecInv cfg s :=
  ⟨hF.shaped, binv_of_edgesOK hF.shaped hF.edgesOK hb, hm, h0⟩

theorem generate_specInv {cfg : Cfg} {d : GenDraw} (hv : validGenDraw cfg d) (hg : graphOK cfg d)
    (hb : ∀ r ∈ d.adj, ∀ x ∈ r, x = 0 ∨ x = 1) (hK : 1 ≤ cfg.numNodesPerAgent) (hT : 1 ≤ cfg.timeLimit) :
    SpecInv cfg (generate cfg d) := by
  have hF := (generate_feasible' hv hg hK hT).1
  refine specInv_of_feasible hF ?_ ?_ (by simp [generate])
  · simp only [certBinary, List.all_eq_true, Bool.or_eq_true, beq_iff_eq]
    exact fun r hr x hx => hb r hr x hx
  · exact makeMask_rect hF.shaped _

/-- C01: the observation built from ANY state with the invariant whose counter is at most the limit is a member -/
theorem observe_valid (cfg : Cfg) (hA : 0 < cfg.numAgents) (hN : 0 < cfg.numNodes) (s : State) (h : SpecInv cfg s)
    (hT : s.stepCount ≤ (cfg.timeLimit : Int)) : (obsSpec cfg).valid (toNValue (observeL1 cfg s)) = true := by
  obtain ⟨hS, hB, hm, h0⟩ := h
  obtain ⟨_, hp, _, hadj⟩ := hB
  have hr : Rect2 (observeL1 cfg s).adj cfg.numNodes cfg.numNodes := ⟨hS.adj_length, hS.adj_rows⟩
  refine (obs_valid_iff cfg _).2 ⟨⟨obsNodeTypes_length hS, obsNodeTypes_range _ hA _ _⟩,
    ⟨(shape2_of_rect hr hN).1, (shape2_of_rect hr hN).2, Jx.forall_mem_flatten hadj⟩, ⟨hS.positions_length, ?_⟩, ⟨h0, hT⟩,
    shape2_of_rect hm hA⟩
  intro v hv
  have := hp v hv
  simp only [observeL1] at hv
  omega

/-- C01: the `reset` observation of a state with the invariant and counter 0 (every generated state) -/
theorem reset_obs_valid (cfg : Cfg) (hA : 0 < cfg.numAgents) (hN : 0 < cfg.numNodes) (s : State) (h : SpecInv cfg s)
    (hs : s.stepCount = 0) : (obsSpec cfg).valid (toNValue (reset cfg s).2.obs) = true := by
  have : (reset cfg s).2.obs = observeL1 cfg s := rfl
  rw [this]
  exact observe_valid cfg hA hN s h (by omega)

/-- C01: the observation of EVERY step (any joint action, any draw, MID or LAST) from a state with the invariant whose
counter has not reached the limit -/
theorem step_obs_valid (cfg : Cfg) (hA : 0 < cfg.numAgents) (hN : 0 < cfg.numNodes) (s : State) (h : SpecInv cfg s)
    (hlim : s.stepCount < (cfg.timeLimit : Int)) (a : List Int) (p : List Nat) :
    (obsSpec cfg).valid (toNValue (step cfg s a p).2.obs) = true := by
  rw [obs_faithful]
  exact observe_valid cfg hA hN _ (step_specInv h a p) (by rw [step_count]; omega)

theorem step_protocol (cfg : Cfg) (s : State) (a : List Int) (p : List Nat) :
    StepOK none false (step cfg s a p).2 = true := by
  unfold step; exact condLast_stepOK _ _ _

theorem actionSpec_generate (cfg : Cfg) :
    (actionSpec cfg).generate = actionArr cfg (List.replicate cfg.numAgents 0) := by
  simp [actionSpec, generate_multiDiscrete, actionArr, ofInts]

theorem actionSpec_WF (cfg : Cfg) (hN : 0 < cfg.numNodes) (hbig : cfg.numNodes ≤ 2147483648) :
    (actionSpec cfg).WF = true := MaS.actionSpecN_WF _ _ hN hbig

/-- `action_spec.generate_value()` (all zeros) is a member, and `step` answers it from every state with the invariant with a
protocol-conform timestep whose observation is a member -/
theorem accepts_generate_value (cfg : Cfg) (hA : 0 < cfg.numAgents) (hN : 0 < cfg.numNodes)
    (hbig : cfg.numNodes ≤ 2147483648) (s : State) (h : SpecInv cfg s) (hlim : s.stepCount < (cfg.timeLimit : Int))
    (p : List Nat) :
    (actionSpec cfg).WF = true ∧ (actionSpec cfg).valid (actionSpec cfg).generate = true ∧
    (actionSpec cfg).generate = actionArr cfg (List.replicate cfg.numAgents 0) ∧
    StepOK none false (step cfg s (List.replicate cfg.numAgents 0) p).2 = true ∧
    (obsSpec cfg).valid (toNValue (step cfg s (List.replicate cfg.numAgents 0) p).2.obs) = true :=
  ⟨actionSpec_WF cfg hN hbig, Leaf.generate_valid _ (actionSpec_WF cfg hN hbig), actionSpec_generate cfg,
   step_protocol cfg s _ p, step_obs_valid cfg hA hN s h hlim _ p⟩

end MMST
