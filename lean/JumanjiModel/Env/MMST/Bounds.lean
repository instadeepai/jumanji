/-
C01 for MMST: value bounds of every observation leaf (`node_types`, `adj_matrix`, `positions`, `step_count`,
`action_mask`) as functions of the configuration only, and the proof that the observation of every state with the
invariant stays inside them (`observe_in_bounds`; reset and step, all draws and all actions: `Props.C01`).

The invariant `BInv` is implied by `Shaped` + `EdgesOK` + a 0/1 adjacency matrix (`binv_of_edgesOK`; so by `Feasible` + …) and
preserved by every step.
-/
import JumanjiModel.Env.MMST.Lemmas
import JumanjiModel.Env.PuzzleBounds
namespace MMST
open Jm

/-- interval membership; `none` = unbounded on that side -/
def inIv (lo hi : Option Rat) (v : Rat) : Prop := (∀ l, lo = some l → l ≤ v) ∧ (∀ h, hi = some h → v ≤ h)

/-- the numeric leaves of an observation: dotted path of the leaf in the real `observation_spec` ↦ all its
entries (bool: 0 / 1) -/
def obsLeaves (o : Obs) : List (String × List Rat) :=
  [("node_types", o.nodeTypes.map (fun (v : Int) => (v : Rat))),
   ("adj_matrix", (List.flatten o.adj).map (fun (v : Int) => (v : Rat))),
   ("positions", o.positions.map (fun (v : Int) => (v : Rat))),
   ("step_count", [(o.stepCount : Rat)]),
   ("action_mask", (List.flatten o.actionMask).map (fun b => if b then (1 : Rat) else 0))]

/-- every entry of every leaf listed in `bs` lies within the interval `bs` gives for it -/
def ObsInBounds (bs : List (String × Option Rat × Option Rat)) (o : Obs) : Prop :=
  ∀ p ∈ obsLeaves o, ∀ b ∈ bs, b.1 = p.1 → ∀ v ∈ p.2, inIv b.2.1 b.2.2 v

/-- C01: the intervals in which the model's observation values provably stay.  (`positions` is proved
non-negative; the declared minimum is -1.) -/
def obsBounds (cfg : Cfg) : List (String × Option Rat × Option Rat) :=
  [("node_types", some (-1), some ((2 * (cfg.numAgents : Int) - 1 : Int) : Rat)),
   ("adj_matrix", some 0, some 1),
   ("positions", some 0, some (((cfg.numNodes : Int) - 1 : Int) : Rat)),
   ("step_count", some 0, some ((cfg.timeLimit : Int) : Rat)),
   ("action_mask", some 0, some 1)]

/-- what the bounds need of a state: one position per agent, positions and edge-table entries in range, a 0/1 adjacency
matrix -/
def BInv (cfg : Cfg) (s : State) : Prop :=
  s.positions.length = cfg.numAgents ∧
  (∀ p ∈ s.positions, 0 ≤ p ∧ p < (cfg.numNodes : Int)) ∧
  (∀ e ∈ s.nodeEdges, ∀ r ∈ e, ∀ x ∈ r, -1 ≤ x ∧ x < (cfg.numNodes : Int)) ∧
  (∀ r ∈ s.adj, ∀ x ∈ r, 0 ≤ x ∧ x ≤ 1)
instance (cfg : Cfg) (s : State) : Decidable (BInv cfg s) := by unfold BInv; infer_instance

theorem binv_of_edgesOK {cfg : Cfg} {s : State} (hS : Shaped cfg s) (hE : EdgesOK cfg s) (hb : certBinary s = true) :
    BInv cfg s := by
  refine ⟨hS.positions_length, hS.positions_range, ?_, ?_⟩
  · intro e hemem r hr x hx
    obtain ⟨i, hi, hie⟩ := Jx.mem_exists_getD [] hemem
    rw [hS.nodeEdges_length] at hi
    obtain ⟨hl, hrl⟩ := edges_shape hS hi
    rw [← hie] at hr
    obtain ⟨ri, hri, hre⟩ := Jx.mem_exists_getD [] hr
    rw [hl] at hri
    rw [← hre] at hx
    obtain ⟨c, hc, hce⟩ := Jx.mem_exists_getD 0 hx
    rw [hrl _ (Jx.getD_mem _ (hl ▸ hri))] at hc
    rw [← hce, hE i hi ri hri c hc]
    split <;> omega
  · unfold certBinary at hb
    simp only [List.all_eq_true, Bool.or_eq_true, beq_iff_eq] at hb
    intro r hr x hx
    have := hb r hr x hx
    omega

theorem targetNode_range {cfg : Cfg} {s : State} (h : BInv cfg s) (i : Nat) (a : Int) :
    -1 ≤ targetNode s i a ∧ targetNode s i a < (cfg.numNodes : Int) :=
  Jx.getWC_of_all (P := fun x => -1 ≤ x ∧ x < (cfg.numNodes : Int)) a
    (Jx.getWC_of_all (P := fun r => ∀ x ∈ r, -1 ≤ x ∧ x < (cfg.numNodes : Int)) _
      (Jx.getD_of_all (P := fun e => ∀ r ∈ e, ∀ x ∈ r, -1 ≤ x ∧ x < (cfg.numNodes : Int)) i h.2.2.1
        fun _ hr => nomatch hr) fun _ hx => nomatch hx) (by omega)

theorem maskNode_range {N : Int} (e : List (List Int)) (node : Int)
    (h : ∀ r ∈ e, ∀ x ∈ r, -1 ≤ x ∧ x < N) (hN : 0 ≤ N) : ∀ r ∈ maskNode e node, ∀ x ∈ r, -1 ≤ x ∧ x < N := by
  unfold maskNode
  intro r hr x hx
  simp only [List.mem_map] at hr
  obtain ⟨r0, hr0, rfl⟩ := hr
  simp only [List.mem_map] at hx
  obtain ⟨x0, hx0, rfl⟩ := hx
  have := h r0 hr0 x0 hx0
  split <;> omega

theorem step_positions_range {cfg : Cfg} {s : State} (h : BInv cfg s) (a : List Int) (p : List Nat) :
    ∀ x ∈ (step cfg s a p).1.positions, 0 ≤ x ∧ x < (cfg.numNodes : Int) := by
  intro x hx
  obtain ⟨i, hi, rfl⟩ := Jx.mem_exists_getD 0 hx
  rw [(step_lengths cfg s a p).2.2.2.1] at hi
  rw [step_positions cfg s a p hi]
  split
  · rename_i hm
    have hne := nodeOf_ne_of_moved hm
    have hr := targetNode_range h i (a.getD i 0)
    rw [← nodeOf_eq cfg s a hi] at hr
    omega
  · exact h.2.1 _ (Jx.getD_mem _ (by rw [h.1]; exact hi))

theorem step_edges_range {cfg : Cfg} {s : State} (h : BInv cfg s) (a : List Int) (p : List Nat) :
    ∀ e ∈ (step cfg s a p).1.nodeEdges, ∀ r ∈ e, ∀ x ∈ r, -1 ≤ x ∧ x < (cfg.numNodes : Int) := by
  have hE := h.2.2.1
  simp only [step, updateActiveEdges]
  intro e he
  simp only [List.mem_map, List.mem_range] at he
  obtain ⟨a2, _, rfl⟩ := he
  apply activeEdgesFor_inv (P := fun e => ∀ r ∈ e, ∀ x ∈ r, -1 ≤ x ∧ x < (cfg.numNodes : Int))
    (fun e node h => maskNode_range e node h (by omega))
  exact Jx.getD_of_all (P := fun e => ∀ r ∈ e, ∀ x ∈ r, -1 ≤ x ∧ x < (cfg.numNodes : Int)) a2 hE fun _ hr => nomatch hr

theorem step_binv {cfg : Cfg} {s : State} (h : BInv cfg s) (a : List Int) (p : List Nat) :
    BInv cfg (step cfg s a p).1 :=
  ⟨(step_lengths cfg s a p).2.2.2.1, step_positions_range h a p, step_edges_range h a p,
   by rw [(step_static cfg s a p).2.1]; exact h.2.2.2⟩

theorem relabelBase_range (A : Nat) (hA : 0 < A) (t : Int) :
    -1 ≤ relabelBase A t ∧ relabelBase A t ≤ 2 * (A : Int) - 1 := by
  unfold relabelBase
  have h1 := Int.emod_nonneg (t - 0) (by omega : (A : Int) ≠ 0)
  have h2 := Int.emod_lt_of_pos (t - 0) (by omega : (0 : Int) < (A : Int))
  generalize (t - 0) % (A : Int) = m at h1 h2
  by_cases ht : t = -1 <;> simp [ht] <;> omega

theorem relabelAgent_range (A : Nat) (hA : 0 < A) (agent : Nat) (x ci : Int)
    (hx : -1 ≤ x ∧ x ≤ 2 * (A : Int) - 1) :
    -1 ≤ relabelAgent A agent x ci ∧ relabelAgent A agent x ci ≤ 2 * (A : Int) - 1 := by
  unfold relabelAgent
  have h1 := Int.emod_nonneg ((agent : Int) - 0) (by omega : (A : Int) ≠ 0)
  have h2 := Int.emod_lt_of_pos ((agent : Int) - 0) (by omega : (0 : Int) < (A : Int))
  generalize ((agent : Int) - 0) % (A : Int) = m at h1 h2
  by_cases hc : ci = -1 <;> simp [hc] <;> omega

theorem obsNodeTypes_range (A : Nat) (hA : 0 < A) (nodeTypes : List Int) (ci : List (List Int)) :
    ∀ x ∈ obsNodeTypes A nodeTypes ci, -1 ≤ x ∧ x ≤ 2 * (A : Int) - 1 := by
  refine List.foldlRecOn (motive := fun xs => ∀ x ∈ xs, -1 ≤ x ∧ x ≤ 2 * (A : Int) - 1) (List.range A) _ ?_
    fun xs h ag _ => ?_
  · intro x hx
    obtain ⟨t, _, rfl⟩ := List.mem_map.1 hx
    exact relabelBase_range A hA t
  · exact Jx.forall_mem_zipWith (P := fun x => -1 ≤ x ∧ x ≤ 2 * (A : Int) - 1) (Q := fun _ => True)
      (fun x y hx _ => relabelAgent_range A hA ag x y hx) xs _ h (fun _ _ => trivial)

theorem observe_in_bounds (cfg : Cfg) (s : State) (hA : 0 < cfg.numAgents) (h : BInv cfg s)
    (h0 : 0 ≤ s.stepCount) (hT : s.stepCount ≤ (cfg.timeLimit : Int)) :
    ObsInBounds (obsBounds cfg) (observeL1 cfg s) :=
  have ⟨_, hp, _, hadj⟩ := h
  Jx.rel_of_aligned_fst (R := fun (b : Option Rat × Option Rat) vs => ∀ v ∈ vs, inIv b.1 b.2 v) rfl (by simp [obsLeaves]) <|
    Jx.all_cons (Jx.Iv.ints _ (obsNodeTypes_range cfg.numAgents hA _ _)) <|
    Jx.all_cons (Jx.Iv.ints (lo := 0) (hi := 1) _ (Jx.forall_mem_flatten hadj)) <|
    Jx.all_cons (Jx.Iv.ints (lo := 0) _ fun x hx => ⟨(hp x hx).1, Int.le_sub_one_of_lt (hp x hx).2⟩) <|
    Jx.all_cons (Jx.Iv.one (lo := 0) h0 hT) <| Jx.all_cons (Jx.Iv.bools _) Jx.all_nil

end MMST
