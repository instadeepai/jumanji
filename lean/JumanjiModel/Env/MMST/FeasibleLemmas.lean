/-
MMST, C06 / C04: `Feasible` is an inductive invariant of `step` (every joint action, every draw,
every configuration), reset states satisfying the generator certificates are feasible, completed episodes hold a
solution, and a legal action that no agent earlier in the draw contests is carried out.
-/
import JumanjiModel.Env.MMST.Lemmas
import JumanjiModel.Prim.ListLemmas
namespace MMST
open Jm

theorem target_cases {cfg : Cfg} {s : State} (hS : Shaped cfg s) (hE : EdgesOK cfg s) {i : Nat}
    (hi : i < cfg.numAgents) (a : Int) :
    targetNode s i a = -1 ∨ ∃ c, c < cfg.numNodes ∧ targetNode s i a = (c : Int) ∧
      hasEdge s (s.positions.getD i 0).toNat c ∧ ¬ takenByOther cfg s i c := by
  have hp := pos_range hS hi
  have hk := Jx.clampIdx_lt (n := cfg.numNodes) (by omega) a
  rw [targetNode_eq hS hE hi a]
  by_cases hc : hasEdge s (s.positions.getD i 0).toNat (Jx.clampIdx cfg.numNodes a) ∧
      ¬ takenByOther cfg s i (Jx.clampIdx cfg.numNodes a)
  · rw [if_pos hc]
    exact Or.inr ⟨_, hk, rfl, hc.1, hc.2⟩
  · rw [if_neg hc]
    exact Or.inl rfl

theorem moved_node {cfg : Cfg} {s : State} (hS : Shaped cfg s) (hE : EdgesOK cfg s) (action : List Int)
    (perm : List Nat) {i : Nat} (hi : i < cfg.numAgents) (hm : movedAt cfg s action perm i = true) :
    ∃ c, c < cfg.numNodes ∧ nodeOf cfg s action i = (c : Int) ∧
      hasEdge s (s.positions.getD i 0).toNat c ∧ ¬ takenByOther cfg s i c := by
  have hne := nodeOf_ne_of_moved hm
  rw [nodeOf_eq cfg s action hi] at hne ⊢
  rcases target_cases hS hE hi (action.getD i 0) with h | h
  · exact absurd h hne
  · exact h

theorem step_ci_getD {cfg : Cfg} {s : State} (hS : Shaped cfg s) (hE : EdgesOK cfg s) (action : List Int)
    (perm : List Nat) {i : Nat} (hi : i < cfg.numAgents) (v : Nat) :
    ((step cfg s action perm).1.connectedIndex.getD i []).getD v (-1) =
      if movedAt cfg s action perm i = true ∧ nodeOf cfg s action i = (v : Int) then (v : Int)
      else (s.connectedIndex.getD i []).getD v (-1) := by
  rw [step_connectedIndex cfg s action perm hi]
  by_cases hm : movedAt cfg s action perm i = true
  · obtain ⟨c, hc, hn, _, _⟩ := moved_node hS hE action perm hi hm
    rw [if_pos hm, hn, Jx.setWD_natCast, Jx.getD_set, ci_length hS hi]
    by_cases hcv : c = v
    · subst hcv; rw [if_pos ⟨rfl, hc⟩, if_pos ⟨hm, rfl⟩]
    · rw [if_neg (fun h => hcv h.1), if_neg (fun h => hcv (by omega))]
  · rw [if_neg hm, if_neg (fun h => hm h.1)]

theorem step_connectedBy {cfg : Cfg} {s : State} (hS : Shaped cfg s) (hE : EdgesOK cfg s) (action : List Int)
    (perm : List Nat) {i : Nat} (hi : i < cfg.numAgents) (v : Nat) :
    connectedBy (step cfg s action perm).1 i v ↔
      (connectedBy s i v ∨ (movedAt cfg s action perm i = true ∧ nodeOf cfg s action i = (v : Int))) := by
  unfold connectedBy
  rw [step_ci_getD hS hE action perm hi v]
  split <;> rename_i h <;> simp [h]

theorem newly_connected {cfg : Cfg} {s : State} (hS : Shaped cfg s) (hE : EdgesOK cfg s) (action : List Int)
    (perm : List Nat) {i : Nat} (hi : i < cfg.numAgents) {v : Nat} (hc : connectedBy (step cfg s action perm).1 i v)
    (hnc : ¬ connectedBy s i v) :
    movedAt cfg s action perm i = true ∧ nodeOf cfg s action i = (v : Int) ∧ ¬ takenByOther cfg s i v := by
  obtain ⟨hm, hn⟩ := ((step_connectedBy hS hE action perm hi v).1 hc).resolve_left hnc
  obtain ⟨c, _, hn', _, hnt⟩ := moved_node hS hE action perm hi hm
  have hcv : c = v := by rw [hn'] at hn; omega
  subst hcv
  exact ⟨hm, hn, hnt⟩

theorem step_pos_range {cfg : Cfg} {s : State} (hS : Shaped cfg s) (hE : EdgesOK cfg s) (action : List Int)
    (perm : List Nat) {i : Nat} (hi : i < cfg.numAgents) :
    0 ≤ (step cfg s action perm).1.positions.getD i 0 ∧
    (step cfg s action perm).1.positions.getD i 0 < (cfg.numNodes : Int) := by
  rw [step_positions cfg s action perm hi]
  by_cases hm : movedAt cfg s action perm i = true
  · obtain ⟨c, hc, hn, _, _⟩ := moved_node hS hE action perm hi hm
    rw [if_pos hm, hn]; omega
  · rw [if_neg hm]; exact pos_range hS hi

/-- `RouteOK` is for the agent that stays: it has connected the node it stands on -/
theorem step_connectedBy' {cfg : Cfg} {s : State} (hS : Shaped cfg s) (hE : EdgesOK cfg s) (hR : RouteOK cfg s)
    (action : List Int) (perm : List Nat) {i : Nat} (hi : i < cfg.numAgents) (v : Nat) :
    connectedBy (step cfg s action perm).1 i v ↔
      (connectedBy s i v ∨ (step cfg s action perm).1.positions.getD i 0 = (v : Int)) := by
  rw [step_connectedBy hS hE action perm hi v, step_positions cfg s action perm hi]
  by_cases hm : movedAt cfg s action perm i = true
  · simp [hm]
  · simp only [hm, false_and, or_false, if_false, Bool.false_eq_true]
    refine ⟨Or.inl, fun h => h.elim id fun h => ?_⟩
    have := hR.1 i hi
    have hp := pos_range hS hi
    rwa [show (s.positions.getD i 0).toNat = v by omega] at this

theorem step_utilityExclusive {cfg : Cfg} {s : State} (hS : Shaped cfg s) (hU : UtilityExclusive cfg s)
    (hE : EdgesOK cfg s) (action : List Int) (perm : List Nat) :
    UtilityExclusive cfg (step cfg s action perm).1 := by
  intro i hi j hj v hv ⟨hij, hu, hci, hcj⟩
  have hu' : isUtility s v := hu
  have fresh : ∀ k, k < cfg.numAgents → ¬ connectedBy s k v → nodeOf cfg s action k = (v : Int) →
      Jx.getWC (s.connectedIndex.getD k []) (-1) ((targets cfg s action).getD k (-1)) = -1 := by
    intro k hk hnc hn
    have hn' : (targets cfg s action).getD k (-1) = (v : Int) := hn
    rw [hn', Jx.getWC_nat _ _ (by rw [ci_length hS hk]; exact hv)]
    unfold connectedBy at hnc
    exact Decidable.not_not.1 hnc
  -- a utility node is not newly connected by one agent when another has it, nor by two agents in the same step
  by_cases hoi : connectedBy s i v
  · by_cases hoj : connectedBy s j v
    · exact hU i hi j hj v hv ⟨hij, hu', hoi, hoj⟩
    · exact (newly_connected hS hE action perm hj hcj hoj).2.2 ⟨hu', i, hi, hij, hoi⟩
  · obtain ⟨hmi, hni, hnt⟩ := newly_connected hS hE action perm hi hci hoi
    by_cases hoj : connectedBy s j v
    · exact hnt ⟨hu', j, hj, Ne.symm hij, hoj⟩
    · obtain ⟨hmj, hnj, _⟩ := newly_connected hS hE action perm hj hcj hoj
      apply new_nodes_distinct cfg s action perm hi hj hij hmi hmj (fresh i hi hoi hni) (fresh j hj hoj hnj)
      show nodeOf cfg s action i = nodeOf cfg s action j
      rw [hni, hnj]

theorem maskNode_shape {N : Nat} (e : List (List Int)) (node : Int) (h : e.length = N ∧ ∀ r ∈ e, r.length = N) :
    (maskNode e node).length = N ∧ ∀ r ∈ maskNode e node, r.length = N := by
  unfold maskNode
  refine ⟨by simp [h.1], ?_⟩
  intro r hr
  simp only [List.mem_map] at hr
  obtain ⟨r0, hr0, rfl⟩ := hr
  simp [h.2 r0 hr0]

theorem activeEdgesFor_shape {N : Nat} (A : Nat) (nodeTypes pos : List Int) (a2 : Nat) {e : List (List Int)}
    (h : e.length = N ∧ ∀ r ∈ e, r.length = N) :
    (activeEdgesFor A nodeTypes pos a2 e).length = N ∧ ∀ r ∈ activeEdgesFor A nodeTypes pos a2 e, r.length = N :=
  activeEdgesFor_inv (P := fun e => e.length = N ∧ ∀ r ∈ e, r.length = N) maskNode_shape A nodeTypes pos a2 h

theorem getD_maskNode {N : Nat} {e : List (List Int)} (h : e.length = N ∧ ∀ r ∈ e, r.length = N) (node : Int) {r c : Nat}
    (hr : r < N) (hc : c < N) :
    ((maskNode e node).getD r []).getD c 0 =
      if (e.getD r []).getD c 0 = node then -1 else (e.getD r []).getD c 0 := by
  unfold maskNode
  rw [Jx.getD_map _ [] [] (h.1 ▸ hr), Jx.getD_map _ 0 0 (by rw [h.2 _ (Jx.getD_mem _ (h.1 ▸ hr))]; exact hc)]
  simp only [beq_iff_eq]

/-- the fold of `activeEdgesFor` as one entry of the table sees it -/
theorem foldl_maskVal (m : Nat → Bool) (nd : Nat → Int) : ∀ (ags : List Nat) (x : Int),
    ags.foldl (fun x j => if m j = true ∧ x = nd j then -1 else x) x =
      if ags.any (fun j => m j && x == nd j) then -1 else x := by
  intro ags
  induction ags with
  | nil => intro x; simp
  | cons a ags ih =>
    intro x
    rw [List.foldl_cons, ih, List.any_cons]
    by_cases h : m a = true ∧ x = nd a
    · simp [h.1, h.2]
    · have : (m a && x == nd a) = false := by simpa using h
      rw [if_neg h, this, Bool.false_or]

theorem activeEdgesFor_getD {N : Nat} (A : Nat) (nodeTypes pos : List Int) (a2 : Nat) {e : List (List Int)}
    (h : e.length = N ∧ ∀ r ∈ e, r.length = N) {r c : Nat} (hr : r < N) (hc : c < N) :
    ((activeEdgesFor A nodeTypes pos a2 e).getD r []).getD c 0 =
      if (List.range A).any (fun j => (j != a2 && Jx.getWC nodeTypes 0 (pos.getD j 0) == -1) &&
          (e.getD r []).getD c 0 == pos.getD j 0) then -1 else (e.getD r []).getD c 0 := by
  unfold activeEdgesFor
  rw [Jx.foldl_read (fun e : List (List Int) => (e.getD r []).getD c 0) _
      (fun j x => if (j != a2 && Jx.getWC nodeTypes 0 (pos.getD j 0) == -1) = true ∧ x = pos.getD j 0 then -1 else x)
      (fun e => e.length = N ∧ ∀ r ∈ e, r.length = N) _ (fun e j _ he => ?_) _ h, foldl_maskVal]
  dsimp only
  split
  · rename_i hm
    exact ⟨maskNode_shape _ _ he, by rw [getD_maskNode he _ hr hc]; simp only [hm, true_and]⟩
  · rename_i hm
    exact ⟨he, (if_neg fun h => hm h.1).symm⟩

theorem step_takenByOther {cfg : Cfg} {s : State} (hS : Shaped cfg s) (hE : EdgesOK cfg s) (hR : RouteOK cfg s)
    (action : List Int) (perm : List Nat) (i c : Nat) :
    takenByOther cfg (step cfg s action perm).1 i c ↔
      (takenByOther cfg s i c ∨ (isUtility s c ∧ ∃ j, j < cfg.numAgents ∧ j ≠ i ∧
        (step cfg s action perm).1.positions.getD j 0 = (c : Int))) := by
  show (isUtility s c ∧ ∃ j, j < cfg.numAgents ∧ j ≠ i ∧ connectedBy (step cfg s action perm).1 j c) ↔ _
  constructor
  · rintro ⟨h1, j, hj, hji, hc⟩
    exact ((step_connectedBy' hS hE hR action perm hj c).1 hc).imp (fun h => ⟨h1, j, hj, hji, h⟩)
      (fun h => ⟨h1, j, hj, hji, h⟩)
  · rintro (⟨h1, j, hj, hji, hc⟩ | ⟨h1, j, hj, hji, hc⟩)
    · exact ⟨h1, j, hj, hji, (step_connectedBy' hS hE hR action perm hj c).2 (Or.inl hc)⟩
    · exact ⟨h1, j, hj, hji, (step_connectedBy' hS hE hR action perm hj c).2 (Or.inr hc)⟩

theorem step_edgesOK {cfg : Cfg} {s : State} (hS : Shaped cfg s) (hE : EdgesOK cfg s) (hR : RouteOK cfg s)
    (action : List Int) (perm : List Nat) : EdgesOK cfg (step cfg s action perm).1 := by
  intro i hi r hr c hc
  have hT := step_takenByOther hS hE hR action perm i c
  rw [step_nodeEdges]
  unfold updateActiveEdges
  rw [Jx.getD_range_map _ _ hi, activeEdgesFor_getD _ _ _ _ (edges_shape hS hi) hr hc, hE i hi r hr c hc]
  have hutil : Jx.getWC s.nodeTypes 0 (c : Int) = -1 ↔ isUtility s c := by
    rw [Jx.getWC_nat _ _ (by rw [hS.nodeTypes_length]; exact hc)]; rfl
  have hany : ((List.range cfg.numAgents).any (fun j => (j != i &&
        Jx.getWC s.nodeTypes 0 ((step cfg s action perm).1.positions.getD j 0) == -1) &&
        (c : Int) == (step cfg s action perm).1.positions.getD j 0) = true) ↔
      (isUtility s c ∧ ∃ j, j < cfg.numAgents ∧ j ≠ i ∧ (step cfg s action perm).1.positions.getD j 0 = (c : Int)) := by
    simp only [List.any_eq_true, List.mem_range, Bool.and_eq_true, bne_iff_ne, ne_eq, beq_iff_eq]
    constructor
    · rintro ⟨j, hj, ⟨h1, h2⟩, h3⟩; exact ⟨hutil.1 (h3 ▸ h2), j, hj, h1, h3.symm⟩
    · rintro ⟨hu, j, hj, h1, h3⟩; exact ⟨j, hj, ⟨h1, h3 ▸ hutil.2 hu⟩, h3.symm⟩
  by_cases h0 : hasEdge s r c ∧ ¬ takenByOther cfg s i c
  · rw [if_pos h0]
    split
    · rename_i hm
      rw [if_neg (fun h => h.2 (hT.2 (Or.inr (hany.1 hm))))]
    · rename_i hm
      rw [if_pos ⟨h0.1, fun ht => (hT.1 ht).elim h0.2 (fun h => hm (hany.2 h))⟩]
  · have : ¬ (hasEdge (step cfg s action perm).1 r c ∧ ¬ takenByOther cfg (step cfg s action perm).1 i c) :=
      fun h => h0 ⟨h.1, fun ht => h.2 (hT.2 (Or.inl ht))⟩
    rw [if_neg h0, if_neg this]
    split <;> rfl

theorem step_routeOK {cfg : Cfg} {s : State} (hS : Shaped cfg s) (hE : EdgesOK cfg s) (hR : RouteOK cfg s)
    (action : List Int) (perm : List Nat) : RouteOK cfg (step cfg s action perm).1 := by
  refine ⟨?_, ?_, ?_⟩
  · intro i hi
    have hp := step_pos_range hS hE action perm hi
    apply (step_connectedBy' hS hE hR action perm hi _).2
    right; omega
  · intro i hi v hv hne
    rw [step_connectedNodes cfg s action perm hi] at hv
    have hold : v ∈ s.connectedNodes.getD i [] ∨
        (movedAt cfg s action perm i = true ∧ v = nodeOf cfg s action i) := by
      split at hv
      · rename_i hm; exact (Jx.mem_setWD hv).imp id (fun h => ⟨hm, h⟩)
      · exact Or.inl hv
    rcases hold with hv | ⟨hm, rfl⟩
    · obtain ⟨h1, h2, h3⟩ := hR.2.1 i hi v hv hne
      refine ⟨h1, h2, ?_⟩
      rw [step_ci_getD hS hE action perm hi]
      split <;> omega
    · obtain ⟨c, hc, hn, _, _⟩ := moved_node hS hE action perm hi hm
      rw [hn, step_ci_getD hS hE action perm hi, if_pos ⟨hm, by rw [hn]; omega⟩]
      omega
  · intro i hi v hv
    rw [step_ci_getD hS hE action perm hi]
    split
    · exact Or.inr rfl
    · exact hR.2.2 i hi v hv

theorem mem_map_range_getD {α} {n : Nat} {f : Nat → α} {x : α} (h : x ∈ (List.range n).map f) :
    ∃ i, i < n ∧ x = f i := by
  simp only [List.mem_map, List.mem_range] at h
  obtain ⟨i, hi, rfl⟩ := h
  exact ⟨i, hi, rfl⟩

theorem step_shaped_of_pos {cfg : Cfg} {s : State} (hS : Shaped cfg s) (action : List Int) (perm : List Nat)
    (hpos : ∀ p ∈ (step cfg s action perm).1.positions, 0 ≤ p ∧ p < (cfg.numNodes : Int)) :
    Shaped cfg (step cfg s action perm).1 := by
  obtain ⟨l1, l2, l3, l4, l5, l6⟩ := step_lengths cfg s action perm
  refine ⟨hS.nodeTypes_length, hS.adj_length, hS.adj_rows, l1, l2, ?_, hS.nodesToConnect_length, l3, ?_, l4, hpos,
    l5, l6⟩
  · intro r hr
    obtain ⟨i, hi, rfl⟩ := Jx.mem_exists_getD [] hr
    rw [l2] at hi
    rw [step_connectedIndex cfg s action perm hi]
    split
    · rw [Jx.setWD_length]; exact ci_length hS hi
    · exact ci_length hS hi
  · intro e he
    rw [step_nodeEdges] at he
    unfold updateActiveEdges at he
    obtain ⟨i, hi, rfl⟩ := mem_map_range_getD he
    exact activeEdgesFor_shape _ _ _ _ (edges_shape hS hi)

theorem step_shaped {cfg : Cfg} {s : State} (hS : Shaped cfg s) (hE : EdgesOK cfg s)
    (action : List Int) (perm : List Nat) : Shaped cfg (step cfg s action perm).1 := by
  apply step_shaped_of_pos hS
  intro p hp
  obtain ⟨i, hi, rfl⟩ := Jx.mem_exists_getD 0 hp
  rw [(step_lengths cfg s action perm).2.2.2.1] at hi
  exact step_pos_range hS hE action perm hi

/-- C06: `Feasible` is preserved by every step — any joint action (any list of integers), any draw (a valid
permutation or not), any configuration (pinned or repaired mask / visited lookup) -/
theorem step_feasible {cfg : Cfg} {s : State} (h : Feasible cfg s) (action : List Int) (perm : List Nat) :
    Feasible cfg (step cfg s action perm).1 := by
  obtain ⟨hS, hU, hE, hR⟩ := h
  exact ⟨step_shaped hS hE action perm, step_utilityExclusive hS hU hE action perm,
    step_edgesOK hS hE hR action perm, step_routeOK hS hE hR action perm⟩

/-- the states of a run; `steps` = the joint actions and draws played one after the other.  MMST's own play, with its own
induction `statesAlong_inv`; not tied to `EpRun.run` -/
def statesAlong (cfg : Cfg) : State → List (List Int × List Nat) → List State
  | s, [] => [s]
  | s, st :: rest => s :: statesAlong cfg (step cfg s st.1 st.2).1 rest

theorem statesAlong_inv {cfg : Cfg} {P : State → Prop} (hstep : ∀ s a p, P s → P (step cfg s a p).1)
    (steps : List (List Int × List Nat)) : ∀ {s : State}, P s → ∀ s' ∈ statesAlong cfg s steps, P s' := by
  induction steps with
  | nil => intro s h s' hs'; simp only [statesAlong, List.mem_singleton] at hs'; rw [hs']; exact h
  | cons st rest ih =>
    intro s h s' hs'
    simp only [statesAlong, List.mem_cons] at hs'
    rcases hs' with rfl | hs'
    · exact h
    · exact ih (hstep s st.1 st.2 h) s' hs'

theorem feasible_along {cfg : Cfg} (steps : List (List Int × List Nat)) :
    ∀ {s : State}, Feasible cfg s → ∀ s' ∈ statesAlong cfg s steps, Feasible cfg s' :=
  statesAlong_inv (P := Feasible cfg) (fun _ a p h => step_feasible h a p) steps

theorem complete_is_solution {cfg : Cfg} {s : State} (hF : Feasible cfg s) (hFr : FlagsFresh cfg s)
    (hdone : s.finished.all id = true) : IsSolution cfg s :=
  ⟨hF, fun _ hi => agentDone_of_finished hF.shaped.finished_length hFr hdone hi⟩

theorem step_complete_is_solution {cfg : Cfg} {s : State} (hF : Feasible cfg s) (action : List Int)
    (perm : List Nat)
    (hK : ∀ i, i < cfg.numAgents → (s.nodesToConnect.getD i []).length = cfg.numNodesPerAgent)
    (hlast : (step cfg s action perm).2.stepType = .last) (ht : s.stepCount + 1 < (cfg.timeLimit : Int)) :
    IsSolution cfg (step cfg s action perm).1 := by
  apply complete_is_solution (step_feasible hF action perm) (step_flagsFresh cfg s action perm hK)
  rcases (step_last_iff cfg s action perm).1 hlast with h | h
  · exact h
  · omega

/-- C04: a legal action is carried out (the agent moves to the node it chose and its route index advances) when no
agent before it in the draw asks for the same node -/
theorem legal_moves {cfg : Cfg} {s : State} (hS : Shaped cfg s) (hE : EdgesOK cfg s) (hF : FlagsFresh cfg s)
    (action : List Nat) (l1 l2 : List Nat) {i : Nat} (hi : i < cfg.numAgents)
    (hl : action.length = cfg.numAgents)
    (ha : action.getD i 0 < cfg.numNodes) (hleg : legal cfg s i (action.getD i 0))
    (h1 : ∀ k ∈ l1, nodeOf cfg s (action.map Int.ofNat) k ≠ ((action.getD i 0 : Nat) : Int)) (h2 : i ∉ l2) :
    movedAt cfg s (action.map Int.ofNat) (l1 ++ i :: l2) i = true ∧
    nodeOf cfg s (action.map Int.ofNat) i = ((action.getD i 0 : Nat) : Int) := by
  have hnode := nodeOf_legal hS hE action hi ha hleg
  have hnode' : (targets cfg s (action.map Int.ofNat)).getD i (-1) = ((action.getD i 0 : Nat) : Int) := hnode
  have hwin := tieBreak_wins cfg.numAgents (action.map Int.ofNat) (targets cfg s (action.map Int.ofNat)) l1 l2 hi
    (by rw [hnode']; omega) (fun k hk => by rw [hnode']; exact h1 k hk) h2
  rw [map_ofNat_getD action (hl ▸ hi)] at hwin
  -- not finished, a real node, and (visited or not) its own action in the tie-break table
  refine ⟨(movedAt_iff cfg s _ _ hi).2 ⟨by rw [hF i hi]; exact decide_eq_false hleg.2.2.1, by rw [hnode]; omega,
    Or.inr ⟨by rw [hwin]; omega, by rw [hwin]; omega⟩⟩, hnode⟩

/-- certificate on a generated state: nothing is taken yet, the edge table of every agent is the adjacency matrix (driver key
`edges_adjacency`; the other certificates `certStart`, `certTypes`, … are in Model.lean) -/
def certEdgesAdj (cfg : Cfg) (s : State) : Bool :=
  (List.range cfg.numAgents).all fun i => (List.range cfg.numNodes).all fun r => (List.range cfg.numNodes).all fun c =>
    ((s.nodeEdges.getD i []).getD r []).getD c 0 == (if (s.adj.getD r []).getD c 0 == 1 then (c : Int) else -1)

/-- `certStart` reads the per-agent lists with defaults that fail it; on a `Shaped` state the defaults are immaterial -/
theorem certStart_agent {cfg : Cfg} {s : State} (hS : Shaped cfg s) (h : certStart cfg s = true) {k : Nat}
    (hk : k < cfg.numAgents) :
    s.positions.getD k 0 = (s.nodesToConnect.getD k []).getD 0 (-2) ∧
    s.connectedNodes.getD k [] =
      s.positions.getD k 0 :: List.replicate ((s.connectedNodes.getD k []).length - 1) (-1) ∧
    s.connectedIndex.getD k [] =
      (List.range cfg.numNodes).map (fun (v : Nat) => if (v : Int) = s.positions.getD k 0 then s.positions.getD k 0 else -1) ∧
    s.positionIndex.getD k 0 = 0 ∧ s.finished.getD k false = false := by
  simp only [certStart, List.all_eq_true, List.mem_range, Bool.and_eq_true, beq_iff_eq, decide_eq_true_eq] at h
  obtain ⟨⟨⟨⟨⟨hp, hcn⟩, _⟩, hci⟩, hidx⟩, hfin⟩ := h.1.1 k hk
  rw [Jx.getD_irrel 0 (-1) (hS.positions_length ▸ hk),
    Jx.getD_irrel 0 1 (hS.positionIndex_length ▸ hk),
    Jx.getD_irrel false true (hS.finished_length ▸ hk)]
  exact ⟨hp, hcn, hci, hidx, hfin⟩

theorem certStart_global {cfg : Cfg} {s : State} (h : certStart cfg s = true) :
    s.stepCount = 0 ∧ s.actionMask = makeMask cfg.numAgents s.nodeEdges s.positions s.finished := by
  simp only [certStart, Bool.and_eq_true, beq_iff_eq] at h
  exact ⟨h.1.2, h.2⟩

theorem reset_ci_getD {cfg : Cfg} {s : State} (hS : Shaped cfg s) (h1 : certStart cfg s = true) {i v : Nat}
    (hi : i < cfg.numAgents) (hv : v < cfg.numNodes) :
    (s.connectedIndex.getD i []).getD v (-1) =
      if (v : Int) = s.positions.getD i 0 then s.positions.getD i 0 else -1 := by
  rw [(certStart_agent hS h1 hi).2.2.1, Jx.getD_range_map _ _ hv]

theorem reset_connectedBy {cfg : Cfg} {s : State} (hS : Shaped cfg s) (h1 : certStart cfg s = true) {i v : Nat}
    (hi : i < cfg.numAgents) (hv : v < cfg.numNodes) : connectedBy s i v ↔ (v : Int) = s.positions.getD i 0 := by
  unfold connectedBy
  rw [reset_ci_getD hS h1 hi hv]
  have := pos_range hS hi
  split <;> omega

/-- at reset an agent has connected only the node it stands on, the first of its own nodes, hence (`certTypes`: node types =
ownership) no utility node: no node is taken -/
theorem reset_connected_not_utility {cfg : Cfg} {s : State} (hS : Shaped cfg s) (h1 : certStart cfg s = true)
    (h2 : certTypes cfg s = true) {i v : Nat} (hi : i < cfg.numAgents) (hv : v < cfg.numNodes)
    (hc : connectedBy s i v) : ¬ isUtility s v := by
  simp only [certTypes, List.all_eq_true, List.mem_range, Bool.and_eq_true, beq_iff_eq] at h2
  intro hu
  have hvp := (reset_connectedBy hS h1 hi hv).1 hc
  have hp0 := (certStart_agent hS h1 hi).1
  have hp := pos_range hS hi
  have hmem : (s.nodesToConnect.getD i []).contains (v : Int) = true := by
    rw [hvp, hp0, List.contains_iff_mem]
    exact (Jx.getD_mem_or _ (-2) 0).resolve_right (by rw [← hp0]; omega)
  have := (h2 v hv).1 i hi
  rw [hmem] at this
  unfold isUtility at hu
  rw [hu] at this
  have := beq_iff_eq.1 this
  omega

/-- C06: a state with the configured shapes that satisfies the generator certificates `certStart`, `certTypes` and
`certEdgesAdj` is feasible -/
theorem reset_feasible {cfg : Cfg} {s : State} (hS : Shaped cfg s) (h1 : certStart cfg s = true)
    (h2 : certTypes cfg s = true) (h3 : certEdgesAdj cfg s = true) : Feasible cfg s := by
  simp only [certEdgesAdj, List.all_eq_true, List.mem_range, beq_iff_eq] at h3
  refine ⟨hS, ?_, ?_, ?_, ?_, ?_⟩
  · rintro i hi j hj v hv ⟨_, hu, hci, _⟩
    exact reset_connected_not_utility hS h1 h2 hi hv hci hu
  · intro i hi r hr c hc
    have hnt : ¬ takenByOther cfg s i c := by
      rintro ⟨hu, j, hj, _, hcj⟩
      exact reset_connected_not_utility hS h1 h2 hj hc hcj hu
    rw [h3 i hi r hr c hc]
    by_cases he : hasEdge s r c
    · have he' : (s.adj.getD r []).getD c 0 = 1 := he
      rw [if_pos he', if_pos ⟨he, hnt⟩]
    · have he' : ¬ (s.adj.getD r []).getD c 0 = 1 := he
      rw [if_neg he', if_neg (fun h => he h.1)]
  · intro i hi
    have := pos_range hS hi
    exact (reset_connectedBy hS h1 hi (by omega)).2 (by omega)
  · intro i hi v hv hne
    have hp := pos_range hS hi
    rw [(certStart_agent hS h1 hi).2.1] at hv
    rcases List.mem_cons.1 hv with hv | hv
    · subst hv
      refine ⟨hp.1, hp.2, ?_⟩
      rw [reset_ci_getD hS h1 hi (by omega), if_pos (by omega)]
    · exact absurd (List.eq_of_mem_replicate hv) hne
  · intro i hi v hv
    rw [reset_ci_getD hS h1 hi hv]
    split
    · right; omega
    · left; rfl
end MMST
