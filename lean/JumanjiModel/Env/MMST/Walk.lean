/-
MMST: the routes are walks in the graph (`RouteWalk`), `Feasible'` is an inductive invariant of `step` up to the time
limit, a completed episode holds routes inside which the agent's nodes are pairwise connected and which share no
utility node; the finished flags of a reset state are fresh (K ≥ 2).
-/
import JumanjiModel.Env.MMST.FeasibleLemmas
import JumanjiModel.Env.MMST.Solvable
namespace MMST
open Jm

theorem routeWalkAt_congr {cfg : Cfg} {s s' : State} {i : Nat} (h : RouteWalkAt cfg s i)
    (hcn : s'.connectedNodes.getD i [] = s.connectedNodes.getD i [])
    (hidx : s'.positionIndex.getD i 0 = s.positionIndex.getD i 0)
    (hpos : s'.positions.getD i 0 = s.positions.getD i 0) (hadj : s'.adj = s.adj)
    (hsc : s.stepCount ≤ s'.stepCount) : RouteWalkAt cfg s' i := by
  unfold RouteWalkAt routeAt hasEdge at h ⊢
  rw [hcn, hidx, hpos, hadj]
  exact ⟨h.1, h.2.1, Int.le_trans h.2.2.1 hsc, h.2.2.2⟩

/-- when the row is full (`n + 1 = time_limit`) the write of `c` is dropped, and only the last clause of `RouteWalkAt` records
the edge to it -/
theorem routeWalkAt_extend {cfg : Cfg} {s s' : State} {i n c : Nat} (h : RouteWalkAt cfg s i)
    (hidx : s.positionIndex.getD i 0 = (n : Int)) (hc : c < cfg.numNodes)
    (hec : hasEdge s (s.positions.getD i 0).toNat c) (ht : s.stepCount < (cfg.timeLimit : Int))
    (hcn : s'.connectedNodes.getD i [] = Jx.setWD (s.connectedNodes.getD i []) ((n : Int) + 1) (c : Int))
    (hidx' : s'.positionIndex.getD i 0 = (n : Int) + 1) (hpos' : s'.positions.getD i 0 = (c : Int))
    (hadj : s'.adj = s.adj) (hsc : s'.stepCount = s.stepCount + 1) : RouteWalkAt cfg s' i := by
  obtain ⟨w1, w2, w3, w4, w5, w6, w7, w8, w9⟩ := h
  have hR : ∀ t, routeAt s' i t = if n + 1 = t ∧ n + 1 < cfg.timeLimit then (c : Int) else routeAt s i t := by
    intro t
    unfold routeAt
    rw [hcn, show (n : Int) + 1 = ((n + 1 : Nat) : Int) by omega, ← w1]
    by_cases hlt : n + 1 < (s.connectedNodes.getD i []).length
    · rw [Jx.setWD_natCast, Jx.getD_set]
    · rw [Jx.setWD_ge _ _ (by omega), if_neg (fun h => hlt h.2)]
  have hedge : ∀ r c, hasEdge s' r c ↔ hasEdge s r c := by
    intro r c
    unfold hasEdge
    rw [hadj]
  have hnT : n < cfg.timeLimit := by omega
  have hpos : routeAt s i n = s.positions.getD i 0 := by
    have := w8 (by omega); rw [hidx] at this; simpa using this
  unfold RouteWalkAt
  rw [hidx', hpos', hsc]
  refine ⟨?_, by omega, by omega, by omega, ?_, ?_, ?_, ?_, ?_⟩
  · rw [hcn, Jx.setWD_length]; exact w1
  · intro t htT htm
    rw [hR t]
    by_cases h : n + 1 = t ∧ n + 1 < cfg.timeLimit
    · rw [if_pos h]; omega
    · rw [if_neg h]; exact w5 t htT (by omega)
  · intro t htT htm
    rw [hR t, if_neg (by omega)]
    exact w6 t htT (by omega)
  · intro t htT htT1 htm
    rw [hedge, hR t, hR (t + 1), if_neg (by omega)]
    by_cases h : n = t
    · subst h
      rw [if_pos ⟨rfl, htT1⟩, hpos]
      simpa using hec
    · rw [if_neg (by omega)]
      exact w7 t htT htT1 (by omega)
  · intro hlt
    have e : ((n : Int) + 1).toNat = n + 1 := by omega
    rw [e, hR (n + 1), if_pos ⟨rfl, by omega⟩]
  · intro heq
    have e : cfg.timeLimit - 1 = n := by omega
    rw [hedge, e, hR n, if_neg (by omega), hpos]
    simpa using hec

theorem step_routeWalk {cfg : Cfg} {s : State} (hS : Shaped cfg s) (hE : EdgesOK cfg s) (hW : RouteWalk cfg s)
    (ht : s.stepCount < (cfg.timeLimit : Int)) (action : List Int) (perm : List Nat) :
    RouteWalk cfg (step cfg s action perm).1 := by
  intro i hi
  have hsc : (step cfg s action perm).1.stepCount = s.stepCount + 1 := rfl
  by_cases hm : movedAt cfg s action perm i = true
  · obtain ⟨c, hc, hn, hec, _⟩ := moved_node hS hE action perm hi hm
    obtain ⟨n, hidx⟩ := Int.eq_ofNat_of_zero_le (hW i hi).2.1
    refine routeWalkAt_extend (hW i hi) hidx hc hec ht ?_ ?_ ?_ rfl hsc
    · rw [step_connectedNodes cfg s action perm hi, if_pos hm, hn, hidx]
    · rw [step_positionIndex cfg s action perm hi, if_pos hm, hidx]
    · rw [step_positions cfg s action perm hi, if_pos hm, hn]
  · refine routeWalkAt_congr (hW i hi) ?_ ?_ ?_ rfl (by omega)
    · rw [step_connectedNodes cfg s action perm hi, if_neg hm]
    · rw [step_positionIndex cfg s action perm hi, if_neg hm]
    · rw [step_positions cfg s action perm hi, if_neg hm]

/-- C06 with walks: `Feasible'` (= `Feasible ∧ RouteWalk`) is preserved by every step taken before the time limit -/
theorem step_feasible' {cfg : Cfg} {s : State} (h : Feasible' cfg s) (ht : s.stepCount < (cfg.timeLimit : Int))
    (action : List Int) (perm : List Nat) : Feasible' cfg (step cfg s action perm).1 :=
  ⟨step_feasible h.1 action perm, step_routeWalk h.1.1 h.1.2.2.1 h.2 ht action perm⟩

theorem statesAlong_stepCount (cfg : Cfg) (steps : List (List Int × List Nat)) :
    ∀ (s : State), ∀ s' ∈ statesAlong cfg s steps,
      s.stepCount ≤ s'.stepCount ∧ s'.stepCount ≤ s.stepCount + (steps.length : Int) := by
  induction steps with
  | nil => intro s s' hs'; simp only [statesAlong, List.mem_singleton] at hs'; subst hs'; simp
  | cons st rest ih =>
    intro s s' hs'
    simp only [statesAlong, List.mem_cons] at hs'
    rcases hs' with rfl | hs'
    · simp only [List.length_cons]; omega
    · have := ih _ s' hs'
      rw [step_count] at this
      simp only [List.length_cons]
      omega

theorem reset_routeWalk {cfg : Cfg} {s : State} (hS : Shaped cfg s) (h1 : certStart cfg s = true)
    (hT : 1 ≤ cfg.timeLimit) (hL : ∀ i, i < cfg.numAgents → (s.connectedNodes.getD i []).length = cfg.timeLimit) :
    RouteWalk cfg s := by
  intro i hi
  obtain ⟨_, hcn, _, hidx0, _⟩ := certStart_agent hS h1 hi
  have hsc := (certStart_global h1).1
  have hp := pos_range hS hi
  have hlen := hL i hi
  have hr0 : routeAt s i 0 = s.positions.getD i 0 := by
    unfold routeAt; rw [hcn]; rfl
  have hrt : ∀ t, 0 < t → routeAt s i t = -1 := by
    intro t ht
    unfold routeAt
    rw [hcn]
    obtain ⟨t', rfl⟩ : ∃ t', t = t' + 1 := ⟨t - 1, by omega⟩
    simp only [List.getD_eq_getElem?_getD, List.getElem?_cons_succ, List.getElem?_replicate]
    split <;> rfl
  unfold RouteWalkAt
  rw [hidx0, hsc]
  refine ⟨hlen, by omega, by omega, by omega, ?_, ?_, ?_, ?_, ?_⟩
  · intro t _ ht0
    have : t = 0 := by omega
    subst this
    rw [hr0]; exact hp
  · intro t _ ht0
    exact hrt t (by omega)
  · intro t _ _ h; omega
  · intro _; simpa using hr0
  · intro h; omega

/-- C06 with walks: a generated state is `Feasible'` -/
theorem reset_feasible' {cfg : Cfg} {s : State} (hS : Shaped cfg s) (h1 : certStart cfg s = true)
    (h2 : certTypes cfg s = true) (h3 : certEdgesAdj cfg s = true) (hT : 1 ≤ cfg.timeLimit)
    (hL : ∀ i, i < cfg.numAgents → (s.connectedNodes.getD i []).length = cfg.timeLimit) : Feasible' cfg s :=
  ⟨reset_feasible hS h1 h2 h3, reset_routeWalk hS h1 hT hL⟩

/-- with at least two nodes per agent, no agent is done in a generated state, so the (all false) finished
flags are fresh -/
theorem reset_flagsFresh {cfg : Cfg} {s : State} (hS : Shaped cfg s) (h1 : certStart cfg s = true)
    (h4 : certAgentsDisjoint cfg s = true) (hK : 2 ≤ cfg.numNodesPerAgent) : FlagsFresh cfg s := by
  simp only [certAgentsDisjoint, List.all_eq_true, List.mem_range, Bool.and_eq_true, beq_iff_eq,
    decide_eq_true_eq] at h4
  intro i hi
  obtain ⟨hp0, hcn, _, _, hf⟩ := certStart_agent hS h1 hi
  obtain ⟨⟨⟨hlen, hnd⟩, hrng⟩, _⟩ := h4 i hi
  rw [hf]
  have : ¬ agentDone s i := by
    intro hd
    unfold agentDone at hd
    cases hrow : s.nodesToConnect.getD i [] with
    | nil => rw [hrow] at hlen; simp at hlen; omega
    | cons x xs =>
      cases xs with
      | nil => rw [hrow] at hlen; simp at hlen; omega
      | cons y ys =>
        rw [hrow] at hd hnd hrng hp0
        have hy := hd y (by simp)
        rw [hcn] at hy
        have hp0' : s.positions.getD i 0 = x := hp0
        have hxy : x ≠ y := by
          intro h; subst h
          simp at hnd
        have hy0 := hrng y (by simp)
        rcases List.mem_cons.1 hy with hy | hy
        · rw [hp0'] at hy; exact hxy hy.symm
        · have := List.eq_of_mem_replicate hy
          omega
  simp [this]

theorem reach_walk {s : State} {P : Nat → Prop} (f : Nat → Nat) (n : Nat) (hP : ∀ t, t ≤ n → P (f t))
    (hL : ∀ t, t < n → Linked s (f t) (f (t + 1))) : ∀ k, k ≤ n → ReachIn s P (f 0) (f k)
  | 0, h => ReachIn.refl _ (hP 0 h)
  | k + 1, h => ReachIn.tail (reach_walk f n hP hL k (by omega)) (hL k (by omega)) (hP (k + 1) h)

theorem route_connected {cfg : Cfg} {s : State} (hW : RouteWalk cfg s) {i : Nat}
    (hi : i < cfg.numAgents) {u v : Nat} (hu : onRoute s i u) (hv : onRoute s i v) :
    ReachIn s (onRoute s i) u v := by
  obtain ⟨w1, w2, w3, w4, w5, w6, w7, w8, w9⟩ := hW i hi
  have hT : 1 ≤ cfg.timeLimit := by
    have := List.length_pos_of_mem hu
    omega
  obtain ⟨m, hm⟩ := Int.eq_ofNat_of_zero_le w2
  rw [hm] at w4 w5 w6 w7
  -- the last filled index (`m = time_limit` when the last write was dropped)
  let n := min m (cfg.timeLimit - 1)
  have hnT : n < cfg.timeLimit := by omega
  have hnm : n ≤ m := by omega
  let f : Nat → Nat := fun t => (routeAt s i t).toNat
  have hfr : ∀ t, t ≤ n → ((f t : Nat) : Int) = routeAt s i t := by
    intro t ht
    have := w5 t (by omega) (by omega)
    show (((routeAt s i t).toNat : Nat) : Int) = _
    omega
  have hP : ∀ t, t ≤ n → onRoute s i (f t) := by
    intro t ht
    unfold onRoute
    rw [hfr t ht]
    unfold routeAt
    exact Jx.getD_mem _ (by rw [w1]; omega)
  have hL : ∀ t, t < n → Linked s (f t) (f (t + 1)) := by
    intro t ht
    left
    exact w7 t (by omega) (by omega) (by omega)
  have hidx : ∀ x : Nat, onRoute s i x → ∃ t, t ≤ n ∧ f t = x := by
    intro x hx
    obtain ⟨t, htl, hte⟩ := Jx.mem_exists_getD (-1) hx
    rw [w1] at htl
    have htm : t ≤ m := by
      false_or_by_contra
      have := w6 t htl (by omega)
      unfold routeAt at this
      omega
    refine ⟨t, by omega, ?_⟩
    show (routeAt s i t).toNat = x
    unfold routeAt
    omega
  obtain ⟨a, ha, rfl⟩ := hidx u hu
  obtain ⟨b, hb, rfl⟩ := hidx v hv
  exact (reach_walk f n hP hL a ha).symm.trans (reach_walk f n hP hL b hb)

theorem routes_utility_disjoint {cfg : Cfg} {s : State} (hF : Feasible cfg s) {i j : Nat} (hi : i < cfg.numAgents)
    (hj : j < cfg.numAgents) (hij : i ≠ j) {v : Nat} (hu : isUtility s v) :
    ¬ (onRoute s i v ∧ onRoute s j v) := by
  rintro ⟨h1, h2⟩
  obtain ⟨_, hU, _, hR⟩ := hF
  have c1 := hR.2.1 i hi _ h1 (by omega)
  have c2 := hR.2.1 j hj _ h2 (by omega)
  simp only [Int.toNat_natCast] at c1 c2
  apply hU i hi j hj v (by omega) ⟨hij, hu, ?_, ?_⟩
  · unfold connectedBy; omega
  · unfold connectedBy; omega

end MMST
