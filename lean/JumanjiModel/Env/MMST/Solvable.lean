/-
MMST: what the generator certificates say about solvability (no route, play or time limit is in the statements).

`certOwnBlock` + `certBlocksConnected` ⇒ the blocks `blockOf N A k` (`np.array_split(arange N, A)[k]`) are
pairwise node-disjoint, each induces a connected subgraph, and block `k` contains the nodes to connect of
agent `k`: one connected subgraph per agent, node-disjoint (`cert_solvable`, `cert_solvable_pairs`).
-/
import JumanjiModel.Env.MMST.Model
namespace MMST

theorem Linked.symm {s : State} {u v : Nat} (h : Linked s u v) : Linked s v u := Or.symm h

theorem ReachIn.left {s : State} {P : Nat → Prop} {u v : Nat} (h : ReachIn s P u v) : P u := by
  induction h with
  | refl hu => exact hu
  | tail _ _ _ ih => exact ih

theorem ReachIn.right {s : State} {P : Nat → Prop} {u v : Nat} (h : ReachIn s P u v) : P v := by
  cases h with
  | refl hu => exact hu
  | tail _ _ hw => exact hw

theorem ReachIn.trans {s : State} {P : Nat → Prop} {u v w : Nat}
    (h1 : ReachIn s P u v) (h2 : ReachIn s P v w) : ReachIn s P u w := by
  induction h2 with
  | refl _ => exact h1
  | tail _ hl hw ih => exact ReachIn.tail ih hl hw

theorem ReachIn.head {s : State} {P : Nat → Prop} {u v w : Nat}
    (hu : P u) (hl : Linked s u v) (h : ReachIn s P v w) : ReachIn s P u w :=
  ReachIn.trans (ReachIn.tail (ReachIn.refl u hu) hl h.left) h

theorem ReachIn.symm {s : State} {P : Nat → Prop} {u v : Nat} (h : ReachIn s P u v) : ReachIn s P v u := by
  induction h with
  | refl hu => exact ReachIn.refl _ hu
  | tail h' hl hw ih => exact ReachIn.head hw hl.symm ih

theorem ReachIn.mono {s : State} {P Q : Nat → Prop} (hPQ : ∀ x, P x → Q x) {u v : Nat}
    (h : ReachIn s P u v) : ReachIn s Q u v := by
  induction h with
  | refl hu => exact ReachIn.refl _ (hPQ _ hu)
  | tail _ hl hw ih => exact ReachIn.tail ih hl (hPQ _ hw)

theorem grow_sound (s : State) (nodes : List Nat) (v0 : Nat) (fuel : Nat) (reached : List Nat)
    (h : ∀ x ∈ reached, x ∈ nodes ∧ ReachIn s (· ∈ nodes) v0 x) :
    ∀ x ∈ grow s nodes fuel reached, x ∈ nodes ∧ ReachIn s (· ∈ nodes) v0 x := by
  induction fuel generalizing reached with
  | zero => simpa [grow] using h
  | succ fuel ih =>
    unfold grow
    simp only
    split
    · exact h
    · apply ih
      intro x hx
      rcases List.mem_append.mp hx with hx | hx
      · exact h x hx
      · rw [List.mem_filter] at hx
        obtain ⟨hxn, hx2⟩ := hx
        simp only [Bool.and_eq_true, List.any_eq_true, decide_eq_true_eq] at hx2
        obtain ⟨_, u, hu, hedge⟩ := hx2
        exact ⟨hxn, ReachIn.tail (h u hu).2 (Or.inl hedge) hxn⟩

theorem connectedOn_reach {s : State} {nodes : List Nat} (h : connectedOn s nodes = true) :
    ∀ u ∈ nodes, ∀ v ∈ nodes, ReachIn s (· ∈ nodes) u v := by
  cases nodes with
  | nil => intro u hu; cases hu
  | cons v0 t =>
    have hbase : ∀ x ∈ [v0], x ∈ (v0 :: t) ∧ ReachIn s (· ∈ (v0 :: t)) v0 x := by
      intro x hx
      have : x = v0 := by simpa using hx
      subst this
      exact ⟨List.mem_cons_self, ReachIn.refl _ List.mem_cons_self⟩
    have hg := grow_sound s (v0 :: t) v0 (v0 :: t).length [v0] hbase
    simp only [connectedOn, List.all_eq_true] at h
    have hfrom : ∀ x ∈ (v0 :: t), ReachIn s (· ∈ (v0 :: t)) v0 x := by
      intro x hx
      have hc := h x hx
      have hm : x ∈ grow s (v0 :: t) (v0 :: t).length [v0] := by simpa using hc
      exact (hg x hm).2
    intro u hu v hv
    exact (hfrom u hu).symm.trans (hfrom v hv)

/-- first node and length of `blockOf N A k` (`mem_blockOf`) -/
def blockStart (N A k : Nat) : Nat := k * (N / A) + min k (N % A)
def blockLen (N A k : Nat) : Nat := N / A + (if k < N % A then 1 else 0)

theorem mem_blockOf {N A k v : Nat} :
    v ∈ blockOf N A k ↔ blockStart N A k ≤ v ∧ v < blockStart N A k + blockLen N A k := by
  simp only [blockOf, blockStart, blockLen, List.mem_map, List.mem_range]
  constructor
  · rintro ⟨i, hi, rfl⟩; omega
  · rintro ⟨h1, h2⟩
    exact ⟨v - (k * (N / A) + min k (N % A)), by omega, by omega⟩

theorem blockStart_succ (N A k : Nat) : blockStart N A (k + 1) = blockStart N A k + blockLen N A k := by
  simp only [blockStart, blockLen, Nat.succ_mul]
  split <;> omega

theorem blockEnd_le_start (N A : Nat) {j k : Nat} (hjk : j < k) :
    blockStart N A j + blockLen N A j ≤ blockStart N A k := by
  induction k with
  | zero => omega
  | succ k ih =>
    rw [blockStart_succ N A k]
    by_cases hj : j = k
    · subst hj; exact Nat.le_refl _
    · have := ih (by omega)
      omega

theorem blockOf_disjoint (N A j k : Nat) (hjk : j ≠ k) : ∀ v, v ∈ blockOf N A j → v ∉ blockOf N A k := by
  intro v hj hk
  rw [mem_blockOf] at hj hk
  rcases Nat.lt_or_gt_of_ne hjk with h | h
  · have := blockEnd_le_start N A h; omega
  · have := blockEnd_le_start N A h; omega

theorem blockStart_le_total (N A k : Nat) (hk : k ≤ A) : blockStart N A k ≤ N := by
  have hA : A * (N / A) + N % A = N := Nat.div_add_mod N A
  have hmul : k * (N / A) ≤ A * (N / A) := Nat.mul_le_mul_right _ hk
  simp only [blockStart]
  omega

theorem blockOf_lt (N A k : Nat) (hk : k < A) : ∀ v ∈ blockOf N A k, v < N := by
  intro v hv
  rw [mem_blockOf, ← blockStart_succ] at hv
  have := blockStart_le_total N A (k + 1) hk
  omega

theorem cert_solvable {cfg : Cfg} {s : State} (h1 : certOwnBlock cfg s = true) (h2 : certBlocksConnected cfg s = true) :
    (∀ k, k < cfg.numAgents →
        (∀ v : Nat, (v : Int) ∈ s.nodesToConnect.getD k [] → v ∈ blockOf cfg.numNodes cfg.numAgents k) ∧
        (∀ u ∈ blockOf cfg.numNodes cfg.numAgents k, ∀ v ∈ blockOf cfg.numNodes cfg.numAgents k,
            ReachIn s (· ∈ blockOf cfg.numNodes cfg.numAgents k) u v)) ∧
    (∀ j k, j ≠ k → ∀ v, v ∈ blockOf cfg.numNodes cfg.numAgents j → v ∉ blockOf cfg.numNodes cfg.numAgents k) := by
  refine ⟨fun k hk => ⟨?_, ?_⟩, fun j k hjk => blockOf_disjoint _ _ j k hjk⟩
  · intro v hv
    simp only [certOwnBlock, List.all_eq_true, List.mem_range] at h1
    have := h1 k hk (v : Int) hv
    simpa using this
  · simp only [certBlocksConnected, List.all_eq_true, List.mem_range] at h2
    exact connectedOn_reach (h2 k hk)

theorem cert_solvable_pairs {cfg : Cfg} {s : State} (h1 : certOwnBlock cfg s = true)
    (h2 : certBlocksConnected cfg s = true) :
    ∀ k, k < cfg.numAgents → ∀ u v : Nat,
      (u : Int) ∈ s.nodesToConnect.getD k [] → (v : Int) ∈ s.nodesToConnect.getD k [] →
      ReachIn s (· ∈ blockOf cfg.numNodes cfg.numAgents k) u v := by
  intro k hk u v hu hv
  obtain ⟨hmem, hreach⟩ := (cert_solvable h1 h2).1 k hk
  exact hreach u (hmem u hu) v (hmem v hv)

/-! ## non-vacuity: a 5-node path with two agents -/

namespace Solvable

def exCfg : Cfg :=
  { numAgents := 2, numNodes := 5, numNodesPerAgent := 2, timeLimit := 6, rConn := 10, rStep := -1, rNoop := -1 }

def exEdges : List (List Int) :=
  [[-1, 1, -1, -1, -1], [0, -1, 2, -1, -1], [-1, 1, -1, 3, -1], [-1, -1, 2, -1, 4], [-1, -1, -1, 3, -1]]

def exState : State :=
  { nodeTypes := [0, 0, -1, 1, 1]
    adj := [[0, 1, 0, 0, 0], [1, 0, 1, 0, 0], [0, 1, 0, 1, 0], [0, 0, 1, 0, 1], [0, 0, 0, 1, 0]]
    connectedNodes := [[0, -1, -1, -1, -1, -1], [3, -1, -1, -1, -1, -1]]
    connectedIndex := [[0, -1, -1, -1, -1], [-1, -1, -1, 3, -1]]
    nodesToConnect := [[0, 1], [3, 4]]
    nodeEdges := [exEdges, exEdges]
    positions := [0, 3]
    positionIndex := [0, 0]
    actionMask := [[false, true, false, false, false], [false, false, true, false, true]]
    finished := [false, false]
    stepCount := 0 }

example : blockOf 5 2 0 = [0, 1, 2] ∧ blockOf 5 2 1 = [3, 4] := by decide

theorem ex_certs : certOwnBlock exCfg exState = true ∧ certBlocksConnected exCfg exState = true ∧
    certGraphConnected exCfg exState = true := by decide +kernel

example : ReachIn exState (· ∈ blockOf 5 2 1) 3 4 :=
  cert_solvable_pairs (cfg := exCfg) ex_certs.1 ex_certs.2.1 1 (by decide) 3 4 (by decide) (by decide)

end Solvable

end MMST
