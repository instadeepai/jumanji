/- MMST: what `step` does to the state and to one agent's rows; the mask function against `legal`, the relabelling arithmetic
against `nodeLabel`; what the invariant of the tie-break loop (TieBreak.lean) means for `step`; that the finished flags after a
step are fresh (`step_flagsFresh`). -/
import JumanjiModel.Env.MMST.TieBreak
import JumanjiModel.Core.TimeStepLemmas
import JumanjiModel.Prim.ListLemmas
namespace MMST
open Jm

theorem eq_decide_of_iff {b : Bool} {p : Prop} [Decidable p] (h : b = true ↔ p) : b = decide p := by
  cases b <;> simp_all

theorem sum_eq_count_ones (l : List Int) (hb : ∀ x ∈ l, x = 0 ∨ x = 1) :
    l.sum = ((l.filter (· == 1)).length : Int) := by
  induction l with
  | nil => rfl
  | cons x xs ih =>
    have ih' := ih (fun y hy => hb y (List.mem_cons_of_mem _ hy))
    rcases hb x List.mem_cons_self with hx | hx <;> subst hx <;> simp [ih'] <;> omega

theorem filter_length_mono {α} (p q : α → Bool) (l : List α) (h : ∀ a ∈ l, p a = true → q a = true) :
    (l.filter p).length ≤ (l.filter q).length := by
  rw [← List.countP_eq_length_filter, ← List.countP_eq_length_filter]
  exact List.countP_mono_left h

theorem Feasible.shaped {cfg : Cfg} {s : State} (hF : Feasible cfg s) : Shaped cfg s := hF.1
theorem Feasible.edgesOK {cfg : Cfg} {s : State} (hF : Feasible cfg s) : EdgesOK cfg s := hF.2.2.1
theorem Feasible.routeOK {cfg : Cfg} {s : State} (hF : Feasible cfg s) : RouteOK cfg s := hF.2.2.2

theorem Shaped.nodeTypes_length {cfg : Cfg} {s : State} (hS : Shaped cfg s) : s.nodeTypes.length = cfg.numNodes := hS.1

theorem Shaped.adj_length {cfg : Cfg} {s : State} (hS : Shaped cfg s) : s.adj.length = cfg.numNodes := hS.2.1

theorem Shaped.adj_rows {cfg : Cfg} {s : State} (hS : Shaped cfg s) : ∀ r ∈ s.adj, r.length = cfg.numNodes := hS.2.2.1

theorem Shaped.connectedIndex_length {cfg : Cfg} {s : State} (hS : Shaped cfg s) :
    s.connectedIndex.length = cfg.numAgents :=
  hS.2.2.2.2.1

theorem Shaped.nodesToConnect_length {cfg : Cfg} {s : State} (hS : Shaped cfg s) :
    s.nodesToConnect.length = cfg.numAgents :=
  hS.2.2.2.2.2.2.1

theorem Shaped.nodeEdges_length {cfg : Cfg} {s : State} (hS : Shaped cfg s) : s.nodeEdges.length = cfg.numAgents :=
  hS.2.2.2.2.2.2.2.1

theorem Shaped.positions_range {cfg : Cfg} {s : State} (hS : Shaped cfg s) :
    ∀ p ∈ s.positions, 0 ≤ p ∧ p < (cfg.numNodes : Int) :=
  hS.2.2.2.2.2.2.2.2.2.2.1

theorem Shaped.positions_length {cfg : Cfg} {s : State} (hS : Shaped cfg s) : s.positions.length = cfg.numAgents :=
  hS.2.2.2.2.2.2.2.2.2.1

theorem Shaped.finished_length {cfg : Cfg} {s : State} (hS : Shaped cfg s) : s.finished.length = cfg.numAgents :=
  hS.2.2.2.2.2.2.2.2.2.2.2.2

theorem Shaped.positionIndex_length {cfg : Cfg} {s : State} (hS : Shaped cfg s) :
    s.positionIndex.length = cfg.numAgents :=
  hS.2.2.2.2.2.2.2.2.2.2.2.1

theorem Shaped.adj_row {cfg : Cfg} {s : State} (hS : Shaped cfg s) {r : Nat} (hr : r < cfg.numNodes) :
    (s.adj.getD r []).length = cfg.numNodes :=
  hS.adj_rows _ (Jx.getD_mem _ (hS.adj_length ▸ hr))

theorem pos_range {cfg : Cfg} {s : State} (hS : Shaped cfg s) {i : Nat} (hi : i < cfg.numAgents) :
    0 ≤ s.positions.getD i 0 ∧ s.positions.getD i 0 < (cfg.numNodes : Int) :=
  hS.positions_range _ (Jx.getD_mem _ (hS.positions_length ▸ hi))

theorem edges_shape {cfg : Cfg} {s : State} (hS : Shaped cfg s) {i : Nat} (hi : i < cfg.numAgents) :
    (s.nodeEdges.getD i []).length = cfg.numNodes ∧ ∀ r ∈ s.nodeEdges.getD i [], r.length = cfg.numNodes :=
  hS.2.2.2.2.2.2.2.2.1 _ (Jx.getD_mem _ (hS.nodeEdges_length ▸ hi))

theorem ci_length {cfg : Cfg} {s : State} (hS : Shaped cfg s) {i : Nat} (hi : i < cfg.numAgents) :
    (s.connectedIndex.getD i []).length = cfg.numNodes :=
  hS.2.2.2.2.2.1 _ (Jx.getD_mem _ (hS.connectedIndex_length ▸ hi))

theorem obs_faithful (cfg : Cfg) (s : State) (a : List Int) (p : List Nat) :
    (step cfg s a p).2.obs = observeL1 cfg (step cfg s a p).1 := condLast_obs _ _ _

theorem step_count (cfg : Cfg) (s : State) (a : List Int) (p : List Nat) :
    (step cfg s a p).1.stepCount = s.stepCount + 1 := rfl

theorem step_last_iff (cfg : Cfg) (s : State) (a : List Int) (p : List Nat) :
    (step cfg s a p).2.stepType = .last ↔
      ((step cfg s a p).1.finished.all id = true ∨ s.stepCount + 1 ≥ (cfg.timeLimit : Int)) := by
  refine (condLast_last_iff _ _ _).trans ?_
  simp only [Bool.or_eq_true, decide_eq_true_eq]
  rfl

theorem time_limit (cfg : Cfg) (s : State) (a : List Int) (p : List Nat)
    (h : s.stepCount + 1 ≥ (cfg.timeLimit : Int)) : (step cfg s a p).2.stepType = .last :=
  (step_last_iff cfg s a p).2 (Or.inr h)

theorem step_static (cfg : Cfg) (s : State) (a : List Int) (p : List Nat) :
    (step cfg s a p).1.nodeTypes = s.nodeTypes ∧ (step cfg s a p).1.adj = s.adj ∧
    (step cfg s a p).1.nodesToConnect = s.nodesToConnect := ⟨rfl, rfl, rfl⟩

theorem step_nodeEdges (cfg : Cfg) (s : State) (action : List Int) (perm : List Nat) :
    (step cfg s action perm).1.nodeEdges =
      updateActiveEdges cfg.numAgents s.nodeEdges (step cfg s action perm).1.positions s.nodeTypes := rfl

theorem step_finished (cfg : Cfg) (s : State) (action : List Int) (perm : List Nat) :
    (step cfg s action perm).1.finished =
      finishedAgents cfg s.nodesToConnect (step cfg s action perm).1.connectedNodes := rfl

/-- the node agent `i` asked for, as `_get_agent_node` reads it off its edge table (-1 = none) -/
def nodeOf (cfg : Cfg) (s : State) (action : List Int) (i : Nat) : Int := (targets cfg s action).getD i (-1)
/-- the action of agent `i` after `_trim_duplicated_invalid_actions` -/
def actOf (cfg : Cfg) (s : State) (action : List Int) (perm : List Nat) (i : Nat) : Int :=
  (trim cfg s action perm).getD i (-1)
/-- does `step_agent_fn` move agent `i`? -/
def movedAt (cfg : Cfg) (s : State) (action : List Int) (perm : List Nat) (i : Nat) : Bool :=
  moves (actOf cfg s action perm i) (nodeOf cfg s action i)

theorem nodeOf_eq (cfg : Cfg) (s : State) (action : List Int) {i : Nat} (hi : i < cfg.numAgents) :
    nodeOf cfg s action i = targetNode s i (action.getD i 0) := by
  unfold nodeOf targets
  rw [Jx.getD_range_map _ _ hi]

theorem actOf_eq (cfg : Cfg) (s : State) (action : List Int) (perm : List Nat) {i : Nat} (hi : i < cfg.numAgents) :
    actOf cfg s action perm i =
      finalAction cfg s (targets cfg s action)
        (tieBreak cfg.numAgents action (targets cfg s action) perm).newActions i := by
  unfold actOf trim; simp only []; rw [Jx.getD_range_map _ _ hi]

theorem moves_iff {act node : Int} : moves act node = true ↔ act ≠ -1 ∧ act ≠ -2 ∧ node ≠ -1 := by
  simp [moves, and_assoc]

theorem nodeOf_ne_of_moved {cfg : Cfg} {s : State} {action : List Int} {perm : List Nat} {i : Nat}
    (hm : movedAt cfg s action perm i = true) : nodeOf cfg s action i ≠ -1 :=
  (moves_iff.1 hm).2.2

/-- `is_valid` of `step_agent_fn` on the action that `mask_visited_nodes` and the finished mask leave: the guard `g` of the
visited lookup plays no part, it only concerns an agent that asks for no node -/
theorem moves_final (g fin : Bool) (nd vis n : Int) :
    moves (if fin then -1 else if (if g && nd == -1 then -1 else vis) != -1 then -3 else n) nd = true ↔
      fin = false ∧ nd ≠ -1 ∧ (vis ≠ -1 ∨ (n ≠ -1 ∧ n ≠ -2)) := by
  rw [moves_iff]
  cases fin
  · by_cases h : nd = -1
    · simp [h]
    · have hg : (g && nd == -1) = false := by simp [h]
      by_cases hv : vis = -1 <;> simp [hg, h, hv]
  · simp

/-- an agent that asks for a node it has already visited (trimmed action -3) moves whatever the tie-break says: `is_valid`
only excludes -1 and -2 -/
theorem movedAt_iff (cfg : Cfg) (s : State) (action : List Int) (perm : List Nat) {i : Nat} (hi : i < cfg.numAgents) :
    movedAt cfg s action perm i = true ↔
      s.finished.getD i false = false ∧ nodeOf cfg s action i ≠ -1 ∧
      (Jx.getWC (s.connectedIndex.getD i []) (-1) (nodeOf cfg s action i) ≠ -1 ∨
        mover (tieBreak cfg.numAgents action (targets cfg s action) perm) i) := by
  unfold movedAt
  rw [actOf_eq cfg s action perm hi]
  exact moves_final _ _ _ _ _

theorem step_agent (cfg : Cfg) (s : State) (action : List Int) (perm : List Nat) {i : Nat} (hi : i < cfg.numAgents) :
    let o := stepAgent s i (actOf cfg s action perm i) (nodeOf cfg s action i)
    (step cfg s action perm).1.positions.getD i 0 = o.pos ∧ (step cfg s action perm).1.positionIndex.getD i 0 = o.idx ∧
    (step cfg s action perm).1.connectedNodes.getD i [] = o.cn ∧
    (step cfg s action perm).1.connectedIndex.getD i [] = o.ci := by
  simp only [step, List.map_map]
  refine ⟨?_, ?_, ?_, ?_⟩ <;> exact Jx.getD_range_map _ _ hi

theorem step_positions (cfg : Cfg) (s : State) (action : List Int) (perm : List Nat) {i : Nat}
    (hi : i < cfg.numAgents) :
    (step cfg s action perm).1.positions.getD i 0 =
      if movedAt cfg s action perm i then nodeOf cfg s action i else s.positions.getD i 0 :=
  (step_agent cfg s action perm hi).1.trans (apply_ite AgentOut.pos _ _ _)

theorem step_positionIndex (cfg : Cfg) (s : State) (action : List Int) (perm : List Nat) {i : Nat}
    (hi : i < cfg.numAgents) :
    (step cfg s action perm).1.positionIndex.getD i 0 =
      if movedAt cfg s action perm i then s.positionIndex.getD i 0 + 1 else s.positionIndex.getD i 0 :=
  (step_agent cfg s action perm hi).2.1.trans (apply_ite AgentOut.idx _ _ _)

theorem step_connectedNodes (cfg : Cfg) (s : State) (action : List Int) (perm : List Nat) {i : Nat}
    (hi : i < cfg.numAgents) :
    (step cfg s action perm).1.connectedNodes.getD i [] =
      if movedAt cfg s action perm i then
        Jx.setWD (s.connectedNodes.getD i []) (s.positionIndex.getD i 0 + 1) (nodeOf cfg s action i)
      else s.connectedNodes.getD i [] :=
  (step_agent cfg s action perm hi).2.2.1.trans (apply_ite AgentOut.cn _ _ _)

theorem step_connectedIndex (cfg : Cfg) (s : State) (action : List Int) (perm : List Nat) {i : Nat}
    (hi : i < cfg.numAgents) :
    (step cfg s action perm).1.connectedIndex.getD i [] =
      if movedAt cfg s action perm i then
        Jx.setWD (s.connectedIndex.getD i []) (nodeOf cfg s action i) (nodeOf cfg s action i)
      else s.connectedIndex.getD i [] :=
  (step_agent cfg s action perm hi).2.2.2.trans (apply_ite AgentOut.ci _ _ _)

theorem step_lengths (cfg : Cfg) (s : State) (action : List Int) (perm : List Nat) :
    (step cfg s action perm).1.connectedNodes.length = cfg.numAgents ∧
    (step cfg s action perm).1.connectedIndex.length = cfg.numAgents ∧
    (step cfg s action perm).1.nodeEdges.length = cfg.numAgents ∧
    (step cfg s action perm).1.positions.length = cfg.numAgents ∧
    (step cfg s action perm).1.positionIndex.length = cfg.numAgents ∧
    (step cfg s action perm).1.finished.length = cfg.numAgents := by
  simp [step, updateActiveEdges, finishedAgents]

/-- `get_finished_agents` compares a count with `num_nodes_per_agent`: that means "all" only for a row of that length (`hK`) -/
theorem finishedAgents_iff (cfg : Cfg) (ntc cn : List (List Int)) {i : Nat} (hi : i < cfg.numAgents)
    (hK : (ntc.getD i []).length = cfg.numNodesPerAgent) :
    (finishedAgents cfg ntc cn).getD i false = true ↔ ∀ v ∈ ntc.getD i [], v ∈ cn.getD i [] := by
  unfold finishedAgents
  rw [Jx.getD_range_map _ _ hi, beq_iff_eq, ← hK, List.length_filter_eq_length_iff]
  simp

theorem step_flagsFresh (cfg : Cfg) (s : State) (action : List Int) (perm : List Nat)
    (hK : ∀ i, i < cfg.numAgents → (s.nodesToConnect.getD i []).length = cfg.numNodesPerAgent) :
    FlagsFresh cfg (step cfg s action perm).1 := fun i hi =>
  eq_decide_of_iff (finishedAgents_iff cfg s.nodesToConnect (step cfg s action perm).1.connectedNodes hi (hK i hi))

theorem agentDone_of_finished {cfg : Cfg} {s : State} (hlen : s.finished.length = cfg.numAgents)
    (hFr : FlagsFresh cfg s) (hdone : s.finished.all id = true) {i : Nat} (hi : i < cfg.numAgents) : agentDone s i := by
  have := List.all_eq_true.1 hdone _ (Jx.getD_mem false (hlen ▸ hi : i < s.finished.length))
  rw [id, hFr i hi] at this
  exact of_decide_eq_true this

theorem activeEdgesFor_inv {P : List (List Int) → Prop} (hP : ∀ e node, P e → P (maskNode e node))
    (A : Nat) (nodeTypes pos : List Int) (a2 : Nat) {e : List (List Int)} (h : P e) :
    P (activeEdgesFor A nodeTypes pos a2 e) :=
  List.foldlRecOn _ _ h fun e he _ _ => by
    dsimp only
    split
    · exact hP _ _ he
    · exact he

/-! ### C04: the mask function is the rules -/

/-- the row of its edge table that `_get_agent_node` and `make_action_mask` read for agent `i` -/
theorem edge_row {cfg : Cfg} {s : State} (hS : Shaped cfg s) {i : Nat} (hi : i < cfg.numAgents) :
    Jx.getWC (s.nodeEdges.getD i []) [] (s.positions.getD i 0) =
      (s.nodeEdges.getD i []).getD (s.positions.getD i 0).toNat [] ∧
    (Jx.getWC (s.nodeEdges.getD i []) [] (s.positions.getD i 0)).length = cfg.numNodes := by
  have hp := pos_range hS hi
  obtain ⟨hel, her⟩ := edges_shape hS hi
  rw [Jx.getWC_nonneg _ _ hp.1 (by rw [hel]; exact hp.2)]
  exact ⟨rfl, her _ (Jx.getD_mem _ (by omega))⟩

theorem edge_entry {cfg : Cfg} {s : State} (hS : Shaped cfg s) (hE : EdgesOK cfg s) {i a : Nat}
    (hi : i < cfg.numAgents) (ha : a < cfg.numNodes) :
    (Jx.getWC (s.nodeEdges.getD i []) [] (s.positions.getD i 0)).getD a 0 =
      (if hasEdge s (s.positions.getD i 0).toNat a ∧ ¬ takenByOther cfg s i a then (a : Int) else -1) := by
  have hp := pos_range hS hi
  rw [(edge_row hS hi).1]
  exact hE i hi _ (by omega) a ha

theorem makeMask_row_length {cfg : Cfg} {s : State} (hS : Shaped cfg s) (fin : List Bool) {i : Nat}
    (hi : i < cfg.numAgents) :
    ((makeMask cfg.numAgents s.nodeEdges s.positions fin).getD i []).length = cfg.numNodes := by
  rw [makeMask, Jx.getD_range_map _ _ hi, List.length_map]
  exact (edge_row hS hi).2

theorem makeMask_bit {cfg : Cfg} {s : State} (hS : Shaped cfg s) (hE : EdgesOK cfg s) (fin : List Bool)
    {i a : Nat} (hi : i < cfg.numAgents) (ha : a < cfg.numNodes) :
    ((makeMask cfg.numAgents s.nodeEdges s.positions fin).getD i []).getD a false = true ↔
      (fin.getD i false = false ∧ hasEdge s (s.positions.getD i 0).toNat a ∧ ¬ takenByOther cfg s i a) := by
  rw [makeMask, Jx.getD_range_map _ _ hi, Jx.getD_map _ _ 0 (by rw [(edge_row hS hi).2]; exact ha), edge_entry hS hE hi ha]
  by_cases hc : hasEdge s (s.positions.getD i 0).toNat a ∧ ¬ takenByOther cfg s i a
  · have : (a : Int) ≠ -1 := by omega
    rw [if_pos hc]; constructor
    · intro h; simp [this] at h; exact ⟨h, hc.1, hc.2⟩
    · intro h; have h1 := h.1; simp [this]; simpa using h1
  · rw [if_neg hc]; constructor
    · intro h; simp at h
    · intro h; exact absurd ⟨h.2.1, h.2.2⟩ hc

theorem mask_iff_legal {cfg : Cfg} {s : State} (hS : Shaped cfg s) (hE : EdgesOK cfg s) (hF : FlagsFresh cfg s)
    {i a : Nat} (hi : i < cfg.numAgents) (ha : a < cfg.numNodes) :
    ((makeMask cfg.numAgents s.nodeEdges s.positions s.finished).getD i []).getD a false = true ↔
      legal cfg s i a := by
  rw [makeMask_bit hS hE _ hi ha, hF i hi]
  unfold legal
  simp [hi, ha]

/-- the mask stored by `step` is the mask function on the successor's arrays, but on the pinned tree (`freshMask = false`)
with the predecessor's finished flags -/
theorem cached_mask (cfg : Cfg) (s : State) (a : List Int) (p : List Nat) :
    (step cfg s a p).1.actionMask =
      makeMask cfg.numAgents (step cfg s a p).1.nodeEdges (step cfg s a p).1.positions
        (if cfg.freshMask then (step cfg s a p).1.finished else s.finished) := rfl

theorem cached_mask_fresh (cfg : Cfg) (s : State) (a : List Int) (p : List Nat)
    (h : cfg.freshMask = true ∨ (step cfg s a p).1.finished = s.finished) :
    (step cfg s a p).1.actionMask =
      makeMask cfg.numAgents (step cfg s a p).1.nodeEdges (step cfg s a p).1.positions (step cfg s a p).1.finished := by
  rw [cached_mask]
  rcases h with h | h
  · simp [h]
  · split
    · rfl
    · rw [h]

/-! ### C05: an illegal action is ignored -/

theorem targetNode_eq {cfg : Cfg} {s : State} (hS : Shaped cfg s) (hE : EdgesOK cfg s) {i : Nat}
    (hi : i < cfg.numAgents) (a : Int) :
    targetNode s i a =
      (if hasEdge s (s.positions.getD i 0).toNat (Jx.clampIdx cfg.numNodes a) ∧
          ¬ takenByOther cfg s i (Jx.clampIdx cfg.numNodes a) then (Jx.clampIdx cfg.numNodes a : Int) else -1) := by
  have hp := pos_range hS hi
  have hk := Jx.clampIdx_lt (n := cfg.numNodes) (by omega) a
  have hl := (edge_row hS hi).2
  unfold targetNode
  rw [Jx.getWC, hl, Jx.getD_irrel (-1) 0 (by rw [hl]; exact hk), edge_entry hS hE hi hk]

theorem target_eq {cfg : Cfg} {s : State} (hS : Shaped cfg s) (hE : EdgesOK cfg s) {i a : Nat}
    (hi : i < cfg.numAgents) (ha : a < cfg.numNodes) :
    targetNode s i (a : Int) =
      (if hasEdge s (s.positions.getD i 0).toNat a ∧ ¬ takenByOther cfg s i a then (a : Int) else -1) := by
  rw [targetNode_eq hS hE hi, Jx.clampIdx_of_inrange ha]

theorem targets_getD (cfg : Cfg) (s : State) (action : List Nat) {i : Nat} (hi : i < cfg.numAgents) :
    (targets cfg s (action.map Int.ofNat)).getD i (-1) = targetNode s i ((action.getD i 0 : Nat) : Int) := by
  unfold targets
  rw [Jx.getD_range_map _ _ hi]
  congr 1
  simp only [List.getD_eq_getElem?_getD, List.getElem?_map]
  cases action[i]? <;> rfl

theorem nodeOf_nat {cfg : Cfg} {s : State} (hS : Shaped cfg s) (hE : EdgesOK cfg s) (action : List Nat) {i : Nat}
    (hi : i < cfg.numAgents) (ha : action.getD i 0 < cfg.numNodes) :
    nodeOf cfg s (action.map Int.ofNat) i =
      (if hasEdge s (s.positions.getD i 0).toNat (action.getD i 0) ∧ ¬ takenByOther cfg s i (action.getD i 0)
        then ((action.getD i 0 : Nat) : Int) else -1) := by
  unfold nodeOf
  rw [targets_getD cfg s action hi, target_eq hS hE hi ha]

theorem nodeOf_legal {cfg : Cfg} {s : State} (hS : Shaped cfg s) (hE : EdgesOK cfg s) (action : List Nat) {i : Nat}
    (hi : i < cfg.numAgents) (ha : action.getD i 0 < cfg.numNodes) (hleg : legal cfg s i (action.getD i 0)) :
    nodeOf cfg s (action.map Int.ofNat) i = ((action.getD i 0 : Nat) : Int) := by
  rw [nodeOf_nat hS hE action hi ha, if_pos ⟨hleg.2.2.2.1, hleg.2.2.2.2⟩]

theorem nodeOf_illegal {cfg : Cfg} {s : State} (hS : Shaped cfg s) (hE : EdgesOK cfg s) (action : List Nat) {i : Nat}
    (hi : i < cfg.numAgents) (ha : action.getD i 0 < cfg.numNodes) (hd : ¬ agentDone s i)
    (hill : ¬ legal cfg s i (action.getD i 0)) : nodeOf cfg s (action.map Int.ofNat) i = -1 := by
  rw [nodeOf_nat hS hE action hi ha, if_neg (fun h => hill ⟨hi, ha, hd, h.1, h.2⟩)]

theorem map_ofNat_getD (action : List Nat) {i : Nat} (h : i < action.length) :
    (action.map Int.ofNat).getD i (-1) = ((action.getD i 0 : Nat) : Int) := by
  simp [List.getD_eq_getElem?_getD, h]

theorem illegal_no_move {cfg : Cfg} {s : State} (hS : Shaped cfg s) (hE : EdgesOK cfg s) (hF : FlagsFresh cfg s)
    (action : List Nat) (perm : List Nat) {i : Nat} (hi : i < cfg.numAgents)
    (ha : action.getD i 0 < cfg.numNodes) (hill : ¬ legal cfg s i (action.getD i 0)) :
    movedAt cfg s (action.map Int.ofNat) perm i = false := by
  refine Bool.eq_false_iff.2 fun hm => ?_
  obtain ⟨hfin, hn, _⟩ := (movedAt_iff cfg s _ perm hi).1 hm
  rw [hF i hi, decide_eq_false_iff_not] at hfin
  exact hn (nodeOf_illegal hS hE action hi ha hfin hill)

/-- C05: the agent whose action is illegal keeps its position, its route and its index; whatever the others do -/
theorem illegal_ignored {cfg : Cfg} {s : State} (hS : Shaped cfg s) (hE : EdgesOK cfg s) (hF : FlagsFresh cfg s)
    (action : List Nat) (perm : List Nat) {i : Nat} (hi : i < cfg.numAgents)
    (ha : action.getD i 0 < cfg.numNodes) (hill : ¬ legal cfg s i (action.getD i 0)) :
    let s' := (step cfg s (action.map Int.ofNat) perm).1
    s'.positions.getD i 0 = s.positions.getD i 0 ∧ s'.positionIndex.getD i 0 = s.positionIndex.getD i 0 ∧
    s'.connectedNodes.getD i [] = s.connectedNodes.getD i [] ∧
    s'.connectedIndex.getD i [] = s.connectedIndex.getD i [] := by
  have hm := illegal_no_move hS hE hF action perm hi ha hill
  refine ⟨?_, ?_, ?_, ?_⟩
  · rw [step_positions _ _ _ _ hi, hm]; rfl
  · rw [step_positionIndex _ _ _ _ hi, hm]; rfl
  · rw [step_connectedNodes _ _ _ _ hi, hm]; rfl
  · rw [step_connectedIndex _ _ _ _ hi, hm]; rfl

/-! ### C12: the relabelling arithmetic is the documented labelling -/

theorem relabelBase_spec (A : Nat) (t : Int) (h0 : -1 ≤ t) (h1 : t < (A : Int)) :
    relabelBase A t = if t = -1 then -1 else 2 * t + 1 := by
  unfold relabelBase
  by_cases ht : t = -1
  · subst ht; simp
  · have : t % (A : Int) = t := Int.emod_eq_of_lt (by omega) h1
    simp [ht, this]; omega

theorem relabelAgent_spec (A k : Nat) (hk : k < A) (x c : Int) :
    relabelAgent A k x c = if c ≠ -1 then 2 * (k : Int) else x := by
  unfold relabelAgent
  have : (k : Int) % (A : Int) = k := Int.emod_eq_of_lt (by omega) (by omega)
  by_cases hc : c = -1
  · subst hc; simp
  · simp [hc, this]

/-- read at `v`, the loop over the agents overwrites the base label with `2k` for every agent `k` that has connected `v`;
the last writer is whom `nodeLabel` shows -/
theorem relabel_eq_spec {cfg : Cfg} {s : State} (hS : Shaped cfg s)
    (hT : ∀ t ∈ s.nodeTypes, -1 ≤ t ∧ t < (cfg.numAgents : Int)) {v : Nat} (hv : v < cfg.numNodes) :
    (obsNodeTypes cfg.numAgents s.nodeTypes s.connectedIndex).getD v 0 = nodeLabel cfg s v := by
  have hv' : v < s.nodeTypes.length := hS.nodeTypes_length ▸ hv
  unfold obsNodeTypes
  rw [Jx.foldl_read (fun xs : List Int => xs.getD v 0) _ (fun k x => if connectedBy s k v then 2 * (k : Int) else x)
      (fun xs => v < xs.length) _ (fun xs k hk hl => ?_) _ (by rw [List.length_map]; exact hv'),
    Jx.foldl_lastWriter, Jx.getD_map _ _ 0 hv',
    relabelBase_spec _ _ (hT _ (Jx.getD_mem 0 hv')).1 (hT _ (Jx.getD_mem 0 hv')).2]
  · unfold nodeLabel
    cases ((List.range cfg.numAgents).filter (fun k => decide (connectedBy s k v))).getLast? <;> rfl
  · have hc := ci_length hS (List.mem_range.1 hk)
    refine ⟨by rw [List.length_zipWith, hc]; omega, ?_⟩
    rw [Jx.getD_zipWith _ 0 0 (-1) hl (hc ▸ hv)]
    exact relabelAgent_spec _ _ (List.mem_range.1 hk) _ _

theorem foldl_zipWith_length {α β : Type} (f : Nat → α → β → α) (rows : Nat → List β) (n : Nat)
    (ks : List Nat) (xs : List α) (h : xs.length = n) (hr : ∀ k ∈ ks, (rows k).length = n) :
    (ks.foldl (fun xs k => List.zipWith (f k) xs (rows k)) xs).length = n :=
  List.foldlRecOn (motive := fun b : List α => b.length = n) ks _ h fun _ h k hk => by
    rw [List.length_zipWith, h, hr k hk, Nat.min_self]

theorem obsNodeTypes_length {cfg : Cfg} {s : State} (hS : Shaped cfg s) :
    (obsNodeTypes cfg.numAgents s.nodeTypes s.connectedIndex).length = cfg.numNodes :=
  foldl_zipWith_length _ (fun k => s.connectedIndex.getD k []) _ _ _ (by rw [List.length_map]; exact hS.nodeTypes_length)
    (fun _ hk => ci_length hS (List.mem_range.1 hk))

/-- C06 core: two agents that move in one step to nodes they had not visited before go to different nodes, for every draw
`perm` (permutation or not); two agents may well move to the same node when one of them has visited it -/
theorem new_nodes_distinct (cfg : Cfg) (s : State) (action : List Int) (perm : List Nat) {i j : Nat}
    (hi : i < cfg.numAgents) (hj : j < cfg.numAgents) (hij : i ≠ j)
    (hmi : moves ((trim cfg s action perm).getD i (-1)) ((targets cfg s action).getD i (-1)) = true)
    (hmj : moves ((trim cfg s action perm).getD j (-1)) ((targets cfg s action).getD j (-1)) = true)
    (hvi : Jx.getWC (s.connectedIndex.getD i []) (-1) ((targets cfg s action).getD i (-1)) = -1)
    (hvj : Jx.getWC (s.connectedIndex.getD j []) (-1) ((targets cfg s action).getD j (-1)) = -1) :
    (targets cfg s action).getD i (-1) ≠ (targets cfg s action).getD j (-1) :=
  -- an agent moved to a node it had not visited holds a real action, and the nodes of those who do are different
  (tieBreak_inv cfg.numAgents action (targets cfg s action) perm).distinct i j hi hj hij
    (((movedAt_iff cfg s action perm hi).1 hmi).2.2.resolve_left (not_not_intro hvi))
    (((movedAt_iff cfg s action perm hj).1 hmj).2.2.resolve_left (not_not_intro hvj))

end MMST
