/-
TSP: proved value bounds of the observation (property C01).

`obsBounds n` = the interval in which every listed leaf of the model's observation provably stays
(`n` = num_cities; keys = leaf paths of `TSP.observation_spec`).  The leaf `position` is NOT listed:
the spec declares `DiscreteArray(num_cities)` = [0, n−1] but `reset` emits −1 (known finding F5); what
is provable for it is `positionBounds n` = [−1, n−1] (all observations) and [0, n−1] for every
observation returned by `step` from a feasible state, any action of the action spec (`step_position_declared`).
`ObsInv n` is the invariant: established by `reset`, preserved by every `step` with an action of the action spec.
-/
import JumanjiModel.Env.TSP.Lemmas
import JumanjiModel.Core.ObsBoundsCO
namespace TSP
open Jm Jm.OB

def obsBounds (n : Nat) : Table :=
  [("coordinates", some 0, some 1),
   ("trajectory", some ((-1 : Int) : Rat), some (((n : Int) - 1 : Int) : Rat)),
   ("action_mask", some 0, some 1)]

/-- provable, but wider than the declared `DiscreteArray(num_cities)` (finding F5) -/
def positionBounds (n : Nat) : Table :=
  [("position", some ((-1 : Int) : Rat), some (((n : Int) - 1 : Int) : Rat))]

def obsLeaves (o : Obs) : Leaves :=
  [("coordinates", o.coords.flatten), ("position", [(o.position : Rat)]),
   ("trajectory", o.trajectory.map (fun (c : Int) => (c : Rat))), ("action_mask", o.mask.map b2r)]

/-- the declared box `[0, 1]`; `jax.random.uniform(key, (num_cities, 2), minval=0, maxval=1)` itself stays `< 1`
(`validUniform`) -/
def validDraw (n : Nat) (coords : List (List Rat)) : Prop :=
  coords.length = n ∧ ∀ p ∈ coords, p.length = 2 ∧ ∀ x ∈ p, 0 ≤ x ∧ x ≤ 1

instance (n : Nat) (c : List (List Rat)) : Decidable (validDraw n c) := by unfold validDraw; infer_instance

def ObsInv (n : Nat) (s : State) : Prop :=
  (∀ p ∈ s.coords, ∀ x ∈ p, 0 ≤ x ∧ x ≤ 1) ∧ (∀ c ∈ s.trajectory, -1 ≤ c ∧ c < n) ∧
  (-1 ≤ s.position ∧ s.position < n)

instance (n : Nat) (s : State) : Decidable (ObsInv n s) := by unfold ObsInv; infer_instance

theorem reset_obsInv (n : Nat) (coords : List (List Rat)) (h : validDraw n coords) :
    ObsInv n (reset n coords).1 := by
  refine ⟨fun p hp => (h.2 p hp).2, ?_, ?_⟩
  · intro c hc
    simp only [reset] at hc
    have := List.eq_of_mem_replicate hc
    omega
  · simp only [reset]; omega

theorem step_obsInv (n : Nat) (D : Dist) (pen : Rat) (dense : Bool) (s : State) (a : Int)
    (ha : 0 ≤ a ∧ a < n) (h : ObsInv n s) : ObsInv n (step n D pen dense s a).1 := by
  simp only [step]
  split
  · refine ⟨h.1, ?_, ?_⟩
    · simp only [update]
      exact Jx.forall_mem_setWD _ h.2.1 (by omega)
    · simp only [update]; omega
  · exact h

theorem obsOf_in_bounds (n : Nat) (s : State) (h : ObsInv n s) :
    InBounds (obsBounds n) (obsLeaves (obsOf s)) := by
  refine inBounds_cons rfl ?_ <| inBounds_cons rfl ?_ <|
    inBounds_cons rfl (bools_in01 _) <| inBounds_nil _
  · exact Jx.forall_mem_flatten (fun p hp x hx => h.1 p hp x hx)
  · intro v hv
    rcases List.mem_map.mp hv with ⟨c, hc, rfl⟩
    have := h.2.1 c hc
    exact int_iv this.1 (by omega)

theorem obsOf_position_in_bounds (n : Nat) (s : State) (h : ObsInv n s) :
    InBounds (positionBounds n) (obsLeaves (obsOf s)) := by
  refine inBounds_cons rfl ?_ <| inBounds_nil _
  intro v hv
  rcases List.mem_singleton.mp hv with rfl
  exact int_iv h.2.2.1 (by have := h.2.2.2; simp only [obsOf]; omega)

theorem feasible_obsInv (n : Nat) (s : State) (hf : Feasible n s)
    (hc : ∀ p ∈ s.coords, ∀ x ∈ p, 0 ≤ x ∧ x ≤ 1) : ObsInv n s := by
  obtain ⟨-, -, -, -, -, hrange, -, hrest, hpos, -⟩ := hf
  have hsplit : s.trajectory = route s ++ s.trajectory.drop s.numVisited.toNat := by
    unfold route; exact (List.take_append_drop _ _).symm
  refine ⟨hc, ?_, ?_⟩
  · intro c hcm
    rw [hsplit] at hcm
    rcases List.mem_append.mp hcm with hcm | hcm
    · have := hrange c hcm; omega
    · have := hrest c hcm; omega
  · rw [hpos]
    rcases List.mem_cons.1 (List.getLastD_mem_cons (l := route s) (a := -1)) with hm | hm
    · rw [hm]; omega
    · have := hrange _ hm; omega

theorem step_position_declared (n : Nat) (D : Dist) (pen : Rat) (dense : Bool) (s : State) (a : Nat)
    (hf : Feasible n s) (ha : a < n) :
    0 ≤ (step n D pen dense s a).2.obs.position ∧ (step n D pen dense s a).2.obs.position < n := by
  rw [step_obs]
  by_cases hl : legal s a
  · rw [step_fst_legal n D pen dense s a hf hl]
    exact ⟨Int.natCast_nonneg a, Int.ofNat_lt.2 ha⟩
  · -- an illegal in-range city is on the route, so the route is not empty and the position is one of its cities
    obtain ⟨hvl, -, -, -, -, hrange, hvis, -, hpos, -⟩ := hf
    have hav : a < s.visited.length := hvl ▸ ha
    rw [step_fst_illegal n D pen dense s hav hl]
    have hmem : (a : Int) ∈ route s := (hvis a ha).mp (by simpa [legal, hav] using hl)
    show 0 ≤ s.position ∧ s.position < n
    rw [hpos]
    cases hr : route s with
    | nil => rw [hr] at hmem; cases hmem
    | cons x xs =>
      rw [List.getLastD_cons]
      exact hrange _ (hr ▸ List.getLastD_mem_cons)

end TSP
