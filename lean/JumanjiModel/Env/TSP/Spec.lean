/-
TSP, spec membership and horizon:
* C01: the declared `observation_spec` / `action_spec` as `Sp` values; the observation of a state of `SpecInv n` (preserved
  by every in-spec step) is a member of the spec with ANY `position` leaf that accepts its position (`obsOf_valid_with`),
  and a position outside `[0, n−1]` makes it a non-member of the declared spec (`obs_invalid_of_position`).  From these
  Props/Env/TSP.lean has: every `step` observation is a member; the `reset` observation (position −1, finding F5 of DESIGN.md 11.3) is NOT;
  it is a member of the spec whose `position` leaf is widened to `[−1, n−1]`;
* C04: `step_agrees_step`, the statement about `step` itself;
* C11: `bounded`.
-/
import JumanjiModel.Env.TSP.Lemmas
import JumanjiModel.Env.TSP.Bounds
import JumanjiModel.Env.SpecMembership
import JumanjiModel.Env.HorizonEpisode
namespace TSP
open Jm Sp PzS

/-- the observation spec with the leaf for `position` as a parameter -/
def obsSpecWith (pos : Leaf) (n : Nat) : Sp.Nested :=
  [("coordinates", .bounded [n, 2] .float32 "coordinates" [] [0] [] [1]),
   ("position", pos),
   ("trajectory", .bounded [n] .int32 "trajectory" [] [-1] [] [(((n : Int) - 1 : Int) : Rat)]),
   ("action_mask", .bounded [n] .bool "action_mask" [] [0] [] [1])]

/-- `observation_spec`, `n` = `num_cities`: coordinates BoundedArray((n, 2), float, 0, 1); position DiscreteArray(n, int32);
trajectory BoundedArray((n,), int32, −1, n − 1); action_mask BoundedArray((n,), bool, False, True) -/
def obsSpec (n : Nat) : Sp.Nested := obsSpecWith (.discrete n .int32 "position") n

/-- the same with `position` declared as `BoundedArray((), int32, −1, n − 1)` — what `reset` would need -/
def obsSpecWide (n : Nat) : Sp.Nested :=
  obsSpecWith (.bounded [] .int32 "position" [] [-1] [] [(((n : Int) - 1 : Int) : Rat)]) n

/-- `DiscreteArray(num_cities)` -/
def actionSpec (n : Nat) : Leaf := .discrete n .int32 "action"

/-- a model observation as the arrays the implementation emits; every shape is READ OFF the value -/
def toNValue (o : Obs) : NValue :=
  [("coordinates", ⟨[o.coords.length, (o.coords.headD []).length], .float32, o.coords.flatten⟩),
   ("position", ⟨[], .int32, [(o.position : Rat)]⟩),
   ("trajectory", ⟨[o.trajectory.length], .int32, ofInts o.trajectory⟩),
   ("action_mask", ⟨[o.mask.length], .bool, ofBools o.mask⟩)]

/-- the width of `coordinates` is read off its first row, hence three conjuncts for its shape -/
theorem obs_valid_with_iff (pos : Leaf) (n : Nat) (o : Obs) : (obsSpecWith pos n).valid (toNValue o) = true ↔
    o.coords.length = n ∧ (o.coords.headD []).length = 2 ∧ o.coords.flatten.length = n * 2 ∧
    (∀ x ∈ o.coords.flatten, 0 ≤ x ∧ x ≤ 1) ∧ pos.valid ⟨[], .int32, [(o.position : Rat)]⟩ = true ∧
    o.trajectory.length = n ∧ (∀ c ∈ o.trajectory, -1 ≤ c ∧ c ≤ (n : Int) - 1) ∧ o.mask.length = n := by
  simp only [obsSpecWith, toNValue, valid_cons, valid_nil, valid_scalar_bounded_iff, forall_ofInts, forall_ofBools,
    PkS.ofInts_length, PkS.ofBools_length, prod_one, prod_two, List.cons.injEq, neg_ofNat_le_intCast, Rat.intCast_le_intCast,
    true_and, and_true, and_self, and_self_left, and_assoc]

theorem obs_invalid_of_position (n : Nat) (o : Obs) (hp : ¬ (0 ≤ o.position ∧ o.position < n)) :
    (obsSpec n).valid (toNValue o) = false :=
  Bool.eq_false_iff.2 fun h => hp ((valid_discrete_int_iff n _ _ _ _ o.position).1 ((obs_valid_with_iff _ n o).1 h).2.2.2.2.1).2.2

theorem obs_valid_only (n : Nat) (o : Obs) (h : (obsSpec n).valid (toNValue o) = true) :
    o.coords.length = n ∧ (∀ x ∈ o.coords.flatten, 0 ≤ x ∧ x ≤ 1) ∧ (0 ≤ o.position ∧ o.position < n) ∧
    o.trajectory.length = n ∧ (∀ c ∈ o.trajectory, -1 ≤ c ∧ c < n) ∧ o.mask.length = n :=
  have ⟨h1, _, _, h2, h3, h4, h5, h6⟩ := (obs_valid_with_iff _ n o).1 h
  ⟨h1, h2, ((valid_discrete_int_iff n _ _ _ _ o.position).1 h3).2.2, h4,
    fun c hc => ⟨(h5 c hc).1, Int.lt_of_le_sub_one (h5 c hc).2⟩, h6⟩

def SpecInv (n : Nat) (s : State) : Prop :=
  Feasible n s ∧ s.coords.length = n ∧ ∀ p ∈ s.coords, p.length = 2 ∧ ∀ x ∈ p, 0 ≤ x ∧ x ≤ 1

instance (n : Nat) (s : State) : Decidable (SpecInv n s) := by unfold SpecInv; infer_instance

theorem step_coords (n : Nat) (D : Dist) (pen : Rat) (dense : Bool) (s : State) (a : Int) :
    (step n D pen dense s a).1.coords = s.coords := by
  rw [step_fst]; split <;> rfl

theorem step_feasible_any (n : Nat) (D : Dist) (pen : Rat) (dense : Bool) (s : State) (a : Nat)
    (hf : Feasible n s) (ha : a < n) : Feasible n (step n D pen dense s a).1 := by
  by_cases hl : legal s a
  · exact step_feasible n D pen dense s a hf hl
  · rw [step_fst_illegal n D pen dense s (by rw [hf.visited_length]; exact ha) hl]; exact hf

theorem step_specInv (n : Nat) (D : Dist) (pen : Rat) (dense : Bool) (s : State) (a : Nat) (ha : a < n)
    (h : SpecInv n s) : SpecInv n (step n D pen dense s a).1 :=
  ⟨step_feasible_any n D pen dense s a h.1 ha, by rw [step_coords]; exact h.2.1, by rw [step_coords]; exact h.2.2⟩

/-- `0 < n`: with no city the width of `coordinates` is read as 0, and the declared shape is `[0, 2]` -/
theorem obsOf_valid_with (pos : Leaf) (n : Nat) (hn : 0 < n) (s : State) (h : SpecInv n s)
    (hp : pos.valid ⟨[], .int32, [((obsOf s).position : Rat)]⟩ = true) :
    (obsSpecWith pos n).valid (toNValue (obsOf s)) = true := by
  obtain ⟨hf, hcl, hc⟩ := h
  have hs := PzS3.gridShape_of_rows (obsOf s).coords n 2 hcl (fun p hp => (hc p hp).1) (by omega)
  have ht := (feasible_obsInv n s hf fun p hp => (hc p hp).2).2.1
  exact (obs_valid_with_iff pos n _).2 ⟨hcl, by simpa [PzS3.gridShape, show (obsOf s).coords.length = n from hcl] using hs.1,
    hs.2, Jx.forall_mem_flatten fun p hp => (hc p hp).2, hp, hf.trajectory_length,
    fun c hc => ⟨(ht c hc).1, Int.le_sub_one_of_lt (ht c hc).2⟩, by simp [obsOf, hf.visited_length]⟩

theorem step_mid_or_last (n : Nat) (D : Dist) (pen : Rat) (dense : Bool) (s : State) (a : Int) :
    (step n D pen dense s a).2.stepType = .mid ∨ (step n D pen dense s a).2.stepType = .last := by
  rw [step_snd]; exact condLast_mid_or_last ..

/-- `run` does not stop at LAST: the states reached by stepping on are covered -/
theorem specInv_along (n : Nat) (D : Dist) (pen : Rat) (dense : Bool) (s : State) (as : List Nat)
    (hok : ∀ a ∈ as, a < n) (h : SpecInv n s) :
    SpecInv n ((Ep.ofStep (fun s (a : Nat) => step n D pen dense s (a : Int)) (·.numVisited)).run s as) :=
  Ep.Sys.run_inv _ (fun s a hi ha => step_specInv n D pen dense s a ha hi) s h as hok

theorem step_agrees_step (n : Nat) (D : Dist) (pen : Rat) (dense : Bool) (s : State) (a : Nat) (hf : Feasible n s)
    (ha : a < n) :
    (legal s a → (step n D pen dense s a).1 = visit s a) ∧
    (¬ legal s a → (step n D pen dense s a).1 = s ∧ (step n D pen dense s a).2.stepType = .last) ∧
    (legal s a ↔ (step n D pen dense s a).1.numVisited = s.numVisited + 1) := by
  have hal : a < s.visited.length := by rw [hf.visited_length]; exact ha
  have h1 := step_fst_legal n D pen dense s a hf
  have h2 := step_fst_illegal n D pen dense s hal
  exact ⟨h1, fun hl => ⟨h2 hl, (step_last_iff n D pen dense s a).2 (Or.inr (isValid_of_not_legal hal hl))⟩,
    (Jx.reacted (fun hl => congrArg State.numVisited (h1 hl)) (fun hl => congrArg State.numVisited (h2 hl))
      (by show s.numVisited + 1 ≠ s.numVisited; omega)).1.symm⟩

/-- `Ep.Bounded.rollout_ends` bounds an episode by `pot + 1` steps, hence the `- 1` -/
def pot (n : Nat) (s : State) : Nat := n - 1 - s.numVisited.toNat

theorem bounded (n : Nat) (D : Dist) (pen : Rat) (dense : Bool) :
    Ep.Bounded (Ep.ofStep (fun s (a : Nat) => step n D pen dense s (a : Int)) (·.numVisited)) (Feasible n)
      (fun a => a < n) (pot n) :=
  Ep.Bounded.of_step (fun s a hi ha => step_feasible_any n D pen dense s a hi ha) (fun s a hi ha hnl => by
    have hp := progress n D pen dense s (a : Int) hnl
    have hf' := step_feasible_any n D pen dense s a hi ha
    have h0 := hi.numVisited_nonneg
    have hn' := hf'.numVisited_le
    unfold pot
    omega)

end TSP
