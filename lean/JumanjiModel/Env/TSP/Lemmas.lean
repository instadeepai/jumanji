/-
TSP, one `step` against the rules: the validity test is `legal` (C04), the illegal move (C05), `update = visit` and
feasibility on a legal move (C06), progress (C11), the observation (C12); then path / tour length and the sparse reward along
legal play (C08).  The dense reward, whose statements need `WrapOK` for `n = 1`, is in SmallLemmas.lean.
-/
import JumanjiModel.Env.TSP.Model
import JumanjiModel.Core.TimeStepLemmas
import JumanjiModel.Prim.ListLemmas
namespace TSP
open Jm

theorem Feasible.visited_length {n : Nat} {s : State} (hf : Feasible n s) : s.visited.length = n := hf.1
theorem Feasible.trajectory_length {n : Nat} {s : State} (hf : Feasible n s) : s.trajectory.length = n := hf.2.1
theorem Feasible.numVisited_nonneg {n : Nat} {s : State} (hf : Feasible n s) : 0 ≤ s.numVisited := hf.2.2.1
theorem Feasible.numVisited_le {n : Nat} {s : State} (hf : Feasible n s) : s.numVisited ≤ n := hf.2.2.2.1
theorem Feasible.nodup {n : Nat} {s : State} (hf : Feasible n s) : (route s).Nodup := hf.2.2.2.2.1
theorem Feasible.position {n : Nat} {s : State} (hf : Feasible n s) : s.position = (route s).getLastD (-1) :=
  hf.2.2.2.2.2.2.2.2.1
theorem Feasible.count {n : Nat} {s : State} (hf : Feasible n s) : (Jx.countTrue s.visited : Int) = s.numVisited :=
  hf.2.2.2.2.2.2.2.2.2

theorem countTrue_pos (ps : List Bool) (a : Nat) (ha : a < ps.length) (hp : ps.getD a true = true) :
    0 < Jx.countTrue ps := by
  -- clearing the set bit `a` lowers the count by one, so the count was positive
  have := Jx.countTrue_set false true ha
  rw [hp] at this
  simp at this
  omega

theorem mask_iff_legal (s : State) (a : Nat) : (obsOf s).mask.getD a false = true ↔ legal s a := by
  by_cases ha : a < s.visited.length <;> simp [obsOf, legal, List.getD_eq_getElem?_getD, ha]

theorem isValid_iff_legal (s : State) (a : Nat) (ha : a < s.visited.length) :
    isValid s (a : Int) = true ↔ legal s a := by
  unfold isValid legal
  rw [Jx.getWC_nat _ _ ha]
  simp [List.getD_eq_getElem?_getD, ha]

theorem isValid_of_legal {s : State} {a : Nat} (hl : legal s a) : isValid s (a : Int) = true :=
  (isValid_iff_legal s a hl.1).2 hl

theorem isValid_of_not_legal {s : State} {a : Nat} (ha : a < s.visited.length) (hl : ¬ legal s a) :
    isValid s (a : Int) = false := by
  rw [← Bool.not_eq_true, isValid_iff_legal s a ha]; exact hl

theorem step_fst (n : Nat) (D : Dist) (pen : Rat) (dense : Bool) (s : State) (a : Int) :
    (step n D pen dense s a).1 = if isValid s a = true then update s a else s := rfl

theorem step_snd (n : Nat) (D : Dist) (pen : Rat) (dense : Bool) (s : State) (a : Int) :
    (step n D pen dense s a).2 =
      condLast (((step n D pen dense s a).1.numVisited == (n : Int)) || !(isValid s a))
        [reward dense D pen s (step n D pen dense s a).1 (isValid s a)]
        (obsOf (step n D pen dense s a).1) := rfl

theorem step_obs (n : Nat) (D : Dist) (pen : Rat) (dense : Bool) (s : State) (a : Int) :
    (step n D pen dense s a).2.obs = obsOf (step n D pen dense s a).1 := by
  rw [step_snd, condLast_obs]

theorem step_reward (n : Nat) (D : Dist) (pen : Rat) (dense : Bool) (s : State) (a : Int) :
    (step n D pen dense s a).2.reward = [reward dense D pen s (step n D pen dense s a).1 (isValid s a)] := by
  rw [step_snd, condLast_reward]

theorem step_last_iff (n : Nat) (D : Dist) (pen : Rat) (dense : Bool) (s : State) (a : Int) :
    (step n D pen dense s a).2.stepType = .last ↔
      ((step n D pen dense s a).1.numVisited = (n : Int) ∨ isValid s a = false) := by
  rw [step_snd, condLast_last_iff]; simp

theorem step_fst_illegal (n : Nat) (D : Dist) (pen : Rat) (dense : Bool) (s : State) {a : Nat}
    (ha : a < s.visited.length) (hl : ¬ legal s a) : (step n D pen dense s a).1 = s := by
  rw [step_fst, isValid_of_not_legal ha hl]; rfl

/-- `DenseReward` tests `all(visited_mask)`, `step` tests `num_visited == num_cities`: the same when the counter
counts the set flags -/
theorem visited_all_iff (n : Nat) (s : State) (hv : s.visited.length = n)
    (hc : (Jx.countTrue s.visited : Int) = s.numVisited) :
    s.visited.all id = decide (s.numVisited = (n : Int)) := by
  rw [Bool.eq_iff_iff, ← Jx.countTrue_eq_length, hv, decide_eq_true_eq, ← hc, Int.ofNat_inj]

theorem step_illegal (n : Nat) (D : Dist) (pen : Rat) (dense : Bool) (s : State) (a : Nat)
    (hf : Feasible n s) (hrun : s.numVisited < n) (ha : a < n) (hl : ¬ legal s a) :
    step n D pen dense s a = (s, termination [pen] (obsOf s)) := by
  have hav : a < s.visited.length := hf.visited_length ▸ ha
  have hc := hf.count
  have hs := step_fst_illegal n D pen dense s hav hl
  -- `a` is visited, so the counter is not 0; cities remain, so not all are visited: the penalty is paid as it is
  have hpos := countTrue_pos s.visited a hav (by simpa [legal, hav] using hl)
  have hnv0 : (s.numVisited == 0) = false := by simpa using (by omega : s.numVisited ≠ 0)
  have hnall : s.visited.all id = false := by
    rw [visited_all_iff n s hf.visited_length hf.count]; exact decide_eq_false (Int.ne_of_lt hrun)
  have hr : reward dense D pen s s false = pen := by
    unfold reward denseReward sparseReward
    cases dense <;> simp [hnv0, hnall]
  apply Prod.ext hs
  rw [step_snd, hs, isValid_of_not_legal hav hl]
  simp only [Bool.not_false, Bool.or_true, condLast_true, hr]

theorem legal_lt (n : Nat) (s : State) (a : Nat) (hv : s.visited.length = n)
    (hc : (Jx.countTrue s.visited : Int) = s.numVisited) (hl : legal s a) : s.numVisited < n := by
  have := Jx.countTrue_lt hl.1 hl.2
  omega

/-- on a legal move of a feasible state both wrapping writes of `_update_state` are in range -/
theorem update_eq_visit (n : Nat) (s : State) (a : Nat) (hf : Feasible n s) (hl : legal s a) :
    update s (a : Int) = visit s a := by
  have hlt := legal_lt n s a hf.visited_length hf.count hl
  obtain ⟨-, f2, f3, -⟩ := hf
  have ht : Jx.setWD s.trajectory s.numVisited (a : Int) = s.trajectory.set s.numVisited.toNat a :=
    Jx.setWD_nonneg _ f3 _
  unfold update visit
  rw [Jx.setWD_natCast, ht]

theorem step_fst_legal (n : Nat) (D : Dist) (pen : Rat) (dense : Bool) (s : State) (a : Nat)
    (hf : Feasible n s) (hl : legal s a) : (step n D pen dense s a).1 = visit s a := by
  rw [step_fst, if_pos (isValid_of_legal hl), update_eq_visit n s a hf hl]

theorem route_visit (n : Nat) (s : State) (a : Nat) (hf : Feasible n s) (hl : legal s a) :
    route (visit s a) = route s ++ [(a : Int)] := by
  have hlt := legal_lt n s a hf.visited_length hf.count hl
  obtain ⟨-, f2, f3, -⟩ := hf
  unfold route visit
  simp only []
  rw [show (s.numVisited + 1).toNat = s.numVisited.toNat + 1 from Int.toNat_add f3 (by decide),
    Jx.take_set_succ _ _ (by omega)]

theorem visit_feasible (n : Nat) (s : State) (a : Nat) (hf : Feasible n s) (hl : legal s a) :
    Feasible n (visit s a) := by
  have hlt := legal_lt n s a hf.visited_length hf.count hl
  have hroute := route_visit n s a hf hl
  obtain ⟨f1, f2, f3, f4, f5, f6, f7, f8, f9, f10⟩ := hf
  obtain ⟨l1, l2⟩ := hl
  have han : a < n := f1 ▸ l1
  have hnotin : (a : Int) ∉ route s := fun hm => by
    have := (f7 a han).2 hm
    simp [List.getD_eq_getElem?_getD, l1] at this l2
    simp [this] at l2
  unfold Feasible
  rw [hroute]
  unfold visit
  simp only []
  refine ⟨by rw [List.length_set]; exact f1, by rw [List.length_set]; exact f2, Int.add_nonneg f3 (by decide), hlt,
    ?_, ?_, ?_, ?_, ?_, ?_⟩
  · simpa [List.nodup_append, f5] using fun x hx (e : x = (a : Int)) => hnotin (e ▸ hx)
  · simp only [List.mem_append, List.mem_singleton]
    rintro c (h | rfl)
    · exact f6 c h
    · exact ⟨Int.natCast_nonneg a, Int.ofNat_lt.2 han⟩
  · intro i hi
    rw [List.mem_append, List.mem_singleton, Int.ofNat_inj, ← f7 i hi]
    by_cases e : a = i
    · subst e; simp [List.getD_eq_getElem?_getD, l1]
    · simp [List.getD_eq_getElem?_getD, e, Ne.symm e]
  · rw [show (s.numVisited + 1).toNat = s.numVisited.toNat + 1 from Int.toNat_add f3 (by decide), Jx.drop_set_succ]
    intro c hc
    apply f8
    rw [← List.drop_drop] at hc
    exact List.mem_of_mem_drop hc
  · simp
  · rw [Jx.countTrue_set_true l1 l2, Int.natCast_add, f10]; rfl

theorem step_feasible (n : Nat) (D : Dist) (pen : Rat) (dense : Bool) (s : State) (a : Nat)
    (hf : Feasible n s) (hl : legal s a) : Feasible n (step n D pen dense s a).1 := by
  rw [step_fst_legal n D pen dense s a hf hl]
  exact visit_feasible n s a hf hl

theorem reset_feasible (n : Nat) (coords : List (List Rat)) : Feasible n (reset n coords).1 := by
  unfold reset Feasible route
  simp [Jx.countTrue]
  intro i hi
  simp [hi]

theorem complete_is_solution (n : Nat) (D : Dist) (pen : Rat) (dense : Bool) (s : State) (a : Nat)
    (hf : Feasible n s) (hl : legal s a) (hlast : (step n D pen dense s a).2.stepType = .last) :
    IsSolution n (step n D pen dense s a).1 := by
  refine ⟨step_feasible n D pen dense s a hf hl, ((step_last_iff n D pen dense s a).1 hlast).resolve_right ?_⟩
  rw [isValid_of_legal hl]; exact Bool.noConfusion

theorem progress (n : Nat) (D : Dist) (pen : Rat) (dense : Bool) (s : State) (a : Int)
    (hnl : (step n D pen dense s a).2.stepType ≠ .last) :
    (step n D pen dense s a).1.numVisited = s.numVisited + 1 ∧
    (step n D pen dense s a).1.numVisited ≠ n := by
  have h := mt (step_last_iff n D pen dense s a).2 hnl
  rw [not_or, Bool.not_eq_false] at h
  exact ⟨by rw [step_fst, if_pos h.2]; rfl, h.1⟩

theorem obsOf_eq_observe (s : State) (hp : s.position = (route s).getLastD (-1)) : obsOf s = observe s := by
  unfold obsOf observe
  rw [← hp]
  congr 1
  apply List.ext_getElem?
  intro i
  by_cases hi : i < s.visited.length
  · simp [hi, legal, List.getD_eq_getElem?_getD]
  · simp [hi]

theorem obs_faithful (n : Nat) (D : Dist) (pen : Rat) (dense : Bool) (s : State) (a : Nat)
    (hf : Feasible n s) (ha : a < n) :
    (step n D pen dense s a).2.obs = observe (step n D pen dense s a).1 := by
  rw [step_obs]
  by_cases hl : legal s a
  · exact obsOf_eq_observe _ (step_feasible n D pen dense s a hf hl).position
  · rw [step_fst_illegal n D pen dense s (by rw [hf.visited_length]; exact ha) hl]; exact obsOf_eq_observe s hf.position

theorem pathLen_append (D : Dist) (l : List Int) (a : Int) :
    pathLen D (l ++ [a]) = pathLen D l + (if l = [] then 0 else dist D (l.getLastD (-1)) a) := by
  induction l with
  | nil => exact (Rat.add_zero 0).symm
  | cons x xs ih =>
    cases xs with
    | nil =>
      show dist D x a + 0 = 0 + dist D x a
      rw [Rat.add_zero, Rat.zero_add]
    | cons y rest =>
      simp only [List.cons_append, pathLen] at ih ⊢
      rw [ih, Rat.add_assoc]
      rfl
/-- `compute_tour_length` (gather, `roll`, sum) against the recursive `tourLen` -/
theorem tourLength_eq (D : Dist) (l : List Int) : tourLength D l = tourLen D l := by
  have key : ∀ (xs : List Int) (x c : Int),
      (List.zipWith (fun i j => dist D i j) (x :: xs) (xs ++ [c])).sum
        = pathLen D (x :: xs) + dist D ((x :: xs).getLastD c) c := by
    intro xs
    induction xs with
    | nil =>
      intro x c
      show dist D x c + 0 = 0 + dist D x c
      rw [Rat.add_zero, Rat.zero_add]
    | cons y ys ih =>
      intro x c
      simp only [List.cons_append, List.zipWith_cons_cons, List.sum_cons, pathLen]
      rw [ih y c, Rat.add_assoc]
      rfl
  cases l with
  | nil => rfl
  | cons c rest =>
    unfold tourLength tourLen
    simp only [List.drop_succ_cons, List.drop_zero, List.take_succ_cons, List.take_zero]
    exact key rest c c
theorem tourLen_append (D : Dist) (l : List Int) (a : Int) :
    tourLen D (l ++ [a]) = pathLen D (l ++ [a]) + dist D a ((l ++ [a]).headD a) := by
  cases l with
  | nil => rfl
  | cons c rest =>
    show pathLen D (c :: (rest ++ [a])) + dist D ((c :: (rest ++ [a])).getLastD c) c = _
    rw [List.getLastD_cons, List.getLastD_concat]; rfl

theorem route_eq_nil (n : Nat) (s : State) (hf : Feasible n s) : route s = [] ↔ s.numVisited = 0 := by
  obtain ⟨-, f2, f3, f4, -⟩ := hf
  unfold route
  rw [List.take_eq_nil_iff]
  constructor
  · rintro (h | h)
    · omega
    · rw [h] at f2; simp at f2; omega
  · intro h; left; omega

theorem trajectory_head (n : Nat) (s : State) (hf : Feasible n s) :
    s.trajectory.getD 0 (-1) = (route s).headD (-1) := by
  obtain ⟨-, -, -, -, -, -, -, f8, -⟩ := hf
  unfold route
  rw [List.getD_eq_getElem?_getD, List.headD_eq_head?_getD, List.head?_eq_getElem?, List.getElem?_take]
  split
  · rfl
  · next h =>
    rw [Nat.eq_zero_of_not_pos h] at f8
    cases ht : s.trajectory[0]? with
    | none => rfl
    | some c => exact f8 c (by simpa using List.mem_of_getElem? ht)

theorem sparse_reward (n : Nat) (D : Dist) (pen : Rat) (s : State) (a : Nat)
    (hv : s.visited.length = n) (hl : legal s a) :
    (step n D pen false s a).2.reward =
      [if (step n D pen false s a).1.numVisited = (n : Int)
       then -(tourLen D (step n D pen false s a).1.trajectory) else 0] := by
  rw [step_reward, isValid_of_legal hl]
  unfold reward sparseReward
  simp only [hv, Bool.not_true, Bool.or_false, if_true, tourLength_eq, beq_iff_eq, Bool.false_eq_true, if_false]

theorem travelled_complete (n : Nat) (D : Dist) (s : State) (ht : s.trajectory.length = n)
    (hc : s.numVisited = (n : Int)) : travelled n D s = tourLen D s.trajectory := by
  unfold travelled route
  rw [if_pos hc, hc]
  have : ((n : Int)).toNat = n := by omega
  rw [this, List.take_of_length_le (by rw [ht]; exact Nat.le_refl _)]

theorem step_fst_indep (n : Nat) (D : Dist) (pen : Rat) (d1 d2 : Bool) (s : State) (a : Int) :
    (step n D pen d1 s a).1 = (step n D pen d2 s a).1 := rfl

/-- `s.numVisited < n`: from a complete state the empty play has return 0, not minus the tour length -/
theorem sparse_return (n : Nat) (D : Dist) (pen : Rat) (as : List Nat) :
    ∀ s, Feasible n s → s.numVisited < (n : Int) → AllLegal n D pen false s as →
      (play n D pen false s as).2 =
        if (play n D pen false s as).1.numVisited = (n : Int)
        then -(tourLen D (play n D pen false s as).1.trajectory) else 0 := by
  induction as with
  | nil =>
    intro s _ hlt _
    have hne : ¬ s.numVisited = (n : Int) := by omega
    show (0 : Rat) = if s.numVisited = (n : Int) then _ else 0
    rw [if_neg hne]
  | cons a as ih =>
    intro s hf hlt ⟨hl, hrest⟩
    have hf' := step_feasible n D pen false s a hf hl
    simp only [play]
    rw [sparse_reward n D pen s a hf.visited_length hl]
    by_cases hc : (step n D pen false s a).1.numVisited = (n : Int)
    · -- complete: no further legal move exists
      cases as with
      | nil => simp only [play, hc, if_true, List.sum_cons, List.sum_nil, Rat.add_zero]
      | cons b bs => exact absurd (legal_lt n _ b hf'.visited_length hf'.count hrest.1) (by omega)
    · rw [ih _ hf' (by have := hf'.numVisited_le; omega) hrest, if_neg hc, List.sum_cons, List.sum_nil, Rat.add_zero,
        Rat.zero_add]
      rfl

theorem play_fst_indep (n : Nat) (D : Dist) (pen : Rat) (as : List Nat) :
    ∀ s, (play n D pen true s as).1 = (play n D pen false s as).1 := by
  induction as with
  | nil => intro s; rfl
  | cons a as ih => intro s; simp only [play]; rw [step_fst_indep n D pen true false, ih]

theorem allLegal_indep (n : Nat) (D : Dist) (pen : Rat) (as : List Nat) :
    ∀ s, AllLegal n D pen true s as ↔ AllLegal n D pen false s as := by
  induction as with
  | nil => intro s; simp [AllLegal]
  | cons a as ih => intro s; simp only [AllLegal]; rw [step_fst_indep n D pen true false, ih]

end TSP
