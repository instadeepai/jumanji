/-
TSP, C08/C09 for every `n`: telescoping of the dense reward and whole-episode returns are proved under `WrapOK n D`
(`step = stepSpec` from them: `Props.C09.tsp_step_eq_spec_all`); the statements with `2 ≤ n` (`dense_return`, `dense_eq_sparse` here, the others in Props/Env/TSP.lean)
are their instances.

For `n ≥ 2` the closing leg of `DenseReward` reads `state.trajectory[0]` of the PREVIOUS state, which is
already filled when the tour completes.  For `n = 1` the only move completes the tour at once and the
stale `trajectory[0]` is still `−1`: the reward is `−‖coordinates[0] − coordinates[−1]‖`, a gather with a
negative index.  JAX wraps `−1` to `n − 1 = 0`, so on a distance table with one column the value is
`D[0][0]`, the length of the closed tour through the single city — the telescoping law survives.  On a
table whose row 0 is longer than `n` it does not (`Props.C08.tsp_n1_needs_shape`), hence the hypothesis `WrapOK`.
For `n = 0` there is no legal move and every statement is vacuous or `0 = 0`.
-/
import JumanjiModel.Env.TSP.Lemmas
namespace TSP
open Jm

/-- what the single-city instance needs of `D`: the gathers `coordinates[−1]` and `coordinates[0]` read the same city -/
def WrapOK (n : Nat) (D : Dist) : Prop := n = 1 → dist D 0 (-1) = dist D 0 0

instance (n : Nat) (D : Dist) : Decidable (WrapOK n D) := by unfold WrapOK; infer_instance

theorem wrapOK_of_two_le (n : Nat) (D : Dist) (hn : 2 ≤ n) : WrapOK n D := fun h => by omega

theorem rat_arith1 (p x y : Rat) : -x - y = p - ((p + x) + y) := by grind
theorem rat_arith2 (p x : Rat) : -x = p - (p + x) := by grind
theorem rat_telescope (a b c : Rat) : a - b + 0 + (b - c) = a - c := by grind

/-- C08 (dense).  In terms of the route `r` so far the reward is `−(last leg) − (closing leg to r.head, if complete)`;
the one case where `r.head` is not yet written when the tour completes is the first move of the single-city instance,
where `WrapOK` is used. -/
theorem dense_telescopes_all (n : Nat) (D : Dist) (pen : Rat) (s : State) (a : Nat) (hw : WrapOK n D)
    (hf : Feasible n s) (hl : legal s a) :
    (step n D pen true s a).2.reward = [travelled n D s - travelled n D (step n D pen true s a).1] := by
  have hlt := legal_lt n s a hf.visited_length hf.count hl
  have hnil := route_eq_nil n s hf
  have hvf := visit_feasible n s a hf hl
  rw [step_reward, step_fst_legal n D pen true s a hf hl, isValid_of_legal hl]
  unfold reward denseReward travelled
  simp only [if_true, visited_all_iff n _ hvf.visited_length hvf.count, route_visit n s a hf hl, Int.ne_of_lt hlt,
    if_false, show (visit s a).numVisited = s.numVisited + 1 from rfl,
    show (visit s a).position = (a : Int) from rfl, decide_eq_true_eq]
  rw [tourLen_append, pathLen_append, hf.position, trajectory_head n s hf]
  cases hr : route s with
  | nil =>
    simp only [hnil.1 hr, beq_self_eq_true, if_true, pathLen, List.nil_append, List.headD_cons, List.headD_nil]
    by_cases h1 : (0 : Int) + 1 = n
    · -- the single-city instance: `a = 0`, and the closing leg is read at index `−1`
      have hn : n = 1 := by omega
      have ha : a = 0 := by have := hl.1; have := hf.visited_length; omega
      subst ha
      rw [if_pos h1, if_pos h1, Int.natCast_zero, hw hn, Rat.zero_add, Rat.zero_add]
    · rw [if_neg h1, if_neg h1, Rat.zero_add, Rat.sub_self]
  | cons c rest =>
    have h0 : (s.numVisited == 0) = false := by
      rw [beq_eq_false_iff_ne]; intro h; rw [hnil.2 h] at hr; cases hr
    simp only [h0, Bool.false_eq_true, if_false, List.cons_append, List.headD_cons, reduceCtorEq]
    split
    · congr 1; exact rat_arith1 _ _ _
    · congr 1; exact rat_arith2 _ _

theorem dense_return_all (n : Nat) (D : Dist) (pen : Rat) (hw : WrapOK n D) (as : List Nat) :
    ∀ s, Feasible n s → AllLegal n D pen true s as →
      (play n D pen true s as).2 = travelled n D s - travelled n D (play n D pen true s as).1 ∧
      Feasible n (play n D pen true s as).1 := by
  induction as with
  | nil => intro s hf _; exact ⟨Rat.sub_self.symm, hf⟩
  | cons a as ih =>
    intro s hf hal
    obtain ⟨hl, hrest⟩ := hal
    have hf' := step_feasible n D pen true s a hf hl
    obtain ⟨h1, h2⟩ := ih _ hf' hrest
    simp only [play]
    rw [h1, dense_telescopes_all n D pen s a hw hf hl]
    refine ⟨?_, h2⟩
    exact rat_telescope _ _ _

theorem dense_return (n : Nat) (D : Dist) (pen : Rat) (hn : 2 ≤ n) (as : List Nat) :
    ∀ s, Feasible n s → AllLegal n D pen true s as →
      (play n D pen true s as).2 = travelled n D s - travelled n D (play n D pen true s as).1 ∧
      Feasible n (play n D pen true s as).1 :=
  dense_return_all n D pen (wrapOK_of_two_le n D hn) as

theorem travelled_reset (n : Nat) (D : Dist) (coords : List (List Rat)) :
    travelled n D (reset n coords).1 = 0 := by
  unfold travelled route reset
  simp [pathLen, tourLen]

theorem dense_eq_sparse_all (n : Nat) (D : Dist) (pen : Rat) (hw : WrapOK n D) (coords : List (List Rat))
    (as : List Nat) (hal : AllLegal n D pen true (reset n coords).1 as)
    (hc : (play n D pen true (reset n coords).1 as).1.numVisited = (n : Int)) :
    (play n D pen true (reset n coords).1 as).2 = objective D (play n D pen true (reset n coords).1 as).1 ∧
    (play n D pen false (reset n coords).1 as).2 = (play n D pen true (reset n coords).1 as).2 := by
  have hf0 := reset_feasible n coords
  obtain ⟨h1, h2⟩ := dense_return_all n D pen hw as _ hf0 hal
  have ht0 := travelled_reset n D coords
  have hd : (play n D pen true (reset n coords).1 as).2 = objective D (play n D pen true (reset n coords).1 as).1 := by
    rw [h1, ht0, travelled_complete n D _ h2.trajectory_length hc, Rat.sub_eq_add_neg, Rat.zero_add]; rfl
  refine ⟨hd, ?_⟩
  by_cases hn : n = 0
  · -- no city: no legal move, the episode is empty
    subst hn
    cases as with
    | nil => rfl
    | cons a as =>
      exact absurd (legal_lt 0 _ a hf0.visited_length hf0.count hal.1) (by simp [reset])
  · have hs := sparse_return n D pen as _ hf0 (by simp [reset]; omega) ((allLegal_indep n D pen as _).1 hal)
    rw [hs, ← play_fst_indep, if_pos hc, hd]; rfl

theorem dense_eq_sparse (n : Nat) (D : Dist) (pen : Rat) (hn : 2 ≤ n) (coords : List (List Rat))
    (as : List Nat) (hal : AllLegal n D pen true (reset n coords).1 as)
    (hc : (play n D pen true (reset n coords).1 as).1.numVisited = (n : Int)) :
    (play n D pen true (reset n coords).1 as).2 = objective D (play n D pen true (reset n coords).1 as).1 ∧
    (play n D pen false (reset n coords).1 as).2 = (play n D pen true (reset n coords).1 as).2 :=
  dense_eq_sparse_all n D pen (wrapOK_of_two_le n D hn) coords as hal hc

end TSP
