/-
TSP: a state passing the generator certificate is the generator's output (C10); feasibility and the move counter along
whole legal / mask-respecting sequences (`AllLegal` of Model.lean, `AllMasked` defined here; C06).
-/
import JumanjiModel.Env.TSP.Lemmas
namespace TSP
open Jm

theorem cert_eq_generate (n : Nat) (s : State) (h : GenCert n s) : s = generate n s.coords := by
  obtain ⟨_, _, hv, hp, ht, hn⟩ := h
  cases s; simp_all [generate]

/-- every city is chosen with its bit set in the mask of the current observation -/
def AllMasked (n : Nat) (D : Dist) (pen : Rat) (dense : Bool) : State → List Nat → Prop
  | _, [] => True
  | s, a :: as => (obsOf s).mask.getD a false = true ∧ AllMasked n D pen dense (step n D pen dense s (a : Int)).1 as

theorem allMasked_iff (n : Nat) (D : Dist) (pen : Rat) (dense : Bool) (as : List Nat) :
    ∀ s, AllMasked n D pen dense s as ↔ AllLegal n D pen dense s as := by
  induction as with
  | nil => intro s; simp [AllMasked, AllLegal]
  | cons a as ih => intro s; simp only [AllMasked, AllLegal, mask_iff_legal, ih]

theorem allLegal_take (n : Nat) (D : Dist) (pen : Rat) (dense : Bool) (as : List Nat) :
    ∀ s k, AllLegal n D pen dense s as → AllLegal n D pen dense s (as.take k) := by
  induction as with
  | nil => intro s k h; simpa using h
  | cons a as ih =>
    intro s k h
    cases k with
    | zero => simp [AllLegal]
    | succ k => simp only [List.take_succ_cons, AllLegal] at h ⊢; exact ⟨h.1, ih _ k h.2⟩

theorem feasible_play (n : Nat) (D : Dist) (pen : Rat) (dense : Bool) (as : List Nat) :
    ∀ s, Feasible n s → AllLegal n D pen dense s as → Feasible n (play n D pen dense s as).1 := by
  induction as with
  | nil => intro s hf _; simpa [play] using hf
  | cons a as ih =>
    intro s hf hal
    simp only [AllLegal] at hal
    simp only [play]
    exact ih _ (step_feasible n D pen dense s a hf hal.1) hal.2

theorem feasible_along (n : Nat) (D : Dist) (pen : Rat) (dense : Bool) (s : State) (as : List Nat)
    (hf : Feasible n s) (hal : AllLegal n D pen dense s as) (k : Nat) :
    Feasible n (play n D pen dense s (as.take k)).1 :=
  feasible_play n D pen dense _ s hf (allLegal_take n D pen dense as s k hal)

theorem play_numVisited (n : Nat) (D : Dist) (pen : Rat) (dense : Bool) (as : List Nat) :
    ∀ s, Feasible n s → AllLegal n D pen dense s as →
      (play n D pen dense s as).1.numVisited = s.numVisited + as.length := by
  induction as with
  | nil => intro s _ _; simp [play]
  | cons a as ih =>
    intro s hf hal
    simp only [AllLegal] at hal
    simp only [play]
    rw [ih _ (step_feasible n D pen dense s a hf hal.1) hal.2]
    rw [step_fst_legal n D pen dense s a hf hal.1]
    simp only [visit, List.length_cons]; omega

end TSP
