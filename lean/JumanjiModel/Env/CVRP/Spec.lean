/-
CVRP: the declared specs and what `step` does, stated about `step` itself (`step = stepL2` is
`Props.C09.cvrp_step_eq_spec`).
* C01: the declared `observation_spec` / `action_spec` as `Sp` values (tied to the generated literals of Gen/Specs.lean in
  Props/SpecTable.lean), and membership of the observation of every state with the invariant `SpecInv c n`
  (`stateToObs_valid`; established by `reset`, preserved by every in-spec step; the instances for `reset` and `step` are
  in Props/Env/CVRP.lean);
* C04: `step_agrees_step`;
* C06: `step_complete_is_solution` (a LAST step of a legal action) and `episode_complete_is_solution` (whole episodes);
* C11: `bounded` — every in-spec step that is not LAST lowers the potential `2·num_nodes − numVisits`.
-/
import JumanjiModel.Env.CVRP.Lemmas
import JumanjiModel.Env.CVRP.Bounds
import JumanjiModel.Env.SpecMembership
import JumanjiModel.Env.HorizonEpisode
namespace CVRP
open Jm Sp PzS

/-- `observation_spec` (env.py); `n` = `num_nodes` -/
def obsSpec (n : Nat) : Sp.Nested :=
  [("coordinates", .bounded [n + 1, 2] .float32 "coordinates" [] [0] [] [1]),
   ("demands", .bounded [n + 1] .float32 "demands" [] [0] [] [1]),
   ("unvisited_nodes", .bounded [n + 1] .bool "unvisited_nodes" [] [0] [] [1]),
   ("position", .discrete (n + 1) .int32 "position"),
   ("trajectory", .bounded [2 * n] .int32 "trajectory" [] [0] [] [(((n + 1 : Nat) : Int) : Rat)]),
   ("capacity", .bounded [] .float32 "capacity" [] [0] [] [1]),
   ("action_mask", .bounded [n + 1] .bool "action_mask" [] [0] [] [1])]

/-- `DiscreteArray(num_nodes + 1)` -/
def actionSpec (n : Nat) : Leaf := .discrete (n + 1) .int32 "action"

/-- a model observation as the arrays the implementation emits; every shape is READ OFF the value -/
def toNValue (o : Obs) : NValue :=
  [("coordinates", ⟨[o.coords.length, (o.coords.headD []).length], .float32, o.coords.flatten⟩),
   ("demands", ⟨[o.demands.length], .float32, o.demands⟩),
   ("unvisited_nodes", ⟨[o.unvisited.length], .bool, ofBools o.unvisited⟩),
   ("position", ⟨[], .int32, [((o.position : Int) : Rat)]⟩),
   ("trajectory", ⟨[o.trajectory.length], .int32, ofInts (o.trajectory.map (fun (v : Nat) => (v : Int)))⟩),
   ("capacity", ⟨[], .float32, [o.capacity]⟩),
   ("action_mask", ⟨[o.mask.length], .bool, ofBools o.mask⟩)]

/-- the width of `coordinates` is read off its first row, hence three conjuncts for its shape -/
theorem obs_valid_iff (n : Nat) (o : Obs) : (obsSpec n).valid (toNValue o) = true ↔
    o.coords.length = n + 1 ∧ (o.coords.headD []).length = 2 ∧ o.coords.flatten.length = (n + 1) * 2 ∧
    (∀ x ∈ o.coords.flatten, 0 ≤ x ∧ x ≤ 1) ∧
    o.demands.length = n + 1 ∧ (∀ x ∈ o.demands, 0 ≤ x ∧ x ≤ 1) ∧ o.unvisited.length = n + 1 ∧
    o.position ≤ n ∧ o.trajectory.length = 2 * n ∧ (∀ v ∈ o.trajectory, v ≤ n + 1) ∧
    (0 ≤ o.capacity ∧ o.capacity ≤ 1) ∧ o.mask.length = n + 1 := by
  simp only [obsSpec, toNValue, valid_cons, valid_nil, valid_scalar_bounded_iff, valid_discrete_int_iff, forall_ofInts,
    forall_ofBools, PkS.ofInts_length, PkS.ofBools_length, prod_one, prod_two, prod_nil, List.forall_mem_singleton,
    List.length_singleton, List.length_map, List.forall_mem_map, List.cons.injEq, Rat.intCast_nonneg, Rat.intCast_le_intCast,
    true_and, and_true, and_assoc, and_self_left, and_self, Int.natCast_nonneg, Int.ofNat_le, Int.ofNat_lt,
    Nat.lt_add_one_iff]

theorem obs_valid_only (n : Nat) (o : Obs) (h : (obsSpec n).valid (toNValue o) = true) :
    o.coords.length = n + 1 ∧ (∀ x ∈ o.coords.flatten, 0 ≤ x ∧ x ≤ 1) ∧
    o.demands.length = n + 1 ∧ (∀ x ∈ o.demands, 0 ≤ x ∧ x ≤ 1) ∧ o.unvisited.length = n + 1 ∧
    o.position ≤ n ∧ o.trajectory.length = 2 * n ∧ (∀ v ∈ o.trajectory, v ≤ n + 1) ∧
    (0 ≤ o.capacity ∧ o.capacity ≤ 1) ∧ o.mask.length = n + 1 :=
  have ⟨h1, _, _, h⟩ := (obs_valid_iff n o).1 h
  ⟨h1, h⟩

/-- value ranges (`ObsInv`, Env/CVRP/Bounds.lean) and the shapes of a `num_nodes = n` instance -/
def SpecInv (c : Cfg) (n : Nat) (s : State) : Prop :=
  ObsInv c n s ∧ s.coords.length = n + 1 ∧ (∀ p ∈ s.coords, p.length = 2) ∧ s.demands.length = n + 1 ∧
  s.visited.length = n + 1 ∧ s.trajectory.length = 2 * n

instance (c : Cfg) (n : Nat) (s : State) : Decidable (SpecInv c n s) := by unfold SpecInv; infer_instance

theorem reset_specInv (c : Cfg) (n : Nat) (maxDemand : Int) (cd : List (List Rat)) (dd : List Int)
    (hd : validDraw n maxDemand cd dd) (hm : maxDemand ≤ c.maxCap) : SpecInv c n (reset c n cd dd).1 := by
  refine ⟨reset_obsInv c n maxDemand cd dd hd hm, hd.1, fun p hp => (hd.2.2.1 p hp).1, ?_, ?_, ?_⟩
  · simp [reset, generate, Jx.setWD_length, hd.2.1]
  · simp [reset, generate, Jx.setWD_length]
  · simp [reset, generate]

theorem step_specInv (c : Cfg) (D : Dist) (n : Nat) (s : State) (a : Nat) (ha : a ≤ n) (h : SpecInv c n s) :
    SpecInv c n (step c D s a).1 := by
  obtain ⟨h1, h2, h3, h4, h5, h6⟩ := h
  obtain ⟨l1, l2, l3, l4⟩ := step_lengths c D s a
  exact ⟨step_obsInv c D n s a ha h1, by rw [l4]; exact h2, by rw [l4]; exact h3, by rw [l1]; exact h4,
    by rw [l2]; exact h5, by rw [l3]; exact h6⟩

theorem stateToObs_valid (c : Cfg) (n : Nat) (s : State) (h : SpecInv c n s) :
    (obsSpec n).valid (toNValue (stateToObs c s)) = true := by
  obtain ⟨⟨hco, hde, hca, hpo, htr⟩, h2, h3, h4, h5, h6⟩ := h
  have hs := PzS3.gridShape_of_rows (stateToObs c s).coords (n + 1) 2 h2 h3 (by omega)
  exact (obs_valid_iff n _).2 ⟨h2, by simpa [PzS3.gridShape, show (stateToObs c s).coords.length = n + 1 from h2] using hs.1,
    hs.2, Jx.forall_mem_flatten hco, by simp [stateToObs, h4], obs_demands_unit c s hde, by simp [stateToObs, h5],
    hpo, h6,
    fun v hv => by have := htr v hv; omega, Jx.div_mem_unit hca.1 hca.2,
    by simp only [stateToObs]; rw [maskOf_length s (by omega), h5]⟩

theorem step_mid_or_last (c : Cfg) (D : Dist) (s : State) (a : Nat) :
    (step c D s a).2.stepType = .mid ∨ (step c D s a).2.stepType = .last := by
  rw [step_snd]; exact condLast_mid_or_last ..

theorem specInv_along (c : Cfg) (D : Dist) (n : Nat) (s : State) (as : List Nat) (hok : ∀ a ∈ as, a ≤ n)
    (h : SpecInv c n s) : SpecInv c n ((Ep.ofStep (step c D) (fun s => (s.numVisits : Int))).run s as) :=
  Ep.Sys.run_inv _ (fun s a hi ha => step_specInv c D n s a ha hi) s h as hok

theorem step_agrees_step (c : Cfg) (D : Dist) (s : State) (a : Nat) (hf : Feasible c.maxCap s)
    (ha : a < s.visited.length) :
    (legal s a → (step c D s a).1 = visitL2 c s a) ∧
    (¬ legal s a → (step c D s a).1 = s ∧ (step c D s a).2.stepType = .last) ∧
    (legal s a ↔ (step c D s a).1.numVisits = s.numVisits + 1) := by
  have h1 : legal s a → (step c D s a).1 = visitL2 c s a := fun hl => by
    rw [step_of_legal c D s a hf hl]
  have h2 := fun hl => step_illegal c D s a hf ha hl
  exact ⟨h1, fun hl => ⟨(h2 hl).2, by rw [step_type, (h2 hl).1]; simp⟩,
    (Jx.reacted (fun hl => congrArg State.numVisits (h1 hl)) (fun hl => congrArg State.numVisits (h2 hl).2)
      (by show s.numVisits + 1 ≠ s.numVisits; omega)).1.symm⟩

theorem step_complete_is_solution (c : Cfg) (D : Dist) (s : State) (a : Nat) (hm : 0 ≤ c.maxCap)
    (hf : Feasible c.maxCap s) (hl : legal s a) (hlast : (step c D s a).2.stepType = .last) :
    IsSolution c.maxCap (step c D s a).1 :=
  complete_is_solution c.maxCap _ (step_feasible c D s a hm hf hl)
    ((step_legal_last_iff c D s a hf hl).mp hlast)

theorem episode_complete_is_solution (c : Cfg) (D : Dist) (hm : 0 ≤ c.maxCap) (s : State) (as : List Nat)
    (hf : Feasible c.maxCap s) (hep : LegalEpisode c D s as) : IsSolution c.maxCap (endState c D s as) := by
  induction as generalizing s with
  | nil => exact absurd hep (by simp [LegalEpisode])
  | cons a as ih =>
    obtain ⟨hl, hrest⟩ := hep
    unfold endState
    by_cases hlast : (step c D s a).2.stepType = .last
    · rw [if_pos hlast]; exact step_complete_is_solution c D s a hm hf hl hlast
    · rw [if_neg hlast]
      rw [if_neg hlast] at hrest
      exact ih _ (step_feasible c D s a hm hf hl) hrest

def HInv (c : Cfg) (n : Nat) (s : State) : Prop := Feasible c.maxCap s ∧ s.visited.length = n + 1

/-- `Ep.Bounded.rollout_ends` bounds an episode by `pot + 1` steps: `2·n` from the reset state, where `numVisits = 1` -/
def pot (n : Nat) (s : State) : Nat := 2 * n - s.numVisits

theorem bounded (c : Cfg) (D : Dist) (hm : 0 ≤ c.maxCap) (n : Nat) :
    Ep.Bounded (Ep.ofStep (step c D) (fun s => (s.numVisits : Int))) (HInv c n) (fun a => a ≤ n) (pot n) :=
  Ep.Bounded.of_step
    (fun s a hi ha => ⟨step_feasible_any c D s a hm hi.1 (by rw [hi.2]; omega),
      by rw [(step_lengths c D s a).2.1]; exact hi.2⟩)
    (fun s a hi ha hnl => by
      have hp := progress c D s a hm hi.1 (by rw [hi.2]; omega) hnl
      have hn : numNodes s = n := by unfold numNodes; rw [hi.2]; omega
      rw [hn] at hp
      unfold pot
      omega)

end CVRP
