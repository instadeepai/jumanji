/-
CVRP: proved value bounds of the observation (property C01).

`obsBounds n` (`n` = num_nodes; keys = leaf paths of `CVRP.observation_spec`) = the interval in which
every leaf of the model's observation provably stays.  All seven leaves are covered; `trajectory` is
proved tighter ([0, n]) than declared ([0, n+1]).
`ObsInv c n` — coordinates in the unit square, every demand in [0, max_capacity], the capacity in
[0, max_capacity], position and trajectory entries ≤ n — is the invariant: established by `reset`
for every draw of the generator when `max_demand ≤ max_capacity` (the constructor's check), preserved
by every `step` with an action of the action spec (`a ≤ n`), valid or not.
-/
import JumanjiModel.Env.CVRP.Lemmas
import JumanjiModel.Core.ObsBoundsCO
import JumanjiModel.Prim.FloatLemmas
namespace CVRP
open Jm Jm.OB

def obsBounds (n : Nat) : Table :=
  [("coordinates", some 0, some 1), ("demands", some 0, some 1), ("unvisited_nodes", some 0, some 1),
   ("position", some ((0 : Int) : Rat), some (((n : Nat) : Int) : Rat)),
   ("trajectory", some ((0 : Int) : Rat), some (((n : Nat) : Int) : Rat)),
   ("capacity", some 0, some 1), ("action_mask", some 0, some 1)]

def obsLeaves (o : Obs) : Leaves :=
  [("coordinates", o.coords.flatten), ("demands", o.demands), ("unvisited_nodes", o.unvisited.map b2r),
   ("position", [(((o.position : Nat) : Int) : Rat)]),
   ("trajectory", o.trajectory.map (fun (v : Nat) => (((v : Nat) : Int) : Rat))),
   ("capacity", [o.capacity]), ("action_mask", o.mask.map b2r)]

def ObsInv (c : Cfg) (n : Nat) (s : State) : Prop :=
  (∀ p ∈ s.coords, ∀ x ∈ p, 0 ≤ x ∧ x ≤ 1) ∧ (∀ d ∈ s.demands, 0 ≤ d ∧ d ≤ c.maxCap) ∧
  (0 ≤ s.capacity ∧ s.capacity ≤ c.maxCap) ∧ s.position ≤ n ∧ (∀ v ∈ s.trajectory, v ≤ n)

instance (c : Cfg) (n : Nat) (s : State) : Decidable (ObsInv c n s) := by unfold ObsInv; infer_instance

/-- `demands / max_capacity`, as the observation shows them -/
theorem obs_demands_unit (c : Cfg) (s : State) (hde : ∀ d ∈ s.demands, 0 ≤ d ∧ d ≤ c.maxCap) :
    ∀ x ∈ (stateToObs c s).demands, 0 ≤ x ∧ x ≤ 1 :=
  List.forall_mem_map.2 fun d hd => Jx.div_mem_unit (hde d hd).1 (hde d hd).2

theorem stateToObs_in_bounds (c : Cfg) (n : Nat) (s : State) (h : ObsInv c n s) :
    InBounds (obsBounds n) (obsLeaves (stateToObs c s)) := by
  obtain ⟨hco, hde, hca, hpo, htr⟩ := h
  refine inBounds_cons rfl ?_ <| inBounds_cons rfl ?_ <|
    inBounds_cons rfl (bools_in01 _) <| inBounds_cons rfl ?_ <|
    inBounds_cons rfl ?_ <| inBounds_cons rfl ?_ <|
    inBounds_cons rfl (bools_in01 _) <| inBounds_nil _
  · exact Jx.forall_mem_flatten (fun p hp x hx => hco p hp x hx)
  · exact obs_demands_unit c s hde
  · intro v hv
    rcases List.mem_singleton.mp hv with rfl
    exact int_iv (Int.natCast_nonneg _) (Int.ofNat_le.2 hpo)
  · intro v hv
    rcases List.mem_map.mp hv with ⟨t, ht, rfl⟩
    exact int_iv (Int.natCast_nonneg _) (Int.ofNat_le.2 (htr t ht))
  · intro v hv
    rcases List.mem_singleton.mp hv with rfl
    exact Jx.div_mem_unit hca.1 hca.2

theorem reset_obsInv (c : Cfg) (n : Nat) (maxDemand : Int) (cd : List (List Rat)) (dd : List Int)
    (hd : validDraw n maxDemand cd dd) (hm : maxDemand ≤ c.maxCap) : ObsInv c n (reset c n cd dd).1 := by
  obtain ⟨hcl, hdl, hcb, hdr⟩ := hd
  have hpos := one_le_maxDemand hdl hdr
  refine ⟨fun p hp => (hcb p hp).2, ?_, ?_, ?_, ?_⟩
  · intro d hdm
    simp only [reset, generate] at hdm
    rcases Jx.mem_setWD hdm with hdm | rfl
    · have := hdr d hdm; omega
    · omega
  · simp only [reset, generate]; omega
  · simp [reset, generate, DEPOT]
  · intro v hv
    simp only [reset, generate] at hv
    have := List.eq_of_mem_replicate hv
    simp [this, DEPOT]

theorem step_obsInv (c : Cfg) (D : Dist) (n : Nat) (s : State) (a : Nat) (ha : a ≤ n)
    (h : ObsInv c n s) : ObsInv c n (step c D s a).1 := by
  obtain ⟨hco, hde, hca, hpo, htr⟩ := h
  rw [step_fst]
  split
  · rename_i hv
    have hdem : 0 ≤ Jx.getWC s.demands 0 (a : Int) ∧ Jx.getWC s.demands 0 (a : Int) ≤ c.maxCap :=
      Jx.getWC_of_all (P := fun d => 0 ≤ d ∧ d ≤ c.maxCap) _ hde (by omega)
    have hge : s.capacity ≥ Jx.getWC s.demands 0 (a : Int) := by
      simp only [isValid, Bool.and_eq_true, decide_eq_true_eq] at hv
      exact hv.2
    refine ⟨hco, hde, ?_, ha, ?_⟩
    · simp only [update]
      split <;> omega
    · simp only [update]
      exact Jx.forall_mem_setWD _ htr ha
  · exact ⟨hco, hde, hca, hpo, htr⟩

end CVRP
