/-
CVRP: the single-step lemmas, and whole episodes as definitions (`returnOf`, `endState`, `LegalEpisode`; their two return
theorems are proved in Props/Env/CVRP.lean, `cvrp_dense_return` / `cvrp_sparse_return`).  Mask = legal actions = `step`'s own validity test (C04, C12);
`Feasible` is preserved by `_update_state` on a legal action (`update_count`, `update_feasible`: C06), which bounds the number
of visits (C11); dense rewards telescope to the route length and the sparse objective over the zero-padded trajectory is the
tour length, so both returns are minus the tour length (C08).  What `step` returns on an in-range action of a feasible state
is two equations, `step_of_illegal` and `step_of_legal`, with the reward of a legal move in the terms of the rules
(`reward_legal`); C05, the step results of C08 and `step = stepL2` (C09) are read off them.  Also the reset state of the
generator (`generate_eq`, `generate_feasible`) and the C10 range lemmas of the drawn demands.
-/
import JumanjiModel.Env.CVRP.Model
import JumanjiModel.Prim.ListLemmas
import JumanjiModel.Core.TimeStepLemmas
namespace CVRP
open Jm

/-! ### C04: mask = legal, `step`'s own test = legal -/

theorem setWD_zero {α} (xs : List α) (v : α) : Jx.setWD xs ((DEPOT : Nat) : Int) v = xs.set 0 v :=
  Jx.setWD_natCast xs 0 v

theorem maskOf_length (s : State) (hl : s.demands.length = s.visited.length) :
    (maskOf s).length = s.visited.length := by
  unfold maskOf; rw [Jx.setWD_length]; simp [hl]

theorem maskOf_getD (s : State) (a : Nat) (hl : s.demands.length = s.visited.length)
    (ha : a < s.visited.length) :
    (maskOf s).getD a false =
      if a = DEPOT then (s.position != DEPOT)
      else (!(s.visited.getD a true) && decide (s.demands.getD a 0 ≤ s.capacity)) := by
  have hd : a < s.demands.length := by omega
  unfold maskOf
  rw [setWD_zero]
  by_cases h0 : a = 0
  · subst h0
    have hm : 0 < min s.visited.length s.demands.length := by omega
    simp [DEPOT, List.getD_eq_getElem?_getD, hm]
  · have h0' : ¬ (0 = a) := fun h => h0 h.symm
    simp [DEPOT, h0, h0', List.getD_eq_getElem?_getD, List.getElem?_zipWith,
      List.getElem?_eq_getElem ha, List.getElem?_eq_getElem hd]

theorem mask_iff_legal (s : State) (a : Nat) (hl : s.demands.length = s.visited.length) :
    (maskOf s).getD a false = true ↔ legal s a := by
  by_cases ha : a < s.visited.length
  · rw [maskOf_getD s a hl ha]
    unfold legal
    by_cases h0 : a = DEPOT
    · subst h0
      simp [ha]
    · simp [h0, ha]
  · have : (maskOf s).length ≤ a := by rw [maskOf_length s hl]; omega
    unfold legal
    simp [List.getD_eq_getElem?_getD, List.getElem?_eq_none this, ha]

theorem isValid_eq (s : State) (a : Nat) (hl : s.demands.length = s.visited.length)
    (ha : a < s.visited.length) :
    isValid s a = (!(s.visited.getD a false) && decide (s.demands.getD a 0 ≤ s.capacity)) := by
  have hd : a < s.demands.length := by omega
  unfold isValid
  rw [Jx.getWC_nat _ _ ha, Jx.getWC_nat _ _ hd]

theorem isValid_iff_legal (m : Int) (s : State) (a : Nat) (hf : Feasible m s)
    (ha : a < s.visited.length) : isValid s a = true ↔ legal s a := by
  obtain ⟨hl, -, -, hd0, -, -, -, -, -, -, -, hv0, -, -, hc, -⟩ := hf
  rw [isValid_eq s a hl ha]
  unfold legal
  by_cases h0 : a = DEPOT
  · subst h0
    simp only [ha, true_and, if_true, hd0]
    have : decide ((0 : Int) ≤ s.capacity) = true := by simpa using hc
    rw [this, Bool.and_true]
    cases hv : s.visited.getD DEPOT false
    · rw [hv] at hv0; simp at hv0 ⊢; exact hv0
    · rw [hv] at hv0; simp at hv0 ⊢; exact hv0
  · simp only [ha, true_and, h0, if_false]
    rw [Jx.getD_irrel true false ha]
    simp

theorem maskOf_eq (s : State) (hl : s.demands.length = s.visited.length) :
    maskOf s = (List.range s.visited.length).map (fun a => decide (legal s a)) :=
  Jx.eq_range_map_decide (maskOf_length s hl) fun a _ => mask_iff_legal s a hl

theorem stateToObs_eq_observe (c : Cfg) (s : State) (hl : s.demands.length = s.visited.length) :
    stateToObs c s = observe c s := by
  unfold stateToObs observe
  rw [maskOf_eq s hl]

theorem step_fst (c : Cfg) (D : Dist) (s : State) (a : Nat) :
    (step c D s a).1 = if isValid s a = true then update c s a else s := rfl

theorem step_illegal (c : Cfg) (D : Dist) (s : State) (a : Nat) (hf : Feasible c.maxCap s)
    (ha : a < s.visited.length) (h : ¬ legal s a) : isValid s a = false ∧ (step c D s a).1 = s := by
  have hv : isValid s a = false := Bool.eq_false_iff.2 (mt (isValid_iff_legal c.maxCap s a hf ha).1 h)
  exact ⟨hv, by rw [step_fst, hv]; rfl⟩

theorem step_snd (c : Cfg) (D : Dist) (s : State) (a : Nat) :
    (step c D s a).2 = condLast (allVisited (step c D s a).1 || !isValid s a)
      [reward c D s (step c D s a).1 (isValid s a)] (stateToObs c (step c D s a).1) := by
  unfold step; rfl

theorem step_obs (c : Cfg) (D : Dist) (s : State) (a : Nat) :
    (step c D s a).2.obs = stateToObs c (step c D s a).1 := by
  rw [step_snd]; exact condLast_obs ..

theorem step_reward (c : Cfg) (D : Dist) (s : State) (a : Nat) :
    (step c D s a).2.reward = [reward c D s (step c D s a).1 (isValid s a)] := by
  rw [step_snd]; exact condLast_reward ..

theorem step_type (c : Cfg) (D : Dist) (s : State) (a : Nat) :
    (step c D s a).2.stepType =
      if (allVisited (step c D s a).1 || !isValid s a) = true then .last else .mid := by
  rw [step_snd]; exact condLast_stepType ..

theorem Feasible.trajectory_length {m : Int} {s : State} (hf : Feasible m s) : s.trajectory.length = 2 * numNodes s :=
  hf.2.2.1

theorem Feasible.nodup {m : Int} {s : State} (hf : Feasible m s) : ((visits s).filter (· ≠ DEPOT)).Nodup :=
  hf.2.2.2.2.2.2.2.2.2.1

theorem Feasible.loadsOK {m : Int} {s : State} (hf : Feasible m s) : loadsOK s.demands m 0 (visits s) = true :=
  hf.2.2.2.2.2.2.2.2.2.2.2.2.1

theorem Feasible.count {m : Int} {s : State} (hf : Feasible m s) :
    s.numVisits + (if s.position = DEPOT then 1 else 0) ≤ 2 * Jx.countTrue s.visited :=
  hf.2.2.2.2.2.2.2.2.2.2.2.2.2.2.2

/-! ### C05: what `step` returns on an illegal in-range action -/

theorem all_getD (xs : List Bool) (a : Nat) (h : xs.all id = true) (ha : a < xs.length) :
    xs.getD a false = true := by
  simp [List.getD_eq_getElem?_getD, List.getElem?_eq_getElem ha]
  have := (List.all_eq_true.1 h) _ (List.getElem_mem ha)
  simpa using this

theorem all_of_getD (xs : List Bool) (h : ∀ i, i < xs.length → xs.getD i false = true) : xs.all id = true := by
  rw [List.all_eq_true]
  intro b hb
  obtain ⟨i, hi, rfl⟩ := List.getElem_of_mem hb
  have := h i hi
  simpa [List.getD_eq_getElem?_getD, List.getElem?_eq_getElem hi] using this

theorem allVisited_at_depot (m : Int) (s : State) (hf : Feasible m s) (h : allVisited s = true) :
    s.position = DEPOT := by
  obtain ⟨-, h1, -, -, -, -, -, -, -, -, -, hv0, -⟩ := hf
  exact hv0.1 (all_getD _ _ h (by unfold DEPOT; omega))

theorem step_of_illegal (c : Cfg) (D : Dist) (s : State) (a : Nat) (hf : Feasible c.maxCap s)
    (hD : dist D DEPOT DEPOT = 0) (ha : a < s.visited.length) (h : ¬ legal s a) :
    step c D s a = (s, termination [penalty c s] (observe c s)) := by
  have hv := (step_illegal c D s a hf ha h).1
  -- the closing leg that `DenseReward` adds when everything is visited starts and ends at the depot
  have hr : reward c D s s false = penalty c s := by
    unfold reward denseReward sparseReward
    cases c.dense
    · simp
    · by_cases hav : allVisited s = true
      · simp [hav, allVisited_at_depot c.maxCap s hf hav, hD, Rat.sub_eq_add_neg, Rat.add_zero]
      · simp [hav]
  unfold step
  simp only [hv, Bool.false_eq_true, if_false, Bool.not_false, Bool.or_true, condLast_true, hr,
    stateToObs_eq_observe c s hf.1]

theorem penalty_eq (c : Cfg) (s : State) (ht : s.trajectory.length = 2 * numNodes s) :
    penalty c s = -((2 * numNodes s : Nat) : Rat) * c.sqrt2 := by
  unfold penalty; rw [ht]

/-! ### C12: array lengths are kept, the observation is `observe` of the successor -/

theorem update_lengths (c : Cfg) (s : State) (a : Nat) :
    (update c s a).demands = s.demands ∧ (update c s a).visited.length = s.visited.length ∧
    (update c s a).trajectory.length = s.trajectory.length ∧ (update c s a).coords = s.coords := by
  unfold update; simp [Jx.setWD_length]

theorem step_lengths (c : Cfg) (D : Dist) (s : State) (a : Nat) :
    (step c D s a).1.demands = s.demands ∧ (step c D s a).1.visited.length = s.visited.length ∧
    (step c D s a).1.trajectory.length = s.trajectory.length ∧ (step c D s a).1.coords = s.coords := by
  rw [step_fst]
  split
  · exact update_lengths c s a
  · exact ⟨rfl, rfl, rfl, rfl⟩

theorem obs_faithful (c : Cfg) (D : Dist) (s : State) (a : Nat)
    (hl : s.demands.length = s.visited.length) :
    (step c D s a).2.obs = observe c (step c D s a).1 := by
  rw [step_obs]
  apply stateToObs_eq_observe
  obtain ⟨h1, h2, _, _⟩ := step_lengths c D s a
  rw [h1, h2, hl]

theorem reset_obs_faithful (c : Cfg) (n : Nat) (cd : List (List Rat)) (dd : List Int)
    (hd : dd.length = n + 1) :
    (reset c n cd dd).2.obs = observe c (reset c n cd dd).1 ∧
    (reset c n cd dd).2.stepType = .first := by
  unfold reset restart
  refine ⟨?_, rfl⟩
  apply stateToObs_eq_observe
  unfold generate
  simp [Jx.setWD_length, hd]

/-! ### C06: the invariant -/

theorem finalLoad_append (dem : List Int) (load : Int) (vs : List Nat) (a : Nat) :
    finalLoad dem load (vs ++ [a]) =
      (if a = DEPOT then 0 else finalLoad dem load vs + dem.getD a 0) := by
  induction vs generalizing load with
  | nil => simp [finalLoad]
  | cons v vs ih => simp [finalLoad, ih]

theorem loadsOK_append (dem : List Int) (cap load : Int) (vs : List Nat) (a : Nat) :
    loadsOK dem cap load (vs ++ [a]) =
      (loadsOK dem cap load vs && decide (finalLoad dem load (vs ++ [a]) ≤ cap)) := by
  induction vs generalizing load with
  | nil => simp [loadsOK, finalLoad]
  | cons v vs ih => simp [loadsOK, finalLoad, ih, Bool.and_assoc]

theorem update_eq (c : Cfg) (s : State) (a : Nat) (hl : s.demands.length = s.visited.length)
    (ha : a < s.visited.length) :
    update c s a =
      { s with position := a
               capacity := if a = DEPOT then c.maxCap else s.capacity - s.demands.getD a 0
               visited := (s.visited.set 0 false).set a true
               trajectory := if s.numVisits < s.trajectory.length then s.trajectory.set s.numVisits a
                             else s.trajectory
               numVisits := s.numVisits + 1 } := by
  have hd : a < s.demands.length := by omega
  unfold update
  simp only []
  rw [setWD_zero, Jx.getWC_nat _ _ hd, Jx.setWD_natCast]
  by_cases hk : s.numVisits < s.trajectory.length
  · rw [Jx.setWD_natCast]; simp [hk]
  · rw [Jx.setWD_ge _ _ (by omega)]; simp [hk]

/-- a trajectory write past the end is dropped by the scatter of `_update_state` and by `List.set` alike -/
theorem update_eq_visitL2 (c : Cfg) (s : State) (a : Nat) (hl : s.demands.length = s.visited.length)
    (ha : a < s.visited.length) : update c s a = visitL2 c s a := by
  rw [update_eq c s a hl ha]
  unfold visitL2
  by_cases hk : s.numVisits < s.trajectory.length
  · simp [hk, DEPOT]
  · simp [hk, DEPOT, List.set_eq_of_length_le (Nat.le_of_not_lt hk)]

/-- reading the slot just written gives the written value — also when the write fell off the end, if the node is the
depot: the read then gives the default 0 -/
theorem getD_set_slot (xs : List Nat) (k a : Nat) (hk : k < xs.length ∨ a = 0) : (xs.set k a).getD k 0 = a := by
  rcases hk with h | rfl
  · exact Jx.getD_set_self _ _ h
  · by_cases h : k < xs.length <;> simp [List.getD_eq_getElem?_getD, h]

theorem visits_visitL2 (c : Cfg) (s : State) (a : Nat) (hk : s.numVisits < s.trajectory.length ∨ a = 0) :
    visits (visitL2 c s a) = visits s ++ [a] := by
  unfold visits visitL2
  simp only [DEPOT]
  rw [List.range_succ, List.map_append, List.map_singleton, getD_set_slot _ _ _ hk]
  congr 1
  exact List.map_congr_left fun i hi => Jx.getD_set_ne _ _ _ (by have := List.mem_range.1 hi; omega)

/-- counting form of "the depot is never visited twice in a row" after a legal visit; in particular the
trajectory write of a customer lands inside the array -/
theorem update_count (m : Int) (s : State) (a : Nat) (hf : Feasible m s) (hleg : legal s a) :
    (s.numVisits < s.trajectory.length ∨ a = 0) ∧
      s.numVisits + 1 + (if a = 0 then 1 else 0) ≤
        2 * Jx.countTrue ((s.visited.set 0 false).set a true) := by
  obtain ⟨-, hL, hT, -, -, -, -, -, -, -, -, hv0, -, -, -, hcnt⟩ := hf
  obtain ⟨ha, hrule⟩ := hleg
  have hv0 : s.visited.getD 0 false = true ↔ s.position = DEPOT := hv0
  have e1 := Jx.countTrue_set (l := s.visited) (i := 0) false false hL
  -- once the depot bit is cleared bit `a` is clear too: it is the depot bit, or `a` is an unvisited customer
  have e2 : Jx.countTrue ((s.visited.set 0 false).set a true) = Jx.countTrue (s.visited.set 0 false) + 1 := by
    refine Jx.countTrue_set_true (d := true) (by simpa using ha) ?_
    by_cases h0 : a = 0
    · subst h0; exact Jx.getD_set_self _ _ hL
    · simp only [DEPOT, h0, if_false] at hrule
      rw [Jx.getD_set_ne _ _ _ (Ne.symm h0)]; exact hrule.1
  -- the depot bit of `visited` says whether the vehicle stands at the depot
  have hcnt' : s.numVisits + (if s.visited.getD 0 false = true then 1 else 0) ≤ 2 * Jx.countTrue s.visited := by
    by_cases hp : s.position = DEPOT
    · rw [if_pos hp] at hcnt; rw [if_pos (hv0.2 hp)]; exact hcnt
    · rw [if_neg hp] at hcnt; rw [if_neg (mt hv0.1 hp)]; exact hcnt
  have hd : (if s.visited.getD 0 false = true then 1 else 0) ≤ 1 := by split <;> omega
  clear hcnt
  unfold numNodes at hT
  simp only [if_false, Bool.false_eq_true] at e1
  by_cases h0 : a = 0
  · subst h0
    rw [if_neg (mt hv0.1 (by simpa [DEPOT] using hrule))] at e1 hcnt'
    exact ⟨Or.inr rfl, by simp only [if_true]; omega⟩
  · have hlt := Jx.countTrue_lt (l := (s.visited.set 0 false).set a true) (i := 0) (d := true)
      (by rw [List.length_set, List.length_set]; exact hL)
      (by rw [Jx.getD_set_ne _ _ _ h0, Jx.getD_set_self _ _ hL])
    simp only [List.length_set, h0, if_false] at hlt ⊢
    exact ⟨Or.inl (by omega), by omega⟩

theorem visits_update_legal (c : Cfg) (s : State) (a : Nat) (hf : Feasible c.maxCap s)
    (hleg : legal s a) : visits (update c s a) = visits s ++ [a] := by
  rw [update_eq_visitL2 c s a hf.1 hleg.1]
  exact visits_visitL2 c s a (update_count c.maxCap s a hf hleg).1

theorem visited_visit_customer (v : List Bool) (a x : Nat) (hx0 : 0 < x) (hx : x < v.length) :
    ((v.set 0 false).set a true).getD x false = (v.getD x false || x == a) := by
  by_cases hxa : x = a
  · subst hxa; rw [Jx.getD_set_self _ _ (by simpa using hx)]; simp
  · rw [Jx.getD_set_ne _ _ _ (Ne.symm hxa), Jx.getD_set_ne _ _ _ (by omega)]; simp [hxa]

theorem visited_visit_depot (v : List Bool) (a : Nat) (hL : 1 ≤ v.length) :
    ((v.set 0 false).set a true).getD 0 false = decide (a = 0) := by
  by_cases h0 : a = 0
  · subst h0; rw [Jx.getD_set_self _ _ (by rw [List.length_set]; exact hL)]; simp
  · rw [Jx.getD_set_ne _ _ _ h0, Jx.getD_set_self _ _ hL]; simp [h0]

theorem load_visit {maxCap cap load d : Int} {a : Nat} (hm : 0 ≤ maxCap) (hcap : cap = maxCap - load)
    (hd : a ≠ DEPOT → d ≤ cap) :
    (if a = DEPOT then 0 else load + d) ≤ maxCap ∧
    (if a = DEPOT then maxCap else cap - d) = maxCap - (if a = DEPOT then 0 else load + d) ∧
    0 ≤ (if a = DEPOT then maxCap else cap - d) := by
  by_cases h0 : a = DEPOT
  · simp only [h0, if_true]; omega
  · have := hd h0
    simp only [h0, if_false]; omega

theorem update_feasible (c : Cfg) (s : State) (a : Nat) (hm : 0 ≤ c.maxCap)
    (hf : Feasible c.maxCap s) (hleg : legal s a) : Feasible c.maxCap (update c s a) := by
  obtain ⟨hrange, hcnt'⟩ := update_count c.maxCap s a hf hleg
  have pVis := visits_update_legal c s a hf hleg
  obtain ⟨hl, hL, hT, hd0, hk1, ht0, hvr, hslots, hpos, hnd, hvis, hv0, hok, hcap, -, -⟩ := hf
  obtain ⟨ha, hrule⟩ := hleg
  have hnew : a ≠ 0 → a ∉ visits s ∧ s.demands.getD a 0 ≤ s.capacity := by
    intro h0
    simp only [DEPOT, h0, if_false] at hrule
    refine ⟨fun hmem => ?_, hrule.2⟩
    have := (hvis a ha (by omega)).2 hmem
    rw [Jx.getD_irrel false true ha, hrule.1] at this
    exact absurd this (by decide)
  have hload := load_visit (a := a) hm hcap fun h0 => (hnew h0).2
  unfold Feasible numNodes
  rw [pVis, update_eq_visitL2 c s a hl ha]
  unfold numNodes at hT
  unfold visitL2
  simp only [DEPOT, List.length_set] at *
  refine ⟨hl, hL, hT, hd0, by omega, ?_, ?_, ?_, ?_, ?_, ?_, ?_, ?_, ?_, ?_, hcnt'⟩
  · -- the trajectory starts at the depot
    rw [Jx.getD_set_ne _ _ _ (by omega)]; exact ht0
  · -- the visits are node indices
    intro v hv
    rcases List.mem_append.1 hv with h | h
    · exact hvr v h
    · rw [List.mem_singleton.1 h]; exact ha
  · -- unfilled slots read as the depot
    intro i hi hki
    rw [Jx.getD_set_ne _ _ _ (by omega)]
    exact hslots i hi (by omega)
  · -- the vehicle stands at the last visit
    rw [Nat.add_sub_cancel, getD_set_slot _ _ _ hrange]
  · -- no customer twice
    rw [List.filter_append]
    by_cases h0 : a = 0
    · simpa [h0] using hnd
    · simp [h0, List.nodup_append, hnd]
      intro x hx _ hxa
      exact (hnew h0).1 (hxa ▸ hx)
  · -- `visited` = the customers on the trajectory
    intro c1 hc1 hpos1
    rw [visited_visit_customer _ _ _ hpos1 hc1, Bool.or_eq_true, beq_iff_eq, hvis c1 hc1 hpos1, List.mem_append,
      List.mem_singleton]
  · -- the depot bit says whether the vehicle is at the depot
    rw [visited_visit_depot _ _ hL, decide_eq_true_eq]
  · -- every load within the capacity
    rw [loadsOK_append, hok, finalLoad_append, Bool.true_and, decide_eq_true_eq]
    exact hload.1
  · -- `capacity` = what is left on the current route
    rw [finalLoad_append]
    exact hload.2.1
  · -- `capacity` is not negative
    exact hload.2.2

theorem visitL2_feasible (c : Cfg) (s : State) (a : Nat) (hm : 0 ≤ c.maxCap) (hf : Feasible c.maxCap s)
    (hl : legal s a) : Feasible c.maxCap (visitL2 c s a) :=
  update_eq_visitL2 c s a hf.1 hl.1 ▸ update_feasible c s a hm hf hl

theorem step_of_legal (c : Cfg) (D : Dist) (s : State) (a : Nat) (hf : Feasible c.maxCap s) (hl : legal s a) :
    step c D s a = (visitL2 c s a, condLast (allVisited (visitL2 c s a)) [reward c D s (visitL2 c s a) true]
      (observe c (visitL2 c s a))) := by
  have hv := (isValid_iff_legal c.maxCap s a hf hl.1).2 hl
  have ho : stateToObs c (visitL2 c s a) = observe c (visitL2 c s a) :=
    stateToObs_eq_observe c _ (by simp [visitL2, hf.1])
  unfold step
  simp only [hv, if_true, update_eq_visitL2 c s a hf.1 hl.1, Bool.not_true, Bool.or_false, ho]

theorem step_feasible (c : Cfg) (D : Dist) (s : State) (a : Nat) (hm : 0 ≤ c.maxCap)
    (hf : Feasible c.maxCap s) (hleg : legal s a) : Feasible c.maxCap (step c D s a).1 := by
  rw [step_of_legal c D s a hf hleg]; exact visitL2_feasible c s a hm hf hleg

theorem step_feasible_any (c : Cfg) (D : Dist) (s : State) (a : Nat) (hm : 0 ≤ c.maxCap)
    (hf : Feasible c.maxCap s) (ha : a < s.visited.length) : Feasible c.maxCap (step c D s a).1 := by
  by_cases hleg : legal s a
  · exact step_feasible c D s a hm hf hleg
  · rw [(step_illegal c D s a hf ha hleg).2]; exact hf

theorem generate_eq (n : Nat) (maxCap : Int) (cd : List (List Rat)) (dd : List Int) :
    generate n maxCap cd dd =
      { coords := cd, demands := dd.set 0 0, position := 0, capacity := maxCap,
        visited := true :: List.replicate n false, trajectory := List.replicate (2 * n) 0,
        numVisits := 1 : State } := by
  unfold generate
  rw [setWD_zero, setWD_zero]
  simp [DEPOT, List.replicate_succ]

theorem visits_generate (n : Nat) (maxCap : Int) (cd : List (List Rat)) (dd : List Int) :
    visits (generate n maxCap cd dd) = [0] := by
  rw [generate_eq]
  unfold visits
  cases n <;> simp [DEPOT, List.range_succ]

theorem generate_feasible (n : Nat) (maxCap : Int) (cd : List (List Rat)) (dd : List Int)
    (hm : 0 ≤ maxCap) (hd : dd.length = n + 1) : Feasible maxCap (generate n maxCap cd dd) := by
  unfold Feasible numNodes
  rw [visits_generate, generate_eq]
  simp only [DEPOT]
  refine ⟨by simp [hd], by simp, by simp, ?_, by simp, ?_, by simp, ?_, ?_, by simp, ?_, ?_, ?_, ?_, hm, ?_⟩
  · rw [Jx.getD_set_self _ _ (by omega)]
  · cases n <;> simp
  · intro i hi _
    simp at hi
    simp [List.getD_eq_getElem?_getD, hi]
  · cases n <;> simp
  · intro c hc hc0
    simp at hc
    cases c with
    | zero => omega
    | succ c =>
      have hc' : c < n := by omega
      simp [List.getD_eq_getElem?_getD, hc']
  · simp
  · simp [loadsOK, DEPOT, hm]
  · simp [finalLoad, DEPOT]
  · simp [Jx.countTrue]

theorem complete_is_solution (m : Int) (s : State) (hf : Feasible m s) (h : allVisited s = true) :
    IsSolution m s := by
  refine ⟨hf, ?_, allVisited_at_depot m s hf h⟩
  obtain ⟨-, -, -, -, -, -, -, -, -, -, hvis, -⟩ := hf
  intro c hc hc0
  exact (hvis c hc hc0).1 (all_getD _ _ h hc)

/-! ### C11: progress of a step that is not LAST, the bound on `numVisits` -/

theorem step_not_last (c : Cfg) (D : Dist) (s : State) (a : Nat)
    (h : (step c D s a).2.stepType ≠ .last) :
    isValid s a = true ∧ (step c D s a).1 = update c s a ∧ allVisited (update c s a) = false := by
  rw [step_type] at h
  obtain ⟨hall, hv⟩ : allVisited (step c D s a).1 = false ∧ isValid s a = true := by simpa using h
  have hs : (step c D s a).1 = update c s a := by rw [step_fst, if_pos hv]
  exact ⟨hv, hs, hs ▸ hall⟩

theorem progress (c : Cfg) (D : Dist) (s : State) (a : Nat) (hm : 0 ≤ c.maxCap)
    (hf : Feasible c.maxCap s) (ha : a < s.visited.length)
    (h : (step c D s a).2.stepType ≠ .last) :
    (step c D s a).1.numVisits = s.numVisits + 1 ∧ (step c D s a).1.numVisits ≤ 2 * numNodes s := by
  obtain ⟨hv, hs, hnall⟩ := step_not_last c D s a h
  have hleg := (isValid_iff_legal c.maxCap s a hf ha).1 hv
  have hf' := update_feasible c s a hm hf hleg
  rw [hs]
  refine ⟨by unfold update; rfl, ?_⟩
  have hcnt := Nat.le_trans (Nat.le_add_right _ _) hf'.count
  have hlt := Nat.lt_of_le_of_ne (Jx.countTrue_le _) fun e => by
    rw [allVisited, Jx.countTrue_eq_length.1 e] at hnall; cases hnall
  rw [(update_lengths c s a).2.1] at hlt
  unfold numNodes
  omega

/-- `numVisits` counts the start at the depot: at most `2·num_nodes` steps have been taken -/
theorem visits_bound (m : Int) (s : State) (hf : Feasible m s) : s.numVisits ≤ 2 * numNodes s + 1 := by
  obtain ⟨-, hL, -, -, -, -, -, -, -, -, -, hv0, -, -, -, hcnt⟩ := hf
  have := Jx.countTrue_le s.visited
  unfold numNodes
  split at hcnt
  · omega
  · rename_i hp
    have hvf : s.visited.getD DEPOT true = false := by
      rw [Jx.getD_irrel true false (by unfold DEPOT; omega)]
      cases h : s.visited.getD DEPOT false
      · rfl
      · exact absurd (hv0.1 h) hp
    have := Jx.countTrue_lt (i := DEPOT) (by unfold DEPOT; omega) hvf
    omega

/-! ### C08: dense rewards telescope, the sparse reward is minus the tour length -/

theorem pathLen_snoc (D : Dist) (vs : List Nat) (u a : Nat) :
    pathLen D ((vs ++ [u]) ++ [a]) = pathLen D (vs ++ [u]) + dist D u a := by
  induction vs with
  | nil => simp [pathLen, Rat.add_zero, Rat.zero_add]
  | cons v vs ih =>
    cases vs with
    | nil => simp [pathLen, Rat.add_zero]
    | cons w ws =>
      simp only [List.cons_append, pathLen] at ih ⊢
      rw [ih, Rat.add_assoc]

theorem visits_last (m : Int) (s : State) (hf : Feasible m s) :
    ∃ pre, visits s = pre ++ [s.position] := by
  obtain ⟨-, -, -, -, hk1, -, -, -, hpos, -⟩ := hf
  refine ⟨(List.range (s.numVisits - 1)).map (fun i => s.trajectory.getD i DEPOT), ?_⟩
  unfold visits
  have : s.numVisits = (s.numVisits - 1) + 1 := by omega
  rw [this, List.range_succ, List.map_append, hpos]
  simp

/-- at the end of an episode the route through the visits is already closed -/
theorem tourLength_final (m : Int) (D : Dist) (s : State) (hD : dist D DEPOT DEPOT = 0)
    (hf : Feasible m s) (h : allVisited s = true) : tourLength D s = pathLen D (visits s) := by
  obtain ⟨pre, hpre⟩ := visits_last m s hf
  unfold tourLength
  rw [hpre, pathLen_snoc, allVisited_at_depot m s hf h, hD, Rat.add_zero]

theorem zipsum_eq_pathLen (D : Dist) (t : Nat) (ts : List Nat) (x : Nat) :
    (List.zipWith (dist D) (t :: ts) (ts ++ [x])).sum = pathLen D (t :: ts ++ [x]) := by
  induction ts generalizing t with
  | nil => simp [pathLen]
  | cons u us ih =>
    have := ih u
    simp only [List.cons_append, List.zipWith_cons_cons, List.sum_cons, pathLen] at this ⊢
    rw [this]

theorem computeTourLength_eq_pathLen (D : Dist) (traj : List Nat) :
    computeTourLength D traj = pathLen D (traj ++ [traj.getD 0 0]) := by
  cases traj with
  | nil => simp [computeTourLength, pathLen]
  | cons t ts =>
    unfold computeTourLength
    simp only [List.drop_one, List.tail_cons, List.take_succ_cons, List.take_zero]
    rw [zipsum_eq_pathLen]
    simp

theorem pathLen_pad (D : Dist) (hD : dist D 0 0 = 0) (xs : List Nat) (j : Nat) :
    pathLen D (xs ++ [0] ++ List.replicate j 0) = pathLen D (xs ++ [0]) := by
  induction j generalizing xs with
  | zero => simp
  | succ j ih => rw [List.replicate_succ, List.append_cons, ih (xs ++ [0]), pathLen_snoc, hD, Rat.add_zero]

theorem getD_append_replicate {α} (xs : List α) (k i : Nat) (d : α) :
    (xs ++ List.replicate k d).getD i d = xs.getD i d := by
  simp only [List.getD_eq_getElem?_getD]
  by_cases h : i < xs.length
  · rw [List.getElem?_append_left h]
  · rw [List.getElem?_append_right (Nat.le_of_not_lt h), List.getElem?_eq_none (Nat.le_of_not_lt h),
      List.getElem?_replicate]
    split <;> rfl

theorem traj_pad (m : Int) (s : State) (hf : Feasible m s) :
    visits s ++ List.replicate (s.trajectory.length + 1 - s.numVisits) 0 = s.trajectory ++ [0] := by
  have hb := visits_bound m s hf
  obtain ⟨-, -, hT, -, -, -, -, hslots, -⟩ := hf
  rw [← hT] at hb
  apply Jx.ext_getD 0
  · simp only [visits, List.length_append, List.length_map, List.length_range, List.length_replicate,
      List.length_singleton]
    omega
  · intro i _
    rw [getD_append_replicate]
    show _ = (s.trajectory ++ List.replicate 1 0).getD i 0
    rw [getD_append_replicate]
    unfold visits
    by_cases hik : i < s.numVisits
    · simp [List.getD_eq_getElem?_getD, hik, DEPOT]
    · rw [List.getD_eq_getElem?_getD, List.getElem?_eq_none (by simpa using hik)]
      by_cases hiT : i < s.trajectory.length
      · exact (hslots i hiT (by omega)).symm
      · rw [List.getD_eq_getElem?_getD, List.getElem?_eq_none (by omega)]

/-- `compute_tour_length` sums cyclically over the whole trajectory array; its padding stands at the depot and adds nothing -/
theorem computeTourLength_eq (m : Int) (D : Dist) (s : State) (hD : dist D DEPOT DEPOT = 0)
    (hf : Feasible m s) : computeTourLength D s.trajectory = tourLength D s := by
  have hpad := traj_pad m s hf
  have ht0 : s.trajectory.getD 0 0 = 0 := hf.2.2.2.2.2.1
  simp only [DEPOT] at hD
  rw [computeTourLength_eq_pathLen, ht0, ← hpad]
  unfold tourLength
  simp only [DEPOT]
  cases hj : s.trajectory.length + 1 - s.numVisits with
  | zero =>
    rw [hj] at hpad
    simp only [List.replicate_zero, List.append_nil] at hpad ⊢
    rw [hpad]
    have := pathLen_pad D hD s.trajectory 1
    simpa using this.symm
  | succ j =>
    rw [List.replicate_succ]
    have := pathLen_pad D hD (visits s) j
    simpa using this

/-- what both reward functions pay for a legal move, in the terms of the rules: the closing leg of `DenseReward` is
`d(depot, depot)`, the cyclic sum of `SparseReward` over the padded trajectory is the tour through the visits -/
theorem reward_legal (c : Cfg) (D : Dist) (s : State) (a : Nat) (hm : 0 ≤ c.maxCap) (hD : dist D DEPOT DEPOT = 0)
    (hf : Feasible c.maxCap s) (hl : legal s a) :
    reward c D s (visitL2 c s a) true =
      if c.dense then -(dist D s.position a)
      else if allVisited (visitL2 c s a) then -(tourLength D (visitL2 c s a)) else 0 := by
  have hf' := visitL2_feasible c s a hm hf hl
  have hpos : (visitL2 c s a).position = a := rfl
  unfold reward denseReward sparseReward
  cases c.dense
  · simp [computeTourLength_eq c.maxCap D _ hD hf']
  · by_cases hall : allVisited (visitL2 c s a) = true
    · have ha0 : a = DEPOT := hpos ▸ allVisited_at_depot c.maxCap _ hf' hall
      simp only [if_true, hall, hpos]
      rw [ha0, hD, Rat.sub_eq_add_neg, Rat.neg_zero, Rat.add_zero]
    · simp [hall, hpos]

theorem dense_telescopes (c : Cfg) (D : Dist) (s : State) (a : Nat) (hm : 0 ≤ c.maxCap)
    (hdense : c.dense = true) (hD : dist D DEPOT DEPOT = 0)
    (hf : Feasible c.maxCap s) (hleg : legal s a) :
    pathLen D (visits (step c D s a).1) = pathLen D (visits s) - (step c D s a).2.reward.sum := by
  obtain ⟨pre, hpre⟩ := visits_last c.maxCap s hf
  rw [step_of_legal c D s a hf hleg, condLast_reward, reward_legal c D s a hm hD hf hleg, if_pos hdense,
    visits_visitL2 c s a (update_count c.maxCap s a hf hleg).1, hpre, pathLen_snoc]
  simp [Rat.sub_eq_add_neg, Rat.neg_neg, Rat.add_zero]

theorem sparse_reward_objective (c : Cfg) (D : Dist) (s : State) (a : Nat) (hm : 0 ≤ c.maxCap)
    (hsparse : c.dense = false) (hD : dist D DEPOT DEPOT = 0) (hf : Feasible c.maxCap s)
    (hleg : legal s a) :
    (step c D s a).2.reward =
      [if (step c D s a).2.stepType = .last then -(tourLength D (step c D s a).1) else 0] := by
  rw [step_of_legal c D s a hf hleg, condLast_reward, reward_legal c D s a hm hD hf hleg, hsparse]
  simp only [Bool.false_eq_true, if_false, condLast_last_iff]

/-! ### C09: the L1 step does what the rules say -/

theorem step_legal_spec (c : Cfg) (D : Dist) (s : State) (a : Nat) (hf : Feasible c.maxCap s)
    (hleg : legal s a) :
    let s' := (step c D s a).1
    s'.position = a ∧ visits s' = visits s ++ [a] ∧
    s'.capacity = (if a = DEPOT then c.maxCap else s.capacity - s.demands.getD a 0) ∧
    (∀ x, 0 < x → x < s.visited.length → s'.visited.getD x false = (s.visited.getD x false || x == a)) ∧
    s'.demands = s.demands ∧ s'.coords = s.coords ∧
    ((step c D s a).2.stepType = .last ↔ allVisited s' = true) ∧
    ((step c D s a).2.stepType = .last ∨ (step c D s a).2.stepType = .mid) := by
  rw [step_of_legal c D s a hf hleg]
  exact ⟨rfl, visits_visitL2 c s a (update_count c.maxCap s a hf hleg).1, rfl,
    fun x hx0 hx => visited_visit_customer _ _ _ hx0 hx, rfl, rfl, condLast_last_iff .., (condLast_mid_or_last ..).symm⟩

theorem step_legal_last_iff (c : Cfg) (D : Dist) (s : State) (a : Nat) (hf : Feasible c.maxCap s) (hleg : legal s a) :
    (step c D s a).2.stepType = .last ↔ allVisited (step c D s a).1 = true :=
  (step_legal_spec c D s a hf hleg).2.2.2.2.2.2.1

/-- in a feasible state "every customer is on the route and the vehicle is at the depot" is `visited_mask.all()` -/
theorem complete_eq_allVisited (m : Int) (s : State) (hf : Feasible m s) : complete s = allVisited s := by
  have hdep := allVisited_at_depot m s hf
  obtain ⟨-, hL, -, -, -, -, -, -, -, -, hvis, hv0, -⟩ := hf
  rw [Bool.eq_iff_iff]
  simp only [complete, Bool.and_eq_true, decide_eq_true_eq, List.all_eq_true, List.mem_range, Bool.or_eq_true,
    beq_iff_eq]
  constructor
  · rintro ⟨hp, hall⟩
    refine all_of_getD _ fun i hi => ?_
    by_cases h0 : i = DEPOT
    · subst h0; exact hv0.2 hp
    · exact (hvis i hi (by unfold DEPOT at h0; omega)).2 ((hall i hi).resolve_left h0)
  · intro ha
    refine ⟨hdep ha, fun i hi => ?_⟩
    by_cases h0 : i = DEPOT
    · exact Or.inl h0
    · exact Or.inr ((hvis i hi (by unfold DEPOT at h0; omega)).1 (all_getD _ _ ha hi))

/-! ### C08, C06: whole episodes -/

/-- sum of the rewards when the actions `as` are played from `s` until the episode ends -/
def returnOf (c : Cfg) (D : Dist) : State → List Nat → Rat
  | _, [] => 0
  | s, a :: as =>
    (step c D s a).2.reward.sum +
      (if (step c D s a).2.stepType = .last then 0 else returnOf c D (step c D s a).1 as)

/-- the state in which that episode ends -/
def endState (c : Cfg) (D : Dist) : State → List Nat → State
  | s, [] => s
  | s, a :: as =>
    if (step c D s a).2.stepType = .last then (step c D s a).1 else endState c D (step c D s a).1 as

/-- `as` is a complete episode of legal actions from `s`: every action is legal where it is played
and the episode ends exactly with the last one -/
def LegalEpisode (c : Cfg) (D : Dist) : State → List Nat → Prop
  | _, [] => False
  | s, a :: as =>
    legal s a ∧
      (if (step c D s a).2.stepType = .last then as = [] else LegalEpisode c D (step c D s a).1 as)

instance decLegalEpisode (c : Cfg) (D : Dist) :
    (s : State) → (as : List Nat) → Decidable (LegalEpisode c D s as)
  | _, [] => isFalse (fun h => h)
  | s, a :: as =>
    have := decLegalEpisode c D (step c D s a).1 as
    inferInstanceAs (Decidable (legal s a ∧
      (if (step c D s a).2.stepType = .last then as = []
       else LegalEpisode c D (step c D s a).1 as)))

theorem generate_pathLen (D : Dist) (n : Nat) (maxCap : Int) (cd : List (List Rat)) (dd : List Int) :
    pathLen D (visits (generate n maxCap cd dd)) = 0 := by
  rw [visits_generate]; rfl

theorem step_reward_indep (c : Cfg) (b : Bool) (D : Dist) (s : State) (a : Nat) :
    (step { c with dense := b } D s a).1 = (step c D s a).1 ∧
    (step { c with dense := b } D s a).2.stepType = (step c D s a).2.stepType := by
  have : (step { c with dense := b } D s a).1 = (step c D s a).1 := rfl
  refine ⟨this, ?_⟩
  rw [step_type, step_type, this]

theorem endState_reward_indep (c : Cfg) (b : Bool) (D : Dist) (s : State) (as : List Nat) :
    endState { c with dense := b } D s as = endState c D s as := by
  induction as generalizing s with
  | nil => rfl
  | cons a as ih =>
    unfold endState
    rw [(step_reward_indep c b D s a).1, (step_reward_indep c b D s a).2, ih]

theorem legalEpisode_reward_indep (c : Cfg) (b : Bool) (D : Dist) (s : State) (as : List Nat) :
    LegalEpisode { c with dense := b } D s as ↔ LegalEpisode c D s as := by
  induction as generalizing s with
  | nil => simp [LegalEpisode]
  | cons a as ih =>
    unfold LegalEpisode
    rw [(step_reward_indep c b D s a).1, (step_reward_indep c b D s a).2, ih]

/-! ### C10: ranges of the drawn demands -/

theorem one_le_maxDemand {n : Nat} {m : Int} {dd : List Int} (hl : dd.length = n + 1)
    (h : ∀ d ∈ dd, 1 ≤ d ∧ d ≤ m) : 1 ≤ m := by
  cases dd with
  | nil => simp at hl
  | cons d ds => have := h d (by simp); omega

theorem mem_draw_of_mem_demands {n : Nat} {maxCap : Int} {cd : List (List Rat)} {dd : List Int} {d : Int}
    (h : d ∈ (generate n maxCap cd dd).demands.drop 1) : d ∈ dd := by
  rw [generate_eq] at h
  simp only [List.drop_set] at h
  simp at h
  exact List.mem_of_mem_tail h

end CVRP
