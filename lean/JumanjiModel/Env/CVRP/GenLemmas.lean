/-
CVRP: a state passing the generator certificate is the generator's output (`cert_eq_generate`, C10; that every valid draw
passes it is `Props.C10.cvrp_generate_cert`), the code's support of the draws inside the model's (`validUniformCode_sub`),
and plays of nodes (`playS`, `AllLegal`, `AllMasked`) with feasibility along them (C06).
-/
import JumanjiModel.Env.CVRP.Lemmas
namespace CVRP
open Jm

theorem cert_eq_generate (n : Nat) (maxCap maxDemand : Int) (s : State) (h : GenCert n maxCap maxDemand s) :
    s = generate n maxCap s.coords s.demands := by
  obtain ⟨-, hl, -, h0, -, hc, hp, hv, ht, hn⟩ := h
  rw [generate_eq]
  have hd : s.demands.set 0 0 = s.demands := by
    cases hdm : s.demands with
    | nil => simp
    | cons x xs => simp [hdm, DEPOT] at h0; simp [h0]
  cases s; simp_all [DEPOT]

/-- the state after playing the nodes `as` one after the other -/
def playS (c : Cfg) (D : Dist) : State → List Nat → State
  | s, [] => s
  | s, a :: as => playS c D (step c D s a).1 as

/-- every node of the list is legal (L2) when its turn comes -/
def AllLegal (c : Cfg) (D : Dist) : State → List Nat → Prop
  | _, [] => True
  | s, a :: as => legal s a ∧ AllLegal c D (step c D s a).1 as

/-- mask-respecting: every node has its bit set in the action mask of the observation current at its turn -/
def AllMasked (c : Cfg) (D : Dist) : State → List Nat → Prop
  | _, [] => True
  | s, a :: as => (stateToObs c s).mask.getD a false = true ∧ AllMasked c D (step c D s a).1 as

theorem allLegal_take (c : Cfg) (D : Dist) (as : List Nat) :
    ∀ s k, AllLegal c D s as → AllLegal c D s (as.take k) := by
  induction as with
  | nil => intro s k h; simpa using h
  | cons a as ih =>
    intro s k h
    cases k with
    | zero => simp [AllLegal]
    | succ k => simp only [List.take_succ_cons, AllLegal] at h ⊢; exact ⟨h.1, ih _ k h.2⟩

theorem feasible_play (c : Cfg) (D : Dist) (hm : 0 ≤ c.maxCap) (as : List Nat) :
    ∀ s, Feasible c.maxCap s → AllLegal c D s as → Feasible c.maxCap (playS c D s as) := by
  induction as with
  | nil => intro s hf _; simpa [playS] using hf
  | cons a as ih =>
    intro s hf hal
    simp only [AllLegal] at hal
    simp only [playS]
    exact ih _ (step_feasible c D s a hm hf hal.1) hal.2

theorem allMasked_allLegal (c : Cfg) (D : Dist) (hm : 0 ≤ c.maxCap) (as : List Nat) :
    ∀ s, Feasible c.maxCap s → AllMasked c D s as → AllLegal c D s as := by
  induction as with
  | nil => intro s _ _; simp [AllLegal]
  | cons a as ih =>
    intro s hf h
    simp only [AllMasked] at h
    have hl : legal s a := (mask_iff_legal s a hf.1).1 h.1
    exact ⟨hl, ih _ (step_feasible c D s a hm hf hl) h.2⟩

theorem feasible_along (c : Cfg) (D : Dist) (hm : 0 ≤ c.maxCap) (s : State) (as : List Nat)
    (hf : Feasible c.maxCap s) (hal : AllLegal c D s as) (k : Nat) :
    Feasible c.maxCap (playS c D s (as.take k)) :=
  feasible_play c D hm _ s hf (allLegal_take c D as s k hal)

theorem validUniformCode_sub (n : Nat) (m : Int) (cd : List (List Rat)) (dd : List Int) (h1 : 1 ≤ m)
    (h : validUniformCode n m cd dd) : validUniform n m cd dd := by
  obtain ⟨a, b, c, d⟩ := h
  exact ⟨a, b, c, fun x hx => ⟨(d x hx).1, by have := (d x hx).2; omega⟩⟩

end CVRP
