/-
C11 (structural horizon) at EPISODE level, environment independent: for environments WITHOUT a time limit whose
episodes end on an invalid move or by completion.  A step system (`Ep.Sys`, Core/Episode.lean) is `Bounded` by a potential
that every in-spec step not emitting LAST lowers; then the episode ends within `pot s + 1` steps whatever in-spec actions
are played (`Bounded.ends`; `Bounded.rollout_ends` states it on `Ep.firstLastTS`, what the harness measures on real rollouts).
-/
import JumanjiModel.Core.EpisodeLemmas
namespace Ep
open Jm

variable {S A O : Type}

structure Bounded (M : Sys S A) (Inv : S → Prop) (ok : A → Prop) (pot : S → Nat) : Prop where
  inv_step : ∀ s a, Inv s → ok a → Inv (M.step s a)
  pot_step : ∀ s a, Inv s → ok a → M.last s a = false → pot (M.step s a) + 1 ≤ pot s

theorem Bounded.ends {M : Sys S A} {Inv : S → Prop} {ok : A → Prop} {pot : S → Nat} (h : Bounded M Inv ok pot)
    (s : S) (hs : Inv s) (as : List A) (hok : ∀ a ∈ as, ok a) (hlen : pot s + 1 ≤ as.length) :
    ∃ k, M.firstLast s as = some k ∧ 0 < k ∧ k ≤ pot s + 1 := by
  induction as generalizing s with
  | nil => simp at hlen
  | cons a as ih =>
    unfold Sys.firstLast
    by_cases hl : M.last s a = true
    · rw [if_pos hl]; exact ⟨1, rfl, by omega, by omega⟩
    · have hl' : M.last s a = false := by simpa using hl
      rw [if_neg hl]
      have hp := h.pot_step s a hs (hok a (by simp)) hl'
      have hlen' : pot (M.step s a) + 1 ≤ as.length := by simp at hlen; omega
      obtain ⟨k, hk, h1, h2⟩ := ih (M.step s a) (h.inv_step s a hs (hok a (by simp)))
        (fun b hb => hok b (by simp [hb])) hlen'
      exact ⟨k + 1, by rw [hk]; rfl, by omega, by omega⟩

theorem Sys.run_inv (M : Sys S A) {Inv : S → Prop} {ok : A → Prop} (hstep : ∀ s a, Inv s → ok a → Inv (M.step s a))
    (s : S) (hs : Inv s) (as : List A) (hok : ∀ a ∈ as, ok a) : Inv (M.run s as) :=
  M.run_eq_after s as ▸ ((EpRun.along_iff_forall _ ok s as).2 hok).inv Inv hs hstep

theorem Bounded.inv_run {M : Sys S A} {Inv : S → Prop} {ok : A → Prop} {pot : S → Nat} (h : Bounded M Inv ok pot)
    (s : S) (hs : Inv s) (as : List A) (hok : ∀ a ∈ as, ok a) : Inv (M.run s as) :=
  M.run_inv h.inv_step s hs as hok

theorem Bounded.rollout_ends {stp : S → A → S × TimeStep O} {cnt : S → Int} {Inv : S → Prop} {ok : A → Prop}
    {pot : S → Nat} (h : Bounded (ofStep stp cnt) Inv ok pot) (s : S) (hs : Inv s) (as : List A)
    (hok : ∀ a ∈ as, ok a) (hlen : pot s + 1 ≤ as.length) :
    ∃ k, firstLastTS ((rollout stp s as).map (·.2)) = some k ∧ 0 < k ∧ k ≤ pot s + 1 := by
  obtain ⟨k, hk, h1, h2⟩ := h.ends s hs as hok hlen
  exact ⟨k, by rw [firstLast_ofStep stp cnt]; exact hk, h1, h2⟩

theorem Bounded.of_step {stp : S → A → S × TimeStep O} {cnt : S → Int} {Inv : S → Prop} {ok : A → Prop}
    {pot : S → Nat} (hinv : ∀ s a, Inv s → ok a → Inv (stp s a).1)
    (hpot : ∀ s a, Inv s → ok a → (stp s a).2.stepType ≠ .last → pot (stp s a).1 + 1 ≤ pot s) :
    Bounded (ofStep stp cnt) Inv ok pot :=
  ⟨hinv, fun s a hi ha hl => hpot s a hi ha (by simpa [ofStep] using hl)⟩

end Ep
