/-
Whole-episode statements for Cleaner (C08): the return of ANY sequence of joint actions played from ANY state
is (tiles cleaned along the run) − penalty · (number of steps).  Then the in-spec action lists `InSpec` / `toInt` and the
induction principle `run_inv` (an invariant kept by every in-spec step from a consistent state holds after the run), with its
instances for consistency and for the dirty tiles (used by C07, C10, C01).
-/
import JumanjiModel.Env.Cleaner.Lemmas
import JumanjiModel.Core.Play
namespace Cleaner
open Jm

/-- the run is NOT cut at LAST: the statements below hold for every action list, hence also for every prefix that
is one episode -/
def runState (cfg : Cfg) (s : State) : List (List Int) → State
  | [] => s
  | a :: as => runState cfg (step cfg s a).1 as

def runReturn (cfg : Cfg) (s : State) : List (List Int) → Rat
  | [] => 0
  | a :: as => (step cfg s a).2.reward.sum + runReturn cfg (step cfg s a).1 as

theorem runState_eq (cfg : Cfg) (s : State) (as : List (List Int)) : runState cfg s as = EpRun.after (step cfg) s as :=
  EpRun.after_unique (step cfg) (runState cfg) (fun _ => rfl) (fun _ _ _ => rfl) s as

theorem runReturn_eq (cfg : Cfg) (s : State) (as : List (List Int)) :
    runReturn cfg s as = ((EpRun.run (step cfg) s as).map (·.2.reward.sum)).sum :=
  EpRun.sum_unique (step cfg) (·.2.reward.sum) (runReturn cfg) (fun _ => rfl) (fun _ _ _ => rfl) s as

theorem run_return_potential (cfg : Cfg) (s : State) (as : List (List Int)) :
    runReturn cfg s as = potential cfg (runState cfg s as) - potential cfg s := by
  rw [runState_eq, runReturn_eq,
    EpRun.after_sum_add (step cfg) (·.2.reward.sum) (potential cfg) (reward_telescopes cfg) s as]
  grind

theorem run_return_objective (cfg : Cfg) (s : State) (as : List (List Int)) :
    runReturn cfg s as = objective cfg (runState cfg s as) - objective cfg s := by
  rw [run_return_potential]
  unfold objective potential; grind

theorem run_stepCount (cfg : Cfg) (s : State) (as : List (List Int)) :
    (runState cfg s as).stepCount = s.stepCount + (as.length : Int) :=
  runState_eq cfg s as ▸ EpRun.after_count (step cfg) (·.stepCount) (step_count cfg) s as

theorem run_return_explicit (cfg : Cfg) (s : State) (as : List (List Int)) :
    runReturn cfg s as
      = ((countTiles CLEAN (runState cfg s as).grid : Nat) : Rat) - ((countTiles CLEAN s.grid : Nat) : Rat)
          - cfg.penalty * (as.length : Rat) := by
  rw [run_return_potential]
  unfold potential
  rw [run_stepCount, Rat.intCast_add]
  have : (((as.length : Nat) : Int) : Rat) = ((as.length : Nat) : Rat) := rfl
  rw [this]
  grind

theorem run_mono (cfg : Cfg) (s : State) (as : List (List Int)) : Mono s.grid (runState cfg s as).grid :=
  runState_eq cfg s as ▸ EpRun.after_inv (step cfg) (fun t => Mono s.grid t.grid)
    (fun t _ h => h.trans (mono_cleanTiles t.grid _)) s as (Mono.refl _)

theorem run_clean_count (cfg : Cfg) (s : State) (as : List (List Int)) :
    countTiles CLEAN (runState cfg s as).grid
      = countTiles CLEAN s.grid + countDiff s.grid (runState cfg s as).grid :=
  count_mono (run_mono cfg s as)

/-- by `run_mono` the cells counted by `countDiff` are exactly those that were not CLEAN at the start and are CLEAN at
the end -/
theorem run_return_cleaned (cfg : Cfg) (s : State) (as : List (List Int)) :
    runReturn cfg s as
      = ((countDiff s.grid (runState cfg s as).grid : Nat) : Rat) - cfg.penalty * (as.length : Rat) := by
  rw [run_return_explicit, run_clean_count, Rat.natCast_add]
  grind

/-- `h0`, `h1`: a freshly generated state (only the start tile is clean) -/
theorem run_return_from_reset (cfg : Cfg) (s : State) (as : List (List Int)) (h0 : s.stepCount = 0)
    (h1 : countTiles CLEAN s.grid = 1) : runReturn cfg s as = objective cfg (runState cfg s as) := by
  rw [run_return_objective]
  have : objective cfg s = 0 := by
    unfold objective; rw [h0, h1]
    have e1 : ((1 : Nat) : Rat) = 1 := rfl
    have e2 : ((0 : Int) : Rat) = 0 := rfl
    rw [e1, e2]; grind
  rw [this]; grind

/-- in-spec joint actions: one component in `0..3` per agent -/
def InSpec (cfg : Cfg) (as : List (List Nat)) : Prop :=
  ∀ a ∈ as, a.length = cfg.numAgents ∧ ∀ x ∈ a, x < 4
instance (cfg : Cfg) (as : List (List Nat)) : Decidable (InSpec cfg as) := by unfold InSpec; infer_instance

/-- the actions as the implementation receives them -/
def toInt (as : List (List Nat)) : List (List Int) := as.map (fun a => a.map Int.ofNat)

theorem run_inv {cfg : Cfg} (R : State → Prop) (hR : ∀ t (a : List Nat), Consistent cfg t → (∀ x ∈ a, x < 4) → R t →
      R (step cfg t (a.map Int.ofNat)).1)
    {s : State} (hC : Consistent cfg s) (hs : R s) (as : List (List Nat)) (hA : InSpec cfg as) :
    Consistent cfg (runState cfg s (toInt as)) ∧ R (runState cfg s (toInt as)) := by
  rw [runState_eq, toInt, EpRun.after_map]
  exact ((EpRun.along_iff_forall _ _ s as).2 hA).inv (fun t => Consistent cfg t ∧ R t) ⟨hC, hs⟩
    fun t a ht ha => ⟨step_consistent ht.1 a (by rw [ha.1, ht.1.numAgents]) ha.2, hR t a ht.1 ha.2 ht.2⟩

theorem run_consistent {cfg : Cfg} {s : State} (hC : Consistent cfg s) (as : List (List Nat))
    (hA : InSpec cfg as) : Consistent cfg (runState cfg s (toInt as)) :=
  (run_inv (fun _ => True) (fun _ _ _ _ _ => trivial) hC trivial as hA).1

theorem run_dirtyRel {cfg : Cfg} {s : State} (hC : Consistent cfg s) (as : List (List Nat))
    (hA : InSpec cfg as) : GridRel DirtyC s.grid (runState cfg s (toInt as)).grid :=
  (run_inv (fun t => GridRel DirtyC s.grid t.grid)
    (fun _ a ht ha h => GridRel.trans Cleaned.trans h (step_dirtyRel ht a ha)) hC (GridRel.refl Cleaned.refl _) as hA).2

theorem run_dirty_count {cfg : Cfg} {s : State} (hC : Consistent cfg s) (as : List (List Nat))
    (hA : InSpec cfg as) :
    countTiles DIRTY s.grid
      = countTiles DIRTY (runState cfg s (toInt as)).grid + countDiff s.grid (runState cfg s (toInt as)).grid :=
  count_dirty (run_dirtyRel hC as hA)

end Cleaner
