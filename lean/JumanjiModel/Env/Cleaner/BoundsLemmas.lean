/- Proofs of the C01 value bounds of Cleaner. -/
import JumanjiModel.Env.Cleaner.Bounds
import JumanjiModel.Env.PuzzleBounds
namespace Cleaner
open Jm

theorem tiles_range {g : Jx.Grid Int}
    (h : Jx.Grid.all (fun v => v == DIRTY || v == CLEAN || v == WALL) g = true) :
    ∀ x ∈ List.flatten g, (0 : Int) ≤ x ∧ x ≤ 2 :=
  Jx.forall_mem_flatten fun row hrow x hx => by
    have h2 := Jx.Grid.all_eq_true.1 h row hrow x hx
    simp only [DIRTY, CLEAN, WALL, Bool.or_eq_true, beq_iff_eq] at h2
    omega

theorem locs_range {cfg : Cfg} {ps : List Pos} (h : ∀ p ∈ ps, inGrid cfg p) :
    ∀ x ∈ ps.flatMap (fun p => [p.1, p.2]),
      (0 : Int) ≤ x ∧ x ≤ max (cfg.numRows : Int) (cfg.numCols : Int) - 1 :=
  Jx.forall_mem_pairs fun p hp => by
    obtain ⟨a1, a2, a3, a4⟩ := h p hp
    omega

theorem obsOf_in_bounds (cfg : Cfg) (s : State) (hk : TilesAndAgentsOK cfg s)
    (h0 : 0 ≤ s.stepCount) (h1 : s.stepCount ≤ cfg.timeLimit) : ObsInBounds cfg (obsOf s) :=
  Jx.rel_of_aligned (R := fun iv vs => ∀ v ∈ vs, inIv iv v) rfl (by simp [obsLeaves]) <|
    Jx.all_cons (Jx.Iv.ints _ (tiles_range hk.1)) <| Jx.all_cons (Jx.Iv.ints _ (locs_range hk.2)) <|
    Jx.all_cons (Jx.Iv.bools _) <| Jx.all_cons (Jx.Iv.one h0 h1) Jx.all_nil

end Cleaner
