/-
Cleaner: `observation_spec` / `action_spec` written as `Sp` values (`obsSpec`, `actionSpec`; they are the generated declaration at
the catalogue configurations: `cleaner_obsSpec_generated`, Props/SpecTable.lean) and membership of everything `reset` / `step`
emit (C01), the generated action and the protocol of `step` (`accepts_generate_value`, `step_stepOK`); the reset observation (C12); the reaction of `step` to each component of the joint action (C04); whole-run
conservation and consistency from `reset` (C07).
-/
import JumanjiModel.Env.Cleaner.BoundsLemmas
import JumanjiModel.Env.Cleaner.EpisodeLemmas
import JumanjiModel.Env.Cleaner.GenLemmas
import JumanjiModel.Env.SpecMembership
namespace Cleaner
open Jm Sp PzS

/-- env.py `observation_spec`: `grid` BoundedArray((num_rows, num_cols), int8, 0, 2); `agents_locations`
BoundedArray((num_agents, 2), int32, [0, 0], (num_rows, num_cols)) — the declared maxima are the EXTENTS (one more than
the largest index); `action_mask` BoundedArray((num_agents, 4), bool, False, True); `step_count`
BoundedArray((), int32, 0, time_limit) -/
def obsSpec (cfg : Cfg) : Sp.Nested :=
  [("grid", .bounded [cfg.numRows, cfg.numCols] .int8 "grid" [] [0] [] [2]),
   ("agents_locations", .bounded [cfg.numAgents, 2] .int32 "agents_locations" [2] [0, 0] [2]
      [((cfg.numRows : Int) : Rat), ((cfg.numCols : Int) : Rat)]),
   ("action_mask", .bounded [cfg.numAgents, 4] .bool "action_mask" [] [0] [] [1]),
   ("step_count", .bounded [] .int32 "step_count" [] [0] [] [(cfg.timeLimit : Rat)])]

/-- `action_spec`: MultiDiscreteArray(full(num_agents, 4), int32) -/
def actionSpec (cfg : Cfg) : Leaf := .multiDiscrete [cfg.numAgents] (List.replicate cfg.numAgents 4) .int32 "action_spec"

/-- second dimension of a nested list read off its first row (`d` when there is no row to read it off) -/
def innerDim {α : Type} (d : Nat) : List (List α) → Nat
  | [] => d
  | r :: _ => r.length

def flatLocs (ps : List Pos) : List Int := ps.flatMap (fun p => [p.1, p.2])

/-- a model observation as the arrays the implementation emits (grid int8, locations int32, mask bool, count int32);
the shapes are read off the value -/
def toNValue (cfg : Cfg) (o : Obs) : NValue :=
  [("grid", ⟨[List.length o.grid, innerDim cfg.numCols o.grid], .int8, ofInts (List.flatten o.grid)⟩),
   ("agents_locations", ⟨[o.agents.length, 2], .int32, ofInts (flatLocs o.agents)⟩),
   ("action_mask", ⟨[o.actionMask.length, innerDim 4 o.actionMask], .bool, ofBools o.actionMask.flatten⟩),
   ("step_count", ⟨[], .int32, [(o.stepCount : Rat)]⟩)]

theorem innerDim_of_rows {α : Type} (d m : Nat) (g : List (List α)) (h : ∀ r ∈ g, r.length = m) (h0 : g = [] → d = m) :
    innerDim d g = m := by
  cases g with
  | nil => exact h0 rfl
  | cons r t => exact h r (by simp)

theorem broadcast_pair (a b : Rat) (n : Nat) :
    broadcastTo [2] [a, b] [n, 2] = some ((List.range (prod [n, 2])).map (fun k => [a, b].getD (k % 2) 0)) := by
  unfold broadcastTo
  have hb : broadcastable [2] [n, 2] = true := by simp [broadcastable]
  rw [if_pos hb]
  congr 1
  apply List.map_congr_left
  intro k _
  simp [unravel, srcIndex, ravel, prod]

theorem flatLocs_length (ps : List Pos) : (flatLocs ps).length = ps.length * 2 :=
  Jx.length_flatMap_uniform ps _ 2 fun _ _ => rfl

theorem flatLocs_bounds (l1 l2 h1 h2 : Rat) : ∀ ps : List Pos,
    (∀ k (hk : k < (ofInts (flatLocs ps)).length),
      [l1, l2].getD (k % 2) 0 ≤ (ofInts (flatLocs ps))[k] ∧ (ofInts (flatLocs ps))[k] ≤ [h1, h2].getD (k % 2) 0) ↔
    ∀ p ∈ ps, (l1 ≤ (p.1 : Rat) ∧ (p.1 : Rat) ≤ h1) ∧ l2 ≤ (p.2 : Rat) ∧ (p.2 : Rat) ≤ h2
  | [] => by simp [flatLocs, ofInts]
  | p :: t => by
    have e : ofInts (flatLocs (p :: t)) = (p.1 : Rat) :: (p.2 : Rat) :: ofInts (flatLocs t) := rfl
    rw [List.forall_mem_cons, ← flatLocs_bounds l1 l2 h1 h2 t, e]
    constructor
    · intro h
      refine ⟨⟨h 0 (by simp), h 1 (by simp)⟩, fun k hk => ?_⟩
      have := h (k + 2) (Nat.add_lt_add_right hk 2)
      rwa [Nat.add_mod_right] at this
    · rintro ⟨⟨h0, h1⟩, h⟩ k hk
      match k with
      | 0 => exact h0
      | 1 => exact h1
      | k + 2 => simpa using h k (by simpa using hk)

theorem valid_pairs (n : Nat) (d : DType) (nm : String) (l1 l2 h1 h2 : Rat) (sh : List Nat) (d' : DType) (ps : List Pos) :
    (Leaf.bounded [n, 2] d nm [2] [l1, l2] [2] [h1, h2]).valid ⟨sh, d', ofInts (flatLocs ps)⟩ = true ↔
    sh = [n, 2] ∧ d' = d ∧ ps.length = n ∧
      ∀ p ∈ ps, (l1 ≤ (p.1 : Rat) ∧ (p.1 : Rat) ≤ h1) ∧ l2 ≤ (p.2 : Rat) ∧ (p.2 : Rat) ≤ h2 := by
  rw [Leaf.valid_iff, ← flatLocs_bounds]
  simp only [Leaf.shape, Leaf.dtype, Leaf.lower, Leaf.upper, broadcast_pair, reduceCtorEq, false_and, false_or,
    Option.some.injEq, PkS.ofInts_length, flatLocs_length, prod_two, Nat.mul_left_inj (Nat.succ_ne_zero 1),
    exists_and_left, exists_eq_left', List.getElem_zip, List.getElem_map, List.getElem_range, List.length_zip,
    List.length_map, List.length_range, Nat.min_self]
  refine and_congr_right fun _ => and_congr_right fun _ => and_congr_right fun hl => ?_
  subst hl
  exact ⟨fun h k hk => h k hk hk, fun h k hk _ => h k hk⟩

theorem obs_valid_iff (cfg : Cfg) (o : Obs) : (obsSpec cfg).valid (toNValue cfg o) = true ↔
    List.length o.grid = cfg.numRows ∧ innerDim cfg.numCols o.grid = cfg.numCols ∧
    (List.flatten o.grid).length = cfg.numRows * cfg.numCols ∧ (∀ v ∈ List.flatten o.grid, 0 ≤ v ∧ v ≤ 2) ∧
    o.agents.length = cfg.numAgents ∧
    (∀ p ∈ o.agents, 0 ≤ p.1 ∧ p.1 ≤ (cfg.numRows : Int) ∧ 0 ≤ p.2 ∧ p.2 ≤ (cfg.numCols : Int)) ∧
    o.actionMask.length = cfg.numAgents ∧ innerDim 4 o.actionMask = 4 ∧
    o.actionMask.flatten.length = cfg.numAgents * 4 ∧ 0 ≤ o.stepCount ∧ o.stepCount ≤ cfg.timeLimit := by
  simp only [obsSpec, toNValue, valid_cons, valid_nil, valid_scalar_bounded_iff, valid_pairs, forall_ofInts,
    forall_ofBools, PkS.ofInts_length, PkS.ofBools_length, prod_two, prod_nil, List.forall_mem_singleton,
    List.length_singleton, List.cons.injEq, Rat.intCast_nonneg, Rat.intCast_le_intCast, intCast_le_ofNat,
    true_and, and_true, and_assoc, and_self_left]

/-- C01: membership in `observation_spec` (same fields, each of the declared shape and dtype, every element within the
declared bounds) -/
theorem obs_valid (cfg : Cfg) (o : Obs) (hs : Jx.Grid.shaped o.grid cfg.numRows cfg.numCols = true)
    (ht : Jx.Grid.all (fun v => v == DIRTY || v == CLEAN || v == WALL) o.grid = true)
    (hal : o.agents.length = cfg.numAgents) (hag : ∀ p ∈ o.agents, inGrid cfg p)
    (hml : o.actionMask.length = cfg.numAgents) (hmr : ∀ r ∈ o.actionMask, r.length = 4)
    (h0 : 0 ≤ o.stepCount) (h1 : o.stepCount ≤ cfg.timeLimit) : (obsSpec cfg).valid (toNValue cfg o) = true :=
  have ⟨hgl, hgr⟩ := (Jx.Grid.shaped_iff_mem _ _ _).1 hs
  (obs_valid_iff cfg o).2 ⟨hgl, innerDim_of_rows _ _ _ hgr fun _ => rfl, hgl ▸ Jx.Grid.flatten_length hgr,
    tiles_range ht, hal,
    fun p hp =>
      have ⟨a1, a2, a3, a4⟩ := hag p hp
      ⟨a1, Int.le_of_lt a2, a3, Int.le_of_lt a4⟩,
    hml, innerDim_of_rows _ _ _ hmr fun _ => rfl, hml ▸ Jx.Grid.flatten_length hmr, h0, h1⟩

/-- … and what `validate` accepts ONLY, so membership is not hollow (the bounds of `agents_locations` and the two widths are
left out here: the exact converse is `obs_valid_iff`) -/
theorem obs_valid_only (cfg : Cfg) (o : Obs) (h : (obsSpec cfg).valid (toNValue cfg o) = true) :
    List.length o.grid = cfg.numRows ∧ (List.flatten o.grid).length = cfg.numRows * cfg.numCols ∧
    (∀ v ∈ List.flatten o.grid, 0 ≤ v ∧ v ≤ 2) ∧ o.agents.length = cfg.numAgents ∧
    o.actionMask.length = cfg.numAgents ∧ 0 ≤ o.stepCount ∧ o.stepCount ≤ cfg.timeLimit :=
  have ⟨h1, _, h2, h3, h4, _, h5, _, _, h6⟩ := (obs_valid_iff cfg o).1 h
  ⟨h1, h2, h3, h4, h5, h6⟩

theorem legalMask_rows (cfg : Cfg) (g : Jx.Grid Int) (agents : List Pos) :
    (legalMask cfg g agents).length = agents.length ∧ ∀ r ∈ legalMask cfg g agents, r.length = 4 := by
  refine ⟨by simp [legalMask], ?_⟩
  intro r hr
  simp only [legalMask, List.mem_map] at hr
  obtain ⟨_, _, rfl⟩ := hr
  simp

theorem obsOf_valid (cfg : Cfg) (s : State) (hC : Consistent cfg s) (h0 : 0 ≤ s.stepCount)
    (h1 : s.stepCount ≤ cfg.timeLimit) : (obsSpec cfg).valid (toNValue cfg (obsOf s)) = true := by
  obtain ⟨⟨hs, hal, hm⟩, ht, hp⟩ := hC
  have hr := legalMask_rows cfg s.grid s.agents
  refine obs_valid cfg (obsOf s) hs ht hal (fun p hp' => (hp p hp').1) ?_ ?_ h0 h1
  · show s.actionMask.length = cfg.numAgents
    rw [hm, hr.1, hal]
  · show ∀ r ∈ s.actionMask, r.length = 4
    rw [hm]; exact hr.2

theorem actionSpec_WF (cfg : Cfg) : (actionSpec cfg).WF = true :=
  WF_multiDiscrete _ _ _ _ (by simp [prod]) rfl fun _ hn =>
    (List.mem_replicate.1 hn).2 ▸ ⟨by decide, fits_int32_pred (by decide)⟩

theorem step_stepOK (cfg : Cfg) (s : State) (a : List Int) : StepOK none false (step cfg s a).2 = true :=
  condLast_stepOK _ _ _

/-- `action_spec.generate_value()` is the all-zero joint action (everybody "up") -/
theorem accepts_generate_value (cfg : Cfg) (s : State) :
    (actionSpec cfg).WF = true ∧ (actionSpec cfg).valid (actionSpec cfg).generate = true ∧
    (actionSpec cfg).generate = ⟨[cfg.numAgents], .int32, List.replicate cfg.numAgents 0⟩ ∧
    StepOK none false (step cfg s (List.replicate cfg.numAgents 0)).2 = true :=
  ⟨actionSpec_WF cfg, Leaf.generate_valid _ (actionSpec_WF cfg),
    (generate_multiDiscrete _ _ _ _).trans (by rw [List.map_replicate]), step_stepOK cfg s _⟩

/-- C12 at `reset`. `hag` (true of every generated state) cannot be dropped: `reset` computes the mask for
`zeros((num_agents, 2))`, not for the generated locations -/
theorem reset_obs_faithful (cfg : Cfg) (g : State) (hs : Jx.Grid.shaped g.grid cfg.numRows cfg.numCols = true)
    (hag : g.agents = List.replicate cfg.numAgents (0, 0)) :
    (reset cfg g).2.obs = observe cfg (reset cfg g).1 ∧ (reset cfg g).2.stepType = .first := by
  refine ⟨?_, rfl⟩
  show obsOf _ = observe cfg _
  simp only [obsOf, observe, Obs.mk.injEq]
  refine ⟨rfl, rfl, ?_, rfl⟩
  show computeMask cfg g.grid (List.replicate cfg.numAgents (0, 0)) = legalMask cfg g.grid g.agents
  rw [← hag]; exact computeMask_eq hs _

theorem dest_ne {p : Pos} {a : Nat} (ha : a < 4) : dest p a ≠ p := by
  intro h
  have h1 : p.1 + (dir a).1 = p.1 := congrArg Prod.fst h
  have h2 : p.2 + (dir a).2 = p.2 := congrArg Prod.snd h
  have hd : ∀ a, a < 4 → (dir a).1 ≠ 0 ∨ (dir a).2 ≠ 0 := by decide
  rcases hd a ha with h0 | h0 <;> omega

theorem moveSpec_getElem? (cfg : Cfg) (g : Jx.Grid Int) (agents : List Pos) (action : List Nat) (i : Nat) (loc : Pos)
    (a : Nat) (h1 : agents[i]? = some loc) (h2 : action[i]? = some a) :
    (moveSpec cfg g agents action)[i]? = some (if legalAt cfg g loc a then dest loc a else loc) := by
  unfold moveSpec
  rw [List.getElem?_zipWith, h1, h2]

/-- C04 about `step` itself, not only the helper `isActionValid` -/
theorem step_moves_iff_legal {cfg : Cfg} {s : State} (hI : Inv cfg s) (action : List Nat) (ha : ∀ a ∈ action, a < 4)
    (i : Nat) (loc : Pos) (a : Nat) (h1 : s.agents[i]? = some loc) (h2 : action[i]? = some a) :
    ((step cfg s (action.map Int.ofNat)).1.agents[i]? = some (dest loc a) ↔ legal cfg s i a) ∧
    ((step cfg s (action.map Int.ofNat)).1.agents[i]? = some loc ↔ ¬ legal cfg s i a) := by
  have hl : legal cfg s i a ↔ legalAt cfg s.grid loc a := by unfold legal; rw [h1]
  rw [step_agents hI action ha, moveSpec_getElem? cfg s.grid s.agents action i loc a h1 h2, hl]
  simp only [Option.some.injEq]
  exact Jx.moved_iff (dest_ne (ha a (List.mem_of_getElem? h2)))

theorem run_conserved {cfg : Cfg} {s : State} (hC : Consistent cfg s) (as : List (List Nat)) (hA : InSpec cfg as) :
    conserved s (runState cfg s (toInt as)) = true :=
  conserved_of_dirtyRel (by rw [(run_consistent hC as hA).numAgents, hC.numAgents]) (run_dirtyRel hC as hA)

theorem consistent_along (cfg : Cfg) (maze : Jx.Grid Bool) (hr : 0 < cfg.numRows) (hc : 0 < cfg.numCols)
    (hm : MazeGen.isRecursiveDivisionMaze maze cfg.numRows cfg.numCols = true) (as : List (List Nat))
    (hA : InSpec cfg as) :
    Consistent cfg (runState cfg (reset cfg (generate cfg maze)).1 (toInt as)) ∧
    conserved (reset cfg (generate cfg maze)).1 (runState cfg (reset cfg (generate cfg maze)).1 (toInt as)) = true ∧
    wallMap (runState cfg (reset cfg (generate cfg maze)).1 (toInt as)).grid = maze := by
  obtain ⟨hcert, hw⟩ := generate_cert cfg maze hr hc hm
  have hC := (cert_consistent hcert).1
  exact ⟨run_consistent hC as hA, run_conserved hC as hA, (walls_of_dirtyRel (run_dirtyRel hC as hA)).trans hw⟩

end Cleaner
