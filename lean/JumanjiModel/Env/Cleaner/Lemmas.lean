/-
Proofs about the Cleaner model: the mask and the validity test are those of the rules, cleaning only turns tiles
CLEAN (a cell-wise relation between grids, `GridRel` over the pointwise list relation `Rel2`, from which counting, conservation
and the reward follow), and on consistent states `step` is `stepSpec`.
-/
import JumanjiModel.Env.Cleaner.Model
import JumanjiModel.Core.TimeStepLemmas
import JumanjiModel.Prim.ListLemmas
import JumanjiModel.Prim.GridLemmas
namespace Cleaner
open Jm

theorem Consistent.inv {cfg : Cfg} {s : State} (h : Consistent cfg s) : Inv cfg s := h.1

theorem Consistent.shaped {cfg : Cfg} {s : State} (h : Consistent cfg s) :
    Jx.Grid.shaped s.grid cfg.numRows cfg.numCols = true := h.1.1

theorem Consistent.numAgents {cfg : Cfg} {s : State} (h : Consistent cfg s) : s.agents.length = cfg.numAgents := h.1.2.1

theorem Consistent.tiles {cfg : Cfg} {s : State} (h : Consistent cfg s) :
    Jx.Grid.all (fun v => v == DIRTY || v == CLEAN || v == WALL) s.grid = true := h.2.1

theorem Consistent.onClean {cfg : Cfg} {s : State} (h : Consistent cfg s) :
    ∀ p ∈ s.agents, inGrid cfg p ∧ tile s.grid p = CLEAN := h.2.2

theorem getWC_eq_tile {cfg : Cfg} {g : Jx.Grid Int} (h : Jx.Grid.shaped g cfg.numRows cfg.numCols = true)
    {y x : Int} (hy0 : 0 ≤ y) (hy : y < (cfg.numRows : Int)) (hx0 : 0 ≤ x) (hx : x < (cfg.numCols : Int)) :
    Jx.Grid.getWC g 0 y x = tile g (y, x) := by
  rw [Jx.Grid.getWC_eq_get h 0 hy0 hy hx0 hx]
  exact Jx.Grid.get_irrel h 0 WALL (by omega) (by omega)

theorem isMoveValid_eq {cfg : Cfg} {g : Jx.Grid Int} (h : Jx.Grid.shaped g cfg.numRows cfg.numCols = true)
    (loc mv : Pos) : isMoveValid cfg g loc mv = decide (free cfg g (loc.1 + mv.1, loc.2 + mv.2)) := by
  unfold isMoveValid free
  by_cases hin : inGrid cfg (loc.1 + mv.1, loc.2 + mv.2)
  · have hin' := hin
    obtain ⟨h1, h2, h3, h4⟩ := hin'
    simp only [] at h1 h2 h3 h4
    have e := getWC_eq_tile h h1 h2 h3 h4
    simp only [e]
    by_cases ht : tile g (loc.1 + mv.1, loc.2 + mv.2) = WALL <;> simp [hin, h1, h2, h3, h4, ht]
  · simp only [hin, false_and, decide_false]
    unfold inGrid at hin
    simp only [] at hin
    rw [Bool.and_eq_false_iff]
    left
    simp
    omega

theorem computeMask_eq {cfg : Cfg} {g : Jx.Grid Int} (h : Jx.Grid.shaped g cfg.numRows cfg.numCols = true)
    (agents : List Pos) : computeMask cfg g agents = legalMask cfg g agents := by
  unfold computeMask legalMask
  apply List.map_congr_left
  intro loc _
  simp [moves, List.range, List.range.loop, isMoveValid_eq h, legalAt, dest, dir]

theorem mask_iff_legal {cfg : Cfg} {s : State} (h : Jx.Grid.shaped s.grid cfg.numRows cfg.numCols = true)
    (i a : Nat) : ((computeMask cfg s.grid s.agents).getD i []).getD a false = true ↔ legal cfg s i a := by
  rw [computeMask_eq h]
  unfold legalMask legal
  simp only [List.getD_eq_getElem?_getD, List.getElem?_map]
  cases s.agents[i]? with
  | none => simp
  | some loc =>
    simp only [Option.map_some, Option.getD_some]
    by_cases ha : a < 4
    · simp [List.getElem?_range ha]
    · have : ¬ legalAt cfg s.grid loc a := fun hl => ha hl.1
      have hn : (List.range 4)[a]? = none := List.getElem?_eq_none (by simp; omega)
      simp [this, hn]

theorem isActionValid_legalMask (cfg : Cfg) (g : Jx.Grid Int) (agents : List Pos) (action : List Nat)
    (ha : ∀ a ∈ action, a < 4) :
    isActionValid (action.map Int.ofNat) (legalMask cfg g agents)
      = List.zipWith (fun loc a => decide (legalAt cfg g loc a)) agents action := by
  unfold isActionValid legalMask
  induction agents generalizing action with
  | nil => simp
  | cons p ps ih =>
    cases action with
    | nil => simp
    | cons a as =>
      have h0 : a < 4 := ha a (by simp)
      have := ih as (fun x hx => ha x (by simp [hx]))
      simp only [List.map_cons, List.zipWith_cons_cons, this]
      congr 1
      exact Jx.getWC_range_map _ false h0

theorem step_agrees {cfg : Cfg} {s : State} (hI : Inv cfg s) (action : List Nat) (ha : ∀ a ∈ action, a < 4) :
    isActionValid (action.map Int.ofNat) s.actionMask = legalJoint cfg s action := by
  rw [hI.2.2]; exact isActionValid_legalMask cfg s.grid s.agents action ha

theorem step_snd (cfg : Cfg) (s : State) (a : List Int) :
    (step cfg s a).2 = condLast (shouldTerminate cfg (step cfg s a).1 (isActionValid a s.actionMask))
      [reward cfg s.grid (step cfg s a).1.grid] (obsOf (step cfg s a).1) := rfl

theorem step_obs (cfg : Cfg) (s : State) (a : List Int) : (step cfg s a).2.obs = obsOf (step cfg s a).1 :=
  condLast_obs _ _ _

theorem step_reward (cfg : Cfg) (s : State) (a : List Int) :
    (step cfg s a).2.reward = [reward cfg s.grid (step cfg s a).1.grid] := condLast_reward _ _ _

theorem step_count (cfg : Cfg) (s : State) (a : List Int) : (step cfg s a).1.stepCount = s.stepCount + 1 := rfl

theorem step_last_iff (cfg : Cfg) (s : State) (a : List Int) :
    (step cfg s a).2.stepType = .last ↔
      ((isActionValid a s.actionMask).all id = false ∨ anyDirty (step cfg s a).1.grid = false ∨
        s.stepCount + 1 ≥ cfg.timeLimit) := by
  rw [step_snd, condLast_last_iff]
  simp only [shouldTerminate, Bool.or_eq_true, Bool.not_eq_true', decide_eq_true_eq, or_assoc]
  exact Iff.rfl

theorem time_limit (cfg : Cfg) (s : State) (a : List Int) (h : s.stepCount + 1 ≥ cfg.timeLimit) :
    (step cfg s a).2.stepType = .last := (step_last_iff cfg s a).2 (Or.inr (Or.inr h))

theorem step_last_discount (cfg : Cfg) (s : State) (a : List Int) (h : (step cfg s a).2.stepType = .last) :
    (step cfg s a).2.discount = [0] := by
  rw [step_snd] at h ⊢
  rw [(condLast_last_iff _ _ _).1 h]
  rfl

theorem getWC_moves {a : Nat} (ha : a < 4) : Jx.getWC moves (0, 0) (a : Int) = dir a :=
  Jx.getWC_range_map dir (0, 0) ha

theorem updateLocs_eq (cfg : Cfg) (g : Jx.Grid Int) (agents : List Pos) (action : List Nat) :
    updateLocs agents (action.map Int.ofNat)
      (List.zipWith (fun loc a => decide (legalAt cfg g loc a)) agents action) = moveSpec cfg g agents action := by
  unfold updateLocs moveSpec
  induction agents generalizing action with
  | nil => cases action <;> simp [zip3With]
  | cons p ps ih =>
    cases action with
    | nil => simp [zip3With]
    | cons a as =>
      simp only [List.map_cons, List.zipWith_cons_cons, zip3With, ih]
      congr 1
      unfold moveAgent dest
      by_cases hl : legalAt cfg g p a
      · simp [hl, getWC_moves hl.1]
      · simp [hl]

theorem step_agents {cfg : Cfg} {s : State} (hI : Inv cfg s) (action : List Nat) (ha : ∀ a ∈ action, a < 4) :
    (step cfg s (action.map Int.ofNat)).1.agents = moveSpec cfg s.grid s.agents action := by
  have : (step cfg s (action.map Int.ofNat)).1.agents =
      updateLocs s.agents (action.map Int.ofNat) (isActionValid (action.map Int.ofNat) s.actionMask) := rfl
  rw [this, step_agrees hI action ha]
  exact updateLocs_eq cfg s.grid s.agents action

theorem illegal_terminates {cfg : Cfg} {s : State} (hI : Inv cfg s) (action : List Nat) (ha : ∀ a ∈ action, a < 4)
    (hill : (legalJoint cfg s action).any (fun b => !b) = true) :
    (step cfg s (action.map Int.ofNat)).2.stepType = .last ∧
    (step cfg s (action.map Int.ofNat)).2.discount = [0] ∧
    (step cfg s (action.map Int.ofNat)).1.agents = moveSpec cfg s.grid s.agents action := by
  have hl : (step cfg s (action.map Int.ofNat)).2.stepType = .last := by
    rw [step_last_iff]; left
    rw [step_agrees hI action ha]
    exact (Jx.any_not_iff_all _).1 hill
  exact ⟨hl, step_last_discount cfg s _ hl, step_agents hI action ha⟩

/-- `Rel2 R xs ys`: the same length, and `R` position by position (`GridRel`: the same for grids, cell by cell) -/
inductive Rel2 {α β : Type} (R : α → β → Prop) : List α → List β → Prop
  | nil : Rel2 R [] []
  | cons {a b as bs} : R a b → Rel2 R as bs → Rel2 R (a :: as) (b :: bs)

theorem Rel2.refl {α : Type} {R : α → α → Prop} (h : ∀ x, R x x) : ∀ xs, Rel2 R xs xs
  | [] => .nil
  | x :: xs => .cons (h x) (Rel2.refl h xs)

theorem Rel2.trans {α : Type} {R : α → α → Prop} (h : ∀ x y z, R x y → R y z → R x z) {xs ys zs : List α}
    (h1 : Rel2 R xs ys) (h2 : Rel2 R ys zs) : Rel2 R xs zs := by
  induction h1 generalizing zs with
  | nil => exact h2
  | cons a _ ih =>
    cases h2 with
    | cons b bs => exact .cons (h _ _ _ a b) (ih bs)

theorem Rel2.length_eq {α β : Type} {R : α → β → Prop} {xs : List α} {ys : List β} (h : Rel2 R xs ys) :
    ys.length = xs.length := by
  induction h with
  | nil => rfl
  | cons _ _ ih => rw [List.length_cons, List.length_cons, ih]

theorem Rel2.mono {α β : Type} {R S : α → β → Prop} (h : ∀ x y, R x y → S x y) {xs : List α} {ys : List β}
    (hr : Rel2 R xs ys) : Rel2 S xs ys := by
  induction hr with
  | nil => exact .nil
  | cons a _ ih => exact .cons (h _ _ a) ih

theorem Rel2.eq {α : Type} {xs ys : List α} (h : Rel2 (fun x y => y = x) xs ys) : ys = xs := by
  induction h with
  | nil => rfl
  | cons a _ ih => rw [a, ih]

theorem Rel2.mapIdx {α β : Type} {R : α → β → Prop} (xs : List α) (f : Nat → α → β)
    (h : ∀ i x, xs[i]? = some x → R x (f i x)) : Rel2 R xs (xs.mapIdx f) := by
  induction xs generalizing f with
  | nil => exact .nil
  | cons x xs ih =>
    rw [List.mapIdx_cons]
    exact .cons (h 0 x (by simp)) (ih _ (fun i y hy => h (i + 1) y (by simpa using hy)))

abbrev GridRel (R : Int → Int → Prop) (g g' : Jx.Grid Int) : Prop := Rel2 (Rel2 R) g g'

theorem GridRel.refl {R : Int → Int → Prop} (h : ∀ x, R x x) (g : Jx.Grid Int) : GridRel R g g :=
  Rel2.refl (Rel2.refl h) g

theorem GridRel.trans {R : Int → Int → Prop} (h : ∀ x y z, R x y → R y z → R x z) {g1 g2 g3 : Jx.Grid Int}
    (h1 : GridRel R g1 g2) (h2 : GridRel R g2 g3) : GridRel R g1 g3 :=
  Rel2.trans (R := Rel2 R) (fun _ _ _ a b => Rel2.trans h a b) h1 h2

/-- cell relation of cleaning: unchanged, or turned CLEAN from a value that `P` admits -/
def Cleaned (P : Int → Prop) (x y : Int) : Prop := y = x ∨ (P x ∧ y = CLEAN)

theorem Cleaned.refl {P : Int → Prop} (x : Int) : Cleaned P x x := Or.inl rfl

theorem Cleaned.trans {P : Int → Prop} (x y z : Int) (h1 : Cleaned P x y) (h2 : Cleaned P y z) : Cleaned P x z := by
  rcases h2 with rfl | ⟨hy, hz⟩
  · exact h1
  · rcases h1 with rfl | ⟨hx, _⟩
    · exact Or.inr ⟨hy, hz⟩
    · exact Or.inr ⟨hx, hz⟩

theorem Cleaned.imp {P Q : Int → Prop} (h : ∀ x, P x → Q x) (x y : Int) : Cleaned P x y → Cleaned Q x y
  | .inl e => .inl e
  | .inr ⟨hx, hy⟩ => .inr ⟨h x hx, hy⟩

/-- what cleaning does to a cell in any state -/
abbrev MonoC : Int → Int → Prop := Cleaned (· ≠ CLEAN)
/-- … and when no agent stands on a wall -/
abbrev DirtyC : Int → Int → Prop := Cleaned (· = DIRTY)

abbrev Mono (g g' : Jx.Grid Int) : Prop := GridRel MonoC g g'

theorem Mono.refl (g : Jx.Grid Int) : Mono g g := GridRel.refl Cleaned.refl g
theorem Mono.trans {g1 g2 g3 : Jx.Grid Int} (h1 : Mono g1 g2) (h2 : Mono g2 g3) : Mono g1 g3 :=
  GridRel.trans Cleaned.trans h1 h2

theorem mono_of_dirtyRel {g g' : Jx.Grid Int} (h : GridRel DirtyC g g') : Mono g g' :=
  Rel2.mono (fun _ _ => Rel2.mono (Cleaned.imp fun x hx => by rw [hx]; decide)) h

theorem shaped_of_rel {R : Int → Int → Prop} {g g' : Jx.Grid Int} (h : GridRel R g g') (nr nc : Nat) :
    Jx.Grid.shaped g' nr nc = Jx.Grid.shaped g nr nc := by
  unfold Jx.Grid.shaped
  rw [h.length_eq]
  congr 1
  induction h with
  | nil => rfl
  | cons hr _ ih => rw [List.all_cons, List.all_cons, hr.length_eq, ih]

theorem Rel2.all {α β : Type} {R : α → β → Prop} {p : α → Bool} {q : β → Bool}
    (h : ∀ x y, R x y → p x = true → q y = true) {xs : List α} {ys : List β} (hr : Rel2 R xs ys)
    (hp : xs.all p = true) : ys.all q = true := by
  induction hr with
  | nil => rfl
  | cons a _ ih =>
    rw [List.all_cons, Bool.and_eq_true] at hp ⊢
    exact ⟨h _ _ a hp.1, ih hp.2⟩

theorem Rel2.map_eq {α β γ : Type} {R : α → β → Prop} {f : β → γ} {g : α → γ} (h : ∀ x y, R x y → f y = g x)
    {xs : List α} {ys : List β} (hr : Rel2 R xs ys) : ys.map f = xs.map g := by
  induction hr with
  | nil => rfl
  | cons a _ ih => rw [List.map_cons, List.map_cons, h _ _ a, ih]

theorem Rel2.zipWith_all {α β γ : Type} {R : α → β → Prop} {f : α → β → γ} {p : γ → Bool}
    (h : ∀ x y, R x y → p (f x y) = true) {xs : List α} {ys : List β} (hr : Rel2 R xs ys) :
    (List.zipWith f xs ys).all p = true := by
  induction hr with
  | nil => rfl
  | cons a _ ih => rw [List.zipWith_cons_cons, List.all_cons, h _ _ a, ih]; rfl

theorem Rel2.getD {α β : Type} {R : α → β → Prop} {xs : List α} {ys : List β} (hr : Rel2 R xs ys) {d : α} {d' : β}
    (hd : R d d') (i : Nat) : R (xs.getD i d) (ys.getD i d') := by
  induction hr generalizing i with
  | nil => exact hd
  | cons a _ ih =>
    cases i with
    | zero => exact a
    | succ i => exact ih i

/-- `hW`: where the lookup runs past the lists both sides read the default WALL -/
theorem tile_rel {R : Int → Int → Prop} (hW : R WALL WALL) {g g' : Jx.Grid Int} (h : GridRel R g g') (p : Pos) :
    R (tile g p) (tile g' p) :=
  Rel2.getD (Rel2.getD h .nil p.1.toNat) hW p.2.toNat

theorem all_of_rel {R : Int → Int → Prop} {P : Int → Bool} (hRP : ∀ x y, R x y → P x = true → P y = true)
    {g g' : Jx.Grid Int} (h : GridRel R g g') (hg : Jx.Grid.all P g = true) : Jx.Grid.all P g' = true :=
  Rel2.all (fun _ _ hr => Rel2.all hRP hr) h hg

theorem map_of_rel {β : Type} {R : Int → Int → Prop} {f : Int → β} (hR : ∀ x y, R x y → f y = f x)
    {g g' : Jx.Grid Int} (h : GridRel R g g') : Jx.Grid.map f g' = Jx.Grid.map f g :=
  Rel2.map_eq (fun _ _ hr => Rel2.map_eq hR hr) h

theorem zip_all_of_rel {R : Int → Int → Prop} {f : Int → Int → Bool} (hR : ∀ x y, R x y → f x y = true)
    {g g' : Jx.Grid Int} (h : GridRel R g g') : Jx.Grid.all id (Jx.Grid.zipWith f g g') = true :=
  Rel2.zipWith_all (f := List.zipWith f) (p := fun r => r.all id) (fun _ _ hr => Rel2.zipWith_all hR hr) h

theorem zip_clean_of_mono {g g' : Jx.Grid Int} (h : Mono g g') :
    Jx.Grid.all id (Jx.Grid.zipWith (fun v v' => v != CLEAN || v' == CLEAN) g g') = true := by
  refine zip_all_of_rel ?_ h
  rintro x y (rfl | ⟨_, hy⟩)
  · by_cases hc : y = CLEAN <;> simp [hc]
  · simp [hy]

theorem tiles_of_mono {g g' : Jx.Grid Int} (h : Mono g g')
    (hv : Jx.Grid.all (fun v => v == DIRTY || v == CLEAN || v == WALL) g = true) :
    Jx.Grid.all (fun v => v == DIRTY || v == CLEAN || v == WALL) g' = true := by
  refine all_of_rel ?_ h hv
  rintro x y (rfl | ⟨_, rfl⟩) hx
  · exact hx
  · decide

theorem walls_of_dirtyRel {g g' : Jx.Grid Int} (h : GridRel DirtyC g g') :
    Jx.Grid.map (fun v => decide (v = WALL)) g' = Jx.Grid.map (fun v => decide (v = WALL)) g := by
  refine map_of_rel ?_ h
  rintro x y (rfl | ⟨rfl, rfl⟩)
  · rfl
  · decide

def mapIdx2 (F : Nat → Nat → Int → Int) (g : Jx.Grid Int) : Jx.Grid Int :=
  List.mapIdx (fun r row => List.mapIdx (fun c v => F r c v) row) g

theorem cleanSpec_eq (g : Jx.Grid Int) (locs : List Pos) :
    cleanSpec g locs = mapIdx2 (fun r c v => if ((r : Int), (c : Int)) ∈ locs then CLEAN else v) g := rfl

theorem rel_mapIdx2 {R : Int → Int → Prop} (g : Jx.Grid Int) (F : Nat → Nat → Int → Int)
    (h : ∀ r row, g[r]? = some row → ∀ c x, row[c]? = some x → R x (F r c x)) :
    Rel2 (Rel2 R) g (mapIdx2 F g) :=
  Rel2.mapIdx g _ (fun r row hrow => Rel2.mapIdx row _ (h r row hrow))

theorem mapIdx2_comp (F G : Nat → Nat → Int → Int) (g : Jx.Grid Int) :
    mapIdx2 F (mapIdx2 G g) = mapIdx2 (fun r c x => F r c (G r c x)) g := by
  unfold mapIdx2
  rw [List.mapIdx_mapIdx]
  congr 1
  funext r row
  simp only [Function.comp]
  rw [List.mapIdx_mapIdx]
  rfl

theorem mapIdx2_eq_self (g : Jx.Grid Int) (F : Nat → Nat → Int → Int)
    (h : ∀ r row, g[r]? = some row → ∀ c x, row[c]? = some x → F r c x = x) : mapIdx2 F g = g :=
  Rel2.eq (Rel2.mono (fun _ _ h => Rel2.eq h) (rel_mapIdx2 (R := fun x y => y = x) g F h))

/-- `Jx.Grid.set_eq_mapIdx` over this file's `mapIdx2`, so that `rel_mapIdx2` and `mapIdx2_comp` apply after the rewrite -/
theorem set_eq_mapIdx2 (g : Jx.Grid Int) (i j : Nat) (v : Int) :
    Jx.Grid.set g i j v = mapIdx2 (fun r c x => if r = i ∧ c = j then v else x) g := Jx.Grid.set_eq_mapIdx g i j v

theorem mono_setWD (g : Jx.Grid Int) (r c : Int) : Mono g (Jx.Grid.setWD g r c CLEAN) := by
  obtain ⟨r', c', e⟩ := Jx.Grid.setWD_eq_set g r c CLEAN
  rw [e, set_eq_mapIdx2]
  apply rel_mapIdx2
  intro _ _ _ _ x _
  split
  · by_cases hx : x = CLEAN
    · exact Or.inl hx.symm
    · exact Or.inr ⟨hx, rfl⟩
  · exact Or.inl rfl

theorem mono_cleanTiles (g : Jx.Grid Int) (locs : List Pos) : Mono g (cleanTiles g locs) := by
  unfold cleanTiles
  induction locs generalizing g with
  | nil => exact Mono.refl g
  | cons p ps ih => exact Mono.trans (mono_setWD g p.1 p.2) (ih _)

/-- `h`: the scatter wraps negative indices -/
theorem cleanTiles_eq_cleanSpec (g : Jx.Grid Int) (locs : List Pos) (h : ∀ p ∈ locs, 0 ≤ p.1 ∧ 0 ≤ p.2) :
    cleanTiles g locs = cleanSpec g locs := by
  induction locs generalizing g with
  | nil =>
    rw [cleanSpec_eq]
    simp only [List.not_mem_nil, if_false]
    exact (mapIdx2_eq_self g _ fun _ _ _ _ _ _ => rfl).symm
  | cons p ps ih =>
    obtain ⟨hr, hc⟩ := h p (by simp)
    obtain ⟨r0, hr0⟩ := Int.eq_ofNat_of_zero_le hr
    obtain ⟨c0, hc0⟩ := Int.eq_ofNat_of_zero_le hc
    obtain rfl : p = ((r0 : Int), (c0 : Int)) := Prod.ext hr0 hc0
    show cleanTiles (Jx.Grid.setWD g r0 c0 CLEAN) ps = _
    rw [ih _ (fun q hq => h q (by simp [hq])), Jx.Grid.setWD_natCast, set_eq_mapIdx2,
      cleanSpec_eq, cleanSpec_eq, mapIdx2_comp]
    congr 1
    funext r c x
    simp only [List.mem_cons, Prod.mk.injEq, Int.natCast_inj]
    by_cases hm : ((r : Int), (c : Int)) ∈ ps <;> by_cases hrc : r = r0 ∧ c = c0 <;> simp [hm, hrc]

theorem sumNat_cons (x : Nat) (xs : List Nat) : Jx.sumNat (x :: xs) = x + Jx.sumNat xs := by
  unfold Jx.sumNat
  rw [← List.sum_eq_foldl_nat, ← List.sum_eq_foldl_nat, List.sum_cons]

theorem countDiff_cons (r r' : List Int) (g g' : Jx.Grid Int) :
    countDiff (r :: g) (r' :: g') = Jx.countTrue (List.zipWith (fun x y => x != y) r r') + countDiff g g' := by
  unfold countDiff; simp only [List.zipWith_cons_cons, sumNat_cons]

theorem countTiles_cons (v : Int) (r : List Int) (g : Jx.Grid Int) :
    countTiles v (r :: g) = (r.filter (fun x => x == v)).length + countTiles v g := by
  unfold countTiles Jx.Grid.count; simp

theorem countDiff_nil : countDiff [] [] = 0 := rfl
theorem countTiles_nil (v : Int) : countTiles v [] = 0 := rfl

theorem row_count_mono {r r' : List Int} (h : Rel2 MonoC r r') :
    (r'.filter (fun x => x == CLEAN)).length
      = (r.filter (fun x => x == CLEAN)).length + Jx.countTrue (List.zipWith (fun x y => x != y) r r') := by
  induction h with
  | nil => rfl
  | @cons x y xs ys hxy _ ih =>
    unfold Jx.countTrue at ih ⊢
    rcases hxy with hxy | ⟨hx, hy⟩
    · subst hxy
      by_cases hc : y = CLEAN <;> simp [hc, ih] <;> omega
    · subst hy
      have hne : (x != CLEAN) = true := by simpa using hx
      simp [hx, hne, ih]; omega

theorem count_mono {g g' : Jx.Grid Int} (h : Mono g g') :
    countTiles CLEAN g' = countTiles CLEAN g + countDiff g g' := by
  induction h with
  | nil => rfl
  | cons hr _ ih =>
    rw [countTiles_cons, countTiles_cons, countDiff_cons, ih, row_count_mono hr]; omega

theorem row_count_dirty {r r' : List Int} (h : Rel2 DirtyC r r') :
    (r.filter (fun x => x == DIRTY)).length
      = (r'.filter (fun x => x == DIRTY)).length + Jx.countTrue (List.zipWith (fun x y => x != y) r r') := by
  induction h with
  | nil => rfl
  | @cons x y xs ys hxy _ ih =>
    unfold Jx.countTrue at ih ⊢
    rcases hxy with hxy | ⟨hx, hy⟩
    · subst hxy
      by_cases hc : y = DIRTY <;> simp [hc, ih] <;> omega
    · subst hx; subst hy
      have h1 : (CLEAN == DIRTY) = false := by decide
      have h2 : (DIRTY != CLEAN) = true := by decide
      simp [h1, h2, ih]; omega

theorem count_dirty {g g' : Jx.Grid Int} (h : GridRel DirtyC g g') :
    countTiles DIRTY g = countTiles DIRTY g' + countDiff g g' := by
  induction h with
  | nil => rfl
  | cons hr _ ih =>
    rw [countTiles_cons, countTiles_cons, countDiff_cons, ih, row_count_dirty hr]; omega

theorem reward_telescopes (cfg : Cfg) (s : State) (a : List Int) :
    potential cfg (step cfg s a).1 = potential cfg s + ((step cfg s a).2.reward).sum := by
  rw [step_reward]
  have hm : Mono s.grid (step cfg s a).1.grid := mono_cleanTiles s.grid _
  have hc := count_mono hm
  unfold potential reward
  rw [hc, step_count, Rat.natCast_add, Rat.intCast_add]
  simp only [List.sum_cons, List.sum_nil]
  have : ((1 : Int) : Rat) = 1 := rfl
  rw [this]
  grind

theorem tile_of_cell {g : Jx.Grid Int} {r c : Nat} {row : List Int} {x : Int} (h1 : g[r]? = some row)
    (h2 : row[c]? = some x) : tile g ((r : Int), (c : Int)) = x := by
  show Jx.Grid.get g WALL r c = x
  rw [Jx.Grid.get_eq_of_row h1, Jx.getD_of_getElem? _ h2]

theorem tile_cleanSpec {cfg : Cfg} {g : Jx.Grid Int} (h : Jx.Grid.shaped g cfg.numRows cfg.numCols = true)
    (locs : List Pos) {p : Pos} (hp : inGrid cfg p) :
    tile (cleanSpec g locs) p = if p ∈ locs then CLEAN else tile g p := by
  obtain ⟨r, c⟩ := p
  obtain ⟨h1, h2, h3, h4⟩ := hp
  obtain ⟨r, rfl⟩ := Int.eq_ofNat_of_zero_le h1
  obtain ⟨c, rfl⟩ := Int.eq_ofNat_of_zero_le h3
  have hr : r < g.length := by rw [Jx.Grid.shaped_length h]; simp only [] at h2; omega
  have hc : c < g[r].length := by
    have := Jx.Grid.shaped_row h (r := r) (by simp only [] at h2; omega)
    rw [Jx.getD_eq_getElem [] hr] at this
    simp only [] at h4; omega
  simp [tile, Jx.Grid.get, cleanSpec, List.getD_eq_getElem?_getD, hr, hc]

theorem moveSpec_length (cfg : Cfg) (g : Jx.Grid Int) (agents : List Pos) (action : List Nat)
    (hl : action.length = agents.length) : (moveSpec cfg g agents action).length = agents.length := by
  unfold moveSpec; simp [hl]

theorem moveSpec_free {cfg : Cfg} {s : State} (hon : ∀ p ∈ s.agents, inGrid cfg p ∧ tile s.grid p = CLEAN)
    (action : List Nat) :
    ∀ p ∈ moveSpec cfg s.grid s.agents action, inGrid cfg p ∧ tile s.grid p ≠ WALL := by
  intro p hp
  obtain ⟨loc, hloc, a, _, rfl⟩ := Jx.mem_zipWith hp
  split
  · rename_i h; exact h.2
  · exact ⟨(hon loc hloc).1, by rw [(hon loc hloc).2]; decide⟩

theorem step_shaped {cfg : Cfg} {s : State} (h : Jx.Grid.shaped s.grid cfg.numRows cfg.numCols = true)
    (a : List Int) : Jx.Grid.shaped (step cfg s a).1.grid cfg.numRows cfg.numCols = true :=
  (shaped_of_rel (mono_cleanTiles s.grid _) _ _).trans h

theorem obs_faithful {cfg : Cfg} {s : State} (h : Jx.Grid.shaped s.grid cfg.numRows cfg.numCols = true)
    (a : List Int) : (step cfg s a).2.obs = observe cfg (step cfg s a).1 := by
  rw [step_obs]
  show obsOf _ = { (obsOf (step cfg s a).1) with actionMask := legalMask cfg (step cfg s a).1.grid (step cfg s a).1.agents }
  rw [← computeMask_eq (step_shaped h a)]
  rfl

theorem step_grid_spec {cfg : Cfg} {s : State} (hC : Consistent cfg s) (action : List Nat)
    (ha : ∀ a ∈ action, a < 4) :
    (step cfg s (action.map Int.ofNat)).1.grid = cleanSpec s.grid (moveSpec cfg s.grid s.agents action) := by
  have e : (step cfg s (action.map Int.ofNat)).1.grid
      = cleanTiles s.grid (step cfg s (action.map Int.ofNat)).1.agents := rfl
  rw [e, step_agents hC.inv action ha]
  apply cleanTiles_eq_cleanSpec
  intro p hp
  have := (moveSpec_free hC.onClean action p hp).1
  exact ⟨this.1, this.2.2.1⟩

theorem step_mask {cfg : Cfg} {s : State} (h : Jx.Grid.shaped s.grid cfg.numRows cfg.numCols = true)
    (a : List Int) :
    (step cfg s a).1.actionMask = legalMask cfg (step cfg s a).1.grid (step cfg s a).1.agents := by
  have hm : (step cfg s a).1.actionMask = computeMask cfg (step cfg s a).1.grid (step cfg s a).1.agents := rfl
  rw [hm, computeMask_eq (step_shaped h a)]

theorem step_consistent {cfg : Cfg} {s : State} (hC : Consistent cfg s) (action : List Nat)
    (hl : action.length = s.agents.length) (ha : ∀ a ∈ action, a < 4) :
    Consistent cfg (step cfg s (action.map Int.ofNat)).1 := by
  have hsh := hC.shaped
  refine ⟨⟨step_shaped hsh _, ?_, step_mask hsh _⟩, ?_, ?_⟩
  · rw [step_agents hC.inv action ha, moveSpec_length _ _ _ _ hl]; exact hC.numAgents
  · exact tiles_of_mono (mono_cleanTiles s.grid _) hC.tiles
  · intro p hp
    rw [step_agents hC.inv action ha] at hp
    have hin := (moveSpec_free hC.onClean action p hp).1
    refine ⟨hin, ?_⟩
    rw [step_grid_spec hC action ha, tile_cleanSpec hsh _ hin]
    simp [hp]

theorem moveSpec_all_illegal (cfg : Cfg) (g : Jx.Grid Int) (agents : List Pos) (action : List Nat)
    (hl : action.length = agents.length)
    (hill : ∀ b ∈ List.zipWith (fun loc a => decide (legalAt cfg g loc a)) agents action, b = false) :
    moveSpec cfg g agents action = agents := by
  unfold moveSpec
  induction agents generalizing action with
  | nil => simp
  | cons q qs ih =>
    cases action with
    | nil => simp at hl
    | cons a as =>
      simp only [List.zipWith_cons_cons, List.mem_cons, forall_eq_or_imp, decide_eq_false_iff_not] at hill
      simp only [List.zipWith_cons_cons, hill.1, if_false]
      rw [ih as (by simpa using hl) hill.2]

theorem cleanSpec_self {g : Jx.Grid Int} (locs : List Pos)
    (h : ∀ p ∈ locs, tile g p = CLEAN) : cleanSpec g locs = g := by
  rw [cleanSpec_eq]
  refine mapIdx2_eq_self g _ ?_
  intro r row hrow c x hx
  split
  · rename_i hm
    have := h _ hm
    rw [tile_of_cell hrow hx] at this
    exact this.symm
  · rfl

theorem dirtyRel_cleanSpec {g : Jx.Grid Int} (hv : Jx.Grid.all (fun v => v == DIRTY || v == CLEAN || v == WALL) g = true)
    (locs : List Pos) (hw : ∀ p ∈ locs, tile g p ≠ WALL) : GridRel DirtyC g (cleanSpec g locs) := by
  rw [cleanSpec_eq]
  apply rel_mapIdx2
  intro r row hrow c x hx
  split
  · rename_i hm
    have hnw := hw _ hm
    rw [tile_of_cell hrow hx] at hnw
    have hx3 := Jx.Grid.cell_of_all hv hrow hx
    simp only [Bool.or_eq_true, beq_iff_eq] at hx3
    rcases hx3 with (h | h) | h
    · exact .inr ⟨h, rfl⟩
    · exact .inl h.symm
    · exact absurd h hnw
  · exact .inl rfl

theorem step_dirtyRel {cfg : Cfg} {s : State} (hC : Consistent cfg s) (action : List Nat)
    (ha : ∀ a ∈ action, a < 4) : GridRel DirtyC s.grid (step cfg s (action.map Int.ofNat)).1.grid := by
  rw [step_grid_spec hC action ha]
  exact dirtyRel_cleanSpec hC.tiles _ fun p hp => (moveSpec_free hC.onClean action p hp).2

theorem conserved_of_dirtyRel {s s' : State} (hl : s'.agents.length = s.agents.length)
    (h : GridRel DirtyC s.grid s'.grid) : conserved s s' = true := by
  unfold conserved
  simp only [Bool.and_eq_true, decide_eq_true_eq]
  exact ⟨⟨hl, walls_of_dirtyRel h⟩, zip_clean_of_mono (mono_of_dirtyRel h)⟩

theorem step_countDiff {cfg : Cfg} {s : State} (hC : Consistent cfg s) (action : List Nat)
    (ha : ∀ a ∈ action, a < 4) :
    countDiff s.grid (step cfg s (action.map Int.ofNat)).1.grid
      = countTiles DIRTY s.grid - countTiles DIRTY (step cfg s (action.map Int.ofNat)).1.grid := by
  have := count_dirty (step_dirtyRel hC action ha)
  omega

theorem step_reward_spec {cfg : Cfg} {s : State} (hC : Consistent cfg s) (action : List Nat)
    (ha : ∀ a ∈ action, a < 4) :
    reward cfg s.grid (step cfg s (action.map Int.ofNat)).1.grid
      = rewardSpec cfg s (step cfg s (action.map Int.ofNat)).1 := by
  unfold reward rewardSpec
  rw [step_countDiff hC action ha]

theorem anyDirty_false_iff (g : Jx.Grid Int) : anyDirty g = false ↔ countTiles DIRTY g = 0 := by
  unfold anyDirty countTiles Jx.Grid.any Jx.Grid.count
  rw [← List.any_flatten, List.length_eq_zero_iff, List.filter_eq_nil_iff, List.any_eq_false]

theorem step_next_refines {cfg : Cfg} {s : State} (hC : Consistent cfg s) (action : List Nat)
    (ha : ∀ a ∈ action, a < 4) : (step cfg s (action.map Int.ofNat)).1 = nextSpec cfg s action := by
  have h3 := step_mask hC.shaped (action.map Int.ofNat)
  rw [step_grid_spec hC action ha, step_agents hC.inv action ha] at h3
  show State.mk _ _ _ _ = State.mk _ _ _ _
  rw [State.mk.injEq]
  exact ⟨step_grid_spec hC action ha, step_agents hC.inv action ha, h3, rfl⟩

theorem step_done_refines {cfg : Cfg} {s : State} (hC : Consistent cfg s) (action : List Nat)
    (ha : ∀ a ∈ action, a < 4) :
    shouldTerminate cfg (step cfg s (action.map Int.ofNat)).1 (isActionValid (action.map Int.ofNat) s.actionMask)
      = decide (endsSpec cfg s action (nextSpec cfg s action)) := by
  rw [← step_next_refines hC action ha, step_agrees hC.inv action ha]
  unfold shouldTerminate endsSpec
  rw [Bool.eq_iff_iff]
  simp only [Bool.or_eq_true, Bool.not_eq_true', decide_eq_true_eq, Jx.any_not_iff_all, anyDirty_false_iff, or_assoc]

theorem step_refines {cfg : Cfg} {s : State} (hC : Consistent cfg s) (action : List Nat)
    (ha : ∀ a ∈ action, a < 4) : step cfg s (action.map Int.ofNat) = stepSpec cfg s action := by
  have hobs : obsOf (step cfg s (action.map Int.ofNat)).1 = observe cfg (step cfg s (action.map Int.ofNat)).1 := by
    rw [← step_obs]; exact obs_faithful hC.shaped _
  refine Prod.ext (step_next_refines hC action ha) ?_
  rw [step_snd, step_done_refines hC action ha, hobs, step_reward_spec hC action ha, step_next_refines hC action ha]
  rfl

end Cleaner
