/-
BinPack, C10: `generate_solution` tied to the reset instance.
`solvedState c maxEms bs` = the state `_generate_solved_instance` builds from the item spaces `bs` (every space an
item placed at its own corner, no active EMS); `unpackItems` = `Generator._unpack_items` (what `__call__` returns).
For `bs` a tiling of the container (`splitLoop_tiles`, SplitGen.lean): the solution is a perfect packing of the SAME items as the
reset state, feasible, and complete (nothing more can be packed); the reset state has `ResetShape` and positive items.
(The padding slots of the real buffers — `items_mask = False` — are omitted: `bs` lists the active spaces only.)
-/
import JumanjiModel.Env.BinPack.CoverLemmas
namespace BinPack
open Jm

/-- `location_from_space` -/
def cornerOf (b : Space) : Loc := ⟨b.x1, b.y1, b.z1⟩

/-- `RandomGenerator._generate_solved_instance` for the item spaces `bs` (`1 + (maxEms - 1)` is the length of `ems` as
written here, so that mask and index array agree with it also when `maxEms = 0`) -/
def solvedState (c : Space) (maxEms : Nat) (bs : List Space) : State :=
  { container := c
    ems := c :: List.replicate (maxEms - 1) ⟨0, 0, 0, 0, 0, 0⟩
    emsMask := List.replicate (1 + (maxEms - 1)) false
    items := bs.map itemFromSpace
    itemsMask := List.replicate bs.length true
    itemsPlaced := List.replicate bs.length true
    itemsLoc := bs.map cornerOf
    actionMask := [], sortedIdx := (List.range (1 + (maxEms - 1))).map (fun (k : Nat) => (k : Int)) }

/-- `Generator._unpack_items` -/
def unpackItems (s : State) : State :=
  { s with emsMask := (List.range s.emsMask.length).map (fun k => decide (k = 0))
           itemsPlaced := List.replicate s.items.length false
           itemsLoc := List.replicate s.items.length ⟨0, 0, 0⟩ }

theorem spaceFrom_itemFromSpace (b : Space) : spaceFrom (itemFromSpace b) (cornerOf b) = b := by
  cases b
  simp only [spaceFrom, itemFromSpace, cornerOf, Space.mk.injEq]
  refine ⟨trivial, by omega, trivial, by omega, trivial, by omega⟩

theorem solved_placedSpace (c : Space) (maxEms : Nat) (bs : List Space) (i : Nat) (hi : i < bs.length) :
    placedSpace (solvedState c maxEms bs) i = bs[i] := by
  unfold placedSpace solvedState
  simp only [List.getD_eq_getElem?_getD, List.getElem?_map, List.getElem?_eq_getElem hi, Option.map_some,
    Option.getD_some]
  exact spaceFrom_itemFromSpace _

theorem solved_placedBoxes (c : Space) (maxEms : Nat) (bs : List Space) :
    placedBoxes (solvedState c maxEms bs) = bs := by
  unfold placedBoxes
  have hlen : (solvedState c maxEms bs).items.length = bs.length := by simp [solvedState]
  rw [hlen]
  have hf : (List.range bs.length).filter (fun i => (solvedState c maxEms bs).itemsPlaced.getD i false) =
      List.range bs.length := by
    apply List.filter_eq_self.mpr
    intro i hi
    exact Jx.getD_replicate true false (List.mem_range.mp hi)
  rw [hf]
  apply List.ext_getElem
  · simp
  · intro i h1 h2
    simp only [List.getElem_map, List.getElem_range]
    exact solved_placedSpace c maxEms bs i h2

theorem solved_WF (c : Space) (maxEms : Nat) (bs : List Space) : WF (solvedState c maxEms bs) := by
  simp [WF, solvedState]; omega

theorem solved_perfect (c : Space) (maxEms : Nat) (bs : List Space) (h : Tiles c bs) (cfg : Cfg) (rnd : Rat → Rat) :
    PerfectPacking (solvedState c maxEms bs) ∧ PlacedNonneg (solvedState c maxEms bs) ∧
    Feasible (solvedState c maxEms bs) ∧ Complete cfg rnd (solvedState c maxEms bs) := by
  have hw := solved_WF c maxEms bs
  have hpp := (perfectPacking_iff_tiles (solvedState c maxEms bs)).2
    ⟨hw, rfl, by rw [solved_placedBoxes]; exact h⟩
  have hoff : ∀ k, (solvedState c maxEms bs).emsMask.getD k false = false := fun k => Jx.getD_replicate_self _ _ _
  refine ⟨hpp.1, hpp.2, ⟨hw, hpp.1.2.2.1.1, hpp.1.2.2.1.2, ?_, ?_⟩, ?_⟩
  · intro k _ hm; rw [hoff k] at hm; cases hm
  · intro k _ hm; rw [hoff k] at hm; cases hm
  · intro e i hl
    have hnp := hl.2.2.2.1
    rw [show (solvedState c maxEms bs).itemsPlaced.getD i true = true from Jx.getD_replicate_self _ _ _] at hnp
    cases hnp

theorem unpack_reset (c : Space) (maxEms : Nat) (bs : List Space) (hc1 : c.x1 = 0 ∧ c.y1 = 0 ∧ c.z1 = 0)
    (hc2 : 0 < c.x2 ∧ 0 < c.y2 ∧ 0 < c.z2) :
    (unpackItems (solvedState c maxEms bs)).container = (solvedState c maxEms bs).container ∧
    (unpackItems (solvedState c maxEms bs)).items = (solvedState c maxEms bs).items ∧
    (unpackItems (solvedState c maxEms bs)).itemsMask = (solvedState c maxEms bs).itemsMask ∧
    ResetShape (unpackItems (solvedState c maxEms bs)) := by
  refine ⟨rfl, rfl, rfl, ?_⟩
  unfold ResetShape
  refine ⟨?_, hc1.1, hc1.2.1, hc1.2.2, hc2.1, hc2.2.1, hc2.2.2, rfl, ?_, rfl, rfl⟩
  · simp [WF, unpackItems, solvedState]; omega
  · show (List.range (List.replicate (1 + (maxEms - 1)) false).length).map (fun k => decide (k = 0)) =
      (List.range (c :: List.replicate (maxEms - 1) (⟨0, 0, 0, 0, 0, 0⟩ : Space)).length).map (fun k => decide (k = 0))
    simp only [List.length_replicate, List.length_cons]
    rw [Nat.add_comm]

theorem unpack_itemsPositive (c : Space) (maxEms : Nat) (bs : List Space) (h : ∀ b ∈ bs, b.isEmpty = false) :
    ItemsPositive (unpackItems (solvedState c maxEms bs)) := by
  intro i hi _
  have hi' : i < bs.length := by simpa [unpackItems, solvedState] using hi
  have hb := h bs[i] (List.getElem_mem hi')
  have : (unpackItems (solvedState c maxEms bs)).items.getD i default = itemFromSpace bs[i] := by
    simp [unpackItems, solvedState, List.getD_eq_getElem?_getD, hi']
  rw [this]
  rw [isEmpty_false_iff] at hb
  simp only [itemFromSpace]
  omega

end BinPack
