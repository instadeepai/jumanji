/-
BinPack: an L2 objective that is INDEPENDENT of the function the L1 reward calls.
`coveredFraction s` = (number of unit cells of the container that lie in some placed item) / (number of unit
cells of the container), counted cell by cell (`Space.cells`, `coverCount`, CoverLemmas.lean).  For a feasible
packing it equals `utilisation s` = Σ placed item volumes / container volume, the quantity `SparseReward` pays
and `DenseReward` telescopes to.
-/
import JumanjiModel.Env.BinPack.CoverLemmas
namespace BinPack
open Jm

/-- number of unit cells of the container that lie in at least one placed item -/
def coveredCells (s : State) : Nat :=
  (s.container.cells.filter (fun p => decide (0 < coverCount (placedBoxes s) p))).length

/-- L2 objective: the fraction of the container (counted in unit cells) that is filled -/
def coveredFraction (s : State) : Rat := (coveredCells s : Rat) / (s.container.cells.length : Rat)

theorem mem_allCells (bs : List Space) (p : Cell) :
    p ∈ bs.flatMap Space.cells ↔ ∃ b, b ∈ bs ∧ b.hasCell p = true := by
  simp only [List.mem_flatMap, mem_cells]

theorem coveredCells_eq (s : State) (hF : ItemsFeasible s) (hnn : PlacedNonneg s) :
    (coveredCells s : Int) = placedVolume s := by
  obtain ⟨hin, hdis⟩ := hF
  have hpw : (placedBoxes s).Pairwise (fun a b => a.intersect b = false) := by
    rw [placedBoxes_pairwise]
    intro i hi j hj hij hpi hpj
    exact hdis i hi j hj (by omega) hpi hpj
  have hproper : ∀ b ∈ placedBoxes s, b.Proper := by
    intro b hb
    obtain ⟨i, hi, hp, rfl⟩ := (mem_placedBoxes s b).1 hb
    exact (placedSpace_proper s i).2 (hnn i hi hp)
  rw [← placedBoxes_volume, ← allCells_length _ hproper]
  congr 1
  unfold coveredCells
  apply List.Perm.length_eq
  rw [List.perm_ext_iff_of_nodup ((cells_nodup _).filter _) (allCells_nodup _ hpw)]
  intro p
  rw [mem_allCells, List.mem_filter, mem_cells]
  simp only [decide_eq_true_eq, coverCount, List.countP_pos_iff]
  constructor
  · rintro ⟨_, b, hb, hbp⟩; exact ⟨b, hb, hbp⟩
  · rintro ⟨b, hb, hbp⟩
    obtain ⟨i, hi, hp, rfl⟩ := (mem_placedBoxes s b).1 hb
    exact ⟨hasCell_mono _ _ (hin i hi hp) p hbp, _, hb, hbp⟩

theorem utilisation_eq_covered (s : State) (hF : ItemsFeasible s) (hnn : PlacedNonneg s)
    (hc : s.container.Proper) : utilisation s = coveredFraction s := by
  unfold utilisation coveredFraction
  rw [← coveredCells_eq s hF hnn, ← cells_length _ hc]
  simp [Rat.intCast_natCast]

theorem run_utilisation_eq_covered (cfg : Cfg) (rnd : Rat → Rat) (s₀ : State) (h0 : ResetShape s₀)
    (hf0 : Fresh cfg rnd s₀) (hpos : ItemsPositive s₀) (n : Nat) (s : State) (hr : Run cfg rnd s₀ n s) :
    utilisation s = coveredFraction s := by
  have h := run_invariant cfg rnd s₀ h0 hf0 n s hr
  apply utilisation_eq_covered s ⟨h.feasible.2.1, h.feasible.2.2.1⟩
  · intro i hlt hp
    have := hpos i (by rw [← h.items]; exact hlt) (by rw [← h.mask]; exact h.sub i hp)
    rw [h.items]; omega
  · rw [h.container]
    obtain ⟨_, hx, hy, hz, hx2, hy2, hz2, _⟩ := h0
    unfold Space.Proper; omega

end BinPack
