/-
BinPack, C10/C06: from the volume certificate to point-wise exact cover.

`Tiles c bs` (Lemmas.lean) says: proper boxes inside `c`, pairwise non-overlapping, volumes adding up to the
volume of `c`.  Here the counting argument over unit cells is carried out: a box with integer corners is the
disjoint union of the unit cells `[x,x+1)×[y,y+1)×[z,z+1)` with `(x,y,z)` in the half-open box
(`Space.hasCell`); the number of its cells is its volume; the cells of pairwise non-overlapping boxes are
pairwise different and all lie in `c`; as many different cells of `c` as `c` has cells are ALL cells of `c`.
Hence every unit cell of the container lies in some box (`tiles_covers`), and in exactly one (`tiles_exact_cover`).

The index-level certificate `PerfectPacking s` that the driver evaluates on the state returned by
`generate_solution` is, together with `PlacedNonneg s`, the list-level `Tiles s.container (placedBoxes s)` with `WF s` and
`itemsPlaced = itemsMask` (`perfectPacking_iff_tiles`), so every unit cell of the container is covered by exactly one
placed item.
-/
import JumanjiModel.Env.BinPack.Lemmas
namespace BinPack
open Jm

/-- the unit cell with min-corner `(x, y, z)` -/
abbrev Cell := Int × Int × Int

/-- the unit cell `[x,x+1)×[y,y+1)×[z,z+1)` lies in the box (integer corners: iff its min-corner lies in
the half-open box) -/
def Space.hasCell (b : Space) (p : Cell) : Bool :=
  decide (b.x1 ≤ p.1) && decide (p.1 < b.x2) && decide (b.y1 ≤ p.2.1) && decide (p.2.1 < b.y2) &&
  decide (b.z1 ≤ p.2.2) && decide (p.2.2 < b.z2)

theorem hasCell_iff (b : Space) (p : Cell) : b.hasCell p = true ↔
    b.x1 ≤ p.1 ∧ p.1 < b.x2 ∧ b.y1 ≤ p.2.1 ∧ p.2.1 < b.y2 ∧ b.z1 ≤ p.2.2 ∧ p.2.2 < b.z2 := by
  simp [Space.hasCell, and_assoc]

theorem hasCell_disjoint (a b : Space) (h : a.intersect b = false) (p : Cell) (ha : a.hasCell p = true) :
    b.hasCell p = false := by
  have sep : ∀ {a1 a2 b1 b2 x : Int}, min a2 b2 ≤ max a1 b1 → a1 ≤ x → x < a2 → b1 ≤ x → x < b2 → False := by omega
  rw [Bool.eq_false_iff]
  intro hb
  rw [hasCell_iff] at ha hb
  rcases (inter_false_iff a b).mp h with h | h | h
  · exact sep h ha.1 ha.2.1 hb.1 hb.2.1
  · exact sep h ha.2.2.1 ha.2.2.2.1 hb.2.2.1 hb.2.2.2.1
  · exact sep h ha.2.2.2.2.1 ha.2.2.2.2.2 hb.2.2.2.2.1 hb.2.2.2.2.2

theorem hasCell_mono (a c : Space) (h : a.isIncluded c = true) (p : Cell) (ha : a.hasCell p = true) :
    c.hasCell p = true := by
  rw [hasCell_iff] at ha ⊢; rw [incl_iff] at h
  exact ⟨Int.le_trans h.1 ha.1, Int.lt_of_lt_of_le ha.2.1 h.2.1, Int.le_trans h.2.2.1 ha.2.2.1,
    Int.lt_of_lt_of_le ha.2.2.2.1 h.2.2.2.1, Int.le_trans h.2.2.2.2.1 ha.2.2.2.2.1,
    Int.lt_of_lt_of_le ha.2.2.2.2.2 h.2.2.2.2.2⟩

/-- the integers of `[lo, hi)` -/
def cells1 (lo hi : Int) : List Int := (List.range (hi - lo).toNat).map (fun (i : Nat) => lo + (i : Int))

theorem mem_cells1 (lo hi x : Int) : x ∈ cells1 lo hi ↔ lo ≤ x ∧ x < hi := by
  unfold cells1
  rw [List.mem_map]
  constructor
  · rintro ⟨i, hi', rfl⟩
    have := List.mem_range.1 hi'
    omega
  · rintro ⟨h1, h2⟩
    exact ⟨(x - lo).toNat, List.mem_range.2 (by omega), by omega⟩

theorem cells1_length (lo hi : Int) : (cells1 lo hi).length = (hi - lo).toNat := by simp [cells1]

theorem cells1_nodup (lo hi : Int) : (cells1 lo hi).Nodup := by
  unfold cells1 List.Nodup
  rw [List.pairwise_map]
  exact List.Pairwise.imp (fun {a b} (h : a ≠ b) => by omega) List.nodup_range

def Space.cells (b : Space) : List Cell :=
  (cells1 b.x1 b.x2).flatMap fun x => (cells1 b.y1 b.y2).flatMap fun y =>
    (cells1 b.z1 b.z2).map fun z => (x, y, z)

theorem mem_cells (b : Space) (p : Cell) : p ∈ b.cells ↔ b.hasCell p = true := by
  obtain ⟨x, y, z⟩ := p
  unfold Space.cells
  rw [hasCell_iff]
  simp only [List.mem_flatMap, List.mem_map, mem_cells1, Prod.mk.injEq]
  constructor
  · rintro ⟨x', hx, y', hy, z', hz, rfl, rfl, rfl⟩
    exact ⟨hx.1, hx.2, hy.1, hy.2, hz.1, hz.2⟩
  · rintro ⟨h1, h2, h3, h4, h5, h6⟩
    exact ⟨x, ⟨h1, h2⟩, y, ⟨h3, h4⟩, z, ⟨h5, h6⟩, rfl, rfl, rfl⟩

theorem cells_length_nat (b : Space) :
    b.cells.length = (b.x2 - b.x1).toNat * ((b.y2 - b.y1).toNat * (b.z2 - b.z1).toNat) := by
  unfold Space.cells
  rw [Jx.length_flatMap_uniform _ _ ((b.y2 - b.y1).toNat * (b.z2 - b.z1).toNat), cells1_length]
  intro x _
  rw [Jx.length_flatMap_uniform _ _ ((b.z2 - b.z1).toNat), cells1_length]
  intro y _
  simp [cells1_length]

theorem cells_length (b : Space) (hb : b.Proper) : (b.cells.length : Int) = b.volume := by
  rw [cells_length_nat]
  unfold Space.Proper at hb
  unfold Space.volume
  rw [Int.natCast_mul, Int.natCast_mul, Int.toNat_of_nonneg (by omega), Int.toNat_of_nonneg (by omega),
    Int.toNat_of_nonneg (by omega), Int.mul_assoc]

theorem cells_nodup (b : Space) : b.cells.Nodup := by
  unfold Space.cells List.Nodup
  rw [List.pairwise_flatMap]
  refine ⟨fun x _ => ?_, ?_⟩
  · rw [List.pairwise_flatMap]
    refine ⟨fun y _ => ?_, ?_⟩
    · rw [List.pairwise_map]
      exact List.Pairwise.imp (fun {a b} (h : a ≠ b) => by simp [h]) (cells1_nodup _ _)
    · refine List.Pairwise.imp (fun {a b} (h : a ≠ b) => ?_) (cells1_nodup b.y1 b.y2)
      intro p hp q hq
      obtain ⟨_, _, rfl⟩ := List.mem_map.1 hp
      obtain ⟨_, _, rfl⟩ := List.mem_map.1 hq
      simp [h]
  · refine List.Pairwise.imp (fun {a b} (h : a ≠ b) => ?_) (cells1_nodup b.x1 b.x2)
    intro p hp q hq
    obtain ⟨_, _, hp'⟩ := List.mem_flatMap.1 hp
    obtain ⟨_, _, hq'⟩ := List.mem_flatMap.1 hq
    obtain ⟨_, _, rfl⟩ := List.mem_map.1 hp'
    obtain ⟨_, _, rfl⟩ := List.mem_map.1 hq'
    simp [h]

theorem allCells_length (bs : List Space) (h : ∀ b ∈ bs, b.Proper) :
    ((bs.flatMap Space.cells).length : Int) = (bs.map Space.volume).sum := by
  induction bs with
  | nil => simp
  | cons b bs ih =>
    rw [List.flatMap_cons, List.length_append, Int.natCast_add, cells_length b (h b (by simp)),
      ih (fun b' hb' => h b' (by simp [hb']))]
    simp

theorem allCells_nodup (bs : List Space) (h : bs.Pairwise (fun a b => a.intersect b = false)) :
    (bs.flatMap Space.cells).Nodup := by
  unfold List.Nodup
  rw [List.pairwise_flatMap]
  refine ⟨fun b _ => cells_nodup b, ?_⟩
  refine List.Pairwise.imp (fun {a b} (hab : a.intersect b = false) => ?_) h
  intro p hp q hq hpq
  subst hpq
  have := hasCell_disjoint a b hab p ((mem_cells a p).1 hp)
  rw [(mem_cells b p).1 hq] at this
  exact Bool.noConfusion this

/-- number of boxes of `bs` that contain the unit cell `p` -/
def coverCount (bs : List Space) (p : Cell) : Nat := bs.countP (fun b => b.hasCell p)

theorem coverCount_eq_one (bs : List Space) (h : bs.Pairwise (fun a b => a.intersect b = false)) (p : Cell)
    (hex : ∃ b ∈ bs, b.hasCell p = true) : coverCount bs p = 1 := by
  unfold coverCount
  induction bs with
  | nil => obtain ⟨b, hb, _⟩ := hex; simp at hb
  | cons a as ih =>
    rw [List.pairwise_cons] at h
    rw [List.countP_cons]
    by_cases ha : a.hasCell p = true
    · have : as.countP (fun b => b.hasCell p) = 0 := by
        rw [List.countP_eq_zero]
        intro b hb
        rw [hasCell_disjoint a b (h.1 b hb) p ha]
        exact Bool.noConfusion
      rw [this, ha]; rfl
    · obtain ⟨b, hb, hbp⟩ := hex
      have hb' : b ∈ as := by
        rcases List.mem_cons.1 hb with rfl | hb'
        · exact absurd hbp ha
        · exact hb'
      rw [ih h.2 ⟨b, hb', hbp⟩]
      simp [ha]

/-- the counting argument: in a tiling every unit cell of the container lies in some box -/
theorem tiles_covers (c : Space) (bs : List Space) (h : Tiles c bs) (p : Cell) (hp : c.hasCell p = true) :
    ∃ b ∈ bs, b.hasCell p = true := by
  obtain ⟨hin, hpw, hsum⟩ := h
  have hcp : c.Proper := by
    rw [hasCell_iff] at hp; unfold Space.Proper; omega
  have hlen : c.cells.length ≤ (bs.flatMap Space.cells).length := by
    have h1 := allCells_length bs (fun b hb => (hin b hb).1)
    have h2 := cells_length c hcp
    omega
  have hsub : ∀ q ∈ bs.flatMap Space.cells, q ∈ c.cells := by
    intro q hq
    obtain ⟨b, hb, hqb⟩ := List.mem_flatMap.1 hq
    exact (mem_cells c q).2 (hasCell_mono b c (hin b hb).2 q ((mem_cells b q).1 hqb))
  have := Jx.mem_of_nodup_length _ _ (allCells_nodup bs hpw) hsub hlen p ((mem_cells c p).2 hp)
  obtain ⟨b, hb, hpb⟩ := List.mem_flatMap.1 this
  exact ⟨b, hb, (mem_cells b p).1 hpb⟩

/-- C10, point-wise exact cover: in a tiling every unit cell of the container lies in exactly one box -/
theorem tiles_exact_cover (c : Space) (bs : List Space) (h : Tiles c bs) (p : Cell) (hp : c.hasCell p = true) :
    coverCount bs p = 1 :=
  coverCount_eq_one bs h.2.1 p (tiles_covers c bs h p hp)

/-- the boxes occupied by the placed items, in index order -/
def placedBoxes (s : State) : List Space :=
  ((List.range s.items.length).filter (fun i => s.itemsPlaced.getD i false)).map (placedSpace s)

/-- placed items have non-negative sides (implied by `ItemsPositive` on the present items when the placed items are the
present ones: `Props.C10.binpack_placedNonneg`) -/
def PlacedNonneg (s : State) : Prop :=
  ∀ i, i < s.items.length → s.itemsPlaced.getD i false = true →
    0 ≤ (s.items.getD i default).xl ∧ 0 ≤ (s.items.getD i default).yl ∧ 0 ≤ (s.items.getD i default).zl

instance (s : State) : Decidable (PlacedNonneg s) := by unfold PlacedNonneg; infer_instance

theorem mem_placedBoxes (s : State) (b : Space) : b ∈ placedBoxes s ↔
    ∃ i, i < s.items.length ∧ s.itemsPlaced.getD i false = true ∧ placedSpace s i = b := by
  unfold placedBoxes
  simp only [List.mem_map, List.mem_filter, List.mem_range]
  constructor
  · rintro ⟨i, ⟨hi, hp⟩, rfl⟩; exact ⟨i, hi, hp, rfl⟩
  · rintro ⟨i, hi, hp, rfl⟩; exact ⟨i, ⟨hi, hp⟩, rfl⟩

theorem placedSpace_volume (s : State) (i : Nat) : (placedSpace s i).volume = (s.items.getD i default).volume := by
  unfold placedSpace spaceFrom Space.volume Item.volume
  have e : ∀ a b : Int, a + b - a = b := fun a b => by omega
  simp only [e]

theorem placedSpace_proper (s : State) (i : Nat) : (placedSpace s i).Proper ↔
    0 ≤ (s.items.getD i default).xl ∧ 0 ≤ (s.items.getD i default).yl ∧ 0 ≤ (s.items.getD i default).zl := by
  unfold placedSpace spaceFrom Space.Proper
  simp only []
  omega

theorem placedBoxes_volume (s : State) : ((placedBoxes s).map Space.volume).sum = placedVolume s := by
  unfold placedBoxes placedVolume
  rw [List.map_map, ← Jx.sum_map_ite_filter]
  apply congrArg
  apply List.map_congr_left
  intro i _
  simp only [Function.comp]
  rw [placedSpace_volume]

theorem placedBoxes_pairwise (s : State) :
    (placedBoxes s).Pairwise (fun a b => a.intersect b = false) ↔
    ∀ i, i < s.items.length → ∀ j, j < s.items.length → i < j → s.itemsPlaced.getD i false = true →
      s.itemsPlaced.getD j false = true → (placedSpace s i).intersect (placedSpace s j) = false := by
  unfold placedBoxes
  rw [List.pairwise_map, List.pairwise_filter, List.pairwise_iff_getElem]
  simp only [List.length_range, List.getElem_range]
  constructor
  · intro h i hi j hj hij hpi hpj; exact h i j hi hj hij hpi hpj
  · intro h i j hi hj hij hpi hpj; exact h i hi j hj hij hpi hpj

theorem itemsFeasible_iff_tiles (s : State) :
    (PlacedNonneg s ∧ ItemsFeasible s ∧ placedVolume s = s.container.volume) ↔
      Tiles s.container (placedBoxes s) := by
  unfold Tiles
  rw [placedBoxes_volume, placedBoxes_pairwise]
  constructor
  · rintro ⟨hnn, ⟨hin, hdis⟩, hv⟩
    refine ⟨?_, ?_, hv⟩
    · intro b hb
      obtain ⟨i, hi, hp, rfl⟩ := (mem_placedBoxes s b).1 hb
      exact ⟨(placedSpace_proper s i).2 (hnn i hi hp), hin i hi hp⟩
    · intro i hi j hj hij hpi hpj
      exact hdis i hi j hj (by omega) hpi hpj
  · rintro ⟨hmem, hpw, hv⟩
    refine ⟨?_, ⟨?_, ?_⟩, hv⟩
    · intro i hi hp
      exact (placedSpace_proper s i).1 (hmem _ ((mem_placedBoxes s _).2 ⟨i, hi, hp, rfl⟩)).1
    · intro i hi hp
      exact (hmem _ ((mem_placedBoxes s _).2 ⟨i, hi, hp, rfl⟩)).2
    · intro i hi j hj hne hpi hpj
      rcases Nat.lt_or_gt_of_ne hne with hlt | hgt
      · exact hpw i hi j hj hlt hpi hpj
      · rw [inter_comm]; exact hpw j hj i hi hgt hpj hpi

/-- C10: the certificate the driver checks on `generate_solution`, together with `PlacedNonneg`, is a tiling of the
container by the placed items, all present items being placed -/
theorem perfectPacking_iff_tiles (s : State) :
    (PerfectPacking s ∧ PlacedNonneg s) ↔
      (WF s ∧ s.itemsPlaced = s.itemsMask ∧ Tiles s.container (placedBoxes s)) := by
  rw [← itemsFeasible_iff_tiles]
  unfold PerfectPacking
  constructor
  · rintro ⟨⟨h1, h2, h3, h4⟩, h5⟩; exact ⟨h1, h2, h5, h3, h4⟩
  · rintro ⟨h1, h2, h5, h3, h4⟩; exact ⟨⟨h1, h2, h3, h4⟩, h5⟩

end BinPack
