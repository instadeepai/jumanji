/-
BinPack, C08: whole episodes.  One episode = a list of actions `(e, i, d)` (`d` = the EMS buffer drawn from
the relation `EmsRel`) played from a reset state; `play` returns the final state and the sum of the rewards.
The reward function is the flag `cfg.dense`; the state transition, the step type and the legality of an action
do not depend on it, so the SAME action list can be played under both reward functions.

Result (`episode_returns`): for every legal episode from a reset state whose last timestep is LAST and no
earlier one (the episode as the environment sees it)
    dense return = sparse return = volume utilisation of the final state,
the two runs end in the same state, that state is reached by the `Run` relation of Lemmas.lean, is feasible,
and nothing more can be packed there (`Complete`).  The returns and `Complete` need a well-formed start and EMS
buffers of consistent shape only (`dense_return`, `final_complete`); what the relation `EmsRel` says beyond the shape
enters through the conjunct `Feasible` alone.
-/
import JumanjiModel.Env.BinPack.Lemmas
namespace BinPack
open Jm

instance (cfg : Cfg) (s : State) (e i : Nat) : Decidable (InSpec cfg s e i) := by unfold InSpec; infer_instance

/-- one action of an episode: observed EMS slot, item, and the EMS buffer `_update_ems` produced -/
abbrev Act := Nat × Nat × EmsDraw

/-- the same environment with the other reward function -/
def withDense (cfg : Cfg) (b : Bool) : Cfg := { cfg with dense := b }

/-- play a list of actions: the final state and the sum of the rewards -/
def play (cfg : Cfg) (rnd : Rat → Rat) : State → List Act → State × Rat
  | s, [] => (s, 0)
  | s, a :: as =>
    let r := step cfg rnd s a.1 a.2.1 a.2.2
    let q := play cfg rnd r.1 as
    (q.1, r.2.reward.sum + q.2)

/-- every action is in the action spec, legal when its turn comes, and its EMS update is in the relation -/
def LegalPlay (cfg : Cfg) (rnd : Rat → Rat) : State → List Act → Prop
  | _, [] => True
  | s, a :: as => InSpec cfg s a.1 a.2.1 ∧ legal cfg rnd s a.1 a.2.1 ∧ validDraw s a.1 a.2.1 a.2.2 ∧
      LegalPlay cfg rnd (step cfg rnd s a.1 a.2.1 a.2.2).1 as

/-- the episode as the environment sees it: the last timestep is LAST and no earlier one is -/
def EndsAtLast (cfg : Cfg) (rnd : Rat → Rat) : State → List Act → Prop
  | _, [] => False
  | s, [a] => (step cfg rnd s a.1 a.2.1 a.2.2).2.stepType = .last
  | s, a :: b :: as => (step cfg rnd s a.1 a.2.1 a.2.2).2.stepType ≠ .last ∧
      EndsAtLast cfg rnd (step cfg rnd s a.1 a.2.1 a.2.2).1 (b :: as)

theorem step_fst_dense (cfg : Cfg) (b : Bool) (rnd : Rat → Rat) (s : State) (e i : Int) (d : EmsDraw) :
    (step (withDense cfg b) rnd s e i d).1 = (step cfg rnd s e i d).1 := rfl

theorem step_type_dense (cfg : Cfg) (b : Bool) (rnd : Rat → Rat) (s : State) (e i : Int) (d : EmsDraw) :
    (step (withDense cfg b) rnd s e i d).2.stepType = (step cfg rnd s e i d).2.stepType := by
  rw [step_stepType, step_stepType, step_fst_dense]

theorem withDense_eq {cfg : Cfg} {b : Bool} (h : cfg.dense = b) : withDense cfg b = cfg := by subst h; rfl

theorem play_fst_dense (cfg : Cfg) (b : Bool) (rnd : Rat → Rat) (as : List Act) :
    ∀ s, (play (withDense cfg b) rnd s as).1 = (play cfg rnd s as).1 := by
  induction as with
  | nil => intro s; rfl
  | cons a as ih => intro s; simp only [play]; rw [step_fst_dense, ih]

theorem run_cons (cfg : Cfg) (rnd : Rat → Rat) (s₀ : State) (e i : Nat) (d : EmsDraw)
    (hs : InSpec cfg s₀ e i) (hl : legal cfg rnd s₀ e i) (hd : validDraw s₀ e i d) (n : Nat) (s : State)
    (hr : Run cfg rnd (step cfg rnd s₀ e i d).1 n s) : Run cfg rnd s₀ (n + 1) s := by
  induction hr with
  | nil => exact Run.snoc e i d (Run.nil s₀) hs hl hd
  | snoc e' i' d' _ hs' hl' hd' ih => exact Run.snoc e' i' d' ih hs' hl' hd'

theorem legalPlay_run (cfg : Cfg) (rnd : Rat → Rat) (as : List Act) :
    ∀ s, LegalPlay cfg rnd s as → Run cfg rnd s as.length (play cfg rnd s as).1 := by
  induction as with
  | nil => intro s _; exact Run.nil s
  | cons a as ih =>
    intro s h
    obtain ⟨hs, hl, hd, hrest⟩ := h
    exact run_cons cfg rnd s a.1 a.2.1 a.2.2 hs hl hd _ _ (ih _ hrest)

theorem play_cons_fst (cfg : Cfg) (rnd : Rat → Rat) (s : State) (a : Act) (as : List Act) :
    (play cfg rnd s (a :: as)).1 = (play cfg rnd (step cfg rnd s a.1 a.2.1 a.2.2).1 as).1 := rfl

theorem play_append (cfg : Cfg) (rnd : Rat → Rat) (as bs : List Act) :
    ∀ s, (play cfg rnd s (as ++ bs)).1 = (play cfg rnd (play cfg rnd s as).1 bs).1 := by
  induction as with
  | nil => intro s; rfl
  | cons a as ih => intro s; simp only [List.cons_append, play]; rw [ih]

theorem legalPlay_append (cfg : Cfg) (rnd : Rat → Rat) (as bs : List Act) :
    ∀ s, LegalPlay cfg rnd s (as ++ bs) ↔
      (LegalPlay cfg rnd s as ∧ LegalPlay cfg rnd (play cfg rnd s as).1 bs) := by
  induction as with
  | nil => intro s; simp [LegalPlay, play]
  | cons a as ih =>
    intro s
    simp only [List.cons_append, LegalPlay, play]
    rw [ih]
    simp only [and_assoc]

theorem run_legalPlay (cfg : Cfg) (rnd : Rat → Rat) (s₀ : State) (n : Nat) (s : State)
    (hr : Run cfg rnd s₀ n s) :
    ∃ as : List Act, as.length = n ∧ LegalPlay cfg rnd s₀ as ∧ (play cfg rnd s₀ as).1 = s := by
  induction hr with
  | nil => exact ⟨[], rfl, trivial, rfl⟩
  | snoc e i d _ hs hl hd ih =>
    obtain ⟨as, hlen, hlp, hfin⟩ := ih
    refine ⟨as ++ [(e, i, d)], by simp [hlen], ?_, ?_⟩
    · rw [legalPlay_append]
      refine ⟨hlp, ?_⟩
      rw [hfin]
      exact ⟨hs, hl, hd, trivial⟩
    · rw [play_append, hfin]; rfl

/-- legality and the states do not depend on the reward function, so they are stated for `cfg` itself.  From any
well-formed state: of the drawn EMS buffers only the shape is used, feasibility plays no part -/
theorem dense_return (cfg : Cfg) (rnd : Rat → Rat) (as : List Act) :
    ∀ s, WF s → Fresh cfg rnd s → LegalPlay cfg rnd s as →
      utilisation (play cfg rnd s as).1 = utilisation s + (play (withDense cfg true) rnd s as).2 := by
  induction as with
  | nil => intro s _ _ _; exact (Rat.add_zero _).symm
  | cons a as ih =>
    intro s hw hf h
    obtain ⟨hs, hl, hdr, hrest⟩ := h
    have h1 := ih _ (step_WF cfg rnd s hw a.1 a.2.1 a.2.2 (EmsRel.shrinks hdr).1) (step_fresh cfg rnd s a.1 a.2.1 a.2.2) hrest
    have ht := dense_telescopes (withDense cfg true) rnd s hw hf a.1 a.2.1 hs a.2.2 hl rfl
    simp only [play]
    rw [step_fst_dense] at ht ⊢
    rw [h1, ht, Rat.add_assoc]

theorem sparse_return (cfg : Cfg) (rnd : Rat → Rat) (as : List Act) (s : State)
    (h : EndsAtLast cfg rnd s as) : (play (withDense cfg false) rnd s as).2 = utilisation (play cfg rnd s as).1 := by
  fun_induction EndsAtLast cfg rnd s as with
  | case1 => exact h.elim
  | case2 s a =>
    simp only [play]
    rw [sparse_reward (withDense cfg false) rnd s a.1 a.2.1 a.2.2 rfl, step_type_dense, step_fst_dense, if_pos h]
    simp only [List.sum_cons, List.sum_nil, Rat.add_zero]
  | case3 s a b as ih =>
    have := ih h.2
    simp only [play] at this ⊢
    rw [sparse_reward (withDense cfg false) rnd s a.1 a.2.1 a.2.2 rfl, step_type_dense, step_fst_dense, if_neg h.1,
      this]
    simp only [List.sum_cons, List.sum_nil, Rat.add_zero, Rat.zero_add]

theorem utilisation_reset (s : State) (h : ResetShape s) : utilisation s = 0 := by
  have : placedVolume s = 0 := by
    unfold placedVolume
    generalize List.range s.items.length = l
    induction l with
    | nil => rfl
    | cons a as ih => rw [List.map_cons, List.sum_cons, ih, h.unplaced]; rfl
  unfold utilisation
  rw [this, Rat.div_def]
  exact Rat.zero_mul _

theorem final_complete (cfg : Cfg) (rnd : Rat → Rat) (as : List Act) (s : State) (hw : WF s)
    (hf : Fresh cfg rnd s) (hlp : LegalPlay cfg rnd s as) (he : EndsAtLast cfg rnd s as) :
    Complete cfg rnd (play cfg rnd s as).1 := by
  fun_induction EndsAtLast cfg rnd s as with
  | case1 => exact he.elim
  | case2 s a =>
    obtain ⟨hs, hl, hdr, -⟩ := hlp
    exact (legal_step_last_iff cfg rnd s hw hf a.1 a.2.1 hs a.2.2 hl (EmsRel.shrinks hdr).1).mp he
  | case3 s a b as ih =>
    obtain ⟨hs, hl, hdr, hrest⟩ := hlp
    -- stated through `play_cons_fst`: left to unification, `s` is compared with the unfolded successor state
    rw [play_cons_fst]
    exact ih (step_WF cfg rnd s hw a.1 a.2.1 a.2.2 (EmsRel.shrinks hdr).1) (step_fresh cfg rnd s a.1 a.2.1 a.2.2)
      hrest he.2

/-- C08: the SAME legal action list played from a reset state under `DenseReward` and under `SparseReward`, the
episode ending as the environment sees it: dense return = sparse return = volume utilisation of the final state -/
theorem episode_returns (cfg : Cfg) (rnd : Rat → Rat) (s₀ : State) (h0 : ResetShape s₀) (hf0 : Fresh cfg rnd s₀)
    (as : List Act) (hlp : LegalPlay cfg rnd s₀ as) (he : EndsAtLast cfg rnd s₀ as) :
    (play (withDense cfg true) rnd s₀ as).1 = (play cfg rnd s₀ as).1 ∧
    (play (withDense cfg false) rnd s₀ as).1 = (play cfg rnd s₀ as).1 ∧
    (play (withDense cfg true) rnd s₀ as).2 = utilisation (play cfg rnd s₀ as).1 ∧
    (play (withDense cfg false) rnd s₀ as).2 = utilisation (play cfg rnd s₀ as).1 ∧
    Run cfg rnd s₀ as.length (play cfg rnd s₀ as).1 ∧ Feasible (play cfg rnd s₀ as).1 ∧
    Complete cfg rnd (play cfg rnd s₀ as).1 := by
  have hr := legalPlay_run cfg rnd as s₀ hlp
  refine ⟨play_fst_dense cfg true rnd as s₀, play_fst_dense cfg false rnd as s₀, ?_, sparse_return cfg rnd as s₀ he,
    hr, (run_invariant cfg rnd s₀ h0 hf0 _ _ hr).feasible, final_complete cfg rnd as s₀ h0.1 hf0 hlp he⟩
  rw [dense_return cfg rnd as s₀ h0.1 hf0 hlp, utilisation_reset s₀ h0, Rat.zero_add]

end BinPack
