/-
BinPack: the deterministic step `step₁ cfg rnd s e i = step cfg rnd s e i (updateEms s e i)` (EMS update = the
transliterated `_update_ems`).  The C06 / C08 / C11 / C12 theorems of the relational model that carry a hypothesis
`validDraw` on a free draw are specialised here to `step₁`, WITHOUT that hypothesis (`updateEms_validDraw`,
UpdateEms.lean); the C01 ones are in Spec.lean (`step₁_specInv`, `step₁_obs_valid`) and Props/Env/BinPack.lean.
Episodes are lists of actions `(e, i)`; `play₁`, `LegalPlay₁`, `EndsAtLast₁`, `Run₁` are the draw-free forms of `play`,
`LegalPlay`, `EndsAtLast`, `Run`.  `InSpecPlay₁` / `firstLast₁` (in-spec actions, legal or not; the first LAST timestep)
carry the C11 bound `first_last_le_present`.
-/
import JumanjiModel.Env.BinPack.UpdateEms
import JumanjiModel.Env.BinPack.EpisodeLemmas
namespace BinPack
open Jm Jm.OB

theorem step₁_WF (cfg : Cfg) (rnd : Rat → Rat) (s : State) (hw : WF s) (e i : Int) : WF (step₁ cfg rnd s e i).1 :=
  step_WF cfg rnd s hw e i _ (updateEms_shape s hw e i)

/-- C06 without a hypothesis on the EMS update -/
theorem step₁_feasible (cfg : Cfg) (rnd : Rat → Rat) (s : State) (hF : Feasible s) (hf : Fresh cfg rnd s)
    (e i : Nat) (hs : InSpec cfg s e i) (hl : legal cfg rnd s e i) : Feasible (step₁ cfg rnd s e i).1 :=
  step_feasible cfg rnd s hF hf e i hs _ hl (updateEms_validDraw s hF.1 e i).1

/-- C12 without a hypothesis on the EMS update -/
theorem obs_faithful₁ (cfg : Cfg) (rnd : Rat → Rat) (s : State) (hw : WF s) (e i : Int) :
    (step₁ cfg rnd s e i).2.obs = observe cfg rnd (step₁ cfg rnd s e i).1 :=
  obs_faithful cfg rnd s hw e i _ (updateEms_shape s hw e i)

/-- `Run₁ cfg rnd s₀ n s`: `s` is reached from `s₀` by `n` legal in-spec actions of `step₁` -/
inductive Run₁ (cfg : Cfg) (rnd : Rat → Rat) : State → Nat → State → Prop
  | nil (s : State) : Run₁ cfg rnd s 0 s
  | snoc {s₀ : State} {n : Nat} {s : State} (e i : Nat) :
      Run₁ cfg rnd s₀ n s → InSpec cfg s e i → legal cfg rnd s e i →
      Run₁ cfg rnd s₀ (n + 1) (step₁ cfg rnd s e i).1

theorem run₁_run (cfg : Cfg) (rnd : Rat → Rat) (s₀ : State) (h0 : ResetShape s₀) (hf0 : Fresh cfg rnd s₀)
    (n : Nat) (s : State) (hr : Run₁ cfg rnd s₀ n s) : Run cfg rnd s₀ n s := by
  induction hr with
  | nil => exact Run.nil _
  | snoc e i _ hs hl ih =>
    exact Run.snoc e i _ ih hs hl (updateEms_validDraw _ (run_invariant cfg rnd s₀ h0 hf0 _ _ ih).feasible.1 e i).1

abbrev Act₁ := Nat × Nat

def play₁ (cfg : Cfg) (rnd : Rat → Rat) : State → List Act₁ → State × Rat
  | s, [] => (s, 0)
  | s, a :: as =>
    let r := step₁ cfg rnd s a.1 a.2
    let q := play₁ cfg rnd r.1 as
    (q.1, r.2.reward.sum + q.2)

def LegalPlay₁ (cfg : Cfg) (rnd : Rat → Rat) : State → List Act₁ → Prop
  | _, [] => True
  | s, a :: as => InSpec cfg s a.1 a.2 ∧ legal cfg rnd s a.1 a.2 ∧ LegalPlay₁ cfg rnd (step₁ cfg rnd s a.1 a.2).1 as

/-- every action is in the action spec (legal or not) -/
def InSpecPlay₁ (cfg : Cfg) (rnd : Rat → Rat) : State → List Act₁ → Prop
  | _, [] => True
  | s, a :: as => InSpec cfg s a.1 a.2 ∧ InSpecPlay₁ cfg rnd (step₁ cfg rnd s a.1 a.2).1 as

def EndsAtLast₁ (cfg : Cfg) (rnd : Rat → Rat) : State → List Act₁ → Prop
  | _, [] => False
  | s, [a] => (step₁ cfg rnd s a.1 a.2).2.stepType = .last
  | s, a :: b :: as => (step₁ cfg rnd s a.1 a.2).2.stepType ≠ .last ∧
      EndsAtLast₁ cfg rnd (step₁ cfg rnd s a.1 a.2).1 (b :: as)

/-- number (1-based) of the first LAST timestep of the play, if any -/
def firstLast₁ (cfg : Cfg) (rnd : Rat → Rat) : State → List Act₁ → Option Nat
  | _, [] => none
  | s, a :: as =>
    if (step₁ cfg rnd s a.1 a.2).2.stepType = .last then some 1
    else (firstLast₁ cfg rnd (step₁ cfg rnd s a.1 a.2).1 as).map (· + 1)

/-- the same action list with the EMS updates `_update_ems` computes attached: an episode of the R-model -/
def withDraws (cfg : Cfg) (rnd : Rat → Rat) : State → List Act₁ → List Act
  | _, [] => []
  | s, a :: as => (a.1, a.2, updateEms s a.1 a.2) :: withDraws cfg rnd (step₁ cfg rnd s a.1 a.2).1 as

theorem withDraws_length (cfg : Cfg) (rnd : Rat → Rat) (as : List Act₁) :
    ∀ s, (withDraws cfg rnd s as).length = as.length := by
  induction as with
  | nil => intro s; rfl
  | cons a as ih => intro s; simp [withDraws, ih]

theorem withDraws_dense (cfg : Cfg) (b : Bool) (rnd : Rat → Rat) (as : List Act₁) :
    ∀ s, withDraws (withDense cfg b) rnd s as = withDraws cfg rnd s as := by
  induction as with
  | nil => intro s; rfl
  | cons a as ih =>
    intro s
    simp only [withDraws]
    rw [show (step₁ (withDense cfg b) rnd s a.1 a.2).1 = (step₁ cfg rnd s a.1 a.2).1 from rfl, ih]

theorem play₁_eq (cfg : Cfg) (rnd : Rat → Rat) (as : List Act₁) :
    ∀ s, play₁ cfg rnd s as = play cfg rnd s (withDraws cfg rnd s as) := by
  induction as with
  | nil => intro s; rfl
  | cons a as ih => intro s; simp only [play₁, play, withDraws]; rw [ih]; rfl

theorem endsAtLast₁_iff (cfg : Cfg) (rnd : Rat → Rat) (as : List Act₁) :
    ∀ s, EndsAtLast₁ cfg rnd s as ↔ EndsAtLast cfg rnd s (withDraws cfg rnd s as) := by
  intro s
  fun_induction EndsAtLast₁ cfg rnd s as with
  | case1 => exact Iff.rfl
  | case2 s a => exact Iff.rfl
  | case3 s a c cs ih =>
    simp only [withDraws, EndsAtLast] at ih ⊢
    rw [ih]; rfl

theorem legalPlay₁_legalPlay (cfg : Cfg) (rnd : Rat → Rat) (as : List Act₁) :
    ∀ s, WF s → LegalPlay₁ cfg rnd s as → LegalPlay cfg rnd s (withDraws cfg rnd s as) := by
  induction as with
  | nil => intro s _ _; trivial
  | cons a as ih =>
    intro s hw h
    obtain ⟨hs, hl, hrest⟩ := h
    exact ⟨hs, hl, (updateEms_validDraw s hw a.1 a.2).1, ih _ (step₁_WF cfg rnd s hw a.1 a.2) hrest⟩

theorem legalPlay₁_run₁ (cfg : Cfg) (rnd : Rat → Rat) (as : List Act₁) :
    ∀ s₀ s, ∀ n, Run₁ cfg rnd s₀ n s → LegalPlay₁ cfg rnd s as →
      Run₁ cfg rnd s₀ (n + as.length) (play₁ cfg rnd s as).1 := by
  induction as with
  | nil => intro s₀ s n hr _; exact hr
  | cons a as ih =>
    intro s₀ s n hr h
    obtain ⟨hs, hl, hrest⟩ := h
    have := ih s₀ _ (n + 1) (Run₁.snoc a.1 a.2 hr hs hl) hrest
    simp only [List.length_cons, play₁]
    rw [show n + (as.length + 1) = n + 1 + as.length by omega]
    exact this

/-- C08, the combined episode theorem for the deterministic step: NO hypothesis on EMS updates -/
theorem episode_returns₁ (cfg : Cfg) (rnd : Rat → Rat) (s₀ : State) (h0 : ResetShape s₀) (hf0 : Fresh cfg rnd s₀)
    (as : List Act₁) (hlp : LegalPlay₁ cfg rnd s₀ as) (he : EndsAtLast₁ cfg rnd s₀ as) :
    (play₁ (withDense cfg true) rnd s₀ as).1 = (play₁ cfg rnd s₀ as).1 ∧
    (play₁ (withDense cfg false) rnd s₀ as).1 = (play₁ cfg rnd s₀ as).1 ∧
    (play₁ (withDense cfg true) rnd s₀ as).2 = utilisation (play₁ cfg rnd s₀ as).1 ∧
    (play₁ (withDense cfg false) rnd s₀ as).2 = utilisation (play₁ cfg rnd s₀ as).1 ∧
    Run₁ cfg rnd s₀ as.length (play₁ cfg rnd s₀ as).1 ∧ Feasible (play₁ cfg rnd s₀ as).1 ∧
    Complete cfg rnd (play₁ cfg rnd s₀ as).1 := by
  have H := episode_returns cfg rnd s₀ h0 hf0 (withDraws cfg rnd s₀ as)
    (legalPlay₁_legalPlay cfg rnd as s₀ h0.1 hlp) ((endsAtLast₁_iff cfg rnd as s₀).1 he)
  rw [play₁_eq, play₁_eq, play₁_eq, withDraws_dense, withDraws_dense]
  obtain ⟨a, b, c, d, _, f, g⟩ := H
  refine ⟨a, b, c, d, ?_, f, g⟩
  have := legalPlay₁_run₁ cfg rnd as s₀ s₀ 0 (Run₁.nil _) hlp
  rw [play₁_eq] at this
  simpa using this

theorem legal_unplaced_present (cfg : Cfg) (rnd : Rat → Rat) (s : State) (hw : WF s) (h : PlacedSubMask s) (e i : Nat)
    (hl : legal cfg rnd s e i) : Jx.countTrue s.itemsPlaced < Jx.countTrue s.itemsMask := by
  obtain ⟨_, _, hi, hnp, hm, _⟩ := hl
  exact Jx.countTrue_lt_of_sub _ _ i (by rw [hw.placed_len, hw.itemsMask_len]) h (by rw [hw.itemsMask_len]; exact hi) hm hnp

theorem mid_step₁ {cfg : Cfg} {rnd : Rat → Rat} {s₀ s : State} {n : Nat} (h : RunInv cfg rnd s₀ n s) (e i : Nat)
    (hs : InSpec cfg s e i) (hmid : (step₁ cfg rnd s e i).2.stepType ≠ .last) :
    RunInv cfg rnd s₀ (n + 1) (step₁ cfg rnd s e i).1 ∧ n + 1 < Jx.countTrue s₀.itemsMask := by
  have hw := h.feasible.1
  have hl := (stepValid_iff_legal cfg rnd s hw h.fresh e i hs).mp (step_mid_valid cfg rnd s e i _ hmid)
  have h' : RunInv cfg rnd s₀ (n + 1) (step₁ cfg rnd s e i).1 := h.step e i _ hs hl (updateEms_validDraw s hw e i).1
  -- the step is not LAST, so the successor state is not complete: some action is legal there
  obtain ⟨e', i', hl'⟩ : ∃ e' i', legal cfg rnd (step₁ cfg rnd s e i).1 e' i' :=
    Classical.byContradiction fun hno => hmid ((legal_step_last_iff cfg rnd s hw h.fresh e i hs _ hl
      (updateEms_shape s hw e i)).mpr fun e' i' hl' => hno ⟨e', i', hl'⟩)
  have hlt := legal_unplaced_present cfg rnd _ h'.feasible.1 h'.sub e' i' hl'
  rw [h'.count, h'.mask] at hlt
  exact ⟨h', hlt⟩

theorem first_last_present_aux (cfg : Cfg) (rnd : Rat → Rat) (s₀ : State) (as : List Act₁) :
    ∀ n s, RunInv cfg rnd s₀ n s → InSpecPlay₁ cfg rnd s as → max 1 (Jx.countTrue s₀.itemsMask - n) ≤ as.length →
      ∃ t, firstLast₁ cfg rnd s as = some t ∧ 1 ≤ t ∧ t ≤ max 1 (Jx.countTrue s₀.itemsMask - n) := by
  induction as with
  | nil => intro n s _ _ h; simp at h
  | cons a as ih =>
    intro n s h hp hlen
    obtain ⟨hs, hrest⟩ := hp
    simp only [List.length_cons] at hlen
    simp only [firstLast₁]
    by_cases hlast : (step₁ cfg rnd s a.1 a.2).2.stepType = .last
    · rw [if_pos hlast]; exact ⟨1, rfl, Nat.le_refl _, by omega⟩
    · rw [if_neg hlast]
      obtain ⟨h', hlt⟩ := mid_step₁ h a.1 a.2 hs hlast
      obtain ⟨t, ht, ht1, ht2⟩ := ih (n + 1) _ h' hrest (by omega)
      exact ⟨t + 1, by rw [ht]; rfl, by omega, by omega⟩

/-- the first LAST timestep of ANY in-spec play from a reset state comes no later than step
`max 1 (number of PRESENT items)` (`jnp.sum(items_mask)`; padding slots do not count) -/
theorem first_last_le_present (cfg : Cfg) (rnd : Rat → Rat) (s₀ : State) (h0 : ResetShape s₀) (hf0 : Fresh cfg rnd s₀)
    (as : List Act₁) (hp : InSpecPlay₁ cfg rnd s₀ as) (hlen : max 1 (Jx.countTrue s₀.itemsMask) ≤ as.length) :
    ∃ t, firstLast₁ cfg rnd s₀ as = some t ∧ 1 ≤ t ∧ t ≤ max 1 (Jx.countTrue s₀.itemsMask) :=
  first_last_present_aux cfg rnd s₀ as 0 s₀ (.reset h0 hf0) hp hlen

end BinPack
