/-
BinPack — C01 spec membership: the declared specs as `Sp` values (`obsSpec cfg n dm`, `actionSpec cfg n`; `n` =
`generator.max_num_items`, `dm` = `generator.container_dims`; equal to the generated literals of the catalogue
configurations, Props/SpecTable.lean), the model observation as spec-level arrays (`toNValue`, shapes READ OFF the values),
and the invariant `SpecInv` under which every observation is a member: established by `reset`, preserved by EVERY step (any
integers as action, any admissible draw of the EMS update; no hypothesis at all for the deterministic `step₁`).
Also `DrawsOK` (every draw of a relational play admissible when its turn comes), the step protocol and the action spec
(`actionSpec_WF`, `accepts_generate_value`).

Float leaves (`normalize_dimensions`): exact quotients, as in Env/BinPack/Bounds.lean.

FINDING (`Props.C01.binpack_reset_obs_not_valid`): the constructor does not check `obs_num_ems ≤ generator.max_num_ems`; with a smaller buffer
the observation has `max_num_ems` EMS rows and `observation_spec.validate` rejects it.
-/
import JumanjiModel.Env.BinPack.Bounds
import JumanjiModel.Env.BinPack.UpdateEms
import JumanjiModel.Env.BinPack.ResetLemmas
import JumanjiModel.Env.SpecMembership
namespace BinPack
open Jm Jm.OB Sp PzS PkS

/-- `max(self.generator.container_dims)` -/
def maxDim (dm : Dims) : Int := max dm.cx (max dm.cy dm.cz)

/-- upper bound of the length leaves: `1.0` (normalised) resp. `max_dim` (raw) -/
def hiR (norm : Bool) (dm : Dims) : Rat := if norm then 1 else (maxDim dm : Rat)
/-- dtype of the length leaves: `float` (normalised) resp. `int32` (raw) -/
def dtOf (norm : Bool) : DType := if norm then .float32 else .int32

def lenLeaf (cfg : Cfg) (dm : Dims) (m : Nat) (nm : String) : Leaf :=
  .bounded [m] (dtOf cfg.normalize) nm [] [0] [] [hiR cfg.normalize dm]

/-- `observation_spec` (paths as `speclib.flatten_spec` lists them): `ems.{x1,x2,y1,y2,z1,z2}` BoundedArray((obs_num_ems,),
float, 0, 1) resp. (…, int32, 0, max_dim); `ems_mask` bool (obs_num_ems,); `items.{x_len,y_len,z_len}` (max_num_items,) with
the same dtype and bounds; `items_mask`, `items_placed` bool (max_num_items,); `action_mask` bool (obs_num_ems, max_num_items) -/
def obsSpec (cfg : Cfg) (n : Nat) (dm : Dims) : Sp.Nested :=
  [("ems.x1", lenLeaf cfg dm cfg.obsNum "x1"), ("ems.x2", lenLeaf cfg dm cfg.obsNum "x2"),
   ("ems.y1", lenLeaf cfg dm cfg.obsNum "y1"), ("ems.y2", lenLeaf cfg dm cfg.obsNum "y2"),
   ("ems.z1", lenLeaf cfg dm cfg.obsNum "z1"), ("ems.z2", lenLeaf cfg dm cfg.obsNum "z2"),
   ("ems_mask", .bounded [cfg.obsNum] .bool "ems_mask" [] [0] [] [1]),
   ("items.x_len", lenLeaf cfg dm n "x_len"), ("items.y_len", lenLeaf cfg dm n "y_len"),
   ("items.z_len", lenLeaf cfg dm n "z_len"),
   ("items_mask", .bounded [n] .bool "items_mask" [] [0] [] [1]),
   ("items_placed", .bounded [n] .bool "items_placed" [] [0] [] [1]),
   ("action_mask", .bounded [cfg.obsNum, n] .bool "action_mask" [] [0] [] [1])]

/-- `action_spec`: MultiDiscreteArray([obs_num_ems, max_num_items], int32) -/
def actionSpec (cfg : Cfg) (n : Nat) : Leaf := .multiDiscrete [2] [cfg.obsNum, n] .int32 "action"

/-- a model observation as the arrays the implementation emits; the shapes are READ OFF the values -/
def toNValue (norm : Bool) (o : Obs) : NValue :=
  [("ems.x1", ⟨shape1 o.ems, dtOf norm, o.ems.map (·.x1)⟩), ("ems.x2", ⟨shape1 o.ems, dtOf norm, o.ems.map (·.x2)⟩),
   ("ems.y1", ⟨shape1 o.ems, dtOf norm, o.ems.map (·.y1)⟩), ("ems.y2", ⟨shape1 o.ems, dtOf norm, o.ems.map (·.y2)⟩),
   ("ems.z1", ⟨shape1 o.ems, dtOf norm, o.ems.map (·.z1)⟩), ("ems.z2", ⟨shape1 o.ems, dtOf norm, o.ems.map (·.z2)⟩),
   ("ems_mask", ⟨shape1 o.emsMask, .bool, ofBools o.emsMask⟩),
   ("items.x_len", ⟨shape1 o.items, dtOf norm, o.items.map (·.xl)⟩),
   ("items.y_len", ⟨shape1 o.items, dtOf norm, o.items.map (·.yl)⟩),
   ("items.z_len", ⟨shape1 o.items, dtOf norm, o.items.map (·.zl)⟩),
   ("items_mask", ⟨shape1 o.itemsMask, .bool, ofBools o.itemsMask⟩),
   ("items_placed", ⟨shape1 o.itemsPlaced, .bool, ofBools o.itemsPlaced⟩),
   ("action_mask", ⟨shape2 o.actionMask, .bool, ofBools o.actionMask.flatten⟩)]

def actionArr (e i : Int) : Arr := ⟨[2], .int32, [(e : Rat), (i : Rat)]⟩

def In (hi v : Rat) : Prop := 0 ≤ v ∧ v ≤ hi

theorem obs_valid_iff (cfg : Cfg) (n : Nat) (dm : Dims) (o : Obs) :
    (obsSpec cfg n dm).valid (toNValue cfg.normalize o) = true ↔
    o.ems.length = cfg.obsNum ∧
    (∀ e ∈ o.ems, In (hiR cfg.normalize dm) e.x1 ∧ In (hiR cfg.normalize dm) e.x2 ∧ In (hiR cfg.normalize dm) e.y1 ∧
      In (hiR cfg.normalize dm) e.y2 ∧ In (hiR cfg.normalize dm) e.z1 ∧ In (hiR cfg.normalize dm) e.z2) ∧
    o.emsMask.length = cfg.obsNum ∧ o.items.length = n ∧
    (∀ it ∈ o.items, In (hiR cfg.normalize dm) it.xl ∧ In (hiR cfg.normalize dm) it.yl ∧ In (hiR cfg.normalize dm) it.zl) ∧
    o.itemsMask.length = n ∧ o.itemsPlaced.length = n ∧
    shape2 o.actionMask = [cfg.obsNum, n] ∧ o.actionMask.flatten.length = cfg.obsNum * n := by
  simp only [obsSpec, toNValue, lenLeaf, In, valid_cons, valid_nil, valid_scalar_bounded_iff, forall_ofBools, ofBools_length,
    List.forall_mem_map, List.length_map, prod_one, prod_two, shape1_eq, true_and, and_true, and_self, and_self_left]
  -- the six coordinate leaves of the EMSs (three of the items) speak of one list: one length, one quantifier
  constructor
  · rintro ⟨⟨h, a1⟩, ⟨-, a2⟩, ⟨-, a3⟩, ⟨-, a4⟩, ⟨-, a5⟩, ⟨-, a6⟩, h7, ⟨hi, b1⟩, ⟨-, b2⟩, ⟨-, b3⟩, h11, h12, h13⟩
    exact ⟨h, fun e he => ⟨a1 e he, a2 e he, a3 e he, a4 e he, a5 e he, a6 e he⟩, h7, hi,
      fun e he => ⟨b1 e he, b2 e he, b3 e he⟩, h11, h12, h13⟩
  · rintro ⟨h, a, h7, hi, b, h11, h12, h13⟩
    exact ⟨⟨h, fun e he => (a e he).1⟩, ⟨h, fun e he => (a e he).2.1⟩, ⟨h, fun e he => (a e he).2.2.1⟩,
      ⟨h, fun e he => (a e he).2.2.2.1⟩, ⟨h, fun e he => (a e he).2.2.2.2.1⟩, ⟨h, fun e he => (a e he).2.2.2.2.2⟩, h7,
      ⟨hi, fun e he => (b e he).1⟩, ⟨hi, fun e he => (b e he).2.1⟩, ⟨hi, fun e he => (b e he).2.2⟩, h11, h12, h13⟩

theorem obs_valid_only (cfg : Cfg) (n : Nat) (dm : Dims) (o : Obs)
    (h : (obsSpec cfg n dm).valid (toNValue cfg.normalize o) = true) :
    o.ems.length = cfg.obsNum ∧
    (∀ e ∈ o.ems, In (hiR cfg.normalize dm) e.x1 ∧ In (hiR cfg.normalize dm) e.x2 ∧ In (hiR cfg.normalize dm) e.y1 ∧
      In (hiR cfg.normalize dm) e.y2 ∧ In (hiR cfg.normalize dm) e.z1 ∧ In (hiR cfg.normalize dm) e.z2) ∧
    o.emsMask.length = cfg.obsNum ∧ o.items.length = n ∧
    (∀ it ∈ o.items, In (hiR cfg.normalize dm) it.xl ∧ In (hiR cfg.normalize dm) it.yl ∧ In (hiR cfg.normalize dm) it.zl) ∧
    o.itemsMask.length = n ∧ o.itemsPlaced.length = n ∧ shape2 o.actionMask = [cfg.obsNum, n] :=
  have ⟨h1, h2, h3, h4, h5, h6, h7, h8, _⟩ := (obs_valid_iff cfg n dm o).1 h
  ⟨h1, h2, h3, h4, h5, h6, h7, h8⟩

/-- the invariant of spec membership; the two cached fields are not mentioned.  The positive container sides are not used
by the proofs (with Lean's `x / 0 = 0` the quotients stay in range); they exclude the containers on which the code's
normalised observation is 0/0 (`validReset`, Bounds.lean) -/
def SpecInv (cfg : Cfg) (n : Nat) (dm : Dims) (s : State) : Prop :=
  BoundsInv dm s ∧ WF s ∧ s.items.length = n ∧ cfg.obsNum ≤ s.ems.length ∧ 0 < dm.cx ∧ 0 < dm.cy ∧ 0 < dm.cz
instance (cfg : Cfg) (n : Nat) (dm : Dims) (s : State) : Decidable (SpecInv cfg n dm s) := by
  unfold SpecInv; infer_instance

theorem mid_specInv (cfg : Cfg) (n : Nat) (dm : Dims) (s : State) (e i : Int) (d : EmsDraw) (h : SpecInv cfg n dm s)
    (hd : stepValid s e i = true → validDraw s e i d ∧ validDrawAll s e i d) : SpecInv cfg n dm (mid s e i d) := by
  obtain ⟨h1, h2, h3, h4, h5⟩ := h
  refine ⟨mid_inv dm s e i d h1 fun hv => (hd hv).2,
    mid_WF s h2 e i d fun hv => by rw [(hd hv).1.1, (hd hv).1.2.1],
    mid_cases (P := fun t => t.items.length = n) h3 fun _ => h3,
    mid_cases (P := fun t => cfg.obsNum ≤ t.ems.length) h4 fun hv => ?_, h5⟩
  show cfg.obsNum ≤ d.ems.length
  rw [(hd hv).1.1]; exact h4

theorem step_specInv (cfg : Cfg) (rnd : Rat → Rat) (n : Nat) (dm : Dims) (s : State) (e i : Int) (d : EmsDraw)
    (h : SpecInv cfg n dm s) (hd : stepValid s e i = true → validDraw s e i d ∧ validDrawAll s e i d) :
    SpecInv cfg n dm (step cfg rnd s e i d).1 := by
  -- the invariant does not mention the two caches `makeObs` writes
  rw [step_fst]; exact mid_specInv cfg n dm s e i d h hd

theorem step₁_specInv (cfg : Cfg) (rnd : Rat → Rat) (n : Nat) (dm : Dims) (s : State) (e i : Int)
    (h : SpecInv cfg n dm s) : SpecInv cfg n dm (step₁ cfg rnd s e i).1 :=
  step_specInv cfg rnd n dm s e i _ h (fun _ => updateEms_validDraw s h.2.1 e i)

theorem reset_specInv (cfg : Cfg) (rnd : Rat → Rat) (dm : Dims) (maxEms n : Nat) (items : List Item)
    (itemsMask : List Bool) (h : validReset dm n items itemsMask) (hE : cfg.obsNum ≤ maxEms) (hE1 : 1 ≤ maxEms) :
    SpecInv cfg n dm (reset cfg rnd dm maxEms items itemsMask).1 := by
  refine ⟨reset_inv cfg rnd dm maxEms n items itemsMask h,
    reset_WF cfg rnd dm maxEms items itemsMask (by rw [h.2.2.2.2.1, h.2.2.2.1]), ?_, ?_, h.1, h.2.1, h.2.2.1⟩
  · rw [reset_fst, makeObs_fst]; exact h.2.2.2.1
  · rw [reset_fst, makeObs_fst]
    show cfg.obsNum ≤ (boxOf dm :: List.replicate (maxEms - 1) (⟨0, 0, 0, 0, 0, 0⟩ : Space)).length
    simp only [List.length_cons, List.length_replicate]; omega

theorem le_maxDim (dm : Dims) : dm.cx ≤ maxDim dm ∧ dm.cy ≤ maxDim dm ∧ dm.cz ≤ maxDim dm := by
  unfold maxDim; omega

theorem in_of_inIv (norm : Bool) (dm : Dims) (c : Int) (hc : c ≤ maxDim dm) (v : Rat)
    (h : inIv (some 0) (hiOf norm c) v) : In (hiR norm dm) v := by
  simp only [inIv, hiOf] at h
  refine ⟨h.1, ?_⟩
  unfold hiR
  cases norm
  · simp only [Bool.false_eq_true, if_false] at h ⊢
    exact Rat.le_trans h.2 (Rat.intCast_le_intCast.mpr hc)
  · simpa using h.2

theorem obsIdx_length (cfg : Cfg) (rnd : Rat → Rat) (s : State) (hw : WF s) (hE : cfg.obsNum ≤ s.ems.length) :
    (obsIdx cfg rnd s).length = cfg.obsNum := by
  rw [obsIdx_eq cfg rnd s hw, List.length_map, List.length_range, Nat.min_eq_left hE]

/-- C01: the observation `_make_observation_and_extras` builds from ANY state with the invariant is a member -/
theorem makeObs_valid (cfg : Cfg) (rnd : Rat → Rat) (n : Nat) (dm : Dims) (hO : 0 < cfg.obsNum) (s : State)
    (h : SpecInv cfg n dm s) : (obsSpec cfg n dm).valid (toNValue cfg.normalize (makeObs cfg rnd s).2) = true := by
  obtain ⟨hB, hw, hn, hE, _⟩ := h
  have hidx := obsIdx_length cfg rnd s hw hE
  have hc : s.container = boxOf dm := hB.1
  have hEms := obsEms_inBox cfg rnd dm s hB
  have hI := hB.2.2.2.2.2
  obtain ⟨mx, my, mz⟩ := le_maxDim dm
  refine (obs_valid_iff cfg n dm _).2 ⟨?_, ?_, ?_, ?_, ?_, ?_, ?_, ?_⟩
  · rw [makeObs_ems]; simp [obsEms, hidx]
  · rw [makeObs_ems, hc]
    intro q hq
    obtain ⟨e, he, rfl⟩ := List.mem_map.mp hq
    obtain ⟨a1, a2, a3, a4, a5, a6⟩ := emsQ_coords cfg.normalize dm e (hEms e he)
    exact ⟨in_of_inIv _ dm _ mx _ a1, in_of_inIv _ dm _ mx _ a2, in_of_inIv _ dm _ my _ a3, in_of_inIv _ dm _ my _ a4,
      in_of_inIv _ dm _ mz _ a5, in_of_inIv _ dm _ mz _ a6⟩
  · show (obsEmsMask cfg rnd s).length = cfg.obsNum
    simp [obsEmsMask, hidx]
  · rw [makeObs_items]; simp [hn]
  · rw [makeObs_items, hc]
    intro q hq
    obtain ⟨it, hit, rfl⟩ := List.mem_map.mp hq
    obtain ⟨a1, a2, a3⟩ := itemQ_coords cfg.normalize dm it (hI it hit)
    exact ⟨in_of_inIv _ dm _ mx _ a1, in_of_inIv _ dm _ my _ a2, in_of_inIv _ dm _ mz _ a3⟩
  · show s.itemsMask.length = n
    rw [hw.itemsMask_len, hn]
  · show s.itemsPlaced.length = n
    rw [hw.placed_len, hn]
  · -- the emitted mask is a table, hence rectangular: shape and cell count are those of the declared leaf
    show shape2 (maskOf cfg rnd s) = _ ∧ (maskOf cfg rnd s).flatten.length = _
    rw [maskOf_eq_legalMask cfg rnd s hw, legalMask_eq_table, Nat.min_eq_left hE, hn]
    exact shape2_of_rect (rect2_of_shaped (Jx.Grid.shaped_table _ _ _)) hO

/-- C01: the observation of EVERY step (any integers as action, valid or not, MID or LAST, either reward function) -/
theorem step_obs_valid (cfg : Cfg) (rnd : Rat → Rat) (n : Nat) (dm : Dims) (hO : 0 < cfg.obsNum) (s : State) (e i : Int)
    (d : EmsDraw) (h : SpecInv cfg n dm s) (hd : stepValid s e i = true → validDraw s e i d ∧ validDrawAll s e i d) :
    (obsSpec cfg n dm).valid (toNValue cfg.normalize (step cfg rnd s e i d).2.obs) = true := by
  rw [step_obs]; exact makeObs_valid cfg rnd n dm hO _ (mid_specInv cfg n dm s e i d h hd)

theorem step₁_obs_valid (cfg : Cfg) (rnd : Rat → Rat) (n : Nat) (dm : Dims) (hO : 0 < cfg.obsNum) (s : State) (e i : Int)
    (h : SpecInv cfg n dm s) :
    (obsSpec cfg n dm).valid (toNValue cfg.normalize (step₁ cfg rnd s e i).2.obs) = true :=
  step_obs_valid cfg rnd n dm hO s e i _ h (fun _ => updateEms_validDraw s h.2.1 e i)

/-- every draw of a relational play is admissible when its turn comes (only the steps that pack an item use their draw) -/
def DrawsOK (cfg : Cfg) (rnd : Rat → Rat) : State → List (Int × Int × EmsDraw) → Prop
  | _, [] => True
  | s, a :: as =>
    (stepValid s a.1 a.2.1 = true → validDraw s a.1 a.2.1 a.2.2 ∧ validDrawAll s a.1 a.2.1 a.2.2) ∧
    DrawsOK cfg rnd (step cfg rnd s a.1 a.2.1 a.2.2).1 as

theorem step_protocol (cfg : Cfg) (rnd : Rat → Rat) (s : State) (e i : Int) (d : EmsDraw) :
    StepOK none false (step cfg rnd s e i d).2 = true := by
  show StepOK none false (condLast _ [_] _) = true
  exact condLast_stepOK _ _ _

theorem actionSpec_generate (cfg : Cfg) (n : Nat) : (actionSpec cfg n).generate = actionArr 0 0 := by
  simp [actionSpec, generate_multiDiscrete, actionArr]

theorem actionSpec_WF (cfg : Cfg) (n : Nat) (hO : 0 < cfg.obsNum) (hn : 0 < n) (hb1 : cfg.obsNum ≤ 2147483648)
    (hb2 : n ≤ 2147483648) : (actionSpec cfg n).WF = true :=
  WF_multiDiscrete _ _ _ _ rfl rfl (List.forall_mem_cons.2 ⟨⟨hO, fits_int32_pred hb1⟩,
    List.forall_mem_cons.2 ⟨⟨hn, fits_int32_pred hb2⟩, fun _ h => nomatch h⟩⟩)

/-- `action_spec.generate_value()` = (0, 0), and what `step` answers to it from every state with the invariant -/
theorem accepts_generate_value (cfg : Cfg) (rnd : Rat → Rat) (n : Nat) (dm : Dims) (hO : 0 < cfg.obsNum) (hn : 0 < n)
    (hb1 : cfg.obsNum ≤ 2147483648) (hb2 : n ≤ 2147483648) (s : State) (h : SpecInv cfg n dm s) :
    (actionSpec cfg n).WF = true ∧ (actionSpec cfg n).valid (actionSpec cfg n).generate = true ∧
    (actionSpec cfg n).generate = actionArr 0 0 ∧ StepOK none false (step₁ cfg rnd s 0 0).2 = true ∧
    (obsSpec cfg n dm).valid (toNValue cfg.normalize (step₁ cfg rnd s 0 0).2.obs) = true :=
  ⟨actionSpec_WF cfg n hO hn hb1 hb2, Leaf.generate_valid _ (actionSpec_WF cfg n hO hn hb1 hb2), actionSpec_generate cfg n,
   step_protocol cfg rnd s 0 0 _, step₁_obs_valid cfg rnd n dm hO s 0 0 h⟩

end BinPack
