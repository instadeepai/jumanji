/-
BinPack: the L1 `reset` (`Dims`, `boxOf`, `reset`, `validReset`) and the proved value bounds of the observation
(property C01).

`obsBounds cfg dm` = the interval in which every leaf of the model's observation provably stays (keys =
the leaf paths of `BinPack.observation_spec`; `dm` = the generator's `container_dims`); `obsLeaves` =
the observation flattened to those leaves.  Per axis the EMS coordinates and the item side lengths lie
in `[0, container side]` (raw observation) resp. `[0, 1]` (`normalize_dimensions`); the declared spec
has `[0, max(container_dims)]` resp. `[0, 1]`.

The observation shows EMS slots whether or not they are active, and `EmsRel` (the relation of the
R-model) only speaks about ACTIVE slots of the successor buffer.  The bounds therefore need a relation
on ALL slots, `EmsRelAll`: every slot of the successor buffer still holds what it held before, or was
overwritten (`_add_ems`) with a NON-EMPTY cut `hyperplane(item, axis, dir) ∩ e` of an old slot `e`
(`_get_intersections_dict` masks empty cuts out).  A non-empty cut of a space inside the box is inside
the box wherever the item is, so no hypothesis on the action is needed.

`BoundsInv dm s` (container = `[0,cx]×[0,cy]×[0,cz]`, every EMS slot inside it, every item not larger
than it) is the invariant: established by `reset` (any items that fit), preserved by every `step`
whose draw is in `EmsRelAll`.
-/
import JumanjiModel.Env.BinPack.Lemmas
import JumanjiModel.Core.ObsBoundsCO
import JumanjiModel.Prim.FloatLemmas
namespace BinPack
open Jm Jm.OB

/-- `generator.container_dims` -/
structure Dims where
  cx : Int
  cy : Int
  cz : Int
  deriving Repr, DecidableEq

def boxOf (dm : Dims) : Space := ⟨0, dm.cx, 0, dm.cy, 0, dm.cz⟩

/-- `BinPack.reset` with any of the shipped generators (`make_container`, `[container] + (max_num_ems-1) *
[empty_ems()]`, `_unpack_items`): the items and their mask are draw parameters -/
def reset (cfg : Cfg) (rnd : Rat → Rat) (dm : Dims) (maxEms : Nat) (items : List Item) (itemsMask : List Bool) :
    State × TimeStep Obs :=
  let s0 : State :=
    { container := boxOf dm
      ems := boxOf dm :: List.replicate (maxEms - 1) ⟨0, 0, 0, 0, 0, 0⟩
      emsMask := true :: List.replicate (maxEms - 1) false
      items := items, itemsMask := itemsMask
      itemsPlaced := List.replicate items.length false
      itemsLoc := List.replicate items.length ⟨0, 0, 0⟩
      actionMask := [], sortedIdx := [] }
  let so := makeObs cfg rnd s0
  (so.1, restart so.2)

def ItemFits (dm : Dims) (it : Item) : Prop :=
  0 ≤ it.xl ∧ it.xl ≤ dm.cx ∧ 0 ≤ it.yl ∧ it.yl ≤ dm.cy ∧ 0 ≤ it.zl ∧ it.zl ≤ dm.cz

instance (dm : Dims) (it : Item) : Decidable (ItemFits dm it) := by unfold ItemFits; infer_instance

/-- what the generators produce: a container with POSITIVE sides (with a zero side the normalised observation
of the code is 0/0 = nan, while Lean's `x / 0 = 0` would make the bounds hold vacuously) and `n`
items (present or padding), none larger than the container on any axis -/
def validReset (dm : Dims) (n : Nat) (items : List Item) (itemsMask : List Bool) : Prop :=
  0 < dm.cx ∧ 0 < dm.cy ∧ 0 < dm.cz ∧ items.length = n ∧ itemsMask.length = n ∧ ∀ it ∈ items, ItemFits dm it

instance (dm : Dims) (n : Nat) (items : List Item) (m : List Bool) : Decidable (validReset dm n items m) := by
  unfold validReset; infer_instance

/-- upper end of a length leaf on an axis of container length `c` -/
def hiOf (norm : Bool) (c : Int) : Option Rat := some (if norm then 1 else (c : Rat))

def obsBounds (cfg : Cfg) (dm : Dims) : Table :=
  [("ems.x1", some 0, hiOf cfg.normalize dm.cx), ("ems.x2", some 0, hiOf cfg.normalize dm.cx),
   ("ems.y1", some 0, hiOf cfg.normalize dm.cy), ("ems.y2", some 0, hiOf cfg.normalize dm.cy),
   ("ems.z1", some 0, hiOf cfg.normalize dm.cz), ("ems.z2", some 0, hiOf cfg.normalize dm.cz),
   ("ems_mask", some 0, some 1),
   ("items.x_len", some 0, hiOf cfg.normalize dm.cx), ("items.y_len", some 0, hiOf cfg.normalize dm.cy),
   ("items.z_len", some 0, hiOf cfg.normalize dm.cz),
   ("items_mask", some 0, some 1), ("items_placed", some 0, some 1), ("action_mask", some 0, some 1)]

def obsLeaves (o : Obs) : Leaves :=
  [("ems.x1", o.ems.map (·.x1)), ("ems.x2", o.ems.map (·.x2)),
   ("ems.y1", o.ems.map (·.y1)), ("ems.y2", o.ems.map (·.y2)),
   ("ems.z1", o.ems.map (·.z1)), ("ems.z2", o.ems.map (·.z2)),
   ("ems_mask", o.emsMask.map b2r),
   ("items.x_len", o.items.map (·.xl)), ("items.y_len", o.items.map (·.yl)), ("items.z_len", o.items.map (·.zl)),
   ("items_mask", o.itemsMask.map b2r), ("items_placed", o.itemsPlaced.map b2r),
   ("action_mask", o.actionMask.flatten.map b2r)]

/-- every slot `j` of the successor buffer holds the old slot `j`, or a non-empty cut of some old slot -/
def EmsRelAll (old : List Space) (it : Space) (d : EmsDraw) : Prop :=
  ∀ j, j < d.ems.length →
    d.ems.getD j default = old.getD j default ∨
    ∃ k, k < old.length ∧ ∃ dir, dir ∈ Dir.all ∧
      d.ems.getD j default = hyperInter it dir (old.getD k default) ∧ (d.ems.getD j default).isEmpty = false

instance (old : List Space) (it : Space) (d : EmsDraw) : Decidable (EmsRelAll old it d) := by
  unfold EmsRelAll; infer_instance

/-- the draw is in `EmsRelAll` for the action `(e, i)` in `s` (all slots; `validDraw`, Model.lean: the active ones) -/
def validDrawAll (s : State) (e i : Int) (d : EmsDraw) : Prop := EmsRelAll s.ems (newItemSpace s e i) d

instance (s : State) (e i : Int) (d : EmsDraw) : Decidable (validDrawAll s e i d) := by
  unfold validDrawAll; infer_instance

def InBox (dm : Dims) (e : Space) : Prop :=
  0 ≤ e.x1 ∧ e.x1 ≤ dm.cx ∧ 0 ≤ e.x2 ∧ e.x2 ≤ dm.cx ∧ 0 ≤ e.y1 ∧ e.y1 ≤ dm.cy ∧ 0 ≤ e.y2 ∧ e.y2 ≤ dm.cy ∧
  0 ≤ e.z1 ∧ e.z1 ≤ dm.cz ∧ 0 ≤ e.z2 ∧ e.z2 ≤ dm.cz

instance (dm : Dims) (e : Space) : Decidable (InBox dm e) := by unfold InBox; infer_instance

def BoundsInv (dm : Dims) (s : State) : Prop :=
  s.container = boxOf dm ∧ 0 ≤ dm.cx ∧ 0 ≤ dm.cy ∧ 0 ≤ dm.cz ∧
  (∀ e ∈ s.ems, InBox dm e) ∧ (∀ it ∈ s.items, ItemFits dm it)

instance (dm : Dims) (s : State) : Decidable (BoundsInv dm s) := by unfold BoundsInv; infer_instance

theorem inBox_default (dm : Dims) (hx : 0 ≤ dm.cx) (hy : 0 ≤ dm.cy) (hz : 0 ≤ dm.cz) : InBox dm default := by
  show InBox dm ⟨0, 0, 0, 0, 0, 0⟩
  simp [InBox]; omega

theorem getD_inBox (dm : Dims) (hx : 0 ≤ dm.cx) (hy : 0 ≤ dm.cy) (hz : 0 ≤ dm.cz) (l : List Space)
    (h : ∀ e ∈ l, InBox dm e) (k : Nat) : InBox dm (l.getD k default) :=
  Jx.getD_of_all k h (inBox_default dm hx hy hz)

theorem inBox_of_incl (dm : Dims) (a e : Space) (he : InBox dm e) (hi : a.isIncluded e = true)
    (hne : a.isEmpty = false) : InBox dm a := by
  rw [incl_iff] at hi; rw [isEmpty_false_iff] at hne; unfold InBox at *; omega

theorem emsRelAll_inBox (dm : Dims) (hx : 0 ≤ dm.cx) (hy : 0 ≤ dm.cy) (hz : 0 ≤ dm.cz) (old : List Space)
    (it : Space) (d : EmsDraw) (h : ∀ e ∈ old, InBox dm e) (hr : EmsRelAll old it d) : ∀ e ∈ d.ems, InBox dm e := by
  intro e he
  obtain ⟨j, hj, rfl⟩ := List.getElem_of_mem he
  have := hr j hj
  rw [Jx.getD_eq_getElem default hj] at this
  rcases this with h1 | ⟨k, _, dir, _, h2, h3⟩
  · rw [h1]; exact getD_inBox dm hx hy hz old h j
  · rw [h2] at h3 ⊢
    exact inBox_of_incl dm _ _ (getD_inBox dm hx hy hz old h k) (hyperInter_incl it _ dir) h3

theorem makeObs_inv (cfg : Cfg) (rnd : Rat → Rat) (dm : Dims) (s : State) (h : BoundsInv dm s) :
    BoundsInv dm (makeObs cfg rnd s).1 := by rw [makeObs_fst]; exact h

theorem mid_inv (dm : Dims) (s : State) (e i : Int) (d : EmsDraw)
    (h : BoundsInv dm s) (hd : stepValid s e i = true → validDrawAll s e i d) : BoundsInv dm (mid s e i d) :=
  mid_cases h fun hv =>
    have ⟨hc, hx, hy, hz, he, hi⟩ := h
    ⟨hc, hx, hy, hz, emsRelAll_inBox dm hx hy hz s.ems _ d he (hd hv), hi⟩

theorem reset_inv (cfg : Cfg) (rnd : Rat → Rat) (dm : Dims) (maxEms n : Nat) (items : List Item)
    (itemsMask : List Bool) (h : validReset dm n items itemsMask) :
    BoundsInv dm (reset cfg rnd dm maxEms items itemsMask).1 := by
  obtain ⟨hx, hy, hz, _, _, hi⟩ := h
  have hx := Int.le_of_lt hx; have hy := Int.le_of_lt hy; have hz := Int.le_of_lt hz
  show BoundsInv dm (makeObs cfg rnd _).1
  apply makeObs_inv
  refine ⟨rfl, hx, hy, hz, ?_, hi⟩
  intro e he
  rcases List.mem_cons.mp he with rfl | he
  · simp [InBox, boxOf]; omega
  · rw [List.eq_of_mem_replicate he]; exact inBox_default dm hx hy hz

theorem scaled_in (norm : Bool) (a c : Int) (h0 : 0 ≤ a) (h1 : a ≤ c) :
    inIv (some 0) (hiOf norm c) (if norm then (a : Rat) / (c : Rat) else (a : Rat)) := by
  cases norm
  · exact ⟨Rat.intCast_nonneg.mpr h0, Rat.intCast_le_intCast.mpr h1⟩
  · exact Jx.div_mem_unit h0 h1

theorem obsEms_inBox (cfg : Cfg) (rnd : Rat → Rat) (dm : Dims) (s : State) (h : BoundsInv dm s) :
    ∀ e ∈ obsEms cfg rnd s, InBox dm e := by
  intro e he
  obtain ⟨_, hx, hy, hz, hems, _⟩ := h
  simp only [obsEms, List.mem_map] at he
  obtain ⟨k, _, rfl⟩ := he
  exact getD_inBox dm hx hy hz s.ems hems k

/-- one EMS resp. one item as the observation shows it: divided by the container sides (`normalize_dimensions`) or raw;
`makeObs_ems` / `makeObs_items` write the two leaves as one map over the shown EMSs resp. the items -/
def emsQ (norm : Bool) (c : Space) (e : Space) : SpaceQ := if norm then normSpace c e else e.toQ
def itemQ (norm : Bool) (c : Space) (i : Item) : ItemQ := if norm then normItem c i else i.toQ

theorem makeObs_ems (cfg : Cfg) (rnd : Rat → Rat) (s : State) :
    (makeObs cfg rnd s).2.ems = (obsEms cfg rnd s).map (emsQ cfg.normalize s.container) := by
  simp only [makeObs]; cases cfg.normalize <;> simp [emsQ]

theorem makeObs_items (cfg : Cfg) (rnd : Rat → Rat) (s : State) :
    (makeObs cfg rnd s).2.items = s.items.map (itemQ cfg.normalize s.container) := by
  simp only [makeObs]; cases cfg.normalize <;> simp [itemQ]

theorem map_in {α β} (l : List α) (g : α → β) (f : β → Rat) (lo hi : Option Rat)
    (h : ∀ a ∈ l, inIv lo hi (f (g a))) : ∀ v ∈ (l.map g).map f, inIv lo hi v :=
  List.forall_mem_map.mpr (List.forall_mem_map.mpr h)

theorem emsQ_coords (norm : Bool) (dm : Dims) (e : Space) (h : InBox dm e) :
    inIv (some 0) (hiOf norm dm.cx) (emsQ norm (boxOf dm) e).x1 ∧ inIv (some 0) (hiOf norm dm.cx) (emsQ norm (boxOf dm) e).x2 ∧
    inIv (some 0) (hiOf norm dm.cy) (emsQ norm (boxOf dm) e).y1 ∧ inIv (some 0) (hiOf norm dm.cy) (emsQ norm (boxOf dm) e).y2 ∧
    inIv (some 0) (hiOf norm dm.cz) (emsQ norm (boxOf dm) e).z1 ∧ inIv (some 0) (hiOf norm dm.cz) (emsQ norm (boxOf dm) e).z2 := by
  obtain ⟨a1, a2, a3, a4, a5, a6, a7, a8, a9, a10, a11, a12⟩ := h
  have X1 := scaled_in norm e.x1 dm.cx a1 a2
  have X2 := scaled_in norm e.x2 dm.cx a3 a4
  have Y1 := scaled_in norm e.y1 dm.cy a5 a6
  have Y2 := scaled_in norm e.y2 dm.cy a7 a8
  have Z1 := scaled_in norm e.z1 dm.cz a9 a10
  have Z2 := scaled_in norm e.z2 dm.cz a11 a12
  cases norm <;>
    simpa [emsQ, normSpace, Space.toQ, itemFromSpace, boxOf] using ⟨X1, X2, Y1, Y2, Z1, Z2⟩

theorem itemQ_coords (norm : Bool) (dm : Dims) (it : Item) (h : ItemFits dm it) :
    inIv (some 0) (hiOf norm dm.cx) (itemQ norm (boxOf dm) it).xl ∧ inIv (some 0) (hiOf norm dm.cy) (itemQ norm (boxOf dm) it).yl ∧
    inIv (some 0) (hiOf norm dm.cz) (itemQ norm (boxOf dm) it).zl := by
  obtain ⟨a1, a2, a3, a4, a5, a6⟩ := h
  have X := scaled_in norm it.xl dm.cx a1 a2
  have Y := scaled_in norm it.yl dm.cy a3 a4
  have Z := scaled_in norm it.zl dm.cz a5 a6
  cases norm <;>
    simpa [itemQ, normItem, Item.toQ, itemFromSpace, boxOf] using ⟨X, Y, Z⟩

theorem makeObs_in_bounds (cfg : Cfg) (rnd : Rat → Rat) (dm : Dims) (s : State) (h : BoundsInv dm s) :
    InBounds (obsBounds cfg dm) (obsLeaves (makeObs cfg rnd s).2) := by
  have hE := obsEms_inBox cfg rnd dm s h
  have hc : s.container = boxOf dm := h.1
  have hI := h.2.2.2.2.2
  have E := fun e he => emsQ_coords cfg.normalize dm e (hE e he)
  have I := fun it hit => itemQ_coords cfg.normalize dm it (hI it hit)
  unfold obsBounds obsLeaves
  rw [makeObs_ems, makeObs_items, hc]
  refine inBounds_cons rfl (map_in _ _ _ _ _ fun e he => (E e he).1) <|
    inBounds_cons rfl (map_in _ _ _ _ _ fun e he => (E e he).2.1) <|
    inBounds_cons rfl (map_in _ _ _ _ _ fun e he => (E e he).2.2.1) <|
    inBounds_cons rfl (map_in _ _ _ _ _ fun e he => (E e he).2.2.2.1) <|
    inBounds_cons rfl (map_in _ _ _ _ _ fun e he => (E e he).2.2.2.2.1) <|
    inBounds_cons rfl (map_in _ _ _ _ _ fun e he => (E e he).2.2.2.2.2) <|
    inBounds_cons rfl (bools_in01 _) <|
    inBounds_cons rfl (map_in _ _ _ _ _ fun e he => (I e he).1) <|
    inBounds_cons rfl (map_in _ _ _ _ _ fun e he => (I e he).2.1) <|
    inBounds_cons rfl (map_in _ _ _ _ _ fun e he => (I e he).2.2) <|
    inBounds_cons rfl (bools_in01 _) <|
    inBounds_cons rfl (bools_in01 _) <|
    inBounds_cons rfl (bools_in01 _) <| inBounds_nil _

end BinPack
