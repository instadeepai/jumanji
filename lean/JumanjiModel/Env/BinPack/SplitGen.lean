/-
BinPack: the transliterated splitting generator (`splitGenerate`, Model.lean) tiles the container.

`splitLoop_tiles` (started from `[container]`: `Props.C10.binpack_splitGenerate_tiles`): for every container with
non-negative sides, every list of admissible draws and every rounding `rnd` that is monotone and exact on the integers
`0 … B` (`RndOK rnd B`; float32: `B = 2^24 - 1`, exact arithmetic: `rnd = id`, any `B`), provided `1 ≤ B`,
`split_num_same_items ≤ B`, `max 1 split_num_same_items · (container side) ≤ B` on every axis (`GenBound`) and
`0 ≤ split_eps ≤ 1`:
`Tiles container (splitGenerate g rnd container draws)`.

Where the rounding matters: the k pieces of `_split_item_multiple_times` end at `a1 + int32(f32(f32(j·len) / f32(k)))`,
j = 1 … k, and the LAST one must be `a1 + len` for the pieces to fill the space: `f32(k·len) / f32(k)` is exactly
`len` because `k·len`, `k` and `len` are exactly representable and IEEE division is correctly rounded.  (With the
reassociated expression `j · f32(len / k)` this fails, e.g. `len = 31, k = 7`: `f32(7 · f32(31/7)) = 30.999998`.)
The cuts are monotone in `j` because `rnd` and the truncation are.
-/
import JumanjiModel.Env.BinPack.Lemmas
import JumanjiModel.Prim.FloatLemmas
namespace BinPack
open Jm

/-- the rounding is monotone and exact on the integers `0 … B` -/
structure RndOK (rnd : Rat → Rat) (B : Int) : Prop where
  mono : ∀ x y : Rat, x ≤ y → rnd x ≤ rnd y
  fixInt : ∀ n : Int, 0 ≤ n → n ≤ B → rnd (n : Rat) = (n : Rat)

theorem rndOK_id (B : Int) : RndOK id B := ⟨fun _ _ h => h, fun _ _ _ => rfl⟩

theorem truncI_nonneg {q : Rat} (h : 0 ≤ q) : truncI q = q.floor := by unfold truncI; rw [if_pos h]

theorem truncI_int (n : Int) (h : 0 ≤ n) : truncI (n : Rat) = n := by
  rw [truncI_nonneg (Rat.intCast_nonneg.mpr h), Rat.floor_intCast]

theorem truncI_mono {p q : Rat} (hp : 0 ≤ p) (h : p ≤ q) : truncI p ≤ truncI q := by
  rw [truncI_nonneg hp, truncI_nonneg (Rat.le_trans hp h)]; exact Rat.floor_monotone h

theorem truncI_ge_zero {q : Rat} (h : 0 ≤ q) : 0 ≤ truncI q := by
  rw [truncI_nonneg h, Rat.le_floor_iff]; simpa using h

theorem truncI_le_int {q : Rat} (n : Int) (h0 : 0 ≤ q) (h : q ≤ (n : Rat)) : truncI q ≤ n := by
  have := truncI_mono h0 h
  rwa [truncI_int n (by
    have : (0 : Rat) ≤ (n : Rat) := Rat.le_trans h0 h
    exact Rat.intCast_nonneg.mp this)] at this

theorem setAx_lo_hi (ax : Nat) (b : Space) (lo q : Int) : cutLo ax (cutHi ax b lo) q = setAx ax b lo q := by
  unfold setAx; rfl

theorem cutHi_cutHi (ax : Nat) (b : Space) (lo q : Int) : cutHi ax (cutHi ax b lo) q = cutHi ax b q := by
  rcases ax with _ | _ | _ <;> rfl

theorem cutHi_self (ax : Nat) (b : Space) : cutHi ax b (axLo ax b) = b := by
  rcases ax with _ | _ | _ <;> rfl

theorem axLo_cutHi (ax : Nat) (b : Space) (q : Int) : axLo ax (cutHi ax b q) = q := by
  rcases ax with _ | _ | _ <;> rfl

theorem axHi_cutHi (ax : Nat) (b : Space) (q : Int) : axHi ax (cutHi ax b q) = axHi ax b := by
  rcases ax with _ | _ | _ <;> rfl

theorem cutHi_top_empty (ax : Nat) (b : Space) : (cutHi ax b (axHi ax b)).isEmpty = true := by
  rcases ax with _ | _ | _ <;> simp [cutHi, axHi, Space.isEmpty]

/-- an increasing chain `lo ≤ q₁ ≤ q₂ ≤ … ≤ qₙ = hi` (`lo = hi` when the list is empty) -/
def ChainTo (lo : Int) : List Int → Int → Prop
  | [], hi => lo = hi
  | q :: qs, hi => lo ≤ q ∧ ChainTo q qs hi

theorem chainTo_le (qs : List Int) : ∀ lo hi, ChainTo lo qs hi → lo ≤ hi := by
  induction qs with
  | nil => intro lo hi h; exact Int.le_of_eq h
  | cons q qs ih => intro lo hi h; exact Int.le_trans h.1 (ih q hi h.2)

theorem tiles_pieces (ax : Nat) (b : Space) (qs : List Int) :
    ∀ lo : Int, (cutHi ax b lo).Proper → ChainTo lo qs (axHi ax b) → Tiles (cutHi ax b lo) (piecesFrom ax b lo qs) := by
  induction qs with
  | nil =>
    intro lo hp hch
    have hch' : lo = axHi ax b := hch
    subst hch'
    exact tiles_nil _ hp (cutHi_top_empty ax b)
  | cons q qs ih =>
    intro lo hp hch
    obtain ⟨h1, h2⟩ := hch
    have hq := chainTo_le qs q _ h2
    have hh := tiles_halves ax (cutHi ax b lo) q hp (by rw [axLo_cutHi]; exact h1) (by rw [axHi_cutHi]; exact hq)
    rw [setAx_lo_hi, cutHi_cutHi] at hh
    -- the upper half is tiled by the remaining pieces
    have := tiles_replace _ [setAx ax b lo q] [] _ _ hh (ih q (hh.1 _ (by simp)).1 h2)
    simpa [piecesFrom] using this

theorem tiles_filter (c : Space) (l : List Space) :
    ∀ l₁, Tiles c (l₁ ++ l) → Tiles c (l₁ ++ l.filter (fun b => !b.isEmpty)) := by
  induction l with
  | nil => intro l₁ h; simpa using h
  | cons b bs ih =>
    intro l₁ h
    cases hb : b.isEmpty
    · have := ih (l₁ ++ [b]) (by simpa using h)
      simpa [List.filter_cons, hb] using this
    · have := ih l₁ (tiles_drop_empty c l₁ bs b h hb)
      simpa [List.filter_cons, hb] using this

theorem intCast_natCast_pos {k : Nat} (hk : 1 ≤ k) : (0 : Rat) < (((k : Nat) : Int) : Rat) := by
  exact Rat.intCast_pos.mpr (by omega)

theorem chainTo_range (f : Nat → Int) (n : Nat) : ∀ j, (∀ t, j ≤ t → t < j + n → f t ≤ f (t + 1)) →
    ChainTo (f j) ((List.range n).map fun t => f (j + t + 1)) (f (j + n)) := by
  induction n with
  | zero => intro j _; exact rfl
  | succ n ih =>
    intro j h
    rw [List.range_succ_eq_map, List.map_cons, List.map_map]
    refine ⟨h j (Nat.le_refl _) (by omega), ?_⟩
    have e : ((fun t => f (j + t + 1)) ∘ Nat.succ) = fun t => f (j + 1 + t + 1) := by
      funext t; simp only [Function.comp]; congr 1; omega
    rw [e, show j + (n + 1) = j + 1 + n by omega]
    exact ih (j + 1) fun t h1 h2 => h t (by omega) (by omega)

/-- `j·len` and `k` are exactly representable, so of the three roundings of a cut position only that of the quotient
can change anything -/
theorem splitCut_eq (rnd : Rat → Rat) (B : Int) (hr : RndOK rnd B) (a1 len : Int) (k j : Nat) (hlen : 0 ≤ len)
    (hj : j ≤ k) (hB : (k : Int) * len ≤ B) (hkB : (k : Int) ≤ B) :
    splitCut rnd a1 len k j = a1 + truncI (rnd ((((j : Int) * len : Int) : Rat) / (((k : Nat) : Int) : Rat))) := by
  unfold splitCut
  rw [hr.fixInt ((j : Int) * len) (Int.mul_nonneg (by omega) hlen)
    (Int.le_trans (Int.mul_le_mul_of_nonneg_right (by omega) hlen) hB), hr.fixInt (k : Int) (by omega) hkB]

/-- the last cut is the end of the space: `k·len / k` is `len` exactly, and IEEE division is correctly rounded -/
theorem splitCut_top (rnd : Rat → Rat) (B : Int) (hr : RndOK rnd B) (a1 len : Int) (k : Nat) (hlen : 0 ≤ len)
    (hk : 1 ≤ k) (hB : (k : Int) * len ≤ B) (hkB : (k : Int) ≤ B) : splitCut rnd a1 len k k = a1 + len := by
  have hkpos := intCast_natCast_pos hk
  have : (((k : Int) * len : Int) : Rat) / (((k : Nat) : Int) : Rat) = (len : Rat) := by
    rw [Rat.intCast_mul, Rat.mul_comm]
    exact Rat.mul_div_cancel (by intro h; rw [h] at hkpos; exact absurd hkpos (by decide))
  rw [splitCut_eq rnd B hr a1 len k k hlen (Nat.le_refl _) hB hkB, this, hr.fixInt len hlen (by
    have : (1 : Int) * len ≤ (k : Int) * len := Int.mul_le_mul_of_nonneg_right (by omega) hlen
    omega), truncI_int len hlen]

theorem splitCut_step (rnd : Rat → Rat) (B : Int) (hr : RndOK rnd B) (a1 len : Int) (k j : Nat) (hlen : 0 ≤ len)
    (hj : j + 1 ≤ k) (hB : (k : Int) * len ≤ B) (hkB : (k : Int) ≤ B) :
    splitCut rnd a1 len k j ≤ splitCut rnd a1 len k (j + 1) := by
  have hkpos := intCast_natCast_pos (k := k) (by omega)
  have hnn : (0 : Rat) ≤ rnd ((((j : Int) * len : Int) : Rat) / (((k : Nat) : Int) : Rat)) := by
    have h0 : rnd 0 = 0 := by simpa using hr.fixInt 0 (Int.le_refl _) (by omega)
    have : (0 : Rat) ≤ (((j : Int) * len : Int) : Rat) / (((k : Nat) : Int) : Rat) := by
      rw [Rat.div_def]
      exact Rat.mul_nonneg (Rat.intCast_nonneg.mpr (Int.mul_nonneg (by omega) hlen))
        (Rat.le_of_lt (Rat.inv_pos.mpr hkpos))
    have := hr.mono _ _ this
    rwa [h0] at this
  rw [splitCut_eq rnd B hr a1 len k j hlen (by omega) hB hkB, splitCut_eq rnd B hr a1 len k (j + 1) hlen hj hB hkB]
  apply Int.add_le_add_left
  apply truncI_mono hnn
  apply hr.mono
  apply Jx.rat_div_le_div_right hkpos
  apply Rat.intCast_le_intCast.mpr
  apply Int.mul_le_mul_of_nonneg_right _ hlen
  omega

theorem splitCut_zero (rnd : Rat → Rat) (B : Int) (hr : RndOK rnd B) (a1 len : Int) (k : Nat)
    (hB0 : 0 ≤ B) : splitCut rnd a1 len k 0 = a1 := by
  unfold splitCut
  have h0 : rnd ((0 : Int) : Rat) = ((0 : Int) : Rat) := hr.fixInt 0 (Int.le_refl _) hB0
  have : (((0 : Nat) : Int) * len : Int) = 0 := by simp
  rw [this]
  have h0' : rnd 0 = 0 := by simpa using h0
  have hz : rnd ((0 : Int) : Rat) / rnd (((k : Nat) : Int) : Rat) = 0 := by
    rw [h0, Rat.div_def]; simp
  rw [hz, h0']
  have : truncI 0 = 0 := by simpa using truncI_int 0 (Int.le_refl _)
  rw [this]; omega

theorem splitPad_bounds (rnd : Rat → Rat) (B : Int) (hr : RndOK rnd B) (eps : Rat) (he0 : 0 ≤ eps) (he1 : eps ≤ 1)
    (len : Int) (hlen : 0 ≤ len) (hB : len ≤ B) (hB1 : 1 ≤ B) :
    0 ≤ splitPad rnd eps len ∧ splitPad rnd eps len ≤ len := by
  have h0 : rnd 0 = 0 := by simpa using hr.fixInt 0 (Int.le_refl _) (by omega)
  have h1 : rnd 1 = 1 := by simpa using hr.fixInt 1 (by omega) hB1
  have hl : rnd (len : Rat) = (len : Rat) := hr.fixInt len hlen hB
  have hlq : (0 : Rat) ≤ (len : Rat) := Rat.intCast_nonneg.mpr hlen
  have e0 : 0 ≤ rnd eps := by have := hr.mono _ _ he0; rwa [h0] at this
  have e1 : rnd eps ≤ 1 := by have := hr.mono _ _ he1; rwa [h1] at this
  have p0 : (0 : Rat) ≤ rnd eps * rnd (len : Rat) := by rw [hl]; exact Rat.mul_nonneg e0 hlq
  have p1 : rnd eps * rnd (len : Rat) ≤ (len : Rat) := by
    rw [hl]
    have := Rat.mul_le_mul_of_nonneg_right e1 hlq
    rwa [Rat.one_mul] at this
  have r0 : 0 ≤ rnd (rnd eps * rnd (len : Rat)) := by have := hr.mono _ _ p0; rwa [h0] at this
  have r1 : rnd (rnd eps * rnd (len : Rat)) ≤ (len : Rat) := Rat.le_trans (hr.mono _ _ p1) (by rw [hl]; exact Rat.le_refl)
  unfold splitPad
  exact ⟨truncI_ge_zero r0, truncI_le_int len r0 r1⟩

theorem axis_le_of_incl (ax : Nat) (b c : Space) (h : b.isIncluded c = true) :
    axLo ax c ≤ axLo ax b ∧ axHi ax b ≤ axHi ax c := by
  rw [incl_iff] at h
  unfold axLo axHi
  split <;> omega

theorem proper_axis (ax : Nat) (b : Space) (h : b.Proper) : axLo ax b ≤ axHi ax b := by
  unfold Space.Proper at h
  unfold axLo axHi
  split <;> omega

/-- the sizes for which the float32 arithmetic of the generator is exact -/
def GenBound (g : GenCfg) (c : Space) (B : Int) : Prop :=
  1 ≤ B ∧ (g.splitNum : Int) ≤ B ∧ ∀ ax, (max 1 g.splitNum : Nat) * (axHi ax c - axLo ax c) ≤ B

theorem splitStep_tiles (g : GenCfg) (rnd : Rat → Rat) (B : Int) (hr : RndOK rnd B) (c : Space)
    (hB : GenBound g c B) (he0 : 0 ≤ g.eps) (he1 : g.eps ≤ 1) (bs : List Space) (h : Tiles c bs) (d : SplitDraw)
    (hd : validSplitDraw g rnd bs d) : Tiles c (splitStep rnd bs d) := by
  obtain ⟨hi, hv⟩ := hd
  obtain ⟨hB1, hBk, hBax⟩ := hB
  have hsplit : bs = bs.take d.item ++ bs.getD d.item default :: bs.drop (d.item + 1) := by
    rw [List.getD_eq_getElem?_getD, List.getElem?_eq_getElem hi, Option.getD_some, List.getElem_cons_drop,
      List.take_append_drop]
  generalize hb : bs.getD d.item default = b at hv hsplit
  have hbmem : b ∈ bs := by rw [hsplit]; simp
  obtain ⟨hbp, hbin⟩ := h.1 b hbmem
  have hax := axis_le_of_incl d.axis b c hbin
  have hpl := proper_axis d.axis b hbp
  have hlenB : axHi d.axis b - axLo d.axis b ≤ B := by
    have h1 := hBax d.axis
    have h2 : (1 : Int) * (axHi d.axis c - axLo d.axis c) ≤ ((max 1 g.splitNum : Nat) : Int) * (axHi d.axis c - axLo d.axis c) :=
      Int.mul_le_mul_of_nonneg_right (by omega) (by omega)
    omega
  rw [hsplit] at h
  unfold splitStep
  rw [hb]
  -- the pieces tile the chosen space `b`; they take its place in the tiling of `c`
  have key : Tiles b (splitPieces rnd b d) := by
    unfold splitPieces
    simp only [] at hv ⊢
    cases hon : d.once
    · -- `_split_item_multiple_times`
      rw [hon] at hv
      simp only [Bool.false_eq_true, if_false] at hv ⊢
      obtain ⟨hk1, hk2⟩ := hv
      have hkB : (d.num : Int) ≤ B := by omega
      have hmulB : (d.num : Int) * (axHi d.axis b - axLo d.axis b) ≤ B := by
        have h1 := hBax d.axis
        have h2 : (d.num : Int) * (axHi d.axis b - axLo d.axis b) ≤
            ((max 1 g.splitNum : Nat) : Int) * (axHi d.axis c - axLo d.axis c) :=
          Int.mul_le_mul (by omega) (by omega) (by omega) (by omega)
        omega
      have hlen : 0 ≤ axHi d.axis b - axLo d.axis b := by omega
      have hch := chainTo_range (splitCut rnd (axLo d.axis b) (axHi d.axis b - axLo d.axis b) d.num) d.num 0
        fun t _ ht => splitCut_step rnd B hr _ _ _ t hlen (by omega) hmulB hkB
      simp only [Nat.zero_add] at hch
      rw [splitCut_zero rnd B hr _ _ _ (by omega), splitCut_top rnd B hr _ _ _ hlen hk1 hmulB hkB,
        show axLo d.axis b + (axHi d.axis b - axLo d.axis b) = axHi d.axis b by omega] at hch
      have := tiles_pieces d.axis b _ (axLo d.axis b) (by rw [cutHi_self]; exact hbp) hch
      rwa [cutHi_self] at this
    · -- `_split_item_once`
      rw [hon] at hv
      simp only [if_true] at hv ⊢
      obtain ⟨hp0, hp1⟩ := splitPad_bounds rnd B hr g.eps he0 he1 (axHi d.axis b - axLo d.axis b) (by omega) hlenB hB1
      exact tiles_halves d.axis b d.split hbp (by split at hv <;> omega) (by split at hv <;> omega)
  have := tiles_filter c _ [] (by simpa using tiles_replace c _ _ _ b h key)
  simpa using this

theorem splitLoop_tiles (g : GenCfg) (rnd : Rat → Rat) (B : Int) (hr : RndOK rnd B) (c : Space)
    (hB : GenBound g c B) (he0 : 0 ≤ g.eps) (he1 : g.eps ≤ 1) (ds : List SplitDraw) :
    ∀ bs, Tiles c bs → ValidSplitDraws g rnd bs ds → Tiles c (splitLoop g rnd bs ds) := by
  induction ds with
  | nil => intro bs h _; exact h
  | cons d ds ih =>
    intro bs h hv
    unfold splitLoop
    cases hc : splitCond g bs
    · simpa using h
    · simp only [if_true]
      obtain ⟨h1, h2⟩ := hv hc
      exact ih _ (splitStep_tiles g rnd B hr c hB he0 he1 bs h d h1) h2

/-- every generated item space is non-empty (the certificate `items_positive`) -/
theorem splitLoop_nonempty (g : GenCfg) (rnd : Rat → Rat) (ds : List SplitDraw) :
    ∀ bs, (∀ b ∈ bs, b.isEmpty = false) → ∀ b ∈ splitLoop g rnd bs ds, b.isEmpty = false := by
  induction ds with
  | nil => intro bs h; exact h
  | cons d ds ih =>
    intro bs h
    unfold splitLoop
    split
    · apply ih
      intro b hb
      unfold splitStep at hb
      simpa using (List.mem_filter.mp hb).2
    · exact h

theorem piecesFrom_length (ax : Nat) (b : Space) (qs : List Int) : ∀ lo, (piecesFrom ax b lo qs).length = qs.length := by
  induction qs with
  | nil => intro lo; rfl
  | cons q qs ih => intro lo; simp [piecesFrom, ih]

/-- `Jx.roundF32` is monotone and exact on the integers below `2^24` -/
theorem rndOK_f32 : RndOK Jx.roundF32 16777215 := by
  refine ⟨fun x y h => Jx.roundF32_mono h, fun n h0 hB => ?_⟩
  have := Jx.roundF32_fix n.toNat 0 (by omega) (by decide)
  have e : ((n.toNat : Nat) : Rat) = (n : Rat) := by
    have h1 : ((n.toNat : Nat) : Rat) = (((n.toNat : Nat) : Int) : Rat) := (Rat.intCast_natCast _).symm
    rw [h1, Int.toNat_of_nonneg h0]
  have hp : Jx.pow2 0 = 1 := by decide +kernel
  rw [hp, Rat.mul_one, e] at this
  exact this

end BinPack
