/-
BinPack: `reset` (Bounds.lean: `make_container`, `[container] + (max_num_ems-1) * [empty_ems()]`, `_unpack_items`,
`_make_observation_and_extras`): the reset state written out (`reset_fst`), its array shapes, and its observation as the
documented function of the reset state (reset form of `obs_faithful`).  That it has `ResetShape` and fresh caches, the
hypotheses from which the C06 / C08 / C11 chains start, is `Props.C06.binpack_reset_shape` / `Props.C04.binpack_reset_fresh`.
-/
import JumanjiModel.Env.BinPack.Bounds
namespace BinPack
open Jm

theorem reset_fst (cfg : Cfg) (rnd : Rat → Rat) (dm : Dims) (maxEms : Nat) (items : List Item) (m : List Bool) :
    (reset cfg rnd dm maxEms items m).1 =
      (makeObs cfg rnd { container := boxOf dm
                         ems := boxOf dm :: List.replicate (maxEms - 1) ⟨0, 0, 0, 0, 0, 0⟩
                         emsMask := true :: List.replicate (maxEms - 1) false
                         items := items, itemsMask := m
                         itemsPlaced := List.replicate items.length false
                         itemsLoc := List.replicate items.length ⟨0, 0, 0⟩
                         actionMask := [], sortedIdx := [] }).1 := rfl

theorem range_map_eq_zero (n : Nat) :
    (List.range (n + 1)).map (fun k => decide (k = 0)) = true :: List.replicate n false := by
  rw [List.range_succ_eq_map, List.map_cons, List.map_map]
  congr 1
  apply List.ext_getElem <;> simp

theorem reset_WF (cfg : Cfg) (rnd : Rat → Rat) (dm : Dims) (maxEms : Nat) (items : List Item) (m : List Bool)
    (hm : m.length = items.length) : WF (reset cfg rnd dm maxEms items m).1 := by
  rw [reset_fst, makeObs_fst]
  simp [WF, hm]

theorem reset_obs_faithful (cfg : Cfg) (rnd : Rat → Rat) (dm : Dims) (maxEms : Nat) (items : List Item)
    (m : List Bool) (hm : m.length = items.length) :
    (reset cfg rnd dm maxEms items m).2.obs = observe cfg rnd (reset cfg rnd dm maxEms items m).1 := by
  rw [reset_fst, observe_makeObs]
  show (makeObs cfg rnd _).2 = _
  apply makeObs_snd
  simp [WF, hm]

theorem reset_first (cfg : Cfg) (rnd : Rat → Rat) (dm : Dims) (maxEms : Nat) (items : List Item) (m : List Bool) :
    (reset cfg rnd dm maxEms items m).2.stepType = .first := rfl

end BinPack
