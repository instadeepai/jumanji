/- BinPack: spaces and their intersection algebra, `argsortDesc`, the action mask against the rules, packing keeps
feasibility for every EMS update that only shrinks EMSs (`pack_feasible_of_shrinks`), the fields of a `step`, the transition of
the rules `stepL2` and `step = stepL2` on in-spec actions, runs of legal play (`Run`, and their invariant `RunInv`), and the
tiling lemmas behind the splitting generator.  The property theorems are in Props/Env/BinPack.lean. -/
import JumanjiModel.Env.BinPack.Model
import JumanjiModel.Core.TimeStepLemmas
import JumanjiModel.Prim.ListLemmas
import JumanjiModel.Prim.GridLemmas
namespace BinPack
open Jm

/-! ### spaces -/

theorem incl_iff (a b : Space) : a.isIncluded b = true ↔
    b.x1 ≤ a.x1 ∧ a.x2 ≤ b.x2 ∧ b.y1 ≤ a.y1 ∧ a.y2 ≤ b.y2 ∧ b.z1 ≤ a.z1 ∧ a.z2 ≤ b.z2 := by
  simp only [Space.isIncluded, Bool.and_eq_true, decide_eq_true_eq, ge_iff_le, and_assoc]

/-- everything about `intersect` below is a statement about one axis, `min a2 b2 ≤ max a1 b1`, lifted through this
disjunction -/
theorem inter_false_iff (a b : Space) : a.intersect b = false ↔
    (min a.x2 b.x2 ≤ max a.x1 b.x1 ∨ min a.y2 b.y2 ≤ max a.y1 b.y1 ∨ min a.z2 b.z2 ≤ max a.z1 b.z1) := by
  simp only [Space.intersect, Space.isEmpty, Space.intersection, Bool.not_eq_false', Bool.or_eq_true,
    decide_eq_true_eq, ge_iff_le, or_assoc]

theorem isEmpty_false_iff (a : Space) : a.isEmpty = false ↔ a.x1 < a.x2 ∧ a.y1 < a.y2 ∧ a.z1 < a.z2 := by
  simp only [Space.isEmpty, Bool.or_eq_false_iff, decide_eq_false_iff_not, ge_iff_le, Int.not_le, and_assoc]

theorem intersection_comm (a b : Space) : a.intersection b = b.intersection a := by
  simp only [Space.intersection, Int.max_comm a.x1, Int.max_comm a.y1, Int.max_comm a.z1, Int.min_comm a.x2,
    Int.min_comm a.y2, Int.min_comm a.z2]

theorem inter_comm (a b : Space) : a.intersect b = b.intersect a := by
  unfold Space.intersect; rw [intersection_comm]

theorem sep_mono {a1 a2 e1 e2 p1 p2 : Int} (h1 : e1 ≤ a1) (h2 : a2 ≤ e2) (h : min e2 p2 ≤ max e1 p1) :
    min a2 p2 ≤ max a1 p1 := by omega

theorem inter_mono (a e p : Space) (h : a.isIncluded e = true) (hp : e.intersect p = false) :
    a.intersect p = false := by
  rw [incl_iff] at h; rw [inter_false_iff] at *
  exact hp.imp (sep_mono h.1 h.2.1) (Or.imp (sep_mono h.2.2.1 h.2.2.2.1) (sep_mono h.2.2.2.2.1 h.2.2.2.2.2))

theorem inter_mono_right (a e p : Space) (h : a.isIncluded e = true) (hp : p.intersect e = false) :
    p.intersect a = false := by
  rw [inter_comm] at hp ⊢; exact inter_mono a e p h hp

theorem incl_trans (a b c : Space) (h1 : a.isIncluded b = true) (h2 : b.isIncluded c = true) :
    a.isIncluded c = true := by
  rw [incl_iff] at *; omega

theorem incl_refl (a : Space) : a.isIncluded a = true := by rw [incl_iff]; omega

theorem hyperInter_incl (it e : Space) (d : Dir) : (hyperInter it d e).isIncluded e = true := by
  rw [incl_iff]; cases d <;> simp only [hyperInter] <;> omega

/-- one axis: `e` cut below the item `[i1, i2)`, resp. above it, is clear of the item -/
theorem sep_lower (i1 i2 e1 e2 : Int) : min (min i1 e2) i2 ≤ max e1 i1 := by omega
theorem sep_upper (i1 i2 e1 e2 : Int) : min e2 i2 ≤ max (max i2 e1) i1 := by omega

theorem hyperInter_clear (it e : Space) (d : Dir) : (hyperInter it d e).intersect it = false := by
  rw [inter_false_iff]
  cases d
  · exact .inl (sep_lower ..)
  · exact .inl (sep_upper ..)
  · exact .inr (.inl (sep_lower ..))
  · exact .inr (.inl (sep_upper ..))
  · exact .inr (.inr (sep_lower ..))
  · exact .inr (.inr (sep_upper ..))

theorem corner_incl (it : Item) (e : Space) (hx : it.xl ≤ e.x2 - e.x1) (hy : it.yl ≤ e.y2 - e.y1)
    (hz : it.zl ≤ e.z2 - e.z1) : (spaceFrom it ⟨e.x1, e.y1, e.z1⟩).isIncluded e = true := by
  rw [incl_iff]; simp only [spaceFrom]; omega

/-! ### `argsortDesc` -/

theorem before_trans (key : Nat → Rat) {a b c : Nat} (h1 : before key a b) (h2 : before key b c) :
    before key a c := by
  unfold before at *; grind

theorem before_total (key : Nat → Rat) {a b : Nat} (h : a ≠ b) : before key a b ∨ before key b a := by
  unfold before; grind

theorem before_irrefl (key : Nat → Rat) (a : Nat) : ¬ before key a a := by
  unfold before; grind

theorem insertIdx_perm (key : Nat → Rat) (i : Nat) (l : List Nat) : (insertIdx key i l).Perm (i :: l) := by
  induction l with
  | nil => simp [insertIdx]
  | cons j js ih =>
    unfold insertIdx; split
    · exact (List.Perm.cons j ih).trans (List.Perm.swap i j js)
    · exact List.Perm.refl _

theorem insertIdx_pairwise (key : Nat → Rat) (i : Nat) (l : List Nat) (hl : l.Pairwise (before key))
    (hi : i ∉ l) : (insertIdx key i l).Pairwise (before key) := by
  induction l with
  | nil => simp [insertIdx]
  | cons j js ih =>
    rw [List.pairwise_cons] at hl
    unfold insertIdx; split
    · rename_i hb
      rw [List.pairwise_cons]
      refine ⟨?_, ih hl.2 (by simp at hi; exact hi.2)⟩
      intro x hx
      have := (insertIdx_perm key i js).mem_iff.mp hx
      simp at this
      rcases this with rfl | h
      · exact hb
      · exact hl.1 x h
    · rename_i hb
      have hij : i ≠ j := by simp at hi; exact hi.1
      have hbij : before key i j := by
        rcases before_total key hij with h | h
        · exact h
        · exact absurd h hb
      rw [List.pairwise_cons]
      refine ⟨?_, List.pairwise_cons.mpr hl⟩
      intro x hx
      simp at hx
      rcases hx with rfl | h
      · exact hbij
      · exact before_trans key hbij (hl.1 x h)

theorem foldr_insert_perm (key : Nat → Rat) (l : List Nat) : (l.foldr (insertIdx key) []).Perm l := by
  induction l with
  | nil => simp
  | cons i is ih => exact (insertIdx_perm key i _).trans (List.Perm.cons i ih)

theorem foldr_insert_pairwise (key : Nat → Rat) (l : List Nat) (hn : l.Nodup) :
    (l.foldr (insertIdx key) []).Pairwise (before key) := by
  induction l with
  | nil => simp
  | cons i is ih =>
    rw [List.nodup_cons] at hn
    refine insertIdx_pairwise key i _ (ih hn.2) ?_
    intro h
    exact hn.1 ((foldr_insert_perm key is).mem_iff.mp h)

theorem argsortDesc_perm (keys : List Rat) : (argsortDesc keys).Perm (List.range keys.length) :=
  foldr_insert_perm _ _

theorem argsortDesc_pairwise (keys : List Rat) :
    (argsortDesc keys).Pairwise (before (fun k => keys.getD k 0)) :=
  foldr_insert_pairwise _ _ List.nodup_range

theorem argsortDesc_length (keys : List Rat) : (argsortDesc keys).length = keys.length := by
  rw [(argsortDesc_perm keys).length_eq, List.length_range]

theorem mem_argsortDesc (keys : List Rat) (k : Nat) : k ∈ argsortDesc keys ↔ k < keys.length := by
  rw [(argsortDesc_perm keys).mem_iff, List.mem_range]

theorem argsortDesc_getD_lt (keys : List Rat) (e : Nat) (he : e < keys.length) :
    (argsortDesc keys).getD e 0 < keys.length := by
  rw [← mem_argsortDesc]
  exact Jx.getD_mem 0 (by rw [argsortDesc_length]; exact he)

/-! ### the mask -/

theorem take_eq_map_range {α} (l : List α) (m : Nat) (d : α) :
    l.take m = (List.range (min m l.length)).map (fun e => l.getD e d) := by
  apply List.ext_getElem
  · simp
  · intro i h1 h2
    simp at h1 h2
    simp [List.getD_eq_getElem?_getD, List.getElem?_eq_getElem (show i < l.length by omega)]

theorem WF.emsMask_len {s : State} (h : WF s) : s.emsMask.length = s.ems.length := h.1
theorem WF.itemsMask_len {s : State} (h : WF s) : s.itemsMask.length = s.items.length := h.2.1
theorem WF.placed_len {s : State} (h : WF s) : s.itemsPlaced.length = s.items.length := h.2.2.1
theorem WF.loc_len {s : State} (h : WF s) : s.itemsLoc.length = s.items.length := h.2.2.2

theorem emsKeys_length (rnd : Rat → Rat) (s : State) (h : WF s) : (emsKeys rnd s).length = s.ems.length := by
  unfold emsKeys; rw [List.length_zipWith, h.emsMask_len]; simp

theorem sortedOf_length (rnd : Rat → Rat) (s : State) (h : WF s) : (sortedOf rnd s).length = s.ems.length := by
  unfold sortedOf; rw [argsortDesc_length, emsKeys_length rnd s h]

theorem shownEms_lt (rnd : Rat → Rat) (s : State) (h : WF s) (e : Nat) (he : e < s.ems.length) :
    shownEms rnd s e < s.ems.length := by
  unfold shownEms sortedOf
  have := argsortDesc_getD_lt (emsKeys rnd s) e (by rw [emsKeys_length rnd s h]; exact he)
  rwa [emsKeys_length rnd s h] at this

theorem obsIdx_eq (cfg : Cfg) (rnd : Rat → Rat) (s : State) (hw : WF s) :
    obsIdx cfg rnd s = (List.range (min cfg.obsNum s.ems.length)).map (shownEms rnd s) := by
  unfold obsIdx; rw [take_eq_map_range _ _ 0, sortedOf_length rnd s hw]; rfl

theorem allowed_eq_canPack (s : State) (k i : Nat) (hi : i < s.items.length) :
    isActionAllowed (s.ems.getD k default) (s.emsMask.getD k false) (s.items.getD i default)
      (s.itemsMask.getD i false) (s.itemsPlaced.getD i true) = decide (canPack s k i) := by
  unfold isActionAllowed canPack
  simp only [itemFitsInItem]
  simp only [itemFromSpace]
  rw [Bool.eq_iff_iff]
  simp [hi, and_assoc]

theorem maskOf_eq_legalMask (cfg : Cfg) (rnd : Rat → Rat) (s : State) (h : WF s) :
    maskOf cfg rnd s = legalMask cfg rnd s := by
  unfold maskOf legalMask obsEms obsEmsMask
  rw [obsIdx_eq cfg rnd s h, List.zipWith_map, List.zipWith_self, List.map_map]
  exact List.map_congr_left fun e _ => List.map_congr_left fun i hi =>
    allowed_eq_canPack s _ i (List.mem_range.mp hi)

/-- the action is inside the action spec -/
def InSpec (cfg : Cfg) (s : State) (e i : Nat) : Prop := e < min cfg.obsNum s.ems.length ∧ i < s.items.length

theorem legal_iff (cfg : Cfg) (rnd : Rat → Rat) (s : State) (e i : Nat) :
    legal cfg rnd s e i ↔ InSpec cfg s e i ∧ canPack s (shownEms rnd s e) i := by
  unfold legal InSpec
  exact ⟨fun ⟨h1, h2, h3⟩ => ⟨⟨by omega, h3.1⟩, h3⟩, fun ⟨⟨h1, _⟩, h3⟩ => ⟨by omega, by omega, h3⟩⟩

theorem legalMask_eq_table (cfg : Cfg) (rnd : Rat → Rat) (s : State) :
    legalMask cfg rnd s = Jx.Grid.table (min cfg.obsNum s.ems.length) s.items.length
      (fun e i => decide (canPack s (shownEms rnd s e) i)) := rfl

theorem legalMask_getD (cfg : Cfg) (rnd : Rat → Rat) (s : State) (e i : Nat) :
    ((legalMask cfg rnd s).getD e []).getD i false = decide (legal cfg rnd s e i) := by
  rw [legalMask_eq_table, Jx.Grid.getD_table, Bool.eq_iff_iff, decide_eq_true_iff, legal_iff]
  unfold InSpec
  split <;> simp [*]

/-- C04: the mask bit of `(e, i)` is set exactly when the rules allow the action -/
theorem mask_iff_legal (cfg : Cfg) (rnd : Rat → Rat) (s : State) (h : WF s) (e i : Nat) :
    ((maskOf cfg rnd s).getD e []).getD i false = true ↔ legal cfg rnd s e i := by
  rw [maskOf_eq_legalMask cfg rnd s h, legalMask_getD]; simp

/-! ### packing preserves feasibility, for every EMS update that only shrinks EMSs -/

/-- the state after `_pack_item` with in-range indices -/
def packed (s : State) (k i : Nat) (d : EmsDraw) : State :=
  { s with itemsLoc := s.itemsLoc.set i ⟨(s.ems.getD k default).x1, (s.ems.getD k default).y1, (s.ems.getD k default).z1⟩
           itemsPlaced := s.itemsPlaced.set i true
           ems := d.ems, emsMask := d.mask }

/-- the space the new item occupies -/
def cornerSpace (s : State) (k i : Nat) : Space :=
  spaceFrom (s.items.getD i default) ⟨(s.ems.getD k default).x1, (s.ems.getD k default).y1, (s.ems.getD k default).z1⟩

theorem packed_placedSpace (s : State) (k i : Nat) (d : EmsDraw) (hw : WF s) (hi : i < s.items.length) (j : Nat) :
    placedSpace (packed s k i d) j = if j = i then cornerSpace s k i else placedSpace s j := by
  unfold placedSpace packed cornerSpace
  -- `simp only []` (here and below): only reduces the `let`s that `unfold` exposed
  simp only []
  rw [Jx.getD_set_lt _ _ _ _ _ (by rw [hw.loc_len]; exact hi)]
  split <;> simp_all

theorem packed_placed (s : State) (k i : Nat) (d : EmsDraw) (hw : WF s) (hi : i < s.items.length) (j : Nat) :
    (packed s k i d).itemsPlaced.getD j false = if j = i then true else s.itemsPlaced.getD j false := by
  unfold packed
  simp only []
  rw [Jx.getD_set_lt _ _ _ _ _ (by rw [hw.placed_len]; exact hi)]

theorem packed_item (s : State) (k i : Nat) (d : EmsDraw) (hw : WF s) (hi : i < s.items.length) (j : Nat)
    (hp : (packed s k i d).itemsPlaced.getD j false = true) :
    (j = i ∧ placedSpace (packed s k i d) j = cornerSpace s k i) ∨
    (s.itemsPlaced.getD j false = true ∧ placedSpace (packed s k i d) j = placedSpace s j) := by
  rw [packed_placedSpace s k i d hw hi]
  rw [packed_placed s k i d hw hi] at hp
  by_cases h : j = i
  · exact .inl ⟨h, if_pos h⟩
  · rw [if_neg h] at hp ⊢; exact .inr ⟨hp, rfl⟩

theorem packed_WF (s : State) (hw : WF s) (k i : Nat) (d : EmsDraw) (hd : d.mask.length = d.ems.length) :
    WF (packed s k i d) :=
  ⟨hd, hw.itemsMask_len, by simp [packed, hw.placed_len], by simp [packed, hw.loc_len]⟩

/-- what feasibility needs of an EMS update: the buffer keeps its shape, and every new active EMS lies inside an old
active EMS and is clear of the new item -/
def Shrinks (old : List Space) (oldMask : List Bool) (it : Space) (d : EmsDraw) : Prop :=
  d.mask.length = d.ems.length ∧
  ∀ j, j < d.ems.length → d.mask.getD j false = true →
    ∃ k, k < old.length ∧ oldMask.getD k false = true ∧
      (d.ems.getD j default).isIncluded (old.getD k default) = true ∧ (d.ems.getD j default).intersect it = false

theorem EmsRel.shrinks {old : List Space} {oldMask : List Bool} {it : Space} {d : EmsDraw}
    (hr : EmsRel old oldMask it d) : Shrinks old oldMask it d := by
  obtain ⟨hl1, hl2, hrel⟩ := hr
  refine ⟨by omega, fun j hj hm => ?_⟩
  obtain ⟨k', hk', hm', h⟩ := hrel j (by omega) hm
  refine ⟨k', hk', hm', ?_⟩
  rcases h with ⟨heq, hcl⟩ | ⟨dir, _, heq⟩
  · rw [heq]; exact ⟨incl_refl _, by rw [inter_comm]; exact hcl⟩
  · rw [heq]; exact ⟨hyperInter_incl _ _ _, hyperInter_clear _ _ _⟩

theorem pack_feasible_of_shrinks (s : State) (k i : Nat) (d : EmsDraw) (hf : Feasible s)
    (hk : k < s.ems.length) (hc : canPack s k i)
    (hr : Shrinks s.ems s.emsMask (cornerSpace s k i) d) : Feasible (packed s k i d) := by
  obtain ⟨hw, hin, hdis, hein, hecl⟩ := hf
  obtain ⟨hi, hnp, _, hact, hx, hy, hz⟩ := hc
  obtain ⟨hshape, hsub⟩ := hr
  -- the new item lies inside the chosen EMS, hence inside the container and clear of the placed items
  have hnew_in : (cornerSpace s k i).isIncluded (s.ems.getD k default) = true := corner_incl _ _ hx hy hz
  have hnew_clear : ∀ j, j < s.items.length → s.itemsPlaced.getD j false = true →
      (cornerSpace s k i).intersect (placedSpace s j) = false :=
    fun j hj hp => inter_mono _ _ _ hnew_in (hecl k hk hact j hj hp)
  have item := packed_item s k i d hw hi
  refine ⟨packed_WF s hw k i d hshape, ?_, ?_, ?_, ?_⟩
  · intro j hj hp
    rcases item j hp with ⟨_, h⟩ | ⟨hp, h⟩ <;> rw [h]
    · exact incl_trans _ _ _ hnew_in (hein k hk hact)
    · exact hin j hj hp
  · intro a ha b hb hab hpa hpb
    rcases item a hpa with ⟨rfl, h1⟩ | ⟨hpa, h1⟩ <;> rcases item b hpb with ⟨h, h2⟩ | ⟨hpb, h2⟩ <;> rw [h1, h2]
    · exact absurd h.symm hab
    · exact hnew_clear b hb hpb
    · rw [inter_comm]; exact hnew_clear a ha hpa
    · exact hdis a ha b hb hab hpa hpb
  · intro j hj hm
    obtain ⟨k', hk', hm', hincl, _⟩ := hsub j hj hm
    exact incl_trans _ _ _ hincl (hein k' hk' hm')
  · intro j hj hm b hb hpb
    obtain ⟨k', hk', hm', hincl, hclr⟩ := hsub j hj hm
    rcases item b hpb with ⟨_, h⟩ | ⟨hpb, h⟩ <;> rw [h]
    · exact hclr
    · exact inter_mono _ _ _ hincl (hecl k' hk' hm' b hb hpb)

theorem pack_feasible (s : State) (k i : Nat) (d : EmsDraw) (hf : Feasible s)
    (hk : k < s.ems.length) (hc : canPack s k i)
    (hr : EmsRel s.ems s.emsMask (cornerSpace s k i) d) : Feasible (packed s k i d) :=
  pack_feasible_of_shrinks s k i d hf hk hc hr.shrinks

/-! ### `step` -/

/-- C04: with fresh caches, the validity test of `step` agrees with the rules -/
theorem stepValid_iff_legal (cfg : Cfg) (rnd : Rat → Rat) (s : State) (hw : WF s) (hf : Fresh cfg rnd s)
    (e i : Nat) (hs : InSpec cfg s e i) : stepValid s e i = true ↔ legal cfg rnd s e i := by
  -- `stepValid` is two nested `Jx.getWC`, which is `Jx.Grid.getWC` by definition
  show Jx.Grid.getWC s.actionMask false (e : Int) (i : Int) = true ↔ _
  rw [hf.1, maskOf_eq_legalMask cfg rnd s hw, legalMask_eq_table,
    Jx.Grid.getWC_eq_get (Jx.Grid.shaped_table _ _ _) false (by omega) (by have := hs.1; omega) (by omega)
      (by have := hs.2; omega),
    Int.toNat_natCast, Int.toNat_natCast, Jx.Grid.get_table _ _ _ _ hs.1 hs.2, decide_eq_true_iff, legal_iff]
  exact (and_iff_right hs).symm

theorem makeObs_fst (cfg : Cfg) (rnd : Rat → Rat) (s : State) :
    (makeObs cfg rnd s).1 = { s with sortedIdx := (sortedOf rnd s).map (fun (k : Nat) => (k : Int)),
                                      actionMask := maskOf cfg rnd s } := rfl

theorem makeObs_fresh_id (cfg : Cfg) (rnd : Rat → Rat) (s : State) (hf : Fresh cfg rnd s) :
    (makeObs cfg rnd s).1 = s := by
  rw [makeObs_fst]; obtain ⟨h1, h2⟩ := hf; rw [← h1, ← h2]

theorem makeObs_fresh (cfg : Cfg) (rnd : Rat → Rat) (s : State) : Fresh cfg rnd (makeObs cfg rnd s).1 := by
  rw [makeObs_fst]; exact ⟨rfl, rfl⟩

theorem packItem_WF (s : State) (hw : WF s) (k i : Int) (d : EmsDraw) (hd : d.mask.length = d.ems.length) :
    WF (packItem s k i d) := by
  unfold packItem WF
  simp only [Jx.setWD_length]
  exact ⟨hd, hw.itemsMask_len, hw.placed_len, hw.loc_len⟩

/-- the state `step` hands to `_make_observation_and_extras` -/
def mid (s : State) (e i : Int) (d : EmsDraw) : State :=
  if stepValid s e i then packItem s (Jx.getWC s.sortedIdx 0 e) i d else s

theorem mid_cases {P : State → Prop} {s : State} {e i : Int} {d : EmsDraw} (h0 : P s)
    (h1 : stepValid s e i = true → P (packItem s (Jx.getWC s.sortedIdx 0 e) i d)) : P (mid s e i d) := by
  unfold mid; split
  · exact h1 ‹_›
  · exact h0

theorem mid_WF (s : State) (hw : WF s) (e i : Int) (d : EmsDraw)
    (hd : stepValid s e i = true → d.mask.length = d.ems.length) : WF (mid s e i d) :=
  mid_cases hw fun hv => packItem_WF s hw _ _ d (hd hv)

theorem step_eq (cfg : Cfg) (rnd : Rat → Rat) (s : State) (e i : Int) (d : EmsDraw) :
    step cfg rnd s e i d =
      ((makeObs cfg rnd (mid s e i d)).1,
       condLast (!((makeObs cfg rnd (mid s e i d)).1.actionMask.any fun r => r.any id) || !stepValid s e i)
         [reward cfg.dense s i (makeObs cfg rnd (mid s e i d)).1 (stepValid s e i)
           (!((makeObs cfg rnd (mid s e i d)).1.actionMask.any fun r => r.any id) || !stepValid s e i)]
         (makeObs cfg rnd (mid s e i d)).2) := rfl

theorem step_fst (cfg : Cfg) (rnd : Rat → Rat) (s : State) (e i : Int) (d : EmsDraw) :
    (step cfg rnd s e i d).1 = (makeObs cfg rnd (mid s e i d)).1 := rfl

theorem step_obs (cfg : Cfg) (rnd : Rat → Rat) (s : State) (e i : Int) (d : EmsDraw) :
    (step cfg rnd s e i d).2.obs = (makeObs cfg rnd (mid s e i d)).2 :=
  condLast_obs _ _ _

theorem step_stepType (cfg : Cfg) (rnd : Rat → Rat) (s : State) (e i : Int) (d : EmsDraw) :
    (step cfg rnd s e i d).2.stepType =
      if (!((step cfg rnd s e i d).1.actionMask.any fun r => r.any id) || !stepValid s e i) = true
      then .last else .mid :=
  condLast_stepType _ _ _

theorem step_reward (cfg : Cfg) (rnd : Rat → Rat) (s : State) (e i : Int) (d : EmsDraw) :
    (step cfg rnd s e i d).2.reward = [reward cfg.dense s i (step cfg rnd s e i d).1 (stepValid s e i)
      (!((step cfg rnd s e i d).1.actionMask.any fun r => r.any id) || !stepValid s e i)] :=
  condLast_reward _ _ _

theorem step_fresh (cfg : Cfg) (rnd : Rat → Rat) (s : State) (e i : Int) (d : EmsDraw) :
    Fresh cfg rnd (step cfg rnd s e i d).1 := by
  rw [step_fst]; exact makeObs_fresh _ _ _

theorem step_WF (cfg : Cfg) (rnd : Rat → Rat) (s : State) (hw : WF s) (e i : Int) (d : EmsDraw)
    (hd : d.mask.length = d.ems.length) : WF (step cfg rnd s e i d).1 := by
  rw [step_fst, makeObs_fst]; exact mid_WF s hw e i d fun _ => hd

/-! ### a legal step -/

theorem sortedIdx_getWC (cfg : Cfg) (rnd : Rat → Rat) (s : State) (hw : WF s) (hf : Fresh cfg rnd s)
    (e : Nat) (he : e < s.ems.length) : Jx.getWC s.sortedIdx 0 (e : Int) = ((shownEms rnd s e : Nat) : Int) := by
  rw [hf.2, Jx.getWC_nat _ _ (by rw [List.length_map, sortedOf_length rnd s hw]; exact he)]
  unfold shownEms
  have : e < (sortedOf rnd s).length := by rw [sortedOf_length rnd s hw]; exact he
  simp [List.getD_eq_getElem?_getD, List.getElem?_eq_getElem this]

theorem packItem_eq_packed (s : State) (k i : Nat) (hk : k < s.ems.length) (d : EmsDraw) :
    packItem s (k : Int) (i : Int) d = packed s k i d := by
  unfold packItem packed
  simp only [Jx.getWC_nat _ _ hk, Jx.setWD_natCast]

theorem newItemSpace_eq (cfg : Cfg) (rnd : Rat → Rat) (s : State) (hw : WF s) (hf : Fresh cfg rnd s)
    (e i : Nat) (hs : InSpec cfg s e i) : newItemSpace s e i = cornerSpace s (shownEms rnd s e) i := by
  have he : e < s.ems.length := by have := hs.1; omega
  have hk := shownEms_lt rnd s hw e he
  unfold newItemSpace cornerSpace
  simp only []
  rw [sortedIdx_getWC cfg rnd s hw hf e he, Jx.getWC_nat _ _ hk, Jx.getWC_nat _ _ hs.2,
    Jx.setWD_natCast,
    Jx.getWC_nat _ _ (by rw [List.length_set, hw.loc_len]; exact hs.2),
    Jx.getD_set_lt _ _ _ _ _ (by rw [hw.loc_len]; exact hs.2)]
  simp

/-- the transition the rules prescribe for an in-spec action `(e, i)`: an illegal action ends the episode and changes
nothing; a legal one puts item `i` into the corner of the EMS shown in slot `e`, takes `d` as the new EMS buffer, and
ends the episode iff the new action mask is empty.  Dense reward: the volume fraction of the item; sparse reward: the
utilisation when the episode ends (docs/environments/bin_pack.md).  The mask and the observation are written with the
code's `maskOf` / `makeObs` on the packed state; `maskOf_eq_legalMask` and `makeObs_snd` say they are the `legalMask` and
`observe` of the rules -/
def stepL2 (cfg : Cfg) (rnd : Rat → Rat) (s : State) (e i : Nat) (d : EmsDraw) : State × TimeStep Obs :=
  if legal cfg rnd s e i then
    let p := packed s (shownEms rnd s e) i d
    let done := !((maskOf cfg rnd p).any fun r => r.any id)
    ((makeObs cfg rnd p).1, condLast done
      [if cfg.dense then ((s.items.getD i default).volume : Rat) / (s.container.volume : Rat)
       else if done then utilisation p else 0] (makeObs cfg rnd p).2)
  else (s, condLast true [if cfg.dense then 0 else utilisation s] (makeObs cfg rnd s).2)

/-- the `Int`-indexed lookups of `step` decoded -/
theorem mid_eq (cfg : Cfg) (rnd : Rat → Rat) (s : State) (hw : WF s) (hf : Fresh cfg rnd s) (e i : Nat)
    (hs : InSpec cfg s e i) (d : EmsDraw) :
    stepValid s e i = decide (legal cfg rnd s e i) ∧
    mid s e i d = if legal cfg rnd s e i then packed s (shownEms rnd s e) i d else s := by
  have he : e < s.ems.length := by have := hs.1; omega
  have hv : stepValid s e i = decide (legal cfg rnd s e i) := by
    rw [Bool.eq_iff_iff, stepValid_iff_legal cfg rnd s hw hf e i hs, decide_eq_true_iff]
  refine ⟨hv, ?_⟩
  unfold mid
  rw [hv, sortedIdx_getWC cfg rnd s hw hf e he, packItem_eq_packed s _ i (shownEms_lt rnd s hw e he)]
  simp only [decide_eq_true_eq]

/-- C09: on in-spec actions the L1 step is the transition of the rules, whatever EMS buffer is drawn -/
theorem step_eq_stepL2 (cfg : Cfg) (rnd : Rat → Rat) (s : State) (hw : WF s) (hf : Fresh cfg rnd s) (e i : Nat)
    (hs : InSpec cfg s e i) (d : EmsDraw) : step cfg rnd s e i d = stepL2 cfg rnd s e i d := by
  obtain ⟨hv, hm⟩ := mid_eq cfg rnd s hw hf e i hs d
  rw [step_eq, hm, hv]
  unfold stepL2
  by_cases hl : legal cfg rnd s e i
  · simp only [hl, if_true, decide_true, Bool.not_true, Bool.or_false, reward, Jx.getWC_nat _ _ hs.2]
    rfl
  · simp only [hl, if_false, if_true, decide_false, Bool.not_false, Bool.or_true, reward, makeObs_fresh_id cfg rnd s hf,
      Bool.false_eq_true]

theorem legal_step_fst (cfg : Cfg) (rnd : Rat → Rat) (s : State) (hw : WF s) (hf : Fresh cfg rnd s)
    (e i : Nat) (hs : InSpec cfg s e i) (d : EmsDraw) (hl : legal cfg rnd s e i) :
    (step cfg rnd s e i d).1 = (makeObs cfg rnd (packed s (shownEms rnd s e) i d)).1 := by
  rw [step_eq_stepL2 cfg rnd s hw hf e i hs d, stepL2, if_pos hl]

theorem legal_step_stepType (cfg : Cfg) (rnd : Rat → Rat) (s : State) (hw : WF s) (hf : Fresh cfg rnd s)
    (e i : Nat) (hs : InSpec cfg s e i) (d : EmsDraw) (hl : legal cfg rnd s e i) (hd : d.mask.length = d.ems.length) :
    (step cfg rnd s e i d).2.stepType =
      if completeB cfg rnd (step cfg rnd s e i d).1 = true then StepType.last else StepType.mid := by
  rw [step_eq_stepL2 cfg rnd s hw hf e i hs d, stepL2, if_pos hl]
  show (condLast _ _ _).stepType = if completeB cfg rnd (packed s (shownEms rnd s e) i d) = true then _ else _
  rw [condLast_stepType, completeB, maskOf_eq_legalMask cfg rnd _ (packed_WF s hw _ i d hd)]

/-- C06: a legal action keeps the state feasible, whatever EMS update in the relation is drawn -/
theorem step_feasible (cfg : Cfg) (rnd : Rat → Rat) (s : State) (hF : Feasible s) (hf : Fresh cfg rnd s)
    (e i : Nat) (hs : InSpec cfg s e i) (d : EmsDraw) (hl : legal cfg rnd s e i)
    (hd : validDraw s e i d) : Feasible (step cfg rnd s e i d).1 := by
  have hw := hF.1
  have he : e < s.ems.length := by have := hs.1; omega
  rw [legal_step_fst cfg rnd s hw hf e i hs d hl]
  show Feasible (packed s (shownEms rnd s e) i d)
  unfold validDraw at hd
  rw [newItemSpace_eq cfg rnd s hw hf e i hs] at hd
  exact pack_feasible s _ i d hF (shownEms_lt rnd s hw e he) hl.2.2 hd

theorem ResetShape.unplaced {s : State} (h : ResetShape s) (i : Nat) : s.itemsPlaced.getD i false = false := by
  rw [h.2.2.2.2.2.2.2.2.2.1]; exact Jx.getD_replicate_self _ _ _

theorem ResetShape.count {s : State} (h : ResetShape s) : Jx.countTrue s.itemsPlaced = 0 := by
  rw [h.2.2.2.2.2.2.2.2.2.1]; exact Jx.countTrue_replicate_false _

/-- C06: the reset state of the generators is feasible -/
theorem reset_feasible (s : State) (h : ResetShape s) : Feasible s := by
  have hnp := h.unplaced
  obtain ⟨hw, _, _, _, _, _, _, hhead, hmask, _⟩ := h
  refine ⟨hw, ?_, ?_, ?_, ?_⟩
  · intro i _ hp; rw [hnp i] at hp; exact absurd hp (by decide)
  · intro i _ j _ _ hp; rw [hnp i] at hp; exact absurd hp (by decide)
  · intro k hk hm
    rw [hmask] at hm
    simp [List.getD_eq_getElem?_getD, hk] at hm
    subst hm
    cases hems : s.ems with
    | nil => rw [hems] at hk; simp at hk
    | cons a as =>
      rw [hems] at hhead; simp at hhead
      simp [hhead]; exact incl_refl _
  · intro k _ _ i _ hp; rw [hnp i] at hp; exact absurd hp (by decide)

/-! ### progress (C11) and rewards (C08) -/

theorem step_mid_valid (cfg : Cfg) (rnd : Rat → Rat) (s : State) (e i : Int) (d : EmsDraw)
    (h : (step cfg rnd s e i d).2.stepType ≠ .last) : stepValid s e i = true := by
  rw [step_stepType] at h
  cases hv : stepValid s e i
  · rw [hv, Bool.not_false, Bool.or_true] at h; exact absurd rfl h
  · rfl

/-- only present items are placed -/
def PlacedSubMask (s : State) : Prop := ∀ i, s.itemsPlaced.getD i false = true → s.itemsMask.getD i false = true

theorem legal_step_items (cfg : Cfg) (rnd : Rat → Rat) (s : State) (hw : WF s) (hf : Fresh cfg rnd s)
    (e i : Nat) (hs : InSpec cfg s e i) (d : EmsDraw) (hl : legal cfg rnd s e i) :
    Jx.countTrue (step cfg rnd s e i d).1.itemsPlaced = Jx.countTrue s.itemsPlaced + 1 ∧
    (step cfg rnd s e i d).1.items = s.items ∧ (step cfg rnd s e i d).1.itemsMask = s.itemsMask ∧
    (step cfg rnd s e i d).1.container = s.container ∧ (PlacedSubMask s → PlacedSubMask (step cfg rnd s e i d).1) := by
  rw [legal_step_fst cfg rnd s hw hf e i hs d hl]
  refine ⟨Jx.countTrue_set_true (by rw [hw.placed_len]; exact hs.2) hl.2.2.2.1, rfl, rfl, rfl, fun h j hj => ?_⟩
  have hj' : (packed s (shownEms rnd s e) i d).itemsPlaced.getD j false = true := hj
  rw [packed_placed s _ _ _ hw hs.2] at hj'
  show s.itemsMask.getD j false = true
  by_cases hji : j = i
  · subst hji; exact hl.2.2.2.2.1
  · rw [if_neg hji] at hj'; exact h j hj'

/-- C11: a step that does not end the episode packs exactly one more item -/
theorem progress (cfg : Cfg) (rnd : Rat → Rat) (s : State) (hw : WF s) (hf : Fresh cfg rnd s)
    (e i : Nat) (hs : InSpec cfg s e i) (d : EmsDraw)
    (h : (step cfg rnd s e i d).2.stepType ≠ .last) :
    Jx.countTrue (step cfg rnd s e i d).1.itemsPlaced = Jx.countTrue s.itemsPlaced + 1 :=
  (legal_step_items cfg rnd s hw hf e i hs d
    ((stepValid_iff_legal cfg rnd s hw hf e i hs).mp (step_mid_valid cfg rnd s e i d h))).1

theorem sum_map_range_update (f g : Nat → Int) (n i : Nat) (c : Int) (hi : i < n)
    (hne : ∀ j, j ≠ i → g j = f j) (heq : g i = f i + c) :
    ((List.range n).map g).sum = ((List.range n).map f).sum + c := by
  induction n with
  | zero => omega
  | succ m ih =>
    rw [List.range_succ, List.map_append, List.map_append, List.sum_append, List.sum_append]
    by_cases h : i = m
    · subst h
      have : (List.range i).map g = (List.range i).map f := by
        apply List.map_congr_left; intro j hj; exact hne j (by have := List.mem_range.mp hj; omega)
      rw [this]; simp [heq]; omega
    · have := ih (by omega)
      rw [this]; simp [hne m (fun h' => h h'.symm)]; omega

theorem packed_placedVolume (s : State) (hw : WF s) (k i : Nat) (d : EmsDraw) (hi : i < s.items.length)
    (hnp : s.itemsPlaced.getD i true = false) :
    placedVolume (packed s k i d) = placedVolume s + (s.items.getD i default).volume := by
  unfold placedVolume
  show ((List.range s.items.length).map (fun j =>
      if (s.itemsPlaced.set i true).getD j false then (s.items.getD j default).volume else 0)).sum = _
  apply sum_map_range_update _ _ _ i _ hi
  · intro j hj
    rw [Jx.getD_set_lt _ _ _ _ _ (by rw [hw.placed_len]; exact hi)]; simp [hj]
  · have hlt : i < s.itemsPlaced.length := by rw [hw.placed_len]; exact hi
    rw [Jx.getD_set_lt _ _ _ _ _ hlt, if_pos rfl, Jx.getD_irrel false true hlt, hnp]; simp

/-- C08: the dense reward of a legal step is the increase of the volume utilisation -/
theorem dense_telescopes (cfg : Cfg) (rnd : Rat → Rat) (s : State) (hw : WF s) (hf : Fresh cfg rnd s)
    (e i : Nat) (hs : InSpec cfg s e i) (d : EmsDraw) (hl : legal cfg rnd s e i) (hd : cfg.dense = true) :
    utilisation (step cfg rnd s e i d).1 = utilisation s + (step cfg rnd s e i d).2.reward.sum := by
  rw [step_eq_stepL2 cfg rnd s hw hf e i hs d, stepL2, if_pos hl]
  show (placedVolume (packed s (shownEms rnd s e) i d) : Rat) / (s.container.volume : Rat) =
    utilisation s + (condLast _ [if cfg.dense = true then _ else _] _).reward.sum
  rw [packed_placedVolume s hw _ i d hs.2 hl.2.2.2.1, condLast_reward, if_pos hd]
  simp [utilisation, Rat.intCast_add, Rat.div_def, Rat.add_mul, Rat.add_zero]

/-- C08: the sparse reward is zero until the episode ends and then the volume utilisation -/
theorem sparse_reward (cfg : Cfg) (rnd : Rat → Rat) (s : State) (e i : Int) (d : EmsDraw)
    (hd : cfg.dense = false) :
    (step cfg rnd s e i d).2.reward =
      [if (step cfg rnd s e i d).2.stepType = .last then utilisation (step cfg rnd s e i d).1 else 0] := by
  rw [step_stepType, step_reward, hd]
  cases (!((step cfg rnd s e i d).1.actionMask.any fun r => r.any id) || !stepValid s e i) <;> rfl

/-! ### observations (C12) -/

theorem observe_makeObs (cfg : Cfg) (rnd : Rat → Rat) (s : State) :
    observe cfg rnd (makeObs cfg rnd s).1 = observe cfg rnd s := rfl

theorem makeObs_snd (cfg : Cfg) (rnd : Rat → Rat) (s : State) (hw : WF s) :
    (makeObs cfg rnd s).2 = observe cfg rnd s := by
  unfold makeObs observe
  simp only [maskOf_eq_legalMask cfg rnd s hw, obsEms, obsEmsMask, obsIdx_eq cfg rnd s hw, List.map_map]
  cases cfg.normalize <;>
    simp [Function.comp_def, normSpace, normItem, Space.toQ, Item.toQ, itemFromSpace]

/-- C12: the observation returned by `step` is the documented function of the successor state -/
theorem obs_faithful (cfg : Cfg) (rnd : Rat → Rat) (s : State) (hw : WF s) (e i : Int) (d : EmsDraw)
    (hd : d.mask.length = d.ems.length) :
    (step cfg rnd s e i d).2.obs = observe cfg rnd (step cfg rnd s e i d).1 := by
  rw [step_obs, step_fst, observe_makeObs]
  exact makeObs_snd cfg rnd _ (mid_WF s hw e i d fun _ => hd)

theorem completeB_iff (cfg : Cfg) (rnd : Rat → Rat) (s : State) :
    completeB cfg rnd s = true ↔ Complete cfg rnd s := by
  unfold completeB Complete
  rw [Bool.not_eq_true', ← Bool.not_eq_true, Jx.any_any_iff]
  simp only [legalMask_getD, decide_eq_true_eq, not_exists]

theorem legal_step_last_iff (cfg : Cfg) (rnd : Rat → Rat) (s : State) (hw : WF s) (hf : Fresh cfg rnd s)
    (e i : Nat) (hs : InSpec cfg s e i) (d : EmsDraw) (hl : legal cfg rnd s e i) (hd : d.mask.length = d.ems.length) :
    (step cfg rnd s e i d).2.stepType = .last ↔ Complete cfg rnd (step cfg rnd s e i d).1 := by
  rw [legal_step_stepType cfg rnd s hw hf e i hs d hl hd, ← completeB_iff]
  cases completeB cfg rnd (step cfg rnd s e i d).1 <;> simp

/-! ### whole episodes of legal play -/

/-- `Run cfg rnd s₀ n s`: `s` is reached from `s₀` by `n` legal in-spec actions, each with an EMS
update taken from the relation -/
inductive Run (cfg : Cfg) (rnd : Rat → Rat) : State → Nat → State → Prop
  | nil (s : State) : Run cfg rnd s 0 s
  | snoc {s₀ : State} {n : Nat} {s : State} (e i : Nat) (d : EmsDraw) :
      Run cfg rnd s₀ n s → InSpec cfg s e i → legal cfg rnd s e i → validDraw s e i d →
      Run cfg rnd s₀ (n + 1) (step cfg rnd s e i d).1

/-- C06 / C11 along a whole episode: what holds after `n` steps of legal play from the reset state `s₀` -/
structure RunInv (cfg : Cfg) (rnd : Rat → Rat) (s₀ : State) (n : Nat) (s : State) : Prop where
  feasible : Feasible s
  fresh : Fresh cfg rnd s
  count : Jx.countTrue s.itemsPlaced = n
  items : s.items = s₀.items
  mask : s.itemsMask = s₀.itemsMask
  container : s.container = s₀.container
  sub : PlacedSubMask s

theorem RunInv.reset {cfg : Cfg} {rnd : Rat → Rat} {s₀ : State} (h0 : ResetShape s₀) (hf0 : Fresh cfg rnd s₀) :
    RunInv cfg rnd s₀ 0 s₀ :=
  ⟨reset_feasible _ h0, hf0, h0.count, rfl, rfl, rfl, fun i hi => by rw [h0.unplaced] at hi; cases hi⟩

theorem RunInv.step {cfg : Cfg} {rnd : Rat → Rat} {s₀ s : State} {n : Nat} (h : RunInv cfg rnd s₀ n s) (e i : Nat)
    (d : EmsDraw) (hs : InSpec cfg s e i) (hl : legal cfg rnd s e i) (hd : validDraw s e i d) :
    RunInv cfg rnd s₀ (n + 1) (step cfg rnd s e i d).1 := by
  obtain ⟨h1, h2, h3, h4, h5⟩ := legal_step_items cfg rnd s h.feasible.1 h.fresh e i hs d hl
  exact ⟨step_feasible cfg rnd s h.feasible h.fresh e i hs d hl hd, step_fresh cfg rnd s e i d, by rw [h1, h.count],
    h2.trans h.items, h3.trans h.mask, h4.trans h.container, h5 h.sub⟩

theorem run_invariant (cfg : Cfg) (rnd : Rat → Rat) (s₀ : State) (h0 : ResetShape s₀)
    (hf0 : Fresh cfg rnd s₀) (n : Nat) (s : State) (hr : Run cfg rnd s₀ n s) : RunInv cfg rnd s₀ n s := by
  induction hr with
  | nil => exact .reset h0 hf0
  | snoc e i d _ hs hl hd ih => exact ih.step e i d hs hl hd

/-- C11: an episode of legal play has at most as many steps as there are PRESENT items (`jnp.sum(items_mask)`) -/
theorem horizon_present (cfg : Cfg) (rnd : Rat → Rat) (s₀ : State) (h0 : ResetShape s₀)
    (hf0 : Fresh cfg rnd s₀) (n : Nat) (s : State) (hr : Run cfg rnd s₀ n s) : n ≤ Jx.countTrue s₀.itemsMask := by
  have h := run_invariant cfg rnd s₀ h0 hf0 n s hr
  rw [← h.count, ← h.mask]
  exact Jx.countTrue_le_of_sub _ _ (by rw [h.feasible.1.2.2.1, h.feasible.1.2.1]) h.sub

/-- C11: … hence at most as many as there are item slots -/
theorem horizon (cfg : Cfg) (rnd : Rat → Rat) (s₀ : State) (h0 : ResetShape s₀)
    (hf0 : Fresh cfg rnd s₀) (n : Nat) (s : State) (hr : Run cfg rnd s₀ n s) : n ≤ s₀.items.length :=
  Nat.le_trans (horizon_present cfg rnd s₀ h0 hf0 n s hr) (by rw [← h0.1.2.1]; exact Jx.countTrue_le _)

/-! ### the splitting generator (C10) -/

/-- all sides non-negative -/
def Space.Proper (b : Space) : Prop := b.x1 ≤ b.x2 ∧ b.y1 ≤ b.y2 ∧ b.z1 ≤ b.z2

/-- the boxes `bs` tile the container `c`: proper boxes inside `c`, pairwise non-overlapping, whose
volumes add up to the volume of `c` -/
def Tiles (c : Space) (bs : List Space) : Prop :=
  (∀ b, b ∈ bs → b.Proper ∧ b.isIncluded c = true) ∧
  bs.Pairwise (fun a b => a.intersect b = false) ∧ (bs.map Space.volume).sum = c.volume

theorem tiles_base (c : Space) (hc : c.Proper) : Tiles c [c] := by
  refine ⟨?_, by simp, by simp⟩
  intro b hb; simp at hb; subst hb; exact ⟨hc, incl_refl _⟩

/-- one axis, cut at `p`: the two halves do not overlap, and their lengths add up -/
theorem sep_cut (lo p hi : Int) : min p hi ≤ max lo p := by omega
theorem cut_len (lo p hi : Int) : p - lo + (hi - p) = hi - lo := by omega

theorem cut_facts (ax : Nat) (b : Space) (p : Int) (hb : b.Proper) (h1 : axLo ax b ≤ p) (h2 : p ≤ axHi ax b) :
    (cutLo ax b p).Proper ∧ (cutHi ax b p).Proper ∧ (cutLo ax b p).isIncluded b = true ∧
    (cutHi ax b p).isIncluded b = true ∧ (cutLo ax b p).intersect (cutHi ax b p) = false ∧
    (cutLo ax b p).volume + (cutHi ax b p).volume = b.volume := by
  unfold Space.Proper at *
  rw [incl_iff, incl_iff, inter_false_iff]
  unfold Space.volume
  rcases ax with _ | _ | _ <;> simp only [cutLo, cutHi, axLo, axHi] at h1 h2 ⊢
  · refine ⟨by omega, by omega, by omega, by omega, .inl (sep_cut ..), ?_⟩
    rw [← Int.add_mul, ← Int.add_mul, cut_len]
  · refine ⟨by omega, by omega, by omega, by omega, .inr (.inl (sep_cut ..)), ?_⟩
    rw [← Int.add_mul, ← Int.mul_add, cut_len]
  · refine ⟨by omega, by omega, by omega, by omega, .inr (.inr (sep_cut ..)), ?_⟩
    rw [← Int.mul_add, cut_len]

theorem tiles_replace (c : Space) (l₁ l₂ ps : List Space) (b : Space) (h : Tiles c (l₁ ++ b :: l₂))
    (hp : Tiles b ps) : Tiles c (l₁ ++ (ps ++ l₂)) := by
  obtain ⟨hin, hpw, hsum⟩ := h
  obtain ⟨qin, qpw, qsum⟩ := hp
  have hb := (hin b (by simp)).2
  rw [List.pairwise_append, List.pairwise_cons] at hpw
  obtain ⟨p1, ⟨p2, p2'⟩, p3⟩ := hpw
  refine ⟨?_, ?_, ?_⟩
  · intro x hx
    simp only [List.mem_append] at hx
    rcases hx with hx | hx | hx
    · exact hin x (by simp [hx])
    · exact ⟨(qin x hx).1, incl_trans _ _ _ (qin x hx).2 hb⟩
    · exact hin x (by simp [hx])
  · rw [List.pairwise_append, List.pairwise_append]
    refine ⟨p1, ⟨qpw, p2', fun x hx y hy => inter_mono _ _ _ (qin x hx).2 (p2 y hy)⟩, fun x hx y hy => ?_⟩
    rcases List.mem_append.mp hy with hy | hy
    · exact inter_mono_right _ _ _ (qin y hy).2 (p3 x hx b (by simp))
    · exact p3 x hx y (by simp [hy])
  · simp only [List.map_append, List.map_cons, List.sum_append, List.sum_cons] at hsum ⊢
    omega

theorem tiles_halves (ax : Nat) (b : Space) (p : Int) (hb : b.Proper) (h1 : axLo ax b ≤ p) (h2 : p ≤ axHi ax b) :
    Tiles b [cutLo ax b p, cutHi ax b p] := by
  obtain ⟨f1, f2, f3, f4, f5, f6⟩ := cut_facts ax b p hb h1 h2
  refine ⟨?_, by simp [f5], by simpa using f6⟩
  intro x hx
  simp only [List.mem_cons, List.not_mem_nil, or_false] at hx
  rcases hx with rfl | rfl
  · exact ⟨f1, f3⟩
  · exact ⟨f2, f4⟩

theorem tiles_nil (b : Space) (hb : b.Proper) (he : b.isEmpty = true) : Tiles b [] := by
  have hv : b.volume = 0 := by
    unfold Space.Proper at hb
    simp only [Space.isEmpty, Bool.or_eq_true, decide_eq_true_eq] at he
    unfold Space.volume
    rcases he with (he | he) | he
    · have : b.x2 - b.x1 = 0 := by omega
      simp [this]
    · have : b.y2 - b.y1 = 0 := by omega
      simp [this]
    · have : b.z2 - b.z1 = 0 := by omega
      simp [this]
  exact ⟨by simp, List.Pairwise.nil, hv.symm⟩

/-- `items_mask &= ~items_spaces.is_empty()` -/
theorem tiles_drop_empty (c : Space) (l₁ l₂ : List Space) (b : Space)
    (h : Tiles c (l₁ ++ b :: l₂)) (he : b.isEmpty = true) : Tiles c (l₁ ++ l₂) :=
  tiles_replace c l₁ l₂ [] b h (tiles_nil b (h.1 b (by simp)).1 he)

/-- the order of the boxes (the slot `argmin(items_mask)` a new piece is written to) does not matter -/
theorem tiles_perm (c : Space) (l l' : List Space) (h : Tiles c l) (hp : l.Perm l') : Tiles c l' := by
  obtain ⟨hin, hpw, hsum⟩ := h
  refine ⟨fun b hb => hin b (hp.mem_iff.mpr hb), ?_, ?_⟩
  · exact (hp.pairwise_iff (fun {a b} hab => by rw [inter_comm]; exact hab)).mp hpw
  · rw [← hsum]; exact (Jx.perm_sum_int (hp.map Space.volume)).symm

end BinPack
