/-
BinPack: the transliterated `_update_ems` (`updateEms`, Model.lean) satisfies the relation of the R-model.

`updateEmsCore_rel`, `updateEmsCore_relAll`: for EVERY buffer whose mask and coordinate arrays have the same length and
EVERY item space, the buffer computed by `updateEmsCore` is in `EmsRel` (active slots) and in `EmsRelAll` (all slots).
Neither feasibility of the state nor legality of the action is needed.  Consequently every theorem about
`step … d` with a hypothesis `validDraw s e i d` / `validDrawAll s e i d` specialises to the deterministic step
`step₁` without that hypothesis (Step1.lean).

What the proof uses of the code: the successor buffer starts as `(ems, ems_mask_after_intersect)` and is only
changed by `add_the_ems`, which writes a candidate `hyperplane ∩ ems[k]` whose flag is set; a flag can only be
set when `ems_mask[k]` is set and the cut is non-empty (the initial `intersections_mask_dict`), and the
inclusion filtering of `_get_intersections_dict` only clears flags.
-/
import JumanjiModel.Env.BinPack.Bounds
namespace BinPack
open Jm

/-! ### `_add_ems`: every slot is unchanged or holds a flagged candidate -/

theorem addOneEms_cases (st : List Space × List Bool) (c : Space × Bool) :
    addOneEms st c = st ∨
    (c.2 = true ∧ ∃ idx, addOneEms st c = (List.set st.1 idx c.1, List.set st.2 idx true)) := by
  unfold addOneEms
  split
  · rename_i h
    right
    simp only [Bool.and_eq_true] at h
    exact ⟨h.1, _, rfl⟩
  · left; rfl

/-- the result of feeding the candidates `cands` to `add_one_ems`, starting from `(ems, mask)` -/
def SlotSpec (cands : List (Space × Bool)) (ems : List Space) (mask : List Bool)
    (r : List Space × List Bool) : Prop :=
  r.1.length = ems.length ∧ r.2.length = mask.length ∧
  ∀ j, (r.1.getD j default = ems.getD j default ∧ (r.2.getD j false = true → mask.getD j false = true)) ∨
       (j < ems.length ∧ ∃ c, c ∈ cands ∧ c.2 = true ∧ r.1.getD j default = c.1)

theorem addAll_spec (cands : List (Space × Bool)) :
    ∀ (ems : List Space) (mask : List Bool), mask.length = ems.length →
      SlotSpec cands ems mask (cands.foldl addOneEms (ems, mask)) := by
  induction cands with
  | nil => intro ems mask _; exact ⟨rfl, rfl, fun j => Or.inl ⟨rfl, id⟩⟩
  | cons c cs ih =>
    intro ems mask hl
    rw [List.foldl_cons]
    rcases addOneEms_cases (ems, mask) c with h | ⟨hc, idx, h⟩
    · rw [h]
      obtain ⟨h1, h2, h3⟩ := ih ems mask hl
      refine ⟨h1, h2, fun j => ?_⟩
      rcases h3 j with h | ⟨hj, c', hc', h⟩
      · exact Or.inl h
      · exact Or.inr ⟨hj, c', List.mem_cons_of_mem _ hc', h⟩
    · rw [h]
      obtain ⟨h1, h2, h3⟩ := ih (List.set ems idx c.1) (List.set mask idx true) (by simp [hl])
      simp only [List.length_set] at h1 h2 h3
      refine ⟨h1, h2, fun j => ?_⟩
      rcases h3 j with ⟨ha, hb⟩ | ⟨hj, c', hc', h⟩
      · rw [Jx.getD_set] at ha hb
        by_cases hji : idx = j ∧ idx < ems.length
        · right
          rw [if_pos hji] at ha
          exact ⟨by omega, c, List.mem_cons_self, hc, ha⟩
        · left
          rw [if_neg hji] at ha
          rw [if_neg (by rw [hl]; exact hji)] at hb
          exact ⟨ha, hb⟩
      · exact Or.inr ⟨hj, c', List.mem_cons_of_mem _ hc', h⟩

/-! ### `_get_intersections_dict`: the filtering only clears flags -/

/-- every flag set in `M` is set in `M'` -/
def MaskSub (M M' : List (List Bool)) : Prop :=
  ∀ j k, (M.getD j []).getD k false = true → (M'.getD j []).getD k false = true

theorem andNot_sub (m r : List Bool) (k : Nat) (h : (andNot m r).getD k false = true) : m.getD k false = true := by
  unfold andNot at h
  simp only [List.getD_eq_getElem?_getD, List.getElem?_zipWith] at h ⊢
  cases hm : m[k]? <;> cases hr : r[k]? <;> simp_all

theorem foldl_maskSub {α} (f : List (List Bool) → α → List (List Bool)) (hf : ∀ M x, MaskSub (f M x) M)
    (l : List α) : ∀ M, MaskSub (l.foldl f M) M := by
  induction l with
  | nil => intro M d k h; exact h
  | cons x xs ih => intro M d k h; exact hf M x d k (ih (f M x) d k h)

theorem filterMasks_sub (I : Dir → List Space) (M0 : List (List Bool)) : MaskSub (filterMasks I M0) M0 := by
  unfold filterMasks
  apply foldl_maskSub
  intro M d
  apply foldl_maskSub
  intro M' a j k h
  simp only [] at h
  rw [Jx.getD_set] at h
  split at h
  · rename_i hj; rw [← hj.1]; exact andNot_sub _ _ k h
  · exact h

theorem dirAll_map_getD {α} (f : Dir → List α) (d : Dir) : (Dir.all.map f).getD d.idx [] = f d := by
  cases d <;> rfl

theorem zipWith_getD_true {α β} (f : α → β → Bool) (a : List α) (b : List β) (k : Nat)
    (h : (List.zipWith f a b).getD k false = true) :
    ∃ x y, a[k]? = some x ∧ b[k]? = some y ∧ f x y = true := by
  simp only [List.getD_eq_getElem?_getD, List.getElem?_zipWith] at h
  cases ha : a[k]? <;> cases hb : b[k]? <;> simp_all

theorem interMask0_true (it : Space) (ems : List Space) (mask : List Bool) (d : Dir) (k : Nat)
    (h : (interMask0 it ems mask d).getD k false = true) :
    k < ems.length ∧ mask.getD k false = true ∧ (hyperInter it d (ems.getD k default)).isEmpty = false := by
  unfold interMask0 at h
  obtain ⟨em, mai, h1, _, h3⟩ := zipWith_getD_true _ _ _ k h
  rw [List.getElem?_zip_eq_some] at h1
  obtain ⟨he, hm⟩ := h1
  have hk : k < ems.length := by
    rcases Nat.lt_or_ge k ems.length with h' | h'
    · exact h'
    · rw [List.getElem?_eq_none h'] at he; cases he
  simp only [Bool.and_eq_true, Bool.not_eq_true'] at h3
  refine ⟨hk, ?_, ?_⟩
  · simp [List.getD_eq_getElem?_getD, hm, h3.1.1]
  · simp [List.getD_eq_getElem?_getD, he, h3.1.2]

theorem maskAfterIntersect_true (it : Space) (ems : List Space) (mask : List Bool) (k : Nat)
    (h : (maskAfterIntersect it ems mask).getD k false = true) :
    it.intersect (ems.getD k default) = false ∧ mask.getD k false = true := by
  unfold maskAfterIntersect at h
  simp only [List.getD_eq_getElem?_getD, List.getElem?_zipWith] at h ⊢
  cases he : ems[k]? <;> cases hm : mask[k]? <;> simp_all

theorem maskAfterIntersect_length (it : Space) (ems : List Space) (mask : List Bool) (hl : mask.length = ems.length) :
    (maskAfterIntersect it ems mask).length = ems.length := by
  simp [maskAfterIntersect, hl]

theorem candidate_spec (it : Space) (ems : List Space) (mask : List Bool) (c : Space × Bool)
    (hc : c ∈ emsCandidates it ems mask) (ht : c.2 = true) :
    ∃ dir, dir ∈ Dir.all ∧ ∃ k, k < ems.length ∧ mask.getD k false = true ∧
      c.1 = hyperInter it dir (ems.getD k default) ∧ c.1.isEmpty = false := by
  unfold emsCandidates at hc
  simp only [List.mem_flatMap] at hc
  obtain ⟨d, hd, hcz⟩ := hc
  obtain ⟨k, hk, hget⟩ := List.getElem_of_mem hcz
  rw [List.getElem_zip] at hget
  have hkz := hk
  rw [List.length_zip] at hkz
  have hk1 : k < (interEms it ems d).length := by omega
  have hk2 : k < ((filterMasks (interEms it ems) (Dir.all.map (interMask0 it ems mask))).getD d.idx []).length := by omega
  have hke : k < ems.length := by simpa [interEms] using hk1
  have h1 : c.1 = hyperInter it d (ems.getD k default) := by
    rw [← hget]; simp [interEms, List.getD_eq_getElem?_getD, hke]
  have h2 : ((filterMasks (interEms it ems) (Dir.all.map (interMask0 it ems mask))).getD d.idx []).getD k false = true := by
    rw [List.getD_eq_getElem?_getD, List.getElem?_eq_getElem hk2]
    rw [← hget] at ht; simpa using ht
  have h3 := filterMasks_sub _ _ d.idx k h2
  rw [dirAll_map_getD] at h3
  obtain ⟨_, hm, hne⟩ := interMask0_true it ems mask d k h3
  exact ⟨d, hd, k, hke, hm, h1, by rw [h1]; exact hne⟩

theorem updateEmsCore_slots (it : Space) (ems : List Space) (mask : List Bool) (hl : mask.length = ems.length) :
    SlotSpec (emsCandidates it ems mask) ems (maskAfterIntersect it ems mask)
      ((updateEmsCore it ems mask).ems, (updateEmsCore it ems mask).mask) :=
  addAll_spec _ ems _ (maskAfterIntersect_length it ems mask hl)

theorem updateEmsCore_rel (it : Space) (ems : List Space) (mask : List Bool) (hl : mask.length = ems.length) :
    EmsRel ems mask it (updateEmsCore it ems mask) := by
  obtain ⟨h1, h2, h3⟩ := updateEmsCore_slots it ems mask hl
  simp only [] at h1 h2 h3
  refine ⟨h1, by rw [h2, maskAfterIntersect_length it ems mask hl], fun j hj hm => ?_⟩
  rcases h3 j with ⟨ha, hb⟩ | ⟨_, c, hc, ht, hce⟩
  · obtain ⟨hni, hmk⟩ := maskAfterIntersect_true it ems mask j (hb hm)
    exact ⟨j, hj, hmk, Or.inl ⟨ha, hni⟩⟩
  · obtain ⟨dir, hdir, k, hk, hmk, hc1, _⟩ := candidate_spec it ems mask c hc ht
    exact ⟨k, hk, hmk, Or.inr ⟨dir, hdir, by rw [hce, hc1]⟩⟩

theorem updateEmsCore_relAll (it : Space) (ems : List Space) (mask : List Bool) (hl : mask.length = ems.length) :
    EmsRelAll ems it (updateEmsCore it ems mask) := by
  obtain ⟨h1, h2, h3⟩ := updateEmsCore_slots it ems mask hl
  simp only [] at h1 h2 h3
  intro j hj
  rcases h3 j with ⟨ha, _⟩ | ⟨_, c, hc, ht, hce⟩
  · exact Or.inl ha
  · obtain ⟨dir, hdir, k, hk, _, hc1, hne⟩ := candidate_spec it ems mask c hc ht
    exact Or.inr ⟨k, hk, dir, hdir, by rw [hce, hc1], by rw [hce]; exact hne⟩

theorem updateEmsCore_lengths (it : Space) (ems : List Space) (mask : List Bool) (hl : mask.length = ems.length) :
    (updateEmsCore it ems mask).ems.length = ems.length ∧ (updateEmsCore it ems mask).mask.length = ems.length :=
  ⟨(updateEmsCore_rel it ems mask hl).1, (updateEmsCore_rel it ems mask hl).2.1⟩

theorem updateEms_validDraw (s : State) (hw : WF s) (e i : Int) :
    validDraw s e i (updateEms s e i) ∧ validDrawAll s e i (updateEms s e i) :=
  ⟨updateEmsCore_rel _ _ _ hw.emsMask_len, updateEmsCore_relAll _ _ _ hw.emsMask_len⟩

theorem updateEms_shape (s : State) (hw : WF s) (e i : Int) :
    (updateEms s e i).mask.length = (updateEms s e i).ems.length := by
  obtain ⟨h1, h2⟩ := updateEmsCore_lengths (newItemSpace s e i) s.ems s.emsMask hw.emsMask_len
  unfold updateEms; rw [h1, h2]

end BinPack
