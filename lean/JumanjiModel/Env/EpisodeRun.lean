/-
The episode-level counting arguments of C11 (time limit / structural horizon) over the plays of a step function
(`Core/Play.lean`: `run f s as`, `after f s as`), proved once from single-step facts and instantiated by Maze, Snake and
Sudoku.  "The transition with index `k`" is `(run f s as)[k]`, i.e. the `(k+1)`-th step of the play.
Admissibility and "no LAST so far" are given in index form here (`hok`, `NoLastBefore`).

Overlap: the time-limit section states for `run` what Core/EpisodeLemmas.lean states for `Ep.Sys`, with an invariant that need
only survive admissible non-LAST steps; the measure section is the counterpart of `Ep.Bounded` (Env/HorizonEpisode.lean).
-/
import JumanjiModel.Core.Play
namespace EpRun
variable {S A T : Type}

theorem after_inv_idx (f : S → A → S × T) (last : T → Prop) (Q : Nat → S → Prop) (ok : S → A → Prop)
    (hQ : ∀ j s a, Q j s → ok s a → ¬ last (f s a).2 → Q (j + 1) (f s a).1) (s : S) (as : List A) (k : Nat)
    (hk : k ≤ as.length) (hs : Q 0 s)
    (hok : ∀ j (hj : j < as.length), j < k → ok (after f s (as.take j)) as[j])
    (hno : NoLastBefore f last s as k) : Q k (after f s (as.take k)) := by
  induction k with
  | zero => exact hs
  | succ k ih =>
    rw [after_take_succ f s as k hk]
    exact hQ k _ _ (ih (Nat.le_of_lt hk) (fun j hj hjk => hok j hj (Nat.lt_succ_of_lt hjk))
      fun j p hj hp => hno j p (Nat.lt_succ_of_lt hj) hp) (hok k hk (Nat.lt_succ_self k))
      (hno k _ (Nat.lt_succ_self k) (run_get f s as k hk))

theorem after_inv_mid (f : S → A → S × T) (last : T → Prop) (P : S → Prop) (ok : S → A → Prop)
    (hP : ∀ s a, P s → ok s a → ¬ last (f s a).2 → P (f s a).1) (s : S) (as : List A) (k : Nat)
    (hk : k ≤ as.length) (hs : P s)
    (hok : ∀ j (hj : j < as.length), j < k → ok (after f s (as.take j)) as[j])
    (hno : NoLastBefore f last s as k) : P (after f s (as.take k)) :=
  after_inv_idx f last (fun _ => P) ok (fun _ => hP) s as k hk hs hok hno

/-! ### time limit: the counter `cnt`, the limit `L` -/

/-- never later -/
theorem run_last_at_limit (f : S → A → S × T) (cnt : S → Int) (last : T → Prop) (L : Int)
    (hc : ∀ s a, cnt (f s a).1 = cnt s + 1) (hl : ∀ s a, cnt s + 1 ≥ L → last (f s a).2)
    (s : S) (as : List A) (k : Nat) (p : S × T) (h : (run f s as)[k]? = some p)
    (hk : cnt s + k + 1 ≥ L) : last p.2 := by
  obtain ⟨hlt, rfl⟩ := run_get_eq f s as k p h
  apply hl
  rw [after_take_count f cnt hc s as (Nat.le_of_lt hlt)]
  exact hk

theorem run_exists_last (f : S → A → S × T) (cnt : S → Int) (last : T → Prop) (L : Int)
    (hc : ∀ s a, cnt (f s a).1 = cnt s + 1) (hl : ∀ s a, cnt s + 1 ≥ L → last (f s a).2)
    (s : S) (as : List A) (h0 : cnt s < L) (hlen : L - cnt s ≤ as.length) :
    ∃ (k : Nat) (p : S × T), cnt s + k + 1 ≤ L ∧ (run f s as)[k]? = some p ∧ last p.2 := by
  obtain ⟨n, hn⟩ : ∃ n : Nat, cnt s + n + 1 = L := ⟨(L - cnt s - 1).toNat, by omega⟩
  have hk : n < as.length := by omega
  exact ⟨n, _, Int.le_of_eq hn, run_get f s as n hk,
    run_last_at_limit f cnt last L hc hl s as n _ (run_get f s as n hk) (Int.le_of_eq hn.symm)⟩

/-- never earlier, up to and including the first LAST; `P` need only survive admissible non-LAST steps -/
theorem run_last_iff (f : S → A → S × T) (cnt : S → Int) (last : T → Prop) (L : Int)
    (P : S → Prop) (ok other : S → A → Prop)
    (hc : ∀ s a, cnt (f s a).1 = cnt s + 1)
    (hP : ∀ s a, P s → ok s a → ¬ last (f s a).2 → P (f s a).1)
    (hiff : ∀ s a, P s → ok s a → (last (f s a).2 ↔ (other s a ∨ cnt s + 1 ≥ L)))
    (s : S) (as : List A) (k : Nat) (p : S × T) (hs : P s)
    (hok : ∀ j (hj : j < as.length), j ≤ k → ok (after f s (as.take j)) as[j])
    (hno : NoLastBefore f last s as k) (h : (run f s as)[k]? = some p) :
    ∃ hk : k < as.length, P (after f s (as.take k)) ∧
      (last p.2 ↔ (other (after f s (as.take k)) as[k] ∨ cnt s + k + 1 ≥ L)) := by
  obtain ⟨hlt, rfl⟩ := run_get_eq f s as k p h
  have hPk := after_inv_mid f last P ok hP s as k (by omega) hs (fun j hj hjk => hok j hj (by omega)) hno
  refine ⟨hlt, hPk, ?_⟩
  rw [hiff _ _ hPk (hok k hlt (by omega)), after_take_count f cnt hc s as (Nat.le_of_lt hlt)]

theorem run_first_last_eq (f : S → A → S × T) (cnt : S → Int) (last : T → Prop) (L : Int)
    (P : S → Prop) (ok other : S → A → Prop)
    (hc : ∀ s a, cnt (f s a).1 = cnt s + 1)
    (hP : ∀ s a, P s → ok s a → ¬ last (f s a).2 → P (f s a).1)
    (hiff : ∀ s a, P s → ok s a → (last (f s a).2 ↔ (other s a ∨ cnt s + 1 ≥ L)))
    (s : S) (as : List A) (k : Nat) (p : S × T) (hs : P s) (h0 : cnt s < L)
    (hok : ∀ j (hj : j < as.length), j ≤ k → ok (after f s (as.take j)) as[j])
    (hno : NoLastBefore f last s as k) (h : (run f s as)[k]? = some p) (hlast : last p.2)
    (hother : ∀ hk : k < as.length, ¬ other (after f s (as.take k)) as[k]) :
    cnt s + k + 1 = L := by
  obtain ⟨hlt, _, hi⟩ := run_last_iff f cnt last L P ok other hc hP hiff s as k p hs hok hno h
  have hge : cnt s + k + 1 ≥ L := (hi.1 hlast).resolve_left (hother hlt)
  cases k with
  | zero => omega
  | succ k =>
    -- transition `k` is not LAST, so its step number is below the limit
    have hk' : k < as.length := by omega
    have hprev := hno k _ (by omega) (run_get f s as k hk')
    obtain ⟨_, _, hi'⟩ := run_last_iff f cnt last L P ok other hc hP hiff s as k _ hs
      (fun j hj hjk => hok j hj (by omega)) (fun j q hj hq => hno j q (by omega) hq) (run_get f s as k hk')
    have : ¬ (cnt s + k + 1 ≥ L) := fun hg => hprev (hi'.2 (Or.inr hg))
    push_cast
    omega

/-! ### structural horizon: a measure `μ` that every admissible non-LAST step decreases by one -/

theorem run_measure (f : S → A → S × T) (last : T → Prop) (μ : S → Nat) (P : S → Prop) (ok : S → A → Prop)
    (hP : ∀ s a, P s → ok s a → ¬ last (f s a).2 → P (f s a).1)
    (hμ : ∀ s a, P s → ok s a → ¬ last (f s a).2 → μ (f s a).1 + 1 = μ s)
    (s : S) (as : List A) (k : Nat) (hk : k ≤ as.length) (hs : P s)
    (hok : ∀ j (hj : j < as.length), j < k → ok (after f s (as.take j)) as[j])
    (hno : NoLastBefore f last s as k) :
    P (after f s (as.take k)) ∧ μ (after f s (as.take k)) + k = μ s :=
  after_inv_idx f last (fun j t => P t ∧ μ t + j = μ s) ok
    (fun j t a h hoka hmid => ⟨hP t a h.1 hoka hmid, by have := hμ t a h.1 hoka hmid; omega⟩)
    s as k hk ⟨hs, rfl⟩ hok hno

/-- the horizon: the first LAST has index at most `μ s`, i.e. an episode has at most `μ s + 1` steps; when a
non-LAST step always leaves a positive measure, at most `max 1 (μ s)` steps -/
theorem run_horizon (f : S → A → S × T) (last : T → Prop) (μ : S → Nat) (P : S → Prop) (ok : S → A → Prop)
    (hP : ∀ s a, P s → ok s a → ¬ last (f s a).2 → P (f s a).1)
    (hμ : ∀ s a, P s → ok s a → ¬ last (f s a).2 → μ (f s a).1 + 1 = μ s)
    (s : S) (as : List A) (k : Nat) (hk : k ≤ as.length) (hs : P s)
    (hok : ∀ j (hj : j < as.length), j < k → ok (after f s (as.take j)) as[j])
    (hno : NoLastBefore f last s as k) :
    k ≤ μ s ∧
    ((∀ s a, P s → ok s a → ¬ last (f s a).2 → 1 ≤ μ (f s a).1) → 1 ≤ k → k + 1 ≤ μ s) := by
  have h := run_measure f last μ P ok hP hμ s as k hk hs hok hno
  refine ⟨by omega, fun hpos hk1 => ?_⟩
  -- the state after `k ≥ 1` non-LAST steps was produced by a non-LAST step: its measure is positive
  have := (after_inv_idx f last (fun j t => P t ∧ (1 ≤ j → 1 ≤ μ t)) ok
    (fun j t a h hoka hmid => ⟨hP t a h.1 hoka hmid, fun _ => hpos t a h.1 hoka hmid⟩)
    s as k hk ⟨hs, by intro h0; omega⟩ hok hno).2 hk1
  omega

theorem run_exists_last_measure (f : S → A → S × T) (last : T → Prop) (μ : S → Nat) (P : S → Prop)
    (ok : S → A → Prop)
    (hP : ∀ s a, P s → ok s a → ¬ last (f s a).2 → P (f s a).1)
    (hμ : ∀ s a, P s → ok s a → ¬ last (f s a).2 → μ (f s a).1 + 1 = μ s)
    (s : S) (as : List A) (hs : P s) (hlen : μ s + 1 ≤ as.length)
    (hok : ∀ j (hj : j < as.length), ok (after f s (as.take j)) as[j]) :
    ∃ k p, k ≤ μ s ∧ (run f s as)[k]? = some p ∧ last p.2 := by
  apply Classical.byContradiction
  intro hne
  have hno : NoLastBefore f last s as (μ s + 1) := by
    intro j p hj hp hl
    exact hne ⟨j, p, by omega, hp, hl⟩
  have := (run_horizon f last μ P ok hP hμ s as (μ s + 1) hlen hs (fun j hj _ => hok j hj) hno).1
  omega

end EpRun
