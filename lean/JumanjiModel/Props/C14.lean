-- BEGIN ENV IMPORTS (generated by tools/mkprops.py)
-- END ENV IMPORTS
/- Property C14 — batched wrappers equal per-instance execution; VmapAutoReset = Vmap(AutoReset). -/
import JumanjiModel.WrappersLemmas
open Wr

namespace Props.C14
variable {S A O R X : Type}

/-- at every batch index VmapWrapper returns what the unwrapped environment returns for that index (shared with C02) -/
theorem vmap_step_get (E : Env S A O R X) (ss : List S) (as : List A) (i : Nat) :
    (Vmap.step E ss as)[i]? = (ss[i]?).bind (fun s => (as[i]?).map (fun a => E.step s a)) :=
  Vmap.step_get E ss as i
theorem vmap_reset_get (E : Env S A O R X) (ks : List Key) (i : Nat) :
    (Vmap.reset E ks)[i]? = (ks[i]?).map E.reset := Vmap.reset_get E ks i

/-- VmapAutoResetWrapper is VmapWrapper(AutoResetWrapper(env)) on every batch — whatever subset of
episodes ends on the step -/
theorem vmapAutoReset_step_eq (E : Env S A O R X) (flag : Bool) (ss : List S) (as : List A) :
    VmapAutoReset.step E flag ss as = Vmap.step (AutoReset.env E flag) ss as := by
  unfold VmapAutoReset.step Vmap.step AutoReset.env
  simp only [List.map_zipWith]
  congr 1
theorem vmapAutoReset_reset_eq (E : Env S A O R X) (flag : Bool) (ks : List Key) :
    VmapAutoReset.reset E flag ks = Vmap.reset (AutoReset.env E flag) ks := by
  unfold VmapAutoReset.reset Vmap.reset AutoReset.env AutoReset.reset
  simp [List.map_map, Function.comp_def]
end Props.C14
