-- BEGIN ENV IMPORTS (generated by tools/mkprops.py)
-- END ENV IMPORTS
/- Property C16 — specs form a consistent algebra (all specs, all values). -/
import JumanjiModel.Spec.Lemmas
open Sp

namespace Props.C16

/-- `generate_value()` is accepted by `validate` (every well-formed leaf spec) -/
theorem generate_valid (l : Leaf) (h : l.WF = true) : l.valid l.generate = true := Leaf.generate_valid l h

/-- … and for nested specs -/
theorem nested_generate_valid (s : Nested) (h : ∀ p ∈ s, p.2.WF = true) : s.valid s.generate = true :=
  Nested.generate_valid s h

/-- `validate` accepts exactly the values with the declared shape and dtype whose elements lie within the inclusive
bounds: for a well-formed spec both broadcast bounds have one entry per element of the value, so EVERY element is
checked against its own pair of bounds -/
theorem valid_iff (l : Leaf) (hw : l.WF = true) (v : Arr) : l.valid v = true ↔
    v.shape = l.shape ∧ v.dtype = l.dtype ∧ v.data.length = prod l.shape ∧
    ((l.lower = none ∧ l.upper = none) ∨
     ∃ lo hi, l.lower = some lo ∧ l.upper = some hi ∧ lo.length = prod l.shape ∧ hi.length = prod l.shape ∧
       ∀ k (hv : k < v.data.length) (h1 : k < lo.length) (h2 : k < hi.length), lo[k] ≤ v.data[k] ∧ v.data[k] ≤ hi[k]) :=
  Leaf.valid_iff_of_WF0 l (Leaf.WF0_of_WF hw) v
/-- the same without well-formedness (the comparison then stops at the shorter of the lists) -/
theorem valid_iff_raw (l : Leaf) (v : Arr) : l.valid v = true ↔
    v.shape = l.shape ∧ v.dtype = l.dtype ∧ v.data.length = prod l.shape ∧
    ((l.lower = none ∧ l.upper = none) ∨
     ∃ lo hi, l.lower = some lo ∧ l.upper = some hi ∧
       ∀ k (h1 : k < v.data.length) (h2 : k < (List.zip lo hi).length),
         (List.zip lo hi)[k].1 ≤ v.data[k] ∧ v.data[k] ≤ (List.zip lo hi)[k].2) := Leaf.valid_iff l v

/-- well-formedness includes the dtype range: the bounds (`num_values − 1` for the discrete kinds) are values of the
dtype, and so are the elements of `generate_value()` -/
theorem wf_fits (l : Leaf) (h : l.WF = true) : l.fitsDType = true ∧ l.generate.data.all l.dtype.fits = true := by
  have hf := Leaf.fitsDType_of_WF h
  refine ⟨hf, ?_⟩
  cases l with
  | array s d n =>
    simp only [Leaf.generate, Leaf.lower, List.all_eq_true, List.mem_replicate]
    rintro x ⟨_, rfl⟩
    exact DType.fits_zero _
  | bounded s d n ms m xs x =>
    have h0 := Leaf.WF0_of_WF h
    rcases Leaf.bounds_of_WF0 _ h0 with ⟨e, _⟩ | ⟨lo, _, hl, _⟩
    · simp [Leaf.WF0, e] at h0
    · -- an element of the broadcast minimum is an element of the stored minimum (or the default 0)
      simp only [Leaf.fitsDType, Bool.and_eq_true, List.all_eq_true] at hf
      simp only [Leaf.generate, hl, Leaf.dtype, List.all_eq_true]
      exact fun y hy => (mem_broadcastTo hl hy).elim (hf.1 y) fun e => e ▸ DType.fits_zero _
  | discrete k d n =>
    simp only [Leaf.generate, Leaf.lower, Leaf.dtype, List.all_cons, List.all_nil, Bool.and_true]
    exact DType.fits_zero _
  | multiDiscrete s nv d n =>
    simp only [Leaf.generate, Leaf.lower, Leaf.dtype, List.all_eq_true, List.mem_map]
    rintro y ⟨_, _, rfl⟩
    exact DType.fits_zero _
/-- every well-formed spec is accepted by the constructor, and for a well-formed `DiscreteArray` the bound it stores is
`num_values − 1` … -/
theorem wf_ctor (l : Leaf) (h : l.WF = true) : l.ctorAccepts = true := by
  -- the bound fits the dtype, so the conversion does not wrap it: it stays `num_values − 1 ≥ 0`
  have h0 := Leaf.WF0_of_WF h
  have hf := Leaf.fitsDType_of_WF h
  cases l with
  | array => exact h
  | bounded => exact h
  | discrete n d nm =>
    simp only [Leaf.WF0, Bool.and_eq_true, decide_eq_true_eq] at h0
    simp only [Leaf.ctorAccepts, Bool.and_eq_true, decide_eq_true_eq]
    refine ⟨h0, ?_⟩
    rw [Leaf.storedMax, DType.wrap_of_fits d _ h0.2 hf]
    omega
  | multiDiscrete s nv d nm =>
    simp only [Leaf.WF0, Bool.and_eq_true] at h0
    simp only [Leaf.ctorAccepts, Bool.and_eq_true]
    refine ⟨h0, ?_⟩
    simp only [Leaf.fitsDType, List.all_eq_true, decide_eq_true_eq] at hf h0 ⊢
    intro n hn
    have := h0.1.2 n hn
    rw [Leaf.storedMax, DType.wrap_of_fits d _ h0.2 (hf n hn)]
    omega
theorem wf_discrete_storedMax (n : Nat) (d : DType) (nm : String) (h : (Leaf.discrete n d nm).WF = true) :
    Leaf.storedMax d n = (n : Int) - 1 := by
  have h0 := Leaf.WF0_of_WF h
  simp only [Leaf.WF0, Bool.and_eq_true] at h0
  exact DType.wrap_of_fits d _ h0.2 (Leaf.fitsDType_of_WF h)
/-- … but the real constructor also accepts counts beyond the dtype (the bound wraps around: `DiscreteArray(300, int8)`
reports `num_values = 300` and validates against 43) while rejecting others (`DiscreteArray(200, int8)`) -/
theorem ctor_wrap_witness :
    (Leaf.discrete 300 .int8 "").ctorAccepts = true ∧ (Leaf.discrete 300 .int8 "").WF = false ∧
    Leaf.storedMax .int8 300 = 43 ∧ (Leaf.discrete 200 .int8 "").ctorAccepts = false ∧
    (Leaf.multiDiscrete [2] [300, 5] .int8 "").ctorAccepts = true ∧ (Leaf.multiDiscrete [2] [300, 5] .int8 "").WF = false := by
  decide +kernel

/-- `replace()` without arguments yields the spec itself -/
theorem replace_nil (l : Leaf) (h : l.WF = true) : l.replace [] = some l := Leaf.replace_nil l h
/-- `replace` changes only the named attribute -/
theorem replace_name (l l' : Leaf) (n : String) (h : l.replace [.name n] = some l') :
    l'.name = n ∧ l'.shape = l.shape ∧ l'.dtype = l.dtype ∧ l'.lower = l.lower ∧ l'.upper = l.upper :=
by
  obtain ⟨_, _, rfl⟩ := Leaf.replace_eq_some.1 h
  cases l <;> simp [Leaf.apply1, Leaf.name, Leaf.shape, Leaf.dtype, Leaf.lower, Leaf.upper]
theorem replace_dtype (l l' : Leaf) (d : DType) (h : l.replace [.dtype d] = some l') :
    l'.dtype = d ∧ l'.shape = l.shape ∧ l'.name = l.name := by
  obtain ⟨_, _, rfl⟩ := Leaf.replace_eq_some.1 h
  cases l <;> simp [Leaf.apply1, Leaf.name, Leaf.shape, Leaf.dtype]
theorem replace_shape (l l' : Leaf) (s : List Nat) (h : l.replace [.shape s] = some l') :
    l'.shape = s ∧ l'.dtype = l.dtype ∧ l'.name = l.name := by
  obtain ⟨hacc, _, rfl⟩ := Leaf.replace_eq_some.1 h
  -- the discrete kinds have no `shape` parameter
  cases l <;> simp_all [Leaf.apply1, Leaf.name, Leaf.shape, Leaf.dtype, Leaf.accepts]
/-- `replace(**kwargs)` with ANY keyword list changes only the named constructor parameters … -/
theorem replace_only_named (l l' : Leaf) (kws : List Leaf.Kw) (h : l.replace kws = some l') :
    ∀ attr, attr ∉ kws.map Leaf.Kw.attr → l'.get attr = l.get attr := Leaf.replace_only_named l l' kws h
/-- … sets every named one to the given value, keeps the class, and the result passed the constructor's checks -/
theorem replace_sets_named (l l' : Leaf) (kws : List Leaf.Kw) (hnd : (kws.map Leaf.Kw.attr).Nodup)
    (h : l.replace kws = some l') :
    (∀ kw ∈ kws, l'.get kw.attr = kw.val) ∧ l'.kind = l.kind ∧ l'.WF = true := by
  obtain ⟨hacc, hwf, rfl⟩ := Leaf.replace_eq_some.1 h
  exact ⟨Leaf.foldl_get_named l kws hacc hnd, Leaf.foldl_kind l kws, hwf⟩
/-- a keyword that is not a constructor parameter of the class is refused -/
theorem replace_unknown_kw (l : Leaf) (kws : List Leaf.Kw) (kw : Leaf.Kw) (hk : kw ∈ kws) (hna : Leaf.accepts l kw = false) :
    l.replace kws = none := by
  cases hr : l.replace kws with
  | none => rfl
  | some l' =>
    have := List.all_eq_true.1 (Leaf.replace_eq_some.1 hr).1 kw hk
    rw [hna] at this
    cases this
/-- (the constructor parameters determine the spec, so "only the named attributes change" pins the result down) -/
theorem eq_of_get (a b : Leaf) (hk : a.kind = b.kind) (h : ∀ attr, a.get attr = b.get attr) : a = b := by
  cases a <;> cases b <;> cases hk
  all_goals
    injection h .shape; injection h .dtype; injection h .name
    injection h .minimum; injection h .maximum; injection h .numValues
    subst_vars; rfl
/-- nested `Spec.replace(**children)`: only the named children change, the named ones are the given specs -/
theorem nested_replace_nil (n : Node) : n.replace [] = n := Node.replace_nil n
theorem nested_replace_only_named (n : Node) (kws : List (String × Nested)) (k : String) (hn : k ∉ kws.map (·.1)) :
    (n.replace kws).child k = n.child k ∧ (n.replace kws).name = n.name := Node.replace_only_named n kws k hn
theorem nested_replace_named (n : Node) (kws : List (String × Nested)) (hnd : (kws.map (·.1)).Nodup) :
    ∀ kv ∈ kws, (n.replace kws).child kv.1 = some kv.2 := by
  unfold Node.replace Node.child
  simp only []
  generalize n.children = cs
  induction kws generalizing cs with
  | nil => simp
  | cons kv kws ih =>
    simp only [List.map_cons, List.nodup_cons] at hnd
    intro x hx
    simp only [List.foldl_cons]
    rcases List.mem_cons.1 hx with rfl | hx
    · rw [foldl_dictSet_lookup_other _ kws _ hnd.1]
      exact dictSet_lookup_same cs x.1 x.2
    · exact ih hnd.2 _ x hx
/-- the result of `replace` went through the constructor's checks -/
theorem replace_WF (l l' : Leaf) (kws : List Leaf.Kw) (h : l.replace kws = some l') : l'.WF = true := by
  obtain ⟨_, hwf, rfl⟩ := Leaf.replace_eq_some.1 h
  exact hwf

/-- equality among specs of the same kind is an equivalence relation … -/
theorem eq_refl (l : Leaf) : l.beq l = true := Leaf.beq_refl l
theorem eq_symm (a b : Leaf) : a.beq b = b.beq a := Leaf.beq_symm a b
theorem eq_trans (a b c : Leaf) (h1 : a.beq b = true) (h2 : b.beq c = true) : a.beq c = true :=
  (Leaf.beq_iff a c).2 (((Leaf.beq_iff a b).1 h1).trans ((Leaf.beq_iff b c).1 h2))
/-- … that distinguishes any difference in shape, dtype, name or (effective) bounds … -/
theorem eq_distinguishes (a b : Leaf) (h : a.beq b = true) :
    a.shape = b.shape ∧ a.dtype = b.dtype ∧ a.name = b.name ∧ a.lower = b.lower ∧ a.upper = b.upper := by
  have := (Leaf.beq_iff a b).1 h
  exact ⟨congrArg (·.2.1) this, congrArg (·.2.2.1) this, congrArg (·.2.2.2.1) this, congrArg (·.2.2.2.2.1) this,
    congrArg (·.2.2.2.2.2.1) this⟩
/-- … and in num_values -/
theorem eq_numValues {k d n k' d' n'} (h : (Leaf.discrete k d n).beq (Leaf.discrete k' d' n') = true) : k = k' := by
  simp [Leaf.beq] at h; exact h.1.1
theorem eq_numValuesArr {s nv d n s' nv' d' n'}
    (h : (Leaf.multiDiscrete s nv d n).beq (Leaf.multiDiscrete s' nv' d' n') = true) : nv = nv' := by
  simp [Leaf.beq] at h; exact h.1.1.2

/-- the theorems above are PER KIND, as the property says.  Python's `==` between specs of different classes falls
back to the reflected `__eq__` of the base class: it is reflexive and symmetric, agrees with the per-kind equality on one
class, ignores bounds / `num_values` against a plain `Array`, and is not transitive across kinds -/
theorem pyEq_same_kind (a b : Leaf) (h : a.kind = b.kind) : a.pyEq b = a.beq b := by
  cases a <;> cases b <;> first | rfl | cases h
theorem pyEq_refl (a : Leaf) : a.pyEq a = true := by
  rw [pyEq_same_kind a a rfl]; exact Leaf.beq_refl a
theorem pyEq_symm (a b : Leaf) : a.pyEq b = b.pyEq a := by
  -- each of the three comparisons is symmetric, and so is the table that chooses among them
  unfold Leaf.pyEq
  rw [Leaf.arrayEq_symm a b, Leaf.boundedEq_symm a b, Leaf.beq_symm a b]
  cases a.kind <;> cases b.kind <;> rfl
theorem pyEq_array (s : List Nat) (d : DType) (n : String) (b : Leaf) :
    (Leaf.array s d n).pyEq b = (s == b.shape && d == b.dtype && n == b.name) ∧
    b.pyEq (Leaf.array s d n) = (s == b.shape && d == b.dtype && n == b.name) := by
  rw [pyEq_symm b]
  cases b <;> exact ⟨rfl, rfl⟩
theorem pyEq_cross_kind_witness :
    (Leaf.discrete 3 .int32 "").pyEq (Leaf.array [] .int32 "") = true ∧
    (Leaf.array [] .int32 "").pyEq (Leaf.discrete 4 .int32 "") = true ∧
    (Leaf.discrete 3 .int32 "").pyEq (Leaf.discrete 4 .int32 "") = false ∧
    (Leaf.discrete 3 .int32 "").pyEq (Leaf.bounded [] .int32 "" [] [0] [] [2]) = true ∧
    (Leaf.multiDiscrete [1] [3] .int32 "").pyEq (Leaf.bounded [1] .int32 "" [] [0] [] [2]) = true ∧
    (Leaf.discrete 3 .int32 "").pyEq (Leaf.multiDiscrete [] [3] .int32 "") = false := by
  decide +kernel

/-- pickling round-trips to an equal spec: `__reduce__` returns the class and its positional constructor arguments,
unpickling runs the constructor on them -/
theorem pickle_roundtrip (l : Leaf) (h : l.WF = true) :
    ∃ l', l.unreduce = some l' ∧ l'.beq l = true ∧ l'.WF = true := Leaf.pickle_roundtrip l h
theorem pickle_roundtrip_eq (l : Leaf) (h : l.WF = true) : l.unreduce = some l := Leaf.unreduce_eq l h
theorem pickle_args_positional (k : Leaf.Kind) (args : List Leaf.AttrVal) (l : Leaf) (h : Leaf.construct k args = some l) :
    l.reduce = (k, args) ∧ l.WF = true := by
  unfold Leaf.construct at h
  split at h <;> first | (split at h <;> first | (injection h with h; subst h; exact ⟨rfl, by assumption⟩) | simp at h) | simp at h

/-- nested specs are equal exactly when their children are -/
theorem nested_eq_iff_children (a b : Nested) : a.beq b = true ↔
    a.map (·.1) = b.map (·.1) ∧ ∀ k (h1 : k < a.length) (h2 : k < b.length), a[k].2.beq b[k].2 = true := by
  simp only [Nested.beq, Bool.and_eq_true, beq_iff_eq, Jx.zipWith_all_getElem]
theorem nested_eq_refl (a : Nested) : a.beq a = true :=
  (nested_eq_iff_children a a).2 ⟨rfl, fun _ _ _ => Leaf.beq_refl _⟩
theorem nested_eq_symm (a b : Nested) : a.beq b = b.beq a := by
  rw [Bool.eq_iff_iff, nested_eq_iff_children, nested_eq_iff_children]
  constructor <;> (rintro ⟨h1, h2⟩; exact ⟨h1.symm, fun k ha hb => by rw [Leaf.beq_symm]; exact h2 k hb ha⟩)

/-- every value valid for a spec belongs to the gym space converted from it -/
theorem toGym_member (l : Leaf) (hw : l.WF = true) (v : Arr) (h : l.valid v = true) :
    (toGym l).contains v = true := Sp.toGym_member l hw v h

-- non-vacuity
example : (Leaf.bounded [2] .float32 "b" [] [0] [2] [1, 2]).WF = true := by decide +kernel
example : (Leaf.bounded [2] .float32 "b" [] [0] [2] [1, 2]).valid ⟨[2], .float32, [1, 2]⟩ = true := by decide +kernel
example : (Leaf.bounded [2] .float32 "b" [] [0] [2] [1, 2]).valid ⟨[2], .float32, [1, 5/2]⟩ = false := by decide +kernel
-- dtype range: non-vacuity and the boundary
example : (Leaf.discrete 128 .int8 "").WF = true ∧ (Leaf.discrete 129 .int8 "").WF = false ∧
    (Leaf.bounded [] .uint8 "" [] [0] [] [255]).WF = true ∧ (Leaf.bounded [] .uint8 "" [] [0] [] [256]).WF = false ∧
    (Leaf.bounded [] .int32 "" [] [1/2] [] [2]).WF = false := by decide +kernel
example : (Leaf.bounded [2] .float32 "b" [] [0] [2] [1, 2]).replace [.name "c", .shape [1, 2]] =
    some (Leaf.bounded [1, 2] .float32 "c" [] [0] [2] [1, 2]) := by decide +kernel
end Props.C16
