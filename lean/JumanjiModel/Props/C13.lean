-- BEGIN ENV IMPORTS (generated by tools/mkprops.py)
-- END ENV IMPORTS
/- Property C13 — AutoResetWrapper resets exactly when an episode ends, with a fresh instance.
   Over an arbitrary environment `E` and the free key algebra. -/
import JumanjiModel.WrappersLemmas
open Wr

namespace Props.C13
variable {S A O R X : Type}

/-- a step that is not LAST is returned exactly as the wrapped environment returns it
(plus `next_obs` in extras when requested) -/
theorem step_not_last (E : Env S A O R X) (flag : Bool) (s : S) (a : A) (h : (E.step s a).2.last = false) :
    AutoReset.step E flag s a = ((E.step s a).1, maybeAddObs flag (E.step s a).2) :=
  AutoReset.step_not_last E flag s a h

/-- on a LAST step the returned state is `reset(split(key of the terminal state)[0])` and the
observation is that reset's observation … -/
theorem step_last (E : Env S A O R X) (flag : Bool) (s : S) (a : A) (h : (E.step s a).2.last = true) :
    AutoReset.step E flag s a =
      ((E.reset (.left (E.key (E.step s a).1))).1,
       { maybeAddObs flag (E.step s a).2 with obs := (E.reset (.left (E.key (E.step s a).1))).2.obs }) :=
  AutoReset.step_last E flag s a h
/-- … while step type, reward, discount and extras are those of the terminal step -/
theorem step_last_fields (E : Env S A O R X) (flag : Bool) (s : S) (a : A) (h : (E.step s a).2.last = true) :
    (AutoReset.step E flag s a).2.stepType = (E.step s a).2.stepType ∧
    (AutoReset.step E flag s a).2.reward = (E.step s a).2.reward ∧
    (AutoReset.step E flag s a).2.discount = (E.step s a).2.discount ∧
    (AutoReset.step E flag s a).2.extras = (E.step s a).2.extras := by
  rw [AutoReset.step_last E flag s a h]
  cases flag <;> simp [maybeAddObs]

/-- with `next_obs_in_extras` the true successor observation of EVERY step (and of reset) is in extras -/
theorem next_obs_step (E : Env S A O R X) (s : S) (a : A) :
    (AutoReset.step E true s a).2.nextObs = some (E.step s a).2.obs := AutoReset.next_obs_step E s a
theorem next_obs_reset (E : Env S A O R X) (k : Key) :
    (AutoReset.reset E true k).2.nextObs = some (E.reset k).2.obs := by
  unfold AutoReset.reset; simp [maybeAddObs]
theorem reset_plain (E : Env S A O R X) (k : Key) : AutoReset.reset E false k = E.reset k := by
  unfold AutoReset.reset; simp [maybeAddObs]

/-- successive automatic resets start from pairwise different keys, along ANY action sequence, for
every environment that derives its stored key from the given one by splitting -/
theorem fresh_keys (E : Env S A O R X) (hE : KeyMonotone E) (flag : Bool) (as : List A) (s : S) :
    (AutoReset.resetKeys E flag s as).Nodup := AutoReset.fresh_keys E hE flag as s

-- non-vacuity: a two-step toy environment that stores the split key and ends every second step
def toy : Env (Key × Nat) Unit Nat Nat Unit :=
  { reset := fun k => ((.right k, 0), ⟨.first, 0, 1, 0, (), none⟩),
    step := fun s _ => ((s.1, s.2 + 1), ⟨if s.2 % 2 == 1 then .last else .mid, 1, 1, s.2 + 1, (), none⟩),
    key := fun s => s.1 }
example : KeyMonotone toy :=
  ⟨fun k => .right (.refl k), fun s _ => .refl _⟩
example : (AutoReset.resetKeys toy false ((.seed 0 : Key), 0) [(), (), (), ()]).length = 2 := by decide

/-- STACKS: when the environment handed to the wrapper is itself a wrapper (`Stack.wrap E pre fr fs`), a LAST step resets
through THAT wrapper — its key pre-processing and its post-processing of the reset — not through the innermost environment -/
theorem step_last_stack (E : Env S A O R X) (pre : Key → Key) (fr fs : S × TS O R X → S × TS O R X) (flag : Bool) (s : S) (a : A)
    (h : (fs (E.step s a)).2.last = true) :
    AutoReset.step (Stack.wrap E pre fr fs) flag s a =
      ((fr (E.reset (pre (.left (E.key (fs (E.step s a)).1))))).1,
       { maybeAddObs flag (fs (E.step s a)).2 with obs := (fr (E.reset (pre (.left (E.key (fs (E.step s a)).1))))).2.obs }) :=
  AutoReset.step_last (Stack.wrap E pre fr fs) flag s a h
/-- the base class (`pre = id`, `fr = fs = id`) changes nothing: wrapping in `Wrapper` and then in `AutoResetWrapper` is
`AutoResetWrapper` of the environment -/
theorem stack_base_transparent (E : Env S A O R X) (flag : Bool) (s : S) (a : A) :
    AutoReset.step (Stack.wrap E id id id) flag s a = AutoReset.step E flag s a := rfl
/-- resetting through `unwrapped` is NOT the specification: a wrapper whose reset differs from the innermost reset tells them apart -/
theorem unwrapped_reset_differs_witness :
    ∃ (pre : Key → Key) (s : Key × Nat),
      (AutoReset.autoReset (Stack.wrap toy pre id id) false s (toy.step s ()).2).1 ≠
      (Stack.autoResetUnwrapped toy (Stack.wrap toy pre id id) false s (toy.step s ()).2).1 :=
  ⟨Key.right, ((.seed 0 : Key), 1), by decide⟩
end Props.C13
