/-
The constants of the hand-written L1 models, tied to the constants the source defines.

`Gen/Constants.lean` is regenerated on every run from the constants modules of the tree under test
(harness/translators.py, `gen_constants`: the modules are imported and the values emitted as Lean literals).  Each theorem
below states that a table or code of a model (`Env/<Name>/Model.lean`) equals the generated literal; where a model inlines a
value instead of naming it, the theorem only pins the source constant to that value (the comment says what the model does
with it; that the model inlines the same value is read in the model, it is not part of the statement).  An edit of a
constant in the source therefore breaks one of these obligations in the kernel, whether or not a sampled run would notice.
-/
import JumanjiModel.Gen.Constants
import JumanjiModel.Env.Cleaner.Model
import JumanjiModel.Env.Maze.Model
import JumanjiModel.Env.Sokoban.Model
import JumanjiModel.Env.SlidingTilePuzzle.Model
import JumanjiModel.Env.LBF.Model
import JumanjiModel.Env.PacMan.Model
import JumanjiModel.Env.Connector.Model
import JumanjiModel.Env.Tetris.Model
import JumanjiModel.Env.Sudoku.Model
import JumanjiModel.Env.Minesweeper.Model
import JumanjiModel.Env.CVRP.Model
import JumanjiModel.Env.MultiCVRP.Model
import JumanjiModel.Env.RubiksCube.Model

namespace Props.C09
open Gen.Constants

/-- every constant in the translator's table was found in the source with the expected form -/
theorem constants_all_recognised : Gen.Constants.unrecognised = 0 := by decide

theorem cleaner_moves_tied : Cleaner.moves = cleaner_MOVES := by decide
theorem maze_moves_tied : Maze.moves = maze_MOVES := by decide
theorem sokoban_moves_tied : Sokoban.moves = sokoban_MOVES := by decide
theorem sliding_moves_tied : SlidingTilePuzzle.MOVES = sliding_MOVES := by decide
theorem lbf_moves_tied : LBF.MOVES = lbf_MOVES := by decide

/-- PacMan: `player_step` switches over the action; the model's `target` is `MOVES[a]` added to the position (in the
`(x, y)` = (first axis, second axis) convention of the model: `MOVES` rows are `(dy, dx)` of the source's `Position`), then
wrapped on the axis that moved (the other coordinate is unchanged: positions are inside the grid).  Stated for every
grid, position and action. -/
theorem pacman_moves_tied (g : PacMan.IGrid) (p : Int × Int) (a : Nat) (ha : a < 5) :
    PacMan.target g p a =
      (let m := pacman_MOVES.getD a (0, 0)
       (if m.2 = 0 then p.1 else (p.1 + m.2) % (PacMan.xSize g : Int),
        if m.1 = 0 then p.2 else (p.2 + m.1) % (PacMan.ySize g : Int))) := by
  have : a = 0 ∨ a = 1 ∨ a = 2 ∨ a = 3 ∨ a = 4 := by omega
  rcases this with h | h | h | h | h <;> subst h <;> simp [PacMan.target, pacman_MOVES, Int.sub_eq_add_neg]

theorem cleaner_codes_tied :
    Cleaner.DIRTY = cleaner_DIRTY ∧ Cleaner.CLEAN = cleaner_CLEAN ∧ Cleaner.WALL = cleaner_WALL := by decide
theorem sokoban_codes_tied :
    Sokoban.EMPTY = sokoban_EMPTY ∧ Sokoban.WALL = sokoban_WALL ∧ Sokoban.TARGET = sokoban_TARGET ∧
    Sokoban.AGENT = sokoban_AGENT ∧ Sokoban.BOX = sokoban_BOX ∧ Sokoban.NOOP = sokoban_NOOP ∧
    (Sokoban.nBoxes : Int) = sokoban_N_BOXES ∧
    -- the combined codes of the observation are sums of the plain ones (used by `observe`)
    sokoban_TARGET_AGENT = sokoban_TARGET + sokoban_AGENT ∧ sokoban_TARGET_BOX = sokoban_TARGET + sokoban_BOX := by decide
/-- Sokoban reward constants: `Sokoban.reward`/`rewardSpec` inline `10`, `1` (the coefficient of the box difference) and
`-1/10`; the shipped grid size is the `n = 10` of the default configuration. -/
theorem sokoban_reward_constants_tied :
    sokoban_LEVEL_COMPLETE_BONUS = 10 ∧ sokoban_SINGLE_BOX_BONUS = 1 ∧ sokoban_STEP_BONUS = -1 / 10 ∧
    sokoban_GRID_SIZE = 10 := by decide +kernel
/-- Connector: `pathVal/posVal/tgtVal id = PATH/POSITION/TARGET + 3·id`, `EMPTY = 0`, and the action codes the model's
`movePosition` switches over (noop, up, right, down, left = 0..4). -/
theorem connector_codes_tied (id : Int) :
    Connector.pathVal id = connector_PATH + 3 * id ∧ Connector.posVal id = connector_POSITION + 3 * id ∧
    Connector.tgtVal id = connector_TARGET + 3 * id ∧ connector_EMPTY = 0 ∧
    [connector_NOOP, connector_UP, connector_RIGHT, connector_DOWN, connector_LEFT] = [0, 1, 2, 3, 4] := by
  simp [Connector.pathVal, Connector.posVal, Connector.tgtVal, connector_PATH, connector_POSITION, connector_TARGET,
    connector_EMPTY, connector_NOOP, connector_UP, connector_RIGHT, connector_DOWN, connector_LEFT]
/-- LBF: the model tests `action = 5` for loading and treats `0` as staying. -/
theorem lbf_codes_tied : lbf_LOAD = 5 ∧ lbf_NOOP = 0 ∧ LBF.MOVES.length = 6 := by decide
/-- Minesweeper: unexplored squares are `-1` in the model's boards, a mined square of the scattered board is `1`, and the
neighbourhood is the 3 × 3 patch without its centre. -/
theorem minesweeper_codes_tied :
    minesweeper_UNEXPLORED_ID = -1 ∧ minesweeper_IS_MINE = 1 ∧ minesweeper_PATCH_SIZE = 3 ∧
    Minesweeper.offsets.length = (minesweeper_PATCH_SIZE * minesweeper_PATCH_SIZE - 1).toNat ∧
    (∀ d ∈ Minesweeper.offsets, d.1.natAbs < 2 ∧ d.2.natAbs < 2 ∧ d ≠ (0, 0)) ∧ Minesweeper.offsets.Nodup := by decide
/-- SlidingTilePuzzle: `make_solved_puzzle` writes `EMPTY_TILE` into the last cell; the model's `solvedPuzzle` inlines `0` -/
theorem sliding_codes_tied : sliding_EMPTY_TILE = 0 := by decide
/-- MMST sentinel values the model inlines (`-1` nodes/edges/choices, `-2` tie-break, `-3` already traversed, `-10` dummy) -/
theorem mmst_codes_tied :
    mmst_INVALID_NODE = -1 ∧ mmst_UTILITY_NODE = -1 ∧ mmst_EMPTY_NODE = -1 ∧ mmst_DUMMY_NODE = -10 ∧ mmst_EMPTY_EDGE = -1 ∧
    mmst_INVALID_CHOICE = -1 ∧ mmst_INVALID_TIE_BREAK = -2 ∧ mmst_INVALID_ALREADY_TRAVERSED = -3 := by decide
theorem depot_tied : (CVRP.DEPOT : Int) = cvrp_DEPOT_IDX ∧ (MultiCVRP.DEPOT : Int) = multicvrp_DEPOT_IDX := by decide

theorem tetris_tetrominoes_tied : Tetris.tetrominoes = tetris_TETROMINOES_LIST := by decide +kernel
theorem tetris_rewardList_tied : Tetris.rewardList = tetris_REWARD_LIST.map (fun (i : Int) => (i : Rat)) := by decide +kernel
theorem tetris_rotations_tied : tetris_NUM_ROTATIONS = 4 ∧ ∀ p ∈ Tetris.tetrominoes, p.length = 4 := by decide +kernel
theorem sudoku_box_idx_tied : Sudoku.BOX_IDX = sudoku_BOX_IDX ∧ (Sudoku.W : Int) = sudoku_BOARD_WIDTH := by decide +kernel

theorem rubik_amounts_tied : RubiksCube.amountValues = rubik_CubeMovementAmount.map Prod.snd := by decide
/-- the six faces are numbered 0..5 in the order UP, FRONT, RIGHT, BACK, LEFT, DOWN (the order of the model's cube) -/
theorem rubik_faces_tied :
    rubik_Face = [("UP", 0), ("FRONT", 1), ("RIGHT", 2), ("BACK", 3), ("LEFT", 4), ("DOWN", 5)] := by decide
/-- RobotWarehouse: directions 0..3 = up, right, down, left; actions 0..4 = noop, forward, left, right, toggle_load -/
theorem rware_enums_tied :
    rware_Direction.map Prod.snd = [0, 1, 2, 3] ∧ rware_Direction.map Prod.fst = ["UP", "RIGHT", "DOWN", "LEFT"] ∧
    rware_Action.map Prod.snd = [0, 1, 2, 3, 4] ∧
    rware_Action.map Prod.fst = ["NOOP", "FORWARD", "LEFT", "RIGHT", "TOGGLE_LOAD"] := by decide

end Props.C09
