/-
Property theorems for SlidingTilePuzzle (all grid sizes `n`, all boards).  `Inv n b` = the board is `n × n`, the stored blank
position is on the board and holds the blank (0).  Actions are `a < 4` (the action spec).
-/
import JumanjiModel.Env.SlidingTilePuzzle.Lemmas
import JumanjiModel.Env.SlidingTilePuzzle.Bounds
import JumanjiModel.Env.SlidingTilePuzzle.Episode
open Jm Jx SlidingTilePuzzle

namespace Props.C04
/-- the mask bit of direction `a` is set exactly when the neighbouring cell in that direction exists
(any blank position, any `a`, no hypothesis) -/
theorem sliding_mask_iff_legal (n : Nat) (s : State) (a : Nat) :
    (validActions n s.empty).getD a false = true ↔ legal n s a := mask_iff_legal n s.board a

/-- the environment's own test `is_valid_move` in `_move_empty_tile` agrees with the rules -/
theorem sliding_step_agrees (n : Nat) (s : State) (a : Nat) (ha : a < 4) :
    isValidMove n s.empty (a : Int) = true ↔ legal n s a := isValidMove_iff_legal n s.board ha

example : legal 3 ⟨[[1, 2, 3], [4, 0, 6], [7, 5, 8]], (1, 1), 0⟩ 0 ∧ ¬ legal 3 ⟨goal 3, (2, 2), 0⟩ 1 := by decide
end Props.C04

namespace Props.C05
/-- an illegal move is ignored — the FULL documented effect: on a well-formed board the successor state
is the old state with only the step counted; the observation shows the old board, the old blank position, the old (unchanged)
mask and the new step count; the reward is 0 under the dense reward function and, under the sparse one, 1 iff the (unchanged)
board is the goal; and the step is LAST exactly for another cause (the board is the goal already, or the time limit) -/
theorem sliding_illegal_ignored (cfg : Cfg) (s : State) (a : Nat) (ha : a < 4) (hi : Inv cfg.n s.board)
    (hl : ¬ legal cfg.n s a) :
    (step cfg s (a : Int)).1 = { s with stepCount := s.stepCount + 1 } ∧
    (step cfg s (a : Int)).2.obs =
      { puzzle := s.puzzle, empty := s.empty, mask := validActions cfg.n s.empty, stepCount := s.stepCount + 1 } ∧
    (step cfg s (a : Int)).2.reward = [if cfg.dense then 0 else if s.puzzle = goal cfg.n then 1 else 0] ∧
    ((step cfg s (a : Int)).2.stepType = .last ↔ (s.puzzle = goal cfg.n ∨ cfg.timeLimit ≤ s.stepCount + 1)) := by
  have hb : (step cfg s (a : Int)).1.board = s.board := (step_moves cfg s a).trans (moveEmptyTile_illegal ha hl)
  have hst : (step cfg s (a : Int)).1 = { s with stepCount := s.stepCount + 1 } := by
    show State.mk (step cfg s (a : Int)).1.board.1 (step cfg s (a : Int)).1.board.2 _ = _
    rw [hb]; rfl
  refine ⟨hst, ?_, ?_, ?_⟩
  · rw [obs_faithful, hst]; rfl
  · have hd : denseReward cfg.n s.puzzle s.puzzle = 0 := by
      have h1 : Grid.shaped s.puzzle cfg.n cfg.n = true := hi.1
      rw [dense_eq h1 h1]; simp
    rw [step_ts, condLast_reward, hst]
    simp [sparseReward, isSolved_iff, hd]
  · rw [last_iff, hst]

example : Inv 3 (⟨goal 3, (2, 2), 0⟩ : State).board ∧ ¬ legal 3 ⟨goal 3, (2, 2), 0⟩ 1 := by decide

/-- the state part holds on ANY board (well-formed or not): board and blank untouched, only the step is counted, and the
episode ends only for another cause -/
theorem sliding_illegal_ignored_any_board (cfg : Cfg) (s : State) (a : Nat) (ha : a < 4) (hl : ¬ legal cfg.n s a) :
    (step cfg s (a : Int)).1.puzzle = s.puzzle ∧ (step cfg s (a : Int)).1.empty = s.empty ∧
    (step cfg s (a : Int)).1.stepCount = s.stepCount + 1 ∧
    ((step cfg s (a : Int)).2.stepType = .last → s.puzzle = goal cfg.n ∨ cfg.timeLimit ≤ s.stepCount + 1) :=
  illegal_ignored cfg s ha hl
end Props.C05

namespace Props.C08
/-- `DenseRewardFn` on two `n × n` boards = (correct tiles after) − (correct tiles before) -/
theorem sliding_dense_reward (n : Nat) (cur next : Grid Int)
    (hc : Grid.shaped cur n n = true) (hn : Grid.shaped next n n = true) :
    denseReward n cur next = ((correct n next - correct n cur : Int) : Rat) := dense_eq hc hn

/-- telescoping: the dense return of ANY action sequence (legal or not, through LAST or not) from a
well-formed board is correct_final − correct_initial (`ha` is not used, and of `hs` only the shape of the board:
`SlidingTilePuzzle.dense_return_any`) -/
theorem sliding_dense_return (cfg : Cfg) (hd : cfg.dense = true) (as : List Nat) (s : State)
    (hs : Inv cfg.n s.board) (ha : ∀ a ∈ as, a < 4) :
    (play cfg s as).2 = ((correct cfg.n (play cfg s as).1.puzzle - correct cfg.n s.puzzle : Int) : Rat) :=
  dense_return_any cfg hd as s hs.1

/-- `SparseRewardFn`: 1 exactly when the successor board is the goal, else 0 -/
theorem sliding_sparse_reward (n : Nat) (next : Grid Int) :
    sparseReward n next = if next = goal n then 1 else 0 := by
  simp [sparseReward, isSolved_iff]

example : Inv 3 (⟨[[1, 2, 3], [4, 0, 6], [7, 5, 8]], (1, 1), 0⟩ : State).board := by decide

/-- sparse reward function, EPISODE level: an episode (all steps before the last one are MID) from ANY state under ANY action
values returns 1 if it ends on the goal board and 0 otherwise (`returnOf` = sum of the rewards listed by `run`) -/
theorem sliding_sparse_return (cfg : Cfg) (hd : cfg.dense = false) (as : List Int) (a : Int) (s : State)
    (hmid : ∀ r ∈ run cfg s as, r.2.stepType = .mid) :
    returnOf (run cfg s (as ++ [a])) = if (finalState cfg s (as ++ [a])).puzzle = goal cfg.n then 1 else 0 := by
  induction as generalizing s with
  | nil =>
    have e : finalState cfg s ([] ++ [a]) = (step cfg s a).1 := rfl
    rw [e]
    show returnOf [step cfg s a] = _
    simp only [returnOf, List.map_cons, List.map_nil, List.sum_cons, List.sum_nil, sparse_step_reward cfg hd]
    by_cases h : (step cfg s a).1.puzzle = goal cfg.n <;> simp [h, Rat.add_zero]
  | cons b t ih =>
    have hb : (step cfg s b).2.stepType = .mid := hmid _ (by simp [run])
    have hnl : ¬ (step cfg s b).2.stepType = .last := by rw [hb]; decide
    have hng : (step cfg s b).1.puzzle ≠ goal cfg.n := fun h => hnl ((last_iff cfg s b).2 (Or.inl h))
    have := ih (step cfg s b).1 (fun r hr => hmid r (by simp [run, hr]))
    have e1 : run cfg s (b :: t ++ [a]) = step cfg s b :: run cfg (step cfg s b).1 (t ++ [a]) := rfl
    have e2 : finalState cfg s (b :: t ++ [a]) = finalState cfg (step cfg s b).1 (t ++ [a]) := rfl
    rw [e1, e2, ← this]
    simp only [returnOf, List.map_cons, List.sum_cons, sparse_step_reward cfg hd, if_neg hng]
    simp [Rat.add_zero, Rat.zero_add]

example : ∀ r ∈ run ⟨2, false, 9⟩ ⟨[[0, 1], [3, 2]], (0, 0), 0⟩ [1], r.2.stepType = .mid := by decide

/-- dense reward function: ANY play (legal or not) from a well-formed board that ends on the goal returns
`n² − (number of correct cells at the start)` — compare `sliding_sparse_return`: 1 (`ha` is not used, and of `hs` only the
shape of the board) -/
theorem sliding_dense_return_solved (cfg : Cfg) (hd : cfg.dense = true) (as : List Nat) (s : State)
    (hs : Inv cfg.n s.board) (ha : ∀ a ∈ as, a < 4) (hfin : (play cfg s as).1.puzzle = goal cfg.n) :
    (play cfg s as).2 = ((((cfg.n * cfg.n : Nat) : Int) - correct cfg.n s.puzzle : Int) : Rat) := by
  rw [dense_return_any cfg hd as s hs.1, hfin, correct_goal]

/-- dense and sparse returns DIFFER for this environment (and the documentation does not promise equality: dense = change in
the number of correctly placed tiles, sparse = 1 iff solved): on the 2×2 board one move from the goal the same legal action
ends both episodes (LAST) on the goal, with dense return 2 = n² − (correct tiles at the start) and sparse return 1 -/
theorem sliding_dense_ne_sparse_witness :
    let s : State := ⟨[[1, 2], [0, 3]], (1, 0), 0⟩
    Inv 2 s.board ∧ legal 2 s 1 ∧
    (step ⟨2, true, 5⟩ s 1).2.stepType = .last ∧ (step ⟨2, false, 5⟩ s 1).2.stepType = .last ∧
    (step ⟨2, true, 5⟩ s 1).1 = (step ⟨2, false, 5⟩ s 1).1 ∧ (step ⟨2, true, 5⟩ s 1).1.puzzle = goal 2 ∧
    (play ⟨2, true, 5⟩ s [1]).2 = 2 ∧ (play ⟨2, false, 5⟩ s [1]).2 = 1 ∧ correct 2 s.puzzle = 2 := by
  decide +kernel
end Props.C08

namespace Props.C09
/-- refinement: the transliterated step (scatter/gather with JAX index semantics, mask arithmetic, reward
functions, solved test against `make_solved_puzzle`) equals the rule-level step on every well-formed state:
successor state, step type, reward, discount and observation -/
theorem sliding_step_eq_rules (cfg : Cfg) (s : State) (a : Nat) (ha : a < 4) (h : Inv cfg.n s.board) :
    step cfg s (a : Int) = stepL2 cfg s a := by
  have hi := slideB_inv h a
  unfold step stepL2
  rw [show (s.puzzle, s.empty) = s.board from rfl, moveEmptyTile_eq_slideB h ha]
  generalize slideB cfg.n s.board a = b' at hi ⊢
  obtain ⟨g', e'⟩ := b'
  simp only
  have hs : isSolved cfg.n g' = decide (g' = goal cfg.n) := by simp [isSolved, solved_eq_goal]
  have hm : validActions cfg.n e' = (List.range 4).map (fun a => decide (legal cfg.n
      { puzzle := g', empty := e', stepCount := s.stepCount + 1 } a)) := mask_eq cfg.n (g', e')
  have hr : denseReward cfg.n s.puzzle g' = ((correct cfg.n g' - correct cfg.n s.puzzle : Int) : Rat) :=
    dense_eq h.1 hi.1
  simp only [hs, hm, hr, sparseReward, observeL2, ge_iff_le]

/-- `_move_empty_tile` is the rule-level slide -/
theorem sliding_move_eq_slide (n : Nat) (b : Board) (a : Nat) (ha : a < 4) (h : Inv n b) :
    moveEmptyTile n b (a : Int) = slideB n b a := moveEmptyTile_eq_slideB h ha

/-- well-formedness is preserved by every action, so the refinement applies along whole episodes -/
theorem sliding_inv_preserved (cfg : Cfg) (s : State) (a : Nat) (ha : a < 4) (h : Inv cfg.n s.board) :
    Inv cfg.n (step cfg s (a : Int)).1.board := step_inv cfg s ha h
end Props.C09

namespace Props.C11
/-- a step is LAST exactly when the new board is the goal or the step count reaches the time limit -/
theorem sliding_last_iff (cfg : Cfg) (s : State) (a : Int) :
    (step cfg s a).2.stepType = .last ↔
      ((step cfg s a).1.puzzle = goal cfg.n ∨ cfg.timeLimit ≤ (step cfg s a).1.stepCount) := last_iff cfg s a

/-- the step count grows by one per step (whole episodes against the limit: `sliding_episode_ends_by_limit` below) -/
theorem sliding_step_count (cfg : Cfg) (s : State) (a : Int) :
    (step cfg s a).1.stepCount = s.stepCount + 1 := step_count cfg s a

/-- EPISODE level (`run` = the L1 `step` iterated, no auto-reset): from any state with step count 0 (every reset state), for
ANY action values and any time limit `T > 0`, if at least `T` actions are played then the first LAST comes at a step `k` with
`0 < k ≤ T` — never later; all steps before it are MID on boards that are not the goal; and if none of the first `T − 1` boards
is the goal then `k = T` exactly — never earlier -/
theorem sliding_episode_ends_by_limit (cfg : Cfg) (T : Nat) (hT : cfg.timeLimit = (T : Int)) (hpos : 0 < T) (s0 : State)
    (h0 : s0.stepCount = 0) (as : List Int) (hlen : T ≤ as.length) :
    ∃ k, 0 < k ∧ k ≤ T ∧
      (∃ r, (run cfg s0 as)[k - 1]? = some r ∧ r.2.stepType = .last) ∧
      (∀ j, j < k - 1 → ∃ r, (run cfg s0 as)[j]? = some r ∧ r.2.stepType = .mid ∧ r.1.puzzle ≠ goal cfg.n) ∧
      ((∀ j r, j < T - 1 → (run cfg s0 as)[j]? = some r → r.1.puzzle ≠ goal cfg.n) → k = T) := by
  obtain ⟨k, h1, h2, ⟨e1, e2, _⟩, h4⟩ := episode_ends_by_limit cfg T hT hpos s0 h0 as hlen
  refine ⟨k, h1, h2, e1, ?_, ?_⟩
  · intro j hj
    obtain ⟨r, hr, hm, ho⟩ := e2 j hj
    exact ⟨r, hr, hm, by simpa using ho⟩
  · intro hno
    exact h4 (fun j r hj hr => by simpa using hno j r hj hr)

/-- `run` is nothing but the iteration of `step` -/
theorem sliding_run_unfold (cfg : Cfg) (s : State) (a : Int) (as : List Int) :
    run cfg s [] = [] ∧ run cfg s (a :: as) = step cfg s a :: run cfg (step cfg s a).1 as := ⟨rfl, rfl⟩

example : (reset ⟨3, true, 4⟩ [0, 3]).1.stepCount = 0 ∧ (4 : Nat) ≤ ([0, 1, 2, 3, 0] : List Int).length := ⟨rfl, by decide⟩
end Props.C11

namespace Props.C12
/-- the observation returned by `step` is the observation function of the successor state (any action) -/
theorem sliding_obs_faithful (cfg : Cfg) (s : State) (a : Int) :
    (step cfg s a).2.obs = observe cfg.n (step cfg s a).1 := obs_faithful cfg s a

/-- … and that function is the documented one: board, blank position, legality of the four directions,
step count -/
theorem sliding_observe_documented (n : Nat) (s : State) : observe n s = observeL2 n s := by
  unfold observe observeL2 legal
  rw [show s.empty = s.board.2 from rfl, mask_eq n s.board]

/-- the observation returned by `reset` is the same (documented) function of the reset state, with step count 0 -/
theorem sliding_reset_obs_faithful (cfg : Cfg) (draws : List Nat) :
    (reset cfg draws).2.obs = observe cfg.n (reset cfg draws).1 ∧
    (reset cfg draws).2.obs = observeL2 cfg.n (reset cfg draws).1 ∧
    (reset cfg draws).1 = genState cfg.n draws ∧ (reset cfg draws).2.obs.stepCount = 0 :=
  ⟨rfl, sliding_observe_documented _ _, rfl, rfl⟩
end Props.C12

namespace Props.C03
/-- `step` on ANY state (well-formed or not, before or after LAST) with ANY action value (in the action space or not) returns
a protocol-conform timestep: never FIRST, scalar reward and discount, discount in [0, 1], MID never with zero discount, LAST
with zero discount (`StepOK none false` is the predicate the driver evaluates on the implementation's timesteps) -/
theorem sliding_step_protocol (cfg : Cfg) (s : State) (a : Int) :
    StepOK none false (step cfg s a).2 = true ∧
    (step cfg s a).2.stepType ≠ .first ∧ (step cfg s a).2.reward.length = 1 ∧
    ((step cfg s a).2.discount = [0] ∨ (step cfg s a).2.discount = [1]) ∧
    ((step cfg s a).2.stepType = .mid → (step cfg s a).2.discount = [1]) ∧
    ((step cfg s a).2.stepType = .last → (step cfg s a).2.discount = [0]) := by
  refine ⟨step_protocol cfg s a, ?_⟩
  rw [step_ts]
  generalize (_ || _) = done
  cases done <;> simp [condLast, termination, transition, zerosR, onesR, RShape.size]

/-- `reset` (any draws) returns FIRST with reward 0 and discount 1 of the scalar shape -/
theorem sliding_reset_protocol (cfg : Cfg) (draws : List Nat) :
    ResetOK none (reset cfg draws).2 = true ∧ (reset cfg draws).2.stepType = .first ∧
    (reset cfg draws).2.reward = [0] ∧ (reset cfg draws).2.discount = [1] :=
  ⟨by simp [reset, resetTimeStep, restart, ResetOK], rfl, rfl, rfl⟩
end Props.C03

namespace Props.C17
/-- every legal move is the swap of the blank with the neighbour in that direction: the new board is the old
one with the two cells exchanged and the blank is at the neighbour -/
theorem sliding_move_is_swap (n : Nat) (b : Board) (a : Nat) (h : Inv n b) (hl : legalB n b a) :
    ∃ p, target b.2 a = some p ∧ onBoard n p ∧ moveEmptyTile n b (a : Int) = (swapCells n b.1 b.2 p, p) := by
  obtain ⟨p, ht, hp, _, _, h4⟩ := legal_target hl
  exact ⟨p, ht, hp, by rw [moveEmptyTile_eq_slideB h h4, slideB_legal ht hp]⟩

/-- cell-wise meaning of `swapCells`: cell `p` gets the content of `q`, `q` that of `p`, all others keep theirs -/
theorem sliding_swap_cells (n : Nat) (g : Grid Int) (p q : Pos) (i j : Nat) (hi : i < n) (hj : j < n) :
    Grid.get (swapCells n g p q) 0 i j =
      if ((i : Int), (j : Int)) = p then cell g q else if ((i : Int), (j : Int)) = q then cell g p
      else Grid.get g 0 i j := get_swapCells g p q hi hj

/-- opposite moves cancel: after a legal move the opposite move is legal and restores board and blank -/
theorem sliding_opposite_cancel (n : Nat) (b : Board) (a : Nat) (h : Inv n b) (hl : legalB n b a) :
    legalB n (moveEmptyTile n b (a : Int)) (opposite a) ∧
    moveEmptyTile n (moveEmptyTile n b (a : Int)) ((opposite a : Nat) : Int) = b := by
  obtain ⟨_, _, _, _, _, h4⟩ := legal_target hl
  have ho : opposite a < 4 := by unfold opposite; omega
  rw [moveEmptyTile_eq_slideB h h4, moveEmptyTile_eq_slideB (slideB_inv h a) ho]
  exact opposite_cancel h hl

/-- every action (legal or not) conserves the multiset of tiles -/
theorem sliding_conserves_multiset (n : Nat) (b : Board) (a : Nat) (ha : a < 4) (h : Inv n b) :
    (Grid.flatten (moveEmptyTile n b (a : Int)).1).Perm (Grid.flatten b.1) := by
  rw [moveEmptyTile_eq_slideB h ha]; exact slideB_perm h a

/-- so a board on which every tile `0 … n²-1` occurs once stays such a board -/
theorem sliding_permutation_preserved (n : Nat) (b : Board) (a : Nat) (ha : a < 4) (h : Inv n b)
    (hp : IsPermutation n b.1) : IsPermutation n (moveEmptyTile n b (a : Int)).1 := by
  rw [moveEmptyTile_eq_slideB h ha]; exact slideB_isPermutation h a hp

/-- `make_solved_puzzle` is the goal board (tile `r*n+c+1` at `(r,c)`, blank last) for every `n` -/
theorem sliding_solved_puzzle_eq_goal (n : Nat) : solvedPuzzle n = goal n := solved_eq_goal n
/-- the solved test accepts exactly the goal -/
theorem sliding_solved_iff_goal (n : Nat) (p : Grid Int) : isSolved n p = true ↔ p = goal n := isSolved_iff n p

/-- the goal holds every tile `0 … n²-1` exactly once -/
theorem sliding_goal_is_permutation (n : Nat) : IsPermutation n (goal n) := goal_isPermutation n

/-- reachability by legal slides is symmetric: whatever can be reached from a well-formed board can be
played back -/
theorem sliding_reachable_symm (n : Nat) (a b : Board) (ha : Inv n a) (h : Reachable n a b) : Reachable n b a :=
  h.symm ha

/-- every state produced by reset (a random walk with possible draws) and then by ANY play is reachable
from the goal and solvable back to it -/
theorem sliding_reachable_of_reset_and_play (cfg : Cfg) (hn : 0 < cfg.n) (draws : List Nat)
    (hv : validDraws cfg.n (startBoard cfg.n) draws = true) (as : List Nat) (ha : ∀ a ∈ as, a < 4) :
    Reachable cfg.n (goalBoard cfg.n) (play cfg (genState cfg.n draws) as).1.board ∧
    Solvable cfg.n (play cfg (genState cfg.n draws) as).1.board := by
  obtain ⟨hr, _, hi⟩ := walk_solvable cfg.n draws hv
  have hi' : Inv cfg.n (genState cfg.n draws).board := hi hn
  obtain ⟨hp, _⟩ := play_reach cfg as (genState cfg.n draws) hi' ha
  have : Reachable cfg.n (goalBoard cfg.n) (play cfg (genState cfg.n draws) as).1.board := hr.trans hp
  exact ⟨this, this.symm (goal_inv hn)⟩

example : validDraws 3 (startBoard 3) [0, 3, 2, 3, 0, 1] = true := by decide
end Props.C17

namespace Props.C10
/-- the generator (fold of random moves from the solved board; each draw has non-zero weight in
`jax.random.choice`, i.e. its mask bit is set) yields, for every grid size and every tape, a board that is
reachable from the goal, solvable back to the goal, and (n > 0) well-formed with a consistent blank position -/
theorem sliding_walk_solvable (n : Nat) (draws : List Nat) (hv : validDraws n (startBoard n) draws = true) :
    Reachable n (goalBoard n) (walk n draws) ∧ Solvable n (walk n draws) ∧ (0 < n → Inv n (walk n draws)) :=
  walk_solvable n draws hv

/-- the reset board is a permutation of the tiles `0 … n²-1` (every tile exactly once) -/
theorem sliding_reset_is_permutation (n : Nat) (hn : 0 < n) (draws : List Nat)
    (hv : validDraws n (startBoard n) draws = true) : IsPermutation n (walk n draws).1 := by
  unfold walk
  rw [startBoard_eq] at hv ⊢
  exact fold_randomMove (fun b => IsPermutation n b.1) (fun _ a h => slideB_isPermutation h a) draws _ (goal_inv hn) hv
    (goal_isPermutation n)

/-- each possible draw of `_make_random_move` (its `_swap_tiles`) is a legal slide -/
theorem sliding_random_move_is_slide (n : Nat) (b : Board) (d : Nat) (h : Inv n b)
    (hv : validDraw n b d = true) : randomMove b d = slideB n b d :=
  randomMove_eq_slideB h ((mask_iff_legal n b d).1 hv)

/-! #### the hypotheses `validDraws …` above are satisfiable -/

/-- for `n ≥ 2` some direction always has non-zero weight in `jax.random.choice` (blank on the board) -/
theorem sliding_exists_validDraw (n : Nat) (hn : 2 ≤ n) (b : Board) (hb : Inv n b) :
    ∃ d, d < 4 ∧ validDraw n b d = true := exists_validDraw hn hb.2.1

/-- for `n ≥ 2` and every number of random moves there is a tape of possible draws (so `sliding_walk_solvable`,
`sliding_reset_is_permutation`, `sliding_reachable_of_reset_and_play`, `…_reset_obs_in_bounds` are not vacuous) -/
theorem sliding_exists_valid_tape (n : Nat) (hn : 2 ≤ n) (len : Nat) :
    ∃ ds : List Nat, ds.length = len ∧ (∀ d ∈ ds, d < 4) ∧ validDraws n (startBoard n) ds = true := by
  rw [startBoard_eq]
  exact exists_valid_tape_from hn len _ (goal_inv (by omega))

/-- `n = 1` (outside the default configurations): NO draw is possible, the only valid tape is the empty one — for
`num_random_moves > 0` the generator theorems say nothing, and the implementation (`jax.random.choice` with an all-zero weight vector returns row 0 = UP)
walks off the board: `SlidingTilePuzzle(RandomWalkGenerator(grid_size=1, num_random_moves=1)).reset(PRNGKey(0))` has
`empty_tile_position = (-1, 0)`, which its own `observation_spec` rejects.  The model replayed on that draw agrees. -/
theorem sliding_n1_witness :
    (∀ ds, validDraws 1 (startBoard 1) ds = true ↔ ds = []) ∧
    (walk 1 [0]).2 = (-1, 0) ∧ ¬ Inv 1 (walk 1 [0]) ∧
    (obsSpec ⟨1, true, 5⟩).valid (toNValue (reset ⟨1, true, 5⟩ [0]).2.obs) = false ∧
    (obsSpec ⟨1, true, 5⟩).valid (toNValue (reset ⟨1, true, 5⟩ []).2.obs) = true :=
  ⟨validDraws_one, by decide, by decide, by decide, by decide⟩
end Props.C10

namespace Props.C01
open PzB
/-- the observation returned by `reset` for ANY tape of possible generator draws (grid size n ≥ 1, time limit ≥ 0): every
leaf listed in `obsBounds cfg` is present and within its interval: `puzzle` ∈ [0, n²-1], `empty_tile_position` ∈ [0, n-1],
`action_mask` ∈ [0,1], `step_count` ∈ [0, time_limit] -/
theorem sliding_tile_puzzle_reset_obs_in_bounds (cfg : Cfg) (hn : 0 < cfg.n) (hT : 0 ≤ cfg.timeLimit) (draws : List Nat)
    (hv : validDraws cfg.n (startBoard cfg.n) draws = true) :
    ObsInBounds (obsBounds cfg) (obsLeaves (resetTimeStep cfg.n (genState cfg.n draws)).obs) := by
  simp only [resetTimeStep, restart_obs, observe]
  exact obs_in_bounds cfg _
    (inRange_of_inv cfg.n _ ((walk_solvable cfg.n draws hv).2.2 hn) (Props.C10.sliding_reset_is_permutation cfg.n hn draws hv))
    ⟨Int.le_refl 0, hT⟩

/-- the same for `step`, for every state whose tiles and blank position are in range (`InRange`, an invariant, see below),
ANY action value (legal or not, in the action space or not) and including the terminal step; the time limit has not been
reached before the step (`0 ≤ step_count < time_limit`), so that the emitted `step_count ≤ time_limit` -/
theorem sliding_tile_puzzle_step_obs_in_bounds (cfg : Cfg) (s : State) (a : Int) (h : InRange cfg.n s.board)
    (hs : 0 ≤ s.stepCount ∧ s.stepCount < cfg.timeLimit) :
    ObsInBounds (obsBounds cfg) (obsLeaves (step cfg s a).2.obs) := by
  show ObsInBounds _ (obsLeaves (condLast _ _ _).obs)
  rw [condLast_obs]
  exact obs_in_bounds cfg _ (move_inRange cfg.n s.board a h) (by simp only; omega)

/-- `InRange` follows from the invariants of C09/C17 (`Inv` and `IsPermutation`, which hold from `reset` on) and is itself
preserved by every step -/
theorem sliding_inRange_invariant (cfg : Cfg) :
    (∀ b, Inv cfg.n b → IsPermutation cfg.n b.1 → InRange cfg.n b) ∧
    (∀ (s : State) (a : Int), InRange cfg.n s.board → InRange cfg.n (step cfg s a).1.board) :=
  ⟨inRange_of_inv cfg.n, step_board_inRange cfg⟩

example : InRange 3 (⟨[[1, 2, 3], [4, 0, 6], [7, 5, 8]], (1, 1), 0⟩ : State).board := by decide

/-! NOTE on what the membership theorems of this section do and do not cover: the dtype tag of every leaf
is written by `toNValue` (by construction) — a wrong dtype in the real code cannot falsify `….valid (toNValue …) = true`; dtypes and
field order of the real observations are compared by the `sliding_tile_puzzle.spec` / `sliding_tile_puzzle.state` ops (`nvalue`: field order, shape, dtype, data) and
`jax.eval_shape` in the sweeps.  Shapes are READ OFF the value by `toNValue` (widths off the first row). -/

/-! #### membership in the model's `obsSpec`: structure, shapes, dtypes and bounds
(`obsSpec` is the declared spec at the catalogue configurations: `sliding_obsSpec_generated`, Props/SpecTable.lean) -/
open Sp PzS

/-- the `reset` observation (ALL sizes n ≥ 1, any tape of possible draws, time limit ≥ 0) is accepted by
`observation_spec.validate`: fields `puzzle`, `empty_tile_position`, `action_mask`, `step_count`; shapes `(n, n)`, `(2,)`, `(4,)`,
`()`; dtypes int32, int32, bool, int32; bounds [0, n² − 1], [0, n − 1], [0, 1], [0, T] -/
theorem sliding_reset_obs_valid (cfg : Cfg) (hn : 0 < cfg.n) (hT : 0 ≤ cfg.timeLimit) (draws : List Nat)
    (hv : validDraws cfg.n (startBoard cfg.n) draws = true) :
    (obsSpec cfg).valid (toNValue (reset cfg draws).2.obs) = true := by
  have hi : Inv cfg.n (walk cfg.n draws) := (walk_solvable cfg.n draws hv).2.2 hn
  have hr := inRange_of_inv cfg.n _ hi (Props.C10.sliding_reset_is_permutation cfg.n hn draws hv)
  exact obs_valid cfg _ hi.1 hr (validActions_length _ _) ⟨Int.le_refl 0, hT⟩

/-- the same for every `step` observation up to and including the terminal one, for every action of the action space (legal or
not); hypotheses = the invariants `Inv` (C09) and `InRange` (above), which hold from `reset` on and are preserved by every step;
the time limit has not been reached before the step -/
theorem sliding_step_obs_valid (cfg : Cfg) (s : State) (a : Nat) (ha : a < 4) (hi : Inv cfg.n s.board)
    (hr : InRange cfg.n s.board) (hs : 0 ≤ s.stepCount ∧ s.stepCount < cfg.timeLimit) :
    (obsSpec cfg).valid (toNValue (step cfg s (a : Int)).2.obs) = true := by
  have hi' := step_inv cfg s ha hi
  have hr' := step_board_inRange cfg s (a : Int) hr
  rw [obs_faithful]
  refine obs_valid cfg _ hi'.1 hr' (validActions_length _ _) ?_
  show 0 ≤ (step cfg s (a : Int)).1.stepCount ∧ (step cfg s (a : Int)).1.stepCount ≤ cfg.timeLimit
  rw [step_count]; omega

example : (obsSpec ⟨2, true, 7⟩).valid (toNValue (observe 2 ⟨goal 2, (1, 1), 8⟩)) = false ∧
    (obsSpec ⟨2, true, 7⟩).valid (toNValue (observe 2 ⟨goal 3, (1, 1), 0⟩)) = false ∧
    (obsSpec ⟨2, true, 7⟩).valid (toNValue (observe 2 ⟨goal 2, (1, 2), 0⟩)) = false ∧
    (obsSpec ⟨2, true, 7⟩).valid (toNValue (observe 2 ⟨goal 2, (1, 1), 7⟩)) = true := by decide +kernel

/-- reward and discount of every `step` (ALL states, ALL action values, both reward functions) and of `reset` are accepted by
`reward_spec` (Array((), float)) and `discount_spec` (BoundedArray((), float, 0, 1)) -/
theorem sliding_reward_discount_valid (cfg : Cfg) (s : State) (a : Int) (draws : List Nat) :
    rewardSpec.valid (scalarArr (step cfg s a).2.reward) = true ∧
    discountSpec.valid (scalarArr (step cfg s a).2.discount) = true ∧
    rewardSpec.valid (scalarArr (reset cfg draws).2.reward) = true ∧
    discountSpec.valid (scalarArr (reset cfg draws).2.discount) = true :=
  have hs := stepOK_reward_discount_valid false _ (step_protocol cfg s a)
  have hr := PzS3.restart_reward_discount_valid (reset cfg draws).2.obs
  ⟨hs.1, hs.2, hr.1, hr.2⟩

/-- `action_spec.generate_value()` = 0 (UP): the action spec is well-formed, the generated value is a member of it, and `step`
answers it in EVERY state (legal there or not) with a protocol-conform timestep; membership in `action_spec` is `0 ≤ a < 4` -/
theorem sliding_accepts_generate_value (cfg : Cfg) (s : State) :
    actionSpec.WF = true ∧ actionSpec.valid actionSpec.generate = true ∧ actionSpec.generate = actionArr 0 ∧
    StepOK none false (step cfg s 0).2 = true := accepts_generate_value cfg s

theorem sliding_action_spec_iff (a : Int) : actionSpec.valid (actionArr a) = true ↔ 0 ≤ a ∧ a < 4 :=
  (valid_discrete_int_iff 4 .int32 "action" [] .int32 a).trans ⟨fun h => h.2.2, fun h => ⟨rfl, rfl, h⟩⟩

/-- the step count of every observation of an episode up to and including the terminal one lies in [0, time_limit] -/
theorem sliding_episode_step_count_in_bounds (cfg : Cfg) (T : Nat) (hT : cfg.timeLimit = (T : Int)) (hpos : 0 < T)
    (s0 : State) (h0 : s0.stepCount = 0) (as : List Int) (hlen : T ≤ as.length) :
    ∃ k, 0 < k ∧ k ≤ T ∧ (∃ r, (run cfg s0 as)[k - 1]? = some r ∧ r.2.stepType = .last) ∧
      ∀ j, j < k → ∃ r, (run cfg s0 as)[j]? = some r ∧ 0 ≤ r.2.obs.stepCount ∧ r.2.obs.stepCount ≤ cfg.timeLimit := by
  obtain ⟨k, h1, h2, ⟨e1, _, e3⟩, _⟩ := episode_ends_by_limit cfg T hT hpos s0 h0 as hlen
  refine ⟨k, h1, h2, e1, fun j hj => ?_⟩
  obtain ⟨r, hr, hb⟩ := e3 j hj
  refine ⟨r, hr, ?_⟩
  rw [run_obs_count cfg s0 as r (List.mem_of_getElem? hr), hT]; exact hb
end Props.C01
