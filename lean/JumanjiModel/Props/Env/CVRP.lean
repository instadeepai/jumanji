/-
Property theorems for CVRP; the lemmas they rest on are in Env/CVRP/.
`Feasible maxCap s` is the invariant of DESIGN Appendix A.2 (`Inv` there), recomputed from the raw state arrays;
it holds for every reset state (`cvrp_reset_feasible`) and is preserved by every step
(`cvrp_step_feasible`, `cvrp_illegal_terminates`), and the driver evaluates the same definition on
implementation states.  `D` is the distance matrix of the instance.
-/
import JumanjiModel.Env.CVRP.Lemmas
import JumanjiModel.Env.CVRP.GenLemmas
import JumanjiModel.Env.CVRP.Bounds
import JumanjiModel.Env.CVRP.Spec
open Jm CVRP

/-- a non-trivial feasible state (3 customers, capacity 5): depot → 2 → depot → 1, customer 3 open -/
def CVRP.exampleState : State :=
  { coords := [[0, 0], [1, 0], [0, 1], [1, 1]], demands := [0, 2, 4, 3], position := 1, capacity := 3,
    visited := [false, true, true, false], trajectory := [0, 2, 0, 1, 0, 0], numVisits := 4 }

namespace Props.C01
/-- `reset` for every draw of `UniformGenerator` (`n + 1` points of the unit square, demands in [1, max_demand])
when `max_demand ≤ max_capacity` (checked by the constructor): coordinates, demands/max_capacity,
capacity/max_capacity ∈ [0,1]; position, trajectory ∈ [0, n]; the two masks ∈ {0,1} -/
theorem cvrp_reset_obs_in_bounds (c : Cfg) (n : Nat) (maxDemand : Int) (cd : List (List Rat)) (dd : List Int)
    (hd : validDraw n maxDemand cd dd) (hm : maxDemand ≤ c.maxCap) :
    Jm.OB.InBounds (obsBounds n) (obsLeaves (reset c n cd dd).2.obs) :=
  stateToObs_in_bounds c n _ (reset_obsInv c n maxDemand cd dd hd hm)

/-- every step with an action of the action spec (`a ≤ n`; valid or not, terminal step included), any distance
matrix and reward function, from a state satisfying `ObsInv c n` -/
theorem cvrp_step_obs_in_bounds (c : Cfg) (D : Dist) (n : Nat) (s : State) (a : Nat) (ha : a ≤ n)
    (h : ObsInv c n s) : Jm.OB.InBounds (obsBounds n) (obsLeaves (step c D s a).2.obs) := by
  rw [step_obs]; exact stateToObs_in_bounds c n _ (step_obsInv c D n s a ha h)

/-- `ObsInv c n` is established by `reset` and preserved by every step -/
theorem cvrp_reset_obsInv (c : Cfg) (n : Nat) (maxDemand : Int) (cd : List (List Rat)) (dd : List Int)
    (hd : validDraw n maxDemand cd dd) (hm : maxDemand ≤ c.maxCap) : ObsInv c n (reset c n cd dd).1 :=
  CVRP.reset_obsInv c n maxDemand cd dd hd hm
theorem cvrp_step_obsInv (c : Cfg) (D : Dist) (n : Nat) (s : State) (a : Nat) (ha : a ≤ n)
    (h : ObsInv c n s) : ObsInv c n (step c D s a).1 := CVRP.step_obsInv c D n s a ha h

example : ObsInv ⟨5, true, 1⟩ 3 CVRP.exampleState := by decide +kernel
example : validDraw 2 3 [[0, 0], [1, 1/2], [1/3, 1]] [1, 3, 2] := by decide +kernel

/-! #### full spec membership (structure, shapes, dtypes, bounds) — Env/CVRP/Spec.lean

`obsSpec n` / `actionSpec n` are the model's `observation_spec` / `action_spec` of a `num_nodes = n` environment (hand-written;
equal to the declared ones at the catalogue configurations: `cvrp_obsSpec_generated`, Props/SpecTable.lean) as values
of the spec algebra (Spec/Spec.lean); `toNValue o` is the model observation as the seven arrays the implementation emits,
every shape read off the value; `Nested.valid` is the transliteration of `validate`.  (`demands` and `capacity` are the
exact quotients `x / max_capacity`, as in the interval theorems above.) -/

/-! NOTE on what the membership theorems of this section do and do not cover: the dtype tag of every leaf
is written by `toNValue` (by construction) — a wrong dtype in the real code cannot falsify `….valid (toNValue …) = true`; dtypes and
field order of the real observations are checked on the implementation's own arrays by the C01 sweep (the real
`observation_spec.validate` and `jax.eval_shape`, harness/props/c01.py).  Shapes are READ OFF the value by `toNValue` (widths off the
first row): see `…_obs_valid_only`. -/

/-- the `reset` observation — every size, every valid draw of `UniformGenerator`, `max_demand ≤ max_capacity` (checked by
the constructor) — is accepted by `observation_spec.validate`: coordinates `(n+1, 2)` float32 in [0, 1]; demands `(n+1,)`
float32 in [0, 1]; unvisited_nodes, action_mask `(n+1,)` bool; position `()` int32 in [0, n]; trajectory `(2n,)` int32
in [0, n+1]; capacity `()` float32 in [0, 1].  `validDraw` is the documented range and forces `1 ≤ max_demand`
(`Props.C10.cvrp_validUniform_pos`); for `max_demand ≤ 0` — accepted by the constructor — the real observation holds
`nan`/`inf` and is rejected: `Props.C10.cvrp_max_demand_zero_witness`. -/
theorem cvrp_reset_obs_valid (c : Cfg) (n : Nat) (maxDemand : Int) (cd : List (List Rat)) (dd : List Int)
    (hd : validDraw n maxDemand cd dd) (hm : maxDemand ≤ c.maxCap) :
    (obsSpec n).valid (toNValue (reset c n cd dd).2.obs) = true :=
  stateToObs_valid c n _ (reset_specInv c n maxDemand cd dd hd hm)

/-- the same for the observation of every `step` with an action of the action spec (`a ≤ n`; legal or not, the terminal
step included; any distance matrix, either reward function) from a state satisfying `SpecInv c n` … -/
theorem cvrp_step_obs_valid (c : Cfg) (D : Dist) (n : Nat) (s : State) (a : Nat) (ha : a ≤ n) (h : SpecInv c n s) :
    (obsSpec n).valid (toNValue (step c D s a).2.obs) = true := by
  rw [step_obs]; exact stateToObs_valid c n _ (step_specInv c D n s a ha h)

/-- … an invariant (`ObsInv c n` and the shapes of a `num_nodes = n` instance) that `reset` establishes for every valid
draw, every in-spec step preserves, and which therefore holds in every state of every in-spec play from `reset` -/
theorem cvrp_reset_specInv (c : Cfg) (n : Nat) (maxDemand : Int) (cd : List (List Rat)) (dd : List Int)
    (hd : validDraw n maxDemand cd dd) (hm : maxDemand ≤ c.maxCap) : SpecInv c n (reset c n cd dd).1 :=
  CVRP.reset_specInv c n maxDemand cd dd hd hm
theorem cvrp_step_specInv (c : Cfg) (D : Dist) (n : Nat) (s : State) (a : Nat) (ha : a ≤ n) (h : SpecInv c n s) :
    SpecInv c n (step c D s a).1 := CVRP.step_specInv c D n s a ha h
/-- whole plays: the observation of an in-spec step taken after ANY in-spec play from `reset` is a member -/
theorem cvrp_obs_valid_along (c : Cfg) (D : Dist) (n : Nat) (maxDemand : Int) (cd : List (List Rat)) (dd : List Int)
    (hd : validDraw n maxDemand cd dd) (hm : maxDemand ≤ c.maxCap) (as : List Nat) (hok : ∀ a ∈ as, a ≤ n)
    (a : Nat) (ha : a ≤ n) :
    (obsSpec n).valid (toNValue
      (step c D ((Ep.ofStep (step c D) (fun s => (s.numVisits : Int))).run (reset c n cd dd).1 as) a).2.obs) = true :=
  Props.C01.cvrp_step_obs_valid c D n _ a ha
    (CVRP.specInv_along c D n _ as hok (CVRP.reset_specInv c n maxDemand cd dd hd hm))

/-- what membership means.  CAVEAT: `toNValue` reads the width of `coordinates` off its FIRST row, and `validate` checks
"row count, length of the first row, total number of cells" (`CVRP.obs_valid_iff`); of these only the row count is stated
here — a ragged value with the right total can be a member, and nothing is concluded about the later rows.  Rectangularity
is part of the invariant (`SpecInv`: every coordinate row has length 2) under which the forward theorems
(`cvrp_reset_obs_valid`, `cvrp_step_obs_valid`, `cvrp_obs_valid_along`) are proved, i.e. it holds of every EMITTED
observation. -/
theorem cvrp_obs_valid_only (n : Nat) (o : Obs) (h : (obsSpec n).valid (toNValue o) = true) :
    o.coords.length = n + 1 ∧ (∀ x ∈ o.coords.flatten, 0 ≤ x ∧ x ≤ 1) ∧
    o.demands.length = n + 1 ∧ (∀ x ∈ o.demands, 0 ≤ x ∧ x ≤ 1) ∧ o.unvisited.length = n + 1 ∧
    o.position ≤ n ∧ o.trajectory.length = 2 * n ∧ (∀ v ∈ o.trajectory, v ≤ n + 1) ∧
    (0 ≤ o.capacity ∧ o.capacity ≤ 1) ∧ o.mask.length = n + 1 := CVRP.obs_valid_only n o h

/-- `action_spec.generate_value()` (= the depot) is a member of `action_spec` and is accepted by `step` in every state of
the invariant: the answer is a MID or LAST timestep whose observation is a member of `observation_spec` (reward and
discount: `cvrp_step_reward_discount_in_spec`, Props/C01.lean) -/
theorem cvrp_step_accepts_generate (c : Cfg) (D : Dist) (n : Nat) (s : State) (h : SpecInv c n s) :
    (actionSpec n).generate = ⟨[], .int32, [0]⟩ ∧ (actionSpec n).valid (actionSpec n).generate = true ∧
    (obsSpec n).valid (toNValue (step c D s 0).2.obs) = true ∧
    ((step c D s 0).2.stepType = .mid ∨ (step c D s 0).2.stepType = .last) :=
  ⟨PzS.generate_discrete _ _ _, PzS.valid_generate_discrete _ _ _ (by omega) rfl,
   Props.C01.cvrp_step_obs_valid c D n s 0 (by omega) h, step_mid_or_last c D s 0⟩

example : SpecInv ⟨5, true, 1⟩ 3 CVRP.exampleState := by decide +kernel
example : (obsSpec 3).valid (toNValue (stateToObs ⟨5, true, 1⟩ CVRP.exampleState)) = true ∧
    (obsSpec 3).valid (toNValue (stateToObs ⟨2, true, 1⟩ CVRP.exampleState)) = false ∧
    (obsSpec 3).valid (toNValue { stateToObs ⟨5, true, 1⟩ CVRP.exampleState with position := 4 }) = false ∧
    (obsSpec 3).valid (toNValue { stateToObs ⟨5, true, 1⟩ CVRP.exampleState with mask := [true] }) = false := by
  decide +kernel
end Props.C01

namespace Props.C04
/-- the mask bit of node `a` is set exactly when the rules allow visiting it -/
theorem cvrp_mask_iff_legal (s : State) (a : Nat) (hl : s.demands.length = s.visited.length) :
    (maskOf s).getD a false = true ↔ legal s a := CVRP.mask_iff_legal s a hl

/-- in a feasible state the validity test applied by `step` agrees with the rules: a masked-in
action is never treated as invalid, and every legal action is accepted -/
theorem cvrp_step_agrees (maxCap : Int) (s : State) (a : Nat) (hf : Feasible maxCap s)
    (ha : a < s.visited.length) : isValid s a = true ↔ legal s a :=
  CVRP.isValid_iff_legal maxCap s a hf ha

/-- the same stated about `step` itself (`cvrp_step_agrees` speaks of the auxiliary `isValid` only): a legal action is
carried out, an illegal one changes nothing and ends the episode (with the penalty: `cvrp_illegal_terminates`, C05) — a
masked-in node (`cvrp_mask_iff_legal`) is never treated as invalid and no legal node is refused -/
theorem cvrp_step_agrees_step (c : Cfg) (D : Dist) (s : State) (a : Nat) (hf : Feasible c.maxCap s)
    (ha : a < s.visited.length) :
    (legal s a → (step c D s a).1 = visitL2 c s a) ∧
    (¬ legal s a → (step c D s a).1 = s ∧ (step c D s a).2.stepType = .last) ∧
    (legal s a ↔ (step c D s a).1.numVisits = s.numVisits + 1) := CVRP.step_agrees_step c D s a hf ha

example : Feasible 5 CVRP.exampleState := by decide +kernel
example : legal CVRP.exampleState 0 ∧ ¬ legal CVRP.exampleState 1 ∧ ¬ legal CVRP.exampleState 2 ∧
    legal CVRP.exampleState 3 := by decide +kernel
end Props.C04

namespace Props.C05
/-- an illegal action ends the episode with the penalty `-len(trajectory)·√2`, zero discount, and
leaves the state untouched -/
theorem cvrp_illegal_terminates (c : Cfg) (D : Dist) (s : State) (a : Nat)
    (hf : Feasible c.maxCap s) (hD : dist D DEPOT DEPOT = 0) (ha : a < s.visited.length)
    (h : ¬ legal s a) :
    (step c D s a).1 = s ∧ (step c D s a).2.stepType = .last ∧
    (step c D s a).2.reward = [penalty c s] ∧ (step c D s a).2.discount = [0] := by
  rw [CVRP.step_of_illegal c D s a hf hD ha h]
  exact ⟨rfl, rfl, rfl, rfl⟩

/-- … and that penalty is the documented `-2 · num_nodes · √2` -/
theorem cvrp_penalty_documented (c : Cfg) (s : State) (hf : Feasible c.maxCap s) :
    penalty c s = -((2 * numNodes s : Nat) : Rat) * c.sqrt2 := CVRP.penalty_eq c s hf.trajectory_length
end Props.C05

namespace Props.C06
/-- every instance the generator can draw starts feasible -/
theorem cvrp_reset_feasible (c : Cfg) (n : Nat) (cd : List (List Rat)) (dd : List Int)
    (hm : 0 ≤ c.maxCap) (hd : dd.length = n + 1) : Feasible c.maxCap (reset c n cd dd).1 :=
  CVRP.generate_feasible n c.maxCap cd dd hm hd

/-- a legal step keeps the state feasible: load within capacity on every route, no customer twice,
`capacity` = what is left on the current route, bookkeeping consistent -/
theorem cvrp_step_feasible (c : Cfg) (D : Dist) (s : State) (a : Nat) (hm : 0 ≤ c.maxCap)
    (hf : Feasible c.maxCap s) (hl : legal s a) : Feasible c.maxCap (step c D s a).1 :=
  CVRP.step_feasible c D s a hm hf hl

/-- the same for a masked-in action -/
theorem cvrp_masked_step_feasible (c : Cfg) (D : Dist) (s : State) (a : Nat) (hm : 0 ≤ c.maxCap)
    (hf : Feasible c.maxCap s) (hl : (maskOf s).getD a false = true) :
    Feasible c.maxCap (step c D s a).1 :=
  CVRP.step_feasible c D s a hm hf ((CVRP.mask_iff_legal s a hf.1).1 hl)

/-- a feasible state in which the code's termination test `allVisited` holds is a complete feasible solution: every customer
on the trajectory exactly once, every route within capacity, vehicle back at the depot -/
theorem cvrp_complete_is_solution (maxCap : Int) (s : State) (hf : Feasible maxCap s)
    (h : allVisited s = true) : IsSolution maxCap s := CVRP.complete_is_solution maxCap s hf h
/-- the same about a state PRODUCED BY `step` (`cvrp_complete_is_solution` has `allVisited s` as hypothesis and no
`step`): a legal action from a feasible state whose timestep is LAST leaves a complete feasible solution -/
theorem cvrp_step_complete_is_solution (c : Cfg) (D : Dist) (s : State) (a : Nat) (hm : 0 ≤ c.maxCap)
    (hf : Feasible c.maxCap s) (hl : legal s a) (hlast : (step c D s a).2.stepType = .last) :
    IsSolution c.maxCap (step c D s a).1 := CVRP.step_complete_is_solution c D s a hm hf hl hlast

/-- whole episodes: every complete episode of legal actions (`LegalEpisode`: each action legal at its turn, LAST exactly
at the last one) from ANY generated instance ends in a complete feasible solution: every customer on the route exactly
once, every route within the capacity, vehicle back at the depot -/
theorem cvrp_episode_complete_is_solution (c : Cfg) (D : Dist) (n : Nat) (cd : List (List Rat)) (dd : List Int)
    (hm : 0 ≤ c.maxCap) (hd : dd.length = n + 1) (as : List Nat)
    (hep : LegalEpisode c D (generate n c.maxCap cd dd) as) :
    IsSolution c.maxCap (endState c D (generate n c.maxCap cd dd) as) :=
  CVRP.episode_complete_is_solution c D hm _ as (CVRP.generate_feasible n c.maxCap cd dd hm hd) hep

example : LegalEpisode ⟨1, true, 3/2⟩ [[0, 1, 1], [1, 0, 1], [1, 1, 0]]
    (generate 2 1 [[0, 0], [1, 0], [0, 1]] [1, 1, 1]) [1, 0, 2, 0] := by decide +kernel

/-- whole episodes: from ANY feasible state along ANY sequence of nodes each legal at its turn, the state after
every prefix is feasible: load within capacity on every route, no customer served twice -/
theorem cvrp_feasible_along_from (c : Cfg) (D : Dist) (hm : 0 ≤ c.maxCap) (s : State) (as : List Nat)
    (hf : Feasible c.maxCap s) (hal : AllLegal c D s as) (k : Nat) :
    Feasible c.maxCap (playS c D s (as.take k)) := CVRP.feasible_along c D hm s as hf hal k

/-- whole episodes from ANY generated instance (any size, any draws of the right length) along ANY
mask-respecting sequence (`AllMasked`: each node has its bit set in the action mask of the observation current at
its turn): after every prefix the state is feasible; spelled out: every route's load is within the capacity and no
customer is on the trajectory twice -/
theorem cvrp_feasible_along (c : Cfg) (D : Dist) (n : Nat) (cd : List (List Rat)) (dd : List Int)
    (hm : 0 ≤ c.maxCap) (hd : dd.length = n + 1) (as : List Nat)
    (hmask : AllMasked c D (generate n c.maxCap cd dd) as) (k : Nat) :
    Feasible c.maxCap (playS c D (generate n c.maxCap cd dd) (as.take k)) ∧
    loadsOK (playS c D (generate n c.maxCap cd dd) (as.take k)).demands c.maxCap 0
      (visits (playS c D (generate n c.maxCap cd dd) (as.take k))) = true ∧
    ((visits (playS c D (generate n c.maxCap cd dd) (as.take k))).filter (· ≠ DEPOT)).Nodup := by
  have hf0 := CVRP.generate_feasible n c.maxCap cd dd hm hd
  have hf := CVRP.feasible_along c D hm _ as hf0 (CVRP.allMasked_allLegal c D hm as _ hf0 hmask) k
  exact ⟨hf, hf.loadsOK, hf.nodup⟩

-- a mask-respecting complete episode on a generated 2-customer instance (capacity 3: customer 2, refill, customer 1)
example : AllMasked ⟨3, true, 1⟩ [[0, 1, 1], [1, 0, 1], [1, 1, 0]]
    (generate 2 3 [[0, 0], [1/2, 0], [0, 1/2]] [7, 2, 3]) [2, 0, 1, 0] := by
  simp only [AllMasked]; decide +kernel
end Props.C06

namespace Props.C08
/-- dense reward telescopes: route length after a legal step = route length before − reward -/
theorem cvrp_dense_telescopes (c : Cfg) (D : Dist) (s : State) (a : Nat) (hm : 0 ≤ c.maxCap)
    (hdense : c.dense = true) (hD : dist D DEPOT DEPOT = 0)
    (hf : Feasible c.maxCap s) (hl : legal s a) :
    pathLen D (visits (step c D s a).1) = pathLen D (visits s) - (step c D s a).2.reward.sum :=
  CVRP.dense_telescopes c D s a hm hdense hD hf hl

/-- when all nodes are visited the vehicle is at the depot, so the documented objective (tour
through all visits and back to the depot) is the route length the dense rewards add up to -/
theorem cvrp_tourLength_final (maxCap : Int) (D : Dist) (s : State) (hD : dist D DEPOT DEPOT = 0)
    (hf : Feasible maxCap s) (h : allVisited s = true) : tourLength D s = pathLen D (visits s) :=
  CVRP.tourLength_final maxCap D s hD hf h

/-- the sparse objective of the code (cyclic sum of distances over the zero-padded trajectory
array, `compute_tour_length`) is the documented objective: the tour through all visits made so
far, depot returns included, and back to the depot — in every feasible state, also when the last
trajectory write (index `2·num_nodes`) was dropped -/
theorem cvrp_sparse_objective (maxCap : Int) (D : Dist) (s : State) (hD : dist D DEPOT DEPOT = 0)
    (hf : Feasible maxCap s) : computeTourLength D s.trajectory = tourLength D s :=
  CVRP.computeTourLength_eq maxCap D s hD hf

/-- sparse reward of a legal step: zero before the end, minus the tour length at the end -/
theorem cvrp_sparse_reward (c : Cfg) (D : Dist) (s : State) (a : Nat) (hm : 0 ≤ c.maxCap)
    (hsparse : c.dense = false) (hD : dist D DEPOT DEPOT = 0) (hf : Feasible c.maxCap s)
    (hl : legal s a) :
    (step c D s a).2.reward =
      [if (step c D s a).2.stepType = .last then -(tourLength D (step c D s a).1) else 0] :=
  CVRP.sparse_reward_objective c D s a hm hsparse hD hf hl

/-- whole episodes (`returnOf`, `endState`, `LegalEpisode` are defined in Env/CVRP/Lemmas.lean:
play a list of actions until LAST; every action legal and LAST exactly at the last one):
dense return = route length already recorded − tour length of the final state -/
theorem cvrp_dense_return (c : Cfg) (D : Dist) (s : State) (as : List Nat) (hm : 0 ≤ c.maxCap)
    (hdense : c.dense = true) (hD : dist D DEPOT DEPOT = 0) (hf : Feasible c.maxCap s)
    (hep : LegalEpisode c D s as) :
    returnOf c D s as = pathLen D (visits s) - tourLength D (endState c D s as) := by
  fun_induction LegalEpisode c D s as with
  | case1 => exact hep.elim
  | case2 s a as ih =>
    have htel := dense_telescopes c D s a hm hdense hD hf hep.1
    have hf' := step_feasible c D s a hm hf hep.1
    unfold returnOf endState
    split
    · next hlast =>
      rw [tourLength_final c.maxCap D _ hD hf' ((step_legal_last_iff c D s a hf hep.1).1 hlast)]
      -- `htel`: route after = route before − r, so r + 0 = route before − route after
      grind
    · next hlast =>
      rw [ih hf' ((if_neg hlast).mp hep.2)]
      -- `htel` again: r + (route after − final tour) = route before − final tour
      grind

/-- sparse return = − tour length of the final state -/
theorem cvrp_sparse_return (c : Cfg) (D : Dist) (s : State) (as : List Nat) (hm : 0 ≤ c.maxCap)
    (hsparse : c.dense = false) (hD : dist D DEPOT DEPOT = 0) (hf : Feasible c.maxCap s)
    (hep : LegalEpisode c D s as) :
    returnOf c D s as = - tourLength D (endState c D s as) := by
  fun_induction LegalEpisode c D s as with
  | case1 => exact hep.elim
  | case2 s a as ih =>
    have hr := sparse_reward_objective c D s a hm hsparse hD hf hep.1
    unfold returnOf endState
    split
    · next hlast => rw [hr, if_pos hlast]; simp [Rat.add_zero]
    · next hlast =>
      rw [ih (step_feasible c D s a hm hf hep.1) ((if_neg hlast).mp hep.2), hr, if_neg hlast]; simp [Rat.zero_add]

/-- from any reset state, on the same complete episode of legal actions, both reward functions
return minus the tour length (depot returns included) of the final state -/
theorem cvrp_dense_eq_sparse (c : Cfg) (D : Dist) (n : Nat) (cd : List (List Rat)) (dd : List Int)
    (as : List Nat) (hm : 0 ≤ c.maxCap) (hD : dist D DEPOT DEPOT = 0) (hd : dd.length = n + 1)
    (hep : LegalEpisode c D (generate n c.maxCap cd dd) as) :
    returnOf { c with dense := true } D (generate n c.maxCap cd dd) as =
      - tourLength D (endState c D (generate n c.maxCap cd dd) as) ∧
    returnOf { c with dense := false } D (generate n c.maxCap cd dd) as =
      - tourLength D (endState c D (generate n c.maxCap cd dd) as) := by
  have hf := generate_feasible n c.maxCap cd dd hm hd
  constructor
  · have := Props.C08.cvrp_dense_return { c with dense := true } D _ as hm rfl hD hf
      ((legalEpisode_reward_indep c true D _ as).2 hep)
    rw [this, generate_pathLen, endState_reward_indep]
    -- 0 − t = −t
    grind
  · have := Props.C08.cvrp_sparse_return { c with dense := false } D _ as hm rfl hD hf
      ((legalEpisode_reward_indep c false D _ as).2 hep)
    rw [this, endState_reward_indep]

/-- a complete legal episode exists on a concrete instance (2 customers that each fill the vehicle) -/
example : LegalEpisode ⟨1, true, 3/2⟩ [[0, 1, 1], [1, 0, 1], [1, 1, 0]]
    (generate 2 1 [[0, 0], [1, 0], [0, 1]] [1, 1, 1]) [1, 0, 2, 0] := by decide +kernel
end Props.C08

namespace Props.C09
/-- L1 ⊑ L2: on a legal action the transliterated `step` does exactly what the rules prescribe -/
theorem cvrp_step_legal_spec (c : Cfg) (D : Dist) (s : State) (a : Nat) (hf : Feasible c.maxCap s)
    (hl : legal s a) :
    let s' := (step c D s a).1
    s'.position = a ∧ visits s' = visits s ++ [a] ∧
    s'.capacity = (if a = DEPOT then c.maxCap else s.capacity - s.demands.getD a 0) ∧
    (∀ x, 0 < x → x < s.visited.length → s'.visited.getD x false = (s.visited.getD x false || x == a)) ∧
    s'.demands = s.demands ∧ s'.coords = s.coords ∧
    ((step c D s a).2.stepType = .last ↔ allVisited s' = true) ∧
    ((step c D s a).2.stepType = .last ∨ (step c D s a).2.stepType = .mid) :=
  CVRP.step_legal_spec c D s a hf hl

/-- `_update_state` on an in-range action without the clamped gathers and scatters; what remains of the JAX index corner
cases is the dropped write to a full `trajectory` -/
theorem cvrp_update_eq (c : Cfg) (s : State) (a : Nat) (hl : s.demands.length = s.visited.length)
    (ha : a < s.visited.length) :
    update c s a =
      { s with position := a
               capacity := if a = DEPOT then c.maxCap else s.capacity - s.demands.getD a 0
               visited := (s.visited.set 0 false).set a true
               trajectory := if s.numVisits < s.trajectory.length then s.trajectory.set s.numVisits a
                             else s.trajectory
               numVisits := s.numVisits + 1 } := CVRP.update_eq c s a hl ha

/-- L1 = L2 (`cvrp_step_legal_spec` covers legal actions and some fields only): on EVERY feasible state and EVERY
in-range action — legal or not — the transliterated `step` (gathers with clamping, scatters with dropping, the stale-state
reads of the reward functions, `compute_tour_length` over the zero-padded trajectory, `visited_mask.all()`) returns exactly
what the documented rules `stepL2` (Env/CVRP/Model.lean) prescribe: successor state in ALL fields, reward, step type,
discount and observation, for both reward functions.  `hD`: the depot is at distance 0 from itself. -/
theorem cvrp_step_eq_spec (c : Cfg) (D : Dist) (s : State) (a : Nat) (hm : 0 ≤ c.maxCap)
    (hD : dist D DEPOT DEPOT = 0) (hf : Feasible c.maxCap s) (ha : a < s.visited.length) :
    step c D s a = stepL2 c D s a := by
  by_cases hl : legal s a
  · rw [step_of_legal c D s a hf hl, reward_legal c D s a hm hD hf hl]
    simp only [stepL2, if_pos hl, complete_eq_allVisited c.maxCap _ (visitL2_feasible c s a hm hf hl), condLast]
  · rw [step_of_illegal c D s a hf hD ha hl, penalty_eq c s hf.trajectory_length, stepL2, if_neg hl]

/-- the termination test of the rules ("all nodes have been visited": every customer on the route, vehicle at the depot,
read off the route) is the code's `visited_mask.all()` in every feasible state -/
theorem cvrp_complete_eq_allVisited (m : Int) (s : State) (hf : Feasible m s) : complete s = allVisited s :=
  CVRP.complete_eq_allVisited m s hf

-- the rules on the example state: node 3 (demand 3, capacity 3) is served, node 2 (visited) ends the episode with the penalty
example : (stepL2 ⟨5, true, 3/2⟩ [[0, 1, 1, 1], [1, 0, 1, 1], [1, 1, 0, 1], [1, 1, 1, 0]] CVRP.exampleState 3).1.capacity = 0 ∧
    (stepL2 ⟨5, true, 3/2⟩ [[0, 1, 1, 1], [1, 0, 1, 1], [1, 1, 0, 1], [1, 1, 1, 0]] CVRP.exampleState 3).2.reward = [-1] ∧
    (stepL2 ⟨5, true, 3/2⟩ [[0, 1, 1, 1], [1, 0, 1, 1], [1, 1, 0, 1], [1, 1, 1, 0]] CVRP.exampleState 2).2.reward = [-9] := by
  decide +kernel
end Props.C09

namespace Props.C10
/-- whatever `UniformGenerator` draws (coordinates in the unit square, demands in `[1, max_demand]`),
and given the constructor's check `max_demand ≤ max_capacity`: depot demand 0, customer demands in
range and never above the capacity, coordinates in the box, and the start state is the documented one -/
theorem cvrp_generate_instance (n : Nat) (maxCap maxDemand : Int) (cd : List (List Rat)) (dd : List Int)
    (hcon : maxDemand ≤ maxCap) (hd : validDraw n maxDemand cd dd) :
    demandsOK maxCap maxDemand (generate n maxCap cd dd) ∧ coordsInBox (generate n maxCap cd dd) ∧
    IsInitial n maxCap (generate n maxCap cd dd) := by
  obtain ⟨h1, h2, h3, h4⟩ := hd
  have hpos := one_le_maxDemand h2 h4
  refine ⟨⟨?_, fun d hdm => h4 d (mem_draw_of_mem_demands hdm), ?_⟩, h3, ?_⟩
  · rw [generate_eq]; exact Jx.getD_set_self _ _ (by omega)
  · rw [generate_eq]
    intro d hdm
    rcases List.mem_or_eq_of_mem_set hdm with h | h
    · have := h4 d h; omega
    · omega
  · rw [generate_eq]; exact ⟨h1, by simp [h2], rfl, rfl, rfl, rfl, rfl⟩

example : validDraw 2 3 [[0, 1/2], [1/4, 1], [1/3, 1/3]] [2, 3, 1] := by decide +kernel
/-- `UniformGenerator`, transliterated with its draws as parameters: for EVERY size and EVERY valid draw
(`validUniform`: coordinates with `0 ≤ x < 1`, demand draws in `[1, max_demand]`), given the constructor's check
`max_demand ≤ max_capacity`, the generated state satisfies the certificate `GenCert`: depot demand 0, customer
demands integers in `[1, max_demand]` and each `≤ max_capacity`, capacity = `max_capacity`, position = depot, only
the depot visited, trajectory all depot, coordinates in `[0, 1)`.  `cvrp.instance` evaluates `GenCert` on the
implementation's reset states (key `generate_cert`). -/
theorem cvrp_generate_cert (n : Nat) (maxCap maxDemand : Int) (cd : List (List Rat)) (dd : List Int)
    (hcon : maxDemand ≤ maxCap) (hd : validUniform n maxDemand cd dd) :
    GenCert n maxCap maxDemand (generate n maxCap cd dd) := by
  obtain ⟨h1, h2, h3, h4⟩ := hd
  have hdrop : ∀ d ∈ (generate n maxCap cd dd).demands.drop 1, 1 ≤ d ∧ d ≤ maxDemand ∧ d ≤ maxCap := by
    intro d hdm
    have := h4 d (mem_draw_of_mem_demands hdm)
    omega
  rw [generate_eq] at hdrop ⊢
  exact ⟨h1, by simp [h2], h3, by simp only [DEPOT]; rw [Jx.getD_set_self _ _ (by omega)], hdrop,
    rfl, rfl, rfl, rfl, rfl⟩

/-- certificate ⇒ advertised invariants: the state IS `generate` of the draws read off it, demands never exceed
the capacity, coordinates lie in the declared box, the start state is the documented one and it is feasible -/
theorem cvrp_cert_sound (n : Nat) (maxCap maxDemand : Int) (s : State) (hm : 0 ≤ maxCap)
    (h : GenCert n maxCap maxDemand s) :
    s = generate n maxCap s.coords s.demands ∧ demandsOK maxCap maxDemand s ∧ coordsInBox s ∧
    IsInitial n maxCap s ∧ Feasible maxCap s := by
  have heq := cert_eq_generate n maxCap maxDemand s h
  obtain ⟨hcl, hl, hbox, h0, hdem, hc, hp, hv, ht, hn⟩ := h
  refine ⟨heq, ⟨h0, fun d hd => ⟨(hdem d hd).1, (hdem d hd).2.1⟩, ?_⟩, ?_, ⟨hcl, hl, hp, hc, hv, ht, hn⟩, ?_⟩
  · intro d hd
    cases hdm : s.demands with
    | nil => simp [hdm] at hd
    | cons x xs =>
      rw [hdm] at hd h0 hdem
      simp [DEPOT] at h0
      cases List.mem_cons.1 hd with
      | inl h => omega
      | inr h => exact (hdem d (by simpa using h)).2.2
  · intro p hp'
    exact ⟨(hbox p hp').1, fun x hx => ⟨((hbox p hp').2 x hx).1, Rat.le_of_lt ((hbox p hp').2 x hx).2⟩⟩
  · rw [heq]; exact generate_feasible n maxCap _ _ hm hl

example : validUniform 2 3 [[0, 1/2], [1/4, 999/1000], [1/3, 1/3]] [2, 3, 1] := by decide +kernel

/-! #### the support the CODE draws from, and `max_demand ≤ 0`

`validDraw` / `validUniform` are the DOCUMENTED range "demands in `[1, max_demand]`".  The code draws
`randint(minval=1, maxval=max_demand)`: upper bound exclusive, and `1` when `max_demand ≤ 1` — `validUniformCode`.  For
`max_demand ≥ 1` the documented support is a superset (all theorems above apply, but never see that `max_demand` itself is
unreachable: `Props.C10.cvrp_max_demand_never_drawn` in Props/Draws.lean); for `max_demand ≤ 0` the documented support is
EMPTY (`cvrp_validUniform_pos`) — every theorem above with `validDraw`/`validUniform` is vacuous there — while
`CVRP.__init__` ACCEPTS such configurations (`max_capacity ≥ max_demand` is its only check, Props/Guards.lean). -/

/-- the documented supports are empty unless `1 ≤ max_demand` -/
theorem cvrp_validUniform_pos (n : Nat) (m : Int) (cd : List (List Rat)) (dd : List Int) :
    (validUniform n m cd dd → 1 ≤ m) ∧ (validDraw n m cd dd → 1 ≤ m) :=
  ⟨fun h => one_le_maxDemand h.2.1 h.2.2.2, fun h => one_le_maxDemand h.2.1 h.2.2.2⟩

/-- the code's support is inhabited for EVERY `max_demand` (also `≤ 0`), and for `1 ≤ max_demand` it lies inside the
documented one -/
theorem cvrp_validUniformCode_facts (n : Nat) (m : Int) :
    validUniformCode n m (List.replicate (n + 1) [0, 0]) (List.replicate (n + 1) 1) ∧
    (∀ cd dd, 1 ≤ m → validUniformCode n m cd dd → validUniform n m cd dd) := by
  refine ⟨⟨by simp, by simp, ?_, ?_⟩, fun cd dd h1 h => validUniformCode_sub n m cd dd h1 h⟩
  · intro p hp
    rw [List.eq_of_mem_replicate hp]
    exact ⟨rfl, by intro x hx; simp at hx; subst hx; decide⟩
  · intro d hd
    rw [List.eq_of_mem_replicate hd]
    omega

/-- the generator theorem for the code's support: for every size, `1 ≤ max_demand ≤ max_capacity` and everything the CODE can draw, the
generated state satisfies the certificate, and moreover no customer demand exceeds `max(1, max_demand − 1)` -/
theorem cvrp_generate_cert_code (n : Nat) (maxCap maxDemand : Int) (cd : List (List Rat)) (dd : List Int)
    (h1 : 1 ≤ maxDemand) (hcon : maxDemand ≤ maxCap) (hd : validUniformCode n maxDemand cd dd) :
    GenCert n maxCap maxDemand (generate n maxCap cd dd) ∧
    (∀ d ∈ (generate n maxCap cd dd).demands.drop 1, d ≤ max 1 (maxDemand - 1)) :=
  ⟨Props.C10.cvrp_generate_cert n maxCap maxDemand cd dd hcon (validUniformCode_sub n maxDemand cd dd h1 hd),
    fun d hdm => (hd.2.2.2 d (mem_draw_of_mem_demands hdm)).2⟩

/-- WITNESS (C10/C01; DESIGN.md 11.9, finding (a) about the real code): `CVRP(UniformGenerator(num_nodes=3, max_capacity=0, max_demand=0))` is accepted by
the constructor; the code draws demands `[1, 1, 1, 1]` (in `validUniformCode 3 0`), the instance is NOT well-formed: customer
demands 1 exceed both `max_demand = 0` and the capacity 0 (`GenCert`, `demandsOK` fail), and no customer can ever be served.
Real code: demands `[0 1 1 1]`, capacity 0, observation demands `[nan inf inf inf]` (division by `max_capacity = 0`),
`observation_spec.validate` raises.  The model's `stateToObs` divides in ℚ (`x / 0 = 0`), so the
C01 theorems cannot see the `nan`/`inf`; they all assume `validDraw`, hence `1 ≤ max_demand ≤ max_capacity`. -/
theorem cvrp_max_demand_zero_witness :
    validUniformCode 3 0 [[0,0],[0,0],[0,0],[0,0]] [1,1,1,1] ∧
    ¬ validUniform 3 0 [[0,0],[0,0],[0,0],[0,0]] [1,1,1,1] ∧
    (generate 3 0 [[0,0],[0,0],[0,0],[0,0]] [1,1,1,1]).demands = [0, 1, 1, 1] ∧
    (generate 3 0 [[0,0],[0,0],[0,0],[0,0]] [1,1,1,1]).capacity = 0 ∧
    ¬ GenCert 3 0 0 (generate 3 0 [[0,0],[0,0],[0,0],[0,0]] [1,1,1,1]) ∧
    ¬ demandsOK 0 0 (generate 3 0 [[0,0],[0,0],[0,0],[0,0]] [1,1,1,1]) ∧
    (∀ a, a ≤ 3 → legal (generate 3 0 [[0,0],[0,0],[0,0],[0,0]] [1,1,1,1]) a → a = 0) := by
  refine ⟨by decide +kernel, by decide +kernel, by decide +kernel, by decide +kernel, by decide +kernel, by decide +kernel, ?_⟩
  intro a ha hl
  have : a = 0 ∨ a = 1 ∨ a = 2 ∨ a = 3 := by omega
  rcases this with rfl | rfl | rfl | rfl
  · rfl
  all_goals (exfalso; revert hl; decide +kernel)
end Props.C10

namespace Props.C11
/-- every non-terminal step records one more visit, and a non-terminal state has at most
`2·num_nodes` visits; the reset state has 1 (the episode bound drawn from this is `cvrp_ends_within_horizon`) -/
theorem cvrp_progress (c : Cfg) (D : Dist) (s : State) (a : Nat) (hm : 0 ≤ c.maxCap)
    (hf : Feasible c.maxCap s) (ha : a < s.visited.length)
    (h : (step c D s a).2.stepType ≠ .last) :
    (step c D s a).1.numVisits = s.numVisits + 1 ∧ (step c D s a).1.numVisits ≤ 2 * numNodes s :=
  CVRP.progress c D s a hm hf ha h

/-- in any feasible state at most `2·num_nodes + 1` visits are recorded -/
theorem cvrp_visits_bound (maxCap : Int) (s : State) (hf : Feasible maxCap s) :
    s.numVisits ≤ 2 * numNodes s + 1 := CVRP.visits_bound maxCap s hf

/-- feasibility (the hypothesis above) survives any in-range action, legal or not -/
theorem cvrp_step_feasible_any (c : Cfg) (D : Dist) (s : State) (a : Nat) (hm : 0 ≤ c.maxCap)
    (hf : Feasible c.maxCap s) (ha : a < s.visited.length) : Feasible c.maxCap (step c D s a).1 :=
  CVRP.step_feasible_any c D s a hm hf ha

/-- whole episodes (`cvrp_progress` is a single step): from EVERY reset state (any `n ≥ 1`, any draws of the right
length), EVERY list of at least `2n` actions of the action spec (`a ≤ n`) — legal or not — contains a LAST timestep, and the
first one has (1-based) index ≤ `2n`: no episode outlasts the structural horizon `2·num_nodes`.  `Ep.rollout` iterates
the L1 `step`, `Ep.firstLastTS` is what harness/props/c11.py measures (Core/Episode.lean). -/
theorem cvrp_ends_within_horizon (c : Cfg) (D : Dist) (hm : 0 ≤ c.maxCap) (n : Nat) (hn : 0 < n)
    (cd : List (List Rat)) (dd : List Int) (hd : dd.length = n + 1) (as : List Nat) (hok : ∀ a ∈ as, a ≤ n)
    (hlen : 2 * n ≤ as.length) :
    ∃ k, Ep.firstLastTS ((Ep.rollout (step c D) (reset c n cd dd).1 as).map (·.2)) = some k ∧ 0 < k ∧ k ≤ 2 * n := by
  have hi : HInv c n (reset c n cd dd).1 :=
    ⟨generate_feasible n c.maxCap cd dd hm hd, by simp [reset, generate, Jx.setWD_length]⟩
  have hp : pot n (reset c n cd dd).1 + 1 = 2 * n := by simp only [pot, reset, generate]; omega
  obtain ⟨k, hk, h1, h2⟩ := (bounded c D hm n).rollout_ends _ hi as hok (by omega)
  exact ⟨k, hk, h1, by omega⟩

/-- the horizon `2n` is attained: two customers that each fill the vehicle need 4 steps -/
example : Ep.firstLastTS ((Ep.rollout (step ⟨1, true, 3/2⟩ [[0, 1, 1], [1, 0, 1], [1, 1, 0]])
    (reset ⟨1, true, 3/2⟩ 2 [[0, 0], [1, 0], [0, 1]] [1, 1, 1]).1 [1, 0, 2, 0]).map (·.2)) = some 4 := by decide +kernel
end Props.C11

namespace Props.C12
/-- the observation is the documented function of the successor state (mask = legal actions) -/
theorem cvrp_obs_faithful (c : Cfg) (D : Dist) (s : State) (a : Nat)
    (hl : s.demands.length = s.visited.length) :
    (step c D s a).2.obs = observe c (step c D s a).1 := CVRP.obs_faithful c D s a hl

/-- … and so is the observation returned by `reset` -/
theorem cvrp_reset_obs_faithful (c : Cfg) (n : Nat) (cd : List (List Rat)) (dd : List Int)
    (hd : dd.length = n + 1) :
    (reset c n cd dd).2.obs = observe c (reset c n cd dd).1 ∧ (reset c n cd dd).2.stepType = .first :=
  CVRP.reset_obs_faithful c n cd dd hd
end Props.C12
