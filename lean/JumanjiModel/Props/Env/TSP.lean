/-
Property theorems for TSP, one namespace per property.  A theorem that is a special case of a lemma of
Env/TSP/{Lemmas,SmallLemmas,Bounds,GenLemmas,Spec}.lean quotes it; the others are proved here from those lemmas.
`n` = num_cities; `D` = the matrix of pairwise distances (any matrix: no metric property is needed; the dense-return
theorems for every `n` ask `WrapOK n D`, which matters for `n = 1` only: `tsp_n1_needs_shape`);
`pen` = the invalid-move penalty (−n·√2 in the code, kept symbolic).  `Feasible n s` is the invariant of
reachable states (route without repeats, visited mask = set of the route, position = last city, …).
-/
import JumanjiModel.Env.TSP.Lemmas
import JumanjiModel.Env.TSP.Bounds
import JumanjiModel.Env.TSP.SmallLemmas
import JumanjiModel.Env.TSP.GenLemmas
import JumanjiModel.Env.TSP.Spec
open Jm TSP

namespace Props.C01
/-- `reset` (any `n`, any sampled coordinates of the unit square): coordinates ∈ [0,1], trajectory ∈ [−1, n−1],
action_mask ∈ {0,1} — every leaf listed in `obsBounds n` -/
theorem tsp_reset_obs_in_bounds (n : Nat) (coords : List (List Rat)) (h : validDraw n coords) :
    Jm.OB.InBounds (obsBounds n) (obsLeaves (reset n coords).2.obs) :=
  TSP.obsOf_in_bounds n _ (TSP.reset_obsInv n coords h)

/-- every step with an action of the action spec (`0 ≤ a < n`, valid or not, terminal step included), any
distance matrix, penalty and reward function, from a state satisfying `ObsInv n` -/
theorem tsp_step_obs_in_bounds (n : Nat) (D : Dist) (pen : Rat) (dense : Bool) (s : State) (a : Int)
    (ha : 0 ≤ a ∧ a < n) (h : ObsInv n s) :
    Jm.OB.InBounds (obsBounds n) (obsLeaves (step n D pen dense s a).2.obs) := by
  rw [TSP.step_obs]; exact TSP.obsOf_in_bounds n _ (TSP.step_obsInv n D pen dense s a ha h)

/-- `ObsInv n` is established by `reset`, preserved by every step, and implied by `Feasible n` together with coordinates
in `[0, 1]` -/
theorem tsp_reset_obsInv (n : Nat) (coords : List (List Rat)) (h : validDraw n coords) :
    ObsInv n (reset n coords).1 := TSP.reset_obsInv n coords h
theorem tsp_step_obsInv (n : Nat) (D : Dist) (pen : Rat) (dense : Bool) (s : State) (a : Int)
    (ha : 0 ≤ a ∧ a < n) (h : ObsInv n s) : ObsInv n (step n D pen dense s a).1 :=
  TSP.step_obsInv n D pen dense s a ha h
theorem tsp_feasible_obsInv (n : Nat) (s : State) (hf : Feasible n s)
    (hc : ∀ p ∈ s.coords, ∀ x ∈ p, 0 ≤ x ∧ x ≤ 1) : ObsInv n s := TSP.feasible_obsInv n s hf hc

/-- the leaf `position` (not in `obsBounds`: finding F5): [−1, n−1] on every observation … -/
theorem tsp_reset_position_in_bounds (n : Nat) (coords : List (List Rat)) (h : validDraw n coords) :
    Jm.OB.InBounds (positionBounds n) (obsLeaves (reset n coords).2.obs) :=
  TSP.obsOf_position_in_bounds n _ (TSP.reset_obsInv n coords h)
theorem tsp_step_position_in_bounds (n : Nat) (D : Dist) (pen : Rat) (dense : Bool) (s : State) (a : Int)
    (ha : 0 ≤ a ∧ a < n) (h : ObsInv n s) :
    Jm.OB.InBounds (positionBounds n) (obsLeaves (step n D pen dense s a).2.obs) := by
  rw [TSP.step_obs]; exact TSP.obsOf_position_in_bounds n _ (TSP.step_obsInv n D pen dense s a ha h)
/-- … inside the declared `DiscreteArray(num_cities)` = [0, n−1] on every observation returned by `step` from a
feasible state, and equal to −1 (outside it) on every reset observation -/
theorem tsp_step_position_declared (n : Nat) (D : Dist) (pen : Rat) (dense : Bool) (s : State) (a : Nat)
    (hf : Feasible n s) (ha : a < n) :
    0 ≤ (step n D pen dense s a).2.obs.position ∧ (step n D pen dense s a).2.obs.position < n :=
  TSP.step_position_declared n D pen dense s a hf ha
theorem tsp_reset_position_outside_declared (n : Nat) (coords : List (List Rat)) :
    (reset n coords).2.obs.position = -1 := rfl

example : validDraw 3 [[0, 0], [1, 0], [1/2, 1]] := by decide +kernel
example : ObsInv 3 ⟨[[0, 0], [1, 0], [1, 1]], 1, [false, true, false], [1, -1, -1], 1⟩ := by decide +kernel

/-! #### full spec membership (structure, shapes, dtypes, bounds) — Env/TSP/Spec.lean

`obsSpec n` / `actionSpec n` are the model's `observation_spec` / `action_spec` of a `num_cities = n` environment (hand-written;
equal to the declared ones at the catalogue configurations: `tsp_obsSpec_generated`, Props/SpecTable.lean) as
values of the spec algebra (Spec/Spec.lean); `toNValue o` is the model observation as the four arrays the implementation
emits, every shape read off the value (the width of `coordinates` off its first row: see `tsp_obs_valid_only`);
`Nested.valid` is the transliteration of `validate`.
Not covered: the dtype tag of every leaf is written by `toNValue`, so a wrong dtype in the real code cannot falsify a
membership theorem; shapes, dtypes and field names of the real observations are compared with the real spec object through
`jax.eval_shape` (harness/envprops.py, C01), and `obsSpec` with the generated spec literals by `tsp_obsSpec_generated`
(Props/SpecTable.lean). -/

/-- the observation of every `step` with an action of the action spec (`a < n`, legal or not, terminal step included;
any distance matrix, penalty, reward function) from a state satisfying `SpecInv n` is accepted by
`observation_spec.validate`: coordinates `(n, 2)` float32 in [0, 1]; position `()` int32 in [0, n−1]; trajectory `(n,)`
int32 in [−1, n−1]; action_mask `(n,)` bool -/
theorem tsp_step_obs_valid (n : Nat) (D : Dist) (pen : Rat) (dense : Bool) (s : State) (a : Nat) (ha : a < n)
    (h : SpecInv n s) : (obsSpec n).valid (toNValue (step n D pen dense s a).2.obs) = true := by
  have hpos := step_position_declared n D pen dense s a h.1 ha
  rw [step_obs] at hpos ⊢
  exact obsOf_valid_with _ n (by omega) _ (step_specInv n D pen dense s a ha h)
    ((PzS.valid_discrete_int_iff n _ _ _ _ _).2 ⟨rfl, rfl, hpos⟩)

/-- `SpecInv n` (feasible partial tour over `n` cities of the unit square) is established by `reset` for every valid
draw, preserved by every in-spec step, hence holds in every state of every in-spec play from `reset` -/
theorem tsp_reset_specInv (n : Nat) (coords : List (List Rat)) (h : validDraw n coords) :
    SpecInv n (reset n coords).1 :=
  ⟨reset_feasible n coords, h.1, h.2⟩
theorem tsp_step_specInv (n : Nat) (D : Dist) (pen : Rat) (dense : Bool) (s : State) (a : Nat) (ha : a < n)
    (h : SpecInv n s) : SpecInv n (step n D pen dense s a).1 := TSP.step_specInv n D pen dense s a ha h
theorem tsp_obs_valid_along (n : Nat) (D : Dist) (pen : Rat) (dense : Bool) (coords : List (List Rat))
    (h : validDraw n coords) (as : List Nat) (hok : ∀ a ∈ as, a < n) (a : Nat) (ha : a < n) :
    (obsSpec n).valid (toNValue (step n D pen dense
      ((Ep.ofStep (fun s (a : Nat) => step n D pen dense s (a : Int)) (·.numVisited)).run (reset n coords).1 as) a).2.obs) =
      true :=
  Props.C01.tsp_step_obs_valid n D pen dense _ a ha
    (TSP.specInv_along n D pen dense _ as hok (Props.C01.tsp_reset_specInv n coords h))

/-- finding F5 as a theorem about the model (the real code agrees: known_findings.json F5): for EVERY `n` and EVERY
coordinates `observation_spec.validate` REJECTS the reset observation, because `position = −1` is outside
`DiscreteArray(num_cities)` … -/
theorem tsp_reset_obs_not_valid (n : Nat) (coords : List (List Rat)) :
    (obsSpec n).valid (toNValue (reset n coords).2.obs) = false :=
  TSP.obs_invalid_of_position n _ (by rw [tsp_reset_position_outside_declared]; omega)

/-- … and `position` is the ONLY offending leaf: the reset observation of every valid draw (every `n ≥ 1`; for `n = 0` the
shape of `coordinates` is read as `[0, 0]`, not the declared `[0, 2]`) is a member of the spec whose position leaf is `BoundedArray((), int32, −1, n−1)` (all other leaves as declared) -/
theorem tsp_reset_obs_valid_wide (n : Nat) (hn : 0 < n) (coords : List (List Rat)) (h : validDraw n coords) :
    (obsSpecWide n).valid (toNValue (reset n coords).2.obs) = true := by
  refine TSP.obsOf_valid_with _ n hn _ (Props.C01.tsp_reset_specInv n coords h) ?_
  refine (PzS.valid_scalar_bounded_iff ..).2 ⟨rfl, rfl, by simp [Sp.prod], ?_⟩
  intro x hx
  simp only [List.mem_cons, List.not_mem_nil, or_false] at hx
  subst hx
  show (-1 : Rat) ≤ ((-1 : Int) : Rat) ∧ ((-1 : Int) : Rat) ≤ (((n : Int) - 1 : Int) : Rat)
  exact ⟨by simp, Rat.intCast_le_intCast.mpr (by omega)⟩

/-- what membership means.  CAVEAT: `toNValue` reads the width of the nested list `coordinates` off its FIRST row, and
`validate` checks "row count, length of the first row, total number of cells" (`TSP.obs_valid_with_iff`); of these only the
row count is stated here — a ragged value with the right total can be a member, and nothing is concluded about the later rows.  Rectangularity (every row of
length 2) is part of the invariant `SpecInv` under which the forward theorems (`tsp_step_obs_valid`, `tsp_obs_valid_along`,
`tsp_reset_obs_valid_wide`) are proved, i.e. it holds of every EMITTED observation. -/
theorem tsp_obs_valid_only (n : Nat) (o : Obs) (h : (obsSpec n).valid (toNValue o) = true) :
    o.coords.length = n ∧ (∀ x ∈ o.coords.flatten, 0 ≤ x ∧ x ≤ 1) ∧ (0 ≤ o.position ∧ o.position < n) ∧
    o.trajectory.length = n ∧ (∀ c ∈ o.trajectory, -1 ≤ c ∧ c < n) ∧ o.mask.length = n := TSP.obs_valid_only n o h

/-- `action_spec.generate_value()` (= city 0) is a member of `action_spec` (every `n ≥ 1`) and is accepted by `step` in
every state of the invariant: the answer is a MID or LAST timestep whose observation is a member of `observation_spec`
(reward and discount: `tsp_step_reward_discount_in_spec`, Props/C01.lean) -/
theorem tsp_step_accepts_generate (n : Nat) (hn : 0 < n) (D : Dist) (pen : Rat) (dense : Bool) (s : State)
    (h : SpecInv n s) :
    (actionSpec n).generate = ⟨[], .int32, [0]⟩ ∧ (actionSpec n).valid (actionSpec n).generate = true ∧
    (obsSpec n).valid (toNValue (step n D pen dense s ((0 : Nat) : Int)).2.obs) = true ∧
    ((step n D pen dense s ((0 : Nat) : Int)).2.stepType = .mid ∨
     (step n D pen dense s ((0 : Nat) : Int)).2.stepType = .last) :=
  ⟨PzS.generate_discrete _ _ _, PzS.valid_generate_discrete _ _ _ hn rfl,
   Props.C01.tsp_step_obs_valid n D pen dense s 0 hn h, TSP.step_mid_or_last n D pen dense s _⟩

example : SpecInv 3 ⟨[[0, 0], [1, 0], [1, 1]], 1, [false, true, false], [1, -1, -1], 1⟩ := by decide +kernel
example : (obsSpec 3).valid (toNValue ⟨[[0, 0], [1, 0], [1, 1]], 1, [1, -1, -1], [true, false, true]⟩) = true ∧
    (obsSpec 3).valid (toNValue ⟨[[0, 0], [1, 0], [1, 1]], 3, [1, -1, -1], [true, false, true]⟩) = false ∧
    (obsSpec 3).valid (toNValue ⟨[[0, 0], [1, 0], [1, 1]], 1, [1, 3, -1], [true, false, true]⟩) = false ∧
    (obsSpec 3).valid (toNValue ⟨[[0, 0], [1, 0]], 1, [1, -1, -1], [true, false, true]⟩) = false := by decide +kernel
end Props.C01

namespace Props.C04
/-- the observed mask bit of city `a` is set exactly when `legal s a` — both are the negated `visited` bit, so this holds by
unfolding; that `visited` is the set of cities on the route (the documented rule) is a conjunct of `Feasible` -/
theorem tsp_mask_iff_legal (s : State) (a : Nat) : (obsOf s).mask.getD a false = true ↔ legal s a :=
  TSP.mask_iff_legal s a

/-- the environment's own validity test agrees with the rules -/
theorem tsp_step_agrees (s : State) (a : Nat) (ha : a < s.visited.length) :
    isValid s (a : Int) = true ↔ legal s a := TSP.isValid_iff_legal s a ha

/-- the same stated about `step` itself (`tsp_step_agrees` speaks of the auxiliary `isValid` only): a legal move is
carried out, an illegal one changes nothing and ends the episode (with the penalty: `tsp_illegal_terminates`, C05) — a
masked-in city (`tsp_mask_iff_legal`) is never treated as invalid, no legal city is refused -/
theorem tsp_step_agrees_step (n : Nat) (D : Dist) (pen : Rat) (dense : Bool) (s : State) (a : Nat) (hf : Feasible n s)
    (ha : a < n) :
    (legal s a → (step n D pen dense s a).1 = visit s a) ∧
    (¬ legal s a → (step n D pen dense s a).1 = s ∧ (step n D pen dense s a).2.stepType = .last) ∧
    (legal s a ↔ (step n D pen dense s a).1.numVisited = s.numVisited + 1) :=
  TSP.step_agrees_step n D pen dense s a hf ha

example : legal ⟨[[0, 0], [1, 0], [1, 1]], 1, [false, true, false], [1, -1, -1], 1⟩ 2 := by decide
example : ¬ legal ⟨[[0, 0], [1, 0], [1, 1]], 1, [false, true, false], [1, -1, -1], 1⟩ 1 := by decide
end Props.C04

namespace Props.C05
/-- revisiting a city (while cities remain) ends the episode with the penalty, zero discount, and leaves
the state untouched — for both reward functions -/
theorem tsp_illegal_terminates (n : Nat) (D : Dist) (pen : Rat) (dense : Bool) (s : State) (a : Nat)
    (hf : Feasible n s) (hrun : s.numVisited < n) (ha : a < n) (hl : ¬ legal s a) :
    (step n D pen dense s a).1 = s ∧ (step n D pen dense s a).2.stepType = .last ∧
    (step n D pen dense s a).2.reward = [pen] ∧ (step n D pen dense s a).2.discount = [0] := by
  rw [TSP.step_illegal n D pen dense s a hf hrun ha hl]
  exact ⟨rfl, rfl, rfl, rfl⟩

example : Feasible 3 ⟨[[0, 0], [1, 0], [1, 1]], 1, [false, true, false], [1, -1, -1], 1⟩ := by decide
end Props.C05

namespace Props.C06
theorem tsp_reset_feasible (n : Nat) (coords : List (List Rat)) : Feasible n (reset n coords).1 :=
  TSP.reset_feasible n coords

/-- visiting an unvisited city keeps the partial tour feasible: no city twice, visited mask = set of the
route, rest of the trajectory unfilled, position = last city, counter = route length -/
theorem tsp_step_feasible (n : Nat) (D : Dist) (pen : Rat) (dense : Bool) (s : State) (a : Nat)
    (hf : Feasible n s) (hl : legal s a) : Feasible n (step n D pen dense s a).1 :=
  TSP.step_feasible n D pen dense s a hf hl

/-- an accepted move whose timestep is LAST leaves a complete tour (`IsSolution`: feasible, so no city twice, with
`num_visited = n`; that the route then covers every city follows by counting and is not stated) -/
theorem tsp_complete_is_solution (n : Nat) (D : Dist) (pen : Rat) (dense : Bool) (s : State) (a : Nat)
    (hf : Feasible n s) (hl : legal s a) (hlast : (step n D pen dense s a).2.stepType = .last) :
    IsSolution n (step n D pen dense s a).1 :=
  TSP.complete_is_solution n D pen dense s a hf hl hlast
/-- whole episodes: from ANY feasible state, along ANY sequence of cities each of which is legal when its turn
comes, the state after every prefix is feasible — in particular no city is on the route twice -/
theorem tsp_feasible_along_from (n : Nat) (D : Dist) (pen : Rat) (dense : Bool) (s : State) (as : List Nat)
    (hf : Feasible n s) (hal : AllLegal n D pen dense s as) (k : Nat) :
    Feasible n (play n D pen dense s (as.take k)).1 := TSP.feasible_along n D pen dense s as hf hal k

/-- whole episodes from ANY generated instance (any `n`, any draw `u` of the generator — no condition on the
coordinates is needed), along ANY mask-respecting sequence (`AllMasked`: each city has its bit set in the action
mask of the observation current at its turn): after every prefix the state is feasible, no city has been served
twice, and exactly as many cities are served as moves were made -/
theorem tsp_feasible_along (n : Nat) (D : Dist) (pen : Rat) (dense : Bool) (u : List (List Rat)) (as : List Nat)
    (hm : AllMasked n D pen dense (generate n u) as) (k : Nat) :
    Feasible n (play n D pen dense (generate n u) (as.take k)).1 ∧
    (route (play n D pen dense (generate n u) (as.take k)).1).Nodup ∧
    (play n D pen dense (generate n u) (as.take k)).1.numVisited = (as.take k).length := by
  have hal := (TSP.allMasked_iff n D pen dense as _).1 hm
  have hf0 : Feasible n (generate n u) := TSP.reset_feasible n u
  have hf := TSP.feasible_along n D pen dense _ as hf0 hal k
  refine ⟨hf, hf.nodup, ?_⟩
  rw [TSP.play_numVisited n D pen dense _ _ hf0 (TSP.allLegal_take n D pen dense as _ k hal)]
  simp [generate]

theorem tsp_allMasked_iff_allLegal (n : Nat) (D : Dist) (pen : Rat) (dense : Bool) (s : State) (as : List Nat) :
    AllMasked n D pen dense s as ↔ AllLegal n D pen dense s as := TSP.allMasked_iff n D pen dense as s

/-- whole episodes, completion: a mask-respecting episode of `n` moves from ANY generated instance ends in a complete
tour — feasible, and every one of the `n` cities visited exactly once -/
theorem tsp_episode_complete_is_solution (n : Nat) (D : Dist) (pen : Rat) (dense : Bool) (u : List (List Rat))
    (as : List Nat) (hm : AllMasked n D pen dense (generate n u) as) (hlen : as.length = n) :
    IsSolution n (play n D pen dense (generate n u) as).1 := by
  have hal := (TSP.allMasked_iff n D pen dense as _).1 hm
  have hf0 : Feasible n (generate n u) := TSP.reset_feasible n u
  have hf := TSP.feasible_along n D pen dense _ as hf0 hal as.length
  rw [List.take_length] at hf
  refine ⟨hf, ?_⟩
  rw [TSP.play_numVisited n D pen dense _ _ hf0 hal]
  simp [generate, hlen]

-- a mask-respecting complete episode on a generated 3-city instance
example : AllMasked 3 [[0, 1, 2], [1, 0, 1], [2, 1, 0]] (-5) true (generate 3 [[0, 0], [1/2, 0], [3/4, 0]]) [1, 0, 2] := by
  simp only [AllMasked]; decide +kernel
end Props.C06

namespace Props.C08
/-- dense reward of an accepted move = minus the increase of the distance travelled (closing leg included
when the tour completes) -/
theorem tsp_dense_telescopes (n : Nat) (D : Dist) (pen : Rat) (s : State) (a : Nat) (hn : 2 ≤ n)
    (hf : Feasible n s) (hl : legal s a) :
    (step n D pen true s a).2.reward = [travelled n D s - travelled n D (step n D pen true s a).1] :=
  TSP.dense_telescopes_all n D pen s a (wrapOK_of_two_le n D hn) hf hl

/-- sparse reward of an accepted move: 0 until the tour is complete, then minus the closed tour length -/
theorem tsp_sparse_reward (n : Nat) (D : Dist) (pen : Rat) (s : State) (a : Nat)
    (hf : Feasible n s) (hl : legal s a) :
    (step n D pen false s a).2.reward =
      [if (step n D pen false s a).1.numVisited = (n : Int)
       then -(tourLen D (step n D pen false s a).1.trajectory) else 0] :=
  TSP.sparse_reward n D pen s a hf.visited_length hl

/-- `compute_tour_length` (gather, roll, sum) is the length of the closed tour -/
theorem tsp_tourLength_eq (D : Dist) (l : List Int) : tourLength D l = tourLen D l := TSP.tourLength_eq D l

/-- whole episodes, dense: the return along legal moves telescopes -/
theorem tsp_dense_return (n : Nat) (D : Dist) (pen : Rat) (hn : 2 ≤ n) (as : List Nat) (s : State)
    (hf : Feasible n s) (hal : AllLegal n D pen true s as) :
    (play n D pen true s as).2 = travelled n D s - travelled n D (play n D pen true s as).1 ∧
    Feasible n (play n D pen true s as).1 := TSP.dense_return n D pen hn as s hf hal

/-- whole episodes: on every complete legal episode from a fresh state the dense return equals the
objective −(closed tour length of the final trajectory), and the sparse return equals the dense return -/
theorem tsp_dense_eq_sparse (n : Nat) (D : Dist) (pen : Rat) (hn : 2 ≤ n) (coords : List (List Rat))
    (as : List Nat) (hal : AllLegal n D pen true (reset n coords).1 as)
    (hc : (play n D pen true (reset n coords).1 as).1.numVisited = (n : Int)) :
    (play n D pen true (reset n coords).1 as).2 = objective D (play n D pen true (reset n coords).1 as).1 ∧
    (play n D pen false (reset n coords).1 as).2 = (play n D pen true (reset n coords).1 as).2 :=
  TSP.dense_eq_sparse n D pen hn coords as hal hc

-- the hypotheses are satisfiable: a complete legal episode on 3 cities
example : AllLegal 3 [[0, 1, 2], [1, 0, 1], [2, 1, 0]] (-5) true (reset 3 [[0, 0], [1, 0], [2, 0]]).1 [1, 0, 2] := by
  decide +kernel
example : (play 3 [[0, 1, 2], [1, 0, 1], [2, 1, 0]] (-5) true (reset 3 [[0, 0], [1, 0], [2, 0]]).1 [1, 0, 2]).2 = -4 := by
  decide +kernel

/-! #### the dense return for every `n`, `n = 1` included (the statements above carry `2 ≤ n`)

`WrapOK n D` := `n = 1 → dist D 0 (−1) = dist D 0 0`: for a single city the closing leg of `DenseReward` gathers
`coordinates[trajectory[0]]` with the stale `trajectory[0] = −1`; JAX wraps `−1` to city `n − 1 = 0`, so every
table with `n` columns (`tsp_wrapOK_of_rows`, in particular `DistOK n D`) satisfies it.  No condition for `n ≠ 1`. -/

theorem tsp_wrapOK_of_rows (n : Nat) (D : Dist) (h : ∀ row ∈ D, row.length = n) : WrapOK n D := by
  intro hn
  subst hn
  unfold dist Jx.Grid.getWC
  cases D with
  | nil => simp [Jx.getWC]
  | cons r rs =>
    have hr : (Jx.getWC (r :: rs) [] 0).length = 1 := by
      apply h
      unfold Jx.getWC
      have : Jx.clampIdx (r :: rs).length 0 < (r :: rs).length := Jx.clampIdx_lt (by simp) 0
      rw [List.getD_eq_getElem?_getD, List.getElem?_eq_getElem this]
      exact List.getElem_mem this
    generalize Jx.getWC (r :: rs) [] 0 = row at hr
    unfold Jx.getWC
    rw [hr]
    rfl
theorem tsp_wrapOK_of_distOK (n : Nat) (D : Dist) (h : DistOK n D) : WrapOK n D :=
  tsp_wrapOK_of_rows n D h.2.1

/-- exact behaviour of the single-city instance, ANY table `D`: the one legal move ends the episode and is
rewarded `−dist(city 0, city gathered by index −1)` (dense) resp. `−dist(city 0, city 0)` (sparse) -/
theorem tsp_n1_exact (D : Dist) (pen : Rat) (s : State) (a : Nat) (hf : Feasible 1 s) (hl : legal s a) :
    (step 1 D pen true s a).2.reward = [-(dist D 0 (-1))] ∧ (step 1 D pen false s a).2.reward = [-(dist D 0 0)] ∧
    (step 1 D pen true s a).2.stepType = .last ∧ (step 1 D pen true s a).1.numVisited = 1 := by
  have h0 : s.numVisited = 0 := by have := TSP.legal_lt 1 s a hf.visited_length hf.count hl; have := hf.numVisited_nonneg; omega
  have ha : a = 0 := by have := hl.1; have := hf.visited_length; omega
  subst ha
  have hv : (visit s 0).numVisited = ((1 : Nat) : Int) := by show s.numVisited + 1 = 1; omega
  have hnv : ∀ d, (step 1 D pen d s (0 : Nat)).1.numVisited = ((1 : Nat) : Int) := fun d => by
    rw [TSP.step_fst_legal 1 D pen d s 0 hf hl]; exact hv
  refine ⟨?_, ?_, (TSP.step_last_iff 1 D pen true s _).2 (Or.inl (hnv true)), hnv true⟩
  · have hvf := TSP.visit_feasible 1 s 0 hf hl
    have hall := TSP.visited_all_iff 1 _ hvf.visited_length hvf.count
    have hhead := TSP.trajectory_head 1 s hf
    rw [(TSP.route_eq_nil 1 s hf).2 h0] at hhead
    rw [TSP.step_reward, TSP.step_fst_legal 1 D pen true s 0 hf hl, TSP.isValid_of_legal hl]
    simp only [reward, denseReward, if_true, hall, hv, decide_true, h0, beq_self_eq_true, hhead, List.headD_nil]
    show [0 - dist D 0 (-1)] = _
    rw [Rat.sub_eq_add_neg, Rat.zero_add]
  · rw [TSP.sparse_reward 1 D pen s 0 hf.visited_length hl, if_pos (hnv false), TSP.step_fst_legal 1 D pen false s 0 hf hl]
    have hlen := hf.trajectory_length
    match ht : s.trajectory, hlen with
    | [c], _ =>
      show [-(tourLen D (s.trajectory.set s.numVisited.toNat ((0 : Nat) : Int)))] = _
      rw [ht, h0]
      show [-(0 + dist D 0 0)] = _
      rw [Rat.zero_add]

/-- `tsp_dense_telescopes` for every `n` -/
theorem tsp_dense_telescopes_all (n : Nat) (D : Dist) (pen : Rat) (s : State) (a : Nat) (hw : WrapOK n D)
    (hf : Feasible n s) (hl : legal s a) :
    (step n D pen true s a).2.reward = [travelled n D s - travelled n D (step n D pen true s a).1] :=
  TSP.dense_telescopes_all n D pen s a hw hf hl

/-- `tsp_dense_return` for every `n` -/
theorem tsp_dense_return_all (n : Nat) (D : Dist) (pen : Rat) (hw : WrapOK n D) (as : List Nat) (s : State)
    (hf : Feasible n s) (hal : AllLegal n D pen true s as) :
    (play n D pen true s as).2 = travelled n D s - travelled n D (play n D pen true s as).1 ∧
    Feasible n (play n D pen true s as).1 := TSP.dense_return_all n D pen hw as s hf hal

/-- `tsp_dense_eq_sparse` for every `n` (`n = 0`: only the empty episode; `n = 1`: the one-move episode) -/
theorem tsp_dense_eq_sparse_all (n : Nat) (D : Dist) (pen : Rat) (hw : WrapOK n D) (coords : List (List Rat))
    (as : List Nat) (hal : AllLegal n D pen true (reset n coords).1 as)
    (hc : (play n D pen true (reset n coords).1 as).1.numVisited = (n : Int)) :
    (play n D pen true (reset n coords).1 as).2 = objective D (play n D pen true (reset n coords).1 as).1 ∧
    (play n D pen false (reset n coords).1 as).2 = (play n D pen true (reset n coords).1 as).2 :=
  TSP.dense_eq_sparse_all n D pen hw coords as hal hc

/-- the hypothesis `WrapOK` cannot be dropped: on the malformed 1 × 2 table `[[0, 5]]` the single move is rewarded
`−5` while nothing is travelled (model-level: the code's table always has `n` columns) -/
theorem tsp_n1_needs_shape :
    Feasible 1 (reset 1 [[0, 0]]).1 ∧ legal (reset 1 [[0, 0]]).1 0 ∧
    (step 1 [[0, 5]] (-2) true (reset 1 [[0, 0]]).1 0).2.reward = [-5] ∧
    travelled 1 [[0, 5]] (reset 1 [[0, 0]]).1 -
      travelled 1 [[0, 5]] (step 1 [[0, 5]] (-2) true (reset 1 [[0, 0]]).1 0).1 = 0 := by decide +kernel

-- the hypotheses are satisfiable for n = 1: the complete one-move episode, return −D[0][0] = 0
example : WrapOK 1 [[0]] ∧ AllLegal 1 [[0]] (-2) true (reset 1 [[1/2, 1/2]]).1 [0] ∧
    (play 1 [[0]] (-2) true (reset 1 [[1/2, 1/2]]).1 [0]).1.numVisited = 1 := by decide +kernel
end Props.C08

namespace Props.C09
/-- refinement: on every feasible state with cities left and for every action of the action space, the
transliterated `step` (L1, with its gathers `coordinates[position]`, `trajectory[0]`, the stale-state
reads of `DenseReward` and `compute_tour_length`) equals the directly written rules `stepSpec` (L2):
successor state, reward, discount, step type and observation, for both reward functions; every `n` (`WrapOK` matters
for `n = 1` only, see C08) -/
theorem tsp_step_eq_spec_all (n : Nat) (D : Dist) (pen : Rat) (dense : Bool) (s : State) (a : Nat)
    (hw : WrapOK n D) (hf : Feasible n s) (hrun : s.numVisited < n) (ha : a < n) :
    step n D pen dense s (a : Int) = stepSpec n D pen dense s a := by
  unfold stepSpec
  by_cases hl : legal s a
  · have hs' := step_fst_legal n D pen dense s a hf hl
    have hr : (step n D pen dense s a).2.reward =
        [if dense then travelled n D s - travelled n D (step n D pen dense s a).1
         else if (step n D pen dense s a).1.numVisited = (n : Int)
           then -(tourLen D (step n D pen dense s a).1.trajectory) else 0] := by
      cases dense
      · exact sparse_reward n D pen s a hf.visited_length hl
      · exact dense_telescopes_all n D pen s a hw hf hl
    refine Prod.ext (by rw [hs', if_pos hl]) ?_
    rw [step_snd, ← step_reward, hr, hs', isValid_of_legal hl, obsOf_eq_observe _ (visit_feasible n s a hf hl).position, if_pos hl]
    simp only [condLast, Bool.not_true, Bool.or_false, beq_iff_eq]
  · rw [if_neg hl, step_illegal n D pen dense s a hf hrun ha hl, obsOf_eq_observe s hf.position]

/-- the same with `2 ≤ n` in place of `WrapOK` -/
theorem tsp_step_eq_spec (n : Nat) (D : Dist) (pen : Rat) (dense : Bool) (s : State) (a : Nat) (hn : 2 ≤ n)
    (hf : Feasible n s) (hrun : s.numVisited < n) (ha : a < n) :
    step n D pen dense s (a : Int) = stepSpec n D pen dense s a :=
  tsp_step_eq_spec_all n D pen dense s a (wrapOK_of_two_le n D hn) hf hrun ha
end Props.C09

namespace Props.C10
/-- `UniformGenerator`, transliterated with its draw as parameter (`generate n u`, `u` = the array
`jax.random.uniform` returned): for EVERY `n` and EVERY valid draw (`n` rows of 2 numbers with `0 ≤ x < 1`) the
generated state satisfies the certificate `GenCert`: `n` rows of 2 coordinates in `[0, 1)`, nothing visited,
position −1, trajectory all −1, `num_visited` 0.  `tsp.instance` evaluates `GenCert` on the implementation's reset
states (key `generate_cert`). -/
theorem tsp_generate_cert (n : Nat) (u : List (List Rat)) (h : validUniform n u) : GenCert n (generate n u) :=
  ⟨h.1, h.2, rfl, rfl, rfl, rfl⟩

/-- `reset` returns the generated state unchanged -/
theorem tsp_reset_eq_generate (n : Nat) (u : List (List Rat)) : (reset n u).1 = generate n u := rfl

/-- certificate ⇒ advertised invariants: the state IS `generate n` of a valid draw; its coordinates lie in the
declared box; it is the documented fresh state (`InstanceOK`) and a feasible empty tour -/
theorem tsp_cert_sound (n : Nat) (s : State) (h : GenCert n s) :
    s = generate n s.coords ∧ validUniform n s.coords ∧ validDraw n s.coords ∧ InstanceOK n s ∧ Feasible n s := by
  have hbox : ∀ p ∈ s.coords, p.length = 2 ∧ ∀ x ∈ p, 0 ≤ x ∧ x ≤ 1 := fun p hp =>
    ⟨(h.2.1 p hp).1, fun x hx => ⟨((h.2.1 p hp).2 x hx).1, Rat.le_of_lt ((h.2.1 p hp).2 x hx).2⟩⟩
  refine ⟨TSP.cert_eq_generate n s h, ⟨h.1, h.2.1⟩, ⟨h.1, hbox⟩,
    ⟨h.1, hbox, h.2.2.1, h.2.2.2.2.1, h.2.2.2.2.2, h.2.2.2.1⟩, ?_⟩
  rw [TSP.cert_eq_generate n s h]; exact TSP.reset_feasible n _

example : validUniform 3 [[0, 0], [1/2, 0], [3/4, 999/1000]] := by decide +kernel
/-- the bound is strict: a coordinate equal to 1 is not a valid draw -/
example : ¬ validUniform 1 [[0, 1]] := by decide +kernel
end Props.C10

namespace Props.C11
/-- a step that does not end the episode visits one more city and leaves cities to visit (the episode bound drawn from
this and `0 ≤ num_visited ≤ n` is `tsp_ends_within_horizon`) -/
theorem tsp_progress (n : Nat) (D : Dist) (pen : Rat) (dense : Bool) (s : State) (a : Int)
    (hnl : (step n D pen dense s a).2.stepType ≠ .last) :
    (step n D pen dense s a).1.numVisited = s.numVisited + 1 ∧
    (step n D pen dense s a).1.numVisited ≠ n := TSP.progress n D pen dense s a hnl

/-- whole episodes (`tsp_progress` is a single step): from EVERY reset state (any `n ≥ 1`, any coordinates), EVERY
list of at least `n` actions of the action spec (`a < n`) — legal or not — contains a LAST timestep, and the first one has
(1-based) index ≤ `n`: no episode outlasts the structural horizon `num_cities`.  `Ep.rollout` iterates the L1 `step`,
`Ep.firstLastTS` is what harness/props/c11.py measures (Core/Episode.lean). -/
theorem tsp_ends_within_horizon (n : Nat) (hn : 0 < n) (D : Dist) (pen : Rat) (dense : Bool) (coords : List (List Rat))
    (as : List Nat) (hok : ∀ a ∈ as, a < n) (hlen : n ≤ as.length) :
    ∃ k, Ep.firstLastTS ((Ep.rollout (fun s (a : Nat) => step n D pen dense s (a : Int)) (reset n coords).1 as).map
      (·.2)) = some k ∧ 0 < k ∧ k ≤ n := by
  have hp : TSP.pot n (reset n coords).1 + 1 = n := by simp only [TSP.pot, reset]; omega
  obtain ⟨k, hk, h1, h2⟩ :=
    (TSP.bounded n D pen dense).rollout_ends _ (TSP.reset_feasible n coords) as hok (by omega)
  exact ⟨k, hk, h1, by omega⟩

/-- the horizon is attained (a legal tour of 3 cities ends at step 3) and undercut by an illegal move (step 2) -/
example : Ep.firstLastTS ((Ep.rollout (fun s (a : Nat) => step 3 [[0, 1, 2], [1, 0, 1], [2, 1, 0]] (-5) true s (a : Int))
      (reset 3 [[0, 0], [1, 0], [2, 0]]).1 [1, 0, 2]).map (·.2)) = some 3 ∧
    Ep.firstLastTS ((Ep.rollout (fun s (a : Nat) => step 3 [[0, 1, 2], [1, 0, 1], [2, 1, 0]] (-5) true s (a : Int))
      (reset 3 [[0, 0], [1, 0], [2, 0]]).1 [1, 1, 2]).map (·.2)) = some 2 := by decide +kernel
end Props.C11

namespace Props.C12
/-- the observation returned by `step` is the documented view of the new state: coordinates, last visited
city (read off the route), trajectory, and as mask exactly the unvisited cities -/
theorem tsp_obs_faithful (n : Nat) (D : Dist) (pen : Rat) (dense : Bool) (s : State) (a : Nat)
    (hf : Feasible n s) (ha : a < n) :
    (step n D pen dense s a).2.obs = observe (step n D pen dense s a).1 :=
  TSP.obs_faithful n D pen dense s a hf ha

/-- the same for `reset` (position −1 = "no city yet", the known out-of-spec value) -/
theorem tsp_reset_obs_faithful (n : Nat) (coords : List (List Rat)) :
    (reset n coords).2.obs = observe (reset n coords).1 :=
  TSP.obsOf_eq_observe _ (TSP.reset_feasible n coords).position
end Props.C12
