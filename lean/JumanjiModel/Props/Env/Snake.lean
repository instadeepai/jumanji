/-
Property theorems for Snake (lemmas in Env/Snake/*.lean; a proof that serves one theorem only stands under it).  All theorems hold
for every board size `cfg.rows × cfg.cols` (square or not); what is asked of the state, of the action (`a < 4`, `legal`) and of the
fruit draw `d` (`validDraw`, `okStep`) is a hypothesis of the theorem; `rnd` is the float32 rounding of the `norm_body_state` division.
-/
import JumanjiModel.Env.Snake.Lemmas
import JumanjiModel.Env.Snake.BoundsLemmas
import JumanjiModel.Env.Snake.EpisodeLemmas
import JumanjiModel.Prim.Float
import JumanjiModel.Prim.FloatLemmas
import JumanjiModel.Env.Snake.RunLemmas
import JumanjiModel.Env.Snake.SpecValid
open Jm Jx Snake

namespace Props.C04
/-- `_get_action_mask` marks a direction exactly when the rules allow the move: the target cell is on
the board and is empty or the current tail cell -/
theorem snake_mask_iff_legal (cfg : Cfg) (s : State) (a : Nat) (ha : a < 4)
    (hs : Grid.shaped s.bodyState cfg.rows cfg.cols = true) :
    (getActionMask cfg s.head s.bodyState).getD a false = true ↔ legal cfg s a :=
  Snake.mask_iff_legal cfg s a ha hs

/-- the mask cached in the successor state (and shown in the observation) is the set of legal moves of
the successor state — it is never stale -/
theorem snake_cached_mask (rnd : Rat → Rat) (cfg : Cfg) (s : State) (a : Int) (d : Nat)
    (hs : Grid.shaped s.bodyState cfg.rows cfg.cols = true) :
    (step rnd cfg s a d).1.actionMask = legalMask cfg (step rnd cfg s a d).1 :=
  Snake.step_mask_legal rnd cfg s a d hs

/-- `step` agrees with the rules about validity (stated about `step`): with a correct cached mask, a step
that neither fills the board nor reaches the time limit ends the episode exactly when the rules forbid the move -/
theorem snake_step_agrees (rnd : Rat → Rat) (cfg : Cfg) (s : State) (a : Nat) (d : Nat) (ha : a < 4)
    (hm : s.actionMask = legalMask cfg s) (hnc : Grid.all id (step rnd cfg s a d).1.body = false)
    (hbl : s.stepCount + 1 < cfg.timeLimit) :
    (step rnd cfg s a d).2.stepType = .last ↔ ¬ legal cfg s a :=
  Snake.step_agrees_step rnd cfg s a d ha hm hnc hbl

-- 2×3 board after reset at (0,0), fruit at (1,2): Right is legal and MID, Up (off the board) is LAST
example : (step id ⟨2, 3, 10⟩ (reset id ⟨2, 3, 10⟩ 0 0 5).1 1 0).2.stepType = .mid ∧
    (step id ⟨2, 3, 10⟩ (reset id ⟨2, 3, 10⟩ 0 0 5).1 0 0).2.stepType = .last ∧
    (reset id ⟨2, 3, 10⟩ 0 0 5).1.actionMask = legalMask ⟨2, 3, 10⟩ (reset id ⟨2, 3, 10⟩ 0 0 5).1 := by decide +kernel

-- two 2×3 boards with a bent snake of length 3: on the first Up onto an empty cell is legal, on the second Left (off the board) is not
example : legal ⟨2, 3, 10⟩ ⟨[], [[1, 0, 0], [2, 3, 0]], ⟨1, 1⟩, [], ⟨0, 2⟩, 3, 0, []⟩ 0 ∧
          ¬ legal ⟨2, 3, 10⟩ ⟨[], [[0, 1, 0], [3, 2, 0]], ⟨1, 0⟩, [], ⟨0, 2⟩, 3, 0, []⟩ 3 := by decide
end Props.C04

namespace Props.C05
/-- an illegal move ends the episode (LAST, discount 0); with the fruit on a free cell of the board the
reward of that step is 0.  (The documents do not promise an untouched state: the head is still moved.) -/
theorem snake_illegal_terminates (rnd : Rat → Rat) (cfg : Cfg) (s : State) (a : Nat) (d : Nat) (ha : a < 4)
    (hm : s.actionMask = legalMask cfg s) (h : ¬ legal cfg s a) :
    (step rnd cfg s a d).2.stepType = .last ∧ (step rnd cfg s a d).2.discount = [0] ∧
    (inGrid cfg s.fruit.row s.fruit.col → cell s.bodyState s.fruit.row s.fruit.col = 0 →
      (step rnd cfg s a d).2.reward = [0]) := Snake.illegal_terminates rnd cfg s a d ha hm h
end Props.C05

namespace Props.C07
/-- the reset state (any head cell of the board, any admissible fruit draw) is consistent, has length 1
and step count 0 -/
theorem snake_reset_consistent (rnd : Rat → Rat) (cfg : Cfg) (hr hc : Nat) (d : Nat)
    (h1 : hr < cfg.rows) (h2 : hc < cfg.cols) (hd : validDraw cfg (reset rnd cfg hr hc d).1.body d) :
    Consistent cfg (reset rnd cfg hr hc d).1 ∧ (reset rnd cfg hr hc d).1.length = 1 ∧
      (reset rnd cfg hr hc d).1.stepCount = 0 := Snake.reset_consistent rnd cfg hr hc d h1 h2 hd

/-- a legal move from a consistent state (body_state numbers a chain of 4-adjacent cells 1..length with
the head at `length`, derived fields agree, fruit on a free cell, cached mask correct) whose board is not
full leads to a consistent state, for every admissible fruit draw -/
theorem snake_step_consistent (rnd : Rat → Rat) (cfg : Cfg) (s : State) (a : Nat) (d : Nat)
    (hc : Consistent cfg s) (hl : legal cfg s a) (hnf : Grid.all id s.body = false)
    (hd : validDraw cfg (step rnd cfg s a d).1.body d) :
    Consistent cfg (step rnd cfg s a d).1 := Snake.step_consistent rnd cfg s a d hc hl hnf hd

/-- inductive form: "consistent and board not full" is preserved by every step that does not end the
episode, whatever action 0..3 is played -/
theorem snake_step_consistent_mid (rnd : Rat → Rat) (cfg : Cfg) (s : State) (a : Nat) (d : Nat) (ha : a < 4)
    (hc : Consistent cfg s) (hnf : Grid.all id s.body = false)
    (hd : validDraw cfg (step rnd cfg s a d).1.body d)
    (hmid : (step rnd cfg s a d).2.stepType ≠ .last) :
    Consistent cfg (step rnd cfg s a d).1 ∧ Grid.all id (step rnd cfg s a d).1.body = false :=
  have h := Snake.step_runInv rnd cfg s a d ha ⟨hc, (Snake.not_full_iff_length cfg s hc).1 hnf⟩ (fun _ => hd) hmid
  ⟨h.1, (Snake.not_full_iff_length cfg _ h.1).2 h.2⟩

/-- conserved structure: the chain of the successor is the chain of the state with the new head cell
appended and the tail cell dropped unless the fruit is eaten (so the length grows by the fruit eaten) -/
theorem snake_chain_grows (rnd : Rat → Rat) (cfg : Cfg) (s : State) (a : Nat) (d : Nat) (cs : List (Nat × Nat))
    (hc : Chain cfg s cs) (hl : legal cfg s a)
    (hfree : eats s a = true → cell s.bodyState s.fruit.row s.fruit.col = 0) :
    Chain cfg (step rnd cfg s a d).1 (grow cs (eats s a) ((target s a).1.toNat, (target s a).2.toNat)) :=
  Snake.step_chain rnd cfg s a d cs hc hl hfree

/-- the `conserved` relation the driver evaluates on implementation transitions (successor chain = grown
chain, length grows by the fruit eaten) holds for every legal move from a consistent, not full state -/
theorem snake_conserved (rnd : Rat → Rat) (cfg : Cfg) (s : State) (a : Nat) (d : Nat)
    (hc : Consistent cfg s) (hnf : Grid.all id s.body = false) (hl : legal cfg s a) :
    growsFrom cfg s (step rnd cfg s a d).1 = true :=
  hc.1.elim fun cs hch => Snake.growsFrom_of_chain rnd cfg s a d cs hch hl fun _ => hc.2.fruit_free hnf

/-- the predicate the driver evaluates on implementation states is exactly `Consistent` (the chain
encoded by `body_state` is unique, and it is the one the check reads off) -/
theorem snake_consistentB_iff (cfg : Cfg) (s : State) : consistentB cfg s = true ↔ Consistent cfg s := by
  constructor
  · exact consistentB_sound cfg s
  · rintro ⟨⟨cs, hc⟩, hd⟩
    unfold consistentB
    simp only [Bool.and_eq_true, decide_eq_true_eq]
    exact ⟨by rw [chain_unique cfg s cs hc]; exact hc, hd⟩

example : consistentB ⟨2, 3, 10⟩
    ⟨[[true, false, false], [true, true, false]], [[1, 0, 0], [2, 3, 0]], ⟨1, 1⟩,
     [[true, false, false], [false, false, false]], ⟨0, 2⟩, 3, 4, [true, true, false, false]⟩ = true := by decide

/-- pigeonhole over the chain: a consistent snake with fewer cells than the board does not fill the board
(the chain has `length` cells, the board `rows * cols` distinct cells, a cell outside the chain carries 0) -/
theorem snake_not_full_of_length (cfg : Cfg) (s : State) (hc : Consistent cfg s)
    (hlen : s.length < ((cfg.rows * cfg.cols : Nat) : Int)) : Grid.all id s.body = false :=
  (Snake.not_full_iff_length cfg s hc).2 hlen

/-- and conversely (the chain cells are pairwise distinct cells of the board): for consistent states
"board not full" (`jnp.all(body)` false, the implementation's completion test) ⇔ `length < rows * cols` -/
theorem snake_not_full_iff_length (cfg : Cfg) (s : State) (hc : Consistent cfg s) :
    Grid.all id s.body = false ↔ s.length < ((cfg.rows * cfg.cols : Nat) : Int) :=
  Snake.not_full_iff_length cfg s hc

/-- `snake_step_consistent` with the hypothesis "board not full" replaced by `length < rows * cols`:
a legal move from a consistent state shorter than the board leads to a consistent state, for every
admissible fruit draw -/
theorem snake_step_consistent_of_length (rnd : Rat → Rat) (cfg : Cfg) (s : State) (a : Nat) (d : Nat)
    (hc : Consistent cfg s) (hl : legal cfg s a) (hlen : s.length < ((cfg.rows * cfg.cols : Nat) : Int))
    (hd : validDraw cfg (step rnd cfg s a d).1.body d) :
    Consistent cfg (step rnd cfg s a d).1 :=
  Snake.step_consistent rnd cfg s a d hc hl ((Snake.not_full_iff_length cfg s hc).2 hlen) hd

/-- inductive form: "consistent and shorter than the board" is preserved by every step that does not end
the episode, whatever action 0..3 is played (it holds after reset on every board with more than one cell) -/
theorem snake_step_consistent_mid_of_length (rnd : Rat → Rat) (cfg : Cfg) (s : State) (a : Nat) (d : Nat)
    (ha : a < 4) (hc : Consistent cfg s) (hlen : s.length < ((cfg.rows * cfg.cols : Nat) : Int))
    (hd : validDraw cfg (step rnd cfg s a d).1.body d)
    (hmid : (step rnd cfg s a d).2.stepType ≠ .last) :
    Consistent cfg (step rnd cfg s a d).1 ∧
      (step rnd cfg s a d).1.length < ((cfg.rows * cfg.cols : Nat) : Int) :=
  Snake.step_runInv rnd cfg s a d ha ⟨hc, hlen⟩ (fun _ => hd) hmid

/-- base case of that invariant: after reset the length is 1, below the board size on every board with
more than one cell -/
theorem snake_reset_length_lt (rnd : Rat → Rat) (cfg : Cfg) (hr hc d : Nat) (h : 1 < cfg.rows * cfg.cols) :
    (reset rnd cfg hr hc d).1.length < ((cfg.rows * cfg.cols : Nat) : Int) := by
  rw [Snake.reset_length]; omega

-- the hypotheses are satisfiable: 2×3 board, snake of length 3, Right (onto an empty cell) is legal, draw 0 admissible
example :
    let cfg : Cfg := ⟨2, 3, 10⟩
    let s : State := ⟨[[true, false, false], [true, true, false]], [[1, 0, 0], [2, 3, 0]], ⟨1, 1⟩,
      [[true, false, false], [false, false, false]], ⟨0, 2⟩, 3, 4, [true, true, false, false]⟩
    Consistent cfg s ∧ legal cfg s 1 ∧ s.length < ((cfg.rows * cfg.cols : Nat) : Int) ∧
      validDraw cfg (step id cfg s 1 0).1.body 0 ∧ (step id cfg s 1 0).2.stepType ≠ .last :=
  ⟨(snake_consistentB_iff _ _).1 (by decide), by decide, by decide, by decide +kernel, by decide +kernel⟩

-- the length hypothesis cannot simply be dropped: on a FULL 1×2 board (fruit on the tail cell, which
-- `Consistent` allows there) moving Left onto the tail cell is legal, the fruit is "eaten", the tail does not
-- move and the successor numbers its cells 3, 2 — not a chain.  (The implementation ends the episode as soon as
-- the board is full, so such a state is never stepped from.)
example :
    let cfg : Cfg := ⟨1, 2, 10⟩
    let s : State := ⟨[[true, true]], [[1, 2]], ⟨0, 1⟩, [[true, false]], ⟨0, 0⟩, 2, 1, [false, false, false, true]⟩
    consistentB cfg s = true ∧ legal cfg s 3 ∧ ¬ (s.length < ((cfg.rows * cfg.cols : Nat) : Int)) ∧
      validDraw cfg (step id cfg s 3 0).1.body 0 ∧ consistentB cfg (step id cfg s 3 0).1 = false := by
  decide +kernel

/-! #### packaged: all non-terminal states of any play are consistent.
`run rnd cfg s ads` = the (successor state, timestep) pairs of playing the (action, fruit draw) pairs `ads` with the L1
`step`; `okStep` = action in 0..3 and, on the steps that eat the fruit (the only ones that draw), a draw admissible for
the successor body (`validDraw`: a cell of the board that is not a body cell). -/

/-- from ANY consistent state shorter than the board: if the transitions 0..k of a play are not LAST, the state
transition `k` leads to is consistent -/
theorem snake_run_states_consistent (rnd : Rat → Rat) (cfg : Cfg) (s : State) (hc : Consistent cfg s)
    (hlen : s.length < ((cfg.rows * cfg.cols : Nat) : Int)) (ads : List ActDraw) (k : Nat)
    (p : State × TimeStep Obs) (h : (run rnd cfg s ads)[k]? = some p)
    (hok : ∀ j (hj : j < ads.length), j ≤ k → okStep rnd cfg (EpRun.after (stepA rnd cfg) s (ads.take j)) ads[j])
    (hno : EpRun.NoLastBefore (stepA rnd cfg) (·.stepType = .last) s ads (k + 1)) :
    Consistent cfg p.1 := Snake.run_states_consistent rnd cfg s hc hlen ads k p h hok hno

/-- from RESET (any head cell of the board, any admissible fruit draw, any board with more than one cell): the reset
state and all non-terminal states of any play are consistent -/
theorem snake_run_consistent (rnd : Rat → Rat) (cfg : Cfg) (hr hc d0 : Nat) (h1 : hr < cfg.rows) (h2 : hc < cfg.cols)
    (hd0 : validDraw cfg (reset rnd cfg hr hc d0).1.body d0) (hbig : 1 < cfg.rows * cfg.cols)
    (ads : List ActDraw) :
    Consistent cfg (reset rnd cfg hr hc d0).1 ∧
    ∀ (k : Nat) (p : State × TimeStep Obs), (run rnd cfg (reset rnd cfg hr hc d0).1 ads)[k]? = some p →
      (∀ j (hj : j < ads.length), j ≤ k →
        okStep rnd cfg (EpRun.after (stepA rnd cfg) (reset rnd cfg hr hc d0).1 (ads.take j)) ads[j]) →
      EpRun.NoLastBefore (stepA rnd cfg) (·.stepType = .last) (reset rnd cfg hr hc d0).1 ads (k + 1) →
      Consistent cfg p.1 := by
  have hC := (Snake.reset_consistent rnd cfg hr hc d0 h1 h2 hd0).1
  refine ⟨hC, fun k p h hok hno => ?_⟩
  exact Snake.run_states_consistent rnd cfg _ hC (by rw [Snake.reset_length]; omega) ads k p h hok hno

-- a play of three non-LAST steps from reset on the 2×3 board: every state is consistent, and `okStep` holds for the first step
example :
    let cfg : Cfg := ⟨2, 3, 10⟩
    let ads : List ActDraw := [(1, 5), (2, 0), (1, 0)]
    ((run id cfg (reset id cfg 0 0 1).1 ads).map (fun p => decide (p.2.stepType = .last) || !consistentB cfg p.1)) =
      [false, false, false] ∧
    okStep id cfg (reset id cfg 0 0 1).1 (1, 5) := by
  refine ⟨by decide +kernel, by decide, ?_⟩
  decide +kernel
end Props.C07

namespace Props.C08
/-- the length grows by exactly the reward of the step, so the return of an episode is
`length_final − 1` = the number of fruits eaten -/
theorem snake_length_telescopes (rnd : Rat → Rat) (cfg : Cfg) (s : State) (a : Int) (d : Nat) :
    (((step rnd cfg s a d).1.length : Int) : Rat) = (s.length : Rat) + (step rnd cfg s a d).2.reward.sum :=
  Snake.length_telescopes rnd cfg s a d

/-- whole-episode fold of the identity above (no hypotheses: ANY start state, ANY list of (action, fruit draw)
pairs — legal or not, also past a LAST step): the sum of the step rewards is the growth of the length -/
theorem snake_episode_return (rnd : Rat → Rat) (cfg : Cfg) (s : State) (ads : List (Int × Nat)) :
    runReturn rnd cfg s ads = ((runState rnd cfg s ads).length : Rat) - (s.length : Rat) :=
  Snake.episode_return rnd cfg s ads

/-- from reset (length 1; no hypotheses on the board size, head cell, draws or actions): the return of the
play-out is `length_final − 1`, the objective (number of fruits eaten) of the final state -/
theorem snake_episode_return_from_reset (rnd : Rat → Rat) (cfg : Cfg) (hr hc d0 : Nat) (ads : List (Int × Nat)) :
    runReturn rnd cfg (reset rnd cfg hr hc d0).1 ads =
      ((objective (runState rnd cfg (reset rnd cfg hr hc d0).1 ads) : Int) : Rat) := by
  rw [Snake.episode_return, Snake.reset_length]
  unfold objective
  simp [Rat.intCast_sub]

-- 2×3 board, head (0,0), fruit at cell 1 = (0,1): Right eats it (new fruit at cell 5 = (1,2)), Down, Right eats
-- again (new fruit at cell 0); return 2 = 3 − 1
example : runReturn id ⟨2, 3, 10⟩ (reset id ⟨2, 3, 10⟩ 0 0 1).1 [(1, 5), (2, 0), (1, 0)] = 2 ∧
    (runState id ⟨2, 3, 10⟩ (reset id ⟨2, 3, 10⟩ 0 0 1).1 [(1, 5), (2, 0), (1, 0)]).length = 3 ∧
    consistentB ⟨2, 3, 10⟩ (runState id ⟨2, 3, 10⟩ (reset id ⟨2, 3, 10⟩ 0 0 1).1 [(1, 5), (2, 0), (1, 0)]) = true := by
  decide +kernel
end Props.C08

namespace Props.C09
/-- L1 = L2 (Snake growth): on a chain-encoded state and for a legal move the transliterated `step`
returns exactly the successor prescribed by the rule "append the new head cell, drop the tail cell
unless the fruit is eaten, renumber 1..length" -/
theorem snake_step_eq_spec (rnd : Rat → Rat) (cfg : Cfg) (s : State) (a : Nat) (d : Nat)
    (hc : Chain cfg s (chainOf cfg s)) (hl : legal cfg s a)
    (hfree : eats s a = true → cell s.bodyState s.fruit.row s.fruit.col = 0) :
    stepSpec cfg s a d = some (step rnd cfg s a d).1 := Snake.stepSpec_eq rnd cfg s a d hc hl hfree

/-- the same for every consistent state whose board is not full -/
theorem snake_step_eq_spec_consistent (rnd : Rat → Rat) (cfg : Cfg) (s : State) (a : Nat) (d : Nat)
    (hc : Consistent cfg s) (hnf : Grid.all id s.body = false) (hl : legal cfg s a) :
    stepSpec cfg s a d = some (step rnd cfg s a d).1 := by
  obtain ⟨⟨cs, hch⟩, hd⟩ := hc
  have hch' : Chain cfg s (chainOf cfg s) := by rw [chain_unique cfg s cs hch]; exact hch
  exact stepSpec_eq rnd cfg s a d hch' hl (fun _ => hd.fruit_free hnf)

/-- L1 unfolding, for ALL states and action values (the right-hand sides are the L1 expressions — cached
mask, `eatenB`; the statement in terms of the rules is `snake_step_ts_rules` below): reward 1 iff the new head is on the
fruit; LAST iff the cached mask rejects the action, the new body fills the board, or the time limit is reached -/
theorem snake_step_ts_l1 (rnd : Rat → Rat) (cfg : Cfg) (s : State) (a : Int) (d : Nat) :
    (step rnd cfg s a d).2.reward = [if eatenB s a then 1 else 0] ∧
    (step rnd cfg s a d).2.stepType =
      (if (!(getWC s.actionMask false a) || Grid.all id (step rnd cfg s a d).1.body ||
          decide (s.stepCount + 1 ≥ cfg.timeLimit)) then .last else .mid) :=
  ⟨Snake.step_reward rnd cfg s a d, Snake.step_type rnd cfg s a d⟩

/-- reward and step type in terms of the RULES: from a consistent state shorter than the board (every non-terminal
state of every play, `Props.C07.snake_run_consistent`), for every in-spec action and every draw, the step is LAST iff
the move is illegal, or the snake now fills the board (`length' = rows * cols`), or the time limit is reached; and the
reward is 1 iff the move eats the fruit, 0 otherwise -/
theorem snake_step_ts_rules (rnd : Rat → Rat) (cfg : Cfg) (s : State) (a : Nat) (d : Nat) (ha : a < 4)
    (hc : Consistent cfg s) (hlen : s.length < ((cfg.rows * cfg.cols : Nat) : Int)) :
    ((step rnd cfg s a d).2.stepType = .last ↔
      (¬ legal cfg s a ∨ (step rnd cfg s a d).1.length = ((cfg.rows * cfg.cols : Nat) : Int) ∨
        s.stepCount + 1 ≥ cfg.timeLimit)) ∧
    (step rnd cfg s a d).2.reward = [if eats s a then 1 else 0] :=
  Snake.step_ts_rules rnd cfg s a d ha hc hlen

-- the hypotheses are satisfiable (the 2×3 example state of C07).  The board-full cause occurs:
-- 1×2 board: Right from (0,0) eats the fruit at (0,1) and fills the board: LAST with reward 1
-- (an illegal move that is LAST: the reset example of C04; the time limit: the 3×3 example of C11)
example : Consistent ⟨1, 2, 10⟩ (reset id ⟨1, 2, 10⟩ 0 0 1).1 ∧
    (step id ⟨1, 2, 10⟩ (reset id ⟨1, 2, 10⟩ 0 0 1).1 1 0).2.stepType = .last ∧
    (step id ⟨1, 2, 10⟩ (reset id ⟨1, 2, 10⟩ 0 0 1).1 1 0).2.reward = [1] ∧
    legal ⟨1, 2, 10⟩ (reset id ⟨1, 2, 10⟩ 0 0 1).1 1 ∧
    (step id ⟨1, 2, 10⟩ (reset id ⟨1, 2, 10⟩ 0 0 1).1 1 0).1.length = 2 :=
  ⟨(Props.C07.snake_consistentB_iff _ _).1 (by decide +kernel), by decide +kernel, by decide +kernel, by decide,
    by decide +kernel⟩
end Props.C09

namespace Props.C10
/-- every generated instance is well-formed — a statement about the draws of the transliterated `reset`:
for every head draw inside `[0, board_shape)` and every admissible fruit
draw, head and fruit are cells of the board, they are DIFFERENT cells on every board with more than one cell, the snake
is exactly the head cell (the chain `[(hr, hc)]`), length 1, step count 0 -/
theorem snake_reset_wellformed (rnd : Rat → Rat) (cfg : Cfg) (hr hc : Nat) (d : Nat)
    (h1 : hr < cfg.rows) (h2 : hc < cfg.cols) (hd : validDraw cfg (reset rnd cfg hr hc d).1.body d) :
    inGrid cfg (reset rnd cfg hr hc d).1.head.row (reset rnd cfg hr hc d).1.head.col ∧
    inGrid cfg (reset rnd cfg hr hc d).1.fruit.row (reset rnd cfg hr hc d).1.fruit.col ∧
    (1 < cfg.rows * cfg.cols → (reset rnd cfg hr hc d).1.fruit ≠ (reset rnd cfg hr hc d).1.head) ∧
    Chain cfg (reset rnd cfg hr hc d).1 [(hr, hc)] ∧
    (reset rnd cfg hr hc d).1.length = 1 ∧ (reset rnd cfg hr hc d).1.stepCount = 0 := by
  have hC := (reset_consistent rnd cfg hr hc d h1 h2 hd).1
  have hch := reset_chain rnd cfg hr hc d h1 h2
  refine ⟨head_inGrid_of_chain cfg _ _ hch, hC.2.fruit_inGrid, ?_, hch, rfl, rfl⟩
  intro hbig heq
  have hnf := (not_full_iff_length cfg _ hC).2 (by rw [reset_length]; omega)
  have h0 := hC.2.fruit_free hnf
  rw [heq] at h0
  have h1' := hch.numbered 0 Nat.one_pos
  simp only [List.getD_cons_zero] at h1'
  unfold cell at h0
  have e1 : (reset rnd cfg hr hc d).1.head.row.toNat = hr := by show ((hr : Int)).toNat = hr; simp
  have e2 : (reset rnd cfg hr hc d).1.head.col.toNat = hc := by show ((hc : Int)).toNat = hc; simp
  rw [e1, e2] at h0
  rw [h0] at h1'
  omega

-- admissible and inadmissible draws on the 2×3 board with the head at (0,0): cell 5 is free, cell 0 is the head
example : validDraw ⟨2, 3, 10⟩ (reset id ⟨2, 3, 10⟩ 0 0 5).1.body 5 ∧
    ¬ validDraw ⟨2, 3, 10⟩ (reset id ⟨2, 3, 10⟩ 0 0 0).1.body 0 := by decide

/-- an admissible fruit draw puts the fruit on a cell of the board -/
theorem snake_fruit_in_grid (cfg : Cfg) (d : Nat) (hd : d < cfg.rows * cfg.cols) :
    inGrid cfg (fruitOfDraw cfg d).row (fruitOfDraw cfg d).col := Snake.fruitOfDraw_inGrid cfg d hd
end Props.C10

namespace Props.C11
/-- the step counter advances by one on every step; a step that reaches the limit is LAST -/
theorem snake_step_count (rnd : Rat → Rat) (cfg : Cfg) (s : State) (a : Int) (d : Nat) :
    (step rnd cfg s a d).1.stepCount = s.stepCount + 1 ∧
    (s.stepCount + 1 ≥ cfg.timeLimit → (step rnd cfg s a d).2.stepType = .last) :=
  Snake.step_count rnd cfg s a d

/-- never earlier without another cause (the LAST ↔ of `snake_step_ts_rules`): from a consistent state
shorter than the board a step is LAST iff the move is illegal, the snake fills the board, or the limit is reached -/
theorem snake_last_iff (rnd : Rat → Rat) (cfg : Cfg) (s : State) (a : Nat) (d : Nat) (ha : a < 4)
    (hc : Consistent cfg s) (hlen : s.length < ((cfg.rows * cfg.cols : Nat) : Int)) :
    (step rnd cfg s a d).2.stepType = .last ↔
      (¬ legal cfg s a ∨ (step rnd cfg s a d).1.length = ((cfg.rows * cfg.cols : Nat) : Int) ∨
        s.stepCount + 1 ≥ cfg.timeLimit) := (Snake.step_ts_rules rnd cfg s a d ha hc hlen).1

/-! #### episode level: `run rnd cfg s ads`, transition `k` (0-based) is the `(k+1)`-th step -/

/-- never later: every transition whose step number has reached the time limit is LAST — ANY state, ANY actions and
draws, no hypotheses -/
theorem snake_run_last_at_limit (rnd : Rat → Rat) (cfg : Cfg) (s : State) (ads : List ActDraw) (k : Nat)
    (p : State × TimeStep Obs) (h : (run rnd cfg s ads)[k]? = some p)
    (hk : s.stepCount + k + 1 ≥ cfg.timeLimit) : p.2.stepType = .last :=
  EpRun.run_last_at_limit (stepA rnd cfg) (·.stepCount) (·.stepType = .last) cfg.timeLimit (stepA_count rnd cfg)
    (stepA_limit rnd cfg) s ads k p h hk

/-- so every play that is long enough contains a LAST at or before step `time_limit` -/
theorem snake_run_exists_last (rnd : Rat → Rat) (cfg : Cfg) (s : State) (ads : List ActDraw)
    (h0 : s.stepCount < cfg.timeLimit) (hlen : cfg.timeLimit - s.stepCount ≤ ads.length) :
    ∃ (k : Nat) (p : State × TimeStep Obs), s.stepCount + k + 1 ≤ cfg.timeLimit ∧
      (run rnd cfg s ads)[k]? = some p ∧ p.2.stepType = .last :=
  EpRun.run_exists_last (stepA rnd cfg) (·.stepCount) (·.stepType = .last) cfg.timeLimit (stepA_count rnd cfg)
    (stepA_limit rnd cfg) s ads h0 hlen

/-- never earlier: up to and including the first LAST of a play from a consistent state shorter than the board (e.g.
reset), a transition is LAST iff another cause holds (`otherCause`: the move is illegal or the snake now fills the
board) or its step number has reached the limit -/
theorem snake_run_last_iff (rnd : Rat → Rat) (cfg : Cfg) (s : State) (hc : Consistent cfg s)
    (hlen : s.length < ((cfg.rows * cfg.cols : Nat) : Int)) (ads : List ActDraw) (k : Nat)
    (p : State × TimeStep Obs)
    (hok : ∀ j (hj : j < ads.length), j ≤ k → okStep rnd cfg (EpRun.after (stepA rnd cfg) s (ads.take j)) ads[j])
    (hno : EpRun.NoLastBefore (stepA rnd cfg) (·.stepType = .last) s ads k)
    (h : (run rnd cfg s ads)[k]? = some p) :
    ∃ hk : k < ads.length,
      (p.2.stepType = .last ↔
        (otherCause rnd cfg (EpRun.after (stepA rnd cfg) s (ads.take k)) ads[k] ∨
          s.stepCount + k + 1 ≥ cfg.timeLimit)) := by
  obtain ⟨hk, _, hi⟩ := EpRun.run_last_iff (stepA rnd cfg) (·.stepCount) (·.stepType = .last) cfg.timeLimit
    (RunInv cfg) (okStep rnd cfg) (otherCause rnd cfg) (stepA_count rnd cfg) (stepA_inv rnd cfg)
    (stepA_last_iff rnd cfg) s ads k p ⟨hc, hlen⟩ hok hno h
  exact ⟨hk, hi⟩

/-- if no other cause of termination occurs, the FIRST LAST of a play is exactly at step `time_limit` -/
theorem snake_run_first_last_at_limit (rnd : Rat → Rat) (cfg : Cfg) (s : State) (hc : Consistent cfg s)
    (hlen : s.length < ((cfg.rows * cfg.cols : Nat) : Int)) (h0 : s.stepCount < cfg.timeLimit)
    (ads : List ActDraw) (k : Nat) (p : State × TimeStep Obs)
    (hok : ∀ j (hj : j < ads.length), j ≤ k → okStep rnd cfg (EpRun.after (stepA rnd cfg) s (ads.take j)) ads[j])
    (hno : EpRun.NoLastBefore (stepA rnd cfg) (·.stepType = .last) s ads k)
    (h : (run rnd cfg s ads)[k]? = some p) (hlast : p.2.stepType = .last)
    (hother : ∀ hk : k < ads.length, ¬ otherCause rnd cfg (EpRun.after (stepA rnd cfg) s (ads.take k)) ads[k]) :
    s.stepCount + k + 1 = cfg.timeLimit :=
  EpRun.run_first_last_eq (stepA rnd cfg) (·.stepCount) (·.stepType = .last) cfg.timeLimit
    (RunInv cfg) (okStep rnd cfg) (otherCause rnd cfg) (stepA_count rnd cfg) (stepA_inv rnd cfg)
    (stepA_last_iff rnd cfg) s ads k p ⟨hc, hlen⟩ h0 hok hno h hlast hother

-- 3×3 board, limit 3, going Right, Right, Down, Down from (0,0) without meeting the fruit at (2,0): MID, MID, LAST at step 3, LAST again
example : ((run id ⟨3, 3, 3⟩ (reset id ⟨3, 3, 3⟩ 0 0 6).1 [(1, 8), (1, 8), (2, 7), (2, 7)]).map
    (fun p => decide (p.2.stepType = .last))) = [false, false, true, true] := by decide +kernel
end Props.C11

namespace Props.C12
/-- the five feature planes (body, head, tail, fruit, normalised order), the step count and the mask
returned by `step` are the documented functions of the successor state, whenever the new head is on the
board (in particular on every step that does not end the episode), for a shaped `body_state`, a fruit on the board and a draw
below the number of cells (`hd` is asked for on every step, also when nothing is eaten) -/
theorem snake_obs_faithful (rnd : Rat → Rat) (cfg : Cfg) (s : State) (a : Int) (d : Nat)
    (hs : Grid.shaped s.bodyState cfg.rows cfg.cols = true)
    (hh : inGrid cfg (headAfter s a).row (headAfter s a).col)
    (hfr : inGrid cfg s.fruit.row s.fruit.col) (hd : d < cfg.rows * cfg.cols) :
    (step rnd cfg s a d).2.obs = observe rnd cfg (step rnd cfg s a d).1 :=
  Snake.obs_faithful rnd cfg s a d hs hh hfr hd

/-- the same for any state whose derived fields agree with `body_state` (e.g. the reset state) -/
theorem snake_obs_planes (rnd : Rat → Rat) (cfg : Cfg) (t : State)
    (hs : Grid.shaped t.bodyState cfg.rows cfg.cols = true)
    (hbody : t.body = Grid.map (fun x => decide (x > 0)) t.bodyState)
    (htail : t.tail = Grid.map (fun x => decide (x = 1)) t.bodyState)
    (hh : inGrid cfg t.head.row t.head.col) (hfr : inGrid cfg t.fruit.row t.fruit.col)
    (hm : t.actionMask = legalMask cfg t) :
    stateToObs rnd t = observe rnd cfg t := Snake.obs_eq rnd cfg t hs hbody htail hh hfr hm

/-- in particular in EVERY consistent state `_state_to_observation` returns the documented observation -/
theorem snake_obs_consistent (rnd : Rat → Rat) (cfg : Cfg) (t : State) (hc : Consistent cfg t) :
    stateToObs rnd t = observe rnd cfg t := Snake.obs_of_consistent rnd cfg t hc

/-- the observation returned by `reset` (any head cell of the board, any admissible fruit draw) is the documented
function of the reset state, and the timestep is FIRST -/
theorem snake_reset_obs_faithful (rnd : Rat → Rat) (cfg : Cfg) (hr hc : Nat) (d : Nat)
    (h1 : hr < cfg.rows) (h2 : hc < cfg.cols) (hd : validDraw cfg (reset rnd cfg hr hc d).1.body d) :
    (reset rnd cfg hr hc d).2.obs = observe rnd cfg (reset rnd cfg hr hc d).1 ∧
    (reset rnd cfg hr hc d).2.stepType = .first := Snake.reset_obs_faithful rnd cfg hr hc d h1 h2 hd

/-- the hypotheses of `snake_obs_faithful` / `snake_obs_planes` are satisfiable: 2×3 board, snake of length 3, moving
Right keeps the head on the board; the state's derived fields agree with `body_state` -/
example :
    let cfg : Cfg := ⟨2, 3, 10⟩
    let s : State := ⟨[[true, false, false], [true, true, false]], [[1, 0, 0], [2, 3, 0]], ⟨1, 1⟩,
      [[true, false, false], [false, false, false]], ⟨0, 2⟩, 3, 4, [true, true, false, false]⟩
    Grid.shaped s.bodyState cfg.rows cfg.cols = true ∧ inGrid cfg (headAfter s 1).row (headAfter s 1).col ∧
    inGrid cfg s.fruit.row s.fruit.col ∧ s.body = Grid.map (fun x => decide (x > 0)) s.bodyState ∧
    s.tail = Grid.map (fun x => decide (x = 1)) s.bodyState ∧ inGrid cfg s.head.row s.head.col ∧
    s.actionMask = legalMask cfg s := by decide

/-- KNOWN FINDING (opt-in check `VERIF_SNAKE_STRICT_HEAD`), the hypothesis "new head on the board" of
`snake_obs_faithful` cannot be dropped: after the invalid move Up from row 0 the new head is at row −1; the scatter
`zeros.at[(-1, 0)].set(True)` WRAPS and marks cell (1,0) of the head plane of the (terminal) observation, while the
documented plane "1 at the head position" has no cell at row −1 and is all zero.  Same in the real code (negative
indices wrap in `.at[].set`). -/
theorem snake_offboard_head_obs_witness :
    let cfg : Cfg := ⟨2, 3, 10⟩
    let s := (reset id cfg 0 0 5).1
    (step id cfg s 0 0).2.stepType = .last ∧ (step id cfg s 0 0).1.head = ⟨-1, 0⟩ ∧
    (step id cfg s 0 0).2.obs.head = [[0, 0, 0], [1, 0, 0]] ∧
    (observe id cfg (step id cfg s 0 0).1).head = [[0, 0, 0], [0, 0, 0]] ∧
    (step id cfg s 0 0).2.obs ≠ observe id cfg (step id cfg s 0 0).1 := by
  decide +kernel
end Props.C12

namespace Props.C01
/-- the reset observation (any head draw, any fruit draw, even inadmissible ones) has every leaf inside the
interval `obsBounds cfg` lists for it: the five planes in `[0, 1]`, `step_count = 0 ≤ time_limit`, mask 0..1.
`RndKeeps01 rnd`: the float32 rounding of `body_state / max(1, max)` maps `[0, 1]` into `[0, 1]`. -/
theorem snake_reset_obs_in_bounds (rnd : Rat → Rat) (hrnd : RndKeeps01 rnd) (cfg : Cfg) (hr hc : Nat) (d : Nat)
    (htl : 0 ≤ cfg.timeLimit) : ObsInBounds cfg (reset rnd cfg hr hc d).2.obs :=
  Snake.reset_obs_in_bounds rnd hrnd cfg hr hc d htl

/-- every step taken from a consistent state of a running episode (`step_count < time_limit`; `0 ≤ step_count`
is part of `Consistent`) emits an observation inside `obsBounds cfg` — for EVERY action value (legal, illegal,
out of range) and every fruit draw, including the terminal step, where `step_count = time_limit`
(the value a `DiscreteArray(time_limit)` would exclude; the spec declares `DiscreteArray(time_limit + 1)`) -/
theorem snake_step_obs_in_bounds (rnd : Rat → Rat) (hrnd : RndKeeps01 rnd) (cfg : Cfg) (s : State) (a : Int)
    (d : Nat) (hC : Consistent cfg s) (h1 : s.stepCount < cfg.timeLimit) :
    ObsInBounds cfg (step rnd cfg s a d).2.obs :=
  Snake.step_obs_in_bounds_nonNeg rnd hrnd cfg s a d (Snake.nonNeg_of_consistent hC) h1

/-- the same from the weaker invariant `NonNeg` (board numbers, length, counter non-negative), which — unlike
`Consistent` — EVERY step preserves, so the bounds hold along all trajectories, also after an invalid move -/
theorem snake_step_obs_in_bounds_nonNeg (rnd : Rat → Rat) (hrnd : RndKeeps01 rnd) (cfg : Cfg) (s : State)
    (a : Int) (d : Nat) (hn : NonNeg s) (h1 : s.stepCount < cfg.timeLimit) :
    ObsInBounds cfg (step rnd cfg s a d).2.obs ∧ NonNeg (step rnd cfg s a d).1 :=
  ⟨Snake.step_obs_in_bounds_nonNeg rnd hrnd cfg s a d hn h1, Snake.step_nonNeg rnd cfg s a d hn⟩

/-- `NonNeg` holds after reset and in every consistent state -/
theorem snake_nonNeg (rnd : Rat → Rat) (cfg : Cfg) (hr hc : Nat) (d : Nat) (s : State) :
    NonNeg (reset rnd cfg hr hc d).1 ∧ (Consistent cfg s → NonNeg s) :=
  ⟨Snake.reset_nonNeg rnd cfg hr hc d, Snake.nonNeg_of_consistent⟩

/-- any monotone rounding that fixes 0 and 1 satisfies the rounding hypothesis -/
theorem snake_rndKeeps01_of_mono (rnd : Rat → Rat) (hm : ∀ x y, x ≤ y → rnd x ≤ rnd y) (h0 : rnd 0 = 0)
    (h1 : rnd 1 = 1) : RndKeeps01 rnd := fun x hx0 hx1 => ⟨h0 ▸ hm 0 x hx0, h1 ▸ hm x 1 hx1⟩

example : RndKeeps01 id := fun _ h0 h1 => ⟨h0, h1⟩
example : Jx.roundF32 0 = 0 ∧ Jx.roundF32 1 = 1 := by decide +kernel
/-- the bound on `step_count` is attained: 2×3 board, limit 1, one step -/
example : (step id ⟨2, 3, 1⟩ (reset id ⟨2, 3, 1⟩ 0 0 5).1 1 0).2.obs.stepCount = 1 := by decide +kernel

/-! #### the rounding hypothesis discharged for the float32 model (`Jx.roundF32`, Prim/FloatLemmas.lean) -/

/-- `Jx.roundF32` (nearest binary32, ties to even) is monotone on all of `Rat` and fixes 0 and 1 -/
theorem snake_roundF32_mono_fix :
    (∀ x y : Rat, x ≤ y → Jx.roundF32 x ≤ Jx.roundF32 y) ∧ Jx.roundF32 0 = 0 ∧ Jx.roundF32 1 = 1 :=
  ⟨fun _ _ h => Jx.roundF32_mono h, Jx.roundF32_zero, Jx.roundF32_one⟩

/-- hence it keeps the unit interval: the hypothesis `RndKeeps01` of the bounds theorems holds for the
rounding the bridge uses -/
theorem snake_rndKeeps01_roundF32 : RndKeeps01 Jx.roundF32 :=
  snake_rndKeeps01_of_mono Jx.roundF32 snake_roundF32_mono_fix.1 Jx.roundF32_zero Jx.roundF32_one

/-- hypothesis-free (no assumption on the rounding) versions for the float32 model: reset -/
theorem snake_reset_obs_in_bounds_roundF32 (cfg : Cfg) (hr hc : Nat) (d : Nat) (htl : 0 ≤ cfg.timeLimit) :
    ObsInBounds cfg (reset Jx.roundF32 cfg hr hc d).2.obs :=
  snake_reset_obs_in_bounds Jx.roundF32 snake_rndKeeps01_roundF32 cfg hr hc d htl

/-- float32 model: every step from a consistent state of a running episode, every action value, every draw -/
theorem snake_step_obs_in_bounds_roundF32 (cfg : Cfg) (s : State) (a : Int) (d : Nat) (hC : Consistent cfg s)
    (h1 : s.stepCount < cfg.timeLimit) : ObsInBounds cfg (step Jx.roundF32 cfg s a d).2.obs :=
  snake_step_obs_in_bounds Jx.roundF32 snake_rndKeeps01_roundF32 cfg s a d hC h1

/-- float32 model: the same from the invariant `NonNeg`, which every step preserves -/
theorem snake_step_obs_in_bounds_nonNeg_roundF32 (cfg : Cfg) (s : State) (a : Int) (d : Nat) (hn : NonNeg s)
    (h1 : s.stepCount < cfg.timeLimit) :
    ObsInBounds cfg (step Jx.roundF32 cfg s a d).2.obs ∧ NonNeg (step Jx.roundF32 cfg s a d).1 :=
  snake_step_obs_in_bounds_nonNeg Jx.roundF32 snake_rndKeeps01_roundF32 cfg s a d hn h1

/-- the hypotheses are satisfiable: the reset state of a 2×3 board with limit 1 is `NonNeg` and running -/
example : NonNeg (reset Jx.roundF32 ⟨2, 3, 1⟩ 0 0 5).1 ∧ (reset Jx.roundF32 ⟨2, 3, 1⟩ 0 0 5).1.stepCount < 1 :=
  ⟨Snake.reset_nonNeg _ _ _ _ _, by decide +kernel⟩

/-! #### shapes (`obsBounds` against the declared spec: `snake_bounds_within_declared_spec`, Props/SpecTable.lean) -/

/-- the reset observation (ANY draws) has the shapes `obsShapes cfg` lists: five `rows × cols` planes (the `grid` leaf
of shape `(rows, cols, 5)`), a 4-entry mask -/
theorem snake_reset_obs_shaped (rnd : Rat → Rat) (cfg : Cfg) (hr hc : Nat) (d : Nat) :
    ObsShaped cfg (reset rnd cfg hr hc d).2.obs ∧
    Grid.shaped (reset rnd cfg hr hc d).1.bodyState cfg.rows cfg.cols = true :=
  Snake.reset_obs_shaped rnd cfg hr hc d

/-- every step from a state whose `body_state` has the configured shape — ANY action value, any draw, terminal steps
included — emits an observation of those shapes, and the successor's `body_state` has that shape again (so the shapes
hold along every trajectory from reset) -/
theorem snake_step_obs_shaped (rnd : Rat → Rat) (cfg : Cfg) (s : State) (a : Int) (d : Nat)
    (hs : Grid.shaped s.bodyState cfg.rows cfg.cols = true) :
    ObsShaped cfg (step rnd cfg s a d).2.obs ∧
    Grid.shaped (step rnd cfg s a d).1.bodyState cfg.rows cfg.cols = true :=
  Snake.step_obs_shaped rnd cfg s a d hs

/-- values and shapes together, from a consistent state of a running episode -/
theorem snake_step_obs_conforms (rnd : Rat → Rat) (hrnd : RndKeeps01 rnd) (cfg : Cfg) (s : State) (a : Int)
    (d : Nat) (hC : Consistent cfg s) (h1 : s.stepCount < cfg.timeLimit) :
    ObsInBounds cfg (step rnd cfg s a d).2.obs ∧ ObsShaped cfg (step rnd cfg s a d).2.obs := by
  obtain ⟨cs, hch⟩ := hC.1
  exact ⟨snake_step_obs_in_bounds rnd hrnd cfg s a d hC h1, (Snake.step_obs_shaped rnd cfg s a d hch.1).1⟩

/-! NOTE on what the membership theorems of this section do and do not cover: the dtype tag of every leaf
is written by `toNValue` (by construction) — a wrong dtype in the real code cannot falsify `….valid (toNValue …) = true`; dtypes and
field order of the real observations are compared by the `snake.spec` / `snake.state` ops (`nvalue`: field order, shape, dtype, data) and
`jax.eval_shape` in the sweeps.  Shapes are READ OFF the value by `toNValue` (widths off the first row): see `…_obs_valid_only`. -/

/-! #### membership in the model's `obsSpec`: structure, field order, shapes, dtypes and inclusive bounds
(`obsSpec` is the declared spec at the catalogue configurations: `snake_obsSpec_generated`, Props/SpecTable.lean) -/
open Sp PzS PkS

/-- the `reset` observation (ALL board sizes with at least one row, ANY head and fruit draws — admissible or not) is accepted
by `observation_spec.validate`: fields `grid`, `step_count`, `action_mask`; shapes `(R, C, 5)`, `()`, `(4,)`; dtypes float32,
int32, bool; bounds `[0, 1]`, `{0 … time_limit}`, `[0, 1]`.
NOTE: `0 ≤ time_limit` suffices for the RESET observation only; every step theorem below needs
`step_count < time_limit`, i.e. `0 < time_limit`.  `Snake.__init__` accepts `time_limit = 0`, and there the first step's
observation is NOT a member: `snake_time_limit_zero_witness`, `snake_time_limit_zero_step_obs_not_valid`. -/
theorem snake_reset_obs_valid (rnd : Rat → Rat) (hrnd : RndKeeps01 rnd) (cfg : Cfg) (hR : 0 < cfg.rows)
    (htl : 0 ≤ cfg.timeLimit) (hr hc d : Nat) :
    (obsSpec cfg).valid (toNValue (reset rnd cfg hr hc d).2.obs) = true :=
  Snake.reset_obs_valid rnd hrnd cfg hR htl hr hc d

/-- the invariant `SpecInv` (`body_state` of the configured shape; board numbers, length and counter non-negative) holds
after `reset` (ANY draws), in every consistent state, and is preserved by EVERY step: any integer as action (legal, illegal,
outside the action space), any fruit draw, MID or LAST -/
theorem snake_specInv_invariant (rnd : Rat → Rat) (cfg : Cfg) :
    (∀ hr hc d : Nat, SpecInv cfg (reset rnd cfg hr hc d).1) ∧
    (∀ s : State, Consistent cfg s → SpecInv cfg s) ∧
    (∀ (s : State) (a : Int) (d : Nat), SpecInv cfg s → SpecInv cfg (step rnd cfg s a d).1) :=
  ⟨Snake.reset_specInv rnd cfg, fun _ h => h.1.elim fun _ hc => ⟨hc.1, Snake.nonNeg_of_consistent h⟩,
    fun s a d h => Snake.step_specInv rnd cfg s h a d⟩

/-- the observation of EVERY step — any integer as action, any draw, terminal step included (where `step_count = time_limit`,
the value a `DiscreteArray(time_limit)` would exclude) — from a state satisfying the invariant whose counter
has not reached the limit is a member of the spec -/
theorem snake_step_obs_valid (rnd : Rat → Rat) (hrnd : RndKeeps01 rnd) (cfg : Cfg) (hR : 0 < cfg.rows) (s : State)
    (h : SpecInv cfg s) (hlim : s.stepCount < cfg.timeLimit) (a : Int) (d : Nat) :
    (obsSpec cfg).valid (toNValue (step rnd cfg s a d).2.obs) = true :=
  Snake.step_obs_valid rnd hrnd cfg hR s h hlim a d

/-- the hypotheses are satisfiable: the reset state of a 2×3 board with limit 1 -/
example : SpecInv ⟨2, 3, 1⟩ (reset Jx.roundF32 ⟨2, 3, 1⟩ 0 0 5).1 ∧ (reset Jx.roundF32 ⟨2, 3, 1⟩ 0 0 5).1.stepCount < 1 :=
  ⟨Snake.reset_specInv _ _ _ _ _, by decide +kernel⟩

/-- WHOLE EPISODES: along the rollout (`Ep.rollout` = the L1 step iterated) of ANY integers as actions and ANY fruit draws
from `reset` (any draws), every observation emitted by one of the first `time_limit` steps is a member of the spec and every
state satisfies the invariant; the first LAST timestep is among them (`snake_run_last_at_limit`: the step that brings the
counter to `time_limit` is LAST), so this covers every observation of every episode up to and including the terminal one -/
theorem snake_obs_valid_along (rnd : Rat → Rat) (hrnd : RndKeeps01 rnd) (cfg : Cfg) (hR : 0 < cfg.rows) (hr hc d0 : Nat)
    (as : List (Int × Nat)) (j : Nat) (hj : (j : Int) < cfg.timeLimit) (e : State × TimeStep Obs)
    (he : (Ep.rollout (fun s (a : Int × Nat) => step rnd cfg s a.1 a.2) (reset rnd cfg hr hc d0).1 as)[j]? = some e) :
    (obsSpec cfg).valid (toNValue e.2.obs) = true ∧ SpecInv cfg e.1 :=
  Snake.rollout_obs_valid rnd hrnd cfg hR hr hc d0 as j hj e he

/-- float32 model (the rounding the bridge uses): the three membership theorems without the assumption on the rounding -/
theorem snake_obs_valid_roundF32 (cfg : Cfg) (hR : 0 < cfg.rows) :
    (∀ hr hc d : Nat, 0 ≤ cfg.timeLimit → (obsSpec cfg).valid (toNValue (reset Jx.roundF32 cfg hr hc d).2.obs) = true) ∧
    (∀ (s : State) (a : Int) (d : Nat), SpecInv cfg s → s.stepCount < cfg.timeLimit →
      (obsSpec cfg).valid (toNValue (step Jx.roundF32 cfg s a d).2.obs) = true) ∧
    (∀ (hr hc d0 : Nat) (as : List (Int × Nat)) (j : Nat) (e : State × TimeStep Obs), (j : Int) < cfg.timeLimit →
      (Ep.rollout (fun s (a : Int × Nat) => step Jx.roundF32 cfg s a.1 a.2) (reset Jx.roundF32 cfg hr hc d0).1 as)[j]? = some e →
      (obsSpec cfg).valid (toNValue e.2.obs) = true) :=
  ⟨fun hr hc d htl => Snake.reset_obs_valid _ snake_rndKeeps01_roundF32 cfg hR htl hr hc d,
   fun s a d h hl => Snake.step_obs_valid _ snake_rndKeeps01_roundF32 cfg hR s h hl a d,
   fun hr hc d0 as j e hj he => (Snake.rollout_obs_valid _ snake_rndKeeps01_roundF32 cfg hR hr hc d0 as j hj e he).1⟩

/-- what membership means (so the theorems above are not hollow): `validate` accepts an observation ONLY IF the board has the
configured shape, all five plane values of every cell lie in `[0, 1]`, the counter lies in `[0, time_limit]` and the mask
has four entries.  CAVEAT: `toNValue` reads the `grid` shape off `body` alone (row count, and the column count
off its FIRST row), so this theorem says nothing about the shape of the other four planes or of the later rows of `body` —
a ragged value can be a member.  Rectangularity of all five planes is the `ObsShaped` conjunct of `snake_step_obs_conforms` /
`snake_reset_obs_shaped` / `snake_step_obs_shaped` and of `snake_step_obs_valid_shaped` below, proved for every emitted observation. -/
theorem snake_obs_valid_only (cfg : Cfg) (o : Obs) (h : (obsSpec cfg).valid (toNValue o) = true) :
    o.body.length = cfg.rows ∧ (o.body.headD []).length = cfg.cols ∧
    (∀ r c, r < cfg.rows → c < cfg.cols →
      ∀ x ∈ [Grid.get o.body 0 r c, Grid.get o.head 0 r c, Grid.get o.tail 0 r c, Grid.get o.fruit 0 r c,
             Grid.get o.norm 0 r c], (0 : Rat) ≤ x ∧ x ≤ 1) ∧
    0 ≤ o.stepCount ∧ o.stepCount ≤ cfg.timeLimit ∧ o.actionMask.length = 4 := Snake.obs_valid_only cfg o h

/-- positive and negative instances (2×3 board, limit 4, exact arithmetic): the reset observation and the observation after
one step are members; a counter beyond the limit, a plane value 2, a spec for a board with one more column, and the terminal
observation against a spec one short (`time_limit − 1` as the limit, i.e. `DiscreteArray(time_limit)`) are rejected -/
example :
    (obsSpec ⟨2, 3, 4⟩).valid (toNValue (reset id ⟨2, 3, 4⟩ 0 0 5).2.obs) = true ∧
    (obsSpec ⟨2, 3, 4⟩).valid (toNValue (step id ⟨2, 3, 4⟩ (reset id ⟨2, 3, 4⟩ 0 0 5).1 1 0).2.obs) = true ∧
    (obsSpec ⟨2, 3, 4⟩).valid (toNValue { (reset id ⟨2, 3, 4⟩ 0 0 5).2.obs with stepCount := 5 }) = false ∧
    (obsSpec ⟨2, 3, 4⟩).valid (toNValue { (reset id ⟨2, 3, 4⟩ 0 0 5).2.obs with norm := [[2, 0, 0], [0, 0, 0]] }) = false ∧
    (obsSpec ⟨2, 4, 4⟩).valid (toNValue (reset id ⟨2, 3, 4⟩ 0 0 5).2.obs) = false ∧
    (obsSpec ⟨2, 3, 0⟩).valid (toNValue (step id ⟨2, 3, 1⟩ (reset id ⟨2, 3, 1⟩ 0 0 5).1 1 0).2.obs) = false := by
  decide +kernel

/-! #### `time_limit = 0` is accepted by the constructor and is a real C01 violation -/

/-- WITNESS: `Snake(num_rows=2, num_cols=3, time_limit=0)`: the reset observation is a member of the declared spec, the first
step is LAST and its observation (`step_count = 1`, declared `DiscreteArray(1)` = {0}) is NOT.  Real code: `validate` raises
"Values were not all within bounds 0 <= 1 <= 0 for spec step_count". -/
theorem snake_time_limit_zero_witness :
    (obsSpec ⟨2, 3, 0⟩).valid (toNValue (reset id ⟨2, 3, 0⟩ 0 0 5).2.obs) = true ∧
    (step id ⟨2, 3, 0⟩ (reset id ⟨2, 3, 0⟩ 0 0 5).1 1 0).2.stepType = .last ∧
    (obsSpec ⟨2, 3, 0⟩).valid (toNValue (step id ⟨2, 3, 0⟩ (reset id ⟨2, 3, 0⟩ 0 0 5).1 1 0).2.obs) = false := by
  decide +kernel

/-- … for ALL board sizes, roundings, draws, states with a non-negative counter (e.g. every reset state) and ANY action: with
`time_limit ≤ 0` the observation of the step is rejected by the declared spec — so `0 < time_limit` in the step theorems is
necessary, not a convenience -/
theorem snake_time_limit_zero_step_obs_not_valid (rnd : Rat → Rat) (cfg : Cfg) (h0 : cfg.timeLimit ≤ 0) (s : State)
    (hs : 0 ≤ s.stepCount) (a : Int) (d : Nat) :
    (obsSpec cfg).valid (toNValue (step rnd cfg s a d).2.obs) = false := by
  cases hv : (obsSpec cfg).valid (toNValue (step rnd cfg s a d).2.obs) with
  | false => rfl
  | true =>
    have h := (obs_valid_only cfg _ hv).2.2.2.2.1
    rw [step_obs_stepCount] at h
    omega

/-- membership TOGETHER with the rectangular shapes `valid ∘ toNValue` does not imply: every step observation
from a state with the invariant is a member AND all five planes are `rows × cols`, the mask has 4 entries -/
theorem snake_step_obs_valid_shaped (rnd : Rat → Rat) (hrnd : RndKeeps01 rnd) (cfg : Cfg) (hR : 0 < cfg.rows) (s : State)
    (h : SpecInv cfg s) (hlim : s.stepCount < cfg.timeLimit) (a : Int) (d : Nat) :
    (obsSpec cfg).valid (toNValue (step rnd cfg s a d).2.obs) = true ∧ ObsShaped cfg (step rnd cfg s a d).2.obs :=
  ⟨Snake.step_obs_valid rnd hrnd cfg hR s h hlim a d, (Snake.step_obs_shaped rnd cfg s a d h.1).1⟩

/-- reward and discount of every `step` (ALL states, ALL integer actions, all draws) and of `reset` are accepted by
`reward_spec` (Array((), float)) and `discount_spec` (BoundedArray((), float, 0, 1)) -/
theorem snake_reward_discount_valid (rnd : Rat → Rat) (cfg : Cfg) (s : State) (a : Int) (d hr hc d0 : Nat) :
    rewardSpec.valid (scalarArr (step rnd cfg s a d).2.reward) = true ∧
    discountSpec.valid (scalarArr (step rnd cfg s a d).2.discount) = true ∧
    rewardSpec.valid (scalarArr (reset rnd cfg hr hc d0).2.reward) = true ∧
    discountSpec.valid (scalarArr (reset rnd cfg hr hc d0).2.discount) = true :=
  ⟨(stepOK_reward_discount_valid false _ (Snake.step_protocol rnd cfg s a d)).1,
   (stepOK_reward_discount_valid false _ (Snake.step_protocol rnd cfg s a d)).2,
   (PzS3.restart_reward_discount_valid _).1, (PzS3.restart_reward_discount_valid _).2⟩

/-- `action_spec.generate_value()` = 0 (Up): the action spec is well-formed, the generated value is a member, `step` answers
it in EVERY state with a protocol-conform timestep and — from a state satisfying the invariant whose counter has not reached
the limit — with an observation in the spec; membership in `action_spec` is "0 ≤ a < 4" -/
theorem snake_accepts_generate_value (rnd : Rat → Rat) (hrnd : RndKeeps01 rnd) (cfg : Cfg) (hR : 0 < cfg.rows) (s : State)
    (d : Nat) :
    Snake.actionSpec.WF = true ∧ Snake.actionSpec.valid Snake.actionSpec.generate = true ∧
    Snake.actionSpec.generate = actionArr 0 ∧ StepOK none false (step rnd cfg s 0 d).2 = true ∧
    (SpecInv cfg s → s.stepCount < cfg.timeLimit →
      (obsSpec cfg).valid (toNValue (step rnd cfg s 0 d).2.obs) = true) :=
  Snake.accepts_generate_value rnd hrnd cfg hR s d

/-- membership in `action_spec` is exactly "one of the four moves" -/
theorem snake_action_spec_iff (a : Int) : Snake.actionSpec.valid (actionArr a) = true ↔ 0 ≤ a ∧ a < 4 := by
  rw [actionSpec, actionArr, valid_discrete_int_iff]
  exact ⟨fun h => h.2.2, fun h => ⟨rfl, rfl, h⟩⟩
end Props.C01
