/-
Property theorems for RobotWarehouse (R model: the resampled request ids are a draw `d`; the theorems hold for ALL
draws, or for all draws in the support where `rwareValidDraw` is a hypothesis).  The `rware…` predicates (`rwareValidDraw`,
`rwareNoCollision`, `rwareFirstLast`, `rwareGoalsInside`, `rwareValidRun`, `rwareValidSpawn`) are the lemma files' `ValidDraw`,
`NoCollision`, `firstLast`, `GoalsInside`, `ValidRun` and `validSpawn … = true` under a name of this file, to which they unfold.
-/
import JumanjiModel.Env.RobotWarehouse.Lemmas
import JumanjiModel.Env.RobotWarehouse.Bounds
import JumanjiModel.Env.RobotWarehouse.MaskLemmas
import JumanjiModel.Env.RobotWarehouse.NoopLemmas
import JumanjiModel.Env.RobotWarehouse.ConsistentLemmas
import JumanjiModel.Env.RobotWarehouse.ObsLemmas
import JumanjiModel.Env.RobotWarehouse.ShelfLemmas
import JumanjiModel.Env.RobotWarehouse.RewardLemmas
import JumanjiModel.Env.RobotWarehouse.ResetLemmas
import JumanjiModel.Env.RobotWarehouse.EpisodeLemmas
import JumanjiModel.Env.RobotWarehouse.SpecValid
open Jm RobotWarehouse

namespace Props.C04
/-- a 1×3 floor: the agent (facing right, carrying shelf 0, on a non-highway cell) has shelf 1 in front -/
def rwareWit : State :=
  { shelfGrid := [[1, 2, 0]], agentGrid := [[1, 0, 0]], agents := [⟨0, 0, 1, true⟩],
    shelves := [⟨0, 0, 1⟩, ⟨0, 1, 0⟩], queue := [0], stepCount := 0,
    mask := [[true, false, true, true, true]] }
def rwareWitCfg : Cfg := { timeLimit := 10, sensorRange := 1, highways := [[false, false, true]], goals := [] }

/-- on the witness the L1 mask, the cached mask and the rules agree: only FORWARD is illegal -/
example : computeMask rwareWit.shelfGrid rwareWit.agents = rwareWit.mask ∧ legalMask rwareWit = rwareWit.mask ∧ ¬ legal rwareWit 0 1 := by decide +kernel
example : Consistent rwareWitCfg rwareWit := by decide +kernel

/-- C04 (all states / sizes / agents): under `Consistent`, for every agent and every action
the L1 `compute_action_mask` bit equals L2 `legal` read from the entity tables -/
theorem rware_mask_iff_legal (cfg : Cfg) (s : State) (hc : Consistent cfg s) (i a : Nat)
    (hi : i < s.agents.length) (ha : a < 5) :
    ((computeMask s.shelfGrid s.agents).getD i []).getD a false = true ↔ legal s i a :=
  RobotWarehouse.mask_iff_legal hc hi ha

/-- the same as one equation between the two `(num_agents, 5)` tables -/
theorem rware_mask_eq_legalMask (cfg : Cfg) (s : State) (hc : Consistent cfg s) :
    computeMask s.shelfGrid s.agents = legalMask s := RobotWarehouse.mask_eq_legalMask hc

/-- … and hence for the cached `action_mask` carried in the state (and copied into the observation) -/
theorem rware_cached_mask_iff_legal (cfg : Cfg) (s : State) (hc : Consistent cfg s) (i a : Nat)
    (hi : i < s.agents.length) (ha : a < 5) :
    ((s.mask).getD i []).getD a false = true ↔ legal s i a := by
  rw [mask_legal hc, Jx.getD_of_getElem? [] (legalMask_row s hi), Jx.getD_range_map _ _ ha, decide_eq_true_iff]

/-- C04 (the environment's own reaction agrees with the rules): the action `step` executes for agent `i`
(`get_valid_actions` applied to the cached mask; this list is what the per-agent scan of `step` consumes) is the
in-spec action `a` the agent submitted if the RULES (`legal`) allow it, and the no-op otherwise -/
theorem rware_step_agrees (cfg : Cfg) (s : State) (hc : Consistent cfg s) (actions : List Int) (i a : Nat)
    (hi : i < s.agents.length) (ha : actions[i]? = some (a : Int)) (ha5 : a < 5) :
    (validActions s.mask actions)[i]? = some (if legal s i a then (a : Int) else 0) := by
  rw [validActions_getElem? (mask_legal hc ▸ legalMask_row s hi) ha, Jx.getWC_range_map _ _ ha5]
  by_cases h : legal s i a <;> simp [h]

/-- … so an action that is illegal by the rules is the no-op for the WHOLE step (successor state and timestep) -/
theorem rware_illegal_step_eq_noop (cfg : Cfg) (s : State) (hc : Consistent cfg s) (actions draws : List Int)
    (i a : Nat) (hi : i < s.agents.length) (ha : actions[i]? = some (a : Int)) (ha5 : a < 5)
    (hill : ¬ legal s i a) :
    step cfg s actions draws = step cfg s (actions.set i 0) draws :=
  step_masked_eq_noop cfg s actions draws (mask_legal hc ▸ legalMask_row s hi) ha
    (by rw [Jx.getWC_range_map _ _ ha5]; exact decide_eq_false hill)

/-- what `step` DOES with a legal FORWARD (`rware_step_agrees` is about `validActions s.mask`, the list the scan
consumes): whatever the other agents submit and whatever the draws, the agent ends the step on the cell in front of it
(`newPos`: one cell in its direction, clamped at the border of the floor), direction and carrying flag unchanged.
(Whether the step is then reported as a collision is another matter: `Props.C07.rware_follow_terminates_witness`.) -/
theorem rware_legal_forward_executes (cfg : Cfg) (s : State) (hc : Consistent cfg s) (actions draws : List Int)
    (i : Nat) (ag : Agent) (hi : s.agents[i]? = some ag) (ha : actions[i]? = some 1) (hl : legal s i 1) :
    (step cfg s actions draws).1.agents[i]? =
      some { ag with x := (newPos (gRows s.shelfGrid) (gCols s.shelfGrid) ag.x ag.y ag.dir).1,
                     y := (newPos (gRows s.shelfGrid) (gCols s.shelfGrid) ag.x ag.y ag.dir).2 } := by
  have hv := rware_step_agrees cfg s hc actions i 1 (Jx.lt_of_getElem? hi) ha (by omega)
  rw [if_pos hl] at hv
  obtain ⟨b, h⟩ := step_agent cfg s actions draws hi hv
  rw [h]; rfl

/-- the hypotheses are satisfiable, and both branches occur: on the witness FORWARD (illegal) is played as the
no-op, TOGGLE_LOAD (legal) as itself -/
example : Consistent rwareWitCfg rwareWit ∧ ¬ legal rwareWit 0 1 ∧ legal rwareWit 0 4 ∧
    validActions rwareWit.mask [1] = [0] ∧ validActions rwareWit.mask [4] = [4] := by decide +kernel

/-- a 2×3 floor with two agents: agent 0 carries the requested shelf 0 and has the goal cell in front -/
def rwareWit2 : State :=
  { shelfGrid := [[1, 0, 0], [0, 0, 2]], agentGrid := [[1, 0, 0], [2, 0, 0]],
    agents := [⟨0, 0, 1, true⟩, ⟨1, 0, 0, false⟩], shelves := [⟨0, 0, 1⟩, ⟨1, 2, 0⟩], queue := [0],
    stepCount := 0, mask := [[true, true, true, true, true], [true, true, true, true, true]] }
def rwareWit2Cfg : Cfg :=
  { timeLimit := 10, sensorRange := 1, highways := [[false, true, false], [true, true, false]], goals := [(1, 0)] }
example : Consistent rwareWit2Cfg rwareWit2 := by decide +kernel
end Props.C04

namespace Props.C05
/-- a masked-out action (= no-op) never moves or turns the agent and never touches the floor
channels or the shelf table; its only possible effect is to clear the agent's `is_carrying`.  (`_partial`: it does not say WHEN
the flag is cleared; `rware_noop_agent` below does, for `i` in range, which this statement does not require.) -/
theorem rware_noop_effect_partial (hw : List (List Bool)) (w : World) (i : Nat) :
    (updateAgent hw w 0 i).shelfGrid = w.shelfGrid ∧ (updateAgent hw w 0 i).agentGrid = w.agentGrid ∧
    (updateAgent hw w 0 i).shelves = w.shelves ∧
    ((updateAgent hw w 0 i).agents = w.agents ∨
     (updateAgent hw w 0 i).agents =
       Jx.setWD w.agents (i : Int) { Jx.getWC w.agents default (i : Int) with carrying := false }) := by
  rw [updateAgent_eq hw w i (by decide), World.acted, acted_noop, Jx.setWD_natCast]
  refine ⟨rfl, rfl, rfl, ?_⟩
  generalize e : Jx.getWC w.agents default (i : Int) = ag
  cases hh : Jx.Grid.getWC hw false ag.x ag.y
  · exact Or.inr (by rw [Bool.and_false])
  · exact Or.inl (by rw [Bool.and_true]; exact e ▸ Jx.set_getWC_self w.agents default i)

/-- DEFECT (holds of the transliterated code, contradicts "the acting entity keeps its holdings"):
an illegal FORWARD played by a carrying agent on a non-highway cell makes it drop its shelf -/
theorem rware_illegal_drops_shelf_witness :
    ¬ legal Props.C04.rwareWit 0 1 ∧
    ((step Props.C04.rwareWitCfg Props.C04.rwareWit [1] []).1.agents.map (·.carrying)) = [false] ∧
    (step Props.C04.rwareWitCfg Props.C04.rwareWit [1] []).2.stepType = .mid := by decide +kernel

/-- C05 (all worlds; about the NO-OP `updateAgent … 0 i` — that an illegal action is played as the no-op is
`Props.C04.rware_step_agrees` / `rware_masked_step_agent` below): the no-op played for agent `i` leaves both floor
channels, the shelf table and every other agent untouched; agent `i` keeps cell and direction, and its flag becomes
exactly `is_carrying && on_highway(cell)` -/
theorem rware_noop_agent (hw : List (List Bool)) (w : World) (i : Nat) (ag : Agent)
    (hi : w.agents[i]? = some ag) :
    (updateAgent hw w 0 i).shelfGrid = w.shelfGrid ∧ (updateAgent hw w 0 i).agentGrid = w.agentGrid ∧
    (updateAgent hw w 0 i).shelves = w.shelves ∧
    (∀ (j : Nat), j ≠ i → (updateAgent hw w 0 i).agents[j]? = w.agents[j]?) ∧
    (updateAgent hw w 0 i).agents[i]? =
      some { ag with carrying := ag.carrying && Jx.Grid.getWC hw false ag.x ag.y } :=
  RobotWarehouse.noop_agent hw w hi

/-- RW1 characterised exactly: the no-op changes `is_carrying` iff the agent carries a shelf and does NOT
stand on a highway cell (then the shelf is offloaded) -/
theorem rware_noop_drops_iff (hw : List (List Bool)) (w : World) (i : Nat) (ag : Agent)
    (hi : w.agents[i]? = some ag) :
    (((updateAgent hw w 0 i).agents.getD i default).carrying ≠ ag.carrying) ↔
      (ag.carrying = true ∧ Jx.Grid.getWC hw false ag.x ag.y = false) := by
  rw [Jx.getD_of_getElem? _ (noop_agent hw w hi).2.2.2.2]
  cases ag.carrying <;> cases Jx.Grid.getWC hw false ag.x ag.y <;> simp

/-- in all other cases (not carrying, or standing on a highway cell) the holdings are kept: the whole agent
table is unchanged -/
theorem rware_noop_keeps (hw : List (List Bool)) (w : World) (i : Nat) (ag : Agent)
    (hi : w.agents[i]? = some ag)
    (h : ag.carrying = false ∨ Jx.Grid.getWC hw false ag.x ag.y = true) :
    (updateAgent hw w 0 i).agents = w.agents := by
  have e : ({ ag with carrying := ag.carrying && Jx.Grid.getWC hw false ag.x ag.y } : Agent) = ag := by
    obtain ⟨x, y, d, c⟩ := ag
    rcases h with h | h <;> simp only [] at h <;> simp [h]
  rw [updateAgent_agents, Jx.getWC_idx w.agents default hi, World.acted, acted_noop, e]
  exact (Jx.getWC_idx w.agents default hi) ▸ Jx.set_getWC_self w.agents default i

/-- the same through the whole `step` (ALL states, joint actions, draws): an agent whose action is masked
out by the cached mask ends the step on its cell, facing the same way, with
`is_carrying' = is_carrying && on_highway(cell)` — whatever the other agents do -/
theorem rware_masked_step_agent (cfg : Cfg) (s : State) (actions draws : List Int) (i : Nat) (ag : Agent)
    (a : Int) (row : List Bool) (hi : s.agents[i]? = some ag) (ha : actions[i]? = some a)
    (hrow : s.mask[i]? = some row) (hm : Jx.getWC row false a = false) :
    (step cfg s actions draws).1.agents[i]? =
      some { ag with carrying := ag.carrying && Jx.Grid.getWC cfg.highways false ag.x ag.y } := by
  obtain ⟨b, h⟩ := step_agent cfg s actions draws hi (validActions_getElem? hrow ha)
  rw [h, hm, if_neg Bool.false_ne_true, acted_noop]

/-- under `Consistent`, for an action that is illegal by the RULES (L2): it is a FORWARD of a carrying
agent, the agent is frozen, and it still carries after the step iff its cell is a highway cell -/
theorem rware_illegal_step_agent (cfg : Cfg) (s : State) (hc : Consistent cfg s) (actions draws : List Int)
    (i a : Nat) (ag : Agent) (hi : s.agents[i]? = some ag) (ha : actions[i]? = some (a : Int)) (ha5 : a < 5)
    (hill : ¬ legal s i a) :
    ag.carrying = true ∧ a = 1 ∧
    (step cfg s actions draws).1.agents[i]? =
      some { ag with carrying := Jx.Grid.getWC cfg.highways false ag.x ag.y } := by
  have hcar : ag.carrying = true ∧ a = 1 := by
    unfold legal at hill
    rw [Jx.getD_of_getElem? _ hi] at hill
    have := Classical.not_not.1 hill
    exact ⟨this.2.1, this.1⟩
  have := rware_masked_step_agent cfg s actions draws i ag a _ hi ha (mask_legal hc ▸ legalMask_row s (Jx.lt_of_getElem? hi))
    (by rw [Jx.getWC_range_map _ _ ha5]; exact decide_eq_false hill)
  rw [hcar.1] at this
  exact ⟨hcar.1, hcar.2, by simpa using this⟩

/-- the hypotheses are satisfiable, in both branches: on the witness (cell not a highway) the shelf is
dropped, with the agent's cell made a highway cell it is kept -/
example : Consistent Props.C04.rwareWitCfg Props.C04.rwareWit ∧ ¬ legal Props.C04.rwareWit 0 1 ∧
    (step Props.C04.rwareWitCfg Props.C04.rwareWit [1] []).1.agents = [⟨0, 0, 1, false⟩] ∧
    (step { Props.C04.rwareWitCfg with highways := [[true, false, true]] } Props.C04.rwareWit [1] []).1.agents
      = [⟨0, 0, 1, true⟩] := by decide +kernel

/-- C05, the SHELF side of `frozen` (the predicate the driver's `judge` op evaluates): for an action that is
illegal by the rules, agent `i` is `frozen` — same cell, same direction, and the shelf it stands on (if any)
is still on that cell after the step.  ALL consistent states, all joint actions of the other agents, all
draws (valid or not), LAST steps included. -/
theorem rware_illegal_frozen (cfg : Cfg) (s : State) (hc : Consistent cfg s) (actions draws : List Int)
    (i a : Nat) (ag : Agent) (hi : s.agents[i]? = some ag) (ha : actions[i]? = some (a : Int)) (ha5 : a < 5)
    (hill : ¬ legal s i a) :
    frozen s (step cfg s actions draws).1 i = true :=
  RobotWarehouse.step_frozen_of_agent hc actions draws hi
    (rware_illegal_step_agent cfg s hc actions draws i a ag hi ha ha5 hill).2.2 rfl rfl rfl

/-- the same for an action masked out by the cached mask (whatever the integer played) -/
theorem rware_masked_frozen (cfg : Cfg) (s : State) (hc : Consistent cfg s) (actions draws : List Int) (i : Nat)
    (ag : Agent) (a : Int) (row : List Bool) (hi : s.agents[i]? = some ag) (ha : actions[i]? = some a)
    (hrow : s.mask[i]? = some row) (hm : Jx.getWC row false a = false) :
    frozen s (step cfg s actions draws).1 i = true :=
  RobotWarehouse.step_frozen_of_agent hc actions draws hi
    (rware_masked_step_agent cfg s actions draws i ag a row hi ha hrow hm) rfl rfl rfl

/-- more generally: ANY agent that ends the step on its cell facing the same way (no-op, load/unload,
masked FORWARD, FORWARD against the border) is `frozen`: the shelf under it has not been moved by anybody -/
theorem rware_frozen_of_agent_unmoved (cfg : Cfg) (s : State) (hc : Consistent cfg s) (actions draws : List Int)
    (i : Nat) (ag ag' : Agent) (hi : s.agents[i]? = some ag)
    (hi' : (step cfg s actions draws).1.agents[i]? = some ag') (hx : ag'.x = ag.x) (hy : ag'.y = ag.y)
    (hd : ag'.dir = ag.dir) :
    frozen s (step cfg s actions draws).1 i = true :=
  RobotWarehouse.step_frozen_of_agent hc actions draws hi hi' hx hy hd

/-- on the witness: the illegal FORWARD leaves agent 0 frozen (shelf 0 still under it), although it drops it -/
example : frozen Props.C04.rwareWit (step Props.C04.rwareWitCfg Props.C04.rwareWit [1] []).1 0 = true ∧
    holdingsKept Props.C04.rwareWit (step Props.C04.rwareWitCfg Props.C04.rwareWit [1] []).1 0 = false := by decide +kernel
end Props.C05

namespace Props.C07
/-- conserved for ALL states, actions and draws: the number of shelves, of agents and of request
slots (unconditional part; the floor-picture count is `rware_conserved` / `rware_floor_counts` below) -/
theorem rware_conserved_partial (cfg : Cfg) (s : State) (a d : List Int) :
    (step cfg s a d).1.shelves.length = s.shelves.length ∧
    (step cfg s a d).1.agents.length = s.agents.length ∧
    (step cfg s a d).1.queue.length = s.queue.length := RobotWarehouse.step_lengths cfg s a d

/-- the draw `d` lies in the support of the request-queue resampling for the joint action `a` in state `s`
(exactly the test the driver's `step` op applies): whenever a goal fires, the new id is a shelf id that
is not in the queue -/
def rwareValidDraw (cfg : Cfg) (s : State) (a d : List Int) : Prop :=
  validDraws (scanAgents cfg.highways s.world (validActions s.mask a) 0).shelfGrid
    ⟨s.queue, (scanAgents cfg.highways s.world (validActions s.mask a) 0).shelves, 0⟩ cfg.goals d = true

instance (cfg : Cfg) (s : State) (a d : List Int) : Decidable (rwareValidDraw cfg s a d) := by
  unfold rwareValidDraw; infer_instance

/-- C07: from a `Consistent` state, ANY joint action `a` (any integers, any length — masked-out
entries are played as NOOP by `step` itself) and any draw in the support lead to a `Consistent` state,
unless the step is LAST (collision, or time limit reached) -/
theorem rware_step_consistent (cfg : Cfg) (s : State) (a d : List Int) (hc : Consistent cfg s)
    (hv : rwareValidDraw cfg s a d) (hn : (step cfg s a d).2.stepType ≠ .last) :
    Consistent cfg (step cfg s a d).1 := RobotWarehouse.step_consistent hc a d hv hn

/-- the floor picture of a `Consistent` state shows exactly as many shelves as the shelf table holds, and
exactly as many agents as the agent table holds -/
theorem rware_floor_counts (cfg : Cfg) (s : State) (hc : Consistent cfg s) :
    shelfCount s.shelfGrid = s.shelves.length ∧
    Jx.Grid.count (fun v => decide (v ≠ 0)) s.agentGrid = s.agents.length := by
  have h := (consistent_iff_good cfg s).1 hc
  exact ⟨picture_count h.shS h.shShown h.shBacked, picture_count h.shA h.agShown h.agBacked⟩

/-- C07 (conserved, floor-picture level): across such a step the predicate `Conserved` evaluated by the
driver holds (shelf table length, number of shelves ON THE FLOOR PICTURE, agent table length, queue
length), and the number of agents on the floor picture is unchanged too -/
theorem rware_conserved (cfg : Cfg) (s : State) (a d : List Int) (hc : Consistent cfg s)
    (hv : rwareValidDraw cfg s a d) (hn : (step cfg s a d).2.stepType ≠ .last) :
    Conserved s (step cfg s a d).1 ∧
    Jx.Grid.count (fun v => decide (v ≠ 0)) (step cfg s a d).1.agentGrid =
      Jx.Grid.count (fun v => decide (v ≠ 0)) s.agentGrid := by
  have hc' := step_consistent hc a d hv hn
  have h1 := rware_floor_counts cfg s hc
  have h2 := rware_floor_counts cfg _ hc'
  have hl := step_lengths cfg s a d
  refine ⟨⟨hl.1, ?_, hl.2.1, hl.2.2⟩, ?_⟩
  · rw [h2.1, h1.1]; exact hl.1
  · rw [h2.2, h1.2]; exact hl.2.1

/-- the hypotheses are satisfiable by a step that does something: agent 0 carries shelf 0 onto the goal
(delivery, shelf 1 becomes the new request), agent 1 turns -/
example : Consistent Props.C04.rwareWit2Cfg Props.C04.rwareWit2 ∧
    rwareValidDraw Props.C04.rwareWit2Cfg Props.C04.rwareWit2 [1, 2] [1] ∧
    (step Props.C04.rwareWit2Cfg Props.C04.rwareWit2 [1, 2] [1]).2.stepType ≠ .last ∧
    (step Props.C04.rwareWit2Cfg Props.C04.rwareWit2 [1, 2] [1]).1.queue = [1] ∧
    (step Props.C04.rwareWit2Cfg Props.C04.rwareWit2 [1, 2] [1]).1.shelfGrid = [[0, 1, 0], [0, 0, 2]] := by
  decide +kernel

/-! #### the shelf side of a step (every step: LAST or not, any joint action, any draw, valid or not) -/

/-- C07: a shelf on whose cell no carrying agent stands keeps its cell through the step -/
theorem rware_step_free_shelf_stays (cfg : Cfg) (s : State) (a d : List Int) (hc : Consistent cfg s) (k : Nat)
    (sh : Shelf) (hk : s.shelves[k]? = some sh)
    (hfree : ∀ ag ∈ s.agents, ag.carrying = true → (ag.x, ag.y) ≠ (sh.x, sh.y)) :
    ∃ sh', (step cfg s a d).1.shelves[k]? = some sh' ∧ sh'.x = sh.x ∧ sh'.y = sh.y := by
  have := RobotWarehouse.step_shelf_free hc a d hk hfree
  obtain ⟨sh', h1, h2⟩ := Option.map_eq_some_iff.1 this
  exact ⟨sh', h1, (RobotWarehouse.spos_eq h2).1, (RobotWarehouse.spos_eq h2).2⟩

/-- C07: a carried shelf (agent `j` stands on its cell with `is_carrying`) ends the step on the cell on which
its carrier ends the step — whether the carrier moved, was masked out, turned, or dropped it -/
theorem rware_step_carried_shelf_follows (cfg : Cfg) (s : State) (a d : List Int) (hc : Consistent cfg s)
    (k j : Nat) (sh : Shelf) (ag : Agent) (hk : s.shelves[k]? = some sh) (hj : s.agents[j]? = some ag)
    (hcar : ag.carrying = true) (hx : ag.x = sh.x) (hy : ag.y = sh.y) :
    ∃ sh' ag', (step cfg s a d).1.shelves[k]? = some sh' ∧ (step cfg s a d).1.agents[j]? = some ag' ∧
      sh'.x = ag'.x ∧ sh'.y = ag'.y := by
  have hp : RobotWarehouse.apos ag = RobotWarehouse.spos sh := by
    unfold RobotWarehouse.apos RobotWarehouse.spos; rw [hx, hy]
  obtain ⟨sh', ag', h1, h2, h3⟩ := RobotWarehouse.step_shelf_carried hc a d hk hj hcar hp
  exact ⟨sh', ag', h1, h2, congrArg Prod.fst h3, congrArg Prod.snd h3⟩

/-- the two cases are exhaustive and both occur on the witness step: shelf 0 is carried by agent 0 and
follows it to `(0, 1)`, shelf 1 is carried by nobody and stays on `(1, 2)` -/
example : (step Props.C04.rwareWit2Cfg Props.C04.rwareWit2 [1, 2] [1]).1.shelves = [⟨0, 1, 0⟩, ⟨1, 2, 1⟩] ∧
    (step Props.C04.rwareWit2Cfg Props.C04.rwareWit2 [1, 2] [1]).1.agents = [⟨0, 1, 1, true⟩, ⟨1, 0, 3, false⟩] := by
  decide +kernel

/-! #### "not LAST" weakened to "no collision": the step that reaches the time limit included -/

/-- `is_collision` reports nothing after the joint action `a` (decidable; evaluated on the world after the
per-agent scan, as `step` does) -/
def rwareNoCollision (cfg : Cfg) (s : State) (a : List Int) : Prop := RobotWarehouse.NoCollision cfg s a

instance (cfg : Cfg) (s : State) (a : List Int) : Decidable (rwareNoCollision cfg s a) := by
  unfold rwareNoCollision; infer_instance

theorem rware_not_last_no_collision (cfg : Cfg) (s : State) (a d : List Int)
    (hn : (step cfg s a d).2.stepType ≠ .last) : rwareNoCollision cfg s a :=
  RobotWarehouse.noCollision_of_not_last hn

/-- C07 (strengthening of `rware_step_consistent`): the successor is `Consistent` after every step without
a collision — in particular after the LAST step of an episode that ends by the time limit -/
theorem rware_step_consistent_no_collision (cfg : Cfg) (s : State) (a d : List Int) (hc : Consistent cfg s)
    (hv : rwareValidDraw cfg s a d) (hcol : rwareNoCollision cfg s a) :
    Consistent cfg (step cfg s a d).1 := RobotWarehouse.step_consistent_nocoll hc a d hv hcol

/-- what `Consistent` says, part by part: agents inside the floor on pairwise
different cells; shelves inside the floor on pairwise different cells (shelves never overlap); both floor
channels are exactly the pictures of their tables; the request queue consists of pairwise different shelf
ids; and the shelf a carrying agent carries IS the shelf under it: the id `forward` reads off the shelf
channel at the agent's cell is the index of the (unique) shelf the table has on that cell -/
theorem rware_consistent_parts (cfg : Cfg) (s : State) (hc : Consistent cfg s) :
    (∀ ag ∈ s.agents, inGrid (gRows s.shelfGrid) (gCols s.shelfGrid) ag.x ag.y) ∧
    (s.agents.map (fun ag => (ag.x, ag.y))).Nodup ∧
    (∀ sh ∈ s.shelves, inGrid (gRows s.shelfGrid) (gCols s.shelfGrid) sh.x sh.y) ∧
    (s.shelves.map (fun sh => (sh.x, sh.y))).Nodup ∧
    (∀ c ∈ allCells (gRows s.shelfGrid) (gCols s.shelfGrid),
      Jx.Grid.getWC s.agentGrid 0 c.1 c.2 = tableAt (fun a : Agent => (a.x, a.y)) s.agents c ∧
      Jx.Grid.getWC s.shelfGrid 0 c.1 c.2 = tableAt (fun a : Shelf => (a.x, a.y)) s.shelves c) ∧
    s.queue.Nodup ∧ (∀ q ∈ s.queue, 0 ≤ q ∧ q < (s.shelves.length : Int)) ∧
    (∀ ag ∈ s.agents, ag.carrying = true → ∃ (k : Nat) (sh : Shelf), s.shelves[k]? = some sh ∧
      sh.x = ag.x ∧ sh.y = ag.y ∧ Jx.Grid.getWC s.shelfGrid 0 ag.x ag.y = (k : Int) + 1) := by
  have hg := (consistent_iff_good cfg s).1 hc
  obtain ⟨_, _, _, _, _, h6, h7, h8, h9, h10, _, h12, h13, _, _⟩ := hc
  refine ⟨fun ag h => (h6 ag h).1, of_decide_eq_true h8, fun sh h => (h7 sh h).1, of_decide_eq_true h9, h10,
    h12, h13, ?_⟩
  intro ag hag hcar
  have hin := (h6 ag hag).1
  have hne := (RobotWarehouse.shelf_cell_ne_zero_iff hg.shShown hg.shBacked hin).2 (hg.carry ag hag hcar)
  obtain ⟨k, sh, hk, hv, hp⟩ := hg.shBacked ag.x ag.y hin hne
  exact ⟨k, sh, hk, (RobotWarehouse.spos_eq hp).1, (RobotWarehouse.spos_eq hp).2, hv⟩

/-- C07: after every step without a collision (any in-spec or out-of-spec joint action, any draw in the
support) shelves do not overlap and the shelf layer of the grid agrees with the shelf table -/
theorem rware_step_shelves_consistent (cfg : Cfg) (s : State) (a d : List Int) (hc : Consistent cfg s)
    (hv : rwareValidDraw cfg s a d) (hcol : rwareNoCollision cfg s a) :
    ((step cfg s a d).1.shelves.map (fun sh => (sh.x, sh.y))).Nodup ∧
    (∀ c ∈ allCells (gRows (step cfg s a d).1.shelfGrid) (gCols (step cfg s a d).1.shelfGrid),
      Jx.Grid.getWC (step cfg s a d).1.shelfGrid 0 c.1 c.2 =
        tableAt (fun a : Shelf => (a.x, a.y)) (step cfg s a d).1.shelves c) ∧
    gRows (step cfg s a d).1.shelfGrid = gRows s.shelfGrid ∧ gCols (step cfg s a d).1.shelfGrid = gCols s.shelfGrid := by
  have hc' := RobotWarehouse.step_consistent_nocoll hc a d hv hcol
  have hp := rware_consistent_parts cfg _ hc'
  have h1 := (consistent_iff_good cfg s).1 hc
  have h2 := (consistent_iff_good cfg _).1 hc'
  have d1 := RobotWarehouse.shaped_dims h1.shH h1.hR
  have d2 := RobotWarehouse.shaped_dims h2.shH h2.hR
  exact ⟨hp.2.2.2.1, fun c hcm => (hp.2.2.2.2.1 c hcm).2, d2.1.symm.trans d1.1, d2.2.symm.trans d1.2⟩

/-- C07 (reset): the state `RandomGenerator.__call__` builds (`genState`: agents with `is_carrying = 0`,
`is_requested = zeros.at[queue].set(1)`, both channels by `place_entities_on_grid` from a zero grid, mask
computed, step count 0) from sampled values satisfying the generator certificate — agent cells inside the
floor and pairwise different, directions in `0..3`, shelf cells inside the floor and pairwise different, queue
of pairwise different shelf ids — is `Consistent`.  Any floor size, number of agents, shelves, queue length. -/
theorem rware_reset_consistent (cfg : Cfg) (R C : Nat) (hR : 0 < R) (hC : 0 < C)
    (hH : Jx.Grid.shaped cfg.highways R C = true)
    (agentCells : List (Int × Int)) (dirs : List Int) (shelfCells : List (Int × Int)) (queue : List Int)
    (hlen : agentCells.length ≤ dirs.length)
    (haIn : ∀ c ∈ agentCells, inGrid R C c.1 c.2) (haNd : agentCells.Nodup)
    (hdir : ∀ d ∈ dirs, 0 ≤ d ∧ d < 4)
    (hsIn : ∀ c ∈ shelfCells, inGrid R C c.1 c.2) (hsNd : shelfCells.Nodup)
    (hqNd : queue.Nodup) (hqR : ∀ q ∈ queue, 0 ≤ q ∧ q < (shelfCells.length : Int)) :
    Consistent cfg (genState R C agentCells dirs shelfCells queue) :=
  consistent_of_good (genState_good cfg hR hC hH hlen haIn haNd hdir hsIn hsNd hqNd hqR)

/-- the hypotheses are satisfiable: a 2×3 floor, two agents, two shelves, one request -/
example : (0 < 2 ∧ 0 < 3) ∧ Jx.Grid.shaped Props.C04.rwareWit2Cfg.highways 2 3 = true ∧
    ([(0, 0), (1, 0)] : List (Int × Int)).length ≤ ([1, 0] : List Int).length ∧
    (∀ c ∈ ([(0, 0), (1, 0)] : List (Int × Int)), inGrid 2 3 c.1 c.2) ∧ ([(0, 0), (1, 0)] : List (Int × Int)).Nodup ∧
    (∀ d ∈ ([1, 0] : List Int), 0 ≤ d ∧ d < 4) ∧
    (∀ c ∈ ([(0, 0), (1, 2)] : List (Int × Int)), inGrid 2 3 c.1 c.2) ∧ ([(0, 0), (1, 2)] : List (Int × Int)).Nodup ∧
    ([0] : List Int).Nodup ∧ (∀ q ∈ ([0] : List Int), 0 ≤ q ∧ q < (([(0, 0), (1, 2)] : List (Int × Int)).length : Int)) := by
  decide +kernel
example : genState 2 3 [(0, 0), (1, 0)] [1, 0] [(0, 0), (1, 2)] [0] =
    { Props.C04.rwareWit2 with agents := [⟨0, 0, 1, false⟩, ⟨1, 0, 0, false⟩] } := by decide +kernel

/-! #### finding RW3: `rwareNoCollision` is the L1 test `is_collision`
(`grid[_AGENTS, x, y] != id + 1` after the per-agent scan), NOT "two agents on one cell".  It is SOUND
(`rware_phys_collision_reported`: a physical collision is always reported) but it OVER-reports: an agent that
moves onto the cell a HIGHER-numbered agent vacates in the same step has its fresh mark zeroed by that agent's
`forward`, so a legal move of two agents to two different cells is reported as a collision and ends the episode;
with the two ids exchanged the same physical move is MID.  Real code (DESIGN.md 11.9 (c)):
`RobotWarehouse(RandomGenerator(1,3,2,num_agents=2,…))`, agents at (0,0),(0,1) facing right, action `[1,1]`:
`step_type = 2`, positions (0,1),(0,2); agents at (0,1),(0,0): `step_type = 1`. -/

def rwareFollowS : State :=
  { shelfGrid := [[0, 0, 0]], agentGrid := [[1, 2, 0]], agents := [⟨0, 0, 1, false⟩, ⟨0, 1, 1, false⟩],
    shelves := [], queue := [], stepCount := 0,
    mask := [[true, true, true, true, true], [true, true, true, true, true]] }
/-- the same two robots with the ids exchanged -/
def rwareFollowS' : State :=
  { rwareFollowS with agentGrid := [[2, 1, 0]], agents := [⟨0, 1, 1, false⟩, ⟨0, 0, 1, false⟩] }
def rwareFollowCfg : Cfg := { timeLimit := 10, sensorRange := 1, highways := [[true, true, true]], goals := [] }

/-- WITNESS (the converse of `rware_phys_collision_reported` FAILS, and `rware_last_iff`'s "collision" is not a
physical one): 1×3 floor, agent 0 at (0,0), agent 1 at (0,1), both facing right, both FORWARD.  The state is
`Consistent`, both actions are legal by the rules, the agents end on the DIFFERENT cells (0,1) and (0,2), yet
`is_collision` reports and the step is LAST (step 1 of 10); with the ids exchanged the same move is MID. -/
theorem rware_follow_terminates_witness :
    Consistent rwareFollowCfg rwareFollowS ∧ legal rwareFollowS 0 1 ∧ legal rwareFollowS 1 1 ∧
    (step rwareFollowCfg rwareFollowS [1, 1] []).1.agents = [⟨0, 1, 1, false⟩, ⟨0, 2, 1, false⟩] ∧
    ((step rwareFollowCfg rwareFollowS [1, 1] []).1.agents.map apos).Nodup ∧
    ¬ rwareNoCollision rwareFollowCfg rwareFollowS [1, 1] ∧
    (step rwareFollowCfg rwareFollowS [1, 1] []).2.stepType = .last ∧
    Consistent rwareFollowCfg rwareFollowS' ∧ (step rwareFollowCfg rwareFollowS' [1, 1] []).2.stepType = .mid ∧
    (step rwareFollowCfg rwareFollowS' [1, 1] []).1.agents = [⟨0, 2, 1, false⟩, ⟨0, 1, 1, false⟩] := by
  decide +kernel

/-- `Props.C04.rware_legal_forward_executes` on the two-agent witness: agent 0 (carrying, facing right, free cell ahead) moves -/
example : Consistent Props.C04.rwareWit2Cfg Props.C04.rwareWit2 ∧ legal Props.C04.rwareWit2 0 1 ∧
    (step Props.C04.rwareWit2Cfg Props.C04.rwareWit2 [1, 2] [1]).1.agents[0]? =
      some { (⟨0, 0, 1, true⟩ : Agent) with x := (newPos 2 3 0 0 1).1, y := (newPos 2 3 0 0 1).2 } := by decide +kernel

/-- the SOUND direction (all states, all joint actions): if two different agents stand on one cell after the
moves of the step, `is_collision` reports it (so by `Props.C11.rware_last_iff` the step is LAST) -/
theorem rware_phys_collision_reported (cfg : Cfg) (s : State) (a : List Int) (i j : Nat)
    (hij : i < j) (hj : j < s.agents.length)
    (h : apos ((afterMoves cfg s a).agents.getD i default) = apos ((afterMoves cfg s a).agents.getD j default)) :
    ¬ rwareNoCollision cfg s a := by
  have hlen : (afterMoves cfg s a).agents.length = s.agents.length :=
    (scanAgents_lengths cfg.highways s.world _ 0).1
  have hi' := List.getElem?_eq_getElem (show i < (afterMoves cfg s a).agents.length by omega)
  have hj' := List.getElem?_eq_getElem (show j < (afterMoves cfg s a).agents.length by omega)
  rw [Jx.getD_of_getElem? _ hi', Jx.getD_of_getElem? _ hj'] at h
  exact fun hn => Bool.false_ne_true (hn.symm.trans (clash_collision ⟨i, j, _, _, hij, Nat.lt_succ_self j, hi', hj', h⟩))

/-- … stated on `step`: a step after which two different agents share a cell is LAST -/
theorem rware_phys_collision_last (cfg : Cfg) (s : State) (a d : List Int) (i j : Nat)
    (hij : i < j) (hj : j < s.agents.length)
    (h : apos ((step cfg s a d).1.agents.getD i default) = apos ((step cfg s a d).1.agents.getD j default)) :
    (step cfg s a d).2.stepType = .last := by
  by_cases hl : (step cfg s a d).2.stepType = .last
  · exact hl
  · exact absurd (RobotWarehouse.noCollision_of_not_last hl)
      (rware_phys_collision_reported cfg s a i j hij hj h)
end Props.C07

namespace Props.C05
/-- C05 ("an illegal or masked action ALONE never ends the episode"): from a consistent state, when agent `i`
submits an action that is illegal by the rules, the step is LAST exactly when the same joint action with the
NO-OP in place of the illegal action leads to a collision (caused by the other agents' moves), or the time limit
is reached; in particular, without such a collision and before the limit the step is MID.  ("Collision" = the L1 test
`is_collision`, which also fires when an agent follows a higher-numbered one: `Props.C07.rware_follow_terminates_witness`.) -/
theorem rware_illegal_alone_never_last (cfg : Cfg) (s : State) (hc : Consistent cfg s) (actions draws : List Int)
    (i a : Nat) (hi : i < s.agents.length) (ha : actions[i]? = some (a : Int)) (ha5 : a < 5)
    (hill : ¬ legal s i a) :
    ((step cfg s actions draws).2.stepType = .last ↔
      (¬ Props.C07.rwareNoCollision cfg s (actions.set i 0) ∨ s.stepCount + 1 ≥ cfg.timeLimit)) ∧
    (Props.C07.rwareNoCollision cfg s (actions.set i 0) → s.stepCount + 1 < cfg.timeLimit →
      (step cfg s actions draws).2.stepType = .mid) := by
  rw [Props.C04.rware_illegal_step_eq_noop cfg s hc actions draws i a hi ha ha5 hill]
  exact ⟨RobotWarehouse.last_iff cfg s _ draws, fun h1 h2 => (RobotWarehouse.mid_iff cfg s _ draws).2 ⟨h1, h2⟩⟩

/-- the same for an action masked out by the cached mask, on ANY state (no consistency needed, any integer) -/
theorem rware_masked_alone_never_last (cfg : Cfg) (s : State) (actions draws : List Int) (i : Nat) (a : Int)
    (row : List Bool) (ha : actions[i]? = some a) (hrow : s.mask[i]? = some row)
    (hm : Jx.getWC row false a = false) :
    step cfg s actions draws = step cfg s (actions.set i 0) draws ∧
    ((step cfg s actions draws).2.stepType = .last ↔
      (¬ Props.C07.rwareNoCollision cfg s (actions.set i 0) ∨ s.stepCount + 1 ≥ cfg.timeLimit)) := by
  have h := RobotWarehouse.step_masked_eq_noop cfg s actions draws hrow ha hm
  refine ⟨h, ?_⟩
  rw [h]
  exact RobotWarehouse.last_iff cfg s _ draws

/-- on the witness: the illegal FORWARD of the only agent is a MID step -/
example : Consistent Props.C04.rwareWitCfg Props.C04.rwareWit ∧ ¬ legal Props.C04.rwareWit 0 1 ∧
    Props.C07.rwareNoCollision Props.C04.rwareWitCfg Props.C04.rwareWit ([1].set 0 0) ∧
    Props.C04.rwareWit.stepCount + 1 < Props.C04.rwareWitCfg.timeLimit := by decide +kernel
end Props.C05

namespace Props.C11
/-- C11 / C05 (both directions, ALL states, joint actions and draws): a step is LAST exactly when `is_collision`
reports a collision after the moves or the incremented step count reaches the time limit — there is no other
cause of termination (in particular not an illegal or masked action, not a delivery).  "Collision" here is the L1
test `is_collision` (`rwareNoCollision`), which is implied by, but NOT equivalent to, two agents on one cell: see
`Props.C07.rware_phys_collision_reported` and the witness `Props.C07.rware_follow_terminates_witness` -/
theorem rware_last_iff (cfg : Cfg) (s : State) (a d : List Int) :
    (step cfg s a d).2.stepType = .last ↔
      (¬ Props.C07.rwareNoCollision cfg s a ∨ s.stepCount + 1 ≥ cfg.timeLimit) :=
  RobotWarehouse.last_iff cfg s a d

/-- … and MID exactly in the complementary case (`step` never emits FIRST) -/
theorem rware_mid_iff (cfg : Cfg) (s : State) (a d : List Int) :
    (step cfg s a d).2.stepType = .mid ↔
      (Props.C07.rwareNoCollision cfg s a ∧ s.stepCount + 1 < cfg.timeLimit) :=
  RobotWarehouse.mid_iff cfg s a d

/-- C11 (any start state, any play): step number `k + 1` of the play brings the counter to `step_count + k + 1` and is
LAST exactly when a collision is reported in it or that count reaches the time limit -/
theorem rware_run_step (cfg : Cfg) (s : State) (ps : List (List Int × List Int)) (k : Nat)
    (p : List Int × List Int) (r : State × TimeStep Obs) (hp : ps[k]? = some p)
    (hr : (run cfg s ps)[k]? = some r) :
    r.1.stepCount = s.stepCount + (k : Int) + 1 ∧
    (r.2.stepType = .last ↔
      (¬ Props.C07.rwareNoCollision cfg (stateAt cfg s ps k) p.1 ∨ s.stepCount + (k : Int) + 1 ≥ cfg.timeLimit)) := by
  rw [run_getElem? cfg ps s k p hp] at hr
  simp only [Option.some.injEq] at hr
  subst hr
  have hk : k ≤ ps.length := Nat.le_of_lt (Jx.lt_of_getElem? hp)
  have hsc := stateAt_stepCount cfg ps s k hk
  refine ⟨?_, ?_⟩
  · have : (step cfg (stateAt cfg s ps k) p.1 p.2).1.stepCount = (stateAt cfg s ps k).stepCount + 1 := rfl
    rw [this, hsc]
  · rw [last_iff, hsc]; exact Iff.rfl

/-- index (step number − 1) of the first LAST timestep of a run -/
def rwareFirstLast (l : List (State × TimeStep Obs)) : Option Nat := RobotWarehouse.firstLast l

/-- C11, "in any case there is a LAST at or before step `time_limit`": from a state with step count 0 (a reset
state), every play of at least `time_limit ≥ 1` steps — any joint actions, any draws, collisions or not — has a first
LAST timestep, and its step number is at most `time_limit` -/
theorem rware_episode_last_by_limit (cfg : Cfg) (s : State) (ps : List (List Int × List Int)) (h0 : s.stepCount = 0)
    (T : Nat) (hT : cfg.timeLimit = (T : Int)) (hpos : 0 < T) (hlen : T ≤ ps.length) :
    ∃ k, rwareFirstLast (run cfg s ps) = some k ∧ k + 1 ≤ T := by
  obtain ⟨k, hk, _, hkT⟩ := Ep.rollout_ends_by_limit (sys_exact cfg).toLimited (by omega) s trivial h0 ps (by omega)
  rw [firstLastTS_eq] at hk
  obtain ⟨k', hk', rfl⟩ := Option.map_eq_some_iff.1 hk
  exact ⟨k', hk', by omega⟩

/-- C11, "if no other cause of termination occurs, the first LAST timestep is exactly at step `time_limit`": from a
state with step count 0, in a play in which no step reports a collision (the only other cause: `rware_last_iff`),
step number `k + 1` is LAST iff `time_limit ≤ k + 1` — every earlier step is not LAST —, and for a play of at least
`time_limit ≥ 1` steps the first LAST timestep is step number `time_limit` exactly -/
theorem rware_episode_first_last (cfg : Cfg) (s : State) (ps : List (List Int × List Int)) (h0 : s.stepCount = 0)
    (hcol : ∀ k p, ps[k]? = some p → Props.C07.rwareNoCollision cfg (stateAt cfg s ps k) p.1) :
    (∀ (k : Nat) (r : State × TimeStep Obs), (run cfg s ps)[k]? = some r →
      (r.2.stepType = .last ↔ cfg.timeLimit ≤ (k : Int) + 1)) ∧
    (∀ T : Nat, cfg.timeLimit = (T : Int) → 0 < T → T ≤ ps.length →
      rwareFirstLast (run cfg s ps) = some (T - 1)) := by
  refine ⟨fun k r hr => ?_, fun T hT hpos hlen => ?_⟩
  · rw [run_eq] at hr
    obtain ⟨hk, rfl⟩ := EpRun.run_get_eq _ s ps k r hr
    have hp := List.getElem?_eq_getElem hk
    rw [← stateAt_eq, rware_last_iff, stateAt_stepCount cfg ps s k (by omega), h0]
    exact ⟨fun h => by have := h.resolve_left (not_not_intro (hcol k _ hp)); omega, fun h => Or.inr (by omega)⟩
  · have := Ep.rollout_ends_exactly_at_limit (sys_exact cfg) (by omega) s trivial h0 ps (by omega)
      (fun j a _ ha => by rw [Ep.stateAt_ofStep, ← stateAt_eq]; exact not_not_intro (hcol j a ha))
    rw [firstLastTS_eq, hT] at this
    obtain ⟨k', hk', hk⟩ := Option.map_eq_some_iff.1 this
    rw [show rwareFirstLast (run cfg s ps) = some k' from hk', show k' = T - 1 by simp at hk; omega]

/-- … in particular from EVERY generated reset state (`generate cfg d`, any sampled values `d`: its step count is 0):
a play of at least `time_limit ≥ 1` steps has its first LAST at or before step `time_limit` -/
theorem rware_generated_episode_last_by_limit (cfg : Cfg) (d : SpawnDraw) (ps : List (List Int × List Int))
    (T : Nat) (hT : cfg.timeLimit = (T : Int)) (hpos : 0 < T) (hlen : T ≤ ps.length) :
    ∃ k, rwareFirstLast (run cfg (generate cfg d) ps) = some k ∧ k + 1 ≤ T :=
  rware_episode_last_by_limit cfg (generate cfg d) ps rfl T hT hpos hlen

/-- the hypotheses are satisfiable: with `time_limit = 2` the two-step delivery play of the witness has no collision
and its first LAST timestep is step number 2; a play with a collision ends earlier
(`Props.C08.rware_collision_step_reward_witness`: LAST at step 1 of 10) -/
example : Props.C04.rwareWit2.stepCount = 0 ∧
    (∀ k p, ([([1, 2], [1]), ([2, 1], [0])] : List (List Int × List Int))[k]? = some p →
      k < 2) ∧
    Props.C07.rwareNoCollision { Props.C04.rwareWit2Cfg with timeLimit := 2 } Props.C04.rwareWit2 [1, 2] ∧
    Props.C07.rwareNoCollision { Props.C04.rwareWit2Cfg with timeLimit := 2 }
      (stateAt { Props.C04.rwareWit2Cfg with timeLimit := 2 } Props.C04.rwareWit2 [([1, 2], [1]), ([2, 1], [0])] 1) [2, 1] ∧
    rwareFirstLast (run { Props.C04.rwareWit2Cfg with timeLimit := 2 } Props.C04.rwareWit2
      [([1, 2], [1]), ([2, 1], [0])]) = some 1 := by
  refine ⟨by decide +kernel, ?_, by decide +kernel, by decide +kernel, by decide +kernel⟩
  intro k p h
  rcases Nat.lt_or_ge k 2 with h' | h'
  · exact h'
  · rw [List.getElem?_eq_none (by simpa using h')] at h; cases h
end Props.C11

namespace Props.C12
/-- C12, the copied fields: the observation carries the successor's own mask and step count, the
cached mask is recomputed from the successor's floor, and the sensor vectors are computed from
the successor (not the predecessor) world.  `makeObservations = observe` (L1 = L2 sensors) on every
consistent state is `rware_obs_faithful` below (and is also evaluated by the driver on every consistent
implementation state). -/
theorem rware_obs_copied_partial (cfg : Cfg) (s : State) (a d : List Int) :
    (step cfg s a d).2.obs.mask = (step cfg s a d).1.mask ∧
    (step cfg s a d).2.obs.stepCount = (step cfg s a d).1.stepCount ∧
    (step cfg s a d).1.mask = computeMask (step cfg s a d).1.shelfGrid (step cfg s a d).1.agents ∧
    (step cfg s a d).2.obs.view = makeObservations cfg (step cfg s a d).1.world :=
  RobotWarehouse.obs_copied cfg s a d

/-- on the witness state the L1 sensor vector equals the documented (table-based) one -/
example : makeObservations Props.C04.rwareWitCfg Props.C04.rwareWit.world =
    (observe Props.C04.rwareWitCfg Props.C04.rwareWit).view := by decide +kernel

/-- C12 (all sizes and sensor ranges): on every `Consistent` state the L1 sensor vectors
(`make_agent_observation`, with the clamping of `dynamic_update_slice` and the clamped windows of the
padded channels) equal the documented table-based ones: an entity is reported iff it lies inside the
agent's sensor window, at the slot of its shifted position -/
theorem rware_obs_faithful (cfg : Cfg) (s : State) (hc : Consistent cfg s) :
    makeObservations cfg s.world = (observe cfg s).view := RobotWarehouse.obs_faithful hc

/-- reset: the whole observation built from a consistent generated state is the documented one -/
theorem rware_reset_obs_faithful (cfg : Cfg) (s : State) (hc : Consistent cfg s) :
    resetObs cfg s = observe cfg s := RobotWarehouse.resetObs_faithful hc

/-- step: the whole observation emitted by EVERY step without a collision from a consistent state (any joint
action, any draw in the support) — the LAST step of an episode that ends by the time limit included — is the
documented observation of the successor state.  (On a LAST step caused by a collision this is false: known
finding RW2.) -/
theorem rware_step_obs_faithful (cfg : Cfg) (s : State) (a d : List Int) (hc : Consistent cfg s)
    (hv : Props.C07.rwareValidDraw cfg s a d) (hcol : Props.C07.rwareNoCollision cfg s a) :
    (step cfg s a d).2.obs = observe cfg (step cfg s a d).1 :=
  (step_obs cfg s a d).trans (resetObs_faithful (step_consistent_nocoll hc a d hv hcol))

/-- the hypotheses are satisfiable by a time-limit terminal step: with `time_limit = 1` the delivery step of the
witness is LAST, has no collision, and its observation is the documented one -/
example : Consistent { Props.C04.rwareWit2Cfg with timeLimit := 1 } Props.C04.rwareWit2 ∧
    Props.C07.rwareValidDraw { Props.C04.rwareWit2Cfg with timeLimit := 1 } Props.C04.rwareWit2 [1, 2] [1] ∧
    Props.C07.rwareNoCollision { Props.C04.rwareWit2Cfg with timeLimit := 1 } Props.C04.rwareWit2 [1, 2] ∧
    (step { Props.C04.rwareWit2Cfg with timeLimit := 1 } Props.C04.rwareWit2 [1, 2] [1]).2.stepType = .last := by
  decide +kernel
end Props.C12

namespace Props.C01
/-- reset: the observation built from a generated state (step count 0) has `action_mask ∈ [0, 1]` and
`step_count ∈ [0, time_limit]`; `agents_view` is declared unbounded (`specs.Array`) and listed as such -/
theorem robot_warehouse_reset_obs_in_bounds (cfg : Cfg) (s : State) (hs : s.stepCount = 0) (hT : 0 ≤ cfg.timeLimit) :
    ObsInBounds (obsBounds cfg) (resetObs cfg s) := RobotWarehouse.reset_obs_in_bounds cfg s hs hT

/-- step: for EVERY state whose step count lies in `[0, time_limit)` (the step that reaches `time_limit`, and a
step ended by a collision, included), every joint action and every draw of the resampled requests, every leaf
of the observation is inside its interval of `obsBounds cfg` -/
theorem robot_warehouse_step_obs_in_bounds (cfg : Cfg) (s : State) (a d : List Int) (h0 : 0 ≤ s.stepCount)
    (hT : s.stepCount < cfg.timeLimit) :
    ObsInBounds (obsBounds cfg) (step cfg s a d).2.obs := RobotWarehouse.step_obs_in_bounds cfg s a d h0 hT

/-- the bounds list covers every leaf of the observation -/
theorem robot_warehouse_obs_bounds_cover (cfg : Cfg) (o : Obs) :
    (obsLeaves o).map (·.1) = (obsBounds cfg).map (·.1) := rfl

/-- the bound is attained: with `time_limit = 1` the first step emits `step_count = 1` -/
example : (step { Props.C04.rwareWitCfg with timeLimit := 1 } Props.C04.rwareWit [0] []).2.obs.stepCount = 1 := by decide +kernel

/-! NOTE on what the membership theorems of this section do and do not cover: the dtype tag of every leaf
is written by `toNValue` (by construction) — a wrong dtype in the real code cannot falsify `….valid (toNValue …) = true`; dtypes and
field order of the real observations are compared by the `robot_warehouse.spec` / `robot_warehouse.state` ops (`nvalue`: field order, shape, dtype, data) and
`jax.eval_shape` in the sweeps.  Shapes are READ OFF the value by `toNValue` (widths off the first row): see `…_obs_valid_only`. -/

/-! #### membership in the DECLARED specs: structure, shapes, dtypes and bounds -/
open Sp PzS PkS MaS

/-- the invariant behind the membership theorems (`A` agents, a cached `(A, 5)` mask, counter ≥ 0) is established by the
generator for EVERY draw in the support of `spawn_random_entities` and preserved by EVERY step: any integers as joint action
(any length, in the action space or not, masked or not), any integers as draw, MID or LAST, collision or not -/
theorem robot_warehouse_specInv_invariant (cfg : Cfg) (A : Nat) :
    (∀ q d, validSpawn A q cfg.highways d = true → SpecInv A (generate cfg d)) ∧
    (∀ (s : State) (a d : List Int), SpecInv A s → SpecInv A (step cfg s a d).1) :=
  ⟨fun q d hd => RobotWarehouse.generate_specInv cfg A q d hd, fun s a d h => RobotWarehouse.step_specInv cfg A s h a d⟩

/-- every sensor vector has exactly `num_obs_features = 8 + 5·((2r+1)² − 1) + 2·(2r+1)²` entries, for EVERY world and agent index
(each `dynamic_update_slice` keeps the length) -/
theorem robot_warehouse_agentObs_length (cfg : Cfg) (w : World) (i : Nat) :
    (agentObs cfg w i).length = numFeatures cfg.sensorRange := RobotWarehouse.agentObs_length cfg w i

/-- the `reset` observation is accepted by `observation_spec.validate` for EVERY draw of the generator (`A ≥ 1` agents,
`time_limit ≥ 0`, any floor).  NOTE: `0 ≤ time_limit` suffices for the RESET observation only; every step theorem
below needs `step_count < time_limit`, i.e. `0 < time_limit` (the constructor accepts `time_limit = 0`; there the first step has
`step_count = 1` outside `[0, 0]`, as for Snake / Connector: `Props.C01.snake_time_limit_zero_witness`). -/
theorem robot_warehouse_reset_obs_valid (cfg : Cfg) (A q : Nat) (hA : 0 < A) (hT : 0 ≤ cfg.timeLimit) (d : SpawnDraw)
    (hd : validSpawn A q cfg.highways d = true) :
    (obsSpec cfg A).valid (toNValue (resetTs cfg (generate cfg d)).obs) = true :=
  RobotWarehouse.reset_obs_valid cfg A hA hT _ (RobotWarehouse.generate_specInv cfg A q d hd) rfl

/-- … and on any state satisfying the invariant with counter 0 -/
theorem robot_warehouse_reset_obs_valid_of_inv (cfg : Cfg) (A : Nat) (hA : 0 < A) (hT : 0 ≤ cfg.timeLimit) (s : State)
    (h : SpecInv A s) (h0 : s.stepCount = 0) : (obsSpec cfg A).valid (toNValue (resetTs cfg s).obs) = true :=
  RobotWarehouse.reset_obs_valid cfg A hA hT s h h0

/-- the observation of EVERY `step` — any integers as joint action, any integers as draw, MID or LAST — from every state with
the invariant whose counter has not reached the limit -/
theorem robot_warehouse_step_obs_valid (cfg : Cfg) (A : Nat) (hA : 0 < A) (s : State) (h : SpecInv A s)
    (hlim : s.stepCount < cfg.timeLimit) (a d : List Int) :
    (obsSpec cfg A).valid (toNValue (step cfg s a d).2.obs) = true :=
  RobotWarehouse.step_obs_valid cfg A hA s h hlim a d

example : SpecInv 1 Props.C04.rwareWit := by decide +kernel

/-- WHOLE PLAYS: along `run` over ANY (joint action, draw) pairs from the reset state of ANY draw of the generator, every
observation emitted by one of the first `time_limit` steps is a member of the spec; step `time_limit` is LAST
(`Props.C11.rware_generated_episode_last_by_limit`; composed: `robot_warehouse_episode_obs_valid` below), so this covers every
observation of every episode incl. the terminal one -/
theorem robot_warehouse_obs_valid_along (cfg : Cfg) (A q : Nat) (hA : 0 < A) (d : SpawnDraw)
    (hd : validSpawn A q cfg.highways d = true) (ps : List (List Int × List Int)) (j : Nat)
    (hj : (j : Int) < cfg.timeLimit) (e : State × TimeStep Obs) (he : (run cfg (generate cfg d) ps)[j]? = some e) :
    (obsSpec cfg A).valid (toNValue e.2.obs) = true :=
  RobotWarehouse.run_obs_valid cfg A hA ps _ 0 (RobotWarehouse.generate_specInv cfg A q d hd) rfl j (by simpa using hj) e he

/-- the same from any state with `SpecInv` and step count 0 -/
theorem robot_warehouse_run_obs_valid (cfg : Cfg) (A : Nat) (hA : 0 < A) (s : State) (h : SpecInv A s)
    (h0 : s.stepCount = 0) (ps : List (List Int × List Int)) (j : Nat) (hj : (j : Int) < cfg.timeLimit)
    (e : State × TimeStep Obs) (he : (run cfg s ps)[j]? = some e) : (obsSpec cfg A).valid (toNValue e.2.obs) = true :=
  RobotWarehouse.run_obs_valid cfg A hA ps s 0 h (by simpa using h0) j (by simpa using hj) e he

/-- what membership means: `validate` accepts an observation ONLY IF there are `A` sensor vectors with `A · num_obs_features`
entries in all, the mask is `(A, 5)` and the counter lies in `[0, time_limit]` (the sensor VALUES are unconstrained: the leaf is
an unbounded `Array`).  CAVEAT: `shape2` reads the width off the FIRST row — a ragged value with the right total is a
member; rectangularity (`Rect2`) is part of `SpecInv` / `ObsOK` and exported for every emitted observation by
`robot_warehouse_step_obs_rect` below. -/
theorem robot_warehouse_obs_valid_only (cfg : Cfg) (A : Nat) (o : Obs) (h : (obsSpec cfg A).valid (toNValue o) = true) :
    shape2 o.view = [A, numFeatures cfg.sensorRange] ∧ o.view.flatten.length = A * numFeatures cfg.sensorRange ∧
    shape2 o.mask = [A, 5] ∧ o.mask.flatten.length = A * 5 ∧ 0 ≤ o.stepCount ∧ o.stepCount ≤ cfg.timeLimit :=
  RobotWarehouse.obs_valid_only cfg A o h

/-- the rectangular facts `valid ∘ toNValue` does not imply, for every step observation from a state with the invariant:
`A` sensor vectors EACH of length `num_obs_features`, `A` mask rows EACH of length 5, the counter in `[0, time_limit]` -/
theorem robot_warehouse_step_obs_rect (cfg : Cfg) (A : Nat) (s : State) (h : SpecInv A s)
    (hlim : s.stepCount < cfg.timeLimit) (a d : List Int) :
    Rect2 (step cfg s a d).2.obs.view A (numFeatures cfg.sensorRange) ∧ Rect2 (step cfg s a d).2.obs.mask A 5 ∧
    0 ≤ (step cfg s a d).2.obs.stepCount ∧ (step cfg s a d).2.obs.stepCount ≤ cfg.timeLimit :=
  RobotWarehouse.step_obs_ok cfg A s h hlim a d

/-- ONE statement for whole episodes: from the reset state of EVERY draw of the generator, for ANY play of at least
`time_limit ≥ 1` (joint action, draw) pairs: the reset observation is a member of the declared spec, there IS a first LAST
timestep, its 0-based index `k` satisfies `k + 1 ≤ time_limit`, and the observation of every step up to and including it is a
member -/
theorem robot_warehouse_episode_obs_valid (cfg : Cfg) (A q : Nat) (hA : 0 < A) (d : SpawnDraw)
    (hd : validSpawn A q cfg.highways d = true) (T : Nat) (hT : cfg.timeLimit = (T : Int)) (hpos : 0 < T)
    (ps : List (List Int × List Int)) (hlen : T ≤ ps.length) :
    (obsSpec cfg A).valid (toNValue (resetTs cfg (generate cfg d)).obs) = true ∧
    ∃ k, Props.C11.rwareFirstLast (run cfg (generate cfg d) ps) = some k ∧ k + 1 ≤ T ∧
      ∀ j e, j ≤ k → (run cfg (generate cfg d) ps)[j]? = some e → (obsSpec cfg A).valid (toNValue e.2.obs) = true := by
  refine ⟨robot_warehouse_reset_obs_valid cfg A q hA (by omega) d hd, ?_⟩
  obtain ⟨k, hk1, hk2⟩ := Props.C11.rware_generated_episode_last_by_limit cfg d ps T hT hpos hlen
  exact ⟨k, hk1, hk2, fun j e hj he => robot_warehouse_obs_valid_along cfg A q hA d hd ps j (by omega) e he⟩

/-- positive: the reset observation and the observation after a step of the witness; negative: a counter beyond the limit, the
spec of two agents, the spec of another sensor range, a sensor vector one entry short -/
example :
    let cfg := Props.C04.rwareWitCfg
    let s := Props.C04.rwareWit
    (obsSpec cfg 1).valid (toNValue (resetTs cfg s).obs) = true ∧
    (obsSpec cfg 1).valid (toNValue (step cfg s [4] []).2.obs) = true ∧
    (obsSpec cfg 1).valid (toNValue { (resetTs cfg s).obs with stepCount := 11 }) = false ∧
    (obsSpec cfg 2).valid (toNValue (resetTs cfg s).obs) = false ∧
    (obsSpec { cfg with sensorRange := 2 } 1).valid (toNValue (resetTs cfg s).obs) = false ∧
    (obsSpec cfg 1).valid (toNValue { (resetTs cfg s).obs with view := [((resetTs cfg s).obs.view.headD []).drop 1] }) = false := by
  decide +kernel

/-- reward and discount of EVERY step (all states, all actions, all draws) and of `reset` are accepted by `reward_spec`
(Array((), float)) and `discount_spec` (BoundedArray((), float, 0, 1)) -/
theorem robot_warehouse_reward_discount_valid (cfg : Cfg) (s : State) (a d : List Int) (s0 : State) :
    PzS.rewardSpec.valid (scalarArr (step cfg s a d).2.reward) = true ∧
    PzS.discountSpec.valid (scalarArr (step cfg s a d).2.discount) = true ∧
    PzS.rewardSpec.valid (scalarArr (resetTs cfg s0).reward) = true ∧
    PzS.discountSpec.valid (scalarArr (resetTs cfg s0).discount) = true :=
  ⟨(RobotWarehouse.step_reward_discount_valid cfg s a d).1, (RobotWarehouse.step_reward_discount_valid cfg s a d).2,
   (RobotWarehouse.reset_reward_discount_valid cfg s0).1, (RobotWarehouse.reset_reward_discount_valid cfg s0).2⟩

/-- `action_spec.generate_value()` = the all-no-op joint action: the action spec is well-formed, the generated value is a
member, and `step` answers it from every state with the invariant (counter below the limit, any draw) with a protocol-conform
timestep whose observation is a member of the spec -/
theorem robot_warehouse_accepts_generate_value (cfg : Cfg) (A : Nat) (hA : 0 < A) (s : State) (h : SpecInv A s)
    (hlim : s.stepCount < cfg.timeLimit) (d : List Int) :
    (actionSpec A).WF = true ∧ (actionSpec A).valid (actionSpec A).generate = true ∧
    (actionSpec A).generate = actionArr (List.replicate A 0) ∧
    StepOK none false (step cfg s (List.replicate A 0) d).2 = true ∧
    (obsSpec cfg A).valid (toNValue (step cfg s (List.replicate A 0) d).2.obs) = true :=
  RobotWarehouse.accepts_generate_value cfg A hA s h hlim d

/-- membership in `action_spec` is "one entry per agent, each one of 0 … 4" -/
theorem robot_warehouse_action_spec_iff (A : Nat) (as : List Int) :
    (actionSpec A).valid (actionArr as) = true ↔ as.length = A ∧ ∀ a ∈ as, 0 ≤ a ∧ a < 5 :=
  actionSpecN_valid_iff A 5 as
end Props.C01

namespace Props.C08
/-- every goal `(y, x)` of the configuration is a cell of the floor -/
def rwareGoalsInside (cfg : Cfg) : Prop := RobotWarehouse.GoalsInside cfg
instance (cfg : Cfg) : Decidable (rwareGoalsInside cfg) := by unfold rwareGoalsInside; infer_instance

/-- C08, one step.  L2 `deliveries shelves queue goals draws`: go through the goal cells in order; if the
shelf standing on the goal cell (by the shelf TABLE) is in the request queue it is delivered, and its queue
slot is refilled with the drawn id.  From a `Consistent` state, for any joint action without collision and any
draw in the support: the reward of the step is the number of deliveries (positions taken from the successor's
shelf table, queue from the predecessor), and the successor's queue is the L2 queue. -/
theorem rware_step_reward_is_deliveries (cfg : Cfg) (s : State) (a d : List Int) (hc : Consistent cfg s)
    (hg : rwareGoalsInside cfg) (hv : Props.C07.rwareValidDraw cfg s a d) (hcol : Props.C07.rwareNoCollision cfg s a) :
    (step cfg s a d).2.reward =
      [(((deliveries (step cfg s a d).1.shelves s.queue cfg.goals d).1.length : Nat) : Rat)] ∧
    (step cfg s a d).1.queue = (deliveries (step cfg s a d).1.shelves s.queue cfg.goals d).2 :=
  RobotWarehouse.step_reward_deliveries hc hg a d hv hcol


/-- C08, one step, NO hypotheses (any state, any joint action, any draw; the step ended by a collision
included): the reward is a single number, the count of goals that fire in the L1 scan over the goals (`firedCount`
counts the `goalFires` tests of `scanGoals` itself — an L1 quantity; the statement in terms of the RULES is
`rware_step_reward_is_deliveries`), hence a natural number not larger than the number of goals -/
theorem rware_step_reward_l1_count (cfg : Cfg) (s : State) (a d : List Int) :
    (step cfg s a d).2.reward = [((firedCount (afterMoves cfg s a).shelfGrid
      ⟨s.queue, (afterMoves cfg s a).shelves, 0⟩ cfg.goals d : Nat) : Rat)] ∧
    firedCount (afterMoves cfg s a).shelfGrid ⟨s.queue, (afterMoves cfg s a).shelves, 0⟩ cfg.goals d
      ≤ cfg.goals.length := by
  refine ⟨?_, firedCount_le _ _ _ _⟩
  rw [step_reward_eq, scanGoals_reward]
  simp only [Rat.zero_add]

/-- a 1×3 floor with the goal in the middle: agent 0 (left, facing right) carries the REQUESTED shelf 0, agent 1
(right, facing left) carries the unrequested shelf 1 -/
def rwareCollWit : State :=
  { shelfGrid := [[1, 0, 2]], agentGrid := [[1, 0, 2]], agents := [⟨0, 0, 1, true⟩, ⟨0, 2, 3, true⟩],
    shelves := [⟨0, 0, 1⟩, ⟨0, 2, 0⟩], queue := [0], stepCount := 0,
    mask := [[true, true, true, true, true], [true, true, true, true, true]] }
def rwareCollCfg : Cfg := { timeLimit := 10, sensorRange := 1, highways := [[false, true, false]], goals := [(1, 0)] }

/-- the hypothesis "no collision" of `rware_step_reward_is_deliveries` cannot be dropped: both agents step onto
the goal cell; the later write of `forward` overwrites the shelf channel there (it shows shelf 1), so the
requested shelf 0 — which the shelf table also has on the goal cell — is NOT counted: reward 0 on this (LAST)
step, one delivery by the tables -/
theorem rware_collision_step_reward_witness :
    Consistent rwareCollCfg rwareCollWit ∧ rwareGoalsInside rwareCollCfg ∧
    Props.C07.rwareValidDraw rwareCollCfg rwareCollWit [1, 1] [1] ∧
    ¬ Props.C07.rwareNoCollision rwareCollCfg rwareCollWit [1, 1] ∧
    (step rwareCollCfg rwareCollWit [1, 1] [1]).2.stepType = .last ∧
    (step rwareCollCfg rwareCollWit [1, 1] [1]).1.shelves = [⟨0, 1, 1⟩, ⟨0, 1, 0⟩] ∧
    (step rwareCollCfg rwareCollWit [1, 1] [1]).1.shelfGrid = [[0, 2, 0]] ∧
    (deliveries (step rwareCollCfg rwareCollWit [1, 1] [1]).1.shelves rwareCollWit.queue rwareCollCfg.goals [1]).1 = [0] ∧
    firedCount (afterMoves rwareCollCfg rwareCollWit [1, 1]).shelfGrid
      ⟨rwareCollWit.queue, (afterMoves rwareCollCfg rwareCollWit [1, 1]).shelves, 0⟩ rwareCollCfg.goals [1] = 0 := by
  decide +kernel

/-- each goal cell delivers at most once per step -/
theorem rware_deliveries_at_most_goals (P : List Shelf) (gs : List (Int × Int)) (q ds : List Int) :
    (deliveries P q gs ds).1.length ≤ gs.length := by
  induction gs generalizing q ds with
  | nil => simp [deliveries]
  | cons g gs ih =>
    simp only [deliveries]
    split
    · split
      · simp only [List.length_cons]
        exact Nat.succ_le_succ (ih _ _)
      · have := ih q ds.tail
        simp only [List.length_cons]
        omega
    · have := ih q ds.tail
      simp only [List.length_cons]
      omega

/-- every delivered shelf stands on a goal cell and was requested: its id was in the request queue at the
beginning of the step, or is one of the ids drawn (requested) during the step -/
theorem rware_deliveries_sound (P : List Shelf) (gs : List (Int × Int)) (q ds : List Int) (k : Nat)
    (hl : gs.length ≤ ds.length) (hk : k ∈ (deliveries P q gs ds).1) :
    (∃ g ∈ gs, shelfIdxAt P (g.2, g.1) = some k) ∧ ((k : Int) ∈ q ∨ (k : Int) ∈ ds) := by
  induction gs generalizing q ds k with
  | nil => simp [deliveries] at hk
  | cons g gs ih =>
    cases ds with
    | nil => simp at hl
    | cons d0 ds' =>
    simp only [List.length_cons] at hl
    have hl' : gs.length ≤ ds'.length := by omega
    simp only [deliveries, List.headD_cons, List.tail_cons] at hk
    split at hk
    · rename_i k0 hk0
      split at hk
      · rename_i hq
        simp only [List.mem_cons] at hk
        rcases hk with rfl | hk
        · exact ⟨⟨g, List.mem_cons_self .., hk0⟩, Or.inl hq⟩
        · obtain ⟨⟨g', hg', h1⟩, h2⟩ := ih _ _ k hl' hk
          refine ⟨⟨g', List.mem_cons_of_mem _ hg', h1⟩, ?_⟩
          rcases h2 with h2 | h2
          · simp only [List.mem_map] at h2
            obtain ⟨v, hv, hvk⟩ := h2
            split at hvk
            · right
              rw [← hvk]
              exact List.mem_cons_self ..
            · left
              rw [← hvk]
              exact hv
          · exact Or.inr (List.mem_cons_of_mem _ h2)
      · obtain ⟨⟨g', hg', h1⟩, h2⟩ := ih _ _ k hl' hk
        exact ⟨⟨g', List.mem_cons_of_mem _ hg', h1⟩, h2.imp id (List.mem_cons_of_mem _)⟩
    · obtain ⟨⟨g', hg', h1⟩, h2⟩ := ih _ _ k hl' hk
      exact ⟨⟨g', List.mem_cons_of_mem _ hg', h1⟩, h2.imp id (List.mem_cons_of_mem _)⟩

/-- the draws of every step lie in the support and no step has a collision (the play may run on past the
time limit; a play of an episode satisfies this up to and excluding a step ended by a collision) -/
def rwareValidRun (cfg : Cfg) (s : State) (ps : List (List Int × List Int)) : Prop := RobotWarehouse.ValidRun cfg s ps
instance (cfg : Cfg) (s : State) (ps : List (List Int × List Int)) : Decidable (rwareValidRun cfg s ps) := by
  unfold rwareValidRun; infer_instance

/-- the state such a run ends in is `Consistent` -/
theorem rware_run_consistent (cfg : Cfg) (s : State) (ps : List (List Int × List Int)) (hc : Consistent cfg s)
    (hv : rwareValidRun cfg s ps) : Consistent cfg (runState cfg s ps) := RobotWarehouse.run_consistent ps s hc hv

/-- C08, whole episode (telescoping over any play satisfying `rwareValidRun`): the return is the number
of deliveries of the play (`runDeliveries` = the list of (step, shelf id) pairs, each delivery at a goal cell
listed once) -/
theorem rware_episode_return (cfg : Cfg) (s : State) (ps : List (List Int × List Int)) (hc : Consistent cfg s)
    (hg : rwareGoalsInside cfg) (hv : rwareValidRun cfg s ps) :
    runReturn cfg s ps = (((runDeliveries cfg s ps 0).length : Nat) : Rat) :=
  RobotWarehouse.run_return hg ps s 0 hc hv

/-- the hypotheses are satisfiable by a play with a delivery: agent 0 carries the requested shelf 0 onto the
goal (shelf 1 becomes the request), then turns while agent 1 walks: return 1 = one delivery, (step 0, shelf 0) -/
example : Consistent Props.C04.rwareWit2Cfg Props.C04.rwareWit2 ∧ rwareGoalsInside Props.C04.rwareWit2Cfg ∧
    rwareValidRun Props.C04.rwareWit2Cfg Props.C04.rwareWit2 [([1, 2], [1]), ([2, 1], [0])] ∧
    runDeliveries Props.C04.rwareWit2Cfg Props.C04.rwareWit2 [([1, 2], [1]), ([2, 1], [0])] 0 = [(0, 0)] := by
  decide +kernel
example : runReturn Props.C04.rwareWit2Cfg Props.C04.rwareWit2 [([1, 2], [1]), ([2, 1], [0])] = 1 := by
  decide +kernel
end Props.C08

namespace Props.C10
/-- C10: the generator's construction from sampled values satisfying the certificate (as in
`Props.C07.rware_reset_consistent`, plus: every shelf cell is off the highways) passes the spawn certificate
`SpawnOK` evaluated by the driver: consistent, step count 0, nobody carries, no shelf on a highway -/
theorem rware_reset_spawn_ok (cfg : Cfg) (R C : Nat) (hR : 0 < R) (hC : 0 < C)
    (hH : Jx.Grid.shaped cfg.highways R C = true)
    (agentCells : List (Int × Int)) (dirs : List Int) (shelfCells : List (Int × Int)) (queue : List Int)
    (hlen : agentCells.length ≤ dirs.length)
    (haIn : ∀ c ∈ agentCells, inGrid R C c.1 c.2) (haNd : agentCells.Nodup)
    (hdir : ∀ d ∈ dirs, 0 ≤ d ∧ d < 4)
    (hsIn : ∀ c ∈ shelfCells, inGrid R C c.1 c.2) (hsNd : shelfCells.Nodup)
    (hqNd : queue.Nodup) (hqR : ∀ q ∈ queue, 0 ≤ q ∧ q < (shelfCells.length : Int))
    (hoff : ∀ c ∈ shelfCells, Jx.Grid.getWC cfg.highways true c.1 c.2 = false) :
    SpawnOK cfg (genState R C agentCells dirs shelfCells queue) := by
  refine ⟨Props.C07.rware_reset_consistent cfg R C hR hC hH agentCells dirs shelfCells queue hlen haIn haNd hdir hsIn hsNd hqNd hqR,
    rfl, ?_, ?_⟩
  · intro ag hag
    unfold genState at hag
    simp only [] at hag
    obtain ⟨m, hm, rfl⟩ := List.getElem_of_mem hag
    simp
  · intro sh hsh
    unfold genState at hsh
    simp only [] at hsh
    obtain ⟨m, hm, rfl⟩ := List.getElem_of_mem hsh
    simp only [List.getElem_zipWith]
    exact hoff _ (List.getElem_mem _)

/-- the hypotheses of `rware_reset_spawn_ok` are satisfiable (same instance as for `rware_reset_consistent`; the
shelf cells `(0, 0)`, `(1, 2)` are the non-highway cells of the witness configuration) -/
example : (∀ c ∈ ([(0, 0), (1, 2)] : List (Int × Int)), Jx.Grid.getWC Props.C04.rwareWit2Cfg.highways true c.1 c.2 = false) ∧
    shelfCells Props.C04.rwareWit2Cfg.highways = [(0, 0), (0, 2), (1, 2)] := by decide +kernel

/-- the draw `d` lies in the support of `spawn_random_entities` for `numAgents` agents and a request queue of
`queueSize`: the agent cells are `numAgents` PAIRWISE DIFFERENT flat indices of the floor
(`choice(..., replace=False)`), one direction in `0..3` per agent, the queue consists of `queueSize` pairwise
different shelf ids (exactly the test the driver's `instance` op applies to every reset state) -/
def rwareValidSpawn (cfg : Cfg) (numAgents queueSize : Nat) (d : SpawnDraw) : Prop :=
  validSpawn numAgents queueSize cfg.highways d = true
instance (cfg : Cfg) (na q : Nat) (d : SpawnDraw) : Decidable (rwareValidSpawn cfg na q d) := by
  unfold rwareValidSpawn; infer_instance

/-- C10 (ALL draws in the support, any floor): `generate cfg d` — `RandomGenerator.__call__` with the sampled
values `d`: agents on the unravelled cells, shelves on the non-highway cells (`argwhere`), `is_requested` by
scatter, both channels by `place_entities_on_grid`, mask computed, step count 0 — passes the spawn certificate
`SpawnOK` and has the advertised numbers of agents, requests and shelves.  The distinctness of the agent
cells is DERIVED from the sampling without replacement (injectivity of `unravel_index`), not assumed. -/
theorem rware_generate_spawn_ok (cfg : Cfg) (R C : Nat) (hR : 0 < R) (hC : 0 < C)
    (hH : Jx.Grid.shaped cfg.highways R C = true) (numAgents queueSize : Nat) (d : SpawnDraw)
    (hv : rwareValidSpawn cfg numAgents queueSize d) :
    SpawnOK cfg (generate cfg d) ∧ (generate cfg d).agents.length = numAgents ∧
    (generate cfg d).queue.length = queueSize ∧
    (generate cfg d).shelves.length = (shelfCells cfg.highways).length := by
  have hd := shaped_dims hH hR
  obtain ⟨hsc, hsnd⟩ := shelfCells_props hH hR
  unfold rwareValidSpawn at hv
  simp only [validSpawn, Bool.and_eq_true, decide_eq_true_eq, List.all_eq_true] at hv
  obtain ⟨⟨⟨⟨⟨⟨⟨hl1, hl2⟩, hl3⟩, hflat⟩, hnd⟩, hdirs⟩, hq⟩, hqnd⟩ := hv
  rw [hd.1, hd.2] at hflat
  have hlen : (d.agentFlat.map (unravel C)).length ≤ d.dirs.length := by simp; omega
  have haIn : ∀ c ∈ d.agentFlat.map (unravel C), inGrid R C c.1 c.2 := by
    intro c hc
    obtain ⟨k, hk, rfl⟩ := List.mem_map.1 hc
    exact unravel_inGrid (hflat k hk).1 (hflat k hk).2
  have haNd : (d.agentFlat.map (unravel C)).Nodup :=
    List.Pairwise.map _ (fun a b hab h => hab (unravel_inj h)) hnd
  have hso := rware_reset_spawn_ok cfg R C hR hC hH (d.agentFlat.map (unravel C)) d.dirs (shelfCells cfg.highways) d.queue hlen
    haIn haNd (fun k hk => hdirs k hk) (fun c hc => (hsc c hc).1) hsnd hqnd (fun q hq' => hq q hq')
    (fun c hc => (hsc c hc).2)
  unfold generate
  rw [hd.1, hd.2]
  refine ⟨hso, ?_, hl3, ?_⟩
  · simp [genState]; omega
  · simp [genState, requestedFlags_length]

/-- the hypotheses are satisfiable: two agents on the flat cells 0 and 3 of the 2×3 witness floor, one request -/
example : rwareValidSpawn Props.C04.rwareWit2Cfg 2 1 ⟨[0, 3], [1, 0], [0]⟩ ∧
    Jx.Grid.shaped Props.C04.rwareWit2Cfg.highways 2 3 = true ∧
    (generate Props.C04.rwareWit2Cfg ⟨[0, 3], [1, 0], [0]⟩).agents = [⟨0, 0, 1, false⟩, ⟨1, 0, 0, false⟩] ∧
    (generate Props.C04.rwareWit2Cfg ⟨[0, 3], [1, 0], [0]⟩).shelves = [⟨0, 0, 1⟩, ⟨0, 2, 0⟩, ⟨1, 2, 0⟩] := by decide +kernel

/-- sampling WITH replacement would break it: the same flat cell twice is outside the support, and the state built
from it is not consistent (the second agent overwrites the first on the agents channel) -/
theorem rware_generate_replacement_witness :
    ¬ rwareValidSpawn Props.C04.rwareWit2Cfg 2 1 ⟨[3, 3], [1, 0], [0]⟩ ∧
    ¬ Consistent Props.C04.rwareWit2Cfg (generate Props.C04.rwareWit2Cfg ⟨[3, 3], [1, 0], [0]⟩) := by decide +kernel

/-- C10, the floor `_make_warehouse` lays out (ALL `shelf_rows`, `shelf_columns ≥ 1`, `column_height`): the highway
table is a `rows × cols` grid with `rows, cols > 0`, both goal cells lie inside it — on highway cells (the delivery
row), so no shelf is ever spawned on a goal — which discharges the hypotheses `shaped` / `rwareGoalsInside` of the
C07/C08/C10 theorems for every generated configuration -/
theorem rware_layout_ok (l : Layout) (h : 1 ≤ l.shelfColumns) (timeLimit : Int) (sensorRange : Nat) :
    Jx.Grid.shaped l.highways l.rows l.cols = true ∧ 0 < l.rows ∧ 0 < l.cols ∧
    Props.C08.rwareGoalsInside ⟨timeLimit, sensorRange, l.highways, l.goals⟩ ∧
    (∀ g ∈ l.goals, Jx.Grid.getWC l.highways false g.2 g.1 = true) :=
  ⟨RobotWarehouse.layout_shaped l, (RobotWarehouse.layout_pos l).1, (RobotWarehouse.layout_pos l).2,
   RobotWarehouse.layout_goals_inside l h timeLimit sensorRange, RobotWarehouse.layout_goals_on_highway l h⟩

/-- C10 → C07/C11: every generated reset state (any layout, any draw in the support) is `Consistent` with step
count 0, so the step / episode theorems (`rware_step_consistent_no_collision`, `rware_episode_first_last`, …)
apply to it -/
theorem rware_generated_reset (l : Layout) (timeLimit : Int) (sensorRange numAgents queueSize : Nat) (d : SpawnDraw)
    (hv : rwareValidSpawn ⟨timeLimit, sensorRange, l.highways, l.goals⟩ numAgents queueSize d) :
    Consistent ⟨timeLimit, sensorRange, l.highways, l.goals⟩ (generate ⟨timeLimit, sensorRange, l.highways, l.goals⟩ d) ∧
    (generate ⟨timeLimit, sensorRange, l.highways, l.goals⟩ d).stepCount = 0 :=
  ⟨(rware_generate_spawn_ok ⟨timeLimit, sensorRange, l.highways, l.goals⟩ l.rows l.cols (RobotWarehouse.layout_pos l).1
      (RobotWarehouse.layout_pos l).2 (RobotWarehouse.layout_shaped l) numAgents queueSize d hv).1.1, rfl⟩

/-- the smallest layout of the test catalogue (`shelf_rows = 2, shelf_columns = 1, column_height = 2`): 8 × 4 floor -/
example : (Layout.mk 2 1 2).rows = 8 ∧ (Layout.mk 2 1 2).cols = 4 ∧ (Layout.mk 2 1 2).goals = [(1, 7), (2, 7)] ∧
    (shelfCells (Layout.mk 2 1 2).highways) = [(1, 1), (1, 2), (2, 1), (2, 2)] ∧
    rwareValidSpawn ⟨7, 1, (Layout.mk 2 1 2).highways, (Layout.mk 2 1 2).goals⟩ 2 1 ⟨[5, 30], [0, 3], [3]⟩ := by decide +kernel
end Props.C10
