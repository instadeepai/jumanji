/-
Property theorems for BinPack.  Two forms of the step exist (Env/BinPack/Model.lean):
* `step₁ cfg rnd s e i` — the deterministic L1 step: the EMS update is computed by `updateEms`, the transliteration
  of `_update_ems` / `_get_intersections_dict` / `_add_ems`.  Theorems with the suffix `₁` are about it and carry
  NO hypothesis on the EMS update.
* `step cfg rnd s e i d` — the relational step: the EMS update is ANY draw `d` in the relation `EmsRel`
  (`validDraw`).  The theorems about it are strictly more general (they hold for every implementation of
  `_update_ems` that stays inside the relation), and `binpack_updateEms_validDraw` (C06) is the bridge: the
  transliterated `_update_ems` is inside the relation for every state and every action.
The lemmas live in Env/BinPack/*.lean.  `rnd` is the float32 rounding used by `Space.volume()`; every theorem holds
for an arbitrary `rnd`.

Hypotheses used below:  `WF s` array shapes consistent;  `Fresh cfg rnd s` the cached `action_mask` /
`sorted_ems_indexes` are the ones `_make_observation_and_extras` computes (true after every reset
and step: `binpack_step_fresh`);  `InSpec cfg s e i` the action lies in the action spec.
-/
import JumanjiModel.Env.BinPack.Lemmas
import JumanjiModel.Env.BinPack.Bounds
import JumanjiModel.Env.BinPack.CoverLemmas
import JumanjiModel.Env.BinPack.EpisodeLemmas
import JumanjiModel.Env.BinPack.UpdateEms
import JumanjiModel.Env.BinPack.Step1
import JumanjiModel.Env.BinPack.ResetLemmas
import JumanjiModel.Env.BinPack.Covered
import JumanjiModel.Env.BinPack.SplitGen
import JumanjiModel.Env.BinPack.GenState
import JumanjiModel.Env.BinPack.Spec
import JumanjiModel.Core.EpisodeLemmas
open Jm BinPack

namespace Props.C01
/-!
`obsBounds cfg dm` (`dm` = the generator's `container_dims`): per axis every EMS coordinate and every item side
length of the observation lies in `[0, container side]` (raw) resp. `[0, 1]` (`normalize_dimensions`); the four
bool leaves in `{0, 1}`.  `BoundsInv dm s`: the container is `[0,cx]×[0,cy]×[0,cz]`, EVERY slot of the EMS buffer
(active or not: the observation shows both) lies inside it, and no item (present or padding) is larger than it.
`validDrawAll s e i d`: every slot of the successor EMS buffer `d` is the old slot or a non-empty
`hyperplane(item, axis, dir) ∩ old slot` (what `_add_ems` writes).  `rnd` (float32 rounding of the volumes that
order the EMSs) is arbitrary; the normalised coordinates are exact quotients.
-/

/-- `reset` (any generator output: any `n` items none of which is larger than the container, any item mask, any
buffer size): every leaf of the observation lies in the interval `obsBounds` lists for it -/
theorem binpack_reset_obs_in_bounds (cfg : Cfg) (rnd : Rat → Rat) (dm : Dims) (maxEms n : Nat) (items : List Item)
    (itemsMask : List Bool) (h : validReset dm n items itemsMask) :
    Jm.OB.InBounds (obsBounds cfg dm) (obsLeaves (reset cfg rnd dm maxEms items itemsMask).2.obs) :=
  BinPack.makeObs_in_bounds cfg rnd dm _ (BinPack.reset_inv cfg rnd dm maxEms n items itemsMask h)

/-- every step — ANY action `(e, i) : Int × Int` (inside or outside the action spec, valid or not), any rounding,
either reward function, the terminal step included — from a state with the invariant; when the step packs an item
(`stepValid`), the successor EMS buffer is any draw in `validDrawAll` -/
theorem binpack_step_obs_in_bounds (cfg : Cfg) (rnd : Rat → Rat) (dm : Dims) (s : State) (e i : Int) (d : EmsDraw)
    (h : BoundsInv dm s) (hd : stepValid s e i = true → validDrawAll s e i d) :
    Jm.OB.InBounds (obsBounds cfg dm) (obsLeaves (step cfg rnd s e i d).2.obs) :=
  by rw [BinPack.step_obs]; exact BinPack.makeObs_in_bounds cfg rnd dm _ (BinPack.mid_inv dm s e i d h hd)

theorem binpack_reset_boundsInv (cfg : Cfg) (rnd : Rat → Rat) (dm : Dims) (maxEms n : Nat) (items : List Item)
    (itemsMask : List Bool) (h : validReset dm n items itemsMask) :
    BoundsInv dm (reset cfg rnd dm maxEms items itemsMask).1 := BinPack.reset_inv cfg rnd dm maxEms n items itemsMask h
theorem binpack_step_boundsInv (cfg : Cfg) (rnd : Rat → Rat) (dm : Dims) (s : State) (e i : Int) (d : EmsDraw)
    (h : BoundsInv dm s) (hd : stepValid s e i = true → validDrawAll s e i d) :
    BoundsInv dm (step cfg rnd s e i d).1 :=
  BinPack.makeObs_inv cfg rnd dm _ (BinPack.mid_inv dm s e i d h hd)

/-- the same for the deterministic step `step₁` (EMS update = transliterated `_update_ems`): ANY action
`(e, i) : Int × Int`, no hypothesis on the EMS update -/
theorem binpack_step_obs_in_bounds₁ (cfg : Cfg) (rnd : Rat → Rat) (dm : Dims) (s : State) (e i : Int)
    (h : BoundsInv dm s) (hw : WF s) :
    Jm.OB.InBounds (obsBounds cfg dm) (obsLeaves (step₁ cfg rnd s e i).2.obs) :=
  binpack_step_obs_in_bounds cfg rnd dm s e i _ h (fun _ => (BinPack.updateEms_validDraw s hw e i).2)
/-- both hypotheses are invariants: established by `reset` (`binpack_reset_boundsInv`, `binpack_reset_WF`) and
preserved by every `step₁` -/
theorem binpack_step_boundsInv₁ (cfg : Cfg) (rnd : Rat → Rat) (dm : Dims) (s : State) (e i : Int)
    (h : BoundsInv dm s) (hw : WF s) : BoundsInv dm (step₁ cfg rnd s e i).1 ∧ WF (step₁ cfg rnd s e i).1 :=
  ⟨binpack_step_boundsInv cfg rnd dm s e i _ h (fun _ => (BinPack.updateEms_validDraw s hw e i).2),
   BinPack.step₁_WF cfg rnd s hw e i⟩
theorem binpack_reset_WF (cfg : Cfg) (rnd : Rat → Rat) (dm : Dims) (maxEms n : Nat) (items : List Item)
    (itemsMask : List Bool) (h : validReset dm n items itemsMask) : WF (reset cfg rnd dm maxEms items itemsMask).1 :=
  BinPack.reset_WF cfg rnd dm maxEms items itemsMask (by rw [h.2.2.2.2.1, h.2.2.2.1])

private def ex : State :=
  { container := ⟨0, 4, 0, 3, 0, 2⟩, ems := [⟨0, 4, 0, 3, 0, 2⟩, ⟨0, 0, 0, 0, 0, 0⟩], emsMask := [true, false]
    items := [⟨2, 2, 2⟩, ⟨4, 1, 1⟩], itemsMask := [true, true], itemsPlaced := [false, false]
    itemsLoc := [⟨0, 0, 0⟩, ⟨0, 0, 0⟩], actionMask := [[true, true], [false, false]], sortedIdx := [0, 1] }
example : validReset ⟨4, 3, 2⟩ 2 [⟨2, 2, 2⟩, ⟨4, 1, 1⟩] [true, true] := by decide +kernel
example : (reset ⟨2, false, true⟩ id ⟨4, 3, 2⟩ 2 [⟨2, 2, 2⟩, ⟨4, 1, 1⟩] [true, true]).1 = ex := by decide +kernel
/-- the hypotheses of the step theorem on a packing step: item 2×2×2 into the corner of the 4×3×2 container; the
cut above the item (z) is empty and not written, the x and y cuts are -/
example : BoundsInv ⟨4, 3, 2⟩ ex ∧ stepValid ex 0 0 = true ∧
    validDrawAll ex 0 0 ⟨[⟨2, 4, 0, 3, 0, 2⟩, ⟨0, 4, 2, 3, 0, 2⟩], [true, true]⟩ ∧
    validDraw ex 0 0 ⟨[⟨2, 4, 0, 3, 0, 2⟩, ⟨0, 4, 2, 3, 0, 2⟩], [true, true]⟩ := by decide +kernel
/-- … and that draw is exactly what the transliterated `_update_ems` computes -/
example : WF ex ∧ updateEms ex 0 0 = ⟨[⟨2, 4, 0, 3, 0, 2⟩, ⟨0, 4, 2, 3, 0, 2⟩], [true, true]⟩ := by decide +kernel
/-! NOTE on what the membership theorems of this section do and do not cover: the dtype tag of every leaf is written by
`toNValue` (by construction) — a wrong dtype in the real code cannot falsify `….valid (toNValue …) = true`; dtypes and field
order of the real observations are compared by the `bin_pack.spec` / `bin_pack.state` ops (`nvalue`: field order, shape, dtype,
data) and `jax.eval_shape` in the sweeps.  Shapes are READ OFF the value by `toNValue` (widths off the first row): see
`…_obs_valid_only`. -/

/-! #### membership in the model's `obsSpec` / `actionSpec` (the declared specs at the catalogue configurations:
`binpack_obsSpec_generated`, Props/SpecTable.lean): structure, shapes, dtypes and bounds -/
open Sp PzS PkS

/-- the invariant behind the membership theorems is established by `reset` (any generator output `validReset`, any buffer
size `max_num_ems ≥ obs_num_ems`) and preserved by EVERY step: any integers as action (inside the action spec or not, valid
or not), MID or LAST, with any admissible draw of the EMS update, and with NO hypothesis for the deterministic `step₁` -/
theorem binpack_specInv_invariant (cfg : Cfg) (rnd : Rat → Rat) (n : Nat) (dm : Dims) :
    (∀ (maxEms : Nat) (items : List Item) (itemsMask : List Bool), validReset dm n items itemsMask → cfg.obsNum ≤ maxEms →
      1 ≤ maxEms → SpecInv cfg n dm (reset cfg rnd dm maxEms items itemsMask).1) ∧
    (∀ (s : State) (e i : Int) (d : EmsDraw), SpecInv cfg n dm s →
      (stepValid s e i = true → validDraw s e i d ∧ validDrawAll s e i d) → SpecInv cfg n dm (step cfg rnd s e i d).1) ∧
    (∀ (s : State) (e i : Int), SpecInv cfg n dm s → SpecInv cfg n dm (step₁ cfg rnd s e i).1) :=
  ⟨fun maxEms items m h hE hE1 => BinPack.reset_specInv cfg rnd dm maxEms n items m h hE hE1,
   fun s e i d h hd => BinPack.step_specInv cfg rnd n dm s e i d h hd,
   fun s e i h => BinPack.step₁_specInv cfg rnd n dm s e i h⟩

/-- the `reset` observation — every generator output (any `n` items none of which is larger than the container, any item
mask, positive container sides), every buffer size `max_num_ems ≥ obs_num_ems ≥ 1`, either form of the observation
(normalised float32 / raw int32), any rounding of the volumes — is accepted by `observation_spec.validate` -/
theorem binpack_reset_obs_valid (cfg : Cfg) (rnd : Rat → Rat) (dm : Dims) (maxEms n : Nat) (hO : 0 < cfg.obsNum)
    (items : List Item) (itemsMask : List Bool) (h : validReset dm n items itemsMask) (hE : cfg.obsNum ≤ maxEms) :
    (obsSpec cfg n dm).valid (toNValue cfg.normalize (reset cfg rnd dm maxEms items itemsMask).2.obs) = true := by
  show (obsSpec cfg n dm).valid (toNValue cfg.normalize (makeObs cfg rnd _).2) = true
  -- the invariant does not mention the two caches `makeObs` writes
  exact BinPack.makeObs_valid cfg rnd n dm hO _ (BinPack.reset_specInv cfg rnd dm maxEms n items itemsMask h hE (by omega))

/-- FINDING (the constructor does not compare `obs_num_ems` with `generator.max_num_ems`): with a buffer SMALLER than
`obs_num_ems` the observation has only `max_num_ems` EMS rows and `observation_spec.validate` REJECTS it, already at `reset` —
for every instance.  Reproduction: `BinPack(generator=RandomGenerator(8, 20), obs_num_ems=30)`: the reset observation has
`ems.x1.shape == (20,)`, `action_mask.shape == (20, 8)`; `env.observation_spec.validate(ts.observation)` raises
"Expected shape (30, 8) but found (20, 8) for spec action_mask". -/
theorem binpack_reset_obs_not_valid (cfg : Cfg) (rnd : Rat → Rat) (dm : Dims) (maxEms n : Nat) (items : List Item)
    (itemsMask : List Bool) (hm : itemsMask.length = items.length) (hE1 : 1 ≤ maxEms) (hE : maxEms < cfg.obsNum) :
    (obsSpec cfg n dm).valid (toNValue cfg.normalize (reset cfg rnd dm maxEms items itemsMask).2.obs) = false := by
  rw [Bool.eq_false_iff]
  intro hv
  have hlen := (obs_valid_only cfg n dm _ hv).1
  -- the observation has `min obs_num_ems max_num_ems` EMS rows
  rw [show (reset cfg rnd dm maxEms items itemsMask).2.obs = (makeObs cfg rnd _).2 from rfl, makeObs_ems, obsEms,
    obsIdx_eq cfg rnd _ (by simp [WF, hm])] at hlen
  simp only [List.length_map, List.length_range, List.length_cons, List.length_replicate] at hlen
  omega

/-- the observation of EVERY `step` — any integers as action (in the action space or not, valid or not), MID or LAST, either
reward function — from every state with the invariant; when the step packs an item the successor EMS buffer is any draw in
the two relations -/
theorem binpack_step_obs_valid (cfg : Cfg) (rnd : Rat → Rat) (n : Nat) (dm : Dims) (hO : 0 < cfg.obsNum) (s : State)
    (e i : Int) (d : EmsDraw) (h : SpecInv cfg n dm s)
    (hd : stepValid s e i = true → validDraw s e i d ∧ validDrawAll s e i d) :
    (obsSpec cfg n dm).valid (toNValue cfg.normalize (step cfg rnd s e i d).2.obs) = true :=
  BinPack.step_obs_valid cfg rnd n dm hO s e i d h hd

/-- the same for the deterministic step (EMS update = transliterated `_update_ems`): no hypothesis on the EMS update -/
theorem binpack_step_obs_valid₁ (cfg : Cfg) (rnd : Rat → Rat) (n : Nat) (dm : Dims) (hO : 0 < cfg.obsNum) (s : State)
    (e i : Int) (h : SpecInv cfg n dm s) :
    (obsSpec cfg n dm).valid (toNValue cfg.normalize (step₁ cfg rnd s e i).2.obs) = true :=
  BinPack.step₁_obs_valid cfg rnd n dm hO s e i h

/-- WHOLE EPISODES: along the rollout (`Ep.rollout` = the deterministic L1 step iterated) of ANY actions (any integers) from
`reset`, EVERY emitted observation is a member of the spec (no time limit: every index, the terminal observation and
whatever follows it included) -/
theorem binpack_rollout_obs_valid (cfg : Cfg) (rnd : Rat → Rat) (dm : Dims) (maxEms n : Nat) (hO : 0 < cfg.obsNum)
    (items : List Item) (itemsMask : List Bool) (h : validReset dm n items itemsMask) (hE : cfg.obsNum ≤ maxEms)
    (as : List (Int × Int)) (j : Nat) (e : State × TimeStep Obs)
    (he : (Ep.rollout (fun s (a : Int × Int) => step₁ cfg rnd s a.1 a.2) (reset cfg rnd dm maxEms items itemsMask).1 as)[j]?
      = some e) :
    (obsSpec cfg n dm).valid (toNValue cfg.normalize e.2.obs) = true := by
  obtain ⟨s', a, hinv, _, rfl⟩ := rollout_inv_idx (fun s (a : Int × Int) => step₁ cfg rnd s a.1 a.2)
    (fun _ s => SpecInv cfg n dm s) (fun _ => True)
    (fun _ s a h _ => step₁_specInv cfg rnd n dm s a.1 a.2 h) 0 _
    (reset_specInv cfg rnd dm maxEms n items itemsMask h hE (by omega)) as (fun _ _ => trivial) j e he
  exact step₁_obs_valid cfg rnd n dm hO s' a.1 a.2 hinv

/-- … and of the RELATIONAL step: any actions (any integers) with any EMS draws that are admissible when their turn comes
(`DrawsOK`: a step that packs an item gets a draw in `validDraw ∧ validDrawAll`; the draws of the other steps are ignored),
from any state with the invariant (e.g. the reset state, `binpack_specInv_invariant`): EVERY emitted observation is a member -/
theorem binpack_rollout_obs_valid_rel (cfg : Cfg) (rnd : Rat → Rat) (n : Nat) (dm : Dims) (hO : 0 < cfg.obsNum)
    (as : List (Int × Int × EmsDraw)) (s : State) (hs : SpecInv cfg n dm s) (hd : DrawsOK cfg rnd s as) (j : Nat)
    (e : State × TimeStep Obs)
    (he : (Ep.rollout (fun s (a : Int × Int × EmsDraw) => step cfg rnd s a.1 a.2.1 a.2.2) s as)[j]? = some e) :
    (obsSpec cfg n dm).valid (toNValue cfg.normalize e.2.obs) = true := by
  induction as generalizing s j with
  | nil => simp [Ep.rollout] at he
  | cons a as ih =>
    obtain ⟨hd1, hd2⟩ := hd
    cases j with
    | zero =>
      simp only [Ep.rollout, List.getElem?_cons_zero, Option.some.injEq] at he
      subst he
      exact BinPack.step_obs_valid cfg rnd n dm hO s a.1 a.2.1 a.2.2 hs hd1
    | succ j =>
      simp only [Ep.rollout, List.getElem?_cons_succ] at he
      exact ih _ (BinPack.step_specInv cfg rnd n dm s a.1 a.2.1 a.2.2 hs hd1) hd2 j he

/-- the hypothesis is satisfiable on a packing step: the draw of the running example (item 2×2×2 into the corner) -/
example : DrawsOK ⟨2, false, true⟩ id ex [(0, 0, ⟨[⟨2, 4, 0, 3, 0, 2⟩, ⟨0, 4, 2, 3, 0, 2⟩], [true, true]⟩)] :=
  ⟨by decide +kernel, trivial⟩

/-- what membership means: `validate` accepts an observation ONLY IF it has
`obs_num_ems` EMS rows and `n` item rows, every coordinate / side length lies in `[0, 1]` (normalised) resp. `[0, max_dim]`
(raw), the masks have the declared lengths and the action mask is `obs_num_ems × n`.
CAVEAT: for every field that is a nested list, `toNValue` reads the widths off the FIRST row of the nested list, so the shape
conjuncts here mean "row count, length of the first row, total number of cells" — a ragged value with the right total can be a
member, and nothing is concluded about the later rows.  Every EMITTED observation is rectangular: under the invariant `SpecInv` of the
forward theorems (`binpack_reset_obs_valid`, `binpack_step_obs_valid`, `binpack_rollout_obs_valid(_rel)`) its action mask is the
`obs_num_ems × n` table `legalMask` (`BinPack.maskOf_eq_legalMask`, `BinPack.legalMask_eq_table`). -/
theorem binpack_obs_valid_only (cfg : Cfg) (n : Nat) (dm : Dims) (o : Obs)
    (h : (obsSpec cfg n dm).valid (toNValue cfg.normalize o) = true) :
    o.ems.length = cfg.obsNum ∧
    (∀ e ∈ o.ems, In (hiR cfg.normalize dm) e.x1 ∧ In (hiR cfg.normalize dm) e.x2 ∧ In (hiR cfg.normalize dm) e.y1 ∧
      In (hiR cfg.normalize dm) e.y2 ∧ In (hiR cfg.normalize dm) e.z1 ∧ In (hiR cfg.normalize dm) e.z2) ∧
    o.emsMask.length = cfg.obsNum ∧ o.items.length = n ∧
    (∀ it ∈ o.items, In (hiR cfg.normalize dm) it.xl ∧ In (hiR cfg.normalize dm) it.yl ∧ In (hiR cfg.normalize dm) it.zl) ∧
    o.itemsMask.length = n ∧ o.itemsPlaced.length = n ∧ shape2 o.actionMask = [cfg.obsNum, n] :=
  BinPack.obs_valid_only cfg n dm o h

/-- the running example (4 × 3 × 2 container, two items, two EMS slots, two shown): the invariant holds at reset and after
the packing step; the reset observation is a member in both forms; membership FAILS with `obs_num_ems = 3 > max_num_ems = 2`
(the finding), for an item side beyond `max_dim`, and for another item count -/
example : SpecInv ⟨2, false, true⟩ 2 ⟨4, 3, 2⟩ ex ∧ SpecInv ⟨2, false, true⟩ 2 ⟨4, 3, 2⟩ (step₁ ⟨2, false, true⟩ id ex 0 0).1 ∧
    (obsSpec ⟨2, false, true⟩ 2 ⟨4, 3, 2⟩).valid
      (toNValue false (reset ⟨2, false, true⟩ id ⟨4, 3, 2⟩ 2 [⟨2, 2, 2⟩, ⟨4, 1, 1⟩] [true, true]).2.obs) = true ∧
    (obsSpec ⟨2, true, true⟩ 2 ⟨4, 3, 2⟩).valid
      (toNValue true (reset ⟨2, true, true⟩ id ⟨4, 3, 2⟩ 2 [⟨2, 2, 2⟩, ⟨4, 1, 1⟩] [true, true]).2.obs) = true ∧
    (obsSpec ⟨3, false, true⟩ 2 ⟨4, 3, 2⟩).valid
      (toNValue false (reset ⟨3, false, true⟩ id ⟨4, 3, 2⟩ 2 [⟨2, 2, 2⟩, ⟨4, 1, 1⟩] [true, true]).2.obs) = false ∧
    (obsSpec ⟨2, false, true⟩ 2 ⟨4, 3, 2⟩).valid
      (toNValue false (reset ⟨2, false, true⟩ id ⟨4, 3, 2⟩ 2 [⟨2, 2, 2⟩, ⟨5, 1, 1⟩] [true, true]).2.obs) = false ∧
    (obsSpec ⟨2, false, true⟩ 3 ⟨4, 3, 2⟩).valid
      (toNValue false (reset ⟨2, false, true⟩ id ⟨4, 3, 2⟩ 2 [⟨2, 2, 2⟩, ⟨4, 1, 1⟩] [true, true]).2.obs) = false := by
  decide +kernel

/-- reward and discount of every `step` (ALL states, ALL action values, all draws, both reward functions) and of `reset` are
accepted by `reward_spec` (Array((), float)) and `discount_spec` (BoundedArray((), float, 0, 1)) -/
theorem binpack_reward_discount_valid (cfg : Cfg) (rnd : Rat → Rat) (s : State) (e i : Int) (d : EmsDraw) (dm : Dims)
    (maxEms : Nat) (items : List Item) (m : List Bool) :
    rewardSpec.valid (scalarArr (step cfg rnd s e i d).2.reward) = true ∧
    discountSpec.valid (scalarArr (step cfg rnd s e i d).2.discount) = true ∧
    rewardSpec.valid (scalarArr (reset cfg rnd dm maxEms items m).2.reward) = true ∧
    discountSpec.valid (scalarArr (reset cfg rnd dm maxEms items m).2.discount) = true := by
  have hs := stepOK_reward_discount_valid false _ (BinPack.step_protocol cfg rnd s e i d)
  refine ⟨hs.1, hs.2, ?_⟩
  unfold reset; simp only [restart]; exact ⟨by decide, by decide⟩

/-- `action_spec.generate_value()` = (0, 0): the action spec is well-formed, the generated value is a member, and the step
answers it from every state with the invariant with a protocol-conform timestep whose observation is a member of the
observation spec; membership in `action_spec` is "EMS slot < obs_num_ems, item < max_num_items" -/
theorem binpack_accepts_generate_value (cfg : Cfg) (rnd : Rat → Rat) (n : Nat) (dm : Dims) (hO : 0 < cfg.obsNum) (hn : 0 < n)
    (hb1 : cfg.obsNum ≤ 2147483648) (hb2 : n ≤ 2147483648) (s : State) (h : SpecInv cfg n dm s) :
    (actionSpec cfg n).WF = true ∧ (actionSpec cfg n).valid (actionSpec cfg n).generate = true ∧
    (actionSpec cfg n).generate = actionArr 0 0 ∧ StepOK none false (step₁ cfg rnd s 0 0).2 = true ∧
    (obsSpec cfg n dm).valid (toNValue cfg.normalize (step₁ cfg rnd s 0 0).2.obs) = true :=
  BinPack.accepts_generate_value cfg rnd n dm hO hn hb1 hb2 s h

theorem binpack_action_spec_iff (cfg : Cfg) (n e i : Nat) :
    (actionSpec cfg n).valid (actionArr (e : Int) (i : Int)) = true ↔ e < cfg.obsNum ∧ i < n := by
  rw [actionSpec, actionArr, valid_multiDiscrete_iff]
  simp only [List.length_cons, List.length_nil, prod, List.foldl_cons, List.foldl_nil, List.zip_cons_cons, List.zip_nil_right,
    List.forall_mem_cons, List.not_mem_nil, Rat.intCast_nonneg, Rat.intCast_le_intCast, true_and, false_imp_iff,
    implies_true, and_true]
  omega
end Props.C01

namespace Props.C04
/-- entry `[e][i]` of the L1 mask is set exactly when the rules allow putting item `i` into the
`e`-th largest EMS (item unplaced ∧ present ∧ EMS active ∧ fits) -/
theorem binpack_mask_iff_legal (cfg : Cfg) (rnd : Rat → Rat) (s : State) (h : WF s) (e i : Nat) :
    ((maskOf cfg rnd s).getD e []).getD i false = true ↔ legal cfg rnd s e i :=
  BinPack.mask_iff_legal cfg rnd s h e i

/-- the validity test `step` applies (a lookup in the cached mask) agrees with the rules, so a
masked-in action is never treated as invalid and every legal action is accepted -/
theorem binpack_step_agrees (cfg : Cfg) (rnd : Rat → Rat) (s : State) (hw : WF s) (hf : Fresh cfg rnd s)
    (e i : Nat) (hs : InSpec cfg s e i) : stepValid s e i = true ↔ legal cfg rnd s e i :=
  BinPack.stepValid_iff_legal cfg rnd s hw hf e i hs

/-- the caches of every state produced by `step` are fresh (hypothesis `Fresh` of the other theorems) -/
theorem binpack_step_fresh (cfg : Cfg) (rnd : Rat → Rat) (s : State) (e i : Int) (d : EmsDraw) :
    Fresh cfg rnd (step cfg rnd s e i d).1 := BinPack.step_fresh cfg rnd s e i d

/-- … and so are the caches of every state produced by `reset` -/
theorem binpack_reset_fresh (cfg : Cfg) (rnd : Rat → Rat) (dm : Dims) (maxEms : Nat) (items : List Item)
    (itemsMask : List Bool) : Fresh cfg rnd (reset cfg rnd dm maxEms items itemsMask).1 :=
  BinPack.makeObs_fresh cfg rnd _

private def ex : State :=
  { container := ⟨0, 4, 0, 4, 0, 4⟩, ems := [⟨0, 4, 0, 4, 0, 4⟩, ⟨0, 0, 0, 0, 0, 0⟩], emsMask := [true, false]
    items := [⟨2, 2, 2⟩, ⟨5, 1, 1⟩], itemsMask := [true, true], itemsPlaced := [false, false]
    itemsLoc := [⟨0, 0, 0⟩, ⟨0, 0, 0⟩], actionMask := [[true, false], [false, false]], sortedIdx := [0, 1] }
example : WF ex ∧ Fresh ⟨2, true, true⟩ id ex ∧ legal ⟨2, true, true⟩ id ex 0 0 ∧ ¬ legal ⟨2, true, true⟩ id ex 0 1 := by
  decide +kernel
end Props.C04

namespace Props.C05
/-- an illegal action ends the episode (LAST, discount 0) with reward 0 (dense) / the current volume
utilisation (sparse, as documented) and leaves the WHOLE state untouched (the recomputed caches
coincide with the cached ones) -/
theorem binpack_illegal_terminates (cfg : Cfg) (rnd : Rat → Rat) (s : State) (hw : WF s)
    (hf : Fresh cfg rnd s) (e i : Nat) (hs : InSpec cfg s e i) (d : EmsDraw) (h : ¬ legal cfg rnd s e i) :
    (step cfg rnd s e i d).1 = s ∧ (step cfg rnd s e i d).2.stepType = .last ∧
    (step cfg rnd s e i d).2.reward = [if cfg.dense then 0 else utilisation s] ∧
    (step cfg rnd s e i d).2.discount = [0] := by
  rw [step_eq_stepL2 cfg rnd s hw hf e i hs d, stepL2, if_neg h]
  exact ⟨rfl, rfl, rfl, rfl⟩
end Props.C05

namespace Props.C06
/-- a legal action keeps the state feasible (placed items inside the container and pairwise
non-overlapping, active EMSs inside the container and clear of every placed item) for EVERY EMS
update in the relation "new active EMS = old active EMS clear of the new item, or
hyperplane(item, axis, dir) ∩ old active EMS" — independent of the filtering heuristics of
`_update_ems`, including the `argmin(ems_mask)` overwrite when the buffer is full -/
theorem binpack_step_feasible (cfg : Cfg) (rnd : Rat → Rat) (s : State) (hF : Feasible s)
    (hf : Fresh cfg rnd s) (e i : Nat) (hs : InSpec cfg s e i) (d : EmsDraw) (hl : legal cfg rnd s e i)
    (hd : validDraw s e i d) : Feasible (step cfg rnd s e i d).1 :=
  BinPack.step_feasible cfg rnd s hF hf e i hs d hl hd

/-- the L1 transliteration `updateEms` of `_update_ems` / `_get_intersections_dict` / `_add_ems`
(deleting intersected EMSs, the six families of hyperplane cuts, the emptiness / inclusion filtering, the scan that
writes each surviving cut to `argmin(ems_mask)`, overwriting slot 0 when the buffer is full) stays inside both
relations of the R-model — for EVERY state with consistent array shapes and EVERY action `(e, i) : Int × Int`
(legal or not; feasibility of the state is not needed) -/
theorem binpack_updateEms_validDraw (s : State) (hw : WF s) (e i : Int) :
    validDraw s e i (updateEms s e i) ∧ validDrawAll s e i (updateEms s e i) :=
  BinPack.updateEms_validDraw s hw e i

/-- hypothesis-free form of `binpack_step_feasible`: a legal action of the deterministic step keeps the state
feasible -/
theorem binpack_step_feasible₁ (cfg : Cfg) (rnd : Rat → Rat) (s : State) (hF : Feasible s)
    (hf : Fresh cfg rnd s) (e i : Nat) (hs : InSpec cfg s e i) (hl : legal cfg rnd s e i) :
    Feasible (step₁ cfg rnd s e i).1 := BinPack.step₁_feasible cfg rnd s hF hf e i hs hl

/-- the state-level core of it: packing an item that fits into the corner of an active EMS -/
theorem binpack_pack_feasible (s : State) (k i : Nat) (d : EmsDraw) (hf : Feasible s)
    (hk : k < s.ems.length) (hc : canPack s k i)
    (hr : EmsRel s.ems s.emsMask (cornerSpace s k i) d) : Feasible (packed s k i d) :=
  BinPack.pack_feasible s k i d hf hk hc hr

/-- the reset state of the generators (one active EMS = the container, nothing placed) is feasible -/
theorem binpack_reset_feasible (s : State) (h : ResetShape s) : Feasible s := BinPack.reset_feasible s h

/-- along a whole episode of legal play every state is feasible (in particular: items inside the
container and pairwise non-overlapping — `ItemsFeasible`, two conjuncts of `Feasible` repeated in the words of C06) -/
theorem binpack_feasible_along (cfg : Cfg) (rnd : Rat → Rat) (s₀ : State) (h0 : ResetShape s₀)
    (hf0 : Fresh cfg rnd s₀) (n : Nat) (s : State) (hr : Run cfg rnd s₀ n s) :
    Feasible s ∧ ItemsFeasible s :=
  have h := (BinPack.run_invariant cfg rnd s₀ h0 hf0 n s hr).feasible
  ⟨h, h.2.1, h.2.2.1⟩

/-- `reset` (container with positive sides, item mask as long as the item arrays) produces a `ResetShape` state
(`Fresh` is `Props.C04.binpack_reset_fresh`) -/
theorem binpack_reset_shape (cfg : Cfg) (rnd : Rat → Rat) (dm : Dims) (maxEms : Nat) (items : List Item)
    (itemsMask : List Bool) (hx : 0 < dm.cx) (hy : 0 < dm.cy) (hz : 0 < dm.cz)
    (hm : itemsMask.length = items.length) : ResetShape (reset cfg rnd dm maxEms items itemsMask).1 := by
  have hw := BinPack.reset_WF cfg rnd dm maxEms items itemsMask hm
  rw [reset_fst, makeObs_fst] at hw ⊢
  refine ⟨hw, rfl, rfl, rfl, hx, hy, hz, rfl, ?_, rfl, rfl⟩
  show true :: List.replicate (maxEms - 1) false = _
  simp only [List.length_cons, List.length_replicate]
  exact (range_map_eq_zero _).symm

/-- hypothesis-free form of `binpack_feasible_along`: along a whole episode of legal play of the deterministic
step (`Run₁`: `n` legal in-spec actions of `step₁`) every state is feasible -/
theorem binpack_feasible_along₁ (cfg : Cfg) (rnd : Rat → Rat) (s₀ : State) (h0 : ResetShape s₀)
    (hf0 : Fresh cfg rnd s₀) (n : Nat) (s : State) (hr : Run₁ cfg rnd s₀ n s) :
    Feasible s ∧ ItemsFeasible s :=
  have h := (BinPack.run_invariant cfg rnd s₀ h0 hf0 n s (BinPack.run₁_run cfg rnd s₀ h0 hf0 n s hr)).feasible
  ⟨h, h.2.1, h.2.2.1⟩

/-- THE WHOLE CHAIN FROM `reset`: any generator output (container with positive sides, `n` item slots), any number
of legal in-spec actions of the deterministic step: items inside the container and pairwise non-overlapping -/
theorem binpack_feasible_from_reset (cfg : Cfg) (rnd : Rat → Rat) (dm : Dims) (maxEms n : Nat) (items : List Item)
    (itemsMask : List Bool) (h : validReset dm n items itemsMask) (k : Nat) (s : State)
    (hr : Run₁ cfg rnd (reset cfg rnd dm maxEms items itemsMask).1 k s) : Feasible s ∧ ItemsFeasible s :=
  binpack_feasible_along₁ cfg rnd _ (binpack_reset_shape cfg rnd dm maxEms items itemsMask h.1 h.2.1 h.2.2.1 (by rw [h.2.2.2.2.1, h.2.2.2.1]))
    (Props.C04.binpack_reset_fresh cfg rnd dm maxEms items itemsMask) k s hr

/-- "nothing more can be packed" (how such an episode ends) is what the executable check of the
`solution` key of the driver decides -/
theorem binpack_complete_iff (cfg : Cfg) (rnd : Rat → Rat) (s : State) :
    completeB cfg rnd s = true ↔ Complete cfg rnd s := BinPack.completeB_iff cfg rnd s

example : Feasible Props.C04.ex ∧ ResetShape Props.C04.ex := by decide +kernel
/-- a non-trivial instance of the relation: item 2×2×2 in the corner of the 4×4×4 container, the upper
cuts along x and y kept (the buffer has two slots) -/
example : EmsRel Props.C04.ex.ems Props.C04.ex.emsMask (cornerSpace Props.C04.ex 0 0)
    ⟨[⟨2, 4, 0, 4, 0, 4⟩, ⟨0, 4, 2, 4, 0, 4⟩], [true, true]⟩ := by decide +kernel
end Props.C06

namespace Props.C08
/-- dense reward telescopes: utilisation after a legal step = utilisation before + reward -/
theorem binpack_dense_telescopes (cfg : Cfg) (rnd : Rat → Rat) (s : State) (hw : WF s)
    (hf : Fresh cfg rnd s) (e i : Nat) (hs : InSpec cfg s e i) (d : EmsDraw) (hl : legal cfg rnd s e i)
    (hd : cfg.dense = true) :
    utilisation (step cfg rnd s e i d).1 = utilisation s + (step cfg rnd s e i d).2.reward.sum :=
  BinPack.dense_telescopes cfg rnd s hw hf e i hs d hl hd

/-- sparse reward: zero before the end, the volume utilisation of the final state at the end (so
both reward functions return the utilisation of the final state over an episode of legal play
that starts from an empty container) -/
theorem binpack_sparse_reward (cfg : Cfg) (rnd : Rat → Rat) (s : State) (e i : Int) (d : EmsDraw)
    (hd : cfg.dense = false) :
    (step cfg rnd s e i d).2.reward =
      [if (step cfg rnd s e i d).2.stepType = .last then utilisation (step cfg rnd s e i d).1 else 0] :=
  BinPack.sparse_reward cfg rnd s e i d hd

/-! #### whole episodes
An episode is a list of actions `(e, i, d)` (`d` = the EMS buffer drawn from the relation) played with `play` from a
reset state; `withDense cfg b` is the same environment with the dense (`b = true`) / sparse reward function. -/

/-- dense return along ANY legal play (complete or not) = increase of the volume utilisation (of `hF` only `WF s` is used) -/
theorem binpack_dense_return (cfg : Cfg) (rnd : Rat → Rat) (hd : cfg.dense = true) (as : List Act) (s : State)
    (hF : Feasible s) (hf : Fresh cfg rnd s) (hlp : LegalPlay cfg rnd s as) :
    utilisation (play cfg rnd s as).1 = utilisation s + (play cfg rnd s as).2 :=
  by have h := BinPack.dense_return cfg rnd as s hF.1 hf hlp; rwa [BinPack.withDense_eq hd] at h

/-- sparse return of an episode whose last timestep is LAST and no earlier one = utilisation of the final state -/
theorem binpack_sparse_return (cfg : Cfg) (rnd : Rat → Rat) (hd : cfg.dense = false) (as : List Act) (s : State)
    (he : EndsAtLast cfg rnd s as) : (play cfg rnd s as).2 = utilisation (play cfg rnd s as).1 :=
  by have h := BinPack.sparse_return cfg rnd as s he; rwa [BinPack.withDense_eq hd] at h

/-- THE COMBINED EPISODE THEOREM: the same legal action list played from a reset state under both reward functions,
ending with its first LAST timestep: both runs reach the same final state `s`, dense return = sparse return =
volume utilisation of `s`; `s` is reached by the `Run` relation of C06/C11, is feasible, and nothing more can be
packed there -/
theorem binpack_episode_returns (cfg : Cfg) (rnd : Rat → Rat) (s₀ : State) (h0 : ResetShape s₀)
    (hf0 : Fresh cfg rnd s₀) (as : List Act) (hlp : LegalPlay cfg rnd s₀ as) (he : EndsAtLast cfg rnd s₀ as) :
    (play (withDense cfg true) rnd s₀ as).1 = (play cfg rnd s₀ as).1 ∧
    (play (withDense cfg false) rnd s₀ as).1 = (play cfg rnd s₀ as).1 ∧
    (play (withDense cfg true) rnd s₀ as).2 = utilisation (play cfg rnd s₀ as).1 ∧
    (play (withDense cfg false) rnd s₀ as).2 = utilisation (play cfg rnd s₀ as).1 ∧
    Run cfg rnd s₀ as.length (play cfg rnd s₀ as).1 ∧ Feasible (play cfg rnd s₀ as).1 ∧
    Complete cfg rnd (play cfg rnd s₀ as).1 := BinPack.episode_returns cfg rnd s₀ h0 hf0 as hlp he

/-- hypothesis-free form of `binpack_episode_returns`: the episode is a list of actions `(e, i)` played with the
deterministic step (`play₁`); `LegalPlay₁` = every action in the spec and legal when its turn comes; `EndsAtLast₁` =
the last timestep is LAST and no earlier one -/
theorem binpack_episode_returns₁ (cfg : Cfg) (rnd : Rat → Rat) (s₀ : State) (h0 : ResetShape s₀)
    (hf0 : Fresh cfg rnd s₀) (as : List Act₁) (hlp : LegalPlay₁ cfg rnd s₀ as) (he : EndsAtLast₁ cfg rnd s₀ as) :
    (play₁ (withDense cfg true) rnd s₀ as).1 = (play₁ cfg rnd s₀ as).1 ∧
    (play₁ (withDense cfg false) rnd s₀ as).1 = (play₁ cfg rnd s₀ as).1 ∧
    (play₁ (withDense cfg true) rnd s₀ as).2 = utilisation (play₁ cfg rnd s₀ as).1 ∧
    (play₁ (withDense cfg false) rnd s₀ as).2 = utilisation (play₁ cfg rnd s₀ as).1 ∧
    Run₁ cfg rnd s₀ as.length (play₁ cfg rnd s₀ as).1 ∧ Feasible (play₁ cfg rnd s₀ as).1 ∧
    Complete cfg rnd (play₁ cfg rnd s₀ as).1 := BinPack.episode_returns₁ cfg rnd s₀ h0 hf0 as hlp he

/-! #### an objective that does not share code with the reward
`coveredFraction s` counts, unit cell by unit cell, the cells of the container that lie in a placed item and divides by
the number of cells of the container (`coveredCells`, `Space.cells`, `coverCount`); `utilisation` (what L1 `reward`
calls) is Σ placed item volumes / container volume. -/

/-- for a feasible packing whose placed items have non-negative sides in a proper container, the two agree -/
theorem binpack_utilisation_eq_covered (s : State) (hF : Feasible s) (hnn : PlacedNonneg s)
    (hc : s.container.Proper) : utilisation s = coveredFraction s :=
  BinPack.utilisation_eq_covered s ⟨hF.2.1, hF.2.2.1⟩ hnn hc

/-- whole episodes: legal play of the deterministic step from a reset state whose present items have positive
sides (certificate `items_positive` of C10): both returns are the covered fraction of the final state -/
theorem binpack_episode_returns_covered (cfg : Cfg) (rnd : Rat → Rat) (s₀ : State) (h0 : ResetShape s₀)
    (hf0 : Fresh cfg rnd s₀) (hpos : ItemsPositive s₀) (as : List Act₁) (hlp : LegalPlay₁ cfg rnd s₀ as)
    (he : EndsAtLast₁ cfg rnd s₀ as) :
    (play₁ (withDense cfg true) rnd s₀ as).2 = coveredFraction (play₁ cfg rnd s₀ as).1 ∧
    (play₁ (withDense cfg false) rnd s₀ as).2 = coveredFraction (play₁ cfg rnd s₀ as).1 := by
  obtain ⟨_, _, h3, h4, h5, _⟩ := BinPack.episode_returns₁ cfg rnd s₀ h0 hf0 as hlp he
  have := BinPack.run_utilisation_eq_covered cfg rnd s₀ h0 hf0 hpos _ _ (BinPack.run₁_run cfg rnd s₀ h0 hf0 _ _ h5)
  rw [h3, h4, this]; exact ⟨rfl, rfl⟩

/-- `LegalPlay` lists and the `Run` relation describe the same episodes -/
theorem binpack_run_iff_play (cfg : Cfg) (rnd : Rat → Rat) (s₀ : State) (n : Nat) (s : State) :
    Run cfg rnd s₀ n s ↔ ∃ as : List Act, as.length = n ∧ LegalPlay cfg rnd s₀ as ∧ (play cfg rnd s₀ as).1 = s :=
  ⟨BinPack.run_legalPlay cfg rnd s₀ n s,
   fun ⟨as, hl, hp, hs⟩ => hl ▸ hs ▸ BinPack.legalPlay_run cfg rnd as s₀ hp⟩

/-- the hypotheses are satisfiable: two 2×2×1 items into a 2×2×2 container shown through 2 EMS slots; the episode
has two steps, the second is LAST, both returns are 1 -/
private def exS : State :=
  { container := ⟨0, 2, 0, 2, 0, 2⟩, ems := [⟨0, 2, 0, 2, 0, 2⟩, ⟨0, 0, 0, 0, 0, 0⟩], emsMask := [true, false]
    items := [⟨2, 2, 1⟩, ⟨2, 2, 1⟩], itemsMask := [true, true], itemsPlaced := [false, false]
    itemsLoc := [⟨0, 0, 0⟩, ⟨0, 0, 0⟩], actionMask := [[true, true], [false, false]], sortedIdx := [0, 1] }
private def exAs : List Act :=
  [(0, 0, ⟨[⟨0, 2, 0, 2, 1, 2⟩, ⟨0, 0, 0, 0, 0, 0⟩], [true, false]⟩),
   (0, 1, ⟨[⟨0, 2, 0, 2, 1, 2⟩, ⟨0, 0, 0, 0, 0, 0⟩], [false, false]⟩)]
example : ResetShape exS ∧ Fresh ⟨2, false, true⟩ id exS := by decide +kernel
example : LegalPlay ⟨2, false, true⟩ id exS exAs := by simp only [LegalPlay, exAs]; decide +kernel
example : EndsAtLast ⟨2, false, true⟩ id exS exAs := by simp only [EndsAtLast, exAs]; decide +kernel
example : (play (withDense ⟨2, false, true⟩ true) id exS exAs).2 = 1 ∧
    (play (withDense ⟨2, false, true⟩ false) id exS exAs).2 = 1 := by decide +kernel
/-- the same episode under the deterministic step, started from `reset` itself -/
private def exR : State := (reset ⟨2, false, true⟩ id ⟨2, 2, 2⟩ 2 [⟨2, 2, 1⟩, ⟨2, 2, 1⟩] [true, true]).1
example : exR = exS := by decide +kernel
example : LegalPlay₁ ⟨2, false, true⟩ id exR [(0, 0), (0, 1)] := by simp only [LegalPlay₁]; decide +kernel
example : EndsAtLast₁ ⟨2, false, true⟩ id exR [(0, 0), (0, 1)] := by simp only [EndsAtLast₁]; decide +kernel
example : ItemsPositive exR ∧ coveredCells (play₁ ⟨2, false, true⟩ id exR [(0, 0)]).1 = 4 ∧
    coveredFraction (play₁ ⟨2, false, true⟩ id exR [(0, 0)]).1 = 1 / 2 := by decide +kernel
example : (play₁ (withDense ⟨2, false, true⟩ true) id exR [(0, 0), (0, 1)]).2 = 1 ∧
    (play₁ (withDense ⟨2, false, true⟩ false) id exR [(0, 0), (0, 1)]).2 = 1 := by decide +kernel
end Props.C08

namespace Props.C09
/-- the deterministic L1 step against the rules, legal case: the successor state is the state with item `i` placed
in the corner of the EMS shown in slot `e` (`packed`: only `items_location[i]`, `items_placed[i]` and the EMS buffer
change; the buffer becomes `updateEms s e i`), with the two caches recomputed (`makeObs`); the step is LAST exactly
when nothing more can be packed (`completeB`, `Props.C06.binpack_complete_iff`); the illegal case is
`Props.C05.binpack_illegal_terminates` (state unchanged, LAST).  The sweep of this property compares `step₁` with the
implementation on whole transitions, every state field slot by slot -/
theorem binpack_step_rules (cfg : Cfg) (rnd : Rat → Rat) (s : State) (hw : WF s) (hf : Fresh cfg rnd s)
    (e i : Nat) (hs : InSpec cfg s e i) (hl : legal cfg rnd s e i) :
    (step₁ cfg rnd s e i).1 = (makeObs cfg rnd (packed s (shownEms rnd s e) i (updateEms s e i))).1 ∧
    (step₁ cfg rnd s e i).2.obs = observe cfg rnd (step₁ cfg rnd s e i).1 ∧
    (step₁ cfg rnd s e i).2.stepType =
      (if completeB cfg rnd (step₁ cfg rnd s e i).1 = true then StepType.last else StepType.mid) :=
  ⟨BinPack.legal_step_fst cfg rnd s hw hf e i hs _ hl, BinPack.obs_faithful₁ cfg rnd s hw e i,
    BinPack.legal_step_stepType cfg rnd s hw hf e i hs _ hl (BinPack.updateEms_shape s hw e i)⟩
end Props.C09

namespace Props.C11
/-- every non-terminal step packs exactly one more item -/
theorem binpack_progress (cfg : Cfg) (rnd : Rat → Rat) (s : State) (hw : WF s) (hf : Fresh cfg rnd s)
    (e i : Nat) (hs : InSpec cfg s e i) (d : EmsDraw) (h : (step cfg rnd s e i d).2.stepType ≠ .last) :
    Jx.countTrue (step cfg rnd s e i d).1.itemsPlaced = Jx.countTrue s.itemsPlaced + 1 :=
  BinPack.progress cfg rnd s hw hf e i hs d h

/-- an episode of legal play from a reset state has at most `number of items` steps -/
theorem binpack_horizon (cfg : Cfg) (rnd : Rat → Rat) (s₀ : State) (h0 : ResetShape s₀)
    (hf0 : Fresh cfg rnd s₀) (n : Nat) (s : State) (hr : Run cfg rnd s₀ n s) : n ≤ s₀.items.length :=
  BinPack.horizon cfg rnd s₀ h0 hf0 n s hr

/-- hypothesis-free form: legal play of the deterministic step -/
theorem binpack_horizon₁ (cfg : Cfg) (rnd : Rat → Rat) (s₀ : State) (h0 : ResetShape s₀)
    (hf0 : Fresh cfg rnd s₀) (n : Nat) (s : State) (hr : Run₁ cfg rnd s₀ n s) : n ≤ s₀.items.length :=
  BinPack.horizon cfg rnd s₀ h0 hf0 n s (BinPack.run₁_run cfg rnd s₀ h0 hf0 n s hr)

/-- play ANY in-spec actions (legal or illegal) from a reset state with the deterministic step.
If the action list is at least `max 1 (number of item slots)` long, a LAST timestep IS emitted, and the first one
is timestep number `t` with `1 ≤ t ≤ max 1 (number of item slots)` (`firstLast₁` = number of the first LAST
timestep).  From the sharper bound `binpack_first_last_le_present` below (a non-LAST step packs one more present item and
leaves a legal action, hence an unplaced present item) -/
theorem binpack_first_last_le (cfg : Cfg) (rnd : Rat → Rat) (s₀ : State) (h0 : ResetShape s₀)
    (hf0 : Fresh cfg rnd s₀) (as : List Act₁) (hp : InSpecPlay₁ cfg rnd s₀ as)
    (hlen : max 1 s₀.items.length ≤ as.length) :
    ∃ t, firstLast₁ cfg rnd s₀ as = some t ∧ 1 ≤ t ∧ t ≤ max 1 s₀.items.length := by
  have hle : Jx.countTrue s₀.itemsMask ≤ s₀.items.length := by rw [← h0.1.2.1]; exact Jx.countTrue_le _
  obtain ⟨t, ht, h1, h2⟩ := BinPack.first_last_le_present cfg rnd s₀ h0 hf0 as hp (by omega)
  exact ⟨t, ht, h1, by omega⟩

/-- sharp form: the bound counted in PRESENT items (`jnp.sum(items_mask)`), padding slots excluded -/
theorem binpack_first_last_le_present (cfg : Cfg) (rnd : Rat → Rat) (s₀ : State) (h0 : ResetShape s₀)
    (hf0 : Fresh cfg rnd s₀) (as : List Act₁) (hp : InSpecPlay₁ cfg rnd s₀ as)
    (hlen : max 1 (Jx.countTrue s₀.itemsMask) ≤ as.length) :
    ∃ t, firstLast₁ cfg rnd s₀ as = some t ∧ 1 ≤ t ∧ t ≤ max 1 (Jx.countTrue s₀.itemsMask) :=
  BinPack.first_last_le_present cfg rnd s₀ h0 hf0 as hp hlen

/-- two 2×2×1 items into a 2×2×2 container: the play `(0,0), (0,1)` is in the spec and its first LAST is timestep 2;
the play `(1,0), (0,0)` (slot 1 shows an inactive EMS: illegal) ends at timestep 1 -/
private def exR : State := (reset ⟨2, false, true⟩ id ⟨2, 2, 2⟩ 2 [⟨2, 2, 1⟩, ⟨2, 2, 1⟩] [true, true]).1
example : ResetShape exR ∧ Fresh ⟨2, false, true⟩ id exR := by decide +kernel
example : InSpecPlay₁ ⟨2, false, true⟩ id exR [(0, 0), (0, 1)] := by simp only [InSpecPlay₁]; decide +kernel
example : firstLast₁ ⟨2, false, true⟩ id exR [(0, 0), (0, 1)] = some 2 ∧
    firstLast₁ ⟨2, false, true⟩ id exR [(1, 0), (0, 0)] = some 1 := by decide +kernel
end Props.C11

namespace Props.C12
/-- the observation returned by `step` is the documented function of the successor state (for
every EMS buffer whose mask and coordinate arrays have the same length) -/
theorem binpack_obs_faithful (cfg : Cfg) (rnd : Rat → Rat) (s : State) (hw : WF s) (e i : Int)
    (d : EmsDraw) (hd : d.mask.length = d.ems.length) :
    (step cfg rnd s e i d).2.obs = observe cfg rnd (step cfg rnd s e i d).1 :=
  BinPack.obs_faithful cfg rnd s hw e i d hd

/-- hypothesis-free form for the deterministic step: ANY action `(e, i) : Int × Int` -/
theorem binpack_obs_faithful₁ (cfg : Cfg) (rnd : Rat → Rat) (s : State) (hw : WF s) (e i : Int) :
    (step₁ cfg rnd s e i).2.obs = observe cfg rnd (step₁ cfg rnd s e i).1 :=
  BinPack.obs_faithful₁ cfg rnd s hw e i

/-- reset form: the first observation is the documented function of the reset state -/
theorem binpack_reset_obs_faithful (cfg : Cfg) (rnd : Rat → Rat) (dm : Dims) (maxEms : Nat) (items : List Item)
    (itemsMask : List Bool) (hm : itemsMask.length = items.length) :
    (reset cfg rnd dm maxEms items itemsMask).2.obs = observe cfg rnd (reset cfg rnd dm maxEms items itemsMask).1 :=
  BinPack.reset_obs_faithful cfg rnd dm maxEms items itemsMask hm

/-- the order in which EMSs are shown enumerates every EMS slot exactly once, by decreasing
(float) volume with inactive slots counted as 0, equal volumes by increasing slot number (stable
`argsort`); the observation shows the first `obs_num_ems` of them -/
theorem binpack_obs_ems_largest (cfg : Cfg) (rnd : Rat → Rat) (s : State) (hw : WF s) :
    (sortedOf rnd s).Perm (List.range s.ems.length) ∧
    (sortedOf rnd s).Pairwise (before (fun k => (emsKeys rnd s).getD k 0)) ∧
    (∀ k, k < s.ems.length → (emsKeys rnd s).getD k 0 =
      Space.volumeF rnd (s.ems.getD k default) * (if s.emsMask.getD k false then 1 else 0)) ∧
    (observe cfg rnd s).emsMask = ((sortedOf rnd s).take cfg.obsNum).map (fun k => s.emsMask.getD k false) := by
  refine ⟨?_, BinPack.argsortDesc_pairwise _, fun k hk => ?_, ?_⟩
  · have := BinPack.argsortDesc_perm (emsKeys rnd s)
    rw [BinPack.emsKeys_length rnd s hw] at this
    exact this
  · have hk' : k < s.emsMask.length := by rw [hw.emsMask_len]; exact hk
    unfold emsKeys
    simp [List.getD_eq_getElem?_getD, List.getElem?_zipWith, List.getElem?_eq_getElem hk, List.getElem?_eq_getElem hk']
  · rw [show (sortedOf rnd s).take cfg.obsNum = obsIdx cfg rnd s from rfl, BinPack.obsIdx_eq cfg rnd s hw]; rfl

/-- slot `e` of the observation shows the `e`-th EMS of that order, every coordinate divided by the
container length on its axis when `normalize_dimensions`, the raw integers otherwise -/
theorem binpack_normalised_ems (cfg : Cfg) (rnd : Rat → Rat) (s : State) (e : Nat)
    (he : e < min cfg.obsNum s.ems.length) :
    (observe cfg rnd s).ems[e]? = some (
      let k := shownEms rnd s e
      let em := s.ems.getD k default
      let c := s.container
      if cfg.normalize then
        ⟨(em.x1 : Rat) / (c.x2 - c.x1 : Int), (em.x2 : Rat) / (c.x2 - c.x1 : Int),
         (em.y1 : Rat) / (c.y2 - c.y1 : Int), (em.y2 : Rat) / (c.y2 - c.y1 : Int),
         (em.z1 : Rat) / (c.z2 - c.z1 : Int), (em.z2 : Rat) / (c.z2 - c.z1 : Int)⟩
      else ⟨em.x1, em.x2, em.y1, em.y2, em.z1, em.z2⟩) := by
  simp only [observe, List.getElem?_map, List.getElem?_range he, Option.map_some, itemFromSpace]
  cases cfg.normalize <;> simp

/-- item sizes are shown divided by the container dimensions when `normalize_dimensions` -/
theorem binpack_normalised_items (cfg : Cfg) (rnd : Rat → Rat) (s : State) (i : Nat) (hi : i < s.items.length) :
    (observe cfg rnd s).items[i]? = some (
      let it := s.items.getD i default
      let c := s.container
      if cfg.normalize then
        ⟨(it.xl : Rat) / (c.x2 - c.x1 : Int), (it.yl : Rat) / (c.y2 - c.y1 : Int), (it.zl : Rat) / (c.z2 - c.z1 : Int)⟩
      else ⟨it.xl, it.yl, it.zl⟩) := by
  simp only [observe, List.getElem?_map, List.getElem?_eq_getElem hi, Option.map_some, itemFromSpace,
    List.getD_eq_getElem?_getD, Option.getD_some]
  cases cfg.normalize <;> simp
end Props.C12

namespace Props.C10
/-! `RandomGenerator` builds its instance by repeatedly cutting one box of the current family in two
along an axis (`_split_item_once`; `_split_item_multiple_times` is a sequence of such cuts),
dropping boxes that became empty, and writing new boxes to arbitrary free slots.  Each of these
operations preserves "the boxes tile the container" (`Tiles`: proper boxes inside the container,
pairwise non-overlapping, volumes adding up to the container volume), for all sizes and cut
positions.  The certificate `PerfectPacking` (the same three facts, recomputed by the driver from
the state returned by `generate_solution`) ties the real generator to this on every instance. -/

theorem binpack_split_base (c : Space) (hc : c.Proper) : Tiles c [c] := BinPack.tiles_base c hc

theorem binpack_split_tiles (c : Space) (l₁ l₂ : List Space) (b : Space) (ax : Nat) (p : Int)
    (h : Tiles c (l₁ ++ b :: l₂)) (h1 : axLo ax b ≤ p) (h2 : p ≤ axHi ax b) :
    Tiles c (l₁ ++ cutLo ax b p :: cutHi ax b p :: l₂) :=
  tiles_replace c l₁ l₂ _ b h (tiles_halves ax b p (h.1 b (by simp)).1 h1 h2)

theorem binpack_split_drop_empty (c : Space) (l₁ l₂ : List Space) (b : Space)
    (h : Tiles c (l₁ ++ b :: l₂)) (he : b.isEmpty = true) : Tiles c (l₁ ++ l₂) :=
  BinPack.tiles_drop_empty c l₁ l₂ b h he

theorem binpack_split_perm (c : Space) (l l' : List Space) (h : Tiles c l) (hp : l.Perm l') : Tiles c l' :=
  BinPack.tiles_perm c l l' h hp

/-! #### the transliterated generator
`splitGenerate g rnd c draws` (Model.lean) = `RandomGenerator._split_container_into_items_spaces`: the `while_loop`
with one `SplitDraw` (axis, space, mode, cut position / number of pieces) per iteration, the cut positions computed by
the code's float32 expressions in the code's order of evaluation (`rnd` = float32 rounding), empty pieces dropped.
The state is the list of active spaces (slot bookkeeping abstracted, `binpack_split_perm`).
`RndOK rnd B`: `rnd` is monotone and exact on the integers `0 … B`;  `GenBound g c B`: `1 ≤ B`,
`split_num_same_items ≤ B` and `max 1 split_num_same_items · side ≤ B` for the three sides of the container. -/

/-- for every container with non-negative sides, every `0 ≤ split_eps ≤ 1`, every list of admissible draws
(`ValidSplitDraws`: what `jax.random.choice / randint` can return) the generated item spaces tile the container -/
theorem binpack_splitGenerate_tiles (g : GenCfg) (rnd : Rat → Rat) (B : Int) (hr : RndOK rnd B) (c : Space)
    (hc : c.Proper) (hB : GenBound g c B) (he0 : 0 ≤ g.eps) (he1 : g.eps ≤ 1) (ds : List SplitDraw)
    (hv : ValidSplitDraws g rnd [c] ds) : Tiles c (splitGenerate g rnd c ds) :=
  BinPack.splitLoop_tiles g rnd B hr c hB he0 he1 ds [c] (BinPack.tiles_base c hc) hv

/-- float32, the arithmetic of the real code: exact as long as `max 1 split_num_same_items · side < 2^24` -/
theorem binpack_splitGenerate_tiles_f32 (g : GenCfg) (c : Space) (hc : c.Proper) (hB : GenBound g c 16777215)
    (he0 : 0 ≤ g.eps) (he1 : g.eps ≤ 1) (ds : List SplitDraw) (hv : ValidSplitDraws g Jx.roundF32 [c] ds) :
    Tiles c (splitGenerate g Jx.roundF32 c ds) :=
  binpack_splitGenerate_tiles g Jx.roundF32 16777215 BinPack.rndOK_f32 c hc hB he0 he1 ds hv

/-- exact arithmetic (`rnd = id`): no size restriction -/
theorem binpack_splitGenerate_tiles_exact (g : GenCfg) (c : Space) (hc : c.Proper) (he0 : 0 ≤ g.eps) (he1 : g.eps ≤ 1)
    (ds : List SplitDraw) (hv : ValidSplitDraws g id [c] ds) : Tiles c (splitGenerate g id c ds) := by
  let B : Int := 1 + g.splitNum + (max 1 g.splitNum : Nat) * ((c.x2 - c.x1) + (c.y2 - c.y1) + (c.z2 - c.z1))
  have hx : 0 ≤ c.x2 - c.x1 := by have := hc.1; omega
  have hy : 0 ≤ c.y2 - c.y1 := by have := hc.2.1; omega
  have hz : 0 ≤ c.z2 - c.z1 := by have := hc.2.2; omega
  have hm : (0 : Int) ≤ ((max 1 g.splitNum : Nat) : Int) := by omega
  have hmx := Int.mul_nonneg hm hx
  have hmy := Int.mul_nonneg hm hy
  have hmz := Int.mul_nonneg hm hz
  refine binpack_splitGenerate_tiles g id B (BinPack.rndOK_id B) c hc ⟨?_, ?_, fun ax => ?_⟩ he0 he1 ds hv
  · show 1 ≤ 1 + (g.splitNum : Int) + _ * _
    rw [Int.mul_add, Int.mul_add]; omega
  · show (g.splitNum : Int) ≤ 1 + (g.splitNum : Int) + _ * _
    rw [Int.mul_add, Int.mul_add]; omega
  · show _ ≤ 1 + (g.splitNum : Int) + _ * _
    rw [Int.mul_add, Int.mul_add]
    rcases ax with _ | _ | _ <;> simp only [axHi, axLo] <;> omega

/-- every generated item space is non-empty (certificate `items_positive`) -/
theorem binpack_splitGenerate_nonempty (g : GenCfg) (rnd : Rat → Rat) (c : Space) (hc : c.isEmpty = false)
    (ds : List SplitDraw) : ∀ b ∈ splitGenerate g rnd c ds, b.isEmpty = false :=
  BinPack.splitLoop_nonempty g rnd ds [c] (by intro b hb; simp at hb; subst hb; exact hc)

/-- `generate_solution` TIED TO THE RESET INSTANCE.  `solvedState c maxEms bs` is the state
`_generate_solved_instance` builds from the generated spaces (each an item placed at its own corner),
`unpackItems` is `Generator._unpack_items`, i.e. `generator(key) = unpackItems (generate_solution key)`.  For every
admissible draw list, in float32: the solution is a perfect packing (certificates `solution_perfect_packing`,
`solution_feasible` of the driver), feasible and complete; the reset state is the same instance (container, items, item
mask — certificate `solution_same_instance`), has `ResetShape` (hence is feasible, `binpack_reset_feasible`) and
positive items (`items_positive`) -/
theorem binpack_generated_solution (g : GenCfg) (c : Space) (maxEms : Nat) (cfg : Cfg) (rnd : Rat → Rat)
    (hc1 : c.x1 = 0 ∧ c.y1 = 0 ∧ c.z1 = 0) (hc2 : 0 < c.x2 ∧ 0 < c.y2 ∧ 0 < c.z2) (hB : GenBound g c 16777215)
    (he0 : 0 ≤ g.eps) (he1 : g.eps ≤ 1) (ds : List SplitDraw) (hv : ValidSplitDraws g Jx.roundF32 [c] ds) :
    let sol := solvedState c maxEms (splitGenerate g Jx.roundF32 c ds)
    let s₀ := unpackItems sol
    PerfectPacking sol ∧ PlacedNonneg sol ∧ Feasible sol ∧ Complete cfg rnd sol ∧
    s₀.container = sol.container ∧ s₀.items = sol.items ∧ s₀.itemsMask = sol.itemsMask ∧
    ResetShape s₀ ∧ ItemsPositive s₀ ∧ presentVolume s₀ = s₀.container.volume := by
  intro sol s₀
  have hcp : c.Proper := by unfold Space.Proper; omega
  have hce : c.isEmpty = false := by
    simp only [Space.isEmpty, Bool.or_eq_false_iff, decide_eq_false_iff_not]; omega
  have ht := binpack_splitGenerate_tiles_f32 g c hcp hB he0 he1 ds hv
  obtain ⟨h1, h2, h3, h4⟩ := BinPack.solved_perfect c maxEms _ ht cfg rnd
  obtain ⟨h5, h6, h7, h8⟩ := BinPack.unpack_reset c maxEms (splitGenerate g Jx.roundF32 c ds) hc1 hc2
  refine ⟨h1, h2, h3, h4, h5, h6, h7, h8,
    BinPack.unpack_itemsPositive c maxEms _ (binpack_splitGenerate_nonempty g Jx.roundF32 c hce ds), ?_⟩
  -- the volumes of the present items add up: same items and mask as the solution, where placed = mask
  have : presentVolume s₀ = placedVolume sol := by
    unfold presentVolume placedVolume
    rw [h6, h7]; rfl
  rw [this, h5]; exact h1.2.2.2

/-- the hypotheses are satisfiable, in float32: the 13×7×10 container of the sweep configuration, `max_num_items = 12`,
`split_num_same_items = 5`, `split_eps = 0.3`; a 3-way split of the x axis (13/3 in float32: pieces 4, 4, 5), then a
binary cut of the second piece along z, then a 5-way split of the last piece along y (7/5: pieces 1, 1, 2, 1, 2) -/
private def exG : GenCfg := ⟨12, 5, 3 / 10⟩
private def exD : List SplitDraw := [⟨0, 0, false, 0, 3⟩, ⟨2, 1, true, 4, 0⟩, ⟨1, 3, false, 0, 5⟩]
example : GenBound exG ⟨0, 13, 0, 7, 0, 10⟩ 16777215 := by
  refine ⟨by decide, by decide, fun ax => ?_⟩
  rcases ax with _ | _ | _ <;> simp [axHi, axLo, exG] <;> decide
example : ValidSplitDraws exG Jx.roundF32 [⟨0, 13, 0, 7, 0, 10⟩] exD := by
  simp only [ValidSplitDraws, exD]; decide +kernel
example : splitGenerate exG Jx.roundF32 ⟨0, 13, 0, 7, 0, 10⟩ exD =
    [⟨0, 4, 0, 7, 0, 10⟩, ⟨4, 8, 0, 7, 0, 4⟩, ⟨4, 8, 0, 7, 4, 10⟩, ⟨8, 13, 0, 1, 0, 10⟩, ⟨8, 13, 1, 2, 0, 10⟩,
     ⟨8, 13, 2, 4, 0, 10⟩, ⟨8, 13, 4, 5, 0, 10⟩, ⟨8, 13, 5, 7, 0, 10⟩] := by decide +kernel

/-- a generated reset state is a feasible starting point of an episode -/
theorem binpack_reset_feasible (s : State) (h : ResetShape s) : Feasible s := BinPack.reset_feasible s h

example : Tiles ⟨0, 4, 0, 4, 0, 4⟩ [⟨0, 1, 0, 4, 0, 4⟩, ⟨1, 4, 0, 4, 0, 4⟩] :=
  binpack_split_tiles ⟨0, 4, 0, 4, 0, 4⟩ [] [] ⟨0, 4, 0, 4, 0, 4⟩ 0 1
    (BinPack.tiles_base _ (by unfold Space.Proper; decide)) (by decide) (by decide)

/-! #### from the volume certificate to point-wise exact cover -/

/-- EXACT COVER (counting argument over unit cells): in a tiling every unit cell of the container lies in exactly
one box, and a unit cell outside the container in none -/
theorem binpack_tiles_exact_cover (c : Space) (bs : List Space) (h : Tiles c bs) (p : Cell) :
    coverCount bs p = if c.hasCell p then 1 else 0 := by
  cases hp : c.hasCell p
  · show List.countP _ bs = 0
    rw [List.countP_eq_zero]
    intro b hb hbp
    have := hasCell_mono b c (h.1 b hb).2 p hbp
    rw [hp] at this; cases this
  · exact BinPack.tiles_exact_cover c bs h p hp

/-- the same with the covering box named by its (unique) position in the list -/
theorem binpack_tiles_exists_unique (c : Space) (bs : List Space) (h : Tiles c bs) (p : Cell)
    (hp : c.hasCell p = true) :
    ∃ k, (∃ hk : k < bs.length, bs[k].hasCell p = true) ∧
      ∀ k', (∃ hk : k' < bs.length, bs[k'].hasCell p = true) → k' = k := by
  obtain ⟨b, hb, hbp⟩ := tiles_covers c bs h p hp
  obtain ⟨k, hk, rfl⟩ := List.getElem_of_mem hb
  refine ⟨k, ⟨hk, hbp⟩, ?_⟩
  rintro k' ⟨hk', hbp'⟩
  apply Classical.byContradiction
  intro hne
  have hpw := List.pairwise_iff_getElem.1 h.2.1
  rcases Nat.lt_or_gt_of_ne hne with hlt | hgt
  · have := hasCell_disjoint _ _ (hpw k' k hk' hk hlt) p hbp'
    rw [hbp] at this; exact Bool.noConfusion this
  · have := hasCell_disjoint _ _ (hpw k k' hk hk' hgt) p hbp
    rw [hbp'] at this; exact Bool.noConfusion this

/-- THE LINK: the index-level certificate `PerfectPacking` the driver evaluates on `generate_solution` (plus
non-negative sides) is exactly the list-level `Tiles` of the placed boxes that the splitting theorems preserve -/
theorem binpack_perfectPacking_iff_tiles (s : State) :
    (PerfectPacking s ∧ PlacedNonneg s) ↔
      (WF s ∧ s.itemsPlaced = s.itemsMask ∧ Tiles s.container (placedBoxes s)) :=
  BinPack.perfectPacking_iff_tiles s

/-- `PlacedNonneg` follows from the certificate `ItemsPositive` of the instance -/
theorem binpack_placedNonneg (s : State) (hp : ItemsPositive s) (hm : s.itemsPlaced = s.itemsMask) :
    PlacedNonneg s := by
  intro i hi hpl
  rw [hm] at hpl
  obtain ⟨h1, h2, h3⟩ := hp i hi hpl
  omega

/-- exact cover at index level: in a perfect packing every unit cell of the container lies in exactly one placed
item, and no unit cell outside the container lies in a placed item -/
theorem binpack_perfectPacking_exact_cover (s : State) (hp : PerfectPacking s) (hnn : PlacedNonneg s) (p : Cell)
    (hc : s.container.hasCell p = true) :
    ∃ i, (i < s.items.length ∧ s.itemsPlaced.getD i false = true ∧ (placedSpace s i).hasCell p = true) ∧
      ∀ j, (j < s.items.length ∧ s.itemsPlaced.getD j false = true ∧ (placedSpace s j).hasCell p = true) →
        j = i := by
  obtain ⟨b, hb, hbp⟩ := tiles_covers _ _ ((perfectPacking_iff_tiles s).1 ⟨hp, hnn⟩).2.2 p hc
  obtain ⟨i, hi, hpi, rfl⟩ := (mem_placedBoxes s b).1 hb
  refine ⟨i, ⟨hi, hpi, hbp⟩, ?_⟩
  rintro j ⟨hj, hpj, hjp⟩
  apply Classical.byContradiction
  intro hne
  have := hasCell_disjoint _ _ (hp.2.2.1.2 j hj i hi hne hpj hpi) p hjp
  rw [hbp] at this; exact Bool.noConfusion this
theorem binpack_perfectPacking_outside (s : State) (hp : PerfectPacking s) (p : Cell)
    (hc : s.container.hasCell p = false) (i : Nat) (hi : i < s.items.length)
    (hpi : s.itemsPlaced.getD i false = true) : (placedSpace s i).hasCell p = false := by
  cases h : (placedSpace s i).hasCell p
  · rfl
  · have := hasCell_mono _ _ (hp.2.2.1.1 i hi hpi) p h
    rw [hc] at this; exact Bool.noConfusion this

/-- the hypotheses are satisfiable: a 2×2×2 container packed with a 2×2×1 slab and two 1×2×1 bars -/
private def exP : State :=
  { container := ⟨0, 2, 0, 2, 0, 2⟩, ems := [⟨0, 0, 0, 0, 0, 0⟩], emsMask := [false]
    items := [⟨2, 2, 1⟩, ⟨1, 2, 1⟩, ⟨1, 2, 1⟩, ⟨0, 0, 0⟩], itemsMask := [true, true, true, false]
    itemsPlaced := [true, true, true, false], itemsLoc := [⟨0, 0, 0⟩, ⟨0, 0, 1⟩, ⟨1, 0, 1⟩, ⟨0, 0, 0⟩]
    actionMask := [[false, false, false, false]], sortedIdx := [0] }
example : PerfectPacking exP ∧ PlacedNonneg exP ∧ ItemsPositive exP := by decide +kernel
example : coverCount (placedBoxes exP) (1, 1, 1) = 1 ∧ coverCount (placedBoxes exP) (2, 1, 1) = 0 := by
  decide +kernel
end Props.C10
