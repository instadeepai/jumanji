/-
Property theorems for FlatPack; the lemmas they rest on are in Env/FlatPack/*.lean.
`act b k r c` is the action (block, rotation, row, column) as `step` receives it; `inSpec` says it belongs to the
action space.  `Inv cfg s` (feasible ∧ the cached mask is the set of legal moves) is an invariant of every step.
-/
import JumanjiModel.Env.FlatPack.Lemmas
import JumanjiModel.Env.FlatPack.MaskLemmas
import JumanjiModel.Env.FlatPack.FeasLemmas
import JumanjiModel.Env.FlatPack.InvLemmas
import JumanjiModel.Env.FlatPack.CoverLemmas
import JumanjiModel.Env.FlatPack.BoundsLemmas
import JumanjiModel.Env.FlatPack.Episode
import JumanjiModel.Env.FlatPack.SpecValid
import JumanjiModel.Core.EpisodeLemmas
open Jm FlatPack

namespace Props.C04
-- `h3` is not needed in the two statements below: a rotated block is read as an opaque grid with default 0
set_option linter.unusedVariables false in
/-- the mask entry the implementation computes for an action of the action space equals the legality of that
action under the rules (block not yet placed, every cell of the pose on an empty cell), for every grid -/
theorem flatpack_mask_iff_legal (cfg : Cfg) (s : State)
    (hg : Jx.Grid.shaped s.grid cfg.numRows cfg.numCols = true)
    (hb : s.blocks.length = cfg.numBlocks) (hp : s.placed.length = cfg.numBlocks)
    (h3 : ∀ blk ∈ s.blocks, Jx.Grid.shaped blk 3 3 = true)
    (b k r c : Nat) (hin : inSpec cfg b k r c = true) :
    maskAt (makeActionMask cfg s.grid s.blocks s.placed) (act b k r c) = true ↔ legal cfg s b k r c := by
  rw [FlatPack.makeActionMask_eq_legalMask cfg s hg hb hp, FlatPack.maskAt_legalMask cfg s hin]
  rfl

set_option linter.unusedVariables false in
/-- … hence the whole mask is the table of legal moves -/
theorem flatpack_mask_eq_legalMask (cfg : Cfg) (s : State)
    (hg : Jx.Grid.shaped s.grid cfg.numRows cfg.numCols = true)
    (hb : s.blocks.length = cfg.numBlocks) (hp : s.placed.length = cfg.numBlocks)
    (h3 : ∀ blk ∈ s.blocks, Jx.Grid.shaped blk 3 3 = true) :
    makeActionMask cfg s.grid s.blocks s.placed = legalMask cfg s :=
  FlatPack.makeActionMask_eq_legalMask cfg s hg hb hp

/-- the mask cached in the successor state is computed from the successor's grid and placed flags (not stale) -/
theorem flatpack_cached_mask (rnd : Rat → Rat) (cfg : Cfg) (s : State) (a : Action) :
    (step rnd cfg s a).1.actionMask =
      makeActionMask cfg (step rnd cfg s a).1.grid (step rnd cfg s a).1.blocks (step rnd cfg s a).1.placed :=
  FlatPack.cached_mask rnd cfg s a

/-- the environment's own validity test (the cached mask at the action) agrees with the rules -/
theorem flatpack_step_agrees (cfg : Cfg) (s : State) (hi : Inv cfg s) (b k r c : Nat)
    (hin : inSpec cfg b k r c = true) :
    maskAt s.actionMask (act b k r c) = true ↔ legal cfg s b k r c := by
  rw [hi.2, maskAt_legalMask cfg s hin]; rfl

example : legal ⟨3, 3, 1, true⟩ ⟨Jx.Grid.mk 3 3 0, 1, [[[1,1,0],[1,1,1],[0,0,1]]], [], [false], 0⟩ 0 1 0 0 := by decide

/-- `flatpack_step_agrees` speaks of the mask lookup inside `step`; this one is about what `step` RETURNS: on
every state satisfying the episode invariant, for every action of the action space, the environment executes the action
(block `b` becomes placed, and it was not placed before) exactly when the rules allow it, and otherwise leaves grid and
placed flags as they are -/
theorem flatpack_step_reaction (rnd : Rat → Rat) (cfg : Cfg) (s : State) (hi : Inv cfg s) (b k r c : Nat)
    (hin : inSpec cfg b k r c = true) :
    ((step rnd cfg s (act b k r c)).1.placed ≠ s.placed ↔ legal cfg s b k r c) ∧
    (legal cfg s b k r c → (step rnd cfg s (act b k r c)).1.placed = s.placed.set b true ∧ s.placed.getD b true = false) ∧
    (¬ legal cfg s b k r c → (step rnd cfg s (act b k r c)).1.grid = s.grid ∧
      (step rnd cfg s (act b k r c)).1.placed = s.placed) := by
  -- the successor state is that of the rules (`stepL2`), where grid and placed flags are an `if` on legality
  obtain ⟨g2, _, _, p2, _⟩ := stepL2_fst rnd cfg s b k r c
  rw [step_state_eq rnd cfg s b k r c hi.pre hin, g2, p2]
  by_cases hl : legal cfg s b k r c
  · obtain ⟨_, hb, hu, _⟩ := legal_unfold hl
    have hu' : s.placed.getD b true = false := by rwa [Jx.getD_irrel true false hb]
    simp only [if_pos (show legalB cfg s b k r c = true from hl), hl, iff_true, true_implies, not_true, false_implies,
      and_true, hu']
    intro heq
    rw [← heq, Jx.getD_set_self true true hb] at hu'
    cases hu'
  · simp only [if_neg (show ¬ legalB cfg s b k r c = true from hl), hl, ne_eq, not_true, false_implies,
      not_false_eq_true, true_implies, and_self]
end Props.C04

namespace Props.C05
/-- an illegal action of the action space is ignored: grid, blocks and placed flags are unchanged, the step counter
advances, the reward is 0, and the step is LAST only because the horizon is reached (the cached mask and `numBlocks` are
not mentioned; for `numBlocks` see `Props.C11.flatpack_step_count`) -/
theorem flatpack_illegal_ignored (rnd : Rat → Rat) (cfg : Cfg) (s : State) (hi : Inv cfg s) (b k r c : Nat)
    (hin : inSpec cfg b k r c = true) (h : ¬ legal cfg s b k r c) :
    (step rnd cfg s (act b k r c)).1.grid = s.grid ∧ (step rnd cfg s (act b k r c)).1.placed = s.placed ∧
    (step rnd cfg s (act b k r c)).1.blocks = s.blocks ∧
    (step rnd cfg s (act b k r c)).1.stepCount = s.stepCount + 1 ∧
    (step rnd cfg s (act b k r c)).2.reward = [0] ∧
    ((step rnd cfg s (act b k r c)).2.stepType = .last → s.numBlocks ≤ s.stepCount + 1) :=
  invalid_step rnd cfg s _ (illegal_mask hi.2 hin h)
end Props.C05

namespace Props.C10
/-- certificate ⇒ invariant: when the exact-cover search run by the driver on a generated instance answers
`true`, there really is a choice of one orientation and position per block such that the chosen cell sets lie
inside the grid, are pairwise disjoint and cover every cell (the blocks tile the grid) -/
theorem flatpack_blocks_tile (cfg : Cfg) (s : State) (h : tilesFree cfg s = true) :
    ∃ choice, IsTiling cfg.numRows cfg.numCols
      (s.blocks.map (fun b => (List.range 4).flatMap (fun k => (List.range cfg.numRows).flatMap (fun r =>
        (List.range cfg.numCols).map (fun c => freeCells b k r c))))) choice := by
  apply coverSearch_sound _ _ _ (s.blocks.length + 1)
  simpa [tilesFree] using h

/-- the same for the poses of the action space (3 × 3 box inside the grid): `tilesByActions`, key `solvable_by_actions` of
`flat_pack.instance` -/
theorem flatpack_solvable_by_actions (cfg : Cfg) (s : State) (h : tilesByActions cfg s = true) :
    ∃ choice, IsTiling cfg.numRows cfg.numCols
      (s.blocks.map (fun b => (poses cfg).map (fun p => poseCells b p.1 p.2.1 p.2.2))) choice := by
  apply coverSearch_sound _ _ _ (s.blocks.length + 1)
  simpa [tilesByActions] using h

/-! #### the certificates PROVED for the two toy generators (the random generator's instances are covered "of
certificate" only: `blocksOK`, `freshOK`, `BlocksBounded`, `tilesFree` are evaluated on every real reset state by the
harness, `tilesByActions` only where the configuration sets `by_actions` (small instances; it FAILS there for the random
generator, harness/envs/flat_pack.py) — none is derived from a transliteration of `RandomFlatPackGenerator`) -/

/-- both toy generators (either reward function): the emitted state is well formed (`blocksOK`), fresh (`freshOK`; in
particular the literal all-ones mask `jnp.ones((4,4,3,3))` IS the set of legal moves on the empty grid), bounded
(`BlocksBounded`), and SOLVABLE by actions of the action space (`tilesByActions`, hence `flatpack_solvable_by_actions`) -/
theorem flatpack_toy_cert (cd : Bool) :
    (blocksOK (toyCfg cd) toyGenerateRot = true ∧ freshOK (toyCfg cd) toyGenerateRot = true ∧
      BlocksBounded (toyCfg cd) toyGenerateRot.blocks ∧ tilesByActions (toyCfg cd) toyGenerateRot = true ∧
      tilesFree (toyCfg cd) toyGenerateRot = true ∧ legalMask (toyCfg cd) toyGenerateRot = toyOnesMask) ∧
    (blocksOK (toyCfg cd) toyGenerateNoRot = true ∧ freshOK (toyCfg cd) toyGenerateNoRot = true ∧
      BlocksBounded (toyCfg cd) toyGenerateNoRot.blocks ∧ tilesByActions (toyCfg cd) toyGenerateNoRot = true ∧
      tilesFree (toyCfg cd) toyGenerateNoRot = true ∧ legalMask (toyCfg cd) toyGenerateNoRot = toyOnesMask) := by
  -- none of the certificates reads `cellDense`: the evaluation at `toyCfg true` unfolds to the same term for either reward
  -- function.  The all-ones mask is the legal mask of every empty grid, which also settles the mask test of `freshOK`.
  have rot : blocksOK (toyCfg true) toyGenerateRot = true ∧ BlocksBounded (toyCfg true) toyGenerateRot.blocks ∧
      tilesByActions (toyCfg true) toyGenerateRot = true ∧ tilesFree (toyCfg true) toyGenerateRot = true :=
    ⟨by decide +kernel, by decide +kernel, by decide +kernel, by decide +kernel⟩
  have norot : blocksOK (toyCfg true) toyGenerateNoRot = true ∧ BlocksBounded (toyCfg true) toyGenerateNoRot.blocks ∧
      tilesByActions (toyCfg true) toyGenerateNoRot = true ∧ tilesFree (toyCfg true) toyGenerateNoRot = true :=
    ⟨by decide +kernel, by decide +kernel, by decide +kernel, by decide +kernel⟩
  have mask : ∀ s : State, s.grid = Jx.Grid.mk 5 5 0 → s.placed = [false, false, false, false] →
      legalMask (toyCfg cd) s = toyOnesMask := FlatPack.legalMask_fresh (toyCfg cd)
  exact ⟨⟨rot.1, (FlatPack.freshOK_iff _ _).2 ⟨rfl, rfl, rfl, (mask _ rfl rfl).symm, rfl⟩, rot.2.1, rot.2.2.1, rot.2.2.2,
      mask _ rfl rfl⟩,
    ⟨norot.1, (FlatPack.freshOK_iff _ _).2 ⟨rfl, rfl, rfl, (mask _ rfl rfl).symm, rfl⟩, norot.2.1, norot.2.2.1, norot.2.2.2,
      mask _ rfl rfl⟩⟩
end Props.C10

namespace Props.C06
/-- the freshly generated instance (empty grid, nothing placed, well-formed blocks) is feasible -/
theorem flatpack_reset_feasible (cfg : Cfg) (s : State) (hb : blocksOK cfg s = true)
    (hg : s.grid = Jx.Grid.mk cfg.numRows cfg.numCols 0) (hp : s.placed = List.replicate cfg.numBlocks false) :
    Feasible cfg s := FlatPack.fresh_feasible cfg s hb hg hp

/-- a legal placement keeps the grid the disjoint union of the placed blocks, each inside the grid -/
theorem flatpack_step_feasible (rnd : Rat → Rat) (cfg : Cfg) (s : State) (b k r c : Nat)
    (hf : Feasible cfg s) (hm : s.actionMask = legalMask cfg s) (hl : legal cfg s b k r c) :
    Feasible cfg (step rnd cfg s (act b k r c)).1 := FlatPack.step_feasible rnd cfg s b k r c hf hm hl

/-- feasibility together with "the cached mask is the set of legal moves" is an invariant of EVERY step with an
action of the action space (legal or not), so it holds along whole episodes from a fresh instance -/
theorem flatpack_step_inv (rnd : Rat → Rat) (cfg : Cfg) (s : State) (b k r c : Nat) (hi : Inv cfg s)
    (hin : inSpec cfg b k r c = true) : Inv cfg (step rnd cfg s (act b k r c)).1 :=
  FlatPack.step_inv rnd cfg s b k r c hi hin

theorem flatpack_fresh_inv (cfg : Cfg) (s : State) (hb : blocksOK cfg s = true)
    (hg : s.grid = Jx.Grid.mk cfg.numRows cfg.numCols 0) (hp : s.placed = List.replicate cfg.numBlocks false)
    (hm : s.actionMask = legalMask cfg s) : Inv cfg s :=
  ⟨fresh_feasible cfg s hb hg hp, hm⟩

/-- completion: a feasible state in which every block is placed (the blocks having as many cells as the grid, as
the instance certificate `freshOK` checks) is a complete solution — no empty cell is left -/
theorem flatpack_complete_is_solution (cfg : Cfg) (s : State) (hf : Feasible cfg s) (hall : s.placed.all id = true)
    (hsum : (s.blocks.map countNonzero).foldl (· + ·) 0 = cfg.numRows * cfg.numCols) : IsSolution cfg s :=
  FlatPack.complete_is_solution cfg s hf hall hsum

example : Feasible ⟨3, 3, 1, true⟩ ⟨[[1,1,0],[1,1,1],[0,0,1]], 1, [[[1,1,0],[1,1,1],[0,0,1]]], [], [true], 1⟩ := by decide

/-- completion THROUGH `step`: a step with any action of the action space from a state of play of a generated
instance (`Inv`; the blocks have as many cells as the grid, as `freshOK` certifies) after which every block is placed yields
a complete solution — feasible, every block placed, no empty cell -/
theorem flatpack_step_complete_is_solution (rnd : Rat → Rat) (cfg : Cfg) (s : State) (hi : Inv cfg s) (b k r c : Nat)
    (hin : inSpec cfg b k r c = true)
    (hsum : (s.blocks.map countNonzero).foldl (· + ·) 0 = cfg.numRows * cfg.numCols)
    (hall : (step rnd cfg s (act b k r c)).1.placed.all id = true) :
    IsSolution cfg (step rnd cfg s (act b k r c)).1 :=
  FlatPack.step_complete_is_solution rnd cfg s hi b k r c hin hsum hall

/-- ("OF CERTIFICATE": proved for the toy generators in `flatpack_toy_feasible_along`) WHOLE PLAYS from an
instance satisfying the certificates (`blocksOK`, `freshOK`, evaluated by `flat_pack.instance` on
every real reset state): after ANY sequence of actions of the action space — legal or ignored, through LAST or not
(`runAll` does not stop) — the state is feasible and its cached mask is the set of legal moves; in particular at the first
LAST (`endState`) -/
theorem flatpack_feasible_along (rnd : Rat → Rat) (cfg : Cfg) (s : State) (hb : blocksOK cfg s = true)
    (h : freshOK cfg s = true) (as : List Act4) (hin : InSpecAll cfg as) (n : Nat) :
    Inv cfg (runAll rnd cfg s (as.take n)) ∧ Feasible cfg (runAll rnd cfg s (as.take n)) ∧
    Inv cfg (endState rnd cfg s as) := by
  have h0 := FlatPack.fresh_inv' cfg s hb h
  have h1 := (FlatPack.runAll_inv rnd cfg s (as.take n) h0 (fun a ha => hin a (List.mem_of_mem_take ha))).1
  exact ⟨h1, h1.1, FlatPack.endState_inv rnd cfg s as h0 hin⟩

example : InSpecAll ⟨5, 3, 2, true⟩ [(0, 0, 0, 0), (0, 0, 0, 0), (1, 0, 2, 0)] ∧
    (runAll id ⟨5, 3, 2, true⟩
      (let t : State := { grid := Jx.Grid.mk 5 3 0, numBlocks := 2,
                          blocks := [[[1,1,1],[1,1,1],[1,0,0]], [[0,2,2],[2,2,2],[2,2,2]]],
                          actionMask := [], placed := [false, false], stepCount := 0 }
       { t with actionMask := legalMask ⟨5, 3, 2, true⟩ t })
      [(0, 0, 0, 0), (0, 0, 0, 0), (1, 0, 2, 0)]).placed = [true, true] := by decide +kernel

/-- C06 for the toy generators without certificate hypotheses: after ANY sequence of actions of the action space the state is
feasible and its cached mask is the set of legal moves -/
theorem flatpack_toy_feasible_along (rnd : Rat → Rat) (cd : Bool) (s : State) (hs : s = toyGenerateRot ∨ s = toyGenerateNoRot)
    (as : List Act4) (hin : InSpecAll (toyCfg cd) as) (n : Nat) :
    Inv (toyCfg cd) (runAll rnd (toyCfg cd) s (as.take n)) ∧ Feasible (toyCfg cd) (runAll rnd (toyCfg cd) s (as.take n)) ∧
    Inv (toyCfg cd) (endState rnd (toyCfg cd) s as) := by
  have hc := Props.C10.flatpack_toy_cert cd
  rcases hs with rfl | rfl
  · exact Props.C06.flatpack_feasible_along rnd _ _ hc.1.1 hc.1.2.1 as hin n
  · exact Props.C06.flatpack_feasible_along rnd _ _ hc.2.1 hc.2.2.1 as hin n
end Props.C06

namespace Props.C08
/-- cell-dense reward: the covered fraction of the grid grows by exactly the reward of a legal placement (ℚ) -/
theorem flatpack_cell_telescopes (cfg : Cfg) (s : State) (b k r c : Nat)
    (hg : Jx.Grid.shaped s.grid cfg.numRows cfg.numCols = true) (hbl : s.blocks.length = cfg.numBlocks)
    (hm : s.actionMask = legalMask cfg s) (hl : legal cfg s b k r c) (hcd : cfg.cellDense = true) :
    coveredFraction cfg (step id cfg s (act b k r c)).1 =
      coveredFraction cfg s + ((step id cfg s (act b k r c)).2.reward).sum :=
  FlatPack.cellDense_telescopes cfg s b k r c hg hbl hm hl hcd

/-- block-dense reward: the fraction of placed blocks grows by exactly the reward of a legal placement (ℚ) -/
theorem flatpack_block_telescopes (cfg : Cfg) (s : State) (b k r c : Nat)
    (hm : s.actionMask = legalMask cfg s) (hl : legal cfg s b k r c) (hcd : cfg.cellDense = false) :
    placedFraction (step id cfg s (act b k r c)).1 =
      placedFraction s + ((step id cfg s (act b k r c)).2.reward).sum :=
  FlatPack.blockDense_telescopes cfg s b k r c hm hl hcd

/-- for ANY action of the action space (legal or ignored) the objective of the successor is the objective before
plus the reward (one step; summed over a play it gives `flatpack_episode_return_from`) -/
theorem flatpack_objective_step (cfg : Cfg) (s : State) (b k r c : Nat) (hi : Inv cfg s)
    (hin : inSpec cfg b k r c = true) :
    objective cfg (step id cfg s (act b k r c)).1 =
      objective cfg s + ((step id cfg s (act b k r c)).2.reward).sum :=
  FlatPack.objective_step cfg s b k r c hi.pre hin

/-! whole episodes (`returnOf`, `endState`, `InSpecAll`, `LegalEpisode` in Env/FlatPack/Episode.lean): a list of
actions `(block, rotation, row, column)` is played until the first LAST timestep (after `num_blocks` steps); exact
arithmetic (`rnd = id`: the float32 rounding of each quotient is outside the theorem).  `blocksOK` and `freshOK` are
the generator certificates the C10 sweep evaluates on the implementation's reset states.
reward.py offers `CellDenseReward` and `BlockDenseReward` only; the "sparse: 1 if the grid is completely filled"
reward of the class docstring does not exist in the code. -/

/-- ANY sequence of actions of the action space from ANY state satisfying the invariant (legal actions are executed,
the others ignored; finished or not): the rewards add up to the gain of the objective, recomputed from the grid
(cell-dense: covered cells / all cells) or the placed flags (block-dense: placed / all blocks) of the last state.
Feasibility is not used: `FlatPack.return_any` holds from every state with `FlatPack.Pre`. -/
theorem flatpack_episode_return_from (cfg : Cfg) (s : State) (as : List Act4) (hi : Inv cfg s)
    (hin : InSpecAll cfg as) :
    returnOf id cfg s as = objective cfg (endState id cfg s as) - objective cfg s :=
  FlatPack.return_any cfg s as hi.pre hin

/-- cell-dense reward, from a generated instance: return = covered fraction of the final grid -/
theorem flatpack_cell_return (cfg : Cfg) (s : State) (as : List Act4) (hcd : cfg.cellDense = true)
    (hb : blocksOK cfg s = true) (h : freshOK cfg s = true) (hin : InSpecAll cfg as) :
    returnOf id cfg s as = coveredFraction cfg (endState id cfg s as) :=
  FlatPack.cell_return cfg s as hcd hb h hin

/-- block-dense reward, from a generated instance: return = fraction of blocks placed in the final state -/
theorem flatpack_block_return (cfg : Cfg) (s : State) (as : List Act4) (hcd : cfg.cellDense = false)
    (hb : blocksOK cfg s = true) (h : freshOK cfg s = true) (hin : InSpecAll cfg as) :
    returnOf id cfg s as = placedFraction (endState id cfg s as) :=
  FlatPack.block_return cfg s as hcd hb h hin

/-- the two reward functions on the SAME action sequence (the trajectory does not depend on the reward function):
when the episode ends with every block placed, both return 1 = the covered fraction of the (then full) grid -/
theorem flatpack_complete_returns (cfg : Cfg) (s : State) (as : List Act4) (hb : blocksOK cfg s = true)
    (h : freshOK cfg s = true) (hin : InSpecAll cfg as) (hall : (endState id cfg s as).placed.all id = true)
    (hpos : 0 < cfg.numRows * cfg.numCols) (hnb : 0 < cfg.numBlocks) :
    returnOf id { cfg with cellDense := true } s as = 1 ∧ returnOf id { cfg with cellDense := false } s as = 1 ∧
    endState id { cfg with cellDense := true } s as = endState id { cfg with cellDense := false } s as ∧
    IsSolution cfg (endState id cfg s as) := by
  have h12 := FlatPack.complete_both_one cfg s as hb h hin hall hpos hnb
  refine ⟨h12.1, h12.2, ?_, ?_⟩
  · exact (FlatPack.endState_reward_irrel id cfg true s as).trans (FlatPack.endState_reward_irrel id cfg false s as).symm
  · have hi := FlatPack.endState_inv id cfg s as (FlatPack.fresh_inv' cfg s hb h) hin
    have hsum := ((FlatPack.freshOK_iff cfg s).1 h).2.2.2.2
    rw [← FlatPack.endState_blocks id cfg s as] at hsum
    exact FlatPack.complete_is_solution cfg _ hi.1 hall hsum

/-- every complete episode of LEGAL actions from a generated instance places every block, hence cell-dense return =
block-dense return = 1 on all legal trajectories run to termination -/
theorem flatpack_legal_episode_returns (cfg : Cfg) (s : State) (as : List Act4) (hb : blocksOK cfg s = true)
    (h : freshOK cfg s = true) (hep : LegalEpisode id cfg s as)
    (hpos : 0 < cfg.numRows * cfg.numCols) (hnb : 0 < cfg.numBlocks) :
    returnOf id { cfg with cellDense := true } s as = 1 ∧ returnOf id { cfg with cellDense := false } s as = 1 :=
  FlatPack.complete_both_one cfg s as hb h (FlatPack.legalEpisode_inSpec id cfg s as hep)
    (FlatPack.legalEpisode_complete id cfg s as hb h hep) hpos hnb

/-- a 5 × 3 instance of two interlocking blocks (7 and 8 cells) as the generator produces them -/
def flatpackTwoBlocks : State :=
  let t : State := { grid := Jx.Grid.mk 5 3 0, numBlocks := 2,
                     blocks := [[[1,1,1],[1,1,1],[1,0,0]], [[0,2,2],[2,2,2],[2,2,2]]],
                     actionMask := [], placed := [false, false], stepCount := 0 }
  { t with actionMask := legalMask ⟨5, 3, 2, true⟩ t }

/-- the trajectory class on which the two reward functions differ: episodes containing an ignored action.  Block 0
is put down, then chosen again (ignored; the episode ends after `num_blocks` = 2 steps): the cell-dense return is the
covered fraction 7/15, the block-dense return is the placed fraction 1/2 -/
theorem flatpack_cell_ne_block_witness :
    blocksOK ⟨5, 3, 2, true⟩ flatpackTwoBlocks = true ∧ freshOK ⟨5, 3, 2, true⟩ flatpackTwoBlocks = true ∧
    InSpecAll ⟨5, 3, 2, true⟩ [(0, 0, 0, 0), (0, 0, 0, 0)] ∧
    returnOf id ⟨5, 3, 2, true⟩ flatpackTwoBlocks [(0, 0, 0, 0), (0, 0, 0, 0)] = 7/15 ∧
    returnOf id ⟨5, 3, 2, false⟩ flatpackTwoBlocks [(0, 0, 0, 0), (0, 0, 0, 0)] = 1/2 := by decide +kernel

/-- … and a complete legal episode on the same instance -/
example : LegalEpisode id ⟨5, 3, 2, true⟩ flatpackTwoBlocks [(0, 0, 0, 0), (1, 0, 2, 0)] := by decide +kernel
example : returnOf id ⟨5, 3, 2, true⟩ flatpackTwoBlocks [(0, 0, 0, 0), (1, 0, 2, 0)] = 1 := by decide +kernel
end Props.C08

namespace Props.C09
/-- placement follows the rules: a legal action writes the block's number into exactly the cells of the chosen
pose, leaves every other cell untouched and marks exactly that block as placed -/
theorem flatpack_legal_step_cells (rnd : Rat → Rat) (cfg : Cfg) (s : State) (b k r c : Nat)
    (hf : Feasible cfg s) (hm : s.actionMask = legalMask cfg s) (hl : legal cfg s b k r c)
    (p : Nat × Nat) (hi : p.1 < cfg.numRows) (hj : p.2 < cfg.numCols) :
    Jx.Grid.get (step rnd cfg s (act b k r c)).1.grid 0 p.1 p.2 =
      (if p ∈ poseCells (s.blocks.getD b []) k r c then blockValue (s.blocks.getD b [])
       else Jx.Grid.get s.grid 0 p.1 p.2) ∧
    (step rnd cfg s (act b k r c)).1.placed = s.placed.set b true ∧
    (step rnd cfg s (act b k r c)).1.blocks = s.blocks := by
  have hf' := (feasible_iff cfg s).1 hf
  obtain ⟨hin, _, _, hfree⟩ := legal_unfold hl
  obtain ⟨eg, ep, eb, _⟩ := step_legal_fields rnd cfg s b k r c hf'.grid hf'.blocksLen hm hl
  have hb : b < s.blocks.length := hf'.blocksLen ▸ (inSpec_iff.1 hin).1
  rw [eg, Jx.Grid.get_table _ _ _ _ hi hj]
  exact ⟨new_cell hf'.grid (hf'.blockOK _ (Jx.getD_mem [] hb)).2 hfree p hi hj, ep, eb⟩

/-- the second hypothesis of `flatpack_step_eq_spec` is kept by every step (in a fresh instance it reads `0 ≤ 0`: nothing
is placed, `freshOK`) -/
theorem flatpack_step_count_inv (rnd : Rat → Rat) (cfg : Cfg) (s : State) (b k r c : Nat) (hi : Inv cfg s)
    (hc : Jx.countTrue s.placed ≤ s.stepCount) (hin : inSpec cfg b k r c = true) :
    Jx.countTrue (step rnd cfg s (act b k r c)).1.placed ≤ (step rnd cfg s (act b k r c)).1.stepCount := by
  have := step_countTrue_le rnd cfg s b k r c hi.2 hin
  rw [step_count]; omega

/-- L1 = L2: on every state satisfying the episode invariant (`Inv`: feasible, cached mask = legal moves; kept by
every step, `flatpack_step_inv`) in which no more blocks are placed than steps were taken (kept by every step,
`flatpack_step_count_inv`), and for every action of the action space, the transliterated `step` returns exactly what
the documented rules (`stepL2`, Env/FlatPack/Model.lean) prescribe: the chosen block, rotated, is written at the
chosen position iff it is not yet placed, fits inside the grid and overlaps no occupied cell — otherwise grid, blocks
and placed flags stay as they are; the step is counted; reward = cells of the block / cells of the grid
(resp. 1 / num_blocks) for a placement, 0 otherwise; LAST iff all blocks are placed or `num_blocks` steps were taken.
Successor state (cached mask included), reward, step type, discount and observation; any float rounding `rnd`.
Of `Inv` only the sizes, the cached mask and the 3 × 3 shape of block `b` are used (`FlatPack.step_eq_stepL2`). -/
theorem flatpack_step_eq_spec (rnd : Rat → Rat) (cfg : Cfg) (s : State) (b k r c : Nat) (hi : Inv cfg s)
    (hc : Jx.countTrue s.placed ≤ s.stepCount) (hin : inSpec cfg b k r c = true) :
    step rnd cfg s (act b k r c) = stepL2 rnd cfg s b k r c := by
  have f := (feasible_iff cfg s).1 hi.1
  exact step_eq_stepL2 rnd cfg s b k r c hi.pre
    (f.blockOK _ (Jx.getD_mem [] (f.blocksLen ▸ (inSpec_iff.1 hin).1))).1 hc hin

/-- the documented end of an episode ("all blocks placed" or "`num_blocks` steps taken") is the code's
`step_count >= num_blocks` -/
theorem flatpack_last_iff_doc (rnd : Rat → Rat) (cfg : Cfg) (s : State) (b k r c : Nat) (hi : Inv cfg s)
    (hc : Jx.countTrue s.placed ≤ s.stepCount) (hin : inSpec cfg b k r c = true) :
    (step rnd cfg s (act b k r c)).2.stepType = .last ↔
      ((step rnd cfg s (act b k r c)).1.placed.all id = true ∨
        (step rnd cfg s (act b k r c)).1.numBlocks ≤ (step rnd cfg s (act b k r c)).1.stepCount) := by
  rw [flatpack_step_eq_spec rnd cfg s b k r c hi hc hin, stepL2_snd]
  split <;> simp_all [termination, transition]

/-- the hypotheses hold in the generated 5 × 3 instance of `Props.C08` -/
example : Inv ⟨5, 3, 2, true⟩ Props.C08.flatpackTwoBlocks :=
  FlatPack.fresh_inv' _ _ Props.C08.flatpack_cell_ne_block_witness.1 Props.C08.flatpack_cell_ne_block_witness.2.1
example : Jx.countTrue Props.C08.flatpackTwoBlocks.placed ≤ Props.C08.flatpackTwoBlocks.stepCount := by decide
end Props.C09

namespace Props.C11
/-- the step counter grows by one per step, the number of blocks is constant, and a step is LAST exactly when the counter
reaches the number of blocks; that an episode therefore lasts exactly `num_blocks` steps is
`Props.C11.flatpack_rollout_ends_exactly_at_num_blocks` (Props/EpisodeInstances.lean) -/
theorem flatpack_last_iff (rnd : Rat → Rat) (cfg : Cfg) (s : State) (a : Action) :
    (step rnd cfg s a).2.stepType = .last ↔ s.numBlocks ≤ s.stepCount + 1 := FlatPack.last_iff rnd cfg s a

theorem flatpack_step_count (rnd : Rat → Rat) (cfg : Cfg) (s : State) (a : Action) :
    (step rnd cfg s a).1.stepCount = s.stepCount + 1 ∧ (step rnd cfg s a).1.numBlocks = s.numBlocks :=
  ⟨FlatPack.step_count rnd cfg s a, (FlatPack.step_numBlocks rnd cfg s a).1⟩
end Props.C11

namespace Props.C12
/-- the observation is `observe` (grid, blocks, cached mask) of the successor state — `observe` and the L1 `observeL1` are
the same term, so this holds by unfolding; the content is `flatpack_obs_documented` -/
theorem flatpack_obs_faithful (rnd : Rat → Rat) (cfg : Cfg) (s : State) (a : Action) :
    (step rnd cfg s a).2.obs = observe (step rnd cfg s a).1 := FlatPack.obs_faithful rnd cfg s a

/-- the same for the observation `reset` returns -/
theorem flatpack_reset_obs_faithful (s : State) : (resetTimeStep s).obs = observe s := rfl

/-- `observe` copies the CACHED mask; on every state of play — the generated state and the successor of every
step with an action of the action space, terminal step included — what the agent is shown as mask is the table of legal moves
of the rules for the grid and placed flags it is shown -/
theorem flatpack_obs_documented (rnd : Rat → Rat) (cfg : Cfg) (s : State) (hi : Inv cfg s) (b k r c : Nat)
    (hin : inSpec cfg b k r c = true) :
    observe s = { grid := s.grid, blocks := s.blocks, actionMask := legalMask cfg s } ∧
    (step rnd cfg s (act b k r c)).2.obs =
      { grid := (step rnd cfg s (act b k r c)).1.grid, blocks := s.blocks,
        actionMask := legalMask cfg (step rnd cfg s (act b k r c)).1 } := by
  refine ⟨FlatPack.observe_documented cfg s hi, ?_⟩
  rw [FlatPack.obs_faithful, FlatPack.observe_documented cfg _ (FlatPack.step_inv rnd cfg s b k r c hi hin)]
  rw [(step_numBlocks rnd cfg s _).2]
end Props.C12

namespace Props.C01
open PzB
/-- the observation returned by `reset` on a generated state (blocks well-formed: `blocksOK`; empty grid; nothing placed)
whose blocks are numbered within 1 … num_blocks (`BlocksBounded`): every leaf listed in `obsBounds cfg` is present and
within its interval: `grid`, `blocks` ∈ [0, num_blocks], `action_mask` ∈ [0,1] -/
theorem flat_pack_reset_obs_in_bounds (cfg : Cfg) (s : State) (hbo : blocksOK cfg s = true)
    (hg : s.grid = Jx.Grid.mk cfg.numRows cfg.numCols 0) (hp : s.placed = List.replicate cfg.numBlocks false)
    (hb : BlocksBounded cfg s.blocks) : ObsInBounds (obsBounds cfg) (obsLeaves (resetTimeStep s).obs) :=
  observe_in_bounds cfg s (fresh_feasible cfg s hbo hg hp) hb

/-- the same for `step`, for every state satisfying the invariant `Inv` of C06 (feasible + cached mask = legal moves;
preserved by every in-spec step: `flatpack_step_inv`) with bounded blocks, every action of the action space (legal or
not), any float rounding, terminal step included.  The grid bound needs feasibility: placed blocks do not overlap, so no
cell is the sum of two block numbers. -/
theorem flat_pack_step_obs_in_bounds (rnd : Rat → Rat) (cfg : Cfg) (s : State) (b k r c : Nat) (hi : Inv cfg s)
    (hin : inSpec cfg b k r c = true) (hb : BlocksBounded cfg s.blocks) :
    ObsInBounds (obsBounds cfg) (obsLeaves (step rnd cfg s (act b k r c)).2.obs) := by
  rw [obs_faithful]
  apply observe_in_bounds cfg _ (step_inv rnd cfg s b k r c hi hin).1
  rw [(step_numBlocks rnd cfg s _).2]
  exact hb

/-- `BlocksBounded` is preserved trivially (the blocks never change) -/
theorem flatpack_blocks_unchanged (rnd : Rat → Rat) (cfg : Cfg) (s : State) (a : Action) :
    (step rnd cfg s a).1.blocks = s.blocks := (step_numBlocks rnd cfg s a).2

/-! #### membership in the model's `obsSpec` / `actionSpec` (the declared specs at the catalogue configurations:
`flatpack_obsSpec_generated`, Props/SpecTable.lean): structure, shapes, dtypes and bounds -/
/-! What the membership theorems below do and do not cover: the dtype tag of every leaf
is written by `toNValue` (by construction) — a wrong dtype in the real code cannot falsify `….valid (toNValue …) = true`; shapes and
dtypes of the real observations are compared with the real spec by `jax.eval_shape` in the C01 sweep (harness/envprops.py), and every
real observation goes through the real `validate` there; the `flat_pack.state` op compares the data of the observation only.  Shapes
are READ OFF the value by `toNValue` (widths off the first row): see `flatpack_obs_valid_only`. -/
open Sp PzS PkS

/-- ("OF CERTIFICATE": the model has no transliteration of `RandomFlatPackGenerator`; the hypotheses are discharged in
Lean only for the two toy generators — `flatpack_toy_obs_valid` — and otherwise by the harness.)  The `reset` observation of every
state satisfying the generator certificates (`blocksOK`, `freshOK`, `BlocksBounded` — all three
evaluated by `flat_pack.instance` on the implementation's reset states) is accepted by `observation_spec.validate`: fields
`grid`, `blocks`, `action_mask`; shapes `(R, C)`, `(num_blocks, 3, 3)`, `(num_blocks, 4, R − 2, C − 2)`; dtypes int32, int32,
bool; bounds [0, num_blocks] ×2, [0, 1] -/
theorem flatpack_reset_obs_valid (cfg : Cfg) (hR : 3 ≤ cfg.numRows) (hB : 0 < cfg.numBlocks) (s : State)
    (hbo : blocksOK cfg s = true) (hf : freshOK cfg s = true) (hb : BlocksBounded cfg s.blocks) :
    (obsSpec cfg).valid (toNValue (resetTimeStep s).obs) = true := by
  have : (resetTimeStep s).obs = observe s := rfl
  rw [this]
  exact observe_valid cfg hR hB s (fresh_inv' cfg s hbo hf) hb

/-- the same for the observation of EVERY `step` with an action of the action space — placed or ignored, MID or LAST, any
float rounding — from every state satisfying the episode invariant `Inv` (kept by every such step: `flatpack_step_inv`) -/
theorem flatpack_step_obs_valid (rnd : Rat → Rat) (cfg : Cfg) (hR : 3 ≤ cfg.numRows) (hB : 0 < cfg.numBlocks) (s : State)
    (b k r c : Nat) (hi : Inv cfg s) (hin : inSpec cfg b k r c = true) (hb : BlocksBounded cfg s.blocks) :
    (obsSpec cfg).valid (toNValue (step rnd cfg s (act b k r c)).2.obs) = true := by
  rw [obs_faithful]
  apply observe_valid cfg hR hB _ (step_inv rnd cfg s b k r c hi hin)
  rw [(step_numBlocks rnd cfg s _).2]
  exact hb

/-- WHOLE EPISODES ("of certificate"): every observation of the rollout (`Ep.rollout` = the L1 step iterated, through the first LAST and
beyond) of ANY actions of the action space from a state satisfying the generator certificates is a member of the spec -/
theorem flatpack_rollout_obs_valid (rnd : Rat → Rat) (cfg : Cfg) (hR : 3 ≤ cfg.numRows) (hB : 0 < cfg.numBlocks) (s : State)
    (hbo : blocksOK cfg s = true) (hf : freshOK cfg s = true) (hb : BlocksBounded cfg s.blocks) (as : List Act4)
    (hin : InSpecAll cfg as) (j : Nat) (e : State × TimeStep Obs)
    (he : (Ep.rollout (stepA rnd cfg) s as)[j]? = some e) : (obsSpec cfg).valid (toNValue e.2.obs) = true := by
  obtain ⟨s', a, hinv, ha, rfl⟩ := rollout_inv_idx (stepA rnd cfg)
    (fun _ s => Inv cfg s ∧ BlocksBounded cfg s.blocks) (fun a => inSpecA cfg a = true)
    (fun _ s a h ha => ⟨step_inv rnd cfg s a.1 a.2.1 a.2.2.1 a.2.2.2 h.1 ha, by
      rw [show (stepA rnd cfg s a).1.blocks = s.blocks from (step_numBlocks rnd cfg s _).2]
      exact h.2⟩) 0 s ⟨fresh_inv' cfg s hbo hf, hb⟩ as hin j e he
  exact Props.C01.flatpack_step_obs_valid rnd cfg hR hB s' a.1 a.2.1 a.2.2.1 a.2.2.2 hinv.1 ha hinv.2

/-- what membership means (so the theorems above are not hollow).  CAVEAT: `toNValue` reads the widths off the FIRST row of every
nested list, so the shape conjuncts here mean "row count, length of the first row, total number of cells" — a ragged value with the
right total can be a member, and nothing is concluded about the later rows.  Rectangularity (`Rect2` / `Rect3` /
`Rect4`) is what the forward theorems are proved through (`FlatPack.observe_valid`: `legalMask_rect`, and the shapes in `feasible_iff`
under `Inv`), i.e. it holds of every EMITTED observation. -/
theorem flatpack_obs_valid_only (cfg : Cfg) (o : Obs) (h : (obsSpec cfg).valid (toNValue o) = true) :
    shape2 o.grid = [cfg.numRows, cfg.numCols] ∧ (∀ v ∈ o.grid.flatten, v ≤ cfg.numBlocks) ∧
    shape3 o.blocks = [cfg.numBlocks, 3, 3] ∧ (∀ v ∈ o.blocks.flatten.flatten, v ≤ cfg.numBlocks) ∧
    shape4 o.actionMask = [cfg.numBlocks, 4, cfg.numRows - 2, cfg.numCols - 2] := FlatPack.obs_valid_only cfg o h

example : blocksOK ⟨5, 3, 2, true⟩ Props.C08.flatpackTwoBlocks = true ∧ freshOK ⟨5, 3, 2, true⟩ Props.C08.flatpackTwoBlocks = true ∧
    BlocksBounded ⟨5, 3, 2, true⟩ Props.C08.flatpackTwoBlocks.blocks ∧
    (obsSpec ⟨5, 3, 2, true⟩).valid (toNValue (resetTimeStep Props.C08.flatpackTwoBlocks).obs) = true ∧
    (obsSpec ⟨5, 3, 1, true⟩).valid (toNValue (resetTimeStep Props.C08.flatpackTwoBlocks).obs) = false := by
  decide +kernel

/-- reward and discount of every `step` (ALL states, ALL action values, any rounding) and of `reset` are accepted by
`reward_spec` (Array((), float)) and `discount_spec` (BoundedArray((), float, 0, 1)) -/
theorem flatpack_reward_discount_valid (rnd : Rat → Rat) (cfg : Cfg) (s : State) (a : Action) :
    rewardSpec.valid (scalarArr (step rnd cfg s a).2.reward) = true ∧
    discountSpec.valid (scalarArr (step rnd cfg s a).2.discount) = true ∧
    rewardSpec.valid (scalarArr (resetTimeStep s).reward) = true ∧
    discountSpec.valid (scalarArr (resetTimeStep s).discount) = true := by
  have hs := stepOK_reward_discount_valid false _ (step_protocol rnd cfg s a)
  refine ⟨hs.1, hs.2, ?_, ?_⟩
  all_goals
    unfold resetTimeStep
    simp only [restart]
    decide

/-- `action_spec.generate_value()` = (0, 0, 0, 0): for every grid of at least 3 × 3 with at least one block the action spec
is well-formed, the generated value is a member (membership in `action_spec` is exactly `inSpec`), and `step` answers it in
every state with a protocol-conform timestep -/
theorem flatpack_accepts_generate_value (rnd : Rat → Rat) (cfg : Cfg) (hR : 3 ≤ cfg.numRows) (hC : 3 ≤ cfg.numCols)
    (hB : 0 < cfg.numBlocks)
    (hbig : cfg.numBlocks ≤ 2147483648 ∧ cfg.numRows ≤ 2147483648 ∧ cfg.numCols ≤ 2147483648) (s : State) :
    (actionSpec cfg).WF = true ∧ (actionSpec cfg).valid (actionSpec cfg).generate = true ∧
    (actionSpec cfg).generate = actionArr (act 0 0 0 0) ∧ inSpec cfg 0 0 0 0 = true ∧
    StepOK none false (step rnd cfg s (act 0 0 0 0)).2 = true := by
  have hw := FlatPack.actionSpec_WF cfg hR hC hB hbig
  exact ⟨hw, Leaf.generate_valid _ hw, FlatPack.actionSpec_generate cfg, inSpec_iff.2 ⟨hB, by decide, hR, hC⟩,
    FlatPack.step_protocol rnd cfg s _⟩

theorem flatpack_action_spec_iff (cfg : Cfg) (b k r c : Nat) :
    (actionSpec cfg).valid (actionArr (act b k r c)) = true ↔ inSpec cfg b k r c = true := by
  rw [actionSpec, actionArr, valid_multiDiscrete_iff, inSpec_iff]
  simp only [act, List.length_cons, List.length_nil, prod, List.foldl_cons, List.foldl_nil, List.zip_cons_cons,
    List.zip_nil_right, List.forall_mem_cons, List.not_mem_nil, Rat.intCast_nonneg, Rat.intCast_le_intCast, true_and,
    false_imp_iff, implies_true, and_true]
  omega
end Props.C01

namespace Props.C01
open Sp PzS PkS in
/-- C01 for the toy generators WITHOUT certificate hypotheses: the reset observation, and every observation of the
rollout of ANY actions of the action space (any rounding, either reward function), is a member of the declared spec -/
theorem flatpack_toy_obs_valid (rnd : Rat → Rat) (cd : Bool) (s : State) (hs : s = toyGenerateRot ∨ s = toyGenerateNoRot) :
    (obsSpec (toyCfg cd)).valid (toNValue (resetTimeStep s).obs) = true ∧
    ∀ (as : List Act4), InSpecAll (toyCfg cd) as → ∀ (j : Nat) (e : State × TimeStep Obs),
      (Ep.rollout (stepA rnd (toyCfg cd)) s as)[j]? = some e → (obsSpec (toyCfg cd)).valid (toNValue e.2.obs) = true := by
  obtain ⟨⟨hbo, hf, hb, -⟩, hbo', hf', hb', -⟩ := Props.C10.flatpack_toy_cert cd
  have hR : 3 ≤ (toyCfg cd).numRows := by show 3 ≤ 5; omega
  have hB : 0 < (toyCfg cd).numBlocks := by show 0 < 4; omega
  rcases hs with rfl | rfl
  · exact ⟨Props.C01.flatpack_reset_obs_valid _ hR hB _ hbo hf hb,
      fun as hin j e he => Props.C01.flatpack_rollout_obs_valid rnd _ hR hB _ hbo hf hb as hin j e he⟩
  · exact ⟨Props.C01.flatpack_reset_obs_valid _ hR hB _ hbo' hf' hb',
      fun as hin j e he => Props.C01.flatpack_rollout_obs_valid rnd _ hR hB _ hbo' hf' hb' as hin j e he⟩
end Props.C01
