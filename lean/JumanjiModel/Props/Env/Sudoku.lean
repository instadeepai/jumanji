/-
Property theorems for Sudoku.  Those that restate a lemma other proofs use are one-line references into
Env/Sudoku/*.lean; the others are proved here.
`Grid.shaped b 9 9` says the board is a 9x9 array (any integer contents); `CachedOK s` says the mask
cached in the state is the table of legal moves of its board — established by `sudoku_cached_mask`
for every state produced by `step`, and checked on every generated instance (C10).
-/
import JumanjiModel.Env.Sudoku.Lemmas
import JumanjiModel.Env.Sudoku.Bounds
import JumanjiModel.Env.Sudoku.DBLemmas
import JumanjiModel.Gen.SudokuDB
import JumanjiModel.Env.Sudoku.RunLemmas
import JumanjiModel.Env.Sudoku.SpecValid
open Jm Jx Sudoku

namespace Sudoku
/-- the puzzle of `DummyGenerator`, the board of the `example`s below -/
def sampleBoard : Grid Int :=
  [[-1, -1, -1, 7, -1, 0, -1, -1, -1],
   [-1, -1, -1, -1, -1, -1, -1, 3, 2],
   [4, -1, -1, -1, -1, -1, -1, -1, -1],
   [-1, -1, -1, -1, 6, -1, 7, -1, -1],
   [-1, -1, -1, -1, -1, -1, 0, -1, -1],
   [-1, 1, -1, -1, 2, -1, -1, -1, -1],
   [5, -1, -1, -1, -1, -1, -1, 6, 4],
   [-1, -1, 2, 3, -1, -1, -1, -1, -1],
   [-1, -1, -1, 1, -1, -1, 5, -1, -1]]

/-- `sampleBoard` is the shipped board of `DummyGenerator` (`Gen.SudokuDB.toy`), so the checker run on `toy` certifies it -/
theorem sampleBoard_decoded : DB.decodeBoard Gen.SudokuDB.toy = sampleBoard := by decide +kernel

theorem sampleBoard_ok : boardOK sampleBoard = true := sampleBoard_decoded ▸ DB.fastOK_sound _ Gen.SudokuDB.toy_ok

theorem sampleBoard_feasible : Feasible sampleBoard := ((DB.boardOK_iff _).1 sampleBoard_ok).1

theorem sampleState_cached : CachedOK ⟨sampleBoard, maskOf sampleBoard⟩ :=
  maskOf_eq_legalTable _ sampleBoard_feasible.1

end Sudoku

namespace Props.C04
/-- the transliterated `get_action_mask` (empty-cell mask, one-hot row / column / box masks, gather
and scatter through `BOX_IDX`) marks exactly the legal moves: cell empty, digit absent from the
cell's row, column and 3x3 box — for every 9x9 board -/
theorem sudoku_mask_iff_legal (b : Grid Int) (hs : Grid.shaped b 9 9 = true) (r c d : Nat) (hr : r < 9)
    (hc : c < 9) (hd : d < 9) :
    (((maskOf b).getD r []).getD c []).getD d false = true ↔ legal b r c d := by
  rw [maskOf_eq_legalTable b hs, legalTable_tab, tab3, getD_range_map _ _ hr, getD_range_map _ _ hc,
    getD_range_map _ _ hd, decide_eq_true_eq]

/-- as arrays: mask = table of legal moves -/
theorem sudoku_mask_eq_legalTable (b : Grid Int) (hs : Grid.shaped b 9 9 = true) : maskOf b = legalTable b :=
  Sudoku.maskOf_eq_legalTable b hs

/-- the mask cached in the successor state is the table of legal moves of the successor board (`hr`, `hc` are not
used: a natural index writes with `set` whatever its range) -/
theorem sudoku_cached_mask (s : State) (hs : Grid.shaped s.board 9 9 = true) (r c d : Nat) (hr : r < 9)
    (hc : c < 9) : CachedOK (step s r c d).1 := Sudoku.step_cached s hs r c d

/-- `step` (which reads the cached mask) agrees with the rules about validity: an
in-spec action the rules forbid ends the episode, and one they allow ends it iff no legal move is left on the new board -/
theorem sudoku_step_agrees (s : State) (hs : Grid.shaped s.board 9 9 = true) (hcache : CachedOK s) (r c d : Nat)
    (hr : r < 9) (hc : c < 9) (hd : d < 9) :
    (¬ legal s.board r c d → (step s r c d).2.stepType = .last) ∧
    (legal s.board r c d →
      ((step s r c d).2.stepType = .last ↔ ¬ ∃ r' c' d', legal (step s r c d).1.board r' c' d')) :=
  Sudoku.step_agrees_step s hs hcache r c d hr hc hd

-- on the sample puzzle: writing 1 at (0,0) is legal and the episode goes on; writing 7 there (7 is in row 0) ends it
example : (step ⟨sampleBoard, maskOf sampleBoard⟩ 0 0 1).2.stepType = .mid ∧
    (step ⟨sampleBoard, maskOf sampleBoard⟩ 0 0 7).2.stepType = .last :=
  ⟨(step_mid_iff _ sampleBoard_feasible.1 sampleState_cached 0 0 1 (by decide) (by decide) (by decide)).2
      ⟨by decide, 0, 1, 2, by decide⟩,
   illegal_last _ sampleBoard_feasible.1 sampleState_cached 0 0 7 (by decide) (by decide) (by decide) (by decide)⟩

example : legal sampleBoard 0 0 1 ∧ ¬ legal sampleBoard 0 0 7 ∧ ¬ legal sampleBoard 0 3 1 := by decide +kernel
example : CachedOK ⟨sampleBoard, maskOf sampleBoard⟩ := sampleState_cached
end Props.C04

namespace Props.C05
/-- an illegal move ends the episode (the documents promise nothing about the board: the digit is
written anyway) -/
theorem sudoku_illegal_terminates (s : State) (hs : Grid.shaped s.board 9 9 = true) (hcache : CachedOK s)
    (r c d : Nat) (hr : r < 9) (hc : c < 9) (hd : d < 9) (h : ¬ legal s.board r c d) :
    (step s r c d).2.stepType = .last := Sudoku.illegal_last s hs hcache r c d hr hc hd h

/-- … and, while the episode is still running (some legal move exists), it carries reward 0: an
illegal move never completes the puzzle -/
theorem sudoku_illegal_reward_zero (s : State) (hs : Grid.shaped s.board 9 9 = true) (r c d : Nat)
    (hr : r < 9) (hc : c < 9) (hd : d < 9) (h : ¬ legal s.board r c d)
    (hmove : ∃ r0 c0 d0, legal s.board r0 c0 d0) : (step s r c d).2.reward = [0] := by
  have hns : isSolved (place s.board r c d) = false := Bool.eq_false_iff.2 fun hsol => by
    obtain ⟨⟨_, _, hcf⟩, hfull⟩ := (isSolved_iff_solution _ (shaped_place s.board hs r c d)).1 hsol
    -- an illegal digit that leaves no conflict overwrote a filled cell, so the empty cell of `hmove` is another one and stays
    obtain ⟨r0, c0, d0, hr0, hc0, _, he0, _⟩ := hmove
    have hfilled : cell s.board r c ≠ -1 := fun he => h (legal_of_place_conflictFree s.board hs r c d hr hc hd he hcf)
    have := hfull r0 hr0 c0 hc0
    rw [cell_place s.board hs r c d hr hc, if_neg (by rintro ⟨rfl, rfl⟩; exact hfilled he0)] at this
    exact this he0
  rw [step_reward, step_state s hs r c d]
  show [if isSolved (place s.board r c d) then 1 else 0] = [0]
  rw [hns]
  rfl
end Props.C05

namespace Props.C06
/-! feasibility along a whole play starts from the databases of C10 and follows that block -/

/-- a legal move keeps the board feasible: 9x9, entries in −1..8, no digit twice in a row, column or
box (`place` is the successor board of `step`, see `Props.C09.sudoku_step_state`) -/
theorem sudoku_place_feasible (b : Grid Int) (hf : Feasible b) (r c d : Nat) (hl : legal b r c d) :
    Feasible (place b r c d) := Sudoku.step_feasible b hf r c d hl

/-- the same about the step function itself -/
theorem sudoku_step_feasible (s : State) (hf : Feasible s.board) (r c d : Nat) (hl : legal s.board r c d) :
    Feasible (step s r c d).1.board := by
  rw [Sudoku.step_state s hf.1 r c d]
  exact Sudoku.step_feasible s.board hf r c d hl

/-- completion through `step`: a legal move from a feasible board after which the board is full yields
a complete feasible solution, is rewarded 1 and ends the episode -/
theorem sudoku_complete_is_solution (s : State) (hf : Feasible s.board) (r c d : Nat) (hl : legal s.board r c d)
    (hfull : Full (step s r c d).1.board) :
    IsSolution (step s r c d).1.board ∧ (step s r c d).2.reward = [1] ∧ (step s r c d).2.stepType = .last :=
  Sudoku.complete_is_solution s hf r c d hl hfull

/-- the hypotheses are satisfiable: a solved grid with cell (0,0) emptied, the missing digit 0 written back -/
example :
    let b : Grid Int := [[-1,1,2,3,4,5,6,7,8],[3,4,5,6,7,8,0,1,2],[6,7,8,0,1,2,3,4,5],[1,2,3,4,5,6,7,8,0],
      [4,5,6,7,8,0,1,2,3],[7,8,0,1,2,3,4,5,6],[2,3,4,5,6,7,8,0,1],[5,6,7,8,0,1,2,3,4],[8,0,1,2,3,4,5,6,7]]
    Feasible b ∧ legal b 0 0 0 ∧ Full (step ⟨b, maskOf b⟩ 0 0 0).1.board := by
  intro b
  -- `b` in the packed form of the databases: the proved checker certifies it
  have h : DB.decodeBoard 0x000203040506070809_040506070809010203_070809010203040506_020304050607080901_050607080901020304_080901020304050607_030405060708090102_060708090102030405_090102030405060708 = b := by
    decide +kernel
  exact ⟨h ▸ ((DB.boardOK_iff _).1 (DB.fastOK_sound _ (by decide +kernel))).1, by decide +kernel⟩

example : Feasible sampleBoard := sampleBoard_feasible
end Props.C06

namespace Props.C09
/-- Sudoku placement: the successor board is the board with the digit written into the cell, and
the successor mask is the table of legal moves of that board (`hr`, `hc` are not used) -/
theorem sudoku_step_state (s : State) (hs : Grid.shaped s.board 9 9 = true) (r c d : Nat) (hr : r < 9)
    (hc : c < 9) :
    (step s r c d).1 = { board := place s.board r c d, mask := legalTable (place s.board r c d) } :=
  Sudoku.step_state s hs r c d

/-- the episode ends exactly on an illegal move or when no legal move is left on the new board -/
theorem sudoku_step_last_iff (s : State) (hs : Grid.shaped s.board 9 9 = true) (hcache : CachedOK s)
    (r c d : Nat) (hr : r < 9) (hc : c < 9) (hd : d < 9) :
    (step s r c d).2.stepType = .last ↔
      (¬ legal s.board r c d ∨ ¬ ∃ r' c' d', legal (place s.board r c d) r' c' d') :=
  Sudoku.step_last_iff s hs hcache r c d hr hc hd

/-- the reward is `1` exactly when the transliterated `is_puzzle_solved` (sort == arange on rows,
columns, boxes) accepts the new board … -/
theorem sudoku_step_reward (s : State) (r c d : Int) :
    (step s r c d).2.reward = [if isSolved (step s r c d).1.board then 1 else 0] :=
  Sudoku.step_reward s r c d

/-- … and it accepts exactly the complete feasible solutions (9x9, digits 0..8, no empty cell, no
digit twice in a row, column or box): the sparse reward is 1 iff the new board solves the puzzle -/
theorem sudoku_solved_iff_solution (b : Grid Int) (hs : Grid.shaped b 9 9 = true) :
    isSolved b = true ↔ IsSolution b := Sudoku.isSolved_iff_solution b hs
end Props.C09

namespace Props.C10
/-- a state built the way the generators build it (any 9x9 board, mask = `get_action_mask(board)`)
carries a correctly cached mask, so the hypotheses `CachedOK` of the C04/C05/C09/C11 theorems hold from
reset on; the remaining advertised invariant (conflict-free puzzle, `Feasible`) is evaluated by the
driver on the generated boards and proved for all 11 000 shipped boards below (`sudoku_db_all_ok`) -/
theorem sudoku_generated_mask (b : Grid Int) (hs : Grid.shaped b 9 9 = true) :
    CachedOK { board := b, mask := maskOf b } := Sudoku.maskOf_eq_legalTable b hs

/-! The shipped puzzle databases (`data/1000_very_easy_puzzles.npy`, `data/10000_mixed_puzzles.npy`, the table
`data.DATABASES`).  `harness/translators.py: gen_sudoku_db` turns them into the literals of Gen/SudokuDB*.lean (one
`Nat` per board, layout in Env/Sudoku/DBCheck.lean); `Gen.SudokuDB.allBoards` is the list of the boards
`DatabaseGenerator.__call__` can put into a state (`jnp.asarray(board, dtype=jnp.int32) - 1` of every entry).  The
kernel runs the bit-parallel checker on every entry (`decide +kernel`, one run per chunk of 250 boards in the generated
files: `Sudoku.DB.chunkOK` performs the tests of `Sudoku.DB.fastOK` on all boards of a chunk at once, packed into one
number, and `chunkOK_sound` gives `fastOK` of every board); `Sudoku.DB.fastOK_sound` (proved for every code,
Env/Sudoku/DBLemmas.lean) turns each run into the certificates below.  No hypotheses: these are statements about the shipped data. -/

/-- every board of every shipped database carries the board certificates of the `sudoku.instance` op (`boardOK` = the
same four expressions: `shape_9x9`, `digits_in_range`, `conflict_free`, `has_empty_cell`) -/
theorem sudoku_db_all_ok : ∀ b ∈ Gen.SudokuDB.allBoards, boardOK b = true :=
  Sudoku.DB.all_ok_of_chunks _ Gen.SudokuDB.chunks_ok

/-- the same with the L2 predicates: every shipped puzzle is feasible (9x9, cells in −1..8, no digit twice in a row,
column or box — the hypothesis of C06 / C01 at reset) and has an empty cell (the episode does not start finished) -/
theorem sudoku_db_feasible : ∀ b ∈ Gen.SudokuDB.allBoards, Feasible b ∧ emptyCells b > 0 :=
  fun b hb => (Sudoku.DB.boardOK_iff b).1 (sudoku_db_all_ok b hb)

/-- the state `DatabaseGenerator` builds from any entry (`State(board, get_action_mask(board))`) carries the five
board / mask certificates among the eight keys of the `sudoku.instance` op (the fifth, `mask_is_legal_table`, by `sudoku_generated_mask`) -/
theorem sudoku_db_states_ok : ∀ b ∈ Gen.SudokuDB.allBoards,
    instanceOK { board := b, mask := maskOf b } = true := by
  intro b hb
  have h := sudoku_db_all_ok b hb
  have hs : Grid.shaped b 9 9 = true := ((Sudoku.DB.boardOK_iff b).1 h).1.1
  unfold instanceOK
  rw [Bool.and_eq_true, decide_eq_true_eq]
  exact ⟨h, sudoku_generated_mask b hs⟩

/-- `allBoards` is all of both databases: the chunks are those listed per database, and the sizes are the documented
ones (1000 very-easy puzzles, 10000 mixed puzzles; 11000 boards) -/
theorem sudoku_db_complete :
    Gen.SudokuDB.chunks = Gen.SudokuDB.databases.flatMap (fun d => d.2.2.2) ∧
    Gen.SudokuDB.databases.map (fun d => (d.1, d.2.1, d.2.2.1, d.2.2.2.flatten.length)) =
      [("very-easy", "1000_very_easy_puzzles.npy", 1000, 1000), ("mixed", "10000_mixed_puzzles.npy", 10000, 10000)] ∧
    Gen.SudokuDB.allBoards.length = 11000 := by
  refine ⟨rfl, (and_iff_left_of_imp fun h => ?_).2 (by decide +kernel)⟩
  -- the boards are the entries of the chunks of the two databases, which `h` has counted
  have hc : Gen.SudokuDB.chunks = Gen.SudokuDB.databases.flatMap (fun d => d.2.2.2) := rfl
  rw [Gen.SudokuDB.allBoards, List.length_map, Gen.SudokuDB.allCodes, hc]
  simp only [Gen.SudokuDB.databases, List.map_cons, List.map_nil, List.cons.injEq, Prod.mk.injEq, and_true,
    true_and] at h
  simp only [Gen.SudokuDB.databases, List.flatMap_cons, List.flatMap_nil, List.append_nil, List.flatten_append,
    List.length_append, h.1, h.2]

/-- the board of `DummyGenerator` (`constants.INITIAL_BOARD_SAMPLE`, translated with the databases) is the
`sampleBoard` of the examples, and it carries the same certificates -/
theorem sudoku_toy_ok : Sudoku.DB.decodeBoard Gen.SudokuDB.toy = sampleBoard ∧ boardOK sampleBoard = true :=
  ⟨sampleBoard_decoded, sampleBoard_ok⟩

/-- the checker is not vacuous: it rejects a board with a digit twice in a row / column / box, a value 10, and a full
board (first row of the first very-easy puzzle `4 9 6 _ 3 5 8 7 1` with the 4 repeated, etc.) -/
example : Sudoku.DB.fastOK 0x040906040305080701_000000000000000000_000000000000000000_000000000000000000_000000000000000000_000000000000000000_000000000000000000_000000000000000000_000000000000000000 = false ∧
    Sudoku.DB.fastOK 0x040000000000000000_000000000000000000_000000000000000000_000000000000000000_000000000000000000_000000000000000000_040000000000000000_000000000000000000_000000000000000000 = false ∧
    Sudoku.DB.fastOK 0x040000000000000000_000000000000000000_000004000000000000_000000000000000000_000000000000000000_000000000000000000_000000000000000000_000000000000000000_000000000000000000 = false ∧
    Sudoku.DB.fastOK 0x0a0000000000000000_000000000000000000_000000000000000000_000000000000000000_000000000000000000_000000000000000000_000000000000000000_000000000000000000_000000000000000000 = false ∧
    Sudoku.DB.fastOK 0x010203040506070809_040506070809010203_070809010203040506_020304050607080901_050607080901020304_080901020304050607_030405060708090102_060708090102030405_090102030405060708 = false ∧
    Sudoku.DB.fastOK 0x000203040506070809_040506070809010203_070809010203040506_020304050607080901_050607080901020304_080901020304050607_030405060708090102_060708090102030405_090102030405060708 = true := by
  decide +kernel
end Props.C10

namespace Props.C06
/-- C06 ALONG A PLAY, from any feasible start state: if each of the first `k` actions is legal on the board it is
played on, the board after them is feasible (`sudoku_step_feasible` is kept along the play) -/
theorem sudoku_feasible_along_from (s : State) (hf : Feasible s.board) (as : List Action) (k : Nat)
    (hk : k ≤ as.length)
    (hleg : ∀ j (hj : j < as.length), j < k →
      legal (EpRun.after stepA s (as.take j)).board as[j].1 as[j].2.1 as[j].2.2) :
    Feasible (EpRun.after stepA s (as.take k)).board :=
  -- the play is not required to stop anywhere: no timestep counts as LAST
  EpRun.after_inv_mid stepA (fun _ => False) (fun s => Feasible s.board) (fun s a => legal s.board a.1 a.2.1 a.2.2)
    (fun s _ h hl _ => Props.C06.sudoku_step_feasible s h _ _ _ hl) s as k hk hf hleg (fun _ _ _ _ h => h)

/-- … composed with `reset` and the generator: from the reset state of EVERY board of the shipped databases (base case
`Props.C10.sudoku_db_feasible`), mask-respecting (= legal, `Props.C04.sudoku_mask_iff_legal`) play never leaves the feasible boards -/
theorem sudoku_feasible_along (b : Grid Int) (hb : b ∈ Gen.SudokuDB.allBoards) (as : List Action) (k : Nat)
    (hk : k ≤ as.length)
    (hleg : ∀ j (hj : j < as.length), j < k →
      legal (EpRun.after stepA (Sudoku.reset b).1 (as.take j)).board as[j].1 as[j].2.1 as[j].2.2) :
    Feasible (EpRun.after stepA (Sudoku.reset b).1 (as.take k)).board :=
  sudoku_feasible_along_from _ (by simpa [Sudoku.reset] using (Props.C10.sudoku_db_feasible b hb).1) as k hk hleg
end Props.C06

namespace Props.C11
/-- every step that does not end the episode fills one empty cell (hence an episode has at most `emptyCells + 1` steps:
`sudoku_run_horizon`, `sudoku_episode_length`) -/
theorem sudoku_progress (s : State) (hs : Grid.shaped s.board 9 9 = true) (hcache : CachedOK s)
    (r c d : Nat) (hr : r < 9) (hc : c < 9) (hd : d < 9) (hn : (step s r c d).2.stepType ≠ .last) :
    emptyCells (step s r c d).1.board + 1 = emptyCells s.board :=
  Sudoku.progress s hs hcache r c d hr hc hd hn

/-! #### episode level: `run s as` = the (successor state, timestep) pairs of playing the in-spec actions
`as` from `s` with the L1 `step` (`run = EpRun.run stepA`; `EpRun.after stepA s (as.take k)` is its state after `k` steps, and the
`Ep.rollout stepA` of the C01 section is the same list, `Ep.rollout_eq_run`); `NoLastBefore … k` = none of the transitions 0..k-1
is LAST. -/

/-- structural horizon: from any state with a 9×9 board and a correctly cached mask (every reset state, C10/C12), if the
first `k` transitions of a play are not LAST then `k ≤ emptyCells` — an episode (`k` non-LAST steps, then one LAST) has at
most `emptyCells + 1` steps, and at most `emptyCells` steps as soon as it has more than one; exactly `k` cells were filled;
`CachedOK` and the shape are carried along -/
theorem sudoku_run_horizon (s : State) (hs : Grid.shaped s.board 9 9 = true) (hcache : CachedOK s) (as : List Action)
    (has : ∀ a ∈ as, InSpec a) (k : Nat) (hk : k ≤ as.length)
    (hno : EpRun.NoLastBefore stepA (·.stepType = .last) s as k) :
    k ≤ emptyCells s.board ∧ (1 ≤ k → k + 1 ≤ emptyCells s.board) ∧
    emptyCells (EpRun.after stepA s (as.take k)).board + k = emptyCells s.board ∧
    Grid.shaped (EpRun.after stepA s (as.take k)).board 9 9 = true ∧ CachedOK (EpRun.after stepA s (as.take k)) := by
  have hok : ∀ j (hj : j < as.length), j < k → InSpec as[j] := fun j hj _ => has _ (List.getElem_mem hj)
  have h1 := EpRun.run_horizon stepA (·.stepType = .last) (fun s => emptyCells s.board) RunInv (fun _ a => InSpec a)
    (fun s a h _ _ => stepA_inv s a h) stepA_progress s as k hk ⟨hs, hcache⟩ hok hno
  have h2 := EpRun.run_measure stepA (·.stepType = .last) (fun s => emptyCells s.board) RunInv (fun _ a => InSpec a)
    (fun s a h _ _ => stepA_inv s a h) stepA_progress s as k hk ⟨hs, hcache⟩ hok hno
  -- `h1`: the two bounds on `k`; `h2`: `RunInv` after `k` steps, and the measure
  exact ⟨h1.1, h1.2 stepA_pos, h2.2, h2.1.1, h2.1.2⟩

/-- an action list all of whose transitions but the final one are not LAST (one episode) has
`as.length ≤ emptyCells s.board + 1` -/
theorem sudoku_episode_length (s : State) (hs : Grid.shaped s.board 9 9 = true) (hcache : CachedOK s)
    (as : List Action) (has : ∀ a ∈ as, InSpec a)
    (hep : EpRun.NoLastBefore stepA (·.stepType = .last) s as (as.length - 1)) :
    as.length ≤ emptyCells s.board + 1 := by
  have := (sudoku_run_horizon s hs hcache as has (as.length - 1) (by omega) hep).1
  omega

/-- there is a LAST at or before step `emptyCells + 1` of every longer play -/
theorem sudoku_run_exists_last (s : State) (hs : Grid.shaped s.board 9 9 = true) (hcache : CachedOK s)
    (as : List Action) (has : ∀ a ∈ as, InSpec a) (hlen : emptyCells s.board + 1 ≤ as.length) :
    ∃ (k : Nat) (p : State × TimeStep Obs), k ≤ emptyCells s.board ∧ (run s as)[k]? = some p ∧
      p.2.stepType = .last :=
  EpRun.run_exists_last_measure stepA (·.stepType = .last) (fun s => emptyCells s.board) RunInv
    (fun _ a => InSpec a) (fun s a h _ _ => stepA_inv s a h) stepA_progress s as ⟨hs, hcache⟩ hlen
    (fun _ hj => has _ (List.getElem_mem hj))

-- sample puzzle: two legal moves are MID, the third (digit 7 into row 0, which has a 7) is LAST
example : ((run ⟨sampleBoard, maskOf sampleBoard⟩ [(0, 0, 1), (0, 1, 2), (0, 2, 7)]).map
    (fun p => decide (p.2.stepType = .last))) = [false, false, true] := by
  have i0 : RunInv ⟨sampleBoard, maskOf sampleBoard⟩ := ⟨sampleBoard_feasible.1, sampleState_cached⟩
  have i1 := stepA_inv _ (0, 0, 1) i0
  have i2 := stepA_inv _ (0, 1, 2) i1
  have t1 : (stepA _ (0, 0, 1)).2.stepType = .mid :=
    (step_mid_iff _ i0.1 i0.2 0 0 1 (by decide) (by decide) (by decide)).2 ⟨by decide, 0, 1, 2, by decide⟩
  have t2 : (stepA _ (0, 1, 2)).2.stepType = .mid :=
    (step_mid_iff _ i1.1 i1.2 0 1 2 (by decide) (by decide) (by decide)).2
      ⟨by decide +kernel, 0, 2, 3, by decide +kernel⟩
  have t3 : (stepA _ (0, 2, 7)).2.stepType = .last :=
    illegal_last _ i2.1 i2.2 0 2 7 (by decide) (by decide) (by decide) (by decide +kernel)
  simp only [run, EpRun.run, List.map_cons, List.map_nil, t1, t2, t3]
  rfl
end Props.C11

namespace Props.C12
/-- the observation shows the successor board and the table of its legal moves (`hr`, `hc` are not used) -/
theorem sudoku_obs_faithful (s : State) (hs : Grid.shaped s.board 9 9 = true) (r c d : Nat) (hr : r < 9)
    (hc : c < 9) : (step s r c d).2.obs = observe (step s r c d).1 := Sudoku.obs_faithful s hs r c d hr hc

/-- for any action whatsoever the observation fields are copies of the successor state's fields -/
theorem sudoku_obs_copied (s : State) (r c d : Int) :
    (step s r c d).2.obs = { board := (step s r c d).1.board, mask := (step s r c d).1.mask } :=
  Sudoku.obs_copied s r c d

/-- the observation returned by `reset` (any 9×9 generator board `b`, `get_action_mask(b)`, `restart`) shows the board
and the table of its legal moves; the timestep is FIRST and the cached mask is correct (`CachedOK`, the hypothesis of
the step theorems) -/
theorem sudoku_reset_obs_faithful (b : Grid Int) (hs : Grid.shaped b 9 9 = true) :
    (Sudoku.reset b).2.obs = observe (Sudoku.reset b).1 ∧ (Sudoku.reset b).2.stepType = .first ∧
      CachedOK (Sudoku.reset b).1 := Sudoku.reset_obs_faithful b hs

example : Grid.shaped sampleBoard 9 9 = true := by decide
end Props.C12

namespace Props.C01
open PzB
/-- the observation returned by `reset` on a generated board whose cells are −1 or digits 0..8 (`CellsInRange`; it follows
from `Feasible`, see below): `board` ∈ [-1, 8] — tighter than the declared [-1, 9] — and `action_mask` ∈ [0,1] -/
theorem sudoku_reset_obs_in_bounds (b : Grid Int) (h : CellsInRange b) :
    ObsInBounds obsBounds (obsLeaves (Sudoku.reset b).2.obs) := Sudoku.obs_in_bounds _ h

/-- the same for `step` with any cell indices and any value −1..8 as digit (the action space has 0..8), legal or not,
terminal step included -/
theorem sudoku_step_obs_in_bounds (s : State) (r c d : Int) (h : CellsInRange s.board) (hd : -1 ≤ d ∧ d ≤ 8) :
    ObsInBounds obsBounds (obsLeaves (step s r c d).2.obs) := by
  apply obs_in_bounds
  rw [Sudoku.obs_copied]
  exact step_cellsInRange s r c d h hd

/-- `CellsInRange` is implied by the hard constraint `Feasible` of C06 and preserved by every step that writes a value −1..8 -/
theorem sudoku_cellsInRange_invariant :
    (∀ b, Feasible b → CellsInRange b) ∧
    (∀ (s : State) (r c d : Int), CellsInRange s.board → (-1 ≤ d ∧ d ≤ 8) → CellsInRange (step s r c d).1.board) :=
  ⟨Sudoku.cellsInRange_of_feasible, Sudoku.step_cellsInRange⟩

/-- shapes: the reset observation of a 9×9 board has `board` 9×9 and `action_mask` 9×9×9 -/
theorem sudoku_reset_obs_shaped (b : Grid Int) (hs : Grid.shaped b 9 9 = true) :
    ObsShaped (Sudoku.reset b).2.obs := ⟨hs, maskOf_shaped b hs⟩

/-- … and so has the observation of every step from a 9×9 board, for ANY integer action (legal or not, in range or
not); the successor board is 9×9 again, so this holds along every trajectory -/
theorem sudoku_step_obs_shaped (s : State) (hs : Grid.shaped s.board 9 9 = true) (r c d : Int) :
    ObsShaped (step s r c d).2.obs ∧ Grid.shaped (step s r c d).1.board 9 9 = true :=
  ⟨Sudoku.step_obs_shaped s hs r c d, Grid.shaped_setWD hs d r c⟩

theorem sudoku_step_obs_conforms (s : State) (r c d : Int) (hs : Grid.shaped s.board 9 9 = true)
    (h : CellsInRange s.board) (hd : -1 ≤ d ∧ d ≤ 8) :
    ObsInBounds obsBounds (obsLeaves (step s r c d).2.obs) ∧ ObsShaped (step s r c d).2.obs :=
  ⟨sudoku_step_obs_in_bounds s r c d h hd, Sudoku.step_obs_shaped s hs r c d⟩

/-! NOTE on what the membership theorems of this section do and do not cover: the dtype tag of every leaf
is written by `toNValue` (by construction) — a wrong dtype in the real code cannot falsify `….valid (toNValue …) = true`; dtypes and
field order of the real observations are compared by the `sudoku.spec` / `sudoku.state` ops (`nvalue`: field order, shape, dtype, data) and
`jax.eval_shape` in the sweeps.  Shapes are READ OFF the value by `toNValue` (widths off the first row): see `…_obs_valid_only`. -/

open Sp PzS PkS

/-- the `reset` observation on top of ANY 9×9 board whose cells are −1 or digits 0..8 is accepted by
`observation_spec.validate`: fields `board`, `action_mask`; shapes `(9, 9)`, `(9, 9, 9)`; dtypes int32, bool; bounds `[-1, 9]`,
`[0, 1]` -/
theorem sudoku_reset_obs_valid (b : Grid Int) (hs : Grid.shaped b 9 9 = true) (hc : CellsInRange b) :
    Sudoku.obsSpec.valid (toNValue (Sudoku.reset b).2.obs) = true := Sudoku.obs_valid _ (obsOK_of_inv b hs hc)

/-- … in particular on top of every feasible board (the generator certificate evaluated by `sudoku.instance`), where the reset
state also satisfies the invariant `SpecInv` -/
theorem sudoku_reset_obs_valid_of_feasible (b : Grid Int) (hf : Feasible b) :
    Sudoku.obsSpec.valid (toNValue (Sudoku.reset b).2.obs) = true ∧ SpecInv (Sudoku.reset b).1 :=
  have hc := Sudoku.cellsInRange_of_feasible b hf
  ⟨sudoku_reset_obs_valid b hf.1 hc, hf.1, hc⟩

/-- EVERY draw of `DatabaseGenerator` over the shipped databases (all 11 000 boards; the draw is the index) and the board of
`DummyGenerator`: the reset observation is a member of the spec and the reset state satisfies the invariant.  No hypotheses -/
theorem sudoku_db_reset_obs_valid :
    (∀ b ∈ Gen.SudokuDB.allBoards, Sudoku.obsSpec.valid (toNValue (Sudoku.reset b).2.obs) = true ∧
      SpecInv (Sudoku.reset b).1) ∧
    (Sudoku.obsSpec.valid (toNValue (Sudoku.reset sampleBoard).2.obs) = true ∧ SpecInv (Sudoku.reset sampleBoard).1) :=
  ⟨fun b hb => sudoku_reset_obs_valid_of_feasible b (Props.C10.sudoku_db_feasible b hb).1,
   sudoku_reset_obs_valid_of_feasible _ sampleBoard_feasible⟩

/-- the invariant `SpecInv` (a 9×9 board with cells in −1..8) holds after `reset` of such a board and is preserved by EVERY
step whose digit is in the action space (row and column may be ANY integers) — the cell may be filled already, the move may
be illegal, the step may be terminal -/
theorem sudoku_specInv_invariant :
    (∀ b : Grid Int, Grid.shaped b 9 9 = true → CellsInRange b → SpecInv (Sudoku.reset b).1) ∧
    (∀ (s : State) (r c d : Int), SpecInv s → (0 ≤ d ∧ d ≤ 8) → SpecInv (step s r c d).1) :=
  ⟨fun _ hs hc => ⟨hs, hc⟩, fun s r c d h hd => Sudoku.step_specInv s h r c d hd⟩

/-- the observation of EVERY such step from a state satisfying the invariant is a member of the spec (terminal step
included; the CACHED mask of the state plays no role: the emitted mask is recomputed from the new board) -/
theorem sudoku_step_obs_valid (s : State) (h : SpecInv s) (r c d : Int) (hd : 0 ≤ d ∧ d ≤ 8) :
    Sudoku.obsSpec.valid (toNValue (step s r c d).2.obs) = true := Sudoku.step_obs_valid s h r c d hd

example : SpecInv (Sudoku.reset sampleBoard).1 := by decide

/-- WHOLE EPISODES (and beyond): along the rollout (`Ep.rollout` = the L1 step iterated, no stop at LAST) of ANY in-spec
actions from the reset of ANY board of the shipped databases, EVERY emitted observation is a member of the spec and every
state satisfies the invariant -/
theorem sudoku_obs_valid_along (b : Grid Int) (hb : b ∈ Gen.SudokuDB.allBoards) (as : List Action)
    (has : ∀ a ∈ as, InSpec a) (j : Nat) (e : State × TimeStep Obs)
    (he : (Ep.rollout stepA (Sudoku.reset b).1 as)[j]? = some e) :
    Sudoku.obsSpec.valid (toNValue e.2.obs) = true ∧ SpecInv e.1 :=
  Sudoku.rollout_obs_valid _ (sudoku_db_reset_obs_valid.1 b hb).2 as has j e he

/-- the same from any state satisfying the invariant -/
theorem sudoku_rollout_obs_valid (s : State) (h : SpecInv s) (as : List Action) (has : ∀ a ∈ as, InSpec a)
    (j : Nat) (e : State × TimeStep Obs) (he : (Ep.rollout stepA s as)[j]? = some e) :
    Sudoku.obsSpec.valid (toNValue e.2.obs) = true ∧ SpecInv e.1 := Sudoku.rollout_obs_valid s h as has j e he

/-- what membership means (so the theorems above are not hollow): `validate` accepts an observation ONLY IF `board` is 9×9
(81 cells) with every cell in `[-1, 9]` and the mask is 9×9×9 (729 entries).  The declared maximum 9 (`BOARD_WIDTH`) is looser
than what the environment emits (`CellsInRange`: −1..8, `sudoku_step_obs_in_bounds`).  CAVEAT: `toNValue` reads the widths of a nested list off its FIRST row,
so the shape conjuncts here mean "row count, length of the first row, total number of cells" — a ragged value with the right total can be a
member, and nothing is concluded about the later rows.  Rectangularity is part of the invariant `SpecInv` (`Grid.shaped s.board 9 9`) under which the
forward theorems (`sudoku_reset_obs_valid`, `sudoku_step_obs_valid`, `sudoku_obs_valid_along`) are proved, i.e. it holds of every EMITTED observation. -/
theorem sudoku_obs_valid_only (o : Obs) (h : Sudoku.obsSpec.valid (toNValue o) = true) :
    shape2 o.board = [9, 9] ∧ (List.flatten o.board).length = 81 ∧ (∀ v ∈ List.flatten o.board, -1 ≤ v ∧ v ≤ 9) ∧
    shape3 o.mask = [9, 9, 9] ∧ (List.flatten (List.flatten o.mask)).length = 729 := Sudoku.obs_valid_only o h

/-- positive and negative instances: the reset observation of the sample board; a cell set to 9 is still accepted by the
(looser) declared bound, a cell set to 10 or −2 is not; a board with a row missing is not -/
example :
    Sudoku.obsSpec.valid (toNValue (Sudoku.reset sampleBoard).2.obs) = true ∧
    Sudoku.obsSpec.valid (toNValue { (Sudoku.reset sampleBoard).2.obs with board := Grid.set sampleBoard 0 0 9 }) = true ∧
    Sudoku.obsSpec.valid (toNValue { (Sudoku.reset sampleBoard).2.obs with board := Grid.set sampleBoard 0 0 10 }) = false ∧
    Sudoku.obsSpec.valid (toNValue { (Sudoku.reset sampleBoard).2.obs with board := Grid.set sampleBoard 3 4 (-2) }) = false ∧
    Sudoku.obsSpec.valid (toNValue { (Sudoku.reset sampleBoard).2.obs with board := sampleBoard.tail }) = false := by
  have hs := sampleBoard_feasible.1
  -- `obs_valid` / `obs_valid_only` say what `validate` looks at, so the mask is never computed
  refine ⟨(sudoku_reset_obs_valid_of_feasible _ sampleBoard_feasible).1,
    obs_valid _ ⟨rect2_of_shaped (Grid.shaped_set hs 9 0 0), by decide, mask_rect sampleBoard hs⟩,
    ?_, ?_, ?_⟩ <;>
  refine Bool.eq_false_iff.2 fun h => ?_
  · exact absurd ((obs_valid_only _ h).2.2.1 10 (by decide)) (by decide)
  · exact absurd ((obs_valid_only _ h).2.2.1 (-2) (by decide)) (by decide)
  · exact absurd (obs_valid_only _ h).1 (by decide)

/-- reward and discount of every `step` (ALL states, ALL integer actions) and of `reset` are accepted by `reward_spec`
(Array((), float)) and `discount_spec` (BoundedArray((), float, 0, 1)) -/
theorem sudoku_reward_discount_valid (s : State) (b : Grid Int) (r c d : Int) :
    rewardSpec.valid (scalarArr (step s r c d).2.reward) = true ∧
    discountSpec.valid (scalarArr (step s r c d).2.discount) = true ∧
    rewardSpec.valid (scalarArr (Sudoku.reset b).2.reward) = true ∧
    discountSpec.valid (scalarArr (Sudoku.reset b).2.discount) = true :=
  have h := stepOK_reward_discount_valid false _ (Sudoku.step_protocol s r c d)
  ⟨h.1, h.2, PzS3.restart_reward_discount_valid _⟩

/-- `action_spec.generate_value()` = (0, 0, 0) is a member of the well-formed action spec, and `step` answers it in EVERY
state with a protocol-conform timestep and — from a state satisfying the invariant — with an observation in the spec -/
theorem sudoku_accepts_generate_value (s : State) :
    Sudoku.actionSpec.WF = true ∧ Sudoku.actionSpec.valid Sudoku.actionSpec.generate = true ∧
    Sudoku.actionSpec.generate = actionArr 0 0 0 ∧ StepOK none false (step s 0 0 0).2 = true ∧
    (SpecInv s → Sudoku.obsSpec.valid (toNValue (step s 0 0 0).2.obs) = true) := Sudoku.accepts_generate_value s

/-- membership in `action_spec` is "row, column, digit < 9" -/
theorem sudoku_action_spec_iff (r c d : Nat) :
    Sudoku.actionSpec.valid (actionArr (r : Int) (c : Int) (d : Int)) = true ↔ InSpec (r, c, d) := by
  rw [Sudoku.actionSpec, actionArr, valid_multiDiscrete_iff]
  simp only [InSpec, List.length_cons, List.length_nil, prod, List.foldl_cons, List.foldl_nil, List.zip_cons_cons,
    List.zip_nil_right, List.forall_mem_cons, List.not_mem_nil, Rat.intCast_nonneg, Rat.intCast_le_intCast, true_and,
    false_imp_iff, implies_true, and_true]
  omega
end Props.C01
