/-
Property theorems for MultiCVRP (the lemmas they rest on are in Env/MultiCVRP/*.lean).
`rnd` is the float32 rounding applied after every float operation (any function; the executable
correspondence uses `Jx.roundF32`), `D` the distance matrix of the instance, `d0` the demands of the
instance as generated, `a` the joint action (one node index per vehicle).  Hypotheses `hl`/`hr` say
that the action has one entry per vehicle and every entry is a node index `≤ num_customers` (the
documented action range, docs/environments/multi_cvrp.md).  The DECLARED `action_spec` has maximum
`num_customers + 1`; for that in-spec value the conclusions are false (model and real code agree):
the one-step theorems that carry `hr` are therefore named `…_partial` (`multicvrp_step_basicFeasible_partial` carries it
without using it; the whole-play theorems `multicvrp_feasible_along`, `…_reset_feasible_along`,
`…_run_complete_is_solution` carry the same restriction as `InRange`, without the suffix), and
`multicvrp_spec_max_witness` (C05 section) is the negation witness for the value `num_customers + 1`.
-/
import JumanjiModel.Env.MultiCVRP.Lemmas
import JumanjiModel.Env.MultiCVRP.History
import JumanjiModel.Env.MultiCVRP.Bounds
import JumanjiModel.Env.MultiCVRP.BoundsF32Lemmas
import JumanjiModel.Env.MultiCVRP.ReturnLemmas
import JumanjiModel.Env.MultiCVRP.Episode
import JumanjiModel.Env.MultiCVRP.Generator
import JumanjiModel.Env.MultiCVRP.Spec
import JumanjiModel.Core.EpisodeLemmas
open Jm MultiCVRP

/-- a non-trivial state (3 customers, 2 vehicles of capacity 5, after one step): vehicle 0 has served
customer 2 (demand 4), vehicle 1 waits at the depot; customer 1 (demand 2) fits only vehicle 1 -/
def MultiCVRP.exampleState : State :=
  { coords := [[0, 0], [1, 0], [0, 1], [1, 1]], demands := [0, 2, 0, 3],
    winStart := [0, 0, 0, 0], winEnd := [9, 9, 9, 9], coefEarly := [0, 1, 1, 1], coefLate := [0, 1, 1, 1],
    localTimes := [1, 0], positions := [2, 0], capacities := [1, 5], distances := [1, 0],
    timePenalties := [0, 0], order := [[0, 2, 0, 0, 0, 0], [0, 0, 0, 0, 0, 0]], stepCount := 2,
    mask := [[true, false, false, false], [true, true, false, true]] }

def MultiCVRP.exampleCfg : Cfg := { numCustomers := 3, maxCap := 5, dense := true }
/-- a distance matrix for `exampleState` (unit square, diagonal rounded to 7/5) -/
def MultiCVRP.exampleDist : Dist := [[0, 1, 1, 7/5], [1, 0, 7/5, 1], [1, 7/5, 0, 1], [7/5, 1, 1, 0]]

namespace Props.C01
/-- limits for the examples: unit box, demands ≤ 4, windows `[0, 9]`, coefficients ≤ 1, one travel
distance ≤ 3/2 (≥ √2) -/
def exampleLim : Lim :=
  { mapMax := 1, demandMax := 4, maxStart := 0, windowLen := 9, coefEarlyMax := 1, coefLateMax := 1, dmax := 3 / 2 }

/-- `reset` (any number of vehicles, any draw of the generator's ranges `validDrawB`): every numeric leaf of the
observation lies in the interval `obsBounds c L` lists for it — nodes.coordinates, vehicles.coordinates ∈ [0, mapMax];
nodes.demands ∈ [0, demandMax]; windows.start ∈ [0, maxStart]; windows.end ∈ [windowLen, maxStart + windowLen];
coeffs.early ∈ [0, coefEarlyMax]; coeffs.late ∈ [0, coefLateMax]; vehicles.local_times ∈ [0, 2·numCustomers·dmax];
vehicles.capacities ∈ [0, maxCap]; action_mask ∈ {0, 1} -/
theorem multicvrp_reset_obs_in_bounds (c : Cfg) (L : Lim) (nV : Nat) (d : Draw) (h : validDrawB c L d) :
    Jm.OB.InBounds (obsBounds c L) (obsLeaves (reset c nV L.demandMax L.windowLen d).2.obs) := by
  rw [MultiCVRP.reset_obs]
  exact MultiCVRP.observe_in_bounds c L _ (MultiCVRP.reset_bInv c L nV d h) (by simp [reset, generate])

/-- every step in exact arithmetic (`rnd = id`), either reward function, ANY joint action (any list of naturals of
any length: in range or not, legal or not), terminal step included, taken from a state that satisfies the bounds
invariant `BInv` and has not timed out (`stepCount ≤ 2·numCustomers`: every state `step` is applied to in an
episode), with a distance matrix whose entries lie in `[0, dmax]` -/
theorem multicvrp_step_obs_in_bounds (c : Cfg) (L : Lim) (D : Dist) (s : State) (a : List Nat)
    (hD : DistOK L D) (h : BInv c L s) (hk : s.stepCount ≤ 2 * c.numCustomers) :
    Jm.OB.InBounds (obsBounds c L) (obsLeaves (step id c D s a).2.obs) :=
  MultiCVRP.step_obs_in_bounds_rnd id c L D s a (MultiCVRP.rndOK_id _ _) hD h hk

/-- all leaves but `vehicles.local_times`: EVERY rounding function (float32 included), every distance matrix, every
step count, any joint action, from a state satisfying `SInv` (the first half of `BInv`) -/
theorem multicvrp_step_obs_in_bounds_anyrnd (rnd : Rat → Rat) (c : Cfg) (L : Lim) (D : Dist) (s : State)
    (a : List Nat) (h : SInv c L s) :
    Jm.OB.InBounds (obsBoundsS c L) (obsLeaves (step rnd c D s a).2.obs) := by
  rw [MultiCVRP.step_obs, ← MultiCVRP.step_state]
  exact MultiCVRP.observe_in_boundsS c L _ (MultiCVRP.step_sInv rnd c L D s a h)

/-- the invariant `BInv = SInv ∧ TInv` is established by `reset` and preserved by every exact-arithmetic step (`step id`;
so the bounds hold along every such episode, by induction; for `roundF32` see `multicvrp_step_bInv_roundF32_false`);
`SInv` alone is preserved for every rounding function -/
theorem multicvrp_reset_bInv (c : Cfg) (L : Lim) (nV : Nat) (d : Draw) (h : validDrawB c L d) :
    BInv c L (reset c nV L.demandMax L.windowLen d).1 := MultiCVRP.reset_bInv c L nV d h
theorem multicvrp_step_bInv (c : Cfg) (L : Lim) (D : Dist) (s : State) (a : List Nat) (hD : DistOK L D)
    (h : BInv c L s) : BInv c L (step id c D s a).1 :=
  MultiCVRP.step_bInv_rnd id c L D s a _ (MultiCVRP.rndOK_id _ _) (Nat.le_refl _) hD h
theorem multicvrp_step_sInv (rnd : Rat → Rat) (c : Cfg) (L : Lim) (D : Dist) (s : State) (a : List Nat)
    (h : SInv c L s) : SInv c L (step rnd c D s a).1 := MultiCVRP.step_sInv rnd c L D s a h

example : BInv MultiCVRP.exampleCfg exampleLim MultiCVRP.exampleState := by decide +kernel
example : MultiCVRP.exampleState.stepCount ≤ 2 * MultiCVRP.exampleCfg.numCustomers := by decide
example : DistOK exampleLim [[0, 1, 1, 7/5], [1, 0, 7/5, 1], [1, 7/5, 0, 1], [7/5, 1, 1, 0]] := by decide +kernel
example : validDrawB MultiCVRP.exampleCfg exampleLim
    { coords := [[0, 1/2], [1, 1], [1/3, 1/3], [1/5, 4/5]], scaled := [0, 7, 0, 3], winStart := [0, 0, 0, 0],
      coefEarly := [1/5, 1/10, 0, 1], coefLate := [1, 1/2, 1/3, 0] } := by decide +kernel

/-! #### `vehicles.local_times` under ROUNDED accumulation (float32 model), Env/MultiCVRP/BoundsF32Lemmas.lean -/

/-- every step with a rounding function that is monotone, fixes 0 and fixes the multiples `k · dmax`,
`k ≤ 2·numCustomers` (`RndOK`): ALL ten leaves, `vehicles.local_times ∈ [0, 2·numCustomers·dmax]` included;
other hypotheses as in `multicvrp_step_obs_in_bounds` (which is the case `rnd = id`) -/
theorem multicvrp_step_obs_in_bounds_rnd (rnd : Rat → Rat) (c : Cfg) (L : Lim) (D : Dist) (s : State)
    (a : List Nat) (hr : RndOK rnd L.dmax (2 * c.numCustomers)) (hD : DistOK L D) (h : BInv c L s)
    (hk : s.stepCount ≤ 2 * c.numCustomers) :
    Jm.OB.InBounds (obsBounds c L) (obsLeaves (step rnd c D s a).2.obs) :=
  MultiCVRP.step_obs_in_bounds_rnd rnd c L D s a hr hD h hk

/-- … and the invariant is preserved by such a step (so the bounds hold along every episode) -/
theorem multicvrp_step_bInv_rnd (rnd : Rat → Rat) (c : Cfg) (L : Lim) (D : Dist) (s : State) (a : List Nat)
    (K : Nat) (hr : RndOK rnd L.dmax K) (hk : s.stepCount ≤ K) (hD : DistOK L D) (h : BInv c L s) :
    BInv c L (step rnd c D s a).1 := MultiCVRP.step_bInv_rnd rnd c L D s a K hr hk hD h

/-- `Jx.roundF32` satisfies `RndOK` for every `dmax = j · 2^sh` whose multiples up to `K` are binary32 values
(`K · j < 2^24`, `sh ≥ −149`): monotonicity of `roundF32` + binary32 values are fixed points -/
theorem multicvrp_roundF32_rndOK (j : Nat) (sh : Int) (K : Nat) (hs : -149 ≤ sh) (hj : K * j < 16777216) :
    RndOK Jx.roundF32 ((j : Rat) * Jx.pow2 sh) K := by
  refine ⟨fun _ _ h => Jx.roundF32_mono h, Jx.roundF32_zero, ?_⟩
  intro k hk
  have hkj : k * j < 16777216 := Nat.lt_of_le_of_lt (Nat.mul_le_mul_right j hk) hj
  have := Jx.roundF32_fix (k * j) sh hkj hs
  rwa [Rat.natCast_mul, Rat.mul_assoc] at this

/-- the float32 model (every accumulation `local_times + travel` rounded by `Jx.roundF32`): every step, any
joint action, from a state satisfying `BInv` that has not timed out, distances in `[0, dmax]`, where the bound
`dmax` on one travel distance is chosen with a short significand: `dmax = j · 2^sh`, `2·numCustomers·j < 2^24` -/
theorem multicvrp_step_obs_in_bounds_roundF32 (c : Cfg) (L : Lim) (D : Dist) (s : State) (a : List Nat)
    (j : Nat) (sh : Int) (hdm : L.dmax = (j : Rat) * Jx.pow2 sh) (hs : -149 ≤ sh)
    (hj : 2 * c.numCustomers * j < 16777216) (hD : DistOK L D) (h : BInv c L s)
    (hk : s.stepCount ≤ 2 * c.numCustomers) :
    Jm.OB.InBounds (obsBounds c L) (obsLeaves (step Jx.roundF32 c D s a).2.obs) :=
  MultiCVRP.step_obs_in_bounds_rnd Jx.roundF32 c L D s a (hdm ▸ Props.C01.multicvrp_roundF32_rndOK j sh _ hs hj) hD h hk

theorem multicvrp_step_bInv_roundF32 (c : Cfg) (L : Lim) (D : Dist) (s : State) (a : List Nat)
    (j : Nat) (sh : Int) (hdm : L.dmax = (j : Rat) * Jx.pow2 sh) (hs : -149 ≤ sh)
    (hj : 2 * c.numCustomers * j < 16777216) (hD : DistOK L D) (h : BInv c L s)
    (hk : s.stepCount ≤ 2 * c.numCustomers) : BInv c L (step Jx.roundF32 c D s a).1 :=
  MultiCVRP.step_bInv_rnd Jx.roundF32 c L D s a _ (hdm ▸ Props.C01.multicvrp_roundF32_rndOK j sh _ hs hj) hk hD h

/-- the hypotheses are satisfiable: `exampleLim.dmax = 3/2 = 3 · 2^-1` and `2 · 3 · 3 < 2^24` (with the
state, matrix and limits of the examples above) -/
example : exampleLim.dmax = ((3 : Nat) : Rat) * Jx.pow2 (-1) ∧ (-149 : Int) ≤ -1 ∧
    2 * MultiCVRP.exampleCfg.numCustomers * 3 < 16777216 := by decide +kernel

/-- the representability hypothesis cannot be dropped.  A 3-customer instance (`f32WitnessState`, one vehicle,
all depot–customer distances equal to `dmax = 1 + 3·2^-23`, a binary32 value; a hand-made matrix of which only `DistOK`
is asked, not the Euclidean matrix of the witness coordinates) starts in `BInv` with `DistOK` — from which, in exact
arithmetic, `multicvrp_step_bInv` and `multicvrp_step_obs_in_bounds` keep every observation up to the step limit inside
`obsBounds` — yet in the float32 model the sixth leg of the route 1, depot, 2, depot, 3, depot gives
`local_times = 6 + 5·2^-21 > 6·dmax`: the observation leaves `obsBounds` (the state `f32WitnessS5` before that leg has
already lost `BInv`, next theorem) -/
theorem multicvrp_local_times_roundF32_counterexample :
    BInv f32WitnessCfg f32WitnessLim f32WitnessState ∧ DistOK f32WitnessLim f32WitnessDist ∧
    f32WitnessS5 = f32Run f32WitnessState [[1], [0], [2], [0], [3]] ∧
    f32WitnessS5.stepCount ≤ 2 * f32WitnessCfg.numCustomers ∧
    ¬ Jm.OB.InBounds (obsBounds f32WitnessCfg f32WitnessLim)
        (obsLeaves (step Jx.roundF32 f32WitnessCfg f32WitnessDist f32WitnessS5 [0]).2.obs) :=
  ⟨MultiCVRP.f32Witness_hyps.1, MultiCVRP.f32Witness_hyps.2.1, rfl, MultiCVRP.f32Witness_hyps.2.2.2,
   MultiCVRP.f32Witness_out_of_bounds⟩

/-- and `BInv` is not an invariant of the float32 step under `DistOK` alone -/
theorem multicvrp_step_bInv_roundF32_false :
    ¬ ∀ (c : Cfg) (L : Lim) (D : Dist) (s : State) (a : List Nat), DistOK L D → BInv c L s →
        BInv c L (step Jx.roundF32 c D s a).1 := by
  -- the fifth leg of the witness route takes a state satisfying `BInv` to one that does not
  intro h
  have := h f32WitnessCfg f32WitnessLim f32WitnessDist f32WitnessS4 [3] MultiCVRP.f32Witness_hyps.2.1
    MultiCVRP.f32Witness_hyps.2.2.1
  revert this
  decide +kernel
/-! #### membership in the model's `obsSpec` / `actionSpec` (the declared specs at the catalogue configurations:
`multicvrp_obsSpec_generated`, Props/SpecTable.lean): structure, shapes, dtypes and bounds -/

/-! NOTE on what the membership theorems of this section do and do not cover: the dtype tag of every leaf
is written by `toNValue` (by construction) — a wrong dtype in the real code cannot falsify `….valid (toNValue …) = true`; dtypes and
field order of the real observations are compared by the `multi_cvrp.spec` / `multi_cvrp.state` ops (`nvalue`: field order, shape, dtype, data) and
`jax.eval_shape` in the sweeps.  Shapes are READ OFF the value by `toNValue` (widths off the first row): see `…_obs_valid_only`. -/
open Sp PzS PkS

/-- the generator's ranges of the catalogue configuration `multicvrp-6x2` (`UniformRandomGenerator(num_customers=6,
num_vehicles=2)`: jumanji's own small scenario, `get_6_customer_init_settings`) and `dmax = 7241/512 ≥ 10·√2`, a bound on one
travel distance with a short significand.  With the `max_local_time` this configuration declares (2780457/16384, the float32
value below `12·10·√2`; `multicvrp_obsSpec_generated`, Props/SpecTable.lean) `DeclOK` FAILS for this `Lim` (`12 · 7241/512 =
169.7109 > 169.7056`), as it does for `lim20x3`, `lim100x3` and for every `dmax ≥ map_max·√2`: the membership theorems below
apply to an instance with a `dmax` that bounds ITS distances and satisfies `DeclOK`, not to a configuration as a whole -/
def lim6x2 : Lim :=
  { mapMax := 10, demandMax := 10, maxStart := 10, windowLen := 20, coefEarlyMax := 1 / 5, coefLateMax := 1, dmax := 7241 / 512 }

/-- the generator's ranges of the spec-only configurations `UniformRandomGenerator(num_customers=20, num_vehicles=3)` and
`UniformRandomGenerator(num_customers=100, num_vehicles=3)` (the paper's scenarios, `get_init_settings`) -/
def lim20x3 : Lim :=
  { mapMax := 10, demandMax := 15, maxStart := 10, windowLen := 20, coefEarlyMax := 1 / 5, coefLateMax := 1, dmax := 7241 / 512 }
def lim100x3 : Lim :=
  { mapMax := 20, demandMax := 15, maxStart := 40, windowLen := 20, coefEarlyMax := 1 / 5, coefLateMax := 1, dmax := 7241 / 256 }

/-- the invariant behind the membership theorems — `BInv c L` (problem data in the generator's ranges, capacities in
`[0, max_capacity]`, local times at most `(step_count − 1)·dmax`) and the array shapes `ShapeInv` — is established by `reset`
for EVERY draw of the generator's ranges (`validDrawS`: `validDrawB` + the lengths of the window / coefficient arrays) and
preserved by EVERY step with one action per vehicle (any naturals: in
range or not, legal or not, MID or LAST) under a rounding that is monotone and fixes 0 and the multiples of `dmax` (`RndOK`:
`id`; `Jx.roundF32` for a `dmax` with a short significand, `multicvrp_roundF32_rndOK`) and a distance matrix within `[0, dmax]` -/
theorem multicvrp_specInv_invariant (c : Cfg) (nV : Nat) (L : Lim) :
    (∀ d, validDrawS c L d → SpecInv c nV L (reset c nV L.demandMax L.windowLen d).1) ∧
    (∀ (rnd : Rat → Rat) (D : Dist) (s : State) (a : List Nat) (K : Nat), RndOK rnd L.dmax K → s.stepCount ≤ K →
      DistOK L D → SpecInv c nV L s → a.length = nV → SpecInv c nV L (step rnd c D s a).1) :=
  ⟨fun d h => MultiCVRP.reset_specInv c nV L d h,
   fun rnd D s a K hr hk hD h ha => MultiCVRP.step_specInv rnd c nV L D s a K hr hk hD h ha⟩

/-- the `reset` observation (any number ≥ 1 of vehicles, any draw of the generator's ranges) is accepted by
`observation_spec.validate`, provided the constructor's derived maxima are consistent (`DeclOK`: `customer_demand_max ≤
max_capacity`, `0 ≤ time_window_length`, `early_coef_rand[1] ≤ late_coef_rand[1]` — the spec declares the LATE maximum for both
coefficient leaves —, `2·N·dmax ≤ max_local_time`; the last fails for `lim6x2`, `lim20x3`, `lim100x3` above, so `L.dmax` has to bound
the distances of the instance at hand, not the whole map) -/
theorem multicvrp_reset_obs_valid (c : Cfg) (nV : Nat) (hV : 0 < nV) (L : Lim) (maxLocal : Rat)
    (hdecl : DeclOK c L maxLocal) (d : Draw) (h : validDrawS c L d) :
    (obsSpec c nV L maxLocal).valid (toNValue (reset c nV L.demandMax L.windowLen d).2.obs) = true := by
  rw [MultiCVRP.reset_obs]
  exact MultiCVRP.observe_valid c nV hV L maxLocal hdecl _ (MultiCVRP.reset_specInv c nV L d h) (by simp [reset, generate])

/-- … in particular for every RAW draw of the PRNG (unit uniforms and `randint` values, `validRaw`) in exact arithmetic:
the generator's own arithmetic (`uniform(minval, maxval)`, the int16 demand scaling) keeps the arrays in their ranges -/
theorem multicvrp_reset_obs_valid_raw (c : Cfg) (nV : Nat) (hV : 0 < nV) (g : GenCfg) (dmax maxLocal : Rat)
    (hg : GenOK c nV g) (hdm : 0 ≤ dmax) (hdecl : DeclOK c (genLim g dmax) maxLocal) (r : RawDraw) (hr : validRaw c g r) :
    (obsSpec c nV (genLim g dmax) maxLocal).valid
      (toNValue (reset c nV g.demandMax g.windowLen (drawOfRaw id c nV g r)).2.obs) = true :=
  multicvrp_reset_obs_valid c nV hV (genLim g dmax) maxLocal hdecl _
    ⟨MultiCVRP.drawOfRaw_validDrawB c nV g r dmax hg hdm hr, by simp [drawOfRaw, hr.2.2.1],
     by simp [drawOfRaw, hr.2.2.2.1], by simp [drawOfRaw, hr.2.2.2.2.1]⟩

/-- the observation of EVERY `step` with one action per vehicle — any naturals (node indices or not, legal or not), MID or
LAST, either reward function — from every state with the invariant that has not timed out (`step_count ≤ 2·N`) -/
theorem multicvrp_step_obs_valid (rnd : Rat → Rat) (c : Cfg) (nV : Nat) (hV : 0 < nV) (L : Lim) (maxLocal : Rat)
    (hdecl : DeclOK c L maxLocal) (D : Dist) (s : State) (a : List Nat)
    (hr : RndOK rnd L.dmax (2 * c.numCustomers)) (hD : DistOK L D) (h : SpecInv c nV L s)
    (hk : s.stepCount ≤ 2 * c.numCustomers) (ha : a.length = nV) :
    (obsSpec c nV L maxLocal).valid (toNValue (step rnd c D s a).2.obs) = true :=
  MultiCVRP.step_obs_valid rnd c nV hV L maxLocal hdecl D s a hr hD h hk ha

/-- EVERY rounding function (float32 included), every distance matrix, every step count: all leaves but
`vehicles.local_times` are members unconditionally (from `SInv` — preserved by every step for every rounding,
`multicvrp_step_sInv` — and the shapes); the observation is a member as soon as the new local times lie in
`[0, max_local_time]` (which `multicvrp_step_obs_valid` derives from `RndOK`; without it the float32 accumulation can leave
the proved interval: `multicvrp_local_times_roundF32_counterexample` above) -/
theorem multicvrp_step_obs_valid_anyrnd (rnd : Rat → Rat) (c : Cfg) (nV : Nat) (hV : 0 < nV) (L : Lim) (maxLocal : Rat)
    (hdecl : L.demandMax ≤ c.maxCap ∧ 0 ≤ L.windowLen ∧ L.coefEarlyMax ≤ L.coefLateMax) (D : Dist) (s : State)
    (a : List Nat) (hS : SInv c L s) (hsh : ShapeInv c nV s) (ha : a.length = nV)
    (hl : ∀ l ∈ (step rnd c D s a).1.localTimes, 0 ≤ l ∧ l ≤ maxLocal) :
    (obsSpec c nV L maxLocal).valid (toNValue (step rnd c D s a).2.obs) = true := by
  rw [MultiCVRP.step_obs, ← MultiCVRP.step_state]
  exact MultiCVRP.observe_valid_S c nV hV L maxLocal hdecl _ (MultiCVRP.step_sInv rnd c L D s a hS)
    (by rw [MultiCVRP.step_state]; exact MultiCVRP.update_shapeInv rnd c D nV s a hsh ha) hl

/-- the float32 model (`rnd = Jx.roundF32`), `dmax = j · 2^sh` with a short significand (`2·N·j < 2^24`) -/
theorem multicvrp_step_obs_valid_roundF32 (c : Cfg) (nV : Nat) (hV : 0 < nV) (L : Lim) (maxLocal : Rat)
    (hdecl : DeclOK c L maxLocal) (D : Dist) (s : State) (a : List Nat) (j : Nat) (sh : Int)
    (hdm : L.dmax = (j : Rat) * Jx.pow2 sh) (hs : -149 ≤ sh) (hj : 2 * c.numCustomers * j < 16777216) (hD : DistOK L D)
    (h : SpecInv c nV L s) (hk : s.stepCount ≤ 2 * c.numCustomers) (ha : a.length = nV) :
    (obsSpec c nV L maxLocal).valid (toNValue (step Jx.roundF32 c D s a).2.obs) = true :=
  MultiCVRP.step_obs_valid Jx.roundF32 c nV hV L maxLocal hdecl D s a (hdm ▸ Props.C01.multicvrp_roundF32_rndOK j sh _ hs hj) hD h hk ha

/-- WHOLE EPISODES: along the rollout (`Ep.rollout` = the L1 step iterated) of ANY joint actions (one per vehicle) from
`reset`, every observation emitted by one of the first `2·N` steps is a member of the spec; the first LAST timestep is among
them (`step_count` starts at 1; step number `2·N` makes it `2·N + 1 > 2·N`, which is LAST: `multicvrp_last_at_limit`) -/
theorem multicvrp_rollout_obs_valid (rnd : Rat → Rat) (c : Cfg) (nV : Nat) (hV : 0 < nV) (L : Lim) (maxLocal : Rat)
    (hdecl : DeclOK c L maxLocal) (D : Dist) (hr : RndOK rnd L.dmax (2 * c.numCustomers)) (hD : DistOK L D)
    (d : Draw) (hd : validDrawS c L d) (as : List (List Nat)) (has : ∀ a ∈ as, a.length = nV) (j : Nat)
    (hj : j < 2 * c.numCustomers) (e : State × TimeStep Obs)
    (he : (Ep.rollout (fun s a => step rnd c D s a) (reset c nV L.demandMax L.windowLen d).1 as)[j]? = some e) :
    (obsSpec c nV L maxLocal).valid (toNValue e.2.obs) = true := by
  -- invariant of the rollout at step `n`: `SpecInv` with `stepCount = n + 1` up to the step limit, nothing claimed beyond
  obtain ⟨s', a, hinv, ha, rfl⟩ := rollout_inv_idx (fun s a => step rnd c D s a)
    (fun n s => SpecInv c nV L s ∧ s.stepCount = n + 1 ∧ n ≤ 2 * c.numCustomers ∨ 2 * c.numCustomers < n)
    (fun a => a.length = nV)
    (fun n s a h ha => by
      rcases h with ⟨h1, h2, h3⟩ | h
      · by_cases hn : n + 1 ≤ 2 * c.numCustomers
        · exact Or.inl ⟨MultiCVRP.step_specInv rnd c nV L D s a _ hr (by omega) hD h1 ha,
            by rw [MultiCVRP.step_state, MultiCVRP.update_stepCount, h2], hn⟩
        · exact Or.inr (by omega)
      · exact Or.inr (by omega))
    0 _ (Or.inl ⟨MultiCVRP.reset_specInv c nV L d hd, by simp [reset, generate], by omega⟩) as has j e he
  rcases hinv with ⟨h1, h2, _⟩ | h
  · exact MultiCVRP.step_obs_valid rnd c nV hV L maxLocal hdecl D s' a hr hD h1 (by omega) ha
  · omega

/-- what membership means (so the theorems above are not hollow): `validate` accepts an observation ONLY IF the arrays have
the declared shapes and every value lies in its declared range.  CAVEAT: for every field that is a nested list, `toNValue` reads the widths off the FIRST row of the
nested list, so the shape conjuncts here mean "row count, length of the first row, total number of cells" — a ragged value with the right total can be a
member, and nothing is concluded about the later rows.  Rectangularity is part of the invariant (`SpecInv`: `ShapeInv` holds `Rect2` of the mask and the row lengths of the coordinates) under which the
forward theorems (`…_reset_obs_valid`, `…_step_obs_valid`, `…_rollout_obs_valid`) are proved, i.e. it holds of every EMITTED observation. -/
theorem multicvrp_obs_valid_only (c : Cfg) (nV : Nat) (L : Lim) (maxLocal : Rat) (o : Obs)
    (h : (obsSpec c nV L maxLocal).valid (toNValue o) = true) :
    shape2 o.coords = [c.numCustomers + 1, 2] ∧ (∀ x ∈ o.coords.flatten, 0 ≤ x ∧ x ≤ L.mapMax) ∧
    IVecIn o.demands (c.numCustomers + 1) c.maxCap ∧
    VecIn o.winStart (c.numCustomers + 1) (L.maxStart + L.windowLen) ∧
    VecIn o.winEnd (c.numCustomers + 1) (L.maxStart + L.windowLen) ∧
    VecIn o.coefEarly (c.numCustomers + 1) L.coefLateMax ∧ VecIn o.coefLate (c.numCustomers + 1) L.coefLateMax ∧
    shape2 o.vehCoords = [nV, 2] ∧ (∀ x ∈ o.vehCoords.flatten, 0 ≤ x ∧ x ≤ L.mapMax) ∧
    VecIn o.localTimes nV maxLocal ∧ IVecIn o.capacities nV c.maxCap ∧ shape2 o.mask = [nV, c.numCustomers + 1] :=
  MultiCVRP.obs_valid_only c nV L maxLocal o h

/-- the running example (3 customers, 2 vehicles, after one step) satisfies the invariant and `DeclOK` with
`max_local_time = 9 = 2·3·(3/2)`; its observation and the one after a further step are members; membership FAILS for a local
time beyond the maximum, a demand above the capacity, and under another number of vehicles -/
example : SpecInv MultiCVRP.exampleCfg 2 exampleLim MultiCVRP.exampleState ∧ DeclOK MultiCVRP.exampleCfg exampleLim 9 ∧
    DistOK exampleLim MultiCVRP.exampleDist ∧
    (obsSpec MultiCVRP.exampleCfg 2 exampleLim 9).valid (toNValue (stateToObs MultiCVRP.exampleState)) = true ∧
    (obsSpec MultiCVRP.exampleCfg 2 exampleLim 9).valid
      (toNValue (step id MultiCVRP.exampleCfg MultiCVRP.exampleDist MultiCVRP.exampleState [0, 3]).2.obs) = true ∧
    (obsSpec MultiCVRP.exampleCfg 2 exampleLim 9).valid
      (toNValue { stateToObs MultiCVRP.exampleState with localTimes := [19 / 2, 0] }) = false ∧
    (obsSpec MultiCVRP.exampleCfg 2 exampleLim 9).valid
      (toNValue { stateToObs MultiCVRP.exampleState with demands := [0, 6, 0, 3] }) = false ∧
    (obsSpec MultiCVRP.exampleCfg 3 exampleLim 9).valid (toNValue (stateToObs MultiCVRP.exampleState)) = false := by
  decide +kernel

/-- reward and discount of every `step` (ALL states, ALL joint actions, every rounding, both reward functions) and of `reset`
are accepted by `reward_spec` (Array((), float)) and `discount_spec` (BoundedArray((), float, 0, 1)) -/
theorem multicvrp_reward_discount_valid (rnd : Rat → Rat) (c : Cfg) (D : Dist) (s : State) (a : List Nat) (nV : Nat)
    (dm : Int) (wl : Rat) (d : Draw) :
    rewardSpec.valid (scalarArr (step rnd c D s a).2.reward) = true ∧
    discountSpec.valid (scalarArr (step rnd c D s a).2.discount) = true ∧
    rewardSpec.valid (scalarArr (reset c nV dm wl d).2.reward) = true ∧
    discountSpec.valid (scalarArr (reset c nV dm wl d).2.discount) = true := by
  have hs := stepOK_reward_discount_valid false _ (MultiCVRP.step_protocol rnd c D s a)
  unfold reset
  simp only [restart]
  exact ⟨hs.1, hs.2, by decide, by decide⟩

/-- `action_spec.generate_value()` = all zeros (every vehicle to the depot): the action spec is well-formed, the generated
value is a member, and `step` answers it with a protocol-conform timestep whose observation is a member of the observation
spec -/
theorem multicvrp_accepts_generate_value (rnd : Rat → Rat) (c : Cfg) (nV : Nat) (hV : 0 < nV)
    (hbig : c.numCustomers + 1 ≤ 32767) (L : Lim) (maxLocal : Rat) (hdecl : DeclOK c L maxLocal) (D : Dist) (s : State)
    (hr : RndOK rnd L.dmax (2 * c.numCustomers)) (hD : DistOK L D) (h : SpecInv c nV L s)
    (hk : s.stepCount ≤ 2 * c.numCustomers) :
    (actionSpec c nV).WF = true ∧ (actionSpec c nV).valid (actionSpec c nV).generate = true ∧
    (actionSpec c nV).generate = actionArr nV (List.replicate nV 0) ∧
    StepOK none false (step rnd c D s (List.replicate nV 0)).2 = true ∧
    (obsSpec c nV L maxLocal).valid (toNValue (step rnd c D s (List.replicate nV 0)).2.obs) = true :=
  MultiCVRP.accepts_generate_value rnd c nV hV hbig L maxLocal hdecl D s hr hD h hk

/-- membership in `action_spec` is "one value in `[0, num_customers + 1]` per vehicle" — the value `num_customers + 1` is a
member although it is not a node index (see `multicvrp_spec_max_witness`) -/
theorem multicvrp_action_spec_iff (c : Cfg) (nV : Nat) (a : List Nat) :
    (actionSpec c nV).valid (actionArr nV a) = true ↔ a.length = nV ∧ ∀ x ∈ a, x ≤ c.numCustomers + 1 := by
  simp only [actionSpec, iLeaf, actionArr, valid_scalar_bounded_iff, forall_ofInts, ofInts_length, List.length_map,
    List.forall_mem_map, prod_one, Rat.intCast_le_intCast, Int.natCast_nonneg, Int.ofNat_le, true_and]
end Props.C01

namespace Props.C04
/-- the mask bit of (vehicle `v`, node `a`) is set exactly when the rules allow `v` to go to `a` -/
theorem multicvrp_mask_iff_legal (s : State) (v a : Nat) :
    ((createActionMask s.demands s.capacities).getD v []).getD a false = true ↔ legal s v a :=
  MultiCVRP.mask_iff_legal s v a

/-- the mask cached in the state (and shown in the observation) after a step is the mask of the
successor state — not of the state before the step -/
theorem multicvrp_cached_mask (rnd : Rat → Rat) (c : Cfg) (D : Dist) (s : State) (a : List Nat) :
    (step rnd c D s a).1.mask =
      createActionMask (step rnd c D s a).1.demands (step rnd c D s a).1.capacities ∧
    (step rnd c D s a).2.obs.mask = (step rnd c D s a).1.mask :=
  ⟨MultiCVRP.update_mask rnd c D s a, by rw [MultiCVRP.step_obs]; rfl⟩

/-- the environment's own reaction agrees with the rules: the destinations computed by the two
zeroing stages of `_update_state` (capacity/demand test, then `jnp.unique` + scatter) are exactly
the destinations the rules prescribe — a vehicle reaches the customer it chose iff the choice is
legal and no vehicle with a smaller index legally chose the same customer; otherwise the depot.
PARTIAL: entries `≤ num_customers` only (`hr`); false for the in-spec value `num_customers + 1`, see
`multicvrp_spec_max_witness` -/
theorem multicvrp_step_agrees_partial (rnd : Rat → Rat) (c : Cfg) (D : Dist) (s : State) (a : List Nat)
    (hl : a.length = s.capacities.length) (hr : ∀ x ∈ a, x < s.demands.length) :
    (step rnd c D s a).1.positions = dests s a := by
  rw [MultiCVRP.step_state, MultiCVRP.update_positions]; exact MultiCVRP.nextNodes_eq_dests s a hl hr

/-- in particular a masked-in choice of a customer is honoured unless a smaller-index vehicle took it -/
theorem multicvrp_dest_of_honoured (s : State) (a : List Nat) (v : Nat) (hv : v < a.length) :
    (dests s a).getD v 0 = if honoured s a v then a.getD v 0 else DEPOT :=
  MultiCVRP.dests_getD s a v hv

example : legal MultiCVRP.exampleState 1 1 ∧ ¬ legal MultiCVRP.exampleState 0 1 ∧
    ¬ legal MultiCVRP.exampleState 1 2 ∧ legal MultiCVRP.exampleState 0 0 := by decide +kernel
example : dests MultiCVRP.exampleState [3, 3] = [0, 3] ∧ dests MultiCVRP.exampleState [1, 1] = [0, 1] ∧
    dests { MultiCVRP.exampleState with capacities := [5, 5] } [3, 3] = [3, 0] := by decide +kernel
end Props.C04

namespace Props.C05
/-- an illegal choice of one vehicle is treated exactly like the choice "depot": the whole step
(successor state and timestep) is the one obtained when that vehicle asks for the depot.
PARTIAL: the illegal choice is a node index `≤ num_customers` (`hr`); the in-spec value `num_customers + 1` is
illegal by the rules but is NOT treated like the depot (`multicvrp_spec_max_witness`) -/
theorem multicvrp_illegal_is_depot_partial (rnd : Rat → Rat) (c : Cfg) (D : Dist) (s : State) (a : List Nat)
    (hl : a.length = s.capacities.length) (v : Nat) (hv : v < a.length)
    (hr : a.getD v 0 < s.demands.length) (h0 : 0 < s.demands.length)
    (hill : ¬ legal s v (a.getD v 0)) :
    step rnd c D s a = step rnd c D s (a.set v DEPOT) := by
  -- the first zeroing stage already sends both choices to 0
  rw [MultiCVRP.step_zeroInvalid rnd c D s a, MultiCVRP.step_zeroInvalid rnd c D s (a.set v DEPOT)]
  congr 1
  have hl' : (a.set v DEPOT).length = s.capacities.length := by rw [List.length_set]; exact hl
  apply Jx.ext_getD 0 (by rw [MultiCVRP.zeroInvalid_length s a hl, MultiCVRP.zeroInvalid_length s _ hl', List.length_set])
  intro u hu
  rw [MultiCVRP.zeroInvalid_length s a hl] at hu
  by_cases huv : v = u
  · subst huv
    rw [MultiCVRP.zeroInvalid_getD s a hl v hv hr, if_neg hill,
      MultiCVRP.zeroInvalid_getD s _ hl' v (by rwa [List.length_set]) (by rw [Jx.getD_set_self _ _ hv]; exact h0),
      Jx.getD_set_self _ _ hv]
    split <;> rfl
  · unfold zeroInvalid
    rw [Jx.getD_zipWith _ 0 0 0 hu (hl ▸ hu),
      Jx.getD_zipWith _ 0 0 0 (by rwa [List.length_set]) (hl ▸ hu), Jx.getD_set_ne _ _ _ huv]

/-- every vehicle whose choice is not honoured (illegal, or lost against a smaller index) ends at
the depot with a full vehicle, and exactly the customers of honoured choices are served.
`IllegalIgnored` is the predicate the driver evaluates on implementation transitions.
PARTIAL: entries `≤ num_customers` only (`hr`), see `multicvrp_spec_max_witness` -/
theorem multicvrp_illegal_ignored_partial (rnd : Rat → Rat) (c : Cfg) (D : Dist) (s : State) (a : List Nat)
    (hl : a.length = s.capacities.length) (hr : ∀ x ∈ a, x < s.demands.length)
    (hd0 : s.demands.getD DEPOT 0 = 0) : IllegalIgnored c s a (step rnd c D s a).1 := by
  rw [MultiCVRP.step_state]
  have hn := MultiCVRP.nextNodes_eq_dests s a hl hr
  constructor
  · intro v hv hh
    have hd := MultiCVRP.dests_getD s a v hv
    rw [hh, ← hn] at hd
    simp only [Bool.false_eq_true, if_false] at hd
    have hv1 : v < (nextNodes s a).length := by rw [MultiCVRP.nextNodes_length s a hl]; exact hv
    constructor
    · rw [MultiCVRP.update_positions, Jx.getD_eq_getElem _ hv1]
      rw [Jx.getD_eq_getElem _ hv1] at hd
      exact hd
    · rw [MultiCVRP.update_capacities (MultiCVRP.nextNodes_ok s a hl hr) rnd c D v (hl ▸ hv), if_pos hd]
  · refine Jx.eq_range_map 0 (MultiCVRP.update_demands_length ..) fun j _ => ?_
    rw [MultiCVRP.update_demands, hn]
    by_cases hj0 : j = DEPOT
    · subst hj0
      simp only [ne_eq, not_true_eq_false, false_and, if_false]
      split
      · exact hd0.symm
      · rfl
    · by_cases hm : j ∈ dests s a
      · rw [if_pos hm, if_pos ⟨hj0, hm⟩]
      · rw [if_neg hm, if_neg (fun h => hm h.2)]

/-- the hypothesis `hr` of the `_partial` theorems cannot be weakened to the DECLARED action range
(`action_spec.maximum = num_customers + 1`).  On `exampleState` (3 customers) the joint action `[0, 4]` is in-spec
and vehicle 1's choice `4` is illegal by the rules (no such node), yet `step` — like the real `_update_state`,
whose gathers clamp `demands[4]` to `demands[3]` and whose scatter `demands.at[4].set(0)` is dropped — sends
vehicle 1 to "node 4": position 4 instead of the depot (`multicvrp_step_agrees_partial`,
`multicvrp_illegal_is_depot_partial`, `multicvrp_illegal_ignored_partial` fail), its capacity drops by the demand of
customer 3 which stays unserved (`Feasible` fails: `multicvrp_step_feasible_partial`), and the observation shows
the vehicle at customer 3's coordinates whereas the documented `observe` has no coordinates for node 4
(`multicvrp_obs_faithful_partial` fails).  Real code: `MultiCVRP()`, `reset(PRNGKey(0))`, action `[21, 0]` passes
`action_spec.validate`; positions become `[21, 0]`, capacities `[52, 60]`, demand of customer 20 still 8. -/
theorem multicvrp_spec_max_witness :
    -- the hypotheses of the `_partial` theorems with `x < num_customers + 1` weakened to the declared `x ≤ num_customers + 1`
    [0, MultiCVRP.exampleCfg.numCustomers + 1].length = MultiCVRP.exampleState.capacities.length ∧
    (∀ x ∈ [0, MultiCVRP.exampleCfg.numCustomers + 1], x ≤ MultiCVRP.exampleCfg.numCustomers + 1) ∧
    Feasible MultiCVRP.exampleCfg [0, 2, 4, 3] MultiCVRP.exampleState ∧
    MultiCVRP.exampleState.coords.length = MultiCVRP.exampleState.demands.length ∧
    MultiCVRP.exampleState.demands.getD DEPOT 0 = 0 ∧
    ¬ legal MultiCVRP.exampleState 1 (MultiCVRP.exampleCfg.numCustomers + 1) ∧
    -- … and the conclusions fail:
    (step id MultiCVRP.exampleCfg MultiCVRP.exampleDist MultiCVRP.exampleState [0, 4]).1.positions = [0, 4] ∧
    dests MultiCVRP.exampleState [0, 4] = [0, 0] ∧
    (step id MultiCVRP.exampleCfg MultiCVRP.exampleDist MultiCVRP.exampleState [0, 4]).1.capacities = [5, 2] ∧
    (step id MultiCVRP.exampleCfg MultiCVRP.exampleDist MultiCVRP.exampleState [0, 4]).1.demands = [0, 2, 0, 3] ∧
    (step id MultiCVRP.exampleCfg MultiCVRP.exampleDist MultiCVRP.exampleState [0, 4]).1 ≠
      (step id MultiCVRP.exampleCfg MultiCVRP.exampleDist MultiCVRP.exampleState [0, DEPOT]).1 ∧
    ¬ IllegalIgnored MultiCVRP.exampleCfg MultiCVRP.exampleState [0, 4]
        (step id MultiCVRP.exampleCfg MultiCVRP.exampleDist MultiCVRP.exampleState [0, 4]).1 ∧
    ¬ Feasible MultiCVRP.exampleCfg [0, 2, 4, 3]
        (step id MultiCVRP.exampleCfg MultiCVRP.exampleDist MultiCVRP.exampleState [0, 4]).1 ∧
    (step id MultiCVRP.exampleCfg MultiCVRP.exampleDist MultiCVRP.exampleState [0, 4]).2.obs ≠
      observe (step id MultiCVRP.exampleCfg MultiCVRP.exampleDist MultiCVRP.exampleState [0, 4]).1 ∧
    (step id MultiCVRP.exampleCfg MultiCVRP.exampleDist MultiCVRP.exampleState [0, 4]).2.obs.vehCoords = [[0, 0], [1, 1]] ∧
    (observe (step id MultiCVRP.exampleCfg MultiCVRP.exampleDist MultiCVRP.exampleState [0, 4]).1).vehCoords = [[0, 0], []] := by
  decide +kernel
end Props.C05

namespace Props.C06
/-- every instance the generator can draw starts feasible -/
theorem multicvrp_reset_feasible (c : Cfg) (nV : Nat) (demandMax : Int) (mapMax windowLen : Rat)
    (d : Draw) (hm : 0 ≤ c.maxCap) (hpos : 0 ≤ demandMax) (hd : validDraw c mapMax d) :
    Feasible c (reset c nV demandMax windowLen d).1.demands (reset c nV demandMax windowLen d).1 :=
  MultiCVRP.generate_feasible c nV demandMax mapMax windowLen d hm hpos hd

/-- ANY joint action with in-range entries (legal or not) keeps the history-free hard constraints:
each demand untouched or zeroed, each vehicle's remaining capacity within `[0, maxCap]` (the load on
board never exceeds the capacity), no two vehicles at the same customer, cached mask consistent.
`hr` (entries `≤ num_customers`) and `hm` are carried but not used: `MultiCVRP.step_basicFeasible_any` asks nothing of the
joint action but one entry per vehicle -/
theorem multicvrp_step_basicFeasible_partial (rnd : Rat → Rat) (c : Cfg) (D : Dist) (d0 : List Int) (s : State)
    (a : List Nat) (hm : 0 ≤ c.maxCap) (hl : a.length = s.capacities.length)
    (hr : ∀ x ∈ a, x < s.demands.length) (hf : BasicFeasible c d0 s) :
    BasicFeasible c d0 (step rnd c D s a).1 :=
  MultiCVRP.step_basicFeasible_any rnd c D d0 s a ((MultiCVRP.nextNodes_length s a hl).trans hl) hf

/-- ANY joint action with in-range entries keeps the full invariant `Feasible` — the history-free part
above and, while the recorded history is complete (`stepCount ≤ 2·num_customers`), the constraints
recomputed from the recorded routes: each route starts at the depot and ends where the vehicle
stands, no customer appears twice on all routes together and its demand is zero exactly when it
appears, on every route the load never exceeds the capacity and `capacity` is what is left of it.
This is the predicate the driver evaluates on implementation states.
PARTIAL: entries `≤ num_customers` only (`hr`); false for the in-spec value `num_customers + 1`
(`Props.C05.multicvrp_spec_max_witness`) -/
theorem multicvrp_step_feasible_partial (rnd : Rat → Rat) (c : Cfg) (D : Dist) (d0 : List Int) (s : State)
    (a : List Nat) (hm : 0 ≤ c.maxCap) (hl : a.length = s.capacities.length)
    (hr : ∀ x ∈ a, x < s.demands.length) (hf : Feasible c d0 s) :
    Feasible c d0 (step rnd c D s a).1 := MultiCVRP.step_feasible rnd c D d0 s a hm hl hr hf

/-- … in particular for a joint action whose entries are all masked-in -/
theorem multicvrp_masked_step_feasible (rnd : Rat → Rat) (c : Cfg) (D : Dist) (d0 : List Int) (s : State)
    (a : List Nat) (hm : 0 ≤ c.maxCap) (hl : a.length = s.capacities.length)
    (hmask : ∀ v, v < a.length →
      ((createActionMask s.demands s.capacities).getD v []).getD (a.getD v 0) false = true)
    (hf : Feasible c d0 s) : Feasible c d0 (step rnd c D s a).1 := by
  apply MultiCVRP.step_feasible rnd c D d0 s a hm hl _ hf
  intro x hx
  obtain ⟨v, hv, rfl⟩ := List.getElem_of_mem hx
  have := (MultiCVRP.mask_iff_legal s v a[v]).1 (by
    have := hmask v hv
    rwa [List.getD_eq_getElem?_getD (l := a), List.getElem?_eq_getElem hv] at this)
  exact this.2.1

/-- an episode that ends by completion (no demand left, all vehicles at the depot) holds a complete
feasible solution: every customer with demand appears exactly once on the recorded routes -/
theorem multicvrp_complete_is_solution (c : Cfg) (d0 : List Int) (s : State) (hf : Feasible c d0 s)
    (h : allServedAtDepot s = true) : IsSolution c d0 s := MultiCVRP.complete_is_solution c d0 s hf h

/-- no two vehicles are sent to the same customer in one step -/
theorem multicvrp_no_shared_customer (s : State) (a : List Nat) (u v : Nat) (hu : u < a.length)
    (hvu : v < u) (he : (dests s a).getD u 0 = (dests s a).getD v 0) : (dests s a).getD u 0 = DEPOT := by
  apply Decidable.byContradiction
  intro hne
  have hv : v < a.length := by omega
  obtain ⟨hhu, heu, _⟩ := dests_customer s a u hu hne
  obtain ⟨_, hev, hlv⟩ := dests_customer s a v hv (by rw [← he]; exact hne)
  have hau : a.getD u 0 ≠ DEPOT := by rw [← heu]; exact hne
  rcases ((honoured_iff s a u).1 hhu).2 with h | h
  · exact hau h
  · rcases h v hvu with h | h
    · exact h hlv
    · apply h; rw [← hev, ← heu, he]

/-- a customer is served at most once: a vehicle is only sent to a customer that still has demand,
the demand of a served customer becomes zero, and zero demand stays zero.
PARTIAL: entries `≤ num_customers` only (`hr`, needed for the second part) -/
theorem multicvrp_served_once_partial (rnd : Rat → Rat) (c : Cfg) (D : Dist) (s : State) (a : List Nat)
    (hl : a.length = s.capacities.length) (hr : ∀ x ∈ a, x < s.demands.length) (v : Nat)
    (hv : v < a.length) :
    ((dests s a).getD v 0 ≠ DEPOT → 0 < s.demands.getD ((dests s a).getD v 0) 0) ∧
    (∀ j, (step rnd c D s a).1.demands.getD j 0 =
      if j ∈ dests s a then 0 else s.demands.getD j 0) := by
  constructor
  · exact fun hq => (MultiCVRP.dests_customer_demand s a v hv hq).1
  · intro j
    rw [MultiCVRP.step_state, MultiCVRP.update_demands, MultiCVRP.nextNodes_eq_dests s a hl hr]

example : Feasible MultiCVRP.exampleCfg [0, 2, 4, 3] MultiCVRP.exampleState := by decide +kernel

/-! #### whole episodes (Env/MultiCVRP/Episode.lean) -/

/-- WHOLE EPISODE: from a feasible state, after every prefix (`as.take k`, every `k`) of every play `as` of joint
actions with one entry per vehicle and entries `≤ num_customers` (`InRange`: legal or not, any number of steps —
also beyond the end of the episode), for every rounding function, the state reached (`runState`) is `Feasible`.
PARTIAL only in the sense of `Props.C05.multicvrp_spec_max_witness`: the action range is the documented `[0, num_customers]`, not the
declared one. -/
theorem multicvrp_feasible_along (rnd : Rat → Rat) (c : Cfg) (D : Dist) (d0 : List Int) (s : State)
    (as : List (List Nat)) (hm : 0 ≤ c.maxCap) (hf : Feasible c d0 s)
    (hr : InRange s.demands.length s.capacities.length as) (k : Nat) :
    Feasible c d0 (runState rnd c D s (as.take k)) := MultiCVRP.feasible_along rnd c D d0 s as hm hf hr k

/-- … from `reset`: every instance the generator can draw, every such play, every prefix -/
theorem multicvrp_reset_feasible_along (rnd : Rat → Rat) (c : Cfg) (D : Dist) (nV : Nat) (demandMax : Int)
    (mapMax windowLen : Rat) (d : Draw) (as : List (List Nat)) (hm : 0 ≤ c.maxCap) (hpos : 0 ≤ demandMax)
    (hd : validDraw c mapMax d) (hr : InRange (c.numCustomers + 1) nV as) (k : Nat) :
    Feasible c (reset c nV demandMax windowLen d).1.demands
      (runState rnd c D (reset c nV demandMax windowLen d).1 (as.take k)) :=
  MultiCVRP.feasible_along rnd c D _ _ as hm (MultiCVRP.generate_feasible c nV demandMax mapMax windowLen d hm hpos hd)
    (by
      show InRange _ (List.replicate nV c.maxCap).length as
      rw [MultiCVRP.generate_demands_length, List.length_replicate, hd.2.1]; exact hr) k

/-- … and a play that reaches "no demand left, all vehicles at the depot" holds a complete feasible solution -/
theorem multicvrp_run_complete_is_solution (rnd : Rat → Rat) (c : Cfg) (D : Dist) (d0 : List Int) (s : State)
    (as : List (List Nat)) (hm : 0 ≤ c.maxCap) (hf : Feasible c d0 s)
    (hr : InRange s.demands.length s.capacities.length as)
    (h : allServedAtDepot (runState rnd c D s as) = true) : IsSolution c d0 (runState rnd c D s as) :=
  MultiCVRP.complete_is_solution c d0 _ (MultiCVRP.feasible_run rnd c D d0 s as hm hf hr) h

/-- the hypotheses are satisfiable: from `exampleState`, vehicle 1 serves customers 1 and 3 (vehicle 0 tries the
illegal customer 1 on the way) and everybody returns: the play is in range and ends with a complete solution -/
example : InRange MultiCVRP.exampleState.demands.length MultiCVRP.exampleState.capacities.length
      [[1, 1], [0, 3], [0, 0]] ∧
    allServedAtDepot (runState id MultiCVRP.exampleCfg MultiCVRP.exampleDist MultiCVRP.exampleState
      [[1, 1], [0, 3], [0, 0]]) = true := by decide +kernel
end Props.C06

namespace Props.C08
/-- dense reward telescopes (exact arithmetic): before the step limit, the reward of a step is the
change of the accumulated objective −(Σ distances + Σ time penalties).
PARTIAL: steps whose successor has not timed out (`ht`); the general form is `multicvrp_dense_reward` -/
theorem multicvrp_dense_telescopes_partial (c : Cfg) (D : Dist) (s : State) (a : List Nat) (hd : c.dense = true)
    (ht : timedOut c (step id c D s a).1 = false) :
    (step id c D s a).2.reward = [accumulated (step id c D s a).1 - accumulated s] :=
  MultiCVRP.dense_telescopes c D s a hd ht

/-- dense reward of EVERY step (exact arithmetic): at the step limit `worst_case_remaining_reward` of the
successor (which is NOT the change of the objective: `multicvrp_dense_ne_sparse_timeout_witness`), otherwise the
change of the accumulated objective -/
theorem multicvrp_dense_reward (c : Cfg) (D : Dist) (s : State) (a : List Nat) (hd : c.dense = true) :
    (step id c D s a).2.reward =
      [if timedOut c (step id c D s a).1 then worstCase D (step id c D s a).1
       else accumulated (step id c D s a).1 - accumulated s] := by
  by_cases ht : timedOut c (step id c D s a).1 = true
  · rw [if_pos ht, MultiCVRP.step_reward]
    rw [MultiCVRP.step_state] at ht ⊢
    unfold reward denseReward
    rw [hd, ht]; simp
  · rw [if_neg ht]
    exact MultiCVRP.dense_telescopes c D s a hd (by simpa using ht)

/-- sparse reward: zero before the end; at an end before the step limit the whole accumulated
objective; at the step limit `worst_case_remaining_reward` -/
theorem multicvrp_sparse_reward (c : Cfg) (D : Dist) (s : State) (a : List Nat) (hd : c.dense = false) :
    (step id c D s a).2.reward =
      [if (step id c D s a).2.stepType = .last then
         (if timedOut c (step id c D s a).1 then worstCase D (step id c D s a).1
          else accumulated (step id c D s a).1)
       else 0] := MultiCVRP.sparse_reward c D s a hd
/-! #### accumulators vs recorded routes, whole episodes (exact arithmetic) -/

/-- a 2-customer instance for the examples below: unit-ish triangle, 2 vehicles of capacity 5 -/
def exDraw : Draw :=
  { coords := [[0, 0], [1, 0], [0, 1]], scaled := [0, 2, 3], winStart := [0, 0, 0],
    coefEarly := [0, 1, 1], coefLate := [0, 1, 2] }
def exCfg : Cfg := { numCustomers := 2, maxCap := 5, dense := true }
def exD : Dist := [[0, 1, 1], [1, 0, 7/5], [1, 7/5, 0]]
/-- the reset state of that instance (customer demands 2 and 3, windows `[0, 1/2]`) -/
def exS0 : State := (reset exCfg 2 4 (1/2) exDraw).1

/-- `reset` establishes the accumulators-vs-routes invariant `AccInv` (every accumulator of the state is the
quantity recomputed from the recorded routes), for any number of vehicles and any draw whose window and
coefficient arrays have one entry per node -/
theorem multicvrp_reset_accInv (c : Cfg) (D : Dist) (nV : Nat) (demandMax : Int) (windowLen : Rat) (d : Draw)
    (hn : 1 ≤ c.numCustomers) (hw : d.winStart.length = d.scaled.length)
    (he : d.coefEarly.length = d.scaled.length) (hl : d.coefLate.length = d.scaled.length) :
    AccInv c D (reset c nV demandMax windowLen d).1 :=
  MultiCVRP.generate_accInv c D nV demandMax windowLen d hn hw he hl

/-- every step with an in-spec joint action (legal or not), either reward function, taken while the history is
still recorded (`stepCount < 2·num_customers`, i.e. the successor has not timed out) preserves `AccInv`.
PARTIAL: entries `≤ num_customers` only (`hr`) -/
theorem multicvrp_step_accInv_partial (c : Cfg) (D : Dist) (s : State) (a : List Nat) (h : AccInv c D s)
    (hl : a.length = s.capacities.length) (hr : ∀ x ∈ a, x < s.demands.length)
    (hrec : s.stepCount < 2 * c.numCustomers) : AccInv c D (step id c D s a).1 :=
  MultiCVRP.update_accInv c D s a h hl hr hrec

/-- what `AccInv` says: `distances[v] = local_times[v] = pathLen (route v)`, `time_penalties[v]` = the penalties
collected along `route v`, and the accumulated objective is the documented objective recomputed from the routes -/
theorem multicvrp_accumulators_are_routes (c : Cfg) (D : Dist) (s : State) (h : AccInv c D s) :
    s.distances = (routes s).map (pathLen D) ∧ s.localTimes = (routes s).map (pathLen D) ∧
    s.timePenalties = (routes s).map (routePenalty D s 0) ∧ accumulated s = objective D s :=
  ⟨MultiCVRP.accInv_distances h, MultiCVRP.accInv_times h, MultiCVRP.accInv_penalties h, MultiCVRP.accInv_objective h⟩

/-- `AccInv` holds at the end of every COMPLETE episode (`Episode`: in-spec joint actions, entries `≤ num_customers`, the
last step LAST and no earlier one) from a state with `AccInv` that stays within the recorded history.
PARTIAL: documented action range only (see `Props.C05.multicvrp_spec_max_witness`) -/
theorem multicvrp_accInv_along_partial (c : Cfg) (D : Dist) (s : State) (as : List (List Nat)) (h : AccInv c D s)
    (he : Episode c D s as) (hlim : s.stepCount + as.length ≤ 2 * c.numCustomers) :
    AccInv c D (finalState c D s as) := by
  induction as generalizing s with
  | nil => exact h
  | cons a as ih =>
    simp only [Episode] at he
    simp only [List.length_cons] at hlim
    simp only [finalState]
    have h' : AccInv c D (step id c D s a).1 := by
      rw [MultiCVRP.step_state]; exact MultiCVRP.update_accInv c D s a h he.1.1 he.1.2 (by omega)
    rcases he.2 with ⟨rfl, _⟩ | ⟨_, _, he'⟩
    · exact h'
    · exact ih _ h' he' (by rw [MultiCVRP.step_state, MultiCVRP.update_stepCount]; omega)

/-- whole episode: for a complete episode of in-spec joint actions from a reset state (`Episode`: the last step
and only the last step is LAST) that ends before the step limit, the sum of the dense rewards = the sum of the
sparse rewards = the documented objective (minus total distance, minus all time penalties) recomputed from the
routes recorded in the final state.  (The state evolution does not depend on the reward function.)
PARTIAL twice: (1) joint actions with entries `≤ num_customers` (`Episode` contains `InSpec`; see `Props.C05.multicvrp_spec_max_witness`);
(2) episodes that end BEFORE the step limit (`ht`) in exact arithmetic — for an episode ended by the step limit
the statement is false, see `multicvrp_dense_ne_sparse_timeout_witness`.  The matrix `D` is arbitrary here;
`multicvrp_dense_eq_sparse_eq_objective_euclid_partial` ties it to the coordinates. -/
theorem multicvrp_dense_eq_sparse_eq_objective_partial (c : Cfg) (D : Dist) (nV : Nat) (demandMax : Int)
    (windowLen : Rat) (d : Draw) (as : List (List Nat)) (hn : 1 ≤ c.numCustomers)
    (hw : d.winStart.length = d.scaled.length) (hce : d.coefEarly.length = d.scaled.length)
    (hcl : d.coefLate.length = d.scaled.length)
    (he : Episode c D (reset c nV demandMax windowLen d).1 as)
    (ht : timedOut c (finalState c D (reset c nV demandMax windowLen d).1 as) = false) :
    retOf { c with dense := true } D (reset c nV demandMax windowLen d).1 as =
      objective D (finalState c D (reset c nV demandMax windowLen d).1 as) ∧
    retOf { c with dense := false } D (reset c nV demandMax windowLen d).1 as =
      objective D (finalState c D (reset c nV demandMax windowLen d).1 as) := by
  have hs0 : (reset c nV demandMax windowLen d).1 = generate c nV demandMax windowLen d := rfl
  rw [hs0] at he ht ⊢
  have hinv := MultiCVRP.generate_accInv c D nV demandMax windowLen d hn hw hce hcl
  have hlim : (generate c nV demandMax windowLen d).stepCount + as.length ≤ 2 * c.numCustomers := by
    unfold timedOut at ht
    rw [MultiCVRP.finalState_stepCount] at ht
    simp at ht; omega
  have hfin := multicvrp_accInv_along_partial c D _ as hinv he hlim
  rw [← MultiCVRP.accInv_objective hfin]
  constructor
  · rw [MultiCVRP.dense_return { c with dense := true } D _ as rfl hlim, MultiCVRP.finalState_dense, MultiCVRP.generate_accumulated]
    grind
  · rw [MultiCVRP.sparse_return { c with dense := false } D _ as rfl ((MultiCVRP.episode_dense c false D _ as).2 he) hlim,
      MultiCVRP.finalState_dense]

/-- the hypotheses are satisfiable: vehicle 0 serves customer 1, vehicle 1 customer 2, both return; the episode is
complete, ends at step count 3 ≤ 4, and both returns are −(2 + 2) − (1/2·1 + 1/2·2) = −11/2 -/
example : Episode exCfg exD exS0 [[1, 2], [0, 0]] ∧ timedOut exCfg (finalState exCfg exD exS0 [[1, 2], [0, 0]]) = false ∧
    retOf { exCfg with dense := true } exD exS0 [[1, 2], [0, 0]] = -11/2 ∧
    retOf { exCfg with dense := false } exD exS0 [[1, 2], [0, 0]] = -11/2 ∧
    objective exD (finalState exCfg exD exS0 [[1, 2], [0, 0]]) = -11/2 := by decide +kernel
example : AccInv exCfg exD exS0 :=
  multicvrp_reset_accInv exCfg exD 2 4 (1/2) exDraw (by decide) (by decide) (by decide) (by decide)

/-- the hypothesis `ht` (the episode ends before the step limit) cannot be dropped: on the instance above the
complete in-spec episode "vehicle 0 serves customer 1 and returns, then everybody idles" runs into the step limit
(4 steps, `2·num_customers = 4`) with customer 2 unserved; the dense return is −19/2 (the legs driven, −5/2, plus
`worst_case_remaining_reward` = −7), the sparse return is −7 (`worst_case_remaining_reward` only) and the
objective of the recorded routes is −5/2: all three differ.  Same on the real code (`DenseReward` /
`SparseReward` both replace the last reward by `worst_case_remaining_reward(new_state)`; the dense one has
already paid for the legs driven). -/
theorem multicvrp_dense_ne_sparse_timeout_witness :
    Episode exCfg exD exS0 [[1, 0], [0, 0], [0, 0], [0, 0]] ∧
    timedOut exCfg (finalState exCfg exD exS0 [[1, 0], [0, 0], [0, 0], [0, 0]]) = true ∧
    retOf { exCfg with dense := true } exD exS0 [[1, 0], [0, 0], [0, 0], [0, 0]] = -19/2 ∧
    retOf { exCfg with dense := false } exD exS0 [[1, 0], [0, 0], [0, 0], [0, 0]] = -7 ∧
    objective exD (finalState exCfg exD exS0 [[1, 0], [0, 0], [0, 0], [0, 0]]) = -5/2 := by decide +kernel

/-! #### the distance matrix tied to the coordinates (`distMatches`) -/

/-- what the executable test `distMatches` (evaluated by `multi_cvrp.instance` on every reset state, there with a
float32 tolerance) means at tolerance 0: `D` is the Euclidean distance matrix of the coordinates — every entry
between two nodes is non-negative and its square is the squared distance of the two points -/
theorem multicvrp_distMatches_euclid (coords : List (List Rat)) (D : Dist) (h : distMatches 0 coords D = true) :
    Euclid coords D := by
  unfold distMatches at h
  simp only [Bool.and_eq_true, decide_eq_true_eq] at h
  obtain ⟨⟨hlen, hrows⟩, _⟩ := h
  intro i j hi hj
  have hiD : i < D.length := by omega
  have hrow := (Jx.zipWith_all_getElem _ coords D).1 hrows i hi hiD
  simp only [Bool.and_eq_true, decide_eq_true_eq] at hrow
  obtain ⟨hrl, hcells⟩ := hrow
  have hjr : j < (D[i]).length := by omega
  have hcell := (Jx.zipWith_all_getElem _ coords D[i]).1 hcells j hj hjr
  simp only [Bool.and_eq_true, decide_eq_true_eq] at hcell
  have eDi : D.getD i [] = D[i] := Jx.getD_eq_getElem [] hiD
  have ed : dist D i j = (D[i])[j] := by
    rw [dist_eq_getD D i j hiD (by rw [eDi]; exact hjr), eDi, Jx.getD_eq_getElem 0 hjr]
  rw [ed]
  unfold sqDist
  rw [Jx.getD_eq_getElem [] hi, Jx.getD_eq_getElem [] hj]
  obtain ⟨⟨h0, h1⟩, h2⟩ := hcell
  refine ⟨h0, ?_⟩
  -- tolerance 0: `h1` and `h2` squeeze `d·d − sq` between `−(0·(1 + sq))` and `0·(1 + sq)`
  grind

/-- consequently `D` is determined by the coordinates on all node pairs, symmetric, with zero diagonal -/
theorem multicvrp_euclid_unique (coords : List (List Rat)) (D D' : Dist) (h : Euclid coords D) (h' : Euclid coords D')
    (i j : Nat) (hi : i < coords.length) (hj : j < coords.length) :
    dist D i j = dist D' i j ∧ dist D i j = dist D j i ∧ dist D i i = 0 :=
  ⟨MultiCVRP.euclid_unique coords D D' h h' i j hi hj, MultiCVRP.euclid_symm coords D h i j hi hj,
   MultiCVRP.euclid_self coords D h i hi⟩

/-- the objective of a state whose recorded node indices are nodes of the instance is a function of the coordinates
and the routes: any two Euclidean matrices give the same value -/
theorem multicvrp_objective_euclid_unique (D D' : Dist) (s : State) (h : OrderInRange s)
    (hc : s.coords.length = s.demands.length) (hD : Euclid s.coords D) (hD' : Euclid s.coords D') :
    objective D s = objective D' s :=
  objective_congrD D D' s h (fun i j hi hj => euclid_unique s.coords D D' hD hD' i j (by omega) (by omega))

/-- whole episode with `D` TIED to the instance: if `D` passes `distMatches 0` against the drawn coordinates, then
for a complete episode (entries `≤ num_customers`) from the reset state that ends before the step limit, dense
return = sparse return = the documented objective of the recorded routes computed with ANY Euclidean matrix `D'`
of the coordinates — i.e. minus (Σ Euclidean leg lengths + Σ time penalties at Euclidean arrival times).
PARTIAL as `multicvrp_dense_eq_sparse_eq_objective_partial` (documented action range; episodes ending before the
step limit; exact arithmetic, hence instances whose node distances are rational) -/
theorem multicvrp_dense_eq_sparse_eq_objective_euclid_partial (c : Cfg) (D D' : Dist) (nV : Nat) (demandMax : Int)
    (windowLen : Rat) (d : Draw) (as : List (List Nat)) (hn : 1 ≤ c.numCustomers)
    (hw : d.winStart.length = d.scaled.length) (hce : d.coefEarly.length = d.scaled.length)
    (hcl : d.coefLate.length = d.scaled.length) (hco : d.coords.length = d.scaled.length)
    (h0 : 0 < d.scaled.length) (hD : distMatches 0 d.coords D = true) (hD' : distMatches 0 d.coords D' = true)
    (he : Episode c D (reset c nV demandMax windowLen d).1 as)
    (ht : timedOut c (finalState c D (reset c nV demandMax windowLen d).1 as) = false) :
    retOf { c with dense := true } D (reset c nV demandMax windowLen d).1 as =
      objective D' (finalState c D (reset c nV demandMax windowLen d).1 as) ∧
    retOf { c with dense := false } D (reset c nV demandMax windowLen d).1 as =
      objective D' (finalState c D (reset c nV demandMax windowLen d).1 as) := by
  have key := multicvrp_dense_eq_sparse_eq_objective_partial c D nV demandMax windowLen d as hn hw hce hcl he ht
  have hor : OrderInRange (finalState c D (reset c nV demandMax windowLen d).1 as) :=
    MultiCVRP.finalState_orderInRange c D _ as (MultiCVRP.generate_orderInRange c nV demandMax windowLen d h0) he
  obtain ⟨hc1, hc2⟩ := MultiCVRP.finalState_coords c D (reset c nV demandMax windowLen d).1 as
  have hcoords : (reset c nV demandMax windowLen d).1.coords = d.coords := rfl
  have hdl : (reset c nV demandMax windowLen d).1.demands.length = d.scaled.length :=
    MultiCVRP.generate_demands_length c nV demandMax windowLen d
  have e := Props.C08.multicvrp_objective_euclid_unique D D' _ hor (by rw [hc1, hc2, hcoords, hdl]; exact hco)
    (by rw [hc1, hcoords]; exact Props.C08.multicvrp_distMatches_euclid _ _ hD)
    (by rw [hc1, hcoords]; exact Props.C08.multicvrp_distMatches_euclid _ _ hD')
  rw [← e]; exact key

/-- a Pythagorean instance (depot (0,0), customers (3,0) and (0,4): distances 3, 4, 5) for the hypotheses -/
def pyDraw : Draw :=
  { coords := [[0, 0], [3, 0], [0, 4]], scaled := [0, 2, 3], winStart := [0, 0, 0],
    coefEarly := [0, 1, 1], coefLate := [0, 1, 2] }
def pyD : Dist := [[0, 3, 4], [3, 0, 5], [4, 5, 0]]
/-- the hypotheses are satisfiable: `pyD` passes `distMatches 0`; one vehicle serves both customers (depot, 1, 2,
depot: 3 + 5 + 4 = 12 driven, late by 5/2 at customer 1 and 15/2 at customer 2 with coefficients 1 and 2),
the episode ends at step count 4 ≤ 4 and both returns are −12 − (5/2 + 15) = −59/2 -/
example : distMatches 0 pyDraw.coords pyD = true ∧
    Episode exCfg pyD (reset exCfg 2 4 (1/2) pyDraw).1 [[1, 0], [2, 0], [0, 0]] ∧
    timedOut exCfg (finalState exCfg pyD (reset exCfg 2 4 (1/2) pyDraw).1 [[1, 0], [2, 0], [0, 0]]) = false ∧
    retOf { exCfg with dense := true } pyD (reset exCfg 2 4 (1/2) pyDraw).1 [[1, 0], [2, 0], [0, 0]] = -59/2 ∧
    retOf { exCfg with dense := false } pyD (reset exCfg 2 4 (1/2) pyDraw).1 [[1, 0], [2, 0], [0, 0]] = -59/2 := by
  decide +kernel
end Props.C08

namespace Props.C10
/-- (the ranges of the random arrays are ASSUMED here by `validDraw`; `multicvrp_raw_draw_valid` below derives them
from the raw random numbers.)  Whatever `UniformRandomGenerator` draws (coordinates in the box, non-negative scaled demands with
the depot's zero), given `customer_demand_max ≤ max_capacity` (true of every shipped scenario): the
depot has no demand, every demand is within `[0, min(customer_demand_max, max_capacity)]`, the
coordinates are in the declared box and the start state is the documented one -/
theorem multicvrp_generate_instance (c : Cfg) (nV : Nat) (demandMax : Int) (mapMax windowLen : Rat)
    (d : Draw) (hcon : demandMax ≤ c.maxCap) (hpos : 0 ≤ demandMax) (hd : validDraw c mapMax d) :
    demandsOK c demandMax (generate c nV demandMax windowLen d) ∧
    coordsInBox mapMax (generate c nV demandMax windowLen d) ∧
    IsInitial c nV (generate c nV demandMax windowLen d) := by
  obtain ⟨h1, h2, h3, h4, h5⟩ := hd
  refine ⟨⟨MultiCVRP.generate_depot c nV demandMax windowLen d hpos (by omega) h5, ?_⟩, h3, ?_⟩
  · intro x hx
    have := MultiCVRP.generate_demands_range c nV demandMax windowLen d hpos h4 x hx
    exact ⟨this.1, this.2, Int.le_trans this.2 hcon⟩
  · exact ⟨h1, (MultiCVRP.generate_demands_length c nV demandMax windowLen d).trans h2, rfl, rfl, rfl, rfl, rfl, rfl, rfl, rfl⟩

example : validDraw MultiCVRP.exampleCfg 10
    { coords := [[0, 1/2], [10, 1], [1/3, 1/3], [5, 5]], scaled := [0, 7, 0, 3], winStart := [],
      coefEarly := [], coefLate := [] } := by decide +kernel

/-! #### the generator from the RAW random numbers (Env/MultiCVRP/Generator.lean)

The draw is what the PRNG delivers (`RawDraw`: unit uniforms `0 ≤ u < 1` and `randint` values
`0 ≤ x < customer_demand_max`, `validRaw`); `uniformMap` transliterates `jax.random.uniform(minval, maxval)`
(`max(minval, u·(maxval − minval) + minval)`), `scaleDemands` the int16 demand scaling, `generateRaw` the whole of
`UniformRandomGenerator.__call__`.  `multi_cvrp.instance` (request field `raw`, adapter hook `instance_extra`)
checks on every C10 run that the implementation's reset state EQUALS `generateRaw Jx.roundF32 … raw` for the raw
numbers recomputed from the reset key, and that they satisfy `validRaw`. -/

/-- `jax.random.uniform(minval = lo, maxval = hi)` in exact arithmetic maps a unit uniform into `[lo, hi]`, and into
`[lo, hi)` when `lo < hi` — the range is a conclusion -/
theorem multicvrp_uniform_range (lo hi u : Rat) (h : lo ≤ hi) (h0 : 0 ≤ u) (h1 : u < 1) :
    lo ≤ uniformMap id lo hi u ∧ uniformMap id lo hi u ≤ hi ∧ (lo < hi → uniformMap id lo hi u < hi) :=
  MultiCVRP.uniformMap_id_range lo hi u h h0 h1

/-- … in ROUNDED arithmetic: never below `minval` for any rounding function (the final `lax.max`); with `minval = 0`
and a monotone rounding that fixes 0 and `maxval`, never above `maxval`; with `minval = maxval` the constant -/
theorem multicvrp_uniform_range_rnd (rnd : Rat → Rat) (lo hi u : Rat) :
    lo ≤ uniformMap rnd lo hi u ∧
    (RndMono rnd → rnd hi = hi → 0 ≤ hi → 0 ≤ u → u < 1 → uniformMap rnd 0 hi u ≤ hi) ∧
    (rnd 0 = 0 → rnd lo = lo → uniformMap rnd lo lo u = lo) :=
  ⟨MultiCVRP.uniformMap_ge rnd lo hi u,
   fun hr hh h0 _ hu1 => (MultiCVRP.uniformMap_rnd_le rnd hr hi u hh h0 hu1).2,
   fun h0 hl => MultiCVRP.uniformMap_const rnd lo u h0 hl⟩

/-- … for float32 (`Jx.roundF32`) and a representable `maxval = k · 2^sh` (`k < 2^24`): e.g. every integer
`map_max < 2^24` -/
theorem multicvrp_uniform_range_roundF32 (k : Nat) (sh : Int) (hk : k < 16777216) (hs : -149 ≤ sh) (u : Rat)
    (hu0 : 0 ≤ u) (hu1 : u < 1) :
    0 ≤ uniformMap Jx.roundF32 0 ((k : Rat) * Jx.pow2 sh) u ∧
    uniformMap Jx.roundF32 0 ((k : Rat) * Jx.pow2 sh) u ≤ (k : Rat) * Jx.pow2 sh :=
  MultiCVRP.uniformMap_rnd_le Jx.roundF32 MultiCVRP.rndMono_roundF32 _ u (Jx.roundF32_fix k sh hk hs)
    (Rat.mul_nonneg (by exact_mod_cast Nat.zero_le k) (Rat.le_of_lt (Jx.pow2_pos sh))) hu1

/-- the int16 demand scaling `int16(demands · (total_capacity / Σ demands))` in exact arithmetic: from non-negative
`randint` values every scaled demand lies in `[0, total_capacity]`, so with `total_capacity ≤ 32767` the int16
conversion (`wrap16`, modelled) never wraps; and the depot's scaled demand is 0 for every rounding fixing 0 -/
theorem multicvrp_scaled_demands_range (total : Int) (raw : List Int) (ht0 : 0 ≤ total) (ht : total ≤ 32767)
    (hraw : ∀ x ∈ raw, 0 ≤ x) :
    (∀ y ∈ scaleDemands id total raw, 0 ≤ y ∧ y ≤ total) ∧
    (∀ rnd : Rat → Rat, rnd 0 = 0 → 0 < raw.length → (scaleDemands rnd total raw).getD DEPOT 1 = 0) :=
  ⟨MultiCVRP.scaleDemands_id_range total raw ht0 ht hraw,
   fun rnd h0 hl => MultiCVRP.scaleDemands_depot rnd h0 total raw hl⟩

/-- for every raw draw the PRNG can deliver (`validRaw`) and sane generator parameters (`GenOK`), the random
arrays computed by the transliterated arithmetic satisfy `validDrawB` (hence `validDraw`): coordinates in
`[0, map_max]`, scaled demands `≥ 0` with the depot's 0, window starts in `[0, max_start_window]`, coefficients in
`[0, coef_rand[1]]` — the ranges the other generator / reset theorems ASSUME are conclusions here -/
theorem multicvrp_raw_draw_valid (c : Cfg) (nV : Nat) (g : GenCfg) (r : RawDraw) (dmax : Rat) (hg : GenOK c nV g)
    (hdm : 0 ≤ dmax) (hr : validRaw c g r) : validDrawB c (genLim g dmax) (drawOfRaw id c nV g r) :=
  MultiCVRP.drawOfRaw_validDrawB c nV g r dmax hg hdm hr

/-- … so for EVERY valid raw draw the generated start state (`generateRaw id` = `reset`'s state) has the advertised
invariants: demands within `[0, min(customer_demand_max, max_capacity)]` with the depot's 0 (given
`customer_demand_max ≤ max_capacity`), coordinates in the box — strictly below `map_max` —, the documented initial
vehicle state, `Feasible`, the bounds invariant `BInv`, and every leaf of the reset observation in `obsBounds` -/
theorem multicvrp_generate_instance_raw (c : Cfg) (nV : Nat) (g : GenCfg) (r : RawDraw) (dmax : Rat)
    (hg : GenOK c nV g) (hdm : 0 ≤ dmax) (hcon : g.demandMax ≤ c.maxCap) (hmm : 0 < g.mapMax)
    (hr : validRaw c g r) :
    demandsOK c g.demandMax (generateRaw id c nV g r) ∧ coordsInBox g.mapMax (generateRaw id c nV g r) ∧
    (∀ p ∈ (generateRaw id c nV g r).coords, ∀ x ∈ p, 0 ≤ x ∧ x < g.mapMax) ∧
    IsInitial c nV (generateRaw id c nV g r) ∧
    Feasible c (generateRaw id c nV g r).demands (generateRaw id c nV g r) ∧
    BInv c (genLim g dmax) (generateRaw id c nV g r) ∧
    Jm.OB.InBounds (obsBounds c (genLim g dmax))
      (obsLeaves (reset c nV g.demandMax g.windowLen (drawOfRaw id c nV g r)).2.obs) := by
  have hv := MultiCVRP.drawOfRaw_validDrawB c nV g r dmax hg hdm hr
  have hi := multicvrp_generate_instance c nV g.demandMax g.mapMax g.windowLen _ hcon hg.2.2.1 hv.1
  rw [MultiCVRP.generateRaw_id]
  exact ⟨hi.1, hi.2.1, MultiCVRP.generateRaw_coords_lt c nV g r hmm hr, hi.2.2,
    MultiCVRP.generate_feasible c nV g.demandMax g.mapMax g.windowLen _ hg.1 hg.2.2.1 hv.1,
    MultiCVRP.reset_bInv c (genLim g dmax) nV _ hv, Props.C01.multicvrp_reset_obs_in_bounds c (genLim g dmax) nV _ hv⟩

/-- … and the instance never asks for more than the fleet can carry (the purpose of the scaling, "to ensure a
feasible solution"): Σ demands ≤ `max_capacity · num_vehicles`, for every valid raw draw (exact arithmetic; the
certificate `total_demand_le_fleet_capacity` of `multi_cvrp.instance` checks it on the float32 implementation) -/
theorem multicvrp_generate_total_demand_raw (c : Cfg) (nV : Nat) (g : GenCfg) (r : RawDraw) (hg : GenOK c nV g)
    (hr : validRaw c g r) : (generateRaw id c nV g r).demands.sum ≤ c.maxCap * (nV : Int) := by
  have htot : 0 ≤ c.maxCap * (nV : Int) := Int.mul_nonneg hg.1 (by omega)
  have h1 := MultiCVRP.scaleDemands_id_sum _ r.rawDemands htot hg.2.1 (fun y hy => (hr.2.2.2.2.2.2.1 y hy).1)
  -- clipping at `customer_demand_max` only lowers the sum
  have h2 : (generateRaw id c nV g r).demands.sum ≤ (scaleDemands id (c.maxCap * (nV : Int)) r.rawDemands).sum := by
    have := Jx.sum_map_le (scaleDemands id (c.maxCap * (nV : Int)) r.rawDemands) id (fun x => min x g.demandMax)
      (fun x _ => Int.min_le_left _ _)
    rwa [List.map_id] at this
  omega

/-- float32: the coordinates of `generateRaw Jx.roundF32` (the term `multi_cvrp.instance` compares the real reset
state with) are in the box for every valid raw draw when `map_max = k · 2^sh` is representable -/
theorem multicvrp_generateRaw_coordsInBox_roundF32 (c : Cfg) (nV : Nat) (g : GenCfg) (r : RawDraw) (k : Nat)
    (sh : Int) (hmm : g.mapMax = (k : Rat) * Jx.pow2 sh) (hk : k < 16777216) (hs : -149 ≤ sh)
    (hr : validRaw c g r) : coordsInBox g.mapMax (generateRaw Jx.roundF32 c nV g r) :=
  MultiCVRP.generateRaw_coordsInBox_rnd Jx.roundF32 MultiCVRP.rndMono_roundF32 c nV g r
    (by rw [hmm]; exact Rat.mul_nonneg (by exact_mod_cast Nat.zero_le k) (Rat.le_of_lt (Jx.pow2_pos sh)))
    (by rw [hmm]; exact Jx.roundF32_fix k sh hk hs) hr

/-- the hypotheses are satisfiable (`example` below): a raw draw for `exampleCfg` (3 customers), two vehicles, a generator
on the box `[0, 10)²` with demands `< 4`; the scaled demands are `int16([0, 3, 1, 2] · 10/6) = [0, 5, 1, 3]`, clipped to 4 -/
def exGen : GenCfg :=
  { mapMax := 10, demandMax := 4, maxStart := 10, windowLen := 20, earlyLo := 0, earlyHi := 1/5, lateLo := 0, lateHi := 1 }
def exRaw : RawDraw :=
  { uCoords := [[0, 1/2], [3/4, 1/8], [1/3, 1/3], [1/5, 4/5]], rawDemands := [2, 3, 1, 2], uWin := [0, 1/2, 1/4, 3/4],
    uEarly := [1/2, 1/10, 0, 9/10], uLate := [1/2, 1/2, 1/3, 0] }
example : validRaw MultiCVRP.exampleCfg exGen exRaw ∧ GenOK MultiCVRP.exampleCfg 2 exGen ∧
    exGen.demandMax ≤ MultiCVRP.exampleCfg.maxCap ∧
    (generateRaw id MultiCVRP.exampleCfg 2 exGen exRaw).demands = [0, 4, 1, 3] ∧
    (generateRaw id MultiCVRP.exampleCfg 2 exGen exRaw).coords = [[0, 5], [15/2, 5/4], [10/3, 10/3], [2, 8]] := by
  decide +kernel
end Props.C10

namespace Props.C11
/-- a step that does not end the episode increments the counter and leaves it within
`2·num_customers`; the reset state has counter 1, so by induction an episode lasts at most `2·num_customers`
steps (within the `2n + 1` of DESIGN.md section 6; the episode form is not stated as a theorem for MultiCVRP) -/
theorem multicvrp_progress (rnd : Rat → Rat) (c : Cfg) (D : Dist) (s : State) (a : List Nat)
    (h : (step rnd c D s a).2.stepType ≠ .last) :
    (step rnd c D s a).1.stepCount = s.stepCount + 1 ∧
    (step rnd c D s a).1.stepCount ≤ 2 * c.numCustomers := MultiCVRP.progress rnd c D s a h

/-- … and the step taken at counter `≥ 2·num_customers` is always LAST -/
theorem multicvrp_last_at_limit (rnd : Rat → Rat) (c : Cfg) (D : Dist) (s : State) (a : List Nat)
    (h : 2 * c.numCustomers ≤ s.stepCount) : (step rnd c D s a).2.stepType = .last := by
  rw [MultiCVRP.step_last_iff]
  exact Bool.or_eq_true_iff.2 (.inr ((MultiCVRP.timedOut_step ..).trans (decide_eq_true h)))
end Props.C11

namespace Props.C12
/-- the observation is the documented function of the successor state (problem data copied, vehicle
coordinates looked up from the positions, `action_mask` = table of legal (vehicle, node) pairs).
PARTIAL: entries `≤ num_customers` only (`hr`); false for the in-spec value `num_customers + 1`
(`Props.C05.multicvrp_spec_max_witness`) -/
theorem multicvrp_obs_faithful_partial (rnd : Rat → Rat) (c : Cfg) (D : Dist) (s : State) (a : List Nat)
    (hl : a.length = s.capacities.length) (hr : ∀ x ∈ a, x < s.demands.length)
    (hc : s.coords.length = s.demands.length) :
    (step rnd c D s a).2.obs = observe (step rnd c D s a).1 :=
  MultiCVRP.obs_faithful rnd c D s a hl hr hc
/-- the observation returned by `reset` is the documented function of the reset state, for every configuration,
number of vehicles and draw -/
theorem multicvrp_reset_obs_faithful (c : Cfg) (nV : Nat) (demandMax : Int) (windowLen : Rat) (d : Draw) :
    (reset c nV demandMax windowLen d).2.obs = observe (reset c nV demandMax windowLen d).1 :=
  MultiCVRP.reset_obs_faithful c nV demandMax windowLen d
end Props.C12
