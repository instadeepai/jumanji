/-
Property theorems for Connector (all grid sizes `n`, all agent counts `k`, all states).
Whole-episode theorems are stated over `traceL1` / `finalL1`, the trace of the implementation model `step`;
`connector_trace_eq` says it is the trace of the rules.  The first group of theorems only needs the grid to be `n × n`
(`Grid.shaped s.grid n n`) and, where an agent's own cells are rewritten, its stored position inside the grid;
joint actions are in-spec (`0 ≤ a ≤ 4` for every agent).  The second group ("Theorems from `Consistent`")
works from `Consistent n k s` and an in-spec joint action of length `k > 0`: the full refinement
`stepAgents = stepAgentsL2` / `step = stepL2` (max-join + correction mask = "highest id wins"), the preservation
of `Consistent` and `Feasible` by `step`, and the meaning of the certificate `solvedBoardB` (driver key
`walk_board_solvable`).  The same
predicates are also evaluated by the driver on every implementation transition (`l2_agrees`, `consistent`,
`feasible`, `walk_board_solvable`).
-/
import JumanjiModel.Env.Connector.Lemmas
import JumanjiModel.Env.Connector.Bounds
import JumanjiModel.Env.Connector.SolvableLemmas
import JumanjiModel.Env.Connector.EpisodeLemmas
import JumanjiModel.Env.Connector.TraceLemmas
import JumanjiModel.Env.Connector.WalkSolvedLemmas
import JumanjiModel.Env.Connector.SpecValid
open Jm Jx Connector

namespace Props.C04
/-- per agent: the mask bit of action `a` of agent `i` is set exactly when the rules allow the action (no-op
always; a move iff the neighbouring cell is inside the grid and empty or the agent's own target, and the
agent is not connected) -/
theorem connector_mask_iff_legal (n : Nat) (s : State) (h : Grid.shaped s.grid n n = true) (i a : Nat)
    (hi : i < s.agents.length) (ha : a < 5) :
    ((actionMask s.grid s.agents).getD i []).getD a false = true ↔ legal n s i a :=
  Connector.mask_iff_legal s h i a hi ha

/-- the environment's own reaction (`_step_agent`): the agent's tentative move is made exactly when the action
is a legal move; otherwise agent and grid are returned untouched -/
theorem connector_step_agrees (n : Nat) (g : Grid Int) (h : Grid.shaped g n n = true) (ag : Agent) (a : Nat)
    (ha : a < 5) :
    stepAgent g ag (a : Int) =
      if a ≠ 0 ∧ ∃ d, dir a = some d ∧ canEnter n g ag (ag.position.1 + d.1, ag.position.2 + d.2)
      then moveAgent ag g (movePosition ag.position (a : Int)) else (ag, g) := Connector.stepAgent_eq h ag a ha

example : legal 3 ⟨[[2, 0, 3], [0, 0, 0], [5, 0, 6]], 0, [⟨0, (0, 0), (0, 2), (0, 0)⟩, ⟨1, (2, 0), (2, 2), (2, 0)⟩]⟩ 0 2 ∧
    ¬ legal 3 ⟨[[2, 0, 3], [0, 0, 0], [5, 0, 6]], 0, [⟨0, (0, 0), (0, 2), (0, 0)⟩, ⟨1, (2, 0), (2, 2), (2, 0)⟩]⟩ 0 1 := by
  decide +kernel

/-- REACTION OF THE JOINT STEP, agent by agent (consistent state, in-spec joint action): agent `i` with action `a`
ends on the cell it asked for, `movePosition position a`, if `a` is a move (`a ≠ 0`) that is legal by the rules AND
no agent with a higher index asks for the same cell with a legal move (`outranked`); in every other case its record
is exactly what it was (illegal move, no-op, or outranked: it stays) -/
theorem connector_step_reaction (cfg : Cfg) (s : State) (acts : List Int) (hc : Consistent cfg.n cfg.k s)
    (hk : 0 < cfg.k) (hlen : acts.length = cfg.k) (hspec : ∀ a ∈ acts, 0 ≤ a ∧ a ≤ 4) {i : Nat} {ag : Agent} {a : Int}
    (hag : s.agents[i]? = some ag) (ha : acts[i]? = some a) :
    ((a ≠ 0 ∧ legalInt cfg.n s i a = true ∧ ¬ Connector.outranked cfg.n s acts i (movePosition ag.position a)) →
      (step cfg s acts).1.agents[i]? = some { ag with position := movePosition ag.position a }) ∧
    (¬ (a ≠ 0 ∧ legalInt cfg.n s i a = true ∧ ¬ Connector.outranked cfg.n s acts i (movePosition ag.position a)) →
      (step cfg s acts).1.agents[i]? = some ag) :=
  Connector.step_reaction cfg s acts hc hk hlen hspec hag ha

/-- … as an equivalence, for an agent asking for a move -/
theorem connector_step_reaction_iff (cfg : Cfg) (s : State) (acts : List Int) (hc : Consistent cfg.n cfg.k s)
    (hk : 0 < cfg.k) (hlen : acts.length = cfg.k) (hspec : ∀ a ∈ acts, 0 ≤ a ∧ a ≤ 4) {i : Nat} {ag : Agent} {a : Int}
    (hag : s.agents[i]? = some ag) (ha : acts[i]? = some a) (hne : a ≠ 0) :
    (step cfg s acts).1.agents[i]? = some { ag with position := movePosition ag.position a } ↔
      (legalInt cfg.n s i a = true ∧ ¬ Connector.outranked cfg.n s acts i (movePosition ag.position a)) := by
  obtain ⟨r1, r2⟩ := step_reaction cfg s acts hc hk hlen hspec hag ha
  refine (Jx.reacted r1 r2 ?_).1.trans (and_iff_right hne)
  -- a move changes the position
  have sp := hspec a (List.mem_of_getElem? ha)
  have : a = 1 ∨ a = 2 ∨ a = 3 ∨ a = 4 := by omega
  intro e
  have epos := congrArg Agent.position (Option.some.inj e)
  simp only at epos
  have e1 := congrArg Prod.fst epos
  have e2 := congrArg Prod.snd epos
  rcases this with rfl | rfl | rfl | rfl <;> simp [movePosition] at e1 e2 <;> omega

/-- `Connector.outranked`, of `connector_step_reaction` above, unfolded -/
theorem connector_outranked_iff (n : Nat) (s : State) (acts : List Int) (i : Nat) (p : Pos) :
    Connector.outranked n s acts i p ↔
      ∃ (j : Nat) (agj : Agent) (aj : Int), i < j ∧ s.agents[j]? = some agj ∧ acts[j]? = some aj ∧ aj ≠ 0 ∧
        legalInt n s j aj = true ∧ movePosition agj.position aj = p := Iff.rfl

/-- the three-way contest for (1,1) (consistent, see C09): all three moves are legal, agent 2 gets the cell, agents
0 and 1 are outranked and stay -/
example :
    let s : State := ⟨[[0, 2, 0, 0], [5, 0, 8, 0], [0, 0, 0, 0], [3, 6, 9, 0]], 0,
      [⟨0, (0, 1), (3, 0), (0, 1)⟩, ⟨1, (1, 0), (3, 1), (1, 0)⟩, ⟨2, (1, 2), (3, 2), (1, 2)⟩]⟩
    legalInt 4 s 0 3 = true ∧ legalInt 4 s 1 2 = true ∧ legalInt 4 s 2 4 = true ∧
    ((step ⟨4, 3, 50, 1, -3/100⟩ s [3, 2, 4]).1.agents.map (·.position)) = [(0, 1), (1, 0), (1, 1)] := by decide +kernel
end Props.C04

namespace Props.C05
/-- an illegal move is ignored: the whole step (successor state, reward, discount, step type, observation) is
the step in which every offending agent plays the no-op instead — nothing is moved or marked on its behalf
and the other agents are not affected -/
theorem connector_illegal_ignored (cfg : Cfg) (s : State) (h : Grid.shaped s.grid cfg.n cfg.n = true)
    (acts : List Int) (hspec : ∀ a ∈ acts, 0 ≤ a ∧ a ≤ 4) :
    step cfg s acts = step cfg s (sanitize cfg.n s acts) := by
  unfold step stepAgents
  rw [stepEach_sanitize h acts hspec]

/-- only the offending agent is frozen: its record (id, start, target, position) is unchanged -/
theorem connector_illegal_frozen (cfg : Cfg) (s : State) (h : Grid.shaped s.grid cfg.n cfg.n = true)
    (acts : List Int) {i : Nat} {ag : Agent} {a : Int} (hi : i < cfg.k) (hag : s.agents[i]? = some ag)
    (ha : acts[i]? = some a) (h0 : 0 ≤ a) (h4 : a ≤ 4) (hl : legalInt cfg.n s i a = false) :
    (step cfg s acts).1.agents[i]? = some ag := by
  have := step_agent_cases cfg s acts hi hag ha
  rwa [stepAgent_of_illegal h hag a h0 h4 hl, or_self] at this
end Props.C05

namespace Props.C06
/-- the executable feasibility test used by the driver is sound: if it accepts, the agent's path cells really
are a route (chain of 4-adjacent, pairwise different cells inside the grid, all inner cells holding the agent's
path value, using every path cell) from its start to its head -/
theorem connector_route_sound (n : Nat) (g : Grid Int) (ag : Agent) (h : agentRouteB n g ag = true) :
    (ag.start = ag.position ∧ countVal g (pathVal ag.id) = 0) ∨
    ∃ r, isRoute n g (pathVal ag.id) ag.start ag.position (countVal g (pathVal ag.id) - 1) r = true :=
  Connector.agentRoute_sound n g ag h

example : feasibleB 3 2 ⟨[[1, 1, 3], [0, 2, 0], [5, 0, 6]], 2,
    [⟨0, (0, 0), (0, 2), (1, 1)⟩, ⟨1, (2, 0), (2, 2), (2, 0)⟩]⟩ = true := by decide +kernel
end Props.C06

namespace Props.C07
/-- whatever the joint action, an agent either stays exactly as it is or makes the move it asked for — only
its position changes, by one cell, and only if the environment's own test accepted the destination
(inside the grid, empty or own target, agent not connected) -/
theorem connector_stay_or_move (cfg : Cfg) (s : State) (acts : List Int) {i : Nat} {ag : Agent} {a : Int}
    (hi : i < cfg.k) (hag : s.agents[i]? = some ag) (ha : acts[i]? = some a) :
    (step cfg s acts).1.agents[i]? = some ag ∨
    ((step cfg s acts).1.agents[i]? = some { ag with position := movePosition ag.position a } ∧
      isValidPosition s.grid ag (movePosition ag.position a) = true ∧ a ≠ 0) :=
  Connector.stay_or_move cfg s acts hi hag ha
end Props.C07

namespace Props.C08
/-- the reward of a step is the documented dense reward, per agent: `connected_reward` if it connects in this
step plus `timestep_reward` if it started the step unconnected -/
theorem connector_step_reward (cfg : Cfg) (s : State) (acts : List Int) :
    (step cfg s acts).2.reward = List.zipWith (rewardL2 cfg) s.agents (step cfg s acts).1.agents :=
  Connector.step_reward cfg s acts

/-- "connected" is monotone: a connected agent never moves again -/
theorem connector_connected_frozen (cfg : Cfg) (s : State) (acts : List Int) {i : Nat} {ag : Agent} {a : Int}
    (hi : i < cfg.k) (hag : s.agents[i]? = some ag) (ha : acts[i]? = some a) (hc : isConnected ag) :
    (step cfg s acts).1.agents[i]? = some ag := Connector.connected_frozen cfg s acts hi hag ha hc

end Props.C08

namespace Props.C09
/-- refinement, per agent: the tentative step of one agent (`_step_agent`, scatter with JAX index semantics) is
the rule-level single move: a legal move puts the head on the destination and turns the old head cell into
path, anything else changes nothing -/
theorem connector_step_agent_eq_rules (n : Nat) (g : Grid Int) (h : Grid.shaped g n n = true) (ag : Agent)
    (a : Nat) (ha : a < 5) (hp : inGrid n ag.position) :
    stepAgent g ag (a : Int) =
      match proposal n g ag (a : Int) with
      | none => (ag, g)
      | some p => (moved ag (some p), setCell (setCell g p (posVal ag.id)) ag.position (pathVal ag.id)) :=
  Connector.stepAgent_eq_rules h ag a ha hp

/-- the collision rule of the reference model: lower id yields … -/
theorem connector_lower_id_yields (props : List (Option Pos)) {i j : Nat} {p : Pos} (hij : i < j)
    (hj : props[j]? = some (some p)) (hi : props[i]? = some (some p)) : wins props i = none := by
  cases h : wins props i with
  | none => rfl
  | some q =>
    obtain ⟨h1, h2⟩ := (Connector.wins_some_iff _ _ _).1 h
    obtain rfl : p = q := Option.some.inj (Option.some.inj (hi.symm.trans h1))
    exact absurd hj (h2 j hij)

/-- … and the highest id asking for a cell gets it -/
theorem connector_highest_id_wins (props : List (Option Pos)) {i : Nat} {p : Pos}
    (hi : props[i]? = some (some p)) (hno : ∀ j, i < j → props[j]? ≠ some (some p)) : wins props i = some p :=
  Connector.wins_highest props hi hno

/-- a three-way contest for the cell (1,1): L1 (max-join + correction mask) and the rules agree, agent 2 wins -/
example :
    let s : State := ⟨[[0, 2, 0, 0], [5, 0, 8, 0], [0, 0, 0, 0], [3, 6, 9, 0]], 0,
      [⟨0, (0, 1), (3, 0), (0, 1)⟩, ⟨1, (1, 0), (3, 1), (1, 0)⟩, ⟨2, (1, 2), (3, 2), (1, 2)⟩]⟩
    stepAgents 3 s [3, 2, 4] = stepAgentsL2 4 s [3, 2, 4] ∧
    (stepAgents 3 s [3, 2, 4]).2 = [[0, 2, 0, 0], [5, 8, 7, 0], [0, 0, 0, 0], [3, 6, 9, 0]] := by decide +kernel
end Props.C09

namespace Props.C11
/-- C11: every step raises the counter by one -/
theorem connector_step_count (cfg : Cfg) (s : State) (acts : List Int) :
    (step cfg s acts).1.stepCount = s.stepCount + 1 := Connector.step_count cfg s acts

/-- a step is LAST exactly when every agent is connected or blocked in the successor state, or the step count
reaches the time limit -/
theorem connector_last_iff (cfg : Cfg) (s : State) (acts : List Int) :
    (step cfg s acts).2.stepType = .last ↔
      ((List.zipWith connectedOrBlocked (step cfg s acts).1.agents
          (actionMask (step cfg s acts).1.grid (step cfg s acts).1.agents)).all id = true ∨
       cfg.timeLimit ≤ (step cfg s acts).1.stepCount) := Connector.last_iff cfg s acts

/-- the discount vector: all zero on LAST; on MID per agent, 0 for a connected or blocked agent, else 1 -/
theorem connector_discount (cfg : Cfg) (s : State) (acts : List Int) :
    (step cfg s acts).2.discount =
      if (step cfg s acts).2.stepType = .last then List.replicate cfg.k 0
      else (List.zipWith connectedOrBlocked (step cfg s acts).1.agents
          (actionMask (step cfg s acts).1.grid (step cfg s acts).1.agents)).map (fun d => 1 - b2r d) :=
  Connector.discount_eq cfg s acts
end Props.C11

namespace Props.C12
/-- the observation returned by `step` is the observation function of the successor state -/
theorem connector_obs_faithful (cfg : Cfg) (s : State) (acts : List Int) :
    (step cfg s acts).2.obs = observeL1 (step cfg s acts).1 := Connector.obs_faithful cfg s acts

/-- … and that function is the documented one: the grid, per agent the legality of the five actions, the
step count -/
theorem connector_observe_documented (n : Nat) (s : State) (h : Grid.shaped s.grid n n = true) :
    observeL1 s = observe n s := Connector.observeL1_eq_observe s h
end Props.C12

namespace Props.C01
/-- reset: on a consistent fresh board (`Consistent n k s`: every cell value in `0..3k`, …; step count 0) the
observation handed out by `reset` has every leaf inside the interval `obsBounds cfg` lists for it:
`grid ∈ [0, 3k]` (`3k` = target value of the last agent), `action_mask ∈ [0, 1]`, `step_count ∈ [0, time_limit]`
(all inside the declared spec, whose grid maximum is `3k+1`) -/
theorem connector_reset_obs_in_bounds (cfg : Cfg) (s : State) (hc : Consistent cfg.n cfg.k s)
    (hs : s.stepCount = 0) (hT : 0 ≤ cfg.timeLimit) :
    ObsInBounds (obsBounds cfg) (resetTs cfg s).obs := Connector.reset_obs_in_bounds cfg s hc hs hT

/-- step: for EVERY state (no invariant on grid or agents is needed) whose step count lies in `[0, time_limit)`
— the episode has not reached the limit; the terminal step that makes `step_count = time_limit` is included —
and for every joint action, every leaf of the observation is inside its interval of `obsBounds cfg` -/
theorem connector_step_obs_in_bounds (cfg : Cfg) (s : State) (acts : List Int) (h0 : 0 ≤ s.stepCount)
    (hT : s.stepCount < cfg.timeLimit) :
    ObsInBounds (obsBounds cfg) (step cfg s acts).2.obs := Connector.step_obs_in_bounds cfg s acts h0 hT

/-- the bounds list covers every leaf of the observation (the two theorems above are not vacuous) -/
theorem connector_obs_bounds_cover (cfg : Cfg) (o : Obs) :
    (obsLeaves o).map (·.1) = (obsBounds cfg).map (·.1) := rfl

/-- the grid bound is attained (the board below, consistent by the second example, holds `6 = 3k`); the step-count bound is attained on the terminal step: with `time_limit = 1` the first step emits
`step_count = 1 = time_limit` -/
example : (step ⟨3, 2, 1, 1, -3/100⟩ ⟨[[2, 0, 3], [0, 0, 0], [5, 0, 6]], 0,
    [⟨0, (0, 0), (0, 2), (0, 0)⟩, ⟨1, (2, 0), (2, 2), (2, 0)⟩]⟩ [2, 0]).2.obs.stepCount = 1 := by decide +kernel
example : Consistent 3 2 ⟨[[2, 0, 3], [0, 0, 0], [5, 0, 6]], 0,
    [⟨0, (0, 0), (0, 2), (0, 0)⟩, ⟨1, (2, 0), (2, 2), (2, 0)⟩]⟩ := by decide +kernel

/-! NOTE on what the membership theorems of this section do and do not cover: the dtype tag of every leaf
is written by `toNValue` (by construction) — a wrong dtype in the real code cannot falsify `….valid (toNValue …) = true`; dtypes and
field order of the real observations are compared by the `connector.spec` / `connector.state` ops (`nvalue`: field order, shape, dtype, data) and
`jax.eval_shape` in the sweeps.  Shapes are READ OFF the value by `toNValue` (widths off the first row): see `…_obs_valid_only`. -/

/-! #### membership in the DECLARED specs: structure, shapes, dtypes and bounds -/
open Sp PzS PkS MaS

/-- the invariant behind the membership theorems (grid `n × n`, cells in `0 … 3k`, `k` agents, counter ≥ 0) is established by
BOTH generators for EVERY draw — no hypothesis on the drawn cells, so also for a boxed-in random walk (known finding CN1),
whose board is not fresh — and preserved by EVERY step: any joint action with one entry per agent, whatever the entries (in
the action space or not, legal or not), MID or LAST.  Every `Consistent` state satisfies it. -/
theorem connector_specInv_invariant (cfg : Cfg) (hk : 0 < cfg.k) :
    (∀ cells, SpecInv cfg (uniformGenerate cfg.n cfg.k cells)) ∧
    (∀ init tape, SpecInv cfg (walkGenerate cfg.n cfg.k init tape).2) ∧
    (∀ s, Consistent cfg.n cfg.k s → SpecInv cfg s) ∧
    (∀ (s : State) (acts : List Int), SpecInv cfg s → acts.length = cfg.k → SpecInv cfg (step cfg s acts).1) :=
  ⟨Connector.uniform_specInv cfg, Connector.walk_specInv cfg, Connector.specInv_of_consistent cfg,
   fun s acts h ha => Connector.step_specInv cfg hk s h acts ha⟩

/-- the `reset` observation is accepted by `observation_spec.validate` for EVERY draw of either generator (all sizes `n ≥ 1`,
`k ≥ 1`, `time_limit ≥ 0`).  NOTE: `0 ≤ time_limit` suffices for the RESET observation only; the step theorems
below need `step_count < time_limit`, i.e. `0 < time_limit`.  `Connector.__init__` accepts `time_limit = 0`, and there the
first step's observation is NOT a member: `connector_time_limit_zero_witness`, `connector_time_limit_zero_step_obs_not_valid`. -/
theorem connector_reset_obs_valid (cfg : Cfg) (hn : 0 < cfg.n) (hk : 0 < cfg.k) (hT : 0 ≤ cfg.timeLimit) :
    (∀ cells, (obsSpec cfg).valid (toNValue (resetTs cfg (uniformGenerate cfg.n cfg.k cells)).obs) = true) ∧
    (∀ init tape, (obsSpec cfg).valid (toNValue (resetTs cfg (walkGenerate cfg.n cfg.k init tape).2).obs) = true) :=
  ⟨fun cells => Connector.reset_obs_valid cfg hn hk hT _ (Connector.uniform_specInv cfg cells) rfl,
   fun init tape => Connector.reset_obs_valid cfg hn hk hT _ (Connector.walk_specInv cfg init tape) rfl⟩

/-- … and on any state satisfying the invariant with counter 0 -/
theorem connector_reset_obs_valid_of_inv (cfg : Cfg) (hn : 0 < cfg.n) (hk : 0 < cfg.k) (hT : 0 ≤ cfg.timeLimit) (s : State)
    (h : SpecInv cfg s) (h0 : s.stepCount = 0) : (obsSpec cfg).valid (toNValue (resetTs cfg s).obs) = true :=
  Connector.reset_obs_valid cfg hn hk hT s h h0

/-- the observation of EVERY `step` — any joint action with one entry per agent (legal or not, in the action space or not),
MID or LAST — from every state with the invariant whose counter has not reached the limit -/
theorem connector_step_obs_valid (cfg : Cfg) (hn : 0 < cfg.n) (hk : 0 < cfg.k) (s : State) (h : SpecInv cfg s)
    (hlim : s.stepCount < cfg.timeLimit) (acts : List Int) (ha : acts.length = cfg.k) :
    (obsSpec cfg).valid (toNValue (step cfg s acts).2.obs) = true :=
  Connector.step_obs_valid cfg hn hk s h hlim acts ha

example : SpecInv ⟨3, 2, 6, 1, -3/100⟩ ⟨[[2, 0, 3], [0, 0, 0], [5, 0, 6]], 0,
    [⟨0, (0, 0), (0, 2), (0, 0)⟩, ⟨1, (2, 0), (2, 2), (2, 0)⟩]⟩ := by decide +kernel

/-- WHOLE EPISODES: along the rollout (`Ep.rollout` = the L1 step iterated) of ANY joint actions from any state with the
invariant and counter 0 (the reset state of ANY draw of either generator), every observation emitted by one of the first
`time_limit` steps is a member of the spec.  The episode is over by then (`Props.C11.connector_rollout_ends_by_limit` in
Props/EpisodeInstances.lean: there is a first LAST timestep at or before step `time_limit`), so this covers every observation
of every episode up to and including the terminal one; the composed statement is `Props.C01.connector_episode_obs_valid` in
the same file. -/
theorem connector_rollout_obs_valid (cfg : Cfg) (hn : 0 < cfg.n) (hk : 0 < cfg.k) (s0 : State) (h : SpecInv cfg s0)
    (h0 : s0.stepCount = 0) (as : List (List Int)) (has : ∀ a ∈ as, a.length = cfg.k) (j : Nat)
    (hj : (j : Int) < cfg.timeLimit) (e : State × TimeStep Obs) (he : (Ep.rollout (step cfg) s0 as)[j]? = some e) :
    (obsSpec cfg).valid (toNValue e.2.obs) = true :=
  Connector.rollout_obs_valid cfg hn hk s0 h h0 as has j hj e he

/-- `connector_rollout_obs_valid` from the reset state of either generator, for every draw -/
theorem connector_obs_valid_along (cfg : Cfg) (hn : 0 < cfg.n) (hk : 0 < cfg.k) (init : List (Int × Int))
    (tape : List (List Int)) (cells : List Nat) (as : List (List Int)) (has : ∀ a ∈ as, a.length = cfg.k) (j : Nat)
    (hj : (j : Int) < cfg.timeLimit) (e : State × TimeStep Obs) :
    ((Ep.rollout (step cfg) (walkGenerate cfg.n cfg.k init tape).2 as)[j]? = some e →
      (obsSpec cfg).valid (toNValue e.2.obs) = true) ∧
    ((Ep.rollout (step cfg) (uniformGenerate cfg.n cfg.k cells) as)[j]? = some e →
      (obsSpec cfg).valid (toNValue e.2.obs) = true) :=
  ⟨Connector.rollout_obs_valid cfg hn hk _ (Connector.walk_specInv cfg init tape) rfl as has j hj e,
   Connector.rollout_obs_valid cfg hn hk _ (Connector.uniform_specInv cfg cells) rfl as has j hj e⟩

/-- what membership means (so the theorems above are not hollow): `validate` accepts an observation ONLY IF the grid is
`(n, n)` with `n²` cells in `0 … 3k + 1`, the mask `(k, 5)` and the counter in `[0, time_limit]`.  CAVEAT:
`shape2` reads the width off the FIRST row, so `(n, n)` here means "n rows, first row of length n, n² cells in total" — a ragged
value with the right total is a member.  Rectangularity (`Rect2 grid n n`, `Rect2 mask k 5`) is part of `SpecInv` / proved of
every emitted observation: `connector_step_obs_rect` below. -/
theorem connector_obs_valid_only (cfg : Cfg) (o : Obs) (h : (obsSpec cfg).valid (toNValue o) = true) :
    shape2 o.grid = [cfg.n, cfg.n] ∧ (List.flatten o.grid).length = cfg.n * cfg.n ∧
    (∀ v ∈ List.flatten o.grid, 0 ≤ v ∧ v ≤ 3 * (cfg.k : Int) + 1) ∧
    shape2 o.actionMask = [cfg.k, 5] ∧ o.actionMask.flatten.length = cfg.k * 5 ∧
    0 ≤ o.stepCount ∧ o.stepCount ≤ cfg.timeLimit := Connector.obs_valid_only cfg o h

/-- the rectangular facts `valid ∘ toNValue` does not imply, for every step observation -/
theorem connector_step_obs_rect (cfg : Cfg) (hk : 0 < cfg.k) (s : State) (h : SpecInv cfg s)
    (hlim : s.stepCount < cfg.timeLimit) (acts : List Int) (ha : acts.length = cfg.k) :
    Rect2 (step cfg s acts).2.obs.grid cfg.n cfg.n ∧
    (∀ r ∈ (step cfg s acts).2.obs.grid, ∀ v ∈ r, 0 ≤ v ∧ v ≤ 3 * (cfg.k : Int) + 1) ∧
    Rect2 (step cfg s acts).2.obs.actionMask cfg.k 5 ∧
    0 ≤ (step cfg s acts).2.obs.stepCount ∧ (step cfg s acts).2.obs.stepCount ≤ cfg.timeLimit := by
  rw [Connector.obs_faithful]
  exact Connector.observeL1_ok cfg _ (Connector.step_specInv cfg hk s h acts ha)
    (by rw [Connector.step_count]; omega)

/-- positive: the reset observation of a board; negative: a counter beyond the limit, a cell value `3k + 2`, the observation of
a board of another size, a mask with a missing row -/
example :
    let cfg : Cfg := ⟨3, 2, 6, 1, -3/100⟩
    let s : State := ⟨[[2, 0, 3], [0, 0, 0], [5, 0, 6]], 0, [⟨0, (0, 0), (0, 2), (0, 0)⟩, ⟨1, (2, 0), (2, 2), (2, 0)⟩]⟩
    (obsSpec cfg).valid (toNValue (resetTs cfg s).obs) = true ∧
    (obsSpec cfg).valid (toNValue { (resetTs cfg s).obs with stepCount := 7 }) = false ∧
    (obsSpec cfg).valid (toNValue { (resetTs cfg s).obs with grid := [[2, 0, 3], [0, 8, 0], [5, 0, 6]] }) = false ∧
    (obsSpec ⟨4, 2, 6, 1, -3/100⟩).valid (toNValue (resetTs cfg s).obs) = false ∧
    (obsSpec cfg).valid (toNValue { (resetTs cfg s).obs with actionMask := [[true, true, true, true, true]] }) = false := by
  decide +kernel

/-! #### `time_limit = 0` is accepted by the constructor and is a real C01 violation -/

/-- WITNESS: `Connector(time_limit=0)` (model: 3×3 board, 2 agents): the reset observation is a member of the declared spec, the
first step (all no-ops) is LAST and its observation (`step_count = 1`, declared bounds `[0, 0]`) is NOT a member.  Real code:
`validate` raises "Values were not all within bounds 0 <= 1 <= 0 for spec step_count". -/
theorem connector_time_limit_zero_witness :
    let cfg : Cfg := ⟨3, 2, 0, 1, -3/100⟩
    let s : State := uniformGenerate 3 2 [0, 6, 2, 8]
    (obsSpec cfg).valid (toNValue (resetTs cfg s).obs) = true ∧
    (step cfg s [0, 0]).2.stepType = .last ∧
    (obsSpec cfg).valid (toNValue (step cfg s [0, 0]).2.obs) = false := by decide +kernel

/-- … for ALL sizes, ALL states with a non-negative counter (every reset state) and ANY joint action: with `time_limit ≤ 0`
the observation of the step is rejected by the declared spec — `0 < time_limit` in the step theorems is necessary -/
theorem connector_time_limit_zero_step_obs_not_valid (cfg : Cfg) (h0 : cfg.timeLimit ≤ 0) (s : State)
    (hs : 0 ≤ s.stepCount) (acts : List Int) :
    (obsSpec cfg).valid (toNValue (step cfg s acts).2.obs) = false := by
  cases hv : (obsSpec cfg).valid (toNValue (step cfg s acts).2.obs) with
  | false => rfl
  | true =>
    obtain ⟨_, _, _, _, _, _, h⟩ := obs_valid_only cfg _ hv
    rw [step_obs_stepCount] at h
    omega

/-- reward and discount of EVERY step from a state with `k` agents (any joint action of length `k`) and of `reset` are accepted
by `reward_spec` (Array((k,), float)) and `discount_spec` (BoundedArray((k,), float, 0, 1)) -/
theorem connector_reward_discount_valid (cfg : Cfg) (s : State) (hl : s.agents.length = cfg.k) (acts : List Int)
    (ha : acts.length = cfg.k) (s0 : State) :
    (rewardSpec cfg).valid (vecArr (step cfg s acts).2.reward) = true ∧
    (discountSpec cfg).valid (vecArr (step cfg s acts).2.discount) = true ∧
    (rewardSpec cfg).valid (vecArr (resetTs cfg s0).reward) = true ∧
    (discountSpec cfg).valid (vecArr (resetTs cfg s0).discount) = true :=
  ⟨(Connector.step_reward_discount_valid cfg s hl acts ha).1, (Connector.step_reward_discount_valid cfg s hl acts ha).2,
   (Connector.reset_reward_discount_valid cfg s0).1, (Connector.reset_reward_discount_valid cfg s0).2⟩

/-- `action_spec.generate_value()` = the all-no-op joint action: the action spec is well-formed, the generated value is a
member, and `step` answers it from every state with the invariant (counter below the limit) with a non-FIRST timestep whose
observation, reward and discount are members of their specs -/
theorem connector_accepts_generate_value (cfg : Cfg) (hn : 0 < cfg.n) (hk : 0 < cfg.k) (s : State) (h : SpecInv cfg s)
    (hlim : s.stepCount < cfg.timeLimit) :
    (actionSpec cfg).WF = true ∧ (actionSpec cfg).valid (actionSpec cfg).generate = true ∧
    (actionSpec cfg).generate = actionArr (List.replicate cfg.k 0) ∧
    (obsSpec cfg).valid (toNValue (step cfg s (List.replicate cfg.k 0)).2.obs) = true ∧
    (rewardSpec cfg).valid (vecArr (step cfg s (List.replicate cfg.k 0)).2.reward) = true ∧
    (discountSpec cfg).valid (vecArr (step cfg s (List.replicate cfg.k 0)).2.discount) = true ∧
    (step cfg s (List.replicate cfg.k 0)).2.stepType ≠ .first :=
  Connector.accepts_generate_value cfg hn hk s h hlim

/-- membership in `action_spec` is "one entry per agent, each one of 0 … 4" -/
theorem connector_action_spec_iff (cfg : Cfg) (as : List Int) :
    (actionSpec cfg).valid (actionArr as) = true ↔ as.length = cfg.k ∧ ∀ a ∈ as, 0 ≤ a ∧ a < 5 :=
  actionSpecN_valid_iff cfg.k 5 as
end Props.C01

/-! ## Theorems from `Consistent` -/

namespace Props.C09
/-- FULL REFINEMENT, agents and grid: on a consistent state and an in-spec joint action (one action `0..4` per agent) the
simultaneous step of the implementation — every agent steps on its own copy of the grid, the copies are joined
with `max`, agents whose head disappeared are reset by the correction mask — equals the rule-level step: every
agent proposes the cell of a legal move, the highest id asking for a cell gets it, the winners' moves are applied
one after the other -/
theorem connector_step_agents_eq_rules (n k : Nat) (s : State) (acts : List Int) (hc : Consistent n k s)
    (hk : 0 < k) (hlen : acts.length = k) (hspec : ∀ a ∈ acts, 0 ≤ a ∧ a ≤ 4) :
    stepAgents k s acts = stepAgentsL2 n s acts :=
  Connector.stepAgents_eq_L2 ⟨(Connector.consistent_iff n k s).1 hc, hk, hlen, hspec⟩

/-- FULL REFINEMENT, the whole step: successor state, reward, discount, step type and observation of `step`
(L1, the transliteration) are those of `stepL2` (the rules) -/
theorem connector_step_eq_rules (cfg : Cfg) (s : State) (acts : List Int) (hc : Consistent cfg.n cfg.k s)
    (hk : 0 < cfg.k) (hlen : acts.length = cfg.k) (hspec : ∀ a ∈ acts, 0 ≤ a ∧ a ≤ 4) :
    step cfg s acts = stepL2 cfg s acts := Connector.step_eq_stepL2 cfg s acts hc hk hlen hspec

/-- FULL REFINEMENT, whole episodes: the states an episode of the implementation model passes through (`traceL1`,
the iterated `step`) are the states the rules produce (`traceL2`, the iterated `stepL2`), for every episode of
in-spec joint actions from a consistent state -/
theorem connector_trace_eq (cfg : Cfg) (hk : 0 < cfg.k) (actss : List (List Int))
    (hspec : ∀ acts ∈ actss, acts.length = cfg.k ∧ ∀ a ∈ acts, 0 ≤ a ∧ a ≤ 4) (s0 : State)
    (hc : Consistent cfg.n cfg.k s0) : traceL1 cfg s0 actss = traceL2 cfg s0 actss :=
  Connector.trace_eq cfg hk actss hspec s0 hc

/-- the hypotheses are satisfiable (the three-way contest above) … -/
example : Consistent 4 3 ⟨[[0, 2, 0, 0], [5, 0, 8, 0], [0, 0, 0, 0], [3, 6, 9, 0]], 0,
    [⟨0, (0, 1), (3, 0), (0, 1)⟩, ⟨1, (1, 0), (3, 1), (1, 0)⟩, ⟨2, (1, 2), (3, 2), (1, 2)⟩]⟩ := by decide +kernel

/-- … and `0 < k` is needed: with no agents `jnp.max` over an empty stack has no `n × n` result in the model
(`joinGrids [] = []`) while the rules leave the grid alone (the driver rejects `num_agents = 0`) -/
example : Consistent 1 0 ⟨[[0]], 0, []⟩ ∧ stepAgents 0 ⟨[[0]], 0, []⟩ [] ≠ stepAgentsL2 1 ⟨[[0]], 0, []⟩ [] := by
  decide +kernel
end Props.C09

namespace Props.C07
/-- what `Consistent` (the Boolean recomputed from the raw arrays by the driver) says, cell by cell (`Connector.Cons`,
`Connector.AgentOK`): the head value `2+3i` of agent number `i` is at `agents.position` and nowhere else, its target value
`3+3i` at `agents.target` and nowhere else unless it is connected (then nowhere), its path value `1+3i` occurs nowhere while
it has not moved and is at its start cell otherwise; every cell holds a value in `0..3k`.  Since each cell holds one value,
cells of different agents are disjoint. -/
theorem connector_consistent_iff (n k : Nat) (s : State) : Consistent n k s ↔ Connector.Cons n k s :=
  Connector.consistent_iff n k s

/-- ANY in-spec joint action — legal or not, LAST step or not — leads from a consistent state to a consistent state -/
theorem connector_step_consistent (cfg : Cfg) (s : State) (acts : List Int) (hc : Consistent cfg.n cfg.k s)
    (hk : 0 < cfg.k) (hlen : acts.length = cfg.k) (hspec : ∀ a ∈ acts, 0 ≤ a ∧ a ≤ 4) :
    Consistent cfg.n cfg.k (step cfg s acts).1 := Connector.step_consistent cfg s acts hc hk hlen hspec

/-- C07 occupancy conservation: ANY in-spec joint action from a consistent state satisfies the occupancy bookkeeping
the driver evaluates on every implementation transition (`conservedB`): no occupied cell is freed or changes owner,
every agent keeps its identity and stays or moves to a 4-neighbour, and the number of occupied cells grows by
exactly one for every agent that moved onto an empty cell -/
theorem connector_step_conserved (cfg : Cfg) (s : State) (acts : List Int) (hc : Consistent cfg.n cfg.k s)
    (hk : 0 < cfg.k) (hlen : acts.length = cfg.k) (hspec : ∀ a ∈ acts, 0 ≤ a ∧ a ≤ 4) :
    conservedB s (step cfg s acts).1 = true := by
  have x := ctx_of hc hk hlen hspec
  rw [step_next cfg x]
  have hs' : Grid.shaped (applyMoves s.grid (awOf cfg.n s acts)) cfg.n cfg.n = true :=
    shaped_applyMoves x.cons.shaped _
  unfold conservedB nextL2
  rw [stepAgentsL2_eq]
  simp only [Bool.and_eq_true, decide_eq_true_eq, beq_iff_eq]
  refine ⟨⟨⟨⟨?_, ?_⟩, ?_⟩, ?_⟩, ?_⟩
  · rw [Grid.shaped_length x.cons.shaped, Grid.shaped_length hs']
  · apply rows_all_of_cell _ x.cons.shaped hs'
    intro q hq
    simp only [Bool.or_eq_true, Bool.and_eq_true, beq_iff_eq, bne_iff_ne, ne_eq]
    rcases l2_cases x hq with ⟨i0, _, _, e, hv⟩ | ⟨j, ag, p, _, _, _, _, e, hv⟩ | ⟨_, _, e⟩
    · rw [e]
      unfold posVal tgtVal at *
      rcases hv with hv | hv
      · left; exact hv
      · right; rw [hv]; constructor <;> omega
    · rw [e, hv]
      unfold posVal pathVal
      right; constructor <;> omega
    · rw [e]
      by_cases h0 : cell s.grid q = 0
      · left; exact h0
      · right; exact ⟨h0, rfl⟩
  · have := l2_agents_length x
    rw [stepAgentsL2_eq] at this
    rw [x.cons.len, this]
  · apply (Jx.zipWith_all_get? _ _ _).2
    intro i o nw h1 h2
    have h2' : (stepAgentsL2 cfg.n s acts).1[i]? = some nw := by rw [stepAgentsL2_eq]; exact h2
    obtain ⟨ag, hag, rfl⟩ := l2_agent_get x h2'
    have e0 : ag = o := by rw [h1] at hag; exact (Option.some.inj hag).symm
    subst e0
    cases hw : wins (propsOf cfg.n s acts) i with
    | none => simp [moved]
    | some p =>
      simp [moved, (x.won h1 hw).2.2.2.2]
  · exact l2_occupied x

/-- reset, `UniformRandomGenerator`: for EVERY possible draw of `choice(replace=False)` (2k pairwise different cells
`< n²`) the generated state is consistent -/
theorem connector_uniform_reset_consistent (n k : Nat) (cells : List Nat) (h : validUniformDraw n k cells = true) :
    Consistent n k (uniformGenerate n k cells) :=
  Connector.fresh_consistent n k _ (Connector.uniform_reset_fresh n k cells h)

example : validUniformDraw 3 2 [0, 6, 2, 8] = true ∧
    uniformGenerate 3 2 [0, 6, 2, 8] = ⟨[[2, 0, 3], [0, 0, 0], [5, 0, 6]], 0,
      [⟨0, (0, 0), (0, 2), (0, 0)⟩, ⟨1, (2, 0), (2, 2), (2, 0)⟩]⟩ := by decide +kernel
end Props.C07

namespace Props.C06
/-- ANY in-spec joint action (in particular every mask-respecting one; an illegal move is a no-op by C05) leads
from a feasible state to a feasible state: the state stays consistent and every agent's path cells still form a
route from its start to its head that uses every path cell -/
theorem connector_step_feasible (cfg : Cfg) (s : State) (acts : List Int) (hf : Feasible cfg.n cfg.k s)
    (hk : 0 < cfg.k) (hlen : acts.length = cfg.k) (hspec : ∀ a ∈ acts, 0 ≤ a ∧ a ≤ 4) :
    Feasible cfg.n cfg.k (step cfg s acts).1 := Connector.step_feasible cfg s acts hf hk hlen hspec

/-- whole episodes: every state an episode of the implementation model passes through (`traceL1`, the iterated
`step`) from a feasible state under in-spec joint actions is feasible -/
theorem connector_feasible_along (cfg : Cfg) (hk : 0 < cfg.k) (actss : List (List Int))
    (hspec : ∀ acts ∈ actss, acts.length = cfg.k ∧ ∀ a ∈ acts, 0 ≤ a ∧ a ≤ 4) (s0 : State)
    (hf : Feasible cfg.n cfg.k s0) : ∀ s ∈ traceL1 cfg s0 actss, Feasible cfg.n cfg.k s := by
  rw [trace_eq cfg hk actss hspec s0 (feasible_consistent hf)]
  exact feasible_along cfg hk actss hspec s0 hf

/-- reset, `UniformRandomGenerator`: for EVERY possible draw the generated state is feasible (no path cells yet) -/
theorem connector_uniform_reset_feasible (n k : Nat) (cells : List Nat) (h : validUniformDraw n k cells = true) :
    Feasible n k (uniformGenerate n k cells) :=
  Connector.fresh_feasible n k _ (Connector.uniform_reset_fresh n k cells h)

/-- what `Feasible` means: agent number `i` owns a chain of 4-adjacent, pairwise different cells inside the grid
from its start to its head, every cell of which holds a value of agent `i` … -/
theorem connector_feasible_routes (n k : Nat) (s : State) (hf : Feasible n k s) (i : Nat) (ag : Agent)
    (hag : s.agents[i]? = some ag) : ∃ r, Connector.GoodRoute n s.grid i ag.start ag.position r :=
  Connector.feasible_routes hf hag

/-- … and such chains of different agents never share a cell -/
theorem connector_routes_disjoint (n : Nat) (g : Grid Int) (i j : Nat) (hij : i ≠ j) (a b a' b' : Pos)
    (r r' : List Pos) (h : Connector.GoodRoute n g i a b r) (h' : Connector.GoodRoute n g j a' b' r') :
    ∀ c, c ∈ r → c ∉ r' := Connector.goodRoute_disjoint hij h h'

/-- completion: if a step from a feasible state is LAST before the time limit is reached and no unconnected agent
is blocked in the successor state (every unconnected agent still has a legal move), then the successor is a
complete solution: `solutionB` holds (feasible, every agent connected) and every agent owns a chain of its own
cells from its start to its target.  (LAST before the limit means every agent is connected or blocked,
`connector_last_iff`; a blocked unconnected agent ends the episode WITHOUT a solution — see the example.) -/
theorem connector_step_complete_is_solution (cfg : Cfg) (s : State) (acts : List Int)
    (hf : Feasible cfg.n cfg.k s) (hk : 0 < cfg.k) (hlen : acts.length = cfg.k)
    (hspec : ∀ a ∈ acts, 0 ≤ a ∧ a ≤ 4) (hlast : (step cfg s acts).2.stepType = .last)
    (hlim : (step cfg s acts).1.stepCount < cfg.timeLimit)
    (hnb : ∀ (i : Nat) ag, (step cfg s acts).1.agents[i]? = some ag → ¬ isConnected ag →
      ∃ a, 1 ≤ a ∧ a ≤ 4 ∧ legal cfg.n (step cfg s acts).1 i a) :
    solutionB cfg.n cfg.k (step cfg s acts).1 = true ∧
      ∀ (i : Nat) ag, (step cfg s acts).1.agents[i]? = some ag →
        ∃ r, Connector.GoodRoute cfg.n (step cfg s acts).1.grid i ag.start ag.target r :=
  Connector.step_complete_is_solution cfg s acts hf hk hlen hspec hlast hlim hnb

/-- the hypotheses are satisfiable: the last move of a 3 × 3 episode (agent 1 steps onto its target; agent 0 is
already connected) is LAST at step count 4 < 50 and nobody is blocked … -/
example :
    let cfg : Cfg := ⟨3, 2, 50, 1, -3/100⟩
    let s : State := ⟨[[1, 1, 2], [0, 0, 0], [4, 5, 6]], 3, [⟨0, (0, 0), (0, 2), (0, 2)⟩, ⟨1, (2, 0), (2, 2), (2, 1)⟩]⟩
    feasibleB 3 2 s = true ∧ (step cfg s [0, 2]).2.stepType = .last ∧ (step cfg s [0, 2]).1.stepCount < cfg.timeLimit ∧
    solutionB 3 2 (step cfg s [0, 2]).1 = true := by decide +kernel

/-- … and the hypothesis "no blocked unconnected agent" is needed: agent 1 connects by walling agent 0 in; the step
is LAST before the limit (agent 0 blocked, agent 1 connected) and the final state is not a solution -/
example :
    let cfg : Cfg := ⟨3, 2, 50, 1, -3/100⟩
    let s : State := ⟨[[2, 4, 0], [5, 4, 0], [6, 0, 3]], 2, [⟨0, (0, 0), (2, 2), (0, 0)⟩, ⟨1, (0, 1), (2, 0), (1, 0)⟩]⟩
    feasibleB 3 2 s = true ∧ (step cfg s [0, 3]).2.stepType = .last ∧ (step cfg s [0, 3]).1.stepCount < cfg.timeLimit ∧
    solutionB 3 2 (step cfg s [0, 3]).1 = false := by decide +kernel

/-- the executable route test is also complete: it accepts exactly when there are no path cells (agent has not
moved) or a valid search output exists, i.e. the depth-first search never misses a route -/
theorem connector_route_test_iff (n : Nat) (g : Grid Int) (ag : Agent) (hs : inGrid n ag.start)
    (hp : inGrid n ag.position) :
    agentRouteB n g ag = true ↔
      (ag.start = ag.position ∧ countVal g (pathVal ag.id) = 0) ∨
      (ag.start ≠ ag.position ∧ ∃ r, Connector.validR n g (pathVal ag.id) ag.position
        (countVal g (pathVal ag.id) - 1) ag.start [ag.start] r) := Connector.agentRouteB_iff n g ag hs hp

example : solutionB 3 2 ⟨[[1, 1, 2], [0, 0, 0], [4, 4, 5]], 2,
    [⟨0, (0, 0), (0, 2), (0, 2)⟩, ⟨1, (2, 0), (2, 2), (2, 2)⟩]⟩ = true := by decide +kernel
end Props.C06

namespace Props.C10
/-- if the certificate `solvedBoardB` accepts a generated board `s` together with the solved board
recorded by `RandomWalkGenerator`, then every agent has a chain of 4-adjacent, pairwise different cells inside
the grid from its head (= start) to its target whose cells belong to it on the recorded board and are free on the
generated board (empty, or already holding the value of the recorded board); chains of different agents never
share a cell (that holds in any grid: a cell has one value).  The play itself:
`connector_walk_board_operationally_solvable`. -/
theorem connector_walk_board_solvable (n k : Nat) (s : State) (solved : Grid Int) (hc : Consistent n k s)
    (h : solvedBoardB n k s solved = true) :
    (∀ (i : Nat) ag, s.agents[i]? = some ag → ∃ r, Connector.GoodRoute n solved i ag.start ag.target r ∧
        ∀ c ∈ r, cell s.grid c = 0 ∨ cell s.grid c = cell solved c) ∧
    (∀ (i j : Nat) (a b a' b' : Pos) (r r' : List Pos), i ≠ j → Connector.GoodRoute n solved i a b r →
        Connector.GoodRoute n solved j a' b' r' → ∀ c, c ∈ r → c ∉ r') :=
  Connector.walk_board_solvable hc h

example : solvedBoardB 3 2 ⟨[[2, 0, 3], [0, 0, 0], [5, 0, 6]], 0,
    [⟨0, (0, 0), (0, 2), (0, 0)⟩, ⟨1, (2, 0), (2, 2), (2, 0)⟩]⟩ [[2, 1, 3], [0, 0, 0], [5, 4, 6]] = true := by decide +kernel

/-! ## The generators (transliterations `uniformGenerate`, `walkGenerate`; tied to the code by `connector.instance`:
`uniform_draw_valid`, `uniform_transliteration`, `walk_draw_valid`, `walk_transliteration`) -/

/-- `UniformRandomGenerator`: for EVERY possible result of `jax.random.choice(arange(n²), (2, k), replace=False)` — `2k`
pairwise different cells `< n²`, any `n`, `k` — the generated board satisfies the generator post-condition `freshB`:
consistent, step count 0, every agent on its start, starts and targets `2k` pairwise different cells, no other cell
occupied -/
theorem connector_uniform_reset_fresh (n k : Nat) (cells : List Nat) (h : validUniformDraw n k cells = true) :
    freshB n k (uniformGenerate n k cells) = true := Connector.uniform_reset_fresh n k cells h

/-- the board both generators emit (empty grid, head values scattered at `starts`, target values at `targets`) is
fresh whenever starts and targets are `2k` pairwise different cells inside the grid -/
theorem connector_emit_fresh (n k : Nat) (starts targets : List Pos) (hs : starts.length = k)
    (ht : targets.length = k) (hnd : (starts ++ targets).Nodup) (hin : ∀ p ∈ starts ++ targets, inGrid n p) :
    freshB n k (emitBoard n k starts targets) = true := Connector.emit_fresh n k starts targets hs ht hnd hin

/-- `RandomWalkGenerator`: for ALL possible draws — the start / first-move cells of `_initialize_agents` and the
whole tape of cells drawn by `_select_action` (any length; `validWalkDraw`: every draw is a possible result of
`jax.random.choice` on the transliterated `_available_cells`, and the tape ends exactly when `_continue_stepping`
fails) — in which no agent is boxed in at its start (no first-move draw is the `-1` padding; otherwise see the
witness below, known finding CN1), the emitted board is fresh -/
theorem connector_walk_reset_fresh (n k : Nat) (hk : 0 < k) (init : List (Int × Int))
    (tape : List (List Int)) (hv : validWalkDraw n k init tape = true) (hnb : ∀ d ∈ init, d.2 ≠ -1) :
    freshB n k (walkGenerate n k init tape).2 = true := by
  obtain ⟨h1, h2, h3, h4⟩ := walkInv_distinct n k _ _ _ (walk_final n k hk init tape hv hnb).1
  unfold walkGenerate
  exact emit_fresh n k _ _ h1 h2 h3 h4

/-- `RandomWalkGenerator`, the walk's own solution: under the same hypotheses (all possible draws, no boxed-in start)
the solved board `generate_board` records is accepted by the certificate `solvedBoardB` for the emitted
board (`solvedBoardB`: every agent's recorded path cells form a route from its head to its target, all inside the
grid, and every cell the recording uses is free on the emitted board).  With `connector_walk_reset_fresh` this feeds
`connector_walk_board_operationally_solvable`: every such generated board is solved by an explicit legal episode. -/
theorem connector_walk_solved_board (n k : Nat) (hk : 0 < k) (init : List (Int × Int))
    (tape : List (List Int)) (hv : validWalkDraw n k init tape = true) (hnb : ∀ d ∈ init, d.2 ≠ -1) :
    solvedBoardB n k (walkGenerate n k init tape).2 (walkGenerate n k init tape).1 = true :=
  solved_of_invF (walk_final n k hk init tape hv hnb)

/-- the hypotheses are satisfiable: a 3 × 3 walk of two agents (agent 0 starts at cell 0 and first moves to cell 1,
agent 1 starts at cell 8 and first moves to cell 7; in the first iteration both draw cell 4 and agent 1 gets it;
three iterations) -/
example : validWalkDraw 3 2 [(0, 1), (8, 7)] [[4, 4], [2, 3], [5, -1]] = true ∧
    (walkGenerate 3 2 [(0, 1), (8, 7)] [[4, 4], [2, 3], [5, -1]]).1 = [[2, 1, 1], [6, 4, 3], [0, 4, 5]] ∧
    (walkGenerate 3 2 [(0, 1), (8, 7)] [[4, 4], [2, 3], [5, -1]]).2.grid = [[2, 0, 0], [6, 0, 3], [0, 0, 5]] := by
  decide +kernel

/-- KNOWN FINDING CN1 (boxed-in start ⇒ off-grid first move): on a 3 × 3 grid agent 0 starts at (0,1), agent 1 at
(1,0), and agent 2 draws the start (0,0), whose two neighbours are now occupied: `_available_cells` is all `-1`,
`jax.random.choice` with an all-zero probability vector returns that padding `-1` as the first move, the head value
is scattered at flat index `-1` (= cell (2,2)) and the walk continues from the off-grid position (-1, 2).  All draws
are possible; the emitted board puts agent 2's head at (0,0) between the heads of agents 0 and 1: it has no legal
move, the recorded "solution" is rejected by the certificate, and the board cannot be solved although the generator
documents solvability.  (Real code: `Connector().reset(jax.random.PRNGKey(890466656))`, agent 4 walled in at (9,9).) -/
theorem connector_walk_boxed_in_witness :
    let init : List (Int × Int) := [(1, 4), (3, 6), (0, -1)]
    let tape : List (List Int) := [[7, 7, 2], [5, -1, -1]]
    let r := walkGenerate 3 3 init tape
    validWalkDraw 3 3 init tape = true ∧
    r.2.grid = [[8, 2, 9], [5, 0, 3], [0, 6, 0]] ∧ r.1 = [[8, 2, 9], [5, 1, 3], [4, 6, 7]] ∧
    solvedBoardB 3 3 r.2 r.1 = false ∧
    (([1, 2, 3, 4] : List Nat).all (fun a => !decide (legal 3 r.2 2 a))) = true := by decide +kernel

/-! ## Operational solvability and the return of the solving episode -/

/-- what a route plan is: `Connector.Plan n k s routes` (a `Prop` structure) unfolded into its fields; "free" for agent `i`
is empty or holding its own target value -/
theorem connector_plan_iff (n k : Nat) (s : State) (routes : List (List Pos)) :
    Connector.Plan n k s routes ↔
      (Connector.Cons n k s ∧ routes.length = k ∧
        (∀ (i : Nat) (ag : Agent) (r : List Pos), s.agents[i]? = some ag → routes[i]? = some r →
          r.head? = some ag.position ∧ r.getLast? = some ag.target ∧ isChain r = true ∧ r.Nodup ∧
            (∀ c ∈ r, inGrid n c) ∧ ∀ c ∈ r.tail, cell s.grid c = 0 ∨ cell s.grid c = tgtVal (i : Int)) ∧
        (∀ (i j : Nat) (r r' : List Pos), i ≠ j → routes[i]? = some r → routes[j]? = some r' → ∀ c ∈ r, c ∉ r')) := by
  constructor
  · intro P
    exact ⟨P.cons, P.len, fun i ag r hag hr => by
      have R := P.route i ag r hag hr
      exact ⟨R.head, R.last, R.chain, R.nodup, R.inG, R.free⟩, P.disj⟩
  · rintro ⟨c, l, r, d⟩
    exact ⟨c, l, fun i ag r' hag hr => by
      obtain ⟨h1, h2, h3, h4, h5, h6⟩ := r i ag r' hag hr
      exact ⟨h1, h2, h3, h4, h5, h6⟩, d⟩

/-- the accepted certificate `solvedBoardB` yields a route plan: on a generated board (`freshB`: consistent,
step count 0, nobody has moved, `2k` distinct start / target cells) whose recorded solution the certificate
`solvedBoardB` accepts, the routes read off the recorded solution (`routesOf`, the search the certificate itself
runs) form a route plan -/
theorem connector_cert_gives_plan (n k : Nat) (s : State) (solved : Grid Int) (hfresh : freshB n k s = true)
    (hcert : solvedBoardB n k s solved = true) : Connector.Plan n k s (routesOf n solved s.agents) :=
  Connector.cert_plan (Connector.fresh_consistent n k s hfresh) (Connector.fresh_start hfresh) hcert

/-- OPERATIONAL SOLVABILITY, step by step.  From ANY state with a route plan (every `n`, every `k`) play the
explicit joint-action sequence `planActs k routes`: agent 0 walks along its route one cell per step while all
others play the no-op, then agent 1, and so on.  At every step `t` of that episode (state `s` before the step,
joint action `a`; `traceL1` is the sequence of states under the implementation model `step`):
* `a` is in-spec (one action `0..4` per agent);
* every agent's action is allowed by the mask the implementation hands out (L1 `actionMask`) and legal by the rules;
* the implementation step is the rule-level step (`step = stepL2`: state, reward, discount, step type, observation);
* every agent ends exactly where its action sends it: nobody collides, nobody is refused;
* the successor state is the next state of the trace;
* the step is LAST exactly when it is the final step of the plan (completion) or the time limit is reached. -/
theorem connector_plan_playable (cfg : Cfg) (s0 : State) (routes : List (List Pos))
    (P : Connector.Plan cfg.n cfg.k s0 routes) (t : Nat) (s : State) (a : List Int)
    (hs : (traceL1 cfg s0 (planActs cfg.k routes))[t]? = some s) (ha : (planActs cfg.k routes)[t]? = some a) :
    (a.length = cfg.k ∧ ∀ x ∈ a, 0 ≤ x ∧ x ≤ 4) ∧
    (∀ j, j < cfg.k → ((actionMask s.grid s.agents).getD j []).getD (a.getD j 0).toNat false = true ∧
        legal cfg.n s j (a.getD j 0).toNat) ∧
    step cfg s a = stepL2 cfg s a ∧
    (step cfg s a).1.agents =
      List.zipWith (fun (ag : Agent) (x : Int) => { ag with position := movePosition ag.position x }) s.agents a ∧
    (traceL1 cfg s0 (planActs cfg.k routes))[t + 1]? = some (step cfg s a).1 ∧
    ((step cfg s a).2.stepType = .last ↔
      (t + 1 = (planActs cfg.k routes).length ∨ cfg.timeLimit ≤ s.stepCount + 1)) := by
  rw [(Connector.plan_trace_eq cfg s0 routes P).1] at hs ⊢
  exact Connector.plan_episode cfg s0 routes P t s a hs ha

/-- (DISREGARDING `time_limit`.)  … and the episode ends with every agent connected; if the start state is feasible (as every
generated reset state is, `connector_uniform_reset_feasible`, `connector_walk_reset_fresh`) the final state is a complete
solution -/
theorem connector_plan_solves (cfg : Cfg) (s0 : State) (routes : List (List Pos))
    (P : Connector.Plan cfg.n cfg.k s0 routes) :
    (traceL1 cfg s0 (planActs cfg.k routes)).getLast? = some (finalL1 cfg s0 (planActs cfg.k routes)) ∧
    (∀ ag ∈ (finalL1 cfg s0 (planActs cfg.k routes)).agents, isConnected ag) ∧
    (Feasible cfg.n cfg.k s0 → solutionB cfg.n cfg.k (finalL1 cfg s0 (planActs cfg.k routes)) = true) := by
  refine ⟨Connector.traceL1_getLast cfg s0 _, ?_, ?_⟩
  · rw [(Connector.plan_trace_eq cfg s0 routes P).2]; exact (Connector.plan_solves cfg s0 routes P).2
  · rw [(Connector.plan_trace_eq cfg s0 routes P).2]; exact Connector.plan_final_solution cfg s0 routes P

/-- (DISREGARDING `time_limit`: the conclusion is about `finalL1`, the state after ALL plan steps whether or not a LAST
timestep occurred on the way.)  The headline, from the certificate: every generated board accepted by
`solvedBoardB` is solved by the explicit episode `solveActs` (read off the recorded solution): all its joint
actions are in-spec, and it ends in a complete solution — feasible with every agent connected.  (Step-by-step legality,
mask, absence of collisions, L1 = L2 and LAST-by-completion are `connector_plan_playable` with the plan of
`connector_cert_gives_plan`.) -/
theorem connector_walk_board_operationally_solvable (cfg : Cfg) (s : State) (solved : Grid Int)
    (hfresh : freshB cfg.n cfg.k s = true) (hcert : solvedBoardB cfg.n cfg.k s solved = true) :
    (∀ acts ∈ solveActs cfg.n cfg.k s solved, acts.length = cfg.k ∧ ∀ a ∈ acts, 0 ≤ a ∧ a ≤ 4) ∧
    solutionB cfg.n cfg.k (finalL1 cfg s (solveActs cfg.n cfg.k s solved)) = true := by
  have P := connector_cert_gives_plan cfg.n cfg.k s solved hfresh hcert
  refine ⟨Connector.plan_spec cfg s _ P, ?_⟩
  unfold solveActs
  rw [(Connector.plan_trace_eq cfg s _ P).2]
  exact Connector.plan_final_solution cfg s _ P (Connector.fresh_feasible cfg.n cfg.k s hfresh)

/-- (DISREGARDING `time_limit` — `finalL1` keeps stepping past a LAST timestep; when the plan is longer than
`time_limit` the real episode ends unsolved, see `connector_plan_ignores_time_limit_witness`; the episode-level form under
`length ≤ time_limit` is `Props.C10.connector_plan_first_last` / `connector_walk_generated_board_solved_within_limit` in
Props/EpisodeInstances.lean.)
THE GENERATOR'S PROMISE, end to end: for every grid size, every agent count and ALL possible draws of
`RandomWalkGenerator` in which no agent is boxed in at its start (CN1 otherwise), the emitted board is solved by the
explicit in-spec episode read off the generator's own recorded solution: played on the implementation model `step`
from the emitted reset state it ends in a complete solution -/
theorem connector_walk_generated_board_solvable (cfg : Cfg) (hk : 0 < cfg.k)
    (init : List (Int × Int)) (tape : List (List Int)) (hv : validWalkDraw cfg.n cfg.k init tape = true)
    (hnb : ∀ d ∈ init, d.2 ≠ -1) :
    (∀ acts ∈ solveActs cfg.n cfg.k (walkGenerate cfg.n cfg.k init tape).2 (walkGenerate cfg.n cfg.k init tape).1,
      acts.length = cfg.k ∧ ∀ a ∈ acts, 0 ≤ a ∧ a ≤ 4) ∧
    solutionB cfg.n cfg.k (finalL1 cfg (walkGenerate cfg.n cfg.k init tape).2
      (solveActs cfg.n cfg.k (walkGenerate cfg.n cfg.k init tape).2 (walkGenerate cfg.n cfg.k init tape).1)) = true :=
  connector_walk_board_operationally_solvable cfg _ _
    (connector_walk_reset_fresh cfg.n cfg.k hk init tape hv hnb)
    (connector_walk_solved_board cfg.n cfg.k hk init tape hv hnb)

/-- the hypotheses are satisfiable: the certified 3 × 3 board above; its solving episode has four steps (agent 0
goes right twice while agent 1 waits, then agent 1 goes right twice) and ends on the recorded solution with the
heads on the targets -/
example :
    let s : State := ⟨[[2, 0, 3], [0, 0, 0], [5, 0, 6]], 0, [⟨0, (0, 0), (0, 2), (0, 0)⟩, ⟨1, (2, 0), (2, 2), (2, 0)⟩]⟩
    let solved : Grid Int := [[2, 1, 3], [0, 0, 0], [5, 4, 6]]
    let cfg : Cfg := ⟨3, 2, 50, 1, -3/100⟩
    freshB 3 2 s = true ∧ solvedBoardB 3 2 s solved = true ∧
    solveActs 3 2 s solved = [[2, 0], [2, 0], [0, 2], [0, 2]] ∧
    (finalL1 cfg s (solveActs 3 2 s solved)).grid = [[1, 1, 2], [0, 0, 0], [4, 4, 5]] := by decide +kernel

/-- … so the hypothesis `Plan` of `connector_plan_playable` / `connector_plan_solves` is satisfiable: the routes
`[(0,0),(0,1),(0,2)]` and `[(2,0),(2,1),(2,2)]` read off the recorded solution are a route plan of that board -/
example : Connector.Plan 3 2 ⟨[[2, 0, 3], [0, 0, 0], [5, 0, 6]], 0,
      [⟨0, (0, 0), (0, 2), (0, 0)⟩, ⟨1, (2, 0), (2, 2), (2, 0)⟩]⟩ [[(0, 0), (0, 1), (0, 2)], [(2, 0), (2, 1), (2, 2)]] :=
  connector_cert_gives_plan 3 2 _ [[2, 1, 3], [0, 0, 0], [5, 4, 6]] (by decide +kernel) (by decide +kernel)
end Props.C10

namespace Props.C08
/-- whole episodes, ANY in-spec joint actions from a consistent state (every `n`, `k`, every length): the rewards
agent `i` receives from the implementation model `step` add up (`returnL1`) to the documented objective —
`connected_reward` if it got connected during the episode plus `timestep_reward` for every step it started
unconnected (`hk` and the range half of `hspec` are not used, and of `hc` only the number of agents:
`Connector.episode_return_L1`) -/
theorem connector_episode_return (cfg : Cfg) (hk : 0 < cfg.k) (actss : List (List Int))
    (hspec : ∀ acts ∈ actss, acts.length = cfg.k ∧ ∀ a ∈ acts, 0 ≤ a ∧ a ≤ 4) (s0 : State)
    (hc : Consistent cfg.n cfg.k s0) (i : Nat) (hi : i < cfg.k) :
    returnL1 cfg s0 actss i = objectiveOf cfg (traceL1 cfg s0 actss) i :=
  episode_return_L1 cfg actss (fun a ha => (hspec a ha).1) s0 ((Connector.consistent_iff _ _ _).1 hc).len hi

/-- corollary for the solving episode of a route plan: every agent's return is the documented objective, which
here is the connection reward (every agent ends connected; an agent connected from the start gets none) plus the
per-step time penalty for every step it started unconnected -/
theorem connector_solving_episode_return (cfg : Cfg) (s0 : State) (routes : List (List Pos))
    (P : Connector.Plan cfg.n cfg.k s0 routes) (i : Nat) (hi : i < cfg.k) :
    returnL1 cfg s0 (planActs cfg.k routes) i = objectiveOf cfg (traceL1 cfg s0 (planActs cfg.k routes)) i ∧
    objectiveOf cfg (traceL1 cfg s0 (planActs cfg.k routes)) i =
      (if connectedAt s0 i then 0 else cfg.connectedReward) +
        cfg.timestepReward *
          ((((traceL1 cfg s0 (planActs cfg.k routes)).dropLast).filter (fun s => !connectedAt s i)).length : Nat) := by
  refine ⟨episode_return_L1 cfg _ (fun a ha => (Connector.plan_spec cfg s0 routes P a ha).1) s0 P.cons.len hi, ?_⟩
  rw [(Connector.plan_trace_eq cfg s0 routes P).1]
  exact Connector.plan_return cfg s0 routes P hi

/-- explicit value: in the solving episode agent `i` (unconnected at the start) pays the time penalty for the
steps of agents `0 … i` — agent `j` takes `|r_j| − 1` steps, one per edge of its route — and collects the connection
reward once: `return_i = connected_reward + timestep_reward · Σ_{j ≤ i} (|r_j| − 1)` -/
theorem connector_solving_episode_return_explicit (cfg : Cfg) (s0 : State) (routes : List (List Pos))
    (P : Connector.Plan cfg.n cfg.k s0 routes) (i : Nat) (hi : i < cfg.k) :
    returnL1 cfg s0 (planActs cfg.k routes) i =
      if connectedAt s0 i then 0
      else cfg.connectedReward + cfg.timestepReward *
        ((((List.range (i + 1)).map (fun j => (routes.getD j []).length - 1)).sum : Nat) : Rat) := by
  obtain ⟨h1, h2⟩ := connector_solving_episode_return cfg s0 routes P i hi
  rw [h1, h2, (Connector.plan_trace_eq cfg s0 routes P).1, openCount_eq, plan_count cfg hi s0 routes P, planFrom_length]
  simp only [Nat.zero_add]
  cases connectedAt s0 i with
  | true =>
    simp only [if_true]
    rw [show ((0 : Nat) : Rat) = 0 from rfl, Rat.mul_zero, Rat.add_zero]
  | false => simp

/-- on the 3 × 3 board: agent 0 connects after 2 steps (`1 − 2·0.03`), agent 1 after 4 (`1 − 4·0.03`) -/
example :
    let s : State := ⟨[[2, 0, 3], [0, 0, 0], [5, 0, 6]], 0, [⟨0, (0, 0), (0, 2), (0, 0)⟩, ⟨1, (2, 0), (2, 2), (2, 0)⟩]⟩
    let cfg : Cfg := ⟨3, 2, 50, 1, -3/100⟩
    returnL1 cfg s (solveActs 3 2 s [[2, 1, 3], [0, 0, 0], [5, 4, 6]]) 0 = 94/100 ∧
    returnL1 cfg s (solveActs 3 2 s [[2, 1, 3], [0, 0, 0], [5, 4, 6]]) 1 = 88/100 := by decide +kernel
end Props.C08

namespace Props.C10
/-- WITNESS that the plan theorems above disregard `time_limit`: on the certified 3×3 board with `time_limit = 2`
the 4-step solving episode meets its first LAST timestep at step 2 with the board UNSOLVED, while `finalL1` (which steps on)
reports a solution -/
theorem connector_plan_ignores_time_limit_witness :
    let s : State := ⟨[[2, 0, 3], [0, 0, 0], [5, 0, 6]], 0, [⟨0, (0, 0), (0, 2), (0, 0)⟩, ⟨1, (2, 0), (2, 2), (2, 0)⟩]⟩
    let solved : Grid Int := [[2, 1, 3], [0, 0, 0], [5, 4, 6]]
    let cfg : Cfg := ⟨3, 2, 2, 1, -3/100⟩
    Ep.firstLastTS ((Ep.rollout (step cfg) s (solveActs 3 2 s solved)).map (·.2)) = some 2 ∧
    solutionB 3 2 (finalL1 cfg s ((solveActs 3 2 s solved).take 2)) = false ∧
    solutionB 3 2 (finalL1 cfg s (solveActs 3 2 s solved)) = true := by decide +kernel
end Props.C10

namespace Props.C06
/-- feasibility along every episode from EVERY draw of the RANDOM-WALK generator in which no agent is boxed in
(the default generator of `Connector-v2`; `connector_feasible_along` composed with `connector_walk_reset_fresh`): every state
reached by ANY in-spec joint actions (legal or not) is feasible (`hn` is not used) -/
theorem connector_feasible_along_walk (cfg : Cfg) (hn : 0 < cfg.n) (hk : 0 < cfg.k) (init : List (Int × Int))
    (tape : List (List Int)) (hv : validWalkDraw cfg.n cfg.k init tape = true) (hnb : ∀ d ∈ init, d.2 ≠ -1)
    (actss : List (List Int)) (hspec : ∀ acts ∈ actss, acts.length = cfg.k ∧ ∀ a ∈ acts, 0 ≤ a ∧ a ≤ 4) :
    ∀ s ∈ traceL1 cfg (walkGenerate cfg.n cfg.k init tape).2 actss, Feasible cfg.n cfg.k s :=
  Props.C06.connector_feasible_along cfg hk actss hspec _
    (Connector.fresh_feasible cfg.n cfg.k _ (Props.C10.connector_walk_reset_fresh cfg.n cfg.k hk init tape hv hnb))
end Props.C06
