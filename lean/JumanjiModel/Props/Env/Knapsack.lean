/-
Property theorems for Knapsack, one namespace per property.
-/
import JumanjiModel.Env.Knapsack.Lemmas
import JumanjiModel.Env.Knapsack.Bounds
import JumanjiModel.Env.Knapsack.Episode
import JumanjiModel.Env.Knapsack.Spec
import JumanjiModel.Prim.FloatLemmas
open Jm Knapsack

namespace Props.C01
/-- `reset` (any budget, any sampled weights/values of the unit interval): every leaf of the observation lies in
the interval `obsBounds` lists for it (weights, values ∈ [0,1]; packed_items, action_mask ∈ {0,1}) -/
theorem knapsack_reset_obs_in_bounds (n : Nat) (budget : Rat) (w v : List Rat) (h : validDraw n w v) :
    Jm.OB.InBounds obsBounds (obsLeaves (reset budget w v).2.obs) :=
  Knapsack.observe_in_bounds _ (Knapsack.reset_unitItems n budget w v h)

/-- every step (any rounding, either reward function, ANY action, valid or not, terminal step included) from a
state whose weights and values lie in the unit interval -/
theorem knapsack_step_obs_in_bounds (rnd : Rat → Rat) (dense : Bool) (s : State) (a : Int) (h : UnitItems s) :
    Jm.OB.InBounds obsBounds (obsLeaves (step rnd dense s a).2.obs) := by
  rw [Knapsack.obs_faithful]; exact Knapsack.observe_in_bounds _ (Knapsack.step_unitItems rnd dense s a h)

/-- the invariant `UnitItems` is established by `reset` and preserved by every step -/
theorem knapsack_reset_unit (n : Nat) (budget : Rat) (w v : List Rat) (h : validDraw n w v) :
    UnitItems (reset budget w v).1 := Knapsack.reset_unitItems n budget w v h
theorem knapsack_step_unit (rnd : Rat → Rat) (dense : Bool) (s : State) (a : Int) (h : UnitItems s) :
    UnitItems (step rnd dense s a).1 := Knapsack.step_unitItems rnd dense s a h

example : validDraw 2 [1/2, 1/4] [1, 0] := by decide +kernel
example : UnitItems ⟨[1/2, 1/4], [1, 1], [false, true], 1/2⟩ := by decide +kernel

/-! #### full spec membership (structure, shapes, dtypes, bounds)

`obsSpec n` / `actionSpec n` are the model's `observation_spec` / `action_spec` of a `num_items = n` environment (hand-written;
equal to the declared ones at the catalogue configurations: `knapsack_obsSpec_generated`, Props/SpecTable.lean) as values
of the spec algebra (Spec/Spec.lean); `toNValue o` is the model observation as the four arrays the implementation emits,
every shape read off the value; `Nested.valid` is the transliteration of `validate`.
Not covered: the dtype tag of every leaf is written by `toNValue`, so a wrong dtype in the real code cannot falsify a
membership theorem; shapes, dtypes and field names of the real observations are compared with the real spec object through
`jax.eval_shape` (harness/envprops.py, C01), and `obsSpec` with the generated spec literals by
`knapsack_obsSpec_generated` (Props/SpecTable.lean). -/

/-- the `reset` observation — every number of items, every budget, every valid draw — is accepted by
`observation_spec.validate` -/
theorem knapsack_reset_obs_valid (n : Nat) (budget : Rat) (w v : List Rat) (h : validDraw n w v) :
    (obsSpec n).valid (toNValue (reset budget w v).2.obs) = true :=
  Knapsack.observe_valid n _ (Knapsack.reset_specInv n budget w v h)

/-- the same for the observation of every `step` (any rounding, either reward function, ANY action value, valid or not,
the terminal step included) from a state satisfying `SpecInv n` … -/
theorem knapsack_step_obs_valid (n : Nat) (rnd : Rat → Rat) (dense : Bool) (s : State) (a : Int) (h : SpecInv n s) :
    (obsSpec n).valid (toNValue (step rnd dense s a).2.obs) = true := by
  rw [obs_faithful]; exact observe_valid n _ (step_specInv n rnd dense s a h)

/-- … an invariant `reset` establishes for every valid draw, every step preserves, and which therefore holds in every
state of every play from `reset` (any action values, stepping on after LAST included) -/
theorem knapsack_reset_specInv (n : Nat) (budget : Rat) (w v : List Rat) (h : validDraw n w v) :
    SpecInv n (reset budget w v).1 := Knapsack.reset_specInv n budget w v h
theorem knapsack_step_specInv (n : Nat) (rnd : Rat → Rat) (dense : Bool) (s : State) (a : Int) (h : SpecInv n s) :
    SpecInv n (step rnd dense s a).1 := Knapsack.step_specInv n rnd dense s a h
theorem knapsack_obs_valid_along (n : Nat) (rnd : Rat → Rat) (dense : Bool) (budget : Rat) (w v : List Rat)
    (h : validDraw n w v) (as : List Int) (a : Int) :
    (obsSpec n).valid (toNValue
      (step rnd dense ((Ep.ofStep (step rnd dense) (fun _ => 0)).run (reset budget w v).1 as) a).2.obs) = true :=
  Props.C01.knapsack_step_obs_valid n rnd dense _ a
    (Knapsack.specInv_along n rnd dense _ as (Knapsack.reset_specInv n budget w v h))

/-- what `validate` accepts ONLY, so the theorems above are not hollow -/
theorem knapsack_obs_valid_only (n : Nat) (o : Obs) (h : (obsSpec n).valid (toNValue o) = true) :
    o.weights.length = n ∧ o.values.length = n ∧ o.packed.length = n ∧ o.mask.length = n ∧
    (∀ x ∈ o.weights, 0 ≤ x ∧ x ≤ 1) ∧ (∀ x ∈ o.values, 0 ≤ x ∧ x ≤ 1) := Knapsack.obs_valid_only n o h

/-- `action_spec.generate_value()` (= item 0) is a member of `action_spec` (every `n ≥ 1`) and is accepted by `step` in
every state of the invariant: the answer is a MID or LAST timestep whose observation is a member of `observation_spec`
(reward and discount: `knapsack_step_reward_discount_in_spec`, Props/C01.lean) -/
theorem knapsack_step_accepts_generate (n : Nat) (hn : 0 < n) (rnd : Rat → Rat) (dense : Bool) (s : State)
    (h : SpecInv n s) :
    (actionSpec n).generate = ⟨[], .int32, [0]⟩ ∧ (actionSpec n).valid (actionSpec n).generate = true ∧
    (obsSpec n).valid (toNValue (step rnd dense s 0).2.obs) = true ∧
    ((step rnd dense s 0).2.stepType = .mid ∨ (step rnd dense s 0).2.stepType = .last) :=
  ⟨PzS.generate_discrete _ _ _, PzS.valid_generate_discrete _ _ _ hn rfl,
   Props.C01.knapsack_step_obs_valid n rnd dense s 0 h, Knapsack.step_mid_or_last rnd dense s 0⟩

example : SpecInv 2 ⟨[1/2, 1/4], [1, 1], [false, true], 1/2⟩ := by decide +kernel
example : (obsSpec 2).valid (toNValue ⟨[1/2, 1/4], [1, 1], [false, true], [true, false]⟩) = true ∧
    (obsSpec 2).valid (toNValue ⟨[1/2, 5/4], [1, 1], [false, true], [true, false]⟩) = false ∧
    (obsSpec 2).valid (toNValue ⟨[1/2, 1/4], [1, 1], [false, true], [true]⟩) = false := by decide +kernel
end Props.C01

namespace Props.C04
/-- the mask bit of item `a` is set exactly when the rules allow packing it -/
theorem knapsack_mask_iff_legal (s : State) (a : Nat) (hl : s.packed.length = s.weights.length) :
    (maskOf s).getD a false = true ↔ legal s a := Knapsack.mask_iff_legal s a hl

/-- the environment's own validity test agrees with the rules (so a masked-in action is never
treated as invalid and every legal action is accepted) -/
theorem knapsack_step_agrees (s : State) (a : Nat) (hl : s.packed.length = s.weights.length)
    (ha : a < s.weights.length) : isValid s a = true ↔ legal s a := Knapsack.isValid_iff_legal s a hl ha

/-- the same stated about `step` itself (`knapsack_step_agrees` speaks of the auxiliary `isValid` only): the packed set
changes iff the action was legal — a masked-in action (`knapsack_mask_iff_legal`) is never treated as invalid and no legal
action is refused -/
theorem knapsack_step_agrees_step (rnd : Rat → Rat) (dense : Bool) (s : State) (a : Nat) (hs : WellShaped s)
    (ha : a < s.weights.length) :
    (legal s a → (step rnd dense s a).1 = packL2 rnd s a) ∧
    (¬ legal s a → (step rnd dense s a).1 = s ∧ (step rnd dense s a).2.stepType = .last ∧
       (step rnd dense s a).2.reward = [0]) ∧
    (legal s a ↔ (step rnd dense s a).1.packed ≠ s.packed) := Knapsack.step_agrees_step rnd dense s a hs ha

example : legal ⟨[1/2, 1/4], [1, 1], [false, true], 1/2⟩ 0 := by decide +kernel
example : ¬ legal ⟨[1/2, 1/4], [1, 1], [false, true], 1/2⟩ 1 ∧ WellShaped ⟨[1/2, 1/4], [1, 1], [false, true], 1/2⟩ := by
  decide +kernel
end Props.C04

namespace Props.C05
/-- an illegal action ends the episode with reward 0 and leaves the state untouched -/
theorem knapsack_illegal_terminates (rnd : Rat → Rat) (dense : Bool) (s : State) (a : Nat)
    (hl : s.packed.length = s.weights.length) (ha : a < s.weights.length) (h : ¬ legal s a) :
    (step rnd dense s a).1 = s ∧ (step rnd dense s a).2.stepType = .last ∧
    (step rnd dense s a).2.reward = [0] := Knapsack.illegal_step rnd dense s a hl ha h
end Props.C05

namespace Props.C06
/-- legal play keeps the packed weight within the budget (exact arithmetic) -/
theorem knapsack_step_feasible (b : Rat) (dense : Bool) (s : State) (a : Nat)
    (hf : Feasible b s) (hl : legal s a) : Feasible b (step id dense s a).1 :=
  Knapsack.step_feasible b dense s a hf hl

/-- under ANY rounding of the subtraction that is monotone and fixes 0 (float32 is one), the
remaining budget never becomes negative under legal play -/
theorem knapsack_remaining_nonneg (rnd : Rat → Rat) (hmono : ∀ x y, x ≤ y → rnd x ≤ rnd y)
    (h0 : rnd 0 = 0) (dense : Bool) (s : State) (a : Nat) (hr : 0 ≤ s.remaining) (hl : legal s a) :
    0 ≤ (step rnd dense s a).1.remaining := by
  obtain ⟨l1, l2, l3, l4⟩ := hl
  by_cases hv : isValid s a = true
  · rw [step_valid rnd dense s a hv]
    unfold update; simp only []
    rw [Jx.getWC_nat _ _ l2]
    have := hmono 0 _ ((Rat.le_iff_sub_nonneg _ _).1 l4)
    rw [h0] at this
    exact this
  · rw [step_invalid rnd dense s a (by simpa using hv)]; exact hr

/-- in particular for the float32 model: `Jx.roundF32` is monotone and fixes 0 (Prim/FloatLemmas.lean) -/
theorem knapsack_remaining_nonneg_roundF32 (dense : Bool) (s : State) (a : Nat) (hr : 0 ≤ s.remaining)
    (hl : legal s a) : 0 ≤ (step Jx.roundF32 dense s a).1.remaining :=
  Props.C06.knapsack_remaining_nonneg Jx.roundF32 (fun _ _ h => Jx.roundF32_mono h) Jx.roundF32_zero dense s a hr hl

/-- ALONG WHOLE PLAYS, any monotone rounding fixing 0: in every state of a mask-respecting play from a state with a
non-negative budget, the bookkeeping `remaining_budget` is non-negative.  NOTE: this is about the BOOKKEEPING value; "packed weight ≤
budget" (`knapsack_feasible_along`) is proved for exact arithmetic (`rnd = id`) only, and is FALSE for some monotone roundings fixing
0: `knapsack_rounding_overshoot_witness`. -/
theorem knapsack_remaining_nonneg_along (rnd : Rat → Rat) (hmono : ∀ x y, x ≤ y → rnd x ≤ rnd y) (h0 : rnd 0 = 0)
    (dense : Bool) (s : State) (as : List Nat) (hr : 0 ≤ s.remaining) (hp : LegalPlay rnd dense s as) :
    ∀ s' ∈ statesAlong rnd dense s as, 0 ≤ s'.remaining :=
  Knapsack.invariant_along rnd dense (P := fun s => 0 ≤ s.remaining)
    (Props.C06.knapsack_remaining_nonneg rnd hmono h0 dense) s as hr hp

/-- … for the float32 model, from the generated state `generate n b w v` of ANY item lists and any non-negative budget -/
theorem knapsack_remaining_nonneg_along_roundF32 (dense : Bool) (n : Nat) (b : Rat) (w v : List Rat) (hb : 0 ≤ b)
    (as : List Nat) (hp : LegalPlay Jx.roundF32 dense (generate n b w v) as) :
    ∀ s' ∈ statesAlong Jx.roundF32 dense (generate n b w v) as, 0 ≤ s'.remaining :=
  knapsack_remaining_nonneg_along Jx.roundF32 (fun _ _ h => Jx.roundF32_mono h) Jx.roundF32_zero dense _ as
    (by simpa [generate] using hb) hp

/-- "round up to quarters": monotone, fixes 0 -/
def knapsackRoundUpQuarters (x : Rat) : Rat := ((Rat.ceil (4 * x) : Int) : Rat) / 4

theorem knapsackRoundUpQuarters_mono (x y : Rat) (h : x ≤ y) :
    knapsackRoundUpQuarters x ≤ knapsackRoundUpQuarters y := by
  unfold knapsackRoundUpQuarters
  have h4 : 4 * x ≤ 4 * y := Rat.mul_le_mul_of_nonneg_left h (by decide)
  have hc : (4 * x).ceil ≤ (4 * y).ceil := Rat.ceil_le_iff.2 (Rat.le_trans h4 Rat.le_ceil)
  have hc' : ((4 * x).ceil : Rat) ≤ ((4 * y).ceil : Rat) := by exact_mod_cast hc
  rw [Rat.div_def, Rat.div_def]
  exact Rat.mul_le_mul_of_nonneg_right hc' (by decide +kernel)

/-- WITNESS (why `knapsack_feasible_along` is stated for exact arithmetic): under the monotone, 0-fixing rounding "up to quarters",
budget 1 and three items of weight 3/8, the play 0, 1, 2 is mask-respecting, the bookkeeping budget stays non-negative
(1, 3/4, 1/2, 1/4) — and the packed weight ends at 9/8 > 1.  (float32 rounds to nearest with relative error 2⁻²⁴; an
error-budget form `packed ≤ budget + k·ε` is not proved.) -/
theorem knapsack_rounding_overshoot_witness :
    knapsackRoundUpQuarters 0 = 0 ∧
    LegalPlay knapsackRoundUpQuarters true (generate 3 1 [3/8, 3/8, 3/8] [1, 1, 1]) [0, 1, 2] ∧
    (statesAlong knapsackRoundUpQuarters true (generate 3 1 [3/8, 3/8, 3/8] [1, 1, 1]) [0, 1, 2]).map
      (fun s => (s.remaining, packedWeight s)) = [(1, 0), (3/4, 3/8), (1/2, 3/4), (1/4, 9/8)] := by
  refine ⟨by decide +kernel, by decide +kernel, by decide +kernel⟩

example : Feasible 1 ⟨[1/2, 1/4], [1, 1], [false, true], 3/4⟩ := by decide +kernel

/-- `RandomGenerator` (any valid draw of weights and values, any non-negative budget): the reset state is
feasible -/
theorem knapsack_reset_feasible (n : Nat) (b : Rat) (w v : List Rat) (hb : 0 ≤ b) (h : validDraw n w v) :
    Feasible b (generate n b w v) ∧ WithinBudget b (generate n b w v) :=
  have hf := (Knapsack.instanceOK_feasible n b _ hb (Knapsack.generate_instanceOK n b w v h)).1
  ⟨hf, Knapsack.feasible_withinBudget b _ hf⟩

/-- the same for ANY state passing the generator certificate `instanceOK` (the predicate the C10 sweep
evaluates on the implementation's reset states) -/
theorem knapsack_instance_feasible (n : Nat) (b : Rat) (s : State) (hb : 0 ≤ b)
    (h : instanceOK n b s = true) : Feasible b s := (Knapsack.instanceOK_feasible n b s hb h).1

/-- every state of a mask-respecting play of any length (exact arithmetic; `statesAlong`, `LegalPlay` in
Env/Knapsack/Episode.lean): the total weight of the packed items, recomputed from `packed_items` and
`weights` only, is within the budget — and the bookkeeping `remaining_budget` agrees with it -/
theorem knapsack_feasible_along (b : Rat) (dense : Bool) (s : State) (as : List Nat) (hf : Feasible b s)
    (hp : LegalPlay id dense s as) :
    ∀ s' ∈ statesAlong id dense s as, WithinBudget b s' ∧ Feasible b s' := fun s' hs' =>
  ⟨Knapsack.feasible_withinBudget b s' (Knapsack.feasible_along b dense s as hf hp s' hs'),
   Knapsack.feasible_along b dense s as hf hp s' hs'⟩

/-- a complete mask-respecting episode ends in a maximal feasible packing: within the budget, and every
unpacked item weighs more than `budget − packed weight` (both recomputed from `packed_items`/`weights`) -/
theorem knapsack_complete_is_solution (b : Rat) (dense : Bool) (s : State) (as : List Nat)
    (hf : Feasible b s) (hep : LegalEpisode id dense s as) :
    WithinBudget b (endState id dense s as) ∧ Maximal b (endState id dense s as) ∧
    ∀ i, ¬ legal (endState id dense s as) i :=
  (Knapsack.complete_is_solution b dense s as hf hep).2

example : validDraw 3 [1/2, 1/4, 1/2] [1, 1/2, 1/3] := by decide +kernel
example : LegalPlay id true (generate 3 1 [1/2, 1/4, 1/2] [1, 1/2, 1/3]) [1] := by decide +kernel
example : LegalEpisode id true (generate 3 1 [1/2, 1/4, 1/2] [1, 1/2, 1/3]) [1, 0] := by decide +kernel
end Props.C06

namespace Props.C08
/-- dense reward telescopes: packed value after a step = packed value before + reward -/
theorem knapsack_dense_telescopes (rnd : Rat → Rat) (s : State) (a : Nat)
    (hf : s.packed.length = s.weights.length ∧ s.values.length = s.weights.length)
    (ha : a < s.weights.length) :
    packedValue (step rnd true s a).1 = packedValue s + (step rnd true s a).2.reward.sum :=
  Knapsack.dense_telescopes rnd s a hf ha

/-- sparse reward: zero before the end, the packed value of the final state at a valid end -/
theorem knapsack_sparse_reward (rnd : Rat → Rat) (s : State) (a : Nat) :
    (step rnd false s a).2.reward =
      [if (step rnd false s a).2.stepType = .last ∧ isValid s a = true
       then packedValue (step rnd false s a).1 else 0] := Knapsack.sparse_reward rnd s a

/-! whole episodes (`returnOf`, `endState`, `LegalEpisode`, `InvalidEnded` in Env/Knapsack/Episode.lean): the
actions are played until the first LAST timestep; `rnd` (the rounding of the budget subtraction) is arbitrary.
`instanceOK n b s` is the generator certificate: `n` items, nothing packed, the whole budget left. -/

/-- ANY sequence of in-range actions from ANY well-shaped state (legal or not, finished or not): the dense
rewards add up to the gain in packed value recomputed from `packed_items` and `values` -/
theorem knapsack_dense_return_from (rnd : Rat → Rat) (s : State) (as : List Nat) (hs : WellShaped s)
    (hr : ∀ a ∈ as, a < s.weights.length) :
    returnOf rnd true s as = packedValue (endState rnd true s as) - packedValue s := by
  rw [Knapsack.dense_return_add rnd s as hs hr, Rat.add_comm, Rat.add_sub_cancel]

/-- complete episode of legal actions from a fresh instance, dense reward: return = total value of the items
packed in the final state -/
theorem knapsack_dense_return (rnd : Rat → Rat) (n : Nat) (b : Rat) (s : State) (as : List Nat)
    (h0 : instanceOK n b s = true) (hep : LegalEpisode rnd true s as) :
    returnOf rnd true s as = packedValue (endState rnd true s as) :=
  Knapsack.dense_return rnd s as (Knapsack.instanceOK_wellShaped n b s h0) (Knapsack.instanceOK_value0 n b s h0) hep

/-- the same for the sparse reward (from any well-shaped state: the sparse reward pays the whole bag) -/
theorem knapsack_sparse_return (rnd : Rat → Rat) (s : State) (as : List Nat) (hs : WellShaped s)
    (hep : LegalEpisode rnd false s as) :
    returnOf rnd false s as = packedValue (endState rnd false s as) :=
  Knapsack.sparse_return rnd s as hs hep

/-- same instance, same complete legal episode (legality and the trajectory do not depend on the reward
function): both reward functions return the packed value of the final state, hence the same number -/
theorem knapsack_dense_eq_sparse (rnd : Rat → Rat) (n : Nat) (b : Rat) (s : State) (as : List Nat)
    (dense : Bool) (h0 : instanceOK n b s = true) (hep : LegalEpisode rnd dense s as) :
    returnOf rnd true s as = returnOf rnd false s as ∧
    endState rnd true s as = endState rnd false s as ∧
    returnOf rnd true s as = packedValue (endState rnd dense s as) := by
  have h := Knapsack.dense_eq_sparse rnd s as dense (Knapsack.instanceOK_wellShaped n b s h0)
    (Knapsack.instanceOK_value0 n b s h0) hep
  exact ⟨h.1.trans h.2.symm, Knapsack.endState_dense_irrel rnd true false s as, h.1⟩

theorem knapsack_episode_return (rnd : Rat → Rat) (n : Nat) (b : Rat) (s : State) (as : List Nat)
    (dense : Bool) (h0 : instanceOK n b s = true) (hep : LegalEpisode rnd dense s as) :
    returnOf rnd dense s as = packedValue (endState rnd dense s as) := by
  have hs := Knapsack.instanceOK_wellShaped n b s h0
  have hv := Knapsack.instanceOK_value0 n b s h0
  cases dense
  · exact (dense_eq_sparse rnd s as false hs hv hep).2
  · exact (dense_eq_sparse rnd s as true hs hv hep).1

/-- in particular from every instance `RandomGenerator` can produce -/
theorem knapsack_episode_return_generated (rnd : Rat → Rat) (n : Nat) (b : Rat) (w v : List Rat)
    (as : List Nat) (dense : Bool) (hd : validDraw n w v)
    (hep : LegalEpisode rnd dense (generate n b w v) as) :
    returnOf rnd dense (generate n b w v) as = packedValue (endState rnd dense (generate n b w v) as) :=
  Props.C08.knapsack_episode_return rnd n b _ as dense (Knapsack.generate_instanceOK n b w v hd) hep

/-- episode ended by an invalid action (legal actions, then an item that is packed already or does not fit):
the invalid step itself pays 0 under both reward functions (`knapsack_illegal_terminates`, C05); the dense
return keeps the values of the items packed before, the sparse return is 0 — as documented
("the reward is 0 if the action is invalid"), so the two returns differ on such episodes -/
theorem knapsack_dense_return_invalid (rnd : Rat → Rat) (n : Nat) (b : Rat) (s : State) (as : List Nat)
    (h0 : instanceOK n b s = true) (hep : InvalidEnded rnd true s as) :
    returnOf rnd true s as = packedValue (endState rnd true s as) := by
  rw [Knapsack.dense_return_add rnd s as (Knapsack.instanceOK_wellShaped n b s h0)
    (Knapsack.invalidEnded_inrange rnd true s as hep), Knapsack.instanceOK_value0 n b s h0, Rat.zero_add]

theorem knapsack_sparse_return_invalid (rnd : Rat → Rat) (s : State) (as : List Nat) (hs : WellShaped s)
    (hep : InvalidEnded rnd false s as) : returnOf rnd false s as = 0 := by
  induction as generalizing s with
  | nil => exact hep.elim
  | cons a as ih =>
    obtain ⟨ha, h2⟩ := hep
    simp only [returnOf]
    split at h2
    · rw [if_neg h2.1, Knapsack.sparse_reward_mid rnd s a h2.1,
        ih _ (Knapsack.step_wellShaped rnd false s a hs) h2.2, Rat.add_zero]
    · next hl =>
      rw [Knapsack.step_invalid rnd false s a (Knapsack.isValid_of_not_legal hs.1 ha hl)]
      simp [Jm.termination, Rat.add_zero]

/-- the trajectory class on which dense and sparse differ: pack item 0, then choose item 0 again -/
theorem knapsack_dense_ne_sparse_invalid_witness :
    InvalidEnded id true (generate 3 1 [1/2, 1/4, 1/2] [1, 1/2, 1/3]) [0, 0] ∧
    returnOf id true (generate 3 1 [1/2, 1/4, 1/2] [1, 1/2, 1/3]) [0, 0] = 1 ∧
    returnOf id false (generate 3 1 [1/2, 1/4, 1/2] [1, 1/2, 1/3]) [0, 0] = 0 := by decide +kernel

example : instanceOK 3 1 (generate 3 1 [1/2, 1/4, 1/2] [1, 1/2, 1/3]) = true := by decide +kernel
example : LegalEpisode id false (generate 3 1 [1/2, 1/4, 1/2] [1, 1/2, 1/3]) [2, 1] := by decide +kernel
example : returnOf id false (generate 3 1 [1/2, 1/4, 1/2] [1, 1/2, 1/3]) [2, 1] = 5/6 := by decide +kernel
end Props.C08

namespace Props.C09
/-- L1 = L2: on every well-shaped state and every in-range action (valid or not) the transliterated `step`
returns exactly what the published rules (`stepL2`, Env/Knapsack/Model.lean) prescribe — successor state,
reward, step type, discount and observation; any rounding `rnd`, either reward function -/
theorem knapsack_step_eq_spec (rnd : Rat → Rat) (dense : Bool) (s : State) (a : Nat) (hs : WellShaped s)
    (ha : a < s.weights.length) : step rnd dense s a = stepL2 rnd dense s a := by
  unfold stepL2
  by_cases hl : legal s a
  · rw [if_pos hl, step_of_legal rnd dense s a hs hl]
    cases h : anyLegal (packL2 rnd s a) <;> simp [h, condLast]
  · rw [if_neg hl, step_invalid rnd dense s a (isValid_of_not_legal hs.1 ha hl), observe_eq_observeL2 s hs.1]

/-- the episode ends exactly when the action is invalid or no item can be added any more -/
theorem knapsack_last_iff (rnd : Rat → Rat) (dense : Bool) (s : State) (a : Nat) (hs : WellShaped s)
    (ha : a < s.weights.length) :
    (step rnd dense s a).2.stepType = .last ↔
      (¬ legal s a ∨ ∀ i, ¬ legal (step rnd dense s a).1 i) := Knapsack.last_iff rnd dense s a hs ha

/-- a legal step, field by field: problem data untouched, the packed set grows by exactly the chosen item,
the remaining budget decreases by its weight -/
theorem knapsack_step_legal_spec (rnd : Rat → Rat) (dense : Bool) (s : State) (a : Nat) (hs : WellShaped s)
    (hl : legal s a) :
    let s' := (step rnd dense s a).1
    s'.weights = s.weights ∧ s'.values = s.values ∧ s'.packed.length = s.packed.length ∧
    (∀ i, s'.packed.getD i true = if i = a then true else s.packed.getD i true) ∧
    s'.remaining = rnd (s.remaining - s.weights.getD a 0) := by
  rw [Knapsack.step_legal_fst rnd dense s a hs hl]
  refine ⟨rfl, rfl, by simp [packL2], fun i => ?_, rfl⟩
  rw [show (packL2 rnd s a).packed = s.packed.set a true from rfl, Jx.getD_set]
  simp [hl.1, eq_comm]

example : WellShaped ⟨[1/2, 1/4], [1, 1], [false, true], 1/2⟩ := by decide +kernel
end Props.C09

namespace Props.C10
/-- `RandomGenerator.__call__` transliterated (`generate`, the uniform samples as draw parameters): for every
number of items, every budget and every valid draw the instance passes the certificate -/
theorem knapsack_generate_certificate (n : Nat) (b : Rat) (w v : List Rat) (h : validDraw n w v) :
    instanceOK n b (generate n b w v) = true := Knapsack.generate_instanceOK n b w v h

/-- certificate ⇒ advertised invariants: `n` weights and `n` values, all in [0, 1]; nothing packed; the
remaining budget is the total budget -/
theorem knapsack_certificate_spec (n : Nat) (b : Rat) (s : State) (h : instanceOK n b s = true) :
    s.weights.length = n ∧ s.values.length = n ∧ s.packed = List.replicate n false ∧
    s.remaining = b ∧ UnitItems s := Knapsack.instanceOK_spec n b s h

/-- certificate ⇒ the instance is a feasible starting point with empty bag (packed weight and value 0) -/
theorem knapsack_certificate_feasible (n : Nat) (b : Rat) (s : State) (hb : 0 ≤ b)
    (h : instanceOK n b s = true) : Feasible b s ∧ packedValue s = 0 ∧ packedWeight s = 0 :=
  Knapsack.instanceOK_feasible n b s hb h

example : validDraw 3 [1/2, 1/4, 1/2] [1, 1/2, 1/3] := by decide +kernel
end Props.C10

namespace Props.C12
/-- the observation `step` returns is `observe` of the successor state — how `step` is written; the content is the next
theorem -/
theorem knapsack_obs_faithful (rnd : Rat → Rat) (dense : Bool) (s : State) (a : Int) :
    (step rnd dense s a).2.obs = observe (step rnd dense s a).1 := Knapsack.obs_faithful rnd dense s a

/-- … and `observe` (the L1 `_state_to_observation` with its vectorised mask expression) IS the documented observation
`observeL2` (problem data, packed flags, mask = "which items can be packed" by the rules `legal`): for the observation
of every `step` (any action value, terminal step included) from a state with one flag per item … -/
theorem knapsack_obs_documented (rnd : Rat → Rat) (dense : Bool) (s : State) (a : Int)
    (hl : s.packed.length = s.weights.length) :
    (step rnd dense s a).2.obs = observeL2 (step rnd dense s a).1 := by
  rw [Knapsack.obs_faithful]
  exact Knapsack.observe_eq_observeL2 _ (by
    rw [Knapsack.step_packed_length, (Knapsack.step_weights rnd dense s a).1]; exact hl)

/-- … and for the observation of `reset` (any budget, any sampled weights and values), which is a FIRST timestep -/
theorem knapsack_reset_obs_faithful (budget : Rat) (w v : List Rat) :
    (reset budget w v).2.obs = observeL2 (reset budget w v).1 ∧ (reset budget w v).2.stepType = .first :=
  ⟨Knapsack.observe_eq_observeL2 _ (by simp), rfl⟩
end Props.C12

namespace Props.C11
/-- every non-terminal step packs one more item (the episode bound drawn from this is `knapsack_ends_within_horizon`) -/
theorem knapsack_progress (rnd : Rat → Rat) (dense : Bool) (s : State) (a : Nat)
    (hl : s.packed.length = s.weights.length) (ha : a < s.weights.length)
    (h : (step rnd dense s a).2.stepType ≠ .last) :
    Jx.countTrue (step rnd dense s a).1.packed = Jx.countTrue s.packed + 1 :=
  Knapsack.progress rnd dense s a hl ha h

/-- whole episodes (`knapsack_progress` is a single step): from EVERY reset state (any budget, any valid draw of
`n ≥ 1` items), EVERY list of at least `n` actions of the action spec `0 ≤ a < n` — legal or not — contains a LAST
timestep, and the first one has (1-based) index ≤ `n`: no episode outlasts the structural horizon `num_items`.
`Ep.rollout` iterates the L1 `step`, `Ep.firstLastTS` is what harness/props/c11.py measures (Core/Episode.lean). -/
theorem knapsack_ends_within_horizon (n : Nat) (hn : 0 < n) (rnd : Rat → Rat) (dense : Bool) (budget : Rat)
    (w v : List Rat) (h : validDraw n w v) (as : List Int) (hok : ∀ a ∈ as, inSpec n a) (hlen : n ≤ as.length) :
    ∃ k, Ep.firstLastTS ((Ep.rollout (step rnd dense) (reset budget w v).1 as).map (·.2)) = some k ∧ 0 < k ∧ k ≤ n := by
  have hi : ShapeInv n (reset budget w v).1 := ⟨by simp [reset, h.1], h.1⟩
  have hp : pot n (reset budget w v).1 + 1 = n := by
    simp only [pot, reset, Jx.countTrue_replicate_false]; omega
  obtain ⟨k, hk, h1, h2⟩ := (Knapsack.bounded n rnd dense).rollout_ends _ hi as hok (by omega)
  exact ⟨k, hk, h1, by omega⟩

/-- the horizon is attained: three items that all fit are packed in three steps, LAST only at the third -/
example : Ep.firstLastTS ((Ep.rollout (step id true) (reset 2 [1/2, 1/4, 1/2] [1, 1/2, 1/3]).1 [0, 1, 2]).map (·.2)) =
    some 3 := by decide +kernel
end Props.C11
