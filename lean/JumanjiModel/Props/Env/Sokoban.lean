/-
Property theorems for Sokoban, by property; the lemmas they rest on are in Env/Sokoban/*Lemmas.lean.
`cfg.n` is GRID_SIZE (10 in the source); the theorems hold for all grid sizes — except those about the shipped levels (C10, and
the C01 theorems from `reset` of a generated level), which fix `n = 10` — under the hypotheses each states (well-shaped grids with
the agent inside, or `Consistent`; actions 0..3).  Sokoban has no action mask (no C04).
-/
import JumanjiModel.Env.Sokoban.Lemmas
import JumanjiModel.Env.Sokoban.BoundsLemmas
import JumanjiModel.Env.Sokoban.GeneratorLemmas
import JumanjiModel.Env.Sokoban.RewardLemmas
import JumanjiModel.Gen.SokobanLevels
import JumanjiModel.Env.Sokoban.SpecLemmas
import JumanjiModel.Core.EpisodeLemmas
open Jm Jx Sokoban

namespace Props.C05
/-- an illegal move (into a wall, off the grid, or pushing a box that cannot move) is ignored: the
successor differs from the state only in the step counter, and the episode ends only for a documented
cause (time limit reached, or the level was already complete) -/
theorem sokoban_illegal_ignored (rnd : Rat → Rat) (cfg : Cfg) (s : State) (a : Nat) (ha : a < 4)
    (hf : Grid.shaped s.fgrid cfg.n cfg.n = true) (hv : Grid.shaped s.vgrid cfg.n cfg.n = true)
    (h : ¬ legal cfg.n s a) :
    (step rnd cfg s a).1 = { s with stepCount := s.stepCount + 1 } ∧
    ((step rnd cfg s a).2.stepType = .last → levelComplete s = true ∨ s.stepCount + 1 ≥ cfg.timeLimit) :=
  Sokoban.illegal_ignored rnd cfg s a ha hf hv h

-- a push against another box is illegal (3×3 board, row 0: agent, box, box)
example : ¬ legal 3 ⟨[[0,0,0],[0,0,0],[0,0,0]], [[3,4,4],[0,0,0],[0,0,0]], (0, 0), 0⟩ 1 := by decide +kernel

/-- the reaction of the `step` function itself (Sokoban has no mask, `step` decides; `hag` is not used) -/
theorem sokoban_step_moves_iff_legal (rnd : Rat → Rat) (cfg : Cfg) (s : State) (a : Nat) (ha : a < 4)
    (hf : Grid.shaped s.fgrid cfg.n cfg.n = true) (hv : Grid.shaped s.vgrid cfg.n cfg.n = true)
    (hag : inside cfg.n s.agent) :
    ((step rnd cfg s a).1.agent = add s.agent (dirOf a) ↔ legal cfg.n s a) ∧
    ((step rnd cfg s a).1.agent = s.agent ↔ ¬ legal cfg.n s a) :=
  Sokoban.step_moves_iff_legal rnd cfg s a ha hf hv hag

-- the agent at (1,0) pushes right (legal: it moves to (1,1)); up into the wall at (0,0) is illegal: it stays
example : (step id ⟨3, 9, true⟩ ⟨[[1,2,2],[0,2,2],[0,0,0]], [[0,4,4],[3,4,0],[0,4,0]], (1, 0), 0⟩ 1).1.agent = (1, 1) ∧
    (step id ⟨3, 9, true⟩ ⟨[[1,2,2],[0,2,2],[0,0,0]], [[0,4,4],[3,4,0],[0,4,0]], (1, 0), 0⟩ 0).1.agent = (1, 0) := by
  decide +kernel
end Props.C05

namespace Props.C06
/-- completion THROUGH `step` is a solution: a LAST timestep emitted by `step` before the time limit, from a
consistent board with an action 0..3, certifies that the successor is a consistent board on which EVERY one of the 4
boxes stands on a target cell (`IsSolution`, recomputed cell by cell from the raw grids — not the L1 counter
`count_targets`); the sparse reward of that step is 10 -/
theorem sokoban_step_complete_is_solution (rnd : Rat → Rat) (cfg : Cfg) (s : State) (a : Nat) (ha : a < 4)
    (hc : Consistent cfg.n s) (hl : (step rnd cfg s a).2.stepType = .last) (ht : s.stepCount + 1 < cfg.timeLimit) :
    IsSolution cfg.n (step rnd cfg s a).1 ∧ levelComplete (step rnd cfg s a).1 = true ∧
    (cfg.dense = false → (step rnd cfg s a).2.reward = [10]) :=
  Sokoban.step_complete_is_solution rnd cfg s a ha hc hl ht

/-- conversely a consistent board counts as complete only if every box stands on a target -/
theorem sokoban_count_is_all (n : Nat) (s : State) (hc : Consistent n s) (h : boxesOnTarget n s = nBoxes) :
    ∀ p ∈ Grid.coords n n, Grid.get s.vgrid 0 p.1 p.2 = BOX → Grid.get s.fgrid 0 p.1 p.2 = TARGET :=
  (Sokoban.count_iff_all hc).1 h

/-- both directions: on a consistent board the L1 count equals the number of boxes IFF every box stands on a target;
and the L1 flag `levelComplete` (`count_targets == 4`) IS the documented notion `IsSolution` -/
theorem sokoban_count_iff_all (n : Nat) (s : State) (hc : Consistent n s) :
    (boxesOnTarget n s = nBoxes ↔
      ∀ p ∈ Grid.coords n n, Grid.get s.vgrid 0 p.1 p.2 = BOX → Grid.get s.fgrid 0 p.1 p.2 = TARGET) ∧
    (levelComplete s = true ↔ IsSolution n s) :=
  ⟨Sokoban.count_iff_all hc, Sokoban.levelComplete_iff_solution hc⟩

-- the hypotheses are satisfiable: the last push on a 4×4 board (Left from (0,3): box onto the fourth target)
example :
    let cfg : Cfg := ⟨4, 100, false⟩
    let s : State := ⟨[[2,2,0,0],[2,2,0,0],[0,0,0,0],[0,0,0,0]], [[4,0,4,3],[4,4,0,0],[0,0,0,0],[0,0,0,0]], (0, 3), 2⟩
    Consistent cfg.n s ∧ (step id cfg s 3).2.stepType = .last ∧ s.stepCount + 1 < cfg.timeLimit ∧
      (step id cfg s 3).2.reward = [10] := by
  decide +kernel
end Props.C06

namespace Props.C07
/-- whatever action 0..3 is played, a consistent board (well-shaped grids, exactly one AGENT cell which
is `agent_location`, exactly 4 boxes, only legal encodings, nothing movable inside a wall) stays consistent -/
theorem sokoban_step_consistent (rnd : Rat → Rat) (cfg : Cfg) (s : State) (a : Nat) (ha : a < 4)
    (hc : Consistent cfg.n s) : Consistent cfg.n (step rnd cfg s a).1 :=
  Sokoban.step_consistent rnd cfg s a ha hc

/-- conserved quantities: the fixed grid never changes and the number of boxes stays 4 -/
theorem sokoban_conserved (rnd : Rat → Rat) (cfg : Cfg) (s : State) (a : Nat) (ha : a < 4)
    (hc : Consistent cfg.n s) :
    (step rnd cfg s a).1.fgrid = s.fgrid ∧
    countCells cfg.n (step rnd cfg s a).1.vgrid BOX = countCells cfg.n s.vgrid BOX := by
  have h := Sokoban.step_consistent rnd cfg s a ha hc
  exact ⟨Sokoban.step_fgrid rnd cfg s a, by rw [h.boxes, hc.boxes]⟩

example : Consistent 3 ⟨[[1,2,2],[0,2,2],[0,0,0]], [[0,4,4],[3,4,4],[0,0,0]], (1, 0), 0⟩ := by decide +kernel

/-- whole episode, by induction from `sokoban_step_consistent`: every state reached from a consistent board by ANY
sequence of actions 0..3 (`runState` applies the L1 `step` repeatedly) is consistent -/
theorem sokoban_run_consistent (rnd : Rat → Rat) (cfg : Cfg) (s : State) (as : List Int) (ha : ValidActions as)
    (hc : Consistent cfg.n s) : Consistent cfg.n (runState rnd cfg s as) :=
  Sokoban.run_consistent rnd cfg s as ha hc

/-- whole episode: walls and targets never change (so the number of targets stays what it was), there are exactly 4
boxes and exactly one AGENT cell in every state of the episode, and that cell is `agent_location` -/
theorem sokoban_run_conserved (rnd : Rat → Rat) (cfg : Cfg) (s : State) (as : List Int) (ha : ValidActions as)
    (hc : Consistent cfg.n s) :
    (runState rnd cfg s as).fgrid = s.fgrid ∧
    countCells cfg.n (runState rnd cfg s as).vgrid BOX = nBoxes ∧
    countCells cfg.n (runState rnd cfg s as).vgrid AGENT = 1 ∧
    at' (runState rnd cfg s as).vgrid (runState rnd cfg s as).agent = AGENT ∧
    countCells cfg.n (runState rnd cfg s as).fgrid TARGET = countCells cfg.n s.fgrid TARGET :=
  Sokoban.run_conserved rnd cfg s as ha hc

theorem sokoban_run_step_count (rnd : Rat → Rat) (cfg : Cfg) (s : State) (as : List Int) :
    (runState rnd cfg s as).stepCount = s.stepCount + as.length := by
  induction as generalizing s <;> simp [runState, Sokoban.step_stepCount, *] <;> omega

-- a non-trivial play: a push, a blocked push and a walk on a consistent 3×3 board
example : ValidActions [1, 1, 2, 3] ∧
    Consistent 3 ⟨[[1,2,2],[0,2,2],[0,0,0]], [[0,4,4],[3,4,0],[0,4,0]], (1, 0), 0⟩ ∧
    (runState id ⟨3, 9, true⟩ ⟨[[1,2,2],[0,2,2],[0,0,0]], [[0,4,4],[3,4,0],[0,4,0]], (1, 0), 0⟩ [1, 1, 2, 3]).vgrid
      = [[0,4,4],[3,0,4],[0,4,0]] := by decide +kernel
end Props.C07

namespace Props.C10
/-- certificate ⇒ advertised invariants of a generated level: the board is `Consistent` (one agent at
`agent_location`, 4 boxes, legal encodings, nothing inside a wall), it has 4 targets, exactly one AGENT cell, no box
stands on a target (so the level is not already solved), and the step counter is 0 -/
theorem sokoban_cert_consistent (n : Nat) (s : State) (h : LevelCert n s) :
    Consistent n s ∧ countCells n s.fgrid TARGET = nBoxes ∧ countCells n s.vgrid BOX = nBoxes ∧
    countCells n s.vgrid AGENT = 1 ∧ boxesOnTarget n s = 0 ∧ s.stepCount = 0 := by
  have hc := Sokoban.cert_consistent h
  have hb := Sokoban.cert_boxesOnTarget h
  obtain ⟨_, _, hA, hB, hT, _, _, _, h0⟩ := h
  exact ⟨hc, hT, hB, hA, hb, h0⟩

/-- `ToyGenerator` (transliterated: `convert_level_to_array` on its two ASCII levels, `get_agent_coordinates`, the draw
is the game index): for EVERY valid draw it produces a level, and the level satisfies the certificate for
GRID_SIZE = 10 (kernel evaluation of the decidable certificate on both levels) -/
theorem sokoban_toy_cert (idx : Nat) (h : toyValidDraw idx) : ∃ s, toyGenerate idx = some s ∧ LevelCert 10 s :=
  Sokoban.toy_cert idx h

/-- `SimpleSolveGenerator` (no randomness) produces a level that satisfies the certificate -/
theorem sokoban_simple_cert : ∃ s, simpleGenerate = some s ∧ LevelCert 10 s := Sokoban.simple_cert

/-- the two toy levels are different states (the generator depends on its draw) -/
theorem sokoban_toy_levels_differ : toyGenerate 0 ≠ toyGenerate 1 := by
  have hn : (Gen.toyStates.map some).Nodup := by decide
  intro h
  rw [Sokoban.level_table_eq.2.1, h] at hn
  simp at hn

/-- every state of every episode on a shipped toy level — any draw, any actions 0..3, any length — is consistent,
keeps the level's walls and targets, exactly 4 boxes and exactly one agent -/
theorem sokoban_toy_run_consistent (rnd : Rat → Rat) (cfg : Cfg) (hn : cfg.n = 10) (idx : Nat) (s : State)
    (hg : toyGenerate idx = some s) (as : List Int) (ha : ValidActions as) :
    Consistent cfg.n (runState rnd cfg s as) ∧ (runState rnd cfg s as).fgrid = s.fgrid ∧
    countCells cfg.n (runState rnd cfg s as).vgrid BOX = nBoxes ∧
    countCells cfg.n (runState rnd cfg s as).vgrid AGENT = 1 := by
  have hc : Consistent cfg.n s := by rw [hn]; exact Sokoban.cert_consistent (Sokoban.toy_cert_of_eq hg)
  have h := Sokoban.run_conserved rnd cfg s as ha hc
  exact ⟨Sokoban.run_consistent rnd cfg s as ha hc, h.1, h.2.1, h.2.2.1⟩

/-- the same for the level of `SimpleSolveGenerator` -/
theorem sokoban_simple_run_consistent (rnd : Rat → Rat) (cfg : Cfg) (hn : cfg.n = 10) (s : State)
    (hg : simpleGenerate = some s) (as : List Int) (ha : ValidActions as) :
    Consistent cfg.n (runState rnd cfg s as) ∧ (runState rnd cfg s as).fgrid = s.fgrid ∧
    countCells cfg.n (runState rnd cfg s as).vgrid BOX = nBoxes ∧
    countCells cfg.n (runState rnd cfg s as).vgrid AGENT = 1 := by
  have hc : Consistent cfg.n s := by rw [hn]; exact Sokoban.cert_consistent (Sokoban.simple_cert_of_eq hg)
  have h := Sokoban.run_conserved rnd cfg s as ha hc
  exact ⟨Sokoban.run_consistent rnd cfg s as ha hc, h.1, h.2.1, h.2.2.1⟩

/-- the level table GENERATED from the repository (Gen/SokobanLevels.lean, by harness/translators_sokoban.py: the
ASCII rows read from generator.py and the numeric states the real `convert_level_to_array` /
`get_agent_coordinates` build from them) coincides with the hand transliteration: same ASCII levels in the same order,
and `toyGenerate` / `simpleGenerate` compute exactly the states the real functions computed -/
theorem sokoban_level_table_eq :
    Gen.toyAscii = toyLevels ∧ Gen.toyStates.map some = [toyGenerate 0, toyGenerate 1] ∧
    Gen.simpleAscii = [simpleLevel] ∧ Gen.simpleStates.map some = [simpleGenerate] := Sokoban.level_table_eq

theorem sokoban_level_table_cert : ∀ s ∈ Gen.toyStates ++ Gen.simpleStates, LevelCert 10 s := Sokoban.level_table_cert

-- the certificate on a small hand-made level, and a level it rejects (the agent stands on a target)
example : LevelCert 4 ⟨[[1,2,2,0],[0,2,2,0],[0,0,0,0],[0,0,0,1]], [[0,0,0,0],[3,0,0,4],[4,4,4,0],[0,0,0,0]], (1, 0), 0⟩ := by
  decide +kernel
example : ¬ LevelCert 4 ⟨[[1,2,2,0],[2,0,2,0],[0,0,0,0],[0,0,0,1]], [[0,0,0,0],[3,0,0,4],[4,4,4,0],[0,0,0,0]], (1, 0), 0⟩ := by
  decide +kernel
-- the SimpleSolve level is solved by Up, (Down, Right, Up)×3: the model's episode on the transliterated level
example : (simpleGenerate.map (fun s => levelComplete (runState id ⟨10, 120, true⟩ s [0, 2, 1, 0, 2, 1, 0, 2, 1, 0]))) = some true := by
  -- `simpleGenerate` is the row of the generated table (`level_table_eq`); the episode is evaluated on that row
  have e : [simpleGenerate] = [Gen.simpleStates.head?] := Sokoban.level_table_eq.2.2.2.symm
  rw [(List.cons.inj e).1]
  decide +kernel
end Props.C10

namespace Props.C09
/-- L1 = L2: the transliterated `step` yields exactly the successor prescribed by the rules — stay when
the move is illegal, walk, or push (a box moves iff the agent walks into it and the cell behind it is
inside the grid, not a wall and not a box) -/
theorem sokoban_step_eq (rnd : Rat → Rat) (cfg : Cfg) (s : State) (a : Nat) (ha : a < 4)
    (hf : Grid.shaped s.fgrid cfg.n cfg.n = true) (hv : Grid.shaped s.vgrid cfg.n cfg.n = true)
    (hag : inside cfg.n s.agent) :
    (step rnd cfg s a).1 = stepSpec cfg.n s a := Sokoban.step_eq rnd cfg s a ha hf hv hag

/-- reward and termination flag are the documented ones (±1 per box onto/off a target, +10 when solved,
−0.1 per step; or 10 on completion only; LAST iff solved or time limit), on the prescribed successor -/
theorem sokoban_step_ts_eq (rnd : Rat → Rat) (cfg : Cfg) (s : State) (a : Nat) (ha : a < 4)
    (hf : Grid.shaped s.fgrid cfg.n cfg.n = true) (hv : Grid.shaped s.vgrid cfg.n cfg.n = true)
    (hag : inside cfg.n s.agent) :
    (step rnd cfg s a).2.reward = [rewardSpec rnd cfg s (stepSpec cfg.n s a)] ∧
    ((step rnd cfg s a).2.stepType = .last ↔ doneSpec cfg (stepSpec cfg.n s a) = true) ∧
    ((step rnd cfg s a).2.stepType ≠ .last → (step rnd cfg s a).2.stepType = .mid) := by
  rw [Sokoban.step_refines rnd cfg s a ha hf hv hag]
  refine ⟨condLast_reward _ _ _, ?_⟩
  rw [show (stepL2 rnd cfg s a).2.stepType = _ from condLast_stepType _ _ _]
  cases doneSpec cfg (stepSpec cfg.n s a) <;> simp

/-- L1 = L2 as ONE equation (successor state AND the whole timestep — step type, reward, DISCOUNT, observation):
on a well-shaped board with the agent inside it, for every action 0..3, `step` is the step prescribed by the rules
(`stepL2`: `stepSpec` successor; LAST with discount 0 iff all boxes on targets or limit reached, else MID with discount
1; documented reward; observation of the successor) -/
theorem sokoban_step_refines (rnd : Rat → Rat) (cfg : Cfg) (s : State) (a : Nat) (ha : a < 4)
    (hf : Grid.shaped s.fgrid cfg.n cfg.n = true) (hv : Grid.shaped s.vgrid cfg.n cfg.n = true)
    (hag : inside cfg.n s.agent) : step rnd cfg s a = stepL2 rnd cfg s a :=
  Sokoban.step_refines rnd cfg s a ha hf hv hag

/-- the DISCOUNT spelled out (`stepL2` hides it inside `condLast`): on a well-shaped board with the agent inside, for
every action 0..3, the discount of `step` is 0 iff the successor prescribed by the rules has all boxes on targets or has reached the
time limit, else 1 -/
theorem sokoban_step_discount_rules (rnd : Rat → Rat) (cfg : Cfg) (s : State) (a : Nat) (ha : a < 4)
    (hf : Grid.shaped s.fgrid cfg.n cfg.n = true) (hv : Grid.shaped s.vgrid cfg.n cfg.n = true)
    (hag : inside cfg.n s.agent) :
    (step rnd cfg s a).2.discount =
      [if boxesOnTarget cfg.n (stepSpec cfg.n s a) = nBoxes ∨ cfg.timeLimit ≤ (stepSpec cfg.n s a).stepCount then 0 else 1] := by
  rw [Sokoban.step_refines rnd cfg s a ha hf hv hag]
  refine (condLast_discount _ _ _).trans ?_
  simp [doneSpec]

/-- `detect_noop_action` keeps the action exactly when the rules allow the move -/
theorem sokoban_noop_iff_illegal (n : Nat) (s : State) (a : Nat) (ha : a < 4)
    (hf : Grid.shaped s.fgrid n n = true) (hv : Grid.shaped s.vgrid n n = true) :
    detectNoop n s.vgrid s.fgrid a s.agent = if legal n s a then (a : Int) else NOOP :=
  Sokoban.detectNoop_eq n s a ha hf hv

-- a push: agent at (1,0) moves right into the box at (1,1); the cell behind, (1,2), is free
example : pushes 3 ⟨[[1,2,2],[0,2,2],[0,0,0]], [[0,4,4],[3,4,0],[0,4,0]], (1, 0), 0⟩ 1 := by decide +kernel

/-- reward of ONE step, any state, any action (transliteration of `reward.py`, `count_targets` = L1 count): the
dense reward is `rnd (k + rnd (−0.1))` with the integer
`k = (boxes on target after − before)·SINGLE_BOX_BONUS + 10·[successor solved]`; the sparse reward is `10·[successor solved]` -/
theorem sokoban_step_reward (rnd : Rat → Rat) (cfg : Cfg) (s : State) (a : Int) :
    (step rnd cfg s a).2.reward =
      [if cfg.dense then
         rnd ((((countTargets (step rnd cfg s a).1 : Int) - (countTargets s : Int) +
                10 * (if levelComplete (step rnd cfg s a).1 then 1 else 0) : Int) : Rat) + rnd (-1 / 10))
       else ((10 * (if levelComplete (step rnd cfg s a).1 then 1 else 0) : Int) : Rat)] := by
  rw [Sokoban.step_reward]
  rfl

/-- the same in the documented terms, from a consistent board with an action 0..3: the box term is `pushGain`
(+1 iff the move pushes a box ONTO a target, −1 iff it pushes a box OFF a target, 0 otherwise: walk, blocked move,
push target→target or floor→floor), the bonus 10 is paid iff all boxes are on targets in the successor prescribed by
the rules, the step penalty is −0.1 -/
theorem sokoban_step_reward_rules (rnd : Rat → Rat) (cfg : Cfg) (hd : cfg.dense = true) (s : State) (a : Nat)
    (ha : a < 4) (hc : Consistent cfg.n s) :
    (step rnd cfg s a).2.reward =
      [rnd (((pushGain cfg.n s a + (if boxesOnTarget cfg.n (stepSpec cfg.n s a) = nBoxes then 10 else 0) : Int) : Rat)
        + rnd (-1 / 10))] := by
  rw [Sokoban.step_refines rnd cfg s a ha hc.fshaped hc.vshaped hc.agent_inside]
  refine (condLast_reward _ _ _).trans ?_
  unfold rewardSpec
  simp only [hd, if_true]
  rw [Sokoban.spec_boxes_change cfg.n s a hc]

/-- a step changes the number of boxes on targets by exactly `pushGain` ∈ {−1, 0, 1} (`ha` is not used) -/
theorem sokoban_step_box_change (n : Nat) (s : State) (a : Nat) (ha : a < 4) (hc : Consistent n s) :
    (boxesOnTarget n (stepSpec n s a) : Int) - (boxesOnTarget n s : Int) = pushGain n s a ∧
    -1 ≤ pushGain n s a ∧ pushGain n s a ≤ 1 :=
  ⟨Sokoban.spec_boxes_change n s a hc, Sokoban.pushGain_range n s a⟩

-- a push onto a target (+1) and a push off a target (−1) on a consistent 3×3 board
example : Consistent 3 ⟨[[1,2,0],[0,2,2],[2,0,0]], [[0,0,0],[3,4,0],[4,4,4]], (1, 0), 0⟩ ∧
    pushGain 3 ⟨[[1,2,0],[0,2,2],[2,0,0]], [[0,0,0],[3,4,0],[4,4,4]], (1, 0), 0⟩ 1 = 0 ∧
    pushGain 3 ⟨[[1,2,0],[0,0,2],[2,0,0]], [[0,0,0],[3,4,0],[4,4,4]], (1, 0), 0⟩ 1 = 1 ∧
    pushGain 3 ⟨[[1,2,0],[0,2,0],[2,0,0]], [[0,0,0],[3,4,0],[4,4,4]], (1, 0), 0⟩ 1 = -1 := by decide +kernel

/-- telescoped DENSE return in exact arithmetic (`rnd = id`), for EVERY start state and EVERY action sequence
(no hypothesis on state or actions): return = −0.1·steps + (boxes on target at the end − at the start) + 10·(number of steps whose
successor state is solved).  `step` is not absorbing (neither in the model nor in `env.py`): a step taken from a
solved state whose successor is still solved is paid the bonus again, hence the count instead of `[solved]`. -/
theorem sokoban_episode_return (cfg : Cfg) (hd : cfg.dense = true) (s : State) (as : List Int) :
    runReturn id cfg s as =
      (-1 / 10 : Rat) * (as.length : Rat) +
      (((countTargets (runState id cfg s as) : Int) - (countTargets s : Int) : Int) : Rat) +
      10 * ((solvedSteps id cfg s as : Nat) : Rat) := Sokoban.run_return_dense cfg hd s as

/-- in an episode in the sense of the API (`ProperEpisode`: no `step` after a LAST timestep; LAST ⇐ solved or time
limit) the bonus is paid at most once, on the last step: the number of solved successors is `[final state solved]` -/
theorem sokoban_solved_steps_proper (rnd : Rat → Rat) (cfg : Cfg) (s : State) (as : List Int)
    (hp : ProperEpisode rnd cfg s as) :
    solvedSteps rnd cfg s as = if as ≠ [] ∧ levelComplete (runState rnd cfg s as) = true then 1 else 0 :=
  Sokoban.solvedSteps_proper rnd cfg s as hp

/-- the literal documented form for a proper, non-empty episode (exact arithmetic, dense reward):
return = −0.1·steps + (boxes on target at end − at start) + 10·[solved] -/
theorem sokoban_episode_return_proper (cfg : Cfg) (hd : cfg.dense = true) (s : State) (as : List Int)
    (hne : as ≠ []) (hp : ProperEpisode id cfg s as) :
    runReturn id cfg s as =
      (-1 / 10 : Rat) * (as.length : Rat) +
      (((countTargets (runState id cfg s as) : Int) - (countTargets s : Int) : Int) : Rat) +
      10 * (if levelComplete (runState id cfg s as) then 1 else 0) := by
  rw [Sokoban.run_return_dense cfg hd s as, Sokoban.solvedSteps_proper id cfg s as hp]
  cases h : levelComplete (runState id cfg s as) <;> simp [hne]

/-- the same with the rule-level count `boxesOnTarget` for a consistent start and actions 0..3 -/
theorem sokoban_episode_return_rules (cfg : Cfg) (hd : cfg.dense = true) (s : State) (as : List Int)
    (hc : Consistent cfg.n s) (ha : ValidActions as) :
    runReturn id cfg s as =
      (-1 / 10 : Rat) * (as.length : Rat) +
      (((boxesOnTarget cfg.n (runState id cfg s as) : Int) - (boxesOnTarget cfg.n s : Int) : Int) : Rat) +
      10 * ((solvedSteps id cfg s as : Nat) : Rat) := by
  have h := Sokoban.run_consistent id cfg s as ha hc
  rw [Sokoban.run_return_dense cfg hd s as, Sokoban.countTargets_eq cfg.n s hc.fshaped hc.vshaped,
    Sokoban.countTargets_eq cfg.n _ h.fshaped h.vshaped]

/-- with float32 rounding the return is not the exact telescoped number, but every step reward is
`rnd (k_t + rnd (−0.1))` for integers `k_t` (`runGains`) whose sum telescopes exactly — any `rnd`, state, actions -/
theorem sokoban_episode_return_rounded (rnd : Rat → Rat) (cfg : Cfg) (hd : cfg.dense = true) (s : State) (as : List Int) :
    runRewards rnd cfg s as = (runGains rnd cfg s as).map (fun k => rnd (((k : Int) : Rat) + rnd (-1 / 10))) ∧
    (runGains rnd cfg s as).sum =
      (countTargets (runState rnd cfg s as) : Int) - (countTargets s : Int) + 10 * (solvedSteps rnd cfg s as : Int) :=
  ⟨Sokoban.runRewards_dense rnd cfg hd s as, Sokoban.runGains_sum rnd cfg s as⟩

/-- SPARSE return: 10 per step whose successor is solved — any rounding, state, action sequence -/
theorem sokoban_episode_return_sparse (rnd : Rat → Rat) (cfg : Cfg) (hd : cfg.dense = false) (s : State) (as : List Int) :
    runReturn rnd cfg s as = 10 * ((solvedSteps rnd cfg s as : Nat) : Rat) := by
  unfold runReturn
  induction as generalizing s with
  | nil => simp [runRewards, solvedSteps]
  | cons a as ih =>
    simp only [runRewards, solvedSteps, List.sum_cons]
    rw [ih, Sokoban.step_reward, hd, Sokoban.reward_sparse, List.sum_singleton]
    split <;> simp <;> grind

/-- the form "10·[solved]" is FALSE for arbitrary action sequences: `step` accepts a solved state and pays the bonus on
every step whose successor is solved.  3×3 board with the 4 boxes on the 4 targets, two blocked moves (Up):
return = −0.2 + 0 + 20, not −0.2 + 0 + 10.  (`env.py` behaves the same; calling `step` after LAST is outside the
API protocol, so this is a limitation of the literal statement, not a defect.) -/
theorem sokoban_episode_return_literal_witness :
    ∃ (cfg : Cfg) (s : State) (as : List Int), cfg.dense = true ∧ Consistent cfg.n s ∧ ValidActions as ∧
      runReturn id cfg s as ≠
        (-1 / 10 : Rat) * (as.length : Rat) +
        (((countTargets (runState id cfg s as) : Int) - (countTargets s : Int) : Int) : Rat) +
        10 * (if levelComplete (runState id cfg s as) then 1 else 0) :=
  ⟨⟨3, 100, true⟩, ⟨[[1,2,2],[0,2,2],[0,0,0]], [[0,4,4],[3,4,4],[0,0,0]], (1, 0), 0⟩, [0, 0], by decide +kernel⟩

-- a proper episode whose last step pushes the fourth box onto its target (4×4; Down, Up, Left): it is solved and
-- the return is −0.3 + 1 + 10
example :
    let cfg : Cfg := ⟨4, 100, true⟩
    let s : State := ⟨[[2,2,0,0],[2,2,0,0],[0,0,0,0],[0,0,0,0]], [[4,4,0,0],[4,0,4,3],[0,0,0,0],[0,0,0,0]], (1, 3), 0⟩
    Consistent cfg.n s ∧ ProperEpisode id cfg s [2, 0, 3] ∧ levelComplete (runState id cfg s [2, 0, 3]) = true ∧
      runReturn id cfg s [2, 0, 3] = 107 / 10 := by
  decide +kernel
end Props.C09

namespace Props.C11
/-- the step counter advances by one on every step; a step that reaches the limit is LAST -/
theorem sokoban_step_count (rnd : Rat → Rat) (cfg : Cfg) (s : State) (a : Int) :
    (step rnd cfg s a).1.stepCount = s.stepCount + 1 ∧
    (s.stepCount + 1 ≥ cfg.timeLimit → (step rnd cfg s a).2.stepType = .last) :=
  Sokoban.step_count rnd cfg s a

/-- both directions: `step` answers LAST exactly when the successor is solved or the limit is reached — never
earlier; any state, any action value -/
theorem sokoban_last_iff (rnd : Rat → Rat) (cfg : Cfg) (s : State) (a : Int) :
    (step rnd cfg s a).2.stepType = .last ↔
      (levelComplete (step rnd cfg s a).1 = true ∨ cfg.timeLimit ≤ s.stepCount + 1) :=
  Sokoban.step_last_iff rnd cfg s a

/-- Sokoban as an abstract step system (Core/Episode.lean) with the two-sided single-step law -/
theorem sokoban_exact (rnd : Rat → Rat) (cfg : Cfg) :
    Ep.Exact (Ep.ofStep (step rnd cfg) (·.stepCount)) (fun _ => True)
      (fun s a => levelComplete (step rnd cfg s a).1 = true) .ge cfg.timeLimit :=
  Ep.Exact.of_step (fun _ _ h => h) (fun s a _ => (Sokoban.step_count rnd cfg s a).1)
    (fun s a _ => Sokoban.step_last_iff rnd cfg s a)

/-- whole episodes: from any state with counter 0, along ANY action list of length ≥ time_limit on which no step
before the limit produces a solved board, the first LAST timestep is emitted exactly at step number `time_limit` -/
theorem sokoban_episode_ends_exactly_at_limit (rnd : Rat → Rat) (cfg : Cfg) (hT : 0 < cfg.timeLimit) (s : State)
    (h0 : s.stepCount = 0) (as : List Int) (hlen : cfg.timeLimit ≤ as.length)
    (hno : ∀ (j : Nat) (a : Int), (j : Int) + 1 < cfg.timeLimit → as[j]? = some a →
      ¬ levelComplete (step rnd cfg ((Ep.ofStep (step rnd cfg) (·.stepCount)).stateAt s as j) a).1 = true) :
    Ep.firstLastTS ((Ep.rollout (step rnd cfg) s as).map (·.2)) = some cfg.timeLimit.toNat :=
  Ep.rollout_ends_exactly_at_limit (sokoban_exact rnd cfg) hT s trivial h0 as hlen hno

/-- … and never later, whatever happens: some step number `k ≤ time_limit` emits the first LAST -/
theorem sokoban_episode_ends_by_limit (rnd : Rat → Rat) (cfg : Cfg) (hT : 0 < cfg.timeLimit) (s : State)
    (h0 : s.stepCount = 0) (as : List Int) (hlen : cfg.timeLimit ≤ as.length) :
    ∃ k, Ep.firstLastTS ((Ep.rollout (step rnd cfg) s as).map (·.2)) = some k ∧ 0 < k ∧ (k : Int) ≤ cfg.timeLimit :=
  Ep.rollout_ends_by_limit (sokoban_exact rnd cfg).toLimited hT s trivial h0 as hlen

/-- LAST at the level of the RULES: from a consistent board, for every action 0..3, `step` answers LAST exactly when
the successor is a solved level — `IsSolution`: consistent and every box on a target, recomputed from the raw grids, not the L1
flag `levelComplete` — or the time limit is reached -/
theorem sokoban_last_iff_rules (rnd : Rat → Rat) (cfg : Cfg) (s : State) (a : Nat) (ha : a < 4)
    (hc : Consistent cfg.n s) :
    (step rnd cfg s a).2.stepType = .last ↔
      (IsSolution cfg.n (step rnd cfg s a).1 ∨ cfg.timeLimit ≤ s.stepCount + 1) := by
  rw [Sokoban.step_last_iff, Sokoban.levelComplete_iff_solution (Sokoban.step_consistent rnd cfg s a ha hc)]

/-- the two episode iterators coincide: the C11 theorems are stated on `Ep.rollout` / `Ep.ofStep … .run`, the C07 / C09 /
C01 theorems on `runState`; both iterate the same `step` -/
theorem sokoban_run_eq (rnd : Rat → Rat) (cfg : Cfg) (s : State) (as : List Int) :
    (Ep.ofStep (step rnd cfg) (·.stepCount)).run s as = runState rnd cfg s as := by
  induction as generalizing s with
  | nil => rfl
  | cons a t ih => exact ih _

-- three blocked moves with limit 3 on an unsolved board: MID, MID, LAST
example : Ep.firstLastTS ((Ep.rollout (step id ⟨3, 3, true⟩)
    ⟨[[1,2,2],[0,2,2],[0,0,0]], [[0,4,4],[3,4,0],[0,4,0]], (1, 0), 0⟩ [0, 0, 0]).map (·.2)) = some 3 := by decide +kernel
end Props.C11

namespace Props.C12
/-- the observation shows the variable and fixed grid and the step count of the successor state -/
theorem sokoban_obs_faithful (rnd : Rat → Rat) (cfg : Cfg) (s : State) (a : Int) :
    (step rnd cfg s a).2.obs = observe (step rnd cfg s a).1 := Sokoban.obs_faithful rnd cfg s a

/-- the same at `reset`: the FIRST timestep shows both grids and the counter of the generated state, and the
reset state IS the generated state -/
theorem sokoban_reset_obs_faithful (g : State) :
    (Sokoban.reset g).2.obs = observe (Sokoban.reset g).1 ∧ (Sokoban.reset g).2.stepType = .first ∧
    (Sokoban.reset g).1 = g := Sokoban.reset_obs_faithful g
end Props.C12

namespace Props.C01
/-- the reset observation (the generator's state `g`, `restart`) has every leaf inside the interval
`obsBounds cfg` lists for it: both planes of `grid` in `[0, 4]`, `step_count = 0 ≤ time_limit`.
Hypotheses: the generated board is consistent and its counter starts at 0. -/
theorem sokoban_reset_obs_in_bounds (cfg : Cfg) (g : State) (hc : Consistent cfg.n g) (h0 : g.stepCount = 0)
    (htl : 0 ≤ cfg.timeLimit) : ObsInBounds cfg (Sokoban.reset g).2.obs :=
  Sokoban.stateToObs_in_bounds cfg g hc (by omega)

/-- every step taken from a consistent state of a running episode (`step_count < time_limit`; `0 ≤ step_count`
is part of `Consistent`) with any action 0..3 (legal or not) emits an observation inside `obsBounds cfg` —
including the terminal step, where `step_count = time_limit` -/
theorem sokoban_step_obs_in_bounds (rnd : Rat → Rat) (cfg : Cfg) (s : State) (a : Nat) (ha : a < 4)
    (hc : Consistent cfg.n s) (h1 : s.stepCount < cfg.timeLimit) :
    ObsInBounds cfg (step rnd cfg s a).2.obs := by
  rw [Sokoban.obs_faithful]
  refine Sokoban.stateToObs_in_bounds cfg _ (Sokoban.step_consistent rnd cfg s a ha hc) ?_
  rw [(Sokoban.step_count rnd cfg s a).1]
  omega

example : Consistent 3 ⟨[[1,2,2],[0,2,2],[0,0,0]], [[0,4,4],[3,4,4],[0,0,0]], (1, 0), 0⟩ := by decide +kernel
/-- the bound on `step_count` is attained on the step that reaches the limit -/
example : (step id ⟨3, 1, false⟩ ⟨[[1,2,2],[0,2,2],[0,0,0]], [[0,4,4],[3,4,0],[0,4,0]], (1, 0), 0⟩ 1).2.obs.stepCount = 1 := by
  decide +kernel

/-! NOTE on what the membership theorems of this section do and do not cover: the dtype tag of every leaf
is written by `toNValue` (by construction) — a wrong dtype in the real code cannot falsify `….valid (toNValue …) = true`; dtypes and
field order of the real observations are compared by the `sokoban.spec` / `sokoban.state` ops (`nvalue`: field order, shape, dtype, data) and
`jax.eval_shape` in the sweeps.  Shapes are READ OFF the value by `toNValue` (widths off the first row): see `…_obs_valid_only`. -/

/-! #### membership in the model's `obsSpec`: structure, shapes, dtypes and bounds
(`obsSpec` is the declared spec at the catalogue configurations: `sokoban_obsSpec_generated`, Props/SpecTable.lean) -/
open Sp PzS

/-- the `reset` observation of every consistent generated level is accepted by `observation_spec.validate`: fields
`grid`, `step_count`; shapes `(n, n, 2)`, `()`; dtypes uint8, int32; cells in [0, 4] -/
theorem sokoban_reset_obs_valid (cfg : Cfg) (g : State) (hc : Consistent cfg.n g) :
    (obsSpec cfg).valid (toNValue cfg (Sokoban.reset g).2.obs) = true := Sokoban.obs_valid cfg g hc

/-- for EVERY valid draw of `ToyGenerator` and for `SimpleSolveGenerator` (GRID_SIZE = 10) -/
theorem sokoban_generated_reset_obs_valid (cfg : Cfg) (hn : cfg.n = 10) :
    (∀ idx s, toyGenerate idx = some s → (obsSpec cfg).valid (toNValue cfg (Sokoban.reset s).2.obs) = true) ∧
    (∀ s, simpleGenerate = some s → (obsSpec cfg).valid (toNValue cfg (Sokoban.reset s).2.obs) = true) :=
  ⟨fun _ s hg => Sokoban.obs_valid cfg s (by rw [hn]; exact Sokoban.cert_consistent (Sokoban.toy_cert_of_eq hg)),
   fun s hg => Sokoban.obs_valid cfg s (by rw [hn]; exact Sokoban.cert_consistent (Sokoban.simple_cert_of_eq hg))⟩

/-- every `step` observation from a consistent board, any action 0..3 (legal or not), any rounding, up to and including
the terminal step — and beyond (the declared `step_count` is an unbounded Array, so no hypothesis on the counter) -/
theorem sokoban_step_obs_valid (rnd : Rat → Rat) (cfg : Cfg) (s : State) (a : Nat) (ha : a < 4)
    (hc : Consistent cfg.n s) : (obsSpec cfg).valid (toNValue cfg (step rnd cfg s a).2.obs) = true :=
  Sokoban.step_obs_valid rnd cfg s a ha hc

/-- composed: every observation of every episode on a shipped toy level — any draw, any actions 0..3 played so far, any
further action 0..3 -/
theorem sokoban_toy_obs_valid_along (rnd : Rat → Rat) (cfg : Cfg) (hn : cfg.n = 10) (idx : Nat) (s : State)
    (hg : toyGenerate idx = some s) (as : List Int) (ha : ValidActions as) (a : Nat) (ha4 : a < 4) :
    (obsSpec cfg).valid (toNValue cfg (step rnd cfg (runState rnd cfg s as) a).2.obs) = true :=
  Sokoban.step_obs_valid rnd cfg _ a ha4
    (Sokoban.run_consistent rnd cfg s as ha (by rw [hn]; exact Sokoban.cert_consistent (Sokoban.toy_cert_of_eq hg)))

/-- what membership means: `validate` accepts an observation ONLY IF its planes have `n` rows, `n·n·2` cells in all,
every one in [0, 4].  CAVEAT: for every field that is a nested list, `toNValue` reads the widths off the FIRST row of the
nested list, so the shape conjuncts here mean "row count, length of the first row, total number of cells" — a ragged value with the right total can be a
member, and nothing is concluded about the later rows.  Rectangularity is part of the invariant (`Consistent`: both grids are `Grid.shaped`) under which the
forward theorems (`…_reset_obs_valid`, `…_step_obs_valid`, `…_along`) are proved, i.e. it holds of every EMITTED observation. -/
theorem sokoban_obs_valid_only (cfg : Cfg) (o : Obs) (h : (obsSpec cfg).valid (toNValue cfg o) = true) :
    List.length o.vgrid = cfg.n ∧ (stackLast o.vgrid o.fgrid).length = cfg.n * cfg.n * 2 ∧
    ∀ v ∈ stackLast o.vgrid o.fgrid, 0 ≤ v ∧ v ≤ 4 := Sokoban.obs_valid_only cfg o h

-- accepted: the 3×3 example; rejected: an encoding 5, a board of the wrong size
example :
    (obsSpec ⟨3, 9, true⟩).valid (toNValue ⟨3, 9, true⟩ ⟨[[0,4,4],[3,4,4],[0,0,0]], [[1,2,2],[0,2,2],[0,0,0]], 99⟩) = true ∧
    (obsSpec ⟨3, 9, true⟩).valid (toNValue ⟨3, 9, true⟩ ⟨[[0,5,4],[3,4,4],[0,0,0]], [[1,2,2],[0,2,2],[0,0,0]], 0⟩) = false ∧
    (obsSpec ⟨4, 9, true⟩).valid (toNValue ⟨4, 9, true⟩ ⟨[[0,4,4],[3,4,4],[0,0,0]], [[1,2,2],[0,2,2],[0,0,0]], 0⟩) = false := by
  decide +kernel

/-- `action_spec.generate_value()` = 0 ("up") is a member of the well-formed `DiscreteArray(4)`, and `step` answers it
in EVERY state with a protocol-conform timestep -/
theorem sokoban_accepts_generate_value (rnd : Rat → Rat) (cfg : Cfg) (s : State) :
    actionSpec.WF = true ∧ actionSpec.valid actionSpec.generate = true ∧
    actionSpec.generate = ⟨[], .int32, [0]⟩ ∧ StepOK none false (step rnd cfg s 0).2 = true :=
  Sokoban.accepts_generate_value rnd cfg s

/-- reward and discount of every `step` (ALL states, actions, roundings) are accepted by `reward_spec` / `discount_spec` -/
theorem sokoban_reward_discount_valid (rnd : Rat → Rat) (cfg : Cfg) (s : State) (a : Int) :
    PzS.rewardSpec.valid (scalarArr (step rnd cfg s a).2.reward) = true ∧
    discountSpec.valid (scalarArr (step rnd cfg s a).2.discount) = true := by
  refine stepOK_reward_discount_valid false _ ?_
  rw [Sokoban.step_snd]
  exact condLast_stepOK _ _ _
end Props.C01
