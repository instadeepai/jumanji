/-
Property theorems for PacMan (R model: the ghost policy is a draw `d`; the theorems hold for ALL draws, or for
all admissible ones — `validGhostDraw`, `validRun` — where they say so).  Lemmas in Env/PacMan/*Lemmas.lean.
-/
import JumanjiModel.Env.PacMan.Lemmas
import JumanjiModel.Env.PacMan.BoundsLemmas
import JumanjiModel.Env.PacMan.ConsistentLemmas
import JumanjiModel.Env.PacMan.MazeLemmas
import JumanjiModel.Gen.PacManMaze
import JumanjiModel.Env.PacMan.SpecLemmas
import JumanjiModel.Core.EpisodeLemmas
open Jm PacMan

namespace Props.C04
/-- the mask bit of action `a` is set exactly when the rules (move into a non-wall cell, wrapping
around at the borders) allow it — for every rectangular 0/1 maze whose last row/column mirrors
the first (every tunnel has two open ends).  Without `BorderSymmetric` the statement is FALSE:
the mask clamps at the border where `step` wraps (see `pacman_mask_one_sided_witness`). -/
theorem pacman_mask_iff_legal (s : State) (a : Nat) (ha : a ≤ 4)
    (hs : Jx.Grid.shaped s.grid (xSize s.grid) (ySize s.grid) = true) (hp : Inside s)
    (hbin : Binary s.grid) (hb : BorderSymmetric s.grid) :
    (maskOf s).getD a false = true ↔ legal s a := PacMan.mask_iff_legal s a ha hs hp hbin hb

/-- the wall test `step` applies agrees with the rules: an action is legal iff the player moves -/
theorem pacman_step_agrees (s : State) (a : Nat) (ha : a ≤ 4)
    (hs : Jx.Grid.shaped s.grid (xSize s.grid) (ySize s.grid) = true) (hp : Inside s)
    (hX : 2 ≤ xSize s.grid) (hY : 2 ≤ ySize s.grid) :
    legal s a ↔ nextPlayer s (a : Int) ≠ s.player := PacMan.legal_iff_moves s a ha hs hp hX hY

/-- the same about the `step` function itself (`pacman_step_agrees` speaks about the helper `nextPlayer`), for
every time limit and every ghost draw -/
theorem pacman_step_moves_iff_legal (tl : Int) (s : State) (a : Nat) (d : Draw) (ha : a ≤ 4)
    (hs : Jx.Grid.shaped s.grid (xSize s.grid) (ySize s.grid) = true) (hp : Inside s)
    (hX : 2 ≤ xSize s.grid) (hY : 2 ≤ ySize s.grid) :
    (legal s a ↔ (step tl s (a : Int) d).1.player ≠ s.player) ∧
    (¬ legal s a ↔ (step tl s (a : Int) d).1.player = s.player) := by
  rw [PacMan.step_player]
  have h := PacMan.legal_iff_moves s a ha hs hp hX hY
  exact ⟨h, by rw [h]; exact Decidable.not_not⟩

/-- whole episodes, for ANY maze table satisfying the C10 specification whose borders mirror each other: in every state of every
episode from `reset` every mask bit is set exactly when the rules allow the action.  `hv` is not used (this is
`PacMan.mask_iff_legal_along`, which knows no `validRun`): the mask depends on the maze and the player only, and the player stays
on a free cell whatever the ghosts do, so the statement also covers the episodes on a table with a dead end in which the real
ghosts walk into walls (`Props.C10.pacman_dead_end_ghost_witness`), about which the C07 theorems say nothing. -/
theorem pacman_mask_iff_legal_along_of_table (t : MazeTable) (h : MazeTableOK t) (hb : BorderSymmetric t.grid) (tl : Int)
    (ads : List (Int × Draw)) (hv : validRun tl (PacMan.reset t.toState).1 ads = true) :
    ∀ s' ∈ trace tl (PacMan.reset t.toState).1 ads, ∀ a : Nat, a ≤ 4 →
      ((maskOf s').getD a false = true ↔ legal s' a) :=
  PacMan.mask_iff_legal_along tl ads _ h.shaped h.player_free h.binary hb

/-- the shipped maze: the hypotheses of `pacman_mask_iff_legal` hold in EVERY state of EVERY episode of the shipped
maze (start state = what the real `reset` returns; any actions, any time limit; `hv` is not used, the ghost draws need not
be admissible), so there every mask bit is set exactly when the rules allow the action: the shipped maze is rectangular, 0/1,
its borders mirror each other (checked by the kernel), it never changes, and the player stays inside it -/
theorem pacman_mask_iff_legal_along (tl : Int) (ads : List (Int × Draw))
    (hv : validRun tl (PacMan.reset Gen.PacManMaze.table.toState).1 ads = true) :
    ∀ s' ∈ trace tl (PacMan.reset Gen.PacManMaze.table.toState).1 ads, ∀ a : Nat, a ≤ 4 →
      ((maskOf s').getD a false = true ↔ legal s' a) :=
  pacman_mask_iff_legal_along_of_table _ (PacMan.tableCheck_sound _ _ Gen.PacManMaze.table_ok) (by decide +kernel)
    tl ads hv

def pacmanWit : State :=
  { grid := [[0, 0, 0], [0, 1, 1], [0, 0, 0]], pellets := 0, frightened := 0, pelletLocs := [], powerUps := [],
    player := (1, 2), ghosts := [], initGhosts := [], oldGhosts := [], ghostInitSteps := [], ghostActions := [],
    lastDirection := 0, dead := false, ghostStarts := [], stepCount := 0, ghostEaten := [], score := 0 }

/-- a tunnel with one open end: the mask offers "column+1" at the right border although `step`
(wrap-around) runs into the wall on the other side -/
theorem pacman_mask_one_sided_witness :
    (maskOf pacmanWit).getD 3 false = true ∧ ¬ legal pacmanWit 3 ∧ nextPlayer pacmanWit 3 = pacmanWit.player := by decide

example : legal pacmanWit 1 ∧ Jx.Grid.shaped pacmanWit.grid 3 3 = true := by decide
example : Inside pacmanWit := by unfold Inside; decide
end Props.C04

namespace Props.C05
/-- an illegal action is ignored: the player keeps its cell, the maze is untouched and only a
pellet / power-up lying on the player's own cell can disappear (`hX`, `hY` are not used) -/
theorem pacman_illegal_ignored (tl : Int) (s : State) (a : Nat) (d : Draw) (ha : a ≤ 4)
    (hs : Jx.Grid.shaped s.grid (xSize s.grid) (ySize s.grid) = true) (hp : Inside s)
    (hX : 2 ≤ xSize s.grid) (hY : 2 ≤ ySize s.grid) (hill : ¬ legal s a) :
    IllegalIgnored s (step tl s (a : Int) d).1 := PacMan.illegal_ignored tl s a d ha hs hp hX hY hill

/-- the same from the invariant that `reset` establishes and every step preserves (`Consistent`:
`pacman_reset_consistent`, `pacman_trace_consistent`): in every consistent state (of a maze with at least two rows and
columns: `hX`, `hY`, which the proof does not use), every illegal action 0..4 is ignored — hence in every state of every episode
of the shipped maze -/
theorem pacman_illegal_ignored_of_consistent (tl : Int) (s : State) (a : Nat) (d : Draw) (ha : a ≤ 4)
    (hC : Consistent s) (hX : 2 ≤ xSize s.grid) (hY : 2 ≤ ySize s.grid) (hill : ¬ legal s a) :
    IllegalIgnored s (step tl s (a : Int) d).1 :=
  PacMan.illegal_ignored tl s a d ha hC.1 (PacMan.inside_of_free hC.2.2.2.1) hX hY hill
end Props.C05

namespace Props.C07
/-- (partial: player only; for the ghosts' cells see `pacman_step_consistent`, conditional on `validGhostDraw`) the player never
enters a wall or leaves the maze, whatever in-spec action is played and whatever the ghosts do (`ha` is not used:
`pacman_player_stays_free` is the statement for every action value) -/
theorem pacman_player_stays_free_partial (tl : Int) (s : State) (a : Nat) (d : Draw) (ha : a ≤ 4)
    (hs : Jx.Grid.shaped s.grid (xSize s.grid) (ySize s.grid) = true)
    (hf : free s.grid s.player.1 s.player.2) :
    free (step tl s (a : Int) d).1.grid (step tl s (a : Int) d).1.player.1 (step tl s (a : Int) d).1.player.2 :=
  PacMan.nextPlayer_free s a hs (inside_of_free hf).pos.1 (inside_of_free hf).pos.2 hf

/-- the maze and the ghosts' origins are never modified -/
theorem pacman_maze_fixed (tl : Int) (s : State) (a : Int) (d : Draw) :
    (step tl s a d).1.grid = s.grid ∧ (step tl s a d).1.initGhosts = s.initGhosts :=
  ⟨rfl, rfl⟩

/-- the consistency predicate (rectangular maze; player, the four ghosts and their origins on free cells
inside it; remaining pellets / power-ups on free cells; when cell (0,0) is a wall the pellet counter is the
number of remaining pellets) is preserved by EVERY step: all states, any action value, any time limit, any
admissible ghost draw (each ghost stays or moves to a walkable neighbour).  Extra hypothesis `hN`: no pellet
cell is listed twice — preserved as well, holds for every generated state (`pacman_reset_nodup`) and is
needed (`pacman_step_consistent_needs_nodup`). -/
theorem pacman_step_consistent (tl : Int) (s : State) (a : Int) (d : Draw) (hC : Consistent s)
    (hN : (nonzero s.pelletLocs).Nodup) (hd : validGhostDraw s d = true) :
    Consistent (step tl s a d).1 ∧ (nonzero (step tl s a d).1.pelletLocs).Nodup :=
  PacMan.step_consistent tl s a d hC hN hd

/-- the player part of the above for every action value (the `_partial` statement above restricted `a ≤ 4`) -/
theorem pacman_player_stays_free (tl : Int) (s : State) (a : Int) (d : Draw)
    (hs : Jx.Grid.shaped s.grid (xSize s.grid) (ySize s.grid) = true)
    (hx : 0 < xSize s.grid) (hy : 0 < ySize s.grid) (hf : free s.grid s.player.1 s.player.2) :
    free (step tl s a d).1.grid (step tl s a d).1.player.1 (step tl s a d).1.player.2 :=
  PacMan.nextPlayer_free s a hs hx hy hf

/-- a 3 × 4 maze with one corridor; the four ghosts share its right end -/
def pacmanCEx : State :=
  { grid := [[0, 0, 0, 0], [0, 1, 1, 1], [0, 0, 0, 0]], pellets := 2, frightened := 0,
    pelletLocs := [(1, 1), (2, 1), (0, 0)], powerUps := [(3, 1)], player := (1, 2),
    ghosts := [(3, 1), (3, 1), (3, 1), (3, 1)], initGhosts := [(3, 1), (3, 1), (3, 1), (3, 1)],
    oldGhosts := [(3, 1), (3, 1), (3, 1), (3, 1)], ghostInitSteps := [0, 0, 0, 0], ghostActions := [1, 1, 1, 1],
    lastDirection := 0, dead := false, ghostStarts := [0, 0, 0, 0], stepCount := 0,
    ghostEaten := [true, true, true, true], score := 0 }
/-- ghosts 0 and 1 move to the neighbouring free cell, ghosts 2 and 3 stay -/
def pacmanCDraw : Draw := { paths := [(2, 1), (2, 1), (3, 1), (3, 1)], actions := [1, 1, 4, 4] }

example : Consistent pacmanCEx ∧ (nonzero pacmanCEx.pelletLocs).Nodup ∧
    validGhostDraw pacmanCEx pacmanCDraw = true := by decide
example : Consistent (step 10 pacmanCEx 1 pacmanCDraw).1 ∧ (step 10 pacmanCEx 1 pacmanCDraw).1.pellets = 1 := by
  decide +kernel

/-- the same maze with the pellet cell (1,1) listed twice (counter 2) -/
def pacmanCDup : State := { pacmanCEx with pelletLocs := [(1, 1), (1, 1)] }
def pacmanCStay : Draw := { paths := pacmanCDup.ghosts, actions := [4, 4, 4, 4] }

/-- without `hN` the statement is false: with a pellet cell listed twice, eating it zeroes both entries but
decrements the counter once, so the successor state is not consistent (counter 1, no pellet left) -/
theorem pacman_step_consistent_needs_nodup :
    Consistent pacmanCDup ∧ validGhostDraw pacmanCDup pacmanCStay = true ∧
    Jx.Grid.get pacmanCDup.grid 1 0 0 = 0 ∧ ¬ (nonzero pacmanCDup.pelletLocs).Nodup ∧
    ¬ Consistent (step 10 pacmanCDup 1 pacmanCStay).1 := by decide +kernel

/-- the ASCII parser enumerates distinct cells -/
theorem pacman_cellsWith_nodup (maze : List (List Char)) (p : Char → Bool) : (cellsWith maze p).Nodup :=
  PacMan.cellsWith_nodup maze p

/-- every state the ASCII generator builds lists no pellet cell twice (hypothesis `hN` of
`pacman_step_consistent`) -/
theorem pacman_reset_nodup (maze : List (List Char)) (s : State) (h : resetState maze = some s) :
    (nonzero s.pelletLocs).Nodup := by
  unfold resetState at h
  simp only [Option.map_eq_some_iff] at h
  obtain ⟨pl, _, rfl⟩ := h
  exact PacMan.nodup_nonzero (l := cellsWith maze (· ≠ 'X')) (PacMan.cellsWith_nodup maze _)
end Props.C07

namespace Props.C10
/-- the executable checker of a maze table is sound, for EVERY table and certificate: if `tableCheck t dist` evaluates
to `true` then the maze is a non-empty rectangle of 0/1 cells, the player start and the four ghost starts lie inside
it on free cells, the player start is not a ghost start, all pellets / power-ups lie on free cells and are pairwise
distinct, the four scatter targets lie on free cells, and every free cell is reached from the player start by a
sequence of legal moves (4-connectivity with the tunnel wrap-around).  `dist` is only a hint (distances from the
start); nothing is assumed about it. -/
theorem pacman_table_check_sound (t : MazeTable) (dist : DistCert) (h : tableCheck t dist = true) : MazeTableOK t :=
  PacMan.tableCheck_sound t dist h

/-- the shipped maze: the table generated from the real `reset` of `PacMan()` (Gen/PacManMaze.lean) satisfies the
specification — the checker is evaluated on it by the kernel (`Gen.PacManMaze.table_ok`) -/
theorem pacman_default_maze_ok : MazeTableOK Gen.PacManMaze.table :=
  PacMan.tableCheck_sound _ _ Gen.PacManMaze.table_ok

/-- spelled out: every free cell of the shipped maze is reached from the player start (row 23, column 13) by legal
moves -/
theorem pacman_default_maze_connected (x y : Int) (hf : free Gen.PacManMaze.grid x y) :
    Reach Gen.PacManMaze.grid Gen.PacManMaze.table.player (x, y) := pacman_default_maze_ok.connected x y hf

/-- the generated table is what the model's transliteration of the ASCII parser / `AsciiGenerator.__call__`
(`resetState`, compared with the implementation by `pac_man.instance`) builds from `constants.DEFAULT_MAZE` -/
theorem pacman_default_maze_reset :
    resetState (Gen.PacManMaze.ascii.map String.toList) = some Gen.PacManMaze.table.toState := by
  rw [PacMan.resetState_eq_ofAscii, Gen.PacManMaze.ascii_table]; rfl

/-- for ANY maze table satisfying the specification, the state `reset` returns satisfies the consistency predicate
of C07 and lists no pellet cell twice (the two hypotheses of `pacman_step_consistent`).  (About the RESET state only; that the
ghosts stay on free cells afterwards is assumed by `validGhostDraw`, which real episodes meet only on tables without a dead
end: `pacman_dead_end_ghost_witness`.) -/
theorem pacman_reset_consistent (t : MazeTable) (h : MazeTableOK t) :
    Consistent (PacMan.reset t.toState).1 ∧ (nonzero (PacMan.reset t.toState).1.pelletLocs).Nodup :=
  PacMan.reset_consistent t h

/-- connectivity is realised by the L1 step function: for ANY maze table satisfying the specification and every free
cell there is a sequence of actions 0..3 which, played from `reset` through `step`, puts the player on that cell —
for every time limit and whatever the ghosts do (`step` as a state function: the step types of the episode, which
may end earlier by a ghost collision or the time limit, are not considered) -/
theorem pacman_all_cells_walkable (t : MazeTable) (h : MazeTableOK t) (x y : Int) (hf : free t.grid x y) :
    ∃ as : List Int, (∀ a ∈ as, 0 ≤ a ∧ a < 4) ∧
      ∀ (tl : Int) (ds : List Draw), ds.length = as.length →
        ∃ s', (trace tl (PacMan.reset t.toState).1 (as.zip ds)).getLast? = some s' ∧ s'.player = (x, y) := by
  obtain ⟨as, hall, hw⟩ := reach_walk t.toState h.shaped h.player_free (x, y) (h.connected x y hf)
  refine ⟨as, hall, fun tl ds hl => ?_⟩
  obtain ⟨s', h1, h2, _⟩ := trace_last_player tl (as.zip ds) (PacMan.reset t.toState).1
  refine ⟨s', h1, ?_⟩
  have hm : (as.zip ds).map (·.1) = as := List.map_fst_zip (by omega)
  rw [h2, hm]
  exact hw

/-- a 5 × 5 maze: a ring with a horizontal tunnel (row 1) -/
def pacmanRing : MazeTable :=
  { grid := [[0, 0, 0, 0, 0], [1, 1, 1, 1, 1], [0, 1, 0, 1, 0], [0, 1, 1, 1, 0], [0, 0, 0, 0, 0]],
    player := (1, 0), ghosts := [(1, 3), (2, 3), (3, 3), (3, 2)], pellets := [(0, 1), (1, 1), (4, 1), (2, 3)],
    powerUps := [(4, 1)], scatter := [(0, 1), (4, 1), (1, 3), (3, 3)] }
example : tableCheck pacmanRing (bfsDist pacmanRing.grid pacmanRing.player) = true := by decide +kernel
/-- the tunnel is used: (column 4, row 1) is one move away from the start (column 0, row 1) -/
example : bfsDist pacmanRing.grid pacmanRing.player =
    [[0, 0, 0, 0, 0], [0, 1, 2, 2, 1], [0, 2, 0, 3, 0], [0, 3, 4, 4, 0], [0, 0, 0, 0, 0]] := by decide +kernel
/-- the checker rejects the ring with the cell (row 3, column 2) replaced by a wall and (row 4, column 2) opened:
that cell is free but cut off -/
example : tableCheck { pacmanRing with grid := [[0, 0, 0, 0, 0], [1, 1, 1, 1, 1], [0, 1, 0, 1, 0], [0, 1, 0, 1, 0], [0, 0, 1, 0, 0]],
                                       ghosts := [(1, 3), (1, 3), (3, 3), (3, 2)], pellets := [(0, 1)] }
    (bfsDist [[0, 0, 0, 0, 0], [1, 1, 1, 1, 1], [0, 1, 0, 1, 0], [0, 1, 0, 1, 0], [0, 0, 1, 0, 0]] (1, 0)) = false := by decide +kernel

/-! #### dead ends.  `MazeTableOK` (the C10 specification) does NOT exclude dead ends; `ghostMoveOK` — the hypothesis
of every whole-episode C07 / C04 / C01 theorem — is what the real ghost policy does only on mazes without one. -/

/-- the shipped maze (and the ring example) have no dead end: every free cell has at least two free neighbours -/
theorem pacman_default_maze_no_dead_end :
    noDeadEndB Gen.PacManMaze.grid = true ∧ noDeadEndB pacmanRing.grid = true := by
  refine ⟨by decide +kernel, by decide +kernel⟩

/-- a 7 × 12 `AsciiGenerator` maze with one dead end (row 1, column 9): four ghosts, player, four scatter targets, all free cells
connected -/
def pacmanDeadEndAscii : List String := [
 "XXXXXXXXXXXX",
 "XG        XX",
 "X XXXXXXXXXX",
 "XGG G  TTTTX",
 "X XXXXXXXXXX",
 "XSSSSOOOOP X",
 "XXXXXXXXXXXX"]
def pacmanDeadEnd : MazeTable :=
  (MazeTable.ofAscii (pacmanDeadEndAscii.map String.toList)).getD ⟨[], (0, 0), [], [], [], []⟩

/-- WITNESS (a C07 finding about /repo on a custom maze, DESIGN 11.9 (d)): the dead-end maze is parsed, SATISFIES the C10 specification (`tableCheck`, hence
`MazeTableOK`) and has mirrored borders — all hypotheses on the table of the `_of_table` theorems — but has a dead end, and the
move the REAL code makes there (seed 0, step 10: ghost 0 from (column 9, row 1) into the WALL (column 9, row 0)) is not
admissible: `ghostMoveOK = false`, so
`validGhostDraw` fails for every draw containing it and `validRun` is false for the real episode — the `_of_table` theorems
are vacuous there, and the real environment violates C07 (a ghost on a wall cell). -/
theorem pacman_dead_end_ghost_witness :
    (MazeTable.ofAscii (pacmanDeadEndAscii.map String.toList)).isSome = true ∧
    tableCheck pacmanDeadEnd (bfsDist pacmanDeadEnd.grid pacmanDeadEnd.player) = true ∧
    BorderSymmetric pacmanDeadEnd.grid ∧
    noDeadEndB pacmanDeadEnd.grid = false ∧
    freeCR pacmanDeadEnd.grid (9, 1) ∧ ¬ freeCR pacmanDeadEnd.grid (9, 0) ∧
    ((neighbours pacmanDeadEnd.grid (9, 1)).filter (fun c => decide (freeCR pacmanDeadEnd.grid c))) = [(8, 1)] ∧
    ghostMoveOK pacmanDeadEnd.grid (9, 1) (9, 0) (-9) = false := by
  -- one evaluation for all conjuncts: the kernel parses the diagram once and reuses the table
  decide +kernel

/-- … and `MazeTableOK pacmanDeadEnd` holds, so the table is in the scope of `pacman_run_consistent_of_table` -/
theorem pacman_dead_end_table_ok : MazeTableOK pacmanDeadEnd :=
  PacMan.tableCheck_sound _ _ pacman_dead_end_ghost_witness.2.1

/-- consequence, stated on a state: for ANY state on that maze with ghost 0 at (column 9, row 1) (active: start counter ≤ 0) there
is no admissible draw whose first path is the wall cell the real policy picks (`hst0` is not used: a ghost whose start counter
is positive may not move at all) -/
theorem pacman_dead_end_draw_not_valid (s : State) (d : Draw) (hg : s.grid = pacmanDeadEnd.grid)
    (gs : List CR) (hs : s.ghosts = (9, 1) :: gs) (ps : List CR) (hp : d.paths = (9, 0) :: ps)
    (st : Int) (sts : List Int) (hst : s.ghostStarts = st :: sts) (hst0 : st ≤ 0) :
    validGhostDraw s d = false := by
  have hmv : ghostMoveOK pacmanDeadEnd.grid (9, 1) (9, 0) st = false := by
    have h1 : ¬ freeCR pacmanDeadEnd.grid (9, 0) := pacman_dead_end_ghost_witness.2.2.2.2.2.1
    simp [ghostMoveOK, h1]
  unfold validGhostDraw
  rw [hs, hp, hst, hg]
  simp [hmv]
end Props.C10

namespace Props.C07
/-- whole episodes, generic: from a consistent state without duplicate pellet cells, every state of every episode
(any action values, any time limit, any length, ghost draws admissible where they are used) is consistent, lists no
pellet twice and has the maze of the start state — induction over the episode with `pacman_step_consistent`.  The ghost
conjunct ("ghosts on free cells") is what `validRun` / `ghostMoveOK` ASSUMES of every ghost move. -/
theorem pacman_trace_consistent (tl : Int) (s : State) (ads : List (Int × Draw)) (hC : Consistent s)
    (hN : (nonzero s.pelletLocs).Nodup) (hv : validRun tl s ads = true) :
    ∀ s' ∈ trace tl s ads, Consistent s' ∧ (nonzero s'.pelletLocs).Nodup ∧ s'.grid = s.grid :=
  PacMan.trace_consistent tl ads s hC hN hv

/-- whole episodes from `reset`, for ANY maze table satisfying the C10 specification — CONDITIONAL on `validRun`: the ghost
conjunct of `Consistent` (ghosts on free cells) is ASSUMED move by move through `ghostMoveOK`, not derived from the ghost policy.
The real policy satisfies `ghostMoveOK` only on tables without a dead end (`noDeadEndB`); on a table WITH a dead
end — which `MazeTableOK` allows — real ghosts end on wall cells (C07 violated by the real code, DESIGN 11.9 (d)) and this
theorem is vacuous for such episodes: `Props.C10.pacman_dead_end_ghost_witness`. -/
theorem pacman_run_consistent_of_table (t : MazeTable) (h : MazeTableOK t) (tl : Int) (ads : List (Int × Draw))
    (hv : validRun tl (PacMan.reset t.toState).1 ads = true) :
    ∀ s' ∈ trace tl (PacMan.reset t.toState).1 ads, Consistent s' ∧ (nonzero s'.pelletLocs).Nodup ∧ s'.grid = t.grid :=
  PacMan.trace_consistent tl ads _ (PacMan.reset_consistent t h).1 (PacMan.reset_consistent t h).2 hv

/-- the shipped maze: every state of every episode of `PacMan()` (start state = the state the real `reset` returns,
Gen/PacManMaze.lean) is consistent: the player and the four ghosts stay inside the maze on free cells, the remaining
pellets / power-ups lie on free cells, the pellet counter is the number of remaining pellets (cell (0,0) of the
shipped maze is a wall), the maze never changes.  The GHOST conjunct is assumed via `ghostMoveOK` inside `validRun`;
the shipped maze has no dead end (`Props.C10.pacman_default_maze_no_dead_end`), which is when the real ghost policy meets it. -/
theorem pacman_run_consistent (tl : Int) (ads : List (Int × Draw))
    (hv : validRun tl (PacMan.reset Gen.PacManMaze.table.toState).1 ads = true) :
    ∀ s' ∈ trace tl (PacMan.reset Gen.PacManMaze.table.toState).1 ads,
      Consistent s' ∧ (nonzero s'.pelletLocs).Nodup ∧ s'.grid = Gen.PacManMaze.grid :=
  pacman_run_consistent_of_table _ Props.C10.pacman_default_maze_ok tl ads hv

/-- the hypothesis is satisfiable on the shipped maze: two steps with the ghosts staying put -/
example : validRun 1000 (PacMan.reset Gen.PacManMaze.table.toState).1
    [(1, ⟨Gen.PacManMaze.table.ghosts, [4, 4, 4, 4]⟩), (3, ⟨Gen.PacManMaze.table.ghosts, [4, 4, 4, 4]⟩)] = true := by
  decide +kernel
example : validRun 10 pacmanCEx [(1, pacmanCDraw)] = true := by decide +kernel
/-- the hypotheses of `Props.C05.pacman_illegal_ignored_of_consistent` are satisfiable: in the corridor example "row − 1"
(action 0) runs into a wall — illegal — and the state is consistent on a maze with ≥ 2 rows and columns -/
example : Consistent pacmanCEx ∧ ¬ legal pacmanCEx 0 ∧ 2 ≤ xSize pacmanCEx.grid ∧ 2 ≤ ySize pacmanCEx.grid := by decide
end Props.C07

namespace Props.C11
/-- the step counter advances by one and the timestep is LAST as soon as it reaches `time_limit` -/
theorem pacman_time_limit (tl : Int) (s : State) (a : Int) (d : Draw) :
    (step tl s a d).1.stepCount = s.stepCount + 1 ∧
    (s.stepCount + 1 ≥ tl → (step tl s a d).2.stepType = .last) := PacMan.time_limit tl s a d

/-- both directions: `step` answers LAST exactly when the player is dead in the successor, or no pellet is
left, or the limit is reached — never earlier; any state, action value and ghost draw -/
theorem pacman_last_iff (tl : Int) (s : State) (a : Int) (d : Draw) :
    (step tl s a d).2.stepType = .last ↔
      (((step tl s a d).1.dead = true ∨ (step tl s a d).1.pellets = 0) ∨ tl ≤ s.stepCount + 1) :=
  PacMan.step_last_iff tl s a d

/-- the "other cause" `dead` of `pacman_last_iff` / `pacman_exact` at the level of the RULES, for ALL states, actions
and draws: the player is dead in the successor exactly when the ghosts are not frightened (`frightened_state_time ≤ 0`) and some
ghost `i` TOUCHES the player — its new cell is the player's new cell, or its new cell is the player's old cell, or its old cell
is the player's new cell (`touches`; `i` ranges over the common length of the four per-ghost lists, 4 in every consistent state) -/
theorem pacman_dead_iff (tl : Int) (s : State) (a : Int) (d : Draw) :
    (step tl s a d).1.dead = true ↔
      (s.frightened ≤ 0 ∧ ∃ (i : Nat) (p o q : CR) (e : Bool), d.paths[i]? = some p ∧ s.initGhosts[i]? = some o ∧
        s.oldGhosts[i]? = some q ∧ s.ghostEaten[i]? = some e ∧ touches s (nextPlayer s a) p q) :=
  ghostCollisions_any_done s (nextPlayer s a) d.paths s.initGhosts s.oldGhosts s.ghostEaten

/-- LAST with every cause at the level of the rules: a ghost touches the unprotected player, or the last pellet is eaten, or the
limit is reached -/
theorem pacman_last_iff_rules (tl : Int) (s : State) (a : Int) (d : Draw) :
    (step tl s a d).2.stepType = .last ↔
      (((s.frightened ≤ 0 ∧ ∃ (i : Nat) (p o q : CR) (e : Bool), d.paths[i]? = some p ∧ s.initGhosts[i]? = some o ∧
          s.oldGhosts[i]? = some q ∧ s.ghostEaten[i]? = some e ∧ touches s (nextPlayer s a) p q) ∨
        (step tl s a d).1.pellets = 0) ∨ tl ≤ s.stepCount + 1) := by
  rw [pacman_last_iff, pacman_dead_iff]

/-- a one-corridor example (player at (row 1, column 0) standing still, four ghosts): no ghost touches → alive; ghost 0 steps onto the
player's cell (column 0, row 1) → dead; the same while the ghosts are frightened → alive -/
def pacmanDeadEx : State :=
  { grid := [[0,0,0,0],[1,1,1,1],[0,0,0,0]], pellets := 0, frightened := 0, pelletLocs := [], powerUps := [], player := (1,0),
    ghosts := [(3,1),(3,1),(3,1),(3,1)], initGhosts := [(3,1),(3,1),(3,1),(3,1)], oldGhosts := [(3,1),(3,1),(3,1),(3,1)],
    ghostInitSteps := [0,0,0,0], ghostActions := [4,4,4,4], lastDirection := 0, dead := false, ghostStarts := [0,0,0,0],
    stepCount := 0, ghostEaten := [true,true,true,true], score := 0 }
example : (step 10 pacmanDeadEx 4 ⟨[(3,1),(3,1),(3,1),(3,1)],[4,4,4,4]⟩).1.dead = false ∧
    (step 10 pacmanDeadEx 4 ⟨[(0,1),(3,1),(3,1),(3,1)],[4,4,4,4]⟩).1.dead = true ∧
    (step 10 { pacmanDeadEx with frightened := 5 } 4 ⟨[(0,1),(3,1),(3,1),(3,1)],[4,4,4,4]⟩).1.dead = false := by
  refine ⟨by decide +kernel, by decide +kernel, by decide +kernel⟩

/-- PacMan as an abstract step system (Core/Episode.lean; the ghost draw is part of the action) with the two-sided
single-step law -/
theorem pacman_exact (tl : Int) :
    Ep.Exact (Ep.ofStep (fun (s : State) (ad : Int × Draw) => step tl s ad.1 ad.2) (·.stepCount)) (fun _ => True)
      (fun s ad => (step tl s ad.1 ad.2).1.dead = true ∨ (step tl s ad.1 ad.2).1.pellets = 0) .ge tl :=
  Ep.Exact.of_step (fun _ _ h => h) (fun s ad _ => (PacMan.time_limit tl s ad.1 ad.2).1)
    (fun s ad _ => PacMan.step_last_iff tl s ad.1 ad.2)

/-- whole episodes: from any state with counter 0, along ANY list of (action, ghost draw) pairs of length ≥ time_limit
on which no step before the limit kills the player or eats the last pellet, the first LAST timestep is emitted exactly
at step number `time_limit` -/
theorem pacman_episode_ends_exactly_at_limit (tl : Int) (hT : 0 < tl) (s : State) (h0 : s.stepCount = 0)
    (ads : List (Int × Draw)) (hlen : tl ≤ ads.length)
    (hno : ∀ (j : Nat) (ad : Int × Draw), (j : Int) + 1 < tl → ads[j]? = some ad →
      let sj := (Ep.ofStep (fun (s : State) (ad : Int × Draw) => step tl s ad.1 ad.2) (·.stepCount)).stateAt s ads j
      ¬ ((step tl sj ad.1 ad.2).1.dead = true ∨ (step tl sj ad.1 ad.2).1.pellets = 0)) :
    Ep.firstLastTS ((Ep.rollout (fun (s : State) (ad : Int × Draw) => step tl s ad.1 ad.2) s ads).map (·.2))
      = some tl.toNat :=
  Ep.rollout_ends_exactly_at_limit (pacman_exact tl) hT s trivial h0 ads hlen hno

-- three no-ops with limit 3 in the corridor example (the ghosts stay put, far from the player): MID, MID, LAST
example : Ep.firstLastTS ((Ep.rollout (fun (s : State) (ad : Int × Draw) => step 3 s ad.1 ad.2)
    { Props.C07.pacmanCEx with player := (1, 1), ghostStarts := [9, 9, 9, 9] }
    [(4, ⟨[(3, 1), (3, 1), (3, 1), (3, 1)], [4, 4, 4, 4]⟩), (4, ⟨[(3, 1), (3, 1), (3, 1), (3, 1)], [4, 4, 4, 4]⟩),
     (4, ⟨[(3, 1), (3, 1), (3, 1), (3, 1)], [4, 4, 4, 4]⟩)]).map (·.2)) = some 3 := by decide +kernel
end Props.C11

namespace Props.C12
/-- the observation is the documented function of the successor state (copied fields + mask) -/
theorem pacman_obs_faithful (tl : Int) (s : State) (a : Int) (d : Draw) :
    (step tl s a d).2.obs = observe (step tl s a d).1 := PacMan.obs_faithful tl s a d

/-- at the strength of the RULES (`observe` computes the mask with the L1 function `maskOf`): the mask shown in the
observation emitted by `step` is exactly the set of moves the rules allow in the SUCCESSOR state — from every
consistent state on a 0/1 maze whose borders mirror each other (which `reset` establishes for the shipped maze and every
step preserves), any action value, any ghost draw.  `hN`, `hd` and all of `hC` but the maze's shape and the player's cell are
not used: this is `PacMan.obs_mask_documented` -/
theorem pacman_obs_mask_documented (tl : Int) (s : State) (a : Int) (d : Draw) (hC : Consistent s)
    (hN : (nonzero s.pelletLocs).Nodup) (hbin : BinaryCells s.grid) (hb : BorderSymmetric s.grid)
    (hd : validGhostDraw s d = true) (b : Nat) (hb4 : b ≤ 4) :
    ((step tl s a d).2.obs.mask.getD b false = true ↔ legal (step tl s a d).1 b) :=
  PacMan.obs_mask_documented tl s a d hC.1 hC.2.2.2.1 hbin hb b hb4

/-- the same at `reset`: the FIRST timestep shows the documented function of the generated state (copied
fields and the mask computed for it), and the reset state IS the generated state -/
theorem pacman_reset_obs_faithful (g : State) :
    (PacMan.reset g).2.obs = observe (PacMan.reset g).1 ∧ (PacMan.reset g).2.stepType = .first ∧
    (PacMan.reset g).1 = g := PacMan.reset_obs_faithful g
end Props.C12

namespace Props.C01
/-- a 3 × 4 maze (3 rows = `x_size`, 4 columns = `y_size`) with the player on its last row -/
def pacmanBEx : State :=
  { grid := [[0, 0, 0, 0], [0, 1, 1, 0], [0, 1, 1, 1]], pellets := 1, frightened := -2, pelletLocs := [(1, 1), (0, 0)],
    powerUps := [(0, 0)], player := (2, 3), ghosts := [(1, 1), (2, 1), (1, 2), (2, 2)],
    initGhosts := [(1, 1), (1, 1), (1, 1), (1, 1)], oldGhosts := [(1, 1), (2, 1), (1, 2), (2, 2)],
    ghostInitSteps := [0, 0, 0, 0], ghostActions := [1, 1, 1, 1], lastDirection := 0, dead := false,
    ghostStarts := [0, 0, 0, 0], stepCount := 2, ghostEaten := [true, true, true, true], score := 10 }
def pacmanBCfg : BCfg := { xSize := 3, ySize := 4, timeLimit := 5 }

/-- the reset observation (`restart(observe g)` of the generator's state `g`) has every leaf inside the interval
`obsBounds cfg` lists for it.  Hypothesis: `g` satisfies the invariant `BoundsInv` (maze of the configured
extents with entries 0/1, player / ghosts / pellets / power-ups inside it, timer in `[−step_count, 30]`,
score ≥ 0) — see `pacman_boundsInv_of_consistent`. -/
theorem pac_man_reset_obs_in_bounds (cfg : BCfg) (g : State) (hi : BoundsInv cfg g)
    (h1 : g.stepCount ≤ cfg.timeLimit) : ObsInBounds cfg (PacMan.reset g).2.obs :=
  observe_in_bounds cfg g hi h1

/-- every step of a running episode (`step_count < time_limit`) from a state satisfying the invariant, for
EVERY action value and every admissible ghost draw (each ghost stays or moves to a walkable neighbour),
emits an observation inside `obsBounds cfg`, including the terminal step -/
theorem pac_man_step_obs_in_bounds (cfg : BCfg) (s : State) (a : Int) (d : Draw) (hi : BoundsInv cfg s)
    (hd : validGhostDraw s d = true) (h1 : s.stepCount < cfg.timeLimit) :
    ObsInBounds cfg (step cfg.timeLimit s a d).2.obs := by
  rw [PacMan.obs_faithful]
  apply observe_in_bounds cfg _ (step_boundsInv cfg cfg.timeLimit s a d hi hd)
  rw [(PacMan.time_limit cfg.timeLimit s a d).1]
  omega

/-- the invariant is preserved by every step (any action, any admissible ghost draw), so the bounds hold
along whole episodes -/
theorem pacman_step_boundsInv (cfg : BCfg) (tl : Int) (s : State) (a : Int) (d : Draw) (hi : BoundsInv cfg s)
    (hd : validGhostDraw s d = true) : BoundsInv cfg (step tl s a d).1 :=
  PacMan.step_boundsInv cfg tl s a d hi hd

/-- the invariant follows from the consistency predicate of C07 on a 0/1 maze of the configured extents -/
theorem pacman_boundsInv_of_consistent (cfg : BCfg) (s : State) (hC : Consistent s) (hbin : BinaryCells s.grid)
    (hx : xSize s.grid = cfg.xSize) (hy : ySize s.grid = cfg.ySize)
    (hf : -s.stepCount ≤ s.frightened ∧ s.frightened ≤ 30) (hsc : 0 ≤ s.score) (hst : 0 ≤ s.stepCount) :
    BoundsInv cfg s := PacMan.boundsInv_of_consistent cfg s hC hbin hx hy hf hsc hst

example : BoundsInv pacmanBCfg pacmanBEx ∧ Consistent pacmanBEx := by decide
/-- the bound of `player_locations.x` (the row) is attained: `x = x_size − 1`.  (With the two maxima exchanged — `x ≤ y_size − 1`,
`y ≤ x_size − 1` — the default 31 × 28 maze, where the player reaches row 28 > 27, would be rejected.) -/
example : (observe pacmanBEx).player.1 = (pacmanBCfg.xSize : Int) - 1 := by decide

/-! NOTE on what the membership theorems of this section do and do not cover: the dtype tag of every leaf
is written by `toNValue` (by construction) — a wrong dtype in the real code cannot falsify `….valid (toNValue …) = true`; dtypes and
field order of the real observations are compared by the `pac_man.spec` / `pac_man.state` ops (`nvalue`: field order, shape, dtype, data) and
`jax.eval_shape` in the sweeps.  Shapes are READ OFF the value by `toNValue` (widths off the first row): see `…_obs_valid_only`. -/

/-! #### membership in the model's `obsSpec`: structure, shapes, dtypes and bounds
(`obsSpec` is the declared spec at the catalogue configurations: `pacman_obsSpec_generated`, Props/SpecTable.lean) -/
open Sp PzS

/-- `reset` establishes the invariant `SpecInv` (consistent, no duplicate pellet, bounds invariant, four power-up rows,
`nPellets` pellet rows) for EVERY maze table satisfying the C10 specification with four power-ups, and EVERY step — any
action value, any time limit, any admissible ghost draw — preserves it.  "Admissible" = `validGhostDraw` (`ghostMoveOK` per ghost);
the real policy produces admissible draws only on tables without a dead end (`noDeadEndB`; witness
`Props.C10.pacman_dead_end_ghost_witness`). -/
theorem pacman_specInv_invariant :
    (∀ (t : MazeTable) (tl : Int), MazeTableOK t → t.powerUps.length = 4 →
      SpecInv ⟨xSize t.grid, ySize t.grid, tl⟩ t.pellets.length (PacMan.reset t.toState).1) ∧
    (∀ (cfg : BCfg) (nP : Nat) (tl : Int) (s : State) (a : Int) (d : Draw), SpecInv cfg nP s →
      validGhostDraw s d = true → SpecInv cfg nP (step tl s a d).1) :=
  ⟨fun t tl h h4 => PacMan.reset_specInv t h h4 tl, fun cfg nP tl s a d hI hd => PacMan.step_specInv cfg nP tl s a d hI hd⟩

/-- the `reset` observation is accepted by `observation_spec.validate` for EVERY admissible maze table with four
power-ups (fields, shapes, dtypes, bounds: `PacMan.obsSpec`) -/
theorem pacman_reset_obs_valid (t : MazeTable) (h : MazeTableOK t) (h4 : t.powerUps.length = 4) (tl : Int) :
    (obsSpec ⟨xSize t.grid, ySize t.grid, tl⟩ t.pellets.length).valid
      (toNValue ⟨xSize t.grid, ySize t.grid, tl⟩ (PacMan.reset t.toState).2.obs) = true :=
  PacMan.obs_valid _ _ _ (reset_specInv t h h4 tl)

/-- every `step` observation from a state satisfying the invariant: any action value, any time limit, any admissible
ghost draw, up to and including the terminal step and beyond (no leaf of the declared spec depends on the counter) -/
theorem pacman_step_obs_valid (cfg : BCfg) (nP : Nat) (tl : Int) (s : State) (a : Int) (d : Draw)
    (hI : SpecInv cfg nP s) (hd : validGhostDraw s d = true) :
    (obsSpec cfg nP).valid (toNValue cfg (step tl s a d).2.obs) = true := by
  rw [PacMan.obs_faithful]
  exact PacMan.obs_valid cfg nP _ (step_specInv cfg nP tl s a d hI hd)

/-- composed, the shipped maze: every observation of every episode of `PacMan()` — start state = what the real `reset`
returns (Gen/PacManMaze.lean), any actions, any time limit, admissible ghost draws — is a member of the declared spec:
the reset observation and the observation emitted by any step from any state of the episode -/
theorem pacman_obs_valid_along (tl : Int) (ads : List (Int × Draw))
    (hv : validRun tl (PacMan.reset Gen.PacManMaze.table.toState).1 ads = true) :
    (obsSpec ⟨31, 28, tl⟩ Gen.PacManMaze.table.pellets.length).valid
      (toNValue ⟨31, 28, tl⟩ (PacMan.reset Gen.PacManMaze.table.toState).2.obs) = true ∧
    ∀ s' ∈ trace tl (PacMan.reset Gen.PacManMaze.table.toState).1 ads, ∀ (a : Int) (d : Draw),
      validGhostDraw s' d = true →
      (obsSpec ⟨31, 28, tl⟩ Gen.PacManMaze.table.pellets.length).valid (toNValue ⟨31, 28, tl⟩ (step tl s' a d).2.obs) = true :=
  -- the shipped maze has 31 rows and 28 columns by computation
  PacMan.obs_valid_along_of_table _ Props.C10.pacman_default_maze_ok (by decide) tl ads hv

/-- what membership means: `validate` accepts an observation ONLY IF the maze has `x_size` rows and `x_size · y_size`
cells, all 0/1, the player's row is in [0, x_size − 1] and its column in [0, y_size − 1], and there are four ghost
rows, four power-up rows, `nPellets` pellet rows and five mask bits.  CAVEAT: for every field that is a nested list, `toNValue` reads the widths off the FIRST row of the
nested list, so the shape conjuncts here mean "row count, length of the first row, total number of cells" — a ragged value with the right total can be a
member, and nothing is concluded about the later rows.  Rectangularity is part of the invariant (`SpecInv`, through the `Jx.Grid.shaped` of `Consistent`) under which the
forward theorems (`pacman_reset_obs_valid`, `pacman_step_obs_valid`, `pacman_obs_valid_along`) are proved, i.e. it holds of every EMITTED observation. -/
theorem pacman_obs_valid_only (cfg : BCfg) (nP : Nat) (o : Obs) (h : (obsSpec cfg nP).valid (toNValue cfg o) = true) :
    List.length o.grid = cfg.xSize ∧ (List.flatten o.grid).length = cfg.xSize * cfg.ySize ∧
    (∀ v ∈ List.flatten o.grid, v = 0 ∨ v = 1) ∧
    (0 ≤ o.player.1 ∧ o.player.1 ≤ (cfg.xSize : Int) - 1) ∧ (0 ≤ o.player.2 ∧ o.player.2 ≤ (cfg.ySize : Int) - 1) ∧
    o.ghosts.length = 4 ∧ o.powerUps.length = 4 ∧ o.pelletLocs.length = nP ∧ o.mask.length = 5 :=
  PacMan.obs_valid_only cfg nP o h

/-- the corridor example (3 × 4, four ghosts, one power-up row short of four → padded here) satisfies the invariant and
its observation is accepted; with the player's row and column exchanged in the bounds
(`x ≤ y_size − 1`, `y ≤ x_size − 1`) the observation of `pacmanBEx` — player on row 2 of a 3 × 4 maze, column 3 —
would be rejected: column 3 > x_size − 1 = 2 -/
example : SpecInv ⟨3, 4, 5⟩ 3 { Props.C07.pacmanCEx with powerUps := [(3, 1), (0, 0), (0, 0), (0, 0)] } ∧
    (obsSpec ⟨3, 4, 5⟩ 3).valid (toNValue ⟨3, 4, 5⟩
      (observe { Props.C07.pacmanCEx with powerUps := [(3, 1), (0, 0), (0, 0), (0, 0)] })) = true ∧
    (obsSpec ⟨3, 4, 5⟩ 2).valid (toNValue ⟨3, 4, 5⟩ (observe { pacmanBEx with powerUps := [(0, 0), (0, 0), (0, 0), (0, 0)] })) = true ∧
    (obsSpec ⟨4, 3, 5⟩ 2).valid (toNValue ⟨4, 3, 5⟩ (observe { pacmanBEx with powerUps := [(0, 0), (0, 0), (0, 0), (0, 0)] })) = false := by
  decide +kernel

/-- `action_spec.generate_value()` = 0 is a member of the well-formed `DiscreteArray(5)`, and `step` answers it in EVERY
state, for every time limit and ghost draw, with a protocol-conform timestep -/
theorem pacman_accepts_generate_value (tl : Int) (s : State) (d : Draw) :
    actionSpec.WF = true ∧ actionSpec.valid actionSpec.generate = true ∧
    actionSpec.generate = ⟨[], .int32, [0]⟩ ∧ StepOK none false (step tl s 0 d).2 = true :=
  PacMan.accepts_generate_value tl s d

/-- reward and discount of every `step` (ALL states, actions, draws) are accepted by `reward_spec` / `discount_spec` -/
theorem pacman_reward_discount_valid (tl : Int) (s : State) (a : Int) (d : Draw) :
    PzS.rewardSpec.valid (scalarArr (step tl s a d).2.reward) = true ∧
    discountSpec.valid (scalarArr (step tl s a d).2.discount) = true := by
  refine stepOK_reward_discount_valid false _ ?_
  unfold step
  exact condLast_stepOK _ _ _
end Props.C01
