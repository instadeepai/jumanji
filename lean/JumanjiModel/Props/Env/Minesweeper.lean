/-
Property theorems for Minesweeper.  One-step facts come from Env/Minesweeper/Lemmas.lean, whole plays from Episode.lean
(`play_cons`, `play_return`, `play_ending`, `play_running`), bounds and spec membership from BoundsLemmas.lean / SpecLemmas.lean.
The theorems hold for every board size; what they ask of the state (`Consistent`, `InstanceOK`, a start from `generate`) is a
hypothesis of each; `shaped s.board nr nc` says the board is
an `nr × nc` array, `∀ m ∈ s.mines, 0 ≤ m` that mine locations are non-negative flat indices (the
generator draws them from `range(rows*cols)`; a negative index would be wrapped by the JAX scatter).
-/
import JumanjiModel.Env.Minesweeper.Lemmas
import JumanjiModel.Env.Minesweeper.BoundsLemmas
import JumanjiModel.Env.Minesweeper.Episode
import JumanjiModel.Env.Minesweeper.SpecLemmas
open Jm Jx Minesweeper

namespace Props.C04
/-- the mask bit of square `(r, c)` (false outside the board) is set exactly when the rules allow
exploring it: it is on the board and not yet explored -/
theorem minesweeper_mask_iff_legal (cfg : Cfg) (s : State) (nr nc : Nat)
    (hs : Grid.shaped s.board nr nc = true) (r c : Nat) :
    Grid.get (observeL1 cfg s).mask false r c = true ↔ legal s r c :=
  Minesweeper.mask_iff_legal cfg s nr nc hs r c

/-- the validity test `step` applies agrees with the rules on every in-spec action -/
theorem minesweeper_step_agrees (s : State) (nr nc : Nat) (hs : Grid.shaped s.board nr nc = true)
    (r c : Nat) (hr : r < nr) (hc : c < nc) : isValid s r c = true ↔ legal s r c :=
  Minesweeper.isValid_iff_legal s nr nc hs r c hr hc

example : legal ⟨[[-1, 2], [0, -1]], 2, [1, 2]⟩ 0 0 ∧ ¬ legal ⟨[[-1, 2], [0, -1]], 2, [1, 2]⟩ 0 1 := by decide +kernel

/-- (the statement above is about the test `is_valid_action`, not about what `step` does) the reaction of `step`
ITSELF: from every consistent state (every non-terminal state of every episode from a generated instance:
`minesweeper_consistent_along`) and for every square of the board, the rules allow exploring it IFF `step` revealed exactly
one more square; and `step` treated the action as invalid — LAST with nothing new revealed, which is how the harness reads
the reaction off a transition — IFF the rules forbid it -/
theorem minesweeper_step_reaction (cfg : Cfg) (s : State) (hcs : Consistent cfg s) (r c : Nat)
    (hr : r < cfg.numRows) (hc : c < cfg.numCols) :
    (legal s r c ↔ explored (step cfg s r c).1.board = explored s.board + 1) ∧
    (¬ legal s r c ↔ ((step cfg s r c).2.stepType = .last ∧ explored (step cfg s r c).1.board = explored s.board)) :=
  Minesweeper.step_reaction cfg s hcs r c hr hc

example : Consistent ⟨2, 2, 2, 1, 0, 0⟩ ⟨[[-1, 2], [-1, -1]], 1, [0, 3]⟩ ∧
    ¬ legal ⟨[[-1, 2], [-1, -1]], 1, [0, 3]⟩ 0 1 ∧ legal ⟨[[-1, 2], [-1, -1]], 1, [0, 3]⟩ 1 0 := by decide +kernel
end Props.C04

namespace Props.C05
/-- selecting an already explored square ends the episode with the invalid-action reward and leaves
the mines where they are -/
theorem minesweeper_illegal_terminates (cfg : Cfg) (s : State) (nr nc : Nat)
    (hs : Grid.shaped s.board nr nc = true) (hms : ∀ m ∈ s.mines, 0 ≤ m) (r c : Nat) (hr : r < nr)
    (hc : c < nc) (h : ¬ legal s r c) :
    (step cfg s r c).2.stepType = .last ∧ (step cfg s r c).2.reward = [cfg.rInvalid] ∧
    (step cfg s r c).1.mines = s.mines := Minesweeper.illegal_step cfg s nr nc hs hms r c hr hc h

/-- … and reveals nothing: on a board whose explored squares show their neighbour counts the board is
unchanged (only `step_count` advances) -/
theorem minesweeper_illegal_board_untouched (cfg : Cfg) (s : State) (nr nc : Nat)
    (hs : Grid.shaped s.board nr nc = true) (hms : ∀ m ∈ s.mines, 0 ≤ m) (hb : BoardOK s) (r c : Nat)
    (hr : r < nr) (hc : c < nc) (h : ¬ legal s r c) : (step cfg s r c).1.board = s.board :=
  Minesweeper.illegal_board cfg s nr nc hs hms r c hr hc hb h
end Props.C05

namespace Props.C07
/-- any in-spec action from a consistent state: if the episode continues, the successor is again
consistent (board shape, exactly `numMines` distinct mines on the board, every explored square shows
its number of adjacent mines, no explored square is a mine, `step_count` = explored squares) -/
theorem minesweeper_step_consistent (cfg : Cfg) (s : State) (hcs : Consistent cfg s) (r c : Nat)
    (hr : r < cfg.numRows) (hc : c < cfg.numCols) (hn : (step cfg s r c).2.stepType ≠ .last) :
    Consistent cfg (step cfg s r c).1 := Minesweeper.step_consistent cfg s hcs r c hr hc hn

/-- the mine table is never changed by a step (any action, any state) -/
theorem minesweeper_conserved (cfg : Cfg) (s : State) (r c : Int) : Conserved s (step cfg s r c).1 :=
  Minesweeper.conserved cfg s r c

/-- a freshly generated instance (all squares unexplored, mines as advertised) is consistent -/
theorem minesweeper_reset_consistent (cfg : Cfg) (s : State) (h : InstanceOK cfg s) : Consistent cfg s :=
  Minesweeper.reset_consistent cfg s h

example : Consistent ⟨2, 2, 2, 1, 0, 0⟩ ⟨[[-1, 2], [-1, -1]], 1, [0, 3]⟩ := by decide +kernel

/-- ALONG WHOLE EPISODES FROM THE GENERATOR: for every board size, every valid draw of the mine locations and
every sequence of in-spec actions (legal or not), EVERY state from which the episode continues — the final state of every
prefix that has not met a LAST step — is `Consistent`, with `step_count` = explored squares = number of actions played -/
theorem minesweeper_consistent_along (cfg : Cfg) (d : List Nat) (hd : validDraw cfg d) (as : List (Nat × Nat))
    (hin : ∀ a ∈ as, a.1 < cfg.numRows ∧ a.2 < cfg.numCols) (k : Nat)
    (hrun : (play cfg (generate cfg d) (as.take k)).ending = .running) :
    Consistent cfg (play cfg (generate cfg d) (as.take k)).final ∧
    explored (play cfg (generate cfg d) (as.take k)).final.board = (as.take k).length := by
  have hcs := Minesweeper.reset_consistent cfg _ (Minesweeper.generate_instanceOK cfg d hd)
  obtain ⟨h1, h2, _⟩ := Minesweeper.play_running cfg _ hcs (as.take k)
    (fun a ha => hin a (List.mem_of_mem_take ha)) hrun
  refine ⟨h1, ?_⟩
  have h0 := Minesweeper.explored_generate cfg d hd
  omega

/-- … and the mine table is that of the start state in the final state of EVERY play: any state, any actions, any ending (also
the terminal states, also out-of-range squares) -/
theorem minesweeper_mines_conserved_along (cfg : Cfg) (s : State) (as : List (Nat × Nat)) :
    (play cfg s as).final.mines = s.mines := by
  induction as generalizing s with
  | nil => rfl
  | cons a as ih =>
    simp only [play]
    split
    · rfl
    · exact ih _

example : validDraw ⟨2, 3, 2, 1, 0, 0⟩ [5, 1] ∧
    (play ⟨2, 3, 2, 1, 0, 0⟩ (generate ⟨2, 3, 2, 1, 0, 0⟩ [5, 1]) ([(0, 0), (1, 0), (0, 1)].take 2)).ending = .running := by
  decide +kernel
end Props.C07

namespace Props.C08
/-- a legal move reveals exactly one more square; it pays `rEmpty` (default 1) when the square is
safe and `rMine` (default 0) together with LAST when it is mined (one step; summed over an episode:
`minesweeper_play_return`, `minesweeper_episode_return`) -/
theorem minesweeper_reward_telescopes (cfg : Cfg) (s : State) (nr nc : Nat)
    (hs : Grid.shaped s.board nr nc = true) (hms : ∀ m ∈ s.mines, 0 ≤ m) (r c : Nat) (hr : r < nr)
    (hc : c < nc) (hl : legal s r c) :
    explored (step cfg s r c).1.board = explored s.board + 1 ∧
    (isMine s r c = false → (step cfg s r c).2.reward = [cfg.rEmpty]) ∧
    (isMine s r c = true → (step cfg s r c).2.reward = [cfg.rMine] ∧ (step cfg s r c).2.stepType = .last) := by
  rw [step_reward cfg s nr nc hs hms r c hr hc, rewardSpec, if_pos hl]
  refine ⟨step_explored cfg s nr nc hs hms r c hr hc hl.2.2, fun h => by rw [h]; rfl, fun h => ⟨by rw [h]; rfl, ?_⟩⟩
  exact (step_last_iff cfg s nr nc hs hms r c hr hc).2 (Or.inr (Or.inl h))

/-- the counters from which the documented objective is recomputed (`objective cfg s = rEmpty ·
safeRevealed s + rMine · minesRevealed s`, the value the sweep compares with the return) move in
step with the reward: a legal move on a safe square adds one safe revealed square, on a mined square
one revealed mine (`hr`, `hc` are not used: they follow from `hs` and `hl`, `Minesweeper.legal_lt`) -/
theorem minesweeper_objective_counters (cfg : Cfg) (s : State) (nr nc : Nat)
    (hs : Grid.shaped s.board nr nc = true) (hms : ∀ m ∈ s.mines, 0 ≤ m) (r c : Nat) (hr : r < nr)
    (hc : c < nc) (hl : legal s r c) :
    safeRevealed (step cfg s r c).1 = safeRevealed s + (if isMine s r c then 0 else 1) ∧
    minesRevealed (step cfg s r c).1 = minesRevealed s + (if isMine s r c then 1 else 0) :=
  Minesweeper.counters_step cfg s nr nc hs hms r c hl
/-- WHOLE EPISODE, from any consistent state (C07 invariant) along ANY list of in-spec actions, played with the L1
`step` until the first LAST time step (`play`: the episode may end by revealing a mine, by an invalid action, by
clearing the board, or the action list may run out before that):
  return + rEmpty · (safe squares revealed at the start) = rEmpty · (safe squares revealed at the end) + terminal term,
terminal term = `rMine` if it ended on a mine, `rInvalid` if it ended on an already revealed square, 0 otherwise -/
theorem minesweeper_play_return (cfg : Cfg) (s : State) (hcs : Consistent cfg s) (as : List (Nat × Nat))
    (hin : ∀ a ∈ as, a.1 < cfg.numRows ∧ a.2 < cfg.numCols) :
    (play cfg s as).ret + cfg.rEmpty * (safeRevealed s : Rat) =
      cfg.rEmpty * (safeRevealed (play cfg s as).final : Rat) + terminalTerm cfg (play cfg s as).ending :=
  Minesweeper.play_return cfg s hcs as hin

/-- WHOLE EPISODE from a generated instance (all board sizes, all mine tables, all action sequences):
return = (number of safe squares revealed) × revealed_empty_square_reward + the terminal term (mine / invalid-action
reward), which is the documented objective recomputed from the final state (plus the invalid-action reward when
the episode ended that way) -/
theorem minesweeper_episode_return (cfg : Cfg) (s : State) (h : InstanceOK cfg s) (as : List (Nat × Nat))
    (hin : ∀ a ∈ as, a.1 < cfg.numRows ∧ a.2 < cfg.numCols) :
    (play cfg s as).ret =
      cfg.rEmpty * (safeRevealed (play cfg s as).final : Rat) + terminalTerm cfg (play cfg s as).ending ∧
    (play cfg s as).ret = objective cfg (play cfg s as).final +
      (if (play cfg s as).ending = .invalid then cfg.rInvalid else 0) :=
  Minesweeper.episode_return cfg s h as hin

/-- the same for the transliterated generator: every valid draw of mines, every action sequence -/
theorem minesweeper_episode_return_generated (cfg : Cfg) (d : List Nat) (hd : validDraw cfg d)
    (as : List (Nat × Nat)) (hin : ∀ a ∈ as, a.1 < cfg.numRows ∧ a.2 < cfg.numCols) :
    (play cfg (generate cfg d) as).ret =
      cfg.rEmpty * (safeRevealed (play cfg (generate cfg d) as).final : Rat) +
        terminalTerm cfg (play cfg (generate cfg d) as).ending :=
  (Minesweeper.episode_return cfg _ (Minesweeper.generate_instanceOK cfg d hd) as hin).1

/-- what the endings mean: `.cleared` = the final board is solved (all safe squares revealed); a mine is revealed
exactly when the episode ended on one (and then exactly one) -/
theorem minesweeper_episode_ending (cfg : Cfg) (s : State) (hcs : Consistent cfg s) (as : List (Nat × Nat))
    (hin : ∀ a ∈ as, a.1 < cfg.numRows ∧ a.2 < cfg.numCols) :
    ((play cfg s as).ending = .cleared → isSolved (play cfg s as).final = true) ∧
    minesRevealed (play cfg s as).final = (if (play cfg s as).ending = .mine then 1 else 0) :=
  ⟨fun h => ((Minesweeper.play_ending cfg s hcs as hin).1 h).1, (Minesweeper.play_ending cfg s hcs as hin).2⟩

/-- … and `.running` = no LAST step met: every action revealed one more safe square -/
theorem minesweeper_episode_running (cfg : Cfg) (s : State) (hcs : Consistent cfg s) (as : List (Nat × Nat))
    (hin : ∀ a ∈ as, a.1 < cfg.numRows ∧ a.2 < cfg.numCols) (hrun : (play cfg s as).ending = .running) :
    safeRevealed (play cfg s as).final = safeRevealed s + as.length ∧ Consistent cfg (play cfg s as).final :=
  ⟨(Minesweeper.play_running cfg s hcs as hin hrun).2.2.1, (Minesweeper.play_running cfg s hcs as hin hrun).1⟩

/-- with revealed_empty_square_reward = 1 (the default) an episode that does not end on a mine or an invalid move
returns exactly the number of safe squares revealed, whatever the other two reward constants are -/
theorem minesweeper_return_eq_safe_revealed (cfg : Cfg) (s : State) (h : InstanceOK cfg s) (as : List (Nat × Nat))
    (hin : ∀ a ∈ as, a.1 < cfg.numRows ∧ a.2 < cfg.numCols) (h1 : cfg.rEmpty = 1)
    (hm : (play cfg s as).ending ≠ .mine) (hi : (play cfg s as).ending ≠ .invalid) :
    (play cfg s as).ret = (safeRevealed (play cfg s as).final : Rat) := by
  have ht : terminalTerm cfg (play cfg s as).ending = 0 := by
    cases he : (play cfg s as).ending with
    | running | cleared => rfl
    | mine => exact absurd he hm
    | invalid => exact absurd he hi
  rw [(Minesweeper.episode_return cfg s h as hin).1, h1, Rat.one_mul, ht, Rat.add_zero]

/-- with all three default constants (1, 0, 0) this holds for EVERY ending -/
theorem minesweeper_default_return_eq_safe_revealed (cfg : Cfg) (s : State) (h : InstanceOK cfg s)
    (as : List (Nat × Nat)) (hin : ∀ a ∈ as, a.1 < cfg.numRows ∧ a.2 < cfg.numCols) (h1 : cfg.rEmpty = 1)
    (h2 : cfg.rMine = 0) (h3 : cfg.rInvalid = 0) :
    (play cfg s as).ret = (safeRevealed (play cfg s as).final : Rat) := by
  have ht : terminalTerm cfg (play cfg s as).ending = 0 := by
    cases (play cfg s as).ending with
    | running | cleared => rfl
    | mine => exact h2
    | invalid => exact h3
  rw [(Minesweeper.episode_return cfg s h as hin).1, h1, Rat.one_mul, ht, Rat.add_zero]

-- 2×3 board, mines at flat 1 and 5, rewards (1/2, -1, -2): reveal (0,0), (1,0), then the mine (0,1): return 1/2+1/2-1;
-- reveal (0,0) twice: ends on the invalid move with 1/2-2; all four safe squares: cleared with return 2
example : InstanceOK ⟨2, 3, 2, 1/2, -1, -2⟩ (generate ⟨2, 3, 2, 1/2, -1, -2⟩ [5, 1]) ∧
    (play ⟨2, 3, 2, 1/2, -1, -2⟩ (generate ⟨2, 3, 2, 1/2, -1, -2⟩ [5, 1]) [(0, 0), (1, 0), (0, 1), (1, 1)]).ending = .mine ∧
    (play ⟨2, 3, 2, 1/2, -1, -2⟩ (generate ⟨2, 3, 2, 1/2, -1, -2⟩ [5, 1]) [(0, 0), (1, 0), (0, 1), (1, 1)]).ret = 0 ∧
    (play ⟨2, 3, 2, 1/2, -1, -2⟩ (generate ⟨2, 3, 2, 1/2, -1, -2⟩ [5, 1]) [(0, 0), (0, 0)]).ending = .invalid ∧
    (play ⟨2, 3, 2, 1/2, -1, -2⟩ (generate ⟨2, 3, 2, 1/2, -1, -2⟩ [5, 1]) [(0, 0), (0, 0)]).ret = -3/2 ∧
    (play ⟨2, 3, 2, 1/2, -1, -2⟩ (generate ⟨2, 3, 2, 1/2, -1, -2⟩ [5, 1]) [(0, 0), (1, 0), (0, 2), (1, 1), (0, 1)]).ending = .cleared ∧
    (play ⟨2, 3, 2, 1/2, -1, -2⟩ (generate ⟨2, 3, 2, 1/2, -1, -2⟩ [5, 1]) [(0, 0), (1, 0), (0, 2), (1, 1), (0, 1)]).ret = 2 := by
  decide +kernel
end Props.C08

namespace Props.C09
/-- the transliterated `count_adjacent_mines` (scatter, reshape, pad, two dynamic slices, minus the
centre) is the number of mines among the 8 neighbours on the board -/
theorem minesweeper_count_eq (s : State) (hms : ∀ m ∈ s.mines, 0 ≤ m) (r c : Nat) (hr : r < nrows s)
    (hc : c < ncols s) : countAdjacentMines s r c = (adjMines s r c : Int) :=
  Minesweeper.count_eq s hms r c hr hc

/-- `explored_mine` is membership of the square's flat index in the mine table -/
theorem minesweeper_exploredMine_eq (s : State) (hms : ∀ m ∈ s.mines, 0 ≤ m) (r c : Nat)
    (hr : r < nrows s) (hc : c < ncols s) : exploredMine s r c = isMine s r c :=
  Minesweeper.exploredMine_eq s hms r c hr hc

/-- successor state = the rules' successor: the chosen square shows its adjacent-mine count -/
theorem minesweeper_step_state (cfg : Cfg) (s : State) (nr nc : Nat) (hs : Grid.shaped s.board nr nc = true)
    (hms : ∀ m ∈ s.mines, 0 ≤ m) (r c : Nat) (hr : r < nr) (hc : c < nc) :
    (step cfg s r c).1 = { board := reveal s r c, stepCount := s.stepCount + 1, mines := s.mines } :=
  Minesweeper.step_state cfg s nr nc hs hms r c hr hc

/-- reward = the documented three-way reward -/
theorem minesweeper_step_reward (cfg : Cfg) (s : State) (nr nc : Nat) (hs : Grid.shaped s.board nr nc = true)
    (hms : ∀ m ∈ s.mines, 0 ≤ m) (r c : Nat) (hr : r < nr) (hc : c < nc) :
    (step cfg s r c).2.reward = [rewardSpec cfg s r c] :=
  Minesweeper.step_reward cfg s nr nc hs hms r c hr hc

/-- the episode ends exactly on an invalid move, a mine, or when all safe squares are revealed -/
theorem minesweeper_step_last_iff (cfg : Cfg) (s : State) (nr nc : Nat) (hs : Grid.shaped s.board nr nc = true)
    (hms : ∀ m ∈ s.mines, 0 ≤ m) (r c : Nat) (hr : r < nr) (hc : c < nc) :
    (step cfg s r c).2.stepType = .last ↔ doneSpec s r c :=
  Minesweeper.step_last_iff cfg s nr nc hs hms r c hr hc
end Props.C09

namespace Props.C10
/-- the certificate the driver checks on every generated instance (`minesweeper.instance`) gives what
the generator advertises: exactly `numMines` distinct mines, all on the board, on a fresh board — and
the instance is a consistent start state for C07 -/
theorem minesweeper_instance_cert (cfg : Cfg) (s : State) (h : InstanceOK cfg s) :
    s.mines.length = cfg.numMines ∧ s.mines.Nodup ∧
    (∀ m ∈ s.mines, 0 ≤ m ∧ m < ((cfg.numRows * cfg.numCols : Nat) : Int)) ∧ Consistent cfg s :=
  ⟨h.2.2.2.1, h.2.2.2.2.1, h.2.2.2.2.2, Minesweeper.reset_consistent cfg s h⟩

example : InstanceOK ⟨2, 3, 2, 1, 0, 0⟩ ⟨[[-1, -1, -1], [-1, -1, -1]], 0, [5, 1]⟩ := by decide +kernel
/-- the TRANSLITERATED generator (`Generator.__call__` + `create_flat_mine_locations` = `jax.random.choice(key,
rows*cols, (num_mines,), replace=False)`, the drawn locations being the parameter): for ALL sizes and ALL valid draws
(`num_mines` distinct flat indices below rows·cols) the generated state has exactly `num_mines` distinct mines, all on
the board, the board is `rows × cols` and entirely unexplored (all −1), step_count is 0 — and it is a consistent start
state.  `minesweeper.instance` replays `generate` on the draw read off every real reset state. -/
theorem minesweeper_generate_cert (cfg : Cfg) (d : List Nat) (hd : validDraw cfg d) :
    (generate cfg d).mines.length = cfg.numMines ∧ (generate cfg d).mines.Nodup ∧
    (∀ m ∈ (generate cfg d).mines, 0 ≤ m ∧ m < ((cfg.numRows * cfg.numCols : Nat) : Int)) ∧
    Grid.shaped (generate cfg d).board cfg.numRows cfg.numCols = true ∧
    Grid.all (fun v => v == -1) (generate cfg d).board = true ∧ (generate cfg d).stepCount = 0 ∧
    InstanceOK cfg (generate cfg d) ∧ Consistent cfg (generate cfg d) := by
  have h := Minesweeper.generate_instanceOK cfg d hd
  exact ⟨h.2.2.2.1, h.2.2.2.2.1, h.2.2.2.2.2, h.1, h.2.1, h.2.2.1, h, Minesweeper.reset_consistent cfg _ h⟩

/-- conversely the certificate `InstanceOK` is exactly the range of the generator: a state passes it iff it is
`generate cfg d` for a valid draw `d` (the one read off its mine table) -/
theorem minesweeper_instance_iff_generated (cfg : Cfg) (s : State) :
    InstanceOK cfg s ↔ ∃ d, validDraw cfg d ∧ generate cfg d = s :=
  ⟨fun h => ⟨drawOf s, Minesweeper.instanceOK_is_generated cfg s h⟩,
   fun ⟨d, hd, e⟩ => e ▸ Minesweeper.generate_instanceOK cfg d hd⟩

example : validDraw ⟨2, 3, 2, 1, 0, 0⟩ [5, 1] ∧
    generate ⟨2, 3, 2, 1, 0, 0⟩ [5, 1] = ⟨[[-1, -1, -1], [-1, -1, -1]], 0, [5, 1]⟩ ∧
    ¬ validDraw ⟨2, 3, 2, 1, 0, 0⟩ [5, 5] ∧ ¬ validDraw ⟨2, 3, 2, 1, 0, 0⟩ [6, 1] := by decide +kernel
end Props.C10

namespace Props.C11
/-- a step that does not end the episode reveals exactly one new square and does not reach
`cells − mines` explored squares (the horizon that follows: `minesweeper_episode_within_horizon`) -/
theorem minesweeper_progress (cfg : Cfg) (s : State) (nr nc : Nat) (hs : Grid.shaped s.board nr nc = true)
    (hms : ∀ m ∈ s.mines, 0 ≤ m) (r c : Nat) (hr : r < nr) (hc : c < nc)
    (hn : (step cfg s r c).2.stepType ≠ .last) :
    explored (step cfg s r c).1.board = explored s.board + 1 ∧
    ((explored (step cfg s r c).1.board : Nat) : Int) ≠ ((nr * nc : Nat) : Int) - (s.mines.length : Int) :=
  Minesweeper.progress cfg s nr nc hs hms r c hr hc hn

/-- EPISODE level, from the generator (all sizes, all valid mine draws, all in-spec action sequences; `play` = the L1
`step` iterated until the first LAST): an episode never lasts longer than its structural horizon `cells − mines` — a
non-empty action list that has not met LAST is strictly shorter than `cells − num_mines` (so LAST comes at step
`cells − num_mines` at the latest, and at step 1 if `num_mines ≥ cells − 1`) -/
theorem minesweeper_episode_within_horizon (cfg : Cfg) (d : List Nat) (hd : validDraw cfg d) (as : List (Nat × Nat))
    (hin : ∀ a ∈ as, a.1 < cfg.numRows ∧ a.2 < cfg.numCols) (hne : as ≠ [])
    (hrun : (play cfg (generate cfg d) as).ending = .running) :
    as.length + cfg.numMines < cfg.numRows * cfg.numCols := by
  have hcs := Minesweeper.reset_consistent cfg _ (Minesweeper.generate_instanceOK cfg d hd)
  obtain ⟨hf, hex, _, hns⟩ := Minesweeper.play_running cfg _ hcs as hin hrun
  -- the final state is consistent, so explored + mines ≤ cells, and it is not solved, so they are not equal
  have hle := Minesweeper.explored_add_mines_le cfg _ hf.1 hf.minesOK hf.noMine
  have := mt (Minesweeper.solved_iff cfg _ hf).2 (by rw [hns hne]; exact Bool.false_ne_true)
  omega

/-- … never earlier: an episode that ends for no other reason (no mine, no invalid move: it ends `.cleared`) ends exactly
when `step_count = cells − num_mines`, all those squares being explored -/
theorem minesweeper_cleared_exactly_at_horizon (cfg : Cfg) (d : List Nat) (hd : validDraw cfg d) (as : List (Nat × Nat))
    (hin : ∀ a ∈ as, a.1 < cfg.numRows ∧ a.2 < cfg.numCols)
    (hcl : (play cfg (generate cfg d) as).ending = .cleared) :
    (play cfg (generate cfg d) as).final.stepCount = ((cfg.numRows * cfg.numCols : Nat) : Int) - (cfg.numMines : Int) ∧
    ((explored (play cfg (generate cfg d) as).final.board : Nat) : Int) = (play cfg (generate cfg d) as).final.stepCount := by
  have hcs := Minesweeper.reset_consistent cfg _ (Minesweeper.generate_instanceOK cfg d hd)
  obtain ⟨hsol, hf⟩ := (Minesweeper.play_ending cfg _ hcs as hin).1 hcl
  have hsc := hf.count
  exact ⟨by rw [hsc, (Minesweeper.solved_iff cfg _ hf).1 hsol], hsc.symm⟩

-- 2×3 board with mines at 1 and 5: the four safe squares clear the board at step 4 = 6 − 2
example : (play ⟨2, 3, 2, 1, 0, 0⟩ (generate ⟨2, 3, 2, 1, 0, 0⟩ [5, 1]) [(0, 0), (1, 0), (0, 2), (1, 1)]).ending = .cleared ∧
    (play ⟨2, 3, 2, 1, 0, 0⟩ (generate ⟨2, 3, 2, 1, 0, 0⟩ [5, 1]) [(0, 0), (1, 0), (0, 2), (1, 1)]).final.stepCount = 4 := by
  decide +kernel
end Props.C11

namespace Props.C12
/-- the observation is the documented view of the successor state (board, unexplored squares, the
true number of mines, the step count) -/
theorem minesweeper_obs_faithful (cfg : Cfg) (s : State) (r c : Int) (hm : s.mines.length = cfg.numMines) :
    (step cfg s r c).2.obs = observe (step cfg s r c).1 := Minesweeper.obs_faithful cfg s r c hm

/-- the `reset` observation is the same documented function of the generated state, for every valid draw: the
board (all −1), every square selectable, the number of mines really placed, step count 0 -/
theorem minesweeper_reset_obs_faithful (cfg : Cfg) (d : List Nat) (hd : validDraw cfg d) :
    (resetTimeStep cfg (generate cfg d)).obs = observe (generate cfg d) ∧
    (resetTimeStep cfg (generate cfg d)).stepType = .first ∧
    (observe (generate cfg d)).numMines = cfg.numMines ∧ (observe (generate cfg d)).stepCount = 0 := by
  have hm : (generate cfg d).mines.length = cfg.numMines := by simp [generate, hd.1]
  refine ⟨Minesweeper.reset_obs_faithful cfg _ hm, rfl, ?_, rfl⟩
  show (((generate cfg d).mines.length : Nat) : Int) = _
  rw [hm]
end Props.C12

namespace Props.C01
open PzB
/-- the observation returned by `reset` on a generated instance (`InstanceOK`: fresh board, `num_mines` distinct mine
locations on the board): every leaf listed in `obsBounds cfg` is present and within its interval: `board` ∈ [-1, 8],
`action_mask` ∈ [0,1], `num_mines` = the configured constant, `step_count` ∈ [0, rows*cols − num_mines]
(in particular the interval is non-empty: num_mines ≤ rows*cols) -/
theorem minesweeper_reset_obs_in_bounds (cfg : Cfg) (s : State) (h : InstanceOK cfg s) :
    ObsInBounds (obsBounds cfg) (obsLeaves (resetTimeStep cfg s).obs) :=
  obs_in_bounds cfg _ (observe_facts cfg s (reset_consistent cfg s h)).1 rfl (observe_facts cfg s (reset_consistent cfg s h)).2

/-- the same for `step` from every `Consistent` state (the C07 invariant, preserved while the episode runs:
`minesweeper_step_consistent`) that is not yet solved (the episode has not ended), for every square of the action space —
unexplored or already explored, mined or not — including the terminal step.  `step_count ≤ rows*cols − num_mines` is the
counting argument `explored + mines ≤ squares` (explored squares are not mines while the episode runs). -/
theorem minesweeper_step_obs_in_bounds (cfg : Cfg) (s : State) (hcs : Consistent cfg s) (r c : Nat)
    (hr : r < cfg.numRows) (hc : c < cfg.numCols) (hns : isSolved s = false) :
    ObsInBounds (obsBounds cfg) (obsLeaves (step cfg s r c).2.obs) := by
  rw [step_obs]
  exact obs_in_bounds cfg _ (step_facts cfg s hcs r c hr hc hns).1 rfl (step_facts cfg s hcs r c hr hc hns).2

/-- the counting fact behind the `step_count` bound -/
theorem minesweeper_explored_add_mines_le (cfg : Cfg) (s : State) (hcs : Consistent cfg s) :
    explored s.board + cfg.numMines ≤ cfg.numRows * cfg.numCols :=
  Minesweeper.explored_add_mines_le cfg s hcs.1 hcs.minesOK hcs.noMine

/-- without "not yet solved" the bound fails in the model: on a solved 1x2 board with one mine, exploring the mine gives
step_count = 2 > 1*2 − 1 (such a step is after LAST in the real environment) -/
example : Consistent ⟨1, 2, 1, 1, 0, 0⟩ ⟨[[1, -1]], 1, [1]⟩ ∧ isSolved ⟨[[1, -1]], 1, [1]⟩ = true ∧
    (step ⟨1, 2, 1, 1, 0, 0⟩ ⟨[[1, -1]], 1, [1]⟩ 0 1).2.obs.stepCount = 2 := by decide +kernel

/-! NOTE on what the membership theorems of this section do and do not cover: the dtype tag of every leaf
is written by `toNValue` (by construction) — a wrong dtype in the real code cannot falsify `….valid (toNValue …) = true`; dtypes and
field order of the real observations are compared by the `minesweeper.spec` / `minesweeper.state` ops (`nvalue`: field order, shape, dtype, data) and
`jax.eval_shape` in the sweeps.  Shapes are READ OFF the value by `toNValue` (widths off the first row): see `…_obs_valid_only`. -/

open Sp PzS PzS3

/-- the `reset` observation of the TRANSLITERATED generator — all sizes, every valid draw of the mine locations; the
generator's constructor refuses `num_mines ≥ rows·cols` — is accepted by `observation_spec.validate`: fields `board`,
`action_mask`, `num_mines`, `step_count`; shapes `(R, C)`, `(R, C)`, `()`, `()`; dtypes int32, bool, int32, int32; bounds
[−1, 8], [0, 1], [0, R·C − 1], [0, R·C − num_mines] -/
theorem minesweeper_reset_obs_valid (cfg : Cfg) (d : List Nat) (hd : validDraw cfg d) (hM : cfg.numMines < cells cfg) :
    (obsSpec cfg).valid (toNValue (resetTimeStep cfg (generate cfg d)).obs) = true :=
  have h := Minesweeper.generate_instanceOK cfg d hd
  have f := observe_facts cfg _ (Minesweeper.reset_consistent cfg _ h)
  obs_valid cfg _ hM h.1 (Grid.shaped_map_of _ h.1) f.1 rfl f.2

/-- the same for every `step` observation from a `Consistent`, not yet solved state (`Consistent` is established at reset and
preserved while the episode runs, `minesweeper_consistent_along`; both along whole episodes: `minesweeper_episode_obs_valid`), for every square of the action space — unexplored or explored, mined
or not — up to and including the terminal step -/
theorem minesweeper_step_obs_valid (cfg : Cfg) (s : State) (hcs : Consistent cfg s) (r c : Nat)
    (hr : r < cfg.numRows) (hc : c < cfg.numCols) (hns : isSolved s = false) (hM : cfg.numMines < cells cfg) :
    (obsSpec cfg).valid (toNValue (step cfg s r c).2.obs) = true :=
  Minesweeper.step_obs_valid cfg s hcs r c hr hc hns hM

/-- … hence for EVERY observation of EVERY episode from the generator: after any prefix of in-spec actions that has not met
LAST, whatever square is chosen next (the terminal step included) -/
theorem minesweeper_episode_obs_valid (cfg : Cfg) (d : List Nat) (hd : validDraw cfg d) (hM : cfg.numMines < cells cfg)
    (as : List (Nat × Nat)) (hin : ∀ a ∈ as, a.1 < cfg.numRows ∧ a.2 < cfg.numCols)
    (hrun : (play cfg (generate cfg d) as).ending = .running) (r c : Nat) (hr : r < cfg.numRows) (hc : c < cfg.numCols) :
    (obsSpec cfg).valid (toNValue (step cfg (play cfg (generate cfg d) as).final r c).2.obs) = true := by
  have hcs := Minesweeper.reset_consistent cfg _ (Minesweeper.generate_instanceOK cfg d hd)
  obtain ⟨hf, _, _, hns⟩ := Minesweeper.play_running cfg _ hcs as hin hrun
  refine Minesweeper.step_obs_valid cfg _ hf r c hr hc ?_ hM
  cases as with
  | nil =>
    -- nothing is explored yet, and `cells − mines` is positive
    refine Bool.eq_false_iff.2 (mt (Minesweeper.solved_iff cfg _ hcs).1 ?_)
    rw [Minesweeper.explored_generate cfg d hd]
    unfold cells at hM
    omega
  | cons a t => exact hns (List.cons_ne_nil _ _)

/-- what membership means: `validate` accepts ONLY observations of shape `(R, C)` with cells in [−1, 8], `num_mines` in
[0, R·C − 1] and `step_count` in [0, R·C − num_mines].  CAVEAT: `toNValue` reads the width of a nested list off its FIRST row,
so the shape conjuncts here mean "row count, length of the first row" — a ragged value with the right total number of cells can be a
member, and nothing is concluded about the later rows.  Rectangularity is part of the invariant (`Consistent`: `Grid.shaped` of the board) under which the
forward theorems (`minesweeper_reset_obs_valid`, `minesweeper_step_obs_valid`, `minesweeper_episode_obs_valid`) are proved, i.e. it holds of every EMITTED
observation. -/
theorem minesweeper_obs_valid_only (cfg : Cfg) (o : Obs) (h : (obsSpec cfg).valid (toNValue o) = true) :
    gridShape o.board = [cfg.numRows, cfg.numCols] ∧ gridShape o.mask = [cfg.numRows, cfg.numCols] ∧
    (∀ v ∈ List.flatten o.board, -1 ≤ v ∧ v ≤ 8) ∧
    (0 ≤ o.numMines ∧ o.numMines ≤ ((cells cfg : Nat) : Int) - 1) ∧
    (0 ≤ o.stepCount ∧ o.stepCount ≤ ((cells cfg : Nat) : Int) - (cfg.numMines : Int)) :=
  Minesweeper.obs_valid_only cfg o h

/-- the hypothesis `num_mines < rows·cols` is needed: with every square mined the observation's `num_mines` exceeds the
declared maximum `rows·cols − 1` (the real constructor raises for such a configuration); a step from a solved board (`hns`
fails) is rejected, the step that solves it is accepted -/
example : validDraw ⟨1, 2, 2, 1, 0, 0⟩ [0, 1] ∧
    (obsSpec ⟨1, 2, 2, 1, 0, 0⟩).valid (toNValue (resetTimeStep ⟨1, 2, 2, 1, 0, 0⟩ (generate ⟨1, 2, 2, 1, 0, 0⟩ [0, 1])).obs) = false ∧
    (obsSpec ⟨1, 2, 1, 1, 0, 0⟩).valid (toNValue (step ⟨1, 2, 1, 1, 0, 0⟩ ⟨[[1, -1]], 1, [1]⟩ 0 1).2.obs) = false ∧
    (obsSpec ⟨1, 2, 1, 1, 0, 0⟩).valid (toNValue (step ⟨1, 2, 1, 1, 0, 0⟩ ⟨[[-1, -1]], 0, [1]⟩ 0 0).2.obs) = true := by
  decide +kernel

/-- reward and discount of every `step` (ALL states, ALL action values) and of `reset` are accepted by `reward_spec`
(Array((), float)) and `discount_spec` (BoundedArray((), float, 0, 1)) -/
theorem minesweeper_reward_discount_valid (cfg : Cfg) (s s0 : State) (r c : Int) :
    PzS.rewardSpec.valid (scalarArr (step cfg s r c).2.reward) = true ∧
    discountSpec.valid (scalarArr (step cfg s r c).2.discount) = true ∧
    PzS.rewardSpec.valid (scalarArr (resetTimeStep cfg s0).reward) = true ∧
    discountSpec.valid (scalarArr (resetTimeStep cfg s0).discount) = true :=
  ⟨(Minesweeper.step_reward_discount_valid cfg s r c).1, (Minesweeper.step_reward_discount_valid cfg s r c).2,
   (restart_reward_discount_valid _).1, (restart_reward_discount_valid _).2⟩

/-- `action_spec.generate_value()` = (0, 0): for every constructible board the action spec is well-formed, the generated
value is a member of it, and `step` answers it in every state with a protocol-conform timestep (its observation is a member
of `observation_spec` by the theorems above, (0, 0) being a square of the board) -/
theorem minesweeper_accepts_generate_value (cfg : Cfg) (hR : 0 < cfg.numRows) (hC : 0 < cfg.numCols)
    (hbig : cfg.numRows ≤ 2147483648 ∧ cfg.numCols ≤ 2147483648) (s : State) :
    (actionSpec cfg).WF = true ∧ (actionSpec cfg).valid (actionSpec cfg).generate = true ∧
    (actionSpec cfg).generate = actionArr 0 0 ∧ StepOK none false (step cfg s 0 0).2 = true :=
  Minesweeper.accepts_generate_value cfg hR hC hbig s

/-- … with the observation membership stated, not only referred to: from every `Consistent`, not yet solved state the
answer to `generate_value()` = (0, 0) is protocol-conform AND its observation is a member of `observation_spec` -/
theorem minesweeper_accepts_generate_value' (cfg : Cfg) (hR : 0 < cfg.numRows) (hC : 0 < cfg.numCols)
    (hbig : cfg.numRows ≤ 2147483648 ∧ cfg.numCols ≤ 2147483648) (hM : cfg.numMines < cells cfg)
    (s : State) (hcs : Consistent cfg s) (hns : isSolved s = false) :
    (actionSpec cfg).valid (actionSpec cfg).generate = true ∧ (actionSpec cfg).generate = actionArr 0 0 ∧
    StepOK none false (step cfg s 0 0).2 = true ∧ (obsSpec cfg).valid (toNValue (step cfg s 0 0).2.obs) = true := by
  obtain ⟨_, h2, h3, h4⟩ := minesweeper_accepts_generate_value cfg hR hC hbig s
  exact ⟨h2, h3, h4, minesweeper_step_obs_valid cfg s hcs 0 0 hR hC hns hM⟩
end Props.C01
