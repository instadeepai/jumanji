/-
Property theorems for Tetris; the lemmas they rest on are in Env/Tetris/*.lean.
The action is (rotation, column); the piece drawn for the next step is the draw `d` (`validDraw d ↔ d < 7`).
`Consistent cfg s`: grid shaped with empty padding, no full line standing, piece index < 7 and the piece shown is
that piece, the cached mask is the table of legal moves, step count within the time limit.
-/
import JumanjiModel.Env.Tetris.Lemmas
import JumanjiModel.Env.Tetris.MaskLemmas
import JumanjiModel.Env.Tetris.DropLemmas
import JumanjiModel.Env.Tetris.ClearLemmas
import JumanjiModel.Env.Tetris.StepLemmas
import JumanjiModel.Env.Tetris.Bounds
import JumanjiModel.Env.Tetris.EpisodeLemmas
import JumanjiModel.Env.Tetris.SpecValid
import JumanjiModel.Core.EpisodeLemmas
open Jm Tetris

namespace Props.C04
/-- the mask bit the implementation computes (`tetromino_action_mask` on the clipped grid) equals legality under
the rules — the piece, coming from above in column `x`, reaches the position where its box is inside the grid
without touching anything and lies within the columns — for every grid, every piece and rotation (`hp` is not used: the
padding need not be empty) -/
theorem tetris_mask_iff_legal (cfg : Cfg) (gp : G) (idx rot x : Nat)
    (hs : Jx.Grid.shaped gp (cfg.numRows + 3) (cfg.numCols + 3) = true)
    (hp : paddingEmpty cfg gp = true) (hR : 4 ≤ cfg.numRows) (hC : 4 ≤ cfg.numCols)
    (hi : idx < 7) (hr : rot < 4) (hx : x < cfg.numCols) :
    ((calcActionMask (clip1 gp) (idx : Int)).getD rot []).getD x false = legalB cfg gp idx rot x := by
  rw [calcActionMask_eq _ hi, Jx.getD_range_map _ _ hr]
  exact tam_entry_eq_legal cfg gp idx rot x hs hR hC hi hr hx

/-- the mask cached in the successor state is the mask of the successor's grid and of the NEW piece (not stale) -/
theorem tetris_cached_mask (cfg : Cfg) (s : State) (rot x : Int) (d : Nat) :
    (step cfg s rot x d).1.actionMask =
      calcActionMask (clip1 (step cfg s rot x d).1.gridPadded) ((step cfg s rot x d).1.tetrominoIndex : Int) :=
  Tetris.cached_mask cfg s rot x d

/-- the environment's own validity test agrees with the rules in every consistent state -/
theorem tetris_step_agrees (cfg : Cfg) (s : State) (hc : Consistent cfg s) {rot x : Nat}
    (hr : rot < 4) (hx : x < cfg.numCols) : isValid s (rot : Int) (x : Int) = true ↔ legal cfg s rot x := by
  rw [Tetris.isValid_eq_legal cfg s hc.mask hr hx]; rfl

/-- a legal action is never treated as invalid: if the step is LAST, no move is left or the time is up -/
theorem tetris_legal_not_punished (cfg : Cfg) (s : State) (hc : Consistent cfg s) {rot x : Nat}
    (hr : rot < 4) (hx : x < cfg.numCols) (d : Nat) (h : legal cfg s rot x)
    (hl : (step cfg s (rot : Int) (x : Int) d).2.stepType = .last) :
    (step cfg s (rot : Int) (x : Int) d).1.actionMask.any (fun r => r.any id) = false ∨
      cfg.timeLimit ≤ (step cfg s (rot : Int) (x : Int) d).1.stepCount := by
  rcases (last_iff cfg s _ _ d).1 hl with h1 | h1
  · rw [isValid_eq_legal cfg s hc.mask hr hx, show legalB cfg _ _ rot x = true from h] at h1
    cases h1
  · exact h1

example : legal ⟨4, 4, 10⟩ (reset ⟨4, 4, 10⟩ 0).1 1 0 ∧ ¬ legal ⟨4, 4, 10⟩ (reset ⟨4, 4, 10⟩ 0).1 1 1 := by decide

/-- `tetris_step_agrees` speaks of `isValid`, the test inside `step`; this one is about what `step` RETURNS: in
a consistent state, for every action of the action space and every draw, the emitted timestep is LAST exactly when the rules
forbid the action, or no move is left for the next piece, or the time is up -/
theorem tetris_step_last_iff_rules (cfg : Cfg) (s : State) (hc : Consistent cfg s) {rot x : Nat} (hr : rot < 4)
    (hx : x < cfg.numCols) (d : Nat) :
    (step cfg s (rot : Int) (x : Int) d).2.stepType = .last ↔
      (¬ legal cfg s rot x ∨ (step cfg s (rot : Int) (x : Int) d).1.actionMask.any (fun r => r.any id) = false ∨
        cfg.timeLimit ≤ s.stepCount + 1) := by
  rw [last_iff, step_count, isValid_eq_legal cfg s hc.mask hr hx]
  unfold legal
  cases legalB cfg s.gridPadded s.tetrominoIndex rot x <;> simp

/-- the same with the middle disjunct at the level of the RULES (`tetris_step_last_iff_rules` reads the CACHED
`action_mask` of the successor): on a board of at least 4 × 4, in a consistent state, for every action of the action space and every
valid draw of the next piece, the timestep is LAST exactly when the rules forbid the action, or NO placement (rotation, column) of the
next piece is legal on the successor board, or the time is up -/
theorem tetris_step_last_iff_rules' (cfg : Cfg) (s : State) (hc : Consistent cfg s) (hR : 4 ≤ cfg.numRows)
    (hC : 4 ≤ cfg.numCols) {rot x : Nat} (hr : rot < 4) (hx : x < cfg.numCols) (d : Nat) (hd : validDraw d) :
    (step cfg s (rot : Int) (x : Int) d).2.stepType = .last ↔
      (¬ legal cfg s rot x ∨
       (∀ rot' x', rot' < 4 → x' < cfg.numCols → ¬ legal cfg (step cfg s (rot : Int) (x : Int) d).1 rot' x') ∨
        cfg.timeLimit ≤ s.stepCount + 1) := by
  rw [tetris_step_last_iff_rules cfg s hc hr hx d, step_mask_legalMask cfg s hc.shaped hR hC _ _ d hd, legalMask_any_false_iff]

/-- … and after every LEGAL drop — LAST or not — the mask cached in the successor IS the legality table of the successor
(of the hypotheses only the shape of the grid and `hd` are used: `Tetris.step_mask_legalMask` holds after every step, legal
or not) -/
theorem tetris_step_mask_is_legal (cfg : Cfg) (s : State) (hc : Consistent cfg s) (hR : 4 ≤ cfg.numRows)
    (hC : 4 ≤ cfg.numCols) (rot x d : Nat) (hr : rot < 4) (hx : x < cfg.numCols) (hd : validDraw d)
    (hl : legal cfg s rot x) :
    (step cfg s (rot : Int) (x : Int) d).1.actionMask = legalMask cfg (step cfg s (rot : Int) (x : Int) d).1 :=
  Tetris.step_mask_legalMask cfg s hc.shaped hR hC _ _ d hd

/-- … hence, when a move is left afterwards and the time is not up, the environment treats the action as invalid (ends the
episode) exactly when it is illegal -/
theorem tetris_step_reaction (cfg : Cfg) (s : State) (hc : Consistent cfg s) {rot x : Nat} (hr : rot < 4)
    (hx : x < cfg.numCols) (d : Nat)
    (hmove : (step cfg s (rot : Int) (x : Int) d).1.actionMask.any (fun r => r.any id) = true)
    (htime : s.stepCount + 1 < cfg.timeLimit) :
    (step cfg s (rot : Int) (x : Int) d).2.stepType = .last ↔ ¬ legal cfg s rot x := by
  rw [tetris_step_last_iff_rules cfg s hc hr hx d, hmove]
  constructor
  · rintro (h | h | h)
    · exact h
    · exact absurd h (by simp)
    · omega
  · exact Or.inl

-- both cases occur on the reset state of the 4 × 4 field (I piece): flat in column 0 is legal and the step is MID, flat in
-- column 1 is illegal and the step is LAST, although moves are left and the time is not up
example : Consistent ⟨4, 4, 10⟩ (reset ⟨4, 4, 10⟩ 0).1 ∧
    (step ⟨4, 4, 10⟩ (reset ⟨4, 4, 10⟩ 0).1 1 0 3).2.stepType = .mid ∧
    (step ⟨4, 4, 10⟩ (reset ⟨4, 4, 10⟩ 0).1 1 1 3).2.stepType = .last ∧
    (step ⟨4, 4, 10⟩ (reset ⟨4, 4, 10⟩ 0).1 1 1 3).1.actionMask.any (fun r => r.any id) = true := by decide +kernel
end Props.C04

namespace Props.C03
/-- `step` on ANY state with ANY action values and any draw returns a protocol-conform timestep (`StepOK`: MID or LAST,
scalar reward, discount in [0, 1] and not 0 on MID), and a LAST one has discount 0 -/
theorem tetris_step_protocol_explicit (cfg : Cfg) (s : State) (rot x : Int) (d : Nat) :
    StepOK none false (step cfg s rot x d).2 = true ∧
    ((step cfg s rot x d).2.stepType = .last → (step cfg s rot x d).2.discount = [0]) := by
  refine ⟨Tetris.step_protocol cfg s rot x d, ?_⟩
  unfold step
  intro h
  rw [condLast_discount, (condLast_last_iff ..).1 h]
  rfl
end Props.C03

namespace Props.C05
/-- an illegal action ends the episode with reward 0 (the piece is still dropped: the documents promise no more) -/
theorem tetris_illegal_terminates (cfg : Cfg) (s : State) (hc : Consistent cfg s) {rot x : Nat}
    (hr : rot < 4) (hx : x < cfg.numCols) (d : Nat) (h : ¬ legal cfg s rot x) :
    (step cfg s (rot : Int) (x : Int) d).2.stepType = .last ∧ (step cfg s (rot : Int) (x : Int) d).2.reward = [0] :=
  Tetris.illegal_step cfg s hc.mask hr hx d h

/-- … with discount 0, and the score kept in the state does not change -/
theorem tetris_illegal_no_score (cfg : Cfg) (s : State) (hc : Consistent cfg s) {rot x : Nat}
    (hr : rot < 4) (hx : x < cfg.numCols) (d : Nat) (h : ¬ legal cfg s rot x) :
    (step cfg s (rot : Int) (x : Int) d).1.score = s.score ∧ (step cfg s (rot : Int) (x : Int) d).2.discount = [0] := by
  have hi := Tetris.illegal_step cfg s hc.mask hr hx d h
  refine ⟨?_, ?_⟩
  · rw [Tetris.step_score, hi.2]; simp [Rat.add_zero]
  · have := (Props.C03.tetris_step_protocol_explicit cfg s (rot : Int) (x : Int) d).2 hi.1
    exact this
end Props.C05

namespace Props.C07
theorem tetris_reset_consistent (cfg : Cfg) (hR : 4 ≤ cfg.numRows) (hC : 4 ≤ cfg.numCols) (d : Nat)
    (hd : validDraw d) : Consistent cfg (reset cfg d).1 := Tetris.reset_consistent cfg hR hC d hd

/-- every step from which the episode continues leads from a consistent state to a consistent state, whatever
in-spec action was played -/
theorem tetris_step_consistent (cfg : Cfg) (s : State) (hc : Consistent cfg s) (hR : 4 ≤ cfg.numRows)
    (hC : 4 ≤ cfg.numCols) (rot x d : Nat) (hr : rot < 4) (hx : x < cfg.numCols) (hd : validDraw d)
    (hn : (step cfg s (rot : Int) (x : Int) d).2.stepType ≠ .last) :
    Consistent cfg (step cfg s (rot : Int) (x : Int) d).1 :=
  Tetris.step_consistent cfg s hc hR hC rot x d hr hx hd hn

/-- conservation: a legal drop adds four cells and every cleared line removes `numCols` cells -/
theorem tetris_step_conserved (cfg : Cfg) (s : State) (hc : Consistent cfg s) (hR : 4 ≤ cfg.numRows)
    (hC : 4 ≤ cfg.numCols) (rot x d : Nat) (hr : rot < 4) (hx : x < cfg.numCols) (hd : validDraw d)
    (hl : legal cfg s rot x) :
    cells cfg (step cfg s (rot : Int) (x : Int) d).1.gridPadded +
        cfg.numCols * Jx.countTrue (step cfg s (rot : Int) (x : Int) d).1.fullLines =
      cells cfg s.gridPadded + 4 := Tetris.step_conserved cfg s ⟨hc.shaped, hc.padding⟩ hc.index hR hC rot x d hr hl

/-- at most four lines are cleared by one piece (so the reward table is never indexed out of range) -/
theorem tetris_cleared_le (cfg : Cfg) (s : State) (hc : Consistent cfg s) (rot x : Nat) :
    (dropSpec cfg s.gridPadded s.tetrominoIndex rot x).2 ≤ 4 := Tetris.step_cleared_le cfg s hc.noFullRow rot x

example : Consistent ⟨4, 4, 10⟩ (step ⟨4, 4, 10⟩ (reset ⟨4, 4, 10⟩ 0).1 0 0 3).1 := by decide +kernel

/-- WHOLE EPISODES: from `reset` (every size ≥ 4 × 4, every first piece), for ALL in-spec (rotation, column) actions
— legal or not — and ALL next-piece draws, EVERY non-terminal state of the episode (`liveStates` = the successor of every step
whose timestep is not LAST, up to the first LAST) is consistent -/
theorem tetris_consistent_along (cfg : Cfg) (hR : 4 ≤ cfg.numRows) (hC : 4 ≤ cfg.numCols) (d0 : Nat) (hd0 : validDraw d0)
    (as : List (Nat × Nat × Nat)) (hin : InSpec cfg as) :
    Consistent cfg (reset cfg d0).1 ∧ ∀ s' ∈ liveStates cfg (reset cfg d0).1 as, Consistent cfg s' :=
  ⟨Tetris.reset_consistent cfg hR hC d0 hd0,
   Tetris.consistent_along cfg hR hC _ (Tetris.reset_consistent cfg hR hC d0 hd0) as hin⟩

/-- the same from any consistent state -/
theorem tetris_consistent_along_from (cfg : Cfg) (hR : 4 ≤ cfg.numRows) (hC : 4 ≤ cfg.numCols) (s : State)
    (hc : Consistent cfg s) (as : List (Nat × Nat × Nat)) (hin : InSpec cfg as) :
    ∀ s' ∈ liveStates cfg s as, Consistent cfg s' := Tetris.consistent_along cfg hR hC s hc as hin

example : (liveStates ⟨4, 4, 30⟩ (reset ⟨4, 4, 30⟩ 0).1 [(1, 0, 0), (1, 0, 0), (1, 1, 2), (0, 0, 0)]).length = 2 := by
  decide +kernel
end Props.C07

namespace Props.C09
/-- the drop: for a legal action `place_tetromino` paints the piece at the row where free fall from the top
stops (including the wrap-around of `y = -1` for a flat I piece that reaches the floor) … -/
theorem tetris_place_row (cfg : Cfg) (gp : G) (idx rot x : Nat)
    (hs : Jx.Grid.shaped gp (cfg.numRows + 3) (cfg.numCols + 3) = true) (hp : paddingEmpty cfg gp = true)
    (hR : 4 ≤ cfg.numRows) (hC : 4 ≤ cfg.numCols) (hi : idx < 7) (hr : rot < 4) (hx : x < cfg.numCols)
    (hl : legalB cfg gp idx rot x = true) :
    dsStart (cfg.numRows + 3) 4 (placeTetromino gp (pieceAt idx rot) (x : Int)).2 = dropY cfg gp (pieceAt idx rot) x :=
  Tetris.place_row cfg gp x hs hR (Tetris.pieces_ok idx hi rot hr) (Tetris.legal_fits0 hl)

/-- … and the visible field afterwards is the old field with the cells of the piece at that row recoloured -/
theorem tetris_place_eq_drop (cfg : Cfg) (gp : G) (idx rot x : Nat)
    (hs : Jx.Grid.shaped gp (cfg.numRows + 3) (cfg.numCols + 3) = true) (hp : paddingEmpty cfg gp = true)
    (hR : 4 ≤ cfg.numRows) (hC : 4 ≤ cfg.numCols) (hi : idx < 7) (hr : rot < 4) (hx : x < cfg.numCols)
    (hl : legalB cfg gp idx rot x = true) :
    field cfg (placeTetromino gp (pieceAt idx rot) (x : Int)).1 =
      landed (field cfg gp) (pieceAt idx rot) (gridMax gp + 1) (dropY cfg gp (pieceAt idx rot) x) x :=
  (Tetris.place_good ⟨hs, hp⟩ hR (Tetris.pieces_ok idx hi rot hr) (Tetris.legal_fits0 hl)).2

/-- line clearing: `clean_lines` (stable argsort + zeroing) = the full rows become empty rows on top, the other
rows keep their order below them … -/
theorem tetris_clean_lines_eq (numCols : Nat) (g : G) :
    cleanLines g (fullLinesOf numCols g) =
      List.map (fun r => List.map (fun _ => 0) r) (g.filter (fun r => (r.take numCols).all (fun v => v != 0))) ++
        g.filter (fun r => !((r.take numCols).all (fun v => v != 0))) := Tetris.cleanLines_fullLines numCols g

/-- … which on the visible field is: remove the full lines, shift the rest down, empty lines enter at the top -/
theorem tetris_field_clean_lines (cfg : Cfg) (g : G)
    (hs : Jx.Grid.shaped g (cfg.numRows + 3) (cfg.numCols + 3) = true) (hp : paddingEmpty cfg g = true)
    (hc : 0 < cfg.numCols) :
    field cfg (cleanLines g (fullLinesOf cfg.numCols g)) = clearLines (field cfg g) :=
  (Tetris.clean_good ⟨hs, hp⟩ hc).2.1

/-- the whole step of a legal action in a consistent state follows the rules: new field = drop, land, clear;
the number of lines flagged full = number of lines cleared; the reward is the table entry of that number -/
theorem tetris_step_eq_spec (cfg : Cfg) (s : State) (hc : Consistent cfg s) (hR : 4 ≤ cfg.numRows)
    (hC : 4 ≤ cfg.numCols) (rot x d : Nat) (hr : rot < 4) (hx : x < cfg.numCols) (hd : validDraw d)
    (hl : legal cfg s rot x) :
    field cfg (step cfg s (rot : Int) (x : Int) d).1.gridPadded = (dropSpec cfg s.gridPadded s.tetrominoIndex rot x).1 ∧
    Jx.countTrue (step cfg s (rot : Int) (x : Int) d).1.fullLines = (dropSpec cfg s.gridPadded s.tetrominoIndex rot x).2 ∧
    (step cfg s (rot : Int) (x : Int) d).2.reward =
      [rewardList.getD (dropSpec cfg s.gridPadded s.tetrominoIndex rot x).2 0] :=
  Tetris.step_eq_spec cfg s hc hR hC rot x d hr hx hl
/-- the reward of a legal step is the documented function `REWARD_LIST[k]` of the number `k` of lines the piece clears
(computed by the rules: land the piece, count the full lines), `k` is at most 4 and equals the number of lines the
implementation flags as full -/
theorem tetris_step_reward_eq_lines (cfg : Cfg) (s : State) (hc : Consistent cfg s) (hR : 4 ≤ cfg.numRows)
    (hC : 4 ≤ cfg.numCols) (rot x d : Nat) (hr : rot < 4) (hx : x < cfg.numCols) (hd : validDraw d)
    (hl : legal cfg s rot x) :
    (step cfg s (rot : Int) (x : Int) d).2.reward =
      [lineReward (dropSpec cfg s.gridPadded s.tetrominoIndex rot x).2] ∧
    (dropSpec cfg s.gridPadded s.tetrominoIndex rot x).2 ≤ 4 ∧
    Jx.countTrue (step cfg s (rot : Int) (x : Int) d).1.fullLines =
      (dropSpec cfg s.gridPadded s.tetrominoIndex rot x).2 :=
  Tetris.step_reward_eq_lines cfg s hc hR hC rot x d hr hx hl

/-- the documented function: 0, 40, 100, 300, 1200 for 0..4 lines, with increasing increments ("convex") -/
theorem tetris_lineReward_table : lineReward 0 = 0 ∧ lineReward 1 = 40 ∧ lineReward 2 = 100 ∧ lineReward 3 = 300 ∧
    lineReward 4 = 1200 ∧
    ∀ k, k < 3 → lineReward (k + 1) - lineReward k ≤ lineReward (k + 2) - lineReward (k + 1) := by
  decide +kernel

/-- WHOLE EPISODE from any consistent state, for ALL in-spec (rotation, column) actions and ALL next-piece draws,
played with the L1 `step` until the first LAST time step (`play`; the episode may end because no move is left, the
time is up, or an illegal action was chosen): the return is the sum over the placed pieces of the documented function
of the number of lines each cleared (an illegal terminal action pays nothing), and the score is the running sum -/
theorem tetris_episode_return (cfg : Cfg) (hR : 4 ≤ cfg.numRows) (hC : 4 ≤ cfg.numCols) (s : State)
    (hc : Consistent cfg s) (as : List (Nat × Nat × Nat)) (hin : InSpec cfg as) :
    (play cfg s as).ret = ((play cfg s as).lines.map lineReward).sum ∧
    (∀ k ∈ (play cfg s as).lines, k ≤ 4) ∧
    (play cfg s as).final.score = s.score + (play cfg s as).ret :=
  ⟨(Tetris.play_accounting cfg hR hC s hc as hin).1, (Tetris.play_accounting cfg hR hC s hc as hin).2.1,
    (Tetris.play_accounting cfg hR hC s hc as hin).2.2.1⟩

/-- WHOLE EPISODE cell accounting (`final` = the state after the last legal step):
filled cells at the end + numCols × lines cleared = filled cells at the start + 4 × pieces placed -/
theorem tetris_cells_accounting (cfg : Cfg) (hR : 4 ≤ cfg.numRows) (hC : 4 ≤ cfg.numCols) (s : State)
    (hc : Consistent cfg s) (as : List (Nat × Nat × Nat)) (hin : InSpec cfg as) :
    cells cfg (play cfg s as).final.gridPadded + cfg.numCols * (play cfg s as).lines.sum =
      cells cfg s.gridPadded + 4 * (play cfg s as).lines.length :=
  (Tetris.play_accounting cfg hR hC s hc as hin).2.2.2

/-- … from `reset` (any first piece): filled cells at the end = 4 × pieces placed − numCols × lines cleared, and the
final score is the return -/
theorem tetris_cells_accounting_from_reset (cfg : Cfg) (hR : 4 ≤ cfg.numRows) (hC : 4 ≤ cfg.numCols) (d0 : Nat)
    (hd0 : validDraw d0) (as : List (Nat × Nat × Nat)) (hin : InSpec cfg as) :
    cells cfg (play cfg (reset cfg d0).1 as).final.gridPadded + cfg.numCols * (play cfg (reset cfg d0).1 as).lines.sum =
      4 * (play cfg (reset cfg d0).1 as).lines.length ∧
    (play cfg (reset cfg d0).1 as).final.score = (play cfg (reset cfg d0).1 as).ret ∧
    (play cfg (reset cfg d0).1 as).ret = ((play cfg (reset cfg d0).1 as).lines.map lineReward).sum := by
  have h := Tetris.play_accounting cfg hR hC _ (Tetris.reset_consistent cfg hR hC d0 hd0) as hin
  refine ⟨?_, ?_, h.1⟩
  · have e : cells cfg (reset cfg d0).1.gridPadded = 0 := Tetris.cells_empty cfg
    rw [h.2.2.2, e, Nat.zero_add]
  · rw [h.2.2.1]
    show (0 : Rat) + _ = _
    exact Rat.zero_add _

-- 4×4 field: three flat I pieces (rotation 1, column 0) fill and clear a line each (return 3·40), then an O piece clears
-- nothing and leaves its 4 cells; a fifth action in column 1 is illegal for the flat I piece: the play ends there and
-- pays nothing more
example :
    let as : List (Nat × Nat × Nat) := [(1, 0, 0), (1, 0, 0), (1, 0, 3), (0, 0, 0), (1, 1, 2)]
    InSpec ⟨4, 4, 30⟩ as ∧ (play ⟨4, 4, 30⟩ (reset ⟨4, 4, 30⟩ 0).1 as).lines = [1, 1, 1, 0] ∧
    (play ⟨4, 4, 30⟩ (reset ⟨4, 4, 30⟩ 0).1 as).ret = 120 ∧
    (play ⟨4, 4, 30⟩ (reset ⟨4, 4, 30⟩ 0).1 as).ending = .illegal ∧
    cells ⟨4, 4, 30⟩ (play ⟨4, 4, 30⟩ (reset ⟨4, 4, 30⟩ 0).1 as).final.gridPadded = 4 := by
  refine ⟨?_, ?_⟩
  · intro a ha
    simp only [List.mem_cons, List.not_mem_nil, or_false] at ha
    rcases ha with rfl | rfl | rfl | rfl | rfl <;> decide
  · decide +kernel
end Props.C09

namespace Props.C10
/-- the reset state for EVERY grid size ≥ 4 × 4 and EVERY drawn piece index (`utils.sample_tetromino_list`:
`jax.random.randint(key, (), 0, len(tetrominoes_list))`): what `reset` advertises (`InstanceOK`) spelled out — in
particular the action mask equals the L2 legality of the reset state and is not empty — and the state is a consistent start
state.  `tetris.instance` evaluates `InstanceOK` and replays `reset` on every real reset state. -/
theorem tetris_reset_cert (cfg : Cfg) (hR : 4 ≤ cfg.numRows) (hC : 4 ≤ cfg.numCols) (d : Nat) (hd : validDraw d) :
    (reset cfg d).1.gridPadded = Jx.Grid.mk (cfg.numRows + 3) (cfg.numCols + 3) 0 ∧
    (reset cfg d).1.tetrominoIndex = d ∧ (reset cfg d).1.tetrominoIndex < 7 ∧
    (reset cfg d).1.newTetromino = pieceAt d 0 ∧ (reset cfg d).2.obs.tetromino = pieceAt d 0 ∧
    (reset cfg d).1.actionMask = legalMask cfg (reset cfg d).1 ∧
    (reset cfg d).2.obs.actionMask = legalMask cfg (reset cfg d).1 ∧
    (reset cfg d).1.actionMask.any (fun r => r.any id) = true ∧
    legal cfg (reset cfg d).1 0 0 ∧
    (reset cfg d).1.score = 0 ∧ (reset cfg d).1.stepCount = 0 ∧
    InstanceOK cfg (reset cfg d).1 ∧ Consistent cfg (reset cfg d).1 := by
  have h := Tetris.reset_instanceOK cfg hR hC d hd
  have ⟨_, _, _, hp, _, hm, hany, _⟩ := h
  refine ⟨rfl, rfl, hd, hp, hp, hm, hm, hany, ?_, rfl, rfl, h, Tetris.reset_consistent cfg hR hC d hd⟩
  exact Tetris.legal_on_empty cfg hR hC d

/-- the certificate evaluated on real reset states is exactly the range of the transliterated `reset`, and gives a
consistent start state -/
theorem tetris_instance_cert (cfg : Cfg) (hR : 4 ≤ cfg.numRows) (hC : 4 ≤ cfg.numCols) (s : State) :
    InstanceOK cfg s ↔ ∃ d, validDraw d ∧ (reset cfg d).1 = s :=
  ⟨fun h => ⟨s.tetrominoIndex, h.2.2.1, Tetris.instance_is_reset cfg hR hC s h⟩,
   fun ⟨d, hd, e⟩ => e ▸ Tetris.reset_instanceOK cfg hR hC d hd⟩

theorem tetris_instance_consistent (cfg : Cfg) (hR : 4 ≤ cfg.numRows) (hC : 4 ≤ cfg.numCols) (s : State)
    (h : InstanceOK cfg s) : Consistent cfg s :=
  Tetris.instance_is_reset cfg hR hC s h ▸ Tetris.reset_consistent cfg hR hC _ h.2.2.1

example : InstanceOK ⟨4, 5, 10⟩ (reset ⟨4, 5, 10⟩ 6).1 ∧
    (reset ⟨4, 5, 10⟩ 6).1.actionMask = [[true, true, true, true, false], [true, true, true, false, false],
      [true, true, true, true, false], [true, true, true, false, false]] := by decide +kernel
end Props.C10

namespace Props.C11
/-- the step counter grows by one per step and a step is LAST exactly when the action was masked out, no action
is left, or the counter has reached the time limit (that an episode therefore ends at step `time_limit` at the latest, and
exactly there when nothing else ends it, is `tetris_rollout_ends_by_limit` / `tetris_rollout_ends_exactly_at_limit`,
Props/EpisodeInstances.lean) -/
theorem tetris_last_iff (cfg : Cfg) (s : State) (rot x : Int) (d : Nat) :
    (step cfg s rot x d).2.stepType = .last ↔
      (isValid s rot x = false ∨ (step cfg s rot x d).1.actionMask.any (fun r => r.any id) = false ∨
        cfg.timeLimit ≤ (step cfg s rot x d).1.stepCount) := Tetris.last_iff cfg s rot x d

theorem tetris_step_count (cfg : Cfg) (s : State) (rot x : Int) (d : Nat) :
    (step cfg s rot x d).1.stepCount = s.stepCount + 1 := Tetris.step_count cfg s rot x d
end Props.C11

namespace Props.C12
/-- the observation shows the occupied cells of the field of the successor state as 0/1, the piece that the
next step will drop, the cached mask and the current step count -/
theorem tetris_obs_faithful (cfg : Cfg) (s : State) (rot x : Int) (d : Nat) (hd : validDraw d) :
    (step cfg s rot x d).2.obs = observe cfg (step cfg s rot x d).1 := Tetris.obs_faithful cfg s rot x d hd

theorem tetris_reset_obs_faithful (cfg : Cfg) (d : Nat) (hd : validDraw d) :
    (reset cfg d).2.obs = observe cfg (reset cfg d).1 := Tetris.reset_obs_faithful cfg d hd

/-- `observe` copies the CACHED mask; on every non-terminal state of play it is the table of legal moves of the
state the agent is in (for the piece the agent has to place), so the agent is not shown a stale mask: here for every
non-LAST step from a consistent state (of `hc` only the shape of the grid is used, `hr`, `hx`, `hn` not at all:
`Tetris.step_mask_legalMask` holds after every step); for `reset` it is a conjunct of `Props.C10.tetris_reset_cert` -/
theorem tetris_obs_mask_is_legal (cfg : Cfg) (hR : 4 ≤ cfg.numRows) (hC : 4 ≤ cfg.numCols) (s : State)
    (hc : Consistent cfg s) (rot x d : Nat) (hr : rot < 4) (hx : x < cfg.numCols) (hd : validDraw d)
    (hn : (step cfg s (rot : Int) (x : Int) d).2.stepType ≠ .last) :
    (step cfg s (rot : Int) (x : Int) d).2.obs.actionMask = legalMask cfg (step cfg s (rot : Int) (x : Int) d).1 ∧
    (step cfg s (rot : Int) (x : Int) d).2.obs.tetromino = pieceAt d 0 ∧
    (step cfg s (rot : Int) (x : Int) d).2.obs.stepCount = s.stepCount + 1 := by
  rw [Tetris.obs_faithful cfg s _ _ d hd]
  refine ⟨Tetris.step_mask_legalMask cfg s hc.shaped hR hC _ _ d hd, ?_, ?_⟩
  · show pieceAt (step cfg s (rot : Int) (x : Int) d).1.tetrominoIndex 0 = _
    rw [Tetris.step_index]
  · show (step cfg s (rot : Int) (x : Int) d).1.stepCount = _
    rw [Tetris.step_count]
end Props.C12

namespace Props.C01
open PzB
/-- the observation returned by `reset` (any sizes, any first piece index — the gather clamps): every leaf listed in
`obsBounds cfg` is present and all its values lie in the listed interval: `grid`, `tetromino` ∈ [0,1],
`action_mask` ∈ [0,1], `step_count` ∈ [0, time_limit].  No hypothesis. -/
theorem tetris_reset_obs_in_bounds (cfg : Cfg) (d : Nat) :
    ObsInBounds (obsBounds cfg) (obsLeaves (reset cfg d).2.obs) := by
  simp only [reset, restart_obs]
  exact obs_in_bounds cfg _ _ _ _ (emptyField_le_one _ _ _ _) (piece_le_one _ _) (Nat.zero_le _)

/-- the same for `step`, for every state, action (any integers) and draw, including the terminal step.  Only hypothesis:
the episode has not ended by the time limit before this step (`step_count < time_limit`; `Consistent` only gives `≤`, and
`<` holds after a step that was not LAST, `Props.C11.tetris_last_iff` — no lemma derives it for a single state; along a rollout
it is discharged by counting the steps, `tetris_rollout_obs_valid` below); then the emitted `step_count = s.step_count + 1 ≤ time_limit`. -/
theorem tetris_step_obs_in_bounds (cfg : Cfg) (s : State) (rot x : Int) (d : Nat)
    (hlim : s.stepCount < cfg.timeLimit) :
    ObsInBounds (obsBounds cfg) (obsLeaves (step cfg s rot x d).2.obs) := by
  rw [step_obs_eq]
  exact obs_in_bounds cfg _ _ _ _ (clipField_le_one _ _ _) (piece_le_one _ _) hlim

/-! NOTE on what the membership theorems of this section do and do not cover: the dtype tag of every leaf
is written by `toNValue` (by construction) — a wrong dtype in the real code cannot falsify `….valid (toNValue …) = true`; shapes and
dtypes of the real observations are compared with the real spec by `jax.eval_shape` in the C01 sweep (harness/envprops.py), and every
real observation goes through the real `validate` there; the `tetris.state` op compares the data of the observation only.  Shapes are
READ OFF the value by `toNValue` (widths off the first row): see `tetris_obs_valid_only`. -/

/-! #### membership in the model's `obsSpec` / `actionSpec` (the declared specs at the catalogue configuration:
`tetris_obsSpec_generated`, Props/SpecTable.lean): structure, shapes, dtypes and bounds -/
open Sp PzS PkS

/-- the `reset` observation (ALL sizes with at least one row and three columns — the constructor demands 4 × 4 —, every valid
first piece) is accepted by `observation_spec.validate`: fields `grid`, `tetromino`, `action_mask`, `step_count`; shapes
`(R, C)`, `(4, 4)`, `(4, C)`, `()`; dtypes int32, int32, bool, int32; bounds [0, 1], [0, 1], [0, 1], {0 … T} -/
theorem tetris_reset_obs_valid (cfg : Cfg) (hR : 0 < cfg.numRows) (hC : 3 ≤ cfg.numCols) (d : Nat) (hd : validDraw d) :
    (obsSpec cfg).valid (toNValue (reset cfg d).2.obs) = true := obs_valid cfg hR _ (reset_obsOK cfg hC d hd)

/-- the same for the observation of EVERY `step` — any integers as action (in the action space or not, legal or not), every
valid draw, MID or LAST — from every state whose padded grid has its shape and whose counter has not reached the limit -/
theorem tetris_step_obs_valid (cfg : Cfg) (hR : 0 < cfg.numRows) (hC : 3 ≤ cfg.numCols) (s : State)
    (hs : GridShaped cfg s) (hlim : s.stepCount < cfg.timeLimit) (rot x : Int) (d : Nat) (hd : validDraw d) :
    (obsSpec cfg).valid (toNValue (step cfg s rot x d).2.obs) = true :=
  obs_valid cfg hR _ (step_obsOK cfg hC s hs hlim rot x d hd)

/-- the hypothesis `GridShaped` holds after `reset` and is preserved by EVERY step (also an illegal or terminal one, which
may paint into the padding) -/
theorem tetris_gridShaped_invariant (cfg : Cfg) :
    (∀ d, GridShaped cfg (reset cfg d).1) ∧
    (∀ (s : State) (rot x : Int) (d : Nat), GridShaped cfg s → GridShaped cfg (step cfg s rot x d).1) :=
  ⟨Tetris.reset_gridShaped cfg, fun s rot x d h => Tetris.step_gridShaped cfg s h rot x d⟩

/-- WHOLE EPISODES: along the rollout (`Ep.rollout` = the L1 step iterated) of ANY actions and valid draws from `reset`,
every observation emitted by one of the first `time_limit` steps is a member of the spec; the first LAST timestep is among
them (`tetris_rollout_ends_by_limit`: it comes at a step `k ≤ time_limit`), so this covers every observation of every episode
up to and including the terminal one -/
theorem tetris_rollout_obs_valid (cfg : Cfg) (hR : 0 < cfg.numRows) (hC : 3 ≤ cfg.numCols) (d0 : Nat)
    (as : List (Int × Int × Nat)) (has : ∀ a ∈ as, validDraw a.2.2) (j : Nat) (hj : j < cfg.timeLimit)
    (e : State × TimeStep Obs)
    (he : (Ep.rollout (fun s (a : Int × Int × Nat) => step cfg s a.1 a.2.1 a.2.2) (reset cfg d0).1 as)[j]? = some e) :
    (obsSpec cfg).valid (toNValue e.2.obs) = true := by
  obtain ⟨s', a, hinv, ha, rfl⟩ := rollout_inv_idx (fun s (a : Int × Int × Nat) => step cfg s a.1 a.2.1 a.2.2)
    (fun n s => GridShaped cfg s ∧ s.stepCount = n) (fun a => validDraw a.2.2)
    (fun n s a h _ => ⟨step_gridShaped cfg s h.1 _ _ _, by show (step cfg s a.1 a.2.1 a.2.2).1.stepCount = n + 1; rw [step_count, h.2]⟩) 0 _
    ⟨reset_gridShaped cfg d0, rfl⟩ as has j e he
  exact tetris_step_obs_valid cfg hR hC s' hinv.1 (by rw [hinv.2]; omega) _ _ _ ha

/-- what membership means (so the theorems above are not hollow).  CAVEAT: `toNValue` reads the widths off the FIRST row of every
nested list, so the shape conjuncts here mean "row count, length of the first row, total number of cells" — a ragged value with the
right total can be a member, and nothing is concluded about the later rows.  Rectangularity is part of what the forward theorems
establish (`GridShaped` for the padded grid, `Rect2` for every leaf in `ObsOK`), i.e. it holds of every EMITTED observation. -/
theorem tetris_obs_valid_only (cfg : Cfg) (o : Obs) (h : (obsSpec cfg).valid (toNValue o) = true) :
    shape2 o.grid = [cfg.numRows, cfg.numCols] ∧ (∀ v ∈ o.grid.flatten, v ≤ 1) ∧
    shape2 o.tetromino = [4, 4] ∧ (∀ v ∈ o.tetromino.flatten, v ≤ 1) ∧
    shape2 o.actionMask = [4, cfg.numCols] ∧ o.stepCount ≤ cfg.timeLimit := Tetris.obs_valid_only cfg o h

example : (obsSpec ⟨4, 4, 10⟩).valid (toNValue (reset ⟨4, 4, 10⟩ 0).2.obs) = true ∧
    (obsSpec ⟨4, 4, 10⟩).valid (toNValue { (reset ⟨4, 4, 10⟩ 0).2.obs with stepCount := 11 }) = false ∧
    (obsSpec ⟨4, 5, 10⟩).valid (toNValue (reset ⟨4, 4, 10⟩ 0).2.obs) = false := by decide +kernel

/-- reward and discount of every `step` (ALL states, ALL action values, all draws) and of `reset` are accepted by
`reward_spec` (Array((), float)) and `discount_spec` (BoundedArray((), float, 0, 1)) -/
theorem tetris_reward_discount_valid (cfg : Cfg) (s : State) (rot x : Int) (d d0 : Nat) :
    rewardSpec.valid (scalarArr (step cfg s rot x d).2.reward) = true ∧
    discountSpec.valid (scalarArr (step cfg s rot x d).2.discount) = true ∧
    rewardSpec.valid (scalarArr (reset cfg d0).2.reward) = true ∧
    discountSpec.valid (scalarArr (reset cfg d0).2.discount) = true := by
  have h := stepOK_reward_discount_valid false _ (step_protocol cfg s rot x d)
  simp only [reset, restart]
  exact ⟨h.1, h.2, by decide, by decide⟩

/-- `action_spec.generate_value()` = (0, 0): the action spec is well-formed, the generated value is a member, and `step`
answers it in every state with a protocol-conform timestep; membership in `action_spec` is "rotation < 4, column < num_cols" -/
theorem tetris_accepts_generate_value (cfg : Cfg) (hC : 0 < cfg.numCols) (hbig : cfg.numCols ≤ 2147483648) (s : State)
    (d : Nat) :
    (actionSpec cfg).WF = true ∧ (actionSpec cfg).valid (actionSpec cfg).generate = true ∧
    (actionSpec cfg).generate = actionArr 0 0 ∧ StepOK none false (step cfg s 0 0 d).2 = true :=
  Tetris.accepts_generate_value cfg hC hbig s d

theorem tetris_action_spec_iff (cfg : Cfg) (rot x : Nat) :
    (actionSpec cfg).valid (actionArr (rot : Int) (x : Int)) = true ↔ rot < 4 ∧ x < cfg.numCols := by
  rw [actionSpec, actionArr, valid_multiDiscrete_iff]
  simp only [List.length_cons, List.length_nil, prod, List.foldl_cons, List.foldl_nil, List.zip_cons_cons, List.zip_nil_right,
    List.forall_mem_cons, List.not_mem_nil, Rat.intCast_nonneg, Rat.intCast_le_intCast, true_and, false_imp_iff,
    implies_true, and_true]
  omega
end Props.C01
