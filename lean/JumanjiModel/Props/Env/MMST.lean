/-
Property theorems for MMST (relational model: the tie-break permutation `perm` is a draw; every theorem holds
for ALL draws, not only valid ones).  The lemmas they rest on are in Env/MMST/.

In-spec joint actions are `action : List Nat` (component `i` is the node agent `i` wants to move to); they
reach the L1 `step` as `action.map Int.ofNat`.  The running example has 5 nodes on a path 0-1-2-3-4, node 2
is a utility node, agent 0 owns {0,1}, agent 1 owns {3,4}.
-/
import JumanjiModel.Env.MMST.Lemmas
import JumanjiModel.Env.MMST.Bounds
import JumanjiModel.Env.MMST.FeasibleLemmas
import JumanjiModel.Env.MMST.Walk
import JumanjiModel.Env.MMST.ObsLemmas
import JumanjiModel.Env.MMST.Illegal
import JumanjiModel.Env.MMST.Solvable
import JumanjiModel.Env.MMST.GenLemmas
import JumanjiModel.Env.MMST.Spec
import JumanjiModel.Core.EpisodeLemmas
open Jm MMST

namespace Props.MMSTEx
def cfg : Cfg := { numAgents := 2, numNodes := 5, numNodesPerAgent := 2, timeLimit := 6,
                   rConn := 10, rStep := -1, rNoop := -1 }
def adj : List (List Int) := [[0,1,0,0,0],[1,0,1,0,0],[0,1,0,1,0],[0,0,1,0,1],[0,0,0,1,0]]
def edges : List (List Int) := [[-1,1,-1,-1,-1],[0,-1,2,-1,-1],[-1,1,-1,3,-1],[-1,-1,2,-1,4],[-1,-1,-1,3,-1]]
/-- start of an episode: agent 0 on node 0, agent 1 on node 3 -/
def st : State :=
  { nodeTypes := [0, 0, -1, 1, 1], adj := adj,
    connectedNodes := [[0, -1, -1, -1, -1, -1], [3, -1, -1, -1, -1, -1]],
    connectedIndex := [[0, -1, -1, -1, -1], [-1, -1, -1, 3, -1]],
    nodesToConnect := [[0, 1], [3, 4]], nodeEdges := [edges, edges], positions := [0, 3], positionIndex := [0, 0],
    actionMask := [[false, true, false, false, false], [false, false, true, false, true]],
    finished := [false, false], stepCount := 0 }
/-- after agent 0 moved to 1 (done) and agent 1 to the utility node 2, as the pinned tree leaves it:
the mask row of the finished agent 0 is stale -/
def st1 : State := (step cfg st [1, 2] [0, 1]).1
/-- another start: agent 1 on the LAST node 4 -/
def stB : State :=
  { st with connectedNodes := [[0, -1, -1, -1, -1, -1], [4, -1, -1, -1, -1, -1]],
            connectedIndex := [[0, -1, -1, -1, -1], [-1, -1, -1, -1, 4]], nodesToConnect := [[0, 1], [4, 3]],
            positions := [0, 4], actionMask := [[false, true, false, false, false], [false, false, false, true, false]] }
def cfgG : Cfg := { cfg with guardVisited := true }
/-- the repaired configuration (`/repo` at HEAD: fresh mask, guarded visited lookup) -/
def cfgR : Cfg := { cfg with guardVisited := true, freshMask := true }
/-- `Feasible` but no walk: routes `[0,4]` and `[1,3]` on the path graph (no edges 0-4, 1-3) -/
def stJump : State :=
  { st with nodeTypes := [0, 1, -1, 1, 0], nodesToConnect := [[0, 4], [1, 3]],
            connectedNodes := [[0, 4, -1, -1, -1, -1], [1, 3, -1, -1, -1, -1]],
            connectedIndex := [[0, -1, -1, -1, 4], [-1, 1, -1, 3, -1]], positions := [4, 3], positionIndex := [1, 1],
            actionMask := [[false, false, false, false, false], [false, false, false, false, false]],
            finished := [true, true], stepCount := 1 }
/-- one node per agent (`num_nodes_per_agent = 1`): a reset state as the generator builds it -/
def cfgK1 : Cfg := { cfg with numNodesPerAgent := 1 }
def stK1 : State :=
  { st with nodeTypes := [0, -1, -1, 1, -1], nodesToConnect := [[0], [3]] }
/-- the graph and the draws from which the generator builds `st` -/
def draw : GenDraw := { adj := adj, nodeEdges := edges, comps := [[0, 1], [3, 4]] }
end Props.MMSTEx

namespace Props.C04
/-- the mask FUNCTION (`make_action_mask` on the current edge tables, positions and finished flags) gives, for
every agent and every node, exactly the legal moves of the rules -/
theorem mmst_mask_iff_legal (cfg : Cfg) (s : State) (hS : Shaped cfg s) (hE : EdgesOK cfg s) (hF : FlagsFresh cfg s)
    (i a : Nat) (hi : i < cfg.numAgents) (ha : a < cfg.numNodes) :
    ((makeMask cfg.numAgents s.nodeEdges s.positions s.finished).getD i []).getD a false = true ↔ legal cfg s i a :=
  MMST.mask_iff_legal hS hE hF hi ha

/-- the mask STORED by `step` is that function of the successor when the source is repaired (`freshMask`) or,
on the pinned tree, when no agent finished in this step -/
theorem mmst_cached_mask_partial (cfg : Cfg) (s : State) (a : List Int) (p : List Nat)
    (h : cfg.freshMask = true ∨ (step cfg s a p).1.finished = s.finished) :
    (step cfg s a p).1.actionMask =
      makeMask cfg.numAgents (step cfg s a p).1.nodeEdges (step cfg s a p).1.positions (step cfg s a p).1.finished :=
  MMST.cached_mask_fresh cfg s a p h

/-- pinned tree: the stored mask is stale by one step for an agent that has just finished — a non-terminal
successor whose mask offers moves to a finished agent (defect: `make_action_mask` is called before
`finished_agents` is updated) -/
theorem mmst_cached_mask_stale_witness :
    (step MMSTEx.cfg MMSTEx.st [1, 2] [0, 1]).2.stepType = .mid ∧
    MMSTEx.st1.actionMask ≠ legalMask MMSTEx.cfg MMSTEx.st1 ∧
    (MMSTEx.st1.actionMask.getD 0 []).getD 0 false = true ∧ ¬ legal MMSTEx.cfg MMSTEx.st1 0 0 := by
  decide +kernel

/-- the environment's own reaction agrees with the rules in one direction for every draw: an agent that is
moved played a legal action (no illegal move is ever carried out) -/
theorem mmst_moved_only_if_legal (cfg : Cfg) (s : State) (hS : Shaped cfg s) (hE : EdgesOK cfg s)
    (hF : FlagsFresh cfg s) (action perm : List Nat) (i : Nat) (hi : i < cfg.numAgents)
    (ha : action.getD i 0 < cfg.numNodes)
    (hm : (step cfg s (action.map Int.ofNat) perm).1.positionIndex.getD i 0 ≠ s.positionIndex.getD i 0) :
    legal cfg s i (action.getD i 0) :=
  Decidable.byContradiction fun h => hm (MMST.illegal_ignored hS hE hF action perm hi ha h).2.1

example : Shaped MMSTEx.cfg MMSTEx.st ∧ EdgesOK MMSTEx.cfg MMSTEx.st ∧ FlagsFresh MMSTEx.cfg MMSTEx.st := by
  decide +kernel
example : legal MMSTEx.cfg MMSTEx.st 1 2 ∧ ¬ legal MMSTEx.cfg MMSTEx.st 0 2 := by decide +kernel

/-- the utility node 2, once used by agent 1, is closed for agent 0 -/
example : ¬ legal MMSTEx.cfg MMSTEx.st1 0 2 ∧ takenByOther MMSTEx.cfg MMSTEx.st1 0 2 := by decide +kernel

/-- `FlagsFresh`, the hypothesis of the theorems above, is re-established by every `step` (rows of `nodes_to_connect` have
`num_nodes_per_agent` entries) -/
theorem mmst_step_flagsFresh (cfg : Cfg) (s : State) (action : List Int) (perm : List Nat)
    (hK : ∀ i, i < cfg.numAgents → (s.nodesToConnect.getD i []).length = cfg.numNodesPerAgent) :
    FlagsFresh cfg (step cfg s action perm).1 := MMST.step_flagsFresh cfg s action perm hK

/-- `FlagsFresh` holds in every generated state when every agent has at least two nodes to connect (the flags are all false,
and no agent is done: its route holds its first node only) — so with `mmst_step_flagsFresh` it holds along every episode -/
theorem mmst_reset_flagsFresh (cfg : Cfg) (s : State) (hS : Shaped cfg s) (h1 : certStart cfg s = true)
    (h4 : certAgentsDisjoint cfg s = true) (hK : 2 ≤ cfg.numNodesPerAgent) : FlagsFresh cfg s :=
  MMST.reset_flagsFresh hS h1 h4 hK

example : Shaped MMSTEx.cfg MMSTEx.st ∧ certStart MMSTEx.cfg MMSTEx.st = true ∧
    certAgentsDisjoint MMSTEx.cfg MMSTEx.st = true ∧ 2 ≤ MMSTEx.cfg.numNodesPerAgent := by decide +kernel

/-- `num_nodes_per_agent = 1` (accepted by `SplitRandomGenerator`): the reset state satisfies every certificate, each
agent is already done (its only node is its start node) but `finished_agents` is all false: the flags are NOT
fresh, the mask (and `step`) offer moves the rules do not allow.  The real code agrees
(`SplitRandomGenerator(6, 7, 4, 2, 1, 5)`, `reset(PRNGKey(0))`: `get_finished_agents(state) = [True, True]`,
`state.finished_agents = [False, False]`, FIRST timestep with a non-empty mask; the first step moves both agents,
costs -2 and ends the episode) -/
theorem mmst_reset_flagsFresh_k1_witness :
    Shaped MMSTEx.cfgK1 MMSTEx.stK1 ∧ certStart MMSTEx.cfgK1 MMSTEx.stK1 = true ∧
    certTypes MMSTEx.cfgK1 MMSTEx.stK1 = true ∧ certEdgesAdj MMSTEx.cfgK1 MMSTEx.stK1 = true ∧
    certAgentsDisjoint MMSTEx.cfgK1 MMSTEx.stK1 = true ∧ certOwnBlock MMSTEx.cfgK1 MMSTEx.stK1 = true ∧
    ¬ FlagsFresh MMSTEx.cfgK1 MMSTEx.stK1 ∧ agentDone MMSTEx.stK1 0 ∧
    (MMSTEx.stK1.actionMask.getD 0 []).getD 1 false = true ∧ ¬ legal MMSTEx.cfgK1 MMSTEx.stK1 0 1 ∧
    (step MMSTEx.cfgK1 MMSTEx.stK1 [1, 4] [0, 1]).1.positions = [1, 4] ∧
    (step MMSTEx.cfgK1 MMSTEx.stK1 [1, 4] [0, 1]).2.reward = [-2] ∧
    (step MMSTEx.cfgK1 MMSTEx.stK1 [1, 4] [0, 1]).2.stepType = .last := by decide +kernel

/-- a legal action is carried out when no agent BEFORE agent `i` in the draw asks for the same node (agents after
it lose the tie-break against it) and `i` occurs once in the draw `l1 ++ i :: l2` -/
theorem mmst_legal_moves (cfg : Cfg) (s : State) (hS : Shaped cfg s) (hE : EdgesOK cfg s) (hF : FlagsFresh cfg s)
    (action l1 l2 : List Nat) (i : Nat) (hi : i < cfg.numAgents) (hl : action.length = cfg.numAgents)
    (ha : action.getD i 0 < cfg.numNodes) (hleg : legal cfg s i (action.getD i 0))
    (h1 : ∀ k ∈ l1, (targets cfg s (action.map Int.ofNat)).getD k (-1) ≠ ((action.getD i 0 : Nat) : Int))
    (h2 : i ∉ l2) :
    (step cfg s (action.map Int.ofNat) (l1 ++ i :: l2)).1.positionIndex.getD i 0 = s.positionIndex.getD i 0 + 1 ∧
    (step cfg s (action.map Int.ofNat) (l1 ++ i :: l2)).1.positions.getD i 0 = ((action.getD i 0 : Nat) : Int) := by
  obtain ⟨hm, hn⟩ := MMST.legal_moves hS hE hF action l1 l2 hi hl ha hleg h1 h2
  rw [MMST.step_positionIndex cfg s _ _ hi, MMST.step_positions cfg s _ _ hi, if_pos hm, if_pos hm]
  exact ⟨rfl, hn⟩

/-- the converse of `mmst_moved_only_if_legal`: for EVERY valid draw, a legal action whose node no other agent
asks for in this step (uncontested) moves the agent to that node and advances its route index -/
theorem mmst_legal_uncontested_moves (cfg : Cfg) (s : State) (hS : Shaped cfg s) (hE : EdgesOK cfg s)
    (hF : FlagsFresh cfg s) (action perm : List Nat) (hd : validDraw cfg.numAgents perm) (i : Nat)
    (hi : i < cfg.numAgents) (hl : action.length = cfg.numAgents) (ha : action.getD i 0 < cfg.numNodes)
    (hleg : legal cfg s i (action.getD i 0))
    (hunc : ∀ k, k < cfg.numAgents → k ≠ i →
      (targets cfg s (action.map Int.ofNat)).getD k (-1) ≠ ((action.getD i 0 : Nat) : Int)) :
    (step cfg s (action.map Int.ofNat) perm).1.positionIndex.getD i 0 = s.positionIndex.getD i 0 + 1 ∧
    (step cfg s (action.map Int.ofNat) perm).1.positions.getD i 0 = ((action.getD i 0 : Nat) : Int) := by
  obtain ⟨l1, l2, rfl, hi1, hi2⟩ := validDraw_split hd hi
  exact mmst_legal_moves cfg s hS hE hF action l1 l2 i hi hl ha hleg
    (fun k hk => hunc k (hd.2.2 k (List.mem_append_left _ hk)) (fun h => hi1 (h ▸ hk))) hi2

/-- C04 in both directions: for an uncontested in-spec action and any valid draw, the environment moves
the agent iff the rules say the action is legal -/
theorem mmst_step_agrees (cfg : Cfg) (s : State) (hS : Shaped cfg s) (hE : EdgesOK cfg s)
    (hF : FlagsFresh cfg s) (action perm : List Nat) (hd : validDraw cfg.numAgents perm) (i : Nat)
    (hi : i < cfg.numAgents) (hl : action.length = cfg.numAgents) (ha : action.getD i 0 < cfg.numNodes)
    (hunc : ∀ k, k < cfg.numAgents → k ≠ i →
      (targets cfg s (action.map Int.ofNat)).getD k (-1) ≠ ((action.getD i 0 : Nat) : Int)) :
    legal cfg s i (action.getD i 0) ↔
      (step cfg s (action.map Int.ofNat) perm).1.positionIndex.getD i 0 ≠ s.positionIndex.getD i 0 := by
  constructor
  · intro hleg
    have := (mmst_legal_uncontested_moves cfg s hS hE hF action perm hd i hi hl ha hleg hunc).1
    omega
  · exact mmst_moved_only_if_legal cfg s hS hE hF action perm i hi ha

/-- the hypotheses are satisfiable: at the start of the example agent 0 plays 1 and agent 1 plays 2, nobody
contests, both moves are legal and carried out -/
example : validDraw MMSTEx.cfg.numAgents [1, 0] ∧ legal MMSTEx.cfg MMSTEx.st 0 1 ∧
    (targets MMSTEx.cfg MMSTEx.st ([1, 2].map Int.ofNat)).getD 1 (-1) ≠ ((1 : Nat) : Int) ∧
    (step MMSTEx.cfg MMSTEx.st [1, 2] [1, 0]).1.positions = [1, 2] := by decide +kernel

/-- "uncontested" cannot be dropped: both agents legally ask for the free utility node 2, the one later in the
draw stays where it is (the documented tie-break, not a defect) -/
theorem mmst_legal_contested_not_moved_witness :
    (let s := { MMSTEx.st with positions := [1, 3], connectedIndex := [[0, 1, -1, -1, -1], [-1, -1, -1, 3, -1]],
                               connectedNodes := [[0, 1, -1, -1, -1, -1], [3, -1, -1, -1, -1, -1]],
                               positionIndex := [1, 0], nodesToConnect := [[0, 4], [3, 4]] }
     Feasible MMSTEx.cfg s ∧ FlagsFresh MMSTEx.cfg s ∧ legal MMSTEx.cfg s 0 2 ∧ legal MMSTEx.cfg s 1 2 ∧
     (step MMSTEx.cfg s [2, 2] [1, 0]).1.positionIndex = [1, 1] ∧
     (step MMSTEx.cfg s [2, 2] [0, 1]).1.positionIndex = [2, 0]) := by decide +kernel
end Props.C04

namespace Props.C05
/-- ignore-invalid: the agent whose action is illegal (no edge, utility node taken by another agent, or the
agent is already done) keeps its position, its route index, its route and its visited table, for every draw and
whatever the other agents play -/
theorem mmst_illegal_ignored (cfg : Cfg) (s : State) (hS : Shaped cfg s) (hE : EdgesOK cfg s)
    (hF : FlagsFresh cfg s) (action perm : List Nat) (i : Nat) (hi : i < cfg.numAgents)
    (ha : action.getD i 0 < cfg.numNodes) (hill : ¬ legal cfg s i (action.getD i 0)) :
    let s' := (step cfg s (action.map Int.ofNat) perm).1
    s'.positions.getD i 0 = s.positions.getD i 0 ∧ s'.positionIndex.getD i 0 = s.positionIndex.getD i 0 ∧
    s'.connectedNodes.getD i [] = s.connectedNodes.getD i [] ∧
    s'.connectedIndex.getD i [] = s.connectedIndex.getD i [] :=
  MMST.illegal_ignored hS hE hF action perm hi ha hill

/-- the WHOLE documented effect of a joint action in the repaired configuration
(`guardVisited`), for every feasible state with fresh flags, every in-spec joint action and every valid draw: the
decidable C05 predicate of the driver holds of the model's own step — every agent with an illegal action keeps
position, route index, route and visited table; the reward is the sum of the documented per-agent rewards
(0 for a done agent, time-step + invalid-choice penalty for an illegal action, 0 for a lost tie-break,
connection reward for a newly connected own node, time-step penalty otherwise) — so the other agents' rewards are
untouched by an illegal choice; and the episode ends only when all agents are done or the time is up.  Of `Feasible` the
proof uses the shapes and the edge tables only (`MMST.step_illegalIgnored`) -/
theorem mmst_illegalIgnored_repaired (cfg : Cfg) (s : State) (hg : cfg.guardVisited = true)
    (hF : Feasible cfg s) (hFr : FlagsFresh cfg s)
    (hK : ∀ i, i < cfg.numAgents → (s.nodesToConnect.getD i []).length = cfg.numNodesPerAgent)
    (action perm : List Nat) (hd : validDraw cfg.numAgents perm)
    (hl : action.length = cfg.numAgents) (ha : ∀ i, i < cfg.numAgents → action.getD i 0 < cfg.numNodes) :
    illegalIgnored cfg s action (step cfg s (action.map Int.ofNat) perm).1
      (step cfg s (action.map Int.ofNat) perm).2 = true :=
  MMST.step_illegalIgnored hg hF.shaped hF.edgesOK hFr hK action perm hd hl ha

/-- … and the edge tables after a step are `update_active_edges` of the new positions alone (for EVERY joint action, by
unfolding `step`); an agent whose illegal action was ignored has not moved (`mmst_illegal_ignored`), so what it asked for
reaches nobody's table -/
theorem mmst_illegal_edges (cfg : Cfg) (s : State) (action : List Int) (perm : List Nat) :
    (step cfg s action perm).1.nodeEdges =
      updateActiveEdges cfg.numAgents s.nodeEdges (step cfg s action perm).1.positions s.nodeTypes :=
  MMST.step_nodeEdges cfg s action perm

example : MMSTEx.cfgG.guardVisited = true ∧ Feasible MMSTEx.cfgG MMSTEx.stB ∧ FlagsFresh MMSTEx.cfgG MMSTEx.stB ∧
    validDraw MMSTEx.cfgG.numAgents [0, 1] ∧ ¬ legal MMSTEx.cfgG MMSTEx.stB 1 0 := by decide +kernel

/-- the episode is not ended by an illegal action: LAST only when all agents are done or the time is up -/
theorem mmst_last_only_documented (cfg : Cfg) (s : State) (a : List Int) (p : List Nat) :
    (step cfg s a p).2.stepType = .last ↔
      ((step cfg s a p).1.finished.all id = true ∨ s.stepCount + 1 ≥ (cfg.timeLimit : Int)) :=
  MMST.step_last_iff cfg s a p

/-- agent 0 picks node 3 (no edge): the decidable C05 predicate of the driver holds on the model's own step,
the reward is -1 (agent 1, plain move) + -2 (agent 0, time step + invalid choice) -/
example : ¬ legal MMSTEx.cfg MMSTEx.st 0 3 ∧
    illegalIgnored MMSTEx.cfg MMSTEx.st [3, 2] (step MMSTEx.cfg MMSTEx.st [3, 2] [0, 1]).1
      (step MMSTEx.cfg MMSTEx.st [3, 2] [0, 1]).2 = true ∧
    (step MMSTEx.cfg MMSTEx.st [3, 2] [0, 1]).2.reward = [-3] := by decide +kernel

/-- pinned tree: once an agent has visited the LAST node (here node 4), its invalid choices no longer cost the
invalid-choice penalty, because `connected_nodes_index[agent, -1]` reads the last node (defect): agent 0 connects
node 1 (+10), agent 1 picks node 0 (no edge): documented -1 - 1, total 8; the code gives 10 - 1 = 9 … -/
theorem mmst_invalid_penalty_skipped_witness :
    Feasible MMSTEx.cfg MMSTEx.stB ∧ FlagsFresh MMSTEx.cfg MMSTEx.stB ∧
    ¬ legal MMSTEx.cfg MMSTEx.stB 1 0 ∧ (step MMSTEx.cfg MMSTEx.stB [1, 0] [0, 1]).2.reward = [9] ∧
    illegalIgnored MMSTEx.cfg MMSTEx.stB [1, 0] (step MMSTEx.cfg MMSTEx.stB [1, 0] [0, 1]).1
      (step MMSTEx.cfg MMSTEx.stB [1, 0] [0, 1]).2 = false := by
  decide +kernel

/-- … and with the lookup guarded (`guardVisited`) the same transition carries the documented total 8 -/
example :
    (step MMSTEx.cfgG MMSTEx.stB [1, 0] [0, 1]).2.reward = [8] ∧
    illegalIgnored MMSTEx.cfgG MMSTEx.stB [1, 0] (step MMSTEx.cfgG MMSTEx.stB [1, 0] [0, 1]).1
      (step MMSTEx.cfgG MMSTEx.stB [1, 0] [0, 1]).2 = true := by
  decide +kernel
end Props.C05

namespace Props.C06
/-- tie-break: two different agents that both move in one step to nodes they had not visited before never go to
the same node — for EVERY draw of the permutation (valid or not) and every action list, any number of agents -/
theorem mmst_new_nodes_distinct (cfg : Cfg) (s : State) (action : List Int) (perm : List Nat) (i j : Nat)
    (hi : i < cfg.numAgents) (hj : j < cfg.numAgents) (hij : i ≠ j)
    (hmi : moves ((trim cfg s action perm).getD i (-1)) ((targets cfg s action).getD i (-1)) = true)
    (hmj : moves ((trim cfg s action perm).getD j (-1)) ((targets cfg s action).getD j (-1)) = true)
    (hvi : Jx.getWC (s.connectedIndex.getD i []) (-1) ((targets cfg s action).getD i (-1)) = -1)
    (hvj : Jx.getWC (s.connectedIndex.getD j []) (-1) ((targets cfg s action).getD j (-1)) = -1) :
    (targets cfg s action).getD i (-1) ≠ (targets cfg s action).getD j (-1) :=
  MMST.new_nodes_distinct cfg s action perm hi hj hij hmi hmj hvi hvj

/-- a node an agent is moved to is never a utility node already used by another agent (part of `legal`) -/
theorem mmst_moved_not_taken (cfg : Cfg) (s : State) (hS : Shaped cfg s) (hE : EdgesOK cfg s)
    (hF : FlagsFresh cfg s) (action perm : List Nat) (i : Nat) (hi : i < cfg.numAgents)
    (ha : action.getD i 0 < cfg.numNodes)
    (hm : (step cfg s (action.map Int.ofNat) perm).1.positionIndex.getD i 0 ≠ s.positionIndex.getD i 0) :
    ¬ takenByOther cfg s i (action.getD i 0) :=
  (Props.C04.mmst_moved_only_if_legal cfg s hS hE hF action perm i hi ha hm).2.2.2.2

/-- both agents want the free utility node 2: exactly the first of the draw gets it, the state stays feasible -/
example : Feasible MMSTEx.cfg (step MMSTEx.cfg MMSTEx.st1 [0, 3] [1, 0]).1 ∧
    (let s := { MMSTEx.st with positions := [1, 3], connectedIndex := [[0, 1, -1, -1, -1], [-1, -1, -1, 3, -1]],
                               connectedNodes := [[0, 1, -1, -1, -1, -1], [3, -1, -1, -1, -1, -1]],
                               positionIndex := [1, 0], nodesToConnect := [[0, 4], [3, 4]] }
     (step MMSTEx.cfg s [2, 2] [1, 0]).1.positions = [1, 2] ∧ (step MMSTEx.cfg s [2, 2] [0, 1]).1.positions = [2, 3] ∧
     Feasible MMSTEx.cfg (step MMSTEx.cfg s [2, 2] [1, 0]).1) := by decide +kernel

/-- the start state of the example satisfies the hard constraint and its bookkeeping; so does the successor in
which agent 1 has taken the utility node -/
example : Feasible MMSTEx.cfg MMSTEx.st ∧ Feasible MMSTEx.cfg MMSTEx.st1 := by decide +kernel

/-- `Feasible` is preserved by EVERY step: any joint action (any list of integers — masked-in or not, in range or not),
any draw (a valid permutation or not), any configuration (pinned or repaired mask / visited lookup, `freshMask`,
`guardVisited`) -/
theorem mmst_step_feasible (cfg : Cfg) (s : State) (h : Feasible cfg s) (action : List Int) (perm : List Nat) :
    Feasible cfg (step cfg s action perm).1 := MMST.step_feasible h action perm

/-- … in particular under mask-respecting play (every agent plays a node its cached mask offers, or any node when
its mask row is empty) with a valid tie-break draw, in the repaired configuration (a special case in words only: the
proof uses none of the three extra hypotheses) -/
theorem mmst_masked_step_feasible (cfg : Cfg) (s : State) (h : Feasible cfg s) (action perm : List Nat)
    (_hc : cfg.freshMask = true ∧ cfg.guardVisited = true) (_hd : validDraw cfg.numAgents perm)
    (_hmask : ∀ i, i < cfg.numAgents →
      (s.actionMask.getD i []).getD (action.getD i 0) false = true ∨ (s.actionMask.getD i []).all (· == false) = true) :
    Feasible cfg (step cfg s (action.map Int.ofNat) perm).1 := MMST.step_feasible h _ perm

/-- … and along every run: all states reached from a feasible state by any sequence of joint actions and draws
are feasible -/
theorem mmst_feasible_along (cfg : Cfg) (s : State) (h : Feasible cfg s) (steps : List (List Int × List Nat)) :
    ∀ s' ∈ statesAlong cfg s steps, Feasible cfg s' := MMST.feasible_along steps h

/-- reset: a state with the configured shapes that satisfies the generator certificates `certStart` (every agent
stands on its first node, routes otherwise empty), `certTypes` (node types = ownership, so start nodes are not
utility nodes) and `certEdgesAdj` (every agent's edge table is the adjacency matrix) is feasible -/
theorem mmst_reset_feasible (cfg : Cfg) (s : State) (hS : Shaped cfg s) (h1 : certStart cfg s = true)
    (h2 : certTypes cfg s = true) (h3 : certEdgesAdj cfg s = true) : Feasible cfg s :=
  MMST.reset_feasible hS h1 h2 h3

/-- a feasible state with fresh flags in which every agent is finished is a complete solution -/
theorem mmst_complete_is_solution (cfg : Cfg) (s : State) (hF : Feasible cfg s) (hFr : FlagsFresh cfg s)
    (hdone : s.finished.all id = true) : IsSolution cfg s := MMST.complete_is_solution hF hFr hdone

/-- the step that ends an episode before the time limit (ended by completion) leaves a complete feasible solution:
every agent has all its nodes on its route and no utility node is shared -/
theorem mmst_step_complete_is_solution (cfg : Cfg) (s : State) (hF : Feasible cfg s) (action : List Int)
    (perm : List Nat)
    (hK : ∀ i, i < cfg.numAgents → (s.nodesToConnect.getD i []).length = cfg.numNodesPerAgent)
    (hlast : (step cfg s action perm).2.stepType = .last) (ht : s.stepCount + 1 < (cfg.timeLimit : Int)) :
    IsSolution cfg (step cfg s action perm).1 := MMST.step_complete_is_solution hF action perm hK hlast ht

/-! #### routes are walks (`Feasible' = Feasible ∧ RouteWalk`) -/

/-- `Feasible` / `IsSolution` alone do not say that a route is a walk: on the path graph 0-1-2-3-4 the routes
`[0,4]` and `[1,3]` (no such edges) pass them; `Feasible'` / `IsSolution'` reject the state -/
theorem mmst_feasible_not_walk_witness :
    Feasible MMSTEx.cfg MMSTEx.stJump ∧ FlagsFresh MMSTEx.cfg MMSTEx.stJump ∧ IsSolution MMSTEx.cfg MMSTEx.stJump ∧
    ¬ hasEdge MMSTEx.stJump 0 4 ∧ ¬ hasEdge MMSTEx.stJump 1 3 ∧
    ¬ Feasible' MMSTEx.cfg MMSTEx.stJump ∧ ¬ IsSolution' MMSTEx.cfg MMSTEx.stJump := by decide +kernel

/-- `Feasible'` (hard constraint, bookkeeping, and `RouteWalk`) is preserved by EVERY step taken before the time limit (the
step that reaches it included): any joint action, any draw, any configuration -/
theorem mmst_step_feasible' (cfg : Cfg) (s : State) (h : Feasible' cfg s) (ht : s.stepCount < (cfg.timeLimit : Int))
    (action : List Int) (perm : List Nat) : Feasible' cfg (step cfg s action perm).1 :=
  MMST.step_feasible' h ht action perm

/-- … and along every run that stays within the time limit -/
theorem mmst_feasible_along' (cfg : Cfg) (s : State) (h : Feasible' cfg s) (steps : List (List Int × List Nat))
    (hlen : s.stepCount + (steps.length : Int) ≤ (cfg.timeLimit : Int)) :
    ∀ s' ∈ statesAlong cfg s steps, Feasible' cfg s' := by
  intro s' hs'
  have hb := statesAlong_stepCount cfg steps s s' hs'
  -- "`Feasible'` unless the counter has passed the limit" is preserved by every step
  refine statesAlong_inv (P := fun s => s.stepCount ≤ (cfg.timeLimit : Int) → Feasible' cfg s) ?_ steps (fun _ => h)
    s' hs' (by omega)
  intro s a p hP hle
  rw [step_count] at hle
  exact step_feasible' (hP (by omega)) (by omega) a p

/-- reset: a state with the configured shapes satisfying the generator certificates, whose route rows have
`time_limit ≥ 1` entries (`max_step = time_limit`), is `Feasible'` -/
theorem mmst_reset_feasible' (cfg : Cfg) (s : State) (hS : Shaped cfg s) (h1 : certStart cfg s = true)
    (h2 : certTypes cfg s = true) (h3 : certEdgesAdj cfg s = true) (hT : 1 ≤ cfg.timeLimit)
    (hL : ∀ i, i < cfg.numAgents → (s.connectedNodes.getD i []).length = cfg.timeLimit) : Feasible' cfg s :=
  MMST.reset_feasible' hS h1 h2 h3 hT hL

/-- the step that ends an episode before the time limit (ended by completion) leaves an `IsSolution'` state … -/
theorem mmst_step_complete_is_solution' (cfg : Cfg) (s : State) (hF : Feasible' cfg s) (action : List Int)
    (perm : List Nat)
    (hK : ∀ i, i < cfg.numAgents → (s.nodesToConnect.getD i []).length = cfg.numNodesPerAgent)
    (hlast : (step cfg s action perm).2.stepType = .last) (ht : s.stepCount + 1 < (cfg.timeLimit : Int)) :
    IsSolution' cfg (step cfg s action perm).1 :=
  ⟨step_feasible' hF (by omega) action perm, (step_complete_is_solution hF.1 action perm hK hlast ht).2⟩

/-- … and `IsSolution'` is what the environment's goal says: all nodes to connect of agent `i` are
reachable from each other by graph edges INSIDE its own route (`ReachIn s (onRoute s i)`: every node of the path,
end points included, is on the route of `i`), and the routes of two different agents share no utility node -/
theorem mmst_solution_connects (cfg : Cfg) (s : State) (h : IsSolution' cfg s) :
    (∀ i, i < cfg.numAgents → ∀ u v : Nat, (u : Int) ∈ s.nodesToConnect.getD i [] →
        (v : Int) ∈ s.nodesToConnect.getD i [] → ReachIn s (onRoute s i) u v) ∧
    (∀ i j, i < cfg.numAgents → j < cfg.numAgents → i ≠ j → ∀ v, isUtility s v →
        ¬ (onRoute s i v ∧ onRoute s j v)) :=
  ⟨fun i hi _ _ hu hv => route_connected h.1.2 hi (h.2 i hi _ hu) (h.2 i hi _ hv),
   fun _ _ hi hj hij _ hu => routes_utility_disjoint h.1.1 hi hj hij hu⟩

/-- both together: when the episode ends by completion every agent's nodes to connect are pairwise connected
inside its own route and no utility node is on two routes -/
theorem mmst_step_complete_connects (cfg : Cfg) (s : State) (hF : Feasible' cfg s) (action : List Int)
    (perm : List Nat)
    (hK : ∀ i, i < cfg.numAgents → (s.nodesToConnect.getD i []).length = cfg.numNodesPerAgent)
    (hlast : (step cfg s action perm).2.stepType = .last) (ht : s.stepCount + 1 < (cfg.timeLimit : Int)) :
    let s' := (step cfg s action perm).1
    (∀ i, i < cfg.numAgents → ∀ u v : Nat, (u : Int) ∈ s'.nodesToConnect.getD i [] →
        (v : Int) ∈ s'.nodesToConnect.getD i [] → ReachIn s' (onRoute s' i) u v) ∧
    (∀ i j, i < cfg.numAgents → j < cfg.numAgents → i ≠ j → ∀ v, isUtility s' v →
        ¬ (onRoute s' i v ∧ onRoute s' j v)) :=
  mmst_solution_connects cfg _ (mmst_step_complete_is_solution' cfg s hF action perm hK hlast ht)

/-- any two nodes of a route are connected inside the route (not only the nodes to connect) -/
theorem mmst_route_connected (cfg : Cfg) (s : State) (h : Feasible' cfg s) (i : Nat)
    (hi : i < cfg.numAgents) (u v : Nat) (hu : onRoute s i u) (hv : onRoute s i v) : ReachIn s (onRoute s i) u v :=
  MMST.route_connected h.2 hi hu hv

/-- the start state of the example is `Feasible'`, so is its successor `st1`; the one-step episode that ends by completion
leaves an `IsSolution'` state -/
example : Feasible' MMSTEx.cfg MMSTEx.st ∧ Feasible' MMSTEx.cfg MMSTEx.st1 ∧
    (∀ i, i < MMSTEx.cfg.numAgents → (MMSTEx.st.connectedNodes.getD i []).length = MMSTEx.cfg.timeLimit) ∧
    (step MMSTEx.cfgG MMSTEx.st [1, 4] [0, 1]).2.stepType = .last ∧
    IsSolution' MMSTEx.cfgG (step MMSTEx.cfgG MMSTEx.st [1, 4] [0, 1]).1 := by decide +kernel

/-- a state at the time limit in which agent 1 moved in every step (`position_index = time_limit`, last write dropped) is
still `Feasible'` -/
example :
    (let cfg2 : Cfg := { MMSTEx.cfgR with timeLimit := 2 }
     let s0 : State := { MMSTEx.st with connectedNodes := [[0, -1], [3, -1]], nodesToConnect := [[0, 1], [3, 0]],
                                         nodeTypes := [0, 0, -1, 1, -1] }
     let s2 := (step cfg2 (step cfg2 s0 [0, 2] [0, 1]).1 [0, 1] [0, 1]).1
     Feasible' cfg2 s0 ∧ s2.positionIndex = [0, 2] ∧ s2.connectedNodes = [[0, -1], [3, 2]] ∧ s2.positions = [0, 1] ∧
     Feasible' cfg2 s2) := by decide +kernel

/-- the start state of the example satisfies the certificates -/
example : Shaped MMSTEx.cfg MMSTEx.st ∧ certStart MMSTEx.cfg MMSTEx.st = true ∧ certTypes MMSTEx.cfg MMSTEx.st = true ∧
    certEdgesAdj MMSTEx.cfg MMSTEx.st = true := by decide +kernel

/-- an episode of the example that ends by completion in one step (agent 0: 0→1; agent 1: 3→4) -/
example : (step MMSTEx.cfgG MMSTEx.st [1, 4] [0, 1]).2.stepType = .last ∧
    MMSTEx.st.stepCount + 1 < (MMSTEx.cfgG.timeLimit : Int) ∧
    IsSolution MMSTEx.cfgG (step MMSTEx.cfgG MMSTEx.st [1, 4] [0, 1]).1 := by decide +kernel
end Props.C06

namespace Props.C11
/-- C11: every step raises the counter by one -/
theorem mmst_step_count (cfg : Cfg) (s : State) (a : List Int) (p : List Nat) :
    (step cfg s a p).1.stepCount = s.stepCount + 1 := MMST.step_count cfg s a p

/-- the episode ends at the latest when the time limit is reached -/
theorem mmst_time_limit (cfg : Cfg) (s : State) (a : List Int) (p : List Nat)
    (h : s.stepCount + 1 ≥ (cfg.timeLimit : Int)) : (step cfg s a p).2.stepType = .last :=
  MMST.time_limit cfg s a p h
end Props.C11

namespace Props.C12
/-- the observation returned by `step` is the environment's observation function of the successor state (mask,
positions, step count, adjacency copied from it) -/
theorem mmst_obs_faithful (cfg : Cfg) (s : State) (a : List Int) (p : List Nat) :
    (step cfg s a p).2.obs = observeL1 cfg (step cfg s a p).1 := MMST.obs_faithful cfg s a p

/-- relabelling: the arithmetic of `_state_to_observation` produces, node by node, the documented labels —
`2k` for a node connected by agent `k`, `2t + 1` for an unconnected node of type `t`, `-1` for an unconnected
utility node — for any number of agents and nodes -/
theorem mmst_relabel_consistent (cfg : Cfg) (s : State) (hS : Shaped cfg s)
    (hT : ∀ t ∈ s.nodeTypes, -1 ≤ t ∧ t < (cfg.numAgents : Int)) (v : Nat) (hv : v < cfg.numNodes) :
    (observeL1 cfg s).nodeTypes.getD v 0 = (observe cfg s).nodeTypes.getD v 0 := by
  show (obsNodeTypes cfg.numAgents s.nodeTypes s.connectedIndex).getD v 0 = _
  rw [MMST.relabel_eq_spec hS hT hv]
  simp [observe, List.getD_eq_getElem?_getD, hv]

/-- … and both have one label per node -/
theorem mmst_relabel_length (cfg : Cfg) (s : State) (hS : Shaped cfg s) :
    (observeL1 cfg s).nodeTypes.length = (observe cfg s).nodeTypes.length := by
  show (obsNodeTypes cfg.numAgents s.nodeTypes s.connectedIndex).length = _
  rw [MMST.obsNodeTypes_length hS]; simp [observe]

/-- the L2 observation `observe` carries the mask the RULES prescribe (`legalMask`, recomputed from
`legal`) and the documented labels; the environment's observation function `_state_to_observation` (cached mask,
relabelling arithmetic) yields exactly it on every state whose arrays are in shape, whose edge tables and finished
flags are up to date, whose node types are in range and whose cached mask is the mask function of its arrays -/
theorem mmst_obs_eq (cfg : Cfg) (s : State) (hS : Shaped cfg s) (hE : EdgesOK cfg s) (hF : FlagsFresh cfg s)
    (hT : ∀ t ∈ s.nodeTypes, -1 ≤ t ∧ t < (cfg.numAgents : Int))
    (hM : s.actionMask = makeMask cfg.numAgents s.nodeEdges s.positions s.finished) :
    observeL1 cfg s = observe cfg s := MMST.obs_eq hS hE hF hT hM

/-- … hence the observation returned by EVERY step from a feasible state, in the repaired configuration
(`freshMask`), is the documented observation of the successor: any joint action, any draw -/
theorem mmst_step_obs_eq (cfg : Cfg) (s : State) (hc : cfg.freshMask = true) (hF : Feasible cfg s)
    (hK : ∀ i, i < cfg.numAgents → (s.nodesToConnect.getD i []).length = cfg.numNodesPerAgent)
    (hT : ∀ t ∈ s.nodeTypes, -1 ≤ t ∧ t < (cfg.numAgents : Int)) (action : List Int) (perm : List Nat) :
    (step cfg s action perm).2.obs = observe cfg (step cfg s action perm).1 :=
  MMST.step_obs_eq hc hF.shaped hF.edgesOK hF.routeOK hK hT action perm

/-- reset (`reset cfg s = (s, restart(_state_to_observation(s)))` for the state `s` the generator returns):
a FIRST timestep, reward 0, discount 1, whose observation is the documented observation of the generated state
(generator certificates; at least two nodes per agent) -/
theorem mmst_reset_obs (cfg : Cfg) (s : State) (hS : Shaped cfg s) (h1 : certStart cfg s = true)
    (h2 : certTypes cfg s = true) (h3 : certEdgesAdj cfg s = true) (h4 : certAgentsDisjoint cfg s = true)
    (hK : 2 ≤ cfg.numNodesPerAgent) :
    (reset cfg s).1 = s ∧ (reset cfg s).2.stepType = .first ∧ (reset cfg s).2.reward = [0] ∧
    (reset cfg s).2.discount = [1] ∧ (reset cfg s).2.obs = observe cfg s := MMST.reset_obs hS h1 h2 h3 h4 hK

/-- pinned configuration (stale finished flags in the cached mask): the observation returned by the step in which
agent 0 finishes is NOT the documented one — its mask row offers node 0 and node 2 to the finished agent -/
theorem mmst_obs_stale_mask_witness :
    (step MMSTEx.cfg MMSTEx.st [1, 2] [0, 1]).2.stepType = .mid ∧
    (step MMSTEx.cfg MMSTEx.st [1, 2] [0, 1]).2.obs ≠ observe MMSTEx.cfg MMSTEx.st1 ∧
    (step MMSTEx.cfg MMSTEx.st [1, 2] [0, 1]).2.obs.actionMask.getD 0 [] = [true, false, false, false, false] ∧
    (observe MMSTEx.cfg MMSTEx.st1).actionMask.getD 0 [] = [false, false, false, false, false] := by decide +kernel

/-- the same step in the repaired configuration; the reset state of the example -/
example : (observe MMSTEx.cfgR (step MMSTEx.cfgR MMSTEx.st [1, 2] [0, 1]).1).nodeTypes = [0, 0, 2, 2, 3] ∧
    (step MMSTEx.cfgR MMSTEx.st [1, 2] [0, 1]).2.obs = observe MMSTEx.cfgR (step MMSTEx.cfgR MMSTEx.st [1, 2] [0, 1]).1 ∧
    (reset MMSTEx.cfgR MMSTEx.st).2.obs = observe MMSTEx.cfgR MMSTEx.st ∧
    certAgentsDisjoint MMSTEx.cfgR MMSTEx.st = true := by
  decide +kernel

/-- on the transliterated generator: `reset` of every generated state (valid draws, K ≥ 2) is a FIRST
timestep carrying the documented observation -/
theorem mmst_generate_reset_obs (cfg : Cfg) (d : GenDraw) (hv : validGenDraw cfg d) (hg : graphOK cfg d)
    (hK : 2 ≤ cfg.numNodesPerAgent) (hT : 1 ≤ cfg.timeLimit) :
    (reset cfg (generate cfg d)).2.stepType = .first ∧
    (reset cfg (generate cfg d)).2.obs = observe cfg (generate cfg d) := by
  obtain ⟨h0, h1, h2, h3, h4, _, _⟩ := generate_certs hv hg (by omega) hT
  exact ⟨rfl, (reset_obs h0 h1 h2 h3 h4 hK).2.2.2.2⟩
end Props.C12

namespace Props.C10
/-- the generator certificates `certOwnBlock` (every node to connect of agent `k` lies in block `k` of
`np.array_split(arange N, A)`) and `certBlocksConnected` (every block induces a connected subgraph) give: for every
agent the block `blockOf N A k` is a connected subgraph (any two of its nodes are joined by a path that stays inside
it) containing all its nodes to connect, and the blocks of different agents are node-disjoint.  (No route, play or time
limit is in the statement.) -/
theorem mmst_cert_solvable (cfg : Cfg) (s : State) (h1 : certOwnBlock cfg s = true)
    (h2 : certBlocksConnected cfg s = true) :
    (∀ k, k < cfg.numAgents →
        (∀ v : Nat, (v : Int) ∈ s.nodesToConnect.getD k [] → v ∈ blockOf cfg.numNodes cfg.numAgents k) ∧
        (∀ u ∈ blockOf cfg.numNodes cfg.numAgents k, ∀ v ∈ blockOf cfg.numNodes cfg.numAgents k,
            ReachIn s (· ∈ blockOf cfg.numNodes cfg.numAgents k) u v)) ∧
    (∀ j k, j ≠ k → ∀ v, v ∈ blockOf cfg.numNodes cfg.numAgents j → v ∉ blockOf cfg.numNodes cfg.numAgents k) :=
  MMST.cert_solvable h1 h2

/-- … in particular any two nodes to connect of an agent are joined by a path inside the agent's own block -/
theorem mmst_cert_solvable_pairs (cfg : Cfg) (s : State) (h1 : certOwnBlock cfg s = true)
    (h2 : certBlocksConnected cfg s = true) (k : Nat) (hk : k < cfg.numAgents) (u v : Nat)
    (hu : (u : Int) ∈ s.nodesToConnect.getD k []) (hv : (v : Int) ∈ s.nodesToConnect.getD k []) :
    ReachIn s (· ∈ blockOf cfg.numNodes cfg.numAgents k) u v := MMST.cert_solvable_pairs h1 h2 k hk u v hu hv

/-- the blocks of `np.array_split` are pairwise disjoint sets of node indices (all N, A) -/
theorem mmst_blocks_disjoint (N A j k : Nat) (hjk : j ≠ k) : ∀ v, v ∈ blockOf N A j → v ∉ blockOf N A k :=
  MMST.blockOf_disjoint N A j k hjk

/-- … of nodes `< N` -/
theorem mmst_blocks_in_range (N A k : Nat) (hk : k < A) : ∀ v ∈ blockOf N A k, v < N := MMST.blockOf_lt N A k hk

/-- `certGraphConnected`: any two nodes of the graph are joined by a path -/
theorem mmst_cert_graph_connected (cfg : Cfg) (s : State) (h : certGraphConnected cfg s = true) :
    ∀ u, u < cfg.numNodes → ∀ v, v < cfg.numNodes → ReachIn s (· < cfg.numNodes) u v := by
  intro u hu v hv
  have := connectedOn_reach (s := s) (nodes := List.range cfg.numNodes) h u (List.mem_range.mpr hu) v
    (List.mem_range.mpr hv)
  exact this.mono (fun x hx => List.mem_range.mp hx)

/-- `certSymmetric`: the graph is undirected (`Linked` = `hasEdge`) -/
theorem mmst_cert_symmetric (cfg : Cfg) (s : State) (h : certSymmetric cfg s = true) (u v : Nat)
    (hu : u < cfg.numNodes) (hv : v < cfg.numNodes) : hasEdge s u v ↔ hasEdge s v u := by
  simp only [certSymmetric, List.all_eq_true, List.mem_range, beq_iff_eq] at h
  unfold hasEdge
  rw [h u hu v hv]

/-- `certLoopless`: a legal move always changes the agent's node -/
theorem mmst_cert_loopless_legal (cfg : Cfg) (s : State) (hS : Shaped cfg s) (h : certLoopless cfg s = true)
    (i a : Nat) (hl : legal cfg s i a) : (a : Int) ≠ s.positions.getD i 0 := by
  simp only [certLoopless, List.all_eq_true, List.mem_range, beq_iff_eq] at h
  obtain ⟨hi, ha, _, he, _⟩ := hl
  intro heq
  rw [← heq, Int.toNat_natCast] at he
  have hrow := hS.adj_row ha
  have := h a ha
  rw [Jx.getD_irrel 1 0 (by omega)] at this
  unfold hasEdge at he
  omega

/-- `certDegree bound` (with the 0/1 certificate): no agent ever has more than `bound` legal moves.  (On the
pinned tree the certificate holds with `bound = max_degree + 1`, not `max_degree`: known finding MM3.) -/
theorem mmst_cert_degree_legal_count (cfg : Cfg) (s : State) (hS : Shaped cfg s) (hb : certBinary s = true)
    (bound : Nat) (h : certDegree cfg s bound = true) (i : Nat) (hi : i < cfg.numAgents) :
    ((List.range cfg.numNodes).filter (fun a => decide (legal cfg s i a))).length ≤ bound := by
  simp only [certDegree, List.all_eq_true, List.mem_range, decide_eq_true_eq] at h
  simp only [certBinary, List.all_eq_true, Bool.or_eq_true, beq_iff_eq] at hb
  have hp := pos_range hS hi
  have hr : (s.positions.getD i 0).toNat < cfg.numNodes := by omega
  have hmem : s.adj.getD (s.positions.getD i 0).toNat [] ∈ s.adj := Jx.getD_mem _ (by rw [hS.adj_length]; exact hr)
  have hlen := hS.adj_row hr
  have hdeg := h _ hr
  unfold degree at hdeg
  rw [sum_eq_count_ones _ (hb _ hmem)] at hdeg
  have h1 := filter_length_mono (fun a => decide (legal cfg s i a))
    (fun a => (s.adj.getD (s.positions.getD i 0).toNat []).getD a 0 == 1) (List.range cfg.numNodes)
    (fun a _ hl => by
      have := (of_decide_eq_true hl).2.2.2.1
      simpa [hasEdge] using this)
  have h2 : ((List.range cfg.numNodes).filter
      (fun a => (s.adj.getD (s.positions.getD i 0).toNat []).getD a 0 == 1)).length =
      ((s.adj.getD (s.positions.getD i 0).toNat []).filter (· == 1)).length := by
    have e := Jx.range_map_getD (s.adj.getD (s.positions.getD i 0).toNat []) (0 : Int)
    rw [hlen] at e
    conv => rhs; rw [← e]
    rw [List.filter_map, List.length_map]
    rfl
  omega

example : certOwnBlock MMSTEx.cfg MMSTEx.st = true ∧ certBlocksConnected MMSTEx.cfg MMSTEx.st = true ∧
    certGraphConnected MMSTEx.cfg MMSTEx.st = true ∧ certSymmetric MMSTEx.cfg MMSTEx.st = true ∧
    certLoopless MMSTEx.cfg MMSTEx.st = true ∧ certBinary MMSTEx.st = true ∧
    certDegree MMSTEx.cfg MMSTEx.st 2 = true ∧ blockOf 5 2 0 = [0, 1, 2] ∧ blockOf 5 2 1 = [3, 4] := by decide +kernel

/-! #### `SplitRandomGenerator.__call__` transliterated (`generate`, Env/MMST/GenModel.lean)

The graph handed over by `_generate_graph` is a parameter constrained by `graphOK` (the edge table is the adjacency
matrix written with node values); `multi_random_walk` itself is not transliterated (its certificates `certSymmetric`,
`certLoopless`, `certDegree`, `certBlocksConnected`, `certGraphConnected` are evaluated on every implementation reset
state by `mmst.instance`; MM3/MM4 of known_findings.json are violations of two of them).  The per-agent
`choice(block, [K], replace=False)` is the draw `comps`. -/

/-- for EVERY valid draw and every `graphOK` graph the generated state passes all the certificates that do not depend on the
random walk -/
theorem mmst_generate_certs (cfg : Cfg) (d : GenDraw) (hv : validGenDraw cfg d) (hg : graphOK cfg d)
    (hK : 1 ≤ cfg.numNodesPerAgent) (hT : 1 ≤ cfg.timeLimit) :
    Shaped cfg (generate cfg d) ∧ certStart cfg (generate cfg d) = true ∧ certTypes cfg (generate cfg d) = true ∧
    certEdgesAdj cfg (generate cfg d) = true ∧ certAgentsDisjoint cfg (generate cfg d) = true ∧
    certOwnBlock cfg (generate cfg d) = true ∧
    (∀ k, k < cfg.numAgents → ((generate cfg d).connectedNodes.getD k []).length = cfg.timeLimit) :=
  MMST.generate_certs hv hg hK hT

/-- … hence every generated state is `Feasible'`, and with K ≥ 2 its flags are fresh -/
theorem mmst_generate_feasible' (cfg : Cfg) (d : GenDraw) (hv : validGenDraw cfg d) (hg : graphOK cfg d)
    (hK : 1 ≤ cfg.numNodesPerAgent) (hT : 1 ≤ cfg.timeLimit) : Feasible' cfg (generate cfg d) :=
  MMST.generate_feasible' hv hg hK hT

/-- … and has fresh flags (with at least two nodes per agent nobody is done at reset) -/
theorem mmst_generate_flagsFresh (cfg : Cfg) (d : GenDraw) (hv : validGenDraw cfg d) (hg : graphOK cfg d)
    (hK : 2 ≤ cfg.numNodesPerAgent) (hT : 1 ≤ cfg.timeLimit) : FlagsFresh cfg (generate cfg d) := by
  obtain ⟨h0, h1, _, _, h4, _, _⟩ := generate_certs hv hg (by omega) hT
  exact reset_flagsFresh h0 h1 h4 hK

/-- the draws can be read back off the generated state: the driver's `generator_replay` certificate
(`generate cfg (drawOf s) = s` on implementation reset states) loses nothing -/
theorem mmst_generate_drawOf (cfg : Cfg) (d : GenDraw) (hv : validGenDraw cfg d) (hK : 1 ≤ cfg.numNodesPerAgent)
    (hA : 1 ≤ cfg.numAgents) : drawOf (generate cfg d) = d := by
  have h1 := generate_drawOf_comps (cfg := cfg) hv.1
  have h2 : (drawOf (generate cfg d)).nodeEdges = d.nodeEdges :=
    Gen.activeEdges_reset hv hK (k := 0) (by omega)
  have h3 : (drawOf (generate cfg d)).adj = d.adj := rfl
  cases d
  cases h : drawOf (generate cfg _)
  simp_all

/-- the running example IS a generated state -/
example : validGenDraw MMSTEx.cfg MMSTEx.draw ∧ graphOK MMSTEx.cfg MMSTEx.draw ∧
    generate MMSTEx.cfg MMSTEx.draw = MMSTEx.st ∧ drawOf MMSTEx.st = MMSTEx.draw := by decide +kernel

/-- with one node per agent (accepted by the generator) the flags of a generated state are not fresh:
see `Props.C04.mmst_reset_flagsFresh_k1_witness` -/
theorem mmst_generate_flagsFresh_k1_witness :
    validGenDraw MMSTEx.cfgK1 { MMSTEx.draw with comps := [[0], [3]] } ∧
    graphOK MMSTEx.cfgK1 { MMSTEx.draw with comps := [[0], [3]] } ∧
    generate MMSTEx.cfgK1 { MMSTEx.draw with comps := [[0], [3]] } = MMSTEx.stK1 ∧
    ¬ FlagsFresh MMSTEx.cfgK1 MMSTEx.stK1 := by decide +kernel
end Props.C10

namespace Props.C01
/-- the bounds invariant `BInv` follows from `Feasible` (its shapes and edge tables: `MMST.binv_of_edgesOK`) plus the generator
certificate "adjacency matrix is 0/1" … -/
theorem mmst_binv_of_feasible (cfg : Cfg) (s : State) (hF : Feasible cfg s) (hb : certBinary s = true) :
    BInv cfg s := MMST.binv_of_edgesOK hF.shaped hF.edgesOK hb

/-- … and is preserved by every step: any joint action (in-spec or not), any draw (valid permutation or not) -/
theorem mmst_step_binv (cfg : Cfg) (s : State) (h : BInv cfg s) (a : List Int) (p : List Nat) :
    BInv cfg (step cfg s a p).1 := MMST.step_binv h a p

/-- reset: the observation of a generated state (`_state_to_observation`; step count 0) has every leaf inside its
interval of `obsBounds cfg`: `node_types ∈ [-1, 2A-1]`, `adj_matrix ∈ [0, 1]`, `positions ∈ [0, N-1]` (declared:
`[-1, N-1]`), `step_count ∈ [0, time_limit]`, `action_mask ∈ [0, 1]` -/
theorem mmst_reset_obs_in_bounds (cfg : Cfg) (s : State) (hA : 0 < cfg.numAgents) (h : BInv cfg s)
    (hs : s.stepCount = 0) : ObsInBounds (obsBounds cfg) (observeL1 cfg s) :=
  observe_in_bounds cfg s hA h (by omega) (by omega)

/-- step: from every state with the invariant whose step count lies in `[0, time_limit)` (the step that reaches
`time_limit` included), for every joint action and every draw, every leaf of the observation is inside its
interval of `obsBounds cfg` -/
theorem mmst_step_obs_in_bounds (cfg : Cfg) (s : State) (a : List Int) (p : List Nat) (hA : 0 < cfg.numAgents)
    (h : BInv cfg s) (h0 : 0 ≤ s.stepCount) (hT : s.stepCount < (cfg.timeLimit : Int)) :
    ObsInBounds (obsBounds cfg) (step cfg s a p).2.obs := by
  rw [obs_faithful]
  apply observe_in_bounds cfg _ hA (step_binv h a p)
  · rw [step_count]; omega
  · rw [step_count]; omega

/-- the bounds list covers every leaf of the observation -/
theorem mmst_obs_bounds_cover (cfg : Cfg) (o : Obs) :
    (obsLeaves o).map (·.1) = (obsBounds cfg).map (·.1) := rfl

example : BInv Props.MMSTEx.cfg Props.MMSTEx.st ∧ BInv Props.MMSTEx.cfg Props.MMSTEx.st1 ∧
    Feasible Props.MMSTEx.cfg Props.MMSTEx.st ∧ certBinary Props.MMSTEx.st = true := by decide +kernel

/-- the upper bound of `node_types` is attained (an unconnected node of the last agent shows `2·1 + 1 = 3 = 2A - 1`) -/
example : (observeL1 Props.MMSTEx.cfg Props.MMSTEx.st).nodeTypes = [0, 1, -1, 2, 3] := by decide +kernel

/-! NOTE on what the membership theorems of this section do and do not cover: the dtype tag of every leaf
is written by `toNValue` (by construction) — a wrong dtype in the real code cannot falsify `….valid (toNValue …) = true`; dtypes and
field order of the real observations are compared by the `mmst.spec` / `mmst.state` ops (`nvalue`: field order, shape, dtype, data) and
`jax.eval_shape` in the sweeps.  Shapes are READ OFF the value by `toNValue` (widths off the first row): see `…_obs_valid_only`. -/

/-! #### membership in the DECLARED specs: structure, shapes, dtypes and bounds -/
open Sp PzS PkS

/-- the catalogue configuration `mmst-small`: MMST(SplitRandomGenerator(num_nodes=12, …, num_agents=2,
num_nodes_per_agent=3), time_limit=9) -/
def mmstSmall : Cfg := { numAgents := 2, numNodes := 12, numNodesPerAgent := 3, timeLimit := 9, rConn := 10, rStep := -1, rNoop := -1 }

/-- the spec-only configuration `spec-only-mmst-10x3x2`: MMST(SplitRandomGenerator(num_nodes=10, num_edges=14, max_degree=4,
num_agents=3, num_nodes_per_agent=2), time_limit=11) -/
def mmstSpecOnly : Cfg := { numAgents := 3, numNodes := 10, numNodesPerAgent := 2, timeLimit := 11, rConn := 10, rStep := -1, rNoop := -1 }

/-- the invariant behind the membership theorems (`SpecInv`) holds for every feasible state with a 0/1 adjacency matrix, in
particular for EVERY state the generator produces (`generate`: any valid draw of the agents' nodes, any graph satisfying
`graphOK` with 0/1 entries), and is preserved by EVERY step: any joint action (any list of integers, in the action space or
not, legal or not), any draw (a valid permutation or not), MID or LAST -/
theorem mmst_specInv_invariant (cfg : Cfg) :
    (∀ s, Feasible cfg s → certBinary s = true → Rect2 s.actionMask cfg.numAgents cfg.numNodes → 0 ≤ s.stepCount →
      SpecInv cfg s) ∧
    (∀ d, validGenDraw cfg d → graphOK cfg d → (∀ r ∈ d.adj, ∀ x ∈ r, x = 0 ∨ x = 1) → 1 ≤ cfg.numNodesPerAgent →
      1 ≤ cfg.timeLimit → SpecInv cfg (generate cfg d)) ∧
    (∀ (s : State) (a : List Int) (p : List Nat), SpecInv cfg s → SpecInv cfg (step cfg s a p).1) :=
  ⟨fun _ hF hb hm h0 => MMST.specInv_of_feasible hF hb hm h0,
   fun _ hv hg hb hK hT => MMST.generate_specInv hv hg hb hK hT,
   fun _ a p h => MMST.step_specInv h a p⟩

/-- the `reset` observation of every state with the invariant and counter 0 is accepted by `observation_spec.validate`,
all sizes with at least one agent and one node … -/
theorem mmst_reset_obs_valid (cfg : Cfg) (hA : 0 < cfg.numAgents) (hN : 0 < cfg.numNodes) (s : State)
    (h : SpecInv cfg s) (hs : s.stepCount = 0) : (obsSpec cfg).valid (toNValue (reset cfg s).2.obs) = true :=
  MMST.reset_obs_valid cfg hA hN s h hs

/-- … in particular for EVERY draw of the generator: the reset observation of `reset (generate cfg d)` is a member -/
theorem mmst_reset_obs_valid_generated (cfg : Cfg) (hA : 0 < cfg.numAgents) (hN : 0 < cfg.numNodes) (d : GenDraw)
    (hv : validGenDraw cfg d) (hg : graphOK cfg d) (hb : ∀ r ∈ d.adj, ∀ x ∈ r, x = 0 ∨ x = 1)
    (hK : 1 ≤ cfg.numNodesPerAgent) (hT : 1 ≤ cfg.timeLimit) :
    (obsSpec cfg).valid (toNValue (reset cfg (generate cfg d)).2.obs) = true :=
  MMST.reset_obs_valid cfg hA hN _ (MMST.generate_specInv hv hg hb hK hT) (by simp [generate])

/-- the observation of EVERY `step` — any joint action (in the action space or not, legal or not), every draw, MID or
LAST — from every state with the invariant whose counter has not reached the limit (the step that reaches `time_limit`
included: the declared maximum of `step_count` is `time_limit`, inclusive) -/
theorem mmst_step_obs_valid (cfg : Cfg) (hA : 0 < cfg.numAgents) (hN : 0 < cfg.numNodes) (s : State)
    (h : SpecInv cfg s) (hlim : s.stepCount < (cfg.timeLimit : Int)) (a : List Int) (p : List Nat) :
    (obsSpec cfg).valid (toNValue (step cfg s a p).2.obs) = true := MMST.step_obs_valid cfg hA hN s h hlim a p

/-- WHOLE EPISODES: along the rollout (`Ep.rollout` = the L1 step iterated) of ANY joint actions and draws from a reset
state, every observation emitted by one of the first `time_limit` steps is a member of the spec; the first LAST timestep is
among them (`mmst_time_limit`: step number `time_limit` is LAST at the latest) -/
theorem mmst_rollout_obs_valid (cfg : Cfg) (hA : 0 < cfg.numAgents) (hN : 0 < cfg.numNodes) (s0 : State)
    (h0 : SpecInv cfg s0) (hs0 : s0.stepCount = 0) (as : List (List Int × List Nat)) (j : Nat) (hj : j < cfg.timeLimit)
    (e : State × TimeStep Obs)
    (he : (Ep.rollout (fun s (a : List Int × List Nat) => step cfg s a.1 a.2) s0 as)[j]? = some e) :
    (obsSpec cfg).valid (toNValue e.2.obs) = true := by
  obtain ⟨s', a, hinv, _, rfl⟩ := rollout_inv_idx (fun s (a : List Int × List Nat) => step cfg s a.1 a.2)
    (fun n s => SpecInv cfg s ∧ s.stepCount = (n : Int)) (fun _ => True)
    (fun n s a h _ => ⟨step_specInv h.1 a.1 a.2, by
      show (step cfg s a.1 a.2).1.stepCount = ((n + 1 : Nat) : Int)
      rw [step_count, h.2]; omega⟩) 0 s0 ⟨h0, by simpa using hs0⟩ as (fun _ _ => trivial) j e he
  exact step_obs_valid cfg hA hN s' hinv.1 (by rw [hinv.2]; omega) _ _

/-- what membership means (so the theorems above are not hollow): `validate` accepts an observation ONLY IF the arrays have
the declared shapes, the labels lie in `[-1, 2A-1]`, the matrix is 0/1, the positions lie in `[-1, N-1]` and the counter in
`[0, time_limit]`.  CAVEAT: for every field that is a nested list, `toNValue` reads the widths off the FIRST row of the
nested list, so the shape conjuncts here mean "row count, length of the first row, total number of cells" — a ragged value with the right total can be a
member, and nothing is concluded about the later rows.  Rectangularity is part of the invariant (`SpecInv` / `Shaped` / `Rect…`) under which the
forward theorems (`…_reset_obs_valid`, `…_step_obs_valid`, `…_rollout_obs_valid`) are proved, i.e. it holds of every EMITTED observation. -/
theorem mmst_obs_valid_only (cfg : Cfg) (o : Obs) (h : (obsSpec cfg).valid (toNValue o) = true) :
    o.nodeTypes.length = cfg.numNodes ∧ (∀ v ∈ o.nodeTypes, -1 ≤ v ∧ v ≤ 2 * (cfg.numAgents : Int) - 1) ∧
    shape2 o.adj = [cfg.numNodes, cfg.numNodes] ∧ (∀ v ∈ o.adj.flatten, 0 ≤ v ∧ v ≤ 1) ∧
    o.positions.length = cfg.numAgents ∧ (∀ v ∈ o.positions, -1 ≤ v ∧ v ≤ (cfg.numNodes : Int) - 1) ∧
    0 ≤ o.stepCount ∧ o.stepCount ≤ (cfg.timeLimit : Int) ∧
    shape2 o.actionMask = [cfg.numAgents, cfg.numNodes] := MMST.obs_valid_only cfg o h

/-- the running example (5 nodes, 2 agents) satisfies the invariant at the start and after a step; its reset observation
is a member, and membership fails for a counter beyond the limit, a label beyond `2A - 1`, and under another size -/
example : SpecInv Props.MMSTEx.cfg Props.MMSTEx.st ∧ SpecInv Props.MMSTEx.cfg Props.MMSTEx.st1 ∧
    (obsSpec Props.MMSTEx.cfg).valid (toNValue (reset Props.MMSTEx.cfg Props.MMSTEx.st).2.obs) = true ∧
    (obsSpec Props.MMSTEx.cfg).valid (toNValue { (reset Props.MMSTEx.cfg Props.MMSTEx.st).2.obs with stepCount := 7 }) = false ∧
    (obsSpec Props.MMSTEx.cfg).valid
      (toNValue { (reset Props.MMSTEx.cfg Props.MMSTEx.st).2.obs with nodeTypes := [0, 1, -1, 2, 4] }) = false ∧
    (obsSpec { Props.MMSTEx.cfg with numNodes := 6 }).valid (toNValue (reset Props.MMSTEx.cfg Props.MMSTEx.st).2.obs) = false := by
  decide +kernel

/-- reward and discount of every `step` (ALL states, ALL joint actions, all draws) and of `reset` are accepted by
`reward_spec` (Array((), float)) and `discount_spec` (BoundedArray((), float, 0, 1)) -/
theorem mmst_reward_discount_valid (cfg : Cfg) (s : State) (a : List Int) (p : List Nat) :
    rewardSpec.valid (scalarArr (step cfg s a p).2.reward) = true ∧
    discountSpec.valid (scalarArr (step cfg s a p).2.discount) = true ∧
    rewardSpec.valid (scalarArr (reset cfg s).2.reward) = true ∧
    discountSpec.valid (scalarArr (reset cfg s).2.discount) = true :=
  have hstep := stepOK_reward_discount_valid false _ (step_protocol cfg s a p)
  ⟨hstep.1, hstep.2, (by decide : rewardSpec.valid (scalarArr [0]) = true),
   (by decide : discountSpec.valid (scalarArr [1]) = true)⟩

/-- `action_spec.generate_value()` = all zeros: the action spec is well-formed, the generated value is a member, and `step`
answers it from every state with the invariant (counter below the limit), for every draw, with a protocol-conform timestep
whose observation is a member of the observation spec -/
theorem mmst_accepts_generate_value (cfg : Cfg) (hA : 0 < cfg.numAgents) (hN : 0 < cfg.numNodes)
    (hbig : cfg.numNodes ≤ 2147483648) (s : State) (h : SpecInv cfg s) (hlim : s.stepCount < (cfg.timeLimit : Int))
    (p : List Nat) :
    (actionSpec cfg).WF = true ∧ (actionSpec cfg).valid (actionSpec cfg).generate = true ∧
    (actionSpec cfg).generate = actionArr cfg (List.replicate cfg.numAgents 0) ∧
    StepOK none false (step cfg s (List.replicate cfg.numAgents 0) p).2 = true ∧
    (obsSpec cfg).valid (toNValue (step cfg s (List.replicate cfg.numAgents 0) p).2.obs) = true :=
  MMST.accepts_generate_value cfg hA hN hbig s h hlim p

/-- `action_spec` accepts exactly the lists of `num_agents` integers in `0 … num_nodes − 1` -/
theorem mmst_action_spec_iff (cfg : Cfg) (a : List Int) :
    (actionSpec cfg).valid (actionArr cfg a) = true ↔
      a.length = cfg.numAgents ∧ ∀ x ∈ a, 0 ≤ x ∧ x < (cfg.numNodes : Int) := by
  rw [actionSpec, actionArr, valid_multiDiscrete_replicate_iff]
  simp only [true_and]
end Props.C01
