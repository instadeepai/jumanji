/-
Property theorems for Maze (the lemmas they rest on are in Env/Maze/*Lemmas.lean).
All theorems hold for every grid size (square or not), every wall layout and every state satisfying the
stated hypotheses; `Inv` = well-shaped walls + fresh cached mask, `Consistent` = `Inv` + agent and target
on free cells.
-/
import JumanjiModel.Env.Maze.Lemmas
import JumanjiModel.Env.Maze.MazeGenLemmas
import JumanjiModel.Env.Maze.FloodLemmas
import JumanjiModel.Env.Maze.BoundsLemmas
import JumanjiModel.Env.Maze.RunLemmas
import JumanjiModel.Env.Maze.SpecValid
open Jm Maze

/-- a 2×3 maze (non-square) with one wall, agent at (0,0), target at (1,2) -/
def Props.mazeEx : State :=
  { agent := (0, 0), target := (1, 2), walls := [[false, true, false], [false, false, false]],
    actionMask := [false, false, true, false], stepCount := 0 }
def Props.mazeCfg : Cfg := { numRows := 2, numCols := 3, timeLimit := 6 }

namespace Props.C04
/-- the mask computed by `_compute_action_mask` is exactly the list of legal moves (all four at once) -/
theorem maze_mask_eq_legal (cfg : Cfg) (s : State)
    (hs : Jx.Grid.shaped s.walls cfg.numRows cfg.numCols = true) :
    computeMask cfg s.walls s.agent = legalMask cfg s := Maze.computeMask_eq cfg s hs

/-- bit `a` of the mask is set exactly when the rules allow move `a` (also for `a ≥ 4`: never) -/
theorem maze_mask_iff_legal (cfg : Cfg) (s : State)
    (hs : Jx.Grid.shaped s.walls cfg.numRows cfg.numCols = true) (a : Nat) :
    (computeMask cfg s.walls s.agent).getD a false = true ↔ legal cfg s a := Maze.mask_iff_legal cfg s hs a

/-- `step` agrees with the rules about which actions are valid (a statement about `step`, not about
the mask lookup) -/
theorem maze_step_agrees (cfg : Cfg) (s : State) (hi : Inv cfg s) (a : Nat) (ha : a < 4) :
    ((step cfg s (a : Int)).1.agent = dest s.agent a ↔ legal cfg s a) ∧
    ((step cfg s (a : Int)).1.agent = s.agent ↔ ¬ legal cfg s a) := by
  rw [step_agent cfg s hi a ha]
  exact Jx.moved_iff (dest_ne s.agent a ha)

example : (step Props.mazeCfg Props.mazeEx 2).1.agent = (1, 0) ∧ (step Props.mazeCfg Props.mazeEx 1).1.agent = (0, 0) := by
  decide

/-- the successor's cached mask is fresh, so the invariant used above is maintained by every step -/
theorem maze_cached_mask (cfg : Cfg) (s : State) (a : Int)
    (hs : Jx.Grid.shaped s.walls cfg.numRows cfg.numCols = true) :
    (step cfg s a).1.actionMask = legalMask cfg (step cfg s a).1 := Maze.step_mask_fresh cfg s a hs

example : Inv Props.mazeCfg Props.mazeEx := by decide
example : legal Props.mazeCfg Props.mazeEx 2 ∧ ¬ legal Props.mazeCfg Props.mazeEx 1 := by decide
end Props.C04

namespace Props.C05
/-- an illegal in-spec move is ignored: agent, walls and target unchanged, the step counter advances, and
the Lean predicate `illegalIgnored` (fresh mask, ordinary reward, LAST only for an ordinary cause) holds -/
theorem maze_illegal_ignored (cfg : Cfg) (s : State) (hi : Inv cfg s) (a : Nat) (ha : a < 4)
    (hl : ¬ legal cfg s a) :
    (step cfg s (a : Int)).1.agent = s.agent ∧ (step cfg s (a : Int)).1.walls = s.walls ∧
    (step cfg s (a : Int)).1.target = s.target ∧ (step cfg s (a : Int)).1.stepCount = s.stepCount + 1 ∧
    illegalIgnored cfg s (step cfg s (a : Int)).1 (step cfg s (a : Int)).2 = true :=
  Maze.illegal_ignored cfg s hi a ha hl
end Props.C05

namespace Props.C07
/-- ANY in-spec action keeps the configuration physically possible: agent inside the `numRows × numCols`
grid and not in a wall, target likewise, walls well-shaped, stored mask consistent with the walls -/
theorem maze_step_consistent (cfg : Cfg) (s : State) (hc : Consistent cfg s) (a : Nat) (ha : a < 4) :
    Consistent cfg (step cfg s (a : Int)).1 := Maze.step_consistent cfg s hc a ha

/-- walls and target never change -/
theorem maze_conserved (cfg : Cfg) (s : State) (a : Int) : conserved s (step cfg s a).1 = true := by
  unfold conserved; simp [step_walls, step_target]

example : Consistent Props.mazeCfg Props.mazeEx := by decide
end Props.C07

namespace Props.C08
/-- the reward of a step is 1 exactly when the successor is at the target -/
theorem maze_reward (cfg : Cfg) (s : State) (a : Int)
    (hs : Jx.Grid.shaped s.walls cfg.numRows cfg.numCols = true) :
    (step cfg s a).2.reward = [objective (step cfg s a).1] := Maze.reward_eq cfg s a hs

theorem maze_mid_reward_zero (cfg : Cfg) (s : State) (a : Int)
    (hs : Jx.Grid.shaped s.walls cfg.numRows cfg.numCols = true)
    (hm : (step cfg s a).2.stepType ≠ .last) : (step cfg s a).2.reward = [0] :=
  Maze.mid_reward_zero cfg s a hs hm

/-- the return of an episode (any actions) is 1 if its final state is at the target and 0 otherwise -/
theorem maze_episode_return (cfg : Cfg) (s : State) (as : List Int) (hne : as ≠ [])
    (hs : Jx.Grid.shaped s.walls cfg.numRows cfg.numCols = true) (he : isEpisode cfg s as) :
    runReturn cfg s as = objective (runState cfg s as) := by
  fun_induction isEpisode cfg s as with
  | case1 => exact absurd rfl hne
  | case2 s a =>
    simp only [runReturn, runState]
    rw [reward_eq cfg s a hs]; simp [Rat.add_zero]
  | case3 s a b as ih =>
    simp only [runReturn, runState]
    have h0 := mid_reward_zero cfg s a hs he.1
    have := ih (by simp) (by rw [step_walls]; exact hs) he.2
    simp only [runReturn, runState] at this
    rw [h0, this]; simp [Rat.zero_add]
end Props.C08

namespace Props.C09
/-- L1 = L2: under the invariant the transliterated `step` is the rules' `stepSpec`
(successor state, reward, step type, discount, observation) -/
theorem maze_step_refines (cfg : Cfg) (s : State) (hi : Inv cfg s) (a : Nat) (ha : a < 4) :
    step cfg s (a : Int) = stepSpec cfg s a := by
  have h1 := step_next cfg s hi a ha
  have h2 := step_ts cfg s (a : Int) hi.1
  rw [h1] at h2
  exact Prod.ext h1 h2

/-- for ANY action value the timestep is the documented function of the successor state -/
theorem maze_timestep_spec (cfg : Cfg) (s : State) (a : Int)
    (hs : Jx.Grid.shaped s.walls cfg.numRows cfg.numCols = true) :
    (step cfg s a).2 = condLast (decide (endsSpec cfg (step cfg s a).1)) [rewardSpec (step cfg s a).1]
      (observe cfg (step cfg s a).1) := Maze.step_ts cfg s a hs
end Props.C09

namespace Props.C11
theorem maze_step_count (cfg : Cfg) (s : State) (a : Int) : (step cfg s a).1.stepCount = s.stepCount + 1 :=
  Maze.step_count cfg s a

/-- never later: the step that reaches the time limit is LAST (`hs` is not used) -/
theorem maze_time_limit_last (cfg : Cfg) (s : State) (a : Int)
    (hs : Jx.Grid.shaped s.walls cfg.numRows cfg.numCols = true)
    (ht : s.stepCount + 1 ≥ cfg.timeLimit) : (step cfg s a).2.stepType = .last :=
  Maze.time_limit_last cfg s a ht

/-- never earlier without another cause: LAST iff target reached, time limit reached, or no move possible -/
theorem maze_last_iff (cfg : Cfg) (s : State) (a : Int)
    (hs : Jx.Grid.shaped s.walls cfg.numRows cfg.numCols = true) :
    (step cfg s a).2.stepType = .last ↔ endsSpec cfg (step cfg s a).1 := Maze.last_iff cfg s a hs

/-! #### episode level: `run cfg s as` = the list of (successor state, timestep) pairs of playing `as` from `s` with the
L1 `step`; transition `k` (0-based) is the `(k+1)`-th step, taken at counter value `s.stepCount + k`.  ALL
action lists (any integers), all sizes, ALL states — except that `maze_run_last_iff` and `maze_run_first_last_at_limit` ask for
shaped walls. -/

/-- never later: every transition whose step number has reached the time limit is LAST — no hypotheses -/
theorem maze_run_last_at_limit (cfg : Cfg) (s : State) (as : List Int) (k : Nat) (p : State × TimeStep Obs)
    (h : (run cfg s as)[k]? = some p) (hk : s.stepCount + k + 1 ≥ cfg.timeLimit) : p.2.stepType = .last :=
  EpRun.run_last_at_limit (step cfg) (·.stepCount) (·.stepType = .last) cfg.timeLimit (step_count cfg)
    (time_limit_last cfg) s as k p h hk

/-- so every play that is long enough contains a LAST at or before step `time_limit` (counted from reset, where
`step_count = 0`: `k + 1 ≤ time_limit`) -/
theorem maze_run_exists_last (cfg : Cfg) (s : State) (as : List Int) (h0 : s.stepCount < cfg.timeLimit)
    (hlen : cfg.timeLimit - s.stepCount ≤ as.length) :
    ∃ (k : Nat) (p : State × TimeStep Obs), s.stepCount + k + 1 ≤ cfg.timeLimit ∧
      (run cfg s as)[k]? = some p ∧ p.2.stepType = .last :=
  EpRun.run_exists_last (step cfg) (·.stepCount) (·.stepType = .last) cfg.timeLimit (step_count cfg)
    (time_limit_last cfg) s as h0 hlen

/-- never earlier: a transition of a play is LAST iff its successor is at the target, is stuck, or its step number
has reached the limit -/
theorem maze_run_last_iff (cfg : Cfg) (s : State) (hs : Jx.Grid.shaped s.walls cfg.numRows cfg.numCols = true)
    (as : List Int) (k : Nat) (p : State × TimeStep Obs) (h : (run cfg s as)[k]? = some p) :
    p.2.stepType = .last ↔ (atTarget p.1 ∨ stuck cfg p.1 ∨ s.stepCount + k + 1 ≥ cfg.timeLimit) := by
  obtain ⟨hlt, rfl⟩ := EpRun.run_get_eq (step cfg) s as k p h
  have hw : Jx.Grid.shaped (EpRun.after (step cfg) s (as.take k)).walls cfg.numRows cfg.numCols = true := by
    rw [after_walls]; exact hs
  rw [last_iff cfg _ _ hw]
  unfold endsSpec
  rw [step_count, EpRun.after_count (step cfg) (·.stepCount) (step_count cfg), List.length_take,
    Nat.min_eq_left (by omega)]
  exact or_congr_right or_comm

/-- if no other cause of termination occurs (target not reached, agent not stuck), the FIRST LAST of a play is exactly
at step `time_limit` -/
theorem maze_run_first_last_at_limit (cfg : Cfg) (s : State)
    (hs : Jx.Grid.shaped s.walls cfg.numRows cfg.numCols = true) (h0 : s.stepCount < cfg.timeLimit)
    (as : List Int) (k : Nat) (p : State × TimeStep Obs) (h : (run cfg s as)[k]? = some p)
    (hlast : p.2.stepType = .last)
    (hno : EpRun.NoLastBefore (step cfg) (·.stepType = .last) s as k)
    (hother : ¬ atTarget p.1 ∧ ¬ stuck cfg p.1) : s.stepCount + k + 1 = cfg.timeLimit := by
  obtain ⟨hlt, rfl⟩ := EpRun.run_get_eq (step cfg) s as k p h
  exact EpRun.run_first_last_eq (step cfg) (·.stepCount) (·.stepType = .last) cfg.timeLimit
    (fun s => Jx.Grid.shaped s.walls cfg.numRows cfg.numCols = true) (fun _ _ => True)
    (fun s a => atTarget (step cfg s a).1 ∨ stuck cfg (step cfg s a).1) (step_count cfg) (fun _ _ h _ _ => h)
    (fun s a hs _ => by
      rw [Maze.last_iff cfg s a hs, endsSpec, step_count, or_assoc]
      exact or_congr_right or_comm)
    s as k _ hs h0 (fun _ _ _ => trivial) hno h hlast (fun _ => not_or.2 hother)

-- 2×3 maze, limit 6, pacing Down/Up from (0,0): transitions 0..4 are MID, transition 5 (step 6 = time_limit) is LAST
example : ((run Props.mazeCfg Props.mazeEx [2, 0, 2, 0, 2, 0, 2]).map (fun p => decide (p.2.stepType = .last))) =
    [false, false, false, false, false, true, true] := by decide +kernel
end Props.C11

namespace Props.C12
/-- the observation is the documented function of the successor state (its mask, which `obsOf` copies from the successor
state, is the one computed from the walls around the NEW position, not the predecessor's) -/
theorem maze_obs_faithful (cfg : Cfg) (s : State) (a : Int)
    (hs : Jx.Grid.shaped s.walls cfg.numRows cfg.numCols = true) :
    (step cfg s a).2.obs = observe cfg (step cfg s a).1 := Maze.obs_faithful cfg s a hs

/-- the observation returned by `reset` (generator output `g` of the configured shape, mask recomputed, `restart`)
is the documented function of the reset state, and the timestep is FIRST -/
theorem maze_reset_obs_faithful (cfg : Cfg) (g : State)
    (hs : Jx.Grid.shaped g.walls cfg.numRows cfg.numCols = true) :
    (Maze.reset cfg g).2.obs = observe cfg (Maze.reset cfg g).1 ∧ (Maze.reset cfg g).2.stepType = .first :=
  Maze.reset_obs_faithful cfg g hs

example : Jx.Grid.shaped Maze.toyState.walls 5 5 = true ∧
    (observe ⟨5, 5, 25⟩ (Maze.reset ⟨5, 5, 25⟩ Maze.toyState).1).actionMask = [false, false, true, false] := by decide
end Props.C12

namespace Props.C10
open MazeGen
/-- DESIGN Appendix A.5: a wall map that passes the decidable certificate `isRecursiveDivisionMaze` (checked by the
driver on every generated instance) has all its free cells mutually reachable by 4-neighbour steps through
free cells, and all its (even, even) cells — in particular the origin, Cleaner's start — free.
`wall m x y` is `m[y][x]` (cells outside the grid count as walls). -/
theorem maze_connected_of_cert (m : Jx.Grid Bool) (nr nc : Nat)
    (hc : isRecursiveDivisionMaze m nr nc = true) :
    Conn m 0 0 nc nr ∧ (∀ x y, x < nc → y < nr → x % 2 = 0 → y % 2 = 0 → wall m x y = false) :=
  MazeGen.connected_of_cert m nr nc hc

/-- the same for one chamber, any fuel: Lemma 2 of A.5 -/
theorem maze_chamber_connected (fuel : Nat) (m : Jx.Grid Bool) (x y w h : Nat)
    (hv : valid fuel m x y w h = true) (hx : x % 2 = 0) (hy : y % 2 = 0) : Conn m x y w h :=
  (MazeGen.valid_spec fuel m x y w h hv hx hy).2

/-- soundness of the executable flood-fill check (the `connected` flag of the `instance` ops, also used for
the hand-written `ToyGenerator` maze): if it answers `true`, the free cells are 4-connected -/
theorem maze_connected_sound (m : Jx.Grid Bool) (nr nc : Nat) (h : connected m nr nc = true) :
    Conn m 0 0 nc nr := MazeGen.conn_of_connected m nr nc h

example : isRecursiveDivisionMaze
    [[false, true, false, true, false],
     [false, true, false, true, false],
     [false, false, false, false, false]] 3 5 = true := by decide

/-! #### the generators themselves (free start and target)
`Maze.generate cfg d` transliterates `RandomGenerator.__call__`: the draws `d` are the wall map returned by
`generate_maze` and the two flat indices returned by `jax.random.choice(…, (2,), replace=False, p=~walls.flatten())`;
`validGenDraw`: the wall map passes the recursive-division certificate, the two indices are DIFFERENT cells of non-zero
probability.  `Maze.reset cfg g` is the transliterated `reset`. -/

/-! NOTE: `validGenDraw` CONTAINS `isRecursiveDivisionMaze d.walls` — "for every admissible draw" below means "for every
maze accepted by the certificate `isRecursiveDivisionMaze`" (and two different free cells); C10 connectivity is proved OF THE CERTIFICATE.
The shared `generate_maze` is not transliterated: that its output passes the certificate is checked on real reset states by the harness
(`maze.instance`), not proved.  Read `maze_generated_wellformed`, `maze_generate_obs_valid`, `maze_obs_valid_along` as `…_of_cert`. -/

/-- for ALL admissible draws, all sizes: the reset state is `Consistent` (agent and target on free cells of the grid,
walls of the configured shape, fresh mask), agent and target are on different cells, the counter is 0, and the target
can be reached from the agent by 4-neighbour steps through free cells (so the instance is solvable) -/
theorem maze_generated_wellformed (cfg : Cfg) (d : GenDraw) (hv : validGenDraw cfg d) :
    Consistent cfg (Maze.reset cfg (generate cfg d)).1 ∧
    (Maze.reset cfg (generate cfg d)).1.agent ≠ (Maze.reset cfg (generate cfg d)).1.target ∧
    (Maze.reset cfg (generate cfg d)).1.stepCount = 0 ∧
    Reach (Ok d.walls 0 0 cfg.numCols cfg.numRows) (cellOf cfg d.i) (cellOf cfg d.j) :=
  Maze.generated_wellformed cfg d hv

/-- the certificate `generated_by_model` of the `maze.instance` op (the implementation's reset state equals the
model's `reset ∘ generate` of admissible draws read off that state) implies the advertised invariants -/
theorem maze_generatedBy_sound (cfg : Cfg) (s : State) (h : generatedBy cfg s = true) :
    Consistent cfg s ∧ s.agent ≠ s.target ∧ s.stepCount = 0 ∧ Conn s.walls 0 0 cfg.numCols cfg.numRows := by
  unfold generatedBy at h
  simp only [Bool.and_eq_true, decide_eq_true_eq] at h
  obtain ⟨hv, he⟩ := h
  obtain ⟨h1, h2, h3, _⟩ := generated_wellformed cfg _ hv
  rw [he] at h1 h2 h3
  exact ⟨h1, h2, h3, (MazeGen.connected_of_cert s.walls cfg.numRows cfg.numCols hv.1).1⟩

/-- the draws are satisfiable: the 3×5 maze above, agent at cell 0 = (0,0), target at cell 14 = (2,4) -/
example : validGenDraw ⟨3, 5, 15⟩ ⟨[[false, true, false, true, false], [false, true, false, true, false],
    [false, false, false, false, false]], 0, 14⟩ := by decide
/-- … and wall cells / equal cells are rejected -/
example : ¬ validGenDraw ⟨3, 5, 15⟩ ⟨[[false, true, false, true, false], [false, true, false, true, false],
    [false, false, false, false, false]], 1, 14⟩ ∧
    ¬ validGenDraw ⟨3, 5, 15⟩ ⟨[[false, true, false, true, false], [false, true, false, true, false],
    [false, false, false, false, false]], 14, 14⟩ := by decide

/-- `ToyGenerator` (`Maze.toyState`, certificate `toy_generated` of the instance op): consistent for every time limit,
agent ≠ target, free cells 4-connected -/
theorem maze_toy_wellformed (tl : Int) :
    Consistent ⟨5, 5, tl⟩ (Maze.reset ⟨5, 5, tl⟩ toyState).1 ∧ toyState.agent ≠ toyState.target ∧
    Conn toyState.walls 0 0 5 5 := by
  refine ⟨?_, by decide, MazeGen.conn_of_connected _ 5 5 (by decide +kernel)⟩
  -- `free` does not look at the time limit
  exact Maze.reset_consistent ⟨5, 5, tl⟩ toyState (by decide : Jx.Grid.shaped toyState.walls 5 5 = true)
    (by decide : free ⟨5, 5, 0⟩ toyState.walls toyState.agent) (by decide : free ⟨5, 5, 0⟩ toyState.walls toyState.target)
end Props.C10

namespace Props.C01
/-- the reset observation (generator output `g` with the mask recomputed, `restart`) has every leaf inside the
interval `obsBounds cfg` lists for it: positions inside the grid, walls / mask 0..1, `step_count = 0 ≤ time_limit`.
Hypotheses: the generator puts agent and target on cells of the grid and starts the counter at 0; the time limit is not
negative (`htl`). -/
theorem maze_reset_obs_in_bounds (cfg : Cfg) (g : State) (ha : inGrid cfg g.agent) (ht : inGrid cfg g.target)
    (h0 : g.stepCount = 0) (htl : 0 ≤ cfg.timeLimit) : ObsInBounds cfg (Maze.reset cfg g).2.obs := by
  show ObsInBounds cfg (obsOf _)
  apply obsOf_in_bounds <;> simp_all

/-- shapes: the reset observation has the shapes `obsShapes cfg` lists — `walls` is
`num_rows × num_cols` (when the generator's wall map is), `action_mask` has 4 entries -/
theorem maze_reset_obs_shaped (cfg : Cfg) (g : State) (hs : Jx.Grid.shaped g.walls cfg.numRows cfg.numCols = true) :
    ObsShaped cfg (Maze.reset cfg g).2.obs := ⟨hs, computeMask_length cfg _ _⟩

/-- the hypotheses of the reset theorems hold for every admissibly generated state (and the toy state) -/
theorem maze_generated_reset_hyps (cfg : Cfg) (d : GenDraw) (hv : validGenDraw cfg d) :
    Jx.Grid.shaped (generate cfg d).walls cfg.numRows cfg.numCols = true ∧
    free cfg (generate cfg d).walls (generate cfg d).agent ∧ free cfg (generate cfg d).walls (generate cfg d).target ∧
    (generate cfg d).stepCount = 0 := by
  have h := (Maze.generated_wellformed cfg d hv).1
  exact ⟨h.1.1, h.2.1, h.2.2, rfl⟩
example : inGrid ⟨5, 5, 25⟩ toyState.agent ∧ inGrid ⟨5, 5, 25⟩ toyState.target ∧ toyState.stepCount = 0 ∧
    free ⟨5, 5, 25⟩ toyState.walls toyState.agent ∧ free ⟨5, 5, 25⟩ toyState.walls toyState.target := by decide

/-- every step taken from a consistent state of a running episode (`0 ≤ step_count < time_limit`) with any
in-spec action emits an observation inside `obsBounds cfg` — including the terminal step, where
`step_count = time_limit` -/
theorem maze_step_obs_in_bounds (cfg : Cfg) (s : State) (hc : Consistent cfg s) (h0 : 0 ≤ s.stepCount)
    (h1 : s.stepCount < cfg.timeLimit) (a : Nat) (ha : a < 4) :
    ObsInBounds cfg (step cfg s (a : Int)).2.obs := Maze.step_obs_in_bounds cfg s hc h0 h1 a ha

/-- … and the shapes `obsShapes cfg` lists, for ANY action value -/
theorem maze_step_obs_shaped (cfg : Cfg) (s : State) (hs : Jx.Grid.shaped s.walls cfg.numRows cfg.numCols = true)
    (a : Int) : ObsShaped cfg (step cfg s a).2.obs := Maze.step_obs_shaped cfg s hs a

theorem maze_step_obs_conforms (cfg : Cfg) (s : State) (hc : Consistent cfg s) (h0 : 0 ≤ s.stepCount)
    (h1 : s.stepCount < cfg.timeLimit) (a : Nat) (ha : a < 4) :
    ObsInBounds cfg (step cfg s (a : Int)).2.obs ∧ ObsShaped cfg (step cfg s (a : Int)).2.obs :=
  ⟨Maze.step_obs_in_bounds cfg s hc h0 h1 a ha, Maze.step_obs_shaped cfg s hc.1.1 a⟩

/-- the reset state is consistent, so the step theorem applies along every episode (with `maze_step_consistent`) -/
theorem maze_reset_consistent (cfg : Cfg) (g : State)
    (hs : Jx.Grid.shaped g.walls cfg.numRows cfg.numCols = true) (ha : free cfg g.walls g.agent)
    (ht : free cfg g.walls g.target) : Consistent cfg (Maze.reset cfg g).1 :=
  Maze.reset_consistent cfg g hs ha ht

example : Consistent Props.mazeCfg Props.mazeEx ∧ 0 ≤ Props.mazeEx.stepCount ∧
    Props.mazeEx.stepCount < Props.mazeCfg.timeLimit := by decide
/-- the bound on `step_count` is attained: the terminal step of a 1-step episode shows `time_limit` -/
example : (step { Props.mazeCfg with timeLimit := 1 } Props.mazeEx 2).2.obs.stepCount = 1 := by decide
/-! NOTE on what the membership theorems of this section do and do not cover: the dtype tag of every leaf
is written by `toNValue` (by construction) — a wrong dtype in the real code cannot falsify `….valid (toNValue …) = true`; dtypes and
field order of the real observations are compared by the `maze.spec` / `maze.state` ops (`nvalue`: field order, shape, dtype, data) and
`jax.eval_shape` in the sweeps.  Shapes are READ OFF the value by `toNValue` (widths off the first row): see `…_obs_valid_only`. -/

/-! #### membership in the model's `obsSpec`: structure, field order, shapes, dtypes and inclusive bounds
(`obsSpec` is the declared spec at the catalogue configurations: `maze_obsSpec_generated`, Props/SpecTable.lean) -/
open Sp PzS PkS

/-- the `reset` observation (ALL sizes) on top of ANY generated state whose walls have the configured shape and whose
agent and target stand on free cells is accepted by `observation_spec.validate` (fields, shapes, dtypes, bounds:
`Maze.obsSpec`) -/
theorem maze_reset_obs_valid (cfg : Cfg) (g : State) (hs : Jx.Grid.shaped g.walls cfg.numRows cfg.numCols = true)
    (ha : free cfg g.walls g.agent) (ht : free cfg g.walls g.target) :
    (obsSpec cfg).valid (toNValue (Maze.reset cfg g).2.obs) = true :=
  obsOf_valid cfg _ (reset_specInv cfg g hs ha ht)

/-- … in particular for every maze accepted by the certificate `isRecursiveDivisionMaze` ("of certificate": not "every draw of
`RandomGenerator`" — `generate_maze` is not transliterated; a maze of the configured size, two
different free cells), where the reset state also satisfies the invariant `SpecInv` -/
theorem maze_generate_obs_valid (cfg : Cfg) (d : GenDraw) (hv : validGenDraw cfg d) :
    (obsSpec cfg).valid (toNValue (Maze.reset cfg (generate cfg d)).2.obs) = true ∧
    SpecInv cfg (Maze.reset cfg (generate cfg d)).1 := Maze.generate_obs_valid cfg d hv

/-- … and for the `ToyGenerator` state -/
theorem maze_toy_obs_valid :
    (obsSpec ⟨5, 5, 25⟩).valid (toNValue (Maze.reset ⟨5, 5, 25⟩ toyState).2.obs) = true ∧
    SpecInv ⟨5, 5, 25⟩ (Maze.reset ⟨5, 5, 25⟩ toyState).1 :=
  have h := Maze.reset_specInv ⟨5, 5, 25⟩ toyState (by decide) (by decide) (by decide)
  ⟨obsOf_valid _ _ h, h⟩

/-- the invariant `SpecInv` (= `Consistent`: walls of the configured shape, fresh cached mask, agent and target on free cells)
holds after `reset` and is preserved by EVERY step with an in-spec action — legal or a no-op against a wall / the border,
MID or LAST -/
theorem maze_specInv_invariant (cfg : Cfg) :
    (∀ g : State, Jx.Grid.shaped g.walls cfg.numRows cfg.numCols = true → free cfg g.walls g.agent →
      free cfg g.walls g.target → SpecInv cfg (Maze.reset cfg g).1) ∧
    (∀ (s : State) (a : Nat), SpecInv cfg s → a < 4 → SpecInv cfg (step cfg s (a : Int)).1) :=
  ⟨Maze.reset_specInv cfg, fun s a h ha => Maze.step_specInv cfg s h a ha⟩

/-- the observation of EVERY step with an in-spec action from a state satisfying the invariant is a member of the spec —
whatever the counter (the declared `step_count` is an unbounded `Array`), terminal step included -/
theorem maze_step_obs_valid (cfg : Cfg) (s : State) (h : SpecInv cfg s) (a : Nat) (ha : a < 4) :
    (obsSpec cfg).valid (toNValue (step cfg s (a : Int)).2.obs) = true := Maze.step_obs_valid cfg s h a ha

example : SpecInv Props.mazeCfg Props.mazeEx := by decide

/-- WHOLE EPISODES (and beyond): along the rollout (`Ep.rollout` = the L1 step iterated, no stop at LAST) of ANY in-spec
actions from the reset of any maze accepted by the certificate `isRecursiveDivisionMaze` (with two different free cells), EVERY emitted observation is a member of the spec and every
state satisfies the invariant -/
theorem maze_obs_valid_along (cfg : Cfg) (d : GenDraw) (hv : validGenDraw cfg d) (as : List Nat) (has : ∀ a ∈ as, a < 4)
    (j : Nat) (e : State × TimeStep Obs)
    (he : (Ep.rollout (fun s (a : Nat) => step cfg s (a : Int)) (Maze.reset cfg (generate cfg d)).1 as)[j]? = some e) :
    (obsSpec cfg).valid (toNValue e.2.obs) = true ∧ SpecInv cfg e.1 :=
  Maze.rollout_obs_valid cfg _ (Maze.generate_obs_valid cfg d hv).2 as has j e he

/-- the same from any state satisfying the invariant -/
theorem maze_rollout_obs_valid (cfg : Cfg) (s : State) (h : SpecInv cfg s) (as : List Nat) (has : ∀ a ∈ as, a < 4)
    (j : Nat) (e : State × TimeStep Obs)
    (he : (Ep.rollout (fun s (a : Nat) => step cfg s (a : Int)) s as)[j]? = some e) :
    (obsSpec cfg).valid (toNValue e.2.obs) = true ∧ SpecInv cfg e.1 := Maze.rollout_obs_valid cfg s h as has j e he

/-- what membership means (so the theorems above are not hollow): `validate` accepts an observation ONLY IF agent and target
are on cells of the grid, `walls` has the declared shape and the mask has four entries.  CAVEAT: for every field that is a nested list, `toNValue` reads the widths off the FIRST row of the
nested list, so the shape conjunct here means "row count, length of the first row" (the total number of cells, which `obs_valid_iff` has as
well, is dropped here) — a ragged value with the right total can be a member, and nothing is concluded about the later rows.  Rectangularity is part of the invariant `SpecInv` (= `Consistent`, whose `Jx.Grid.shaped` fixes every row) under which the
forward theorems (`maze_reset_obs_valid`, `maze_step_obs_valid`, `maze_obs_valid_along`) are proved, i.e. it holds of every EMITTED observation. -/
theorem maze_obs_valid_only (cfg : Cfg) (o : Obs) (h : (obsSpec cfg).valid (toNValue o) = true) :
    inGrid cfg o.agent ∧ inGrid cfg o.target ∧ shape2 o.walls = [cfg.numRows, cfg.numCols] ∧ o.actionMask.length = 4 :=
  Maze.obs_valid_only cfg o h

/-- positive and negative instances: the observation of the 2×3 example state; the agent one row below the grid; a spec for
a grid with one more column; the counter does not matter -/
example : (obsSpec Props.mazeCfg).valid (toNValue (obsOf Props.mazeEx)) = true ∧
    (obsSpec Props.mazeCfg).valid (toNValue (obsOf { Props.mazeEx with agent := (2, 0) })) = false ∧
    (obsSpec { Props.mazeCfg with numCols := 4 }).valid (toNValue (obsOf Props.mazeEx)) = false ∧
    (obsSpec Props.mazeCfg).valid (toNValue (obsOf { Props.mazeEx with stepCount := 1000 })) = true := by decide +kernel

/-- reward and discount of every `step` (ALL states, ALL action values) and of `reset` are accepted by `reward_spec`
(Array((), float)) and `discount_spec` (BoundedArray((), float, 0, 1)) -/
theorem maze_reward_discount_valid (cfg : Cfg) (s g : State) (a : Int) :
    PzS.rewardSpec.valid (scalarArr (step cfg s a).2.reward) = true ∧
    discountSpec.valid (scalarArr (step cfg s a).2.discount) = true ∧
    PzS.rewardSpec.valid (scalarArr (Maze.reset cfg g).2.reward) = true ∧
    discountSpec.valid (scalarArr (Maze.reset cfg g).2.discount) = true := by
  have hstep := stepOK_reward_discount_valid false _ (step_protocol cfg s a)
  unfold Maze.reset
  simp only [restart]
  exact ⟨hstep.1, hstep.2, by decide, by decide⟩

/-- `action_spec.generate_value()` = 0 (Up): the action spec is well-formed, the generated value is a member, `step` answers
it in EVERY state with a protocol-conform timestep and — from a state satisfying the invariant — with an observation in the
spec; membership in `action_spec` is "0 ≤ a < 4" -/
theorem maze_accepts_generate_value (cfg : Cfg) (s : State) :
    Maze.actionSpec.WF = true ∧ Maze.actionSpec.valid Maze.actionSpec.generate = true ∧
    Maze.actionSpec.generate = actionArr 0 ∧ StepOK none false (step cfg s 0).2 = true ∧
    (SpecInv cfg s → (obsSpec cfg).valid (toNValue (step cfg s 0).2.obs) = true) := Maze.accepts_generate_value cfg s

theorem maze_action_spec_iff (a : Int) : Maze.actionSpec.valid (actionArr a) = true ↔ 0 ≤ a ∧ a < 4 := by
  rw [Maze.actionSpec, actionArr, valid_discrete_int_iff]
  exact ⟨fun h => h.2.2, fun h => ⟨rfl, rfl, h⟩⟩
end Props.C01
