/-
Property theorems for GraphColoring, one namespace per property (`step` computes the next mask from the UPDATED colours,
as env.py does; the C03 protocol instance is `graphcoloring_l1_step_protocol`, Props/ProtocolInstances.lean).
`n` = num_nodes = number of colours.  `WF n s` = shapes and ranges, `Inv n s` = `WF` + the cached mask is
the mask of the current node (both hold on every state reached from `reset`, see
`graph_coloring_reachable_invariants`).
-/
import JumanjiModel.Env.GraphColoring.Lemmas
import JumanjiModel.Env.GraphColoring.Bounds
import JumanjiModel.Env.GraphColoring.EpisodeLemmas
import JumanjiModel.Env.GraphColoring.GenLemmas
import JumanjiModel.Env.GraphColoring.SpecLemmas
open Jm GraphColoring

namespace Props.C04
/-- the mask computed by `_get_valid_actions` (sentinel trick `valid_actions.at[-1]` included) for the
current node is exactly the set of colours the rules allow -/
theorem graph_coloring_mask_iff_legal (n : Nat) (s : State) (a : Nat) (h : WF n s) :
    (validActions n s.cur s.adj s.colors).getD a false = true ↔ legal n s a :=
  GraphColoring.mask_iff_legal n s a h

/-- cached mask: the mask stored in the state / shown in the observation after ANY step is exactly the set
of legal colours of the next node in the NEW state (it would fail if the mask were computed from the colours before
the assignment) -/
theorem graph_coloring_cached_mask (n : Nat) (s : State) (a : Int) (b : Nat) (h : WF n s) (ha : -1 ≤ a) :
    (step n s a).1.mask.getD b false = true ↔ legal n (step n s a).1 b := by
  have hi := step_Inv n s a h ha
  rw [hi.2]
  exact GraphColoring.mask_iff_legal n _ b hi.1

/-- the reset state satisfies `Inv`: well-formed, and its cached mask is the mask of node 0 -/
theorem graph_coloring_reset_inv (n : Nat) (adj : List (List Bool)) (hn : 0 < n) (hadj : adj.length = n)
    (hrows : ∀ row ∈ adj, row.length = n) : Inv n (reset n adj).1 :=
  GraphColoring.reset_Inv n adj hn hadj hrows

/-- the environment's own reaction: it treats colour `a` as invalid iff the rules forbid it -/
theorem graph_coloring_step_agrees (n : Nat) (s : State) (a : Nat) (h : Inv n s) (ha : a < n) :
    (!(Jx.getWC s.mask false (a : Int))) = true ↔ ¬ legal n s a :=
  GraphColoring.invalid_iff_not_legal n s a h ha

/-- (the statement above is about the L1 flag `invalid_action_taken`, not about what `step` returns) the reaction of
`step` ITSELF: unless the step completes the colouring, it is LAST IFF the colour was illegal.  (On the completing step
the two cases cannot be told apart from the timestep alone when all `n` colours are in use — e.g. the complete graph —:
both give LAST with reward `−n`; `graph_coloring_legal_iff_step_feasible` below separates them by the successor state.) -/
theorem graph_coloring_step_reaction (n : Nat) (s : State) (a : Nat) (h : Inv n s) (ha : a < n) :
    (¬ legal n s a → (step n s a).2.stepType = .last ∧ (step n s a).2.reward = [-((n : Nat) : Rat)]) ∧
    (legal n s a →
      ((step n s a).2.stepType = .last ↔ ∀ c ∈ (step n s a).1.colors, 0 ≤ c) ∧
      (step n s a).2.reward = [if ∀ c ∈ (step n s a).1.colors, 0 ≤ c then objective (step n s a).1 else 0]) ∧
    ((∃ c ∈ (step n s a).1.colors, c < 0) → ((step n s a).2.stepType = .last ↔ ¬ legal n s a)) :=
  GraphColoring.step_reaction n s a h ha

/-- … and by the successor state, in every case: in a proper partial colouring of a generated (symmetric, loop-free) graph
the rules allow colour `a` for the current node IFF the successor state of `step` is again a proper colouring -/
theorem graph_coloring_legal_iff_step_feasible (n : Nat) (s : State) (a : Nat) (h : Inv n s) (hg : GraphOK n s.adj)
    (hf : Feasible n s) (ha : a < n) : legal n s a ↔ Feasible n (step n s a).1 :=
  ⟨GraphColoring.step_feasible n s a h.1 hg hf, GraphColoring.legal_of_step_feasible n s a h.1 ha⟩

/-- the invariant is preserved by every step (any in-spec action) -/
theorem graph_coloring_inv_step (n : Nat) (s : State) (a : Int) (h : WF n s) (ha : -1 ≤ a) :
    Inv n (step n s a).1 := GraphColoring.step_Inv n s a h ha

-- a triangle with nodes 0,1 coloured 0,1: node 2 may only take colour 2
example : Inv 3 ⟨[[false, true, true], [true, false, true], [true, true, false]], [0, 1, -1], 2,
    [false, false, true]⟩ := by decide
example : legal 3 ⟨[[false, true, true], [true, false, true], [true, true, false]], [0, 1, -1], 2,
    [false, false, true]⟩ 2 := by decide
end Props.C04

namespace Props.C05
/-- an illegal colour ends the episode with the documented penalty `-num_nodes`; the graph and the colours
of all other nodes are untouched.  (The documentation does not promise an untouched state, and indeed the
rejected colour is written to the current node of the terminal state.) -/
theorem graph_coloring_illegal_terminates (n : Nat) (s : State) (a : Nat) (h : Inv n s) (ha : a < n)
    (hl : ¬ legal n s a) :
    (step n s a).2.stepType = .last ∧ (step n s a).2.reward = [-((n : Nat) : Rat)] ∧
    (step n s a).2.discount = [0] ∧ (step n s a).1.adj = s.adj ∧
    ∀ j, j ≠ s.cur.toNat → colour (step n s a).1 j = colour s j :=
  GraphColoring.illegal_terminates n s a h ha hl
end Props.C05

namespace Props.C06
/-- the reset state is a proper (empty) partial colouring -/
theorem graph_coloring_reset_feasible (n : Nat) (adj : List (List Bool)) : Feasible n (reset n adj).1 :=
  GraphColoring.reset_feasible n adj

/-- a legal colour keeps the partial colouring proper (graph symmetric and loop-free, as generated) -/
theorem graph_coloring_step_feasible (n : Nat) (s : State) (a : Nat) (hw : WF n s) (hg : GraphOK n s.adj)
    (hf : Feasible n s) (hl : legal n s a) : Feasible n (step n s a).1 :=
  GraphColoring.step_feasible n s a hw hg hf hl

/-- every state reached from `reset` by legal play is a proper partial colouring, satisfies `Inv`, has all
nodes before the current one coloured and the original graph -/
theorem graph_coloring_reachable_invariants (n : Nat) (adj : List (List Bool)) (hn : 0 < n)
    (hg : GraphOK n adj) (s : State) (hr : LegalReach n adj s) :
    Feasible n s ∧ Inv n s ∧ PrefixColoured s ∧ s.adj = adj := by
  induction hr with
  | reset =>
    exact ⟨GraphColoring.reset_feasible n adj, reset_Inv n adj hn hg.1 hg.2.1, reset_prefixColoured n adj, rfl⟩
  | step s a hr hl hnl ih =>
    obtain ⟨hf, hi, hp, ha⟩ := ih
    have hg' : GraphOK n s.adj := by rw [ha]; exact hg
    refine ⟨GraphColoring.step_feasible n s a hi.1 hg' hf hl, step_Inv n s a hi.1 (by omega),
      (GraphColoring.progress n s a hi.1 hp (by omega) hnl).2.2, ?_⟩
    rw [step_fst]; exact ha

/-- an accepted move whose timestep is LAST leaves every node coloured; with the successor ASSUMED proper (`hf`) that is a
complete proper colouring (properness is proved in the next theorem) -/
theorem graph_coloring_complete_is_solution (n : Nat) (s : State) (a : Int) (hw : WF n s)
    (hf : Feasible n (step n s a).1) (hv : Jx.getWC s.mask false a = true)
    (hlast : (step n s a).2.stepType = .last) : IsSolution n (step n s a).1 :=
  GraphColoring.complete_is_solution n s a hw hf hv hlast

/-- (the statement above ASSUMES the successor proper) completion THROUGH `step`: in a proper partial colouring of a
symmetric loop-free graph (both hold in every state of legal play from `reset`:
`graph_coloring_reachable_invariants`), a LEGAL colour whose step is LAST produces a complete proper colouring -/
theorem graph_coloring_step_complete_is_solution (n : Nat) (s : State) (a : Nat) (h : Inv n s) (hg : GraphOK n s.adj)
    (hf : Feasible n s) (hl : legal n s a) (hlast : (step n s a).2.stepType = .last) :
    IsSolution n (step n s a).1 := GraphColoring.step_complete_is_solution n s a h hg hf hl hlast

-- the hypotheses `hg`, `hf`, `hlast` of `graph_coloring_step_complete_is_solution` on the triangle, last node, colour 2
example : GraphOK 3 [[false, true, true], [true, false, true], [true, true, false]] := by decide
example : Feasible 3 ⟨[[false, true, true], [true, false, true], [true, true, false]], [0, 1, -1], 2,
    [false, false, true]⟩ := by decide
example : (step 3 ⟨[[false, true, true], [true, false, true], [true, true, false]], [0, 1, -1], 2,
    [false, false, true]⟩ 2).2.stepType = .last := by decide +kernel
/-- whole episodes from ANY state satisfying `Inv` with a symmetric loop-free graph and a proper partial colouring,
along ANY sequence of colours each legal at its turn: the colouring is proper after every prefix (also past the end
of the episode, where the current node wraps around and nodes are re-coloured) -/
theorem graph_coloring_feasible_along_from (n : Nat) (s : State) (as : List Nat) (hi : Inv n s)
    (hg : GraphOK n s.adj) (hf : Feasible n s) (hal : AllLegal n s as) (k : Nat) :
    Feasible n (runState n s (as.take k)) := GraphColoring.feasible_along n s as hi hg hf hal k

/-- whole episodes from ANY generated instance (any `n > 0`, any thresholded draw `B` of the generator) along ANY
mask-respecting sequence (`AllMasked`: each colour has its bit set in the action mask of the observation current at
its turn): after every prefix no edge joins two nodes of the same colour -/
theorem graph_coloring_feasible_along (n : Nat) (hn : 0 < n) (B : List (List Bool)) (as : List Nat)
    (hm : AllMasked n (reset n (generate n B)).1 as) (k : Nat) :
    Feasible n (runState n (reset n (generate n B)).1 (as.take k)) := by
  have hg := GraphColoring.generate_ok n B
  have hi := GraphColoring.reset_Inv n (generate n B) hn hg.1 hg.2.1
  exact GraphColoring.feasible_along n _ as hi hg (GraphColoring.reset_feasible n _)
    (GraphColoring.allMasked_allLegal n as _ hi hm) k

-- a mask-respecting complete episode on the generated triangle
example : AllMasked 3 (reset 3 (generate 3 [[true, true, true], [true, true, true], [true, true, true]])).1 [0, 1, 2] := by
  simp only [AllMasked]; decide +kernel
end Props.C06

namespace Props.C08
/-- accepted moves earn 0 until the colouring is complete; the completing move earns minus the number of
different colours in the final state (`jnp.unique(…, size=n, fill_value=-1)` counted correctly) and ends
the episode.  Hence the return of a legal episode is `objective` of its final state. -/
theorem graph_coloring_reward (n : Nat) (s : State) (a : Int) (hw : WF n s)
    (hv : Jx.getWC s.mask false a = true) :
    let all := (step n s a).1.colors.all (fun c => decide (0 ≤ c))
    (step n s a).2.reward = [if all then objective (step n s a).1 else 0] ∧
    ((step n s a).2.stepType = .last ↔ all = true) :=
  GraphColoring.reward_valid n s a hw hv

theorem graph_coloring_numUnique (n : Nat) (colors : List Int) (h : colors.length ≤ n) :
    numUnique n colors = usedColours colors := GraphColoring.numUnique_eq n colors h

/-- whole episodes, from any state satisfying the invariant (`WF` + cached mask fresh): a list of colours that
is a legal episode run to completion (`legalEpisode`: each colour legal when played, the last step LAST, no
earlier one) has return = objective of the final state = −(number of distinct colours in the final colouring),
and in the final state every node is coloured -/
theorem graph_coloring_episode_return_from (n : Nat) (s : State) (as : List Nat) (h : Inv n s)
    (he : legalEpisode n s as) :
    runReturn n s as = -((usedColours (runState n s as).colors : Nat) : Rat) ∧
    ∀ c ∈ (runState n s as).colors, 0 ≤ c :=
  GraphColoring.episode_return_from n s as h he

/-- whole episodes from `reset`, every `n`, every `n × n` adjacency matrix (only the shape is needed), every
legal episode run to completion: return = −(number of distinct colours in the final colouring), all nodes
coloured -/
theorem graph_coloring_episode_return (n : Nat) (adj : List (List Bool)) (hadj : adj.length = n)
    (hrows : ∀ row ∈ adj, row.length = n) (as : List Nat) (he : legalEpisode n (reset n adj).1 as) :
    runReturn n (reset n adj).1 as = -((usedColours (runState n (reset n adj).1 as).colors : Nat) : Rat) ∧
    ∀ c ∈ (runState n (reset n adj).1 as).colors, 0 ≤ c :=
  episode_return_from n _ as (reset_Inv n adj (legalEpisode_pos n _ as he) hadj hrows) he

/-- on a symmetric, loop-free graph the final state of a legal episode from any state with the invariant that carries a
proper partial colouring is a complete PROPER colouring -/
theorem graph_coloring_episode_solution_from (n : Nat) (s : State) (as : List Nat) (h : Inv n s)
    (hg : GraphOK n s.adj) (hf : Feasible n s) (he : legalEpisode n s as) : IsSolution n (runState n s as) :=
  have hp := invariants_play n as s h hg hf (legalEpisode_allLegal n s as he)
  ⟨hp.2.2, hp.1.1.1, (episode_return_from n s as h he).2⟩

/-- in particular on a generated graph from `reset`, so the return is minus the number of colours of a solution -/
theorem graph_coloring_episode_solution (n : Nat) (adj : List (List Bool)) (hg : GraphOK n adj) (as : List Nat)
    (he : legalEpisode n (reset n adj).1 as) : IsSolution n (runState n (reset n adj).1 as) :=
  graph_coloring_episode_solution_from n _ as (reset_Inv n adj (legalEpisode_pos n _ as he) hg.1 hg.2.1) hg
    (GraphColoring.reset_feasible n adj) he

/-- the hypotheses are satisfiable: the triangle, coloured 0, 1, 2 -/
example : GraphOK 3 [[false, true, true], [true, false, true], [true, true, false]] ∧
    legalEpisode 3 (reset 3 [[false, true, true], [true, false, true], [true, true, false]]).1 [0, 1, 2] := by
  decide
/-- its return is −3; the path 0 — 1 — 2 coloured 0, 1, 0 has return −2 -/
example : runReturn 3 (reset 3 [[false, true, true], [true, false, true], [true, true, false]]).1 [0, 1, 2] = -3 := by
  decide +kernel
example : legalEpisode 3 (reset 3 [[false, true, false], [true, false, true], [false, true, false]]).1 [0, 1, 0] ∧
    runReturn 3 (reset 3 [[false, true, false], [true, false, true], [false, true, false]]).1 [0, 1, 0] = -2 := by
  decide +kernel
/-- not a legal episode: node 1 may not take the colour of its neighbour 0; nor is a proper prefix of one -/
example : ¬ legalEpisode 3 (reset 3 [[false, true, true], [true, false, true], [true, true, false]]).1 [0, 0, 2] ∧
    ¬ legalEpisode 3 (reset 3 [[false, true, true], [true, false, true], [true, true, false]]).1 [0, 1] := by
  decide +kernel
end Props.C08

namespace Props.C09
/-- refinement: on every state satisfying the invariant and for every action of the action space, the
transliterated `step` (L1) equals the directly written rules `stepSpec` (L2): successor state, reward,
discount, step type and observation -/
theorem graph_coloring_step_eq_spec (n : Nat) (s : State) (a : Nat) (h : Inv n s) (ha : a < n) :
    step n s (a : Int) = stepSpec n s a := by
  have hw := h.1
  obtain ⟨hcl, -, -, -, h0, h1⟩ := h.1
  have hi := step_Inv n s (a : Int) hw (by omega)
  -- the successor state: the scatter and the modulus are in range, the new mask lists the legal colours
  have hS : (step n s (a : Int)).1 = specSucc n s a := by
    have c1 : (step n s (a : Int)).1.colors = List.set s.colors s.cur.toNat (a : Int) :=
      Jx.setWD_nonneg _ h0 _
    have c2 := step_cur n s (a : Int) h0 h1
    refine state_ext _ (specSucc n s a) rfl c1 c2 ?_
    rw [mask_eq_legal n _ hi]
    exact List.map_congr_left fun b _ => decide_eq_decide.2 (legal_congr n _ _ b rfl c1 c2)
  rw [stepSpec_eq, ← hS]
  by_cases hl : legal n s a
  · have e := step_snd_valid n s a hw (by omega) (legal_mask n s a h hl)
    rw [if_pos hl]
    cases hall : (step n s (a : Int)).1.colors.all (fun c => decide (0 ≤ c))
    · rw [if_neg (by simpa using hall)]
      exact Prod.ext rfl (by rw [e, hall]; rfl)
    · rw [if_pos (by simpa using hall)]
      exact Prod.ext rfl (by rw [e, hall]; rfl)
  · rw [if_neg hl, ← obs_faithful n s a hw (by omega), step_obs]
    exact Prod.ext rfl (step_snd_rejected n s a ((invalid_iff_not_legal n s a h ha).2 hl))
end Props.C09

namespace Props.C10
/-- for every thresholded random matrix `B` the generated adjacency matrix is `n × n`, symmetric and
without self-loops -/
theorem graph_coloring_generate_ok (n : Nat) (B : List (List Bool)) : GraphOK n (generate n B) :=
  GraphColoring.generate_ok n B
/-- the same with the uniform draw itself as parameter (`generateU n p U` = threshold `U < edge_probability`, then
`tril(·,-1)` plus transpose): for EVERY `n`, EVERY threshold and EVERY draw `U` (in particular every valid one) the
adjacency matrix is `n × n`, symmetric and loop-free.  Symmetry does not depend on the draw at all: the upper
triangle is a copy of the lower one. -/
theorem graph_coloring_generate_cert (n : Nat) (p : Rat) (U : List (List Rat)) (_h : validUniform n U) :
    GraphOK n (generateU n p U) := generate_ok n _

/-- what the generator guarantees about the NUMBER of edges (`edge_probability` is documented as "the percentage of
connections in the graph compared to a fully connected graph"): the edge count equals the number of entries of the
strict lower triangle of the draw that fall below the threshold — a function of the draw (for independent uniform draws a
Binomial(n(n−1)/2, p) count; the model has no probabilities), not a configured number — and is at most `n(n−1)/2` -/
theorem graph_coloring_num_edges (n : Nat) (p : Rat) (U : List (List Rat)) :
    numEdges (generateU n p U) n = lowerTrue (threshold p U) n ∧
    numEdges (generateU n p U) n * 2 + n ≤ n * n :=
  ⟨GraphColoring.numEdges_generate n _ n (Nat.le_refl n), GraphColoring.numEdges_le _ n⟩

/-- the edge count is not fixed by `edge_probability`: for every `n` and every `0 < p < 1` both the complete graph
(draw constant 0) and the empty graph (draw constant `p`) are outputs for valid draws -/
theorem graph_coloring_num_edges_not_configured (n : Nat) (p : Rat) (hp0 : 0 < p) (hp1 : p < 1) :
    validUniform n (List.replicate n (List.replicate n 0)) ∧
    validUniform n (List.replicate n (List.replicate n p)) ∧
    (∀ i j, i < n → j < n → edge (generateU n p (List.replicate n (List.replicate n 0))) i j = decide (i ≠ j)) ∧
    (∀ i j, i < n → j < n → edge (generateU n p (List.replicate n (List.replicate n p))) i j = false) :=
  ⟨GraphColoring.validUniform_const n 0 (by decide) (by decide),
   GraphColoring.validUniform_const n p (Rat.le_of_lt hp0) hp1,
   fun i j hi hj => GraphColoring.generateU_complete n p hp0 i j hi hj,
   fun i j hi hj => GraphColoring.generateU_empty n p i j hi hj⟩

example : validUniform 2 [[1/2, 0], [1/10, 9/10]] ∧ numEdges (generateU 2 (1/2) [[1/2, 0], [1/10, 9/10]]) 2 = 1 := by
  decide +kernel
end Props.C10

namespace Props.C11
/-- a step that does not end the episode advances to the next node, which exists (`cur + 1 < n`), and keeps
"all earlier nodes coloured".  From `reset` (`cur = 0`) there are therefore at most `n − 1` non-final steps:
an episode lasts at most `n` steps (exactly `n` under legal play). -/
theorem graph_coloring_progress (n : Nat) (s : State) (a : Int) (hw : WF n s) (hp : PrefixColoured s)
    (ha : 0 ≤ a) (hnl : (step n s a).2.stepType ≠ .last) :
    (step n s a).1.cur = s.cur + 1 ∧ s.cur + 1 < n ∧ PrefixColoured (step n s a).1 :=
  GraphColoring.progress n s a hw hp ha hnl

open Ep in
/-- EPISODE level, never later: from `reset` on ANY `n × n` adjacency matrix (`n ≥ 1`), whatever non-negative action
values are played — legal or not, in the action space or beyond — (at least `n` of them; `rollout` = the L1 `step` iterated
without stopping at LAST, `firstLastTS` = 1-based index of the first LAST timestep, as the harness measures it), the first
LAST timestep comes at some step `k` with `0 < k ≤ num_nodes` -/
theorem graph_coloring_episode_ends_within_n (n : Nat) (hn : 0 < n) (adj : List (List Bool)) (hadj : adj.length = n)
    (hrows : ∀ row ∈ adj, row.length = n) (as : List Int) (hpos : ∀ a ∈ as, 0 ≤ a) (hlen : n ≤ as.length) :
    ∃ k, firstLastTS ((rollout (step n) (reset n adj).1 as).map (·.2)) = some k ∧ 0 < k ∧ k ≤ n := by
  have hp : ((n : Int) - (reset n adj).1.cur).toNat - 1 + 1 = n := by simp only [reset]; omega
  obtain ⟨k, hk, h1, h2⟩ := (GraphColoring.bounded n).rollout_ends _
    ⟨(reset_Inv n adj hn hadj hrows).1, reset_prefixColoured n adj⟩ as hpos (by omega)
  exact ⟨k, hk, h1, by omega⟩

open Ep in
/-- never earlier: under LEGAL play (each colour legal at its turn — implied by mask-respecting play, `allMasked_allLegal`) the
first LAST timestep is number `num_nodes` EXACTLY: the structural horizon is attained -/
theorem graph_coloring_legal_episode_ends_exactly_at_n (n : Nat) (hn : 0 < n) (adj : List (List Bool))
    (hadj : adj.length = n) (hrows : ∀ row ∈ adj, row.length = n) (as : List Nat)
    (hal : AllLegal n (reset n adj).1 as) (hlen : n ≤ as.length) :
    firstLastTS ((rollout (step n) (reset n adj).1 (as.map (fun (a : Nat) => (a : Int)))).map (·.2)) = some n := by
  rw [firstLast_ofStep _ State.cur]
  exact legal_ends_exactly n n _ as (reset_Inv n adj hn hadj hrows) (reset_prefixColoured n adj) (reset_fresh n adj)
    (by simp [reset]) hn hal hlen

example : AllLegal 3 (reset 3 [[false, true, true], [true, false, true], [true, true, false]]).1 [0, 1, 2] := by
  simp only [AllLegal]; decide +kernel
end Props.C11

namespace Props.C12
/-- the observation returned by `step` is the documented view of the new state: graph, colours, current
node, and as action mask exactly the colours legal for the current node -/
theorem graph_coloring_obs_faithful (n : Nat) (s : State) (a : Int) (h : WF n s) (ha : -1 ≤ a) :
    (step n s a).2.obs = observe n (step n s a).1 := GraphColoring.obs_faithful n s a h ha

theorem graph_coloring_reset_obs_faithful (n : Nat) (adj : List (List Bool)) (hn : 0 < n)
    (hadj : adj.length = n) (hrows : ∀ row ∈ adj, row.length = n) :
    (reset n adj).2.obs = observe n (reset n adj).1 :=
  GraphColoring.reset_obs_faithful n adj hn hadj hrows
end Props.C12

namespace Props.C01
open PzB
/-- the observation returned by `reset` on any graph with `n ≥ 1` nodes: every leaf listed in `obsBounds n` is present
and within its interval: `adj_matrix`, `action_mask` ∈ [0,1], `colors` ∈ [-1, n-1], `current_node_index` ∈ [0, n-1] -/
theorem graph_coloring_reset_obs_in_bounds (n : Nat) (adj : List (List Bool)) (hn : 0 < n) :
    ObsInBounds (obsBounds n) (obsLeaves (reset n adj).2.obs) :=
  obs_in_bounds n _ (reset_inRange n adj hn)

/-- the same for `step`, for every state in which colours and current node are in range (`InRange`, an invariant: see
below) and every colour of the action space (`0 ≤ a < n`; `-1` is harmless too), legal or not, terminal step included -/
theorem graph_coloring_step_obs_in_bounds (n : Nat) (s : State) (a : Int) (h : InRange n s)
    (ha : -1 ≤ a ∧ a < n) : ObsInBounds (obsBounds n) (obsLeaves (step n s a).2.obs) := by
  rw [step_obs]; exact obs_in_bounds n _ (step_inRange n s a h ha)

theorem graph_coloring_inRange_invariant (n : Nat) :
    (∀ adj, 0 < n → InRange n (reset n adj).1) ∧
    (∀ (s : State) (a : Int), InRange n s → (-1 ≤ a ∧ a < n) → InRange n (step n s a).1) :=
  ⟨fun adj hn => GraphColoring.reset_inRange n adj hn, fun s a h ha => GraphColoring.step_inRange n s a h ha⟩

/-- an out-of-spec colour is written to the board unchecked: the hypothesis on the action is needed -/
example : ¬ InRange 3 (step 3 ⟨[[false, true, true], [true, false, true], [true, true, false]], [0, 1, -1], 2,
    [false, false, true]⟩ 7).1 := by decide
example : InRange 3 ⟨[[false, true, true], [true, false, true], [true, true, false]], [0, 1, -1], 2,
    [false, false, true]⟩ := by decide

/-! NOTE on what the membership theorems of this section do and do not cover: the dtype tag of every leaf
is written by `toNValue` (by construction) — a wrong dtype in the real code cannot falsify `….valid (toNValue …) = true`; dtypes and
field order of the real observations are compared by the `graph_coloring.spec` / `graph_coloring.state` ops (`nvalue`: field order, shape, dtype, data) and
`jax.eval_shape` in the sweeps.  Shapes are READ OFF the value by `toNValue` (widths off the first row): see `…_obs_valid_only`. -/

/-! #### membership in the model's `obsSpec` / `actionSpec` (the declared specs at the catalogue configurations:
`graph_coloring_obsSpec_generated`, Props/SpecTable.lean) -/
open Sp PzS PzS3

/-- the `reset` observation — every `n ≥ 1`, EVERY thresholded draw `B` of the generator — is accepted by
`observation_spec.validate` -/
theorem graph_coloring_reset_obs_valid (n : Nat) (hn : 0 < n) (B : List (List Bool)) :
    (obsSpec n).valid (toNValue (reset n (generate n B)).2.obs) = true :=
  GraphColoring.obs_valid n _ (reset_specInv n _ hn (generate_ok n B).1 (generate_ok n B).2.1)

/-- the same for every `step` observation from a state satisfying `SpecInv` and every colour of the action space, legal or
not, the terminal step included -/
theorem graph_coloring_step_obs_valid (n : Nat) (s : State) (a : Int) (h : SpecInv n s) (ha : 0 ≤ a ∧ a < n) :
    (obsSpec n).valid (toNValue (step n s a).2.obs) = true :=
  GraphColoring.step_obs_valid n s a h ⟨by omega, ha.2⟩

/-- `SpecInv` holds after `reset` on every generated graph, is preserved by every in-spec step, and therefore holds in
EVERY state of EVERY play of colours of the action space from `reset` (also after LAST, where the current node wraps round) -/
theorem graph_coloring_specInv_invariant (n : Nat) (hn : 0 < n) (B : List (List Bool)) :
    SpecInv n (reset n (generate n B)).1 ∧
    (∀ (s : State) (a : Int), SpecInv n s → (0 ≤ a ∧ a < n) → SpecInv n (step n s a).1) ∧
    (∀ as : List Nat, (∀ a ∈ as, a < n) → SpecInv n (runState n (reset n (generate n B)).1 as)) := by
  have h0 := GraphColoring.reset_specInv n _ hn (GraphColoring.generate_ok n B).1 (GraphColoring.generate_ok n B).2.1
  exact ⟨h0, fun s a h ha => GraphColoring.step_specInv n s a h ⟨by omega, ha.2⟩,
    fun as ha => GraphColoring.runState_specInv n _ as h0 ha⟩

/-- … so every observation of every such episode is a member of the spec -/
theorem graph_coloring_episode_obs_valid (n : Nat) (hn : 0 < n) (B : List (List Bool)) (as : List Nat)
    (has : ∀ a ∈ as, a < n) (a : Nat) (ha : a < n) :
    (obsSpec n).valid (toNValue (step n (runState n (reset n (generate n B)).1 as) (a : Int)).2.obs) = true :=
  GraphColoring.step_obs_valid n _ _ ((graph_coloring_specInv_invariant n hn B).2.2 as has) ⟨by omega, by omega⟩

/-- what `validate` accepts ONLY, so the theorems above are not hollow.  CAVEAT: for every field that is a nested list,
`toNValue` reads the widths off the FIRST row, so the shape conjuncts mean "row count, length of the first row, total
number of cells" — a ragged value with the right total can be a member, and nothing is concluded about the later rows.
Rectangularity is part of the invariant (`SpecInv`, through `WF`: every row of `adj` has length `n`) under which the
forward theorems are proved, i.e. it holds of every EMITTED observation. -/
theorem graph_coloring_obs_valid_only (n : Nat) (o : Obs) (h : (obsSpec n).valid (toNValue o) = true) :
    gridShape o.adj = [n, n] ∧ o.mask.length = n ∧ o.colors.length = n ∧
    (∀ c ∈ o.colors, -1 ≤ c ∧ c ≤ ((n : Nat) : Int) - 1) ∧ 0 ≤ o.cur ∧ o.cur ≤ ((n : Nat) : Int) - 1 :=
  GraphColoring.obs_valid_only n o h

example : SpecInv 3 ⟨[[false, true, true], [true, false, true], [true, true, false]], [0, 1, -1], 2, [false, false, true]⟩ ∧
    (obsSpec 3).valid (toNValue (step 3 ⟨[[false, true, true], [true, false, true], [true, true, false]], [0, 1, -1], 2,
      [false, false, true]⟩ 7).2.obs) = false := by
  refine ⟨by decide, by decide +kernel⟩

/-- reward and discount of every `step` (ALL states, ALL action values) and of `reset` are accepted by `reward_spec`
(Array((), float)) and `discount_spec` (BoundedArray((), float, 0, 1)) -/
theorem graph_coloring_reward_discount_valid (n : Nat) (s : State) (a : Int) (adj : List (List Bool)) :
    rewardSpec.valid (scalarArr (step n s a).2.reward) = true ∧
    discountSpec.valid (scalarArr (step n s a).2.discount) = true ∧
    rewardSpec.valid (scalarArr (reset n adj).2.reward) = true ∧
    discountSpec.valid (scalarArr (reset n adj).2.discount) = true :=
  have hs := stepOK_reward_discount_valid false _ (step_protocol n s a)
  ⟨hs.1, hs.2, (restart_reward_discount_valid _).1, (restart_reward_discount_valid _).2⟩

/-- `action_spec.generate_value()` = colour 0: a member of the spec, and `step` answers it in every state satisfying
`SpecInv` with a protocol-conform timestep whose observation is a member of `observation_spec` -/
theorem graph_coloring_accepts_generate_value (n : Nat) (hn : 0 < n) (hbig : n ≤ 2147483648) (s : State)
    (h : SpecInv n s) :
    (actionSpec n).WF = true ∧ (actionSpec n).valid (actionSpec n).generate = true ∧
    (actionSpec n).generate = actionArr 0 ∧ StepOK none false (step n s 0).2 = true ∧
    (obsSpec n).valid (toNValue (step n s 0).2.obs) = true := GraphColoring.accepts_generate_value n hn hbig s h
end Props.C01
