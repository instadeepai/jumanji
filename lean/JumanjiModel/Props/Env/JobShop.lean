/-
Property theorems for JobShop (the lemmas behind them are in Env/JobShop/).

`Inv cfg s` = shapes ∧ every op names a machine of the shop ∧ `Feasible` (the hard constraints,
recomputed from `scheduled_times`/`ops_durations`/`ops_machine_ids`) ∧ `Bookkeeping` (`ops_mask`,
`machines_remaining_times`, `machines_job_ids` agree with the schedule).  It holds after `reset`
(`jobshop_reset_feasible`) and is preserved by every legal action (`jobshop_step_feasible`), so it
holds on every state of mask-respecting play; `s.amask = maskOf cfg s` (the cached mask is fresh)
holds after `reset` and after every `step` (`jobshop_cached_mask_*`).
-/
import JumanjiModel.Env.JobShop.Lemmas
import JumanjiModel.Env.JobShop.Bounds
import JumanjiModel.Env.JobShop.CompletionLemmas
import JumanjiModel.Env.JobShop.SpecLemmas
import JumanjiModel.Env.JobShop.GenLemmas
import JumanjiModel.Env.JobShop.SpecValid
import JumanjiModel.Core.EpisodeLemmas
open Jm JobShop

def JobShop.exCfg : Cfg := ⟨2, 2, 2, 2⟩
/-- a concrete mid-episode state of `exCfg` (2 jobs, 2 machines, 2 ops; job 0's first op runs on machine 0
since time 0 for 2 steps, the clock shows 1) used to show that the hypotheses are satisfiable -/
def JobShop.exState : State :=
  { mid := [[0, 1], [0, -1]], dur := [[2, 1], [1, -1]], opsMask := [[false, true], [true, false]],
    mjob := [0, 2], mrem := [1, 0], amask := [[false, false, true], [false, false, true]],
    stepCount := 1, sched := [[0, -1], [-1, -1]] }

namespace Props.C01
/-- `reset` (either generator; ANY instance arrays of shape `J × O` with machine ids in `[-1, M-1]` and durations
in `[-1, D]`): every leaf of the observation lies in the interval `obsBounds cfg` lists for it
(ops_machine_ids ∈ [-1, M-1], ops_durations ∈ [-1, D], machines_job_ids ∈ [0, J],
machines_remaining_times ∈ [0, D-1] (`[0, 0]` when `D = 0`), ops_mask, action_mask ∈ {0, 1}) -/
theorem jobshop_reset_obs_in_bounds (cfg : Cfg) (mid dur : List (List Int)) (h : validDraw cfg mid dur) :
    Jm.OB.InBounds (obsBounds cfg) (obsLeaves (reset cfg mid dur).2.obs) :=
  obsOf_in_bounds cfg _ (reset_binv cfg mid dur h)

/-- every step — all sizes, ANY state satisfying the bounds invariant (no shape or feasibility assumption), any
action whose entries for the machines are job ids or the no-op (`0 ≤ a[m] ≤ J`, i.e. every action of the action
spec), valid or not, terminal step included -/
theorem jobshop_step_obs_in_bounds (cfg : Cfg) (s : State) (a : List Int) (h : BInv cfg s) (ha : ActIn cfg a) :
    Jm.OB.InBounds (obsBounds cfg) (obsLeaves (step cfg s a).2.obs) := by
  rw [step_obs]; exact obsOf_in_bounds cfg _ (step_binv cfg s a h ha)

/-- the invariant `BInv` (instance arrays, `machines_job_ids`, `machines_remaining_times` inside their intervals)
is established by `reset` and preserved by every such step (the induction step for the bounds along an episode; the
episode form is stated for spec membership only, `jobshop_rollout_obs_valid`) -/
theorem jobshop_reset_binv (cfg : Cfg) (mid dur : List (List Int)) (h : validDraw cfg mid dur) :
    BInv cfg (reset cfg mid dur).1 := JobShop.reset_binv cfg mid dur h
theorem jobshop_step_binv (cfg : Cfg) (s : State) (a : List Int) (h : BInv cfg s) (ha : ActIn cfg a) :
    BInv cfg (step cfg s a).1 := JobShop.step_binv cfg s a h ha

/-- every action of the action spec satisfies the action hypothesis -/
theorem jobshop_inspec_actin (cfg : Cfg) (a : List Int) (h : InSpec cfg a) : ActIn cfg a := h.2

example : validDraw exCfg exState.mid exState.dur := by decide
example : BInv exCfg exState := by decide
example : ActIn exCfg [1, 2] := by decide

/-! NOTE on what the membership theorems of this section do and do not cover: the dtype tag of every leaf is written by
`toNValue` (by construction) — a wrong dtype in the real code cannot falsify `….valid (toNValue …) = true`; dtypes and field
order of the real observations are checked on the implementation's own arrays by the C01 sweep (the real
`observation_spec.validate` and `jax.eval_shape`, harness/props/c01.py).  Shapes are READ OFF the value by `toNValue` (widths
off the first row): see `…_obs_valid_only`. -/

/-! #### membership in the model's `obsSpec` / `actionSpec` (the declared specs at the catalogue configurations:
`jobshop_obsSpec_generated`, Props/SpecTable.lean): structure, shapes, dtypes and bounds -/
open Sp PzS PkS

/-- the `reset` observation of EVERY valid instance (`validDraw`: shape `J × O`, machine ids in `[-1, M-1]`, durations in
`[-1, D]`; every output of `RandomGenerator` is one: `jobshop_generate_validDraw`) of every configuration with at least one
job and one machine is accepted by `observation_spec.validate`: six fields, shapes `(J, O)` ×3, `(M,)` ×2, `(M, J+1)`, dtypes
int32 / bool, bounds as declared (`machines_remaining_times` ≤ D) -/
theorem jobshop_reset_obs_valid (cfg : Cfg) (hJ : 0 < cfg.J) (hM : 0 < cfg.M) (mid dur : List (List Int))
    (h : validDraw cfg mid dur) : (obsSpec cfg).valid (toNValue (reset cfg mid dur).2.obs) = true :=
  init_valid cfg hJ hM mid dur h

/-- the same for the observation of EVERY `step` with an action whose entries are job ids or the no-op (every action of the
action spec) — legal or not, MID or LAST — from every state satisfying the spec invariant `SInv` (= `BInv` + shapes of the
two instance arrays) -/
theorem jobshop_step_obs_valid (cfg : Cfg) (hJ : 0 < cfg.J) (hM : 0 < cfg.M) (s : State) (a : List Int)
    (h : SInv cfg s) (ha : ActIn cfg a) : (obsSpec cfg).valid (toNValue (step cfg s a).2.obs) = true := by
  rw [step_obs]
  exact next_valid cfg hJ hM s a h ha

theorem jobshop_sinv_invariant (cfg : Cfg) :
    (∀ mid dur, validDraw cfg mid dur → SInv cfg (reset cfg mid dur).1) ∧
    (∀ (s : State) (a : List Int), SInv cfg s → ActIn cfg a → SInv cfg (step cfg s a).1) :=
  ⟨JobShop.reset_sinv cfg, fun s a h ha => JobShop.step_sinv cfg s a h ha⟩

/-- WHOLE EPISODES: every observation of the rollout (`Ep.rollout` = the L1 step iterated, through the first LAST and
beyond) of ANY in-spec actions from the `reset` state of any valid instance is a member of the spec -/
theorem jobshop_rollout_obs_valid (cfg : Cfg) (hJ : 0 < cfg.J) (hM : 0 < cfg.M) (mid dur : List (List Int))
    (h : validDraw cfg mid dur) (as : List (List Int)) (has : ∀ a ∈ as, ActIn cfg a) (j : Nat)
    (e : State × TimeStep Obs) (he : (Ep.rollout (step cfg) (reset cfg mid dur).1 as)[j]? = some e) :
    (obsSpec cfg).valid (toNValue e.2.obs) = true := by
  obtain ⟨s', a, hinv, ha, rfl⟩ := rollout_inv_idx (step cfg) (fun _ s => SInv cfg s) (ActIn cfg)
    (fun _ s a h ha => step_sinv cfg s a h ha) 0 _ (reset_sinv cfg mid dur h) as has j e he
  exact jobshop_step_obs_valid cfg hJ hM s' a hinv ha

/-- the transliterated `RandomGenerator` produces valid instances for every valid draw, and its reset state is `reset` of them -/
theorem jobshop_generate_validDraw (cfg : Cfg) (midDraw durDraw : List (List Int)) (numOps : List Int)
    (h : validGenDraw cfg midDraw durDraw numOps) :
    validDraw cfg (genPad cfg midDraw numOps) (genPad cfg durDraw numOps) ∧
    generate cfg midDraw durDraw numOps = (reset cfg (genPad cfg midDraw numOps) (genPad cfg durDraw numOps)).1 := by
  obtain ⟨h1, h2, _⟩ := h
  exact ⟨⟨(genPad_rect cfg _ _).1, (genPad_rect cfg _ _).1, (genPad_rect cfg _ _).2, (genPad_rect cfg _ _).2,
    genPad_gridIn cfg _ _ _ _ (by omega) (by omega) (fun j hj k hk => by have := h1 j hj k hk; omega),
    genPad_gridIn cfg _ _ _ _ (by omega) (by omega) (fun j hj k hk => by have := h2 j hj k hk; omega)⟩, rfl⟩

/-- what membership means (so the theorems above are not hollow).  CAVEAT: for every field that is a nested list, `toNValue`
reads the widths off the FIRST row of the nested list, so the shape conjuncts here mean "row count, length of the first row,
total number of cells" — a ragged value with the right total can be a member, and nothing is concluded about the later rows.
Rectangularity is part of the invariant `SInv` (`Rect2` of the two instance arrays) under which the forward theorems
(`jobshop_reset_obs_valid`, `jobshop_step_obs_valid`, `jobshop_rollout_obs_valid`) are proved, i.e. it holds of every EMITTED
observation. -/
theorem jobshop_obs_valid_only (cfg : Cfg) (o : Obs) (h : (obsSpec cfg).valid (toNValue o) = true) :
    shape2 o.mid = [cfg.J, cfg.O] ∧ (∀ v ∈ o.mid.flatten, -1 ≤ v ∧ v ≤ (cfg.M : Int) - 1) ∧
    shape2 o.dur = [cfg.J, cfg.O] ∧ (∀ v ∈ o.dur.flatten, -1 ≤ v ∧ v ≤ (cfg.D : Int)) ∧
    shape2 o.opsMask = [cfg.J, cfg.O] ∧
    o.mjob.length = cfg.M ∧ (∀ v ∈ o.mjob, 0 ≤ v ∧ v ≤ (cfg.J : Int)) ∧
    o.mrem.length = cfg.M ∧ (∀ v ∈ o.mrem, 0 ≤ v ∧ v ≤ (cfg.D : Int)) ∧
    shape2 o.amask = [cfg.M, cfg.J + 1] := JobShop.obs_valid_only cfg o h

example : SInv exCfg exState ∧ (obsSpec exCfg).valid (toNValue (step exCfg exState [2, 2]).2.obs) = true ∧
    (obsSpec exCfg).valid (toNValue { (step exCfg exState [2, 2]).2.obs with mjob := [3, 2] }) = false ∧
    (obsSpec ⟨2, 3, 2, 2⟩).valid (toNValue (step exCfg exState [2, 2]).2.obs) = false := by
  have hS : SInv exCfg exState := ⟨by decide, ⟨rfl, by decide⟩, ⟨rfl, by decide⟩⟩
  exact ⟨hS, jobshop_step_obs_valid exCfg (by decide) (by decide) _ _ hS (by decide), by decide +kernel, by decide +kernel⟩

/-- reward and discount of every `step` (ALL states, ALL action values) and of `reset` are accepted by `reward_spec`
(Array((), float)) and `discount_spec` (BoundedArray((), float, 0, 1)) -/
theorem jobshop_reward_discount_valid (cfg : Cfg) (s : State) (a : List Int) (mid dur : List (List Int)) :
    rewardSpec.valid (scalarArr (step cfg s a).2.reward) = true ∧
    discountSpec.valid (scalarArr (step cfg s a).2.discount) = true ∧
    rewardSpec.valid (scalarArr (reset cfg mid dur).2.reward) = true ∧
    discountSpec.valid (scalarArr (reset cfg mid dur).2.discount) = true :=
  have hs := stepOK_reward_discount_valid false _ (JobShop.step_protocol cfg s a)
  have hr := PzS3.restart_reward_discount_valid (obsOf (initState cfg mid dur))
  ⟨hs.1, hs.2, hr.1, hr.2⟩

/-- `action_spec.generate_value()` = job 0 on every machine: the action spec is well-formed, the generated value is a member
(membership in `action_spec` is exactly `InSpec`), and `step` answers it in every state with a protocol-conform timestep -/
theorem jobshop_accepts_generate_value (cfg : Cfg) (hbig : cfg.J < 2147483648) (s : State) :
    (actionSpec cfg).WF = true ∧ (actionSpec cfg).valid (actionSpec cfg).generate = true ∧
    (actionSpec cfg).generate = actionArr cfg (List.replicate cfg.M 0) ∧ InSpec cfg (List.replicate cfg.M 0) ∧
    StepOK none false (step cfg s (List.replicate cfg.M 0)).2 = true :=
  ⟨JobShop.actionSpec_WF cfg hbig, Leaf.generate_valid _ (JobShop.actionSpec_WF cfg hbig), JobShop.actionSpec_generate cfg,
   ⟨by simp, fun m hm => by simp [actAt, List.getD, hm]⟩, JobShop.step_protocol cfg s _⟩

theorem jobshop_action_spec_iff (cfg : Cfg) (a : List Int) :
    (actionSpec cfg).valid (actionArr cfg a) = true ↔ InSpec cfg a := by
  rw [actionSpec, actionArr, valid_multiDiscrete_replicate_iff]
  simp only [true_and, InSpec]
  -- entry `m` of a list of length `M` is a member, and every member is an entry
  refine and_congr_right fun hl => ⟨fun h m hm => ?_, fun h x hx => ?_⟩
  · have := h _ (Jx.getD_mem 0 (hl ▸ hm))
    unfold actAt; omega
  · obtain ⟨m, hm, rfl⟩ := Jx.mem_exists_getD 0 hx
    have := h m (hl ▸ hm)
    unfold actAt at this; omega
end Props.C01

namespace Props.C04
/-- on every state satisfying the invariant, the mask entry (machine `m`, choice `c`) is set exactly
when the rules — stated from the schedule alone — allow machine `m` to take choice `c` -/
theorem jobshop_mask_iff_legal (cfg : Cfg) (s : State) (hI : Inv cfg s) {m c : Nat} (hm : m < cfg.M)
    (hc : c ≤ cfg.J) : at2 (maskOf cfg s) false m c = true ↔ legal cfg s m c :=
  JobShop.mask_iff_legal cfg s hI hm hc

/-- the mask cached in the state (the one `step` tests the action against and the observation shows)
is the mask of the current state: after `reset` and after every `step` (by the way `next` and `initState` are written:
`rfl`; that this mask is the legality table of the rules is `jobshop_mask_iff_legal`) -/
theorem jobshop_cached_mask_step (cfg : Cfg) (s : State) (a : List Int) :
    (step cfg s a).1.amask = maskOf cfg (step cfg s a).1 := rfl
theorem jobshop_cached_mask_reset (cfg : Cfg) (mid dur : List (List Int)) :
    (initState cfg mid dur).amask = maskOf cfg (initState cfg mid dur) := rfl

/-- the environment's own validity test accepts exactly the legal joint actions -/
theorem jobshop_step_agrees (cfg : Cfg) (s : State) (a : List Int) (hI : Inv cfg s)
    (hC : s.amask = maskOf cfg s) (hA : InSpec cfg a) : invalid cfg s a = false ↔ legalAction cfg s a :=
  JobShop.invalid_iff cfg s a hI hC hA

/-- `jobshop_step_agrees` speaks of `invalid`, the test inside `step`; this one is about what `step`
RETURNS: on a state of legal play, for every in-spec joint action, the emitted timestep is LAST exactly when the rules
forbid the action, or all machines are idle afterwards, or the schedule is finished.  So an episode that is neither finished
nor idle is ended exactly for illegal actions: legal ↔ the step did not treat the action as invalid.  (The reward cannot be
used to tell: for `J·O·D = 1` the penalty equals the ordinary step reward −1.) -/
theorem jobshop_step_last_iff_rules (cfg : Cfg) (s : State) (a : List Int) (hI : Inv cfg s)
    (hC : s.amask = maskOf cfg s) (hA : InSpec cfg a) :
    (step cfg s a).2.stepType = .last ↔
      (¬ legalAction cfg s a ∨ allIdle cfg (next cfg s a) = true ∨ finished cfg (next cfg s a) = true) :=
  JobShop.step_last_iff_rules cfg s a hI hC hA

/-- the same with BOTH other causes at the level of the RULES (`allIdle` / `finished` above are the L1 flags): LAST
exactly when the rules forbid the action, or no machine worked in the time unit just played and none has work left (`idleSpec`),
or the action was legal and every real operation is scheduled and completed by the clock (`completeSpec`) -/
theorem jobshop_step_last_iff_rules' (cfg : Cfg) (s : State) (a : List Int) (hI : Inv cfg s)
    (hC : s.amask = maskOf cfg s) (hA : InSpec cfg a) :
    (step cfg s a).2.stepType = .last ↔
      (¬ legalAction cfg s a ∨ idleSpec cfg (step cfg s a).1 ∨
        (legalAction cfg s a ∧ completeSpec cfg (step cfg s a).1)) := by
  rw [step_last_iff_rules cfg s a hI hC hA, step_fst]
  by_cases hL : legalAction cfg s a
  · have hI' := inv_next cfg s a hI hL
    rw [idleSpec_iff, completeSpec_iff cfg _ hI']
    simp [hL]
  · simp [hL]

theorem jobshop_step_reaction (cfg : Cfg) (s : State) (a : List Int) (hI : Inv cfg s)
    (hC : s.amask = maskOf cfg s) (hA : InSpec cfg a) (hidle : allIdle cfg (next cfg s a) = false)
    (hfin : finished cfg (next cfg s a) = false) :
    (step cfg s a).2.stepType = .last ↔ ¬ legalAction cfg s a := by
  rw [JobShop.step_last_iff_rules cfg s a hI hC hA, hidle, hfin]; simp

theorem jobshop_penalty_eq_step_reward_witness : penalty ⟨1, 1, 1, 1⟩ = -1 := by decide +kernel

example : Inv exCfg exState ∧ exState.amask = maskOf exCfg exState := by decide +kernel
-- both cases of `jobshop_step_reaction` occur on `exState`: [2, 2] (wait) is legal and MID, [1, 2] is illegal and LAST
example : InSpec exCfg [2, 2] ∧ InSpec exCfg [1, 2] ∧ (step exCfg exState [2, 2]).2.stepType = .mid ∧
    (step exCfg exState [1, 2]).2.stepType = .last ∧ allIdle exCfg (next exCfg exState [1, 2]) = false ∧
    finished exCfg (next exCfg exState [1, 2]) = false := by decide +kernel
example : legalAction exCfg exState [2, 2] ∧ ¬ legalAction exCfg exState [1, 2] ∧
    legal exCfg ⟨[[1, 0], [0, -1]], [[2, 1], [1, -1]], [[true, true], [true, false]], [2, 2], [0, 0],
      [[false, true, true], [true, false, true]], 0, [[-1, -1], [-1, -1]]⟩ 1 0 := by decide +kernel
end Props.C04

namespace Props.C05
/-- an in-spec action that the rules forbid ends the episode at once (LAST, discount 0) with the
documented penalty −num_jobs·max_num_ops·max_op_duration -/
theorem jobshop_illegal_terminates (cfg : Cfg) (s : State) (a : List Int) (hI : Inv cfg s)
    (hC : s.amask = maskOf cfg s) (hA : InSpec cfg a) (h : ¬ legalAction cfg s a) :
    (step cfg s a).2.stepType = .last ∧ (step cfg s a).2.reward = [penalty cfg] ∧
    (step cfg s a).2.discount = [0] := JobShop.illegal_terminates cfg s a hI hC hA h

/-- the other documented penalty: all machines idle after the step -/
theorem jobshop_idle_terminates (cfg : Cfg) (s : State) (a : List Int)
    (hidle : allIdle cfg (next cfg s a) = true) :
    (step cfg s a).2.stepType = .last ∧ (step cfg s a).2.reward = [penalty cfg] :=
  ⟨(step_last_iff cfg s a).2 (Or.inr (Or.inl hidle)), by rw [step_reward, hidle, Bool.or_true]; rfl⟩
end Props.C05

namespace Props.C06
/-- the state built by `reset` satisfies the invariant for every instance of the configured shape
whose ops name machines of the shop -/
theorem jobshop_reset_feasible (cfg : Cfg) (mid dur : List (List Int))
    (hmid : mid.length = cfg.J ∧ ∀ j, j < cfg.J → (mid.getD j []).length = cfg.O)
    (hdur : dur.length = cfg.J ∧ ∀ j, j < cfg.J → (dur.getD j []).length = cfg.O)
    (hM : MachinesOK cfg (initState cfg mid dur)) : Inv cfg (initState cfg mid dur) :=
  JobShop.init_inv cfg mid dur hmid hdur hM

/-- a legal action keeps the schedule feasible (start times in the past, job order respected, no
overlap within a job or on a machine) and the machine/op bookkeeping consistent with it -/
theorem jobshop_step_feasible (cfg : Cfg) (s : State) (a : List Int) (hI : Inv cfg s)
    (hL : legalAction cfg s a) : Inv cfg (step cfg s a).1 := JobShop.inv_next cfg s a hI hL

/-- when legal play reaches a finished schedule, the state is a complete feasible solution: every
op is scheduled and has run to completion -/
theorem jobshop_complete_is_solution (cfg : Cfg) (s : State) (a : List Int) (hI : Inv cfg s)
    (hL : legalAction cfg s a) (hD : DurationsOK cfg s) (hnf : finished cfg s = false)
    (hf : finished cfg (step cfg s a).1 = true) : IsSolution cfg (step cfg s a).1 :=
  (JobShop.completion_at_makespan cfg s a hI hL hD hnf hf).2

example : Inv exCfg exState ∧ legalAction exCfg exState [2, 2] := by decide +kernel
/-- whole episodes from ANY state satisfying the invariant along ANY sequence of joint actions each legal at its
turn: after every prefix the invariant holds, in particular the hard constraints `Feasible` (start times in the
past, job order respected, no two ops overlap within a job or on a machine) -/
theorem jobshop_feasible_along_from (cfg : Cfg) (s : State) (as : List (List Int)) (hI : Inv cfg s)
    (hal : AllLegal cfg s as) (k : Nat) :
    Inv cfg (play cfg s (as.take k)).1 ∧ Feasible cfg (play cfg s (as.take k)).1 :=
  ⟨JobShop.feasible_along cfg s as hI hal k, (JobShop.feasible_along cfg s as hI hal k).feasible⟩

/-- whole episodes from ANY generated instance (any configuration, any valid draws of `RandomGenerator`) along ANY
mask-respecting sequence (`AllMasked`: in-spec joint actions each of whose per-machine choices has its bit set in
the action mask of the observation current at its turn): after every prefix the schedule satisfies the hard
constraints -/
theorem jobshop_feasible_along (cfg : Cfg) (midDraw durDraw : List (List Int)) (numOps : List Int)
    (hd : validGenDraw cfg midDraw durDraw numOps) (as : List (List Int))
    (hm : AllMasked cfg (generate cfg midDraw durDraw numOps) as) (k : Nat) :
    Feasible cfg (play cfg (generate cfg midDraw durDraw numOps) (as.take k)).1 ∧
    Inv cfg (play cfg (generate cfg midDraw durDraw numOps) (as.take k)).1 := by
  have hI := JobShop.generate_inv cfg midDraw durDraw numOps hd
  have := JobShop.feasible_along cfg _ as hI (JobShop.allMasked_allLegal cfg as _ hI rfl hm) k
  exact ⟨this.feasible, this⟩

/-- the same from the toy instance -/
theorem jobshop_feasible_along_toy (as : List (List Int)) (hm : AllMasked toyCfg toyState as) (k : Nat) :
    Feasible toyCfg (play toyCfg toyState (as.take k)).1 := by
  have hc := JobShop.cert_state toyCfg _ JobShop.toy_cert
  exact (JobShop.feasible_along toyCfg _ as hc.2.1 (JobShop.allMasked_allLegal toyCfg as _ hc.2.1 hc.2.2 hm) k).feasible

-- a mask-respecting sequence on a generated 2-job instance (job 0: two ops, job 1: one op)
example : validGenDraw exCfg [[0, 1], [0, 1]] [[2, 1], [1, 2]] [2, 1] ∧
    AllMasked exCfg (generate exCfg [[0, 1], [0, 1]] [[2, 1], [1, 2]] [2, 1]) [[0, 2], [2, 2], [1, 0]] := by
  refine ⟨by decide +kernel, ?_⟩
  simp only [AllMasked, Masked]; decide +kernel
end Props.C06

namespace Props.C08
/-- a valid step that does not leave all machines idle has reward −1, advances the clock by one,
and is LAST exactly when the schedule is finished -/
theorem jobshop_valid_step_reward (cfg : Cfg) (s : State) (a : List Int) (hv : invalid cfg s a = false)
    (hidle : allIdle cfg (next cfg s a) = false) :
    (step cfg s a).2.reward = [-1] ∧ (step cfg s a).1.stepCount = s.stepCount + 1 ∧
    ((step cfg s a).2.stepType = .last ↔ finished cfg (next cfg s a) = true) :=
  JobShop.valid_step_reward cfg s a hv hidle

/-- completion is detected at the makespan: the first finished state of legal play has
clock = max (scheduled_time + duration) -/
theorem jobshop_completion_at_makespan (cfg : Cfg) (s : State) (a : List Int) (hI : Inv cfg s)
    (hL : legalAction cfg s a) (hD : DurationsOK cfg s) (hnf : finished cfg s = false)
    (hf : finished cfg (next cfg s a) = true) :
    makespan cfg (next cfg s a) = (next cfg s a).stepCount :=
  (JobShop.completion_at_makespan cfg s a hI hL hD hnf hf).1

/-- whole episodes: from a fresh instance (clock 0), a legal episode that ends by completion
(never all machines idle) has return = −makespan of the final schedule -/
theorem jobshop_return_eq_neg_makespan (cfg : Cfg) (s : State) (as : List (List Int)) (hI : Inv cfg s)
    (hC : s.amask = maskOf cfg s) (hD : DurationsOK cfg s) (h0 : s.stepCount = 0)
    (hcb : CompletesBy cfg s as) : (play cfg s as).2 = objective cfg (play cfg s as).1 :=
  JobShop.return_eq_objective cfg s as hI hC hD h0 hcb

/-- a 1-job instance played to completion: CompletesBy is satisfiable, the return is −2 -/
example : CompletesBy ⟨1, 1, 1, 2⟩ (initState ⟨1, 1, 1, 2⟩ [[0]] [[2]]) [[0], [1]] ∧
    (play ⟨1, 1, 1, 2⟩ (initState ⟨1, 1, 1, 2⟩ [[0]] [[2]]) [[0], [1]]).2 = -2 := by
  refine ⟨?_, ?_⟩
  · simp only [CompletesBy]; decide +kernel
  · decide +kernel

/-- the interaction of the two end conditions: under a legal action from an unfinished state, a finished
successor never has all machines idle (the machine that ran the last op keeps its job id), so the completing
step is rewarded −1, never the idle penalty, and is LAST.  No assumption on durations. -/
theorem jobshop_finished_not_idle (cfg : Cfg) (s : State) (a : List Int) (hI : Inv cfg s)
    (hL : legalAction cfg s a) (hnf : finished cfg s = false) (hf : finished cfg (next cfg s a) = true) :
    allIdle cfg (next cfg s a) = false := JobShop.finished_not_idle cfg s a hI hL hnf hf

theorem jobshop_completing_step (cfg : Cfg) (s : State) (a : List Int) (hI : Inv cfg s)
    (hC : s.amask = maskOf cfg s) (hL : legalAction cfg s a) (hnf : finished cfg s = false)
    (hf : finished cfg (next cfg s a) = true) :
    (step cfg s a).2.reward = [-1] ∧ (step cfg s a).2.stepType = .last := by
  have hv := (invalid_iff cfg s a hI hC (legalAction_inSpec cfg s a hL)).2 hL
  obtain ⟨h1, _, h3⟩ := valid_step_reward cfg s a hv (finished_not_idle cfg s a hI hL hnf hf)
  exact ⟨h1, h3.2 hf⟩

/-- `CompletesBy` (which ASSUMES "not all machines idle" also at the completing step) follows from the episode as
the environment sees it: `EndsByCompletion` = every action legal, every timestep before the last is not LAST,
the schedule is finished after the last action -/
theorem jobshop_completesBy_of_ends (cfg : Cfg) (s : State) (as : List (List Int)) (hI : Inv cfg s)
    (hnf : finished cfg s = false) (he : EndsByCompletion cfg s as) : CompletesBy cfg s as :=
  JobShop.completesBy_of_ends cfg as s hI hnf he

/-- whole episodes as the environment sees them (`EndsByCompletion`, which assumes nothing about idle machines): from a fresh
unfinished instance (clock 0) a legal episode that runs (no LAST before its end) until the schedule is finished has
return = −makespan of the final schedule, and the final state is a complete feasible solution.  (`finished cfg s = false`
is needed: on an instance without any op the first step leaves all machines idle and is penalised.) -/
theorem jobshop_return_eq_neg_makespan' (cfg : Cfg) (s : State) (as : List (List Int)) (hI : Inv cfg s)
    (hC : s.amask = maskOf cfg s) (hD : DurationsOK cfg s) (h0 : s.stepCount = 0)
    (hnf : finished cfg s = false) (he : EndsByCompletion cfg s as) :
    (play cfg s as).2 = objective cfg (play cfg s as).1 ∧ IsSolution cfg (play cfg s as).1 := by
  have hcb := completesBy_of_ends cfg as s hI hnf he
  exact ⟨return_eq_objective cfg s as hI hC hD h0 hcb, (completes_return cfg as s hI hC hD hcb).2.2⟩

/-- the same from `reset` of the transliterated `RandomGenerator`: for EVERY configuration with at least one job,
EVERY valid draw and every legal episode that runs until the schedule is finished, the return is −makespan of the final
schedule, which is a complete feasible solution (all hypotheses on the start state discharged from the generator) -/
theorem jobshop_return_from_generated (cfg : Cfg) (hJ : 0 < cfg.J) (midDraw durDraw : List (List Int)) (numOps : List Int)
    (hd : validGenDraw cfg midDraw durDraw numOps) (as : List (List Int))
    (he : EndsByCompletion cfg (generate cfg midDraw durDraw numOps) as) :
    (play cfg (generate cfg midDraw durDraw numOps) as).2 = objective cfg (play cfg (generate cfg midDraw durDraw numOps) as).1 ∧
    IsSolution cfg (play cfg (generate cfg midDraw durDraw numOps) as).1 := by
  have hg := JobShop.generate_cert cfg midDraw durDraw numOps hd
  exact Props.C08.jobshop_return_eq_neg_makespan' cfg _ as (JobShop.generate_inv cfg midDraw durDraw numOps hd) rfl
    (JobShop.cert_instance cfg _ hg).2.1 rfl (JobShop.generated_unfinished cfg hJ _ hg) he

/-- the hypotheses are satisfiable: the 1-job instance above, played to completion -/
example : Inv ⟨1, 1, 1, 2⟩ (initState ⟨1, 1, 1, 2⟩ [[0]] [[2]]) ∧
    finished ⟨1, 1, 1, 2⟩ (initState ⟨1, 1, 1, 2⟩ [[0]] [[2]]) = false ∧
    DurationsOK ⟨1, 1, 1, 2⟩ (initState ⟨1, 1, 1, 2⟩ [[0]] [[2]]) ∧
    EndsByCompletion ⟨1, 1, 1, 2⟩ (initState ⟨1, 1, 1, 2⟩ [[0]] [[2]]) [[0], [1]] := by
  refine ⟨by decide +kernel, by decide +kernel, by decide +kernel, ?_⟩
  simp only [EndsByCompletion]; decide +kernel

/-- the empty instance shows why `finished cfg s = false` is assumed: all machines idle after the first step,
penalty instead of −makespan = 0 -/
example : (step ⟨1, 1, 1, 2⟩ (initState ⟨1, 1, 1, 2⟩ [[-1]] [[-1]]) [1]).2.reward = [penalty ⟨1, 1, 1, 2⟩] ∧
    finished ⟨1, 1, 1, 2⟩ (initState ⟨1, 1, 1, 2⟩ [[-1]] [[-1]]) = true := by decide +kernel
end Props.C08

namespace Props.C09
/-- the clock: every step advances `step_count` by one and leaves the instance untouched -/
theorem jobshop_clock (cfg : Cfg) (s : State) (a : List Int) :
    (step cfg s a).1.stepCount = s.stepCount + 1 ∧ (step cfg s a).1.mid = s.mid ∧
    (step cfg s a).1.dur = s.dur := ⟨rfl, rfl, rfl⟩

/-- L1 = L2 on the schedule: under a legal action the ops that get a start time are exactly the next
ops of the chosen jobs (`Hit`), they start now, and all other start times are unchanged -/
theorem jobshop_schedule_eq (cfg : Cfg) (s : State) (a : List Int) (hI : Inv cfg s)
    (hL : legalAction cfg s a) {j k : Nat} (hj : j < cfg.J) (hk : k < cfg.O) :
    (step cfg s a).1.schedAt j k = if Hit cfg s a j k then s.stepCount else s.schedAt j k :=
  JobShop.schedAt_next cfg s a hI.shaped hI.mask hL hj hk

/-- L1 = L2 on the machines: after a legal action `machines_remaining_times` is again the time until
the machine's last op completes and `ops_mask` again marks the real unscheduled ops -/
theorem jobshop_clock_eq (cfg : Cfg) (s : State) (a : List Int) (hI : Inv cfg s)
    (hL : legalAction cfg s a) : Bookkeeping cfg (step cfg s a).1 :=
  (JobShop.inv_next cfg s a hI hL).book

/-- L1 = L2 for the whole step (refinement): on every state of legal play (the invariant `Inv`, fresh
cached mask) and for every legal joint action, the transliterated `step` equals `stepSpec`
(Env/JobShop/Spec.lean), the step written from the published rules in terms of the schedule alone.
The equation covers all eight state fields and the whole timestep. -/
theorem jobshop_step_eq_spec (cfg : Cfg) (s : State) (a : List Int) (hI : Inv cfg s)
    (hC : s.amask = maskOf cfg s) (hL : legalAction cfg s a) : step cfg s a = stepSpec cfg s a := by
  have hI' := inv_next cfg s a hI hL
  have hv := (invalid_iff cfg s a hI hC (legalAction_inSpec cfg s a hL)).2 hL
  have h1 := idleSpec_iff cfg (next cfg s a)
  have h2 := completeSpec_iff cfg (next cfg s a) hI'
  unfold stepSpec step
  simp only []
  rw [specState_eq cfg s a hI hL, hv]
  unfold specTimeStep condLast
  by_cases hi : idleSpec cfg (next cfg s a)
  · have hi' := h1.1 hi
    simp [hi, hi']
  · have hi' : allIdle cfg (next cfg s a) = false := by
      cases h : allIdle cfg (next cfg s a)
      · rfl
      · exact absurd (h1.2 h) hi
    by_cases hc : completeSpec cfg (next cfg s a)
    · have hc' := h2.1 hc
      simp [hi, hi', hc, hc', hL]
    · have hc' : finished cfg (next cfg s a) = false := by
        cases h : finished cfg (next cfg s a)
        · rfl
        · exact absurd (h2.2 h) hc
      simp [hi, hi', hc, hc', hL]

/-- for an in-spec action the rules forbid only the timestep is claimed: implementation and rule-level
step both end the episode (LAST, discount 0) with the penalty.  (`step` mutates the state also then,
with gather semantics that are not rule-level.) -/
theorem jobshop_step_illegal_spec (cfg : Cfg) (s : State) (a : List Int) (hI : Inv cfg s)
    (hC : s.amask = maskOf cfg s) (hA : InSpec cfg a) (h : ¬ legalAction cfg s a) :
    ((step cfg s a).2.stepType = .last ∧ (step cfg s a).2.reward = [penalty cfg] ∧
      (step cfg s a).2.discount = [0]) ∧
    ((stepSpec cfg s a).2.stepType = .last ∧ (stepSpec cfg s a).2.reward = [penalty cfg] ∧
      (stepSpec cfg s a).2.discount = [0]) := by
  refine ⟨illegal_terminates cfg s a hI hC hA h, ?_⟩
  unfold stepSpec specTimeStep termination zerosR RShape.size
  simp [h]

/-- with durations ≥ 1 (`DurationsOK`) "occupied machine `m` during `[t, t+1)`" is `start ≤ t < end` -/
theorem jobshop_occupies_iff (cfg : Cfg) (s : State) (hD : DurationsOK cfg s) {m j k : Nat}
    (hj : j < cfg.J) (hk : k < cfg.O) (t : Int) :
    occupies s m j k t ↔
      (isSched s j k ∧ s.midAt j k = (m : Int) ∧ s.schedAt j k ≤ t ∧ t < endTime s j k) :=
  JobShop.occupies_iff_of_durations cfg s hD hj hk t

/-- the hypotheses are satisfiable: on `exState` (machine 0 busy) the all-no-op action is legal; one step
later (clock 2, both machines free) the action `[1, 0]` is legal and starts two ops -/
example : Inv exCfg exState ∧ exState.amask = maskOf exCfg exState ∧ legalAction exCfg exState [2, 2] := by
  decide +kernel
example : Inv exCfg (next exCfg exState [2, 2]) ∧
    (next exCfg exState [2, 2]).amask = maskOf exCfg (next exCfg exState [2, 2]) ∧
    legalAction exCfg (next exCfg exState [2, 2]) [1, 0] ∧
    Hit exCfg (next exCfg exState [2, 2]) [1, 0] 1 0 ∧ Hit exCfg (next exCfg exState [2, 2]) [1, 0] 0 1 := by
  decide +kernel

/-- sanity checks by evaluation, independent of the proof (`TimeStep` has no `DecidableEq`, so the
timestep is compared field by field): a waiting step, a step that starts two ops and completes the
schedule, a legal step that leaves all machines idle (penalty), and a first step -/
example : (step exCfg exState [2, 2]).1 = (stepSpec exCfg exState [2, 2]).1 ∧
    (step exCfg exState [2, 2]).2.stepType = (stepSpec exCfg exState [2, 2]).2.stepType ∧
    (step exCfg exState [2, 2]).2.reward = (stepSpec exCfg exState [2, 2]).2.reward ∧
    (step exCfg exState [2, 2]).2.discount = (stepSpec exCfg exState [2, 2]).2.discount ∧
    (step exCfg exState [2, 2]).2.obs = (stepSpec exCfg exState [2, 2]).2.obs := by decide +kernel
example : (step exCfg (next exCfg exState [2, 2]) [1, 0]).1 = (stepSpec exCfg (next exCfg exState [2, 2]) [1, 0]).1 ∧
    (step exCfg (next exCfg exState [2, 2]) [1, 0]).2.stepType = .last ∧
    (stepSpec exCfg (next exCfg exState [2, 2]) [1, 0]).2.stepType = .last ∧
    (stepSpec exCfg (next exCfg exState [2, 2]) [1, 0]).2.reward = [-1] ∧
    (step exCfg (next exCfg exState [2, 2]) [1, 0]).2.reward = (stepSpec exCfg (next exCfg exState [2, 2]) [1, 0]).2.reward ∧
    (step exCfg (next exCfg exState [2, 2]) [1, 0]).2.discount = (stepSpec exCfg (next exCfg exState [2, 2]) [1, 0]).2.discount ∧
    (step exCfg (next exCfg exState [2, 2]) [1, 0]).2.obs = (stepSpec exCfg (next exCfg exState [2, 2]) [1, 0]).2.obs ∧
    (stepSpec exCfg (next exCfg exState [2, 2]) [1, 0]).1.sched = [[0, 2], [2, -1]] ∧
    (stepSpec exCfg (next exCfg exState [2, 2]) [1, 0]).1.mjob = [1, 0] := by decide +kernel
example : legalAction exCfg (next exCfg exState [2, 2]) [2, 2] ∧
    (stepSpec exCfg (next exCfg exState [2, 2]) [2, 2]).1 = (step exCfg (next exCfg exState [2, 2]) [2, 2]).1 ∧
    (stepSpec exCfg (next exCfg exState [2, 2]) [2, 2]).2.stepType = .last ∧
    (stepSpec exCfg (next exCfg exState [2, 2]) [2, 2]).2.reward = [penalty exCfg] ∧
    (step exCfg (next exCfg exState [2, 2]) [2, 2]).2.reward = [penalty exCfg] := by decide +kernel
example : (step exCfg (initState exCfg [[0, 1], [0, -1]] [[2, 1], [1, -1]]) [0, 2]).1 =
      (stepSpec exCfg (initState exCfg [[0, 1], [0, -1]] [[2, 1], [1, -1]]) [0, 2]).1 ∧
    (stepSpec exCfg (initState exCfg [[0, 1], [0, -1]] [[2, 1], [1, -1]]) [0, 2]).2.stepType = .mid ∧
    (stepSpec exCfg (initState exCfg [[0, 1], [0, -1]] [[2, 1], [1, -1]]) [0, 2]).2.reward = [-1] ∧
    (stepSpec exCfg (initState exCfg [[0, 1], [0, -1]] [[2, 1], [1, -1]]) [0, 2]).2.discount = [1] := by
  decide +kernel
end Props.C09

namespace Props.C10
/-- `RandomGenerator`, transliterated with its three `randint` arrays as parameters (`generate cfg midDraw durDraw
numOps` = `jnp.where(arange(O) < num_ops[:, None], draw, -1)` for machine ids and durations, the fresh machine /
schedule fields, and the action mask `reset` adds): for EVERY configuration and EVERY valid draw (machine ids in
`[0, M)`, durations in `[1, D]`, ops per job in `[1, O]`) the reset state satisfies the certificate `GenCert`.
`job_shop.instance` evaluates `GenCert` on the implementation's reset states (key `generate_cert`). -/
theorem jobshop_generate_cert (cfg : Cfg) (midDraw durDraw : List (List Int)) (numOps : List Int)
    (h : validGenDraw cfg midDraw durDraw numOps) : GenCert cfg (generate cfg midDraw durDraw numOps) :=
  JobShop.generate_cert cfg midDraw durDraw numOps h

/-- certificate ⇒ advertised invariants: machine ids valid, durations in range, padding consistent, every job has
an op; the state is exactly the fresh state around its instance arrays; it satisfies the invariant of legal play
(so C04/C06/C09 apply from it) and its cached mask is fresh -/
theorem jobshop_cert_sound (cfg : Cfg) (s : State) (h : GenCert cfg s) :
    MachinesOK cfg s ∧ DurationsOK cfg s ∧ PaddingOK cfg s ∧ (∀ j, j < cfg.J → isOp s j 0 ∧ 0 < cfg.O) ∧
    s = initState cfg s.mid s.dur ∧ Inv cfg s ∧ s.amask = maskOf cfg s :=
  ⟨(JobShop.cert_instance cfg s h).1, (JobShop.cert_instance cfg s h).2.1, (JobShop.cert_instance cfg s h).2.2.1,
   (JobShop.cert_instance cfg s h).2.2.2, JobShop.cert_state cfg s h⟩

example : validGenDraw exCfg [[0, 1], [0, 1]] [[2, 1], [1, 2]] [2, 1] ∧
    (generate exCfg [[0, 1], [0, 1]] [[2, 1], [1, 2]] [2, 1]).mid = [[0, 1], [0, -1]] := by decide +kernel

/-- `ToyGenerator` (a closed term): the reset state satisfies the same certificate, the invariant, and is not
finished -/
theorem jobshop_toy_ok : GenCert toyCfg toyState ∧ Inv toyCfg toyState ∧ DurationsOK toyCfg toyState ∧
    PaddingOK toyCfg toyState ∧ finished toyCfg toyState = false :=
  have hi := JobShop.cert_instance toyCfg _ JobShop.toy_cert
  ⟨JobShop.toy_cert, (JobShop.cert_state toyCfg _ JobShop.toy_cert).2.1, hi.2.1, hi.2.2.1,
    JobShop.generated_unfinished toyCfg (by decide) _ JobShop.toy_cert⟩

/-- the documented makespan 8 of the toy instance is achieved by the action sequence of the repository's own test
(`test_job_shop__toy_generator_reward`): the episode is legal, ends by completion at the 8th step, its return is −8,
the final schedule is a complete feasible solution of makespan 8 -/
theorem jobshop_toy_makespan_achieved :
    EndsByCompletion toyCfg toyState toyActions ∧ (play toyCfg toyState toyActions).2 = -8 ∧
    makespan toyCfg (play toyCfg toyState toyActions).1 = 8 ∧
    IsSolution toyCfg (play toyCfg toyState toyActions).1 := by
  have he : EndsByCompletion toyCfg toyState toyActions := by
    simp only [toyActions, EndsByCompletion]; decide +kernel
  obtain ⟨_, hI, hD, _, hnf⟩ := jobshop_toy_ok
  have hcb := JobShop.completesBy_of_ends toyCfg _ _ hI hnf he
  obtain ⟨_, hm, hsol⟩ := JobShop.completes_return toyCfg _ _ hI rfl hD hcb
  -- completion is detected at the makespan, and eight steps from clock 0 show 8
  have hm8 : makespan toyCfg (play toyCfg toyState toyActions).1 = 8 := hm.trans (JobShop.play_stepCount _ _ _)
  refine ⟨he, ?_, hm8, hsol⟩
  rw [JobShop.return_eq_objective toyCfg _ _ hI rfl hD rfl hcb, objective, hm8]; rfl

/-- … and 8 is optimal: in EVERY feasible schedule of the toy instance in which every real op is scheduled, every
common bound on the completion times is at least 8 (machine 0 alone has 8 units of work) -/
theorem jobshop_toy_makespan_optimal (s : State) (hm : s.mid = toyMid) (hd : s.dur = toyDur)
    (hF : Feasible toyCfg s) (hall : ∀ j, j < 5 → ∀ k, k < 4 → isOp s j k → isSched s j k) (T : Int)
    (hT : ∀ j, j < 5 → ∀ k, k < 4 → isSched s j k → endTime s j k ≤ T) : 8 ≤ T := by
  have hop : ∀ j, j < 5 → ∀ k, k < 4 → (isSched s j k ↔ at2 toyMid (-1) j k ≠ -1) := fun j hj k hk =>
    ⟨fun h => by have := h.1; rwa [isOp, State.midAt, hm] at this,
     fun h => hall j hj k hk (by rwa [isOp, State.midAt, hm])⟩
  have hdur : ∀ j, j < 5 → ∀ k, k < 4 → at2 toyMid (-1) j k ≠ -1 → 0 ≤ at2 toyDur (-1) j k := by decide
  -- the instance fixes which ops are scheduled on machine 0, hence its load
  have hload : load toyCfg s 0 = 8 := by
    unfold load opsOn
    rw [List.filter_congr (q := fun p => decide (at2 toyMid (-1) p.1 p.2 ≠ -1 ∧ at2 toyMid (-1) p.1 p.2 = 0))
      fun p hp => by
        obtain ⟨h1, h2⟩ := Jx.Grid.mem_coords.1 hp
        exact decide_eq_decide.2 (and_congr (hop p.1 h1 p.2 h2) (by rw [State.midAt, hm]; exact Iff.rfl))]
    simp only [State.durAt, hd]
    decide
  have hs := (hop 3 (by decide) 0 (by decide)).2 (by decide)
  have h0 := (hF.2.1 3 (by decide) 0 (by decide) hs).1
  have hT0 := hT 3 (by decide) 0 (by decide) hs
  have hd30 : s.durAt 3 0 = 4 := by rw [State.durAt, hd]; rfl
  have := load_le toyCfg s hF 0 (fun j hj k hk h => by
    rw [State.durAt, hd]; exact hdur j hj k hk ((hop j hj k hk).1 h)) T (by unfold endTime at hT0; omega)
    fun j hj k hk h _ => hT j hj k hk h
  omega

/-- in particular no complete solution of the toy instance is reached before the clock shows 8 -/
theorem jobshop_toy_solution_clock (s : State) (hm : s.mid = toyMid) (hd : s.dur = toyDur)
    (h : IsSolution toyCfg s) : 8 ≤ s.stepCount :=
  Props.C10.jobshop_toy_makespan_optimal s hm hd h.1 (fun j hj k hk hop => (h.2.2 j hj k hk hop).1) s.stepCount
    (fun j hj k hk hs => (h.2.2 j hj k hk hs.1).2)
end Props.C10

namespace Props.C11
/-- progress: a legal step that does not leave all machines idle (i.e. is not penalised) consumes at
least one unit of the operation time still to be spent (`timeLeft` = durations of the unscheduled
ops + remaining parts of the running ones) -/
theorem jobshop_progress (cfg : Cfg) (s : State) (a : List Int) (hI : Inv cfg s)
    (hL : legalAction cfg s a) (hD : DurationsOK cfg s) (hidle : allIdle cfg (next cfg s a) = false) :
    timeLeft cfg (step cfg s a).1 + 1 ≤ timeLeft cfg s :=
  JobShop.timeLeft_decreases cfg s a hI hL hD hidle

/-- horizon: legal, never-penalised play lasts at most `timeLeft` steps; an illegal action or all
machines idle ends the episode at once (C05), so an episode has at most `timeLeft s₀ + 1` steps -/
theorem jobshop_horizon (cfg : Cfg) (s : State) (as : List (List Int)) (hI : Inv cfg s)
    (hD : DurationsOK cfg s) (h : Survives cfg s as) : (as.length : Int) ≤ timeLeft cfg s :=
  JobShop.horizon cfg as s hI hD h

/-- at the start (nothing scheduled) `timeLeft ≤ J·O·D`, hence episodes last ≤ J·O·D + 1 steps -/
theorem jobshop_horizon_bound (cfg : Cfg) (s : State) (hD : DurationsOK cfg s)
    (hns : ∀ j, j < cfg.J → ∀ k, k < cfg.O → ¬ isSched s j k) :
    timeLeft cfg s ≤ ((cfg.J * cfg.O * cfg.D : Nat) : Int) := JobShop.timeLeft_init_le cfg s hD hns

/-- EPISODE level, all hypotheses discharged: from the reset state of ANY generated instance (`GenCert`, which holds
for every valid draw of `RandomGenerator` and for `ToyGenerator`), ANY play of in-spec joint actions — legal or not — none of
whose timesteps is LAST so far has at most `J·O·D` steps.  Hence every episode, whatever is played, ends (LAST) within its
structural horizon of `num_jobs · max_num_ops · max_op_duration + 1` steps. -/
theorem jobshop_episode_horizon (cfg : Cfg) (s : State) (hg : GenCert cfg s) (as : List (List Int))
    (hin : ∀ a ∈ as, InSpec cfg a) (hnl : ∀ e ∈ Ep.rollout (step cfg) s as, e.2.stepType ≠ .last) :
    as.length ≤ cfg.J * cfg.O * cfg.D := by
  have hc := cert_state cfg s hg
  have hi := cert_instance cfg s hg
  have hsv := survives_of_no_last cfg as s hc.2.1 hc.2.2 hin hnl
  have h1 := horizon cfg as s hc.2.1 hi.2.1 hsv
  have h2 := timeLeft_init_le cfg s hi.2.1 fun j hj k hk hs => hs.2 (cert_schedAt cfg s hg hj hk)
  omega

theorem jobshop_episode_horizon_generated (cfg : Cfg) (midDraw durDraw : List (List Int)) (numOps : List Int)
    (hd : validGenDraw cfg midDraw durDraw numOps) (as : List (List Int)) (hin : ∀ a ∈ as, InSpec cfg a)
    (hnl : ∀ e ∈ Ep.rollout (step cfg) (generate cfg midDraw durDraw numOps) as, e.2.stepType ≠ .last) :
    as.length ≤ cfg.J * cfg.O * cfg.D :=
  Props.C11.jobshop_episode_horizon cfg _ (JobShop.generate_cert cfg midDraw durDraw numOps hd) as hin hnl

-- seven non-LAST steps of the repository's own action sequence on the toy instance (J·O·D = 80)
example : GenCert toyCfg toyState ∧ (∀ a ∈ toyActions.take 7, InSpec toyCfg a) ∧
    (∀ e ∈ Ep.rollout (step toyCfg) toyState (toyActions.take 7), e.2.stepType ≠ .last) := by
  refine ⟨JobShop.toy_cert, by decide, ?_⟩
  simp only [toyActions, List.take, Ep.rollout]
  decide +kernel

example : Survives exCfg exState [[2, 2]] ∧ DurationsOK exCfg exState ∧ timeLeft exCfg exState = 3 := by
  refine ⟨?_, ?_, ?_⟩
  · simp only [Survives]; decide +kernel
  · decide +kernel
  · decide +kernel
end Props.C11

namespace Props.C12
/-- the observation is the documented function of the successor state (six copied fields, the mask
being the mask of the successor's own machine/op status) -/
theorem jobshop_obs_faithful (cfg : Cfg) (s : State) (a : List Int) :
    (step cfg s a).2.obs = observe cfg (step cfg s a).1 := JobShop.obs_faithful cfg s a

/-- the same for the observation `reset` returns, for every instance -/
theorem jobshop_reset_obs_faithful (cfg : Cfg) (mid dur : List (List Int)) :
    (reset cfg mid dur).2.obs = observe cfg (reset cfg mid dur).1 := JobShop.reset_obs_faithful cfg mid dur

/-- and on every state of legal play the mask shown is the legality table of the rules (not only the recomputed L1
mask): `observe … .amask = legalTable` -/
theorem jobshop_obs_mask_is_legal (cfg : Cfg) (s : State) (hI : Inv cfg s) :
    (observe cfg s).amask = legalTable cfg s := JobShop.maskOf_eq_legalTable cfg s hI
end Props.C12

