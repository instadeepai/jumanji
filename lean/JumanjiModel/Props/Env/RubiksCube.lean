/-
Property theorems for RubiksCube, ALL cube sizes `n`, all colourings.

Two layers.  The rule level (L2) is the physical cube: stickers are points of ℤ³ (`emb`), a move turns the points
of one layer by a quarter/half turn about the face normal (`physTurn`), `applyMove`/`move` is that turn read on
the `(6, n, n)` array.  L1 is the transliteration of utils.py / env.py (`rotateCube`: the six index tables,
`rot90`, gather, `roll`, scatter, `lax.switch`; `flattenAction`; `isSolved` by max/min; `step`).
A `Move` ⟨face, depth, amt⟩ is `legal n` iff it lies in the action space `[6, n / 2, 3]`; `m.act` is its integer
action; direction 0 = clockwise, 1 = anticlockwise, 2 = half turn.
-/
import JumanjiModel.Env.RubiksCube.General
import JumanjiModel.Env.RubiksCube.Natural
import JumanjiModel.Env.RubiksCube.BoundsLemmas
import JumanjiModel.Env.RubiksCube.Episode
open Jm Jx RubiksCube

namespace Props.C17

/-! #### every action is the physical move (all sizes) -/

/-- `emb` (array position ↦ centre of the sticker in space) is injective on the array: `unemb` inverts it -/
theorem rubik_unemb_emb (n : Nat) (p : Pos) (h : p.Valid n) : unemb n (emb n p) = p := unemb_emb h

/-- rule level only (the claim about the IMPLEMENTATION's index tables is `rubik_l1_move_is_physical` below): the physical
turn maps the surface of the cube to itself — the sticker at `p` goes to the position `dstPos p` of the array whose centre is
the centre of `p` turned about the normal of face `f` (if it lies in layer `d`) -/
theorem rubik_physTurn_stays_on_surface (n f d amt : Nat) (p : Pos) (h : p.Valid n) :
    (dstPos n f d amt p).Valid n ∧ emb n (dstPos n f d amt p) = physTurn n f d amt (emb n p) :=
  posK_spec f d _ h

/-- the colouring after the move: position `p` shows the sticker that was at `srcPos p`, the position from which
the physical move brings a sticker to `p` -/
theorem rubik_move_sticker {α : Type} [Inhabited α] (n f d amt : Nat) (c : Cube α) (p : Pos) (h : p.Valid n) :
    getP default (applyMove n f d amt c) p = getP default c (srcPos n f d amt p) ∧
    dstPos n f d amt (srcPos n f d amt p) = p ∧ srcPos n f d amt (dstPos n f d amt p) = p :=
  ⟨getP_applyMove n f d amt c h, dst_src f d amt h, src_dst f d amt h⟩

/-- stickers outside the turned layer stay where they are -/
theorem rubik_outside_layer_fixed (n f d amt : Nat) (p : Pos) (h : p.Valid n) (ho : ¬ inLayer n f d (emb n p)) :
    srcPos n f d amt p = p := srcPos_outside f d amt h ho

/-- a move is a bijection of the positions: a fixed permutation that does not depend on the colouring -/
theorem rubik_move_bijective (n f d amt : Nat) : ((allPos n).map (srcPos n f d amt)).Perm (allPos n) :=
  perm_map_posK n f d _

/-- every move conserves the multiset of stickers -/
theorem rubik_conserves_multiset {α : Type} [Inhabited α] (n f d amt : Nat) (c : Cube α) (hc : Shaped n c) :
    (applyMove n f d amt c).flatten.flatten.Perm c.flatten.flatten := applyMove_perm f d amt hc

/-! #### group laws (all sizes, all colourings; direction 0 = clockwise, 1 = anticlockwise, 2 = half turn) -/

theorem rubik_cw_ccw_id {α : Type} [Inhabited α] (n f d : Nat) (c : Cube α) (hc : Shaped n c) :
    applyMove n f d 1 (applyMove n f d 0 c) = c ∧ applyMove n f d 0 (applyMove n f d 1 c) = c := by
  simp only [applyMove_eq, turnC_add]
  exact ⟨turnC_full f d 1 hc, turnC_full f d 1 hc⟩

theorem rubik_half_eq_cw_cw {α : Type} [Inhabited α] (n f d : Nat) (c : Cube α) :
    applyMove n f d 2 c = applyMove n f d 0 (applyMove n f d 0 c) ∧
    applyMove n f d 2 c = applyMove n f d 1 (applyMove n f d 1 c) := by
  simp only [applyMove_eq, turnC_add]
  exact ⟨(turnC_mod n f d 2 1 c).symm, rfl⟩

theorem rubik_cw_four_id {α : Type} [Inhabited α] (n f d : Nat) (c : Cube α) (hc : Shaped n c) :
    applyMove n f d 0 (applyMove n f d 0 (applyMove n f d 0 (applyMove n f d 0 c))) = c := by
  simp only [applyMove_eq, turnC_add]
  exact turnC_full f d 3 hc

theorem rubik_half_half_id {α : Type} [Inhabited α] (n f d : Nat) (c : Cube α) (hc : Shaped n c) :
    applyMove n f d 2 (applyMove n f d 2 c) = c := by
  rw [applyMove_eq, applyMove_eq, turnC_add]
  exact turnC_full f d 1 hc

/-- every move is undone by the opposite move, every move sequence by the reversed sequence of opposites -/
theorem rubik_inverse_sequence {α : Type} [Inhabited α] (n : Nat) (c : Cube α) (hc : Shaped n c) (ms : List Move) :
    playMoves n (playMoves n c ms) (invMoves ms) = c := playMoves_inv hc ms

/-! #### the implementation's index manipulation (L1) -/

/-- `rotate_cube` does not look at the colours (all sizes): recolouring by any `g` commutes with every move -/
theorem rubik_l1_colour_blind {α β : Type} (g : α → β) (c : Cube α) (flat : Int) :
    rotateCube (mapC g c) flat = mapC g (rotateCube c flat) := by
  unfold rotateCube
  simp only [cubeSize_mapC]
  have hl := (relL_allMoves g (cubeSize c)).length
  rw [hl]
  exact (relL_allMoves g (cubeSize c)).getD _ c

/-- ALL sizes: the L1 move selected by `flatten_action` of an action of the action space is the physical
move, on every colouring -/
theorem rubik_l1_move_is_physical {α : Type} [Inhabited α] (n : Nat) (c : Cube α)
    (hc : Shaped n c) (m : Move) (hm : legal n m) : rotateCube c (flattenAction n m.act) = move n c m :=
  rotateCube_eq_move hc hm

/-- the sizes 2 … 7 the property names: all 18·⌊n/2⌋ L1 moves act on the position-labelled cube as the physical source map
(the instance of `tableOK_all`, which holds for every `n`; `hn` only records the range and is not used) -/
theorem rubik_l1_tables_2_to_7 (n : Nat) (hn : 2 ≤ n ∧ n ≤ 7) : tableOK n = true := tableOK_all n

/-- hence L1 plays are rule-level plays and conserve the stickers -/
theorem rubik_l1_play {α : Type} [Inhabited α] (n : Nat) (c : Cube α) (hc : Shaped n c)
    (ms : List Move) (hl : ∀ m ∈ ms, legal n m) :
    (ms.map (fun m => flattenAction n m.act)).foldl rotateCube c = playMoves n c ms ∧
    (playMoves n c ms).flatten.flatten.Perm c.flatten.flatten :=
  ⟨foldl_rotateCube_eq_playMoves hc hl, playMoves_perm hc ms⟩

example : legal 3 ⟨4, 0, 2⟩ ∧ Shaped 3 (goal 3) := ⟨by decide, shaped_goal 3⟩

/-! #### encodings -/

/-- flat ↔ (face, depth, direction) are mutually inverse on the action space (all sizes) -/
theorem rubik_unflatten_flatten (n : Nat) (m : Move) (h : legal n m) :
    Move.ofFlat n (Move.flat n m) = m ∧ Move.flat n m < 18 * (n / 2) := ⟨ofFlat_flat h, flat_lt h⟩

theorem rubik_flatten_unflatten (n i : Nat) (h : i < 18 * (n / 2)) :
    Move.flat n (Move.ofFlat n i) = i ∧ legal n (Move.ofFlat n i) := ⟨flat_ofFlat i, legal_ofFlat h⟩

/-- the integer functions `flatten_action` / `unflatten_action` of utils.py are these encodings -/
theorem rubik_l1_encodings (n : Nat) (m : Move) (i : Nat) :
    flattenAction n m.act = ((Move.flat n m : Nat) : Int) ∧ unflattenAction n (i : Int) = (Move.ofFlat n i).act :=
  ⟨flattenAction_cast n m, unflattenAction_cast n i⟩

/-! #### solved test and solvability -/

/-- `is_solved` accepts exactly the cubes whose six faces are each of one colour (all sizes) -/
theorem rubik_solved_iff (n : Nat) (c : Cube Int) (hc : Shaped n c) : isSolved c = true ↔ Monochrome n c :=
  isSolved_iff hc

/-- the same for ALL sizes (even and odd) in closed form: `is_solved` accepts exactly the cubes `uniformCube n k` = face `f`
entirely of colour `k f`, for ANY six colours `k` (not only `k f = f`, not only permutations of the six colours) -/
theorem rubik_solved_iff_uniform (n : Nat) (c : Cube Int) (hc : Shaped n c) :
    isSolved c = true ↔ ∃ k : Nat → Int, c = uniformCube n k := by
  rw [isSolved_iff hc]
  constructor
  · intro hm
    refine ⟨fun f => getP 0 c ⟨f, 0, 0⟩, ?_⟩
    unfold uniformCube
    conv => lhs; rw [← tabulate_getP 0 hc]
    exact tabulate_congr (fun p hp => hm p (mem_allPos.2 hp))
  · rintro ⟨k, rfl⟩
    exact monochrome_uniform n k

/-- `make_solved_cube` is the goal (face `f` of colour `f`) and passes the test -/
theorem rubik_goal (n : Nat) : solvedCube n = goal n ∧ Monochrome n (goal n) ∧ isSolved (solvedCube n) = true :=
  ⟨solvedCube_eq_goal n, monochrome_goal n, isSolved_solvedCube n⟩

/-- odd `n`: no action of the action space moves a centre sticker … -/
theorem rubik_centres_fixed (n : Nat) (hodd : n % 2 = 1) (m : Move) (hm : legal n m) (f : Nat) (hf : f < 6) :
    srcPos n m.face m.depth m.amt (centre n f) = centre n f := srcPos_centre hodd hm hf

/-- … so for odd `n` the solved test accepts, among the cubes reachable from the goal, exactly the goal (for even
`n` this fails: `rubik_even_solved_not_goal_witness`) -/
theorem rubik_solved_reachable_is_goal (n : Nat) (hodd : n % 2 = 1) (c : Cube Int) (hr : Reachable n c) :
    isSolved c = true ↔ c = goal n := by
  have hc : Shaped n c := shaped_of_reachable hr
  constructor
  · intro h; exact reachable_monochrome_eq_goal hodd hr ((isSolved_iff hc).1 h)
  · intro h; rw [h, ← solvedCube_eq_goal]; exact isSolved_solvedCube n

example : Reachable 3 (playMoves 3 (goal 3) [⟨0, 0, 0⟩, ⟨2, 0, 1⟩]) ∧ 3 % 2 = 1 :=
  ⟨⟨[⟨0, 0, 0⟩, ⟨2, 0, 1⟩], by decide, rfl⟩, rfl⟩

/-- even `n`: the statement above is FALSE — U followed by D' on the 2×2×2 is reachable, passes `is_solved` (reward 1, LAST)
and is not the goal (it is the goal turned as a whole about the vertical axis).  What holds for even `n` is
`rubik_solved_iff_uniform` (six uniform faces); that a REACHABLE uniform cube of even size is one of the 24 rotations of the
goal is NOT proved here (open: needs the invariant that every corner cubie is moved rigidly). -/
theorem rubik_even_solved_not_goal_witness :
    Reachable 2 (playMoves 2 (goal 2) [⟨0, 0, 0⟩, ⟨5, 0, 1⟩]) ∧
    isSolved (playMoves 2 (goal 2) [⟨0, 0, 0⟩, ⟨5, 0, 1⟩]) = true ∧
    playMoves 2 (goal 2) [⟨0, 0, 0⟩, ⟨5, 0, 1⟩] ≠ goal 2 ∧
    playMoves 2 (goal 2) [⟨0, 0, 0⟩, ⟨5, 0, 1⟩] = uniformCube 2 (fun f => [0, 2, 3, 4, 1, 5].getD f 0) :=
  ⟨⟨[⟨0, 0, 0⟩, ⟨5, 0, 1⟩], by decide, rfl⟩, by decide, by decide, by decide⟩

/-- whatever is reachable from the goal by moves of the action space is solvable back to it, and stays reachable
under further play (all sizes, rule level) -/
theorem rubik_reachable_solvable (n : Nat) (c : Cube Int) (h : Reachable n c) (ms : List Move)
    (hl : ∀ m ∈ ms, legal n m) : Solvable n c ∧ Reachable n (playMoves n c ms) ∧ Solvable n (playMoves n c ms) :=
  ⟨reachable_solvable h, reachable_play h hl, reachable_solvable (reachable_play h hl)⟩

/-- ALL sizes: every state produced by `reset` (scramble of any number of legal flat actions from the solved cube) and then by
ANY play of `env.step` with actions of the action space (any length, through LAST or not) is reachable from the goal and
solvable: the reset state, every state listed by `run`, and the final state -/
theorem rubik_reset_and_play_solvable (cfg : Cfg) (scr : List Move) (hs : ∀ m ∈ scr, legal cfg.n m)
    (ms : List Move) (hm : ∀ m ∈ ms, legal cfg.n m) :
    let s0 := (reset cfg (scr.map (fun m => flattenAction cfg.n m.act))).1
    Reachable cfg.n s0.cube ∧ Solvable cfg.n s0.cube ∧
    (∀ r ∈ run cfg s0 (ms.map Move.act), Reachable cfg.n r.1.cube ∧ Solvable cfg.n r.1.cube) ∧
    Reachable cfg.n (ms.foldl (fun s m => (step cfg s m.act).1) s0).cube ∧
    Solvable cfg.n (ms.foldl (fun s m => (step cfg s m.act).1) s0).cube := by
  intro s0
  have r0 : Reachable cfg.n s0.cube := scramble_reachable hs
  have rf := foldl_step_reachable cfg s0 r0 ms hm
  exact ⟨r0, reachable_solvable r0, run_reachable cfg s0 r0 ms hm, rf, reachable_solvable rf⟩

example : legal 3 ⟨0, 0, 0⟩ ∧ legal 3 ⟨3, 0, 2⟩ ∧ (run ⟨3, 5⟩ (reset ⟨3, 5⟩ [0, 7]).1 [(0, 0, 0), (3, 0, 2)]).length = 2 :=
  ⟨by decide, by decide, by rw [run_length]; rfl⟩

/-- … and along whole episodes: reachability is an invariant of `step` -/
theorem rubik_step_keeps_reachable (cfg : Cfg) (s : State) (hr : Reachable cfg.n s.cube)
    (m : Move) (hm : legal cfg.n m) : Reachable cfg.n (step cfg s m.act).1.cube :=
  step_reachable cfg hr hm
end Props.C17

namespace Props.C10
/-- ALL sizes: the scramble of the generator (any number of draws, each an action of the action space) is a
play of physical moves from the goal; it is solvable and has every colour exactly as often as the goal -/
theorem rubik_scramble_solvable (n : Nat) (scr : List Move) (hs : ∀ m ∈ scr, legal n m) :
    let c := scramble n (scr.map (fun m => flattenAction n m.act))
    c = playMoves n (goal n) scr ∧ Solvable n c ∧ c.flatten.flatten.Perm (goal n).flatten.flatten := by
  intro c
  have e : c = playMoves n (goal n) scr := scramble_eq_playMoves hs
  refine ⟨e, reachable_solvable (scramble_reachable hs), ?_⟩
  rw [e]; exact playMoves_perm (shaped_goal n) scr

/-- all sizes, rule level: a scramble is solved by the reversed sequence of opposite moves -/
theorem rubik_scramble_undone (n : Nat) (scr : List Move) :
    playMoves n (playMoves n (goal n) scr) (invMoves scr) = goal n := playMoves_inv (shaped_goal n) scr
end Props.C10

namespace Props.C08
/-- sparse reward: 1 exactly when the new cube passes the solved test, else 0 (all sizes) -/
theorem rubik_sparse_reward (cfg : Cfg) (s : State) (a : Int × Int × Int) :
    (step cfg s a).2.reward = [if isSolved (step cfg s a).1.cube = true then 1 else 0] :=
  condLast_reward ..

/-- a non-zero reward is 1, is given on a solved cube and ends the episode (a statement about one step; no theorem here sums
the rewards of an episode) -/
theorem rubik_reward_only_at_solved_end (cfg : Cfg) (s : State) (a : Int × Int × Int)
    (h : (step cfg s a).2.reward ≠ [0]) :
    (step cfg s a).2.reward = [1] ∧ isSolved (step cfg s a).1.cube = true ∧ (step cfg s a).2.stepType = .last := by
  rw [rubik_sparse_reward] at h
  rw [rubik_sparse_reward, step_last_iff]
  by_cases hs : isSolved (step cfg s a).1.cube = true
  · simp [hs]
  · simp [hs] at h
end Props.C08

namespace Props.C09
/-- ALL sizes: the transliterated step (flatten_action, lax.switch over the index tables, max/min solved test,
reward, termination) equals the rule-level step (physical move; reward 1 and LAST iff every face is of one
colour; LAST at the time limit): state, step type, reward, discount and observation -/
theorem rubik_step_eq_rules (cfg : Cfg) (s : State) (hc : Shaped cfg.n s.cube) (m : Move)
    (hm : legal cfg.n m) : step cfg s m.act = stepL2 cfg s m :=
  step_eq_stepL2 cfg hc hm

/-- all sizes: the same, given only that the L1 move is the physical move on this cube (which `rubik_l1_move_is_physical` gives
for every shaped cube: this form adds the cubes that are not shaped) -/
theorem rubik_step_eq_rules_of_move (cfg : Cfg) (s : State) (m : Move)
    (H : rotateCube s.cube (flattenAction cfg.n m.act) = move cfg.n s.cube m) : step cfg s m.act = stepL2 cfg s m :=
  step_eq_stepL2_of cfg s m H

/-- the shape is preserved, so the refinement applies along whole episodes -/
theorem rubik_shape_preserved (cfg : Cfg) (s : State) (m : Move) : Shaped cfg.n (stepL2 cfg s m).1.cube :=
  shaped_move cfg.n s.cube m
end Props.C09

namespace Props.C07
/-- ALL sizes: `step` conserves the multiset of stickers -/
theorem rubik_step_conserves (cfg : Cfg) (s : State) (hc : Shaped cfg.n s.cube) (m : Move)
    (hm : legal cfg.n m) : (step cfg s m.act).1.cube.flatten.flatten.Perm s.cube.flatten.flatten :=
  step_perm cfg s hc m hm
end Props.C07

namespace Props.C11
/-- a step is LAST exactly when the step count reaches the time limit or the new cube is solved; the step
count grows by one per step -/
theorem rubik_last_iff (cfg : Cfg) (s : State) (a : Int × Int × Int) :
    (step cfg s a).2.stepType = .last ↔
      (cfg.timeLimit ≤ (step cfg s a).1.stepCount ∨ isSolved (step cfg s a).1.cube = true) := step_last_iff cfg s a

theorem rubik_step_count (cfg : Cfg) (s : State) (a : Int × Int × Int) :
    (step cfg s a).1.stepCount = s.stepCount + 1 := step_count cfg s a

/-- EPISODE level (`run` = the L1 `step` iterated, no auto-reset): from any state with step count 0 (every reset state), for
ANY action values (in the action space or not) and any time limit `T > 0`, if at least `T` actions are played then the first
LAST comes at a step `k` with `0 < k ≤ T` — never later; all steps before it are MID on unsolved cubes; and if none of the
first `T − 1` cubes is solved then `k = T` exactly — never earlier -/
theorem rubik_episode_ends_by_limit (cfg : Cfg) (T : Nat) (hT : cfg.timeLimit = (T : Int)) (hpos : 0 < T) (s0 : State)
    (h0 : s0.stepCount = 0) (as : List (Int × Int × Int)) (hlen : T ≤ as.length) :
    ∃ k, 0 < k ∧ k ≤ T ∧
      (∃ r, (run cfg s0 as)[k - 1]? = some r ∧ r.2.stepType = .last) ∧
      (∀ j, j < k - 1 → ∃ r, (run cfg s0 as)[j]? = some r ∧ r.2.stepType = .mid ∧ isSolved r.1.cube = false) ∧
      ((∀ j r, j < T - 1 → (run cfg s0 as)[j]? = some r → isSolved r.1.cube = false) → k = T) := by
  obtain ⟨k, h1, h2, ⟨e1, e2, _⟩, h4⟩ := episode_ends_by_limit cfg T hT hpos s0 h0 as hlen
  exact ⟨k, h1, h2, e1, e2, h4⟩

/-- `run` is nothing but the iteration of `step` -/
theorem rubik_run_unfold (cfg : Cfg) (s : State) (a : Int × Int × Int) (as : List (Int × Int × Int)) :
    run cfg s [] = [] ∧ run cfg s (a :: as) = step cfg s a :: run cfg (step cfg s a).1 as := ⟨rfl, rfl⟩

example : (reset ⟨3, 4⟩ [0, 7]).1.stepCount = 0 ∧ (4 : Nat) ≤ [(0, 0, 0), (1, 0, 1), (2, 0, 2), (3, 0, 0), (5, 0, 1)].length :=
  ⟨rfl, by decide⟩
end Props.C11

namespace Props.C12
/-- the observation returned by `step` is the observation function of the successor state, which is the
documented one: the cube and the step count, copied -/
theorem rubik_obs_faithful (cfg : Cfg) (s : State) (a : Int × Int × Int) :
    (step cfg s a).2.obs = observe (step cfg s a).1 ∧
    observe (step cfg s a).1 = ⟨(step cfg s a).1.cube, (step cfg s a).1.stepCount⟩ := ⟨step_obs cfg s a, rfl⟩

/-- the observation returned by `reset` is the same function of the reset state: the scrambled cube and step count 0 -/
theorem rubik_reset_obs_faithful (cfg : Cfg) (flats : List Int) :
    (reset cfg flats).2.obs = observe (reset cfg flats).1 ∧
    (reset cfg flats).2.obs = ⟨scramble cfg.n flats, 0⟩ ∧ (reset cfg flats).1 = genState cfg.n flats := ⟨rfl, rfl, rfl⟩
end Props.C12

namespace Props.C03
/-- `step` on ANY state (reachable or not, before or after LAST) with ANY action value (in the action space or not) returns a
protocol-conform timestep: never FIRST, scalar reward and discount, discount in [0, 1], MID never with zero discount, LAST
with zero discount (`StepOK none false` is the predicate the driver evaluates on the implementation's timesteps) -/
theorem rubik_step_protocol (cfg : Cfg) (s : State) (a : Int × Int × Int) :
    StepOK none false (step cfg s a).2 = true ∧
    (step cfg s a).2.stepType ≠ .first ∧ (step cfg s a).2.reward.length = 1 ∧
    ((step cfg s a).2.discount = [0] ∨ (step cfg s a).2.discount = [1]) ∧
    ((step cfg s a).2.stepType = .mid → (step cfg s a).2.discount = [1]) ∧
    ((step cfg s a).2.stepType = .last → (step cfg s a).2.discount = [0]) := by
  refine ⟨step_protocol cfg s a, ?_⟩
  unfold step condLast
  simp only
  split <;> simp [termination, transition, zerosR, onesR, RShape.size]

/-- `reset` (any scramble) returns FIRST with reward 0 and discount 1 of the scalar shape -/
theorem rubik_reset_protocol (cfg : Cfg) (flats : List Int) :
    ResetOK none (reset cfg flats).2 = true ∧ (reset cfg flats).2.stepType = .first ∧
    (reset cfg flats).2.reward = [0] ∧ (reset cfg flats).2.discount = [1] := by
  refine ⟨by simp [reset, restart, ResetOK], rfl, rfl, rfl⟩

/-- `step` ends with the combinator `lax.cond(done, termination, transition, reward, obs)` -/
theorem rubik_step_uses (cfg : Cfg) (s : State) (a : Int × Int × Int) :
    (step cfg s a).2 = condLast (decide ((step cfg s a).1.stepCount ≥ cfg.timeLimit) || isSolved (step cfg s a).1.cube)
      [sparseReward (step cfg s a).1] (observe (step cfg s a).1) := rfl
end Props.C03

namespace Props.C01
open PzB
/-- the observation returned by `reset` (ALL cube sizes; the scramble is any sequence of draws of the action space; time
limit ≥ 0): every leaf listed in `obsBounds cfg` is present and within its interval: `cube` ∈ [0, 5],
`step_count` ∈ [0, time_limit] -/
theorem rubiks_cube_reset_obs_in_bounds (cfg : Cfg) (hT : 0 ≤ cfg.timeLimit) (scr : List Move)
    (hs : ∀ m ∈ scr, legal cfg.n m) :
    ObsInBounds (obsBounds cfg)
      (obsLeaves (observe (genState cfg.n (scr.map (fun m => flattenAction cfg.n m.act))))) := by
  apply obs_in_bounds cfg
  · exact (scramble_ok cfg.n scr hs).1
  · show (0 : Int) ≤ 0 ∧ (0 : Int) ≤ cfg.timeLimit
    omega

/-- the same for `step` (ALL sizes), for every `(6, n, n)` cube whose stickers are colours 0..5 and every move of the action
space, including the terminal step; the time limit has not been reached before the step (`0 ≤ step_count < time_limit`).
Uses the conservation of the sticker multiset (C07). -/
theorem rubiks_cube_step_obs_in_bounds (cfg : Cfg) (s : State) (hc : Shaped cfg.n s.cube) (m : Move) (hm : legal cfg.n m)
    (h : ColoursInRange s.cube) (hs : 0 ≤ s.stepCount ∧ s.stepCount < cfg.timeLimit) :
    ObsInBounds (obsBounds cfg) (obsLeaves (step cfg s m.act).2.obs) := by
  rw [step_obs]
  apply obs_in_bounds cfg
  · exact step_coloursInRange cfg s hc m hm h
  · show 0 ≤ s.stepCount + 1 ∧ s.stepCount + 1 ≤ cfg.timeLimit
    omega

/-- shape and colour range hold after `reset` and are preserved by every move of the action space -/
theorem rubik_coloursInRange_invariant (cfg : Cfg) :
    (∀ scr : List Move, (∀ m ∈ scr, legal cfg.n m) →
      ColoursInRange (genState cfg.n (scr.map (fun m => flattenAction cfg.n m.act))).cube ∧
      Shaped cfg.n (genState cfg.n (scr.map (fun m => flattenAction cfg.n m.act))).cube) ∧
    (∀ (s : State) (m : Move), Shaped cfg.n s.cube → legal cfg.n m → ColoursInRange s.cube →
      ColoursInRange (step cfg s m.act).1.cube ∧ Shaped cfg.n (step cfg s m.act).1.cube) :=
  ⟨fun scr hs => RubiksCube.scramble_ok cfg.n scr hs,
   fun s m hc hm h => ⟨RubiksCube.step_coloursInRange cfg s hc m hm h, RubiksCube.step_shaped cfg s hc m hm⟩⟩

example : ColoursInRange (goal 3) ∧ Shaped 3 (goal 3) := ⟨by decide, shaped_goal 3⟩

/-! NOTE on what the membership theorems of this section do and do not cover: the dtype tag of every leaf
is written by `toNValue` (by construction) — a wrong dtype in the real code cannot falsify `….valid (toNValue …) = true`; dtypes and
field order of the real observations are compared by the `rubiks_cube.spec` / `rubiks_cube.state` ops (`nvalue`: field order, shape, dtype, data) and
`jax.eval_shape` in the sweeps.  Shapes are READ OFF the value by `toNValue` (widths off the first row): see `…_obs_valid_only`. -/

/-! #### membership in the model's `obsSpec`: structure, shapes, dtypes and bounds
(`obsSpec` is the declared spec at the catalogue configurations: `rubik_obsSpec_generated`, Props/SpecTable.lean) -/
open Sp PzS

/-- the `reset` observation (ALL sizes, any scramble of actions of the action space, time limit ≥ 0) is accepted by
`observation_spec.validate`: fields `cube`, `step_count`; shapes `(6, n, n)`, `()`; dtypes int8, int32; bounds [0, 5], [0, T] -/
theorem rubik_reset_obs_valid (cfg : Cfg) (hT : 0 ≤ cfg.timeLimit) (scr : List Move) (hs : ∀ m ∈ scr, legal cfg.n m) :
    (obsSpec cfg).valid (toNValue (reset cfg (scr.map (fun m => flattenAction cfg.n m.act))).2.obs) = true := by
  have := scramble_ok cfg.n scr hs
  exact obs_valid cfg _ this.2 this.1 ⟨Int.le_refl 0, hT⟩

/-- the same for every `step` observation up to and including the terminal one (hypotheses = the invariants of
`rubik_coloursInRange_invariant`; the time limit has not been reached before the step) -/
theorem rubik_step_obs_valid (cfg : Cfg) (s : State) (hc : Shaped cfg.n s.cube) (m : Move) (hm : legal cfg.n m)
    (h : ColoursInRange s.cube) (hs : 0 ≤ s.stepCount ∧ s.stepCount < cfg.timeLimit) :
    (obsSpec cfg).valid (toNValue (step cfg s m.act).2.obs) = true := by
  rw [step_obs]
  refine obs_valid cfg _ (step_shaped cfg s hc m hm) (step_coloursInRange cfg s hc m hm h) ?_
  show 0 ≤ s.stepCount + 1 ∧ s.stepCount + 1 ≤ cfg.timeLimit
  omega

/-- what membership means (so the two theorems above are not hollow): `validate` accepts an observation ONLY IF its cube has
shape `(6, n, n)`, all stickers are in [0, 5] and the step count is in [0, T]  CAVEAT: for every field that is a nested list, `toNValue` reads the widths off the FIRST row of the
nested list, so the shape conjuncts here mean "row count, length of the first row, total number of cells" — a ragged value with the right total can be a
member, and nothing is concluded about the later rows.  Rectangularity is part of the invariant `Shaped` under which the
forward theorems (`rubik_reset_obs_valid`, `rubik_step_obs_valid`) are proved, i.e. it holds of every EMITTED observation. -/
theorem rubik_obs_valid_only (cfg : Cfg) (o : Obs) (h : (obsSpec cfg).valid (toNValue o) = true) :
    cubeShape o.cube = [6, cfg.n, cfg.n] ∧ ColoursInRange o.cube ∧ 0 ≤ o.stepCount ∧ o.stepCount ≤ cfg.timeLimit :=
  obs_valid_only cfg o h

example : (obsSpec ⟨2, 7⟩).valid (toNValue ⟨goal 2, 8⟩) = false ∧ (obsSpec ⟨2, 7⟩).valid (toNValue ⟨goal 3, 0⟩) = false ∧
    (obsSpec ⟨2, 7⟩).valid (toNValue ⟨goal 2, 7⟩) = true := by decide

/-- reward and discount of every `step` (ALL states, ALL action values) and of `reset` are accepted by `reward_spec`
(Array((), float)) and `discount_spec` (BoundedArray((), float, 0, 1)) -/
theorem rubik_reward_discount_valid (cfg : Cfg) (s : State) (a : Int × Int × Int) (flats : List Int) :
    rewardSpec.valid (scalarArr (step cfg s a).2.reward) = true ∧
    discountSpec.valid (scalarArr (step cfg s a).2.discount) = true ∧
    rewardSpec.valid (scalarArr (reset cfg flats).2.reward) = true ∧
    discountSpec.valid (scalarArr (reset cfg flats).2.discount) = true :=
  have hs := stepOK_reward_discount_valid false _ (step_protocol cfg s a)
  have hr := PzS3.restart_reward_discount_valid (reset cfg flats).2.obs
  ⟨hs.1, hs.2, hr.1, hr.2⟩

/-- `action_spec.generate_value()` = (0, 0, 0): for every constructible size (`n ≥ 2`) the action spec is well-formed, the
generated value is a member of it (`hbig`: the number of depths fits the int32 dtype of the spec), it is the move ⟨UP, outer layer, clockwise⟩ of the action space, and `step` answers it in
every state with a protocol-conform timestep; membership in `action_spec` is exactly `legal` -/
theorem rubik_accepts_generate_value (cfg : Cfg) (hn : 2 ≤ cfg.n) (hbig : cfg.n / 2 ≤ 2147483648) (s : State) :
    (actionSpec cfg).WF = true ∧ (actionSpec cfg).valid (actionSpec cfg).generate = true ∧
    (actionSpec cfg).generate = actionArr (Move.act ⟨0, 0, 0⟩) ∧ legal cfg.n ⟨0, 0, 0⟩ ∧
    StepOK none false (step cfg s (Move.act ⟨0, 0, 0⟩)).2 = true := accepts_generate_value cfg hn hbig s

/-- the action triple of a move is a member of `action_spec` exactly when the move is `legal` -/
theorem rubik_action_spec_iff_legal (cfg : Cfg) (m : Move) :
    (actionSpec cfg).valid (actionArr m.act) = true ↔ legal cfg.n m := by
  rw [actionSpec, actionArr, valid_multiDiscrete_iff]
  simp only [Move.act, legal, List.length_cons, List.length_nil, prod, List.foldl_cons, List.foldl_nil, List.zip_cons_cons,
    List.zip_nil_right, List.forall_mem_cons, List.not_mem_nil, Rat.intCast_nonneg, Rat.intCast_le_intCast, true_and,
    false_imp_iff, implies_true, and_true]
  omega

/-- (`n < 2`: the constructor of `MultiDiscreteArray` refuses `num_values = [6, 0, 3]`; `ScramblingGenerator` refuses such
sizes as well) -/
theorem rubik_action_spec_small (cfg : Cfg) (hn : cfg.n < 2) : (actionSpec cfg).WF = false := by
  have : cfg.n / 2 = 0 := by omega
  simp [actionSpec, Leaf.WF, Leaf.WF0, this]

/-- the step count of every observation of an episode up to and including the terminal one lies in [0, time_limit] -/
theorem rubik_episode_step_count_in_bounds (cfg : Cfg) (T : Nat) (hT : cfg.timeLimit = (T : Int)) (hpos : 0 < T) (s0 : State)
    (h0 : s0.stepCount = 0) (as : List (Int × Int × Int)) (hlen : T ≤ as.length) :
    ∃ k, 0 < k ∧ k ≤ T ∧ (∃ r, (run cfg s0 as)[k - 1]? = some r ∧ r.2.stepType = .last) ∧
      ∀ j, j < k → ∃ r, (run cfg s0 as)[j]? = some r ∧ 0 ≤ r.2.obs.stepCount ∧ r.2.obs.stepCount ≤ cfg.timeLimit := by
  obtain ⟨k, h1, h2, ⟨e1, _, e3⟩, _⟩ := episode_ends_by_limit cfg T hT hpos s0 h0 as hlen
  refine ⟨k, h1, h2, e1, fun j hj => ?_⟩
  obtain ⟨r, hr, hb⟩ := e3 j hj
  refine ⟨r, hr, ?_⟩
  have hobs := run_obs_count cfg s0 as r (List.mem_of_getElem? hr)
  rw [hobs, hT]; exact hb
end Props.C01
