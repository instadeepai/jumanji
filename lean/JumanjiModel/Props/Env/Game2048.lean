/-
Property theorems for Game2048 (the lemmas they rest on: Env/Game2048/*.lean).
Rows have ANY length; boards are square (`Square b`: every row as long as the board has rows), any size.
-/
import JumanjiModel.Env.Game2048.Lemmas
import JumanjiModel.Env.Game2048.Bounds
import JumanjiModel.Env.Game2048.BoardLemmas
import JumanjiModel.Env.Game2048.EpisodeLemmas
import JumanjiModel.Env.Game2048.ResetLemmas
import JumanjiModel.Env.Game2048.SpecLemmas
open Jm Game2048

namespace Props.C09
/-- for a row of any length the L1 `move_left_row` loop computes the L2 slide (compress, merge equal
neighbours once from the wall, pad) and the reward is the sum of the values of the tiles created -/
theorem game2048_moveLeftRow_eq_spec (r : List Nat) : moveLeftRow r = (slideSpec r, rowReward r) :=
  Game2048.moveLeftRow_eq_spec r

/-- board level: L1 `move` (transform, move left, transform back) = L2 slide of every line towards the wall -/
theorem game2048_move_eq_spec (b : Board) (a : Nat) (ha : a < 4) (hs : Square b) :
    move b (a : Int) = (slideBoard b (Dir.ofAction a), boardReward b (Dir.ofAction a)) :=
  Game2048.move_eq_spec b a ha hs

example : moveLeftRow [1, 1, 1, 1, 2, 0, 2] = ([2, 2, 3, 0, 0, 0, 0], 16) := by decide +kernel
example : Square [[1, 1, 0], [0, 2, 2], [3, 0, 3]] := by unfold Square; decide

/-- WHOLE-STEP refinement, all fields (successor state, step type, reward, discount, observation): on every square board
whose cached mask is the legality of the four moves (an invariant from `reset` on: `game2048_consistent_along`), for each of
the four moves and EVERY draw, the transliterated `Game2048.step` (transform, row loops, transform back, spawn decided by the
CACHED mask bit, `_get_action_mask`, `lax.cond`) equals the rules `stepL2` written directly -/
theorem game2048_step_eq_rules (s : State) (a : Nat) (d : Draw) (ha : a < 4) (hs : Square s.board)
    (hm : s.actionMask = legalMask s.board) : step s a d = stepL2 s a d := Game2048.step_eq_stepL2 s a d ha hs hm

theorem game2048_rules_last_iff (s : State) (a : Nat) (d : Draw) :
    (stepL2 s a d).2.stepType = .last ↔ ¬ ∃ a', legal (stepL2 s a d).1.board a' := by
  rw [Game2048.stepL2_last_iff, ← Game2048.canPlay_iff]; simp

/-- about `step` ITSELF: it answers LAST exactly when no move is legal on the successor board -/
theorem game2048_step_last_iff (s : State) (a : Nat) (d : Draw) (ha : a < 4) (hs : Square s.board)
    (hm : s.actionMask = legalMask s.board) :
    (step s a d).2.stepType = .last ↔ ¬ ∃ a', legal (step s a d).1.board a' := by
  rw [game2048_step_eq_rules s a d ha hs hm]
  exact game2048_rules_last_iff s a d

-- the refinement's hypotheses hold at a 2×2 reset state; Right, then Left merges 2+2 (reward 4)
example : Square (reset 2 ⟨0, 1⟩).1.board ∧ (reset 2 ⟨0, 1⟩).1.actionMask = legalMask (reset 2 ⟨0, 1⟩).1.board ∧
    (stepL2 (reset 2 ⟨0, 1⟩).1 1 ⟨0, 1⟩).1.board = [[1, 1], [0, 0]] ∧
    (stepL2 (stepL2 (reset 2 ⟨0, 1⟩).1 1 ⟨0, 1⟩).1 3 ⟨3, 2⟩).2.reward = [4] := by
  refine ⟨by unfold Square; decide +kernel, by decide +kernel, by decide +kernel, by decide +kernel⟩
end Props.C09

namespace Props.C04
/-- `can_move_left_row r` is false exactly when the slide leaves the row unchanged (rows of any length) -/
theorem game2048_canMoveLeftRow_false_iff (r : List Nat) : canMoveLeftRow r = false ↔ slideSpec r = r :=
  Game2048.canMoveLeftRow_false_iff r

/-- … and exactly when the L1 `move_left_row` loop leaves it unchanged -/
theorem game2048_canMoveLeftRow_false_iff_move (r : List Nat) :
    canMoveLeftRow r = false ↔ (moveLeftRow r).1 = r := by
  rw [Game2048.moveLeftRow_eq_spec]; exact Game2048.canMoveLeftRow_false_iff r

/-- the mask bit of move `a` is set exactly when the rules allow it (the move changes the board) -/
theorem game2048_mask_iff_legal (b : Board) (a : Nat) (ha : a < 4) (hs : Square b) :
    (actionMask b).getD a false = true ↔ legal b a := by
  rw [actionMask, Jx.getD_range_map _ false ha]; exact Game2048.canMove_iff_legal b a ha hs

theorem game2048_actionMask_eq_legalMask (b : Board) (hs : Square b) : actionMask b = legalMask b :=
  Game2048.actionMask_eq_legalMask b hs

/-- the mask cached in the state after any step is the mask of the successor board -/
theorem game2048_cached_mask (s : State) (a : Int) (d : Draw) :
    (step s a d).1.actionMask = actionMask (step s a d).1.board := rfl

/-- the environment's own reaction (a tile is spawned iff the cached mask bit is set) agrees with the rules -/
theorem game2048_step_agrees (s : State) (a : Nat) (ha : a < 4) (hs : Square s.board)
    (hm : s.actionMask = actionMask s.board) :
    Jx.getWC s.actionMask false (a : Int) = true ↔ legal s.board a := Game2048.step_agrees s a ha hs hm

example : legal [[1, 1], [0, 2]] 3 ∧ ¬ legal [[1, 2], [0, 0]] 0 := by decide +kernel

/-- (the statement above only relates the cached mask bit to the rules) the reaction of `step` ITSELF: from every
consistent state (every state of every play from `reset`), for each of the four moves and every draw that is valid when a
tile is spawned, the rules allow the move IFF `step` put a new tile on the board (the tile sum changed — this is how the
harness reads "the environment treated the move as valid" off a transition) IFF `step` changed the board at all -/
theorem game2048_step_reaction (n : Nat) (s : State) (a : Nat) (d : Draw) (ha : a < 4) (hc : Consistent n s)
    (hd : legal s.board a → validDraw (slideBoard s.board (Dir.ofAction a)) d) :
    (legal s.board a ↔ boardSum (step s a d).1.board ≠ boardSum s.board) ∧
    (legal s.board a ↔ (step s a d).1.board ≠ s.board) := Game2048.step_reaction n s a d ha hc hd

/-- whenever the rules allow a move (it changes the board) the slid board has an empty cell -/
theorem game2048_legal_leaves_empty_cell (b : Board) (a : Nat) (hs : Square b) (hl : legal b a) :
    ∃ i j, i < b.length ∧ j < b.length ∧ get (slideBoard b (Dir.ofAction a)) i j = 0 :=
  Game2048.exists_empty_of_legal b a hs hl

/-- … so `_add_random_cell` always has a cell to choose: a valid spawn draw exists after every legal move,
with either tile value (all board sizes, all four directions) -/
theorem game2048_legal_spawn_exists (b : Board) (a : Nat) (hs : Square b) (hl : legal b a) (v : Nat)
    (hv : v = 1 ∨ v = 2) : ∃ d : Draw, d.val = v ∧ validDraw (slideBoard b (Dir.ofAction a)) d := by
  obtain ⟨i, j, hi, hj, hz⟩ := Game2048.exists_empty_of_legal b a hs hl
  refine ⟨⟨b.length * i + j, v⟩, rfl, ?_⟩
  unfold validDraw
  rw [Game2048.slideBoard_length]
  refine ⟨Game2048.flat_lt hi hj, ?_, hv⟩
  show get _ ((b.length * i + j) / b.length) ((b.length * i + j) % b.length) = 0
  rw [(Game2048.flat_divmod i hj).1, (Game2048.flat_divmod i hj).2]
  exact hz

/-- the same in terms of the L1 `move` -/
theorem game2048_legal_spawn_exists_L1 (b : Board) (a : Nat) (hs : Square b) (hl : legal b a) :
    ∃ d : Draw, validDraw (move b (a : Int)).1 d := by
  obtain ⟨d, _, hd⟩ := game2048_legal_spawn_exists b a hs hl 1 (Or.inl rfl)
  exact ⟨d, by rw [Game2048.move_eq_spec b a hl.1 hs]; exact hd⟩

/-- a slide that changes a line frees its far end (row level, any length) -/
theorem game2048_changed_row_frees_end (r : List Nat) (h : slideSpec r ≠ r) :
    (slideSpec r).getD (r.length - 1) 0 = 0 := Game2048.slideSpec_last_zero r h
end Props.C04

namespace Props.C05
/-- an illegal move is ignored: the board, mask and score are untouched (nothing moves, merges or spawns),
the reward is 0, only the step counter advances; the step is LAST only if no move at all was legal -/
theorem game2048_illegal_ignored (s : State) (a : Nat) (d : Draw) (ha : a < 4) (hs : Square s.board)
    (hm : s.actionMask = actionMask s.board) (h : ¬ legal s.board a) :
    (step s a d).1.board = s.board ∧ (step s a d).1.actionMask = s.actionMask ∧
    (step s a d).1.score = s.score ∧ (step s a d).1.stepCount = s.stepCount + 1 ∧
    (step s a d).2.reward = [0] ∧
    ((step s a d).2.stepType = .last ↔ ∀ a', ¬ legal s.board a') :=
  Game2048.illegal_ignored s a d ha hs hm h
end Props.C05

namespace Props.C07
/-- a slide conserves the sum of the tile values of the row (any length) -/
theorem game2048_row_tileSum_conserved (r : List Nat) : tileSum (slideSpec r) = tileSum r :=
  Game2048.tileSum_slideSpec r

theorem game2048_row_tileSum_conserved_L1 (r : List Nat) : tileSum (moveLeftRow r).1 = tileSum r := by
  rw [Game2048.moveLeftRow_eq_spec]; exact Game2048.tileSum_slideSpec r

theorem game2048_row_length (r : List Nat) : (slideSpec r).length = r.length := Game2048.slideSpec_length r

/-- BOARD level: sliding the tiles of a square board (any size) in any of the four directions conserves the sum
of the tile values `Σ 2^e` -/
theorem game2048_boardSum_conserved (b : Board) (dir : Dir) (hs : Square b) :
    boardSum (slideBoard b dir) = boardSum b := Game2048.boardSum_slideBoard b dir hs

/-- the same for the L1 `move` (transform, move left, transform back) -/
theorem game2048_boardSum_conserved_L1 (b : Board) (a : Nat) (ha : a < 4) (hs : Square b) :
    boardSum (move b (a : Int)).1 = boardSum b := by
  rw [Game2048.move_eq_spec b a ha hs]; exact Game2048.boardSum_slideBoard b _ hs

/-- a valid spawn draw (empty cell, exponent 1 or 2) adds exactly the new tile: `+2` or `+4` -/
theorem game2048_spawn_adds (b : Board) (d : Draw) (hs : Square b) (hd : validDraw b d) :
    boardSum (addRandomCell b d) = boardSum b + 2 ^ d.val ∧
    (boardSum (addRandomCell b d) = boardSum b + 2 ∨ boardSum (addRandomCell b d) = boardSum b + 4) :=
  ⟨Game2048.boardSum_addRandomCell b d hs hd, Game2048.boardSum_addRandomCell' b d hs hd⟩

/-- shape preservation: `move` (EVERY action value, `lax.switch` clamps), `_add_random_cell` (EVERY draw, also
out of range: the scatter drops) and hence `step` keep the board `n × n` -/
theorem game2048_move_square (b : Board) (a : Int) (hs : Square b) :
    Square (move b a).1 ∧ (move b a).1.length = b.length :=
  ⟨Game2048.move_square b a hs, Game2048.move_length b a⟩

theorem game2048_addRandomCell_square (b : Board) (d : Draw) (hs : Square b) :
    Square (addRandomCell b d) ∧ (addRandomCell b d).length = b.length :=
  ⟨Game2048.addRandomCell_square b d hs, Game2048.addRandomCell_length b d⟩

theorem game2048_step_shaped (n : Nat) (s : State) (a : Int) (d : Draw) (hs : Shaped s.board n) :
    Shaped (step s a d).1.board n := Game2048.step_shaped n s a d hs

theorem game2048_reset_shaped (n : Nat) (d : Draw) : Shaped (reset n d).1.board n := Game2048.reset_shaped n d

/-- the reset state (any size `n`, any valid first draw: a cell of the empty `n × n` board, exponent 1 or 2) is
consistent: square board holding exactly one tile (a 2 or a 4), mask = legality, score 0 -/
theorem game2048_reset_consistent (n : Nat) (d : Draw) (hd : validDraw (tab n (fun _ _ => 0)) d) :
    Consistent n (reset n d).1 := Game2048.reset_consistent n d hd

/-- every step with an action 0..3 (legal or not, terminal or not) from a consistent state leads to a consistent
state; the draw has to be valid only when the move is legal (nothing is spawned otherwise) -/
theorem game2048_step_consistent (n : Nat) (s : State) (a : Nat) (d : Draw) (ha : a < 4) (hc : Consistent n s)
    (hd : legal s.board a → validDraw (slideBoard s.board (Dir.ofAction a)) d) :
    Consistent n (step s a d).1 := Game2048.step_consistent n s a d ha hc hd

/-- the relation `conservedStep` the driver evaluates on implementation transitions: tile sum `+2`/`+4` across a
legal step (unchanged by the slide, plus the new tile), board untouched by an illegal one (of `Consistent` only the
square board and the fresh mask are used: `Game2048.step_conserved`) -/
theorem game2048_conserved (n : Nat) (s : State) (a : Nat) (d : Draw) (ha : a < 4) (hc : Consistent n s)
    (hd : legal s.board a → validDraw (slideBoard s.board (Dir.ofAction a)) d) :
    conservedStep s.board a (step s a d).1.board = true :=
  Game2048.step_conserved s a d ha (Game2048.consistent_square hc) hc.mask hd

/-- … hence `Consistent` holds along every admissible play (actions 0..3, valid draws) from a consistent state -/
theorem game2048_run_consistent (n : Nat) (s : State) (ads : List (Nat × Draw)) (hc : Consistent n s)
    (hv : ValidPlay s ads) : Consistent n (runState s ads) := Game2048.run_consistent n s ads hc hv

/-- every spawned tile, cell by cell: for a valid draw (the support of `_add_random_cell`) the chosen cell WAS empty
on the board the tile is added to, afterwards it holds the drawn exponent (1 or 2), and no other cell changes -/
theorem game2048_spawn_cellwise (b : Board) (d : Draw) (hs : Square b) (hd : validDraw b d) :
    get b (d.idx / b.length) (d.idx % b.length) = 0 ∧ (d.val = 1 ∨ d.val = 2) ∧
    ∀ i j, get (addRandomCell b d) i j =
      if i = d.idx / b.length ∧ j = d.idx % b.length then d.val else get b i j :=
  ⟨hd.2.1, hd.2.2, Game2048.addRandomCell_get b d hs hd.1⟩

/-- … along play: after a legal move from a consistent state the successor board is the slid board plus exactly the
drawn tile, which lands on a cell that was empty AFTER the move and has exponent 1 or 2 -/
theorem game2048_step_spawn (n : Nat) (s : State) (a : Nat) (d : Draw) (ha : a < 4) (hc : Consistent n s)
    (hl : legal s.board a) (hd : validDraw (slideBoard s.board (Dir.ofAction a)) d) :
    get (slideBoard s.board (Dir.ofAction a)) (d.idx / n) (d.idx % n) = 0 ∧ (d.val = 1 ∨ d.val = 2) ∧
    ∀ i j, get (step s a d).1.board i j =
      if i = d.idx / n ∧ j = d.idx % n then d.val else get (slideBoard s.board (Dir.ofAction a)) i j := by
  have hs := Game2048.consistent_square hc
  have hlen : (slideBoard s.board (Dir.ofAction a)).length = n := by
    rw [Game2048.slideBoard_length]; exact hc.shaped.1
  have h := game2048_spawn_cellwise _ d (Game2048.slideBoard_square _ _) hd
  rw [hlen] at h
  rw [Game2048.step_board s a d ha hs hc.mask, if_pos hl]
  exact h

/-- ALONG WHOLE EPISODES FROM `reset`: for every board size, every valid first tile and every admissible play
(actions 0..3, legal or not, valid draws where a tile is spawned; the play may run on after LAST), EVERY state met is
`Consistent` (square board with at least one tile, cached mask = legality, fresh board = one tile) and the tile sum of its
board is exactly the sum of all tiles spawned so far, the first included (each slide conserves the sum) -/
theorem game2048_consistent_along (n : Nat) (d0 : Draw) (ads : List (Nat × Draw))
    (hd0 : validDraw (tab n (fun _ _ => 0)) d0) (hv : ValidPlay (reset n d0).1 ads) (k : Nat) :
    Consistent n (runState (reset n d0).1 (ads.take k)) ∧
    boardSum (runState (reset n d0).1 (ads.take k)).board = 2 ^ d0.val + spawnSum (reset n d0).1 (ads.take k) :=
  Game2048.consistent_along n d0 ads hd0 hv k

-- the hypotheses are satisfiable: 3×3 reset with a 4-tile in the middle, then Up with a 2 spawned at cell 8
example : validDraw (tab 3 (fun _ _ => 0)) ⟨4, 2⟩ ∧ Consistent 3 (reset 3 ⟨4, 2⟩).1 ∧
    legal (reset 3 ⟨4, 2⟩).1.board 0 ∧
    validDraw (slideBoard (reset 3 ⟨4, 2⟩).1.board (Dir.ofAction 0)) ⟨8, 1⟩ ∧
    (step (reset 3 ⟨4, 2⟩).1 0 ⟨8, 1⟩).1.board = [[0, 2, 0], [0, 0, 0], [0, 0, 1]] := by decide +kernel
end Props.C07

namespace Props.C08
/-- the reward of a step is the sum of the values of the tiles created by its merges, and the score grows by it -/
theorem game2048_step_reward (s : State) (a : Nat) (d : Draw) (ha : a < 4) (hs : Square s.board) :
    (step s a d).2.reward = [(boardReward s.board (Dir.ofAction a) : Rat)] ∧
    (step s a d).1.score = s.score + (boardReward s.board (Dir.ofAction a) : Rat) := by
  have hmv := Game2048.move_eq_spec s.board a ha hs
  constructor
  · show (condLast _ _ _).reward = _
    rw [condLast_reward, hmv]
  · unfold step; simp [hmv]

/-- telescoping at row level: the reward equals the increase of the potential Σ (e-1)·2^e (for whole episodes:
`game2048_episode_return`) -/
theorem game2048_row_potential (r : List Nat) : tilePot (slideSpec r) = tilePot r + rowReward r :=
  Game2048.tilePot_slideSpec r

theorem game2048_fixed_no_reward (r : List Nat) (h : slideSpec r = r) : rowReward r = 0 :=
  Game2048.rowReward_of_fixed r h

/-- BOARD level telescoping: the score potential `Φ = Σ (e−1)·2^e` of a square board grows by exactly the reward
of the slide (all sizes, all four directions) -/
theorem game2048_board_potential (b : Board) (dir : Dir) (hs : Square b) :
    boardPot (slideBoard b dir) = boardPot b + boardReward b dir := by
  rw [boardPot_eq_boardW, boardPot_eq_boardW, boardW_slide pot_law b dir hs, Nat.one_mul]

/-- a valid spawn adds the potential of the new tile: 0 for a 2-tile, 4 for a 4-tile -/
theorem game2048_spawn_potential (b : Board) (d : Draw) (hs : Square b) (hd : validDraw b d) :
    boardPot (addRandomCell b d) = boardPot b + drawPot d := Game2048.boardPot_addRandomCell b d hs hd

/-- whole play, NO hypotheses (any state, any action values, any draws): the score is the running sum of the
step rewards -/
theorem game2048_score_is_return (s : State) (ads : List (Nat × Draw)) :
    (runState s ads).score = s.score + runReturn s ads := Game2048.run_score s ads

/-- whole play from a square board with actions 0..3 (draws arbitrary): the return is the sum, over all merges
of the play, of the value of the tile created -/
theorem game2048_return_is_merged_values (s : State) (ads : List (Nat × Draw)) (hs : Square s.board)
    (ha : ∀ p ∈ ads, p.1 < 4) : runReturn s ads = ((mergedValues s ads : Nat) : Rat) :=
  Game2048.run_return_merged s ads hs ha

/-- whole admissible play from any consistent state: score gain = return = Σ merged values, and the potential
identity Φ(final) − Φ(initial) − Σ Φ(spawned tiles) = return (of `Consistent` only the square board and the fresh mask
are used: `Game2048.run_return`) -/
theorem game2048_play_return (n : Nat) (s : State) (ads : List (Nat × Draw)) (hc : Consistent n s)
    (hv : ValidPlay s ads) :
    (runState s ads).score = s.score + runReturn s ads ∧
    runReturn s ads = ((mergedValues s ads : Nat) : Rat) ∧
    ((boardPot (runState s ads).board : Nat) : Rat) - ((boardPot s.board : Nat) : Rat) -
      ((spawnPot s ads : Nat) : Rat) = runReturn s ads := Game2048.run_return s ads (Game2048.consistent_square hc) hc.mask hv

/-- whole episode from `reset` (any size, any valid first tile, any admissible play — it may also run on after a
LAST step): final score = return = Σ merged values = Φ(final board) − Σ Φ(all spawned tiles, the first included);
and the tile sum of the final board is the sum of all spawned tiles -/
theorem game2048_episode_return (n : Nat) (d0 : Draw) (ads : List (Nat × Draw))
    (hd0 : validDraw (tab n (fun _ _ => 0)) d0) (hv : ValidPlay (reset n d0).1 ads) :
    (runState (reset n d0).1 ads).score = runReturn (reset n d0).1 ads ∧
    runReturn (reset n d0).1 ads = ((mergedValues (reset n d0).1 ads : Nat) : Rat) ∧
    runReturn (reset n d0).1 ads = ((boardPot (runState (reset n d0).1 ads).board : Nat) : Rat) -
      ((drawPot d0 + spawnPot (reset n d0).1 ads : Nat) : Rat) ∧
    boardSum (runState (reset n d0).1 ads).board = 2 ^ d0.val + spawnSum (reset n d0).1 ads :=
  Game2048.episode_return n d0 ads hd0 hv

-- a concrete admissible play on the 2×2 board: Right, Left (merge 2+2), Up, Left (merge 4+4): return 12,
-- Φ(final) = 16, potentials of the spawned tiles 4 (one 4-tile)
example :
    let ads : List (Nat × Draw) := [(1, ⟨0, 1⟩), (3, ⟨3, 2⟩), (0, ⟨2, 1⟩), (3, ⟨1, 1⟩)]
    validDraw (tab 2 (fun _ _ => 0)) ⟨0, 1⟩ ∧ ValidPlay (reset 2 ⟨0, 1⟩).1 ads ∧
    (runState (reset 2 ⟨0, 1⟩).1 ads).board = [[3, 1], [1, 0]] ∧
    runReturn (reset 2 ⟨0, 1⟩).1 ads = 12 ∧ mergedValues (reset 2 ⟨0, 1⟩).1 ads = 12 ∧
    boardPot (runState (reset 2 ⟨0, 1⟩).1 ads).board = 16 ∧ spawnPot (reset 2 ⟨0, 1⟩).1 ads = 4 := by
  decide +kernel
end Props.C08

namespace Props.C10
/-- the TRANSLITERATED reset (`_generate_board`: zeros, then `_add_random_cell`; the draw is the pair (flat cell index,
exponent)): for EVERY board size and EVERY valid draw (a cell of the board, exponent 1 or 2) the initial board is
`board_size × board_size`, holds exactly one non-empty cell — the drawn one, with the drawn exponent 1 or 2 —, score
and step count are 0, and the action mask stored in the reset state (and shown in the reset observation) equals the L2
legality of the four moves.  `game2048.instance` replays `reset` on the draw read off every real reset state. -/
theorem game2048_reset_cert (n : Nat) (d : Draw) (hd : validDraw (tab n (fun _ _ => 0)) d) :
    Shaped (reset n d).1.board n ∧ tileCount (reset n d).1.board = 1 ∧
    (∀ i j, i < n → j < n →
      get (reset n d).1.board i j = if i = d.idx / n ∧ j = d.idx % n then d.val else 0) ∧
    (d.val = 1 ∨ d.val = 2) ∧ (reset n d).1.score = 0 ∧ (reset n d).1.stepCount = 0 ∧
    (reset n d).1.actionMask = legalMask (reset n d).1.board ∧
    (reset n d).2.obs.actionMask = legalMask (reset n d).1.board ∧
    (reset n d).2.stepType = .first ∧ InstanceOK n (reset n d).1 := by
  have h := Game2048.reset_instanceOK n d hd
  exact ⟨h.1, h.2.1, fun i j hi hj => Game2048.reset_cells n d hd i j hi hj, hd.2.2, rfl, rfl, h.2.2.2.2.2,
    h.2.2.2.2.2, rfl, h⟩

/-- the certificate the driver evaluates on every real reset state gives what is advertised and makes the state a
consistent start state for C07 -/
theorem game2048_instance_cert (n : Nat) (s : State) (h : InstanceOK n s) :
    Shaped s.board n ∧ tileCount s.board = 1 ∧ (boardSum s.board = 2 ∨ boardSum s.board = 4) ∧ s.score = 0 ∧
    s.actionMask = legalMask s.board ∧ Consistent n s := by
  obtain ⟨h1, h2, h3, h4, h5, h6⟩ := h
  refine ⟨h1, h2, h3, h4, h6, h1, ?_, h6, ?_, fun _ => ⟨h3, h4⟩⟩
  · rcases h3 with e | e <;> rw [e] <;> omega
  · rw [h4]; exact Rat.le_refl

/-- conversely the certificate is exactly the range of the transliterated `reset`: a state passes it iff it is
`reset n d` for a valid draw `d` (the one read off its board: position and exponent of its one tile) -/
theorem game2048_instance_iff_reset (n : Nat) (s : State) :
    InstanceOK n s ↔ ∃ d, validDraw (tab n (fun _ _ => 0)) d ∧ (reset n d).1 = s :=
  ⟨fun h => ⟨drawOf s.board, Game2048.instance_is_reset n s h⟩,
   fun ⟨d, hd, e⟩ => e ▸ Game2048.reset_instanceOK n d hd⟩

example : validDraw (tab 3 (fun _ _ => 0)) ⟨5, 2⟩ ∧ (reset 3 ⟨5, 2⟩).1.board = [[0, 0, 0], [0, 0, 2], [0, 0, 0]] ∧
    drawOf (reset 3 ⟨5, 2⟩).1.board = ⟨5, 2⟩ ∧ InstanceOK 3 (reset 3 ⟨5, 2⟩).1 ∧
    ¬ validDraw (tab 3 (fun _ _ => 0)) ⟨9, 1⟩ ∧ ¬ validDraw (tab 3 (fun _ _ => 0)) ⟨0, 3⟩ := by decide +kernel
end Props.C10

namespace Props.C12
/-- the observation of a step is the documented view (board, legality of the four moves) of the successor -/
theorem game2048_obs_faithful (s : State) (a : Int) (d : Draw) (hs : Square (step s a d).1.board) :
    (step s a d).2.obs = observe (step s a d).1 := Game2048.obs_faithful s a d hs

/-- the same WITHOUT a hypothesis on the successor: squareness is preserved by `step` (every action value, every
draw), so from a square board the observation is always the documented view of the successor -/
theorem game2048_obs_faithful_step (s : State) (a : Int) (d : Draw) (hs : Square s.board) :
    (step s a d).2.obs = observe (step s a d).1 :=
  Game2048.obs_faithful s a d (Game2048.step_square s a d hs)

/-- the reset observation (any size, any draw), no hypothesis -/
theorem game2048_reset_obs_faithful (n : Nat) (d : Draw) : (reset n d).2.obs = observe (reset n d).1 :=
  Game2048.reset_obs_faithful n d
end Props.C12

namespace Props.C01
open PzB
/-- the observation returned by `reset` (any size, any first tile): every leaf listed in `obsBounds` is present and
all its values lie in the listed interval — `board ≥ 0` (the real spec is an unbounded `Array`), `action_mask ∈ [0,1]`.
No hypothesis is needed. -/
theorem game2048_reset_obs_in_bounds (n : Nat) (d : Draw) :
    ObsInBounds (obsBounds n) (obsLeaves (reset n d).2.obs) := Game2048.obs_in_bounds n _

/-- the same for the observation returned by `step`, for every state, action and draw, terminal step included -/
theorem game2048_step_obs_in_bounds (n : Nat) (s : State) (a : Int) (d : Draw) :
    ObsInBounds (obsBounds n) (obsLeaves (step s a d).2.obs) := Game2048.obs_in_bounds n _

/-! NOTE on what the membership theorems of this section do and do not cover: the dtype tag of every leaf
is written by `toNValue` (by construction) — a wrong dtype in the real code cannot falsify `….valid (toNValue …) = true`; dtypes and
field order of the real observations are compared by the `game2048.spec` / `game2048.state` ops (`nvalue`: field order, shape, dtype, data) and
`jax.eval_shape` in the sweeps.  Shapes are READ OFF the value by `toNValue` (widths off the first row): see `…_obs_valid_only`. -/

open Sp PzS PzS3

/-- the `reset` observation — EVERY board size, EVERY first-tile draw (in the support or not) — is accepted by
`observation_spec.validate`: fields `board`, `action_mask`; shapes `(n, n)`, `(4,)`; dtypes int32, bool; mask in [0, 1] -/
theorem game2048_reset_obs_valid (n : Nat) (d : Draw) : (obsSpec n).valid (toNValue (reset n d).2.obs) = true :=
  Game2048.obs_valid n _ (Game2048.reset_shaped n d) (Game2048.actionMask_length _)

/-- the same for every `step` observation from an `n × n` board (an invariant of `step`: `game2048_step_shaped`), for EVERY
action value, EVERY draw, the terminal step included -/
theorem game2048_step_obs_valid (n : Nat) (s : State) (a : Int) (d : Draw) (hs : Shaped s.board n) :
    (obsSpec n).valid (toNValue (step s a d).2.obs) = true := Game2048.step_obs_valid n s a d hs

/-- … hence for EVERY observation of EVERY play from `reset` (any actions, any draws) -/
theorem game2048_run_obs_valid (n : Nat) (d0 : Draw) (ads : List (Nat × Draw)) (a : Int) (d : Draw) :
    (obsSpec n).valid (toNValue (step (runState (reset n d0).1 ads) a d).2.obs) = true :=
  Game2048.step_obs_valid n _ a d (Game2048.run_shaped n _ ads (Game2048.reset_shaped n d0))

/-- what membership means (so the theorems above are not hollow): `validate` accepts ONLY observations whose board has shape
`(n, n)` with `n·n` entries and whose mask has 4 entries.  CAVEAT: `toNValue` reads the width of the board off its FIRST row,
so the shape conjuncts here mean "row count, length of the first row, total number of cells" — a ragged value with the right total can be a
member, and nothing is concluded about the later rows.  Rectangularity is the invariant `Shaped` under which the forward theorems
(`game2048_reset_obs_valid`, `game2048_step_obs_valid`, `game2048_run_obs_valid`) are proved, i.e. it holds of every EMITTED observation. -/
theorem game2048_obs_valid_only (n : Nat) (o : Obs) (h : (obsSpec n).valid (toNValue o) = true) :
    gridShape o.board = [n, n] ∧ o.board.flatten.length = n * n ∧ o.actionMask.length = 4 :=
  Game2048.obs_valid_only n o h

example : (obsSpec 2).valid (toNValue ⟨[[0, 1], [2, 0]], [true, false, true, true]⟩) = true ∧
    (obsSpec 2).valid (toNValue ⟨[[0, 1, 0], [2, 0, 0]], [true, false, true, true]⟩) = false ∧
    (obsSpec 2).valid (toNValue ⟨[[0, 1], [2, 0]], [true, false, true]⟩) = false := by decide

/-- reward and discount of every `step` (ALL states, ALL action values, ALL draws) and of `reset` are accepted by
`reward_spec` (Array((), float)) and `discount_spec` (BoundedArray((), float, 0, 1)) -/
theorem game2048_reward_discount_valid (n : Nat) (s : State) (a : Int) (d d0 : Draw) :
    rewardSpec.valid (scalarArr (step s a d).2.reward) = true ∧
    discountSpec.valid (scalarArr (step s a d).2.discount) = true ∧
    rewardSpec.valid (scalarArr (reset n d0).2.reward) = true ∧
    discountSpec.valid (scalarArr (reset n d0).2.discount) = true :=
  ⟨(condLast_reward_discount_valid _ _ _).1, (condLast_reward_discount_valid _ _ _).2,
   (restart_reward_discount_valid _).1, (restart_reward_discount_valid _).2⟩

/-- `action_spec.generate_value()` = 0 (Up): the action spec is well-formed, the generated value is a member of it, and
`step` answers it in every `n × n` state (whatever the draw) with a protocol-conform timestep whose observation is a member
of `observation_spec` -/
theorem game2048_accepts_generate_value (n : Nat) (s : State) (d : Draw) (hs : Shaped s.board n) :
    actionSpec.WF = true ∧ actionSpec.valid actionSpec.generate = true ∧ actionSpec.generate = actionArr 0 ∧
    StepOK none false (step s 0 d).2 = true ∧ (obsSpec n).valid (toNValue (step s 0 d).2.obs) = true :=
  Game2048.accepts_generate_value n s d hs

/-- membership in `action_spec` is exactly "one of the four moves" -/
theorem game2048_action_spec_iff (a : Int) : actionSpec.valid (actionArr a) = true ↔ 0 ≤ a ∧ a < 4 :=
  (valid_discrete_int_iff 4 .int32 "action" [] .int32 a).trans ⟨fun h => h.2.2, fun h => ⟨rfl, rfl, h⟩⟩
end Props.C01
