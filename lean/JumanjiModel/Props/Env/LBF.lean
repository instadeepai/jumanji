/-
Property theorems for LevelBasedForaging (all grid sizes, agent / food counts, fov, time limits).  The lemmas they
rest on are in Env/LBF/*.lean.  `Consistent g s` = agents inside the `g × g` grid on pairwise distinct cells, none on
an uneaten food, foods inside the grid; `WF s` = agent `i` carries id `i`, all levels are ≥ 1.  Joint actions
are lists of per-agent actions `< 6` (the action spec), one per agent.  The theorems about consistency, bounds and
spec membership carry that range (`∀ x ∈ a, x < 6`) without using it: the lemmas they apply hold for any integers
(`LBF.step_consistent_any`, `step_binv_any`, `step_specInv`).
-/
import JumanjiModel.Env.LBF.Lemmas
import JumanjiModel.Env.LBF.Bounds
import JumanjiModel.Env.LBF.Gen
import JumanjiModel.Env.LBF.Episode
import JumanjiModel.Env.LBF.Reward
import JumanjiModel.Env.LBF.SpecValid
open Jm Jx LBF

namespace Props.C04
/-- per agent: bit `a` of the mask row computed by `compute_action_mask` is set exactly when the rules allow
action `a` to agent `i` (no-op always; a move iff the neighbouring cell is inside the grid and holds no other
agent and no uneaten food; load iff an uneaten food is next to the agent) -/
theorem lbf_mask_iff_legal (g : Nat) (s : State) (hc : Consistent g s) (hw : WF s) (i : Nat)
    (hi : i < s.agents.length) (a : Nat) :
    (maskOf g s (s.agents[i])).getD a false = true ↔ legal g s i a := mask_iff_legal g s hc hw i hi a

/-- the environment's own reaction (`simulate_agent_movement`): the cell it lets the agent aim at is the
neighbouring cell exactly when the move is legal by the rules, otherwise the agent's own cell -/
theorem lbf_step_agrees (g : Nat) (s : State) (hw : WF s) (i : Nat) (hi : i < s.agents.length) (a : Nat)
    (ha : a < 6) : simulateMove g s.agents s.foods s.agents[i] (a : Int) = target g s i s.agents[i] a :=
  simulateMove_eq_target g s hw i hi a ha

example : Consistent 5 ⟨[⟨0, (1, 1), 1, false⟩, ⟨1, (1, 2), 2, false⟩], [⟨0, (2, 2), 3, false⟩], 0⟩ ∧
    WF ⟨[⟨0, (1, 1), 1, false⟩, ⟨1, (1, 2), 2, false⟩], [⟨0, (2, 2), 3, false⟩], 0⟩ ∧
    legal 5 ⟨[⟨0, (1, 1), 1, false⟩, ⟨1, (1, 2), 2, false⟩], [⟨0, (2, 2), 3, false⟩], 0⟩ 1 5 ∧
    ¬ legal 5 ⟨[⟨0, (1, 1), 1, false⟩, ⟨1, (1, 2), 2, false⟩], [⟨0, (2, 2), 3, false⟩], 0⟩ 0 4 := by decide

/-- the reaction of `step` ITSELF to a move action (`lbf_step_agrees` is about `simulate_agent_movement` BEFORE
`fix_collisions`, which reverts a legal move when two agents want the same cell): for every well-formed state, every in-spec joint
action and every agent `i` submitting a move (1..4), after the step the agent stands on the cell it asked for IF AND ONLY IF the
move is legal by the rules AND no other agent's target (`targets`: the cell each agent wants to enter, its own cell when it
stays or its move is illegal) is that cell -/
theorem lbf_step_moves_iff_legal (cfg : Cfg) (s : State) (hw : WF s) (as : List Nat)
    (hlen : as.length = s.agents.length) (has : ∀ a ∈ as, a < 6) (i : Nat) (hi : i < s.agents.length)
    (hm : 1 ≤ as[i]'(by omega) ∧ as[i]'(by omega) ≤ 4) :
    ∃ h : i < (step cfg s (as.map Int.ofNat)).1.agents.length,
      (((step cfg s (as.map Int.ofNat)).1.agents[i]).pos = addP s.agents[i].pos (dir (as[i]'(by omega))) ↔
        (legal cfg.gridSize s i (as[i]'(by omega)) ∧
         ¬ ∃ u ∈ (targets cfg.gridSize s as).eraseIdx i, u = addP s.agents[i].pos (dir (as[i]'(by omega))))) :=
  LBF.step_moves_iff_legal cfg s hw as hlen has i hi hm

/-- both outcomes occur for LEGAL moves: three agents on a 5 × 5 grid; agents 0 (right) and 1 (left) both want cell (1, 2) — both
moves are legal, neither happens; agent 2 (down, onto a free cell nobody else wants) moves -/
example :
    let s : State := ⟨[⟨0, (1, 1), 1, false⟩, ⟨1, (1, 3), 2, false⟩, ⟨2, (0, 2), 1, false⟩], [⟨0, (3, 3), 3, false⟩], 0⟩
    let cfg : Cfg := ⟨5, 1, 7, false, true, 0⟩
    WF s ∧ legal 5 s 0 4 ∧ legal 5 s 1 3 ∧
    ((step cfg s [4, 3, 0]).1.agents.map (·.pos)) = [(1, 1), (1, 3), (0, 2)] ∧
    ((step cfg s [4, 0, 0]).1.agents.map (·.pos)) = [(1, 2), (1, 3), (0, 2)] := by decide
end Props.C04

namespace Props.C05
/-- an agent whose action is illegal (move into a wall / agent / food, load with nothing to load) keeps its
cell, id and level, whatever the other agents do in the same step -/
theorem lbf_illegal_ignored (cfg : Cfg) (s : State) (hw : WF s) (as : List Nat)
    (hlen : as.length = s.agents.length) (has : ∀ a ∈ as, a < 6) (i : Nat) (hi : i < s.agents.length)
    (hl : ¬ legal cfg.gridSize s i (as[i]'(by omega))) :
    ∃ h : i < (step cfg s (as.map Int.ofNat)).1.agents.length,
      ((step cfg s (as.map Int.ofNat)).1.agents[i]).pos = s.agents[i].pos ∧
      ((step cfg s (as.map Int.ofNat)).1.agents[i]).id = s.agents[i].id ∧
      ((step cfg s (as.map Int.ofNat)).1.agents[i]).level = s.agents[i].level := by
  obtain ⟨h, e⟩ := step_agent cfg s hw as hlen has i hi
  refine ⟨h, ?_⟩
  rw [e, target_of_illegal _ s i hi _ hl, ite_self]
  exact ⟨rfl, rfl, rfl⟩

/-- … it takes part in collecting no food: its entry in the adjacent-loading levels of every food is 0, so
nothing is eaten on its behalf and it earns no share -/
theorem lbf_illegal_no_share (cfg : Cfg) (s : State) (hw : WF s) (as : List Nat)
    (hlen : as.length = s.agents.length) (has : ∀ a ∈ as, a < 6) (i : Nat) (hi : i < s.agents.length)
    (hl : ¬ legal cfg.gridSize s i (as[i]'(by omega))) (f : Food) (hf : f ∈ s.foods) :
    (adjLevels (updateAgents cfg.gridSize s.agents s.foods (as.map Int.ofNat)) f).getD i 0 = 0 := by
  obtain ⟨h, _⟩ := step_agent cfg s hw as hlen has i hi
  show (adjLevels (step cfg s (as.map Int.ofNat)).1.agents f).getD i 0 = 0
  rw [adjLevels_eq, Jx.getD_map_getElem _ _ h]
  cases he : f.eaten
  · rw [illegal_takes_no_part cfg s hw as hlen has i hi hl f hf he h]
    rfl
  · rw [Bool.not_true, Bool.and_false]
    rfl

/-- HEADLINE (no penalty): the reward of an agent whose action is illegal is exactly 0, whatever the other agents
do in the same step -/
theorem lbf_illegal_no_reward (cfg : Cfg) (hp : cfg.penalty = 0) (s : State) (hw : WF s) (as : List Nat)
    (hlen : as.length = s.agents.length) (has : ∀ a ∈ as, a < 6) (i : Nat) (hi : i < s.agents.length)
    (hl : ¬ legal cfg.gridSize s i (as[i]'(by omega))) :
    ((step cfg s (as.map Int.ofNat)).2.reward).getD i 0 = 0 := by
  rw [illegal_reward_eq cfg s hw as hlen has i hi hl]
  have : ∀ f ∈ s.foods, charge cfg (step cfg s (as.map Int.ofNat)).1.agents (totalLevel s.foods) f = 0 := by
    intro f _
    unfold charge
    rw [hp]
    split
    · split <;> simp [Rat.div_def]
    · rfl
  rw [List.map_congr_left this, sum_map_zero]
  rfl

/-- any penalty: the reward of an illegally acting agent is exactly minus the charges of this step — `charge` =
`penalty` for every food somebody tried to load without sufficient levels (a failed attempt by the rules, `failedAttempt`
on the agents after the move), divided by that food's normaliser `Σ loaders' levels · Σ food levels` when rewards are
normalised, and 0 for every other food.  It never contains a gain.  (The penalty is charged to EVERY agent, also
to one that did not load: see the witness below.) -/
theorem lbf_illegal_reward_eq (cfg : Cfg) (s : State) (hw : WF s) (as : List Nat)
    (hlen : as.length = s.agents.length) (has : ∀ a ∈ as, a < 6) (i : Nat) (hi : i < s.agents.length)
    (hl : ¬ legal cfg.gridSize s i (as[i]'(by omega))) :
    ((step cfg s (as.map Int.ofNat)).2.reward).getD i 0 =
      - ((s.foods.map (charge cfg (step cfg s (as.map Int.ofNat)).1.agents (totalLevel s.foods))).sum) :=
  illegal_reward_eq cfg s hw as hlen has i hi hl

/-- … hence with a non-negative penalty it is never positive -/
theorem lbf_illegal_reward_nonpos (cfg : Cfg) (hp : 0 ≤ cfg.penalty) (s : State) (hw : WF s) (as : List Nat)
    (hlen : as.length = s.agents.length) (has : ∀ a ∈ as, a < 6) (i : Nat) (hi : i < s.agents.length)
    (hl : ¬ legal cfg.gridSize s i (as[i]'(by omega))) :
    ((step cfg s (as.map Int.ofNat)).2.reward).getD i 0 ≤ 0 := by
  rw [illegal_reward_eq cfg s hw as hlen has i hi hl]
  have hT : 0 ≤ totalLevel s.foods :=
    Jx.sum_nonneg (fun x hx => by
      obtain ⟨f, hf, rfl⟩ := List.mem_map.1 hx
      exact Int.le_trans (by decide) (hw.foodLv f hf))
  have := sum_nonneg_rat (s.foods.map (charge cfg (step cfg s (as.map Int.ofNat)).1.agents (totalLevel s.foods)))
    (fun x hx => by
      obtain ⟨f, _, rfl⟩ := List.mem_map.1 hx
      exact charge_nonneg cfg hp _ (updateAgents_levels _ _ _ _ (1 ≤ ·) hw.agLv) _ hT f)
  simpa using Rat.neg_le_neg this

/-- the hypotheses are satisfiable; and with penalty ≠ 0 "no reward" is FALSE: agent 0 walks into the wall (illegal),
agent 1 (level 1) tries to load the level-3 food alone — BOTH are charged the penalty: reward −1 raw, −1/3 normalised
(the implementation gives `[-1, -1]` resp. `[-0.33333334, -0.33333334]` on this state) -/
theorem lbf_illegal_penalty_witness :
    WF ⟨[⟨0, (0, 0), 1, false⟩, ⟨1, (2, 1), 1, false⟩], [⟨0, (2, 2), 3, false⟩], 0⟩ ∧
    ¬ legal 5 ⟨[⟨0, (0, 0), 1, false⟩, ⟨1, (2, 1), 1, false⟩], [⟨0, (2, 2), 3, false⟩], 0⟩ 0 1 ∧
    ((step ⟨5, 5, 10, false, false, 1⟩ ⟨[⟨0, (0, 0), 1, false⟩, ⟨1, (2, 1), 1, false⟩], [⟨0, (2, 2), 3, false⟩], 0⟩
        [1, 5]).2.reward).getD 0 0 = -1 ∧
    ((step ⟨5, 5, 10, false, true, 1⟩ ⟨[⟨0, (0, 0), 1, false⟩, ⟨1, (2, 1), 1, false⟩], [⟨0, (2, 2), 3, false⟩], 0⟩
        [1, 5]).2.reward).getD 0 0 = -1 / 3 := by decide +kernel

/-- … and the episode goes on unless there is another cause: a step is LAST only when all food is collected
or the time limit is reached (for any joint action, legal or not) -/
theorem lbf_last_only_other_cause (cfg : Cfg) (s : State) (a : List Int)
    (h : (step cfg s a).2.stepType = .last) :
    (step cfg s a).1.foods.all (fun f => f.eaten) = true ∨ cfg.timeLimit ≤ (step cfg s a).1.stepCount :=
  (last_iff cfg s a).1 h
end Props.C05

namespace Props.C07
/-- ANY in-spec joint action keeps the state physically consistent (inside the grid, no two agents on one
cell — collision fixing cannot create overlaps —, no agent on uneaten food) and well-formed -/
theorem lbf_step_consistent (cfg : Cfg) (s : State) (hc : Consistent cfg.gridSize s) (hw : WF s) (as : List Nat)
    (hlen : as.length = s.agents.length) (has : ∀ a ∈ as, a < 6) :
    Consistent cfg.gridSize (step cfg s (as.map Int.ofNat)).1 ∧ WF (step cfg s (as.map Int.ofNat)).1 :=
  step_consistent cfg s hc hw as hlen has

/-- … hence along whole episodes: every state reached from a consistent well-formed state by in-spec joint
actions (legal or not) is consistent -/
theorem lbf_consistent_along (cfg : Cfg) (as : List (List Nat)) (s : State) (hc : Consistent cfg.gridSize s) (hw : WF s)
    (h : ∀ a ∈ as, a.length = s.agents.length ∧ ∀ x ∈ a, x < 6) :
    Consistent cfg.gridSize (finalState cfg s (as.map (fun a => a.map Int.ofNat))) ∧
      WF (finalState cfg s (as.map (fun a => a.map Int.ofNat))) := consistent_along cfg as s hc hw h

example : Consistent 5 ⟨[⟨0, (1, 1), 1, false⟩, ⟨1, (1, 2), 2, false⟩, ⟨2, (0, 4), 1, true⟩], [⟨0, (2, 2), 3, false⟩], 0⟩ ∧
    WF ⟨[⟨0, (1, 1), 1, false⟩, ⟨1, (1, 2), 2, false⟩, ⟨2, (0, 4), 1, true⟩], [⟨0, (2, 2), 3, false⟩], 0⟩ := by decide

/-- … and every state of the trace `run` (not only the final one) -/
theorem lbf_run_consistent (cfg : Cfg) (as : List (List Nat)) (s : State) (hc : Consistent cfg.gridSize s) (hw : WF s)
    (h : ∀ a ∈ as, a.length = s.agents.length ∧ ∀ x ∈ a, x < 6) :
    ∀ r ∈ run cfg s (as.map (fun a => a.map Int.ofNat)), Consistent cfg.gridSize r.1 ∧ WF r.1 :=
  run_invariant cfg as s hc hw fun a ha => (h a ha).1

/-- base case for generated instances: every state of every in-spec play from `generate gc d` (any configuration,
any draw in the samplers' support) is consistent and well-formed -/
theorem lbf_generated_play_consistent (cfg : Cfg) (gc : GenCfg) (hg : cfg.gridSize = gc.gridSize) (d : GenDraw)
    (hd : validDraw gc d = true) (as : List (List Nat))
    (h : ∀ a ∈ as, a.length = gc.numAgents ∧ ∀ x ∈ a, x < 6) :
    ∀ r ∈ run cfg (generate gc d) (as.map (fun a => a.map Int.ofNat)), Consistent cfg.gridSize r.1 ∧ WF r.1 :=
  run_invariant cfg as _ (hg ▸ gen_consistent gc d hd) (gen_wf gc d hd) fun a ha => by
    rw [gen_agents_length]; exact (h a ha).1

/-- the abstract core: reverting every agent whose moved cell is shared to its old cell yields pairwise
distinct cells, provided nobody's moved cell is another agent's old cell -/
theorem lbf_fix_collisions_distinct (p m : List Pos) (hl : m.length = p.length)
    (hp : ∀ i j (hi : i < p.length) (hj : j < p.length), i ≠ j → p[i] ≠ p[j])
    (hm : ∀ i j (hi : i < p.length) (hj : j < p.length), i ≠ j → p[j] ≠ m[i])
    (i j : Nat) (hi : i < p.length) (hj : j < p.length) (hij : i < j) :
    (if m.count (m[i]) != 1 then p[i] else m[i]) ≠ (if m.count (m[j]) != 1 then p[j] else m[j]) := by
  simp only [count_ne_one_iff m i (hl ▸ hi), count_ne_one_iff m j (hl ▸ hj)]
  exact fix_distinct id p m hl hp hm i j hi hj (by omega)
end Props.C07

namespace Props.C08
/-- one step (normalised, no penalty): the rewards of all agents add up to the food level collected in this
step divided by the total food level — for ANY joint action -/
theorem lbf_step_team_reward (cfg : Cfg) (hn : cfg.normalize = true) (hp : cfg.penalty = 0) (s : State)
    (hlv : ∀ f ∈ s.foods, 1 ≤ f.level) (hT : totalLevel s.foods ≠ 0) (a : List Int)
    (hlen : a.length = s.agents.length) :
    ((step cfg s a).2.reward).sum =
      ((eatenLevel (step cfg s a).1.foods - eatenLevel s.foods : Int) : Rat) / ((totalLevel s.foods : Int) : Rat) :=
  step_team_reward cfg hn hp s hlv hT a hlen

/-- telescoping over a whole action sequence: team return = (collected level at the end − at the start) / total -/
theorem lbf_team_return (cfg : Cfg) (hn : cfg.normalize = true) (hp : cfg.penalty = 0)
    (as : List (List Int)) (s : State) (hlv : ∀ f ∈ s.foods, 1 ≤ f.level) (hT : totalLevel s.foods ≠ 0)
    (hlen : ∀ a ∈ as, a.length = s.agents.length) :
    teamReturn cfg s as =
      ((eatenLevel (finalState cfg s as).foods - eatenLevel s.foods : Int) : Rat) / ((totalLevel s.foods : Int) : Rat) :=
  team_return cfg hn hp as s hlv hT hlen

/-- the documented objective: starting with no food collected, when all food has been collected the rewards
handed out (all agents, all steps) add up to exactly one -/
theorem lbf_return_is_one (cfg : Cfg) (hn : cfg.normalize = true) (hp : cfg.penalty = 0) (s : State) (as : List (List Int))
    (hlv : ∀ f ∈ s.foods, 1 ≤ f.level) (hne : s.foods ≠ [])
    (hlen : ∀ a ∈ as, a.length = s.agents.length) (h0 : ∀ f ∈ s.foods, f.eaten = false)
    (hend : (finalState cfg s as).foods.all (fun f => f.eaten) = true) :
    teamReturn cfg s as = 1 := by
  have hT : totalLevel s.foods ≠ 0 := by
    have := length_le_sum (s.foods.map (·.level)) (fun x hx => by
      obtain ⟨f, hf, rfl⟩ := List.mem_map.1 hx
      exact hlv f hf)
    have := List.length_pos_iff.2 hne
    rw [List.length_map] at *
    unfold totalLevel
    omega
  rw [team_return cfg hn hp as s hlv hT hlen, eatenLevel_all _ hend, eatenLevel_none _ h0, finalState_totalLevel]
  have : ((totalLevel s.foods : Int) : Rat) ≠ 0 := by exact_mod_cast hT
  simp
  grind

/-- `get_reward_per_food` against the rules, for EVERY normalisation / penalty setting: agent `i`'s entry for food `f`
is its `share` by the rules (L2: `loaders` = loading agents at distance 1, `collected` = uneaten and the loaders'
levels reach the food level, `failedAttempt` charged to everybody) -/
theorem lbf_food_share (cfg : Cfg) (T : Int) (A : List Agent) (hA : ∀ a ∈ A, 1 ≤ a.level) (f : Food)
    (hf : 1 ≤ f.level) (i : Nat) (hi : i < A.length) :
    (rewardPerFood cfg T (eatFood A f)).getD i 0 = share cfg A T f A[i] := reward_entry_eq cfg T A hA f i hi

/-- explicitly (normalised, no penalty): shares are proportional to the agents' levels — a loading neighbour of a
food collected in this step gets `level_i · level_f / (Σ loaders' levels · T)`, everybody else 0 -/
theorem lbf_food_share_formula (cfg : Cfg) (hn : cfg.normalize = true) (hp : cfg.penalty = 0) (T : Int)
    (A : List Agent) (hA : ∀ a ∈ A, 1 ≤ a.level) (f : Food) (hf : 1 ≤ f.level) (i : Nat) (hi : i < A.length) :
    (rewardPerFood cfg T (eatFood A f)).getD i 0 =
      if collected A f ∧ A[i].loading = true ∧ dist A[i].pos f.pos = 1 then
        ((A[i].level * f.level : Int) : Rat) / (((((loaders A f).map (·.level)).sum * T : Int)) : Rat)
      else 0 := by
  rw [reward_entry_eq cfg T A hA f i hi, share_formula cfg hn hp]

/-- the same at L1 (in terms of `adjacent` / `adjLevels` of the transliteration) -/
theorem lbf_food_share_l1 (cfg : Cfg) (hn : cfg.normalize = true) (hp : cfg.penalty = 0) (T : Int)
    (agents : List Agent) (f : Food) (i : Nat) (hi : i < agents.length) :
    (rewardPerFood cfg T (eatFood agents f)).getD i 0 =
      (((if adjacent agents[i].pos f.pos && agents[i].loading && !f.eaten then agents[i].level else 0) *
          (if (eatFood agents f).2.1 then 1 else 0) * f.level : Int) : Rat) /
        (((adjLevels agents f).sum * T : Int) : Rat) := by
  simp only [rewardPerFood, eatFood, hn, hp, if_true, ite_self]
  rw [List.getD_eq_getElem?_getD, List.getElem?_map]
  simp [adjLevels, hi]
  grind

/-- agents of level 1 and 2 load a level-3 food (total food level 4): shares 1·3/(3·4) and 2·3/(3·4) -/
example : (∀ a ∈ [(⟨0, (1, 2), 1, true⟩ : Agent), ⟨1, (2, 1), 2, true⟩], 1 ≤ a.level) ∧
    collected [⟨0, (1, 2), 1, true⟩, ⟨1, (2, 1), 2, true⟩] ⟨0, (2, 2), 3, false⟩ ∧
    rewardPerFood ⟨5, 5, 10, false, true, 0⟩ 4 (eatFood [⟨0, (1, 2), 1, true⟩, ⟨1, (2, 1), 2, true⟩] ⟨0, (2, 2), 3, false⟩)
      = [1 / 4, 1 / 2] := by decide +kernel

example : teamReturn ⟨5, 5, 10, false, true, 0⟩
    ⟨[⟨0, (1, 2), 1, false⟩, ⟨1, (2, 1), 2, false⟩], [⟨0, (2, 2), 3, false⟩], 0⟩ [[5, 5]] = 1 := by decide +kernel

/-- C08 FROM THE GENERATOR: `lbf_return_is_one` with its hypotheses on the start state (food levels ≥ 1, some food,
nothing eaten yet) discharged by `RandomGenerator` — for every generator configuration with at least one food item, EVERY valid
draw, and every play of joint actions of the right length that ends with all food collected, the rewards handed out (all agents,
all steps; normalised, no penalty) add up to exactly one -/
theorem lbf_generated_return_is_one (cfg : Cfg) (hn : cfg.normalize = true) (hp : cfg.penalty = 0) (gc : GenCfg)
    (hF : 0 < gc.numFood) (d : GenDraw) (hd : validDraw gc d = true) (as : List (List Int))
    (hlen : ∀ a ∈ as, a.length = gc.numAgents)
    (hend : (finalState cfg (generate gc d) as).foods.all (fun f => f.eaten) = true) :
    teamReturn cfg (generate gc d) as = 1 := by
  refine Props.C08.lbf_return_is_one cfg hn hp _ as (gen_wf gc d hd).2.2 ?_ ?_ (gen_fresh_start gc d).2.2 hend
  · intro h
    have := gen_foods_length gc d
    rw [h] at this; simp at this; omega
  · intro a ha; rw [gen_agents_length]; exact hlen a ha
end Props.C08

namespace Props.C09
/-- refinement L1 = L2 for the whole step: on every well-formed state and for every in-spec joint action the
transliterated `step` (vmapped movement test, `flag_duplicates` / `fix_collisions`, `eat_food`, `get_reward`,
three-way switch) yields exactly the successor state, step type, per-agent reward and discount that the rules
(`stepL2`: enter a free neighbouring cell unless somebody else aims at it; a food is collected when the loading
neighbours' levels reach its level; they share it in proportion to their levels) prescribe -/
theorem lbf_step_eq_rules (cfg : Cfg) (s : State) (hw : WF s) (as : List Nat)
    (hlen : as.length = s.agents.length) (has : ∀ a ∈ as, a < 6) :
    (step cfg s (as.map Int.ofNat)).1 = (stepL2 cfg s as).1 ∧
    (step cfg s (as.map Int.ofNat)).2.stepType = (stepL2 cfg s as).2.1 ∧
    (step cfg s (as.map Int.ofNat)).2.reward = (stepL2 cfg s as).2.2.1 ∧
    (step cfg s (as.map Int.ofNat)).2.discount = (stepL2 cfg s as).2.2.2 := by
  have hA := updateAgents_eq_movedL2 cfg.gridSize s hw as hlen has
  have hfoods : s.foods.map (fun f => (eatFood (movedL2 cfg.gridSize s as) f).1) =
      s.foods.map (fun f => { f with eaten := f.eaten || decide (collected (movedL2 cfg.gridSize s as) f) }) := by
    apply List.map_congr_left
    intro f hf
    exact (eatFood_eq _ f (hw.foodLv f hf)).1
  have hstate : (step cfg s (as.map Int.ofNat)).1 = (stepL2 cfg s as).1 := by
    simp only [step, stepL2, hA, List.map_map, Function.comp_def]
    rw [hfoods]
  refine ⟨hstate, ?_, ?_, ?_⟩
  · rw [step_stepType, hstate]
    simp only [stepL2]
    simp
  · rw [step_reward_eq_rewardL2 cfg s hw.agLv _ (by rw [List.length_map, hlen]), hstate]
    rfl
  · rw [discount_eq, hstate]
    simp [stepL2]

/-- movement + collision fixing + loading flag -/
theorem lbf_move_phase_eq_rules (g : Nat) (s : State) (hw : WF s) (as : List Nat)
    (hlen : as.length = s.agents.length) (has : ∀ a ∈ as, a < 6) :
    updateAgents g s.agents s.foods (as.map Int.ofNat) = movedL2 g s as := updateAgents_eq_movedL2 g s hw as hlen has

/-- `flag_duplicates` (occurrence count ≠ 1) = "somebody else has the same cell" -/
theorem lbf_flag_duplicates {α} [BEq α] [LawfulBEq α] (l : List α) (i : Nat) (hi : i < l.length) :
    (l.count l[i] != 1) = true ↔ ∃ u ∈ l.eraseIdx i, u = l[i] := count_ne_one_iff l i hi

/-- `eat_food`: the food becomes eaten exactly when it is collected by the rules -/
theorem lbf_eat_food_eq_rules (A : List Agent) (f : Food) (hf : 1 ≤ f.level) :
    (eatFood A f).1 = { f with eaten := f.eaten || decide (collected A f) } ∧
    ((eatFood A f).2.1 = true ↔ collected A f) := eatFood_eq A f hf

/-- `get_reward` = the rule-level shares, for every normalisation / penalty setting -/
theorem lbf_reward_eq_rules (cfg : Cfg) (A : List Agent) (hA : ∀ a ∈ A, 1 ≤ a.level) (fs : List Food)
    (hf : ∀ f ∈ fs, 1 ≤ f.level) :
    getReward cfg A.length (fs.map (eatFood A)) = rewardL2 cfg A fs := getReward_eq_rewardL2 cfg A hA fs
end Props.C09

namespace Props.C11
/-- LAST exactly when all food is collected or the step count reaches the time limit; one count per step -/
theorem lbf_last_iff (cfg : Cfg) (s : State) (a : List Int) :
    (step cfg s a).2.stepType = .last ↔
      ((step cfg s a).1.foods.all (fun f => f.eaten) = true ∨ cfg.timeLimit ≤ (step cfg s a).1.stepCount) :=
  last_iff cfg s a

/-- C11: every step raises the counter by one -/
theorem lbf_step_count (cfg : Cfg) (s : State) (a : List Int) :
    (step cfg s a).1.stepCount = s.stepCount + 1 := step_count cfg s a

/-! #### whole episodes: `run cfg s as` = the trace of `step` along ANY sequence of joint actions (any lengths, any
integers) from a state with step count 0 -/

/-- (i) step number `k + 1` has step count `k + 1`, and is LAST exactly when all food is collected by then or `k + 1` has
reached the time limit -/
theorem lbf_episode_steps (cfg : Cfg) (s : State) (h0 : s.stepCount = 0) (as : List (List Int)) (k : Nat)
    (h : k < as.length) :
    ((run cfg s as)[k]'(by rw [run_length]; exact h)).1.stepCount = (k : Int) + 1 ∧
    (((run cfg s as)[k]'(by rw [run_length]; exact h)).2.stepType = .last ↔
      (((run cfg s as)[k]'(by rw [run_length]; exact h)).1.foods.all (fun f => f.eaten) = true ∨
        cfg.timeLimit ≤ (k : Int) + 1)) := by
  have hk : k < (run cfg s as).length := by rw [run_length]; exact h
  refine ⟨by rw [run_stepCount cfg as s k hk, h0]; omega, ?_⟩
  rw [run_last_iff cfg as s k hk, h0, Int.zero_add]

/-- (ii) in any case there is a LAST at or before step `time_limit`: step number `time_limit` (index `time_limit − 1`)
is LAST whatever the agents did -/
theorem lbf_episode_last_at_limit (cfg : Cfg) (hT : 0 < cfg.timeLimit) (s : State) (h0 : s.stepCount = 0)
    (as : List (List Int)) (hlen : cfg.timeLimit ≤ (as.length : Int)) :
    ∃ h : (cfg.timeLimit - 1).toNat < (run cfg s as).length,
      ((run cfg s as)[(cfg.timeLimit - 1).toNat]).2.stepType = .last := by
  have hk : (cfg.timeLimit - 1).toNat < (run cfg s as).length := by rw [run_length]; omega
  refine ⟨hk, ?_⟩
  rw [run_last_iff cfg as s _ hk, h0]
  right; omega

/-- (ii) as an existence statement: some step number `≤ time_limit` is LAST -/
theorem lbf_episode_last_by_limit (cfg : Cfg) (hT : 0 < cfg.timeLimit) (s : State) (h0 : s.stepCount = 0)
    (as : List (List Int)) (hlen : cfg.timeLimit ≤ (as.length : Int)) :
    ∃ (k : Nat) (h : k < (run cfg s as).length), ((k : Int) + 1 ≤ cfg.timeLimit) ∧
      ((run cfg s as)[k]).2.stepType = .last := by
  obtain ⟨h, hl⟩ := lbf_episode_last_at_limit cfg hT s h0 as hlen
  exact ⟨_, h, by omega, hl⟩

/-- (iii) if no other cause of termination occurs (the food is never all collected), the LAST steps are exactly those
numbered `≥ time_limit`: every step before is MID, so the first LAST is exactly step `time_limit` -/
theorem lbf_episode_time_limit_only (cfg : Cfg) (s : State) (h0 : s.stepCount = 0) (as : List (List Int))
    (hfood : ∀ (k : Nat) (h : k < (run cfg s as).length), ((run cfg s as)[k]).1.foods.all (fun f => f.eaten) = false)
    (k : Nat) (h : k < (run cfg s as).length) :
    (((run cfg s as)[k]).2.stepType = .last ↔ cfg.timeLimit ≤ (k : Int) + 1) ∧
    ((k : Int) + 1 < cfg.timeLimit → ((run cfg s as)[k]).2.stepType = .mid) := by
  have hiff : ((run cfg s as)[k]).2.stepType = .last ↔ cfg.timeLimit ≤ (k : Int) + 1 := by
    rw [run_last_iff cfg as s k h, h0, hfood k h]; simp
  refine ⟨hiff, ?_⟩
  intro hlt
  rcases run_mid_or_last cfg as s k h with hm | hl
  · exact hm
  · have := hiff.1 hl; omega

/-- never earlier without another cause: a LAST before step `time_limit` means all food is collected -/
theorem lbf_episode_not_earlier (cfg : Cfg) (s : State) (h0 : s.stepCount = 0) (as : List (List Int))
    (k : Nat) (h : k < (run cfg s as).length) (hk : (k : Int) + 1 < cfg.timeLimit)
    (hl : ((run cfg s as)[k]).2.stepType = .last) : ((run cfg s as)[k]).1.foods.all (fun f => f.eaten) = true := by
  rcases (run_last_iff cfg as s k h).1 hl with h1 | h1
  · exact h1
  · omega

/-- time limit 3, nobody loads: MID, MID, LAST (and LAST again if one keeps stepping) — first LAST at index 2 -/
example : (run ⟨5, 5, 3, false, true, 0⟩
      ⟨[⟨0, (1, 2), 1, false⟩, ⟨1, (2, 1), 2, false⟩], [⟨0, (2, 2), 3, false⟩], 0⟩
      [[0, 0], [1, 0], [0, 3], [0, 0]]).map (fun r => (r.2.stepType, r.1.foods.all (fun f => f.eaten))) =
    [(.mid, false), (.mid, false), (.last, false), (.last, false)] := by decide +kernel

/-- same instance, both agents load at once: all food collected, LAST at index 0 < time limit − 1 -/
example : (run ⟨5, 5, 3, false, true, 0⟩
      ⟨[⟨0, (1, 2), 1, false⟩, ⟨1, (2, 1), 2, false⟩], [⟨0, (2, 2), 3, false⟩], 0⟩
      [[5, 5]]).map (fun r => (r.2.stepType, r.1.foods.all (fun f => f.eaten))) = [(.last, true)] := by decide +kernel

/-- the documented exception of C03: the discount is zero exactly when all food is collected; a LAST step
caused by the time limit alone is a truncation with discount one -/
theorem lbf_discount (cfg : Cfg) (s : State) (a : List Int) :
    (step cfg s a).2.discount =
      if (step cfg s a).1.foods.all (fun f => f.eaten) = true then zerosR (some s.agents.length)
      else onesR (some s.agents.length) := discount_eq cfg s a
end Props.C11

namespace Props.C12
/-- HEADLINE: for every in-spec joint action from a consistent well-formed state, the observation returned by `step`
is the DOCUMENTED observation (`observeL2`: views as described in the observers' docstrings, mask = legality by the
rules, step count) of the successor state -/
theorem lbf_obs_faithful (cfg : Cfg) (h0 : 0 < cfg.fov) (s : State) (hc : Consistent cfg.gridSize s) (hw : WF s)
    (as : List Nat) (hlen : as.length = s.agents.length) (has : ∀ a ∈ as, a < 6) :
    (step cfg s (as.map Int.ofNat)).2.obs = observeL2 cfg (step cfg s (as.map Int.ofNat)).1 :=
  step_obs_documented cfg s hc hw _ (by rw [List.length_map, hlen])

/-- reset: the first observation is the documented observation of the reset state … -/
theorem lbf_reset_obs_faithful (cfg : Cfg) (h0 : 0 < cfg.fov) (s : State) (hc : Consistent cfg.gridSize s) (hw : WF s) :
    (resetTs cfg s).obs = observeL2 cfg s := observe_eq_observeL2 cfg s hc hw

/-- … in particular for every generated instance (no hypothesis on the state left) -/
theorem lbf_generated_reset_obs_faithful (cfg : Cfg) (h0 : 0 < cfg.fov) (gc : GenCfg) (hg : cfg.gridSize = gc.gridSize)
    (d : GenDraw) (hd : validDraw gc d = true) :
    (resetTs cfg (generate gc d)).obs = observeL2 cfg (generate gc d) :=
  lbf_reset_obs_faithful cfg h0 _ (hg ▸ gen_consistent gc d hd) (gen_wf gc d hd)

/-- … and along whole plays: every observation of the trace is the documented one of the state it comes with -/
theorem lbf_run_obs_faithful (cfg : Cfg) (h0 : 0 < cfg.fov) (as : List (List Nat)) (s : State)
    (hc : Consistent cfg.gridSize s) (hw : WF s) (h : ∀ a ∈ as, a.length = s.agents.length ∧ ∀ x ∈ a, x < 6) :
    ∀ r ∈ run cfg s (as.map (fun a => a.map Int.ofNat)), r.2.obs = observeL2 cfg r.1 := by
  intro r hr
  obtain ⟨hc', hw'⟩ := run_invariant cfg as s hc hw (fun a ha => (h a ha).1) r hr
  obtain ⟨s', a, rfl⟩ := mem_run cfg _ s r hr
  rw [LBF.obs_faithful]
  exact observe_eq_observeL2 cfg _ hc' hw'

example : (0 < (⟨5, 1, 7, true, true, 0⟩ : Cfg).fov) ∧
    Consistent 5 ⟨[⟨0, (1, 1), 1, false⟩, ⟨1, (1, 2), 2, false⟩], [⟨0, (2, 2), 3, false⟩], 0⟩ ∧
    WF ⟨[⟨0, (1, 1), 1, false⟩, ⟨1, (1, 2), 2, false⟩], [⟨0, (2, 2), 3, false⟩], 0⟩ ∧
    ([4, 5] : List Nat).length = 2 ∧ (∀ a ∈ ([4, 5] : List Nat), a < 6) := by decide

/-- the L1 half: the observation returned by `step` is the observer's function of the successor state (never stale),
for ANY joint action and state -/
theorem lbf_obs_is_observer_of_successor (cfg : Cfg) (s : State) (a : List Int) :
    (step cfg s a).2.obs = observe cfg (step cfg s a).1 := obs_faithful cfg s a

/-- vector observer: agent `i` sees every food, then itself, then the other agents in order; an entity is
reported iff it lies within `fov` in both coordinates (a food: and is not yet collected), at its position relative
to the window clipped to the grid (`position − max(0, own − fov)`), otherwise as `(-1, -1, 0)` -/
theorem lbf_vector_view (fov : Nat) (s : State) (hw : WF s) (i : Nat) (hi : i < s.agents.length) :
    vectorView fov s s.agents[i] = vectorViewL2 fov s i s.agents[i] := vectorView_eq fov s hw.ids i hi

/-- grid observer: window cell `(dr, dc)` of the agent at `me` shows world cell `me − fov + (dr, dc)`: the level of
the agent there, the level of the uneaten food there, and 1 iff that cell is inside the grid and empty; cells
outside the grid show 0 in all three layers.  (`fov ≥ 1` as the generator asserts.) -/
theorem lbf_grid_view (g fov : Nat) (h0 : 0 < fov) (s : State) (hc : Consistent g s) :
    gridView g fov s = s.agents.map (fun a => gridViewL2 g fov s a.pos) :=
  gridView_eq g fov s hc.agIn hc.foodIn fun h => absurd h (Nat.ne_of_gt h0)

/-- the whole observation (view of the configured observer, action mask, step count) is the documented one -/
theorem lbf_observe_documented (cfg : Cfg) (h0 : 0 < cfg.fov) (s : State) (hc : Consistent cfg.gridSize s) (hw : WF s) :
    observe cfg s = observeL2 cfg s := observe_eq_observeL2 cfg s hc hw
end Props.C12

namespace Props.C10
/-!
`generate gc d` = the transliterated `RandomGenerator.__call__` (Model.lean): `gc` = its constructor arguments, `d` = what
it draws.  `validDraw gc d` = the draw lies in the support of the samplers (every food cell has the bit of the mask
current at its scan step set; agent cells pairwise distinct — `replace=False` — on set bits of the agent mask; levels
in `[1, max_agent_level]` resp. `[1, max_food_level]`).  The certificates hold for ALL `gc` and ALL valid draws; the
constructor's assertions (`GenCfg.Valid`) are not needed for them — they only make sure that the samplers' supports are
non-empty.  The driver op `lbf.instance` reads the draw off every implementation reset state and checks
`validDraw` (`draw_in_support`) and `generate gc draw = state` (`generator_matches`).
-/

/-- the generated state has step count 0, nobody loading, nothing eaten — for every draw -/
theorem lbf_generate_fresh_start (gc : GenCfg) (d : GenDraw) : freshStart (generate gc d) := gen_fresh_start gc d

/-- "no food is placed on the grid's edge" -/
theorem lbf_generate_foods_interior (gc : GenCfg) (d : GenDraw) (h : validDraw gc d = true) :
    foodsInterior gc.gridSize (generate gc d) := gen_foods_interior gc d h

/-- "no two food items are adjacent" (nor equal) -/
theorem lbf_generate_foods_apart (gc : GenCfg) (d : GenDraw) (h : validDraw gc d = true) :
    foodsApart (generate gc d) := gen_foods_apart gc d h

/-- every food can be collected: its level is at most `max_food_level` = the sum of the three smallest agent levels,
which is at most the sum of the four largest (four agents fit around an interior food) -/
theorem lbf_generate_collectable (gc : GenCfg) (d : GenDraw) (h : validDraw gc d = true) :
    collectable (generate gc d) := by
  have ok := validDraw_ok gc d h
  intro f hf
  have h1 := ((gen_levels gc d h).2 f hf).2.1
  unfold topLevels
  refine Int.le_trans h1 (maxFoodLevel_le_top _ ?_)
  rw [gen_agent_levels gc d ok]
  intro x hx
  have := (ok.aLv x hx).1
  omega

/-- agents inside the grid on pairwise distinct cells, none on a food; foods inside the grid -/
theorem lbf_generate_consistent (gc : GenCfg) (d : GenDraw) (h : validDraw gc d = true) :
    Consistent gc.gridSize (generate gc d) := gen_consistent gc d h

/-- agent `i` has id `i`, all levels ≥ 1 -/
theorem lbf_generate_wf (gc : GenCfg) (d : GenDraw) (h : validDraw gc d = true) : WF (generate gc d) := gen_wf gc d h

/-- everything at once: fresh start, foods interior and apart, collectable, consistent, well-formed, the counts, food
ids = indices, agent levels in `[1, max_agent_level]`, food levels in `[1, max_food_level]` and `= max_food_level`
under `force_coop` -/
theorem lbf_generate_certificates (gc : GenCfg) (d : GenDraw) (h : validDraw gc d = true) :
    freshStart (generate gc d) ∧ foodsInterior gc.gridSize (generate gc d) ∧ foodsApart (generate gc d) ∧
    collectable (generate gc d) ∧ Consistent gc.gridSize (generate gc d) ∧ WF (generate gc d) ∧
    ((generate gc d).agents.length = gc.numAgents ∧ (generate gc d).foods.length = gc.numFood) ∧
    (∀ k (hk : k < (generate gc d).foods.length), ((generate gc d).foods[k]).id = (k : Int)) ∧
    (∀ a ∈ (generate gc d).agents, 1 ≤ a.level ∧ a.level ≤ gc.maxAgentLevel) ∧
    (∀ f ∈ (generate gc d).foods, 1 ≤ f.level ∧ f.level ≤ maxFoodLevel ((generate gc d).agents.map (·.level)) ∧
      (gc.forceCoop = true → f.level = maxFoodLevel ((generate gc d).agents.map (·.level)))) :=
  ⟨gen_fresh_start gc d, gen_foods_interior gc d h, gen_foods_apart gc d h, lbf_generate_collectable gc d h,
   gen_consistent gc d h, gen_wf gc d h, ⟨gen_agents_length gc d, gen_foods_length gc d⟩, (gen_ids gc d).2,
   (gen_levels gc d h).1, (gen_levels gc d h).2⟩

/-- the model's `jnp.sort` (an insertion sort, so that instances evaluate) is the sorted permutation -/
theorem lbf_sort_is_sort (l : List Int) : sortAsc l = l.mergeSort (fun a b => decide (a ≤ b)) := sortAsc_eq_mergeSort l

/-- a concrete configuration satisfying the constructor's assertions, a draw in the support, and the generated state
(foods at flat cells 8 = (1, 2) and 22 = (3, 4); agents at 0 = (0, 0) and 9 = (1, 3), next to the first food) -/
example : (⟨6, 2, 2, 2, false⟩ : GenCfg).Valid ∧
    validDraw ⟨6, 2, 2, 2, false⟩ ⟨[8, 22], [0, 9], [2, 1], [3, 1]⟩ = true ∧
    generate ⟨6, 2, 2, 2, false⟩ ⟨[8, 22], [0, 9], [2, 1], [3, 1]⟩ =
      ⟨[⟨0, (0, 0), 2, false⟩, ⟨1, (1, 3), 1, false⟩], [⟨0, (1, 2), 3, false⟩, ⟨1, (3, 4), 1, false⟩], 0⟩ ∧
    -- not in the support: second food next to the first / on the edge; an agent on a food; agents on one cell
    validDraw ⟨6, 2, 2, 2, false⟩ ⟨[8, 14], [0, 9], [2, 1], [3, 1]⟩ = false ∧
    validDraw ⟨6, 2, 2, 2, false⟩ ⟨[8, 23], [0, 9], [2, 1], [3, 1]⟩ = false ∧
    validDraw ⟨6, 2, 2, 2, false⟩ ⟨[8, 22], [0, 8], [2, 1], [3, 1]⟩ = false ∧
    validDraw ⟨6, 2, 2, 2, false⟩ ⟨[8, 22], [9, 9], [2, 1], [3, 1]⟩ = false ∧
    validDraw ⟨6, 2, 2, 2, false⟩ ⟨[8, 22], [0, 9], [2, 1], [4, 1]⟩ = false := by decide +kernel

/-- generated instances stay consistent under every in-spec play (the generator theorems composed with C07) -/
theorem lbf_generated_stays_consistent (cfg : Cfg) (gc : GenCfg) (hg : cfg.gridSize = gc.gridSize) (d : GenDraw)
    (hd : validDraw gc d = true) (as : List (List Nat))
    (h : ∀ a ∈ as, a.length = gc.numAgents ∧ ∀ x ∈ a, x < 6) :
    Consistent cfg.gridSize (finalState cfg (generate gc d) (as.map (fun a => a.map Int.ofNat))) ∧
      WF (finalState cfg (generate gc d) (as.map (fun a => a.map Int.ofNat))) :=
  consistent_along cfg as _ (hg ▸ gen_consistent gc d hd) (gen_wf gc d hd) (by rw [gen_agents_length]; exact h)

/-- … and all four neighbouring cells of every generated food are inside the grid -/
theorem lbf_generated_food_neighbours_in_grid (gc : GenCfg) (d : GenDraw) (h : validDraw gc d = true) (f : Food)
    (hf : f ∈ (generate gc d).foods) (a : Nat) (ha1 : 1 ≤ a) (ha4 : a ≤ 4) : inGrid gc.gridSize (addP f.pos (dir a)) :=
  food_neighbours_in_grid gc.gridSize _ (gen_foods_interior gc d h) f hf a ha1 ha4

/-! the "certificate ⇒ advertised invariant" half (for any state passing the certificates): -/

/-- certificate "food not on the border" ⇒ all four neighbouring cells of every food are inside the grid (so up
to four agents can stand around it) -/
theorem lbf_food_neighbours_in_grid (g : Nat) (s : State) (h : foodsInterior g s) (f : Food) (hf : f ∈ s.foods)
    (a : Nat) (ha1 : 1 ≤ a) (ha4 : a ≤ 4) : inGrid g (addP f.pos (dir a)) :=
  food_neighbours_in_grid g s h f hf a ha1 ha4

/-- certificate "food not adjacent" ⇒ foods lie on pairwise distinct, non-neighbouring cells -/
theorem lbf_foods_apart (s : State) (h : foodsApart s) :
    s.foods.Pairwise (fun a b => a.pos ≠ b.pos ∧ dist a.pos b.pos ≠ 1) := foods_apart s h

/-- a reset state that passes the certificates `Consistent` (entities on distinct free cells inside the grid) and
`WF` stays consistent under every in-spec play (C07 applied to generated instances) -/
theorem lbf_instance_stays_consistent (cfg : Cfg) (s : State) (hc : Consistent cfg.gridSize s) (hw : WF s)
    (as : List (List Nat)) (h : ∀ a ∈ as, a.length = s.agents.length ∧ ∀ x ∈ a, x < 6) :
    Consistent cfg.gridSize (finalState cfg s (as.map (fun a => a.map Int.ofNat))) :=
  (consistent_along cfg as s hc hw h).1
end Props.C10

namespace Props.C01
/-!
`obsBounds cfg A L` (Env/LBF/Bounds.lean; `A` = num_agents, `L` = the generator's max_agent_level, which `Cfg` does
not carry): agents_view ∈ [-1, max (A·L) (max L (min (2·fov) (gridSize-1)))] (vector observer) resp.
[0, max (A·L) L] (grid observer); action_mask ∈ [0, 1]; step_count ∈ [0, timeLimit].
The invariant `BInv cfg A L s` is what `RandomGenerator` produces and every in-spec step preserves (`lbf_binv_step`).
No hypothesis on `fov`, sizes or counts.
-/

/-- reset: the observation of any state satisfying the invariant with step count 0 lies within `obsBounds`
(`resetTs cfg s = restart (observe cfg s)`; `lbf_generate_binv` below: every generated state satisfies the invariant) -/
theorem lbf_reset_obs_in_bounds (cfg : Cfg) (A L : Nat) (s : State) (h : BInv cfg A L s)
    (h0 : s.stepCount = 0) (ht : 0 ≤ cfg.timeLimit) :
    ObsInBounds (obsBounds cfg A L) (resetTs cfg s).obs :=
  observe_in_bounds cfg A L s h (by omega) (by omega)

/-- the generator establishes the invariant: `generate gc d` satisfies `BInv` with `A = num_agents`,
`L = max_agent_level` for every valid draw and EVERY number of agents (food level ≤ `min 3 A · L ≤ A · L`) -/
theorem lbf_generate_binv (cfg : Cfg) (gc : GenCfg) (L : Nat) (hg : cfg.gridSize = gc.gridSize)
    (hL : gc.maxAgentLevel = (L : Int)) (d : GenDraw) (h : validDraw gc d = true) :
    BInv cfg gc.numAgents L (generate gc d) := gen_binv cfg gc L hg hL d h

/-- … so the reset observation of every generated instance lies within `obsBounds` (no hypothesis on the state) -/
theorem lbf_generated_reset_obs_in_bounds (cfg : Cfg) (gc : GenCfg) (L : Nat) (hg : cfg.gridSize = gc.gridSize)
    (hL : gc.maxAgentLevel = (L : Int)) (d : GenDraw) (h : validDraw gc d = true) (ht : 0 ≤ cfg.timeLimit) :
    ObsInBounds (obsBounds cfg gc.numAgents L) (resetTs cfg (generate gc d)).obs :=
  lbf_reset_obs_in_bounds cfg gc.numAgents L _ (gen_binv cfg gc L hg hL d h) (gen_fresh_start gc d).1 ht

/-- the hypotheses of `lbf_reset_obs_in_bounds` instantiated by a generated state -/
example : BInv ⟨6, 2, 7, true, true, 0⟩ 2 2 (generate ⟨6, 2, 2, 2, false⟩ ⟨[8, 22], [0, 9], [2, 1], [3, 1]⟩) ∧
    (generate ⟨6, 2, 2, 2, false⟩ ⟨[8, 22], [0, 9], [2, 1], [3, 1]⟩).stepCount = 0 ∧
    (0 : Int) ≤ (⟨6, 2, 7, true, true, 0⟩ : Cfg).timeLimit := by decide +kernel

/-- every step before the time limit is reached — including the one that reaches it (`step_count = time_limit`)
and the one that collects the last food — emits an observation within `obsBounds`, for every in-spec joint action -/
theorem lbf_step_obs_in_bounds (cfg : Cfg) (A L : Nat) (s : State) (h : BInv cfg A L s) (as : List Nat)
    (hlen : as.length = s.agents.length) (has : ∀ a ∈ as, a < 6)
    (h0 : 0 ≤ s.stepCount) (h1 : s.stepCount < cfg.timeLimit) :
    ObsInBounds (obsBounds cfg A L) (step cfg s (as.map Int.ofNat)).2.obs := by
  rw [LBF.obs_faithful]
  apply observe_in_bounds cfg A L _ (step_binv_any cfg A L s h _ (by rw [List.length_map, hlen]))
  · rw [LBF.step_count]; omega
  · rw [LBF.step_count]; omega

/-- the invariant is kept by every in-spec joint action, hence holds along whole episodes -/
theorem lbf_binv_step (cfg : Cfg) (A L : Nat) (s : State) (h : BInv cfg A L s) (as : List Nat)
    (hlen : as.length = s.agents.length) (has : ∀ a ∈ as, a < 6) :
    BInv cfg A L (step cfg s (as.map Int.ofNat)).1 := step_binv_any cfg A L s h _ (by rw [List.length_map, hlen])

/-- … and so at the end of every play -/
theorem lbf_binv_along (cfg : Cfg) (A L : Nat) (as : List (List Nat)) (s : State) (h : BInv cfg A L s)
    (has : ∀ a ∈ as, a.length = s.agents.length ∧ ∀ x ∈ a, x < 6) :
    BInv cfg A L (finalState cfg s (as.map (fun a => a.map Int.ofNat))) :=
  (play_induction cfg (BInv cfg A L) (step_binv_any cfg A L) as s h fun a ha => (has a ha).1).2

/-- non-vacuity: `obsBounds` has an interval for every leaf of the observation -/
theorem lbf_obs_bounds_cover (cfg : Cfg) (A L : Nat) (o : Obs) :
    ∀ p ∈ obsLeaves o, ∃ b ∈ obsBounds cfg A L, b.1 = p.1 := fun _ hp =>
  -- the two lists carry the same keys in the same order
  List.mem_map.1 ((rfl : (obsLeaves o).map (·.1) = (obsBounds cfg A L).map (·.1)) ▸ List.mem_map_of_mem hp)

/-- the hypotheses are satisfiable: two agents (levels 1, 2 ≤ L = 2), foods of level 3, 4 ≤ A·L = 4
(one already eaten), grid observer, a joint action [right, load] -/
example : BInv ⟨5, 1, 7, true, true, 0⟩ 2 2
      ⟨[⟨0, (1, 1), 1, false⟩, ⟨1, (1, 2), 2, false⟩], [⟨0, (2, 2), 3, false⟩, ⟨1, (3, 0), 4, true⟩], 0⟩ ∧
    ([4, 5] : List Nat).length = 2 ∧ (∀ a ∈ ([4, 5] : List Nat), a < 6) ∧ (0 : Int) ≤ 0 ∧ (0 : Int) < 7 := by decide

/-! NOTE on what the membership theorems of this section do and do not cover: the dtype tag of every leaf
is written by `toNValue` (by construction) — a wrong dtype in the real code cannot falsify `….valid (toNValue …) = true`; dtypes and
field order of the real observations are compared by the `lbf.spec` / `lbf.state` ops (`nvalue`: field order, shape, dtype, data) and
`jax.eval_shape` in the sweeps.  Shapes are READ OFF the value by `toNValue` (widths off the first row): see `…_obs_valid_only`. -/

/-! #### membership in the DECLARED specs: structure, shapes, dtypes and bounds -/
open Sp PzS PkS MaS

/-- the invariant behind the membership theorems (`BInv` plus the entity counts and a non-negative counter) is established
by the generator for EVERY valid draw and preserved by EVERY in-spec joint action (one entry `< 6` per agent; legal or not,
collisions or not, MID or LAST) -/
theorem lbf_specInv_invariant (cfg : Cfg) (A F L : Nat) :
    (∀ (gc : GenCfg) (d : GenDraw), cfg.gridSize = gc.gridSize → gc.maxAgentLevel = (L : Int) → gc.numAgents = A →
      gc.numFood = F → validDraw gc d = true → SpecInv cfg A F L (generate gc d)) ∧
    (∀ (s : State) (as : List Nat), SpecInv cfg A F L s → as.length = A → (∀ a ∈ as, a < 6) →
      SpecInv cfg A F L (step cfg s (as.map Int.ofNat)).1) :=
  ⟨fun gc d hg hL hA hF h => hA ▸ hF ▸ LBF.gen_specInv cfg gc L hg hL d h,
   fun s as h hl _ => LBF.step_specInv cfg A F L s h _ (by rw [List.length_map, hl])⟩

/-- the shapes of what the observers emit, for EVERY state: `3·(A + F)` numbers per agent (vector observer, at least one
agent), an `(A, 3, 2·fov + 1, 2·fov + 1)` array (grid observer), an `(A, 6)` mask -/
theorem lbf_view_shapes (g fov : Nat) (s : State) :
    (0 < s.agents.length → Rect2 (s.agents.map (vectorView fov s)) s.agents.length (3 * (s.agents.length + s.foods.length))) ∧
    Rect4 (gridView g fov s) s.agents.length 3 (2 * fov + 1) (2 * fov + 1) ∧ Rect2 (masks g s) s.agents.length 6 :=
  ⟨LBF.vecView_rect fov s, LBF.gridView_rect g fov s, LBF.masks_rect g s⟩

/-- the `reset` observation is accepted by `observation_spec.validate` for EVERY valid draw of the generator — both
observers, every grid size, `fov`, number of agents (≥ 1) and foods, `time_limit ≥ 0` -/
theorem lbf_reset_obs_valid (cfg : Cfg) (gc : GenCfg) (L : Nat) (hg : cfg.gridSize = gc.gridSize)
    (hL : gc.maxAgentLevel = (L : Int)) (hA : 0 < gc.numAgents) (hT : 0 ≤ cfg.timeLimit) (d : GenDraw)
    (h : validDraw gc d = true) :
    (obsSpec cfg gc.numAgents gc.numFood L).valid (toNValue (resetTs cfg (generate gc d)).obs) = true :=
  LBF.reset_obs_valid cfg _ _ L hA hT _ (LBF.gen_specInv cfg gc L hg hL d h) (gen_fresh_start gc d).1

/-- … and on any state satisfying the invariant with counter 0 -/
theorem lbf_reset_obs_valid_of_inv (cfg : Cfg) (A F L : Nat) (hA : 0 < A) (hT : 0 ≤ cfg.timeLimit) (s : State)
    (h : SpecInv cfg A F L s) (h0 : s.stepCount = 0) :
    (obsSpec cfg A F L).valid (toNValue (resetTs cfg s).obs) = true := LBF.reset_obs_valid cfg A F L hA hT s h h0

/-- the observation of EVERY in-spec `step` (legal or not, MID or LAST — the step that collects the last food and the one
that reaches the time limit included) from every state with the invariant whose counter has not reached the limit -/
theorem lbf_step_obs_valid (cfg : Cfg) (A F L : Nat) (hA : 0 < A) (s : State) (h : SpecInv cfg A F L s)
    (hlim : s.stepCount < cfg.timeLimit) (as : List Nat) (hlen : as.length = A) (has : ∀ a ∈ as, a < 6) :
    (obsSpec cfg A F L).valid (toNValue (step cfg s (as.map Int.ofNat)).2.obs) = true :=
  LBF.step_obs_valid cfg A F L hA s h hlim _ (by rw [List.length_map, hlen])

example : SpecInv ⟨5, 1, 7, true, true, 0⟩ 2 2 2
      ⟨[⟨0, (1, 1), 1, false⟩, ⟨1, (1, 2), 2, false⟩], [⟨0, (2, 2), 3, false⟩, ⟨1, (3, 0), 4, true⟩], 0⟩ := by decide

/-- WHOLE EPISODES: along the rollout (`Ep.rollout` = the L1 step iterated) of ANY in-spec joint actions from the reset state
of ANY valid draw of the generator, every observation emitted by one of the first `time_limit` steps is a member of the spec;
step `time_limit` is LAST (`lbf_episode_last_by_limit`), so this covers every observation of every episode incl. the terminal one -/
theorem lbf_obs_valid_along (cfg : Cfg) (gc : GenCfg) (L : Nat) (hg : cfg.gridSize = gc.gridSize)
    (hL : gc.maxAgentLevel = (L : Int)) (hA : 0 < gc.numAgents) (d : GenDraw) (h : validDraw gc d = true)
    (as : List (List Nat)) (has : ∀ a ∈ as, a.length = gc.numAgents ∧ ∀ x ∈ a, x < 6) (j : Nat)
    (hj : (j : Int) < cfg.timeLimit) (e : State × TimeStep Obs)
    (he : (Ep.rollout (fun s (a : List Nat) => step cfg s (a.map Int.ofNat)) (generate gc d) as)[j]? = some e) :
    (obsSpec cfg gc.numAgents gc.numFood L).valid (toNValue e.2.obs) = true :=
  LBF.rollout_obs_valid cfg _ _ L hA _ (LBF.gen_specInv cfg gc L hg hL d h) (gen_fresh_start gc d).1 as
    (fun a ha => (has a ha).1) j hj e he

/-- the same from any state with `SpecInv` and counter 0 -/
theorem lbf_rollout_obs_valid (cfg : Cfg) (A F L : Nat) (hA : 0 < A) (s0 : State) (h : SpecInv cfg A F L s0)
    (h0 : s0.stepCount = 0) (as : List (List Nat)) (has : ∀ a ∈ as, a.length = A ∧ ∀ x ∈ a, x < 6) (j : Nat)
    (hj : (j : Int) < cfg.timeLimit) (e : State × TimeStep Obs)
    (he : (Ep.rollout (fun s (a : List Nat) => step cfg s (a.map Int.ofNat)) s0 as)[j]? = some e) :
    (obsSpec cfg A F L).valid (toNValue e.2.obs) = true :=
  LBF.rollout_obs_valid cfg A F L hA s0 h h0 as (fun a ha => (has a ha).1) j hj e he

/-- what membership means: `validate` accepts an observation ONLY IF the view has the declared shape of the configured
observer, every entry lies between the observer's minimum (−1 vector, 0 grid) and `max(A·L, L, grid_size)`, the mask is
`(A, 6)` and the counter lies in `[0, time_limit]`.  CAVEAT: for every field that is a nested list, `toNValue` reads the widths off the FIRST row of the
nested list, so the shape conjuncts here mean "row count, length of the first row, total number of cells" — a ragged value with the right total can be a
member, and nothing is concluded about the later rows.  Every EMITTED observation is rectangular, whatever the
state: `lbf_view_shapes`. -/
theorem lbf_obs_valid_only (cfg : Cfg) (A F L : Nat) (o : Obs) (h : (obsSpec cfg A F L).valid (toNValue o) = true) :
    (viewArr o.view).shape = (if cfg.gridObs then [A, 3, 2 * cfg.fov + 1, 2 * cfg.fov + 1] else [A, 3 * (A + F)]) ∧
    (∀ x ∈ viewInts o.view, (if cfg.gridObs then 0 else -1) ≤ x ∧ x ≤ specMax cfg A L) ∧
    shape2 o.mask = [A, 6] ∧ o.mask.flatten.length = A * 6 ∧ 0 ≤ o.stepCount ∧ o.stepCount ≤ cfg.timeLimit :=
  LBF.obs_valid_only cfg A F L o h

/-- positive: reset observations under both observers and the observation after a step; negative: a counter beyond the limit,
the vector view offered to the grid spec, the spec of three agents, a view entry above the maximum -/
example :
    let s : State := ⟨[⟨0, (1, 1), 1, false⟩, ⟨1, (1, 2), 2, false⟩], [⟨0, (2, 2), 3, false⟩, ⟨1, (3, 0), 4, true⟩], 0⟩
    let cg : Cfg := ⟨5, 1, 7, true, true, 0⟩
    let cv : Cfg := ⟨5, 1, 7, false, true, 0⟩
    (obsSpec cg 2 2 2).valid (toNValue (resetTs cg s).obs) = true ∧
    (obsSpec cv 2 2 2).valid (toNValue (resetTs cv s).obs) = true ∧
    (obsSpec cv 2 2 2).valid (toNValue (step cv s [4, 5]).2.obs) = true ∧
    (obsSpec cv 2 2 2).valid (toNValue { (resetTs cv s).obs with stepCount := 8 }) = false ∧
    (obsSpec cg 2 2 2).valid (toNValue (resetTs cv s).obs) = false ∧
    (obsSpec cv 3 2 2).valid (toNValue (resetTs cv s).obs) = false ∧
    (obsSpec cv 2 2 2).valid (toNValue { (resetTs cv s).obs with
      view := .vec [[6, 0, 0, 0, 0, 0, 0, 0, 0, 0, 0, 0], [0, 0, 0, 0, 0, 0, 0, 0, 0, 0, 0, 0]] }) = false := by
  decide +kernel

/-- reward and discount of EVERY step from a state with `A` agents (any integers as joint action) and of `reset` are accepted
by `reward_spec` (Array((A,), float)) and `discount_spec` (BoundedArray((A,), float, 0, 1)) -/
theorem lbf_reward_discount_valid (cfg : Cfg) (A : Nat) (s : State) (hl : s.agents.length = A) (a : List Int) :
    (rewardSpecN A).valid (vecArr (step cfg s a).2.reward) = true ∧
    (discountSpecN A).valid (vecArr (step cfg s a).2.discount) = true ∧
    (rewardSpecN A).valid (vecArr (resetTs cfg s).reward) = true ∧
    (discountSpecN A).valid (vecArr (resetTs cfg s).discount) = true :=
  ⟨(LBF.step_reward_discount_valid cfg A s hl a).1, (LBF.step_reward_discount_valid cfg A s hl a).2,
   hl ▸ (restart_reward_discount_valid s.agents.length _).1, hl ▸ (restart_reward_discount_valid s.agents.length _).2⟩

/-- `action_spec.generate_value()` = the all-no-op joint action: the action spec is well-formed, the generated value is a
member, and `step` answers it from every state with the invariant (counter below the limit) with a non-FIRST timestep whose
observation, reward and discount are members of their specs -/
theorem lbf_accepts_generate_value (cfg : Cfg) (A F L : Nat) (hA : 0 < A) (s : State) (h : SpecInv cfg A F L s)
    (hlim : s.stepCount < cfg.timeLimit) :
    (actionSpec A).WF = true ∧ (actionSpec A).valid (actionSpec A).generate = true ∧
    (actionSpec A).generate = actionArr ((List.replicate A 0).map Int.ofNat) ∧
    (obsSpec cfg A F L).valid (toNValue (step cfg s ((List.replicate A 0).map Int.ofNat)).2.obs) = true ∧
    (rewardSpecN A).valid (vecArr (step cfg s ((List.replicate A 0).map Int.ofNat)).2.reward) = true ∧
    (discountSpecN A).valid (vecArr (step cfg s ((List.replicate A 0).map Int.ofNat)).2.discount) = true ∧
    (step cfg s ((List.replicate A 0).map Int.ofNat)).2.stepType ≠ .first :=
  LBF.accepts_generate_value cfg A F L hA s h hlim

/-- `action_spec` accepts exactly the lists of `A` integers in `0 … 5` -/
theorem lbf_action_spec_iff (A : Nat) (as : List Int) :
    (actionSpec A).valid (actionArr as) = true ↔ as.length = A ∧ ∀ a ∈ as, 0 ≤ a ∧ a < 6 :=
  actionSpecN_valid_iff A 6 as
end Props.C01
