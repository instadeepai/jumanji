/-
Property theorems for Cleaner, one namespace per property.

In-spec joint actions are `action : List Nat` with every component `< 4`; they reach the L1 `step` as
`action.map Int.ofNat`.  The running example is a 2×3 grid with one wall and two agents.
-/
import JumanjiModel.Env.Cleaner.Lemmas
import JumanjiModel.Env.Cleaner.BoundsLemmas
import JumanjiModel.Env.Cleaner.EpisodeLemmas
import JumanjiModel.Env.Cleaner.GenLemmas
import JumanjiModel.Env.Cleaner.SpecLemmas
open Jm Cleaner

namespace Props.CleanerEx
/-- 2 rows × 3 columns (non-square), 2 agents -/
def cfg : Cfg := { numRows := 2, numCols := 3, numAgents := 2, timeLimit := 10, penalty := 1/2 }
/-- `C D W / D C D`, agents at `(0,0)` and `(1,1)`, cached mask as the environment would have computed it -/
def st : State :=
  { grid := [[1, 0, 2], [0, 1, 0]], agents := [(0, 0), (1, 1)],
    actionMask := [[false, true, true, false], [true, true, false, true]], stepCount := 3 }
end Props.CleanerEx

namespace Props.C04
/-- on a well-shaped grid (non-square included) the mask computed by the environment IS the mask of the
rules: every agent, every action -/
theorem cleaner_mask_iff_legal (cfg : Cfg) (g : Jx.Grid Int) (agents : List Pos)
    (h : Jx.Grid.shaped g cfg.numRows cfg.numCols = true) :
    computeMask cfg g agents = legalMask cfg g agents := Cleaner.computeMask_eq h agents

theorem cleaner_mask_bit_iff_legal (cfg : Cfg) (s : State)
    (h : Jx.Grid.shaped s.grid cfg.numRows cfg.numCols = true) (i a : Nat) :
    ((computeMask cfg s.grid s.agents).getD i []).getD a false = true ↔ legal cfg s i a :=
  Cleaner.mask_iff_legal h i a

/-- the environment's own validity test (read from the cached mask) agrees with the rules, agent by agent -/
theorem cleaner_step_agrees (cfg : Cfg) (s : State) (hI : Inv cfg s) (action : List Nat)
    (ha : ∀ a ∈ action, a < 4) :
    isActionValid (action.map Int.ofNat) s.actionMask = legalJoint cfg s action :=
  Cleaner.step_agrees hI action ha

/-- the same about the `step` function itself (`cleaner_step_agrees` speaks about the helper `isActionValid`
only): agent `i` is moved exactly when the rules allow its move, and left where it stands (the environment treated
the component as invalid) exactly when they do not -/
theorem cleaner_step_moves_iff_legal (cfg : Cfg) (s : State) (hI : Inv cfg s) (action : List Nat)
    (ha : ∀ a ∈ action, a < 4) (i : Nat) (loc : Pos) (a : Nat) (h1 : s.agents[i]? = some loc)
    (h2 : action[i]? = some a) :
    ((step cfg s (action.map Int.ofNat)).1.agents[i]? = some (dest loc a) ↔ legal cfg s i a) ∧
    ((step cfg s (action.map Int.ofNat)).1.agents[i]? = some loc ↔ ¬ legal cfg s i a) :=
  Cleaner.step_moves_iff_legal hI action ha i loc a h1 h2

/-- … and on a consistent state `step` answers LAST exactly for the rules' reasons (`endsSpec`): a component is
illegal, or no dirty tile is left, or the limit is reached -/
theorem cleaner_last_iff_rules (cfg : Cfg) (s : State) (hC : Consistent cfg s) (action : List Nat)
    (ha : ∀ a ∈ action, a < 4) :
    (step cfg s (action.map Int.ofNat)).2.stepType = .last ↔
      endsSpec cfg s action (step cfg s (action.map Int.ofNat)).1 := by
  rw [Cleaner.step_refines hC action ha]
  exact (condLast_last_iff _ _ _).trans decide_eq_true_iff

example : Jx.Grid.shaped CleanerEx.st.grid CleanerEx.cfg.numRows CleanerEx.cfg.numCols = true := by decide
example : Inv CleanerEx.cfg CleanerEx.st := by decide +kernel
/-- agent 0 (at `(0,0)`, plays up: illegal) is frozen, agent 1 (at `(1,1)`, plays right: legal) is moved -/
example : (step CleanerEx.cfg CleanerEx.st [0, 1]).1.agents[0]? = some (0, 0) ∧
    (step CleanerEx.cfg CleanerEx.st [0, 1]).1.agents[1]? = some (dest (1, 1) 1) := by decide +kernel
example : legal CleanerEx.cfg CleanerEx.st 1 3 ∧ ¬ legal CleanerEx.cfg CleanerEx.st 0 0 := by decide +kernel
end Props.C04

namespace Props.C12
/-- the observation (grid, locations, step count, mask) is the documented function of the successor state;
in particular the mask shown is the mask of the moves possible now; any action list -/
theorem cleaner_obs_faithful (cfg : Cfg) (s : State) (h : Jx.Grid.shaped s.grid cfg.numRows cfg.numCols = true)
    (a : List Int) : (step cfg s a).2.obs = observe cfg (step cfg s a).1 := Cleaner.obs_faithful h a

/-- the same at `reset`: `reset` computes the mask for `zeros((num_agents, 2))`, not for the generated
locations; for a generated state (well-shaped grid, all agents on the origin: `generate` of every maze accepted by
the certificate `isRecursiveDivisionMaze`) the FIRST timestep shows the documented function of the reset state -/
theorem cleaner_reset_obs_faithful (cfg : Cfg) (g : State)
    (hs : Jx.Grid.shaped g.grid cfg.numRows cfg.numCols = true)
    (hag : g.agents = List.replicate cfg.numAgents (0, 0)) :
    (Cleaner.reset cfg g).2.obs = observe cfg (Cleaner.reset cfg g).1 ∧ (Cleaner.reset cfg g).2.stepType = .first :=
  Cleaner.reset_obs_faithful cfg g hs hag

/-- the hypothesis on the agents is needed: with a generated state whose agent is elsewhere the reset mask is the
mask of the origin, not of the agent's cell -/
example : (Cleaner.reset CleanerEx.cfg { CleanerEx.st with agents := [(1, 1), (1, 1)] }).2.obs ≠
    observe CleanerEx.cfg (Cleaner.reset CleanerEx.cfg { CleanerEx.st with agents := [(1, 1), (1, 1)] }).1 := by
  decide +kernel
end Props.C12

namespace Props.C11
theorem cleaner_step_count (cfg : Cfg) (s : State) (a : List Int) :
    (step cfg s a).1.stepCount = s.stepCount + 1 := Cleaner.step_count cfg s a

/-- the episode ends at the latest when the time limit is reached -/
theorem cleaner_time_limit (cfg : Cfg) (s : State) (a : List Int) (h : s.stepCount + 1 ≥ cfg.timeLimit) :
    (step cfg s a).2.stepType = .last := Cleaner.time_limit cfg s a h

/-- the episode ends exactly when some agent's action is invalid, or no dirty tile is left, or the time limit
is reached — never earlier -/
theorem cleaner_last_iff (cfg : Cfg) (s : State) (a : List Int) :
    (step cfg s a).2.stepType = .last ↔
      ((isActionValid a s.actionMask).all id = false ∨ anyDirty (step cfg s a).1.grid = false ∨
        s.stepCount + 1 ≥ cfg.timeLimit) := Cleaner.step_last_iff cfg s a
end Props.C11

namespace Props.C05
/-- a joint action with an illegal component ends the episode with discount 0; the offending agents keep
their location, the others move -/
theorem cleaner_illegal_terminates (cfg : Cfg) (s : State) (hI : Inv cfg s) (action : List Nat)
    (ha : ∀ a ∈ action, a < 4) (hill : (legalJoint cfg s action).any (fun b => !b) = true) :
    (step cfg s (action.map Int.ofNat)).2.stepType = .last ∧
    (step cfg s (action.map Int.ofNat)).2.discount = [0] ∧
    (step cfg s (action.map Int.ofNat)).1.agents = moveSpec cfg s.grid s.agents action :=
  Cleaner.illegal_terminates hI action ha hill

/-- on a consistent state the decidable C05 predicate checked by the driver holds, with exact reward -/
theorem cleaner_illegal_terminates_pred (cfg : Cfg) (s : State) (hC : Consistent cfg s) (action : List Nat)
    (ha : ∀ a ∈ action, a < 4) (hill : (legalJoint cfg s action).any (fun b => !b) = true)
    (tol : Rat) (htol : 0 ≤ tol) :
    illegalTerminates cfg tol s action (step cfg s (action.map Int.ofNat)).1
      (step cfg s (action.map Int.ofNat)).2 = true := by
  obtain ⟨h1, h2, h3⟩ := illegal_terminates hC.inv action ha hill
  have h4 : (step cfg s (action.map Int.ofNat)).1.grid
      = cleanSpec s.grid (step cfg s (action.map Int.ofNat)).1.agents := by
    rw [h3]; exact step_grid_spec hC action ha
  have h5 : (step cfg s (action.map Int.ofNat)).2.reward
      = [rewardSpec cfg s (step cfg s (action.map Int.ofNat)).1] := by
    rw [step_reward, step_reward_spec hC action ha]
  unfold illegalTerminates
  rw [h5]
  simp only [Bool.and_eq_true, decide_eq_true_eq, beq_iff_eq, Rat.sub_self]
  exact ⟨⟨⟨⟨⟨h1, h3⟩, h4⟩, step_count cfg s _⟩, htol, htol⟩, h2⟩

/-- if EVERY component is illegal (in particular: one agent, illegal action) the problem state is untouched:
nobody moves and, the tiles under the agents being clean already, the grid does not change -/
theorem cleaner_illegal_untouched (cfg : Cfg) (s : State) (hC : Consistent cfg s) (action : List Nat)
    (hl : action.length = s.agents.length) (ha : ∀ a ∈ action, a < 4)
    (hill : ∀ b ∈ legalJoint cfg s action, b = false) :
    (step cfg s (action.map Int.ofNat)).1.grid = s.grid ∧ (step cfg s (action.map Int.ofNat)).1.agents = s.agents := by
  have hag : moveSpec cfg s.grid s.agents action = s.agents := moveSpec_all_illegal cfg s.grid s.agents action hl hill
  refine ⟨?_, ?_⟩
  · rw [step_grid_spec hC action ha, hag]
    exact cleanSpec_self s.agents (fun p hp => (hC.onClean p hp).2)
  · rw [step_agents hC.inv action ha, hag]

/-- agent 0 walks up out of the grid while agent 1 moves right: one illegal component -/
example : (legalJoint CleanerEx.cfg CleanerEx.st [0, 1]).any (fun b => !b) = true := by decide +kernel
/-- agent 0 up (out of the grid), agent 1 down (out of the grid): all components illegal -/
example : ∀ b ∈ legalJoint CleanerEx.cfg CleanerEx.st [0, 2], b = false := by decide +kernel
/-- agent 0 right into the wall from `(0,1)` would be illegal too: walls, not only borders -/
example : ¬ legalAt CleanerEx.cfg CleanerEx.st.grid (0, 1) 1 := by decide +kernel
/-- the implementation on `[0, 1]`: agent 0 stays, agent 1 moves right and cleans `(1,2)` -/
example : (step CleanerEx.cfg CleanerEx.st [0, 1]).1.agents = [(0, 0), (1, 2)] ∧
    (step CleanerEx.cfg CleanerEx.st [0, 1]).1.grid = [[1, 0, 2], [0, 1, 1]] := by decide +kernel
end Props.C05

namespace Props.C07
/-- any in-spec joint action, legal or not, leads from a consistent state to a consistent state: agents stay
inside the `numRows × numCols` grid, never on walls, the tiles under them are clean, tile values stay 0/1/2,
the grid keeps its shape and the stored mask is fresh -/
theorem cleaner_step_consistent (cfg : Cfg) (s : State) (hC : Consistent cfg s) (action : List Nat)
    (hl : action.length = s.agents.length) (ha : ∀ a ∈ action, a < 4) :
    Consistent cfg (step cfg s (action.map Int.ofNat)).1 := Cleaner.step_consistent hC action hl ha

/-- walls never change, clean tiles stay clean, the number of agents is constant -/
theorem cleaner_conserved (cfg : Cfg) (s : State) (hC : Consistent cfg s) (action : List Nat)
    (hl : action.length = s.agents.length) (ha : ∀ a ∈ action, a < 4) :
    conserved s (step cfg s (action.map Int.ofNat)).1 = true :=
  conserved_of_dirtyRel (by rw [step_agents hC.inv action ha, moveSpec_length _ _ _ _ hl]) (step_dirtyRel hC action ha)

/-- clean tiles stay clean for ANY state and ANY action list (no hypotheses) -/
theorem cleaner_clean_stays_clean (cfg : Cfg) (s : State) (a : List Int) :
    Jx.Grid.all id (Jx.Grid.zipWith (fun v v' => v != CLEAN || v' == CLEAN) s.grid (step cfg s a).1.grid) = true :=
  zip_clean_of_mono (mono_cleanTiles s.grid _)

example : Consistent CleanerEx.cfg CleanerEx.st := by decide +kernel

/-- the same between the first and the last state of ANY in-spec run from a consistent state -/
theorem cleaner_run_conserved (cfg : Cfg) (s : State) (hC : Consistent cfg s) (as : List (List Nat))
    (hA : InSpec cfg as) : conserved s (runState cfg s (toInt as)) = true := Cleaner.run_conserved hC as hA

/-- every state of every episode from `reset`: for every maze ACCEPTED BY THE CERTIFICATE `isRecursiveDivisionMaze` (the
shared `generate_maze` is not transliterated; the certificate is evaluated on real reset states by the harness) of the
configured size ≥ 1×1 and every in-spec sequence of joint actions (legal or not, of any length) -/
theorem cleaner_consistent_along (cfg : Cfg) (maze : Jx.Grid Bool) (hr : 0 < cfg.numRows) (hc : 0 < cfg.numCols)
    (hm : MazeGen.isRecursiveDivisionMaze maze cfg.numRows cfg.numCols = true) (as : List (List Nat))
    (hA : InSpec cfg as) :
    Consistent cfg (runState cfg (Cleaner.reset cfg (generate cfg maze)).1 (toInt as)) ∧
    conserved (Cleaner.reset cfg (generate cfg maze)).1
      (runState cfg (Cleaner.reset cfg (generate cfg maze)).1 (toInt as)) = true ∧
    wallMap (runState cfg (Cleaner.reset cfg (generate cfg maze)).1 (toInt as)).grid = maze :=
  Cleaner.consistent_along cfg maze hr hc hm as hA
end Props.C07

namespace Props.C08
/-- the reward telescopes: (clean tiles − penalty · steps) after a step = the same before + reward; any
state, any action list -/
theorem cleaner_reward_telescopes (cfg : Cfg) (s : State) (a : List Int) :
    potential cfg (step cfg s a).1 = potential cfg s + ((step cfg s a).2.reward).sum :=
  Cleaner.reward_telescopes cfg s a

/-- the same for the objective recomputed from the final state (clean tiles − 1 − penalty · steps) -/
theorem cleaner_objective_telescopes (cfg : Cfg) (s : State) (a : List Int) :
    objective cfg (step cfg s a).1 = objective cfg s + ((step cfg s a).2.reward).sum := by
  have h := reward_telescopes cfg s a
  have e : ∀ t : State, objective cfg t = potential cfg t - 1 := by
    intro t; unfold objective potential; grind
  rw [e, e, h]; grind

/-- whole runs: the return (sum of the step rewards) of ANY list of joint actions played from ANY state is the
increase of the potential (clean tiles − penalty · steps); the step counter advances by the number of steps.
No hypotheses: out-of-spec actions, illegal moves and steps after LAST included. -/
theorem cleaner_episode_return (cfg : Cfg) (s : State) (as : List (List Int)) :
    runReturn cfg s as = potential cfg (runState cfg s as) - potential cfg s ∧
    (runState cfg s as).stepCount = s.stepCount + (as.length : Int) :=
  ⟨Cleaner.run_return_potential cfg s as, Cleaner.run_stepCount cfg s as⟩

/-- return = (tiles cleaned during the run) − penalty · (number of steps), the cleaned tiles being the
increase of the number of CLEAN tiles; any state, any list of joint actions -/
theorem cleaner_episode_return_explicit (cfg : Cfg) (s : State) (as : List (List Int)) :
    runReturn cfg s as
      = ((countTiles CLEAN (runState cfg s as).grid : Nat) : Rat) - ((countTiles CLEAN s.grid : Nat) : Rat)
          - cfg.penalty * (as.length : Rat) :=
  Cleaner.run_return_explicit cfg s as

/-- the difference above is a genuine count: clean tiles never decrease along a run, the increase is the
number of cells whose value differs between the first and the last grid (each of them was not CLEAN and is
CLEAN now), and the return is that number − penalty · steps; any state, any list of joint actions -/
theorem cleaner_episode_return_cleaned (cfg : Cfg) (s : State) (as : List (List Int)) :
    countTiles CLEAN s.grid ≤ countTiles CLEAN (runState cfg s as).grid ∧
    countTiles CLEAN (runState cfg s as).grid
      = countTiles CLEAN s.grid + countDiff s.grid (runState cfg s as).grid ∧
    runReturn cfg s as
      = ((countDiff s.grid (runState cfg s as).grid : Nat) : Rat) - cfg.penalty * (as.length : Rat) :=
  ⟨by rw [run_clean_count]; omega, run_clean_count cfg s as, run_return_cleaned cfg s as⟩

/-- on a consistent state and in-spec joint actions (one component in `0..3` per agent, legal or not) the
cleaned tiles are the decrease of the number of DIRTY tiles (a genuine decrease), and every state of the run
is consistent -/
theorem cleaner_episode_return_dirty (cfg : Cfg) (s : State) (hC : Consistent cfg s) (as : List (List Nat))
    (hA : InSpec cfg as) :
    Consistent cfg (runState cfg s (toInt as)) ∧
    countTiles DIRTY (runState cfg s (toInt as)).grid ≤ countTiles DIRTY s.grid ∧
    runReturn cfg s (toInt as)
      = ((countTiles DIRTY s.grid - countTiles DIRTY (runState cfg s (toInt as)).grid : Nat) : Rat)
          - cfg.penalty * (as.length : Rat) := by
  have h := run_dirty_count hC as hA
  refine ⟨run_consistent hC as hA, by omega, ?_⟩
  rw [run_return_cleaned]
  have e : countTiles DIRTY s.grid - countTiles DIRTY (runState cfg s (toInt as)).grid
      = countDiff s.grid (runState cfg s (toInt as)).grid := by omega
  rw [e]
  simp [toInt]

/-- from a freshly generated state (step counter 0, only the start tile clean) the return of any run is the
objective recomputed from its final state: clean tiles − 1 − penalty · steps -/
theorem cleaner_episode_return_from_reset (cfg : Cfg) (s : State) (as : List (List Int))
    (h0 : s.stepCount = 0) (h1 : countTiles CLEAN s.grid = 1) :
    runReturn cfg s as = objective cfg (runState cfg s as) :=
  Cleaner.run_return_from_reset cfg s as h0 h1

/-- the two hypotheses above are established by `reset` for every maze accepted by the certificate
`isRecursiveDivisionMaze` of the configured size ≥ 1×1 -/
theorem cleaner_episode_return_from_generated (cfg : Cfg) (maze : Jx.Grid Bool) (hr : 0 < cfg.numRows)
    (hc : 0 < cfg.numCols) (hm : MazeGen.isRecursiveDivisionMaze maze cfg.numRows cfg.numCols = true)
    (as : List (List Int)) :
    countTiles CLEAN (Cleaner.reset cfg (generate cfg maze)).1.grid = 1 ∧
    (Cleaner.reset cfg (generate cfg maze)).1.stepCount = 0 ∧
    runReturn cfg (Cleaner.reset cfg (generate cfg maze)).1 as
      = objective cfg (runState cfg (Cleaner.reset cfg (generate cfg maze)).1 as) :=
  have h := generate_one_clean cfg maze hr hc hm
  ⟨h.1, h.2, run_return_from_reset cfg _ as h.2 h.1⟩

/-- a hand-made reset-like state on the 2×3 example grid: only the start tile clean, agents on it (not a generator output: the
wall map of this grid is not a recursive-division maze) -/
def cleanerExReset : State :=
  (Cleaner.reset CleanerEx.cfg { grid := [[1, 0, 2], [0, 0, 0]], agents := [(0, 0), (0, 0)],
                                 actionMask := [], stepCount := 0 }).1
/-- the hypotheses of `cleaner_episode_return_from_reset` (and of `cleaner_episode_return_dirty`) are
satisfiable -/
example : cleanerExReset.stepCount = 0 ∧ countTiles CLEAN cleanerExReset.grid = 1 ∧ Consistent CleanerEx.cfg cleanerExReset ∧
    InSpec CleanerEx.cfg [[1, 2], [2, 1], [0, 1]] := by decide +kernel
/-- a concrete run: agents go right/down, down/right, then agent 0 up again and agent 1 right: 4 tiles cleaned
in 3 steps with penalty 1/2: return 4 − 3/2 = 5/2 = objective of the final state -/
example : runReturn CleanerEx.cfg cleanerExReset (toInt [[1, 2], [2, 1], [0, 1]]) = 5/2 ∧
    (runState CleanerEx.cfg cleanerExReset (toInt [[1, 2], [2, 1], [0, 1]])).grid = [[1, 1, 2], [1, 1, 1]] ∧
    objective CleanerEx.cfg (runState CleanerEx.cfg cleanerExReset (toInt [[1, 2], [2, 1], [0, 1]])) = 5/2 := by
  decide +kernel
end Props.C08

namespace Props.C09
/-- L1 = L2 on consistent states and in-spec joint actions: successor state, reward, step type, discount and
observation of the implementation are the ones the rules prescribe -/
theorem cleaner_step_refines (cfg : Cfg) (s : State) (hC : Consistent cfg s) (action : List Nat)
    (ha : ∀ a ∈ action, a < 4) : step cfg s (action.map Int.ofNat) = stepSpec cfg s action :=
  Cleaner.step_refines hC action ha

theorem cleaner_next_refines (cfg : Cfg) (s : State) (hC : Consistent cfg s) (action : List Nat)
    (ha : ∀ a ∈ action, a < 4) : (step cfg s (action.map Int.ofNat)).1 = nextSpec cfg s action :=
  Cleaner.step_next_refines hC action ha

/-- the scatter `grid.at[rows, cols].set(CLEAN)` is the index-wise rule "clean iff an agent stands on it"
whenever no coordinate is negative (no shape hypothesis needed) -/
theorem cleaner_clean_refines (g : Jx.Grid Int) (locs : List Pos) (h : ∀ p ∈ locs, 0 ≤ p.1 ∧ 0 ≤ p.2) :
    cleanTiles g locs = cleanSpec g locs := Cleaner.cleanTiles_eq_cleanSpec g locs h

example : Consistent CleanerEx.cfg CleanerEx.st ∧ ∀ a ∈ [1, 3], a < 4 := by decide +kernel
end Props.C09

namespace Props.C10
/-!
The Cleaner generator draws a recursive-division maze with the generator it shares with Maze
(`maze_generation.generate_maze`, certificate `MazeGen.isRecursiveDivisionMaze`, theorems
`maze_connected_of_cert`, `maze_chamber_connected`), recodes it (`generate`), and `reset` adds the mask.
`resetCert cfg s` is the decidable certificate the driver evaluates on every reset state of the implementation
(`cleaner.instance`, key `reset_cert`; key `generate_matches` checks that the reset state IS
`reset cfg (generate cfg walls)` for its own wall map).
-/

/-- a certified reset state is the documented one (env.py `reset`: "All the tiles except upper left are dirty, and the
agents start in the upper left corner"), and it is `Consistent`, so `cleaner_step_consistent` applies along every
episode -/
theorem cleaner_reset_cert (cfg : Cfg) (s : State) (h : resetCert cfg s = true) :
    s.agents = List.replicate cfg.numAgents (0, 0) ∧
    free cfg s.grid (0, 0) ∧ tile s.grid (0, 0) = CLEAN ∧
    (∀ p, inGrid cfg p → p ≠ (0, 0) → tile s.grid p = DIRTY ∨ tile s.grid p = WALL) ∧
    (∀ p, free cfg s.grid p → p ≠ (0, 0) → tile s.grid p = DIRTY) ∧
    MazeGen.isRecursiveDivisionMaze (wallMap s.grid) cfg.numRows cfg.numCols = true ∧
    s.stepCount = 0 ∧ s.actionMask = legalMask cfg s.grid s.agents ∧ Consistent cfg s := by
  obtain ⟨_, _, h3, h4, h5, h6, h7, h8⟩ := Cleaner.resetCert_iff.1 h
  refine ⟨h4, Cleaner.origin_free_of_cert h, h5, Cleaner.othersDirty_iff.1 h6, ?_, h3, h7, h8,
    (Cleaner.cert_consistent h).1⟩
  intro p hp hne
  rcases Cleaner.othersDirty_iff.1 h6 p hp.1 hne with hd | hw
  · exact hd
  · exact absurd hw hp.2

/-- the transliterated generator passes the certificate for every maze accepted by `isRecursiveDivisionMaze`
(`generate_maze` itself is NOT transliterated — that its output passes `isRecursiveDivisionMaze` is checked on real reset
states by the harness, not proved), and the walls of the reset state are exactly the drawn maze -/
theorem cleaner_generate_cert (cfg : Cfg) (maze : Jx.Grid Bool) (hr : 0 < cfg.numRows) (hc : 0 < cfg.numCols)
    (hm : MazeGen.isRecursiveDivisionMaze maze cfg.numRows cfg.numCols = true) :
    resetCert cfg (Cleaner.reset cfg (generate cfg maze)).1 = true ∧
    wallMap (Cleaner.reset cfg (generate cfg maze)).1.grid = maze :=
  Cleaner.generate_cert cfg maze hr hc hm

/-- certificate ⇒ every free tile — in particular every dirty tile — is 4-connected to the start tile `(0, 0)`
through free tiles of the grid; more generally any two free tiles are connected -/
theorem cleaner_connected_of_cert (cfg : Cfg) (s : State) (h : resetCert cfg s = true) :
    (∀ q, free cfg s.grid q → Cleaner.Reach (free cfg s.grid) (0, 0) q) ∧
    (∀ q, inGrid cfg q → tile s.grid q = DIRTY → Cleaner.Reach (free cfg s.grid) (0, 0) q) ∧
    (∀ p q, free cfg s.grid p → free cfg s.grid q → Cleaner.Reach (free cfg s.grid) p q) :=
  have h0 := conn_of_cert h (0, 0)
  ⟨fun q => h0 q (origin_free_of_cert h), fun q hq hd => h0 q (origin_free_of_cert h) ⟨hq, by rw [hd]; decide⟩,
   conn_of_cert h⟩

/-- one edge of the free-cell graph is one L1 `step`: when all agents stand on `p` and direction `a` leads to a free
tile, the joint action "everybody plays `a`" is legal for every agent, moves every agent to `dest p a` (a clean tile
of the successor, by `Consistent`), and no tile changes except from non-WALL to CLEAN -/
theorem cleaner_step_along_edge (cfg : Cfg) (s : State) (p : Pos) (hC : Consistent cfg s)
    (hag : s.agents = List.replicate cfg.numAgents p) (a : Nat) (hl : legalAt cfg s.grid p a) :
    (∀ b ∈ legalJoint cfg s (List.replicate cfg.numAgents a), b = true) ∧
    (step cfg s ((List.replicate cfg.numAgents a).map Int.ofNat)).1.agents
      = List.replicate cfg.numAgents (dest p a) ∧
    Consistent cfg (step cfg s ((List.replicate cfg.numAgents a).map Int.ofNat)).1 ∧
    (∀ x, inGrid cfg x →
      tile (step cfg s ((List.replicate cfg.numAgents a).map Int.ofNat)).1.grid x = tile s.grid x ∨
      (tile s.grid x ≠ WALL ∧
        tile (step cfg s ((List.replicate cfg.numAgents a).map Int.ofNat)).1.grid x = CLEAN)) := by
  obtain ⟨k1, k2⟩ := Cleaner.pack_step (p := p) ⟨hC, hag⟩ hl
  refine ⟨k1, k2.2, k2.1, fun x _ => ?_⟩
  rcases tile_rel (Cleaned.refl _) (step_dirtyRel hC _ fun b hb => (List.mem_replicate.1 hb).2 ▸ hl.1) x
    with e | ⟨hd, hc⟩
  · exact .inl e
  · exact .inr ⟨by rw [hd]; decide, hc⟩

/-- certificate ⇒ every tile can be cleaned: from a certified reset state with at least one agent there EXISTS
a sequence of joint actions for the L1 `step` (the agents move together; with one agent: a plain action
sequence), every component legal in the state in which it is played (`AllLegal`: no step of the walk ends the
episode by an invalid move), after which no DIRTY tile is left.  Existence by connectivity (no explicit walk is
constructed). -/
theorem cleaner_all_cleanable (cfg : Cfg) (s : State) (h : resetCert cfg s = true) (hn : 0 < cfg.numAgents) :
    ∃ as : List (List Nat), InSpec cfg as ∧ AllLegal cfg s as ∧
      countTiles DIRTY (runState cfg s (toInt as)).grid = 0 := by
  obtain ⟨hC, h00⟩ := cert_consistent h
  obtain ⟨_, _, _, h4, _⟩ := resetCert_iff.1 h
  let L : List Pos := (Jx.Grid.coords cfg.numRows cfg.numCols).map (fun p => ((p.1 : Int), (p.2 : Int)))
  obtain ⟨as, p', a1, a2, a3, _, a6⟩ :=
    clean_list hn (ok := free cfg s.grid) (conn_of_cert h) L s (0, 0) ⟨hC, h4⟩ (origin_free_of_cert h)
      (fun _ hx => hx)
  refine ⟨as, a1, a2, countTiles_dirty_zero a3.1.shaped ?_⟩
  intro x hx
  obtain ⟨r, c, rfl, hr, hc⟩ := inGrid_nat hx
  by_cases hf : tile s.grid ((r : Int), (c : Int)) = WALL
  · rw [(run_tileExt hC as a1).wall hf]; decide
  · have hmem : ((r : Int), (c : Int)) ∈ L :=
      List.mem_map.2 ⟨(r, c), Jx.Grid.mem_coords.2 ⟨hr, hc⟩, rfl⟩
    rw [a6 _ hmem ⟨hx, hf⟩]; decide

/-- a 3×5 recursive-division maze, one agent: the generated reset state is certified -/
def cleanerGenCfg : Cfg := { numRows := 3, numCols := 5, numAgents := 1, timeLimit := 15, penalty := 1/2 }
def cleanerGenMaze : Jx.Grid Bool :=
  [[false, true, false, true, false],
   [false, true, false, true, false],
   [false, false, false, false, false]]
example : MazeGen.isRecursiveDivisionMaze cleanerGenMaze 3 5 = true := by decide
example : resetCert cleanerGenCfg (Cleaner.reset cleanerGenCfg (generate cleanerGenCfg cleanerGenMaze)).1 = true := by
  decide +kernel
example : (Cleaner.reset cleanerGenCfg (generate cleanerGenCfg cleanerGenMaze)).1.grid =
    [[1, 2, 0, 2, 0], [0, 2, 0, 2, 0], [0, 0, 0, 0, 0]] := by decide +kernel
/-- a concrete cleaning walk on it (down, down, right, right, up, up, down, down, right, right, up, up) -/
example : countTiles DIRTY (runState cleanerGenCfg
      (Cleaner.reset cleanerGenCfg (generate cleanerGenCfg cleanerGenMaze)).1
      (toInt [[2], [2], [1], [1], [0], [0], [2], [2], [1], [1], [0], [0]])).grid = 0 := by decide +kernel
/-- two states the certificate rejects: the second agent does not start on the origin; a tile is pre-cleaned.  (Their 2×3 wall
map fails `isRecursiveDivisionMaze`, a conjunct of `resetCert`, as well, so the two examples do not isolate these reasons.) -/
def cleanerBadAgents : State :=
  { grid := [[1, 0, 2], [0, 0, 0]], agents := [(0, 0), (1, 1)],
    actionMask := [[false, true, true, false], [true, true, false, true]], stepCount := 0 }
def cleanerBadClean : State :=
  { grid := [[1, 0, 2], [0, 1, 0]], agents := [(0, 0), (0, 0)],
    actionMask := [[false, true, true, false], [false, true, true, false]], stepCount := 0 }
example : resetCert CleanerEx.cfg cleanerBadAgents = false := by decide +kernel
example : resetCert CleanerEx.cfg cleanerBadClean = false := by decide +kernel
end Props.C10

namespace Props.C01
/-- the reset observation (generator output `g`, mask recomputed, `restart`) has every leaf inside the interval
`obsBounds cfg` lists for it: tiles 0..2, locations in `[0, max(rows, cols) − 1]`, mask 0..1,
`step_count = 0 ≤ time_limit` -/
theorem cleaner_reset_obs_in_bounds (cfg : Cfg) (g : State) (hk : TilesAndAgentsOK cfg g)
    (h0 : g.stepCount = 0) (htl : 0 ≤ cfg.timeLimit) : ObsInBounds cfg (Cleaner.reset cfg g).2.obs := by
  show ObsInBounds cfg (obsOf _)
  apply obsOf_in_bounds
  · exact hk
  · show 0 ≤ g.stepCount
    omega
  · show g.stepCount ≤ cfg.timeLimit
    omega

/-- every step taken from a consistent state of a running episode (`0 ≤ step_count < time_limit`) with any
in-spec joint action (legal or not) emits an observation inside `obsBounds cfg` — including the terminal
step, where `step_count = time_limit` -/
theorem cleaner_step_obs_in_bounds (cfg : Cfg) (s : State) (hC : Consistent cfg s) (h0 : 0 ≤ s.stepCount)
    (h1 : s.stepCount < cfg.timeLimit) (action : List Nat) (hl : action.length = s.agents.length)
    (ha : ∀ a ∈ action, a < 4) : ObsInBounds cfg (step cfg s (action.map Int.ofNat)).2.obs := by
  rw [step_obs]
  have hC' := step_consistent hC action hl ha
  apply obsOf_in_bounds cfg _ ⟨hC'.tiles, fun p hp => (hC'.onClean p hp).1⟩
  · rw [step_count]; omega
  · rw [step_count]; omega

/-- the reset state is consistent (so the step theorem applies along every episode, with
`cleaner_step_consistent`) when the generator delivers a well-shaped grid of tiles 0/1/2 and `num_agents`
agents on the clean origin -/
theorem cleaner_reset_consistent (cfg : Cfg) (g : State)
    (hs : Jx.Grid.shaped g.grid cfg.numRows cfg.numCols = true)
    (ht : Jx.Grid.all (fun v => v == DIRTY || v == CLEAN || v == WALL) g.grid = true)
    (hag : g.agents = List.replicate cfg.numAgents (0, 0))
    (hp : ∀ p ∈ g.agents, inGrid cfg p ∧ tile g.grid p = CLEAN) : Consistent cfg (Cleaner.reset cfg g).1 := by
  refine ⟨⟨hs, ?_, ?_⟩, ht, hp⟩
  · show g.agents.length = cfg.numAgents
    rw [hag, List.length_replicate]
  · show computeMask cfg g.grid (List.replicate cfg.numAgents (0, 0)) = legalMask cfg g.grid g.agents
    rw [← hag]; exact computeMask_eq hs _

example : Consistent Props.CleanerEx.cfg Props.CleanerEx.st ∧ 0 ≤ Props.CleanerEx.st.stepCount ∧
    Props.CleanerEx.st.stepCount < Props.CleanerEx.cfg.timeLimit := by decide +kernel
/-- the bound on `step_count` is attained on the step that reaches the limit -/
example : (step { Props.CleanerEx.cfg with timeLimit := 4 } Props.CleanerEx.st [1, 1]).2.obs.stepCount = 4 := by
  decide +kernel

/-! NOTE on what the membership theorems of this section do and do not cover: the dtype tag of every leaf
is written by `toNValue` (by construction) — a wrong dtype in the real code cannot falsify `….valid (toNValue …) = true`; dtypes and
field order of the real observations are compared by the `cleaner.spec` / `cleaner.state` ops (`nvalue`: field order, shape, dtype, data) and
`jax.eval_shape` in the sweeps.  Shapes are READ OFF the value by `toNValue` (widths off the first row): see `…_obs_valid_only`. -/

/-! #### membership in the model's `obsSpec`
(`obsSpec` is the declared spec at the catalogue configurations: `cleaner_obsSpec_generated`, Props/SpecTable.lean) -/
open Sp PzS

/-- the `reset` observation is accepted by `observation_spec.validate` for every maze accepted by the certificate
`isRecursiveDivisionMaze` of the configured size ≥ 1×1 and every configuration with `time_limit ≥ 0` -/
theorem cleaner_reset_obs_valid (cfg : Cfg) (maze : Jx.Grid Bool) (hr : 0 < cfg.numRows) (hc : 0 < cfg.numCols)
    (hm : MazeGen.isRecursiveDivisionMaze maze cfg.numRows cfg.numCols = true) (htl : 0 ≤ cfg.timeLimit) :
    (obsSpec cfg).valid (toNValue cfg (Cleaner.reset cfg (generate cfg maze)).2.obs) = true := by
  have hcert := (generate_cert cfg maze hr hc hm).1
  have hC := (cert_consistent hcert).1
  have h0 : (reset cfg (generate cfg maze)).1.stepCount = 0 := rfl
  show (obsSpec cfg).valid (toNValue cfg (obsOf (reset cfg (generate cfg maze)).1)) = true
  exact obsOf_valid cfg _ hC (by omega) (by omega)

/-- the same for every `step` observation from a consistent state of a running episode, for every in-spec joint
action (legal or not), up to and including the terminal step -/
theorem cleaner_step_obs_valid (cfg : Cfg) (s : State) (hC : Consistent cfg s) (h0 : 0 ≤ s.stepCount)
    (h1 : s.stepCount < cfg.timeLimit) (action : List Nat) (hl : action.length = s.agents.length)
    (ha : ∀ a ∈ action, a < 4) :
    (obsSpec cfg).valid (toNValue cfg (step cfg s (action.map Int.ofNat)).2.obs) = true := by
  rw [step_obs]
  refine obsOf_valid cfg _ (step_consistent hC action hl ha) ?_ ?_
  · rw [step_count]; omega
  · rw [step_count]; omega

/-- composed: every observation of every episode from `reset` — any certified maze, any in-spec joint actions `as`
played so far (fewer than `time_limit`), any further in-spec joint action — is a member of the declared spec -/
theorem cleaner_obs_valid_along (cfg : Cfg) (maze : Jx.Grid Bool) (hr : 0 < cfg.numRows) (hc : 0 < cfg.numCols)
    (hm : MazeGen.isRecursiveDivisionMaze maze cfg.numRows cfg.numCols = true) (as : List (List Nat))
    (hA : InSpec cfg as) (hlen : (as.length : Int) < cfg.timeLimit) (action : List Nat)
    (hl : action.length = cfg.numAgents) (ha : ∀ a ∈ action, a < 4) :
    (obsSpec cfg).valid (toNValue cfg
      (step cfg (runState cfg (Cleaner.reset cfg (generate cfg maze)).1 (toInt as)) (action.map Int.ofNat)).2.obs) = true := by
  have hC := (consistent_along cfg maze hr hc hm as hA).1
  have hcnt := run_stepCount cfg (reset cfg (generate cfg maze)).1 (toInt as)
  have h0 : (reset cfg (generate cfg maze)).1.stepCount = 0 := rfl
  have hlen' : (toInt as).length = as.length := by simp [toInt]
  refine cleaner_step_obs_valid cfg _ hC ?_ ?_ action (by rw [hl, hC.numAgents]) ha
  · rw [hcnt, h0, hlen']; omega
  · rw [hcnt, h0, hlen']; omega

/-- what `validate` accepts ONLY, so the theorems above are not hollow.  CAVEAT: for every field that is a nested list,
`toNValue` reads the widths off the FIRST row, so the shape conjuncts mean "row count, length of the first row, total
number of cells" — a ragged value with the right total can be a member, and nothing is concluded about the later rows.
Rectangularity is part of the invariant (`Consistent`, through `Jx.Grid.shaped`, and the stored mask being `legalMask`)
under which the forward theorems are proved, i.e. it holds of every EMITTED observation. -/
theorem cleaner_obs_valid_only (cfg : Cfg) (o : Obs) (h : (obsSpec cfg).valid (toNValue cfg o) = true) :
    List.length o.grid = cfg.numRows ∧ (List.flatten o.grid).length = cfg.numRows * cfg.numCols ∧
    (∀ v ∈ List.flatten o.grid, 0 ≤ v ∧ v ≤ 2) ∧ o.agents.length = cfg.numAgents ∧
    o.actionMask.length = cfg.numAgents ∧ 0 ≤ o.stepCount ∧ o.stepCount ≤ cfg.timeLimit :=
  Cleaner.obs_valid_only cfg o h

/-- rejected: a counter beyond the limit, a tile value 3, an agent in column `num_cols + 1`; accepted: the example
state's observation — and, the declared maxima of `agents_locations` being the EXTENTS, an agent "at" row `num_rows`
(outside the grid) would be accepted too: the declared spec is looser than what `step` emits
(`cleaner_step_consistent`: every agent is `inGrid`; `cleaner_step_obs_in_bounds` has the one interval `≤ max(rows, cols) − 1`
for both coordinates) -/
example :
    (obsSpec CleanerEx.cfg).valid (toNValue CleanerEx.cfg (obsOf { CleanerEx.st with stepCount := 11 })) = false ∧
    (obsSpec CleanerEx.cfg).valid (toNValue CleanerEx.cfg (obsOf { CleanerEx.st with grid := [[1, 0, 3], [0, 1, 0]] })) = false ∧
    (obsSpec CleanerEx.cfg).valid (toNValue CleanerEx.cfg (obsOf { CleanerEx.st with agents := [(0, 4), (1, 1)] })) = false ∧
    (obsSpec CleanerEx.cfg).valid (toNValue CleanerEx.cfg (obsOf CleanerEx.st)) = true ∧
    (obsSpec CleanerEx.cfg).valid (toNValue CleanerEx.cfg (obsOf { CleanerEx.st with agents := [(2, 3), (1, 1)] })) = true := by
  decide +kernel

/-- `action_spec.generate_value()`: the generated value — the all-zero joint action, everybody "up" — is a member of
the spec, and `step` answers it in EVERY state with a protocol-conform timestep -/
theorem cleaner_accepts_generate_value (cfg : Cfg) (s : State) :
    (actionSpec cfg).WF = true ∧ (actionSpec cfg).valid (actionSpec cfg).generate = true ∧
    (actionSpec cfg).generate = ⟨[cfg.numAgents], .int32, List.replicate cfg.numAgents 0⟩ ∧
    StepOK none false (step cfg s (List.replicate cfg.numAgents 0)).2 = true := Cleaner.accepts_generate_value cfg s

/-- reward and discount of every `step` (ALL states, ALL action lists) are accepted by `reward_spec` (Array((), float))
and `discount_spec` (BoundedArray((), float, 0, 1)) -/
theorem cleaner_reward_discount_valid (cfg : Cfg) (s : State) (a : List Int) :
    PzS.rewardSpec.valid (scalarArr (step cfg s a).2.reward) = true ∧
    discountSpec.valid (scalarArr (step cfg s a).2.discount) = true :=
  stepOK_reward_discount_valid false _ (step_stepOK cfg s a)
end Props.C01
