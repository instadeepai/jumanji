-- BEGIN ENV IMPORTS (generated by tools/mkprops.py)
import JumanjiModel.Props.Env.RubiksCube
import JumanjiModel.Props.Env.SlidingTilePuzzle
import JumanjiModel.Props.Env.Tetris
-- END ENV IMPORTS
/- Property C03 — episodes follow the FIRST, MID*, LAST protocol with sane reward and discount.
   The step expression of every environment class is GENERATED from the source (Gen/Protocol.lean);
   the theorems hold for all done flags, rewards, observations — in particular for any state,
   reachable or not, hence also for steps taken after a LAST timestep. -/
import JumanjiModel.Core.ProtocolLemmas
import JumanjiModel.Gen.Protocol
import JumanjiModel.Gen.Registry
import JumanjiModel.Props.ProtocolInstances
open Jm Proto

namespace Props.C03
variable {O : Type}

/-- `restart(obs, shape=sh)`: FIRST, zero reward, unit discount of shape `sh` (what the constructor does) -/
theorem restart_first (o : O) (sh : RShape) : ResetOK sh (restart o sh) = true := restart_ok o sh

/-- THE reset theorem, about the `restart(…)` call as it is written in the class (`Entry.resetHasShape`: whether
`shape=` is passed) against the DECLARED reward/discount shape `sh` of the class (`hm`: the class overrides
`reward_spec`/`discount_spec` with a multi-agent shape iff `sh ≠ ()`).  For every well-formed entry — every class,
`table_wellFormed` — the reset timestep is FIRST with zero reward and unit discount of the declared shape.
A class that declared a multi-agent spec but called `restart` without `shape=` (or vice versa) would not be
well-formed and the conclusion would be false: see the examples below. -/
theorem entry_reset_protocol (e : Entry) (hw : e.wellFormed = true) (sh : RShape)
    (hm : e.multi = true ↔ sh ≠ none) (o : O) :
    ResetOK sh (restart o (if e.resetHasShape then sh else none)) = true := by
  have hrs : e.resetHasShape = e.multi := by
    unfold Entry.wellFormed at hw
    simp only [Bool.and_eq_true, beq_iff_eq] at hw
    exact hw.1
  rw [shape_of_multi hm hrs]
  exact restart_ok o sh

/-- every environment class is recognised by the translator and follows the syntactic discipline
(termination on the done branch, transition otherwise, `shape=` passed consistently with the specs) -/
theorem table_wellFormed : Gen.Protocol.table.all Entry.wellFormed = true := by decide +kernel

/-- every class of the generated table, with the shape its entry declares -/
theorem table_reset_protocol (e : Entry) (he : e ∈ Gen.Protocol.table) (sh : RShape)
    (hm : e.multi = true ↔ sh ≠ none) (o : O) :
    ResetOK sh (restart o (if e.resetHasShape then sh else none)) = true :=
  entry_reset_protocol e (List.all_eq_true.1 table_wellFormed e he) sh hm o

-- instance: Connector's entry (multi-agent, passes `shape=`), three agents
example : ResetOK (some 3) (restart () (if (⟨"Connector", .cond ⟨.termination, true, false⟩ ⟨.transition, true, true⟩, true, true⟩ : Entry).resetHasShape then some 3 else none)) = true := by decide +kernel
-- the defect the theorem excludes: a multi-agent class whose `reset` forgets `shape=` emits a scalar reward
example : ResetOK (some 3) (restart () (if (⟨"Bad", .cond ⟨.termination, true, false⟩ ⟨.transition, true, false⟩, false, true⟩ : Entry).resetHasShape then some 3 else none)) = false := by decide +kernel
example : (⟨"Bad", .cond ⟨.termination, true, false⟩ ⟨.transition, true, false⟩, false, true⟩ : Entry).wellFormed = false := by decide

/-- every class reachable through the registry has an entry -/
theorem table_covers_registry :
    Gen.Registry.shippedClasses.all (fun c => Gen.Protocol.table.any (fun e => e.cls == c)) = true := by decide +kernel
/-- LevelBasedForaging is the only class that uses (documented) truncation -/
theorem only_lbf_truncates :
    (Gen.Protocol.table.filter Entry.truncates).map (·.cls) = ["LevelBasedForaging"] := by decide +kernel

/-- only Connector passes an explicit `discount=` to a constructor; every other class lets
`jumanji/types.py` build the discount from `shape` -/
theorem only_connector_explicit_discount :
    (Gen.Protocol.table.filter Entry.explicitDiscount).map (·.cls) = ["Connector"] := by decide +kernel

/-- every recognised step expression passes the reward the environment computed through UNCHANGED -/
theorem entry_reward_passthrough (e : Entry) (sh : RShape) (terminate truncate : Bool) (r : List Rat) (o : O)
    (disc : List Rat) (ts : TimeStep O) (hts : evalStep e.step sh terminate truncate r o disc = some ts) :
    ts.reward = r := evalStep_reward e.step sh terminate truncate r o disc ts hts

/-- THE protocol theorem, discount part — NO hypothesis on the reward.  For every well-formed entry, whatever
`done`/`terminate`/`truncate` flags, reward and observation the environment computes (hence for any state, also
after LAST), the emitted timestep is never FIRST, its discount has exactly the declared shape and lies in [0,1],
a MID step never has an all-zero discount, and a LAST step has zero discount unless the entry truncates.

Remaining hypothesis `hd`, ONLY for an entry with an explicit `discount=` (Connector, `only_connector_explicit_discount`):
the vector the environment passes has the declared length, lies in [0,1] and is not all-zero unless done.  It is
DISCHARGED for the Connector model, for all states, in `Props/ProtocolInstances.lean`
(`connector_l1_step_protocol`, from `connector_discount`). -/
theorem entry_protocol_discount (e : Entry) (hw : e.wellFormed = true) (sh : RShape) (hsz : 0 < sh.size)
    (hm : e.multi = true ↔ sh ≠ none) (terminate truncate : Bool) (r : List Rat) (o : O) (disc : List Rat)
    (hd : e.explicitDiscount = true →
      disc.length = sh.size ∧ allIn01 disc = true ∧ (terminate = false → allZero disc = false))
    (ts : TimeStep O) (hts : evalStep e.step sh terminate truncate r o disc = some ts) :
    DiscOK sh e.truncates ts = true := by
  unfold Entry.wellFormed at hw
  cases hs : e.step with
  | unrecognised => simp [hs] at hw
  | cond t f =>
    simp only [hs, Bool.and_eq_true, beq_iff_eq, Bool.not_eq_true'] at hw
    obtain ⟨_, ⟨⟨⟨⟨h1, h2⟩, h3⟩, h4⟩, _⟩⟩ := hw
    simp only [hs, evalStep, Option.some.injEq] at hts
    subst hts
    have := cond_disc_ok t f sh hsz e.multi hm h1 h2 h3 h4 terminate r o disc
      (fun hf => hd (by simp [Entry.explicitDiscount, hs, hf]))
    simpa [Entry.truncates, hs] using this
  | switch4 b0 b1 b2 b3 =>
    simp only [hs, Bool.and_eq_true, beq_iff_eq, Bool.not_eq_true'] at hw
    obtain ⟨_, ⟨⟨⟨⟨⟨⟨⟨⟨⟨c0, c1⟩, c2⟩, c3⟩, s0⟩, s1⟩, s2⟩, s3⟩, d0⟩, d2⟩⟩ := hw
    rw [hs] at hts
    have := (switch4_disc_ok b0 b1 b2 b3 sh hsz e.multi hm c0 c1 c2 c3 s0 s1 s2 s3 d0 d2 terminate truncate r o disc ts hts).1
    simpa [Entry.truncates, hs] using this

/-- THE protocol theorem, full predicate `StepOK` (= the reward has the declared length + the discount part).
Since every constructor passes the reward through (`entry_reward_passthrough`), `hr : r.length = sh.size` is
exactly the obligation of the environment's reward function; it is discharged per environment by the
`*_l1_step_protocol` theorems of `Props/ProtocolInstances.lean` for the L1 models listed there, and checked on every
real timestep by the C03/C01 searches (`np.shape(ts.reward) == reward_spec.shape`) for all 23 classes. -/
theorem entry_protocol (e : Entry) (hw : e.wellFormed = true) (sh : RShape) (hsz : 0 < sh.size)
    (hm : e.multi = true ↔ sh ≠ none) (terminate truncate : Bool) (r : List Rat) (o : O) (disc : List Rat)
    (hr : r.length = sh.size)
    (hd : e.explicitDiscount = true →
      disc.length = sh.size ∧ allIn01 disc = true ∧ (terminate = false → allZero disc = false))
    (ts : TimeStep O) (hts : evalStep e.step sh terminate truncate r o disc = some ts) :
    StepOK sh e.truncates ts = true := by
  rw [stepOK_iff]
  refine ⟨?_, entry_protocol_discount e hw sh hsz hm terminate truncate r o disc hd ts hts⟩
  rw [entry_reward_passthrough e sh terminate truncate r o disc ts hts]; exact hr

/-- … and conversely: if the environment computes a reward of the wrong length, the emitted timestep violates the
protocol (the hypothesis `hr` is necessary, not an artefact) -/
theorem entry_protocol_needs_reward_shape (e : Entry) (sh : RShape) (truncOK : Bool) (terminate truncate : Bool)
    (r : List Rat) (o : O) (disc : List Rat) (hr : r.length ≠ sh.size)
    (ts : TimeStep O) (hts : evalStep e.step sh terminate truncate r o disc = some ts) :
    StepOK sh truncOK ts = false := by
  cases h : StepOK sh truncOK ts with
  | false => rfl
  | true =>
    have := ((stepOK_iff _ _ _).1 h).1
    rw [entry_reward_passthrough e sh terminate truncate r o disc ts hts] at this
    exact absurd this hr

-- instance of `entry_protocol` without any discount hypothesis: the Maze entry, scalar reward
example (done : Bool) (x : Rat) :
    StepOK none false (condLast done [x] ()) = true := by
  have := entry_protocol (O := Unit) ⟨"Maze", .cond ⟨.termination, false, false⟩ ⟨.transition, false, false⟩, false, false⟩
    (by decide) none (by decide) (by decide) done false [x] () [] rfl (fun h => by simp [Entry.explicitDiscount] at h) _ rfl
  simpa [evalBranch, condLast, Entry.truncates] using this

/-- the three step expressions that occur in the generated table: the plain `lax.cond(done, termination,
transition)` (21 classes; its semantics is `Jm.condLast`, `evalStep_plain`), Connector's (explicit MID discount,
`shape=`; `Jm.condLastDiscount`, `evalStep_connector`) and LBF's switch (`Jm.switch3`, `evalStep_lbf`).  The L1
models END their `step` in exactly these combinators, and `Props/ProtocolInstances.lean` proves
`E_l1_step_protocol : StepOK … (E.step …).2 = true` for 21 of them, for all states; RubiksCube and SlidingTilePuzzle have
`rubik_step_protocol` / `sliding_step_protocol` in their Props/Env files. -/
theorem table_step_shapes : Gen.Protocol.table.all (fun e =>
    if e.cls == "Connector" then e.step == .cond ⟨.termination, true, false⟩ ⟨.transition, true, true⟩
    else if e.cls == "LevelBasedForaging" then
      e.step == .switch4 ⟨.transition, true, false⟩ ⟨.termination, true, false⟩ ⟨.truncation, true, false⟩ ⟨.termination, true, false⟩
    else e.step == .cond ⟨.termination, false, false⟩ ⟨.transition, false, false⟩) = true := by decide +kernel

/-- the documented exception, exactly: LAST with non-zero discount ↔ truncation without termination -/
theorem lbf_truncation_exact (b0 b1 b2 b3 : Branch) (sh : RShape) (hsz : 0 < sh.size) (multi : Bool)
    (hm : multi = true ↔ sh ≠ none)
    (h0 : b0.ctor = .transition) (h1 : b1.ctor = .termination) (h2 : b2.ctor = .truncation) (h3 : b3.ctor = .termination)
    (s0 : b0.hasShape = multi) (s1 : b1.hasShape = multi) (s2 : b2.hasShape = multi) (s3 : b3.hasShape = multi)
    (d0 : b0.hasDiscount = false) (d2 : b2.hasDiscount = false)
    (terminate truncate : Bool) (r : List Rat) (o : O) (disc : List Rat) (hr : r.length = sh.size)
    (ts : TimeStep O) (hts : evalStep (.switch4 b0 b1 b2 b3) sh terminate truncate r o disc = some ts) :
    (ts.stepType = .last ↔ (terminate = true ∨ truncate = true)) ∧
    ((ts.stepType = .last ∧ allZero ts.discount = false) ↔ (truncate = true ∧ terminate = false)) :=
  (switch4_disc_ok b0 b1 b2 b3 sh hsz multi hm h0 h1 h2 h3 s0 s1 s2 s3 d0 d2 terminate truncate r o disc ts hts).2

-- non-vacuity: the Connector entry with two agents, one connected
example : StepOK (some 2) false
    (condLastDiscount false [0, 1] () [0, 1] (some 2)) = true := by decide +kernel
end Props.C03
