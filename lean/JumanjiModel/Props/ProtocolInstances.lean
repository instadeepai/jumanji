/-
C03 per environment: the L1 `step` of each model ENDS in the combinator the translator recorded for the class
(`Gen.Protocol.table`: `lax.cond(done, termination, transition)` = `Jm.condLast`; Connector with an explicit MID
discount = `Jm.condLastDiscount`; LevelBasedForaging's switch = `Jm.switch3`), and therefore its timestep satisfies the protocol predicate `Jm.StepOK`
(never FIRST, reward and discount of the declared shape, discount in [0,1], MID ⇒ not all-zero, LAST ⇒ zero) —
for ALL states, reachable or not, hence also for steps taken after LAST, all actions and all draws.
(RubiksCube and SlidingTilePuzzle have their own `rubik_step_protocol` / `sliding_step_protocol` in Props/Env/*.lean.)
Here the reward-length hypothesis `hr` of `Props.C03.entry_protocol` is discharged (the models build the reward
as a one-element list / a per-agent list), and so is the discount hypothesis `hd` for Connector.
-/
import JumanjiModel.Core.ProtocolLemmas
import JumanjiModel.Props.Env.Connector
import JumanjiModel.Env.LBF.Model
import JumanjiModel.Env.Snake.SpecValid
import JumanjiModel.Env.Maze.SpecValid
import JumanjiModel.Env.Knapsack.Model
import JumanjiModel.Env.Game2048.SpecLemmas
import JumanjiModel.Env.Sudoku.SpecValid
import JumanjiModel.Env.BinPack.Spec
import JumanjiModel.Env.CVRP.Model
import JumanjiModel.Env.Cleaner.SpecLemmas
import JumanjiModel.Env.FlatPack.SpecValid
import JumanjiModel.Env.GraphColoring.SpecLemmas
import JumanjiModel.Env.JobShop.SpecValid
import JumanjiModel.Env.MMST.Spec
import JumanjiModel.Env.Minesweeper.SpecLemmas
import JumanjiModel.Env.MultiCVRP.Spec
import JumanjiModel.Env.PacMan.Model
import JumanjiModel.Env.RobotWarehouse.SpecValid
import JumanjiModel.Env.Sokoban.Model
import JumanjiModel.Env.TSP.Model
import JumanjiModel.Env.Tetris.SpecValid
open Jm Proto

namespace Props.C03
variable {O : Type}

/-- the semantics of the table's plain entry IS `condLast` -/
theorem evalStep_plain (done truncate : Bool) (r : List Rat) (o : O) (disc : List Rat) :
    evalStep (.cond ⟨.termination, false, false⟩ ⟨.transition, false, false⟩) none done truncate r o disc =
      some (condLast done r o) := by
  cases done <;> rfl

/-- the semantics of Connector's entry IS `condLastDiscount` -/
theorem evalStep_connector (k : Nat) (done truncate : Bool) (r : List Rat) (o : O) (disc : List Rat) :
    evalStep (.cond ⟨.termination, true, false⟩ ⟨.transition, true, true⟩) (some k) done truncate r o disc =
      some (condLastDiscount done r o disc (some k)) := by
  cases done <;> rfl

/-- Connector's `lax.cond(done, termination(shape=k), transition(discount=d, shape=k))` obeys the protocol when
reward and discount have length `k`, `d ∈ [0,1]^k` and `d` is not all-zero unless `done` -/
theorem condLastDiscount_protocol (k : Nat) (hk : 0 < k) (done : Bool) (r : List Rat) (o : O) (d : List Rat)
    (hr : r.length = k) (hd : d.length = k) (h01 : allIn01 d = true) (hz : done = false → allZero d = false) :
    StepOK (some k) false (condLastDiscount done r o d (some k)) = true := by
  have := cond_disc_ok (O := O) ⟨.termination, true, false⟩ ⟨.transition, true, true⟩ (some k) hk true (by simp)
    rfl rfl rfl rfl done r o d (fun _ => ⟨hd, h01, hz⟩)
  rw [stepOK_iff]
  constructor
  · cases done <;> exact hr
  · cases done <;> simpa [evalBranch, condLastDiscount] using this

/-! Most environments prove the fact next to their specification (`E.step_protocol`).  Knapsack, CVRP, PacMan, Sokoban and TSP
do not: their `E.step` ends in `(s', condLast done [r] o)`, and `dsimp only [E.step]` reduces the projection `.2` of that
pair, so that `condLast_stepOK` applies syntactically; leaving the reduction to the unifier of `exact` is much slower. -/

theorem snake_l1_step_protocol (rnd : Rat → Rat) (cfg : Snake.Cfg) (s : Snake.State) (a : Int) (d : Nat) :
    StepOK none false (Snake.step rnd cfg s a d).2 = true := Snake.step_protocol rnd cfg s a d
theorem maze_l1_step_protocol (cfg : Maze.Cfg) (s : Maze.State) (a : Int) :
    StepOK none false (Maze.step cfg s a).2 = true := Maze.step_protocol cfg s a
theorem knapsack_l1_step_protocol (rnd : Rat → Rat) (dense : Bool) (s : Knapsack.State) (a : Int) :
    StepOK none false (Knapsack.step rnd dense s a).2 = true := by
  dsimp only [Knapsack.step]
  exact condLast_stepOK _ _ _
theorem game2048_l1_step_protocol (s : Game2048.State) (a : Int) (d : Game2048.Draw) :
    StepOK none false (Game2048.step s a d).2 = true := Game2048.step_protocol s a d
theorem sudoku_l1_step_protocol (s : Sudoku.State) (r c d : Int) :
    StepOK none false (Sudoku.step s r c d).2 = true := Sudoku.step_protocol s r c d
theorem binpack_l1_step_protocol (cfg : BinPack.Cfg) (rnd : Rat → Rat) (s : BinPack.State) (e i : Int) (d : BinPack.EmsDraw) :
    StepOK none false (BinPack.step cfg rnd s e i d).2 = true := BinPack.step_protocol cfg rnd s e i d
theorem cvrp_l1_step_protocol (c : CVRP.Cfg) (D : CVRP.Dist) (s : CVRP.State) (a : Nat) :
    StepOK none false (CVRP.step c D s a).2 = true := by
  dsimp only [CVRP.step]
  exact condLast_stepOK _ _ _
theorem cleaner_l1_step_protocol (cfg : Cleaner.Cfg) (s : Cleaner.State) (a : List Int) :
    StepOK none false (Cleaner.step cfg s a).2 = true := Cleaner.step_stepOK cfg s a
theorem flatpack_l1_step_protocol (rnd : Rat → Rat) (cfg : FlatPack.Cfg) (s : FlatPack.State) (a : FlatPack.Action) :
    StepOK none false (FlatPack.step rnd cfg s a).2 = true := FlatPack.step_protocol rnd cfg s a
theorem graphcoloring_l1_step_protocol (n : Nat) (s : GraphColoring.State) (a : Int) :
    StepOK none false (GraphColoring.step n s a).2 = true := GraphColoring.step_protocol n s a
theorem jobshop_l1_step_protocol (cfg : JobShop.Cfg) (s : JobShop.State) (a : List Int) :
    StepOK none false (JobShop.step cfg s a).2 = true := JobShop.step_protocol cfg s a
theorem mmst_l1_step_protocol (cfg : MMST.Cfg) (s : MMST.State) (a : List Int) (p : List Nat) :
    StepOK none false (MMST.step cfg s a p).2 = true := MMST.step_protocol cfg s a p
theorem minesweeper_l1_step_protocol (cfg : Minesweeper.Cfg) (s : Minesweeper.State) (r c : Int) :
    StepOK none false (Minesweeper.step cfg s r c).2 = true := Minesweeper.step_protocol cfg s r c
theorem multicvrp_l1_step_protocol (rnd : Rat → Rat) (c : MultiCVRP.Cfg) (D : MultiCVRP.Dist) (s : MultiCVRP.State) (a : List Nat) :
    StepOK none false (MultiCVRP.step rnd c D s a).2 = true := MultiCVRP.step_protocol rnd c D s a
theorem pacman_l1_step_protocol (tl : Int) (s : PacMan.State) (a : Int) (d : PacMan.Draw) :
    StepOK none false (PacMan.step tl s a d).2 = true := by
  dsimp only [PacMan.step]
  exact condLast_stepOK _ _ _
theorem rware_l1_step_protocol (cfg : RobotWarehouse.Cfg) (s : RobotWarehouse.State) (a d : List Int) :
    StepOK none false (RobotWarehouse.step cfg s a d).2 = true := RobotWarehouse.step_protocol cfg s a d
theorem sokoban_l1_step_protocol (rnd : Rat → Rat) (cfg : Sokoban.Cfg) (s : Sokoban.State) (a : Int) :
    StepOK none false (Sokoban.step rnd cfg s a).2 = true := by
  dsimp only [Sokoban.step]
  exact condLast_stepOK _ _ _
theorem tsp_l1_step_protocol (n : Nat) (D : TSP.Dist) (pen : Rat) (dense : Bool) (s : TSP.State) (a : Int) :
    StepOK none false (TSP.step n D pen dense s a).2 = true := by
  dsimp only [TSP.step]
  exact condLast_stepOK _ _ _
theorem tetris_l1_step_protocol (cfg : Tetris.Cfg) (s : Tetris.State) (rot x : Int) (d : Nat) :
    StepOK none false (Tetris.step cfg s rot x d).2 = true := Tetris.step_protocol cfg s rot x d

/-- the semantics of LBF's entry IS `switch3` -/
theorem evalStep_lbf (k : Nat) (terminate truncate : Bool) (r : List Rat) (o : O) (disc : List Rat) :
    evalStep (.switch4 ⟨.transition, true, false⟩ ⟨.termination, true, false⟩ ⟨.truncation, true, false⟩
      ⟨.termination, true, false⟩) (some k) terminate truncate r o disc =
      some (switch3 terminate truncate r o (some k)) := by
  cases terminate <;> cases truncate <;> rfl

theorem switch3_protocol (k : Nat) (hk : 0 < k) (terminate truncate : Bool) (r : List Rat) (o : O)
    (hr : r.length = k) : StepOK (some k) true (switch3 terminate truncate r o (some k)) = true :=
  (stepOK_iff _ _ _).2 ⟨(congrArg List.length (switch3_reward r o terminate truncate (some k))).trans hr,
    (switch4_disc_ok (O := O) ⟨.transition, true, false⟩ ⟨.termination, true, false⟩ ⟨.truncation, true, false⟩
      ⟨.termination, true, false⟩ (some k) hk true (by simp) rfl rfl rfl rfl rfl rfl rfl rfl rfl rfl
      terminate truncate r o [] _ (evalStep_lbf k terminate truncate r o [])).1⟩

/-- LevelBasedForaging, ALL states with at least one agent, all joint actions: the per-agent reward vector has
one entry per agent (`get_reward` sums over foods into `num_agents` columns), so the timestep obeys the protocol
with documented truncation (`truncOK`) -/
theorem lbf_l1_step_protocol (cfg : LBF.Cfg) (s : LBF.State) (hk : 0 < s.agents.length) (a : List Int) :
    StepOK (some s.agents.length) true (LBF.step cfg s a).2 = true := by
  unfold LBF.step
  exact switch3_protocol _ hk _ _ _ _ (by simp [LBF.getReward, LBF.sumCols])

/-- Connector, ALL states whose agent array has the configured length `k = num_agents > 0` and all joint
actions of that length (the shapes JAX enforces) — reachable or not, also after LAST: the reward vector and the
explicit MID discount vector have length `k`, every discount entry is `1 − done_i ∈ {0, 1}`, and on a MID step
(not every agent done) some entry is 1.  This DISCHARGES the hypotheses `hr` and `hd` of `entry_protocol` for the
Connector entry. -/
theorem connector_l1_step_protocol (cfg : Connector.Cfg) (hk : 0 < cfg.k) (s : Connector.State)
    (hs : s.agents.length = cfg.k) (acts : List Int) (ha : acts.length = cfg.k) :
    StepOK (some cfg.k) false (Connector.step cfg s acts).2 = true := by
  have hlen := Connector.stepAgents_length cfg.k s acts hs ha
  unfold Connector.step Connector.finish
  simp only []
  apply condLastDiscount_protocol cfg.k hk
  · simp [Connector.denseReward, hs, hlen]
  · simp [Connector.actionMask, hlen]
  · simp only [allIn01, List.all_map, List.all_eq_true]
    intro d _
    cases d <;> simp [Connector.b2r] <;> decide +kernel
  · intro hlast
    simp only [Bool.or_eq_false_iff] at hlast
    have h1 := hlast.1
    rw [List.all_eq_false] at h1
    obtain ⟨d, hd, hdf⟩ := h1
    simp only [allZero, List.all_map]
    rw [List.all_eq_false]
    refine ⟨d, hd, ?_⟩
    have : d = false := by simpa using hdf
    subst this
    simp only [Connector.b2r]
    decide +kernel

theorem connector_step_protocol (cfg : Connector.Cfg) (hk : 0 < cfg.k) (s : Connector.State)
    (hs : s.agents.length = cfg.k) (acts : List Int) (ha : acts.length = cfg.k) :
    StepOK (some cfg.k) false (Connector.step cfg s acts).2 = true := connector_l1_step_protocol cfg hk s hs acts ha

/-- the discount of a Connector step lies in [0,1] — restated from `connector_discount`: all zero on LAST, per
agent `1 − done_i` on MID -/
theorem connector_discount_values (cfg : Connector.Cfg) (s : Connector.State) (acts : List Int) :
    ∀ x ∈ (Connector.step cfg s acts).2.discount, x = 0 ∨ x = 1 := by
  rw [Props.C11.connector_discount]
  split
  · intro x hx; exact Or.inl (List.eq_of_mem_replicate hx)
  · intro x hx
    simp only [List.mem_map] at hx
    obtain ⟨d, _, rfl⟩ := hx
    cases d <;> simp only [Connector.b2r] <;> decide +kernel

-- a concrete Connector instance (3×3 grid, 2 agents, the state of the examples in Props/Env/Connector.lean): the
-- hypotheses hold, the theorem applies, and the MID timestep it talks about is evaluated
example :
    let s : Connector.State := ⟨[[2, 0, 3], [0, 0, 0], [5, 0, 6]], 0, [⟨0, (0, 0), (0, 2), (0, 0)⟩, ⟨1, (2, 0), (2, 2), (2, 0)⟩]⟩
    let cfg : Connector.Cfg := ⟨3, 2, 50, 1, -3/100⟩
    StepOK (some cfg.k) false (Connector.step cfg s [2, 0]).2 = true :=
  connector_l1_step_protocol ⟨3, 2, 50, 1, -3/100⟩ (by decide) _ rfl [2, 0] rfl
example :
    let s : Connector.State := ⟨[[2, 0, 3], [0, 0, 0], [5, 0, 6]], 0, [⟨0, (0, 0), (0, 2), (0, 0)⟩, ⟨1, (2, 0), (2, 2), (2, 0)⟩]⟩
    let cfg : Connector.Cfg := ⟨3, 2, 50, 1, -3/100⟩
    (Connector.step cfg s [2, 0]).2.stepType = .mid ∧ (Connector.step cfg s [2, 0]).2.discount = [1, 1] := by
  decide +kernel

end Props.C03
