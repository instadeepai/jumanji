-- BEGIN ENV IMPORTS (generated by tools/mkprops.py)
-- END ENV IMPORTS
/- Property C19 — pytree helpers satisfy their algebraic laws (all trees, batch sizes, indices). -/
import JumanjiModel.PytreeLemmas
import JumanjiModel.Prim.Float
open Pytree

namespace Props.C19
variable {τ β ε δ : Type} [DecidableEq τ] [DecidableEq ε]

/-- stacking identically structured trees and slicing at `i` returns the `i`-th tree
(structure and leaves — hence dtypes — included) -/
theorem slice_transpose (td : τ) (n : Nat) (ts : List (PTree τ β)) (hs : SameStructure td n ts)
    (i : Nat) (hi : i < ts.length) : slice (transpose td n ts) (i : Int) = some ts[i] :=
  Pytree.slice_transpose td n ts hs i hi

/-- setting element `i` makes index `i` equal to the given element … -/
theorem slice_addElement_same_untyped (t : PTree τ (List β)) (i : Nat) (e : PTree τ β)
    (hst : t.td = e.td ∧ t.leaves.length = e.leaves.length) (hi : ∀ x ∈ t.leaves, i < x.length) :
    (addElement t i e).bind (fun t' => slice t' i) = some e :=
  Pytree.slice_addElement_same t i e hst hi

/-- … and changes nothing else -/
theorem slice_addElement_other_untyped (t : PTree τ (List β)) (i j : Nat) (e : PTree τ β)
    (hst : t.td = e.td ∧ t.leaves.length = e.leaves.length) (hij : j ≠ i)
    (hi : ∀ x ∈ t.leaves, i < x.length) :
    (addElement t i e).bind (fun t' => slice t' j) = slice t j := by
  rw [addElement_eq t i e hst, Option.bind_some, slice_eq, slice_eq, mapM_congr_idx _ _ _ t.leaves]
  · simp [hst.2]
  · intro k hk h1
    have hx := hi t.leaves[k] (List.getElem_mem h1)
    simp only [List.getElem_zipWith]
    exact getAt_setWD_other _ _ (by omega) (by rwa [normIdx_natCast, normIdx_natCast])

/-- structure, number of leaves and batch sizes are preserved by `tree_add_element` -/
theorem addElement_structure_untyped (t : PTree τ (List β)) (i : Int) (e : PTree τ β) (t' : PTree τ (List β))
    (h : addElement t i e = some t') :
    t'.td = t.td ∧ t'.leaves.length = t.leaves.length ∧
    ∀ k (hk : k < t'.leaves.length) (hk' : k < t.leaves.length), t'.leaves[k].length = t.leaves[k].length :=
  Pytree.addElement_structure t i e t' h

theorem isEqual_refl (t : PTree τ (Leaf ε)) : isEqual t t = some true := Pytree.isEqual_refl t
theorem isEqual_symm (t1 t2 : PTree τ (Leaf ε)) : isEqual t1 t2 = isEqual t2 t1 := by
  by_cases h : t1.td = t2.td ∧ t1.leaves.length = t2.leaves.length
  · rw [isEqual_of_structure t1 t2 h, isEqual_of_structure t2 t1 ⟨h.1.symm, h.2.symm⟩,
      List.zipWith_comm_of_comm arrayEqual_symm]
  · rw [isEqual_of_mismatch t1 t2 h, isEqual_of_mismatch t2 t1 (fun hh => h ⟨hh.1.symm, hh.2.symm⟩)]
theorem isEqual_iff (t1 t2 : PTree τ (Leaf ε)) (h : t1.td = t2.td ∧ t1.leaves.length = t2.leaves.length) :
    isEqual t1 t2 = some true ↔
      ∀ k (h1 : k < t1.leaves.length) (h2 : k < t2.leaves.length),
        t1.leaves[k].shape = t2.leaves[k].shape ∧ t1.leaves[k].data = t2.leaves[k].data :=
  Pytree.isEqual_iff t1 t2 h
/-- the 'trees are different' assertion (modelled as an assertion: returns, raises AssertionError, or raises the
structure error of `tree.map_structure`) FAILS exactly when the equality helper is true, and returns exactly when it is
false … -/
theorem assertDifferent_iff (t1 t2 : PTree τ (Leaf ε)) :
    (assertDifferent t1 t2 = .error .sameValues ↔ isEqual t1 t2 = some true) ∧
    (assertDifferent t1 t2 = .ok () ↔ isEqual t1 t2 = some false) := by
  unfold assertDifferent
  cases isEqual t1 t2 with
  | none => simp
  | some b => cases b <;> simp
/-- … `assert_trees_are_equal` is the mirror image … -/
theorem assertEqual_iff (t1 t2 : PTree τ (Leaf ε)) :
    (assertEqual t1 t2 = .ok () ↔ isEqual t1 t2 = some true) ∧
    (assertEqual t1 t2 = .error .differ ↔ isEqual t1 t2 = some false) := by
  unfold assertEqual
  cases isEqual t1 t2 with
  | none => simp
  | some b => cases b <;> simp
/-- … both raise the structure error exactly when the structures differ … -/
theorem assert_structure_iff (t1 t2 : PTree τ (Leaf ε)) :
    (assertDifferent t1 t2 = .error .structureMismatch ↔ ¬ (t1.td = t2.td ∧ t1.leaves.length = t2.leaves.length)) ∧
    (assertEqual t1 t2 = .error .structureMismatch ↔ ¬ (t1.td = t2.td ∧ t1.leaves.length = t2.leaves.length)) := by
  unfold assertDifferent assertEqual
  by_cases h : t1.td = t2.td ∧ t1.leaves.length = t2.leaves.length
  · rw [isEqual_of_structure t1 t2 h]
    generalize (List.zipWith arrayEqual t1.leaves t2.leaves).all id = b
    cases b <;> simp [h]
  · rw [isEqual_of_mismatch t1 t2 h]
    simp [h]
/-- … and on trees of the same structure, in terms of the leaves: "equal" passes iff every pair of leaves has equal
shape and elements, "different" passes iff some pair differs; exactly one of the two passes -/
theorem assertEqual_iff_leaves (t1 t2 : PTree τ (Leaf ε)) (h : t1.td = t2.td ∧ t1.leaves.length = t2.leaves.length) :
    assertEqual t1 t2 = .ok () ↔
      ∀ k (h1 : k < t1.leaves.length) (h2 : k < t2.leaves.length),
        t1.leaves[k].shape = t2.leaves[k].shape ∧ t1.leaves[k].data = t2.leaves[k].data := by
  rw [(assertEqual_iff t1 t2).1, isEqual_iff t1 t2 h]
theorem assertDifferent_iff_leaves (t1 t2 : PTree τ (Leaf ε)) (h : t1.td = t2.td ∧ t1.leaves.length = t2.leaves.length) :
    assertDifferent t1 t2 = .ok () ↔
      ∃ k, ∃ (h1 : k < t1.leaves.length) (h2 : k < t2.leaves.length),
        t1.leaves[k].shape ≠ t2.leaves[k].shape ∨ t1.leaves[k].data ≠ t2.leaves[k].data := by
  -- given the structure, "not equal" is `some false`; the rest is pushing the negation through `isEqual_iff`
  have hne : isEqual t1 t2 = some false ↔ ¬ isEqual t1 t2 = some true := by
    rw [isEqual_of_structure t1 t2 h]
    cases (List.zipWith arrayEqual t1.leaves t2.leaves).all id <;> simp
  rw [(assertDifferent_iff t1 t2).2, hne, isEqual_iff t1 t2 h]
  simp only [Classical.not_forall, Classical.not_and_iff_not_or_not, ne_eq]
theorem assert_exactly_one (t1 t2 : PTree τ (Leaf ε)) (h : t1.td = t2.td ∧ t1.leaves.length = t2.leaves.length) :
    (assertEqual t1 t2 = .ok () ∧ assertDifferent t1 t2 = .error .sameValues) ∨
    (assertEqual t1 t2 = .error .differ ∧ assertDifferent t1 t2 = .ok ()) := by
  rw [(assertEqual_iff t1 t2).1, (assertEqual_iff t1 t2).2, (assertDifferent_iff t1 t2).1, (assertDifferent_iff t1 t2).2,
    isEqual_of_structure t1 t2 h]
  cases (List.zipWith arrayEqual t1.leaves t2.leaves).all id <;> simp

/-! ### `tree_add_element` on dtype-tagged leaves: `array.at[i].set(value)` casts `value` to the array's dtype;
indices are any valid static index `-len ≤ i < len` -/

/-- setting element `i` makes index `i` equal to the given element when every leaf of the element already has the
dtype of the corresponding leaf of the tree … -/
theorem slice_addElement_same (promote : δ → δ → δ) (cast : δ → δ → β → β) (hprom : ∀ d, promote d d = d)
    (hcast : ∀ d v, cast d d v = v)
    (t : PTree τ (TArr δ β)) (i : Int) (e : PTree τ (TVal δ β))
    (hst : t.td = e.td ∧ t.leaves.length = e.leaves.length)
    (hdt : ∀ k (h1 : k < t.leaves.length) (h2 : k < e.leaves.length), t.leaves[k].dtype = e.leaves[k].dtype)
    (hi : ∀ x ∈ t.leaves, -(x.slices.length : Int) ≤ i ∧ i < x.slices.length) :
    (addElementT promote cast t i e).bind (fun t' => sliceT t' i) = some e := by
  rw [slice_addElementT_same_cast promote cast t i e hst hi]
  cases e with
  | mk tde ls =>
    simp only [Option.some.injEq, PTree.mk.injEq, true_and]
    apply List.ext_getElem
    · have h2 : t.leaves.length = ls.length := hst.2
      simp [h2]
    · intro k h1 h2
      simp only [List.getElem_zipWith]
      have hk1 : k < t.leaves.length := by simp at h1; omega
      rw [hdt k hk1 h2, hprom, hcast, hcast]
/-- … and changes nothing else (indices compared after normalisation: `-1` is the last element) -/
theorem slice_addElement_other (promote : δ → δ → δ) (cast : δ → δ → β → β) (hprom : ∀ d, promote d d = d)
    (hcast : ∀ d v, cast d d v = v) (t : PTree τ (TArr δ β)) (i j : Int)
    (e : PTree τ (TVal δ β)) (hst : t.td = e.td ∧ t.leaves.length = e.leaves.length)
    (hdt : ∀ k (h1 : k < t.leaves.length) (h2 : k < e.leaves.length), t.leaves[k].dtype = e.leaves[k].dtype)
    (hi : ∀ x ∈ t.leaves, -(x.slices.length : Int) ≤ i ∧ i < x.slices.length)
    (hij : ∀ x ∈ t.leaves, normIdx x.slices.length j ≠ normIdx x.slices.length i) :
    (addElementT promote cast t i e).bind (fun t' => sliceT t' j) = sliceT t j := by
  apply slice_addElementT_other promote cast t i j e hst hi hij
  intro k h1 h2 x _
  rw [hdt k h1 h2, hprom, hcast, hcast]
/-- whatever the dtypes: index `i` becomes the element converted leaf by leaf to the promoted dtype and then to the dtype
of the tree (`tree_add_element(zeros((3,2), int32), 1, [1.7, 2.2])[1] = [1, 2]`) … -/
theorem slice_addElement_same_cast (promote : δ → δ → δ) (cast : δ → δ → β → β) (t : PTree τ (TArr δ β)) (i : Int)
    (e : PTree τ (TVal δ β)) (hst : t.td = e.td ∧ t.leaves.length = e.leaves.length)
    (hi : ∀ x ∈ t.leaves, -(x.slices.length : Int) ≤ i ∧ i < x.slices.length) :
    (addElementT promote cast t i e).bind (fun t' => sliceT t' i) =
      some { td := e.td,
             leaves := List.zipWith (fun (a : TArr δ β) (v : TVal δ β) =>
               ({ dtype := a.dtype,
                  val := cast (promote a.dtype v.dtype) a.dtype (cast v.dtype (promote a.dtype v.dtype) v.val) } : TVal δ β))
               t.leaves e.leaves } :=
  Pytree.slice_addElementT_same_cast promote cast t i e hst hi
/-- … and the other indices keep their content exactly when the stored entries survive the round trip through the
promoted dtype … -/
theorem slice_addElement_other_cast (promote : δ → δ → δ) (cast : δ → δ → β → β) (t : PTree τ (TArr δ β)) (i j : Int)
    (e : PTree τ (TVal δ β)) (hst : t.td = e.td ∧ t.leaves.length = e.leaves.length)
    (hi : ∀ x ∈ t.leaves, -(x.slices.length : Int) ≤ i ∧ i < x.slices.length)
    (hij : ∀ x ∈ t.leaves, normIdx x.slices.length j ≠ normIdx x.slices.length i)
    (hrt : ∀ k (h1 : k < t.leaves.length) (h2 : k < e.leaves.length), ∀ x ∈ t.leaves[k].slices,
      cast (promote t.leaves[k].dtype e.leaves[k].dtype) t.leaves[k].dtype
        (cast t.leaves[k].dtype (promote t.leaves[k].dtype e.leaves[k].dtype) x) = x) :
    (addElementT promote cast t i e).bind (fun t' => sliceT t' j) = sliceT t j :=
  Pytree.slice_addElementT_other promote cast t i j e hst hi hij hrt
/-- … which FAILS for an int32 tree and a float32 element: JAX promotes the whole array to float32 and back, so an
untouched entry 16777217 = 2²⁴ + 1 comes back as 16777216 ("and nothing else" needs the same-dtype hypothesis) -/
theorem addElement_other_dtype_corrupts_witness :
    addElementT (fun (a b : String) => if a = b then a else "float32")
      (fun (_ d : String) (v : Rat) => if d = "float32" then Jx.roundF32 v else ((v.num.tdiv v.den : Int) : Rat))
      (⟨"d", [⟨"int32", [16777217, 0]⟩]⟩ : PTree String (TArr String Rat)) 1 ⟨"d", [⟨"float32", 3/2⟩]⟩
    = some ⟨"d", [⟨"int32", [16777216, 1]⟩]⟩ := by decide +kernel
/-- structure, dtypes and batch sizes are preserved -/
theorem addElement_structure (promote : δ → δ → δ) (cast : δ → δ → β → β) (t : PTree τ (TArr δ β)) (i : Int)
    (e : PTree τ (TVal δ β)) (t' : PTree τ (TArr δ β)) (h : addElementT promote cast t i e = some t') :
    t'.td = t.td ∧ t'.leaves.length = t.leaves.length ∧
    ∀ k (hk : k < t'.leaves.length) (hk' : k < t.leaves.length),
      t'.leaves[k].dtype = t.leaves[k].dtype ∧ t'.leaves[k].slices.length = t.leaves[k].slices.length := by
  unfold addElementT at h
  split at h
  · rename_i hc
    injection h with h; subst h
    refine ⟨rfl, by simp [hc.2], ?_⟩
    intro k hk hk'
    simp [Jx.setWD_length]
  · simp at h
/-- what a valid index means: itself when non-negative, counted from the end when negative -/
theorem normIdx_cases (n : Nat) (i : Int) :
    (0 ≤ i → (normIdx n i : Int) = i) ∧ (i < 0 → -(n : Int) ≤ i → (normIdx n i : Int) = i + n) := by
  unfold normIdx Jx.wrapIdx
  constructor <;> intro h <;> split <;> omega

-- non-vacuity: a concrete batch of two trees with two leaves each
example : SameStructure "d" 2 [(⟨"d", [1, 2]⟩ : PTree String Nat), ⟨"d", [3, 4]⟩] := by
  intro t ht; simp at ht; rcases ht with rfl | rfl <;> simp
example : slice (transpose "d" 2 [(⟨"d", [1, 2]⟩ : PTree String Nat), ⟨"d", [3, 4]⟩]) 1 = some ⟨"d", [3, 4]⟩ := by decide
-- a float element written into an int32 batch is truncated (cast to int32 = truncation toward zero)
example : (addElementT (fun (a b : String) => if a = b then a else "float32")
      (fun (_ d : String) (v : Rat) => if d = "int32" then ((v.num.tdiv v.den : Int) : Rat) else v)
      (⟨"d", [⟨"int32", [0, 0, 0]⟩]⟩ : PTree String (TArr String Rat)) 1 ⟨"d", [⟨"float32", 17/10⟩]⟩).bind (fun t' => sliceT t' 1)
    = some ⟨"d", [⟨"int32", 1⟩]⟩ := by decide +kernel
example : (addElementT (fun (a _ : String) => a) (fun (_ _ : String) (v : Nat) => v)
      (⟨"d", [⟨"i", [1, 2, 3]⟩]⟩ : PTree String (TArr String Nat)) (-1)
      ⟨"d", [⟨"i", 9⟩]⟩) = some ⟨"d", [⟨"i", [1, 2, 9]⟩]⟩ := by decide +kernel
end Props.C19
