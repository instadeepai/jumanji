-- BEGIN ENV IMPORTS (generated by tools/mkprops.py)
-- END ENV IMPORTS
/- Property C15 — Gym, dm_env and multi-to-single adapters relay the native episode faithfully. -/
import JumanjiModel.WrappersLemmas
open Wr

namespace Props.C15
variable {S A O R X : Type} (E : Env S A O R X) (isZero : R → Bool)

/-- the documented key schedule (seed, then one split per reset): after seeding with `n` and any
sequence of steps and `i` resets, the next reset is `env.reset(resetKey n i)` and returns its observation -/
theorem reset_uses_schedule (n : Nat) (ops : List (Gym.Op A)) (h : Gym.noSeed ops = true) :
    (Gym.run1 E isZero (Gym.runAll E isZero (Gym.init n) ops) (.reset none)).2 =
      .obs (E.reset (Gym.resetKey n (Gym.countResets ops))).2.obs
           (E.reset (Gym.resetKey n (Gym.countResets ops))).2.extras :=
  Gym.reset_uses_schedule E isZero n ops h

/-- re-seeding reproduces the same episode whatever happened before -/
theorem reseed_reproducible (st : Gym.St S) (n : Nat) :
    (Gym.run1 E isZero (Gym.run1 E isZero st (.seed n)).1 (.reset none)) =
    (Gym.run1 E isZero (Gym.init n) (.reset none)) := Gym.reseed_reproducible E isZero st n
theorem reset_with_seed (st : Gym.St S) (n : Nat) :
    Gym.run1 E isZero st (.reset (some n)) = Gym.run1 E isZero (Gym.init n) (.reset none) := by
  simp [Gym.run1, Gym.init]

/-- a step relays observation, reward and extras; terminated ↔ discount = 0; truncated ↔ LAST -/
theorem step_relays (st : Gym.St S) (s : S) (a : A) (hs : st.state = some s) :
    (Gym.run1 E isZero st (.step a)).2 =
      .stepped (E.step s a).2.obs (E.step s a).2.reward (isZero (E.step s a).2.discount) (E.step s a).2.last
        (E.step s a).2.extras ∧
    (Gym.run1 E isZero st (.step a)).1.state = some (E.step s a).1 := Gym.step_relays E isZero st s a hs

/-- MultiToSingleWrapper changes the reward and the discount by the aggregators, and nothing else -/
theorem multiToSingle_only_aggregates {R' : Type} (aggR aggD : R → R') (t : TS O R X) :
    (aggregate aggR aggD t).reward = aggR t.reward ∧ (aggregate aggR aggD t).discount = aggD t.discount ∧
    (aggregate aggR aggD t).stepType = t.stepType ∧ (aggregate aggR aggD t).obs = t.obs ∧
    (aggregate aggR aggD t).extras = t.extras ∧ (aggregate aggR aggD t).nextObs = t.nextObs := by
  simp [aggregate]
/-- gym flags on real values (rewards / discounts in ℚ, `isZero := (· == 0)`): `terminated` is True exactly when the
native discount is zero, `truncated` exactly when the native step is LAST (independently of the discount — so a
terminal LAST step has both flags set, a time-limit LAST step only `truncated`); observation, reward and extras are
relayed, the adapter stores the native next state and keeps its key -/
theorem step_relays_rat (E : Env S A O Rat X) (st : Gym.St S) (s : S) (a : A) (hs : st.state = some s) :
    ∃ term trunc : Bool,
      (Gym.run1 E (fun d => d == 0) st (.step a)).2 =
        .stepped (E.step s a).2.obs (E.step s a).2.reward term trunc (E.step s a).2.extras ∧
      (term = true ↔ (E.step s a).2.discount = 0) ∧
      (trunc = true ↔ (E.step s a).2.stepType = .last) ∧
      (Gym.run1 E (fun d => d == 0) st (.step a)).1.state = some (E.step s a).1 ∧
      (Gym.run1 E (fun d => d == 0) st (.step a)).1.key = st.key := Gym.step_relays_rat E st s a hs

/-- `step` before any `reset` is an error (no state yet) -/
theorem gym_step_before_reset (st : Gym.St S) (a : A) (hs : st.state = none) :
    Gym.run1 E isZero st (.step a) = (st, .error) := by
  simp [Gym.run1, hs]

/-- `MultiToSingleWrapper.step` = the native next state and the native timestep with reward and discount
aggregated (aggregators are parameters), nothing else changed -/
theorem multiToSingle_step {R' : Type} (aggR aggD : R → R') (s : S) (a : A) :
    (MultiToSingle.step E aggR aggD s a).1 = (E.step s a).1 ∧
    (MultiToSingle.step E aggR aggD s a).2.reward = aggR (E.step s a).2.reward ∧
    (MultiToSingle.step E aggR aggD s a).2.discount = aggD (E.step s a).2.discount ∧
    (MultiToSingle.step E aggR aggD s a).2.stepType = (E.step s a).2.stepType ∧
    (MultiToSingle.step E aggR aggD s a).2.obs = (E.step s a).2.obs ∧
    (MultiToSingle.step E aggR aggD s a).2.extras = (E.step s a).2.extras ∧
    (MultiToSingle.step E aggR aggD s a).2.nextObs = (E.step s a).2.nextObs := by
  simp [MultiToSingle.step_eq, aggregate]
theorem multiToSingle_reset {R' : Type} (aggR aggD : R → R') (k : Key) :
    (MultiToSingle.reset E aggR aggD k).1 = (E.reset k).1 ∧
    (MultiToSingle.reset E aggR aggD k).2.reward = aggR (E.reset k).2.reward ∧
    (MultiToSingle.reset E aggR aggD k).2.discount = aggD (E.reset k).2.discount ∧
    (MultiToSingle.reset E aggR aggD k).2.stepType = (E.reset k).2.stepType ∧
    (MultiToSingle.reset E aggR aggD k).2.obs = (E.reset k).2.obs ∧
    (MultiToSingle.reset E aggR aggD k).2.extras = (E.reset k).2.extras ∧
    (MultiToSingle.reset E aggR aggD k).2.nextObs = (E.reset k).2.nextObs := by
  simp [MultiToSingle.reset_eq, aggregate]
/-- … along whole episodes: the rollout of the wrapped environment is the native rollout, every timestep aggregated -/
theorem multiToSingle_rollout {R' : Type} (aggR aggD : R → R') (s : S) (as : List A) :
    rollout (MultiToSingle.env E aggR aggD) s as =
      (rollout E s as).map (fun p => (p.1, aggregate aggR aggD p.2)) := by
  induction as generalizing s with
  | nil => rfl
  | cons a as ih =>
    simp only [rollout, List.map_cons]
    show MultiToSingle.step E aggR aggD s a ::
      rollout (MultiToSingle.env E aggR aggD) (MultiToSingle.step E aggR aggD s a).1 as = _
    rw [MultiToSingle.step_eq, ih]

/-- the default aggregators: the sum of the agents' rewards; the maximum of their discounts, which (discounts being
non-negative) is zero exactly when every agent's discount is zero -/
theorem multiToSingle_default_sum (r : Rat) (rs : List Rat) :
    MultiToSingle.sumAgg [] = 0 ∧ MultiToSingle.sumAgg (r :: rs) = r + MultiToSingle.sumAgg rs :=
  ⟨rfl, MultiToSingle.sumAgg_cons r rs⟩
theorem multiToSingle_default_max (ds : List Rat) (hne : ds ≠ []) :
    MultiToSingle.maxAgg ds ∈ ds ∧ (∀ d ∈ ds, d ≤ MultiToSingle.maxAgg ds) ∧
    ((∀ d ∈ ds, 0 ≤ d) → (MultiToSingle.maxAgg ds = 0 ↔ ∀ d ∈ ds, d = 0)) :=
  ⟨MultiToSingle.maxAgg_mem ds hne, MultiToSingle.maxAgg_ge ds, MultiToSingle.maxAgg_zero_iff ds hne⟩
/-- gym over `MultiToSingleWrapper(env)` with the defaults: terminated ↔ every agent's native discount is zero -/
theorem gym_multi_terminated_iff (E : Env S A O (List Rat) X) (st : Gym.St S) (s : S) (a : A)
    (hs : st.state = some s) (hne : (E.step s a).2.discount ≠ []) (h0 : ∀ d ∈ (E.step s a).2.discount, 0 ≤ d) :
    ∃ term trunc : Bool,
      (Gym.run1 (MultiToSingle.env E MultiToSingle.sumAgg MultiToSingle.maxAgg) (fun d => d == 0) st (.step a)).2 =
        .stepped (E.step s a).2.obs (MultiToSingle.sumAgg (E.step s a).2.reward) term trunc (E.step s a).2.extras ∧
      (term = true ↔ ∀ d ∈ (E.step s a).2.discount, d = 0) ∧
      (trunc = true ↔ (E.step s a).2.stepType = .last) := by
  obtain ⟨term, trunc, h1, h2, h3, _, _⟩ :=
    Gym.step_relays_rat (MultiToSingle.env E MultiToSingle.sumAgg MultiToSingle.maxAgg) st s a hs
  refine ⟨term, trunc, h1, ?_, h3⟩
  rw [h2]
  exact MultiToSingle.maxAgg_zero_iff _ hne h0

/-! ### JumanjiToDMEnvWrapper -/

/-- dm_env's first timestep: FIRST, no reward, no discount, the observation of `env.reset(split(key)[0])` -/
theorem dm_reset_first (st : DmEnv.St S) :
    (DmEnv.run1 E st .reset).2 =
      .ts { stepType := .first, reward := none, discount := none, obs := (E.reset (.left st.key)).2.obs } ∧
    (DmEnv.run1 E st .reset).1.key = .right st.key ∧
    (DmEnv.run1 E st .reset).1.state = some (E.reset (.left st.key)).1 := DmEnv.reset_first E st
/-- a dm_env step relays the native step type, reward, discount and observation -/
theorem dm_step_relays (st : DmEnv.St S) (s : S) (a : A) (hs : st.state = some s) :
    (DmEnv.run1 E st (.step a)).2 =
      .ts { stepType := (E.step s a).2.stepType, reward := some (E.step s a).2.reward,
            discount := some (E.step s a).2.discount, obs := (E.step s a).2.obs } ∧
    (DmEnv.run1 E st (.step a)).1.state = some (E.step s a).1 ∧
    (DmEnv.run1 E st (.step a)).1.key = st.key := DmEnv.step_relays E st s a hs
theorem dm_step_before_reset (st : DmEnv.St S) (a : A) (hs : st.state = none) :
    DmEnv.run1 E st (.step a) = (st, .error) := by
  simp [DmEnv.run1, hs]
/-- the dm_env key schedule: constructor key, then one split per reset -/
theorem dm_key_schedule (k : Key) (ops : List (DmEnv.Op A)) :
    (DmEnv.run1 E (DmEnv.runAll E (DmEnv.init k) ops) .reset).2 =
      .ts (DmEnv.restart (E.reset (DmEnv.resetKey k (DmEnv.countResets ops))).2.obs) := by
  have hk := DmEnv.key_after E (DmEnv.init k) ops
  simp only [DmEnv.run1, DmEnv.resetKey]
  rw [hk]
  rfl
/-- from its next `reset` on, an adapter's outputs depend only on its key (constructing an adapter with the same
key reproduces the same episodes whatever the other one did before) -/
theorem dm_reseed_reproducible (st st' : DmEnv.St S) (hk : st.key = st'.key) (ops : List (DmEnv.Op A)) :
    DmEnv.trace E st (.reset :: ops) = DmEnv.trace E st' (.reset :: ops) := DmEnv.reseed_reproducible E st st' hk ops
/-- any number of episodes through the adapter = the native API under the key schedule -/
theorem dm_trace_eq_native (k : Key) (eps : List (List A)) :
    DmEnv.trace E (DmEnv.init k) (eps.flatMap DmEnv.episodeOps) = DmEnv.nativeTrace E k 0 eps :=
  DmEnv.trace_eq_native E k eps

-- non-vacuity: a two-agent step with discounts [0, 1/2] is not terminated, with [0, 0] it is
example : MultiToSingle.maxAgg [0, 1/2] = 1/2 ∧ MultiToSingle.maxAgg [0, 0] = 0 ∧ MultiToSingle.sumAgg [1, 2, 3/2] = 9/2 := by
  decide +kernel
end Props.C15
