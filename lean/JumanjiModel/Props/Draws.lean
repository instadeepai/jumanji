/- The ranges the source ACTUALLY draws from, read off the GENERATED table of `jax.random.*` calls (Gen/Draws.lean, regenerated
from the source of every environment package on every run), tied to the hand-written support predicates (`validDraw`,
`validUniform`, `validGenDraw`, …) of the Lean generator models: a value in the support of the generated call description
satisfies the hand-written predicate — so the generator theorems (`*_generate_cert`) hold for what the source draws, not only for
what the model's author read in it.  A change of `minval=` / `maxval=` / `shape=` / `p=` / `replace=` in the source changes the
table and the tied theorem stops building.  Counted under C10. -/
import JumanjiModel.Gen.Draws
import JumanjiModel.Gen.Constants
import JumanjiModel.Props.Guards
import JumanjiModel.Props.Env.CVRP
import JumanjiModel.Props.Env.Knapsack
import JumanjiModel.Props.Env.TSP
import JumanjiModel.Props.Env.JobShop
import JumanjiModel.Props.Env.GraphColoring
import JumanjiModel.Props.Env.Minesweeper
import JumanjiModel.Props.Env.Tetris
import JumanjiModel.Props.Env.Snake
import JumanjiModel.Props.Env.MMST
import JumanjiModel.Props.Env.Connector
open DrawRange

/-! ### helper lemmas about masks as weight vectors (not property theorems) -/
namespace DrawRange
/-- the support `[0, 1)` as the generic uniform support gives it -/
theorem unit01 {x : Rat} (h : 0 ≤ x ∧ (x < 1 ∨ x = 0)) : 0 ≤ x ∧ x < 1 := by
  obtain ⟨h0, h1 | h1⟩ := h
  · exact ⟨h0, h1⟩
  · exact ⟨h0, by rw [h1]; decide +kernel⟩

/-- a Boolean mask as the 0/1 weight vector `jax.random.choice(p=mask)` sees -/
def maskWeights (m : List Bool) : List Rat := m.map (fun b => if b then 1 else 0)

theorem maskWeights_pos (m : List Bool) (k : Nat) (h : 0 < (maskWeights m).getD k 0) : m.getD k false = true := by
  unfold maskWeights at h
  rcases Nat.lt_or_ge k m.length with hk | hk
  · simp only [List.getD_eq_getElem?_getD, List.getElem?_map, List.getElem?_eq_getElem hk, Option.map_some, Option.getD_some] at h ⊢
    cases hb : m[k] with
    | true => rfl
    | false => rw [hb] at h; exact absurd h (by decide +kernel)
  · simp [List.getElem?_eq_none hk] at h

theorem maskWeights_nonpos (m : List Bool) (h : ∀ w ∈ maskWeights m, w ≤ 0) : ∀ b ∈ m, b = false := by
  intro b hb
  cases b with
  | false => rfl
  | true =>
    have : (1 : Rat) ∈ maskWeights m := by
      unfold maskWeights
      exact List.mem_map.2 ⟨true, hb, by simp⟩
    exact absurd (h 1 this) (by decide +kernel)

theorem getD_map_not (l : List Bool) (d : Nat) (h : (l.map not).getD d false = true) : l.getD d true = false := by
  rcases Nat.lt_or_ge d l.length with hl | hl
  · rw [List.getD_eq_getElem?_getD, List.getElem?_map, List.getElem?_eq_getElem hl] at h
    rw [List.getD_eq_getElem?_getD, List.getElem?_eq_getElem hl]
    simpa using h
  · rw [List.getD_eq_getElem?_getD, List.getElem?_map, List.getElem?_eq_none hl] at h
    simp at h

/-- a draw WITH replacement under a mask: the mask bit of the drawn index is set, unless no bit is set at all -/
theorem okAt_mask (ρ : Env) (s : String) (m : List Bool) (hw : ρ.w s = maskWeights m) (k : Nat) (h : Wt.okAt ρ (.named s) k) :
    m.getD k false = true ∨ ∀ b ∈ m, b = false := by
  simp only [Wt.okAt, hw] at h
  rcases h with h | h
  · exact Or.inl (maskWeights_pos m k h)
  · exact Or.inr (maskWeights_nonpos m h)
theorem flatten_getD {α : Type} (x : α) (c : Nat) (g : List (List α)) (hc : ∀ r ∈ g, r.length = c) (d : Nat)
    (hd : d < g.length * c) : g.flatten.getD d x = (g.getD (d / c) []).getD (d % c) x := by
  have hc0 : 0 < c := Nat.pos_of_ne_zero (fun h => by simp [h] at hd)
  have := Jx.Grid.flatten_getD x hc (d / c) (Nat.mod_lt d hc0)
  rwa [Nat.div_add_mod' d c] at this

theorem at2_mem {α} (g : List (List α)) (d : α) (J O : Nat) (hJ : g.length = J) (hO : ∀ r ∈ g, r.length = O)
    (j k : Nat) (hj : j < J) (hk : k < O) : ∃ r ∈ g, JobShop.at2 g d j k ∈ r := by
  have hj' : j < g.length := by omega
  refine ⟨g[j], List.getElem_mem hj', ?_⟩
  have hr : g[j].length = O := hO _ (List.getElem_mem hj')
  unfold JobShop.at2
  have e1 : g.getD j [] = g[j] := by simp [List.getD_eq_getElem?_getD, hj']
  have hk' : k < g[j].length := by omega
  have e2 : g[j].getD k d = g[j][k] := by simp [List.getD_eq_getElem?_getD, hk']
  rw [e1, e2]
  exact List.getElem_mem _
end DrawRange

namespace Props.C10

/-- the description of a draw call, looked up in the generated table -/
abbrev drawOf (key : String) : Draw := find Gen.Draws.table key
-- The proofs below first replace `drawOf "<key>"` by the generated definition of that call (`simp only [lookups]`), unfold
-- it, and let `simp` / `omega` derive the range from WHATEVER shape the translated arguments have: an equivalent rewrite of the call
-- in the source (keyword or positional arguments, `1 + n` for `n + 1`, another import alias) does not change the theorem; a changed
-- bound, shape, population, mask or `replace=` makes the proof fail.

end Props.C10

namespace DrawRange
open Props.C10

/-- What the generated table holds under the keys this file speaks of (the last line: a key that does not exist) — the only place where
the table is searched.  One kernel evaluation for all keys: a search compares the key with every entry before the hit, and the kernel
compares two `String` literals by encoding both as UTF-8 bytes; inside one evaluation it encodes each entry's key once, a lemma per
key would encode the entries before the hit again.  Used as `simp only [lookups]`. -/
theorem lookups :
    drawOf "cvrp.UniformGenerator.demands" = Gen.Draws.d_cvrp_UniformGenerator_demands ∧
    drawOf "cvrp.UniformGenerator.coordinates" = Gen.Draws.d_cvrp_UniformGenerator_coordinates ∧
    drawOf "knapsack.RandomGenerator.weights_values" = Gen.Draws.d_knapsack_RandomGenerator_weights_values ∧
    drawOf "tsp.UniformGenerator.coordinates" = Gen.Draws.d_tsp_UniformGenerator_coordinates ∧
    drawOf "graph_coloring.RandomGenerator.p_matrix" = Gen.Draws.d_graph_coloring_RandomGenerator_p_matrix ∧
    drawOf "tetris.sample_tetromino_list.tetromino_index" = Gen.Draws.d_tetris_sample_tetromino_list_tetromino_index ∧
    drawOf "job_shop.RandomGenerator.ops_machine_ids" = Gen.Draws.d_job_shop_RandomGenerator_ops_machine_ids ∧
    drawOf "job_shop.RandomGenerator.ops_durations" = Gen.Draws.d_job_shop_RandomGenerator_ops_durations ∧
    drawOf "job_shop.RandomGenerator.num_ops_per_job" = Gen.Draws.d_job_shop_RandomGenerator_num_ops_per_job ∧
    drawOf "minesweeper.create_flat_mine_locations.return" = Gen.Draws.d_minesweeper_create_flat_mine_locations_return ∧
    drawOf "snake.Snake.fruit_index" = Gen.Draws.d_snake_Snake_fruit_index ∧
    drawOf "mmst.MMST.agent_permutation" = Gen.Draws.d_mmst_MMST_agent_permutation ∧
    drawOf "snake.Snake.head_coordinates" = Gen.Draws.d_snake_Snake_head_coordinates ∧
    drawOf "lbf.RandomGenerator.sample_levels.return" = Gen.Draws.d_lbf_RandomGenerator_sample_levels_return ∧
    drawOf "game_2048.Game2048.cell_value" = Gen.Draws.d_game_2048_Game2048_cell_value ∧
    drawOf "connector.UniformRandomGenerator.starts_flat_targets_flat" = Gen.Draws.d_connector_UniformRandomGenerator_starts_flat_targets_flat ∧
    drawOf "no.such.entry" = .missing "no.such.entry" := by decide +kernel

end DrawRange

namespace Props.C10

/-- `UniformGenerator.__call__`, `demands = randint(key, (num_nodes + 1,), minval=1, maxval=max_demand)`: `num_nodes + 1` integers,
each at least 1 and BELOW `max_demand` (or 1 when `max_demand ≤ 1`: `randint` with an empty range returns `minval`) -/
theorem cvrp_demand_draw_tied (ρ : String → Int) (dd : List Int)
    (h : inSupport Gen.Draws.d_cvrp_UniformGenerator_demands ρ (.i1 dd)) :
    (dd.length : Int) = ρ "num_nodes" + 1 ∧ ∀ d ∈ dd, 1 ≤ d ∧ (d < ρ "max_demand" ∨ d = 1) := by
  unfold Gen.Draws.d_cvrp_UniformGenerator_demands at h
  simp [inSupport, inSupportE, shapeOK, evalList, X.evalI, Val.hasDims, inRandint, Env.ofInt] at h
  exact ⟨by omega, fun d hd => by have := h.2 d hd; omega⟩

/-- `coordinates = uniform(key, (num_nodes + 1, 2), minval=0, maxval=1)`: `num_nodes + 1` points of `[0, 1)²` -/
theorem cvrp_coordinates_draw_tied (ρ : String → Int) (cd : List (List Rat))
    (h : inSupport Gen.Draws.d_cvrp_UniformGenerator_coordinates ρ (.r2 cd)) :
    (cd.length : Int) = ρ "num_nodes" + 1 ∧ ∀ p ∈ cd, p.length = 2 ∧ ∀ x ∈ p, 0 ≤ x ∧ x < 1 := by
  unfold Gen.Draws.d_cvrp_UniformGenerator_coordinates at h
  simp [inSupport, inSupportE, shapeOK, evalList, X.evalI, X.evalQ, Val.hasDims, inUniform, Bound.scQ, Env.ofInt] at h
  exact ⟨by have := h.1.1; omega, fun p hp => ⟨by have := h.1.2 p hp; omega, fun x hx => unit01 (h.2 p hp x hx)⟩⟩

/-- the two CVRP calls together, in the terms of the generator model: the support `CVRP.validUniformCode` -/
theorem cvrp_calls_validCode (ρ : String → Int) (n : Nat) (hn : ρ "num_nodes" = n) (cd : List (List Rat)) (dd : List Int)
    (hc : inSupport Gen.Draws.d_cvrp_UniformGenerator_coordinates ρ (.r2 cd))
    (hd : inSupport Gen.Draws.d_cvrp_UniformGenerator_demands ρ (.i1 dd)) :
    CVRP.validUniformCode n (ρ "max_demand") cd dd := by
  have h1 := cvrp_coordinates_draw_tied ρ cd hc
  have h2 := cvrp_demand_draw_tied ρ dd hd
  refine ⟨by omega, by omega, h1.2, fun d hdm => ?_⟩
  have := h2.2 d hdm
  omega

/-- what the source draws IS the support `CVRP.validUniformCode` — for EVERY `max_demand`, also `≤ 0`, where the
documented support `validUniform` is empty: the two descriptions of the code's support (hand-written in Env/CVRP/Model.lean, derived from
the `randint` call by the translator) agree -/
theorem cvrp_draws_validCode (ρ : String → Int) (n : Nat) (hn : ρ "num_nodes" = n)
    (cd : List (List Rat)) (dd : List Int)
    (hc : inSupport (drawOf "cvrp.UniformGenerator.coordinates") ρ (.r2 cd))
    (hd : inSupport (drawOf "cvrp.UniformGenerator.demands") ρ (.i1 dd)) :
    CVRP.validUniformCode n (ρ "max_demand") cd dd := by
  simp only [lookups] at hc hd
  exact cvrp_calls_validCode ρ n hn cd dd hc hd

/-- … hence, composed with the constructor check of Props/Guards.lean: for every configuration the constructors accept with
`max_demand ≥ 1` and everything the source can draw, the generated instance satisfies the generator certificate -/
theorem cvrp_generate_cert_of_draws (ρ : String → Int) (hg : Guard.accepts (checks "cvrp.CVRP") ρ = true)
    (n : Nat) (hn : ρ "num_nodes" = n) (hm : 1 ≤ ρ "max_demand") (cd : List (List Rat)) (dd : List Int)
    (hc : inSupport (drawOf "cvrp.UniformGenerator.coordinates") ρ (.r2 cd))
    (hd : inSupport (drawOf "cvrp.UniformGenerator.demands") ρ (.i1 dd)) :
    CVRP.GenCert n (ρ "max_capacity") (ρ "max_demand") (CVRP.generate n (ρ "max_capacity") cd dd) := by
  -- a hypothesis about `drawOf "<key>"` is never handed on as a term: elaborating it against its own type would search the table again
  simp only [lookups] at hc hd
  exact cvrp_generate_cert_of_ctor ρ hg n cd dd
    (CVRP.validUniformCode_sub n _ cd dd hm (cvrp_calls_validCode ρ n hn cd dd hc hd))

/-- the documented range `[1, max_demand]` is NOT what is drawn: `max_demand` itself never occurs (for `max_demand ≥ 2`) -/
theorem cvrp_max_demand_never_drawn (ρ : String → Int) (hm : 2 ≤ ρ "max_demand") (dd : List Int)
    (hd : inSupport (drawOf "cvrp.UniformGenerator.demands") ρ (.i1 dd)) : ρ "max_demand" ∉ dd := by
  intro hmem
  simp only [lookups] at hd
  have := (cvrp_demand_draw_tied ρ dd hd).2 _ hmem
  omega

-- non-vacuity: a draw of the default configuration shape is in the support, one with the demand `max_demand` is not
example : inSupport (drawOf "cvrp.UniformGenerator.demands") (fun n => if n = "num_nodes" then 2 else 10) (.i1 [1, 9, 3]) := by
  simp only [lookups]; decide +kernel
example : ¬ inSupport (drawOf "cvrp.UniformGenerator.demands") (fun n => if n = "num_nodes" then 2 else 10) (.i1 [1, 10, 3]) := by
  simp only [lookups]; decide +kernel
example : inSupport (drawOf "cvrp.UniformGenerator.coordinates") (fun _ => 1) (.r2 [[0, 1/2], [1/3, 3/4]]) := by
  simp only [lookups]; decide +kernel
example : ¬ inSupport (drawOf "cvrp.UniformGenerator.coordinates") (fun _ => 1) (.r2 [[0, 1/2], [1/3, 1]]) := by
  simp only [lookups]; decide +kernel

/-- `weights, values = uniform(key, (2, num_items), minval=0, maxval=1)`: two rows of `num_items` numbers of `[0, 1)` (the source
comment says "[0, 1]"; 1 is never drawn) -/
theorem knapsack_weights_draw_tied (ρ : String → Int) (w v : List Rat)
    (h : inSupport Gen.Draws.d_knapsack_RandomGenerator_weights_values ρ (.r2 [w, v])) :
    (w.length : Int) = ρ "num_items" ∧ (v.length : Int) = ρ "num_items" ∧
    (∀ x ∈ w, 0 ≤ x ∧ x < 1) ∧ (∀ x ∈ v, 0 ≤ x ∧ x < 1) := by
  unfold Gen.Draws.d_knapsack_RandomGenerator_weights_values at h
  simp [inSupport, inSupportE, shapeOK, evalList, X.evalI, X.evalQ, Val.hasDims, inUniform, Bound.scQ, Env.ofInt] at h
  exact ⟨by have := h.1.1; omega, by have := h.1.2; omega, fun x hx => unit01 (h.2.1 x hx), fun x hx => unit01 (h.2.2 x hx)⟩

/-- … which is inside the support `Knapsack.validDraw` the Lean generator model assumes -/
theorem knapsack_draw_valid (ρ : String → Int) (n : Nat) (hn : ρ "num_items" = n) (w v : List Rat)
    (h : inSupport Gen.Draws.d_knapsack_RandomGenerator_weights_values ρ (.r2 [w, v])) : Knapsack.validDraw n w v := by
  have t := knapsack_weights_draw_tied ρ w v h
  exact ⟨by omega, by omega, fun x hx => ⟨(t.2.2.1 x hx).1, Rat.le_of_lt (t.2.2.1 x hx).2⟩,
    fun x hx => ⟨(t.2.2.2 x hx).1, Rat.le_of_lt (t.2.2.2 x hx).2⟩⟩

/-- … hence the instance generated from anything the source can draw passes the certificate -/
theorem knapsack_generate_certificate_of_draw (ρ : String → Int) (n : Nat) (hn : ρ "num_items" = n) (b : Rat) (w v : List Rat)
    (h : inSupport (drawOf "knapsack.RandomGenerator.weights_values") ρ (.r2 [w, v])) :
    Knapsack.instanceOK n b (Knapsack.generate n b w v) = true := by
  simp only [lookups] at h
  exact knapsack_generate_certificate n b w v (knapsack_draw_valid ρ n hn w v h)

/-- `coordinates = uniform(key, (num_cities, 2), minval=0, maxval=1)` is inside `TSP.validUniform`: `num_cities` points of `[0, 1)²` -/
theorem tsp_coordinates_draw_tied (ρ : String → Int) (n : Nat) (hn : ρ "num_cities" = n) (u : List (List Rat))
    (h : inSupport Gen.Draws.d_tsp_UniformGenerator_coordinates ρ (.r2 u)) : TSP.validUniform n u := by
  unfold Gen.Draws.d_tsp_UniformGenerator_coordinates at h
  simp [inSupport, inSupportE, shapeOK, evalList, X.evalI, X.evalQ, Val.hasDims, inUniform, Bound.scQ, Env.ofInt] at h
  exact ⟨by omega, fun p hp => ⟨by have := h.1.2 p hp; omega, fun x hx => unit01 (h.2 p hp x hx)⟩⟩

/-- … hence the generator certificate for anything the source can draw -/
theorem tsp_generate_cert_of_draw (ρ : String → Int) (n : Nat) (hn : ρ "num_cities" = n) (u : List (List Rat))
    (h : inSupport (drawOf "tsp.UniformGenerator.coordinates") ρ (.r2 u)) : TSP.GenCert n (TSP.generate n u) := by
  simp only [lookups] at h
  exact tsp_generate_cert n u (tsp_coordinates_draw_tied ρ n hn u h)

/-- `p_matrix = uniform(key, (num_nodes, num_nodes))` (default bounds 0, 1) is inside `GraphColoring.validUniform` -/
theorem graph_coloring_uniform_draw_tied (ρ : String → Int) (n : Nat) (hn : ρ "num_nodes" = n) (U : List (List Rat))
    (h : inSupport (drawOf "graph_coloring.RandomGenerator.p_matrix") ρ (.r2 U)) : GraphColoring.validUniform n U := by
  simp only [lookups] at h
  unfold Gen.Draws.d_graph_coloring_RandomGenerator_p_matrix at h
  simp [inSupport, inSupportE, shapeOK, evalList, X.evalI, X.evalQ, Val.hasDims, inUniform, Bound.scQ, Env.ofInt] at h
  exact ⟨by omega, fun p hp => ⟨by have := h.1.2 p hp; omega, fun x hx => unit01 (h.2 p hp x hx)⟩⟩

/-- `tetromino_index = randint(key, (), 0, len(tetrominoes_list))` with the list the constants module defines
(`Gen.Constants.tetris_TETROMINOES_LIST`, 7 pieces) is inside `Tetris.validDraw` -/
theorem tetris_piece_draw_tied (ρ : String → Int) (hl : ρ "len(tetrominoes_list)" = Gen.Constants.tetris_TETROMINOES_LIST.length)
    (d : Nat) (h : inSupport (drawOf "tetris.sample_tetromino_list.tetromino_index") ρ (.i0 d)) : Tetris.validDraw d := by
  have e7 : Gen.Constants.tetris_TETROMINOES_LIST.length = 7 := by decide +kernel
  simp only [lookups] at h
  unfold Gen.Draws.d_tetris_sample_tetromino_list_tetromino_index at h
  simp [inSupport, inSupportE, shapeOK, evalList, X.evalI, Val.hasDims, inRandint, Bound.scI, Env.ofInt] at h
  unfold Tetris.validDraw
  omega


/-- the three `randint` calls of `RandomGenerator.__call__` (machine ids `[0, M)`, durations `[1, D + 1)`, ops per job `[1, O + 1)`,
shapes `(J, O)`, `(J, O)`, `(J,)`) are inside `JobShop.validGenDraw` — for `M, O, D ≥ 1` (with `max_op_duration = 0` the drawn
durations are all 1 and exceed the maximum: `randint` with an empty range returns `minval`) -/
theorem jobshop_draws_tied (ρ : String → Int) (cfg : JobShop.Cfg)
    (hJ : ρ "num_jobs" = cfg.J) (hM : ρ "num_machines" = cfg.M) (hO : ρ "max_num_ops" = cfg.O) (hD : ρ "max_op_duration" = cfg.D)
    (hM1 : 1 ≤ cfg.M) (hO1 : 1 ≤ cfg.O) (hD1 : 1 ≤ cfg.D)
    (mid dur : List (List Int)) (numOps : List Int)
    (h1 : inSupport (drawOf "job_shop.RandomGenerator.ops_machine_ids") ρ (.i2 mid))
    (h2 : inSupport (drawOf "job_shop.RandomGenerator.ops_durations") ρ (.i2 dur))
    (h3 : inSupport (drawOf "job_shop.RandomGenerator.num_ops_per_job") ρ (.i1 numOps)) :
    JobShop.validGenDraw cfg mid dur numOps := by
  simp only [lookups] at h1 h2 h3
  unfold Gen.Draws.d_job_shop_RandomGenerator_ops_machine_ids at h1; unfold Gen.Draws.d_job_shop_RandomGenerator_ops_durations at h2; unfold Gen.Draws.d_job_shop_RandomGenerator_num_ops_per_job at h3
  simp [inSupport, inSupportE, shapeOK, evalList, X.evalI, Val.hasDims, inRandint, Bound.scI, Env.ofInt] at h1 h2 h3
  refine ⟨fun j hj k hk => ?_, fun j hj k hk => ?_, fun j hj => ?_⟩
  · obtain ⟨r, hr, hm⟩ := at2_mem mid (-1) cfg.J cfg.O (by omega) (fun r hr => by have := h1.1.2 r hr; omega) j k hj hk
    have := h1.2 r hr _ hm
    omega
  · obtain ⟨r, hr, hm⟩ := at2_mem dur (-1) cfg.J cfg.O (by omega) (fun r hr => by have := h2.1.2 r hr; omega) j k hj hk
    have := h2.2 r hr _ hm
    omega
  · have hl : j < numOps.length := by omega
    have := h3.2 _ (List.getElem_mem hl)
    have e : numOps.getD j 0 = numOps[j] := by simp [List.getD_eq_getElem?_getD, hl]
    rw [e]
    omega

/-- `choice(key, num_rows * num_cols, shape=(num_mines,), replace=False)` is inside `Minesweeper.validDraw`: `num_mines` pairwise
distinct flat indices below `rows · cols` -/
theorem minesweeper_mines_draw_tied (ρ : String → Int) (cfg : Minesweeper.Cfg)
    (hR : ρ "num_rows" = cfg.numRows) (hC : ρ "num_cols" = cfg.numCols) (hM : ρ "num_mines" = cfg.numMines)
    (d : List Nat) (h : inSupport (drawOf "minesweeper.create_flat_mine_locations.return") ρ (.i1 (d.map Int.ofNat))) :
    Minesweeper.validDraw cfg d := by
  simp only [lookups] at h
  unfold Gen.Draws.d_minesweeper_create_flat_mine_locations_return at h
  simp [inSupport, inSupportE, shapeOK, evalList, X.evalI, Val.hasDims, Val.ints, pickOK, Wt.okAtNR, Pop.nodup, Env.ofInt] at h
  refine ⟨by omega, ?_, fun m hm => ?_⟩
  · exact List.Pairwise.of_map Int.ofNat (fun a b hab e => hab (congrArg _ e)) h.2.2
  · have := h.2.1 m hm
    rw [hR, hC] at this
    exact_mod_cast this


/-- the environment of the fruit draw: the mask `~body.flatten()` as a 0/1 weight vector -/
def snakeEnv (ρ : String → Int) (body : List (List Bool)) : Env :=
  { Env.ofInt ρ with w := fun s => if s = "~body.flatten()" then maskWeights (body.flatten.map not) else [] }

/-- `fruit_index = choice(key, arange(num_rows * num_cols), p=~body.flatten())` is inside `Snake.validDraw`: a cell of the board
that is not a body cell (unless every cell is) -/
theorem snake_fruit_draw_tied (ρ : String → Int) (cfg : Snake.Cfg) (hR : ρ "num_rows" = cfg.rows) (hC : ρ "num_cols" = cfg.cols)
    (body : List (List Bool)) (hs : Jx.Grid.shaped body cfg.rows cfg.cols = true)
    (d : Nat) (h : inSupportE (drawOf "snake.Snake.fruit_index") (snakeEnv ρ body) (.i0 d)) :
    Snake.validDraw cfg body d := by
  simp only [lookups] at h
  unfold Gen.Draws.d_snake_Snake_fruit_index at h
  have h' := h.2 (d : Int) (List.mem_singleton.2 rfl)
  simp only [pickOK, X.evalI, bind, Option.bind, pure] at h'
  obtain ⟨-, hlt, hok⟩ := h'
  have hd : d < cfg.rows * cfg.cols := by
    have e1 : (snakeEnv ρ body).i "num_rows" = cfg.rows := hR
    have e2 : (snakeEnv ρ body).i "num_cols" = cfg.cols := hC
    rw [e1, e2] at hlt; exact_mod_cast hlt
  simp only [Jx.Grid.shaped, Bool.and_eq_true, beq_iff_eq, List.all_eq_true] at hs
  refine ⟨hd, fun hall => ?_⟩
  have hf := flatten_getD true cfg.cols body hs.2 d (by rw [hs.1]; exact hd)
  unfold Jx.Grid.get
  rw [← hf]
  rcases okAt_mask (snakeEnv ρ body) _ (body.flatten.map not) (by simp [snakeEnv]) _ hok with h2 | h2
  · rw [Int.toNat_natCast] at h2
    exact getD_map_not _ _ h2
  · exfalso
    have : Jx.Grid.all id body = true := by
      rw [Jx.Grid.all_eq_true]
      intro r hr b hb
      have := h2 (!b) (List.mem_map.2 ⟨b, List.mem_flatten.2 ⟨r, hr, hb⟩, rfl⟩)
      simpa using this
    rw [this] at hall
    exact absurd hall (by decide)

/-- `agent_permutation = permutation(step_key, arange(num_agents))` is inside `MMST.validDraw`: a permutation of `0 … A-1` -/
theorem mmst_permutation_draw_tied (ρ : String → Int) (A : Nat) (hA : ρ "num_agents" = A) (perm : List Nat)
    (h : inSupport (drawOf "mmst.MMST.agent_permutation") ρ (.i1 (perm.map Int.ofNat))) : MMST.validDraw A perm := by
  simp only [lookups] at h
  unfold Gen.Draws.d_mmst_MMST_agent_permutation at h
  simp only [inSupport, inSupportE, Pop.elems, X.evalI, Env.ofInt, Option.map_some, hA, Int.toNat_natCast] at h
  have hnd : ((List.range A).map Int.ofNat).Nodup :=
    List.Pairwise.map _ (fun a b hab e => hab (Int.ofNat.inj e)) (List.nodup_range (n := A))
  refine ⟨by simpa using h.length_eq, ?_, fun k hk => ?_⟩
  · exact List.Pairwise.of_map Int.ofNat (fun a b hab e => hab (congrArg _ e)) (h.nodup_iff.2 hnd)
  · have := h.mem_iff.1 (List.mem_map.2 ⟨k, hk, rfl⟩)
    obtain ⟨j, hj, hjk⟩ := List.mem_map.1 this
    have : j = k := Int.ofNat.inj hjk
    exact this ▸ List.mem_range.1 hj

/-- `head_coordinates = randint(key, (2,), minval=zeros(2), maxval=array(self.board_shape))` with `board_shape = (num_rows, num_cols)`
(read from `__init__`): a cell of the board, which is what `Snake.reset` takes as `hr hc` -/
theorem snake_head_draw_tied (ρ : String → Int) (cfg : Snake.Cfg) (hR : ρ "num_rows" = cfg.rows) (hC : ρ "num_cols" = cfg.cols)
    (hr0 : 1 ≤ cfg.rows) (hc0 : 1 ≤ cfg.cols) (hr hc : Nat)
    (h : inSupport (drawOf "snake.Snake.head_coordinates") ρ (.i1 [(hr : Int), (hc : Int)])) : hr < cfg.rows ∧ hc < cfg.cols := by
  simp only [lookups] at h
  unfold Gen.Draws.d_snake_Snake_head_coordinates at h
  have h0 := h.2 0 (by simp)
  have h1 := h.2 1 (by simp)
  simp [Bound.atI, X.evalI, inRandint, Env.ofInt] at h0 h1
  omega

/-- `sample_levels`: `randint(key, shape, minval=1, maxval=max_level + 1)`: levels in `[1, max_level]`, the range
`LBF.validDraw` assumes for agent levels (`max_level = max_agent_level`) and food levels (`max_level = max_food_level`) -/
theorem lbf_levels_draw_tied (ρ : String → Int) (ls : List Int) (hm : 1 ≤ ρ "max_level")
    (h : inSupport (drawOf "lbf.RandomGenerator.sample_levels.return") ρ (.i1 ls)) : ∀ l ∈ ls, 1 ≤ l ∧ l ≤ ρ "max_level" := by
  simp only [lookups] at h
  unfold Gen.Draws.d_lbf_RandomGenerator_sample_levels_return at h
  simp [inSupport, inSupportE, shapeOK, X.evalI, inRandint, Env.ofInt] at h
  intro l hl
  have := h l hl
  omega

/-- `cell_value = choice(subkey, array([1, 2]), p=array([0.9, 0.1]))`: 1 or 2, the value clause of `Game2048.validDraw` -/
theorem game2048_value_draw_tied (ρ : String → Int) (v : Nat)
    (h : inSupport (drawOf "game_2048.Game2048.cell_value") ρ (.i0 v)) : v = 1 ∨ v = 2 := by
  simp only [lookups] at h
  unfold Gen.Draws.d_game_2048_Game2048_cell_value at h
  have h' := h.2 (v : Int) (List.mem_singleton.2 rfl)
  obtain ⟨k, hk, hv, -⟩ := h'
  have : k = 0 ∨ k = 1 := by simp at hk; omega
  rcases this with rfl | rfl <;> simp at hv <;> omega

/-- `starts_flat, targets_flat = choice(key, arange(grid_size**2), shape=(2, num_agents), replace=False)` is inside
`Connector.validUniformDraw`: `2k` pairwise different cells below `n²` -/
theorem connector_uniform_draw_tied (ρ : String → Int) (n k : Nat) (hn : ρ "grid_size" = n) (hk : ρ "num_agents" = k)
    (starts targets : List Nat)
    (h : inSupport (drawOf "connector.UniformRandomGenerator.starts_flat_targets_flat") ρ
      (.i2 [starts.map Int.ofNat, targets.map Int.ofNat])) :
    Connector.validUniformDraw n k (starts ++ targets) = true := by
  simp only [lookups] at h
  unfold Gen.Draws.d_connector_UniformRandomGenerator_starts_flat_targets_flat at h
  simp [inSupport, inSupportE, shapeOK, evalList, X.evalI, Val.hasDims, Val.ints, pickOK, Wt.okAtNR, Pop.nodup, Env.ofInt] at h
  obtain ⟨⟨hl1, hl2⟩, hr, hnd⟩ := h
  rw [← List.map_append] at hnd
  have hnd' : (starts ++ targets).Nodup := List.Pairwise.of_map Int.ofNat (fun a b hab e => hab (congrArg _ e)) hnd
  simp only [Connector.validUniformDraw, Bool.and_eq_true, beq_iff_eq, decide_eq_true_eq, List.all_eq_true, List.length_append]
  refine ⟨⟨by omega, hnd'⟩, fun c hc => ?_⟩
  have := (hr c (by rcases List.mem_append.1 hc with h' | h'
                    · exact Or.inl ⟨c, h', rfl⟩
                    · exact Or.inr ⟨c, h', rfl⟩)).2
  rw [hn] at this
  have h2 : ((c : Int)) < ((n * n : Nat) : Int) := by rw [Int.pow_succ, Int.pow_succ, Int.pow_zero, Int.one_mul] at this; exact_mod_cast this
  exact_mod_cast h2

-- non-vacuity: concrete values are in the supports, values at the excluded end / repeated cells are not
example : inSupport (drawOf "knapsack.RandomGenerator.weights_values") (fun _ => 2) (.r2 [[0, 1/2], [1/3, 3/4]]) := by
  simp only [lookups]; decide +kernel
example : ¬ inSupport (drawOf "knapsack.RandomGenerator.weights_values") (fun _ => 2) (.r2 [[0, 1/2], [1/3, 1]]) := by
  simp only [lookups]; decide +kernel
example : inSupport (drawOf "tsp.UniformGenerator.coordinates") (fun _ => 2) (.r2 [[0, 1/2], [1/3, 3/4]]) := by
  simp only [lookups]; decide +kernel
example : ¬ inSupport (drawOf "tsp.UniformGenerator.coordinates") (fun _ => 2) (.r2 [[0, 1/2], [1/3, 1]]) := by
  simp only [lookups]; decide +kernel
example : inSupport (drawOf "graph_coloring.RandomGenerator.p_matrix") (fun _ => 2) (.r2 [[0, 1/2], [1/3, 3/4]]) := by
  simp only [lookups]; decide +kernel
example : inSupport (drawOf "job_shop.RandomGenerator.ops_machine_ids") (fun _ => 2) (.i2 [[0, 1], [1, 0]]) := by
  simp only [lookups]; decide +kernel
example : ¬ inSupport (drawOf "job_shop.RandomGenerator.ops_machine_ids") (fun _ => 2) (.i2 [[0, 2], [1, 0]]) := by
  simp only [lookups]; decide +kernel
example : inSupport (drawOf "job_shop.RandomGenerator.ops_durations") (fun _ => 2) (.i2 [[1, 2], [2, 1]]) := by
  simp only [lookups]; decide +kernel
example : ¬ inSupport (drawOf "job_shop.RandomGenerator.ops_durations") (fun _ => 2) (.i2 [[1, 3], [2, 1]]) := by
  simp only [lookups]; decide +kernel
example : inSupport (drawOf "job_shop.RandomGenerator.num_ops_per_job") (fun _ => 2) (.i1 [1, 2]) := by
  simp only [lookups]; decide +kernel
example : ¬ inSupport (drawOf "job_shop.RandomGenerator.num_ops_per_job") (fun _ => 2) (.i1 [0, 2]) := by
  simp only [lookups]; decide +kernel
example : inSupport (drawOf "minesweeper.create_flat_mine_locations.return") (fun _ => 3) (.i1 [0, 8, 3]) := by
  simp only [lookups]; decide +kernel
example : ¬ inSupport (drawOf "minesweeper.create_flat_mine_locations.return") (fun _ => 3) (.i1 [0, 0, 3]) := by
  simp only [lookups]; decide +kernel
example : ¬ inSupport (drawOf "minesweeper.create_flat_mine_locations.return") (fun _ => 3) (.i1 [0, 9, 3]) := by
  simp only [lookups]; decide +kernel
example : inSupport (drawOf "tetris.sample_tetromino_list.tetromino_index") (fun _ => 7) (.i0 6) := by
  simp only [lookups]; decide +kernel
example : ¬ inSupport (drawOf "tetris.sample_tetromino_list.tetromino_index") (fun _ => 7) (.i0 7) := by
  simp only [lookups]; decide +kernel
example : inSupportE (drawOf "snake.Snake.fruit_index") (snakeEnv (fun _ => 2) [[true, false], [false, false]]) (.i0 1) := by
  simp only [lookups]; decide +kernel
example : ¬ inSupportE (drawOf "snake.Snake.fruit_index") (snakeEnv (fun _ => 2) [[true, false], [false, false]]) (.i0 0) := by
  simp only [lookups]; decide +kernel
example : inSupport (drawOf "snake.Snake.head_coordinates") (fun n => if n = "num_rows" then 2 else 3) (.i1 [1, 2]) := by
  simp only [lookups]; decide +kernel
example : ¬ inSupport (drawOf "snake.Snake.head_coordinates") (fun n => if n = "num_rows" then 2 else 3) (.i1 [2, 0]) := by
  simp only [lookups]; decide +kernel
example : inSupport (drawOf "mmst.MMST.agent_permutation") (fun _ => 3) (.i1 [2, 0, 1]) := by
  simp only [lookups]; decide +kernel
example : ¬ inSupport (drawOf "mmst.MMST.agent_permutation") (fun _ => 3) (.i1 [0, 0, 1]) := by
  simp only [lookups]; decide +kernel
example : inSupport (drawOf "lbf.RandomGenerator.sample_levels.return") (fun _ => 2) (.i1 [1, 2]) := by
  simp only [lookups]; decide +kernel
example : ¬ inSupport (drawOf "lbf.RandomGenerator.sample_levels.return") (fun _ => 2) (.i1 [3]) := by
  simp only [lookups]; decide +kernel
example : inSupport (drawOf "game_2048.Game2048.cell_value") (fun _ => 0) (.i0 2) := by
  simp only [lookups]; decide +kernel
example : ¬ inSupport (drawOf "game_2048.Game2048.cell_value") (fun _ => 0) (.i0 3) := by
  simp only [lookups]; decide +kernel
example : inSupport (drawOf "connector.UniformRandomGenerator.starts_flat_targets_flat") (fun _ => 2) (.i2 [[0, 1], [2, 3]]) := by
  simp only [lookups]; decide +kernel
example : ¬ inSupport (drawOf "connector.UniformRandomGenerator.starts_flat_targets_flat") (fun _ => 2) (.i2 [[0, 1], [1, 3]]) := by
  simp only [lookups]; decide +kernel
-- an entry that does not exist, or a call the translator could not read, gives NO information: nothing can be derived from it
example : inSupport (drawOf "no.such.entry") (fun _ => 0) (.i0 12345) := by simp only [lookups]; decide

end Props.C10
