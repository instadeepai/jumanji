/-
C01, the tie between the models' symbolic specs and the specs the real environments declare: the GENERATED table
`Gen/Specs.lean` (one row per leaf of `observation_spec`, `action_spec`, `reward_spec`, `discount_spec` of every catalogue
configuration, written by harness/translators.py from the real spec objects) is, row for row, the list `declaredModel` of the
models' specs at the configurations' constructor arguments.  ONE kernel evaluation compares the whole table
(`table_is_model`); `declares_at` reads the `PzS.Declares` fact of a configuration off its position, and the per-environment
theorems `<env>_obsSpec_generated` (and the bounds ties of Maze, Snake and Sudoku) are stated in the terms of `PzS.declared`:
each says that the model's `obsSpec` / `actionSpec` / reward and discount specs ARE the generated ones for the configurations its
comment names.
-/
import JumanjiModel.Env.SpecDeclared
import JumanjiModel.Props.Env.BinPack
import JumanjiModel.Props.Env.CVRP
import JumanjiModel.Props.Env.Cleaner
import JumanjiModel.Props.Env.Connector
import JumanjiModel.Props.Env.FlatPack
import JumanjiModel.Props.Env.Game2048
import JumanjiModel.Props.Env.GraphColoring
import JumanjiModel.Props.Env.JobShop
import JumanjiModel.Props.Env.Knapsack
import JumanjiModel.Props.Env.LBF
import JumanjiModel.Props.Env.MMST
import JumanjiModel.Props.Env.Maze
import JumanjiModel.Props.Env.Minesweeper
import JumanjiModel.Props.Env.MultiCVRP
import JumanjiModel.Props.Env.PacMan
import JumanjiModel.Props.Env.RobotWarehouse
import JumanjiModel.Props.Env.RubiksCube
import JumanjiModel.Props.Env.SlidingTilePuzzle
import JumanjiModel.Props.Env.Snake
import JumanjiModel.Props.Env.Sokoban
import JumanjiModel.Props.Env.Sudoku
import JumanjiModel.Props.Env.TSP
import JumanjiModel.Props.Env.Tetris
open Sp PzS

namespace Props.C01

/-- the catalogue configurations (harness/catalog.py: the quick tier, then the spec-only ones) in the order of the generated
table, each with the model's observation, action, reward and discount spec at its constructor arguments -/
def declaredModel : List (String × Nested × Leaf × Leaf × Leaf) :=
  [("game2048-4", Game2048.obsSpec 4, Game2048.actionSpec, rewardSpec, discountSpec),
  ("game2048-3", Game2048.obsSpec 3, Game2048.actionSpec, rewardSpec, discountSpec),
  ("graphcoloring-8", GraphColoring.obsSpec 8, GraphColoring.actionSpec 8, rewardSpec, discountSpec),
  ("minesweeper-5x6", Minesweeper.obsSpec ⟨5, 6, 4, 1, 0, 0⟩, Minesweeper.actionSpec ⟨5, 6, 4, 1, 0, 0⟩, rewardSpec, discountSpec),
  ("rubikscube-3", RubiksCube.obsSpec ⟨3, 12⟩, RubiksCube.actionSpec ⟨3, 12⟩, rewardSpec, discountSpec),
  ("rubikscube-2", RubiksCube.obsSpec ⟨2, 7⟩, RubiksCube.actionSpec ⟨2, 7⟩, rewardSpec, discountSpec),
  ("slidingtile-3", SlidingTilePuzzle.obsSpec ⟨3, true, 15⟩, SlidingTilePuzzle.actionSpec, rewardSpec, discountSpec),
  ("sudoku-default", Sudoku.obsSpec, Sudoku.actionSpec, rewardSpec, discountSpec),
  ("sudoku-shared-db", Sudoku.obsSpec, Sudoku.actionSpec, rewardSpec, discountSpec),
  ("sudoku-dummy", Sudoku.obsSpec, Sudoku.actionSpec, rewardSpec, discountSpec),
  ("binpack-toy", BinPack.obsSpec ⟨10, true, true⟩ 20 ⟨5870, 2330, 2200⟩, BinPack.actionSpec ⟨10, true, true⟩ 20, rewardSpec, discountSpec),
  ("binpack-csv", BinPack.obsSpec ⟨8, true, true⟩ 2 ⟨5870, 2330, 2200⟩, BinPack.actionSpec ⟨8, true, true⟩ 2, rewardSpec, discountSpec),
  ("flatpack-2x2", FlatPack.obsSpec ⟨5, 5, 4, true⟩, FlatPack.actionSpec ⟨5, 5, 4, true⟩, rewardSpec, discountSpec),
  ("jobshop-3x3", JobShop.obsSpec ⟨3, 3, 3, 3⟩, JobShop.actionSpec ⟨3, 3, 3, 3⟩, rewardSpec, discountSpec),
  ("knapsack-8", Knapsack.obsSpec 8, Knapsack.actionSpec 8, rewardSpec, discountSpec),
  ("tetris-6x5", Tetris.obsSpec ⟨6, 5, 9⟩, Tetris.actionSpec ⟨6, 5, 9⟩, rewardSpec, discountSpec),
  ("cleaner-5x7x2", Cleaner.obsSpec ⟨5, 7, 2, 11, 1/2⟩, Cleaner.actionSpec ⟨5, 7, 2, 11, 1/2⟩, rewardSpec, discountSpec),
  ("cleaner-none", Cleaner.obsSpec ⟨4, 5, 1, 20, 1/2⟩, Cleaner.actionSpec ⟨4, 5, 1, 20, 1/2⟩, rewardSpec, discountSpec),
  ("connector-6x3", Connector.obsSpec ⟨6, 3, 9, 1, -3/100⟩, Connector.actionSpec ⟨6, 3, 9, 1, -3/100⟩, Connector.rewardSpec ⟨6, 3, 9, 1, -3/100⟩, Connector.discountSpec ⟨6, 3, 9, 1, -3/100⟩),
  ("connector-uniform", Connector.obsSpec ⟨5, 2, 5, 1, -3/100⟩, Connector.actionSpec ⟨5, 2, 5, 1, -3/100⟩, Connector.rewardSpec ⟨5, 2, 5, 1, -3/100⟩, Connector.discountSpec ⟨5, 2, 5, 1, -3/100⟩),
  ("cvrp-6", CVRP.obsSpec 6, CVRP.actionSpec 6, rewardSpec, discountSpec),
  ("lbf-6x2", LBF.obsSpec ⟨6, 2, 8, false, true, 0⟩ 2 2 2, LBF.actionSpec 2, MaS.rewardSpecN 2, MaS.discountSpecN 2),
  ("lbf-grid", LBF.obsSpec ⟨7, 7, 6, true, true, 0⟩ 3 2 2, LBF.actionSpec 3, MaS.rewardSpecN 3, MaS.discountSpecN 3),
  ("maze-5x7", Maze.obsSpec ⟨5, 7, 9⟩, Maze.actionSpec, rewardSpec, discountSpec),
  ("maze-none-3x5", Maze.obsSpec ⟨3, 5, 15⟩, Maze.actionSpec, rewardSpec, discountSpec),
  ("cleaner-none-3x6", Cleaner.obsSpec ⟨3, 6, 1, 18, 1/2⟩, Cleaner.actionSpec ⟨3, 6, 1, 18, 1/2⟩, rewardSpec, discountSpec),
  ("maze-none", Maze.obsSpec ⟨4, 4, 16⟩, Maze.actionSpec, rewardSpec, discountSpec),
  ("mmst-small", MMST.obsSpec mmstSmall, MMST.actionSpec mmstSmall, rewardSpec, discountSpec),
  ("multicvrp-6x2", MultiCVRP.obsSpec ⟨6, 20, true⟩ 2 lim6x2 (2780457 / 16384), MultiCVRP.actionSpec ⟨6, 20, true⟩ 2, rewardSpec, discountSpec),
  ("pacman", PacMan.obsSpec ⟨31, 28, 12⟩ Gen.PacManMaze.table.pellets.length, PacMan.actionSpec, rewardSpec, discountSpec),
  ("robotwarehouse-small", RobotWarehouse.obsSpec ⟨9, 1, [], []⟩ 2, RobotWarehouse.actionSpec 2, rewardSpec, discountSpec),
  ("snake-5x6", Snake.obsSpec ⟨5, 6, 10⟩, Snake.actionSpec, rewardSpec, discountSpec),
  ("sokoban-simple", Sokoban.obsSpec ⟨10, 120, true⟩, Sokoban.actionSpec, rewardSpec, discountSpec),
  ("sokoban-toy", Sokoban.obsSpec ⟨10, 120, true⟩, Sokoban.actionSpec, rewardSpec, discountSpec),
  ("tsp-6", TSP.obsSpec 6, TSP.actionSpec 6, rewardSpec, discountSpec),
  ("spec-only-game2048-5", Game2048.obsSpec 5, Game2048.actionSpec, rewardSpec, discountSpec),
  ("spec-only-graphcoloring-5", GraphColoring.obsSpec 5, GraphColoring.actionSpec 5, rewardSpec, discountSpec),
  ("spec-only-minesweeper-3x4x5", Minesweeper.obsSpec ⟨3, 4, 5, 1, 0, 0⟩, Minesweeper.actionSpec ⟨3, 4, 5, 1, 0, 0⟩, rewardSpec, discountSpec),
  ("spec-only-rubikscube-4", RubiksCube.obsSpec ⟨4, 11⟩, RubiksCube.actionSpec ⟨4, 11⟩, rewardSpec, discountSpec),
  ("spec-only-slidingtile-5", SlidingTilePuzzle.obsSpec ⟨5, true, 13⟩, SlidingTilePuzzle.actionSpec, rewardSpec, discountSpec),
  ("spec-only-sudoku-dummy", Sudoku.obsSpec, Sudoku.actionSpec, rewardSpec, discountSpec),
  ("spec-only-binpack-random-6x12x5", BinPack.obsSpec ⟨5, true, true⟩ 6 ⟨5870, 2330, 2200⟩, BinPack.actionSpec ⟨5, true, true⟩ 6, rewardSpec, discountSpec),
  ("spec-only-flatpack-2x4", FlatPack.obsSpec ⟨5, 9, 8, true⟩, FlatPack.actionSpec ⟨5, 9, 8, true⟩, rewardSpec, discountSpec),
  ("spec-only-jobshop-4x3x6x7", JobShop.obsSpec ⟨4, 3, 6, 7⟩, JobShop.actionSpec ⟨4, 3, 6, 7⟩, rewardSpec, discountSpec),
  ("spec-only-knapsack-5", Knapsack.obsSpec 5, Knapsack.actionSpec 5, rewardSpec, discountSpec),
  ("spec-only-tetris-7x5", Tetris.obsSpec ⟨7, 5, 11⟩, Tetris.actionSpec ⟨7, 5, 11⟩, rewardSpec, discountSpec),
  ("spec-only-cleaner-3x8x5", Cleaner.obsSpec ⟨3, 8, 5, 13, 1/2⟩, Cleaner.actionSpec ⟨3, 8, 5, 13, 1/2⟩, rewardSpec, discountSpec),
  ("spec-only-connector-9x2", Connector.obsSpec ⟨9, 2, 11, 1, -3/100⟩, Connector.actionSpec ⟨9, 2, 11, 1, -3/100⟩, Connector.rewardSpec ⟨9, 2, 11, 1, -3/100⟩, Connector.discountSpec ⟨9, 2, 11, 1, -3/100⟩),
  ("spec-only-cvrp-3", CVRP.obsSpec 3, CVRP.actionSpec 3, rewardSpec, discountSpec),
  ("spec-only-lbf-7x3x2-l3", LBF.obsSpec ⟨7, 2, 11, false, true, 0⟩ 3 2 3, LBF.actionSpec 3, MaS.rewardSpecN 3, MaS.discountSpecN 3),
  ("spec-only-lbf-grid-6x2x1-l4", LBF.obsSpec ⟨6, 3, 9, true, true, 0⟩ 2 1 4, LBF.actionSpec 2, MaS.rewardSpecN 2, MaS.discountSpecN 2),
  ("spec-only-maze-6x9", Maze.obsSpec ⟨6, 9, 11⟩, Maze.actionSpec, rewardSpec, discountSpec),
  ("spec-only-mmst-10x3x2", MMST.obsSpec mmstSpecOnly, MMST.actionSpec mmstSpecOnly, rewardSpec, discountSpec),
  ("spec-only-multicvrp-20x3", MultiCVRP.obsSpec ⟨20, 60, true⟩ 3 lim20x3 (4634095 / 8192), MultiCVRP.actionSpec ⟨20, 60, true⟩ 3, rewardSpec, discountSpec),
  ("spec-only-multicvrp-100x3", MultiCVRP.obsSpec ⟨100, 300, true⟩ 3 lim100x3 (5792619 / 1024), MultiCVRP.actionSpec ⟨100, 300, true⟩ 3, rewardSpec, discountSpec),
  ("spec-only-pacman-default", PacMan.obsSpec ⟨31, 28, 1000⟩ Gen.PacManMaze.table.pellets.length, PacMan.actionSpec, rewardSpec, discountSpec),
  ("spec-only-robotwarehouse-3a-r2", RobotWarehouse.obsSpec ⟨11, 2, [], []⟩ 3, RobotWarehouse.actionSpec 3, rewardSpec, discountSpec),
  ("spec-only-snake-3x7", Snake.obsSpec ⟨3, 7, 13⟩, Snake.actionSpec, rewardSpec, discountSpec),
  ("spec-only-sokoban-toy", Sokoban.obsSpec ⟨10, 7, true⟩, Sokoban.actionSpec, rewardSpec, discountSpec),
  ("spec-only-tsp-4", TSP.obsSpec 4, TSP.actionSpec 4, rewardSpec, discountSpec)]

theorem table_is_model :
    (Gen.Specs.parts.flatten ==
      declaredModel.flatMap fun e => (specRows e.2.1 e.2.2.1 e.2.2.2.1 e.2.2.2.2).map (e.1, ·)) = true := by
  decide +kernel

/-- The kernel compares sixty numbers pairwise much faster than sixty strings (each string comparison encodes both sides
anew): the configuration ids are pairwise distinct because their UTF-8 bytes, read as one number, are. -/
theorem ids_nodup : (declaredModel.map (·.1)).Nodup :=
  List.Pairwise.of_map (S := (· ≠ ·)) (fun s : String => s.toByteArray.data.toList.foldl (fun n b => n * 256 + b.toNat) 0)
    (fun _ _ h e => h (e ▸ rfl)) (by rw [List.map_map]; decide +kernel)

/-- the generated table declares for the `i`-th configuration exactly the model's specs listed at position `i` of
`declaredModel` (a wrong `i` fails at `rfl`; inserting a row shifts the positions after it) -/
theorem declares_at (i : Nat) {cid : String} {obs : Nested} {act rew disc : Leaf}
    (h : declaredModel[i]? = some (cid, obs, act, rew, disc)) : Declares cid obs act rew disc :=
  declares_of_rows <| by
    rw [rowsOf, eq_of_beq table_is_model]
    exact rows_of_grouped (·.1) (fun e => specRows e.2.1 e.2.2.1 e.2.2.2.1 e.2.2.2.2) ids_nodup (List.mem_of_getElem? h)

end Props.C01

section
open Jm BinPack
open Sp PzS PkS
namespace Props.C01

/-- the catalogue configurations `binpack-csv` (`BinPack(CSVGenerator(…, max_num_ems=15), obs_num_ems=8)`,
2 items; every leaf) and `binpack-toy` (`BinPack(ToyGenerator(), obs_num_ems=10)`, 20 items; every leaf — the raw (`int32`,
`[0, max_dim]`) form of the specs is compared at run time by the `bin_pack.spec` op for every adapter configuration): paths
`ems.{x1,x2,y1,y2,z1,z2}`, `ems_mask`, `items.{x_len,y_len,z_len}`, `items_mask`, `items_placed`, `action_mask` in this order;
shapes `(obs_num_ems,)` / `(max_num_items,)` / `(obs_num_ems, max_num_items)`; float32 in `[0, 1]`, bool.
The `binpack-toy` conjunct is about the WHOLE `obsSpec`, its `action_mask` leaf (10, 20) included.  The third configuration is
spec-only (no sweep runs it): `BinPack(RandomGenerator(max_num_items=6, max_num_ems=12), obs_num_ems=5)`, i.e. 6 items, 12 EMS
kept, 5 EMS observed — three pairwise distinct parameters, so exchanging two of them in the model's spec is detected -/
theorem binpack_obsSpec_generated :
    prefixed "observation_spec." (obsSpec ⟨8, true, true⟩ 2 ⟨5870, 2330, 2200⟩) = declared "binpack-csv" "observation_spec." ∧
    [("action_spec", actionSpec ⟨8, true, true⟩ 2)] = declared "binpack-csv" "action_spec" ∧
    [("reward_spec", rewardSpec)] = declared "binpack-csv" "reward_spec" ∧
    [("discount_spec", discountSpec)] = declared "binpack-csv" "discount_spec" ∧
    prefixed "observation_spec." (obsSpec ⟨10, true, true⟩ 20 ⟨5870, 2330, 2200⟩) = declared "binpack-toy" "observation_spec." ∧
    [("action_spec", actionSpec ⟨10, true, true⟩ 20)] = declared "binpack-toy" "action_spec" ∧
    [("reward_spec", rewardSpec)] = declared "binpack-toy" "reward_spec" ∧
    [("discount_spec", discountSpec)] = declared "binpack-toy" "discount_spec" ∧
    prefixed "observation_spec." (obsSpec ⟨5, true, true⟩ 6 ⟨5870, 2330, 2200⟩) = declared "spec-only-binpack-random-6x12x5" "observation_spec." ∧
    [("action_spec", actionSpec ⟨5, true, true⟩ 6)] = declared "spec-only-binpack-random-6x12x5" "action_spec" ∧
    [("reward_spec", rewardSpec)] = declared "spec-only-binpack-random-6x12x5" "reward_spec" ∧
    [("discount_spec", discountSpec)] = declared "spec-only-binpack-random-6x12x5" "discount_spec" := by
  have h1 := declares_at 11 rfl
  have h2 := declares_at 10 rfl
  have h3 := declares_at 41 rfl
  exact ⟨h1.observation, h1.action, h1.reward, h1.discount, h2.observation, h2.action, h2.reward, h2.discount,
    h3.observation, h3.action, h3.reward, h3.discount⟩

end Props.C01
end

section
open Jm CVRP
namespace Props.C01

open Sp PzS in
/-- `cvrp-6` and the spec-only configuration with 3 nodes: two sizes, `trajectory` has `2 * n` entries — 12 and 6 — bounded by
`n + 1` -/
theorem cvrp_obsSpec_generated :
    prefixed "observation_spec." (obsSpec 6) = declared "cvrp-6" "observation_spec." ∧
    [("action_spec", actionSpec 6)] = declared "cvrp-6" "action_spec" ∧
    [("reward_spec", rewardSpec)] = declared "cvrp-6" "reward_spec" ∧
    [("discount_spec", discountSpec)] = declared "cvrp-6" "discount_spec" ∧
    prefixed "observation_spec." (obsSpec 3) = declared "spec-only-cvrp-3" "observation_spec." ∧
    [("action_spec", actionSpec 3)] = declared "spec-only-cvrp-3" "action_spec" ∧
    [("reward_spec", rewardSpec)] = declared "spec-only-cvrp-3" "reward_spec" ∧
    [("discount_spec", discountSpec)] = declared "spec-only-cvrp-3" "discount_spec" := by
  have h1 := declares_at 20 rfl
  have h2 := declares_at 48 rfl
  exact ⟨h1.observation, h1.action, h1.reward, h1.discount, h2.observation, h2.action, h2.reward, h2.discount⟩

end Props.C01
end

section
open Jm Cleaner
open Sp PzS
namespace Props.C01

/-- the three catalogue configurations of Cleaner (5×7 with 2 agents and limit 11; 4×5 and 3×6 with one agent and the default
limit rows·cols) and for one spec-only configuration, `Cleaner(RandomGenerator(3, 8, 5), time_limit=13)`, chosen so that
rows 3, columns 8, 5 agents, 4 actions, 2 coordinates and the limit 13 are pairwise distinct.  For every other configuration the `cleaner.spec` op compares the model's specs with
the real objects on every run. -/
theorem cleaner_obsSpec_generated :
    prefixed "observation_spec." (obsSpec ⟨5, 7, 2, 11, 1/2⟩) = declared "cleaner-5x7x2" "observation_spec." ∧
    prefixed "observation_spec." (obsSpec ⟨4, 5, 1, 20, 1/2⟩) = declared "cleaner-none" "observation_spec." ∧
    prefixed "observation_spec." (obsSpec ⟨3, 6, 1, 18, 1/2⟩) = declared "cleaner-none-3x6" "observation_spec." ∧
    [("action_spec", actionSpec ⟨5, 7, 2, 11, 1/2⟩)] = declared "cleaner-5x7x2" "action_spec" ∧
    [("action_spec", actionSpec ⟨4, 5, 1, 20, 1/2⟩)] = declared "cleaner-none" "action_spec" ∧
    [("reward_spec", PzS.rewardSpec)] = declared "cleaner-5x7x2" "reward_spec" ∧
    [("discount_spec", discountSpec)] = declared "cleaner-5x7x2" "discount_spec" ∧
    [("action_spec", actionSpec ⟨3, 6, 1, 18, 1/2⟩)] = declared "cleaner-none-3x6" "action_spec" ∧
    [("reward_spec", PzS.rewardSpec)] = declared "cleaner-none" "reward_spec" ∧
    [("discount_spec", discountSpec)] = declared "cleaner-none" "discount_spec" ∧
    [("reward_spec", PzS.rewardSpec)] = declared "cleaner-none-3x6" "reward_spec" ∧
    [("discount_spec", discountSpec)] = declared "cleaner-none-3x6" "discount_spec" ∧
    prefixed "observation_spec." (obsSpec ⟨3, 8, 5, 13, 1/2⟩) = declared "spec-only-cleaner-3x8x5" "observation_spec." ∧
    [("action_spec", actionSpec ⟨3, 8, 5, 13, 1/2⟩)] = declared "spec-only-cleaner-3x8x5" "action_spec" ∧
    [("reward_spec", PzS.rewardSpec)] = declared "spec-only-cleaner-3x8x5" "reward_spec" ∧
    [("discount_spec", discountSpec)] = declared "spec-only-cleaner-3x8x5" "discount_spec" := by
  have h1 := declares_at 16 rfl
  have h2 := declares_at 17 rfl
  have h3 := declares_at 25 rfl
  have h4 := declares_at 46 rfl
  exact ⟨h1.observation, h2.observation, h3.observation, h1.action, h2.action, h1.reward, h1.discount, h3.action,
    h2.reward, h2.discount, h3.reward, h3.discount, h4.observation, h4.action, h4.reward, h4.discount⟩

end Props.C01
end

section
open Jm Jx Connector
open Sp PzS PkS MaS
namespace Props.C01

/-- the two catalogue configurations `Connector(RandomWalkGenerator(6, 3), time_limit=9)` and
`Connector(UniformRandomGenerator(5, 2), time_limit=5)`: fields `grid`, `action_mask`, `step_count`; shapes `(n, n)`, `(k, 5)`,
`()`; dtypes int32, bool, int32; bounds `[0, 3k + 1]`, `[0, 1]`, `[0, time_limit]`.
SPEC-ONLY third configuration `Connector(RandomWalkGenerator(9, 2), time_limit=11)`: grid size 9, `n − 1 = 8`, cell maximum `3k + 1 = 7`,
5 actions, limit 11 pairwise distinct -/
theorem connector_obsSpec_generated :
    prefixed "observation_spec." (obsSpec ⟨6, 3, 9, 1, -3/100⟩) = declared "connector-6x3" "observation_spec." ∧
    prefixed "observation_spec." (obsSpec ⟨5, 2, 5, 1, -3/100⟩) = declared "connector-uniform" "observation_spec." ∧
    [("action_spec", actionSpec ⟨6, 3, 9, 1, -3/100⟩)] = declared "connector-6x3" "action_spec" ∧
    [("action_spec", actionSpec ⟨5, 2, 5, 1, -3/100⟩)] = declared "connector-uniform" "action_spec" ∧
    [("reward_spec", rewardSpec ⟨6, 3, 9, 1, -3/100⟩)] = declared "connector-6x3" "reward_spec" ∧
    [("reward_spec", rewardSpec ⟨5, 2, 5, 1, -3/100⟩)] = declared "connector-uniform" "reward_spec" ∧
    [("discount_spec", discountSpec ⟨6, 3, 9, 1, -3/100⟩)] = declared "connector-6x3" "discount_spec" ∧
    [("discount_spec", discountSpec ⟨5, 2, 5, 1, -3/100⟩)] = declared "connector-uniform" "discount_spec" ∧
    prefixed "observation_spec." (obsSpec ⟨9, 2, 11, 1, -3/100⟩) = declared "spec-only-connector-9x2" "observation_spec." ∧
    [("action_spec", actionSpec ⟨9, 2, 11, 1, -3/100⟩)] = declared "spec-only-connector-9x2" "action_spec" ∧
    [("reward_spec", rewardSpec ⟨9, 2, 11, 1, -3/100⟩)] = declared "spec-only-connector-9x2" "reward_spec" ∧
    [("discount_spec", discountSpec ⟨9, 2, 11, 1, -3/100⟩)] = declared "spec-only-connector-9x2" "discount_spec" := by
  have h1 := declares_at 18 rfl
  have h2 := declares_at 19 rfl
  have h3 := declares_at 47 rfl
  exact ⟨h1.observation, h2.observation, h1.action, h2.action, h1.reward, h2.reward, h1.discount, h2.discount,
    h3.observation, h3.action, h3.reward, h3.discount⟩

end Props.C01
end

section
open Jm FlatPack
open PzB
open Sp PzS PkS
namespace Props.C01

/-- the catalogue configuration `FlatPack(RandomFlatPackGenerator(2, 2))` (5 × 5 grid, 4 blocks) and for the
spec-only second configuration `FlatPack(RandomFlatPackGenerator(2, 4))`: 5 × 9 grid, 8 blocks, mask `(8, 4, 3, 7)` — rows, columns,
blocks, rotations, `R − 2` and `C − 2` pairwise distinct -/
theorem flatpack_obsSpec_generated :
    prefixed "observation_spec." (obsSpec ⟨5, 5, 4, true⟩) = declared "flatpack-2x2" "observation_spec." ∧
    [("action_spec", actionSpec ⟨5, 5, 4, true⟩)] = declared "flatpack-2x2" "action_spec" ∧
    [("reward_spec", rewardSpec)] = declared "flatpack-2x2" "reward_spec" ∧
    [("discount_spec", discountSpec)] = declared "flatpack-2x2" "discount_spec" ∧
    prefixed "observation_spec." (obsSpec ⟨5, 9, 8, true⟩) = declared "spec-only-flatpack-2x4" "observation_spec." ∧
    [("action_spec", actionSpec ⟨5, 9, 8, true⟩)] = declared "spec-only-flatpack-2x4" "action_spec" ∧
    [("reward_spec", rewardSpec)] = declared "spec-only-flatpack-2x4" "reward_spec" ∧
    [("discount_spec", discountSpec)] = declared "spec-only-flatpack-2x4" "discount_spec" := by
  have h1 := declares_at 12 rfl
  have h2 := declares_at 42 rfl
  exact ⟨h1.observation, h1.action, h1.reward, h1.discount, h2.observation, h2.action, h2.reward, h2.discount⟩

end Props.C01
end

section
open Jm Game2048
open PzB
open Sp PzS PzS3
namespace Props.C01

/-- the catalogue configurations of Game2048 (board sizes 4 and 3) and the spec-only configuration
`Game2048(board_size=5)` (three sizes: the board shape follows `n`, the mask does not) -/
theorem game2048_obsSpec_generated :
    prefixed "observation_spec." (obsSpec 4) = declared "game2048-4" "observation_spec." ∧
    prefixed "observation_spec." (obsSpec 3) = declared "game2048-3" "observation_spec." ∧
    [("action_spec", actionSpec)] = declared "game2048-4" "action_spec" ∧
    [("action_spec", actionSpec)] = declared "game2048-3" "action_spec" ∧
    [("reward_spec", rewardSpec)] = declared "game2048-4" "reward_spec" ∧
    [("discount_spec", discountSpec)] = declared "game2048-4" "discount_spec" ∧
    [("reward_spec", rewardSpec)] = declared "game2048-3" "reward_spec" ∧
    [("discount_spec", discountSpec)] = declared "game2048-3" "discount_spec" ∧
    prefixed "observation_spec." (obsSpec 5) = declared "spec-only-game2048-5" "observation_spec." ∧
    [("action_spec", actionSpec)] = declared "spec-only-game2048-5" "action_spec" ∧
    [("reward_spec", rewardSpec)] = declared "spec-only-game2048-5" "reward_spec" ∧
    [("discount_spec", discountSpec)] = declared "spec-only-game2048-5" "discount_spec" := by
  have h1 := declares_at 0 rfl
  have h2 := declares_at 1 rfl
  have h3 := declares_at 35 rfl
  exact ⟨h1.observation, h2.observation, h1.action, h2.action, h1.reward, h1.discount, h2.reward, h2.discount,
    h3.observation, h3.action, h3.reward, h3.discount⟩

end Props.C01
end

section
open Jm GraphColoring
open PzB
open Sp PzS PzS3
namespace Props.C01

/-- the catalogue configuration of GraphColoring (8 nodes) and the spec-only configuration with 5 nodes (two
sizes: a spec that ignores `n`, or has `n + c` for `2 * n`, fails one of them) -/
theorem graph_coloring_obsSpec_generated :
    prefixed "observation_spec." (obsSpec 8) = declared "graphcoloring-8" "observation_spec." ∧
    [("action_spec", actionSpec 8)] = declared "graphcoloring-8" "action_spec" ∧
    [("reward_spec", rewardSpec)] = declared "graphcoloring-8" "reward_spec" ∧
    [("discount_spec", discountSpec)] = declared "graphcoloring-8" "discount_spec" ∧
    prefixed "observation_spec." (obsSpec 5) = declared "spec-only-graphcoloring-5" "observation_spec." ∧
    [("action_spec", actionSpec 5)] = declared "spec-only-graphcoloring-5" "action_spec" ∧
    [("reward_spec", rewardSpec)] = declared "spec-only-graphcoloring-5" "reward_spec" ∧
    [("discount_spec", discountSpec)] = declared "spec-only-graphcoloring-5" "discount_spec" := by
  have h1 := declares_at 2 rfl
  have h2 := declares_at 36 rfl
  exact ⟨h1.observation, h1.action, h1.reward, h1.discount, h2.observation, h2.action, h2.reward, h2.discount⟩

end Props.C01
end

section
open Jm JobShop
open Sp PzS PkS
namespace Props.C01

/-- the catalogue configuration `JobShop(RandomGenerator(3, 3, 3, 3))`, and for a second configuration
used for the specs only, `JobShop(RandomGenerator(num_jobs=4, num_machines=3, max_num_ops=6, max_op_duration=7))`: there jobs 4,
`jobs + 1 = 5`, machines 3, operations 6 and duration 7 are pairwise distinct, so a spec with two of them exchanged (which the
configuration ⟨3, 3, 3, 3⟩ cannot see) fails here -/
theorem jobshop_obsSpec_generated :
    prefixed "observation_spec." (obsSpec ⟨3, 3, 3, 3⟩) = declared "jobshop-3x3" "observation_spec." ∧
    [("action_spec", actionSpec ⟨3, 3, 3, 3⟩)] = declared "jobshop-3x3" "action_spec" ∧
    [("reward_spec", rewardSpec)] = declared "jobshop-3x3" "reward_spec" ∧
    [("discount_spec", discountSpec)] = declared "jobshop-3x3" "discount_spec" ∧
    prefixed "observation_spec." (obsSpec ⟨4, 3, 6, 7⟩) = declared "spec-only-jobshop-4x3x6x7" "observation_spec." ∧
    [("action_spec", actionSpec ⟨4, 3, 6, 7⟩)] = declared "spec-only-jobshop-4x3x6x7" "action_spec" ∧
    [("reward_spec", rewardSpec)] = declared "spec-only-jobshop-4x3x6x7" "reward_spec" ∧
    [("discount_spec", discountSpec)] = declared "spec-only-jobshop-4x3x6x7" "discount_spec" := by
  have h1 := declares_at 13 rfl
  have h2 := declares_at 43 rfl
  exact ⟨h1.observation, h1.action, h1.reward, h1.discount, h2.observation, h2.action, h2.reward, h2.discount⟩

end Props.C01
end

section
open Jm Knapsack
namespace Props.C01

open Sp PzS in
/-- `knapsack-8` and the spec-only configuration with 5 items (two sizes) -/
theorem knapsack_obsSpec_generated :
    prefixed "observation_spec." (obsSpec 8) = declared "knapsack-8" "observation_spec." ∧
    [("action_spec", actionSpec 8)] = declared "knapsack-8" "action_spec" ∧
    [("reward_spec", rewardSpec)] = declared "knapsack-8" "reward_spec" ∧
    [("discount_spec", discountSpec)] = declared "knapsack-8" "discount_spec" ∧
    prefixed "observation_spec." (obsSpec 5) = declared "spec-only-knapsack-5" "observation_spec." ∧
    [("action_spec", actionSpec 5)] = declared "spec-only-knapsack-5" "action_spec" ∧
    [("reward_spec", rewardSpec)] = declared "spec-only-knapsack-5" "reward_spec" ∧
    [("discount_spec", discountSpec)] = declared "spec-only-knapsack-5" "discount_spec" := by
  have h1 := declares_at 14 rfl
  have h2 := declares_at 44 rfl
  exact ⟨h1.observation, h1.action, h1.reward, h1.discount, h2.observation, h2.action, h2.reward, h2.discount⟩

end Props.C01
end

section
open Jm Jx LBF
open Sp PzS PkS MaS
namespace Props.C01

/-- the two catalogue configurations: `LevelBasedForaging(RandomGenerator(grid_size=6, num_agents=2, num_food=2,
fov=2), time_limit=8)` (vector observer: `agents_view` (2, 12) int32 in `[−1, 6]`) and the grid-observer configuration (grid 7,
3 agents, 2 foods, fov 7, time_limit 6) — all leaves of both (the `lbf.spec` op also compares them with the real spec objects at
run time in every C09 / C12 sweep).
The generated table holds every leaf whose BOUNDS are small, so the `lbf-grid` conjunct is about the WHOLE
`obsSpec` (its `agents_view` leaf (3, 3, 15, 15) included).  In both catalogue configurations the maximum
`max(A·L, L, grid_size)` of `agents_view` is the grid size; the two SPEC-ONLY configurations have `A·L > grid_size`: vector observer
`RandomGenerator(grid_size=7, num_agents=3, num_food=2, fov=2, max_agent_level=3)`, limit 11 (`agents_view` (3, 15) in `[−1, 9]`), and
grid observer `RandomGenerator(grid_size=6, num_agents=2, num_food=1, fov=3, max_agent_level=4)`, limit 9 (`agents_view` (2, 3, 7, 7) in
`[0, 8]`) — a `specMax := gridSize` fails both -/
theorem lbf_obsSpec_generated :
    prefixed "observation_spec." (obsSpec ⟨6, 2, 8, false, true, 0⟩ 2 2 2) = declared "lbf-6x2" "observation_spec." ∧
    prefixed "observation_spec." (obsSpec ⟨7, 7, 6, true, true, 0⟩ 3 2 2) = declared "lbf-grid" "observation_spec." ∧
    [("action_spec", actionSpec 2)] = declared "lbf-6x2" "action_spec" ∧
    [("action_spec", actionSpec 3)] = declared "lbf-grid" "action_spec" ∧
    [("reward_spec", rewardSpecN 2)] = declared "lbf-6x2" "reward_spec" ∧
    [("reward_spec", rewardSpecN 3)] = declared "lbf-grid" "reward_spec" ∧
    [("discount_spec", discountSpecN 2)] = declared "lbf-6x2" "discount_spec" ∧
    [("discount_spec", discountSpecN 3)] = declared "lbf-grid" "discount_spec" ∧
    prefixed "observation_spec." (obsSpec ⟨7, 2, 11, false, true, 0⟩ 3 2 3) = declared "spec-only-lbf-7x3x2-l3" "observation_spec." ∧
    [("action_spec", actionSpec 3)] = declared "spec-only-lbf-7x3x2-l3" "action_spec" ∧
    [("reward_spec", rewardSpecN 3)] = declared "spec-only-lbf-7x3x2-l3" "reward_spec" ∧
    [("discount_spec", discountSpecN 3)] = declared "spec-only-lbf-7x3x2-l3" "discount_spec" ∧
    prefixed "observation_spec." (obsSpec ⟨6, 3, 9, true, true, 0⟩ 2 1 4) = declared "spec-only-lbf-grid-6x2x1-l4" "observation_spec." ∧
    [("action_spec", actionSpec 2)] = declared "spec-only-lbf-grid-6x2x1-l4" "action_spec" ∧
    [("reward_spec", rewardSpecN 2)] = declared "spec-only-lbf-grid-6x2x1-l4" "reward_spec" ∧
    [("discount_spec", discountSpecN 2)] = declared "spec-only-lbf-grid-6x2x1-l4" "discount_spec" := by
  have h1 := declares_at 21 rfl
  have h2 := declares_at 22 rfl
  have h3 := declares_at 49 rfl
  have h4 := declares_at 50 rfl
  exact ⟨h1.observation, h2.observation, h1.action, h2.action, h1.reward, h2.reward, h1.discount, h2.discount,
    h3.observation, h3.action, h3.reward, h3.discount, h4.observation, h4.action, h4.reward, h4.discount⟩

end Props.C01
end

section
open Jm MMST
open Sp PzS PkS
namespace Props.C01

/-- the catalogue configuration `mmst-small`: fields `node_types`, `adj_matrix`, `positions`, `step_count`,
`action_mask` in this order; shapes `(N,)`, `(N, N)`, `(A,)`, `()`, `(A, N)`; dtypes int32 ×4, bool; bounds `[-1, 2A-1]`,
`[0, 1]`, `[-1, N-1]`, `[0, time_limit]`, `[False, True]`.  (All leaves are in the generated table; every other adapter
configuration is compared at run time by the `mmst.spec` op.)
SPEC-ONLY second configuration `mmstSpecOnly` = MMST(SplitRandomGenerator(10, 14, 4, num_agents=3, num_nodes_per_agent=2), time_limit=11):
`N = 10`, `A = 3`, `2A − 1 = 5`, `N − 1 = 9`, limit 11 pairwise distinct -/
theorem mmst_obsSpec_generated :
    prefixed "observation_spec." (obsSpec mmstSmall) = declared "mmst-small" "observation_spec." ∧
    [("action_spec", actionSpec mmstSmall)] = declared "mmst-small" "action_spec" ∧
    [("reward_spec", rewardSpec)] = declared "mmst-small" "reward_spec" ∧
    [("discount_spec", discountSpec)] = declared "mmst-small" "discount_spec" ∧
    prefixed "observation_spec." (obsSpec mmstSpecOnly) = declared "spec-only-mmst-10x3x2" "observation_spec." ∧
    [("action_spec", actionSpec mmstSpecOnly)] = declared "spec-only-mmst-10x3x2" "action_spec" ∧
    [("reward_spec", rewardSpec)] = declared "spec-only-mmst-10x3x2" "reward_spec" ∧
    [("discount_spec", discountSpec)] = declared "spec-only-mmst-10x3x2" "discount_spec" := by
  have h1 := declares_at 27 rfl
  have h2 := declares_at 52 rfl
  exact ⟨h1.observation, h1.action, h1.reward, h1.discount, h2.observation, h2.action, h2.reward, h2.discount⟩

end Props.C01
end

section
open Jm Maze
open MazeGen

theorem Maze.declares_5x7 : Declares "maze-5x7" (obsSpec ⟨5, 7, 9⟩) actionSpec PzS.rewardSpec discountSpec :=
  Props.C01.declares_at 23 rfl
theorem Maze.declares_3x5 : Declares "maze-none-3x5" (obsSpec ⟨3, 5, 15⟩) actionSpec PzS.rewardSpec discountSpec :=
  Props.C01.declares_at 24 rfl
theorem Maze.declares_4x4 : Declares "maze-none" (obsSpec ⟨4, 4, 16⟩) actionSpec PzS.rewardSpec discountSpec :=
  Props.C01.declares_at 26 rfl
theorem Maze.declares_6x9 : Declares "spec-only-maze-6x9" (obsSpec ⟨6, 9, 11⟩) actionSpec PzS.rewardSpec discountSpec :=
  Props.C01.declares_at 51 rfl

namespace Props.C01

/-- the proved intervals and shapes lie inside the DECLARED spec (the literals generated from the real
`observation_spec` objects, `Gen/Specs.lean`) for the catalogue configurations of Maze: every declared observation
leaf (7 of them) is covered, has the proved shape, and its `[minimum, maximum]` contains the proved interval -/
theorem maze_bounds_within_declared_spec :
    SpecTieSSM.tie "maze-5x7" (obsBounds ⟨5, 7, 9⟩) (obsShapes ⟨5, 7, 9⟩) = true ∧
    SpecTieSSM.tie "maze-none-3x5" (obsBounds ⟨3, 5, 15⟩) (obsShapes ⟨3, 5, 15⟩) = true ∧
    SpecTieSSM.tie "maze-none" (obsBounds ⟨4, 4, 16⟩) (obsShapes ⟨4, 4, 16⟩) = true ∧
    (SpecTieSSM.obsLeavesOf "maze-5x7").length = 7 := by
  exact ⟨tie_of_declares declares_5x7, tie_of_declares declares_3x5, tie_of_declares declares_4x4,
    by rw [SpecTieSSM.obsLeavesOf_eq declares_5x7.observation]; rfl⟩
/-- the tie is not vacuous: one row too many, or a wrong mask length, is rejected -/
example : SpecTieSSM.tie "maze-5x7" (obsBounds ⟨6, 7, 9⟩) (obsShapes ⟨5, 7, 9⟩) = false ∧
    SpecTieSSM.tie "maze-5x7" (obsBounds ⟨5, 7, 9⟩) (obsShapes ⟨5, 8, 9⟩) = false := by
  simp only [SpecTieSSM.tie, SpecTieSSM.obsLeavesOf_eq declares_5x7.observation]
  decide +kernel

end Props.C01
open Sp PzS PkS
namespace Props.C01

/-- the three catalogue configurations of Maze (5×7 with a time limit, 3×5 and 4×4 with the default one)
and for one configuration used only for its specs, `Maze(RandomGenerator(6, 9), time_limit=11)`: all seven observation
leaves, in the order of the real `Spec`. -/
theorem maze_obsSpec_generated :
    prefixed "observation_spec." (obsSpec ⟨5, 7, 9⟩) = declared "maze-5x7" "observation_spec." ∧
    prefixed "observation_spec." (obsSpec ⟨3, 5, 15⟩) = declared "maze-none-3x5" "observation_spec." ∧
    prefixed "observation_spec." (obsSpec ⟨4, 4, 16⟩) = declared "maze-none" "observation_spec." ∧
    [("action_spec", Maze.actionSpec)] = declared "maze-5x7" "action_spec" ∧
    [("action_spec", Maze.actionSpec)] = declared "maze-none-3x5" "action_spec" ∧
    [("reward_spec", PzS.rewardSpec)] = declared "maze-5x7" "reward_spec" ∧
    [("discount_spec", discountSpec)] = declared "maze-5x7" "discount_spec" ∧
    [("action_spec", Maze.actionSpec)] = declared "maze-none" "action_spec" ∧
    [("reward_spec", PzS.rewardSpec)] = declared "maze-none-3x5" "reward_spec" ∧
    [("discount_spec", discountSpec)] = declared "maze-none-3x5" "discount_spec" ∧
    [("reward_spec", PzS.rewardSpec)] = declared "maze-none" "reward_spec" ∧
    [("discount_spec", discountSpec)] = declared "maze-none" "discount_spec" ∧
    prefixed "observation_spec." (obsSpec ⟨6, 9, 11⟩) = declared "spec-only-maze-6x9" "observation_spec." ∧
    [("action_spec", Maze.actionSpec)] = declared "spec-only-maze-6x9" "action_spec" ∧
    [("reward_spec", PzS.rewardSpec)] = declared "spec-only-maze-6x9" "reward_spec" ∧
    [("discount_spec", discountSpec)] = declared "spec-only-maze-6x9" "discount_spec" := by
  exact ⟨declares_5x7.observation, declares_3x5.observation, declares_4x4.observation, declares_5x7.action,
    declares_3x5.action, declares_5x7.reward, declares_5x7.discount, declares_4x4.action, declares_3x5.reward,
    declares_3x5.discount, declares_4x4.reward, declares_4x4.discount, declares_6x9.observation, declares_6x9.action,
    declares_6x9.reward, declares_6x9.discount⟩

end Props.C01
end

section
open Jm Jx Minesweeper
open PzB
open Sp PzS PzS3
namespace Props.C01

/-- the catalogue configuration of Minesweeper (5 × 6 board, 4 mines), and for a second configuration that is
used for the specs only (3 × 4 board, 5 mines: rows, columns and mines pairwise distinct; `num_mines ≤ R·C − 1 = 11`,
`step_count ≤ R·C − mines = 7`), so that a spec with two parameters exchanged fails -/
theorem minesweeper_obsSpec_generated :
    prefixed "observation_spec." (obsSpec ⟨5, 6, 4, 1, 0, 0⟩) = declared "minesweeper-5x6" "observation_spec." ∧
    [("action_spec", actionSpec ⟨5, 6, 4, 1, 0, 0⟩)] = declared "minesweeper-5x6" "action_spec" ∧
    [("reward_spec", PzS.rewardSpec)] = declared "minesweeper-5x6" "reward_spec" ∧
    [("discount_spec", discountSpec)] = declared "minesweeper-5x6" "discount_spec" ∧
    prefixed "observation_spec." (obsSpec ⟨3, 4, 5, 1, 0, 0⟩) = declared "spec-only-minesweeper-3x4x5" "observation_spec." ∧
    [("action_spec", actionSpec ⟨3, 4, 5, 1, 0, 0⟩)] = declared "spec-only-minesweeper-3x4x5" "action_spec" ∧
    [("reward_spec", PzS.rewardSpec)] = declared "spec-only-minesweeper-3x4x5" "reward_spec" ∧
    [("discount_spec", discountSpec)] = declared "spec-only-minesweeper-3x4x5" "discount_spec" := by
  have h1 := declares_at 3 rfl
  have h2 := declares_at 37 rfl
  exact ⟨h1.observation, h1.action, h1.reward, h1.discount, h2.observation, h2.action, h2.reward, h2.discount⟩

end Props.C01
end

section
open Jm MultiCVRP
open Sp PzS PkS
namespace Props.C01

/-- the catalogue configuration `multicvrp-6x2`: paths `nodes.{coordinates,demands}`, `windows.{start,end}`,
`coeffs.{early,late}`, `vehicles.{coordinates,local_times,capacities}`, `action_mask` in this order; shapes `(N+1, 2)`,
`(N+1,)` ×5, `(V, 2)`, `(V,)` ×2, `(V, N+1)`; dtypes float32 / int16 / bool; maxima `map_max`, `max_capacity`,
`max_end_window` (both window leaves), `late_coef_rand[-1]` (both coefficient leaves), `max_local_time` =
float32(2·map_max·√2·N) = 2780457/16384, `max_capacity`; the action spec with maximum `num_customers + 1`.  (All leaves are in
the generated table; every adapter configuration is compared at run time by the `multi_cvrp.spec` op.)
SPEC-ONLY configurations: `multicvrp-20x3` (20 customers, 3 vehicles, `max_capacity` 60, `max_local_time` = 4634095/8192) and
`multicvrp-100x3` (100 customers, 3 vehicles: `map_max` 20, `max_capacity` 300, `max_start_window` 40, so that the window maximum 60,
the map maximum 20 and the capacity differ — in the 6- and 20-customer scenarios `map_max = max_start_window = 10`;
`max_local_time` = float32(2·20·√2·100) = 5792619/1024) -/
theorem multicvrp_obsSpec_generated :
    prefixed "observation_spec." (obsSpec ⟨6, 20, true⟩ 2 lim6x2 (2780457 / 16384)) = declared "multicvrp-6x2" "observation_spec." ∧
    [("action_spec", actionSpec ⟨6, 20, true⟩ 2)] = declared "multicvrp-6x2" "action_spec" ∧
    [("reward_spec", rewardSpec)] = declared "multicvrp-6x2" "reward_spec" ∧
    [("discount_spec", discountSpec)] = declared "multicvrp-6x2" "discount_spec" ∧
    prefixed "observation_spec." (obsSpec ⟨20, 60, true⟩ 3 lim20x3 (4634095 / 8192)) = declared "spec-only-multicvrp-20x3" "observation_spec." ∧
    [("action_spec", actionSpec ⟨20, 60, true⟩ 3)] = declared "spec-only-multicvrp-20x3" "action_spec" ∧
    [("reward_spec", rewardSpec)] = declared "spec-only-multicvrp-20x3" "reward_spec" ∧
    [("discount_spec", discountSpec)] = declared "spec-only-multicvrp-20x3" "discount_spec" ∧
    prefixed "observation_spec." (obsSpec ⟨100, 300, true⟩ 3 lim100x3 (5792619 / 1024)) = declared "spec-only-multicvrp-100x3" "observation_spec." ∧
    [("action_spec", actionSpec ⟨100, 300, true⟩ 3)] = declared "spec-only-multicvrp-100x3" "action_spec" ∧
    [("reward_spec", rewardSpec)] = declared "spec-only-multicvrp-100x3" "reward_spec" ∧
    [("discount_spec", discountSpec)] = declared "spec-only-multicvrp-100x3" "discount_spec" := by
  have h1 := declares_at 28 rfl
  have h2 := declares_at 53 rfl
  have h3 := declares_at 54 rfl
  exact ⟨h1.observation, h1.action, h1.reward, h1.discount, h2.observation, h2.action, h2.reward, h2.discount,
    h3.observation, h3.action, h3.reward, h3.discount⟩

end Props.C01
end

section
open Jm PacMan
open Sp PzS
namespace Props.C01

/-- the model's specs against the table generated from the real spec objects of `PacMan()` (Gen/Specs.lean): every
leaf of the real spec is the model's, in the same order (the `pac_man.spec` op also compares them with the real objects on every
run, for every configuration of the adapter).
The generated table holds every leaf whose BOUNDS are small, so the observation conjunct is about the WHOLE
`obsSpec` — `grid` (31, 28) in `[0, 1]` and `pellet_locations` (318, 2) included.  SPEC-ONLY second configuration: `PacMan()` with the default time limit 1000 (no spec depends on it) -/
theorem pacman_obsSpec_generated :
    prefixed "observation_spec." (obsSpec ⟨31, 28, 12⟩ Gen.PacManMaze.table.pellets.length) = declared "pacman" "observation_spec." ∧
    [("action_spec", actionSpec)] = declared "pacman" "action_spec" ∧
    [("reward_spec", PzS.rewardSpec)] = declared "pacman" "reward_spec" ∧
    [("discount_spec", discountSpec)] = declared "pacman" "discount_spec" ∧
    prefixed "observation_spec." (obsSpec ⟨31, 28, 1000⟩ Gen.PacManMaze.table.pellets.length) = declared "spec-only-pacman-default" "observation_spec." ∧
    [("action_spec", actionSpec)] = declared "spec-only-pacman-default" "action_spec" ∧
    [("reward_spec", PzS.rewardSpec)] = declared "spec-only-pacman-default" "reward_spec" ∧
    [("discount_spec", discountSpec)] = declared "spec-only-pacman-default" "discount_spec" := by
  have h1 := declares_at 29 rfl
  have h2 := declares_at 55 rfl
  exact ⟨h1.observation, h1.action, h1.reward, h1.discount, h2.observation, h2.action, h2.reward, h2.discount⟩

end Props.C01
end

section
open Jm RobotWarehouse
open Sp PzS PkS MaS
namespace Props.C01

/-- the catalogue configuration `RobotWarehouse(RandomGenerator(1, 3, 2, num_agents=2, sensor_range=1, 2),
time_limit=9)`: fields `agents_view`, `action_mask`, `step_count`; shapes `(A, num_obs_features) = (2, 66)`, `(A, 5)`, `()`;
dtypes int32, bool, int32; `agents_view` UNBOUNDED (`specs.Array`), mask `[0, 1]`, counter `[0, time_limit]`.
SPEC-ONLY second configuration: 3 agents, `sensor_range = 2` (`num_obs_features = 8 + 5·24 + 2·25 = 178`; the leaf has
534 elements, but an unbounded `specs.Array` is one row of the table whatever its size), time limit 11 -/
theorem robot_warehouse_obsSpec_generated :
    prefixed "observation_spec." (obsSpec ⟨9, 1, [], []⟩ 2) = declared "robotwarehouse-small" "observation_spec." ∧
    [("action_spec", actionSpec 2)] = declared "robotwarehouse-small" "action_spec" ∧
    [("reward_spec", PzS.rewardSpec)] = declared "robotwarehouse-small" "reward_spec" ∧
    [("discount_spec", PzS.discountSpec)] = declared "robotwarehouse-small" "discount_spec" ∧
    prefixed "observation_spec." (obsSpec ⟨11, 2, [], []⟩ 3) = declared "spec-only-robotwarehouse-3a-r2" "observation_spec." ∧
    [("action_spec", actionSpec 3)] = declared "spec-only-robotwarehouse-3a-r2" "action_spec" ∧
    [("reward_spec", PzS.rewardSpec)] = declared "spec-only-robotwarehouse-3a-r2" "reward_spec" ∧
    [("discount_spec", PzS.discountSpec)] = declared "spec-only-robotwarehouse-3a-r2" "discount_spec" := by
  have h1 := declares_at 30 rfl
  have h2 := declares_at 56 rfl
  exact ⟨h1.observation, h1.action, h1.reward, h1.discount, h2.observation, h2.action, h2.reward, h2.discount⟩

end Props.C01
end

section
open Jm Jx RubiksCube
open PzB
open Sp PzS
namespace Props.C01

/-- the catalogue configurations of RubiksCube (sizes 3 and 2), and a SPEC-ONLY third configuration: cube size 4 (depth `4 / 2 = 2`, unlike sizes 2 and 3 where it is 1), time limit 11 -/
theorem rubik_obsSpec_generated :
    prefixed "observation_spec." (obsSpec ⟨3, 12⟩) = declared "rubikscube-3" "observation_spec." ∧
    prefixed "observation_spec." (obsSpec ⟨2, 7⟩) = declared "rubikscube-2" "observation_spec." ∧
    [("action_spec", actionSpec ⟨3, 12⟩)] = declared "rubikscube-3" "action_spec" ∧
    [("action_spec", actionSpec ⟨2, 7⟩)] = declared "rubikscube-2" "action_spec" ∧
    [("reward_spec", rewardSpec)] = declared "rubikscube-3" "reward_spec" ∧
    [("discount_spec", discountSpec)] = declared "rubikscube-3" "discount_spec" ∧
    [("reward_spec", rewardSpec)] = declared "rubikscube-2" "reward_spec" ∧
    [("discount_spec", discountSpec)] = declared "rubikscube-2" "discount_spec" ∧
    prefixed "observation_spec." (obsSpec ⟨4, 11⟩) = declared "spec-only-rubikscube-4" "observation_spec." ∧
    [("action_spec", actionSpec ⟨4, 11⟩)] = declared "spec-only-rubikscube-4" "action_spec" ∧
    [("reward_spec", rewardSpec)] = declared "spec-only-rubikscube-4" "reward_spec" ∧
    [("discount_spec", discountSpec)] = declared "spec-only-rubikscube-4" "discount_spec" := by
  have h1 := declares_at 4 rfl
  have h2 := declares_at 5 rfl
  have h3 := declares_at 38 rfl
  exact ⟨h1.observation, h2.observation, h1.action, h2.action, h1.reward, h1.discount, h2.reward, h2.discount,
    h3.observation, h3.action, h3.reward, h3.discount⟩

end Props.C01
end

section
open Jm Jx SlidingTilePuzzle
open PzB
open Sp PzS
namespace Props.C01

/-- the catalogue configuration of SlidingTilePuzzle, and a SPEC-ONLY second configuration: grid size 5 (tiles up to 24, blank position up to 4 — not the mask length 4), time limit 13 -/
theorem sliding_obsSpec_generated :
    prefixed "observation_spec." (obsSpec ⟨3, true, 15⟩) = declared "slidingtile-3" "observation_spec." ∧
    [("action_spec", actionSpec)] = declared "slidingtile-3" "action_spec" ∧
    [("reward_spec", rewardSpec)] = declared "slidingtile-3" "reward_spec" ∧
    [("discount_spec", discountSpec)] = declared "slidingtile-3" "discount_spec" ∧
    prefixed "observation_spec." (obsSpec ⟨5, true, 13⟩) = declared "spec-only-slidingtile-5" "observation_spec." ∧
    [("action_spec", actionSpec)] = declared "spec-only-slidingtile-5" "action_spec" ∧
    [("reward_spec", rewardSpec)] = declared "spec-only-slidingtile-5" "reward_spec" ∧
    [("discount_spec", discountSpec)] = declared "spec-only-slidingtile-5" "discount_spec" := by
  have h1 := declares_at 6 rfl
  have h2 := declares_at 39 rfl
  exact ⟨h1.observation, h1.action, h1.reward, h1.discount, h2.observation, h2.action, h2.reward, h2.discount⟩

end Props.C01
end

section
open Jm Jx Snake

theorem Snake.declares_catalogue : Declares "snake-5x6" (obsSpec ⟨5, 6, 10⟩) actionSpec rewardSpec discountSpec :=
  Props.C01.declares_at 31 rfl

namespace Props.C01

/-- the proved intervals and shapes lie inside the DECLARED spec (the literals generated from the real
`observation_spec`, `Gen/Specs.lean`) for the catalogue configuration of Snake (5×6, time limit 10): all three declared
leaves are covered, `grid` is `(5, 6, 5)` within `[0, 1]`, `step_count ∈ [0, 10]` is inside `DiscreteArray(11)` -/
theorem snake_bounds_within_declared_spec :
    SpecTieSSM.tie "snake-5x6" (obsBounds ⟨5, 6, 10⟩) (obsShapes ⟨5, 6, 10⟩) = true ∧
    (SpecTieSSM.obsLeavesOf "snake-5x6").length = 3 := by
  -- the declared leaves are those of `obsSpec`: no path of the table is evaluated, no scalar bound broadcast over the leaf
  simp only [SpecTieSSM.tie, SpecTieSSM.obsLeavesOf_eq Snake.declares_catalogue.observation, Snake.obsSpec, List.all_cons,
    List.all_nil, SpecTieSSM.leafTied, SpecTieSSM.ivWithin, Sp.Leaf.lower, Sp.Leaf.upper, PzS.broadcast_scalar,
    List.all_replicate]
  decide +kernel
/-- not vacuous: with time limit 11 the proved bound `step_count ≤ 11` is NOT inside `DiscreteArray(11)` (a spec
`DiscreteArray(time_limit)` rejects the terminal counter), and a wrong plane count is rejected -/
example : SpecTieSSM.tie "snake-5x6" (obsBounds ⟨5, 6, 11⟩) (obsShapes ⟨5, 6, 10⟩) = false ∧
    SpecTieSSM.tie "snake-5x6" (obsBounds ⟨5, 6, 10⟩) [("grid", [5, 6, 4]), ("step_count", []), ("action_mask", [4])] = false := by
  simp only [SpecTieSSM.tie, SpecTieSSM.obsLeavesOf_eq Snake.declares_catalogue.observation, Snake.obsSpec, List.all_cons,
    List.all_nil, SpecTieSSM.leafTied, SpecTieSSM.ivWithin, Sp.Leaf.lower, Sp.Leaf.upper, PzS.broadcast_scalar,
    List.all_replicate]
  decide +kernel

end Props.C01
open Sp PzS PkS
namespace Props.C01

/-- the catalogue configuration `Snake(num_rows=5, num_cols=6, time_limit=10)`: `grid` BoundedArray((5, 6, 5),
float32, 0, 1), `step_count` DiscreteArray(11), `action_mask` BoundedArray((4,), bool); and likewise for the spec-only second configuration
`Snake(num_rows=3, num_cols=7, time_limit=13)` (rows, columns, planes 5, actions 4 and the limit pairwise distinct) -/
theorem snake_obsSpec_generated :
    prefixed "observation_spec." (obsSpec ⟨5, 6, 10⟩) = declared "snake-5x6" "observation_spec." ∧
    [("action_spec", Snake.actionSpec)] = declared "snake-5x6" "action_spec" ∧
    [("reward_spec", rewardSpec)] = declared "snake-5x6" "reward_spec" ∧
    [("discount_spec", discountSpec)] = declared "snake-5x6" "discount_spec" ∧
    prefixed "observation_spec." (obsSpec ⟨3, 7, 13⟩) = declared "spec-only-snake-3x7" "observation_spec." ∧
    [("action_spec", Snake.actionSpec)] = declared "spec-only-snake-3x7" "action_spec" ∧
    [("reward_spec", rewardSpec)] = declared "spec-only-snake-3x7" "reward_spec" ∧
    [("discount_spec", discountSpec)] = declared "spec-only-snake-3x7" "discount_spec" := by
  have h1 := Snake.declares_catalogue
  have h2 := declares_at 57 rfl
  exact ⟨h1.observation, h1.action, h1.reward, h1.discount, h2.observation, h2.action, h2.reward, h2.discount⟩

end Props.C01
end

section
open Jm Jx Sokoban
open Sp PzS
namespace Props.C01

/-- the model's specs against the table generated from the real spec objects (Gen/Specs.lean) for the two catalogue
configurations: every leaf of the real spec is the model's, in the same order (the `sokoban.spec` op also compares them with the
real objects on every run, for every configuration of the adapter).
The generated table holds every leaf whose BOUNDS are small, so the observation conjuncts are about the WHOLE
`obsSpec` — the `grid` leaf (10, 10, 2) uint8 in `[0, 4]` included —,
action / reward / discount specs are compared for both catalogue configurations, and for the SPEC-ONLY
`Sokoban(ToyGenerator(), time_limit=7)` (the specs do not depend on the time limit: `step_count` is an unbounded `specs.Array`) -/
theorem sokoban_obsSpec_generated :
    prefixed "observation_spec." (obsSpec ⟨10, 120, true⟩) = declared "sokoban-toy" "observation_spec." ∧
    [("action_spec", actionSpec)] = declared "sokoban-toy" "action_spec" ∧
    [("reward_spec", PzS.rewardSpec)] = declared "sokoban-toy" "reward_spec" ∧
    [("discount_spec", discountSpec)] = declared "sokoban-toy" "discount_spec" ∧
    prefixed "observation_spec." (obsSpec ⟨10, 120, true⟩) = declared "sokoban-simple" "observation_spec." ∧
    [("action_spec", actionSpec)] = declared "sokoban-simple" "action_spec" ∧
    [("reward_spec", PzS.rewardSpec)] = declared "sokoban-simple" "reward_spec" ∧
    [("discount_spec", discountSpec)] = declared "sokoban-simple" "discount_spec" ∧
    prefixed "observation_spec." (obsSpec ⟨10, 7, true⟩) = declared "spec-only-sokoban-toy" "observation_spec." ∧
    [("action_spec", actionSpec)] = declared "spec-only-sokoban-toy" "action_spec" ∧
    [("reward_spec", PzS.rewardSpec)] = declared "spec-only-sokoban-toy" "reward_spec" ∧
    [("discount_spec", discountSpec)] = declared "spec-only-sokoban-toy" "discount_spec" := by
  have h1 := declares_at 33 rfl
  have h2 := declares_at 32 rfl
  have h3 := declares_at 58 rfl
  exact ⟨h1.observation, h1.action, h1.reward, h1.discount, h2.observation, h2.action, h2.reward, h2.discount,
    h3.observation, h3.action, h3.reward, h3.discount⟩

end Props.C01
end

section
open Jm Jx Sudoku
open PzB

theorem Sudoku.declares_default : Declares "sudoku-default" obsSpec actionSpec rewardSpec discountSpec :=
  Props.C01.declares_at 7 rfl
theorem Sudoku.declares_sharedDb : Declares "sudoku-shared-db" obsSpec actionSpec rewardSpec discountSpec :=
  Props.C01.declares_at 8 rfl
theorem Sudoku.declares_dummy : Declares "sudoku-dummy" obsSpec actionSpec rewardSpec discountSpec :=
  Props.C01.declares_at 9 rfl
theorem Sudoku.declares_specOnly : Declares "spec-only-sudoku-dummy" obsSpec actionSpec rewardSpec discountSpec :=
  Props.C01.declares_at 40 rfl

namespace Props.C01

/-- the proved intervals and shapes of `board` AND `action_mask` lie inside the DECLARED spec literals generated from the real
`observation_spec` (`Gen/Specs.lean`, configuration `sudoku-default`: `BoundedArray((9,9), int32, -1, 9)` and
`BoundedArray((9,9,9), bool, False, True)` — the 729-entry `action_mask` leaf is part of the generated table since leaves are
cut by the size of their BOUNDS, not of the leaf), and likewise for the fixed-board configuration `sudoku-dummy` -/
theorem sudoku_bounds_within_declared_spec :
    SpecTieSSM.tie "sudoku-default" obsBounds obsShapes = true ∧
    (SpecTieSSM.obsLeavesOf "sudoku-default").map (·.1) = ["board", "action_mask"] ∧
    SpecTieSSM.tie "sudoku-dummy" obsBounds obsShapes = true ∧
    (SpecTieSSM.obsLeavesOf "sudoku-dummy").map (·.1) = ["board", "action_mask"] := by
  -- the declared leaves are those of `obsSpec`: no path of the table is evaluated, no scalar bound broadcast over the leaf
  simp only [SpecTieSSM.tie, SpecTieSSM.obsLeavesOf_eq declares_default.observation,
    SpecTieSSM.obsLeavesOf_eq declares_dummy.observation, Sudoku.obsSpec, List.all_cons, List.all_nil,
    SpecTieSSM.leafTied, SpecTieSSM.ivWithin, Sp.Leaf.lower, Sp.Leaf.upper, PzS.broadcast_scalar, List.all_replicate]
  decide +kernel
example : SpecTieSSM.tie "sudoku-default" [("board", iv (-2) 8), ("action_mask", iv 0 1)] obsShapes = false ∧
    SpecTieSSM.tie "sudoku-default" obsBounds [("board", [9, 8])] = false ∧
    SpecTieSSM.tie "sudoku-default" obsBounds [("board", [9, 9]), ("action_mask", [9, 9, 8])] = false := by
  simp only [SpecTieSSM.tie, SpecTieSSM.obsLeavesOf_eq declares_default.observation, Sudoku.obsSpec, List.all_cons,
    List.all_nil, SpecTieSSM.leafTied, SpecTieSSM.ivWithin, Sp.Leaf.lower, Sp.Leaf.upper, PzS.broadcast_scalar,
    List.all_replicate]
  decide +kernel

end Props.C01
open Sp PzS PkS
namespace Props.C01

/-- ALL THREE catalogue configurations of Sudoku (database, caller-held database, `DummyGenerator`) and the
SPEC-ONLY `Sudoku(DummyGenerator())`.  The generated table holds every leaf whose BOUNDS are small, so the conjuncts
are about the WHOLE `obsSpec`: `board` and the 729-entry `action_mask` leaf — name, shape (9, 9, 9), dtype bool, bounds — (the
driver op `sudoku.spec` also compares both leaves at run time for every adapter configuration).
Sudoku's specs have no size parameter, so there is nothing a second configuration could exchange -/
theorem sudoku_obsSpec_generated :
    prefixed "observation_spec." (Sudoku.obsSpec) = declared "sudoku-default" "observation_spec." ∧
    [("action_spec", Sudoku.actionSpec)] = declared "sudoku-default" "action_spec" ∧
    [("reward_spec", rewardSpec)] = declared "sudoku-default" "reward_spec" ∧
    [("discount_spec", discountSpec)] = declared "sudoku-default" "discount_spec" ∧
    prefixed "observation_spec." (Sudoku.obsSpec) = declared "sudoku-shared-db" "observation_spec." ∧
    [("action_spec", Sudoku.actionSpec)] = declared "sudoku-shared-db" "action_spec" ∧
    [("reward_spec", rewardSpec)] = declared "sudoku-shared-db" "reward_spec" ∧
    [("discount_spec", discountSpec)] = declared "sudoku-shared-db" "discount_spec" ∧
    Sudoku.obsSpec.map (·.1) = ["board", "action_mask"] ∧
    prefixed "observation_spec." (Sudoku.obsSpec) = declared "sudoku-dummy" "observation_spec." ∧
    [("action_spec", Sudoku.actionSpec)] = declared "sudoku-dummy" "action_spec" ∧
    [("reward_spec", rewardSpec)] = declared "sudoku-dummy" "reward_spec" ∧
    [("discount_spec", discountSpec)] = declared "sudoku-dummy" "discount_spec" ∧
    prefixed "observation_spec." (Sudoku.obsSpec) = declared "spec-only-sudoku-dummy" "observation_spec." ∧
    [("action_spec", Sudoku.actionSpec)] = declared "spec-only-sudoku-dummy" "action_spec" ∧
    [("reward_spec", rewardSpec)] = declared "spec-only-sudoku-dummy" "reward_spec" ∧
    [("discount_spec", discountSpec)] = declared "spec-only-sudoku-dummy" "discount_spec" := by
  have h1 := declares_default
  have h2 := declares_sharedDb
  have h3 := declares_dummy
  have h4 := declares_specOnly
  exact ⟨h1.observation, h1.action, h1.reward, h1.discount, h2.observation, h2.action, h2.reward, h2.discount,
    by decide, h3.observation, h3.action, h3.reward, h3.discount, h4.observation, h4.action, h4.reward, h4.discount⟩

end Props.C01
end

section
open Jm TSP
namespace Props.C01

open Sp PzS in
/-- `tsp-6` and the spec-only configuration with 4 cities (two sizes) -/
theorem tsp_obsSpec_generated :
    prefixed "observation_spec." (obsSpec 6) = declared "tsp-6" "observation_spec." ∧
    [("action_spec", actionSpec 6)] = declared "tsp-6" "action_spec" ∧
    [("reward_spec", rewardSpec)] = declared "tsp-6" "reward_spec" ∧
    [("discount_spec", discountSpec)] = declared "tsp-6" "discount_spec" ∧
    prefixed "observation_spec." (obsSpec 4) = declared "spec-only-tsp-4" "observation_spec." ∧
    [("action_spec", actionSpec 4)] = declared "spec-only-tsp-4" "action_spec" ∧
    [("reward_spec", rewardSpec)] = declared "spec-only-tsp-4" "reward_spec" ∧
    [("discount_spec", discountSpec)] = declared "spec-only-tsp-4" "discount_spec" := by
  have h1 := declares_at 34 rfl
  have h2 := declares_at 59 rfl
  exact ⟨h1.observation, h1.action, h1.reward, h1.discount, h2.observation, h2.action, h2.reward, h2.discount⟩

end Props.C01
end

section
open Jm Tetris
open PzB
open Sp PzS PkS
namespace Props.C01

/-- the catalogue configuration `Tetris(num_rows=6, num_cols=5, time_limit=9)` and for a second configuration
`Tetris(num_rows=7, num_cols=5, time_limit=11)` that is compared on its specs only -/
theorem tetris_obsSpec_generated :
    prefixed "observation_spec." (obsSpec ⟨6, 5, 9⟩) = declared "tetris-6x5" "observation_spec." ∧
    [("action_spec", actionSpec ⟨6, 5, 9⟩)] = declared "tetris-6x5" "action_spec" ∧
    [("reward_spec", rewardSpec)] = declared "tetris-6x5" "reward_spec" ∧
    [("discount_spec", discountSpec)] = declared "tetris-6x5" "discount_spec" ∧
    prefixed "observation_spec." (obsSpec ⟨7, 5, 11⟩) = declared "spec-only-tetris-7x5" "observation_spec." ∧
    [("action_spec", actionSpec ⟨7, 5, 11⟩)] = declared "spec-only-tetris-7x5" "action_spec" ∧
    [("reward_spec", rewardSpec)] = declared "spec-only-tetris-7x5" "reward_spec" ∧
    [("discount_spec", discountSpec)] = declared "spec-only-tetris-7x5" "discount_spec" := by
  have h1 := declares_at 15 rfl
  have h2 := declares_at 45 rfl
  exact ⟨h1.observation, h1.action, h1.reward, h1.discount, h2.observation, h2.action, h2.reward, h2.discount⟩

end Props.C01
end
