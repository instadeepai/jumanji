/-
C11 / C01 at EPISODE level for the L1 environment models: the generic theorems of
`Core/EpisodeLemmas.lean` (over an abstract step system) instantiated with each environment's L1 `step`, its step counter and the single-step facts proved in `Props/Env/*.lean`
(`*_last_iff`, `*_step_count`, `*_time_limit`).

Reading guide.  `Ep.rollout (E.step cfg) s as` is the list of `(successor state, emitted timestep)` obtained by
iterating the L1 `step` of environment `E` from state `s` over the action list `as` (no stop at LAST: the
library allows stepping on).  `Ep.firstLastTS` of the emitted timesteps is the 1-based index of the first LAST
timestep — exactly what `harness/props/c11.py` measures on the real environments.
For every class with a `time_limit` (comparison `>=`, `Props.C11.table_ok`), every start state with step
counter 0 (every `reset` state), every positive limit `T` and EVERY action list of length ≥ T:
* `E_rollout_ends_by_limit`: the first LAST exists and has index `k` with `0 < k ≤ T` (never later);
* `E_rollout_ends_exactly_at_limit` (where `E_last_iff` is an equivalence): if no other cause of termination
  holds at any step before `T`, then `k = T` (never earlier);
* `Props.C01.E_rollout_count_within_limit`: the step counter of every state — and, where the observation shows
  it, of every emitted observation — up to and including the first LAST timestep is its index, within `[0, T]`.
Draws (Tetris piece, Snake fruit, PacMan ghost moves, …) are part of the action type: the theorems hold for all draws.
At the end: Connector's whole-episode C01 theorem, and the two C10 theorems on its plans that respect `time_limit`.
-/
import JumanjiModel.Core.EpisodeLemmas
import JumanjiModel.Props.Env.Maze
import JumanjiModel.Props.Env.Cleaner
import JumanjiModel.Props.Env.Connector
import JumanjiModel.Props.Env.LBF
import JumanjiModel.Props.Env.FlatPack
import JumanjiModel.Props.Env.Tetris
import JumanjiModel.Props.Env.RubiksCube
import JumanjiModel.Props.Env.SlidingTilePuzzle
import JumanjiModel.Props.Env.MMST
import JumanjiModel.Props.Env.Snake
import JumanjiModel.Props.Env.Sokoban
import JumanjiModel.Props.Env.PacMan
import JumanjiModel.Props.Env.RobotWarehouse
open Jm Ep

namespace Props.C11

/-- Maze: actions `Int`, counter `step_count`, invariant: the walls have the configured shape -/
abbrev mazeSys (cfg : Maze.Cfg) : Sys Maze.State Int := ofStep (Maze.step cfg) (·.stepCount)
def mazeInv (cfg : Maze.Cfg) (s : Maze.State) : Prop := Jx.Grid.shaped s.walls cfg.numRows cfg.numCols = true
/-- the other causes: target reached or no move possible, in the successor state -/
def mazeOther (cfg : Maze.Cfg) (s : Maze.State) (a : Int) : Prop :=
  Maze.atTarget (Maze.step cfg s a).1 ∨ Maze.stuck cfg (Maze.step cfg s a).1

theorem maze_exact (cfg : Maze.Cfg) : Exact (mazeSys cfg) (mazeInv cfg) (mazeOther cfg) .ge cfg.timeLimit :=
  Exact.of_step (fun _ _ h => h) (fun s a _ => maze_step_count cfg s a) (fun s a hi => by
    rw [maze_last_iff cfg s a hi, Maze.endsSpec, maze_step_count]
    exact or_assoc.symm.trans or_right_comm)

abbrev cleanerSys (cfg : Cleaner.Cfg) : Sys Cleaner.State (List Int) := ofStep (Cleaner.step cfg) (·.stepCount)
/-- the other causes: an invalid component of the joint action, or no dirty tile left -/
def cleanerOther (cfg : Cleaner.Cfg) (s : Cleaner.State) (a : List Int) : Prop :=
  (Cleaner.isActionValid a s.actionMask).all id = false ∨ Cleaner.anyDirty (Cleaner.step cfg s a).1.grid = false

theorem cleaner_exact (cfg : Cleaner.Cfg) :
    Exact (cleanerSys cfg) (fun _ => True) (cleanerOther cfg) .ge cfg.timeLimit :=
  Exact.of_step (fun _ _ h => h) (fun s a _ => cleaner_step_count cfg s a) (fun s a _ => by
    rw [cleaner_last_iff cfg s a]
    exact or_assoc.symm)

abbrev connectorSys (cfg : Connector.Cfg) : Sys Connector.State (List Int) :=
  ofStep (Connector.step cfg) (·.stepCount)
/-- the other cause: every agent connected or blocked in the successor state -/
def connectorOther (cfg : Connector.Cfg) (s : Connector.State) (acts : List Int) : Prop :=
  (List.zipWith Connector.connectedOrBlocked (Connector.step cfg s acts).1.agents
    (Connector.actionMask (Connector.step cfg s acts).1.grid (Connector.step cfg s acts).1.agents)).all id = true

theorem connector_exact (cfg : Connector.Cfg) :
    Exact (connectorSys cfg) (fun _ => True) (connectorOther cfg) .ge cfg.timeLimit :=
  Exact.of_step (fun _ _ h => h) (fun s a _ => connector_step_count cfg s a) (fun s a _ => by
    rw [connector_last_iff cfg s a, connector_step_count]; exact Iff.rfl)

abbrev lbfSys (cfg : LBF.Cfg) : Sys LBF.State (List Int) := ofStep (LBF.step cfg) (·.stepCount)
/-- the other cause: all food eaten in the successor state -/
def lbfOther (cfg : LBF.Cfg) (s : LBF.State) (a : List Int) : Prop :=
  (LBF.step cfg s a).1.foods.all (fun f => f.eaten) = true

theorem lbf_exact (cfg : LBF.Cfg) : Exact (lbfSys cfg) (fun _ => True) (lbfOther cfg) .ge cfg.timeLimit :=
  Exact.of_step (fun _ _ h => h) (fun s a _ => lbf_step_count cfg s a) (fun s a _ => by
    rw [lbf_last_iff cfg s a, lbf_step_count]; exact Iff.rfl)

/-- FlatPack has no `time_limit`; its structural horizon is the number of blocks, which `step` never changes
(invariant `numBlocks = N`), and nothing else ends an episode -/
abbrev flatpackSys (rnd : Rat → Rat) (cfg : FlatPack.Cfg) : Sys FlatPack.State FlatPack.Action :=
  ofStep (FlatPack.step rnd cfg) (fun s => (s.stepCount : Int))

theorem flatpack_exact (rnd : Rat → Rat) (cfg : FlatPack.Cfg) (N : Nat) :
    Exact (flatpackSys rnd cfg) (fun s => s.numBlocks = N) (fun _ _ => False) .ge (N : Int) :=
  Exact.of_step (fun s a h => by rw [(flatpack_step_count rnd cfg s a).2]; exact h)
    (fun s a _ => by rw [(flatpack_step_count rnd cfg s a).1]; omega)
    (fun s a hi => by
      rw [flatpack_last_iff rnd cfg s a, hi]
      constructor
      · intro h; right; omega
      · rintro (h | h)
        · exact h.elim
        · omega)

/-- Tetris: an action is (rotation, column) plus the draw of the next piece -/
abbrev tetrisStep (cfg : Tetris.Cfg) (s : Tetris.State) (a : Int × Int × Nat) := Tetris.step cfg s a.1 a.2.1 a.2.2
abbrev tetrisSys (cfg : Tetris.Cfg) : Sys Tetris.State (Int × Int × Nat) :=
  ofStep (tetrisStep cfg) (fun s => (s.stepCount : Int))
/-- the other causes: an invalid placement, or no valid placement left for the next piece -/
def tetrisOther (cfg : Tetris.Cfg) (s : Tetris.State) (a : Int × Int × Nat) : Prop :=
  Tetris.isValid s a.1 a.2.1 = false ∨ (tetrisStep cfg s a).1.actionMask.any (fun r => r.any id) = false

theorem tetris_exact (cfg : Tetris.Cfg) :
    Exact (tetrisSys cfg) (fun _ => True) (tetrisOther cfg) .ge (cfg.timeLimit : Int) :=
  Exact.of_step (fun _ _ h => h)
    (fun s a _ => by show ((Tetris.step cfg s a.1 a.2.1 a.2.2).1.stepCount : Int) = _; rw [tetris_step_count]; omega)
    (fun s a _ => by
      show (Tetris.step cfg s a.1 a.2.1 a.2.2).2.stepType = .last ↔ _
      rw [tetris_last_iff cfg s a.1 a.2.1 a.2.2, tetris_step_count, ← or_assoc]
      exact or_congr_right (by omega))

abbrev rubikSys (cfg : RubiksCube.Cfg) : Sys RubiksCube.State (Int × Int × Int) :=
  ofStep (RubiksCube.step cfg) (·.stepCount)
/-- the other cause: the cube is solved after the move -/
def rubikOther (cfg : RubiksCube.Cfg) (s : RubiksCube.State) (a : Int × Int × Int) : Prop :=
  RubiksCube.isSolved (RubiksCube.step cfg s a).1.cube = true

theorem rubik_exact (cfg : RubiksCube.Cfg) :
    Exact (rubikSys cfg) (fun _ => True) (rubikOther cfg) .ge cfg.timeLimit :=
  Exact.of_step (fun _ _ h => h) (fun s a _ => rubik_step_count cfg s a) (fun s a _ => by
    rw [rubik_last_iff cfg s a, rubik_step_count]; exact Or.comm)

abbrev slidingSys (cfg : SlidingTilePuzzle.Cfg) : Sys SlidingTilePuzzle.State Int :=
  ofStep (SlidingTilePuzzle.step cfg) (·.stepCount)
/-- the other cause: the board is the goal board after the move -/
def slidingOther (cfg : SlidingTilePuzzle.Cfg) (s : SlidingTilePuzzle.State) (a : Int) : Prop :=
  (SlidingTilePuzzle.step cfg s a).1.puzzle = SlidingTilePuzzle.goal cfg.n

theorem sliding_exact (cfg : SlidingTilePuzzle.Cfg) :
    Exact (slidingSys cfg) (fun _ => True) (slidingOther cfg) .ge cfg.timeLimit :=
  Exact.of_step (fun _ _ h => h) (fun s a _ => sliding_step_count cfg s a) (fun s a _ => by
    rw [sliding_last_iff cfg s a, sliding_step_count]; exact Iff.rfl)

/-- MMST: an action is the joint action plus the permutation drawn for conflict resolution -/
abbrev mmstStep (cfg : MMST.Cfg) (s : MMST.State) (a : List Int × List Nat) := MMST.step cfg s a.1 a.2
abbrev mmstSys (cfg : MMST.Cfg) : Sys MMST.State (List Int × List Nat) := ofStep (mmstStep cfg) (·.stepCount)
/-- the other cause: every agent has finished in the successor state -/
def mmstOther (cfg : MMST.Cfg) (s : MMST.State) (a : List Int × List Nat) : Prop :=
  (mmstStep cfg s a).1.finished.all id = true

theorem mmst_exact (cfg : MMST.Cfg) :
    Exact (mmstSys cfg) (fun _ => True) (mmstOther cfg) .ge (cfg.timeLimit : Int) :=
  Exact.of_step (fun _ _ h => h) (fun s a _ => mmst_step_count cfg s a.1 a.2)
    (fun s a _ => MMST.step_last_iff cfg s a.1 a.2)

/-! Snake, Sokoban, PacMan and RobotWarehouse are instantiated here in the one direction (`Limited`: reaching the limit forces LAST;
their episodes end BY the limit); the two-sided single-step facts are `Snake.step_last_iff`, `Props.C11.sokoban_exact`,
`Props.C11.pacman_exact` (in their Props/Env files) and `RobotWarehouse.sys_exact`. -/

abbrev snakeStep (rnd : Rat → Rat) (cfg : Snake.Cfg) (s : Snake.State) (a : Int × Nat) := Snake.step rnd cfg s a.1 a.2
abbrev snakeSys (rnd : Rat → Rat) (cfg : Snake.Cfg) : Sys Snake.State (Int × Nat) :=
  ofStep (snakeStep rnd cfg) (·.stepCount)
theorem snake_limited (rnd : Rat → Rat) (cfg : Snake.Cfg) :
    Limited (snakeSys rnd cfg) (fun _ => True) .ge cfg.timeLimit :=
  Limited.of_step (fun _ _ h => h) (fun s a _ => (snake_step_count rnd cfg s a.1 a.2).1)
    (fun s a _ h => (snake_step_count rnd cfg s a.1 a.2).2 h)

abbrev sokobanSys (rnd : Rat → Rat) (cfg : Sokoban.Cfg) : Sys Sokoban.State Int :=
  ofStep (Sokoban.step rnd cfg) (·.stepCount)
theorem sokoban_limited (rnd : Rat → Rat) (cfg : Sokoban.Cfg) :
    Limited (sokobanSys rnd cfg) (fun _ => True) .ge cfg.timeLimit :=
  (sokoban_exact rnd cfg).toLimited

abbrev pacmanStep (tl : Int) (s : PacMan.State) (a : Int × PacMan.Draw) := PacMan.step tl s a.1 a.2
abbrev pacmanSys (tl : Int) : Sys PacMan.State (Int × PacMan.Draw) := ofStep (pacmanStep tl) (·.stepCount)
theorem pacman_limited (tl : Int) : Limited (pacmanSys tl) (fun _ => True) .ge tl :=
  (pacman_exact tl).toLimited

abbrev rwareStep (cfg : RobotWarehouse.Cfg) (s : RobotWarehouse.State) (a : List Int × List Int) :=
  RobotWarehouse.step cfg s a.1 a.2
abbrev rwareSys (cfg : RobotWarehouse.Cfg) : Sys RobotWarehouse.State (List Int × List Int) :=
  ofStep (rwareStep cfg) (·.stepCount)
theorem rware_limited (cfg : RobotWarehouse.Cfg) : Limited (rwareSys cfg) (fun _ => True) .ge cfg.timeLimit :=
  (RobotWarehouse.sys_exact cfg).toLimited

/-! ## never later: the first LAST timestep of the rollout has index `0 < k ≤ T` -/

theorem maze_rollout_ends_by_limit (cfg : Maze.Cfg) (hT : 0 < cfg.timeLimit) (s : Maze.State)
    (hs : Jx.Grid.shaped s.walls cfg.numRows cfg.numCols = true) (h0 : s.stepCount = 0)
    (as : List Int) (hlen : cfg.timeLimit ≤ as.length) :
    ∃ k, firstLastTS ((rollout (Maze.step cfg) s as).map (·.2)) = some k ∧ 0 < k ∧ (k : Int) ≤ cfg.timeLimit :=
  rollout_ends_by_limit (maze_exact cfg).toLimited hT s hs h0 as hlen

theorem cleaner_rollout_ends_by_limit (cfg : Cleaner.Cfg) (hT : 0 < cfg.timeLimit) (s : Cleaner.State)
    (h0 : s.stepCount = 0) (as : List (List Int)) (hlen : cfg.timeLimit ≤ as.length) :
    ∃ k, firstLastTS ((rollout (Cleaner.step cfg) s as).map (·.2)) = some k ∧ 0 < k ∧ (k : Int) ≤ cfg.timeLimit :=
  rollout_ends_by_limit (cleaner_exact cfg).toLimited hT s trivial h0 as hlen

theorem connector_rollout_ends_by_limit (cfg : Connector.Cfg) (hT : 0 < cfg.timeLimit) (s : Connector.State)
    (h0 : s.stepCount = 0) (as : List (List Int)) (hlen : cfg.timeLimit ≤ as.length) :
    ∃ k, firstLastTS ((rollout (Connector.step cfg) s as).map (·.2)) = some k ∧ 0 < k ∧ (k : Int) ≤ cfg.timeLimit :=
  rollout_ends_by_limit (connector_exact cfg).toLimited hT s trivial h0 as hlen

theorem lbf_rollout_ends_by_limit (cfg : LBF.Cfg) (hT : 0 < cfg.timeLimit) (s : LBF.State)
    (h0 : s.stepCount = 0) (as : List (List Int)) (hlen : cfg.timeLimit ≤ as.length) :
    ∃ k, firstLastTS ((rollout (LBF.step cfg) s as).map (·.2)) = some k ∧ 0 < k ∧ (k : Int) ≤ cfg.timeLimit :=
  rollout_ends_by_limit (lbf_exact cfg).toLimited hT s trivial h0 as hlen

theorem tetris_rollout_ends_by_limit (cfg : Tetris.Cfg) (hT : 0 < cfg.timeLimit) (s : Tetris.State)
    (h0 : s.stepCount = 0) (as : List (Int × Int × Nat)) (hlen : cfg.timeLimit ≤ as.length) :
    ∃ k, firstLastTS ((rollout (tetrisStep cfg) s as).map (·.2)) = some k ∧ 0 < k ∧ k ≤ cfg.timeLimit := by
  obtain ⟨k, h1, h2, h3⟩ := rollout_ends_by_limit (tetris_exact cfg).toLimited (by omega) s trivial
    (by simp [h0]) as (by omega)
  exact ⟨k, h1, h2, by omega⟩

theorem rubik_rollout_ends_by_limit (cfg : RubiksCube.Cfg) (hT : 0 < cfg.timeLimit) (s : RubiksCube.State)
    (h0 : s.stepCount = 0) (as : List (Int × Int × Int)) (hlen : cfg.timeLimit ≤ as.length) :
    ∃ k, firstLastTS ((rollout (RubiksCube.step cfg) s as).map (·.2)) = some k ∧ 0 < k ∧ (k : Int) ≤ cfg.timeLimit :=
  rollout_ends_by_limit (rubik_exact cfg).toLimited hT s trivial h0 as hlen

theorem sliding_rollout_ends_by_limit (cfg : SlidingTilePuzzle.Cfg) (hT : 0 < cfg.timeLimit)
    (s : SlidingTilePuzzle.State) (h0 : s.stepCount = 0) (as : List Int) (hlen : cfg.timeLimit ≤ as.length) :
    ∃ k, firstLastTS ((rollout (SlidingTilePuzzle.step cfg) s as).map (·.2)) = some k ∧ 0 < k ∧
      (k : Int) ≤ cfg.timeLimit :=
  rollout_ends_by_limit (sliding_exact cfg).toLimited hT s trivial h0 as hlen

theorem mmst_rollout_ends_by_limit (cfg : MMST.Cfg) (hT : 0 < cfg.timeLimit) (s : MMST.State)
    (h0 : s.stepCount = 0) (as : List (List Int × List Nat)) (hlen : cfg.timeLimit ≤ as.length) :
    ∃ k, firstLastTS ((rollout (mmstStep cfg) s as).map (·.2)) = some k ∧ 0 < k ∧ k ≤ cfg.timeLimit := by
  obtain ⟨k, h1, h2, h3⟩ := rollout_ends_by_limit (mmst_exact cfg).toLimited (by omega) s trivial h0 as (by omega)
  exact ⟨k, h1, h2, by omega⟩

theorem snake_rollout_ends_by_limit (rnd : Rat → Rat) (cfg : Snake.Cfg) (hT : 0 < cfg.timeLimit) (s : Snake.State)
    (h0 : s.stepCount = 0) (as : List (Int × Nat)) (hlen : cfg.timeLimit ≤ as.length) :
    ∃ k, firstLastTS ((rollout (snakeStep rnd cfg) s as).map (·.2)) = some k ∧ 0 < k ∧ (k : Int) ≤ cfg.timeLimit :=
  rollout_ends_by_limit (snake_limited rnd cfg) hT s trivial h0 as hlen

theorem sokoban_rollout_ends_by_limit (rnd : Rat → Rat) (cfg : Sokoban.Cfg) (hT : 0 < cfg.timeLimit)
    (s : Sokoban.State) (h0 : s.stepCount = 0) (as : List Int) (hlen : cfg.timeLimit ≤ as.length) :
    ∃ k, firstLastTS ((rollout (Sokoban.step rnd cfg) s as).map (·.2)) = some k ∧ 0 < k ∧ (k : Int) ≤ cfg.timeLimit :=
  rollout_ends_by_limit (sokoban_limited rnd cfg) hT s trivial h0 as hlen

theorem pacman_rollout_ends_by_limit (tl : Int) (hT : 0 < tl) (s : PacMan.State)
    (h0 : s.stepCount = 0) (as : List (Int × PacMan.Draw)) (hlen : tl ≤ as.length) :
    ∃ k, firstLastTS ((rollout (pacmanStep tl) s as).map (·.2)) = some k ∧ 0 < k ∧ (k : Int) ≤ tl :=
  rollout_ends_by_limit (pacman_limited tl) hT s trivial h0 as hlen

theorem rware_rollout_ends_by_limit (cfg : RobotWarehouse.Cfg) (hT : 0 < cfg.timeLimit) (s : RobotWarehouse.State)
    (h0 : s.stepCount = 0) (as : List (List Int × List Int)) (hlen : cfg.timeLimit ≤ as.length) :
    ∃ k, firstLastTS ((rollout (rwareStep cfg) s as).map (·.2)) = some k ∧ 0 < k ∧ (k : Int) ≤ cfg.timeLimit :=
  rollout_ends_by_limit (rware_limited cfg) hT s trivial h0 as hlen

/-- FlatPack (structural horizon): EVERY episode ends exactly at step `num_blocks`, whatever is played -/
theorem flatpack_rollout_ends_exactly_at_num_blocks (rnd : Rat → Rat) (cfg : FlatPack.Cfg) (s : FlatPack.State)
    (hT : 0 < s.numBlocks) (h0 : s.stepCount = 0) (as : List FlatPack.Action) (hlen : s.numBlocks ≤ as.length) :
    firstLastTS ((rollout (FlatPack.step rnd cfg) s as).map (·.2)) = some s.numBlocks := by
  have := rollout_ends_exactly_at_limit (flatpack_exact rnd cfg s.numBlocks) (by omega) s rfl (by simp [h0]) as
    (by omega) (fun _ _ _ _ h => h)
  simpa using this

/-! ## never earlier: without another cause before step `T`, the first LAST timestep is number `T` exactly -/

theorem maze_rollout_ends_exactly_at_limit (cfg : Maze.Cfg) (hT : 0 < cfg.timeLimit) (s : Maze.State)
    (hs : Jx.Grid.shaped s.walls cfg.numRows cfg.numCols = true) (h0 : s.stepCount = 0)
    (as : List Int) (hlen : cfg.timeLimit ≤ as.length)
    (hno : ∀ (j : Nat) (a : Int), (j : Int) + 1 < cfg.timeLimit → as[j]? = some a →
      ¬ mazeOther cfg ((mazeSys cfg).stateAt s as j) a) :
    firstLastTS ((rollout (Maze.step cfg) s as).map (·.2)) = some cfg.timeLimit.toNat :=
  rollout_ends_exactly_at_limit (maze_exact cfg) hT s hs h0 as hlen hno

theorem cleaner_rollout_ends_exactly_at_limit (cfg : Cleaner.Cfg) (hT : 0 < cfg.timeLimit) (s : Cleaner.State)
    (h0 : s.stepCount = 0) (as : List (List Int)) (hlen : cfg.timeLimit ≤ as.length)
    (hno : ∀ (j : Nat) (a : List Int), (j : Int) + 1 < cfg.timeLimit → as[j]? = some a →
      ¬ cleanerOther cfg ((cleanerSys cfg).stateAt s as j) a) :
    firstLastTS ((rollout (Cleaner.step cfg) s as).map (·.2)) = some cfg.timeLimit.toNat :=
  rollout_ends_exactly_at_limit (cleaner_exact cfg) hT s trivial h0 as hlen hno

theorem connector_rollout_ends_exactly_at_limit (cfg : Connector.Cfg) (hT : 0 < cfg.timeLimit) (s : Connector.State)
    (h0 : s.stepCount = 0) (as : List (List Int)) (hlen : cfg.timeLimit ≤ as.length)
    (hno : ∀ (j : Nat) (a : List Int), (j : Int) + 1 < cfg.timeLimit → as[j]? = some a →
      ¬ connectorOther cfg ((connectorSys cfg).stateAt s as j) a) :
    firstLastTS ((rollout (Connector.step cfg) s as).map (·.2)) = some cfg.timeLimit.toNat :=
  rollout_ends_exactly_at_limit (connector_exact cfg) hT s trivial h0 as hlen hno

theorem lbf_rollout_ends_exactly_at_limit (cfg : LBF.Cfg) (hT : 0 < cfg.timeLimit) (s : LBF.State)
    (h0 : s.stepCount = 0) (as : List (List Int)) (hlen : cfg.timeLimit ≤ as.length)
    (hno : ∀ (j : Nat) (a : List Int), (j : Int) + 1 < cfg.timeLimit → as[j]? = some a →
      ¬ lbfOther cfg ((lbfSys cfg).stateAt s as j) a) :
    firstLastTS ((rollout (LBF.step cfg) s as).map (·.2)) = some cfg.timeLimit.toNat :=
  rollout_ends_exactly_at_limit (lbf_exact cfg) hT s trivial h0 as hlen hno

theorem tetris_rollout_ends_exactly_at_limit (cfg : Tetris.Cfg) (hT : 0 < cfg.timeLimit) (s : Tetris.State)
    (h0 : s.stepCount = 0) (as : List (Int × Int × Nat)) (hlen : cfg.timeLimit ≤ as.length)
    (hno : ∀ (j : Nat) (a : Int × Int × Nat), j + 1 < cfg.timeLimit → as[j]? = some a →
      ¬ tetrisOther cfg ((tetrisSys cfg).stateAt s as j) a) :
    firstLastTS ((rollout (tetrisStep cfg) s as).map (·.2)) = some cfg.timeLimit := by
  have := rollout_ends_exactly_at_limit (tetris_exact cfg) (by omega) s trivial (by simp [h0]) as (by omega)
    (fun j a hj => hno j a (by omega))
  simpa using this

theorem rubik_rollout_ends_exactly_at_limit (cfg : RubiksCube.Cfg) (hT : 0 < cfg.timeLimit) (s : RubiksCube.State)
    (h0 : s.stepCount = 0) (as : List (Int × Int × Int)) (hlen : cfg.timeLimit ≤ as.length)
    (hno : ∀ (j : Nat) (a : Int × Int × Int), (j : Int) + 1 < cfg.timeLimit → as[j]? = some a →
      ¬ rubikOther cfg ((rubikSys cfg).stateAt s as j) a) :
    firstLastTS ((rollout (RubiksCube.step cfg) s as).map (·.2)) = some cfg.timeLimit.toNat :=
  rollout_ends_exactly_at_limit (rubik_exact cfg) hT s trivial h0 as hlen hno

theorem sliding_rollout_ends_exactly_at_limit (cfg : SlidingTilePuzzle.Cfg) (hT : 0 < cfg.timeLimit)
    (s : SlidingTilePuzzle.State) (h0 : s.stepCount = 0) (as : List Int) (hlen : cfg.timeLimit ≤ as.length)
    (hno : ∀ (j : Nat) (a : Int), (j : Int) + 1 < cfg.timeLimit → as[j]? = some a →
      ¬ slidingOther cfg ((slidingSys cfg).stateAt s as j) a) :
    firstLastTS ((rollout (SlidingTilePuzzle.step cfg) s as).map (·.2)) = some cfg.timeLimit.toNat :=
  rollout_ends_exactly_at_limit (sliding_exact cfg) hT s trivial h0 as hlen hno

theorem mmst_rollout_ends_exactly_at_limit (cfg : MMST.Cfg) (hT : 0 < cfg.timeLimit) (s : MMST.State)
    (h0 : s.stepCount = 0) (as : List (List Int × List Nat)) (hlen : cfg.timeLimit ≤ as.length)
    (hno : ∀ (j : Nat) (a : List Int × List Nat), j + 1 < cfg.timeLimit → as[j]? = some a →
      ¬ mmstOther cfg ((mmstSys cfg).stateAt s as j) a) :
    firstLastTS ((rollout (mmstStep cfg) s as).map (·.2)) = some cfg.timeLimit := by
  have := rollout_ends_exactly_at_limit (mmst_exact cfg) (by omega) s trivial h0 as (by omega)
    (fun j a hj => hno j a (by omega))
  simpa using this

/-! ## non-vacuity: concrete instances (the hypotheses are satisfiable, the index is the limit) -/

-- RubiksCube 2×2×2, time limit 3, from a scrambled cube, quarter turns of the same face: not solved before the limit.
-- The theorem applies (all hypotheses discharged, `hno` by evaluating the two steps before the limit) …
example :
    firstLastTS ((rollout (RubiksCube.step { n := 2, timeLimit := 3 }) (RubiksCube.genState 2 [0, 7])
      [(0, 0, 0), (0, 0, 0), (0, 0, 0), (0, 0, 0)]).map (·.2)) = some 3 :=
  rubik_rollout_ends_exactly_at_limit { n := 2, timeLimit := 3 } (by decide) (RubiksCube.genState 2 [0, 7]) rfl
    [(0, 0, 0), (0, 0, 0), (0, 0, 0), (0, 0, 0)] (by decide)
    (fun j a hj ha => by
      match j, hj, ha with
      | 0, _, ha => simp at ha; subst ha; unfold rubikOther; decide +kernel
      | 1, _, ha => simp at ha; subst ha; unfold rubikOther; decide +kernel
      | (n + 2), hj, _ => simp at hj; omega)
-- … and agrees with evaluating the rollout
example :
    let cfg : RubiksCube.Cfg := { n := 2, timeLimit := 3 }
    let s := RubiksCube.genState 2 [0, 7]
    firstLastTS ((rollout (RubiksCube.step cfg) s [(0, 0, 0), (0, 0, 0), (0, 0, 0), (0, 0, 0)]).map (·.2)) = some 3 := by
  decide +kernel
-- (`flatpack_rollout_ends_exactly_at_num_blocks` and the `*_rollout_ends_by_limit` / `*_rollout_count_within_limit`
-- theorems have no hypotheses beyond `stepCount = 0`, a positive limit and a long enough action list; Maze also
-- needs the shape of the walls, which every generated maze has.)

end Props.C11

/-! ## C01: the step counter stays within `[0, T]` up to and including the terminal timestep -/
namespace Props.C01
open Props.C11

/-- Maze (the observation carries `step_count`): entry `j` of the rollout, `j < k` = index of the first LAST,
has state counter and observation counter `j + 1 ∈ [0, T]` -/
theorem maze_rollout_count_within_limit (cfg : Maze.Cfg) (hT : 0 < cfg.timeLimit) (s : Maze.State)
    (hs : Jx.Grid.shaped s.walls cfg.numRows cfg.numCols = true) (h0 : s.stepCount = 0)
    (as : List Int) (hlen : cfg.timeLimit ≤ as.length) :
    ∃ k, firstLastTS ((rollout (Maze.step cfg) s as).map (·.2)) = some k ∧
      ∀ j e, j < k → (rollout (Maze.step cfg) s as)[j]? = some e →
        e.2.obs.stepCount = (j : Int) + 1 ∧ 0 ≤ e.2.obs.stepCount ∧ e.2.obs.stepCount ≤ cfg.timeLimit :=
  rollout_obs_count_within_limit (maze_exact cfg).toLimited (·.stepCount)
    (fun s a hi => by rw [Maze.obs_faithful cfg s a hi]; rfl) hT s hs h0 as hlen

theorem cleaner_rollout_count_within_limit (cfg : Cleaner.Cfg) (hT : 0 < cfg.timeLimit) (s : Cleaner.State)
    (h0 : s.stepCount = 0) (as : List (List Int)) (hlen : cfg.timeLimit ≤ as.length) :
    ∃ k, firstLastTS ((rollout (Cleaner.step cfg) s as).map (·.2)) = some k ∧
      ∀ j e, j < k → (rollout (Cleaner.step cfg) s as)[j]? = some e →
        e.2.obs.stepCount = (j : Int) + 1 ∧ 0 ≤ e.2.obs.stepCount ∧ e.2.obs.stepCount ≤ cfg.timeLimit :=
  rollout_obs_count_within_limit (cleaner_exact cfg).toLimited (·.stepCount)
    (fun s a _ => by rw [Cleaner.step_obs cfg s a]; rfl) hT s trivial h0 as hlen

theorem connector_rollout_count_within_limit (cfg : Connector.Cfg) (hT : 0 < cfg.timeLimit) (s : Connector.State)
    (h0 : s.stepCount = 0) (as : List (List Int)) (hlen : cfg.timeLimit ≤ as.length) :
    ∃ k, firstLastTS ((rollout (Connector.step cfg) s as).map (·.2)) = some k ∧
      ∀ j e, j < k → (rollout (Connector.step cfg) s as)[j]? = some e →
        e.2.obs.stepCount = (j : Int) + 1 ∧ 0 ≤ e.2.obs.stepCount ∧ e.2.obs.stepCount ≤ cfg.timeLimit :=
  rollout_obs_count_within_limit (connector_exact cfg).toLimited (·.stepCount)
    (fun s a _ => by rw [Connector.obs_faithful cfg s a]; rfl) hT s trivial h0 as hlen

theorem lbf_rollout_count_within_limit (cfg : LBF.Cfg) (hT : 0 < cfg.timeLimit) (s : LBF.State)
    (h0 : s.stepCount = 0) (as : List (List Int)) (hlen : cfg.timeLimit ≤ as.length) :
    ∃ k, firstLastTS ((rollout (LBF.step cfg) s as).map (·.2)) = some k ∧
      ∀ j e, j < k → (rollout (LBF.step cfg) s as)[j]? = some e →
        e.2.obs.stepCount = (j : Int) + 1 ∧ 0 ≤ e.2.obs.stepCount ∧ e.2.obs.stepCount ≤ cfg.timeLimit :=
  rollout_obs_count_within_limit (lbf_exact cfg).toLimited (·.stepCount)
    (fun s a _ => by rw [LBF.obs_faithful cfg s a]; rfl) hT s trivial h0 as hlen

theorem rubik_rollout_count_within_limit (cfg : RubiksCube.Cfg) (hT : 0 < cfg.timeLimit) (s : RubiksCube.State)
    (h0 : s.stepCount = 0) (as : List (Int × Int × Int)) (hlen : cfg.timeLimit ≤ as.length) :
    ∃ k, firstLastTS ((rollout (RubiksCube.step cfg) s as).map (·.2)) = some k ∧
      ∀ j e, j < k → (rollout (RubiksCube.step cfg) s as)[j]? = some e →
        e.2.obs.stepCount = (j : Int) + 1 ∧ 0 ≤ e.2.obs.stepCount ∧ e.2.obs.stepCount ≤ cfg.timeLimit :=
  rollout_obs_count_within_limit (rubik_exact cfg).toLimited (·.stepCount)
    (fun s a _ => by rw [(Props.C12.rubik_obs_faithful cfg s a).1]; rfl) hT s trivial h0 as hlen

theorem sliding_rollout_count_within_limit (cfg : SlidingTilePuzzle.Cfg) (hT : 0 < cfg.timeLimit)
    (s : SlidingTilePuzzle.State) (h0 : s.stepCount = 0) (as : List Int) (hlen : cfg.timeLimit ≤ as.length) :
    ∃ k, firstLastTS ((rollout (SlidingTilePuzzle.step cfg) s as).map (·.2)) = some k ∧
      ∀ j e, j < k → (rollout (SlidingTilePuzzle.step cfg) s as)[j]? = some e →
        e.2.obs.stepCount = (j : Int) + 1 ∧ 0 ≤ e.2.obs.stepCount ∧ e.2.obs.stepCount ≤ cfg.timeLimit :=
  rollout_obs_count_within_limit (sliding_exact cfg).toLimited (·.stepCount)
    (fun s a _ => by rw [Props.C12.sliding_obs_faithful cfg s a]; rfl) hT s trivial h0 as hlen

theorem mmst_rollout_count_within_limit (cfg : MMST.Cfg) (hT : 0 < cfg.timeLimit) (s : MMST.State)
    (h0 : s.stepCount = 0) (as : List (List Int × List Nat)) (hlen : cfg.timeLimit ≤ as.length) :
    ∃ k, firstLastTS ((rollout (mmstStep cfg) s as).map (·.2)) = some k ∧
      ∀ j e, j < k → (rollout (mmstStep cfg) s as)[j]? = some e →
        e.2.obs.stepCount = (j : Int) + 1 ∧ 0 ≤ e.2.obs.stepCount ∧ e.2.obs.stepCount ≤ (cfg.timeLimit : Int) :=
  rollout_obs_count_within_limit (mmst_exact cfg).toLimited (·.stepCount)
    (fun s a _ => by show (MMST.step cfg s a.1 a.2).2.obs.stepCount = _; rw [MMST.obs_faithful cfg s a.1 a.2]; rfl)
    (by omega) s trivial h0 as (by omega)

theorem sokoban_rollout_count_within_limit (rnd : Rat → Rat) (cfg : Sokoban.Cfg) (hT : 0 < cfg.timeLimit)
    (s : Sokoban.State) (h0 : s.stepCount = 0) (as : List Int) (hlen : cfg.timeLimit ≤ as.length) :
    ∃ k, firstLastTS ((rollout (Sokoban.step rnd cfg) s as).map (·.2)) = some k ∧
      ∀ j e, j < k → (rollout (Sokoban.step rnd cfg) s as)[j]? = some e →
        e.2.obs.stepCount = (j : Int) + 1 ∧ 0 ≤ e.2.obs.stepCount ∧ e.2.obs.stepCount ≤ cfg.timeLimit :=
  rollout_obs_count_within_limit (sokoban_limited rnd cfg) (·.stepCount)
    (fun s a _ => by rw [Sokoban.obs_faithful rnd cfg s a]; rfl) hT s trivial h0 as hlen

theorem snake_rollout_count_within_limit (rnd : Rat → Rat) (cfg : Snake.Cfg) (hT : 0 < cfg.timeLimit)
    (s : Snake.State) (h0 : s.stepCount = 0) (as : List (Int × Nat)) (hlen : cfg.timeLimit ≤ as.length) :
    ∃ k, firstLastTS ((rollout (snakeStep rnd cfg) s as).map (·.2)) = some k ∧
      ∀ j e, j < k → (rollout (snakeStep rnd cfg) s as)[j]? = some e →
        e.2.obs.stepCount = (j : Int) + 1 ∧ 0 ≤ e.2.obs.stepCount ∧ e.2.obs.stepCount ≤ cfg.timeLimit :=
  rollout_obs_count_within_limit (snake_limited rnd cfg) (·.stepCount)
    (fun s a _ => by show (Snake.step rnd cfg s a.1 a.2).2.obs.stepCount = _; rw [Snake.step_obs rnd cfg s a.1 a.2]; rfl)
    hT s trivial h0 as hlen

/-- Tetris (`step_count` is a `Nat` in the model): the bound that the declared `DiscreteArray(time_limit + 1)` needs and a
`DiscreteArray(time_limit)` would not hold — the counter of the terminal observation IS `time_limit` when nothing
else ends the episode (`tetris_rollout_ends_exactly_at_limit`) -/
theorem tetris_rollout_count_within_limit (cfg : Tetris.Cfg) (hT : 0 < cfg.timeLimit) (s : Tetris.State)
    (h0 : s.stepCount = 0) (as : List (Int × Int × Nat)) (hlen : cfg.timeLimit ≤ as.length) :
    ∃ k, firstLastTS ((rollout (tetrisStep cfg) s as).map (·.2)) = some k ∧
      ∀ j e, j < k → (rollout (tetrisStep cfg) s as)[j]? = some e →
        e.1.stepCount = j + 1 ∧ e.1.stepCount ≤ cfg.timeLimit := by
  obtain ⟨k, hk, hall⟩ := rollout_count_within_limit (tetris_exact cfg).toLimited (by omega) s trivial
    (by simp [h0]) as (by omega)
  refine ⟨k, hk, fun j e hj he => ?_⟩
  obtain ⟨h1, _, h3⟩ := hall j e hj he
  exact ⟨by omega, by omega⟩

theorem pacman_rollout_count_within_limit (tl : Int) (hT : 0 < tl) (s : PacMan.State)
    (h0 : s.stepCount = 0) (as : List (Int × PacMan.Draw)) (hlen : tl ≤ as.length) :
    ∃ k, firstLastTS ((rollout (pacmanStep tl) s as).map (·.2)) = some k ∧
      ∀ j e, j < k → (rollout (pacmanStep tl) s as)[j]? = some e →
        e.1.stepCount = (j : Int) + 1 ∧ 0 ≤ e.1.stepCount ∧ e.1.stepCount ≤ tl :=
  rollout_count_within_limit (pacman_limited tl) hT s trivial h0 as hlen

theorem rware_rollout_count_within_limit (cfg : RobotWarehouse.Cfg) (hT : 0 < cfg.timeLimit)
    (s : RobotWarehouse.State) (h0 : s.stepCount = 0) (as : List (List Int × List Int))
    (hlen : cfg.timeLimit ≤ as.length) :
    ∃ k, firstLastTS ((rollout (rwareStep cfg) s as).map (·.2)) = some k ∧
      ∀ j e, j < k → (rollout (rwareStep cfg) s as)[j]? = some e →
        e.2.obs.stepCount = (j : Int) + 1 ∧ 0 ≤ e.2.obs.stepCount ∧ e.2.obs.stepCount ≤ cfg.timeLimit :=
  rollout_obs_count_within_limit (rware_limited cfg) (·.stepCount)
    (fun s a _ => (Props.C12.rware_obs_copied_partial cfg s a.1 a.2).2.1) hT s trivial h0 as hlen

end Props.C01

/-! ### Connector: whole-episode composition, and the plan theorems RESPECTING `time_limit` -/

namespace Props.C01
open Connector Sp PzS PkS MaS in
/-- ONE statement for "every observation of every episode, reset to the first LAST inclusive": from any state with the
invariant and counter 0 (every reset state of either generator: `connector_specInv_invariant`), for ANY joint actions of the right
length, with `0 < time_limit`: the reset observation is a member of the declared spec, there IS a first LAST timestep, it comes at
step `k ≤ time_limit`, and the observation of every step up to and including that one is a member -/
theorem connector_episode_obs_valid (cfg : Connector.Cfg) (hn : 0 < cfg.n) (hk : 0 < cfg.k) (hT : 0 < cfg.timeLimit)
    (s0 : Connector.State) (h : SpecInv cfg s0) (h0 : s0.stepCount = 0) (as : List (List Int))
    (has : ∀ a ∈ as, a.length = cfg.k) (hlen : cfg.timeLimit ≤ as.length) :
    (obsSpec cfg).valid (toNValue (resetTs cfg s0).obs) = true ∧
    ∃ k, Ep.firstLastTS ((Ep.rollout (Connector.step cfg) s0 as).map (·.2)) = some k ∧ 0 < k ∧ (k : Int) ≤ cfg.timeLimit ∧
      ∀ j e, j < k → (Ep.rollout (Connector.step cfg) s0 as)[j]? = some e → (obsSpec cfg).valid (toNValue e.2.obs) = true := by
  refine ⟨Connector.reset_obs_valid cfg hn hk (by omega) s0 h h0, ?_⟩
  obtain ⟨k, hk1, hk2, hk3⟩ := Props.C11.connector_rollout_ends_by_limit cfg hT s0 h0 as hlen
  exact ⟨k, hk1, hk2, hk3, fun j e hj he =>
    Connector.rollout_obs_valid cfg hn hk s0 h h0 as has j (by omega) e he⟩
end Props.C01

namespace Props.C10
open Connector

/-- the solving episode of a route plan is a REAL episode when it fits in the limit: from a state with counter 0 and a
route plan whose episode `planActs` has `1 ≤ length ≤ time_limit` steps, the FIRST LAST timestep of the rollout of the
implementation model `step` is the final step of the plan — no earlier step ends the episode (neither by completion nor by the
limit), so `finalL1` of `connector_plan_solves` is the state at that LAST timestep -/
theorem connector_plan_first_last (cfg : Cfg) (s0 : State) (routes : List (List Pos))
    (P : Connector.Plan cfg.n cfg.k s0 routes) (h0 : s0.stepCount = 0)
    (hpos : 0 < (planActs cfg.k routes).length)
    (hfit : ((planActs cfg.k routes).length : Int) ≤ cfg.timeLimit) :
    firstLastTS ((rollout (step cfg) s0 (planActs cfg.k routes)).map (·.2)) = some (planActs cfg.k routes).length := by
  rw [firstLast_ofStep (step cfg) (·.stepCount), firstLast_spec]
  have key : ∀ j, j < (planActs cfg.k routes).length →
      ((ofStep (step cfg) (·.stepCount)).lastAt s0 (planActs cfg.k routes) (j + 1) = true ↔
        j + 1 = (planActs cfg.k routes).length) := by
    intro j hj
    have hs := Connector.traceL1_getElem? cfg (planActs cfg.k routes) s0 j (by omega)
    have hp := (connector_plan_playable cfg s0 routes P j _ _ hs (List.getElem?_eq_getElem hj)).2.2.2.2.2
    have hc := Connector.stateAt_stepCount cfg (planActs cfg.k routes) s0 j (by omega)
    rw [lastAt_succ _ s0 _ j hj]
    show ((step cfg _ _).2.stepType == .last) = true ↔ _
    rw [beq_iff_eq, hp, hc, h0]
    constructor
    · rintro (h | h)
      · exact h
      · omega
    · exact Or.inl
  refine ⟨hpos, ?_, fun j hj1 hj2 => ?_⟩
  · obtain ⟨m, hm⟩ : ∃ m, (planActs cfg.k routes).length = m + 1 := ⟨_, (Nat.succ_pred_eq_of_pos hpos).symm⟩
    rw [hm]
    exact (key m (by omega)).2 hm.symm
  · obtain ⟨m, rfl⟩ : ∃ m, j = m + 1 := ⟨j - 1, by omega⟩
    exact Bool.eq_false_iff.2 fun hl => by have := (key m (by omega)).1 hl; omega

/-- THE GENERATOR'S PROMISE respecting `time_limit`: for every draw of `RandomWalkGenerator` in which no agent is boxed in, if the
solving episode read off the recorded solution fits in the limit, then played on `step` from the emitted reset state its first LAST
timestep is its final step, and the state reached there is a complete solution -/
theorem connector_walk_generated_board_solved_within_limit (cfg : Cfg) (hn : 0 < cfg.n) (hk : 0 < cfg.k)
    (init : List (Int × Int)) (tape : List (List Int)) (hv : validWalkDraw cfg.n cfg.k init tape = true)
    (hnb : ∀ d ∈ init, d.2 ≠ -1)
    (hfit : ((solveActs cfg.n cfg.k (walkGenerate cfg.n cfg.k init tape).2 (walkGenerate cfg.n cfg.k init tape).1).length : Int)
        ≤ cfg.timeLimit)
    (hpos : 0 < (solveActs cfg.n cfg.k (walkGenerate cfg.n cfg.k init tape).2 (walkGenerate cfg.n cfg.k init tape).1).length) :
    Ep.firstLastTS ((Ep.rollout (step cfg) (walkGenerate cfg.n cfg.k init tape).2
      (solveActs cfg.n cfg.k (walkGenerate cfg.n cfg.k init tape).2 (walkGenerate cfg.n cfg.k init tape).1)).map (·.2)) =
      some (solveActs cfg.n cfg.k (walkGenerate cfg.n cfg.k init tape).2 (walkGenerate cfg.n cfg.k init tape).1).length ∧
    solutionB cfg.n cfg.k (finalL1 cfg (walkGenerate cfg.n cfg.k init tape).2
      (solveActs cfg.n cfg.k (walkGenerate cfg.n cfg.k init tape).2 (walkGenerate cfg.n cfg.k init tape).1)) = true := by
  refine ⟨?_, (connector_walk_generated_board_solvable cfg hk init tape hv hnb).2⟩
  have P := connector_cert_gives_plan cfg.n cfg.k _ _
    (connector_walk_reset_fresh cfg.n cfg.k hk init tape hv hnb)
    (connector_walk_solved_board cfg.n cfg.k hk init tape hv hnb)
  unfold solveActs at hfit hpos ⊢
  exact connector_plan_first_last cfg _ _ P rfl hpos hfit

/-- the hypotheses are satisfiable and the bound is sharp: on the certified 3 × 3 board the 4-step solving episode has its first LAST
at step 4 when `time_limit = 4`; with `time_limit = 2` it does not fit (`connector_plan_ignores_time_limit_witness`) -/
example :
    let s : State := ⟨[[2, 0, 3], [0, 0, 0], [5, 0, 6]], 0, [⟨0, (0, 0), (0, 2), (0, 0)⟩, ⟨1, (2, 0), (2, 2), (2, 0)⟩]⟩
    let solved : Jx.Grid Int := [[2, 1, 3], [0, 0, 0], [5, 4, 6]]
    Ep.firstLastTS ((Ep.rollout (step ⟨3, 2, 4, 1, -3/100⟩) s (solveActs 3 2 s solved)).map (·.2)) = some 4 := by decide +kernel
end Props.C10
