-- BEGIN ENV IMPORTS (generated by tools/mkprops.py)
import JumanjiModel.Props.Env.BinPack
import JumanjiModel.Props.Env.CVRP
import JumanjiModel.Props.Env.Cleaner
import JumanjiModel.Props.Env.Connector
import JumanjiModel.Props.Env.FlatPack
import JumanjiModel.Props.Env.Game2048
import JumanjiModel.Props.Env.GraphColoring
import JumanjiModel.Props.Env.JobShop
import JumanjiModel.Props.Env.Knapsack
import JumanjiModel.Props.Env.LBF
import JumanjiModel.Props.Env.MMST
import JumanjiModel.Props.Env.Maze
import JumanjiModel.Props.Env.Minesweeper
import JumanjiModel.Props.Env.MultiCVRP
import JumanjiModel.Props.Env.PacMan
import JumanjiModel.Props.Env.RobotWarehouse
import JumanjiModel.Props.Env.RubiksCube
import JumanjiModel.Props.Env.SlidingTilePuzzle
import JumanjiModel.Props.Env.Snake
import JumanjiModel.Props.Env.Sokoban
import JumanjiModel.Props.Env.Sudoku
import JumanjiModel.Props.Env.TSP
import JumanjiModel.Props.Env.Tetris
-- END ENV IMPORTS
/- Property C01 — everything an environment emits conforms to the specs it declares.
   The declared specs are GENERATED from the real spec objects (Gen/Specs.lean). -/
import JumanjiModel.Spec.Lemmas
import JumanjiModel.Core.TimeLimitLemmas
import JumanjiModel.Core.ProtocolLemmas
import JumanjiModel.Gen.Specs
import JumanjiModel.Props.EpisodeInstances
import JumanjiModel.Props.C03
import JumanjiModel.Props.C11
import JumanjiModel.Props.SpecTable
open Sp

namespace Props.C01

/-- the leaf spec of a row is well-formed and accepts its own `generate_value()` -/
def leafOK (e : String × String × Leaf) : Bool := e.2.2.WF && e.2.2.valid e.2.2.generate

/-- `Leaf.WF` for the table sweep: scalar bounds are not broadcast to the shape (`PzS.WF_scalar_bounded`) -/
def leafWF : Leaf → Bool
  | .bounded _ d _ [] [lo] [] [hi] => decide (lo ≤ hi) && d.fits lo && d.fits hi
  | l => l.WF

theorem WF_of_leafWF : ∀ l : Leaf, leafWF l = true → l.WF = true
  | .bounded _ _ _ [] [_] [] [_], h => by
    simp only [leafWF, Bool.and_eq_true, decide_eq_true_eq] at h
    exact PzS.WF_scalar_bounded _ _ _ _ _ h.1.1 h.1.2 h.2
  | .array .., h | .discrete .., h | .multiDiscrete .., h => h
  | .bounded _ _ _ (_ :: _) _ _ _, h | .bounded _ _ _ [] [] _ _, h | .bounded _ _ _ [] (_ :: _ :: _) _ _, h
  | .bounded _ _ _ [] [_] (_ :: _) _, h | .bounded _ _ _ [] [_] [] [], h | .bounded _ _ _ [] [_] [] (_ :: _ :: _), h => h

/-- every declared leaf spec (observation fields, action, reward, discount of every catalogue configuration) is `leafOK`;
the kernel evaluates `WF` only; membership of `generate_value()` is the general theorem `Leaf.generate_valid` -/
theorem declared_specs_ok : Gen.Specs.parts.all (fun p => p.all leafOK) = true := by
  have h : Gen.Specs.parts.all (fun p => p.all (fun e => leafWF e.2.2)) = true := by decide +kernel
  simp only [List.all_eq_true, leafOK, Bool.and_eq_true] at h ⊢
  exact fun p hp e he => ⟨WF_of_leafWF _ (h p hp e he), Leaf.generate_valid _ (WF_of_leafWF _ (h p hp e he))⟩

/-- hence `generate_value()` of every declared spec — in particular of every action spec — is a member of it
(general theorem, instantiated by the generated table above) -/
theorem generate_value_member (l : Leaf) (h : l.WF = true) : l.valid l.generate = true := Leaf.generate_valid l h

/-- COUNTER WITHIN THE LIMIT, for ANY step system (`Core/EpisodeLemmas.lean`; hypotheses = the single-step facts
of a time-limited environment; `c` is the comparison recorded in ANY entry of the generated table — all record `>=`,
`Props.C11.table_cmp_ge`, and nothing ties the entry to `M`): every counter
up to and including the state produced by the first LAST step is a member of a spec with bounds [0, T]
(BoundedArray(0, T) / DiscreteArray(T + 1)).  Instantiated with the L1 `step` of every
time-limited model, on states AND on the `step_count` shown in the emitted observations, in
`Props/EpisodeInstances.lean` (`maze_rollout_count_within_limit`, …). -/
theorem step_count_within_limit {S A : Type} (e : TL.Entry) (he : e ∈ Gen.TimeLimit.table) (c : TL.Cmp)
    (hc : c ∈ e.doneCmp) {M : Ep.Sys S A} {Inv : S → Prop} {T : Int} (h : Ep.Limited M Inv c T)
    (hT : 0 < T) (s : S) (hi : Inv s) (h0 : M.count s = 0) (as : List A) (hlen : T ≤ as.length) :
    ∃ k, M.firstLast s as = some k ∧ ∀ j, j ≤ k →
      M.count (M.stateAt s as j) = j ∧ 0 ≤ M.count (M.stateAt s as j) ∧ M.count (M.stateAt s as j) ≤ T := by
  cases Props.C11.table_cmp_ge e he c hc
  exact Ep.count_within_limit h hT s hi h0 as hlen
-- instance: the toy system with limit 3, counters 0, 1, 2, 3 up to the first LAST (step 3)
example : ∃ k, (Ep.Example.toy .ge 3).firstLast 0 [false, false, false, false] = some k ∧ ∀ j, j ≤ k →
    (Ep.Example.toy .ge 3).count ((Ep.Example.toy .ge 3).stateAt 0 [false, false, false, false] j) = j ∧
    0 ≤ (Ep.Example.toy .ge 3).count ((Ep.Example.toy .ge 3).stateAt 0 [false, false, false, false] j) ∧
    (Ep.Example.toy .ge 3).count ((Ep.Example.toy .ge 3).stateAt 0 [false, false, false, false] j) ≤ 3 :=
  Ep.count_within_limit (Ep.Example.toy_exact .ge 3).toLimited (by decide) 0 trivial rfl _ (by decide)
/-- … and `T` itself is a member of `DiscreteArray(T+1)` but not of `DiscreteArray(T)` (Snake and Tetris declare
`DiscreteArray(time_limit + 1)`) -/
theorem limit_in_discrete_succ (T : Nat) :
    (Leaf.discrete (T + 1) .int32 "step_count").valid ⟨[], .int32, [(T : Rat)]⟩ = true :=
  (PzS.valid_discrete_nat_iff _ _ _ _ _ T).2 ⟨rfl, rfl, Nat.lt_succ_self T⟩
theorem limit_not_in_discrete (T : Nat) (hT : 0 < T) :
    (Leaf.discrete T .int32 "step_count").valid ⟨[], .int32, [(T : Rat)]⟩ = false :=
  Bool.eq_false_iff.2 fun h => Nat.lt_irrefl T ((PzS.valid_discrete_nat_iff _ _ _ _ _ T).1 h).2.2

/-! ### reward and discount are members of the declared `reward_spec` / `discount_spec`

`jumanji/env.py` declares `reward_spec = Array(shape, float)` and `discount_spec = BoundedArray(shape, float, 0, 1)`
with `shape = ()` by default, `(num_agents,)` in Connector and LBF.  The model represents a reward / discount of
shape `()` by a list of length 1 and of shape `(n,)` by a list of length `n` (`Jm.RShape`); `arrOf` reads such a
list as an array of the declared shape (the dtype is not modelled by `Jm.TimeStep`: it is checked for all inputs by
`jax.eval_shape` in `harness/props/c01.py`). -/

def shapeList : Jm.RShape → List Nat | none => [] | some n => [n]
def rewardSpecOf (sh : Jm.RShape) : Leaf := .array (shapeList sh) .float32 "reward"
def discountSpecOf (sh : Jm.RShape) : Leaf := .bounded (shapeList sh) .float32 "discount" [] [0] [] [1]
def arrOf (sh : Jm.RShape) (d : List Rat) : Arr := ⟨shapeList sh, .float32, d⟩
def rshapeOf : List Nat → Option Jm.RShape | [] => some none | [n] => some (some n) | _ => none

/-- every `reward_spec` / `discount_spec` of every catalogue configuration (GENERATED from the real spec objects) is
`rewardSpecOf sh` / `discountSpecOf sh` for the shape `sh` it declares … -/
theorem declared_reward_discount_specs : Gen.Specs.parts.all (fun p => p.all (fun e =>
    if e.2.1 == "reward_spec" then
      (match rshapeOf e.2.2.shape with | some sh => decide (e.2.2 = rewardSpecOf sh) | none => false)
    else if e.2.1 == "discount_spec" then
      (match rshapeOf e.2.2.shape with | some sh => decide (e.2.2 = discountSpecOf sh) | none => false)
    else true)) = true := by decide +kernel
/-- … and within a configuration both declare the same shape -/
theorem declared_reward_discount_same_shape :
    ((Gen.Specs.parts.flatten.filter (·.2.1 == "reward_spec")).map (fun e => (e.1, e.2.2.shape))) =
    ((Gen.Specs.parts.flatten.filter (·.2.1 == "discount_spec")).map (fun e => (e.1, e.2.2.shape))) := by
  decide +kernel

theorem prod_shapeList (sh : Jm.RShape) : prod (shapeList sh) = sh.size := by
  cases sh <;> simp [shapeList, prod, Jm.RShape.size]

/-- an `Array` spec has no bounds -/
theorem reward_valid_iff (sh : Jm.RShape) (r : List Rat) :
    (rewardSpecOf sh).valid (arrOf sh r) = true ↔ r.length = sh.size := by
  simp only [rewardSpecOf, arrOf, PzS.valid_array_iff, prod_shapeList, true_and]

theorem discount_valid_iff (sh : Jm.RShape) (d : List Rat) :
    (discountSpecOf sh).valid (arrOf sh d) = true ↔ (d.length = sh.size ∧ Jm.allIn01 d = true) := by
  simp only [discountSpecOf, arrOf, PzS.valid_scalar_bounded_iff, prod_shapeList, true_and, Jm.allIn01, List.all_eq_true,
    Bool.and_eq_true, decide_eq_true_eq]

/-- RESET, no hypothesis on what the environment computes: for every well-formed entry (every class,
`Props.C03.table_wellFormed`) and its declared shape, the reward and the discount of the reset timestep are
members of the declared `reward_spec` / `discount_spec` (the constructor builds both from `shape=`) -/
theorem reset_reward_discount_valid {O : Type} (e : Proto.Entry) (hw : e.wellFormed = true) (sh : Jm.RShape)
    (hm : e.multi = true ↔ sh ≠ none) (o : O) :
    (rewardSpecOf sh).valid (arrOf sh (Jm.restart o (if e.resetHasShape then sh else none)).reward) = true ∧
    (discountSpecOf sh).valid (arrOf sh (Jm.restart o (if e.resetHasShape then sh else none)).discount) = true := by
  have h := Props.C03.entry_reset_protocol e hw sh hm o
  simp only [Jm.ResetOK, Bool.and_eq_true, beq_iff_eq] at h
  obtain ⟨⟨_, h1⟩, h2⟩ := h
  rw [reward_valid_iff, discount_valid_iff, h1, h2]
  simp [Jm.zerosR, Jm.onesR, Proto.allIn01_ones]

/-- STEP, discount: NO hypothesis on the reward.  For every well-formed entry, whatever flags, reward and
observation the environment computes, the emitted discount is a member of the declared `discount_spec`.
(`hd` only concerns an entry with an explicit `discount=`, i.e. Connector; discharged in
`Props.C03.connector_l1_step_protocol`.) -/
theorem step_discount_valid {O : Type} (e : Proto.Entry) (hw : e.wellFormed = true) (sh : Jm.RShape) (hsz : 0 < sh.size)
    (hm : e.multi = true ↔ sh ≠ none) (terminate truncate : Bool) (r : List Rat) (o : O) (disc : List Rat)
    (hd : e.explicitDiscount = true →
      disc.length = sh.size ∧ Jm.allIn01 disc = true ∧ (terminate = false → Jm.allZero disc = false))
    (ts : Jm.TimeStep O) (hts : Proto.evalStep e.step sh terminate truncate r o disc = some ts) :
    (discountSpecOf sh).valid (arrOf sh ts.discount) = true := by
  have h := Props.C03.entry_protocol_discount e hw sh hsz hm terminate truncate r o disc hd ts hts
  simp only [Proto.DiscOK, Bool.and_eq_true, beq_iff_eq] at h
  exact (discount_valid_iff sh _).2 ⟨h.1.1.1.2, h.1.1.2⟩

/-- STEP, reward: every constructor passes the reward through, so the emitted reward is a member of the declared
`reward_spec` IF AND ONLY IF the reward the environment computed has the declared length — this is exactly the
obligation that remains per environment; it is discharged for 21 L1 models below (`*_step_reward_discount_in_spec`),
for RubiksCube and SlidingTilePuzzle in Props/Env/*.lean (`rubik_reward_discount_valid`, `sliding_reward_discount_valid`), and checked on every real
timestep by the search. -/
theorem step_reward_valid_iff {O : Type} (e : Proto.Entry) (sh : Jm.RShape) (terminate truncate : Bool) (r : List Rat)
    (o : O) (disc : List Rat) (ts : Jm.TimeStep O)
    (hts : Proto.evalStep e.step sh terminate truncate r o disc = some ts) :
    (rewardSpecOf sh).valid (arrOf sh ts.reward) = true ↔ r.length = sh.size := by
  rw [reward_valid_iff, Props.C03.entry_reward_passthrough e sh terminate truncate r o disc ts hts]

/-- a timestep that obeys the protocol predicate has reward and discount in the declared specs (used to turn the
per-environment `Props.C03.E_l1_step_protocol`, proved from the model's `step` for all states, into spec membership) -/
theorem protocol_valid {O : Type} (sh : Jm.RShape) (truncOK : Bool) (ts : Jm.TimeStep O)
    (h : Jm.StepOK sh truncOK ts = true) :
    (rewardSpecOf sh).valid (arrOf sh ts.reward) = true ∧ (discountSpecOf sh).valid (arrOf sh ts.discount) = true :=
  PzS.stepOK_valid h (shapeList sh) (prod_shapeList sh)

/-! per environment, ALL states (reachable or not, also after LAST), all actions, all draws: the reward and the
discount emitted by the L1 `step` are members of the declared `reward_spec` / `discount_spec` -/
open Props.C03 in
section
theorem snake_step_reward_discount_in_spec (rnd : Rat → Rat) (cfg : Snake.Cfg) (s : Snake.State) (a : Int) (d : Nat) :
    (rewardSpecOf none).valid (arrOf none (Snake.step rnd cfg s a d).2.reward) = true ∧
    (discountSpecOf none).valid (arrOf none (Snake.step rnd cfg s a d).2.discount) = true :=
  protocol_valid none false _ (snake_l1_step_protocol rnd cfg s a d)
theorem maze_step_reward_discount_in_spec (cfg : Maze.Cfg) (s : Maze.State) (a : Int) :
    (rewardSpecOf none).valid (arrOf none (Maze.step cfg s a).2.reward) = true ∧
    (discountSpecOf none).valid (arrOf none (Maze.step cfg s a).2.discount) = true :=
  protocol_valid none false _ (maze_l1_step_protocol cfg s a)
theorem knapsack_step_reward_discount_in_spec (rnd : Rat → Rat) (dense : Bool) (s : Knapsack.State) (a : Int) :
    (rewardSpecOf none).valid (arrOf none (Knapsack.step rnd dense s a).2.reward) = true ∧
    (discountSpecOf none).valid (arrOf none (Knapsack.step rnd dense s a).2.discount) = true :=
  protocol_valid none false _ (knapsack_l1_step_protocol rnd dense s a)
theorem game2048_step_reward_discount_in_spec (s : Game2048.State) (a : Int) (d : Game2048.Draw) :
    (rewardSpecOf none).valid (arrOf none (Game2048.step s a d).2.reward) = true ∧
    (discountSpecOf none).valid (arrOf none (Game2048.step s a d).2.discount) = true :=
  protocol_valid none false _ (game2048_l1_step_protocol s a d)
theorem sudoku_step_reward_discount_in_spec (s : Sudoku.State) (r c d : Int) :
    (rewardSpecOf none).valid (arrOf none (Sudoku.step s r c d).2.reward) = true ∧
    (discountSpecOf none).valid (arrOf none (Sudoku.step s r c d).2.discount) = true :=
  protocol_valid none false _ (sudoku_l1_step_protocol s r c d)
theorem binpack_step_reward_discount_in_spec (cfg : BinPack.Cfg) (rnd : Rat → Rat) (s : BinPack.State) (e i : Int) (d : BinPack.EmsDraw) :
    (rewardSpecOf none).valid (arrOf none (BinPack.step cfg rnd s e i d).2.reward) = true ∧
    (discountSpecOf none).valid (arrOf none (BinPack.step cfg rnd s e i d).2.discount) = true :=
  protocol_valid none false _ (binpack_l1_step_protocol cfg rnd s e i d)
theorem cvrp_step_reward_discount_in_spec (c : CVRP.Cfg) (D : CVRP.Dist) (s : CVRP.State) (a : Nat) :
    (rewardSpecOf none).valid (arrOf none (CVRP.step c D s a).2.reward) = true ∧
    (discountSpecOf none).valid (arrOf none (CVRP.step c D s a).2.discount) = true :=
  protocol_valid none false _ (cvrp_l1_step_protocol c D s a)
theorem cleaner_step_reward_discount_in_spec (cfg : Cleaner.Cfg) (s : Cleaner.State) (a : List Int) :
    (rewardSpecOf none).valid (arrOf none (Cleaner.step cfg s a).2.reward) = true ∧
    (discountSpecOf none).valid (arrOf none (Cleaner.step cfg s a).2.discount) = true :=
  protocol_valid none false _ (cleaner_l1_step_protocol cfg s a)
theorem flatpack_step_reward_discount_in_spec (rnd : Rat → Rat) (cfg : FlatPack.Cfg) (s : FlatPack.State) (a : FlatPack.Action) :
    (rewardSpecOf none).valid (arrOf none (FlatPack.step rnd cfg s a).2.reward) = true ∧
    (discountSpecOf none).valid (arrOf none (FlatPack.step rnd cfg s a).2.discount) = true :=
  protocol_valid none false _ (flatpack_l1_step_protocol rnd cfg s a)
theorem graphcoloring_step_reward_discount_in_spec (n : Nat) (s : GraphColoring.State) (a : Int) :
    (rewardSpecOf none).valid (arrOf none (GraphColoring.step n s a).2.reward) = true ∧
    (discountSpecOf none).valid (arrOf none (GraphColoring.step n s a).2.discount) = true :=
  protocol_valid none false _ (graphcoloring_l1_step_protocol n s a)
theorem jobshop_step_reward_discount_in_spec (cfg : JobShop.Cfg) (s : JobShop.State) (a : List Int) :
    (rewardSpecOf none).valid (arrOf none (JobShop.step cfg s a).2.reward) = true ∧
    (discountSpecOf none).valid (arrOf none (JobShop.step cfg s a).2.discount) = true :=
  protocol_valid none false _ (jobshop_l1_step_protocol cfg s a)
theorem mmst_step_reward_discount_in_spec (cfg : MMST.Cfg) (s : MMST.State) (a : List Int) (p : List Nat) :
    (rewardSpecOf none).valid (arrOf none (MMST.step cfg s a p).2.reward) = true ∧
    (discountSpecOf none).valid (arrOf none (MMST.step cfg s a p).2.discount) = true :=
  protocol_valid none false _ (mmst_l1_step_protocol cfg s a p)
theorem minesweeper_step_reward_discount_in_spec (cfg : Minesweeper.Cfg) (s : Minesweeper.State) (r c : Int) :
    (rewardSpecOf none).valid (arrOf none (Minesweeper.step cfg s r c).2.reward) = true ∧
    (discountSpecOf none).valid (arrOf none (Minesweeper.step cfg s r c).2.discount) = true :=
  protocol_valid none false _ (minesweeper_l1_step_protocol cfg s r c)
theorem multicvrp_step_reward_discount_in_spec (rnd : Rat → Rat) (c : MultiCVRP.Cfg) (D : MultiCVRP.Dist) (s : MultiCVRP.State) (a : List Nat) :
    (rewardSpecOf none).valid (arrOf none (MultiCVRP.step rnd c D s a).2.reward) = true ∧
    (discountSpecOf none).valid (arrOf none (MultiCVRP.step rnd c D s a).2.discount) = true :=
  protocol_valid none false _ (multicvrp_l1_step_protocol rnd c D s a)
theorem pacman_step_reward_discount_in_spec (tl : Int) (s : PacMan.State) (a : Int) (d : PacMan.Draw) :
    (rewardSpecOf none).valid (arrOf none (PacMan.step tl s a d).2.reward) = true ∧
    (discountSpecOf none).valid (arrOf none (PacMan.step tl s a d).2.discount) = true :=
  protocol_valid none false _ (pacman_l1_step_protocol tl s a d)
theorem rware_step_reward_discount_in_spec (cfg : RobotWarehouse.Cfg) (s : RobotWarehouse.State) (a d : List Int) :
    (rewardSpecOf none).valid (arrOf none (RobotWarehouse.step cfg s a d).2.reward) = true ∧
    (discountSpecOf none).valid (arrOf none (RobotWarehouse.step cfg s a d).2.discount) = true :=
  protocol_valid none false _ (rware_l1_step_protocol cfg s a d)
theorem sokoban_step_reward_discount_in_spec (rnd : Rat → Rat) (cfg : Sokoban.Cfg) (s : Sokoban.State) (a : Int) :
    (rewardSpecOf none).valid (arrOf none (Sokoban.step rnd cfg s a).2.reward) = true ∧
    (discountSpecOf none).valid (arrOf none (Sokoban.step rnd cfg s a).2.discount) = true :=
  protocol_valid none false _ (sokoban_l1_step_protocol rnd cfg s a)
theorem tsp_step_reward_discount_in_spec (n : Nat) (D : TSP.Dist) (pen : Rat) (dense : Bool) (s : TSP.State) (a : Int) :
    (rewardSpecOf none).valid (arrOf none (TSP.step n D pen dense s a).2.reward) = true ∧
    (discountSpecOf none).valid (arrOf none (TSP.step n D pen dense s a).2.discount) = true :=
  protocol_valid none false _ (tsp_l1_step_protocol n D pen dense s a)
theorem tetris_step_reward_discount_in_spec (cfg : Tetris.Cfg) (s : Tetris.State) (rot x : Int) (d : Nat) :
    (rewardSpecOf none).valid (arrOf none (Tetris.step cfg s rot x d).2.reward) = true ∧
    (discountSpecOf none).valid (arrOf none (Tetris.step cfg s rot x d).2.discount) = true :=
  protocol_valid none false _ (tetris_l1_step_protocol cfg s rot x d)
/-- Connector: `k = num_agents` entries each (states whose agent array has the configured length, joint actions of that length) -/
theorem connector_step_reward_discount_in_spec (cfg : Connector.Cfg) (hk : 0 < cfg.k) (s : Connector.State)
    (hs : s.agents.length = cfg.k) (acts : List Int) (ha : acts.length = cfg.k) :
    (rewardSpecOf (some cfg.k)).valid (arrOf (some cfg.k) (Connector.step cfg s acts).2.reward) = true ∧
    (discountSpecOf (some cfg.k)).valid (arrOf (some cfg.k) (Connector.step cfg s acts).2.discount) = true :=
  protocol_valid _ false _ (connector_l1_step_protocol cfg hk s hs acts ha)
/-- LevelBasedForaging: one entry per agent -/
theorem lbf_step_reward_discount_in_spec (cfg : LBF.Cfg) (s : LBF.State) (hk : 0 < s.agents.length) (a : List Int) :
    (rewardSpecOf (some s.agents.length)).valid (arrOf (some s.agents.length) (LBF.step cfg s a).2.reward) = true ∧
    (discountSpecOf (some s.agents.length)).valid (arrOf (some s.agents.length) (LBF.step cfg s a).2.discount) = true :=
  protocol_valid _ true _ (lbf_l1_step_protocol cfg s hk a)
end

-- instances: a multi-agent discount is accepted iff it has one entry per agent, each within [0, 1]
example : (discountSpecOf (some 2)).valid (arrOf (some 2) [0, 1]) = true := by decide +kernel
example : (discountSpecOf (some 2)).valid (arrOf (some 2) [1]) = false := by decide +kernel
example : (discountSpecOf none).valid (arrOf none [2]) = false := by decide +kernel
example : (rewardSpecOf (some 3)).valid (arrOf (some 3) [5, -1, 0]) = true := by decide +kernel
end Props.C01
