-- BEGIN ENV IMPORTS (generated by tools/mkprops.py)
import JumanjiModel.Props.Env.BinPack
import JumanjiModel.Props.Env.CVRP
import JumanjiModel.Props.Env.Cleaner
import JumanjiModel.Props.Env.Connector
import JumanjiModel.Props.Env.FlatPack
import JumanjiModel.Props.Env.GraphColoring
import JumanjiModel.Props.Env.JobShop
import JumanjiModel.Props.Env.Knapsack
import JumanjiModel.Props.Env.LBF
import JumanjiModel.Props.Env.MMST
import JumanjiModel.Props.Env.Maze
import JumanjiModel.Props.Env.Minesweeper
import JumanjiModel.Props.Env.MultiCVRP
import JumanjiModel.Props.Env.PacMan
import JumanjiModel.Props.Env.RobotWarehouse
import JumanjiModel.Props.Env.RubiksCube
import JumanjiModel.Props.Env.SlidingTilePuzzle
import JumanjiModel.Props.Env.Snake
import JumanjiModel.Props.Env.Sokoban
import JumanjiModel.Props.Env.Sudoku
import JumanjiModel.Props.Env.TSP
import JumanjiModel.Props.Env.Tetris
-- END ENV IMPORTS
/- Property C11 — episodes end exactly at the configured time limit (and within a known horizon).
   Generic part: the constructor wiring and the `done` comparison are GENERATED from the source
   (Gen/TimeLimit.lean); the episode-level counting theorems over an abstract step system and their
   per-environment instances (Props/EpisodeInstances.lean).  Structural horizons: per-environment `progress`
   theorems in Props/Env/*.lean. -/
import JumanjiModel.Core.TimeLimitLemmas
import JumanjiModel.Core.EpisodeLemmas
import JumanjiModel.Props.EpisodeInstances
import JumanjiModel.Gen.TimeLimit
open TL

namespace Props.C11

/-- every class that takes a time limit wires the constructor argument through (syntactically
`time_limit` or `time_limit or <default>`) and compares the step count with `>=` -/
theorem table_ok : Gen.TimeLimit.table.all Entry.ok = true := by decide +kernel

/-- … hence, for EVERY positive value passed, `self.time_limit` is that value (Python truthiness modelled) -/
theorem wiring_honours_argument (e : Entry) (he : e.ok = true) (attrs : String → Nat) (tl : Nat) (htl : 0 < tl) :
    e.wiring.eval attrs (.int tl) = some (.int tl) := by
  simp only [Entry.ok, Bool.and_eq_true] at he
  exact honours_eval e.wiring he.1.1 attrs tl htl

/-- the `None` defaults are the documented ones: Maze and Cleaner `num_rows * num_cols` (in either order of the
factors), PacMan 1000; every other class has no default -/
def wiringDocumented (cls : String) (e : PyExpr) : Bool :=
  if cls == "Maze" || cls == "Cleaner" then
    e == .or .arg (.mul (.attr "num_rows") (.attr "num_cols")) || e == .or .arg (.mul (.attr "num_cols") (.attr "num_rows"))
  else if cls == "PacMan" then e == .or .arg (.const 1000)
  else e == .arg
theorem defaults_documented : Gen.TimeLimit.table.all (fun e => wiringDocumented e.cls e.wiring) = true := by decide +kernel

/-- what these wirings evaluate to when `None` is passed -/
theorem default_rows_cols (attrs : String → Nat) :
    (PyExpr.or .arg (.mul (.attr "num_rows") (.attr "num_cols"))).eval attrs .none =
      some (.int (attrs "num_rows" * attrs "num_cols")) := by
  simp [PyExpr.eval, PyVal.truthy]
/-- both accepted spellings evaluate to rows × cols -/
theorem default_cols_rows (attrs : String → Nat) :
    (PyExpr.or .arg (.mul (.attr "num_cols") (.attr "num_rows"))).eval attrs .none =
      some (.int (attrs "num_rows" * attrs "num_cols")) := by
  simp [PyExpr.eval, PyVal.truthy, Nat.mul_comm]
theorem default_pacman (attrs : String → Nat) :
    (PyExpr.or .arg (.const 1000)).eval attrs .none = some (.int 1000) := by
  simp [PyExpr.eval, PyVal.truthy]

/-! ### the counting argument, at episode level, for ANY step system (`Core/EpisodeLemmas.lean`)

`M : Ep.Sys S A` is a transition function with the flag "this step emits LAST" and a step counter;
`Ep.Limited M Inv cmp T` / `Ep.Exact M Inv other cmp T` are the SINGLE-STEP facts every time-limited
environment satisfies (each step increments the counter; LAST iff another cause holds or the incremented counter
compares `cmp` with the limit).  The theorems below are instantiated
with the L1 `step` of Maze, Cleaner, Connector, LBF, Tetris, RubiksCube, SlidingTilePuzzle, MMST, Snake, Sokoban,
PacMan, RobotWarehouse (and FlatPack's structural horizon) in `Props/EpisodeInstances.lean`
(`maze_rollout_ends_by_limit`, …). -/

/-- the comparison the theorems need is the one the translator recorded: every comparison of a step count with
`self.time_limit` found in any class is `>=` -/
theorem table_cmp_ge (e : Entry) (he : e ∈ Gen.TimeLimit.table) (c : Cmp) (hc : c ∈ e.doneCmp) : c = .ge := by
  have h := List.all_eq_true.1 table_ok e he
  simp only [Entry.ok, Bool.and_eq_true] at h
  simpa using List.all_eq_true.1 h.2 c hc

/-- NEVER LATER: from any state with counter 0 (any `reset` state), along ANY action list of length ≥ `T`.  The hypothesis
is stated with a comparison `c` recorded in ANY entry of the generated table (all record `>=`: `table_cmp_ge`); nothing ties
the entry to `M`. -/
theorem ends_by_limit {S A : Type} (e : Entry) (he : e ∈ Gen.TimeLimit.table) (c : Cmp) (hc : c ∈ e.doneCmp)
    {M : Ep.Sys S A} {Inv : S → Prop} {T : Int} (h : Ep.Limited M Inv c T)
    (hT : 0 < T) (s : S) (hi : Inv s) (h0 : M.count s = 0) (as : List A) (hlen : T ≤ as.length) :
    ∃ k, M.firstLast s as = some k ∧ 0 < k ∧ (k : Int) ≤ T ∧
      M.lastAt s as k = true ∧ ∀ j, 0 < j → j < k → M.lastAt s as j = false := by
  cases table_cmp_ge e he c hc
  exact Ep.ends_by_limit h hT s hi h0 as hlen

/-- NEVER EARLIER: if no other cause holds at any step before `T`, the first LAST step is step number `T` exactly -/
theorem ends_exactly_at_limit {S A : Type} (e : Entry) (he : e ∈ Gen.TimeLimit.table) (c : Cmp) (hc : c ∈ e.doneCmp)
    {M : Ep.Sys S A} {Inv : S → Prop} {other : S → A → Prop} {T : Int} (h : Ep.Exact M Inv other c T)
    (hT : 0 < T) (s : S) (hi : Inv s) (h0 : M.count s = 0) (as : List A) (hlen : T ≤ as.length)
    (hno : ∀ (j : Nat) (a : A), (j : Int) + 1 < T → as[j]? = some a → ¬ other (M.stateAt s as j) a) :
    M.firstLast s as = some T.toNat := by
  cases table_cmp_ge e he c hc
  exact Ep.ends_exactly_at_limit h hT s hi h0 as hlen hno

/-- `step_count > time_limit`: with the strict comparison and no other cause, step `T` is NOT LAST;
the first LAST is step `T + 1` (this is what the search reports as `runs_past_limit`) -/
theorem strict_cmp_is_late {S A : Type} {M : Ep.Sys S A} {Inv : S → Prop} {other : S → A → Prop} {T : Int}
    (h : Ep.Exact M Inv other .gt T) (hT : 0 < T) (s : S) (hi : Inv s) (h0 : M.count s = 0)
    (as : List A) (hlen : T + 1 ≤ as.length)
    (hno : ∀ (j : Nat) (a : A), (j : Int) < T → as[j]? = some a → ¬ other (M.stateAt s as j) a) :
    M.firstLast s as = some (T.toNat + 1) ∧ M.lastAt s as T.toNat = false := by
  have := Ep.ends_exactly_at_horizon h (by decide) hT s hi h0 as hlen
    (fun j a hj => hno j a (by rw [Ep.cmpHorizon_gt] at hj; omega))
  rw [Ep.cmpHorizon_gt, show (T + 1).toNat = T.toNat + 1 by omega] at this
  exact ⟨this, (Ep.firstLast_sound M s as _ this).2.2 _ (by omega) (by omega)⟩

-- non-vacuity of the table-indexed statement: the table has entries with recorded comparisons, and for each of them
-- the toy system of `Core/EpisodeLemmas.lean` built with THAT comparison ends at step 3 = its limit
example : ∃ e ∈ Gen.TimeLimit.table, ∃ c ∈ e.doneCmp, c = Cmp.ge := by decide
example (e : Entry) (he : e ∈ Gen.TimeLimit.table) (c : Cmp) (hc : c ∈ e.doneCmp) :
    (Ep.Example.toy c 3).firstLast 0 [false, false, false, false] = some 3 :=
  ends_exactly_at_limit e he c hc (Ep.Example.toy_exact c 3) (by decide) 0 trivial rfl _ (by decide)
    (fun j a _ ha hb => by
      have := List.mem_of_getElem? ha
      simp [hb] at this)

-- a wiring that ignores the argument (`1000 or time_limit`) does not pass the test
example : (PyExpr.or (.const 1000) .arg).honours = false := rfl
example : (PyExpr.or (.const 1000) .arg).eval (fun _ => 0) (.int 5) = some (.int 1000) := by decide
end Props.C11
