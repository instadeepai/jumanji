-- BEGIN ENV IMPORTS (generated by tools/mkprops.py)
import JumanjiModel.Props.Env.BinPack
import JumanjiModel.Props.Env.CVRP
import JumanjiModel.Props.Env.Cleaner
import JumanjiModel.Props.Env.Connector
import JumanjiModel.Props.Env.FlatPack
import JumanjiModel.Props.Env.Game2048
import JumanjiModel.Props.Env.GraphColoring
import JumanjiModel.Props.Env.JobShop
import JumanjiModel.Props.Env.Knapsack
import JumanjiModel.Props.Env.LBF
import JumanjiModel.Props.Env.MMST
import JumanjiModel.Props.Env.Maze
import JumanjiModel.Props.Env.Minesweeper
import JumanjiModel.Props.Env.MultiCVRP
import JumanjiModel.Props.Env.PacMan
import JumanjiModel.Props.Env.RobotWarehouse
import JumanjiModel.Props.Env.RubiksCube
import JumanjiModel.Props.Env.SlidingTilePuzzle
import JumanjiModel.Props.Env.Snake
import JumanjiModel.Props.Env.Sokoban
import JumanjiModel.Props.Env.Sudoku
import JumanjiModel.Props.Env.TSP
import JumanjiModel.Props.Env.Tetris
-- END ENV IMPORTS
import JumanjiModel.Props.Guards
import JumanjiModel.Props.Draws
/- Property C10: per-environment theorems live in the imported Props/Env/*.lean files
   (sections `namespace Props.C10`); Props/Guards.lean and Props/Draws.lean hold what the generated tables of constructor
   checks and of `jax.random` calls guarantee. -/
