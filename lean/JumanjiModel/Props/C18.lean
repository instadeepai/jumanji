-- BEGIN ENV IMPORTS (generated by tools/mkprops.py)
-- END ENV IMPORTS
/- Property C18 — the registry maps each id to one reproducible configuration. -/
import JumanjiModel.RegistryLemmas
import JumanjiModel.Gen.Registry
open Reg

namespace Props.C18
variable {α : Type} [DecidableEq α] {C : Cls α}

/-- every well-formed id `<name>-v<N>` parses to (name, N) … -/
theorem parse_format (h : ClsOK C) (dig : Nat → α) (hval : ∀ k, k < 10 → C.val (dig k) = k)
    (hD : ∀ k, k < 10 → C.D (dig k) = true) (name : List α) (hn : NameOK C name) (N : Nat) :
    parse C (format C dig name N) = .ok (name, N) := Reg.parse_format h dig hval hD name hn N

/-- … and formats back to itself: EVERY well-formed id whose version is written canonically (digits `dig 0 … dig 9`,
no leading zeros) parses to (name, value) and `get_env_id` of that is the id again -/
theorem format_parse (h : ClsOK C) (dig : Nat → α) (hval : ∀ k, k < 10 → C.val (dig k) = k)
    (s n ds : List α) (hw : WellFormed C s n ds) (hc : Canonical dig ds) :
    parse C s = .ok (n, valOf C ds) ∧ format C dig n (valOf C ds) = s := by
  refine ⟨Reg.parse_wellFormed h s n ds hw, ?_⟩
  rw [format, Reg.digitsOf_valOf dig hval ds hc]
  exact hw.1.symm
/-- the same from a successful parse -/
theorem format_parse_of_parse (dig : Nat → α) (hval : ∀ k, k < 10 → C.val (dig k) = k)
    (s n ds : List α) (v : Nat) (hp : parse C s = .ok (n, v)) (hs : s = n ++ C.dash :: C.vee :: ds)
    (hc : Canonical dig ds) : format C dig n v = s := by
  obtain ⟨ds', ⟨hs', _, _⟩, hv⟩ := Reg.parse_ok_wellFormed s n v hp
  have : ds' = ds := by
    rw [hs'] at hs
    have := List.append_cancel_left hs
    simpa using this
  subst this
  rw [format, hv, Reg.digitsOf_valOf dig hval ds' hc]
  exact hs'.symm
/-- its content: decimal formatting inverts `int(…)` on canonical digit strings, and produces only such strings -/
theorem digitsOf_valOf (dig : Nat → α) (hval : ∀ k, k < 10 → C.val (dig k) = k) (ds : List α)
    (hc : Canonical dig ds) : digitsOf dig (valOf C ds) = ds := Reg.digitsOf_valOf dig hval ds hc
theorem digitsOf_canonical (dig : Nat → α) (hinj : ∀ k, 0 < k → k < 10 → dig k ≠ dig 0) (n : Nat) :
    Canonical dig (digitsOf dig n) := by
  -- carried along the recursion of `digitsOf`: the leading digit of a positive number is not `dig 0`
  refine (digitsOf_induction dig
    (P := fun n ds => Canonical dig ds ∧ (0 < n → ∀ c rest, ds = c :: rest → c ≠ dig 0)) ?_ ?_ n).1
  · intro n h
    refine ⟨⟨by simp, fun c hc => ⟨n, h, List.mem_singleton.1 hc⟩, fun c rest e hr => ?_⟩, fun hn c rest e => ?_⟩
    · exact absurd (List.cons.inj e).2.symm hr
    · rw [← (List.cons.inj e).1]
      exact hinj n hn h
  · intro n h ⟨⟨i1, i2, _⟩, ih⟩
    obtain ⟨d, r', hd⟩ := List.exists_cons_of_ne_nil i1
    have hlead : ∀ c rest, digitsOf dig (n / 10) ++ [dig (n % 10)] = c :: rest → c ≠ dig 0 := by
      intro c rest e
      rw [hd, List.cons_append] at e
      rw [← (List.cons.inj e).1]
      exact ih (by omega) d r' hd
    refine ⟨⟨by simp, fun c hc => ?_, fun c rest e _ => hlead c rest e⟩, fun _ => hlead⟩
    rcases List.mem_append.1 hc with hc | hc
    · exact i2 c hc
    · exact ⟨n % 10, Nat.mod_lt _ (by omega), List.mem_singleton.1 hc⟩

/-- the regex matcher accepts exactly the documented grammar: a successful parse exhibits
`<name>-v<digits>` with a non-empty name over `[\w:.-]` and a non-empty digit string … -/
theorem parse_ok_wellFormed (s n : List α) (v : Nat) (hp : parse C s = .ok (n, v)) :
    ∃ ds, WellFormed C s n ds ∧ v = valOf C ds := Reg.parse_ok_wellFormed s n v hp
/-- … every id of that shape is accepted with exactly that name and version (last `-v<digits>` suffix) … -/
theorem parse_wellFormed (h : ClsOK C) (s n ds : List α) (hw : WellFormed C s n ds) :
    parse C s = .ok (n, valOf C ds) := Reg.parse_wellFormed h s n ds hw
/-- … and every malformed or version-less id is rejected -/
theorem parse_rejects (s : List α) (h : ¬ ∃ n ds, WellFormed C s n ds) : ∃ e, parse C s = .error e := by
  cases hp : parse C s with
  | error e => exact ⟨e, rfl⟩
  | ok p =>
    obtain ⟨ds, hw, _⟩ := Reg.parse_ok_wellFormed s p.1 p.2 hp
    exact absurd ⟨p.1, ds, hw⟩ h
theorem parse_versionless (h : ClsOK C) (n : List α) (hn : NameOK C n)
    (hnv : ¬ ∃ n' ds, WellFormed C n n' ds) : parse C n = .error .versionMissing := by
  -- not `.ok` since `n` is not well-formed, not `malformed` since the matcher accepts a string of name characters
  obtain ⟨c, cs, rfl⟩ := List.exists_cons_of_ne_nil hn.1
  have hm : matchId C (c :: cs) ≠ none := by
    simp only [matchId, hn.2 c (by simp), if_true]
    exact matchFrom_ne_none [c] cs (fun x hx => hn.2 x (by simp [hx]))
  cases hp : parse C (c :: cs) with
  | ok p =>
    obtain ⟨ds, hw, _⟩ := Reg.parse_ok_wellFormed _ p.1 p.2 hp
    exact absurd ⟨p.1, ds, hw⟩ hnv
  | error e =>
    cases e with
    | versionMissing => rfl
    | malformed =>
      unfold parse at hp
      split at hp
      · rename_i hnone
        exact absurd hnone hm
      · cases hp
      · cases hp

/-- ids with leading zeros are normalised, idempotently -/
theorem normalise_idempotent (h : ClsOK C) (dig : Nat → α) (hval : ∀ k, k < 10 → C.val (dig k) = k)
    (hD : ∀ k, k < 10 → C.D (dig k) = true) (s n : List α) (v : Nat) (hp : parse C s = .ok (n, v)) :
    parse C (format C dig n v) = .ok (n, v) := Reg.normalise_idempotent h dig hval hD s n v hp

variable {κ ν : Type} [DecidableEq κ]

/-- registering an id that already exists is refused with exactly the "already registered" error naming the
normalised id (the registry is a value: it is unchanged) -/
theorem register_dup_refused (dig : Nat → α) (r : Registry α κ ν) (id n : List α) (v : Nat) (ep : String)
    (kw : List (κ × ν)) (hp : parse C id = .ok (n, v)) (hin : format C dig n v ∈ registered r) :
    register C dig r id ep kw = .error (.alreadyRegistered (format C dig n v)) :=
  Reg.register_dup_refused_exact dig r id n v ep kw hp hin
/-- a malformed / version-less id is refused by `register` and `make` with the parser's error -/
theorem register_parse_error (dig : Nat → α) (r : Registry α κ ν) (id : List α) (e : ParseError) (ep : String)
    (kw : List (κ × ν)) (hp : parse C id = .error e) : register C dig r id ep kw = .error (.parse e) := by
  unfold register; rw [hp]
theorem make_parse_error (dig : Nat → α) (r : Registry α κ ν) (id : List α) (e : ParseError)
    (kw : List (κ × ν)) (hp : parse C id = .error e) : make C dig r id kw = .error (.parse e) := by
  unfold make; rw [hp]
/-- a successful registration appends exactly one entry under the normalised id … -/
theorem register_ok (dig : Nat → α) (r r' : Registry α κ ν) (id : List α) (ep : String)
    (kw : List (κ × ν)) (h : register C dig r id ep kw = .ok r') :
    ∃ n v, parse C id = .ok (n, v) ∧ format C dig n v ∉ registered r ∧
      r' = r ++ [(format C dig n v, { entryPoint := ep, kwargs := kw })] := Reg.register_ok dig r r' id ep kw h
/-- … so ids stay pairwise distinct along any sequence of register calls -/
theorem register_nodup (dig : Nat → α) (r r' : Registry α κ ν) (id : List α) (ep : String)
    (kw : List (κ × ν)) (hr : (registered r).Nodup) (h : register C dig r id ep kw = .ok r') :
    (registered r').Nodup := by
  obtain ⟨n, v, _, hnot, rfl⟩ := Reg.register_ok dig r r' id ep kw h
  simp only [registered, List.map_append, List.map_cons, List.map_nil] at *
  rw [List.nodup_append]
  refine ⟨hr, by simp, ?_⟩
  intro a ha b hb
  simp at hb; subst hb
  intro hab; subst hab; exact hnot ha
/-- `make(id)` builds the registered class with the registered arguments overridden only by the
caller's keyword arguments -/
theorem make_after_register (h : ClsOK C) (dig : Nat → α) (hval : ∀ k, k < 10 → C.val (dig k) = k)
    (hD : ∀ k, k < 10 → C.D (dig k) = true)
    (r r' : Registry α κ ν) (id : List α) (ep : String) (reg kw : List (κ × ν))
    (hr : register C dig r id ep reg = .ok r') :
    make C dig r' id kw = .ok (ep, mergeKwargs reg kw) := by
  obtain ⟨n, v, hp, hnot, rfl⟩ := Reg.register_ok dig r r' id ep reg hr
  exact Reg.make_registered dig _ id n v kw _ hp (lookup_append_of_not_mem r _ _ hnot)
theorem make_kwargs_precedence [DecidableEq ν] (reg caller : List (κ × ν)) (k : κ) :
    (mergeKwargs reg caller).lookup k =
      match caller.lookup k with
      | some v => some v
      | none => reg.lookup k := by
  -- the registered entries whose key the caller does not give, followed by the caller's
  unfold mergeKwargs
  rw [List.lookup_append, lookup_filter_key (fun a => !(caller.map (·.1)).contains a), contains_keys]
  cases caller.lookup k <;> simp
/-- unknown ids raise exactly the "unregistered" error naming the normalised id and listing the registered ones -/
theorem make_unknown (dig : Nat → α) (r : Registry α κ ν) (id n : List α) (v : Nat) (kw : List (κ × ν))
    (hp : parse C id = .ok (n, v)) (hnot : r.lookup (format C dig n v) = none) :
    make C dig r id kw = .error (.unregistered (format C dig n v) (registered r)) :=
  Reg.make_unknown_exact dig r id n v kw hp hnot
/-- `make(id, **kw)` on ANY registry state in which the normalised id is registered -/
theorem make_registered (dig : Nat → α) (r : Registry α κ ν) (id n : List α) (v : Nat) (kw : List (κ × ν))
    (sp : EnvSpec κ ν) (hp : parse C id = .ok (n, v)) (hl : r.lookup (format C dig n v) = some sp) :
    make C dig r id kw = .ok (sp.entryPoint, mergeKwargs sp.kwargs kw) := Reg.make_registered dig r id n v kw sp hp hl
/-- later registrations never change what a registered id maps to … -/
theorem register_preserves_lookup (dig : Nat → α) (r r' : Registry α κ ν) (id : List α) (ep : String)
    (kw : List (κ × ν)) (h : register C dig r id ep kw = .ok r') (k : List α) (sp : EnvSpec κ ν)
    (hl : r.lookup k = some sp) : r'.lookup k = some sp := Reg.register_preserves_lookup dig r r' id ep kw h k sp hl
/-- … so `make(id)` gives the registered configuration after ANY later history of `register` calls -/
theorem make_after_register_later (dig : Nat → α) (r r' : Registry α κ ν) (id : List α) (ep : String)
    (reg kw : List (κ × ν)) (hr : register C dig r id ep reg = .ok r')
    (calls : List (List α × String × List (κ × ν))) :
    make C dig (runRegs (C := C) dig r' calls) id kw = .ok (ep, mergeKwargs reg kw) := by
  obtain ⟨n, v, hp, hnot, rfl⟩ := Reg.register_ok dig r r' id ep reg hr
  exact Reg.make_registered dig _ id n v kw _ hp
    (runRegs_preserves_lookup dig _ calls _ _ (lookup_append_of_not_mem r _ _ hnot))

/-! ### the ASCII instantiation and the ids shipped in `jumanji/__init__.py` (generated) -/

def asciiCls : Cls Char :=
  { W := fun c => c.isAlphanum || c == '_', D := Char.isDigit, val := fun c => c.toNat - 48,
    dash := '-', vee := 'v', colon := ':', dot := '.' }
def asciiDig (k : Nat) : Char := Char.ofNat (48 + k)

theorem ascii_ok : ClsOK asciiCls := ⟨by decide, by decide⟩
theorem ascii_val : ∀ k, k < 10 → asciiCls.val (asciiDig k) = k := by decide
theorem ascii_D : ∀ k, k < 10 → asciiCls.D (asciiDig k) = true := by decide

/-- does this shipped id parse and format back to itself? -/
def idRoundTrips (s : String) : Bool :=
  match parse asciiCls s.toList with
  | .ok (n, v) => format asciiCls asciiDig n v == s.toList
  | .error _ => false

/-- registering the shipped ids in source order into an empty registry -/
def registerAll : List (String × String × List String) → Registry Char String Unit →
    Option (Registry Char String Unit)
  | [], r => some r
  | (id, ep, ks) :: rest, r =>
    match register asciiCls asciiDig r id.toList ep (ks.map (fun k => (k, ()))) with
    | .ok r' => registerAll rest r'
    | .error _ => none

theorem idRoundTrips_parse (s : String) (h : idRoundTrips s = true) :
    ∃ n v, parse asciiCls s.toList = .ok (n, v) ∧ format asciiCls asciiDig n v = s.toList := by
  unfold idRoundTrips at h
  split at h
  · rename_i n v hp
    exact ⟨n, v, hp, eq_of_beq h⟩
  · cases h

/-- ids that round-trip and are pairwise distinct are all accepted: each is registered under itself, so the only
possible refusal is a duplicate -/
theorem registerAll_ok (l : List (String × String × List String)) (r : Registry Char String Unit)
    (hrt : l.all (fun e => idRoundTrips e.1) = true) (hnd : (l.map (·.1)).Nodup)
    (hr : ∀ e ∈ l, e.1.toList ∉ registered r) :
    (registerAll l r).map (fun r => r.length) = some (r.length + l.length) := by
  induction l generalizing r with
  | nil => rfl
  | cons e rest ih =>
    obtain ⟨id, ep, ks⟩ := e
    rw [List.all_cons, Bool.and_eq_true] at hrt
    rw [List.map_cons, List.nodup_cons] at hnd
    obtain ⟨n, v, hp, hf⟩ := idRoundTrips_parse id hrt.1
    have hreg := register_fresh asciiDig r id.toList n v ep (ks.map (fun k => (k, ()))) hp
      (hf ▸ hr (id, ep, ks) List.mem_cons_self)
    rw [registerAll, hreg, ih _ hrt.2 hnd.2, List.length_append, List.length_cons, List.length_cons, List.length_nil,
      Nat.add_assoc, Nat.add_comm 1]
    intro e he hmem
    rw [hf, registered, List.map_append, List.mem_append, List.map_cons, List.map_nil, List.mem_singleton] at hmem
    rcases hmem with hmem | hmem
    · exact hr e (List.mem_cons_of_mem _ he) hmem
    · have : e.1 ∈ rest.map (·.1) := List.mem_map_of_mem he
      exact hnd.1 (String.toList_injective hmem ▸ this)

/-- every id shipped in the registry is well-formed and canonical, the translator recognised every
`register` call, and no registration is refused as a duplicate -/
theorem shipped_ids_wf :
    Gen.Registry.unrecognised = 0 ∧ Gen.Registry.shipped.all (fun e => idRoundTrips e.1) = true ∧
    ((registerAll Gen.Registry.shipped []).map (fun r => r.length)) = some Gen.Registry.shipped.length := by
  have hrt : Gen.Registry.shipped.all (fun e => idRoundTrips e.1) = true := by decide +kernel
  have hnd : (Gen.Registry.shipped.map (·.1)).Nodup := by decide +kernel
  refine ⟨rfl, hrt, ?_⟩
  rw [registerAll_ok _ [] hrt hnd (fun _ _ => List.not_mem_nil), List.length_nil, Nat.zero_add]

-- non-vacuity of the grammar hypotheses
example : NameOK asciiCls "Env-test".toList := ⟨by decide, by decide⟩
example : (parse asciiCls "Env-test-v10".toList).toOption = some ("Env-test".toList, 10) := by decide +kernel
example : (match parse asciiCls "Env_v0".toList with | .error .versionMissing => true | _ => false) = true := by
  decide +kernel
-- canonical versions: "10" is, "010" is not; the round trip on a concrete id
example : Canonical asciiDig "10".toList :=
  ⟨by decide, fun c hc => by
      simp at hc; rcases hc with rfl | rfl
      · exact ⟨1, by decide, by decide⟩
      · exact ⟨0, by decide, by decide⟩,
    fun c rest e _ => by simp at e; rw [← e.1]; decide⟩
example : ¬ Canonical asciiDig "010".toList := fun h => h.2.2 '0' ['1', '0'] rfl (by decide) (by decide)
example : digitsOf asciiDig (valOf asciiCls "10".toList) = "10".toList := by decide +kernel
end Props.C18
