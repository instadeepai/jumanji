-- BEGIN ENV IMPORTS (generated by tools/mkprops.py)
import JumanjiModel.Props.Env.BinPack
import JumanjiModel.Props.Env.CVRP
import JumanjiModel.Props.Env.Connector
import JumanjiModel.Props.Env.FlatPack
import JumanjiModel.Props.Env.GraphColoring
import JumanjiModel.Props.Env.JobShop
import JumanjiModel.Props.Env.Knapsack
import JumanjiModel.Props.Env.MMST
import JumanjiModel.Props.Env.MultiCVRP
import JumanjiModel.Props.Env.Sokoban
import JumanjiModel.Props.Env.Sudoku
import JumanjiModel.Props.Env.TSP
-- END ENV IMPORTS
/- Property C06: per-environment theorems live in the imported Props/Env/*.lean files
   (sections `namespace Props.C06`). -/
