/-
L0: the handful of JAX array primitives whose corner semantics the environments rely on.
Import-free (core Lean only).  They have no correspondence stream of their own: they are compared with
`jax.numpy` only through the environments that use them (`harness/envs/`).

JAX 0.4.35 semantics reproduced here:
* `x[i]` with a traced/array index: negative indices wrap once (`i + n`), then the index is
  clamped into `[0, n-1]` (gather mode "clip"/promise_in_bounds default = clamp).
* `x.at[i].set(v)`: negative indices wrap once, an index still out of range is dropped.
* `argmax/argmin`: first occurrence.
-/
namespace Jx

/-- normalise a (possibly negative) JAX index: wrap once. -/
def wrapIdx (n : Nat) (i : Int) : Int := if i < 0 then i + n else i

/-- gather index: wrap once, then clamp to `[0, n-1]`. -/
def clampIdx (n : Nat) (i : Int) : Nat :=
  let j := wrapIdx n i
  if j < 0 then 0 else if j ≥ (n : Int) then n - 1 else j.toNat

/-- `xs[i]` with traced `i` (wrap, then clamp).  `d` is returned only for the empty list. -/
def getWC {α} (xs : List α) (d : α) (i : Int) : α := xs.getD (clampIdx xs.length i) d

/-- `xs.at[i].set(v)` (wrap, then drop if out of range). -/
def setWD {α} (xs : List α) (i : Int) (v : α) : List α :=
  let j := wrapIdx xs.length i
  if j < 0 then xs else if j ≥ (xs.length : Int) then xs else xs.set j.toNat v

theorem setWD_length {α} (xs : List α) (i : Int) (v : α) : (setWD xs i v).length = xs.length := by
  unfold setWD; simp only []; split
  · rfl
  · split
    · rfl
    · simp

theorem clampIdx_lt {n : Nat} (h : 0 < n) (i : Int) : clampIdx n i < n := by
  unfold clampIdx wrapIdx; simp only []
  repeat' split
  all_goals omega

theorem clampIdx_of_inrange {n : Nat} {i : Nat} (h : i < n) : clampIdx n (i : Int) = i := by
  unfold clampIdx wrapIdx; simp only []
  repeat' split
  all_goals omega

/-- first index of a maximal element (0 for the empty list), as `jnp.argmax`. -/
def argmaxAux : List Int → Nat → Nat → Int → Nat
  | [], _, best, _ => best
  | x :: xs, i, best, bv => if x > bv then argmaxAux xs (i+1) i x else argmaxAux xs (i+1) best bv

def argmax : List Int → Nat
  | [] => 0
  | x :: xs => argmaxAux xs 1 0 x

def argmin (xs : List Int) : Nat := argmax (xs.map (fun x => -x))

def argmaxBool (xs : List Bool) : Nat := argmax (xs.map (fun b => if b then 1 else 0))
def argminBool (xs : List Bool) : Nat := argmin (xs.map (fun b => if b then 1 else 0))

def sumInt (xs : List Int) : Int := xs.foldl (· + ·) 0
def sumNat (xs : List Nat) : Nat := xs.foldl (· + ·) 0
def countTrue (xs : List Bool) : Nat := (xs.filter id).length

/-- `jnp.roll(xs, 1)`-style rotation by `k` to the right -/
def roll {α} (xs : List α) (k : Nat) : List α :=
  let n := xs.length
  if n = 0 then xs else
    let k' := k % n
    xs.drop (n - k') ++ xs.take (n - k')

end Jx
