/- The cells a small box-shaped piece occupies when its box is put at a position of the grid (`stampCells`), and what
overwriting such a duplicate-free set of cells does to a count of cells of a grid given as a table (`Jx.Grid.table`).
Tetris (4 × 4 pieces, `landed`) and FlatPack (3 × 3 blocks, `poseCells`) both place pieces this way. -/
import JumanjiModel.Prim.GridLemmas
namespace Jx
namespace Grid
variable {α β γ : Type}

/-- the cells `cs` of a piece (coordinates inside its box) with the top-left corner of the box at `(y, x)` -/
def stampCells (y x : Nat) (cs : List (Nat × Nat)) : List (Nat × Nat) := cs.map (fun p => (y + p.1, x + p.2))

theorem nodup_stampCells {cs : List (Nat × Nat)} (h : cs.Nodup) (y x : Nat) : (stampCells y x cs).Nodup := by
  unfold stampCells List.Nodup
  rw [List.pairwise_map]
  refine List.Pairwise.imp ?_ h
  intro a b hab e
  apply hab
  have e1 := congrArg Prod.fst e
  have e2 := congrArg Prod.snd e
  simp only [] at e1 e2
  apply Prod.ext <;> omega

theorem length_stampCells (y x : Nat) (cs : List (Nat × Nat)) : (stampCells y x cs).length = cs.length :=
  List.length_map _

/-- the non-zero entries of an `n × n` box `t` -/
def boxCells (n : Nat) (t : Grid Nat) : List (Nat × Nat) := (coords n n).filter (fun p => get t 0 p.1 p.2 != 0)

theorem nodup_boxCells (n : Nat) (t : Grid Nat) : (boxCells n t).Nodup := (nodup_coords n n).filter _

theorem mem_boxCells {n : Nat} {t : Grid Nat} {p : Nat × Nat} :
    p ∈ boxCells n t ↔ (p.1 < n ∧ p.2 < n) ∧ get t 0 p.1 p.2 ≠ 0 := by
  simp only [boxCells, List.mem_filter, mem_coords, bne_iff_ne]

theorem mem_stamp_box {n : Nat} {t : Grid Nat} {y x : Nat} {p : Nat × Nat} :
    p ∈ stampCells y x (boxCells n t) ↔
      (y ≤ p.1 ∧ p.1 < y + n ∧ x ≤ p.2 ∧ p.2 < x + n) ∧ get t 0 (p.1 - y) (p.2 - x) ≠ 0 := by
  simp only [stampCells, List.mem_map, mem_boxCells]
  constructor
  · rintro ⟨q, ⟨hq, hne⟩, rfl⟩
    simp only [Nat.add_sub_cancel_left]
    exact ⟨by omega, hne⟩
  · rintro ⟨hbox, hne⟩
    exact ⟨(p.1 - y, p.2 - x), ⟨by simp only []; omega, hne⟩, by apply Prod.ext <;> simp only [] <;> omega⟩

theorem forall_stamp_box {n : Nat} {t : Grid Nat} {y x : Nat} {P : Nat → Nat → Prop} :
    (∀ p ∈ stampCells y x (boxCells n t), P p.1 p.2) ↔
      ∀ r, r < n → ∀ c, c < n → get t 0 r c ≠ 0 → P (y + r) (x + c) := by
  simp only [stampCells, List.forall_mem_map, mem_boxCells]
  exact ⟨fun H r hr c hc hne => H (r, c) ⟨⟨hr, hc⟩, hne⟩, fun H p hp => H p.1 hp.1.1 p.2 hp.1.2 hp.2⟩

theorem length_filter_coords_mem {R C : Nat} {cs : List (Nat × Nat)} {m : Nat → Nat → Bool}
    (hm : ∀ i j, m i j = true ↔ (i, j) ∈ cs) (hnd : cs.Nodup) (hin : ∀ p ∈ cs, p.1 < R ∧ p.2 < C) :
    ((coords R C).filter (fun p => m p.1 p.2)).length = cs.length := by
  refine ((List.perm_ext_iff_of_nodup ((nodup_coords R C).filter _) hnd).2 fun p => ?_).length_eq
  rw [List.mem_filter, mem_coords, hm]
  exact ⟨fun h => h.2, fun h => ⟨hin p h, h⟩⟩

theorem count_table_write {q : α → Bool} {R C : Nat} {f v : Nat → Nat → α} {m : Nat → Nat → Bool}
    {cs : List (Nat × Nat)} (hm : ∀ i j, m i j = true ↔ (i, j) ∈ cs) (hnd : cs.Nodup)
    (hin : ∀ p ∈ cs, p.1 < R ∧ p.2 < C) (hfree : ∀ p ∈ cs, q (f p.1 p.2) = false)
    (hv : ∀ p ∈ cs, q (v p.1 p.2) = true) :
    count q (table R C (fun i j => if m i j = true then v i j else f i j)) = count q (table R C f) + cs.length := by
  rw [count_table, count_table, ← length_filter_coords_mem hm hnd hin, ← length_filter_or]
  · congr 1
    apply List.filter_congr
    intro p _
    by_cases h : m p.1 p.2 = true
    · rw [if_pos h, hv p ((hm _ _).1 h), h, Bool.or_true]
    · rw [if_neg h, Bool.eq_false_iff.2 h, Bool.or_false]
  · rintro p _ ⟨h1, h2⟩
    rw [hfree p ((hm _ _).1 h2)] at h1
    cases h1

end Grid
end Jx
