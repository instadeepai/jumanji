/- Facts about `Jx.Grid` on in-range indices: shapes, lookup, gather/scatter with natural indices, set,
   counting, the list of coordinates, the flattened grid, `transpose`/`rot90`, flat cell indices (`divmod_*`).
   Two definitions that no model mentions live here: `rowLen`, and `table R C f`, the grid of a function, as
   which every shaped grid can be rewritten (`eq_table`). -/
import JumanjiModel.Prim.Grid
import JumanjiModel.Prim.ListLemmas
namespace Jx
namespace Grid
variable {α β γ : Type}

theorem shaped_iff_mem (g : Grid α) (nr nc : Nat) :
    shaped g nr nc = true ↔ g.length = nr ∧ ∀ row ∈ g, row.length = nc := by
  unfold shaped; simp

theorem shaped_length {g : Grid α} {nr nc : Nat} (h : shaped g nr nc = true) : List.length g = nr :=
  ((shaped_iff_mem g nr nc).1 h).1

theorem shaped_getElem? {g : Grid α} {nr nc : Nat} (h : shaped g nr nc = true) {r : Nat} (hr : r < nr) :
    ∃ row, g[r]? = some row ∧ row.length = nc := by
  rw [shaped_iff_mem] at h
  have hlt : r < g.length := by omega
  exact ⟨g[r], by simp, h.2 _ (List.getElem_mem hlt)⟩

theorem shaped_row {g : Grid α} {nr nc : Nat} (h : shaped g nr nc = true) {r : Nat} (hr : r < nr) :
    (List.getD g r []).length = nc := by
  obtain ⟨row, hrow, hlen⟩ := shaped_getElem? h hr
  rw [getD_of_getElem? [] hrow, hlen]

def rowLen (g : Grid α) (r : Nat) : Nat := (List.getD g r []).length

theorem shaped_iff (g : Grid α) (nr nc : Nat) :
    shaped g nr nc = true ↔ g.length = nr ∧ ∀ r, r < nr → rowLen g r = nc := by
  refine ⟨fun h => ⟨shaped_length h, fun r hr => shaped_row h hr⟩, fun ⟨h1, h2⟩ => ?_⟩
  refine (shaped_iff_mem g nr nc).2 ⟨h1, fun row hrow => ?_⟩
  obtain ⟨i, hi, rfl⟩ := List.getElem_of_mem hrow
  simpa [rowLen, hi] using h2 i (by omega)

theorem cols_of_shaped (g : Grid α) (nr nc : Nat) (h : shaped g nr nc = true) (hpos : 0 < nr) :
    cols g = nc := by
  have := shaped_row h hpos
  cases g with
  | nil => simp [shaped] at h; omega
  | cons r rs => simpa [cols] using this

theorem shaped_map (f : α → β) (g : Grid α) (nr nc : Nat) :
    shaped (map f g) nr nc = shaped g nr nc := by
  unfold shaped map; simp [List.all_map, Function.comp_def]

theorem shaped_map_of (f : α → β) {g : Grid α} {nr nc : Nat} (h : shaped g nr nc = true) :
    shaped (map f g) nr nc = true := (shaped_map f g nr nc).trans h

theorem map_map {γ : Type} (f : β → γ) (h : α → β) (g : Grid α) : map f (map h g) = map (f ∘ h) g := by
  unfold map; simp [List.map_map, Function.comp_def]

theorem map_id (g : Grid α) : map (fun x => x) g = g := by
  unfold map; simp

theorem shaped_mk (nr nc : Nat) (v : α) : shaped (mk nr nc v) nr nc = true := by
  unfold shaped mk; simp

theorem get_eq (g : Grid α) (d : α) (r c : Nat) : get g d r c = (List.getD g r []).getD c d := rfl

theorem get_eq_of_row {g : Grid α} {r : Nat} {row : List α} (h : g[r]? = some row) (d : α) (c : Nat) :
    get g d r c = row.getD c d := by
  rw [get_eq, getD_of_getElem? [] h]

theorem get_mk (nr nc : Nat) (v d : α) {r c : Nat} (hr : r < nr) (hc : c < nc) : get (mk nr nc v) d r c = v := by
  rw [get_eq, mk, getD_replicate _ _ hr, getD_replicate _ _ hc]

theorem get_mk_same (nr nc : Nat) (v : α) (r c : Nat) : get (mk nr nc v) v r c = v := by
  rw [get_eq, mk]
  rcases getD_mem_or (List.replicate nr (List.replicate nc v)) [] r with h | h
  · rw [List.eq_of_mem_replicate h, getD_replicate_self]
  · rw [h]; rfl

theorem cell_of_all {p : α → Bool} {g : Grid α} (h : all p g = true) {r c : Nat} {row : List α} {x : α}
    (h1 : g[r]? = some row) (h2 : row[c]? = some x) : p x = true := by
  unfold all at h
  simp only [List.all_eq_true] at h
  exact h row (List.mem_of_getElem? h1) x (List.mem_of_getElem? h2)

theorem all_get {p : α → Bool} {g : Grid α} {nr nc : Nat} (hs : shaped g nr nc = true) (h : all p g = true)
    (d : α) {r c : Nat} (hr : r < nr) (hc : c < nc) : p (get g d r c) = true := by
  obtain ⟨row, hrow, hlen⟩ := shaped_getElem? hs hr
  have hcl : c < row.length := hlen ▸ hc
  rw [get_eq_of_row hrow, getD_eq_getElem d hcl]
  exact cell_of_all h hrow (List.getElem?_eq_getElem hcl)

theorem all_false_exists {p : α → Bool} {g : Grid α} {nr nc : Nat} (hs : shaped g nr nc = true) (d : α)
    (h : all p g = false) : ∃ r c, r < nr ∧ c < nc ∧ p (get g d r c) = false := by
  rw [all, List.all_eq_false] at h
  obtain ⟨row, hrow, h2⟩ := h
  rw [Bool.not_eq_true, List.all_eq_false] at h2
  obtain ⟨x, hx, hxf⟩ := h2
  obtain ⟨r, hr, hgr⟩ := List.getElem_of_mem hrow
  obtain ⟨c, hc, hrc⟩ := List.getElem_of_mem hx
  have hsh := (shaped_iff_mem g nr nc).1 hs
  have hlen : row.length = nc := hsh.2 row hrow
  refine ⟨r, c, by omega, by omega, ?_⟩
  rw [get_eq_of_row (hgr ▸ List.getElem?_eq_getElem hr), getD_eq_getElem d hc, hrc]
  exact Bool.not_eq_true _ ▸ hxf

theorem get_irrel {g : Grid α} {nr nc : Nat} (h : shaped g nr nc = true) (d d' : α) {r c : Nat}
    (hr : r < nr) (hc : c < nc) : get g d r c = get g d' r c :=
  getD_irrel d d' (by rw [shaped_row h hr]; exact hc)

theorem get_map_default (f : α → β) (g : Grid α) (d : α) (r c : Nat) :
    get (map f g) (f d) r c = f (get g d r c) := by
  unfold get map
  simp only [List.getD_eq_getElem?_getD, List.getElem?_map]
  cases hg : g[r]? with
  | none => simp
  | some row =>
    simp only [Option.map_some, Option.getD_some, List.getElem?_map]
    cases row[c]? <;> simp

theorem get_map (f : α → β) (g : Grid α) (d : α) (d' : β) (r c : Nat) :
    get (map f g) d' r c = if r < g.length ∧ c < rowLen g r then f (get g d r c) else d' := by
  unfold map rowLen
  simp only [get_eq, List.getD_eq_getElem?_getD, List.getElem?_map]
  by_cases hr : r < g.length
  · by_cases hc : c < g[r].length <;> simp [hr, hc]
  · simp [hr]

/-- the `R × C` grid with entry `f i j` at `(i, j)` -/
def table (R C : Nat) (f : Nat → Nat → α) : Grid α :=
  (List.range R).map (fun i => (List.range C).map (fun j => f i j))

theorem shaped_table (R C : Nat) (f : Nat → Nat → α) : shaped (table R C f) R C = true := by
  rw [shaped_iff_mem]; simp [table]

theorem get_table (R C : Nat) (f : Nat → Nat → α) (d : α) {i j : Nat} (hi : i < R) (hj : j < C) :
    get (table R C f) d i j = f i j := by
  simp [table, get, List.getD, hi, hj]

theorem getD_table (R C : Nat) (f : Nat → Nat → α) (d : α) (i j : Nat) :
    ((table R C f).getD i []).getD j d = if i < R ∧ j < C then f i j else d := by
  unfold table
  by_cases hi : i < R
  · by_cases hj : j < C
    · simp [List.getD_eq_getElem?_getD, hi, hj]
    · simp [List.getD_eq_getElem?_getD, hi, hj]
  · simp [List.getD_eq_getElem?_getD, hi]

theorem mk_eq_table (R C : Nat) (v : α) : mk R C v = table R C (fun _ _ => v) := by
  simp only [mk, table, List.map_const', List.length_range]

theorem table_congr {R C : Nat} {f f' : Nat → Nat → α} (h : ∀ i, i < R → ∀ j, j < C → f i j = f' i j) :
    table R C f = table R C f' :=
  List.map_congr_left fun i hi => List.map_congr_left fun j hj => h i (List.mem_range.1 hi) j (List.mem_range.1 hj)

theorem eq_table {g : Grid α} {nr nc : Nat} (h : shaped g nr nc = true) (d : α) : g = table nr nc (get g d) :=
  eq_range_map [] (shaped_length h) fun _ hr => eq_range_map d (shaped_row h hr) fun _ _ => rfl

theorem ext_get {g g' : Grid α} {nr nc : Nat} (h : shaped g nr nc = true) (h' : shaped g' nr nc = true) (d : α)
    (e : ∀ r c, r < nr → c < nc → get g d r c = get g' d r c) : g = g' := by
  rw [eq_table h d, eq_table h' d]
  exact table_congr fun r hr c hc => e r c hr hc

theorem map_eq_table (f : α → β) (g : Grid α) (d : α) {nr nc : Nat} (hs : shaped g nr nc = true) :
    map f g = table nr nc (fun r c => f (get g d r c)) := by
  rw [eq_table (shaped_map_of f hs) (f d)]
  exact table_congr fun r _ c _ => get_map_default f g d r c

theorem getWC_nat (g : Grid α) (d : α) (r c : Nat) (hr : r < g.length) (hc : c < rowLen g r) :
    getWC g d (r : Int) (c : Int) = get g d r c := by
  unfold getWC
  rw [Jx.getWC_nat g [] hr, Jx.getWC_nat _ d hc]
  rfl

theorem getWC_eq_get {g : Grid α} {nr nc : Nat} (h : shaped g nr nc = true) (d : α) {r c : Int}
    (hr0 : 0 ≤ r) (hr : r < nr) (hc0 : 0 ≤ c) (hc : c < nc) :
    getWC g d r c = get g d r.toNat c.toNat := by
  obtain ⟨r, rfl⟩ := Int.eq_ofNat_of_zero_le hr0
  obtain ⟨c, rfl⟩ := Int.eq_ofNat_of_zero_le hc0
  have hr' : r < nr := by omega
  exact getWC_nat g d r c (by rw [shaped_length h]; exact hr') (by rw [rowLen, shaped_row h hr']; omega)

theorem set_eq (g : Grid α) (r c : Nat) (v : α) (hr : r < g.length) :
    set g r c v = List.set g r (List.set (List.getD g r []) c v) := by
  unfold set
  simp [List.getElem?_eq_getElem hr, List.getD_eq_getElem?_getD]

theorem setWD_natCast (g : Grid α) (r c : Nat) (v : α) : setWD g (r : Int) (c : Int) v = set g r c v := by
  have h1 : ¬ (r : Int) < 0 := by omega
  have h3 : ¬ (c : Int) < 0 := by omega
  unfold setWD set wrapIdx
  simp only [h1, h3, if_false, Int.toNat_natCast]
  cases hrow : g[r]? with
  | none => simp
  | some row =>
    obtain ⟨hlt, e⟩ := List.getElem?_eq_some_iff.1 hrow
    have h2 : ¬ (r : Int) ≥ g.length := by omega
    simp only [h2, if_false]
    by_cases h4 : (c : Int) ≥ row.length
    · have h5 : row.length ≤ c := by omega
      rw [if_pos h4, List.set_eq_of_length_le h5, ← e, List.set_getElem_self hlt]
    · rw [if_neg h4]

theorem setWD_nonneg (g : Grid α) (v : α) {r c : Int} (hr0 : 0 ≤ r) (hc0 : 0 ≤ c) :
    setWD g r c v = set g r.toNat c.toNat v := by
  obtain ⟨r, rfl⟩ := Int.eq_ofNat_of_zero_le hr0
  obtain ⟨c, rfl⟩ := Int.eq_ofNat_of_zero_le hc0
  exact setWD_natCast g r c v

theorem set_length (g : Grid α) (r c : Nat) (v : α) : (set g r c v).length = g.length := by
  unfold set; split <;> simp

theorem set_oob (g : Grid α) (r c : Nat) (v : α) (hr : ¬ r < g.length) : set g r c v = g := by
  unfold set
  have : g[r]? = none := by simp; omega
  simp [this]

theorem rowLen_set (g : Grid α) (r c : Nat) (v : α) (r' : Nat) :
    rowLen (set g r c v) r' = rowLen g r' := by
  by_cases hr : r < g.length
  · rw [set_eq g r c v hr]
    unfold rowLen
    by_cases h : r' = r
    · subst h; simp [List.getD_eq_getElem?_getD, hr]
    · simp [List.getD_eq_getElem?_getD, Ne.symm h]
  · rw [set_oob g r c v hr]

theorem get_set (g : Grid α) (d : α) (r c : Nat) (v : α) (r' c' : Nat)
    (hr : r < g.length) (hc : c < rowLen g r) :
    get (set g r c v) d r' c' = if r' = r ∧ c' = c then v else get g d r' c' := by
  rw [set_eq g r c v hr]
  unfold rowLen at hc
  simp only [get_eq]
  by_cases h : r' = r
  · subst h
    by_cases h2 : c' = c
    · subst h2
      have hc' : c' < g[r'].length := by simpa [List.getD_eq_getElem?_getD, hr] using hc
      simp [List.getD_eq_getElem?_getD, hr, hc']
    · simp [List.getD_eq_getElem?_getD, hr, h2, Ne.symm h2]
  · have : ¬ (r' = r ∧ c' = c) := fun hh => h hh.1
    simp [List.getD_eq_getElem?_getD, Ne.symm h, this]

theorem get_set_of_shaped {g : Grid α} {nr nc : Nat} (h : shaped g nr nc = true) (v d : α) {r c : Nat}
    (hr : r < nr) (hc : c < nc) (r' c' : Nat) :
    get (set g r c v) d r' c' = if r' = r ∧ c' = c then v else get g d r' c' :=
  get_set g d r c v r' c' (by rw [shaped_length h]; exact hr) (by rw [rowLen, shaped_row h hr]; exact hc)

theorem get_setWD_of_shaped {g : Grid α} {nr nc : Nat} (h : shaped g nr nc = true) (v d : α) {r c : Int}
    (hr0 : 0 ≤ r) (hr : r < nr) (hc0 : 0 ≤ c) (hc : c < nc) (r' c' : Nat) :
    get (setWD g r c v) d r' c' = if r' = r.toNat ∧ c' = c.toNat then v else get g d r' c' := by
  rw [Grid.setWD_nonneg g v hr0 hc0]
  exact get_set_of_shaped h v d (by omega) (by omega) r' c'

theorem shaped_set {g : Grid α} {nr nc : Nat} (h : shaped g nr nc = true) (v : α) (r c : Nat) :
    shaped (set g r c v) nr nc = true := by
  rw [shaped_iff] at h ⊢
  exact ⟨by rw [set_length]; exact h.1, fun r' hr' => by rw [rowLen_set]; exact h.2 r' hr'⟩

/-- a scatter is a plain `set` at some cell (one outside the grid when the value is dropped) -/
theorem setWD_eq_set (g : Grid α) (r c : Int) (v : α) : ∃ r' c', setWD g r c v = set g r' c' v := by
  have hdrop : ∃ r' c', g = set g r' c' v := ⟨g.length, 0, by unfold set; simp⟩
  -- every test of `setWD` has this shape (`split` on the whole body is slow to check)
  have hite : ∀ (p : Prop) [Decidable p] (x : Grid α), (∃ r' c', x = set g r' c' v) →
      ∃ r' c', (if p then g else x) = set g r' c' v := by
    intro p _ x hx
    split
    · exact hdrop
    · exact hx
  unfold setWD; simp only []
  refine hite _ _ (hite _ _ ?_)
  cases hrow : g[(wrapIdx g.length r).toNat]? with
  | none => exact hdrop
  | some row => exact hite _ _ (hite _ _ ⟨_, _, by unfold set; rw [hrow]⟩)

theorem shaped_setWD {g : Grid α} {nr nc : Nat} (h : shaped g nr nc = true) (v : α) (r c : Int) :
    shaped (setWD g r c v) nr nc = true := by
  obtain ⟨r', c', e⟩ := setWD_eq_set g r c v
  rw [e]; exact shaped_set h v r' c'

theorem count_eq_sum (p : α → Bool) (g : Grid α) :
    count p g = (List.map (List.countP p) g).sum := by
  unfold count
  rw [← List.countP_eq_length_filter, List.countP_flatten]

theorem sum_set (l : List Nat) (i : Nat) (v : Nat) (h : i < l.length) :
    (l.set i v).sum + l.getD i 0 = l.sum + v := by
  induction l generalizing i with
  | nil => simp at h
  | cons x xs ih =>
    cases i with
    | zero => simp [List.getD_eq_getElem?_getD]; omega
    | succ i =>
      simp at h
      have := ih i h
      simp [List.getD_eq_getElem?_getD] at this ⊢
      omega

theorem count_set (p : α → Bool) (g : Grid α) (d : α) (r c : Nat) (v : α)
    (hr : r < g.length) (hc : c < rowLen g r) :
    count p (set g r c v) + (if p (get g d r c) then 1 else 0) = count p g + (if p v then 1 else 0) := by
  rw [count_eq_sum, count_eq_sum, set_eq g r c v hr, List.map_set]
  unfold rowLen at hc
  have h1 := sum_set (List.map (List.countP p) g) r (List.countP p (List.set (List.getD g r []) c v))
    (by simpa using hr)
  have h2 := Jx.countP_set p (List.getD g r []) c v d hc
  have h3 : (List.map (List.countP p) g).getD r 0 = List.countP p (List.getD g r []) := by
    simp [List.getD_eq_getElem?_getD, hr]
  rw [h3] at h1
  rw [get_eq]
  omega

theorem filter_length_update {α : Type} [DecidableEq α] (l : List α) (hn : l.Nodup) (x : α) (hx : x ∈ l)
    (P Q : α → Bool) (h : ∀ y ∈ l, y ≠ x → P y = Q y) :
    (l.filter Q).length + (if P x then 1 else 0) = (l.filter P).length + (if Q x then 1 else 0) := by
  induction l with
  | nil => simp at hx
  | cons a l ih =>
    have hn' := (List.nodup_cons.1 hn)
    by_cases e : a = x
    · subst e
      have hc : ∀ y ∈ l, P y = Q y := fun y hy => h y (List.mem_cons_of_mem _ hy) (fun e => hn'.1 (e ▸ hy))
      have : l.filter P = l.filter Q := List.filter_congr hc
      simp only [List.filter_cons, this]
      cases P a <;> cases Q a <;> simp <;> omega
    · have hx' : x ∈ l := by
        rcases List.mem_cons.1 hx with h1 | h1
        · exact absurd h1.symm e
        · exact h1
      have := ih hn'.2 hx' (fun y hy hne => h y (List.mem_cons_of_mem _ hy) hne)
      have hpa : P a = Q a := h a (List.mem_cons_self) e
      simp only [List.filter_cons, hpa]
      cases Q a <;> simp <;> omega

theorem filter_eq_length_one {α : Type} [DecidableEq α] {l : List α} (hn : l.Nodup) {a : α} (ha : a ∈ l)
    {p : α → Bool} (hp : ∀ x ∈ l, p x = true ↔ x = a) : (l.filter p).length = 1 := by
  -- `p` differs from the empty predicate at `a` only
  have h := filter_length_update l hn a ha (fun _ => false) p
    (fun y hy hne => (Bool.eq_false_iff.2 fun h => hne ((hp y hy).1 h)).symm)
  rw [(hp a ha).2 rfl, List.filter_eq_nil_iff.2 fun _ _ => Bool.false_ne_true] at h
  simpa using h

theorem mem_coords {nr nc : Nat} {p : Nat × Nat} : p ∈ coords nr nc ↔ p.1 < nr ∧ p.2 < nc := by
  unfold coords
  simp only [List.mem_flatMap, List.mem_range, List.mem_map]
  constructor
  · rintro ⟨r, hr, c, hc, rfl⟩; exact ⟨hr, hc⟩
  · intro h; exact ⟨p.1, h.1, p.2, h.2, rfl⟩

/-- the cells `f i j` of an `m × n` rectangle, row by row, are distinct when `f` is injective on all of ℕ × ℕ -/
theorem nodup_flatMap_range (m n : Nat) (f : Nat → Nat → β)
    (hf : ∀ i j i' j', f i j = f i' j' → i = i' ∧ j = j') :
    ((List.range m).flatMap (fun i => (List.range n).map (f i))).Nodup := by
  unfold List.Nodup
  rw [List.pairwise_flatMap]
  constructor
  · intro i _
    rw [List.pairwise_map]
    exact (List.nodup_range (n := n)).imp (fun {a b} hab heq => hab (hf _ _ _ _ heq).2)
  · exact (List.nodup_range (n := m)).imp (fun {a b} hab x hx y hy heq => by
      simp only [List.mem_map] at hx hy
      obtain ⟨_, _, rfl⟩ := hx
      obtain ⟨_, _, rfl⟩ := hy
      exact hab (hf _ _ _ _ heq).1)

theorem nodup_coords (nr nc : Nat) : (coords nr nc).Nodup :=
  nodup_flatMap_range nr nc Prod.mk fun _ _ _ _ h => ⟨congrArg Prod.fst h, congrArg Prod.snd h⟩

theorem length_coords (nr nc : Nat) : (coords nr nc).length = nr * nc := by
  unfold coords
  induction nr with
  | zero => simp
  | succ n ih =>
    rw [List.range_succ, List.flatMap_append, List.length_append, ih]
    simp [Nat.succ_mul]

theorem flatten_table (nr nc : Nat) (f : Nat → Nat → β) :
    List.flatten (table nr nc f) = (coords nr nc).map (fun p => f p.1 p.2) := by
  unfold coords table
  rw [List.map_flatMap, List.flatMap_def]
  simp [Function.comp_def]

theorem transpose_table {R : Nat} (hR : 0 < R) (C : Nat) (f : Nat → Nat → α) :
    transpose (table R C f) = table C R (fun r k => f k r) := by
  have hlen : (table R C f).length = R := by simp [table]
  match hG : table R C f with
  | [] => rw [hG] at hlen; simp at hlen; omega
  | r0 :: t =>
    have h0 : r0.length = C := by
      have : (table R C f)[0]'(by omega) = r0 := by simp [hG]
      rw [← this]; simp [table]
    simp only [transpose, h0]
    rw [← hG]
    unfold table
    refine List.map_congr_left fun c hc => ?_
    rw [List.filterMap_map]
    have : ((fun row : List α => row[c]?) ∘ fun i => (List.range C).map fun j => f i j) = fun i => some (f i c) := by
      funext i; simp [List.mem_range.1 hc]
    rw [this]
    simp

/-- `jnp.rot90` (one anticlockwise quarter turn of the array) -/
theorem rot90_table {R : Nat} (hR : 0 < R) (C : Nat) (f : Nat → Nat → α) :
    rot90 (table R C f) = table C R (fun r k => f k (C - 1 - r)) := by
  unfold rot90; rw [transpose_table hR]; unfold table; rw [reverse_map_range]

theorem zipWith_table (R C : Nat) (a : Nat → Nat → α) (b : Nat → Nat → β) (f : α → β → γ) :
    List.zipWith (List.zipWith f) (table R C a) (table R C b) = table R C (fun i j => f (a i j) (b i j)) := by
  simp [table, List.zipWith_map, List.zipWith_self]

theorem mapIdx_table (R C : Nat) (f : Nat → Nat → α) (h : Nat → Nat → α → β) :
    (table R C f).mapIdx (fun i row => row.mapIdx (fun j v => h i j v)) = table R C (fun i j => h i j (f i j)) := by
  unfold table
  apply List.ext_getElem (by simp)
  intro i _ _
  apply List.ext_getElem (by simp)
  intro j _ _
  simp

theorem map_take_table (R C a b : Nat) (f : Nat → Nat → α) :
    ((table (R + a) (C + b) f).take R).map (fun r => r.take C) = table R C f := by
  unfold table
  apply List.ext_getElem (by simp)
  intro i _ _
  apply List.ext_getElem (by simp)
  intro j _ _
  simp

theorem forall_mem_table (R C : Nat) (f : Nat → Nat → α) (P : α → Prop) :
    (∀ row ∈ table R C f, ∀ v ∈ row, P v) ↔ ∀ i < R, ∀ j < C, P (f i j) := by
  simp only [table, List.mem_map, List.mem_range]
  constructor
  · intro H i hi j hj
    exact H _ ⟨i, hi, rfl⟩ _ (List.mem_map.mpr ⟨j, List.mem_range.mpr hj, rfl⟩)
  · rintro H row ⟨i, hi, rfl⟩ v hv
    obtain ⟨j, hj, rfl⟩ := List.mem_map.mp hv
    exact H i hi j (List.mem_range.mp hj)

theorem count_table (q : α → Bool) (R C : Nat) (f : Nat → Nat → α) :
    count q (table R C f) = ((coords R C).filter (fun p => q (f p.1 p.2))).length := by
  unfold count
  rw [flatten_table, List.filter_map, List.length_map]
  rfl

theorem flatten_length {g : Grid α} {nc : Nat} (h : ∀ row ∈ g, row.length = nc) :
    (List.flatten g).length = g.length * nc := by
  rw [List.length_flatten, List.map_congr_left (g := fun _ => nc) h, List.map_const', List.sum_replicate_nat]

theorem flatten_getD {g : Grid α} {nc : Nat} (d : α) (h : ∀ row ∈ g, row.length = nc) (r : Nat) {c : Nat}
    (hc : c < nc) : (List.flatten g).getD (r * nc + c) d = get g d r c := by
  rw [get_eq]
  induction g generalizing r with
  | nil => simp
  | cons row rest ih =>
    have hrow := h row (by simp)
    cases r with
    | zero => simp [List.getD_eq_getElem?_getD, List.getElem?_append_left (hrow ▸ hc)]
    | succ r =>
      have e : (r + 1) * nc + c = row.length + (r * nc + c) := by rw [hrow, Nat.succ_mul]; omega
      have := ih (fun x hx => h x (by simp [hx])) r
      simpa [List.getD_eq_getElem?_getD, e, List.getElem?_append_right] using this

theorem getD_flatMap_uniform (l : List β) (G : β → List α) (m : Nat) (hG : ∀ x ∈ l, (G x).length = m)
    (q r : Nat) (hq : q < l.length) (hr : r < m) (d : α) : (l.flatMap G).getD (q * m + r) d = (G l[q]).getD r d := by
  rw [List.flatMap_def, flatten_getD d (fun row hrow => by obtain ⟨x, hx, rfl⟩ := List.mem_map.1 hrow; exact hG x hx) q hr]
  simp [get, List.getD_eq_getElem?_getD, hq]

/-! Cell-wise predicates, `∀ row ∈ g, ∀ v ∈ row, P v` (as which `PzB.GridAll`, `Connector.AllP`, `JobShop.GridIn` unfold):
they survive scatter, gather and `map`, are read index by index on a grid of known shape, and are what the Boolean `all` decides. -/

theorem get_of_all {P : α → Prop} {g : Grid α} {d : α} (r c : Nat) (h : ∀ row ∈ g, ∀ v ∈ row, P v) (hd : P d) :
    P (get g d r c) :=
  getD_of_all c (getD_of_all (P := fun row => ∀ w ∈ row, P w) r h fun _ hw => nomatch hw) hd

theorem getWC_of_all {P : α → Prop} {g : Grid α} {d : α} (r c : Int) (h : ∀ row ∈ g, ∀ v ∈ row, P v) (hd : P d) :
    P (getWC g d r c) :=
  Jx.getWC_of_all c (Jx.getWC_of_all (P := fun row => ∀ w ∈ row, P w) r h fun _ hw => nomatch hw) hd

theorem forall_mem_set {P : α → Prop} {g : Grid α} (r c : Nat) {v : α} (h : ∀ row ∈ g, ∀ w ∈ row, P w) (hv : P v) :
    ∀ row ∈ set g r c v, ∀ w ∈ row, P w := by
  unfold set
  split
  · exact h
  · rename_i row hrow
    intro row' hrow' w hw
    rcases List.mem_or_eq_of_mem_set hrow' with h1 | rfl
    · exact h row' h1 w hw
    · exact (List.mem_or_eq_of_mem_set hw).elim (h row (List.mem_of_getElem? hrow) w) fun e => e ▸ hv

theorem forall_mem_setWD {P : α → Prop} {g : Grid α} (r c : Int) {v : α} (h : ∀ row ∈ g, ∀ w ∈ row, P w) (hv : P v) :
    ∀ row ∈ setWD g r c v, ∀ w ∈ row, P w := by
  obtain ⟨r', c', e⟩ := setWD_eq_set g r c v
  rw [e]
  exact forall_mem_set r' c' h hv

theorem forall_mem_map {P : β → Prop} (f : α → β) (g : Grid α) :
    (∀ row ∈ map f g, ∀ w ∈ row, P w) ↔ ∀ row ∈ g, ∀ w ∈ row, P (f w) := by
  simp only [map, List.forall_mem_map]

theorem forall_mem_iff_get {g : Grid α} {nr nc : Nat} (hs : shaped g nr nc = true) (d : α) (P : α → Prop) :
    (∀ row ∈ g, ∀ v ∈ row, P v) ↔ ∀ i < nr, ∀ j < nc, P (get g d i j) := by
  rw [← forall_mem_table nr nc (get g d) P, ← eq_table hs d]

theorem all_eq_true {p : α → Bool} {g : Grid α} : all p g = true ↔ ∀ row ∈ g, ∀ v ∈ row, p v = true := by
  simp only [all, List.all_eq_true]

theorem get_mem_or_default (g : Grid α) (d : α) (i j : Nat) :
    get g d i j = d ∨ get g d i j ∈ List.flatten g := by
  unfold get
  rcases getD_mem_or (g.getD i []) d j with h | h
  · rcases getD_mem_or g [] i with hr | hr
    · exact Or.inr (List.mem_flatten.2 ⟨_, hr, h⟩)
    · rw [hr] at h
      cases h
  · exact Or.inl h

theorem mem_transpose_flatten (g : Grid α) (v : α) (h : v ∈ List.flatten (transpose g)) : v ∈ List.flatten g := by
  cases g with
  | nil => simp [transpose] at h
  | cons r0 rs =>
    simp only [transpose, List.mem_flatten, List.mem_map, List.mem_range] at h
    obtain ⟨row, ⟨c, _, rfl⟩, hv⟩ := h
    rw [List.mem_filterMap] at hv
    obtain ⟨row', hrow', hget⟩ := hv
    exact List.mem_flatten.mpr ⟨row', hrow', List.mem_of_getElem? hget⟩

theorem mem_map_reverse_flatten (g : Grid α) (v : α) : v ∈ List.flatten (List.map List.reverse g) ↔ v ∈ List.flatten g := by
  simp only [List.mem_flatten, List.mem_map]
  constructor
  · rintro ⟨l, ⟨a, ha, rfl⟩, hv⟩
    exact ⟨a, ha, List.mem_reverse.mp hv⟩
  · rintro ⟨l, hl, hv⟩
    exact ⟨l.reverse, ⟨l, hl, rfl⟩, List.mem_reverse.mpr hv⟩

theorem mem_reverse_flatten (g : Grid α) (v : α) : v ∈ List.flatten (List.reverse g) ↔ v ∈ List.flatten g := by
  simp [List.mem_flatten]

theorem shaped_flatten_length {g : Grid α} {nr nc : Nat} (h : shaped g nr nc = true) :
    (List.flatten g).length = nr * nc := by
  rw [flatten_length ((shaped_iff_mem g nr nc).1 h).2, shaped_length h]

/-- `l.reshape(R, C)` of a flat list with at least `R * C` entries: the table of its entries in row-major order -/
theorem reshape_eq_table (l : List α) (d : α) {R C : Nat} (h : R * C ≤ l.length) :
    (List.range R).map (fun r => (l.drop (r * C)).take C) = table R C (fun r c => l.getD (r * C + c) d) := by
  refine List.map_congr_left fun r hr => ?_
  have hrow : r * C + C ≤ l.length :=
    Nat.le_trans (Nat.succ_mul r C ▸ Nat.mul_le_mul_right C (List.mem_range.1 hr)) h
  refine eq_range_map d (by simp; omega) fun c hc => ?_
  simp [List.getD_eq_getElem?_getD, hc]

/-- `g.at[i, j].set(v)` written cell by cell (nothing changes when `(i, j)` is outside `g`) -/
theorem set_eq_mapIdx (g : Grid α) (i j : Nat) (v : α) :
    set g i j v = List.mapIdx (fun r row => List.mapIdx (fun c x => if r = i ∧ c = j then v else x) row) g := by
  apply List.ext_getElem?; intro r
  unfold set
  rw [List.getElem?_mapIdx]
  by_cases hr : r = i
  · subst hr
    cases hrow : g[r]? with
    | none => simp [hrow]
    | some row =>
      simp only [List.getElem?_set, (List.getElem?_eq_some_iff.1 hrow).1, if_true, Option.map_some, true_and]
      congr 1
      apply List.ext_getElem?; intro c
      rw [List.getElem?_set, List.getElem?_mapIdx]
      by_cases hc : j = c
      · subst hc
        cases h : row[j]? with
        | none => simp [List.getElem?_eq_none_iff.1 h]
        | some x => simp [(List.getElem?_eq_some_iff.1 h).1]
      · have : ¬ c = j := fun e => hc e.symm
        cases row[c]? <;> simp [hc, this]
  · have e : ∀ row : List α, List.mapIdx (fun c x => if r = i ∧ c = j then v else x) row = row := by
      intro row; simp [hr, Jx.mapIdx_self]
    have : ¬ i = r := fun e => hr e.symm
    cases hg : g[i]? with
    | none => cases g[r]? <;> simp [e]
    | some row => simp only [List.getElem?_set, this, if_false]; cases g[r]? <;> simp [e]

theorem set_table (R C : Nat) (f : Nat → Nat → α) (i j : Nat) (v : α) :
    set (table R C f) i j v = table R C (fun r c => if r = i ∧ c = j then v else f r c) := by
  rw [set_eq_mapIdx, mapIdx_table]

/-- a shaped Boolean grid whose entries are characterised by `P` is the table of `decide ∘ P` -/
theorem eq_table_decide {g : Grid Bool} {R C : Nat} {P : Nat → Nat → Prop} [∀ i j, Decidable (P i j)]
    (hs : shaped g R C = true) (h : ∀ i, i < R → ∀ j, j < C → (get g false i j = true ↔ P i j)) :
    g = table R C fun i j => decide (P i j) :=
  (eq_table hs false).trans
    (table_congr fun i hi j hj => Bool.eq_iff_iff.2 ((h i hi j hj).trans decide_eq_true_iff.symm))

end Grid

/-! `jnp.unravel_index(k, (R, C))` / `jnp.divmod(k, C)` of a flat cell index: the pair `(k / C, k % C)` -/

theorem divmod_inGrid {R C : Nat} {k : Int} (h0 : 0 ≤ k) (h1 : k < ((R * C : Nat) : Int)) :
    0 ≤ k / (C : Int) ∧ k / (C : Int) < (R : Int) ∧ 0 ≤ k % (C : Int) ∧ k % (C : Int) < (C : Int) := by
  have hC : (0 : Int) < (C : Int) := by
    rcases Nat.eq_zero_or_pos C with h | h
    · subst h; simp at h1; omega
    · omega
  exact ⟨Int.ediv_nonneg h0 (by omega), Int.ediv_lt_of_lt_mul hC (by rw [← Int.natCast_mul]; exact h1),
    Int.emod_nonneg _ (by omega), Int.emod_lt_of_pos _ hC⟩

theorem divmod_inj {C a b : Int} (h1 : a / C = b / C) (h2 : a % C = b % C) : a = b := by
  rw [← Int.emod_add_mul_ediv a C, ← Int.emod_add_mul_ediv b C, h1, h2]

theorem divmod_mul_add {C : Nat} (a b : Int) (h0 : 0 ≤ b) (h1 : b < (C : Int)) :
    (a * (C : Int) + b) / (C : Int) = a ∧ (a * (C : Int) + b) % (C : Int) = b := by
  have hn : (C : Int) ≠ 0 := by omega
  rw [Int.add_comm, Int.add_mul_ediv_right _ _ hn, Int.add_mul_emod_self_right, Int.ediv_eq_zero_of_lt h0 h1,
    Int.emod_eq_of_lt h0 h1]
  omega

end Jx
