/-
Lemmas about `Jx.roundF32` (nearest binary32 of an exact rational, ties to even, subnormals, no overflow):
it fixes 0 and 1, commutes with negation, is MONOTONE on all of `Rat`, fixes every binary32 value and is idempotent.
Not imported by the driver.  `roundF32_unit`, `roundHalfEven_mono(_num)`, `roundHalfEven_err`,
`roundF32_fix_neg` and `roundF32_idem` are stated for their own sake: nothing uses them.

Structure: `Near q m` (m is a nearest natural to `q`, ties to even) is monotone in `q` (`near_mono`);
`roundHalfEven n d` is `Near (n/d)` (`rhe_near`); `ilog2Rat n d` is the floor of `log2 (n/d)`
(`ilog2Rat_spec`); for `0 < x`, `roundF32 x = m * 2^(e-23)` with `Near (x / 2^(e-23)) m`, `-126 ≤ e`,
`x < 2^(e+1)` and (`-126 < e → 2^e ≤ x`) (`roundF32_pos_char`); monotonicity follows by comparing exponents.
-/
import JumanjiModel.Prim.Float
namespace Jx

theorem two_ne : (2 : Rat) ≠ 0 := by decide
theorem two_pos : (0 : Rat) < 2 := by decide

theorem rat_le_div_iff {a b c : Rat} (hc : 0 < c) : a ≤ b / c ↔ a * c ≤ b := by
  rw [← Rat.not_lt, ← Rat.not_lt, Rat.div_lt_iff hc]

theorem rat_div_le_iff {a b c : Rat} (hb : 0 < b) : a / b ≤ c ↔ a ≤ c * b := by
  rw [← Rat.not_lt, ← Rat.not_lt, Rat.lt_div_iff hb]

theorem rat_div_le_div_right {a b c : Rat} (hc : 0 < c) (h : a ≤ b) : a / c ≤ b / c := by
  rw [Rat.div_def, Rat.div_def]
  exact Rat.mul_le_mul_of_nonneg_right h (Rat.le_of_lt (Rat.inv_pos.mpr hc))

/-- a part over the whole lies in the unit interval (also for an empty whole: `0 / 0 = 0`) -/
theorem div_mem_unit {a c : Int} (h0 : 0 ≤ a) (h1 : a ≤ c) : (0 : Rat) ≤ (a : Rat) / (c : Rat) ∧ (a : Rat) / (c : Rat) ≤ 1 := by
  by_cases hc : c = 0
  · obtain rfl : a = 0 := by omega
    subst hc
    rw [Rat.div_def, Rat.intCast_zero, Rat.zero_mul]
    exact ⟨by decide, by decide⟩
  · have hcp : (0 : Rat) < (c : Rat) := Rat.intCast_pos.mpr (by omega)
    rw [rat_le_div_iff hcp, rat_div_le_iff hcp, Rat.zero_mul, Rat.one_mul]
    exact ⟨Rat.intCast_nonneg.mpr h0, Rat.intCast_le_intCast.mpr h1⟩

theorem natCast_pos' {n : Nat} (h : 0 < n) : (0 : Rat) < (n : Rat) := Rat.natCast_pos.mpr h

theorem pow2_eq (e : Int) : pow2 e = (2 : Rat) ^ e := by
  unfold pow2
  split
  · rw [Rat.natCast_pow]
    have : e = ((e.toNat : Nat) : Int) := by omega
    conv => rhs; rw [this]
    rw [Rat.zpow_natCast]; rfl
  · rw [Rat.natCast_pow]
    have : e = -(((-e).toNat : Nat) : Int) := by omega
    conv => rhs; rw [this]
    rw [Rat.zpow_neg, Rat.zpow_natCast, Rat.div_def, Rat.one_mul]; rfl

theorem pow2_pos (e : Int) : 0 < pow2 e := by rw [pow2_eq]; exact Rat.zpow_pos two_pos

theorem pow2_add (a b : Int) : pow2 (a + b) = pow2 a * pow2 b := by
  simp only [pow2_eq]; exact Rat.zpow_add two_ne a b

theorem pow2_nat (k : Nat) : pow2 (k : Int) = (2 : Rat) ^ k := by rw [pow2_eq, Rat.zpow_natCast]

theorem pow2_succ (e : Int) : pow2 (e + 1) = 2 * pow2 e := by
  rw [pow2_add, Rat.mul_comm]; congr 1

theorem pow2_pred (e : Int) : pow2 (e - 1) = pow2 e / 2 := by
  have h := pow2_succ (e - 1)
  rw [Int.sub_add_cancel] at h
  rw [h]; grind

theorem one_le_two_pow (k : Nat) : (1 : Rat) ≤ (2 : Rat) ^ k := by
  induction k with
  | zero => simp
  | succ k ih =>
    rw [Rat.pow_succ]
    have : (0 : Rat) < (2 : Rat) ^ k := Rat.pow_pos two_pos
    grind

theorem pow2_mono {a b : Int} (h : a ≤ b) : pow2 a ≤ pow2 b := by
  obtain ⟨k, rfl⟩ : ∃ k : Nat, b = a + (k : Int) := ⟨(b - a).toNat, by omega⟩
  rw [pow2_add, pow2_nat]
  have h1 := one_le_two_pow k
  have h2 := pow2_pos a
  have := Rat.mul_le_mul_of_nonneg_left h1 (Rat.le_of_lt h2)
  rwa [Rat.mul_one] at this

/-- `m` is a natural number nearest to `q`, and on a tie (`q` half-way between two integers) `m` is even -/
def Near (q : Rat) (m : Nat) : Prop :=
  (m : Rat) ≤ q + 1 / 2 ∧ q ≤ (m : Rat) + 1 / 2 ∧
  ((m : Rat) = q + 1 / 2 → m % 2 = 0) ∧ (q = (m : Rat) + 1 / 2 → m % 2 = 0)

theorem near_mono {q1 q2 : Rat} {m1 m2 : Nat} (h1 : Near q1 m1) (h2 : Near q2 m2) (h : q1 ≤ q2) :
    m1 ≤ m2 := by
  apply Nat.le_of_not_lt
  intro hlt
  have hc : ((m2 + 1 : Nat) : Rat) ≤ (m1 : Rat) := Rat.natCast_le_natCast.mpr hlt
  rw [Rat.natCast_add] at hc
  obtain ⟨a1, _, a3, _⟩ := h1
  obtain ⟨_, b2, _, b4⟩ := h2
  -- m1 ≤ q1 + 1/2 ≤ q2 + 1/2 ≤ m2 + 1 ≤ m1: a tie on both sides, between neighbours
  have e : (m1 : Rat) = q1 + 1 / 2 ∧ q2 = (m2 : Rat) + 1 / 2 ∧ (m1 : Rat) = (m2 : Rat) + ((1 : Nat) : Rat) := by
    grind
  have := a3 e.1
  have := b4 e.2.1
  have := Rat.natCast_inj.mp (e.2.2.trans (Rat.natCast_add ..).symm)
  omega

theorem near_nat (k : Nat) : Near (k : Rat) k := by
  refine ⟨by grind, by grind, ?_, ?_⟩ <;> intro h <;> exfalso <;> grind

theorem near_unique {q : Rat} {m1 m2 : Nat} (h1 : Near q m1) (h2 : Near q m2) : m1 = m2 :=
  Nat.le_antisymm (near_mono h1 h2 Rat.le_refl) (near_mono h2 h1 Rat.le_refl)

/-- `roundHalfEven n d` in `Nat`: within half a unit of `n / d`, and even when exactly half a unit away -/
theorem roundHalfEven_spec (n d : Nat) (hd : 0 < d) :
    2 * (d * roundHalfEven n d) ≤ 2 * n + d ∧ 2 * n ≤ 2 * (d * roundHalfEven n d) + d ∧
    (2 * (d * roundHalfEven n d) = 2 * n + d ∨ 2 * n = 2 * (d * roundHalfEven n d) + d →
      roundHalfEven n d % 2 = 0) := by
  have hdm : d * (n / d) + n % d = n := Nat.div_add_mod n d
  have hr : n % d < d := Nat.mod_lt n hd
  have hs : d * (n / d + 1) = d * (n / d) + d := Nat.mul_succ ..
  unfold roundHalfEven
  simp only [beq_iff_eq]
  -- linear in `d * (n / d)`, `n % d` and `d`
  split
  · omega
  · split
    · omega
    · split <;> omega

theorem near_of_nat {n d m : Nat} (hd : 0 < d) (h1 : 2 * (d * m) ≤ 2 * n + d) (h2 : 2 * n ≤ 2 * (d * m) + d)
    (h3 : 2 * (d * m) = 2 * n + d ∨ 2 * n = 2 * (d * m) + d → m % 2 = 0) : Near ((n : Rat) / (d : Rat)) m := by
  have D := natCast_pos' hd
  have hq : (n : Rat) / (d : Rat) * (d : Rat) = (n : Rat) := Rat.div_mul_cancel (Rat.ne_of_gt D)
  have c1 : 2 * ((d : Rat) * (m : Rat)) ≤ 2 * (n : Rat) + (d : Rat) := by exact_mod_cast h1
  have c2 : 2 * (n : Rat) ≤ 2 * ((d : Rat) * (m : Rat)) + (d : Rat) := by exact_mod_cast h2
  have e : ∀ a b : Nat, (a : Rat) = (b : Rat) → a = b := fun a b => Rat.natCast_inj.mp
  generalize (n : Rat) / (d : Rat) = q at *
  refine ⟨Rat.not_lt.mp fun h => ?_, Rat.not_lt.mp fun h => ?_, fun h => h3 (Or.inl (e _ _ ?_)),
    fun h => h3 (Or.inr (e _ _ ?_))⟩
  · have := Rat.mul_lt_mul_of_pos_right h D
    grind
  · have := Rat.mul_lt_mul_of_pos_right h D
    grind
  · simp only [Rat.natCast_mul, Rat.natCast_add, Rat.natCast_ofNat]
    rw [h]; grind
  · simp only [Rat.natCast_mul, Rat.natCast_add, Rat.natCast_ofNat]
    rw [← hq, h]; grind

theorem rhe_near (n d : Nat) (hd : 0 < d) : Near ((n : Rat) / (d : Rat)) (roundHalfEven n d) :=
  have h := roundHalfEven_spec n d hd
  near_of_nat hd h.1 h.2.1 h.2.2

theorem log2_bracket (n : Nat) (hn : 0 < n) :
    (2 : Rat) ^ (Nat.log2 n) ≤ (n : Rat) ∧ (n : Rat) < 2 * (2 : Rat) ^ (Nat.log2 n) := by
  have h1 := Nat.log2_self_le (Nat.pos_iff_ne_zero.mp hn)
  have h2 := @Nat.lt_log2_self n
  constructor
  · have := Rat.natCast_le_natCast.mpr h1
    simpa [Rat.natCast_pow] using this
  · have := Rat.natCast_lt_natCast.mpr h2
    rw [Rat.natCast_pow, Rat.pow_succ, Rat.mul_comm] at this
    simpa using this

theorem bracket_div {n d A B : Rat} (hA : 0 < A) (hB : 0 < B) (h1 : A ≤ n) (h2 : n < 2 * A)
    (h3 : B ≤ d) (h4 : d < 2 * B) : A / B / 2 < n / d ∧ n / d < 2 * (A / B) := by
  have hd : 0 < d := by grind
  have hAB : 0 < A / B := by rw [Rat.div_def]; exact Rat.mul_pos hA (Rat.inv_pos.mpr hB)
  have c : A / B * B = A := Rat.div_mul_cancel (Rat.ne_of_gt hB)
  constructor
  · rw [Rat.lt_div_iff hd]
    have := Rat.mul_lt_mul_of_pos_left h4 hAB
    grind
  · rw [Rat.div_lt_iff hd]
    have := Rat.mul_le_mul_of_nonneg_left h3 (Rat.le_of_lt hAB)
    grind

theorem pow2_sub_nat (a b : Nat) : pow2 ((a : Int) - (b : Int)) = (2 : Rat) ^ a / (2 : Rat) ^ b := by
  rw [Int.sub_eq_add_neg, pow2_add, pow2_nat, pow2_eq, Rat.zpow_neg, Rat.zpow_natCast, Rat.div_def]

theorem ilog2Rat_spec (n d : Nat) (hn : 0 < n) (hd : 0 < d) :
    pow2 (ilog2Rat n d) ≤ (n : Rat) / (d : Rat) ∧ (n : Rat) / (d : Rat) < pow2 (ilog2Rat n d + 1) := by
  have hN : (0 : Rat) < (n : Rat) := natCast_pos' hn
  have hD : (0 : Rat) < (d : Rat) := natCast_pos' hd
  obtain ⟨a1, a2⟩ := log2_bracket n hn
  obtain ⟨b1, b2⟩ := log2_bracket d hd
  have hb := bracket_div (Rat.pow_pos two_pos) (Rat.pow_pos two_pos) a1 a2 b1 b2
  rw [← pow2_sub_nat] at hb
  unfold ilog2Rat
  generalize ((Nat.log2 n : Nat) : Int) - ((Nat.log2 d : Nat) : Int) = e0 at *
  simp only []
  have hge : (if e0 ≥ 0 then decide (n ≥ d * 2 ^ e0.toNat) else decide (n * 2 ^ (-e0).toNat ≥ d)) = true ↔
      pow2 e0 ≤ (n : Rat) / (d : Rat) := by
    unfold pow2
    split
    · rw [rat_le_div_iff hD, ← Rat.natCast_mul, Rat.natCast_le_natCast, decide_eq_true_eq, ge_iff_le,
        Nat.mul_comm]
    · have hK : (0 : Rat) < ((2 ^ (-e0).toNat : Nat) : Rat) := natCast_pos' (Nat.pow_pos (by decide))
      rw [rat_le_div_iff hD, decide_eq_true_eq, ge_iff_le,
        show (1 : Rat) / ((2 ^ (-e0).toNat : Nat) : Rat) * (d : Rat) = (d : Rat) / ((2 ^ (-e0).toNat : Nat) : Rat) by
          grind,
        rat_div_le_iff hK, ← Rat.natCast_mul, Rat.natCast_le_natCast]
  generalize (if e0 ≥ 0 then decide (n ≥ d * 2 ^ e0.toNat) else decide (n * 2 ^ (-e0).toNat ≥ d)) = g at hge ⊢
  cases g
  · have c' : ¬ pow2 e0 ≤ (n : Rat) / (d : Rat) := fun h => absurd (hge.mpr h) (by decide)
    simp only [Bool.false_eq_true, if_false]
    rw [Int.sub_add_cancel, pow2_pred]
    exact ⟨Rat.le_of_lt hb.1, Rat.not_le.mp c'⟩
  · simp only [if_true]
    refine ⟨hge.mp rfl, ?_⟩
    rw [pow2_succ]; exact hb.2

/-- the magnitude `roundF32` computes from numerator and denominator of `|x|` -/
def mag (n d : Nat) : Rat :=
  let e := ilog2Rat n d
  let e := if e < -126 then -126 else e
  let sh := e - 23
  let (sn, sd) := if sh ≥ 0 then (n, d * 2 ^ sh.toNat) else (n * 2 ^ (-sh).toNat, d)
  (roundHalfEven sn sd : Rat) * pow2 sh

theorem roundF32_eq (x : Rat) :
    roundF32 x = if x = 0 then 0 else if x < 0 then -(mag x.num.natAbs x.den) else mag x.num.natAbs x.den := by
  unfold roundF32 mag
  by_cases h : x = 0
  · simp [h]
  · have : (x == 0) = false := by simpa using h
    simp only [this, h, if_false, Bool.false_eq_true]

/-- what `mag n d` is: the exponent `e` (clamped below at −126) brackets `q = n/d`, and the result is the
nearest-even multiple of `2^(e−23)` -/
theorem mag_char (n d : Nat) (hn : 0 < n) (hd : 0 < d) :
    ∃ (e : Int) (m : Nat), -126 ≤ e ∧ (n : Rat) / (d : Rat) < pow2 (e + 1) ∧
      (-126 < e → pow2 e ≤ (n : Rat) / (d : Rat)) ∧
      Near ((n : Rat) / (d : Rat) / pow2 (e - 23)) m ∧ mag n d = (m : Rat) * pow2 (e - 23) := by
  obtain ⟨s1, s2⟩ := ilog2Rat_spec n d hn hd
  have hD : (0 : Rat) < (d : Rat) := natCast_pos' hd
  unfold mag
  generalize ilog2Rat n d = l at *
  simp only []
  generalize hE : (if l < -126 then -126 else l) = e
  have he : -126 ≤ e := by rw [← hE]; split <;> omega
  have hlt : (n : Rat) / (d : Rat) < pow2 (e + 1) := by
    have : pow2 (l + 1) ≤ pow2 (e + 1) := pow2_mono (by rw [← hE]; split <;> omega)
    grind
  have hge : -126 < e → pow2 e ≤ (n : Rat) / (d : Rat) := by
    intro h
    have : e = l := by rw [← hE]; rw [← hE] at h; split at h <;> omega
    rw [this]; exact s1
  refine ⟨e, _, he, hlt, hge, ?_, rfl⟩
  have hK : ∀ k : Nat, (0 : Rat) < ((2 ^ k : Nat) : Rat) := fun k => natCast_pos' (Nat.pow_pos (by decide))
  by_cases hs : e - 23 ≥ 0
  · simp only [hs, if_true]
    have := rhe_near n (d * 2 ^ (e - 23).toNat) (Nat.mul_pos hd (Nat.pow_pos (by decide)))
    have e1 : (n : Rat) / ((d * 2 ^ (e - 23).toNat : Nat) : Rat) = (n : Rat) / (d : Rat) / pow2 (e - 23) := by
      unfold pow2; rw [if_pos hs, Rat.natCast_mul]
      have := hK (e - 23).toNat
      generalize ((2 ^ (e - 23).toNat : Nat) : Rat) = K at *
      grind
    rwa [e1] at this
  · simp only [hs, if_false]
    have := rhe_near (n * 2 ^ (-(e - 23)).toNat) d hd
    have e1 : ((n * 2 ^ (-(e - 23)).toNat : Nat) : Rat) / (d : Rat) = (n : Rat) / (d : Rat) / pow2 (e - 23) := by
      unfold pow2; rw [if_neg hs, Rat.natCast_mul]
      have := hK (-(e - 23)).toNat
      generalize ((2 ^ (-(e - 23)).toNat : Nat) : Rat) = K at *
      grind
    rwa [e1] at this

theorem pos_num_den (x : Rat) (hx : 0 < x) :
    0 < x.num.natAbs ∧ 0 < x.den ∧ (x.num.natAbs : Rat) / (x.den : Rat) = x := by
  have h1 : 0 ≤ x.num := Rat.num_nonneg.mpr (Rat.le_of_lt hx)
  have h2 : x.num ≠ 0 := fun h => Rat.ne_of_gt hx (Rat.num_eq_zero.mp h)
  refine ⟨by omega, x.den_pos, ?_⟩
  have e : ((x.num.natAbs : Nat) : Int) = x.num := by omega
  have : (x.num.natAbs : Rat) = (x.num : Rat) := by rw [← Rat.intCast_natCast, e]
  rw [this, ← Rat.mkRat_eq_div, Rat.mkRat_self]

/-- the description of `roundF32 x` for `0 < x`: exponent `e`, significand `m` -/
def Char (x : Rat) (e : Int) (m : Nat) : Prop :=
  -126 ≤ e ∧ x < pow2 (e + 1) ∧ (-126 < e → pow2 e ≤ x) ∧ Near (x / pow2 (e - 23)) m

theorem roundF32_pos_char (x : Rat) (hx : 0 < x) :
    ∃ (e : Int) (m : Nat), Char x e m ∧ roundF32 x = (m : Rat) * pow2 (e - 23) := by
  obtain ⟨hn, hd, hq⟩ := pos_num_den x hx
  obtain ⟨e, m, h1, h2, h3, h4, h5⟩ := mag_char _ _ hn hd
  rw [hq] at h2 h3 h4
  refine ⟨e, m, ⟨h1, h2, h3, h4⟩, ?_⟩
  rw [roundF32_eq, if_neg (Rat.ne_of_gt hx), if_neg (Rat.not_lt.mpr (Rat.le_of_lt hx)), h5]

theorem two_pow_24 : pow2 24 = ((16777216 : Nat) : Rat) := by decide +kernel
theorem two_pow_23 : pow2 23 = ((8388608 : Nat) : Rat) := by decide +kernel

theorem pow2_split24 (e : Int) : pow2 (e + 1) = ((16777216 : Nat) : Rat) * pow2 (e - 23) := by
  rw [← two_pow_24, ← pow2_add]; congr 1; omega

theorem pow2_split23 (e : Int) : pow2 e = ((8388608 : Nat) : Rat) * pow2 (e - 23) := by
  rw [← two_pow_23, ← pow2_add]; congr 1; omega

theorem char_m_le {x : Rat} {e : Int} {m : Nat} (h : Char x e m) : m ≤ 16777216 := by
  obtain ⟨_, h2, _, h4⟩ := h
  have hP := pow2_pos (e - 23)
  have : x / pow2 (e - 23) ≤ ((16777216 : Nat) : Rat) := by
    rw [rat_div_le_iff hP, ← pow2_split24]; exact Rat.le_of_lt h2
  exact near_mono h4 (near_nat _) this

/-- below the top of the binade the significand is at most `2^24` -/
theorem char_le_top {x : Rat} {e : Int} {m : Nat} (h : Char x e m) :
    (m : Rat) * pow2 (e - 23) ≤ pow2 (e + 1) := by
  rw [pow2_split24]
  exact Rat.mul_le_mul_of_nonneg_right (Rat.natCast_le_natCast.mpr (char_m_le h)) (Rat.le_of_lt (pow2_pos _))

/-- in a normal binade the significand is at least `2^23` -/
theorem char_ge_bot {x : Rat} {e : Int} {m : Nat} (h : Char x e m) (he : -126 < e) :
    pow2 e ≤ (m : Rat) * pow2 (e - 23) := by
  obtain ⟨_, _, h3, h4⟩ := h
  have hP := pow2_pos (e - 23)
  have : ((8388608 : Nat) : Rat) ≤ x / pow2 (e - 23) := by
    rw [rat_le_div_iff hP, ← pow2_split23]; exact h3 he
  have hm := near_mono (near_nat _) h4 this
  rw [pow2_split23]
  exact Rat.mul_le_mul_of_nonneg_right (Rat.natCast_le_natCast.mpr hm) (Rat.le_of_lt hP)

theorem char_mono {x y : Rat} (hxy : x ≤ y) {e1 e2 : Int} {m1 m2 : Nat}
    (h1 : Char x e1 m1) (h2 : Char y e2 m2) :
    (m1 : Rat) * pow2 (e1 - 23) ≤ (m2 : Rat) * pow2 (e2 - 23) := by
  rcases Int.lt_trichotomy e1 e2 with hlt | heq | hgt
  · -- x is below the binade boundary `2^e2`, y above
    have a := char_le_top h1
    have b := char_ge_bot h2 (by have := h1.1; omega)
    have c : pow2 (e1 + 1) ≤ pow2 e2 := pow2_mono (by omega)
    exact Rat.le_trans a (Rat.le_trans c b)
  · subst heq
    have hP := pow2_pos (e1 - 23)
    have hm := near_mono h1.2.2.2 h2.2.2.2 (rat_div_le_div_right hP hxy)
    exact Rat.mul_le_mul_of_nonneg_right (Rat.natCast_le_natCast.mpr hm) (Rat.le_of_lt hP)
  · exfalso
    have a : y < pow2 (e2 + 1) := h2.2.1
    have b : pow2 e1 ≤ x := h1.2.2.1 (by have := h2.1; omega)
    have c : pow2 (e2 + 1) ≤ pow2 e1 := pow2_mono (by omega)
    grind

theorem roundF32_mono_pos {x y : Rat} (hx : 0 < x) (hxy : x ≤ y) : roundF32 x ≤ roundF32 y := by
  obtain ⟨e1, m1, c1, r1⟩ := roundF32_pos_char x hx
  obtain ⟨e2, m2, c2, r2⟩ := roundF32_pos_char y (by grind)
  rw [r1, r2]; exact char_mono hxy c1 c2

theorem roundF32_nonneg_of_pos {x : Rat} (hx : 0 < x) : 0 ≤ roundF32 x := by
  obtain ⟨e, m, _, r⟩ := roundF32_pos_char x hx
  rw [r]; exact Rat.mul_nonneg Rat.natCast_nonneg (Rat.le_of_lt (pow2_pos _))

theorem roundF32_zero : roundF32 0 = 0 := by decide +kernel
theorem roundF32_one : roundF32 1 = 1 := by decide +kernel

theorem roundF32_neg (x : Rat) : roundF32 (-x) = -(roundF32 x) := by
  rw [roundF32_eq, roundF32_eq]
  by_cases h0 : x = 0
  · subst h0; decide +kernel
  · have h0' : -x ≠ 0 := by grind
    rw [if_neg h0, if_neg h0', Rat.neg_num, Rat.neg_den, Int.natAbs_neg]
    by_cases hn : x < 0
    · have : ¬ -x < 0 := by grind
      rw [if_pos hn, if_neg this, Rat.neg_neg]
    · have : -x < 0 := by grind
      rw [if_pos this, if_neg hn]

theorem roundF32_nonneg {x : Rat} (hx : 0 ≤ x) : 0 ≤ roundF32 x := by
  by_cases h0 : x = 0
  · subst h0; rw [roundF32_zero]; exact Rat.le_refl
  · exact roundF32_nonneg_of_pos (by grind)

theorem roundF32_nonpos {x : Rat} (hx : x ≤ 0) : roundF32 x ≤ 0 := by
  have := roundF32_nonneg (x := -x) (by grind)
  rw [roundF32_neg] at this; grind

theorem roundF32_mono {x y : Rat} (h : x ≤ y) : roundF32 x ≤ roundF32 y := by
  by_cases hx : 0 < x
  · exact roundF32_mono_pos hx h
  · have hx' : x ≤ 0 := Rat.not_lt.mp hx
    by_cases hy : y < 0
    · have := roundF32_mono_pos (x := -y) (y := -x) (by grind) (by grind)
      rw [roundF32_neg, roundF32_neg] at this; grind
    · exact Rat.le_trans (roundF32_nonpos hx') (roundF32_nonneg (Rat.not_lt.mp hy))

theorem roundF32_unit {x : Rat} (h0 : 0 ≤ x) (h1 : x ≤ 1) : 0 ≤ roundF32 x ∧ roundF32 x ≤ 1 :=
  ⟨roundF32_nonneg h0, roundF32_one ▸ roundF32_mono h1⟩

theorem roundHalfEven_mono_num {n1 n2 d : Nat} (hd : 0 < d) (h : n1 ≤ n2) :
    roundHalfEven n1 d ≤ roundHalfEven n2 d :=
  near_mono (rhe_near n1 d hd) (rhe_near n2 d hd)
    (rat_div_le_div_right (natCast_pos' hd) (Rat.natCast_le_natCast.mpr h))

theorem roundHalfEven_mono {n1 d1 n2 d2 : Nat} (h1 : 0 < d1) (h2 : 0 < d2) (h : n1 * d2 ≤ n2 * d1) :
    roundHalfEven n1 d1 ≤ roundHalfEven n2 d2 := by
  apply near_mono (rhe_near n1 d1 h1) (rhe_near n2 d2 h2)
  have D1 := natCast_pos' h1
  have D2 := natCast_pos' h2
  rw [rat_div_le_iff D1, Rat.div_def, Rat.mul_assoc, Rat.mul_comm _ (d1 : Rat), ← Rat.mul_assoc, ← Rat.div_def,
    rat_le_div_iff D2, ← Rat.natCast_mul, ← Rat.natCast_mul]
  exact Rat.natCast_le_natCast.mpr h

theorem roundHalfEven_err (n d : Nat) (hd : 0 < d) :
    2 * (d * roundHalfEven n d) ≤ 2 * n + d ∧ 2 * n ≤ 2 * (d * roundHalfEven n d) + d :=
  have h := roundHalfEven_spec n d hd
  ⟨h.1, h.2.1⟩


/-- every `k · 2^s` with `k < 2^24` and `s ≥ −149` (i.e. every non-negative binary32 value, normal or
subnormal) is returned unchanged -/
theorem roundF32_fix (k : Nat) (s : Int) (hk : k < 16777216) (hs : -149 ≤ s) :
    roundF32 ((k : Rat) * pow2 s) = (k : Rat) * pow2 s := by
  by_cases hk0 : k = 0
  · subst hk0; simp [roundF32_zero]
  have hkp : (0 : Rat) < (k : Rat) := natCast_pos' (by omega)
  have hx : 0 < (k : Rat) * pow2 s := Rat.mul_pos hkp (pow2_pos s)
  obtain ⟨e, m, ⟨c1, c2, c3, c4⟩, r⟩ := roundF32_pos_char _ hx
  have hj : 0 ≤ s - (e - 23) := by
    by_cases he : e = -126
    · omega
    · have h1 : pow2 e ≤ (k : Rat) * pow2 s := c3 (by omega)
      have h2 : (k : Rat) * pow2 s < pow2 (s + 24) := by
        have := pow2_split24 (s + 23)
        rw [show s + 23 - 23 = s by omega, show s + 23 + 1 = s + 24 by omega] at this
        rw [this]
        exact Rat.mul_lt_mul_of_pos_right (Rat.natCast_lt_natCast.mpr hk) (pow2_pos s)
      apply Decidable.byContradiction
      intro hc
      have : pow2 (s + 24) ≤ pow2 e := pow2_mono (by omega)
      grind
  have hs' : pow2 s = pow2 (s - (e - 23)) * pow2 (e - 23) := by rw [← pow2_add]; congr 1; omega
  have hpj : pow2 (s - (e - 23)) = ((2 ^ (s - (e - 23)).toNat : Nat) : Rat) := by unfold pow2; rw [if_pos hj]
  have hP := pow2_pos (e - 23)
  have hq : (k : Rat) * pow2 s / pow2 (e - 23) = ((k * 2 ^ (s - (e - 23)).toNat : Nat) : Rat) := by
    rw [Rat.natCast_mul, ← hpj, hs', ← Rat.mul_assoc, Rat.mul_div_cancel (Rat.ne_of_gt hP)]
  rw [hq] at c4
  have hm := near_unique c4 (near_nat _)
  rw [r, hm, Rat.natCast_mul, ← hpj, Rat.mul_assoc, ← hs']

theorem roundF32_fix_neg (k : Nat) (s : Int) (hk : k < 16777216) (hs : -149 ≤ s) :
    roundF32 (-((k : Rat) * pow2 s)) = -((k : Rat) * pow2 s) := by
  rw [roundF32_neg, roundF32_fix k s hk hs]

/-- rounding twice is rounding once (the result is a binary32 value) -/
theorem roundF32_idem (x : Rat) : roundF32 (roundF32 x) = roundF32 x := by
  have pos : ∀ x : Rat, 0 < x → roundF32 (roundF32 x) = roundF32 x := by
    intro x hx
    obtain ⟨e, m, c, r⟩ := roundF32_pos_char x hx
    have hm := char_m_le c
    have he := c.1
    rw [r]
    by_cases h : m < 16777216
    · exact roundF32_fix m (e - 23) h (by omega)
    · have : m = 16777216 := by omega
      subst this
      have e1 : ((16777216 : Nat) : Rat) * pow2 (e - 23) = ((8388608 : Nat) : Rat) * pow2 (e - 22) := by
        rw [show e - 22 = (e - 23) + 1 by omega, pow2_succ]
        rw [show ((16777216 : Nat) : Rat) = ((8388608 : Nat) : Rat) * 2 by decide +kernel, Rat.mul_assoc]
      rw [e1]
      exact roundF32_fix 8388608 (e - 22) (by decide) (by omega)
  by_cases h0 : x = 0
  · subst h0; rw [roundF32_zero, roundF32_zero]
  · by_cases hx : 0 < x
    · exact pos x hx
    · have hn : 0 < -x := by grind
      have := pos (-x) hn
      rw [roundF32_neg, roundF32_neg] at this
      grind

end Jx
